import Marwood.Lemmas.StoreStr
import Marwood.Lemmas.StoreUtf8
import Marwood.Lemmas.StoreSigma
/-!
# C15 — string and character procedures index by character over all of Unicode

Model: `Store/StringOps.lean` / `Store/CharOps.lean` (string.rs, char.rs as of the `fix:` commits 3a9d75e 9789244
7523142 6d88db4 4bf1665 fbafd01): strings are `List Char`, every index becomes a UTF-8 byte offset (a prefix sum of
`Char.utf8Size`), strings are cut and patched at byte offsets, and an offset that is not a character boundary is a
panic. Specification: the plain `List Char` operation at character positions; `Spec.chainHolds` for the n-ary
predicates. Case mapping is a parameter `T : CaseTable`. "The bytes" ties `List Char` to the bytes a Rust `String`
holds (`Utf8.encodeText`); "Final_Sigma" compares `str::to_lowercase` with the per-character folding.
-/
namespace Marwood.Proofs.C15
open Marwood Marwood.Store Marwood.Store.Outcome


theorem nthOffset_eq (cs : Text) (k : Nat) :
    nthOffset cs k 0 = if h : k < cs.length then some (byteLen (cs.take k), cs[k]) else none := by
  simpa using nthOffset_spec cs k 0

theorem stringRef_contents {cs : Text} {k : Nat} (h : k < cs.length) :
    stringRefC cs k = .ok cs[k] := stringRefC_ok h

theorem stringRef_contents_err {cs : Text} {k : Nat} (h : cs.length ≤ k) :
    stringRefC cs k = .err .sindex := stringRefC_err h

/-- also when the new character has another UTF-8 width than the old one -/
theorem stringSet_contents {cs : Text} {k : Nat} (c : Char) (h : k < cs.length) :
    stringSetC cs k c = .ok (cs.set k c) := stringSetC_ok c h

theorem stringSet_contents_err {cs : Text} {k : Nat} (c : Char) (h : cs.length ≤ k) :
    stringSetC cs k c = .err .sindex := stringSetC_err c h

theorem substring_contents {cs : Text} {start end_ : Option Nat}
    (hv : ValidRange cs.length start end_) :
    substringC cs start end_ =
      .ok ((cs.drop (start.getD 0)).take (end_.getD cs.length - start.getD 0)) := substringC_ok hv

/-- also for an empty range -/
theorem substring_contents_err {cs : Text} {st : Nat} (end_ : Option Nat)
    (hbad : ¬ (st ≤ end_.getD cs.length ∧ end_.getD cs.length ≤ cs.length)) :
    ∃ e, substringC cs (some st) end_ = .err e := substringC_err end_ hbad

theorem stringFill_contents {cs : Text} {start end_ : Option Nat} (c : Char)
    (hv : ValidRange cs.length start end_) :
    ∃ r, stringFillC cs c start end_ = .ok r ∧ r.length = cs.length ∧
      ∀ i, r[i]? = if start.getD 0 ≤ i ∧ i < end_.getD cs.length then some c else cs[i]? := by
  refine ⟨_, stringFillC_ok c hv, ?_, fun i => fill_getElem? cs c hv.2.1 hv.2.2 i⟩
  have h1 := hv.2.1
  have h2 := hv.2.2
  simp only [List.length_append, List.length_take, List.length_replicate, List.length_drop]
  omega

theorem stringFill_contents_err {cs : Text} {st : Nat} (c : Char) (end_ : Option Nat)
    (hbad : ¬ (st ≤ end_.getD cs.length ∧ end_.getD cs.length ≤ cs.length)) :
    ∃ e, stringFillC cs c (some st) end_ = .err e := stringFillC_err c end_ hbad


theorem stringLength_ok {s : Store} {v : VCell} {id : Nat} {t : Text} (h : IsStr s v id t) :
    stringLength s [v] = .ok (s, .num t.length) := by
  simp only [stringLength, popString_of_isStr h, strGet_of_isStr h, bind_ok]

theorem stringRef_ok {s : Store} {v i : VCell} {id k : Nat} {t : Text}
    (h : IsStr s v id t) (hi : IsIndex s i k) (hk : k < t.length) :
    stringRef s [v, i] = .ok (s, .char t[k]) := by
  simp only [stringRef, popIndex_of_isIndex hi, popString_of_isStr h, strGet_of_isStr h, bind_ok,
    stringRefC_ok hk]

theorem stringRef_err_range {s : Store} {v i : VCell} {id k : Nat} {t : Text}
    (h : IsStr s v id t) (hi : IsIndex s i k) (hk : t.length ≤ k) :
    stringRef s [v, i] = .err .sindex := by
  simp only [stringRef, popIndex_of_isIndex hi, popString_of_isStr h, strGet_of_isStr h, bind_ok,
    stringRefC_err hk, bind_err]

theorem stringRef_err_index {s : Store} {v i : VCell} (hi : NotIndex s i) :
    ∃ e, stringRef s [v, i] = .err e := by
  obtain ⟨e, he⟩ := popIndex_of_notIndex hi
  exact ⟨e, by simp only [stringRef, he, bind_err]⟩

/-- frame: only the addressed string changes, and every alias sees the change (the contents live under `id`) -/
theorem stringSet_ok {s : Store} {v i c : VCell} {id k : Nat} {t : Text} {ch : Char}
    (h : IsStr s v id t) (hi : IsIndex s i k) (hc : s.get c = .ok (.char ch)) (hk : k < t.length) :
    ∃ s', stringSet s [v, i, c] = .ok (s', .void) ∧ OnlyStr s s' id ∧
      s'.strs[id]? = some (t.set k ch) := by
  obtain ⟨s', h1, h2, h3⟩ := strSet_spec (isStr_lt h) (t.set k ch)
  refine ⟨s', ?_, h2, h3⟩
  simp only [stringSet, popChar_of_get hc, popIndex_of_isIndex hi, popString_of_isStr h,
    strGet_of_isStr h, bind_ok, stringSetC_ok ch hk, h1]

theorem stringSet_err_range {s : Store} {v i c : VCell} {id k : Nat} {t : Text} {ch : Char}
    (h : IsStr s v id t) (hi : IsIndex s i k) (hc : s.get c = .ok (.char ch)) (hk : t.length ≤ k) :
    stringSet s [v, i, c] = .err .sindex := by
  simp only [stringSet, popChar_of_get hc, popIndex_of_isIndex hi, popString_of_isStr h,
    strGet_of_isStr h, bind_ok, stringSetC_err ch hk, bind_err]

theorem stringRef_stringSet {s s' : Store} {v i c r : VCell} {id k : Nat} {t : Text} {ch : Char}
    (h : IsStr s v id t) (hi : IsIndex s i k) (hc : s.get c = .ok (.char ch)) (hk : k < t.length)
    (hset : stringSet s [v, i, c] = .ok (s', r)) :
    stringRef s' [v, i] = .ok (s', .char ch) := by
  obtain ⟨s'', h1, h2, h3⟩ := stringSet_ok h hi hc hk
  rw [h1] at hset
  cases hset
  have hget : ∀ x, s'.get x = s.get x := get_congr h2.cells
  have h' : IsStr s' v id (t.set k ch) := ⟨by rw [hget]; exact h.1, h3⟩
  have hi' : IsIndex s' i k := ⟨by rw [hget]; exact hi.1, hi.2⟩
  have hk' : k < (t.set k ch).length := by simpa using hk
  rw [stringRef_ok h' hi' hk']
  simp

/-- `string-copy` / `substring`: a new identity; nothing that existed changes -/
theorem stringCopy_ok {s : Store} {v b e : VCell} {id st en : Nat} {t : Text}
    (h : IsStr s v id t) (hb : IsIndex s b st) (he : IsIndex s e en)
    (h1 : st ≤ en) (h2 : en ≤ t.length) :
    ∃ s' p, stringCopy s [v, b, e] = .ok (s', .ptr p) ∧
      IsStr s' (.ptr p) s.strs.length ((t.drop st).take (en - st)) ∧ Extends s s' := by
  obtain ⟨s', p, r1, r2, r3⟩ := newStrRes_spec s ((t.drop st).take (en - st))
  refine ⟨s', p, ?_, r2, r3⟩
  have hv : ValidRange t.length (some st) (some en) := ⟨fun _ => rfl, h1, h2⟩
  simp only [stringCopy, popRange, popIndex_of_isIndex hb, popIndex_of_isIndex he, bind_ok,
    popString_of_isStr h, strGet_of_isStr h, substringC_ok hv, Option.getD_some, r1]

theorem stringCopy_err {s : Store} {v b e : VCell} {id st en : Nat} {t : Text}
    (h : IsStr s v id t) (hb : IsIndex s b st) (he : IsIndex s e en)
    (hbad : ¬ (st ≤ en ∧ en ≤ t.length)) :
    ∃ err, stringCopy s [v, b, e] = .err err := by
  obtain ⟨x, hx⟩ := substringC_err (cs := t) (st := st) (some en) (by simpa using hbad)
  refine ⟨x, ?_⟩
  simp only [stringCopy, popRange, popIndex_of_isIndex hb, popIndex_of_isIndex he, bind_ok,
    popString_of_isStr h, strGet_of_isStr h, hx, bind_err]

theorem stringFill_ok {s : Store} {v c b e : VCell} {id st en : Nat} {t : Text} {ch : Char}
    (h : IsStr s v id t) (hc : s.get c = .ok (.char ch)) (hb : IsIndex s b st) (he : IsIndex s e en)
    (h1 : st ≤ en) (h2 : en ≤ t.length) :
    ∃ s' r, stringFill s [v, c, b, e] = .ok (s', .void) ∧ OnlyStr s s' id ∧
      s'.strs[id]? = some r ∧ r.length = t.length ∧
      ∀ i, r[i]? = if st ≤ i ∧ i < en then some ch else t[i]? := by
  have hv : ValidRange t.length (some st) (some en) := ⟨fun _ => rfl, h1, h2⟩
  obtain ⟨r, q1, q2, q3⟩ := stringFill_contents ch hv
  obtain ⟨s', p1, p2, p3⟩ := strSet_spec (isStr_lt h) r
  refine ⟨s', r, ?_, p2, p3, q2, by simpa using q3⟩
  simp only [stringFill, popRange, popIndex_of_isIndex hb, popIndex_of_isIndex he, bind_ok,
    popChar_of_get hc, popString_of_isStr h, strGet_of_isStr h, q1, p1]

theorem stringFill_err {s : Store} {v c b e : VCell} {id st en : Nat} {t : Text} {ch : Char}
    (h : IsStr s v id t) (hc : s.get c = .ok (.char ch)) (hb : IsIndex s b st) (he : IsIndex s e en)
    (hbad : ¬ (st ≤ en ∧ en ≤ t.length)) :
    ∃ err, stringFill s [v, c, b, e] = .err err := by
  obtain ⟨x, hx⟩ := stringFillC_err (cs := t) (st := st) ch (some en) (by simpa using hbad)
  refine ⟨x, ?_⟩
  simp only [stringFill, popRange, popIndex_of_isIndex hb, popIndex_of_isIndex he, bind_ok,
    popChar_of_get hc, popString_of_isStr h, strGet_of_isStr h, hx, bind_err]

theorem makeString_ok {s : Store} {n c : VCell} {k : Nat} {ch : Char} (hn : IsIndex s n k)
    (hc : s.get c = .ok (.char ch)) (hcap : k ≤ strCapacity) :
    ∃ s' p, makeString s [n, c] = .ok (s', .ptr p) ∧
      IsStr s' (.ptr p) s.strs.length (List.replicate k ch) ∧ Extends s s' := by
  obtain ⟨s', p, r1, r2, r3⟩ := newStrRes_spec s (List.replicate k ch)
  refine ⟨s', p, ?_, r2, r3⟩
  have hnot : ¬ (k > strCapacity) := by omega
  simp only [makeString, popChar_of_get hc, bind_ok, makeString.go, popUsize, hn.1,
    toUsize_natCast hn.2, orErr_some, if_neg hnot, r1]

theorem string_ok {s : Store} {args : List VCell} {cs : List Char} (h : AllChar s args cs) :
    ∃ s' p, stringB s args = .ok (s', .ptr p) ∧ IsStr s' (.ptr p) s.strs.length cs ∧
      Extends s s' := by
  obtain ⟨s', p, r1, r2, r3⟩ := newStrRes_spec s cs
  refine ⟨s', p, ?_, r2, r3⟩
  simp only [stringB, popChars_of_allChar h.reverse, bind_ok, List.reverse_reverse, r1]

theorem stringAppend_ok {s : Store} {args : List VCell} {ts : List Text} (h : AllStr s args ts) :
    ∃ s' p, stringAppend s args = .ok (s', .ptr p) ∧ IsStr s' (.ptr p) s.strs.length ts.flatten ∧
      Extends s s' := by
  obtain ⟨s', p, r1, r2, r3⟩ := newStrRes_spec s ts.flatten
  refine ⟨s', p, ?_, r2, r3⟩
  simp only [stringAppend, popStrings_of_allStr h.reverse, bind_ok, foldl_prepend,
    List.reverse_reverse, List.append_nil, r1]

/-- all arguments are examined (no short circuit); `f` = case folding for the `-ci` variants -/
theorem stringComp_ok {s : Store} {args : List VCell} {ts : List Text} (f : Text → Text)
    (op : CmpOp) (h : AllStr s args ts) (hne : args ≠ []) :
    stringComp f op s args =
      .ok (s, .bool (Spec.chainHolds (fun x y => op.holds (cmpText (f x) (f y))) ts)) := by
  have hr := h.reverse
  generalize hrev : args.reverse = ra at hr
  generalize hrt : ts.reverse = rt at hr
  cases hr with
  | nil => exact absurd (List.reverse_eq_nil_iff.mp hrev) hne
  | cons h1 h2 =>
    rename_i last id tl rest trest
    have hts : ts = trest.reverse ++ [tl] := List.reverse_eq_cons_iff.mp hrt
    simp only [stringComp, hrev, popString_of_isStr h1, strGet_of_isStr h1, bind_ok,
      popStrings_of_allStr h2, compLoop_eq_chain, Bool.true_and, hts]

theorem charComp_ok {s : Store} {args : List VCell} {cs : List Char} (f : Char → Char)
    (op : CmpOp) (h : AllChar s args cs) (hne : args ≠ []) :
    charComp f op s args =
      .ok (s, .bool (Spec.chainHolds (fun x y => op.holds (compare (f x).val (f y).val)) cs)) := by
  have hr := h.reverse
  generalize hrev : args.reverse = ra at hr
  generalize hrt : cs.reverse = rt at hr
  cases hr with
  | nil => exact absurd (List.reverse_eq_nil_iff.mp hrev) hne
  | cons h1 h2 =>
    rename_i last cl rest crest
    have hcs : cs = crest.reverse ++ [cl] := List.reverse_eq_cons_iff.mp hrt
    simp only [charComp, hrev, popChar_of_get h1, bind_ok, popChars_of_allChar h2,
      compLoop_eq_chain, Bool.true_and, hcs]

theorem popString_err {s : Store} {v c : VCell} (hg : s.get v = .ok c) (hc : ∀ id, c ≠ .str id) :
    popString s v = .err .syntax := by
  unfold popString
  simp only [hg, bind_ok]

theorem listToString_ok {s : Store} {v : VCell} {as : List Nat} {cs : List Char} {fuel : Nat}
    (hl : IsList s v as) (hc : CharsAt s as cs) (hfuel : as.length + 1 < fuel) :
    ∃ s' p, listToString fuel s [v] = .ok (s', .ptr p) ∧ IsStr s' (.ptr p) s.strs.length cs ∧
      Extends s s' := by
  obtain ⟨s', p, r1, r2, r3⟩ := newStrRes_spec s cs
  refine ⟨s', p, ?_, r2, r3⟩
  cases hl with
  | nil hg =>
    cases hc
    obtain ⟨f, rfl⟩ : ∃ f, fuel = f + 1 := ⟨fuel - 1, by simp at hfuel; omega⟩
    simp only [listToString, hg, bind_ok, VCell.isNil_nil, Bool.not_true, Bool.and_false,
      Bool.false_eq_true, if_false, collectChars, VCell.isPair, r1]
  | cons hg ht =>
    cases hc with
    | cons hc0 hrest =>
      rename_i a d rest c0 ccs
      simp only [listToString, hg, bind_ok, VCell.isPair_pair, Bool.not_true, Bool.false_and,
        Bool.false_eq_true, if_false,
        collectChars_spec rest fuel a d [] c0 ccs ht.toSpine hc0 hrest (by simp at hfuel; omega),
        List.nil_append, VCell.isNil_nil, r1]

theorem listToString_err {s : Store} {v tail : VCell} {a d : Nat} {rest : List Nat} {c0 : Char}
    {ccs : List Char} {fuel : Nat}
    (hg : s.get v = .ok (.pair a d)) (hl : Spine s (.ptr d) rest tail) (hc0 : s.cells[a]? = some (.char c0))
    (hc : CharsAt s rest ccs) (ht : tail.isNil = false) (hfuel : rest.length + 1 < fuel) :
    listToString fuel s [v] = .err .syntax := by
  simp only [listToString, hg, bind_ok, VCell.isPair_pair, Bool.not_true, Bool.false_and,
    Bool.false_eq_true, if_false, collectChars_spec rest fuel a d [] c0 ccs hl hc0 hc hfuel, ht,
    Bool.not_false, if_true]

theorem vectorToString_ok {s : Store} {v : VCell} {id : Nat} {xs : List VCell} {cs : List Char}
    (hv : IsVec s v id xs) (hc : AllChar s xs cs) :
    ∃ s' p, vectorToString s [v] = .ok (s', .ptr p) ∧ IsStr s' (.ptr p) s.strs.length cs ∧
      Extends s s' := by
  obtain ⟨s', p, r1, r2, r3⟩ := newStrRes_spec s cs
  refine ⟨s', p, ?_, r2, r3⟩
  simp only [vectorToString, popVector_of_isVec hv, vecGet_of_isVec hv, bind_ok,
    slotsToChars_of_allChar hc, r1]

theorem stringToVector_ok {s : Store} {v : VCell} {id : Nat} {t : Text} (h : IsStr s v id t) :
    ∃ s' p, stringToVector s [v] = .ok (s', .ptr p) ∧
      IsVec s' (.ptr p) s.vecs.length (t.map VCell.char) ∧ Extends s s' := by
  obtain ⟨s', p, r1, r2, r3⟩ := newVec_finish s (t.map VCell.char)
  refine ⟨s', p, ?_, r2, r3⟩
  simp only [stringToVector, popString_of_isStr h, strGet_of_isStr h, bind_ok, r1]

/-- `f` = `strUpper T`, `strLowerCtx T` (`string-downcase`), `strLower T` (`string-foldcase`) -/
theorem stringCase_ok {s : Store} {v : VCell} {id : Nat} {t : Text} (f : Text → Text)
    (h : IsStr s v id t) :
    ∃ s' p, stringCase f s [v] = .ok (s', .ptr p) ∧ IsStr s' (.ptr p) s.strs.length (f t) ∧
      Extends s s' := by
  obtain ⟨s', p, r1, r2, r3⟩ := newStrRes_spec s (f t)
  refine ⟨s', p, ?_, r2, r3⟩
  simp only [stringCase, popString_of_isStr h, strGet_of_isStr h, bind_ok, r1]


/-- exactly the Unicode scalar values: `0 … 0xD7FF`, `0xE000 … 0x10FFFF` -/
theorem integerToChar_ok {s : Store} {v : VCell} {k : Nat} (hg : s.get v = .ok (.num (k : Int)))
    (h : k.isValidChar) : integerToChar s [v] = .ok (s, .char (Char.ofNatAux k h)) := by
  rw [integerToChar_nat hg, dif_pos h]

theorem integerToChar_err {s : Store} {v : VCell} {n : Int} (hg : s.get v = .ok (.num n))
    (h : n < 0 ∨ ¬ n.toNat.isValidChar) : integerToChar s [v] = .err .syntax := by
  cases n with
  | ofNat k =>
    have hk : ¬ k.isValidChar := by
      rcases h with h | h
      · exact absurd h (by simp)
      · simpa using h
    rw [integerToChar_nat hg, dif_neg hk]
  | negSucc k => simp only [integerToChar, hg, bind_ok]

theorem charToInteger_ok {s : Store} {v : VCell} {c : Char} (hg : s.get v = .ok (.char c)) :
    charToInteger s [v] = .ok (s, .num c.toNat) := by
  simp only [charToInteger, popChar_of_get hg, bind_ok]

theorem integerToChar_charToInteger (s : Store) (c : Char) :
    integerToChar s [.num c.toNat] = .ok (s, .char c) := by
  have h : c.toNat.isValidChar := c.valid
  rw [integerToChar_ok (k := c.toNat) rfl h]
  rfl

theorem charUpcase_eq_simple (T : CaseTable) (c : Char)
    (hT : isAscii c = true → T.upper c = [asciiUpper c]) :
    charUpcase T c = Spec.simpleUpper T c := by
  unfold charUpcase Spec.simpleUpper
  by_cases h : isAscii c = true
  · simp [h, hT h]
  · simp only [h, Bool.false_eq_true, if_false]
    cases hU : T.upper c with
    | nil => rfl
    | cons u rest => cases rest <;> rfl

theorem charFoldcase_eq_simple (T : CaseTable) (c : Char)
    (hT : isAscii c = true → T.lower c = [asciiLower c]) :
    charFoldcase T c = Spec.simpleLower T c := by
  unfold charFoldcase Spec.simpleLower
  by_cases h : isAscii c = true
  · simp [h, hT h]
  · simp only [h, Bool.false_eq_true, if_false]
    cases hU : T.lower c with
    | nil => rfl
    | cons u rest => cases rest <;> rfl

/-- on ASCII no assumption on the table is needed: the fast paths are Lean's own `Char.toUpper` / `toLower` -/
theorem charUpcase_ascii (T : CaseTable) (c : Char) (h : isAscii c = true) :
    charUpcase T c = c.toUpper := by
  simp only [charUpcase, h, if_true, asciiUpper_eq_core]

theorem charFoldcase_ascii (T : CaseTable) (c : Char) (h : isAscii c = true) :
    charFoldcase T c = c.toLower := by
  simp only [charFoldcase, h, if_true, asciiLower_eq_core]

/-! ## the bytes

`Utf8.encode` is RFC 3629; `Utf8.cmpBytes` is `<[u8] as Ord>::cmp`, which is how Rust orders `str`. -/

theorem utf8_encode_injective {a b : Char} (h : Utf8.encode a = Utf8.encode b) : a = b :=
  Utf8.encode_injective h

theorem utf8_encode_prefix_free {a b : Char} (h : Utf8.encode a <+: Utf8.encode b) : a = b :=
  Utf8.encode_prefix_free h

theorem utf8_char_order (a b : Char) : a.val < b.val ↔ Utf8.encode a < Utf8.encode b :=
  Utf8.encode_lt_iff a b

/-- `Char.utf8Size` is the summand of every byte offset in the model -/
theorem utf8_encode_length (c : Char) : (Utf8.encode c).length = c.utf8Size := Utf8.encode_length c

theorem utf8_byteLen (s : Text) : byteLen s = (Utf8.encodeText s).length :=
  (Utf8.encodeText_length s).symm

/-- `Utf8.encode` is Lean's own `String.utf8EncodeChar`: the RFC 3629 table was not mistranscribed -/
theorem utf8_encode_is_core (c : Char) :
    Utf8.encode c = (String.utf8EncodeChar c).map UInt8.toNat ∧ ∀ b ∈ Utf8.encode c, b < 256 :=
  ⟨Utf8.encode_eq_core c, Utf8.encode_byte_lt c⟩

theorem utf8_order (s t : Text) :
    Utf8.cmpBytes (Utf8.encodeText s) (Utf8.encodeText t) = Utf8.cmpPoints s t :=
  Utf8.utf8_order s t

theorem utf8_order_rel (s t : Text) :
    (Utf8.encodeText s < Utf8.encodeText t ↔ s < t) ∧
    (Utf8.encodeText s = Utf8.encodeText t ↔ s = t) ∧
    (Utf8.encodeText s ≤ Utf8.encodeText t ↔ s ≤ t) :=
  ⟨Utf8.utf8_lt s t, Utf8.utf8_eq s t, Utf8.utf8_le s t⟩

/-- with core Lean's definitions only: no Marwood definition in the statement -/
theorem utf8_order_core (s t : List Char) :
    (s.flatMap String.utf8EncodeChar < t.flatMap String.utf8EncodeChar ↔ s < t) ∧
    (s.flatMap String.utf8EncodeChar = t.flatMap String.utf8EncodeChar ↔ s = t) :=
  Utf8.utf8_order_core s t

/-- the model's `cmpText` is Rust's `str::cmp` (bytewise) on the encodings -/
theorem cmpText_bytewise (s t : Text) :
    cmpText s t = Utf8.cmpBytes (Utf8.encodeText s) (Utf8.encodeText t) := by
  rw [Utf8.utf8_order, cmpText_eq_cmpPoints]

theorem cmpOp_bytewise (op : CmpOp) (s t : Text) :
    op.holds (cmpText s t) = true ↔ op.bytesRel (Utf8.encodeText s) (Utf8.encodeText t) := by
  rw [cmpText_bytewise]
  exact CmpOp.holds_cmpBytes op _ _

/-- the n-ary string predicates compare the UTF-8 encodings bytewise, as string.rs does -/
theorem stringComp_bytewise {s : Store} {args : List VCell} {ts : List Text} (f : Text → Text)
    (op : CmpOp) (h : AllStr s args ts) (hne : args ≠ []) :
    stringComp f op s args =
      .ok (s, .bool (Spec.chainHolds
        (fun x y => decide (op.bytesRel (Utf8.encodeText (f x)) (Utf8.encodeText (f y)))) ts)) := by
  rw [stringComp_ok f op h hne]
  have e : (fun x y => op.holds (cmpText (f x) (f y))) =
      (fun x y => decide (op.bytesRel (Utf8.encodeText (f x)) (Utf8.encodeText (f y)))) := by
    funext x y
    rw [Bool.eq_iff_iff, cmpOp_bytewise, decide_eq_true_iff]
  rw [e]

theorem nthOffset_eq_encoded (cs : Text) {k : Nat} (h : k < cs.length) :
    nthOffset cs k 0 = some ((Utf8.encodeText (cs.take k)).length, cs[k]) := by
  rw [nthOffset_eq, dif_pos h, Utf8.encodeText_length]

theorem charOffset_eq_encoded (cs : Text) {k : Nat} (h : k < cs.length) :
    charOffset cs k = .ok (Utf8.encodeText (cs.take k)).length := by
  rw [charOffset_ok h, Utf8.encodeText_length]

theorem charOffsetInclusive_eq_encoded (cs : Text) {k : Nat} (h : k < cs.length) :
    charOffsetInclusive cs k = .ok (Utf8.encodeText (cs.take (k + 1))).length := by
  rw [charOffsetInclusive_ok h, Utf8.encodeText_length]

/-- `&s[a..b]`: the model panics exactly where `str::is_char_boundary` fails, else the bytes are bytes `a..b` -/
theorem strSlice_on_bytes (cs : Text) (a b : Nat) :
    ((∃ r, strSlice cs a b = .ok r) ↔
      a ≤ b ∧ Utf8.isCharBoundary (Utf8.encodeText cs) a = true ∧
        Utf8.isCharBoundary (Utf8.encodeText cs) b = true) ∧
    (∀ r, strSlice cs a b = .ok r →
      Utf8.encodeText r = ((Utf8.encodeText cs).drop a).take (b - a)) :=
  ⟨strSlice_ok_iff cs a b, fun _ h => strSlice_bytes h⟩

/-- `s.replace_range(a..b, new)`: the same panic condition -/
theorem replaceRange_on_bytes (cs new : Text) (a b : Nat) :
    ((∃ r, replaceRange cs a b new = .ok r) ↔
      a ≤ b ∧ Utf8.isCharBoundary (Utf8.encodeText cs) a = true ∧
        Utf8.isCharBoundary (Utf8.encodeText cs) b = true) ∧
    (∀ r, replaceRange cs a b new = .ok r →
      Utf8.encodeText r =
        (Utf8.encodeText cs).take a ++ Utf8.encodeText new ++ (Utf8.encodeText cs).drop b) :=
  ⟨replaceRange_ok_iff cs new a b, fun _ h => replaceRange_bytes h⟩

/-! ## Final_Sigma

`string-downcase` is `str::to_lowercase` = `strLowerCtx` (capital sigma becomes `ς` at the end of a word, `σ` elsewhere;
`cased` / `caseIgnorable` of the table decide what a word is); `string-foldcase` and `string-ci…?` use `strLower`. -/

theorem downcase_ctx_eq_lower_of_no_sigma (T : CaseTable) (cs : Text) (h : capSigma ∉ cs) :
    strLowerCtx T cs = strLower T cs := lowerCtxGo_no_sigma T [] cs h

/-- one piece per source character; the pieces differ only at a capital sigma (`σ` or `ς`, `CtxPiece`) -/
theorem downcase_ctx_sigma_only (T : CaseTable) (cs : Text) :
    ∃ ps : List (List Char), strLowerCtx T cs = ps.flatten ∧
      strLower T cs = (cs.map T.lower).flatten ∧ All2 (CtxPiece T) cs ps := by
  obtain ⟨ps, h1, h2⟩ := lowerCtxGo_pieces T [] cs
  exact ⟨ps, h1, by simp [strLower, List.flatMap_def], h2⟩

/-- for a table that maps `Σ` to `σ` (as Unicode does) -/
theorem downcase_ctx_pointwise (T : CaseTable) (hσ : T.lower capSigma = [smallSigma]) (cs : Text) :
    All2 SigmaVariant (strLowerCtx T cs) (strLower T cs) :=
  lowerCtxGo_pointwise T hσ [] cs

theorem downcase_ctx_length (T : CaseTable) (hσ : T.lower capSigma = [smallSigma]) (cs : Text) :
    (strLowerCtx T cs).length = (strLower T cs).length ∧
    ∀ i (h1 : i < (strLowerCtx T cs).length) (h2 : i < (strLower T cs).length),
      SigmaVariant (strLowerCtx T cs)[i] (strLower T cs)[i] :=
  ⟨(downcase_ctx_pointwise T hσ cs).length_eq, (downcase_ctx_pointwise T hσ cs).get⟩

theorem foldcase_context_free (T : CaseTable) (a b : Text) :
    strLower T (a ++ b) = strLower T a ++ strLower T b := by
  simp only [strLower, List.flatMap_append]

theorem string_ci_eq_of_pairwise (T : CaseTable) {a b : Text}
    (h : All2 (fun x y => T.lower x = T.lower y) a b) :
    CmpOp.eq.holds (cmpText (strLower T a) (strLower T b)) = true := by
  rw [strLower_congr T h, cmpText_self]
  rfl

/-- when the characters have one-character foldings, pairwise `char-ci=?` strings are `string-ci=?` -/
theorem string_ci_eq_of_char_ci_eq (T : CaseTable) {a b : Text}
    (h11 : ∀ x ∈ a ++ b, T.lower x = [charFoldcase T x])
    (h : All2 (fun x y => charFoldcase T x = charFoldcase T y) a b) :
    CmpOp.eq.holds (cmpText (strLower T a) (strLower T b)) = true := by
  apply string_ci_eq_of_pairwise
  induction h with
  | nil => exact .nil
  | cons h0 _ ih =>
    refine .cons ?_ (ih fun x hx => h11 x ?_)
    · rw [h11 _ (by simp), h11 _ (by simp), h0]
    · rcases List.mem_append.mp hx with m | m <;> simp [m]

theorem stringCiEq_ok (T : CaseTable) {s : Store} {va vb : VCell} {ia ib : Nat} {a b : Text}
    (ha : IsStr s va ia a) (hb : IsStr s vb ib b)
    (h11 : ∀ x ∈ a ++ b, T.lower x = [charFoldcase T x])
    (h : All2 (fun x y => charFoldcase T x = charFoldcase T y) a b) :
    stringComp (strLower T) .eq s [va, vb] = .ok (s, .bool true) := by
  rw [stringComp_ok (strLower T) .eq (.cons ha (.cons hb .nil)) (by simp)]
  simp only [Spec.chainHolds, string_ci_eq_of_char_ci_eq T h11 h, Bool.and_self]

/-- a fragment of the Unicode tables: Α/α, Σ/σ/ς cased letters, `.` and U+0301 Case_Ignorable, all else uncased -/
def exCase : CaseTable where
  lower c := if c = 'Α' then ['α'] else if c = 'Σ' then ['σ'] else [c]
  upper c := if c = 'α' then ['Α'] else if c = 'σ' ∨ c = 'ς' then ['Σ'] else [c]
  alphabetic c := c == 'Α' || c == 'α' || c == 'Σ' || c == 'σ' || c == 'ς'
  numeric c := c == '1'
  whitespace c := c == ' '
  isLower c := c == 'α' || c == 'σ' || c == 'ς'
  isUpper c := c == 'Α' || c == 'Σ'
  cased c := c == 'Α' || c == 'α' || c == 'Σ' || c == 'σ' || c == 'ς'
  caseIgnorable c := c == '.' || c == '́'

/-- "ΑΣ" ↦ "ας", "Α" ↦ "α", but "ΑΣΑ" ↦ "ασα" -/
theorem final_sigma_context_sensitive :
    ∃ (T : CaseTable) (a b : Text),
      strLowerCtx T (a ++ b) ≠ strLowerCtx T a ++ strLowerCtx T b :=
  ⟨exCase, ['Α', 'Σ'], ['Α'], by decide⟩

/-- as a folding `strLowerCtx` would make `string-ci=?` disagree with `char-ci=?` on "ΑΣ" / "ασ" -/
theorem final_sigma_breaks_ci :
    All2 (fun x y => exCase.lower x = exCase.lower y) ['Α', 'Σ'] ['α', 'σ'] ∧
    CmpOp.eq.holds (cmpText (strLower exCase ['Α', 'Σ']) (strLower exCase ['α', 'σ'])) = true ∧
    CmpOp.eq.holds (cmpText (strLowerCtx exCase ['Α', 'Σ']) (strLowerCtx exCase ['α', 'σ'])) = false :=
  ⟨.cons (by decide) (.cons (by decide) .nil), by decide, by decide⟩

/-! ## the hypotheses are satisfiable

`ptr 0` is the string `"aλ€🐶"` (1-, 2-, 3- and 4-byte characters), `ptr 1` the empty string,
`ptr 5` the list `(#\a #\λ)`, `ptr 7` the improper list `(#\a . #\λ)`, `ptr 6` the vector `#(#\a #\🐶)`. -/

def exText : Text := ['a', 'λ', '€', '🐶']

def exStore : Store :=
  { cells := [.str 0, .str 1, .char 'a', .char 'λ', .pair 3 8, .pair 2 4, .vec 0, .pair 2 3, .nil],
    vecs := [[.char 'a', .char '🐶']],
    strs := [exText, []] }

theorem ex_str : IsStr exStore (.ptr 0) 0 exText := ⟨rfl, rfl⟩
theorem ex_empty : IsStr exStore (.ptr 1) 1 [] := ⟨rfl, rfl⟩
theorem ex_idx (k : Nat) (h : k < usizeLimit := by decide) : IsIndex exStore (.num k) k := ⟨rfl, h⟩
theorem ex_notIdx : NotIndex exStore (.num (-1)) := ⟨_, rfl, fun k _ h => by cases h⟩
theorem ex_char (c : Char) : exStore.get (.char c) = .ok (.char c) := rfl
theorem ex_list : IsList exStore (.ptr 5) [2, 3] := .cons rfl (.cons rfl (.nil rfl))
theorem ex_chars : CharsAt exStore [2, 3] ['a', 'λ'] := .cons rfl (.cons rfl .nil)

example : nthOffset exText 3 0 = some (6, '🐶') := by decide
example := stringRef_contents (cs := exText) (k := 3) (by decide)
example := stringRef_contents_err (cs := []) (k := 0) (by decide)
-- a 1-byte character replaces a 4-byte one, a 4-byte one replaces a 1-byte one
example := stringSet_contents (cs := exText) (k := 3) 'x' (by decide)
example := stringSet_contents (cs := exText) (k := 0) '🐶' (by decide)
example := stringSet_contents_err (cs := exText) (k := 4) 'x' (by decide)
example := substring_contents (cs := exText) (start := some 1) (end_ := some 3) ⟨fun _ => rfl, by decide, by decide⟩
example := substring_contents (cs := exText) (start := some 4) (end_ := none) ⟨by simp, by decide, by decide⟩
example := substring_contents_err (cs := exText) (st := 5) (some 5) (by decide)
example := substring_contents_err (cs := exText) (st := 3) (some 7) (by decide)
example := stringFill_contents (cs := exText) (start := some 1) (end_ := some 3) 'é' ⟨fun _ => rfl, by decide, by decide⟩
example := stringFill_contents_err (cs := exText) (st := 5) 'x' none (by decide)
example := stringLength_ok ex_str
example := stringRef_ok ex_str (ex_idx 1) (by decide)
example := stringRef_err_range ex_empty (ex_idx 0) (by decide)
example := stringRef_err_index (v := .ptr 0) ex_notIdx
example := stringSet_ok ex_str (ex_idx 2) (ex_char 'z') (by decide)
example := stringSet_err_range ex_empty (ex_idx 0) (ex_char 'z') (by decide)
example := stringRef_stringSet (r := .void)
  (s' := { exStore with strs := [['a', 'λ', 'z', '🐶'], []] }) ex_str (ex_idx 2) (ex_char 'z')
  (by decide) rfl
example := stringCopy_ok ex_str (ex_idx 1) (ex_idx 4) (by decide) (by decide)
example := stringCopy_err ex_str (ex_idx 5) (ex_idx 5) (by decide)
example := stringFill_ok ex_str (ex_char '🐶') (ex_idx 0) (ex_idx 2) (by decide) (by decide)
example := stringFill_err ex_str (ex_char '🐶') (ex_idx 3) (ex_idx 1) (by decide)
example := makeString_ok (ex_idx 3) (ex_char 'λ') (by decide)
example := string_ok (s := exStore) (args := [.char 'a', .ptr 3]) (.cons rfl (.cons rfl .nil))
example := stringAppend_ok (s := exStore) (args := [.ptr 0, .ptr 1, .ptr 0])
  (.cons ex_str (.cons ex_empty (.cons ex_str .nil)))
example := stringComp_ok (s := exStore) (args := [.ptr 1, .ptr 0, .ptr 0]) id .le
  (.cons ex_empty (.cons ex_str (.cons ex_str .nil))) (by simp)
example := charComp_ok (s := exStore) (args := [.char 'a', .ptr 3]) id .lt
  (.cons rfl (.cons rfl .nil)) (by simp)
example := popString_err (s := exStore) (v := .ptr 2) (c := .char 'a') rfl (fun _ h => by cases h)
example := listToString_ok (fuel := 5) ex_list ex_chars (by decide)
example := listToString_err (s := exStore) (v := .ptr 7) (fuel := 5) (rest := []) (ccs := [])
  rfl (.done rfl rfl) rfl .nil rfl (by decide)
example := vectorToString_ok (s := exStore) (v := .ptr 6) ⟨rfl, rfl⟩ (.cons rfl (.cons rfl .nil))
example := stringToVector_ok ex_str
example := stringCase_ok (fun t => t ++ t) ex_str
example := integerToChar_ok (s := exStore) (v := .num 955) (k := 955) rfl (by decide)
example := integerToChar_err (s := exStore) (v := .num 0xD800) rfl (Or.inr (by decide))
example := integerToChar_err (s := exStore) (v := .num 0x110000) rfl (Or.inr (by decide))
example := integerToChar_err (s := exStore) (v := .num (-1)) rfl (Or.inl (by decide))
example := charToInteger_ok (s := exStore) (v := .ptr 3) rfl
example := integerToChar_charToInteger exStore '🐶'
example := charUpcase_ascii ⟨fun _ => [], fun _ => [], fun _ => false, fun _ => false, fun _ => false, fun _ => false, fun _ => false, fun _ => false, fun _ => false⟩ 'q' (by decide)

example : Utf8.encodeText exText = [0x61, 0xCE, 0xBB, 0xE2, 0x82, 0xAC, 0xF0, 0x9F, 0x90, 0xB6] := by decide
example : Utf8.cmpBytes (Utf8.encodeText ['€']) (Utf8.encodeText ['🐶']) = .lt := by decide
-- U+FFFD < U+1F436 by code point and bytewise in UTF-8 (EF BF BD < F0 9F 90 B6); in UTF-16 code units the order is the opposite
example := cmpOp_bytewise .lt ['\uFFFD'] ['🐶']
example := nthOffset_eq_encoded exText (k := 3) (by decide)
example : Utf8.isCharBoundary (Utf8.encodeText exText) 3 = true := by decide
example : Utf8.isCharBoundary (Utf8.encodeText exText) 4 = false := by decide
example := stringComp_bytewise (s := exStore) (args := [.ptr 1, .ptr 0, .ptr 0]) id .le
  (.cons ex_empty (.cons ex_str (.cons ex_str .nil))) (by simp)

-- Final_Sigma: word-final, -initial, -medial, alone, doubled, across Case_Ignorable, next to uncased
example : strLowerCtx exCase ['Α', 'Σ'] = ['α', 'ς'] := by decide
example : strLowerCtx exCase ['Σ', 'Α'] = ['σ', 'α'] := by decide
example : strLowerCtx exCase ['Α', 'Σ', 'Α'] = ['α', 'σ', 'α'] := by decide
example : strLowerCtx exCase ['Σ'] = ['σ'] := by decide
example : strLowerCtx exCase ['Σ', 'Σ'] = ['σ', 'ς'] := by decide
example : strLowerCtx exCase ['Α', '.', 'Σ'] = ['α', '.', 'ς'] := by decide
example : strLowerCtx exCase ['Α', 'Σ', '́', 'Α'] = ['α', 'σ', '́', 'α'] := by decide
example : strLowerCtx exCase ['Α', 'Σ', '.'] = ['α', 'ς', '.'] := by decide
example : strLowerCtx exCase ['1', 'Σ'] = ['1', 'σ'] := by decide
example : strLowerCtx exCase ['Α', 'Σ', ' ', 'Α'] = ['α', 'ς', ' ', 'α'] := by decide
example : strLower exCase ['Α', 'Σ'] = ['α', 'σ'] := by decide
example := downcase_ctx_eq_lower_of_no_sigma exCase ['Α', 'σ', 'ς'] (by decide)
example := downcase_ctx_pointwise exCase rfl ['Α', 'Σ']
example := string_ci_eq_of_char_ci_eq exCase (a := ['Α', 'Σ']) (b := ['α', 'σ'])
  (by decide) (.cons (by decide) (.cons (by decide) .nil))

end Marwood.Proofs.C15
