import Marwood.Lemmas.NumScm
import Marwood.Lemmas.NumAccuracy
import Marwood.Lemmas.NumAccuracyMul
/-!
# C08 — exact arithmetic is exact; inexactness is never silently dropped

Model: `Marwood.Arith` (number.rs / builtin/number.rs as of the fix commits 301e76d, 5bfb138,
fcf9000, 7762e0a); specification: `Marwood.NumSpec` (values in ℚ).

* T08.1 (an exact answer is right), T08.3 (`quotient remainder modulo`), T08.5 (variadic folds): every
  representation.
* T08.2 (inexact only when the true result is not representable, and then within the error bound) and T08.4
  (representation independence) hold at full strength for `abs floor ceiling truncate numerator denominator
  expt`.  Nothing about rounding is assumed: the facts about `Fl.rnd` are theorems.
* T08.2 (first conjunct) is FALSE for each of `+ − * /`, T08.4 for `+`.  The float fall-backs are asserted by
  the project's own unit tests (`number::tests::{add,sub,mul,div}`), so these are known findings without a
  repair: the full statements are refuted at witnesses, the `_partial` versions carry guards.
-/
namespace Marwood.Proofs.C08
open Marwood Marwood.Arith Marwood.NumSpec

/-! ### T08.1 — an exact answer is the exact result -/

/-- T08.1 (+): an exact answer had exact operands and is their sum in ℚ -/
theorem add_exact_correct (a b : Num) (ha : a.WF = true) (hb : b.WF = true)
    (h : isExact (add a b) = true) :
    ∃ x y, val a = some x ∧ val b = some y ∧ val (add a b) = some (x + y) :=
  add_exact a b (DenPos.of_wf ha) (DenPos.of_wf hb) h

/-- T08.1 (−) -/
theorem sub_exact_correct (a b : Num) (ha : a.WF = true) (hb : b.WF = true)
    (h : isExact (sub a b) = true) :
    ∃ x y, val a = some x ∧ val b = some y ∧ val (sub a b) = some (x - y) :=
  sub_exact a b (DenPos.of_wf ha) (DenPos.of_wf hb) h

/-- T08.1 (×) -/
theorem mul_exact_correct (a b : Num) (ha : a.WF = true) (hb : b.WF = true)
    (h : isExact (mul a b) = true) :
    ∃ x y, val a = some x ∧ val b = some y ∧ val (mul a b) = some (x * y) :=
  mul_exact a b (DenPos.of_wf ha) (DenPos.of_wf hb) h

/-- T08.1 (÷); an exact quotient implies a non-zero divisor -/
theorem div_exact_correct (a b : Num) (ha : a.WF = true) (hb : b.WF = true) {r : Num}
    (h : div a b = .ok r) (he : isExact r = true) :
    ∃ x y, val a = some x ∧ val b = some y ∧ y ≠ 0 ∧ val r = some (x / y) :=
  div_exact a b (DenPos.of_wf ha) (DenPos.of_wf hb) h he

/-! ### T08.3 — quotient, remainder, modulo -/

/-- T08.3 (quotient): no error, no panic for a non-zero divisor -/
theorem quotient_is_tdiv (a b : Num) {x y : Int} (hx : intVal? a = some x) (hy : intVal? b = some y)
    (hy0 : y ≠ 0) : ∃ r, quotient a b = some (.ok (some r)) ∧ intVal? r = some (x.tdiv y) :=
  quotient_spec a b hx hy hy0

/-- T08.3 (remainder) -/
theorem remainder_is_tmod (a b : Num) {x y : Int} (hx : intVal? a = some x)
    (hy : intVal? b = some y) (hy0 : y ≠ 0) :
    ∃ r, rem a b = some (.ok (some r)) ∧ intVal? r = some (x.tmod y) := by
  obtain ⟨r, h1, h2, _⟩ := rem_spec a b hx hy hy0
  exact ⟨r, h1, h2⟩

/-- T08.3 (modulo) -/
theorem modulo_is_fmod (a b : Num) (hb : b.WF = true) {x y : Int} (hx : intVal? a = some x)
    (hy : intVal? b = some y) (hy0 : y ≠ 0) :
    ∃ r, modulo a b = some (.ok (some r)) ∧ intVal? r = some (x.fmod y) :=
  modulo_spec a b hb hx hy hy0

/-- an integer-valued answer is exact and has the integer as its value -/
theorem intVal_exact {r : Num} {t : Int} (h : intVal? r = some t) :
    isExact r = true ∧ val r = some (t : Rat) := by
  refine ⟨?_, intVal_val h⟩
  cases r <;> simp_all [intVal?, isExact]

/-- T08.3 for the procedures: an error for a zero divisor, never a panic -/
theorem scm_integer_division (a b : Num) (hb : b.WF = true) {x y : Int}
    (hx : intVal? a = some x) (hy : intVal? b = some y) :
    (y = 0 → scmQuotient [a, b] = some (.err "syntax") ∧ scmRemainder [a, b] = some (.err "syntax")
      ∧ scmModulo [a, b] = some (.err "syntax")) ∧
    (y ≠ 0 → ∃ q r m, scmQuotient [a, b] = some (.ok q) ∧ intVal? q = some (x.tdiv y) ∧
      scmRemainder [a, b] = some (.ok r) ∧ intVal? r = some (x.tmod y) ∧
      scmModulo [a, b] = some (.ok m) ∧ intVal? m = some (x.fmod y)) := by
  constructor
  · intro h0
    exact ⟨(scmIntOp_spec quotient a b hx hy).1 h0, (scmIntOp_spec rem a b hx hy).1 h0,
      (scmIntOp_spec modulo a b hx hy).1 h0⟩
  · intro h0
    obtain ⟨q, hq, hqv⟩ := quotient_spec a b hx hy h0
    obtain ⟨r, hr, hrv, _⟩ := rem_spec a b hx hy h0
    obtain ⟨m, hm, hmv⟩ := modulo_spec a b hb hx hy h0
    exact ⟨q, r, m, (scmIntOp_spec quotient a b hx hy).2 h0 q hq, hqv,
      (scmIntOp_spec rem a b hx hy).2 h0 r hr, hrv,
      (scmIntOp_spec modulo a b hx hy).2 h0 m hm, hmv⟩

/-! ### T08.1 continued — unary operations and expt -/

theorem floor_correct (a : Num) (ha : a.WF = true) {r : Num} (h : floor a = some r) :
    ∃ (x : Rat) (k : Int), val a = some x ∧ val r = some (k : Rat) ∧ (k : Rat) ≤ x ∧ x < k + 1 :=
  floor_spec a ha h

theorem ceiling_correct (a : Num) (ha : a.WF = true) {r : Num} (h : ceil a = some r) :
    ∃ (x : Rat) (k : Int), val a = some x ∧ val r = some (k : Rat) ∧ x ≤ (k : Rat) ∧ (k : Rat) - 1 < x :=
  ceil_spec a ha h

theorem truncate_correct (a : Num) (ha : a.WF = true) {r : Num} (h : truncate a = some r) :
    ∃ (x : Rat) (k : Int), val a = some x ∧ val r = some (k : Rat) ∧
      (0 ≤ x → (k : Rat) ≤ x ∧ x < k + 1) ∧ (x ≤ 0 → x ≤ (k : Rat) ∧ (k : Rat) - 1 < x) :=
  truncate_spec a ha h

theorem abs_correct (a : Num) (ha : a.WF = true) {r : Num} (h : abs a = some r)
    (he : isExact r = true) : ∃ x, val a = some x ∧ val r = some (absR x) :=
  abs_spec a ha h he

theorem numerator_denominator_correct (a : Num) (ha : a.WF = true) {r s : Num}
    (h1 : numerator a = some r) (h2 : denominator a = some s) :
    ∃ x : Rat, val a = some x ∧ val r = some (x.num : Rat) ∧ val s = some (x.den : Rat) :=
  numer_denom_spec a ha h1 h2

/-- `expt` with a non-negative integer exponent: an exact answer is the exact power. -/
theorem expt_exact_correct (a : Num) (ha : a.WF = true) (e : Nat) {r : Num} (h : pow a e = some r)
    (he : isExact r = true) : ∃ x, val a = some x ∧ val r = some (x ^ e) :=
  pow_spec a ha e h he

/-! ### T08.2 / T08.4 at full strength — abs floor ceiling truncate numerator denominator expt -/

/-- T08.2 (expt), full strength: `(expt a e)` is answered inexactly only when the exact power is
    not representable (not an integer and not a reduced ratio within i32). -/
theorem T08_2_expt (a : Num) (ha : a.WF = true) (e : Nat) {r : Num} (h : pow a e = some r)
    (he : isExact r = false) : ∃ x, val a = some x ∧ representable (x ^ e) = false :=
  pow_inexact_spec a ha e h he

/-- T08.1 + T08.2 (expt) in one statement -/
theorem expt_exact_iff_representable (a : Num) (ha : a.WF = true) (e : Nat) {r : Num} {x : Rat}
    (hx : val a = some x) (h : pow a e = some r) : isExact r = representable (x ^ e) :=
  pow_exact_iff a ha e hx h

/-- T08.4 (expt), full strength: the same value carried by any two representations gives answers
    of equal exactness and equal value. -/
theorem T08_4_expt (a a' : Num) (ha : a.WF = true) (ha' : a'.WF = true) (hv : val a = val a')
    (e : Nat) {r r' : Num} (h : pow a e = some r) (h' : pow a' e = some r') :
    isExact r = isExact r' ∧ val r = val r' :=
  pow_indep a a' ha ha' hv e h h'

/-- for the procedure: base and exponent in any representation -/
theorem T08_4_scm_expt (x x' e e' : Num) (hx : x.WF = true) (hx' : x'.WF = true)
    (he : e.WF = true) (he' : e'.WF = true) (hee : isExact e = true) (hee' : isExact e' = true)
    (hvx : val x = val x') (hve : val e = val e') {o o' : Outcome Num}
    (h : scmExpt [x, e] = some o) (h' : scmExpt [x', e'] = some o') : SameAnswer o o' :=
  scmExpt_indep x x' e e' hx hx' he he' hee hee' hvx hve h h'

/-- known finding C08-expt-rational (fix 7762e0a): `(expt <rational 65536/1> 2)` is `4294967296.0` for
    `Pinned.pow`, `4294967296` for `pow`, as for the fixnum 65536 -/
theorem pinned_expt_rational :
    Pinned.pow (.rat 65536 1) 2 = some (.flo ⟨0x41f0000000000000⟩) ∧
    pow (.rat 65536 1) 2 = some (.fix 4294967296) ∧ pow (.fix 65536) 2 = some (.fix 4294967296) := by
  decide +kernel

/-- the inexact answers are to `-2147483648/d`, `d > 1` -/
theorem T08_2_abs (a : Num) (ha : a.WF = true) {r : Num} (h : abs a = some r)
    (he : isExact r = false) : ∃ x, val a = some x ∧ representable (absR x) = false :=
  abs_inexact_spec a ha h he

/-- never inexact -/
theorem T08_2_integer_valued (a : Num) (hea : isExact a = true) {r : Num}
    (h : floor a = some r ∨ ceil a = some r ∨ truncate a = some r ∨ numerator a = some r ∨
      denominator a = some r) : isExact r = true := by
  rcases h with h | h | h | h | h
  · exact floor_exact h hea
  · exact ceil_exact h hea
  · exact truncate_exact h hea
  · exact numerator_exact h hea
  · exact denominator_exact h

/-- T08.4 (abs floor ceiling truncate), full strength: the answers to the same value in any two
    representations have equal exactness and equal value. -/
theorem T08_4_unary (a a' : Num) (ha : a.WF = true) (ha' : a'.WF = true) (hea : isExact a = true)
    (hea' : isExact a' = true) (hv : val a = val a') :
    (∀ r r', abs a = some r → abs a' = some r' → isExact r = isExact r' ∧ val r = val r') ∧
    (∀ r r', floor a = some r → floor a' = some r' → isExact r = isExact r' ∧ val r = val r') ∧
    (∀ r r', ceil a = some r → ceil a' = some r' → isExact r = isExact r' ∧ val r = val r') ∧
    (∀ r r', truncate a = some r → truncate a' = some r' →
      isExact r = isExact r' ∧ val r = val r') :=
  ⟨fun _ _ h h' => abs_indep a a' ha ha' hea hea' hv h h',
   fun _ _ h h' => floor_indep a a' ha ha' hea hea' hv h h',
   fun _ _ h h' => ceil_indep a a' ha ha' hea hea' hv h h',
   fun _ _ h h' => truncate_indep a a' ha ha' hea hea' hv h h'⟩

/-- T08.4 (numerator denominator), full strength. -/
theorem T08_4_numerator_denominator (a a' : Num) (ha : a.WF = true) (ha' : a'.WF = true)
    (hea : isExact a = true) (hea' : isExact a' = true) (hv : val a = val a') {r r' s s' : Num}
    (h1 : numerator a = some r) (h1' : numerator a' = some r') (h2 : denominator a = some s)
    (h2' : denominator a' = some s') :
    isExact r = true ∧ isExact r' = true ∧ val r = val r' ∧
    isExact s = true ∧ isExact s' = true ∧ val s = val s' :=
  numer_denom_indep a a' ha ha' hea hea' hv h1 h1' h2 h2'

/-! ### the rounding function

Every inexact answer is `Fl.rnd` of an exact rational (directly for `expt`, through `Fl.ofInt`, `Fl.ofRatio`
and the IEEE operations for `+ − * /`); the three facts are theorems about the pure implementation in
`Num/F64.lean` (Lemmas/NumRnd*.lean). -/

/-- results are never NaN, hence ordered in ℚ ∪ {−∞, +∞} -/
theorem rnd_monotone {q q' : Rat} (h : q ≤ q') :
    ∃ a b, ext (.flo (Fl.rnd q)) = some a ∧ ext (.flo (Fl.rnd q')) = some b ∧ Ext.le a b = true :=
  Fl.rnd_mono h

/-- rounding is exact on representable values: the value of a finite double rounds to itself -/
theorem rnd_exact_on_doubles (f : F64) (q : Rat) (h : Fl.toRat? f = some q) :
    Fl.toRat? (Fl.rnd q) = some q :=
  Fl.rnd_exact f q h

/-- in the normal range (2⁻¹⁰²² ≤ |q| < 2¹⁰²³) the rounded value is finite and within 2⁻⁵³ relative -/
theorem rnd_relative_error (q : Rat) (hlo : (2 : Rat) ^ (-1022 : Int) ≤ |q|)
    (hhi : |q| < 2 ^ (1023 : Int)) :
    ∃ v, Fl.toRat? (Fl.rnd q) = some v ∧ |v - q| ≤ 2 ^ (-53 : Int) * |q| :=
  Fl.rnd_relerr q hlo hhi

/-- second conjunct: the correctly rounded power, 2⁻⁵³ (a fortiori 2⁻⁵⁰) relative -/
theorem T08_2_expt_accuracy (a : Num) (ha : a.WF = true) (e : Nat) {r : Num} (h : pow a e = some r)
    (he : isExact r = false) {x : Rat} (hx : val a = some x)
    (hlo : (2 : Rat) ^ (-1022 : Int) ≤ |x ^ e|) (hhi : |x ^ e| < 2 ^ (1023 : Int)) :
    ∃ v, val r = some v ∧ |v - x ^ e| ≤ 2 ^ (-53 : Int) * |x ^ e| :=
  pow_inexact_accurate a ha e h he hx hlo hhi

/-- second conjunct; no range hypothesis: the value lies in [1, 2³¹] -/
theorem T08_2_abs_accuracy (a : Num) (ha : a.WF = true) {r : Num} (h : abs a = some r)
    (he : isExact r = false) :
    ∃ x v, val a = some x ∧ val r = some v ∧ |v - absR x| ≤ 2 ^ (-53 : Int) * absR x :=
  abs_inexact_accurate a ha h he

/-- second conjunct — holds although the first does not.  Three roundings: both operands are converted by
    `rnd`, the double sum is `rnd` of their exact sum. -/
theorem T08_2_add_accuracy (a b : Num) (ha : a.WF = true) (hb : b.WF = true)
    (hea : isExact a = true) (heb : isExact b = true) {x y : Rat} (hx : val a = some x)
    (hy : val b = some y) (hmx : |x| < 2 ^ (1000 : Int)) (hmy : |y| < 2 ^ (1000 : Int))
    (hM : (2 : Rat) ^ (-1022 : Int) ≤ max |x| (max |y| |x + y|))
    (he : isExact (add a b) = false) :
    ∃ v, val (add a b) = some v ∧ |v - (x + y)| ≤ 2 ^ (-50 : Int) * max |x| (max |y| |x + y|) :=
  add_inexact_accurate a b ha hb hea heb hx hy hmx hmy hM he

/-- T08.2 (−), second conjunct. -/
theorem T08_2_sub_accuracy (a b : Num) (ha : a.WF = true) (hb : b.WF = true)
    (hea : isExact a = true) (heb : isExact b = true) {x y : Rat} (hx : val a = some x)
    (hy : val b = some y) (hmx : |x| < 2 ^ (1000 : Int)) (hmy : |y| < 2 ^ (1000 : Int))
    (hM : (2 : Rat) ^ (-1022 : Int) ≤ max |x| (max |y| |x - y|))
    (he : isExact (sub a b) = false) :
    ∃ v, val (sub a b) = some v ∧ |v - (x - y)| ≤ 2 ^ (-50 : Int) * max |x| (max |y| |x - y|) :=
  sub_inexact_accurate a b ha hb hea heb hx hy hmx hmy hM he

/-- second conjunct.  No lower bound is needed: an exact operand is 0 or at least 2⁻¹⁰²² (`exact_val_lower`),
    so only the last rounding can underflow, by 2⁻¹⁰⁷⁵ < 2⁻⁵³·max(|x|, |y|). -/
theorem T08_2_mul_accuracy (a b : Num) (ha : a.WF = true) (hb : b.WF = true)
    (hea : isExact a = true) (heb : isExact b = true) {x y : Rat} (hx : val a = some x)
    (hy : val b = some y) (hmx : |x| < 2 ^ (1023 : Int)) (hmy : |y| < 2 ^ (1023 : Int))
    (hmp : |x * y| < 2 ^ (1022 : Int)) (he : isExact (mul a b) = false) :
    ∃ v, val (mul a b) = some v ∧ |v - x * y| ≤ 2 ^ (-50 : Int) * max |x| (max |y| |x * y|) :=
  mul_inexact_accurate a b ha hb hea heb hx hy hmx hmy hmp he

/-- T08.2 (÷), second conjunct: whenever a quotient of exact operands (divisor non-zero,
    |x|, |y| < 2¹⁰²³, |x/y| < 2¹⁰²²) is answered inexactly, the answer is finite and within
    2⁻⁵⁰·max(|x|, |y|, |x/y|) of the exact quotient. -/
theorem T08_2_div_accuracy (a b : Num) (ha : a.WF = true) (hb : b.WF = true)
    (hea : isExact a = true) (heb : isExact b = true) {x y : Rat} (hx : val a = some x)
    (hy : val b = some y) (hy0 : y ≠ 0) (hmx : |x| < 2 ^ (1023 : Int)) (hmy : |y| < 2 ^ (1023 : Int))
    (hmq : |x / y| < 2 ^ (1022 : Int)) {r : Num} (h : div a b = .ok r) (he : isExact r = false) :
    ∃ v, val r = some v ∧ |v - x / y| ≤ 2 ^ (-50 : Int) * max |x| (max |y| |x / y|) :=
  div_inexact_accurate a b ha hb hea heb hx hy hy0 hmx hmy hmq h he

/-! ### T08.5 — variadic `+ * −` -/

/-- from the last argument to the first: the order in which they leave the VM stack -/
theorem variadic_are_folds (args : List Num) (a : Num) (rest : List Num) :
    scmPlus args = .ok (args.reverse.foldl add (.fix 0)) ∧
    scmTimes args = .ok (args.reverse.foldl mul (.fix 1)) ∧
    scmMinus [a] = .ok (mul (sub a (.fix 0)) (.fix (-1))) ∧
    (rest ≠ [] → scmMinus (a :: rest) = .ok (sub a (rest.reverse.foldl add (.fix 0)))) := by
  refine ⟨rfl, rfl, rfl, ?_⟩
  intro h
  cases rest with
  | nil => exact absurd rfl h
  | cons b r => rfl

/-- T08.5 + T08.1 -/
theorem plus_exact_correct (args : List Num) (hw : ∀ a ∈ args, a.WF = true) {r : Num}
    (h : scmPlus args = .ok r) (he : isExact r = true) :
    ∃ xs : List Rat, List.Forall₂ (fun a v => isExact a = true ∧ val a = some v) args.reverse xs ∧
      val r = some (xs.foldl (· + ·) 0) := by
  simp only [scmPlus, Outcome.ok.injEq] at h; subst h
  obtain ⟨x, xs, hx, hf, hv⟩ := foldl_add_exact args.reverse (.fix 0) trivial
    (fun a ha => DenPos.of_wf (hw a (List.mem_reverse.mp ha))) he
  simp only [val_fix, Option.some.injEq] at hx
  refine ⟨xs, hf, ?_⟩
  rw [hv, ← hx]; simp

theorem times_exact_correct (args : List Num) (hw : ∀ a ∈ args, a.WF = true) {r : Num}
    (h : scmTimes args = .ok r) (he : isExact r = true) :
    ∃ xs : List Rat, List.Forall₂ (fun a v => isExact a = true ∧ val a = some v) args.reverse xs ∧
      val r = some (xs.foldl (· * ·) 1) := by
  simp only [scmTimes, Outcome.ok.injEq] at h; subst h
  obtain ⟨x, xs, hx, hf, hv⟩ := foldl_mul_exact args.reverse (.fix 1) trivial
    (fun a ha => DenPos.of_wf (hw a (List.mem_reverse.mp ha))) he
  simp only [val_fix, Option.some.injEq] at hx
  refine ⟨xs, hf, ?_⟩
  rw [hv, ← hx]; simp

/-! ### no panic -/

theorem divide_never_panics (args : List Num) (s : String) : scmDivide args ≠ .panic s :=
  scmDivide_no_panic args s

theorem div_total (a b : Num) (hz : isZero b = false) : ∃ x, div a b = .ok x :=
  div_no_panic a b hz

/-! ### T08.2 for `+ − * /`, T08.4 for `+` — FALSE at full strength

Known findings C08-wide-int-with-rational, C08-rational-overflow, C08-div-wide and their consequence
C08-variadic-contagion; no repair without editing the project's suite, which asserts the `Float` answer (value
and discriminant) for members of each class.  The full statements are written out and refuted at witnesses;
the `_partial` theorems carry guards. -/

/-- T08.2, first conjunct, for a binary operation -/
def InexactOnlyWhenNeeded (op : Num → Num → Num) (spec : Rat → Rat → Rat) : Prop :=
  ∀ a b : Num, a.WF = true → b.WF = true → isExact a = true → isExact b = true →
    isExact (op a b) = false → ∀ x y, val a = some x → val b = some y →
      representable (spec x y) = false

/-- `(+ 1/2 2147483647/2)` answers `1073741824.0` although 1073741824 is an integer. -/
theorem not_T08_2_add : ¬ InexactOnlyWhenNeeded add (· + ·) := by
  intro h
  have := h (.rat 1 2) (.rat 2147483647 2) (by decide) (by decide) rfl rfl (by decide) _ _ rfl rfl
  revert this; decide +kernel

/-- `(* 4294967296 1/2)` answers `2147483648.0`. -/
theorem not_T08_2_mul : ¬ InexactOnlyWhenNeeded mul (· * ·) := by
  intro h
  have := h (.fix 4294967296) (.rat 1 2) (by decide) (by decide) rfl rfl (by decide) _ _ rfl rfl
  revert this; decide +kernel

/-- `(- 3000000000 1/1)` (an integer-valued rational) answers `2999999999.0`. -/
theorem not_T08_2_sub : ¬ InexactOnlyWhenNeeded sub (· - ·) := by
  intro h
  have := h (.fix 3000000000) (.rat 1 1) (by decide) (by decide) rfl rfl (by decide) _ _ rfl rfl
  revert this; decide +kernel

/-- `(/ 5000000000 5)` answers `1000000000.0`. -/
theorem not_T08_2_div :
    ¬ (∀ a b : Num, a.WF = true → b.WF = true → ∀ r, div a b = .ok r → isExact r = false →
        ∀ x y, val a = some x → val b = some y → representable (x / y) = false) := by
  intro h
  have := h (.fix 5000000000) (.fix 5) (by decide) (by decide) _ rfl (by decide) _ _ rfl rfl
  revert this; decide +kernel

theorem intRep_cases {a : Num} (ha : intVal? a ≠ none) (hra : isRatRep a = false) :
    ∃ n, a = .fix n ∨ a = .big n := by
  cases a with
  | fix n => exact ⟨n, .inl rfl⟩
  | big n => exact ⟨n, .inr rfl⟩
  | rat n d => cases hra
  | flo f => exact absurd rfl ha

/-- between `fix` and `big` always exact: the bignum fall-back is complete -/
theorem T08_2_partial_integers (a b : Num) (ha : intVal? a ≠ none) (hb : intVal? b ≠ none)
    (hra : isRatRep a = false) (hrb : isRatRep b = false) :
    isExact (add a b) = true ∧ isExact (sub a b) = true ∧ isExact (mul a b) = true := by
  obtain ⟨x, rfl | rfl⟩ := intRep_cases ha hra <;> obtain ⟨y, rfl | rfl⟩ := intRep_cases hb hrb <;>
    (refine ⟨?_, ?_, ?_⟩ <;> simp only [add, sub, mul] <;> (try split) <;> rfl)

/-- integers within i32: inexact only when in lowest terms numerator or denominator is 2³¹ -/
theorem T08_2_partial_div (a b : Num) {l r : Int} (hl : asI32 a = some l) (hr : asI32 b = some r)
    (hr0 : r ≠ 0) {x : Num} (h : div a b = .ok x) (he : isExact x = false) :
    representable ((l : Rat) / (r : Rat)) = false := by
  -- `asI32` answers only on `fix` and `big`, and there `div` is `ratioOfI32` of the two answers
  have hdiv : div a b = ratioOfI32 l r := by
    cases a <;> cases b <;> simp only [asI32, reduceCtorEq] at hl hr <;> simp only [div, asI32, hl, hr]
  rw [hdiv] at h
  unfold ratioOfI32 at h
  simp only [beq_iff_eq, hr0, if_false] at h
  rw [← Rat.divInt_eq_div]
  unfold representable
  split at h
  · cases h; simp [isExact] at he
  · rename_i h1
    split at h
    · cases h; simp [isExact] at he
    · rename_i h2
      simp only [Bool.and_eq_true, not_and, Bool.not_eq_true] at h1
      simp only [Bool.or_eq_false_iff, beq_eq_false_iff_ne, ne_eq, Bool.and_eq_false_iff]
      refine ⟨?_, ?_⟩
      · intro hd; apply h2; exact_mod_cast hd
      · by_cases hn : inI32 (Rat.divInt l r).num = true
        · right; exact h1 hn
        · left; simpa using hn

/-- the value 5 as a fixnum or as a bignum gives `11/2` or `5.5` when `1/2` is added -/
theorem not_T08_4 :
    ¬ (∀ a a' b : Num, a.WF = true → a'.WF = true → b.WF = true → val a = val a' →
        isExact (add a b) = isExact (add a' b)) := by
  intro h
  have := h (.fix 5) (.big 5) (.rat 1 2) (by decide) (by decide) (by decide) rfl
  revert this; decide +kernel

/-- only the exactness depends on the representation, never the value of an exact answer -/
theorem T08_4_partial_value (a a' b b' : Num) (ha : a.WF = true) (ha' : a'.WF = true)
    (hb : b.WF = true) (hb' : b'.WF = true) (hva : val a = val a') (hvb : val b = val b')
    (h1 : isExact (add a b) = true) (h2 : isExact (add a' b') = true) :
    val (add a b) = val (add a' b') := by
  obtain ⟨x, y, hx, hy, hv⟩ := add_exact a b (DenPos.of_wf ha) (DenPos.of_wf hb) h1
  obtain ⟨x', y', hx', hy', hv'⟩ := add_exact a' b' (DenPos.of_wf ha') (DenPos.of_wf hb') h2
  rw [hv, hv']
  rw [hva, hx'] at hx; rw [hvb, hy'] at hy
  cases hx; cases hy; rfl

theorem T08_4_partial_integer_ops (a a' b b' : Num) (hb : b.WF = true) (hb' : b'.WF = true)
    {x y : Int} (hx : intVal? a = some x) (hx' : intVal? a' = some x) (hy : intVal? b = some y)
    (hy' : intVal? b' = some y) (hy0 : y ≠ 0) :
    ∃ q q' r r' m m', quotient a b = some (.ok (some q)) ∧ quotient a' b' = some (.ok (some q')) ∧
      intVal? q = intVal? q' ∧ rem a b = some (.ok (some r)) ∧ rem a' b' = some (.ok (some r')) ∧
      intVal? r = intVal? r' ∧ modulo a b = some (.ok (some m)) ∧
      modulo a' b' = some (.ok (some m')) ∧ intVal? m = intVal? m' := by
  obtain ⟨q, h1, v1⟩ := quotient_spec a b hx hy hy0
  obtain ⟨q', h1', v1'⟩ := quotient_spec a' b' hx' hy' hy0
  obtain ⟨r, h2, v2, _⟩ := rem_spec a b hx hy hy0
  obtain ⟨r', h2', v2', _⟩ := rem_spec a' b' hx' hy' hy0
  obtain ⟨m, h3, v3⟩ := modulo_spec a b hb hx hy hy0
  obtain ⟨m', h3', v3'⟩ := modulo_spec a' b' hb' hx' hy' hy0
  exact ⟨q, q', r, r', m, m', h1, h1', by rw [v1, v1'], h2, h2', by rw [v2, v2'], h3, h3',
    by rw [v3, v3']⟩

/-! ### non-vacuity -/

example : add (.fix 9223372036854775807) (.fix 1) = .big 9223372036854775808 := by decide
example : add (.rat 1 2) (.rat 1 3) = .rat 5 6 := by decide
example : mul (.rat (-2147483648) 3) (.rat 3 2) = .rat (-1073741824) 1 := by decide
example : div (.fix (-2147483648)) (.fix (-1)) = .ok (.fix 2147483648) := by decide
example : quotient (.fix (-9223372036854775808)) (.fix (-1)) = some (.ok (some (.big 9223372036854775808))) := by
  decide
example : modulo (.fix (-7)) (.rat 2 1) = some (.ok (some (.rat 1 1))) := by decide
example : scmQuotient [.rat 7 1, .rat 2 1] = some (.ok (.fix 3)) := by decide
example : Arith.abs (.rat (-2147483648) 1) = some (.fix 2147483648) := by decide
example : ceil (.rat 2147483647 2) = some (.rat 1073741824 1) := by decide
example : pow (.fix 3037000500) 2 = some (.big 9223372037000250000) := by decide
example : scmPlus [.fix 1, .rat 1 2, .fix 3] = .ok (.rat 9 2) := by decide
-- the full-strength expt theorems speak about both kinds of answer
example : pow (.rat 1 2) 40 = some (.flo ⟨0x3d70000000000000⟩) := by decide +kernel
example : pow (.rat (-46341) 1) 2 = some (.fix 2147488281) := by decide
example : scmExpt [.rat 65536 1, .rat 2 1] = some (.ok (.fix 4294967296)) := by decide
example : Arith.abs (.rat (-2147483648) 3) = some (.flo ⟨0x41c5555555555555⟩) := by decide +kernel
-- `T08_2_expt_accuracy` applies: `(expt 2147483647/2 2)` is inexact, its exact value in the normal range
example : ∃ r, pow (.rat 2147483647 2) 2 = some r ∧ isExact r = false ∧
    (2 : Rat) ^ (-1022 : Int) ≤ |((2147483647 : Rat) / 2) ^ 2| ∧
    |((2147483647 : Rat) / 2) ^ 2| < 2 ^ (1023 : Int) := by
  refine ⟨_, rfl, rfl, ?_, ?_⟩
  · calc (2 : Rat) ^ (-1022 : Int) ≤ 2 ^ (0 : Int) := Fl.two_zpow_mono (by norm_num)
      _ ≤ _ := by norm_num
  · calc |((2147483647 : Rat) / 2) ^ 2| < 2 ^ (62 : Int) := by norm_num
      _ ≤ _ := Fl.two_zpow_mono (by norm_num)
-- `T08_2_add_accuracy` applies: the witness of the finding itself
example : isExact (add (.rat 1 2) (.rat 2147483647 2)) = false := by decide +kernel
-- `T08_2_mul_accuracy` applies: `(* 2147483647/2 2147483647/3)` is answered by a double
example : mul (.rat 2147483647 2) (.rat 2147483647 3) = .flo ⟨0x43a5555555000000⟩ := by
  decide +kernel
example : ∃ v, val (mul (.rat 2147483647 2) (.rat 2147483647 3)) = some v ∧
    |v - (2147483647 / 2 : Rat) * (2147483647 / 3)| ≤ 2 ^ (-50 : Int) *
      max |(2147483647 / 2 : Rat)| (max |(2147483647 / 3 : Rat)|
        |(2147483647 / 2 : Rat) * (2147483647 / 3)|) := by
  have hb : ∀ q : Rat, |q| < 2 ^ (62 : Int) → |q| < 2 ^ (1022 : Int) ∧ |q| < 2 ^ (1023 : Int) :=
    fun q h => ⟨lt_of_lt_of_le h (Fl.two_zpow_mono (by norm_num)),
      lt_of_lt_of_le h (Fl.two_zpow_mono (by norm_num))⟩
  exact T08_2_mul_accuracy (.rat 2147483647 2) (.rat 2147483647 3) (by decide) (by decide) rfl rfl
    (by norm_num [val]) (by norm_num [val]) (hb _ (by norm_num)).2 (hb _ (by norm_num)).2
    (hb _ (by norm_num)).1 (by decide +kernel)
-- `T08_2_div_accuracy` applies: `(/ 1099511627777 3)` (the dividend a bignum) is answered by a double
example : div (.big 1099511627777) (.fix 3) = .ok (.flo ⟨0x4255555555556aab⟩) := by decide +kernel
example : ∃ v, val (.flo ⟨0x4255555555556aab⟩) = some v ∧
    |v - (1099511627777 : Rat) / 3| ≤ 2 ^ (-50 : Int) *
      max |(1099511627777 : Rat)| (max |(3 : Rat)| |(1099511627777 : Rat) / 3|) := by
  have hb : ∀ q : Rat, |q| < 2 ^ (62 : Int) → |q| < 2 ^ (1022 : Int) ∧ |q| < 2 ^ (1023 : Int) :=
    fun q h => ⟨lt_of_lt_of_le h (Fl.two_zpow_mono (by norm_num)),
      lt_of_lt_of_le h (Fl.two_zpow_mono (by norm_num))⟩
  exact T08_2_div_accuracy (.big 1099511627777) (.fix 3) (by decide) (by decide) rfl rfl
    (by norm_num [val]) (by norm_num [val]) (by norm_num) (hb _ (by norm_num)).2
    (hb _ (by norm_num)).2 (hb _ (by norm_num)).1 (by decide +kernel) rfl
-- the rounding facts speak about concrete doubles: 1/3 rounds to 0x3fd5555555555555
example : Fl.rnd (1 / 3) = ⟨0x3fd5555555555555⟩ := by decide +kernel
-- the guards of the `_partial` theorems are satisfiable on the boundary
example : div (.fix 1) (.fix (-2147483648)) = .ok (.flo ⟨0xbe00000000000000⟩) := by decide +kernel

end Marwood.Proofs.C08
