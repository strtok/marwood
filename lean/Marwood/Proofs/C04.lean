import Marwood.Lemmas.TCall
import Marwood.Lemmas.CompileTail
import Marwood.Lemmas.StackWFToy
import Marwood.Lemmas.ConcreteLawsBpLive
import Marwood.Lemmas.StackDiscOfWFS
import Marwood.Lemmas.ProcInvMain
import Marwood.Lemmas.CompileVerifies
import Marwood.Lemmas.CompileVerifiesLoads
import Marwood.Lemmas.CompileVerifiesCInv
import Marwood.Lemmas.ProofsAuxCompileApp
/-!
# C04 — calls in tail position run in constant stack space

* T04.1: `stepTCall` / `stepEnter` (TCALL and ENTER of run.rs), for every heap and every state with the frame layout
  `args…, argc, ep, ip, bp` that CALL/ENTER establish: a tail call rewrites the frame in place.
* T04.2: the compiler model emits TCALL exactly for the calls `Spec.tailCalls` (R7RS 3.5) marks.
* T04.5: loops of tail calls with arbitrary verified bodies stay in one frame slot (WF-stack) — for abstract heap
  laws, for the concrete heap with a guarded `callee` (`gops ext`), and for the real machine `concreteOps ext`.
* T04.6: every code object of the compiler model passes the bytecode verifier, in every loading.

T04.3 (derived forms) and T04.4 (re-dispatch of `apply` / `eval` / `call/cc`) have no theorem in this file.
-/
namespace Marwood.Proofs.C04
open Marwood.Vm Marwood.Vm.Stack

variable {H : Type}

@[simp] theorem bind_ok {α β : Type} (a : α) (f : α → Outcome β) : (Outcome.ok a >>= f) = f a := rfl

/-- The stack at a TCALL executed inside a frame: header at `bp+1 … bp+4`, the `n` operands and their count on top -/
structure AtTCall (s : St H) (fa n : Nat) (E I : VCell) (B : Nat) : Prop where
  cap : s.stack.sp < s.stack.cells.length
  fargc : s.stack.cellAt (s.bp + 1) = .argc fa
  sep : s.stack.cellAt (s.bp + 2) = E
  sip : s.stack.cellAt (s.bp + 3) = I
  sbp : s.stack.cellAt (s.bp + 4) = .basePtr B
  top : s.stack.cellAt s.stack.sp = .argc n
  room : s.bp + 4 + n < s.stack.sp
  base : fa ≤ s.bp

/-- The frame when TCALL has finished (before the callee's ENTER): its operands start at `base`, where those of the
    replaced frame started; it carries the replaced frame's saved `ep` / `ip`, and `bp` is its saved `bp` -/
structure Replaced (s s' : St H) (base n : Nat) (E I : VCell) (B lam : Nat) : Prop where
  sp : s'.stack.sp = base + n + 2
  cap : s'.stack.sp < s'.stack.cells.length
  args : ∀ j, j < n → s'.stack.cellAt (base + j) = s.stack.cellAt (s.stack.sp - n + j)
  argc : s'.stack.cellAt (base + n) = .argc n
  sep : s'.stack.cellAt (base + n + 1) = E
  sip : s'.stack.cellAt (base + n + 2) = I
  below : ∀ i, i < base → s'.stack.cellAt i = s.stack.cellAt i
  bp : s'.bp = B
  ip : s'.ipL = lam ∧ s'.ipO = 0
  rest : s'.heap = s.heap ∧ s'.ep = s.ep ∧ s'.acc = s.acc

/-- T04.1 (both branches): a tail call to a closure rewrites the current frame in place. -/
theorem tcall_replaces_frame (ops : HeapOps H) (s : St H) (fa n : Nat) (E I : VCell) (B lam env base : Nat)
    (hc : ops.callee s.heap s.acc = .closure lam env) (hf : AtTCall s fa n E I B)
    (hbase : s.bp + 1 = base + fa) :
    ∃ s', stepTCall ops s = .ok s' ∧ Replaced s s' base n E I B lam := by
  obtain ⟨k, rfl⟩ : ∃ k, base = k + 1 := ⟨base - 1, by have := hf.base; omega⟩
  obtain ⟨st, hrun, r1, r2, _, r4, r5, r6, r7, r8⟩ :=
    tcallTail_run s lam hf.cap hf.fargc hf.sbp hf.top hf.room (k := k) (by omega)
  rw [stepTCall_closure hc]
  have e : k + 1 + n = k + n + 1 := by omega
  exact ⟨_, hrun, by rw [e]; exact r1, r2, r4, by rw [e]; exact r5, by rw [e]; exact r6.trans hf.sep, by rw [e]; exact r7.trans hf.sip,
    fun i hi => r8 i (by omega), rfl, ⟨rfl, rfl⟩, ⟨rfl, rfl, rfl⟩⟩

/-- ENTER on a frame as TCALL (or CALL) left it: pushes the saved `bp` and makes the last operand
    the new frame base. -/
theorem enter_completes_frame (ops : HeapOps H) (s : St H) (n lam env : Nat) (h' : H) (e' : Nat)
    (hc : ops.callee s.heap s.acc = .closure lam env)
    (hi : ops.lambdaInfo s.heap lam = some ⟨n⟩)
    (hcap : s.stack.sp < s.stack.cells.length) (hsp : 3 ≤ s.stack.sp)
    (hargc : s.stack.cellAt (s.stack.sp - 2) = .argc n)
    (hact : ∀ st bp, ops.makeActivation s.heap lam env bp st = .ok (h', e')) :
    ∃ s', stepEnter ops s = .ok s' ∧ s'.stack.sp = s.stack.sp + 1 ∧ s'.bp + 3 = s.stack.sp ∧
      s'.stack.cellAt (s.stack.sp + 1) = .basePtr s.bp ∧
      (∀ i, i ≤ s.stack.sp → s'.stack.cellAt i = s.stack.cellAt i) ∧
      s'.stack.sp < s'.stack.cells.length ∧
      s'.ep = e' ∧ s'.ipL = s.ipL ∧ s'.ipO = s.ipO ∧ s'.acc = s.acc := by
  exact ⟨_, stepEnter_run (info := ⟨n⟩) (enterLam_eq_some.mpr (.inl ⟨env, hc⟩)) hi
      ((some_cellAt _ (by omega)).trans (congrArg some hargc)) hsp (.inr ⟨env, hc, hact _ _⟩),
    push_sp _ _, by show s.stack.sp - 3 + 3 = _; omega, push_cellAt_top _ _, fun i hi' => push_below _ _ i hi',
    push_sp_lt _ _, rfl, rfl, rfl, rfl⟩

/-- the part of a frame that must survive a loop: where it starts and whom it returns to -/
structure FrameId (s : St H) (base : Nat) (E I : VCell) (B : Nat) : Prop where
  argc : ∃ n, s.stack.cellAt (s.bp + 1) = .argc n ∧ s.bp + 1 = base + n
  sep : s.stack.cellAt (s.bp + 2) = E
  sip : s.stack.cellAt (s.bp + 3) = I
  sbp : s.stack.cellAt (s.bp + 4) = .basePtr B

/-- T04.1 + ENTER = one iteration of a tail-recursive loop (self or mutual, any arities): the callee's frame starts
    where the frame it replaces started, returns to the same caller, leaves everything below untouched, and `sp` on
    entry is `base + arity + 3` — not a function of how many tail calls came before. -/
theorem tail_call_iteration (ops : HeapOps H) (s : St H) (fa n : Nat) (E I : VCell)
    (B lam env base : Nat) (h' : H) (e' : Nat)
    (hc : ops.callee s.heap s.acc = .closure lam env)
    (hi : ops.lambdaInfo s.heap lam = some ⟨n⟩)
    (hf : AtTCall s fa n E I B) (hbase : s.bp + 1 = base + fa)
    (hact : ∀ st bp, ops.makeActivation s.heap lam env bp st = .ok (h', e')) :
    ∃ s1 s2, stepTCall ops s = .ok s1 ∧ stepEnter ops s1 = .ok s2 ∧
      FrameId s2 base E I B ∧ s2.stack.sp = base + n + 3 ∧
      (∀ i, i < base → s2.stack.cellAt i = s.stack.cellAt i) ∧
      (∀ j, j < n → s2.stack.cellAt (base + j) = s.stack.cellAt (s.stack.sp - n + j)) := by
  obtain ⟨s1, h1, r⟩ := tcall_replaces_frame ops s fa n E I B lam env base hc hf hbase
  obtain ⟨hh, -, ha⟩ := r.rest
  have hsp := r.sp
  have hfb := hf.base
  obtain ⟨s2, h2, q1, q2, q3, q4, -⟩ :=
    enter_completes_frame ops s1 n lam env h' e' (by rw [hh, ha]; exact hc) (by rw [hh]; exact hi) r.cap
      (by omega) (by rw [show s1.stack.sp - 2 = base + n by omega]; exact r.argc) (by rw [hh]; exact hact)
  refine ⟨s1, s2, h1, h2, ⟨⟨n, ?_, by omega⟩, ?_, ?_, ?_⟩, by omega, fun i hi' => ?_, fun j hj => ?_⟩
  · rw [show s2.bp + 1 = base + n by omega, q4 _ (by omega)]; exact r.argc
  · rw [show s2.bp + 2 = base + n + 1 by omega, q4 _ (by omega)]; exact r.sep
  · rw [show s2.bp + 3 = base + n + 2 by omega, q4 _ (by omega)]; exact r.sip
  · rw [show s2.bp + 4 = s1.stack.sp + 1 by omega, q3, r.bp]
  · rw [q4 i (by omega)]; exact r.below i hi'
  · rw [q4 _ (by omega)]; exact r.args j hj

/-- T04.1, builtin target: a (tail) call of an ordinary builtin consumes the argument count and exactly that many
    operands and pushes nothing -/
theorem builtin_call_pops (ops : HeapOps H) (s : St H) (id : Nat) (s' : St H) (v : VCell)
    (hr : builtinGeneric ops id s = .ok (s', v)) :
    ∃ n, s.stack.cellAt s.stack.sp = .argc n ∧ s'.stack.sp + n + 1 = s.stack.sp ∧
      s'.stack.cells = s.stack.cells := by
  obtain ⟨n, args, st, h, h0, hA, hpn, _, rfl⟩ := builtinGeneric_iff.mp hr
  obtain ⟨q1, q2⟩ := popN_ok hpn
  exact ⟨n, cellAt_of_some hA, by have : st.sp + n = s.stack.sp - 1 := q1; show st.sp + n + 1 = _; omega, q2⟩

/-! ### T04.2: the compiler emits TCALL exactly for the calls in tail position (R7RS 3.5, core forms) -/

open Marwood Marwood.Spec in
/-- the call instructions in the `code` the compiler returns are, in order, `TCALL` for exactly the calls
    `Spec.tailCalls` (R7RS 3.5) marks and `CALL` for all others. For a `lambda` form or `(define (f …) …)` that code
    holds no call and `tailCalls` is `[]`: the body goes into a code object of the table, whose calls are those of
    `compile_body_tail_calls`. -/
theorem compile_tail_calls (fuel : Nat) (st : CState) (c : Ctx) (base : Nat) (tail : Bool) (e : Datum)
    (st' : CState) (code : List BC) (h : compileExpr fuel st c base tail e = .ok (st', code)) :
    callOps code = tailCalls fuel tail e :=
  (tailOK_all fuel).expr st c base tail e st' code h

open Marwood Marwood.Spec in
/-- lambda bodies: only the last body expression is compiled in tail position -/
theorem compile_body_tail_calls : ∀ (fuel : Nat) (st : CState) (c : Ctx) (base : Nat) (body : Datum)
    (st' : CState) (code : List BC), compileBody fuel st c base body = .ok (st', code) →
    callOps code = bodyCalls fuel body := by
  intro fuel
  induction fuel with
  | zero => intro st c base body st' code h; exact absurd h compileBody_zero
  | succ fuel ih =>
    intro st c base body st' code h
    cases compileBody_view h with
    | cons h1 h2 => simp [bodyCalls, compile_tail_calls _ _ _ _ _ _ _ _ h1, ih _ _ _ _ _ _ h2]
    | nil hr => cases body <;> first | rfl | cases hr

open Marwood Marwood.Spec in
/-- a call in tail position ends in TCALL, a call anywhere else in CALL -/
theorem application_call_op (fuel : Nat) (st : CState) (c : Ctx) (base : Nat) (tail : Bool)
    (proc rest : Datum) (st' : CState) (code : List BC)
    (hn : ∀ kw ∈ specialForms, proc.isSymStr kw = false)
    (h : compileExpr (fuel + 1) st c base tail (.pair proc rest) = .ok (st', code)) :
    code.getLast? = some (.op (if tail then .tcallAcc else .callAcc)) := by
  obtain ⟨_, _, _, _, _, _, rfl⟩ := compileExpr_app_inv hn h
  exact List.getLast?_concat

/-! ### non-vacuity -/

open Marwood Marwood.Spec in
example :
    (match compileExpr 10 {} ⟨[], []⟩ 1 true
      (Datum.ofList [.sym ['i','f'], .sym ['p'],
        Datum.ofList [.sym ['f'], Datum.ofList [.sym ['g']]],
        Datum.ofList [.sym ['h']]]) with
     | .ok (_, code) => callOps code
     | .error _ => []) = [false, true, true] := by decide +kernel

/-! ## T04.5: loops of tail calls run in constant stack, for ARBITRARY verified bodies

`tail_call_iteration` assumes the frame layout at the TCALL (`AtTCall`). That the code between ENTER and the next
TCALL leaves the frame header intact holds for all code the bytecode verifier accepts, under `CodeLaws`. -/

/-- at every TCALL (and RET) executed in the frame that starts at `D.base`, after arbitrary verified code has run
    since the frame was created (no continuation invoked, the frame itself not returned from), the header cells
    `bp+2 … bp+4` are the ones CALL/ENTER wrote: the description `D` of the frame is unchanged -/
theorem frame_header_intact_at_tcall {ops : HeapOps H} (cl : CodeLaws ops) {s t t1 : St H} {D : FDesc}
    {R : List FDesc} {op : Op} (hw : WFS cl s (D :: R)) (htr : Trace ops D.base s t)
    (hr : readOpcode ops t = .ok (op, t1)) (hop : op = .ret ∨ op = .tcallAcc)
    (hb : FrameBase t D.base) :
    WFS cl t (D :: R) ∧ t.stack.cellAt (t.bp + 2) = D.sep ∧ t.stack.cellAt (t.bp + 3) = D.sip ∧
      t.stack.cellAt (t.bp + 4) = .basePtr D.sbp := by
  obtain ⟨P', hw'⟩ := htr.stable [] D R rfl hw
  obtain ⟨hP, h2, h3, h4⟩ := header_of_base hw' hr hop hb
  subst hP
  exact ⟨hw', h2, h3, h4⟩

/-- the callee's prologue: `ENTER`, or `VARARG; ENTER` -/
inductive Prologue (ops : HeapOps H) : St H → St H → Prop
  | enter {u u1 s' : St H} : readOpcode ops u = .ok (.enter, u1) → step ops u = .ok (s', false) →
      Prologue ops u s'
  | vararg {u u1 v v1 s' : St H} : readOpcode ops u = .ok (.varArg, u1) → step ops u = .ok (v, false) →
      readOpcode ops v = .ok (.enter, v1) → step ops v = .ok (s', false) → Prologue ops u s'

/-- `n` iterations of a loop of tail calls in the frame that starts at `base`: an arbitrary body (a `Trace` that
    never returns from the frame), a TCALL of a closure executed in that frame, the callee's prologue -/
inductive TailLoop (ops : HeapOps H) (base : Nat) : Nat → St H → St H → Prop
  | zero (s : St H) : TailLoop ops base 0 s s
  | succ {n : Nat} {s t t1 u s' s'' : St H} {lam env : Nat} :
      Trace ops base s t → readOpcode ops t = .ok (.tcallAcc, t1) → FrameBase t base →
      ops.callee t.heap t.acc = .closure lam env → step ops t = .ok (u, false) → Prologue ops u s' →
      TailLoop ops base n s' s'' → TailLoop ops base (n + 1) s s''

/-- a state at the head of a procedure body in the frame that starts at `base`: no temporaries -/
def AtHead (s : St H) (base : Nat) : Prop := s.stack.sp = s.bp + 4 ∧ FrameBase s base

/-- **T04.5**: after any number of tail calls the machine is again at a procedure head in the *same* frame slot:
    same list of frames (so the same return address, saved `ep` and `bp`), the frame starts at the same index -/
theorem tail_loop_same_frame {ops : HeapOps H} (cl : CodeLaws ops) {D : FDesc} {R : List FDesc} :
    ∀ {n : Nat} {s s' : St H}, TailLoop ops D.base n s s' → WFS cl s (D :: R) → AtHead s D.base →
      WFS cl s' (D :: R) ∧ AtHead s' D.base := by
  intro n s s' hl
  induction hl with
  | zero s => intro hw hh; exact ⟨hw, hh⟩
  | @succ n s t t1 u s1 s2 lam env htr hr hb hc hst hpro _ ih =>
    intro hw _
    obtain ⟨hwt, _⟩ := frame_header_intact_at_tcall cl hw htr hr (.inr rfl) hb
    have hwu := tcall_closure_desc hwt hr hc hst
    cases hpro with
    | enter he hse =>
      obtain ⟨hw1, hsp, hfb⟩ := enter_desc hwu he hse
      exact ih hw1 ⟨hsp, hfb⟩
    | vararg hv hsv he hse =>
      have hwv := vararg_desc hwu hv hsv
      obtain ⟨hw1, hsp, hfb⟩ := enter_desc hwv he hse
      exact ih hw1 ⟨hsp, hfb⟩

/-- hence `sp` at every entry of the loop head is a function of where the frame starts and of the head's arity
    only: the high-water mark of an `n`-iteration loop is independent of `n` -/
theorem tail_loop_sp {ops : HeapOps H} (cl : CodeLaws ops) {D : FDesc} {R : List FDesc} {n : Nat}
    {s s' : St H} (hl : TailLoop ops D.base n s s') (hw : WFS cl s (D :: R)) (hh : AtHead s D.base) :
    ∃ arity, s'.stack.cellAt (s'.bp + 1) = .argc arity ∧ s'.stack.sp = D.base + arity + 3 := by
  obtain ⟨_, hsp, ar, hA, hle, hb⟩ := tail_loop_same_frame cl hl hw hh
  exact ⟨ar, hA, by omega⟩

/-! ### non-vacuity: `λ3 = ENTER; PUSHIMM argc0; MOVIMM c5 acc; TCALL; RET` (`c5` the closure of `λ3`) called
from entry code (`Lemmas/StackWFToy.lean`), two iterations -/

section
open Marwood.Vm.Toy

theorem toy_no_cont (s : St Unit) : ∀ c, Toy.ops.callee s.heap s.acc ≠ .continuation c := by
  intro c h
  simp only [Toy.ops] at h
  split at h <;> cases h

def toyD : FDesc := ⟨1, .envPtr usizeMax, .instrPtr 4 6, 0⟩

/-- the WF invariant at the loop head (state 4: after `PUSHIMM; MOVIMM; CALL; ENTER`) -/
theorem toy_head_wf : ∃ R, WFS Toy.laws (nth 4) (toyD :: R) := by
  have h0 := Toy.wf_start4
  obtain ⟨K2, w2⟩ := runK_wf 2 (prepare Toy.idle 4) (nth 2) [] h0 (by rfl)
  obtain ⟨m, hm, w3⟩ := call_closure_desc (lam := 3) (env := 0) w2 (s1 := { nth 2 with ipO := 6 }) (by rfl)
    (by rfl) (s' := nth 3) (by rfl)
  have em : m = 0 := by
    have : (nth 2).stack.cellAt (nth 2).stack.sp = .argc 0 := by rfl
    rw [this] at hm; cases hm; rfl
  subst em
  exact ⟨K2, (enter_desc (D := toyD) (R := K2) w3 (s1 := { nth 3 with ipO := 1 }) (by rfl) (s' := nth 4) (by rfl)).1⟩

theorem toy_iteration (k : Nat) (hk : k = 4 ∨ k = 8) {n : Nat} {s'' : St Unit}
    (rest : TailLoop Toy.ops 1 n (nth (k + 4)) s'') : TailLoop Toy.ops 1 (n + 1) (nth k) s'' := by
  rcases hk with rfl | rfl
  · exact TailLoop.succ (t := nth 6) (t1 := { nth 6 with ipO := 7 }) (u := nth 7) (lam := 3) (env := 0)
      (.cons (toy_no_cont _) (s1 := nth 5) (by rfl) (by decide)
        (.cons (toy_no_cont _) (s1 := nth 6) (by rfl) (by decide) (.nil _)))
      (by rfl) ⟨0, by rfl, by decide, by rfl⟩ (by rfl) (by rfl)
      (.enter (u1 := { nth 7 with ipO := 1 }) (by rfl) (by rfl)) rest
  · exact TailLoop.succ (t := nth 10) (t1 := { nth 10 with ipO := 7 }) (u := nth 11) (lam := 3) (env := 0)
      (.cons (toy_no_cont _) (s1 := nth 9) (by rfl) (by decide)
        (.cons (toy_no_cont _) (s1 := nth 10) (by rfl) (by decide) (.nil _)))
      (by rfl) ⟨0, by rfl, by decide, by rfl⟩ (by rfl) (by rfl)
      (.enter (u1 := { nth 11 with ipO := 1 }) (by rfl) (by rfl)) rest

example : TailLoop Toy.ops toyD.base 2 (nth 4) (nth 12) ∧
    ∃ R, (WFS Toy.laws (nth 12) (toyD :: R) ∧ AtHead (nth 12) toyD.base) := by
  have hl : TailLoop Toy.ops toyD.base 2 (nth 4) (nth 12) :=
    toy_iteration 4 (.inl rfl) (toy_iteration 8 (.inr rfl) (.zero _))
  obtain ⟨R, hw⟩ := toy_head_wf
  exact ⟨hl, R, tail_loop_same_frame Toy.laws hl hw ⟨by rfl, 0, by rfl, by decide, by rfl⟩⟩

example : (runK 4 (prepare Toy.idle 4)).map (·.stack.sp) = some 4 ∧
    (runK 8 (prepare Toy.idle 4)).map (·.stack.sp) = some 4 ∧
    (runK 400 (prepare Toy.idle 4)).map (·.stack.sp) = some 4 := by
  have h8 : (runK 8 (prepare Toy.idle 4)).map (·.stack.sp) = some 4 := by rfl
  exact ⟨by rfl, h8, by rw [loop_period 98]; exact h8⟩

end

/-! ## On the concrete machine: the heap laws are theorems

Over the concrete heap (`Vm/ConcreteHeap.lean`) `CodeLaws` is the theorem `concreteLaws ext ecl`, `GcLaws` for the
real collector `cgc_gcLaws`, `LiveLaws` `concreteLiveLaws` (`Lemmas/ConcreteLaws*.lean`). The hypotheses are:
* `CInv s.heap` of the **initial** state — every lambda cell passes the bytecode verifier (checked on every real
  lambda by the `bytecode-verifier` stream), is not on the free list, has no `IofArgument` source, its formals cover
  the argument cells its code addresses; continuation cells hold WF snapshots; the size and shape clauses;
* `ExtCodeLaws ext` — builtins / `eval`'s compiler / VPUSH (parameters of the concrete model) keep that;
* the machine is `gops ext`: `concreteOps ext` whose `callee` answers `other` when a closure / bare-lambda callee
  does not designate a lambda cell holding procedure code. In a `CalleeOk` state its `step` is `concreteOps ext`'s
  (`step_gops`). Without the guard `CodeLaws.callee_closure` / `callee_lambda` are false for `concreteOps`: the
  entry lambda of an evaluation is a heap cell too. -/

section Concrete
open Marwood.Vm.Concrete

/-- WF-stack is invariant under one instruction **of the concrete machine** in a `CalleeOk` state -/
theorem step_preserves_concrete (ext : ExtOps) (ecl : ExtCodeLaws ext) {s s' : St CHeap} {K : List FDesc}
    (hok : CalleeOk s) (hw : WFS (concreteLaws ext ecl) s K)
    (hs : step (concreteOps ext) s = .ok (s', false)) :
    ∃ K', WFS (concreteLaws ext ecl) s' K' ∧ KStep (gops ext) s s' K K' := by
  rw [← step_gops ext hok] at hs
  exact step_preserves hw hs

/-- HALT of the concrete machine in a WF state: `sp` is back at the entry stack pointer 0 -/
theorem step_halt_concrete (ext : ExtOps) (ecl : ExtCodeLaws ext) {s s' : St CHeap} {K : List FDesc}
    (hok : CalleeOk s) (hw : WFS (concreteLaws ext ecl) s K)
    (hs : step (concreteOps ext) s = .ok (s', true)) : s'.stack = s.stack ∧ s.stack.sp = 0 := by
  rw [← step_gops ext hok] at hs
  exact step_halt hw hs

/-- **T04.5 on the concrete machine.** Hypotheses: `ExtCodeLaws ext`, WF-stack of the FIRST state (`CInv` of its
    heap included), and the machine is `gops ext` (see above). -/
theorem tail_loop_sp_concrete (ext : ExtOps) (ecl : ExtCodeLaws ext) {D : FDesc} {R : List FDesc} {n : Nat}
    {s s' : St CHeap} (hl : TailLoop (gops ext) D.base n s s')
    (hw : WFS (concreteLaws ext ecl) s (D :: R)) (hh : AtHead s D.base) :
    ∃ arity, s'.stack.cellAt (s'.bp + 1) = .argc arity ∧ s'.stack.sp = D.base + arity + 3 :=
  tail_loop_sp (concreteLaws ext ecl) hl hw hh

/-! ### on the REAL machine: no guard, no per-step `CalleeOk`

`Lemmas/StackDiscOfWFS.lean`: under `GoodI` a successful instruction of `concreteOps ext` is the same instruction of
the guarded machine `vops ext` (`step_vops`), and `VmOk` is preserved. So a loop of tail calls of the real machine
is one of `vops ext`. Hypotheses: the laws of the unmodelled parts, `GoodI` and WF-stack (value-typed verifier) of
the FIRST state, the size bound and the callee guard at call sites along the run (`CalleeOkAlong`). -/

open Marwood.Lemmas.Good Marwood.Lemmas.Sim in
/-- one successful instruction of the real machine, seen on the guarded machine, with the invariants -/
theorem step_to_vops {ext : ExtOps} {ecl : ExtCodeLawsV ext} (force : Bool) (el : ExtLaws ext) (eg : ExtGood ext)
    {s0 s s' : St CHeap} (sb : SizeBounded (machine ext force) s0) (ca : CalleeOkAlong (machine ext force) s0)
    (hr : Reaches (machine ext force) s0 s) (h : VmOk ext ecl s)
    (hs : step (concreteOps ext) s = .ok (s', false)) :
    step (vops ext) s = .ok (s', false) ∧ Reaches (machine ext force) s0 s' ∧ VmOk ext ecl s' := by
  have hr' : Reaches (machine ext force) s0 s' := .next hr (vmStep_eq_next.mpr hs)
  exact ⟨step_vops eg h.1 (ca s hr) hs (sb s' hr'), hr', vmOk_step el eg h (ca s hr) (sb s hr) hs (sb s' hr')⟩

open Marwood.Lemmas.Good Marwood.Lemmas.Sim in
theorem trace_to_vops {ext : ExtOps} {ecl : ExtCodeLawsV ext} (force : Bool) (el : ExtLaws ext) (eg : ExtGood ext)
    {s0 : St CHeap} (sb : SizeBounded (machine ext force) s0) (ca : CalleeOkAlong (machine ext force) s0)
    {base : Nat} {s t : St CHeap} (htr : Trace (concreteOps ext) base s t) :
    Reaches (machine ext force) s0 s → VmOk ext ecl s →
      Trace (vops ext) base s t ∧ Reaches (machine ext force) s0 t ∧ VmOk ext ecl t := by
  induction htr with
  | nil s => intro hr h; exact ⟨.nil s, hr, h⟩
  | @cons s s1 t hnc hst hsp _ ih =>
    intro hr h
    obtain ⟨hv, hr1, h1⟩ := step_to_vops force el eg sb ca hr h hst
    obtain ⟨t1, t2, t3⟩ := ih hr1 h1
    refine ⟨.cons ?_ hv hsp t1, t2, t3⟩
    intro c hc
    exact hnc c (gcallee_cont hc)

open Marwood.Lemmas.Good Marwood.Lemmas.Sim in
theorem tailLoop_to_vops {ext : ExtOps} {ecl : ExtCodeLawsV ext} (force : Bool) (el : ExtLaws ext) (eg : ExtGood ext)
    {s0 : St CHeap} (sb : SizeBounded (machine ext force) s0) (ca : CalleeOkAlong (machine ext force) s0)
    {base n : Nat} {s s' : St CHeap} (hl : TailLoop (concreteOps ext) base n s s') :
    Reaches (machine ext force) s0 s → VmOk ext ecl s → TailLoop (vops ext) base n s s' := by
  induction hl with
  | zero s => intro _ _; exact .zero s
  | @succ n s t t1 u s1 s2 lam env htr hro hb hc hst hpro _ ih =>
    intro hr h
    obtain ⟨tr, hrt, ht⟩ := trace_to_vops force el eg sb ca htr hr h
    obtain ⟨hv, hru, hu⟩ := step_to_vops force el eg sb ca hrt ht hst
    have hsite : CalleeSite t := .inr (.inl (readOpcode_inv hro).2)
    have hcv : (vops ext).callee t.heap t.acc = .closure lam env := by
      show gcallee t.heap t.acc = _
      rw [ca t hrt hsite]; exact hc
    cases hpro with
    | @enter u1 _ he hse =>
      obtain ⟨hv2, hr2, h2⟩ := step_to_vops force el eg sb ca hru hu hse
      exact .succ tr hro hb hcv hv (.enter he hv2) (ih hr2 h2)
    | @vararg u1 v v1 _ hva hsv he hse =>
      obtain ⟨hv2, hr2, h2⟩ := step_to_vops force el eg sb ca hru hu hsv
      obtain ⟨hv3, hr3, h3⟩ := step_to_vops force el eg sb ca hr2 h2 hse
      exact .succ tr hro hb hcv hv (.vararg hva hv2 he hv3) (ih hr3 h3)

open Marwood.Lemmas.Good Marwood.Lemmas.Sim in
/-- **T04.5 on the real machine** (`run_one` over `concreteOps ext`, no guard) -/
theorem tail_loop_sp_machine (ext : ExtOps) (force : Bool) (el : ExtLaws ext) (eg : ExtGood ext)
    (ecl : ExtCodeLawsV ext) {D : FDesc} {R : List FDesc} {n : Nat} {s s' : St CHeap}
    (hl : TailLoop (concreteOps ext) D.base n s s') (g : GoodI s)
    (hw : WFS (concreteLawsV ext ecl) s (D :: R)) (hh : AtHead s D.base)
    (sb : SizeBounded (machine ext force) s) (ca : CalleeOkAlong (machine ext force) s) :
    ∃ arity, s'.stack.cellAt (s'.bp + 1) = .argc arity ∧ s'.stack.sp = D.base + arity + 3 :=
  tail_loop_sp (concreteLawsV ext ecl)
    (tailLoop_to_vops force el eg sb ca hl (.refl s) ⟨g, .inl ⟨_, hw⟩⟩) hw hh

/-- one instruction of the real machine preserves WF-stack over the value-typed verifier (and `GoodI`) -/
theorem step_preserves_machine (ext : ExtOps) (el : Marwood.Lemmas.Sim.ExtLaws ext)
    (eg : Marwood.Lemmas.Good.ExtGood ext) (ecl : ExtCodeLawsV ext)
    {s s' : St CHeap} {K : List FDesc} (g : Marwood.Lemmas.Good.GoodI s) (hw : WFS (concreteLawsV ext ecl) s K)
    (hc : Marwood.Lemmas.Good.CalleeSite s → CalleeOk s) (sm : Marwood.Lemmas.Good.Small s.heap)
    (hs : step (concreteOps ext) s = .ok (s', false)) (sm' : Marwood.Lemmas.Good.Small s'.heap) :
    Marwood.Lemmas.Good.GoodI s' ∧ ∃ K', WFS (concreteLawsV ext ecl) s' K' ∧ KStep (vops ext) s s' K K' :=
  ⟨(Marwood.Lemmas.Good.vmOk_step el eg ⟨g, .inl ⟨K, hw⟩⟩ hc sm hs sm').1,
    step_preserves hw (Marwood.Lemmas.Good.step_vops eg g hc hs sm')⟩

/-! ### on the REAL machine, from invariants of the first state only

The callee guard passes in every reachable state, because `PInv` — every closure cell's lambda is procedure code, no
value points to entry code — is an invariant of the real machine (`Lemmas/ProcInvMain.lean`). -/

open Marwood.Lemmas.Good Marwood.Lemmas.Sim in
/-- **T04.5 on the real machine**: hypotheses are the laws of the unmodelled parts, `GoodI`, WF-stack and `PInv` of
    the FIRST state, and the size bound -/
theorem tail_loop_sp_closed (ext : ExtOps) (force : Bool) (el : ExtLaws ext) (eg : ExtGood ext)
    (ecl : ExtCodeLawsV ext) (ep : ExtProc ext) {D : FDesc} {R : List FDesc} {n : Nat} {s s' : St CHeap}
    (hl : TailLoop (concreteOps ext) D.base n s s') (g : GoodI s)
    (hw : WFS (concreteLawsV ext ecl) s (D :: R)) (p0 : PInv s) (hh : AtHead s D.base)
    (sb : SizeBounded (machine ext force) s) :
    ∃ arity, s'.stack.cellAt (s'.bp + 1) = .argc arity ∧ s'.stack.sp = D.base + arity + 3 :=
  tail_loop_sp_machine ext force el eg ecl hl g hw hh sb
    (calleeOkAlong_of_vmOk force el eg ep ⟨g, .inl ⟨_, hw⟩⟩ p0 sb)

open Marwood.Lemmas.Good in
theorem step_preserves_closed (ext : ExtOps) (el : Marwood.Lemmas.Sim.ExtLaws ext)
    (eg : ExtGood ext) (ecl : ExtCodeLawsV ext) (ep : ExtProc ext)
    {s s' : St CHeap} {K : List FDesc} (g : GoodI s) (hw : WFS (concreteLawsV ext ecl) s K) (p : PInv s)
    (sm : Small s.heap) (hs : step (concreteOps ext) s = .ok (s', false)) (sm' : Small s'.heap) :
    GoodI s' ∧ PInv s' ∧ ∃ K', WFS (concreteLawsV ext ecl) s' K' ∧ KStep (vops ext) s s' K K' := by
  have hc : CalleeSite s → CalleeOk s := fun _ => calleeOk_of_pinv g p
  have h := step_preserves_machine ext el eg ecl g hw hc sm hs sm'
  exact ⟨h.1, (vmOkP_step el eg ep (ecl := ecl) ⟨⟨g, .inl ⟨K, hw⟩⟩, p⟩ sm hs sm').2, h.2⟩

end Concrete

/-! ## T04.6: the compiler model emits only code the bytecode verifier accepts

The machine-level theorems start from "every lambda cell of the heap passes the verifier" (`CInv.lamVer`). For the
code objects of the **compiler model** this is a theorem: whatever `compileTop` returns — the top-level lambda and
every code object in the table, for all forms the model handles — is accepted by `verify`, in the canonical
loading `encodeLam` and in every other loading the verifier cannot tell apart (`Enc`). Proof: the compiler emits
structured code (`Lemmas/CompileBlk.lean`), the forward pass runs through structured code (`VerifyBlk`,
`VerifyProc`) and only returns assignments that pass the local check (`VerifyInfer`, for ALL bytecode). The driver
command `vcompile` evaluates `Vm.verifyCompiled`: the theorem says its answer is never `reject`. -/
section T04_6
open Marwood Marwood.Vm.Verify

/-- **T04.6** every code object the compiler model produces verifies (canonical loading) -/
theorem compile_verifies (e : Datum) (fuel : Nat) (st : CState) (lam : LambdaM)
    (h : compileTop e fuel = .ok (st, lam)) :
    (verifyLam (encodeLam lam)).isSome = true ∧ ∀ l ∈ st.lambdas, (verifyLam (encodeLam l)).isSome = true :=
  compileTop_verifies h

/-- … in every loading (`Enc`: any global slot, environment slot, data cell, code address), as procedure code -/
theorem compile_verifies_loaded (e : Datum) (fuel : Nat) (st : CState) (lam : LambdaM)
    (h : compileTop e fuel = .ok (st, lam)) (l : LambdaM) (hl : l = lam ∨ l ∈ st.lambdas)
    (cells : List VCell) (he : EncList l.bc cells) :
    ∃ t, verifyLam cells = some t ∧ t.entry = false ∧ t.bc = cells :=
  compileTop_verifies_loaded h l hl cells he

/-- all loadings of a compiled code object get the same typing and the same maximal number of temporaries -/
theorem verify_encode_irrelevant (e : Datum) (fuel : Nat) (st : CState) (lam : LambdaM)
    (h : compileTop e fuel = .ok (st, lam)) (l : LambdaM) (hl : l = lam ∨ l ∈ st.lambdas) :
    ∃ tm k, ∀ cells, EncList l.bc cells → verify cells = .ok (⟨false, cells, tm⟩, k) :=
  compileTop_verdict_irrelevant h l hl

/-- `compile_runnable`: procedure code for the table and the top-level lambda, entry code
    (`PUSHIMM argc0; MOVIMM λ acc; CALL; HALT`) for the entry lambda -/
theorem compile_runnable_verifies (e : Datum) (fuel : Nat) (st : CState) (lam ent : LambdaM)
    (h : compileRunnable e fuel = .ok (st, lam, ent)) :
    (∀ l, (l = lam ∨ l ∈ st.lambdas) → ∃ t, verifyLam (encodeLam l) = some t ∧ t.entry = false) ∧
    ∃ t, verifyLam (encodeLam ent) = some t ∧ t.entry = true :=
  compileRunnable_verifies h

/-- entry code in every loading -/
theorem entry_code_verifies (id : Nat) (cells : List VCell) (he : EncList (entryCode id) cells) :
    ∃ t, verifyLam cells = some t ∧ t.entry = true :=
  entry_verifyLam he

/-- what the driver answers to `vcompile` is never `reject` -/
theorem vcompile_never_rejects (e : Datum) (fuel : Nat) (r : Except Reject Nat)
    (h : verifyCompiled e fuel = .ok r) : ∃ n, r = .ok n :=
  verifyCompiled_ok h

/-- non-vacuity: `(lambda (x . r) (define y (g x)) (if x (f y) `(,x #(1 ,y))))` — variadic, an internal definition,
    an `if`, a tail call, a non-tail call, a quasiquote with a vector template -/
example :
    (match compileTop
      (Datum.ofList [.sym ['l','a','m','b','d','a'], .pair (.sym ['x']) (.sym ['r']),
        Datum.ofList [.sym ['d','e','f','i','n','e'], .sym ['y'], Datum.ofList [.sym ['g'], .sym ['x']]],
        Datum.ofList [.sym ['i','f'], .sym ['x'],
          Datum.ofList [.sym ['f'], .sym ['y']],
          Datum.ofList [.sym ['q','u','a','s','i','q','u','o','t','e'],
            Datum.ofList [Datum.ofList [.sym ['u','n','q','u','o','t','e'], .sym ['x']],
              .vec (Datum.ofList [.num (.fix 1), Datum.ofList [.sym ['u','n','q','u','o','t','e'], .sym ['y']]])]]]]) 60 with
     | .ok (st, lam) =>
       (st.lambdas.map (fun l => (l.isVararg, callOps l.bc)), (verifyLam (encodeLam lam)).isSome,
        st.lambdas.all (fun l => (verifyLam (encodeLam l)).isSome))
     | .error _ => ([], false, false)) = ([(true, [false, true, false])], true, true) := by decide +kernel

/-- the loading relation of the compiler-correctness proofs (`CodeAt2`) is such a loading, once quoted data are
    known to be loaded as data cells -/
theorem compiled_code_loaded_by_codeAt2_verifies {H : Type} {ops : HeapOps H} {e : Datum} {fuel : Nat}
    {st : CState} {lam : LambdaM} (hc : compileTop e fuel = .ok (st, lam)) {m : LambdaM}
    (hm : m = lam ∨ m ∈ st.lambdas) {D : Marwood.Lemmas.CompileCorrect2.RepData2 ops} {h : H}
    {S : Array Marwood.Spec.Eval.Cell} {l : Nat} {cells : List VCell}
    (hcode : Marwood.Lemmas.CompileCorrect2.CodeAt2 D m.envmap h S l 0 m.bc) (hlen : cells.length = m.bc.length)
    (hcells : ∀ i : Nat, i < cells.length → ops.fetch h l i = cells[i]?)
    (hdata : ∀ (i : Nat) d v, m.bc[i]? = some (.datum d) → ops.fetch h l i = some v → dataCell v = true) :
    ∃ t, verifyLam cells = some t ∧ t.entry = false ∧ t.bc = cells :=
  codeAt2_verifies hc hm hcode hlen hcells hdata

open Marwood.Vm.Concrete Marwood.Lemmas.Good in
/-- the four code clauses of the machine invariants (`CInv.lamVer`, `CInv.noIofArg`, `CInv.lamArgs`, `LamOk`) for
    every lambda object that is a loading of a code object `compile_runnable` produces -/
theorem compiled_lambda_clauses {e : Datum} {fuel : Nat} {cl : CLambda} (h : CompiledFor e fuel cl) :
    (verifyLam cl.bc).isSome = true ∧ (∀ x ∈ cl.envmap, ∀ n, x.2 ≠ Concrete.Source.iofArg n) ∧
      argNeed cl.bc ≤ cl.args.length ∧ LamOk cl :=
  compiledFor_ok h

open Marwood.Vm.Concrete Marwood.Lemmas.Good in
/-- the code half of "`prepare_eval` re-establishes the invariant": a heap that differs from a `CInv` heap by
    allocated lambda cells holding loaded output of the compiler model (`GrowsL`: the allocation facts of `put` are
    hypotheses; `cput_lambda_growsL`, Lemmas/PrepareCode.lean, shows them for the concrete heap) satisfies `CInv` again
    and keeps all old code -/
theorem compiled_install_keeps_cinv {V : VCell → Prop} {e : Datum} {fuel : Nat} {h h' : CHeap}
    (inv : CInvG V h) (g : GrowsL (CompiledFor e fuel) h h') :
    CInvG V h' ∧ (∀ l bc, codeC h l = some bc → codeC h' l = some bc) ∧ (LamAll h → LamAll h') :=
  compiled_install inv g

open Marwood.Vm.Concrete in
example : ∃ cl, CompiledFor (Datum.ofList [.sym ['f']]) 20 cl := by
  have h : (match compileRunnable (Datum.ofList [.sym ['f']]) 20 with | .ok _ => true | .error _ => false) = true := by
    decide +kernel
  cases h' : compileRunnable (Datum.ofList [.sym ['f']]) 20 with
  | error err => rw [h'] at h; cases h
  | ok r =>
    obtain ⟨st, lam, ent⟩ := r
    refine ⟨⟨encodeLam lam, [], List.replicate lam.envmap.length (.undefined, .internal)⟩, st, lam, ent, lam, h', .inl rfl,
      ⟨encList_encode _, fun y hy n hn => ?_, List.length_replicate⟩⟩
    rw [(List.mem_replicate.mp hy).2] at hn
    cases hn

end T04_6

end Marwood.Proofs.C04
