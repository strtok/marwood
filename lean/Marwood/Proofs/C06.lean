import Marwood.Lemmas.TotalOps
import Marwood.Lemmas.TotalListP
import Marwood.Lemmas.TotalLength
import Marwood.Lemmas.TotalPrelude
import Marwood.Lemmas.EqualTotal
import Marwood.Lemmas.StackWFNoPanic
import Marwood.Lemmas.NoPanicMain
import Marwood.Lemmas.EnvInvDemo
import Marwood.Lemmas.PrepareEnvDemo
import Marwood.Proofs.C07
import Marwood.Proofs.C11
import Marwood.Proofs.C20
import Marwood.Gen.Builtins
import Marwood.Num.Arith
import Marwood.Num.Cmp
/-!
# C06 — Total API: every input yields Ok or Err, never a panic, abort or hang

T06.1 text entry points; T06.2 one no-panic lemma per builtin of `Marwood.Store` (`Marwood.Total` for the repaired
`list?`) and per numeric procedure of `Marwood.Num`; T06.3 termination of `length`, `equal?`, `list?` on every
store, with the circular witnesses of the findings; T06.4 rendering of errors; T06.5 the VM after a failed
evaluation; T06.6 `run_one` does not panic: the generic machine under `PanicLaws`, then the concrete machine
(`Vm/ConcreteHeap.lean`) for reachable states, evaluations and whole histories.
`Outcome.NoPanic o` is `∀ m, o ≠ .panic m`; `Store.WF` (every reference points inside the heap) and validity of
the arguments are what the VM guarantees about the values a builtin is handed.
-/
namespace Marwood.Proofs.C06
open Marwood Marwood.Store Marwood.Store.Outcome

/-! ### T06.1 — text entry points -/

/-- the scanner's answer type has no panic; its fuel is never exhausted -/
theorem scan_total (cs : Text) : ∃ r, scanFrom 0 cs = some r ∧ scan cs = r :=
  Marwood.Proofs.C11.scan_total cs

theorem parse_terminates (fo : FloatOps) (text : Text) (ts : List Token) :
    parseF fo text (parseFuel ts) ts = some (parseTokens fo text ts) :=
  Marwood.Proofs.C11.parse_total fo text ts

/-- `none` is the panic of either slicing step of the highlighter -/
theorem highlight_never_panics (cs : Text) (i : Nat) : highlight cs i ≠ none :=
  Marwood.Proofs.C20.highlight_no_panic cs i

/-! ### T06.2 — no builtin of the Store model panics

On a well-formed store and valid arguments of any number and kinds (the arity and type errors are part of the
statement) the outcome is `ok`, `err` or, for the fuel-indexed loops, `diverge`. `make-vector` and `make-string`
also need the property's bound on the requested size (`hsize`: at most 10^6). -/

variable {s : Store} {args : List VCell}

theorem noPanic_ite {α} {c : Prop} [Decidable c] {a b : Outcome α} (ha : c → Outcome.NoPanic a)
    (hb : ¬ c → Outcome.NoPanic b) : Outcome.NoPanic (if c then a else b) := by
  split
  · exact ha ‹_›
  · exact hb ‹_›

theorem popString_bind_noPanic {β} {s : Store} (hs : s.WF) {v : VCell} (hv : VCell.Valid s v)
    {f : Nat → Outcome β} (hf : ∀ id, id < s.strs.length → Outcome.NoPanic (f id)) :
    Outcome.NoPanic (popString s v >>= f) := by
  rcases popString_spec hs hv with ⟨id, hid, hlt⟩ | ⟨e, he⟩
  · rw [hid]; exact hf id hlt
  · rw [he]; exact noPanic_err e

theorem popVector_bind_noPanic {β} {s : Store} (hs : s.WF) {v : VCell} (hv : VCell.Valid s v)
    {f : Nat → Outcome β} (hf : ∀ id, id < s.vecs.length → Outcome.NoPanic (f id)) :
    Outcome.NoPanic (popVector s v >>= f) := by
  rcases popVector_spec hs hv with ⟨id, hid, hlt⟩ | ⟨e, he⟩
  · rw [hid]; exact hf id hlt
  · rw [he]; exact noPanic_err e

theorem get_bind_noPanic {β} {s : Store} (hs : s.WF) {v : VCell} (hv : VCell.Valid s v)
    {f : VCell → Outcome β} (hf : ∀ c, VCell.Valid s c → Outcome.NoPanic (f c)) :
    Outcome.NoPanic (s.get v >>= f) := by
  obtain ⟨c, hc, hcv⟩ := get_valid hs hv
  rw [hc]; exact hf c hcv

theorem car_noPanic {s : Store} (hs : s.WF) {args : List VCell} (ha : ∀ v ∈ args, VCell.Valid s v) :
    Outcome.NoPanic (car s args) := (car_sat hs ha).1

theorem vectorRef_noPanic {s : Store} (hs : s.WF) {args : List VCell} (ha : ∀ v ∈ args, VCell.Valid s v) :
    Outcome.NoPanic (vectorRef s args) := by
  unfold vectorRef
  split
  · rename_i v i
    refine noPanic_bind (popIndex_noPanic hs (ha i (by simp))) (fun idx _ => ?_)
    refine popVector_bind_noPanic hs (ha v (by simp)) fun id hlt => ?_
    simp only [bind_ok, vecGet_ok hlt]
    split
    · unfold finish; simp only [bind_ok]; split <;> simp
    · simp
  · simp

theorem cdr_noPanic (hs : s.WF) (ha : ∀ v ∈ args, VCell.Valid s v) : Outcome.NoPanic (cdr s args) := (cdr_sat hs ha).1

/-- `cons` touches no existing cell -/
theorem cons_noPanic (s : Store) (args : List VCell) : Outcome.NoPanic (cons s args) := by
  refine finish_noPanic ?_
  unfold consRaw
  split
  · simp only
    refine noPanic_bind (asPtr_noPanic _) (fun dp _ => ?_)
    refine noPanic_bind (asPtr_noPanic _) (fun ap _ => ?_)
    simp
  · simp

/-- the store half of `set-car!` / `set-cdr!`; `a` is the address of the new component -/
theorem writePair_noPanic {s : Store} (hs : s.WF) {p : VCell} (hp : VCell.Valid s p) {a : Nat}
    {c : Nat → VCell} (hc : VCell.Valid s (c a)) :
    Outcome.NoPanic (do
      let op ← (VCell.ptr a).asPtr
      let pp ← p.asPtr
      let s' ← s.setCell pp (c op)
      Outcome.ok (s', VCell.void)) := by
  simp only [VCell.asPtr_ptr, bind_ok]
  refine noPanic_bind (asPtr_noPanic p) fun q hq => ?_
  cases p with
  | ptr q' =>
    cases hq
    obtain ⟨s2, h2, _⟩ := setCell_wf hs hp hc
    rw [h2]; exact noPanic_ok _
  | _ => cases hq

theorem setCar_noPanic (hs : s.WF) (ha : ∀ v ∈ args, VCell.Valid s v) : Outcome.NoPanic (setCar s args) := by
  unfold setCar
  split
  · rename_i p obj
    obtain ⟨hs', hle, hov, a, hoa⟩ := put_wf hs (ha obj (by simp))
    simp only
    have hp := (ha p (by simp)).mono hle
    refine get_bind_noPanic hs' hp fun c hcv => ?_
    split
    · rename_i x d
      rw [hoa] at hov ⊢
      exact writePair_noPanic hs' hp (c := fun a => .pair a d) ⟨hov, hcv.2⟩
    · simp
  · simp

theorem setCdr_noPanic (hs : s.WF) (ha : ∀ v ∈ args, VCell.Valid s v) : Outcome.NoPanic (setCdr s args) := by
  unfold setCdr
  split
  · rename_i p obj
    obtain ⟨hs', hle, hov, a, hoa⟩ := put_wf hs (ha obj (by simp))
    simp only
    have hp := (ha p (by simp)).mono hle
    refine get_bind_noPanic hs' hp fun c hcv => ?_
    split
    · rename_i x d
      rw [hoa] at hov ⊢
      exact writePair_noPanic hs' hp (c := fun a => .pair x a) ⟨hcv.1, hov⟩
    · simp
  · simp

theorem list_noPanic (s : Store) (args : List VCell) : Outcome.NoPanic (list s args) := by
  unfold list
  simp only
  refine noPanic_bind (asPtr_noPanic _) (fun np _ => ?_)
  refine noPanic_bind (listLoop_noPanic _ _ _) (fun r _ => ?_)
  simp

theorem listTail_noPanic (hs : s.WF) (ha : ∀ v ∈ args, VCell.Valid s v) : Outcome.NoPanic (listTail s args) := by
  unfold listTail
  split
  · rename_i l i
    refine noPanic_bind (popIndex_noPanic hs (ha i (by simp))) (fun idx _ => ?_)
    refine get_bind_noPanic hs (ha l (by simp)) fun c _ => ?_
    split
    · simp
    · refine noPanic_bind (getListTail_noPanic hs idx l (ha l (by simp))).1 (fun t _ => by simp)
  · simp

theorem listRef_noPanic (hs : s.WF) (ha : ∀ v ∈ args, VCell.Valid s v) : Outcome.NoPanic (listRef s args) := by
  unfold listRef
  split
  · rename_i l i
    refine noPanic_bind (popIndex_noPanic hs (ha i (by simp))) (fun idx _ => ?_)
    refine get_bind_noPanic hs (ha l (by simp)) fun c _ => ?_
    split
    · simp
    · refine noPanic_bind (getListTail_noPanic hs idx l (ha l (by simp))).1 (fun t ht => ?_)
      refine get_bind_noPanic hs ((getListTail_noPanic hs idx l (ha l (by simp))).2 t ht) fun c2 _ => ?_
      split <;> simp
  · simp

theorem isListTH_noPanic (fuel : Nat) (hs : s.WF) (ha : ∀ v ∈ args, VCell.Valid s v) :
    Outcome.NoPanic (isListTH fuel s args) := by
  unfold isListTH
  split
  · rename_i x
    refine get_bind_noPanic hs (ha x (by simp)) fun c hcv => ?_
    refine noPanic_bind (isListTHLoop_noPanic hs fuel c c false hcv hcv) (fun b _ => by simp)
  · simp

theorem isList_noPanic (fuel : Nat) (hs : s.WF) (ha : ∀ v ∈ args, VCell.Valid s v) :
    Outcome.NoPanic (isList fuel s args) := by
  unfold isList
  split
  · rename_i x
    refine get_bind_noPanic hs (ha x (by simp)) fun c hcv => ?_
    refine noPanic_bind (isListLoop_noPanic hs fuel c hcv) (fun b _ => by simp)
  · simp

theorem reverse_noPanic (fuel : Nat) (hs : s.WF) (ha : ∀ v ∈ args, VCell.Valid s v) :
    Outcome.NoPanic (reverse fuel s args) := by
  unfold reverse
  split
  · rename_i x
    refine get_bind_noPanic hs (ha x (by simp)) fun c hcv => ?_
    split
    · split <;> simp
    · obtain ⟨hs', hle, hpv, _⟩ := put_wf hs (v := .nil) trivial
      exact reverseLoop_noPanic fuel _ c _ hs' (hcv.mono hle) hpv
  · simp

/-- `vector` only allocates -/
theorem vector_noPanic (s : Store) (args : List VCell) : Outcome.NoPanic (vector s args) :=
  finish_noPanic (by simp)

/-- the only panic is `vec!`'s capacity overflow, far above the property's bound on requested sizes (10^6) -/
theorem makeVector_noPanic (hs : s.WF) (ha : ∀ v ∈ args, VCell.Valid s v)
    (hsize : ∀ n k, args.head? = some n → s.get n = .ok (.num k) → k ≤ 1000000) :
    Outcome.NoPanic (makeVector s args) := by
  have go : ∀ n fill, args.head? = some n → VCell.Valid s n → Outcome.NoPanic (makeVector.go s n fill) := by
    intro n fill hn hv
    obtain ⟨c, hc, hcv⟩ := get_valid hs hv
    unfold makeVector.go
    simp only [hc, bind_ok]
    split
    · rename_i k
      have hk := hsize n k hn hc
      unfold orErr
      split
      · rename_i len hlen
        simp only [bind_ok]
        have : len ≤ 1000000 := by
          cases k with
          | ofNat m =>
            simp only [toUsize] at hlen
            split at hlen
            · cases hlen
              have hm : (len : Int) ≤ 1000000 := hk
              omega
            · cases hlen
          | negSucc m => simp [toUsize] at hlen
        have h2 : ¬ len > vecCapacity := by unfold vecCapacity; omega
        simp only [h2, if_false]
        exact finish_noPanic (by simp)
      · simp
    · simp
  unfold makeVector
  split
  · exact go _ _ rfl (ha _ (by simp))
  · exact go _ _ rfl (ha _ (by simp))
  · simp

theorem vectorLength_noPanic (hs : s.WF) (ha : ∀ v ∈ args, VCell.Valid s v) :
    Outcome.NoPanic (vectorLength s args) := by
  unfold vectorLength
  split
  · rename_i v
    refine popVector_bind_noPanic hs (ha v (by simp)) fun id hlt => ?_
    simp [vecGet_ok hlt]
  · simp

theorem vectorSet_noPanic (hs : s.WF) (ha : ∀ v ∈ args, VCell.Valid s v) :
    Outcome.NoPanic (vectorSet s args) := by
  unfold vectorSet
  split
  · rename_i v i x
    refine noPanic_bind (popIndex_noPanic hs (ha i (by simp))) (fun idx _ => ?_)
    refine popVector_bind_noPanic hs (ha v (by simp)) fun id hlt => ?_
    simp only [bind_ok, vecGet_ok hlt]
    refine noPanic_ite (fun _ => noPanic_err _) fun _ => ?_
    have hx : ∀ y ∈ (s.vecs[id]).set idx x, VCell.Valid s y := by
      intro y hy
      rcases List.mem_or_eq_of_mem_set hy with hy | rfl
      · exact vec_slots_valid hs hlt y hy
      · exact ha _ (by simp)
    obtain ⟨s', h', _⟩ := vecSet_wf hs hlt hx
    simp [h']
  · simp

theorem vectorFill_noPanic (hs : s.WF) (ha : ∀ v ∈ args, VCell.Valid s v) :
    Outcome.NoPanic (vectorFill s args) := by
  unfold vectorFill
  split
  · rename_i v x
    refine popVector_bind_noPanic hs (ha v (by simp)) fun id hlt => ?_
    simp only [bind_ok, vecGet_ok hlt]
    have hx : ∀ y ∈ List.replicate (s.vecs[id]).length x, VCell.Valid s y := by
      intro y hy
      rw [(List.mem_replicate.mp hy).2]; exact ha _ (by simp)
    obtain ⟨s', h', _⟩ := vecSet_wf hs hlt hx
    simp [h']
  · simp

theorem vectorToList_noPanic (hs : s.WF) (ha : ∀ v ∈ args, VCell.Valid s v) :
    Outcome.NoPanic (vectorToList s args) := by
  unfold vectorToList
  split
  · rename_i v
    refine popVector_bind_noPanic hs (ha v (by simp)) fun id hlt => ?_
    simp only [bind_ok, vecGet_ok hlt]
    exact vecToListLoop_noPanic _ _ _
  · simp

theorem listToVector_noPanic (fuel : Nat) (hs : s.WF) (ha : ∀ v ∈ args, VCell.Valid s v) :
    Outcome.NoPanic (listToVector fuel s args) := by
  unfold listToVector
  split
  · rename_i x
    refine get_bind_noPanic hs (ha x (by simp)) fun c hcv => ?_
    split
    · split
      · exact finish_noPanic (by simp)
      · simp
    · refine noPanic_bind (collectCars_noPanic hs fuel c [] hcv) (fun r _ => ?_)
      obtain ⟨xs, last⟩ := r
      simp only
      split
      · simp
      · exact finish_noPanic (by simp)
  · simp

theorem vectorCopy_noPanic (hs : s.WF) (ha : ∀ v ∈ args, VCell.Valid s v) :
    Outcome.NoPanic (vectorCopy s args) := by
  have hdone : ∀ xs a b, Outcome.NoPanic (vectorCopy.done s xs a b) := fun xs a b =>
    finish_noPanic (by simp)
  have hchk : ∀ xs a b, Outcome.NoPanic (vectorCopy.chk2 s xs a b) := by
    intro xs a b
    unfold vectorCopy.chk2
    split
    · refine noPanic_ite (fun _ => noPanic_err _) fun _ => ?_
      split
      · exact noPanic_ite (fun _ => noPanic_err _) fun _ => hdone _ _ _
      · exact hdone _ _ _
    · exact hdone _ _ _
  have hgo : ∀ v a b, VCell.Valid s v → Outcome.NoPanic (vectorCopy.go s v a b) := by
    intro v a b hv
    unfold vectorCopy.go
    refine popVector_bind_noPanic hs hv fun id hlt => ?_
    simp only [bind_ok, vecGet_ok hlt]
    split
    · exact noPanic_ite (fun _ => noPanic_err _) fun _ => hchk _ _ _
    · exact hchk _ _ _
  unfold vectorCopy
  split
  · exact hgo _ _ _ (ha _ (by simp))
  · rename_i v st
    refine noPanic_bind (popIndex_noPanic hs (ha st (by simp))) (fun b _ => ?_)
    exact hgo _ _ _ (ha _ (by simp))
  · rename_i v st en
    refine noPanic_bind (popIndex_noPanic hs (ha en (by simp))) (fun e _ => ?_)
    refine noPanic_bind (popIndex_noPanic hs (ha st (by simp))) (fun b _ => ?_)
    exact hgo _ _ _ (ha _ (by simp))
  · simp

theorem optRange_le {a b : Option Nat} {len : Nat} (ha : ¬ optExceeds a len = true)
    (hb : ¬ optExceeds b len = true) (hab : ¬ optInverted a b = true) : a.getD 0 ≤ b.getD len := by
  cases a <;> cases b <;> simp only [optExceeds, optInverted, decide_eq_true_eq, Option.getD] at * <;> omega

theorem vectorCopyBang_noPanic (hs : s.WF) (ha : ∀ v ∈ args, VCell.Valid s v) :
    Outcome.NoPanic (vectorCopyBang s args) := by
  have hgo : ∀ to at_ from_ a b, VCell.Valid s to → VCell.Valid s at_ → VCell.Valid s from_ →
      Outcome.NoPanic (vectorCopyBang.go s to at_ from_ a b) := by
    intro to at_ from_ a b hto hat hfrom
    unfold vectorCopyBang.go
    refine popVector_bind_noPanic hs hfrom fun fid hflt => ?_
    refine noPanic_bind (popIndex_noPanic hs hat) fun at' _ => ?_
    refine popVector_bind_noPanic hs hto fun tid htlt => ?_
    rw [vecGet_ok hflt, vecGet_ok htlt]
    simp only [bind_ok]
    refine noPanic_ite (fun _ => noPanic_err _) fun h1 => ?_
    refine noPanic_ite (fun _ => noPanic_err _) fun h2 => ?_
    refine noPanic_ite (fun _ => noPanic_err _) fun h3 => ?_
    refine noPanic_ite (fun _ => noPanic_err _) fun h4 => ?_
    -- past the four range tests both checked subtractions are safe: `end - start` by `optRange_le`
    rw [usub_noPanic_of_le (optRange_le h2 h3 h4), usub_noPanic_of_le (Nat.le_of_not_gt h1)]
    simp only [bind_ok]
    refine noPanic_ite (fun _ => noPanic_err _) fun _ => ?_
    have hx : ∀ y ∈ putRange s.vecs[tid] at'
        (List.take (b.getD (s.vecs[fid]).length - a.getD 0) (List.drop (a.getD 0) s.vecs[fid])),
        VCell.Valid s y := by
      intro y hy
      rcases mem_putRange _ _ _ _ hy with h | h
      · exact vec_slots_valid hs htlt y h
      · exact vec_slots_valid hs hflt y (List.mem_of_mem_drop (List.mem_of_mem_take h))
    obtain ⟨s', h', _⟩ := vecSet_wf hs htlt hx
    rw [h']; exact noPanic_ok _
  unfold vectorCopyBang
  split
  · exact hgo _ _ _ _ _ (ha _ (by simp)) (ha _ (by simp)) (ha _ (by simp))
  · rename_i to at_ from_ st
    refine noPanic_bind (popIndex_noPanic hs (ha st (by simp))) (fun b _ => ?_)
    exact hgo _ _ _ _ _ (ha _ (by simp)) (ha _ (by simp)) (ha _ (by simp))
  · rename_i to at_ from_ st en
    refine noPanic_bind (popIndex_noPanic hs (ha en (by simp))) (fun e _ => ?_)
    refine noPanic_bind (popIndex_noPanic hs (ha st (by simp))) (fun b _ => ?_)
    exact hgo _ _ _ _ _ (ha _ (by simp)) (ha _ (by simp)) (ha _ (by simp))
  · simp

theorem stringLength_noPanic (hs : s.WF) (ha : ∀ v ∈ args, VCell.Valid s v) :
    Outcome.NoPanic (stringLength s args) := by
  unfold stringLength
  split
  · rename_i v
    refine popString_bind_noPanic hs (ha v (by simp)) fun id hlt => ?_
    simp [strGet_ok hlt]
  · simp

theorem stringCase_noPanic (f : Text → Text) (hs : s.WF) (ha : ∀ v ∈ args, VCell.Valid s v) :
    Outcome.NoPanic (stringCase f s args) := by
  unfold stringCase
  split
  · rename_i v
    refine popString_bind_noPanic hs (ha v (by simp)) fun id hlt => ?_
    simp only [bind_ok, strGet_ok hlt]; exact newStrRes_noPanic _ _
  · simp

theorem stringRef_noPanic (hs : s.WF) (ha : ∀ v ∈ args, VCell.Valid s v) :
    Outcome.NoPanic (stringRef s args) := by
  unfold stringRef
  split
  · rename_i v i
    refine noPanic_bind (popIndex_noPanic hs (ha i (by simp))) (fun idx _ => ?_)
    refine popString_bind_noPanic hs (ha v (by simp)) fun id hlt => ?_
    simp only [bind_ok, strGet_ok hlt]
    refine noPanic_bind (stringRefC_noPanic _ _) (fun c _ => by simp)
  · simp

theorem stringSet_noPanic (hs : s.WF) (ha : ∀ v ∈ args, VCell.Valid s v) :
    Outcome.NoPanic (stringSet s args) := by
  unfold stringSet
  split
  · rename_i v i c
    refine noPanic_bind (popChar_noPanic hs (ha c (by simp))) (fun ch _ => ?_)
    refine noPanic_bind (popIndex_noPanic hs (ha i (by simp))) (fun idx _ => ?_)
    refine popString_bind_noPanic hs (ha v (by simp)) fun id hlt => ?_
    simp only [bind_ok, strGet_ok hlt]
    refine noPanic_bind (stringSetC_noPanic _ _ _) (fun t' _ => ?_)
    obtain ⟨s', h', _⟩ := strSet_wf hs t' hlt
    simp [h']
  · simp

theorem stringFill_noPanic (hs : s.WF) (ha : ∀ v ∈ args, VCell.Valid s v) :
    Outcome.NoPanic (stringFill s args) := by
  unfold stringFill
  split
  · rename_i v c range
    have hr := popRange_noPanic hs (r := range) (fun x hx => ha x (by simp [hx]))
    refine noPanic_bind hr.1 (fun ab hab => ?_)
    obtain ⟨a, b⟩ := ab
    simp only
    refine noPanic_bind (popChar_noPanic hs (ha c (by simp))) (fun ch _ => ?_)
    refine popString_bind_noPanic hs (ha v (by simp)) fun id hlt => ?_
    simp only [bind_ok, strGet_ok hlt]
    refine noPanic_bind (stringFillC_noPanic _ _ _ _ (hr.2 a b hab)) (fun t' _ => ?_)
    obtain ⟨s', h', _⟩ := strSet_wf hs t' hlt
    simp [h']
  · simp

theorem stringCopy_noPanic (hs : s.WF) (ha : ∀ v ∈ args, VCell.Valid s v) :
    Outcome.NoPanic (stringCopy s args) := by
  unfold stringCopy
  split
  · rename_i v range
    have hr := popRange_noPanic hs (r := range) (fun x hx => ha x (by simp [hx]))
    refine noPanic_bind hr.1 (fun ab hab => ?_)
    obtain ⟨a, b⟩ := ab
    simp only
    refine popString_bind_noPanic hs (ha v (by simp)) fun id hlt => ?_
    simp only [bind_ok, strGet_ok hlt]
    refine noPanic_bind (substringC_noPanic _ _ _ (hr.2 a b hab)) (fun sub _ => ?_)
    exact newStrRes_noPanic _ _
  · simp

theorem stringToList_noPanic (hs : s.WF) (ha : ∀ v ∈ args, VCell.Valid s v) :
    Outcome.NoPanic (stringToList s args) := by
  unfold stringToList
  split
  · rename_i v range
    have hr := popRange_noPanic hs (r := range) (fun x hx => ha x (by simp [hx]))
    refine noPanic_bind hr.1 (fun ab hab => ?_)
    obtain ⟨a, b⟩ := ab
    simp only
    refine popString_bind_noPanic hs (ha v (by simp)) fun id hlt => ?_
    simp only [bind_ok, strGet_ok hlt]
    refine noPanic_bind (substringC_noPanic _ _ _ (hr.2 a b hab)) (fun sub _ => ?_)
    exact charListLoop_noPanic _ _ _
  · simp

theorem stringToVector_noPanic (hs : s.WF) (ha : ∀ v ∈ args, VCell.Valid s v) :
    Outcome.NoPanic (stringToVector s args) := by
  unfold stringToVector
  split
  · rename_i v
    refine popString_bind_noPanic hs (ha v (by simp)) fun id hlt => ?_
    simp only [bind_ok, strGet_ok hlt]; exact finish_noPanic (by simp)
  · simp

theorem vectorToString_noPanic (hs : s.WF) (ha : ∀ v ∈ args, VCell.Valid s v) :
    Outcome.NoPanic (vectorToString s args) := by
  unfold vectorToString
  split
  · rename_i v
    refine popVector_bind_noPanic hs (ha v (by simp)) fun id hlt => ?_
    simp only [bind_ok, vecGet_ok hlt]
    refine noPanic_bind (slotsToChars_noPanic hs _ (vec_slots_valid hs hlt)) (fun cs _ => ?_)
    exact newStrRes_noPanic _ _
  · simp

theorem listToString_noPanic (fuel : Nat) (hs : s.WF) (ha : ∀ v ∈ args, VCell.Valid s v) :
    Outcome.NoPanic (listToString fuel s args) := by
  unfold listToString
  split
  · rename_i x
    refine get_bind_noPanic hs (ha x (by simp)) fun c hcv => ?_
    split
    · simp
    · refine noPanic_bind (collectChars_noPanic hs fuel c [] hcv) (fun r _ => ?_)
      obtain ⟨cs, last⟩ := r
      simp only
      split
      · simp
      · exact newStrRes_noPanic _ _
  · simp

/-- the only panic is the capacity overflow of the up-front reservation, far above 10^6 -/
theorem makeString_noPanic (hs : s.WF) (ha : ∀ v ∈ args, VCell.Valid s v)
    (hsize : ∀ n k, args.head? = some n → Store.popUsize s n = .ok k → k ≤ 1000000) :
    Outcome.NoPanic (makeString s args) := by
  have go : ∀ n c, args.head? = some n → VCell.Valid s n → Outcome.NoPanic (makeString.go s n c) := by
    intro n c hn hv
    unfold makeString.go
    refine noPanic_bind (popUsize_noPanic hs hv) (fun size hsz => ?_)
    have := hsize n size hn hsz
    have h2 : ¬ size > strCapacity := by unfold strCapacity; omega
    simp only [h2, if_false]
    exact newStrRes_noPanic _ _
  unfold makeString
  split
  · exact go _ _ rfl (ha _ (by simp))
  · rename_i k c
    refine noPanic_bind (popChar_noPanic hs (ha c (by simp))) (fun ch _ => ?_)
    exact go _ _ rfl (ha _ (by simp))
  · simp

theorem string_noPanic (hs : s.WF) (ha : ∀ v ∈ args, VCell.Valid s v) : Outcome.NoPanic (stringB s args) := by
  unfold stringB
  refine noPanic_bind (popChars_noPanic hs _ (fun v hv => ha v (List.mem_reverse.mp hv))) (fun cs _ => ?_)
  exact newStrRes_noPanic _ _

theorem stringAppend_noPanic (hs : s.WF) (ha : ∀ v ∈ args, VCell.Valid s v) :
    Outcome.NoPanic (stringAppend s args) := by
  unfold stringAppend
  refine noPanic_bind (popStrings_noPanic hs _ (fun v hv => ha v (List.mem_reverse.mp hv))) (fun ts _ => ?_)
  exact newStrRes_noPanic _ _

theorem stringComp_noPanic (f : Text → Text) (op : CmpOp) (hs : s.WF) (ha : ∀ v ∈ args, VCell.Valid s v) :
    Outcome.NoPanic (stringComp f op s args) := by
  unfold stringComp
  have hrev : ∀ v ∈ args.reverse, VCell.Valid s v := fun v hv => ha v (List.mem_reverse.mp hv)
  split
  · simp
  · rename_i last rest heq
    rw [heq] at hrev
    refine noPanic_bind (popStr_noPanic hs (hrev last (by simp))) (fun y _ => ?_)
    refine noPanic_bind (popStrings_noPanic hs rest (fun v hv => hrev v (by simp [hv]))) (fun xs _ => by simp)

theorem charComp_noPanic (f : Char → Char) (op : CmpOp) (hs : s.WF) (ha : ∀ v ∈ args, VCell.Valid s v) :
    Outcome.NoPanic (charComp f op s args) := by
  unfold charComp
  have hrev : ∀ v ∈ args.reverse, VCell.Valid s v := fun v hv => ha v (List.mem_reverse.mp hv)
  split
  · simp
  · rename_i last rest heq
    rw [heq] at hrev
    refine noPanic_bind (popChar_noPanic hs (hrev last (by simp))) (fun y _ => ?_)
    refine noPanic_bind (popChars_noPanic hs rest (fun v hv => hrev v (by simp [hv]))) (fun xs _ => by simp)

theorem integerToChar_noPanic (hs : s.WF) (ha : ∀ v ∈ args, VCell.Valid s v) :
    Outcome.NoPanic (integerToChar s args) := by
  unfold integerToChar
  split
  · rename_i v
    refine get_bind_noPanic hs (ha v (by simp)) fun c _ => ?_
    split
    · split
      · split
        · split <;> simp
        · simp
      · simp
    · simp
  · simp

theorem charToInteger_noPanic (hs : s.WF) (ha : ∀ v ∈ args, VCell.Valid s v) :
    Outcome.NoPanic (charToInteger s args) := by
  unfold charToInteger
  split
  · rename_i v
    refine noPanic_bind (popChar_noPanic hs (ha v (by simp))) (fun c _ => by simp)
  · simp

theorem charPred_noPanic (p : Char → Bool) (hs : s.WF) (ha : ∀ v ∈ args, VCell.Valid s v) :
    Outcome.NoPanic (charPred p s args) := by
  unfold charPred
  split
  · rename_i v
    refine noPanic_bind (popChar_noPanic hs (ha v (by simp))) (fun c _ => by simp)
  · simp

theorem charMap_noPanic (f : Char → Char) (hs : s.WF) (ha : ∀ v ∈ args, VCell.Valid s v) :
    Outcome.NoPanic (charMap f s args) := by
  unfold charMap
  split
  · rename_i v
    refine noPanic_bind (popChar_noPanic hs (ha v (by simp))) (fun c _ => by simp)
  · simp

theorem eqvB_noPanic (hs : s.WF) (ha : ∀ v ∈ args, VCell.Valid s v) : Outcome.NoPanic (eqvB s args) := by
  unfold eqvB
  split
  · rename_i a b
    refine noPanic_bind (eqv_noPanic hs (ha b (by simp)) (ha a (by simp))) (fun r _ => by simp)
  · simp

/-- `equal?` after the repair dfd9e81; `compare_vector`'s `unwrap` is unreachable: the lengths were compared
    first. Termination: `equal_total` -/
theorem equalB_noPanic (fuel : Nat) (hs : s.WF) (ha : ∀ v ∈ args, VCell.Valid s v) :
    Outcome.NoPanic (equalB fuel s args) := by
  unfold equalB
  split
  · rename_i a b
    refine noPanic_bind (equal_noPanic hs fuel (ha b (by simp)) (ha a (by simp))) (fun r _ => by simp)
  · simp

theorem isNullB_noPanic (hs : s.WF) (ha : ∀ v ∈ args, VCell.Valid s v) : Outcome.NoPanic (isNullB s args) := by
  unfold isNullB
  split
  · rename_i x
    obtain ⟨c, hc, _⟩ := get_valid hs (ha x (by simp))
    simp [hc]
  · simp

theorem isPairB_noPanic (hs : s.WF) (ha : ∀ v ∈ args, VCell.Valid s v) : Outcome.NoPanic (isPairB s args) := by
  unfold isPairB
  split
  · rename_i x
    obtain ⟨c, hc, _⟩ := get_valid hs (ha x (by simp))
    simp [hc]
  · simp

/-! ### T06.2 (continued) — `append` (list.rs: `clone_list` + relinking) and the prelude's procedures (`Store/Prelude.lean`)

The `_wf` statements: the store handed back is well formed again, so the hypothesis `Store.WF` of all T06.2 lemmas is
preserved by the allocating procedures. -/

theorem append_noPanic (fuel : Nat) (hs : s.WF) (ha : ∀ v ∈ args, VCell.Valid s v) :
    Outcome.NoPanic (append fuel s args) := (append_sat fuel hs ha).1

theorem append_wf (fuel : Nat) (hs : s.WF) (ha : ∀ v ∈ args, VCell.Valid s v) {s' : Store} {v : VCell}
    (h : append fuel s args = .ok (s', v)) : s'.WF ∧ Store.Le s s' ∧ VCell.Valid s' v :=
  (append_sat fuel hs ha).2 _ h

theorem cons_wf (hs : s.WF) {a d : VCell} (ha : VCell.Valid s a) (hd : VCell.Valid s d) {s' : Store} {v : VCell}
    (h : cons s [a, d] = .ok (s', v)) : s'.WF ∧ Store.Le s s' ∧ VCell.Valid s' v :=
  (cons_sat hs ha hd).2 _ h

theorem list_wf (hs : s.WF) (ha : ∀ v ∈ args, VCell.Valid s v) {s' : Store} {v : VCell}
    (h : list s args = .ok (s', v)) : s'.WF ∧ Store.Le s s' ∧ VCell.Valid s' v :=
  (list_sat hs ha).2 _ h

theorem length_noPanic (fuel : Nat) (hs : s.WF) {l : VCell} (hl : VCell.Valid s l) :
    Outcome.NoPanic (Store.length fuel s l) := (length_sat hs fuel l hl).1

theorem memq_noPanic (fuel : Nat) (hs : s.WF) {obj l : VCell} (ho : VCell.Valid s obj) (hl : VCell.Valid s l) :
    Outcome.NoPanic (memq fuel s obj l) :=
  (mem_sat hs (fun _ _ ha hb => eqTest_noPanic hs ha hb) fuel obj l ho hl).1

theorem memv_noPanic (fuel : Nat) (hs : s.WF) {obj l : VCell} (ho : VCell.Valid s obj) (hl : VCell.Valid s l) :
    Outcome.NoPanic (memv fuel s obj l) :=
  (mem_sat hs (fun _ _ ha hb => eqTest_noPanic hs ha hb) fuel obj l ho hl).1

theorem member_noPanic (fuel : Nat) (hs : s.WF) {obj l : VCell} (ho : VCell.Valid s obj) (hl : VCell.Valid s l) :
    Outcome.NoPanic (member fuel s obj l) :=
  (mem_sat hs (fun _ _ ha hb => equalTest_noPanic fuel hs ha hb) fuel obj l ho hl).1

theorem assq_noPanic (fuel : Nat) (hs : s.WF) {obj l : VCell} (ho : VCell.Valid s obj) (hl : VCell.Valid s l) :
    Outcome.NoPanic (assq fuel s obj l) :=
  (ass_sat hs (fun _ _ ha hb => eqTest_noPanic hs ha hb) fuel obj l ho hl).1

theorem assv_noPanic (fuel : Nat) (hs : s.WF) {obj l : VCell} (ho : VCell.Valid s obj) (hl : VCell.Valid s l) :
    Outcome.NoPanic (assv fuel s obj l) :=
  (ass_sat hs (fun _ _ ha hb => eqTest_noPanic hs ha hb) fuel obj l ho hl).1

theorem assoc_noPanic (fuel : Nat) (hs : s.WF) {obj l : VCell} (ho : VCell.Valid s obj) (hl : VCell.Valid s l) :
    Outcome.NoPanic (assoc fuel s obj l) :=
  (ass_sat hs (fun _ _ ha hb => equalTest_noPanic fuel hs ha hb) fuel obj l ho hl).1

/-- `CalleeLaw g`, assumed of the procedure argument: on a well-formed store and valid arguments `g` does not
    panic and hands back a well-formed store and a valid value -/
theorem map_noPanic {g : Callee} (hg : CalleeLaw g) (fuel : Nat) (hs : s.WF) (ha : ∀ v ∈ args, VCell.Valid s v) :
    Outcome.NoPanic (map g fuel s args) := (map_sat hg fuel hs ha).1

theorem map_wf {g : Callee} (hg : CalleeLaw g) (fuel : Nat) (hs : s.WF) (ha : ∀ v ∈ args, VCell.Valid s v)
    {s' : Store} {v : VCell} (h : map g fuel s args = .ok (s', v)) :
    s'.WF ∧ Store.Le s s' ∧ VCell.Valid s' v := (map_sat hg fuel hs ha).2 _ h

theorem forEach_noPanic {g : Callee} (hg : CalleeLaw g) (fuel : Nat) (hs : s.WF) (ha : ∀ v ∈ args, VCell.Valid s v) :
    Outcome.NoPanic (forEach g fuel s args) := (forEach_sat hg fuel hs ha).1

theorem forEach_wf {g : Callee} (hg : CalleeLaw g) (fuel : Nat) (hs : s.WF) (ha : ∀ v ∈ args, VCell.Valid s v)
    {s' : Store} {v : VCell} (h : forEach g fuel s args = .ok (s', v)) :
    s'.WF ∧ Store.Le s s' ∧ VCell.Valid s' v := (forEach_sat hg fuel hs ha).2 _ h

theorem calleeLaw_instances : CalleeLaw car ∧ CalleeLaw cdr ∧ CalleeLaw cons ∧ CalleeLaw list ∧
    (∀ fuel, CalleeLaw (append fuel)) ∧
    (∀ g fuel, CalleeLaw g → CalleeLaw (map g fuel)) ∧ (∀ g fuel, CalleeLaw g → CalleeLaw (forEach g fuel)) :=
  ⟨calleeLaw_car, calleeLaw_cdr, calleeLaw_cons, calleeLaw_list,
   fun fuel _ _ hs ha => append_sat fuel hs ha,
   fun _ fuel hg _ _ hs ha => map_sat hg fuel hs ha, fun _ fuel hg _ _ hs ha => forEach_sat hg fuel hs ha⟩

/-! ### T06.2 (numbers) — the Scheme-level numeric procedures of the Num model

The models of `/`, `quotient`, `rem` and `modulo` have division-by-zero panic branches; the zero test of the
Scheme-level wrapper keeps every argument list away from them. -/

section Numbers
open Marwood.Arith

def NumNoPanic {α : Type} (o : Arith.Outcome α) : Prop := ∀ m, o ≠ .panic m

theorem scmPlus_noPanic (args : List Num) : NumNoPanic (scmPlus args) := by
  intro m h; simp [scmPlus] at h
theorem scmTimes_noPanic (args : List Num) : NumNoPanic (scmTimes args) := by
  intro m h; simp [scmTimes] at h
theorem scmMinus_noPanic (args : List Num) : NumNoPanic (scmMinus args) := by
  intro m h; unfold scmMinus at h; split at h <;> cases h

theorem scmUnary_noPanic (op : Num → Option Num) (args : List Num) :
    ∀ r, scmUnary op args = some r → NumNoPanic r := by
  intro r hr m hm
  unfold scmUnary at hr
  split at hr
  · simp only [Option.map_eq_some_iff] at hr; obtain ⟨a, _, rfl⟩ := hr; cases hm
  · cases hr; cases hm

theorem scmExpt_noPanic (args : List Num) : ∀ r, scmExpt args = some r → NumNoPanic r := by
  intro r hr m hm
  unfold scmExpt at hr
  split at hr
  · split at hr
    · cases hr
    · split at hr
      · cases hr; cases hm
      · split at hr
        · cases hr; cases hm
        · simp only [Option.map_eq_some_iff] at hr; obtain ⟨a, _, rfl⟩ := hr; cases hm
  · cases hr; cases hm

theorem scmCmp_noPanic (args : List Num) :
    NumNoPanic (Cmp.scmEq args) ∧ NumNoPanic (Cmp.scmLt args) ∧ NumNoPanic (Cmp.scmGt args) ∧
    NumNoPanic (Cmp.scmLe args) ∧ NumNoPanic (Cmp.scmGe args) := by
  refine ⟨?_, ?_, ?_, ?_, ?_⟩ <;> intro m h <;>
    simp only [Cmp.scmEq, Cmp.scmLt, Cmp.scmGt, Cmp.scmLe, Cmp.scmGe, Cmp.numComp] at h <;>
    split at h <;> cases h

theorem scmPred_noPanic (p : Num → Bool) (args : List Num) : NumNoPanic (Cmp.scmPred p args) := by
  intro m h; unfold Cmp.scmPred at h; split at h <;> cases h

theorem scmMinMax_noPanic (args : List Num) : NumNoPanic (Cmp.scmMin args) ∧ NumNoPanic (Cmp.scmMax args) := by
  constructor <;> intro m h
  · unfold Cmp.scmMin at h; split at h <;> cases h
  · unfold Cmp.scmMax at h; split at h <;> cases h

/-- the panic avoided is `Ratio::new` on a zero denominator -/
theorem scmDivide_noPanic (args : List Num) : NumNoPanic (scmDivide args) := by
  have hdiv : ∀ x y, isZero y = false → NumNoPanic (div x y) := by
    intro x y hz m h
    unfold div at h
    split at h <;> try (cases h)
    all_goals (try (split at h <;> cases h))
    -- the integer / integer arm
    split at h
    · rename_i l r hl hr
      unfold ratioOfI32 at h
      split at h
      · rename_i hr0
        -- a zero denominator makes `y` a zero fixnum, against `hz`
        cases y <;> simp [asI32, chk32] at hr
        all_goals (obtain ⟨_, rfl⟩ := hr)
        all_goals (simp_all [isZero])
      · simp only at h
        split at h
        · cases h
        · split at h <;> cases h
    · cases h
  intro m h
  unfold scmDivide at h
  split at h
  · split at h
    · cases h
    · rename_i hz; exact hdiv _ _ (by simpa using hz) m h
  · split at h
    · cases h
    · rename_i hz; exact hdiv _ _ (by simpa using hz) m h
  · cases h

theorem quotient_noPanic {x y : Num} (hz : isZero y = false) (m : String) : quotient x y ≠ some (.panic m) := by
  intro h
  -- for every pair of representations the panic arm is guarded by the zero test `hz` decides
  cases x <;> cases y <;> simp only [isZero] at hz <;>
    simp only [quotient, hz, Bool.false_eq_true, if_false] at h <;> (repeat' split at h) <;> cases h

theorem rem_noPanic {x y : Num} (hz : isZero y = false) (m : String) : rem x y ≠ some (.panic m) := by
  intro h
  cases x <;> cases y <;> simp only [isZero] at hz <;>
    simp only [rem, hz, Bool.false_eq_true, if_false] at h <;> (repeat' split at h) <;> cases h

theorem modulo_noPanic {x y : Num} (hz : isZero y = false) (m : String) : modulo x y ≠ some (.panic m) := by
  intro h
  unfold modulo at h
  split at h
  · split at h <;> cases h
  · exact rem_noPanic hz m h

/-- the wrapper shared by `quotient`, `remainder`, `modulo`: `pop_integer` twice, zero test, the operation -/
theorem scmIntOp_noPanic {op : Num → Num → Option (Arith.Outcome (Option Num))}
    (hop : ∀ x y, isZero y = false → ∀ m, op x y ≠ some (.panic m)) (args : List Num) :
    ∀ r, scmIntOp op args = some r → NumNoPanic r := by
  intro r hr m hm
  subst hm
  unfold scmIntOp at hr
  split at hr
  · rename_i x y
    split at hr
    · cases hr
    · split at hr
      · cases hr
      · split at hr
        · cases hr
        · rename_i hz
          split at hr <;> try (cases hr)
          rename_i hs
          exact hop x y (by simpa using hz) _ hs
  · cases hr

theorem scmQuotient_noPanic (args : List Num) : ∀ r, scmQuotient args = some r → NumNoPanic r :=
  scmIntOp_noPanic (fun _ _ hz m => quotient_noPanic hz m) args
theorem scmRemainder_noPanic (args : List Num) : ∀ r, scmRemainder args = some r → NumNoPanic r :=
  scmIntOp_noPanic (fun _ _ hz m => rem_noPanic hz m) args
theorem scmModulo_noPanic (args : List Num) : ∀ r, scmModulo args = some r → NumNoPanic r :=
  scmIntOp_noPanic (fun _ _ hz m => modulo_noPanic hz m) args

/-- without the zero test the operation panics: `(quotient 1 0)` at the level of `Number::quotient` -/
theorem quotient_by_zero_panics : quotient (.fix 1) (.fix 0) = some (.panic "BigInt division by zero") := by
  decide

end Numbers

/-! ### T06.3 — termination -/

/-- `get_list_tail` is bounded by its index argument, not by the list -/
theorem getListTail_terminates (s : Store) : ∀ (k : Nat) (rest : VCell), getListTail s rest k ≠ .diverge
  | 0, rest => by simp [getListTail]
  | k+1, rest => by
    unfold getListTail
    cases hg : s.get rest with
    | ok node =>
      simp only [bind_ok]
      split
      · simp
      · cases hc : node.asCdr with
        | ok d => simp only [bind_ok]; exact getListTail_terminates s k d
        | err e => simp
        | panic m => simp
        | diverge => cases node <;> simp [VCell.asCdr] at hc
    | err e => simp
    | panic m => simp
    | diverge =>
      cases rest <;> simp [Store.get] at hg
      rename_i a; unfold ofOption at hg; split at hg <;> cases hg

/-- the circular witness: cell 1 is the pair `(1 . <itself>)`, cell 2 a second such pair, cells 3 and 4 a
    two-element cycle; every car is cell 0, the number 1, so all of them unfold to `(1 1 1 …)` -/
def circ : Store :=
  { cells := [.num 1, .pair 0 1, .pair 0 2, .pair 0 4, .pair 0 3], vecs := [], strs := [] }

theorem circ_wf : circ.WF := ⟨by decide, by decide⟩

theorem isListTH_circular_self : isListTH 3 circ [.ptr 1] = .ok (circ, .bool false) := rfl
theorem isListTH_circular_two : isListTH 5 circ [.ptr 3] = .ok (circ, .bool false) := rfl

/-- `isList` is the loop before the repair 3d7bbb6 (the model C14 reasons about) -/
theorem isList_pinned_diverges (fuel : Nat) : isList fuel circ [.ptr 1] = .diverge := by
  have h : ∀ f, isListLoop f circ (.pair 0 1) = .diverge := by
    intro f
    induction f with
    | zero => rfl
    | succ f ih =>
      unfold isListLoop
      simp only [VCell.isPair_pair, Bool.not_true, Bool.false_eq_true, if_false, VCell.asCdr_pair, bind_ok]
      have : circ.get (.ptr 1) = .ok (.pair 0 1) := rfl
      simp only [this, bind_ok]
      exact ih
  have hg : circ.get (.ptr 1) = .ok (.pair 0 1) := rfl
  simp [isList, hg, h]

/-- finding `C06-circular-length` (fixed by 08d0569): the prelude's `length` before the repair
    (`Store.Pinned.length`) recurses without bound on a circular list -/
theorem length_circular_diverges (fuel : Nat) : Pinned.length fuel circ (.ptr 1) = .diverge := by
  induction fuel with
  | zero => rfl
  | succ f ih =>
    unfold Pinned.length
    have h1 : nullP circ (.ptr 1) = .ok false := rfl
    have h2 : cdrV circ (.ptr 1) = .ok (.ptr 1) := rfl
    simp only [h1, h2, bind_ok, Bool.false_eq_true, if_false, ih, bind_diverge]

/-- the repaired `length` (two cursors); the fuel is one call of `length`, one resp. two calls of `count` -/
theorem length_circular_self : length 2 circ (.ptr 1) = .err .pair := rfl
theorem length_circular_two : length 3 circ (.ptr 3) = .err .pair := rfl

/-- **T06.3, `length` after the repair: termination on every store**, circular or not. `|cells| + 2` units of
    fuel are enough: one for the call of `length`, one per call of its local `count`, which advances two pairs.
    The statement leaves the integer open (`C14.length_ok` gives it for an `IsList`); `.err .pair` is the
    `expected pair` error, for an improper list, a non-list or a circular list. Floyd / pigeonhole:
    `Lemmas/TotalLength.lean`. -/
theorem length_total (hs : s.WF) {x : VCell} (hx : VCell.Valid s x) {fuel : Nat}
    (hf : s.cells.length + 2 ≤ fuel) :
    (ProperList s x ∧ ∃ n : Nat, length fuel s x = .ok (.num n)) ∨
    (¬ ProperList s x ∧ length fuel s x = .err .pair) :=
  Marwood.Store.length_total hs hx hf

theorem length_never_diverges (hs : s.WF) {x : VCell} (hx : VCell.Valid s x) {fuel : Nat}
    (hf : s.cells.length + 2 ≤ fuel) : length fuel s x ≠ .diverge := by
  rcases Marwood.Store.length_total hs hx hf with ⟨_, n, h⟩ | ⟨_, h⟩ <;> rw [h] <;> simp

/-- finding `C06-circular-equal` (fixed by dfd9e81): `Store.Pinned.equal` (`compare.rs` before the repair) on
    two circular lists of the same shape never returns -/
theorem equal_circular_diverges (fuel : Nat) : Pinned.equal fuel circ (.ptr 1) (.ptr 2) = .diverge := by
  have hP : ∀ f, Pinned.comparePair f circ (.pair 0 1) (.pair 0 2) = .diverge := by
    intro f
    induction f with
    | zero => rfl
    | succ f ih =>
      unfold Pinned.comparePair
      simp only [VCell.isPair_pair, Bool.not_true, Bool.or_self, Bool.false_eq_true, if_false,
        VCell.asCar_pair, VCell.asCdr_pair, bind_ok]
      cases f with
      | zero => rfl
      | succ f' =>
        have he : Pinned.equal (f' + 1) circ (.ptr 0) (.ptr 0) = .ok true := rfl
        have g1 : circ.get (.ptr 1) = .ok (.pair 0 1) := rfl
        have g2 : circ.get (.ptr 2) = .ok (.pair 0 2) := rfl
        simp only [he, bind_ok, Bool.not_true, Bool.false_eq_true, if_false, g1, g2]
        exact ih
  cases fuel with
  | zero => rfl
  | succ f =>
    have he : eqv circ (.ptr 1) (.ptr 2) = .ok false := rfl
    have g1 : derefArg circ (.ptr 1) = .ok (.pair 0 1) := rfl
    have g2 : derefArg circ (.ptr 2) = .ok (.pair 0 2) := rfl
    simp only [Pinned.equal, he, bind_ok, Bool.false_eq_true, if_false, g1, g2, hP]

/-- the repaired `equal?` on the same witnesses: equal, because the unfoldings are the same infinite list
    (R7RS 6.1). Cells 1 and 2 need two levels: the second time round the loop meets the locations `(1, 2)` again -/
theorem equal_circular_terminates :
    equalB 3 circ [.ptr 2, .ptr 1] = .ok (circ, .bool true) ∧
    equalB 4 circ [.ptr 3, .ptr 1] = .ok (circ, .bool true) ∧
    equalB 4 circ [.ptr 4, .ptr 3] = .ok (circ, .bool true) := ⟨rfl, rfl, rfl⟩

/-- car-circular pairs (cells 2, 3: `#0=(#0# . ())`), self-containing vectors (cells 4, 5: `#0=#(#0# 2)`)
    and two lists that differ behind a cycle-free prefix (cells 7, 8: `(2)` against `(#0=(#0#))`) -/
def circ2 : Store :=
  { cells := [.num 1, .nil, .pair 2 1, .pair 3 1, .vec 0, .vec 1, .num 2, .pair 6 1, .pair 2 1],
    vecs := [[.ptr 4, .num 2], [.ptr 5, .num 2]], strs := [] }

theorem equal_circular_terminates_car_vec :
    equalB 4 circ2 [.ptr 3, .ptr 2] = .ok (circ2, .bool true) ∧
    equalB 4 circ2 [.ptr 5, .ptr 4] = .ok (circ2, .bool true) ∧
    equalB 4 circ2 [.ptr 8, .ptr 7] = .ok (circ2, .bool false) := ⟨rfl, rfl, rfl⟩

/-- **T06.3, `equal?` after dfd9e81: termination on every store** of the shape of a real heap (`Store.Shaped`: no
    heap cell is itself a reference, a vector slot holds a value), circular or not.
    `equalFuel s = |cells|² · (maxVecLen + 5) + 1`: every level of the three mutually recursive loops either records
    one of the `|cells|²` pairs of heap locations for the first time or is one of at most `maxVecLen + 5` levels between
    two records (`Lemmas/EqualTotal.lean`). The driver passes at least `equalFuel s`. -/
theorem equal_total (hsh : s.Shaped) {l r : VCell} (hl : l.isValue = true) (hr : r.isValue = true) {fuel : Nat}
    (hf : equalFuel s ≤ fuel) : equal fuel s l r ≠ .diverge :=
  Marwood.Store.equal_total hsh hl hr hf

/-- T06.3 and T06.2 (`equalB_noPanic`) together -/
theorem equalB_terminates (hsh : s.Shaped) (hs : s.WF) (hv : ∀ v ∈ args, v.isValue = true)
    (ha : ∀ v ∈ args, VCell.Valid s v) {fuel : Nat} (hf : equalFuel s ≤ fuel) :
    (∃ r, equalB fuel s args = .ok r) ∨ (∃ e, equalB fuel s args = .err e) := by
  have hp := equalB_noPanic fuel hs ha
  have hd : equalB fuel s args ≠ .diverge := by
    unfold equalB
    split
    · rename_i a b
      exact bind_ne_diverge (Marwood.Store.equal_total hsh (hv b (by simp)) (hv a (by simp)) hf) (fun _ _ => by simp)
    · simp
  cases h : equalB fuel s args with
  | ok r => exact .inl ⟨r, rfl⟩
  | err e => exact .inr ⟨e, rfl⟩
  | panic m => exact absurd h (hp m)
  | diverge => exact absurd h hd

theorem circ_shaped : circ.Shaped ∧ circ2.Shaped := ⟨⟨by decide, by decide⟩, ⟨by decide, by decide⟩⟩

example : equal (equalFuel circ) circ (.ptr 1) (.ptr 2) ≠ .diverge :=
  equal_total circ_shaped.1 rfl rfl (Nat.le_refl _)

/-- **T06.3, `list?` after 3d7bbb6: termination on every store**, circular or not: `2·|cells| + 2` iterations of the
    repaired loop are enough. `ProperList` (the cdr chain reaches `()`) is inductive: a circular chain is not a proper
    list. Floyd / pigeonhole: `Lemmas/TotalListP.lean`. -/
theorem isListTH_total (hs : s.WF) {x : VCell} (hx : VCell.Valid s x) {fuel : Nat}
    (hf : 2 * s.cells.length + 2 ≤ fuel) :
    ∃ b, isListTH fuel s [x] = .ok (s, .bool b) ∧ (b = true ↔ ProperList s x) :=
  Marwood.Store.isListTH_total hs hx hf

theorem isListTH_terminates (hs : s.WF) (ha : ∀ v ∈ args, VCell.Valid s v) {fuel : Nat}
    (hf : 2 * s.cells.length + 2 ≤ fuel) :
    (∃ b, isListTH fuel s args = .ok (s, .bool b)) ∨ isListTH fuel s args = .err .arity :=
  Marwood.Store.isListTH_terminates hs ha hf

/-- wild references included: those panic, they do not hang -/
theorem isListTH_never_diverges (s : Store) (args : List VCell) {fuel : Nat}
    (hf : 2 * s.cells.length + 2 ≤ fuel) : isListTH fuel s args ≠ .diverge :=
  Marwood.Store.isListTH_never_diverges s args hf

example : ∃ b, isListTH 12 circ [.ptr 3] = .ok (circ, .bool b) ∧ (b = true ↔ ProperList circ (.ptr 3)) :=
  isListTH_total circ_wf (by decide) (by decide)

theorem circ_not_properList : ¬ ProperList circ (.ptr 3) := by
  obtain ⟨b, hb, hiff⟩ := isListTH_total (fuel := 12) circ_wf (x := .ptr 3) (by decide) (by decide)
  have : isListTH 12 circ [.ptr 3] = .ok (circ, .bool false) := rfl
  rw [this] at hb
  cases b with
  | false => intro h; exact absurd (hiff.mpr h) (by simp)
  | true => simp at hb

/-! ### T06.4 — every error renders -/

/-- `Display` of `Error`; the two index errors subtract with `saturating_sub` (fix 9789244) -/
theorem render_never_panics (e : ErrorV) : ∃ t, render e = .ok t := by
  cases e <;> exact ⟨_, rfl⟩

/-- the format before the fix (`.1 - 1`) panics for an index error on an empty vector or string -/
theorem renderPinned_panics : renderPinned (.invalidVectorIndex 0 0) = .panic "error.rs: len - 1" ∧
    renderPinned (.invalidStringIndex 0 0) = .panic "error.rs: len - 1" := ⟨rfl, rfl⟩

/-! ### T06.5 — the VM accepts further input after an error (C07's T07.1) -/

/-- `Quiescent`: registers and stack are those of an idle VM, so the next evaluation starts from the register
    state a fresh VM starts from (`hg`: the collector touches only the heap, as in C07) -/
theorem failed_eval_quiescent {H : Type} (ops : Vm.HeapOps H) (gc : Vm.St H → Vm.St H)
    (count : Option Nat) (fuel : Nat) (s : Vm.St H) (f : Vm.Fault) (s' : Vm.St H)
    (h : Vm.runEval ops gc count fuel s = .failed f s') (hg : Vm.GcRegs gc) :
    Marwood.Proofs.C07.Quiescent s' :=
  (Marwood.Proofs.C07.failed_eval_resets ops gc count fuel s f s' h hg).1

/-! ### T06.6 — `step` (`run_one`) does not panic in a WF machine state

`WFS` is the frame-chain invariant of C04/C05/C07; `PanicLaws` lists what it cannot see: heap-object facts, and that
the heap-side operations (closure / activation construction, vector push, the generic builtins, `eval`'s compiler) do
not panic. Excluded for every WF state: all checked subtractions (of RET, ENTER, TCALL, `ip.1 -= 1` of `apply` /
`eval` / `call/cc`, `args.len() - 1` of VARARG), the slice of `to_continuation` and the `%ip is not a procedure`
expectations. Two sites remain, `Vm.Residual`: `restore_continuation`'s `split_at_mut` (a continuation longer than the
current stack — excluded in the real VM by the temporal fact that the stack only grows, which `WFS` does not record)
and the model's fuel guard in `apply`'s list walk (a cyclic argument list; the Rust loop has no bound). -/

theorem step_panic_sites {H : Type} {ops : Vm.HeapOps H} {cl : Vm.CodeLaws ops} (pl : Vm.PanicLaws cl)
    {s : Vm.St H} {K : List Vm.FDesc} (hw : Vm.WFS cl s K) (m : String) (h : Vm.step ops s = .panic m) :
    m = "restore_continuation: split_at_mut out of range" ∨ m = "apply: list longer than fuel (cyclic list)" :=
  Vm.step_pin pl hw m h

theorem step_never_panics {H : Type} {ops : Vm.HeapOps H} {cl : Vm.CodeLaws ops} (pl : Vm.PanicLaws cl)
    {s : Vm.St H} {K : List Vm.FDesc} (hw : Vm.WFS cl s K)
    (hres : ∀ m, Vm.Residual m → Vm.step ops s ≠ .panic m) : ∀ m, Vm.step ops s ≠ .panic m :=
  fun m h => Vm.step_noPanic pl hw hres m h

/-- the toy instance of C04/C05/C07 -/
example (k : Nat) (s' : Vm.St Unit) (h : Vm.Toy.runK k (Vm.prepare Vm.Toy.idle 1) = some s') (m : String)
    (hp : Vm.step Vm.Toy.ops s' = .panic m) : Vm.Residual m :=
  Vm.Toy.runK_pin k _ s' [] Vm.Toy.wf_start1 h m hp

/-- `Gen.builtins` is regenerated from `vm/builtin/*.rs` on every run; a change of the registry makes this theorem
    fail to elaborate -/
theorem builtins_table_size : Marwood.Gen.builtins.length = 142 := by decide +kernel

theorem builtins_table_windows :
    (Marwood.Gen.builtins.all fun e => match e.2.2 with | some mx => decide (e.2.1 ≤ mx) | none => true) = true := by
  decide +kernel

/-- the arity windows the models above pattern-match on are the regenerated ones -/
theorem builtins_table_windows_modelled :
    Marwood.Gen.builtins.lookup "vector-copy!" = some (3, some 5) ∧
    Marwood.Gen.builtins.lookup "vector-copy" = some (1, some 3) ∧
    Marwood.Gen.builtins.lookup "make-vector" = some (1, some 2) ∧
    Marwood.Gen.builtins.lookup "make-string" = some (1, some 2) ∧
    Marwood.Gen.builtins.lookup "string-fill!" = some (2, some 4) ∧
    Marwood.Gen.builtins.lookup "string-copy" = some (1, some 3) ∧
    Marwood.Gen.builtins.lookup "string->list" = some (1, some 3) ∧
    Marwood.Gen.builtins.lookup "list?" = some (1, some 1) ∧
    Marwood.Gen.builtins.lookup "equal?" = some (2, some 2) ∧
    Marwood.Gen.builtins.lookup "append" = some (0, none) := by
  decide +kernel

example : Outcome.NoPanic (equalB 1000 circ [.ptr 2, .ptr 1]) :=
  equalB_noPanic 1000 circ_wf (by decide)

example : Outcome.NoPanic (isListTH 1000 circ [.ptr 3]) :=
  isListTH_noPanic 1000 circ_wf (by decide)

example : Store.empty.WF := ⟨by decide, by decide⟩
example : Outcome.NoPanic (vectorRef Store.empty [.num 3, .bool true]) :=
  vectorRef_noPanic ⟨by decide, by decide⟩ (by decide)

/-- the property's largest request -/
example : Outcome.NoPanic (makeVector Store.empty [.num 1000000]) :=
  makeVector_noPanic ⟨by decide, by decide⟩ (by decide)
    (by intro n k hn hg; simp at hn; subst hn; simp [Store.get] at hg; omega)

/-! ### T06.6 on the concrete machine

Over the concrete heap `CodeLaws` is the theorem `concreteLaws ext ecl` (its heap invariant `CInv`: every lambda cell
passes the bytecode verifier), and in a `CalleeOk` state the guarded machine's `step` is the concrete machine's.
`PanicLaws` stays a hypothesis of `step_panic_sites_concrete`: its heap-object fields (`vararg_info`, the slot-index
`expect`s of CLOSURE's / ENTER's environment construction, the unmodelled builtins) are not consequences of `CInv`,
except `isLambda_code`. The next section proves them, at the arguments each instruction uses, from `NPInv`, `EnvSlots`
and the law `ExtNoPanic`. -/

theorem concrete_isLambda_code (ext : Vm.Concrete.ExtOps) (ecl : Vm.Concrete.ExtCodeLaws ext)
    {h : Vm.Concrete.CHeap} {l : Nat} {bc : List Vm.VCell}
    (hc : (Vm.Concrete.concreteLaws ext ecl).code h l = some bc) :
    (Vm.Concrete.gops ext).isLambda h l = true := by
  obtain ⟨lam, h1, _⟩ := Vm.Concrete.codeC_some hc
  show (Vm.Concrete.lambdaAt h l).isSome = true
  rw [Vm.Concrete.lambdaAt_iff.mpr h1]; rfl

theorem step_panic_sites_concrete (ext : Vm.Concrete.ExtOps) (ecl : Vm.Concrete.ExtCodeLaws ext)
    (pl : Vm.PanicLaws (Vm.Concrete.concreteLaws ext ecl)) {s : Vm.St Vm.Concrete.CHeap} {K : List Vm.FDesc}
    (hok : Vm.Concrete.CalleeOk s) (hw : Vm.WFS (Vm.Concrete.concreteLaws ext ecl) s K) (m : String)
    (h : Vm.step (Vm.Concrete.concreteOps ext) s = .panic m) :
    m = "restore_continuation: split_at_mut out of range" ∨ m = "apply: list longer than fuel (cyclic list)" := by
  rw [← Vm.Concrete.step_gops ext hok] at h
  exact Vm.step_pin pl hw m h

/-! ### T06.6 for the concrete machine: `run_one` never panics on reachable states

`machine ext force` is `run_one` over `concreteOps ext` with `run_gc` = `cgc force`. `CalleeOk` holds in every state
reachable from a `VmOkP` state, and:

* `PanicLaws`' facts about modelled operations are theorems at the arguments the instruction hands the operation:
  VARARG's `args.len() - 1` from the heap clause `HeapNP` (a lambda whose code contains VARARG has a formal); CLOSURE's
  environment construction (no `IofArgument` source, so `load_arg` is never evaluated; `IofEnvironment(k)` within the
  current environment); ENTER's (`argc - arg` from `HeapNP`, `bp - (argc - arg)` from WF-stack, one closure-environment
  slot per environment-map entry). VPUSH, the generic builtins (T06.2's subject) and `eval`'s compiler are the
  parameter `ExtNoPanic ext`.
* the residual site `restore_continuation: split_at_mut out of range` is excluded: `ContFits` (every continuation
  cell's stack copy is no longer than the current stack) is an invariant — `call/cc` copies `stack[0..=sp]`, nothing
  else creates a continuation, the stack never shrinks, the collector touches neither, `Stack::clear` and the error
  reset keep the capacity.
* the residual site `apply: list longer than fuel` is the MODEL's guard (100000), not a panic site of `run_one`; it is
  the one exception in the statements, which spell its message (`Good.applyGuard`) out so that they can be read
  without unfolding anything; `apply_guard_only_on_long_lists` characterises it.

`EnvSlots s`, asked of the state examined, is the two slot-index `expect`s of `LexicalEnvironment::get/put` in CLOSURE /
ENTER at the instruction under `ip`: the current environment has a slot for every `IofEnvironment` index of the lambda
being closed over; the closure environment has one per environment-map entry. It relates `ep` and closure environments
to code objects through the frame chain, which neither WF-stack nor the heap invariants record; the stream
`safe-side-conditions` evaluates it on every real state (`np-env-slots`), and the section after this one derives it
from the invariant `EnvInv`. -/

section NoPanicMachine
open Marwood.Vm Marwood.Vm.Concrete Marwood.Lemmas.Sim Marwood.Lemmas.Good

theorem concrete_vararg_info (ext : ExtOps) {h : CHeap} (hn : HeapNP h) {l : Nat} {lam : CLambda}
    (hl : lambdaAt h l = some lam) {o : Nat} (ho : lam.bc[o]? = some (.opcode .varArg)) :
    ∃ info, (concreteOps ext).lambdaInfo h l = some info ∧ 1 ≤ info.argc := by
  refine ⟨⟨lam.args.length⟩, ?_, (hn.cell (lambdaAt_iff.mp hl)).vararg (List.mem_of_getElem? ho)⟩
  show (lambdaAt h l).map (fun lam => (⟨lam.args.length⟩ : LambdaInfo)) = _
  rw [hl]; rfl

theorem concrete_makeClosure_np {h : CHeap} {lam ep bp : Nat} {st : Stack}
    (hno : ∀ l, lambdaAt h lam = some l → ∀ x ∈ l.envmap, ∀ a, x.2 ≠ Source.iofArg a)
    (hk : ∀ l ss, lambdaAt h lam = some l → envAt h ep = some ss → ∀ x ∈ l.envmap, ∀ k,
      x.2 = Source.iofEnv k → k < ss.length) :
    ∀ m, makeClosure h lam ep bp st ≠ .panic m :=
  fun m hp => makeClosure_np hno hk m hp

theorem concrete_makeActivation_np {h : CHeap} {lam env bp : Nat} {st : Stack}
    (hlen : ∀ l ss, lambdaAt h lam = some l → envAt h env = some ss → l.envmap.length ≤ ss.length)
    (harg : ∀ l, lambdaAt h lam = some l → ∀ x ∈ l.envmap, ∀ a, x.2 = Source.arg a → a ≤ l.args.length)
    (hb : ∀ l, lambdaAt h lam = some l → l.args.length ≤ bp) :
    ∀ m, makeActivation h lam env bp st ≠ .panic m :=
  fun m hp => makeActivation_np hlen harg hb m hp

/-- `NPInv` is `ContFits` and the lambda clause `HeapNP` -/
theorem contFits_step (ext : ExtOps) (en : ExtNoPanic ext) {s s' : St CHeap} {b : Bool}
    (hs : step (concreteOps ext) s = .ok (s', b)) (i : NPInv s) : NPInv s' := npinv_step en hs i

/-- **T06.6: `step` never panics on a state reachable from a good initial state of the concrete machine** —
    except at the model's own fuel guard in `apply`. The `Ext…` hypotheses are the laws of the unmodelled parts, `VmOkP`
    the bundled invariant of C03/C04/C07/C13, `SizeBounded` the physical size bound (every reachable heap has at most
    `2^62` cells); only `EnvSlots` concerns the state examined. -/
theorem step_never_panics_machine (ext : ExtOps) (ecl : ExtCodeLawsV ext) (force : Bool) (el : ExtLaws ext)
    (eg : ExtGood ext) (ep : ExtProc ext) (en : ExtNoPanic ext) {s0 : St CHeap} (h0 : VmOkP ext ecl s0)
    (n0 : NPInv s0) (sb : SizeBounded (machine ext force) s0) {s : St CHeap}
    (hr : Reaches (machine ext force) s0 s) (es : EnvSlots s) (m : String)
    (hp : step (concreteOps ext) s = .panic m) : m = "apply: list longer than fuel (cyclic list)" :=
  step_never_panics_reachable force el eg ep en ⟨h0, n0⟩ sb hr es m hp

/-- **the guard of `apply` fires only on a list of 100000 or more pairs, or a cyclic one**: the cdr chain from the
    stack cell under `apply`'s argument count runs through at least 100000 pair cells (`LongChain`); a proper list with
    fewer elements (`EndsWithin`) never trips it (`pushList_ends_np`) -/
theorem apply_guard_only_on_long_lists (ext : ExtOps) (ecl : ExtCodeLawsV ext) (force : Bool) (el : ExtLaws ext)
    (eg : ExtGood ext) (ep : ExtProc ext) (en : ExtNoPanic ext) {s0 : St CHeap} (h0 : VmOkP ext ecl s0)
    (n0 : NPInv s0) (sb : SizeBounded (machine ext force) s0) {s : St CHeap}
    (hr : Reaches (machine ext force) s0 s) (es : EnvSlots s) (m : String)
    (hp : step (concreteOps ext) s = .panic m) :
    LongChain s.heap 100000 (deref s.heap (s.stack.cellAt (s.stack.sp - 1))) := by
  obtain ⟨h1, h2⟩ := vmOkNP_reaches force el eg ep en ⟨h0, n0⟩ sb s hr
  exact (step_apply_guard_long en h1 h2 es m hp).2

theorem longChain_not_endsWithin {h : CHeap} : ∀ {k : Nat} {v : Vm.VCell}, LongChain h k v → ¬ EndsWithin h k v := by
  intro k v hl
  induction hl with
  | zero v => intro he; cases he
  | pair car cdr _ ih => intro he; cases he with | pair _ _ hc => exact ih hc

/-- `run_count`, any budget -/
theorem run_never_panics_machine (ext : ExtOps) (ecl : ExtCodeLawsV ext) (force : Bool) (el : ExtLaws ext)
    (eg : ExtGood ext) (ep : ExtProc ext) (en : ExtNoPanic ext) {s0 : St CHeap} (h0 : VmOkP ext ecl s0)
    (n0 : NPInv s0) (sb : SizeBounded (machine ext force) s0) (esl : EnvSlotsAlong (machine ext force) s0)
    (count : Option Nat) (fuel c : Nat) {m : String} {sf : St CHeap}
    (hr : runLoop (machine ext force) count fuel c s0 = .error (.panic m) sf) :
    m = "apply: list longer than fuel (cyclic list)" :=
  runLoop_never_panics_machine force el eg ep en ⟨h0, n0⟩ sb esl count fuel c hr

/-- one evaluation: `run_count` with its epilogues -/
theorem eval_never_panics_machine (ext : ExtOps) (ecl : ExtCodeLawsV ext) (force : Bool) (el : ExtLaws ext)
    (eg : ExtGood ext) (ep : ExtProc ext) (en : ExtNoPanic ext) {s0 : St CHeap} (h0 : VmOkP ext ecl s0)
    (n0 : NPInv s0) (sb : SizeBounded (machine ext force) s0) (esl : EnvSlotsAlong (machine ext force) s0)
    (count : Option Nat) (fuel : Nat) {m : String} {s1 : St CHeap}
    (hr : runEval (concreteOps ext) (cgc force) count fuel s0 = .failed (.panic m) s1) :
    m = "apply: list longer than fuel (cyclic list)" :=
  runEval_never_panics_machine force el eg ep en ⟨h0, n0⟩ sb esl count fuel hr

/-- the faults of a history of evaluations (`runHistory` of C07 returns the final state only) -/
def histFaults (ext : ExtOps) (force : Bool) : List C07.Job → St CHeap → List Fault
  | [], _ => []
  | j :: js, s =>
    match runEval (concreteOps ext) (cgc force) none j.fuel (prepare s j.entry) with
    | .value s' => histFaults ext force js s'
    | .failed f s' => f :: histFaults ext force js s'
    | .paused s' => histFaults ext force js s'
    | .fuel => histFaults ext force js s

/-- every job of the history starts — `ip` pointed at its entry lambda — in a state satisfying `VmOkP`, within the size
    bound, the slot clause along its run. `prepare_eval` is outside `runHistory`, so `VmOkP` is asked of every prepared
    state (section `FromInitial` derives it from `Installs`); `NPInv` is asked of the first state only: it is carried
    from job to job. -/
def HistGood (ext : ExtOps) (ecl : ExtCodeLawsV ext) (force : Bool) : List C07.Job → St CHeap → Prop
  | [], _ => True
  | j :: js, s =>
    (VmOkP ext ecl (prepare s j.entry) ∧ SizeBounded (machine ext force) (prepare s j.entry) ∧
      EnvSlotsAlong (machine ext force) (prepare s j.entry)) ∧
    match runEval (concreteOps ext) (cgc force) none j.fuel (prepare s j.entry) with
    | .value s' => HistGood ext ecl force js s'
    | .failed _ s' => HistGood ext ecl force js s'
    | .paused s' => HistGood ext ecl force js s'
    | .fuel => HistGood ext ecl force js s

/-- **no history of evaluations, succeeding or failing, makes the modelled VM panic**: continuation objects captured in
    one evaluation and kept (in a global, a closure) fit the stack of every later evaluation because `Stack::clear` and
    the error reset keep the capacity -/
theorem history_never_panics_machine (ext : ExtOps) (ecl : ExtCodeLawsV ext) (force : Bool) (el : ExtLaws ext)
    (eg : ExtGood ext) (ep : ExtProc ext) (en : ExtNoPanic ext) :
    ∀ (js : List C07.Job) (s : St CHeap), NPInv s → HistGood ext ecl force js s →
      ∀ f ∈ histFaults ext force js s, ∀ m, f = Fault.panic m → m = "apply: list longer than fuel (cyclic list)" := by
  intro js
  induction js with
  | nil => intro s _ _ f hf; cases hf
  | cons j js ih =>
    intro s n0 hg f hf m hm
    obtain ⟨⟨hv, sb, esl⟩, hrest⟩ := hg
    have n1 : NPInv (prepare s j.entry) := npinv_prepare_entry n0 j.entry
    obtain ⟨k1, k2, k3⟩ := npinv_runEval force en n1 none j.fuel
    simp only [histFaults] at hf
    cases hr : runEval (concreteOps ext) (cgc force) none j.fuel (prepare s j.entry) with
    | value s' =>
      rw [hr] at hf hrest
      exact ih s' (k1 s' hr) hrest f hf m hm
    | failed f' s' =>
      rw [hr] at hf hrest
      rcases List.mem_cons.mp hf with e | hf'
      · subst e; subst hm
        exact runEval_never_panics_machine force el eg ep en ⟨hv, n1⟩ sb esl none j.fuel hr
      · exact ih s' (k2 f' s' hr) hrest f hf' m hm
    | paused s' =>
      rw [hr] at hf hrest
      exact ih s' (k3 s' hr) hrest f hf m hm
    | fuel =>
      rw [hr] at hf hrest
      exact ih s n0 hrest f hf m hm

/-- the always-failing parameter set of C13 -/
theorem failingExt_noPanic : ExtNoPanic C13.failingExt where
  builtinEval_np := fun _ _ _ _ _ => pin_err _
  compileEval_np := fun _ _ _ _ => pin_err _
  vectorPush_np := fun _ _ _ _ _ _ => pin_err _
  builtinEval_cont := fun _ h => (by cases h)
  compileEval_cont := fun _ h => (by cases h)
  vectorPush_cont := fun _ h => (by cases h)
  builtinEval_lam := fun h => (by cases h)
  compileEval_lam := fun h => (by cases h)
  vectorPush_lam := fun h => (by cases h)

open Marwood.Lemmas.Good.Demo in
example (count : Option Nat) (fuel c : Nat) (m : String) (sf : St CHeap) :
    runLoop (machine C13.failingExt false) count fuel c (sHalt 0) ≠ .error (.panic m) sf := by
  intro hr
  have := run_never_panics_machine C13.failingExt C13.failingExt_codeLawsV false C13.failingExt_laws
    C13.failingExt_good C13.failingExt_proc failingExt_noPanic (sHalt_vmOkP _ _) (sHalt_npinv 0)
    (sHalt_sizeBounded _) (sHalt_envSlotsAlong _) count fuel c hr
  subst this
  -- the demo program is `HALT`: it has no `apply`
  obtain ⟨hreach, hst⟩ := (runLoop_ends (ext := C13.failingExt) false count fuel c (sHalt 0)).1 _ _ hr
  rcases sHalt_reaches _ hreach with h | h <;> subst h <;> cases hst

open Marwood.Lemmas.Good.Demo in
example : NPInv (sHalt 0) ∧ EnvSlots (sHalt 0) ∧ ExtNoPanic C13.failingExt :=
  ⟨sHalt_npinv 0, sHalt_envSlots 0 (.inl rfl), failingExt_noPanic⟩

end NoPanicMachine

/-! ### `EnvSlots` follows from the invariant `EnvInv`: T06.6 with no hypothesis about the state examined

`EnvInv` is `TInv` and `FInv`:

* `FInv` ("fit") — every closure cell's environment has a slot for every entry of its lambda's environment map; every
  adjacent `EnvironmentPointer(e), InstructionPointer(l, _)` pair of the live stack and of every continuation object's
  stack copy fits (`e` covers `l`'s map), so does the `(ep, ip.0)` a continuation object saved, and the current
  `(ep, ip.0)` outside a procedure prologue (in a prologue `acc` still holds the callee whose code runs); where a code
  object has `MOVIMM <Ptr(p)> %acc; CLOSURE`, the `IofEnvironment` indices of the lambda in cell `p` are below the length
  of that code object's own map.
* `TInv` ("no value leads to a capturing lambda") — the verifier does not know what `acc` holds at a CLOSURE or a
  bare-lambda CALL: verified bytecode could store the pointer `MOVIMM` loaded in a global and close over it, or call it
  bare, in a foreign environment (the model and `run_one` alike would then index out of the environment). Compiled code
  never does: a pointer to a lambda with a non-empty environment map occurs only as the immediate of
  `MOVIMM … %acc; CLOSURE` and, between those two instructions, in `acc` (same traversal as "no value leads to entry
  code").

Both are preserved by every opcode, the collector, the epilogues and `prepare_eval` under `ExtEnvInv ext` /
`CompEnvInv comp`, the law of the parameters of the model. Executable form: `Vm/EnvInvCheck.lean: stateEnvB`, evaluated on
every real state by the stream `safe-side-conditions` (clauses `env-*`). The `_closed` theorems are the T06.6 theorems
of the previous section with `EnvInv` of the initial state in place of `EnvSlots` / `EnvSlotsAlong`. -/

section NoPanicMachineClosed
open Marwood.Vm Marwood.Vm.Concrete Marwood.Lemmas.Sim Marwood.Lemmas.Good

theorem envSlots_of_envInv (ext : ExtOps) (ecl : ExtCodeLawsV ext) {s : St CHeap} (h : VmOkNP ext ecl s)
    (e : EnvInv s) : EnvSlots s := Marwood.Lemmas.Good.envSlots_of_envInv h.1 e

theorem envInv_step (ext : ExtOps) (ecl : ExtCodeLawsV ext) (eg : ExtGood ext) (ee : ExtEnvInv ext)
    {s s' : St CHeap} {b : Bool} (h : VmOkP ext ecl s) (e : EnvInv s) (hs : step (concreteOps ext) s = .ok (s', b))
    (sm' : Small s'.heap) : EnvInv s' := Marwood.Lemmas.Good.envInv_step eg ee h e hs sm'

theorem envInv_gc (ext : ExtOps) (ecl : ExtCodeLawsV ext) (force : Bool) {s : St CHeap} (h : VmOkP ext ecl s)
    (e : EnvInv s) : EnvInv (cgc force s) := Marwood.Lemmas.Good.envInv_gc force h e

theorem envInv_onDone {s : St CHeap} (e : EnvInv s) : EnvInv (onDone s) := Marwood.Lemmas.Good.envInv_onDone e

theorem envInv_onError {s : St CHeap} (g : HG s.heap) (e : EnvInv s) : EnvInv (onError s) :=
  Marwood.Lemmas.Good.envInv_onError g e

theorem envInv_prepare {comp : CHeap → Vm.VCell → Vm.Outcome (CHeap × Vm.VCell)} (ce : CompEnvInv comp) {s s' : St CHeap}
    {d : Vm.VCell} (g : HG s.heap) (g' : HG s'.heap) (e : EnvInv s) (hacc : s.acc = .undefined)
    (hst : ∀ c ∈ s.stack.cells, c = Vm.VCell.undefined) (hd : addrFree d = true)
    (hp : prepareEval comp s d = .ok s') : EnvInv s' :=
  Marwood.Lemmas.Good.envInv_prepare ce g g' e hacc hst hd hp

/-- **T06.6 with no hypothesis about the state examined**: invariants of the INITIAL state, laws of the unmodelled
    parts and the physical size bound only -/
theorem step_never_panics_machine_closed (ext : ExtOps) (ecl : ExtCodeLawsV ext) (force : Bool) (el : ExtLaws ext)
    (eg : ExtGood ext) (ep : ExtProc ext) (en : ExtNoPanic ext) (ee : ExtEnvInv ext) {s0 : St CHeap}
    (h0 : VmOkP ext ecl s0) (n0 : NPInv s0) (e0 : EnvInv s0) (sb : SizeBounded (machine ext force) s0) {s : St CHeap}
    (hr : Reaches (machine ext force) s0 s) (m : String)
    (hp : step (concreteOps ext) s = .panic m) : m = "apply: list longer than fuel (cyclic list)" :=
  step_never_panics_reachable_closed force el eg ep en ee ⟨h0, n0⟩ e0 sb hr m hp

theorem run_never_panics_machine_closed (ext : ExtOps) (ecl : ExtCodeLawsV ext) (force : Bool) (el : ExtLaws ext)
    (eg : ExtGood ext) (ep : ExtProc ext) (en : ExtNoPanic ext) (ee : ExtEnvInv ext) {s0 : St CHeap}
    (h0 : VmOkP ext ecl s0) (n0 : NPInv s0) (e0 : EnvInv s0) (sb : SizeBounded (machine ext force) s0)
    (count : Option Nat) (fuel c : Nat) {m : String} {sf : St CHeap}
    (hr : runLoop (machine ext force) count fuel c s0 = .error (.panic m) sf) :
    m = "apply: list longer than fuel (cyclic list)" :=
  runLoop_never_panics_machine_closed force el eg ep en ee ⟨h0, n0⟩ e0 sb count fuel c hr

theorem eval_never_panics_machine_closed (ext : ExtOps) (ecl : ExtCodeLawsV ext) (force : Bool) (el : ExtLaws ext)
    (eg : ExtGood ext) (ep : ExtProc ext) (en : ExtNoPanic ext) (ee : ExtEnvInv ext) {s0 : St CHeap}
    (h0 : VmOkP ext ecl s0) (n0 : NPInv s0) (e0 : EnvInv s0) (sb : SizeBounded (machine ext force) s0)
    (count : Option Nat) (fuel : Nat) {m : String} {s1 : St CHeap}
    (hr : runEval (concreteOps ext) (cgc force) count fuel s0 = .failed (.panic m) s1) :
    m = "apply: list longer than fuel (cyclic list)" :=
  runEval_never_panics_machine_closed force el eg ep en ee ⟨h0, n0⟩ e0 sb count fuel hr

/-- `HistGood` with `EnvInv` of each prepared state in place of the slot clause: nothing is asked along the runs -/
def HistGoodE (ext : ExtOps) (ecl : ExtCodeLawsV ext) (force : Bool) : List C07.Job → St CHeap → Prop
  | [], _ => True
  | j :: js, s =>
    (VmOkP ext ecl (prepare s j.entry) ∧ SizeBounded (machine ext force) (prepare s j.entry) ∧
      EnvInv (prepare s j.entry)) ∧
    match runEval (concreteOps ext) (cgc force) none j.fuel (prepare s j.entry) with
    | .value s' => HistGoodE ext ecl force js s'
    | .failed _ s' => HistGoodE ext ecl force js s'
    | .paused s' => HistGoodE ext ecl force js s'
    | .fuel => HistGoodE ext ecl force js s

theorem histGood_of_histGoodE (ext : ExtOps) (ecl : ExtCodeLawsV ext) (force : Bool) (el : ExtLaws ext)
    (eg : ExtGood ext) (ep : ExtProc ext) (en : ExtNoPanic ext) (ee : ExtEnvInv ext) :
    ∀ (js : List C07.Job) (s : St CHeap), NPInv s → HistGoodE ext ecl force js s → HistGood ext ecl force js s := by
  intro js
  induction js with
  | nil => intro s _ _; trivial
  | cons j js ih =>
    intro s n0 hg
    obtain ⟨⟨hv, sb, e0⟩, hrest⟩ := hg
    have n1 : NPInv (prepare s j.entry) := npinv_prepare_entry n0 j.entry
    obtain ⟨k1, k2, k3⟩ := npinv_runEval force en n1 none j.fuel
    refine ⟨⟨hv, sb, envSlotsAlong_of_envInv force el eg ep en ee ⟨hv, n1⟩ e0 sb⟩, ?_⟩
    cases hr : runEval (concreteOps ext) (cgc force) none j.fuel (prepare s j.entry) with
    | value s' => rw [hr] at hrest; exact ih s' (k1 s' hr) hrest
    | failed f' s' => rw [hr] at hrest; exact ih s' (k2 f' s' hr) hrest
    | paused s' => rw [hr] at hrest; exact ih s' (k3 s' hr) hrest
    | fuel => rw [hr] at hrest; exact ih s n0 hrest

theorem history_never_panics_machine_closed (ext : ExtOps) (ecl : ExtCodeLawsV ext) (force : Bool) (el : ExtLaws ext)
    (eg : ExtGood ext) (ep : ExtProc ext) (en : ExtNoPanic ext) (ee : ExtEnvInv ext) :
    ∀ (js : List C07.Job) (s : St CHeap), NPInv s → HistGoodE ext ecl force js s →
      ∀ f ∈ histFaults ext force js s, ∀ m, f = Fault.panic m → m = "apply: list longer than fuel (cyclic list)" :=
  fun js s n0 hg => history_never_panics_machine ext ecl force el eg ep en js s n0
    (histGood_of_histGoodE ext ecl force el eg ep en ee js s n0 hg)

theorem failingExt_envInv : ExtEnvInv C13.failingExt where
  taint := ⟨fun _ _ _ _ _ _ _ _ h => (by cases h), fun _ _ _ _ _ _ _ h => (by cases h),
    fun _ _ _ _ _ _ _ _ h => (by cases h)⟩
  fit := ⟨fun _ _ _ _ _ _ _ _ _ _ h => (by cases h), fun _ _ _ _ _ _ _ _ _ h => (by cases h),
    fun _ _ _ _ _ _ _ _ _ _ h => (by cases h)⟩

open Marwood.Lemmas.Good.Demo in
example (count : Option Nat) (fuel c : Nat) (m : String) (sf : St CHeap)
    (hr : runLoop (machine C13.failingExt false) count fuel c (sHalt 0) = .error (.panic m) sf) :
    m = "apply: list longer than fuel (cyclic list)" :=
  run_never_panics_machine_closed C13.failingExt C13.failingExt_codeLawsV false C13.failingExt_laws
    C13.failingExt_good C13.failingExt_proc failingExt_noPanic failingExt_envInv (sHalt_vmOkP _ _) (sHalt_npinv 0)
    (sHalt_envInv 0 (.inl rfl)) (sHalt_sizeBounded _) count fuel c hr

end NoPanicMachineClosed

/-- the list-builtin demo state: entry code, a top-level lambda, pairs, globals -/
example : Marwood.Lemmas.Good.EnvInv Marwood.Lemmas.Good.LDemo.sDemo := Marwood.Lemmas.Good.LDemo.sDemo_envInv

/-! ### T06.6 for whole sessions, from the invariants of the INITIAL state only

`HistGoodE` asks `VmOkP`, `EnvInv` and `SizeBounded` of every state in which a job starts, because `prepare_eval` —
compiler and loader — is outside `runHistory`. With the loader relation `Installs` / `InstallsGarbage` (checked against
every real `prepare_eval` of the stream `prepare-installs` by the executable checker `installsB`, proved sound) they
are consequences. For `EnvInv` the clauses about a code object — no MOVIMM / PUSHIMM immediate points to a capturing
lambda except at `MOVIMM _ %acc; CLOSURE`; the lambda loaded at such a site indexes this object's map; no PUSHIMM
immediate is an `InstructionPointer` — are theorems about the compiler model's output (`compileTop_envCode`)
transported through the loading relation; the entry lambda and the top-level lambda capture nothing.
`HistInstalls` is the history relation with `prepare_eval` as a step of its own (accepted form: `Installs`, then
`runEval`; rejected form: `InstallsGarbage`, then the collection of the `Err` arm). -/

section FromInitial
open Marwood.Vm Marwood.Vm.Concrete Marwood.Lemmas.Sim Marwood.Lemmas.Good

/-- **`prepare_eval` re-establishes the slot invariant** (re-export of `Lemmas/PrepareEnv.lean`) -/
theorem prepare_envInv {e : Datum} {fuel : Nat} {s s' : St CHeap} {entry : Nat} (i : IdleOk s) (ev : EnvInv s)
    (ha : neE s.heap s.acc = true) (st : Installs e fuel s s' entry) (sm : Small s'.heap) :
    EnvInv (prepare s' entry) := Marwood.Lemmas.Good.prepare_envInv i ev ha st sm

/-- **T06.6 for whole sessions: no history of `eval` calls — each with its `prepare_eval` — makes the modelled VM
    panic**, except through `apply`'s list-length guard. Of the INITIAL state: `IdleOk` (the invariant of the idle
    machine, with an empty stack), `NPInv`, `EnvInv`, and `a0`: `acc` does not point to a capturing lambda
    (`acc = Undefined` in a fresh VM). `RecSized` is the physical size bound. The laws of the unmodelled builtins are
    theorems for `listExtWith` (`history_never_panics_from_initial_listExt`). No hypothesis about any later state. -/
theorem history_never_panics_from_initial (ext : ExtOps) (ecl : ExtCodeLawsV ext) (force : Bool) (el : ExtLaws ext)
    (eg : ExtGood ext) (ep : ExtProc ext) (en : ExtNoPanic ext) (ee : ExtEnvInv ext) {s0 sf : St CHeap}
    {recs : List EvRec} (hist : HistInstalls ext force s0 recs sf) (i0 : IdleOk s0) (n0 : NPInv s0) (e0 : EnvInv s0)
    (a0 : neE s0.heap s0.acc = true) (sz : ∀ rc ∈ recs, RecSized ext force rc) :
    ∀ f ∈ recFaults recs, ∀ m, f = Fault.panic m → m = "apply: list longer than fuel (cyclic list)" :=
  history_never_panics_installs_closed ecl force el eg ep en ee hist i0 n0 e0 a0 sz

open Marwood.Lemmas.Good.Demo in
/-- the `prepare_eval` of the form `#t` on the demo machine -/
example : EnvInv (prepare sT 2) :=
  prepare_envInv sHalt_idleOk (sHalt_envInv 0 (.inl rfl)) rfl demo_installs demo_small

open Marwood.Lemmas.Good.Demo Marwood.Proofs.C13 in
/-- a history in which `prepare_eval` allocated: the loader steps of `demo_installs` (two code objects) taken as what a
    rejected form left behind, then the collection of the `Err` arm -/
example : ∀ f ∈ recFaults [EvRec.rejected sT], ∀ m, f = Fault.panic m →
    m = "apply: list longer than fuel (cyclic list)" :=
  history_never_panics_from_initial failingExt failingExt_codeLawsV false failingExt_laws failingExt_good
    failingExt_proc failingExt_noPanic failingExt_envInv
    (HistInstalls.rejected demo_garbage (.nil _)) sHalt_idleOk (sHalt_npinv 0) (sHalt_envInv 0 (.inl rfl)) rfl
    (by
      intro rc hrc
      have : rc = .rejected sT := by simpa using hrc
      subst this
      exact ⟨demo_small, by unfold Small; decide +kernel⟩)

end FromInitial

end Marwood.Proofs.C06
