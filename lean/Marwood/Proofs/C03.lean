import Marwood.Lemmas.HeapWFOps
import Marwood.Heap.Check
import Marwood.Lemmas.SimObs
import Marwood.Proofs.C13
import Marwood.Lemmas.VpushAcc
/-!
# C03 — garbage collection never reclaims a live object (and what the unobservability proof needs)

Model: `Marwood.Heap` (`Heap`, `Gc`), specification: `Marwood.Spec.Reach`.
`fixed = true` is the marker after the commit "fix: mark_lambda no longer treats JMP/JNT operands as
references", `fixed = false` the marker before it; theorems that hold for both are stated for an
arbitrary flag.

T03.1 (`mark` computes reachability), T03.2 (`run_gc` keeps reachable cells), T03.3 (every heap operation and `run_gc`
preserve `WFHeap`) are about the heap model; for the marker before the fix T03.3 fails at a witness. T03.5 (collections at
any schedule of instruction boundaries are unobservable) is about the concrete machine `Vm.Concrete.machine`:
`gc_unobservable_partial` from `ExtLaws` and `Safe`; `gc_unobservable`, `_wf`, `_closed` derive `Safe` from hypotheses on
the initial state. Last: after VPUSH `%acc` holds the pointer to the vector, not the dereferenced vector (fix 43d0413).
-/
namespace Marwood.Proofs.C03
open Marwood Marwood.Heap Marwood.Spec
open Marwood.Lemmas.GcMark Marwood.Lemmas.GcSweep Marwood.Lemmas.HeapOps Marwood.Lemmas.GcSafety
open Marwood.Lemmas.HeapWF Marwood.Lemmas.HeapWFOps

/-- **T03.1** `Heap::mark` applied to a list of roots terminates and sets to `Used` exactly the cells reachable from the
roots in the marker's graph; it changes nothing else. -/
theorem mark_computes_reachable (fixed : Bool) (h : Heap) (roots : List Nat)
    (hnu : ∀ i : Nat, h.gc[i]? ≠ some GcState.used) :
    ∃ h', h.mark fixed roots = some h' ∧
      (∀ x : Nat, h'.gc[x]? = some GcState.used ↔ Reach (h.children fixed) h.gc.size roots x) ∧
      (∀ x : Nat, h'.gc[x]? ≠ some GcState.used → h'.gc[x]? = h.gc[x]?) ∧
      h'.cells = h.cells ∧ h'.free = h.free ∧ h'.symtab = h.symtab ∧ h'.chunk = h.chunk := by
  obtain ⟨h', hm⟩ := mark_total fixed h roots
  have ms := mark_spec fixed h roots h' hnu hm
  refine ⟨h', hm, ms.used_iff, ?_, ms.cells, ms.free, ms.symtab, ms.chunk⟩
  intro x hx
  rcases ms.frame x with h1 | ⟨h1, _⟩
  · exact h1
  · exact absurd h1 hx

/-- **T03.1 (fuel)** the worklist never runs out of fuel, whatever the heap contains -/
theorem mark_fuel_adequate (fixed : Bool) (h : Heap) (roots : List Nat) :
    ∃ h', h.mark fixed roots = some h' := mark_total fixed h roots

theorem runGc_fuel_adequate (fixed force : Bool) (h : Heap) (r : Roots) :
    Heap.runGc fixed force h r ≠ .ok .fuelExhausted := runGc_never_fuel fixed force h r

/-- **T03.2** after `run_gc` every cell reachable from the roots is allocated, has the content it
had, and — when it is a symbol — its name is still interned at that very cell. -/
theorem runGc_preserves_reachable (fixed force : Bool) (h : Heap) (r : Roots) (h' : Heap)
    (hsz : h.gc.size = h.cells.size) (hnu : ∀ i : Nat, h.gc[i]? ≠ some GcState.used) (hs : Shape h)
    (hrun : Heap.runGc fixed force h r = .ok (.collected h')) :
    ∀ x, Reachable fixed h (r.refs fixed) x →
      h'.gc[x]? = some GcState.allocated ∧ h'.cells[x]? = h.cells[x]? ∧
      (Interned h → h.NonFree x → ∀ name, h.cells[x]? = some (.symbol name) → h'.symLookup name = some x) := by
  intro x hx
  have gs := runGc_spec fixed force h r h' hsz hnu hs hrun
  refine ⟨gs.gc_reach x hx, gs.cells_reach x hx, ?_⟩
  intro hint hnf name hc
  have hl := (hint name x).mpr ⟨hc, hnf⟩
  rw [gs.sym name]
  split
  · rename_i hex
    obtain ⟨j, hj1, hj2, hj3⟩ := hex
    have := (hint name j).mpr ⟨hj3, Or.inl hj1⟩
    rw [hl] at this; cases this
    exact absurd hx hj2
  · exact hl

theorem runGc_skipped_id (fixed force : Bool) (h : Heap) (r : Roots) (h' : Heap)
    (hrun : Heap.runGc fixed force h r = .ok (.skipped h')) : h' = h := by
  rcases runGc_inv fixed force h r _ hrun with h1 | ⟨h1, _⟩ | ⟨_, _, _, h1, _⟩
  · cases h1; rfl
  · cases h1
  · cases h1

/-- **T03.2, for an observation.** Let `obs` be anything the machine computes from the heap and suppose it looks only at
reachable cells (`hobs`: *root sufficiency*, the premise the machine model discharges instruction by instruction). Then a
collection at this point does not change it. -/
theorem runGc_preserves_observation {α : Type} (fixed force : Bool) (h : Heap) (r : Roots) (h' : Heap)
    (obs : Heap → α)
    (hobs : ∀ h₁ h₂ : Heap, (∀ x, Reachable fixed h (r.refs fixed) x → h₂.cells[x]? = h₁.cells[x]?) → obs h₂ = obs h₁)
    (hsz : h.gc.size = h.cells.size) (hnu : ∀ i : Nat, h.gc[i]? ≠ some GcState.used) (hs : Shape h)
    (hrun : Heap.runGc fixed force h r = .ok (.collected h')) : obs h' = obs h :=
  hobs h h' fun x hx => (runGc_preserves_reachable fixed force h r h' hsz hnu hs hrun x hx).2.1

/-! ## T03.3 (repaired marker) -/

theorem new_wf (chunk : Nat) (h : Heap) (hpos : 0 < chunk) (hb : chunk ≤ 2 ^ 63)
    (hn : Heap.new chunk = .ok h) : WFHeap true h :=
  Marwood.Lemmas.HeapWFOps.new_wf true chunk h hpos hb hn

theorem alloc_preserves_wf (h h' : Heap) (p : Nat) (wf : WFHeap true h)
    (hb : Heap.grownSize h.chunk h.cells.size ≤ 2 ^ 63) (ha : h.alloc = .ok (h', p)) :
    WFHeap true h' ∧ AllocFacts h h' p := alloc_wf true h h' p wf hb ha

theorem put_preserves_wf (h h' : Heap) (c v : VCell) (wf : WFHeap true h) (hrefs : RefsOk true h c)
    (hb : Heap.grownSize h.chunk h.cells.size ≤ 2 ^ 63) (hput : h.put c = .ok (h', v)) :
    WFHeap true h' ∧ ((∃ q, c = .ptr q ∧ v = c ∧ h' = h) ∨ PutFacts h h' c v) :=
  put_wf true h h' c v wf hrefs hb hput

theorem maybePut_preserves_wf (h h' : Heap) (c v : VCell) (wf : WFHeap true h) (hrefs : RefsOk true h c)
    (hb : Heap.grownSize h.chunk h.cells.size ≤ 2 ^ 63) (hput : h.maybePut c = .ok (h', v)) :
    WFHeap true h' ∧ ((v = c ∧ h' = h) ∨ PutFacts h h' c v) :=
  maybePut_wf true h h' c v wf hrefs hb hput

theorem free_preserves_wf (h h' : Heap) (p : Nat) (wf : WFHeap true h)
    (hp : h.gc[p]? = some GcState.allocated)
    (hunref : ∀ i, i ≠ p → h.NonFree i → p ∉ h.children true i)
    (hfree : h.free' p = .ok h') : WFHeap true h' := free_wf true h h' p wf hp hunref hfree

theorem grow_preserves_wf (h h' : Heap) (wf : WFHeap true h) (hb : Heap.grownSize h.chunk h.cells.size ≤ 2 ^ 63)
    (hg : h.grow = .ok h') : WFHeap true h' := by
  obtain ⟨g, hg', gs, hsg⟩ := grow_spec h wf.sizes wf.shape
  rw [hg] at hg'; cases hg'
  exact grow_wf true h h' wf gs hsg (by rw [gs.csize]; exact hb)

theorem mark_preserves_wfcore (h h1 : Heap) (roots : List Nat) (wf : WFHeap true h)
    (hr : RootsOk h roots) (hm : h.mark true roots = some h1) :
    WFCore true h1 ∧ (∀ i : Nat, h1.NonFree i ↔ h.NonFree i) ∧
      (∀ i : Nat, h1.gc[i]? = some GcState.used ↔ Reachable true h roots i) :=
  mark_wfcore true h h1 roots wf hr hm

/-- **T03.3** `run_gc` (mark from the machine roots, sweep, optional growth) preserves `WFHeap` -/
theorem runGc_preserves_wf (force : Bool) (h : Heap) (r : Roots) (h' : Heap)
    (wf : WFHeap true h) (hr : RootsOk h (r.refs true)) (hb : h'.cells.size ≤ 2 ^ 63)
    (hrun : Heap.runGc true force h r = .ok (.collected h')) : WFHeap true h' :=
  runGc_wf true force h r h' wf hr hb hrun

/-- a heap built through the API: two symbols, a pair of them, a closure over a lambda whose bytecode
jumps (offset 5) and an environment; roots: the closure. -/
def demoOps : Res (Heap × List VCell) := do
  let h ← Heap.new 8
  let (h, a) ← h.put (.symbol ['a'])
  let (h, b) ← h.put (.symbol ['b'])
  let (h, p) ← h.put (.pair 0 1)
  let (h, l) ← h.put (.lambda [.opcode .jnt, .ptr 5, .opcode .movImmediate, .ptr 2, .atom .acc, .opcode .ret] [] [])
  let (h, e) ← h.put (.lexEnv [.ptr 2, .atom .number])
  let (h, k) ← h.put (.closure 3 4)
  let (h, _) ← h.put (.atom .string)            -- garbage
  pure (h, [a, b, p, l, e, k])

def demoHeap : Heap := match demoOps with | .ok (h, _) => h | .error _ => default
def demoRoots : Roots :=
  { globalSyms := [], globalSlots := [], stack := [.atom .undefined, .ptr 5], acc := .atom .undefined,
    ipLam := 2 ^ 64 - 1, ep := 2 ^ 64 - 1 }

/-- the demo heap passes the executable counterpart of the invariants (for the propositional `WFHeap` of a heap built
through the API see `hC` below: `new_wf`, then `put_preserves_wf` per `put`) -/
example : Check.wfCheck true demoHeap demoRoots = none := by decide

example : ∃ h', Heap.runGc true true demoHeap demoRoots = .ok (.collected h') ∧
    h'.gc[5]? = some GcState.allocated ∧ h'.gc[0]? = some GcState.allocated ∧
    h'.gc[6]? = some GcState.free ∧ h'.symLookup ['a'] = some 0 := by
  refine ⟨_, rfl, ?_, ?_, ?_, ?_⟩ <;> decide

example : demoHeap.gc.size = demoHeap.cells.size ∧ Shape demoHeap ∧
    (∀ i : Nat, demoHeap.gc[i]? ≠ some GcState.used) := by
  refine ⟨by decide, ⟨by decide, by decide, 1, by decide, by decide⟩, fun i hi => ?_⟩
  -- `used` is not among the eight entries of the table
  exact absurd (Array.mem_toList_iff.mpr (Array.mem_of_getElem? hi)) (by decide)

def okOr {α} [Inhabited α] : Res α → α
  | .ok a => a
  | .error _ => default

def hA : Heap := okOr (Heap.new 8)
def hB : Heap := (okOr (hA.put (.symbol ['a']))).1
def hC : Heap := (okOr (hB.put (.pair 0 0))).1

/-- `WFHeap` is inhabited by heaps with live structure: a fresh heap after two `put`s -/
example : WFHeap true hC ∧ hC.NonFree 0 ∧ hC.NonFree 1 ∧ hC.symLookup ['a'] = some 0 := by
  have h0 : Heap.new 8 = .ok hA := rfl
  have wf0 := new_wf 8 _ (by decide) (by decide) h0
  have h1 : hA.put (.symbol ['a']) = .ok (hB, .ptr 0) := rfl
  obtain ⟨wf1, _⟩ := put_preserves_wf _ _ _ _ wf0 (by intro y hy; cases hy) (by decide) h1
  have h2 : hB.put (.pair 0 0) = .ok (hC, .ptr 1) := rfl
  obtain ⟨wf2, _⟩ := put_preserves_wf _ _ _ _ wf1
    (by intro y hy
        have : y = 0 := by simpa [crefs] using hy
        subst this; left; left; decide) (by decide) h2
  exact ⟨wf2, by left; decide, by left; decide, by decide⟩

/-! ## the marker before the fix: negation of T03.3 at a witness -/

/-- one code object whose bytecode is `JMP 5` and one number; cell 5 is free -/
def witness : Heap :=
  { chunk := 8
    cells := #[.lambda [.opcode .jmp, .ptr 5] [] [], .atom .number, .atom .undefined, .atom .undefined,
               .atom .undefined, .atom .undefined, .atom .undefined, .atom .undefined]
    gc := #[.allocated, .allocated, .free, .free, .free, .free, .free, .free]
    free := [2, 3, 4, 5, 6, 7]
    symtab := [] }

def witnessRoots : Roots :=
  { globalSyms := [], globalSlots := [], stack := [.atom .undefined, .ptr 1], acc := .atom .undefined, ipLam := 0,
    ep := 2 ^ 64 - 1 }

def noRoots : Roots :=
  { globalSyms := [], globalSlots := [], stack := [.atom .undefined, .ptr 1], acc := .atom .undefined,
    ipLam := 2 ^ 64 - 1, ep := 2 ^ 64 - 1 }

/-- the jump offset is not a reference -/
theorem witness_ok : Check.wfCheck true witness witnessRoots = none := by decide

def collected (r : Res Heap.GcResult) : Heap :=
  match r with
  | .ok (.collected h) => h
  | _ => default

/-- **negation of T03.3 for the marker before the fix**: one collection of the witness with the unfixed child
function leaves cell 5 `Allocated` *and* on the free list -/
theorem unfixed_marker_breaks_wf :
    ¬ WFHeap false (collected (Heap.runGc false true witness witnessRoots)) := by
  intro wf
  have h1 : (5 : Nat) ∈ (collected (Heap.runGc false true witness witnessRoots)).free := by decide
  have h2 := (wf.free_iff 5).mp h1
  revert h2
  decide

theorem fixed_marker_keeps_wf :
    Check.wfCheck true (collected (Heap.runGc true true witness witnessRoots)) witnessRoots = none := by decide

def allocN : Nat → Heap → List Nat
  | 0, _ => []
  | n+1, h => match h.alloc with
    | .ok (h', p) => p :: allocN n h'
    | .error _ => []

/-- **the double allocation**: collect (code object live), drop the code object, collect again, then
allocate: with the marker before the fix cell 5 is handed out twice -/
theorem unfixed_marker_allocates_cell_twice :
    (allocN 8 (collected (Heap.runGc false true
      (collected (Heap.runGc false true witness witnessRoots)) noRoots))).count 5 = 2 := by decide

theorem fixed_marker_allocates_each_cell_once :
    allocN 7 (collected (Heap.runGc true true
      (collected (Heap.runGc true true witness witnessRoots)) noRoots)) = [0, 2, 3, 4, 5, 6, 7] := by decide

/-! ## T03.5 — collections at any set of instruction boundaries are unobservable

Machine: `Marwood.Vm.Concrete.machine ext force` — `run_one` over the concrete heap, collector = `Heap.runGc` (the model of
T03.1–T03.3) through the erasure. Relation: `Sim φ` (Lemmas/SimDefs.lean), a partial injection on addresses relating
everything reachable. Ingredients: (a) `cgc_sim` from T03.2 / T03.3; (b) one lemma per opcode, assembled by `step_sim`;
(c) `readObs_rel`, `eq_agree` (Lemmas/SimObs.lean). -/
section Unobservable
open Marwood.Vm Marwood.Vm.Concrete Marwood.Lemmas.Sim Marwood.Proofs.C13

variable {S E : Type}

/-- run `n` instructions with a collection in front of instruction `i` whenever `sched i` -/
def runSched (m : Machine S E) (sched : Nat → Bool) : Nat → Nat → S → Res S E
  | 0, _, s => .paused s
  | n+1, i, s =>
    match m.step (if sched i then m.gc s else s) with
    | .halt s' => .done s'
    | .fail e s' => .error e s'
    | .next s' => runSched m sched n (i + 1) s'

theorem runSched_pureN (m : Machine S E) (R : S → S → Prop) (hT : GcTransparent m R) (sched : Nat → Bool) :
    ∀ (n i : Nat) (s t : S), R s t → ResRel R (runSched m sched n i s) (pureN m n t) := by
  intro n
  induction n with
  | zero => intro i s t h; exact .paused h
  | succ n ih =>
    intro i s t h
    simp only [runSched, pureN]
    have h' : R (if sched i then m.gc s else s) t := by
      split
      · exact hT.gc_left _ _ h
      · exact h
    have hs := hT.step _ _ h'
    generalize m.step (if sched i then m.gc s else s) = r1 at hs
    generalize m.step t = r2 at hs
    cases hs with
    | halt h2 => exact .done h2
    | fail h2 => exact .error h2
    | next h2 => exact ih (i + 1) _ _ h2

/-- **T03.5 (partial: `ExtLaws`, `Safe`)** For every safe state, every schedule of collections at instruction boundaries and
    every instruction count, the scheduled run and the collection-free run end with the same status (still running / HALT /
    the same failure) in `Sim`-related states. -/
theorem gc_unobservable_partial (ext : ExtOps) (force : Bool) (o : ExtLaws ext) (sched : Nat → Bool) (n : Nat)
    (s0 : St CHeap) (h0 : Safe (machine ext force) s0) :
    ResRel (Lemmas.Sim.R (machine ext force)) (runSched (machine ext force) sched n 0 s0)
      (pureN (machine ext force) n s0) :=
  runSched_pureN _ _ (gcTransparent_concrete_partial ext force o) sched n 0 s0 s0 (R_refl _ h0)

theorem gc_unobservable_value_partial (ext : ExtOps) (force : Bool) (o : ExtLaws ext) (sched : Nat → Bool)
    (n : Nat) (s0 t' : St CHeap) (h0 : Safe (machine ext force) s0)
    (hk : pureN (machine ext force) n s0 = .done t') :
    ∃ s', runSched (machine ext force) sched n 0 s0 = .done s' ∧
      ∀ fuel, resultObs fuel s' = resultObs fuel t' := by
  have h := gc_unobservable_partial ext force o sched n s0 h0
  rw [hk] at h
  generalize runSched (machine ext force) sched n 0 s0 = r at h
  cases h with
  | done hr =>
    rename_i s'
    refine ⟨s', rfl, ?_⟩
    intro fuel
    obtain ⟨⟨φ, hs⟩, ss, st⟩ := hr
    exact resultObs_sim hs ss.good.size st.good.size fuel

/-! ### non-vacuity: two concrete states related by a non-identity injection -/

def hS : CHeap :=
  { chunk := 4, cells := #[.val (.pair 1 1), .val (.opaque "n5"), .val .undefined, .val .undefined]
    gc := #[.allocated, .allocated, .free, .free], free := [2, 3], symtab := [], globSyms := [], globals := #[] }

def hT : CHeap :=
  { chunk := 4, cells := #[.val .undefined, .val .undefined, .val (.pair 3 3), .val (.opaque "n5")]
    gc := #[.free, .free, .allocated, .allocated], free := [1, 0], symtab := [], globSyms := [], globals := #[] }

def stOf (h : CHeap) (a : Nat) : St CHeap :=
  { heap := h, stack := { cells := [.undefined, .undefined], sp := 0 }, acc := .ptr a,
    ep := usizeMax, ipL := usizeMax, ipO := 0, bp := 0 }

def phi : Inj := fun a => if a = 0 then some 2 else if a = 1 then some 3 else none

/-- beyond the collector's table both index clauses speak about `none`, so checks over the cell indices suffice -/
theorem hInv_of_checks {h : CHeap} (sizes : h.gc.size = h.cells.size)
    (shape : 0 < h.chunk ∧ h.chunk % 4 = 0 ∧ ∃ k, 0 < k ∧ h.cells.size = k * h.chunk)
    (free_lt : ∀ i ∈ h.free, i < h.gc.size)
    (free_iff : ∀ i, i < h.gc.size → (i ∈ h.free ↔ h.gc[i]? = some GcState.free))
    (nodup : h.free.Nodup) (no_used : ∀ i, i < h.gc.size → h.gc[i]? ≠ some GcState.used) : HInv h := by
  refine ⟨sizes, shape, fun i => ?_, nodup, fun i => ?_⟩
  · by_cases hi : i < h.gc.size
    · exact free_iff i hi
    · rw [Array.getElem?_eq_none (by omega)]
      exact ⟨fun hm => absurd (free_lt i hm) hi, fun hn => nomatch hn⟩
  · by_cases hi : i < h.gc.size
    · exact no_used i hi
    · rw [Array.getElem?_eq_none (by omega)]
      exact fun hn => nomatch hn

theorem hS_inv : HInv hS :=
  hInv_of_checks (by decide) ⟨by decide, by decide, 1, by decide, by decide⟩ (by decide) (by decide) (by decide)
    (by decide)

theorem hT_inv : HInv hT :=
  hInv_of_checks (by decide) ⟨by decide, by decide, 1, by decide, by decide⟩ (by decide) (by decide) (by decide)
    (by decide)

/-- the same list `(5 . 5)`-shaped structure at addresses 0,1 on the left and 2,3 on the right -/
theorem demo_sim : Sim phi (stOf hS 0) (stOf hT 2) := by
  have hsent : AddrRel phi usizeMax usizeMax := .inr ⟨rfl, by decide⟩
  -- the graph of `phi`: 0 ↦ 2 and 1 ↦ 3
  have key : ∀ a b, phi a = some b → (a = 0 ∧ b = 2) ∨ (a = 1 ∧ b = 3) := by
    intro a b hab
    unfold phi at hab
    split at hab
    · cases hab; exact .inl ⟨‹_›, rfl⟩
    · split at hab
      · cases hab; exact .inr ⟨‹_›, rfl⟩
      · cases hab
  refine ⟨⟨?_, ?_, .nil, .nil, hS_inv, hT_inv⟩, ?_, .ptr (.inl rfl), hsent, hsent, rfl, rfl⟩
  · intro a a' b h1 h2
    obtain ⟨ha, hb⟩ | ⟨ha, hb⟩ := key a b h1 <;> obtain ⟨ha', hb'⟩ | ⟨ha', hb'⟩ := key a' b h2 <;> omega
  · intro a b hab
    obtain ⟨rfl, rfl⟩ | ⟨rfl, rfl⟩ := key a b hab
    · exact ⟨_, _, rfl, rfl, .val (.pair (.inl rfl) (.inl rfl)), by decide, by decide⟩
    · exact ⟨_, _, rfl, rfl, .val (.atom rfl), by decide, by decide⟩
  · refine ⟨rfl, rfl, ?_⟩
    intro i hi v v' h1 h2
    have : i = 0 := by simpa [stOf] using hi
    subst this
    simp [stOf] at h1 h2
    subst h1 h2
    exact .atom rfl

example : resultObs 3 (stOf hS 0) = resultObs 3 (stOf hT 2) :=
  resultObs_sim demo_sim (by show (4 : Nat) ≤ 2 ^ 63; decide) (by show (4 : Nat) ≤ 2 ^ 63; decide) 3

example : resultObs 3 (stOf hS 0) = .pair (.atom (.opaque "n5")) (.atom (.opaque "n5")) := by rfl

/-- allocation on the two sides hands out different addresses (2 vs 1): `φ` is extended, not equal -/
example : (cput hS (.val .nil)).2 = 2 ∧ (cput hT (.val .nil)).2 = 1 := by decide

/-- a heap holding one code object `HALT` -/
def hHalt : CHeap :=
  { chunk := 4, cells := #[.lambda { bc := [.opcode .halt], args := [], envmap := [] }, .val .undefined, .val .undefined,
      .val .undefined]
    gc := #[.allocated, .free, .free, .free], free := [1, 2, 3], symtab := [], globSyms := [], globals := #[] }

def sHalt (o : Nat) : St CHeap :=
  { heap := hHalt, stack := { cells := [.undefined], sp := 0 }, acc := .undefined, ep := usizeMax, ipL := 0, ipO := o,
    bp := 0 }

/-- the state is the demo state of `Lemmas/GoodDemo.lean` (the same term), whose only reachable states are itself and the
    one after `HALT` -/
theorem sHalt_safe (ext : ExtOps) : Safe (machine ext false) (sHalt 0) := by
  intro s' hr
  rcases Lemmas.Good.Demo.sHalt_reaches ext hr with h | h
  · subst h
    exact (Lemmas.Good.Demo.sHalt_goodI 0).good (Lemmas.Good.Demo.sHalt_small 0) (Lemmas.Good.Demo.sHalt_disc 0 (.inl rfl))
  · subst h
    exact (Lemmas.Good.Demo.sHalt_goodI 1).good (Lemmas.Good.Demo.sHalt_small 1) (Lemmas.Good.Demo.sHalt_disc 1 (.inr rfl))

example (sched : Nat → Bool) : ∃ s', runSched (machine failingExt false) sched 1 0 (sHalt 0) = .done s' ∧
    ∀ fuel, resultObs fuel s' = resultObs fuel (sHalt 1) :=
  gc_unobservable_value_partial failingExt false failingExt_laws sched 1 (sHalt 0) (sHalt 1)
    (sHalt_safe failingExt) rfl

end Unobservable

/-! ## T03.5 from `GoodI` of the initial state (`safe_of_good`; the hypotheses are described in Proofs/C13.lean, "T13.3 from
`GoodI` of the initial state") -/
section UnobservableInv
open Marwood.Vm Marwood.Vm.Concrete Marwood.Lemmas.Sim Marwood.Lemmas.Good Marwood.Proofs.C13

/-- `run_one` preserves the heap invariant of T03.3 **on the machine**, for all 16 opcodes -/
theorem run_one_preserves_wf (ext : ExtOps) (el : ExtLaws ext) (eg : ExtGood ext) (s s' : St CHeap) (b : Bool)
    (g : GoodI s) (sm : Small s.heap) (sd : StackDisc s) (hs : step (concreteOps ext) s = .ok (s', b))
    (sm' : Small s'.heap) :
    GoodI s' ∧ WFHeap true (toHeap s'.heap) ∧ RootsOk (toHeap s'.heap) ((rootsOf s').refs true) :=
  let g' := good_step el eg g sm sd hs sm'
  ⟨g', g'.hg.wf, g'.roots⟩

theorem run_gc_preserves_good (force : Bool) (s : St CHeap) (g : GoodI s) (sm : Small (cgc force s).heap) :
    GoodI (cgc force s) := good_gc force g sm

/-- **T03.5**, from a state satisfying the invariant -/
theorem gc_unobservable (ext : ExtOps) (force : Bool) (o : ExtLaws ext) (eg : ExtGood ext) (sched : Nat → Bool)
    (n : Nat) (s0 : St CHeap) (g0 : GoodI s0) (sb : SizeBounded (machine ext force) s0)
    (sd : StackDiscAlong (machine ext force) s0) :
    ResRel (Lemmas.Sim.R (machine ext force)) (runSched (machine ext force) sched n 0 s0)
      (pureN (machine ext force) n s0) :=
  gc_unobservable_partial ext force o sched n s0 (safe_of_good force o eg g0 sb sd)

theorem gc_unobservable_value (ext : ExtOps) (force : Bool) (o : ExtLaws ext) (eg : ExtGood ext)
    (sched : Nat → Bool) (n : Nat) (s0 t' : St CHeap) (g0 : GoodI s0)
    (sb : SizeBounded (machine ext force) s0) (sd : StackDiscAlong (machine ext force) s0)
    (hk : pureN (machine ext force) n s0 = .done t') :
    ∃ s', runSched (machine ext force) sched n 0 s0 = .done s' ∧
      ∀ fuel, resultObs fuel s' = resultObs fuel t' :=
  gc_unobservable_value_partial ext force o sched n s0 t' (safe_of_good force o eg g0 sb sd) hk

/-- the hypothesis as one about the VM between evaluations: an idle good machine after `prepare_eval` -/
theorem gc_unobservable_value_eval (ext : ExtOps) (force : Bool) (o : ExtLaws ext) (eg : ExtGood ext)
    (comp : CHeap → Vm.VCell → Outcome (CHeap × Vm.VCell)) (cg : CompGood comp)
    (s : St CHeap) (g : GoodI s) (hacc : s.acc = .undefined) (hep : Heap.Sentinel s.ep)
    (hst : ∀ c ∈ s.stack.cells, c = Vm.VCell.undefined) (d : Vm.VCell) (hd : addrFree d = true)
    (s0 : St CHeap) (hp : prepareEval comp s d = .ok s0)
    (sched : Nat → Bool) (n : Nat) (t' : St CHeap)
    (sb : SizeBounded (machine ext force) s0) (sd : StackDiscAlong (machine ext force) s0)
    (hk : pureN (machine ext force) n s0 = .done t') :
    ∃ s', runSched (machine ext force) sched n 0 s0 = .done s' ∧
      ∀ fuel, resultObs fuel s' = resultObs fuel t' :=
  gc_unobservable_value ext force o eg sched n s0 t'
    (prepare_goodI cg g hacc hep hst hd hp (sb s0 (.refl s0))) sb sd hk

open Marwood.Lemmas.Good.Demo in
example (sched : Nat → Bool) : ∃ s', runSched (machine failingExt false) sched 1 0 (Demo.sHalt 0) = .done s' ∧
    ∀ fuel, resultObs fuel s' = resultObs fuel (Demo.sHalt 1) :=
  gc_unobservable_value failingExt false failingExt_laws failingExt_good sched 1 (Demo.sHalt 0) (Demo.sHalt 1)
    (sHalt_goodI 0) (sHalt_sizeBounded _) (sHalt_discAlong _) rfl

open Marwood.Lemmas.Good.Demo in
example : GoodI (Demo.sHalt 1) :=
  (run_one_preserves_wf failingExt failingExt_laws failingExt_good (Demo.sHalt 0) (Demo.sHalt 1) true
    (sHalt_goodI 0) (sHalt_small 0) (sHalt_disc 0 (.inl rfl)) rfl (sHalt_small 1)).1

/-! ### T03.5 from `VmOk` of the initial state (`StackDiscAlong` derived, as in Proofs/C13.lean) -/

theorem gc_unobservable_wf (ext : ExtOps) (force : Bool) (o : ExtLaws ext) (eg : ExtGood ext)
    (ecl : ExtCodeLawsV ext) (sched : Nat → Bool) (n : Nat) (s0 : St CHeap) (h0 : VmOk ext ecl s0)
    (sb : SizeBounded (machine ext force) s0) (ca : CalleeOkAlong (machine ext force) s0) :
    ResRel (Lemmas.Sim.R (machine ext force)) (runSched (machine ext force) sched n 0 s0)
      (pureN (machine ext force) n s0) :=
  gc_unobservable ext force o eg sched n s0 h0.1 sb (stackDiscAlong_of_wfs force o eg h0 sb ca)

theorem gc_unobservable_value_wf (ext : ExtOps) (force : Bool) (o : ExtLaws ext) (eg : ExtGood ext)
    (ecl : ExtCodeLawsV ext) (sched : Nat → Bool) (n : Nat) (s0 t' : St CHeap) (h0 : VmOk ext ecl s0)
    (sb : SizeBounded (machine ext force) s0) (ca : CalleeOkAlong (machine ext force) s0)
    (hk : pureN (machine ext force) n s0 = .done t') :
    ∃ s', runSched (machine ext force) sched n 0 s0 = .done s' ∧
      ∀ fuel, resultObs fuel s' = resultObs fuel t' :=
  gc_unobservable_value ext force o eg sched n s0 t' h0.1 sb (stackDiscAlong_of_wfs force o eg h0 sb ca) hk

theorem run_one_preserves_vmOk (ext : ExtOps) (el : ExtLaws ext) (eg : ExtGood ext) (ecl : ExtCodeLawsV ext)
    (s s' : St CHeap) (b : Bool) (h : VmOk ext ecl s) (hc : CalleeSite s → CalleeOk s) (sm : Small s.heap)
    (hs : step (concreteOps ext) s = .ok (s', b)) (sm' : Small s'.heap) :
    VmOk ext ecl s' ∧ WFHeap true (toHeap s'.heap) ∧ RootsOk (toHeap s'.heap) ((rootsOf s').refs true) :=
  let h' := vmOk_step el eg h hc sm hs sm'
  ⟨h', h'.1.hg.wf, h'.1.roots⟩

open Marwood.Lemmas.Good.Demo in
example (sched : Nat → Bool) : ∃ s', runSched (machine failingExt false) sched 1 0 (Demo.sHalt 0) = .done s' ∧
    ∀ fuel, resultObs fuel s' = resultObs fuel (Demo.sHalt 1) :=
  gc_unobservable_value_wf failingExt false failingExt_laws failingExt_good failingExt_codeLawsV sched 1
    (Demo.sHalt 0) (Demo.sHalt 1) (sHalt_vmOk _ _) (sHalt_sizeBounded _) (sHalt_calleeOkAlong _) rfl

/-! ### T03.5 from `VmOk ∧ PInv` of the initial state (`CalleeOkAlong` derived, as in Proofs/C13.lean) -/

/-- **T03.5 with no hypothesis along the run but the size bound** -/
theorem gc_unobservable_closed (ext : ExtOps) (force : Bool) (o : ExtLaws ext) (eg : ExtGood ext)
    (ecl : ExtCodeLawsV ext) (ep : ExtProc ext) (sched : Nat → Bool) (n : Nat) (s0 : St CHeap) (h0 : VmOk ext ecl s0)
    (p0 : PInv s0) (sb : SizeBounded (machine ext force) s0) :
    ResRel (Lemmas.Sim.R (machine ext force)) (runSched (machine ext force) sched n 0 s0)
      (pureN (machine ext force) n s0) :=
  gc_unobservable_wf ext force o eg ecl sched n s0 h0 sb (calleeOkAlong_of_vmOk force o eg ep h0 p0 sb)

theorem gc_unobservable_value_closed (ext : ExtOps) (force : Bool) (o : ExtLaws ext) (eg : ExtGood ext)
    (ecl : ExtCodeLawsV ext) (ep : ExtProc ext) (sched : Nat → Bool) (n : Nat) (s0 t' : St CHeap)
    (h0 : VmOk ext ecl s0) (p0 : PInv s0) (sb : SizeBounded (machine ext force) s0)
    (hk : pureN (machine ext force) n s0 = .done t') :
    ∃ s', runSched (machine ext force) sched n 0 s0 = .done s' ∧
      ∀ fuel, resultObs fuel s' = resultObs fuel t' :=
  gc_unobservable_value_wf ext force o eg ecl sched n s0 t' h0 sb (calleeOkAlong_of_vmOk force o eg ep h0 p0 sb) hk

/-- no side condition on the callee -/
theorem run_one_preserves_vmOkP (ext : ExtOps) (el : ExtLaws ext) (eg : ExtGood ext) (ecl : ExtCodeLawsV ext)
    (ep : ExtProc ext) (s s' : St CHeap) (b : Bool) (h : VmOkP ext ecl s) (sm : Small s.heap)
    (hs : step (concreteOps ext) s = .ok (s', b)) (sm' : Small s'.heap) :
    VmOkP ext ecl s' ∧ WFHeap true (toHeap s'.heap) ∧ RootsOk (toHeap s'.heap) ((rootsOf s').refs true) :=
  let h' := vmOkP_step el eg ep h sm hs sm'
  ⟨h', h'.1.1.hg.wf, h'.1.1.roots⟩

theorem run_gc_preserves_vmOkP (ext : ExtOps) (ecl : ExtCodeLawsV ext) (force : Bool) (s : St CHeap)
    (h : VmOkP ext ecl s) (sm' : Small (cgc force s).heap) : VmOkP ext ecl (cgc force s) :=
  vmOkP_gc force h sm'

open Marwood.Lemmas.Good.Demo in
example (sched : Nat → Bool) : ∃ s', runSched (machine failingExt false) sched 1 0 (Demo.sHalt 0) = .done s' ∧
    ∀ fuel, resultObs fuel s' = resultObs fuel (Demo.sHalt 1) :=
  gc_unobservable_value_closed failingExt false failingExt_laws failingExt_good failingExt_codeLawsV failingExt_proc
    sched 1 (Demo.sHalt 0) (Demo.sHalt 1) (sHalt_vmOk _ _) (sHalt_pinv 0) (sHalt_sizeBounded _) rfl

end UnobservableInv

/-! ## VPUSH leaves the reference to the vector in `%acc` (fix 43d0413)

A VPUSH that leaves the DEREFERENCED vector in `%acc` (marwood before fix 43d0413, `stepVpushPinned` below) lets MOV store an
inline `Vector(Rc)` in a global slot, which `run_gc` does not follow: `(define v `#(,(list 1 2)))` followed by a few
collections prints `#(#<undefined>)`. The by-value heap model renders a dereferenced vector as the address-free atom
`.opaque "v"`, which `Plain` accepts as a value, so no statement of this file could see the elements die; the executable
discipline `noInlineVecB` (Vm/InlineCheck.lean) is evaluated on every real state of the `safe-side-conditions` stream instead. -/
section Vpush
open Marwood.Vm Marwood.Vm.Concrete Marwood.Lemmas.Good

/-- `VecPushLaw`: the unmodelled `vector.push` succeeds only on a vector -/
theorem vpush_acc_is_pointer (ext : ExtOps) (vl : VecPushLaw ext) (s s' : St CHeap) (b : Bool) (g : GoodI s)
    (ni : noInlineVecB s = true) (hop : opAt s .vpushAcc) (hs : step (concreteOps ext) s = .ok (s', b)) :
    ∃ p es, s'.acc = .ptr p ∧ s.stack.cells[s.stack.sp]? = some (.ptr p) ∧
      s.heap.cells[p]? = some (.vector es) ∧ NF s.heap p ∧ isInlineVec s'.acc = false ∧
      s'.stack = { s.stack with sp := s.stack.sp - 1 } :=
  let ⟨p, es, h1, h2, h3, h4, h5⟩ := vpush_acc_ptr vl g ni hop hs
  ⟨p, es, h1, h2, h3, h4, h5, (vpush_acc_popped hop hs).2.2.1⟩

theorem vpush_acc_is_pointer_vmOk (ext : ExtOps) (ecl : ExtCodeLawsV ext) (vl : VecPushLaw ext) (s s' : St CHeap)
    (b : Bool) (h : VmOk ext ecl s) (ni : noInlineVecB s = true) (hop : opAt s .vpushAcc)
    (hs : step (concreteOps ext) s = .ok (s', b)) :
    ∃ p es, s'.acc = .ptr p ∧ s.stack.cells[s.stack.sp]? = some (.ptr p) ∧
      s.heap.cells[p]? = some (.vector es) ∧ NF s.heap p ∧ isInlineVec s'.acc = false ∧
      s'.stack = { s.stack with sp := s.stack.sp - 1 } :=
  vpush_acc_is_pointer ext vl s s' b h.1 ni hop hs

/-- with no invariant assumed -/
theorem vpush_acc_is_popped_cell (ext : ExtOps) (s s' : St CHeap) (b : Bool) (hop : opAt s .vpushAcc)
    (hs : step (concreteOps ext) s = .ok (s', b)) :
    0 < s.stack.sp ∧ s.stack.cells[s.stack.sp]? = some s'.acc ∧ s'.stack = { s.stack with sp := s.stack.sp - 1 } :=
  let h := vpush_acc_popped hop hs
  ⟨h.1, h.2.1, h.2.2.1⟩

open VpushWitness in
/-- **counter-witness for the code before fix 43d0413** (`stepVpushPinned`): on a four-cell heap with the code `VPUSH; HALT`, an
    empty vector at cell 1 and `Ptr 1` on top of the stack, that arm leaves the INLINE vector in `%acc` and the discipline
    fails on its successor; the model's arm keeps `Ptr 1` and the discipline. -/
theorem vpush_acc_inline_pinned :
    noInlineVecB s0 = true ∧
    accAfter (stepVpushPinned (concreteOps extPush) { s0 with ipO := 1 }) = some (.opaque "v") ∧
    checkAfter (stepVpushPinned (concreteOps extPush) { s0 with ipO := 1 }) = some false ∧
    accAfter (step (concreteOps extPush) s0) = some (.ptr 1) ∧
    checkAfter (step (concreteOps extPush) s0) = some true :=
  vpush_pinned_inline

example : VecPushLaw VpushWitness.extPush := VpushWitness.extPush_law

end Vpush

end Marwood.Proofs.C03
