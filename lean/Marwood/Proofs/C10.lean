import Marwood.Lemmas.PrintRoundtrip
import Marwood.Lemmas.PrintStore
import Marwood.Lemmas.MachineDatum
import Marwood.Lemmas.GoodDemo
/-!
# C10 — written data reads back as the same data

Models: `Marwood.Print` (cell.rs `Display`, char.rs `write_escaped_char`), `Marwood.Lex`, `Marwood.Parse`,
`Marwood.Num.Text`, `Marwood.Print.Store` (put_cell / get_as_cell). Float *text* is abstract: `FloatText fo` (C16) and
`FloatLex fo` (a printed finite double is `NumberShape`) are hypotheses about Rust's float formatting; the
correspondence stream `float-text-hypotheses` tests them on doubles drawn for that purpose.
T10.1 is by structural induction (`Lemmas/PrintRoundtrip.lean: readsAll`) from the atom lemmas restated below; T10.2 is
proved over the abstract store and, for atoms and pairs (vectors not covered), on the concrete heap of
`Vm/ConcreteHeap.lean`.
-/
namespace Marwood.Proofs.C10
open Marwood Marwood.Proofs.C16

/-- **T10.1** reading what `write` wrote of a readable datum succeeds, consumes the whole text, and yields `d` in
structure, characters, strings and symbols, with numbers equal in value and exactness; writing that yields the same
text again. -/
theorem write_read_write (fo : FloatOps) (ht : FloatText fo) (hl : FloatLex fo) (d : Datum)
    (hr : Readable fo d) :
    ∃ d', parseText fo (write fo d) = .ok (d', none) ∧ SameDatum d' d ∧ write fo d' = write fo d :=
  ⟨canon d, parseText_write fo ht hl d hr, canon_same d, write_canon fo d⟩

/-- the datum read back is `canon d` (bignums in range become fixnums, `n/1` becomes `n`); display mode prints it
like `d` too -/
theorem read_result (fo : FloatOps) (ht : FloatText fo) (hl : FloatLex fo) (d : Datum) (hr : Readable fo d) :
    parseText fo (write fo d) = .ok (canon d, none) ∧ display fo (canon d) = display fo d :=
  ⟨parseText_write fo ht hl d hr, (print_canon fo false d).1⟩

/-- a decidable fragment of `Readable`: symbols of plain identifier shape (`list->vector`, `λ`, `a.b`)
or number-initial symbol tokens (`1+`, `-a`, `->x`, `12ab`) -/
def inFragment : Datum → Bool
  | .bool _ => true
  | .char _ => true
  | .str _ => true
  | .nil => true
  | .num (.flo f) => decide (f.bits < 2^64) && f.isFinite
  | .num n => n.WF
  | .sym s => identShape s || numSymShape s
  | .pair a d => inFragment a && inFragment d
  | .vec e => inFragment e && properSpine e
  | _ => false

theorem readable_of_fragment (fo : FloatOps) : ∀ d : Datum, inFragment d = true → Readable fo d := by
  intro d
  induction d with
  | num n =>
    intro h
    cases n with
    | flo f =>
      simp only [inFragment, Bool.and_eq_true, decide_eq_true_eq] at h
      exact ⟨by simp [Num.WF, h.1], fun g e => by cases e; exact h.2⟩
    | fix m => exact ⟨h, fun g e => by cases e⟩
    | big m => exact ⟨h, fun g e => by cases e⟩
    | rat m k => exact ⟨h, fun g e => by cases e⟩
  | sym s =>
    intro h
    simp only [inFragment, Bool.or_eq_true] at h
    rcases h with h | h
    · exact identShape_symTok fo h
    · exact numSymShape_symTok fo h
  | pair a d iha ihd =>
    intro h
    simp only [inFragment, Bool.and_eq_true] at h
    exact ⟨iha h.1, ihd h.2⟩
  | vec e ih =>
    intro h
    simp only [inFragment, Bool.and_eq_true] at h
    exact ⟨ih h.1, h.2⟩
  | bool _ => intro _; trivial
  | char _ => intro _; trivial
  | str _ => intro _; trivial
  | nil => intro _; trivial
  | _ => intro h; cases h

/-- **T10.1** under the decidable hypothesis `inFragment` -/
theorem write_read_write_fragment_partial (fo : FloatOps) (ht : FloatText fo) (hl : FloatLex fo) (d : Datum)
    (hd : inFragment d = true) :
    ∃ d', parseText fo (write fo d) = .ok (d', none) ∧ SameDatum d' d ∧ write fo d' = write fo d :=
  write_read_write fo ht hl d (readable_of_fragment fo d hd)

/-- **T10.2** allocating a datum that has a heap form in any store and reading the result back gives the datum; the
store is only extended, so what was allocated before — interned symbols in particular — is untouched -/
theorem heap_roundtrip (st : PStore.Store) (d : Datum) (h : PStore.Plain d = true) :
    ∃ st' p, PStore.putCell st d = .ok (st', p) ∧ PStore.Ext st st' ∧
      PStore.getPtr st' (PStore.bound d + 1) p = .ok d := by
  obtain ⟨st', p, c, hput, hext, hc, _, hg⟩ := (PStore.putOk_all d h).1 st
  refine ⟨st', p, hput, hext, ?_⟩
  rw [PStore.getPtr]
  simp only [hc]
  exact hg

/-- `maybe_put_cell` (vector elements, builtin results) likewise -/
theorem heap_roundtrip_unboxed (st : PStore.Store) (d : Datum) (h : PStore.Plain d = true) :
    ∃ st' v, PStore.maybePutCell st d = .ok (st', v) ∧ PStore.Ext st st' ∧
      PStore.getVal st' (PStore.bound d + 2) v = .ok d :=
  (PStore.putOk_all d h).2.1 st

/-- **T10.2** `(quote d)` evaluates to `d` (`evalQuote`: the check of `compile_quote`, `maybe_put_cell`, `get_as_cell`
of the value; no instruction is modelled) -/
theorem eval_quote_id (d : Datum) (h : PStore.Plain d = true) : PStore.evalQuote d = .ok d :=
  PStore.evalQuote_id d h

theorem proper_canon : ∀ e : Datum, properSpine e = true → PStore.proper (canon e) = true := by
  intro e
  induction e with
  | nil => intro _; rfl
  | pair a d _ ih => intro h; simp only [properSpine] at h; simp only [canon, PStore.proper]; exact ih h
  | _ => intro h; cases h

theorem plain_canon_of_readable (fo : FloatOps) : ∀ d : Datum, Readable fo d → PStore.Plain (canon d) = true := by
  intro d
  induction d with
  | pair a d iha ihd =>
    intro h
    simp only [canon, PStore.Plain, Bool.and_eq_true]
    exact ⟨iha h.1, ihd h.2⟩
  | vec e ih =>
    intro h
    simp only [canon, PStore.Plain, Bool.and_eq_true]
    exact ⟨ih h.1, proper_canon e h.2⟩
  | bool _ => intro _; rfl
  | char _ => intro _; rfl
  | str _ => intro _; rfl
  | sym _ => intro _; rfl
  | num _ => intro _; rfl
  | nil => intro _; rfl
  | _ => intro h; exact h.elim

/-- text → datum → heap → result → text: the datum read from the written form survives quoting and evaluation
unchanged and is written as the same text -/
theorem text_heap_result_text (fo : FloatOps) (ht : FloatText fo) (hl : FloatLex fo) (d : Datum)
    (hr : Readable fo d) :
    ∃ d', parseText fo (write fo d) = .ok (d', none) ∧ PStore.evalQuote d' = .ok d' ∧
      write fo d' = write fo d ∧ SameDatum d' d :=
  ⟨canon d, parseText_write fo ht hl d hr, PStore.evalQuote_id _ (plain_canon_of_readable fo d hr),
    write_canon fo d, canon_same d⟩

/-- the same with the reader on the source text `(quote <written form of d>)` -/
theorem source_text_trip (fo : FloatOps) (ht : FloatText fo) (hl : FloatLex fo) (d : Datum)
    (hr : Readable fo d) :
    ∃ d', parseText fo ('(' :: (quoteName ++ (' ' :: (write fo d ++ [')'])))) =
        .ok (.pair (.sym quoteName) (.pair d' .nil), none) ∧
      PStore.evalQuote d' = .ok d' ∧ write fo d' = write fo d ∧ SameDatum d' d :=
  ⟨canon d, parseText_quote_write fo ht hl d hr,
    PStore.evalQuote_id _ (plain_canon_of_readable fo d hr), write_canon fo d, canon_same d⟩

theorem string_escape_inverse (s : Text) : unescapeGo .norm (escapeStr s) = .ok s :=
  unescapeGo_escapeStr s

theorem string_token_self_delimiting (s rest : Text) :
    ScansAs (writeString s) .string rest ∧ stringInner (writeString s) = .ok (escapeStr s) :=
  ⟨scansAs_string s rest, stringInner_writeString s⟩

theorem char_spelling_inverse (c : Char) : parseCharSpan (writeEscapedChar c) = .ok (.char c) :=
  parseCharSpan_writeEscapedChar c

theorem char_token_self_delimiting (c : Char) (rest : Text) (h : Delim rest) :
    ScansAs (writeEscapedChar c) .char rest := scansAs_char c rest h

theorem exact_number_token (fo : FloatOps) (n : Num) (hwf : n.WF = true) (hex : isExact n = true)
    (rest : Text) (h : Delim rest) :
    ScansAs (printNumber fo n) .number rest ∧ parseNumber fo 10 (printNumber fo n) = .ok (normalize n) := by
  have hr : Radix 10 := .inr (.inr (.inl rfl))
  have hs := (exactDigits_shape (r := 10) (by omega) (by omega) n hwf hex).resolve_right (by omega)
  have hp := (exact_roundtrip fo n hwf hex 10 hr).1
  rw [← numberToString_exact fo 10 hr n hex, numberToString10] at hs
  rw [numberToString10] at hp
  exact ⟨scansAs_numberShape hs rest h, hp⟩

/-- not the sign of an exponent: `1e-7` is a number (`numSymFlag`), `1+`, `->x`, `1e--7` are symbols -/
theorem number_initial_symbol_token (s rest : Text) (hs : numSymShape s = true) (h : Delim rest) :
    ScansAs s .symbol rest := scansAs_numSym hs rest h

theorem plain_identifier_token (s rest : Text) (hs : identShape s = true) (h : Delim rest) :
    ScansAs s .symbol rest := scansAs_ident hs rest h

/-! ## what `Readable` excludes is real

Behind a radix prefix the reader produces symbols whose spelling is a decimal number: `#b12` is the symbol `12`.
`write` prints the bare spelling, which reads back as a number: such symbols are not `SymTok` (known finding
C10-prefix-symbol-reads-as-number). -/

def noFloats : FloatOps where
  parseF64 _ _ := none
  bigRatToF64 _ _ := ⟨0⟩
  toExact _ := none
  toInexact _ := ⟨0⟩
  fmtExp _ := []
  fmtFix1 _ := []
  fmtShort _ := []
  fmtRadix _ _ := []

theorem prefix_symbol_not_readable :
    parseText noFloats "#b12".toList = .ok (.sym "12".toList, none) ∧
    parseText noFloats (write noFloats (.sym "12".toList)) = .ok (.num (.fix 12), none) ∧
    ¬ SameDatum (.num (.fix 12)) (.sym "12".toList) := by
  refine ⟨by decide +kernel, by decide +kernel, ?_⟩
  intro h
  cases h

/-- a toy float text satisfying both hypotheses: `0.` followed by the decimal digits of the bit pattern -/
def toyFloats : FloatOps where
  parseF64 _ s := match s with
    | '0' :: '.' :: ds => (parseNat 10 ds).map fun b => ⟨b⟩
    | _ => none
  bigRatToF64 _ _ := ⟨0⟩
  toExact _ := none
  toInexact _ := ⟨0⟩
  fmtExp f := '0' :: '.' :: natDigits 10 f.bits
  fmtFix1 f := '0' :: '.' :: natDigits 10 f.bits
  fmtShort f := '0' :: '.' :: natDigits 10 f.bits
  fmtRadix _ _ := []

-- `toyFloats` is, field for field, `toyFloats2` of C16, so what is shown of that one holds of this one
theorem toy_floatText : FloatText toyFloats := toy2_floatText

theorem toy_floatLex : FloatLex toyFloats where
  shape f _ := by
    have := toy2_shape f
    rwa [numberToString10] at this

/-- `(quote (a "b\n" #\space -7 1/2 . #(1.5 ())))` with a small bignum inside -/
def sample : Datum :=
  .pair (.sym "quote".toList) (.pair
    (.pair (.sym "a".toList) (.pair (.str "b\n".toList) (.pair (.char ' ') (.pair (.num (.big (-7)))
      (.pair (.num (.rat 1 2)) (.vec (.pair (.num (.flo ⟨0x3FF8000000000000⟩)) (.pair .nil .nil))))))))
    .nil)

example : inFragment sample = true := by decide +kernel

example : inFragment (.pair (.sym "->x".toList) (.pair (.sym "1+".toList) (.sym "-".toList))) = false := by decide +kernel
example : inFragment (.pair (.sym "->x".toList) (.pair (.sym "1+".toList) (.sym "λ.b".toList))) = true := by decide +kernel

/-- the sign of an exponent continues a number token (lex.rs with c1c04ca): `1e-7`, `-2.5E+3` read as numbers; the
near misses `1e--7`, `1ee-7`, `1/2e-3`, `+e-1` are number-initial symbols -/
example : numSymShape "1e-7".toList = false ∧ numSymShape "-2.5E+3".toList = false ∧
    numSymShape "1e--7".toList = true ∧ numSymShape "1ee-7".toList = true ∧ numSymShape "1/2e-3".toList = true ∧
    numSymShape "1+".toList = true ∧ numSymShape "->x".toList = true ∧ numSymShape "+e-1".toList = true := by decide +kernel

example : ∃ d', parseText toyFloats (write toyFloats sample) = .ok (d', none) ∧ SameDatum d' sample ∧
    write toyFloats d' = write toyFloats sample :=
  write_read_write_fragment_partial toyFloats toy_floatText toy_floatLex sample (by decide)

/-- in representation only: `-7` as a bignum comes back a fixnum -/
example : canon sample ≠ sample := by decide +kernel

example : PStore.Plain sample = true := by decide +kernel

example : PStore.evalQuote sample = .ok sample := eval_quote_id sample (by decide)

/-- peculiar identifiers are `SymTok` too, here `...` -/
example : Readable noFloats (.sym "...".toList) := by
  intro rest hd
  left
  refine ⟨'.', ['.', '.'], rfl, ?_⟩
  have h3 : isSubsequentNumber '.' = true := by decide
  simp only [scanPiece_dot, scanDot, List.cons_append, h3, if_true]
  have h4 : dotNumberTail true false false ('.' :: '.' :: rest) = (['.', '.'], rest, true) := by
    have : spanWhile isSubsequentIdentifier (['.'] ++ rest) = (['.'], rest) :=
      spanWhile_delim isSubsequentIdentifier (by decide) (by decide) ['.'] rest (by decide) hd
    simp only [List.singleton_append] at this
    rw [dotNumberTail]
    have e : (('.' : Char) == '.') = true := by decide
    simp only [e, if_true, dotSymbolTail, this]
  simp only [List.nil_append, h4, if_true]
  rfl

/-! ## T10.2 on the concrete heap

The same conversion on `CHeap` (cells, 2-bit map, free list, symbol table; `putV` = `Heap::put` with interning). A
concrete cell keeps scalar payloads (as an `opaque` tag whose first character is the kind), so the round trip is exact;
the coding of number payloads as text is the parameter `NumCode` (any coding with a left inverse). -/

section concrete
open Marwood.Vm.Concrete Marwood.Lemmas.Sim Marwood.Lemmas.Good Marwood.Lemmas.MachineDatum
open Marwood.Heap (WFHeap)

/-- **T10.2, one cell.** `Heap::put` of a non-pointer value on a well-formed concrete heap returns a pointer to an
allocated cell holding exactly that value — off the free list, from growth, or the interned cell of a symbol — and every
allocated cell keeps its content. -/
theorem put_then_read_cell_concrete {h : CHeap} (wf : WFHeap true (toHeap h)) {v : Vm.VCell}
    (hnp : isPtr v = false) :
    ∃ p, (putV h v).2 = .ptr p ∧ deref (putV h v).1 (putV h v).2 = v ∧ p ∉ (putV h v).1.free ∧
      Keeps h (putV h v).1 := by
  obtain ⟨p, hq, hc, hf, hk⟩ := putV_cell wf hnp
  refine ⟨p, hq, ?_, hf, hk⟩
  rw [hq]
  simp only [deref, getAt, hc]
  rfl

/-- **T10.2 on the concrete heap**, for data built from atoms and pairs: `putDatum` (`put_cell`: car, cdr, then the
pair, each through `Heap::put`) returns an address that reads back (`Rep`: `get_as_cell` as a relation) as the datum;
every cell allocated before keeps its content, so data stored earlier read as before; the heap stays well-formed.
`Small` is the physical size bound on the final heap. -/
theorem heap_roundtrip_concrete (nc : NumCode) (d : Datum) {h h' : CHeap} {p : Nat}
    (wf : WFHeap true (toHeap h)) (hp : putDatum nc h d = some (h', p)) (sm : Small h') :
    Rep nc h' p d ∧ Keeps h h' ∧ WFHeap true (toHeap h') ∧
      (∀ q x, Rep nc h q x → Rep nc h' q x) := by
  have r := putDatum_rep nc d wf hp sm
  exact ⟨r.rep, r.keeps, r.wf, fun _ _ rq => rq.keeps r.keeps⟩

/-- … and as nothing else -/
theorem heap_read_unique_concrete (nc : NumCode) (d d' : Datum) {h h' : CHeap} {p : Nat}
    (wf : WFHeap true (toHeap h)) (hp : putDatum nc h d = some (h', p)) (sm : Small h')
    (r' : Rep nc h' p d') : d' = d :=
  (putDatum_rep nc d wf hp sm).rep.unique r' |>.symm

/-- `putDatum` succeeds on the demo heap of Lemmas/GoodDemo.lean: cells 1 and 2 off the free list, then the pair cell 3 -/
example (nc : NumCode) : ∃ h', putDatum nc Demo.hHalt (.pair (.sym ['a']) (.str ['b'])) = some (h', 3) :=
  ⟨_, rfl⟩

example : WFHeap true (toHeap Demo.hHalt) ∧ Nonempty NumCode := ⟨Demo.hHalt_hg.wf, ⟨unaryNumCode⟩⟩

end concrete

end Marwood.Proofs.C10
