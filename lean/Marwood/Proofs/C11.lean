-- `Proofs.Tables`: used by no proof here; lib/props/c11.py audits `Tables.*` through this module
import Marwood.Proofs.Tables
import Marwood.Lemmas.ProofsAuxBLexed
import Marwood.Lemmas.ParseTextLoop
/-!
# C11 — reader discipline: total, exact spans, one datum per parse, incompleteness found

T11.1–T11.5 and the panic freedom of the parser on scanner output. Models: `Marwood.Lex` (lex.rs),
`Marwood.Parse` (parse.rs). `fo : FloatOps` is what is not modelled about doubles; every statement
holds for every `fo`.
-/
namespace Marwood.Proofs.C11
open Marwood

/-! ### T11.1 — the scanner and the parser terminate -/

/-- the scanner's fuel (`length + 1`) is never exhausted: `scan` always answers with tokens or
    with one of the scanner's own errors -/
theorem scan_total (cs : Text) : ∃ r, scanFrom 0 cs = some r ∧ scan cs = r := by
  have h := scanFuel_total (cs.length + 1) 0 cs (by omega)
  unfold scan scanFrom
  cases hs : scanFuel (cs.length + 1) 0 cs with
  | none => exact absurd hs h
  | some r => exact ⟨r, rfl, rfl⟩

/-- the parser's fuel (`2·|tokens| + 2`) is never exhausted, for any token list whatsoever -/
theorem parse_total (fo : FloatOps) (text : Text) (ts : List Token) :
    parseF fo text (parseFuel ts) ts = some (parseTokens fo text ts) :=
  parseTokens_fuel fo text ts

/-- more fuel never changes the parser's answer -/
theorem parse_fuel_irrelevant (fo : FloatOps) (text : Text) (ts : List Token) (f : Nat)
    (hf : parseFuel ts ≤ f) : parseF fo text f ts = some (parseTokens fo text ts) :=
  parseF_mono fo text hf (parseTokens_fuel fo text ts)

/-! ### T11.2 — span discipline of the scanner, in the property's words -/

theorem Lexed.lower : ∀ {pos : Nat} {cs : Text} {ts : List Token}, Lexed pos cs ts →
    ∀ t ∈ ts, pos ≤ t.lo ∧ t.lo < t.hi := by
  intro pos cs ts h
  induction h with
  | done _ => intro t ht; simp at ht
  | @tok pos g body rest t ts _ hne hlo hhi _ ih =>
    intro b hb
    have hpos := byteLen_pos_of_ne_nil hne
    rcases List.mem_cons.mp hb with rfl | hb
    · omega
    · have := ih b hb; omega

theorem Lexed.pairwise : ∀ {pos : Nat} {cs : Text} {ts : List Token}, Lexed pos cs ts →
    ts.Pairwise (fun a b => a.hi ≤ b.lo) := by
  intro pos cs ts h
  induction h with
  | done _ => exact List.Pairwise.nil
  | @tok pos g body rest t ts _ _ _ _ hrest ih =>
    refine List.Pairwise.cons ?_ ih
    intro b hb
    exact (Lexed.lower hrest b hb).1

theorem Lexed.leading : ∀ {pos : Nat} {cs : Text} {t : Token} {ts : List Token},
    Lexed pos cs (t :: ts) → ∃ g post, cs = g ++ post ∧ Gap g ∧ t.lo = pos + byteLen g := by
  intro pos cs t ts h
  cases h with
  | tok hg _ hlo _ _ => exact ⟨_, _, List.append_assoc _ _ _, hg, hlo⟩

theorem Lexed.between : ∀ {pos : Nat} {cs : Text} {ts : List Token}, Lexed pos cs ts →
    ∀ (i : Nat) (a b : Token), ts[i]? = some a → ts[i+1]? = some b →
      ∃ pre g post, cs = pre ++ g ++ post ∧ a.hi = pos + byteLen pre ∧ b.lo = a.hi + byteLen g ∧
        Gap g := by
  intro pos cs ts h
  induction h with
  | done _ => intro i a b ha; simp at ha
  | @tok pos g body rest t ts hg hne hlo hhi hrest ih =>
    intro i a b ha hb
    cases i with
    | zero =>
      simp only [List.getElem?_cons_zero, Option.some.injEq] at ha
      subst ha
      simp only [Nat.zero_add, List.getElem?_cons_succ] at hb
      cases ts with
      | nil => simp at hb
      | cons b' ts' =>
        simp only [List.getElem?_cons_zero, Option.some.injEq] at hb
        subst hb
        obtain ⟨g', post, he, hg', hlo'⟩ := Lexed.leading hrest
        refine ⟨g ++ body, g', post, by simp [he], ?_, hlo', hg'⟩
        rw [hhi, hlo]; simp; omega
    | succ i =>
      simp only [List.getElem?_cons_succ] at ha hb
      obtain ⟨pre, g', post, he, h1, h2, h3⟩ := ih i a b ha hb
      refine ⟨g ++ body ++ pre, g', post, by simp [he], ?_, h2, h3⟩
      rw [h1, hhi, hlo]; simp; omega

theorem Lexed.trailing : ∀ {pos : Nat} {cs : Text} {ts : List Token}, Lexed pos cs ts →
    ∃ pre g, cs = pre ++ g ∧ Gap g ∧
      (match ts.getLast? with | some a => a.hi = pos + byteLen pre | none => pre = []) := by
  intro pos cs ts h
  induction h with
  | done hg => exact ⟨[], _, rfl, hg, rfl⟩
  | @tok pos g body rest t ts hg hne hlo hhi hrest ih =>
    obtain ⟨pre, g', he, hg', hl⟩ := ih
    refine ⟨g ++ body ++ pre, g', by simp [he], hg', ?_⟩
    cases ts with
    | nil =>
      simp only [List.getLast?_nil] at hl
      subst hl
      simp [List.getLast?, hhi, hlo]; omega
    | cons x xs =>
      rw [List.getLast?_cons_cons]
      cases hx : (x :: xs).getLast? with
      | none => simp at hx
      | some a =>
        rw [hx] at hl
        simp only at hl ⊢
        rw [hl, hhi, hlo]; simp; omega

/-- T11.2 as one record -/
structure SpanDiscipline (cs : Text) (ts : List Token) : Prop where
  /-- every token is non-empty -/
  nonempty : ∀ t ∈ ts, t.lo < t.hi
  /-- every token lies within the text, both ends on character boundaries (byte lengths of
      prefixes of the text), and the slice between them is the non-empty token text -/
  boundaries : ∀ t ∈ ts, ∃ pre body post, cs = pre ++ body ++ post ∧ t.lo = byteLen pre ∧
      t.hi = byteLen (pre ++ body) ∧ t.hi ≤ byteLen cs ∧ sliceBytes t.lo t.hi cs = some body ∧ body ≠ []
  /-- tokens are strictly ordered and disjoint -/
  ordered : ts.Pairwise (fun a b => a.hi ≤ b.lo)
  /-- what precedes the first token is whitespace and comments -/
  leading : ∀ t, ts.head? = some t → ∃ g, takeBytes t.lo cs = some g ∧ Gap g
  /-- what separates consecutive tokens is whitespace and comments -/
  between : ∀ i a b, ts[i]? = some a → ts[i+1]? = some b →
      ∃ g, sliceBytes a.hi b.lo cs = some g ∧ Gap g
  /-- what follows the last token is whitespace and comments (the whole text if no token) -/
  trailing : match ts.getLast? with
      | some a => ∃ g, dropBytes a.hi cs = some g ∧ Gap g
      | none => Gap cs

/-- T11.2: each field is the matching `Lexed.*` fact, its decomposition turned into a byte slice -/
theorem scan_discipline {cs : Text} {ts : List Token} (h : scan cs = .ok ts) :
    SpanDiscipline cs ts := by
  have hl := scan_lexed h
  refine ⟨fun t ht => (Lexed.lower hl t ht).2, ?_, Lexed.pairwise hl, ?_, ?_, ?_⟩
  · intro t ht
    obtain ⟨pre, body, post, he, h1, h2, h3⟩ := Lexed.spans hl t ht
    refine ⟨pre, body, post, he, by simpa using h1, by rw [h2, h1]; simp, ?_, ?_, h3⟩
    · rw [he, h2, h1]; simp <;> omega
    · rw [he, h2, h1]; simp only [Nat.zero_add]; exact sliceBytes_append _ _ _
  · intro t ht
    cases ts with
    | nil => simp at ht
    | cons x xs =>
      simp only [List.head?_cons, Option.some.injEq] at ht
      subst ht
      obtain ⟨g, post, he, hg, hlo⟩ := Lexed.leading hl
      refine ⟨g, ?_, hg⟩
      rw [he, hlo, Nat.zero_add]; exact takeBytes_append _ _
  · intro i a b ha hb
    obtain ⟨pre, g, post, he, h1, h2, h3⟩ := Lexed.between hl i a b ha hb
    refine ⟨g, ?_, h3⟩
    rw [he, h2, h1, Nat.zero_add]; exact sliceBytes_append _ _ _
  · obtain ⟨pre, g, he, hg, hlast⟩ := Lexed.trailing hl
    cases hx : ts.getLast? with
    | none => rw [hx] at hlast; simp only at hlast ⊢; subst hlast; simpa [he] using hg
    | some a =>
      rw [hx] at hlast
      simp only at hlast ⊢
      refine ⟨g, ?_, hg⟩
      rw [he, hlast, Nat.zero_add]; exact dropBytes_append _ _

/-! ### T11.3 — `parse` consumes exactly the tokens of one datum, whatever follows -/

theorem parse_one_datum (fo : FloatOps) (text : Text) (ts : List Token) (d : Datum)
    (rest : List Token) (h : parseTokens fo text ts = .ok (d, rest)) :
    ∃ pre, pre ≠ [] ∧ ts = pre ++ rest ∧
      ∀ rest', parseTokens fo text (pre ++ rest') = .ok (d, rest') := by
  obtain ⟨pre, hne, hts, hall, _⟩ := parseTokens_consumes fo h
  exact ⟨pre, hne, hts, fun rest' => Option.some.inj (hall rest')⟩

/-! ### T11.5 — a cut inside a datum is `Incomplete`; a complete datum never is -/

/-- every proper prefix of the tokens of a datum that parses is reported `Incomplete` -/
theorem parse_cut_incomplete (fo : FloatOps) (text : Text) (ts : List Token) (d : Datum)
    (rest : List Token) (h : parseTokens fo text ts = .ok (d, rest))
    (p q : List Token) (hcut : ts = p ++ q ++ rest) (hq : q ≠ []) :
    parseTokens fo text p = .err .incomplete := by
  obtain ⟨pre, _, hts, _, hpre⟩ := parseTokens_consumes fo h
  have : pre = p ++ q := List.append_cancel_right (hts.symm.trans hcut)
  exact Option.some.inj (hpre p q this hq)

/-- the tokens of a datum that parses, on their own, parse to that datum with nothing left:
    a complete datum is never reported `Incomplete` (nor anything else) -/
theorem parse_complete_not_incomplete (fo : FloatOps) (text : Text) (ts : List Token) (d : Datum)
    (rest : List Token) (h : parseTokens fo text ts = .ok (d, rest)) :
    ∃ pre, ts = pre ++ rest ∧ parseTokens fo text pre = .ok (d, []) ∧
      parseTokens fo text pre ≠ .err .incomplete := by
  obtain ⟨pre, _, hts, hall⟩ := parse_one_datum fo text ts d rest h
  have := hall []
  rw [List.append_nil] at this
  exact ⟨pre, hts, this, by rw [this]; simp⟩

/-- T11.3: a datum parsed from a prefix is final -/
theorem parse_result_stable (fo : FloatOps) (text : Text) (p : List Token) (d : Datum)
    (r : List Token) (h : parseTokens fo text p = .ok (d, r)) (more : List Token) :
    parseTokens fo text (p ++ more) = .ok (d, r ++ more) := by
  obtain ⟨pre, _, hts, hall⟩ := parse_one_datum fo text p d r h
  rw [hts, List.append_assoc]
  exact hall (r ++ more)

/-! ### non-vacuity -/

/-- float operations are irrelevant for these instances -/
def noFloats : FloatOps where
  parseF64 _ _ := none
  bigRatToF64 _ _ := ⟨0⟩
  toExact _ := none
  toInexact _ := ⟨0⟩
  fmtExp _ := []
  fmtFix1 _ := []
  fmtShort _ := []
  fmtRadix _ _ := []

def sample : Text := "(a . (1 #\\x41)) ; c\n'b".toList

def sampleTokens : List Token := [⟨0,1,.leftParen⟩, ⟨1,2,.symbol⟩, ⟨3,4,.dot⟩, ⟨5,6,.leftParen⟩,
    ⟨6,7,.number⟩, ⟨8,13,.char⟩, ⟨13,14,.rightParen⟩, ⟨14,15,.rightParen⟩, ⟨20,21,.singleQuote⟩,
    ⟨21,22,.symbol⟩]

example : (scan sample).toOption = some sampleTokens := by decide +kernel

example : parseTokens noFloats sample sampleTokens =
    .ok (.pair (.sym ['a']) (.pair (.num (.fix 1)) (.pair (.char 'A') .nil)),
         [⟨20,21,.singleQuote⟩, ⟨21,22,.symbol⟩]) := by decide +kernel

example : parseTokens noFloats sample [⟨0,1,.leftParen⟩, ⟨1,2,.symbol⟩, ⟨3,4,.dot⟩] =
    .err .incomplete := by decide +kernel

/-! ### T11.4 — `parse_text` hands back the suffix at the next token; the read loop visits each
datum once and ends within `max 1 |tokens|` rounds -/

/-- T11.4 (b): the scanner at a token boundary -/
theorem scan_suffix_at_token {text : Text} {ts pre : List Token} {t : Token} {rest : List Token}
    (h : scan text = .ok ts) (hts : ts = pre ++ t :: rest) :
    ∃ (p sfx : Text) (ts0 : List Token), text = p ++ sfx ∧ byteLen p = t.lo ∧
      dropBytes t.lo text = some sfx ∧ scan sfx = .ok ts0 ∧
      t :: rest = ts0.map (Token.shift t.lo) := by
  obtain ⟨p, sfx, ts0, he, hlo, hsc, hmap⟩ := ParseText.scan_suffix h hts
  exact ⟨p, sfx, ts0, he, hlo.symm, by rw [he, hlo]; exact dropBytes_append _ _, hsc, hmap⟩

/-- T11.4 (b), the scanner's half: `ParseText.scanFuel_shift` -/
theorem scan_offset_shift (k f pos : Nat) (cs : Text) :
    scanFuel f (pos + k) cs = ParseText.shiftRes k (scanFuel f pos cs) :=
  ParseText.scanFuel_shift k f pos cs

/-- T11.4 (a): the remaining text is `none` iff no token remains, else the suffix of the text at the
    span start of the first remaining token -/
theorem parse_text_remaining (fo : FloatOps) (text : Text) (d : Datum) (r : Option Text)
    (h : parseText fo text = .ok (d, r)) :
    ∃ ts rest, scan text = .ok ts ∧ parseTokens fo text ts = .ok (d, rest) ∧
      (r = none ↔ rest = []) ∧
      ∀ t rest', rest = t :: rest' →
        ∃ p sfx, text = p ++ sfx ∧ byteLen p = t.lo ∧ dropBytes t.lo text = some sfx ∧
          r = some sfx := by
  cases hs : scan text with
  | error e => rw [ParseText.parseText_lexErr fo hs] at h; cases h
  | ok ts =>
    cases hp : parseTokens fo text ts with
    | err e => rw [ParseText.parseText_err fo hs hp] at h; cases h
    | panic m => rw [ParseText.parseText_panic fo hs hp] at h; cases h
    | ok v =>
      obtain ⟨d', rest⟩ := v
      cases rest with
      | nil =>
        rw [ParseText.parseText_last fo hs hp] at h
        cases h
        exact ⟨ts, [], rfl, hp, by simp, by intro t rest' h'; cases h'⟩
      | cons t rest =>
        obtain ⟨p, sfx, ts0, he, hlo, hdrop, hpt, _, _⟩ := ParseText.parseText_more fo hs hp
        rw [hpt] at h
        cases h
        refine ⟨ts, t :: rest, rfl, hp, by simp, ?_⟩
        intro t' rest' h'
        cases h'
        exact ⟨p, sfx, he, hlo.symm, hdrop, rfl⟩

/-- T11.4 (b): the remaining text re-scans to the remaining tokens, shifted; they are strictly fewer -/
theorem parse_text_rescan (fo : FloatOps) (text : Text) (d : Datum) (sfx : Text)
    (h : parseText fo text = .ok (d, some sfx)) :
    ∃ (ts rest : List Token) (p : Text) (ts0 : List Token),
      scan text = .ok ts ∧ parseTokens fo text ts = .ok (d, rest) ∧ rest ≠ [] ∧
      text = p ++ sfx ∧ scan sfx = .ok ts0 ∧ rest = ts0.map (Token.shift (byteLen p)) ∧
      ts0.length = rest.length ∧ rest.length < ts.length := by
  cases hs : scan text with
  | error e => rw [ParseText.parseText_lexErr fo hs] at h; cases h
  | ok ts =>
    cases hp : parseTokens fo text ts with
    | err e => rw [ParseText.parseText_err fo hs hp] at h; cases h
    | panic m => rw [ParseText.parseText_panic fo hs hp] at h; cases h
    | ok v =>
      obtain ⟨d', rest⟩ := v
      cases rest with
      | nil => rw [ParseText.parseText_last fo hs hp] at h; cases h
      | cons t rest =>
        obtain ⟨p, sfx', ts0, he, _, _, hpt, hsc, hmap⟩ := ParseText.parseText_more fo hs hp
        rw [hpt] at h
        cases h
        refine ⟨ts, t :: rest, p, ts0, rfl, hp, by simp, he, hsc, hmap, ?_,
          ParseText.parseTokens_rest_lt fo hp⟩
        rw [hmap, List.length_map]

/-- T11.4 (b), the parser's half: `ParseText.parseTokens_suffix` with the three outcomes written out -/
theorem parse_suffix_agrees (fo : FloatOps) (p sfx : Text) (ts0 : List Token) :
    parseTokens fo (p ++ sfx) (ts0.map (Token.shift (byteLen p))) =
      match parseTokens fo sfx ts0 with
      | .ok (d, rest) => .ok (d, rest.map (Token.shift (byteLen p)))
      | .err e => .err e
      | .panic m => .panic m := by
  rw [ParseText.parseTokens_suffix]
  cases parseTokens fo sfx ts0 with
  | ok v => obtain ⟨d, rest⟩ := v; rfl
  | err e => rfl
  | panic m => rfl

/-- T11.4 (c), one datum per round: `ParseText.readAll_eq_readToks` -/
theorem read_loop_tokenwise (fo : FloatOps) (f : Nat) (text : Text) (ts : List Token)
    (h : scan text = .ok ts) : readAllF fo f text = ParseText.readToksF fo text f ts :=
  ParseText.readAll_eq_readToks fo f text ts h

/-- T11.4 (c), each datum once (`ReadsAs`) -/
theorem read_loop_each_datum_once (fo : FloatOps) (f : Nat) (text : Text) (ts : List Token)
    (h : scan text = .ok ts) (ds : List Datum) (fin : Option (PRes Unit))
    (hr : readAllF fo f text = some (ds, fin)) : ParseText.ReadsAs fo text ts ds fin := by
  rw [read_loop_tokenwise fo f text ts h] at hr
  exact ParseText.readToksF_readsAs fo text f ts ds fin hr

/-- T11.4 (c), termination: at most `max 1 |tokens|` rounds, at most `|tokens|` data -/
theorem read_loop_terminates (fo : FloatOps) (text : Text) (ts : List Token)
    (h : scan text = .ok ts) :
    ∃ ds fin, ds.length ≤ ts.length ∧
      ∀ f, 0 < f → ts.length ≤ f → readAllF fo f text = some (ds, fin) := by
  obtain ⟨ds, fin, hr, hlen⟩ :=
    ParseText.readToksF_total fo text (max 1 ts.length) ts (by omega) (by omega)
  refine ⟨ds, fin, hlen, fun f h0 hf => ?_⟩
  rw [read_loop_tokenwise fo f text ts h]
  exact ParseText.readToksF_mono fo text (by omega) hr

/-- when the text does not scan, the loop ends in its first round with the scanner's error -/
theorem read_loop_lex_error (fo : FloatOps) (f : Nat) (text : Text) (e : LexErr)
    (h : scan text = .error e) : readAllF fo (f + 1) text = some ([], some (.err (.lex e))) :=
  ParseText.readAllF_lexErr fo f h

/-! ### panic freedom of the parser model on scanner output

Every panic site of the parser model (listed in `Lemmas/ParseTextNoPanic.lean`; also `&text[span.0..]`
in `parse_text` and the model's own fuel) is unreachable when the tokens come from `scan` on the same
text. -/

/-- T11.2 as the parser uses it -/
theorem scan_tokens_sliceable {text : Text} {ts : List Token} (h : scan text = .ok ts) :
    ∀ t ∈ ts, ∃ body, tokSpan text t = .ok body ∧ body ≠ [] ∧ ParseText.BodyOK t.ty body :=
  fun t ht => ParseText.tokSpan_ok (ParseText.scan_bodies h t ht)

/-- also on any token list drawn from the scanner's (what an earlier `parse` left), with any fuel -/
theorem parse_never_panics_on_scan (fo : FloatOps) {text : Text} {ts : List Token}
    (h : scan text = .ok ts) (ts' : List Token) (hsub : ∀ x ∈ ts', x ∈ ts) (m : String) :
    parseTokens fo text ts' ≠ .panic m ∧ ∀ f, parseF fo text f ts' ≠ some (.panic m) :=
  have hall : ∀ x ∈ ts', ParseText.TokOK text x := fun x hx => ParseText.scan_bodies h x (hsub x hx)
  ⟨ParseText.parseTokens_noPanic fo hall m, fun f => (ParseText.parse_noPanic fo text f).1 ts' hall m⟩

/-- the instance for the scanner's own answer -/
theorem parse_scan_never_panics (fo : FloatOps) {text : Text} {ts : List Token}
    (h : scan text = .ok ts) (m : String) : parseTokens fo text ts ≠ .panic m :=
  (parse_never_panics_on_scan fo h ts (fun _ hx => hx) m).1

/-- `parse_text` has no panic outcome, for any text: it answers with a datum and the remaining
    text, or with an error -/
theorem parse_text_never_panics (fo : FloatOps) (text : Text) (m : String) :
    parseText fo text ≠ .panic m :=
  ParseText.parseText_noPanic fo text m

/-- the read loop never ends in a panic -/
theorem read_loop_never_panics (fo : FloatOps) (f : Nat) (text : Text) (ds : List Datum)
    (fin : Option (PRes Unit)) (h : readAllF fo f text = some (ds, fin)) (m : String) :
    fin ≠ some (.panic m) :=
  ParseText.readAllF_noPanic fo f text ds fin h m

/-! ### non-vacuity of T11.4 and of panic freedom (tiny: under `decide +kernel` every round scans the
remaining text again) -/

def sample2 : Text := "a #\\b \"c\"".toList

def sample2Tokens : List Token := [⟨0,1,.symbol⟩, ⟨2,5,.char⟩, ⟨6,9,.string⟩]

example : (scan sample2).toOption = some sample2Tokens := by decide +kernel

/-- the remaining text is the suffix at the second token (byte 2) … -/
example : parseText noFloats sample2 = .ok (.sym ['a'], some ("#\\b \"c\"".toList)) := by decide +kernel

/-- … and scanning it yields the remaining tokens, two bytes to the left -/
example : (scan ("#\\b \"c\"".toList)).toOption = some [⟨0,3,.char⟩, ⟨4,7,.string⟩] := by decide +kernel

example : sample2Tokens.tail =
    ([⟨0,3,.char⟩, ⟨4,7,.string⟩] : List Token).map (Token.shift 2) := by decide +kernel

/-- three data in three rounds; the character and the string exercise `&span[2..]` and `&span[1..len-1]` -/
example : readAllF noFloats 3 sample2 = some ([.sym ['a'], .char 'b', .str ['c']], none) := by
  decide +kernel

/-- an error after one datum -/
example : readAllF noFloats 2 "(a) )".toList =
    some ([.pair (.sym ['a']) .nil], some (.err .unexpectedToken)) := by decide +kernel

/-- the number-prefix arm (`prefixStep`, radix 16) on scanner output -/
example : parseText noFloats "#x1".toList = .ok (.num (.fix 1), none) := by decide +kernel

/-- a text without tokens: one round, `Incomplete`, no datum -/
example : readAllF noFloats 1 " ".toList = some ([], some (.err .incomplete)) := by decide +kernel

/-- a token not the scanner's, sliced off a character boundary: the panic branch is real, and
    `scan text = ok ts` is what excludes it -/
example : ∃ m, parseTokens noFloats ['é'] [⟨0,1,.symbol⟩] = .panic m := ⟨_, rfl⟩

end Marwood.Proofs.C11
