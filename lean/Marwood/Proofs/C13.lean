import Marwood.Vm.RunLoop
import Marwood.Lemmas.SimRefl
import Marwood.Lemmas.SimObs
import Marwood.Lemmas.GoodDemo
import Marwood.Lemmas.VmOkDemo
import Marwood.Lemmas.ProcInvMain
/-!
# C13 — sliced execution is equivalent to uninterrupted execution

T13.1–T13.3 about `Marwood.Vm.runLoop` (the model of `run_count`), for **every** machine `m`
(instruction semantics + collector) and every relation `R` that the collector respects
(`GcTransparent`); with the trivial collector (`gc = id`) they hold with `R = Eq` unconditionally.
Then T13.3 for the concrete machine (`run_one` over the concrete heap, the C03 collector model),
where `R` is heap isomorphism on the reachable part: `GcTransparent` from the heap simulation, and
the invariant along the run from `VmOk ∧ PInv` of the initial state. The concrete statements come in steps that each
turn one hypothesis along the run into a theorem — `_partial` (`Safe`), the plain form (`StackDiscAlong`), `_wf`
(`CalleeOkAlong`), `_closed` (the initial state and the size bound only): the `_closed` forms are the ones to apply.
-/
namespace Marwood.Proofs.C13
open Marwood.Vm

variable {S E : Type}

inductive ResRel (R : S → S → Prop) : Res S E → Res S E → Prop
  | paused {s t} : R s t → ResRel R (.paused s) (.paused t)
  | done {s t} : R s t → ResRel R (.done s) (.done t)
  | error {e s t} : R s t → ResRel R (.error e s) (.error e t)

inductive StepRel (R : S → S → Prop) : StepRes S E → StepRes S E → Prop
  | next {s t} : R s t → StepRel R (.next s) (.next t)
  | halt {s t} : R s t → StepRel R (.halt s) (.halt t)
  | fail {e s t} : R s t → StepRel R (.fail e s) (.fail e t)

/-- "collections are unobservable": `R` is preserved by instructions and absorbed by `gc`.
    For the concrete machine it is `gcTransparent_concrete_partial` below. -/
structure GcTransparent (m : Machine S E) (R : S → S → Prop) : Prop where
  step : ∀ s t, R s t → StepRel R (m.step s) (m.step t)
  gc_left : ∀ s t, R s t → R (m.gc s) t

/-- with a collector that does nothing, equality is transparent -/
theorem gcTransparent_id (step : S → StepRes S E) :
    GcTransparent (S := S) (E := E) ⟨step, id⟩ Eq where
  step := by
    intro s t h; subst h
    show StepRel Eq (step s) (step s)
    cases step s
    · exact .next rfl
    · exact .halt rfl
    · exact .fail rfl
  gc_left := by intro s t h; exact h

theorem GcTransparent.before_step {m : Machine S E} {R : S → S → Prop} (hT : GcTransparent m R)
    {s t : S} (hR : R s t) (c : Nat) : R (if c % 8192 = 0 then m.gc s else s) t := by
  split
  · exact hT.gc_left _ _ hR
  · exact hR

/-- with `b + 1` units of budget left the test `count == cycles` succeeds exactly when `b = 0` -/
theorem runLoop_budget (m : Machine S E) (b c : Nat) (s : S) :
    runLoop m (some (c + (b + 1))) (b + 1) c s =
      match m.step (if (c + 1) % 8192 = 0 then m.gc s else s) with
      | .halt s' => .done s'
      | .fail e s' => .error e s'
      | .next s' => if b = 0 then .paused (m.gc s') else runLoop m (some (c + 1 + b)) b (c + 1) s' := by
  simp only [runLoop]
  cases m.step (if (c + 1) % 8192 = 0 then m.gc s else s) with
  | halt s' => rfl
  | fail e s' => rfl
  | next s' =>
    by_cases hb : b = 0
    · subst hb; simp
    · have hne : ¬ (some (c + (b + 1)) = some (c + 1)) := by
        intro he; injection he with he; omega
      have e : c + 1 + b = c + (b + 1) := by omega
      simp only [hne, hb, if_false, e]

/-- one call of the loop from counter value `c` with budget `c + b` behaves like at most `b`
    collection-free instructions -/
theorem runLoop_pureN (m : Machine S E) (R : S → S → Prop) (hT : GcTransparent m R) :
    ∀ (b c : Nat) (s t : S), R s t → 1 ≤ b →
      ResRel R (runLoop m (some (c + b)) b c s) (pureN m b t) := by
  intro b
  induction b with
  | zero => intro c s t _ h; omega
  | succ b ih =>
    intro c s t hR _
    rw [runLoop_budget]
    simp only [pureN]
    have hs := hT.step _ _ (hT.before_step hR (c + 1))
    generalize m.step (if (c + 1) % 8192 = 0 then m.gc s else s) = r1 at hs
    generalize m.step t = r2 at hs
    cases hs with
    | halt h => exact .done h
    | fail h => exact .error h
    | next h =>
      by_cases hb : b = 0
      · subst hb
        simp only [if_true, pureN]
        exact .paused (hT.gc_left _ _ h)
      · simp only [hb, if_false]
        exact ih (c + 1) _ _ h (by omega)

/-- T13.1 (progress): a slice with budget `b ≥ 1` executes exactly `min b (instructions left)` instructions: it is related
    to `pureN b`, which pauses only after `b` instructions. -/
theorem runCount_progress (m : Machine S E) (R : S → S → Prop) (hT : GcTransparent m R)
    (b : Nat) (hb : 1 ≤ b) (s t : S) (hR : R s t) :
    ResRel R (runCount m b s) (pureN m b t) := by
  have := runLoop_pureN m R hT b 0 s t hR hb
  simpa [runCount] using this

theorem pureN_add (m : Machine S E) : ∀ (a b : Nat) (s : S),
    pureN m (a + b) s = match pureN m a s with
      | .paused s' => pureN m b s'
      | r => r := by
  intro a
  induction a with
  | zero => intro b s; simp [pureN]
  | succ a ih =>
    intro b s
    have e : a + 1 + b = (a + b) + 1 := by omega
    rw [e]
    simp only [pureN]
    cases m.step s with
    | halt s' => rfl
    | fail e s' => rfl
    | next s' => exact ih b s'

/-- T13.2 + T13.3: for every sequence of positive budgets, resuming slice after slice is related to executing `sum budgets`
    instructions without interruption and without any collection. -/
theorem runSliced_pureN (m : Machine S E) (R : S → S → Prop) (hT : GcTransparent m R) :
    ∀ (bs : List Nat), (∀ b ∈ bs, 1 ≤ b) → ∀ (s t : S), R s t →
      ResRel R (runSliced m bs s) (pureN m bs.sum t) := by
  intro bs
  induction bs with
  | nil => intro _ s t hR; simpa [runSliced, pureN] using ResRel.paused hR
  | cons b bs ih =>
    intro hpos s t hR
    have hb : 1 ≤ b := hpos b (by simp)
    have h1 := runCount_progress m R hT b hb s t hR
    simp only [runSliced, List.sum_cons]
    rw [pureN_add]
    generalize runCount m b s = r1 at h1
    generalize pureN m b t = r2 at h1
    cases h1 with
    | paused h => exact ih (fun x hx => hpos x (by simp [hx])) _ _ h
    | done h => exact .done h
    | error h => exact .error h

/-- the uninterrupted run (`run`, collections every 8192 cycles) against the same reference -/
theorem run_pureN (m : Machine S E) (R : S → S → Prop) (hT : GcTransparent m R) :
    ∀ (f c : Nat) (s t : S), R s t →
      (∀ t', pureN m f t = .done t' → ∃ s', runLoop m none f c s = .done s' ∧ R s' t') ∧
      (∀ e t', pureN m f t = .error e t' → ∃ s', runLoop m none f c s = .error e s' ∧ R s' t') := by
  intro f
  induction f with
  | zero => intro c s t _; simp [pureN]
  | succ f ih =>
    intro c s t hR
    simp only [runLoop, pureN]
    have hs := hT.step _ _ (hT.before_step hR (c + 1))
    generalize m.step (if (c + 1) % 8192 = 0 then m.gc s else s) = r1 at hs
    generalize m.step t = r2 at hs
    cases hs with
    | halt h =>
      rename_i s' t'
      refine ⟨?_, ?_⟩
      · intro t'' he; cases he; exact ⟨s', rfl, h⟩
      · intro e t'' he; cases he
    | fail h =>
      rename_i e s' t'
      refine ⟨?_, ?_⟩
      · intro t'' he; cases he
      · intro e' t'' he; cases he; exact ⟨s', rfl, h⟩
    | next h =>
      simp only [reduceCtorEq, if_false]
      exact ih (c + 1) _ _ h

theorem pureN_mono (m : Machine S E) : ∀ (k n : Nat) (t : S) (r : Res S E),
    pureN m k t = r → (∀ s, r ≠ .paused s) → k ≤ n → pureN m n t = r := by
  intro k n t r h hr hle
  rw [show n = k + (n - k) by omega, pureN_add, h]
  cases r with
  | paused s => exact absurd rfl (hr s)
  | _ => rfl

theorem sliced_rel (m : Machine S E) (R : S → S → Prop) (hT : GcTransparent m R) (s0 : S) (hrefl : R s0 s0) (k : Nat)
    (bs : List Nat) (hpos : ∀ b ∈ bs, 1 ≤ b) (hsum : k ≤ bs.sum) :
    (∀ t', pureN m k s0 = .done t' →
      ∃ s1 s2, run m k s0 = .done s1 ∧ runSliced m bs s0 = .done s2 ∧ R s1 t' ∧ R s2 t') ∧
    (∀ e t', pureN m k s0 = .error e t' →
      ∃ s1 s2, run m k s0 = .error e s1 ∧ runSliced m bs s0 = .error e s2 ∧ R s1 t' ∧ R s2 t') := by
  have h2 := runSliced_pureN m R hT bs hpos s0 s0 hrefl
  refine ⟨fun t' hk => ?_, fun e t' hk => ?_⟩
  · obtain ⟨s1, h1, hr1⟩ := (run_pureN m R hT k 0 s0 s0 hrefl).1 t' hk
    rw [pureN_mono m k bs.sum s0 _ hk (fun _ h => nomatch h) hsum] at h2
    generalize runSliced m bs s0 = r at h2
    cases h2 with
    | done h => exact ⟨s1, _, h1, rfl, hr1, h⟩
  · obtain ⟨s1, h1, hr1⟩ := (run_pureN m R hT k 0 s0 s0 hrefl).2 e t' hk
    rw [pureN_mono m k bs.sum s0 _ hk (fun _ h => nomatch h) hsum] at h2
    generalize runSliced m bs s0 = r at h2
    cases h2 with
    | error h => exact ⟨s1, _, h1, rfl, hr1, h⟩

/-- **C13, main statement.** If the uninterrupted evaluation completes after `k` instructions, then for *every* sequence of
    positive budgets whose sum reaches `k` the sliced evaluation completes too, and every observation that `R` preserves —
    value, output, globals — is equal. -/
theorem sliced_equiv_uninterrupted_done (m : Machine S E) (R : S → S → Prop)
    (hT : GcTransparent m R) (O : Type) (obs : S → O) (hobs : ∀ s t, R s t → obs s = obs t)
    (s0 : S) (hrefl : R s0 s0) (k : Nat) (t' : S) (hk : pureN m k s0 = .done t')
    (bs : List Nat) (hpos : ∀ b ∈ bs, 1 ≤ b) (hsum : k ≤ bs.sum) :
    ∃ s1 s2, run m k s0 = .done s1 ∧ runSliced m bs s0 = .done s2 ∧ obs s1 = obs s2 :=
  let ⟨s1, s2, h1, h2, r1, r2⟩ := (sliced_rel m R hT s0 hrefl k bs hpos hsum).1 t' hk
  ⟨s1, s2, h1, h2, by rw [hobs _ _ r1, hobs _ _ r2]⟩

/-- the same for an evaluation that fails: same error, related states -/
theorem sliced_equiv_uninterrupted_error (m : Machine S E) (R : S → S → Prop)
    (hT : GcTransparent m R) (O : Type) (obs : S → O) (hobs : ∀ s t, R s t → obs s = obs t)
    (s0 : S) (hrefl : R s0 s0) (k : Nat) (e : E) (t' : S) (hk : pureN m k s0 = .error e t')
    (bs : List Nat) (hpos : ∀ b ∈ bs, 1 ≤ b) (hsum : k ≤ bs.sum) :
    ∃ s1 s2, run m k s0 = .error e s1 ∧ runSliced m bs s0 = .error e s2 ∧ obs s1 = obs s2 :=
  let ⟨s1, s2, h1, h2, r1, r2⟩ := (sliced_rel m R hT s0 hrefl k bs hpos hsum).2 e t' hk
  ⟨s1, s2, h1, h2, by rw [hobs _ _ r1, hobs _ _ r2]⟩

/-- a budget slice never exhausts the model's fuel (no hypothesis on the machine) -/
theorem runCount_ne_fuel (m : Machine S E) (b : Nat) (hb : 1 ≤ b) (s : S) :
    runCount m b s ≠ .fuel := by
  suffices ∀ (n c : Nat) (s : S), 1 ≤ n → runLoop m (some (c + n)) n c s ≠ .fuel by
    have := this b 0 s hb; simpa [runCount] using this
  intro n
  induction n with
  | zero => intro c s h; omega
  | succ n ih =>
    intro c s _
    rw [runLoop_budget]
    cases m.step (if (c + 1) % 8192 = 0 then m.gc s else s) with
    | halt s' => simp
    | fail e s' => simp
    | next s' =>
      by_cases hn : n = 0
      · subst hn; simp
      · simp only [hn, if_false]
        exact ih (c + 1) s' (by omega)

/-! ### non-vacuity: a concrete machine (a counter that halts at 5, "collector" = identity) -/

def demo : Machine Nat Unit := ⟨fun n => if n ≥ 5 then .halt n else .next (n + 1), id⟩

example : pureN demo 6 0 = .done 5 := by rfl
example : runSliced demo [1, 1, 1, 1, 1, 1] 0 = .done 5 := by rfl
example : runSliced demo [4, 2] 0 = .done 5 := by rfl
example : runCount demo 1 0 = .paused 1 := by rfl

/-! ## T13.3 for the concrete machine: `GcTransparent` by the heap simulation

`R` (Lemmas/SimMain.lean) is "`Sim φ` for some partial injection `φ`, and both states are `Safe`". `gc_left` is `cgc_sim`
(from T03.2 and T03.3), `step` is `step_sim` for all 16 opcodes **given** `ExtLaws ext`: the law "respects the simulation" of
the four non-modelled parameters of `concreteOps` — `builtinKind`, `builtinEval` (the 138 registered names other than
`apply`, `eval`, `call/cc`, `call-with-current-continuation`), `compileEval` (`eval`'s compiler), `vectorPush` (VPUSH through
an aliased `Rc`). `Safe m s0`: every state reachable from `s0` is `Good`; a hypothesis of the `_partial` theorems. -/
section Concrete
open Marwood.Lemmas.Sim Marwood.Vm.Concrete

/-- **`GcTransparent` for the real collector model** (T03.5's core) -/
theorem gcTransparent_concrete_partial (ext : ExtOps) (force : Bool) (o : ExtLaws ext) :
    GcTransparent (machine ext force) (R (machine ext force)) where
  step := by
    rintro s t ⟨⟨φ, hs⟩, ss, st⟩
    have hstep := step_sim ext (execSim_all ext o) hs ss.good st.good
    -- `step_sim` relates the two outcomes; the successors are again in `R` since `Safe` is closed under `Reaches`
    show StepRel _ (vmStep (concreteOps ext) s) (vmStep (concreteOps ext) t)
    unfold vmStep
    generalize hx : step (concreteOps ext) s = x at hstep
    generalize hy : step (concreteOps ext) t = y at hstep
    cases hstep with
    | ok r =>
      rename_i a b
      obtain ⟨s', hb⟩ := a
      obtain ⟨t', hb'⟩ := b
      obtain ⟨e, ψ, _, hs'⟩ := r
      simp only at e hs'
      subst e
      cases hb with
      | false =>
        have r1 : (machine ext force).step s = .next s' := by simp [machine, vmStep, hx]
        have r2 : (machine ext force).step t = .next t' := by simp [machine, vmStep, hy]
        exact .next ⟨⟨ψ, hs'⟩, ss.of_reaches (.next (.refl s) r1), st.of_reaches (.next (.refl t) r2)⟩
      | true =>
        have r1 : (machine ext force).step s = .halt s' := by simp [machine, vmStep, hx]
        have r2 : (machine ext force).step t = .halt t' := by simp [machine, vmStep, hy]
        exact .halt ⟨⟨ψ, hs'⟩, ss.of_reaches (.halt (.refl s) r1), st.of_reaches (.halt (.refl t) r2)⟩
    | err => exact .fail ⟨⟨φ, hs⟩, ss, st⟩
    | panic => exact .fail ⟨⟨φ, hs⟩, ss, st⟩
  gc_left := by
    rintro s t ⟨⟨φ, hs⟩, ss, st⟩
    have hr : Reaches (machine ext force) s (cgc force s) := .gc (.refl s)
    obtain ⟨ψ, _, h⟩ := cgc_sim force hs ss.good.plain ss.good.wf ss.good.roots (ss _ hr).size
    exact ⟨⟨ψ, h⟩, ss.of_reaches hr, st⟩

/-- **T13.3 for the concrete machine**, against the collection-free run -/
theorem sliced_sim_pure_partial (ext : ExtOps) (force : Bool) (o : ExtLaws ext) (bs : List Nat)
    (hpos : ∀ b ∈ bs, 1 ≤ b) (s t : St CHeap) (h : R (machine ext force) s t) :
    ResRel (R (machine ext force)) (runSliced (machine ext force) bs s) (pureN (machine ext force) bs.sum t) :=
  runSliced_pureN _ _ (gcTransparent_concrete_partial ext force o) bs hpos s t h

/-- sliced vs. uninterrupted on the concrete machine: both complete, and any observation that `Sim`
    preserves (`Lemmas/SimObs.lean`: the datum read from `acc`) is equal -/
theorem sliced_equiv_uninterrupted_concrete_partial (ext : ExtOps) (force : Bool) (o : ExtLaws ext)
    (O : Type) (obs : St CHeap → O) (hobs : ∀ s t, R (machine ext force) s t → obs s = obs t)
    (s0 : St CHeap) (hrefl : R (machine ext force) s0 s0) (k : Nat) (t' : St CHeap)
    (hk : pureN (machine ext force) k s0 = .done t')
    (bs : List Nat) (hpos : ∀ b ∈ bs, 1 ≤ b) (hsum : k ≤ bs.sum) :
    ∃ s1 s2, run (machine ext force) k s0 = .done s1 ∧ runSliced (machine ext force) bs s0 = .done s2 ∧
      obs s1 = obs s2 :=
  sliced_equiv_uninterrupted_done _ _ (gcTransparent_concrete_partial ext force o) O obs hobs s0 hrefl k t' hk
    bs hpos hsum

/-- **T13.3 for the concrete machine, on the read-out value**: the datum read out of `acc` is the same (any read-out fuel) -/
theorem sliced_value_eq_uninterrupted_partial (ext : ExtOps) (force : Bool) (o : ExtLaws ext)
    (s0 : St CHeap) (hs : Safe (machine ext force) s0) (k : Nat) (t' : St CHeap)
    (hk : pureN (machine ext force) k s0 = .done t')
    (bs : List Nat) (hpos : ∀ b ∈ bs, 1 ≤ b) (hsum : k ≤ bs.sum) (fuel : Nat) :
    ∃ s1 s2, run (machine ext force) k s0 = .done s1 ∧ runSliced (machine ext force) bs s0 = .done s2 ∧
      resultObs fuel s1 = resultObs fuel s2 :=
  sliced_equiv_uninterrupted_concrete_partial ext force o Obs (resultObs fuel)
    (fun s t ⟨⟨_, h⟩, ss, st⟩ => resultObs_sim h ss.good.size st.good.size fuel)
    s0 (R_refl _ hs) k t' hk bs hpos hsum

/-- a parameter set whose builtins, compiler and VPUSH always fail: it satisfies every law of the unmodelled parts -/
def failingExt : ExtOps :=
  { builtinKind := fun _ _ => .generic
    builtinEval := fun _ _ _ => .err (.builtin "unsupported")
    compileEval := fun _ _ => .err (.builtin "unsupported")
    vectorPush := fun _ _ _ => .err .expectedType }

theorem failingExt_laws : ExtLaws failingExt :=
  ⟨fun _ _ _ _ _ => rfl, fun _ _ _ _ _ _ _ _ _ _ _ _ => .err, fun _ _ _ _ _ _ _ _ _ _ _ => .err,
   fun _ _ _ _ _ _ _ _ _ _ _ _ => .err⟩

end Concrete

/-! ## T13.3 from `GoodI` of the initial state: `Safe` is a theorem (`safe_of_good`, Lemmas/GoodMain.lean)

`ExtGood ext` is the law of the non-modelled parameters for this invariant. `SizeBounded m s0`: every reachable heap has at
most `2^62` cells (half of `SizeOk`, so that the heap a collection has grown still satisfies `SizeOk`); the only size
hypothesis — not an invariant (a run can allocate without bound) but a physical fact. `StackDiscAlong m s0`: the frame
discipline of the current instruction in every reachable state; derived from WF-stack in the section after this one. -/
section ConcreteInv
open Marwood.Lemmas.Sim Marwood.Lemmas.Good Marwood.Vm.Concrete

theorem failingExt_good : ExtGood failingExt :=
  ⟨fun _ _ _ _ _ _ _ h => (by cases h), fun _ _ _ _ _ _ h => (by cases h), fun _ _ _ _ _ _ _ h => (by cases h)⟩

/-- **T13.3 for the concrete machine, hypothesis on the initial state only.** If the uninterrupted evaluation
    reaches HALT after `k` instructions, then for every sequence of positive budgets whose sum reaches `k` the
    sliced evaluation reaches HALT too and the datum read out of `acc` is the same. -/
theorem sliced_value_eq_uninterrupted (ext : ExtOps) (force : Bool) (o : ExtLaws ext) (eg : ExtGood ext)
    (s0 : St CHeap) (g0 : GoodI s0) (sb : SizeBounded (machine ext force) s0)
    (sd : StackDiscAlong (machine ext force) s0) (k : Nat) (t' : St CHeap)
    (hk : pureN (machine ext force) k s0 = .done t')
    (bs : List Nat) (hpos : ∀ b ∈ bs, 1 ≤ b) (hsum : k ≤ bs.sum) (fuel : Nat) :
    ∃ s1 s2, run (machine ext force) k s0 = .done s1 ∧ runSliced (machine ext force) bs s0 = .done s2 ∧
      resultObs fuel s1 = resultObs fuel s2 :=
  sliced_value_eq_uninterrupted_partial ext force o s0 (safe_of_good force o eg g0 sb sd) k t' hk bs hpos hsum fuel

/-- the same for an evaluation that fails: the same failure, `Sim`-related states -/
theorem sliced_error_eq_uninterrupted (ext : ExtOps) (force : Bool) (o : ExtLaws ext) (eg : ExtGood ext)
    (s0 : St CHeap) (g0 : GoodI s0) (sb : SizeBounded (machine ext force) s0)
    (sd : StackDiscAlong (machine ext force) s0) (k : Nat) (e : Fault) (t' : St CHeap)
    (hk : pureN (machine ext force) k s0 = .error e t')
    (bs : List Nat) (hpos : ∀ b ∈ bs, 1 ≤ b) (hsum : k ≤ bs.sum) :
    ∃ s1 s2, run (machine ext force) k s0 = .error e s1 ∧ runSliced (machine ext force) bs s0 = .error e s2 ∧
      R (machine ext force) s1 t' ∧ R (machine ext force) s2 t' :=
  (sliced_rel _ _ (gcTransparent_concrete_partial ext force o) s0 (R_refl _ (safe_of_good force o eg g0 sb sd)) k bs hpos
    hsum).2 e t' hk

/-- the hypothesis as one about the VM **between** evaluations: an idle good machine on which `prepare_eval` compiled the
    form `d` (law `CompGood` of the compiler) -/
theorem sliced_value_eq_uninterrupted_eval (ext : ExtOps) (force : Bool) (o : ExtLaws ext) (eg : ExtGood ext)
    (comp : CHeap → VCell → Outcome (CHeap × VCell)) (cg : CompGood comp)
    (s : St CHeap) (g : GoodI s) (hacc : s.acc = .undefined) (hep : Heap.Sentinel s.ep)
    (hst : ∀ c ∈ s.stack.cells, c = VCell.undefined) (d : VCell) (hd : addrFree d = true)
    (s0 : St CHeap) (hp : prepareEval comp s d = .ok s0) (sb : SizeBounded (machine ext force) s0)
    (sd : StackDiscAlong (machine ext force) s0) (k : Nat) (t' : St CHeap)
    (hk : pureN (machine ext force) k s0 = .done t')
    (bs : List Nat) (hpos : ∀ b ∈ bs, 1 ≤ b) (hsum : k ≤ bs.sum) (fuel : Nat) :
    ∃ s1 s2, run (machine ext force) k s0 = .done s1 ∧ runSliced (machine ext force) bs s0 = .done s2 ∧
      resultObs fuel s1 = resultObs fuel s2 :=
  sliced_value_eq_uninterrupted ext force o eg s0
    (prepare_goodI cg g hacc hep hst hd hp (sb s0 (.refl s0))) sb sd k t' hk bs hpos hsum fuel

open Marwood.Lemmas.Good.Demo in
example : GoodI (sHalt 0) ∧ SizeBounded (machine failingExt false) (sHalt 0) ∧
    StackDiscAlong (machine failingExt false) (sHalt 0) ∧ ExtLaws failingExt ∧ ExtGood failingExt :=
  ⟨sHalt_goodI 0, sHalt_sizeBounded _, sHalt_discAlong _, failingExt_laws, failingExt_good⟩

open Marwood.Lemmas.Good.Demo in
example (bs : List Nat) (hpos : ∀ b ∈ bs, 1 ≤ b) (hsum : 1 ≤ bs.sum) :
    ∃ s1 s2, run (machine failingExt false) 1 (sHalt 0) = .done s1 ∧
      runSliced (machine failingExt false) bs (sHalt 0) = .done s2 ∧ resultObs 5 s1 = resultObs 5 s2 :=
  sliced_value_eq_uninterrupted failingExt false failingExt_laws failingExt_good (sHalt 0) (sHalt_goodI 0)
    (sHalt_sizeBounded _) (sHalt_discAlong _) 1 (sHalt 1) rfl bs hpos hsum 5

example : CompGood (fun _ _ => .err .invalidSyntax) := ⟨fun _ _ _ _ _ _ _ h => (by cases h)⟩

/-! ### T13.3 from `VmOk` of the initial state: `StackDiscAlong` is a theorem (`stackDiscAlong_of_wfs`)

`VmOk s = GoodI s ∧ ((∃ K, WFS … s K) ∨ HaltedAt s)` is an invariant of the real concrete machine. What stays along the run:
`SizeBounded` and `CalleeOkAlong` (the callee guard passes at every reachable CALL / TCALL / ENTER site: the oracle
`callee-ok` of the `bytecode-verifier` stream). -/

/-- the always-failing parameter set satisfies the code law vacuously -/
theorem failingExt_codeLawsV : ExtCodeLawsV failingExt :=
  ⟨fun _ h => (by cases h), fun _ h => (by cases h), fun _ h => (by cases h)⟩

/-- **T13.3 from the bundled invariant of the initial state** -/
theorem sliced_value_eq_uninterrupted_wf (ext : ExtOps) (force : Bool) (o : ExtLaws ext) (eg : ExtGood ext)
    (ecl : ExtCodeLawsV ext) (s0 : St CHeap) (h0 : VmOk ext ecl s0) (sb : SizeBounded (machine ext force) s0)
    (ca : CalleeOkAlong (machine ext force) s0) (k : Nat) (t' : St CHeap)
    (hk : pureN (machine ext force) k s0 = .done t')
    (bs : List Nat) (hpos : ∀ b ∈ bs, 1 ≤ b) (hsum : k ≤ bs.sum) (fuel : Nat) :
    ∃ s1 s2, run (machine ext force) k s0 = .done s1 ∧ runSliced (machine ext force) bs s0 = .done s2 ∧
      resultObs fuel s1 = resultObs fuel s2 :=
  sliced_value_eq_uninterrupted ext force o eg s0 h0.1 sb (stackDiscAlong_of_wfs force o eg h0 sb ca) k t' hk bs
    hpos hsum fuel

/-- … and for an evaluation that fails -/
theorem sliced_error_eq_uninterrupted_wf (ext : ExtOps) (force : Bool) (o : ExtLaws ext) (eg : ExtGood ext)
    (ecl : ExtCodeLawsV ext) (s0 : St CHeap) (h0 : VmOk ext ecl s0) (sb : SizeBounded (machine ext force) s0)
    (ca : CalleeOkAlong (machine ext force) s0) (k : Nat) (e : Fault) (t' : St CHeap)
    (hk : pureN (machine ext force) k s0 = .error e t')
    (bs : List Nat) (hpos : ∀ b ∈ bs, 1 ≤ b) (hsum : k ≤ bs.sum) :
    ∃ s1 s2, run (machine ext force) k s0 = .error e s1 ∧ runSliced (machine ext force) bs s0 = .error e s2 ∧
      R (machine ext force) s1 t' ∧ R (machine ext force) s2 t' :=
  sliced_error_eq_uninterrupted ext force o eg s0 h0.1 sb (stackDiscAlong_of_wfs force o eg h0 sb ca) k e t' hk bs
    hpos hsum

open Marwood.Lemmas.Good.Demo in
example : VmOk failingExt failingExt_codeLawsV (sHalt 0) ∧ SizeBounded (machine failingExt false) (sHalt 0) ∧
    CalleeOkAlong (machine failingExt false) (sHalt 0) :=
  ⟨sHalt_vmOk _ _, sHalt_sizeBounded _, sHalt_calleeOkAlong _⟩

open Marwood.Lemmas.Good.Demo in
example (bs : List Nat) (hpos : ∀ b ∈ bs, 1 ≤ b) (hsum : 1 ≤ bs.sum) :
    ∃ s1 s2, run (machine failingExt false) 1 (sHalt 0) = .done s1 ∧
      runSliced (machine failingExt false) bs (sHalt 0) = .done s2 ∧ resultObs 5 s1 = resultObs 5 s2 :=
  sliced_value_eq_uninterrupted_wf failingExt false failingExt_laws failingExt_good failingExt_codeLawsV (sHalt 0)
    (sHalt_vmOk _ _) (sHalt_sizeBounded _) (sHalt_calleeOkAlong _) 1 (sHalt 1) rfl bs hpos hsum 5

/-! ### T13.3 from `VmOk ∧ PInv` of the initial state: `CalleeOkAlong` is a theorem (`calleeOkAlong_of_vmOk`)

`PInv` (`Lemmas/ProcInv*.lean`): every closure cell's lambda is procedure code, and no value points to entry code; executable
form `Vm/ProcInv.lean: statePB`, evaluated on every real state by the stream `safe-side-conditions`. `ExtProc`: builtins /
`eval`'s compiler / VPUSH create no entry code and return nothing that leads to entry code. -/

theorem failingExt_proc : ExtProc failingExt :=
  ⟨fun _ _ _ _ _ _ _ _ h => (by cases h), fun _ _ _ _ _ _ _ h => (by cases h), fun _ _ _ _ _ _ _ _ h => (by cases h)⟩

/-- **T13.3 from `VmOk ∧ PInv`**: no hypothesis along the run besides the physical size bound -/
theorem sliced_value_eq_uninterrupted_closed (ext : ExtOps) (force : Bool) (o : ExtLaws ext) (eg : ExtGood ext)
    (ecl : ExtCodeLawsV ext) (ep : ExtProc ext) (s0 : St CHeap) (h0 : VmOk ext ecl s0) (p0 : PInv s0)
    (sb : SizeBounded (machine ext force) s0) (k : Nat) (t' : St CHeap)
    (hk : pureN (machine ext force) k s0 = .done t')
    (bs : List Nat) (hpos : ∀ b ∈ bs, 1 ≤ b) (hsum : k ≤ bs.sum) (fuel : Nat) :
    ∃ s1 s2, run (machine ext force) k s0 = .done s1 ∧ runSliced (machine ext force) bs s0 = .done s2 ∧
      resultObs fuel s1 = resultObs fuel s2 :=
  sliced_value_eq_uninterrupted_wf ext force o eg ecl s0 h0 sb (calleeOkAlong_of_vmOk force o eg ep h0 p0 sb) k t' hk
    bs hpos hsum fuel

theorem sliced_error_eq_uninterrupted_closed (ext : ExtOps) (force : Bool) (o : ExtLaws ext) (eg : ExtGood ext)
    (ecl : ExtCodeLawsV ext) (ep : ExtProc ext) (s0 : St CHeap) (h0 : VmOk ext ecl s0) (p0 : PInv s0)
    (sb : SizeBounded (machine ext force) s0) (k : Nat) (e : Fault) (t' : St CHeap)
    (hk : pureN (machine ext force) k s0 = .error e t')
    (bs : List Nat) (hpos : ∀ b ∈ bs, 1 ≤ b) (hsum : k ≤ bs.sum) :
    ∃ s1 s2, run (machine ext force) k s0 = .error e s1 ∧ runSliced (machine ext force) bs s0 = .error e s2 ∧
      R (machine ext force) s1 t' ∧ R (machine ext force) s2 t' :=
  sliced_error_eq_uninterrupted_wf ext force o eg ecl s0 h0 sb (calleeOkAlong_of_vmOk force o eg ep h0 p0 sb) k e t'
    hk bs hpos hsum

open Marwood.Lemmas.Good.Demo in
example : ExtProc failingExt ∧ VmOk failingExt failingExt_codeLawsV (sHalt 0) ∧ PInv (sHalt 0) ∧
    SizeBounded (machine failingExt false) (sHalt 0) :=
  ⟨failingExt_proc, sHalt_vmOk _ _, sHalt_pinv 0, sHalt_sizeBounded _⟩

open Marwood.Lemmas.Good.Demo in
example (bs : List Nat) (hpos : ∀ b ∈ bs, 1 ≤ b) (hsum : 1 ≤ bs.sum) :
    ∃ s1 s2, run (machine failingExt false) 1 (sHalt 0) = .done s1 ∧
      runSliced (machine failingExt false) bs (sHalt 0) = .done s2 ∧ resultObs 5 s1 = resultObs 5 s2 :=
  sliced_value_eq_uninterrupted_closed failingExt false failingExt_laws failingExt_good failingExt_codeLawsV
    failingExt_proc (sHalt 0) (sHalt_vmOk _ _) (sHalt_pinv 0) (sHalt_sizeBounded _) 1 (sHalt 1) rfl bs hpos hsum 5

end ConcreteInv

end Marwood.Proofs.C13
