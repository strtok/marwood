import Marwood.Lemmas.Symbol
import Marwood.Lemmas.MachineSym
import Marwood.Proofs.C13
/-!
# C18 — symbols are interned: same name iff `eq?`, across collections and conversions

Models: `Marwood.Heap` (heap.rs: symbol table, `put`/`maybe_put`, the collector), `Marwood/Symbol.lean`
(builtin/symbol.rs), `unescapeGo` of `Marwood.Parse` (parse_string). In `Symbol.lean`'s words: the *spelling* of a
symbol is the text its cell stores, its *name* what `symbol->string` returns; the theorems below are about spellings.
The invariant `Interned` ("the table maps a spelling to `i` iff cell `i` is allocated and holds it") is part of
`WFHeap`, established by `Heap::new` and preserved by every heap operation and by `run_gc`
(`Lemmas/HeapWF.lean`, `HeapWFOps.lean`; C03, T03.3).

T18.1 and T18.2 on the heap model; T18.3; T18.4 (the full statement is false: two partial forms, two negations);
the known finding about the pinned encoder; then T18.1 / T18.2 about executions of the concrete machine.
-/
namespace Marwood.Proofs.C18
open Marwood Marwood.Heap
open Marwood.Lemmas.HeapWFOps

/-! ## T18.1 — one cell per spelling -/

/-- T18.1: under `Interned` two allocated symbol cells are the same cell iff they hold the same spelling -/
theorem interned_ptr_eq_iff (h : Heap) (hi : Interned h) {p q : Nat} {n m : Text}
    (hp : h.AllocSym p n) (hq : h.AllocSym q m) : p = q ↔ n = m := by
  constructor
  · intro e
    subst e
    have := hp.1.symm.trans hq.1
    simpa using this
  · intro e
    subst e
    have h1 := (hi n p).mpr hp
    have h2 := (hi n q).mpr hq
    rw [h1] at h2
    simpa using h2

/-- T18.1: `eq?` (`Vm::eqv` on the two pointers) answers "same spelling", under `Interned` the same as
"same pointer" -/
theorem interned_eqv_iff (h : Heap) (hi : Interned h) {p q : Nat} {n m : Text}
    (hp : h.AllocSym p n) (hq : h.AllocSym q m) :
    h.eqvSym p q = some (decide (n = m)) ∧ (h.eqvSym p q = some true ↔ p = q) := by
  have key := interned_ptr_eq_iff h hi hp hq
  unfold Heap.eqvSym
  by_cases e : p = q
  · have hn : n = m := key.mp e
    simp [e, hn]
  · have hn : ¬ n = m := fun x => e (key.mpr x)
    simp [e, hp.1, hq.1, hn]

/-- every production of a symbol value ends in `Heap::put` (the reader's datum through `put_cell`, a macro
template and `eval` likewise, `string->symbol` through `maybe_put`): the cell returned holds the spelling, the heap
stays well-formed, allocated symbols stay where they were. `hb`: `WFCore.bound` should the heap grow (addresses stay
apart from the `usize::MAX` sentinel) -/
theorem production_interns (h h' : Heap) (n : Text) (v : VCell) (wf : WFHeap true h)
    (hb : Heap.grownSize h.chunk h.cells.size ≤ 2 ^ 63) (hput : h.put (.symbol n) = .ok (h', v)) :
    WFHeap true h' ∧ (∃ p, v = .ptr p ∧ h'.AllocSym p n) ∧
      (∀ q m, h.AllocSym q m → h'.AllocSym q m) := by
  obtain ⟨wf', hf⟩ := put_wf true h h' _ v wf (by intro y hy; cases hy) hb hput
  rcases hf with ⟨q, hq, _, _⟩ | pf
  · cases hq
  · obtain ⟨p, hv, hnf, hc⟩ := pf.result
    refine ⟨wf', ⟨p, hv, hc, hnf⟩, ?_⟩
    intro q m hqm
    obtain ⟨a, b⟩ := pf.keep q hqm.2
    exact ⟨by rw [b]; exact hqm.1, a⟩

/-- `maybe_put` never hands a symbol back unboxed -/
theorem putNew_symbol_not_unboxed (h h' : Heap) (n : Text)
    (hput : h.maybePut (.symbol n) = .ok (h', .symbol n)) : False := by
  simp only [Heap.maybePut, Heap.putNew] at hput
  split at hput
  · cases hput
  · cases ha : h.alloc with
    | error e => simp [ha, bind, Except.bind] at hput
    | ok r =>
      obtain ⟨h1, p⟩ := r
      simp only [ha, bind, Except.bind] at hput
      cases hw : h1.write p (.symbol n) with
      | error e => simp [hw] at hput
      | ok h2 => simp [hw, pure, Except.pure] at hput

/-- the same for `maybe_put` (the result of a builtin such as `string->symbol`) -/
theorem maybePut_production_interns (h h' : Heap) (n : Text) (v : VCell) (wf : WFHeap true h)
    (hb : Heap.grownSize h.chunk h.cells.size ≤ 2 ^ 63) (hput : h.maybePut (.symbol n) = .ok (h', v)) :
    WFHeap true h' ∧ (∃ p, v = .ptr p ∧ h'.AllocSym p n) ∧
      (∀ q m, h.AllocSym q m → h'.AllocSym q m) := by
  obtain ⟨wf', hf⟩ := maybePut_wf true h h' _ v wf (by intro y hy; cases hy) hb hput
  rcases hf with ⟨hq, _⟩ | pf
  · -- not unboxed: `putNew` answers with a pointer
    exfalso
    subst hq
    exact putNew_symbol_not_unboxed h h' n hput
  · obtain ⟨p, hv, hnf, hc⟩ := pf.result
    refine ⟨wf', ⟨p, hv, hc, hnf⟩, ?_⟩
    intro q m hqm
    obtain ⟨a, b⟩ := pf.keep q hqm.2
    exact ⟨by rw [b]; exact hqm.1, a⟩

/-- T18.1/T18.2: a symbol `n` is alive at `p` in a heap that is well-formed, whatever happened since it was
produced; a second production, of `m`, returns `p` iff `m = n` -/
theorem two_productions_eq_iff (h h' : Heap) (n m : Text) (p : Nat) (v : VCell) (wf : WFHeap true h)
    (hp : h.AllocSym p n) (hb : Heap.grownSize h.chunk h.cells.size ≤ 2 ^ 63)
    (hput : h.put (.symbol m) = .ok (h', v)) :
    ∃ q, v = .ptr q ∧ (q = p ↔ m = n) ∧ h'.eqvSym q p = some (decide (m = n)) := by
  obtain ⟨wf', ⟨q, hv, hq⟩, keep⟩ := production_interns h h' m v wf hb hput
  have hp' := keep p n hp
  exact ⟨q, hv, interned_ptr_eq_iff h' wf'.interned hq hp', (interned_eqv_iff h' wf'.interned hq hp').1⟩

/-- T18.2: a collection keeps the heap well-formed and a symbol cell reachable from the roots keeps address and
spelling, so `two_productions_eq_iff` applies across collections. `hb`: `WFCore.bound` of the returned heap, which
may have grown -/
theorem collection_keeps_symbol (force : Bool) (h h' : Heap) (r : Roots) (p : Nat) (n : Text)
    (wf : WFHeap true h) (hr : RootsOk h (r.refs true)) (hb : h'.cells.size ≤ 2 ^ 63)
    (hrun : Heap.runGc true force h r = .ok (.collected h'))
    (hreach : Marwood.Lemmas.GcSafety.Reachable true h (r.refs true) p) (hp : h.AllocSym p n) :
    WFHeap true h' ∧ h'.AllocSym p n := by
  have wf' := Marwood.Lemmas.HeapWF.runGc_wf true force h r h' wf hr hb hrun
  have gs := Marwood.Lemmas.GcSafety.runGc_spec true force h r h' wf.sizes wf.no_used
    wf.shape hrun
  refine ⟨wf', ?_, Or.inl (gs.gc_reach p hreach)⟩
  rw [gs.cells_reach p hreach]
  exact hp.1

/-- T18.3: `(symbol->string (string->symbol s))` is `s`, for every string `s` -/
theorem symbol_string_roundtrip (s : Text) : symbolToString (stringToSymbol s) = .ok s :=
  symbolToString_stringToSymbol s

/-! ## T18.4

Full statement (false): `∀ y, reencode y = .ok y`, i.e. `(string->symbol (symbol->string y))` is `y`. It fails for
spellings the reader accepts but `string->symbol` would not build: peculiar identifiers (`+`, `...`, `1+`: the
encoder escapes a first character that is not an initial identifier character) and literals with an escape
(`a\x41;b` is re-encoded as `aAb`). Proved: the spellings `string->symbol` builds, every plain identifier, and the
negation at both kinds of witness. -/

/-- T18.4, partial: spellings the encoder builds -/
theorem string_symbol_roundtrip_encoder_partial (y : Text) (hy : ∃ s, y = stringToSymbol s) :
    reencode y = .ok y := by
  obtain ⟨s, rfl⟩ := hy
  unfold reencode
  rw [symbolToString_stringToSymbol]

/-- T18.4, partial: plain identifiers, a decidable class of reader spellings -/
theorem string_symbol_roundtrip_plain_partial (y : Text) (hy : plainIdent y = true) :
    reencode y = .ok y := by
  obtain ⟨h1, h2⟩ := plainIdent_fixed y hy
  unfold reencode
  rw [h1]
  simp only
  rw [h2]

theorem hexOf_plus : hexOf '+' = ['2', 'b'] := by
  unfold hexOf
  rw [natDigits_ge (by decide) (by decide), natDigits_lt (by decide)]
  decide

theorem encode_plus : stringToSymbol ['+'] = "\\x2b;".toList := by
  have h : encodeSymChar false true '+' = symEscape '+' := by
    unfold encodeSymChar
    have a : isInitialIdentifier '+' = false := by decide
    have b : ('+' : Char) ≠ '\\' := by decide
    simp [a, b]
  simp only [stringToSymbol, stringToSymbolP, encodeSymTail, h, symEscape, hexOf_plus]
  decide

/-- negation of the full T18.4 at `+` -/
theorem peculiar_identifier_not_fixed :
    reencode ['+'] = .ok "\\x2b;".toList ∧ reencode ['+'] ≠ .ok ['+'] := by
  have h1 : symbolToString ['+'] = .ok ['+'] := by decide
  have h2 : reencode ['+'] = .ok "\\x2b;".toList := by
    unfold reencode
    rw [h1]
    simp only [encode_plus]
  refine ⟨h2, ?_⟩
  rw [h2]
  decide

/-- negation of the full T18.4 at the literal `a\x41;b` (whose name is `aAb`) -/
theorem escaped_literal_not_fixed :
    symbolToString "a\\x41;b".toList = .ok "aAb".toList ∧
      reencode "a\\x41;b".toList = .ok "aAb".toList ∧ "aAb".toList ≠ "a\\x41;b".toList := by
  have h1 : symbolToString "a\\x41;b".toList = .ok "aAb".toList := by decide
  refine ⟨h1, ?_, by decide⟩
  unfold reencode
  rw [h1]
  have h2 := (plainIdent_fixed "aAb".toList (by decide)).2
  simp only [h2]

/-! ## known finding: the pinned encoder `stringToSymbolP true` (marwood before commit b17ac76) copies a backslash verbatim -/

/-- `"a\\b"` (a, backslash, b) comes back as a, backspace -/
theorem pinned_backslash_not_inverse :
    symbolToString (stringToSymbolP true ['a', '\\', 'b']) = .ok ['a', Char.ofNat 8] := by decide

/-- the symbol built from the one-character string `"\\"` has no readable name -/
theorem pinned_backslash_unreadable :
    symbolToString (stringToSymbolP true ['\\']) = .error .incomplete := by decide

/-- the strings `"A"` and `"\\x41;"` give two spellings with one name -/
theorem pinned_two_spellings_one_name :
    stringToSymbolP true ['A'] ≠ stringToSymbolP true "\\x41;".toList ∧
      symbolToString (stringToSymbolP true ['A']) = symbolToString (stringToSymbolP true "\\x41;".toList) := by
  decide +kernel

/-! ## non-vacuity -/

example : symbolToString (stringToSymbol "a\\b c".toList) = .ok "a\\b c".toList :=
  symbol_string_roundtrip _

example : plainIdent "list->vector".toList = true := by decide +kernel

def okOr {α} [Inhabited α] : Except String α → α
  | .ok a => a
  | .error _ => default

def hA : Heap := okOr (Heap.new 8)
def hB : Heap := (okOr (hA.put (.symbol ['a']))).1
def hC : Heap := (okOr (hB.put (.symbol ['b']))).1

/-- the hypotheses of `two_productions_eq_iff`: a heap built through the API with `a` alive at address 0;
producing `b` gives another address, producing `a` again gives 0 -/
example : WFHeap true hB ∧ hB.AllocSym 0 ['a'] ∧
    hB.put (.symbol ['b']) = .ok (hC, .ptr 1) ∧ hB.put (.symbol ['a']) = .ok (hB, .ptr 0) := by
  have h0 : Heap.new 8 = .ok hA := rfl
  have wf0 := Marwood.Lemmas.HeapWFOps.new_wf true 8 _ (by decide) (by decide) h0
  have h1 : hA.put (.symbol ['a']) = .ok (hB, .ptr 0) := rfl
  obtain ⟨wf1, ⟨p, hv, hp⟩, _⟩ := production_interns _ _ _ _ wf0 (by decide) h1
  cases hv
  exact ⟨wf1, hp, rfl, rfl⟩

/-! ## T18.1 / T18.2 about executions of the concrete machine

`machine ext force` is `run_one` over the concrete heap (`CHeap`: cells, 2-bit map, free list, symbol table,
global slots) with `run_gc` = the C03 collector through the erasure; `Reaches` allows any number of instructions
and a collection at any boundary. `GoodI` of the initial state, propagated by `goodI_reaches`, contains `WFHeap`,
hence `Interned`. Hypotheses, those of `goodI_reaches`: `ExtLaws` / `ExtGood` (the unmodelled builtins, `eval`'s
compiler and VPUSH respect the simulation and the heap invariant: a builtin that stored a second cell for a
spelling would break `HG`), `SizeBounded`, and `StackDiscAlong` (from `VmOk`, `SizeBounded` and `CalleeOkAlong`
by `stackDiscAlong_of_wfs`). -/

section machine
open Marwood.Vm.Concrete Marwood.Lemmas.Sim Marwood.Lemmas.Good Marwood.Lemmas.MachineSym
open Marwood.Vm (St)

/-- T18.1 on a state satisfying the invariant: two addresses the machine can get hold of (`Sees`: a collector
root, or referred to by an allocated cell) that hold symbols are equal iff the spellings are, and `eq?` says so -/
theorem symbols_interned_of_goodI {s : St CHeap} (g : GoodI s) {p q : Nat} {n m : Text}
    (hp : Sees s p) (hq : Sees s q) (cp : SymCell s.heap p n) (cq : SymCell s.heap q m) :
    (p = q ↔ n = m) ∧ (toHeap s.heap).eqvSym p q = some (decide (n = m)) := by
  have ap := sees_sym_alloc g hp cp
  have aq := sees_sym_alloc g hq cq
  exact ⟨interned_ptr_eq_iff _ g.hg.wf.interned ap aq, (interned_eqv_iff _ g.hg.wf.interned ap aq).1⟩

/-- … in every reachable state -/
theorem symbol_addresses_interned_in_every_reachable_state {ext : ExtOps} (force : Bool) (el : ExtLaws ext)
    (eg : ExtGood ext) {s0 : St CHeap} (g0 : GoodI s0) (sb : SizeBounded (machine ext force) s0)
    (sdl : StackDiscAlong (machine ext force) s0) {s : St CHeap} (hr : Reaches (machine ext force) s0 s)
    {p q : Nat} {n m : Text} (hp : Sees s p) (hq : Sees s q) (cp : SymCell s.heap p n) (cq : SymCell s.heap q m) :
    (p = q ↔ n = m) ∧ (toHeap s.heap).eqvSym p q = some (decide (n = m)) :=
  symbols_interned_of_goodI (goodI_reaches force el eg g0 sb sdl s hr) hp hq cp cq

/-- T18.1/T18.2, the property's first sentence about executions: in every state the machine reaches from one
satisfying the invariant, two values sitting anywhere a first-class value can sit (`Loc`: `acc`, a stack cell at or
below `sp`, a global slot, a boxed cell, car or cdr of a pair, a vector element, an environment slot, a cell of a
saved continuation stack) that point to symbol cells are equal iff the spellings are — however each was produced
and whatever was collected in between -/
theorem symbols_interned_in_every_reachable_state {ext : ExtOps} (force : Bool) (el : ExtLaws ext)
    (eg : ExtGood ext) {s0 : St CHeap} (g0 : GoodI s0) (sb : SizeBounded (machine ext force) s0)
    (sdl : StackDiscAlong (machine ext force) s0) {s : St CHeap} (hr : Reaches (machine ext force) s0 s)
    {v w : Vm.VCell} {n m : Text} (lv : Loc s v) (lw : Loc s w) (sv : SymVal s.heap v n) (sw : SymVal s.heap w m) :
    v = w ↔ n = m := by
  obtain ⟨p, rfl, cp⟩ := sv
  obtain ⟨q, rfl, cq⟩ := sw
  have key := (symbol_addresses_interned_in_every_reachable_state force el eg g0 sb sdl hr
    (loc_sees lv) (loc_sees lw) cp cq).1
  constructor
  · intro e; cases e; exact key.mp rfl
  · intro e; rw [key.mpr e]

/-- every allocated symbol cell of the successor of a reachable state is the cell of its spelling: `Interned`
read at `s'` (the step only makes `s'` reachable; what a production does: `put_symbol_interns_concrete`) -/
theorem symbol_production_interns_machine {ext : ExtOps} (force : Bool) (el : ExtLaws ext)
    (eg : ExtGood ext) {s0 : St CHeap} (g0 : GoodI s0) (sb : SizeBounded (machine ext force) s0)
    (sdl : StackDiscAlong (machine ext force) s0) {s s' : St CHeap} (hr : Reaches (machine ext force) s0 s)
    (hs : (machine ext force).step s = .next s' ∨ (machine ext force).step s = .halt s')
    {p : Nat} {n : Text} (hc : SymCell s'.heap p n) (hn : (toHeap s'.heap).NonFree p) :
    symLookup s'.heap n = some p ∧ ∀ q, SymCell s'.heap q n → (toHeap s'.heap).NonFree q → q = p := by
  have hr' : Reaches (machine ext force) s0 s' := by
    rcases hs with e | e
    · exact .next hr e
    · exact .halt hr e
  have g := goodI_reaches force el eg g0 sb sdl s' hr'
  have ap : (toHeap s'.heap).AllocSym p n := ⟨symCell_iff.mp hc, hn⟩
  refine ⟨(g.hg.wf.interned n p).mpr ap, ?_⟩
  intro q hq hnq
  exact (interned_ptr_eq_iff _ g.hg.wf.interned ⟨symCell_iff.mp hq, hnq⟩ ap).mpr rfl

/-- production at the concrete allocator (`Heap::put` over the real free list): the cell returned holds `n` and
the table maps `n` to it, allocated symbols stay, and either the cell held `n` already (heap unchanged) or no
allocated cell did -/
theorem put_symbol_interns_concrete {h : CHeap} (wf : WFHeap true (toHeap h)) (sm : Small h) {v : Vm.VCell}
    {n : Text} (hs : symOf v = some n) : Produced h (putV h v).1 (putV h v).2 n :=
  putV_symbol_interns wf sm hs

/-- the same for `Heap::maybe_put` (the tail of every builtin call: `string->symbol`, `car` of a quoted list, …) -/
theorem maybePut_symbol_interns_concrete {h : CHeap} (wf : WFHeap true (toHeap h)) (sm : Small h) {v : Vm.VCell}
    {n : Text} (hs : symOf v = some n) : Produced h (maybePutV h v).1 (maybePutV h v).2 n :=
  maybePutV_symbol_interns wf sm hs

/-! ### non-vacuity -/

open Marwood.Lemmas.Good.Demo Marwood.Proofs.C13 in
/-- the hypotheses on the machine and its initial state are jointly satisfiable (the program `HALT` of
Lemmas/GoodDemo.lean, `failingExt` of C13); the demo heap holds no symbol, the heap-level example above has two -/
example : GoodI (sHalt 0) ∧ SizeBounded (machine failingExt false) (sHalt 0) ∧
    StackDiscAlong (machine failingExt false) (sHalt 0) ∧ ExtLaws failingExt ∧ ExtGood failingExt ∧
    Reaches (machine failingExt false) (sHalt 0) (sHalt 1) :=
  ⟨sHalt_goodI 0, sHalt_sizeBounded _, sHalt_discAlong _, failingExt_laws, failingExt_good,
   .halt (.refl _) (sHalt_step0 _ _)⟩

end machine

end Marwood.Proofs.C18
