import Marwood.Lemmas.Brackets
import Marwood.Lemmas.ProofsAuxBLexed
/-!
# C20 — the REPL highlighter marks exactly the matching bracket and nothing else

T20.1, T20.2, T20.4, T20.5; T20.3 (brackets inside strings, character literals and comments are no
bracket tokens) has no theorem here. Model: `Marwood.Highlight` (`syntax.rs`; `#(` opens), scanner
`Marwood.Lex`; specification: `Marwood.Spec.Brackets` (stack discipline).
-/
namespace Marwood.Proofs.C20
open Marwood Marwood.Spec

theorem countIdx_lt (h w : TokType → Bool) : ∀ (l : List TokType) (n r : Nat),
    countIdx h w n l = some r → r < l.length := by
  intro l n r hr
  obtain ⟨t, ht, -⟩ := countIdx_at h w l n r hr
  exact (List.getElem?_eq_some_iff.mp ht).1

theorem countScan_mem_want (h w : TokType → Bool) : ∀ (ts : List Token) (n : Nat) (b : Token),
    countScan h w n ts = some b → b ∈ ts ∧ w b.ty = true := by
  intro ts n b hb
  rw [countScan_eq_countIdx] at hb
  obtain ⟨r, hr, hbr⟩ := Option.bind_eq_some_iff.mp hb
  obtain ⟨t, ht, hw⟩ := countIdx_at h w _ n r hr
  rw [List.getElem?_map, hbr] at ht
  cases ht
  exact ⟨List.mem_of_getElem? hbr, hw⟩

theorem findTokenAtIndexFrom_spec (i : Nat) : ∀ (ts : List Token) (k0 k : Nat) (t : Token),
    findTokenAtIndexFrom i k0 ts = some (k, t) →
      k0 ≤ k ∧ ts[k - k0]? = some t ∧ t.lo ≤ i ∧ i < t.hi := by
  intro ts
  induction ts with
  | nil => intro k0 k t h; simp [findTokenAtIndexFrom] at h
  | cons x xs ih =>
    intro k0 k t h
    simp only [findTokenAtIndexFrom] at h
    split at h
    · rename_i hc
      cases h
      simp at hc
      simp [hc.1, hc.2]
    · have := ih _ _ _ h
      refine ⟨by omega, ?_, this.2.2⟩
      have e : k - k0 = (k - (k0 + 1)) + 1 := by omega
      rw [e]; simpa using this.2.1

theorem findTokenAtCursor_spec {ts : List Token} {i k : Nat} {t : Token}
    (h : findTokenAtCursor ts i = some (k, t)) :
    ts[k]? = some t ∧ t.lo ≤ i ∧ i ≤ t.hi := by
  unfold findTokenAtCursor findTokenAtIndex at h
  split at h
  · rename_i p hp
    cases h
    have := findTokenAtIndexFrom_spec _ _ _ _ _ hp
    exact ⟨by simpa using this.2.1, this.2.2.1, by omega⟩
  · split at h
    · have := findTokenAtIndexFrom_spec _ _ _ _ _ h
      exact ⟨by simpa using this.2.1, by omega, by omega⟩
    · cases h

theorem slices_of_span {cs pre body post : Text} {b : Token} (he : cs = pre ++ body ++ post)
    (hlo : b.lo = byteLen pre) (hhi : b.hi = b.lo + byteLen body) :
    takeBytes b.lo cs = some pre ∧ sliceBytes b.lo b.hi cs = some body ∧
      dropBytes b.hi cs = some post := by
  subst he
  refine ⟨?_, ?_, ?_⟩
  · rw [hlo, List.append_assoc]; exact takeBytes_append _ _
  · rw [hhi, hlo]; exact sliceBytes_append _ _ _
  · have : b.hi = byteLen (pre ++ body) := by rw [hhi, hlo]; simp
    rw [this]; exact dropBytes_append _ _

theorem pairsGo_prefix_find (L : List TokType) (sel : Nat × Nat → Nat)
    (hsel : ∀ p ∈ pairsGo 0 [] L, sel p < L.length) :
    (pairsGo 0 [] L).find? (fun p => sel p == L.length) = none := by
  rw [List.find?_eq_none]
  intro p hp
  have := hsel p hp
  simp only [beq_iff_eq]; omega

theorem partner_open (L R : List TokType) {x : TokType} (ho : x.isOpen = true) :
    partner (L ++ x :: R) L.length
      = (countIdx TokType.isOpen TokType.isClose 0 R).map (L.length + 1 + ·) := by
  have hv : ValidStack (L.length + 1) (L.length :: stackAfter 0 [] L) := by
    have := stackAfter_valid L 0 [] ⟨List.Pairwise.nil, by simp⟩
    rw [Nat.zero_add] at this
    exact this.push
  have hnone := pairsGo_prefix_find L (·.1) fun p hp => by
    rcases (pairsGo_bounds _ _ _ _ hp).2 with h | h
    · cases h
    · omega
  have := pairsGo_find_fst R (L.length + 1) _ 0 (by simp) hv
  simp only [List.getElem_cons_zero] at this
  simp only [partner, List.getElem?_append_right (Nat.le_refl _), Nat.sub_self,
    List.getElem?_cons_zero, ho, if_true, pairs, pairsGo_append, Nat.zero_add, pairsGo,
    List.find?_append, hnone, Option.none_or, this, Option.map_map]
  rfl

theorem partner_close (L R : List TokType) {x : TokType} (hc : x.isClose = true) :
    partner (L ++ x :: R) L.length
      = (countIdx TokType.isClose TokType.isOpen 0 L.reverse).map (L.length - 1 - ·) := by
  have hno : x.isOpen = false := by
    cases h : x.isOpen
    · rfl
    · rw [isOpen_not_isClose h] at hc; cases hc
  have hnone := pairsGo_prefix_find L (·.2) fun p hp => by
    have := (pairsGo_bounds _ _ _ _ hp).1; omega
  have hback := countIdx_backward L 0
  simp only [partner, List.getElem?_append_right (Nat.le_refl _), Nat.sub_self,
    List.getElem?_cons_zero, hno, hc, if_true, Bool.false_eq_true, if_false, pairs, pairsGo_append,
    Nat.zero_add, pairsGo, List.find?_append, hnone, Option.none_or]
  rw [hback]
  cases hS : stackAfter 0 [] L with
  | nil =>
    have : (pairsGo (L.length + 1) [] R).find? (fun p => p.2 == L.length) = none := by
      rw [List.find?_eq_none]
      intro p hp
      have := (pairsGo_bounds _ _ _ _ hp).1
      simp only [beq_iff_eq]; omega
    simp only [this, Option.map_none, List.getElem?_nil]
  | cons o S' =>
    simp only [List.find?_cons_of_pos, beq_self_eq_true, Option.map_some, List.getElem?_cons_zero]

theorem map_ty_split {ts : List Token} {k : Nat} {t : Token} (hk : ts[k]? = some t) :
    ts.map (·.ty) = (ts.take k).map (·.ty) ++ t.ty :: (ts.drop (k+1)).map (·.ty) ∧
      ((ts.take k).map (·.ty)).length = k := by
  obtain ⟨hklt, hget⟩ := List.getElem?_eq_some_iff.mp hk
  refine ⟨?_, by simp; omega⟩
  rw [← List.map_cons (f := fun x : Token => x.ty), ← List.map_append, ← hget,
    ← List.drop_eq_getElem_cons hklt, List.take_append_drop]

/-- T20.2, forward scan -/
theorem countScan_forward_eq_partner (ts : List Token) (k : Nat) (t : Token)
    (hk : ts[k]? = some t) (ho : t.ty.isOpen = true) :
    countScan TokType.isOpen TokType.isClose 0 (ts.drop (k+1))
      = (partner (ts.map (·.ty)) k).bind (fun j => ts[j]?) := by
  obtain ⟨hsplit, hlen⟩ := map_ty_split hk
  have hp := partner_open ((ts.take k).map (·.ty)) ((ts.drop (k+1)).map (·.ty)) ho
  rw [← hsplit, hlen] at hp
  rw [countScan_eq_countIdx, hp]
  cases countIdx TokType.isOpen TokType.isClose 0 ((ts.drop (k+1)).map (·.ty)) with
  | none => rfl
  | some r => simp [List.getElem?_drop]

/-- T20.2, backward scan -/
theorem countScan_backward_eq_partner (ts : List Token) (k : Nat) (t : Token)
    (hk : ts[k]? = some t) (hcl : t.ty.isClose = true) :
    countScan TokType.isClose TokType.isOpen 0 (ts.take k).reverse
      = (partner (ts.map (·.ty)) k).bind (fun j => ts[j]?) := by
  obtain ⟨hsplit, hlen⟩ := map_ty_split hk
  have hp := partner_close ((ts.take k).map (·.ty)) ((ts.drop (k+1)).map (·.ty)) hcl
  rw [← hsplit, hlen, ← List.map_reverse] at hp
  rw [countScan_eq_countIdx, hp]
  cases hc : countIdx TokType.isClose TokType.isOpen 0 ((ts.take k).reverse.map (·.ty)) with
  | none => rfl
  | some r =>
    have hr := countIdx_lt _ _ _ _ _ hc
    have hkl : k ≤ ts.length := by
      have := (List.getElem?_eq_some_iff.mp hk).1; omega
    simp only [List.length_map, List.length_reverse, List.length_take, Nat.min_eq_left hkl] at hr
    simp only [Option.bind_some, Option.map_some]
    rw [List.getElem?_reverse (by simp; omega), List.length_take, Nat.min_eq_left hkl,
      List.getElem?_take_of_lt (by omega)]

/-- T20.2: `find_matching_bracket` is the stack-discipline partner -/
theorem findMatchingBracket_eq_partner (ts : List Token) (k : Nat) (t : Token)
    (hk : ts[k]? = some t) :
    findMatchingBracket ts k t = (partner (ts.map (·.ty)) k).bind (fun j => ts[j]?) := by
  unfold findMatchingBracket
  by_cases hc : t.ty.isClose = true
  · simp only [hc, if_true]; exact countScan_backward_eq_partner ts k t hk hc
  · by_cases ho : t.ty.isOpen = true
    · simp only [hc, ho, if_true, Bool.false_eq_true, if_false]
      exact countScan_forward_eq_partner ts k t hk ho
    · simp only [hc, ho, Bool.false_eq_true, if_false]
      unfold partner
      have hty : (ts.map (·.ty))[k]? = some t.ty := by simp [hk]
      rw [hty]; simp [hc, ho]

/-- T20.2 + T20.5: the highlighter never panics and returns what the specification prescribes -/
theorem highlight_eq_spec (cs : Text) (i : Nat) : highlight cs i = some (Spec.highlight cs i) := by
  unfold highlight Spec.highlight Spec.cursorToken
  cases hs : scan cs with
  | error e => rfl
  | ok ts =>
    simp only
    cases hc : findTokenAtCursor ts i with
    | none => rfl
    | some kt =>
      obtain ⟨k, t⟩ := kt
      simp only
      have hk := (findTokenAtCursor_spec hc).1
      rw [findMatchingBracket_eq_partner ts k t hk]
      cases hp : partner (ts.map (·.ty)) k with
      | none => rfl
      | some j =>
        simp only [Option.bind_some]
        cases hb : ts[j]? with
        | none => rfl
        | some b =>
          simp only
          have hmem : b ∈ ts := List.mem_of_getElem? hb
          obtain ⟨pre, body, post, he, hlo, hhi, _⟩ := Lexed.spans (scan_lexed hs) b hmem
          have := slices_of_span he (by simpa using hlo) hhi
          rw [this.1, this.2.1, this.2.2]

/-- T20.5: no slicing panic, also for cursors past the end or inside a multi-byte character -/
theorem highlight_no_panic (cs : Text) (i : Nat) : highlight cs i ≠ none := by
  rw [highlight_eq_spec]; simp

/-- T20.1: the text itself, or one escape pair around the text of one bracket token -/
theorem highlight_shape (cs : Text) (i : Nat) (r : Text) (h : highlight cs i = some r) :
    r = cs ∨ ∃ pre t post ts b, scan cs = .ok ts ∧ b ∈ ts ∧
      (b.ty.isOpen = true ∨ b.ty.isClose = true) ∧
      cs = pre ++ t ++ post ∧ b.lo = byteLen pre ∧ b.hi = b.lo + byteLen t ∧ t ≠ [] ∧
      r = pre ++ escOn ++ t ++ escOff ++ post := by
  unfold highlight at h
  cases hs : scan cs with
  | error e => rw [hs] at h; simp at h; exact .inl h.symm
  | ok ts =>
    rw [hs] at h
    simp only at h
    cases hc : findTokenAtCursor ts i with
    | none => rw [hc] at h; simp at h; exact .inl h.symm
    | some kt =>
      obtain ⟨k, t⟩ := kt
      rw [hc] at h
      simp only at h
      cases hm : findMatchingBracket ts k t with
      | none => rw [hm] at h; simp at h; exact .inl h.symm
      | some b =>
        rw [hm] at h
        simp only at h
        have hbw : b ∈ ts ∧ (b.ty.isOpen = true ∨ b.ty.isClose = true) := by
          unfold findMatchingBracket at hm
          split at hm
          · have := countScan_mem_want _ _ _ _ _ hm
            exact ⟨List.mem_of_mem_take (List.mem_reverse.mp this.1), .inl this.2⟩
          · split at hm
            · have := countScan_mem_want _ _ _ _ _ hm
              exact ⟨List.mem_of_mem_drop this.1, .inr this.2⟩
            · cases hm
        obtain ⟨pre, body, post, he, hlo, hhi, hne⟩ := Lexed.spans (scan_lexed hs) b hbw.1
        have hsl := slices_of_span he (by simpa using hlo) hhi
        rw [hsl.1, hsl.2.1, hsl.2.2] at h
        simp at h
        exact .inr ⟨pre, body, post, ts, b, rfl, hbw.1, hbw.2, he, by simpa using hlo, hhi, hne,
          by rw [← h]; simp⟩

/-- T20.4: `highlight_check` is true only with a `(`/`)`-class token within one position of the cursor -/
theorem highlightCheck_bracket_near (cs : Text) (i : Nat) (h : highlightCheck cs i = true) :
    ∃ ts t, scan cs = .ok ts ∧ t ∈ ts ∧ (t.ty = .leftParen ∨ t.ty = .rightParen) ∧
      t.lo ≤ i ∧ i ≤ t.hi + 1 := by
  unfold highlightCheck at h
  cases hs : scan cs with
  | error e => rw [hs] at h; simp at h
  | ok ts =>
    rw [hs] at h
    simp only at h
    cases hc : findTokenAtCursor ts (i - 1) with
    | none => rw [hc] at h; simp at h
    | some kt =>
      obtain ⟨k, t⟩ := kt
      rw [hc] at h
      simp only at h
      have := findTokenAtCursor_spec hc
      refine ⟨ts, t, rfl, List.mem_of_getElem? this.1, by simpa using h, by omega, by omega⟩

/-! ### non-vacuity -/

example : highlight "(a #(b) c)".toList 0 = some "(a #(b) c\x1b[4m)\x1b[0m".toList := by decide +kernel
example : highlight "(a #(b) c)".toList 4 = some "(a #(b\x1b[4m)\x1b[0m c)".toList := by decide +kernel
example : highlight "(a #(b) c)".toList 7 = some "(a \x1b[4m#(\x1b[0mb) c)".toList := by decide +kernel
example : highlightCheck "(a)".toList 1 = true := by decide +kernel

end Marwood.Proofs.C20
