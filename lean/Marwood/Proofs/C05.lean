import Marwood.Lemmas.Stack
import Marwood.Proofs.C04
import Marwood.Lemmas.StackWFToy
import Marwood.Lemmas.ContResumeToy
import Marwood.Lemmas.ContResumeCompile
import Marwood.Lemmas.ContResumeCap
import Marwood.Lemmas.StackWFBpLive
import Marwood.Lemmas.ContResumeMachine
import Marwood.Proofs.C13
import Marwood.Lemmas.EvalKReentry
import Marwood.Lemmas.EvalKAgreeTop
/-!
# C05 — first-class continuations: capture, invocation, re-entry

T05.1–T05.4 about `builtinCallcc` (builtin/procedure.rs call_cc), `invokeCont` (the Continuation arm of
CALL/TCALL in run.rs), `Stack.capture` / `Stack.restore` (stack.rs) and `stepRet`, for every heap and machine
state. Then, for code the bytecode verifier accepts (WF-stack): a receiver that returns and an invocation `(k v)`
both land on the reference state `Resume s0 v h`, and the run after `(k v)` is the run from `Resume` — on the
generic machine, the guarded concrete one and the real concrete one. Last, the clauses of the property on the
language-level specification `Spec.EvalK`; its simulation by compiled code is not proved.
-/
namespace Marwood.Proofs.C05
open Marwood.Vm Marwood.Vm.Stack Marwood.Proofs.C04

variable {H : Type}

structure Captures (c : Cont) (s : St H) (sp0 : Nat) : Prop where
  sp : c.stack.sp = sp0
  len : c.stack.cells.length = sp0 + 1
  cells : ∀ i, i ≤ sp0 → c.stack.cellAt i = s.stack.cellAt i
  ep : c.ep = s.ep
  ip : c.ipL = s.ipL ∧ c.ipO = s.ipO
  bp : c.bp = s.bp

theorem capture_spec (st : Stack) (h : st.sp < st.cells.length) :
    ∃ c, st.capture = .ok c ∧ c.sp = st.sp ∧ c.cells.length = st.sp + 1 ∧
      ∀ i, i ≤ st.sp → c.cellAt i = st.cellAt i := by
  unfold Stack.capture
  have : st.sp + 1 ≤ st.cells.length := by omega
  simp only [this, if_true]
  refine ⟨_, rfl, rfl, by simp; omega, ?_⟩
  intro i hi
  unfold Stack.cellAt
  simp only [List.getElem?_take]
  have : i < st.sp + 1 := by omega
  simp [this]

/-- T05.1 (capture): `call/cc`, reached through CALL or TCALL with the receiver and `argc 1` on top and `ip` past
    the calling instruction, creates a continuation object holding `stack[0..=sp-2]`, the current `ep`, `bp`, and
    `ip` = the instruction after the call; the receiver is then called with it by re-executing the same CALL/TCALL. -/
theorem callcc_captures (ops : HeapOps H) (s : St H) (proc : VCell)
    (hcap : s.stack.sp < s.stack.cells.length) (hsp : 2 ≤ s.stack.sp)
    (htop : s.stack.cellAt s.stack.sp = .argc 1)
    (hproc : s.stack.cellAt (s.stack.sp - 1) = proc)
    (hp : ops.isProcedure s.heap (ops.deref s.heap proc) = true) (hip : 1 ≤ s.ipO) :
    ∃ c s' h k, ops.newCont s.heap c = (h, k) ∧ builtinCallcc ops s = .ok (s', proc) ∧
      Captures c s (s.stack.sp - 2) ∧
      s'.heap = h ∧ s'.stack.sp = s.stack.sp ∧
      s'.stack.cellAt (s.stack.sp - 1) = k ∧ s'.stack.cellAt s.stack.sp = .argc 1 ∧
      (∀ i, i + 2 ≤ s.stack.sp → s'.stack.cellAt i = s.stack.cellAt i) ∧
      s'.ipO + 1 = s.ipO ∧ s'.ipL = s.ipL ∧ s'.ep = s.ep ∧ s'.bp = s.bp := by
  subst hproc
  obtain ⟨c1, c2, c3, c4, _⟩ := callccSt_stack (ops := ops) s hsp
  obtain ⟨k1, k2, _, k4⟩ := callccCopy_ok s.stack hsp hcap
  refine ⟨⟨callccCopy s.stack, s.ep, s.ipL, s.ipO, s.bp⟩, callccSt ops s, _, _, rfl,
    builtinCallcc_iff.mpr ⟨hsp, hcap, htop, hp, hip, rfl, rfl⟩, ⟨rfl, ?_, fun i hi => k4 i (by omega), rfl, ⟨rfl, rfl⟩, rfl⟩,
    rfl, c1, c2, c3, c4, by show s.ipO - 1 + 1 = _; omega, rfl, rfl, rfl⟩
  show (s.stack.cells.take (s.stack.sp - 2 + 1)).length = _
  rw [List.length_take]; omega

/-- T05.2 (invocation): in **any** later state, calling a continuation with `n ≥ 1` arguments restores the captured
    stack prefix and registers, delivers the last argument in `acc`, and keeps the current heap (mutations made
    since the capture stay visible). -/
theorem invoke_restores (s : St H) (c : Cont) (n : Nat) (v : VCell)
    (hcap : s.stack.sp < s.stack.cells.length) (hn : 1 ≤ n) (hsp : 2 ≤ s.stack.sp)
    (htop : s.stack.cellAt s.stack.sp = .argc n)
    (hv : s.stack.cellAt (s.stack.sp - 1) = v)
    (hlen : c.stack.cells.length ≤ s.stack.cells.length) :
    ∃ s', invokeCont s c = .ok s' ∧ s'.stack.sp = c.stack.sp ∧
      (∀ i, i < c.stack.cells.length → s'.stack.cellAt i = c.stack.cellAt i) ∧
      s'.ep = c.ep ∧ s'.ipL = c.ipL ∧ s'.ipO = c.ipO ∧ s'.bp = c.bp ∧
      s'.acc = v ∧ s'.heap = s.heap := by
  refine ⟨_, invokeCont_iff.mpr ⟨n, v, hsp, ?_, by omega, ?_, hlen, rfl⟩, rfl, (contSt_stack hlen).2,
    rfl, rfl, rfl, rfl, rfl, rfl⟩
  · rw [some_cellAt _ hcap, htop]
  · rw [some_cellAt _ (by omega), hv]

/-- T05.2 + T05.4 (round trip): the operands already evaluated when `call/cc` was called (everything at or below
    `sp₀ = sp - 2`) have the values they had at capture time, and `sp`, `ep`, `ip`, `bp` are those of the capture. -/
theorem capture_then_invoke (s : St H) (c : Cont) (sp0 : Nat) (hc : Captures c s sp0)
    (later : St H) (n : Nat) (v : VCell)
    (hcap : later.stack.sp < later.stack.cells.length) (hn : 1 ≤ n) (hsp : 2 ≤ later.stack.sp)
    (htop : later.stack.cellAt later.stack.sp = .argc n)
    (hv : later.stack.cellAt (later.stack.sp - 1) = v)
    (hlen : sp0 + 1 ≤ later.stack.cells.length) :
    ∃ s', invokeCont later c = .ok s' ∧ s'.stack.sp = sp0 ∧
      (∀ i, i ≤ sp0 → s'.stack.cellAt i = s.stack.cellAt i) ∧
      s'.ep = s.ep ∧ s'.ipL = s.ipL ∧ s'.ipO = s.ipO ∧ s'.bp = s.bp ∧
      s'.acc = v ∧ s'.heap = later.heap := by
  obtain ⟨s', h1, h2, h3, h4, h5, h6, h7, h8, h9⟩ :=
    invoke_restores later c n v hcap hn hsp htop hv (by rw [hc.len]; exact hlen)
  refine ⟨s', h1, by rw [h2, hc.sp], ?_, by rw [h4, hc.ep], by rw [h5, hc.ip.1], by rw [h6, hc.ip.2],
    by rw [h7, hc.bp], h8, h9⟩
  intro i hi
  rw [h3 i (by rw [hc.len]; omega), hc.cells i hi]

/-- T05.3 (a receiver that returns normally): when the receiver's frame — `k, argc 1, ep, ip, bp` at
    `sp₀+1 … sp₀+5`, built by the re-executed CALL and ENTER — executes RET, the machine is in the state invoking `k`
    produces: `sp = sp₀`, the saved `ep`/`ip`/`bp`. This is why `(k v)` is "as if the call/cc expression had just
    returned `v`". -/
theorem ret_of_receiver_frame (s : St H) (sp0 e l o b : Nat)
    (hbp : s.bp = sp0 + 1) (hcap : sp0 + 5 < s.stack.cells.length)
    (hargc : s.stack.cellAt (sp0 + 2) = .argc 1)
    (hep : s.stack.cellAt (sp0 + 3) = .envPtr e)
    (hip : s.stack.cellAt (sp0 + 4) = .instrPtr l o)
    (hb : s.stack.cellAt (sp0 + 5) = .basePtr b) :
    ∃ s', stepRet s = .ok s' ∧ s'.stack.sp = sp0 ∧ s'.ep = e ∧ s'.ipL = l ∧ s'.ipO = o ∧ s'.bp = b ∧
      s'.acc = s.acc ∧ s'.stack.cells = s.stack.cells ∧ s'.heap = s.heap := by
  have c : ∀ k, k ≤ 4 → s.stack.cells[s.bp + k]? = some (s.stack.cellAt (sp0 + 1 + k)) :=
    fun k hk => by rw [hbp]; exact some_cellAt _ (by omega)
  exact ⟨_, stepRet_run (n := 1) ((c 1 (by omega)).trans (congrArg some hargc)) ((c 2 (by omega)).trans (congrArg some hep))
    ((c 3 (by omega)).trans (congrArg some hip)) ((c 4 (by omega)).trans (congrArg some hb)) (by omega),
    by show s.bp - 1 = sp0; omega, rfl, rfl, rfl, rfl, rfl, rfl, rfl⟩

/-! ### non-vacuity: a concrete capture / invoke round trip -/

def demoStack : Stack :=
  { cells := [.undefined, .opaque "a", .opaque "b", .builtin 7, .argc 1, .undefined, .undefined, .undefined],
    sp := 4 }

example : ∃ c, (Stack.capture { demoStack with sp := 2 }) = .ok c ∧ c.cells.length = 3 := ⟨_, rfl, rfl⟩

example :
    (match invokeCont (H := Unit)
        { heap := (), stack := { cells := [.undefined, .void, .void, .void, .void, .opaque "v", .argc 1, .undefined], sp := 6 },
          acc := .undefined, ep := 9, ipL := 9, ipO := 9, bp := 9 }
        { stack := { cells := [.undefined, .opaque "a", .opaque "b"], sp := 2 }, ep := 1, ipL := 2, ipO := 3, bp := 0 } with
     | .ok s' => (s'.stack.sp, s'.acc, s'.stack.cells.take 3, s'.ep, s'.ipL, s'.ipO, s'.bp)
     | _ => (0, .undefined, [], 0, 0, 0, 0))
    = (2, .opaque "v", [.undefined, .opaque "a", .opaque "b"], 1, 2, 3, 0) := by decide +kernel

/-! ## T05.3 for verified code

`ret_of_receiver_frame` assumes that the receiver's frame header still holds what CALL and ENTER wrote; for code the
bytecode verifier accepts that is a theorem (WF-stack, under `CodeLaws`). -/

/-- at RET in a WF state the header of the returning frame is intact, whatever verified code has run in and above
    the frame `D` in between (no continuation invoked, the frame itself not returned from) -/
theorem receiver_frame_header_intact {ops : HeapOps H} (cl : CodeLaws ops) {s0 s s1 : St H} {D : FDesc}
    {R : List FDesc} (hw0 : WFS cl s0 (D :: R)) (htr : Trace ops D.base s0 s)
    (hr : readOpcode ops s = .ok (.ret, s1)) (hb : FrameBase s D.base) :
    s.stack.cellAt (s.bp + 2) = D.sep ∧ s.stack.cellAt (s.bp + 3) = D.sip ∧
      s.stack.cellAt (s.bp + 4) = .basePtr D.sbp :=
  (frame_header_intact_at_tcall cl hw0 htr hr (.inl rfl) hb).2

/-- the receiver's frame, as the CALL at `sc` describes it, is the innermost frame when the receiver starts and
    again at its RET, and its header cells hold what that CALL and ENTER wrote -/
theorem receiver_frame_at_ret {ops : HeapOps H} (cl : CodeLaws ops) {sc sc1 s0 s s1 : St H}
    {K : List FDesc} {lam env : Nat} (hw : WFS cl sc K)
    (hrc : readOpcode ops sc = .ok (.callAcc, sc1))
    (hc : ops.callee sc.heap sc.acc = .closure lam env)
    (htop : sc.stack.cellAt sc.stack.sp = .argc 1)
    (hcall : step ops sc = .ok (s0, false))
    (htr : Trace ops (sc.stack.sp - 1) s0 s)
    (hr : readOpcode ops s = .ok (.ret, s1)) (hb : FrameBase s (sc.stack.sp - 1)) :
    WFS cl s0 (⟨sc.stack.sp - 1, .envPtr sc.ep, .instrPtr sc.ipL (sc.ipO + 1), sc.bp⟩ :: K) ∧
      WFS cl s (⟨sc.stack.sp - 1, .envPtr sc.ep, .instrPtr sc.ipL (sc.ipO + 1), sc.bp⟩ :: K) ∧
      s.stack.cellAt (s.bp + 2) = .envPtr sc.ep ∧ s.stack.cellAt (s.bp + 3) = .instrPtr sc.ipL (sc.ipO + 1) ∧
      s.stack.cellAt (s.bp + 4) = .basePtr sc.bp := by
  obtain ⟨m, hm, hw0⟩ := call_closure_desc hw hrc hc hcall
  rw [htop] at hm
  cases hm
  exact ⟨hw0, frame_header_intact_at_tcall cl hw0 htr hr (.inl rfl) hb⟩

/-- **T05.3 for verified code**: `sc` is the state `call/cc` leaves (T05.1). If the receiver runs any verified code
    and then returns normally, the machine is in the register state invoking `k` produces (T05.2): `sp` two below
    `sc`'s, the captured `ep`, `ip`, `bp`. No assumption about the frame header. The base of the `Trace`,
    `sc.stack.sp - 1`, is the cell of `k`: the receiver's one argument, where its frame starts. -/
theorem receiver_return_is_invocation {ops : HeapOps H} (cl : CodeLaws ops) {sc sc1 s0 s s1 s' : St H}
    {K : List FDesc} {lam env : Nat} (hw : WFS cl sc K)
    (hrc : readOpcode ops sc = .ok (.callAcc, sc1))
    (hc : ops.callee sc.heap sc.acc = .closure lam env)
    (htop : sc.stack.cellAt sc.stack.sp = .argc 1)
    (hcall : step ops sc = .ok (s0, false))
    (htr : Trace ops (sc.stack.sp - 1) s0 s)
    (hr : readOpcode ops s = .ok (.ret, s1)) (hb : FrameBase s (sc.stack.sp - 1))
    (hs : step ops s = .ok (s', false)) :
    s'.stack.sp + 2 = sc.stack.sp ∧ s'.ep = sc.ep ∧ s'.ipL = sc.ipL ∧ s'.ipO = sc.ipO + 1 ∧
      s'.bp = sc.bp ∧ s'.stack.cells = s.stack.cells := by
  obtain ⟨-, -, h2, h3, h4⟩ := receiver_frame_at_ret cl hw hrc hc htop hcall htr hr hb
  obtain ⟨n, hA, hn, hbase⟩ := hb
  cases StepEff.of_step hr hs with
  | ret r1 r2 r3 r4 r5 =>
    cases (cellAt_of_some r1).symm.trans hA
    cases (cellAt_of_some r2).symm.trans h2
    cases (cellAt_of_some r3).symm.trans h3
    cases (cellAt_of_some r4).symm.trans h4
    exact ⟨by show s.bp - n + 2 = sc.stack.sp; omega, rfl, rfl, rfl, rfl, rfl⟩

/-- the hypotheses of `ret_of_receiver_frame`, as a theorem, when the receiver's frame still has
    its one argument -/
theorem ret_of_receiver_frame_verified {ops : HeapOps H} (cl : CodeLaws ops) {sc sc1 s0 s s1 : St H}
    {K : List FDesc} {lam env : Nat} (hw : WFS cl sc K)
    (hrc : readOpcode ops sc = .ok (.callAcc, sc1))
    (hc : ops.callee sc.heap sc.acc = .closure lam env)
    (htop : sc.stack.cellAt sc.stack.sp = .argc 1) (hsp : 2 ≤ sc.stack.sp)
    (hcall : step ops sc = .ok (s0, false))
    (htr : Trace ops (sc.stack.sp - 1) s0 s)
    (hr : readOpcode ops s = .ok (.ret, s1))
    (hbp : s.bp = sc.stack.sp - 2 + 1) (hargc : s.stack.cellAt (sc.stack.sp - 2 + 2) = .argc 1) :
    ∃ s', stepRet s = .ok s' ∧ s'.stack.sp = sc.stack.sp - 2 ∧ s'.ep = sc.ep ∧ s'.ipL = sc.ipL ∧
      s'.ipO = sc.ipO + 1 ∧ s'.bp = sc.bp ∧ s'.acc = s.acc ∧ s'.stack.cells = s.stack.cells ∧
      s'.heap = s.heap := by
  have hb : FrameBase s (sc.stack.sp - 1) :=
    ⟨1, by rw [hbp]; exact hargc, by omega, by omega⟩
  obtain ⟨-, hw', h2, h3, h4⟩ := receiver_frame_at_ret cl hw hrc hc htop hcall htr hr hb
  have hcap := hw'.wf.cap
  have htop' : sc.stack.sp - 2 + 5 ≤ s.stack.sp := by
    obtain ⟨t, st, ai, _⟩ := hw'.instr hr
    have chk := ai.chk
    cases st <;> first | cases chk | simp only [Verify.checkOp] at chk
    have hent : t.entry = false := by simpa using chk
    obtain ⟨_, _, _, _, _, _, hm, _⟩ := hw'.wf.frames.inv_frame ai.ht hent ai.hst (by simp)
    have := hm.lo_le
    omega
  exact ret_of_receiver_frame s (sc.stack.sp - 2) sc.ep sc.ipL (sc.ipO + 1) sc.bp hbp (by omega) hargc
    (by have e : sc.stack.sp - 2 + 3 = s.bp + 2 := by omega
        rw [e]; exact h2)
    (by have e : sc.stack.sp - 2 + 4 = s.bp + 3 := by omega
        rw [e]; exact h3)
    (by have e : sc.stack.sp - 2 + 5 = s.bp + 4 := by omega
        rw [e]; exact h4)

/-! ### non-vacuity: entry code `PUSHIMM v; PUSHIMM argc1; MOVIMM c6 acc; CALL; HALT` (the stack `call/cc` leaves
for its receiver), receiver `c6 = closure of (ENTER; MOVIMM void acc; RET)` (`Lemmas/StackWFToy.lean`) -/

section
open Marwood.Vm.Toy

example : ∃ K, WFS Toy.laws (nthR 3) K ∧
    readOpcode Toy.ops (nthR 3) = .ok (.callAcc, { nthR 3 with ipO := 8 }) ∧
    Toy.ops.callee (nthR 3).heap (nthR 3).acc = .closure 8 0 ∧
    (nthR 3).stack.cellAt (nthR 3).stack.sp = .argc 1 ∧
    step Toy.ops (nthR 3) = .ok (nthR 4, false) ∧
    Trace Toy.ops ((nthR 3).stack.sp - 1) (nthR 4) (nthR 6) ∧
    readOpcode Toy.ops (nthR 6) = .ok (.ret, { nthR 6 with ipO := 5 }) ∧
    FrameBase (nthR 6) ((nthR 3).stack.sp - 1) ∧
    step Toy.ops (nthR 6) = .ok (nthR 7, false) ∧
    (nthR 7).stack.sp + 2 = (nthR 3).stack.sp := by
  obtain ⟨K, hw⟩ := runK_wf 3 (prepare Toy.idle 7) (nthR 3) [] Toy.wf_start7 (by rfl)
  refine ⟨K, hw, by rfl, by rfl, by rfl, by rfl, ?_, by rfl, ⟨1, by rfl, by decide, by rfl⟩, by rfl, by rfl⟩
  exact .cons (toy_no_cont _) (s1 := nthR 5) (by rfl) (by decide)
    (.cons (toy_no_cont _) (s1 := nthR 6) (by rfl) (by decide) (.nil _))

end

/-! ## The captured prefix is still the live prefix when the receiver returns -/

/-- **the frame property of WF executions**: along a `Trace` from `s` to `s'` during which the frame `D` stays on the
    ghost frame list (any verified code in and above it, no continuation invoked) the stack below `D.base` is untouched -/
theorem prefix_unwritten {ops : HeapOps H} (cl : CodeLaws ops) {s s' : St H} {P R : List FDesc} {D : FDesc}
    (hw : WFS cl s (P ++ D :: R)) (htr : Trace ops D.base s s') :
    s'.stack.cells.take D.base = s.stack.cells.take D.base :=
  htr.prefix_take hw

/-! ## `Resume`: one reference state for "the call/cc expression has just returned `v`" -/

/-- **T05.2 as one statement about `step`, against `Resume`**: `s0` is the state at the CALL/TCALL that dispatched
    to `call/cc` (the continuation created there is `capturedCont s0`). In ANY state `t` whose current instruction is
    a CALL or TCALL of that continuation with `n ≥ 1` arguments, one step yields a state that agrees with
    `Resume s0 v t.heap` (`v` the last argument, the heap as it is NOW) on registers, heap and live stack.

    `hfit`, the capacity hypothesis, stands for the real-code fact that `Stack` never shrinks (`stack.rs`: only
    `grow`; `clear` and the error epilogue keep the capacity); without it `restore_continuation` panics
    (`split_at_mut`), which the model reproduces. -/
theorem invoke_continues_as_if_returned (ops : HeapOps H) {s0 t t1 : St H} {op : Op} {n : Nat}
    (h0sp : 2 ≤ s0.stack.sp) (h0cap : s0.stack.sp < s0.stack.cells.length)
    (hr : readOpcode ops t = .ok (op, t1)) (hop : op = .callAcc ∨ op = .tcallAcc)
    (hk : ops.callee t.heap t.acc = .continuation (capturedCont s0))
    (hcap : t.stack.sp < t.stack.cells.length) (hsp : 2 ≤ t.stack.sp)
    (htop : t.stack.cellAt t.stack.sp = .argc n) (hn : 1 ≤ n)
    (hfit : s0.stack.sp - 2 + 1 ≤ t.stack.cells.length) :
    ∃ r, step ops t = .ok (r, false) ∧
      LiveEq r (Resume s0 (t.stack.cellAt (t.stack.sp - 1)) t.heap) ∧
      r.stack.sp < r.stack.cells.length := by
  cases (readOpcode_ok hr).2
  have hclen : (capturedCont s0).stack.cells.length = s0.stack.sp - 2 + 1 := by
    simp only [capturedCont, List.length_take]; omega
  have hinv : invokeCont { t with ipO := t.ipO + 1 } (capturedCont s0) = .ok _ :=
    invokeCont_iff.mpr ⟨n, _, hsp, (some_cellAt _ hcap).trans (congrArg some htop), by omega,
      some_cellAt _ (by show t.stack.sp - 1 < t.stack.cells.length; omega), by rw [hclen]; exact hfit, rfl⟩
  refine ⟨contSt { t with ipO := t.ipO + 1 } (capturedCont s0) (t.stack.cellAt (t.stack.sp - 1)), ?_,
    ⟨rfl, ?_, rfl, rfl, rfl, rfl, rfl, rfl⟩, ?_⟩
  · rcases hop with rfl | rfl
    · exact StepEff.run hr (.callCont hk hinv)
    · exact StepEff.run hr (.tcallCont hk hinv)
  · show ((capturedCont s0).stack.cells ++ _).take (s0.stack.sp - 2 + 1) = s0.stack.cells.take (s0.stack.sp - 2 + 1)
    rw [List.take_left' hclen]
    rfl
  · show s0.stack.sp - 2 < ((capturedCont s0).stack.cells ++ _).length
    rw [List.length_append, hclen]; omega

/-- re-entry within one evaluation needs no capacity hypothesis: the model's stack never shrinks (`step_len_mono`),
    so the prefix captured at `s0` fits the stack of every state the run from `s0` reaches (`fits_later`) -/
theorem invoke_within_run_continues_as_if_returned (ops : HeapOps H) {s0 t t1 : St H} {op : Op} {n k : Nat}
    {bl : Bool} (h0sp : 2 ≤ s0.stack.sp) (h0cap : s0.stack.sp < s0.stack.cells.length)
    (hrun : runN ops k s0 = .ok (t, bl))
    (hr : readOpcode ops t = .ok (op, t1)) (hop : op = .callAcc ∨ op = .tcallAcc)
    (hk : ops.callee t.heap t.acc = .continuation (capturedCont s0))
    (hcap : t.stack.sp < t.stack.cells.length) (hsp : 2 ≤ t.stack.sp)
    (htop : t.stack.cellAt t.stack.sp = .argc n) (hn : 1 ≤ n) :
    ∃ r, step ops t = .ok (r, false) ∧
      LiveEq r (Resume s0 (t.stack.cellAt (t.stack.sp - 1)) t.heap) ∧
      r.stack.sp < r.stack.cells.length :=
  invoke_continues_as_if_returned ops h0sp h0cap hr hop hk hcap hsp htop hn (fits_later h0cap h0sp hrun)

/-- a call/cc whose receiver returns normally: the state after the receiver's RET is — on registers, heap and live
    stack — `Resume s0 v h` with `v` the returned value and `h` the heap at return time. `s0`: at the CALL that
    dispatches to `call/cc`; `sc`: after `call/cc` ran; `sr`: after the CALL of the receiver; `s`: the receiver's
    frame at its RET. T05.3 in full: registers and `sp` (`receiver_return_is_invocation`) and the cells below the
    receiver's frame (`Trace.prefix_unwritten`). -/
theorem receiver_return_is_resume {ops : HeapOps H} (cl : CodeLaws ops)
    {s0 s01 sc sc1 sr s s1 s' : St H} {K : List FDesc} {id lam env : Nat}
    (hw : WFS cl s0 K)
    (hr0 : readOpcode ops s0 = .ok (.callAcc, s01))
    (hc0 : ops.callee s0.heap s0.acc = .builtin id) (hk : ops.builtinKind s0.heap id = .callcc)
    (hs0 : step ops s0 = .ok (sc, false))
    (hrc : readOpcode ops sc = .ok (.callAcc, sc1))
    (hc : ops.callee sc.heap sc.acc = .closure lam env)
    (hcall : step ops sc = .ok (sr, false))
    (htr : Trace ops (s0.stack.sp - 1) sr s)
    (hr : readOpcode ops s = .ok (.ret, s1)) (hb : FrameBase s (s0.stack.sp - 1))
    (hs : step ops s = .ok (s', false)) :
    LiveEq s' (Resume s0 s.acc s.heap) := by
  obtain ⟨_, h2sp, htop0, hkp, ehk, hheap, csp, ck, ctop, cbelow, ccap, cipL, cipO, cep, cbp⟩ :=
    callcc_step hr0 (.inl rfl) hc0 hk hw.wf.cap hs0
  rw [← csp] at htr hb
  have hwsc : WFS cl sc K := call_builtin_desc hw hr0 hc0 hs0
  have htopc : sc.stack.cellAt sc.stack.sp = .argc 1 := by rw [csp]; exact ctop
  obtain ⟨r1, r2, r3, r4, r5, r6⟩ := receiver_return_is_invocation cl hwsc hrc hc htopc hcall htr hr hb hs
  obtain ⟨hwsr, hws, -⟩ := receiver_frame_at_ret cl hwsc hrc hc htopc hcall htr hr hb
  have hpre := htr.prefix_unwritten (cl := cl) [] ⟨sc.stack.sp - 1, _, _, _⟩ K rfl hwsr
  have hDle := (hws.wf.frames.bases.1 ⟨sc.stack.sp - 1, .envPtr sc.ep, .instrPtr sc.ipL (sc.ipO + 1), sc.bp⟩
    (by simp)).2
  simp only at hDle
  have hscap := hws.wf.cap
  -- CALL of the receiver pushes two cells
  have hsr : ∀ i, i ≤ sc.stack.sp → sr.stack.cellAt i = sc.stack.cellAt i := by
    cases StepEff.of_step hrc hcall with
    | callProc _ =>
      exact fun i hi => by rw [push_below _ _ i (by simp only [Stack.push_sp]; omega), push_below _ _ i hi]
    | callBuiltin hc' _ | callCont hc' _ => rw [hc] at hc'; cases hc'
  -- RET keeps `acc` and the heap
  have hacc : s'.acc = s.acc ∧ s'.heap = s.heap := by
    cases StepEff.of_step hr hs
    exact ⟨rfl, rfl⟩
  have hsp' : s'.stack.sp = s0.stack.sp - 2 := by omega
  refine ⟨hsp', ?_, hacc.1, by rw [r2, cep]; rfl, by rw [r3, cipL]; rfl, by rw [r4, cipO]; rfl,
    by rw [r5, cbp]; rfl, hacc.2⟩
  show s'.stack.cells.take (s'.stack.sp + 1) = s0.stack.cells.take (s0.stack.sp - 2 + 1)
  rw [hsp', r6]
  refine take_of_cellAt (by omega) (by have := hw.wf.cap; omega) ?_
  intro i hi
  -- a cell at or below `s0.sp - 2`: untouched by the receiver, by its CALL, and by `call/cc`
  rw [hpre i (by omega), hsr i (by omega), cbelow i (by omega)]

/-- **"receiver returns `v`" and "`(k v)`" coincide**: with the hypotheses of `receiver_return_is_resume`, the state
    after the receiver's RET and the state after `(k v)` from ANY state `t` (last argument `v`, the heap the receiver
    left) agree on registers, heap and live stack. -/
theorem receiver_return_equals_invocation {ops : HeapOps H} (cl : CodeLaws ops)
    {s0 s01 sc sc1 sr s s1 s' t t1 : St H} {K : List FDesc} {id lam env n : Nat} {op : Op}
    (hw : WFS cl s0 K)
    (hr0 : readOpcode ops s0 = .ok (.callAcc, s01))
    (hc0 : ops.callee s0.heap s0.acc = .builtin id) (hk : ops.builtinKind s0.heap id = .callcc)
    (hs0 : step ops s0 = .ok (sc, false))
    (hrc : readOpcode ops sc = .ok (.callAcc, sc1))
    (hc : ops.callee sc.heap sc.acc = .closure lam env)
    (hcall : step ops sc = .ok (sr, false))
    (htr : Trace ops (s0.stack.sp - 1) sr s)
    (hr : readOpcode ops s = .ok (.ret, s1)) (hb : FrameBase s (s0.stack.sp - 1))
    (hs : step ops s = .ok (s', false))
    (hrt : readOpcode ops t = .ok (op, t1)) (hop : op = .callAcc ∨ op = .tcallAcc)
    (hkt : ops.callee t.heap t.acc = .continuation (capturedCont s0))
    (hcap : t.stack.sp < t.stack.cells.length) (hsp : 2 ≤ t.stack.sp)
    (htop : t.stack.cellAt t.stack.sp = .argc n) (hn : 1 ≤ n)
    (hfit : s0.stack.sp - 2 + 1 ≤ t.stack.cells.length)
    (hv : t.stack.cellAt (t.stack.sp - 1) = s.acc) (hh : t.heap = s.heap) :
    ∃ r, step ops t = .ok (r, false) ∧ LiveEq s' r := by
  obtain ⟨_, h2sp, _⟩ := callcc_step hr0 (.inl rfl) hc0 hk hw.wf.cap hs0
  obtain ⟨r, hstep, hle, _⟩ :=
    invoke_continues_as_if_returned ops h2sp hw.wf.cap hrt hop hkt hcap hsp htop hn hfit
  rw [hv, hh] at hle
  exact ⟨r, hstep, (receiver_return_is_resume cl hw hr0 hc0 hk hs0 hrc hc hcall htr hr hb hs).trans hle.symm⟩

/-! ## The rest of the run after `(k v)` is the run from `Resume` -/

/-- **The property's first sentence as a theorem about executions of the machine model.** `t` is ANY later WF state
    about to call the continuation captured at `s0` with last argument `v`. Everything the machine does afterwards —
    any number `m` of instructions, further captures and invocations included, up to and including HALT — is, state by
    state up to stale cells above `sp`, what it does from `Resume s0 v t.heap`.
    * "operands already evaluated at capture time keep their values": `Resume` has `s0`'s stack prefix;
    * "mutations made since capture stay visible": `Resume` has `t`'s heap;
    * "any number of times": nothing is consumed — `hk` can hold again later in the same run.
    `SideOK` lists the side conditions of `step_live_congruence` along the two runs. -/
theorem invoke_run_continues {ops : HeapOps H} {cl : CodeLaws ops} (ll : LiveLaws cl)
    {s0 t t1 : St H} {Kt : List FDesc} {op : Op} {n : Nat}
    (h0sp : 2 ≤ s0.stack.sp) (h0cap : s0.stack.sp < s0.stack.cells.length)
    (hwt : WFS cl t Kt)
    (hr : readOpcode ops t = .ok (op, t1)) (hop : op = .callAcc ∨ op = .tcallAcc)
    (hk : ops.callee t.heap t.acc = .continuation (capturedCont s0))
    (hsp : 2 ≤ t.stack.sp) (htop : t.stack.cellAt t.stack.sp = .argc n) (hn : 1 ≤ n)
    (hfit : s0.stack.sp - 2 + 1 ≤ t.stack.cells.length) :
    ∃ r, step ops t = .ok (r, false) ∧
      ∀ (m : Nat) (r' : St H) (bl : Bool),
        SideOK ops m r (Resume s0 (t.stack.cellAt (t.stack.sp - 1)) t.heap) →
        runN ops m r = .ok (r', bl) →
        ∃ r'', runN ops m (Resume s0 (t.stack.cellAt (t.stack.sp - 1)) t.heap) = .ok (r'', bl) ∧
          LiveEq r' r'' := by
  obtain ⟨r, hstep, hle, hrcap⟩ :=
    invoke_continues_as_if_returned ops h0sp h0cap hr hop hk hwt.wf.cap hsp htop hn hfit
  obtain ⟨Kr, hwr, _⟩ := step_preserves hwt hstep
  refine ⟨r, hstep, ?_⟩
  intro m r' bl hside hrun
  exact runN_live_congruence ll m hwr hle (by show s0.stack.sp - 2 < s0.stack.cells.length; omega) hside hrun

/-- in particular: the two runs halt together, with the same value and heap -/
theorem invoke_run_same_result {ops : HeapOps H} {cl : CodeLaws ops} (ll : LiveLaws cl)
    {s0 t t1 : St H} {Kt : List FDesc} {op : Op} {n : Nat}
    (h0sp : 2 ≤ s0.stack.sp) (h0cap : s0.stack.sp < s0.stack.cells.length)
    (hwt : WFS cl t Kt)
    (hr : readOpcode ops t = .ok (op, t1)) (hop : op = .callAcc ∨ op = .tcallAcc)
    (hk : ops.callee t.heap t.acc = .continuation (capturedCont s0))
    (hsp : 2 ≤ t.stack.sp) (htop : t.stack.cellAt t.stack.sp = .argc n) (hn : 1 ≤ n)
    (hfit : s0.stack.sp - 2 + 1 ≤ t.stack.cells.length) :
    ∃ r, step ops t = .ok (r, false) ∧
      ∀ (m : Nat) (r' : St H),
        SideOK ops m r (Resume s0 (t.stack.cellAt (t.stack.sp - 1)) t.heap) →
        runN ops m r = .ok (r', true) →
        ∃ r'', runN ops m (Resume s0 (t.stack.cellAt (t.stack.sp - 1)) t.heap) = .ok (r'', true) ∧
          r''.acc = r'.acc ∧ r''.heap = r'.heap := by
  obtain ⟨r, hstep, hall⟩ := invoke_run_continues ll h0sp h0cap hwt hr hop hk hsp htop hn hfit
  refine ⟨r, hstep, ?_⟩
  intro m r' hside hrun
  obtain ⟨r'', h1, h2⟩ := hall m r' true hside hrun
  exact ⟨r'', h1, h2.acc.symm, h2.heap.symm⟩

/-! ### non-vacuity: a machine that captures, returns, and is re-entered by a later entry code

`Lemmas/ContResumeToy.lean`: `(call/cc c6)` is entry code 20, states `nthA 0 … nthA 8` (`nthA 3` at the CALL of
`call/cc`, `nthA 7` at the receiver's RET, `nthA 8` at HALT); `(k "v")` is entry code 21, started from the halted
machine, `nthB 3` at the CALL of `k`. -/

section
open Marwood.Vm.CToy

example : LiveEq (nthA 8) (Resume (nthA 3) .void (nthA 7).heap) := by
  obtain ⟨K, hw⟩ := wfA 3 (by omega)
  exact receiver_return_is_resume CToy.laws (s0 := nthA 3) (s01 := { nthA 3 with ipO := 8 }) (sc := nthA 4)
    (sc1 := { nthA 4 with ipO := 8 }) (sr := nthA 5) (s := nthA 7) (s1 := { nthA 7 with ipO := 5 })
    (s' := nthA 8) (id := 9) (lam := 8) (env := 0)
    hw (by rfl) (by rfl) (by rfl) (by rfl) (by rfl) (by rfl) (by rfl)
    (.cons (no_cont_A 5 (by omega)) (s1 := nthA 6) (by rfl) (by decide)
      (.cons (no_cont_A 6 (by omega)) (s1 := nthA 7) (by rfl) (by decide) (.nil _)))
    (by rfl) ⟨1, by rfl, by decide, by rfl⟩ (by rfl)

example : CToy.ops.callee (nthB 3).heap (nthB 3).acc = .continuation (capturedCont (nthA 3)) ∧
    step CToy.ops (nthB 3) = .ok (nthB 4, false) ∧
    LiveEq (nthB 4) (Resume (nthA 3) (.opaque "v") (nthB 3).heap) := by
  refine ⟨by rfl, by rfl, ?_⟩
  obtain ⟨r, h1, h2, _⟩ := invoke_continues_as_if_returned CToy.ops (s0 := nthA 3) (t := nthB 3)
    (t1 := { nthB 3 with ipO := 8 }) (op := .callAcc) (n := 1)
    (by decide) (by decide) (by rfl) (.inl rfl) (by rfl) (by decide) (by decide) (by rfl) (by decide) (by decide)
  have e : step CToy.ops (nthB 3) = .ok (nthB 4, false) := by rfl
  rw [e] at h1
  cases h1
  exact h2

/-- the HALT that follows the invocation (`m = 1`): the run from "`(call/cc c6)` has just returned `"v"`" halts
    with value `"v"` -/
example : ∃ r'', runN CToy.ops 1 (Resume (nthA 3) (.opaque "v") (nthB 3).heap) = .ok (r'', true) ∧
    r''.acc = .opaque "v" := by
  obtain ⟨K, hw⟩ := wfB 3 (by omega)
  obtain ⟨r, h1, h2⟩ := invoke_run_same_result CToy.liveLaws (s0 := nthA 3) (t := nthB 3)
    (t1 := { nthB 3 with ipO := 8 }) (op := .callAcc) (n := 1)
    (by decide) (by decide) hw (by rfl) (.inl rfl) (by rfl) (by decide) (by rfl) (by decide) (by decide)
  have e : step CToy.ops (nthB 3) = .ok (nthB 4, false) := by rfl
  rw [e] at h1
  cases h1
  have hhalt : step CToy.ops (nthB 4) = .ok ({ nthB 4 with ipO := 9 }, true) := by rfl
  have hside : SideOK CToy.ops 1 (nthB 4)
      (Resume (nthA 3) ((nthB 3).stack.cellAt ((nthB 3).stack.sp - 1)) (nthB 3).heap) := by
    refine ⟨?_, ?_, ?_⟩
    · intro off h
      cases h
    · intro c hc
      cases hc
    · intro r1 r2 q _
      rw [hhalt] at q
      cases q
  obtain ⟨r'', g1, g2, _⟩ := h2 1 { nthB 4 with ipO := 9 } hside (by rfl)
  exact ⟨r'', g1, g2⟩

end

/-! ## The compile side: where `s0` sits in compiled code

`compile_callcc_site` (`Lemmas/ContResumeCompile.lean`): for `(call/cc e)` the compiler model emits exactly
`<code of e>; PUSH; PUSHIMM argc 1; <code of the operator>; CALL|TCALL`. So `s0` is "at that CALL, the value of
`e` and `argc 1` on top of what the enclosing expressions have pushed". -/

open Marwood Marwood.Spec in
/-- non-vacuity: `(g x (call/cc f))` in tail position — `x` is pushed before the capture, the `call/cc` site is
    `MOV f; PUSH; PUSHIMM argc1; MOV call/cc; CALL`, then `PUSH; PUSHIMM argc2; MOV g; TCALL` -/
example :
    (match compileExpr 10 {} ⟨[], []⟩ 1 true
      (Datum.ofList [.sym ['g'], .sym ['x'], Datum.ofList [.sym callccName, .sym ['f']]]) with
     | .ok (_, code) => code.map (fun (b : BC) => match b with | BC.op o => some o | _ => none)
     | .error _ => []) =
    [some .mov, none, none, some .pushAcc,
     some .mov, none, none, some .pushAcc, some .pushImm, none, some .mov, none, none, some .callAcc,
     some .pushAcc, some .pushImm, none, some .mov, none, none, some .tcallAcc] := by decide +kernel

/-! ## Scope of the machine-level theorems

Left out or assumed:
* Tail position: for `call/cc` in *tail* position (TCALL) `capturedCont` / `callcc_step` /
  `invoke_continues_as_if_returned` hold as stated, but `receiver_return_is_resume` is stated for CALL (after a
  TCALL the receiver replaces the caller's frame and returns to the caller's caller).
* `hfit` is a theorem for re-entry within one evaluation; across evaluations it is a hypothesis of the theorems
  here (on the concrete machine it follows from the invariant `NPInv`: every continuation cell fits the current
  capacity, `Lemmas/NoPanicDefs.lean`). `SideOK`'s capacity clause, about the continuations invoked *later* in the
  two runs relative to the capacity of the reference run (`LiveEq` ignores capacity), is a hypothesis at each
  invocation.
* `compile_callcc_site` gives the *shape* of the emitted code; that running `<code of e>` leaves the value of `e`
  in `acc` and the stack as it was (compiler correctness for `e`) is not used here, so "`Resume s0 v h` is the state
  in which the application has evaluated to `v`" is by the calling convention, not a theorem over source terms.
* The language-level specification with `call/cc` is `Spec.EvalK` (last section); its simulation by compiled code is
  not proved. What ties `Spec.EvalK` to the VM is the stream `callcc-grammar-vs-cps-spec`. -/

/-! ## `BpLive` is a theorem; the theorems on the concrete machine

The verifier checks `BasePointerOffset` *source* operands (`Verify.bpSrcOk`), so `BpLive` follows from WF-stack
(`bpLive_of_wfs`) and the side conditions of `SideOK` shrink to `FitOK`. -/

/-- `step` is a function of (live stack, registers, heap): no `BpLive` hypothesis -/
theorem step_live_congruence_verified {ops : HeapOps H} {cl : CodeLaws ops} (ll : LiveLaws cl)
    {s1 s2 r1 : St H} {K : List FDesc} {bl : Bool}
    (hw : WFS cl s1 K) (heq : LiveEq s1 s2) (hcap2 : s2.stack.sp < s2.stack.cells.length)
    (hfit : ∀ c, ops.callee s1.heap s1.acc = .continuation c → c.stack.cells.length ≤ s2.stack.cells.length)
    (hs : step ops s1 = .ok (r1, bl)) :
    ∃ r2, step ops s2 = .ok (r2, bl) ∧ LiveEq r1 r2 ∧ r2.stack.sp < r2.stack.cells.length :=
  step_live_congruence_wf ll hw heq hcap2 hfit hs

/-- `invoke_run_same_result` with `SideOK` reduced to the capacity condition `FitOK` -/
theorem invoke_run_same_result_verified {ops : HeapOps H} {cl : CodeLaws ops} (ll : LiveLaws cl)
    {s0 t t1 : St H} {Kt : List FDesc} {op : Op} {n : Nat}
    (h0sp : 2 ≤ s0.stack.sp) (h0cap : s0.stack.sp < s0.stack.cells.length)
    (hwt : WFS cl t Kt)
    (hr : readOpcode ops t = .ok (op, t1)) (hop : op = .callAcc ∨ op = .tcallAcc)
    (hk : ops.callee t.heap t.acc = .continuation (capturedCont s0))
    (hsp : 2 ≤ t.stack.sp) (htop : t.stack.cellAt t.stack.sp = .argc n) (hn : 1 ≤ n)
    (hfit : s0.stack.sp - 2 + 1 ≤ t.stack.cells.length) :
    ∃ r, step ops t = .ok (r, false) ∧
      ∀ (m : Nat) (r' : St H),
        FitOK ops m r (Resume s0 (t.stack.cellAt (t.stack.sp - 1)) t.heap) →
        runN ops m r = .ok (r', true) →
        ∃ r'', runN ops m (Resume s0 (t.stack.cellAt (t.stack.sp - 1)) t.heap) = .ok (r'', true) ∧
          r''.acc = r'.acc ∧ r''.heap = r'.heap := by
  obtain ⟨r, hstep, hall⟩ := invoke_run_same_result ll h0sp h0cap hwt hr hop hk hsp htop hn hfit
  obtain ⟨Kr, hwr, _⟩ := step_preserves hwt hstep
  exact ⟨r, hstep, fun m r' hf hrun => hall m r' (sideOK_of_fitOK m hwr hf) hrun⟩

section Concrete
open Marwood.Vm.Concrete

/-- **The property's first sentence on the concrete machine** (`gops ext`: `concreteOps ext` with the callee
    guard, see `Proofs/C04.lean`): `CodeLaws`, `LiveLaws` and `BpLive` are theorems there. Hypotheses:
    `ExtCodeLaws ext`, WF-stack of `t`, the shape of the invocation, the capacity conditions (`hfit`, `FitOK`). -/
theorem invoke_run_same_result_concrete (ext : ExtOps) (ecl : ExtCodeLaws ext)
    {s0 t t1 : St CHeap} {Kt : List FDesc} {op : Op} {n : Nat}
    (h0sp : 2 ≤ s0.stack.sp) (h0cap : s0.stack.sp < s0.stack.cells.length)
    (hwt : WFS (concreteLaws ext ecl) t Kt)
    (hr : readOpcode (gops ext) t = .ok (op, t1)) (hop : op = .callAcc ∨ op = .tcallAcc)
    (hk : (gops ext).callee t.heap t.acc = .continuation (capturedCont s0))
    (hsp : 2 ≤ t.stack.sp) (htop : t.stack.cellAt t.stack.sp = .argc n) (hn : 1 ≤ n)
    (hfit : s0.stack.sp - 2 + 1 ≤ t.stack.cells.length) :
    ∃ r, step (gops ext) t = .ok (r, false) ∧
      ∀ (m : Nat) (r' : St CHeap),
        FitOK (gops ext) m r (Resume s0 (t.stack.cellAt (t.stack.sp - 1)) t.heap) →
        runN (gops ext) m r = .ok (r', true) →
        ∃ r'', runN (gops ext) m (Resume s0 (t.stack.cellAt (t.stack.sp - 1)) t.heap) = .ok (r'', true) ∧
          r''.acc = r'.acc ∧ r''.heap = r'.heap :=
  invoke_run_same_result_verified (concreteLiveLaws ext ecl) h0sp h0cap hwt hr hop hk hsp htop hn hfit

/-! ### on the REAL machine: `run_one` over `concreteOps ext`, no guard

`Lemmas/ContResumeMachine.lean`: under the bundled invariant `VmOkP` an instruction of the real machine is the
same instruction of the guarded machine `vops ext` and conversely, and the invariants are properties of the live
part of a state. So the second run — which starts from the CONSTRUCTED state `Resume s0 v t.heap`, not from a
reachable one — is carried along the first in lock step. Hypotheses: the laws of the unmodelled parts, `GoodI` /
WF-stack / `PInv` of the invoking state `t`, the shape of the invocation, the physical size bound along the run
from `t`, and the capacity conditions. -/

open Marwood.Lemmas.Good Marwood.Lemmas.Sim in
/-- **The property's first sentence on the real concrete machine** -/
theorem invoke_run_continues_machine (ext : ExtOps) (force : Bool) (el : ExtLaws ext) (eg : ExtGood ext)
    (ecl : ExtCodeLawsV ext) (ep : ExtProc ext)
    {s0 t t1 : St CHeap} {Kt : List FDesc} {op : Op} {n : Nat}
    (h0sp : 2 ≤ s0.stack.sp) (h0cap : s0.stack.sp < s0.stack.cells.length)
    (g : GoodI t) (hwt : WFS (concreteLawsV ext ecl) t Kt) (pt : PInv t)
    (sb : SizeBounded (machine ext force) t)
    (hr : readOpcode (concreteOps ext) t = .ok (op, t1)) (hop : op = .callAcc ∨ op = .tcallAcc)
    (hk : callee t.heap t.acc = .continuation (capturedCont s0))
    (hsp : 2 ≤ t.stack.sp) (htop : t.stack.cellAt t.stack.sp = .argc n) (hn : 1 ≤ n)
    (hfit : s0.stack.sp - 2 + 1 ≤ t.stack.cells.length) :
    ∃ r, step (concreteOps ext) t = .ok (r, false) ∧
      ∀ (m : Nat) (r' : St CHeap) (bl : Bool),
        FitOK (concreteOps ext) m r (Resume s0 (t.stack.cellAt (t.stack.sp - 1)) t.heap) →
        runN (concreteOps ext) m r = .ok (r', bl) →
        ∃ r'', runN (concreteOps ext) m (Resume s0 (t.stack.cellAt (t.stack.sp - 1)) t.heap) = .ok (r'', bl) ∧
          LiveEq r' r'' := by
  obtain ⟨r, hstep, hle, hrcap⟩ :=
    invoke_continues_as_if_returned (concreteOps ext) h0sp h0cap hr hop hk hwt.wf.cap hsp htop hn hfit
  have hv : VmOkP ext ecl t := ⟨⟨g, .inl ⟨Kt, hwt⟩⟩, pt⟩
  have hreach : Reaches (machine ext force) t r := .next (.refl t) (vmStep_eq_next.mpr hstep)
  have hvr : VmOkP ext ecl r := vmOkP_step el eg ep hv (sb t (.refl t)) hstep (sb r hreach)
  refine ⟨r, hstep, ?_⟩
  intro m r' bl hf hrun
  exact runN_live_congruence_machine force el eg ep sb m hreach hvr hle
    (by show s0.stack.sp - 2 < s0.stack.cells.length; omega) hf hrun

open Marwood.Lemmas.Good Marwood.Lemmas.Sim in
theorem invoke_run_same_result_machine (ext : ExtOps) (force : Bool) (el : ExtLaws ext) (eg : ExtGood ext)
    (ecl : ExtCodeLawsV ext) (ep : ExtProc ext)
    {s0 t t1 : St CHeap} {Kt : List FDesc} {op : Op} {n : Nat}
    (h0sp : 2 ≤ s0.stack.sp) (h0cap : s0.stack.sp < s0.stack.cells.length)
    (g : GoodI t) (hwt : WFS (concreteLawsV ext ecl) t Kt) (pt : PInv t)
    (sb : SizeBounded (machine ext force) t)
    (hr : readOpcode (concreteOps ext) t = .ok (op, t1)) (hop : op = .callAcc ∨ op = .tcallAcc)
    (hk : callee t.heap t.acc = .continuation (capturedCont s0))
    (hsp : 2 ≤ t.stack.sp) (htop : t.stack.cellAt t.stack.sp = .argc n) (hn : 1 ≤ n)
    (hfit : s0.stack.sp - 2 + 1 ≤ t.stack.cells.length) :
    ∃ r, step (concreteOps ext) t = .ok (r, false) ∧
      ∀ (m : Nat) (r' : St CHeap),
        FitOK (concreteOps ext) m r (Resume s0 (t.stack.cellAt (t.stack.sp - 1)) t.heap) →
        runN (concreteOps ext) m r = .ok (r', true) →
        ∃ r'', runN (concreteOps ext) m (Resume s0 (t.stack.cellAt (t.stack.sp - 1)) t.heap) = .ok (r'', true) ∧
          r''.acc = r'.acc ∧ r''.heap = r'.heap := by
  obtain ⟨r, hstep, hall⟩ := invoke_run_continues_machine ext force el eg ecl ep h0sp h0cap g hwt pt sb hr hop hk hsp
    htop hn hfit
  refine ⟨r, hstep, ?_⟩
  intro m r' hf hrun
  obtain ⟨r'', h1, h2⟩ := hall m r' true hf hrun
  exact ⟨r'', h1, h2.acc.symm, h2.heap.symm⟩

open Marwood.Lemmas.Good Marwood.Lemmas.Good.Demo Marwood.Proofs.C13 in
/-- non-vacuity (every hypothesis supplied): the demo state `sHalt 0` of `Lemmas/GoodDemo.lean` and a copy of it
    with a larger capacity and a stale cell above `sp` — a state that is not reachable — halt together -/
example : ∃ r2, runN (concreteOps failingExt) 1
      { sHalt 0 with stack := { cells := [.undefined, .bool true], sp := 0 } } = .ok (r2, true) ∧
    LiveEq (sHalt 1) r2 :=
  runN_live_congruence_machine (ecl := failingExt_codeLawsV) false failingExt_laws failingExt_good failingExt_proc
    (sHalt_sizeBounded _) 1 (.refl _) (sHalt_vmOkP _ _) ⟨rfl, rfl, rfl, rfl, rfl, rfl, rfl, rfl⟩ (by decide)
    ⟨fun c hc => (by cases hc), fun _ _ _ _ => trivial⟩ rfl

end Concrete

/-! ## The property at the level of the LANGUAGE: `Spec.EvalK`

`Spec.EvalK` is a definitional interpreter for the language of `Spec.Eval` with first-class continuations, in
defunctionalised continuation-passing style (a continuation = a list of frames; `call/cc` appends the current one
to an append-only table; applying such a value drops the current continuation). It is the specification random
programs with `call/cc` are judged against (stream `callcc-grammar-vs-cps-spec`). Proofs: `Lemmas/EvalK*.lean`. -/
section CpsSpec
open Marwood.Spec.Eval Marwood.Spec.EvalK Marwood.Lemmas.EvalK Marwood.Lemmas.EvalKAgree

/-- more steps never change an outcome of the K machine -/
theorem runK_fuel_mono (n k : Nat) (s : State) (res : Outcome × St × Array Kont)
    (h : runK n s = some res) : runK (n + k) s = some res := runK_mono n k s res h

/-- a `call/cc` whose receiver returns normally behaves like an ordinary call: `(call/cc f)` in continuation `κ` is,
    after one step, the application of `f` to one argument IN THE SAME continuation and store; and a normal return
    of `v` to `κ` is the same machine state as an invocation `(k v)` from any context `κany` -/
theorem callcc_normal_return (n : Nat) (f : Val) (κ : Kont) (σ : St) (ks : Array Kont) (hf : isProcedure f = true) :
    runK (n + 1) ⟨.app callccVal [f], κ, σ, ks⟩ = runK n ⟨.app f [contVal ks.size], κ, σ, ks.push κ⟩
    ∧ (ks.push κ)[ks.size]? = some κ
    ∧ ∀ (v : Val) (κany : Kont) (σ' : St) (ks' : Array Kont), ks'[ks.size]? = some κ →
        stepK ⟨.app (contVal ks.size) [v], κany, σ', ks'⟩ = .run ⟨.ret v, κ, σ', ks'⟩ :=
  ⟨Marwood.Lemmas.EvalK.callcc_is_ordinary_call n f κ σ ks hf, Marwood.Lemmas.EvalK.captured_is_current κ ks,
   fun v κany σ' ks' h => Marwood.Lemmas.EvalK.receiver_return_equals_invocation ks.size κ κany v σ' ks' h⟩

/-- invoking a continuation with `v` from ANY current continuation abandons it -/
theorem throw_discards_context (i : Nat) (κ' : Kont) (args : List Val) (v : Val) (κ : Kont) (σ : St)
    (ks : Array Kont) (hi : ks[i]? = some κ') (hv : args.getLast? = some v) :
    stepK ⟨.app (contVal i) args, κ, σ, ks⟩ = .run ⟨.ret v, κ', σ, ks⟩ :=
  Marwood.Lemmas.EvalK.throw_discards_context i κ' args v κ σ ks hi hv

/-- … hence the rest of the run does not depend on the abandoned context -/
theorem throw_result_independent_of_context (n i : Nat) (κ' : Kont) (v : Val) (κ₁ κ₂ : Kont) (σ : St)
    (ks : Array Kont) (hi : ks[i]? = some κ') :
    runK (n + 1) ⟨.app (contVal i) [v], κ₁, σ, ks⟩ = runK (n + 1) ⟨.app (contVal i) [v], κ₂, σ, ks⟩
    ∧ runK (n + 1) ⟨.app (contVal i) [v], κ₁, σ, ks⟩ = runK n ⟨.ret v, κ', σ, ks⟩ :=
  Marwood.Lemmas.EvalK.throw_result_independent_of_context n i κ' v κ₁ κ₂ σ ks hi

/-- mutations made since the capture stay visible: the store after the throw is the store at the throw -/
theorem mutations_survive_throw (i : Nat) (args : List Val) (κ : Kont) (σ : St) (ks : Array Kont) (s' : State)
    (h : stepK ⟨.app (contVal i) args, κ, σ, ks⟩ = .run s') : s'.σ = σ ∧ s'.ks = ks :=
  Marwood.Lemmas.EvalK.mutations_survive_throw i args κ σ ks s' h

/-- operands already evaluated at capture time keep their values: re-entering the operand frame with `v` goes on
    with the NEXT operand, `done` is not evaluated again -/
theorem operands_evaluated_before_capture_are_kept (i : Nat) (ρ : Env) (done : List Val) (e : Datum)
    (es : List Datum) (th : ArgsThen) (κ₀ κ : Kont) (v : Val) (σ : St) (ks : Array Kont)
    (hi : ks[i]? = some (.args ρ done (e :: es) th :: κ₀)) (n : Nat) :
    runK (n + 2) ⟨.app (contVal i) [v], κ, σ, ks⟩
      = runK n ⟨.ev e ρ, .args ρ (v :: done) es th :: κ₀, σ, ks⟩ :=
  (Marwood.Lemmas.EvalK.operands_evaluated_before_capture_are_kept i ρ done e es th κ₀ κ v σ ks hi).2 n

/-- any number of times, from any depth, from a later top-level evaluation: in every state reached later the same
    continuation value still denotes the same continuation -/
theorem reentry_any_number_of_times (i : Nat) (κ' : Kont) (n : Nat) (s s' : State)
    (h0 : s.ks[i]? = some κ') (hreach : iterK n (.run s) = .run s') (v : Val) (κnow : Kont) :
    stepK ⟨.app (contVal i) [v], κnow, s'.σ, s'.ks⟩ = .run ⟨.ret v, κ', s'.σ, s'.ks⟩ :=
  Marwood.Lemmas.EvalK.reentry_any_number_of_times i κ' n s s' h0 hreach v κnow

/-- `Spec.EvalK` is tied to `Spec.Eval`: the machine that does not recognise `call/cc` simulates `Spec.Eval` on
    EVERY form of its language, in any continuation -/
theorem evalK_machine_simulates_eval (n : Nat) (e : Datum) (ρ : Env) (σ : St) (κ : Kont) (ks : Array Kont) :
    (∀ v σ', (evalN n).eval e ρ σ = .ok v σ' → Reach (evalIn e ρ κ σ ks) (retTo v κ σ' ks)) ∧
    (∀ c σ', (evalN n).eval e ρ σ = .err c σ' → Reach (evalIn e ρ κ σ ks) (.halt (.err c) σ' ks)) :=
  eval_agrees n e ρ σ κ ks

/-- … and the two machines coincide on a run that applies neither `call/cc` nor a continuation value -/
theorem evalK_agrees_with_eval (n m : Nat) (d : Datum) (σ : St) (ks : Array Kont)
    (hq : Quiet m (topGo d [] σ ks)) :
    (∀ v σ', evalTop (evalN n) d σ = .ok v σ' → runNext false m (topGo d [] σ ks) = some (.value v, σ', ks) →
        runNext true m (topGo d [] σ ks) = some (.value v, σ', ks)) ∧
    (∀ c σ', evalTop (evalN n) d σ = .err c σ' → runNext false m (topGo d [] σ ks) = some (.err c, σ', ks) →
        runNext true m (topGo d [] σ ks) = some (.err c, σ', ks)) :=
  Marwood.Lemmas.EvalKAgree.evalK_agrees_with_eval n m d σ ks hq

private def sym (s : List Char) : Datum := .sym s
private def nat (n : Int) : Datum := .num (.fix n)
private def L (xs : List Datum) : Datum := Datum.ofList xs
private def ccLam (body : List Datum) : Datum := L [sym k_callcc, L (sym k_lambda :: L [sym ['k']] :: body)]

/-- escape: `(+ 1 (call/cc (lambda (k) (* 2 (k 5)))))` is 6 — the pending `(* 2 _)` is abandoned -/
example : resultsK 100 [L [sym ['+'], nat 1, ccLam [L [sym ['*'], nat 2, L [sym ['k'], nat 5]]]]]
    = [.ok (.num (.fix 6))] := by decide +kernel

/-- normal return: `(+ 1 (call/cc (lambda (k) 7)))` is 8 -/
example : resultsK 100 [L [sym ['+'], nat 1, ccLam [nat 7]]] = [.ok (.num (.fix 8))] := by decide +kernel

/-- re-entry from a later top-level form, an operand evaluated before the capture, a mutation made since:
    `(define kk 0) (define n 0) (define r (list (begin (set! n (+ n 1)) n) (call/cc (lambda (k) (set! kk k) 5))))`
    `r` ⇒ (1 5); `(begin (set! n 10) (kk 9))` re-runs the rest of the definition (its value: void); `r` ⇒ (1 9): the
    first operand was NOT evaluated again (it would be 11); `n` ⇒ 10: the assignment made before the throw is visible -/
example : resultsK 200
    [L [sym k_define, sym ['k', 'k'], nat 0],
     L [sym k_define, sym ['n'], nat 0],
     L [sym k_define, sym ['r'],
        L [sym ['l', 'i', 's', 't'],
           L [sym k_begin_, L [sym k_setBang, sym ['n'], L [sym ['+'], sym ['n'], nat 1]], sym ['n']],
           ccLam [L [sym k_setBang, sym ['k', 'k'], sym ['k']], nat 5]]],
     sym ['r'],
     L [sym k_begin_, L [sym k_setBang, sym ['n'], nat 10], L [sym ['k', 'k'], nat 9]],
     sym ['r'],
     sym ['n']]
    = [.ok .void, .ok .void, .ok .void,
       .ok (.pair (.num (.fix 1)) (.pair (.num (.fix 5)) .nil)),
       .ok .void,
       .ok (.pair (.num (.fix 1)) (.pair (.num (.fix 9)) .nil)),
       .ok (.num (.fix 10))] := by decide +kernel

end CpsSpec

end Marwood.Proofs.C05
