import Marwood.Lemmas.EnvNest
import Marwood.Lemmas.EnvRefineTop
import Marwood.Lemmas.EnvRefineBinder
import Marwood.Lemmas.EnvRefineReach
import Marwood.Lemmas.EnvRefineSpec
/-!
# C02 — lexical scoping: innermost binding wins, closures share mutable locations

* T02.1 (`static_resolution`, `static_resolution_global`), over the compiler's environment maps (`Vm.Env`), for every
  iteration order of the `HashSet`s of free and internally defined symbols (`SameSets ord`: the formals in the same
  order, `Lambda.args` being a `Vec`; the other two as the same sets). The grammar of the nest (`Node`, `subs`,
  `refs`) has no `quasiquote`.
* T02.2 (one level of indirection) and T02.3 (sharing / separation of locations), over the run-time environments
  `Envs`; T02.2 also in every state the model evaluator `Vm.EnvRun` reaches.
* T02.4: `Vm.EnvRun` refines the scope-chain interpreter `Spec.Scope`, except where the specification run reports
  `unbound` or runs out of fuel.
-/
namespace Marwood.Proofs.C02
open Marwood.Scope Marwood.Spec.Scope Marwood.Vm.Env

/-- `resolve` stops at the innermost frame that binds the name -/
theorem resolve_innermost (x : Name) (fr : Frame) (ρ : Chain) (l : Loc) (h : fr.find? x = some l) :
    resolve x (fr :: ρ) = some l := by
  simp [resolve, h]

/-- a frame that does not bind the name is transparent -/
theorem resolve_skip (x : Name) (fr : Frame) (ρ : Chain) (h : fr.find? x = none) :
    resolve x (fr :: ρ) = resolve x ρ := by
  simp [resolve, h]

theorem find?_isSome_iff (x : Name) (fr : Frame) : (fr.find? x).isSome ↔ x ∈ fr.names := by
  induction fr with
  | nil => simp [Frame.find?, Frame.names]
  | cons p fr ih =>
    obtain ⟨y, l⟩ := p
    simp only [Frame.find?, Frame.names, List.map_cons, List.mem_cons]
    split
    · next h => simp [h]
    · next h =>
      have : ¬ x = y := fun hh => h hh.symm
      simp only [this, false_or]
      exact ih

/-- the level the interpreter's `resolve` stops at is the static `resolveIdx` of the binder sets -/
theorem resolveLevel_eq_resolveIdx (x : Name) (ρ : Chain) :
    resolveLevel x ρ = resolveIdx x (ρ.map Frame.names) := by
  induction ρ with
  | nil => rfl
  | cons fr ρ ih =>
    simp only [resolveLevel, List.map_cons, resolveIdx]
    cases h : fr.find? x with
    | some l =>
      have : x ∈ fr.names := (find?_isSome_iff x fr).mp (by simp [h])
      simp [this]
    | none =>
      have : x ∉ fr.names := fun hh => by
        have := (find?_isSome_iff x fr).mpr hh
        simp [h] at this
      simp [this, ih]

/-- whatever order the `HashSet`s of one lambda form are iterated in -/
def SameSets (ord : Node → Level) : Prop :=
  ∀ n, (ord n).args = n.level.args ∧ (∀ x, x ∈ (ord n).internal ↔ x ∈ n.level.internal) ∧
    (∀ x, x ∈ (ord n).free ↔ x ∈ n.level.free)

theorem SameSets.binders {ord : Node → Level} (h : SameSets ord) (n : Node) (x : Name) :
    x ∈ (ord n).binders ↔ x ∈ n.level.binders := by
  obtain ⟨h1, h2, _⟩ := h n
  simp [Level.binders, h1, h2]

theorem isNest_prefix (a b : List Node) (h : IsNest (a ++ b)) : IsNest a := by
  induction a with
  | nil => trivial
  | cons n a ih =>
    cases a with
    | nil => trivial
    | cons m a' => exact ⟨h.1, ih h.2⟩

/-- T02.1, unbound case: a name no enclosing lambda form binds compiles to a global reference, at any depth. -/
theorem static_resolution_global (ord : Node → Level) (hord : SameSets ord) (nodes : List Node) (x : Name)
    (h : ∀ m ∈ nodes, x ∉ m.level.binders) :
    resolveIdx x ((nodes.map ord).map Level.binders) = none ∧
    bindingLocation (ctxOf (nodes.map ord)) x = .global := by
  have h' : ∀ l ∈ nodes.map ord, x ∉ l.binders := by
    intro l hl
    rw [List.mem_map] at hl
    obtain ⟨n, hn, rfl⟩ := hl
    exact fun hh => h n hn ((hord.binders n x).mp hh)
  refine ⟨resolveIdx_none _ x h', ?_⟩
  obtain ⟨h1, h2⟩ := unbound_global _ x h'
  simp [bindingLocation, slotOf_eq_entryOf, h1, h2]

/-- T02.1, bound case. `inner ++ n :: outer` is a syntactic nest, innermost first; `x` is referenced in the
    innermost body, the forms `inner` do not bind it and `n` does. Then `resolve` selects level `inner.length`, and
    the `IofEnvironment` links from the slot of the reference end, `inner.length` levels up, at `n`'s own `Argument`
    or `InternalDefinition` entry, the first entry for `x` there. -/
theorem static_resolution (ord : Node → Level) (hord : SameSets ord)
    (inner : List Node) (n : Node) (outer : List Node) (x : Name)
    (hnest : IsNest (inner ++ n :: outer))
    (href : ∀ h ∈ (inner ++ [n]).head?, x ∈ h.refs)
    (hinner : ∀ m ∈ inner, x ∉ m.level.binders) (hn : x ∈ n.level.binders) :
    resolveIdx x (((inner ++ n :: outer).map ord).map Level.binders) = some inner.length ∧
    ∃ s t src, bindingLocation (ctxOf ((inner ++ n :: outer).map ord)) x = .env s ∧
      follow ((inner ++ n :: outer).map ord) s = some (inner.length, t, src) ∧
      entryOf (ctxOf ((n :: outer).map ord)).envmap x = some (t, src) ∧
      BinderEntry (ord n) x src := by
  have hfree : ∀ m ∈ inner, x ∈ m.level.free := by
    apply free_through_nest inner (isNest_prefix _ _ hnest) x hinner
    intro h hh
    cases inner with
    | nil => simp at hh
    | cons i inner' =>
      simp only [List.head?_cons, Option.mem_def, Option.some.injEq] at hh
      subst hh
      have := href i (by simp)
      rcases refs_free_or_bound i x this with hf | hb
      · exact hf
      · exact absurd hb (hinner i (by simp))
  have hinner' : ∀ l ∈ inner.map ord, x ∉ l.binders ∧ x ∈ l.free := by
    intro l hl
    rw [List.mem_map] at hl
    obtain ⟨m, hm, rfl⟩ := hl
    exact ⟨fun hh => hinner m hm ((hord.binders m x).mp hh), ((hord m).2.2 x).mpr (hfree m hm)⟩
  have hn' : x ∈ (ord n).binders := (hord.binders n x).mpr hn
  have e : (inner ++ n :: outer).map ord = inner.map ord ++ ord n :: outer.map ord := by simp
  rw [e]
  constructor
  · have := resolveIdx_nest (inner.map ord) (ord n) (outer.map ord) x (fun l hl => (hinner' l hl).1) hn'
    simpa using this
  · have := chain_to_binder (inner.map ord) (ord n) (outer.map ord) x hinner' hn'
    simpa using this

/-- on `(lambda (a) (lambda b (lambda () (rd 1 a))))`: the reference to `a` two levels below its binder, across a
    level that binds something else -/
example : ∃ s t, bindingLocation (ctxOf ([⟨false, [], none, .nil, .cons (.ref 1 0) .nil⟩,
      ⟨false, [], some 1, .nil, .cons (.lam [] none .nil (.cons (.ref 1 0) .nil)) .nil⟩,
      ⟨false, [0], none, .nil, .cons (.lam [] (some 1) .nil (.cons (.lam [] none .nil (.cons (.ref 1 0) .nil)) .nil)) .nil⟩].map
        Node.level)) 0 = .env s ∧
    follow ([⟨false, [], none, .nil, .cons (.ref 1 0) .nil⟩,
      ⟨false, [], some 1, .nil, .cons (.lam [] none .nil (.cons (.ref 1 0) .nil)) .nil⟩,
      ⟨false, [0], none, .nil, .cons (.lam [] (some 1) .nil (.cons (.lam [] none .nil (.cons (.ref 1 0) .nil)) .nil)) .nil⟩].map
        Node.level) s = some (2, t, .argument 0) := ⟨0, 0, by decide, by decide⟩

variable {α : Type}

/-- T02.3, sharing: two closures created in the same activation `ep` (anything `Evolves` allows in between) that
    take `x` from the same slot `k` of the creator's map both denote, in `h2`, the location slot `k` denoted in the
    creator (and so in every later heap: `location_survives`). -/
theorem closures_share_location (h h1 h' h2 : Envs α) (ep c1 c2 : Nat) (args1 args2 : List α)
    (em1 em2 : Envmap)
    (hb1 : buildClosureEnvironment h ep args1 em1 = .ok (h1, c1)) (hev : Evolves h1 h')
    (hb2 : buildClosureEnvironment h' ep args2 em2 = .ok (h2, c2))
    (s1 s2 : Nat) (x : Name) (k : Nat)
    (he1 : em1[s1]? = some (x, .iofEnv k)) (he2 : em2[s2]? = some (x, .iofEnv k))
    (r : Nat × Nat) (ht : target h ep k = .ok r) :
    target h2 c1 s1 = .ok r ∧ target h2 c2 s2 = .ok r := by
  have e01 := buildClosureEnvironment_evolves h h1 ep c1 args1 em1 hb1
  have e12 := buildClosureEnvironment_evolves h' h2 ep c2 args2 em2 hb2
  obtain ⟨_, a1, ha1, hg1⟩ := closure_captures h h1 ep c1 args1 em1 hb1 s1 x k he1 r ht
  have t1 : target h1 c1 s1 = .ok r := by rw [target_eq h1 c1 s1 a1 _ ha1 hg1]
  have ht' : target h' ep k = .ok r := target_stable (e01.trans hev) ep k r ht
  obtain ⟨_, a2, ha2, hg2⟩ := closure_captures h' h2 ep c2 args2 em2 hb2 s2 x k he2 r ht'
  exact ⟨target_stable (hev.trans e12) c1 s1 r t1, by rw [target_eq h2 c2 s2 a2 _ ha2 hg2]⟩

/-- T02.3: ENTER clones the closure environment, so for a captured variable the activation's slot denotes the
    location the closure's slot points to. -/
theorem activation_keeps_location (g g1 : Envs α) (c a : Nat) (args : List α) (em : Envmap)
    (hb : buildLexicalEnvironment g c args em = .ok (g1, a))
    (s : Nat) (x : Name) (k : Nat) (he : em[s]? = some (x, .iofEnv k))
    (carr : Array (Slot α)) (hc : g.envs[c]? = some carr) (p q : Nat) (hp : carr[s]? = some (.ptr p q)) :
    target g1 a s = .ok (p, q) := by
  obtain ⟨_, arr, v, harr, hv, hact⟩ := activation_slots g g1 c a args em hb s x _ he carr hc _ hp
  simp only [activationSlot, Except.ok.injEq] at hact
  subst hact
  rw [target_eq g1 a s arr _ harr hv]

/-- T02.3, separation: two ENTERs get two different environments; a parameter lives in its own activation's. -/
theorem activations_separate (g g1 g' g2 : Envs α) (c c' a1 a2 : Nat) (args args' : List α) (em em' : Envmap)
    (hb1 : buildLexicalEnvironment g c args em = .ok (g1, a1)) (hev : Evolves g1 g')
    (hb2 : buildLexicalEnvironment g' c' args' em' = .ok (g2, a2))
    (s s' : Nat) (x : Name) (n n' : Nat)
    (he : em[s]? = some (x, .argument n)) (he' : em'[s']? = some (x, .argument n'))
    (carr carr' : Array (Slot α)) (hc : g.envs[c]? = some carr) (hc' : g'.envs[c']? = some carr')
    (old old' : Slot α) (ho : carr[s]? = some old) (ho' : carr'[s']? = some old') :
    a1 ≠ a2 ∧ target g2 a1 s = .ok (a1, s) ∧ target g2 a2 s' = .ok (a2, s') := by
  obtain ⟨rfl, arr, v, harr, hv, hact⟩ := activation_slots g g1 c a1 args em hb1 s x _ he carr hc old ho
  obtain ⟨rfl, arr', v', harr', hv', hact'⟩ := activation_slots g' g2 c' a2 args' em' hb2 s' x _ he' carr' hc' old' ho'
  have e12 := buildLexicalEnvironment_evolves g' g2 c' _ args' em' hb2
  have hlt : g.envs.size < g1.envs.size := by
    rcases Nat.lt_or_ge g.envs.size g1.envs.size with h | h
    · exact h
    · simp [Array.getElem?_eq_none h] at harr
  have hne : g.envs.size ≠ g'.envs.size := Nat.ne_of_lt (Nat.lt_of_lt_of_le hlt hev.1)
  -- the slot of a parameter holds the argument's value, not a pointer
  have hval : ∀ {c args s old n w}, activationSlot (α := α) c args s old (.argument n) = .ok w → ∃ u, w = .val u := by
    intro c args s old n w hw
    simp only [activationSlot] at hw
    split at hw
    · cases hw; exact ⟨_, rfl⟩
    · cases hw
  obtain ⟨u, rfl⟩ := hval hact
  obtain ⟨u', rfl⟩ := hval hact'
  refine ⟨hne, ?_, by rw [target_eq g2 _ s' arr' _ harr' hv']⟩
  apply target_stable (hev.trans e12)
  rw [target_eq g1 _ s arr _ harr hv]

/-- T02.3, the binding outlives its creator: environments are heap cells, not stack frames (that the collector
    keeps them is C03). -/
theorem location_survives {h h' : Envs α} (hev : Evolves h h') (e s : Nat) (r : Nat × Nat)
    (ht : target h e s = .ok r) : target h' e s = .ok r := target_stable hev e s r ht

/-- T02.2: `OneLevel` (every `LexicalEnvPtr` points at a slot that holds no pointer) holds of the empty heap and is
    kept by CLOSURE, ENTER and assignment, the only operations that create or modify lexical environments. -/
theorem one_level_invariant :
    OneLevel ({} : Envs α) ∧
    (∀ (h h1 : Envs α) (ep c : Nat) (args : List α) (em : Envmap), OneLevel h →
      buildClosureEnvironment h ep args em = .ok (h1, c) → OneLevel h1 ∧ Evolves h h1) ∧
    (∀ (h h1 : Envs α) (cenv a : Nat) (args : List α) (em : Envmap), OneLevel h →
      buildLexicalEnvironment h cenv args em = .ok (h1, a) → OneLevel h1 ∧ Evolves h h1) ∧
    (∀ (h h' : Envs α) (ep s : Nat) (v : α), OneLevel h →
      store h ep s v = .ok h' → OneLevel h' ∧ Evolves h h') :=
  ⟨OneLevel.empty,
   fun h h1 ep c args em ho hb => ⟨buildClosureEnvironment_oneLevel h h1 ho ep c args em hb,
                                   buildClosureEnvironment_evolves h h1 ep c args em hb⟩,
   fun h h1 cenv a args em ho hb => ⟨buildLexicalEnvironment_oneLevel h h1 ho cenv a args em hb,
                                     buildLexicalEnvironment_evolves h h1 cenv a args em hb⟩,
   fun h h' ep s v ho hs => ⟨store_oneLevel h h' ho ep s v hs, store_evolves_of_oneLevel h h' ho ep s v hs⟩⟩

/-- T02.3, one mutable location: an assignment through one slot operand is seen by a load through every slot
    operand that denotes the same location. -/
theorem shared_location_write_read (h h' : Envs α) (hone : OneLevel h) (ep s : Nat) (v : α)
    (hs : store h ep s v = .ok h') (e t : Nat) (ht : target h ep s = .ok (e, t))
    (ep2 s2 : Nat) (ht2 : target h ep2 s2 = .ok (e, t)) : load h' ep2 s2 = .ok (.val v) :=
  load_after_store_of_oneLevel h h' hone ep s v hs e t ht ep2 s2 ht2

/-- the hypotheses of the run-time theorems are satisfiable: two closures over slot 0 of an activation, one
    activated; a write through the activation is read through the other closure's slot -/
example :
    let h0 : Envs Nat := ⟨#[#[.val 7]]⟩
    (do let (h1, c1) ← buildClosureEnvironment h0 0 [] [(0, .iofEnv 0)]
        let (h2, c2) ← buildClosureEnvironment h1 0 [] [(5, .argument 0), (0, .iofEnv 0)]
        let (h3, a2) ← buildLexicalEnvironment h2 c2 [9] [(5, .argument 0), (0, .iofEnv 0)]
        let h4 ← store h3 a2 1 42
        let t1 ← target h4 c1 0
        let t2 ← target h4 a2 1
        let v ← load h4 c1 0
        pure (c1, c2, a2, t1, t2, match v with | .val n => n | _ => 0)) =
      (.ok (1, 2, 3, (0, 0), (0, 0), 42) : Except Fault _) := by
  rfl

/-! ## T02.4: `Vm.EnvRun` refines `Spec.Scope`, for every program of the scope-skeleton language

Fuel: a `begin` costs the model two levels (it is the call of a parameterless lambda), so specification fuel `f` is
matched by any model fuel `g ≥ 2 f`. Excluded (`faulty`): sessions in which some form of the SPECIFICATION run ends
with `unbound` (a location read before its initialisation, a reference or assignment to an undefined global) or with
`fuel`; on the first two the model and the real VM behave differently (`refinement_fails_*`). The simulation
relation is described in `Lemmas/EnvRefineRel.lean`. -/

open Marwood.Vm.EnvRefine

/-- **T02.4, the full statement**: what an observer sees of the two runs from the empty state — the
    printed outcome of every top-level form and the printed read / write log — is the same. -/
def Refines (f g : Nat) (p : Program) : Prop :=
  (Vm.EnvRun.run g p {}).1.map obsResM = (Spec.Scope.run f p {}).1.map obsResS ∧
  (Vm.EnvRun.run g p {}).2.log.map (fun q => (q.1, obsM q.2)) =
    (Spec.Scope.run f p {}).2.log.map (fun ev => (ev.site, obsS ev.val))

/-- T02.4 with the simulation relation explicit -/
theorem refinement_relation_partial (f g : Nat) (hg : 2 * f ≤ g) (p : Program)
    (hok : (Spec.Scope.run f p {}).1.any faulty = false) :
    ∃ β, StRel β (Spec.Scope.run f p {}).2 (Vm.EnvRun.run g p {}).2 ∧
      Forall2 (ResRel β (Vm.EnvRun.run g p {}).2.envs) (Spec.Scope.run f p {}).1 (Vm.EnvRun.run g p {}).1 := by
  obtain ⟨β, _, r, hres⟩ := sim_run f g hg p _ _ _ StRel.init hok
  exact ⟨β, r, hres⟩

/-- T02.4: unless the specification run hits `unbound` or runs out of fuel, the model evaluator yields the same
    outcomes and the same read / write log as the scope-chain interpreter. -/
theorem refinement_partial (f g : Nat) (hg : 2 * f ≤ g) (p : Program)
    (hok : (Spec.Scope.run f p {}).1.any faulty = false) : Refines f g p := by
  obtain ⟨β, r, hres⟩ := refinement_relation_partial f g hg p hok
  refine ⟨hres.map_eq fun a b h => h.obs, ?_⟩
  exact Forall2.map_eq r.log fun ev q h => by
    obtain ⟨h1, h2⟩ := h
    simp [h1, h2.obs]

/-- T02.2, second half. In an activation related to the chain `ρ` (`sim_enter` establishes the relation at every
    ENTER, `sims` carries it through every step) the operand compiled for `x` denotes slot `i` of `acts[j]`: the
    environment ENTER created for the frame `ρ[j]` that `resolve` stops at, `i` being the position of the binding. -/
theorem pointer_leads_to_binder_activation {β : LocMap} {h : Envs MVal} {N ctx ep ρ acts}
    (a : ActRel β h N ctx ep ρ acts) (x : Name) (s : Nat) (hs : slotOf ctx.envmap x = some s) :
    ∃ (ae j : Nat) (fr : Frame) (i : Nat) (l : Loc) (e : Nat), ep = some ae ∧ resolveLevel x ρ = some j ∧
      ρ[j]? = some fr ∧ fr[i]? = some (x, l) ∧ fr.find? x = some l ∧ acts[j]? = some e ∧
      target h ae s = .ok (e, i) :=
  a.binder_activation x s hs

/-- the same for the pointers stored in a closure environment -/
theorem closure_pointer_leads_to_binder_activation {β : LocMap} {h : Envs MVal} {fvs octx ctx cenv ρ acts carr}
    (c : CloFacts β h fvs octx ctx cenv ρ acts carr) (s : Nat) (x : Name) (k : Nat)
    (he : ctx.envmap[s]? = some (x, Source.iofEnv k)) :
    ∃ (j : Nat) (fr : Frame) (i : Nat) (l : Loc) (e : Nat), resolveLevel x ρ = some j ∧ ρ[j]? = some fr ∧
      fr[i]? = some (x, l) ∧ fr.find? x = some l ∧ acts[j]? = some e ∧ carr[s]? = some (Slot.ptr e i) :=
  c.binder_activation s x k he

/-- ENTER establishes the relation the two theorems above assume -/
theorem enter_establishes_relation {β : LocMap} {s : SSt} {t : MSt} {octx cenv ρ acts carr} (r : StRel β s t)
    (sugar : Bool) (ps : List Name) (rst : Option Name) (ds : Defs) (body : Exprs)
    (c : CloFacts β t.envs (fvLam sugar ps rst ds body) octx (compileLam octx sugar ps rst ds body) cenv ρ acts carr)
    (vals : List SVal) (margs : List MVal) (hrel : Forall2 (VRel β t.envs) vals margs)
    (hm : margs.length = (ps ++ rst.toList).length) :
    ∃ (arr : Array (Slot MVal)) (β' : LocMap),
      buildLexicalEnvironment t.envs cenv margs (compileLam octx sugar ps rst ds body).envmap =
        .ok ((t.envs.push arr).1, t.envs.envs.size) ∧
      Ext β t.envs β' (t.envs.push arr).1 ∧
      StRel β' { s with store := s.store ++ vals.toArray ++ (ds.names.map fun _ => Spec.Scope.Val.undef).toArray }
        { t with envs := (t.envs.push arr).1 } ∧
      ActRel β' (t.envs.push arr).1 (needOf sugar ps rst ds body) (compileLam octx sugar ps rst ds body)
        (some t.envs.envs.size)
        ((frameAt (ps ++ rst.toList) s.store.size ++ frameAt ds.names (s.store.size + vals.length)) :: ρ)
        (t.envs.envs.size :: acts) :=
  sim_enter r sugar ps rst ds body c vals margs hrel hm

/-- `((lambda () (define v5 (rd 1 v5)) (rd 2 v5)))`: an internal definition read before its
    initialisation -/
def uninitialisedRead : Program :=
  [.expr (.call (.lam [] none (.cons 5 false (.ref 1 5) .nil) (.cons (.ref 2 5) .nil)) .nil)]

/-- `(set! v7 (wr 1 (tick)))  (rd 2 v7)`: assignment to a global that was never defined -/
def assignUndefined : Program := [.expr (.set 1 7 .fresh), .expr (.ref 2 7)]

/-- the specification reports `unbound`; the model (like the real VM: `#<undefined>`, no error)
    reads the uninitialised slot -/
theorem refinement_fails_uninitialised : ¬ Refines 5 10 uninitialisedRead := by
  intro h
  exact absurd h.1 (by decide)

/-- the specification reports `unbound` twice; the model (like the real VM) lets `set!` define the
    global and then reads it -/
theorem refinement_fails_assign_undefined : ¬ Refines 5 10 assignUndefined := by
  intro h
  exact absurd h.1 (by decide)

example : (Spec.Scope.run 5 uninitialisedRead {}).1.any faulty = true := by decide
example : (Spec.Scope.run 5 assignUndefined {}).1.any faulty = true := by decide

/-! ### the hypotheses are satisfiable: depth 3, shadowing, a shared counter, two activations

```
(define mk (lambda (a)                                   ; a: the counter of this activation
  (define inc (lambda () (set! a (wr 1 (tick))) (rd 2 a)))              ; closure 1 over a
  (define get (lambda (b) (lambda (a) (rd 3 a) (rd 4 b))))              ; depth 3; the inner a shadows
  (lambda (c) ((rd 6 inc)) (rd 5 a) (((rd 7 get) (tick)) (tick)))))      ; closure 2 over a
(define k1 ((rd 8 mk) (tick)))   (define k2 ((rd 8 mk) (tick)))
((rd 9 k1) (tick))   ((rd 9 k2) (tick))   ((rd 9 k1) (tick))
``` -/
def demo : Program :=
  [ .define 10 (.lam [0] none
      (.cons 3 false (.lam [] none .nil (.cons (.set 1 0 .fresh) (.cons (.ref 2 0) .nil)))
        (.cons 4 false (.lam [1] none .nil (.cons (.lam [0] none .nil (.cons (.ref 3 0) (.cons (.ref 4 1) .nil))) .nil))
          .nil))
      (.cons (.lam [2] none .nil
        (.cons (.call (.ref 6 3) .nil) (.cons (.ref 5 0)
          (.cons (.call (.call (.ref 7 4) (.cons .fresh .nil)) (.cons .fresh .nil)) .nil)))) .nil)),
    .define 11 (.call (.ref 8 10) (.cons .fresh .nil)),
    .define 12 (.call (.ref 8 10) (.cons .fresh .nil)),
    .expr (.call (.ref 9 11) (.cons .fresh .nil)),
    .expr (.call (.ref 9 12) (.cons .fresh .nil)),
    .expr (.call (.ref 9 11) (.cons .fresh .nil)) ]

theorem demo_not_faulty : (Spec.Scope.run 12 demo {}).1.any faulty = false := by decide +kernel

example : Refines 12 24 demo := refinement_partial 12 24 (by omega) demo demo_not_faulty

/-- the specification run of `demo`, with locations: sites 1, 2 (closure `inc`) and 5 (closure 2) hit ONE location
    per activation of `mk` (1 for `k1`, 5 for `k2`); the value written through `inc` is read through the other closure
    and survives until the next call of `k1`; site 3 reads the innermost `a` (11, 14, 17), never the counter -/
example : (Spec.Scope.run 12 demo {}).2.log.reverse.map (fun ev => (ev.site, ev.loc, obsS ev.val)) =
    [(8, 0, .proc), (8, 0, .proc),
     (9, 4, .proc), (6, 2, .proc), (1, 1, .int 4), (2, 1, .int 4), (5, 1, .int 4), (7, 3, .proc), (3, 11, .int 5), (4, 10, .int 6),
     (9, 8, .proc), (6, 6, .proc), (1, 5, .int 8), (2, 5, .int 8), (5, 5, .int 8), (7, 7, .proc), (3, 14, .int 9), (4, 13, .int 10),
     (9, 4, .proc), (6, 2, .proc), (1, 1, .int 12), (2, 1, .int 12), (5, 1, .int 12), (7, 3, .proc), (3, 17, .int 13), (4, 16, .int 14)] := by
  decide +kernel

/-- and the model evaluator, which knows no names at run time, logs the same sites and values -/
example : (Vm.EnvRun.run 24 demo {}).2.log.reverse.map (fun q => (q.1, obsM q.2)) =
    [(8, .proc), (8, .proc),
     (9, .proc), (6, .proc), (1, .int 4), (2, .int 4), (5, .int 4), (7, .proc), (3, .int 5), (4, .int 6),
     (9, .proc), (6, .proc), (1, .int 8), (2, .int 8), (5, .int 8), (7, .proc), (3, .int 9), (4, .int 10),
     (9, .proc), (6, .proc), (1, .int 12), (2, .int 12), (5, .int 12), (7, .proc), (3, .int 13), (4, .int 14)] := by
  decide +kernel

/-- T02.2, first half, in every state a session of the model evaluator reaches from the empty state, whatever
    errors occur on the way (`keepsAll` is the induction over the evaluator) -/
theorem reachable_one_level (g : Nat) (p : Program) : OneLevel (Vm.EnvRun.run g p {}).2.envs :=
  (run_keeps g p {} OneLevel.empty).1

/-- …and between any two points of a session no environment is removed, no pointer slot changes and
    no value slot becomes a pointer -/
theorem session_evolves (g : Nat) (p q : Program) :
    Evolves (Vm.EnvRun.run g p {}).2.envs (Vm.EnvRun.run g q (Vm.EnvRun.run g p {}).2).2.envs :=
  (run_keeps g q _ (reachable_one_level g p)).2

/-! ### the four clauses of the property, on the specification interpreter (`refinement_partial` carries them over) -/

/-- closures share one mutable location per activation, part 1: a closure carries the chain of the activation
    that created it -/
theorem spec_closure_carries_chain (f : Nat) (ρ : Chain) (ps : List Name) (r : Option Name) (ds : Defs)
    (body : Exprs) (s : SSt) :
    exec (Spec.Scope.eval (f + 1) ρ (.lam ps r ds body)) s = (.ok (.clo ps r ds body ρ), s) := rfl

/-- part 2: an application evaluates the body in the closure's chain extended by ONE new frame -/
theorem spec_apply_extends_chain (f : Nat) (ps : List Name) (r : Option Name) (ds : Defs) (body : Exprs)
    (env : Chain) (vs : List SVal) :
    Spec.Scope.apply (f + 1) (.clo ps r ds body env) vs = (do
      let fr ← bindParams ps r vs
      let fr' ← allocDefs ds
      Spec.Scope.evalDefs f ((fr ++ fr') :: env) ds
      Spec.Scope.evalBody f ((fr ++ fr') :: env) body) := rfl

/-- part 3: a name neither of two such applications rebinds denotes the same location in both -/
theorem spec_closures_share_location (x : Name) (fr1 fr2 : Frame) (ρ : Chain)
    (h1 : fr1.find? x = none) (h2 : fr2.find? x = none) :
    resolve x (fr1 :: ρ) = resolve x ρ ∧ resolve x (fr2 :: ρ) = resolve x ρ :=
  ⟨resolve_skip x fr1 ρ h1, resolve_skip x fr2 ρ h2⟩

/-- separate activations get separate locations: a new frame consists of the next free locations of the store … -/
theorem spec_activation_gets_fresh_locations (ps : List Name) (r : Option Name) (ds : Defs) (vs vals : List SVal)
    (s : SSt) (hp : paramVals ps r vs = some vals) :
    exec (bindParams ps r vs >>= fun fr => allocDefs ds >>= fun fr' => pure (fr ++ fr')) s =
      (.ok (frameAt (ps ++ r.toList) s.store.size ++ frameAt ds.names (s.store.size + vals.length)),
       { s with store := s.store ++ vals.toArray ++ (ds.names.map fun _ => Spec.Scope.Val.undef).toArray }) ∧
    ∀ (i : Nat) (q : Name × Loc),
      (frameAt (ps ++ r.toList) s.store.size ++ frameAt ds.names (s.store.size + vals.length))[i]? = some q →
      q.2 = s.store.size + i := by
  have hb := exec_bindParams ps r vs s
  rw [hp] at hb
  simp only at hb
  have hvl := paramVals_length ps r vs vals hp
  refine ⟨?_, ?_⟩
  · rw [exec_bind_ok _ _ _ _ _ hb, exec_bind_ok _ _ _ _ _ (exec_allocDefs ds _)]
    simp [exec_pure]
  intro i q hq
  rw [hvl, ← frameAt_append, frameAt_getElem] at hq
  exact hq.2

/-- … and bindings outlive their creator: no step of the interpreter ever shortens the store -/
theorem spec_store_never_shrinks (f : Nat) (ρ : Chain) (e : Expr) (s : SSt) :
    s.store.size ≤ (exec (Spec.Scope.eval f ρ e) s).2.store.size :=
  (growsAll f).eval ρ e s

theorem spec_apply_never_shrinks (f : Nat) (fv : SVal) (vs : List SVal) (s : SSt) :
    s.store.size ≤ (exec (Spec.Scope.apply f fv vs) s).2.store.size :=
  (growsAll f).apply fv vs s

/-- C02 in one statement: the refinement, and in the specification interpreter the four clauses of the property. -/
theorem lexical_scoping_partial (f g : Nat) (hg : 2 * f ≤ g) (p : Program)
    (hok : (Spec.Scope.run f p {}).1.any faulty = false) :
    Refines f g p ∧
    -- the innermost binding wins
    (∀ (x : Name) (fr : Frame) (ρ : Chain) (l : Loc), fr.find? x = some l → resolve x (fr :: ρ) = some l) ∧
    (∀ (x : Name) (fr : Frame) (ρ : Chain), fr.find? x = none → resolve x (fr :: ρ) = resolve x ρ) ∧
    -- closures created in one activation share one location per captured name with that activation
    (∀ (f : Nat) (ρ : Chain) (ps : List Name) (r : Option Name) (ds : Defs) (body : Exprs) (s : SSt),
      exec (Spec.Scope.eval (f + 1) ρ (.lam ps r ds body)) s = (.ok (.clo ps r ds body ρ), s)) ∧
    (∀ (x : Name) (fr1 fr2 : Frame) (ρ : Chain), fr1.find? x = none → fr2.find? x = none →
      resolve x (fr1 :: ρ) = resolve x (fr2 :: ρ)) ∧
    -- separate activations get separate locations: an activation's frame is made of the next free ones
    (∀ (ps : List Name) (r : Option Name) (ds : Defs) (vs vals : List SVal) (s : SSt),
      paramVals ps r vs = some vals → ∀ (i : Nat) (q : Name × Loc),
      (frameAt (ps ++ r.toList) s.store.size ++ frameAt ds.names (s.store.size + vals.length))[i]? = some q →
      q.2 = s.store.size + i) ∧
    -- a binding outlives its creator: no location is ever released
    (∀ (f : Nat) (fv : SVal) (vs : List SVal) (s : SSt),
      s.store.size ≤ (exec (Spec.Scope.apply f fv vs) s).2.store.size) :=
  ⟨refinement_partial f g hg p hok,
   resolve_innermost, resolve_skip,
   spec_closure_carries_chain,
   fun x fr1 fr2 ρ h1 h2 => (resolve_skip x fr1 ρ h1).trans (resolve_skip x fr2 ρ h2).symm,
   fun ps r ds vs vals s hp => (spec_activation_gets_fresh_locations ps r ds vs vals s hp).2,
   spec_apply_never_shrinks⟩

example : Refines 12 24 demo := (lexical_scoping_partial 12 24 (by omega) demo demo_not_faulty).1

end Marwood.Proofs.C02
