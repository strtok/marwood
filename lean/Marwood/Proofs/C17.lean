import Marwood.Lemmas.TransformSoundPlain
import Marwood.Lemmas.TransformTermTheorem
import Marwood.Lemmas.TransformDriverSound
import Marwood.Lemmas.TransformDriverTerm
import Marwood.Gen.Prelude
/-!
# C17 — syntax-rules is sound where supported and always terminates

T17.1 and T17.2 are about `Marwood.Transform.Model` (transform.rs with fix ff58560) against
`Marwood.Spec.Match` (R7RS 4.3.2, non-hygienic); T17.3 is about `Marwood.Transform.Driver`
(`Vm::transform`, compile.rs) against `Marwood.Spec.ExpandAll`. The lemmas are in
`Marwood/Lemmas/Transform*.lean`.

* T17.1 soundness, by class of pattern (the numbers used below): 1 no ellipsis; 2 trailing ellipsis
  `(_ p1 … pn x ...)`; 3 ellipsis followed by a fixed tail `(_ p1 … pn x ... q1 … qm)`; 4 a sub-pattern
  under the ellipsis `(_ p1 … pn P ... q1 … qm)`; 5 literals, `_`, data and a custom ellipsis in all of
  these; 6 nested ellipsis (depth 2). The full statement `T17_1` is false for this code:
  `soundness_fails_at_witness` (known finding `C17-empty-ellipsis-before-tail`). Proved is
  `soundness_gapfree_partial`: for every transformer `try_new` accepts and every use that passes the
  decidable guard `GapFree` (`Spec.Match.zeroRepTail`), an expansion is R7RS's, or R7RS's instantiation
  answers `mismatch` (unequal counts, the uses the property excludes). Every accepted transformer is in
  the class `DepthOne` (`accepted_depthOne`; depth 2 is rejected at definition), so the class theorems
  are this one with a hypothesis to spare; for classes 1 and 2 the class discharges the guard.
* T17.2 termination. The matcher terminates on every input; `expand` and `transform` terminate for
  every transformer `try_new` accepts. `expand` alone loops on a template `(a ...)` whose `a` is not
  ellipsis-bound (`expand_diverges_without_definition_check`); fix ff58560 made `try_new` reject it.
* T17.3 the expansion driver: sound on guarded forms (the full statement `T17_3a` is false,
  `driver_sound_fails_at_witness`), outermost first, out of fuel only along a chain of nested
  expansions, quoted data untouched.
-/
namespace Marwood.Proofs.C17
open Marwood Marwood.Transform Marwood.Spec.Match

/-- the decidable guard: no rule of the transformer meets the `zeroRepTail` situation on this use -/
def GapFree (c : Ctx) (rules : List Rule) (u : Datum) : Bool :=
  rules.all fun r => !zeroRepTailRule c r u

/-- T17.1 at full strength: for every transformer accepted by `try_new` and every use, an
    expansion is the one R7RS prescribes (`Sound`, Lemmas/TransformEllSound.lean: some rule `i` matches,
    no earlier rule does, and `e` instantiates rule `i`'s template — or the instantiation answers
    `mismatch`, the uses the property excludes). An error of `transform` is always allowed. -/
def T17_1 : Prop :=
  ∀ (f0 : Nat) (d : Datum) (t : Transform) (fuel : Nat) (u e : Datum),
    Transform.tryNew f0 d = .ok t → t.transform fuel u = .ok e →
    ∃ s : Setup, t.ellipsis = s.ell ∧ t.literals = s.lits ∧ Sound s.ctx (specRules t) u e

/-- class 1 of T17.1: the ellipsis occurs in no pattern and in no template (`plain` also asks for
    proper lists without vectors, which `try_new` demands anyway) -/
def NoEllipsis (t : Transform) : Prop :=
  ∀ es, t.ellipsis = .sym es → ∀ r ∈ t.rules, plain es r.1.expr = true ∧ plain es r.2 = true

/-- **T17.1, class 1**: no guard — the matcher is complete on this class. -/
theorem soundness_noEllipsis_partial (f0 : Nat) (d : Datum) (t : Transform) (fuel : Nat) (u e : Datum)
    (hdef : Transform.tryNew f0 d = .ok t) (hclass : NoEllipsis t)
    (huse : t.transform fuel u = .ok e) :
    ∃ s : Setup, t.ellipsis = s.ell ∧ t.literals = s.lits ∧ Sound s.ctx (specRules t) u e := by
  obtain ⟨s, hte, htl, hrules⟩ := Transform.tryNew_ok hdef
  refine ⟨s, hte, htl, ?_⟩
  unfold Transform.transform at huse
  split at huse
  · cases huse
  · have hcl := hclass s.es (by simpa [Setup.ell] using hte)
    exact transformRules_plain s fuel f0 t u hte htl t.rules e
      (fun r hr => ⟨hrules r hr, (hcl r hr).1, (hcl r hr).2⟩) huse

/-- `(define-syntax m (syntax-rules () ((_ a ... b) (a ... b)) ((_ c) (s c))))` -/
def gapDef' : Datum :=
  Datum.ofList [.sym ['d'], .sym ['m'], Datum.ofList [.sym ['s','y','n','t','a','x','-','r','u','l','e','s'], .nil,
    Datum.ofList [Datum.ofList [.sym ['_'], .sym ['a'], .sym ['.','.','.'], .sym ['b']],
                  Datum.ofList [.sym ['a'], .sym ['.','.','.'], .sym ['b']]],
    Datum.ofList [Datum.ofList [.sym ['_'], .sym ['c']], Datum.ofList [.sym ['s'], .sym ['c']]]]]

/-! ## T17.1: which rule fires

The verdict of the matcher's state machine, hand-off included, is R7RS's: the rule `transform` expands
with matches per R7RS, and every earlier rule does not match per R7RS or is in the excluded class
`zeroRepTail`. These are the first two conjuncts of `Sound`. -/

/-- `check_pattern_support`: proper, vector-free; `Pattern::build`: no leading ellipsis, at most one
    per list -/
theorem accepted_patterns_wellformed (f0 : Nat) (d : Datum) (t : Transform)
    (hdef : Transform.tryNew f0 d = .ok t) :
    ∃ s : Setup, t.ellipsis = s.ell ∧ t.literals = s.lits ∧
      ∀ r ∈ t.rules, wfPattern s.es r.1.expr = true := by
  obtain ⟨s, hte, htl, hrules⟩ := Transform.tryNew_ok hdef
  exact ⟨s, hte, htl, fun r hr => ruleOK_wfPattern s (hrules r hr)⟩

theorem rule_selection_partial (f0 : Nat) (d : Datum) (t : Transform) (fuel : Nat) (u e : Datum)
    (hdef : Transform.tryNew f0 d = .ok t)
    (huse : t.transform fuel u = .ok e) :
    ∃ s : Setup, t.ellipsis = s.ell ∧ t.literals = s.lits ∧ Selects s.ctx (specRules t) u := by
  obtain ⟨s, hte, htl, hwf⟩ := accepted_patterns_wellformed f0 d t hdef
  refine ⟨s, hte, htl, ?_⟩
  unfold Transform.transform at huse
  split at huse
  · cases huse
  · exact transformRules_selects s fuel t u hte htl t.rules e hwf huse

/-- with the guard, the selected rule is exactly R7RS's first matching rule -/
theorem rule_selection_gapfree (f0 : Nat) (d : Datum) (t : Transform) (fuel : Nat) (u e : Datum)
    (hdef : Transform.tryNew f0 d = .ok t)
    (huse : t.transform fuel u = .ok e) :
    ∃ s : Setup, t.ellipsis = s.ell ∧ t.literals = s.lits ∧
      (GapFree s.ctx (specRules t) u = true →
        ∃ i r, (specRules t)[i]? = some r ∧ (matchRule s.ctx r u).isSome = true ∧
          ∀ j : Nat, j < i → ∀ r', (specRules t)[j]? = some r' → matchRule s.ctx r' u = none) := by
  obtain ⟨s, hte, htl, i, r, hi, hm, hprev⟩ := rule_selection_partial f0 d t fuel u e hdef huse
  refine ⟨s, hte, htl, fun hg => ⟨i, r, hi, hm, fun j hj r' hr' => ?_⟩⟩
  rcases hprev j hj r' hr' with h | h
  · exact h
  · exfalso
    have hmem : r' ∈ specRules t := List.mem_of_getElem? hr'
    simp only [GapFree, List.all_eq_true] at hg
    have := hg r' hmem
    simp [h] at this

/-- a test vector `∃ t, r = .ok t ∧ P t` in one evaluation: compute `r` and decide `P` of its value -/
theorem exists_ok {α : Type} {r : Res α} {P : α → Prop} [∀ t, Decidable (P t)]
    (h : (match r with | .ok t => decide (P t) | _ => false) = true) : ∃ t, r = .ok t ∧ P t := by
  cases r with
  | ok t => exact ⟨t, rfl, of_decide_eq_true h⟩
  | _ => cases h

/-- the hypotheses of `rule_selection_gapfree` hold together: `(m 1 2 3)` goes through the hand-off
    and expands with the first rule -/
example : ∃ t, Transform.tryNew 100 gapDef' = .ok t ∧
    t.transform 200 (Datum.ofList [.sym ['m'], .num (.fix 1), .num (.fix 2), .num (.fix 3)])
      = .ok (Datum.ofList [.num (.fix 1), .num (.fix 2), .num (.fix 3)]) ∧
    GapFree ⟨['.','.','.'], []⟩ (specRules t)
      (Datum.ofList [.sym ['m'], .num (.fix 1), .num (.fix 2), .num (.fix 3)]) = true :=
  exists_ok (by decide +kernel)

/-! ## The witness of the known finding -/

/-- `(define-syntax m (syntax-rules () ((_ a ... b) (a ... b)) ((_ c) (s c))))` -/
def gapDef : Datum :=
  Datum.ofList [.sym ['d'], .sym ['m'], Datum.ofList [.sym ['s','y','n','t','a','x','-','r','u','l','e','s'], .nil,
    Datum.ofList [Datum.ofList [.sym ['_'], .sym ['a'], .sym ['.','.','.'], .sym ['b']],
                  Datum.ofList [.sym ['a'], .sym ['.','.','.'], .sym ['b']]],
    Datum.ofList [Datum.ofList [.sym ['_'], .sym ['c']], Datum.ofList [.sym ['s'], .sym ['c']]]]]

/-- `(m 1)` -/
def gapUse : Datum := Datum.ofList [.sym ['m'], .num (.fix 1)]

/-- the model accepts the definition and expands `(m 1)` to `(s 1)` (the second rule) -/
theorem gap_model :
    (Transform.tryNew (defFuel gapDef) gapDef >>= fun t => t.transform (useFuel gapDef gapUse) gapUse)
      = .ok (Datum.ofList [.sym ['s'], .num (.fix 1)]) := by
  decide +kernel

def gapCtx : Ctx := { ellipsis := ['.','.','.'], literals := [] }
def gapRule0 : Rule :=
  ⟨Datum.ofList [.sym ['_'], .sym ['a'], .sym ['.','.','.'], .sym ['b']],
   Datum.ofList [.sym ['a'], .sym ['.','.','.'], .sym ['b']]⟩

/-- R7RS: the first rule matches `(m 1)` with no item for `a`, and the expansion is `(1)` -/
theorem gap_spec :
    specExpand gapCtx [gapRule0, ⟨Datum.ofList [.sym ['_'], .sym ['c']], Datum.ofList [.sym ['s'], .sym ['c']]⟩] gapUse
      = .ok (Datum.ofList [.num (.fix 1)]) := by
  rfl

/-- the guard `GapFree` is false on `(m 1)`, for the first rule alone -/
theorem gap_guard : GapFree gapCtx [gapRule0] gapUse = false := by decide

def gapRule1 : Rule := ⟨Datum.ofList [.sym ['_'], .sym ['c']], Datum.ofList [.sym ['s'], .sym ['c']]⟩

theorem gap_t_facts : ∃ t, Transform.tryNew (defFuel gapDef) gapDef = .ok t ∧
    t.ellipsis = .sym ['.','.','.'] ∧ t.literals = [] ∧ specRules t = [gapRule0, gapRule1] :=
  ⟨_, rfl, rfl, rfl, rfl⟩

/-- **The full statement T17.1 is false** (transform.rs with fix ff58560; known finding
    `C17-empty-ellipsis-before-tail`): the transformer
    `(syntax-rules () ((_ a ... b) (a ... b)) ((_ c) (s c)))` is accepted and expands `(m 1)` to
    `(s 1)`, while R7RS prescribes `(1)` (first rule, no item for `a`). -/
theorem soundness_fails_at_witness : ¬ T17_1 := by
  intro H
  obtain ⟨t, ht, he, hl, hr⟩ := gap_t_facts
  have hm := gap_model
  rw [ht] at hm
  simp only [bind, Res.bind] at hm
  obtain ⟨s, hte, htl, i, r, b, hi, hmatch, hprev, hinst⟩ := H _ _ t _ _ _ ht hm
  have hctx : s.ctx = gapCtx := by
    obtain ⟨es, names, hne⟩ := s
    simp only [Setup.ell, Setup.lits] at hte htl
    rw [he] at hte; rw [hl] at htl
    cases hte
    have : names = [] := by cases names <;> simp at htl <;> rfl
    subst this
    rfl
  rw [hr] at hi hprev
  rw [hctx] at hmatch hprev hinst
  have h0 : matchRule gapCtx gapRule0 gapUse
      = some [(['a'], .many []), (['b'], .one (.num (.fix 1)))] := rfl
  -- R7RS's rule 0 matches `(m 1)` (`h0`): `i = 0` makes the expansion `(1)`, not `(s 1)`, and
  -- `i = 1` contradicts `hprev` at rule 0
  match i, hi, hprev with
  | 0, hi, _ =>
    simp at hi; subst hi
    rw [h0] at hmatch
    cases hmatch
    have hc : instantiate gapCtx gapRule0.template [(['a'], .many []), (['b'], .one (.num (.fix 1)))]
        = .ok (Datum.ofList [.num (.fix 1)]) := rfl
    rw [hc] at hinst
    rcases hinst with h | h
    · have : Datum.ofList [Datum.num (.fix 1)] = Datum.ofList [.sym ['s'], .num (.fix 1)] := by
        injection h
      exact absurd this (by decide)
    · cases h
  | 1, _, hprev =>
    have := hprev 0 (by omega) gapRule0 rfl
    rw [h0] at this
    cases this
  | i + 2, hi, _ => simp at hi

/-- `(define-syntax m (syntax-rules (else) ((_ else (x) _) (x (x x))) ((_ y 5 z) (y z))))` -/
def plainDef : Datum :=
  Datum.ofList [.sym ['d'], .sym ['m'], Datum.ofList [.sym ['s','y','n','t','a','x','-','r','u','l','e','s'],
    Datum.ofList [.sym ['e','l','s','e']],
    Datum.ofList [Datum.ofList [.sym ['_'], .sym ['e','l','s','e'], Datum.ofList [.sym ['x']], .sym ['_']],
                  Datum.ofList [.sym ['x'], Datum.ofList [.sym ['x'], .sym ['x']]]],
    Datum.ofList [Datum.ofList [.sym ['_'], .sym ['y'], .num (.fix 5), .sym ['z']],
                  Datum.ofList [.sym ['y'], .sym ['z']]]]]

/-- `(m (a) 5 #t)`: the first rule does not match (no literal `else`), the second does -/
def plainUse : Datum :=
  Datum.ofList [.sym ['m'], Datum.ofList [.sym ['a']], .num (.fix 5), .bool true]

example : ∃ t, Transform.tryNew (defFuel plainDef) plainDef = .ok t ∧ NoEllipsis t ∧
    t.transform (useFuel plainDef plainUse) plainUse
      = .ok (Datum.ofList [Datum.ofList [.sym ['a']], .bool true]) := by
  refine ⟨_, rfl, ?_, rfl⟩
  intro es hes r hr
  have : es = ['.','.','.'] := by injection hes with h; exact h.symm
  subst this
  revert r
  decide

/-- **`pattern_match` terminates on every input**: fuel `3·|expr| + 1`, whatever the pattern, the
    ellipsis and the literals -/
theorem patternMatch_terminates (ell : Datum) (lits : List Datum) (p e : Datum) (env : Bindings)
    (f : Nat) (h : 3 * dsize e + 1 ≤ f) : ∃ r, patternMatch ell lits f p e env = .ok r :=
  Marwood.Transform.patternMatch_terminates ell lits p e env f h

example : ∃ r, patternMatch defaultEllipsis [] 100
    (Datum.ofList [.sym ['a'], defaultEllipsis, .sym ['b']])
    (Datum.ofList [.num (.fix 1), .num (.fix 2), .num (.fix 3)]) [] = .ok r ∧ r.1 = true :=
  ⟨_, rfl, rfl⟩

/-- pattern `(_ a b ...)`: `a` is an ordinary variable, `b` an ellipsis variable -/
def loopPat : Pattern :=
  { expr := Datum.ofList [.sym ['_'], .sym ['a'], .sym ['b'], defaultEllipsis],
    variables := [.sym ['a'], .sym ['b']], expanded := [.sym ['b']],
    ellipsis := defaultEllipsis, literals := [] }

def loopEnv : PEnv := PEnv.new loopPat [(.sym ['a'], .num (.fix 1)), (.sym ['b'], .num (.fix 2))]

theorem expandLoop_spins : ∀ (f : Nat) (v : List Datum),
    expandLoop defaultEllipsis loopPat f (.sym ['a']) [defaultEllipsis] v loopEnv = .fuel := by
  intro f
  induction f with
  | zero => intro v; rfl
  | succ f ih =>
    intro v
    cases f with
    | zero => rfl
    | succ f =>
      have h := ih (v ++ [.num (.fix 1)])
      unfold expandLoop
      have he : expand defaultEllipsis loopPat (f + 1) (.sym ['a']) loopEnv
          = .ok (some (.num (.fix 1)), loopEnv) := rfl
      rw [he]
      simp only [peekIs, defaultEllipsis, cellEq_sym_left, decide_true, if_true]
      exact h

/-- **`expand` alone does not terminate**: on the template `(a ...)` with `a` not ellipsis-bound it
    never leaves its loop — the model runs out of fuel for every fuel. Fix ff58560 did not touch the
    loop; it made `try_new` reject this template (`definition_check_rejects_diverging_template`). -/
theorem expand_diverges_without_definition_check (fuel : Nat) :
    expand defaultEllipsis loopPat fuel (Datum.ofList [.sym ['a'], defaultEllipsis]) loopEnv = .fuel := by
  cases fuel with
  | zero => rfl
  | succ f =>
    unfold expand
    simp only [Datum.ofList]
    exact expandLoop_spins f []

/-- `(define-syntax m (syntax-rules () ((_ a b ...) (a ...))))` -/
def loopDef : Datum :=
  Datum.ofList [.sym ['d'], .sym ['m'], Datum.ofList [.sym ['s','y','n','t','a','x','-','r','u','l','e','s'], .nil,
    Datum.ofList [Datum.ofList [.sym ['_'], .sym ['a'], .sym ['b'], defaultEllipsis],
                  Datum.ofList [.sym ['a'], defaultEllipsis]]]]

/-- with fix ff58560 `try_new` rejects the definition on which `expand` loops -/
theorem definition_check_rejects_diverging_template :
    Transform.tryNew (defFuel loopDef) loopDef = .err .syntax := by decide

/-- `bodyPred` is one of `bodyTrailing`, `bodyVarTail`, `bodySubTail` -/
def classRule (bodyPred : Text → List Datum → Bool) (c : Ctx) (r : Pattern × Datum) : Bool :=
  match r.1.expr with
  | .pair _ body =>
    endsInNil body && bodyPred c.ellipsis (iterList body) && tP c.ellipsis (ellVars c body) r.2
  | _ => false

/-- class 2 of T17.1 (decidable): every pattern is `(_ p1 … pn x <ellipsis>)` -/
def TrailingEllipsis (t : Transform) : Bool := t.rules.all (classRule bodyTrailing (ctxOf t))
/-- class 3 (decidable): every pattern is `(_ p1 … pn x <ellipsis> q1 … qm)` -/
def EllipsisThenTail (t : Transform) : Bool := t.rules.all (classRule bodyVarTail (ctxOf t))
/-- class 4 (decidable): every pattern is `(_ p1 … pn P <ellipsis> q1 … qm)`, `P` a sub-pattern -/
def SubpatternEllipsis (t : Transform) : Bool := t.rules.all (classRule bodySubTail (ctxOf t))
/-- the general class (decidable): ellipsis depth ≤ 1 anywhere in the patterns, templates in `tP` -/
def DepthOne (t : Transform) : Bool := t.rules.all (ruleD1 (ctxOf t))

/-- `check_pattern_support` rejects nested ellipses in patterns, `check_template_syntax` +
    `check_template_support` leave exactly the templates of class `tP` (fix ff58560); so class 6 is
    covered by the `err` disjunct of the property -/
theorem accepted_depthOne (f0 : Nat) (d : Datum) (t : Transform)
    (hdef : Transform.tryNew f0 d = .ok t) : DepthOne t = true := by
  obtain ⟨s, hte, htl, hall⟩ := accepted_d1 hdef
  simp only [DepthOne, ctxOf_eq s t hte htl, List.all_eq_true]
  exact fun r hr => (hall r hr).2

/-- **T17.1 for every transformer accepted by `try_new` and every use outside the known gap**: rule `i`
    matches per R7RS, no earlier rule does, and the expansion is the instantiation of rule `i`'s template
    (or the spec answers `mismatch`: the excluded uses). Without the guard `GapFree` the statement is
    false (`soundness_fails_at_witness`). -/
theorem soundness_gapfree_partial (f0 : Nat) (d : Datum) (t : Transform) (fuel : Nat) (u e : Datum)
    (hdef : Transform.tryNew f0 d = .ok t)
    (hgap : GapFree (ctxOf t) (specRules t) u = true)
    (huse : t.transform fuel u = .ok e) :
    ∃ s : Setup, t.ellipsis = s.ell ∧ t.literals = s.lits ∧ Sound s.ctx (specRules t) u e := by
  obtain ⟨s, hte, htl, hall⟩ := accepted_d1 hdef
  refine ⟨s, hte, htl, ?_⟩
  rw [ctxOf_eq s t hte htl] at hgap
  unfold Transform.transform at huse
  split at huse
  · cases huse
  · refine transformRules_d1 s fuel f0 t u hte htl t.rules e hall ?_ huse
    intro r hr
    simp only [GapFree, List.all_eq_true] at hgap
    have := hgap ⟨r.1.expr, r.2⟩ (by simp only [specRules, List.mem_map]; exact ⟨r, hr, rfl⟩)
    simpa using this

/-- **T17.1 for ellipsis depth ≤ 1** (the general class: ellipses inside nested lists, several groups
    per template list) -/
theorem soundness_depthOne_partial (f0 : Nat) (d : Datum) (t : Transform) (fuel : Nat) (u e : Datum)
    (hdef : Transform.tryNew f0 d = .ok t) (hclass : DepthOne t = true)
    (hgap : GapFree (ctxOf t) (specRules t) u = true)
    (huse : t.transform fuel u = .ok e) :
    ∃ s : Setup, t.ellipsis = s.ell ∧ t.literals = s.lits ∧ Sound s.ctx (specRules t) u e := by
  have _ := hclass -- not needed: `accepted_depthOne`
  exact soundness_gapfree_partial f0 d t fuel u e hdef hgap huse


/-- **T17.1, class 4** (under `GapFree`) -/
theorem soundness_subpatternEllipsis_partial (f0 : Nat) (d : Datum) (t : Transform) (fuel : Nat) (u e : Datum)
    (hdef : Transform.tryNew f0 d = .ok t) (hclass : SubpatternEllipsis t = true)
    (hgap : GapFree (ctxOf t) (specRules t) u = true)
    (huse : t.transform fuel u = .ok e) :
    ∃ s : Setup, t.ellipsis = s.ell ∧ t.literals = s.lits ∧ Sound s.ctx (specRules t) u e :=
  have _ := hclass
  soundness_gapfree_partial f0 d t fuel u e hdef hgap huse

/-- **T17.1, class 3**, the `len() + 2` hand-off (under `GapFree`) -/
theorem soundness_ellipsisThenTail_partial (f0 : Nat) (d : Datum) (t : Transform) (fuel : Nat) (u e : Datum)
    (hdef : Transform.tryNew f0 d = .ok t) (hclass : EllipsisThenTail t = true)
    (hgap : GapFree (ctxOf t) (specRules t) u = true)
    (huse : t.transform fuel u = .ok e) :
    ∃ s : Setup, t.ellipsis = s.ell ∧ t.literals = s.lits ∧ Sound s.ctx (specRules t) u e :=
  have _ := hclass
  soundness_gapfree_partial f0 d t fuel u e hdef hgap huse

/-- a transformer in the trailing class never meets the `zeroRepTail` situation -/
theorem trailingEllipsis_gapFree (s : Setup) {t : Transform} (hte : t.ellipsis = s.ell)
    (htl : t.literals = s.lits) (h : TrailingEllipsis t = true) (u : Datum) :
    GapFree (ctxOf t) (specRules t) u = true := by
  have hctx := ctxOf_eq s t hte htl
  simp only [TrailingEllipsis, hctx, List.all_eq_true] at h
  simp only [GapFree, hctx, List.all_eq_true, specRules, List.mem_map]
  rintro _ ⟨r, hr, rfl⟩
  have hc := h r hr
  unfold classRule at hc
  split at hc
  · rename_i kw body heq
    simp only [Bool.and_eq_true] at hc
    simp only [zeroRepTailRule, heq]
    cases u with
    | pair ukw urest =>
      simp only
      have := gp_trailing s _ hc.1.2 urest
      rw [← endsInNil_ofList hc.1.1] at this
      simp only [gp] at this
      simp [this]
    | _ => rfl
  · cases hc

/-- **T17.1, class 2**: no guard needed — the matcher is complete on this class -/
theorem soundness_trailingEllipsis_partial (f0 : Nat) (d : Datum) (t : Transform) (fuel : Nat) (u e : Datum)
    (hdef : Transform.tryNew f0 d = .ok t) (hclass : TrailingEllipsis t = true)
    (huse : t.transform fuel u = .ok e) :
    ∃ s : Setup, t.ellipsis = s.ell ∧ t.literals = s.lits ∧ Sound s.ctx (specRules t) u e := by
  obtain ⟨s, hte, htl, _⟩ := Transform.tryNew_ok hdef
  exact soundness_gapfree_partial f0 d t fuel u e hdef (trailingEllipsis_gapFree s hte htl hclass u) huse

/-- the use is not one the property excludes: the specification does not answer `mismatch` (the
    ellipsis variables of one sub-template matched different numbers of items). Decidable. -/
def CountsAgree (c : Ctx) (rules : List Rule) (u : Datum) : Bool :=
  match specExpand c rules u with
  | .mismatch => false
  | _ => true

theorem sound_specExpand {c : Ctx} {rules : List Rule} {u e : Datum} (h : Sound c rules u e) :
    specExpand c rules u = .ok e ∨ specExpand c rules u = .mismatch := by
  obtain ⟨i, r, b, hi, hm, hprev, hinst⟩ := h
  induction rules generalizing i with
  | nil => simp at hi
  | cons r0 rules ih =>
    cases i with
    | zero =>
      simp only [List.getElem?_cons_zero, Option.some.injEq] at hi
      subst hi
      simp only [Spec.Match.specExpand, hm]
      rcases hinst with h | h <;> simp [h]
    | succ i =>
      have h0 := hprev 0 (by omega) r0 rfl
      simp only [Spec.Match.specExpand, h0]
      exact ih i (by simpa using hi) (fun j hj r' hr' => hprev (j + 1) (by omega) r' (by simpa using hr'))

/-- **T17.1 for ellipsis depth ≤ 1, exact form**: under `CountsAgree` and `GapFree` an expansion of the
    implementation IS the specification's expansion. -/
theorem soundness_depthOne_exact_partial (f0 : Nat) (d : Datum) (t : Transform) (fuel : Nat) (u e : Datum)
    (hdef : Transform.tryNew f0 d = .ok t) (hclass : DepthOne t = true)
    (hgap : GapFree (ctxOf t) (specRules t) u = true)
    (hcounts : CountsAgree (ctxOf t) (specRules t) u = true)
    (huse : t.transform fuel u = .ok e) :
    specExpand (ctxOf t) (specRules t) u = .ok e := by
  obtain ⟨s, hte, htl, hs⟩ := soundness_depthOne_partial f0 d t fuel u e hdef hclass hgap huse
  rw [ctxOf_eq s t hte htl] at hcounts ⊢
  rcases sound_specExpand hs with h | h
  · exact h
  · simp [CountsAgree, h] at hcounts


def srSym : Datum := .sym ['s','y','n','t','a','x','-','r','u','l','e','s']
def n1 : Datum := .num (.fix 1)
def n2 : Datum := .num (.fix 2)
def n3 : Datum := .num (.fix 3)
def n4 : Datum := .num (.fix 4)
def n5 : Datum := .num (.fix 5)

/-- `(define-syntax m (syntax-rules () ((_ f x ...) (f (q x) ...))))` -/
def trailDef : Datum :=
  Datum.ofList [.sym ['d'], .sym ['m'], Datum.ofList [srSym, .nil,
    Datum.ofList [Datum.ofList [.sym ['_'], .sym ['f'], .sym ['x'], defaultEllipsis],
                  Datum.ofList [.sym ['f'], Datum.ofList [.sym ['q'], .sym ['x']], defaultEllipsis]]]]

/-- `(m g 1 2)` expands to `(g (q 1) (q 2))`; `(m g)` to `(g)` -/
example : ∃ t, Transform.tryNew (defFuel trailDef) trailDef = .ok t ∧ TrailingEllipsis t = true ∧
    t.transform 100 (Datum.ofList [.sym ['m'], .sym ['g'], n1, n2])
      = .ok (Datum.ofList [.sym ['g'], Datum.ofList [.sym ['q'], n1], Datum.ofList [.sym ['q'], n2]]) ∧
    t.transform 100 (Datum.ofList [.sym ['m'], .sym ['g']]) = .ok (Datum.ofList [.sym ['g']]) :=
  exists_ok (by decide +kernel)

/-- `(define-syntax m (syntax-rules () ((_ x ... y) (y x ...)) ((_) 0)))` -/
def tailDef : Datum :=
  Datum.ofList [.sym ['d'], .sym ['m'], Datum.ofList [srSym, .nil,
    Datum.ofList [Datum.ofList [.sym ['_'], .sym ['x'], defaultEllipsis, .sym ['y']],
                  Datum.ofList [.sym ['y'], .sym ['x'], defaultEllipsis]],
    Datum.ofList [Datum.ofList [.sym ['_']], .num (.fix 0)]]]

/-- `(m 1 2 3)` goes through the hand-off and expands to `(3 1 2)` -/
example : ∃ t, Transform.tryNew (defFuel tailDef) tailDef = .ok t ∧ EllipsisThenTail t = false ∧
    DepthOne t = true ∧
    GapFree (ctxOf t) (specRules t) (Datum.ofList [.sym ['m'], n1, n2, n3]) = true ∧
    CountsAgree (ctxOf t) (specRules t) (Datum.ofList [.sym ['m'], n1, n2, n3]) = true ∧
    t.transform 100 (Datum.ofList [.sym ['m'], n1, n2, n3]) = .ok (Datum.ofList [n3, n1, n2]) :=
  exists_ok (by decide +kernel)

/-- `(define-syntax m (syntax-rules () ((_ x ... y) (y x ...))))` -/
def tailDef1 : Datum :=
  Datum.ofList [.sym ['d'], .sym ['m'], Datum.ofList [srSym, .nil,
    Datum.ofList [Datum.ofList [.sym ['_'], .sym ['x'], defaultEllipsis, .sym ['y']],
                  Datum.ofList [.sym ['y'], .sym ['x'], defaultEllipsis]]]]

example : ∃ t, Transform.tryNew (defFuel tailDef1) tailDef1 = .ok t ∧ EllipsisThenTail t = true ∧
    GapFree (ctxOf t) (specRules t) (Datum.ofList [.sym ['m'], n1, n2, n3]) = true ∧
    t.transform 100 (Datum.ofList [.sym ['m'], n1, n2, n3]) = .ok (Datum.ofList [n3, n1, n2]) :=
  exists_ok (by decide +kernel)

/-- `(define-syntax m (syntax-rules () ((_ (a b) ... z) ((b ...) (a z) ...))))` -/
def subDef : Datum :=
  Datum.ofList [.sym ['d'], .sym ['m'], Datum.ofList [srSym, .nil,
    Datum.ofList [Datum.ofList [.sym ['_'], Datum.ofList [.sym ['a'], .sym ['b']], defaultEllipsis, .sym ['z']],
                  Datum.ofList [Datum.ofList [.sym ['b'], defaultEllipsis],
                                Datum.ofList [.sym ['a'], .sym ['z']], defaultEllipsis]]]]

/-- `(m (1 2) (3 4) 5)` expands to `((2 4) (1 5) (3 5))` -/
example : ∃ t, Transform.tryNew (defFuel subDef) subDef = .ok t ∧ SubpatternEllipsis t = true ∧
    GapFree (ctxOf t) (specRules t)
      (Datum.ofList [.sym ['m'], Datum.ofList [n1, n2], Datum.ofList [n3, n4], n5]) = true ∧
    t.transform 100 (Datum.ofList [.sym ['m'], Datum.ofList [n1, n2], Datum.ofList [n3, n4], n5])
      = .ok (Datum.ofList [Datum.ofList [n2, n4], Datum.ofList [n1, n5], Datum.ofList [n3, n5]]) :=
  exists_ok (by decide +kernel)

/-- `(define-syntax m (syntax-rules ::: (else) ((_ _ (k v) ::: else w) ((k :::) w (v :::)))))`:
    a custom ellipsis, a literal and `_` -/
def litDef : Datum :=
  Datum.ofList [.sym ['d'], .sym ['m'], Datum.ofList [srSym, .sym [':',':',':'],
    Datum.ofList [.sym ['e','l','s','e']],
    Datum.ofList [Datum.ofList [.sym ['_'], .sym ['_'], Datum.ofList [.sym ['k'], .sym ['v']], .sym [':',':',':'],
                                .sym ['e','l','s','e'], .sym ['w']],
                  Datum.ofList [Datum.ofList [.sym ['k'], .sym [':',':',':']], .sym ['w'],
                                Datum.ofList [.sym ['v'], .sym [':',':',':']]]]]]

/-- `(m 9 (1 2) (3 4) else 5)` expands to `((1 3) 5 (2 4))`; `...` is an ordinary identifier here -/
example : ∃ t, Transform.tryNew (defFuel litDef) litDef = .ok t ∧ SubpatternEllipsis t = true ∧
    GapFree (ctxOf t) (specRules t)
      (Datum.ofList [.sym ['m'], .num (.fix 9), Datum.ofList [n1, n2], Datum.ofList [n3, n4], .sym ['e','l','s','e'], n5]) = true ∧
    t.transform 100
      (Datum.ofList [.sym ['m'], .num (.fix 9), Datum.ofList [n1, n2], Datum.ofList [n3, n4], .sym ['e','l','s','e'], n5])
      = .ok (Datum.ofList [Datum.ofList [n1, n3], n5, Datum.ofList [n2, n4]]) :=
  exists_ok (by decide +kernel)

/-- `(define-syntax m (syntax-rules () ((_ (a ...) (b ...)) ((a b) ...))))`: ellipses inside nested
    lists — in `DepthOne` but in none of the three list classes -/
def zipDef : Datum :=
  Datum.ofList [.sym ['d'], .sym ['m'], Datum.ofList [srSym, .nil,
    Datum.ofList [Datum.ofList [.sym ['_'], Datum.ofList [.sym ['a'], defaultEllipsis],
                                Datum.ofList [.sym ['b'], defaultEllipsis]],
                  Datum.ofList [Datum.ofList [.sym ['a'], .sym ['b']], defaultEllipsis]]]]

/-- `(m (1 2) (3 4))` expands to `((1 3) (2 4))`; `(m (1 2) (3))` is an excluded use (the spec says
    `mismatch`; the implementation truncates to `((1 3))`) -/
example : ∃ t, Transform.tryNew (defFuel zipDef) zipDef = .ok t ∧ DepthOne t = true ∧
    SubpatternEllipsis t = false ∧
    GapFree (ctxOf t) (specRules t) (Datum.ofList [.sym ['m'], Datum.ofList [n1, n2], Datum.ofList [n3, n4]]) = true ∧
    CountsAgree (ctxOf t) (specRules t) (Datum.ofList [.sym ['m'], Datum.ofList [n1, n2], Datum.ofList [n3, n4]]) = true ∧
    t.transform 100 (Datum.ofList [.sym ['m'], Datum.ofList [n1, n2], Datum.ofList [n3, n4]])
      = .ok (Datum.ofList [Datum.ofList [n1, n3], Datum.ofList [n2, n4]]) ∧
    CountsAgree (ctxOf t) (specRules t) (Datum.ofList [.sym ['m'], Datum.ofList [n1, n2], Datum.ofList [n3]]) = false ∧
    t.transform 100 (Datum.ofList [.sym ['m'], Datum.ofList [n1, n2], Datum.ofList [n3]])
      = .ok (Datum.ofList [Datum.ofList [n1, n3]]) :=
  exists_ok (by decide +kernel)

/-- **`expand` terminates for every transformer accepted by `try_new`**: with `n` bindings, fuel
    `expandFuel T n = 2·(n+1)·|T|` (contrast `expand_diverges_without_definition_check`) -/
theorem expand_terminates (f0 : Nat) (d : Datum) (t : Transform)
    (hdef : Transform.tryNew f0 d = .ok t) (r : Pattern × Datum) (hr : r ∈ t.rules)
    (B : Bindings) (fuel : Nat) (hf : expandFuel r.2 B.length ≤ fuel) :
    expand t.ellipsis r.1 fuel r.2 (PEnv.new r.1 B) ≠ .fuel := by
  obtain ⟨s, _, _, hall⟩ := accepted_build hdef
  obtain ⟨_, _, _, _, _, _, hsub⟩ := hall r hr
  exact expand_terminates_accepted f0 d t hdef r hr hsub B fuel hf

/-- **`transform` terminates for every accepted transformer and every use** with fuel
    `max (3·|u| + 1) (max over the rules of expandFuel template |u|)` -/
theorem transform_terminates (f0 : Nat) (d : Datum) (t : Transform)
    (hdef : Transform.tryNew f0 d = .ok t) (u : Datum) (fuel : Nat)
    (hf1 : 3 * dsize u + 1 ≤ fuel) (hf2 : ∀ r ∈ t.rules, expandFuel r.2 (dsize u) ≤ fuel) :
    t.transform fuel u ≠ .fuel := by
  obtain ⟨s, _, _, hall⟩ := accepted_build hdef
  refine transform_terminates_accepted f0 d t hdef (fun r hr => ?_) u fuel hf1 hf2
  obtain ⟨_, _, _, _, _, _, hsub⟩ := hall r hr
  exact hsub

/-- `useFuel d u`, the fuel the test driver (`Driver/Transform.lean`) runs a use with, is enough -/
theorem transform_terminates_driver_fuel (f0 : Nat) (d : Datum) (t : Transform)
    (hdef : Transform.tryNew f0 d = .ok t) (u : Datum) : t.transform (useFuel d u) u ≠ .fuel := by
  obtain ⟨s, _, _, hall⟩ := accepted_build hdef
  refine transform_useFuel_terminates f0 d t hdef (fun r hr => ?_) u
  obtain ⟨_, _, _, _, _, _, hsub⟩ := hall r hr
  exact hsub

example : ∃ t, Transform.tryNew (defFuel subDef) subDef = .ok t ∧
    ∀ u, t.transform (useFuel subDef u) u ≠ .fuel :=
  ⟨_, rfl, fun u => transform_terminates_driver_fuel (defFuel subDef) subDef _ rfl u⟩

/-- the excluded uses as an explicit hypothesis: the implementation's expansion is the specification's -/
theorem soundness_gapfree_exact_partial (f0 : Nat) (d : Datum) (t : Transform) (fuel : Nat) (u e : Datum)
    (hdef : Transform.tryNew f0 d = .ok t)
    (hgap : GapFree (ctxOf t) (specRules t) u = true)
    (hcounts : CountsAgree (ctxOf t) (specRules t) u = true)
    (huse : t.transform fuel u = .ok e) :
    specExpand (ctxOf t) (specRules t) u = .ok e :=
  soundness_depthOne_exact_partial f0 d t fuel u e hdef (accepted_depthOne f0 d t hdef) hgap hcounts huse

/-- `(define-syntax m (syntax-rules () ((_ (a b ...) ...) ((a b ...) ...))))`: ellipsis depth 2 -/
def nestedDef : Datum :=
  Datum.ofList [.sym ['d'], .sym ['m'], Datum.ofList [srSym, .nil,
    Datum.ofList [Datum.ofList [.sym ['_'], Datum.ofList [.sym ['a'], .sym ['b'], defaultEllipsis], defaultEllipsis],
                  Datum.ofList [Datum.ofList [.sym ['a'], .sym ['b'], defaultEllipsis], defaultEllipsis]]]]

/-- `(define-syntax m (syntax-rules () ((_ (a ...) ...) (a ... ...))))` -/
def nestedDef2 : Datum :=
  Datum.ofList [.sym ['d'], .sym ['m'], Datum.ofList [srSym, .nil,
    Datum.ofList [Datum.ofList [.sym ['_'], Datum.ofList [.sym ['a'], defaultEllipsis], defaultEllipsis],
                  Datum.ofList [.sym ['a'], defaultEllipsis, defaultEllipsis]]]]

/-- class 6 of T17.1 (nested ellipsis, depth 2) at two concrete definitions: rejected -/
theorem definition_check_rejects_nested_ellipsis :
    Transform.tryNew (defFuel nestedDef) nestedDef = .err .syntax ∧
    Transform.tryNew (defFuel nestedDef2) nestedDef2 = .err .syntax := by
  constructor <;> decide +kernel

/-- the hypotheses of `soundness_gapfree_partial` hold for the two-rule transformer of the known
    finding on `(m 1 2 3)`, a use outside the gap; on `(m 1)` the guard is false -/
example : ∃ t, Transform.tryNew (defFuel gapDef) gapDef = .ok t ∧
    GapFree (ctxOf t) (specRules t) (Datum.ofList [.sym ['m'], n1, n2, n3]) = true ∧
    CountsAgree (ctxOf t) (specRules t) (Datum.ofList [.sym ['m'], n1, n2, n3]) = true ∧
    t.transform 100 (Datum.ofList [.sym ['m'], n1, n2, n3]) = .ok (Datum.ofList [n1, n2, n3]) ∧
    GapFree (ctxOf t) (specRules t) gapUse = false :=
  exists_ok (by decide +kernel)

/-! ## T17.3 — the expansion driver (`Vm::transform`, compile.rs:78–165)

Model: `Marwood.Transform.Driver` (`expandForm M fuel d`; the macro table `M` stands for the global
slots holding a macro; fuel = nested expansions still allowed). Specification: `Spec.ExpandAll`
(`specExpandAll`: outermost first, operands as written, left to right, quoted data and binding
positions untouched, local bindings shadow keywords).

* T17.3a soundness on every form that passes the decidable guard `Spec.ExpandAll.expandGuard` (every use
  visited is outside the known gap and the excluded uses, no macro keyword in a binding position, no
  `unquote`/`quasiquote` in the cdr chain of a template pair); the full statement `T17_3a` is false
  (finding `C17-driver-keyword-in-binding-position`).
* T17.3b the transformer sees the use as written, then the expansion is transformed.
* T17.3c fuel runs out only along `f + 1` nested expansions; fuel monotonicity.
* T17.3d quoted data and quasiquote templates are untouched but for depth-0 `unquote`.
-/

open Marwood.Spec.ExpandAll

def AcceptedTable (M : MacroTable) : Prop := ∀ p ∈ M, ∃ f0 d, Transform.tryNew f0 d = .ok p.2

theorem mem_of_lookup {M : MacroTable} {s : Text} {t : Transform} (h : M.lookup s = some t) :
    ∃ p ∈ M, p.2 = t := by
  induction M with
  | nil => cases h
  | cons q M ih =>
    rw [List.lookup_cons] at h
    cases hq : s == q.1 with
    | true => rw [hq] at h; cases h; exact ⟨q, List.mem_cons_self, rfl⟩
    | false =>
      rw [hq] at h
      obtain ⟨p, hp, rfl⟩ := ih h
      exact ⟨p, List.mem_cons_of_mem _ hp, rfl⟩

theorem installMacro_accepted {M : MacroTable} (h : AcceptedTable M) (form : Datum) :
    AcceptedTable (installMacro M form) := by
  unfold installMacro
  split
  · split
    · split
      · rename_i t heq
        split
        · intro p hp
          rcases List.mem_cons.mp hp with rfl | hp
          · exact ⟨_, _, heq⟩
          · exact h p hp
        · exact h
      · exact h
    · exact h
  · exact h

/-- **a table built by `define-syntax` forms holds accepted transformers only** -/
theorem tableOf_accepted (defs : List Datum) : AcceptedTable (tableOf defs) := by
  unfold tableOf
  suffices ∀ M, AcceptedTable M → AcceptedTable (defs.foldl installMacro M) from
    this [] (fun p hp => by cases hp)
  induction defs with
  | nil => intro M h; exact h
  | cons d ds ih => intro M h; exact ih _ (installMacro_accepted h d)

theorem le_sum_map_of_mem {α} (f : α → Nat) {l : List α} {a : α} (h : a ∈ l) : f a ≤ (l.map f).sum := by
  induction l with
  | nil => cases h
  | cons b l ih =>
    rw [List.map_cons, List.sum_cons]
    rcases List.mem_cons.mp h with rfl | h
    · omega
    · have := ih h; omega

/-- `useFuelT t u`, the fuel the model of `Vm::transform` runs the transformer with, is enough -/
theorem useFuelT_sufficient (f0 : Nat) (d : Datum) (t : Transform)
    (hdef : Transform.tryNew f0 d = .ok t) (u : Datum) : t.transform (useFuelT t u) u ≠ .fuel := by
  refine transform_terminates f0 d t hdef u _ (by unfold useFuelT; omega) ?_
  intro r hr
  have := le_sum_map_of_mem (fun r : Pattern × Datum => 2 * (dsize u + 1) * dsize r.2) hr
  unfold useFuelT expandFuel
  omega

theorem accepted_terminate {M : MacroTable} (h : AcceptedTable M) : TransformersTerminate M := by
  intro s t hl u
  obtain ⟨p, hp, rfl⟩ := mem_of_lookup hl
  obtain ⟨f0, d, hd⟩ := h p hp
  exact useFuelT_sufficient f0 d _ hd u

/-- one step of the driver on a guarded use is R7RS's (T17.1: `soundness_gapfree_exact_partial`) -/
theorem accepted_stepSound {M : MacroTable} (h : AcceptedTable M) : StepSound M := by
  intro s t u e hl hok ht
  obtain ⟨p, hp, rfl⟩ := mem_of_lookup hl
  obtain ⟨f0, d, hd⟩ := h p hp
  simp only [useOK, Bool.and_eq_true] at hok
  refine soundness_gapfree_exact_partial f0 d _ _ u e hd hok.1 ?_ ht
  unfold CountsAgree
  exact hok.2

/-! ### T17.3a -/

/-- T17.3a at full strength: for every table of accepted transformers, an expansion the driver
    produces is the one R7RS prescribes (errors always allowed; `mismatch` = the excluded uses) -/
def T17_3a : Prop :=
  ∀ (M : MacroTable) (f : Nat) (d e : Datum), AcceptedTable M → expandForm M f d = .ok e →
    specExpandAll f (specTable M) d = .ok e ∨ specExpandAll f (specTable M) d = .mismatch

/-- **T17.3a for every guarded form**: the transformers were accepted by `try_new`; the guard excludes
    known findings `C17-empty-ellipsis-before-tail`, `C17-driver-keyword-in-binding-position`,
    `C01-dotted-unquote` and the uses the property excludes. -/
theorem driver_sound_partial (M : MacroTable) (hacc : AcceptedTable M) (f : Nat) (d e : Datum)
    (hguard : expandGuard f (specTable M) d = true) (h : expandForm M f d = .ok e) :
    specExpandAll f (specTable M) d = .ok e :=
  expandForm_sound M (accepted_stepSound hacc) f d e hguard h

def lambdaS : Datum := .sym ['l','a','m','b','d','a']
def andS : Datum := .sym ['a','n','d']
def xS : Datum := .sym ['x']
def q1S : Datum := .sym ['q','1']
def lpS : Datum := .sym ['l','p']
def quoteS : Datum := .sym ['q','u','o','t','e']
def ifS : Datum := .sym ['i','f']
def dsS : Datum := .sym ['d','e','f','i','n','e','-','s','y','n','t','a','x']

/-- the table after the prelude's `(define-syntax and …)` -/
def andTable : MacroTable := tableOf [Gen.Prelude.macro5]

/-- `(lambda (and x) x)` -/
def kwFormalsForm : Datum := Datum.ofList [lambdaS, Datum.ofList [andS, xS], xS]

/-- the driver treats the formals `(and x)` as a use of `and`: `(lambda x x)` -/
theorem kwFormals_model :
    expandForm andTable 1 kwFormalsForm = .ok (Datum.ofList [lambdaS, xS, xS]) := by decide +kernel

/-- R7RS: formals are not expressions; the form is its own expansion -/
theorem kwFormals_spec :
    specExpandAll 1 (specTable andTable) kwFormalsForm = .ok kwFormalsForm := by decide +kernel

/-- the guard excludes the form -/
theorem kwFormals_guard : expandGuard 1 (specTable andTable) kwFormalsForm = false := by decide +kernel

/-- **The full statement T17.3a is false** (`Vm::transform`, compile.rs; finding
    `C17-driver-keyword-in-binding-position`): with the prelude's `and`, `(lambda (and x) x)` is
    silently turned into the variadic `(lambda x x)`. -/
theorem driver_sound_fails_at_witness : ¬ T17_3a := by
  intro H
  have h := H andTable 1 kwFormalsForm _ (tableOf_accepted _) kwFormals_model
  rw [kwFormals_spec] at h
  rcases h with h | h
  · exact absurd (XRes.ok.inj h) (by decide)
  · cases h

/-- the hypotheses of `driver_sound_partial` hold at `(f (and 1 2) (quote (and)) (lambda (x) (and x)))`
    which is expanded to `(f (if 1 2 #f) (quote (and)) (lambda (x) x))` -/
example : AcceptedTable andTable ∧
    expandGuard 2 (specTable andTable)
      (Datum.ofList [.sym ['f'], Datum.ofList [andS, n1, n2], Datum.ofList [quoteS, Datum.ofList [andS]],
        Datum.ofList [lambdaS, Datum.ofList [xS], Datum.ofList [andS, xS]]]) = true ∧
    expandForm andTable 2
      (Datum.ofList [.sym ['f'], Datum.ofList [andS, n1, n2], Datum.ofList [quoteS, Datum.ofList [andS]],
        Datum.ofList [lambdaS, Datum.ofList [xS], Datum.ofList [andS, xS]]])
      = .ok (Datum.ofList [.sym ['f'], Datum.ofList [ifS, n1, n2, .bool false],
          Datum.ofList [quoteS, Datum.ofList [andS]], Datum.ofList [lambdaS, Datum.ofList [xS], xS]]) :=
  ⟨tableOf_accepted _, by decide +kernel⟩

/-! ### T17.3b -/

/-- **the transformer sees the use as written**: the driver's answer on `(s . args)`, `s` bound to a
    macro, is the transformer's answer on the UNEXPANDED form, handed to the driver again with one unit
    of fuel less — whatever `args` are, macro uses included. -/
theorem driver_outermost_first (M : MacroTable) (f : Nat) (s : Text) (args : Datum) (t : Transform)
    (hk : headKind (.sym s) = .other) (hl : M.lookup s = some t) :
    expandForm M (f + 1) (.pair (.sym s) args) =
      (t.transform (useFuelT t (.pair (.sym s) args)) (.pair (.sym s) args)).bind (expandForm M f) := by
  simp only [expandForm, walk, walkPair, hk, macroOf, hl, expandUse]

/-- T17.3b as the property words it: the expansion of the use is the expansion of what `transform`
    makes of the unexpanded use -/
theorem driver_expansion_of_use (M : MacroTable) (f : Nat) (s : Text) (args e : Datum) (t : Transform)
    (hk : headKind (.sym s) = .other) (hl : M.lookup s = some t)
    (ht : t.transform (useFuelT t (.pair (.sym s) args)) (.pair (.sym s) args) = .ok e) :
    expandForm M (f + 1) (.pair (.sym s) args) = expandForm M f e := by
  rw [driver_outermost_first M f s args t hk hl, ht]; rfl

/-- an error of the transformer is the driver's answer (`?`) -/
theorem driver_error_propagates (M : MacroTable) (f : Nat) (s : Text) (args : Datum) (t : Transform) (x : TErr)
    (hk : headKind (.sym s) = .other) (hl : M.lookup s = some t)
    (ht : t.transform (useFuelT t (.pair (.sym s) args)) (.pair (.sym s) args) = .err x) :
    expandForm M (f + 1) (.pair (.sym s) args) = .err x := by
  rw [driver_outermost_first M f s args t hk hl, ht]; rfl

/-- `(define-syntax q1 (syntax-rules () ((_ a) (quote a))))` -/
def q1Def : Datum :=
  Datum.ofList [dsS, q1S, Datum.ofList [srSym, .nil,
    Datum.ofList [Datum.ofList [.sym ['_'], .sym ['a']], Datum.ofList [quoteS, .sym ['a']]]]]

def q1Table : MacroTable := tableOf [Gen.Prelude.macro5, q1Def]

/-- **operands that are macro uses are data to the outer transformer**: `(q1 (and 1 2))` expands to
    `(quote (and 1 2))` although `(and 1 2)` alone expands to `(if 1 2 #f)` — a driver that expands
    operands first would answer `(quote (if 1 2 #f))` -/
theorem driver_operands_as_written :
    expandForm q1Table 2 (Datum.ofList [q1S, Datum.ofList [andS, n1, n2]])
      = .ok (Datum.ofList [quoteS, Datum.ofList [andS, n1, n2]]) ∧
    expandForm q1Table 2 (Datum.ofList [andS, n1, n2])
      = .ok (Datum.ofList [ifS, n1, n2, .bool false]) ∧
    specExpandAll 2 (specTable q1Table) (Datum.ofList [q1S, Datum.ofList [andS, n1, n2]])
      = .ok (Datum.ofList [quoteS, Datum.ofList [andS, n1, n2]]) := by
  decide +kernel

/-! ### T17.3c -/

/-- **the driver runs out of fuel only along a chain of expansions** (`ExpChain`: a use occurring in `d`
    whose expansion contains a use whose expansion …); the walk between two expansions is structural
    recursion on the form and needs no fuel. -/
theorem driver_exhaustion_has_chain (M : MacroTable) (hacc : AcceptedTable M) (f : Nat) (d : Datum)
    (h : expandForm M f d = .fuel) : ExpChain M (f + 1) d :=
  expandForm_fuel_chain M (accepted_terminate hacc) f d h

/-- an answer other than "out of fuel" is the answer for every larger fuel -/
theorem driver_fuel_mono (M : MacroTable) (f : Nat) (d : Datum) (h : expandForm M f d ≠ .fuel) :
    ∀ k, expandForm M (f + k) d = expandForm M f d := by
  intro k
  induction k with
  | zero => rfl
  | succ k ih =>
    rw [← Nat.add_assoc, expandForm_mono M (f + k) d (by rw [ih]; exact h), ih]

/-- **on a macro use the driver terminates iff it terminates on the expansion** (one unit of fuel per
    expansion, nothing else) -/
theorem driver_terminates_iff (M : MacroTable) (hacc : AcceptedTable M) (f : Nat) (s : Text) (args : Datum)
    (t : Transform) (hk : headKind (.sym s) = .other) (hl : M.lookup s = some t) :
    expandForm M (f + 1) (.pair (.sym s) args) = .fuel ↔
      ∃ e, t.transform (useFuelT t (.pair (.sym s) args)) (.pair (.sym s) args) = .ok e ∧
        expandForm M f e = .fuel := by
  rw [driver_outermost_first M f s args t hk hl, Res.bind_eq_fuel]
  constructor
  · rintro (h | h)
    · exact absurd h (accepted_terminate hacc s t hl _)
    · exact h
  · exact fun h => .inr h

/-- with no fuel at all -/
theorem driver_macro_free_terminates (M : MacroTable) (f : Nat) (d : Datum)
    (h : mentions (specTable M) d = false) : expandForm M f d = .ok d := by
  cases f <;> exact walk_noMention M _ d h

/-- `(define-syntax lp (syntax-rules () ((_) (lp))))` -/
def lpDef : Datum :=
  Datum.ofList [dsS, lpS, Datum.ofList [srSym, .nil,
    Datum.ofList [Datum.ofList [.sym ['_']], Datum.ofList [lpS]]]]

def lpTable : MacroTable := tableOf [lpDef]

def lpT : Transform :=
  match lpTable with
  | (_, t) :: _ => t
  | [] => default

theorem lp_facts : ∃ t, lpTable.lookup ['l','p'] = some t ∧
    t.transform (useFuelT t (Datum.ofList [lpS])) (Datum.ofList [lpS]) = .ok (Datum.ofList [lpS]) :=
  ⟨lpT, by decide +kernel⟩

/-- a macro that expands to itself exhausts every fuel (the driver loops exactly when the chain of
    expansions does) -/
theorem driver_loops_on_self_expanding_macro : ∀ f, expandForm lpTable f (Datum.ofList [lpS]) = .fuel := by
  obtain ⟨t, hl, ht⟩ := lp_facts
  intro f
  induction f with
  | zero =>
    show walk lpTable (fun _ => .fuel) (Datum.pair lpS .nil) = .fuel
    simp only [lpS, walk, walkPair, macroOf, hl, expandUse]
    have hk : headKind (Datum.sym ['l','p']) = .other := by decide
    simp only [hk]
    rw [show (Datum.sym ['l','p']).pair .nil = Datum.ofList [lpS] from rfl, ht]
    rfl
  | succ f ih =>
    have := driver_expansion_of_use lpTable f ['l','p'] .nil _ t (by decide) hl ht
    exact this.trans ih

example : ExpChain lpTable 3 (Datum.ofList [lpS]) :=
  driver_exhaustion_has_chain lpTable (tableOf_accepted _) 2 _ (driver_loops_on_self_expanding_macro 2)

/-! ### T17.3d -/

/-- quoted data and `define-syntax` forms are returned as they are, whatever they contain -/
theorem driver_quote_unchanged (M : MacroTable) (f : Nat) (x : Datum) :
    expandForm M f (.pair quoteS x) = .ok (.pair quoteS x) ∧
    expandForm M f (.pair dsS x) = .ok (.pair dsS x) := by
  cases f <;> exact ⟨rfl, rfl⟩

/-- **a quasiquote template keeps everything but the expressions under a depth-0 `unquote`**: the
    result is `(quasiquote tpl' . r)` and `tpl'`, with those expressions masked, is `tpl` masked -/
theorem driver_quasiquote_mask (M : MacroTable) (f : Nat) (tpl r e : Datum)
    (h : expandForm M f (.pair (.sym Transform.quasiquoteN) (.pair tpl r)) = .ok e) :
    ∃ tpl', e = .pair (.sym Transform.quasiquoteN) (.pair tpl' r) ∧ maskQQ 0 tpl' = maskQQ 0 tpl := by
  have key : ∀ re, walk M re (.pair (.sym Transform.quasiquoteN) (.pair tpl r)) = .ok e →
      ∃ tpl', e = .pair (.sym Transform.quasiquoteN) (.pair tpl' r) ∧ maskQQ 0 tpl' = maskQQ 0 tpl := by
    intro re h
    have hk : pairKind M (.sym Transform.quasiquoteN) (.pair tpl r) = .quasi tpl r := by
      unfold pairKind
      rw [show headKind (.sym Transform.quasiquoteN) = .quasi from by decide]
    rw [walk_pair, hk] at h
    obtain ⟨t', ht, h⟩ := Res.bind_eq_ok.mp h
    cases h
    exact ⟨t', rfl, (walkQQ_mask M re tpl).1 0 t' ht⟩
  cases f <;> exact key _ h

/-- `(quasiquote (1 (unquote (and 1 2)) (and 3 4) (quasiquote (unquote (and)))))`: only the level-0
    unquote is expanded -/
example :
    expandForm andTable 2 (Datum.ofList [.sym Transform.quasiquoteN, Datum.ofList [n1,
        Datum.ofList [.sym Transform.unquoteN, Datum.ofList [andS, n1, n2]], Datum.ofList [andS, n3, n4],
        Datum.ofList [.sym Transform.quasiquoteN, Datum.ofList [.sym Transform.unquoteN, Datum.ofList [andS]]]]])
      = .ok (Datum.ofList [.sym Transform.quasiquoteN, Datum.ofList [n1,
        Datum.ofList [.sym Transform.unquoteN, Datum.ofList [ifS, n1, n2, .bool false]], Datum.ofList [andS, n3, n4],
        Datum.ofList [.sym Transform.quasiquoteN, Datum.ofList [.sym Transform.unquoteN, Datum.ofList [andS]]]]]) := by
  decide +kernel

/-- a top-level `define-syntax` adds its macro for the LATER forms: `(q1 (and))` before the definition
    is a combination (its operand is expanded), after it a macro use (its operand is data) -/
example :
    expandSession andTable 2 [Datum.ofList [q1S, Datum.ofList [andS]], q1Def, Datum.ofList [q1S, Datum.ofList [andS]]]
      = [.ok (Datum.ofList [q1S, .bool true]), .ok q1Def, .ok (Datum.ofList [quoteS, Datum.ofList [andS]])] := by
  decide +kernel

/-- the table a fresh `Vm` starts with: every `define-syntax` of `prelude.scm`, in file order -/
def preludeTable : MacroTable := tableOf (Gen.Prelude.macros.map (·.2))

def condS : Datum := .sym ['c','o','n','d']
def elseS : Datum := .sym ['e','l','s','e']

/-- `(cond ((and 1 2) 3) (else 4))` → `(if (if 1 2 #f) ((lambda () 3)) ((lambda () 4)))`: macros
    expanding to other macros, nested uses as operands — all hypotheses of `driver_sound_partial` hold -/
example : AcceptedTable preludeTable ∧
    expandGuard 6 (specTable preludeTable)
      (Datum.ofList [condS, Datum.ofList [Datum.ofList [andS, n1, n2], n3], Datum.ofList [elseS, n4]]) = true ∧
    expandForm preludeTable 6
      (Datum.ofList [condS, Datum.ofList [Datum.ofList [andS, n1, n2], n3], Datum.ofList [elseS, n4]])
      = .ok (Datum.ofList [ifS, Datum.ofList [ifS, n1, n2, .bool false],
          Datum.ofList [Datum.ofList [lambdaS, .nil, n3]], Datum.ofList [Datum.ofList [lambdaS, .nil, n4]]]) :=
  ⟨tableOf_accepted _, by decide +kernel⟩

end Marwood.Proofs.C17
