import Marwood.Lemmas.PolicyAfter
import Marwood.Proofs.C07
import Marwood.Proofs.C03
import Marwood.Lemmas.PrepareSession
/-!
# C12 — memory is bounded by live data: garbage of every kind is reclaimed

Models: `Marwood.Heap` (collector, `Heap.alloc`, `Heap.runGc`; shared with C03), `Marwood.Vm.Eval` (the
epilogues of an evaluation; shared with C07), the concrete machine `machine ext force` (Vm/ConcreteHeap.lean).
Specifications: `Marwood.Spec.Reach` (reachability through semantic references), `Marwood.Spec.HeapPolicy` (the
growth policy on counters), `Marwood.Spec.Plain` (the kind discipline).

T12.1 (after `run_gc`, allocated = reachable; a counter-witness for the unrepaired marker), T12.2 (a wiped stack
hands the marker no root) and T12.3 (capacity ≤ `HeapPolicy.bound`; `Heap.alloc` / `Heap.runGc` refine the policy)
on the heap model and the counters. Then for the concrete machine: T12.1 in every reachable state, T12.3's
parameter `A` (a block of at most 8192 instructions allocates at most `8192·3 + E` cells), and C12's first sentence
for sessions and histories — capacity ≤ `max(initial, 6·(L + 8192·3 + E) + chunk)` — first with the per-job
invariant `JobsOk` assumed, then with `prepare_eval` as a step of the history (`HistInstalls`). Finding (about the
root set, not the collector): `undefined_global_binding_retains_symbol`.
-/
namespace Marwood.Proofs.C12
open Marwood Marwood.Heap Marwood.Spec
open Marwood.Lemmas.GcSafety Marwood.Lemmas.HeapOps Marwood.Lemmas.PolicyGc Marwood.Lemmas.PolicyPlain
open Marwood.Lemmas.PolicyRefine Marwood.Lemmas.PolicyBound Marwood.Lemmas.PolicyAfter Marwood.Lemmas.PolicyWF
open Marwood.Lemmas.HeapWF Marwood.Lemmas.PolicyCount Marwood.Lemmas.PolicyRun

/-! ## T12.1 — no floating garbage -/

/-- T12.1 (any marker): after `run_gc` — forced or not, growing or not — a cell is allocated iff it is reachable
in the graph the marker follows, and no mark is left. `⊇` alone is C03's safety (`runGc_preserves_reachable`). -/
theorem allocated_after_gc_iff_reachable (fixed force : Bool) (h : Heap) (r : Roots) (h' : Heap)
    (hsz : h.gc.size = h.cells.size) (hnu : ∀ i : Nat, h.gc[i]? ≠ some GcState.used) (hs : Shape h)
    (hrun : Heap.runGc fixed force h r = .ok (.collected h')) (x : Nat) :
    (h'.NonFree x ↔ Reachable fixed h (r.refs fixed) x) ∧ h'.gc[x]? ≠ some GcState.used := by
  have gs := runGc_spec fixed force h r h' hsz hnu hs hrun
  exact ⟨gcSpec_nonFree_iff fixed h _ h' gs x, (gcSpec_state fixed h _ h' gs x).2⟩

/-- out of a cell obeying the kind discipline the repaired marker follows exactly the semantic references -/
theorem marker_follows_semantic_references (c : VCell) (hp : plainC c = true) :
    crefs true c = srefs c := crefs_eq c hp

/-- what each kind of object refers to (`srefs`): a number, string or symbol to nothing; an environment also to
its captured variables (`LexicalEnvPtr`); a continuation also to its return addresses; code to the operands of its
instructions except jump offsets -/
theorem semantic_references_by_kind (a d l e p s o n : Nat) (name : Text) (es stk : List VCell) :
    srefs (.pair a d) = [a, d] ∧
    srefs (.vector (.ptr a :: es)) = a :: srefsList es ∧
    srefs (.atom .string) = [] ∧ srefs (.atom .number) = [] ∧ srefs (.symbol name) = [] ∧
    srefs (.closure l e) = [l, e] ∧
    srefs (.lexEnv [.ptr a, .lexEnvPtr p s, .atom .number]) = [a, p] ∧
    srefs (.cont (.ip l o :: .envPtr e :: stk) l e) = l :: e :: (srefsList stk ++ [l, e]) ∧
    srefs (.lambda [.opcode .jnt, .ptr n, .opcode .movImmediate, .ptr a, .atom .acc, .opcode .ret] [] []) = [a] := by
  simp [srefs, srefsList, bcSem, Op.arity, Op.isJump]

/-- T12.1: for the repaired marker, on a heap and roots obeying the kind discipline (`plainHeap`, `plainRoots`:
checked on every real snapshot of the stream `gc-snapshots-no-floating-garbage`, driver command `policy-collect`),
after `run_gc` the allocated set equals `Spec.Live`: the cells reachable from the running code, the stack, `acc`, the
current environment and the global bindings through semantic references -/
theorem allocated_after_gc_iff_live (force : Bool) (h : Heap) (r : Roots) (h' : Heap)
    (hsz : h.gc.size = h.cells.size) (hnu : ∀ i : Nat, h.gc[i]? ≠ some GcState.used) (hs : Shape h)
    (hph : plainHeap h = true) (hpr : plainRoots r = true)
    (hrun : Heap.runGc true force h r = .ok (.collected h')) (x : Nat) :
    h'.NonFree x ↔ Live h r x := by
  rw [(allocated_after_gc_iff_reachable true force h r h' hsz hnu hs hrun x).1]
  exact reachable_iff_live h r hsz hph hpr x

/-- the property's second sentence: after a collection no object unreachable from the roots remains allocated -/
theorem no_floating_garbage (force : Bool) (h : Heap) (r : Roots) (h' : Heap)
    (hsz : h.gc.size = h.cells.size) (hnu : ∀ i : Nat, h.gc[i]? ≠ some GcState.used) (hs : Shape h)
    (hph : plainHeap h = true) (hpr : plainRoots r = true)
    (hrun : Heap.runGc true force h r = .ok (.collected h')) :
    ∀ x, ¬ Live h r x → ¬ h'.NonFree x :=
  fun x hn ha => hn ((allocated_after_gc_iff_live force h r h' hsz hnu hs hph hpr hrun x).mp ha)

/-! ### non-vacuity: C03's demo heap (built through the API, one garbage string) satisfies every hypothesis, and
the collection frees the string -/

example : plainHeap C03.demoHeap = true ∧ plainRoots C03.demoRoots = true := by decide +kernel

example : ∃ h', Heap.runGc true true C03.demoHeap C03.demoRoots = .ok (.collected h') ∧
    h'.NonFree 5 ∧ ¬ h'.NonFree 6 := by
  refine ⟨_, rfl, Or.inl (by decide), ?_⟩
  rintro (h | h) <;> revert h <;> decide

/-! ### the unrepaired marker (`fixed = false`): negation of T12.1 at a witness -/

/-- code whose only instruction is `JMP 1`, and one number at address 1 that nothing refers to -/
def retainWitness : Heap :=
  { chunk := 4
    cells := #[.lambda [.opcode .jmp, .ptr 1] [] [], .atom .number, .atom .undefined, .atom .undefined]
    gc := #[.allocated, .allocated, .free, .free]
    free := [2, 3]
    symtab := [] }

def retainRoots : Roots :=
  { globalSyms := [], globalSlots := [], stack := [.atom .undefined], acc := .atom .undefined, ipLam := 0,
    ep := 2 ^ 64 - 1 }

theorem retainWitness_dead : ¬ Live retainWitness retainRoots 1 := by
  have key : ∀ x, Live retainWitness retainRoots x → x = 0 := by
    intro x hx
    induction hx with
    | root hm hlt =>
      have : retainWitness.cells.size = 4 := rfl
      simp [sroots, retainRoots, srefsList, srefs] at hm
      omega
    | step _ hy _ ih =>
      subst ih
      simp [schildren, retainWitness, srefs, bcSem, srefsList, Op.arity, Op.isJump] at hy
  intro h
  have := key 1 h
  omega

/-- negation of T12.1 for the unrepaired marker: the jump offset `1` is marked as heap address 1, so the dead
number survives; the repaired marker frees it -/
theorem unfixed_marker_retains_garbage :
    (C03.collected (Heap.runGc false true retainWitness retainRoots)).NonFree 1 ∧
    ¬ Live retainWitness retainRoots 1 ∧
    ¬ (C03.collected (Heap.runGc true true retainWitness retainRoots)).NonFree 1 := by
  refine ⟨Or.inl (by decide), retainWitness_dead, ?_⟩
  rintro (h | h) <;> revert h <;> decide

/-! ## T12.2 — the stack is not a leak -/

/-- whatever prefix `stack[0..=sp]` is enumerated -/
theorem wiped_stack_no_roots (fixed : Bool) (n k : Nat) :
    vrefsList fixed ((List.replicate n VCell.undefined).take k) = [] := by
  rw [List.take_replicate]
  generalize min k n = m
  induction m with
  | zero => simp [vrefsList]
  | succ m ih => simp [List.replicate_succ, vrefsList, vrefs, ih]

/-- T12.2 (success): in the state `run_gc` sees at the end of a successful evaluation (`onDone`, after
`stack.clear()`) the stack contributes no root. `ρ`: any rendering of machine cells as collector cells that renders
`Undefined` as itself -/
theorem success_epilogue_stack_no_roots {H : Type} (fixed : Bool) (ρ : Vm.VCell → VCell)
    (hρ : ρ .undefined = VCell.undefined) (s : Vm.St H) (k : Nat) :
    vrefsList fixed (((Vm.onDone s).stack.cells.map ρ).take k) = [] := by
  have : (Vm.onDone s).stack.cells.map ρ = List.replicate s.stack.cells.length VCell.undefined := by
    simp [Vm.onDone, Vm.Stack.clear, hρ]
  rw [this]; exact wiped_stack_no_roots fixed _ k

/-- T12.2 (failure): the same after the error epilogue; `acc` and `ep` hold nothing either -/
theorem error_epilogue_stack_no_roots {H : Type} (fixed : Bool) (ρ : Vm.VCell → VCell)
    (hρ : ρ .undefined = VCell.undefined) (s : Vm.St H) (k : Nat) :
    vrefsList fixed (((Vm.onError s).stack.cells.map ρ).take k) = [] ∧
    vrefs fixed (ρ (Vm.onError s).acc) = [] ∧ (Vm.onError s).ep = Vm.usizeMax := by
  have : (Vm.onError s).stack.cells.map ρ = List.replicate s.stack.cells.length VCell.undefined := by
    simp [Vm.onError, hρ]
  rw [this]
  refine ⟨wiped_stack_no_roots fixed _ k, ?_, rfl⟩
  simp [Vm.onError, hρ, vrefs]

/-- T12.2 for every program: the state a failed `run_count` returns (C07's `failed_eval_resets`) -/
theorem failed_eval_stack_no_roots {H : Type} (fixed : Bool) (ρ : Vm.VCell → VCell)
    (hρ : ρ .undefined = VCell.undefined) (ops : Vm.HeapOps H) (gc : Vm.St H → Vm.St H)
    (count : Option Nat) (fuel : Nat) (s : Vm.St H) (f : Vm.Fault) (s' : Vm.St H)
    (hf : Vm.runEval ops gc count fuel s = .failed f s') (hg : Vm.GcRegs gc) (k : Nat) :
    vrefsList fixed ((s'.stack.cells.map ρ).take k) = [] := by
  have hq := (C07.failed_eval_resets ops gc count fuel s f s' hf hg).1
  have hall : ∀ c ∈ s'.stack.cells, c = Vm.VCell.undefined := hq.2.2.2.2
  have : s'.stack.cells.map ρ = List.replicate s'.stack.cells.length VCell.undefined := by
    apply List.ext_getElem
    · simp
    · intro i h1 h2
      simp only [List.getElem_map, List.getElem_replicate]
      rw [hall _ (List.getElem_mem _), hρ]
  rw [this]; exact wiped_stack_no_roots fixed _ k

/-- T12.2 for every program, success: the final collection leaves stack and registers alone (`GcRegs`) -/
theorem successful_eval_stack_no_roots {H : Type} (fixed : Bool) (ρ : Vm.VCell → VCell)
    (hρ : ρ .undefined = VCell.undefined) (ops : Vm.HeapOps H) (gc : Vm.St H → Vm.St H)
    (count : Option Nat) (fuel : Nat) (s s' : Vm.St H)
    (hv : Vm.runEval ops gc count fuel s = .value s') (hg : Vm.GcRegs gc) (k : Nat) :
    vrefsList fixed ((s'.stack.cells.map ρ).take k) = [] := by
  obtain ⟨sd, _, rfl⟩ := Vm.runEval_value.mp hv
  rw [(hg _).1]
  exact success_epilogue_stack_no_roots fixed ρ hρ sd k

/-- `GcRegs` is satisfiable (C07's toy collector); C07's toy failure instantiates `failed_eval_stack_no_roots` -/
example : Vm.GcRegs (id : Vm.St Unit → Vm.St Unit) := fun _ => ⟨rfl, rfl, rfl, rfl, rfl, rfl⟩

example : ∃ f s', Vm.runEval C07.toyOps id none 10 C07.toyState = .failed f s' ∧
    vrefsList true ((s'.stack.cells.map fun c => if c = .undefined then VCell.undefined else VCell.ptr 3).take 3) = [] := by
  refine ⟨_, _, rfl, ?_⟩
  exact failed_eval_stack_no_roots true _ (by simp) C07.toyOps id none 10 C07.toyState _ _ rfl
    (fun _ => ⟨rfl, rfl, rfl, rfl, rfl, rfl⟩) 3

/-- live frames on the stack; after the success epilogue nothing is left -/
example : vrefsList true ((C07.toyState.stack.cells.map fun _ => VCell.ptr 3).take 2) ≠ [] ∧
    vrefsList true (((Vm.onDone C07.toyState).stack.cells.map
      fun c => if c = .undefined then VCell.undefined else VCell.ptr 3).take 2) = [] := by
  constructor
  · decide
  · exact success_epilogue_stack_no_roots true _ (by simp) _ _

/-! ## T12.3 — the growth policy -/

open Marwood.Spec.HeapPolicy in
/-- T12.3: start right after a collection point (`used0 ≤ L`, or less than ¾ in use); for every sequence of
allocations and collection points with at most `A` allocations between consecutive collection points and at most
`L` cells live at each, capacity ≤ `bound = max(initial, grownSize chunk (max (L+A) (4A) (4L/3)))` -/
theorem capacity_bounded (chunk k used0 A L : Nat) (ops : List HeapPolicy.Op)
    (hu : used0 ≤ L ∨ 4 * used0 < 3 * (k * chunk)) (hp : Paced A L 0 ops) :
    (run ⟨chunk, k * chunk, used0⟩ ops).capacity ≤ bound chunk (k * chunk) A L := by
  obtain ⟨a', hi⟩ := inv_run chunk (k * chunk) A L ops _ 0 (inv_init chunk k used0 A L hu) hp
  exact hi.cap

open Marwood.Spec.HeapPolicy in
theorem paced_take (A L : Nat) : ∀ (ops : List HeapPolicy.Op) (a n : Nat),
    Paced A L a ops → Paced A L a (ops.take n) := by
  intro ops
  induction ops with
  | nil => intro a n h; simp [Paced]
  | cons op ops ih =>
    intro a n h
    cases n with
    | zero => simp [Paced]
    | succ n =>
      cases op with
      | alloc => exact ⟨h.1, ih _ _ h.2⟩
      | gcPoint f l => exact ⟨h.1, ih _ _ h.2⟩

open Marwood.Spec.HeapPolicy in
/-- … at every moment of the run -/
theorem capacity_bounded_prefix (chunk k used0 A L : Nat) (ops : List HeapPolicy.Op)
    (hu : used0 ≤ L ∨ 4 * used0 < 3 * (k * chunk)) (hp : Paced A L 0 ops) (n : Nat) :
    (run ⟨chunk, k * chunk, used0⟩ (ops.take n)).capacity ≤ bound chunk (k * chunk) A L :=
  capacity_bounded chunk k used0 A L _ hu (paced_take A L ops 0 n hp)

open Marwood.Spec.HeapPolicy in
/-- the bound in closed form, a function of `chunk`, the initial capacity and `L + A` -/
theorem capacity_bounded_closed_form (chunk k used0 A L : Nat) (ops : List HeapPolicy.Op)
    (hu : used0 ≤ L ∨ 4 * used0 < 3 * (k * chunk)) (hp : Paced A L 0 ops) :
    (run ⟨chunk, k * chunk, used0⟩ ops).capacity ≤ max (k * chunk) (6 * (L + A) + chunk) :=
  Nat.le_trans (capacity_bounded chunk k used0 A L ops hu hp) (bound_le chunk (k * chunk) A L)

/-- refinement: `Heap::alloc` acts on `(capacity, used)` as the specification's `alloc` -/
theorem alloc_refines_policy (h h' : Heap) (p : Nat) (hsz : h.gc.size = h.cells.size) (hs : Shape h)
    (hle : h.free.length ≤ h.cells.size) (ha : h.alloc = .ok (h', p)) :
    proj h' = HeapPolicy.alloc (proj h) := alloc_refines h h' p hsz hs hle ha

/-- refinement: `Vm::run_gc` is skipped exactly when the specification does not collect, a collection that leaves
`live` cells in use ends in `gcPoint force live`, and fuel is never exhausted -/
theorem runGc_refines_policy (fixed force : Bool) (h : Heap) (r : Roots) (res : Heap.GcResult)
    (hsz : h.gc.size = h.cells.size) (hnu : ∀ i : Nat, h.gc[i]? ≠ some GcState.used) (hs : Shape h)
    (hrun : Heap.runGc fixed force h r = .ok res) :
    match res with
    | .skipped h' => h' = h ∧ HeapPolicy.collects force (proj h) = false
    | .collected h' => HeapPolicy.collects force (proj h) = true ∧
        proj h' = HeapPolicy.gcPoint force (proj h').used (proj h)
    | .fuelExhausted => False := runGc_refines fixed force h r res hsz hnu hs hrun

/-! ### non-vacuity and sharpness of T12.3 -/

open Marwood.Spec.HeapPolicy in
/-- a paced run that really grows: one chunk of 4, five allocations -/
example : Paced 5 0 0 (List.replicate 5 HeapPolicy.Op.alloc) ∧
    (run ⟨4, 1 * 4, 0⟩ (List.replicate 5 .alloc)).capacity = 8 ∧ bound 4 (1 * 4) 5 0 = 32 := by decide

open Marwood.Spec.HeapPolicy in
/-- the `4·A` term is real: a skipped collection point at 11/16, then six allocations, no live data — the
capacity reaches 24 > L + A = 6 -/
example : Paced 6 0 0 (.gcPoint false 0 :: List.replicate 6 HeapPolicy.Op.alloc) ∧
    (run ⟨4, 4 * 4, 11⟩ (.gcPoint false 0 :: List.replicate 6 .alloc)).capacity = 24 ∧
    bound 4 (4 * 4) 6 0 = 36 := by decide

open Marwood.Spec.HeapPolicy in
/-- a collection that leaves more than ¾ live grows the heap (the `4L/3` term) -/
example : (run ⟨4, 2 * 4, 8⟩ [.gcPoint false 7]).capacity = 12 ∧ Paced 0 7 0 [HeapPolicy.Op.gcPoint false 7] := by
  decide

open Marwood.Spec.HeapPolicy in
theorem allocN_eq_run : ∀ (n : Nat) (s : PState), allocN n s = run s (List.replicate n .alloc)
  | 0, _ => rfl
  | n+1, s => allocN_eq_run n (HeapPolicy.alloc s)

open Marwood.Spec.HeapPolicy in
theorem allocN_used_le : ∀ (n : Nat) (s : PState) (k : Nat), 0 < s.chunk → 0 < k →
    s.capacity = k * s.chunk → s.used ≤ s.capacity → (allocN n s).used ≤ (allocN n s).capacity := by
  intro n
  induction n with
  | zero => intro s k _ _ _ h; exact h
  | succ n ih =>
    intro s k hc hk0 hk hu
    simp only [allocN]
    unfold HeapPolicy.alloc
    split
    · exact ih _ k hc hk0 hk (by simp only; omega)
    · rename_i hlt
      have hgt := grownSize_gt s.chunk k hc hk0
      rw [← hk] at hgt
      refine ih _ ((3 * (s.capacity / s.chunk) + 1) / 2) hc ?_ (by simp [Heap.grownSize]) (by simp only; omega)
      have : s.capacity / s.chunk = k := by rw [hk]; exact Nat.mul_div_cancel _ hc
      omega

open Marwood.Spec.HeapPolicy in
/-- why every evaluation must end in a collection point (the defect repaired by the `fix:` commit "a failed
evaluation … is a collection point"): without one, allocations push the capacity beyond any bound -/
theorem without_collection_points_unbounded (s : PState) (k : Nat) (hc : 0 < s.chunk) (hk0 : 0 < k)
    (hk : s.capacity = k * s.chunk) (hu : s.used ≤ s.capacity) (B : Nat) :
    ∃ n, B < (allocN n s).capacity := by
  refine ⟨B + 1, ?_⟩
  have h1 := Marwood.Lemmas.PolicyAlloc.run_allocs_used (B + 1) s
  rw [← allocN_eq_run] at h1
  have h2 := allocN_used_le (B + 1) s k hc hk0 hk hu
  omega

/-! ## the finding: a global binding retains its symbol although the variable was never defined -/

/-- one symbol cell with a binding whose slot is `Undefined`: what `GlobalEnvironment::get_binding` creates when
compiled code merely mentions a global variable -/
def mentionHeap : Heap :=
  { chunk := 4
    cells := #[.symbol ['t', 'y', 'p', 'o'], .atom .undefined, .atom .undefined, .atom .undefined]
    gc := #[.allocated, .free, .free, .free]
    free := [1, 2, 3]
    symtab := [(['t', 'y', 'p', 'o'], 0)] }

def mentionRoots : Roots :=
  { globalSyms := [0], globalSlots := [.atom .undefined], stack := [.atom .undefined], acc := .atom .undefined,
    ipLam := 2 ^ 64 - 1, ep := 2 ^ 64 - 1 }

/-- finding C12-undefined-global-binding: no slot, stack cell or register holds a value, yet the collection keeps
the symbol cell — binding keys are roots (`globenv.iter_bindings()`), and a binding is created for every global name
compiled code mentions and never removed: memory grows with the names mentioned, not with the live data. T12.1 is
not contradicted (the cell is reachable); the root set is the leak. -/
theorem undefined_global_binding_retains_symbol :
    (C03.collected (Heap.runGc true true mentionHeap mentionRoots)).NonFree 0 ∧
    srefsList mentionRoots.globalSlots = [] ∧ srefsList mentionRoots.stack = [] ∧
    srefs mentionRoots.acc = [] := by
  refine ⟨Or.inl (by decide), by decide, by decide, by decide⟩

/-! ## on the post-collection heap; the meaning of `live`; T12.3 for the heap model -/

/-- T12.1 read on the resulting heap alone: a cell of it is allocated iff it is reachable in it (`hb`: the
address bound `2^63` of the resulting heap) -/
theorem allocated_after_gc_iff_live_after (force : Bool) (h : Heap) (r : Roots) (h' : Heap)
    (wf : WFHeap true h) (hr : RootsOk h (r.refs true)) (hb : h'.cells.size ≤ 2 ^ 63)
    (hph : plainHeap h = true) (hpr : plainRoots r = true)
    (hrun : Heap.runGc true force h r = .ok (.collected h')) (x : Nat) :
    h'.NonFree x ↔ Live h' r x := by
  have gs := runGc_spec true force h r h' wf.sizes wf.no_used wf.shape hrun
  have wf' := runGc_wf true force h r h' wf hr hb hrun
  rw [gcSpec_nonFree_iff true h _ h' gs x, ← reachable_after_iff true h _ h' wf hr hb gs x]
  exact reachable_iff_live h' r wf'.sizes (plain_after h _ h' wf' gs hph) hpr x

/-- the refinement hypotheses follow from heap well-formedness -/
theorem alloc_refines_policy_wf (fixed : Bool) (h h' : Heap) (p : Nat) (wf : WFHeap fixed h)
    (ha : h.alloc = .ok (h', p)) : proj h' = HeapPolicy.alloc (proj h) :=
  alloc_refines h h' p wf.sizes wf.shape (wf_free_length_le fixed h wf.toWFCore) ha



open Classical in
/-- after `run_gc` the `used` counter (what the utilisation test and the growth decision read) is the number of
cells reachable through semantic references: `L` in T12.3 bounds live data -/
theorem used_after_gc_eq_live_count (force : Bool) (h : Heap) (r : Roots) (h' : Heap)
    (wf : WFHeap true h) (hr : RootsOk h (r.refs true)) (hb : h'.cells.size ≤ 2 ^ 63)
    (hph : plainHeap h = true) (hpr : plainRoots r = true)
    (hrun : Heap.runGc true force h r = .ok (.collected h')) :
    (proj h').used = ((List.range h'.cells.size).filter fun x => decide (Live h' r x)).length := by
  have wf' := runGc_wf true force h r h' wf hr hb hrun
  show h'.cells.size - h'.free.length = _
  rw [used_eq_count_nonFree true h' wf'.toWFCore]
  congr 1
  apply List.filter_congr
  intro x _
  simp only [decide_eq_decide]
  exact allocated_after_gc_iff_live_after force h r h' wf hr hb hph hpr hrun x

/-- T12.3 for the heap model: any run of `Heap.alloc` / `Heap.runGc` / counter-preserving steps paced by `A`, `L` -/
theorem heap_run_capacity_bounded (fixed : Bool) (h h' : Heap) (ops : List HeapPolicy.Op) (A L : Nat)
    (pre : Pre h) (hrn : HRun fixed h ops h')
    (hu : (proj h).used ≤ L ∨ 4 * (proj h).used < 3 * h.cells.size) (hp : HeapPolicy.Paced A L 0 ops) :
    h'.cells.size ≤ HeapPolicy.bound h.chunk h.cells.size A L :=
  hrun_capacity_bounded fixed h h' ops A L pre hrn hu hp



def h4 : Heap := C03.okOr (Heap.new 4)
def h4a : Heap := (C03.okOr h4.alloc).1

theorem pre_h4 : Pre h4 := by
  refine ⟨by decide, fun i hi => ?_, ⟨by decide, by decide, 1, by decide, by decide⟩, by decide⟩
  -- `used` is not among the four entries of the table
  exact absurd (Array.mem_toList_iff.mpr (Array.mem_of_getElem? hi)) (by decide)

/-- a fresh 4-cell heap, one allocation -/
example : HRun true h4 [.alloc] h4a ∧ (proj h4a).used = 1 ∧ HeapPolicy.Paced 1 0 0 [HeapPolicy.Op.alloc] :=
  ⟨.alloc pre_h4 (p := 0) rfl (.done _), by decide, by decide⟩

/-! ## T12.1 about executions of the concrete machine

The hypotheses of `allocated_after_gc_iff_live` on the snapshot follow, for a state of the concrete machine, from
the invariant `GoodI` (Lemmas/MachineGarbage.lean), which holds in every reachable state (`goodI_reaches`) — all but
`CodePlain` (in a code object an operand cell is never an opcode). That is an invariant of its own
(`codePlain_reaches`: `run_one` and `run_gc` never create or change a code object), assumed of the initial state
and, as the law `ExtCodePlain`, of the unmodelled operations (generic builtins, `eval`'s compiler, VPUSH). -/

section machine
open Marwood.Vm.Concrete Marwood.Lemmas.Sim Marwood.Lemmas.Good Marwood.Lemmas.MachineGarbage
open Marwood.Vm (St)

/-- T12.1 on a state satisfying the invariant: if `run_gc` collects in `s`, a cell of the returned state is
allocated iff it was reachable from `rootsOf s` (global bindings, stack up to `sp`, `acc`, running code, current
environment) through semantic references, and iff it is so in the returned heap -/
theorem no_floating_garbage_of_goodI (force : Bool) {s : St CHeap} (g : GoodI s) (cp : CodePlain s.heap)
    (sm : Small (cgc force s).heap) {h' : Heap}
    (hrun : Heap.runGc true force (toHeap s.heap) (rootsOf s) = .ok (.collected h')) (x : Nat) :
    ((toHeap (cgc force s).heap).NonFree x ↔ Live (toHeap s.heap) (rootsOf s) x) ∧
    ((toHeap (cgc force s).heap).NonFree x ↔ Live (toHeap (cgc force s).heap) (rootsOf (cgc force s)) x) := by
  have wf := g.hg.wf
  have hph := plainHeap_toHeap g.hg.plain cp
  have hpr := plainRoots_rootsOf (s := s) g.hg.plain
  obtain ⟨eh, er, hb', _, _⟩ := Marwood.Lemmas.PolicySessionGc.cgc_erase g sm hrun
  rw [eh, er]
  exact ⟨allocated_after_gc_iff_live force _ _ h' wf.sizes wf.no_used wf.shape hph hpr hrun x,
    allocated_after_gc_iff_live_after force _ _ h' wf g.roots hb' hph hpr hrun x⟩

/-- T12.1 in every reachable state: after any number of instructions and collections at any boundaries -/
theorem no_floating_garbage_machine {ext : ExtOps} (force : Bool) (el : ExtLaws ext) (eg : ExtGood ext)
    {s0 : St CHeap} (g0 : GoodI s0) (sb : SizeBounded (machine ext force) s0)
    (sdl : StackDiscAlong (machine ext force) s0) (ecp : ExtCodePlain ext) (cp0 : CodePlain s0.heap)
    {s : St CHeap} (hr : Reaches (machine ext force) s0 s) {h' : Heap}
    (hrun : Heap.runGc true force (toHeap s.heap) (rootsOf s) = .ok (.collected h')) (x : Nat) :
    ((toHeap ((machine ext force).gc s).heap).NonFree x ↔ Live (toHeap s.heap) (rootsOf s) x) ∧
    ((toHeap ((machine ext force).gc s).heap).NonFree x ↔
      Live (toHeap ((machine ext force).gc s).heap) (rootsOf ((machine ext force).gc s)) x) :=
  no_floating_garbage_of_goodI force (goodI_reaches force el eg g0 sb sdl s hr)
    (codePlain_reaches force ecp cp0 s hr) (sb _ (.gc hr)) hrun x

/-- … and with the forcing hook (`force = true`) the collection always happens -/
theorem forced_gc_no_floating_garbage_machine {ext : ExtOps} (el : ExtLaws ext) (eg : ExtGood ext)
    {s0 : St CHeap} (g0 : GoodI s0) (sb : SizeBounded (machine ext true) s0)
    (sdl : StackDiscAlong (machine ext true) s0) (ecp : ExtCodePlain ext) (cp0 : CodePlain s0.heap)
    {s : St CHeap} (hr : Reaches (machine ext true) s0 s) (x : Nat) :
    ((toHeap (cgc true s).heap).NonFree x ↔ Live (toHeap s.heap) (rootsOf s) x) ∧
    ((toHeap (cgc true s).heap).NonFree x ↔ Live (toHeap (cgc true s).heap) (rootsOf (cgc true s)) x) := by
  have g := goodI_reaches true el eg g0 sb sdl s hr
  obtain ⟨h', hrun⟩ := forced_gc_collects _ _ g.hg.wf g.roots
  exact no_floating_garbage_machine true el eg g0 sb sdl ecp cp0 hr hrun x

/-! ### non-vacuity (the program `HALT` of Lemmas/GoodDemo.lean, the parameter set `failingExt` of C13) -/

open Marwood.Lemmas.Good.Demo in
theorem sHalt_codePlain (o : Nat) : CodePlain (sHalt o).heap := by
  intro i l hc
  rcases hHalt_cell hc with ⟨_, h⟩ | h
  · cases h; decide
  · cases h

open Marwood.Proofs.C13 in
/-- `ExtCodePlain` is satisfiable -/
theorem failingExt_codePlain : ExtCodePlain failingExt :=
  ⟨fun _ h => (by cases h), fun _ h => (by cases h), fun _ h => (by cases h)⟩

open Marwood.Lemmas.Good.Demo Marwood.Proofs.C13 in
example : GoodI (sHalt 0) ∧ SizeBounded (machine failingExt false) (sHalt 0) ∧
    StackDiscAlong (machine failingExt false) (sHalt 0) ∧ CodePlain (sHalt 0).heap ∧
    ExtLaws failingExt ∧ ExtGood failingExt ∧ ExtCodePlain failingExt :=
  ⟨sHalt_goodI 0, sHalt_sizeBounded _, sHalt_discAlong _, sHalt_codePlain 0, failingExt_laws, failingExt_good,
   failingExt_codePlain⟩

end machine

/-! ## T12.3's parameter `A` for the concrete machine: what one instruction, and one slice, allocate

For the concrete machine (`Vm/Machine.lean: step` over `Vm/ConcreteHeap.lean: concreteOps ext`) `A` is bounded by a
theorem (`Lemmas/PolicyAllocBound.lean`): one instruction performs at most `opAlloc op + extra ext s op` steps
`Heap::alloc` — the constant of its opcode plus the growth of `used` across the generic builtin / `eval`'s
compiler / VPUSH it calls, or `2 · argc` for VARARG's rest-argument list — and otherwise only edits that leave
`(capacity, used)` alone. The unmodelled operations are assumed to allocate through `Heap::alloc` only and to keep
the allocator invariant (`ExtAllocOnly`, like `ExtGood`). -/

section allocbound
open Marwood.Vm Marwood.Vm.Concrete Marwood.Lemmas.Sim Marwood.Lemmas.PolicyAlloc

/-- one instruction keeps the allocator invariant; `used` grows by at most the constant of the opcode plus what
the unmodelled operation called, or the rest-argument list built, allocates -/
theorem instr_alloc_bound {ext : ExtOps} (ea : ExtAllocOnly ext) {s s' : St CHeap} {b : Bool} (inv : HInv s.heap)
    (h : step (concreteOps ext) s = .ok (s', b)) :
    ∃ op s1, readOpcode (concreteOps ext) s = .ok (op, s1) ∧ HInv s'.heap ∧
      used s'.heap ≤ used s.heap + opAlloc op + extra ext s op :=
  step_alloc_bound ea inv h

/-- any other instruction allocates at most `opAlloc op ≤ 3` cells -/
theorem instr_alloc_bound_core {ext : ExtOps} (ea : ExtAllocOnly ext) {s s' : St CHeap} {b : Bool} (inv : HInv s.heap)
    (h : step (concreteOps ext) s = .ok (s', b)) {op : Vm.Op} {s1 : St CHeap}
    (hro : readOpcode (concreteOps ext) s = .ok (op, s1)) (ne : NonExt (concreteOps ext) s op) :
    used s'.heap ≤ used s.heap + opAlloc op ∧ used s'.heap ≤ used s.heap + maxOpAlloc :=
  step_alloc_bound_core ea inv h hro ne

/-- the constants (what each counts: header of `Lemmas/PolicyAllocBound.lean`) -/
theorem opAlloc_table : opAlloc .cons = 3 ∧ opAlloc .closureAcc = 2 ∧ opAlloc .enter = 1 ∧ opAlloc .callAcc = 2 ∧
    opAlloc .tcallAcc = 2 ∧ opAlloc .varArg = 3 ∧ opAlloc .mov = 0 ∧ opAlloc .movImm = 0 ∧ opAlloc .push = 0 ∧
    opAlloc .pushAcc = 0 ∧ opAlloc .pushImm = 0 ∧ opAlloc .jmp = 0 ∧ opAlloc .jnt = 0 ∧ opAlloc .ret = 0 ∧
    opAlloc .halt = 0 ∧ opAlloc .vpushAcc = 0 ∧ ∀ op, opAlloc op ≤ maxOpAlloc :=
  ⟨rfl, rfl, rfl, rfl, rfl, rfl, rfl, rfl, rfl, rfl, rfl, rfl, rfl, rfl, rfl, rfl, opAlloc_le⟩

/-- VARARG: at most `3 + 2 · argc` cells -/
theorem vararg_alloc_bound {ext : ExtOps} (ea : ExtAllocOnly ext) {s s' s1 : St CHeap} {b : Bool} {n : Nat}
    (inv : HInv s.heap) (h : step (concreteOps ext) s = .ok (s', b))
    (hro : readOpcode (concreteOps ext) s = .ok (.varArg, s1)) (hn : s.stack.getOffset (-2) = .ok (.argc n)) :
    used s'.heap ≤ used s.heap + 3 + 2 * n := by
  obtain ⟨op', s1', hro', _, hu⟩ := step_alloc_bound ea inv h
  rw [hro] at hro'
  cases hro'
  have : extra ext s .varArg = 2 * n := by simp only [extra, extraOf, hn]
  rw [this] at hu
  exact hu

/-- `A` for one slice: `n ≤ 8192` instructions with no collection in between allocate at most `8192 · 3 + E`
cells, `E` = what the builtins called allocate (plus `2 · argc` per VARARG); the erased heap performs exactly
`j ≤ 8192 · 3 + E` operations `.alloc` -/
theorem slice_alloc_bound {ext : ExtOps} (ea : ExtAllocOnly ext) {n E : Nat} {s s' : St CHeap} (inv : HInv s.heap)
    (sl : Slice ext n E s s') (hn : n ≤ 8192) :
    HInv s'.heap ∧ used s'.heap ≤ used s.heap + (8192 * maxOpAlloc + E) ∧
      ∃ j, j ≤ 8192 * maxOpAlloc + E ∧ Allocs s.heap s'.heap j :=
  Marwood.Lemmas.PolicyAlloc.slice_alloc_bound ea inv sl hn

/-- T12.3 at the machine: a slice, a collection point, then any run of the heap model paced by
`A = 8192 · 3 + E` and `L` (e.g. further slices and collection points) -/
theorem machine_slice_capacity_bounded {ext : ExtOps} (ea : ExtAllocOnly ext) {n E : Nat} {s s' : St CHeap}
    (inv : HInv s.heap) (sl : Slice ext n E s s') (hn : n ≤ 8192)
    {fixed f : Bool} {l L : Nat} {rest : List HeapPolicy.Op} {hf : Heap}
    (hrest : HRun fixed (toHeap s'.heap) (.gcPoint f l :: rest) hf)
    (hu : used s.heap ≤ L ∨ 4 * used s.heap < 3 * s.heap.cells.size)
    (hl : l ≤ L) (hp : HeapPolicy.Paced (8192 * maxOpAlloc + E) L 0 rest) :
    hf.cells.size ≤ HeapPolicy.bound s.heap.chunk s.heap.cells.size (8192 * maxOpAlloc + E) L := by
  obtain ⟨_, _, j, hj, aj⟩ := Marwood.Lemmas.PolicyAlloc.slice_alloc_bound ea inv sl hn
  have hr := aj fixed _ hf hrest
  have hpaced : HeapPolicy.Paced (8192 * maxOpAlloc + E) L 0 (List.replicate j .alloc ++ .gcPoint f l :: rest) :=
    paced_allocs _ _ j 0 _ (by omega) ⟨hl, hp⟩
  have hu' : (proj (toHeap s.heap)).used ≤ L ∨ 4 * (proj (toHeap s.heap)).used < 3 * (toHeap s.heap).cells.size := by
    rw [proj_toHeap]; simpa [toHeap] using hu
  have := hrun_capacity_bounded fixed (toHeap s.heap) hf _ _ L (pre_of_inv inv) hr hu' hpaced
  simpa [toHeap] using this

/-- any number of blocks "`j ≤ A` allocations, then a collection point with at most `L` cells live" -/
theorem session_capacity_bounded (fixed : Bool) {h hf : Heap} (bs : List (Nat × Bool × Nat)) (A L : Nat)
    (pre : Pre h) (hr : HRun fixed h (blocksOps bs) hf)
    (hu : (proj h).used ≤ L ∨ 4 * (proj h).used < 3 * h.cells.size) (hb : ∀ b ∈ bs, b.1 ≤ A ∧ b.2.2 ≤ L) :
    hf.cells.size ≤ HeapPolicy.bound h.chunk h.cells.size A L :=
  hrun_capacity_bounded fixed h hf _ A L pre hr hu (paced_blocks A L bs hb)

/-! ### non-vacuity -/

open Marwood.Proofs.C13 in
/-- `ExtAllocOnly` is satisfiable, also by `allocExt`, whose generic builtins allocate (`allocExt_allocOnly`) -/
theorem failingExt_allocOnly : ExtAllocOnly failingExt :=
  ⟨fun h => (by cases h), fun h => (by cases h), fun h => (by cases h)⟩

theorem allocExt_allocOnly : ExtAllocOnly allocExt := Marwood.Lemmas.PolicyAlloc.allocExt_allocOnly

open Marwood.Lemmas.Good.Demo Marwood.Lemmas.Good in
/-- a slice of the HALT demo program: one instruction, nothing allocated -/
example : HInv (sHalt 0).heap ∧ Slice allocExt 1 0 (sHalt 0) (sHalt 1) :=
  ⟨HInv.of_wf (sHalt_goodI 0).hg.wf, .cons (b := true) (op := .halt) (sx := sHalt 1) rfl rfl (.nil _)⟩

/-- a heap whose only object is the code `[CONS]` -/
def hCons : CHeap :=
  { chunk := 4
    cells := #[.lambda { bc := [.opcode .cons], args := [], envmap := [] }, .val .undefined, .val .undefined,
      .val .undefined]
    gc := #[.allocated, .free, .free, .free]
    free := [1, 2, 3]
    symtab := [], globSyms := [], globals := #[] }

/-- about to execute CONS on an immediate number and a reference: two cells are allocated (the boxed number and
    the pair), within the constant 3 -/
def sCons : St CHeap :=
  { heap := hCons, stack := { cells := [.undefined, .opaque "n1", .ptr 0, .undefined], sp := 2 }, acc := .undefined,
    ep := 0, ipL := 0, ipO := 0, bp := 0 }

theorem hCons_inv : HInv hCons :=
  C03.hInv_of_checks (by decide) ⟨by decide, by decide, 1, by decide, by decide⟩ (by decide) (by decide) (by decide)
    (by decide)

example : ∃ s', step (concreteOps allocExt) sCons = .ok (s', false) ∧ used s'.heap = used sCons.heap + 2 ∧
    NonExt (concreteOps allocExt) sCons .cons ∧ Slice allocExt 1 0 sCons s' :=
  ⟨_, rfl, by decide, ⟨by decide, by decide, fun _ h => by cases h⟩,
    .cons (b := false) (op := .cons) (sx := { sCons with ipO := 1 }) rfl rfl (.nil _)⟩

example := instr_alloc_bound_core allocExt_allocOnly (s := sCons) (op := .cons) (b := false) hCons_inv rfl rfl
  ⟨by decide, by decide, fun _ h => by cases h⟩

end allocbound

/-! ## C12's first sentence for the concrete machine: a whole session is one paced run

"The memory the VM uses is bounded by a function of the live data of the program, not of the work done." `runLoop`
(run.rs `run_count`) runs `run_gc` before instruction 8192, 16384, … of a call, at a budget stop, and at the end of
both epilogues, so every execution — of the loop, an evaluation, a history of evaluations — is a *session*: blocks
of at most 8192 instructions, each closed by a collection `cgc force` (`Lemmas/PolicySession.lean`, generic in the
machine; `Lemmas/PolicySessionMain.lean`). A session is ONE run `HRun` of the heap model (`session_is_heap_run`), so
T12.3 applies with two program-dependent parameters: `L` bounds `liveCount` at the collection points, `E` the second
component of the block records, an upper bound on what the unmodelled operations (generic builtins, `eval`'s
compiler, VPUSH; rest-argument lists) allocate in the block. The number of instructions, evaluations and collections
does not occur. -/

section session
open Marwood.Vm Marwood.Vm.Concrete Marwood.Lemmas.Sim Marwood.Lemmas.Good Marwood.Lemmas.PolicyAlloc
open Marwood.Lemmas.MachineGarbage Marwood.Lemmas.PolicySession
open Marwood.Lemmas.PolicySessionGc Marwood.Lemmas.PolicySessionMain Marwood.Lemmas.PolicySessionOk
open Marwood.Proofs.C07 (Job runHistory)

/-- in a state satisfying `GcOk` (invariant `GoodI`, decoding discipline `CodePlain`, at most `2^62` cells
    afterwards) `cgc force s` acts on `(chunk, capacity, used)` as `gcPoint force (liveCount s)`, `liveCount s` = the
    cells reachable from `rootsOf s` through semantic references; in the vocabulary of `HRun`, one step -/
theorem cgc_is_gcPoint {force : Bool} {s : St CHeap} (ok : GcOk force s) :
    proj (toHeap (cgc force s).heap) = HeapPolicy.gcPoint force (liveCount s) (proj (toHeap s.heap)) ∧
    HInv (cgc force s).heap ∧
    ∀ (ops : List HeapPolicy.Op) (hf : Heap), HRun true (toHeap (cgc force s).heap) ops hf →
      HRun true (toHeap s.heap) (.gcPoint force (liveCount s) :: ops) hf :=
  Marwood.Lemmas.PolicySessionGc.cgc_is_gcPoint ok

/-- `liveCount` never exceeds the capacity -/
theorem liveCount_le_capacity (s : St CHeap) : liveCount s ≤ s.heap.cells.size := liveCount_le_size s

/-- the run loop is paced, for every machine, from the definition of `runLoop` alone: closed blocks of at most
    8192 instructions, each followed by `gc`, then what `Tail` says (paused: nothing open; done / error: an open block
    of fewer than 8192 instructions before the halting / failing one) -/
theorem runLoop_blocks_generic {S E : Type} (m : Machine S E) (count : Option Nat) (fuel : Nat) (s : S) :
    ∃ bs s1, Blocks m s bs s1 ∧ (∀ b ∈ bs, b.1 ≤ 8192) ∧ Tail m s1 (runLoop m count fuel 0 s) :=
  runLoop_blocks_start m count fuel s

/-- … for the concrete machine (any budget, fuel, value of the cycle counter) -/
theorem runLoop_is_paced (ext : ExtOps) (force : Bool) (count : Option Nat) (fuel c : Nat) (s : St CHeap) :
    ∃ cps s1, Sess ext force s cps s1 ∧ (∀ cp ∈ cps, cp.1 ≤ 8192) ∧ (∀ cp ∈ cps, CpFrom ext force s cp.2.2) ∧
      Reaches (machine ext force) s s1 ∧ OpenTail ext force s1 (runLoop (machine ext force) count fuel c s) :=
  Marwood.Lemmas.PolicySessionMain.runLoop_is_paced ext force count fuel c s

/-- one evaluation (`run_count` with its epilogues) is a session; its collection points lie at reachable states
    or at the epilogue of one (`CpFrom`) -/
theorem runEval_is_paced (ext : ExtOps) (force : Bool) (count : Option Nat) (fuel : Nat) (s : St CHeap) :
    match runEval (concreteOps ext) (cgc force) count fuel s with
    | .value s' => ∃ cps, Sess ext force s cps s' ∧ (∀ cp ∈ cps, cp.1 ≤ 8192) ∧ ∀ cp ∈ cps, CpFrom ext force s cp.2.2
    | .failed _ s' => ∃ cps, Sess ext force s cps s' ∧ (∀ cp ∈ cps, cp.1 ≤ 8192) ∧ ∀ cp ∈ cps, CpFrom ext force s cp.2.2
    | .paused s' => ∃ cps, Sess ext force s cps s' ∧ (∀ cp ∈ cps, cp.1 ≤ 8192) ∧ ∀ cp ∈ cps, CpFrom ext force s cp.2.2
    | .fuel => True :=
  Marwood.Lemmas.PolicySessionMain.runEval_is_paced ext force count fuel s

/-- a history is a session; `P` holds at its collection points as soon as an invariant `J` of (remaining jobs,
    state) gives `P` at the collection points of the next evaluation and is handed on -/
theorem runHistory_session_of (ext : ExtOps) (force : Bool) (P : St CHeap → Prop) (J : List Job → St CHeap → Prop)
    (hJ : ∀ j js s, J (j :: js) s →
      (∀ x, CpFrom ext force (prepare s j.entry) x → P x) ∧
      match runEval (concreteOps ext) (cgc force) none j.fuel (prepare s j.entry) with
      | .value s' => J js s'
      | .failed _ s' => J js s'
      | .paused s' => J js s'
      | .fuel => J js s) :
    ∀ (js : List Job) (s : St CHeap), J js s →
      ∃ cps, Sess ext force s cps (runHistory (concreteOps ext) (cgc force) js s) ∧ (∀ cp ∈ cps, cp.1 ≤ 8192) ∧
        ∀ cp ∈ cps, P cp.2.2 := by
  intro js
  induction js with
  | nil => intro s _; exact ⟨[], .nil s, by simp, by simp⟩
  | cons j js ih =>
    intro s hj
    obtain ⟨hP, hnext⟩ := hJ j js s hj
    have hp := runEval_is_paced ext force none j.fuel (prepare s j.entry)
    simp only [runHistory]
    have key : ∀ s', J js s' →
        (∃ cps, Sess ext force (prepare s j.entry) cps s' ∧ (∀ cp ∈ cps, cp.1 ≤ 8192) ∧
          ∀ cp ∈ cps, CpFrom ext force (prepare s j.entry) cp.2.2) →
        ∃ cps, Sess ext force s cps (runHistory (concreteOps ext) (cgc force) js s') ∧ (∀ cp ∈ cps, cp.1 ≤ 8192) ∧
          ∀ cp ∈ cps, P cp.2.2 := by
      intro s' hj' ⟨cps1, hs1, hn1, hf1⟩
      obtain ⟨cps2, hs2, hn2, hok2⟩ := ih s' hj'
      -- `prepare` only moves `ip` (an `.edit`); then the evaluation's blocks, then those of the remaining history
      refine ⟨cps1 ++ cps2, .edit (s1 := prepare s j.entry) rfl (hs1.append hs2), ?_, ?_⟩
      · intro c hcp
        rcases List.mem_append.mp hcp with h | h
        · exact hn1 c h
        · exact hn2 c h
      · intro c hcp
        rcases List.mem_append.mp hcp with h | h
        · exact hP _ (hf1 c h)
        · exact hok2 c h
    split <;> rename_i hr <;> rw [hr] at hp hnext
    · exact key _ hnext hp
    · exact key _ hnext hp
    · exact key _ hnext hp
    · exact ih s hnext

/-- a whole history of evaluations (C07's `runHistory`: successes and failures in any order) is ONE session -/
theorem runHistory_is_session (ext : ExtOps) (force : Bool) : ∀ (js : List Job) (s : St CHeap),
    ∃ cps, Sess ext force s cps (runHistory (concreteOps ext) (cgc force) js s) ∧ ∀ cp ∈ cps, cp.1 ≤ 8192 := by
  intro js s
  obtain ⟨cps, h1, h2, _⟩ := runHistory_session_of ext force (fun _ => True) (fun _ _ => True)
    (fun j js s _ => ⟨fun _ _ => trivial, by split <;> trivial⟩) js s trivial
  exact ⟨cps, h1, h2⟩

/-- a session is ONE run of the heap model: block by block `jᵢ ≤ 3·nᵢ + Eᵢ` operations `alloc`, then
    `gcPoint force (liveCount cpᵢ)` -/
theorem session_is_heap_run {ext : ExtOps} {force : Bool} (ea : ExtAllocOnly ext) {s s' : St CHeap} {cps : List CP}
    (hs : Sess ext force s cps s') (inv : HInv s.heap) (ok : ∀ cp ∈ cps, GcOk force cp.2.2) :
    HInv s'.heap ∧ ∃ ps : List (Nat × Bool × Nat), All2 (BlockOf force) ps cps ∧
      ∀ (ops : List HeapPolicy.Op) (hf : Heap), HRun true (toHeap s'.heap) ops hf →
        HRun true (toHeap s.heap) (blocksOps ps ++ ops) hf :=
  sess_hrun ea hs inv ok

/-- C12, first sentence, for every session: closed blocks `cps`, then an open block of `n` instructions, started
    with the allocator invariant right after a collection point. If every block has at most 8192 instructions (true
    of every execution of the run loop), a record's second component (what the unmodelled operations called in the
    block allocate at most) at most `E`, and at most `L` cells reachable at every collection point, then the heap has
    at most `bound chunk initial (8192·3 + E) L ≤ max(initial, 6·(L + 8192·3 + E) + chunk)` cells: a function of
    `chunk`, the initial capacity, `L` and `E`, not of the number of blocks, instructions, evaluations or collections -/
theorem session_capacity_bounded_machine {ext : ExtOps} {force : Bool} (ea : ExtAllocOnly ext) {s0 s1 s' : St CHeap}
    {cps : List CP} {n Et E L : Nat} (hs : Sess ext force s0 cps s1) (tail : Seg ext n Et s1 s')
    (inv : HInv s0.heap) (ok : ∀ cp ∈ cps, GcOk force cp.2.2)
    (hn : ∀ cp ∈ cps, cp.1 ≤ 8192) (hE : ∀ cp ∈ cps, cp.2.1 ≤ E) (hL : ∀ cp ∈ cps, liveCount cp.2.2 ≤ L)
    (hnt : n ≤ 8192) (hEt : Et ≤ E)
    (hu : used s0.heap ≤ L ∨ 4 * used s0.heap < 3 * s0.heap.cells.size) :
    s'.heap.cells.size ≤ HeapPolicy.bound s0.heap.chunk s0.heap.cells.size (8192 * 3 + E) L ∧
    s'.heap.cells.size ≤ max s0.heap.cells.size (6 * (L + (8192 * 3 + E)) + s0.heap.chunk) := by
  have h := sess_capacity_bounded ea hs tail inv ok hn hE hL hnt hEt hu
  exact ⟨h, Nat.le_trans h (bound_le _ _ _ _)⟩

/-- `CodePlain` after an uninterrupted evaluation -/
theorem codePlain_runEval {ext : ExtOps} (force : Bool) (ecp : ExtCodePlain ext) (fuel : Nat) {s : St CHeap}
    (cp : CodePlain s.heap) :
    match runEval (concreteOps ext) (cgc force) none fuel s with
    | .value s' => CodePlain s'.heap
    | .failed _ s' => CodePlain s'.heap
    | .paused _ => False
    | .fuel => True := by
  obtain ⟨c1, c2⟩ := codePlain_of_runEval force ecp none fuel cp
  cases hr : runEval (concreteOps ext) (cgc force) none fuel s with
  | value s' => exact c1 s' hr
  | failed f s' => exact c2 f s' hr
  | paused s' => exact absurd hr (Vm.runEval_none_not_paused _ _ fuel s s')
  | fuel => trivial

/-- `GcOk` at the collection points of one evaluation follows from `VmOkP` and `CodePlain` of the state it starts
    in, the laws of the unmodelled parts, and the physical size bound -/
theorem eval_collection_points_ok {ext : ExtOps} {ecl : ExtCodeLawsV ext} (force : Bool) (el : ExtLaws ext)
    (eg : ExtGood ext) (ep : ExtProc ext) (ecp : ExtCodePlain ext) {s0 : St CHeap} (h0 : VmOkP ext ecl s0)
    (cp0 : CodePlain s0.heap) (sb : EvalSizeBounded ext force s0) {x : St CHeap} (hx : CpFrom ext force s0 x) :
    GcOk force x :=
  gcOk_of_cpFrom force el eg ep ecp h0 cp0 sb hx

/-- every evaluation of the history starts (after `prepare_eval` pointed `ip` at its entry code) in a state
    satisfying the bundled invariant, and the heaps it produces have at most `2^62` cells -/
def JobsOk (ext : ExtOps) (ecl : ExtCodeLawsV ext) (force : Bool) : List Job → St CHeap → Prop
  | [], _ => True
  | j :: js, s => (VmOkP ext ecl (prepare s j.entry) ∧ EvalSizeBounded ext force (prepare s j.entry)) ∧
    match runEval (concreteOps ext) (cgc force) none j.fuel (prepare s j.entry) with
    | .value s' => JobsOk ext ecl force js s'
    | .failed _ s' => JobsOk ext ecl force js s'
    | .paused s' => JobsOk ext ecl force js s'
    | .fuel => JobsOk ext ecl force js s

/-- … all of whose collection points satisfy `GcOk` -/
theorem runHistory_session_ok {ext : ExtOps} {ecl : ExtCodeLawsV ext} (force : Bool) (el : ExtLaws ext)
    (eg : ExtGood ext) (ep : ExtProc ext) (ecp : ExtCodePlain ext) : ∀ (js : List Job) (s : St CHeap),
    CodePlain s.heap → JobsOk ext ecl force js s →
    ∃ cps, Sess ext force s cps (runHistory (concreteOps ext) (cgc force) js s) ∧ (∀ cp ∈ cps, cp.1 ≤ 8192) ∧
      ∀ cp ∈ cps, GcOk force cp.2.2 := by
  intro js s cp jobs
  refine runHistory_session_of ext force (GcOk force) (fun js s => CodePlain s.heap ∧ JobsOk ext ecl force js s)
    ?_ js s ⟨cp, jobs⟩
  intro j js s ⟨cp, ⟨hv, hsb⟩, hrest⟩
  refine ⟨fun x hx => gcOk_of_cpFrom force el eg ep ecp hv cp hsb hx, ?_⟩
  have hc := codePlain_runEval force ecp j.fuel (s := prepare s j.entry) cp
  split <;> rename_i hr <;> rw [hr] at hc hrest
  · exact ⟨hc, hrest⟩
  · exact ⟨hc, hrest⟩
  · exact absurd hc id
  · exact ⟨cp, hrest⟩

/-- C12, first sentence, for every history of evaluations (any number, succeeding or failing, of any length): it
    is a session of blocks of at most 8192 instructions with records `cps` such that, whenever `E` bounds the second
    components of the records (upper bounds, `Seg`, which the decomposition chooses) and `L` the `liveCount` at the
    collection points, the final heap has at most `max(initial, 6·(L + 8192·3 + E) + chunk)` cells. Hypotheses: the
    laws of the unmodelled parts, `HInv` and `CodePlain` of the initial heap, `JobsOk`. -/
theorem history_capacity_bounded_machine {ext : ExtOps} {ecl : ExtCodeLawsV ext} (force : Bool) (el : ExtLaws ext)
    (eg : ExtGood ext) (ep : ExtProc ext) (ecp : ExtCodePlain ext) (ea : ExtAllocOnly ext) (js : List Job)
    (s0 : St CHeap) (inv : HInv s0.heap) (cp0 : CodePlain s0.heap) (jobs : JobsOk ext ecl force js s0) :
    ∃ cps, Sess ext force s0 cps (runHistory (concreteOps ext) (cgc force) js s0) ∧ (∀ cp ∈ cps, cp.1 ≤ 8192) ∧
      ∀ E L : Nat, (∀ cp ∈ cps, cp.2.1 ≤ E ∧ liveCount cp.2.2 ≤ L) →
        (used s0.heap ≤ L ∨ 4 * used s0.heap < 3 * s0.heap.cells.size) →
        (runHistory (concreteOps ext) (cgc force) js s0).heap.cells.size ≤
          max s0.heap.cells.size (6 * (L + (8192 * 3 + E)) + s0.heap.chunk) := by
  obtain ⟨cps, hs, hn, hok⟩ := runHistory_session_ok force el eg ep ecp js s0 cp0 jobs
  refine ⟨cps, hs, hn, ?_⟩
  intro E L hEL hu
  exact (session_capacity_bounded_machine ea hs (Seg.refl ext _) inv hok hn (fun c h => (hEL c h).1)
    (fun c h => (hEL c h).2) (by omega) (Nat.zero_le _) hu).2

/-! ### non-vacuity: the HALT demo program, evaluated twice -/

open Marwood.Lemmas.Good.Demo Marwood.Proofs.C13

/-- on the demo heap (1 of 4 cells in use) the utilisation-tested collector skips -/
theorem hHalt_cgc (s : St CHeap) (hs : s.heap = hHalt) : cgc false s = s := by
  unfold cgc
  have : Heap.runGc true false (toHeap s.heap) (rootsOf s) = .ok (.skipped eHalt) := by
    rw [hs, toHeap_hHalt]; rfl
  rw [this]

theorem sHalt_evalSizeBounded : EvalSizeBounded failingExt false (sHalt 0) := by
  -- every reachable state, and what either epilogue makes of it, has the demo heap, which the collector leaves alone
  have key : ∀ sd, Reaches (machine failingExt false) (sHalt 0) sd → ∀ t : St CHeap, t.heap = sd.heap →
      Small (cgc false t).heap := by
    intro sd hr t ht
    have hh : t.heap = hHalt := by rcases sHalt_reaches failingExt hr with h | h <;> subst h <;> exact ht
    rw [hHalt_cgc t hh]
    show 2 * t.heap.cells.size ≤ 2 ^ 63
    rw [hh]; decide
  exact ⟨sHalt_sizeBounded _, fun sd hr => key sd hr _ rfl, fun sd hr => key sd hr _ rfl⟩

theorem demo_eval : runEval (concreteOps failingExt) (cgc false) none 5 (sHalt 0) = .value (sHalt 1) := by
  refine Vm.runEval_value.mpr ⟨sHalt 1, ?_, ?_⟩
  · have h0 : vmStep (concreteOps failingExt) (sHalt 0) = .halt (sHalt 1) := sHalt_step0 failingExt false
    simp [runLoop, h0]
  · rw [hHalt_cgc _ rfl]
    rfl

theorem demo_jobsOk : JobsOk failingExt failingExt_codeLawsV false [⟨0, 5⟩, ⟨0, 5⟩] (sHalt 0) := by
  have hp0 : prepare (sHalt 0) 0 = sHalt 0 := rfl
  have hp1 : prepare (sHalt 1) 0 = sHalt 0 := rfl
  simp only [JobsOk, hp0, hp1, demo_eval]
  exact ⟨⟨sHalt_vmOkP _ _, sHalt_evalSizeBounded⟩, ⟨sHalt_vmOkP _ _, sHalt_evalSizeBounded⟩, trivial⟩

/-- the two-evaluation history of the demo program -/
example : ∃ cps, Sess failingExt false (sHalt 0) cps
      (runHistory (concreteOps failingExt) (cgc false) [⟨0, 5⟩, ⟨0, 5⟩] (sHalt 0)) ∧ (∀ cp ∈ cps, cp.1 ≤ 8192) ∧
    ∀ E L : Nat, (∀ cp ∈ cps, cp.2.1 ≤ E ∧ liveCount cp.2.2 ≤ L) →
      (used (sHalt 0).heap ≤ L ∨ 4 * used (sHalt 0).heap < 3 * (sHalt 0).heap.cells.size) →
      (runHistory (concreteOps failingExt) (cgc false) [⟨0, 5⟩, ⟨0, 5⟩] (sHalt 0)).heap.cells.size ≤
        max (sHalt 0).heap.cells.size (6 * (L + (8192 * 3 + E)) + (sHalt 0).heap.chunk) :=
  history_capacity_bounded_machine (ecl := failingExt_codeLawsV) false failingExt_laws failingExt_good failingExt_proc
    failingExt_codePlain failingExt_allocOnly _ _ (HInv.of_wf (sHalt_goodI 0).hg.wf) (sHalt_codePlain 0) demo_jobsOk

/-- `GcOk` of the demo state; its collection is the policy's `gcPoint` with `live ≤ 4` -/
example : GcOk false (sHalt 0) ∧ liveCount (sHalt 0) ≤ 4 ∧
    proj (toHeap (cgc false (sHalt 0)).heap) =
      HeapPolicy.gcPoint false (liveCount (sHalt 0)) (proj (toHeap (sHalt 0).heap)) := by
  have ok : GcOk false (sHalt 0) := ⟨sHalt_goodI 0, sHalt_codePlain 0, by rw [hHalt_cgc _ rfl]; exact sHalt_small 0⟩
  exact ⟨ok, liveCount_le_size _, (cgc_is_gcPoint ok).1⟩

end session

/-! ### Histories with `prepare_eval` as a step of its own: `JobsOk` follows (Lemmas/Prepare*.lean)

`runHistory` takes each entry lambda as given, hence `JobsOk`. In `HistInstalls` (Lemmas/PrepareHistory.lean) the
compiler and loader inside `prepare_eval` are steps: `Installs` (an accepted form: allocator steps installing the
compiler model's code objects, their data, symbols, global slots — the allocation the finding
`C12-undefined-global-binding` is about) or `InstallsGarbage` followed by the collection of the `Err` arm (a
rejected form, a block of its own). `prepare_vmOkP_idle` gives the invariant of each prepared state; the loader's
allocations (at most one per step) belong to the block in which the evaluation starts, so `E` here bounds builtins
AND loader. Hypotheses: the laws of the unmodelled builtins, `VmOkP` and `CodePlain` of the INITIAL state (empty
stack), the size bounds `RecSized`. -/
section installs
open Marwood.Vm Marwood.Vm.Concrete Marwood.Lemmas.Sim Marwood.Lemmas.Good Marwood.Lemmas.PolicyAlloc
open Marwood.Lemmas.MachineGarbage Marwood.Lemmas.PolicySession
open Marwood.Lemmas.PolicySessionGc Marwood.Lemmas.PolicySessionMain Marwood.Lemmas.PolicySessionOk

/-- C12, first sentence, for every history of `eval` calls, `prepare_eval` included -/
theorem history_capacity_bounded_installs {ext : ExtOps} (ecl : ExtCodeLawsV ext) (force : Bool) (el : ExtLaws ext)
    (eg : ExtGood ext) (ep : ExtProc ext) (ecp : ExtCodePlain ext) (ea : ExtAllocOnly ext) {s0 sf : St CHeap}
    {recs : List EvRec} (hist : HistInstalls ext force s0 recs sf)
    (h0 : VmOkP ext ecl s0) (hsp : s0.stack.sp = 0) (hcap : 0 < s0.stack.cells.length) (cp0 : CodePlain s0.heap)
    (sz : ∀ rc ∈ recs, RecSized ext force rc) :
    ∃ cps, Sess ext force s0 cps sf ∧ (∀ cp ∈ cps, cp.1 ≤ 8192) ∧
      ∀ E L : Nat, (∀ cp ∈ cps, cp.2.1 ≤ E ∧ liveCount cp.2.2 ≤ L) →
        (used s0.heap ≤ L ∨ 4 * used s0.heap < 3 * s0.heap.cells.size) →
        sf.heap.cells.size ≤ max s0.heap.cells.size (6 * (L + (8192 * 3 + E)) + s0.heap.chunk) := by
  have i0 : IdleOk s0 := h0.idleOk hsp hcap
  obtain ⟨cps, hs, hn, hok⟩ := histInstalls_session ecl force el eg ep ecp hist i0 cp0 sz
  refine ⟨cps, hs, hn, ?_⟩
  intro E L hEL hu
  exact (session_capacity_bounded_machine ea hs (Seg.refl ext _) (HInv.of_wf i0.good.hg.wf) hok hn
    (fun c h => (hEL c h).1) (fun c h => (hEL c h).2) (by omega) (Nat.zero_le _) hu).2

/-- every job of such a history starts in a state satisfying the bundled invariant; the machine is idle at the end -/
theorem history_jobs_ok_installs {ext : ExtOps} (ecl : ExtCodeLawsV ext) (force : Bool) (el : ExtLaws ext)
    (eg : ExtGood ext) (ep : ExtProc ext) {s0 sf : St CHeap} {recs : List EvRec}
    (hist : HistInstalls ext force s0 recs sf)
    (h0 : VmOkP ext ecl s0) (hsp : s0.stack.sp = 0) (hcap : 0 < s0.stack.cells.length)
    (sz : ∀ rc ∈ recs, RecSized ext force rc) :
    (∀ p r, EvRec.ran p r ∈ recs → VmOkP ext ecl p) ∧ IdleOk sf := by
  obtain ⟨a, _, c⟩ := histInstalls_ok (ecl := ecl) force el eg ep hist (h0.idleOk hsp hcap) sz
  exact ⟨fun p r h => (a p r h).1, c⟩

open Marwood.Lemmas.Good.Demo Marwood.Proofs.C13 in
/-- on the demo machine, a history of two rejected forms that allocated nothing -/
example : ∃ cps, Sess failingExt false (sHalt 0) cps (sHalt 0) ∧ (∀ cp ∈ cps, cp.1 ≤ 8192) ∧
    ∀ E L : Nat, (∀ cp ∈ cps, cp.2.1 ≤ E ∧ liveCount cp.2.2 ≤ L) →
      (used (sHalt 0).heap ≤ L ∨ 4 * used (sHalt 0).heap < 3 * (sHalt 0).heap.cells.size) →
      (sHalt 0).heap.cells.size ≤ max (sHalt 0).heap.cells.size (6 * (L + (8192 * 3 + E)) + (sHalt 0).heap.chunk) := by
  have hg : cgc false (sHalt 0) = sHalt 0 := hHalt_cgc _ rfl
  have h1 : HistInstalls failingExt false (sHalt 0) [.rejected (sHalt 0), .rejected (sHalt 0)] (sHalt 0) := by
    refine .rejected ⟨rfl, .refl _⟩ ?_
    rw [hg]
    refine .rejected ⟨rfl, .refl _⟩ ?_
    rw [hg]
    exact .nil _
  refine history_capacity_bounded_installs failingExt_codeLawsV false failingExt_laws failingExt_good failingExt_proc
    failingExt_codePlain failingExt_allocOnly h1 (sHalt_vmOkP _ _) rfl (by decide) (sHalt_codePlain 0) ?_
  intro rc hrc
  have : rc = .rejected (sHalt 0) := by
    simp only [List.mem_cons, List.not_mem_nil, or_false] at hrc
    rcases hrc with h | h <;> exact h
  subst this
  exact ⟨sHalt_small 0, by rw [hg]; exact sHalt_small 0⟩

end installs

end Marwood.Proofs.C12
