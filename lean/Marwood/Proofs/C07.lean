import Marwood.Vm.Eval
import Marwood.Lemmas.StackWFToy
import Marwood.Lemmas.GoodEval
import Marwood.Proofs.C13
import Marwood.Lemmas.ConcreteLawsBpLive
import Marwood.Lemmas.PrepareHistory
/-!
# C07 — a failed evaluation leaves no trace beyond its completed effects

`Marwood.Vm.runEval` (Vm/Eval.lean) is one `run_count` call with its two epilogues (run.rs, the error path
as after the `fix:`); it is started from `prepare s entry`, the `ip` assignment that ends `prepare_eval`.
T07.1–T07.3 (`failed_eval_resets`, `sp_zero_between_evaluations`, `quiescent_no_frames`) hold for every heap,
every instruction semantics `ops`, every collector with `GcRegs` and every program; T07.2 assumes `Balanced`,
which is then proved for verified code (`CodeLaws`/`GcLaws`) and on the concrete heap `CHeap` with the collector
`cgc`, over the callee-guarded machine `gops ext`. T07.4, the equivalence of later evaluations, is about the
unguarded `concreteOps ext` (`Concrete.machine`); the two machines step alike in `CalleeOk` states (`step_gops`).
-/
namespace Marwood.Proofs.C07
open Marwood.Vm

variable {H : Type}

/-- the register file and stack of a VM that has no evaluation in progress -/
def Quiescent (s : St H) : Prop :=
  s.stack.sp = 0 ∧ s.bp = 0 ∧ s.ep = usizeMax ∧ s.acc = .undefined ∧
    ∀ c ∈ s.stack.cells, c = VCell.undefined

theorem onError_quiescent (s : St H) : Quiescent (onError s) := by
  refine ⟨rfl, rfl, rfl, rfl, ?_⟩
  intro c hc
  simp only [onError] at hc
  exact (List.mem_replicate.mp hc).2

theorem Quiescent.gc {gc : St H → St H} (hg : GcRegs gc) {s : St H} (h : Quiescent s) : Quiescent (gc s) := by
  obtain ⟨g1, g2, g3, g4, _, _⟩ := hg s
  obtain ⟨h1, h2, h3, h4, h5⟩ := h
  exact ⟨by rw [g1]; exact h1, by rw [g4]; exact h2, by rw [g3]; exact h3, by rw [g2]; exact h4,
    by rw [g1]; exact h5⟩

/-- T07.1: whatever the program, the depth at which it failed and the kind of failure, after a failed `run_count` the
    registers and the stack are those of an idle VM and the heap is the heap at the failing instruction — the completed
    definitions and mutations, nothing else — after the collection that ends the error path. -/
theorem failed_eval_resets (ops : HeapOps H) (gc : St H → St H) (count : Option Nat) (fuel : Nat)
    (s : St H) (f : Fault) (s' : St H) (h : runEval ops gc count fuel s = .failed f s')
    (hg : GcRegs gc) :
    Quiescent s' ∧ ∃ sf, runLoop ⟨vmStep ops, gc⟩ count fuel 0 s = .error f sf ∧
      s'.heap = (gc (onError sf)).heap ∧ s'.stack.cells.length = sf.stack.cells.length := by
  obtain ⟨sf, hr, rfl⟩ := runEval_failed.mp h
  exact ⟨(onError_quiescent sf).gc hg, sf, hr, rfl, by rw [(hg _).1]; simp [onError]⟩

/-- T07.3: a quiescent stack holds no return addresses, so the stack trace of any later failure
    lists only frames pushed by the evaluation that failed. -/
theorem quiescent_no_frames (s : St H) (h : Quiescent s) : traceFrames s = [] := by
  unfold traceFrames
  rw [h.1]; simp

theorem quiescent_stack_no_instrPtr (s : St H) (h : Quiescent s) :
    ∀ c ∈ s.stack.cells, ∀ l o, c ≠ VCell.instrPtr l o := by
  intro c hc l o he
  have := h.2.2.2.2 c hc
  rw [this] at he; cases he

/-- the entry lambda `prepare_eval` produced, and the fuel -/
structure Job where
  entry : Nat
  fuel : Nat

/-- evaluations that exhaust the model's fuel are skipped — they do not terminate in the real VM either -/
def runHistory (ops : HeapOps H) (gc : St H → St H) : List Job → St H → St H
  | [], s => s
  | j :: js, s =>
    match runEval ops gc none j.fuel (prepare s j.entry) with
    | .value s' => runHistory ops gc js s'
    | .failed _ s' => runHistory ops gc js s'
    | .paused s' => runHistory ops gc js s'
    | .fuel => runHistory ops gc js s

/-- for compiled code the calling convention (entry sequence `PUSH 0; CALL; HALT`, `RET` restores `sp`); for code the
    bytecode verifier accepts its conclusion is `balanced_sp` below -/
def Balanced (ops : HeapOps H) (gc : St H → St H) : Prop :=
  ∀ (s : St H) (entry fuel : Nat) (s' : St H), s.stack.sp = 0 →
    runEval ops gc none fuel (prepare s entry) = .value s' → s'.stack.sp = 0

theorem runHistory_induct (ops : HeapOps H) (gc : St H → St H) {J : List Job → St H → Prop}
    (hv : ∀ j js s s', J (j :: js) s → runEval ops gc none j.fuel (prepare s j.entry) = .value s' → J js s')
    (hf : ∀ j js s f s', J (j :: js) s → runEval ops gc none j.fuel (prepare s j.entry) = .failed f s' → J js s')
    (hz : ∀ j js s, J (j :: js) s → runEval ops gc none j.fuel (prepare s j.entry) = .fuel → J js s) :
    ∀ (js : List Job) (s : St H), J js s → J [] (runHistory ops gc js s) := by
  intro js
  induction js with
  | nil => intro s h; exact h
  | cons j js ih =>
    intro s h
    simp only [runHistory]
    cases hr : runEval ops gc none j.fuel (prepare s j.entry) with
    | value s' => exact ih s' (hv j js s s' h hr)
    | failed f s' => exact ih s' (hf j js s f s' h hr)
    | paused s' => exact absurd hr (runEval_none_not_paused ops gc _ _ s')
    | fuel => exact ih s (hz j js s h hr)

/-- T07.2: the stack pointer between evaluations is 0 — failures never accumulate stack depth (T07.1), successes return
    to 0 by `Balanced`. -/
theorem sp_zero_between_evaluations (ops : HeapOps H) (gc : St H → St H) (hg : GcRegs gc)
    (hB : Balanced ops gc) : ∀ (js : List Job) (s : St H), s.stack.sp = 0 →
      (runHistory ops gc js s).stack.sp = 0 := by
  exact runHistory_induct ops gc (J := fun _ s => s.stack.sp = 0) (fun j _ s s' h hr => hB s j.entry j.fuel s' h hr)
    (fun j _ _ f s' _ hr => (failed_eval_resets ops gc none j.fuel _ f s' hr hg).1.1) (fun _ _ _ h _ => h)

/-- k consecutive failures: no hypothesis about the programs. After each one the VM is quiescent. -/
theorem consecutive_failures_quiescent (ops : HeapOps H) (gc : St H → St H) (hg : GcRegs gc) :
    ∀ (js : List Job) (s : St H), Quiescent s →
      (∀ j ∈ js, ∀ s0, ∃ f s', runEval ops gc none j.fuel (prepare s0 j.entry) = .failed f s') →
      Quiescent (runHistory ops gc js s) := by
  intro js s hq hall
  refine (runHistory_induct ops gc
    (J := fun js s => Quiescent s ∧ ∀ j ∈ js, ∀ s0, ∃ f s', runEval ops gc none j.fuel (prepare s0 j.entry) = .failed f s')
    ?_ ?_ ?_ js s ⟨hq, hall⟩).1
  -- every job fails: the other two cases contradict `hall`
  · intro j js s s' ⟨_, hall⟩ hr
    obtain ⟨f, s'', hf⟩ := hall j (by simp) s
    rw [hr] at hf; cases hf
  · intro j js s f s' ⟨_, hall⟩ hr
    exact ⟨(failed_eval_resets ops gc none j.fuel _ f s' hr hg).1, fun j' hj' => hall j' (by simp [hj'])⟩
  · intro j js s ⟨_, hall⟩ hr
    obtain ⟨f, s'', hf⟩ := hall j (by simp) s
    rw [hr] at hf; cases hf

/-- a heap-less toy instance: the lambda at 7 is `HALT`, everything else fails to fetch -/
def toyOps : HeapOps Unit where
  fetch _ l o := if l = 7 ∧ o = 0 then some (.opcode .halt) else none
  isLambda _ _ := true
  callee _ _ := .other
  lambdaInfo _ _ := none
  deref _ v := v
  getAt _ _ := .undefined
  setAt h _ _ := h
  put h v := (h, v)
  maybePut h v := (h, v)
  newCont h _ := (h, .undefined)
  globGet _ _ := .undefined
  globPut h _ _ := h
  envGet _ _ _ := none
  envPut _ _ _ _ := none
  makeClosure _ _ _ _ _ := .err .invalidBytecode
  makeActivation _ _ _ _ _ := .err .invalidBytecode
  vectorPush _ _ _ := .err .expectedType
  builtinKind _ _ := .generic
  builtinEval _ _ _ := .err .invalidSyntax
  compileEval _ _ := .err .invalidSyntax
  isProcedure _ _ := false

def toyState : St Unit :=
  { heap := (), stack := { cells := [.undefined, .bool true, .instrPtr 3 4], sp := 2 },
    acc := .bool true, ep := 5, ipL := 9, ipO := 0, bp := 1 }

example : ∃ f s', runEval toyOps id none 10 toyState = .failed f s' ∧ Quiescent s' := by
  refine ⟨.err .invalidBytecode, onError toyState, rfl, onError_quiescent _⟩

example : ∃ s', runEval toyOps id none 10 (prepare toyState 7) = .value s' := ⟨_, rfl⟩

example : GcRegs (id : St Unit → St Unit) := fun _ => ⟨rfl, rfl, rfl, rfl, rfl, rfl⟩

/-! ## `Balanced` for verified code: a consequence of WF-stack (`Lemmas/StackWF*.lean`) under `CodeLaws` and `GcLaws` -/

def EntryOK {ops : HeapOps H} (cl : CodeLaws ops) (entry : Nat) : Prop :=
  ∀ h, cl.HInv h → ∃ t, tyOf (cl.code h) entry = some t ∧ t.entry = true

/-- no evaluation in progress, as far as the stack discipline is concerned -/
def Idle {ops : HeapOps H} (cl : CodeLaws ops) (s : St H) : Prop :=
  cl.HInv s.heap ∧ s.stack.sp = cl.e ∧ s.stack.sp < s.stack.cells.length ∧ cl.Val s.acc

/-- per-state form of `balanced_of_verified` -/
theorem balanced_at {ops : HeapOps H} (cl : CodeLaws ops) {gc : St H → St H} (gl : GcLaws cl gc)
    (s : St H) (entry fuel : Nat) (s' : St H) (hidle : Idle cl s)
    (hentry : ∃ t, tyOf (cl.code s.heap) entry = some t ∧ t.entry = true)
    (hr : runEval ops gc none fuel (prepare s entry) = .value s') : Idle cl s' := by
  obtain ⟨t, ht, hent⟩ := hentry
  have hw := WFS.initial (entry := entry) hidle.1 ht hent hidle.2.1 hidle.2.2.1 hidle.2.2.2
  have key := runLoop_wf gl none fuel 0 (prepare s entry) [] hw
  obtain ⟨sd, hd, rfl⟩ := runEval_value.mp hr
  rw [hd] at key
  obtain ⟨k1, k2, k3, k4⟩ := key
  obtain ⟨g1, _, _, _⟩ := gl.frame (onDone sd)
  refine ⟨gl.inv _ k2, ?_, ?_, ?_⟩
  · rw [g1]; exact k1
  · rw [g1]; simpa [onDone, Stack.clear] using k3
  · rw [gl.acc]; exact k4

/-- per-state form of `failed_idle` -/
theorem failed_idle_at {ops : HeapOps H} (cl : CodeLaws ops) (he : cl.e = 0) {gc : St H → St H}
    (gl : GcLaws cl gc) (s : St H) (entry fuel : Nat) (f : Fault) (s' : St H) (hidle : Idle cl s)
    (hentry : ∃ t, tyOf (cl.code s.heap) entry = some t ∧ t.entry = true)
    (hr : runEval ops gc none fuel (prepare s entry) = .failed f s') : Idle cl s' := by
  obtain ⟨t, ht, hent⟩ := hentry
  have hw := WFS.initial (entry := entry) hidle.1 ht hent hidle.2.1 hidle.2.2.1 hidle.2.2.2
  have key := runLoop_wf gl none fuel 0 (prepare s entry) [] hw
  obtain ⟨sf, hd, rfl⟩ := runEval_failed.mp hr
  rw [hd] at key
  obtain ⟨k1, k2, _⟩ := key
  obtain ⟨g1, _, _, _⟩ := gl.frame (onError sf)
  refine ⟨gl.inv (onError sf) k1, by rw [g1, he]; rfl, ?_, by rw [gl.acc]; exact cl.val_imm _ rfl⟩
  rw [g1]
  show 0 < (List.replicate sf.stack.cells.length VCell.undefined).length
  simp; omega

/-- **`Balanced`, proved**: a successful evaluation of verified code returns `sp` to its entry value. -/
theorem balanced_of_verified {ops : HeapOps H} (cl : CodeLaws ops) {gc : St H → St H} (gl : GcLaws cl gc)
    (s : St H) (entry fuel : Nat) (s' : St H) (hidle : Idle cl s) (hentry : EntryOK cl entry)
    (hr : runEval ops gc none fuel (prepare s entry) = .value s') : Idle cl s' :=
  balanced_at cl gl s entry fuel s' hidle (hentry s.heap hidle.1) hr

/-- a failed evaluation of verified code leaves an idle machine, too (T07.1 + the heap invariant) -/
theorem failed_idle {ops : HeapOps H} (cl : CodeLaws ops) (he : cl.e = 0) {gc : St H → St H} (gl : GcLaws cl gc)
    (s : St H) (entry fuel : Nat) (f : Fault) (s' : St H) (hidle : Idle cl s) (hentry : EntryOK cl entry)
    (hr : runEval ops gc none fuel (prepare s entry) = .failed f s') : Idle cl s' :=
  failed_idle_at cl he gl s entry fuel f s' hidle (hentry s.heap hidle.1) hr

/-- **T07.2 for verified code**; `Balanced` is not assumed. -/
theorem sp_zero_between_evaluations_verified {ops : HeapOps H} (cl : CodeLaws ops) (he : cl.e = 0)
    {gc : St H → St H} (gl : GcLaws cl gc) : ∀ (js : List Job) (s : St H),
      (∀ j ∈ js, EntryOK cl j.entry) → Idle cl s →
      Idle cl (runHistory ops gc js s) ∧ (runHistory ops gc js s).stack.sp = 0 := by
  intro js s hall h
  have := runHistory_induct ops gc (J := fun js s => (∀ j ∈ js, EntryOK cl j.entry) ∧ Idle cl s)
    (fun j js s s' ⟨hall, h⟩ hr => ⟨fun j' hj' => hall j' (by simp [hj']),
      balanced_of_verified cl gl s j.entry j.fuel s' h (hall j (by simp)) hr⟩)
    (fun j js s f s' ⟨hall, h⟩ hr => ⟨fun j' hj' => hall j' (by simp [hj']),
      failed_idle cl he gl s j.entry j.fuel f s' h (hall j (by simp)) hr⟩)
    (fun j js s ⟨hall, h⟩ _ => ⟨fun j' hj' => hall j' (by simp [hj']), h⟩) js s ⟨hall, h⟩
  exact ⟨this.2, by rw [this.2.2.1, he]⟩

/-- on idle machines running verified entry code, `Balanced` holds -/
theorem balanced_sp {ops : HeapOps H} (cl : CodeLaws ops) (he : cl.e = 0) {gc : St H → St H} (gl : GcLaws cl gc)
    (s : St H) (entry fuel : Nat) (s' : St H) (hi : cl.HInv s.heap) (hcap : 0 < s.stack.cells.length)
    (hacc : cl.Val s.acc)
    (hentry : EntryOK cl entry) (hsp : s.stack.sp = 0)
    (hr : runEval ops gc none fuel (prepare s entry) = .value s') : s'.stack.sp = 0 := by
  have := balanced_of_verified cl gl s entry fuel s' ⟨hi, by rw [hsp, he], by rw [hsp]; exact hcap, hacc⟩ hentry hr
  rw [this.2.1, he]

/-! ### non-vacuity: a concrete verified program (`Lemmas/StackWFToy.lean`): entry code
`PUSHIMM argc0; MOVIMM λ2 acc; CALL; HALT` calling `λ2 = ENTER; MOVIMM void acc; RET` -/

open Marwood.Vm.Toy in
example : Idle Toy.laws Toy.idle ∧ EntryOK Toy.laws 1 :=
  ⟨⟨trivial, rfl, by decide, trivial⟩, fun _ _ => Toy.entry1⟩

open Marwood.Vm.Toy in
example : ∃ s', runEval Toy.ops id none 20 (prepare Toy.idle 1) = .value s' ∧ s'.stack.sp = 0 := by
  refine ⟨_, rfl, ?_⟩
  decide +kernel

open Marwood.Vm.Toy in
example : (runHistory Toy.ops id [⟨1, 20⟩, ⟨1, 20⟩, ⟨9, 20⟩, ⟨1, 20⟩] Toy.idle).stack.sp = 0 := by
  decide +kernel

/-! ## T07.2 on the concrete heap, for the callee-guarded machine `gops ext`

`EntryOK` asks for entry code at `j.entry` in *every* invariant heap; `prepare_eval` compiles the entry lambda into the heap
of the moment, so the concrete statement asks for it in the state the job starts in (`HistOK`). The machine is `gops ext`
(`concreteOps ext` with the callee guard; its `step` is `concreteOps ext`'s in every `CalleeOk` state, `step_gops`). -/

section Concrete
open Marwood.Vm.Concrete Marwood.Vm.Verify

def EntryAt (s : St CHeap) (entry : Nat) : Prop :=
  ∃ lam, lambdaAt s.heap entry = some lam ∧ isEntryCode lam.bc = true

def HistOK (ext : ExtOps) (force : Bool) : List Job → St CHeap → Prop
  | [], _ => True
  | j :: js, s => EntryAt s j.entry ∧
    match runEval (gops ext) (cgc force) none j.fuel (prepare s j.entry) with
    | .value s' => HistOK ext force js s'
    | .failed _ s' => HistOK ext force js s'
    | .paused s' => HistOK ext force js s'
    | .fuel => HistOK ext force js s

theorem entryAt_ty {ext : ExtOps} {ecl : ExtCodeLaws ext} {s : St CHeap} {entry : Nat}
    (hi : CInv s.heap) (he : EntryAt s entry) :
    ∃ t, tyOf ((concreteLaws ext ecl).code s.heap) entry = some t ∧ t.entry = true := by
  obtain ⟨lam, hl, hent⟩ := he
  have hv := hi.lamVer entry lam (lambdaAt_iff.mp hl)
  cases ht : verifyLam lam.bc with
  | none => rw [ht] at hv; cases hv
  | some t =>
    refine ⟨t, ?_, by rw [verifyLam_entry ht]; exact hent⟩
    show tyOf (codeC s.heap) entry = some t
    unfold tyOf codeC; rw [hl]; exact ht

/-- **T07.2 on the concrete heap**, with the real collector `cgc`. `Balanced` is not assumed; `CodeLaws` / `GcLaws` are the
    theorems `concreteLaws`, `cgc_gcLaws`. -/
theorem sp_zero_between_evaluations_concrete (ext : ExtOps) (ecl : ExtCodeLaws ext) (force : Bool) :
    ∀ (js : List Job) (s : St CHeap), CInv s.heap → s.stack.sp = 0 → 0 < s.stack.cells.length →
      HistOK ext force js s →
      CInv (runHistory (gops ext) (cgc force) js s).heap ∧
        (runHistory (gops ext) (cgc force) js s).stack.sp = 0 := by
  intro js s hi hsp hcap hok
  have := runHistory_induct (gops ext) (cgc force)
    (J := fun js s => Idle (concreteLaws ext ecl) s ∧ HistOK ext force js s)
    (fun j js s s' ⟨h, hent, hrest⟩ hr => by
      rw [hr] at hrest
      exact ⟨balanced_at _ (cgc_gcLaws ext ecl force) s j.entry j.fuel s' h (entryAt_ty h.1 hent) hr, hrest⟩)
    (fun j js s f s' ⟨h, hent, hrest⟩ hr => by
      rw [hr] at hrest
      exact ⟨failed_idle_at _ rfl (cgc_gcLaws ext ecl force) s j.entry j.fuel f s' h (entryAt_ty h.1 hent) hr, hrest⟩)
    (fun j js s ⟨h, _, hrest⟩ hr => by rw [hr] at hrest; exact ⟨h, hrest⟩)
    js s ⟨⟨hi, hsp, by rw [hsp]; exact hcap, trivial⟩, hok⟩
  exact ⟨this.1.1, this.1.2.1⟩

end Concrete

/-! ## The machine `concreteOps ext` with the collector `cgc`: T07.1–T07.3, and the equivalence clause T07.4

T07.4 — every later evaluation returns what it would have returned in a VM that only performed the definitions and mutations
the failed evaluation completed: the state after the error epilogue, `cgc force (onError sf)`, is `Sim`-related to the **twin**
`onError sf` (the heap of the failing instruction with idle registers and no collection: `failed_twin_sim`); `prepare_eval`
of the same form on both keeps them related (`prepare_sim`; laws `CompLaws`, `CompGood` of the unmodelled compiler), and the
heap simulation (`gcTransparent_concrete_partial`, Proofs/C13.lean) carries the relation through the later evaluation.
`addrFree d`: the later form holds no heap address. The sections after `failed_eval_equivalent_later` derive the hypotheses
along the runs, all but the size bound, from invariants of the three starting states. -/
section ConcreteSim
open Marwood.Vm.Concrete Marwood.Lemmas.Sim Marwood.Lemmas.Good Marwood.Proofs.C13

/-- T07.1 for the real collector model -/
theorem failed_eval_resets_cgc (ext : ExtOps) (force : Bool) (count : Option Nat) (fuel : Nat)
    (s : St CHeap) (f : Fault) (s' : St CHeap)
    (h : runEval (concreteOps ext) (cgc force) count fuel s = .failed f s') :
    Quiescent s' ∧ ∃ sf, runLoop (machine ext force) count fuel 0 s = .error f sf ∧
      s' = cgc force (onError sf) ∧ s'.stack.cells.length = sf.stack.cells.length := by
  obtain ⟨sf, h1, rfl⟩ := runEval_failed.mp h
  exact ⟨(onError_quiescent sf).gc (cgc_regs force), sf, h1, rfl, by rw [(cgc_regs force _).1]; simp [onError]⟩

/-- `Balanced` is a hypothesis here; the statement without it, `sp_zero_between_evaluations_concrete`, is over `gops ext` -/
theorem sp_zero_between_evaluations_cgc (ext : ExtOps) (force : Bool)
    (hB : Balanced (concreteOps ext) (cgc force)) (js : List Job) (s : St CHeap) (h : s.stack.sp = 0) :
    (runHistory (concreteOps ext) (cgc force) js s).stack.sp = 0 :=
  sp_zero_between_evaluations _ _ (cgc_regs force) hB js s h

/-- k consecutive failures on the real collector model -/
theorem consecutive_failures_quiescent_cgc (ext : ExtOps) (force : Bool) (js : List Job) (s : St CHeap)
    (hq : Quiescent s)
    (hall : ∀ j ∈ js, ∀ s0, ∃ f s', runEval (concreteOps ext) (cgc force) none j.fuel (prepare s0 j.entry) = .failed f s') :
    Quiescent (runHistory (concreteOps ext) (cgc force) js s) :=
  consecutive_failures_quiescent _ _ (cgc_regs force) js s hq hall

/-- the state a run of the concrete machine ends in is reachable -/
theorem runLoop_reaches (ext : ExtOps) (force : Bool) (count : Option Nat) :
    ∀ (fuel c : Nat) (s : St CHeap),
      (∀ e sf, runLoop (machine ext force) count fuel c s = .error e sf → Reaches (machine ext force) s sf) ∧
      (∀ sd, runLoop (machine ext force) count fuel c s = .done sd → Reaches (machine ext force) s sd) :=
  fun fuel c s => ⟨(runLoop_last ext force count fuel c s).2, fun sd h =>
    let ⟨_, h1, h2⟩ := (runLoop_last ext force count fuel c s).1 sd h; .halt h1 h2⟩

/-- both runs with collections are compared with the collection-free reference run from `t2` (`run_pureN`, once with
    `R s2 t2`, once with `R t2 t2`) -/
theorem same_end_of_sim (ext : ExtOps) (force : Bool) (el : ExtLaws ext) {s2 t2 : St CHeap}
    (hR : R (machine ext force) s2 t2) (k : Nat) :
    (∀ t', pureN (machine ext force) k t2 = .done t' →
      ∃ s' t'', run (machine ext force) k s2 = .done s' ∧ run (machine ext force) k t2 = .done t'' ∧
        ∀ fl, resultObs fl s' = resultObs fl t'') ∧
    (∀ e t', pureN (machine ext force) k t2 = .error e t' →
      ∃ s' t'', run (machine ext force) k s2 = .error e s' ∧ run (machine ext force) k t2 = .error e t'' ∧
        (∃ ψ, Sim ψ s' t' ∧ All2 (AddrRel ψ) (traceFrames s') (traceFrames t')) ∧
        (∃ ψ, Sim ψ t'' t' ∧ All2 (AddrRel ψ) (traceFrames t'') (traceFrames t'))) := by
  have hT := gcTransparent_concrete_partial ext force el
  have a := run_pureN _ _ hT k 0 s2 t2 hR
  have b := run_pureN _ _ hT k 0 t2 t2 (R_refl _ hR.2.2)
  constructor
  · intro t' hk
    obtain ⟨s', h1, ⟨⟨φ1, r1⟩, ss1, st1⟩⟩ := a.1 t' hk
    obtain ⟨t'', h2, ⟨⟨φ2, r2⟩, ss2, st2⟩⟩ := b.1 t' hk
    refine ⟨s', t'', h1, h2, fun fl => ?_⟩
    rw [resultObs_sim r1 ss1.good.size st1.good.size fl, resultObs_sim r2 ss2.good.size st2.good.size fl]
  · intro e t' hk
    obtain ⟨s', h1, ⟨⟨φ1, r1⟩, _, _⟩⟩ := a.2 e t' hk
    obtain ⟨t'', h2, ⟨⟨φ2, r2⟩, _, _⟩⟩ := b.2 e t' hk
    exact ⟨s', t'', h1, h2, ⟨φ1, r1, traceFrames_rel r1⟩, ⟨φ2, r2, traceFrames_rel r2⟩⟩

/-- the core of T07.4, for whatever reason the prepared states are `Safe` -/
theorem twin_later_same_end (ext : ExtOps) (force : Bool) (el : ExtLaws ext)
    (comp : CHeap → VCell → Outcome (CHeap × VCell)) (cl : CompLaws comp) {sf : St CHeap}
    (gsf : GoodI sf) (sm1 : Small (cgc force (onError sf)).heap) (smt1 : Small (onError sf).heap)
    (w1 : Heap.WFHeap true (toHeap (cgc force (onError sf)).heap)) (wt1 : Heap.WFHeap true (toHeap (onError sf).heap)) :
    (∃ ψ, Sim ψ (cgc force (onError sf)) (onError sf)) ∧
      ∀ (d : VCell) (s2 t2 : St CHeap), addrFree d = true →
        prepareEval comp (cgc force (onError sf)) d = .ok s2 → prepareEval comp (onError sf) d = .ok t2 →
        Safe (machine ext force) s2 → Safe (machine ext force) t2 → ∀ k : Nat,
          (∀ t', pureN (machine ext force) k t2 = .done t' →
            ∃ s' t'', run (machine ext force) k s2 = .done s' ∧ run (machine ext force) k t2 = .done t'' ∧
              ∀ fl, resultObs fl s' = resultObs fl t'') ∧
          (∀ e t', pureN (machine ext force) k t2 = .error e t' →
            ∃ s' t'', run (machine ext force) k s2 = .error e s' ∧ run (machine ext force) k t2 = .error e t'' ∧
              (∃ ψ, Sim ψ s' t' ∧ All2 (AddrRel ψ) (traceFrames s') (traceFrames t')) ∧
              (∃ ψ, Sim ψ t'' t' ∧ All2 (AddrRel ψ) (traceFrames t'') (traceFrames t'))) := by
  obtain ⟨ψ0, hsim0⟩ := failed_twin_sim force gsf sm1
  refine ⟨⟨ψ0, hsim0⟩, fun d s2 t2 hd hs2 ht2 safe2 safet k => ?_⟩
  obtain ⟨ψ, hsim⟩ := prepare_sim cl hsim0 sm1.sizeOk smt1.sizeOk (SymOk.of_wf w1) (SymOk.of_wf wt1) hd hs2 ht2
  exact same_end_of_sim ext force el ⟨⟨ψ, hsim⟩, safe2, safet⟩ k

/-- **T07.4 (equivalence clause).** After a failed evaluation, the next evaluation — the form `d`, any number `k` of
    instructions — on the VM that failed (`s1`) and on the twin (`onError sf`) ends the same way: if the twin's evaluation
    reaches HALT so does the other and the datum in `acc` is equal; if it fails, the other fails with the same error, in
    `Sim`-related states whose stack-trace frames (`traceFrames`) are related one by one to those of the collection-free
    reference run. -/
theorem failed_eval_equivalent_later (ext : ExtOps) (force : Bool) (el : ExtLaws ext) (eg : ExtGood ext)
    (comp : CHeap → VCell → Outcome (CHeap × VCell)) (cl : CompLaws comp) (cg : CompGood comp)
    (count : Option Nat) (fuel : Nat) (s : St CHeap) (f : Fault) (s1 : St CHeap)
    (hfail : runEval (concreteOps ext) (cgc force) count fuel s = .failed f s1)
    (g : GoodI s) (sb : SizeBounded (machine ext force) s) (sdl : StackDiscAlong (machine ext force) s)
    (sm1 : Small s1.heap) :
    ∃ sf, runLoop (machine ext force) count fuel 0 s = .error f sf ∧ s1 = cgc force (onError sf) ∧
      (∃ ψ, Sim ψ s1 (onError sf)) ∧
      ∀ (d : VCell) (s2 t2 : St CHeap), addrFree d = true →
        prepareEval comp s1 d = .ok s2 → prepareEval comp (onError sf) d = .ok t2 →
        SizeBounded (machine ext force) s2 → StackDiscAlong (machine ext force) s2 →
        SizeBounded (machine ext force) t2 → StackDiscAlong (machine ext force) t2 →
        ∀ k : Nat,
          (∀ t', pureN (machine ext force) k t2 = .done t' →
            ∃ s' t'', run (machine ext force) k s2 = .done s' ∧ run (machine ext force) k t2 = .done t'' ∧
              ∀ fl, resultObs fl s' = resultObs fl t'') ∧
          (∀ e t', pureN (machine ext force) k t2 = .error e t' →
            ∃ s' t'', run (machine ext force) k s2 = .error e s' ∧ run (machine ext force) k t2 = .error e t'' ∧
              (∃ ψ, Sim ψ s' t' ∧ All2 (AddrRel ψ) (traceFrames s') (traceFrames t')) ∧
              (∃ ψ, Sim ψ t'' t' ∧ All2 (AddrRel ψ) (traceFrames t'') (traceFrames t'))) := by
  obtain ⟨q1, sf, hrun, rfl, _⟩ := failed_eval_resets_cgc ext force count fuel s f s1 hfail
  have hreach : Reaches (machine ext force) s sf := (runLoop_reaches ext force count fuel 0 s).1 f sf hrun
  have gsf : GoodI sf := goodI_reaches force el eg g sb sdl sf hreach
  have gt1 : GoodI (onError sf) := onError_goodI gsf
  have gs1 : GoodI (cgc force (onError sf)) := good_gc force gt1 sm1
  have smt1 : Small (onError sf).heap := sb sf hreach
  obtain ⟨hs0, hall⟩ := twin_later_same_end ext force el comp cl gsf sm1 smt1 gs1.hg.wf gt1.hg.wf
  refine ⟨sf, hrun, rfl, hs0, ?_⟩
  intro d s2 t2 hd hs2 ht2 sb2 sd2 sbt sdt k
  have qt1 : Quiescent (onError sf) := onError_quiescent sf
  have sent : Heap.Sentinel usizeMax := by unfold Heap.Sentinel usizeMax; decide
  have gs2 : GoodI s2 := prepare_goodI cg gs1 q1.2.2.2.1 (by rw [q1.2.2.1]; exact sent) q1.2.2.2.2 hd hs2
    (sb2 s2 (.refl s2))
  have gt2 : GoodI t2 := prepare_goodI cg gt1 qt1.2.2.2.1 (by rw [qt1.2.2.1]; exact sent) qt1.2.2.2.2 hd ht2
    (sbt t2 (.refl t2))
  exact hall d s2 t2 hd hs2 ht2 (safe_of_good force el eg gs2 sb2 sd2) (safe_of_good force el eg gt2 sbt sdt) k

/-- the laws of the unmodelled compiler are satisfiable: by the compiler that rejects every form -/
theorem rejecting_compLaws : CompLaws (fun _ _ => .err .invalidSyntax) := ⟨fun _ _ _ _ _ _ _ _ _ _ => .err⟩
theorem rejecting_compGood : CompGood (fun _ _ => .err .invalidSyntax) := ⟨fun _ _ _ _ _ _ _ h => (by cases h)⟩

example : CompLaws (fun _ _ => .err .invalidSyntax) ∧ CompGood (fun _ _ => .err .invalidSyntax) :=
  ⟨rejecting_compLaws, rejecting_compGood⟩

open Marwood.Lemmas.Good.Demo in
/-- running on past the `HALT` of the one-instruction program fails with `InvalidBytecode` -/
theorem demo_failed_eval : runEval (concreteOps failingExt) (cgc false) none 5 (sHalt 1) =
    .failed (.err .invalidBytecode) (cgc false (onError (sHalt 1))) := by
  refine runEval_failed.mpr ⟨sHalt 1, ?_, rfl⟩
  have h1 : vmStep (concreteOps failingExt) (sHalt 1) = .fail (.err .invalidBytecode) (sHalt 1) :=
    sHalt_step1 failingExt false
  simp [runLoop, h1]

open Marwood.Lemmas.Good.Demo in
theorem demo_failed_small : Small (cgc false (onError (sHalt 1))).heap := by
  have e : cgc false (onError (sHalt 1)) = onError (sHalt 1) := by
    unfold cgc
    have : Heap.Heap.runGc true false (toHeap (onError (sHalt 1)).heap) (rootsOf (onError (sHalt 1))) =
        .ok (.skipped eHalt) := by
      show Heap.Heap.runGc true false (toHeap hHalt) _ = _
      rw [toHeap_hHalt]; rfl
    rw [this]
  rw [e]; exact sHalt_small 1

open Marwood.Lemmas.Good.Demo in
example : ∃ sf, runLoop (machine failingExt false) none 5 0 (sHalt 1) = .error (.err .invalidBytecode) sf ∧
    cgc false (onError (sHalt 1)) = cgc false (onError sf) ∧ (∃ ψ, Sim ψ (cgc false (onError (sHalt 1))) (onError sf)) := by
  obtain ⟨sf, h1, h2, h3, _⟩ := failed_eval_equivalent_later failingExt false failingExt_laws failingExt_good
    _ rejecting_compLaws rejecting_compGood
    none 5 (sHalt 1) _ _ demo_failed_eval (sHalt_goodI 1) (sHalt_sizeBounded1 _) (sHalt_discAlong1 _) demo_failed_small
  exact ⟨sf, h1, h2, h3⟩

open Marwood.Lemmas.Good.Demo in
example : Quiescent (cgc false (onError (sHalt 1))) :=
  (failed_eval_resets_cgc _ _ _ _ _ _ _ demo_failed_eval).1

/-! ### T07.4 from `VmOk` of the starting states: `StackDiscAlong` follows (`stackDiscAlong_of_wfs`) -/

/-- **T07.4 from the bundled invariant of the initial states**: of the failing evaluation (`s`) and of the later
    evaluation on both machines (`s2`, `t2`: what `prepare_eval` made of the failed VM and of its twin). -/
theorem failed_eval_equivalent_later_wf (ext : ExtOps) (force : Bool) (el : ExtLaws ext) (eg : ExtGood ext)
    (ecl : ExtCodeLawsV ext)
    (comp : CHeap → VCell → Outcome (CHeap × VCell)) (cl : CompLaws comp) (cg : CompGood comp)
    (count : Option Nat) (fuel : Nat) (s : St CHeap) (f : Fault) (s1 : St CHeap)
    (hfail : runEval (concreteOps ext) (cgc force) count fuel s = .failed f s1)
    (h0 : VmOk ext ecl s) (sb : SizeBounded (machine ext force) s) (ca : CalleeOkAlong (machine ext force) s)
    (sm1 : Small s1.heap) :
    ∃ sf, runLoop (machine ext force) count fuel 0 s = .error f sf ∧ s1 = cgc force (onError sf) ∧
      (∃ ψ, Sim ψ s1 (onError sf)) ∧
      ∀ (d : VCell) (s2 t2 : St CHeap), addrFree d = true →
        prepareEval comp s1 d = .ok s2 → prepareEval comp (onError sf) d = .ok t2 →
        SizeBounded (machine ext force) s2 → VmOk ext ecl s2 → CalleeOkAlong (machine ext force) s2 →
        SizeBounded (machine ext force) t2 → VmOk ext ecl t2 → CalleeOkAlong (machine ext force) t2 →
        ∀ k : Nat,
          (∀ t', pureN (machine ext force) k t2 = .done t' →
            ∃ s' t'', run (machine ext force) k s2 = .done s' ∧ run (machine ext force) k t2 = .done t'' ∧
              ∀ fl, resultObs fl s' = resultObs fl t'') ∧
          (∀ e t', pureN (machine ext force) k t2 = .error e t' →
            ∃ s' t'', run (machine ext force) k s2 = .error e s' ∧ run (machine ext force) k t2 = .error e t'' ∧
              (∃ ψ, Sim ψ s' t' ∧ All2 (AddrRel ψ) (traceFrames s') (traceFrames t')) ∧
              (∃ ψ, Sim ψ t'' t' ∧ All2 (AddrRel ψ) (traceFrames t'') (traceFrames t'))) := by
  obtain ⟨sf, h1, h2, h3, h4⟩ := failed_eval_equivalent_later ext force el eg comp cl cg count fuel s f s1 hfail
    h0.1 sb (stackDiscAlong_of_wfs force el eg h0 sb ca) sm1
  refine ⟨sf, h1, h2, h3, ?_⟩
  intro d s2 t2 hd hs2 ht2 sb2 v2 c2 sbt vt ct k
  exact h4 d s2 t2 hd hs2 ht2 sb2 (stackDiscAlong_of_wfs force el eg v2 sb2 c2) sbt
    (stackDiscAlong_of_wfs force el eg vt sbt ct) k

open Marwood.Lemmas.Good.Demo in
example : ∃ sf, runLoop (machine failingExt false) none 5 0 (sHalt 1) = .error (.err .invalidBytecode) sf ∧
    cgc false (onError (sHalt 1)) = cgc false (onError sf) ∧ (∃ ψ, Sim ψ (cgc false (onError (sHalt 1))) (onError sf)) := by
  obtain ⟨sf, h1, h2, h3, _⟩ := failed_eval_equivalent_later_wf failingExt false failingExt_laws failingExt_good
    failingExt_codeLawsV
    _ rejecting_compLaws rejecting_compGood
    none 5 (sHalt 1) _ _ demo_failed_eval (sHalt1_vmOk _ _) (sHalt_sizeBounded1 _) (sHalt_calleeOkAlong1 _)
    demo_failed_small
  exact ⟨sf, h1, h2, h3⟩

/-! ### T07.4 from `VmOk` and `PInv` of the starting states: `CalleeOkAlong` follows (`calleeOkAlong_of_vmOk`) -/

/-- **T07.4 with no hypothesis along the runs but the size bound** -/
theorem failed_eval_equivalent_later_closed (ext : ExtOps) (force : Bool) (el : ExtLaws ext) (eg : ExtGood ext)
    (ecl : ExtCodeLawsV ext) (ep : ExtProc ext)
    (comp : CHeap → VCell → Outcome (CHeap × VCell)) (cl : CompLaws comp) (cg : CompGood comp)
    (count : Option Nat) (fuel : Nat) (s : St CHeap) (f : Fault) (s1 : St CHeap)
    (hfail : runEval (concreteOps ext) (cgc force) count fuel s = .failed f s1)
    (h0 : VmOk ext ecl s) (p0 : PInv s) (sb : SizeBounded (machine ext force) s) (sm1 : Small s1.heap) :
    ∃ sf, runLoop (machine ext force) count fuel 0 s = .error f sf ∧ s1 = cgc force (onError sf) ∧
      (∃ ψ, Sim ψ s1 (onError sf)) ∧
      ∀ (d : VCell) (s2 t2 : St CHeap), addrFree d = true →
        prepareEval comp s1 d = .ok s2 → prepareEval comp (onError sf) d = .ok t2 →
        SizeBounded (machine ext force) s2 → VmOk ext ecl s2 → PInv s2 →
        SizeBounded (machine ext force) t2 → VmOk ext ecl t2 → PInv t2 →
        ∀ k : Nat,
          (∀ t', pureN (machine ext force) k t2 = .done t' →
            ∃ s' t'', run (machine ext force) k s2 = .done s' ∧ run (machine ext force) k t2 = .done t'' ∧
              ∀ fl, resultObs fl s' = resultObs fl t'') ∧
          (∀ e t', pureN (machine ext force) k t2 = .error e t' →
            ∃ s' t'', run (machine ext force) k s2 = .error e s' ∧ run (machine ext force) k t2 = .error e t'' ∧
              (∃ ψ, Sim ψ s' t' ∧ All2 (AddrRel ψ) (traceFrames s') (traceFrames t')) ∧
              (∃ ψ, Sim ψ t'' t' ∧ All2 (AddrRel ψ) (traceFrames t'') (traceFrames t'))) := by
  obtain ⟨sf, h1, h2, h3, h4⟩ := failed_eval_equivalent_later_wf ext force el eg ecl comp cl cg count fuel s f s1 hfail
    h0 sb (calleeOkAlong_of_vmOk force el eg ep h0 p0 sb) sm1
  refine ⟨sf, h1, h2, h3, ?_⟩
  intro d s2 t2 hd hs2 ht2 sb2 v2 p2 sbt vt pt k
  exact h4 d s2 t2 hd hs2 ht2 sb2 v2 (calleeOkAlong_of_vmOk force el eg ep v2 p2 sb2) sbt vt
    (calleeOkAlong_of_vmOk force el eg ep vt pt sbt) k

open Marwood.Lemmas.Good.Demo in
example : ∃ sf, runLoop (machine failingExt false) none 5 0 (sHalt 1) = .error (.err .invalidBytecode) sf ∧
    cgc false (onError (sHalt 1)) = cgc false (onError sf) ∧ (∃ ψ, Sim ψ (cgc false (onError (sHalt 1))) (onError sf)) := by
  obtain ⟨sf, h1, h2, h3, _⟩ := failed_eval_equivalent_later_closed failingExt false failingExt_laws failingExt_good
    failingExt_codeLawsV failingExt_proc
    _ rejecting_compLaws rejecting_compGood
    none 5 (sHalt 1) _ _ demo_failed_eval (sHalt1_vmOk _ _) (sHalt_pinv 1) (sHalt_sizeBounded1 _) demo_failed_small
  exact ⟨sf, h1, h2, h3⟩

/-- the hypotheses `PInv s2`, `PInv t2` of `failed_eval_equivalent_later_closed` follow from the law `CompProc` of the
    compiler inside `prepare_eval` (the heap it returns, fresh entry lambda included, satisfies `HP`) -/
theorem prepared_pinv_after_failure (ext : ExtOps) (force : Bool) (el : ExtLaws ext) (eg : ExtGood ext)
    (ecl : ExtCodeLawsV ext) (ep : ExtProc ext)
    (comp : CHeap → VCell → Outcome (CHeap × VCell)) (cp : CompProc comp)
    (count : Option Nat) (fuel : Nat) (s : St CHeap) (f : Fault) (s1 : St CHeap)
    (hfail : runEval (concreteOps ext) (cgc force) count fuel s = .failed f s1)
    (h0 : VmOk ext ecl s) (p0 : PInv s) (sb : SizeBounded (machine ext force) s) :
    ∃ sf, runLoop (machine ext force) count fuel 0 s = .error f sf ∧ s1 = cgc force (onError sf) ∧
      ∀ (d : VCell) (s2 t2 : St CHeap), addrFree d = true →
        prepareEval comp s1 d = .ok s2 → prepareEval comp (onError sf) d = .ok t2 → PInv s2 ∧ PInv t2 := by
  obtain ⟨q1, sf, hrun, rfl, _⟩ := failed_eval_resets_cgc ext force count fuel s f s1 hfail
  have hreach : Reaches (machine ext force) s sf := (runLoop_reaches ext force count fuel 0 s).1 f sf hrun
  have hv := vmOkP_reaches force el eg ep (ecl := ecl) ⟨h0, p0⟩ sb sf hreach
  have pe : PInv (onError sf) := onError_pinv hv.2
  have p1 : PInv (cgc force (onError sf)) := pinv_gc force (s := onError sf) hv.1.cinv pe
  have qt : Quiescent (onError sf) := onError_quiescent sf
  refine ⟨sf, hrun, rfl, ?_⟩
  intro d s2 t2 hd hs2 ht2
  exact ⟨prepare_pinv cp p1 q1.2.2.2.1 q1.2.2.2.2 hd hs2, prepare_pinv cp pe qt.2.2.2.1 qt.2.2.2.2 hd ht2⟩

example : CompProc (fun _ _ => .err .invalidSyntax) := ⟨fun _ _ _ _ _ _ h => (by cases h)⟩

end ConcreteSim

/-! ## T07.4 with `prepare_eval` described by `Installs` (Lemmas/Prepare*.lean)

What `failed_eval_equivalent_later_closed` asks of the three starting states, and the law `CompGood`, are consequences here:
the machine BEFORE the failing job satisfies the idle invariant `IdleOk` (from `VmOkP` of a state with an empty stack),
each `prepare_eval` is described by the loader relation `Installs`, and `prepare_vmOkP_idle` gives the invariant of the
prepared state. `CompLaws` (the compiler behaves alike on `Sim`-related heaps) stays: it is inherent to a statement
relating two heaps. -/
section InstallsT074
open Marwood.Vm.Concrete Marwood.Lemmas.Sim Marwood.Lemmas.Good Marwood.Proofs.C13

/-- **T07.4 from the idle invariant of the state before the failing job.** The later job is described twice: by
    `prepareEval comp … d` (what `CompLaws` speaks of: it gives `Sim` of the two prepared states) and by `Installs e cf …`
    with the same resulting heap and entry (what gives the invariant of each); the statement does not link `d` and `e`,
    the common heap and entry do. -/
theorem failed_eval_equivalent_later_installs (ext : ExtOps) (force : Bool) (el : ExtLaws ext) (eg : ExtGood ext)
    (ecl : ExtCodeLawsV ext) (ep : ExtProc ext)
    (comp : CHeap → VCell → Outcome (CHeap × VCell)) (cl : CompLaws comp)
    (count : Option Nat) (fuel : Nat) (s0 s0' : St CHeap) (e0 : Datum) (cf0 entry0 : Nat) (f : Fault) (s1 : St CHeap)
    (i0 : IdleOk s0) (inst0 : Installs e0 cf0 s0 s0' entry0)
    (hfail : runEval (concreteOps ext) (cgc force) count fuel (prepare s0' entry0) = .failed f s1)
    (sb : SizeBounded (machine ext force) (prepare s0' entry0)) (sm1 : Small s1.heap) :
    ∃ sf, runLoop (machine ext force) count fuel 0 (prepare s0' entry0) = .error f sf ∧ s1 = cgc force (onError sf) ∧
      (∃ ψ, Sim ψ s1 (onError sf)) ∧ IdleOk s1 ∧ IdleOk (onError sf) ∧
      ∀ (d : VCell) (s2 t2 : St CHeap) (e : Datum) (cf : Nat), addrFree d = true →
        prepareEval comp s1 d = .ok s2 → prepareEval comp (onError sf) d = .ok t2 →
        Installs e cf s1 { s1 with heap := s2.heap } s2.ipL →
        Installs e cf (onError sf) { onError sf with heap := t2.heap } t2.ipL →
        SizeBounded (machine ext force) s2 → SizeBounded (machine ext force) t2 →
        ∀ k : Nat,
          (∀ t', pureN (machine ext force) k t2 = .done t' →
            ∃ s' t'', run (machine ext force) k s2 = .done s' ∧ run (machine ext force) k t2 = .done t'' ∧
              ∀ fl, resultObs fl s' = resultObs fl t'') ∧
          (∀ e' t', pureN (machine ext force) k t2 = .error e' t' →
            ∃ s' t'', run (machine ext force) k s2 = .error e' s' ∧ run (machine ext force) k t2 = .error e' t'' ∧
              (∃ ψ, Sim ψ s' t' ∧ All2 (AddrRel ψ) (traceFrames s') (traceFrames t')) ∧
              (∃ ψ, Sim ψ t'' t' ∧ All2 (AddrRel ψ) (traceFrames t'') (traceFrames t'))) := by
  -- `VmOkP` of each of the three prepared states comes from `IdleOk` + `Installs` (`prepare_vmOkP_idle`), `Safe` of the
  -- two later ones from `safe_of_vmOk`
  have hv0 : VmOkP ext ecl (prepare s0' entry0) := prepare_vmOkP_idle i0 inst0 (sb (prepare s0' entry0) (.refl _))
  obtain ⟨q1, sf, hrun, rfl, _⟩ := failed_eval_resets_cgc ext force count fuel _ f s1 hfail
  have hreach : Reaches (machine ext force) (prepare s0' entry0) sf :=
    (runLoop_reaches ext force count fuel 0 _).1 f sf hrun
  have hvf := vmOkP_reaches force el eg ep hv0 sb sf hreach
  have gsf : GoodI sf := hvf.1.1
  have hc : 0 < sf.stack.cells.length := by
    have h1 : 0 < (prepare s0' entry0).stack.cells.length := by
      have := i0.cap
      rw [inst0.regs]; exact this
    exact Nat.lt_of_lt_of_le h1 (reaches_len_mono hreach)
  have it1 : IdleOk (onError sf) := idleOk_onError gsf hvf.1.cinv hvf.2 hc
  have is1 : IdleOk (cgc force (onError sf)) := it1.gc force sm1
  have smt1 : Small (onError sf).heap := sb sf hreach
  obtain ⟨hs0, hall⟩ := twin_later_same_end ext force el comp cl gsf sm1 smt1 is1.good.hg.wf it1.good.hg.wf
  refine ⟨sf, hrun, rfl, hs0, is1, it1, ?_⟩
  intro d s2 t2 e cf hd hs2 ht2 in2 int2 sb2 sbt k
  obtain ⟨h2, e2, _, rfl⟩ := prepareEval_inv hs2
  obtain ⟨h2', e2', _, rfl⟩ := prepareEval_inv ht2
  have v2 : VmOkP ext ecl (prepare { cgc force (onError sf) with heap := h2 } e2) :=
    prepare_vmOkP_idle is1 in2 (sb2 (prepare { cgc force (onError sf) with heap := h2 } e2) (.refl _))
  have vt : VmOkP ext ecl (prepare { onError sf with heap := h2' } e2') :=
    prepare_vmOkP_idle it1 int2 (sbt (prepare { onError sf with heap := h2' } e2') (.refl _))
  exact hall d _ _ hd hs2 ht2 (safe_of_vmOk force el eg v2.1 sb2 (calleeOkAlong_of_vmOk force el eg ep v2.1 v2.2 sb2))
    (safe_of_vmOk force el eg vt.1 sbt (calleeOkAlong_of_vmOk force el eg ep vt.1 vt.2 sbt)) k

/-- the same with the bundled invariant `VmOkP` of an INITIAL state with an empty stack as the only invariant
    hypothesis (`VmOkP.idleOk`) -/
theorem failed_eval_equivalent_later_installs_vmOkP (ext : ExtOps) (force : Bool) (el : ExtLaws ext) (eg : ExtGood ext)
    (ecl : ExtCodeLawsV ext) (ep : ExtProc ext)
    (comp : CHeap → VCell → Outcome (CHeap × VCell)) (cl : CompLaws comp)
    (count : Option Nat) (fuel : Nat) (s0 s0' : St CHeap) (e0 : Datum) (cf0 entry0 : Nat) (f : Fault) (s1 : St CHeap)
    (h0 : VmOkP ext ecl s0) (hsp : s0.stack.sp = 0) (hcap : 0 < s0.stack.cells.length)
    (inst0 : Installs e0 cf0 s0 s0' entry0)
    (hfail : runEval (concreteOps ext) (cgc force) count fuel (prepare s0' entry0) = .failed f s1)
    (sb : SizeBounded (machine ext force) (prepare s0' entry0)) (sm1 : Small s1.heap) :
    ∃ sf, runLoop (machine ext force) count fuel 0 (prepare s0' entry0) = .error f sf ∧ s1 = cgc force (onError sf) ∧
      (∃ ψ, Sim ψ s1 (onError sf)) ∧ IdleOk s1 ∧ IdleOk (onError sf) :=
  let ⟨sf, a, b, c, d, e, _⟩ := failed_eval_equivalent_later_installs ext force el eg ecl ep comp cl count fuel s0 s0' e0
    cf0 entry0 f s1 (h0.idleOk hsp hcap) inst0 hfail sb sm1
  ⟨sf, a, b, c, d, e⟩

open Marwood.Lemmas.Good.Demo in
/-- `InstallsGarbage` with no garbage at all (the reflexive instance) -/
example : IdleOk (sHalt 0) ∧ InstallsGarbage (sHalt 0) (sHalt 0) :=
  ⟨(sHalt_vmOkP failingExt failingExt_codeLawsV).idleOk rfl (by decide), ⟨rfl, .refl _⟩⟩

end InstallsT074

end Marwood.Proofs.C07
