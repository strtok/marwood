import Marwood.Lemmas.NumCmp
/-!
# C09 — numeric comparison is one consistent total order across representations

Model: `Marwood.Cmp` (`PartialEq`/`PartialOrd for Number` as of fix 63fa66b, `num_comp`, `min`, `max`,
`zero? positive? negative?`); specification: `NumSpec.ext`, the value in ℚ ∪ {−∞, +∞} (`none` exactly for NaN;
a double is converted exactly), ordered by `Ext.lt`.  Every theorem is for well-formed numbers in all four
representations; "not NaN" is the hypothesis `ext a = some x`.
-/
namespace Marwood.Proofs.C09
open Marwood Marwood.Cmp Marwood.NumSpec

/-- T09.1 -/
theorem eq_iff_value_eq (a b : Num) (ha : a.WF = true) (hb : b.WF = true) {x y : Ext}
    (hx : ext a = some x) (hy : ext b = some y) : Cmp.eq a b = true ↔ x = y :=
  eq_spec a b ha hb hx hy

/-- T09.2 -/
theorem cmp_is_value_cmp (a b : Num) (ha : a.WF = true) (hb : b.WF = true) {x y : Ext}
    (hx : ext a = some x) (hy : ext b = some y) :
    partialCmp a b = some (cmpExt x y) ∧ Cmp.lt a b = Ext.lt x y ∧ Cmp.gt a b = Ext.lt y x ∧
      Cmp.le a b = Ext.le x y ∧ Cmp.ge a b = Ext.le y x :=
  ⟨partialCmp_spec a b ha hb hx hy, lt_spec a b ha hb hx hy, gt_spec a b ha hb hx hy,
    le_spec a b ha hb hx hy, ge_spec a b ha hb hx hy⟩

/-- trichotomy: exactly one of `<`, `=`, `>` holds. -/
theorem trichotomy (a b : Num) (ha : a.WF = true) (hb : b.WF = true) {x y : Ext}
    (hx : ext a = some x) (hy : ext b = some y) :
    (Cmp.lt a b = true ∧ Cmp.eq a b = false ∧ Cmp.gt a b = false) ∨
    (Cmp.lt a b = false ∧ Cmp.eq a b = true ∧ Cmp.gt a b = false) ∨
    (Cmp.lt a b = false ∧ Cmp.eq a b = false ∧ Cmp.gt a b = true) :=
  trichotomy_of_cmp (partialCmp_spec a b ha hb hx hy)

/-- mutual consistency: `<=` is `<` or `=`, `>=` is `>` or `=`, and `a < b` is `b > a`. -/
theorem relations_consistent (a b : Num) (ha : a.WF = true) (hb : b.WF = true) {x y : Ext}
    (hx : ext a = some x) (hy : ext b = some y) :
    Cmp.le a b = (Cmp.eq a b || Cmp.lt a b) ∧ Cmp.ge a b = (Cmp.eq a b || Cmp.gt a b) ∧
      Cmp.lt a b = Cmp.gt b a := by
  obtain ⟨h1, h2⟩ := le_ge_of_cmp (partialCmp_spec a b ha hb hx hy)
  exact ⟨h1, h2, by rw [lt_spec a b ha hb hx hy, gt_spec b a hb ha hy hx]⟩

/-- `<` is transitive across representations. -/
theorem lt_trans (a b c : Num) (ha : a.WF = true) (hb : b.WF = true) (hc : c.WF = true)
    {x y z : Ext} (hx : ext a = some x) (hy : ext b = some y) (hz : ext c = some z)
    (h1 : Cmp.lt a b = true) (h2 : Cmp.lt b c = true) : Cmp.lt a c = true := by
  rw [lt_spec a b ha hb hx hy] at h1
  rw [lt_spec b c hb hc hy hz] at h2
  rw [lt_spec a c ha hc hx hz]
  exact Ext.lt_trans h1 h2

/-- `=` is transitive across representations. -/
theorem eq_trans (a b c : Num) (ha : a.WF = true) (hb : b.WF = true) (hc : c.WF = true)
    {x y z : Ext} (hx : ext a = some x) (hy : ext b = some y) (hz : ext c = some z)
    (h1 : Cmp.eq a b = true) (h2 : Cmp.eq b c = true) : Cmp.eq a c = true := by
  rw [eq_spec a b ha hb hx hy] at h1
  rw [eq_spec b c hb hc hy hz] at h2
  rw [eq_spec a c ha hc hx hz]
  exact h1.trans h2

/-- T09.3: whatever the relation and the arguments, NaN included … -/
theorem variadic_is_adjacent_conjunction (comp : Num → Num → Bool) (a : Num) (rest : List Num) :
    numComp comp (a :: rest) = .ok (adjAll comp (a :: rest)) :=
  numComp_adj comp a rest

/-- … and off NaN the chain of the relation on the values -/
theorem variadic_value_chain (a : Num) (rest : List Num) (xs : List Ext)
    (hw : ∀ c ∈ a :: rest, c.WF = true)
    (hv : List.Forall₂ (fun c x => ext c = some x) (a :: rest) xs) :
    scmEq (a :: rest) = .ok (chain (· == ·) xs) ∧
    scmLt (a :: rest) = .ok (chain Ext.lt xs) ∧
    scmGt (a :: rest) = .ok (chain (fun p q => Ext.lt q p) xs) ∧
    scmLe (a :: rest) = .ok (chain Ext.le xs) ∧
    scmGe (a :: rest) = .ok (chain (fun p q => Ext.le q p) xs) := by
  unfold scmEq scmLt scmGt scmLe scmGe
  simp only [numComp_adj]
  refine ⟨?_, ?_, ?_, ?_, ?_⟩
  · rw [adjAll_chain Cmp.eq (· == ·) (fun p q x y h1 h2 h3 h4 => eq_spec' p q h1 h2 h3 h4) _ _ hw hv]
  · rw [adjAll_chain Cmp.lt Ext.lt (fun p q x y h1 h2 h3 h4 => lt_spec p q h1 h2 h3 h4) _ _ hw hv]
  · rw [adjAll_chain Cmp.gt (fun p q => Ext.lt q p)
      (fun p q x y h1 h2 h3 h4 => gt_spec p q h1 h2 h3 h4) _ _ hw hv]
  · rw [adjAll_chain Cmp.le Ext.le (fun p q x y h1 h2 h3 h4 => le_spec p q h1 h2 h3 h4) _ _ hw hv]
  · rw [adjAll_chain Cmp.ge (fun p q => Ext.le q p)
      (fun p q x y h1 h2 h3 h4 => ge_spec p q h1 h2 h3 h4) _ _ hw hv]

/-- T09.4 (sign predicates) -/
theorem sign_predicates (a : Num) (ha : a.WF = true) {x : Ext} (hx : ext a = some x) :
    (isZero a = true ↔ x = .fin 0) ∧ isPositive a = Ext.lt (.fin 0) x ∧
      isNegative a = Ext.lt x (.fin 0) := by
  have h0 : ext (.fix 0) = some (.fin 0) := by simp [ext, val]
  have hw : (Num.fix 0).WF = true := by decide
  exact ⟨eq_spec a (.fix 0) ha hw hx h0, gt_spec a (.fix 0) ha hw hx h0,
    lt_spec a (.fix 0) ha hw hx h0⟩

/-- `scmMin` / `scmMax` start from the reversed list: the arguments come off the stack, the last one first -/
theorem reverse_two {α : Type} {args : List α} (hlen : 2 ≤ args.length) :
    ∃ y x r, args.reverse = y :: x :: r ∧ ∀ a, a ∈ y :: x :: r ↔ a ∈ args := by
  match hr : args.reverse with
  | y :: x :: r => exact ⟨y, x, r, rfl, fun a => by rw [← hr]; exact List.mem_reverse⟩
  | [_] | [] =>
    have := congrArg List.length hr
    simp only [List.length_reverse, List.length_cons, List.length_nil] at this
    omega

/-- T09.4 (min) -/
theorem min_is_least (args : List Num) (e : Num → Ext) (hw : ∀ a ∈ args, a.WF = true)
    (he : ∀ a ∈ args, ext a = some (e a)) (hlen : 2 ≤ args.length) :
    ∃ m, scmMin args = .ok m ∧ m ∈ args ∧ ∀ a ∈ args, Ext.lt (e a) (e m) = false := by
  obtain ⟨y, x, r, hr, hmem⟩ := reverse_two hlen
  obtain ⟨h1, h2⟩ := minLoop_spec e y (x :: r) (fun a ha => hw a ((hmem a).mp ha))
    (fun a ha => he a ((hmem a).mp ha))
  exact ⟨_, by simp only [scmMin, hr], (hmem _).mp h1, fun a ha => h2 a ((hmem a).mpr ha)⟩

/-- T09.4 (max) -/
theorem max_is_greatest (args : List Num) (e : Num → Ext) (hw : ∀ a ∈ args, a.WF = true)
    (he : ∀ a ∈ args, ext a = some (e a)) (hlen : 2 ≤ args.length) :
    ∃ m, scmMax args = .ok m ∧ m ∈ args ∧ ∀ a ∈ args, Ext.lt (e m) (e a) = false := by
  obtain ⟨y, x, r, hr, hmem⟩ := reverse_two hlen
  obtain ⟨h1, h2⟩ := maxLoop_spec e y (x :: r) (fun a ha => hw a ((hmem a).mp ha))
    (fun a ha => he a ((hmem a).mp ha))
  exact ⟨_, by simp only [scmMax, hr], (hmem _).mp h1, fun a ha => h2 a ((hmem a).mpr ha)⟩

/-! ### non-vacuity: boundary cases, among them those the comparison before fix 63fa66b got wrong -/
set_option exponentiation.threshold 2000

-- an integer beyond 32 bits against a rational
example : Cmp.lt (.fix (-3000000000)) (.rat 1 2) = true := by decide +kernel
-- 2^53 + 1 against the double 2^53 (bit pattern 4340000000000000)
example : Cmp.eq (.fix 9007199254740993) (.flo ⟨0x4340000000000000⟩) = false := by decide +kernel
example : Cmp.gt (.fix 9007199254740993) (.flo ⟨0x4340000000000000⟩) = true := by decide +kernel
-- 1/3 against its nearest double
example : Cmp.eq (.rat 1 3) (.flo ⟨0x3fd5555555555555⟩) = false := by decide +kernel
-- −0.0 against the rational 0, −inf against a bignum
example : Cmp.eq (.flo ⟨0x8000000000000000⟩) (.rat 0 1) = true := by decide +kernel
example : Cmp.lt (.flo ⟨0xfff0000000000000⟩) (.big (-(10 ^ 30))) = true := by decide +kernel
example : scmLt [.fix 1, .rat 3 2, .flo ⟨0x4000000000000000⟩, .big 3] = .ok true := by decide +kernel
example : scmMin [.fix 9007199254740993, .flo ⟨0x4340000000000000⟩] = .ok (.flo ⟨0x4340000000000000⟩) := by
  decide +kernel

end Marwood.Proofs.C09
