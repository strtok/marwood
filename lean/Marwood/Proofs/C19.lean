import Marwood.Lemmas.Depth
import Marwood.Lemmas.DepthGraph
/-!
# C19 — depth is limited by memory, not by the host's native stack

Native stack consumption = recursion depth × frame size; a stack overflow is a runtime event no
model exhibits. What is logic — and what these theorems are about — is the recursion **depth** of
every natively recursive function on the grid's paths as a function of its input
(`Marwood.Depth`, tied to the code by the depth counters of the hook `verif::depth`).

* `closedForm_eq_model` — the model's depth of each of the 6 instrumented functions and the drop glue on each
  family `nest dir n` equals a closed form.
* T19.b — along cdr (a list of atoms, of shallow aggregates, a dotted list) the reader, `get_as_cell`, the
  marker, `equal?` and the printer hold at most 6 frames; for any datum their depth is governed by its car /
  vector nesting alone.
* T19.u — every other (function, direction) needs at least `n` frames at nesting `n`, so no finite native stack
  is enough (the known findings); also the reader on dotted and nested input, the compiler passes,
  `maybe_put_cell` on quoted data, drop glue, the marker on chains of closures and of continuations.
* `C19_depth`, the property as the model can state it, is false for marwood (`C19_depth_false`);
  `C19_depth_partial` is the part that holds.
-/
namespace Marwood.Proofs.C19
open Marwood Marwood.Depth

theorem parse_car (n : Nat) : parseDepth (nestToks .car n) = some (2 * n + 2) := by
  have h := parseD_car n (parseFuel (carToks n [])) 1 []
    (by simp only [parseFuel, length_carToks]; omega)
  simp only [parseDepth, nestToks, h]; simp; omega

theorem parse_vec (n : Nat) : parseDepth (nestToks .vec n) = some (2 * n + 2) := by
  have h := parseD_vec n (parseFuel (vecToks n [])) 1 []
    (by simp only [parseFuel, length_vecToks]; omega)
  simp only [parseDepth, nestToks, h]; simp; omega

theorem parse_quote (n : Nat) : parseDepth (nestToks .quote n) = some (n + 1) := by
  have h := parseD_quote n (parseFuel (quoteToks n [])) 1 []
    (by simp only [parseFuel, length_quoteToks]; omega)
  simp only [parseDepth, nestToks, h]; simp; omega

theorem parse_cdr (n : Nat) : parseDepth (nestToks .cdr n) = some (if n = 0 then 2 else 3) := by
  have h := parseD_cdr n (parseFuel (.lp :: atoms n [.rp]))
    (by simp only [parseFuel, List.length_cons, length_atoms]; omega)
  simp only [parseDepth, nestToks, h]; simp

theorem parse_cdrPairs (n : Nat) :
    parseDepth (nestToks .cdrPairs n) = some (if n = 0 then 2 else 6) := by
  have h := parseD_cdrPairs n (parseFuel (.lp :: pairsToks n [.rp]))
    (by have := (length_pairsToks n [.rp]).2
        simp only [parseFuel, List.length_cons, List.length_nil] at *; omega)
  simp only [parseDepth, nestToks, h]; simp

theorem parse_cdrDotted (n : Nat) :
    parseDepth (nestToks .cdrDotted n) = some (if n = 0 then 1 else 4) := by
  have h := parseD_cdrDotted n (parseFuel (dottedToks n))
    (by simp only [parseFuel, length_dottedToks]; split <;> omega)
  simp only [parseDepth, nestToks, h]; simp

/-- `closedForm` is the formula the test driver (`Driver/Depth.lean`) answers with -/
theorem closedForm_eq_model (f : Fn) (d : Dir) (n : Nat) :
    modelDepth f d n = some (closedForm f d n) := by
  -- per function: the closed forms of the recursive function on the six families, plus the frame of the entry
  -- point where there is one (`1 + _` against `_ + 1`: `Nat.add_comm`)
  cases f
  · cases d <;> dsimp only [modelDepth, closedForm] <;>
      simp only [parse_car, parse_cdr, parse_vec, parse_quote, parse_cdrPairs, parse_cdrDotted]
  · cases d <;> dsimp only [modelDepth, closedForm, putCellDepth] <;>
      simp only [maybePut_car, maybePut_cdr, maybePut_vec, maybePut_quote, maybePut_cdrPairs,
        maybePut_cdrDotted] <;>
      first | exact congrArg some (Nat.add_comm 1 _) | (split <;> exact congrArg some (Nat.add_comm 1 _))
  · cases d <;> dsimp only [modelDepth, closedForm, getAsCellDepth] <;>
      simp only [getVal_car, getVal_cdr, getVal_vec, getVal_quote, getVal_cdrPairs, getVal_cdrDotted] <;>
      first | exact congrArg some (Nat.add_comm 1 _) | (split <;> rfl)
  · cases d <;> dsimp only [modelDepth, closedForm, markDepth] <;>
      simp only [markIn_car, markIn_cdr, markIn_vec, markIn_quote, markIn_cdrPairs, markIn_cdrDotted] <;>
      first | exact congrArg some (Nat.add_comm 1 _) | (split <;> rfl)
  · cases d <;> dsimp only [modelDepth, closedForm] <;>
      simp only [equal_car, equal_cdr, equal_vec, equal_quote, equal_cdrPairs, equal_cdrDotted]
  · cases d <;> dsimp only [modelDepth, closedForm] <;>
      simp only [display_car, display_cdr, display_vec, display_quote, display_cdrPairs,
        display_cdrDotted]
  · cases d <;> dsimp only [modelDepth, closedForm] <;>
      simp only [drop_car, drop_cdr, drop_vec, drop_quote, drop_cdrPairs, drop_cdrDotted]

theorem ite_le {c : Prop} [Decidable c] {a b k : Nat} (ha : a ≤ k) (hb : b ≤ k) :
    (if c then a else b) ≤ k := by
  split <;> assumption

/-- T19.b: in the three flat directions the reader, `get_as_cell`, the marker, `equal?` and the printer hold at
    most `loopBound = 6` native frames for a list of any length -/
theorem T19_b_cdr (f : Fn) (d : Dir) (n : Nat) (hb : bounded f d = true) :
    ∃ k, modelDepth f d n = some k ∧ k ≤ loopBound := by
  refine ⟨closedForm f d n, closedForm_eq_model f d n, ?_⟩
  -- the 15 bounded entries of the table are all `if n = 0 then a else b` with `a, b ≤ 6`
  cases f <;> cases d <;> first | exact Bool.noConfusion hb | exact ite_le (by decide) (by decide)

/-- T19.u: every other (function, direction) needs at least `n` native frames at nesting depth `n` -/
theorem T19_u_unbounded (f : Fn) (d : Dir) (n : Nat) (hb : bounded f d = false) :
    ∃ k, modelDepth f d n = some k ∧ n ≤ k := by
  refine ⟨closedForm f d n, closedForm_eq_model f d n, ?_⟩
  cases f <;> cases d <;>
    first
      | exact Bool.noConfusion hb
      | exact Nat.le_add_right n _
      | (dsimp only [closedForm]; first | omega | (split <;> omega))

theorem bounded_iff_closedForm_le (f : Fn) (d : Dir) :
    bounded f d = true ↔ ∀ n, closedForm f d n ≤ loopBound := by
  constructor
  · intro hb n
    obtain ⟨k, hk, hle⟩ := T19_b_cdr f d n hb
    rw [closedForm_eq_model] at hk
    cases hk; exact hle
  · intro h
    cases hb : bounded f d with
    | true => rfl
    | false =>
      obtain ⟨k, hk, hle⟩ := T19_u_unbounded f d 7 hb
      rw [closedForm_eq_model] at hk
      cases hk
      have := h 7
      simp only [loopBound] at this
      omega

/-- T19.u (read): `(1 . (1 . … ()))` costs three frames per level; cdr is a loop only in list notation -/
theorem T19_u_read_dot (n : Nat) : parseDepth (dotToks n []) = some (3 * n + 2) := by
  have h := parseD_dot n (parseFuel (dotToks n [])) 1 []
    (by simp only [parseFuel, length_dotToks]; simp; omega)
  simp only [parseDepth, h]; simp; omega

/-- T19.u (read): `(+ 1 (+ 1 … 0))` -/
theorem T19_u_read_app (n : Nat) : parseDepth (appToks n []) = some (2 * n + 1) := by
  have h := parseD_app n (parseFuel (appToks n [])) 1 []
    (by simp only [parseFuel, length_appToks]; simp; omega)
  simp only [parseDepth, h]; simp; omega

/-- T19.u (compile, nested applications): macro pass two frames per level, code generation three -/
theorem T19_u_compile_app (n : Nat) :
    transformDepth (nestApp n) = 2 * n + 1 ∧ compileExprDepth (nestApp n) = 3 * n + 1 ∧
    compileDepth (nestApp n) = 3 * n + 1 := by
  refine ⟨transform_app n, compileExpr_app n, ?_⟩
  simp only [compileDepth, transform_app, compileExpr_app]; omega

/-- T19.u (compile): `((lambda () ((lambda () … 0))))` -/
theorem T19_u_compile_lambda (n : Nat) :
    transformDepth (nestLambda n) = 4 * n + 1 ∧ compileExprDepth (nestLambda n) = 6 * n + 1 ∧
    compileDepth (nestLambda n) = 6 * n + 1 := by
  refine ⟨transform_lambda n, compileExpr_lambda n, ?_⟩
  simp only [compileDepth, transform_lambda, compileExpr_lambda]; omega

/-- T19.u (quote-evaluate): `compile_quote` stores the datum with `maybe_put_cell`, which recurses on car and
    cdr: unbounded in all six directions -/
theorem T19_u_quote_evaluate (d : Dir) (n : Nat) : n ≤ maybePutDepth (nest d n) := by
  cases d
  · rw [maybePut_car]; omega
  · rw [maybePut_cdr]; omega
  · rw [maybePut_vec]; omega
  · rw [maybePut_quote]; omega
  · rw [maybePut_cdrPairs]; split <;> omega
  · rw [maybePut_cdrDotted]; omega

/-- `(write x)` for a flat list: every counted cluster is bounded; the drop glue that destroys the datum
    converted for printing recurses along cdr. Known finding: the scenario aborts for a long flat list. -/
theorem T19_b_write_cdr_fails_only_in_drop (n : Nat) :
    markDepth (nest .cdr n) ≤ 2 ∧ getAsCellDepth (nest .cdr n) ≤ 4 ∧
    displayDepth (nest .cdr n) ≤ 2 ∧ dropDepth (nest .cdr n) = n + 1 := by
  refine ⟨?_, ?_, ?_, drop_cdr n⟩
  · simp only [markDepth, markIn_cdr]; split <;> omega
  · simp only [getAsCellDepth, getVal_cdr]; split <;> omega
  · simp only [display_cdr]; split <;> omega

/-- T19.b, every datum: the marker's depth is governed by the car / vector nesting alone -/
theorem T19_b_mark_every_datum (x : Datum) :
    carNest x + 1 ≤ markDepth x ∧ markDepth x ≤ 2 * carNest x + 1 := by
  have h := (markIn_carNest x).1
  simp only [markDepth]; omega

/-- … and so is that of `get_as_cell`, `equal?` and the printer -/
theorem T19_b_every_datum (x : Datum) :
    markDepth x ≤ 2 * carNest x + 1 ∧ getAsCellDepth x ≤ 3 * carNest x + 3 ∧
    equalDepth x ≤ 4 * carNest x + 4 ∧ displayDepth x ≤ 2 * carNest x + 2 := by
  refine ⟨(T19_b_mark_every_datum x).2, ?_, (equal_carNest x).1, (display_carNest x).1⟩
  have := (get_carNest x).1
  simp only [getAsCellDepth]; omega

/-- … hence a constant for every list of atoms -/
theorem T19_b_flat_lists (xs : List Datum) (h : ∀ x ∈ xs, carNest x = 0) :
    markDepth (Datum.ofList xs) ≤ 3 ∧ getAsCellDepth (Datum.ofList xs) ≤ 6 ∧
    equalDepth (Datum.ofList xs) ≤ 8 ∧ displayDepth (Datum.ofList xs) ≤ 4 := by
  have hc := carNest_flat xs h
  have := T19_b_every_datum (Datum.ofList xs)
  omega

/-- T19.b: a list, proper or dotted, whose elements are car-nested at most `k` deep holds a number of frames
    that depends on `k` alone (`k = 1`: association lists, lists of flat lists or vectors) -/
theorem T19_b_shallow_lists (xs : List Datum) (t : Datum) (k : Nat)
    (h : ∀ x ∈ xs, carNest x ≤ k) (ht : carNest t ≤ k + 1) :
    markDepth (Datum.ofListTail xs t) ≤ 2 * k + 3 ∧
    getAsCellDepth (Datum.ofListTail xs t) ≤ 3 * k + 6 ∧
    equalDepth (Datum.ofListTail xs t) ≤ 4 * k + 8 ∧
    displayDepth (Datum.ofListTail xs t) ≤ 2 * k + 4 := by
  have hc := carNest_ofListTail xs t k h ht
  have := T19_b_every_datum (Datum.ofListTail xs t)
  omega

/-- T19.b (cdr-of-pairs): the grid's list of `n` fresh `(1 . 2)`, `#(1 2)`: a constant number of frames on the
    paths of read / build / gc / equal? / write (`equal?` on two separately built copies: 5, not `2 n`); drop
    glue and `maybe_put_cell` need `n` -/
theorem T19_b_cdr_of_pairs (n : Nat) :
    parseDepth (nestToks .cdrPairs n) = some (if n = 0 then 2 else 6) ∧
    getAsCellDepth (nest .cdrPairs n) ≤ 6 ∧ markDepth (nest .cdrPairs n) ≤ 3 ∧
    equalDepth (nest .cdrPairs n) ≤ 5 ∧ displayDepth (nest .cdrPairs n) ≤ 3 ∧
    n ≤ dropDepth (nest .cdrPairs n) ∧ n ≤ maybePutDepth (nest .cdrPairs n) := by
  refine ⟨parse_cdrPairs n, ?_, ?_, ?_, ?_, ?_, ?_⟩
  · simp only [getAsCellDepth, getVal_cdrPairs]; split <;> omega
  · simp only [markDepth, markIn_cdrPairs]; split <;> omega
  · simp only [equal_cdrPairs]; split <;> omega
  · simp only [display_cdrPairs]; split <;> omega
  · simp only [drop_cdrPairs]; split <;> omega
  · simp only [maybePut_cdrPairs]; split <;> omega

/-- T19.b (cdr-dotted): `(1 … 1 . 2)` with `n` ones: at most 4 frames; drop glue and `maybe_put_cell` need `n` -/
theorem T19_b_cdr_dotted (n : Nat) :
    parseDepth (nestToks .cdrDotted n) = some (if n = 0 then 1 else 4) ∧
    getAsCellDepth (nest .cdrDotted n) ≤ 4 ∧ markDepth (nest .cdrDotted n) ≤ 2 ∧
    equalDepth (nest .cdrDotted n) ≤ 3 ∧ displayDepth (nest .cdrDotted n) ≤ 2 ∧
    n ≤ dropDepth (nest .cdrDotted n) ∧ n ≤ maybePutDepth (nest .cdrDotted n) := by
  refine ⟨parse_cdrDotted n, ?_, ?_, ?_, ?_, ?_, ?_⟩
  · simp only [getAsCellDepth, getVal_cdrDotted]; split <;> omega
  · simp only [markDepth, markIn_cdrDotted]; split <;> omega
  · simp only [equal_cdrDotted]; split <;> omega
  · simp only [display_cdrDotted]; split <;> omega
  · simp only [drop_cdrDotted]; omega
  · simp only [maybePut_cdrDotted]; omega

/-- T19.u: destroying or storing any list of `n` elements needs at least `n` native frames -/
theorem T19_u_drop_put_every_list (x : Datum) :
    (Datum.listElems x).length ≤ dropDepth x ∧ (Datum.listElems x).length ≤ maybePutDepth x :=
  ⟨length_le_dropDepth x, length_le_maybePutDepth x⟩

/-! ### the marker on closure chains and continuation chains

`markDepthHeap` (`Marwood/Depth.lean`) models the marker on the heap graph with the recursion structure of
`heap.rs`; its marked addresses are a list of its own (`h.gc` is not read). The chains are built through `Heap.put`
(`Lemmas/DepthGraph.lean`: what the `put`s leave in the heap). -/

/-- T19.u (closure chain): `n` closures as left by `(define (wrap acc) (lambda () acc))` applied `n` times;
    marking the outermost holds `5·n` frames (`mark`, `mark`, `mark_vcell`, `mark`, `mark_vcell` per level) -/
theorem T19_u_closure_chain (n : Nat) :
    markDepthHeap (closureChain (n + 1)) [closureRoot (n + 1)] = 5 * (n + 1) ∧
    ∀ k, 5 * k ≤ markDepthHeap (closureChain k) [closureRoot k] := by
  refine ⟨markDepth_closureChain n, fun k => ?_⟩
  cases k with
  | zero => omega
  | succ k => rw [markDepth_closureChain k]; omega

/-- T19.u (continuation chain): `n` continuations, each captured while the previous one was on the stack; marking
    the newest holds `3·n + 3` frames (`mark`, `mark_continuation`, `mark_vcell` per level; `+ 3`: the code of `ip.0`) -/
theorem T19_u_continuation_chain (n : Nat) :
    markDepthHeap (contChain (n + 1)) [contRoot (n + 1)] = 3 * (n + 1) + 3 ∧
    ∀ k, 3 * k ≤ markDepthHeap (contChain k) [contRoot k] := by
  refine ⟨markDepth_contChain n, fun k => ?_⟩
  cases k with
  | zero => omega
  | succ k => rw [markDepth_contChain k]; omega

/-- level `j` of the closure chain occupies addresses `3j+2 … 3j+4`, continuation `j` address `j+2` -/
theorem chain_cells (n : Nat) : ClosureCells (closureChain n) n ∧ ContCells (contChain n) n :=
  ⟨closureChain_cells n, contChain_cells n⟩

example : markDepthHeap (closureChain 2) [closureRoot 2] = 10 := (T19_u_closure_chain 1).1
example : markDepthHeap (contChain 2) [contRoot 2] = 9 := (T19_u_continuation_chain 1).1

/-! ### the property at the level the model can state it

A scenario completes on every finite native stack only if the depth of every function on its path is bounded
independently of the nesting. `C19_depth` says that of the whole table and is false for marwood:
`C19_depth_partial` proves it under the decidable hypothesis `bounded f d = true`, `C19_depth_fails` refutes every
other pair, `C19_depth_false` is the witness (the reader on car-nested lists). -/

def BoundedDepth (f : Fn) (d : Dir) : Prop := ∃ K, ∀ n k, modelDepth f d n = some k → k ≤ K

def C19_depth : Prop := ∀ f d, BoundedDepth f d

theorem C19_depth_partial (f : Fn) (d : Dir) (h : bounded f d = true) : BoundedDepth f d := by
  refine ⟨loopBound, fun n k hk => ?_⟩
  obtain ⟨k', hk', hle⟩ := T19_b_cdr f d n h
  rw [hk] at hk'; cases hk'; exact hle

theorem C19_depth_fails (f : Fn) (d : Dir) (h : bounded f d = false) : ¬ BoundedDepth f d := by
  rintro ⟨K, hK⟩
  obtain ⟨k, hk, hle⟩ := T19_u_unbounded f d (K + 1) h
  have := hK (K + 1) k hk
  omega

theorem C19_depth_false : ¬ C19_depth := fun h => C19_depth_fails .parse .car rfl (h .parse .car)

/-! ### non-vacuity -/

example : bounded .mark .cdr = true ∧ bounded .mark .car = false := ⟨rfl, rfl⟩
example : modelDepth .parse .car 3 = some 8 := closedForm_eq_model .parse .car 3
example : modelDepth .parse .cdr 5 = some 3 := closedForm_eq_model .parse .cdr 5
example : modelDepth .mark .vec 2 = some 5 := closedForm_eq_model .mark .vec 2
example : modelDepth .fmt .quote 3 = some 4 := closedForm_eq_model .fmt .quote 3
example : parseDepth (dotToks 2 []) = some 8 := T19_u_read_dot 2
example : compileDepth (nestLambda 1) = 7 := (T19_u_compile_lambda 1).2.2
example : carNest (nest .cdr 7) = 1 ∧ carNest (nest .car 7) = 7 := by decide
example : modelDepth .equal .cdrPairs 9 = some 5 := closedForm_eq_model .equal .cdrPairs 9
example : modelDepth .parse .cdrDotted 9 = some 4 := closedForm_eq_model .parse .cdrDotted 9
example : bounded .equal .cdrPairs = true ∧ bounded .put .cdrDotted = false := ⟨rfl, rfl⟩
-- an association list with a dotted end: car nesting ≤ 2, what `carNest_ofListTail` gives for `k = 1`
example : carNest (Datum.ofListTail [.pair one two, .pair two one] one) ≤ 2 := by decide
-- an error ends the parse at the depth reached so far: `(()` is incomplete
example : parseD 10 1 [.lp, .lp, .rp] = some (4, none) := by simp [parseD, listD]
-- `( . 1)`: a dot before any datum
example : parseD 10 1 [.lp, .dot, .atom, .rp] = some (3, none) := by simp [parseD, listD, tailD]

end Marwood.Proofs.C19
