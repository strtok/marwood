import Marwood.Spec.Eval
import Marwood.Lemmas.EvalOperandOrder
import Marwood.Lemmas.EvalFrameMain
import Marwood.Lemmas.EvalPrelude
import Marwood.Lemmas.EvalMonoMain
import Marwood.Lemmas.EvalDerivedCond
import Marwood.Lemmas.EvalDerivedExpand
import Marwood.Lemmas.EvalDerived2
import Marwood.Lemmas.EvalDerived2Case2
import Marwood.Lemmas.EvalConverseDerivedCase
import Marwood.Lemmas.EvalConverseRank
import Marwood.Lemmas.EvalPromiseMain
import Marwood.Lemmas.EvalPromiseExamples
import Marwood.Lemmas.EvalPromiseDemo
import Marwood.Lemmas.CompileCorrect
import Marwood.Lemmas.CompileCorrectDemo
import Marwood.Lemmas.CompileCorrectLoop
import Marwood.Lemmas.CompileCorrect2ErrAtoms
import Marwood.Lemmas.CompileCorrect2Quote
import Marwood.Lemmas.CompileCorrect2QuoteDemo
import Marwood.Lemmas.CompileCorrect2Demo
import Marwood.Lemmas.CompileCorrect2DemoCapture
import Marwood.Lemmas.CompileCorrect2FailDemo
import Marwood.Lemmas.CompileCorrect2ConcreteDemo
import Marwood.Lemmas.CompileCorrect3Main
import Marwood.Lemmas.CompileCorrect3Apply
import Marwood.Lemmas.CompileCorrect3Embed
import Marwood.Lemmas.CompileCorrect3Arity
import Marwood.Lemmas.CompileCorrect3Demo
import Marwood.Lemmas.CompileCorrect3DemoApply
import Marwood.Lemmas.CompileCorrect3Props
import Marwood.Lemmas.ProofsAuxCompileApp
/-!
# C01 — evaluation agrees with the language semantics for core and derived forms

What is proved here and what is not (see `lib/props/c01.py` META.note):
* T01.4 (`application_operand_order`, `operands_left_to_right`): in the compiler model the code of
  an application is the operand codes in order, each followed by `PUSH`, then the argument count,
  then the operator code, then `CALL`/`TCALL`.
* T01.1 (`independence`, `independence_from`, `define_procedure_onlyBinds`): the frame property of
  `Spec.Eval`, closed, for every fuel / session / unrelated definition.
* Fuel monotonicity of `Spec.Eval` (`fuel_monotone`, `fuel_monotone_apply`, `session_fuel_monotone`;
  `Lemmas/EvalMono*.lean`), closed: a definite outcome reached with fuel `n` is reached, with the same
  state, with every larger fuel.
* T01.2 (`Lemmas/EvalPrelude.lean`, `Lemmas/EvalDerived*.lean`; checked against the regenerated
  `Gen/Prelude.lean` = what `prelude.scm` says). First half (`expand_*`, `Lemmas/EvalDerivedExpand.lean`):
  the R7RS matcher rewrites a use with the prelude's rules to the expected term
  (`Lemmas/EvalDerivedShapes.lean`) — ONE rewriting step, see "both halves together" below.
  Second half: evaluating that term agrees with the native meaning of the use, up to fuel. Exactly
  (`Same`) for when, unless (under "`not` is the primitive"), begin (bodies without definitions), and,
  or (0/1 operands), let, let*, named let, cond (else clause; clauses with a body), case (`else =>`;
  `else` from states where the key evaluates without effect); `letrec` up to the content of
  uninitialised variables (`#f` vs `#<undefined>`). UP TO THE CELLS the expansion allocates and the
  native meaning does not have (`var1`, `temp`, `atom-key`, the quoted list of `memv`) for `or` with
  ≥ 2 operands, cond `=>` and test-only clauses followed by more, case with a compound key or a datum
  list, from every well-formed state, when the binder does not occur in the sub-forms evaluated under
  it (the capture is proved at witnesses): native ⇒ expansion for native runs that do not run a
  store-size-fuelled helper into its bound (`t01_2_or` …; `guardN`), expansion ⇒ native for runs of
  the expansion that stay as many cells short of that bound as the expansion allocates
  (`t01_2_*_converse`; `sguardN`). `(force (delay e))` against the
  prelude's promise library on a restricted fragment (`t01_2_delay`, `t01_2_delay_unforced`,
  `t01_2_force_again`; section "delay / force" below); for `delay-force` only the first half
  (see `lib/props/c01.py` META.note).
* T01.3 (compiler correctness, `run (compile e) ≈ Spec.Eval e`), all `_partial`, on the model machine over
  an abstract heap satisfying explicit law structures (the behaviour of builtin calls is one of the laws):
  stage 1 (`compile_correct_stage1_partial`; `Lemmas/CompileCorrect*.lean`): the closure-free fragment,
  success case; its ERROR case (`compile_correct_stage1_error_partial`; `Lemmas/CompileCorrect2Err*.lean`):
  the machine fails with the corresponding class in a state whose heap represents the specification's
  failure state; `quote` of pairs and vectors (`quote_compound_partial`; `Lemmas/CompileCorrect2Quote.lean`);
  STAGE 2 (`compile_correct_stage2_partial`, `closure_call_stage2_partial`; `Lemmas/CompileCorrect2*.lean`):
  `lambda` with fixed arity, closure creation, calls and tail calls of closures, references and `set!` of
  lexical variables at any depth, success case, and its ERROR case (`compile_correct_stage2_error_partial`).
  STAGE 3 (`compile_correct_stage3_partial`, `closure_call_stage3_rest_partial`,
  `body_stage3_defines_partial`, `apply_redispatch_stage3_partial`; `Lemmas/CompileCorrect3*.lean`): rest
  parameters (VARARG), internal definitions at the head of a body (read only after their definition), and the
  re-dispatch of `apply`, success case; its error case, recursion through blocks of `lambda`-initialised
  internal definitions and the stage-3 laws on the concrete heap model (every field but `call` and `slot_inj`) are proved in
  `Lemmas/CompileCorrect3Props.lean` (same namespace: `compile_correct_stage3_error_partial`,
  `compile_correct_stage3_rec_partial`, `laws3_concrete`). Quasiquote, call/cc, `eval`/`map`/`for-each`, GC
  interleaving are open; the agreement of the real pipeline with `Spec.Eval` is carried by the differential
  correspondence.
-/
namespace Marwood.Proofs.C01
open Marwood Marwood.Vm

/-! ## T01.4 operand order (compiler model) -/

/-- The code of an application `(proc . rest)`: the codes of the operands from left to right, each
    followed by `PUSH` (so operand `i` precedes operand `i+1`), then `PUSH-IMMEDIATE <argc>`, then the
    code of the operator, then the call instruction — nothing else. -/
theorem application_operand_order (fuel : Nat) (st : CState) (c : Ctx) (base : Nat) (tail : Bool)
    (proc rest : Datum) (st' : CState) (code : List BC)
    (hn : ∀ kw ∈ specialForms, proc.isSymStr kw = false)
    (h : compileExpr (fuel + 1) st c base tail (.pair proc rest) = .ok (st', code)) :
    ∃ segs st1 pcode,
      OperandCodes fuel st c base rest st1 segs ∧
      compileExpr fuel st1 c (base + (pushed segs).length + 2) false proc = .ok (st', pcode) ∧
      code = pushed segs ++ [.op .pushImm, .argc segs.length] ++ pcode
              ++ [.op (if tail then .tcallAcc else .callAcc)] := by
  obtain ⟨st1, code1, n, pcode, h1, h2, rfl⟩ := compileExpr_app_inv hn h
  obtain ⟨segs, hs, rfl, rfl⟩ := compileArgs_operandCodes fuel _ _ _ _ _ _ _ h1
  exact ⟨segs, st1, pcode, hs, h2, rfl⟩

/-- Operands are compiled left to right: the first operand's code comes first, at the current
    offset; the remaining operands are compiled after it and its `PUSH`, in the compiler state it left. -/
theorem operands_left_to_right (fuel : Nat) (st : CState) (c : Ctx) (base : Nat) (a d : Datum)
    (st' : CState) (segs : List (List BC))
    (h : OperandCodes (fuel + 1) st c base (.pair a d) st' segs) :
    ∃ st1 code1 rest, segs = code1 :: rest ∧
      compileExpr fuel st c base false a = .ok (st1, code1) ∧
      OperandCodes fuel st1 c (base + code1.length + 1) d st' rest ∧
      pushed segs = code1 ++ [.op .pushAcc] ++ pushed rest := by
  cases h with
  | done _ _ _ _ _ hh => exact absurd rfl (hh a d)
  | cons _ _ _ _ _ _ st1 code1 _ rest h1 h2 =>
    exact ⟨st1, code1, rest, rfl, h1, h2, by simp [pushed]⟩

/-- the opcode skeleton of a code sequence (operands as `none`) -/
def skeleton (code : List BC) : List (Option Op) :=
  code.map fun b => match b with | .op o => some o | _ => none

/-- non-vacuity: `(f (g) 1)` in non-tail position compiles to the code of `(g)`, PUSH, the code of
    `1`, PUSH, argc 2, the code of `f`, CALL -/
example :
    (match compileExpr 10 {} ⟨[], []⟩ 0 false
      (Datum.ofList [.sym ['f'], Datum.ofList [.sym ['g']], .num (.fix 1)]) with
     | .ok (_, code) => skeleton code ==
        [some .pushImm, none, some .mov, none, none, some .callAcc, some .pushAcc,
         some .movImm, none, none, some .pushAcc, some .pushImm, none, some .mov, none, none, some .callAcc]
     | .error _ => false) = true := by
  decide +kernel


/-! ## T01.1 independence (about `Spec.Eval`)

`results n h` are the form-by-form results of session `h` in a fresh instance with `n` levels of
fuel. A form *mentions* `x` when the symbol `x` occurs anywhere in it — as a variable, a parameter,
or inside quoted data (which `eval` could turn into a reference). -/

open Marwood.Spec.Eval

/-- evaluated in a fresh instance, `d` succeeds and does nothing but bind the global `x`: no
    allocation, no output, every other global unchanged (the shape of an *unrelated definition*) -/
def OnlyBinds (n : Nat) (x : Text) (d : Datum) : Prop :=
  ∃ r st, runForm n d initSt = (r, some st) ∧ st.store = initSt.store ∧ st.out = initSt.out ∧
    ∀ y, y ≠ x → st.globals.lookup y = initSt.globals.lookup y

/-- **T01.1** For every session `h`, every name `x` that no form of `h` mentions, every definition `d`
    that only binds `x`, and every amount of fuel: the results of `d :: h` after dropping `d`'s own
    result are the results of `h`, and the output logs are equal. -/
theorem independence (n : Nat) (x : Text) (d : Datum) (h : List Datum)
    (hd : OnlyBinds n x d) (hh : ∀ f ∈ h, mentions x f = false) :
    (results n (d :: h)).tail = results n h ∧ output n (d :: h) = output n h := by
  obtain ⟨r, st, hrun, hstore, hout, hglob⟩ := hd
  have hrel : Rel x initSt st := ⟨inv_initSt, ⟨hstore, hout, hglob⟩⟩
  have hs := runSession_rel n h hh initSt st hrel
  unfold results output
  simp only [runSession, hrun]
  refine ⟨by simp [hs.1], ?_⟩
  have h2 := hs.2
  cases ha : (runSession n h initSt).2 <;> cases hb : (runSession n h st).2 <;>
    simp only [ha, hb] at h2 ⊢
  · exact h2.2.out

/-- The same from any clean state and any state similar to it: an unrelated definition made at
    *any* point of a session (not only in front of it) does not change what follows. -/
theorem independence_from (n : Nat) (x : Text) (h : List Datum) (st st' : St)
    (hrel : Rel x st st') (hh : ∀ f ∈ h, mentions x f = false) :
    (runSession n h st).1 = (runSession n h st').1 :=
  (runSession_rel n h hh st st' hrel).1

/-- fresh-instance clause: the specification has no state outside `initSt`, so the results are a function
    of the session and the fuel. True of any function: by construction, stated for the record. -/
theorem results_function_of_session (n : Nat) (h₁ h₂ : List Datum) (e : h₁ = h₂) :
    results n h₁ = results n h₂ ∧ output n h₁ = output n h₂ := by subst e; exact ⟨rfl, rfl⟩

/-- a procedure definition `(define (x . formals) body …)` only binds `x` -/
theorem define_procedure_onlyBinds (n : Nat) (x : Text) (formals body : Datum)
    (ps : List Text) (rest : Option Text) (b : Datum) (bs : List Datum)
    (hx : reserved x = false) (hf : parseFormals formals = some (ps, rest))
    (hb : properList body = some (b :: bs)) :
    OnlyBinds n x (.pair (.sym k_define) (.pair (.pair (.sym x) formals) body)) := by
  refine ⟨.ok .void, { initSt with globals := insertG x (.closure ps rest (b :: bs) []) initSt.globals }, ?_, rfl, rfl, ?_⟩
  · have hk : (k_define == k_begin_) = false := by decide
    simp [runForm, evalTop, hk, evalTopForm, isDefine, defineValue, hx, makeClosure, hf, hb, putGlobal,
      Bind.bind, M.bind', Pure.pure, M.pure', valToDatum]
  · intro y hy
    simp [lookup_insertG, hy]

/-- non-vacuity of `independence`: an unrelated variadic procedure in front of a session that
    defines and calls a procedure of its own -/
example :
    let x : Text := ['z','z']
    let d := Datum.ofListTail [.sym k_define, Datum.ofListTail [.sym x, .sym ['a']] (.sym ['r'])] (Datum.ofList [.sym ['r']])
    let h := [Datum.ofList [.sym k_define, Datum.ofList [.sym ['f'], .sym ['n']], Datum.ofList [.sym ['+'], .sym ['n'], .num (.fix 1)]],
              Datum.ofList [.sym ['f'], .num (.fix 41)]]
    (∀ f ∈ h, mentions x f = false) ∧ results 10 (d :: h) = [.ok .void, .ok .void, .ok (.num (.fix 42))] := by
  decide +kernel


/-! ## what the specification prescribes at the witnesses of the known findings
(the implementation's answers are in `known_findings/C01.json`; the `findings` stream replays them) -/

/-- `` `(1 . ,(+ 1 2)) `` is `(1 . 3)` (implementation: `(1 unquote (+ 1 2))`) -/
theorem dotted_unquote_spec_witness :
    results 10 [Datum.ofList [.sym k_quasiquote,
        .pair (.num (.fix 1)) (Datum.ofList [.sym k_unquote, Datum.ofList [.sym ['+'], .num (.fix 1), .num (.fix 2)]])]]
      = [.ok (.pair (.num (.fix 1)) (.num (.fix 3)))] := by decide +kernel

/-- `(begin (define tb1 1) (define tb2 2))` at top level defines both globals: `(+ tb1 tb2)` is 3
    (implementation: `tb1` is not bound) -/
theorem toplevel_begin_spec_witness :
    results 10 [Datum.ofList [.sym k_begin_,
                  Datum.ofList [.sym k_define, .sym ['t','b','1'], .num (.fix 1)],
                  Datum.ofList [.sym k_define, .sym ['t','b','2'], .num (.fix 2)]],
                Datum.ofList [.sym ['+'], .sym ['t','b','1'], .sym ['t','b','2']]]
      = [.ok .void, .ok (.num (.fix 3))] := by decide +kernel

/-- `(define (hy var1) (or #f var1))`, `(hy 9)` is 9 (implementation: `#f`, the `or` macro's own
    `var1` captures the parameter) -/
theorem or_capture_spec_witness :
    results 10 [Datum.ofList [.sym k_define, Datum.ofList [.sym ['h','y'], .sym ['v','a','r','1']],
                  Datum.ofList [.sym k_or_, .bool false, .sym ['v','a','r','1']]],
                Datum.ofList [.sym ['h','y'], .num (.fix 9)]]
      = [.ok .void, .ok (.num (.fix 9))] := by decide +kernel


/-! ## Fuel monotonicity of `Spec.Eval` -/

/-- **Fuel monotonicity**: a definite outcome (value or error class, with globals, store and output log)
    of fuel `n` is the outcome of every fuel `m ≥ n`. -/
theorem fuel_monotone {n m : Nat} (h : n ≤ m) (e : Datum) (ρ : Env) (st : St)
    (hd : (evalN n).eval e ρ st ≠ .timeout) : (evalN m).eval e ρ st = (evalN n).eval e ρ st :=
  evalN_mono h e ρ st hd

/-- the fuel decides whether an outcome is reached, never which: definite outcomes are unique -/
theorem outcome_unique {n m : Nat} (e : Datum) (ρ : Env) (st : St)
    (hn : (evalN n).eval e ρ st ≠ .timeout) (hm : (evalN m).eval e ρ st ≠ .timeout) :
    (evalN n).eval e ρ st = (evalN m).eval e ρ st := definite_unique e ρ st hn hm

/-- … for the application of any procedure value -/
theorem fuel_monotone_apply {n m : Nat} (h : n ≤ m) (f : Val) (args : List Val) (st : St)
    (hd : (evalN n).apply f args st ≠ .timeout) : (evalN m).apply f args st = (evalN n).apply f args st :=
  applyN_mono h f args st hd

/-- … and for sessions no form of which runs out of fuel `n` -/
theorem session_fuel_monotone {n m : Nat} (h : n ≤ m) (session : List Datum)
    (hd : ∀ r ∈ results n session, r ≠ FormRes.timeout) :
    results m session = results n session ∧ output m session = output n session :=
  ⟨results_mono h session hd, output_mono h session hd⟩

/-- non-vacuity: the session `(+ 1 2)` is definite at fuel 10 -/
example : ∀ r ∈ results 10 [Datum.ofList [.sym ['+'], .num (.fix 1), .num (.fix 2)]], r ≠ FormRes.timeout := by
  decide +kernel


/-! ## T01.2 second half: evaluating the prelude's expansion agrees with the native meaning

`Same k use exp ρ` (`Lemmas/EvalDerived.lean`): for every fuel `n` and every state, whatever
`Spec.Eval` yields definitely for `use` with fuel `n` it yields for `exp` with fuel `n + k`, and
vice versa — same value or error class, same globals, store and output log. By fuel monotonicity
this is "for every sufficient fuel"; `derived_limit` is the fuel-free reading. -/

open Marwood.Spec.Eval.Derived Marwood.Spec.Eval.Prelude

/-- the fuel-free reading of `Same`/`SameAt`: the definite outcomes some fuel yields coincide -/
theorem derived_limit {k : Nat} {use exp : Datum} {ρ : Env} {st : St} (h : SameAt k use exp ρ st)
    (res : Res Val) (hres : res ≠ .timeout) :
    (∃ n, (evalN n).eval use ρ st = res) ↔ (∃ n, (evalN n).eval exp ρ st = res) :=
  h.limit res hres

/-- `(when t b body …)` ≈ `(if t (begin b body …))` -/
theorem derived_when (ρ : Env) (t b : Datum) (body : List Datum) :
    Same 1 (whenUse t b body) (whenExp t b body) ρ := when_same ρ t b body

/-- the expansion `(if (not t) …)` refers to `not` by name (not hygienic): hence `hρ`, `hnot` -/
theorem derived_unless (ρ : Env) (t b : Datum) (body : List Datum) (st : St) (hρ : ρ.lookup k_not = none)
    (hnot : ∀ m v st1, (evalN m).eval t ρ st = .ok v st1 → st1.globals.lookup k_not = some (.prim .not)) :
    SameAt 2 (unlessUse t b body) (unlessExp t b body) ρ st := unless_same ρ t b body st hρ hnot

/-- the hypotheses of `derived_unless` hold in the initial state for a constant test -/
example : ([] : Env).lookup k_not = none ∧
    ∀ m v st1, (evalN m).eval (.bool false) [] initSt = .ok v st1 → st1.globals.lookup k_not = some (.prim .not) := by
  refine ⟨rfl, ?_⟩
  intro m v st1 h
  cases m with
  | zero => cases h
  | succ m =>
    have : st1 = initSt := by
      have h' : Res.ok (Val.bool false) initSt = Res.ok v st1 := h
      cases h'; rfl
    subst this
    decide +kernel

/-- `(begin e …)` ≈ `((lambda () e …))` when no `e` is a definition: the expansion makes definitions
    internal to the `lambda` body, the native `begin` does not (at top level: known finding
    `C01-toplevel-begin-define`) -/
theorem derived_begin (ρ : Env) (es : List Datum) (h : ∀ e ∈ es, isDefine e = false) :
    Same 1 (beginUse es) (beginExp es) ρ := begin_same ρ es h

/-- with a definition the two differ: inside a body, native `begin` rejects it, the expansion defines -/
theorem begin_define_differs :
    results 10 [L [L [s k_lambda, .nil, beginUse [L [s k_define, s ['x'], .num (.fix 1)], s ['x']]]]] = [.err .syntax] ∧
    results 10 [L [L [s k_lambda, .nil, beginExp [L [s k_define, s ['x'], .num (.fix 1)], s ['x']]]]] = [.ok (.num (.fix 1))] := by
  decide +kernel

/-- `(and)` ≈ `#t`, `(and e)` ≈ `e`, `(and e e2 …)` ≈ `(if e (and e2 …) #f)` -/
theorem derived_and (ρ : Env) (es : List Datum) : Same 1 (andUse es) (andExp es) ρ := and_same ρ es

/-- `(or)` ≈ `#f`, `(or e)` ≈ `e` -/
theorem derived_or_short (ρ : Env) (e : Datum) :
    Same 1 (orUse []) (orExp []) ρ ∧ Same 1 (orUse [e]) (orExp [e]) ρ := ⟨or_same_nil ρ, or_same_one ρ e⟩

/-- `(or e e2 …)` against `(let ((var1 e)) (if var1 var1 (or e2 …)))`: what each computes. They differ in
    the cell of `var1` and its binding around the remaining operands (capture:
    `or_capture_expansion_witness`; agreement up to the cell: `t01_2_or`). -/
theorem derived_or_partial (ρ : Env) (n : Nat) (e e2 : Datum) (es : List Datum) :
    (evalN (n+1)).eval (orUse (e :: e2 :: es)) ρ = (do
      let v ← (evalN n).eval e ρ
      if truthy v then pure v else evalOr (evalN n) ρ (e2 :: es)) ∧
    (evalN (n+4)).eval (orExp (e :: e2 :: es)) ρ = (do
      let v ← (evalN (n+3)).eval e ρ
      let l ← allocCell (.var v)
      if truthy v then pure v else evalOr (evalN (n+1)) ((k_var1, l) :: ρ) (e2 :: es)) :=
  ⟨or_native_eval ρ n e e2 es, or_exp_eval ρ n e e2 es⟩

/-- first operand true: the expansion's store is the native store plus the one variable cell -/
theorem derived_or_first_true (ρ : Env) (n : Nat) (e e2 : Datum) (es : List Datum) (st st1 : St) (v : Val)
    (he : (evalN n).eval e ρ st = .ok v st1) (hv : truthy v = true) :
    (evalN (n+1)).eval (orUse (e :: e2 :: es)) ρ st = .ok v st1 ∧
    (evalN (n+4)).eval (orExp (e :: e2 :: es)) ρ st = .ok v { st1 with store := st1.store.push (.var v) } :=
  or_exp_truthy ρ n e e2 es st st1 v he hv

/-- known finding `C01-prelude-macro-capture`, `or`: with `var1` free in a later operand the
    expansion yields `#f` where the form means 9 (`or_capture_spec_witness`) -/
theorem or_capture_expansion_witness :
    results 10 [L [s k_define, L [s ['h','y'], s k_var1], orExp [.bool false, s k_var1]],
                L [s ['h','y'], .num (.fix 9)]] = [.ok .void, .ok (.bool false)] ∧
    results 10 [L [s k_define, L [s ['h','y'], s k_var1], orUse [.bool false, s k_var1]],
                L [s ['h','y'], .num (.fix 9)]] = [.ok .void, .ok (.num (.fix 9))] := by
  decide +kernel

/-- `(let ((x e) …) b body …)` ≈ `((lambda (x …) b body …) e …)`, names not reserved words -/
theorem derived_let (ρ : Env) (bs : List (Text × Datum)) (b : Datum) (body : List Datum)
    (hb : ∀ p ∈ bs, reserved p.1 = false) :
    Same 1 (letUse (symBindings bs) b body) (letExp (symBindings bs) b body) ρ := let_same ρ bs b body hb

/-- `(let* () b body …)` ≈ `(let () b body …)`;
    `(let* ((x e) rest …) b body …)` ≈ `(let ((x e)) (let* (rest …) b body …))` -/
theorem derived_letStar (ρ : Env) (bs : List (Text × Datum)) (b : Datum) (body : List Datum)
    (hb : ∀ p ∈ bs, reserved p.1 = false) :
    Same 1 (letStarUse (symBindings bs) b body) (letStarExp (symBindings bs) b body) ρ :=
  letStar_same ρ bs b body hb

/-- `(let tag ((x e) …) b body …)` ≈ `((letrec ((tag (lambda (x …) b body …))) tag) e …)` -/
theorem derived_namedLet (ρ : Env) (tag : Text) (bs : List (Text × Datum)) (b : Datum) (body : List Datum)
    (ht : reserved tag = false) (hb : ∀ p ∈ bs, reserved p.1 = false) :
    Same 2 (namedLetUse tag (symBindings bs) b body) (namedLetExp tag (symBindings bs) b body) ρ :=
  namedLet_same ρ tag bs b body ht hb

/-- `(letrec ((x e) …) b body …)` against `(let ((x #f) …) (set! x e) … (let () b body …))`: natively
    `letrecWith #<undefined>`, expanded `letrecWith #f` — they differ only in what a variable holds
    before its initialisation, which R7RS leaves unspecified ("it is an error" to look) -/
theorem derived_letrec_partial (ρ : Env) (bs : List (Text × Datum)) (b : Datum) (body : List Datum)
    (hb : ∀ p ∈ bs, reserved p.1 = false) (n : Nat) :
    (evalN (n+1)).eval (letrecUse (symBindings bs) b body) ρ = letrecWith .undef (evalN n) ρ bs (b :: body) ∧
    (evalN (n+2)).eval (letrecExp (symBindings bs) b body) ρ = letrecWith (.bool false) (evalN n) ρ bs (b :: body) ∧
    Le ((evalN n).eval (letrecExp (symBindings bs) b body) ρ) (letrecWith (.bool false) (evalN n) ρ bs (b :: body)) :=
  letrec_same_with ρ bs b body hb n

/-- one recursive procedure (the shape the expansion of named `let` produces): the variable is never
    looked at before its initialisation, the expansion is exact -/
theorem derived_letrec_single (ρ : Env) (f : Text) (formals lb : Datum) (lbs : List Datum) (b : Datum)
    (body : List Datum) (ps : List Text) (rest : Option Text) (hf : reserved f = false)
    (hp : parseFormals formals = some (ps, rest)) :
    Same 1 (letrecUse (symBindings [(f, L (s k_lambda :: formals :: lb :: lbs))]) b body)
           (letrecExp (symBindings [(f, L (s k_lambda :: formals :: lb :: lbs))]) b body) ρ :=
  letrec_single_same ρ f formals lb lbs b body ps rest hf hp

/-- the difference is observable by a program that looks: `(letrec ((a b) (b 1)) a)` -/
theorem letrec_uninitialised_differs :
    results 10 [letrecUse [(s ['a'], s ['b']), (s ['b'], .num (.fix 1))] (s ['a']) []] = [.ok .undefined] ∧
    results 10 [letrecExp [(s ['a'], s ['b']), (s ['b'], .num (.fix 1))] (s ['a']) []] = [.ok (.bool false)] := by
  decide +kernel

/-- `(cond (else r1 r2 …))` ≈ `(begin r1 r2 …)` -/
theorem derived_cond_else (ρ : Env) (r1 : Datum) (rs : List Datum) :
    Same 1 (condUse [L (s k_else_ :: r1 :: rs)]) (condElseExp r1 rs) ρ := cond_else_same ρ r1 rs

/-- `(cond (t r1 r2 …) clause …)` ≈ `(if t (begin r1 r2 …) [(cond clause …)])` -/
theorem derived_cond_body (ρ : Env) (t r1 : Datum) (rs cs : List Datum) (ht : t ≠ s k_else_)
    (hr : ¬ (r1 = s k_arrow ∧ rs.length = 1)) :
    Same 1 (condUse (L (t :: r1 :: rs) :: cs)) (condBodyExp t r1 rs cs) ρ := cond_body_same ρ t r1 rs cs ht hr

/-- `(cond (t))` against `t`: native = `t`'s value if true, else `#<void>`; the expansion is `t` -/
theorem derived_cond_test_final (ρ : Env) (t : Datum) (ht : t ≠ s k_else_) (n : Nat) :
    (evalN (n+1)).eval (condUse [L [t]]) ρ = (do
      let v ← (evalN n).eval t ρ
      if truthy v then pure v else pure .void) ∧
    condTestExp t [] = t := cond_test_final_eval ρ t ht n

/-- … so `(cond (#f))` is `#<void>` natively and `#f` by the expansion (unspecified in R7RS) -/
theorem cond_test_final_differs :
    results 10 [condUse [L [.bool false]]] = [.ok .void] ∧
    results 10 [condTestExp (.bool false) []] = [.ok (.bool false)] := by decide +kernel

/-- `(cond (t) c cs …)` against `(let ((temp t)) (if temp temp (cond c cs …)))`: what each computes -/
theorem derived_cond_test_partial (ρ : Env) (n : Nat) (t c : Datum) (cs : List Datum) (ht : t ≠ s k_else_) :
    (evalN (n+1)).eval (condUse (L [t] :: c :: cs)) ρ = (do
      let v ← (evalN n).eval t ρ
      if truthy v then pure v else evalCond (evalN n) ρ (c :: cs)) ∧
    (evalN (n+4)).eval (condTestExp t (c :: cs)) ρ = (do
      let v ← (evalN (n+3)).eval t ρ
      let l ← allocCell (.var v)
      if truthy v then pure v else evalCond (evalN (n+1)) ((k_temp, l) :: ρ) (c :: cs)) :=
  ⟨cond_test_native_eval ρ n t c cs ht, cond_test_exp_eval ρ n t c cs⟩

/-- `(cond (t => f) clause …)`: what `(let ((temp t)) (if temp (f temp) [(cond clause …)]))` computes -/
theorem derived_cond_arrow_partial (ρ : Env) (n : Nat) (t f : Datum) (cs : List Datum) :
    (evalN (n+3)).eval (condArrowExp t f cs) ρ = (do
      let v ← (evalN (n+2)).eval t ρ
      let l ← allocCell (.var v)
      if truthy v then (evalN (n+1)).eval (L [f, s k_temp]) ((k_temp, l) :: ρ)
      else (match cs with
        | [] => pure .void
        | c :: cs' => (evalN (n+1)).eval (condUse (c :: cs')) ((k_temp, l) :: ρ))) :=
  cond_arrow_exp_eval ρ n t f cs

/-- known finding `C01-prelude-macro-capture`, `cond`: `temp` free in a later clause -/
theorem cond_capture_expansion_witness :
    results 10 [L [s k_define, L [s ['h','t'], s k_temp], condTestExp (.bool false) [L [s k_else_, s k_temp]]],
                L [s ['h','t'], .num (.fix 9)]] = [.ok .void, .ok (.bool false)] ∧
    results 10 [L [s k_define, L [s ['h','t'], s k_temp], condUse [L [.bool false], L [s k_else_, s k_temp]]],
                L [s ['h','t'], .num (.fix 9)]] = [.ok .void, .ok (.num (.fix 9))] := by
  decide +kernel

/-- `(case k (else => f))` ≈ `(f k)`, `f` not a syntactic keyword -/
theorem derived_case_else_arrow (ρ : Env) (k f : Datum) (hf : ∀ x, f = .sym x → kwOf x = none) :
    Same 1 (caseUse k [L [s k_else_, s k_arrow, f]]) (caseElseArrowExp k f) ρ := case_else_arrow_same ρ k f hf

/-- `(case k (else r1 r2 …))` against `(begin r1 r2 …)`: the native meaning evaluates the key first -/
theorem derived_case_else_partial (ρ : Env) (k r1 : Datum) (rs : List Datum)
    (hr : ¬ (r1 = s k_arrow ∧ rs.length = 1)) (n : Nat) :
    (evalN (n+1)).eval (caseUse k [L (s k_else_ :: r1 :: rs)]) ρ =
      ((evalN n).eval k ρ >>= fun _ => evalExprs (evalN n) ρ (r1 :: rs)) ∧
    (evalN (n+1)).eval (caseElseExp r1 rs) ρ = evalExprs (evalN n) ρ (r1 :: rs) :=
  case_else_native_eval ρ k r1 rs hr n

/-- known finding `C01-prelude-macro-capture`, `case`: `atom-key` free in a clause -/
theorem case_capture_expansion_witness :
    let key := [s ['c','a','r'], L [s k_quote, L [.num (.fix 1)]]]
    let clauses := [L [L [.num (.fix 2)], .num (.fix 0)], L [s k_else_, s k_atomKey]]
    results 12 [L [s k_define, L [s ['h','k'], s k_atomKey], caseKeyExp key clauses],
                L [s ['h','k'], .num (.fix 9)]] = [.ok .void, .ok (.num (.fix 1))] ∧
    results 12 [L [s k_define, L [s ['h','k'], s k_atomKey], caseUse (L key) clauses],
                L [s ['h','k'], .num (.fix 9)]] = [.ok .void, .ok (.num (.fix 9))] := by
  decide +kernel


/-! ## T01.2, both halves together: `Spec.eval ρ (expand m form) ≈ Spec.eval ρ form`

`expand m form` is the R7RS matcher (`Spec.Match.specExpand`, C17) applied ONCE with the rules of macro
`m` as regenerated from `prelude.scm` (`Lemmas/EvalDerivedExpand.lean`: for ALL sub-forms and all
numbers of clauses / bindings / body forms, not instances). It is one rewriting step: the
`(and e2 …)`, `(or e2 …)`, `(cond c …)`, `(case k c …)`, `(let* (rest …) …)` and the inner `letrec` of
named let that remain in the result are read with their NATIVE meaning. There is no induction on the
number of clauses and no theorem about the fully expanded term. -/

/-- the prelude's transformer for `name` rewrites `use` to a term that evaluates like `use` under its
    native meaning, up to `k` levels of fuel, in environment `ρ` -/
def ExpandsAndAgrees (name : Text) (k : Nat) (use : Datum) (ρ : Env) : Prop :=
  ∃ exp, expand name use = some exp ∧ Same k use exp ρ

theorem t01_2_when (ρ : Env) (t b : Datum) (body : List Datum) :
    ExpandsAndAgrees k_when_ 1 (whenUse t b body) ρ := ⟨_, expand_when t b body, when_same ρ t b body⟩

theorem t01_2_unless (ρ : Env) (t b : Datum) (body : List Datum) (st : St) (hρ : ρ.lookup k_not = none)
    (hnot : ∀ m v st1, (evalN m).eval t ρ st = .ok v st1 → st1.globals.lookup k_not = some (.prim .not)) :
    ∃ exp, expand k_unless_ (unlessUse t b body) = some exp ∧ SameAt 2 (unlessUse t b body) exp ρ st :=
  ⟨_, expand_unless t b body, unless_same ρ t b body st hρ hnot⟩

theorem t01_2_begin (ρ : Env) (es : List Datum) (h : ∀ e ∈ es, isDefine e = false) :
    ExpandsAndAgrees k_begin_ 1 (beginUse es) ρ := ⟨_, expand_begin es, begin_same ρ es h⟩

theorem t01_2_and (ρ : Env) (es : List Datum) : ExpandsAndAgrees k_and_ 1 (andUse es) ρ :=
  ⟨_, expand_and es, and_same ρ es⟩

theorem t01_2_or_short (ρ : Env) (e : Datum) :
    ExpandsAndAgrees k_or_ 1 (orUse []) ρ ∧ ExpandsAndAgrees k_or_ 1 (orUse [e]) ρ :=
  ⟨⟨_, expand_or [], or_same_nil ρ⟩, ⟨_, expand_or [e], or_same_one ρ e⟩⟩

theorem t01_2_let (ρ : Env) (bs : List (Text × Datum)) (b : Datum) (body : List Datum)
    (hb : ∀ p ∈ bs, reserved p.1 = false) :
    ExpandsAndAgrees k_let_ 1 (letUse (symBindings bs) b body) ρ :=
  ⟨_, expand_let _ b body, let_same ρ bs b body hb⟩

theorem t01_2_letStar (ρ : Env) (bs : List (Text × Datum)) (b : Datum) (body : List Datum)
    (hb : ∀ p ∈ bs, reserved p.1 = false) :
    ExpandsAndAgrees k_letStar 1 (letStarUse (symBindings bs) b body) ρ :=
  ⟨_, expand_letStar _ b body, letStar_same ρ bs b body hb⟩

theorem t01_2_namedLet (ρ : Env) (tag : Text) (bs : List (Text × Datum)) (b : Datum) (body : List Datum)
    (ht : reserved tag = false) (hb : ∀ p ∈ bs, reserved p.1 = false) :
    ExpandsAndAgrees k_let_ 2 (namedLetUse tag (symBindings bs) b body) ρ :=
  ⟨_, expand_namedLet tag _ b body, namedLet_same ρ tag bs b body ht hb⟩

theorem t01_2_letrec_single (ρ : Env) (f : Text) (formals lb : Datum) (lbs : List Datum) (b : Datum)
    (body : List Datum) (ps : List Text) (rest : Option Text) (hf : reserved f = false)
    (hp : parseFormals formals = some (ps, rest)) :
    ExpandsAndAgrees k_letrec 1 (letrecUse (symBindings [(f, L (s k_lambda :: formals :: lb :: lbs))]) b body) ρ :=
  ⟨_, expand_letrec _ b body, letrec_single_same ρ f formals lb lbs b body ps rest hf hp⟩

theorem t01_2_cond_else (ρ : Env) (r1 : Datum) (rs : List Datum) :
    ExpandsAndAgrees k_cond 1 (condUse [L (s k_else_ :: r1 :: rs)]) ρ :=
  ⟨_, expand_cond_else r1 rs, cond_else_same ρ r1 rs⟩

theorem t01_2_cond_body (ρ : Env) (t r1 : Datum) (rs cs : List Datum) (ht : t ≠ s k_else_)
    (hr : ¬ (r1 = s k_arrow ∧ rs.length = 1)) :
    ExpandsAndAgrees k_cond 1 (condUse (L (t :: r1 :: rs) :: cs)) ρ :=
  ⟨_, expand_cond_body t r1 rs cs ht hr, cond_body_same ρ t r1 rs cs ht hr⟩

theorem t01_2_case_else_arrow (ρ : Env) (k f : Datum) (hk : ∀ ks, k ≠ L ks)
    (hf : ∀ x, f = .sym x → kwOf x = none) :
    ExpandsAndAgrees k_case_ 1 (caseUse k [L [s k_else_, s k_arrow, f]]) ρ :=
  ⟨_, expand_case_else_arrow k f hk, case_else_arrow_same ρ k f hf⟩

/-- first half for the remaining rules. Their second half: the sections below (`t01_2_or`,
    `t01_2_cond_test`, `t01_2_cond_arrow`, `t01_2_case_*`, `t01_2_delay`), `derived_letrec_partial`,
    `derived_cond_test_final` for the final `(cond (t))`; none for `delay-force` -/
theorem t01_2_first_half_rest :
    (∀ bs b body, expand k_letrec (letrecUse bs b body) = some (letrecExp bs b body)) ∧
    (∀ es, expand k_or_ (orUse es) = some (orExp es)) ∧
    (∀ t f cs, t ≠ s k_else_ → expand k_cond (condUse (L [t, s k_arrow, f] :: cs)) = some (condArrowExp t f cs)) ∧
    (∀ t cs, expand k_cond (condUse (L [t] :: cs)) = some (condTestExp t cs)) ∧
    (∀ ks cs, expand k_case_ (caseUse (L ks) cs) = some (caseKeyExp ks cs)) ∧
    (∀ k r1 rs, (∀ ks, k ≠ L ks) → ¬ (r1 = s k_arrow ∧ rs.length = 1) →
      expand k_case_ (caseUse k [L (s k_else_ :: r1 :: rs)]) = some (caseElseExp r1 rs)) ∧
    (∀ k atoms f cs, (∀ ks, k ≠ L ks) →
      expand k_case_ (caseUse k (L [L atoms, s k_arrow, f] :: cs)) = some (caseArrowExp k atoms f cs)) ∧
    (∀ k atoms r1 rs cs, (∀ ks, k ≠ L ks) → ¬ (r1 = s k_arrow ∧ rs.length = 1) →
      expand k_case_ (caseUse k (L (L atoms :: r1 :: rs) :: cs)) = some (caseBodyExp k atoms r1 rs cs)) ∧
    (∀ e, expand k_delay (delayUse e) = some (delayExp e)) ∧
    (∀ e, expand k_delayForce (delayForceUse e) = some (delayForceExp e)) :=
  ⟨expand_letrec, expand_or, fun t f cs ht => expand_cond_arrow t f cs ht, expand_cond_test, expand_case_key,
   fun k r1 rs hk hr => expand_case_else k r1 rs hk hr, fun k atoms f cs hk => expand_case_arrow k atoms f cs hk,
   fun k atoms r1 rs cs hk hr => expand_case_body k atoms r1 rs cs hk hr, expand_delay, expand_delayForce⟩


/-! ## T01.2 second half for the rules that bind an identifier of their own (`var1`, `temp`, `atom-key`)

These expansions allocate a variable the native meaning does not have and evaluate the remaining
sub-forms under one more binding, so the two outcomes cannot be EQUAL states: they are equal up to an
injective renaming `f` of locations (`Lemmas/EvalExtra*.lean`: `VRel f`, `StRel f`, `ResRel f`).
`extra_cell_invariance` is the main lemma (induction on the fuel). It is about the GUARDED native run
`guardN`: `display`/`write`/`eval`, `equal?`, the list walkers and `memv`/`assv` take their fuel from
the store size, so on cyclic data their result depends on the number of cells
(`or_cyclic_display_differs`). `guardN` makes "ran into that bound" a time-out; where it is definite it
agrees with `evalN` (`guarded_refines`) and with every store that has more cells. -/

open Marwood.Spec.Eval.Extra

/-- the guarded evaluator is `Spec.Eval` wherever it is definite -/
theorem guarded_refines (n : Nat) (e : Datum) (ρ : Env) (st : St) (h : (guardN n).eval e ρ st ≠ .timeout) :
    (evalN n).eval e ρ st = (guardN n).eval e ρ st := guardN_eval_evalN n e ρ st h

/-- **Invariance of `Spec.Eval` under extra unreachable cells and unused bindings.** `st'` holds the cells
    of `st` at their images under `f` (anything elsewhere), allocation in step; `ρ'` agrees with `ρ`
    under `f` outside `B`, no name of `B` occurs in `e`. If the guarded native run is definite, the run
    in `st'`, `ρ'` with the same fuel has the same kind of outcome, error class and output log, and
    values, globals, stores related by `f`. -/
theorem extra_cell_invariance {f : LMap} (hf : Inj f) (n : Nat) (e : Datum) {B : List Text} {ρ ρ' : Env}
    (he : EnvRel f B ρ ρ') (hc : CleanB B e) {st st' : St} (rs : StRel f st st') :
    ResRel f (VRel f) ((guardN n).eval e ρ st) ((evalN n).eval e ρ' st') :=
  Marwood.Spec.Eval.Extra.extra_cell_invariance hf n e he hc rs

/-- … for a top-level form, definitions included: the forms that FOLLOW a derived form resp. its expansion
    in a session evaluate alike -/
theorem extra_cell_invariance_top {f : LMap} (hf : Inj f) (n : Nat) (d : Datum) {st st' : St} (rs : StRel f st st') :
    ResRel f (VRel f) (evalTop (guardN n) d st) (evalTop (evalN n) d st') :=
  Marwood.Spec.Eval.Extra.extra_cell_invariance_top hf n d rs

/-- the instance the expansions need: `k` more cells at the end of the store, one more binding in front -/
theorem extra_cells_appended {st : St} (hst : WFSt st) (k : Nat) (σ' : Array Cell) (hsz : σ'.size = st.store.size + k)
    (hpre : ∀ l, l < st.store.size → σ'[l]? = st.store[l]?) {ρ : Env} (hρ : EnvOK st.store.size ρ) (x : Text) (l : Loc) :
    Inj (shiftAt st.store.size k) ∧ StRel (shiftAt st.store.size k) st { st with store := σ' } ∧
    EnvRel (shiftAt st.store.size k) [x] ρ ((x, l) :: ρ) :=
  ⟨inj_shiftAt _ _, stRel_extend hst k σ' hsz hpre, envRel_shift_cons hρ x l⟩

/-- the hypotheses are satisfiable: the initial state is well formed (and so is every state a session
    reaches: `wf_runSession`) -/
example : WFSt initSt ∧ EnvOK initSt.store.size [] := ⟨wf_initSt, by simp⟩

/-- without the guard the invariance fails: printing a circular list unfolds it as deep as the store is
    large, and the expansion of `or` has one more cell -/
theorem or_cyclic_display_differs :
    let p := s ['p']
    let setup := [L [s k_define, p, L [s ['c','o','n','s'], .num (.fix 1), L [s k_quote, .nil]]],
                  L [s ['s','e','t','-','c','d','r','!'], p, p]]
    let e2 := L [s ['d','i','s','p','l','a','y'], p]
    output 12 (setup ++ [orUse [.bool false, e2]]) ≠ output 12 (setup ++ [orExp [.bool false, e2]]) := by
  decide +kernel

/-- `ExpandsAndAgrees` up to the cells the expansion allocates (`AgreesUpToExtra`, `Lemmas/EvalDerived2.lean`) -/
def ExpandsAndAgreesUpToExtra (name : Text) (k : Nat) (use : Datum) (ρ : Env) (st : St) : Prop :=
  ∃ exp, expand name use = some exp ∧ AgreesUpToExtra k use exp ρ st

/-- `(or e e2 …)` ≈ `(let ((var1 e)) (if var1 var1 (or e2 …)))` when `var1` does not occur in `e2 …` -/
theorem t01_2_or (ρ : Env) (e e2 : Datum) (es : List Datum) (st : St) (hst : WFSt st) (hρ : EnvOK st.store.size ρ)
    (hfree : ∀ d ∈ e2 :: es, mentions k_var1 d = false) :
    ExpandsAndAgreesUpToExtra k_or_ 3 (orUse (e :: e2 :: es)) ρ st :=
  ⟨_, expand_or _, or_agrees ρ e e2 es st hst hρ hfree⟩

/-- `(cond (t) c cs …)` ≈ `(let ((temp t)) (if temp temp (cond c cs …)))` when `temp` does not occur in
    `c cs …` (the final `(cond (t))` is `cond_test_final_differs`) -/
theorem t01_2_cond_test (ρ : Env) (t c : Datum) (cs : List Datum) (ht : t ≠ s k_else_) (st : St) (hst : WFSt st)
    (hρ : EnvOK st.store.size ρ) (hfree : ∀ d ∈ c :: cs, mentions k_temp d = false) :
    ExpandsAndAgreesUpToExtra k_cond 3 (condUse (L [t] :: c :: cs)) ρ st :=
  ⟨_, expand_cond_test t (c :: cs), cond_test_agrees ρ t c cs ht st hst hρ hfree⟩

/-- `(cond (t => f) clause …)` ≈ `(let ((temp t)) (if temp (f temp) [(cond clause …)]))` when `temp`
    occurs neither in `f` nor in the remaining clauses and `f` is not a syntactic keyword -/
theorem t01_2_cond_arrow (ρ : Env) (t f : Datum) (cs : List Datum) (ht : t ≠ s k_else_)
    (hf : ∀ x, f = .sym x → kwOf x = none) (st : St) (hst : WFSt st) (hρ : EnvOK st.store.size ρ)
    (hfree : ∀ d ∈ f :: cs, mentions k_temp d = false) :
    ExpandsAndAgreesUpToExtra k_cond 2 (condUse (L [t, s k_arrow, f] :: cs)) ρ st :=
  ⟨_, expand_cond_arrow t f cs ht, cond_arrow_agrees ρ t f cs ht hf st hst hρ hfree⟩

/-- `(case (k …) c cs …)` ≈ `(let ((atom-key (k …))) (case atom-key c cs …))` when `atom-key` does not occur
    in the clauses -/
theorem t01_2_case_key (ρ : Env) (ks : List Datum) (c : Datum) (cs : List Datum) (st : St) (hst : WFSt st)
    (hρ : EnvOK st.store.size ρ) (hfree : ∀ d ∈ c :: cs, mentions k_atomKey d = false) :
    ExpandsAndAgreesUpToExtra k_case_ 2 (caseUse (L ks) (c :: cs)) ρ st :=
  ⟨_, expand_case_key ks (c :: cs), case_key_agrees ρ ks c cs st hst hρ hfree⟩

theorem atomKey_not_list {k : Datum} (h : atomKey k = true) : ∀ ks, k ≠ L ks := by
  intro ks e
  subst e
  cases ks <;> simp [L, Datum.ofList, atomKey] at h

/-- `(case k (else r1 r2 …))` ≈ `(begin r1 r2 …)` exactly, but only from a state in which the key evaluates
    without effect: the native meaning evaluates it, the expansion never does -/
theorem t01_2_case_else (ρ : Env) (k r1 : Datum) (rs : List Datum) (hk : ∀ ks, k ≠ L ks)
    (hr : ¬ (r1 = s k_arrow ∧ rs.length = 1)) (st : St)
    (hpure : ∀ m, ∃ v, (evalN (m + 1)).eval k ρ st = .ok v st) :
    ∃ exp, expand k_case_ (caseUse k [L (s k_else_ :: r1 :: rs)]) = some exp ∧
      SameAt 1 (caseUse k [L (s k_else_ :: r1 :: rs)]) exp ρ st :=
  ⟨_, expand_case_else k r1 rs hk hr, case_else_same ρ k r1 rs hr st hpure⟩

/-- … a constant key satisfies the hypothesis in every state; with an unbound variable as key the two
    differ (native: error, expansion: the body) -/
example (st : St) : ∀ m, ∃ v, (evalN (m + 1)).eval (.num (.fix 3)) [] st = .ok v st := fun _ => ⟨.int 3, rfl⟩

theorem case_else_unbound_key_differs :
    results 10 [caseUse (s ['u']) [L [s k_else_, .num (.fix 1)]]] = [.err .unbound] ∧
    results 10 [caseElseExp (.num (.fix 1)) []] = [.ok (.num (.fix 1))] := by decide +kernel

/-- `(case k ((d …) r1 r2 …) clause …)` ≈ `(if (memv k '(d …)) (begin r1 r2 …) [(case k clause …)])` for an
    atomic key (what the key is after rule 1), data that `quote` turns into atoms, `memv` the
    primitive; the expansion's store has one more cell per datum (the quoted list) -/
theorem t01_2_case_body (ρ : Env) (k : Datum) (atoms : List Datum) (r1 : Datum) (rs cs : List Datum)
    (hr : ¬ (r1 = s k_arrow ∧ rs.length = 1)) (hat : ∀ d ∈ atoms, simpleAtom d = true) (hkey : atomKey k = true)
    (st : St) (hst : WFSt st) (hρ : EnvOK st.store.size ρ) (hρm : ρ.lookup k_memv = none)
    (hg : st.globals.lookup k_memv = some (.prim .memv)) :
    ExpandsAndAgreesUpToExtra k_case_ 1 (caseUse k (L (L atoms :: r1 :: rs) :: cs)) ρ st :=
  ⟨_, expand_case_body k atoms r1 rs cs (atomKey_not_list hkey) hr,
    case_body_agrees ρ k atoms r1 rs cs hr hat hkey st hst hρ hρm hg⟩

/-- `(case k ((d …) => f) clause …)` ≈ `(if (memv k '(d …)) (f k) [(case k clause …)])`, same hypotheses, `f`
    not a syntactic keyword -/
theorem t01_2_case_arrow (ρ : Env) (k : Datum) (atoms : List Datum) (f : Datum) (cs : List Datum)
    (hf : ∀ x, f = .sym x → kwOf x = none) (hat : ∀ d ∈ atoms, simpleAtom d = true) (hkey : atomKey k = true)
    (st : St) (hst : WFSt st) (hρ : EnvOK st.store.size ρ) (hρm : ρ.lookup k_memv = none)
    (hg : st.globals.lookup k_memv = some (.prim .memv)) :
    ExpandsAndAgreesUpToExtra k_case_ 1 (caseUse k (L [L atoms, s k_arrow, f] :: cs)) ρ st :=
  ⟨_, expand_case_arrow k atoms f cs (atomKey_not_list hkey),
    case_arrow_agrees ρ k atoms f cs hf hat hkey st hst hρ hρm hg⟩

/-- non-vacuity for the `case` rules in the initial state: `(case 3 ((1 2) 'a) ((3 x) 'b))`,
    `(case 3 ((3) => list) (else 0))`, `(case (car '(3)) ((3) 1))` -/
example :
    (guardN 4).eval (caseUse (.num (.fix 3)) [L [L [.num (.fix 1), .num (.fix 2)], L [s k_quote, s ['a']]],
        L [L [.num (.fix 3), s ['x']], L [s k_quote, s ['b']]]]) [] initSt ≠ .timeout ∧
    (guardN 4).eval (caseUse (.num (.fix 3)) [L [L [.num (.fix 3)], s k_arrow, s ['l','i','s','t']],
        L [s k_else_, .num (.fix 0)]]) [] initSt ≠ .timeout ∧
    (guardN 5).eval (caseUse (L [s ['c','a','r'], L [s k_quote, L [.num (.fix 3)]]]) [L [L [.num (.fix 3)], .num (.fix 1)]]) [] initSt ≠ .timeout ∧
    ([] : Env).lookup k_memv = none ∧ initSt.globals.lookup k_memv = some (.prim .memv) ∧
    (∀ d ∈ [Datum.num (.fix 3), s ['x']], simpleAtom d = true) ∧ atomKey (.num (.fix 3)) = true :=
  ⟨definiteB_ne (by decide +kernel), definiteB_ne (by decide +kernel), definiteB_ne (by decide +kernel),
   rfl, by decide +kernel, by decide +kernel, rfl⟩

/-- the observable parts of `ResRel`: same kind of outcome, error class, output log, and the same printed
    value when the native value is not cyclic -/
theorem agrees_observables {f : LMap} {res res' : Res Val} (h : ResRel f (VRel f) res res') (hd : res ≠ .timeout) :
    (∃ v s v' s', res = .ok v s ∧ res' = .ok v' s' ∧ VRel f v v' ∧ s'.out = s.out ∧
        (valCut (s.store.size + 1) s.store v = false →
          valToDatum (s'.store.size + 1) s'.store v' = valToDatum (s.store.size + 1) s.store v)) ∨
    (∃ e s s', res = .err e s ∧ res' = .err e s' ∧ s'.out = s.out) := ResRel.observe h hd

/-- the outcome described is the ONLY definite outcome the expansion has, whatever the fuel -/
theorem agrees_unique {k : Nat} {use exp : Datum} {ρ : Env} {st : St} (h : AgreesUpToExtra k use exp ρ st)
    (n : Nat) (hd : (guardN n).eval use ρ st ≠ .timeout) (m : Nat) (hm : (evalN m).eval exp ρ st ≠ .timeout) :
    (evalN m).eval exp ρ st = (evalN (n + k)).eval exp ρ st := h.unique n hd m hm

/-- as top-level forms the two print the same result (value text or error class) when the native value
    is not cyclic -/
theorem agrees_printed {k : Nat} {use exp : Datum} {st : St} (h : AgreesUpToExtra k use exp [] st)
    (htop : ∀ r, evalTop r use = r.eval use [] ∧ evalTop r exp = r.eval exp [])
    (n : Nat) (hd : (guardN n).eval use [] st ≠ .timeout)
    (hac : ∀ v s, (evalN n).eval use [] st = .ok v s → valCut (s.store.size + 1) s.store v = false) :
    (runForm (n + k) exp st).1 = (runForm n use st).1 := h.printed htop n hd hac

/-- … e.g. for `or`: neither the form nor its expansion is a definition or a top-level `begin` -/
example (e e2 : Datum) (es : List Datum) (r : Rec) :
    evalTop r (orUse (e :: e2 :: es)) = r.eval (orUse (e :: e2 :: es)) [] ∧
    evalTop r (orExp (e :: e2 :: es)) = r.eval (orExp (e :: e2 :: es)) [] := by
  have h1 : (k_or_ == k_begin_) = false := by decide
  have h2 : (k_or_ == k_define) = false := by decide
  have h3 : (k_let_ == k_begin_) = false := by decide
  have h4 : (k_let_ == k_define) = false := by decide
  constructor <;> simp [orUse, orExp, L, s, Datum.ofList, evalTop, evalTopForm, isDefine, h1, h2, h3, h4]

/-- non-vacuity: the guarded native run of `(or #f (car '(7)))` from the initial state is definite, and
    the freeness hypothesis holds -/
example : (guardN 4).eval (orUse [.bool false, L [s ['c','a','r'], L [s k_quote, L [.num (.fix 7)]]]]) [] initSt ≠ .timeout ∧
    (∀ d ∈ [L [s ['c','a','r'], L [s k_quote, L [.num (.fix 7)]]]], mentions k_var1 d = false) :=
  ⟨definiteB_ne (by decide +kernel), by decide +kernel⟩

/-- non-vacuity for the `cond` rules: `(cond (#f) (else 1))`, `(cond (7 => list) (else 1))` -/
example : (guardN 4).eval (condUse [L [.bool false], L [s k_else_, .num (.fix 1)]]) [] initSt ≠ .timeout ∧
    (guardN 4).eval (condUse [L [.num (.fix 7), s k_arrow, s ['l','i','s','t']], L [s k_else_, .num (.fix 1)]]) [] initSt ≠ .timeout :=
  ⟨definiteB_ne (by decide +kernel), definiteB_ne (by decide +kernel)⟩


/-! ## T01.2 second half, CONVERSE direction: expansion definite ⇒ native definite, related outcome

`agrees_unique` says the related outcome is the expansion's ONLY definite outcome; what it does not say
is that the native form is definite whenever the expansion is. That needs a simulation from the LARGER
store (the expansion's: `k` extra cells) to the smaller (`Lemmas/EvalConverse*.lean`, `ResRelR`; same
relations `VRel f`, `StRel f`). The guard moves to the expansion's side and gets slack: the
store-size-fuelled helpers have `k` units of fuel LESS in the native store, so the expansion's run must
stay `k` short of their bound (`sguardN k`: no cut with fuel `store.size + 1 - k`; `cut_transfer`).
`sguardN k n ⊑ evalN n` (`slack_guarded_refines`).

The slack guard applies to the WHOLE run of the expansion, also before the extra cells exist, and the
subtraction is truncated: in a store of fewer than `k` cells every `memv`/`memq`/`assv`/`assq` is a
time-out, and from small stores (the initial state) programs that call `memv`, `length`, … make the
hypothesis `(sguardN k m).eval exp ρ st ≠ .timeout` false, e.g. `(or (memv 1 '(1)) 1)` at slack 1: the
`t01_2_*_converse` theorems say nothing about them, although nothing cyclic is involved.

When the guards do not fire: on data of rank below the helper fuel, for a rank function that decreases
along the edges of the store (`guards_quiet_on_ranked_data`), e.g. the location itself in a store whose
cells only point to older cells (`guards_quiet_on_allocation_ordered_store`). `Ranked` and `OlderOnly`
are HYPOTHESES the user supplies: nothing here proves them of any store, nor that `cons`/`list`/
`vector`/`quote` establish or keep them. -/

open Marwood.Spec.Eval.Conv

/-- the slack-guarded evaluator is `Spec.Eval` wherever it is definite -/
theorem slack_guarded_refines (k n : Nat) (e : Datum) (ρ : Env) (st : St) (h : (sguardN k n).eval e ρ st ≠ .timeout) :
    (evalN n).eval e ρ st = (sguardN k n).eval e ρ st := sguardN_eval_evalN k n e ρ st h

/-- at slack 0 the guard on an application is that of the forward direction; the equality of the towers
    `sguardN 0` and `guardN` is `guardN_eq_sguardN` (`EvalMonoMain`). -/
theorem slack_zero_is_guard (r : Rec) (f : Val) (args : List Val) : sguardApply 0 r f args = guardApply r f args :=
  sguardApply_zero r f args

/-- **Extra-cell invariance, converse.** At most `k` extra cells (`f l ≤ l + k`). If the run in the LARGER
    store `st'` is definite and stays `k` short of the helpers' bound, the run in the smaller store `st`
    with the same fuel is definite, does not hit its own guard, and has the related outcome. -/
theorem extra_cell_invariance_converse {f : LMap} (hf : Inj f) {k : Nat} (hfk : ∀ l, f l ≤ l + k) (n : Nat) (e : Datum)
    {B : List Text} {ρ ρ' : Env} (he : EnvRel f B ρ ρ') (hc : CleanB B e) {st st' : St} (rs : StRel f st st') :
    ResRelR f (VRel f) ((guardN n).eval e ρ st) ((sguardN k n).eval e ρ' st') :=
  extra_cell_invariance_conv_guard hf hfk n e he hc rs

/-- what `ResRelR` says when the larger run is definite: the smaller is definite and forward-related -/
theorem converse_gives_forward {f : LMap} {res res' : Res Val} (h : ResRelR f (VRel f) res res') (hd : res' ≠ .timeout) :
    res ≠ .timeout ∧ ResRel f (VRel f) res res' := ⟨h.definite hd, h.to_fwd hd⟩

/-- when the guards do not fire: data of rank (depth) below the helper fuel, `rk` decreasing along the
    edges of the store (acyclic) -/
theorem guards_quiet_on_ranked_data {σ : Array Cell} {rk : Loc → Nat} (h : Ranked σ rk) (F : Nat) (f : Val) (args : List Val)
    (ha : ∀ a ∈ args, valRank rk a < F) : helperCutAt F f args σ = false := helperCutAt_of_ranked h F f args ha

/-- … never at slack 0 in a store whose cells only point to older cells, on arguments in bounds -/
theorem guards_quiet_on_allocation_ordered_store {σ : Array Cell} (h : OlderOnly σ) (f : Val) (args : List Val)
    (ha : ∀ a ∈ args, valRank (fun l => l) a ≤ σ.size) : helperCut f args σ = false := helperCut_of_olderOnly h f args ha

/-- `expand name use = some exp`, and whenever `exp` is definite under slack `k` the native `use` is
    definite with the same fuel and the related outcome (`AgreesConv`, `Lemmas/EvalConverseDerived.lean`) -/
def ExpandsAndAgreesConversely (name : Text) (k : Nat) (use : Datum) (ρ : Env) (st : St) : Prop :=
  ∃ exp, expand name use = some exp ∧ AgreesConv k use exp ρ st

theorem t01_2_or_converse (ρ : Env) (e e2 : Datum) (es : List Datum) (st : St) (hst : WFSt st) (hρ : EnvOK st.store.size ρ)
    (hfree : ∀ d ∈ e2 :: es, mentions k_var1 d = false) :
    ExpandsAndAgreesConversely k_or_ 1 (orUse (e :: e2 :: es)) ρ st :=
  ⟨_, expand_or _, or_agrees_conv ρ e e2 es st hst hρ hfree⟩

theorem t01_2_cond_test_converse (ρ : Env) (t c : Datum) (cs : List Datum) (ht : t ≠ s k_else_) (st : St) (hst : WFSt st)
    (hρ : EnvOK st.store.size ρ) (hfree : ∀ d ∈ c :: cs, mentions k_temp d = false) :
    ExpandsAndAgreesConversely k_cond 1 (condUse (L [t] :: c :: cs)) ρ st :=
  ⟨_, expand_cond_test t (c :: cs), cond_test_agrees_conv ρ t c cs ht st hst hρ hfree⟩

theorem t01_2_cond_arrow_converse (ρ : Env) (t f : Datum) (cs : List Datum) (ht : t ≠ s k_else_)
    (hf : ∀ x, f = .sym x → kwOf x = none) (st : St) (hst : WFSt st) (hρ : EnvOK st.store.size ρ)
    (hfree : ∀ d ∈ f :: cs, mentions k_temp d = false) :
    ExpandsAndAgreesConversely k_cond 1 (condUse (L [t, s k_arrow, f] :: cs)) ρ st :=
  ⟨_, expand_cond_arrow t f cs ht, cond_arrow_agrees_conv ρ t f cs ht hf st hst hρ hfree⟩

theorem t01_2_case_key_converse (ρ : Env) (ks : List Datum) (c : Datum) (cs : List Datum) (st : St) (hst : WFSt st)
    (hρ : EnvOK st.store.size ρ) (hfree : ∀ d ∈ c :: cs, mentions k_atomKey d = false) :
    ExpandsAndAgreesConversely k_case_ 1 (caseUse (L ks) (c :: cs)) ρ st :=
  ⟨_, expand_case_key ks (c :: cs), case_key_agrees_conv ρ ks c cs st hst hρ hfree⟩

/-- slack = number of data of the clause (the quoted list the expansion allocates). The expansion's own
    `memv` walks that list, so the slack-guarded run is definite only from stores with at least that many
    cells: vacuous from the initial state (example in `Lemmas/EvalConverseDerivedCase.lean`). -/
theorem t01_2_case_body_converse (ρ : Env) (k : Datum) (atoms : List Datum) (r1 : Datum) (rs cs : List Datum)
    (hr : ¬ (r1 = s k_arrow ∧ rs.length = 1)) (hat : ∀ d ∈ atoms, simpleAtom d = true) (hkey : atomKey k = true)
    (st : St) (hst : WFSt st) (hρ : EnvOK st.store.size ρ) (hρm : ρ.lookup k_memv = none)
    (hg : st.globals.lookup k_memv = some (.prim .memv)) :
    ExpandsAndAgreesConversely k_case_ atoms.length (caseUse k (L (L atoms :: r1 :: rs) :: cs)) ρ st :=
  ⟨_, expand_case_body k atoms r1 rs cs (atomKey_not_list hkey) hr,
    case_body_agrees_conv ρ k atoms r1 rs cs hr hat hkey st hst hρ hρm hg⟩

theorem t01_2_case_arrow_converse (ρ : Env) (k : Datum) (atoms : List Datum) (f : Datum) (cs : List Datum)
    (hf : ∀ x, f = .sym x → kwOf x = none) (hat : ∀ d ∈ atoms, simpleAtom d = true) (hkey : atomKey k = true)
    (st : St) (hst : WFSt st) (hρ : EnvOK st.store.size ρ) (hρm : ρ.lookup k_memv = none)
    (hg : st.globals.lookup k_memv = some (.prim .memv)) :
    ExpandsAndAgreesConversely k_case_ atoms.length (caseUse k (L [L atoms, s k_arrow, f] :: cs)) ρ st :=
  ⟨_, expand_case_arrow k atoms f cs (atomKey_not_list hkey),
    case_arrow_agrees_conv ρ k atoms f cs hf hat hkey st hst hρ hρm hg⟩

/-- the converse delivers definiteness of the native form -/
theorem converse_native_definite {k : Nat} {use exp : Datum} {ρ : Env} {st : St} (h : AgreesConv k use exp ρ st)
    (m : Nat) (hd : (sguardN k m).eval exp ρ st ≠ .timeout) : (evalN m).eval use ρ st ≠ .timeout :=
  h.native_definite m hd

/-- non-vacuity: the slack-guarded runs of the expansions of `(or #f (car '(7)))` and `(cond (#f) (else 1))`
    from the initial state are definite -/
example : (sguardN 1 5).eval (orExp [.bool false, L [s ['c','a','r'], L [s k_quote, L [.num (.fix 7)]]]]) [] initSt ≠ .timeout ∧
    (sguardN 1 5).eval (condTestExp (.bool false) [L [s k_else_, .num (.fix 1)]]) [] initSt ≠ .timeout :=
  ⟨definiteB_ne (by decide +kernel), definiteB_ne (by decide +kernel)⟩


/-! ## T01.2 second half for `delay` / `force` (a change of REPRESENTATION)

`Spec.Eval` has native promises (one cell `Cell.promise done value-or-thunk`, a primitive `force`); the
prelude has none: `(delay e)` expands (rule of `delay`, then of `delay-force`) to
`(make-promise #f (lambda () (make-promise #t e)))` and five library procedures represent a promise as
the list `((done? . value-or-thunk))` (`Lemmas/EvalPromise.lean`). So the two sides run DIFFERENT code
after the expansion and no location map relates a promise cell to one cell. What is proved:

* `prelude_promise_library`: evaluating the five regenerated definitions binds exactly the closures the
  proofs are about (a change to `prelude.scm` breaks this);
* `t01_2_delay_unforced`: `(delay e)` builds natively an unforced promise cell, expanded its
  representation (`PromRep`: root pair + box pair, flag `#f`, thunks `(lambda () e)` ↔
  `(lambda () (make-promise #t e))` in the same environment), no effect;
* `t01_2_delay`: `(force (delay e))` — native (guarded with slack 1) definite ⇒ the expansion, run with the
  prelude's library, has the same kind of outcome, error class, output log (`SpanAgree`: both runs are
  images, under injective location maps, of the evaluation of `e` at the use), and BOTH promises end up
  in the done state holding their value. Of the two values `promise_agrees_observables` says only: same
  constructor, equal atoms, closures with the same code;
* `t01_2_force_again`: forcing a forced promise returns the payload on both sides without output and
  without running user code. No theorem composes it with `t01_2_delay` for a promise held in a variable
  and forced several times: that case is carried by the kernel-checked program `memoProg`;
* kernel-checked programs (`Lemmas/EvalPromiseExamples.lean`): forced twice prints once, never forced
  prints nothing, the R7RS re-entrancy example answers 6 and 6, a `delay-force` chain.

RESTRICTION (the fragment): the delayed expression `e` and every value of the state do not mention the
symbol `force` (`hce`, `hinv`: promises are manipulated through the one outer `force` only — the native
and the prelude's `force` are different global values, and the frame property T01.1 removes the
difference), `e` is not a definition, `force` / `make-promise` are not lexically shadowed at the use
(the hygiene finding), and evaluating `e` leaves the library's global bindings alone (`hkeep`; a
program that redefines `car` breaks the prelude's `force` but not a native one). For `delay-force`
`Spec.Eval` has no native meaning: first half (`t01_2_first_half_rest`) plus the chain example against
the R7RS reading `(delay (force e))`. -/

/-- the regenerated library definitions evaluate to the closures of `Lemmas/EvalPromise.lean` -/
theorem prelude_promise_library (n : Nat) (st : St) :
    evalTop (evalN (n+2)) Gen.PreludeProcs.proc14 st = .ok .void { st with globals := insertG k_makePromise cMakePromise st.globals } ∧
    evalTop (evalN (n+2)) Gen.PreludeProcs.proc15 st = .ok .void { st with globals := insertG k_force cForce st.globals } ∧
    evalTop (evalN (n+2)) Gen.PreludeProcs.proc16 st = .ok .void { st with globals := insertG k_promiseDone cDone st.globals } ∧
    evalTop (evalN (n+2)) Gen.PreludeProcs.proc17 st = .ok .void { st with globals := insertG k_promiseValue cValue st.globals } ∧
    evalTop (evalN (n+2)) Gen.PreludeProcs.proc18 st = .ok .void { st with globals := insertG k_promiseUpdate cUpdate st.globals } :=
  ⟨load_makePromise n st, load_force n st, load_done n st, load_value n st, load_update n st⟩

/-- first half for `delay`: two macro steps -/
theorem t01_2_delay_expands (e : Datum) :
    ∃ mid, expand k_delay (delayUse e) = some mid ∧ expand k_delayForce mid = some (delayFull e) := expand_delay_full e

/-- **zero forces** -/
theorem t01_2_delay_unforced (k : Nat) (e : Datum) (ρ : Env) (st : St) (hlib : LibOK st.globals)
    (hρ2 : ρ.lookup k_makePromise = none) :
    ∃ sN sX, (evalN (k+1)).eval (delayUse e) ρ st = .ok (.promise st.store.size) sN ∧
      (evalN (k+5)).eval (delayFull e) ρ (withForce st) = .ok (.pair (st.store.size + 3)) sX ∧
      sN.out = st.out ∧ sX.out = st.out ∧
      PromRep (fun _ _ => False) sN.store sX.store st.store.size (st.store.size + 3) := by
  refine ⟨{ st with store := st.store.push (.promise false (thunkN e ρ)) }, _, ?_,
    delayX_eval k e ρ (withForce st) (libSt_withForce hlib) hρ2, rfl, rfl, ?_⟩
  · simp only [delayUse, L, s, Datum.ofList, evalN_succ_eval, evalStep, kwOf_delay, evalKw, properList]
    rfl
  · refine ⟨false, thunkN e ρ, thunkX e ρ, by simp, ⟨st.store.size + 2, ?_, ?_⟩, .thunk e ρ⟩
    · show (pushAll (withForce st).store _)[st.store.size + 3]? = _
      simp only [pushAll, List.foldl, withForce]
      exact get_push_eq _ (by simp [Array.size_push])
    · show (pushAll (withForce st).store _)[st.store.size + 2]? = _
      simp only [pushAll, List.foldl, withForce]
      rw [get_push_lt _ (by simp [Array.size_push])]
      exact get_push_eq _ (by simp [Array.size_push])

/-- **forced once**: see the section comment. `st.store.size` is the native promise cell, `st.store.size + 3`
    the root of the prelude's structure. -/
theorem t01_2_delay (e : Datum) (ρ : Env) (st : St) (hst : WFSt st) (hρ : EnvOK st.store.size ρ)
    (hdef : isDefine e = false) (hρ1 : ρ.lookup k_force = none) (hρ2 : ρ.lookup k_makePromise = none)
    (hg : st.globals.lookup k_force = some (.prim .force)) (hlib : LibOK st.globals)
    (hce : mentions k_force e = false) (hinv : Inv k_force st)
    (hkeep : ∀ m v s2, (evalN m).eval e ρ (preX e ρ (withForce st)) = .ok v s2 → LibSt s2) :
    (∃ mid, expand k_delay (delayUse e) = some mid ∧ expand k_delayForce mid = some (delayFull e)) ∧
    ∀ m, (sguardN 1 (m+3)).eval (forceUse (delayUse e)) ρ st ≠ .timeout →
      (evalN (m+3)).eval (forceUse (delayUse e)) ρ st = (sguardN 1 (m+3)).eval (forceUse (delayUse e)) ρ st ∧
      SpanAgree ((evalN (m+3)).eval (forceUse (delayUse e)) ρ st)
        ((evalN (m+3+9)).eval (forceUse (delayFull e)) ρ (withForce st)) st.store.size (st.store.size + 3) :=
  ⟨expand_delay_full e, fun m hd => force_delay_agrees e ρ st hst hρ hdef hρ1 hρ2 hg hlib hce hinv hkeep m hd⟩

/-- the observable parts of `SpanAgree`; the clause `∃ vI f1 f2` (no `Inj`, no store relation) says of the
    two values only: same constructor, equal atoms, closures with the same code -/
theorem promise_agrees_observables {resN resX : Res Val} {l0 p0 : Loc} (h : SpanAgree resN resX l0 p0) :
    (∃ vN sN vX sX, resN = .ok vN sN ∧ resX = .ok vX sX ∧ sX.out = sN.out ∧
        (∃ vI f1 f2, VRel f1 vI vN ∧ VRel f2 vI vX) ∧
        sN.store[l0]? = some (.promise true vN) ∧ PromStruct sX.store p0 true vX) ∨
    (∃ c sN sX, resN = .err c sN ∧ resX = .err c sX ∧ sX.out = sN.out) := h.observe

/-- **forced again**: on a forced promise the native `force` and the prelude's return the payloads, print
    nothing, run no user code; the old cells of both stores stay as they are -/
theorem t01_2_force_again (k : Nat) (l p : Loc) (v w : Val) (sN sX : St) (hl : LibSt sX)
    (hN : sN.store[l]? = some (.promise true v)) (hX : PromStruct sX.store p true w) :
    (evalN (k+1)).apply (.prim .force) [.promise l] sN = .ok v sN ∧
    ∃ s3, (evalN (k+7)).apply cForce [.pair p] sX = .ok w s3 ∧ s3.out = sX.out ∧ s3.globals = sX.globals ∧
      (∀ l', l' < sX.store.size → s3.store[l']? = sX.store[l']?) := by
  refine ⟨?_, ?_⟩
  · show applyStep (evalN k) (.prim .force) [.promise l] sN = _
    simp only [applyStep]
    show M.bind' (readCell l) _ sN = _
    simp [M.bind', readCell, hN, Pure.pure, M.pure']
  · obtain ⟨s3, h1, h2, h3, _, h5⟩ := forceX_done k p w sX hl hX
    exact ⟨s3, h1, h2, h3, h5⟩

/-- non-vacuity of `t01_2_delay` (`Lemmas/EvalPromiseDemo.lean`): `libSt0` = the initial state with the
    prelude's four internal promise procedures loaded, `force` still the primitive;
    `e = (begin (display 'x) 1)`; fuel 6 -/
theorem t01_2_delay_demo :
    SpanAgree ((evalN 6).eval (forceUse (delayUse eDisplayOne)) [] libSt0)
      ((evalN 15).eval (forceUse (delayFull eDisplayOne)) [] (withForce libSt0)) 0 3 := force_delay_demo

/-- the kernel-checked programs of the section comment in one statement -/
theorem promise_programs_agree :
    (results 12 [memoProg delayUse] = [.ok (.num (.fix 2))] ∧ output 12 [memoProg delayUse] = [(false, .sym ['x'])]) ∧
    ((results 20 (promLibDefs ++ [memoProg delayFull])).getLast? = some (.ok (.num (.fix 2))) ∧
      output 20 (promLibDefs ++ [memoProg delayFull]) = [(false, .sym ['x'])]) ∧
    (output 12 [zeroProg delayUse] = [] ∧ output 20 (promLibDefs ++ [zeroProg delayFull]) = []) ∧
    ((results 60 (reentrantProg delayUse)).drop 3 = [.ok (.num (.fix 6)), .ok (.num (.fix 6))] ∧
      (results 80 (promLibDefs ++ reentrantProg delayFull)).drop 8 = [.ok (.num (.fix 6)), .ok (.num (.fix 6))]) ∧
    (results 12 [chainNative] = [.ok (.num (.fix 3))] ∧
      (results 30 (promLibDefs ++ [chainExp])).getLast? = some (.ok (.num (.fix 3)))) := by
  refine ⟨memo_native, ⟨?_, memo_expansion.2⟩, ⟨unforced_native.2, unforced_expansion.2⟩, ⟨?_, ?_⟩, ⟨delayForce_chain.1, ?_⟩⟩
  · rw [memo_expansion.1]; rfl
  · rw [reentrant_native]; rfl
  · rw [reentrant_expansion]; rfl
  · rw [delayForce_chain.2]; rfl


/-! ## T01.3 stage 1 (partial): compiler correctness for the closure-free fragment, success case

`Lemmas/CompileCorrect*.lean`. Machine: `Marwood.Vm.step` (Vm/Machine.lean) over any heap operations
record `ops : HeapOps H`; representation `D : RepData ops` (which names have a global slot, which
slot, `VR` machine value ~ `Spec.Eval.Val`, heap invariant); the ASSUMED laws are the fields of
`RepLaws D` (CompileCorrectDefs.lean): global slots form a store (`slot_inj`, `glob_get_put`), writing
a global changes neither code nor representations nor the invariant (`globPut_*`), `#f` is represented
only by what `JNT` takes for false (`truth`), a representation is never the unbound marker
(`ne_undefined`), `Void` represents the unspecified value (`void`), and `call`: whenever the
specification's `apply` returns on represented callee and arguments, the callee is a generic builtin
whose evaluation returns a representation of the same value in a heap representing the new state.
The laws are satisfiable: `Lemmas/CompileCorrectConcrete.lean` proves the heap-proper ones for the
concrete heap model, `Lemmas/CompileCorrectDemo.lean` discharges every hypothesis for `(not #t)`.
Fragment `Frag`: constants, `(quote atom)`, global reference, `set!` of a global, `if` (both arities),
application with a non-keyword head; `(define x e)` separately. Only `Spec.Eval` SUCCESS is covered. -/

open Marwood.Lemmas.CompileCorrect in
/-- **T01.3 stage 1, partial.** If the compiler model emits `code` for a fragment expression `e` at
    offset `base` (top-level context, either tail flag) and `Spec.Eval` evaluates `e` to `w` taking `σ`
    to `σ'`, then from every machine state whose current lambda holds `code` at `base = ip.1` (anything
    around it) and whose heap represents `σ`, the machine runs, without halting or failing, to a state
    with the same lambda, `bp`, `ep`, `ip.1 = base + code.length`, the same live stack, a representation
    of `w` in `acc`, and a heap that represents `σ'`. -/
theorem compile_correct_stage1_partial {H : Type} {ops : HeapOps H} {D : RepData ops} (L : RepLaws D)
    (fuel : Nat) (cst : CState) (base : Nat) (tail : Bool) (e : Datum) (cst' : CState) (code : List BC)
    (hf : Frag e) (hcomp : compileExpr fuel cst c0 base tail e = .ok (cst', code))
    (n : Nat) (σ : Spec.Eval.St) (w : Val) (σ' : Spec.Eval.St) (hev : (evalN n).eval e [] σ = .ok w σ')
    (s : Vm.St H) (hc : CodeAt D s.heap σ.store s.ipL base code) (hip : s.ipO = base)
    (hsr : SR D s.heap σ) (hw : SWF s.stack) :
    ∃ s', ExprRun D s code.length σ σ' w s' :=
  compileExpr_correct L fuel cst base tail e cst' code hf hcomp n σ w σ' hev s hc hip hsr hw


/-! ## T01.3 stage 1, ERROR case (partial)

`Lemmas/CompileCorrect2Err*.lean`. Additional ASSUMED law `ErrLaws D`: when the specification's `apply` fails
(class other than `syntax`) on a represented callee and represented arguments, the machine's dispatch sees
either no procedure (`InvalidProcedure`; specification class `notProcedure`) or a generic builtin whose
evaluation returns an error of the same class (classes at the granularity unbound / not-procedure / user /
wrong, `machClass` / `specClass`), and the unchanged heap represents the specification's failure state.
EXCLUDED, explicitly: specification errors of class `syntax` (inexact / rational constants are outside the
specification's grammar; the machine loads them) and `set!` of an unbound global (the specification fails,
marwood defines the variable — DESIGN §7.5), the latter through the hypothesis that every `set!` target is
bound in the failure state. The laws are derived from elementary ones for the store-free representation
(`atomErrLaws_errLaws`), the dispatch part proved on the concrete heap model (`concrete_atomErrLaws`), and
every hypothesis is discharged for `(if (set! g #t) (g) 1)` (`demo_err_runs`: the machine stores `#t` in `g`,
then fails in `CALL` with `InvalidProcedure`; the heap at the failure has `g = #t`). -/

open Marwood.Lemmas.CompileCorrect in
/-- **T01.3 stage 1, error case, partial.** If `Spec.Eval` ends the evaluation of a fragment expression `e`
    from `σ` with error class `c ≠ syntax` in state `σ'`, and every `set!` target of `e` is bound in `σ'`, then
    from every machine state holding the compiled code at `ip.1` whose heap represents `σ` the machine runs
    without failing to a state `sf` in which `run_one` returns an error `e'` of the class of `c`; `sf` has the
    lambda, `bp`, `ep` of the start, the start's live stack below whatever operands were pushed, and a heap
    that represents `σ'`: exactly the completed effects. -/
theorem compile_correct_stage1_error_partial {H : Type} {ops : HeapOps H} {D : RepData ops} (L : RepLaws D)
    (LE : ErrLaws D) (fuel : Nat) (cst : CState) (base : Nat) (tail : Bool) (e : Datum) (cst' : CState)
    (code : List BC) (hf : Frag e) (hcomp : compileExpr fuel cst c0 base tail e = .ok (cst', code))
    (n : Nat) (σ : Spec.Eval.St) (c : ErrClass) (σ' : Spec.Eval.St)
    (hev : (evalN n).eval e [] σ = .err c σ') (hcs : c ≠ .syntax)
    (hset : ∀ x ∈ setTargets e, σ'.globals.lookup x ≠ none)
    (s : Vm.St H) (hc : CodeAt D s.heap σ.store s.ipL base code) (hip : s.ipO = base)
    (hsr : SR D s.heap σ) (hw : SWF s.stack) :
    ∃ sf e', ErrRun D s σ σ' c sf e' :=
  compileExpr_correct_err L LE fuel cst base tail e cst' code hf hcomp n σ c σ' hev hcs hset s hc hip hsr hw

open Marwood.Lemmas.CompileCorrect in
/-- the excluded case is a real difference: `(set! x e)` with `x` unbound fails in the specification -/
theorem set_unbound_spec_fails {r : Rec} {x : Text} {e : Datum} {σ σ1 : St} {v : Val}
    (hx : reserved x = false) (he : r.eval e [] σ = .ok v σ1) (hl : σ1.globals.lookup x = none) :
    evalStep r (.pair (.sym k_setBang) (.pair (.sym x) (.pair e .nil))) [] σ = .err .unbound σ1 :=
  setBang_unbound_spec_fails hx he hl


/-! ## T01.3: `quote` of compound data (partial)

`Lemmas/CompileCorrect2Quote.lean`, over the generic heap with a minimal extension of the laws (`QuoteLaws`:
a heap pair / vector whose components represent `a`, `d` / the elements represents the store pair / vector;
representations are monotone in the store). `DatumAt` describes what `put_cell` lays out at compile time.
One heap object represents every copy `Spec.Eval.quoteVal` allocates — sound while constants are not
mutated (R7RS: an error; `Spec.Eval` and marwood differ there, see `quoted_constant_mutation_spec`). The laws
hold for the closure of any store-independent base relation (`closedVR_quoteLaws`); every hypothesis is
discharged on the CONCRETE heap model for `'(1 . 2)` (`demo_quote_pair`). Stage 2 below has `(quote d)` for
every datum and self-evaluating vector constants in its fragment, through these lemmas. -/

open Marwood.Lemmas.CompileCorrect in
/-- **`(quote d)` for any datum `d`**: `MOV-IMMEDIATE <v> %acc` with the datum laid out at `v` leaves a
    representation of the value `quoteVal d` returns, the heap represents the state `quoteVal` leaves. -/
theorem quote_compound_partial {H : Type} {ops : HeapOps H} {D : RepData ops}
    {vecElems : H → VCell → Option (List VCell)} (Q : QuoteLaws D vecElems) {s : Vm.St H} {σ σ' : Spec.Eval.St}
    {w : Val} {d : Datum} {v : VCell} (hl : ops.isLambda s.heap s.ipL = true)
    (h0 : ops.fetch s.heap s.ipL s.ipO = some (.opcode .movImm))
    (h1 : ops.fetch s.heap s.ipL (s.ipO + 1) = some v) (hv : ∀ o, v ≠ .opcode o)
    (h2 : ops.fetch s.heap s.ipL (s.ipO + 2) = some .acc)
    (hd : DatumAt D vecElems s.heap σ.store v d) (hq : quoteVal d σ = .ok w σ') (hsr : SR D s.heap σ) (hw : SWF s.stack) :
    ∃ s', ExprRun D s 3 σ σ' w s' :=
  run_quote Q hl h0 h1 hv h2 hd hq hsr hw


/-! ## T01.3 STAGE 2 (partial): `lambda`, closures, lexical variables, calls and tail calls

`Lemmas/CompileCorrect2*.lean`. Representation `D : RepData2 ops` = stage-1 data + the environment-map sources
of each lambda object + the table tying the compiler's lambda indices to heap addresses. Values (`VR2`):
a closure value is a machine value `CALL` dispatches to `Closure(lam, env)` where `lam` holds the compiled
body of the same `lambda` expression (same compiler model run) and every captured slot of `env` is a
one-level `LexicalEnvPtr` to the location standing for the captured variable; `World` relates machine
variable locations (environment id, slot) and specification locations one-to-one; `Inv2` is the heap/state
invariant (globals, loaded code, every related location holds a value — not a pointer — representing the
variable's content); `EnvRep` says the current `ep` represents the specification's `ρ` through the binding
context. ASSUMED: `Laws2 D` — observation of values (`truth`, …), the pair / vector closure rules of the
representation (`vr_pair`, `vr_vec`) and "nothing mutates a compile-time constant" (`Ext2.datum`, a field of what
every heap operation and builtin must preserve), the global store, `envPut` on a value slot,
CLOSURE (`closure_ok`: a fresh environment whose captured slots are what `build_closure_environment`
computes, a fresh closure cell, everything else unchanged), ENTER (`activation_ok`: a fresh environment
with the arguments from the stack and the captured pointers copied), and the behaviour of primitive
procedures (`call`). On the CONCRETE heap model (`Vm/ConcreteHeap.lean`: free list, chunk growth, CLOSURE and
ENTER as in run.rs) every law except `call` and `slot_inj` (the hypotheses `hcall`, `hinj`) is a THEOREM
(`laws2_concrete` below; invariant: `CInv`, free cells are `Undefined`, the named global slots exist), and every
hypothesis of the main theorem is discharged there for `((lambda (x) (if x 1 2)) #t)`
(`demo_concrete_closure_runs`). All laws including `call` (vacuously: no primitive) are proved for the small heap of
`Lemmas/CompileCorrect2Toy.lean` (`Toy.laws`), and every hypothesis is discharged for
`((lambda (x) (if x 1 2)) #t)` (`demo_closure_runs`), for the tail call
`((lambda (f) (f #t)) (lambda (x) (if x 1 2)))` (`demo_tailcall_runs`) and for a captured variable,
`((lambda (x) ((lambda (y) x) 2)) 1)` (`demo_capture_runs`).

Fragment `F2 fuel c ns tail e` (indexed by compiler fuel, binding context, bound names, tail flag):
constants (vector constants included), `(quote d)` for every datum `d`, variable reference and `set!` (lexical
at any depth, or a global of `D.setG`), `if`, application
(tail and non-tail; callee a primitive or a closure), `(lambda (x …) b …)` with fixed arity, DISTINCT
parameters, no internal definitions. The fragment carries well-scopedness as data about the compiler model:
for each `lambda` the environment map `lambdaParts` computes is the formals followed by captured variables
taken from the enclosing map, and at each variable the map has an entry exactly when the name is lexically
bound (i.e. the free-variable analysis was adequate for this program — checked by computation for a given
program; proved in general for the scope-skeleton model in C02). EXCLUDED: rest parameters (VARARG), internal
definitions, duplicate parameters, derived forms (macros: T01.2), quasiquote, `define` inside bodies,
call/cc, `eval`/`apply`/`map` (re-dispatching builtins), GC. The error case is
`compile_correct_stage2_error_partial` below. -/

open Marwood.Lemmas.CompileCorrect Marwood.Lemmas.CompileCorrect2 in
/-- **T01.3 stage 2, partial.** If the compiler model emits `code` for `e ∈ F2` at offset `base` in context
    `c` and `Spec.Eval` evaluates `e` in `ρ` from `σ` to `w`, `σ'`, then from every machine state whose
    current lambda holds `code` at `base = ip.1`, whose heap represents `σ` (`Inv2` in world `W`), whose `ep`
    represents `ρ` (`EnvRep`) — and, for code compiled with the tail flag, whose `bp` points at a frame `fr` —
    the machine runs without halting or failing to a state that represents `(w, σ')` in a world `W' ⊇ W`:
    either behind the code with lambda, `bp`, `ep`, live stack restored (`Run2`), or, after a tail call of a
    closure, in the caller of the current activation exactly as its `RET` would have left it (`Ret2`). -/
theorem compile_correct_stage2_partial {H : Type} {ops : HeapOps H} {D : RepData2 ops} (L : Laws2 D)
    (f : Nat) (cst : CState) (c : Ctx) (base : Nat) (tail : Bool) (e : Datum) (cst' : CState) (code : List BC)
    (ρ : Env) (hf : F2 D.setG f c (bound ρ) tail e) (hcx : CtxOK c)
    (hcomp : compileExpr f cst c base tail e = .ok (cst', code)) (hpre : cst'.lambdas <+: D.final)
    (n : Nat) (σ : Spec.Eval.St) (w : Val) (σ' : Spec.Eval.St) (hev : (evalN n).eval e ρ σ = .ok w σ')
    (W : World) (s : Vm.St H) (fr : Frame) (hc : CodeAt2 D c.envmap s.heap σ.store s.ipL base code)
    (hip : s.ipO = base) (hi : Inv2 D W s.heap σ) (her : EnvRep ops W s.heap c s.ep ρ) (hw : SWF s.stack)
    (hfr : tail = true → FrameAt s.stack s.bp fr) :
    ∃ W' s', W.le W' ∧ Out2 D W' s code.length σ σ' w tail fr s' :=
  compileExpr_correct2 L f cst c base tail e cst' code ρ hf hcx hcomp hpre n σ w σ' hev W s fr hc hip hi her hw hfr

open Marwood.Lemmas.CompileCorrect Marwood.Lemmas.CompileCorrect2 Marwood.Lemmas.CompileCorrect2.Conc
  Marwood.Vm.Concrete in
/-- **`Laws2` on the concrete heap model.** For `concreteOps ext` (the collector's heap model with the real
    allocator: free list head first, growth by chunks; `build_closure_environment` / `build_lexical_environment`
    as in run.rs) with the representation `cD` (stage-1 `atomVR` closed under heap pairs; environment-map
    sources read off the lambda cell; invariant `CInv ∧ FreeInv ∧` named slots exist) every law of stage 2 is
    proved except `slot_inj`, which is the hypothesis `hinj`, and the behaviour of the builtin procedures, which is
    the hypothesis `hcall` — the builtins are parameters of the concrete machine too. In particular an allocation
    never disturbs a represented object although addresses are reused. -/
theorem laws2_concrete {ext : ExtOps} {E : AtomEnc} {named : Text → Prop} {slot : Text → Nat} {LM : Nat → Nat}
    {final : List LambdaM} {setG : Text → Prop}
    (hinj : ∀ a b, named a → named b → slot a = slot b → a = b)
    (hcall : ∀ n W h (σ : Spec.Eval.St) vf p vs ws w (σ' : Spec.Eval.St),
      Inv2 (cD ext E named slot LM final setG) W h σ →
      (cD ext E named slot LM final setG).VR h σ.store vf (.prim p) →
      All2 (VR2 (cD ext E named slot LM final setG) W h σ.store) vs ws → (evalN n).apply (.prim p) ws σ = .ok w σ' →
      ∃ id h' r, (concreteOps ext).callee h vf = .builtin id ∧ (concreteOps ext).builtinKind h id = .generic ∧
        builtinResult (concreteOps ext) h id vs.reverse = .ok (h', r) ∧
        VR2 (cD ext E named slot LM final setG) W h' σ'.store r w ∧ Inv2 (cD ext E named slot LM final setG) W h' σ' ∧
        Ext2 (cD ext E named slot LM final setG) h σ.store h' σ'.store) :
    Laws2 (cD ext E named slot LM final setG) :=
  concrete_laws2 hinj hcall

open Marwood.Lemmas.CompileCorrect Marwood.Lemmas.CompileCorrect2 in
/-- **The call of a closure.** From the state `CALL`/`TCALL` leaves (operands, their number, `%ep`, the return
    address on the stack; `ip` at the closure's lambda) the machine runs ENTER, the body, RET and ends in the
    caller with the operands popped, `%ep` and `%bp` restored and a representation of the result in `acc`. -/
theorem closure_call_stage2_partial {H : Type} {ops : HeapOps H} {D : RepData2 ops} (L : Laws2 D) (n : Nat) :
    CallOK2 D n := closureCall_correct2 L n

open Marwood.Lemmas.CompileCorrect Marwood.Lemmas.CompileCorrect2 in
/-- at top level (non-tail): the statement of stage 1, with closures -/
theorem compile_correct_stage2_toplevel {H : Type} {ops : HeapOps H} {D : RepData2 ops} (L : Laws2 D)
    (f : Nat) (cst : CState) (base : Nat) (e : Datum) (cst' : CState) (code : List BC)
    (hf : F2 D.setG f c0 (bound []) false e)
    (hcomp : compileExpr f cst c0 base false e = .ok (cst', code)) (hpre : cst'.lambdas <+: D.final)
    (n : Nat) (σ : Spec.Eval.St) (w : Val) (σ' : Spec.Eval.St) (hev : (evalN n).eval e [] σ = .ok w σ')
    (W : World) (s : Vm.St H) (hc : CodeAt2 D c0.envmap s.heap σ.store s.ipL base code)
    (hip : s.ipO = base) (hi : Inv2 D W s.heap σ) (hw : SWF s.stack) :
    ∃ W' s', W.le W' ∧ Run2 D W' s code.length σ σ' w s' :=
  compileExpr_correct2_nontail L f cst c0 base e cst' code [] hf ctxOK_top hcomp hpre n σ w σ' hev W s hc hip hi
    (envRep_top _ _ _) hw

open Marwood.Lemmas.CompileCorrect Marwood.Lemmas.CompileCorrect2 in
/-- **T01.3 stage 2, ERROR case, partial.** If `Spec.Eval` ends the evaluation of `e ∈ F2` in `ρ` from `σ` with
    an error of class `cl ≠ syntax` in state `σ'` — an unbound variable, a non-procedure in operator position,
    a closure called with the wrong number of arguments, a failing primitive — at any depth of closure calls
    and tail calls, then the machine runs without failing to a state `sf` in which `run_one` returns an error
    of the class of `cl` (`VariableNotBound`, `InvalidProcedure`, `InvalidNumArgs`, the builtin's); the heap of
    `sf` represents `σ'` (exactly the completed effects), and the live stack of the start state — in tail
    position: of the caller of the current activation — is intact below the frames of the calls in progress
    (nothing is unwound). Additional ASSUMED law `ErrLaws2` (a failing primitive is a generic builtin failing
    with the same class; a stage-1 value that is not a primitive is no procedure for the dispatch), proved on
    the heap of `CompileCorrect2Toy.lean` (`Toy.errLaws` in `Lemmas/CompileCorrect2FailDemo.lean`); every hypothesis
    discharged for `((lambda (x) (x)) #t)` (`Toy.demo_closure_fails`: `TCALL` fails with `InvalidProcedure` inside the
    activation).
    `set!` of an unbound global cannot occur: `F2` restricts `set!` of globals to the names `D.setG`, which
    `Inv2` keeps bound. -/
theorem compile_correct_stage2_error_partial {H : Type} {ops : HeapOps H} {D : RepData2 ops} (L : Laws2 D)
    (LE : ErrLaws2 D) (f : Nat) (cst : CState) (c : Ctx) (base : Nat) (tail : Bool) (e : Datum) (cst' : CState)
    (code : List BC) (ρ : Env) (hf : F2 D.setG f c (bound ρ) tail e) (hcx : CtxOK c)
    (hcomp : compileExpr f cst c base tail e = .ok (cst', code)) (hpre : cst'.lambdas <+: D.final)
    (n : Nat) (σ : Spec.Eval.St) (cl : ErrClass) (σ' : Spec.Eval.St) (hev : (evalN n).eval e ρ σ = .err cl σ')
    (hcs : cl ≠ .syntax) (W : World) (s : Vm.St H) (fr : Frame)
    (hc : CodeAt2 D c.envmap s.heap σ.store s.ipL base code) (hip : s.ipO = base) (hi : Inv2 D W s.heap σ)
    (her : EnvRep ops W s.heap c s.ep ρ) (hw : SWF s.stack) (hfr : tail = true → FrameAt s.stack s.bp fr) :
    ∃ W' sf e', W.le W' ∧ ErrRun2 D W' s (errBase tail s fr) σ σ' cl sf e' :=
  compileExpr_correct2_err L LE f cst c base tail e cst' code ρ hf hcx hcomp hpre n σ cl σ' hev hcs W s fr hc hip hi
    her hw hfr

/-! ### where `Spec.Eval` and the implementation choose differently at points R7RS leaves open
(neither is a defect: both programs are errors in R7RS) -/

open Marwood.Lemmas.CompileCorrect2 in
/-- duplicate parameters: `((lambda (x x) x) 1 2)` is 2 in `Spec.Eval` (the last binding shadows); the compiler
    model resolves `x` to the first entry of the environment map (the first argument; the real VM answers 1).
    Stage 2 requires distinct parameters. -/
theorem duplicate_parameters_differ :
    results 10 [L [L [s k_lambda, L [s ['x'], s ['x']], s ['x']], .num (.fix 1), .num (.fix 2)]]
      = [.ok (.num (.fix 2))] ∧
    slotIdx (argEntries [['x'], ['x']]) ['x'] = some 0 := by
  constructor <;> decide +kernel

/-- mutation of a quoted constant: `Spec.Eval` allocates the datum at every evaluation of the `quote`, so
    `(define (f) '(1 2)) (set-car! (f) 9) (f)` is `(1 2)`; the implementation shares the compile-time constant
    and answers `(9 2)`. -/
theorem quoted_constant_mutation_spec :
    results 12 [L [s k_define, L [s ['f']], L [s k_quote, L [.num (.fix 1), .num (.fix 2)]]],
                L [s ['s','e','t','-','c','a','r','!'], L [s ['f']], .num (.fix 9)],
                L [s ['f']]]
      = [.ok .void, .ok .void, .ok (L [.num (.fix 1), .num (.fix 2)])] := by decide +kernel

/-! ## T01.3 STAGE 3 (partial): rest parameters, internal definitions, the `apply` re-dispatch

`Lemmas/CompileCorrect3*.lean`: over the same machine, compiler model, representation data (`RepData2`), world and
code layout as stage 2, with relations and laws of its own (`VR3`, `ClosOK3`, `Inv3`, `Ext3`, `EnvRep3`; `Laws3`); the
cases `if`, `set!`, operand lists and application are proved once for both stages, over any such relations
(`Lemmas/CompileSim*.lean`); `F2 ⊆ F3` (`stage3_contains_stage2`). The induction is again on the fuel of the
SPECIFICATION.

How the relations differ from stage 2. `VR3`: stage-1 values, closures of ANY formals and leading definitions
(`ClosOK3`), and heap pairs whose components are `VR3` values (the list VARARG builds may contain closures). `Inv3`: a
related variable location may still hold the machine's `Undefined` marker (an internal definition that has not been
evaluated); `EnvRep3 … us`: every name outside `us` denotes an INITIALISED slot (`InitM`). `Ext3` = `Ext2` + heap
pairs and initialised slots are kept.

Fragment `F3 G fuel c ns us tail e` = `F2` + `(lambda (x … . r) b …)`, `(lambda r b …)`, and bodies
`(define y₁ e₁) … (define yₖ eₖ) b₁ … bₘ` (m ≥ 1; all parameters and defined names distinct). `us` is the set of bound
names that may not be READ yet: in `eᵢ` and everything nested in it (lambda bodies included: a `lambda` may only capture readable
names) the names `yᵢ … yₖ` do not occur. So internal definitions are covered in their `let*`-like use. The one
exception (`F3B.block`; `Lemmas/CompileCorrect3Props.lean`, `compile_correct_stage3_rec_partial`): in a block of
consecutive definitions whose initialisers are all `lambda` expressions the lambda bodies may mention every name of
the block, which covers self and mutual recursion. The simpler rule "initialisers that are lambda expressions may
mention later names" is not sound: `(define (g) z) (define y (g)) (define z 1)` reads `z` uninitialised
(`lambda_initialiser_rule_unsound`). Why the restriction is needed: the machine leaves the slot `Undefined` and reads
it without complaint, `Spec.Eval` reads `#<undefined>`; both print `#<undefined>`, but a global assigned that value
becomes UNBOUND in the VM (`internal_define_read_before_init_differs`; R7RS: "it is an error").

ASSUMED: `Laws3 D` = the heap laws of stage 2 (CLOSURE, ENTER, `envPut` on slots outside closure environments,
globals, observation of values) with `Ext3`, plus: ENTER copies the slots of internal definitions from the closure
environment (`D.envOK`), where they hold `Undefined` (`ClosOK3`) and stay so since nothing writes into a closure
environment; `heap.put` (VARARG) returns a pointer through which the same value is observed, and a fresh pair cell;
stage-1 values are neither closures nor the re-dispatching builtins `apply eval force map for-each` (so these are
outside the main theorem); `call` — the behaviour of the FIRST-ORDER builtins. All of `Laws3` is PROVED for the toy
heap of `Lemmas/CompileCorrect3Toy.lean` (`laws3_toy`, from `Lemmas/CompileCorrect3ToyLaws.lean`; allocation by `put`,
CLOSURE/ENTER as in run.rs, the only builtin is `apply`, so `call` is vacuous), and every hypothesis of the
main theorem is discharged there for `((lambda (a . r) r) 1 2 3)` (`demo_stage3_rest_runs`: VARARG collects `(2 3)`,
ENTER, the body, RET; `acc` shows the list `(2 3)`) and for `((lambda (x) (define y (if x 1 2)) y) #t)`
(`demo_stage3_define_runs`); the hypotheses of the `apply` theorem (`ListLaws`: `listLaws3_toy`) for the whole
compiled expression `(apply (lambda (a b) b) 1 '(2))` (`demo_stage3_apply_runs`: operands by the main theorem, the
load of the global `apply`, the re-dispatch, ENTER, body, RET; `acc` shows `2`). On the concrete heap model every
field of `Laws3` and `ListLaws` except `call` and `slot_inj` (the hypotheses `hcall`, `hinj` of `laws3_concrete`) is
a theorem (`laws3_concrete`, `listLaws3_concrete` in `Lemmas/CompileCorrect3Props.lean`). -/

open Marwood.Lemmas.CompileCorrect Marwood.Lemmas.CompileCorrect2 Marwood.Lemmas.CompileCorrect3 in
/-- **T01.3 stage 3, partial.** The statement of stage 2 for the fragment `F3`: code compiled for `e ∈ F3`, a heap
    that represents `σ` (`Inv3`), an environment that represents `ρ` with every readable name initialised
    (`EnvRep3 … us`); if `Spec.Eval` evaluates `e` to `w`, `σ'`, the machine runs — `VARARG` collecting the rest
    arguments into a fresh list, `ENTER` creating the slots of the internal definitions, each `define` storing into
    its slot — to a state that represents `(w, σ')` in a world `W' ⊇ W` (`Run3`), or, after a tail call of a
    closure, to the state the `RET` of the current activation would have left (`Ret3`). -/
theorem compile_correct_stage3_partial {H : Type} {ops : HeapOps H} {D : RepData2 ops} (L : Laws3 D)
    (f : Nat) (cst : CState) (c : Ctx) (base : Nat) (tail : Bool) (e : Datum) (cst' : CState) (code : List BC)
    (ρ : Env) (us : Text → Prop) (hf : F3 D.setG f c (bound ρ) us tail e) (hcx : CtxOK c)
    (hcomp : compileExpr f cst c base tail e = .ok (cst', code)) (hpre : cst'.lambdas <+: D.final)
    (n : Nat) (σ : Spec.Eval.St) (w : Val) (σ' : Spec.Eval.St) (hev : (evalN n).eval e ρ σ = .ok w σ')
    (W : World) (s : Vm.St H) (fr : Frame) (hc : CodeAt2 D c.envmap s.heap σ.store s.ipL base code)
    (hip : s.ipO = base) (hi : Inv3 D W s.heap σ) (her : EnvRep3 ops W s.heap c s.ep ρ us) (hw : SWF s.stack)
    (hfr : tail = true → FrameAt s.stack s.bp fr) :
    ∃ W' s', W.le W' ∧ Out3 D W' s code.length σ σ' w tail fr s' :=
  compileExpr_correct3 L f cst c base tail e cst' code ρ us hf hcx hcomp hpre n σ w σ' hev W s fr hc hip hi her hw hfr

open Marwood.Lemmas.CompileCorrect Marwood.Lemmas.CompileCorrect2 Marwood.Lemmas.CompileCorrect3 in
/-- `F3 ⊇ F2`: every stage-2 expression is a stage-3 expression (no unreadable names). -/
theorem stage3_contains_stage2 {G : Text → Prop} {f : Nat} {c : Ctx} {ns : Text → Prop} {t : Bool} {e : Datum}
    (h : F2 G f c ns t e) : F3 G f c ns (fun _ => False) t e := F2.toF3 h

open Marwood.Lemmas.CompileCorrect Marwood.Lemmas.CompileCorrect2 Marwood.Lemmas.CompileCorrect3 in
/-- **REST PARAMETERS: the call of a closure `(lambda (x … . r) body …)` / `(lambda r body …)`.** From the state
    `CALL`/`TCALL` leaves (`ws.length` operands, their number, `%ep`, the return address; `ip` at the closure's
    lambda, whose prologue is `VARARG; ENTER`): if the specification's `apply` — which binds `r` to a fresh list of
    the arguments beyond the fixed ones — returns, the machine runs VARARG (the three cases of run.rs: too few
    arguments cannot occur here; exactly one extra operand is wrapped in place; otherwise the extra operands are
    popped, consed onto `()` last to first, and the frame is rewritten to `ps.length + 1` operands), ENTER, the
    body, RET, and ends in the caller with the operands popped, `%ep`/`%bp` restored and a representation of the
    result in `acc`. (`closure_call_stage3_partial` is the same for every closure of stage 3.) -/
theorem closure_call_stage3_rest_partial {H : Type} {ops : HeapOps H} {D : RepData2 ops} (L : Laws3 D) (n : Nat)
    (ps : List Text) (r : Text) (body : List Datum) (ρc : Env) (ws : List Val) (σ : Spec.Eval.St) (w : Val)
    (σ' : Spec.Eval.St) (hap : (evalN n).apply (.closure ps (some r) body ρc) ws σ = .ok w σ')
    (W : World) (s : Vm.St H) (lam cenv : Nat) (vs : List VCell) (st0 : Stack) (epc lc oc : Nat)
    (hcal : ops.callee s.heap s.acc = .closure lam cenv) (hclos : ClosOK3 D W s.heap lam cenv ps (some r) body ρc)
    (hi : Inv3 D W s.heap σ) (hvs : All2 (VR3 D W s.heap σ.store) vs ws) (hipL : s.ipL = lam) (hipO : s.ipO = 0)
    (hst : LiveEq (callFrame st0 vs epc lc oc) s.stack) (hw0 : SWF st0) (hw : SWF s.stack) :
    ∃ W' s', W.le W' ∧ Steps ops s s' ∧ s'.ipL = lc ∧ s'.ipO = oc ∧ s'.ep = epc ∧ s'.bp = s.bp ∧
      LiveEq st0 s'.stack ∧ SWF s'.stack ∧ VR3 D W' s'.heap σ'.store s'.acc w ∧ Inv3 D W' s'.heap σ' ∧
      Ext3 D s.heap σ.store s'.heap σ'.store :=
  closureCall_correct3 L n ps (some r) body ρc ws σ w σ' hap W s lam cenv vs st0 epc lc oc hcal hclos hi hvs hipL hipO
    hst hw0 hw

open Marwood.Lemmas.CompileCorrect Marwood.Lemmas.CompileCorrect2 Marwood.Lemmas.CompileCorrect3 in
/-- the call of any stage-3 closure (fixed arity or rest parameter, with or without internal definitions) -/
theorem closure_call_stage3_partial {H : Type} {ops : HeapOps H} {D : RepData2 ops} (L : Laws3 D) (n : Nat) :
    CallOK3 D n := closureCall_correct3 L n

open Marwood.Lemmas.CompileCorrect Marwood.Lemmas.CompileCorrect2 Marwood.Lemmas.CompileCorrect3 in
/-- the VARARG instruction alone: the frame rewrite and the list it builds (`Lemmas/CompileCorrect3VarArg.lean`) -/
theorem vararg_frame_stage3_partial {H : Type} {ops : HeapOps H} {D : RepData2 ops} (L : Laws3 D) {W : World}
    {s : Vm.St H} {S : Array Cell} {req : Nat} {vs : List VCell} {ws : List Val} {st0 : Stack} {epc lc oc : Nat}
    {lv : Val} (hl : ops.isLambda s.heap s.ipL = true) (h0 : ops.fetch s.heap s.ipL s.ipO = some (.opcode .varArg))
    (hinfo : ops.lambdaInfo s.heap s.ipL = some ⟨req + 1⟩) (hsrx : D.SRx s.heap S)
    (hvs : All2 (VR3 D W s.heap S) vs ws) (hreq : req ≤ vs.length) (hlist : ListIn S lv (ws.drop req))
    (hst : LiveEq (callFrame st0 vs epc lc oc) s.stack) (hw0 : SWF st0) (hw : SWF s.stack) :
    ∃ h' lst st', Vm.step ops s = .ok ({ s with heap := h', stack := st', ipO := s.ipO + 1 }, false) ∧
      LiveEq (callFrame st0 (vs.take req ++ [.ptr lst]) epc lc oc) st' ∧ SWF st' ∧
      VR3 D W h' S (.ptr lst) lv ∧ Step3 D s.heap S h' :=
  varArg_ok L hl h0 hinfo hsrx hvs hreq hlist hst hw0 hw

open Marwood.Lemmas.CompileCorrect Marwood.Lemmas.CompileCorrect2 Marwood.Lemmas.CompileCorrect3 in
/-- **INTERNAL DEFINITIONS: a body `(define y₁ e₁) … (define yₖ eₖ) b₁ … bₘ`.** In the activation ENTER created
    (the slots of `ints = [y₁ … yₖ]` exist and are related to the variables `Spec.Eval`'s `evalBody` allocated; the
    names `us ⊇ ints` are not readable yet) the machine runs the compiled body: each `eᵢ`, then
    `MOV %acc <slot yᵢ>; MOV-IMMEDIATE void %acc` — after which `yᵢ` is readable —, then the expressions, the last
    one in tail position; `Spec.Eval` evaluates the definitions in order in the body's scope (`evalBodyForms`). -/
theorem body_stage3_defines_partial {H : Type} {ops : HeapOps H} {D : RepData2 ops} (L : Laws3 D) (n : Nat)
    (body : List Datum) (f : Nat) (cst : CState) (c : Ctx) (base : Nat) (bodyD : Datum) (cst' : CState)
    (code : List BC) (ρ : Env) (us : Text → Prop) (ints : List Text)
    (hfb : F3B D.setG f c (bound ρ) us ints bodyD) (hcx : CtxOK c)
    (hcomp : compileBody f cst c base bodyD = .ok (cst', code)) (hpre : cst'.lambdas <+: D.final)
    (hpl : properList bodyD = some body)
    (σ : Spec.Eval.St) (w : Val) (σ' : Spec.Eval.St)
    (hev : Spec.Eval.evalBodyForms (evalN n) ρ true body σ = .ok w σ')
    (W : World) (s : Vm.St H) (fr : Frame) (hc : CodeAt2 D c.envmap s.heap σ.store s.ipL base code)
    (hip : s.ipO = base) (hi : Inv3 D W s.heap σ) (her : EnvRep3 ops W s.heap c s.ep ρ us) (hw : SWF s.stack)
    (hfr : FrameAt s.stack s.bp fr) :
    ∃ W' s', W.le W' ∧ Out3 D W' s code.length σ σ' w true fr s' := by
  have o := body_res3 L (both3 L n).1 (d := true) hfb hcx hcomp hpre hpl (fun _ => rfl) hc hip hi her hw hfr
  rw [hev] at o
  obtain ⟨W', s', hw', o⟩ := o
  exact ⟨W', s', hw', o.imp run3_iff.mp fun q => ⟨rfl, ret3_iff.mp q⟩⟩

open Marwood.Lemmas.CompileCorrect Marwood.Lemmas.CompileCorrect2 Marwood.Lemmas.CompileCorrect3 in
/-- **`apply` RE-DISPATCH: `(apply f a₁ … aₖ lst)` at its `CALL`/`TCALL`.** The operands `f, a₁, …, aₖ, lst` and
    their number are on the stack (`f` a heap pointer, as every closure CLOSURE creates is), `acc` holds the
    `apply` builtin. If the specification's `apply` returns — `lst` is a proper list and `f` applied to `a₁ … aₖ`
    followed by its elements returns `w` — and the list is shorter than the guard of the MODEL's element loop
    (100000 iterations, there to keep `Machine.lean` total on cyclic lists; the Rust loop has no bound), then one
    step later the same instruction runs again with `f` in `acc` and the operands `a₁ … aₖ, e₁ … eₘ` on the stack,
    and the run ends as that call ends (`DispOut`: behind the instruction with the operands popped and a
    representation of `w` in `acc`; or, for `TCALL` of a closure, in the caller of the current activation). `f`
    may be a closure of stage 3 (any formals: the interplay with VARARG is covered) or a first-order builtin.
    ASSUMED besides `Laws3`: `ListLaws` (a stage-1 representation of `()` / of a pair derefs to `Nil` / to a pair
    cell whose components represent car and cdr). Not integrated into the fragment of the main theorem: the
    guard is a bound on every list the program applies, which is a property of the run. -/
theorem apply_redispatch_stage3_partial {H : Type} {ops : HeapOps H} {D : RepData2 ops} (L : Laws3 D)
    (LL : ListLaws D) {n : Nat} {tail : Bool} {em : List (Text × Source)} {W : World} {s : Vm.St H} {fr : Frame}
    {stk0 : Stack} {σ σ' : Spec.Eval.St} {g lastv w : Val} {pg : Nat} {vl : VCell} {mid : List VCell}
    {mws : List Val} {id : Nat}
    (hc : CodeAt2 D em s.heap σ.store s.ipL s.ipO [BC.op (if tail = true then .tcallAcc else .callAcc)])
    (hcal : ops.callee s.heap s.acc = .builtin id) (hkind : ops.builtinKind s.heap id = .apply)
    (hg : VR3 D W s.heap σ.store (.ptr pg) g) (hmid : All2 (VR3 D W s.heap σ.store) mid mws)
    (hlast : VR3 D W s.heap σ.store vl lastv) (hi : Inv3 D W s.heap σ)
    (hst : LiveEq ((pushAll stk0 (.ptr pg :: mid ++ [vl])).push (.argc (mid.length + 2))) s.stack)
    (hw0 : SWF stk0) (hw : SWF s.stack) (hfrm : tail = true → FrameAt stk0 s.bp fr)
    (hap : (evalN (n + 1)).apply (.prim .apply) (g :: mws ++ [lastv]) σ = .ok w σ')
    (hbound : ∀ xs, Spec.Eval.listOfVal (σ.store.size + 1) σ.store lastv = some xs → xs.length + 1 ≤ 100000) :
    ∃ W' s', W.le W' ∧ DispOut D W' s stk0 σ σ' w tail fr s' :=
  apply_redispatch3 L LL hc hcal hkind hg hmid hlast hi hst hw0 hw hfrm hap hbound

open Marwood.Lemmas.CompileCorrect2 Marwood.Lemmas.CompileCorrect3 Marwood.Lemmas.CompileCorrect3.Toy in
/-- **`Laws3` is satisfiable**: every field is a theorem for the toy heap of `Lemmas/CompileCorrect3Toy.lean`
    (`Lemmas/CompileCorrect3ToyLaws.lean`). -/
theorem laws3_toy (final : List LambdaM) : Laws3 (tD3 final) := laws3 final

open Marwood.Lemmas.CompileCorrect2 Marwood.Lemmas.CompileCorrect3 Marwood.Lemmas.CompileCorrect3.Toy in
/-- **Non-vacuity, rest parameter**: `((lambda (a . r) r) 1 2 3)` — the run exists, and `acc` shows a heap pair with
    car `2` whose cdr is a pair with car `3` and cdr `()`. -/
theorem demo_stage3_rest_runs :
    ∃ W' s', Run3 demoDR W' demoStateR 19 demoSt demoStR' (.pair 2) s' ∧
      ∃ pa pd pa' pd', tDeref s'.heap s'.acc = .pair pa pd ∧ tDeref s'.heap (.ptr pa) = .opaque "n2" ∧
        tDeref s'.heap (.ptr pd) = .pair pa' pd' ∧ tDeref s'.heap (.ptr pa') = .opaque "n3" ∧
        tDeref s'.heap (.ptr pd') = .nil := demo_vararg_acc

open Marwood.Lemmas.CompileCorrect2 Marwood.Lemmas.CompileCorrect3 Marwood.Lemmas.CompileCorrect3.Toy in
/-- **Non-vacuity, internal definition**: `((lambda (x) (define y (if x 1 2)) y) #t)` evaluates to `1`. -/
theorem demo_stage3_define_runs :
    ∃ W' s', Run3 demoDD W' demoStateD 11 demoSt demoStD' (.int 1) s' ∧ tDeref s'.heap s'.acc = .opaque "n1" :=
  demo_define_acc

/-- the excluded case is a real difference: an internally defined variable read before its definition has been
    evaluated holds `#<undefined>` in `Spec.Eval`; assigned to a global the value stays there (third result
    `#<undefined>`), while marwood's global becomes UNBOUND (`Undefined` is its unbound marker): the real VM
    answers `ok void`, `ok void`, `err unbound` (`harness/target/release/eval run`). R7RS: it is an
    error to refer to the variable before its initialisation. -/
theorem internal_define_read_before_init_differs :
    results 20 [L [s k_define, s ['g','g'], .num (.fix 0)],
                L [L [s k_lambda, L [], L [s k_define, s ['y'], s ['z']], L [s k_define, s ['z'], .num (.fix 1)],
                      L [s k_setBang, s ['g','g'], s ['y']]]],
                s ['g','g']]
      = [.ok .void, .ok .void, .ok .undefined] := by decide +kernel

/-- why "initialisers that are lambda expressions may mention later names" is not a sound exclusion rule:
    `(define (g) z) (define y (g)) (define z 1)` — every initialiser is a lambda expression or mentions only
    earlier names, yet `z` is read before its definition has been evaluated (`Spec.Eval`: `y` is `#<undefined>`; the
    real VM prints the same). Stage 3 therefore forbids a `lambda` to capture a name that is not readable yet. -/
theorem lambda_initialiser_rule_unsound :
    results 20 [L [L [s k_lambda, L [], L [s k_define, L [s ['g']], s ['z']], L [s k_define, s ['y'], L [s ['g']]],
                      L [s k_define, s ['z'], .num (.fix 1)], s ['y']]]]
      = [.ok .undefined] := by decide +kernel

open Marwood.Lemmas.CompileCorrect Marwood.Lemmas.CompileCorrect2 Marwood.Lemmas.CompileCorrect3 in
/-- **Rest parameters, ERROR case (arity).** A closure `(lambda (x₁ … xₖ . r) …)` called with fewer than `k`
    arguments: `Spec.Eval`'s `apply` fails with class `arity`; the machine, in the state `CALL`/`TCALL` left, fails at
    its next instruction — `VARARG`, first case of run.rs — with `InvalidNumArgs`, before anything is allocated.
    (The other error cases of stage 3 are `compile_correct_stage3_error_partial` /
    `closure_call_stage3_error_partial` in `Lemmas/CompileCorrect3Props.lean`.) -/
theorem closure_call_stage3_rest_arity_error_partial {H : Type} {ops : HeapOps H} {D : RepData2 ops} (L : Laws3 D)
    {n : Nat} {ps : List Text} {r : Text} {body : List Datum} {ρc : Env} {ws : List Val} {σ : Spec.Eval.St}
    {W : World} {s : Vm.St H} {lam cenv : Nat} {vs : List VCell} {st0 : Stack} {epc lc oc : Nat}
    (hclos : ClosOK3 D W s.heap lam cenv ps (some r) body ρc) (hi : Inv3 D W s.heap σ)
    (hvs : All2 (VR3 D W s.heap σ.store) vs ws) (hipL : s.ipL = lam) (hipO : s.ipO = 0)
    (hst : LiveEq (callFrame st0 vs epc lc oc) s.stack) (hw0 : SWF st0) (hfew : ws.length < ps.length) :
    (∃ σ', (evalN (n + 1)).apply (.closure ps (some r) body ρc) ws σ = .err .arity σ') ∧
    Vm.step ops s = .err .invalidNumArgs :=
  closure_call_rest_arity hclos hi hvs hipL hipO hst hw0 hfew

open Marwood.Lemmas.CompileCorrect2 Marwood.Lemmas.CompileCorrect3 Marwood.Lemmas.CompileCorrect3.Toy in
/-- `ListLaws` is satisfiable: a theorem on the toy heap -/
theorem listLaws3_toy (g : Array VCell) (final : List LambdaM) : ListLaws (tD3g g final) := listLaws3 g final

open Marwood.Lemmas.CompileCorrect Marwood.Lemmas.CompileCorrect2 Marwood.Lemmas.CompileCorrect3
  Marwood.Lemmas.CompileCorrect3.Toy in
/-- **Non-vacuity, `apply`**: the code the compiler model emits for `(apply (lambda (a b) b) 1 '(2))` runs on the toy
    heap from the initial state: the operands (stage-3 main theorem), `PUSHIMM argc 3`, the load of the global
    `apply` (state `sC`: the `apply` builtin is in `acc`), the re-dispatch (`apply_redispatch_stage3_partial`), the
    call of the closure with operands `1 2`; `acc` ends up showing `2`, the stack as before. -/
theorem demo_stage3_apply_runs :
    ∃ W' sC s', Steps tops demoStateA sC ∧ tops.callee sC.heap sC.acc = .builtin 0 ∧
      CallRun3 demoDA W' sC demoStateA.stack demoStA1 demoStA' (.int 2) s' ∧
      Run3 demoDA W' demoStateA 19 demoStA demoStA' (.int 2) s' ∧ tDeref s'.heap s'.acc = .opaque "n2" :=
  demo_apply_runs

end Marwood.Proofs.C01
