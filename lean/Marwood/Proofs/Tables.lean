import Marwood.Gen.Tables
import Marwood.Parse
import Marwood.Vm.Machine
import Marwood.Vm.Compile
/-!
# Regenerated tables agree with the hand-written models

`Marwood/Gen/Tables.lean` is written from the Rust source by `translate/tables.py`; a change
in the source to one of the five character classes lex.rs defines as functions (`is_initial_number` …
`is_subsequent_identifier`), the named characters, the opcode / token-type enumerations or the primitive
keywords makes a theorem below fail to elaborate. Whitespace is `char::is_whitespace` inline in `scan`:
`isWhitespaceL1` has no table and no theorem. Enumerations are compared as lists of Rust variant names;
the link between a name and a constructor is by reading.
-/
namespace Marwood.Proofs.Tables
open Marwood Marwood.Gen

/-! ### scanner character classes

The translator evaluates each Rust predicate on every Latin-1 code point and on a sample above U+00FF and emits
sorted code points + one Boolean for everything above 0xFF. The proofs are generic in the table's content: it is
the list of Latin-1 code points the model predicate accepts (one evaluation), and above 0xFF the model predicate
is constant: `true` for the identifier classes, which test `c.toNat > 0xFF` themselves, else `false`. -/

private theorem ne_of_toNat_gt {c d : Char} (h : 255 < c.toNat) (hd : d.toNat ≤ 255) : (c == d) = false := by
  rw [beq_eq_false_iff_ne]
  intro e
  subst e
  omega

private theorem digit_high {c : Char} (h : 255 < c.toNat) : isAsciiDigit c = false := by
  simp [isAsciiDigit]; omega

private theorem hex_high {c : Char} (h : 255 < c.toNat) : isAsciiHex c = false := by
  simp [isAsciiHex, isAsciiDigit]; omega

private theorem agree_template (gen model : Char → Bool) (table : List Nat) (high : Bool)
    (hgen : ∀ c, gen c = ((decide (c.toNat > 0xFF) && high) || table.contains c.toNat))
    (htab : table = (List.range 256).filter fun n => model (Char.ofNat n))
    (hhigh : ∀ c : Char, 255 < c.toNat → model c = high) (c : Char) : gen c = model c := by
  rw [hgen, htab, Bool.eq_iff_iff]
  by_cases h : 255 < c.toNat
  · simp [hhigh c h, h]
  · simp [h]
    omega

theorem isInitialNumber_agree (c : Char) : Tables.isInitialNumber c = Marwood.isInitialNumber c :=
  agree_template _ _ Tables.isInitialNumberTable Tables.isInitialNumberHigh (fun _ => rfl) (by decide +kernel)
    (fun c h => by simp [Marwood.isInitialNumber, Tables.isInitialNumberHigh, digit_high h, ne_of_toNat_gt h]) c

theorem isSubsequentNumber_agree (c : Char) : Tables.isSubsequentNumber c = Marwood.isSubsequentNumber c :=
  agree_template _ _ Tables.isSubsequentNumberTable Tables.isSubsequentNumberHigh (fun _ => rfl) (by decide +kernel)
    (fun c h => by
      simp [Marwood.isSubsequentNumber, Tables.isSubsequentNumberHigh, digit_high h, hex_high h, ne_of_toNat_gt h]) c

theorem isInitialIdentifier_agree (c : Char) : Tables.isInitialIdentifier c = Marwood.isInitialIdentifier c :=
  agree_template _ _ Tables.isInitialIdentifierTable Tables.isInitialIdentifierHigh (fun _ => rfl) (by decide +kernel)
    (fun c h => by simp [Marwood.isInitialIdentifier, Tables.isInitialIdentifierHigh, h]) c

theorem isSpecialSubsequent_agree (c : Char) : Tables.isSpecialSubsequent c = Marwood.isSpecialSubsequent c :=
  agree_template _ _ Tables.isSpecialSubsequentTable Tables.isSpecialSubsequentHigh (fun _ => rfl) (by decide +kernel)
    (fun c h => by simp [Marwood.isSpecialSubsequent, Tables.isSpecialSubsequentHigh, ne_of_toNat_gt h]) c

theorem isSubsequentIdentifier_agree (c : Char) :
    Tables.isSubsequentIdentifier c = Marwood.isSubsequentIdentifier c :=
  agree_template _ _ Tables.isSubsequentIdentifierTable Tables.isSubsequentIdentifierHigh (fun _ => rfl)
    (by decide +kernel)
    (fun c h => by
      simp [Marwood.isSubsequentIdentifier, Marwood.isInitialIdentifier, Tables.isSubsequentIdentifierHigh, h]) c

/-- the five scanner character classes, for every character -/
theorem char_classes_agree (c : Char) :
    Tables.isInitialNumber c = Marwood.isInitialNumber c ∧
    Tables.isSubsequentNumber c = Marwood.isSubsequentNumber c ∧
    Tables.isInitialIdentifier c = Marwood.isInitialIdentifier c ∧
    Tables.isSpecialSubsequent c = Marwood.isSpecialSubsequent c ∧
    Tables.isSubsequentIdentifier c = Marwood.isSubsequentIdentifier c :=
  ⟨isInitialNumber_agree c, isSubsequentNumber_agree c, isInitialIdentifier_agree c, isSpecialSubsequent_agree c,
    isSubsequentIdentifier_agree c⟩

/-- every entry of `named_to_char` is in the model's table, same code point … -/
theorem named_chars_sound :
    ∀ e ∈ Tables.namedChars, Marwood.namedToChar e.1.toList = some (Char.ofNat e.2) := by decide +kernel

/-- … and it has 9 distinct names, as many as `namedToChar` has arms (read off `Parse.lean`, not proved) -/
theorem named_chars_complete :
    Tables.namedChars.length = 9 ∧ (Tables.namedChars.map (·.1)).Nodup := by decide

/-- the 16 opcodes of `opcode.rs` under their Rust names; the second conjunct only counts the constructors of
    the model's `Op`, listed by hand -/
theorem opcodes_agree :
    Tables.opcodes = ["Cons", "Jmp", "Jnt", "Mov", "MovImmediate", "Push", "PushAcc", "PushImmediate", "Halt",
      "VPushAcc", "CallAcc", "ClosureAcc", "Enter", "Ret", "TCallAcc", "VarArg"] ∧
    [Vm.Op.cons, .jmp, .jnt, .mov, .movImm, .push, .pushAcc, .pushImm, .halt, .vpushAcc, .callAcc, .closureAcc,
      .enter, .ret, .tcallAcc, .varArg].length = Tables.opcodes.length := by decide

/-- the token types of `lex.rs` under their Rust names (`TokType`'s plus `WhiteSpace`, never produced); `TokType`
    itself does not occur in the statement -/
theorem token_types_agree :
    Tables.tokenTypes = ["Char", "Dot", "False", "LeftParen", "Number", "NumberPrefix", "Quasiquote", "RightParen",
      "SingleQuote", "String", "Symbol", "True", "Unquote", "WhiteSpace", "HashParen"] := by decide

/-- `PRIMITIVE_SYMBOLS` of `cell.rs` -/
theorem primitive_symbols_agree :
    ∀ s, (Tables.primitiveSymbols.map String.toList).contains s = Vm.isPrimitive s := by
  intro s; rfl

end Marwood.Proofs.Tables
