import Marwood.Lemmas.NumEqvBits
import Marwood.Spec.StoreTree
/-!
# C14 — `eqv?` / `equal?` on numbers (second proof module of C14)

A separate file because the exact/exact pairs rest on C09's `Cmp.eq_spec` (`Lemmas/NumCmp.lean`, which imports Mathlib),
while `Proofs/C14.lean` does not parse under Mathlib's notation (`to` becomes a keyword).
-/
namespace Marwood.Proofs.C14
open Marwood Marwood.Store

/-! ## `eqv?` / `equal?` on numbers: exactness, representations, bit patterns (fix 22cce75)

Model: `Marwood.Eqv.eqvNum`, the number arm of `Vm::eqv` (`compare.rs`) over the four representations
of `Number` (`Num`: fixnum, bignum, `Ratio<i32>`, double as its bit pattern); specification:
`Marwood.NumSpec.eqvSpec` (R7RS 6.1). The store model of `Proofs/C14.lean` carries exact integers only
(`VCell.num : Int`); `atom_num_eqv_is_eqvNum` says its leaf test is `eqvNum` on those. The numeric
leaf test in all representations is tied to the Rust code by the stream `eqv-numbers`. -/

section EqvNumbers
open Marwood.Eqv Marwood.NumSpec

/-- the number arm of `Vm::eqv` computes R7RS `eqv?` in all 16 pairs of representations. No guard is needed: the `false` that
    `PartialEq for Number` gives a fixnum/bignum outside i32 against a `Ratio<i32>` is right for reduced ratios. -/
theorem eqvNum_iff_spec (a b : Num) (ha : a.WF = true) (hb : b.WF = true) :
    eqvNum a b = true ↔ eqvSpec a b :=
  eqvNum_spec a b ha hb

/-- `eqvSpecB` is what the test driver's oracle runs -/
theorem eqvNum_eq_oracle (a b : Num) (ha : a.WF = true) (hb : b.WF = true) :
    eqvNum a b = eqvSpecB a b :=
  eqvNum_eq_specB a b ha hb

theorem eqvNum_exactness (a b : Num) (h : eqvNum a b = true) : isExact a = isExact b := by
  cases a <;> cases b <;> first | rfl | (simp [eqvNum] at h)

/-- a NaN too (same bits) -/
theorem eqvNum_refl (a : Num) : eqvNum a a = true := Eqv.eqvNum_refl a

theorem eqvNum_symm (a b : Num) : eqvNum a b = eqvNum b a := Eqv.eqvNum_symm a b

theorem eqvNum_trans (a b c : Num) (ha : a.WF = true) (hb : b.WF = true) (hc : c.WF = true)
    (h1 : eqvNum a b = true) (h2 : eqvNum b c = true) : eqvNum a c = true :=
  Eqv.eqvNum_trans a b c ha hb hc h1 h2

theorem eqvNum_representation_independent (a b : Num) (ha : a.WF = true) (hb : b.WF = true)
    (ea : isExact a = true) (eb : isExact b = true) (hv : val a = val b) : eqvNum a b = true :=
  (eqvNum_spec a b ha hb).mpr ((eqvSpec_exact a b ea eb).mpr hv)

theorem eqvNum_exact_value (a b : Num) (ha : a.WF = true) (hb : b.WF = true)
    (ea : isExact a = true) (eb : isExact b = true) (h : eqvNum a b = true) : val a = val b :=
  (eqvSpec_exact a b ea eb).mp ((eqvNum_spec a b ha hb).mp h)

theorem eqvNum_inexact (x y : F64) : eqvNum (.flo x) (.flo y) = true ↔ x = y := by
  cases x; cases y; simp [eqvNum]

/-- R7RS words `eqv?` on inexact numbers as "numerically equal and indistinguishable"; the code compares bits. For doubles
    that are not NaN these agree: the decoder is injective up to the two zeros, which `(/ 1 x)` tells apart. -/
theorem eqvNum_inexact_iff_equal_and_same_sign (x y : F64) (hx : (Num.flo x).WF = true)
    (hy : (Num.flo y).WF = true) (nx : Fl.isNaN x = false) (ny : Fl.isNaN y = false) :
    eqvNum (.flo x) (.flo y) = true ↔
      Cmp.eq (.flo x) (.flo y) = true ∧ Fl.signBit x = Fl.signBit y := by
  have hx' : x.bits < 2 ^ 64 := by simpa [Num.WF] using hx
  have hy' : y.bits < 2 ^ 64 := by simpa [Num.WF] using hy
  have h := Fl.bits_eq_iff x y hx' hy' nx ny
  simp only [eqvNum, Cmp.eq, beq_iff_eq]
  exact h

theorem eqvNum_mixed (a b : Num) (h : isExact a ≠ isExact b) : eqvNum a b = false := by
  cases hab : eqvNum a b
  · rfl
  · exact absurd (eqvNum_exactness a b hab) h

theorem eqv_zero_negzero : eqvNum (.flo (Fl.zero false)) (.flo (Fl.zero true)) = false := by decide

/-- `(eqv? 2 2.0)` ⟹ #f, in every exact representation of 2 -/
theorem eqv_exact_inexact :
    eqvNum (.fix 2) (.flo ⟨0x4000000000000000⟩) = false ∧
    eqvNum (.big 2) (.flo ⟨0x4000000000000000⟩) = false ∧
    eqvNum (.rat 2 1) (.flo ⟨0x4000000000000000⟩) = false ∧
    eqvNum (.flo ⟨0x4000000000000000⟩) (.fix 2) = false := ⟨rfl, rfl, rfl, rfl⟩

/-- `(eqv? 1/2 0.5)` ⟹ #f and `(eqv? 2 4/2)` ⟹ #t for a bignum 2 against the ratio 2/1 -/
theorem eqv_half_and_ratio :
    eqvNum (.rat 1 2) (.flo ⟨0x3fe0000000000000⟩) = false ∧ eqvNum (.big 2) (.rat 2 1) = true := by
  decide

/-- `eqvNumPinned` is the arm before fix 22cce75: numeric equality, exactness ignored (finding
    `C14-eqv-ignores-exactness`). It answers `#t` on `2` and `2.0`, against the specification. -/
theorem eqvNumPinned_violates :
    eqvNumPinned (.fix 2) (.flo ⟨0x4000000000000000⟩) = true ∧
      ¬ eqvSpec (.fix 2) (.flo ⟨0x4000000000000000⟩) := by
  refine ⟨by decide +kernel, ?_⟩
  intro h; exact absurd h.1 (by decide)

/-- the leaf test of the store model (exact integers only) is `eqvNum` on a fixnum or bignum carrier -/
theorem atom_num_eqv_is_eqvNum (a b : Int) :
    Atom.eqv (.num a) (.num b) = eqvNum (.big a) (.big b) ∧
    Atom.eqv (.num a) (.num b) = eqvNum (.fix a) (.fix b) ∧
    Atom.eqv (.num a) (.num b) = eqvNum (.fix a) (.big b) := ⟨rfl, rfl, rfl⟩

/-! ### the lift to `equal?`, `memv`/`member`, `assv`/`assoc`

`NTree` (data with numeric leaves), `NTree.equal`, `memTest`, `assTest` are specification functions of
`Spec/NumEqv.lean` that stand by themselves: these statements say how the leaf test propagates through them,
not what `Store.equal`, `Store.mem`, `Store.ass` compute (the store model carries exact integers only). The stream
`eqv-numbers` evaluates the eight forms on the real VM and compares the answers with these functions. -/

theorem equal_num_leaf (x y : Num) : NTree.equal eqvNum (.num x) (.num y) = eqvNum x y :=
  ntree_equal_num eqvNum x y

/-- `(equal? (list 1 x) (list 1 y))` and `(equal? (vector x) (vector y))` are `(eqv? x y)` -/
theorem equal_num_in_list_and_vector (x y : Num) :
    NTree.equal eqvNum (NTree.list [.num (.fix 1), .num x]) (NTree.list [.num (.fix 1), .num y])
      = eqvNum x y ∧
    NTree.equal eqvNum (.vec [.num x]) (.vec [.num y]) = eqvNum x y :=
  ⟨ntree_equal_list2 eqvNum (.fix 1) x y rfl, ntree_equal_vec1 eqvNum x y⟩

theorem equal_num_tree_refl (t : NTree) : NTree.equal eqvNum t t = true :=
  ntree_equal_refl eqvNum Eqv.eqvNum_refl t

/-- `memTest` / `assTest`, the specification of `(memv x (list y))`, `(member x (list y))`,
    `(assv x (list (cons y 1)))`, `(assoc x …)`, find the entry exactly when `(eqv? x y)` -/
theorem mem_ass_num (x y : Num) :
    memTest eqvNum x y = eqvNum x y ∧
    memTest (fun a b => NTree.equal eqvNum (.num a) (.num b)) x y = eqvNum x y ∧
    assTest eqvNum x y = eqvNum x y ∧
    assTest (fun a b => NTree.equal eqvNum (.num a) (.num b)) x y = eqvNum x y := by
  simp [memTest, assTest, ntree_equal_num]

theorem equal_num_leaf_spec (x y : Num) (hx : x.WF = true) (hy : y.WF = true) :
    NTree.equal eqvNum (.num x) (.num y) = true ↔ eqvSpec x y := by
  rw [equal_num_leaf]; exact eqvNum_spec x y hx hy

example : eqvNum (.fix 1099511627776) (.big 1099511627776) = true := by decide
example : (Num.rat 2 1).WF = true ∧ (Num.big 2).WF = true ∧ (Num.flo ⟨0x7ff8000000000000⟩).WF = true := by
  decide
example : eqvNum (.flo ⟨0x7ff8000000000000⟩) (.flo ⟨0x7ff8000000000000⟩) = true := by decide
example : eqvNum (.flo ⟨0x7ff8000000000000⟩) (.flo ⟨0x7ff8000000000001⟩) = false := by decide

end EqvNumbers

end Marwood.Proofs.C14
