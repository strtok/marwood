import Marwood.Lemmas.PreludeAgree
import Marwood.Lemmas.PreludeInterpAss
import Marwood.Lemmas.PreludeInterpMap
import Marwood.Lemmas.TotalLength
import Marwood.Lemmas.EqualViewMain
import Marwood.Lemmas.StoreMapPlan
import Marwood.Lemmas.TotalPrelude
/-!
# C14 — list and vector procedures match their specification and preserve identity

Model: `Marwood.Store` — `list.rs`, `vector.rs`, `vm/vector.rs`, `compare.rs`, `predicate.rs` with the
fixes 7cdbaf6 8902a1e c831323 aeab62c 3a9d75e 77f2b17 dfd9e81, and the Scheme definitions of
`prelude.scm` with the fixes 08d0569 (`length`) and 71c917c (`map`, `for-each`). Vocabulary:
`Marwood/Spec/StoreViews.lean` (`IsList`, `Spine`, `Chain`, `IsVec`, `IsIndex`, `Extends`, `OnlyCell`,
`OnlyVec`, `Denotes`).

For every procedure: (a) the result on valid arguments (`_ok`), (b) `err` on invalid ones (`_err`), (c) the frame (`Extends`
for procedures that only allocate, `OnlyCell`/`OnlyVec` for the mutators), (d) identity (element *references* are preserved:
an element is `ptr a` for the same address `a`, a vector slot holds the very value that was stored). After the builtins:
the models of the Scheme-defined procedures are the images of the regenerated `prelude.scm` definitions under an explicit
interpretation function; `equal?`, `member`, `assoc` as equality of address-free tree views; `map` and `for-each` for a
callee given by its law.
-/
namespace Marwood.Proofs.C14
open Marwood Marwood.Store Marwood.Store.Outcome

theorem vectorRef_ok {s : Store} {v i : VCell} {id k : Nat} {xs : List VCell}
    (hv : IsVec s v id xs) (hi : IsIndex s i k) (hk : k < xs.length) :
    vectorRef s [v, i] = finish (.ok (s, xs[k])) := by
  simp only [vectorRef, popIndex_of_isIndex hi, popVector_of_isVec hv, vecGet_of_isVec hv, bind_ok,
    List.getElem?_eq_getElem hk]

theorem vectorRef_err_range {s : Store} {v i : VCell} {id k : Nat} {xs : List VCell}
    (hv : IsVec s v id xs) (hi : IsIndex s i k) (hk : xs.length ≤ k) :
    vectorRef s [v, i] = .err .vindex := by
  simp only [vectorRef, popIndex_of_isIndex hi, popVector_of_isVec hv, vecGet_of_isVec hv, bind_ok,
    List.getElem?_eq_none hk]

theorem vectorRef_err_index {s : Store} {v i : VCell} (hi : NotIndex s i) :
    ∃ e, vectorRef s [v, i] = .err e := by
  obtain ⟨e, he⟩ := popIndex_of_notIndex hi
  exact ⟨e, by simp only [vectorRef, he, bind_err]⟩

theorem vectorSet_ok {s : Store} {v i x : VCell} {id k : Nat} {xs : List VCell}
    (hv : IsVec s v id xs) (hi : IsIndex s i k) (hk : k < xs.length) :
    ∃ s', vectorSet s [v, i, x] = .ok (s', .void) ∧ OnlyVec s s' id ∧
      s'.vecs[id]? = some (xs.set k x) := by
  obtain ⟨s', h1, h2, h3⟩ := vecSet_spec (isVec_lt hv) (xs.set k x)
  refine ⟨s', ?_, h2, h3⟩
  have hnot : ¬ (k ≥ xs.length) := by omega
  simp only [vectorSet, popIndex_of_isIndex hi, popVector_of_isVec hv, vecGet_of_isVec hv, bind_ok,
    if_neg hnot, h1]

theorem vectorSet_err_range {s : Store} {v i x : VCell} {id k : Nat} {xs : List VCell}
    (hv : IsVec s v id xs) (hi : IsIndex s i k) (hk : xs.length ≤ k) :
    vectorSet s [v, i, x] = .err .vindex := by
  have hge : k ≥ xs.length := hk
  simp only [vectorSet, popIndex_of_isIndex hi, popVector_of_isVec hv, vecGet_of_isVec hv, bind_ok,
    if_pos hge]

theorem vectorSet_err_index {s : Store} {v i x : VCell} (hi : NotIndex s i) :
    ∃ e, vectorSet s [v, i, x] = .err e := by
  obtain ⟨e, he⟩ := popIndex_of_notIndex hi
  exact ⟨e, by simp only [vectorSet, he, bind_err]⟩

/-- (d) what is stored is what is retrieved -/
theorem vectorRef_vectorSet {s s' : Store} {v i x r : VCell} {id k : Nat} {xs : List VCell}
    (hv : IsVec s v id xs) (hi : IsIndex s i k) (hk : k < xs.length)
    (hset : vectorSet s [v, i, x] = .ok (s', r)) :
    vectorRef s' [v, i] = finish (.ok (s', x)) := by
  obtain ⟨s'', h1, h2, h3⟩ := vectorSet_ok (x := x) hv hi hk
  rw [h1] at hset
  cases hset
  have hv' : IsVec s' v id (xs.set k x) := ⟨by rw [h2.get]; exact hv.1, h3⟩
  have hk' : k < (xs.set k x).length := by simpa using hk
  rw [vectorRef_ok hv' (h2.isIndex hi) hk']
  simp

theorem vectorFill_ok {s : Store} {v x : VCell} {id : Nat} {xs : List VCell}
    (hv : IsVec s v id xs) :
    ∃ s', vectorFill s [v, x] = .ok (s', .void) ∧ OnlyVec s s' id ∧
      s'.vecs[id]? = some (List.replicate xs.length x) := by
  obtain ⟨s', h1, h2, h3⟩ := vecSet_spec (isVec_lt hv) (List.replicate xs.length x)
  refine ⟨s', ?_, h2, h3⟩
  simp only [vectorFill, popVector_of_isVec hv, vecGet_of_isVec hv, bind_ok, h1]

theorem vectorLength_ok {s : Store} {v : VCell} {id : Nat} {xs : List VCell}
    (hv : IsVec s v id xs) : vectorLength s [v] = .ok (s, .num xs.length) := by
  simp only [vectorLength, popVector_of_isVec hv, vecGet_of_isVec hv, bind_ok]

theorem popVector_err {s : Store} {v c : VCell} (hg : s.get v = .ok c) (hc : ∀ id, c ≠ .vec id) :
    popVector s v = .err .syntax := by
  unfold popVector
  simp only [hg, bind_ok]

theorem vectorLength_err {s : Store} {v c : VCell} (hg : s.get v = .ok c)
    (hc : ∀ id, c ≠ .vec id) : vectorLength s [v] = .err .syntax := by
  simp only [vectorLength, popVector_err hg hc, bind_err]

theorem vector_ok (s : Store) (args : List VCell) :
    ∃ s' p, vector s args = .ok (s', .ptr p) ∧ IsVec s' (.ptr p) s.vecs.length args ∧
      Extends s s' := newVec_finish s args

theorem makeVector_ok {s : Store} {n fill : VCell} {k : Nat} (hn : IsIndex s n k)
    (hcap : k ≤ vecCapacity) :
    ∃ s' p, makeVector s [n, fill] = .ok (s', .ptr p) ∧
      IsVec s' (.ptr p) s.vecs.length (List.replicate k fill) ∧ Extends s s' := by
  obtain ⟨s', p, h1, h2, h3⟩ := newVec_finish s (List.replicate k fill)
  refine ⟨s', p, ?_, h2, h3⟩
  have hnot : ¬ (k > vecCapacity) := by omega
  simp only [makeVector, makeVector.go, hn.1, bind_ok, toUsize_natCast hn.2, orErr_some,
    if_neg hnot, h1]

theorem makeVector_err {s : Store} {n fill : VCell} (hn : NotIndex s n) :
    ∃ e, makeVector s [n, fill] = .err e := by
  obtain ⟨c, hc, hne⟩ := hn
  simp only [makeVector, makeVector.go, hc, bind_ok]
  cases c with
  | num m =>
    cases m with
    | ofNat k =>
      by_cases hk : k < usizeLimit
      · exact absurd rfl (hne k hk)
      · refine ⟨.syntax, ?_⟩
        show (orErr .syntax (if k < usizeLimit then some k else none) >>= _) = _
        rw [if_neg hk]; rfl
    | negSucc k => exact ⟨_, rfl⟩
  | _ => exact ⟨_, rfl⟩

theorem cloneVector_from (xs : List VCell) (start : Option Nat) (hk : start.getD 0 ≤ xs.length) :
    cloneVector xs start none = xs.drop (start.getD 0) := by
  unfold cloneVector
  simp only [Nat.min_eq_left hk]
  split
  · rw [List.drop_eq_nil_of_le (by omega)]
  · rw [List.take_of_length_le (by simp)]

theorem vectorCopy_ok {s : Store} {v b : VCell} {id k : Nat} {xs : List VCell}
    (hv : IsVec s v id xs) (hb : IsIndex s b k) (hk : k ≤ xs.length) :
    ∃ s' p, vectorCopy s [v, b] = .ok (s', .ptr p) ∧
      IsVec s' (.ptr p) s.vecs.length (xs.drop k) ∧ Extends s s' := by
  obtain ⟨s', p, h1, h2, h3⟩ := newVec_finish s (xs.drop k)
  refine ⟨s', p, ?_, h2, h3⟩
  have hnot : ¬ (k > xs.length) := by omega
  simp only [vectorCopy, popIndex_of_isIndex hb, bind_ok, vectorCopy.go, popVector_of_isVec hv,
    vecGet_of_isVec hv, if_neg hnot, vectorCopy.chk2, vectorCopy.done,
    cloneVector_from xs (some k) hk, Option.getD_some, h1]

theorem vectorCopy_all {s : Store} {v : VCell} {id : Nat} {xs : List VCell}
    (hv : IsVec s v id xs) :
    ∃ s' p, vectorCopy s [v] = .ok (s', .ptr p) ∧
      IsVec s' (.ptr p) s.vecs.length xs ∧ Extends s s' := by
  obtain ⟨s', p, h1, h2, h3⟩ := newVec_finish s xs
  refine ⟨s', p, ?_, h2, h3⟩
  simp only [vectorCopy, vectorCopy.go, popVector_of_isVec hv, bind_ok,
    vecGet_of_isVec hv, vectorCopy.chk2, vectorCopy.done,
    cloneVector_from xs none (Nat.zero_le _), Option.getD_none, List.drop_zero, h1]

/-- start = length is the empty copy -/
theorem vectorCopy_err_range {s : Store} {v b : VCell} {id k : Nat} {xs : List VCell}
    (hv : IsVec s v id xs) (hb : IsIndex s b k) (hk : xs.length < k) :
    vectorCopy s [v, b] = .err .vindex := by
  have : k > xs.length := hk
  simp only [vectorCopy, popIndex_of_isIndex hb, bind_ok, vectorCopy.go, popVector_of_isVec hv,
    vecGet_of_isVec hv, if_pos this]

/-- slot `at + j` of the target receives the *original* element `start + j` of the source — also when source and target are the
    same vector and the ranges overlap -/
theorem vectorCopyBang_ok {s : Store} {to at_ from_ b e : VCell} {tid fid a st en : Nat}
    {txs fxs : List VCell}
    (hto : IsVec s to tid txs) (hfrom : IsVec s from_ fid fxs) (hat : IsIndex s at_ a)
    (hb : IsIndex s b st) (he : IsIndex s e en)
    (h1 : st ≤ en) (h2 : en ≤ fxs.length) (h3 : a + (en - st) ≤ txs.length) :
    ∃ s' ys, vectorCopyBang s [to, at_, from_, b, e] = .ok (s', .void) ∧ OnlyVec s s' tid ∧
      s'.vecs[tid]? = some ys ∧ ys.length = txs.length ∧
      ∀ i, ys[i]? = if a ≤ i ∧ i < a + (en - st) then fxs[st + (i - a)]? else txs[i]? := by
  have := vectorCopyBang_go_ok (some st) (some en) hto hfrom hat h1 h2 h3
  simpa only [vectorCopyBang, popIndex_of_isIndex hb, popIndex_of_isIndex he, bind_ok,
    Option.getD_some] using this

theorem vectorCopyBang_ok_start {s : Store} {to at_ from_ b : VCell} {tid fid a st : Nat}
    {txs fxs : List VCell}
    (hto : IsVec s to tid txs) (hfrom : IsVec s from_ fid fxs) (hat : IsIndex s at_ a)
    (hb : IsIndex s b st) (h1 : st ≤ fxs.length) (h3 : a + (fxs.length - st) ≤ txs.length) :
    ∃ s' ys, vectorCopyBang s [to, at_, from_, b] = .ok (s', .void) ∧ OnlyVec s s' tid ∧
      s'.vecs[tid]? = some ys ∧ ys.length = txs.length ∧
      ∀ i, ys[i]? = if a ≤ i ∧ i < a + (fxs.length - st) then fxs[st + (i - a)]? else txs[i]? := by
  have := vectorCopyBang_go_ok (some st) none hto hfrom hat h1 (Nat.le_refl _) h3
  simpa only [vectorCopyBang, popIndex_of_isIndex hb, bind_ok, Option.getD_some,
    Option.getD_none] using this

theorem vectorCopyBang_ok_whole {s : Store} {to at_ from_ : VCell} {tid fid a : Nat}
    {txs fxs : List VCell}
    (hto : IsVec s to tid txs) (hfrom : IsVec s from_ fid fxs) (hat : IsIndex s at_ a)
    (h3 : a + fxs.length ≤ txs.length) :
    ∃ s' ys, vectorCopyBang s [to, at_, from_] = .ok (s', .void) ∧ OnlyVec s s' tid ∧
      s'.vecs[tid]? = some ys ∧ ys.length = txs.length ∧
      ∀ i, ys[i]? = if a ≤ i ∧ i < a + fxs.length then fxs[i - a]? else txs[i]? := by
  have := vectorCopyBang_go_ok none none hto hfrom hat (Nat.zero_le _) (Nat.le_refl _)
    (by simpa using h3)
  simpa only [vectorCopyBang, Option.getD_none, Nat.sub_zero, Nat.zero_add] using this

theorem vectorCopyBang_err {s : Store} {to at_ from_ b e : VCell} {tid fid a st en : Nat}
    {txs fxs : List VCell}
    (hto : IsVec s to tid txs) (hfrom : IsVec s from_ fid fxs) (hat : IsIndex s at_ a)
    (hb : IsIndex s b st) (he : IsIndex s e en)
    (hbad : ¬ (st ≤ en ∧ en ≤ fxs.length ∧ a + (en - st) ≤ txs.length)) :
    ∃ err, vectorCopyBang s [to, at_, from_, b, e] = .err err := by
  have := vectorCopyBang_go_err (some st) (some en) hto hfrom hat (by simpa using hbad)
  simpa only [vectorCopyBang, popIndex_of_isIndex hb, popIndex_of_isIndex he, bind_ok] using this

theorem put_eq (s : Store) (v : VCell) :
    ∃ s1 w, s.put v = (s1, .ptr w) ∧ Extends s s1 ∧ Denotes s1 w v ∧ s1.vecs = s.vecs ∧ s1.strs = s.strs := by
  obtain ⟨w, h1, h2, h3, h4, h5, _⟩ := put_spec s v
  exact ⟨(s.put v).1, w, Prod.ext rfl h1, h2, h3, h4, h5⟩

theorem cons_ok (s : Store) (a d : VCell) :
    ∃ s' p pa pd, cons s [a, d] = .ok (s', .ptr p) ∧ s'.cells[p]? = some (.pair pa pd) ∧
      Denotes s' pa a ∧ Denotes s' pd d ∧ Extends s s' ∧ s.cells.length ≤ p ∧
      s'.vecs = s.vecs ∧ s'.strs = s.strs := by
  obtain ⟨s1, wd, hpd, hd2, hd3, hd4, hd5⟩ := put_eq s d
  obtain ⟨s2, wa, hpa, ha2, ha3, ha4, ha5⟩ := put_eq s1 a
  refine ⟨(s2.alloc (.pair wa wd)).1, s2.cells.length, wa, wd, ?_, alloc_cell s2 _,
    Denotes.mono (alloc_extends s2 _) ha3,
    Denotes.mono ((ha2).trans (alloc_extends s2 _)) hd3,
    (hd2.trans ha2).trans (alloc_extends s2 _), ?_, ?_, ?_⟩
  · simp only [cons, consRaw, hpd, hpa, VCell.asPtr_ptr, bind_ok]
    rfl
  · exact Nat.le_trans hd2.len ha2.len
  · simp [ha4, hd4]
  · simp [ha5, hd5]

/-- what `set-car!` and `set-cdr!` share. `x` is a value, so its cell is not the pair `q`. -/
theorem put_setCell {s : Store} {q a d : Nat} {x : VCell} (hx : x.isValue = true)
    (h : s.cells[q]? = some (.pair a d)) (mk : Nat → VCell) :
    ∃ s1 w s', s.put x = (s1, .ptr w) ∧ s1.cells[q]? = some (.pair a d) ∧
      s1.setCell q (mk w) = .ok s' ∧ s'.cells[q]? = some (mk w) ∧ Denotes s' w x ∧ OnlyCell s s' q := by
  obtain ⟨s1, w, hp, h2, h3, h4, h5⟩ := put_eq s x
  have hq1 : s1.cells[q]? = some (.pair a d) := h2.cell h
  obtain ⟨s', e1, e2, e3, e4, e5, e6⟩ := setCell_spec (lt_of_cell hq1) (mk w)
  refine ⟨s1, w, s', hp, hq1, e1, e2, ?_, ?_, fun i hi hne => ?_, by rw [e5, h4], by rw [e6, h5]⟩
  · rcases h3 with h3 | ⟨h3a, h3b⟩
    · exact Or.inl h3
    · refine Or.inr ⟨h3a, ?_⟩
      by_cases hwq : w = q
      · subst hwq; rw [hq1] at h3b; cases h3b; simp [VCell.isValue] at hx
      · rw [e4 w hwq]; exact h3b
  · rw [e3]; exact h2.len
  · rw [e4 i hne, h2.cells i hi]

theorem setCar_ok {s : Store} {q a d : Nat} {x : VCell} (hx : x.isValue = true)
    (h : s.cells[q]? = some (.pair a d)) :
    ∃ s' w, setCar s [.ptr q, x] = .ok (s', .void) ∧ s'.cells[q]? = some (.pair w d) ∧
      Denotes s' w x ∧ OnlyCell s s' q := by
  obtain ⟨s1, w, s', hp, hq1, e1, e2, hden, hfr⟩ := put_setCell hx h (fun w => .pair w d)
  refine ⟨s', w, ?_, e2, hden, hfr⟩
  simp only [setCar, hp, get_ptr, hq1, ofOption_some, bind_ok, VCell.asPtr_ptr, e1]

theorem setCdr_ok {s : Store} {q a d : Nat} {x : VCell} (hx : x.isValue = true)
    (h : s.cells[q]? = some (.pair a d)) :
    ∃ s' w, setCdr s [.ptr q, x] = .ok (s', .void) ∧ s'.cells[q]? = some (.pair a w) ∧
      Denotes s' w x ∧ OnlyCell s s' q := by
  obtain ⟨s1, w, s', hp, hq1, e1, e2, hden, hfr⟩ := put_setCell hx h (fun w => .pair a w)
  refine ⟨s', w, ?_, e2, hden, hfr⟩
  simp only [setCdr, hp, get_ptr, hq1, ofOption_some, bind_ok, VCell.asPtr_ptr, e1]

theorem setCar_err {s : Store} {p x c : VCell} (h : s.get p = .ok c) (hc : c.isPair = false) :
    ∃ e, setCar s [p, x] = .err e := by
  obtain ⟨s1, w, hp, h2, _⟩ := put_eq s x
  simp only [setCar, hp, h2.get h, bind_ok]
  cases c <;> first | exact ⟨_, rfl⟩ | simp [VCell.isPair] at hc

theorem setCdr_err {s : Store} {p x c : VCell} (h : s.get p = .ok c) (hc : c.isPair = false) :
    ∃ e, setCdr s [p, x] = .err e := by
  obtain ⟨s1, w, hp, h2, _⟩ := put_eq s x
  simp only [setCdr, hp, h2.get h, bind_ok]
  cases c <;> first | exact ⟨_, rfl⟩ | simp [VCell.isPair] at hc

/-- every pair of the result is new (a copy, not shared) -/
theorem reverse_ok {s : Store} {v : VCell} {as : List Nat} {fuel : Nat}
    (hl : IsList s v as) (hfuel : as.length < fuel) :
    ∃ s' r, reverse fuel s [v] = .ok (s', r) ∧ IsList s' r as.reverse ∧ Extends s s' ∧
      (as ≠ [] → ∃ p ls q, r = .ptr p ∧ Chain s' p ls q ∧ s'.cells[q]? = some .nil ∧
        ls.map Prod.snd = as.reverse ∧ FreshFrom s.cells.length ls) := by
  cases hl with
  | nil hg =>
    refine ⟨s, .nil, ?_, .nil rfl, Extends.refl s, fun h => absurd rfl h⟩
    simp [reverse, hg, VCell.isPair]
  | cons hg ht =>
    rename_i a d rest
    have hext := alloc_extends s .nil
    obtain ⟨s', r, ls, h1, h2, h3, h4, h5⟩ := reverseLoop_spec s.cells.length rest fuel
      (s.alloc .nil).1 a d s.cells.length s.cells.length [] (ht.mono hext) .nil
      (by intro x hx; cases hx) (by simp) (by simp at hfuel; omega)
    have hq : s'.cells[s.cells.length]? = some .nil := h5.cell (alloc_cell s .nil)
    have hlist : IsList s' (.ptr r) (a :: rest).reverse := by
      have := h2.isList hq
      rw [h3] at this
      simpa using this
    refine ⟨s', .ptr r, ?_, hlist, hext.trans h5, fun _ => ⟨r, ls, s.cells.length, rfl, h2, hq, ?_, h4⟩⟩
    · simp only [reverse, hg, bind_ok, VCell.isPair_pair, Bool.not_true, Bool.false_eq_true, if_false,
        put_nil]
      exact h1
    · simpa using h3

theorem reverse_err {s : Store} {v c : VCell} {as : List Nat} {fuel : Nat}
    (hl : Spine s v as c) (hc : c.isNil = false) (hfuel : as.length < fuel) :
    ∃ e, reverse fuel s [v] = .err e := by
  cases hl with
  | done hg hp =>
    simp only [reverse, hg, bind_ok, hp, hc, Bool.not_false, if_true, Bool.false_eq_true, if_false]
    exact ⟨_, rfl⟩
  | cons hg ht =>
    rename_i a d rest
    have hext := alloc_extends s .nil
    obtain ⟨e, he⟩ := reverseLoop_err hc rest fuel (s.alloc .nil).1 a d s.cells.length
      (ht.mono hext) (by simp at hfuel; omega)
    refine ⟨e, ?_⟩
    simp only [reverse, hg, bind_ok, VCell.isPair_pair, Bool.not_true, Bool.false_eq_true, if_false,
        put_nil]
    exact he

theorem list_ok (s : Store) (args : List VCell) :
    ∃ s' p as, list s args = .ok (s', .ptr p) ∧ IsList s' (.ptr p) as ∧
      DenotesAll s' as args ∧ Extends s s' := by
  have hext := alloc_extends s .nil
  obtain ⟨s', p, as, e1, e2, e3, e4, _, _⟩ := listLoop_spec args.reverse (s.alloc .nil).1 s.cells.length
    [] [] (.nil (get_of_cell (alloc_cell s _))) .nil
  refine ⟨s', p, as, ?_, e2, by simpa using e3, hext.trans e4⟩
  simp only [list, put_nil, VCell.asPtr_ptr, bind_ok]
  simp only [Store.alloc] at e1
  rw [e1]; rfl

theorem vectorToList_ok {s : Store} {v : VCell} {id : Nat} {xs : List VCell}
    (hv : IsVec s v id xs) :
    ∃ s' p as, vectorToList s [v] = .ok (s', .ptr p) ∧ IsList s' (.ptr p) as ∧
      DenotesAll s' as xs ∧ Extends s s' := by
  have hext := alloc_extends s .nil
  obtain ⟨s', p, as, e1, e2, e3, e4, _⟩ := vecToListLoop_spec xs.reverse (s.alloc .nil).1 s.cells.length
    [] [] (.nil (get_of_cell (alloc_cell s _))) .nil
  refine ⟨s', p, as, ?_, e2, by simpa using e3, hext.trans e4⟩
  simp only [vectorToList, popVector_of_isVec hv, vecGet_of_isVec hv, bind_ok, put_nil]
  simp only [Store.alloc] at e1
  exact e1

theorem listToVector_ok {s : Store} {v : VCell} {as : List Nat} {fuel : Nat}
    (hl : IsList s v as) (hfuel : as.length + 1 < fuel) :
    ∃ s' p, listToVector fuel s [v] = .ok (s', .ptr p) ∧
      IsVec s' (.ptr p) s.vecs.length (as.map VCell.ptr) ∧ Extends s s' := by
  cases hl with
  | nil hg =>
    simp only [listToVector, hg, bind_ok]
    exact newVec_finish s []
  | cons hg ht =>
    rename_i a d rest
    obtain ⟨s', p, h1, h2, h3⟩ := newVec_finish s ((a :: rest).map VCell.ptr)
    refine ⟨s', p, ?_, h2, h3⟩
    simp only [listToVector, hg, bind_ok, VCell.isPair_pair, Bool.not_true, Bool.false_eq_true, if_false,
      collectCars_spec rest fuel a d [] ht.toSpine (by simp at hfuel; omega), List.nil_append,
      VCell.isNil_nil]
    exact h1

/-- fix 3a9d75e -/
theorem listToVector_err {s : Store} {v c : VCell} {as : List Nat} {fuel : Nat}
    (hl : Spine s v as c) (hc : c.isNil = false) (hfuel : as.length + 1 < fuel) :
    ∃ e, listToVector fuel s [v] = .err e := by
  cases hl with
  | done hg hp =>
    simp only [listToVector, hg, bind_ok, hp, hc, Bool.not_false, if_true, Bool.false_eq_true, if_false]
    exact ⟨_, rfl⟩
  | cons hg ht =>
    rename_i a d rest
    simp only [listToVector, hg, bind_ok, VCell.isPair_pair, Bool.not_true, Bool.false_eq_true, if_false,
      collectCars_spec rest fuel a d [] ht (by simp at hfuel; omega), hc, Bool.not_false, if_true]
    exact ⟨_, rfl⟩

/-- the prelude's definition with fix 08d0569 of `C06-circular-length`: two cursors; one unit of fuel for the call of `length`,
    one per call of its local `count`, which advances two pairs -/
theorem length_ok {s : Store} {v : VCell} {as : List Nat} (hl : IsList s v as) :
    ∀ fuel, as.length / 2 + 1 < fuel → length fuel s v = .ok (.num as.length) :=
  fun _ hfuel => length_spine_ok hl.toSpine hfuel

/-- the error the definition before fix 08d0569 gave -/
theorem length_err {s : Store} {v c : VCell} {as : List Nat} (hl : Spine s v as c)
    (hc : c.isNil = false) : ∀ fuel, as.length / 2 + 1 < fuel → length fuel s v = .err .pair :=
  fun _ hfuel => length_spine_err hl hc hfuel

/-- (b′) a circular list (`THL.cellAt s c k`: the cell `k` cdr steps away) is that error too, never `diverge` -/
theorem length_cyclic_err {s : Store} (hs : s.WF) {v c : VCell} (hv : VCell.Valid s v) (hg : s.get v = .ok c)
    (hcyc : ∀ k, (THL.cellAt s c k).isPair = true) :
    ∀ fuel, s.cells.length + 2 ≤ fuel → length fuel s v = .err .pair :=
  fun _ hfuel => Marwood.Store.length_cyclic_err hs hv hg hcyc hfuel

/-- (a)(b)(b′) together; which number: `length_ok` -/
theorem length_total {s : Store} (hs : s.WF) {v : VCell} (hv : VCell.Valid s v) :
    ∀ fuel, s.cells.length + 2 ≤ fuel →
      (ProperList s v ∧ ∃ n : Nat, length fuel s v = .ok (.num n)) ∨
      (¬ ProperList s v ∧ length fuel s v = .err .pair) :=
  fun _ hfuel => Marwood.Store.length_total hs hv hfuel

/-- for every acyclic argument -/
theorem isList_spec {s : Store} {v c : VCell} {as : List Nat} {fuel : Nat}
    (hl : Spine s v as c) (hfuel : as.length + 1 < fuel) :
    isList fuel s [v] = .ok (s, .bool c.isNil) := by
  cases hl with
  | done hg hp =>
    obtain ⟨f, rfl⟩ : ∃ f, fuel = f + 1 := ⟨fuel - 1, by simp at hfuel; omega⟩
    simp only [isList, hg, bind_ok, isListLoop, hp, Bool.not_false, if_true]
  | cons hg ht =>
    rename_i a d rest
    simp only [isList, hg, bind_ok, isListLoop_spec rest fuel a d ht (by simp at hfuel; omega)]

theorem spine_head_listy {s : Store} {v c : VCell} {as : List Nat} (hl : Spine s v as c)
    (hlist : as ≠ [] ∨ c = .nil) : ∃ c0, s.get v = .ok c0 ∧ (!c0.isPair && !c0.isNil) = false := by
  cases hl with
  | done hg hp =>
    rcases hlist with h | h
    · exact absurd rfl h
    · subst h; exact ⟨_, hg, rfl⟩
  | cons hg _ => exact ⟨_, hg, rfl⟩

theorem listTail_ok {s : Store} {v i c : VCell} {as : List Nat} {k : Nat}
    (hl : Spine s v as c) (hlist : as ≠ [] ∨ c = .nil) (hi : IsIndex s i k) (hk : k ≤ as.length) :
    ∃ t, listTail s [v, i] = .ok (s, t) ∧ NthCdr s v k t ∧ Spine s t (as.drop k) c := by
  obtain ⟨t, h1, h2⟩ := hl.nthCdr k hk
  refine ⟨t, ?_, h1, h2⟩
  obtain ⟨c0, hg0, hc0⟩ := spine_head_listy hl hlist
  simp only [listTail, popIndex_of_isIndex hi, bind_ok, hg0, hc0, Bool.false_eq_true, if_false,
    getListTail_ok h1]

theorem listTail_err {s : Store} {v i c : VCell} {as : List Nat} {k : Nat}
    (hl : Spine s v as c) (hi : IsIndex s i k) (hk : as.length < k) :
    ∃ e, listTail s [v, i] = .err e := by
  obtain ⟨e, he⟩ := getListTail_err hl k hk
  obtain ⟨c0, hg0, _⟩ := hl.head
  simp only [listTail, popIndex_of_isIndex hi, bind_ok, hg0]
  by_cases h : (!c0.isPair && !c0.isNil) = true
  · rw [if_pos h]; exact ⟨_, rfl⟩
  · rw [if_neg h, he]; exact ⟨_, rfl⟩

theorem listTail_err_index {s : Store} {v i : VCell} (hi : NotIndex s i) :
    ∃ e, listTail s [v, i] = .err e := by
  obtain ⟨e, he⟩ := popIndex_of_notIndex hi
  exact ⟨e, by simp only [listTail, he, bind_err]⟩

theorem listRef_ok {s : Store} {v i c : VCell} {as : List Nat} {k : Nat}
    (hl : Spine s v as c) (hi : IsIndex s i k) (hk : k < as.length) :
    listRef s [v, i] = .ok (s, .ptr as[k]) := by
  obtain ⟨t, h1, h2⟩ := hl.nthCdr k (by omega)
  have hd : as.drop k = as[k] :: as.drop (k + 1) := by
    rw [List.drop_eq_getElem_cons hk]
  rw [hd] at h2
  obtain ⟨c0, hg0, hc0⟩ := spine_head_listy hl (.inl (List.ne_nil_of_length_pos (by omega)))
  cases h2 with
  | cons hgt _ =>
    simp only [listRef, popIndex_of_isIndex hi, bind_ok, hg0, hc0, Bool.false_eq_true, if_false,
      getListTail_ok h1, hgt]

theorem listRef_err {s : Store} {v i c : VCell} {as : List Nat} {k : Nat}
    (hl : Spine s v as c) (hi : IsIndex s i k) (hk : as.length ≤ k) :
    ∃ e, listRef s [v, i] = .err e := by
  obtain ⟨c0, hg0, _⟩ := hl.head
  simp only [listRef, popIndex_of_isIndex hi, bind_ok, hg0]
  by_cases h : (!c0.isPair && !c0.isNil) = true
  · rw [if_pos h]; exact ⟨_, rfl⟩
  · rw [if_neg h]
    rcases Nat.lt_or_ge as.length k with hlt | hge
    · obtain ⟨e, he⟩ := getListTail_err hl k hlt
      rw [he]; exact ⟨_, rfl⟩
    · have hk' : k = as.length := by omega
      obtain ⟨t, h1, h2⟩ := hl.nthCdr k (by omega)
      rw [hk', List.drop_length] at h2
      rw [getListTail_ok h1]
      cases h2 with
      | done hgt hp =>
        simp only [bind_ok, hgt]
        rename_i c'
        cases c <;> first | exact ⟨_, rfl⟩ | simp [VCell.isPair] at hp

theorem eqv_key {s : Store} {k c : VCell} {a : Nat} (hk : k.isKeyScalar = true)
    (ha : s.cells[a]? = some c) : eqv s k (.ptr a) = .ok (decide (k = c)) := by
  have hp : k.isPtr = false := by cases k <;> simp [VCell.isKeyScalar] at hk <;> rfl
  simp only [eqv, hp, Bool.false_and, Bool.false_eq_true, if_false, derefArg, get_imm hp, bind_ok,
    get_of_cell ha, eqvCells_key hk]

/-- `hi`: symbols are interned (no other cell holds the same name — the heap invariant `Interned` of C03/C18); with fix 77f2b17 two
    distinct symbol cells are compared by name -/
theorem eqv_symbol {s : Store} {q a : Nat} {n : Text} {c : VCell} (hq : s.cells[q]? = some (.sym n))
    (ha : s.cells[a]? = some c) (hi : c = .sym n → q = a) :
    eqv s (.ptr q) (.ptr a) = .ok (decide (q = a)) := by
  by_cases h : q = a
  · subst h; simp [eqv, VCell.isPtr]
  · have : (VCell.ptr q == VCell.ptr a) = false := by simp [h]
    simp only [eqv, VCell.isPtr, Bool.true_and, this, Bool.false_eq_true, if_false, derefArg,
      get_of_cell hq, get_of_cell ha, bind_ok, h, decide_false]
    cases c <;> try rfl
    rename_i m
    have hne : ¬ (n = m) := fun hnm => h (hi (by rw [hnm]))
    simp [eqvCells, hne]

/-- a first-hit search along a spine. `W` is the walker with everything but fuel and list fixed, `p a` the value of its test at
    the element `a`, `res t a` its answer at a sublist `t` whose car `a` passes. `hcons` is asked for `a ∈ as` only: the callers
    know what the test answers on the elements of the list and nowhere else. -/
theorem search_spec {s : Store} {W : Nat → VCell → Outcome VCell} {res : VCell → Nat → VCell} {p : Nat → Bool}
    {v c : VCell} {as : List Nat} (hl : Spine s v as c)
    (hnil : ∀ f t, s.get t = .ok .nil → W (f + 1) t = .ok (.bool false))
    (herr : ∀ f t c, s.get t = .ok c → c.isPair = false → c.isNil = false → ∃ e, W (f + 1) t = .err e)
    (hcons : ∀ f t a d, a ∈ as → s.get t = .ok (.pair a d) →
      W (f + 1) t = if p a then .ok (res t a) else W f (.ptr d)) :
    ∀ fuel, as.length < fuel →
    (∃ k, ∃ h : k < as.length, p as[k] = true ∧ (∀ j (hj : j < k), p (as[j]'(by omega)) = false) ∧
        ∃ t, NthCdr s v k t ∧ W fuel v = .ok (res t as[k])) ∨
    ((∀ a ∈ as, p a = false) ∧
      ((c = .nil ∧ W fuel v = .ok (.bool false)) ∨ (c ≠ .nil ∧ ∃ e, W fuel v = .err e))) := by
  induction hl with
  | done hg hp =>
    intro fuel hfuel
    obtain ⟨f, rfl⟩ : ∃ f, fuel = f + 1 := ⟨fuel - 1, by omega⟩
    rename_i v c
    refine .inr ⟨by simp, ?_⟩
    by_cases hc : c = .nil
    · subst hc
      exact .inl ⟨rfl, hnil f v hg⟩
    · exact .inr ⟨hc, herr f v c hg hp (by cases c <;> first | rfl | exact absurd rfl hc)⟩
  | cons hg _ ih =>
    intro fuel hfuel
    obtain ⟨f, rfl⟩ : ∃ f, fuel = f + 1 := ⟨fuel - 1, by omega⟩
    rename_i v a d as c _
    rw [hcons f v a d (List.mem_cons_self ..) hg]
    cases hpa : p a with
    | true => exact .inl ⟨0, Nat.zero_lt_succ _, hpa, fun j hj => absurd hj (Nat.not_lt_zero j), v, .zero, rfl⟩
    | false =>
      rcases ih (fun f t x d hx => hcons f t x d (List.mem_cons_of_mem _ hx)) f (by simp at hfuel; omega) with
        ⟨k, hk, h1, h2, t, h3, h4⟩ | ⟨h1, h2⟩
      · refine .inl ⟨k + 1, Nat.succ_lt_succ hk, h1, fun j hj => ?_, t, .succ hg h3, h4⟩
        cases j with
        | zero => exact hpa
        | succ j => exact h2 j (Nat.lt_of_succ_lt_succ hj)
      · exact .inr ⟨List.forall_mem_cons.mpr ⟨hpa, h1⟩, h2⟩

/-- `mem test` (`memq`, `memv`, `member`): the first sublist whose car passes is the k-th cdr itself (`NthCdr`) -/
theorem mem_spec {s : Store} {test : Store → VCell → VCell → Outcome Bool} {obj : VCell}
    {p : Nat → Bool} {v c : VCell} {as : List Nat} (hl : Spine s v as c)
    (ht : ∀ a ∈ as, test s (.ptr a) obj = .ok (p a)) :
    ∀ fuel, as.length < fuel →
    (∃ k, ∃ h : k < as.length, p as[k] = true ∧ (∀ j (hj : j < k), p (as[j]'(by omega)) = false) ∧
        ∃ r, mem test fuel s obj v = .ok r ∧ NthCdr s v k r) ∨
    ((∀ a ∈ as, p a = false) ∧
      ((c = .nil ∧ mem test fuel s obj v = .ok (.bool false)) ∨
       (c ≠ .nil ∧ ∃ e, mem test fuel s obj v = .err e))) := by
  intro fuel hfuel
  have hcons : ∀ f t a d, a ∈ as → s.get t = .ok (.pair a d) →
      mem test (f + 1) s obj t = if p a then .ok t else mem test f s obj (.ptr d) := by
    intro f t a d ha hg
    simp only [mem, nullP_of_get hg, bind_ok, VCell.isNil, Bool.false_eq_true, if_false, carV_ok hg, ht a ha,
      cdrV_ok hg]
  rcases search_spec (W := fun f t => mem test f s obj t) (res := fun t _ => t) hl
    (fun f t hg => by simp only [mem, nullP_of_get hg, bind_ok, VCell.isNil_nil, if_true])
    (fun f t c hg hp hn => ⟨.pair, by
      simp only [mem, nullP_of_get hg, bind_ok, hn, Bool.false_eq_true, if_false, carV_err hg hp, bind_err]⟩)
    hcons fuel hfuel with ⟨k, hk, h1, h2, t, h3, h4⟩ | h
  · exact .inl ⟨k, hk, h1, h2, t, h4, h3⟩
  · exact .inr h

/-- `ass test` (`assq`, `assv`, `assoc`): `p a` is the value of `(and (pair? entry) (test (caar alist) obj))` at the entry `a`
    (`EntryTest`: an entry that is not a pair is skipped); the answer is the reference `as[k]` stored in the list, not a copy -/
theorem ass_spec {s : Store} {test : Store → VCell → VCell → Outcome Bool} {obj : VCell}
    {p : Nat → Bool} {v c : VCell} {as : List Nat} (hl : Spine s v as c)
    (ht : ∀ a ∈ as, EntryTest s test obj p a) :
    ∀ fuel, as.length < fuel →
    (∃ k, ∃ h : k < as.length, p as[k] = true ∧ (∀ j (hj : j < k), p (as[j]'(by omega)) = false) ∧
        ass test fuel s obj v = .ok (.ptr as[k])) ∨
    ((∀ a ∈ as, p a = false) ∧
      ((c = .nil ∧ ass test fuel s obj v = .ok (.bool false)) ∨
       (c ≠ .nil ∧ ∃ e, ass test fuel s obj v = .err e))) := by
  intro fuel hfuel
  have hcons : ∀ f t a d, a ∈ as → s.get t = .ok (.pair a d) →
      ass test (f + 1) s obj t = if p a then .ok (.ptr a) else ass test f s obj (.ptr d) := by
    intro f t a d ha hg
    obtain ⟨ce, hce, hmatch⟩ := ht a ha
    -- the value of the `and` test at this entry
    have hhit : (do
        if (← pairP s (.ptr a)) then do
          let k ← carV s (.ptr a)
          test s k obj
        else .ok false : Outcome Bool) = .ok (p a) := by
      rw [pairP_of_get (get_of_cell hce)]
      cases ce with
      | pair k d' =>
        simp only at hmatch
        simp only [bind_ok, VCell.isPair_pair, if_true, carV_ok (get_of_cell hce), hmatch]
      | _ => simp only at hmatch; simp [VCell.isPair, hmatch]
    simp only [ass, nullP_of_get hg, bind_ok, VCell.isNil, Bool.false_eq_true, if_false, carV_ok hg, hhit,
      cdrV_ok hg]
  rcases search_spec (W := fun f t => ass test f s obj t) (res := fun _ a => .ptr a) hl
    (fun f t hg => by simp only [ass, nullP_of_get hg, bind_ok, VCell.isNil_nil, if_true])
    (fun f t c hg hp hn => ⟨.pair, by
      simp only [ass, nullP_of_get hg, bind_ok, hn, Bool.false_eq_true, if_false, carV_err hg hp, bind_err]⟩)
    hcons fuel hfuel with ⟨k, hk, h1, h2, _, _, h4⟩ | h
  · exact .inl ⟨k, hk, h1, h2, h4⟩
  · exact .inr h

/-- a chain of *new* pairs whose final cdr is the reference of `last` itself (the last argument is shared, not copied) -/
theorem append_ok {s : Store} {init : List VCell} {last : VCell} {views : List (List Nat)}
    {fuel : Nat} (h : AllLists s init views) (hfuel : ∀ as ∈ views, as.length + 1 < fuel) :
    ∃ s' r w ls, append fuel s (init ++ [last]) = .ok (s', .ptr r) ∧ Chain s' r ls w ∧
      Denotes s' w last ∧ ls.map Prod.snd = views.flatten ∧ (∀ y ∈ ls, s.cells.length ≤ y.1) ∧
      Extends s s' := by
  obtain ⟨s0, w, hp, h2, h3, _⟩ := put_eq s last
  obtain ⟨s', r, ls, e1, e2, e3, e4, e5⟩ := appendLoop_spec (fuel := fuel) init.reverse views.reverse s0 w
    (h.reverse.mono h2) (fun x hx => hfuel x (by simpa using hx))
  refine ⟨s', r, w, ls, ?_, e2, h3.mono e5, by simpa using e3,
    fun y hy => Nat.le_trans h2.len (e4 y hy), h2.trans e5⟩
  simp only [append, List.reverse_append, List.reverse_cons, List.reverse_nil, List.nil_append,
    List.cons_append, hp]
  exact e1

theorem append_err {s : Store} {l last c : VCell} {as : List Nat} {fuel : Nat}
    (hl : Spine s l as c) (hc : c.isNil = false) (hfuel : as.length + 1 < fuel) :
    ∃ e, append fuel s [l, last] = .err e := by
  obtain ⟨s0, w, hp, h2, h3, _⟩ := put_eq s last
  have hl0 := hl.mono h2
  have hne : c ≠ .nil := by intro h; subst h; simp at hc
  simp only [append, List.reverse_cons, List.reverse_nil, List.nil_append, List.cons_append, hp]
  cases hl0 with
  | done hg hp' =>
    simp only [appendLoop, hg, bind_ok]
    cases c <;> first | exact absurd rfl hne | exact ⟨_, rfl⟩ | simp [VCell.isPair] at hp'
  | cons hg ht =>
    rename_i a d rest
    obtain ⟨e, he⟩ := (cloneList_spec (a := a) (fuel := fuel) ht (by simp at hfuel; omega)).2 hne
    simp only [appendLoop, hg, bind_ok, he, bind_err]
    exact ⟨_, rfl⟩

theorem car_ok {s : Store} {v : VCell} {a d : Nat} (h : s.get v = .ok (.pair a d)) :
    car s [v] = .ok (s, .ptr a) := Marwood.Store.car_ok h

theorem cdr_ok {s : Store} {v : VCell} {a d : Nat} (h : s.get v = .ok (.pair a d)) :
    cdr s [v] = .ok (s, .ptr d) := Marwood.Store.cdr_ok h

theorem car_err {s : Store} {v c : VCell} (h : s.get v = .ok c) (hc : c.isPair = false) :
    car s [v] = .err .pair := Marwood.Store.car_err h hc

theorem cdr_err {s : Store} {v c : VCell} (h : s.get v = .ok c) (hc : c.isPair = false) :
    cdr s [v] = .err .pair := Marwood.Store.cdr_err h hc

theorem car_cons (s : Store) (a d : VCell) :
    ∃ s' p pa, cons s [a, d] = .ok (s', .ptr p) ∧ car s' [.ptr p] = .ok (s', .ptr pa) ∧
      Denotes s' pa a := by
  obtain ⟨s', p, pa, pd, h1, h2, h3, _⟩ := cons_ok s a d
  exact ⟨s', p, pa, h1, Marwood.Store.car_ok (get_of_cell h2), h3⟩

/-- (d) a mutation through one alias is visible through every alias: they all are the address `q` -/
theorem setCar_visible {s : Store} {q a d : Nat} {x : VCell} (hx : x.isValue = true)
    (h : s.cells[q]? = some (.pair a d)) :
    ∃ s' w, setCar s [.ptr q, x] = .ok (s', .void) ∧ car s' [.ptr q] = .ok (s', .ptr w) ∧
      Denotes s' w x := by
  obtain ⟨s', w, h1, h2, h3, _⟩ := setCar_ok hx h
  exact ⟨s', w, h1, Marwood.Store.car_ok (get_of_cell h2), h3⟩

/-! ## the hypotheses hold together: a concrete store

`ptr 4` is the list `(1 2)`, `ptr 3` its tail `(2)`, `ptr 5` the vector `#((1 2) 5 (2))` whose
slots alias the list and its tail, `ptr 7` the improper list `(1 . 7)`, `ptr 9` the alist
`((1 . 2))`. -/

def exStore : Store :=
  { cells := [.num 1, .num 2, .nil, .pair 1 2, .pair 0 3, .vec 0, .num 7, .pair 0 6, .pair 0 1,
      .pair 8 2],
    vecs := [[.ptr 4, .num 5, .ptr 3], []],
    strs := [] }

theorem ex_list : IsList exStore (.ptr 4) [0, 1] := .cons rfl (.cons rfl (.nil rfl))
theorem ex_spine : Spine exStore (.ptr 4) [0, 1] .nil := ex_list.toSpine
theorem ex_improper : Spine exStore (.ptr 7) [0] (.num 7) := .cons rfl (.done rfl rfl)
theorem ex_vec : IsVec exStore (.ptr 5) 0 [.ptr 4, .num 5, .ptr 3] := ⟨rfl, rfl⟩
theorem ex_idx (k : Nat) (h : k < usizeLimit := by decide) : IsIndex exStore (.num k) k := ⟨rfl, h⟩
theorem ex_notIdx : NotIndex exStore (.num (-1)) :=
  ⟨_, rfl, fun k _ h => by cases h⟩

example := vectorRef_ok ex_vec (ex_idx 2) (by decide)
example := vectorRef_err_range ex_vec (ex_idx 3) (by decide)
example := vectorRef_err_index (v := .ptr 5) ex_notIdx
example := vectorSet_ok (x := .ptr 7) ex_vec (ex_idx 0) (by decide)
example := vectorSet_err_range (x := .nil) ex_vec (ex_idx 3) (by decide)
example := vectorSet_err_index (v := .ptr 5) (x := .nil) ex_notIdx
example := vectorRef_vectorSet (x := .ptr 7) (r := .void)
  (s' := { exStore with vecs := [[.ptr 7, .num 5, .ptr 3], []] }) ex_vec (ex_idx 0) (by decide) rfl
example := vectorFill_ok (x := .ptr 4) ex_vec
example := vectorLength_ok ex_vec
example := vectorLength_err (s := exStore) (v := .ptr 4) (c := .pair 0 3) rfl (fun _ h => by cases h)
example := vector_ok exStore [.ptr 4, .ptr 4]
example := makeVector_ok (fill := .ptr 4) (ex_idx 3) (by decide)
example := makeVector_err (fill := .ptr 4) ex_notIdx
example := vectorCopy_ok ex_vec (ex_idx 3) (by decide)
example := vectorCopy_all ex_vec
example := vectorCopy_err_range ex_vec (ex_idx 4) (by decide)
-- overlapping copy within one vector
example := vectorCopyBang_ok ex_vec ex_vec (ex_idx 1) (ex_idx 0) (ex_idx 2) (by decide) (by decide)
  (by decide)
example := vectorCopyBang_ok_start ex_vec ex_vec (ex_idx 0) (ex_idx 1) (by decide) (by decide)
example := vectorCopyBang_ok_whole ex_vec ex_vec (ex_idx 0) (by decide)
example := vectorCopyBang_err ex_vec ex_vec (ex_idx 2) (ex_idx 0) (ex_idx 2) (by decide)
example := cons_ok exStore (.ptr 4) (.num 3)
example := setCar_ok (s := exStore) (q := 3) (x := .ptr 4) rfl rfl
example := setCdr_ok (s := exStore) (q := 4) (x := .nil) rfl rfl
example := setCar_err (s := exStore) (p := .ptr 0) (x := .nil) (c := .num 1) rfl rfl
example := setCdr_err (s := exStore) (p := .nil) (x := .nil) (c := .nil) rfl rfl
example := reverse_ok (fuel := 5) ex_list (by decide)
example := reverse_err (fuel := 5) ex_improper rfl (by decide)
example := list_ok exStore [.ptr 4, .num 1, .ptr 4]
example := vectorToList_ok ex_vec
example := listToVector_ok (fuel := 5) ex_list (by decide)
example := listToVector_err (fuel := 5) ex_improper rfl (by decide)
example := length_ok ex_list 3 (by decide)
example := length_err ex_improper rfl 3 (by decide)
-- the one-element cycle `#0=(1 . #0#)`: every cell of the chain is the pair itself
def exCirc : Store := { cells := [.num 1, .pair 0 1], vecs := [], strs := [] }
theorem exCirc_wf : exCirc.WF := ⟨by decide, by decide⟩
theorem exCirc_chain : ∀ k, THL.cellAt exCirc (.pair 0 1) k = .pair 0 1
  | 0 => rfl
  | k+1 => by show THL.nx exCirc (THL.cellAt exCirc (.pair 0 1) k) = _; rw [exCirc_chain k]; rfl
example := length_cyclic_err exCirc_wf (v := .ptr 1) (by decide) rfl
  (fun k => by rw [exCirc_chain k]; rfl) 4 (by decide)
example : length 2 exCirc (.ptr 1) = .err .pair := rfl
example := isList_spec (fuel := 5) ex_improper (by decide)
example := listTail_ok ex_spine (Or.inr rfl) (ex_idx 2) (by decide)
example := listTail_err ex_spine (ex_idx 3) (by decide)
example := listTail_err_index (v := .ptr 4) ex_notIdx
example := listRef_ok ex_improper (ex_idx 0) (by decide)
example := listRef_err ex_improper (ex_idx 1) (by decide)
example := eqv_key (s := exStore) (k := .num 2) (a := 1) rfl rfl
example := append_ok (s := exStore) (last := .ptr 3) (fuel := 5)
  (AllLists.cons ex_list (AllLists.cons ex_list .nil)) (by simp)
example := append_err (last := .ptr 3) (fuel := 5) ex_improper rfl (by decide)
-- (memv 2 '(1 2)): the test is `eqv?` against the immediate key 2
example := mem_spec (test := eqTest) (obj := .num 2) (p := fun a => decide (a = 1)) ex_spine
  (by intro a ha; simp at ha; rcases ha with rfl | rfl <;> rfl) 3 (by decide)
-- (assv 1 '((1 . 2)))
example := ass_spec (s := exStore) (test := eqTest) (obj := .num 1) (p := fun _ => true)
  (v := .ptr 9) (as := [8]) (c := .nil) (.cons rfl (.done rfl rfl))
  (by intro a ha; simp at ha; subst ha; exact ⟨.pair 0 1, rfl, rfl⟩) 3 (by decide)

/-! ## the Scheme-defined procedures are the regenerated ones

`Gen.PreludeProcs.procs` is regenerated from `marwood/prelude.scm` on every run; `Store.Prelude.sourceOf` records, as data,
the top-level form each model of `Store/Prelude.lean` was transcribed from. The theorems below are closed (kernel
evaluation): a change to a library procedure of `prelude.scm` makes the one for that procedure false, so this module fails
to build until the model follows. -/

theorem prelude_source_caar : Gen.PreludeProcs.procs.lookup "caar" = some Store.Prelude.caarSrc :=
  Store.Prelude.agree_caar
theorem prelude_source_list : Gen.PreludeProcs.procs.lookup "list" = some Store.Prelude.listSrc :=
  Store.Prelude.agree_list
theorem prelude_source_length : Gen.PreludeProcs.procs.lookup "length" = some Store.Prelude.lengthSrc :=
  Store.Prelude.agree_length
theorem prelude_source_memq : Gen.PreludeProcs.procs.lookup "memq" = some Store.Prelude.memqSrc :=
  Store.Prelude.agree_memq
theorem prelude_source_memv : Gen.PreludeProcs.procs.lookup "memv" = some Store.Prelude.memvSrc :=
  Store.Prelude.agree_memv
theorem prelude_source_member : Gen.PreludeProcs.procs.lookup "member" = some Store.Prelude.memberSrc :=
  Store.Prelude.agree_member
theorem prelude_source_assq : Gen.PreludeProcs.procs.lookup "assq" = some Store.Prelude.assqSrc :=
  Store.Prelude.agree_assq
theorem prelude_source_assv : Gen.PreludeProcs.procs.lookup "assv" = some Store.Prelude.assvSrc :=
  Store.Prelude.agree_assv
theorem prelude_source_assoc : Gen.PreludeProcs.procs.lookup "assoc" = some Store.Prelude.assocSrc :=
  Store.Prelude.agree_assoc
theorem prelude_source_anyP : Gen.PreludeProcs.procs.lookup "any?" = some Store.Prelude.anyPSrc :=
  Store.Prelude.agree_anyP
theorem prelude_source_map1 : Gen.PreludeProcs.procs.lookup "map1" = some Store.Prelude.map1Src :=
  Store.Prelude.agree_map1
theorem prelude_source_map : Gen.PreludeProcs.procs.lookup "map" = some Store.Prelude.mapSrc :=
  Store.Prelude.agree_map
theorem prelude_source_forEach : Gen.PreludeProcs.procs.lookup "for-each" = some Store.Prelude.forEachSrc :=
  Store.Prelude.agree_forEach

theorem prelude_sources_agree :
    ∀ p ∈ Gen.PreludeProcs.procs, Store.Prelude.modelled p.1 = true → Store.Prelude.sourceOf p.1 = some p.2 :=
  Store.Prelude.agree_all

theorem prelude_modelled_defined : ∀ n ∈ Store.Prelude.modelledNames,
    Gen.PreludeProcs.procs.lookup n = Store.Prelude.sourceOf n ∧ (Store.Prelude.sourceOf n).isSome = true :=
  Store.Prelude.modelled_all_defined

/-- the models are one transcription each, `mem test` / `ass test`, instantiated with `eqTest` for `eq?` and `eqv?` alike and
    with `equalTest` for `equal?` -/
theorem prelude_mem_family :
    Store.Prelude.memvSrc = Store.Prelude.renameSyms [("memq", "memv"), ("eq?", "eqv?")] Store.Prelude.memqSrc ∧
    Store.Prelude.memberSrc = Store.Prelude.renameSyms [("memq", "member"), ("eq?", "equal?")] Store.Prelude.memqSrc ∧
    Store.Prelude.assvSrc = Store.Prelude.renameSyms [("assq", "assv"), ("eq?", "eqv?")] Store.Prelude.assqSrc ∧
    Store.Prelude.assocSrc = Store.Prelude.renameSyms [("assq", "assoc"), ("eq?", "equal?")] Store.Prelude.assqSrc :=
  Store.Prelude.mem_ass_family

/-! ## the hand transcriptions are the images of the regenerated definitions

`Store.Prelude.interp P defs fuel name` is the meaning the interpretation function of `Store/PreludeInterp.lean` gives to the
global `name` of the regenerated definitions (operands left to right, a test is true unless `#f`, lexical resolution of the
operator, one unit of fuel per call of a Scheme-defined procedure). For every fuel, store and argument the hand-written
model IS that image. Trusted, then, is not the transcription but the interpretation function — the reader `parseDef`, the
evaluator `evalE` — and the builtin table `prims`. -/

section PreludeImages
open Marwood.Store.Prelude
variable {efuel : Nat} {user : String → Option Callee}

theorem prelude_image_length (fuel : Nat) (s : Store) (l : VCell) :
    interp (prims efuel user) defs fuel "length" s [l] = liftV s (Store.length fuel s l) :=
  interp_length fuel s l

theorem prelude_image_memq (fuel : Nat) (s : Store) (obj l : VCell) :
    interp (prims efuel user) defs fuel "memq" s [obj, l] = liftV s (memq fuel s obj l) :=
  interp_memq fuel s obj l

theorem prelude_image_memv (fuel : Nat) (s : Store) (obj l : VCell) :
    interp (prims efuel user) defs fuel "memv" s [obj, l] = liftV s (memv fuel s obj l) :=
  interp_memv fuel s obj l

theorem prelude_image_member (fuel : Nat) (s : Store) (obj l : VCell) :
    interp (prims fuel user) defs fuel "member" s [obj, l] = liftV s (member fuel s obj l) :=
  interp_member fuel s obj l

theorem prelude_image_assq (fuel : Nat) (s : Store) (obj l : VCell) :
    interp (prims efuel user) defs fuel "assq" s [obj, l] = liftV s (assq fuel s obj l) :=
  interp_assq fuel s obj l

theorem prelude_image_assv (fuel : Nat) (s : Store) (obj l : VCell) :
    interp (prims efuel user) defs fuel "assv" s [obj, l] = liftV s (assv fuel s obj l) :=
  interp_assv fuel s obj l

theorem prelude_image_assoc (fuel : Nat) (s : Store) (obj l : VCell) :
    interp (prims fuel user) defs fuel "assoc" s [obj, l] = liftV s (assoc fuel s obj l) :=
  interp_assoc fuel s obj l

theorem prelude_image_anyNull (fuel : Nat) (s : Store) (l : VCell) :
    interp (prims efuel user) defs fuel "any?" s [.builtin "null?", l] =
      (do let b ← anyNull fuel s l; .ok (s, .bool b)) :=
  interp_anyNull fuel s l

theorem prelude_image_map1 {gname : String} {g : Callee} (hP : prims efuel user gname = some g)
    (fuel : Nat) (s : Store) (xs : VCell) :
    interp (prims efuel user) defs fuel "map1" s [.builtin gname, xs] = map1 g fuel s xs :=
  interp_map1 hP fuel s xs

/-- one more unit of fuel than the model, which starts at `map-all`; with `lists` empty both sides are the arity error -/
theorem prelude_image_map {gname : String} {g : Callee} (hP : prims efuel user gname = some g)
    (fuel : Nat) (s : Store) (lists : List VCell) :
    interp (prims efuel user) defs (fuel+1) "map" s (.builtin gname :: lists) = map g fuel s lists :=
  interp_map hP fuel s lists

theorem prelude_image_forEach {gname : String} {g : Callee} (hP : prims efuel user gname = some g)
    (fuel : Nat) (s : Store) (lists : List VCell) :
    interp (prims efuel user) defs (fuel+1) "for-each" s (.builtin gname :: lists) = forEach g fuel s lists :=
  interp_forEach hP fuel s lists

/-- how `(caar alist)` is read inside `assq` … `assoc` -/
theorem prelude_image_caar (fuel : Nat) (s : Store) (x : VCell) :
    interp (prims efuel user) defs (fuel+1) "caar" s [x] = (do let (s, v) ← car s [x]; car s [v]) :=
  interp_caar fuel s x

theorem prelude_image_list (fuel : Nat) (s : Store) (args : List VCell) :
    interp (prims efuel user) defs (fuel+1) "list" s args = list s args :=
  interp_list fuel s args

example : prims 0 (fun n => if n == "g" then some cons else none) "g" = some cons := by simp [prims]
example : interp (prims 0 (fun _ => none)) defs 6 "map" Store.empty [.builtin "car"] =
    map car 5 Store.empty [] := prelude_image_map (by simp [prims]) 5 _ _
/-- fix 71c917c of `C06-map-without-list`: the definitions before it looped -/
theorem map_without_list (g : Callee) (fuel : Nat) (s : Store) :
    map g fuel s [] = .err .arity ∧ forEach g fuel s [] = .err .arity := ⟨rfl, rfl⟩

end PreludeImages

/-! ### `equal?` with fix dfd9e81 (`compare.rs`: a set of pairs of heap locations whose comparison has begun is threaded
through the comparison; `Store.Pinned.equal` … model the functions before that fix) -/

/-- **Fix dfd9e81 changes `equal?` only where the function before it does not return** — it returns whenever both arguments have a
    view, that is on acyclic data, with or without sharing (`pinned_equal_iff_same_view`). (`Lemmas/EqualAgree.lean`: a pair of
    locations in the set is either done with `true`, or in progress further up and then `Pinned.equal` cannot return on it
    below.) -/
theorem equal_agrees_pinned {s : Store} {n : Nat} {l r : VCell} (h : Pinned.equal n s l r ≠ .diverge)
    {f : Nat} (hf : n ≤ f) : equal f s l r = Pinned.equal n s l r :=
  Marwood.Store.equal_agrees h hf

theorem equalB_agrees_pinned {s : Store} {n : Nat} {a b : VCell} {v : Bool}
    (h : Pinned.equal n s b a = .ok v) {f : Nat} (hf : n ≤ f) :
    equalB f s [a, b] = .ok (s, .bool v) := by
  have := equal_agrees_pinned (s := s) (n := n) (l := b) (r := a) (by rw [h]; simp) hf
  simp only [equalB, this, h, bind_ok]

/-- `(1 2)` against `(1 . 7)`, and the vector `ptr 5` against itself -/
example : equalB 10 exStore [.ptr 7, .ptr 4] = .ok (exStore, .bool false) :=
  equalB_agrees_pinned (n := 4) rfl (by decide)
example : equalB 10 exStore [.ptr 5, .ptr 5] = .ok (exStore, .bool true) :=
  equalB_agrees_pinned (n := 1) rfl (by decide)

/-! ### `equal?` is structural equality of the abstract tree views (R7RS 6.1)

`View s v t` (`Spec/StoreTree.lean`): the value `v` unfolds in the store `s` into the address-free tree `t`; an inductive
relation, so it is defined exactly on acyclic data (sharing allowed). `Tree.equiv` is `equal?` of R7RS on trees: the same
shape, strings with the same characters, leaves `eqv?`. No well-formedness hypothesis is needed: a view of both arguments
already says that everything the comparison reads is there. -/

theorem view_unique {s : Store} {v : VCell} {t t' : Tree} (h : View s v t) (h' : View s v t') : t = t' :=
  View.det t h h'

theorem leaf_eqv_is_eqvCells (s : Store) (a b : Atom) : eqvCells s a.toCell b.toCell = .ok (Atom.eqv a b) :=
  eqvCells_atom s a b

/-- for the kinds C14 quantifies over (symbols, booleans, `()`, characters, exact integers) -/
theorem leaf_eqv_iff (a b : Atom) : Atom.eqv a b = true ↔ a = b := Atom.eqv_iff a b

theorem tree_equiv_iff (t u : Tree) : Tree.equiv t u = true ↔ t = u := Tree.equiv_iff t u

/-- **`equal?` returns what R7RS specifies**; `2 * size` of the left view is enough fuel -/
theorem equal_same_view_equiv {s : Store} {l r : VCell} {tl tr : Tree} (hl : View s l tl) (hr : View s r tr)
    {fuel : Nat} (hf : 2 * tl.size ≤ fuel) : equal fuel s l r = .ok (tl.equiv tr) :=
  equal_view hl hr hf

theorem equal_iff_same_view {s : Store} {l r : VCell} {tl tr : Tree} (hl : View s l tl) (hr : View s r tr)
    {fuel : Nat} (hf : 2 * tl.size ≤ fuel) : equal fuel s l r = .ok (decide (tl = tr)) := by
  rw [equal_view hl hr hf, Tree.equiv_eq_decide]

/-- with the fuel that depends on the store only (`equalFuel`, the bound of `equal_total`): a DAG with sharing unfolds into a tree
    that may be exponentially larger than the store, the fuel (a nesting depth) does not follow it -/
theorem equal_iff_same_view_total {s : Store} (hsh : s.Shaped) {l r : VCell} {tl tr : Tree}
    (hlv : l.isValue = true) (hrv : r.isValue = true) (hl : View s l tl) (hr : View s r tr) {fuel : Nat}
    (hf : equalFuel s ≤ fuel) : equal fuel s l r = .ok (decide (tl = tr)) := by
  rw [equal_view_total hsh hlv hrv hl hr hf, Tree.equiv_eq_decide]

/-- `(equal? a b)` compares `left = b`, `right = a` -/
theorem equalB_iff_same_view {s : Store} {a b : VCell} {ta tb : Tree} (ha : View s a ta) (hb : View s b tb)
    {fuel : Nat} (hf : 2 * tb.size ≤ fuel) : equalB fuel s [a, b] = .ok (s, .bool (decide (tb = ta))) := by
  simp only [equalB, equal_iff_same_view hb ha hf, bind_ok]

/-- `Pinned.equal` (`equal?` before fix dfd9e81, no visited set) returns on data with a view too, with the same answer -/
theorem pinned_equal_iff_same_view {s : Store} {l r : VCell} {tl tr : Tree} (hl : View s l tl) (hr : View s r tr)
    {fuel : Nat} (hf : 2 * tl.size ≤ fuel) : Pinned.equal fuel s l r = .ok (decide (tl = tr)) := by
  rw [(pinned_view s fuel).1 l r tl tr hl hr hf, Tree.equiv_eq_decide]

/-- **`member`** on a list whose elements have the views `tv a`: the first sublist whose car unfolds into the same tree as `obj` -/
theorem member_view {s : Store} {obj v c : VCell} {as : List Nat} {tk : Tree} {tv : Nat → Tree}
    (hl : Spine s v as c) (hk : View s obj tk) (hv : ∀ a ∈ as, View s (.ptr a) (tv a)) :
    ∀ fuel, as.length < fuel → 2 * tk.size ≤ fuel →
    (∃ k, ∃ h : k < as.length, tv as[k] = tk ∧ (∀ j (hj : j < k), tv (as[j]'(by omega)) ≠ tk) ∧
        ∃ r, member fuel s obj v = .ok r ∧ NthCdr s v k r) ∨
    ((∀ a ∈ as, tv a ≠ tk) ∧
      ((c = .nil ∧ member fuel s obj v = .ok (.bool false)) ∨
       (c ≠ .nil ∧ ∃ e, member fuel s obj v = .err e))) := by
  intro fuel h1 h2
  have hne : ∀ t, tk.equiv t = false → t ≠ tk := by
    intro t h e; rw [e, Tree.equiv_refl] at h; cases h
  have ht : ∀ a ∈ as, equalTest fuel s (.ptr a) obj = .ok ((fun a => tk.equiv (tv a)) a) :=
    fun a ha => equal_view hk (hv a ha) h2
  rcases mem_spec (test := equalTest fuel) (p := fun a => tk.equiv (tv a)) hl ht fuel h1 with
    ⟨k, hk', e1, e2, r, e3, e4⟩ | ⟨e1, e2⟩
  · exact .inl ⟨k, hk', ((Tree.equiv_iff _ _).mp e1).symm, fun j hj => hne _ (e2 j hj), r, e3, e4⟩
  · exact .inr ⟨fun a ha => hne _ (e1 a ha), e2⟩

/-- **`assoc`** on an association list whose entries have the keys `kv a` (`EntryKey`: the view of the car of an entry that is a
    pair, `none` for an entry that is not — skipped): the first entry — the entry itself, not a copy — whose key unfolds into the
    same tree as `obj` -/
theorem assoc_view {s : Store} {obj v c : VCell} {as : List Nat} {tk : Tree} {kv : Nat → Option Tree}
    (hl : Spine s v as c) (hk : View s obj tk) (hv : ∀ a ∈ as, EntryKey s a (kv a)) :
    ∀ fuel, as.length < fuel → 2 * tk.size ≤ fuel →
    (∃ k, ∃ h : k < as.length, kv as[k] = some tk ∧ (∀ j (hj : j < k), kv (as[j]'(by omega)) ≠ some tk) ∧
        assoc fuel s obj v = .ok (.ptr as[k])) ∨
    ((∀ a ∈ as, kv a ≠ some tk) ∧
      ((c = .nil ∧ assoc fuel s obj v = .ok (.bool false)) ∨
       (c ≠ .nil ∧ ∃ e, assoc fuel s obj v = .err e))) := by
  intro fuel h1 h2
  -- the test `ass_spec` asks for, read off the keys: `equal?` of the trees where the entry has a key,
  -- `false` where it is skipped; `EntryTest` for it comes from `EntryKey` by `equal_view`
  let p : Nat → Bool := fun a => match kv a with | some t => tk.equiv t | none => false
  have hp_true : ∀ a, p a = true → kv a = some tk := by
    intro a h
    simp only [p] at h
    cases hk' : kv a with
    | none => rw [hk'] at h; cases h
    | some t => rw [hk'] at h; rw [(Tree.equiv_iff _ _).mp h]
  have hp_false : ∀ a, p a = false → kv a ≠ some tk := by
    intro a h e
    simp only [p, e, Tree.equiv_refl] at h
    cases h
  have ht : ∀ a ∈ as, EntryTest s (equalTest fuel) obj p a := by
    intro a ha
    cases hka : kv a with
    | none =>
      have he := hv a ha
      rw [hka] at he
      cases he with
      | skip hc hnp =>
        rename_i c0
        refine ⟨c0, hc, ?_⟩
        have : p a = false := by simp only [p, hka]
        cases c0 <;> first | exact this | simp [VCell.isPair] at hnp
    | some t =>
      have he := hv a ha
      rw [hka] at he
      cases he with
      | pair hc hview =>
        refine ⟨_, hc, ?_⟩
        have : p a = tk.equiv t := by simp only [p, hka]
        simp only [this]
        exact equal_view hk hview h2
  rcases ass_spec (test := equalTest fuel) (p := p) hl ht fuel h1 with ⟨k, hk', e1, e2, e3⟩ | ⟨e1, e2⟩
  · exact .inl ⟨k, hk', hp_true _ e1, fun j hj => hp_false _ (e2 j hj), e3⟩
  · exact .inr ⟨fun a ha => hp_false _ (e1 a ha), e2⟩

/-! #### one datum built two ways

`(1 #(2 "ab") x)` twice in one store: `ptr 8` with both vector slots references, `ptr 15` with an immediate in slot 0, another
string object with the same characters, other pairs; `ptr 18` is `(1 #(2) x)`. -/

def exTreeStore : Store :=
  { cells := [.num 1, .num 2, .str 0, .vec 0, .sym ['x'], .nil, .pair 4 5, .pair 3 6, .pair 0 7,
      .num 1, .str 1, .vec 1, .nil, .pair 4 12, .pair 11 13, .pair 9 14,
      .vec 2, .pair 16 13, .pair 9 17],
    vecs := [[.ptr 1, .ptr 2], [.num 2, .ptr 10], [.num 2]],
    strs := [['a', 'b'], ['a', 'b']] }

def exTail : Tree := .pair (.leaf (.sym ['x'])) (.leaf .nil)
def exTree : Tree := .pair (.leaf (.num 1)) (.pair (.vec [.leaf (.num 2), .str ['a', 'b']]) exTail)
def exTree' : Tree := .pair (.leaf (.num 1)) (.pair (.vec [.leaf (.num 2)]) exTail)

theorem ex_view1 : View exTreeStore (.ptr 8) exTree :=
  .pair rfl (.atom (a := .num 1) rfl)
    (.pair rfl (.vec rfl rfl (.cons (.atom (a := .num 2) rfl) (.cons (.str rfl rfl) .nil)))
      (.pair rfl (.atom (a := .sym ['x']) rfl) (.atom (a := .nil) rfl)))

theorem ex_view2 : View exTreeStore (.ptr 15) exTree :=
  .pair rfl (.atom (a := .num 1) rfl)
    (.pair rfl (.vec rfl rfl (.cons (.atom (a := .num 2) rfl) (.cons (.str rfl rfl) .nil)))
      (.pair rfl (.atom (a := .sym ['x']) rfl) (.atom (a := .nil) rfl)))

theorem ex_view3 : View exTreeStore (.ptr 18) exTree' :=
  .pair rfl (.atom (a := .num 1) rfl)
    (.pair rfl (.vec rfl rfl (.cons (.atom (a := .num 2) rfl) .nil))
      (.pair rfl (.atom (a := .sym ['x']) rfl) (.atom (a := .nil) rfl)))

theorem exTree_size : 2 * exTree.size = 22 := by simp [exTree, exTail, Tree.size, Tree.sizeAll]

example : equal 22 exTreeStore (.ptr 8) (.ptr 15) = .ok true := by
  rw [equal_iff_same_view ex_view1 ex_view2 (by rw [exTree_size]; exact Nat.le_refl _)]; simp
example : equal 22 exTreeStore (.ptr 8) (.ptr 18) = .ok false := by
  rw [equal_same_view_equiv ex_view1 ex_view3 (by rw [exTree_size]; exact Nat.le_refl _)]
  simp [exTree, exTree', Tree.equiv, Tree.equivAll, Atom.eqv]
example := equalB_iff_same_view (fuel := 22) ex_view2 ex_view1 (by rw [exTree_size]; exact Nat.le_refl _)
example := view_unique ex_view1 ex_view1

/-! ## `map` and `for-each` (Scheme definitions of `prelude.scm`, parametric in the procedure argument)

The procedure argument is a store transformer `g : Callee`, as in the model. Vocabulary (`Lemmas/StoreMapDefs.lean`):
`SpineOff M s l as c` — `Spine s l as c` none of whose spine cells is at an address in `M`; `Keeps M s s'` — of the cells that
existed in `s` only those in `M` differ in `s'`; `MapCallee g M I tuples` — the law of the callee on this run: `I` is a store
invariant of the caller's choice that survives allocation; in a store satisfying `I` the callee returns on each of the
argument tuples it is given, writes (of what existed) only inside `M`, and re-establishes `I`. `M` lies below the heap size
at the call of `map` and off the spines of the input lists: the callee may `set-car!` an *element*, fill a vector, allocate —
it may not redirect the lists being traversed (the lists `map` builds for itself are allocated later, hence outside `M`).
`columnsN m views` — the `m` argument tuples; `MapRun g s tuples s' ys` — the calls, as a fold: `g` is applied to `tuples[0]`,
`tuples[1]`, … in this order, each from the store the previous one returned (up to pairs `map` allocates in between), the
j-th call returns `ys[j]`; the arguments are the element references themselves (`VCell.ptr a`), clause (d). -/

theorem plan_proper {views : List (List Nat)} {m : Nat} (hmin : ∀ as ∈ views, m ≤ as.length)
    (hex : ∃ as ∈ views, as.length = m) :
    Plan (views.map fun as => (as, VCell.nil)) (columnsN m views) true := by
  have := plan_ok (m := m) (views := views.map fun as => (as, VCell.nil))
    (fun v hv => by
      obtain ⟨as, ha, rfl⟩ := List.mem_map.mp hv
      exact hmin as ha)
    (by
      obtain ⟨as, ha, hlen⟩ := hex
      exact ⟨(as, .nil), List.mem_map.mpr ⟨as, ha, rfl⟩, hlen, rfl⟩)
  rwa [firsts_proper] at this

/-- (a)(c)(d) `(map g l₁ … lₖ)`, `m` the length of the shortest list (R7RS: the shortest list ends the iteration): the result is a
    proper list all of whose pairs were allocated during this call (`SpineOff (· < |s.cells|)`: FRESH, shares no pair with any
    input) whose j-th element reference denotes the value the j-th call returned; the input lists are the same lists in `s'` -/
theorem map_spec {g : Callee} {M : Nat → Prop} {I : Store → Prop} {s : Store} {l : VCell}
    {rest : List VCell} {views : List (List Nat)} {m fuel : Nat}
    (hl : AllSpinesOff M s (l :: rest) (views.map fun as => (as, VCell.nil)))
    (hM : ∀ i, M i → i < s.cells.length)
    (hmin : ∀ as ∈ views, m ≤ as.length) (hex : ∃ as ∈ views, as.length = m)
    (hI : I s) (hg : MapCallee g M I (argsOf (columnsN m views)))
    (hfuel : m + (l :: rest).length + 2 ≤ fuel) :
    ∃ s' r ys rs, map g fuel s (l :: rest) = .ok (s', r) ∧
      MapRun g s (argsOf (columnsN m views)) s' ys ∧ ys.length = m ∧
      SpineOff (· < s.cells.length) s' r rs .nil ∧ IsList s' r rs ∧ DenotesAll s' rs ys ∧
      AllSpinesOff M s' (l :: rest) (views.map fun as => (as, VCell.nil)) ∧ Keeps M s s' ∧ I s' := by
  have hp := plan_proper hmin hex
  have hlen : (columnsN m views).length = m := columnsN_length hmin
  obtain ⟨s', r, ys, rs, e, run, fr, hden, hfrm, hk, hI'⟩ :=
    (map_plan hl hM hI hg hp (by rw [hlen]; exact hfuel)).1 rfl
  refine ⟨s', r, ys, rs, e, run, ?_, fr, fr.isList, hden, hfrm, hk, hI'⟩
  rw [run.length]; simp [argsOf, hlen]

/-- the same calls in the same order — first element to last, the order R7RS guarantees for `for-each` -/
theorem forEach_spec {g : Callee} {M : Nat → Prop} {I : Store → Prop} {s : Store} {l : VCell}
    {rest : List VCell} {views : List (List Nat)} {m fuel : Nat}
    (hl : AllSpinesOff M s (l :: rest) (views.map fun as => (as, VCell.nil)))
    (hM : ∀ i, M i → i < s.cells.length)
    (hmin : ∀ as ∈ views, m ≤ as.length) (hex : ∃ as ∈ views, as.length = m)
    (hI : I s) (hg : MapCallee g M I (argsOf (columnsN m views)))
    (hfuel : m + (l :: rest).length + 2 ≤ fuel) :
    ∃ s' ys, forEach g fuel s (l :: rest) = .ok (s', .void) ∧
      MapRun g s (argsOf (columnsN m views)) s' ys ∧ ys.length = m ∧
      AllSpinesOff M s' (l :: rest) (views.map fun as => (as, VCell.nil)) ∧ Keeps M s s' ∧ I s' := by
  have hp := plan_proper hmin hex
  have hlen : (columnsN m views).length = m := columnsN_length hmin
  obtain ⟨s', ys, e, run, hfrm, hk, hI'⟩ :=
    (forEach_plan hl hM hI hg hp (by rw [hlen]; exact hfuel)).1 rfl
  refine ⟨s', ys, e, run, ?_, hfrm, hk, hI'⟩
  rw [run.length]; simp [argsOf, hlen]

/-- `getD 0`: the default is never taken, `j < m ≤ as.length` -/
theorem map_tuples_length {m : Nat} {views : List (List Nat)} (hmin : ∀ as ∈ views, m ≤ as.length) :
    (columnsN m views).length = m := columnsN_length hmin

theorem map_tuples_get {m j : Nat} {views : List (List Nat)} (hmin : ∀ as ∈ views, m ≤ as.length)
    (hj : j < m) : (columnsN m views)[j]? = some (views.map fun as => as[j]?.getD 0) :=
  columnsN_get hmin hj

/-- (d) identity: the j-th call receives the reference `ptr a` where `a` is the address stored in the car of the list's j-th pair —
    the object itself, never a copy -/
theorem map_args_identity {m j : Nat} {views : List (List Nat)}
    (hmin : ∀ as ∈ views, m ≤ as.length) (hj : j < m) :
    (argsOf (columnsN m views))[j]? = some (views.map fun as => VCell.ptr (as[j]?.getD 0)) := by
  simp only [argsOf, List.getElem?_map, columnsN_get hmin hj, Option.map_some, List.map_map]
  rfl

theorem map_tuples_single (as : List Nat) : columnsN as.length [as] = as.map fun a => [a] :=
  columnsN_single as

/-- for a callee that only allocates (`car`, `cons`, `list`, `vector`, …), in the vocabulary of the other list theorems: `IsList`,
    frame `Extends s s'` -/
theorem map_spec_pure {g : Callee} {I : Store → Prop} {s : Store} {l : VCell} {rest : List VCell}
    {views : List (List Nat)} {m fuel : Nat}
    (hl : AllLists s (l :: rest) views) (hv : ∀ x ∈ l :: rest, x.isValue = true)
    (hmin : ∀ as ∈ views, m ≤ as.length) (hex : ∃ as ∈ views, as.length = m)
    (hpure : ∀ t args u y, g t args = .ok (u, y) → Extends t u)
    (hI : I s) (hg : MapCallee g (fun _ => False) I (argsOf (columnsN m views)))
    (hfuel : m + (l :: rest).length + 2 ≤ fuel) :
    ∃ s' r ys rs, map g fuel s (l :: rest) = .ok (s', r) ∧
      MapRun g s (argsOf (columnsN m views)) s' ys ∧ ys.length = m ∧
      SpineOff (· < s.cells.length) s' r rs .nil ∧ IsList s' r rs ∧ DenotesAll s' rs ys ∧
      AllLists s' (l :: rest) views ∧ Extends s s' ∧ I s' := by
  obtain ⟨s', r, ys, rs, e, run, hlen, fr, hil, hden, _, _, hI'⟩ :=
    map_spec (hl.allSpinesOff hv) (fun _ h => h.elim) hmin hex hI hg hfuel
  have hx := run.extends hpure
  exact ⟨s', r, ys, rs, e, run, hlen, fr, hil, hden, hl.mono hx, hx, hI'⟩

theorem forEach_spec_pure {g : Callee} {I : Store → Prop} {s : Store} {l : VCell}
    {rest : List VCell} {views : List (List Nat)} {m fuel : Nat}
    (hl : AllLists s (l :: rest) views) (hv : ∀ x ∈ l :: rest, x.isValue = true)
    (hmin : ∀ as ∈ views, m ≤ as.length) (hex : ∃ as ∈ views, as.length = m)
    (hpure : ∀ t args u y, g t args = .ok (u, y) → Extends t u)
    (hI : I s) (hg : MapCallee g (fun _ => False) I (argsOf (columnsN m views)))
    (hfuel : m + (l :: rest).length + 2 ≤ fuel) :
    ∃ s' ys, forEach g fuel s (l :: rest) = .ok (s', .void) ∧
      MapRun g s (argsOf (columnsN m views)) s' ys ∧ ys.length = m ∧
      AllLists s' (l :: rest) views ∧ Extends s s' ∧ I s' := by
  obtain ⟨s', ys, e, run, hlen, _, _, hI'⟩ :=
    forEach_spec (hl.allSpinesOff hv) (fun _ h => h.elim) hmin hex hI hg hfuel
  have hx := run.extends hpure
  exact ⟨s', ys, e, run, hlen, hl.mono hx, hx, hI'⟩

/-- (b) when every shortest list ends in a non-pair other than `()`, `map` and `for-each` answer the `expected pair` error of `car`,
    whatever the callee did on the `m` tuples before. (When some list of length `m` is proper, `any? null?` stops the walk first
    and the improper tail is never looked at; the Rust VM agrees: `(map cons '((1 . 2) . 5) '(7))` is `(((1 . 2) . 7))`, with
    `'(7 8)` an error.) -/
theorem map_improper_err {g : Callee} {M : Nat → Prop} {I : Store → Prop} {s : Store} {l : VCell}
    {rest : List VCell} {views : List (List Nat × VCell)} {m fuel : Nat}
    (hl : AllSpinesOff M s (l :: rest) views) (hM : ∀ i, M i → i < s.cells.length)
    (hall : ∀ v ∈ views, m < v.1.length ∨ (v.1.length = m ∧ v.2.isNil = false))
    (hex : ∃ v ∈ views, v.1.length = m)
    (hI : I s) (hg : MapCallee g M I (argsOf (columnsN m (firsts views))))
    (hfuel : m + (l :: rest).length + 2 ≤ fuel) :
    map g fuel s (l :: rest) = .err .pair ∧ forEach g fuel s (l :: rest) = .err .pair := by
  have hp := plan_err hall hex
  have hlen : (columnsN m (firsts views)).length = m := columnsN_length (by
    intro as ha
    obtain ⟨v, hv, rfl⟩ := List.mem_map.mp ha
    rcases hall v hv with h | ⟨h, _⟩ <;> omega)
  exact ⟨(map_plan hl hM hI hg hp (by rw [hlen]; exact hfuel)).2 rfl,
    (forEach_plan hl hM hI hg hp (by rw [hlen]; exact hfuel)).2 rfl⟩

/-- (b) the order of the calls is observable: a failure of the callee on the tuple after `pre` is the answer; no later element is
    touched, and an improper tail further on is not reported instead -/
theorem map_callee_failure {g : Callee} {M : Nat → Prop} {I : Store → Prop} {s : Store} {l : VCell}
    {rest : List VCell} {views : List (List Nat × VCell)} {tuples : List (List Nat)} {b : Bool}
    {fuel : Nat} {pre : List (List Nat)} {t : List Nat} {post : List (List Nat)}
    (hl : AllSpinesOff M s (l :: rest) views) (hM : ∀ i, M i → i < s.cells.length)
    (hI : I s) (hp : Plan views tuples b) (hs : tuples = pre ++ t :: post)
    (hg : MapCallee g M I (argsOf pre))
    (hfail : ∀ st, I st → ∀ x, g st (t.map VCell.ptr) ≠ .ok x)
    (hfuel : tuples.length + (l :: rest).length + 2 ≤ fuel) :
    ∃ st, I st ∧ SameFailure (g st (t.map VCell.ptr)) (map g fuel s (l :: rest)) ∧
      SameFailure (g st (t.map VCell.ptr)) (forEach g fuel s (l :: rest)) :=
  map_callee_fails hl hM hI hp hs hg hfail hfuel

/-- `CalleeLaw` (C06): no panic, hands back a well-formed store that only grew and a valid value -/
theorem map_spec_wf {g : Callee} (hg : CalleeLaw g) {fuel : Nat} {s : Store} (hs : s.WF)
    {lists : List VCell} (ha : ∀ v ∈ lists, VCell.Valid s v) {s' : Store} {r : VCell}
    (h : map g fuel s lists = .ok (s', r)) : s'.WF ∧ VCell.Valid s' r :=
  let p := (map_sat hg fuel hs ha).2 _ h
  ⟨p.1, p.2.2⟩

/-! ### on `exStore`: `ptr 9` is `((1 . 2))`, `ptr 4` is `(1 2)`, `ptr 3` is `(2)`, `ptr 7` is `(1 . 7)` -/

theorem ex_alist : IsList exStore (.ptr 9) [8] := .cons rfl (.nil rfl)

/-- `(map car '((1 . 2)))` -/
example := map_spec_pure (g := car) (I := Extends exStore) (s := exStore) (m := 1) (fuel := 4)
  (.cons ex_alist .nil) (by simp [VCell.isValue]) (by simp) ⟨[8], by simp, rfl⟩ car_extends
  (Extends.refl _)
  (mapCallee_car (s0 := exStore) (by
    intro args h
    simp [argsOf, columnsN] at h
    exact ⟨8, 0, 1, h, rfl⟩))
  (by decide)

/-- `(map cons '(1 2) '(2))` and `(for-each cons '(1 2) '(2))` -/
example := map_spec_pure (g := cons) (I := fun _ => True) (s := exStore) (m := 1) (fuel := 5)
  (.cons ex_list (.cons (.cons rfl (.nil rfl) : IsList exStore (.ptr 3) [1]) .nil))
  (by simp [VCell.isValue]) (by simp) ⟨[1], by simp, rfl⟩ cons_extends trivial
  (mapCallee_cons (by intro args h; simp [argsOf, columnsN] at h; subst h; rfl)) (by decide)
example := forEach_spec_pure (g := cons) (I := fun _ => True) (s := exStore) (m := 1) (fuel := 5)
  (.cons ex_list (.cons (.cons rfl (.nil rfl) : IsList exStore (.ptr 3) [1]) .nil))
  (by simp [VCell.isValue]) (by simp) ⟨[1], by simp, rfl⟩ cons_extends trivial
  (mapCallee_cons (by intro args h; simp [argsOf, columnsN] at h; subst h; rfl)) (by decide)

/-- `(map cons '(1 . 7) '(1 2))` -/
example := map_improper_err (g := cons) (M := fun _ => False) (I := fun _ => True) (s := exStore)
  (m := 1) (fuel := 5) (views := [([0], .num 7), ([0, 1], .nil)])
  (.cons (ex_improper.spineOff rfl) (.cons (ex_spine.spineOff rfl) .nil)) (fun _ h => h.elim)
  (by simp [VCell.isNil]) ⟨([0], .num 7), by simp, rfl⟩ trivial
  (mapCallee_cons (by intro args h; simp [argsOf, columnsN, firsts] at h; subst h; rfl))
  (by decide)

/-- `(lambda (p) (set-car! p 9))`: it may write the element `ptr 8`, which is not on the spine of `((1 . 2))` -/
def exSetCar9 : Callee := fun s args => setCar s (args ++ [.num 9])

theorem onlyCell_keeps {s s' : Store} {q : Nat} (h : OnlyCell s s' q) : Keeps (· = q) s s' :=
  ⟨h.len, fun i hi hne => h.cells i hi hne⟩

theorem mapCallee_exSetCar9 :
    MapCallee exSetCar9 (· = 8) (fun t => ∃ a d, t.cells[8]? = some (.pair a d)) [[.ptr 8]] := by
  refine ⟨fun t t' ⟨a, d, h⟩ he => ⟨a, d, he.cell h⟩, fun t args ⟨a, d, h⟩ hm => ?_⟩
  simp only [List.mem_singleton] at hm
  subst hm
  obtain ⟨s', w, h1, h2, _, h4⟩ := setCar_ok (x := .num 9) rfl h
  exact ⟨s', .void, h1, onlyCell_keeps h4, w, d, h2⟩

/-- `(for-each (lambda (p) (set-car! p 9)) '((1 . 2)))`: only cell 8 may differ -/
example := forEach_spec (g := exSetCar9) (M := (· = 8))
  (I := fun t => ∃ a d, t.cells[8]? = some (.pair a d)) (s := exStore) (l := .ptr 9) (rest := [])
  (views := [[8]]) (m := 1) (fuel := 4)
  (.cons (.cons (by decide) rfl (.done (by decide) rfl rfl)) .nil)
  (by intro i h; subst h; decide) (by simp) ⟨[8], by simp, rfl⟩ ⟨0, 1, rfl⟩
  mapCallee_exSetCar9 (by decide)

example : map cons 5 exStore [.ptr 7, .ptr 4] = .err .pair := rfl
example : ∃ s', forEach car 4 exStore [.ptr 9] = .ok (s', .void) := ⟨_, rfl⟩

end Marwood.Proofs.C14
