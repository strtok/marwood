import Marwood.Lemmas.ExpLex
/-!
# C16 — number->string and string->number are mutually inverse

T16.1 (exact numbers, radix 2/8/10/16) and T16.2 (finite doubles, radix 10) are about `Marwood.Num.Text` (number.rs
with the sign-and-magnitude radix printers of 19f8a5c, builtin/number.rs with the radix check of 5dd2160); T16.3 (a
source literal denotes what `string->number` gives its spelling) adds `Marwood.Lex` (lex.rs with c1c04ca) and
`Marwood.Parse`. Float text is abstract: `FloatText fo`.
-/
namespace Marwood.Proofs.C16
open Marwood

def isExact : Num → Bool
  | .flo _ => false
  | _ => true

def frac : Num → Int × Int
  | .fix n => (n, 1)
  | .big n => (n, 1)
  | .rat n d => (n, d)
  | .flo _ => (0, 0)

/-- cross-multiplication. A double has `frac = (0, 0)`, so this holds of every pair with a `.flo` in it: it says
something only beside `isExact`. -/
def SameValue (a b : Num) : Prop := (frac a).1 * (frac b).2 = (frac b).1 * (frac a).2

/-- the representation the reader chooses: `Number::parse` tries `i64` before `BigInt`; `parse_rational` drops a
denominator of one -/
def normalize : Num → Num
  | .big n => if inI64 n then .fix n else .big n
  | .rat n d => if d = 1 then .fix n else .rat n d
  | z => z

theorem normalize_exact (z : Num) (h : isExact z = true) :
    isExact (normalize z) = true ∧ SameValue (normalize z) z := by
  cases z with
  | fix n => exact ⟨rfl, rfl⟩
  | big n =>
    simp only [normalize]
    split <;> exact ⟨rfl, rfl⟩
  | rat n d =>
    simp only [normalize]
    split
    · rename_i hd; subst hd; exact ⟨rfl, by simp [SameValue, frac]⟩
    · exact ⟨rfl, rfl⟩
  | flo f => cases h

theorem inI64_iff (n : Int) : inI64 n = true ↔ -9223372036854775808 ≤ n ∧ n ≤ 9223372036854775807 := by
  simp only [inI64, Bool.and_eq_true, decide_eq_true_eq]
  unfold i64Min i64Max
  exact Iff.rfl

theorem inI32_iff (n : Int) : inI32 n = true ↔ -2147483648 ≤ n ∧ n ≤ 2147483647 := by
  simp only [inI32, Bool.and_eq_true, decide_eq_true_eq]
  unfold i32Min i32Max
  exact Iff.rfl

def Radix (r : Nat) : Prop := r = 2 ∨ r = 8 ∨ r = 10 ∨ r = 16

theorem Radix.bounds {r : Nat} (h : Radix r) : 2 ≤ r ∧ r ≤ 36 := by
  rcases h with rfl | rfl | rfl | rfl <;> omega

/-! ### T16.1 -/

/-- digits in radix `r` are inverse on ℕ, for every `n` and every radix 2..36 -/
theorem digits_roundtrip (r : Nat) (h2 : 2 ≤ r) (h36 : r ≤ 36) (n : Nat) :
    parseNat r (natDigits r n) = some n :=
  parseNat_natDigits h2 h36 n

/-- `i64::from_str_radix` / `i32::from_str_radix` read a printed integer back iff it is in range -/
theorem int_roundtrip_std (r : Nat) (h2 : 2 ≤ r) (h36 : r ≤ 36) (inR : Int → Bool) (n : Int) :
    parseIntStd inR r (intDigits r n) = if inR n then some n else none :=
  parseIntStd_intDigits h2 h36 inR n

/-- `BigInt::from_str_radix` reads every printed integer back -/
theorem int_roundtrip_big (r : Nat) (h2 : 2 ≤ r) (h36 : r ≤ 36) (n : Int) :
    parseBigInt r (intDigits r n) = some n :=
  parseBigInt_intDigits h2 h36 n

/-- what `number->string` prints for an exact number -/
def exactDigits (r : Nat) : Num → Text
  | .fix n => intDigits r n
  | .big n => intDigits r n
  | .rat n d => ratDigits r n d
  | .flo _ => []

theorem numberToString_exact (fo : FloatOps) (r : Nat) (hr : Radix r) (z : Num)
    (hz : isExact z = true) : numberToString fo r z = exactDigits r z := by
  unfold numberToString
  rcases hr with rfl | rfl | rfl | rfl <;> cases z <;> first | rfl | cases hz

theorem ratio_text_not_integer (r : Nat) (inR : Int → Bool) (a b : Text) :
    parseIntStd inR r (a ++ '/' :: b) = none ∧ parseBigInt r (a ++ '/' :: b) = none :=
  ⟨parseIntStd_fail inR r (toDigit_slash r) (by decide) (by decide) _ (by simp),
   parseBigInt_fail r (toDigit_slash r) (by decide) (by decide) (by decide) _ (by simp)⟩

theorem inI32_inI64 {n : Int} (h : inI32 n = true) : inI64 n = true := by
  rw [inI32_iff] at h
  rw [inI64_iff]
  omega

theorem ratioNew32_reduced {n d : Int} (hd : 1 ≤ d) (hd1 : d ≠ 1) (hg : Int.gcd n d = 1) :
    ratioNew32 n d = .ok (n, d) := by
  have hn0 : n ≠ 0 := by
    intro h; subst h
    rw [Int.gcd_zero_left] at hg
    omega
  have hnd : n ≠ d := by
    intro h; subst h
    rw [Int.gcd_self] at hg
    omega
  unfold ratioNew32
  simp only [hn0, hnd, if_false, hg]
  have h1 : n.tdiv ((1 : Nat) : Int) = n := by simp
  have h2 : d.tdiv ((1 : Nat) : Int) = d := by simp
  simp only [h1, h2]
  have : ¬ d < 0 := by omega
  simp [this]

/-- T16.1: reading what `number->string` printed for an exact number in radix 2, 8, 10 or 16 yields an exact number
    of the same value, in the representation the reader chooses -/
theorem exact_roundtrip (fo : FloatOps) (z : Num) (hwf : z.WF = true) (hex : isExact z = true)
    (r : Nat) (hr : Radix r) :
    parseNumber fo r (numberToString fo r z) = .ok (normalize z) ∧
      isExact (normalize z) = true ∧ SameValue (normalize z) z := by
  refine ⟨?_, normalize_exact z hex⟩
  obtain ⟨h2, h36⟩ := hr.bounds
  rw [numberToString_exact fo r hr z hex]
  have hrad : ¬ (r < 2 ∨ 36 < r) := by omega
  unfold parseNumber
  simp only [hrad, if_false]
  cases z with
  | flo f => cases hex
  | fix n =>
    have hn : inI64 n = true := hwf
    simp only [exactDigits, normalize]
    rw [parseIntStd_intDigits h2 h36, hn]
    simp
  | big n =>
    simp only [exactDigits, normalize]
    rw [parseIntStd_intDigits h2 h36]
    by_cases hn : inI64 n = true
    · simp [hn]
    · simp only [hn, Bool.false_eq_true, if_false]
      rw [parseBigInt_intDigits h2 h36]
  | rat n d =>
    simp only [Num.WF, Bool.and_eq_true, decide_eq_true_eq, beq_iff_eq] at hwf
    obtain ⟨⟨⟨hd, hn32⟩, hd32⟩, hg⟩ := hwf
    simp only [exactDigits, normalize, ratDigits]
    by_cases hd1 : d = 1
    · simp only [hd1, if_true]
      rw [parseIntStd_intDigits h2 h36, inI32_inI64 hn32]
      simp
    · simp only [hd1, if_false]
      obtain ⟨e1, e2⟩ := ratio_text_not_integer r inI64 (intDigits r n) (intDigits r d)
      rw [e1, e2]
      simp only
      -- `n/d` is no integer spelling; the ratio reader splits at `/`, reads both parts in `i32`, and `Ratio::new`
      -- leaves a reduced pair with `d > 1` as it is
      have hsplit := splitSlash_append (intDigits r n) (intDigits r d) (intDigits_no_slash h2 h36 n)
      have hr32 : parseRational32 r (intDigits r n ++ '/' :: intDigits r d) = .ok (n, d) := by
        unfold parseRational32
        rw [hsplit]
        simp only
        rw [parseIntStd_intDigits h2 h36, parseIntStd_intDigits h2 h36, hn32, hd32]
        simp only [if_true]
        have : ¬ (d < 0 ∧ (n = i32Min ∨ d = i32Min)) := by omega
        have hd0 : d ≠ 0 := by omega
        simp only [this, hd0, if_false]
        exact ratioNew32_reduced hd hd1 hg
      unfold parseRational
      simp only [hr32, hd1, if_false]

theorem stringToNumberProc_radix (fo : FloatOps) (s : Text) (r : Nat) (hr : 2 ≤ r ∧ r ≤ 36) :
    stringToNumberProc fo [.str s, .num (.fix r)] =
      match parseWithExactness fo s .unspecified r with
      | .ok n => .ok (.num n)
      | .err () => .ok (.bool false)
      | .panic m => .panic m := by
  have hp : popUsize (.num (.fix (r : Int))) = some r := by simp [popUsize]
  have hmod : r % 4294967296 = r := Nat.mod_eq_of_lt (by omega)
  have hrad : ¬ (r < 2 ∨ 36 < r) := by omega
  unfold stringToNumberProc
  simp only [hp, hmod, hrad, if_false]
  cases parseWithExactness fo s .unspecified r with
  | ok n => rfl
  | err e => cases e; rfl
  | panic m => rfl

theorem parseWithExactness_printed (fo : FloatOps) (z : Num) (hwf : z.WF = true)
    (hex : isExact z = true) (r : Nat) (hr : Radix r) :
    parseWithExactness fo (numberToString fo r z) .unspecified r = .ok (normalize z) := by
  unfold parseWithExactness
  rw [(exact_roundtrip fo z hwf hex r hr).1]

/-- T16.1 for the two procedures -/
theorem exact_roundtrip_proc (fo : FloatOps) (z : Num) (hwf : z.WF = true) (hex : isExact z = true)
    (r : Nat) (hr : Radix r) :
    ∃ s, numberToStringProc fo [.num z, .num (.fix r)] = .ok (.str s) ∧
      stringToNumberProc fo [.str s, .num (.fix r)] = .ok (.num (normalize z)) := by
  refine ⟨numberToString fo r z, by simp [numberToStringProc, popUsize], ?_⟩
  rw [stringToNumberProc_radix fo _ r hr.bounds, parseWithExactness_printed fo z hwf hex r hr]

/-- what is assumed (not proved) about Rust's `{}` / `{:e}` / `{:.1}` and `str::parse::<f64>` -/
structure FloatText (fo : FloatOps) : Prop where
  parse_print : ∀ f : F64, f.isFinite = true → fo.parseF64 10 (printNumber fo (.flo f)) = some f
  has_mark : ∀ f : F64, f.isFinite = true →
      '.' ∈ printNumber fo (.flo f) ∨ 'e' ∈ printNumber fo (.flo f)
  no_slash : ∀ f : F64, f.isFinite = true → ∀ c ∈ printNumber fo (.flo f), c ≠ '/'

/-- T16.2: a printed finite double contains `.` or `e` and no `/`, so it falls through the integer, big-integer and
    ratio readers to the float reader -/
theorem float_roundtrip (fo : FloatOps) (ht : FloatText fo) (f : F64) (hf : f.isFinite = true) :
    parseNumber fo 10 (numberToString fo 10 (.flo f)) = .ok (.flo f) := by
  rw [numberToString10]
  obtain ⟨c, hc, hdig, hp, hm, hu⟩ : ∃ c, c ∈ printNumber fo (.flo f) ∧ toDigit 10 c = none ∧
      c ≠ '+' ∧ c ≠ '-' ∧ c ≠ '_' := by
    rcases ht.has_mark f hf with h | h
    · exact ⟨'.', h, toDigit_dot 10, by decide, by decide, by decide⟩
    · exact ⟨'e', h, toDigit_e_10, by decide, by decide, by decide⟩
  unfold parseNumber
  simp only [show ¬ ((10 : Nat) < 2 ∨ 36 < (10 : Nat)) by omega, if_false]
  rw [parseIntStd_fail inI64 10 hdig hp hm _ hc, parseBigInt_fail 10 hdig hp hm hu _ hc]
  simp only
  have hsplit := splitSlash_none _ (ht.no_slash f hf)
  have : parseRational fo 10 (printNumber fo (.flo f)) = .err () := by
    unfold parseRational parseRational32
    simp only [hsplit]
  rw [this, ht.parse_print f hf]

theorem parseNumberTok_body (fo : FloatOps) (text : Text) (ex : Exactness) (r : Nat) (t : Token)
    (ts : List Token) (s : Text) (h1 : t.ty = .number ∨ t.ty = .symbol) (hs : tokSpan text t = .ok s) :
    parseNumberTok fo text ex r t ts =
      match parseWithExactness fo s ex r with
      | .ok n => .ok (.num n, ts)
      | .err () => .ok (.sym s, ts)
      | .panic m => .panic m := by
  have h1' : t.ty ≠ .numberPrefix := by rcases h1 with h | h <;> rw [h] <;> decide
  rw [parseNumberTok]
  simp only [h1', if_false]
  unfold numberFinal
  simp only [hs, h1, if_true]
  cases parseWithExactness fo s ex r with
  | ok n => rfl
  | err e => cases e; rfl
  | panic m => rfl

/-- `x`, the outcome of `parse_with_exactness`, is a variable so that callers state `hp` for the call at hand;
`generalizing := false` keeps the conclusion's `match` from abstracting `hp`. -/
theorem parseText_number {fo : FloatOps} {text s : Text} {ts : List Token} (x : Res Unit Num)
    (hscan : scan text = .ok ts)
    (hp : parseTokens fo text ts =
      match x with
      | .ok n => .ok (.num n, [])
      | .err () => .ok (.sym s, [])
      | .panic m => .panic m) :
    parseText fo text =
      match (generalizing := false) x with
      | .ok n => .ok (.num n, none)
      | .err () => .ok (.sym s, none)
      | .panic m => .panic m := by
  cases x with
  | ok n => exact ParseText.parseText_last fo hscan hp
  | err e => cases e; exact ParseText.parseText_last fo hscan hp
  | panic m => exact ParseText.parseText_panic fo hscan hp

/-- T16.3 at token level: behind a radix prefix token the parser makes, on the spelling, the call of
    `parse_with_exactness` that `string->number` makes -/
theorem literal_denotes (fo : FloatOps) (text : Text) (t0 t1 : Token) (rest : List Token)
    (sp s : Text) (r : Nat) (h0 : t0.ty = .numberPrefix) (hs0 : tokSpan text t0 = .ok sp)
    (hstep : prefixStep sp .unspecified 10 = some (.unspecified, r))
    (h1 : t1.ty = .number ∨ t1.ty = .symbol) (hs1 : tokSpan text t1 = .ok s)
    (hr : 2 ≤ r ∧ r ≤ 36) :
    (parseTokens fo text (t0 :: t1 :: rest) =
        match parseWithExactness fo s .unspecified r with
        | .ok n => .ok (.num n, rest)
        | .err () => .ok (.sym s, rest)
        | .panic m => .panic m) ∧
    (stringToNumberProc fo [.str s, .num (.fix r)] =
        match parseWithExactness fo s .unspecified r with
        | .ok n => .ok (.num n)
        | .err () => .ok (.bool false)
        | .panic m => .panic m) := by
  refine ⟨parseTokens_of_fuel fo text (f := 1) ?_, stringToNumberProc_radix fo s r hr⟩
  have hk : tokKind t0.ty = .atom := by rw [h0]; rfl
  rw [parseF]
  simp only [hk]
  congr 1
  unfold parseAtom
  simp only [h0]
  rw [parseNumberTok]
  simp only [h0, if_true, hs0, hstep]
  exact parseNumberTok_body fo text _ r t1 rest s h1 hs1

theorem parseTokens_prefixed (fo : FloatOps) {r : Nat} (hr : Radix r) (sp rest : Text) {ty : TokType}
    (hty : ty = .number ∨ ty = .symbol) (ts0 : List Token) :
    parseTokens fo ('#' :: radixLetter r :: (sp ++ rest))
        (⟨0, 2, .numberPrefix⟩ :: ⟨2, 2 + byteLen sp, ty⟩ :: ts0) =
      match parseWithExactness fo sp .unspecified r with
      | .ok n => .ok (.num n, ts0)
      | .err () => .ok (.sym sp, ts0)
      | .panic m => .panic m := by
  have hb : byteLen ['#', radixLetter r] = 2 := by
    rcases hr with rfl | rfl | rfl | rfl <;> decide
  have h0 : tokSpan ('#' :: radixLetter r :: (sp ++ rest)) ⟨0, 2, .numberPrefix⟩ =
      .ok ['#', radixLetter r] := by
    simpa [hb] using tokSpan_at [] ['#', radixLetter r] (sp ++ rest) .numberPrefix
  have h1 : tokSpan ('#' :: radixLetter r :: (sp ++ rest)) ⟨2, 2 + byteLen sp, ty⟩ = .ok sp := by
    simpa [hb] using tokSpan_at ['#', radixLetter r] sp rest ty
  exact (literal_denotes fo _ _ _ ts0 _ sp r rfl h0 (prefixStep_radixLetter hr .unspecified 10) hty h1
    hr.bounds).1

/-- T16.3 from the text: `#b… #o… #d… #x…` reads as what `parse_with_exactness` makes of the body in that radix; a
    body that is no number becomes a symbol, where `string->number` answers `#f` -/
theorem parseText_prefixed (fo : FloatOps) {r : Nat} (hr : Radix r) {sp : Text}
    (hs : ScansAs sp .number [] ∨ ScansAs sp .symbol []) :
    (parseText fo ('#' :: radixLetter r :: sp) =
        match parseWithExactness fo sp .unspecified r with
        | .ok n => .ok (.num n, none)
        | .err () => .ok (.sym sp, none)
        | .panic m => .panic m) ∧
    (stringToNumberProc fo [.str sp, .num (.fix r)] =
        match parseWithExactness fo sp .unspecified r with
        | .ok n => .ok (.num n)
        | .err () => .ok (.bool false)
        | .panic m => .panic m) := by
  obtain ⟨ty, hty, hsc⟩ : ∃ ty, (ty = .number ∨ ty = .symbol) ∧ ScansAs sp ty [] := by
    rcases hs with h | h
    · exact ⟨_, .inl rfl, h⟩
    · exact ⟨_, .inr rfl, h⟩
  have hp := parseTokens_prefixed fo hr sp [] hty []
  rw [List.append_nil] at hp
  exact ⟨parseText_number _ (scan_prefixed hr hsc) hp, stringToNumberProc_radix fo sp r hr.bounds⟩

/-- a number token, unless the radix is above ten and the first digit is one of `a`–`f` -/
theorem exactDigits_shape {r : Nat} (h2 : 2 ≤ r) (h16 : r ≤ 16) (z : Num) (hwf : z.WF = true)
    (hex : isExact z = true) :
    NumberShape (exactDigits r z) ∨ (10 < r ∧ identShape (exactDigits r z) = true) := by
  have int := fun n => by simpa [ratDigits] using ratDigits_tail h2 h16 n 1 (by omega)
  cases z with
  | fix n => exact int n
  | big n => exact int n
  | flo f => cases hex
  | rat n d =>
    simp only [Num.WF, Bool.and_eq_true, decide_eq_true_eq] at hwf
    exact ratDigits_tail h2 h16 n d hwf.1.1.1

/-- what `number->string` prints for a well-formed exact number in radix 2, 8, 10, 16 is, before the
    end of the text, a space or a closing parenthesis, one token of type `Number` (sign or decimal
    digit first) or `Symbol` (hex digit `a`–`f` first) -/
theorem exactDigits_one_token (r : Nat) (hr : Radix r) (z : Num) (hwf : z.WF = true)
    (hex : isExact z = true) (rest : Text) (hd : Delim rest) :
    ScansAs (exactDigits r z) .number rest ∨ ScansAs (exactDigits r z) .symbol rest :=
  scansAs_numTokShape ((exactDigits_shape hr.bounds.1 (by rcases hr with rfl | rfl | rfl | rfl <;> omega) z hwf
    hex).imp_right And.right) rest hd

/-- T16.3 for exact numbers: the printed form behind its prefix, read as source text, denotes the number
    `string->number` returns for it in that radix -/
theorem literal_exact (fo : FloatOps) (z : Num) (hwf : z.WF = true) (hex : isExact z = true)
    (r : Nat) (hr : Radix r) :
    parseText fo ('#' :: radixLetter r :: numberToString fo r z) = .ok (.num (normalize z), none) ∧
    stringToNumberProc fo [.str (numberToString fo r z), .num (.fix r)] = .ok (.num (normalize z)) ∧
    isExact (normalize z) = true ∧ SameValue (normalize z) z := by
  have hs := exactDigits_one_token r hr z hwf hex [] trivial
  rw [← numberToString_exact fo r hr z hex] at hs
  obtain ⟨h1, h2⟩ := parseText_prefixed fo hr hs
  rw [parseWithExactness_printed fo z hwf hex r hr] at h1 h2
  exact ⟨h1, h2, (exact_roundtrip fo z hwf hex r hr).2⟩

/-- … and inside a program, before a delimiter and any further text -/
theorem literal_exact_in_context (fo : FloatOps) (z : Num) (hwf : z.WF = true) (hex : isExact z = true)
    (r : Nat) (hr : Radix r) (rest : Text) (hd : Delim rest) (ts0 : List Token)
    (hrest : ScanTo (2 + byteLen (numberToString fo r z)) rest ts0) :
    ∃ t0 t1, scan ('#' :: radixLetter r :: (numberToString fo r z ++ rest)) = .ok (t0 :: t1 :: ts0) ∧
      parseTokens fo ('#' :: radixLetter r :: (numberToString fo r z ++ rest)) (t0 :: t1 :: ts0) =
        .ok (.num (normalize z), ts0) := by
  have hs := exactDigits_one_token r hr z hwf hex rest hd
  rw [← numberToString_exact fo r hr z hex] at hs
  obtain ⟨ty, hty, hsc⟩ : ∃ ty, (ty = .number ∨ ty = .symbol) ∧
      ScansAs (numberToString fo r z) ty rest := by
    rcases hs with h | h
    · exact ⟨_, .inl rfl, h⟩
    · exact ⟨_, .inr rfl, h⟩
  refine ⟨_, _, scan_prefixed_then hr hsc hrest, ?_⟩
  rw [parseTokens_prefixed fo hr _ rest hty ts0, parseWithExactness_printed fo z hwf hex r hr]

/-- T16.3 for finite doubles (`#d`), under `FloatText` and the shape of the printed double; a spelling with a sign
    inside, as `1e-7`, is outside `NumberShape` -/
theorem literal_float (fo : FloatOps) (ht : FloatText fo) (f : F64) (hf : f.isFinite = true)
    (hshape : NumberShape (numberToString fo 10 (.flo f))) :
    parseText fo ('#' :: 'd' :: numberToString fo 10 (.flo f)) = .ok (.num (.flo f), none) ∧
    stringToNumberProc fo [.str (numberToString fo 10 (.flo f)), .num (.fix 10)] = .ok (.num (.flo f)) := by
  have hr : Radix 10 := .inr (.inr (.inl rfl))
  have hpw : parseWithExactness fo (numberToString fo 10 (.flo f)) .unspecified 10 = .ok (.flo f) := by
    unfold parseWithExactness
    rw [float_roundtrip fo ht f hf]
  obtain ⟨h1, h2⟩ := parseText_prefixed fo hr (.inl (scansAs_numberShape hshape [] trivial))
  rw [hpw] at h1 h2
  exact ⟨h1, h2⟩


/-- finding `C16-negative-radix-twos-complement`: the `Fixnum` arm of the radix printer before 19f8a5c
    (`printFixRadixPinned`) prints a negative fixnum as the digits of `n + 2^64`, which the reader makes a different,
    positive number -/
theorem pinned_twos_complement_not_inverse (fo : FloatOps) (n : Int) (hn : inI64 n = true)
    (hneg : n < 0) (r : Nat) (h2 : 2 ≤ r) (h36 : r ≤ 36) :
    parseNumber fo r (printFixRadixPinned r n) = .ok (.big (n + 18446744073709551616)) ∧
      ¬ SameValue (.big (n + 18446744073709551616)) (.fix n) := by
  rw [inI64_iff] at hn
  constructor
  · have hm : 0 ≤ n + 18446744073709551616 := by omega
    have e : printFixRadixPinned r n = intDigits r (n + 18446744073709551616) := by
      unfold printFixRadixPinned intDigits
      simp only [hneg, if_true, show ¬ (n + 18446744073709551616 < 0) by omega, if_false]
      congr 1
      omega
    rw [e]
    unfold parseNumber
    simp only [show ¬ (r < 2 ∨ 36 < r) by omega, if_false]
    rw [parseIntStd_intDigits h2 h36]
    have : inI64 (n + 18446744073709551616) = false := by
      cases hx : inI64 (n + 18446744073709551616) with
      | false => rfl
      | true => rw [inI64_iff] at hx; omega
    simp only [this, Bool.false_eq_true, if_false]
    rw [parseBigInt_intDigits h2 h36]
  · simp only [SameValue, frac]
    omega

def noFloats : FloatOps where
  parseF64 _ _ := none
  bigRatToF64 _ _ := ⟨0⟩
  toExact _ := none
  toInexact _ := ⟨0⟩
  fmtExp _ := []
  fmtFix1 _ := []
  fmtShort _ := []
  fmtRadix _ _ := []

example : parseNumber noFloats 2 (numberToString noFloats 2 (.fix (-5))) = .ok (.fix (-5)) :=
  (exact_roundtrip noFloats (.fix (-5)) (by decide) rfl 2 (.inl rfl)).1

example : parseNumber noFloats 16 (numberToString noFloats 16 (.rat (-2147483648) 3)) =
    .ok (.rat (-2147483648) 3) :=
  (exact_roundtrip noFloats (.rat (-2147483648) 3) (by decide) rfl 16 (.inr (.inr (.inr rfl)))).1

example : parseNumber noFloats 8 (numberToString noFloats 8 (.big 7)) = .ok (.fix 7) :=
  (exact_roundtrip noFloats (.big 7) (by decide) rfl 8 (.inr (.inl rfl))).1

example : (parseNumber noFloats 2 (printFixRadixPinned 2 (-5))) = .ok (.big 18446744073709551611) :=
  (pinned_twos_complement_not_inverse noFloats (-5) (by decide) (by decide) 2 (by decide) (by decide)).1

-- T16.3 instantiated, not evaluated (`natDigits` is by well-founded recursion and does not reduce in the kernel):
-- `#x-ff`; `#xff`, whose body is a `Symbol` token; `#b-101/11`; `#o7` from a bignum
example := literal_exact noFloats (.fix (-255)) (by decide) rfl 16 (.inr (.inr (.inr rfl)))
example := literal_exact noFloats (.fix 255) (by decide) rfl 16 (.inr (.inr (.inr rfl)))
example := literal_exact noFloats (.rat (-5) 3) (by decide) rfl 2 (.inl rfl)
example := literal_exact noFloats (.big 7) (by decide) rfl 8 (.inr (.inl rfl))
-- `(… #x-ff)`: the literal followed by a closing parenthesis
example := literal_exact_in_context noFloats (.fix (-255)) (by decide) rfl 16 (.inr (.inr (.inr rfl)))
  [')'] (.inr rfl) _ (ScanTo.tok (scansAs_rparen []) (ScanTo.nil _))

/-- a toy float text satisfying `FloatText`: `.` followed by the decimal digits of the bit pattern -/
def toyFloats : FloatOps where
  parseF64 _ s := match s with
    | '.' :: ds => (parseNat 10 ds).map fun b => ⟨b⟩
    | _ => none
  bigRatToF64 _ _ := ⟨0⟩
  toExact _ := none
  toInexact _ := ⟨0⟩
  fmtExp f := '.' :: natDigits 10 f.bits
  fmtFix1 f := '.' :: natDigits 10 f.bits
  fmtShort f := '.' :: natDigits 10 f.bits
  fmtRadix _ _ := []

theorem toy_print (f : F64) : printNumber toyFloats (.flo f) = '.' :: natDigits 10 f.bits := by
  show (if f.gt1e10 then _ else if f.isInteger then _ else _) = _
  split
  · rfl
  · split <;> rfl

example : FloatText toyFloats where
  parse_print f _ := by
    rw [toy_print]
    show (parseNat 10 (natDigits 10 f.bits)).map (fun b => (⟨b⟩ : F64)) = some f
    rw [parseNat_natDigits (by omega) (by omega)]
    rfl
  has_mark f _ := by rw [toy_print]; exact .inl (by simp)
  no_slash f _ := by
    rw [toy_print]
    intro c hc
    rcases List.mem_cons.mp hc with rfl | hc
    · decide
    · obtain ⟨d, hd, rfl⟩ := natDigits_chars (by omega) _ c hc
      exact (digitChar_plain d (by omega)).2.2.2.1

/-- `0.` followed by the digits: has the shape `literal_float` asks for as well -/
def toyFloats2 : FloatOps where
  parseF64 _ s := match s with
    | '0' :: '.' :: ds => (parseNat 10 ds).map fun b => ⟨b⟩
    | _ => none
  bigRatToF64 _ _ := ⟨0⟩
  toExact _ := none
  toInexact _ := ⟨0⟩
  fmtExp f := '0' :: '.' :: natDigits 10 f.bits
  fmtFix1 f := '0' :: '.' :: natDigits 10 f.bits
  fmtShort f := '0' :: '.' :: natDigits 10 f.bits
  fmtRadix _ _ := []

theorem toy2_print (f : F64) : printNumber toyFloats2 (.flo f) = '0' :: '.' :: natDigits 10 f.bits := by
  show (if f.gt1e10 then _ else if f.isInteger then _ else _) = _
  split
  · rfl
  · split <;> rfl

theorem toy2_floatText : FloatText toyFloats2 where
  parse_print f _ := by
    rw [toy2_print]
    show (parseNat 10 (natDigits 10 f.bits)).map (fun b => (⟨b⟩ : F64)) = some f
    rw [parseNat_natDigits (by omega) (by omega)]
    rfl
  has_mark f _ := by rw [toy2_print]; exact .inl (by simp)
  no_slash f _ := by
    rw [toy2_print]
    intro c hc
    rcases List.mem_cons.mp hc with rfl | hc
    · decide
    rcases List.mem_cons.mp hc with rfl | hc
    · decide
    · obtain ⟨d, hd, rfl⟩ := natDigits_chars (by omega) _ c hc
      exact (digitChar_plain d (by omega)).2.2.2.1

theorem toy2_shape (f : F64) : NumberShape (numberToString toyFloats2 10 (.flo f)) := by
  rw [numberToString10, toy2_print]
  refine ⟨'0', _, rfl, by decide, ?_⟩
  intro x hx
  rcases List.mem_cons.mp hx with rfl | hx
  · decide
  · exact natDigits10_subsequent _ x hx

example := literal_float toyFloats2 toy2_floatText ⟨0x3FE0000000000000⟩ (by decide) (toy2_shape _)

/-! ## T16.3 for unprefixed decimals with a signed exponent

`string->number` accepts `1e-7`, `2.5E+3`, `.5e-1`; the printer never writes such a spelling, so the theorems above say
nothing of them. In lex.rs with c1c04ca the sign directly after the exponent marker of a decimal mantissa belongs to
the number token; before it `1e-7` is a symbol and `.5e-1` two data (finding `C16-signed-exponent-literal`, witnesses
`signed_exponent_was_symbol`, `leading_dot_exponent_was_two_tokens`). -/

def decBody (b : Text) : Bool :=
  b.all (fun x => isAsciiDigit x || x == '.') && decide (b.count '.' ≤ 1) && b.any isAsciiDigit

/-- an optional sign, then `decBody`: `1`, `2.5`, `.5`, `1.`, `-2.5`, `+.5` -/
def decMantissa : Text → Bool
  | [] => false
  | c :: b => if c == '+' || c == '-' then decBody b else decBody (c :: b)

theorem decBody_chars {b : Text} (h : decBody b = true) : ∀ x ∈ b, isAsciiDigit x = true ∨ x = '.' := by
  intro x hx
  simp only [decBody, Bool.and_eq_true, List.all_eq_true, Bool.or_eq_true, beq_iff_eq] at h
  exact h.1.1 x hx

theorem decBody_count {b : Text} (h : decBody b = true) : b.count '.' ≤ 1 := by
  simp only [decBody, Bool.and_eq_true, decide_eq_true_eq] at h
  exact h.1.2

theorem decBody_digit {b : Text} (h : decBody b = true) : b.any isAsciiDigit = true := by
  simp only [decBody, Bool.and_eq_true] at h
  exact h.2

/-- mantissa, marker, sign, digits, before anything that ends a number token, are one `Number` token (`d` may be
empty: `1e-` too, which the parser then makes a symbol) -/
theorem signed_exponent_is_number_token (m d rest : Text) (e s : Char)
    (hm : decMantissa m = true) (he : e = 'e' ∨ e = 'E') (hs : s = '+' ∨ s = '-')
    (hd : ∀ x ∈ d, isAsciiDigit x = true) (hst : Stop rest) :
    ScansAs (m ++ e :: s :: d) .number rest := by
  cases m with
  | nil => cases hm
  | cons c b =>
    refine ⟨c, b ++ e :: s :: d, rfl, ?_⟩
    have hassoc : (b ++ e :: s :: d) ++ rest = b ++ e :: s :: (d ++ rest) := by simp
    rw [hassoc]
    simp only [decMantissa] at hm
    -- the `scan_number` arm: first character a sign or a digit
    have viaNumber : ∀ (hc : NumStart c) (hb : ∀ x ∈ b, isAsciiDigit x = true ∨ x = '.')
        (hdg : (isAsciiDigit c || b.any isAsciiDigit) = true),
        scanPiece c (b ++ e :: s :: (d ++ rest)) = .tok (c :: (b ++ e :: s :: d)) .number rest := by
      intro hc hb hdg
      rw [scanPiece_numStart hc, numberTail_signedExp b d rest e s _ false hb hdg he hs hd hst]
      rfl
    by_cases hsg : (c == '+' || c == '-') = true
    · simp only [hsg, if_true] at hm
      have hc : NumStart c := by
        simp only [Bool.or_eq_true, beq_iff_eq] at hsg
        rcases hsg with rfl | rfl <;> decide
      exact viaNumber hc (decBody_chars hm) (by simp [decBody_digit hm])
    · simp only [hsg] at hm
      have hcb := decBody_chars hm
      rcases hcb c (by simp) with hdig | hdot
      · exact viaNumber (digit_numStart hdig) (fun x hx => hcb x (by simp [hx])) (by simp [hdig])
      · -- the `scan_dot` arm: `.` then at least one digit, no further dot
        subst hdot
        have hcount := decBody_count hm
        have hany := decBody_digit hm
        have hnodot : ∀ x ∈ b, x ≠ '.' := by
          intro x hx hxe
          subst hxe
          have : 0 < b.count '.' := List.count_pos_iff.mpr hx
          simp only [List.count_cons_self] at hcount
          omega
        have hbd : ∀ x ∈ b, isAsciiDigit x = true := by
          intro x hx
          rcases hcb x (by simp [hx]) with h | h
          · exact h
          · exact absurd h (hnodot x hx)
        have hne : b ≠ [] := by
          rintro rfl
          simp at hany
          exact absurd hany (by decide)
        obtain ⟨x, b', rfl⟩ := List.exists_cons_of_ne_nil hne
        have hx1 : isSubsequentNumber x = true := (digit_facts (hbd x (by simp))).1
        simp only [scanPiece_dot, scanDot, List.cons_append, hx1, if_true]
        have := dotNumberTail_signedExp (x :: b') d rest e s false false hbd (by simp) he hs hd hst
        simp only [List.cons_append] at this
        simp only [this]
        rfl

/-- … hence one token spanning it, wherever it stands in a text (`pos` = byte offset of its first
character, `ts` = the tokens of what follows) -/
theorem signed_exponent_in_context (m d rest : Text) (e s : Char) (pos : Nat) (ts : List Token)
    (hm : decMantissa m = true) (he : e = 'e' ∨ e = 'E') (hs : s = '+' ∨ s = '-')
    (hd : ∀ x ∈ d, isAsciiDigit x = true) (hst : Stop rest)
    (hrest : ScanTo (pos + byteLen (m ++ e :: s :: d)) rest ts) :
    ScanTo pos ((m ++ e :: s :: d) ++ rest)
      (⟨pos, pos + byteLen (m ++ e :: s :: d), .number⟩ :: ts) :=
  ScanTo.tok (signed_exponent_is_number_token m d rest e s hm he hs hd hst) hrest

/-- … and alone it is the whole token list of the text -/
theorem signed_exponent_scan (m d : Text) (e s : Char)
    (hm : decMantissa m = true) (he : e = 'e' ∨ e = 'E') (hs : s = '+' ∨ s = '-')
    (hd : ∀ x ∈ d, isAsciiDigit x = true) :
    scan (m ++ e :: s :: d) = .ok [⟨0, byteLen (m ++ e :: s :: d), .number⟩] := by
  have h := signed_exponent_in_context m d [] e s 0 [] hm he hs hd trivial (ScanTo.nil _)
  simp only [List.append_nil, Nat.zero_add] at h
  exact scan_of_scanTo h

/-- T16.3 for this family: the source literal denotes what `(string->number "<the spelling>")` gives; where that is
`#f` the reader falls back to the symbol -/
theorem signed_exponent_literal_denotes (fo : FloatOps) (m d : Text) (e s : Char)
    (hm : decMantissa m = true) (he : e = 'e' ∨ e = 'E') (hs : s = '+' ∨ s = '-')
    (hd : ∀ x ∈ d, isAsciiDigit x = true) :
    (parseText fo (m ++ e :: s :: d) =
        match parseWithExactness fo (m ++ e :: s :: d) .unspecified 10 with
        | .ok n => .ok (.num n, none)
        | .err () => .ok (.sym (m ++ e :: s :: d), none)
        | .panic msg => .panic msg) ∧
    (stringToNumberProc fo [.str (m ++ e :: s :: d)] =
        match parseWithExactness fo (m ++ e :: s :: d) .unspecified 10 with
        | .ok n => .ok (.num n)
        | .err () => .ok (.bool false)
        | .panic msg => .panic msg) := by
  generalize hsp : m ++ e :: s :: d = sp
  have hscan : scan sp = .ok [⟨0, byteLen sp, .number⟩] := by
    rw [← hsp]; exact signed_exponent_scan m d e s hm he hs hd
  have hspan : tokSpan sp ⟨0, byteLen sp, .number⟩ = .ok sp := by
    simpa using tokSpan_at [] sp [] .number
  constructor
  · refine parseText_number _ hscan (parseTokens_of_fuel fo sp (f := 1) ?_)
    rw [parseF]
    simp only [show tokKind TokType.number = .atom from rfl]
    congr 1
    exact parseNumberTok_body fo sp .unspecified 10 _ [] sp (.inl rfl) hspan
  · unfold stringToNumberProc
    simp only [show ¬ ((10 : Nat) < 2 ∨ 36 < 10) by omega, if_false]
    cases parseWithExactness fo sp .unspecified 10 with
    | ok n => rfl
    | err e => cases e; rfl
    | panic msg => rfl

/-- the number arm before c1c04ca (`scanNumberPinned`) makes one `Symbol` token of the same text: the sign is an
identifier character, not a number character -/
theorem signed_exponent_was_symbol (c : Char) (b d rest : Text) (e s : Char)
    (hb : ∀ x ∈ b, isAsciiDigit x = true ∨ x = '.') (he : e = 'e' ∨ e = 'E') (hs : s = '+' ∨ s = '-')
    (hd : ∀ x ∈ d, isAsciiDigit x = true) (hrest : Delim rest) :
    scanNumberPinned c ((b ++ e :: s :: d) ++ rest) = .tok (c :: (b ++ e :: s :: d)) .symbol rest := by
  have hs1 : isSubsequentNumber s = false := by rcases hs with rfl | rfl <;> decide
  have hs2 : contChar s = true := by rcases hs with rfl | rfl <;> decide
  have hall : ∀ x ∈ b ++ e :: s :: d, contChar x = true := by
    intro x hx
    simp only [List.mem_append, List.mem_cons] at hx
    rcases hx with hx | rfl | rfl | hx
    · rcases hb x hx with h | rfl
      · simp [contChar, (digit_facts h).1]
      · decide
    · rcases he with rfl | rfl <;> decide
    · exact hs2
    · simp [contChar, (digit_facts (hd x hx)).1]
  have hany : (b ++ e :: s :: d).any (fun x => !isSubsequentNumber x) = true := by
    simp [hs1]
  simp only [scanNumberPinned, numberTailPinned_cont _ rest hall hrest, hany, if_true]

/-- `scan_dot` before c1c04ca ends the token of `.5e-1` at the sign and leaves `-1` as a second datum; with it the
text is one `Number` token -/
theorem leading_dot_exponent_was_two_tokens :
    scanDotPinned '.' "5e-1".toList = .tok ".5e".toList .number "-1".toList ∧
    scanDot '.' "5e-1".toList = .tok ".5e-1".toList .number [] := ⟨rfl, rfl⟩

example : scan "1e-7".toList = .ok [⟨0, 4, .number⟩] :=
  signed_exponent_scan "1".toList "7".toList 'e' '-' (by decide) (.inl rfl) (.inr rfl) (by decide)
example : scan ".5e-1".toList = .ok [⟨0, 5, .number⟩] :=
  signed_exponent_scan ".5".toList "1".toList 'e' '-' (by decide) (.inl rfl) (.inr rfl) (by decide)
example : scan "-2.5E+3".toList = .ok [⟨0, 7, .number⟩] :=
  signed_exponent_scan "-2.5".toList "3".toList 'E' '+' (by decide) (.inr rfl) (.inl rfl) (by decide)
example : scan "(f 1e-7 'x)".toList = .ok [⟨0, 1, .leftParen⟩, ⟨1, 2, .symbol⟩, ⟨3, 7, .number⟩,
    ⟨8, 9, .singleQuote⟩, ⟨9, 10, .symbol⟩, ⟨10, 11, .rightParen⟩] := by decide +kernel
example : scanNumberPinned '1' "e-7".toList = .tok "1e-7".toList .symbol [] :=
  signed_exponent_was_symbol '1' [] "7".toList [] 'e' '-' (by simp) (.inl rfl) (.inr rfl) (by decide) trivial
example : scanNumberPinned '-' "2.5E+3 x".toList = .tok "-2.5E+3".toList .symbol " x".toList :=
  signed_exponent_was_symbol '-' "2.5".toList "3".toList " x".toList 'E' '+' (by decide) (.inr rfl) (.inl rfl)
    (by decide) (.inl rfl)
/-- near misses keep their type: the sign must follow the marker of a *decimal mantissa* directly -/
example : scan "1e--7 1ee-7 1e-7x 1/2e-3 +e-1".toList = .ok [⟨0, 5, .symbol⟩, ⟨6, 11, .symbol⟩, ⟨12, 17, .symbol⟩,
    ⟨18, 24, .symbol⟩, ⟨25, 29, .symbol⟩] := by decide +kernel

end Marwood.Proofs.C16
