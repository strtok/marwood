import Marwood.Lemmas.SimErase
import Marwood.Lemmas.SimAlloc
import Marwood.Lemmas.HeapWF
/-!
# Heap simulation: a collection is absorbed (`cgc_sim`, the `gc_left` clause of T03.5 / T13.3)

`Sim φ s t → ∃ ψ ⊆ φ, Sim ψ (cgc s) t`: the collector (the C03 model `Heap.runGc`, run on the erasure) keeps every cell
reachable from the roots allocated and unchanged (T03.2, `runGc_spec`) and leaves a well-formed heap (T03.3, `runGc_wf`);
`φ` is restricted to the reachable addresses. No register changes (`cgc_regs`).
-/
namespace Marwood.Lemmas.Sim
open Marwood Marwood.Vm Marwood.Vm.Concrete Marwood.Spec
open Marwood.Heap (GcState vrefs vrefsList bcRefs crefs WFHeap RootsOk Roots)
open Marwood.Lemmas.GcSafety Marwood.Lemmas.HeapWF Marwood.Lemmas.GcMark
open Classical

theorem toHeap_cells_get (h : CHeap) (i : Nat) : (toHeap h).cells[i]? = (h.cells[i]?).map eraseC := by
  simp [toHeap]

theorem toHeap_children (h : CHeap) (x : Nat) :
    (toHeap h).children true x = match h.cells[x]? with
      | some c => crefs true (eraseC c)
      | none => [] := by
  unfold Heap.Heap.children
  rw [toHeap_cells_get]
  cases h.cells[x]? <;> rfl

theorem HInv.of_wf {h : CHeap} (wf : WFHeap true (toHeap h)) : HInv h :=
  ⟨by have := wf.sizes; simpa [toHeap] using this, by have := wf.shape; simpa [toHeap] using this,
   wf.free_iff, wf.nodup, wf.no_used⟩

theorem mem_refs_syms {r : Roots} {x} (h : x ∈ r.globalSyms) : x ∈ r.refs true := by
  simp [Roots.refs, h]

theorem mem_refs_slot {r : Roots} {x} (h : Heap.VCell.ptr x ∈ r.globalSlots) : x ∈ r.refs true := by
  have : x ∈ r.globalSlots.filterMap Heap.VCell.asPtr? :=
    List.mem_filterMap.mpr ⟨_, h, rfl⟩
  simp [Roots.refs, this]

theorem mem_refs_stack {r : Roots} {x} (h : x ∈ vrefsList true r.stack) : x ∈ r.refs true := by
  simp [Roots.refs, h]

theorem mem_refs_acc {r : Roots} {x} (h : x ∈ vrefs true r.acc) : x ∈ r.refs true := by
  simp [Roots.refs, h]

theorem Sim.restrict {φ : Inj} {s t : St CHeap} (h : Sim φ s t) (pl : Plain s.heap) (D : Nat → Prop)
    (hroot : ∀ x ∈ (rootsOf s).refs true, x < s.heap.cells.size → D x)
    (hstep : ∀ a c x, D a → s.heap.cells[a]? = some c → x ∈ crefs true (eraseC c) →
      x < s.heap.cells.size → D x) :
    Sim (restr φ D) s t ∧ ∀ a b, restr φ D a = some b → D a := by
  have hdom : ∀ x b, φ x = some b → x < s.heap.cells.size := fun x b hx => (h.heap.dom_lt hx).1
  have hD : ∀ a b, restr φ D a = some b → D a ∧ φ a = some b := by
    intro a b hab
    unfold restr at hab
    split at hab
    · exact ⟨by assumption, hab⟩
    · cases hab
  refine ⟨⟨⟨?_, ?_, ?_, ?_, h.heap.inv, h.heap.inv'⟩, ?_, ?_, ?_, ?_, h.ipO, h.bp⟩, fun a b hab => (hD a b hab).1⟩
  · intro a a' b h1 h2
    exact h.heap.inj a a' b (hD _ _ h1).2 (hD _ _ h2).2
  · intro a b hab
    obtain ⟨da, hab'⟩ := hD a b hab
    obtain ⟨c, c', e1, e2, r, f1, f2⟩ := h.heap.cells a b hab'
    refine ⟨c, c', e1, e2, r.restrict ?_ ?_, f1, f2⟩
    · intro v hv; subst hv; exact pl.cells a v e1
    · intro x hx b' hb'; exact hstep a c x da e1 hx (hdom x b' hb')
  · -- globals: only pointer-valued slots are roots; the others mention no address (`Plain`)
    have hg := h.heap.globals
    have hpl := pl.globals
    have hsl : ∀ x, VCell.ptr x ∈ s.heap.globals.toList → ∀ b, φ x = some b → D x := by
      intro x hx b hb
      refine hroot x (mem_refs_slot ?_) (hdom x b hb)
      simp only [rootsOf]
      exact List.mem_map.mpr ⟨_, hx, rfl⟩
    generalize s.heap.globals.toList = l at hg hpl hsl
    generalize t.heap.globals.toList = l' at hg
    induction hg with
    | nil => exact .nil
    | cons h1 _ ih =>
      refine .cons ?_ (ih (fun v hv => hpl v (List.mem_cons_of_mem _ hv))
        (fun x hx => hsl x (List.mem_cons_of_mem _ hx)))
      have hp := hpl _ (List.mem_cons_self ..)
      cases h1 with
      | ptr h1 => exact .ptr (h1.restrict (fun b hb => hsl _ (List.mem_cons_self ..) b hb))
      | atom h1 => exact .atom h1
      | pair _ _ => simp [plainGlob, isPtr, addrFree] at hp
      | closure _ _ => simp [plainGlob, isPtr, addrFree] at hp
      | lexEnvPtr _ => simp [plainGlob, isPtr, addrFree] at hp
      | envPtr _ => simp [plainGlob, isPtr, addrFree] at hp
      | instrPtr _ => simp [plainGlob, isPtr, addrFree] at hp
  · have hg := h.heap.globSyms
    have hsy : ∀ x ∈ s.heap.globSyms, ∀ b, φ x = some b → D x := by
      intro x hx b hb
      exact hroot x (mem_refs_syms (by simpa [rootsOf] using hx)) (hdom x b hb)
    generalize s.heap.globSyms = l at hg hsy
    generalize t.heap.globSyms = l' at hg
    induction hg with
    | nil => exact .nil
    | cons h1 _ ih =>
      exact .cons (h1.restrict (hsy _ (List.mem_cons_self ..)))
        (ih (fun x hx => hsy x (List.mem_cons_of_mem _ hx)))
  · refine StackRelK.restrict h.stack ?_
    intro x hx b hb
    exact hroot x (mem_refs_stack (by simpa [rootsOf] using hx)) (hdom x b hb)
  · refine h.acc.restrict ?_
    intro x hx b hb
    exact hroot x (mem_refs_acc (by simpa [rootsOf] using hx)) (hdom x b hb)
  · refine h.ep.restrict ?_
    intro b hb
    exact hroot _ (by simp [Roots.refs, rootsOf]) (hdom _ b hb)
  · refine h.ipL.restrict ?_
    intro b hb
    exact hroot _ (by simp [Roots.refs, rootsOf]) (hdom _ b hb)

theorem Sim.transfer_left {φ : Inj} {s t : St CHeap} (h : Sim φ s t) (hp : CHeap)
    (hcells : ∀ a b, φ a = some b → hp.cells[a]? = s.heap.cells[a]? ∧ a ∉ hp.free)
    (hg : hp.globals = s.heap.globals) (hs : hp.globSyms = s.heap.globSyms) (inv : HInv hp) :
    Sim φ { s with heap := hp } t := by
  refine ⟨⟨h.heap.inj, ?_, by rw [hg]; exact h.heap.globals, by rw [hs]; exact h.heap.globSyms, inv, h.heap.inv'⟩,
    h.stack, h.acc, h.ep, h.ipL, h.ipO, h.bp⟩
  intro a b hab
  obtain ⟨c, c', e1, e2, r, _, f2⟩ := h.heap.cells a b hab
  obtain ⟨k1, k2⟩ := hcells a b hab
  exact ⟨c, c', by show hp.cells[a]? = some c; rw [k1]; exact e1, e2, r, k2, f2⟩

/-- one-sided: `GcTransparent` (Proofs/C13.lean) asks for `gc_left` only. `wf`, `hr` are T03.3's invariant. -/
theorem cgc_sim (force : Bool) {φ : Inj} {s t : St CHeap} (h : Sim φ s t) (pl : Plain s.heap)
    (wf : WFHeap true (toHeap s.heap)) (hr : RootsOk (toHeap s.heap) ((rootsOf s).refs true))
    (hb : SizeOk (cgc force s).heap) :
    ∃ ψ, ψ.le φ ∧ Sim ψ (cgc force s) t := by
  unfold cgc at hb ⊢
  cases hrun : Heap.Heap.runGc true force (toHeap s.heap) (rootsOf s) with
  | error e => exact ⟨φ, φ.le_refl, by simpa [hrun] using h⟩
  | ok res =>
    cases res with
    | skipped _ => exact ⟨φ, φ.le_refl, by simpa [hrun] using h⟩
    | fuelExhausted => exact ⟨φ, φ.le_refl, by simpa [hrun] using h⟩
    | collected h' =>
      simp only [hrun] at hb ⊢
      have hb' : h'.cells.size ≤ 2 ^ 63 := by simpa [SizeOk, liftGc] using hb
      have wf' := runGc_wf true force _ _ h' wf hr hb' hrun
      have gs := runGc_spec true force _ _ h' wf.sizes wf.no_used wf.shape hrun
      let D : Nat → Prop := Reachable true (toHeap s.heap) ((rootsOf s).refs true)
      have hsize : (toHeap s.heap).gc.size = s.heap.cells.size := by
        rw [wf.sizes]; simp [toHeap]
      obtain ⟨hsim, hdom⟩ := h.restrict pl D
        (fun x hx hl => Reach.root hx (by rw [hsize]; exact hl))
        (fun a c x da e hx hl => Reach.step da (by rw [toHeap_children, e]; exact hx) (by rw [hsize]; exact hl))
      refine ⟨restr φ D, restr_le φ D, ?_⟩
      refine hsim.transfer_left (liftGc s.heap h') ?_ rfl rfl ?_
      · intro a b hab
        have da : D a := hdom a b hab
        have hga := gs.gc_reach a da
        have hlt : a < s.heap.cells.size := by rw [← hsize]; exact reach_lt _ da
        have hlt' : a < h'.cells.size := by
          have := gs.size_le; simp [toHeap] at this; omega
        constructor
        · simp only [liftGc]
          rw [Array.getElem?_ofFn]
          simp [hlt', hga, hlt]
        · intro hm
          have := (wf'.free_iff a).mp (by simpa [liftGc] using hm)
          rw [hga] at this; cases this
      · refine ⟨?_, ?_, ?_, ?_, ?_⟩
        · simp [liftGc, wf'.sizes]
        · have hc : h'.chunk = s.heap.chunk := gs.chunk
          have := wf'.shape
          rw [hc] at this
          simpa [liftGc] using this
        · simpa [liftGc] using wf'.free_iff
        · simpa [liftGc] using wf'.nodup
        · simpa [liftGc] using wf'.no_used

end Marwood.Lemmas.Sim

namespace Marwood.Vm.Concrete
open Marwood.Heap (GcState)

theorem liftGc_cell (h : CHeap) (h' : Heap.Heap) (i : Nat) :
    (liftGc h h').cells[i]? =
      if i < h'.cells.size then
        some (if h'.gc[i]? = some GcState.free then CCell.val .undefined
              else (h.cells[i]?).getD (CCell.val .undefined))
      else none := by
  simp only [liftGc]
  rw [Array.getElem?_ofFn]
  split <;> rfl

end Marwood.Vm.Concrete
