import Marwood.Lemmas.EvalExtraSteps
/-!
# The simulation: the first-order primitives that take no fuel from the store size
-/
namespace Marwood.Spec.Eval.Extra
open Marwood Marwood.Spec.Eval Marwood.Spec.Eval.ExtraJ

variable {f : LMap} {G : List Text} {E : EnvCorr f G} {GL : GlCorr f G E} {J : Junk} {δ : Side}

theorem intArgs_rel {args args' : List Val} (ha : VsRelG f G E args args') : intArgs args' = intArgs args := by
  induction ha with
  | nil => rfl
  | cons hv _ ih => cases hv <;> simp only [intArgs, ih]

theorem simG_boolV (b : Bool) : SimG f G E GL J δ (VRelG f G E) (boolV b) (boolV b) := SimG.pure _ _ (.bool b)

theorem simG_listTailWalk : ∀ (k : Nat) {l l' : Val}, VRelG f G E l l' → SimG f G E GL J δ (VRelG f G E) (listTailWalk k l) (listTailWalk k l')
  | 0, _, _, hl => SimG.pure _ _ hl
  | k+1, _, _, hl => by
    simp only [listTailWalk]
    refine SimG.bind (simG_readPair hl) (fun p p' hp => ?_)
    exact simG_listTailWalk k hp.2

-- keep the unifier from unfolding the monad operations when a closing lemma does not apply
attribute [local irreducible] M.bind' M.pure'

/-- closes the goals of the numeric primitives once both sides compute on the same integers -/
local macro "simG_leaf" : tactic => `(tactic| (
  repeat' (first
    | exact SimG.throw _
    | exact simG_boolV _
    | (refine SimG.pure _ _ ?_; first | assumption | constructor)
    | split)))

theorem simG_primNum (p : Prim) {args args' : List Val} (ha : VsRelG f G E args args') :
    SimG f G E GL J δ (VRelG f G E) (primNum p args) (primNum p args') := by
  have hi := intArgs_rel ha
  cases p
  case add | mul => simp only [primNum, hi]; simG_leaf
  case sub | numEq | lt | gt | le | ge | min | max =>
    cases ha with
    | nil => exact SimG.throw _
    | cons h1 ht => simp only [primNum, hi]; simG_leaf
  case zeroP | abs =>
    rcases ha with _ | ⟨h1, _ | ⟨h2, ht⟩⟩ <;> first | exact SimG.throw _ | skip
    all_goals cases h1 <;> first | exact SimG.throw _ | exact simG_boolV _ | exact SimG.pure _ _ (.int _)
  -- the other primitives fall through to the last alternative of `primNum`, by computation
  all_goals exact SimG.throw _

theorem VRelG.beq_nil {v v' : Val} (h : VRelG f G E v v') : (v' == Val.nil) = (v == Val.nil) := by
  cases h <;> rfl

/-- every primitive of the pair group except those that walk a list with store-size fuel -/
def pairNoFuel (p : Prim) : Bool :=
  match p with
  | .length | .append | .reverse | .listP | .memv | .memq | .assv | .assq => false
  | _ => true

set_option hygiene false in
/-- split the shape of both argument lists: 0, 1, 2, 3, ≥ 4 arguments -/
local macro "shapes" : tactic => `(tactic| rcases ha with _ | ⟨h1, _ | ⟨h2, _ | ⟨h3, _ | ⟨h4, ht⟩⟩⟩⟩)

local macro "simG_rp" : tactic => `(tactic| (
  refine SimG.bind (simG_readPair (by assumption)) ?_
  rintro ⟨_, _⟩ ⟨_, _⟩ ⟨_, _⟩
  dsimp only))

theorem simG_arity1 {g : List Val → M Val} (h0 : g [] = throw .arity) (h2 : ∀ a b t, g (a :: b :: t) = throw .arity)
    (h1 : ∀ {v v'}, VRelG f G E v v' → SimG f G E GL J δ (VRelG f G E) (g [v]) (g [v'])) {args args' : List Val} (ha : VsRelG f G E args args') :
    SimG f G E GL J δ (VRelG f G E) (g args) (g args') := by
  rcases ha with _ | ⟨hv, _ | ⟨hw, ht⟩⟩
  · rw [h0]; exact SimG.throw _
  · exact h1 hv
  · rw [h2, h2]; exact SimG.throw _

theorem simG_arity2 {g : List Val → M Val} (h0 : g [] = throw .arity) (h1 : ∀ a, g [a] = throw .arity)
    (h3 : ∀ a b c t, g (a :: b :: c :: t) = throw .arity)
    (h2 : ∀ {a a' b b'}, VRelG f G E a a' → VRelG f G E b b' → SimG f G E GL J δ (VRelG f G E) (g [a, b]) (g [a', b']))
    {args args' : List Val} (ha : VsRelG f G E args args') : SimG f G E GL J δ (VRelG f G E) (g args) (g args') := by
  rcases ha with _ | ⟨hv, _ | ⟨hw, _ | ⟨hx, ht⟩⟩⟩
  · rw [h0]; exact SimG.throw _
  · rw [h1, h1]; exact SimG.throw _
  · exact h2 hv hw
  · rw [h3, h3]; exact SimG.throw _

theorem simG_setCar (hf : Inj f) {l : Loc} {v v' : Val} (hv : VRelG f G E v v') :
    SimG f G E GL J δ (VRelG f G E) (primPair .setCar [.pair l, v]) (primPair .setCar [.pair (f l), v']) := by
  simp only [primPair]
  refine SimG.bind (simG_readCell rfl) (fun c c' hc => ?_)
  cases hc with
  | pair ha hd => exact SimG.bind (simG_writeCell hf rfl (.pair hv hd)) (fun _ _ _ => SimG.pure _ _ .void)
  | _ => exact SimG.throw _

theorem simG_setCdr (hf : Inj f) {l : Loc} {v v' : Val} (hv : VRelG f G E v v') :
    SimG f G E GL J δ (VRelG f G E) (primPair .setCdr [.pair l, v]) (primPair .setCdr [.pair (f l), v']) := by
  simp only [primPair]
  refine SimG.bind (simG_readCell rfl) (fun c c' hc => ?_)
  cases hc with
  | pair ha hd => exact SimG.bind (simG_writeCell hf rfl (.pair ha hv)) (fun _ _ _ => SimG.pure _ _ .void)
  | _ => exact SimG.throw _

theorem simG_primPair (hf : Inj f) (p : Prim) (hp : pairNoFuel p = true) {args args' : List Val} (ha : VsRelG f G E args args') :
    SimG f G E GL J δ (VRelG f G E) (primPair p args) (primPair p args') := by
  cases p
  case length | append | reverse | listP | memv | memq | assv | assq => cases hp
  case list => simp only [primPair]; exact simG_allocList ha
  case car | cdr =>
    refine simG_arity1 rfl (fun _ _ _ => rfl) (fun h1 => ?_) ha
    simp only [primPair]
    simG_rp; exact SimG.pure _ _ (by assumption)
  case cadr | cddr | caar | cdar =>
    refine simG_arity1 rfl (fun _ _ _ => rfl) (fun h1 => ?_) ha
    simp only [primPair]
    simG_rp; simG_rp; exact SimG.pure _ _ (by assumption)
  case cons => exact simG_arity2 rfl (fun _ => rfl) (fun _ _ _ _ => rfl) (fun h1 h2 => simG_cons h1 h2) ha
  case nullP =>
    refine simG_arity1 rfl (fun _ _ _ => rfl) (fun h1 => ?_) ha
    show SimG f G E GL J δ (VRelG f G E) (boolV _) (boolV _)
    rw [h1.beq_nil]; exact simG_boolV _
  case pairP =>
    exact simG_arity1 rfl (fun _ _ _ => rfl) (fun h1 => by cases h1 <;> exact simG_boolV _) ha
  case setCar =>
    refine simG_arity2 rfl (fun a => by cases a <;> rfl) (fun a _ _ _ => by cases a <;> rfl) (fun h1 h2 => ?_) ha
    cases h1 with
    | pair l => exact simG_setCar hf h2
    | _ => exact SimG.throw _
  case setCdr =>
    refine simG_arity2 rfl (fun a => by cases a <;> rfl) (fun a _ _ _ => by cases a <;> rfl) (fun h1 h2 => ?_) ha
    cases h1 with
    | pair l => exact simG_setCdr hf h2
    | _ => exact SimG.throw _
  case listTail =>
    refine simG_arity2 rfl (fun _ => rfl) (fun _ b _ _ => by cases b <;> rfl) (fun h1 h2 => ?_) ha
    cases h2 <;> first | exact SimG.throw _ | skip
    simp only [primPair]
    split
    · exact SimG.throw _
    · exact simG_listTailWalk _ h1
  all_goals exact SimG.throw _

set_option hygiene false in
local macro "simG_rv" : tactic => `(tactic| (
  refine SimG.bind (simG_readVec (by assumption)) ?_
  rintro ⟨l, xs⟩ ⟨l', xs'⟩ ⟨hl, hx⟩
  dsimp only at hl hx ⊢))

theorem simG_primVec (hf : Inj f) (p : Prim) (hp : p ≠ .listToVector) {args args' : List Val} (ha : VsRelG f G E args args') :
    SimG f G E GL J δ (VRelG f G E) (primVec p args) (primVec p args') := by
  cases p
  case listToVector => exact absurd rfl hp
  case vector => simp only [primVec]; exact simG_allocVec ha
  case makeVector =>
    refine simG_arity2 rfl (fun a => by cases a <;> rfl) (fun a _ _ _ => by cases a <;> rfl) (fun h1 h2 => ?_) ha
    cases h1 <;> first | exact SimG.throw _ | skip
    simp only [primVec]
    split
    · exact SimG.throw _
    · exact simG_allocVec (VsRelG.replicate _ h2)
  case vectorRef =>
    refine simG_arity2 rfl (fun _ => rfl) (fun _ b _ _ => by cases b <;> rfl) (fun h1 h2 => ?_) ha
    cases h2 <;> first | exact SimG.throw _ | skip
    rename_i i
    simp only [primVec]
    simG_rv
    split
    · exact SimG.throw _
    · have hg := hx.getElem? i.toNat
      revert hg
      generalize xs[i.toNat]? = o
      generalize xs'[i.toNat]? = o'
      intro hg
      cases o <;> cases o' <;> simp only at hg <;> first | exact SimG.throw _ | exact SimG.pure _ _ hg | exact hg.elim
  case vectorSet =>
    shapes <;> first | exact SimG.throw _ | skip
    all_goals cases h2 <;> first | exact SimG.throw _ | skip
    simp only [primVec]
    simG_rv
    rw [hx.length_eq]
    split
    · exact SimG.throw _
    · exact SimG.bind (simG_writeCell hf hl (.vec (hx.set _ h3))) (fun _ _ _ => SimG.pure _ _ .void)
  case vectorLength =>
    refine simG_arity1 rfl (fun _ _ _ => rfl) (fun h1 => ?_) ha
    simp only [primVec]
    simG_rv
    rw [hx.length_eq]; exact SimG.pure _ _ (.int _)
  case vectorToList =>
    refine simG_arity1 rfl (fun _ _ _ => rfl) (fun h1 => ?_) ha
    simp only [primVec]
    simG_rv
    exact simG_allocList hx
  all_goals exact SimG.throw _

theorem simG_primPred (hf : Inj f) (p : Prim) (hp : p ≠ .equalP) {args args' : List Val} (ha : VsRelG f G E args args') :
    SimG f G E GL J δ (VRelG f G E) (primPred p args) (primPred p args') := by
  cases p
  case equalP => exact absurd rfl hp
  case eqP | eqvP =>
    refine simG_arity2 rfl (fun _ => rfl) (fun _ _ _ _ => rfl) (fun h1 h2 => ?_) ha
    show SimG f G E GL J δ (VRelG f G E) (boolV _) (boolV _)
    rw [VRelG.eqv hf h1 h2]; exact simG_boolV _
  case not =>
    refine simG_arity1 rfl (fun _ _ _ => rfl) (fun h1 => ?_) ha
    show SimG f G E GL J δ (VRelG f G E) (boolV _) (boolV _)
    rw [h1.truthy]; exact simG_boolV _
  case vectorP | symbolP | stringP | charP | integerP | numberP | booleanP | procedureP =>
    exact simG_arity1 rfl (fun _ _ _ => rfl) (fun h1 => by cases h1 <;> exact simG_boolV _) ha
  case stringLength | charToInteger =>
    exact simG_arity1 rfl (fun a _ _ => by cases a <;> rfl)
      (fun h1 => by cases h1 <;> first | exact SimG.throw _ | exact SimG.pure _ _ (.int _)) ha
  case stringEq =>
    refine simG_arity2 rfl (fun a => by cases a <;> rfl) (fun a b _ _ => by cases a <;> first | rfl | (cases b <;> rfl))
      (fun h1 h2 => ?_) ha
    cases h1 with
    | str a => cases h2 <;> first | exact SimG.throw _ | exact simG_boolV _
    | _ => exact SimG.throw _
  case charEq =>
    refine simG_arity2 rfl (fun a => by cases a <;> rfl) (fun a b _ _ => by cases a <;> first | rfl | (cases b <;> rfl))
      (fun h1 h2 => ?_) ha
    cases h1 with
    | char a => cases h2 <;> first | exact SimG.throw _ | exact simG_boolV _
    | _ => exact SimG.throw _
  all_goals exact SimG.throw _

theorem simG_primMisc_error {args args' : List Val} : SimG f G E GL J δ (VRelG f G E) (primMisc .error args) (primMisc .error args') := by
  simp only [primMisc]; exact SimG.throw _

end Marwood.Spec.Eval.Extra
