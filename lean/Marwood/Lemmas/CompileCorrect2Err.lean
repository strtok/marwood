import Marwood.Lemmas.CompileCorrectRun
import Marwood.Lemmas.CompileCorrectSpec
import Marwood.Lemmas.CompileCorrectShape
/-!
# T01.3 stage 1, the error case; the simulation stated for every result of the specification

When `Spec.Eval` ends a fragment expression with an error, the run of the compiled code reaches a state whose next
`run_one` returns `Err(..)` of the corresponding class (`EClass`: the granularity of the differential correspondence),
and the heap of that state represents the specification state at the failure (`ErrRun`).

Excluded: specification errors of class `syntax` (inexact / rational constants, which the machine loads without
complaint), and `set!` of an unbound global (the specification fails, marwood defines the variable: DESIGN §7.5) —
the latter through the hypothesis of `Fails1` that every `set!` target of the expression is bound in the failure state.
-/
namespace Marwood.Lemmas.CompileCorrect
open Marwood Marwood.Vm
open Marwood.Spec.Eval (Val Prim Cell ErrClass Res evalN evalStep applyStep evalArgs properList quoteVal kwOf insertG
  k_quote k_if_ k_setBang k_define)

variable {H : Type} {ops : HeapOps H}

inductive EClass | unbound | notProcedure | user | wrong
deriving DecidableEq, Repr

def specClass : ErrClass → EClass
  | .unbound => .unbound
  | .notProcedure => .notProcedure
  | .user => .user
  | _ => .wrong

/-- a builtin's error carries the name of the Rust `Error` variant; only `ErrorSignal` (raised by the procedure
    `error`) has a class of its own -/
def machClass : Err → EClass
  | .variableNotBound => .unbound
  | .invalidProcedure => .notProcedure
  | .builtin cls => if cls = "ErrorSignal" then .user else .wrong
  | _ => .wrong

/-- `b` still has the live part of `a`, possibly with operands pushed on top: the error path does not unwind (cf. C07) -/
def StackExt (a b : Stack) : Prop := a.sp ≤ b.sp ∧ ∀ i, i ≤ a.sp → a.cells[i]? = b.cells[i]?

theorem StackExt.refl (a : Stack) : StackExt a a := ⟨Nat.le_refl _, fun _ _ => rfl⟩

theorem StackExt.trans {a b c : Stack} (h1 : StackExt a b) (h2 : StackExt b c) : StackExt a c :=
  ⟨Nat.le_trans h1.1 h2.1, fun i hi => (h1.2 i hi).trans (h2.2 i (Nat.le_trans hi h1.1))⟩

theorem LiveEq.ext {a b : Stack} (h : LiveEq a b) : StackExt a b := ⟨Nat.le_of_eq h.1, h.2⟩

theorem StackExt.push (a : Stack) (v : VCell) (ha : SWF a) : StackExt a (a.push v) :=
  ⟨by simp, fun i hi => (push_below a v ha i hi).symm⟩

theorem StackExt.pushAll (a : Stack) (vs : List VCell) (ha : SWF a) : StackExt a (pushAll a vs) := by
  induction vs generalizing a with
  | nil => exact StackExt.refl _
  | cons v vs ih => exact (StackExt.push a v ha).trans (ih _ (push_swf a v))

/-- `run_one` in `sf` returns `e'`, of the class of the specification's error `c`; `σ'` is the specification state at
    the failure (completed effects, nothing else) -/
structure ErrRun (D : RepData ops) (s : MSt H) (σ σ' : SSt) (c : ErrClass) (sf : MSt H) (e' : Err) : Prop where
  steps : Steps ops s sf
  fails : step ops sf = .err e'
  cls : machClass e' = specClass c
  ipL : sf.ipL = s.ipL
  bp : sf.bp = s.bp
  ep : sf.ep = s.ep
  stack : StackExt s.stack sf.stack
  swf : SWF sf.stack
  sr : SR D sf.heap σ'
  ev : Evolves D s.ipL s.heap σ.store sf.heap σ'.store

theorem ErrRun.prepend {D : RepData ops} {s s1 sf : MSt H} {σ σ1 σ' : SSt} {c : ErrClass} {e' : Err}
    (hst : Steps ops s s1) (hl : s1.ipL = s.ipL) (hb : s1.bp = s.bp) (he : s1.ep = s.ep)
    (hs : StackExt s.stack s1.stack) (hev : Evolves D s.ipL s.heap σ.store s1.heap σ1.store)
    (r : ErrRun D s1 σ1 σ' c sf e') : ErrRun D s σ σ' c sf e' :=
  ⟨hst.trans r.steps, r.fails, r.cls, r.ipL.trans hl, r.bp.trans hb, r.ep.trans he, hs.trans r.stack, r.swf,
   r.sr, hev.trans (hl ▸ r.ev)⟩

structure ErrLaws (D : RepData ops) : Prop where
  /-- ASSUMED of `CALL`/`TCALL` when the specification's `apply` fails on a represented callee: the machine sees no
      procedure (`InvalidProcedure`), or a generic builtin whose evaluation fails with the same class; the heap
      (a failing builtin leaves it unchanged in the machine model) represents the failure state -/
  call_err : ∀ n h (σ : SSt) vf f vs ws c (σ' : SSt) l, SR D h σ → D.VR h σ.store vf f →
    All2 (D.VR h σ.store) vs ws → (evalN n).apply f ws σ = .err c σ' → c ≠ .syntax →
    SR D h σ' ∧ Evolves D l h σ.store h σ'.store ∧
    ((ops.callee h vf = .other ∧ specClass c = .notProcedure) ∨
     ∃ id e', ops.callee h vf = .builtin id ∧ ops.builtinKind h id = .generic ∧
       builtinResult ops h id vs.reverse = .err e' ∧ machClass e' = specClass c)

def setHead : Datum → Datum → List Text
  | .sym k, .pair (.sym x) _ => if k = k_setBang then [x] else []
  | _, _ => []

/-- over-approximation: `(set! x …)` inside quoted data counts -/
def setTargets : Datum → List Text
  | .pair a d => setHead a d ++ setTargets a ++ setTargets d
  | _ => []

theorem setTargets_car {a d : Datum} {x : Text} (h : x ∈ setTargets a) : x ∈ setTargets (.pair a d) := by
  rw [setTargets]; exact List.mem_append_left _ (List.mem_append_right _ h)

theorem setTargets_cdr {a d : Datum} {x : Text} (h : x ∈ setTargets d) : x ∈ setTargets (.pair a d) := by
  rw [setTargets]; exact List.mem_append_right _ h

theorem setTargets_setBang (x : Text) (e : Datum) :
    x ∈ setTargets (.pair (.sym k_setBang) (.pair (.sym x) (.pair e .nil))) := by
  rw [setTargets]; simp [setHead]

theorem step_mov_glob_unbound {s : MSt H} {n : Nat} (hl : ops.isLambda s.heap s.ipL = true)
    (h0 : ops.fetch s.heap s.ipL s.ipO = some (.opcode .mov))
    (h1 : ops.fetch s.heap s.ipL (s.ipO + 1) = some (.globSlot n))
    (hb : ops.globGet s.heap n = .undefined) :
    step ops s = .err .variableNotBound := by
  rw [step_read (readOpcode_eq hl h0), execOp]
  simp only [loadOperand]
  rw [readOperand_run (s := { s with ipO := s.ipO + 1 }) hl h1 (by intro o h; cases h)]
  simp only [outcome_bind_ok, hb]
  rfl

theorem step_call_other {s : MSt H} {tail : Bool} (hl : ops.isLambda s.heap s.ipL = true)
    (h0 : ops.fetch s.heap s.ipL s.ipO = some (.opcode (if tail = true then .tcallAcc else .callAcc)))
    (hc : ops.callee s.heap s.acc = .other) :
    step ops s = .err .invalidProcedure := by
  cases tail
  · rw [step_call hl h0, stepCall_other (s := { s with ipO := s.ipO + 1 }) hc]; rfl
  · rw [step_tcall hl h0, stepTCall_other (s := { s with ipO := s.ipO + 1 }) hc]; rfl

theorem runBuiltin_generic_err {s : MSt H} {id : Nat} {st0 : Stack} {vs : List VCell} {e' : Err}
    (hk : ops.builtinKind s.heap id = .generic)
    (hst : LiveEq ((pushAll st0 vs).push (.argc vs.length)) s.stack) (hw0 : SWF st0) (hw : SWF s.stack)
    (hr : builtinResult ops s.heap id vs.reverse = .err e') :
    runBuiltin ops id s = .err e' := by
  obtain ⟨hpop, hl1⟩ := pop_of_push hst (pushAll_swf st0 vs hw0)
  obtain ⟨st', hpn, _, _⟩ := popN_pushAll vs hl1 hw0 (pop_swf hw)
  unfold runBuiltin
  simp only [hk, builtinGeneric, hpop, outcome_bind_ok, asArgc, hpn]
  unfold builtinResult at hr
  cases hb : ops.builtinEval s.heap id vs.reverse with
  | err e => rw [hb] at hr; cases hr; rfl
  | panic m => rw [hb] at hr; cases hr
  | ok p =>
    obtain ⟨h1, v⟩ := p
    rw [hb] at hr
    cases v <;> simp only at hr <;> cases hr

theorem step_call_builtin_err {s : MSt H} {tail : Bool} {id : Nat} {st0 : Stack} {vs : List VCell} {e' : Err}
    (hl : ops.isLambda s.heap s.ipL = true)
    (h0 : ops.fetch s.heap s.ipL s.ipO = some (.opcode (if tail = true then .tcallAcc else .callAcc)))
    (hc : ops.callee s.heap s.acc = .builtin id)
    (hk : ops.builtinKind s.heap id = .generic)
    (hst : LiveEq ((pushAll st0 vs).push (.argc vs.length)) s.stack) (hw0 : SWF st0) (hw : SWF s.stack)
    (hr : builtinResult ops s.heap id vs.reverse = .err e') :
    step ops s = .err e' := by
  have hrb := runBuiltin_generic_err (s := { s with ipO := s.ipO + 1 }) hk hst hw0 hw hr
  cases tail
  · rw [step_call hl h0, stepCall_builtin (s := { s with ipO := s.ipO + 1 }) hc, hrb]; rfl
  · rw [step_tcall hl h0, stepTCall_builtin (s := { s with ipO := s.ipO + 1 }) hc, hrb]; rfl

/-- `ts`: the `set!` targets, to be bound in the failure state `σ'` -/
def Fails1 (D : RepData ops) (ts : List Text) (s : MSt H) (σ : SSt) (c : ErrClass) (σ' : SSt) : Prop :=
  ErrLaws D → c ≠ .syntax → (∀ x ∈ ts, σ'.globals.lookup x ≠ none) → ∃ sf e', ErrRun D s σ σ' c sf e'

def Out1 (D : RepData ops) (ts : List Text) (s : MSt H) (len : Nat) (σ : SSt) : Res Val → Prop
  | .ok w σ' => ∃ s', ExprRun D s len σ σ' w s'
  | .err c σ' => Fails1 D ts s σ c σ'
  | .timeout => True

def ArgsOut1 (D : RepData ops) (ts : List Text) (s : MSt H) (len : Nat) (σ : SSt) (k : Nat) : Res (List Val) → Prop
  | .ok ws σ' => ∃ s' vs, ArgsRun D s len σ σ' ws vs s' ∧ k = vs.length
  | .err c σ' => Fails1 D ts s σ c σ'
  | .timeout => True

def ExprRes1 (D : RepData ops) (fuel : Nat) : Prop :=
  ∀ cst base tail e cst' code, Frag e → compileExpr fuel cst c0 base tail e = .ok (cst', code) →
  ∀ n (σ : SSt) (s : MSt H), CodeAt D s.heap σ.store s.ipL base code → s.ipO = base → SR D s.heap σ → SWF s.stack →
  Out1 D (setTargets e) s code.length σ ((evalN n).eval e [] σ)

def ArgsRes1 (D : RepData ops) (fuel : Nat) : Prop :=
  ∀ cst base rest cst' code k, FragList rest → compileArgs fuel cst c0 base rest = .ok (cst', code, k) →
  ∀ n (σ : SSt) es, properList rest = some es →
  ∀ s : MSt H, CodeAt D s.heap σ.store s.ipL base code → s.ipO = base → SR D s.heap σ → SWF s.stack →
  ArgsOut1 D (setTargets rest) s code.length σ k (evalArgs (evalN n) [] es σ)

variable {D : RepData ops}

theorem Fails1.prepend {ts ts' : List Text} {s s1 : MSt H} {σ σ1 σ' : SSt} {c : ErrClass}
    (hts : ∀ x ∈ ts', x ∈ ts) (hst : Steps ops s s1) (hl : s1.ipL = s.ipL) (hb : s1.bp = s.bp) (he : s1.ep = s.ep)
    (hs : StackExt s.stack s1.stack) (hev : Evolves D s.ipL s.heap σ.store s1.heap σ1.store)
    (f : Fails1 D ts' s1 σ1 c σ') : Fails1 D ts s σ c σ' := fun LE hc hset =>
  let ⟨sf, e', r⟩ := f LE hc fun x hx => hset x (hts x hx)
  ⟨sf, e', r.prepend hst hl hb he hs hev⟩

theorem Fails1.mono {ts ts' : List Text} {s : MSt H} {σ σ' : SSt} {c : ErrClass} (hts : ∀ x ∈ ts', x ∈ ts)
    (f : Fails1 D ts' s σ c σ') : Fails1 D ts s σ c σ' :=
  f.prepend hts (.refl _) rfl rfl rfl (StackExt.refl _) (Evolves.refl _ _ _)

end Marwood.Lemmas.CompileCorrect
