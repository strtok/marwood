import Marwood.Lemmas.TransformSelect
import Marwood.Lemmas.TransformTryNew
/-!
# What `Transform::try_new` accepts has well-formed patterns (`wfPattern`)

`check_pattern_support` gives proper, vector-free lists; on such lists `Pattern::build` gives "no list
starts with the ellipsis, at most one ellipsis per list": `okS`.
-/
namespace Marwood.Transform
open Marwood Marwood.Spec.Match

mutual
def properP : Datum → Bool
  | .pair a d => properP a && properS d
  | .vec _ => false
  | _ => true
def properS : Datum → Bool
  | .pair a d => properP a && properS d
  | .nil => true
  | _ => false
end

theorem properS_of (d : Datum) (h1 : endsInNil d = true) (h2 : ∀ it ∈ iterList d, properP it = true) :
    properS d = true := by
  induction d with
  | pair a d _ ihd =>
    simp only [endsInNil] at h1
    simp only [properS, Bool.and_eq_true]
    exact ⟨h2 a (by simp [iterList]), ihd h1 (fun it hit => h2 it (by simp [iterList, hit]))⟩
  | nil => rfl
  | _ => simp [endsInNil] at h1

theorem properS_endsInNil : ∀ {d : Datum}, properS d = true → endsInNil d = true := by
  intro d
  induction d with
  | pair a d _ ihd => intro h; simp only [properS, Bool.and_eq_true] at h; simp only [endsInNil]; exact ihd h.2
  | nil => intro _; rfl
  | _ => intro h; simp [properS] at h

theorem isImproper_false_endsInNil {a d : Datum} (h : isImproperList (.pair a d) = false) :
    endsInNil (.pair a d) = true := by
  simpa [isImproperList, endsInNil] using h

theorem cpsLoop_proper (ell : Datum) : ∀ (f : Nat) (inEll : Bool) (items : List Datum),
    cpsLoop ell f inEll items = .ok () → ∀ it ∈ items, properP it = true := by
  intro f
  induction f with
  | zero => intro inEll items h; simp [cpsLoop] at h
  | succ f ih =>
    intro inEll items h
    cases items with
    | nil => intro it hit; cases hit
    | cons x rest =>
      unfold cpsLoop at h
      simp only at h
      split at h
      · cases h
      · split at h
        · rename_i hsub
          have hrest := ih _ _ h
          intro it hit
          simp only [List.mem_cons] at hit
          rcases hit with rfl | hit
          · cases it with
            | vec v => simp at hsub
            | pair a d =>
              simp only at hsub
              split at hsub
              · cases hsub
              · rename_i himp
                have hall := ih _ _ hsub
                have hnil := isImproper_false_endsInNil (by simpa using himp)
                have := properS_of (.pair a d) hnil hall
                simpa [properP, properS] using this
            | _ => rfl
          · exact hrest it hit
        all_goals cases h

theorem checkPatternSupport_proper {f : Nat} {kw body ell : Datum}
    (h : checkPatternSupport f (.pair kw body) ell false = .ok ()) : properS body = true := by
  unfold checkPatternSupport at h
  simp only at h
  split at h
  · cases h
  · rename_i himp
    have hall := cpsLoop_proper ell f false _ h
    have hnil := isImproper_false_endsInNil (by simpa using himp)
    have := properS_of (.pair kw body) hnil hall
    simp only [properS, Bool.and_eq_true] at this
    exact this.2

theorem properS_iter {d : Datum} (hs : properS d = true) :
    Datum.ofList (iterList d) = d ∧ ∀ it ∈ iterList d, properP it = true := by
  refine ⟨(endsInNil_ofList (properS_endsInNil hs)).symm, ?_⟩
  induction d with
  | pair a d _ ihd =>
    simp only [properS, Bool.and_eq_true] at hs
    intro it hit
    simp only [iterList, List.mem_cons] at hit
    rcases hit with rfl | hit
    · exact hs.1
    · exact ihd hs.2 it hit
  | nil => intro it hit; simp [iterList] at hit
  | _ => simp [properS] at hs

theorem properP_iter {a d : Datum} (h : properP (.pair a d) = true) :
    Datum.ofList (iterList (.pair a d)) = .pair a d ∧ ∀ it ∈ iterList (.pair a d), properP it = true :=
  properS_iter (by simpa [properP, properS] using h)

theorem buildLoop_place (es : Text) : ∀ (f : Nat) (imp : Bool) (len idx : Nat) (items : List Datum)
    (ct : Nat) (p p' : Pattern), p.ellipsis = .sym es → (∀ it ∈ items, properP it = true) →
    buildLoop f imp len idx items ct p = .ok p' →
    okS es (decide (ct = 0)) (Datum.ofList items) = true ∧ (idx = 0 → peekIs (.sym es) items = false) := by
  intro f
  induction f with
  | zero => intro imp len idx items ct p p' _ _ h; simp [buildLoop] at h
  | succ f ih =>
    intro imp len idx items ct p p' hell hprop h
    cases items with
    | nil => exact ⟨by simp [Datum.ofList, okS], fun _ => rfl⟩
    | cons it rest =>
      have hprest : ∀ x ∈ rest, properP x = true := fun x hx => hprop x (List.mem_cons_of_mem _ hx)
      -- an element other than the ellipsis, itself in place, before a rest in place
      have key : ∀ (p1 : Pattern), it ≠ .sym es → okP es it = true → Pres p p1 →
          buildLoop f imp len (idx + 1) rest ct p1 = .ok p' →
          okS es (decide (ct = 0)) (Datum.ofList (it :: rest)) = true ∧
            (idx = 0 → peekIs (.sym es) (it :: rest) = false) := by
        intro p1 hne hpl hp1 hb
        have := ih _ _ _ _ _ _ _ (hp1.ell.trans hell) hprest hb
        refine ⟨?_, fun _ => by simpa [peekIs] using hne⟩
        rw [okS_cons_ne hne, hpl, this.1]; rfl
      rcases buildLoop_cons h with ⟨_, hE, hidx, hct, hb⟩ | ⟨hs, hE, p1, p2, hp1, he, hb⟩ |
        ⟨hpair, p1, p2, he, hn, hb⟩ | ⟨hs, hpair, hb⟩
      · -- the ellipsis itself
        have hit : it = .sym es := by simpa [Pattern.isEllipsis, hell] using hE
        subst hit hct
        have := ih _ _ _ _ _ _ _ hell hprest hb
        refine ⟨?_, fun h0 => absurd h0 hidx⟩
        rw [okS_cons_ell]
        simpa using this.1
      · have hne : it ≠ .sym es := by
          intro hit; rw [hit] at hE; simp [Pattern.isEllipsis, hell] at hE
        have hp1' : Pres p p1 := by rcases hp1 with ⟨_, _, rfl⟩ | ⟨_, _, rfl⟩ <;> exact ⟨rfl, rfl, rfl⟩
        refine key p2 hne ?_ (hp1'.trans he.pres) hb
        cases it with
        | sym x => simpa [okP] using hne
        | _ => cases hs
      · cases it with
        | pair a d =>
          have hpit : properP (.pair a d) = true := hprop _ (by simp)
          obtain ⟨hiteq, hitel⟩ := properP_iter hpit
          have hnest := ih _ _ _ _ _ _ _ (he.pres.ell.trans hell) hitel hn
          have hane : a ≠ .sym es := by
            have := hnest.2 rfl
            intro ha
            simp [iterList, peekIs, ha] at this
          refine key p2 (by simp) ?_ (he.pres.trans (buildLoop_pres _ _ _ _ _ _ _ _ hn)) hb
          have h1 := hnest.1
          rw [hiteq] at h1
          simp only [decide_true, okS, hane, if_false] at h1
          simp only [okP]
          exact h1
        | _ => cases hpair
      · refine key p ?_ ?_ (Pres.refl p) hb
        · intro hit; rw [hit] at hs; cases hs
        · cases it with
          | sym x => cases hs
          | pair a d => cases hpair
          | vec v => simpa [properP] using hprop (.vec v) (by simp)
          | _ => rfl

theorem ruleOK_wfPattern (s : Setup) {f : Nat} {r : Pattern × Datum} (h : RuleOK f s.ell s.lits r) :
    wfPattern s.es r.1.expr = true := by
  obtain ⟨hexpr, hpell, hplits, kw, body, hpb, hbuild⟩ := Pattern.tryNew_ok h.pat
  have hsup := h.support
  rw [hpb] at hsup
  have hprop := checkPatternSupport_proper hsup
  obtain ⟨hbeq, hel⟩ := properS_iter hprop
  have hplace := buildLoop_place s.es f _ _ 0 (iterList body) 0
    { expr := r.1.expr, variables := [], expanded := [], ellipsis := s.ell, literals := s.lits } r.1
    (by rfl) hel (by simpa [build] using hbuild)
  rw [hpb]
  simp only [wfPattern, Bool.and_eq_true]
  have h1 := hplace.1
  simp only [decide_true] at h1
  rw [hbeq] at h1
  refine ⟨h1, ?_⟩
  have h2 := hplace.2 rfl
  cases body with
  | pair q R => simp [iterList, peekIs] at h2; simpa using h2
  | _ => rfl

end Marwood.Transform
