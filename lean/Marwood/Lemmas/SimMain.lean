import Marwood.Lemmas.SimBuiltin
import Marwood.Lemmas.SimGc
import Marwood.Lemmas.RunLoopBasic
/-!
# Heap simulation: from the per-opcode lemmas to `run_one`, and the side conditions

`Good s` collects what the per-opcode lemmas assume of a single state besides `Sim`: `size` (below the sentinels); `plain`
(the kind discipline of Lemmas/SimErase.lean); `wf`, `roots` (`WFHeap`, `RootsOk` of Heap/Invariant.lean: T03.3 proves that
every allocator / collector operation preserves them, Lemmas/GoodMain.lean lifts that to `run_one` and `run_gc`); `noIofArg`
(DESIGN §1 and Lemmas/SimStepF.lean: an `IofArgument` entry is dead, and CLOSURE would read the frame for it); `bpLive`,
`frameLive` (the stack slots the current instruction reads through `bp` are at or below `sp`: C04/C05's WF-stack; slots
above `sp` hold stale values that are not roots).

`Safe m s`: every state the machine can reach from `s`, by instructions and by collections at any boundary, is `Good`; the
hypothesis of the partial forms of T03.5 / T13.3 (Proofs/C03.lean, Proofs/C13.lean). `safe_of_good` (Lemmas/GoodMain.lean)
derives it from `GoodI` of the initial state, given `SizeBounded` and `StackDiscAlong` along the run.
-/
namespace Marwood.Lemmas.Sim
open Marwood Marwood.Vm Marwood.Vm.Concrete
open Marwood.Heap (GcState WFHeap RootsOk)

structure Good (s : St CHeap) : Prop where
  size : SizeOk s.heap
  plain : Plain s.heap
  wf : WFHeap true (toHeap s.heap)
  roots : RootsOk (toHeap s.heap) ((rootsOf s).refs true)
  noIofArg : NoIofArg s.heap
  bpLive : BpLive { s with ipO := s.ipO + 1 }
  frameLive : ∀ l, lambdaAt s.heap s.ipL = some l →
    (l.bc[s.ipO]? = some (.opcode .ret) ∨ l.bc[s.ipO]? = some (.opcode .tcallAcc)) → FrameLive s

/-- C18's `Interned` of the erased heap is `SymOk` of the concrete heap -/
theorem SymOk.of_wf {h : CHeap} (wf : WFHeap true (toHeap h)) : SymOk h := by
  intro name p
  have hi := wf.interned name p
  have e1 : (toHeap h).symLookup name = symLookup h name := rfl
  rw [e1] at hi
  rw [hi]
  unfold Heap.Heap.AllocSym
  have hsz : h.gc.size = h.cells.size := by have := wf.sizes; simpa [toHeap] using this
  constructor
  · rintro ⟨hc, hn⟩
    have hc' : (h.cells[p]?).map eraseC = some (.symbol name) := by simpa [toHeap] using hc
    cases hcell : h.cells[p]? with
    | none => rw [hcell] at hc'; cases hc'
    | some c =>
      rw [hcell] at hc'
      simp only [Option.map_some, Option.some.injEq] at hc'
      refine ⟨c, rfl, ?_, ?_⟩
      · cases c with
        | val v =>
          cases v <;> simp [eraseC, eraseV] at hc'
          rename_i tag
          split at hc'
          · rename_i n hn'
            cases hc'
            exact ⟨tag, rfl, hn'⟩
          · cases hc'
        | lexEnv _ => simp [eraseC] at hc'
        | vector _ => simp [eraseC] at hc'
        | lambda _ => simp [eraseC] at hc'
        | cont _ => simp [eraseC] at hc'
      · intro hm
        have := (wf.free_iff p).mp hm
        rcases hn with h1 | h1 <;> rw [this] at h1 <;> cases h1
  · rintro ⟨c, hc, ⟨tag, rfl, ht⟩, hf⟩
    refine ⟨by simp [toHeap, hc, eraseC, eraseV, ht], ?_⟩
    have hlt : p < (toHeap h).gc.size := by
      show p < h.gc.size
      rw [hsz]; exact lt_of_get_some hc
    have hne : (toHeap h).gc[p]? ≠ some GcState.free := fun e => hf ((wf.free_iff p).mpr e)
    unfold Heap.Heap.NonFree
    rw [Array.getElem?_eq_getElem hlt] at hne ⊢
    cases hg : (toHeap h).gc[p] with
    | free => rw [hg] at hne; exact absurd rfl hne
    | allocated => left; rfl
    | used => right; rfl

/-- what the per-opcode lemmas draw on of `Good s`, `Good t` -/
structure Side (s t : St CHeap) : Prop where
  ok : SizeOk s.heap
  ok' : SizeOk t.heap
  live : BpLive s
  live' : BpLive t
  sym : SymOk s.heap
  sym' : SymOk t.heap
  noIof : NoIofArg s.heap

/-- `s`, `t`: the states after the opcode has been read -/
def ExecSim (ext : ExtOps) (op : Op) : Prop :=
  ∀ (φ : Inj) (s t : St CHeap), Sim φ s t → Side s t → CodeAt s (.opcode op) → CodeAt t (.opcode op) →
    ((op = .ret ∨ op = .tcallAcc) → FrameLive s ∧ FrameLive t) →
    ORel (PostB φ) (exec (concreteOps ext) op s) (exec (concreteOps ext) op t)

/-- every opcode, given the law of the non-modelled parameters -/
theorem execSim_all (ext : ExtOps) (el : ExtLaws ext) : ∀ op, ExecSim ext op := by
  intro op φ s t h sd hc _ fl
  have bl := builtinLaw_of_ext ext el
  cases op with
  | cons => exact exec_cons ext h sd.sym sd.sym'
  | jmp => exact exec_jmp ext h sd.ok sd.ok' hc
  | jnt => exact exec_jnt ext h sd.ok sd.ok' hc
  | mov => exact exec_mov ext h sd.ok sd.ok' hc sd.live
  | movImm => exact exec_movImm ext h sd.ok sd.ok' hc
  | push => exact exec_push ext h sd.ok sd.ok' hc sd.live
  | pushAcc => exact exec_pushAcc ext h
  | pushImm => exact exec_pushImm ext h sd.ok sd.ok' hc
  | halt => exact exec_halt ext h
  | vpushAcc => exact exec_vpush ext el h sd.ok sd.ok'
  | callAcc => exact exec_call ext bl h sd.ok sd.ok' sd.sym sd.sym'
  | closureAcc => exact exec_closure ext h sd.ok sd.ok' sd.noIof
  | enter => exact exec_enter ext activationLaw h sd.ok sd.ok'
  | ret => exact exec_ret ext h (fl (.inl rfl)).1
  | tcallAcc => exact exec_tcall ext bl h sd.ok sd.ok' sd.sym sd.sym' (fl (.inr rfl)).1
  | varArg => exact exec_varArg ext h sd.ok sd.ok' sd.sym sd.sym'

/-- **lemma (b), assembled**: `run_one` on related states, given the lemma of every opcode -/
theorem step_sim (ext : ExtOps) (hex : ∀ op, ExecSim ext op) {φ : Inj} {s t : St CHeap} (h : Sim φ s t)
    (g : Good s) (g' : Good t) :
    ORel (PostB φ) (step (concreteOps ext) s) (step (concreteOps ext) t) := by
  rw [step_eq, step_eq]
  refine (readOpcode_rel ext h g.size g'.size).bind ?_
  rintro ⟨op, s1⟩ ⟨op', t1⟩ ⟨e0, e1, e2, hc⟩
  simp only at e0 e1 e2 hc ⊢
  subst e0 e1 e2
  have hc' : CodeAt { t with ipO := t.ipO + 1 } (.opcode op) := by
    -- the bytecode cells at `ipO` are related, and `opOf` agrees on related cells
    obtain ⟨l0, j, hl0, hj, hcj⟩ := hc
    rcases lambdaAt_rel h.heap g.size g'.size h.ipL with ⟨e1, _⟩ | ⟨l, l', e1, e2, hbc, _, _⟩
    · simp only at hl0; rw [hl0] at e1; cases e1
    · simp only at hl0 hj hcj
      rw [hl0] at e1; cases e1
      have hjs : j = s.ipO := by omega
      subst hjs
      rcases hbc.at' s.ipO with ⟨f1, _⟩ | ⟨c, c', f1, f2, r⟩
      · rw [hcj] at f1; cases f1
      · rw [hcj] at f1; cases f1
        have ho := opOf_rel r
        refine ⟨l', t.ipO, e2, rfl, ?_⟩
        rw [← h.ipO, f2]
        cases c' <;> simp [opOf] at ho
        rw [ho]
  refine hex op φ _ _ h.next ⟨g.size, g'.size, g.bpLive, g'.bpLive, SymOk.of_wf g.wf, SymOk.of_wf g'.wf, g.noIofArg⟩ hc hc' ?_
  intro hop
  obtain ⟨l0, j, hl0, hj, hcj⟩ := hc
  obtain ⟨l0', j', hl0', hj', hcj'⟩ := hc'
  simp only at hl0 hj hcj hl0' hj' hcj'
  have hjs : j = s.ipO := by omega
  have hjs' : j' = t.ipO := by omega
  subst hjs hjs'
  constructor
  · refine g.frameLive l0 hl0 ?_
    rcases hop with e | e <;> subst e
    · exact .inl hcj
    · exact .inr hcj
  · refine g'.frameLive l0' hl0' ?_
    rcases hop with e | e <;> subst e
    · exact .inl hcj'
    · exact .inr hcj'

/-- the states a machine passes through from `s`, whatever the placement of collections: successful instructions
    (`next`, `halt`) and a collection at any instruction boundary (`gc`). A machine built with `vmStep` hands back the
    state a failing instruction was tried in, so its runs that end in an error end in such a state too (`Reaches.runLoop`,
    `vmStep_eq_fail`). -/
inductive Reaches {S E : Type} (m : Machine S E) : S → S → Prop
  | refl (s) : Reaches m s s
  | next {s s' s''} : Reaches m s s' → m.step s' = .next s'' → Reaches m s s''
  | halt {s s' s''} : Reaches m s s' → m.step s' = .halt s'' → Reaches m s s''
  | gc {s s'} : Reaches m s s' → Reaches m s (m.gc s')

theorem Reaches.trans {S E : Type} {m : Machine S E} {a b c : S} (h1 : Reaches m a b) (h2 : Reaches m b c) :
    Reaches m a c := by
  induction h2 with
  | refl => exact h1
  | next _ e ih => exact .next ih e
  | halt _ e ih => exact .halt ih e
  | gc _ ih => exact .gc ih

theorem Reaches.runLoop {S E : Type} (m : Machine S E) (count : Option Nat) (fuel c : Nat) (s : S) :
    match runLoop m count fuel c s with
    | .done sd => ∃ sh, Reaches m s sh ∧ m.step sh = .halt sd
    | .error e sf => ∃ sh, Reaches m s sh ∧ m.step sh = .fail e sf
    | .paused sp => Reaches m s sp
    | .fuel => True := by
  have := runLoop_inv m count (I := Reaches m s) (fun _ h => .gc h) (fun _ _ h e => .next h e) fuel c s (.refl s)
  cases hr : Marwood.Vm.runLoop m count fuel c s <;> rw [hr] at this
  · exact this.1
  · exact this
  · exact this
  · trivial

theorem Reaches.machine_induct {ext : ExtOps} {force : Bool} {P : St CHeap → Prop} {s0 : St CHeap} (h0 : P s0)
    (hstep : ∀ s1 s2 b, Reaches (machine ext force) s0 s1 → P s1 → step (concreteOps ext) s1 = .ok (s2, b) →
      Reaches (machine ext force) s0 s2 → P s2)
    (hgc : ∀ s1, Reaches (machine ext force) s0 s1 → P s1 → P (cgc force s1)) :
    ∀ s', Reaches (machine ext force) s0 s' → P s' := by
  intro s' hr
  induction hr with
  | refl => exact h0
  | @next s1 s2 hr1 e ih => exact hstep _ _ _ hr1 ih (vmStep_eq_next.mp e) (.next hr1 e)
  | @halt s1 s2 hr1 e ih => exact hstep _ _ _ hr1 ih (vmStep_eq_halt.mp e) (.halt hr1 e)
  | @gc s1 hr1 ih => exact hgc _ hr1 ih

def Safe (m : Machine (St CHeap) Fault) (s : St CHeap) : Prop := ∀ s', Reaches m s s' → Good s'

theorem Safe.good {m : Machine (St CHeap) Fault} {s} (h : Safe m s) : Good s := h s (.refl s)

theorem Safe.of_reaches {m : Machine (St CHeap) Fault} {s s'} (h : Safe m s) (hr : Reaches m s s') : Safe m s' :=
  fun s'' hr' => h s'' (hr.trans hr')

/-- the `R` of `GcTransparent` (Proofs/C13.lean) -/
def R (m : Machine (St CHeap) Fault) (s t : St CHeap) : Prop := (∃ φ, Sim φ s t) ∧ Safe m s ∧ Safe m t

end Marwood.Lemmas.Sim
