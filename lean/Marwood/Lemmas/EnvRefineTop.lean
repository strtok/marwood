import Marwood.Lemmas.EnvRefineStep2
/-!
# T02.4, part 8: sessions; what an observer sees

`Obs` is what the correspondence harness prints of a value (a procedure prints as `p`); related
values have equal observations, so the refinement is an *equality* of the printed results and of
the printed read/write log.
-/
namespace Marwood.Vm.EnvRefine
open Marwood Marwood.Scope Marwood.Vm.Env Marwood.Spec.Scope

inductive Obs where
  | int (n : Nat)
  | proc
  | nil
  | pair (a d : Obs)
  | void
  | undef
deriving DecidableEq, Repr

def obsS : SVal → Obs
  | .int n => .int n
  | .clo .. => .proc
  | .nil => .nil
  | .pair a d => .pair (obsS a) (obsS d)
  | .void => .void
  | .undef => .undef

def obsM : MVal → Obs
  | .int n => .int n
  | .clo .. => .proc
  | .nil => .nil
  | .pair a d => .pair (obsM a) (obsM d)
  | .void => .void
  | .undef => .undef

theorem VRel.obs {β : LocMap} {h : Envs MVal} {v : SVal} {v' : MVal} (r : VRel β h v v') : obsM v' = obsS v := by
  induction r with
  | int n => rfl
  | nil => rfl
  | void => rfl
  | pair _ _ iha ihd => simp [obsS, obsM, iha, ihd]
  | clo _ => rfl

/-- the outcome of a top-level form as printed -/
def obsResS : Except SErr SVal → Except MErr Obs
  | .ok v => .ok (obsS v)
  | .error e => .error (errMap e)

def obsResM : Except MErr MVal → Except MErr Obs
  | .ok v => .ok (obsM v)
  | .error e => .error e

-- core has no `DecidableEq` for `Except`; `refinement_fails_*` (Proofs/C02) decide such equations
instance : DecidableEq (Except MErr Obs) := fun a b => match a, b with
  | .ok x, .ok y => if h : x = y then isTrue (by rw [h]) else isFalse (by intro h'; cases h'; exact h rfl)
  | .error x, .error y => if h : x = y then isTrue (by rw [h]) else isFalse (by intro h'; cases h'; exact h rfl)
  | .ok _, .error _ => isFalse (by intro h; cases h)
  | .error _, .ok _ => isFalse (by intro h; cases h)

/-- the outcomes about which the refinement theorem says nothing: the specification stopped because
    a location was read before its initialisation / a name was unbound, or ran out of fuel -/
def faulty : Except SErr SVal → Bool
  | .error .unbound => true
  | .error .fuel => true
  | _ => false

theorem sim_runTop (f g : Nat) (hg : 2 * f ≤ g) (β : LocMap) (s : SSt) (t : MSt) (r : StRel β s t) (top : Top) :
    Post β t QV (exec (Spec.Scope.runTop f top) s) (exec (Vm.EnvRun.runTop g top) t) := by
  have S := sims f
  cases top with
  | expr e =>
    exact S.eval g hg β s t (fun _ => True) LamCtx.top none [] [] e r (ActRel.top _ _ _) (fun _ _ => trivial)
  | define x e =>
    simp only [Spec.Scope.runTop, Vm.EnvRun.runTop]
    apply Post.bind _ _ _ _
      (S.eval g hg β s t (fun _ => True) LamCtx.top none [] [] e r (ActRel.top _ _ _) (fun _ _ => trivial))
    intro β1 s1 t1 v v' e1 r1 hv
    simp only [exec_bind, exec_get, exec_setGlobal, exec_pure]
    cases hgl : s1.globals.find? x with
    | some l =>
      obtain ⟨t2, hw, e2, r2⟩ := sim_write r1 (ActRel.top β1 t1.envs (fun _ => True)) x trivial l v v'
        (Or.inr ⟨rfl, hgl⟩) hv
      have hw' : exec (Vm.EnvRun.writeVar LamCtx.top none x v') t1 =
          (.ok ⟨⟩, { t1 with globals := (x, v') :: t1.globals.filter (·.1 != x) }) := by
        simp [Vm.EnvRun.writeVar, bindingLocation, LamCtx.top, slotOf, argIndex, exec_setGlobal]
      rw [hw'] at hw
      cases hw
      simp only
      exact Post.ok β1 e2 r2 .void
    | none =>
      simp only
      exact Post.ok β1 (Ext.refl _ _) (sim_define_fresh r1 x v v' hgl hv) .void

def ResRel (β : LocMap) (h : Envs MVal) : Except SErr SVal → Except MErr MVal → Prop
  | .ok v, .ok v' => VRel β h v v'
  | .error e, .error e' => e' = errMap e
  | _, _ => False

theorem ResRel.mono {β β' : LocMap} {h h' : Envs MVal} (e : Ext β h β' h') {a b} (r : ResRel β h a b) :
    ResRel β' h' a b := by
  cases a <;> cases b <;> simp_all [ResRel]
  exact r.mono e

theorem ResRel.obs {β : LocMap} {h : Envs MVal} {a b} (r : ResRel β h a b) : obsResM b = obsResS a := by
  cases a <;> cases b <;> simp_all [ResRel, obsResM, obsResS]
  exact r.obs

theorem run_cons_S (f : Nat) (top : Top) (ts : Program) (s : SSt) :
    Spec.Scope.run f (top :: ts) s =
      ((exec (Spec.Scope.runTop f top) s).1 :: (Spec.Scope.run f ts (exec (Spec.Scope.runTop f top) s).2).1,
       (Spec.Scope.run f ts (exec (Spec.Scope.runTop f top) s).2).2) := rfl

theorem run_cons_M (g : Nat) (top : Top) (ts : Program) (t : MSt) :
    Vm.EnvRun.run g (top :: ts) t =
      ((exec (Vm.EnvRun.runTop g top) t).1 :: (Vm.EnvRun.run g ts (exec (Vm.EnvRun.runTop g top) t).2).1,
       (Vm.EnvRun.run g ts (exec (Vm.EnvRun.runTop g top) t).2).2) := rfl

/-- **Sessions.** From related states, as long as no form of the specification run is `faulty`, the
    model run yields related outcomes form by form and ends in a related state. -/
theorem sim_run (f g : Nat) (hg : 2 * f ≤ g) (p : Program) (β : LocMap) (s : SSt) (t : MSt) (r : StRel β s t)
    (hok : (Spec.Scope.run f p s).1.any faulty = false) :
    ∃ β', Ext β t.envs β' (Vm.EnvRun.run g p t).2.envs ∧
      StRel β' (Spec.Scope.run f p s).2 (Vm.EnvRun.run g p t).2 ∧
      Forall2 (ResRel β' (Vm.EnvRun.run g p t).2.envs) (Spec.Scope.run f p s).1 (Vm.EnvRun.run g p t).1 := by
  induction p generalizing β s t with
  | nil => exact ⟨β, Ext.refl _ _, r, .nil⟩
  | cons top ts ih =>
    rw [run_cons_S] at hok ⊢
    rw [run_cons_M]
    simp only [List.any_cons, Bool.or_eq_false_iff] at hok
    obtain ⟨hok1, hok2⟩ := hok
    have h1 := sim_runTop f g hg β s t r top
    rcases hS : exec (Spec.Scope.runTop f top) s with ⟨res, s1⟩
    rcases hM : exec (Vm.EnvRun.runTop g top) t with ⟨res', t1⟩
    rw [hS] at hok1 hok2
    rw [hS, hM] at h1
    simp only at hok1 hok2 ⊢
    have first : ∃ β1, Ext β t.envs β1 t1.envs ∧ StRel β1 s1 t1 ∧ ResRel β1 t1.envs res res' := by
      cases res with
      | error er =>
        cases er with
        | unbound => simp [faulty] at hok1
        | fuel => simp [faulty] at hok1
        | arity | notProcedure | type =>
          obtain ⟨β1, e1, e2, e3⟩ := h1
          simp only at e1
          subst e1
          exact ⟨β1, e2, e3, rfl⟩
      | ok v =>
        obtain ⟨β1, v', e1, e2, e3, e4⟩ := h1
        simp only at e1
        subst e1
        exact ⟨β1, e2, e3, e4⟩
    obtain ⟨β1, e1, r1, hres⟩ := first
    obtain ⟨β2, e2, r2, hrest⟩ := ih β1 s1 t1 r1 hok2
    exact ⟨β2, e1.trans e2, r2, .cons (hres.mono e2) hrest⟩

theorem StRel.init : StRel (fun _ => none) ({} : SSt) ({} : MSt) := by
  refine ⟨rfl, .nil, ⟨?_, ?_, ?_⟩, ⟨?_, ?_⟩, OneLevel.empty⟩
  · intro x l h; simp [Frame.find?] at h
  · intro x _; rfl
  · intro x y l h; simp [Frame.find?] at h
  · intro l e i h; simp at h
  · intro l l' p h; simp at h

theorem Forall2.map_eq {α β γ : Type} {R : α → β → Prop} {fa : α → γ} {fb : β → γ} {as : List α} {bs : List β}
    (h : Forall2 R as bs) (hf : ∀ a b, R a b → fb b = fa a) : bs.map fb = as.map fa := by
  induction h with
  | nil => rfl
  | cons hr _ ih => simp [hf _ _ hr, ih]

end Marwood.Vm.EnvRefine
