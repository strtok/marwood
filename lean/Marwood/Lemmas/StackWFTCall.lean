import Marwood.Lemmas.StackWFBuiltin
/-!
# TCALL to a procedure and VARARG's frame rewrite under the frame hypotheses of WF-stack

`tcallTail_eff` is `tcallTail_run` (`Lemmas/TCall.lean`) read backwards. `stepVarArg_ok` / `_vals` are
`stepVarArg_eff` under the same hypotheses, for C04's account of VARARG.
-/
namespace Marwood.Vm
open Verify Stack

attribute [local irreducible] Marwood.Vm.Stack.push

variable {H : Type} {ops : HeapOps H}

theorem CodeLaws.enterLam_ty {cl : CodeLaws ops} {h : H} {acc : VCell} {lam : Nat} (hi : cl.HInv h)
    (hl : enterLam ops h acc = some lam) : ∃ tl, tyOf (cl.code h) lam = some tl ∧ tl.entry = false := by
  unfold enterLam at hl
  split at hl
  · rename_i l e hc
    cases hl
    exact cl.callee_closure hi hc
  · rename_i hc
    split at hl
    · cases hl
      exact cl.callee_lambda hi hc
    · cases hl
  · cases hl

/-- **TCALL to a procedure** rewrites the current frame: the new argument block starts where the old frame started,
    the saved `ep`/`ip` of the replaced frame follow it, `bp` is its saved `bp`, nothing below is touched -/
theorem tcallTail_eff {s s' : St H} {lam fa n B : Nat} {E I : VCell} (h : tcallTail s lam = .ok s')
    (hcap : s.stack.sp < s.stack.cells.length)
    (hfa : s.stack.cellAt (s.bp + 1) = .argc fa) (hE : s.stack.cellAt (s.bp + 2) = E)
    (hI : s.stack.cellAt (s.bp + 3) = I) (hB : s.stack.cellAt (s.bp + 4) = .basePtr B)
    (htop : s.stack.cellAt s.stack.sp = .argc n) (hroom : s.bp + 4 + n < s.stack.sp) (hbase : fa ≤ s.bp) :
    (s'.stack.sp = s.bp - fa + n + 3 ∧ s'.stack.sp < s'.stack.cells.length ∧
      s'.stack.cellAt (s.bp - fa + n + 1) = .argc n ∧ s'.stack.cellAt (s.bp - fa + n + 2) = E ∧
      s'.stack.cellAt (s.bp - fa + n + 3) = I ∧
      (∀ i, i + fa ≤ s.bp → s'.stack.cellAt i = s.stack.cellAt i) ∧
      s'.bp = B ∧ s'.ipL = lam ∧ s'.ipO = 0 ∧ s'.heap = s.heap) ∧
    ∀ i, s.bp - fa < i → i ≤ s.bp - fa + n →
      ∃ j, s.stack.sp - 1 - n < j ∧ j < s.stack.sp ∧ s'.stack.cellAt i = s.stack.cellAt j := by
  obtain ⟨st, hrun, r1, r2, _, r4, r5, r6, r7, r8⟩ :=
    tcallTail_run s lam hcap hfa hB htop hroom (k := s.bp - fa) (by omega)
  rw [hrun] at h
  cases h
  refine ⟨⟨r1, r2, r5, r6.trans hE, r7.trans hI, fun i hi => r8 i (by omega), rfl, rfl, rfl, rfl⟩, fun i hi1 hi2 => ?_⟩
  obtain ⟨j, rfl⟩ : ∃ j, i = s.bp - fa + 1 + j := ⟨i - (s.bp - fa + 1), by omega⟩
  exact ⟨s.stack.sp - n + j, by omega, by omega, r4 j (by omega)⟩

/-- TCALL rewrites the current frame: the new argument block starts where the old frame started, the
    saved `ep`/`ip` of the replaced frame follow it, `bp` is the replaced frame's saved `bp`, and
    nothing below the old frame is touched. -/
theorem tcallTail_ok {s s' : St H} {lam fa n B : Nat} {E I : VCell} (h : tcallTail s lam = .ok s')
    (hcap : s.stack.sp < s.stack.cells.length)
    (hfa : s.stack.cellAt (s.bp + 1) = .argc fa) (hE : s.stack.cellAt (s.bp + 2) = E)
    (hI : s.stack.cellAt (s.bp + 3) = I) (hB : s.stack.cellAt (s.bp + 4) = .basePtr B)
    (htop : s.stack.cellAt s.stack.sp = .argc n) (hroom : s.bp + 4 + n < s.stack.sp) (hbase : fa ≤ s.bp) :
    s'.stack.sp = s.bp - fa + n + 3 ∧ s'.stack.sp < s'.stack.cells.length ∧
      s'.stack.cellAt (s.bp - fa + n + 1) = .argc n ∧ s'.stack.cellAt (s.bp - fa + n + 2) = E ∧
      s'.stack.cellAt (s.bp - fa + n + 3) = I ∧
      (∀ i, i + fa ≤ s.bp → s'.stack.cellAt i = s.stack.cellAt i) ∧
      s'.bp = B ∧ s'.ipL = lam ∧ s'.ipO = 0 ∧ s'.heap = s.heap :=
  (tcallTail_eff h hcap hfa hE hI hB htop hroom hbase).1

theorem put_ext {cl : CodeLaws ops} {h h' : H} {v a : VCell} (hi : cl.HInv h) (hp : ops.put h v = (h', a)) :
    Ext cl h h' := by
  have := Ext.step (cl := cl) hi (.put h v)
  rw [hp] at this
  exact this

/-- VARARG rewrites the argument block and keeps the two header cells CALL pushed on top of it -/
theorem stepVarArg_ok {cl : CodeLaws ops} {s s' : St H} {n : Nat} {E I : VCell} (hi : cl.HInv s.heap)
    (h : stepVarArg ops s = .ok s') (hcap : s.stack.sp < s.stack.cells.length) (hn : n + 3 ≤ s.stack.sp)
    (hI : s.stack.cellAt s.stack.sp = I) (hE : s.stack.cellAt (s.stack.sp - 1) = E)
    (hA : s.stack.cellAt (s.stack.sp - 2) = .argc n) :
    ∃ n', s'.stack.sp < s'.stack.cells.length ∧ n' + 3 ≤ s'.stack.sp ∧
      s'.stack.sp - 3 - n' = s.stack.sp - 3 - n ∧
      s'.stack.cellAt s'.stack.sp = I ∧ s'.stack.cellAt (s'.stack.sp - 1) = E ∧
      s'.stack.cellAt (s'.stack.sp - 2) = .argc n' ∧
      (∀ i, i ≤ s.stack.sp - 3 - n → s'.stack.cellAt i = s.stack.cellAt i) ∧
      s'.bp = s.bp ∧ s'.ipL = s.ipL ∧ s'.ipO = s.ipO ∧ Ext cl s.heap s'.heap := by
  obtain ⟨info, m, h', st', rfl, _, _, _, hA', hle, ⟨_, _, hp⟩, _, hblk⟩ := stepVarArg_eff h
  rw [hA] at hA'; cases hA'
  obtain ⟨b1, b2, _, b4, b5, b6, b7⟩ := hblk hn
  refine ⟨info.argc, b2 hcap, ?_, ?_, b6.trans hI, b5.trans hE, b4, ?_, rfl, rfl, rfl, hp.ext hi⟩
  · show info.argc + 3 ≤ st'.sp
    omega
  · show st'.sp - 3 - info.argc = s.stack.sp - 3 - n
    omega
  · intro i hi'
    exact b7 i (by omega)

/-- VARARG leaves `args.len()` of the running code object as the argument count, over values -/
theorem stepVarArg_vals {cl : CodeLaws ops} {s s' : St H} {n : Nat} (hi : cl.HInv s.heap)
    (h : stepVarArg ops s = .ok s') (hn : n + 3 ≤ s.stack.sp)
    (hA : s.stack.cellAt (s.stack.sp - 2) = .argc n)
    (hv : ∀ i, s.stack.sp - 3 - n < i → i ≤ s.stack.sp - 3 → cl.Val (s.stack.cellAt i)) :
    ∃ info, ops.lambdaInfo s.heap s.ipL = some info ∧
      s'.stack.cellAt (s'.stack.sp - 2) = .argc info.argc ∧
      ∀ i, s'.stack.sp - 3 - info.argc < i → i ≤ s'.stack.sp - 3 → cl.Val (s'.stack.cellAt i) := by
  obtain ⟨info, m, h', st', rfl, hinfo, _, _, hA', _, _, _, hblk⟩ := stepVarArg_eff h
  rw [hA] at hA'; cases hA'
  obtain ⟨b1, _, b3, b4, _, _, b7⟩ := hblk hn
  refine ⟨info, hinfo, b4, fun i h1 h2 => ?_⟩
  change st'.sp - 3 - info.argc < i at h1
  change i ≤ st'.sp - 3 at h2
  change cl.Val (st'.cellAt i)
  by_cases hi3 : i = st'.sp - 3
  · rcases b3 with ⟨h0, v, e⟩ | ⟨l, e⟩ <;> rw [hi3, e]
    · exact cl.put_val _ _
    · exact cl.val_imm _ rfl
  · rw [b7 i (by omega)]
    exact hv i (by omega) (by omega)

end Marwood.Vm
