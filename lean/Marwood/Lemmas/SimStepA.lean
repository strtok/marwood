import Marwood.Lemmas.SimHeapOps
/-!
# Heap simulation of one instruction: the split of `step`, instruction fetch and `load_operand`

`step` is `readOpcode` followed by `exec op` (`step_eq`); one lemma per opcode shows `ORel (PostB φ)` of `exec op` on
`Sim φ`-related states: the same error / panic, or `Sim ψ`-related successors with `φ ⊆ ψ` and the same HALT flag.
`step_sim` (Lemmas/SimMain.lean) puts the `exec_*` together.
-/
namespace Marwood.Lemmas.Sim
open Marwood Marwood.Vm Marwood.Vm.Concrete
open Marwood.Heap (GcState)

def Post (φ : Inj) (s' t' : St CHeap) : Prop := ∃ ψ, φ.le ψ ∧ Sim ψ s' t'

def PostB (φ : Inj) (p q : St CHeap × Bool) : Prop := p.2 = q.2 ∧ Post φ p.1 q.1

theorem Post.of_sim {φ : Inj} {s t : St CHeap} (h : Sim φ s t) : Post φ s t := ⟨φ, φ.le_refl, h⟩

theorem Post.trans {φ ψ : Inj} {s t : St CHeap} (hle : φ.le ψ) (h : Post ψ s t) : Post φ s t := by
  obtain ⟨χ, h1, h2⟩ := h
  exact ⟨χ, Inj.le_trans hle h1, h2⟩

def exec (ops : HeapOps CHeap) (op : Op) (s : St CHeap) : Outcome (St CHeap × Bool) :=
  match op with
  | .jmp => do
    let (v, s) ← readOperand ops s
    let o ← asPtr v
    .ok ({ s with ipO := o }, false)
  | .jnt => do
    let (v, s) ← readOperand ops s
    let o ← asPtr v
    match ops.deref s.heap s.acc with
    | .bool false => .ok ({ s with ipO := o }, false)
    | _ => .ok (s, false)
  | .mov => do
    let (v, s) ← loadOperand ops s
    let s ← storeOperand ops s v
    .ok (s, false)
  | .movImm => do
    let (v, s) ← readOperand ops s
    let s ← storeOperand ops s v
    .ok (s, false)
  | .push => do
    let (v, s) ← loadOperand ops s
    .ok (s.push v, false)
  | .pushImm => do
    let (v, s) ← readOperand ops s
    .ok (s.push v, false)
  | .pushAcc => .ok (s.push s.acc, false)
  | .halt => .ok (s, true)
  | .cons => do
    let (d, st) ← s.stack.pop
    let (h, d) := ops.put s.heap d
    let (a, st) ← st.pop
    let (h, a) := ops.put h a
    let a ← asPtr a
    let d ← asPtr d
    let (h, p) := ops.put h (.pair a d)
    .ok ({ s with heap := h, stack := st, acc := p }, false)
  | .vpushAcc => do
    let (v, st) ← s.stack.pop
    let vec := ops.deref s.heap v
    let h ← ops.vectorPush s.heap vec s.acc
    .ok ({ s with heap := h, stack := st, acc := v }, false)
  | .closureAcc => do
    let lam ← asPtr s.acc
    let (h, c) ← ops.makeClosure s.heap lam s.ep s.bp s.stack
    .ok ({ s with heap := h, acc := c }, false)
  | .callAcc => do let s ← stepCall ops s; .ok (s, false)
  | .tcallAcc => do let s ← stepTCall ops s; .ok (s, false)
  | .enter => do let s ← stepEnter ops s; .ok (s, false)
  | .ret => do let s ← stepRet s; .ok (s, false)
  | .varArg => do let s ← stepVarArg ops s; .ok (s, false)

theorem step_eq (ops : HeapOps CHeap) (s : St CHeap) :
    step ops s = readOpcode ops s >>= fun p => exec ops p.1 p.2 := by
  unfold step
  cases readOpcode ops s with
  | ok p =>
    obtain ⟨op, s1⟩ := p
    cases op <;> rfl
  | err e => rfl
  | panic m => rfl

theorem ORel.continues {φ : Inj} {x y : Outcome (St CHeap)} (h : ORel (Post φ) x y) :
    ORel (PostB φ) (x >>= fun s => .ok (s, false)) (y >>= fun s => .ok (s, false)) :=
  h.bind fun _ _ hs => .ok ⟨rfl, hs⟩

def opOf : VCell → Option Op
  | .opcode op => some op
  | _ => none

theorem readOpcode_eq (ops : HeapOps CHeap) (s : St CHeap) :
    readOpcode ops s = if !ops.isLambda s.heap s.ipL then .panic "%ip is not a procedure" else
      match ops.fetch s.heap s.ipL s.ipO with
      | none => .err .invalidBytecode
      | some c => match opOf c with
        | some op => .ok (op, { s with ipO := s.ipO + 1 })
        | none => .err .expectedType := by
  unfold readOpcode
  split
  · rfl
  · cases ops.fetch s.heap s.ipL s.ipO with
    | none => rfl
    | some c => cases c <;> rfl

theorem readOperand_eq (ops : HeapOps CHeap) (s : St CHeap) :
    readOperand ops s = if !ops.isLambda s.heap s.ipL then .panic "%ip is not a procedure" else
      match ops.fetch s.heap s.ipL s.ipO with
      | none => .err .invalidBytecode
      | some c => match opOf c with
        | some _ => .err .invalidBytecode
        | none => .ok (c, { s with ipO := s.ipO + 1 }) := by
  unfold readOperand
  split
  · rfl
  · cases ops.fetch s.heap s.ipL s.ipO with
    | none => rfl
    | some c => cases c <;> rfl

theorem opOf_rel {φ : Inj} {c c'} (h : c = c' ∨ VRel φ c c') : opOf c = opOf c' := by
  rcases h with h | h
  · rw [h]
  · cases h <;> rfl

theorem isJumpOp_opcode (c : VCell) (h : opOf c = none) : isJumpOp c = false := by
  cases c <;> first | rfl | simp [opOf] at h

def CodeAt (s : St CHeap) (c0 : VCell) : Prop :=
  ∃ l j, lambdaAt s.heap s.ipL = some l ∧ s.ipO = j + 1 ∧ l.bc[j]? = some c0

theorem Sim.setIpO {φ : Inj} {s t : St CHeap} (h : Sim φ s t) (o : Nat) :
    Sim φ { s with ipO := o } { t with ipO := o } :=
  ⟨h.heap, h.stack, h.acc, h.ep, h.ipL, rfl, h.bp⟩

section
variable (ext : ExtOps) {φ : Inj} {s t : St CHeap}

theorem BcRel.at {bc bc' : List VCell} (h : BcRel φ bc bc') (i : Nat) :
    (bc[i]? = none ∧ bc'[i]? = none) ∨
    ∃ c c', bc[i]? = some c ∧ bc'[i]? = some c' ∧ (prevIsJump bc i = true → c = c') ∧
      (prevIsJump bc i = false → VRel φ c c') := by
  cases e1 : bc[i]? with
  | none =>
    left
    refine ⟨rfl, ?_⟩
    rw [List.getElem?_eq_none_iff] at e1 ⊢; rw [← h.1]; exact e1
  | some c =>
    have hl : i < bc'.length := by rw [← h.1]; exact (List.getElem?_eq_some_iff.mp e1).1
    right
    refine ⟨c, bc'[i], rfl, List.getElem?_eq_getElem hl, ?_⟩
    exact h.2 i c _ e1 (List.getElem?_eq_getElem hl)

theorem BcRel.at' {bc bc' : List VCell} (h : BcRel φ bc bc') (i : Nat) :
    (bc[i]? = none ∧ bc'[i]? = none) ∨
    ∃ c c', bc[i]? = some c ∧ bc'[i]? = some c' ∧ (c = c' ∨ VRel φ c c') := by
  rcases h.at i with h1 | ⟨c, c', e1, e2, a, b⟩
  · exact .inl h1
  · refine .inr ⟨c, c', e1, e2, ?_⟩
    cases hp : prevIsJump bc i with
    | true => exact .inl (a hp)
    | false => exact .inr (b hp)

theorem readOpcode_rel (h : Sim φ s t) (ok : SizeOk s.heap) (ok' : SizeOk t.heap) :
    ORel (fun a b => a.1 = b.1 ∧ a.2 = { s with ipO := s.ipO + 1 } ∧ b.2 = { t with ipO := t.ipO + 1 } ∧
        CodeAt a.2 (.opcode a.1))
      (readOpcode (concreteOps ext) s) (readOpcode (concreteOps ext) t) := by
  rw [readOpcode_eq, readOpcode_eq]
  simp only [concreteOps]
  rcases lambdaAt_rel h.heap ok ok' h.ipL with ⟨e1, e2⟩ | ⟨l, l', e1, e2, hbc, _, _⟩
  · simp only [e1, e2, Option.isSome_none, Bool.not_false, if_true]; exact .panic
  · simp only [e1, e2, Option.isSome_some, Bool.not_true, Bool.false_eq_true, if_false]
    rw [← h.ipO]
    rcases hbc.at' s.ipO with ⟨f1, f2⟩ | ⟨c, c', f1, f2, r⟩
    · rw [f1, f2]; exact .err
    · rw [f1, f2]
      simp only
      rw [← opOf_rel r]
      cases hop : opOf c with
      | none => exact .err
      | some op =>
        refine .ok ⟨rfl, rfl, by rw [h.ipO], l, s.ipO, e1, rfl, ?_⟩
        rw [f1]; cases c <;> simp [opOf] at hop; rw [hop]

theorem readOperand_rel (h : Sim φ s t) (ok : SizeOk s.heap) (ok' : SizeOk t.heap) {c0 : VCell}
    (hc : CodeAt s c0) :
    ORel (fun a b => (isJumpOp c0 = true → a.1 = b.1) ∧ (isJumpOp c0 = false → VRel φ a.1 b.1) ∧
        a.2 = { s with ipO := s.ipO + 1 } ∧ b.2 = { t with ipO := t.ipO + 1 } ∧
        CodeAt a.2 a.1 ∧ opOf a.1 = none)
      (readOperand (concreteOps ext) s) (readOperand (concreteOps ext) t) := by
  rw [readOperand_eq, readOperand_eq]
  simp only [concreteOps]
  obtain ⟨l0, j, hl0, hj, hcj⟩ := hc
  rcases lambdaAt_rel h.heap ok ok' h.ipL with ⟨e1, e2⟩ | ⟨l, l', e1, e2, hbc, _, _⟩
  · simp only [e1, e2, Option.isSome_none, Bool.not_false, if_true]; exact .panic
  · simp only [e1, e2, Option.isSome_some, Bool.not_true, Bool.false_eq_true, if_false]
    rw [hl0] at e1; cases e1
    rw [← h.ipO]
    have hprev : prevIsJump l0.bc s.ipO = isJumpOp c0 := by
      rw [hj]; simp [prevIsJump, hcj]
    rcases hbc.at s.ipO with ⟨f1, f2⟩ | ⟨c, c', f1, f2, ra, rb⟩
    · rw [f1, f2]; exact .err
    · rw [f1, f2]
      simp only
      have r : c = c' ∨ VRel φ c c' := by
        cases hp : prevIsJump l0.bc s.ipO with
        | true => exact .inl (ra hp)
        | false => exact .inr (rb hp)
      rw [← opOf_rel r]
      cases hop : opOf c with
      | some op => exact .err
      | none =>
        refine .ok ⟨fun hjmp => ra (by rw [hprev]; exact hjmp), fun hjmp => rb (by rw [hprev]; exact hjmp),
          rfl, by rw [h.ipO], ⟨l0, s.ipO, hl0, rfl, f1⟩, hop⟩

/-- a `BasePointerOffset` operand at `ip.1` designates a live slot: `StackRel` relates `[0..sp]` only, and above `sp`
    the two stacks hold unrelated stale cells -/
def BpLive (s : St CHeap) : Prop :=
  ∀ l off, lambdaAt s.heap s.ipL = some l → l.bc[s.ipO]? = some (VCell.bpOffset off) →
    (s.bp : Int) + off ≤ s.stack.sp

theorem CodeAt.mem {s : St CHeap} {c0 : VCell} (hc : CodeAt s c0) :
    ∃ l, lambdaAt s.heap s.ipL = some l ∧ c0 ∈ l.bc := by
  obtain ⟨l, j, h1, _, h3⟩ := hc
  exact ⟨l, h1, List.mem_of_getElem? h3⟩

theorem loadOperand_rel (h : Sim φ s t) (ok : SizeOk s.heap) (ok' : SizeOk t.heap) {c0 : VCell}
    (hc : CodeAt s c0) (hj : isJumpOp c0 = false) (live : BpLive s) :
    ORel (fun a b => VRel φ a.1 b.1 ∧ a.2 = { s with ipO := s.ipO + 1 } ∧ b.2 = { t with ipO := t.ipO + 1 } ∧
        ∃ c1, CodeAt a.2 c1 ∧ opOf c1 = none)
      (loadOperand (concreteOps ext) s) (loadOperand (concreteOps ext) t) := by
  unfold loadOperand
  refine (readOperand_rel ext h ok ok' hc).bind ?_
  rintro ⟨v, s1⟩ ⟨v', t1⟩ ⟨_, hv, e1, e2, hc1, hop⟩
  simp only at hv e1 e2 hc1 hop ⊢
  have hv := hv hj
  subst e1 e2
  have hs1 : Sim φ { s with ipO := s.ipO + 1 } { t with ipO := t.ipO + 1 } := by
    have := h.setIpO (s.ipO + 1); rw [h.ipO] at this ⊢; exact this
  have fin : ∀ {w w'}, VRel φ w w' → ORel (fun a b => VRel φ a.1 b.1 ∧ a.2 = { s with ipO := s.ipO + 1 } ∧
      b.2 = { t with ipO := t.ipO + 1 } ∧ ∃ c1, CodeAt a.2 c1 ∧ opOf c1 = none)
      (.ok (w, { s with ipO := s.ipO + 1 })) (.ok (w', { t with ipO := t.ipO + 1 })) :=
    fun hw => .ok ⟨hw, rfl, rfl, v, hc1, hop⟩
  cases hv with
  | ptr h1 => exact fin (getAt_rel h.heap ok ok' h1)
  | pair _ _ => exact .err
  | closure _ _ => exact .err
  | lexEnvPtr _ => exact .err
  | envPtr _ => exact .err
  | instrPtr _ => exact .err
  | atom hf =>
    cases v with
    | acc => exact fin h.acc
    | bpOffset off =>
      simp only [concreteOps]
      have ebp : (t.bp : Int) + off = (s.bp : Int) + off := by rw [h.bp]
      simp only [ebp]
      obtain ⟨l, j, hl, hj', hm⟩ := hc1
      simp only at hl hj' hm
      have hjs : j = s.ipO := by omega
      subst hjs
      have hlive := live l off hl hm
      split
      · refine (h.stack.get (i := ((s.bp : Int) + off).toNat) (by omega)).bind ?_
        intro w w' hw; exact fin hw
      · exact .err
    | globSlot n =>
      simp only [concreteOps]
      have hg := globGet_rel h.heap n
      generalize s.heap.globals[n]?.getD .undefined = g at hg
      generalize t.heap.globals[n]?.getD .undefined = g' at hg
      -- `Undefined` is related to itself only
      split
      · cases hg; exact .err
      · rename_i hne
        split
        · cases hg; exact (hne rfl).elim
        · exact fin hg
    | lexEnvSlot n =>
      simp only [concreteOps]
      have he := envGet_rel h.heap ok ok' h.ep n
      generalize envGet s.heap s.ep n = g at he
      generalize envGet t.heap t.ep n = g' at he
      -- a `LexicalEnvPtr` slot is related to a `LexicalEnvPtr` slot only
      split
      · cases he; exact .err
      · cases he with
        | some r =>
          cases r with
          | lexEnvPtr a =>
            rename_i e k e'
            dsimp only
            have he2 := envGet_rel h.heap ok ok' a k
            generalize envGet s.heap e k = g2 at he2
            generalize envGet t.heap e' k = g2' at he2
            cases he2 with
            | none => exact .err
            | some r2 => exact fin r2
          | atom hf => simp [addrFree] at hf
      · rename_i hne
        cases he with
        | some r =>
          split
          · rename_i heq; cases heq
          · rename_i heq; cases heq; cases r <;> exact (hne _ _ rfl).elim
          · rename_i heq; cases heq; exact fin r
    | _ => first | exact .err | simp [addrFree] at hf

end

end Marwood.Lemmas.Sim
