import Marwood.Lemmas.CompileCorrect2Defs
/-!
# T01.3 stage 2: single instructions (lexical loads and stores, CLOSURE, CALL of a closure, ENTER, RET)
-/
namespace Marwood.Lemmas.CompileCorrect2
open Marwood Marwood.Vm Marwood.Lemmas.CompileCorrect

variable {H : Type} {ops : HeapOps H}

theorem Denotes.loads {s : MSt H} {j e n : Nat} {v : VCell} (hd : Denotes ops s.heap s.ep j e n)
    (hv : ops.envGet s.heap e n = some v) (hnp : isEnvPtr v = false) : OpLoads ops s (.lexEnvSlot j) v := by
  rcases hd with hp | ⟨rfl, rfl, -⟩
  · exact .envPtr hp hv
  · exact .env hv fun _ _ h => by subst h; cases hnp

theorem Denotes.stores {s : MSt H} {j e n : Nat} {w : VCell} {h' : H} (hd : Denotes ops s.heap s.ep j e n)
    (hp : ops.envPut s.heap e n w = some h') : OpStores ops s w (.lexEnvSlot j) { s with heap := h' } := by
  rcases hd with hq | ⟨rfl, rfl, v', hv', hnp⟩
  · exact .envPtr hq hp
  · exact .env hv' (fun _ _ h => by subst h; cases hnp) hp

theorem step_mov_env_acc {s : MSt H} {j e n : Nat} {v : VCell} (hl : ops.isLambda s.heap s.ipL = true)
    (h0 : ops.fetch s.heap s.ipL s.ipO = some (.opcode .mov))
    (h1 : ops.fetch s.heap s.ipL (s.ipO + 1) = some (.lexEnvSlot j))
    (h2 : ops.fetch s.heap s.ipL (s.ipO + 2) = some .acc)
    (hd : Denotes ops s.heap s.ep j e n) (hv : ops.envGet s.heap e n = some v) (hnp : isEnvPtr v = false) :
    step ops s = .ok ({ s with acc := v, ipO := s.ipO + 3 }, false) :=
  StepEff.run (readOpcode_eq hl h0) (.mov h1 (hd.loads hv hnp) h2 .acc)

theorem step_mov_acc_env {s : MSt H} {j e n : Nat} {h' : H} (hl : ops.isLambda s.heap s.ipL = true)
    (h0 : ops.fetch s.heap s.ipL s.ipO = some (.opcode .mov))
    (h1 : ops.fetch s.heap s.ipL (s.ipO + 1) = some .acc)
    (h2 : ops.fetch s.heap s.ipL (s.ipO + 2) = some (.lexEnvSlot j))
    (hd : Denotes ops s.heap s.ep j e n) (hp : ops.envPut s.heap e n s.acc = some h') :
    step ops s = .ok ({ s with heap := h', ipO := s.ipO + 3 }, false) :=
  StepEff.run (readOpcode_eq hl h0)
    (.mov h1 .acc h2 (Denotes.stores (s := { s with ipO := s.ipO + 1 + 1 + 1 }) hd hp))

theorem step_closure {s : MSt H} {lam : Nat} {h' : H} {cl : VCell} (hl : ops.isLambda s.heap s.ipL = true)
    (h0 : ops.fetch s.heap s.ipL s.ipO = some (.opcode .closureAcc))
    (hacc : s.acc = .ptr lam) (hm : ops.makeClosure s.heap lam s.ep s.bp s.stack = .ok (h', cl)) :
    step ops s = .ok ({ s with heap := h', acc := cl, ipO := s.ipO + 1 }, false) :=
  StepEff.run (readOpcode_eq hl h0) (.closure hacc hm)

theorem step_call_closure {s : MSt H} {lam env : Nat} (hl : ops.isLambda s.heap s.ipL = true)
    (h0 : ops.fetch s.heap s.ipL s.ipO = some (.opcode .callAcc))
    (hc : ops.callee s.heap s.acc = .closure lam env) :
    step ops s = .ok ({ s with stack := (s.stack.push (.envPtr s.ep)).push (.instrPtr s.ipL (s.ipO + 1)),
                               ipL := lam, ipO := 0 }, false) :=
  StepEff.run (readOpcode_eq hl h0) (.callProc (.inl ⟨env, hc⟩))

theorem step_enter_closure {s : MSt H} {lam env n : Nat} {h' : H} {a : Nat}
    (hl : ops.isLambda s.heap s.ipL = true)
    (h0 : ops.fetch s.heap s.ipL s.ipO = some (.opcode .enter))
    (hc : ops.callee s.heap s.acc = .closure lam env)
    (hi : ops.lambdaInfo s.heap lam = some ⟨n⟩)
    (hsp : 3 ≤ s.stack.sp) (hargc : s.stack.cells[s.stack.sp - 2]? = some (.argc n))
    (hm : ops.makeActivation s.heap lam env (s.stack.sp + 1 - 4) (s.stack.push (.basePtr s.bp)) = .ok (h', a)) :
    step ops s = .ok ({ s with heap := h', ep := a, stack := s.stack.push (.basePtr s.bp),
                               bp := s.stack.sp + 1 - 4, ipO := s.ipO + 1 }, false) :=
  StepEff.run (readOpcode_eq hl h0)
    (.enter (enterLam_eq_some.mpr (.inl ⟨env, hc⟩)) hi hargc hsp (.inr ⟨env, hc, hm⟩))

theorem step_enter_arity {s : MSt H} {lam env n m : Nat} (hl : ops.isLambda s.heap s.ipL = true)
    (h0 : ops.fetch s.heap s.ipL s.ipO = some (.opcode .enter))
    (hc : ops.callee s.heap s.acc = .closure lam env) (hi : ops.lambdaInfo s.heap lam = some ⟨n⟩)
    (hsp : 2 ≤ s.stack.sp) (hargc : s.stack.cells[s.stack.sp - 2]? = some (.argc m)) (hne : m ≠ n) :
    step ops s = .err .invalidNumArgs := by
  have hoff : s.stack.getOffset (-2) = .ok (.argc m) := by
    rw [← Stack.cellAt_of_some hargc]; exact Stack.getOffset_of_lt s.stack 2 hsp (Stack.lt_of_some hargc)
  rw [step_read (readOpcode_eq hl h0), execOp]
  simp only [outcome_bind_ok, stepEnter, hc, hi, hoff, asArgc, ne_eq, hne, not_false_eq_true, if_true]
  rfl

theorem step_ret {s : MSt H} {n e l o b : Nat} (hl : ops.isLambda s.heap s.ipL = true)
    (h0 : ops.fetch s.heap s.ipL s.ipO = some (.opcode .ret))
    (h1 : s.stack.cells[s.bp + 1]? = some (.argc n)) (hn : n ≤ s.bp)
    (h2 : s.stack.cells[s.bp + 2]? = some (.envPtr e))
    (h3 : s.stack.cells[s.bp + 3]? = some (.instrPtr l o))
    (h4 : s.stack.cells[s.bp + 4]? = some (.basePtr b)) :
    step ops s = .ok ({ s with stack := { s.stack with sp := s.bp - n }, ep := e, ipL := l, ipO := o, bp := b },
      false) :=
  StepEff.run (readOpcode_eq hl h0) (.ret h1 h2 h3 h4 hn)

end Marwood.Lemmas.CompileCorrect2
