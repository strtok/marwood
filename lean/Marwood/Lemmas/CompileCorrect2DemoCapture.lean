import Marwood.Lemmas.CompileCorrect2Demo
/-!
# T01.3 stage 2: a captured variable, `((lambda (x) ((lambda (y) x) 2)) 1)`

The inner procedure's environment map is `[y ↦ Argument 0, x ↦ IofEnvironment]`: CLOSURE (run inside the outer
activation) makes its slot for `x` a `LexicalEnvPtr` to slot 0 of the outer activation's environment, ENTER copies that
pointer into the inner activation's environment, and the reference to `x` loads through it: one level of indirection.
The call of the inner procedure is a `TCALL` with equal argument counts.
-/
namespace Marwood.Lemmas.CompileCorrect2.Toy
open Marwood Marwood.Vm Marwood.Lemmas.CompileCorrect Marwood.Lemmas.CompileCorrect2
open Marwood.Spec.Eval (Val Cell evalN k_lambda k_if_)

def ky : Text := ['y']

def lamI : Datum := Datum.ofList [.sym k_lambda, Datum.ofList [.sym ky], .sym kx]
def lamO : Datum := Datum.ofList [.sym k_lambda, Datum.ofList [.sym kx], Datum.ofList [lamI, .num (.fix 2)]]
def progC : Datum := Datum.ofList [lamO, .num (.fix 1)]

def ctxI : Ctx := ⟨[ky], [(ky, .argument 0), (kx, .iofEnvironment)]⟩

def partsI : LambdaParts :=
  { formals := [ky], isVararg := false, ctx := ctxI, prologue := [.op .enter], body := Datum.ofList [.sym kx] }

def partsO : LambdaParts :=
  { formals := [kx], isVararg := false, ctx := lamCtx, prologue := [.op .enter],
    body := Datum.ofList [Datum.ofList [lamI, .num (.fix 2)]] }

def codeI : List BC := [.op .mov, .envSlot kx, .acc]

def codeO : List BC :=
  [.op .movImm, .datum (.num (.fix 2)), .acc, .op .pushAcc, .op .pushImm, .argc 1,
   .op .movImm, .lambda 0, .acc, .op .closureAcc, .op .tcallAcc]

def lamMI : LambdaM := lamOf partsI codeI
def lamMO : LambdaM := lamOf partsO codeO

def progCodeC : List BC :=
  [.op .movImm, .datum (.num (.fix 1)), .acc, .op .pushAcc, .op .pushImm, .argc 1,
   .op .movImm, .lambda 1, .acc, .op .closureAcc, .op .callAcc]

theorem partsO_ok : lambdaParts 18 c0 lamO false = .ok partsO := by rfl
theorem partsI_ok : lambdaParts 15 lamCtx lamI false = .ok partsI := by rfl

theorem compileC : compileExpr 20 {} c0 0 false progC = .ok ({ lambdas := [lamMI, lamMO] }, progCodeC) :=
  okIs_eq (by decide +kernel)

def cellsI : List VCell := [.opcode .enter, .opcode .mov, .lexEnvSlot 1, .acc, .opcode .ret]

def cellsO : List VCell :=
  [.opcode .enter, .opcode .movImm, .opaque "n2", .acc, .opcode .pushAcc, .opcode .pushImm, .argc 1,
   .opcode .movImm, .ptr 0, .acc, .opcode .closureAcc, .opcode .tcallAcc, .opcode .ret]

def cellsC : List VCell :=
  [.opcode .movImm, .opaque "n1", .acc, .opcode .pushAcc, .opcode .pushImm, .argc 1,
   .opcode .movImm, .ptr 1, .acc, .opcode .closureAcc, .opcode .callAcc]

def heapC : THeap :=
  { lams := [⟨cellsI, 1, [.arg 0, .iofEnv 0]⟩, ⟨cellsO, 1, [.arg 0]⟩, ⟨cellsC, 0, []⟩], envs := #[], clos := #[],
    globals := #[] }

def stateC : MSt THeap :=
  { heap := heapC, stack := ⟨List.replicate 8 .undefined, 0⟩, acc := .undefined, ep := 0, ipL := 2, ipO := 0,
    bp := 0 }

def stC' : SSt := { globals := [], store := #[.var (.int 1), .var (.int 2)], out := [] }

theorem evalC : (evalN 8).eval progC [] demoSt = .ok (.int 1) stC' := by rfl

abbrev dC : RepData2 tops := tD [lamMI, lamMO]

theorem fragC : F2 (fun _ => False) 20 c0 (bound []) false progC := by
  refine F2.app lamO _ ⟨by decide, by intro x h; cases h⟩ ?_ (F2L.cons _ _ (F2.num _) F2L.nil)
  refine F2.lambda (Datum.ofList [.sym kx]) _ partsO [kx] _ [] [] partsO_ok (by rfl) rfl rfl (by decide) (by rfl)
    (by intro e he; simp at he; subst he; rfl) rfl (by intro q hq; cases hq) ?_
  refine F2B.last _ (F2.app lamI _ ⟨by decide, by intro x h; cases h⟩ ?_ (F2L.cons _ _ (F2.num _) F2L.nil))
  refine F2.lambda (Datum.ofList [.sym ky]) _ partsI [ky] _ [] [(kx, .iofEnvironment)] partsI_ok (by rfl) rfl rfl
    (by decide) (by rfl) (by intro e he; simp at he; subst he; rfl) rfl ?_ ?_
  · intro q hq
    have : q = (kx, .iofEnvironment) := by simpa using hq
    subst this
    exact ⟨rfl, by decide⟩
  · exact F2B.last _ (F2.sym kx ⟨fun _ => .inr (.inl (by simp)), fun _ => by decide⟩)

theorem codeC_I (S : Array Cell) : CodeAt2 dC ctxI.envmap heapC S 0 0 lamMI.bc := by
  have hslot : Loads2 dC ctxI.envmap heapC S (.envSlot kx) (.lexEnvSlot 1) := ⟨1, by decide, rfl⟩
  exact codeAt_lam (t := ⟨cellsI, 1, [.arg 0, .iofEnv 0]⟩) rfl
    (.cons rfl (.cons rfl (.cons hslot (.cons rfl (.cons rfl .nil)))))

theorem codeC_O (S : Array Cell) : CodeAt2 dC lamCtx.envmap heapC S 1 0 lamMO.bc :=
  codeAt_lam (t := ⟨cellsO, 1, [.arg 0]⟩) rfl (.cons rfl (.cons rfl (.cons (loads_fix _ _ _ _ 2 rfl) (.cons rfl (.cons rfl
    (.cons rfl (.cons rfl (.cons rfl (.cons (loads_lambda (id := 0) rfl rfl rfl)
    (.cons rfl (.cons rfl (.cons rfl (.cons rfl .nil)))))))))))))

theorem codeC_top (S : Array Cell) : CodeAt2 dC c0.envmap heapC S 2 0 progCodeC :=
  codeAt_lam (t := ⟨cellsC, 0, []⟩) rfl (.cons rfl (.cons (loads_fix _ _ _ _ 1 rfl) (.cons rfl (.cons rfl (.cons rfl
    (.cons rfl (.cons rfl (.cons (loads_lambda (id := 1) rfl rfl rfl) (.cons rfl
    (.cons rfl (.cons rfl .nil)))))))))))

theorem invC : Inv2 dC W0 heapC demoSt :=
  inv_empty (forall_getElem?_cons ⟨codeC_I _, rfl⟩ (forall_getElem?_cons ⟨codeC_O _, rfl⟩ forall_getElem?_nil))

/-- **Non-vacuity, captured variable**: the reference to `x` inside `(lambda (y) x)` goes through the one-level
    pointer CLOSURE and ENTER set up, and yields the outer argument. -/
theorem demo_capture_runs :
    ∃ W' s', Run2 dC W' stateC 11 demoSt stC' (.int 1) s' ∧ s'.acc = .opaque "n1" := by
  obtain ⟨W', s', _, r⟩ := compileExpr_correct2_nontail (laws [lamMI, lamMO]) 20 {} c0 0 progC _ progCodeC []
    fragC ctxOK_top compileC (List.prefix_refl _) 8 demoSt (.int 1) stC' evalC W0 stateC
    (codeC_top _) rfl invC (envRep_top _ _ _) (by show 0 < 8; omega)
  exact ⟨W', s', r, tVRc_int r.acc⟩

end Marwood.Lemmas.CompileCorrect2.Toy
