import Marwood.Lemmas.StackDiscOfWFS
/-!
# The heap a loader leaves for a closed program: one code object and free cells

Every clause of `HG`, `CInvG IsValue`, `GoodI` and `VmOk` of such a heap comes from the shape of the three tables and from
what is asked of the one code object; the demo heaps of Lemmas/GoodDemo.lean and Lemmas/ListExtDemo.lean are instances.
-/
namespace Marwood.Lemmas.Good
open Marwood Marwood.Vm Marwood.Vm.Verify Marwood.Vm.Concrete Marwood.Lemmas.Sim
open Marwood.Heap (Heap GcState WFHeap RootsOk Roots vrefs vrefsList crefs)

structure CodeHeap (h : CHeap) (lam : CLambda) (n : Nat) : Prop where
  cells : h.cells.toList = .lambda lam :: List.replicate n (.val .undefined)
  gc : h.gc.toList = .allocated :: List.replicate n .free
  free : h.free = List.range' 1 n
  symtab : h.symtab = []
  shape : 0 < h.chunk ∧ h.chunk % 4 = 0 ∧ ∃ k, 0 < k ∧ n + 1 = k * h.chunk
  bound : n + 1 ≤ 2 ^ 63
  globals : ∀ v ∈ h.globals.toList, plainGlob v = true
  /-- the code object refers to no heap cell -/
  closed : crefs true (eraseC (.lambda lam)) = []
  lamOk : LamOk lam
  ver : (verifyLam lam.bc).isSome = true
  args : argNeed lam.bc ≤ lam.args.length

theorem getElem?_cons_replicate {α : Type} {a b c : α} {n i : Nat} :
    (a :: List.replicate n b)[i]? = some c ↔ (i = 0 ∧ c = a) ∨ (i ≠ 0 ∧ i < n + 1 ∧ c = b) := by
  cases i with
  | zero => simp [eq_comm]
  | succ j => simp [List.getElem?_replicate, eq_comm]

namespace CodeHeap
section
variable {h : CHeap} {lam : CLambda} {n : Nat} (x : CodeHeap h lam n)
include x

theorem cellAt {i : Nat} {c : CCell} :
    h.cells[i]? = some c ↔ (i = 0 ∧ c = .lambda lam) ∨ (i ≠ 0 ∧ i < n + 1 ∧ c = .val .undefined) := by
  rw [← Array.getElem?_toList, x.cells]; exact getElem?_cons_replicate

theorem gcAt {i : Nat} {g : GcState} :
    h.gc[i]? = some g ↔ (i = 0 ∧ g = .allocated) ∨ (i ≠ 0 ∧ i < n + 1 ∧ g = .free) := by
  rw [← Array.getElem?_toList, x.gc]; exact getElem?_cons_replicate

theorem size : h.cells.size = n + 1 := by
  rw [← Array.length_toList, x.cells]; simp

theorem gcSize : h.gc.size = n + 1 := by
  rw [← Array.length_toList, x.gc]; simp

theorem cell_cases {i : Nat} {c : CCell} (hc : h.cells[i]? = some c) :
    (i = 0 ∧ c = .lambda lam) ∨ c = .val .undefined :=
  (x.cellAt.mp hc).imp_right (·.2.2)

theorem lambda_cell {i : Nat} {l : CLambda} (hc : h.cells[i]? = some (.lambda l)) : i = 0 ∧ l = lam := by
  rcases x.cell_cases hc with ⟨h0, e⟩ | e
  · cases e; exact ⟨h0, rfl⟩
  · cases e

theorem cell0 : h.cells[0]? = some (.lambda lam) := x.cellAt.mpr (.inl ⟨rfl, rfl⟩)

theorem free_iff (i : Nat) : h.gc[i]? = some GcState.free ↔ i ≠ 0 ∧ i < n + 1 :=
  x.gcAt.trans (by simp)

theorem mem_free (i : Nat) : i ∈ h.free ↔ i ≠ 0 ∧ i < n + 1 := by
  rw [x.free, List.mem_range'_1, Nat.one_le_iff_ne_zero, Nat.add_comm]

theorem nonFree (i : Nat) : (toHeap h).NonFree i ↔ i = 0 :=
  (or_congr x.gcAt x.gcAt).trans (by simp)

theorem esize : (toHeap h).cells.size = n + 1 := (Array.size_map ..).trans x.size

theorem wf : WFHeap true (toHeap h) := by
  refine ⟨⟨x.gcSize.trans x.esize.symm, by rw [x.esize]; exact x.shape, by rw [x.esize]; exact x.bound,
    fun i => (x.mem_free i).trans (x.free_iff i).symm, ?_, ?_, ?_, ?_⟩, ?_⟩
  · show h.free.Nodup
    rw [x.free]; exact List.nodup_range'
  · intro i hi
    obtain ⟨h0, hn⟩ := (x.free_iff i).mp hi
    rw [toHeap_cells_get, x.cellAt.mpr (.inr ⟨h0, hn, rfl⟩)]; rfl
  · intro name i
    have e : (toHeap h).symLookup name = none := by
      show (h.symtab.find? _).map _ = none
      rw [x.symtab]; rfl
    rw [e]
    constructor
    · intro hh; cases hh
    · rintro ⟨h1, h2⟩
      rw [(x.nonFree i).mp h2, toHeap_cells_get, x.cell0] at h1
      cases h1
  · intro i hi y hy
    rw [(x.nonFree i).mp hi, toHeap_children, x.cell0] at hy
    simp only [x.closed] at hy
    cases hy
  · intro i hu
    rcases x.gcAt.mp hu with ⟨_, e⟩ | ⟨_, _, e⟩ <;> cases e

theorem hg : HG h := by
  refine ⟨x.wf, ⟨?_, x.globals, ?_⟩, ?_, ?_⟩
  · intro i v hv
    rcases x.cell_cases hv with ⟨_, e⟩ | e <;> cases e
    rfl
  · intro i c hc
    rcases x.cell_cases hc with ⟨_, e⟩ | e <;> cases e
  · intro i l hl
    rw [(x.lambda_cell hl).2]; exact x.lamOk
  · intro i ss hs
    rcases x.cell_cases hs with ⟨_, e⟩ | e <;> cases e

theorem cinv : CInvG IsValue h := by
  refine ⟨by rw [x.size, x.gcSize], by rw [x.size]; exact x.shape, x.wf.no_used, ?_, ?_, ?_, ?_, ?_⟩
  · intro l l' hl hm
    exact ((x.mem_free l).mp hm).1 (x.lambda_cell hl).1
  · intro l l' hl
    rw [(x.lambda_cell hl).2]; exact x.ver
  · intro l l' hl
    rw [(x.lambda_cell hl).2]; exact x.lamOk.noIof
  · intro l l' hl
    rw [(x.lambda_cell hl).2]; exact x.args
  · intro p c hc
    rcases x.cell_cases hc with ⟨_, e⟩ | e <;> cases e

end
variable {lam : CLambda} {n : Nat}

theorem goodI {s : St CHeap} (x : CodeHeap s.heap lam n)
    (hr : ∀ y ∈ (rootsOf s).refs true, y = 0 ∨ 2 ^ 63 ≤ y) (ha : plainGlob s.acc = true) : GoodI s :=
  ⟨x.hg, fun y hy => (hr y hy).imp (x.nonFree y).mpr id, ha⟩

theorem vmOk (ext : ExtOps) (ecl : ExtCodeLawsV ext) {s : St CHeap} (x : CodeHeap s.heap lam n)
    (hr : ∀ y ∈ (rootsOf s).refs true, y = 0 ∨ 2 ^ 63 ≤ y) (ha : plainGlob s.acc = true)
    (hip : prepare s 0 = s) (hent : isEntryCode lam.bc = true) (hsp : s.stack.sp = 0)
    (hcap : 0 < s.stack.cells.length) : VmOk ext ecl s := by
  refine ⟨goodI x hr ha, .inl ⟨[], ?_⟩⟩
  obtain ⟨t, ht⟩ := Option.isSome_iff_exists.mp x.ver
  have hty : tyOf ((concreteLawsV ext ecl).code s.heap) 0 = some t := by
    show ((lambdaAt s.heap 0).map (·.bc)).bind verifyLam = some t
    rw [lambdaAt_iff.mpr x.cell0]; exact ht
  rw [← hip]
  exact WFS.initial (cl := concreteLawsV ext ecl) x.cinv hty (by rw [verifyLam_entry ht]; exact hent) hsp
    (by rw [hsp]; exact hcap) ha

end CodeHeap

end Marwood.Lemmas.Good
