import Marwood.Transform.Driver
import Marwood.Spec.ExpandAll
import Marwood.Lemmas.TransformBasic
/-!
# The expansion driver (`Transform.Driver`) against the R7RS reading (`Spec.ExpandAll`), by kind of pair

What `Vm::transform` does with a pair, and `transform_quasiquote` with a template pair, is stated once:
a classification (`pairKind`, `qqKind`: functions of the table and the pair, not of what is done with
an expansion) and one equation each (`walk_pair`, `walkQQ_pair`); the inductions over the datum `cases`
on the kind. Likewise the specification and its guard (`sxKind`, `sx_pair`, `gx_pair`, `sxQQ_pair`,
`gxQQ_pair`); `sxKind_specTable` is the specification's kind from the driver's.
-/
namespace Marwood.Transform
open Marwood Marwood.Spec.Match Marwood.Spec.ExpandAll

theorem Res.bind_eq_ok {α β} {x : Res α} {f : α → Res β} {b : β} :
    x.bind f = .ok b ↔ ∃ a, x = .ok a ∧ f a = .ok b := by
  cases x <;> simp [Res.bind]

theorem Res.bind_eq_fuel {α β} {x : Res α} {f : α → Res β} :
    x.bind f = .fuel ↔ x = .fuel ∨ ∃ a, x = .ok a ∧ f a = .fuel := by
  cases x <;> simp [Res.bind]

theorem XRes.bind_eq_ok {x : XRes} {f : Datum → XRes} {b : Datum} :
    x.bind f = .ok b ↔ ∃ a, x = .ok a ∧ f a = .ok b := by
  cases x <;> simp [XRes.bind]

@[simp] theorem XRes.bind_ok (a : Datum) (f : Datum → XRes) : (XRes.ok a).bind f = f a := rfl
@[simp] theorem Res.bind_ok' {α β} (a : α) (f : α → Res β) : (Res.ok a).bind f = f a := rfl

theorem Res.bind_assoc {α β γ} (x : Res α) (f : α → Res β) (g : β → Res γ) :
    (x.bind f).bind g = x.bind fun a => (f a).bind g := by
  cases x <;> rfl

theorem XRes.bind_assoc (x : XRes) (f g : Datum → XRes) :
    (x.bind f).bind g = x.bind fun a => (f a).bind g := by
  cases x <;> rfl

theorem headKind_sym (s : Text) :
    headKind (.sym s) =
      if s = Spec.ExpandAll.quoteN ∨ s = Spec.ExpandAll.defineSyntaxN then .asIs
      else if s = Spec.ExpandAll.quasiquoteN then .quasi else .other := rfl

theorem isUnquote_iff (a : Datum) : isUnquote a = true ↔ a = .sym Spec.ExpandAll.unquoteN := by
  cases a <;> simp only [isUnquote, decide_eq_true_eq, reduceCtorEq, Bool.false_eq_true]
  exact ⟨fun h => by rw [h]; rfl, fun h => Datum.sym.inj h⟩

theorem isQuasiquote_iff (a : Datum) : isQuasiquote a = true ↔ a = .sym Spec.ExpandAll.quasiquoteN := by
  cases a <;> simp only [isQuasiquote, decide_eq_true_eq, reduceCtorEq, Bool.false_eq_true]
  exact ⟨fun h => by rw [h]; rfl, fun h => Datum.sym.inj h⟩

theorem isUnquote_false {a : Datum} (h : a ≠ .sym Spec.ExpandAll.unquoteN) : isUnquote a = false := by
  cases h' : isUnquote a
  · rfl
  · exact absurd ((isUnquote_iff a).mp h') h

theorem isQuasiquote_false {a : Datum} (h : a ≠ .sym Spec.ExpandAll.quasiquoteN) : isQuasiquote a = false := by
  cases h' : isQuasiquote a
  · rfl
  · exact absurd ((isQuasiquote_iff a).mp h') h

def specTable (M : MacroTable) : STable := M.map fun p => (p.1, (⟨ctxOf p.2, specRules p.2⟩ : Rules))

theorem lookup_specTable (M : MacroTable) (s : Text) :
    (specTable M).lookup s = (M.lookup s).map fun t => (⟨ctxOf t, specRules t⟩ : Rules) := by
  induction M with
  | nil => rfl
  | cons p M ih =>
    obtain ⟨k, t⟩ := p
    simp only [specTable, List.map_cons, List.lookup_cons] at ih ⊢
    cases h : s == k
    · exact ih
    · rfl

theorem lookup_none_of_mentions {M : MacroTable} {s : Text}
    (h : mentions (specTable M) (.sym s) = false) : M.lookup s = none := by
  simp only [mentions, lookup_specTable] at h
  cases hl : M.lookup s with
  | none => rfl
  | some t => rw [hl] at h; cases h

theorem dsize_pair (a d : Datum) : dsize (.pair a d) = dsize a + dsize d + 1 := rfl
theorem dsize_vec (e : Datum) : dsize (.vec e) = dsize e + 1 := rfl

theorem gxUnq_nonpair (c : GuardSel) (gre : STable → Datum → Bool) (T : STable) {d : Datum}
    (h : d.isPair = false) : gxUnq c gre T d = none := by cases d <;> first | rfl | cases h
theorem gxBody_nonpair (c : GuardSel) (gre : STable → Datum → Bool) (T : STable) {d : Datum}
    (h : d.isPair = false) : gxBody c gre T d = none := by cases d <;> first | rfl | cases h

theorem walkList_nonpair (M : MacroTable) (re : Datum → Res Datum) {d : Datum} (h : d.isPair = false) :
    walkList M re d = .ok d := by cases d <;> first | rfl | cases h
theorem sxList_nonpair (sre : STable → Datum → XRes) (T : STable) {d : Datum} (h : d.isPair = false) :
    sxList sre T d = .ok d := by cases d <;> first | rfl | cases h

theorem walk_nonpair (M : MacroTable) (re : Datum → Res Datum) {d : Datum} (h : d.isPair = false) :
    walk M re d = .ok d := by cases d <;> first | rfl | cases h
theorem walkQQSpine_nonpair (M : MacroTable) (re : Datum → Res Datum) (k : Nat) {d : Datum}
    (h : d.isPair = false) : walkQQSpine M re k d = .ok d := by cases d <;> first | rfl | cases h
theorem sx_nonpair (sre : STable → Datum → XRes) (T : STable) {d : Datum} (h : d.isPair = false) :
    sx sre T d = .ok d := by cases d <;> first | rfl | cases h
theorem sxQQVec_nonpair (sre : STable → Datum → XRes) (T : STable) (k : Nat) {d : Datum}
    (h : d.isPair = false) : sxQQVec sre T k d = .ok d := by cases d <;> first | rfl | cases h

def isVec : Datum → Bool
  | .vec _ => true
  | _ => false

theorem walkQQ_atom (M : MacroTable) (re : Datum → Res Datum) (k : Nat) {d : Datum}
    (h : d.isPair = false) (h' : isVec d = false) : walkQQ M re k d = .ok d := by
  cases d <;> first | rfl | (cases h; done) | cases h'
theorem sxQQ_atom (sre : STable → Datum → XRes) (T : STable) (k : Nat) {d : Datum}
    (h : d.isPair = false) (h' : isVec d = false) : sxQQ sre T k d = .ok d := by
  cases d <;> first | rfl | (cases h; done) | cases h'

/-- the driver looks at the car of the cdr: `(quasiquote tpl . r)`, `(unquote e . rest)` -/
theorem Datum.ind_cadr {P : Datum → Prop}
    (pair : ∀ a r, P a → P r → (∀ x y, r = .pair x y → P x) → P (.pair a r))
    (vec : ∀ e, P e → P (.vec e))
    (atom : ∀ d, d.isPair = false → isVec d = false → P d) (d : Datum) : P d := by
  suffices h : P d ∧ ∀ x y, d = .pair x y → P x from h.1
  induction d with
  | pair a r iha ihr => exact ⟨pair a r iha.1 ihr.1 ihr.2, fun x y h => by cases h; exact iha.1⟩
  | vec e ih => exact ⟨vec e ih.1, fun _ _ h => by cases h⟩
  | _ => exact ⟨atom _ rfl rfl, fun _ _ h => by cases h⟩

/-- `transform_procedure_application` on `(hd . rest)` -/
inductive PairKind
  | asIs                      -- `quote`, `define-syntax`: returned as it is
  | quasi (tpl r : Datum)     -- `(quasiquote tpl . r)`: only `tpl` is walked, as a template at depth 0
  | use (t : Transform)       -- a macro use: expanded as written, the expansion handed to `re`
  | elems                     -- every element is transformed

def useKind (M : MacroTable) (hd : Datum) : PairKind :=
  match macroOf M hd with
  | some t => .use t
  | none => .elems

def pairKind (M : MacroTable) (hd rest : Datum) : PairKind :=
  match headKind hd with
  | .asIs => .asIs
  | .quasi =>
    match rest with
    | .pair tpl r => .quasi tpl r
    | _ => useKind M hd
  | .other => useKind M hd

theorem pairKind_quasi {M : MacroTable} {hd rest tpl r : Datum} :
    pairKind M hd rest = .quasi tpl r → rest = .pair tpl r := by
  have hu : useKind M hd = .quasi tpl r → rest = .pair tpl r := by
    unfold useKind
    cases macroOf M hd <;> (intro h; cases h)
  unfold pairKind
  cases headKind hd with
  | asIs => intro h; cases h
  | other => exact hu
  | quasi =>
    cases rest with
    | pair x y => intro h; cases h; rfl
    | _ => exact hu

theorem pairKind_use {M : MacroTable} {hd rest : Datum} {t : Transform} :
    pairKind M hd rest = .use t → ∃ s, hd = .sym s ∧ M.lookup s = some t := by
  have hu : useKind M hd = .use t → ∃ s, hd = .sym s ∧ M.lookup s = some t := by
    unfold useKind
    cases hd with
    | sym s =>
      rw [macroOf]
      cases hl : M.lookup s with
      | some t' => intro h; cases h; exact ⟨s, rfl, hl⟩
      | none => intro h; cases h
    | _ => intro h; cases h
  unfold pairKind
  cases headKind hd with
  | asIs => intro h; cases h
  | other => exact hu
  | quasi =>
    cases rest with
    | pair x y => intro h; cases h
    | _ => exact hu

section
variable (M : MacroTable) (re : Datum → Res Datum)

/-- the last case is the loop over ALL the elements, the head included -/
theorem walk_pair (hd rest : Datum) :
    walk M re (.pair hd rest) =
      match pairKind M hd rest with
      | .asIs => .ok (.pair hd rest)
      | .quasi tpl r => (walkQQ M re 0 tpl).bind fun t' => .ok (.pair hd (.pair t' r))
      | .use t => expandUse re t (.pair hd rest)
      | .elems => walkList M re (.pair hd rest) := by
  rw [walk, walkList]
  unfold walkPair pairKind useKind
  cases macroOf M hd <;> cases headKind hd with
  | asIs => rfl
  | other => rfl
  | quasi =>
    cases rest with
    | pair tpl r => rw [walkQQHead]; exact Res.bind_assoc _ _ _
    | _ => rfl

/-- `transform_quasiquote` on the template pair `(a . d)` at depth `k` -/
inductive QQKind
  | unquote0 (e rest : Datum)   -- depth-0 `(unquote e . rest)`: `e` is transformed as an expression
  | unquote0Atom                -- depth-0 `(unquote . d)`, `d` not a pair: returned as it is
  -- every element is a template at depth `k'`; `kw`: the car is the keyword that made `k'` differ from
  -- the depth of the pair (`unquote`: one less, `quasiquote`: one more)
  | elems (k' : Nat) (kw : Bool)

def qqKind (a d : Datum) (k : Nat) : QQKind :=
  if isUnquote a then
    match k with
    | 0 =>
      match d with
      | .pair e rest => .unquote0 e rest
      | _ => .unquote0Atom
    | m + 1 => .elems m true
  else if isQuasiquote a then .elems (k + 1) true
  else .elems k false

theorem qqKind_unquote0 {a d e rest : Datum} {k : Nat} :
    qqKind a d k = .unquote0 e rest → d = .pair e rest := by
  unfold qqKind
  cases isUnquote a with
  | true =>
    cases k with
    | zero =>
      cases d with
      | pair x y => intro h; cases h; rfl
      | _ => intro h; cases h
    | succ m => intro h; cases h
  | false => cases isQuasiquote a <;> (intro h; cases h)

theorem walkQQ_pair (a d : Datum) (k : Nat) :
    walkQQ M re k (.pair a d) =
      match qqKind a d k with
      | .unquote0 e rest => (walk M re e).bind fun e' => .ok (.pair a (.pair e' rest))
      | .unquote0Atom => .ok (.pair a d)
      | .elems k' _ => walkQQSpine M re k' (.pair a d) := by
  have hs : ∀ k', ((walkQQ M re k' a).bind fun a' => (walkQQSpine M re k' d).bind fun d' =>
      Res.ok (Datum.pair a' d')) = walkQQSpine M re k' (.pair a d) := fun k' => by rw [walkQQSpine]
  rw [walkQQ]
  unfold walkQQPair qqKind
  cases isUnquote a with
  | true =>
    cases k with
    | zero =>
      cases d with
      | pair e rest => rw [walkUnq]; exact Res.bind_assoc _ _ _
      | _ => rfl
    | succ m => exact hs m
  | false => cases isQuasiquote a <;> exact hs _

theorem walk_noMention_aux (d : Datum) :
    mentions (specTable M) d = false →
      walk M re d = .ok d ∧ walkList M re d = .ok d ∧
      (∀ k, walkQQ M re k d = .ok d) ∧ (∀ k, walkQQSpine M re k d = .ok d) := by
  induction d using Datum.ind_cadr with
  | pair a r iha ihr ihc =>
    intro hm
    simp only [mentions, Bool.or_eq_false_iff] at hm
    obtain ⟨ha1, _, ha3, _⟩ := iha hm.1
    obtain ⟨_, hr2, _, hr4⟩ := ihr hm.2
    have hlist : walkList M re (.pair a r) = .ok (.pair a r) := by rw [walkList, ha1, hr2]; rfl
    have hspine : ∀ k, walkQQSpine M re k (.pair a r) = .ok (.pair a r) := by
      intro k; rw [walkQQSpine, ha3 k, hr4 k]; rfl
    refine ⟨?_, hlist, ?_, hspine⟩
    · rw [walk_pair]
      cases hk : pairKind M a r with
      | asIs => rfl
      | quasi tpl r' =>
        have hr := pairKind_quasi hk
        simp only [hr, mentions, Bool.or_eq_false_iff] at hm
        simp only [(ihc tpl r' hr hm.2.1).2.2.1 0, hr, Res.bind_ok']
      | use t =>
        obtain ⟨s, rfl, hl⟩ := pairKind_use hk
        rw [lookup_none_of_mentions hm.1] at hl; cases hl
      | elems => exact hlist
    · intro k
      rw [walkQQ_pair]
      cases hk : qqKind a r k with
      | unquote0 e rest =>
        have hr := qqKind_unquote0 hk
        simp only [hr, mentions, Bool.or_eq_false_iff] at hm
        simp only [(ihc e rest hr hm.2.1).1, hr, Res.bind_ok']
      | unquote0Atom => rfl
      | elems k' _ => exact hspine k'
  | vec e ih =>
    intro hm
    simp only [mentions] at hm
    refine ⟨walk_nonpair M re rfl, walkList_nonpair M re rfl, fun k => ?_, fun k => walkQQSpine_nonpair M re k rfl⟩
    rw [walkQQ, (ih hm).2.2.2 k]; rfl
  | atom d h h' =>
    exact fun _ => ⟨walk_nonpair M re h, walkList_nonpair M re h, fun k => walkQQ_atom M re k h h',
      fun k => walkQQSpine_nonpair M re k h⟩

theorem walk_noMention (M : MacroTable) (re : Datum → Res Datum) (d : Datum)
    (h : mentions (specTable M) d = false) : walk M re d = .ok d :=
  (walk_noMention_aux M re d h).1

end

theorem lookup_none_of_symsOf {T : STable} {d : Datum} (h : mentions T d = false) :
    ∀ s ∈ symsOf d, T.lookup s = none := by
  induction d with
  | sym x =>
    intro s hs
    simp only [symsOf, List.mem_singleton] at hs
    subst hs
    simp only [mentions] at h
    cases hl : T.lookup s with
    | none => rfl
    | some r => rw [hl] at h; cases h
  | pair a d iha ihd =>
    simp only [mentions, Bool.or_eq_false_iff] at h
    intro s hs
    simp only [symsOf, List.mem_append] at hs
    rcases hs with hs | hs
    · exact iha h.1 s hs
    · exact ihd h.2 s hs
  | vec e ih =>
    simp only [mentions] at h
    intro s hs
    simp only [symsOf] at hs
    exact ih h s hs
  | _ => intro s hs; simp [symsOf] at hs

theorem lookup_isSome_of_mem {T : STable} {p : Text × Rules} (h : p ∈ T) : (T.lookup p.1).isSome = true := by
  induction T with
  | nil => cases h
  | cons q T ih =>
    cases hq : p.1 == q.1 with
    | false =>
      rw [List.lookup_cons, hq]
      rcases List.mem_cons.mp h with h | h
      · subst h; simp at hq
      · exact ih h
    | true => rw [List.lookup_cons, hq]; rfl

theorem shadow_id {T : STable} {target : Datum} (h : mentions T target = false) :
    shadow T (symsOf target) = T := by
  unfold shadow
  rw [List.filter_eq_self]
  intro p hp
  have hn := lookup_none_of_symsOf h
  cases hc : (symsOf target).contains p.1
  · rfl
  · have := hn p.1 (List.contains_iff_mem.mp hc)
    have h2 := lookup_isSome_of_mem hp
    rw [this] at h2
    cases h2

theorem sxQQPair_plain {a d : Datum} (h1 : a ≠ .sym Spec.ExpandAll.unquoteN)
    (h2 : a ≠ .sym Spec.ExpandAll.quasiquoteN) (n : Nat) (qa qd qu) :
    sxQQPair a d n qa qd qu = (qa n).bind fun a' => (qd n).bind fun d' => .ok (.pair a' d') := by
  simp only [sxQQPair, if_neg h1, if_neg h2]

/-- on a cdr chain none of whose elements is `unquote` / `quasiquote` (`spineOK`) the template walk is
    the elementwise one -/
theorem sxQQ_eq_vec (sre : STable → Datum → XRes) (T : STable) (k : Nat) :
    ∀ d, spineOK d = true → sxQQ sre T k d = sxQQVec sre T k d := by
  intro d
  induction d with
  | pair x r _ ihr =>
    intro h
    simp only [spineOK, Bool.and_eq_true, Bool.not_eq_true', decide_eq_false_iff_not] at h
    rw [sxQQ, sxQQVec, sxQQPair_plain h.1.1 h.1.2, ihr h.2]
  | vec e _ => intro h; cases h
  | _ => intro _; rfl

/-- where the driver transforms every element, the specification -/
inductive ElemsKind
  | binder (target body : Datum)  -- `(lambda target . body)`: `body` under the table `target` shadows
  | binderAtom                    -- `(lambda . d)`, `d` not a pair: left alone
  | all

inductive SxKind
  | asIs
  | quasi (tpl r : Datum)
  | use (rs : Rules)
  | elems (b : ElemsKind)

def binderKind (hd rest : Datum) : ElemsKind :=
  match hd with
  | .sym s =>
    if isBinder s then
      match rest with
      | .pair target body => .binder target body
      | _ => .binderAtom
    else .all
  | _ => .all

def generalKind (T : STable) (s : Text) (rest : Datum) : SxKind :=
  match T.lookup s with
  | some rs => .use rs
  | none => .elems (binderKind (.sym s) rest)

def sxKind (T : STable) (hd rest : Datum) : SxKind :=
  match hd with
  | .sym s =>
    if s = Spec.ExpandAll.quoteN ∨ s = Spec.ExpandAll.defineSyntaxN then .asIs
    else if s = Spec.ExpandAll.quasiquoteN then
      match rest with
      | .pair tpl r => .quasi tpl r
      | _ => generalKind T s rest
    else generalKind T s rest
  | _ => .elems .all

theorem binderKind_inv (hd rest : Datum) :
    match binderKind hd rest with
    | .binder target body => hd.isPair = false ∧ rest = .pair target body
    | .binderAtom => hd.isPair = false ∧ rest.isPair = false
    | .all => True := by
  unfold binderKind
  cases hd with
  | sym s =>
    dsimp only
    cases isBinder s with
    | true => cases rest <;> exact ⟨rfl, rfl⟩
    | false => trivial
  | _ => trivial

section
variable (sre : STable → Datum → XRes) (c : GuardSel) (gre : STable → Datum → Bool) (T : STable)

def sxBy (hd rest : Datum) : SxKind → XRes
  | .asIs => .ok (.pair hd rest)
  | .quasi tpl r => (sxQQ sre T 0 tpl).bind fun t' => .ok (.pair hd (.pair t' r))
  | .use rs => (useOnce rs (.pair hd rest)).bind (sre T)
  | .elems (.binder target body) =>
    (sxList sre (shadow T (symsOf target)) body).bind fun b => .ok (.pair hd (.pair target b))
  | .elems .binderAtom => .ok (.pair hd rest)
  | .elems .all => sxList sre T (.pair hd rest)

def gxBy (hd rest : Datum) : SxKind → Bool
  | .asIs => true
  | .quasi tpl _ => gxQQ c gre T 0 tpl
  | .use rs =>
    (!c.uses || useOK rs (.pair hd rest)) &&
      (match specExpand rs.ctx rs.rules (.pair hd rest) with
       | .ok e => gre T e
       | _ => true)
  | .elems (.binder target body) => (!c.binders || !mentions T target) && gxList c gre T body
  | .elems .binderAtom => true
  | .elems .all => gxList c gre T (.pair hd rest)

theorem sx_pair (hd rest : Datum) : sx sre T (.pair hd rest) = sxBy sre T hd rest (sxKind T hd rest) := by
  rw [sx]
  unfold sxPair sxKind
  cases hd with
  | sym s =>
    have hgen : ∀ rest, (match T.lookup s with
        | some rs => (useOnce rs (.pair (.sym s) rest)).bind (sre T)
        | none =>
          if isBinder s then
            match sxBody sre rest with
            | some (target, body) =>
              (body (shadow T (symsOf target))).bind fun b => .ok (.pair (.sym s) (.pair target b))
            | none => .ok (.pair (.sym s) rest)
          else (sx sre T (.sym s)).bind fun h => (sxList sre T rest).bind fun r => .ok (.pair h r)) =
        sxBy sre T (.sym s) rest (generalKind T s rest) := by
      intro rest
      unfold generalKind binderKind
      dsimp only
      cases T.lookup s with
      | some rs => rfl
      | none =>
        cases isBinder s with
        | true => cases rest <;> rfl
        | false => exact (sxList.eq_1 sre T (.sym s) rest).symm
    dsimp only
    by_cases h1 : s = Spec.ExpandAll.quoteN ∨ s = Spec.ExpandAll.defineSyntaxN
    · rw [if_pos h1, if_pos h1]; rfl
    · rw [if_neg h1, if_neg h1]
      by_cases h2 : s = Spec.ExpandAll.quasiquoteN
      · rw [if_pos h2, if_pos h2]
        cases rest with
        | pair tpl r => rw [sxQQHead]; exact XRes.bind_assoc _ _ _
        | _ => exact hgen _
      · rw [if_neg h2, if_neg h2]; exact hgen _
  | _ => rfl

theorem gx_pair (hd rest : Datum) :
    gx c gre T (.pair hd rest) = gxBy c gre T hd rest (sxKind T hd rest) := by
  rw [gx]
  unfold gxPair sxKind
  cases hd with
  | sym s =>
    have hgen : ∀ rest, (match T.lookup s with
        | some rs =>
          (!c.uses || useOK rs (.pair (.sym s) rest)) &&
            (match specExpand rs.ctx rs.rules (.pair (.sym s) rest) with
             | .ok e => gre T e
             | _ => true)
        | none =>
          if isBinder s then
            match gxBody c gre T rest with
            | some (target, body) => (!c.binders || !mentions T target) && body ()
            | none => true
          else gx c gre T (.sym s) && gxList c gre T rest) =
        gxBy c gre T (.sym s) rest (generalKind T s rest) := by
      intro rest
      unfold generalKind binderKind
      dsimp only
      cases T.lookup s with
      | some rs => rfl
      | none =>
        cases isBinder s with
        | true => cases rest <;> rfl
        | false => exact (gxList.eq_1 c gre T (.sym s) rest).symm
    dsimp only
    by_cases h1 : s = Spec.ExpandAll.quoteN ∨ s = Spec.ExpandAll.defineSyntaxN
    · rw [if_pos h1, if_pos h1]; rfl
    · rw [if_neg h1, if_neg h1]
      by_cases h2 : s = Spec.ExpandAll.quasiquoteN
      · rw [if_pos h2, if_pos h2]
        cases rest with
        | pair tpl r => rfl
        | _ => exact hgen _
      · rw [if_neg h2, if_neg h2]; exact hgen _
  | _ => rfl

theorem sxQQ_pair (a d : Datum) (k : Nat) :
    sxQQ sre T k (.pair a d) =
      match qqKind a d k with
      | .unquote0 e rest => (sx sre T e).bind fun e' => .ok (.pair a (.pair e' rest))
      | .unquote0Atom => .ok (.pair a d)
      | .elems k' true => (sxQQ sre T k' d).bind fun d' => .ok (.pair a d')
      | .elems k' false => (sxQQ sre T k' a).bind fun a' => (sxQQ sre T k' d).bind fun d' => .ok (.pair a' d') := by
  rw [sxQQ]
  unfold sxQQPair qqKind
  by_cases hu : a = .sym Spec.ExpandAll.unquoteN
  · rw [if_pos hu, (isUnquote_iff a).mpr hu]
    cases k with
    | zero =>
      cases d with
      | pair e rest => rw [sxUnq]; exact XRes.bind_assoc _ _ _
      | _ => rfl
    | succ m => rfl
  · rw [if_neg hu, isUnquote_false hu]
    by_cases hq : a = .sym Spec.ExpandAll.quasiquoteN
    · rw [if_pos hq, (isQuasiquote_iff a).mpr hq]; rfl
    · rw [if_neg hq, isQuasiquote_false hq]; rfl

theorem gxQQ_pair (a d : Datum) (k : Nat) :
    gxQQ c gre T k (.pair a d) =
      match qqKind a d k with
      | .unquote0 e _ => gx c gre T e
      | .unquote0Atom => true
      | .elems k' true => (!c.templates || spineOK d) && gxQQVec c gre T k' d
      | .elems k' false => (!c.templates || spineOK d) && gxQQ c gre T k' a && gxQQVec c gre T k' d := by
  rw [gxQQ]
  unfold gxQQPair qqKind
  by_cases hu : a = .sym Spec.ExpandAll.unquoteN
  · rw [if_pos hu, (isUnquote_iff a).mpr hu]
    cases k with
    | zero => cases d <;> rfl
    | succ m => rfl
  · rw [if_neg hu, isUnquote_false hu]
    by_cases hq : a = .sym Spec.ExpandAll.quasiquoteN
    · rw [if_pos hq, (isQuasiquote_iff a).mpr hq]; rfl
    · rw [if_neg hq, isQuasiquote_false hq]; rfl

end

/-- the walk returns the keyword that changes the depth as it is -/
theorem qqKind_kw {a d : Datum} {k k' : Nat} : qqKind a d k = .elems k' true → ∃ s, a = .sym s := by
  unfold qqKind
  cases hu : isUnquote a with
  | true => exact fun _ => ⟨_, (isUnquote_iff a).mp hu⟩
  | false =>
    cases hq : isQuasiquote a with
    | true => exact fun _ => ⟨_, (isQuasiquote_iff a).mp hq⟩
    | false => intro h; cases h

def PairKind.toSx (hd rest : Datum) : PairKind → SxKind
  | .asIs => .asIs
  | .quasi tpl r => .quasi tpl r
  | .use t => .use ⟨ctxOf t, specRules t⟩
  | .elems => .elems (binderKind hd rest)

theorem sxKind_specTable (M : MacroTable) (hd rest : Datum) :
    sxKind (specTable M) hd rest = (pairKind M hd rest).toSx hd rest := by
  unfold sxKind pairKind
  cases hd with
  | sym s =>
    have hgen : ∀ rest, generalKind (specTable M) s rest = (useKind M (.sym s)).toSx (.sym s) rest := by
      intro rest
      unfold generalKind useKind
      rw [lookup_specTable, macroOf]
      cases M.lookup s <;> rfl
    rw [headKind_sym]
    dsimp only
    by_cases h1 : s = Spec.ExpandAll.quoteN ∨ s = Spec.ExpandAll.defineSyntaxN
    · rw [if_pos h1, if_pos h1]; rfl
    · rw [if_neg h1, if_neg h1]
      by_cases h2 : s = Spec.ExpandAll.quasiquoteN
      · rw [if_pos h2, if_pos h2]
        cases rest with
        | pair tpl r => rfl
        | _ => exact hgen _
      · rw [if_neg h2, if_neg h2]; exact hgen _
  | _ => rfl

end Marwood.Transform
