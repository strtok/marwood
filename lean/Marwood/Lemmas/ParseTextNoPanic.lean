import Marwood.Lemmas.Parse
import Marwood.Lemmas.ParseTextScan
/-!
# The parser never takes a panic branch on scanner output (C11)

Every panic site of the parser model is excluded when all tokens are `TokOK` for the text
(true of everything `scan` returns: `scan_bodies`):

* `&text[lo..hi]` (`tokSpan`): the span is the slice of a body;
* `&span[2..]` of a character token: the body is spelled `#\…`;
* `&span[1..len-1]` of a string token: the body is spelled `"…"`;
* `chars().next().unwrap()` on a bracket token: the body is non-empty;
* `panic!("unexpected number prefix")`: a prefix token is `#` and one of `e i b o d x`;
* `from_str_radix`'s radix assertion: the radix is 10 or set by a prefix to 2, 8, 10, 16;
* `Ratio::<i32>::new` negating `i32::MIN`: excluded by the guard of `parseRational32`.
-/
namespace Marwood
namespace ParseText

theorem parseIntStd_inRange {inRange : Int → Bool} {radix : Nat} {cs : Text} {n : Int}
    (h : parseIntStd inRange radix cs = some n) : inRange n = true := by
  unfold parseIntStd at h
  repeat' split at h
  all_goals simp_all

theorem tdiv_neg_of {d g : Int} (hg : 0 ≤ g) (h : d.tdiv g < 0) : d < 0 := by
  by_cases hd : 0 ≤ d
  · have := Int.tdiv_nonneg hd hg; omega
  · omega

theorem tdiv_ne_i32Min {n g : Int} (hn : inI32 n = true) (hne : n ≠ i32Min) :
    n.tdiv g ≠ i32Min := by
  intro h
  have hb : (n.tdiv g).natAbs ≤ n.natAbs := by
    rw [Int.natAbs_tdiv]; exact Nat.div_le_self _ _
  unfold inI32 i32Min i32Max at hn
  unfold i32Min at hne h
  simp only [Bool.and_eq_true, decide_eq_true_eq] at hn
  rw [h] at hb
  omega

theorem ratioNew32_noPanic {n d : Int} (hn : inI32 n = true) (hd : inI32 d = true)
    (hg : ¬ (d < 0 ∧ (n = i32Min ∨ d = i32Min))) (m : String) : ratioNew32 n d ≠ .panic m := by
  unfold ratioNew32
  split
  · simp
  · split
    · simp
    · simp only
      split
      · rename_i hneg
        have hd0 : d < 0 := tdiv_neg_of (Int.natCast_nonneg _) hneg
        have hn1 : n ≠ i32Min := fun e => hg ⟨hd0, .inl e⟩
        have hd1 : d ≠ i32Min := fun e => hg ⟨hd0, .inr e⟩
        split
        · rename_i hbad
          rcases hbad with hb | hb
          · exact absurd hb (tdiv_ne_i32Min hn hn1)
          · exact absurd hb (tdiv_ne_i32Min hd hd1)
        · simp
      · simp

theorem parseRational32_noPanic (radix : Nat) (s : Text) (m : String) :
    parseRational32 radix s ≠ .panic m := by
  unfold parseRational32
  split
  · simp
  · split
    · simp
    · rename_i n hn
      split
      · simp
      · rename_i d hd
        split
        · simp
        · rename_i hg
          split
          · simp
          · exact ratioNew32_noPanic (parseIntStd_inRange hn) (parseIntStd_inRange hd) hg m

theorem parseRational_noPanic (fo : FloatOps) (radix : Nat) (s : Text) (m : String) :
    parseRational fo radix s ≠ .panic m := by
  unfold parseRational
  simp only
  cases h32 : parseRational32 radix s with
  | panic m' => exact absurd h32 (parseRational32_noPanic radix s m')
  | ok v => obtain ⟨n, d⟩ := v; simp only; split <;> simp
  | err u =>
    cases u
    simp only
    repeat' split
    all_goals simp

def RadixOK (radix : Nat) : Prop := 2 ≤ radix ∧ radix ≤ 36

theorem parseNumber_noPanic (fo : FloatOps) {radix : Nat} (hr : RadixOK radix) (s : Text)
    (m : String) : parseNumber fo radix s ≠ .panic m := by
  unfold parseNumber
  have : ¬ (radix < 2 ∨ 36 < radix) := by unfold RadixOK at hr; omega
  simp only [this, if_false]
  split
  · simp
  · split
    · simp
    · cases hq : parseRational fo radix s with
      | panic m' => exact absurd hq (parseRational_noPanic fo radix s m')
      | ok n => simp
      | err u => cases u; simp only; split <;> simp

theorem parseWithExactness_noPanic (fo : FloatOps) {radix : Nat} (hr : RadixOK radix) (s : Text)
    (e : Exactness) (m : String) : parseWithExactness fo s e radix ≠ .panic m := by
  unfold parseWithExactness
  cases hp : parseNumber fo radix s with
  | panic m' => exact absurd hp (parseNumber_noPanic fo hr s m')
  | err u => simp
  | ok n =>
    simp only
    repeat' split
    all_goals simp

theorem tokSpan_ok {text : Text} {t : Token} (h : TokOK text t) :
    ∃ body, tokSpan text t = .ok body ∧ body ≠ [] ∧ BodyOK t.ty body := by
  obtain ⟨body, hs, hne, hb⟩ := h
  exact ⟨body, by simp [tokSpan, hs], hne, hb⟩

theorem firstChar_ok {text : Text} {t : Token} (h : TokOK text t) :
    ∃ c, firstChar text t = .ok c := by
  obtain ⟨body, hs, hne, _⟩ := tokSpan_ok h
  cases body with
  | nil => exact absurd rfl hne
  | cons c cs => exact ⟨c, by simp [firstChar, hs]⟩

theorem closeList_noPanic {text : Text} {start t : Token} (hs : TokOK text start)
    (ht : TokOK text t) (acc : List Datum) (ts : List Token) (m : String) :
    closeList text start t acc ts ≠ .panic m := by
  obtain ⟨o, ho⟩ := firstChar_ok hs
  obtain ⟨c, hc⟩ := firstChar_ok ht
  unfold closeList
  simp only [ho, hc]
  split <;> simp

theorem closeVector_noPanic {text : Text} {t : Token} (ht : TokOK text t) (acc : List Datum)
    (ts : List Token) (m : String) : closeVector text t acc ts ≠ .panic m := by
  obtain ⟨c, hc⟩ := firstChar_ok ht
  unfold closeVector
  simp only [hc]
  split <;> simp

theorem dropBytes_two (r : Text) : dropBytes 2 ('#' :: '\\' :: r) = some r :=
  dropBytes_append ['#', '\\'] r

theorem parseCharSpan_noPanic (r : Text) (m : String) :
    parseCharSpan ('#' :: '\\' :: r) ≠ .panic m := by
  unfold parseCharSpan
  rw [dropBytes_two]
  simp only
  repeat' split
  all_goals simp

theorem parseString_noPanic (inner : Text) (m : String) : parseString inner ≠ .panic m := by
  unfold parseString
  split <;> simp

theorem prefixStep_some {d : Char} (hd : isPrefixLetter d) (ex : Exactness) {radix : Nat}
    (hr : RadixOK radix) :
    ∃ ex' radix', prefixStep ['#', d] ex radix = some (ex', radix') ∧ RadixOK radix' := by
  unfold RadixOK at hr ⊢
  rcases hd with rfl | rfl | rfl | rfl | rfl | rfl
  · exact ⟨.exact, radix, by simp [prefixStep], hr⟩
  · exact ⟨.inexact, radix, by simp [prefixStep], hr⟩
  · exact ⟨ex, 2, by simp [prefixStep], by omega⟩
  · exact ⟨ex, 8, by simp [prefixStep], by omega⟩
  · exact ⟨ex, 10, by simp [prefixStep], by omega⟩
  · exact ⟨ex, 16, by simp [prefixStep], by omega⟩

theorem numberFinal_noPanic (fo : FloatOps) {text : Text} {t : Token} (ht : TokOK text t)
    {radix : Nat} (hr : RadixOK radix) (ex : Exactness) (ts : List Token) (m : String) :
    numberFinal fo text ex radix t ts ≠ .panic m := by
  obtain ⟨body, hs, _, _⟩ := tokSpan_ok ht
  unfold numberFinal
  simp only [hs]
  split
  · cases hp : parseWithExactness fo body ex radix with
    | panic m' => exact absurd hp (parseWithExactness_noPanic fo hr body ex m')
    | ok n => simp
    | err u => cases u; simp
  · simp

theorem parseNumberTok_noPanic (fo : FloatOps) {text : Text} :
    ∀ (ts : List Token) (ex : Exactness) (radix : Nat) (t : Token),
      TokOK text t → (∀ x ∈ ts, TokOK text x) → RadixOK radix →
      ∀ m, parseNumberTok fo text ex radix t ts ≠ .panic m := by
  intro ts
  induction ts with
  | nil =>
    intro ex radix t ht _ hr m
    rw [parseNumberTok]
    by_cases hty : t.ty = .numberPrefix
    · obtain ⟨body, hs, _, hb⟩ := tokSpan_ok ht
      obtain ⟨d, rfl, hd⟩ := hb.2.2 hty
      obtain ⟨ex', radix', hp, _⟩ := prefixStep_some hd ex hr
      simp [hty, hs, hp]
    · simp only [hty, if_false]
      exact numberFinal_noPanic fo ht hr ex [] m
  | cons t' ts ih =>
    intro ex radix t ht hall hr m
    rw [parseNumberTok]
    by_cases hty : t.ty = .numberPrefix
    · obtain ⟨body, hs, _, hb⟩ := tokSpan_ok ht
      obtain ⟨d, rfl, hd⟩ := hb.2.2 hty
      obtain ⟨ex', radix', hp, hr'⟩ := prefixStep_some hd ex hr
      simp only [hty, if_true, hs, hp]
      exact ih ex' radix' t' (hall t' (by simp)) (fun x hx => hall x (by simp [hx])) hr' m
    · simp only [hty, if_false]
      exact numberFinal_noPanic fo ht hr ex (t' :: ts) m

theorem parseAtom_noPanic (fo : FloatOps) {text : Text} {t : Token} (ht : TokOK text t)
    {ts : List Token} (hall : ∀ x ∈ ts, TokOK text x) (m : String) :
    parseAtom fo text t ts ≠ .panic m := by
  obtain ⟨body, hs, hne, hb⟩ := tokSpan_ok ht
  have h10 : RadixOK 10 := by unfold RadixOK; omega
  unfold parseAtom
  cases hty : t.ty
  all_goals simp only [hs]
  all_goals first
    | (simp; done)
    | exact parseNumberTok_noPanic fo ts _ _ t ht hall h10 m
    | skip
  · -- char
    obtain ⟨r, rfl⟩ := hb.1 hty
    cases hp : parseCharSpan ('#' :: '\\' :: r) with
    | panic m' => exact absurd hp (parseCharSpan_noPanic r m')
    | ok d => simp
    | err e => simp
  · -- string
    obtain ⟨inner, rfl⟩ := hb.2.1 hty
    simp only [stringInner_quoted]
    cases hp : parseString inner with
    | panic m' => exact absurd hp (parseString_noPanic inner m')
    | ok d => simp
    | err e => simp

def NoPanicO (r : Option (PRes (Datum × List Token))) : Prop := ∀ m, r ≠ some (.panic m)

theorem wrapRes_noPanic {name : String} {r : Option (PRes (Datum × List Token))}
    (h : NoPanicO r) : NoPanicO (wrapRes name r) := by
  intro m
  cases r with
  | none => simp [wrapRes]
  | some x =>
    cases x with
    | ok v => obtain ⟨d, rest⟩ := v; simp [wrapRes]
    | err e => simp [wrapRes]
    | panic m' => exact absurd rfl (h m')

theorem andThen_noPanic {x : Option (PRes (Datum × List Token))} {k : Datum → Run} (hx : NoPanicO x)
    (hk : ∀ d r, x = some (.ok (d, r)) → NoPanicO (k d r)) : NoPanicO (andThen x k) := by
  unfold andThen
  split
  · intro m; simp
  · exact hk _ _ rfl
  · intro m; simp
  · exact hx

theorem parseF_rest_mem (fo : FloatOps) (text : Text) {f : Nat} {ts rest : List Token} {d : Datum}
    (h : parseF fo text f ts = some (.ok (d, rest))) : ∀ x ∈ rest, x ∈ ts := by
  obtain ⟨pre, _, hts, _, _⟩ := (consumes_all fo text f).1 _ _ _ h
  intro x hx
  rw [hts]
  exact List.mem_append_right _ hx

theorem parse_noPanic (fo : FloatOps) (text : Text) : ∀ f : Nat,
    (∀ ts, (∀ x ∈ ts, TokOK text x) → NoPanicO (parseF fo text f ts)) ∧
    (∀ start acc ts, TokOK text start → (∀ x ∈ ts, TokOK text x) →
        NoPanicO (listF fo text f start acc ts)) ∧
    (∀ acc ts, (∀ x ∈ ts, TokOK text x) → NoPanicO (tailF fo text f acc ts)) ∧
    (∀ acc ts, (∀ x ∈ ts, TokOK text x) → NoPanicO (vectorF fo text f acc ts)) := by
  intro f
  induction f with
  | zero =>
    refine ⟨?_, ?_, ?_, ?_⟩ <;> intros <;> intro m <;> simp [parseF, listF, tailF, vectorF]
  | succ f ih =>
    obtain ⟨ihP, ihL, ihT, ihV⟩ := ih
    refine ⟨?_, ?_, ?_, ?_⟩
    · intro ts hall
      cases ts with
      | nil => intro m; simp [parseF]
      | cons t ts =>
        have ht : TokOK text t := hall t (by simp)
        have hts : ∀ x ∈ ts, TokOK text x := fun x hx => hall x (by simp [hx])
        rw [parseF]
        cases hk : tokKind t.ty with
        | wrap name => simp only; exact wrapRes_noPanic (ihP ts hts)
        | list => simp only; exact ihL t [] ts ht hts
        | vector => simp only; exact ihV [] ts hts
        | atom =>
          simp only
          intro m hm
          exact parseAtom_noPanic fo ht hts m (Option.some.inj hm)
    · intro start acc ts hstart hall
      cases ts with
      | nil => intro m; simp [listF]
      | cons t ts =>
        have ht : TokOK text t := hall t (by simp)
        have hts : ∀ x ∈ ts, TokOK text x := fun x hx => hall x (by simp [hx])
        by_cases hr : t.ty = .rightParen
        · rw [listF]
          simp only [hr, if_true]
          intro m hm
          exact closeList_noPanic hstart ht acc ts m (Option.some.inj hm)
        · by_cases hd : t.ty = .dot
          · rw [listF]
            simp only [hd, if_true, reduceCtorEq, if_false]; exact ihT acc ts hts
          · rw [listF_step fo text f start acc hr hd]
            exact andThen_noPanic (ihP _ hall) fun d1 rest1 h1 =>
              ihL start _ rest1 hstart fun x hx => hall x (parseF_rest_mem fo text h1 x hx)
    · intro acc ts hall
      cases ts with
      | nil => intro m; rw [tailF]; split <;> simp
      | cons t ts =>
        by_cases he : acc.isEmpty = true
        · intro m; simp [tailF, he]
        · by_cases hdr : t.ty = .dot ∨ t.ty = .rightParen
          · intro m; simp [tailF, he, hdr]
          · rw [tailF_step fo text f he hdr]
            refine andThen_noPanic (ihP _ hall) fun d1 rest1 _ m => ?_
            unfold closeTail
            repeat' split
            all_goals simp
    · intro acc ts hall
      cases ts with
      | nil => intro m; simp [vectorF]
      | cons t ts =>
        have ht : TokOK text t := hall t (by simp)
        by_cases hr : t.ty = .rightParen
        · rw [vectorF]
          simp only [hr, if_true]
          intro m hm
          exact closeVector_noPanic ht acc ts m (Option.some.inj hm)
        · by_cases hd : t.ty = .dot
          · intro m; simp [vectorF, hd]
          · rw [vectorF_step fo text f acc hr hd]
            exact andThen_noPanic (ihP _ hall) fun d1 rest1 h1 =>
              ihV _ rest1 fun x hx => hall x (parseF_rest_mem fo text h1 x hx)

theorem parseTokens_noPanic (fo : FloatOps) {text : Text} {ts : List Token}
    (hall : ∀ x ∈ ts, TokOK text x) (m : String) : parseTokens fo text ts ≠ .panic m := by
  intro h
  have hf := parseTokens_fuel fo text ts
  rw [h] at hf
  exact (parse_noPanic fo text _).1 ts hall m hf

end ParseText
end Marwood
