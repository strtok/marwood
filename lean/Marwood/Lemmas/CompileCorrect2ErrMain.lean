import Marwood.Lemmas.CompileCorrect
/-!
# T01.3 stage 1, error case

`compileExpr_correct_err`: for `e` in `Frag`, if `Spec.Eval` ends the evaluation of `e` from `σ` with the class
`c ≠ syntax` in state `σ'`, and every `set!` target of `e` is bound in `σ'`, then the run of the compiled code reaches,
without failing before, a state `sf` in which `run_one` returns an error of the class of `c`; `sf` has the lambda, `bp`,
`ep` of the start state, its live stack below whatever operands were pushed, and a heap that represents `σ'` (`ErrRun`).
-/
namespace Marwood.Lemmas.CompileCorrect
open Marwood Marwood.Vm
open Marwood.Spec.Eval (Val Prim Cell ErrClass evalN evalStep applyStep evalArgs properList quoteVal kwOf insertG
  k_quote k_if_ k_setBang k_define)

variable {H : Type} {ops : HeapOps H} {D : RepData ops}

/-- **Compiler correctness, closure-free fragment, ERROR case.** -/
theorem compileExpr_correct_err (L : RepLaws D) (LE : ErrLaws D) (fuel : Nat) (cst : CState) (base : Nat)
    (tail : Bool) (e : Datum) (cst' : CState) (code : List BC) (hf : Frag e)
    (hcomp : compileExpr fuel cst c0 base tail e = .ok (cst', code))
    (n : Nat) (σ : SSt) (c : ErrClass) (σ' : SSt) (hev : (evalN n).eval e [] σ = .err c σ')
    (hcs : c ≠ .syntax) (hset : ∀ x ∈ setTargets e, σ'.globals.lookup x ≠ none)
    (s : MSt H) (hc : CodeAt D s.heap σ.store s.ipL base code) (hip : s.ipO = base)
    (hsr : SR D s.heap σ) (hw : SWF s.stack) :
    ∃ sf e', ErrRun D s σ σ' c sf e' := by
  have o := (both1 L fuel).1 cst base tail e cst' code hf hcomp n σ s hc hip hsr hw
  rw [hev] at o
  exact o LE hcs hset

theorem ErrRun.runN {s sf : MSt H} {σ σ' : SSt} {c : ErrClass} {e' : Err} (r : ErrRun D s σ σ' c sf e') :
    ∃ k, runN ops k s = some sf ∧ step ops sf = .err e' :=
  let ⟨k, hk⟩ := r.steps.runN
  ⟨k, hk, r.fails⟩

/-- the excluded `set!`: with `x` unbound after `e` has been evaluated, `Spec.Eval` fails, where marwood defines `x` -/
theorem setBang_unbound_spec_fails {r : Spec.Eval.Rec} {x : Text} {e : Datum} {σ σ1 : SSt} {v : Val}
    (hx : Spec.Eval.reserved x = false) (he : r.eval e [] σ = .ok v σ1) (hl : σ1.globals.lookup x = none) :
    evalStep r (.pair (.sym k_setBang) (.pair (.sym x) (.pair e .nil))) [] σ = .err .unbound σ1 := by
  rw [evalStep_setBang, if_neg (by simp [hx]), bind_ok he]
  exact bind_err (assignVar_unbound hl)

end Marwood.Lemmas.CompileCorrect
