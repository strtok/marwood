import Marwood.Lemmas.Store
/-!
# `equal?` (with the set of visited locations, dfd9e81) agrees with `Pinned.equal` wherever that one returns (C14 / C06)

`Pinned.equal` (no set) runs round a cycle for ever (`C06.equal_circular_diverges`). Claim: whenever `Pinned.equal n s l r` is
not `diverge`, `equal f s l r` is the same outcome — boolean, error class or panic site — for every `f ≥ n` (`equal_agrees`).

Why cutting a branch at a pair of locations `(a, b)` met again is harmless: a pair in `seen` is either *done* — the comparison
of the contents of `a` and `b` has run to the end with `true` (a `false` anywhere ends the whole comparison) — or *in progress*
further up the call stack. `Pinned`'s comparison of an in-progress pair needs strictly more fuel than every call below it gets
(take the least fuel on which it returns), so below it `Pinned` cannot return on that pair again: if it returns at all, the
pair is done, and done pairs compare `true` on both sides.
-/
namespace Marwood.Store
open Outcome

def Le {α} (x y : Outcome α) : Prop := x = .diverge ∨ x = y

theorem Le.refl {α} (x : Outcome α) : Le x x := .inr rfl

theorem Le.trans {α} {x y z : Outcome α} (h1 : Le x y) (h2 : Le y z) : Le x z := by
  rcases h1 with rfl | rfl
  · exact .inl rfl
  · exact h2

theorem Le.bind {α β} {x x' : Outcome α} {g g' : α → Outcome β} (h1 : Le x x') (h2 : ∀ a, Le (g a) (g' a)) :
    Le (x >>= g) (x' >>= g') := by
  rcases h1 with rfl | rfl
  · exact .inl rfl
  · cases x with
    | ok a => exact h2 a
    | err e => exact .inr rfl
    | panic m => exact .inr rfl
    | diverge => exact .inl rfl

theorem Le.eq_of_ne {α} {x y : Outcome α} (h : Le x y) (hx : x ≠ .diverge) : x = y := by
  rcases h with h | h
  · exact absurd h hx
  · exact h

theorem Le.of_step {α} {F : Nat → Outcome α} (h : ∀ f, Le (F f) (F (f+1))) {f g : Nat} (hfg : f ≤ g) :
    Le (F f) (F g) := by
  induction hfg with
  | refl => exact Le.refl _
  | step _ ih => exact ih.trans (h _)

theorem pinned_step (s : Store) : ∀ f : Nat,
    (∀ l r, Le (Pinned.equal f s l r) (Pinned.equal (f+1) s l r)) ∧
    (∀ l r, Le (Pinned.comparePair f s l r) (Pinned.comparePair (f+1) s l r)) ∧
    (∀ xs ys, Le (Pinned.compareVector f s xs ys) (Pinned.compareVector (f+1) s xs ys)) := by
  intro f
  induction f with
  | zero => exact ⟨fun _ _ => .inl rfl, fun _ _ => .inl rfl, fun _ _ => .inl rfl⟩
  | succ f ih =>
    obtain ⟨ihE, ihP, ihV⟩ := ih
    refine ⟨?_, ?_, ?_⟩
    · intro l r
      unfold Pinned.equal
      refine Le.bind (Le.refl _) (fun b => ?_)
      cases b
      · simp only [Bool.false_eq_true, if_false]
        refine Le.bind (Le.refl _) (fun l' => Le.bind (Le.refl _) (fun r' => ?_))
        split
        · exact ihP _ _
        · refine Le.bind (Le.refl _) (fun xs => Le.bind (Le.refl _) (fun ys => ?_))
          by_cases h : (xs.length != ys.length) = true
          · rw [if_pos h, if_pos h]; exact Le.refl _
          · rw [if_neg h, if_neg h]; exact ihV _ _
        · exact Le.refl _
        · exact Le.refl _
      · simp only [if_true]; exact Le.refl _
    · intro l r
      unfold Pinned.comparePair
      by_cases h : (!l.isPair || !r.isPair) = true
      · rw [if_pos h, if_pos h]; exact ihE _ _
      · rw [if_neg h, if_neg h]
        refine Le.bind (Le.refl _) (fun lcar => Le.bind (Le.refl _) (fun rcar => Le.bind (ihE _ _) (fun b => ?_)))
        cases b
        · simp only [Bool.not_false, if_true]; exact Le.refl _
        · simp only [Bool.not_true, Bool.false_eq_true, if_false]
          exact Le.bind (Le.refl _) (fun _ => Le.bind (Le.refl _) (fun _ => Le.bind (Le.refl _) (fun _ =>
            Le.bind (Le.refl _) (fun _ => ihP _ _))))
    · intro xs ys
      cases xs with
      | nil => simp only [Pinned.compareVector]; exact Le.refl _
      | cons x xs' =>
        cases ys with
        | nil => simp only [Pinned.compareVector]; exact Le.refl _
        | cons y ys' =>
          simp only [Pinned.compareVector]
          refine Le.bind (ihE _ _) (fun b => ?_)
          cases b
          · simp only [Bool.not_false, if_true]; exact Le.refl _
          · simp only [Bool.not_true, Bool.false_eq_true, if_false]; exact ihV _ _

theorem pinned_mono (s : Store) {f g : Nat} (h : f ≤ g) :
    (∀ l r, Le (Pinned.equal f s l r) (Pinned.equal g s l r)) ∧
    (∀ l r, Le (Pinned.comparePair f s l r) (Pinned.comparePair g s l r)) ∧
    (∀ xs ys, Le (Pinned.compareVector f s xs ys) (Pinned.compareVector g s xs ys)) :=
  ⟨fun l r => Le.of_step (fun f => (pinned_step s f).1 l r) h,
    fun l r => Le.of_step (fun f => (pinned_step s f).2.1 l r) h,
    fun xs ys => Le.of_step (fun f => (pinned_step s f).2.2 xs ys) h⟩

/-- what `Pinned.equal` runs on two references once `eqv` has said no and both cells are pairs, or both vectors
    (anything else is never recorded) -/
def Pinned.contents (f : Nat) (s : Store) (a b : Nat) : Outcome Bool := do
  let cl ← s.get (.ptr a)
  let cr ← s.get (.ptr b)
  match cl, cr with
  | .pair _ _, .pair _ _ => Pinned.comparePair f s cl cr
  | .vec i, .vec j => do
    let xs ← s.vecGet i
    let ys ← s.vecGet j
    if xs.length != ys.length then .ok false else Pinned.compareVector f s xs ys
  | _, _ => .ok true

theorem contents_step (s : Store) (a b f : Nat) : Le (Pinned.contents f s a b) (Pinned.contents (f+1) s a b) := by
  unfold Pinned.contents
  refine Le.bind (Le.refl _) (fun cl => Le.bind (Le.refl _) (fun cr => ?_))
  split
  · exact (pinned_step s f).2.1 _ _
  · refine Le.bind (Le.refl _) (fun xs => Le.bind (Le.refl _) (fun ys => ?_))
    by_cases h : (xs.length != ys.length) = true
    · rw [if_pos h, if_pos h]; exact Le.refl _
    · rw [if_neg h, if_neg h]; exact (pinned_step s f).2.2 _ _
  · exact Le.refl _

theorem contents_mono (s : Store) (a b : Nat) {f g : Nat} (h : f ≤ g) :
    Le (Pinned.contents f s a b) (Pinned.contents g s a b) :=
  Le.of_step (contents_step s a b) h

theorem contents_pair {s : Store} {a b x y x' y' : Nat} (ha : s.get (.ptr a) = .ok (.pair x y))
    (hb : s.get (.ptr b) = .ok (.pair x' y')) (f : Nat) :
    Pinned.contents f s a b = Pinned.comparePair f s (.pair x y) (.pair x' y') := by
  simp only [Pinned.contents, ha, hb, bind_ok]

theorem contents_vec {s : Store} {a b i j : Nat} (ha : s.get (.ptr a) = .ok (.vec i))
    (hb : s.get (.ptr b) = .ok (.vec j)) (f : Nat) :
    Pinned.contents f s a b = (do
      let xs ← s.vecGet i
      let ys ← s.vecGet j
      if xs.length != ys.length then .ok false else Pinned.compareVector f s xs ys) := by
  simp only [Pinned.contents, ha, hb, bind_ok]

theorem contents_least (s : Store) (a b : Nat) : ∀ n, Pinned.contents n s a b ≠ .diverge →
    ∃ m, m ≤ n ∧ Pinned.contents m s a b = Pinned.contents n s a b ∧
      (m = 0 ∨ Pinned.contents (m - 1) s a b = .diverge)
  | 0, _ => ⟨0, Nat.le_refl _, rfl, .inl rfl⟩
  | n+1, h => by
    by_cases hd : Pinned.contents n s a b = .diverge
    · exact ⟨n+1, Nat.le_refl _, rfl, .inr (by simpa using hd)⟩
    · obtain ⟨m, hm, he, hl⟩ := contents_least s a b n hd
      refine ⟨m, by omega, ?_, hl⟩
      rw [he]
      exact (contents_step s a b n).eq_of_ne hd

/-- *done*: the comparison of the contents has returned `true` -/
def Done (s : Store) (p : Nat × Nat) : Prop := ∃ g, Pinned.contents g s p.1 p.2 = .ok true

/-- *in progress* relative to a call on fuel `k`: the comparison of the contents does not return on less -/
def Stuck (s : Store) (k : Nat) (p : Nat × Nat) : Prop := k = 0 ∨ Pinned.contents (k - 1) s p.1 p.2 = .diverge

def Inv (s : Store) (k : Nat) (seen : Seen) : Prop := ∀ p ∈ seen, Done s p ∨ Stuck s k p

theorem Stuck.down {s : Store} {k k' : Nat} {p : Nat × Nat} (h : Stuck s k p) (hk : k' ≤ k) : Stuck s k' p := by
  unfold Stuck at *
  rcases h with rfl | h
  · exact .inl (by omega)
  · rcases contents_mono s p.1 p.2 (show k' - 1 ≤ k - 1 by omega) with h' | h'
    · exact .inr h'
    · exact .inr (by rw [h']; exact h)

theorem Inv.down {s : Store} {k k' : Nat} {seen : Seen} (h : Inv s k seen) (hk : k' ≤ k) : Inv s k' seen :=
  fun p hp => (h p hp).imp id (fun hs => hs.down hk)

theorem Inv.nil (s : Store) (k : Nat) : Inv s k [] := by intro p hp; cases hp

theorem Inv.hit {s : Store} {k : Nat} {seen : Seen} (h : Inv s (k+1) seen) {a b : Nat} (hm : (a, b) ∈ seen) :
    Pinned.contents k s a b = .diverge ∨ Pinned.contents k s a b = .ok true := by
  rcases h (a, b) hm with ⟨g, hg⟩ | hs
  · rcases Nat.le_total g k with hgk | hgk
    · rcases contents_mono s a b hgk with h' | h'
      · rw [hg] at h'; cases h'
      · exact .inr (h'.symm.trans hg)
    · rcases contents_mono s a b hgk with h' | h'
      · exact .inl h'
      · exact .inr (h'.trans hg)
  · rcases hs with h0 | hs
    · omega
    · exact .inl (by simpa using hs)

/-- nothing is claimed where `Pinned` is out of fuel; otherwise the same boolean / error / panic, and when the answer is
    `true` every pair added to `seen` is done (a `false` ends the whole comparison: `seen` is never looked at again) -/
def Ag (s : Store) (seen : Seen) : Outcome Bool → Outcome (Bool × Seen) → Prop
  | .diverge, _ => True
  | .ok b, .ok (b', seen') => b' = b ∧ (b = true → ∀ p ∈ seen', p ∈ seen ∨ Done s p)
  | .err e, .err e' => e' = e
  | .panic m, .panic m' => m' = m
  | _, _ => False

theorem Ag.ok (s : Store) (seen : Seen) (b : Bool) : Ag s seen (.ok b) (.ok (b, seen)) :=
  ⟨rfl, fun _ _ hp => .inl hp⟩

theorem Ag.ok_false (s : Store) (seen seen' : Seen) : Ag s seen (.ok false) (.ok (false, seen')) :=
  ⟨rfl, fun h => by cases h⟩

theorem Ag.div (s : Store) (seen : Seen) (x) : Ag s seen .diverge x := trivial

theorem Ag.bind_same {α} {s : Store} {seen : Seen} (x : Outcome α) {g : α → Outcome Bool}
    {g' : α → Outcome (Bool × Seen)} (h : ∀ a, x = .ok a → Ag s seen (g a) (g' a)) :
    Ag s seen (x >>= g) (x >>= g') := by
  cases x with
  | ok a => exact h a rfl
  | err e => exact rfl
  | panic m => exact rfl
  | diverge => trivial

theorem Ag.weaken {s : Store} {seen seen1 : Seen} {r x} (h : Ag s seen1 r x)
    (hs : r = .ok true → ∀ p ∈ seen1, p ∈ seen ∨ Done s p) : Ag s seen r x := by
  cases r with
  | diverge => trivial
  | ok b =>
    cases x with
    | ok a =>
      obtain ⟨b', seen'⟩ := a
      exact ⟨h.1, fun hb p hp => (h.2 hb p hp).elim (hs (by rw [hb]) p) .inr⟩
    | _ => exact h
  | err e => cases x <;> exact h
  | panic m => cases x <;> exact h

theorem Ag.bind_call {s : Store} {seen : Seen} {r : Outcome Bool} {x : Outcome (Bool × Seen)}
    {k : Bool → Outcome Bool} {k' : Bool × Seen → Outcome (Bool × Seen)} (h : Ag s seen r x)
    (hk : ∀ b seen1, r = .ok b → x = .ok (b, seen1) → (b = true → ∀ p ∈ seen1, p ∈ seen ∨ Done s p) →
      Ag s seen (k b) (k' (b, seen1))) :
    Ag s seen (r >>= k) (x >>= k') := by
  cases r with
  | diverge => trivial
  | ok b =>
    cases x with
    | ok a =>
      obtain ⟨b', seen1⟩ := a
      obtain ⟨rfl, h2⟩ := h
      exact hk _ seen1 rfl rfl h2
    | _ => exact h.elim
  | err e =>
    cases x with
    | err e' => cases (show e' = e from h); exact rfl
    | _ => exact h.elim
  | panic m =>
    cases x with
    | panic m' => cases (show m' = m from h); exact rfl
    | _ => exact h.elim

theorem Inv.extend {s : Store} {k : Nat} {seen seen1 : Seen} (h : Inv s k seen)
    (hs : ∀ p ∈ seen1, p ∈ seen ∨ Done s p) : Inv s k seen1 :=
  fun p hp => (hs p hp).elim (h p) .inl

/-- a pair of locations recorded for the first time: if `x` agrees with the contents comparison on every fuel `m ≤ k`
    under the invariant that has `(a, b)` in progress, it agrees on fuel `k` under the invariant without it -/
theorem Ag.fresh {s : Store} {k : Nat} {seen : Seen} {a b : Nat} {x : Outcome (Bool × Seen)}
    (hinv : Inv s (k+1) seen)
    (run : ∀ m, m ≤ k → Inv s m ((a, b) :: seen) → Ag s ((a, b) :: seen) (Pinned.contents m s a b) x) :
    Ag s seen (Pinned.contents k s a b) x := by
  by_cases hd : Pinned.contents k s a b = .diverge
  · rw [hd]; trivial
  · obtain ⟨m, hmk, he, hl⟩ := contents_least s a b k hd
    have hst : Stuck s m (a, b) := hl
    have hi : Inv s m ((a, b) :: seen) := by
      intro p hp
      simp only [List.mem_cons] at hp
      rcases hp with rfl | hp
      · exact .inr hst
      · exact (hinv p hp).imp id (fun hs => hs.down (by omega))
    have h := run m hmk hi
    rw [he] at h
    refine h.weaken ?_
    intro ht p hp
    simp only [List.mem_cons] at hp
    rcases hp with rfl | hp
    · exact .inr ⟨k, ht⟩
    · exact .inl hp

theorem Ag.eqv_tail (s : Store) (seen : Seen) (x : Outcome Bool) :
    Ag s seen x (x >>= fun b => .ok (b, seen)) := by
  cases x with
  | ok b => exact Ag.ok s seen b
  | err e => exact rfl
  | panic m => exact rfl
  | diverge => trivial

theorem visit_cases (seen : Seen) (a b : Nat) :
    (seen.visit a b = none ∧ (a, b) ∈ seen) ∨ seen.visit a b = some ((a, b) :: seen) := by
  unfold Seen.visit
  by_cases h : seen.contains (a, b) = true
  · rw [if_pos h]; exact .inl ⟨rfl, by simpa using h⟩
  · rw [if_neg h]; exact .inr rfl

theorem record_cases (seen : Seen) (l r : VCell) :
    (∃ a b, l = .ptr a ∧ r = .ptr b ∧ seen.record l r = seen.visit a b) ∨ seen.record l r = some seen := by
  cases l with
  | ptr a =>
    cases r with
    | ptr b => exact .inl ⟨a, b, rfl, rfl, rfl⟩
    | _ => exact .inr rfl
  | _ => exact .inr rfl

theorem agree_all (s : Store) : ∀ k : Nat,
    (∀ seen l r f, k ≤ f → Inv s k seen → Ag s seen (Pinned.equal k s l r) (equalSeen f s seen l r)) ∧
    (∀ seen l r f, k ≤ f → Inv s k seen →
      Ag s seen (Pinned.comparePair k s l r) (comparePairSeen f s seen l r)) ∧
    (∀ seen xs ys f, k ≤ f → Inv s k seen →
      Ag s seen (Pinned.compareVector k s xs ys) (compareVectorSeen f s seen xs ys)) := by
  intro k
  induction k using Nat.strongRecOn with
  | _ k ih =>
    cases k with
    | zero => exact ⟨fun _ _ _ _ _ _ => trivial, fun _ _ _ _ _ _ => trivial, fun _ _ _ _ _ _ => trivial⟩
    | succ k =>
      have ihk := ih k (Nat.lt_succ_self k)
      refine ⟨?_, ?_, ?_⟩
      · -- `equal`
        intro seen l r f hf hinv
        obtain ⟨f', rfl⟩ : ∃ f', f = f' + 1 := ⟨f - 1, by omega⟩
        have hf' : k ≤ f' := by omega
        have hinvk : Inv s k seen := hinv.down (by omega)
        -- the vector arm, for any `seen0` and fuel level `m`
        have vecArm : ∀ (m : Nat) (seen0 : Seen) (i j : Nat), m ≤ k → Inv s m seen0 →
            Ag s seen0
              (do let xs ← s.vecGet i
                  let ys ← s.vecGet j
                  if xs.length != ys.length then .ok false else Pinned.compareVector m s xs ys)
              (do let xs ← s.vecGet i
                  let ys ← s.vecGet j
                  if xs.length != ys.length then .ok (false, seen0) else compareVectorSeen f' s seen0 xs ys) := by
          intro m seen0 i j hm hi
          refine Ag.bind_same _ (fun xs _ => Ag.bind_same _ (fun ys _ => ?_))
          by_cases h : (xs.length != ys.length) = true
          · rw [if_pos h, if_pos h]; exact Ag.ok s seen0 false
          · rw [if_neg h, if_neg h]; exact (ih m (by omega)).2.2 seen0 xs ys f' (by omega) hi
        unfold Pinned.equal equalSeen
        refine Ag.bind_same _ (fun b _ => ?_)
        cases b
        · simp only [Bool.false_eq_true, if_false]
          refine Ag.bind_same _ (fun l' hl' => Ag.bind_same _ (fun r' hr' => ?_))
          split
          · -- two pairs
            rename_i x y x' y'
            rcases record_cases seen l r with ⟨a, b, rfl, rfl, hrec⟩ | hrec
            · have ha : s.get (.ptr a) = .ok (.pair x y) := hl'
              have hb : s.get (.ptr b) = .ok (.pair x' y') := hr'
              rw [hrec, ← contents_pair ha hb k]
              rcases visit_cases seen a b with ⟨hv, hm⟩ | hv
              · rw [hv]
                rcases hinv.hit hm with h | h <;> rw [h]
                · trivial
                · exact Ag.ok s seen true
              · rw [hv]
                refine Ag.fresh hinv (fun m hm hi => ?_)
                rw [contents_pair ha hb m]
                exact (ih m (by omega)).2.1 _ _ _ f' (by omega) hi
            · rw [hrec]
              exact ihk.2.1 seen _ _ f' hf' hinvk
          · -- two vectors
            rename_i i j
            rcases record_cases seen l r with ⟨a, b, rfl, rfl, hrec⟩ | hrec
            · have ha : s.get (.ptr a) = .ok (.vec i) := hl'
              have hb : s.get (.ptr b) = .ok (.vec j) := hr'
              rw [hrec]
              rcases visit_cases seen a b with ⟨hv, hm⟩ | hv
              · rw [hv, ← contents_vec ha hb k]
                rcases hinv.hit hm with h | h <;> rw [h]
                · trivial
                · exact Ag.ok s seen true
              · rw [hv, ← contents_vec ha hb k]
                refine Ag.fresh hinv (fun m hm hi => ?_)
                rw [contents_vec ha hb m]
                exact vecArm m _ i j hm hi
            · rw [hrec]
              exact vecArm k seen i j (Nat.le_refl _) hinvk
          · exact Ag.bind_same _ (fun _ _ => Ag.bind_same _ (fun _ _ => Ag.ok s seen _))
          · exact Ag.eqv_tail s seen _
        · simp only [if_true]; exact Ag.ok s seen true
      · -- `compare_pair`
        intro seen l r f hf hinv
        obtain ⟨f', rfl⟩ : ∃ f', f = f' + 1 := ⟨f - 1, by omega⟩
        have hf' : k ≤ f' := by omega
        have hinvk : Inv s k seen := hinv.down (by omega)
        unfold Pinned.comparePair comparePairSeen
        by_cases h : (!l.isPair || !r.isPair) = true
        · rw [if_pos h, if_pos h]; exact ihk.1 seen l r f' hf' hinvk
        · rw [if_neg h, if_neg h]
          obtain ⟨hpl, hpr⟩ : l.isPair = true ∧ r.isPair = true := by simpa using h
          obtain ⟨a, d, rfl⟩ := VCell.isPair_iff.mp hpl
          obtain ⟨a', d', rfl⟩ := VCell.isPair_iff.mp hpr
          simp only [VCell.asCar_pair, VCell.asCdr_pair, bind_ok, VCell.asPtr_ptr]
          refine Ag.bind_call (ihk.1 seen (.ptr a) (.ptr a') f' hf' hinvk) (fun b seen1 _ _ hs1 => ?_)
          cases b
          · simp only [Bool.not_false, if_true]; exact Ag.ok_false s seen seen1
          · simp only [Bool.not_true, Bool.false_eq_true, if_false]
            have hinv1 : Inv s (k+1) seen1 := hinv.extend (hs1 rfl)
            refine Ag.bind_same _ (fun l' hl' => Ag.bind_same _ (fun r' hr' => ?_))
            refine Ag.weaken ?_ (fun _ => hs1 rfl)
            by_cases hb : (l'.isPair && r'.isPair) = true
            · rw [if_pos hb]
              rw [Bool.and_eq_true] at hb
              obtain ⟨x, y, rfl⟩ := VCell.isPair_iff.mp hb.1
              obtain ⟨x', y', rfl⟩ := VCell.isPair_iff.mp hb.2
              rw [← contents_pair hl' hr' k]
              rcases visit_cases seen1 d d' with ⟨hv, hm⟩ | hv
              · rw [hv]
                rcases hinv1.hit hm with h | h <;> rw [h]
                · trivial
                · exact Ag.ok s seen1 true
              · rw [hv]
                refine Ag.fresh hinv1 (fun m hm hi => ?_)
                rw [contents_pair hl' hr' m]
                exact (ih m (by omega)).2.1 _ _ _ f' (by omega) hi
            · rw [if_neg hb]
              exact ihk.2.1 seen1 l' r' f' hf' (hinv1.down (by omega))
      · -- `compare_vector`
        intro seen xs ys f hf hinv
        obtain ⟨f', rfl⟩ : ∃ f', f = f' + 1 := ⟨f - 1, by omega⟩
        have hf' : k ≤ f' := by omega
        have hinvk : Inv s k seen := hinv.down (by omega)
        cases xs with
        | nil => simp only [Pinned.compareVector, compareVectorSeen]; exact Ag.ok s seen true
        | cons x xs' =>
          cases ys with
          | nil => simp only [Pinned.compareVector, compareVectorSeen]; exact rfl
          | cons y ys' =>
            simp only [Pinned.compareVector, compareVectorSeen]
            refine Ag.bind_call (ihk.1 seen x y f' hf' hinvk) (fun b seen1 _ _ hs1 => ?_)
            cases b
            · simp only [Bool.not_false, if_true]; exact Ag.ok_false s seen seen1
            · simp only [Bool.not_true, Bool.false_eq_true, if_false]
              exact (ihk.2.2 seen1 xs' ys' f' hf' (hinvk.extend (hs1 rfl))).weaken (fun _ => hs1 rfl)

theorem equal_agrees {s : Store} {n : Nat} {l r : VCell} (h : Pinned.equal n s l r ≠ .diverge) {f : Nat}
    (hf : n ≤ f) : equal f s l r = Pinned.equal n s l r := by
  have hA := (agree_all s n).1 [] l r f hf (Inv.nil s n)
  unfold equal
  cases hp : Pinned.equal n s l r with
  | diverge => exact absurd hp h
  | ok b =>
    rw [hp] at hA
    cases hx : equalSeen f s [] l r with
    | ok a => obtain ⟨b', sn⟩ := a; rw [hx] at hA; simp only [bind_ok]; rw [hA.1]
    | err e => rw [hx] at hA; exact hA.elim
    | panic m => rw [hx] at hA; exact hA.elim
    | diverge => rw [hx] at hA; exact hA.elim
  | err e =>
    rw [hp] at hA
    cases hx : equalSeen f s [] l r with
    | err e' => rw [hx] at hA; cases (show e' = e from hA); rfl
    | ok a => rw [hx] at hA; exact hA.elim
    | panic m => rw [hx] at hA; exact hA.elim
    | diverge => rw [hx] at hA; exact hA.elim
  | panic m =>
    rw [hp] at hA
    cases hx : equalSeen f s [] l r with
    | panic m' => rw [hx] at hA; cases (show m' = m from hA); rfl
    | ok a => rw [hx] at hA; exact hA.elim
    | err e => rw [hx] at hA; exact hA.elim
    | diverge => rw [hx] at hA; exact hA.elim

end Marwood.Store
