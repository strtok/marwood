import Marwood.Lemmas.PreludeInterp
/-!
# `any?`, `map1`, `map`, `for-each` are the images of the regenerated definitions

The procedure argument is a procedure *value* `VCell.builtin gname`; the table `P` resolves the name to the callee `g`
the models are parametric in (`hP : P gname = some g`).
-/
namespace Marwood.Store.Prelude
open Marwood Marwood.Store Marwood.Store.Outcome

section
variable {efuel : Nat} {user : String → Option Callee}

theorem interp_anyNull : ∀ (f : Nat) (s : Store) (l : VCell),
    interp (prims efuel user) defs f "any?" s [.builtin "null?", l] = (do let b ← anyNull f s l; .ok (s, .bool b))
  | 0, s, l => by rw [interp_zero find_any]; rfl
  | f+1, s, l => by
    rw [interp_succ_fixed find_any f s rfl]
    eval_body [find_any, interp_anyNull f, anyNull]
    -- `and` hands on the `#f` of `(pair? list)`, `or` the `#t` of `(null? (car list))`
    refine bind_congr fun b => ?_
    cases b
    · rfl
    · exact bind_congr fun a => bind_congr fun b => by cases b <;> rfl

theorem interp_map1 {gname : String} {g : Callee} (hP : prims efuel user gname = some g) :
    ∀ (f : Nat) (s : Store) (xs : VCell),
    interp (prims efuel user) defs f "map1" s [.builtin gname, xs] = map1 g f s xs
  | 0, s, xs => by rw [interp_zero find_map1]; rfl
  | f+1, s, xs => by
    rw [interp_succ_fixed find_map1 f s rfl]
    eval_body [find_map1, hP, interp_map1 hP f, map1]
end

section
variable {efuel : Nat} {user : String → Option Callee}

theorem localFn_mapAll {gname : String} {g : Callee} (hP : prims efuel user gname = some g) (l0 x0 : VCell) :
    ∀ (f : Nat) (s : Store) (xss : VCell),
    (handlers (prims efuel user) defs f).localFn
        ⟨"map-all", ["xss"], mapAllBody, [("xss", l0), ("f", .builtin gname), ("xs", x0)]⟩ s [xss] = mapAll g f s xss
  | 0, s, xss => rfl
  | f+1, s, xss => by
    have ih := localFn_mapAll hP l0 x0 f
    rw [localFn_succ _ _ _ rfl]
    simp only [mapAllBody] at ih ⊢
    eval_body [find_any, find_map1, interp_anyNull, interp_map1 prims_car, interp_map1 prims_cdr, hP, ih, mapAll]

/-- one more unit of fuel than the model: the call of `map` itself (the model starts at `map-all`) -/
theorem interp_map {gname : String} {g : Callee} (hP : prims efuel user gname = some g) (fuel : Nat) (s : Store)
    (lists : List VCell) :
    interp (prims efuel user) defs (fuel+1) "map" s (.builtin gname :: lists) = map g fuel s lists := by
  cases lists with
  | nil => rw [interp_succ find_map]; rfl
  | cons x rest =>
    refine (interp_succ_rest find_map fuel s [.builtin gname, x] rest rfl).trans ?_
    eval_body [localFn_mapAll hP, map]

theorem localFn_forEachAll {gname : String} {g : Callee} (hP : prims efuel user gname = some g) (l0 x0 : VCell) :
    ∀ (f : Nat) (s : Store) (xss : VCell),
    (handlers (prims efuel user) defs f).localFn
        ⟨"for-each-all", ["xss"], forEachAllBody, [("xss", l0), ("f", .builtin gname), ("xs", x0)]⟩ s [xss] =
      forEachAll g f s xss
  | 0, s, xss => rfl
  | f+1, s, xss => by
    have ih := localFn_forEachAll hP l0 x0 f
    rw [localFn_succ _ _ _ rfl]
    simp only [forEachAllBody] at ih ⊢
    eval_body [find_any, find_map1, interp_anyNull, interp_map1 prims_car, interp_map1 prims_cdr, hP, ih, forEachAll]

theorem interp_forEach {gname : String} {g : Callee} (hP : prims efuel user gname = some g) (fuel : Nat) (s : Store)
    (lists : List VCell) :
    interp (prims efuel user) defs (fuel+1) "for-each" s (.builtin gname :: lists) = forEach g fuel s lists := by
  cases lists with
  | nil => rw [interp_succ find_forEach]; rfl
  | cons x rest =>
    refine (interp_succ_rest find_forEach fuel s [.builtin gname, x] rest rfl).trans ?_
    eval_body [localFn_forEachAll hP, forEach]
end

section
variable {efuel : Nat} {user : String → Option Callee}

/-- which is how `parseExpr` reads `(caar x)` inside `assq`, `assv`, `assoc`, and how `Store.ass` transcribes it -/
theorem interp_caar (f : Nat) (s : Store) (x : VCell) :
    interp (prims efuel user) defs (f+1) "caar" s [x] = (do let (s, v) ← car s [x]; car s [v]) := by
  rw [interp_succ_fixed find_caar f s rfl]
  eval_body []

theorem interp_list (f : Nat) (s : Store) (args : List VCell) :
    interp (prims efuel user) defs (f+1) "list" s args = list s args := by
  refine (interp_succ_rest find_list f s [] args rfl).trans ?_
  eval_body []
  cases list s args <;> rfl
end

end Marwood.Store.Prelude
