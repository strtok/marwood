import Marwood.Lemmas.EvalExtra
import Marwood.Lemmas.EvalExtraCut
/-!
# The simulation: syntax and list facts, sequences, store-level helpers, data in and out (same fuel on both sides)
-/
namespace Marwood.Spec.Eval.Extra
open Marwood Marwood.Spec.Eval Marwood.Spec.Eval.ExtraJ

variable {f : LMap} {J : Junk} {δ : Side}

theorem cleanB_pair {B : List Text} {a d : Datum} : CleanB B (.pair a d) ↔ CleanB B a ∧ CleanB B d := by
  constructor
  · intro h; exact ⟨fun b hb => ((clean_pair a d).1 (h b hb)).1, fun b hb => ((clean_pair a d).1 (h b hb)).2⟩
  · intro h b hb; exact (clean_pair a d).2 ⟨h.1 b hb, h.2 b hb⟩

theorem cleanB_vec {B : List Text} {e : Datum} : CleanB B (.vec e) ↔ CleanB B e := by
  constructor
  · intro h b hb; exact (clean_vec e).1 (h b hb)
  · intro h b hb; exact (clean_vec e).2 (h b hb)

theorem cleanB_sym {B : List Text} {s : Text} : CleanB B (.sym s) ↔ s ∉ B := by
  constructor
  · intro h hs; exact (clean_sym s).1 (h s hs) rfl
  · intro h b hb; exact (clean_sym s).2 (fun e => h (e ▸ hb))

theorem cleanB_nil (d : Datum) : CleanB [] d := fun _ h => by cases h

theorem cleanBs_nil {B : List Text} : CleanBs B [] := fun _ h => by cases h

theorem cleanBs_cons {B : List Text} {d : Datum} {ds : List Datum} :
    CleanBs B (d :: ds) ↔ CleanB B d ∧ CleanBs B ds := by
  constructor
  · intro h; exact ⟨h d (by simp), fun d' hd' => h d' (by simp [hd'])⟩
  · intro h d' hd'
    simp only [List.mem_cons] at hd'
    rcases hd' with rfl | hd'
    · exact h.1
    · exact h.2 d' hd'

theorem cleanBs_properList {B : List Text} {d : Datum} {es : List Datum} (h : properList d = some es)
    (hc : CleanB B d) : CleanBs B es :=
  fun e he b hb => clean_properList d es h (hc b hb) e he

theorem cleanB_parseBindings {B : List Text} {d : Datum} {bs : List (Text × Datum)} (h : parseBindings d = some bs)
    (hc : CleanB B d) : ∀ p ∈ bs, p.1 ∉ B ∧ CleanB B p.2 := by
  intro p hp
  refine ⟨fun hb => (clean_parseBindings d bs h (hc _ hb) p hp).1 rfl, fun b hb => (clean_parseBindings d bs h (hc b hb) p hp).2⟩

structure RecSimD (f : LMap) (J : Junk) (δ : Side) (r r' : Rec) : Prop where
  eval : ∀ e ρ ρ' B, EnvRel f B ρ ρ' → CleanB B e → SimD f J δ (VRel f) (r.eval e ρ) (r'.eval e ρ')
  apply : ∀ g g' args args', VRel f g g' → VsRel f args args' → SimD f J δ (VRel f) (r.apply g args) (r'.apply g' args')

variable {B : List Text} {ρ ρ' : Env}

inductive OCellRel (f : LMap) : Option Cell → Option Cell → Prop
  | none : OCellRel f none none
  | some {c c' : Cell} : CellRel f c c' → OCellRel f (some c) (some c')

theorem StRel.cell {st st' : St} (r : StRel f st st') (l : Loc) : OCellRel f st.store[l]? st'.store[f l]? := by
  cases h : st.store[l]? with
  | none => rw [r.cell_none h]; exact .none
  | some c =>
    obtain ⟨c', h1, h2⟩ := r.cells l c h
    rw [h1]; exact .some h2

theorem EnvRel.cons (he : EnvRel f B ρ ρ') (x : Text) {l l' : Loc} (hl : f l = l') :
    EnvRel f B ((x, l) :: ρ) ((x, l') :: ρ') := by
  intro y hy
  subst hl
  simp only [List.lookup_cons]
  cases y == x with
  | true => exact .some l
  | false => exact he y hy


variable {f : LMap} {G : List Text} {E : EnvCorr f G} {GL : GlCorr f G E}

theorem VsRelG.length_eq {xs xs' : List Val} (h : VsRelG f G E xs xs') : xs'.length = xs.length := by
  induction h with
  | nil => rfl
  | cons _ _ ih => simp [ih]

theorem VsRelG.append {xs xs' ys ys' : List Val} (h1 : VsRelG f G E xs xs') (h2 : VsRelG f G E ys ys') :
    VsRelG f G E (xs ++ ys) (xs' ++ ys') := by
  induction h1 with
  | nil => exact h2
  | cons hv _ ih => exact .cons hv ih

theorem VsRelG.reverse {xs xs' : List Val} (h : VsRelG f G E xs xs') : VsRelG f G E xs.reverse xs'.reverse := by
  induction h with
  | nil => exact .nil
  | cons hv _ ih => simp only [List.reverse_cons]; exact ih.append (.cons hv .nil)

theorem VsRelG.replicate (n : Nat) {v v' : Val} (h : VRelG f G E v v') : VsRelG f G E (List.replicate n v) (List.replicate n v') := by
  induction n with
  | zero => exact .nil
  | succ n ih => exact .cons h ih

theorem VsRelG.set {xs xs' : List Val} (h : VsRelG f G E xs xs') (i : Nat) {v v' : Val} (hv : VRelG f G E v v') :
    VsRelG f G E (xs.set i v) (xs'.set i v') := by
  induction h generalizing i with
  | nil => exact .nil
  | cons hw ht ih =>
    cases i with
    | zero => exact .cons hv ht
    | succ i => exact .cons hw (ih i)

theorem VsRelG.getElem? {xs xs' : List Val} (h : VsRelG f G E xs xs') (i : Nat) :
    match xs[i]?, xs'[i]? with
    | some v, some v' => VRelG f G E v v'
    | none, none => True
    | _, _ => False := by
  induction h generalizing i with
  | nil => simp
  | cons hw _ ih =>
    cases i with
    | zero => simpa using hw
    | succ i => simpa using ih i

theorem VsRelG.dropLast {xs xs' : List Val} (h : VsRelG f G E xs xs') : VsRelG f G E xs.dropLast xs'.dropLast := by
  induction h with
  | nil => exact .nil
  | cons hv ht ih =>
    cases ht with
    | nil => exact .nil
    | cons hw ht' => simp only [List.dropLast_cons_cons]; exact .cons hv ih

theorem VsRelG.getLastD {xs xs' : List Val} (h : VsRelG f G E xs xs') :
    VRelG f G E (xs.getLast?.getD .nil) (xs'.getLast?.getD .nil) := by
  induction h with
  | nil => exact .nil
  | cons hv ht ih =>
    cases ht with
    | nil => simpa using hv
    | cons hw ht' => simpa [List.getLast?_cons_cons] using ih

theorem VsRelG.tail {xs xs' : List Val} (h : VsRelG f G E xs xs') : VsRelG f G E xs.tail xs'.tail := by
  cases h with
  | nil => exact .nil
  | cons _ ht => exact ht

theorem VsRelG.headD {xs xs' : List Val} (h : VsRelG f G E xs xs') : VRelG f G E (xs.headD .void) (xs'.headD .void) := by
  cases h with
  | nil => exact .void
  | cons hv _ => exact hv

theorem VsRelG.isEmpty {xs xs' : List Val} (h : VsRelG f G E xs xs') : xs'.isEmpty = xs.isEmpty := by
  cases h <;> rfl

theorem VsRelG.exists_right {xs xs' : List Val} (h : VsRelG f G E xs xs') {w : Val} (hw : w ∈ xs) : ∃ w', VRelG f G E w w' := by
  induction h with
  | nil => cases hw
  | cons hv _ ih =>
    simp only [List.mem_cons] at hw
    rcases hw with rfl | hw
    · exact ⟨_, hv⟩
    · exact ih hw

/-- what one level of evaluation may assume about the levels below -/
structure RecSimG (f : LMap) (G : List Text) (E : EnvCorr f G) (GL : GlCorr f G E) (J : Junk) (δ : Side) (r r' : Rec) : Prop where
  eval : ∀ e ρ ρ' B, E.rel B ρ ρ' → CleanB B e → SimG f G E GL J δ (VRelG f G E) (r.eval e ρ) (r'.eval e ρ')
  apply : ∀ g g' args args', VRelG f G E g g' → VsRelG f G E args args' → SimG f G E GL J δ (VRelG f G E) (r.apply g args) (r'.apply g' args')

variable {r r' : Rec}

theorem simG_evalArgs (hr : RecSimG f G E GL J δ r r') (he : E.rel B ρ ρ') : ∀ es, CleanBs B es →
    SimG f G E GL J δ (VsRelG f G E) (evalArgs r ρ es) (evalArgs r' ρ' es)
  | [], _ => SimG.pure _ _ .nil
  | e :: es, h => by
    rw [cleanBs_cons] at h
    simp only [evalArgs]
    refine SimG.bind (hr.eval e ρ ρ' B he h.1) (fun v v' hv => ?_)
    refine SimG.bind (simG_evalArgs hr he es h.2) (fun vs vs' hvs => ?_)
    exact SimG.pure _ _ (.cons hv hvs)

theorem simG_evalExprs (hr : RecSimG f G E GL J δ r r') (he : E.rel B ρ ρ') : ∀ es, CleanBs B es →
    SimG f G E GL J δ (VRelG f G E) (evalExprs r ρ es) (evalExprs r' ρ' es)
  | [], _ => SimG.throw _
  | [e], h => by rw [cleanBs_cons] at h; simpa [evalExprs] using hr.eval e ρ ρ' B he h.1
  | e :: e' :: es, h => by
    rw [cleanBs_cons] at h
    simp only [evalExprs]
    refine SimG.bind (hr.eval e ρ ρ' B he h.1) (fun _ _ _ => ?_)
    exact simG_evalExprs hr he (e' :: es) h.2

theorem simG_evalAnd (hr : RecSimG f G E GL J δ r r') (he : E.rel B ρ ρ') : ∀ es, CleanBs B es →
    SimG f G E GL J δ (VRelG f G E) (evalAnd r ρ es) (evalAnd r' ρ' es)
  | [], _ => SimG.pure _ _ (.bool true)
  | [e], h => by rw [cleanBs_cons] at h; simpa [evalAnd] using hr.eval e ρ ρ' B he h.1
  | e :: e' :: es, h => by
    rw [cleanBs_cons] at h
    simp only [evalAnd]
    refine SimG.bind (hr.eval e ρ ρ' B he h.1) (fun v v' hv => ?_)
    rw [hv.truthy]
    split
    · exact simG_evalAnd hr he (e' :: es) h.2
    · exact SimG.pure _ _ hv

theorem simG_evalOr (hr : RecSimG f G E GL J δ r r') (he : E.rel B ρ ρ') : ∀ es, CleanBs B es →
    SimG f G E GL J δ (VRelG f G E) (evalOr r ρ es) (evalOr r' ρ' es)
  | [], _ => SimG.pure _ _ (.bool false)
  | [e], h => by rw [cleanBs_cons] at h; simpa [evalOr] using hr.eval e ρ ρ' B he h.1
  | e :: e' :: es, h => by
    rw [cleanBs_cons] at h
    simp only [evalOr]
    refine SimG.bind (hr.eval e ρ ρ' B he h.1) (fun v v' hv => ?_)
    rw [hv.truthy]
    split
    · exact SimG.pure _ _ hv
    · exact simG_evalOr hr he (e' :: es) h.2

theorem simG_readVar {l l' : Loc} (hl : f l = l') : SimG f G E GL J δ (VRelG f G E) (readVar l) (readVar l') := by
  unfold readVar
  refine SimG.bind (simG_readCell hl) (fun c c' hc => ?_)
  cases hc with
  | var hv => exact SimG.pure _ _ hv
  | _ => exact SimG.throw _

theorem simG_readPair {v v' : Val} (hv : VRelG f G E v v') :
    SimG f G E GL J δ (fun p p' => VRelG f G E p.1 p'.1 ∧ VRelG f G E p.2 p'.2) (readPair v) (readPair v') := by
  cases hv with
  | pair l =>
    unfold readPair
    refine SimG.bind (simG_readCell rfl) (fun c c' hc => ?_)
    cases hc with
    | pair ha hd => exact SimG.pure _ _ ⟨ha, hd⟩
    | _ => exact SimG.throw _
  | _ => exact SimG.throw _

theorem simG_readVec {v v' : Val} (hv : VRelG f G E v v') :
    SimG f G E GL J δ (fun p p' => f p.1 = p'.1 ∧ VsRelG f G E p.2 p'.2) (readVec v) (readVec v') := by
  cases hv with
  | vec l =>
    unfold readVec
    refine SimG.bind (simG_readCell rfl) (fun c c' hc => ?_)
    cases hc with
    | vec hx => exact SimG.pure _ _ ⟨rfl, hx⟩
    | _ => exact SimG.throw _
  | _ => exact SimG.throw _

theorem simG_cons {a a' d d' : Val} (ha : VRelG f G E a a') (hd : VRelG f G E d d') : SimG f G E GL J δ (VRelG f G E) (cons a d) (cons a' d') := by
  unfold cons
  refine SimG.bind (simG_allocCell (.pair ha hd)) (fun l l' hl => ?_)
  subst hl
  exact SimG.pure _ _ (.pair l)

theorem simG_allocVec {xs xs' : List Val} (h : VsRelG f G E xs xs') : SimG f G E GL J δ (VRelG f G E) (allocVec xs) (allocVec xs') := by
  unfold allocVec
  refine SimG.bind (simG_allocCell (.vec h)) (fun l l' hl => ?_)
  subst hl
  exact SimG.pure _ _ (.vec l)

theorem simG_allocListTail {vs vs' : List Val} (h : VsRelG f G E vs vs') {t t' : Val} (ht : VRelG f G E t t') :
    SimG f G E GL J δ (VRelG f G E) (allocListTail vs t) (allocListTail vs' t') := by
  induction h with
  | nil => exact SimG.pure _ _ ht
  | cons hv _ ih =>
    simp only [allocListTail]
    exact SimG.bind ih (fun r r' hr => simG_cons hv hr)

theorem simG_allocList {vs vs' : List Val} (h : VsRelG f G E vs vs') : SimG f G E GL J δ (VRelG f G E) (allocList vs) (allocList vs') := by
  rw [allocList_eq_tail, allocList_eq_tail]
  exact simG_allocListTail h .nil

theorem simG_quote : ∀ (d : Datum), CleanB G d →
    SimG f G E GL J δ (VRelG f G E) (quoteVal d) (quoteVal d) ∧ SimG f G E GL J δ (VsRelG f G E) (quoteElems d) (quoteElems d) := by
  intro d
  induction d with
  | bool b => intro _; exact ⟨SimG.pure _ _ (.bool b), SimG.pure _ _ .nil⟩
  | char c => intro _; exact ⟨SimG.pure _ _ (.char c), SimG.pure _ _ .nil⟩
  | nil => intro _; exact ⟨SimG.pure _ _ .nil, SimG.pure _ _ .nil⟩
  | num n =>
    intro _
    refine ⟨?_, SimG.pure _ _ .nil⟩
    simp only [quoteVal]
    cases intOfNum n with
    | none => exact SimG.throw _
    | some i => exact SimG.pure _ _ (.int i)
  | str s => intro _; exact ⟨SimG.pure _ _ (.str s), SimG.pure _ _ .nil⟩
  | sym s => intro h; exact ⟨SimG.pure _ _ (.sym s (cleanB_sym.1 h)), SimG.pure _ _ .nil⟩
  | pair a d iha ihd =>
    intro h
    rw [cleanB_pair] at h
    refine ⟨?_, ?_⟩
    · simp only [quoteVal]
      refine SimG.bind (iha h.1).1 (fun a' a'' ha => ?_)
      refine SimG.bind (ihd h.2).1 (fun d' d'' hd => ?_)
      exact simG_cons ha hd
    · simp only [quoteElems]
      refine SimG.bind (iha h.1).1 (fun a' a'' ha => ?_)
      refine SimG.bind (ihd h.2).2 (fun d' d'' hd => ?_)
      exact SimG.pure _ _ (.cons ha hd)
  | vec e ih =>
    intro h
    rw [cleanB_vec] at h
    refine ⟨?_, SimG.pure _ _ .nil⟩
    simp only [quoteVal]
    exact SimG.bind (ih h).2 (fun xs xs' hx => simG_allocVec hx)
  | continuation => intro _; exact ⟨SimG.throw _, SimG.pure _ _ .nil⟩
  | macro_ => intro _; exact ⟨SimG.throw _, SimG.pure _ _ .nil⟩
  | procedure d => intro _; exact ⟨SimG.throw _, SimG.pure _ _ .nil⟩
  | undefined => intro _; exact ⟨SimG.pure _ _ .undef, SimG.pure _ _ .nil⟩
  | void => intro _; exact ⟨SimG.pure _ _ .void, SimG.pure _ _ .nil⟩

theorem simG_quoteVal (d : Datum) (h : CleanB G d) : SimG f G E GL J δ (VRelG f G E) (quoteVal d) (quoteVal d) := (simG_quote d h).1

inductive OVsRelG (f : LMap) (G : List Text) (E : EnvCorr f G) : Option (List Val) → Option (List Val) → Prop
  | none : OVsRelG f G E none none
  | some {xs xs' : List Val} : VsRelG f G E xs xs' → OVsRelG f G E (some xs) (some xs')

theorem StRelG.cell_or {st st' : St} (r : StRelG f G E GL J st st') (l : Loc) :
    (st.store[l]? = none ∧ st'.store[f l]? = none) ∨
      ∃ c c', st.store[l]? = some c ∧ st'.store[f l]? = some c' ∧ CellRelG f G E c c' := by
  cases h : st.store[l]? with
  | none => exact .inl ⟨rfl, r.cell_none h⟩
  | some c =>
    obtain ⟨c', h1, h2⟩ := r.cells l c h
    exact .inr ⟨c, c', rfl, h1, h2⟩

/-- with the same fuel on both sides: one induction for the cut and the result (`listCut_rel`, `listOfVal_relG`) -/
theorem list_relG {st st' : St} (r : StRelG f G E GL J st st') : ∀ (m : Nat) {v v' : Val}, VRelG f G E v v' →
    listCut m st'.store v' = listCut m st.store v ∧ OVsRelG f G E (listOfVal m st.store v) (listOfVal m st'.store v') := by
  intro m
  induction m with
  | zero =>
    intro v v' hv
    cases hv <;> first | exact ⟨rfl, .none⟩ | exact ⟨rfl, .some .nil⟩
  | succ m ih =>
    intro v v' hv
    cases hv with
    | nil => exact ⟨rfl, .some .nil⟩
    | pair l =>
      simp only [listOfVal, listCut]
      rcases r.cell_or l with ⟨h1, h2⟩ | ⟨c, c', h1, h2, hc⟩ <;> rw [h1, h2]
      · exact ⟨rfl, .none⟩
      cases hc with
      | pair ha hd =>
        refine ⟨(ih hd).1, ?_⟩
        dsimp only
        have := (ih hd).2
        revert this
        generalize listOfVal m st.store _ = q
        generalize listOfVal m st'.store _ = q'
        intro hq
        cases hq with
        | none => exact .none
        | some hx => exact .some (.cons ha hx)
      | _ => exact ⟨rfl, .none⟩
    | _ => exact ⟨rfl, .none⟩

theorem listOfVal_relG {st st' : St} (r : StRelG f G E GL J st st') (m : Nat) {v v' : Val} (hv : VRelG f G E v v') :
    OVsRelG f G E (listOfVal m st.store v) (listOfVal m st'.store v') := (list_relG r m hv).2

theorem map_congr_relG {α : Type} {xs xs' : List Val} {g g' : Val → α} (h : VsRelG f G E xs xs')
    (hg : ∀ v v', VRelG f G E v v' → g' v' = g v) : xs'.map g' = xs.map g := by
  induction h with
  | nil => rfl
  | cons hv _ ih => simp [hg _ _ hv, ih]

theorem any_congr_relG {xs xs' : List Val} {g g' : Val → Bool} (h : VsRelG f G E xs xs')
    (hg : ∀ v v', VRelG f G E v v' → g' v' = g v) : xs'.any g' = xs.any g := by
  induction h with
  | nil => rfl
  | cons hv _ ih => simp [hg _ _ hv, ih]

theorem val_relG {st st' : St} (r : StRelG f G E GL J st st') : ∀ (m : Nat) {v v' : Val}, VRelG f G E v v' →
    valCut m st'.store v' = valCut m st.store v ∧ valToDatum m st'.store v' = valToDatum m st.store v := by
  intro m
  induction m with
  | zero => intro v v' hv; cases hv <;> exact ⟨rfl, rfl⟩
  | succ m ih =>
    intro v v' hv
    cases hv with
    | pair l =>
      simp only [valToDatum, valCut]
      rcases r.cell_or l with ⟨h1, h2⟩ | ⟨c, c', h1, h2, hc⟩ <;> rw [h1, h2]
      · exact ⟨rfl, rfl⟩
      cases hc with
      | pair ha hd => exact ⟨by dsimp only; rw [(ih ha).1, (ih hd).1], by dsimp only; rw [(ih ha).2, (ih hd).2]⟩
      | _ => exact ⟨rfl, rfl⟩
    | vec l =>
      simp only [valToDatum, valCut]
      rcases r.cell_or l with ⟨h1, h2⟩ | ⟨c, c', h1, h2, hc⟩ <;> rw [h1, h2]
      · exact ⟨rfl, rfl⟩
      cases hc with
      | vec hx =>
        exact ⟨any_congr_relG hx (fun v v' hv => (ih hv).1), by dsimp only; rw [map_congr_relG hx (fun v v' hv => (ih hv).2)]⟩
      | _ => exact ⟨rfl, rfl⟩
    | promise l =>
      simp only [valToDatum, valCut]
      rcases r.cell_or l with ⟨h1, h2⟩ | ⟨c, c', h1, h2, hc⟩ <;> rw [h1, h2]
      · exact ⟨rfl, rfl⟩
      cases hc with
      | promise b hw => exact ⟨(ih hw).1, by dsimp only; rw [(ih hw).2]⟩
      | _ => exact ⟨rfl, rfl⟩
    | _ => exact ⟨rfl, rfl⟩

theorem valToDatum_relG {st st' : St} (r : StRelG f G E GL J st st') (m : Nat) {v v' : Val} (hv : VRelG f G E v v') :
    valToDatum m st'.store v' = valToDatum m st.store v := (val_relG r m hv).2

theorem all_zip_congr {xs xs' ys ys' : List Val} {g g' : Val × Val → Bool} (hx : VsRelG f G E xs xs') (hy : VsRelG f G E ys ys')
    (hg : ∀ a a' b b', VRelG f G E a a' → VRelG f G E b b' → g' (a', b') = g (a, b)) :
    (xs'.zip ys').all g' = (xs.zip ys).all g := by
  induction hx generalizing ys ys' with
  | nil => simp
  | cons hv _ ih =>
    cases hy with
    | nil => simp
    | cons hw hy' => simp [hg _ _ _ _ hv hw, ih hy']

theorem equalVal_relG (hf : Inj f) {st st' : St} (r : StRelG f G E GL J st st') : ∀ (m : Nat) {a a' b b' : Val},
    VRelG f G E a a' → VRelG f G E b b' → equalVal m st'.store a' b' = equalVal m st.store a b := by
  intro m
  induction m with
  | zero => intro a a' b b' ha hb; simp only [equalVal]; exact VRelG.eqv hf ha hb
  | succ m ih =>
    intro a a' b b' ha hb
    cases ha with
    | pair l1 =>
      cases hb with
      | pair l2 =>
        simp only [equalVal]
        have c1 := r.cell_or l1
        have c2 := r.cell_or l2
        revert c1 c2
        generalize st.store[l1]? = o1
        generalize st'.store[f l1]? = o1'
        generalize st.store[l2]? = o2
        generalize st'.store[f l2]? = o2'
        intro c1 c2
        rcases c1 with ⟨rfl, rfl⟩ | ⟨c1, c1', rfl, rfl, hc1⟩ <;> rcases c2 with ⟨rfl, rfl⟩ | ⟨c2, c2', rfl, rfl, hc2⟩
        · rfl
        · cases hc2 <;> rfl
        · cases hc1 <;> rfl
        · cases hc1 <;> cases hc2 <;> try rfl
          rename_i ha1 hd1 _ _ _ _ ha2 hd2
          simp only [ih ha1 ha2, ih hd1 hd2]
      | _ => rfl
    | vec l1 =>
      cases hb with
      | vec l2 =>
        simp only [equalVal]
        have c1 := r.cell_or l1
        have c2 := r.cell_or l2
        revert c1 c2
        generalize st.store[l1]? = o1
        generalize st'.store[f l1]? = o1'
        generalize st.store[l2]? = o2
        generalize st'.store[f l2]? = o2'
        intro c1 c2
        rcases c1 with ⟨rfl, rfl⟩ | ⟨c1, c1', rfl, rfl, hc1⟩ <;> rcases c2 with ⟨rfl, rfl⟩ | ⟨c2, c2', rfl, rfl, hc2⟩
        · rfl
        · cases hc2 <;> rfl
        · cases hc1 <;> rfl
        · cases hc1 <;> cases hc2 <;> try rfl
          rename_i hx _ _ hy
          simp only [hx.length_eq, hy.length_eq]
          congr 1
          exact all_zip_congr hx hy (fun a a' b b' ha hb => ih ha hb)
      | _ => rfl
    | _ => first | rfl | (cases hb <;> first | rfl | exact hf.beq _ _)


end Marwood.Spec.Eval.Extra
