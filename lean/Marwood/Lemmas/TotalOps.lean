import Marwood.Lemmas.Total
import Marwood.Lemmas.StoreStr
/-! # C06: the loops and helpers of the Store builtins never panic on well-formed stores -/
namespace Marwood.Store
open Outcome

variable {s : Store}

theorem asPtr_noPanic (v : VCell) : Outcome.NoPanic v.asPtr := by cases v <;> simp [VCell.asPtr]
theorem asCar_noPanic (v : VCell) : Outcome.NoPanic v.asCar := by cases v <;> simp [VCell.asCar]
theorem asCdr_noPanic (v : VCell) : Outcome.NoPanic v.asCdr := by cases v <;> simp [VCell.asCdr]

theorem finish_noPanic {r : Res} (h : Outcome.NoPanic r) : Outcome.NoPanic (finish r) := by
  unfold finish
  refine noPanic_bind h (fun a _ => ?_)
  obtain ⟨s, v⟩ := a
  simp only
  split <;> simp

theorem getListTail_noPanic (hs : s.WF) : ∀ (k : Nat) (rest : VCell), VCell.Valid s rest →
    Outcome.NoPanic (getListTail s rest k) ∧ ∀ t, getListTail s rest k = .ok t → VCell.Valid s t
  | 0, rest, hr => by simp [getListTail, hr]
  | k+1, rest, hr => by
    obtain ⟨c, hc, hcv⟩ := get_valid hs hr
    unfold getListTail
    simp only [hc, bind_ok]
    split
    · simp
    · cases hp : c.asCdr with
      | ok p =>
        obtain ⟨a, d, rfl, rfl⟩ := VCell.asCdr_eq_ok hp
        exact getListTail_noPanic hs k (.ptr d) hcv.2
      | panic m => exact absurd hp (asCdr_noPanic c m)
      | _ => simp

theorem isListLoop_noPanic (hs : s.WF) : ∀ (f : Nat) (rest : VCell), VCell.Valid s rest →
    Outcome.NoPanic (isListLoop f s rest)
  | 0, _, _ => by simp [isListLoop]
  | f+1, rest, hr => by
    unfold isListLoop
    split
    · simp
    · rename_i hp
      obtain ⟨a, d, rfl⟩ := VCell.isPair_iff.mp (by simpa using hp)
      obtain ⟨c, hc, hcv⟩ := get_valid hs (v := .ptr d) hr.2
      simp only [VCell.asCdr_pair, hc, bind_ok]
      exact isListLoop_noPanic hs f c hcv

theorem isListTHLoop_noPanic (hs : s.WF) : ∀ (f : Nat) (rest slow : VCell) (step : Bool),
    VCell.Valid s rest → VCell.Valid s slow → Outcome.NoPanic (isListTHLoop f s rest slow step)
  | 0, _, _, _, _, _ => by simp [isListTHLoop]
  | f+1, rest, slow, step, hr, hsl => by
    unfold isListTHLoop
    split
    · simp
    · rename_i hp
      obtain ⟨a, d, rfl⟩ := VCell.isPair_iff.mp (by simpa using hp)
      simp only [VCell.asCdr_pair, bind_ok]
      obtain ⟨c, hc, hcv⟩ := get_valid hs (v := .ptr d) hr.2
      split
      · refine noPanic_bind (asCdr_noPanic slow) (fun p hp => ?_)
        obtain ⟨a2, d2, rfl, rfl⟩ := VCell.asCdr_eq_ok hp
        split
        · simp
        · obtain ⟨c2, hc2, hcv2⟩ := get_valid hs (v := .ptr d2) hsl.2
          simp only [hc, hc2, bind_ok]
          exact isListTHLoop_noPanic hs f c c2 false hcv hcv2
      · simp only [hc, bind_ok]
        exact isListTHLoop_noPanic hs f c slow true hcv hsl

theorem reverseLoop_noPanic : ∀ (f : Nat) (s : Store) (rest tail : VCell), s.WF →
    VCell.Valid s rest → VCell.Valid s tail → Outcome.NoPanic (reverseLoop f s rest tail)
  | 0, _, _, _, _, _, _ => by simp [reverseLoop]
  | f+1, s, rest, tail, hs, hr, ht => by
    unfold reverseLoop
    refine noPanic_bind (asCar_noPanic rest) (fun p hp => ?_)
    obtain ⟨a, d, rfl, rfl⟩ := VCell.asCar_eq_ok hp
    simp only [VCell.asPtr_ptr, bind_ok]
    refine noPanic_bind (asPtr_noPanic tail) (fun t ht' => ?_)
    cases VCell.asPtr_eq_ok ht'
    simp only [VCell.asCdr_pair, bind_ok]
    have hv : VCell.Valid s (.pair a t) := ⟨hr.1, ht⟩
    obtain ⟨hs', hle, hpv, _⟩ := put_wf hs hv
    obtain ⟨c, hc, hcv⟩ := get_valid hs' (v := .ptr d) (Nat.lt_of_lt_of_le hr.2 hle.cells)
    simp only [hc, bind_ok]
    split
    · exact reverseLoop_noPanic f _ c _ hs' hcv hpv
    · split <;> simp

theorem vecToListLoop_noPanic : ∀ (xs : List VCell) (s : Store) (tail : VCell),
    Outcome.NoPanic (vecToListLoop s xs tail)
  | [], s, tail => by simp [vecToListLoop]
  | x :: xs, s, tail => by
    unfold vecToListLoop
    simp only
    refine noPanic_bind (asPtr_noPanic _) (fun cp _ => ?_)
    refine noPanic_bind (asPtr_noPanic _) (fun tp _ => ?_)
    exact vecToListLoop_noPanic xs _ _

theorem listLoop_noPanic : ∀ (xs : List VCell) (s : Store) (acc : Nat), Outcome.NoPanic (listLoop s xs acc) :=
  fun xs s acc m h => vecToListLoop_noPanic xs s (.ptr acc) m (by rw [vecToListLoop_eq, h]; rfl)

theorem collectCars_noPanic (hs : s.WF) : ∀ (f : Nat) (l : VCell) (acc : List VCell),
    VCell.Valid s l → Outcome.NoPanic (collectCars f s l acc)
  | 0, _, _, _ => by simp [collectCars]
  | f+1, l, acc, hl => by
    unfold collectCars
    split
    · rename_i hp
      obtain ⟨a, d, rfl⟩ := VCell.isPair_iff.mp hp
      obtain ⟨c, hc, hcv⟩ := get_valid hs (v := .ptr d) hl.2
      simp only [VCell.asCar_pair, VCell.asCdr_pair, hc, bind_ok]
      exact collectCars_noPanic hs f c _ hcv
    · simp

theorem mem_putRange : ∀ (vals xs : List VCell) (at_ : Nat) (y : VCell),
    y ∈ putRange xs at_ vals → y ∈ xs ∨ y ∈ vals
  | [], xs, at_, y, h => by simp [putRange] at h; exact .inl h
  | v :: vals, xs, at_, y, h => by
    unfold putRange at h
    rcases mem_putRange vals _ _ y h with h1 | h1
    · split at h1
      · rcases List.mem_or_eq_of_mem_set h1 with h2 | rfl
        · exact .inl h2
        · exact .inr (by simp)
      · exact .inl h1
    · exact .inr (by simp [h1])

theorem popString_spec (hs : s.WF) {v : VCell} (hv : VCell.Valid s v) :
    (∃ id, popString s v = .ok id ∧ id < s.strs.length) ∨ ∃ e, popString s v = .err e := by
  obtain ⟨c, hc, hcv⟩ := get_valid hs hv
  unfold popString
  simp only [hc, bind_ok]
  split
  · rename_i id; exact .inl ⟨id, rfl, hcv⟩
  · exact .inr ⟨_, rfl⟩

theorem popChar_noPanic (hs : s.WF) {v : VCell} (hv : VCell.Valid s v) : Outcome.NoPanic (popChar s v) := by
  obtain ⟨c, hc, _⟩ := get_valid hs hv
  unfold popChar
  simp only [hc, bind_ok]
  split <;> simp

/-- `pop_usize` is `pop_index` in the model (they differ on non-integers only) -/
theorem popUsize_noPanic (hs : s.WF) {v : VCell} (hv : VCell.Valid s v) : Outcome.NoPanic (popUsize s v) :=
  popIndex_noPanic hs hv

theorem popStr_noPanic (hs : s.WF) {v : VCell} (hv : VCell.Valid s v) :
    Outcome.NoPanic (do let id ← popString s v; s.strGet id) := by
  rcases popString_spec hs hv with ⟨id, hid, hlt⟩ | ⟨e, he⟩
  · simp [hid, strGet_ok hlt]
  · simp [he]

theorem popStrings_noPanic (hs : s.WF) : ∀ (vs : List VCell), (∀ v ∈ vs, VCell.Valid s v) →
    Outcome.NoPanic (popStrings s vs)
  | [], _ => by simp [popStrings]
  | v :: vs, h => by
    unfold popStrings
    rcases popString_spec hs (h v (by simp)) with ⟨id, hid, hlt⟩ | ⟨e, he⟩
    · simp only [hid, bind_ok, strGet_ok hlt]
      refine noPanic_bind (popStrings_noPanic hs vs (fun x hx => h x (by simp [hx]))) (fun r _ => by simp)
    · simp [he]

theorem popChars_noPanic (hs : s.WF) : ∀ (vs : List VCell), (∀ v ∈ vs, VCell.Valid s v) →
    Outcome.NoPanic (popChars s vs)
  | [], _ => by simp [popChars]
  | v :: vs, h => by
    unfold popChars
    refine noPanic_bind (popChar_noPanic hs (h v (by simp))) (fun c _ => ?_)
    refine noPanic_bind (popChars_noPanic hs vs (fun x hx => h x (by simp [hx]))) (fun r _ => by simp)

theorem newStrRes_noPanic (s : Store) (t : Text) : Outcome.NoPanic (newStrRes s t) :=
  finish_noPanic (by simp)

theorem popRange_noPanic (hs : s.WF) {r : List VCell} (h : ∀ v ∈ r, VCell.Valid s v) :
    Outcome.NoPanic (popRange s r) ∧ ∀ a b, popRange s r = .ok (a, b) → (b.isSome → a.isSome) := by
  unfold popRange
  split
  · simp
  · rename_i st
    constructor
    · refine noPanic_bind (popIndex_noPanic hs (h st (by simp))) (fun b _ => by simp)
    · intro a b hab
      cases hp : popIndex s st <;> simp [hp] at hab
      simp [← hab.2]
  · rename_i st en
    constructor
    · refine noPanic_bind (popIndex_noPanic hs (h en (by simp))) (fun e _ => ?_)
      refine noPanic_bind (popIndex_noPanic hs (h st (by simp))) (fun b _ => by simp)
    · intro a b hab
      cases hp : popIndex s en <;> simp [hp] at hab
      cases hq : popIndex s st <;> simp [hq] at hab
      simp [← hab.1]
  · simp

/-- the ranges `popRange` can produce: `end` only together with `start` -/
theorem validRange_or_bad (len : Nat) (a b : Option Nat) (hab : b.isSome → a.isSome) :
    ValidRange len a b ∨ ∃ st, a = some st ∧ ¬ (st ≤ b.getD len ∧ b.getD len ≤ len) := by
  by_cases hv : ValidRange len a b
  · exact .inl hv
  · cases a with
    | none =>
      cases b with
      | none => exact absurd ⟨by simp, by simp, by simp⟩ hv
      | some e => simp at hab
    | some st => exact .inr ⟨st, rfl, fun h => hv ⟨by simp, h.1, h.2⟩⟩

theorem substringC_noPanic (cs : Text) (a b : Option Nat) (hab : b.isSome → a.isSome) :
    Outcome.NoPanic (substringC cs a b) := by
  rcases validRange_or_bad cs.length a b hab with hv | ⟨st, rfl, hbad⟩
  · rw [substringC_ok hv]; simp
  · obtain ⟨e, he⟩ := substringC_err b hbad
    rw [he]; simp

theorem stringFillC_noPanic (cs : Text) (c : Char) (a b : Option Nat) (hab : b.isSome → a.isSome) :
    Outcome.NoPanic (stringFillC cs c a b) := by
  rcases validRange_or_bad cs.length a b hab with hv | ⟨st, rfl, hbad⟩
  · rw [stringFillC_ok c hv]; simp
  · obtain ⟨e, he⟩ := stringFillC_err c b hbad
    rw [he]; simp

theorem stringSetC_noPanic (cs : Text) (k : Nat) (c : Char) : Outcome.NoPanic (stringSetC cs k c) := by
  by_cases h : k < cs.length
  · rw [stringSetC_ok c h]; simp
  · rw [stringSetC_err c (Nat.le_of_not_gt h)]; simp

theorem stringRefC_noPanic (cs : Text) (k : Nat) : Outcome.NoPanic (stringRefC cs k) := by
  unfold stringRefC orErr; split <;> simp

theorem charListLoop_noPanic : ∀ (cs : List Char) (s : Store) (tail : VCell),
    Outcome.NoPanic (charListLoop s cs tail) :=
  fun cs s tail => charListLoop_eq cs s tail ▸ vecToListLoop_noPanic _ s tail

theorem slotsToChars_noPanic (hs : s.WF) : ∀ (xs : List VCell), (∀ x ∈ xs, VCell.Valid s x) →
    Outcome.NoPanic (slotsToChars s xs)
  | [], _ => by simp [slotsToChars]
  | x :: xs, h => by
    unfold slotsToChars
    obtain ⟨c, hc, _⟩ := get_valid hs (h x (by simp))
    simp only [hc, bind_ok]
    split
    · refine noPanic_bind (slotsToChars_noPanic hs xs (fun y hy => h y (by simp [hy]))) (fun r _ => by simp)
    · simp

theorem collectChars_noPanic (hs : s.WF) : ∀ (f : Nat) (l : VCell) (acc : List Char),
    VCell.Valid s l → Outcome.NoPanic (collectChars f s l acc)
  | 0, _, _, _ => by simp [collectChars]
  | f+1, l, acc, hl => by
    unfold collectChars
    split
    · rename_i hp
      obtain ⟨a, d, rfl⟩ := VCell.isPair_iff.mp hp
      obtain ⟨c, hc, _⟩ := get_valid hs (v := .ptr a) hl.1
      simp only [VCell.asCar_pair, VCell.asCdr_pair, hc, bind_ok]
      split
      · obtain ⟨c2, hc2, hcv2⟩ := get_valid hs (v := .ptr d) hl.2
        simp only [hc2, bind_ok]
        exact collectChars_noPanic hs f c2 _ hcv2
      · simp
    · simp

theorem eqvCells_noPanic {l r : VCell} (hl : VCell.Valid s l) (hr : VCell.Valid s r) :
    Outcome.NoPanic (eqvCells s l r) := by
  unfold eqvCells
  -- every arm answers at once except two strings, whose payloads are looked up
  split <;> try simp
  rename_i i j
  have hi : i < s.strs.length := hl
  have hj : j < s.strs.length := hr
  simp [strGet_ok hi, strGet_ok hj]

theorem eqv_noPanic (hs : s.WF) {l r : VCell} (hl : VCell.Valid s l) (hr : VCell.Valid s r) :
    Outcome.NoPanic (eqv s l r) := by
  unfold eqv derefArg
  split
  · simp
  · obtain ⟨cl, hcl, hvl⟩ := get_valid hs hl
    obtain ⟨cr, hcr, hvr⟩ := get_valid hs hr
    simp only [hcl, hcr, bind_ok]
    exact eqvCells_noPanic hvl hvr

theorem equalSeen_all_noPanic (hs : s.WF) : ∀ f : Nat,
    (∀ seen l r, VCell.Valid s l → VCell.Valid s r → Outcome.NoPanic (equalSeen f s seen l r)) ∧
    (∀ seen l r, VCell.Valid s l → VCell.Valid s r → Outcome.NoPanic (comparePairSeen f s seen l r)) ∧
    (∀ seen xs ys, xs.length = ys.length → (∀ x ∈ xs, VCell.Valid s x) → (∀ y ∈ ys, VCell.Valid s y) →
      Outcome.NoPanic (compareVectorSeen f s seen xs ys)) := by
  intro f
  induction f with
  | zero => exact ⟨fun _ _ _ _ _ => by simp [equalSeen], fun _ _ _ _ _ => by simp [comparePairSeen],
      fun _ _ _ _ _ _ => by simp [compareVectorSeen]⟩
  | succ f ih =>
    obtain ⟨ihE, ihP, ihV⟩ := ih
    refine ⟨?_, ?_, ?_⟩
    · intro seen l r hl hr
      unfold equalSeen
      refine noPanic_bind (eqv_noPanic hs hl hr) (fun b _ => ?_)
      split
      · simp
      · unfold derefArg
        obtain ⟨cl, hcl, hvl⟩ := get_valid hs hl
        obtain ⟨cr, hcr, hvr⟩ := get_valid hs hr
        simp only [hcl, hcr, bind_ok]
        split
        · split
          · simp
          · exact ihP _ _ _ hvl hvr
        · rename_i i j
          have hi : i < s.vecs.length := hvl
          have hj : j < s.vecs.length := hvr
          split
          · simp
          · simp only [vecGet_ok hi, vecGet_ok hj, bind_ok]
            split
            · simp
            · rename_i hne
              exact ihV _ _ _ (by simpa using hne) (vec_slots_valid hs hi) (vec_slots_valid hs hj)
        · rename_i i j
          have hi : i < s.strs.length := hvl
          have hj : j < s.strs.length := hvr
          simp [strGet_ok hi, strGet_ok hj]
        · exact noPanic_bind (eqv_noPanic hs hvl hvr) (fun _ _ => by simp)
    · intro seen l r hl hr
      unfold comparePairSeen
      split
      · exact ihE _ _ _ hl hr
      · rename_i hp
        obtain ⟨hpl, hpr⟩ : l.isPair = true ∧ r.isPair = true := by simpa using hp
        obtain ⟨a, d, rfl⟩ := VCell.isPair_iff.mp hpl
        obtain ⟨a', d', rfl⟩ := VCell.isPair_iff.mp hpr
        simp only [VCell.asCar_pair, VCell.asCdr_pair, bind_ok]
        refine noPanic_bind (ihE _ _ _ (show VCell.Valid s (.ptr a) from hl.1)
          (show VCell.Valid s (.ptr a') from hr.1)) (fun (b, seen1) _ => ?_)
        simp only
        split
        · simp
        · obtain ⟨c1, h1, v1⟩ := get_valid hs (v := .ptr d) hl.2
          obtain ⟨c2, h2, v2⟩ := get_valid hs (v := .ptr d') hr.2
          simp only [h1, h2, bind_ok, VCell.asPtr_ptr]
          split
          · split
            · simp
            · exact ihP _ _ _ v1 v2
          · exact ihP _ _ _ v1 v2
    · intro seen xs ys hlen hx hy
      cases xs with
      | nil => simp [compareVectorSeen]
      | cons x xs' =>
        cases ys with
        | nil => simp at hlen
        | cons y ys' =>
          simp only [compareVectorSeen]
          refine noPanic_bind (ihE _ _ _ (hx x (by simp)) (hy y (by simp))) (fun b _ => ?_)
          obtain ⟨b, seen1⟩ := b
          simp only
          split
          · simp
          · exact ihV _ _ _ (by simpa using hlen) (fun z hz => hx z (by simp [hz]))
              (fun z hz => hy z (by simp [hz]))

theorem equal_noPanic (hs : s.WF) (f : Nat) {l r : VCell} (hl : VCell.Valid s l) (hr : VCell.Valid s r) :
    Outcome.NoPanic (equal f s l r) := by
  unfold equal
  exact noPanic_bind ((equalSeen_all_noPanic hs f).1 [] l r hl hr) (fun a _ => by obtain ⟨b, sn⟩ := a; simp)

end Marwood.Store
