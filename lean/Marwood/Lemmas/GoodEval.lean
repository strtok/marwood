import Marwood.Lemmas.GoodMain
/-!
# `Safe` as an invariant: the error epilogue and `prepare_eval` under the simulation (T07.4)

After a failed evaluation `run_count` resets the registers, wipes the stack and collects (`cgc force (onError sf)`). The
TWIN is the machine with the heap of the failing instruction and idle registers, `onError sf`: a VM that performed exactly
the definitions and mutations the failed evaluation completed. The two are `Sim`-related (`failed_twin_sim`), and
`prepare_eval` of the same form on both keeps them related (`prepare_sim`, under the law `CompLaws` of the unmodelled
compiler), so every later evaluation runs in related states (Proofs/C07.lean).
-/
namespace Marwood.Lemmas.Good
open Marwood Marwood.Vm Marwood.Vm.Concrete Marwood.Lemmas.Sim
open Marwood.Heap (GcState WFHeap RootsOk Roots vrefs vrefsList crefs)

/-- the error epilogue's reset keeps the invariant: fewer roots -/
theorem onError_goodI {s : St CHeap} (g : GoodI s) : GoodI (onError s) := by
  refine ⟨g.hg, rootsOk_intro (s := onError s) g.globRoots.1 g.globRoots.2 (fun i v _ hv => ?_)
    (.of_addrFree _ rfl) (show NF s.heap s.ipL from roots_ipL g.roots)
    (show NF s.heap usizeMax from .inr (by unfold Heap.Sentinel usizeMax; decide)), rfl⟩
  cases (List.mem_replicate.mp (List.mem_of_getElem? hv)).2
  exact .of_addrFree _ rfl

theorem sim_refl_goodI {s : St CHeap} (g : GoodI s) : ∃ φ, Sim φ s s := sim_refl_of g.hg.wf g.hg.plain g.roots

/-- the state after the error epilogue (reset, wipe, collect) simulates the twin that kept the heap of the
    failing instruction and did not collect -/
theorem failed_twin_sim (force : Bool) {sf : St CHeap} (g : GoodI sf)
    (sm : Small (cgc force (onError sf)).heap) : ∃ ψ, Sim ψ (cgc force (onError sf)) (onError sf) := by
  have g1 := onError_goodI g
  obtain ⟨φ, hs⟩ := sim_refl_goodI g1
  obtain ⟨ψ, _, h⟩ := cgc_sim force hs g1.hg.plain g1.hg.wf g1.roots sm.sizeOk
  exact ⟨ψ, h⟩

/-- **Assumed of the unmodelled compiler** for the simulation (the counterpart of `ExtLaws.compile` for `prepare_eval`) -/
structure CompLaws (comp : CHeap → VCell → Outcome (CHeap × VCell)) : Prop where
  sim : ∀ (φ : Inj) (h h' : CHeap) (d : VCell), HeapSim φ h h' → SizeOk h → SizeOk h' → SymOk h → SymOk h' →
    addrFree d = true → ORel (ExtPost φ) (comp h d) (comp h' d)

theorem prepare_sim {comp : CHeap → VCell → Outcome (CHeap × VCell)} (cl : CompLaws comp) {φ : Inj}
    {s t s2 t2 : St CHeap} {d : VCell} (h : Sim φ s t) (ok : SizeOk s.heap) (ok' : SizeOk t.heap)
    (so : SymOk s.heap) (so' : SymOk t.heap) (hd : addrFree d = true)
    (hs : prepareEval comp s d = .ok s2) (ht : prepareEval comp t d = .ok t2) : ∃ ψ, Sim ψ s2 t2 := by
  obtain ⟨h1, e, c1, rfl⟩ := prepareEval_inv hs
  obtain ⟨h1', e', c1', rfl⟩ := prepareEval_inv ht
  have hrel := cl.sim φ _ _ d h.heap ok ok' so so' hd
  rw [c1, c1'] at hrel
  cases hrel with
  | ok r =>
    obtain ⟨ψ, hle, hh, hv, _, _⟩ := r
    simp only at hh hv
    have he : AddrRel ψ e e' := by
      cases hv with
      | ptr x => exact x
      | atom x => simp [addrFree] at x
    exact ⟨ψ, hh, StackRelK.mono hle h.stack, h.acc.mono hle, h.ep.mono hle, he, rfl, h.bp⟩

theorem all2_take {ψ : Inj} : ∀ (l l' : List VCell) (n : Nat), l.length = l'.length →
    (∀ i, i < n → ∀ v v', l[i]? = some v → l'[i]? = some v' → VRel ψ v v') → All2 (VRel ψ) (l.take n) (l'.take n) := by
  intro l
  induction l with
  | nil =>
    intro l' n hl _
    cases l' with
    | nil => simpa using All2.nil
    | cons _ _ => simp at hl
  | cons a as ih =>
    intro l' n hl h
    cases l' with
    | nil => simp at hl
    | cons b bs =>
      cases n with
      | zero => simpa using All2.nil
      | succ n =>
        simp only [List.take_succ_cons]
        refine .cons (h 0 (by omega) a b rfl rfl) (ih bs n (by simpa using hl) ?_)
        intro i hi v v' h1 h2
        exact h (i + 1) (by omega) v v' (by simpa using h1) (by simpa using h2)

theorem all2_append {α β : Type} {R : α → β → Prop} {l1 l1' l2 l2'} (h1 : All2 R l1 l1') (h2 : All2 R l2 l2') :
    All2 R (l1 ++ l2) (l1' ++ l2') := by
  induction h1 with
  | nil => exact h2
  | cons a _ ih => exact .cons a ih

theorem all2_reverse {α β : Type} {R : α → β → Prop} {l l'} (h : All2 R l l') : All2 R l.reverse l'.reverse := by
  induction h with
  | nil => exact .nil
  | cons a _ ih =>
    simp only [List.reverse_cons]
    exact all2_append ih (.cons a .nil)

def frameOf : VCell → Option Nat
  | .instrPtr l _ => some l
  | _ => none

theorem all2_frames {ψ : Inj} {l l' : List VCell} (h : All2 (VRel ψ) l l') :
    All2 (AddrRel ψ) (l.filterMap frameOf) (l'.filterMap frameOf) := by
  induction h with
  | nil => exact .nil
  | @cons v v' _ _ a _ ih =>
    cases a with
    | instrPtr x => simpa [List.filterMap_cons, frameOf] using All2.cons x ih
    | atom x =>
      have : frameOf v = none := by
        cases v <;> first | rfl | simp [addrFree] at x
      simp only [List.filterMap_cons, this]; exact ih
    | pair _ _ => simpa [List.filterMap_cons, frameOf] using ih
    | closure _ _ => simpa [List.filterMap_cons, frameOf] using ih
    | lexEnvPtr _ => simpa [List.filterMap_cons, frameOf] using ih
    | envPtr _ => simpa [List.filterMap_cons, frameOf] using ih
    | ptr _ => simpa [List.filterMap_cons, frameOf] using ih

theorem traceFrames_eq (s : St CHeap) : traceFrames s = (s.stack.cells.take s.stack.sp).reverse.filterMap frameOf := by
  unfold traceFrames
  congr 1

/-- the trace the user sees is rendered from these lambdas -/
theorem traceFrames_rel {ψ : Inj} {s t : St CHeap} (h : Sim ψ s t) :
    All2 (AddrRel ψ) (traceFrames s) (traceFrames t) := by
  rw [traceFrames_eq, traceFrames_eq, ← h.stack.1]
  refine all2_frames (all2_reverse (all2_take _ _ _ h.stack.2.1 ?_))
  intro i hi v v' h1 h2
  exact h.stack.2.2 i (by omega) v v' h1 h2

end Marwood.Lemmas.Good
