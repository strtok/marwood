import Marwood.Lemmas.CompileCorrectAtoms
import Marwood.Vm.ConcreteHeap
/-!
# T01.3 stage 1 — the elementary heap laws hold for the concrete heap model

Every field of `AtomLaws` about the heap proper is a theorem of `concreteOps ext` (`Vm/ConcreteHeap.lean`), with the
invariant "the slot of every named global exists"; the behaviour of the builtins (`prim_fo`, `builtin`) stays assumed:
they are parameters (`ext`) of the concrete machine too. With no supported primitive both are vacuous
(`concrete_atomLaws_noPrims`), so `AtomLaws` is satisfiable, and `demo_runs` meets every hypothesis of
`compileExpr_correct_atoms` on a one-cell heap. `Conc.callee_of_cell`, `callee_other`: the dispatch of CALL/TCALL,
which the concrete laws of the later stages use too.
-/
namespace Marwood.Lemmas.CompileCorrect2.Conc
open Marwood Marwood.Vm Marwood.Vm.Concrete

theorem callee_of_cell {h : CHeap} {p : Nat} {c : CCell} (x : h.cells[p]? = some c) :
    Concrete.callee h (.ptr p) = calleeOfCell c := by
  show (match h.cells[p]? with | some c => calleeOfCell c | none => Callee.other) = _
  rw [x]

theorem callee_other {h : CHeap} {v : VCell} (x : Concrete.isProcedure (Concrete.deref h v) = false) :
    Concrete.callee h v = .other := by
  cases v with
  | ptr p =>
    have x' : Concrete.isProcedure (Concrete.getAt h p) = false := x
    unfold Concrete.getAt at x'
    cases hc : h.cells[p]? with
    | none =>
      show (match h.cells[p]? with | some c => calleeOfCell c | none => Callee.other) = _
      rw [hc]
    | some cell =>
      rw [hc] at x'
      rw [callee_of_cell hc]
      cases cell with
      | val u =>
        cases u with
        | closure _ _ => cases x'
        | builtin _ => cases x'
        | _ => rfl
      | lambda s => cases x'
      | cont s => cases x'
      | _ => rfl
  | closure _ _ => cases x
  | builtin _ => cases x
  | _ => rfl

end Marwood.Lemmas.CompileCorrect2.Conc

namespace Marwood.Lemmas.CompileCorrect
open Marwood Marwood.Vm Marwood.Vm.Concrete
open Marwood.Spec.Eval (Val Prim applyPrim1)

def concreteBase (ext : ExtOps) (named : Text → Prop) (slot : Text → Nat) : AtomBase (concreteOps ext) :=
  { named := named, slot := slot, Inv := fun h => ∀ x, named x → slot x < h.globals.size }

theorem deref_of_not_ptr {h : CHeap} {v : VCell} (hv : ∀ p, v ≠ .ptr p) : Concrete.deref h v = v := by
  cases v <;> first | rfl | exact absurd rfl (hv _)

theorem getD_setIfInBounds {α : Type} (a : Array α) {n : Nat} (hlt : n < a.size) (v d : α) (m : Nat) :
    (a.setIfInBounds n v)[m]?.getD d = if m = n then v else a[m]?.getD d := by
  by_cases hm : m = n
  · rw [if_pos hm, hm, Array.getElem?_setIfInBounds_self_of_lt hlt]; rfl
  · rw [if_neg hm, Array.getElem?_setIfInBounds_ne (Ne.symm hm)]

theorem globGet_globPut {ext : ExtOps} (h : CHeap) {n : Nat} (hlt : n < h.globals.size) (v : VCell) (m : Nat) :
    (concreteOps ext).globGet ((concreteOps ext).globPut h n v) m =
      if m = n then v else (concreteOps ext).globGet h m := by
  dsimp only [concreteOps]
  exact getD_setIfInBounds h.globals hlt v .undefined m

theorem concrete_atomLaws (ext : ExtOps) (E : AtomEnc) (named : Text → Prop) (slot : Text → Nat)
    (hinj : ∀ a b, named a → named b → slot a = slot b → a = b)
    (hfo : ∀ p id, E.prim p = some id →
      p ≠ .apply ∧ p ≠ .eval ∧ p ≠ .force ∧ p ≠ .map ∧ p ≠ .forEach)
    (hb : ∀ h (σ : SSt) p id vs ws w (σ' : SSt) l,
      SR (atomData (concreteOps ext) E (concreteBase ext named slot)) h σ → E.prim p = some id →
      All2 (atomVR (concreteOps ext) E h σ.store) vs ws → applyPrim1 p ws σ = .ok w σ' →
      (concreteOps ext).builtinKind h id = .generic ∧
      ∃ h' r, builtinResult (concreteOps ext) h id vs.reverse = .ok (h', r) ∧
        atomVR (concreteOps ext) E h' σ'.store r w ∧
        SR (atomData (concreteOps ext) E (concreteBase ext named slot)) h' σ' ∧
        Evolves (atomData (concreteOps ext) E (concreteBase ext named slot)) l h σ.store h' σ'.store) :
    AtomLaws (concreteOps ext) E (concreteBase ext named slot) where
  slot_inj := hinj
  deref_ptr := fun _ _ => rfl
  deref_imm := fun _ _ hv => deref_of_not_ptr hv
  callee_imm := fun _ _ => rfl
  callee_ptr := by
    intro h p id hg
    have hg' : Concrete.getAt h p = .builtin id := hg
    unfold Concrete.getAt at hg'
    cases hc : h.cells[p]? with
    | none => rw [hc] at hg'; cases hg'
    | some c =>
      rw [hc] at hg'
      show Concrete.callee h (.ptr p) = _
      rw [CompileCorrect2.Conc.callee_of_cell hc]
      cases c with
      | val v => simp only [Concrete.repr] at hg'; subst hg'; rfl
      | lexEnv s => simp [Concrete.repr] at hg'
      | vector s => simp [Concrete.repr] at hg'
      | lambda s => simp [Concrete.repr] at hg'
      | cont s => simp [Concrete.repr] at hg'
  glob_get_put := fun h x v m hi hn => globGet_globPut h (hi x hn) v m
  globPut_inv := by
    intro h n v hi x hn
    show slot x < (h.globals.setIfInBounds n v).size
    rw [Array.size_setIfInBounds]
    exact hi x hn
  globPut_getAt := fun _ _ _ _ => rfl
  globPut_isLambda := fun _ _ _ _ => rfl
  globPut_fetch := fun _ _ _ _ _ => rfl
  prim_fo := hfo
  builtin := hb

theorem concrete_atomLaws_noPrims (ext : ExtOps) (int char str sym : _ → String)
    (named : Text → Prop) (slot : Text → Nat)
    (hinj : ∀ a b, named a → named b → slot a = slot b → a = b) :
    AtomLaws (concreteOps ext) ⟨int, char, str, sym, fun _ => none⟩ (concreteBase ext named slot) :=
  concrete_atomLaws ext _ named slot hinj (by intro p id h; cases h) (by intro h σ p id vs ws w σ' l _ h; cases h)

theorem All2.fetch {α β : Type} {P : α → β → Prop} {f : Nat → Option β} {code : List α} {vs : List β}
    (h2 : All2 P code vs) {base : Nat} (hf : ∀ i, i < vs.length → f (base + i) = vs[i]?) :
    ∀ i a, code[i]? = some a → ∃ v, f (base + i) = some v ∧ P a v := by
  induction h2 generalizing base with
  | nil => intro i a hi; cases hi
  | @cons a v code vs hb _ ih =>
    intro i a' hi
    cases i with
    | zero =>
      cases Option.some.inj hi
      exact ⟨v, hf 0 (Nat.zero_lt_succ _), hb⟩
    | succ j =>
      have := ih (base := base + 1) (fun k hk => by
        rw [show base + 1 + k = base + (k + 1) by omega]; exact hf (k + 1) (Nat.succ_lt_succ hk)) j a' hi
      rwa [show base + 1 + j = base + (j + 1) by omega] at this

theorem CodeAt.ofCells {H : Type} {ops : HeapOps H} {D : RepData ops} {h : H} {S : Array Spec.Eval.Cell}
    {l base : Nat} {code : List BC} (vs : List VCell) (hl : ops.isLambda h l = true)
    (hf : ∀ i, i < vs.length → ops.fetch h l (base + i) = vs[i]?) (h2 : All2 (Loads D h S) code vs) :
    CodeAt D h S l base code :=
  ⟨hl, h2.fetch hf⟩

theorem loads_true {ext : ExtOps} {E : AtomEnc} {B : AtomBase (concreteOps ext)} (h : CHeap)
    (S : Array Spec.Eval.Cell) : Loads (atomData (concreteOps ext) E B) h S (.datum (.bool true)) (.bool true) :=
  ⟨(by intro o h; cases h), (by intro w hw; cases hw; exact ⟨.bool true, rfl, .inl rfl⟩)⟩

/-- all characters share one tag, and so do all strings and all symbols (`AtomEnc` asks no injectivity) -/
def demoEnc : AtomEnc := ⟨fun i => "n" ++ toString i, fun _ => "c", fun _ => "s", fun _ => "y", fun _ => none⟩

/-- one lambda, whose code is the compiler's output for `#t` -/

def demoHeap : CHeap :=
  { chunk := 1, cells := #[.lambda ⟨[.opcode .movImm, .bool true, .acc], [], []⟩], gc := #[.allocated],
    free := [], symtab := [], globSyms := [], globals := #[] }

def demoState : MSt CHeap :=
  { heap := demoHeap, stack := ⟨[.undefined], 0⟩, acc := .undefined, ep := 0, ipL := 0, ipO := 0, bp := 0 }

def demoSpecSt : SSt := { globals := [], store := #[], out := [] }

theorem demo_runs (ext : ExtOps) (int char str sym : _ → String) :
    ∃ s', ExprRun (atomData (concreteOps ext) ⟨int, char, str, sym, fun _ => none⟩
        (concreteBase ext (fun _ => False) (fun _ => 0)))
      demoState 3 demoSpecSt demoSpecSt (.bool true) s' := by
  have hcomp : compileExpr 1 {} c0 0 true (.bool true)
      = .ok ({}, [BC.op .movImm, BC.datum (.bool true), BC.acc]) := by simp [compileExpr]
  have hev : (Spec.Eval.evalN 1).eval (.bool true) [] demoSpecSt = .ok (.bool true) demoSpecSt := by
    show Spec.Eval.evalStep (Spec.Eval.evalN 0) (.bool true) [] demoSpecSt = _
    simp only [Spec.Eval.evalStep, Spec.Eval.quoteVal]
    rfl
  refine compileExpr_correct_atoms
    (concrete_atomLaws_noPrims ext int char str sym (fun _ => False) (fun _ => 0) (by intro a b h; cases h))
    1 {} 0 true (.bool true) {} _ (.bool true) hcomp 1 demoSpecSt (.bool true) demoSpecSt hev demoState
    (CodeAt.ofCells [.opcode .movImm, .bool true, .acc] rfl (fun i _ => by rw [Nat.zero_add]; rfl)
      (.cons rfl (.cons (loads_true _ _) (.cons rfl .nil))))
    rfl ⟨(by intro x w h; cases h), (by intro x h; cases h), (by intro x h; cases h)⟩ (by show 0 < 1; omega)

end Marwood.Lemmas.CompileCorrect
