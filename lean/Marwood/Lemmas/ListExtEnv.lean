import Marwood.Vm.ListExt
import Marwood.Lemmas.ListExtCode
import Marwood.Lemmas.EnvInvMain
import Marwood.Lemmas.ListExtProc
/-!
# `ExtEnvInv (listExtWith eqTag)`: the real builtins keep "no value leads to a capturing lambda" and "fit"

`ExtTaint` is the instance `Spec.cap` of `Lead.listExtWith_eval` (Lemmas/ListExtProc.lean). `ExtFit`: the selectors, the
predicates and `eq?` return the heap they were given and a pointer or a boolean; `cons` is two `heap.put`s of VALUES (never an
inline closure), i.e. two `FStep NoClaim`; `set-car!` / `set-cdr!` are one such `put` followed by the overwrite of a `val`
cell (the pair) with a `val` cell that is not a closure — not an `FStep` (the cell is allocated), but it changes no lambda
cell and no environment cell, so EVERY fitting pair keeps fitting (`cwrite_val_fit`). No builtin of the table returns an
inline closure (`car` returns the pointer stored in the pair).
-/

namespace Marwood.Lemmas.Taint
open Marwood.Lemmas.Good Marwood Marwood.Vm Marwood.Vm.Verify Marwood.Vm.Concrete Marwood.Vm.Concrete.ListExt
  Marwood.Lemmas.Sim

theorem listExtWith_taint (eqTag : String → String → Bool) : ExtTaint (listExtWith eqTag) where
  eval _ _ _ _ _ hp lf hargs he :=
    have ⟨a, b, c⟩ := Lead.listExtWith_eval eqTag (hp_iff.mp hp) lf hargs he
    ⟨hp_iff.mpr a, b, c⟩
  compile := fun _ _ _ _ _ _ _ h => (by cases h)
  vpush := fun _ _ _ _ _ _ _ _ h => (by cases h)

end Marwood.Lemmas.Taint

namespace Marwood.Lemmas.Good
open Marwood Marwood.Vm Marwood.Vm.Verify Marwood.Vm.Concrete Marwood.Vm.Concrete.ListExt Marwood.Lemmas.Sim

theorem putV_fstepNC {h : CHeap} (lf : LF h) {v : VCell} (hv : plainGlob v = true) : FStep NoClaim h (putV h v).1 :=
  (putV_fstep lf v).weaken (fun c hc => by subst hc; exact NoClaim.val (plainGlob_not_closure hv))

theorem CellF.keepAll {h h' : CHeap} (fa : ∀ e l, Fit h e l → Fit h' e l) (ls : LamSame h h') {c : CCell}
    (x : CellF h c) : CellF h' c := by
  cases c with
  | val v => intro l e he; exact fa e l (x l e he)
  | lambda lam => exact CodeF.ls ls x
  | cont k => exact ⟨fun i e l o hi h1 h2 => fa e l (x.1 i e l o hi h1 h2), fa _ _ x.2⟩
  | lexEnv _ => trivial
  | vector _ => trivial

theorem cwrite_val_fit {h : CHeap} {p : Nat} {u w : VCell} (hold : h.cells[p]? = some (CCell.val u))
    (hw : ∀ l e, w ≠ .closure l e) (hf : HF h) :
    HF (cwrite h p (.val w)) ∧ (∀ e l, Fit h e l → Fit (cwrite h p (.val w)) e l) ∧
      LamSame h (cwrite h p (.val w)) := by
  have ls : LamSame h (cwrite h p (.val w)) :=
    lambdaAt_cwrite (fun _ x => nomatch hold.symm.trans x) (fun _ x => nomatch x)
  have henv : ∀ e, envAt (cwrite h p (.val w)) e = envAt h e :=
    envAt_cwrite (fun _ x => nomatch hold.symm.trans x) (fun _ x => nomatch x)
  have fa : ∀ e l, Fit h e l → Fit (cwrite h p (.val w)) e l := by
    intro e l x lam ss hl he
    rw [ls l] at hl
    rw [henv e] at he
    exact x lam ss hl he
  refine ⟨?_, fa, ls⟩
  intro i c hc
  rw [cwrite_cells] at hc
  by_cases hh : p = i ∧ p < h.cells.size
  · rw [if_pos hh] at hc
    cases hc
    intro l e he
    exact absurd he (hw l e)
  · rw [if_neg hh] at hc
    exact CellF.keepAll fa ls (hf i c hc)

section
variable (eqTag : String → String → Bool) {h h' : CHeap} {v : VCell}

abbrev FitOut (h h' : CHeap) (v : VCell) : Prop :=
  HF h' ∧ FitKeep h h' ∧ LamKeep h h' ∧ ∀ l e, v = .closure l e → Fit h' e l

theorem fitOut_same (hf : HF h) {v : VCell} (hv : ∀ l e, v ≠ .closure l e) : FitOut h h v :=
  ⟨hf, fun _ _ _ _ x => x, fun _ _ x => x, fun l e he => absurd he (hv l e)⟩

theorem evalCons_fit (g : HG h) (g' : HG h') (hf : HF h) (lf : LF h) {d a : VCell} (hd : VOk h d) (ha : VOk h a)
    (he : evalCons h d a = .ok (h', v)) : FitOut h h' v := by
  obtain ⟨dp, ap, _, _, rfl, rfl⟩ := evalCons_ok he
  have x1 := putV_fstepNC lf hd.1
  have x2 : FStep NoClaim (putV h d).1 (putV (putV h d).1 a).1 := putV_fstepNC x1.lf ha.1
  have x := FStep.trans NoClaim.lexEnv x1 x2
  have b' := hg_bound g'
  exact ⟨HF.step_noClaim g b' hf x, x.fitKeep g b', fun l lam hl => by rw [x.ls l]; exact hl,
    fun l e hh => by cases hh⟩

theorem evalSetPair_fit (first : Bool) (g : HG h) (g' : HG h') (hf : HF h) (lf : LF h) {obj pair : VCell}
    (ho : VOk h obj) (he : evalSetPair first h obj pair = .ok (h', v)) : FitOut h h' v := by
  obtain ⟨a, d, o, p, rfl, hcell, _, rfl, rfl⟩ := evalSetPair_ok he
  have x1 := putV_fstepNC lf ho.1
  have hcell1 : (putV h obj).1.cells[p]? = some (CCell.val (.pair a d)) :=
    x1.keep p _ hcell (not_free_of_cell g hcell (fun hh => by cases hh)) (fun ss hh => by cases hh)
  have hsz : (cwrite (putV h obj).1 p (.val (if first then .pair o d else .pair a o))).cells.size =
      (putV h obj).1.cells.size := by simp [cwrite]
  have b1 : (putV h obj).1.cells.size ≤ 2 ^ 63 := by rw [← hsz]; exact hg_bound g'
  have hf1 : HF (putV h obj).1 := HF.step_noClaim g b1 hf x1
  have fk1 : FitKeep h (putV h obj).1 := x1.fitKeep g b1
  have hw : ∀ l e, (if first then VCell.pair o d else VCell.pair a o) ≠ .closure l e := by
    intro l e hh; cases first <;> cases hh
  obtain ⟨hf2, fa, ls2⟩ := cwrite_val_fit hcell1 hw hf1
  refine ⟨hf2, fun e l nfe nfl x => fa e l (fk1 e l nfe nfl x), ?_, fun l e hh => by cases hh⟩
  intro l lam hl
  rw [ls2 l, x1.ls l]; exact hl

theorem listExtWith_fit : ExtFit (listExtWith eqTag) where
  eval := by
    intro h id args h' v g g' hf lf hargs he
    obtain ⟨q, hq⟩ := builtinEval_ok he
    rcases evalPrim_ok hq with ⟨b, rfl, rfl⟩ | ⟨first, x, rfl, hc⟩ | ⟨d, a, rfl, hc⟩ | ⟨first, obj, pair, rfl, hc⟩
    · exact fitOut_same hf (fun l e hh => by cases hh)
    · obtain ⟨_, _, _, rfl, rfl⟩ := evalCar_ok hc
      exact fitOut_same hf (fun l e hh => by cases hh)
    · exact evalCons_fit g g' hf lf (hargs d (.head _)) (hargs a (.tail _ (.head _))) hc
    · exact evalSetPair_fit first g g' hf lf (hargs obj (.head _)) hc
  compile := fun _ _ _ _ _ _ _ _ _ h => (by cases h)
  vpush := fun _ _ _ _ _ _ _ _ _ _ h => (by cases h)

theorem listExtWith_envInv : ExtEnvInv (listExtWith eqTag) :=
  ⟨Taint.listExtWith_taint eqTag, listExtWith_fit eqTag⟩

theorem listExt_envInv : ExtEnvInv listExt := listExtWith_envInv _

end

end Marwood.Lemmas.Good
