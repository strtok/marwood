import Marwood.Lemmas.PrepareMain
import Marwood.Lemmas.ContResumeCap
/-!
# Histories of evaluations with the loader made explicit

`C07.runHistory` runs each job from `prepare s j.entry`: the entry lambda is taken to be in the heap already, and the
history-level theorems over it ask `VmOkP` of EVERY state in which a job starts (`JobsOk`, `HistGood`). `HistInstalls` is
the history relation in which `prepare_eval` is a step of its own: `ran` — `Installs`, then `runEval` from the prepared state;
`rejected` — `InstallsGarbage` (what the compiler allocated before it rejected the form), then the collection of the `Err`
arm. `histInstalls_ok`: from the idle invariant of the INITIAL state and the size bounds every job starts in a `VmOkP`
state and every event leaves an idle machine.
-/
namespace Marwood.Lemmas.Good
open Marwood Marwood.Vm Marwood.Vm.Verify Marwood.Vm.Concrete Marwood.Lemmas.Sim
open Marwood.Lemmas.MachineGarbage Marwood.Lemmas.PolicySessionOk Marwood.Lemmas.PolicySessionMain
open Marwood.Heap (GcState)

variable {ext : ExtOps} {ecl : ExtCodeLawsV ext}

/-- a run that ends in `done` executed a halting instruction in a reachable state; a run that ends in `error` failed
    in a reachable state -/
theorem runLoop_last (ext : ExtOps) (force : Bool) (count : Option Nat) : ∀ (fuel c : Nat) (s : St CHeap),
    (∀ sd, runLoop (machine ext force) count fuel c s = .done sd →
      ∃ sh, Reaches (machine ext force) s sh ∧ (machine ext force).step sh = .halt sd) ∧
    (∀ f sf, runLoop (machine ext force) count fuel c s = .error f sf → Reaches (machine ext force) s sf) := by
  intro fuel c s
  have := Reaches.runLoop (machine ext force) count fuel c s
  refine ⟨fun sd h => by rw [h] at this; exact this, fun f sf h => ?_⟩
  rw [h] at this
  obtain ⟨sh, h1, h2⟩ := this
  rw [(vmStep_eq_fail h2).1]; exact h1

theorem runEval_value_ends {force : Bool} {count : Option Nat} {fuel : Nat} {p s' : St CHeap}
    (hr : runEval (concreteOps ext) (cgc force) count fuel p = .value s') :
    ∃ sh sd, runLoop (machine ext force) count fuel 0 p = .done sd ∧ Reaches (machine ext force) p sh ∧
      (machine ext force).step sh = .halt sd ∧ s' = cgc force (onDone sd) := by
  obtain ⟨sd, hl, e⟩ := runEval_value.mp hr
  obtain ⟨sh, h1, h2⟩ := (runLoop_last ext force count fuel 0 p).1 sd hl
  exact ⟨sh, sd, hl, h1, h2, e⟩

theorem runEval_failed_ends {force : Bool} {count : Option Nat} {fuel : Nat} {p s' : St CHeap} {f : Fault}
    (hr : runEval (concreteOps ext) (cgc force) count fuel p = .failed f s') :
    ∃ sf, runLoop (machine ext force) count fuel 0 p = .error f sf ∧ Reaches (machine ext force) p sf ∧
      s' = cgc force (onError sf) := by
  obtain ⟨sf, hl, e⟩ := runEval_failed.mp hr
  exact ⟨sf, hl, (runLoop_last ext force count fuel 0 p).2 f sf hl, e⟩

theorem reaches_len_mono {force : Bool} {s s' : St CHeap} (hr : Reaches (machine ext force) s s') :
    s.stack.cells.length ≤ s'.stack.cells.length :=
  Reaches.machine_induct (P := fun t => s.stack.cells.length ≤ t.stack.cells.length) (Nat.le_refl _)
    (fun _ _ _ _ h e _ => Nat.le_trans h (step_len_mono e))
    (fun s1 _ h => by rw [(cgc_regs force s1).1]; exact h) s' hr

/-- HALT is executed with an empty stack (WF-stack), the error epilogue resets `sp` -/
theorem idleOk_runEval (force : Bool) (el : ExtLaws ext) (eg : ExtGood ext) (ep : ExtProc ext) {p : St CHeap}
    (h : VmOkP ext ecl p) (hcap : 0 < p.stack.cells.length) (sb : EvalSizeBounded ext force p) (count : Option Nat)
    (fuel : Nat) :
    (∀ s', runEval (concreteOps ext) (cgc force) count fuel p = .value s' → IdleOk s') ∧
    (∀ f s', runEval (concreteOps ext) (cgc force) count fuel p = .failed f s' → IdleOk s') := by
  refine ⟨fun s' hr => ?_, fun f s' hr => ?_⟩
  · obtain ⟨sh, sd, _, hreach, hstep, rfl⟩ := runEval_value_ends hr
    have hvs : VmOkP ext ecl sh := vmOkP_reaches force el eg ep h sb.run sh hreach
    have hreach' : Reaches (machine ext force) p sd := .halt hreach hstep
    have hvd : VmOkP ext ecl sd := vmOkP_reaches force el eg ep h sb.run sd hreach'
    have hs : step (concreteOps ext) sh = .ok (sd, true) := vmStep_eq_halt.mp hstep
    have hstack : sd.stack.sp = 0 ∧ 0 < sd.stack.cells.length := by
      rcases hvs.1.2 with ⟨K, hw⟩ | hh
      · have hv := step_vops (ext := ext) eg hvs.1.1 (fun _ => hvs.calleeOk) hs (sb.run sd hreach')
        obtain ⟨e1, e2⟩ := step_halt hw hv
        have hc := hw.wf.cap
        rw [e1]
        have e2' : sh.stack.sp = 0 := e2
        exact ⟨e2', by omega⟩
      · exact absurd hs (haltedAt_no_step hh _)
    exact (idleOk_onDone hvd.1.1 hvd.1.cinv hvd.2 hstack.1 hstack.2).gc force (sb.done sd hreach')
  · obtain ⟨sf, _, hreach, rfl⟩ := runEval_failed_ends hr
    have hvf : VmOkP ext ecl sf := vmOkP_reaches force el eg ep h sb.run sf hreach
    have hc : 0 < sf.stack.cells.length := Nat.lt_of_lt_of_le hcap (reaches_len_mono hreach)
    exact (idleOk_onError hvf.1.1 hvf.1.cinv hvf.2 hc).gc force (sb.error sf hreach)

inductive EvRec
  | ran (p : St CHeap) (r : EvalRes CHeap)
  | rejected (g : St CHeap)

/-- `.fuel`: the evaluation is skipped (it does not return in the real VM either) and the history goes on from `s`, the
    state BEFORE `Installs` — the cells the loader put for the skipped form are dropped with it -/
def nextState (s : St CHeap) : EvalRes CHeap → St CHeap
  | .value s' => s'
  | .failed _ s' => s'
  | .paused s' => s'
  | .fuel => s

inductive HistInstalls (ext : ExtOps) (force : Bool) : St CHeap → List EvRec → St CHeap → Prop
  | nil (s : St CHeap) : HistInstalls ext force s [] s
  | ran {s s1 sf : St CHeap} {e : Datum} {cfuel entry fuel : Nat} {recs : List EvRec} :
      Installs e cfuel s s1 entry →
      HistInstalls ext force (nextState s (runEval (concreteOps ext) (cgc force) none fuel (prepare s1 entry))) recs sf →
      HistInstalls ext force s
        (.ran (prepare s1 entry) (runEval (concreteOps ext) (cgc force) none fuel (prepare s1 entry)) :: recs) sf
  | rejected {s g sf : St CHeap} {recs : List EvRec} :
      InstallsGarbage s g → HistInstalls ext force (cgc force g) recs sf →
      HistInstalls ext force s (.rejected g :: recs) sf

def RecSized (ext : ExtOps) (force : Bool) : EvRec → Prop
  | .ran p _ => EvalSizeBounded ext force p
  | .rejected g => Small g.heap ∧ Small (cgc force g).heap

theorem nextState_inv {I : St CHeap → Prop} {force : Bool} {fuel : Nat} {s p : St CHeap} (i0 : I s)
    (hv : ∀ s', runEval (concreteOps ext) (cgc force) none fuel p = .value s' → I s')
    (hf : ∀ f s', runEval (concreteOps ext) (cgc force) none fuel p = .failed f s' → I s') :
    I (nextState s (runEval (concreteOps ext) (cgc force) none fuel p)) := by
  cases hr : runEval (concreteOps ext) (cgc force) none fuel p with
  | value s' => exact hv s' hr
  | failed f s' => exact hf f s' hr
  | paused s' => exact absurd hr (runEval_none_not_paused _ _ fuel _ s')
  | fuel => exact i0

/-- an invariant of the idle machine that both kinds of event keep holds where every event starts, and at the end -/
theorem histInstalls_starts {I : St CHeap → Prop} {force : Bool} {s0 sf : St CHeap} {recs : List EvRec}
    (hist : HistInstalls ext force s0 recs sf) (i0 : I s0) (sz : ∀ rc ∈ recs, RecSized ext force rc)
    (ran : ∀ {s s1 : St CHeap} {e : Datum} {cfuel entry : Nat} (fuel : Nat), I s → Installs e cfuel s s1 entry →
      EvalSizeBounded ext force (prepare s1 entry) →
      I (nextState s (runEval (concreteOps ext) (cgc force) none fuel (prepare s1 entry))))
    (rej : ∀ {s g : St CHeap}, I s → InstallsGarbage s g → Small g.heap → Small (cgc force g).heap → I (cgc force g)) :
    (∀ p r, EvRec.ran p r ∈ recs → ∃ (s s1 : St CHeap) (e : Datum) (cfuel entry fuel : Nat), I s ∧
      Installs e cfuel s s1 entry ∧ p = prepare s1 entry ∧ r = runEval (concreteOps ext) (cgc force) none fuel p) ∧
    (∀ g, EvRec.rejected g ∈ recs → ∃ s, I s ∧ InstallsGarbage s g) ∧ I sf := by
  induction hist with
  | nil s => exact ⟨fun _ _ h => (by cases h), fun _ h => (by cases h), i0⟩
  | @ran s s1 sf e cfuel entry fuel recs inst _ ih =>
    obtain ⟨a, b, c⟩ := ih (ran fuel i0 inst (sz _ (List.mem_cons_self ..))) fun rc h => sz rc (List.mem_cons_of_mem _ h)
    refine ⟨fun p r hm => ?_, fun g hm => b g ((List.mem_cons.mp hm).resolve_left fun e => nomatch e), c⟩
    rcases List.mem_cons.mp hm with e1 | e1
    · cases e1; exact ⟨s, s1, e, cfuel, entry, fuel, i0, inst, rfl, rfl⟩
    · exact a p r e1
  | @rejected s g sf recs inst _ ih =>
    have ⟨sm1, sm2⟩ : Small g.heap ∧ Small (cgc force g).heap := sz _ (List.mem_cons_self ..)
    obtain ⟨a, b, c⟩ := ih (rej i0 inst sm1 sm2) fun rc h => sz rc (List.mem_cons_of_mem _ h)
    refine ⟨fun p r hm => a p r ((List.mem_cons.mp hm).resolve_left fun e => nomatch e), fun g' hm => ?_, c⟩
    rcases List.mem_cons.mp hm with e1 | e1
    · cases e1; exact ⟨s, i0, inst⟩
    · exact b g' e1

theorem idleOk_ran (force : Bool) (el : ExtLaws ext) (eg : ExtGood ext) (ep : ExtProc ext) {s s1 : St CHeap} {e : Datum}
    {cfuel entry : Nat} (fuel : Nat) (i0 : IdleOk s) (inst : Installs e cfuel s s1 entry)
    (sb : EvalSizeBounded ext force (prepare s1 entry)) :
    (VmOkP ext ecl (prepare s1 entry) ∧ 0 < (prepare s1 entry).stack.cells.length) ∧
      IdleOk (nextState s (runEval (concreteOps ext) (cgc force) none fuel (prepare s1 entry))) := by
  have hv : VmOkP ext ecl (prepare s1 entry) := prepare_vmOkP_idle i0 inst (sb.run (prepare s1 entry) (.refl _))
  have hcap : 0 < (prepare s1 entry).stack.cells.length := by
    have := i0.cap
    rw [inst.regs]; exact this
  obtain ⟨k1, k2⟩ := idleOk_runEval (ecl := ecl) force el eg ep hv hcap sb none fuel
  exact ⟨⟨hv, hcap⟩, nextState_inv i0 k1 k2⟩

theorem idleOk_rejected (force : Bool) {s g : St CHeap} (i0 : IdleOk s) (inst : InstallsGarbage s g) (sm1 : Small g.heap)
    (sm2 : Small (cgc force g).heap) : IdleOk (cgc force g) :=
  (i0.installs inst sm1).1.gc force sm2

/-- **every job of a history starts in a state satisfying the bundled invariant** — from the idle invariant of the
    INITIAL state, `Installs` of every `prepare_eval`, the laws of the unmodelled parts and the size bounds; a rejected
    form leaves an idle machine, and so does the whole history -/
theorem histInstalls_ok (force : Bool) (el : ExtLaws ext) (eg : ExtGood ext) (ep : ExtProc ext) {s0 sf : St CHeap}
    {recs : List EvRec} (hist : HistInstalls ext force s0 recs sf) (i0 : IdleOk s0)
    (sz : ∀ rc ∈ recs, RecSized ext force rc) :
    (∀ p r, EvRec.ran p r ∈ recs → VmOkP ext ecl p ∧ 0 < p.stack.cells.length) ∧
    (∀ g, EvRec.rejected g ∈ recs → IdleOk g) ∧ IdleOk sf := by
  obtain ⟨a, b, c⟩ := histInstalls_starts hist i0 sz
    (fun fuel i inst sb => (idleOk_ran (ecl := ecl) force el eg ep fuel i inst sb).2) (idleOk_rejected force)
  refine ⟨fun p r hm => ?_, fun g hm => ?_, c⟩
  · obtain ⟨s, s1, e, cfuel, entry, fuel, i, inst, rfl, _⟩ := a p r hm
    exact (idleOk_ran force el eg ep fuel i inst (sz _ hm)).1
  · obtain ⟨s, i, inst⟩ := b g hm
    exact (i.installs inst (sz _ hm).1).1

end Marwood.Lemmas.Good
