import Marwood.Lemmas.ListExtSim
import Marwood.Lemmas.ListExtGood
import Marwood.Lemmas.ListExtCode
import Marwood.Lemmas.ListExtProc
import Marwood.Lemmas.ListExtDemo
import Marwood.Proofs.C05

/-! Corollaries of `Proofs/C05.lean` at the real builtins `listExtWith` (see Lemmas/ListExtProps.lean for the overview). -/

namespace Marwood.Proofs.C05
open Marwood.Vm Marwood.Vm.Stack Marwood.Proofs.C04 Marwood.Vm.Concrete Marwood.Vm.Verify

open Marwood.Lemmas.Good Marwood.Lemmas.Sim in
/-- **C05's run-level sentence at the real builtins**: if the run of the machine after `(k v)` — through any calls of
    `cons`, `car`, `set-car!`, … — halts with value `a` in heap `h`, so does its run from "call/cc has just returned
    `v`": same value, same heap. No hypothesis about the builtins. -/
theorem invoke_run_same_result_listExt (eqTag : String → String → Bool) (force : Bool)
    {s0 t t1 : St CHeap} {Kt : List FDesc} {op : Op} {n : Nat}
    (h0sp : 2 ≤ s0.stack.sp) (h0cap : s0.stack.sp < s0.stack.cells.length)
    (g : GoodI t) (hwt : WFS (concreteLawsV (listExtWith eqTag) (listExtWith_codeLawsV eqTag)) t Kt) (pt : PInv t)
    (sb : SizeBounded (machine (listExtWith eqTag) force) t)
    (hr : readOpcode (concreteOps (listExtWith eqTag)) t = .ok (op, t1)) (hop : op = .callAcc ∨ op = .tcallAcc)
    (hk : callee t.heap t.acc = .continuation (capturedCont s0))
    (hsp : 2 ≤ t.stack.sp) (htop : t.stack.cellAt t.stack.sp = .argc n) (hn : 1 ≤ n)
    (hfit : s0.stack.sp - 2 + 1 ≤ t.stack.cells.length) :
    ∃ r, step (concreteOps (listExtWith eqTag)) t = .ok (r, false) ∧
      ∀ (m : Nat) (r' : St CHeap),
        FitOK (concreteOps (listExtWith eqTag)) m r (Resume s0 (t.stack.cellAt (t.stack.sp - 1)) t.heap) →
        runN (concreteOps (listExtWith eqTag)) m r = .ok (r', true) →
        ∃ r'', runN (concreteOps (listExtWith eqTag)) m (Resume s0 (t.stack.cellAt (t.stack.sp - 1)) t.heap) =
            .ok (r'', true) ∧ r''.acc = r'.acc ∧ r''.heap = r'.heap :=
  invoke_run_same_result_machine _ force (listExtWith_laws eqTag) (listExtWith_good eqTag) (listExtWith_codeLawsV eqTag)
    (listExtWith_proc eqTag) h0sp h0cap g hwt pt sb hr hop hk hsp htop hn hfit

end Marwood.Proofs.C05
