import Marwood.Spec.Eval
/-!
# The store-size-fuelled helpers of `Spec.Eval`: detecting the fuel bound, stability, a guarded evaluator

Four helpers of `Spec.Eval` take their fuel from the size of the store (`st.size + 1`): `listOfVal`
(through `getList`, and in `list?`), `valToDatum` (through `externalise`: `display`, `write`, `eval`),
`equalVal` (`equal?`), `memWalk` (`memv memq assv assq`); `zipArgs` in `map` / `for-each`. None of them
signals that it ran out of fuel. `valCut`, `listCut`, `eqCut`, `spineCut`: the helper reaches fuel 0 where it
would have gone on. If that does not happen with fuel `m`, it does not with more, and the result is the same
(`val_fuel`, `list_fuel`, `spine_fuel`, `equalVal_stable`). `guardN`: the evaluator that times out where a
store-size-fuelled primitive would hit its bound (`evalN n` refines it: `guardN_le_evalN`, `EvalMonoMain`).
-/
namespace Marwood.Spec.Eval
open Marwood

def valCut : Nat → Array Cell → Val → Bool
  | 0, _, .pair _ | 0, _, .vec _ | 0, _, .promise _ => true
  | fuel+1, st, .pair l =>
    match st[l]? with
    | some (.pair a d) => valCut fuel st a || valCut fuel st d
    | _ => false
  | fuel+1, st, .vec l =>
    match st[l]? with
    | some (.vec xs) => xs.any (valCut fuel st)
    | _ => false
  | fuel+1, st, .promise l =>
    match st[l]? with
    | some (.promise _ v) => valCut fuel st v
    | _ => false
  | _, _, _ => false

theorem val_fuel (st : Array Cell) : ∀ (m k : Nat) (v : Val), valCut m st v = false →
    valCut (m + k) st v = false ∧ valToDatum (m + k) st v = valToDatum m st v := by
  intro m
  induction m with
  | zero =>
    intro k v h
    cases v <;> first | (simp [valCut] at h; done) | (cases k <;> simp [valCut, valToDatum])
  | succ m ih =>
    intro k v h
    have e : m + 1 + k = (m + k) + 1 := by omega
    rw [e]
    cases v with
    | pair l =>
      simp only [valCut] at h ⊢
      simp only [valToDatum]
      cases hc : st[l]? with
      | none => exact ⟨rfl, rfl⟩
      | some c =>
        cases c with
        | pair a d =>
          simp only [hc, Bool.or_eq_false_iff] at h ⊢
          exact ⟨⟨(ih k a h.1).1, (ih k d h.2).1⟩, by rw [(ih k a h.1).2, (ih k d h.2).2]⟩
        | _ => exact ⟨rfl, rfl⟩
    | vec l =>
      simp only [valCut] at h ⊢
      simp only [valToDatum]
      cases hc : st[l]? with
      | none => exact ⟨rfl, rfl⟩
      | some c =>
        cases c with
        | vec xs =>
          simp only [hc, List.any_eq_false] at h ⊢
          have hx : ∀ x ∈ xs, valCut m st x = false := fun x hx => by simpa using h x hx
          refine ⟨fun x hx' => by simp [(ih k x (hx x hx')).1], ?_⟩
          rw [List.map_congr_left (fun x hx' => (ih k x (hx x hx')).2)]
        | _ => exact ⟨rfl, rfl⟩
    | promise l =>
      simp only [valCut] at h ⊢
      simp only [valToDatum]
      cases hc : st[l]? with
      | none => exact ⟨rfl, rfl⟩
      | some c =>
        cases c with
        | promise dn v =>
          simp only [hc] at h ⊢
          exact ⟨(ih k v h).1, by rw [(ih k v h).2]⟩
        | _ => exact ⟨rfl, rfl⟩
    | _ => simp [valCut, valToDatum]

theorem valToDatum_stable (st : Array Cell) : ∀ (m k : Nat) (v : Val),
    valCut m st v = false → valToDatum (m + k) st v = valToDatum m st v :=
  fun m k v h => (val_fuel st m k v h).2

def listCut : Nat → Array Cell → Val → Bool
  | 0, _, .pair _ => true
  | fuel+1, st, .pair l =>
    match st[l]? with
    | some (.pair _ d) => listCut fuel st d
    | _ => false
  | _, _, _ => false

theorem list_fuel (st : Array Cell) : ∀ (m k : Nat) (v : Val), listCut m st v = false →
    listCut (m + k) st v = false ∧ listOfVal (m + k) st v = listOfVal m st v := by
  intro m
  induction m with
  | zero =>
    intro k v h
    cases v <;> first | (simp [listCut] at h; done) | (cases k <;> simp [listCut, listOfVal])
  | succ m ih =>
    intro k v h
    have e : m + 1 + k = (m + k) + 1 := by omega
    rw [e]
    cases v with
    | pair l =>
      simp only [listCut] at h ⊢
      simp only [listOfVal]
      cases hc : st[l]? with
      | none => exact ⟨rfl, rfl⟩
      | some c =>
        cases c with
        | pair a d =>
          simp only [hc] at h ⊢
          exact ⟨(ih k d h).1, by rw [(ih k d h).2]⟩
        | _ => exact ⟨rfl, rfl⟩
    | _ => simp [listCut, listOfVal]

theorem listOfVal_stable (st : Array Cell) : ∀ (m k : Nat) (v : Val),
    listCut m st v = false → listOfVal (m + k) st v = listOfVal m st v :=
  fun m k v h => (list_fuel st m k v h).2

theorem listOfVal_length_le (st : Array Cell) : ∀ (m : Nat) (v : Val) (xs : List Val),
    listOfVal m st v = some xs → xs.length ≤ m := by
  intro m
  induction m with
  | zero =>
    intro v xs h
    cases v <;> simp [listOfVal] at h
    subst h; simp
  | succ m ih =>
    intro v xs h
    cases v with
    | nil => simp [listOfVal] at h; subst h; simp
    | pair l =>
      simp only [listOfVal] at h
      cases hc : st[l]? with
      | none => simp [hc] at h
      | some c =>
        cases c with
        | pair a d =>
          simp only [hc] at h
          cases hd : listOfVal m st d with
          | none => simp [hd] at h
          | some ys =>
            simp [hd] at h
            subst h
            have := ih d ys hd
            simp; omega
        | _ => simp [hc] at h
    | _ => simp [listOfVal] at h

/-- `equalVal` reaches fuel 0 on two pairs, two vectors or two strings (NB
    `equalVal 0 _ (.str a) (.str b) = eqv … = false` but `equalVal (n+1) _ (.str a) (.str b) = (a == b)`) -/
def eqCut : Nat → Array Cell → Val → Val → Bool
  | 0, _, .pair _, .pair _ | 0, _, .vec _, .vec _ | 0, _, .str _, .str _ => true
  | fuel+1, st, .pair a, .pair b =>
    match st[a]?, st[b]? with
    | some (.pair a1 d1), some (.pair a2 d2) => eqCut fuel st a1 a2 || eqCut fuel st d1 d2
    | _, _ => false
  | fuel+1, st, .vec a, .vec b =>
    match st[a]?, st[b]? with
    | some (.vec xs), some (.vec ys) => (xs.zip ys).any fun p => eqCut fuel st p.1 p.2
    | _, _ => false
  | _, _, _, _ => false

/-- off the (pair,pair), (vec,vec) diagonal `equalVal` does not look at its fuel, provided it has some -/
theorem equalVal_succ_flat (st : Array Cell) (n n' : Nat) (a b : Val)
    (hp : ∀ x y, a = .pair x → b = .pair y → False) (hv : ∀ x y, a = .vec x → b = .vec y → False) :
    equalVal (n + 1) st a b = equalVal (n' + 1) st a b := by
  cases a <;> first
    | rfl
    | (cases b <;> first | rfl | exact (hp _ _ rfl rfl).elim | exact (hv _ _ rfl rfl).elim)

theorem equalVal_stable (st : Array Cell) : ∀ (m k : Nat) (a b : Val),
    eqCut m st a b = false → equalVal (m + k) st a b = equalVal m st a b := by
  intro m
  induction m with
  | zero =>
    intro k a b h
    cases k with
    | zero => rfl
    | succ k =>
      rw [Nat.zero_add]
      cases a <;> first | rfl | (cases b <;> first | rfl | cases h)
  | succ m ih =>
    intro k a b h
    have e : m + 1 + k = (m + k) + 1 := by omega
    rw [e]
    cases a with
    | pair x =>
      cases b with
      | pair y =>
        simp only [eqCut] at h
        simp only [equalVal]
        cases hx : st[x]? with
        | none => rfl
        | some cx =>
          cases hy : st[y]? with
          | none => cases cx <;> rfl
          | some cy =>
            cases cx <;> cases cy <;> try rfl
            rename_i a1 d1 a2 d2
            simp only [hx, hy, Bool.or_eq_false_iff] at h
            simp only [ih k a1 a2 h.1, ih k d1 d2 h.2]
      | _ => exact equalVal_succ_flat st _ _ _ _ (by intro _ _ _ h; cases h) (by intro _ _ h; cases h)
    | vec x =>
      cases b with
      | vec y =>
        simp only [eqCut] at h
        simp only [equalVal]
        cases hx : st[x]? with
        | none => rfl
        | some cx =>
          cases hy : st[y]? with
          | none => cases cx <;> rfl
          | some cy =>
            cases cx <;> cases cy <;> try rfl
            rename_i xs ys
            simp only [hx, hy, List.any_eq_false] at h
            have : ((xs.zip ys).all fun (p : Val × Val) => equalVal (m + k) st p.1 p.2)
                = ((xs.zip ys).all fun (p : Val × Val) => equalVal m st p.1 p.2) := by
              have hp : ∀ p ∈ xs.zip ys, equalVal (m + k) st p.1 p.2 = equalVal m st p.1 p.2 :=
                fun p hp => ih k p.1 p.2 (by simpa using h p hp)
              rw [Bool.eq_iff_iff]
              simp only [List.all_eq_true]
              constructor <;> intro H p hm
              · rw [← hp p hm]; exact H p hm
              · rw [hp p hm]; exact H p hm
            simp only at this ⊢
            rw [this]
      | _ => exact equalVal_succ_flat st _ _ _ _ (by intro _ _ h; cases h) (by intro _ _ _ h; cases h)
    | _ => exact equalVal_succ_flat st _ _ _ _ (by intro _ _ h; cases h) (by intro _ _ h; cases h)

/-- `memWalk` reaches fuel 0 (it throws `.type` there whatever the value, even `.nil`) -/
def spineCut : Nat → Array Cell → Val → Bool
  | 0, _, _ => true
  | fuel+1, st, .pair l =>
    match st[l]? with
    | some (.pair _ d) => spineCut fuel st d
    | _ => false
  | _+1, _, _ => false

theorem spine_fuel (assoc : Bool) (x : Val) : ∀ (m k : Nat) (l : Val) (st : St), spineCut m st.store l = false →
    spineCut (m + k) st.store l = false ∧ memWalk assoc x (m + k) l st = memWalk assoc x m l st := by
  intro m
  induction m with
  | zero => intro k l st h; simp [spineCut] at h
  | succ m ih =>
    intro k l st h
    have e : m + 1 + k = (m + k) + 1 := by omega
    rw [e]
    cases l with
    | pair loc =>
      simp only [spineCut] at h ⊢
      simp only [memWalk]
      show _ ∧ M.bind' _ _ st = M.bind' _ _ st
      unfold M.bind'
      cases hc : st.store[loc]? with
      | none => simp [readPair, readCell, hc, bind, M.bind']
      | some c =>
        cases c with
        | pair a d =>
          have hrp : readPair (.pair loc) st = .ok (a, d) st := by
            simp [readPair, readCell, hc, bind, M.bind', pure, M.pure']
          simp only [hc] at h ⊢
          simp only [hrp]
          refine ⟨(ih k d st h).1, ?_⟩
          cases assoc with
          | true =>
            simp only [if_true]
            cases a with
            | pair la =>
              simp only
              show M.bind' _ _ st = M.bind' _ _ st
              unfold M.bind'
              cases hr2 : readPair (.pair la) st with
              | ok p s2 =>
                have : s2 = st := by
                  simp only [readPair, readCell, bind, M.bind'] at hr2
                  cases h2 : st.store[la]? with
                  | none => simp [h2] at hr2
                  | some c2 =>
                    cases c2 <;> simp [h2, pure, M.pure', throw] at hr2
                    exact hr2.2.symm
                subst this
                simp only
                split
                · rfl
                · exact (ih k d _ h).2
              | err e s2 => rfl
              | timeout => rfl
            | _ => exact (ih k d st h).2
          | false =>
            simp only [Bool.false_eq_true, if_false]
            split
            · rfl
            · exact (ih k d st h).2
        | _ => simp [readPair, readCell, hc, bind, M.bind', throw]
    | _ => simp [memWalk, spineCut]

theorem memWalk_stable (assoc : Bool) (x : Val) : ∀ (m k : Nat) (l : Val) (st : St),
    spineCut m st.store l = false → memWalk assoc x (m + k) l st = memWalk assoc x m l st :=
  fun m k l st h => (spine_fuel assoc x m k l st h).2

theorem zipArgs_nil : ∀ (m : Nat), zipArgs m [] = []
  | 0 => rfl
  | _+1 => by simp [zipArgs]

theorem zipArgs_stable : ∀ (m k : Nat) (ls : List (List Val)),
    (∃ l ∈ ls, l.length ≤ m) → zipArgs (m + k) ls = zipArgs m ls := by
  intro m
  induction m with
  | zero =>
    intro k ls h
    obtain ⟨l, hl, hlen⟩ := h
    have hl0 : l = [] := by cases l <;> simp at hlen ⊢
    subst hl0
    cases k with
    | zero => rfl
    | succ k =>
      have : ls.any List.isEmpty = true := List.any_eq_true.mpr ⟨[], hl, rfl⟩
      simp [zipArgs, this]
  | succ m ih =>
    intro k ls h
    have e : m + 1 + k = (m + k) + 1 := by omega
    rw [e]
    simp only [zipArgs]
    split
    · rfl
    · rename_i hne
      obtain ⟨l, hl, hlen⟩ := h
      rw [ih k (ls.map List.tail) ⟨l.tail, List.mem_map_of_mem hl, by simp; omega⟩]

/-- the application `f args` would run a store-size-fuelled helper into its bound in store `σ`. The table must list
    every call of `getList`, `getLists`, `externalise`, `equalVal`, `memWalk` in `applyStep`/`applyPrim1`: a primitive
    that is missing here fails in `simGAt_applyPrim1`, at its leaf -/
def helperCut (f : Val) (args : List Val) (σ : Array Cell) : Bool :=
  match f, args with
  | .prim .display, [v] | .prim .write, [v] | .prim .eval, [v] => valCut (σ.size + 1) σ v
  | .prim .equalP, [a, b] => eqCut (σ.size + 1) σ a b
  | .prim .length, [v] | .prim .reverse, [v] | .prim .listToVector, [v] | .prim .listP, [v] =>
    listCut (σ.size + 1) σ v
  | .prim .append, [a, _] => listCut (σ.size + 1) σ a
  | .prim .append, [a, b, _] => listCut (σ.size + 1) σ a || listCut (σ.size + 1) σ b
  | .prim .apply, _ :: a :: as => listCut (σ.size + 1) σ ((a :: as).getLast?.getD .nil)
  | .prim .map, _ :: l :: ls | .prim .forEach, _ :: l :: ls => (l :: ls).any (listCut (σ.size + 1) σ)
  | .prim .memv, [_, l] | .prim .memq, [_, l] | .prim .assv, [_, l] | .prim .assq, [_, l] =>
    spineCut (σ.size + 1) σ l
  | _, _ => false

@[simp] theorem helperCut_display (v : Val) (σ : Array Cell) :
    helperCut (.prim .display) [v] σ = valCut (σ.size + 1) σ v := rfl
@[simp] theorem helperCut_write (v : Val) (σ : Array Cell) :
    helperCut (.prim .write) [v] σ = valCut (σ.size + 1) σ v := rfl
@[simp] theorem helperCut_eval (v : Val) (σ : Array Cell) :
    helperCut (.prim .eval) [v] σ = valCut (σ.size + 1) σ v := rfl
@[simp] theorem helperCut_equalP (a b : Val) (σ : Array Cell) :
    helperCut (.prim .equalP) [a, b] σ = eqCut (σ.size + 1) σ a b := rfl
@[simp] theorem helperCut_length (v : Val) (σ : Array Cell) :
    helperCut (.prim .length) [v] σ = listCut (σ.size + 1) σ v := rfl
@[simp] theorem helperCut_reverse (v : Val) (σ : Array Cell) :
    helperCut (.prim .reverse) [v] σ = listCut (σ.size + 1) σ v := rfl
@[simp] theorem helperCut_listToVector (v : Val) (σ : Array Cell) :
    helperCut (.prim .listToVector) [v] σ = listCut (σ.size + 1) σ v := rfl
@[simp] theorem helperCut_listP (v : Val) (σ : Array Cell) :
    helperCut (.prim .listP) [v] σ = listCut (σ.size + 1) σ v := rfl
@[simp] theorem helperCut_append2 (a b : Val) (σ : Array Cell) :
    helperCut (.prim .append) [a, b] σ = listCut (σ.size + 1) σ a := rfl
@[simp] theorem helperCut_append3 (a b c : Val) (σ : Array Cell) :
    helperCut (.prim .append) [a, b, c] σ = (listCut (σ.size + 1) σ a || listCut (σ.size + 1) σ b) := rfl
@[simp] theorem helperCut_apply (g a : Val) (as : List Val) (σ : Array Cell) :
    helperCut (.prim .apply) (g :: a :: as) σ = listCut (σ.size + 1) σ ((a :: as).getLast?.getD .nil) := rfl
@[simp] theorem helperCut_map (g l : Val) (ls : List Val) (σ : Array Cell) :
    helperCut (.prim .map) (g :: l :: ls) σ = (l :: ls).any (listCut (σ.size + 1) σ) := rfl
@[simp] theorem helperCut_forEach (g l : Val) (ls : List Val) (σ : Array Cell) :
    helperCut (.prim .forEach) (g :: l :: ls) σ = (l :: ls).any (listCut (σ.size + 1) σ) := rfl
@[simp] theorem helperCut_memv (x l : Val) (σ : Array Cell) :
    helperCut (.prim .memv) [x, l] σ = spineCut (σ.size + 1) σ l := rfl
@[simp] theorem helperCut_memq (x l : Val) (σ : Array Cell) :
    helperCut (.prim .memq) [x, l] σ = spineCut (σ.size + 1) σ l := rfl
@[simp] theorem helperCut_assv (x l : Val) (σ : Array Cell) :
    helperCut (.prim .assv) [x, l] σ = spineCut (σ.size + 1) σ l := rfl
@[simp] theorem helperCut_assq (x l : Val) (σ : Array Cell) :
    helperCut (.prim .assq) [x, l] σ = spineCut (σ.size + 1) σ l := rfl
@[simp] theorem helperCut_closure (ps : List Text) (r : Option Text) (b : List Datum) (ρ : Env)
    (args : List Val) (σ : Array Cell) : helperCut (.closure ps r b ρ) args σ = false := by
  simp [helperCut]
@[simp] theorem helperCut_force (args : List Val) (σ : Array Cell) :
    helperCut (.prim .force) args σ = false := by
  simp [helperCut]

/-- `applyStep` guarded: time out instead of running a helper into its fuel bound -/
def guardApply (r : Rec) (f : Val) (args : List Val) : M Val := fun st =>
  if helperCut f args st.store then .timeout else applyStep r f args st

def guardN : Nat → Rec
  | 0 => { eval := fun _ _ => timeoutM, apply := fun _ _ => timeoutM }
  | n+1 => { eval := evalStep (guardN n), apply := guardApply (guardN n) }

theorem guardApply_of_not_cut (r : Rec) (f : Val) (args : List Val) (st : St)
    (h : helperCut f args st.store = false) : guardApply r f args st = applyStep r f args st := by
  simp [guardApply, h]

theorem guardApply_of_cut (r : Rec) (f : Val) (args : List Val) (st : St)
    (h : helperCut f args st.store = true) : guardApply r f args st = .timeout := by
  simp [guardApply, h]

theorem helperCut_of_guardApply_ne_timeout (r : Rec) (f : Val) (args : List Val) (st : St)
    (h : guardApply r f args st ≠ .timeout) : helperCut f args st.store = false := by
  cases hc : helperCut f args st.store with
  | false => rfl
  | true => exact absurd (guardApply_of_cut r f args st hc) h

def cyclicStore : Array Cell := #[Cell.pair (.int 1) (.pair 0)]
def properStore : Array Cell := #[Cell.pair (.int 1) .nil]

example : valCut 2 cyclicStore (.pair 0) = true := by decide
example : listCut 2 cyclicStore (.pair 0) = true := by decide
example : spineCut 2 cyclicStore (.pair 0) = true := by decide
example : eqCut 2 cyclicStore (.pair 0) (.pair 0) = true := by decide
example : valCut 2 properStore (.pair 0) = false := by decide
example : listCut 2 properStore (.pair 0) = false := by decide
example : spineCut 2 properStore (.pair 0) = false := by decide
example : eqCut 2 properStore (.pair 0) (.pair 0) = false := by decide
example : listOfVal 2 properStore (.pair 0) = some [.int 1] := by decide
example : helperCut (.prim .display) [.pair 0] cyclicStore = true := by decide
example : helperCut (.prim .display) [.pair 0] properStore = false := by decide
example : helperCut (.prim .length) [.pair 0] cyclicStore = true := by decide
example : helperCut (.prim .memv) [.int 2, .pair 0] cyclicStore = true := by decide
example : helperCut (.prim .car) [.pair 0] cyclicStore = false := by decide

/-- on cyclic structure the fuel of `valToDatum` shows in the result: the counterexample to unguarded fuel
    invariance of `display`/`write`/`eval` -/
theorem valToDatum_cyclic_fuel_matters :
    valToDatum 2 cyclicStore (.pair 0) ≠ valToDatum 3 cyclicStore (.pair 0) := by decide

/-- … whereas `equal?` at fuel 0 is `eqv?`: two equal strings are not `eqv?` -/
theorem equalVal_zero_fuel_matters :
    equalVal 0 #[] (.str ['a']) (.str ['a']) ≠ equalVal 1 #[] (.str ['a']) (.str ['a']) := by decide

end Marwood.Spec.Eval
