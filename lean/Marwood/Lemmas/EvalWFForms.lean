import Marwood.Lemmas.EvalWFSteps
/-!
# Well-formedness: the special forms (`pres_evalKw`), closure bodies, the binding of arguments
-/
namespace Marwood.Spec.Eval
open Marwood

variable {n0 : Nat} {r : Rec}

theorem pres_allocVars : ∀ (xs : List (Text × Val)) (ρ : Env) (n0 : Nat), (∀ p ∈ xs, ValOK n0 p.2) →
    EnvOK n0 ρ → PresFrom n0 (allocVars xs ρ) EnvOK
  | [], _, _, _, hρ => PresFrom.pure _ (fun _ hn => hρ.mono hn)
  | (y, v) :: xs, ρ, n0, h, hρ => by
    simp only [allocVars]
    refine PresFrom.bind (pres_allocCell _ (h (y, v) (by simp))) (fun l n1 h1 hl => ?_)
    exact pres_allocVars xs _ n1 (fun p hp => (h p (by simp [hp])).mono h1) (by simp [hl, hρ.mono h1])

theorem pres_makeClosure (formals body : Datum) (ρ : Env) (hρ : EnvOK n0 ρ) :
    PresFrom n0 (makeClosure formals body ρ) ValOK := by
  unfold makeClosure
  split
  · exact PresFrom.pureV _ hρ
  · exact PresFrom.throw _

theorem pres_defineValue (hr : RecWF r) (ρ : Env) (d : Datum) (hρ : EnvOK n0 ρ) :
    PresFrom n0 (defineValue r ρ d) (fun n p => ValOK n p.2) := by
  unfold defineValue
  split
  · rename_i y e
    split
    · exact PresFrom.throw _
    · refine PresFrom.bind (hr.eval n0 e ρ hρ) (fun v n1 _ hv => ?_)
      exact PresFrom.pure _ (fun _ hn => hv.mono hn)
  · rename_i f formals body
    split
    · exact PresFrom.throw _
    · refine PresFrom.bind (pres_makeClosure formals body ρ hρ) (fun v n1 _ hv => ?_)
      exact PresFrom.pure _ (fun _ hn => hv.mono hn)
  · exact PresFrom.throw _

theorem pres_assignVar (ρ : Env) (y : Text) (v : Val) (hv : ValOK n0 v) :
    PresFrom n0 (assignVar ρ y v) (fun _ _ => True) := by
  unfold assignVar
  split
  · exact pres_writeCell _ _ hv
  · exact pres_setGlobal y v hv

theorem pres_evalBodyForms (hr : RecWF r) (ρ : Env) : ∀ (es : List Datum) (defs : Bool) (n0 : Nat),
    EnvOK n0 ρ → PresFrom n0 (evalBodyForms r ρ defs es) ValOK
  | [], _, _, _ => by simp only [evalBodyForms]; exact PresFrom.throw _
  | [e], defs, n0, hρ => by
    simp only [evalBodyForms]
    split
    · refine PresFrom.bind (pres_defineValue hr ρ e hρ) (fun p n1 _ hp => ?_)
      refine PresFrom.bind (pres_assignVar ρ p.1 p.2 hp) (fun _ n2 _ _ => ?_)
      exact PresFrom.pureV _ (by simp)
    · exact hr.eval n0 e ρ hρ
  | e :: e' :: es, defs, n0, hρ => by
    simp only [evalBodyForms]
    split
    · refine PresFrom.bind (pres_defineValue hr ρ e hρ) (fun p n1 h1 hp => ?_)
      refine PresFrom.bind (pres_assignVar ρ p.1 p.2 hp) (fun _ n2 h2 _ => ?_)
      exact pres_evalBodyForms hr ρ (e' :: es) true n2 (hρ.mono (Nat.le_trans h1 h2))
    · refine PresFrom.bind (hr.eval n0 e ρ hρ) (fun _ n1 h1 _ => ?_)
      exact pres_evalBodyForms hr ρ (e' :: es) false n1 (hρ.mono h1)

theorem pres_evalBody (hr : RecWF r) (ρ : Env) (body : List Datum) (hρ : EnvOK n0 ρ) :
    PresFrom n0 (evalBody r ρ body) ValOK := by
  unfold evalBody
  refine PresFrom.bind (pres_allocVars _ ρ n0 ?_ hρ) (fun ρ' n1 _ hρ' => ?_)
  · intro p hp
    simp only [List.mem_map] at hp
    obtain ⟨_, _, rfl⟩ := hp
    simp
  · exact pres_evalBodyForms hr ρ' body true n1 hρ'

theorem pres_bindArgs : ∀ (ps : List Text) (rest : Option Text) (args : List Val) (ρ : Env) (n0 : Nat),
    ValsOK n0 args → EnvOK n0 ρ → PresFrom n0 (bindArgs ps rest args ρ) EnvOK
  | [], none, [], _, _, _, hρ => by
    simp only [bindArgs]; exact PresFrom.pure _ (fun _ hn => hρ.mono hn)
  | [], none, _ :: _, _, _, _, _ => by simp only [bindArgs]; exact PresFrom.throw _
  | [], some rr, args, ρ, n0, h, hρ => by
    simp only [bindArgs]
    refine PresFrom.bind (pres_allocList args n0 h) (fun lst n1 h1 hl => ?_)
    refine PresFrom.bind (pres_allocCell _ hl) (fun l n2 h2 hl2 => ?_)
    refine PresFrom.pure _ (fun n hn => ?_)
    simp only [envOK_cons]
    exact ⟨Nat.lt_of_lt_of_le hl2 hn, hρ.mono (Nat.le_trans h1 (Nat.le_trans h2 hn))⟩
  | _ :: _, _, [], _, _, _, _ => by simp only [bindArgs]; exact PresFrom.throw _
  | p :: ps, rest, a :: args, ρ, n0, h, hρ => by
    simp only [valsOK_cons] at h
    simp only [bindArgs]
    refine PresFrom.bind (pres_allocCell _ h.1) (fun l n1 h1 hl => ?_)
    exact pres_bindArgs ps rest args _ n1 (h.2.mono h1) (by simp [hl, hρ.mono h1])

theorem pres_qq (hr : RecWF r) (ρ : Env) : ∀ (n : Nat) (d : Datum) (depth : Nat) (n0 : Nat), dsz d ≤ n →
    EnvOK n0 ρ →
    PresFrom n0 (qq r ρ d depth) ValOK ∧ PresFrom n0 (qqElems r ρ d depth) ValsOK := by
  intro n
  induction n with
  | zero => intro d depth n0 hn; cases d <;> simp [dsz] at hn
  | succ n ih =>
    intro d depth n0 hn hρ
    refine ⟨?_, ?_⟩
    · unfold qq
      split
      · rename_i s y
        simp only [dsz] at hn
        have hy : ∀ k, PresFrom n0 (qq r ρ y k) ValOK := fun k => (ih y k n0 (by omega) hρ).1
        split
        · split
          · exact hr.eval n0 y ρ hρ
          · refine PresFrom.bind (hy _) (fun y' n1 _ hy' => ?_)
            exact pres_allocList _ n1 (by simp [hy'])
        · split
          · refine PresFrom.bind (hy _) (fun y' n1 _ hy' => ?_)
            exact pres_allocList _ n1 (by simp [hy'])
          · refine PresFrom.bind (hy _) (fun y' n1 _ hy' => ?_)
            exact pres_allocList _ n1 (by simp [hy'])
      · rename_i a d' _
        simp only [dsz] at hn
        refine PresFrom.bind (ih a _ n0 (by omega) hρ).1 (fun a' n1 h1 ha' => ?_)
        refine PresFrom.bind (ih d' _ n1 (by omega) (hρ.mono h1)).1 (fun d'' n2 h2 hd'' => ?_)
        exact pres_cons a' d'' (ha'.mono h2) hd''
      · rename_i e
        simp only [dsz] at hn
        refine PresFrom.bind (ih e _ n0 (by omega) hρ).2 (fun xs n1 _ hxs => ?_)
        exact pres_allocVec xs hxs
      · exact pres_quoteVal _
    · unfold qqElems
      split
      · rename_i a d'
        simp only [dsz] at hn
        refine PresFrom.bind (ih a _ n0 (by omega) hρ).1 (fun a' n1 h1 ha' => ?_)
        refine PresFrom.bind (ih d' _ n1 (by omega) (hρ.mono h1)).2 (fun d'' n2 h2 hd'' => ?_)
        exact PresFrom.pureVs _ (by simp [ha'.mono h2, hd''])
      · exact PresFrom.pureVs _ (by simp)

theorem pres_evalCond (hr : RecWF r) (ρ : Env) : ∀ (cs : List Datum) (n0 : Nat), EnvOK n0 ρ →
    PresFrom n0 (evalCond r ρ cs) ValOK
  | [], _, _ => PresFrom.pureV _ (by simp)
  | c :: cs, n0, hρ => by
    simp only [evalCond]
    split
    · rename_i t body hp
      split
      · split
        · exact pres_evalExprs hr ρ body n0 hρ
        · exact PresFrom.throw _
      · refine PresFrom.bind (hr.eval n0 t ρ hρ) (fun v n1 h1 hv => ?_)
        have hρ1 := hρ.mono h1
        split
        · split
          · exact PresFrom.pureV _ hv
          · rename_i arrow f
            split
            · refine PresFrom.bind (hr.eval n1 f ρ hρ1) (fun fv n2 h2 hfv => ?_)
              exact hr.apply n2 fv [v] hfv (by simp [hv.mono h2])
            · exact pres_evalExprs hr ρ _ n1 hρ1
          · exact pres_evalExprs hr ρ body n1 hρ1
        · exact pres_evalCond hr ρ cs n1 hρ1
    · exact PresFrom.throw _

theorem pres_evalCase (hr : RecWF r) (ρ : Env) (key : Val) : ∀ (cs : List Datum) (n0 : Nat),
    EnvOK n0 ρ → ValOK n0 key → PresFrom n0 (evalCase r ρ key cs) ValOK
  | [], _, _, _ => PresFrom.pureV _ (by simp)
  | c :: cs, n0, hρ, hk => by
    simp only [evalCase]
    split
    · rename_i sel bodyD
      split
      · rename_i body hp
        split
        · exact PresFrom.throw _
        · exact pres_evalCase hr ρ key cs n0 hρ hk
        · split
          · rename_i arrow f
            split
            · refine PresFrom.bind (hr.eval n0 f ρ hρ) (fun fv n1 h1 hfv => ?_)
              exact hr.apply n1 fv [key] hfv (by simp [hk.mono h1])
            · exact pres_evalExprs hr ρ _ n0 hρ
          · exact pres_evalExprs hr ρ body n0 hρ
      · exact PresFrom.throw _
    · exact PresFrom.throw _

theorem pres_evalLetStar (hr : RecWF r) (body : List Datum) :
    ∀ (bs : List (Text × Datum)) (ρ : Env) (n0 : Nat), EnvOK n0 ρ →
    PresFrom n0 (evalLetStar r body bs ρ) ValOK
  | [], ρ, n0, hρ => by simp only [evalLetStar]; exact pres_evalBody hr ρ body hρ
  | (y, e) :: bs, ρ, n0, hρ => by
    simp only [evalLetStar]
    refine PresFrom.bind (hr.eval n0 e ρ hρ) (fun v n1 h1 hv => ?_)
    refine PresFrom.bind (pres_allocCell _ hv) (fun l n2 h2 hl => ?_)
    exact pres_evalLetStar hr body bs _ n2 (by simp [hl, hρ.mono (Nat.le_trans h1 h2)])

theorem pres_evalVar (s : Text) (ρ : Env) : PresFrom n0 (evalVar s ρ) ValOK := by
  unfold evalVar
  split
  · exact PresFrom.throw _
  · split
    · exact pres_readVar _
    · exact pres_getGlobal s

theorem pres_evalLetrecInits (hr : RecWF r) (ρ : Env) : ∀ (bs : List (Text × Datum)) (n0 : Nat),
    EnvOK n0 ρ → PresFrom n0 (evalLetrecInits r ρ bs) (fun _ _ => True)
  | [], _, _ => PresFrom.pureT _
  | (y, e) :: bs, n0, hρ => by
    simp only [evalLetrecInits]
    refine PresFrom.bind (hr.eval n0 e ρ hρ) (fun v n1 h1 hv => ?_)
    refine PresFrom.bind (pres_assignVar ρ y v hv) (fun _ n2 h2 _ => ?_)
    exact pres_evalLetrecInits hr ρ bs n2 (hρ.mono (Nat.le_trans h1 h2))

theorem pres_evalKw (hr : RecWF r) (ρ : Env) (k : Kw) (rest : Datum) (hρ : EnvOK n0 ρ) :
    PresFrom n0 (evalKw r ρ k rest) ValOK := by
  cases k with
  | quote =>
    simp only [evalKw]
    split
    · exact pres_quoteVal _
    · exact PresFrom.throw _
  | quasiquote =>
    simp only [evalKw]
    split
    · exact (pres_qq hr ρ _ _ _ n0 (Nat.le_refl _) hρ).1
    · exact PresFrom.throw _
  | unquote => exact PresFrom.throw _
  | define => exact PresFrom.throw _
  | lambda =>
    simp only [evalKw]
    split
    · exact pres_makeClosure _ _ ρ hρ
    · exact PresFrom.throw _
  | setBang =>
    simp only [evalKw]
    split
    · rename_i y e hp
      split
      · exact PresFrom.throw _
      · refine PresFrom.bind (hr.eval n0 e ρ hρ) (fun v n1 _ hv => ?_)
        refine PresFrom.bind (pres_assignVar ρ y v hv) (fun _ n2 _ _ => ?_)
        exact PresFrom.pureV _ (by simp)
    · exact PresFrom.throw _
  | if_ =>
    simp only [evalKw]
    split
    · rename_i t c hp
      refine PresFrom.bind (hr.eval n0 t ρ hρ) (fun v n1 h1 hv => ?_)
      split
      · exact hr.eval n1 c ρ (hρ.mono h1)
      · exact PresFrom.pureV _ (by simp)
    · rename_i t c a hp
      refine PresFrom.bind (hr.eval n0 t ρ hρ) (fun v n1 h1 hv => ?_)
      split
      · exact hr.eval n1 c ρ (hρ.mono h1)
      · exact hr.eval n1 a ρ (hρ.mono h1)
    · exact PresFrom.throw _
  | let_ =>
    simp only [evalKw]
    split
    · rename_i name bindings bodyD
      split
      · rename_i bs b body hb hp
        split
        · exact PresFrom.throw _
        · refine PresFrom.bind (pres_evalArgs hr ρ _ n0 hρ) (fun vs n1 h1 hvs => ?_)
          refine PresFrom.bind (pres_allocCell _ (by simp [CellOK])) (fun l n2 h2 hl => ?_)
          have hf : ValOK n2 (Val.closure (bs.map (·.1)) none (b :: body) ((name, l) :: ρ)) := by
            simp [hl, hρ.mono (Nat.le_trans h1 h2)]
          refine PresFrom.bind (pres_writeCell l _ hf) (fun _ n3 h3 _ => ?_)
          exact hr.apply n3 _ vs (hf.mono h3) (hvs.mono (Nat.le_trans h2 h3))
      · exact PresFrom.throw _
    · rename_i bindings bodyD _
      split
      · rename_i bs b body hb hp
        refine PresFrom.bind (pres_evalArgs hr ρ _ n0 hρ) (fun vs n1 h1 hvs => ?_)
        refine PresFrom.bind (pres_allocVars _ ρ n1 ?_ (hρ.mono h1)) (fun ρ' n2 _ hρ' => ?_)
        · intro p hp'
          exact hvs p.2 (List.of_mem_zip hp').2
        · exact pres_evalBody hr ρ' _ hρ'
      · exact PresFrom.throw _
    · exact PresFrom.throw _
  | letStar =>
    simp only [evalKw]
    split
    · split
      · rename_i bs b body hb hp
        exact pres_evalLetStar hr _ bs ρ n0 hρ
      · exact PresFrom.throw _
    · exact PresFrom.throw _
  | letrec =>
    simp only [evalKw]
    split
    · split
      · rename_i bs b body hb hp
        refine PresFrom.bind (pres_allocVars _ ρ n0 ?_ hρ) (fun ρ' n1 _ hρ' => ?_)
        · intro p hp'
          simp only [List.mem_map] at hp'
          obtain ⟨_, _, rfl⟩ := hp'
          simp
        · refine PresFrom.bind (pres_evalLetrecInits hr ρ' bs n1 hρ') (fun _ n2 h2 _ => ?_)
          exact pres_evalBody hr ρ' _ (hρ'.mono h2)
      · exact PresFrom.throw _
    · exact PresFrom.throw _
  | begin_ =>
    simp only [evalKw]
    split
    · exact pres_evalExprs hr ρ _ n0 hρ
    · exact PresFrom.throw _
  | cond =>
    simp only [evalKw]
    split
    · exact pres_evalCond hr ρ _ n0 hρ
    · exact PresFrom.throw _
  | case_ =>
    simp only [evalKw]
    split
    · rename_i keyE clauses
      split
      · refine PresFrom.bind (hr.eval n0 keyE ρ hρ) (fun key n1 h1 hk => ?_)
        exact pres_evalCase hr ρ key _ n1 (hρ.mono h1) hk
      · exact PresFrom.throw _
    · exact PresFrom.throw _
  | and_ =>
    simp only [evalKw]
    split
    · exact pres_evalAnd hr ρ _ n0 hρ
    · exact PresFrom.throw _
  | or_ =>
    simp only [evalKw]
    split
    · exact pres_evalOr hr ρ _ n0 hρ
    · exact PresFrom.throw _
  | when_ =>
    simp only [evalKw]
    split
    · refine PresFrom.bind (hr.eval n0 _ ρ hρ) (fun v n1 h1 hv => ?_)
      split
      · exact pres_evalExprs hr ρ _ n1 (hρ.mono h1)
      · exact PresFrom.pureV _ (by simp)
    · exact PresFrom.throw _
  | unless_ =>
    simp only [evalKw]
    split
    · refine PresFrom.bind (hr.eval n0 _ ρ hρ) (fun v n1 h1 hv => ?_)
      split
      · exact PresFrom.pureV _ (by simp)
      · exact pres_evalExprs hr ρ _ n1 (hρ.mono h1)
    · exact PresFrom.throw _
  | delay =>
    simp only [evalKw]
    split
    · rename_i e hp
      refine PresFrom.bind (pres_allocCell _ ?_) (fun l n1 _ hl => ?_)
      · show ValOK n0 (Val.closure [] none [e] ρ)
        exact hρ
      · exact PresFrom.pureV _ hl
    · exact PresFrom.throw _

end Marwood.Spec.Eval
