import Marwood.Lemmas.ProcInvMain
import Marwood.Lemmas.ContResume
import Marwood.Lemmas.StackWFBpLive
/-!
# C05 on the REAL concrete machine: live congruence of runs over `concreteOps ext`, no guards

`step_live_congruence` / `runN_live_congruence` need `CodeLaws`; for the concrete heap those exist for the guarded
interfaces only (`gops`, `vops`). Here the two are joined along a run: `step_vops_conv` is the converse of
`step_vops`; what it asks of the second state is a property of the live part of a state (`GoodI.of_liveEq`,
`calleeOk_of_liveEq`), while the bundled invariant itself is carried along the first run only. So
`runN_live_congruence_machine` holds from a reachable state and a live-equal state that need NOT be reachable (the
constructed reference state `Resume s0 v h`).
-/
namespace Marwood.Lemmas.Good
open Marwood Marwood.Vm Marwood.Vm.Verify Marwood.Vm.Concrete Marwood.Lemmas.Sim
open Marwood.Heap (GcState)

variable {ext : ExtOps} {ecl : ExtCodeLawsV ext}

theorem concreteLiveLawsV (ext : ExtOps) (ecl : ExtCodeLawsV ext) : LiveLaws (concreteLawsV ext ecl) where
  makeClosure := by
    intro h lam ep bp a b hi _
    have inv : CInvG IsValue h := hi
    show makeClosure h lam ep bp a = makeClosure h lam ep bp b
    unfold makeClosure
    cases hl : lambdaAt h lam with
    | none => rfl
    | some l =>
      simp only
      rw [closureSlots_stack h ep bp a b l.envmap (inv.noIofArg lam l (lambdaAt_iff.mp hl))]
  makeActivation := by
    intro h lam env bp a b _ hbp hag
    show makeActivation h lam env bp a = makeActivation h lam env bp b
    unfold makeActivation
    cases hl : lambdaAt h lam with
    | none => rfl
    | some l =>
      simp only
      cases he : envAt h env with
      | none => rfl
      | some olds =>
        simp only
        rw [activationSlots_stack hbp hag]

theorem vops_withReads (ext : ExtOps) :
    (vops ext).withReads (gops ext).globGet (gops ext).envGet (gops ext).vectorPush = gops ext := rfl

theorem step_vops_conv {s : St CHeap} (g : GoodI s) (hc : CalleeSite s → CalleeOk s) {r : St CHeap × Bool}
    (hs : step (vops ext) s = .ok r) : step (concreteOps ext) s = .ok r := by
  have h1 : step (gops ext) s = .ok r := by
    rw [← vops_withReads ext]
    refine step_wr (vops ext) (gops ext).globGet (gops ext).envGet (gops ext).vectorPush s ?_ ?_ ?_ hs
    · intro n; exact (vglobGet_eq g.hg.plain n).symm
    · intro a k; exact (venvGet_eq g.hg.env a k).symm
    · intro s1 d st1 h' _ _ hvp
      have hvp' : vvectorPush ext s.heap (deref s.heap d) s.acc = .ok h' := hvp
      unfold vvectorPush at hvp'
      split at hvp'
      · exact hvp'
      · cases hvp'
  rw [← step_gops_site ext hc]; exact h1

theorem rootsOf_liveEq {a b : St CHeap} (h : LiveEq a b) : rootsOf b = rootsOf a := by
  unfold rootsOf
  rw [← h.heap, ← h.cells, ← h.acc, ← h.ipL, ← h.ep]

theorem GoodI.of_liveEq {a b : St CHeap} (g : GoodI a) (h : LiveEq a b) : GoodI b :=
  ⟨by rw [← h.heap]; exact g.hg, by rw [rootsOf_liveEq h, ← h.heap]; exact g.roots, by rw [← h.acc]; exact g.accv⟩

theorem PInv.of_liveEq {a b : St CHeap} (p : PInv a) (h : LiveEq a b) : PInv b := by
  refine ⟨by rw [← h.heap]; exact p.hp, by rw [← h.heap, ← h.acc]; exact p.acc, ?_⟩
  intro i v hi hv
  rw [← h.heap]
  have hi' : i < b.stack.sp + 1 := by omega
  have e1 : (b.stack.cells.take (b.stack.sp + 1))[i]? = some v := by
    rw [List.getElem?_take]; simp [hi', hv]
  rw [← h.cells, List.getElem?_take] at e1
  have hi2 : i < a.stack.sp + 1 := by rw [h.sp]; exact hi'
  simp only [hi2, if_true] at e1
  exact p.stk i v (by omega) e1

theorem calleeOk_of_liveEq {a b : St CHeap} (hc : CalleeOk a) (h : LiveEq a b) : CalleeOk b := by
  unfold CalleeOk at hc ⊢
  rw [← h.heap, ← h.acc]; exact hc

theorem VmOk.wfs_of_step {s : St CHeap} (h : VmOk ext ecl s) {r : St CHeap × Bool}
    (hs : step (concreteOps ext) s = .ok r) : ∃ K, WFS (concreteLawsV ext ecl) s K := by
  rcases h.2 with hw | hh
  · exact hw
  · exact absurd hs (haltedAt_no_step hh r)

/-- **live congruence of runs of the REAL machine**: `a` reachable and satisfying the bundled invariant, `b` live-equal
    to it (any capacity, any stale cells; not necessarily reachable). `FitOK`: an invoked continuation's stack copy
    fits the capacity of the second machine's stack. -/
theorem runN_live_congruence_machine (force : Bool) (el : ExtLaws ext) (eg : ExtGood ext) (ep : ExtProc ext)
    {t0 : St CHeap} (sb : SizeBounded (machine ext force) t0) :
    ∀ (m : Nat) {a b r1 : St CHeap} {bl : Bool}, Reaches (machine ext force) t0 a → VmOkP ext ecl a → LiveEq a b →
      b.stack.sp < b.stack.cells.length → FitOK (concreteOps ext) m a b →
      runN (concreteOps ext) m a = .ok (r1, bl) →
      ∃ r2, runN (concreteOps ext) m b = .ok (r2, bl) ∧ LiveEq r1 r2 := by
  intro m
  induction m with
  | zero =>
    intro a b r1 bl _ _ heq _ _ hr
    simp only [runN] at hr ⊢
    cases hr
    exact ⟨b, rfl, heq⟩
  | succ m ih =>
    intro a b r1 bl hreach hv heq hcap2 hfo hr
    obtain ⟨hfit, hnext⟩ := hfo
    have one : ∀ {a' : St CHeap} {b1 : Bool}, step (concreteOps ext) a = .ok (a', b1) → Small a'.heap →
        ∃ b', step (concreteOps ext) b = .ok (b', b1) ∧ LiveEq a' b' ∧ b'.stack.sp < b'.stack.cells.length := by
      intro a' b1 hst hsm'
      obtain ⟨K, hw⟩ := hv.1.wfs_of_step hst
      have hco : CalleeOk a := hv.calleeOk
      -- over to the guarded machine `vops ext` (the one `LiveLaws` / WF-stack are stated for), congruence there, and back
      have hvs : step (vops ext) a = .ok (a', b1) := step_vops eg hv.1.1 (fun _ => hco) hst hsm'
      obtain ⟨b', hsb, hle, hcb⟩ := step_live_congruence_wf (concreteLiveLawsV ext ecl) hw heq hcap2
        (fun c hc => hfit c (gcallee_cont hc)) hvs
      exact ⟨b', step_vops_conv (hv.1.1.of_liveEq heq) (fun _ => calleeOk_of_liveEq hco heq) hsb, hle, hcb⟩
    rcases runN_succ hr with ⟨hst, rfl⟩ | ⟨a', hst, hr⟩
    · obtain ⟨b', hsb, hle, _⟩ := one hst (sb r1 (.halt hreach (vmStep_eq_halt.mpr hst)))
      exact ⟨b', runN_halt hsb, hle⟩
    · have hreach' : Reaches (machine ext force) t0 a' := .next hreach (vmStep_eq_next.mpr hst)
      have hsm' := sb a' hreach'
      obtain ⟨b', hsb, hle, hcb⟩ := one hst hsm'
      rw [runN_next hsb]
      exact ih hreach' (vmOkP_step el eg ep hv (sb a hreach) hst hsm') hle hcb (hnext a' b' hst hsb) hr

end Marwood.Lemmas.Good
