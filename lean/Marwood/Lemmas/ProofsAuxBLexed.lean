import Marwood.Lemmas.LexSpans
/-!
# Tokens of a lexed text sit on prefix-sum offsets

For C11's span discipline and C20's slicing. Of any `Lexed` text; how a token is spelled (`BodyOK`) is
known of the scanner's own output only (`ParseText.scan_bodies`).
-/
namespace Marwood

theorem Lexed.spans : ∀ {pos : Nat} {cs : Text} {ts : List Token}, Lexed pos cs ts →
    ∀ b ∈ ts, ∃ pre body post, cs = pre ++ body ++ post ∧ b.lo = pos + byteLen pre ∧
      b.hi = b.lo + byteLen body ∧ body ≠ [] := by
  intro pos cs ts h
  induction h with
  | done _ => intro b hb; simp at hb
  | @tok pos g body rest t ts hg hne hlo hhi _ ih =>
    intro b hb
    rcases List.mem_cons.mp hb with rfl | hb
    · exact ⟨g, body, rest, rfl, hlo, hhi, hne⟩
    · obtain ⟨pre, bd, post, he, h1, h2, h3⟩ := ih b hb
      refine ⟨g ++ body ++ pre, bd, post, by simp [he], ?_, h2, h3⟩
      rw [h1, hhi, hlo]; simp; omega

end Marwood
