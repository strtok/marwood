import Marwood.Lemmas.StackWFRun
/-!
# The write set of one instruction, relative to the WF-stack frame chain

`step_below`: from a WF state whose ghost frame list is `d :: K`, one instruction — any callee but a continuation —
writes no stack cell below `d.base`. `Trace.prefix_unwritten`: hence along a `Trace` during which the frame `D` stays on
the list, the cells below `D.base` are what they were (C05: the captured prefix is still the live prefix when the
receiver returns).
-/
namespace Marwood.Vm
open Verify Stack

attribute [local irreducible] Marwood.Vm.Stack.push

variable {H : Type} {ops : HeapOps H}

theorem Frames.entry_nil {V : VCell → Prop} {T : Typing} {e : Nat} {f : Nat → VCell} {top bp l o : Nat} {K : List FDesc}
    (h : Frames V T e f top bp l o K) {t : LamTy} (ht : T l = some t) (hent : t.entry = true) : K = [] := by
  cases h with
  | entry => rfl
  | frame h1 h2 => rw [h1] at ht; cases ht; rw [h2] at hent; cases hent
  | pre h1 h2 => rw [h1] at ht; cases ht; rw [h2] at hent; cases hent

theorem Frames.head_base_body {V : VCell → Prop} {T : Typing} {e : Nat} {f : Nat → VCell} {top bp l o : Nat} {d : FDesc}
    {K : List FDesc} (h : Frames V T e f top bp l o (d :: K)) {t : LamTy} (ht : T l = some t) {st : AState}
    (hst : stateAt t.tm o = some st) (hne : st ≠ .pre) :
    t.entry = false ∧ d.base ≤ bp + 1 ∧ MatchSt V st f top (bp + 4) := by
  have hent : t.entry = false := by
    cases he : t.entry with
    | false => rfl
    | true => exact absurd (h.entry_nil ht he) (by simp)
  obtain ⟨n, ep', l', o', bp', K', hm, _, _, _, _, _, _, hK⟩ := h.inv_frame ht hent hst hne
  simp only [List.cons.injEq] at hK
  refine ⟨hent, ?_, hm⟩
  rw [hK.1]
  show bp + 1 - n ≤ bp + 1
  omega

theorem Frames.head_base_pre {V : VCell → Prop} {T : Typing} {e : Nat} {f : Nat → VCell} {top bp l o : Nat} {d : FDesc}
    {K : List FDesc} (h : Frames V T e f top bp l o (d :: K)) {t : LamTy} (ht : T l = some t)
    (hst : stateAt t.tm o = some .pre) :
    ∃ n, n + 3 ≤ top ∧ f (top - 2) = .argc n ∧ d.base = top - 2 - n := by
  obtain ⟨_, n, ep', l', o', K', hn, _, _, hA, _, hK⟩ := h.inv_pre ht hst
  simp only [List.cons.injEq] at hK
  exact ⟨n, hn, hA, by rw [hK.1]⟩

theorem builtin_below {cl : CodeLaws ops} {s s' : St H} {K : List FDesc} {t : LamTy} {a : List ACell}
    {op : Op} (ai : AtInstr cl s K t (.call a) op) {id : Nat}
    (hs : runBuiltin ops id { s with ipO := s.ipO + 1 } = .ok s') :
    ∃ m, s.stack.cellAt s.stack.sp = .argc m ∧ m + 1 ≤ s.stack.sp ∧
      ∀ i, i ≤ s.stack.sp - 1 - m → s'.stack.cellAt i = s.stack.cellAt i := by
  obtain ⟨m, hA, hm, _⟩ := ai.call_block
  obtain ⟨s2, v, hb, q1, q2, q3, q4, q5⟩ := runBuiltin_ok (cl := cl) hs
  have hcap := ai.hw.wf.cap
  have hi := ai.hw.inv
  refine ⟨m, hA, hm, ?_⟩
  have fromRedisp : Redisp { s with ipO := s.ipO + 1 } s2 m →
      ∀ i, i ≤ s.stack.sp - 1 - m → s'.stack.cellAt i = s.stack.cellAt i := by
    intro r i hi
    rw [q1]
    exact r.below i hi
  cases hk : ops.builtinKind s.heap id <;> rw [hk] at hb <;> dsimp only at hb
  · exact fromRedisp (builtinApply_ok hb hcap hA hm).1
  · exact fromRedisp (builtinEvalProc_ok (cl := cl) (s := { s with ipO := s.ipO + 1 }) hi hb hA).1
  · obtain ⟨_, cst, _, _, _, _, r⟩ := builtinCallcc_ok hb hA
    exact fromRedisp r
  · obtain ⟨_, g2, _⟩ := builtinGeneric_ok (cl := cl) (s := { s with ipO := s.ipO + 1 }) hi hb hA
    intro i _
    rw [q1]
    exact cells_eq_cellAt g2 i

/-- **The write set of one instruction.** A pop writes nothing and `cellAt` ignores `sp`, so RET, CONS, VPUSH are `rfl`.
    In a body state the frame chain gives `d.base ≤ bp + 1` and `bp + 4 ≤ sp` (`head_base_body`): enough for the pushes,
    CALL, the builtins and TCALL. In a prologue (ENTER, VARARG) it gives `d.base = top - 2 - n`, the first argument.
    MOV / MOVIMM write no stack cell by the verifier's `dstOk`. -/
theorem step_below {cl : CodeLaws ops} {s s' : St H} {d : FDesc} {K : List FDesc} {b : Bool}
    (hw : WFS cl s (d :: K)) (hs : step ops s = .ok (s', b))
    (hnc : ∀ c, ops.callee s.heap s.acc ≠ .continuation c) :
    ∀ i, i < d.base → s'.stack.cellAt i = s.stack.cellAt i := by
  obtain ⟨op, hr, e⟩ := step_eff hs
  obtain ⟨t, st, ai, _⟩ := hw.instr hr
  have hfr := hw.wf.frames
  have body : st ≠ .pre → d.base ≤ s.bp + 1 ∧ s.bp + 4 ≤ s.stack.sp := by
    intro hne
    obtain ⟨_, h2, h3⟩ := hfr.head_base_body ai.ht ai.hst hne
    exact ⟨h2, h3.lo_le⟩
  have chk := ai.chk
  intro i hi
  cases e with
  | jmp | jntTaken | jntFall | halt | closure | ret | cons | vpush => rfl
  | mov _ _ hd sto | movImm _ _ hd sto =>
    cases st <;> first | cases chk | simp only [checkOp, Bool.and_eq_true] at chk
    rw [ai.fetch] at hd
    rw [(sto.ok (cl := cl) hw.inv (by rw [← hd]; exact chk.1.2)).1]
  | push | pushImm | pushAcc =>
    have := body (ai.ne_pre (by decide) (by decide))
    exact push_below _ _ i (by omega)
  | callProc =>
    have := body (ai.ne_pre (by decide) (by decide))
    show (((s.stack.push _).push _)).cellAt i = _
    rw [push_below _ _ i (by simp only [push_sp]; omega), push_below _ _ i (by omega)]
  | callBuiltin _ hb | tcallBuiltin _ hb =>
    cases st <;> first | cases chk | simp only [checkOp] at chk
    obtain ⟨b1, b2⟩ := body (by simp)
    obtain ⟨m0, hA0, _, hroom⟩ := ai.call_block
    have hroom := hroom (hfr.head_base_body ai.ht ai.hst (by simp)).1
    obtain ⟨m, hA, hm, hbel⟩ := builtin_below ai hb
    rw [hA0] at hA; cases hA
    exact hbel i (by omega)
  | callCont hc | tcallCont hc => exact absurd hc (hnc _)
  | tcallProc _ ht =>
    cases st <;> first | cases chk | simp only [checkOp, Bool.and_eq_true] at chk
    have hent0 : t.entry = false := by simpa using chk.1
    obtain ⟨m0, hA0, hm0, hroom⟩ := ai.call_block
    have hroom := hroom hent0
    obtain ⟨n, ep', l', o', bp', K', hm, hA, hE, hI, hB, hn, hfr', hK⟩ :=
      hfr.inv_frame ai.ht hent0 ai.hst (by simp)
    simp only [List.cons.injEq] at hK
    have hdb : d.base = s.bp + 1 - n := by rw [hK.1]
    obtain ⟨⟨_, _, _, _, _, r6, _⟩, _⟩ :=
      tcallTail_eff ht hw.wf.cap hA hE hI hB hA0 (by show s.bp + 4 + m0 < s.stack.sp; omega) hn
    exact r6 i (by show i + n ≤ s.bp; omega)
  | enter =>
    cases st <;> first | cases chk | simp only [checkOp, Bool.and_eq_true] at chk
    obtain ⟨n, hn, _, hd⟩ := hfr.head_base_pre ai.ht ai.hst
    exact push_below _ _ i (by omega)
  | varArg he =>
    cases st <;> first | cases chk | simp only [checkOp, Bool.and_eq_true] at chk
    obtain ⟨hent, n, ep', l', o', K', hn, hI, hE, hA, hfr', hK⟩ := hfr.inv_pre ai.ht ai.hst
    obtain ⟨info, m, h', st', rfl, _, _, _, hA', hle, _, _, hblk⟩ := stepVarArg_eff he
    rw [hA] at hA'; cases hA'
    obtain ⟨b1, _, _, _, _, _, b7⟩ := hblk hn
    dsimp only at b1 b7
    simp only [List.cons.injEq] at hK
    rw [hK.1] at hi
    exact b7 i (by simp only at hi; omega)

theorem take_eq_of_cellAt {st st' : Stack} {b : Nat} (h1 : b ≤ st.cells.length) (h2 : b ≤ st'.cells.length)
    (h : ∀ i, i < b → st'.cellAt i = st.cellAt i) : st'.cells.take b = st.cells.take b := by
  apply List.ext_getElem
  · simp; omega
  · intro i hi1 hi2
    simp only [List.length_take] at hi1 hi2
    have hi : i < b := by omega
    have := h i hi
    unfold Stack.cellAt at this
    rw [List.getElem?_eq_getElem (by omega), List.getElem?_eq_getElem (by omega)] at this
    simpa using this

/-- **`prefix_unwritten`** (the frame property of WF executions): along a `Trace` from `s` to `s'` the frame `D` stays on
    the ghost list (`Trace.stable`), and no stack cell below `D.base` is written -/
theorem Trace.prefix_unwritten {cl : CodeLaws ops} {base : Nat} {s s' : St H} (htr : Trace ops base s s') :
    ∀ (P : List FDesc) (D : FDesc) (R : List FDesc), D.base = base → WFS cl s (P ++ D :: R) →
      ∀ i, i < base → s'.stack.cellAt i = s.stack.cellAt i := by
  induction htr with
  | nil s => intro P D R _ _ i _; rfl
  | @cons s s1 s' hnc hst hsp htr' ih =>
    intro P D R hD hw i hi
    have hbases := hw.wf.frames.bases.2
    have hhead : ∃ d K, P ++ D :: R = d :: K ∧ base ≤ d.base := by
      cases P with
      | nil => exact ⟨D, R, rfl, by omega⟩
      | cons p P0 =>
        refine ⟨p, P0 ++ D :: R, rfl, ?_⟩
        rw [List.cons_append, List.pairwise_cons] at hbases
        have := hbases.1 D (by simp)
        omega
    obtain ⟨d, K, hdk, hdb⟩ := hhead
    have h1 : s1.stack.cellAt i = s.stack.cellAt i := step_below (by rw [← hdk]; exact hw) hst hnc i (by omega)
    obtain ⟨P1, hw1⟩ := (Trace.cons hnc hst hsp (.nil s1)).stable (cl := cl) P D R hD hw
    rw [ih P1 D R hD hw1 i hi, h1]

theorem Trace.prefix_take {cl : CodeLaws ops} {s s' : St H} {P R : List FDesc} {D : FDesc}
    (htr : Trace ops D.base s s') (hw : WFS cl s (P ++ D :: R)) :
    s'.stack.cells.take D.base = s.stack.cells.take D.base := by
  obtain ⟨P', hw'⟩ := htr.stable (cl := cl) P D R rfl hw
  have b1 := (hw.wf.frames.bases.1 D (by simp)).2
  have b2 := (hw'.wf.frames.bases.1 D (by simp)).2
  have c1 := hw.wf.cap
  have c2 := hw'.wf.cap
  exact take_eq_of_cellAt (by omega) (by omega) (htr.prefix_unwritten P D R rfl hw)

end Marwood.Vm
