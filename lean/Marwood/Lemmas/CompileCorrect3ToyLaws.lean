import Marwood.Lemmas.CompileCorrect3Toy
/-!
# T01.3 stage 3 — every field of `Laws3` on the heap of `CompileCorrect3Toy.lean`
-/
namespace Marwood.Lemmas.CompileCorrect3.Toy
open Marwood Marwood.Vm Marwood.Lemmas.CompileCorrect Marwood.Lemmas.CompileCorrect2
  Marwood.Lemmas.CompileCorrect3
open Marwood.Spec.Eval (Val Cell)

theorem laws3g (g : Array VCell) (final : List LambdaM) : Laws3 (tD3g g final) where
  slot_inj := by intro a b h; cases h
  truth := by
    intro h S v w hv
    show tDeref h v = .bool false ↔ _
    cases hv with
    | base hb =>
      have hb' : tVR (tDeref h v) w := hb
      cases w <;> simp only [tVR] at hb' <;> first
        | (rw [hb']; simp)
        | cases hb'
    | pair hs hd _ _ =>
      have : tDeref h v = .pair _ _ := hd
      rw [this]
      exact ⟨(fun e => by cases e), (fun e => by cases e)⟩
    | vec hs hv' _ => cases hv'
  ne_undefined := by
    intro h S v w hv e0; subst e0
    cases hv with
    | base hb => exact tVR_undefined hb
    | pair hs hd _ _ => cases hd
    | vec hs hv' _ => cases hv'
  not_envptr := by
    intro h S v w hv
    cases v <;> first
      | rfl
      | (exfalso
         cases hv with
         | base hb => exact tVR_envptr hb
         | pair hs hd _ _ => cases hd
         | vec hs hv' _ => cases hv')
  void := fun _ _ => .base rfl
  nil := fun _ _ => .base rfl
  vr_no_closure := by
    intro h S v a b c e hv
    cases hv with
    | base hb => exact hb
  vr_no_redisp := by
    intro h S v p hv
    cases hv with
    | base hb => exact absurd hb (fun x => x)
  clos_true := by
    intro h v l e hc
    show tDeref h v ≠ _
    rw [callee_deref hc]
    intro e0; cases e0
  clos_ne_undefined := by
    intro h v l e hc e0; subst e0
    cases callee_deref hc
  clos_not_envptr := by
    intro h v l e hc
    cases v <;> first | rfl | cases callee_deref hc
  pair_ne_undefined := by
    intro h v a d hp e0; subst e0
    cases hp
  pair_not_envptr := by
    intro h v a d hp
    cases v <;> first | rfl | cases hp
  vr_pair := fun _ _ _ _ _ _ _ _ hs hd h1 h2 => .pair hs hd h1 h2
  vr_vec := fun _ _ _ _ _ _ hs hv hall => .vec hs hv hall
  vr_store := fun _ _ _ _ _ hx x => tVRc3_move hx.keep x
  srx_store := fun _ _ _ _ x => x
  glob_get_put := by intro h S x v m _ hn; cases hn
  globPut_ext := by
    intro h S n u hs
    by_cases hb : isBuiltinCell (h.globals[n]?.getD .undefined) = true
    · have e : tops.globPut h n u = h := if_pos hb
      rw [e]
      exact ⟨Ext3.refl h S, hs, fun _ _ => rfl⟩
    · have e : tops.globPut h n u = { h with globals := h.globals.setIfInBounds n u } := if_neg hb
      rw [e]
      refine ⟨ext_frame g final h _ S rfl (CellsExt.refl _) (fun _ _ _ x => x) (fun _ x => x) (fun _ x => .inl x),
        ⟨?_, hs.2⟩, fun _ _ => rfl⟩
      intro m id hm
      have hk := hs.1 m id hm
      show (h.globals.setIfInBounds n u)[m]? = _
      have hne : n ≠ m := by
        intro e; subst e
        rw [hk] at hb
        exact hb rfl
      rw [Array.getElem?_setIfInBounds_ne hne]
      exact hk
  envPut_ok := by
    intro h S e k old u hs hno hget hold hu hu2
    obtain ⟨ss, hes, hk, hgetAll⟩ := rows_set u hget
    have hgetAll' : ∀ e' k', tEnvGet { h with envs := h.envs.setIfInBounds e (ss.set k u) } e' k' =
        if e' = e ∧ k' = k then some u else tEnvGet h e' k' := hgetAll
    obtain ⟨hp, hv⟩ := envGet_set_keeps hgetAll hget hold hu
    refine ⟨{ h with envs := h.envs.setIfInBounds e (ss.set k u) }, ?_, ?_, ⟨hs.1, fun e' he' => ?_⟩, hgetAll,
      fun _ => rfl⟩
    · show (match h.envs[e]? with | some ss => _ | none => none) = _
      rw [hes]; simp only [hk, if_true]
    · refine ext_gen g final h _ S rfl (fun _ _ x => x) hp hv ?_ (fun _ x => x) (fun _ x => .inl x) ?_
      · intro e' k' ⟨v, hx, hv1, hv2⟩
        have hx' : tEnvGet h e' k' = some v := hx
        show ∃ v, tEnvGet _ e' k' = some v ∧ _
        rw [hgetAll']
        by_cases hsame : e' = e ∧ k' = k
        · exact ⟨u, by simp [hsame], hu, hu2⟩
        · exact ⟨v, by simp [hsame, hx'], hv1, hv2⟩
      · intro e' k' he' hx
        rw [hgetAll']
        have hsame : ¬ (e' = e ∧ k' = k) := fun x => hno (x.1 ▸ he')
        simp [hsame, hx]
    · show e' < (h.envs.setIfInBounds e (ss.set k u)).size
      rw [Array.size_setIfInBounds]; exact hs.2 e' he'
  closure_ok := by
    intro h S lam ep bp st srcs hs _ hsrc _ _
    have hsrc' : (h.lams[lam]?).map (·.srcs) = some srcs := hsrc
    cases hl : h.lams[lam]? with
    | none => rw [hl] at hsrc'; cases hsrc'
    | some t =>
      rw [hl] at hsrc'
      have ht : t.srcs = srcs := by simpa using hsrc'
      let h' : THeap := { h with envs := h.envs.push (t.srcs.map (tCloSlot h ep)),
                                 cells := h.cells.push (.closure lam h.envs.size),
                                 cenvs := h.envs.size :: h.cenvs }
      have hs' : (tD3g g final).SRx h' S := by
        refine ⟨hs.1, fun e he => ?_⟩
        show e < (h.envs.push _).size
        rw [Array.size_push]
        rcases List.mem_cons.mp he with rfl | h1
        · exact Nat.lt_succ_self _
        · exact Nat.lt_succ_of_lt (hs.2 e h1)
      have hcb : ∀ e, e ∈ h'.cenvs → e ∈ h.cenvs ∨ h.envs.size ≤ e := by
        intro e he
        rcases List.mem_cons.mp he with rfl | h1
        · exact .inr (Nat.le_refl _)
        · exact .inl h1
      refine ⟨h', h.cells.size, h.envs.size, ?_, ?_, tEnvGet_fresh h, ?_, ?_, fun _ => rfl, ?_, hs',
        List.mem_cons_self⟩
      · show (match h.lams[lam]? with | none => _ | some t => _) = _
        rw [hl]
      · show tCalleeCell ((h.cells.push (VCell.closure lam h.envs.size))[h.cells.size]?.getD .undefined) = _
        simp [tCalleeCell]
      · intro j src hj
        show tEnvGet h' h.envs.size j = _
        unfold tEnvGet
        show ((h.envs.push _)[h.envs.size]?).bind _ = _
        simp only [Array.getElem?_push_size, Option.bind, List.getElem?_map, ht, hj, Option.map]
        rw [tCloSlot_eq]
      · intro e k he
        exact tEnvGet_push_ne h _ _ _ e k he
      · refine ext_frame g final h h' S rfl (fun p v x => push_old _ _ _ _ x) ?_ (fun _ x => List.mem_cons_of_mem _ x) hcb
        intro e k v hx
        rw [show tEnvGet h' e k = tEnvGet h e k from tEnvGet_push_ne h _ _ _ e k (Nat.ne_of_lt (tEnvGet_some_lt hx))]; exact hx
  activation_ok := by
    intro h S lam cenv bp st srcs nargs hs _ hsrc hinfo _ _ _ _
    have hsrc' : (h.lams[lam]?).map (·.srcs) = some srcs := hsrc
    have hinfo' : (h.lams[lam]?).map (fun t => (⟨t.nargs⟩ : LambdaInfo)) = some ⟨nargs⟩ := hinfo
    cases hl : h.lams[lam]? with
    | none => rw [hl] at hsrc'; cases hsrc'
    | some t =>
      rw [hl] at hsrc' hinfo'
      have ht : t.srcs = srcs := by simpa using hsrc'
      have hn : t.nargs = nargs := by
        have : (⟨t.nargs⟩ : LambdaInfo) = ⟨nargs⟩ := by simpa using hinfo'
        injection this
      let olds := (h.envs[cenv]?).getD []
      let slots := t.srcs.zipIdx.map fun (src, j) => tActSlot cenv bp t.nargs st olds j src
      let h' : THeap := { h with envs := h.envs.push slots }
      have hslot : ∀ j src, srcs[j]? = some src →
          tEnvGet h' h.envs.size j = some (tActSlot cenv bp nargs st olds j src) := by
        intro j src hj
        unfold tEnvGet
        show ((h.envs.push slots)[h.envs.size]?).bind _ = _
        simp only [Array.getElem?_push_size, Option.bind]
        show slots[j]? = _
        simp only [slots, List.getElem?_map, List.getElem?_zipIdx, ht, hj, Option.map, hn, Nat.zero_add]
      have hold : ∀ j, tEnvGet h cenv j = olds[j]? := by
        intro j; unfold tEnvGet
        show (h.envs[cenv]?).bind _ = ((h.envs[cenv]?).getD [])[j]?
        cases h.envs[cenv]? <;> simp
      have hs' : (tD3g g final).SRx h' S := by
        refine ⟨hs.1, fun e he => ?_⟩
        show e < (h.envs.push _).size
        rw [Array.size_push]
        exact Nat.lt_succ_of_lt (hs.2 e he)
      refine ⟨h', h.envs.size, ?_, tEnvGet_fresh h, ?_, ?_, ?_, ?_, fun _ => rfl, ?_, hs',
        fun x => Nat.lt_irrefl _ (hs.2 _ x)⟩
      · show (match h.lams[lam]? with | some t => _ | none => _) = _
        rw [hl]
      · intro j i v hj hv
        rw [show tops.envGet h' h.envs.size j = tEnvGet h' h.envs.size j from rfl, hslot j _ hj]
        simp [tActSlot, hv]
      · intro j hj
        rw [show tops.envGet h' h.envs.size j = tEnvGet h' h.envs.size j from rfl, hslot j _ hj]
        rfl
      · intro j k hj
        rw [show tops.envGet h' h.envs.size j = tEnvGet h' h.envs.size j from rfl, hslot j _ hj]
        show some (actCaptured cenv j olds[j]?) = some (actCaptured cenv j (tEnvGet h cenv j))
        rw [hold]
      · intro e k he
        exact tEnvGet_push_ne h _ h.cells h.cenvs e k he
      · refine ext_frame g final h h' S rfl (fun _ _ x => x) ?_ (fun _ x => x) (fun _ x => .inl x)
        intro e k v hx
        rw [show tEnvGet h' e k = tEnvGet h e k from tEnvGet_push_ne h _ h.cells h.cenvs e k (Nat.ne_of_lt (tEnvGet_some_lt hx))]
        exact hx
  put_val := by
    intro h S v _ _ hs _
    rcases tPut_cases h v with ⟨p, rfl, hp⟩ | ⟨hd, hnp, hp⟩
    · exact ⟨h, p, hp, Step3.refl hs, fun _ x => x, fun _ _ x => x, fun _ _ x => x⟩
    · have hda : tDeref (tAlloc h v) (.ptr h.cells.size) = tDeref h v := by rw [tDeref_alloc, hd]
      refine ⟨tAlloc h v, h.cells.size, hp, step_alloc g final h S v hs, ?_, ?_, ?_⟩
      · intro w r
        cases r with
        | base hb =>
          refine .base ?_
          show tVR (tDeref (tAlloc h v) (.ptr h.cells.size)) w
          rw [hda]; exact hb
        | pair hs hd' h1 h2 =>
          refine .pair hs ?_ (tVRc3_heap (cellsExt_alloc h v) h1) (tVRc3_heap (cellsExt_alloc h v) h2)
          show tDeref (tAlloc h v) (.ptr h.cells.size) = _
          rw [hda]; exact hd'
        | vec hs hv' _ => cases hv'
      · intro l e hc
        obtain ⟨p, rfl⟩ := tCallee_ptr hc
        exact absurd rfl (hnp p)
      · intro x y hxy
        show tDeref (tAlloc h v) (.ptr h.cells.size) = _
        rw [hda]; exact hxy
  put_pair := by
    intro h S a d hs
    exact ⟨tAlloc h (.pair a d), h.cells.size, rfl, step_alloc g final h S _ hs, tDeref_alloc h _⟩
  call := by
    intro n W h σ vf p vs ws w σ' _ hvf
    cases hvf with
    | base hb => cases hb

theorem laws3 (final : List LambdaM) : Laws3 (tD3 final) := laws3g #[] final

end Marwood.Lemmas.CompileCorrect3.Toy
