import Marwood.Lemmas.CompileCorrect3Main
/-!
# T01.3 stage 3, ERROR case

`compileExpr_correct3_err`: `both3` read at an error of class `cl ≠ syntax` (stated in marwood's terms at
`compile_correct_stage3_error_partial`, `CompileCorrect3Props.lean`). Classes: unbound global (`VariableNotBound`), not a
procedure (`InvalidProcedure`), wrong number of arguments to a closure (`InvalidNumArgs`, raised by `ENTER`, or by `VARARG`
with a rest parameter), a failing primitive (law `ErrLaws3.call_err`).
-/
namespace Marwood.Lemmas.CompileCorrect3
open Marwood Marwood.Vm Marwood.Lemmas.CompileCorrect Marwood.Lemmas.CompileCorrect2 Marwood.Lemmas.CompileSim
open Marwood.Spec.Eval (Val Prim Cell Env ErrClass evalN evalStep applyStep evalArgs properList quoteVal kwOf insertG
  k_quote k_if_ k_setBang k_define k_lambda)

variable {H : Type} {ops : HeapOps H} {D : RepData2 ops}

theorem compileExpr_correct3_err (L : Laws3 D) (LE : ErrLaws3 D) (f : Nat) (cst : CState) (c : Ctx) (base : Nat)
    (tail : Bool) (e : Datum) (cst' : CState) (code : List BC) (ρ : Env) (us : Text → Prop)
    (hf : F3 D.setG f c (bound ρ) us tail e) (hcx : CtxOK c)
    (hcomp : compileExpr f cst c base tail e = .ok (cst', code)) (hpre : cst'.lambdas <+: D.final)
    (n : Nat) (σ : SSt) (cl : ErrClass) (σ' : SSt) (hev : (evalN n).eval e ρ σ = .err cl σ') (hcs : cl ≠ .syntax)
    (W : World) (s : MSt H) (fr : Frame) (hc : CodeAt2 D c.envmap s.heap σ.store s.ipL base code)
    (hip : s.ipO = base) (hi : Inv3 D W s.heap σ) (her : EnvRep3 ops W s.heap c s.ep ρ us) (hw : SWF s.stack)
    (hfr : tail = true → FrameAt s.stack s.bp fr) :
    ∃ W' sf e', W.le W' ∧ ErrRun3 D W' s (errBase tail s fr) σ σ' cl sf e' :=
  exprOut3_err.mp (hev ▸ (both3 L n).1 f cst c base tail e cst' code ρ us hf hcx hcomp hpre σ W s fr hc hip hi her hw
    hfr) LE hcs

theorem closureCall_correct3_err (L : Laws3 D) (LE : ErrLaws3 D) (n : Nat) : CallErr3 D n := by
  intro ps rest body ρc ws σ cl σ' hap hcs W s lam cenv vs st0 epc lc oc hcal hclos hi hvs hipL hipO hst hw0 hw
  have := (both3 L n).2 ps rest body ρc ws σ W s lam cenv vs st0 epc lc oc hcal hclos hi hvs hipL hipO hst hw0 hw
  rw [hap] at this
  obtain ⟨W', sf, e', hw', r⟩ := this LE hcs
  exact ⟨W', sf, e', hw', errRun3_iff.mp r⟩

end Marwood.Lemmas.CompileCorrect3
