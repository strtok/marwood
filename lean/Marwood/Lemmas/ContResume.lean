import Marwood.Lemmas.ContResumeRun
/-!
# `Resume`: "the call/cc expression at `s0` has just returned `v`", and what `call/cc` stores

`s0` is a machine state whose `ip` is ON a CALL/TCALL instruction that dispatches to `call/cc` (receiver and `argc 1`
on top of the stack). `capturedCont s0` is the continuation object `call/cc` creates there (`callcc_step`);
`Resume s0 v h` is `s0` after that CALL returned `v`: `ip` behind the CALL, the two operands popped, `acc = v`, heap `h`.
-/
namespace Marwood.Vm
open Verify Stack

attribute [local irreducible] Marwood.Vm.Stack.push

variable {H : Type} {ops : HeapOps H}

/-- `stack[0 ..= sp-2]`, `ep`, `bp`, `ip` = the instruction after the call -/
def capturedCont (s0 : St H) : Cont :=
  { stack := { cells := s0.stack.cells.take (s0.stack.sp - 2 + 1), sp := s0.stack.sp - 2 },
    ep := s0.ep, ipL := s0.ipL, ipO := s0.ipO + 1, bp := s0.bp }

/-- All cells of `s0` are kept, the stale ones above `sp - 2` too, so this state is in general neither reachable nor
    WF: the theorems only ever claim `LiveEq` to it. -/
def Resume (s0 : St H) (v : VCell) (h : H) : St H :=
  { heap := h, stack := { cells := s0.stack.cells, sp := s0.stack.sp - 2 }, acc := v,
    ep := s0.ep, ipL := s0.ipL, ipO := s0.ipO + 1, bp := s0.bp }

/-- **T05.1 on `step`**: the CALL/TCALL at `s0` whose callee is the builtin `call/cc` stores `capturedCont s0` — `k`
    below is the cell `newCont` returns for it — puts `k` and `argc 1` where the receiver and `argc 1` were, leaves
    everything below and all registers alone, and stays on the same instruction. -/
theorem callcc_step {s0 s01 sc : St H} {op : Op} {id : Nat} {bl : Bool}
    (hr : readOpcode ops s0 = .ok (op, s01)) (hop : op = .callAcc ∨ op = .tcallAcc)
    (hc : ops.callee s0.heap s0.acc = .builtin id) (hk : ops.builtinKind s0.heap id = .callcc)
    (hcap : s0.stack.sp < s0.stack.cells.length) (hs : step ops s0 = .ok (sc, bl)) :
    bl = false ∧ 2 ≤ s0.stack.sp ∧ s0.stack.cellAt s0.stack.sp = .argc 1 ∧
      ∃ hk : H × VCell, hk = ops.newCont s0.heap (capturedCont s0) ∧
        (sc.heap = hk.1 ∨ sc.heap = (ops.maybePut hk.1 (s0.stack.cellAt (s0.stack.sp - 1))).1) ∧
        sc.stack.sp = s0.stack.sp ∧ sc.stack.cellAt (s0.stack.sp - 1) = hk.2 ∧
        sc.stack.cellAt s0.stack.sp = .argc 1 ∧
        (∀ i, i + 2 ≤ s0.stack.sp → sc.stack.cellAt i = s0.stack.cellAt i) ∧
        sc.stack.sp < sc.stack.cells.length ∧
        sc.ipL = s0.ipL ∧ sc.ipO = s0.ipO ∧ sc.ep = s0.ep ∧ sc.bp = s0.bp := by
  have hrb : bl = false ∧ runBuiltin ops id { s0 with ipO := s0.ipO + 1 } = .ok sc := by
    rcases hop with rfl | rfl
    · cases StepEff.of_step hr hs with
      | callBuiltin hc' hb => cases hc.symm.trans hc'; exact ⟨rfl, hb⟩
      | callCont hc' _ => cases hc.symm.trans hc'
      | callProc hl => rcases hl with ⟨env, hl⟩ | ⟨hl, _⟩ <;> cases hc.symm.trans hl
    · cases StepEff.of_step hr hs with
      | tcallBuiltin hc' hb => cases hc.symm.trans hc'; exact ⟨rfl, hb⟩
      | tcallCont hc' _ => cases hc.symm.trans hc'
      | tcallProc hl _ => rcases hl with ⟨env, hl⟩ | ⟨hl, _⟩ <;> cases hc.symm.trans hl
  obtain ⟨hbl, hrb⟩ := hrb
  rw [runBuiltin_accTail] at hrb
  obtain ⟨⟨s2, v⟩, hb, ht⟩ := bind_inv hrb
  dsimp only at ht
  rw [show ops.builtinKind s0.heap id = .callcc from hk] at hb
  dsimp only at hb
  obtain ⟨i1, _, i2, _, _, rfl, rfl⟩ := builtinCallcc_iff.mp hb
  obtain ⟨c1, c2, c3, c4, c5, _⟩ := callccSt_stack (ops := ops) { s0 with ipO := s0.ipO + 1 } i1
  obtain ⟨a1, a2, a3, a4, a5, a6⟩ := accTail_ok ht
  refine ⟨hbl, i1, i2, _, rfl, a6, by rw [a1]; exact c1, by rw [a1]; exact c2, by rw [a1]; exact c3,
    fun i hi => by rw [a1]; exact c4 i hi, by rw [a1]; exact c5, a3, ?_, a2, a5⟩
  rw [a4]
  show s0.ipO + 1 - 1 = s0.ipO
  omega

end Marwood.Vm
