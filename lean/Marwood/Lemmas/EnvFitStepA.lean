import Marwood.Lemmas.EnvFitStack
/-!
# The slot clause of T06.6 as an invariant: `FInv` across `run_one`, the straight-line opcodes

Each lemma: `FInv s0`, the current `(ep, ip.0)` fits, the successor offset is not a prologue offset ⇒ `FInv` of the successor.
-/
namespace Marwood.Lemmas.Good
open Marwood Marwood.Vm Marwood.Vm.Verify Marwood.Vm.Concrete Marwood.Lemmas.Sim
open Marwood.Heap (GcState)
open StepC

theorem setOffset_get {st st' : Stack} {off : Int} {i : Nat} {v w : VCell} (hs : st.setOffset off v = .ok st')
    (hw : st'.cells[i]? = some w) : st.cells[i]? = some w ∨ w = v := by
  unfold Stack.setOffset at hs
  simp only at hs
  split at hs
  · exact set_get hs hw
  · cases hs

theorem setOffset_sp {st st' : Stack} {off : Int} {v : VCell} (hs : st.setOffset off v = .ok st') : st'.sp = st.sp := by
  unfold Stack.setOffset Stack.set at hs
  simp only at hs
  split at hs
  · split at hs
    · cases hs; rfl
    · cases hs
  · cases hs

section
variable {s s' : St CHeap}

theorem FInv.jump (g : GoodI s) (lf : LF s.heap) (b' : s'.heap.cells.size ≤ 2 ^ 63) (f : FInv s) (hfit : Fit s.heap s.ep s.ipL)
    (hh : s'.heap = s.heap) (hep : s'.ep = s.ep) (hl : s'.ipL = s.ipL) (hnp : ¬ InPre s.heap s.ipL s'.ipO)
    (hst : s'.stack = s.stack) : FInv s' := by
  have x : FStep (fun _ => False) s.heap s'.heap := by rw [hh]; exact .refl lf
  exact FInv.next_old g b' f x (fun _ _ _ hn => hn.elim) hfit hep hl hnp
    (by rw [hst]) (by rw [hst]; exact Nat.le_refl _)

theorem FInv.pushed (g : GoodI s) (lf : LF s.heap) (b' : s'.heap.cells.size ≤ 2 ^ 63) (f : FInv s) (hfit : Fit s.heap s.ep s.ipL)
    (hh : s'.heap = s.heap) (hep : s'.ep = s.ep) (hl : s'.ipL = s.ipL) (hnp : ¬ InPre s.heap s.ipL s'.ipO)
    {v : VCell} (hst : s'.stack = s.stack.push v) (hv : NIP v) (hr : VRefsOk s.heap v) : FInv s' := by
  have x : FStep (fun _ => False) s.heap s'.heap := by rw [hh]; exact .refl lf
  exact FInv.next g b' f x (fun _ _ _ hn => hn.elim) hfit hep hl hnp (by rw [hst]; exact f.stk.push hv)
    (hst ▸ (FB.SA.of_good g).push (.of_refs hr))

end

section
variable {ext : ExtOps} {s : St CHeap}

theorem loads_fv (g : GoodI s) {c v : VCell} (live : ∀ off, c = .bpOffset off → (s.bp : Int) + off ≤ s.stack.sp)
    (hptr : ∀ p, c = .ptr p → NF s.heap p)
    (hbp : ∀ off w, c = .bpOffset off → 0 ≤ (s.bp : Int) + off →
      s.stack.cells[((s.bp : Int) + off).toNat]? = some w → plainGlob w = true)
    (ld : OpLoads (concreteOps ext) s c v) : NIP v ∧ VRefsOk s.heap v := by
  by_cases hp : ∃ p, c = .ptr p
  · obtain ⟨p, rfl⟩ := hp
    cases ld
    obtain ⟨k1, k2⟩ := getAt_ok g.hg (hptr p rfl)
    exact ⟨NIP.of_plainVal k2, k1⟩
  · have hsrc : notPtr c = true := by cases c <;> first | rfl | exact absurd ⟨_, rfl⟩ hp
    have hv := loads_val g hsrc live hbp ld
    exact ⟨(NHdr.of_plainGlob hv.1).2, hv.2⟩

theorem stores_fshape {s' : St CHeap} (lf : LF s.heap) {d v : VCell} (hdst : notPtr d = true)
    (st : OpStores (concreteOps ext) s v d s') :
    FStep (fun _ => False) s.heap s'.heap ∧ s'.ep = s.ep ∧ s'.ipL = s.ipL ∧ s'.ipO = s.ipO ∧
    s'.stack.sp = s.stack.sp ∧
    (NHdr v → ∀ (h : CHeap) (B : Nat), PairsOk h s.stack.cells B → PairsOk h s'.stack.cells B) ∧
    (∀ (i : Nat) w, s'.stack.cells[i]? = some w → s.stack.cells[i]? = some w ∨ w = v) := by
  cases st with
  | acc => exact ⟨.refl lf, rfl, rfl, rfl, rfl, fun _ _ _ x => x, fun _ _ hw => .inl hw⟩
  | ptr q => cases hdst
  | bp hst =>
    exact ⟨.refl lf, rfl, rfl, rfl, setOffset_sp hst, fun hv h B x => (x.setOffset hv hst).1,
      fun i w hw => setOffset_get hst hw⟩
  | glob n => exact ⟨globPut_fstep lf n v, rfl, rfl, rfl, rfl, fun _ _ _ x => x, fun _ _ hw => .inl hw⟩
  | env _ _ h2 => exact ⟨envPut_fstep lf h2, rfl, rfl, rfl, rfl, fun _ _ _ x => x, fun _ _ hw => .inl hw⟩
  | envPtr _ h2 => exact ⟨envPut_fstep lf h2, rfl, rfl, rfl, rfl, fun _ _ _ x => x, fun _ _ hw => .inl hw⟩

end

section
variable {ext : ExtOps} {s0 s' : St CHeap} {b : Bool}

theorem fv_jmp (g : GoodI s0) (lf : LF s0.heap) (sm' : Small s'.heap) (f : FInv s0) (hfit : Fit s0.heap s0.ep s0.ipL)
    (hnp : ∀ l t, lambdaAt s0.heap s0.ipL = some l → l.bc[s0.ipO + 1]? = some (.ptr t) → ¬ InPre s0.heap s0.ipL t)
    (hx : exec (concreteOps ext) .jmp (nx s0) = .ok (s', b)) : FInv s' := by
  cases exec_eff hx with
  | jmp hf =>
    obtain ⟨l, hl, hv⟩ := fetch_inv hf
    exact FInv.jump g lf (small_bound sm') f hfit rfl rfl rfl (hnp l _ hl hv) rfl

theorem fv_jnt (g : GoodI s0) (lf : LF s0.heap) (sm' : Small s'.heap) (f : FInv s0) (hfit : Fit s0.heap s0.ep s0.ipL)
    (hnp : ∀ l t, lambdaAt s0.heap s0.ipL = some l → l.bc[s0.ipO + 1]? = some (.ptr t) → ¬ InPre s0.heap s0.ipL t)
    (hnp2 : ¬ InPre s0.heap s0.ipL (s0.ipO + 2))
    (hx : exec (concreteOps ext) .jnt (nx s0) = .ok (s', b)) : FInv s' := by
  cases exec_eff hx with
  | jntTaken hf _ =>
    obtain ⟨l, hl, hv⟩ := fetch_inv hf
    exact FInv.jump g lf (small_bound sm') f hfit rfl rfl rfl (hnp l _ hl hv) rfl
  | jntFall _ _ => exact FInv.jump g lf (small_bound sm') f hfit rfl rfl rfl hnp2 rfl

theorem fv_store (g : GoodI s0) (lf : LF s0.heap) (sm' : Small s'.heap) (f : FInv s0)
    (hfit : Fit s0.heap s0.ep s0.ipL) (hnp : ¬ InPre s0.heap s0.ipL (s0.ipO + 3))
    {d v : VCell} (hdst : notPtr d = true) (hv : NHdr v)
    (st : OpStores (concreteOps ext) { s0 with ipO := s0.ipO + 1 + 1 + 1 } v d s') : FInv s' := by
  obtain ⟨x, hep, hl, hipO, hsp, hpairs, hget⟩ := stores_fshape (s := { s0 with ipO := s0.ipO + 1 + 1 + 1 }) lf hdst st
  have hipO' : s'.ipO = s0.ipO + 3 := hipO
  have hsp' : s'.stack.sp = s0.stack.sp := hsp
  refine FInv.next g (small_bound sm') f x (fun _ _ _ hn => hn.elim) hfit hep hl (by rw [hipO']; exact hnp)
    (hsp' ▸ hpairs hv _ _ f.stk) (B := s0.stack.sp) ?_
  intro i w hi hw
  rcases hget i w hw with h1 | rfl
  · exact FB.SA.of_good g i w (.inl (by omega)) h1
  · exact .of_nhdr hv

theorem fv_mov (g : GoodI s0) (lf : LF s0.heap) (sd : StackDisc s0) (sm' : Small s'.heap) (f : FInv s0)
    (hfit : Fit s0.heap s0.ep s0.ipL) (hnp : ¬ InPre s0.heap s0.ipL (s0.ipO + 3)) (hop : opAt s0 .mov)
    (hx : exec (concreteOps ext) .mov (nx s0) = .ok (s', b)) : FInv s' := by
  obtain ⟨l, hl, hop⟩ := hop
  have lo := (g.hg.lam _ l (lambdaAt_iff.mp hl)).mov s0.ipO hop
  cases exec_eff hx with
  | mov hf ld hd st =>
    have hc := fetch_at hl hf
    have hv := loads_val g (opndAll_at lo.1 hc) (fun off e => sd.bpLive l off hl (e ▸ hc))
      (fun off w e => sd.src l off w hl hop (e ▸ hc)) ld
    exact fv_store g lf sm' f hfit hnp (opndAll_at lo.2 (fetch_at hl hd)) (NHdr.of_plainGlob hv.1) st

theorem fv_movImm (g : GoodI s0) (lf : LF s0.heap) (sm' : Small s'.heap) (f : FInv s0)
    (hfit : Fit s0.heap s0.ep s0.ipL) (hnp : ¬ InPre s0.heap s0.ipL (s0.ipO + 3)) (hop : opAt s0 .movImm)
    (hx : exec (concreteOps ext) .movImm (nx s0) = .ok (s', b)) : FInv s' := by
  obtain ⟨l, hl, hop⟩ := hop
  have lo := (g.hg.lam _ l (lambdaAt_iff.mp hl)).movImm s0.ipO hop
  cases exec_eff hx with
  | movImm hf _ hd st =>
    exact fv_store g lf sm' f hfit hnp (opndAll_at lo.2 (fetch_at hl hd))
      (NHdr.of_plainGlob (opndAll_at lo.1 (fetch_at hl hf))) st

theorem fv_push (g : GoodI s0) (lf : LF s0.heap) (sd : StackDisc s0) (sm' : Small s'.heap) (f : FInv s0)
    (hfit : Fit s0.heap s0.ep s0.ipL) (hnp : ¬ InPre s0.heap s0.ipL (s0.ipO + 2)) (hop : opAt s0 .push)
    (hbp : ∀ l off v, lambdaAt s0.heap s0.ipL = some l → l.bc[s0.ipO + 1]? = some (VCell.bpOffset off) →
      0 ≤ (s0.bp : Int) + off → s0.stack.cells[((s0.bp : Int) + off).toNat]? = some v → plainGlob v = true)
    (hx : exec (concreteOps ext) .push (nx s0) = .ok (s', b)) : FInv s' := by
  obtain ⟨l, hl, hop⟩ := hop
  cases exec_eff hx with
  | push hf ld =>
    have hc := fetch_at hl hf
    obtain ⟨hv, hr⟩ := loads_fv g (fun off e => sd.bpLive l off hl (e ▸ hc))
      (fun p e => VRefsOk.ptr.mp (code_operand_ok g hl hop rfl (e ▸ hc))) (fun off w e => hbp l off w hl (e ▸ hc)) ld
    exact FInv.pushed g lf (small_bound sm') f hfit rfl rfl rfl hnp rfl hv hr

theorem fv_pushImm (g : GoodI s0) (lf : LF s0.heap) (sm' : Small s'.heap) (f : FInv s0)
    (hfit : Fit s0.heap s0.ep s0.ipL) (hnp : ¬ InPre s0.heap s0.ipL (s0.ipO + 2)) (hop : opAt s0 .pushImm)
    (hx : exec (concreteOps ext) .pushImm (nx s0) = .ok (s', b)) : FInv s' := by
  obtain ⟨l, hl, hop⟩ := hop
  cases exec_eff hx with
  | pushImm hf _ =>
    have hv' := fetch_at hl hf
    have hc : CodeF s0.heap l := f.hf s0.ipL _ (lambdaAt_iff.mp hl)
    exact FInv.pushed g lf (small_bound sm') f hfit rfl rfl rfl hnp rfl (hc.2 s0.ipO _ hop hv') (code_operand_ok g hl hop rfl hv')

theorem fv_pushAcc (g : GoodI s0) (lf : LF s0.heap) (sm' : Small s'.heap) (f : FInv s0)
    (hfit : Fit s0.heap s0.ep s0.ipL) (hnp : ¬ InPre s0.heap s0.ipL (s0.ipO + 1))
    (hx : exec (concreteOps ext) .pushAcc (nx s0) = .ok (s', b)) : FInv s' := by
  cases exec_eff hx with
  | pushAcc => exact FInv.pushed g lf (small_bound sm') f hfit rfl rfl rfl hnp rfl (NHdr.of_plainGlob g.accv).2 (roots_acc g.roots)

theorem fv_halt (g : GoodI s0) (lf : LF s0.heap) (sm' : Small s'.heap) (f : FInv s0)
    (hfit : Fit s0.heap s0.ep s0.ipL) (hnp : ¬ InPre s0.heap s0.ipL (s0.ipO + 1))
    (hx : exec (concreteOps ext) .halt (nx s0) = .ok (s', b)) : FInv s' := by
  cases exec_eff hx with
  | halt => exact FInv.jump g lf (small_bound sm') f hfit rfl rfl rfl hnp rfl

theorem fv_cons (g : GoodI s0) (lf : LF s0.heap) (sd : StackDisc s0) (sm' : Small s'.heap) (f : FInv s0)
    (hfit : Fit s0.heap s0.ep s0.ipL) (hnp : ¬ InPre s0.heap s0.ipL (s0.ipO + 1)) (hop : opAt s0 .cons)
    (hx : exec (concreteOps ext) .cons (nx s0) = .ok (s', b)) : FInv s' := by
  obtain ⟨d, a, h1, d', h2, a', h3, pp, hsp, hc1, hc2, e1, e2, e3, rfl⟩ := cons_effect hx
  have pd := sd.cons hop _ d (Nat.le_refl _) (by omega) hc1
  have pa := sd.cons hop _ a (by omega) (by omega) hc2
  have x1 : FStep NoClaim s0.heap h1 := by
    have := putV_fstep lf d
    rw [e1] at this
    exact this.weaken (fun c hc => by subst hc; exact NoClaim.val (plainGlob_not_closure pd))
  have x2 : FStep NoClaim h1 h2 := by
    have := putV_fstep x1.lf a
    rw [e2] at this
    exact this.weaken (fun c hc => by subst hc; exact NoClaim.val (plainGlob_not_closure pa))
  have x3 : FStep NoClaim h2 h3 := by
    have := putV_fstep x2.lf (.pair a' d')
    rw [e3] at this
    exact this.weaken (fun c hc => by subst hc; exact NoClaim.val (fun _ _ hh => by cases hh))
  have x := (x1.trans NoClaim.lexEnv x2).trans NoClaim.lexEnv x3
  exact FInv.next_old g (small_bound sm') f x (fun _ _ _ n => n.cellF) hfit rfl rfl hnp rfl
    (show s0.stack.sp - 1 - 1 ≤ s0.stack.sp by omega)

theorem fv_closure (g : GoodI s0) (lf : LF s0.heap) (sm' : Small s'.heap) (f : FInv s0)
    (hfit : Fit s0.heap s0.ep s0.ipL) (hnp : ¬ InPre s0.heap s0.ipL (s0.ipO + 1))
    (hx : exec (concreteOps ext) .closureAcc (nx s0) = .ok (s', b)) : FInv s' := by
  obtain ⟨lam, h', c, _, h2, rfl⟩ := closure_effect hx
  have x : FStep (ClosNew h' lam) s0.heap h' := makeClosure_fstep lf h2
  refine FInv.next_old g (small_bound sm') f x ?_ hfit rfl rfl hnp rfl (Nat.le_refl _)
  intro i cc _ hn
  rcases hn with ⟨ss, rfl⟩ | ⟨e, rfl, hfe⟩
  · trivial
  · intro l e' he; cases he; exact hfe

theorem fv_vpush (eg : ExtGood ext) (ef : ExtFit ext) (g : GoodI s0) (lf : LF s0.heap) (sm' : Small s'.heap)
    (f : FInv s0) (hfit : Fit s0.heap s0.ep s0.ipL) (hnp : ¬ InPre s0.heap s0.ipL (s0.ipO + 1))
    (hop : opAt s0 .vpushAcc) (hx : exec (concreteOps ext) .vpushAcc (nx s0) = .ok (s', b)) : FInv s' := by
  obtain ⟨l, hl, _⟩ := hop
  obtain ⟨v, h', _, hcell, h2, rfl⟩ := vpush_effect hx
  have hv : VRefsOk s0.heap v := roots_stack g.roots (Nat.le_refl _) hcell
  have hvec : VRefsOk s0.heap (deref s0.heap v) := StepB.deref_refs g.hg hv
  obtain ⟨g', _, _⟩ := eg.vpush s0.heap (deref s0.heap v) s0.acc h' g.hg hvec g.accOk h2 sm'
  obtain ⟨hf', fk, lk⟩ := ef.vpush s0.heap (deref s0.heap v) s0.acc h' g.hg g' f.hf lf hvec g.accOk h2
  refine ⟨hf', ?_, ?_, ?_⟩
  · have k : PairsOk h' s0.stack.cells s0.stack.sp :=
      f.stk.keep' fk (FB.SA.of_good g).nfe (FB.SA.of_good g).nfl
    exact k.mono (Nat.sub_le _ 1)
  · intro hp
    exact absurd (InPre.lamKeep lk hl hp) hnp
  · intro _
    exact fk _ _ (roots_ep g.roots) (roots_ipL g.roots) hfit

end

end Marwood.Lemmas.Good
