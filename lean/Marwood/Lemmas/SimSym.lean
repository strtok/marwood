import Marwood.Lemmas.SimHeapOps
import Marwood.Lemmas.GcSweep
/-!
# Heap simulation: the allocating part of `heap.put` (`putNew`), including symbol interning

The symbol table is not part of `Sim`: after a collection the left heap may have dropped a symbol the right heap still
interns. Interning respects the simulation by the C18 invariant `SymOk` of each heap (the table maps `name` to `p` iff cell
`p` is a non-free `Symbol name` cell: `Interned` of Heap/Invariant.lean read through the erasure). A symbol cell in the
domain of `φ` is then interned on both sides, and the four cases of `putNew_sim` extend `φ` consistently. Found / found:
the two cells are related already, or neither is known to `φ` and the pair is added. Found on one side only: the other
allocates, and the old cell is outside `φ` (else its partner would be interned on the allocating side). Found on
neither: both allocate (`cput_sim`).
-/
namespace Marwood.Lemmas.Sim
open Marwood Marwood.Vm Marwood.Vm.Concrete
open Marwood.Lemmas.GcSweep

def isSymCell (c : CCell) (name : Text) : Prop := ∃ tag, c = CCell.val (.opaque tag) ∧ symName? tag = some name

/-- C18's `Interned`, for the concrete heap -/
def SymOk (h : CHeap) : Prop :=
  ∀ (name : Text) (p : Nat), symLookup h name = some p ↔ ∃ c, h.cells[p]? = some c ∧ isSymCell c name ∧ p ∉ h.free

theorem isPtr_rel {φ : Inj} {v v'} (h : VRel φ v v') : isPtr v = isPtr v' := by
  cases h <;> rfl

theorem symOf_rel {φ : Inj} {v v'} (h : VRel φ v v') : symOf v = symOf v' := by
  cases h <;> rfl

theorem symName_tag_inj {t1 t2 : String} {n : Text} (h1 : symName? t1 = some n) (h2 : symName? t2 = some n) :
    t1 = t2 := by
  unfold symName? at h1 h2
  split at h1
  · split at h2
    · rename_i r1 e1 _ r2 e2
      cases h1; cases h2
      exact String.toList_injective (e1.trans e2.symm)
    · cases h2
  · cases h1

theorem symOf_some {v : VCell} {name : Text} (h : symOf v = some name) :
    ∃ tag, v = .opaque tag ∧ symName? tag = some name := by
  cases v <;> simp [symOf] at h
  exact ⟨_, rfl, h⟩

theorem isSymCell_rel {φ : Inj} {c c' : CCell} (r : CellRel φ c c') {name} (hc : isSymCell c name) : c' = c := by
  obtain ⟨tag, rfl, _⟩ := hc
  cases r with
  | val h1 => cases h1 with
    | atom _ => rfl

theorem isSymCell_rel' {φ : Inj} {c c' : CCell} (r : CellRel φ c c') {name} (hc : isSymCell c' name) : c = c' := by
  obtain ⟨tag, rfl, _⟩ := hc
  cases r with
  | val h1 => cases h1 with
    | atom _ => rfl

theorem isSymCell_val {tag : String} {name : Text} (h : symName? tag = some name) (φ : Inj) :
    CellRel φ (.val (.opaque tag)) (.val (.opaque tag)) := .val (.atom rfl)

theorem symLookup_congr {h h1 : CHeap} (e : h1.symtab = h.symtab) (name : Text) :
    symLookup h1 name = symLookup h name := by
  simp [symLookup, e]

theorem cput_old {h : CHeap} (inv : HInv h) (c : CCell) {p' : Nat} {c0 : CCell}
    (e : h.cells[p']? = some c0) (hf : p' ∉ h.free) :
    (cput h c).1.cells[p']? = some c0 ∧ p' ∉ (cput h c).1.free ∧ p' ≠ (cput h c).2 := by
  have a := calloc_spec h inv
  have hlt := lt_of_get_some e
  have hne : p' ≠ (cput h c).2 := fun e' =>
    a.p_fresh.elim (fun h1 => hf (e' ▸ h1)) (fun h1 => Nat.not_lt_of_le h1 (e' ▸ hlt))
  exact ⟨(cput_cells0 c).2 p' c0 e hne, fun hm => (a.free_sub p' hm).elim hf (fun h1 => Nat.not_lt_of_le h1 hlt), hne⟩

theorem cput_inv {h : CHeap} (inv : HInv h) (c : CCell) {p' : Nat} {c1 : CCell}
    (e : (cput h c).1.cells[p']? = some c1) (hf : p' ∉ (cput h c).1.free) :
    (p' = (cput h c).2 ∧ c1 = c) ∨ (p' ≠ (cput h c).2 ∧ h.cells[p']? = some c1 ∧ p' ∉ h.free) ∨
      c1 = CCell.val .undefined := by
  rcases (cput_cells0 c).1 p' c1 e with x | ⟨hp, k⟩ | x
  · exact .inl x
  · exact .inr (.inl ⟨hp, k, fun hm => ((calloc_spec h inv).free_sup p' hm).elim hp hf⟩)
  · exact .inr (.inr x)

theorem not_sym_undefined (name : Text) : ¬ isSymCell (CCell.val .undefined) name := by
  rintro ⟨tag, h, _⟩; cases h

theorem cput_symOk_plain {h : CHeap} (so : SymOk h) (inv : HInv h) (c : CCell) (hc : ∀ name, ¬ isSymCell c name) :
    SymOk (cput h c).1 := by
  have a := calloc_spec h inv
  intro name p'
  rw [symLookup_congr (show (cput h c).1.symtab = h.symtab from a.symtab) name, so name p']
  constructor
  · rintro ⟨c0, e, hs, hf⟩
    obtain ⟨k1, k2, _⟩ := cput_old inv c e hf
    exact ⟨c0, k1, hs, k2⟩
  · rintro ⟨c1, e, hs, hf⟩
    rcases cput_inv inv c e hf with ⟨_, rfl⟩ | ⟨_, k1, k2⟩ | rfl
    · exact absurd hs (hc name)
    · exact ⟨c1, k1, hs, k2⟩
    · exact absurd hs (not_sym_undefined name)

theorem cput_symOk_sym {h : CHeap} (so : SymOk h) (inv : HInv h) {tag : String} {name : Text}
    (ht : symName? tag = some name) (hnone : symLookup h name = none) :
    SymOk { (cput h (.val (.opaque tag))).1 with
      symtab := Heap.Heap.symInsert (cput h (.val (.opaque tag))).1.symtab name (cput h (.val (.opaque tag))).2 } := by
  have a := calloc_spec h inv
  have hst : (cput h (.val (.opaque tag))).1.symtab = h.symtab := a.symtab
  intro nm p'
  have hl : symLookup { (cput h (.val (.opaque tag))).1 with
      symtab := Heap.Heap.symInsert (cput h (.val (.opaque tag))).1.symtab name (cput h (.val (.opaque tag))).2 } nm =
      if nm = name then some (cput h (.val (.opaque tag))).2 else symLookup h nm := by
    simp only [symLookup]
    rw [lookup_insert, hst]
  rw [hl]
  show _ ↔ ∃ c, (cput h (.val (.opaque tag))).1.cells[p']? = some c ∧ isSymCell c nm ∧
    p' ∉ (cput h (.val (.opaque tag))).1.free
  constructor
  · intro hlk
    split at hlk
    · rename_i hn
      subst hn
      cases hlk
      refine ⟨.val (.opaque tag), ?_, ⟨tag, rfl, ht⟩, ?_⟩
      · simp [cput, cwrite, a.p_lt]
      · simpa [cput, cwrite] using a.p_notfree
    · obtain ⟨c0, e, hs, hf⟩ := (so nm p').mp hlk
      obtain ⟨k1, k2, _⟩ := cput_old inv (.val (.opaque tag)) e hf
      exact ⟨c0, k1, hs, k2⟩
  · rintro ⟨c1, e, hs, hf⟩
    rcases cput_inv inv _ e hf with ⟨hp, rfl⟩ | ⟨hp, k1, k2⟩ | rfl
    · obtain ⟨tag', e', ht'⟩ := hs
      cases e'
      have : nm = name := Option.some.inj (ht'.symm.trans ht)
      simp [this, hp]
    · have hlk := (so nm p').mpr ⟨c1, k1, hs, k2⟩
      have hne : nm ≠ name := by
        intro e'; rw [e', hnone] at hlk; cases hlk
      simp [hne, hlk]
    · exact absurd hs (not_sym_undefined nm)

theorem ext_sim {φ : Inj} {h h' h1 h1' : CHeap} (hs : HeapSim φ h h') {p q : Nat}
    (kl : ∀ a b, φ a = some b → h1.cells[a]? = h.cells[a]? ∧ a ∉ h1.free)
    (kr : ∀ a b, φ a = some b → h1'.cells[b]? = h'.cells[b]? ∧ b ∉ h1'.free)
    (hp : φ p = none) (hq : ∀ x, φ x ≠ some q) {c c' : CCell} (e1 : h1.cells[p]? = some c)
    (e2 : h1'.cells[q]? = some c') (r : CellRel (ext φ p q) c c') (f1 : p ∉ h1.free) (f2 : q ∉ h1'.free)
    (g1 : h1.globals = h.globals) (g2 : h1'.globals = h'.globals) (y1 : h1.globSyms = h.globSyms)
    (y2 : h1'.globSyms = h'.globSyms) (inv : HInv h1) (inv' : HInv h1') : HeapSim (ext φ p q) h1 h1' := by
  have hle := ext_le φ p q hp
  refine ⟨?_, ?_, by rw [g1, g2]; exact VsRel.mono hle hs.globals,
    by rw [y1, y2]; exact addrsRel_mono hle hs.globSyms, inv, inv'⟩
  · intro x x' b h1 h2
    unfold ext at h1 h2
    by_cases e1 : x = p <;> by_cases e2 : x' = p <;> simp only [e1, e2, if_true, if_false] at h1 h2
    · exact e1.trans e2.symm
    · cases h1; exact absurd h2 (hq x')
    · cases h2; exact absurd h1 (hq x)
    · exact hs.inj x x' b h1 h2
  · intro x b hxb
    unfold ext at hxb
    by_cases ex : x = p
    · rw [ex] at hxb ⊢
      simp only [if_true] at hxb
      have ebq : b = q := by cases hxb; rfl
      rw [ebq]
      exact ⟨c, c', e1, e2, r, f1, f2⟩
    · simp only [ex, if_false] at hxb
      obtain ⟨d, d', g1, g2, r', _, _⟩ := hs.cells x b hxb
      obtain ⟨k1, k2⟩ := kl x b hxb
      obtain ⟨k3, k4⟩ := kr x b hxb
      exact ⟨d, d', by rw [k1]; exact g1, by rw [k3]; exact g2, r'.mono hle, k2, k4⟩

theorem HeapSim.setSymtab {φ : Inj} {h h' : CHeap} (hs : HeapSim φ h h') (tab tab' : List (Text × Nat)) :
    HeapSim φ { h with symtab := tab } { h' with symtab := tab' } :=
  -- no clause mentions the symbol table
  ⟨hs.inj, hs.cells, hs.globals, hs.globSyms,
   ⟨hs.inv.sizes, hs.inv.shape, hs.inv.free_iff, hs.inv.nodup, hs.inv.no_used⟩,
   ⟨hs.inv'.sizes, hs.inv'.shape, hs.inv'.free_iff, hs.inv'.nodup, hs.inv'.no_used⟩⟩

variable {φ : Inj} {h h' : CHeap}

theorem putNew_sim (hs : HeapSim φ h h') (so : SymOk h) (so' : SymOk h') {v v'} (hv : VRel φ v v') :
    ∃ ψ, φ.le ψ ∧ HeapSim ψ (putNew h v).1 (putNew h' v').1 ∧ VRel ψ (putNew h v).2 (putNew h' v').2 ∧
      SymOk (putNew h v).1 ∧ SymOk (putNew h' v').1 := by
  cases hsym : symOf v with
  | none =>
    have hsym' : symOf v' = none := by rw [← symOf_rel hv]; exact hsym
    unfold putNew
    rw [hsym, hsym']
    simp only
    obtain ⟨ψ, hle, hpq, hh⟩ := cput_sim hs (c := .val v) (c' := .val v') (fun ψ hle _ => .val (hv.mono hle))
    have ns : ∀ w, symOf w = none → ∀ name, ¬ isSymCell (.val w) name := by
      rintro w hw name ⟨tag, e, ht⟩
      cases e
      simp [symOf, ht] at hw
    exact ⟨ψ, hle, hh, .ptr (.inl hpq), cput_symOk_plain so hs.inv _ (ns v hsym), cput_symOk_plain so' hs.inv' _ (ns v' hsym')⟩
  | some name =>
    obtain ⟨tag, rfl, ht⟩ := symOf_some hsym
    have hvv : v' = .opaque tag := by
      cases hv with
      | atom _ => rfl
    subst hvv
    unfold putNew
    rw [hsym]
    simp only
    cases hl : symLookup h name with
    | some p =>
      obtain ⟨c, ec, hsc, hfp⟩ := (so name p).mp hl
      cases hl' : symLookup h' name with
      | some q =>
        obtain ⟨c', ec', hsc', hfq⟩ := (so' name q).mp hl'
        simp only
        cases hφ : φ p with
        | some q0 =>
          obtain ⟨d, d', g1, g2, r, _, f2⟩ := hs.cells p q0 hφ
          rw [ec] at g1; cases g1
          have : d' = c := isSymCell_rel r hsc
          subst this
          have : symLookup h' name = some q0 := (so' name q0).mpr ⟨_, g2, hsc, f2⟩
          rw [hl'] at this; cases this
          exact ⟨φ, φ.le_refl, hs, .ptr (.inl hφ), so, so'⟩
        | none =>
          have hq : ∀ x, φ x ≠ some q := by
            intro x hx
            obtain ⟨d, d', g1, g2, r, f1, _⟩ := hs.cells x q hx
            rw [ec'] at g2; cases g2
            have : d = c' := isSymCell_rel' r hsc'
            subst this
            have : symLookup h name = some x := (so name x).mpr ⟨_, g1, hsc', f1⟩
            rw [hl] at this; cases this
            rw [hφ] at hx; cases hx
          obtain ⟨t1, rfl, h1⟩ := hsc
          obtain ⟨t2, rfl, h2⟩ := hsc'
          have hh := ext_sim hs (h1 := h) (h1' := h') (p := p) (q := q)
            (fun a b hab => ⟨rfl, (hs.dom_lt hab).2.2.1⟩) (fun a b hab => ⟨rfl, (hs.dom_lt hab).2.2.2⟩)
            hφ hq ec ec' (by
              have : t1 = t2 := symName_tag_inj h1 h2
              subst this
              exact .val (.atom rfl)) hfp hfq rfl rfl rfl rfl hs.inv hs.inv'
          exact ⟨ext φ p q, ext_le φ p q hφ, hh, .ptr (.inl (ext_self φ p q)), so, so'⟩
      | none =>
        simp only
        -- left found, right allocates
        have hφ : φ p = none := by
          cases hφ : φ p with
          | none => rfl
          | some q0 =>
            obtain ⟨d, d', g1, g2, r, _, f2⟩ := hs.cells p q0 hφ
            rw [ec] at g1; cases g1
            have : d' = c := isSymCell_rel r hsc
            subst this
            have : symLookup h' name = some q0 := (so' name q0).mpr ⟨_, g2, hsc, f2⟩
            rw [hl'] at this; cases this
        have a' := calloc_spec h' hs.inv'
        have hq : ∀ x, φ x ≠ some (cput h' (.val (.opaque tag))).2 := by
          intro x hx
          obtain ⟨_, l2, _, l4⟩ := hs.dom_lt hx
          rcases a'.p_fresh with k | k
          · exact l4 k
          · simp only [cput] at l2; omega
        obtain ⟨t1, rfl, h1⟩ := hsc
        have ht1 : t1 = tag := symName_tag_inj h1 ht
        subst ht1
        have hh := ext_sim hs (h1 := h) (h1' := (cput h' (.val (.opaque t1))).1) (p := p)
          (q := (cput h' (.val (.opaque t1))).2)
          (fun a b hab => ⟨rfl, (hs.dom_lt hab).2.2.1⟩)
          (fun a b hab => by
            obtain ⟨d, d', _, g2, _, _, f2⟩ := hs.cells a b hab
            obtain ⟨k1, k2, _⟩ := cput_old hs.inv' (.val (.opaque t1)) g2 f2
            exact ⟨by rw [k1, g2], k2⟩)
          hφ hq ec (by simp [cput, cwrite, a'.p_lt]) (.val (.atom rfl)) hfp
          (by simpa [cput, cwrite] using a'.p_notfree) rfl a'.globals rfl a'.globSyms hs.inv
          (cwrite_inv _ a'.inv _ _)
        exact ⟨_, ext_le φ p _ hφ, hh.setSymtab _ _, .ptr (.inl (ext_self φ p _)), so,
          cput_symOk_sym so' hs.inv' ht hl'⟩
    | none =>
      cases hl' : symLookup h' name with
      | some q =>
        obtain ⟨c', ec', hsc', hfq⟩ := (so' name q).mp hl'
        simp only
        -- left allocates, right found
        have hq : ∀ x, φ x ≠ some q := by
          intro x hx
          obtain ⟨d, d', g1, g2, r, f1, _⟩ := hs.cells x q hx
          rw [ec'] at g2; cases g2
          have : d = c' := isSymCell_rel' r hsc'
          subst this
          have : symLookup h name = some x := (so name x).mpr ⟨_, g1, hsc', f1⟩
          rw [hl] at this; cases this
        have a := calloc_spec h hs.inv
        have hp : φ (cput h (.val (.opaque tag))).2 = none := by
          cases hφ : φ (cput h (.val (.opaque tag))).2 with
          | none => rfl
          | some b =>
            obtain ⟨l1, _, l3, _⟩ := hs.dom_lt hφ
            rcases a.p_fresh with k | k
            · exact absurd k l3
            · simp only [cput] at l1; omega
        obtain ⟨t2, rfl, h2⟩ := hsc'
        have ht2 : t2 = tag := symName_tag_inj h2 ht
        subst ht2
        have hh := ext_sim hs (h1 := (cput h (.val (.opaque t2))).1) (h1' := h')
          (p := (cput h (.val (.opaque t2))).2) (q := q)
          (fun a b hab => by
            obtain ⟨d, d', g1, _, _, f1, _⟩ := hs.cells a b hab
            obtain ⟨k1, k2, _⟩ := cput_old hs.inv (.val (.opaque t2)) g1 f1
            exact ⟨by rw [k1, g1], k2⟩)
          (fun a b hab => ⟨rfl, (hs.dom_lt hab).2.2.2⟩)
          hp hq (by simp [cput, cwrite, a.p_lt]) ec' (.val (.atom rfl))
          (by simpa [cput, cwrite] using a.p_notfree) hfq a.globals rfl a.globSyms rfl
          (cwrite_inv _ a.inv _ _) hs.inv'
        exact ⟨_, ext_le φ _ q hp, hh.setSymtab _ _, .ptr (.inl (ext_self φ _ q)),
          cput_symOk_sym so hs.inv ht hl, so'⟩
      | none =>
        simp only
        obtain ⟨ψ, hle, hpq, hh⟩ := cput_sim hs (c := .val (.opaque tag)) (c' := .val (.opaque tag))
          (fun ψ _ _ => .val (.atom rfl))
        exact ⟨ψ, hle, hh.setSymtab _ _, .ptr (.inl hpq), cput_symOk_sym so hs.inv ht hl,
          cput_symOk_sym so' hs.inv' ht hl'⟩

end Marwood.Lemmas.Sim
