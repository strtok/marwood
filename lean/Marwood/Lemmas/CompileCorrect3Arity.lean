import Marwood.Lemmas.CompileCorrect3VarArg
import Marwood.Lemmas.CompileCorrect3Cases
/-!
# T01.3 stage 3 — the arity error of a procedure with a rest parameter

`(lambda (x₁ … xₖ . r) …)` called with fewer than `k` arguments: `bindArgs` fails with class `arity`; the first
instruction of the callee, `VARARG`, fails with `InvalidNumArgs` (run.rs: `argc < req_argc`) before anything is
allocated. Used by the arity branch of `callRes3_succ`.
-/
namespace Marwood.Lemmas.CompileCorrect3
open Marwood Marwood.Vm Marwood.Lemmas.CompileCorrect Marwood.Lemmas.CompileCorrect2
open Marwood.Spec.Eval (Val Prim Cell Env evalN applyStep)

variable {H : Type} {ops : HeapOps H} {D : RepData2 ops}

theorem bindArgs_too_few : ∀ (ps : List Text) (rest : Option Text) (ws : List Val) (ρ : Env) (σ : SSt),
    ws.length < ps.length → ∃ σ', Spec.Eval.bindArgs ps rest ws ρ σ = .err .arity σ'
  | [], _, _, _, _, h => by simp at h
  | p :: ps, rest, [], ρ, σ, _ => ⟨σ, by simp only [Spec.Eval.bindArgs]; rfl⟩
  | p :: ps, rest, a :: as, ρ, σ, h => by
    have h' : as.length < ps.length := by simpa using h
    simp only [Spec.Eval.bindArgs]
    obtain ⟨σ', hσ⟩ := bindArgs_too_few ps rest as ((p, σ.store.size) :: ρ) { σ with store := σ.store.push (.var a) } h'
    refine ⟨σ', ?_⟩
    show (Spec.Eval.allocCell (.var a) >>= fun l => Spec.Eval.bindArgs ps rest as ((p, l) :: ρ)) σ = _
    show Spec.Eval.M.bind' _ _ σ = _
    simp only [Spec.Eval.M.bind', Spec.Eval.allocCell]
    exact hσ

theorem varArg_too_few {s : MSt H} {req n : Nat} (hl : ops.isLambda s.heap s.ipL = true)
    (h0 : ops.fetch s.heap s.ipL s.ipO = some (.opcode .varArg))
    (hinfo : ops.lambdaInfo s.heap s.ipL = some ⟨req + 1⟩) (hsp : 2 ≤ s.stack.sp)
    (hargc : s.stack.cells[s.stack.sp - 2]? = some (.argc n)) (hn : n < req) :
    step ops s = .err .invalidNumArgs := by
  rw [step_read (readOpcode_eq hl h0), execOp]
  simp only [stepVarArg, hinfo]
  have hu : usub (req + 1) 1 "vararg: args.len() - 1" = .ok req := by unfold usub; simp
  have hg : s.stack.getOffset (-2) = .ok (.argc n) :=
    getOffset_neg (k := 2) (i := s.stack.sp - 2) (by omega) hargc
  simp only [hu, outcome_bind_ok, hg, asArgc, hn, if_true]
  rfl

/-- the state `CALL`/`TCALL` leaves, seen from the callee -/
theorem callee_front {ps : List Text} {rest : Option Text} {body : List Datum} {ρc : Env} {σ : SSt} {W : World}
    {s : MSt H} {lam cenv : Nat} {vs : List VCell} {st0 : Stack} {epc lc oc : Nat}
    (hclos : ClosOK3 D W s.heap lam cenv ps rest body ρc) (hi : Inv3 D W s.heap σ) (hipL : s.ipL = lam)
    (hipO : s.ipO = 0) (hst : LiveEq (callFrame st0 vs epc lc oc) s.stack) (hw0 : SWF st0) :
    ops.isLambda s.heap s.ipL = true ∧
    ops.fetch s.heap s.ipL s.ipO = some (.opcode (if rest.isSome then .varArg else .enter)) ∧
    ops.lambdaInfo s.heap s.ipL = some ⟨(ps ++ rest.toList).length⟩ ∧ 2 ≤ s.stack.sp ∧
    s.stack.cells[s.stack.sp - 2]? = some (.argc vs.length) := by
  obtain ⟨f, cst, cst1, co, p, bcode, ints, caps, a1, a2, a3, a4, a5, a6, a7, a8, a9, a10, a11, a12, a13, a14, a15,
    a16, a17, a18, a19⟩ := hclos
  obtain ⟨hcode, hinfo⟩ := hi.loaded _ _ a8
  rw [← a10] at hcode hinfo
  have hcodeP : CodeAt2 D p.ctx.envmap s.heap σ.store lam 0 (p.prologue ++ bcode ++ [.op .ret]) := hcode
  have hf0 : ops.fetch s.heap s.ipL s.ipO = some (.opcode (if rest.isSome then .varArg else .enter)) := by
    have := hcodeP.op 0 (o := if rest.isSome then .varArg else .enter) (by rw [a4, a2]; cases rest <;> rfl)
    rw [hipL, hipO]; simpa using this
  obtain ⟨_, _, k2, _, _⟩ := callFrame_cells st0 vs epc lc oc hw0
  have hsp : s.stack.sp = st0.sp + vs.length + 3 := by rw [← hst.1, callFrame_sp]
  refine ⟨hipL ▸ a11, hf0, by rw [hipL, hinfo]; simp [lamOf, a1], by omega, ?_⟩
  rw [show s.stack.sp - 2 = st0.sp + vs.length + 1 by omega, ← hst.2 _ (by rw [callFrame_sp]; omega)]
  exact k2

theorem closure_call_rest_arity {n : Nat} {ps : List Text} {r : Text} {body : List Datum} {ρc : Env}
    {ws : List Val} {σ : SSt} {W : World} {s : MSt H} {lam cenv : Nat} {vs : List VCell} {st0 : Stack}
    {epc lc oc : Nat} (hclos : ClosOK3 D W s.heap lam cenv ps (some r) body ρc) (hi : Inv3 D W s.heap σ)
    (hvs : All2 (VR3 D W s.heap σ.store) vs ws) (hipL : s.ipL = lam) (hipO : s.ipO = 0)
    (hst : LiveEq (callFrame st0 vs epc lc oc) s.stack) (hw0 : SWF st0) (hfew : ws.length < ps.length) :
    (∃ σ', (evalN (n + 1)).apply (.closure ps (some r) body ρc) ws σ = .err .arity σ') ∧
    step ops s = .err .invalidNumArgs := by
  constructor
  · obtain ⟨σ', h⟩ := bindArgs_too_few ps (some r) ws ρc σ hfew
    refine ⟨σ', ?_⟩
    show applyStep (evalN n) (.closure ps (some r) body ρc) ws σ = _
    simp only [applyStep]
    show Spec.Eval.M.bind' _ _ σ = _
    simp only [Spec.Eval.M.bind', h]
  · obtain ⟨hl, hf0, hinfo, hsp, hargc⟩ := callee_front hclos hi hipL hipO hst hw0
    have hvl : vs.length = ws.length := All2.length_eq hvs
    exact varArg_too_few hl hf0 (by simpa using hinfo) hsp hargc (by omega)

end Marwood.Lemmas.CompileCorrect3
