import Marwood.Lemmas.TransformEllDefs
import Marwood.Lemmas.TransformAccept
/-!
# What `Pattern::build` computes on every pattern `Transform::try_new` accepts

For a rule of an accepted transformer with pattern `(kw . body)` (`ruleOK_build`): `variables` is the
list of pattern variables of `body` in order (`patVars`), without duplicates; `expanded` contains
exactly the symbols `x ∈ ellVars body` (the variables under an ellipsis); every expanded variable is a
variable. Through `findExpanded_spec` (`find_expanded_variables`) and `buildLoop_spec` (the loop of `build`).
-/
namespace Marwood.Transform
open Marwood Marwood.Spec.Match

theorem anySym_mem (vars : List Text) (x : Text) :
    ((vars.map Datum.sym).any fun it => cellEq it (.sym x)) = decide (x ∈ vars) := by
  induction vars with
  | nil => simp
  | cons v vs ih =>
    rw [List.map_cons, List.any_cons, ih]
    by_cases h : x = v
    · subst h; simp
    · have : ¬ (Datum.sym v = Datum.sym x) := by simp; exact fun e => h e.symm
      simp [h, this]

theorem isVariableCandidate_sym' (s : Setup) (p : Pattern) (x : Text)
    (he : p.ellipsis = s.ell) (hl : p.literals = s.lits) :
    p.isVariableCandidate (.sym x) = s.ctx.isVar x := by
  by_cases hx : x = s.es
  · subst hx
    simp [Pattern.isVariableCandidate, Pattern.isEllipsis, he, Setup.ell, Ctx.isVar, s.isEll_iff]
  · exact isVariableCandidate_sym s p x he hl hx

theorem patVars_ell (s : Setup) : patVars s.ctx s.ell = [] := by
  simp [Setup.ell, patVars, Ctx.isVar, s.isEll_iff]

theorem ellVars_ofList_cons_ell (s : Setup) (it : Datum) (rest : List Datum) :
    ellVars s.ctx (Datum.ofList (it :: s.ell :: rest))
      = patVars s.ctx it ++ ellVars s.ctx (Datum.ofList rest) := by
  simp [Datum.ofList, ellVars, isEllD_ell s]

theorem ellVars_ofList_cons_ne (s : Setup) (it : Datum) (rest : List Datum)
    (h : peekIs s.ell rest = false) :
    ellVars s.ctx (Datum.ofList (it :: rest))
      = ellVars s.ctx it ++ ellVars s.ctx (Datum.ofList rest) := by
  cases rest with
  | nil => simp [Datum.ofList, ellVars]
  | cons q qs =>
    have hq : s.ctx.isEllD q = false := by rw [s.isEllD_eq]; simpa [peekIs] using h
    simp [Datum.ofList, ellVars, hq]

theorem ellVars_sub (c : Ctx) (P : Datum) : ∀ x, x ∈ ellVars c P → x ∈ patVars c P := by
  fun_induction ellVars c P with
  | case1 p q rest hq ih =>
    intro x hx
    simp only [List.mem_append] at hx
    simp only [patVars, List.mem_append]
    rcases hx with hx | hx
    · exact Or.inl hx
    · exact Or.inr (Or.inr (ih x hx))
  | case2 p q rest hq ih1 ih2 =>
    intro x hx
    simp only [List.mem_append] at hx
    rw [patVars, List.mem_append]
    rcases hx with hx | hx
    · exact Or.inl (ih1 x hx)
    · exact Or.inr (ih2 x hx)
  | case3 p rest hne ih1 ih2 =>
    intro x hx
    simp only [List.mem_append] at hx
    rw [patVars, List.mem_append]
    rcases hx with hx | hx
    · exact Or.inl (ih1 x hx)
    · exact Or.inr (ih2 x hx)
  | case4 P h1 h2 => intro x hx; cases hx

/-- `expanded` as a set -/
def ExpGrow (p p' : Pattern) (E : List Text) : Prop :=
  ∀ c : Datum, c ∈ p'.expanded ↔ c ∈ p.expanded ∨ ∃ x, x ∈ E ∧ c = Datum.sym x

theorem ExpGrow.refl (p : Pattern) : ExpGrow p p [] := by
  intro c; simp

theorem ExpGrow.trans {a b c : Pattern} {E1 E2 : List Text} (h1 : ExpGrow a b E1) (h2 : ExpGrow b c E2) :
    ExpGrow a c (E1 ++ E2) := by
  intro d
  rw [h2 d, h1 d]
  simp only [List.mem_append]
  constructor
  · rintro ((h | ⟨x, hx, rfl⟩) | ⟨x, hx, rfl⟩)
    · exact Or.inl h
    · exact Or.inr ⟨x, Or.inl hx, rfl⟩
    · exact Or.inr ⟨x, Or.inr hx, rfl⟩
  · rintro (h | ⟨x, hx | hx, rfl⟩)
    · exact Or.inl (Or.inl h)
    · exact Or.inl (Or.inr ⟨x, hx, rfl⟩)
    · exact Or.inr ⟨x, hx, rfl⟩

theorem ExpGrow.congr {p p' : Pattern} {E E' : List Text} (h : ExpGrow p p' E)
    (hE : ∀ x, x ∈ E' ↔ x ∈ E) : ExpGrow p p' E' := by
  intro c
  rw [h c]
  constructor
  · rintro (h | ⟨x, hx, rfl⟩)
    · exact Or.inl h
    · exact Or.inr ⟨x, (hE x).2 hx, rfl⟩
  · rintro (h | ⟨x, hx, rfl⟩)
    · exact Or.inl h
    · exact Or.inr ⟨x, (hE x).1 hx, rfl⟩

structure FESpec (p p' : Pattern) (E : List Text) : Prop where
  vars : p'.variables = p.variables
  exp : ExpGrow p p' E

theorem foldlM_findExpanded_spec (s : Setup) (f : Nat)
    (ih : ∀ (it : Datum) (p p' : Pattern), p.ellipsis = s.ell → p.literals = s.lits →
      properP it = true → findExpanded f it p = .ok p' → FESpec p p' (patVars s.ctx it)) :
    ∀ (xs : List Datum) (p p' : Pattern), p.ellipsis = s.ell → p.literals = s.lits →
      (∀ it ∈ xs, properP it = true) →
      xs.foldlM (fun p it => findExpanded f it p) p = .ok p' →
      FESpec p p' (patVars s.ctx (Datum.ofList xs)) := by
  intro xs
  induction xs with
  | nil =>
    intro p p' _ _ _ h
    simp [List.foldlM] at h
    cases h
    exact ⟨rfl, by simpa [Datum.ofList, patVars] using ExpGrow.refl p⟩
  | cons x xs ihx =>
    intro p p' he hl hp h
    simp only [List.foldlM, bind, Res.bind] at h
    cases hx : findExpanded f x p with
    | ok p1 =>
      rw [hx] at h
      have hpres := findExpanded_pres _ _ _ _ hx
      have h1 := ih x p p1 he hl (hp x (by simp)) hx
      have h2 := ihx p1 p' (by rw [hpres.ell, he]) (by rw [hpres.lits, hl])
        (fun it hit => hp it (List.mem_cons_of_mem _ hit)) h
      refine ⟨by rw [h2.vars, h1.vars], ?_⟩
      rw [patVars_ofList_cons]
      exact h1.exp.trans h2.exp
    | err e => rw [hx] at h; cases h
    | panic m => rw [hx] at h; cases h
    | fuel => rw [hx] at h; cases h

theorem findExpanded_spec (s : Setup) : ∀ (f : Nat) (it : Datum) (p p' : Pattern),
    p.ellipsis = s.ell → p.literals = s.lits → properP it = true →
    findExpanded f it p = .ok p' → FESpec p p' (patVars s.ctx it) := by
  intro f
  induction f with
  | zero => intro it p p' _ _ _ h; simp [findExpanded] at h
  | succ f ih =>
    intro it p p' he hl hp h
    cases it with
    | sym x =>
      simp only [findExpanded, isVariableCandidate_sym' s p x he hl] at h
      by_cases hv : s.ctx.isVar x = true
      · have hpv : patVars s.ctx (.sym x) = [x] := by simp [patVars, hv]
        rw [hpv]
        by_cases hin : (p.expanded.any fun it => cellEq it (.sym x)) = true
        · simp only [hv, hin, Bool.not_true, Bool.and_false, Bool.false_eq_true, if_false] at h
          cases h
          refine ⟨rfl, ?_⟩
          have hmem : Datum.sym x ∈ p.expanded := by
            obtain ⟨y, hy, hyx⟩ := List.any_eq_true.mp hin
            simp only [cellEq_sym_right, decide_eq_true_eq] at hyx
            rw [← hyx]; exact hy
          intro c
          constructor
          · exact fun h => Or.inl h
          · rintro (h | ⟨y, hy, rfl⟩)
            · exact h
            · simp only [List.mem_singleton] at hy; subst hy; exact hmem
        · simp only [hv, hin, Bool.not_false, Bool.and_true, if_true] at h
          cases h
          refine ⟨rfl, ?_⟩
          intro c
          simp only [List.mem_append, List.mem_singleton]
          constructor
          · rintro (h | h)
            · exact Or.inl h
            · exact Or.inr ⟨x, rfl, h⟩
          · rintro (h | ⟨y, hy, rfl⟩)
            · exact Or.inl h
            · subst hy; exact Or.inr rfl
      · have hpv : patVars s.ctx (.sym x) = [] := by simp [patVars, hv]
        rw [hpv]
        simp only [hv, Bool.false_and, Bool.false_eq_true, if_false] at h
        cases h
        exact ⟨rfl, ExpGrow.refl p⟩
    | pair a d =>
      simp only [findExpanded] at h
      obtain ⟨hiteq, hitel⟩ := properP_iter hp
      have := foldlM_findExpanded_spec s f ih _ p p' he hl hitel h
      rw [hiteq] at this
      exact this
    | vec v => simp [properP] at hp
    | _ =>
      simp only [findExpanded] at h
      cases h
      exact ⟨rfl, by simpa [patVars] using ExpGrow.refl p⟩

structure BuildSpec (s : Setup) (p p' : Pattern) (vs : List Text) (items : List Datum) : Prop where
  vars : p'.variables = (vs ++ patVars s.ctx (Datum.ofList items)).map Datum.sym
  nodup : (vs ++ patVars s.ctx (Datum.ofList items)).Nodup
  exp : ExpGrow p p' (ellVars s.ctx (Datum.ofList items))

theorem BuildSpec.cons {s : Setup} {p p1 p' : Pattern} {vs : List Text} {it : Datum} {rest : List Datum}
    {E1 : List Text} (h1 : ExpGrow p p1 E1)
    (hE : ∀ x, x ∈ ellVars s.ctx (Datum.ofList (it :: rest)) ↔
      x ∈ E1 ∨ x ∈ ellVars s.ctx (Datum.ofList rest))
    (h2 : BuildSpec s p1 p' (vs ++ patVars s.ctx it) rest) : BuildSpec s p p' vs (it :: rest) := by
  refine ⟨?_, ?_, ?_⟩
  · rw [h2.vars, patVars_ofList_cons, List.append_assoc]
  · rw [patVars_ofList_cons, ← List.append_assoc]; exact h2.nodup
  · exact (h1.trans h2.exp).congr (fun x => by rw [hE x, List.mem_append])

theorem buildLoop_no_double (s : Setup) {f : Nat} {imp : Bool} {len idx : Nat} {rest : List Datum}
    {ct : Nat} {p p' : Pattern} (he : p.ellipsis = s.ell) (hp : ∀ it ∈ rest, properP it = true)
    (h : buildLoop f imp len idx rest ct p = .ok p') (hpk : peekIs s.ell rest = true) :
    peekIs s.ell rest.tail = false := by
  obtain ⟨r', rfl⟩ := (peekIs_ell_iff s rest).1 hpk
  have h1 := (buildLoop_place s.es f imp len idx _ ct p p' he hp h).1
  rw [Setup.ell, okS_cons_ell, Bool.and_eq_true] at h1
  exact okS_false_peek s r' h1.2

theorem mem_ellVars_cons_ne (s : Setup) (it : Datum) (rest : List Datum) (h : peekIs s.ell rest = false)
    (x : Text) : x ∈ ellVars s.ctx (Datum.ofList (it :: rest)) ↔
      x ∈ ellVars s.ctx it ∨ x ∈ ellVars s.ctx (Datum.ofList rest) := by
  rw [ellVars_ofList_cons_ne s it rest h, List.mem_append]

theorem mem_ellVars_cons_ell (s : Setup) (it : Datum) (rest : List Datum) (h : peekIs s.ell rest = true)
    (h2 : peekIs s.ell rest.tail = false)
    (x : Text) : x ∈ ellVars s.ctx (Datum.ofList (it :: rest)) ↔
      x ∈ patVars s.ctx it ∨ x ∈ ellVars s.ctx (Datum.ofList rest) := by
  obtain ⟨r', rfl⟩ := (peekIs_ell_iff s rest).1 h
  simp only [List.tail_cons] at h2
  rw [ellVars_ofList_cons_ell, ellVars_ofList_cons_ne s s.ell r' h2, List.mem_append]
  simp [Setup.ell, ellVars]

/-- `_`, a literal, the ellipsis itself, a datum -/
theorem BuildSpec.skip {s : Setup} {p p' : Pattern} {vs : List Text} {it : Datum} {rest : List Datum}
    (hpv : patVars s.ctx it = []) (hev : ellVars s.ctx it = [])
    (hpk : peekIs s.ell rest = true → peekIs s.ell rest.tail = false)
    (h2 : BuildSpec s p p' vs rest) : BuildSpec s p p' vs (it :: rest) := by
  refine BuildSpec.cons (ExpGrow.refl p) ?_ (by rw [hpv, List.append_nil]; exact h2)
  intro x
  by_cases hk : peekIs s.ell rest = true
  · rw [mem_ellVars_cons_ell s it rest hk (hpk hk), hpv]
  · rw [mem_ellVars_cons_ne s it rest (by simpa using hk), hev]

theorem buildLoop_spec (s : Setup) : ∀ (f : Nat) (imp : Bool) (len idx : Nat) (items : List Datum)
    (ct : Nat) (p p' : Pattern) (vs : List Text), p.ellipsis = s.ell → p.literals = s.lits →
    (∀ it ∈ items, properP it = true) → p.variables = vs.map Datum.sym → vs.Nodup →
    buildLoop f imp len idx items ct p = .ok p' → BuildSpec s p p' vs items := by
  intro f
  induction f with
  | zero => intro imp len idx items ct p p' vs _ _ _ _ _ h; simp [buildLoop] at h
  | succ f ih =>
    intro imp len idx items ct p p' vs he hl hprop hvars hnd h
    cases items with
    | nil =>
      simp only [buildLoop] at h
      cases h
      exact ⟨by simp [Datum.ofList, patVars, hvars], by simpa [Datum.ofList, patVars] using hnd,
        by simpa [Datum.ofList, ellVars] using ExpGrow.refl p⟩
    | cons it rest =>
      have hprest : ∀ x ∈ rest, properP x = true := fun x hx => hprop x (List.mem_cons_of_mem _ hx)
      rcases buildLoop_cons h with ⟨_, hE, _, _, hb⟩ | ⟨hs, hE, p1, p2, hp1, hx, hb⟩ |
        ⟨hpair, p1, p2, hx, hn, hb⟩ | ⟨hs, hpair, hb⟩
      · -- the ellipsis itself
        have hit : it = s.ell := by simpa [Pattern.isEllipsis, he, Setup.ell] using hE
        subst hit
        have hno : peekIs s.ell rest = false :=
          buildLoop_no_double s he hprop h (by simp [peekIs, Setup.ell])
        have hr := ih _ _ _ _ _ _ _ vs he hl hprest hvars hnd hb
        exact BuildSpec.skip (patVars_ell s) (by simp [ellVars, Setup.ell]) (fun hk => by simp [hno] at hk) hr
      · obtain ⟨x, rfl⟩ : ∃ x, it = .sym x := by cases it <;> first | exact ⟨_, rfl⟩ | cases hs
        have hpe : peekIs p.ellipsis rest = peekIs s.ell rest := by rw [he]
        rw [isVariableCandidate_sym' s p x he hl, hpe] at hp1
        rw [hpe] at hx
        unfold ExpandedIf at hx
        rcases hp1 with ⟨hv, hdup, rfl⟩ | ⟨hv, hpk, rfl⟩
        · -- a new variable
          have hpv : patVars s.ctx (.sym x) = [x] := by simp [patVars, hv]
          have hxvs : x ∉ vs := by
            rw [Pattern.isVariable, hvars, anySym_mem, decide_eq_false_iff_not] at hdup; exact hdup
          have hnd1 : (vs ++ [x]).Nodup := by
            rw [List.nodup_append]
            refine ⟨hnd, by simp, ?_⟩
            intro a ha b hb; simp only [List.mem_singleton] at hb; subst hb
            intro hab; subst hab; exact hxvs ha
          by_cases hpk : peekIs s.ell rest = true
          · rw [if_pos hpk] at hx
            have hfs := findExpanded_spec s f (.sym x) _ p2 (by exact he) (by exact hl) rfl hx
            have hp2 := findExpanded_pres _ _ _ _ hx
            have hno := buildLoop_no_double s (by rw [hp2.ell]; exact he) hprest hb hpk
            have hr := ih _ _ _ _ _ _ _ (vs ++ [x]) (by rw [hp2.ell]; exact he)
              (by rw [hp2.lits]; exact hl) hprest (by rw [hfs.vars]; simp [hvars]) hnd1 hb
            exact BuildSpec.cons (E1 := patVars s.ctx (.sym x)) hfs.exp
              (mem_ellVars_cons_ell s _ rest hpk hno) (by rw [hpv]; exact hr)
          · rw [if_neg hpk] at hx
            subst hx
            have hpk' : peekIs s.ell rest = false := by simpa using hpk
            have hr := ih _ _ _ _ _ _ _ (vs ++ [x]) (by exact he) (by exact hl) hprest
              (by simp [hvars]) hnd1 hb
            refine BuildSpec.cons (E1 := []) (p1 := { p with variables := p.variables ++ [Datum.sym x] })
              (ExpGrow.refl p) ?_ (by rw [hpv]; exact hr)
            intro y
            rw [mem_ellVars_cons_ne s _ rest hpk']
            simp [ellVars]
        · -- `_`, a literal: nothing is bound, and no ellipsis may follow
          have hpv : patVars s.ctx (.sym x) = [] := by simp [patVars, hv]
          rw [if_neg (by simp [hpk])] at hx
          subst hx
          have hr := ih _ _ _ _ _ _ _ vs he hl hprest hvars hnd hb
          exact BuildSpec.skip hpv (by simp [ellVars]) (fun hk => by simp [hpk] at hk) hr
      · obtain ⟨a, d, rfl⟩ : ∃ a d, it = .pair a d := by
          cases it <;> first | exact ⟨_, _, rfl⟩ | cases hpair
        have hpit : properP (.pair a d) = true := hprop _ (by simp)
        obtain ⟨hiteq, hitel⟩ := properP_iter hpit
        rw [he] at hx
        unfold ExpandedIf at hx
        have hp1 : Pres p p1 := ExpandedIf.pres (by unfold ExpandedIf; exact hx)
        -- the sub-list, from whatever `findExpanded` left
        have nest : p1.variables = vs.map Datum.sym →
            BuildSpec s p1 p2 vs (iterList (.pair a d)) ∧ Pres p1 p2 := fun hv1 =>
          ⟨ih _ _ _ _ _ _ _ vs (hp1.ell.trans he) (hp1.lits.trans hl) hitel hv1 hnd hn,
            buildLoop_pres _ _ _ _ _ _ _ _ hn⟩
        by_cases hpk : peekIs s.ell rest = true
        · rw [if_pos hpk] at hx
          have hfs := findExpanded_spec s f _ p p1 he hl hpit hx
          obtain ⟨hnest, hp2⟩ := nest (by rw [hfs.vars]; exact hvars)
          have hv2 := hnest.vars
          have hnd2 := hnest.nodup
          have hx2 := hnest.exp
          rw [hiteq] at hv2 hnd2 hx2
          have hno := buildLoop_no_double s (by rw [hp2.ell, hp1.ell]; exact he) hprest hb hpk
          have hr := ih _ _ _ _ _ _ _ (vs ++ patVars s.ctx (.pair a d))
            (by rw [hp2.ell, hp1.ell]; exact he) (by rw [hp2.lits, hp1.lits]; exact hl) hprest hv2 hnd2 hb
          refine BuildSpec.cons (hfs.exp.trans hx2) ?_ hr
          intro y
          rw [mem_ellVars_cons_ell s _ rest hpk hno, List.mem_append]
          constructor
          · rintro (h | h)
            · exact Or.inl (Or.inl h)
            · exact Or.inr h
          · rintro ((h | h) | h)
            · exact Or.inl h
            · exact Or.inl (ellVars_sub _ _ _ h)
            · exact Or.inr h
        · rw [if_neg hpk] at hx
          subst hx
          have hpk' : peekIs s.ell rest = false := by simpa using hpk
          obtain ⟨hnest, hp2⟩ := nest hvars
          have hv2 := hnest.vars
          have hnd2 := hnest.nodup
          have hx2 := hnest.exp
          rw [hiteq] at hv2 hnd2 hx2
          have hr := ih _ _ _ _ _ _ _ (vs ++ patVars s.ctx (.pair a d))
            (by rw [hp2.ell]; exact he) (by rw [hp2.lits]; exact hl) hprest hv2 hnd2 hb
          exact BuildSpec.cons hx2 (mem_ellVars_cons_ne s _ rest hpk') hr
      · have hr := ih _ _ _ _ _ _ _ vs he hl hprest hvars hnd hb
        have hnv : ∀ v, it ≠ .vec v := by
          intro v hv; have := hprop it (by simp); rw [hv] at this; simp [properP] at this
        refine BuildSpec.skip ?_ ?_ (fun hk => buildLoop_no_double s he hprest hb hk) hr
        · cases it with
          | sym x => cases hs
          | pair a d => cases hpair
          | vec v => exact absurd rfl (hnv v)
          | _ => rfl
        · cases it <;> first | rfl | cases hpair

theorem build_spec (s : Setup) {f : Nat} {body : Datum} {p0 p : Pattern}
    (he : p0.ellipsis = s.ell) (hl : p0.literals = s.lits) (hv0 : p0.variables = [])
    (hx0 : p0.expanded = []) (hprop : properS body = true) (h : build f body p0 = .ok p) :
    p.variables = (patVars s.ctx body).map Datum.sym ∧
      (patVars s.ctx body).Nodup ∧
      (∀ c : Datum, c ∈ p.expanded ↔ ∃ x, x ∈ ellVars s.ctx body ∧ c = Datum.sym x) := by
  obtain ⟨hbeq, hel⟩ := properS_iter hprop
  obtain ⟨hv, hn, hx⟩ := buildLoop_spec s f _ _ 0 (iterList body) 0 p0 p [] he hl hel
    (by simp [hv0]) List.nodup_nil (by simpa [build] using h)
  rw [hbeq] at hv hn hx
  simp only [List.nil_append] at hv hn
  refine ⟨hv, hn, ?_⟩
  intro c
  have := hx c
  simpa [hx0] using this

theorem ruleOK_build (s : Setup) {f : Nat} {r : Pattern × Datum} (h : RuleOK f s.ell s.lits r) :
    ∃ kw body, r.1.expr = .pair kw body ∧
      r.1.variables = (patVars s.ctx body).map Datum.sym ∧
      (patVars s.ctx body).Nodup ∧
      (∀ x : Text, r.1.isExpandedVariable (.sym x) = decide (x ∈ ellVars s.ctx body)) ∧
      (∀ c : Datum, r.1.isExpandedVariable c = true → r.1.isVariable c = true) := by
  obtain ⟨_, _, _, kw, body, hpb, hbuild⟩ := Pattern.tryNew_ok h.pat
  have hsup := h.support
  rw [hpb] at hsup
  have hprop := checkPatternSupport_proper hsup
  obtain ⟨hv, hn, hexp⟩ := build_spec s (p0 := ⟨r.1.expr, [], [], s.ell, s.lits⟩) rfl rfl rfl rfl hprop hbuild
  refine ⟨kw, body, hpb, hv, hn, ?_, ?_⟩
  · intro x
    unfold Pattern.isExpandedVariable
    rw [Bool.eq_iff_iff]
    simp only [List.any_eq_true, decide_eq_true_eq, cellEq_sym_right]
    constructor
    · rintro ⟨it, hit, heq⟩
      subst heq
      obtain ⟨y, hy, hyx⟩ := (hexp _).1 hit
      cases hyx
      exact hy
    · intro hx
      exact ⟨.sym x, (hexp _).2 ⟨x, hx, rfl⟩, rfl⟩
  · intro c hc
    unfold Pattern.isExpandedVariable at hc
    obtain ⟨it, hit, heq⟩ := List.any_eq_true.1 hc
    obtain ⟨y, hy, rfl⟩ := (hexp it).1 hit
    simp only [cellEq_sym_left, decide_eq_true_eq] at heq
    subst heq
    unfold Pattern.isVariable
    rw [hv, anySym_mem]
    simpa using ellVars_sub _ _ _ hy

theorem accepted_build {f : Nat} {d : Datum} {t : Transform} (hdef : Transform.tryNew f d = .ok t) :
    ∃ s : Setup, t.ellipsis = s.ell ∧ t.literals = s.lits ∧ ∀ r ∈ t.rules,
      ∃ kw body, r.1.expr = .pair kw body ∧
        r.1.variables = (patVars s.ctx body).map Datum.sym ∧
        (patVars s.ctx body).Nodup ∧
        (∀ x : Text, r.1.isExpandedVariable (.sym x) = decide (x ∈ ellVars s.ctx body)) ∧
        (∀ c : Datum, r.1.isExpandedVariable c = true → r.1.isVariable c = true) := by
  obtain ⟨s, hte, htl, hrules⟩ := Transform.tryNew_ok hdef
  exact ⟨s, hte, htl, fun r hr => ruleOK_build s (hrules r hr)⟩

/-! ## A concrete instance: the hypotheses are satisfiable -/

/-- `(d m (syntax-rules (else) ((_ x (a b) ... else) ((a ...) x))))` -/
def ellBuildDef : Datum :=
  Datum.ofList [.sym ['d'], .sym ['m'],
    Datum.ofList [.sym ['s','y','n','t','a','x','-','r','u','l','e','s'], Datum.ofList [.sym ['e','l','s','e']],
      Datum.ofList [
        Datum.ofList [.sym ['_'], .sym ['x'], Datum.ofList [.sym ['a'], .sym ['b']], .sym ['.','.','.'],
          .sym ['e','l','s','e']],
        Datum.ofList [Datum.ofList [.sym ['a'], .sym ['.','.','.']], .sym ['x']]]]]

/-- `(x (a b) ... else)` -/
def ellBuildBody : Datum :=
  Datum.ofList [.sym ['x'], Datum.ofList [.sym ['a'], .sym ['b']], .sym ['.','.','.'], .sym ['e','l','s','e']]

def ellBuildSetup : Setup := ⟨['.','.','.'], [['e','l','s','e']], by decide⟩

theorem ellBuildDef_accepted : ∃ t r, Transform.tryNew 100 ellBuildDef = .ok t ∧ t.rules = [r] ∧
    t.ellipsis = ellBuildSetup.ell ∧ t.literals = ellBuildSetup.lits ∧
    r.1.expr = .pair (.sym ['_']) ellBuildBody :=
  ⟨_, _, rfl, rfl, rfl, rfl, rfl⟩

/-- through `Transform.tryNew_ok` and `ruleOK_build`: `variables = [x, a, b]`, `a` and `b` are
    expanded variables, `x` is not -/
example : ∃ t r, Transform.tryNew 100 ellBuildDef = .ok t ∧ t.rules = [r] ∧
    r.1.variables = [.sym ['x'], .sym ['a'], .sym ['b']] ∧
    r.1.isExpandedVariable (.sym ['a']) = true ∧ r.1.isExpandedVariable (.sym ['b']) = true ∧
    r.1.isExpandedVariable (.sym ['x']) = false := by
  obtain ⟨t, r, ht, hr, hte, htl, hexpr⟩ := ellBuildDef_accepted
  obtain ⟨s, hte', htl', hrules⟩ := Transform.tryNew_ok ht
  -- the setup `try_new` read off is the expected one
  have hs : s.ctx = ellBuildSetup.ctx := by
    rw [hte] at hte'
    rw [htl] at htl'
    obtain ⟨es, names, hne⟩ := s
    simp only [Setup.ell, Setup.lits, Datum.sym.injEq] at hte' htl'
    have hnames : ellBuildSetup.litNames = names :=
      (List.map_inj_right (fun a b hab => by simpa using hab)).1 htl'
    simp only [Setup.ctx, ← hte', ← hnames]
  obtain ⟨kw, body, hpb, hv, _, hx, _⟩ := ruleOK_build s (hrules r (by rw [hr]; simp))
  rw [hexpr] at hpb
  cases hpb
  rw [hs] at hv hx
  have hpv : patVars ellBuildSetup.ctx ellBuildBody = [['x'], ['a'], ['b']] := by decide
  have hev : ellVars ellBuildSetup.ctx ellBuildBody = [['a'], ['b']] := by decide
  rw [hpv] at hv
  refine ⟨t, r, ht, hr, hv, ?_, ?_, ?_⟩
  · rw [hx, hev]; decide
  · rw [hx, hev]; decide
  · rw [hx, hev]; decide

end Marwood.Transform
