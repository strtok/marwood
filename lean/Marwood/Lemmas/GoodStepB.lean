import Marwood.Lemmas.GoodStepEffect
/-!
# `Safe` as an invariant: the heap part of `run_one`, opcode by opcode (2): CONS VPUSH CLOSURE VARARG
-/
namespace Marwood.Lemmas.Good
open Marwood Marwood.Vm Marwood.Vm.Concrete Marwood.Lemmas.Sim
open Marwood.Heap (GcState WFHeap RootsOk vrefs vrefsList crefs)

namespace StepB

theorem putV_sz {h h' : CHeap} {v r : VCell} (e : putV h v = (h', r)) : h.cells.size ≤ h'.cells.size := by
  have := putV_size h v
  rw [e] at this
  exact this

theorem putV_ok {h h' : CHeap} (g : HG h) {v r : VCell} (hr : VRefsOk h v) (hp : plainVal v = true)
    (e : putV h v = (h', r)) (sm : Small h') : HG h' ∧ Mono h h' ∧ ∃ a, r = .ptr a ∧ NF h' a := by
  have key := putV_hg g hr hp (by rw [e]; exact sm)
  rw [e] at key
  obtain ⟨pr, a, ha⟩ := key
  simp only at ha
  subst ha
  exact ⟨pr.hg, pr.mono, a, rfl, VRefsOk.ptr.mp pr.res.2⟩

theorem pair_refs {h : CHeap} {a d : Nat} (ha : NF h a) (hd : NF h d) : VRefsOk h (.pair a d) := by
  intro y hy
  simp only [eraseV, vrefs, List.mem_cons, List.not_mem_nil, or_false] at hy
  rcases hy with rfl | rfl
  · exact ha
  · exact hd

theorem deref_refs {h : CHeap} (g : HG h) {v : VCell} (hv : VRefsOk h v) : VRefsOk h (deref h v) := by
  cases v with
  | ptr p => exact (getAt_ok g (VRefsOk.ptr.mp hv)).1
  | _ => exact hv

section
variable {ext : ExtOps}

theorem varargCollect_size : ∀ (k : Nat) {h h' : CHeap} {acc l : Nat} {st st' : Stack},
    varargCollect (concreteOps ext) k h acc st = .ok (h', l, st') → h.cells.size ≤ h'.cells.size := by
  intro k
  induction k with
  | zero =>
    intro h h' acc l st st' hr
    simp only [varargCollect] at hr
    cases hr
    exact Nat.le_refl _
  | succ k ih =>
    intro h h' acc l st st' hr
    obtain ⟨v, h1, a, h2, p, _, _, e1, e2, hr⟩ := varargCollect_succ hr
    exact Nat.le_trans (putV_sz e1) (Nat.le_trans (putV_sz e2) (ih hr))

theorem varargCollect_hg : ∀ (k : Nat) {h h' : CHeap} {acc l : Nat} {st st' : Stack},
    varargCollect (concreteOps ext) k h acc st = .ok (h', l, st') → HG h → NF h acc →
    (∀ i v, i ≤ st.sp → st.sp < i + k → st.cells[i]? = some v → plainGlob v = true ∧ VRefsOk h v) →
    Small h' → HG h' := by
  intro k
  induction k with
  | zero =>
    intro h h' acc l st st' hr g _ _ _
    simp only [varargCollect] at hr
    cases hr
    exact g
  | succ k ih =>
    intro h h' acc l st st' hr g hacc hc sm
    obtain ⟨v, h1, a, h2, p, hpos, hcell, e1, e2, hr⟩ := varargCollect_succ hr
    have sm2 : Small h2 := sm.of_le (varargCollect_size k hr)
    have sm1 : Small h1 := sm2.of_le (putV_sz e2)
    have hv := hc st.sp v (Nat.le_refl _) (by omega) hcell
    obtain ⟨g1, m1, a', ea, nfa⟩ := putV_ok g hv.2 (plainGlob_plainVal hv.1) e1 sm1
    cases ea
    obtain ⟨g2, m2, p', ep, nfp⟩ := putV_ok g1 (pair_refs nfa (hacc.mono m1)) rfl e2 sm2
    cases ep
    refine ih hr g2 nfp ?_ sm
    intro i w hi hlt hw
    have x := hc i w (by simp only at hi; omega) (by simp only at hlt; omega) hw
    exact ⟨x.1, x.2.mono (m1.trans m2)⟩

end

end StepB

open StepB

section
variable {ext : ExtOps} {s0 : St CHeap}

theorem hg_cons {s' : St CHeap} {b : Bool} (g : GoodI s0) (sd : StackDisc s0) (hop : opAt s0 .cons)
    (hx : exec (concreteOps ext) .cons (nx s0) = .ok (s', b)) (sm : Small s'.heap) :
    HG s'.heap ∧ plainGlob s'.acc = true := by
  obtain ⟨d, a, h1, d1, h2, a1, h3, p, hsp, hc1, hc2, e1, e2, e3, rfl⟩ := cons_effect hx
  have sm2 : Small h2 := sm.of_le (putV_sz e3)
  have sm1 : Small h1 := sm2.of_le (putV_sz e2)
  have pd := sd.cons hop _ d (Nat.le_refl _) (by omega) hc1
  have pa := sd.cons hop _ a (by omega) (by omega) hc2
  have rd : VRefsOk s0.heap d := roots_stack g.roots (Nat.le_refl _) hc1
  have ra : VRefsOk s0.heap a := roots_stack g.roots (by omega) hc2
  obtain ⟨g1, m1, _, e, nfd⟩ := putV_ok g.hg rd (plainGlob_plainVal pd) e1 sm1
  cases e
  obtain ⟨g2, m2, _, e, nfa⟩ := putV_ok g1 (ra.mono m1) (plainGlob_plainVal pa) e2 sm2
  cases e
  obtain ⟨g3, _, _, rfl, _⟩ := putV_ok g2 (pair_refs nfa (nfd.mono m2)) rfl e3 sm
  exact ⟨g3, rfl⟩

theorem hg_vpush {s' : St CHeap} {b : Bool} (eg : ExtGood ext) (g : GoodI s0)
    (hx : exec (concreteOps ext) .vpushAcc (nx s0) = .ok (s', b)) (sm : Small s'.heap) :
    HG s'.heap ∧ plainGlob s'.acc = true := by
  obtain ⟨v, h', _, hcell, h2, rfl⟩ := vpush_effect hx
  have hv : VRefsOk s0.heap v := roots_stack g.roots (Nat.le_refl _) hcell
  have key := eg.vpush s0.heap (deref s0.heap v) s0.acc h' g.hg (deref_refs g.hg hv) g.accOk h2 sm
  refine ⟨key.1, ?_⟩
  -- `acc` is the popped cell: a pointer, or a cell that is its own dereference
  have k2 := key.2.2
  show plainGlob v = true
  cases v <;> first | rfl | exact k2

theorem hg_closure {s' : St CHeap} {b : Bool} (g : GoodI s0)
    (hx : exec (concreteOps ext) .closureAcc (nx s0) = .ok (s', b)) (sm : Small s'.heap) :
    HG s'.heap ∧ plainGlob s'.acc = true := by
  obtain ⟨lam, h', c, hacc, h2, rfl⟩ := closure_effect hx
  have hl : NF s0.heap lam := VRefsOk.ptr.mp (hacc ▸ roots_acc g.roots)
  obtain ⟨x, _, y, _⟩ := makeClosure_hg g.hg hl (roots_ep g.roots) h2 sm
  exact ⟨x, y.1⟩

theorem hg_varArg {s' : St CHeap} {b : Bool} (g : GoodI s0) (sd : StackDisc s0) (hop : opAt s0 .varArg)
    (hx : exec (concreteOps ext) .varArg (nx s0) = .ok (s', b)) (sm : Small s'.heap) :
    HG s'.heap ∧ plainGlob s'.acc = true := by
  obtain ⟨argc, hcA, _, hcase⟩ := varArg_effect hx
  have ab := sd.enter (.inr hop) argc hcA
  rcases hcase with ⟨v, h1, a', h2, n', h3, pp, st, _, _, hcV, e1, e2, e3, _, rfl⟩ |
    ⟨req, c1, c2, h1, n', h2, lst, st4, _, _, _, e1, hcol, rfl⟩
  · have sm2 := sm.of_le (putV_sz e3)
    have sm1 := sm2.of_le (putV_sz e2)
    have pv := ab _ _ (by omega) (by omega) hcV
    have rv := roots_stack g.roots (by omega) hcV
    obtain ⟨g1, m1, _, e, nfa⟩ := putV_ok g.hg rv (plainGlob_plainVal pv) e1 sm1
    cases e
    obtain ⟨g2, m2, _, e, nfn⟩ := putV_ok g1 (.of_addrFree _ rfl) rfl e2 sm2
    cases e
    obtain ⟨g3, _, _⟩ := putV_ok g2 (pair_refs (nfa.mono m2) nfn) rfl e3 sm
    exact ⟨g3, g.accv⟩
  · have sm1 := sm.of_le (varargCollect_size _ hcol)
    obtain ⟨g1, m1, _, e, nfn⟩ := putV_ok g.hg (.of_addrFree _ rfl) rfl e1 sm1
    cases e
    refine ⟨varargCollect_hg _ hcol g1 nfn ?_ sm, g.accv⟩
    intro i w hi hlt hw
    have hi' : i ≤ s0.stack.sp - 3 := hi
    have hlt' : s0.stack.sp - 3 < i + (argc - req) := hlt
    have hw' : s0.stack.cells[i]? = some w := hw
    exact ⟨ab i w (by omega) (by omega) hw', (roots_stack g.roots (by omega) hw').mono m1⟩

end

end Marwood.Lemmas.Good
