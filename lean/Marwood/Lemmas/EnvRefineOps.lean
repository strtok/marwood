import Marwood.Lemmas.EnvRefineRel
/-!
# T02.4, part 3b: the simulation relation is kept by reads, assignments and definitions
-/
namespace Marwood.Vm.EnvRefine
open Marwood Marwood.Scope Marwood.Vm.Env Marwood.Spec.Scope

theorem getElem?_lt {α : Type} {a : Array α} {i : Nat} {v : α} (h : a[i]? = some v) : i < a.size := by
  rcases Nat.lt_or_ge i a.size with h1 | h1
  · exact h1
  · simp [Array.getElem?_eq_none h1] at h

theorem find?_setGlobal_ne (gl : List (Name × MVal)) (x y : Name) (v : MVal) (hne : y ≠ x) :
    ((x, v) :: gl.filter (·.1 != x)).find? (·.1 == y) = gl.find? (·.1 == y) := by
  have hxy : (x == y) = false := by simp [Ne.symm hne]
  simp only [List.find?_cons, hxy]
  induction gl with
  | nil => rfl
  | cons p gl ih =>
    by_cases hp : p.1 = x
    · have h1 : (p.1 != x) = false := by simp [hp]
      have h2 : (p.1 == y) = false := by simp [hp, Ne.symm hne]
      simp [h1, h2, ih]
    · have h1 : (p.1 != x) = true := by simp [hp]
      simp only [List.filter_cons, h1, if_true, List.find?_cons, ih]

theorem find?_setGlobal_eq (gl : List (Name × MVal)) (x : Name) (v : MVal) :
    ((x, v) :: gl.filter (·.1 != x)).find? (·.1 == x) = some (x, v) := by
  simp

theorem StRel.evolve {β : LocMap} {s : SSt} {t : MSt} (r : StRel β s t) (h' : Envs MVal)
    (hev : Evolves t.envs h') (hone : OneLevel h')
    (hkeep : ∀ l e i, β l = some (e, i) → ∀ arr g, t.envs.envs[e]? = some arr → arr[i]? = some g →
      ∃ arr', h'.envs[e]? = some arr' ∧ arr'[i]? = some g) :
    StRel β s { t with envs := h' } := by
  have e : Ext β t.envs β h' := ⟨fun _ _ hp => hp, hev⟩
  refine ⟨r.counter, r.log.mono e, ⟨?_, r.glob.free, r.glob.inj⟩, ⟨?_, r.heap.inj⟩, hone⟩
  · intro x l hl
    obtain ⟨h1, sv, mv, h2, h3, h4⟩ := r.glob.bound x l hl
    exact ⟨h1, sv, mv, h2, h3, h4.mono e⟩
  · intro l e' i hb
    obtain ⟨sv, arr, g, h1, h2, h3, h4⟩ := r.heap.slot l e' i hb
    obtain ⟨arr', h5, h6⟩ := hkeep l e' i hb arr g h2 h3
    exact ⟨sv, arr', g, h1, h5, h6, h4.mono e⟩

/-- CLOSURE: a new environment, nothing else touched -/
theorem StRel.push {β : LocMap} {s : SSt} {t : MSt} (r : StRel β s t) (arr : Array (Slot MVal))
    (hone : OneLevel (t.envs.push arr).1) : StRel β s { t with envs := (t.envs.push arr).1 } :=
  r.evolve _ (Evolves.push _ _) hone fun _ _ _ _ a g ha hg => ⟨a, push_get_old _ _ _ _ ha, hg⟩

/-- orphan locations (allocated by a failing `bindParams`) are harmless -/
theorem StRel.orphans {β : LocMap} {s : SSt} {t : MSt} (r : StRel β s t) (extra : Array SVal) :
    StRel β { s with store := s.store ++ extra } t := by
  have old : ∀ (l : Nat) (sv : SVal), s.store[l]? = some sv → (s.store ++ extra)[l]? = some sv := by
    intro l sv hl
    have := getElem?_lt hl
    rw [Array.getElem?_append_left this]; exact hl
  refine ⟨r.counter, r.log, ⟨?_, r.glob.free, r.glob.inj⟩, ⟨?_, r.heap.inj⟩, r.one⟩
  · intro x l hl
    obtain ⟨h1, sv, mv, h2, h3, h4⟩ := r.glob.bound x l hl
    exact ⟨h1, sv, mv, old _ _ h2, h3, h4⟩
  · intro l e i hb
    obtain ⟨sv, arr, g, h1, h2, h3, h4⟩ := r.heap.slot l e i hb
    exact ⟨sv, arr, g, old _ _ h1, h2, h3, h4⟩

theorem StRel.logCons {β : LocMap} {s : SSt} {t : MSt} (r : StRel β s t) (ev : Event) (v' : MVal)
    (hv : VRel β t.envs ev.val v') :
    StRel β { s with log := ev :: s.log } { t with log := (ev.site, v') :: t.log } :=
  ⟨r.counter, .cons ⟨rfl, hv⟩ r.log, ⟨r.glob.bound, r.glob.free, r.glob.inj⟩, r.heap, r.one⟩

theorem StRel.tick {β : LocMap} {s : SSt} {t : MSt} (r : StRel β s t) :
    StRel β { s with counter := s.counter + 1 } { t with counter := t.counter + 1 } :=
  ⟨by simp [r.counter], r.log, ⟨r.glob.bound, r.glob.free, r.glob.inj⟩, r.heap, r.one⟩

theorem ActRel.locate {β : LocMap} {h : Envs MVal} {N ctx ep ρ acts} (a : ActRel β h N ctx ep ρ acts) (x : Name)
    (hN : N x) (gl : Frame) (l : Loc) (hl : resolve x ρ = some l ∨ (resolve x ρ = none ∧ gl.find? x = some l)) :
    (∃ s ae e i, Env.bindingLocation ctx x = .env s ∧ ep = some ae ∧ target h ae s = .ok (e, i) ∧ β l = some (e, i)) ∨
    (Env.bindingLocation ctx x = .global ∧ gl.find? x = some l) := by
  rcases a.bindingLocation x hN with ⟨l', sl, ae, e, i, hr, hb, hep, ht, hβ⟩ | ⟨hr, hb⟩
  · rw [hr] at hl
    obtain rfl : l' = l := by
      rcases hl with h | ⟨h, _⟩ <;> cases h
      rfl
    exact .inl ⟨sl, ae, e, i, hb, hep, ht, hβ⟩
  · rw [hr] at hl
    rcases hl with h | ⟨_, h⟩
    · cases h
    · exact .inr ⟨hb, h⟩

open Marwood.Vm.EnvRun in
theorem sim_read {β : LocMap} {s : SSt} {t : MSt} {N ctx ep ρ acts} (r : StRel β s t)
    (a : ActRel β t.envs N ctx ep ρ acts) (x : Name) (hN : N x) (l : Loc) (sv : SVal)
    (hl : resolve x ρ = some l ∨ (resolve x ρ = none ∧ s.globals.find? x = some l))
    (hs : s.store[l]? = some sv) (hv : sv ≠ .undef) :
    ∃ mv, exec (readVar ctx ep x) t = (.ok mv, t) ∧ VRel β t.envs sv mv := by
  rcases a.locate x hN s.globals l hl with ⟨sl, ae, e, i, hb, hep, ht, hβ⟩ | ⟨hb, hg⟩
  · obtain ⟨sv', arr, g, h1, h2, h3, h4⟩ := r.heap.slot l e i hβ
    rw [hs] at h1
    cases h1
    rcases h4.2 with h5 | ⟨mv, rfl, hrel⟩
    · exact absurd h5 hv
    · refine ⟨mv, ?_, hrel⟩
      subst hep
      have hload := load_of_target t.envs ae sl e i arr _ ht h2 h3
      simp [readVar, hb, exec_bind, hload, liftFault]
  · obtain ⟨_, sv', mv, h2, h3, h4⟩ := r.glob.bound x l hg
    rw [hs] at h2
    cases h2
    refine ⟨mv, ?_, h4⟩
    have hne := h4.ne_undef'
    simp only [readVar, hb, exec_bind, exec_get, h3]
    cases mv <;> simp_all

open Marwood.Vm.EnvRun in
/-- In a frame: `β` is injective, so every other mapped location stands for another slot, which the write leaves
    alone, and a global's location is not mapped. Among the globals: `β l = none`, so no mapped slot is touched, and
    two globals never share a location. -/
theorem sim_write {β : LocMap} {s : SSt} {t : MSt} {N ctx ep ρ acts} (r : StRel β s t)
    (a : ActRel β t.envs N ctx ep ρ acts) (x : Name) (hN : N x) (l : Loc) (sv : SVal) (mv : MVal)
    (hl : resolve x ρ = some l ∨ (resolve x ρ = none ∧ s.globals.find? x = some l))
    (hv : VRel β t.envs sv mv) :
    ∃ t', exec (writeVar ctx ep x mv) t = (.ok ⟨⟩, t') ∧ Ext β t.envs β t'.envs ∧
      StRel β { s with store := s.store.setIfInBounds l sv } t' := by
  rcases a.locate x hN s.globals l hl with ⟨sl, ae, e, i, hb, rfl, ht, hβ⟩ | ⟨hb, hg⟩
  · obtain ⟨sv0, arr, g, h1, h2, h3, h4⟩ := r.heap.slot l e i hβ
    have hi := getElem?_lt h3
    have hst : store t.envs ae sl mv = .ok ⟨t.envs.envs.setIfInBounds e (arr.setIfInBounds i (.val mv))⟩ :=
      store_ok.mpr ⟨e, i, arr, ht, h2, hi, rfl⟩
    have hev := store_evolves_of_oneLevel _ _ r.one ae sl mv hst
    have hone := store_oneLevel _ _ r.one ae sl mv hst
    have ext : Ext β t.envs β ⟨t.envs.envs.setIfInBounds e (arr.setIfInBounds i (.val mv))⟩ :=
      ⟨fun _ _ hp => hp, hev⟩
    have helt := getElem?_lt h2
    have hllt := getElem?_lt h1
    refine ⟨{ t with envs := ⟨t.envs.envs.setIfInBounds e (arr.setIfInBounds i (.val mv))⟩ }, ?_, ext, ?_⟩
    · simp [writeVar, hb, exec_bind, hst, liftFault]
    · refine ⟨r.counter, r.log.mono ext, ⟨?_, r.glob.free, r.glob.inj⟩, ⟨?_, r.heap.inj⟩, hone⟩
      · intro y ly hy
        obtain ⟨g1, svy, mvy, g2, g3, g4⟩ := r.glob.bound y ly hy
        have hne : l ≠ ly := fun hh => by subst hh; rw [hβ] at g1; cases g1
        exact ⟨g1, svy, mvy, by simp [hne, g2], g3, g4.mono ext⟩
      · intro l2 e2 i2 hb2
        by_cases hll : l2 = l
        · subst hll
          rw [hβ] at hb2
          cases hb2
          exact ⟨sv, arr.setIfInBounds i (.val mv), .val mv,
            by simp [hllt],
            by simp [helt],
            by simp [hi],
            rfl, Or.inr ⟨mv, rfl, hv.mono ext⟩⟩
        · obtain ⟨sv2, arr2, g2, k1, k2, k3, k4⟩ := r.heap.slot l2 e2 i2 hb2
          have hpne : (e2, i2) ≠ (e, i) := fun hh => hll (r.heap.inj l2 l (e, i) (hh ▸ hb2) hβ)
          have hl2 : l ≠ l2 := fun hh => hll hh.symm
          refine ⟨sv2, ?_⟩
          by_cases hee : e = e2
          · subst hee
            rw [h2] at k2
            cases k2
            have hii : i ≠ i2 := fun hh => hpne (by rw [hh])
            exact ⟨arr.setIfInBounds i (.val mv), g2,
              by simp [hl2, k1],
              by simp [helt],
              by simp [hii, k3], k4.mono ext⟩
          · exact ⟨arr2, g2, by simp [hl2, k1],
              by simp [hee, k2], k3, k4.mono ext⟩
  · obtain ⟨g1, sv0, mv0, g2, g3, g4⟩ := r.glob.bound x l hg
    have hllt := getElem?_lt g2
    refine ⟨{ t with globals := (x, mv) :: t.globals.filter (·.1 != x) }, ?_, Ext.refl _ _, ?_⟩
    · simp [writeVar, hb, exec_setGlobal]
    · refine ⟨r.counter, r.log, ⟨?_, ?_, r.glob.inj⟩, ⟨?_, r.heap.inj⟩, r.one⟩
      · intro y ly hy
        by_cases hyx : y = x
        · subst hyx
          rw [hg] at hy
          cases hy
          exact ⟨g1, sv, mv, by simp [hllt], find?_setGlobal_eq _ _ _, hv⟩
        · obtain ⟨k1, svy, mvy, k2, k3, k4⟩ := r.glob.bound y ly hy
          have hne : l ≠ ly := fun hh => hyx (r.glob.inj y x l (hh ▸ hy) hg)
          exact ⟨k1, svy, mvy, by simp [hne, k2],
            by rw [find?_setGlobal_ne _ _ _ _ hyx]; exact k3, k4⟩
      · intro y hy
        have hyx : y ≠ x := fun hh => by subst hh; rw [hg] at hy; cases hy
        show List.find? _ ((x, mv) :: t.globals.filter (·.1 != x)) = none
        rw [find?_setGlobal_ne _ _ _ _ hyx]
        exact r.glob.free y hy
      · intro l2 e2 i2 hb2
        obtain ⟨sv2, arr2, g2', k1, k2, k3, k4⟩ := r.heap.slot l2 e2 i2 hb2
        have hne : l ≠ l2 := fun hh => by subst hh; rw [g1] at hb2; cases hb2
        exact ⟨sv2, arr2, g2', by simp [hne, k1], k2, k3, k4⟩

theorem Frame.find?_cons_ne (x y : Name) (l : Loc) (fr : Frame) (h : y ≠ x) :
    Frame.find? y ((x, l) :: fr) = Frame.find? y fr := by
  simp [Frame.find?, Ne.symm h]

/-- `(define x e)` at top level when `x` is not yet defined -/
theorem sim_define_fresh {β : LocMap} {s : SSt} {t : MSt} (r : StRel β s t) (x : Name) (sv : SVal) (mv : MVal)
    (hg : s.globals.find? x = none) (hv : VRel β t.envs sv mv) :
    StRel β { s with store := s.store.push sv, globals := (x, s.store.size) :: s.globals }
      { t with globals := (x, mv) :: t.globals.filter (·.1 != x) } := by
  have old : ∀ (l : Nat) (v : SVal), s.store[l]? = some v → (s.store.push sv)[l]? = some v := by
    intro l v hl
    have := getElem?_lt hl
    simp [Array.getElem?_push, Nat.ne_of_lt this, hl]
  have hβ : β s.store.size = none := by
    cases hb : β s.store.size with
    | none => rfl
    | some p =>
      obtain ⟨sv', _, _, h1, _⟩ := r.heap.slot _ p.1 p.2 hb
      have := getElem?_lt h1
      omega
  refine ⟨r.counter, r.log, ⟨?_, ?_, ?_⟩, ⟨?_, r.heap.inj⟩, r.one⟩
  · intro y ly hy
    by_cases hyx : y = x
    · subst hyx
      simp only [Frame.find?, if_true, Option.some.injEq] at hy
      subst hy
      exact ⟨hβ, sv, mv, by simp, find?_setGlobal_eq _ _ _, hv⟩
    · rw [Frame.find?_cons_ne _ _ _ _ hyx] at hy
      obtain ⟨k1, svy, mvy, k2, k3, k4⟩ := r.glob.bound y ly hy
      exact ⟨k1, svy, mvy, old _ _ k2, by rw [find?_setGlobal_ne _ _ _ _ hyx]; exact k3, k4⟩
  · intro y hy
    have hyx : y ≠ x := fun hh => by subst hh; simp [Frame.find?] at hy
    rw [Frame.find?_cons_ne _ _ _ _ hyx] at hy
    show List.find? _ ((x, mv) :: t.globals.filter (·.1 != x)) = none
    rw [find?_setGlobal_ne _ _ _ _ hyx]
    exact r.glob.free y hy
  · intro y z l hy hz
    have key : ∀ w lw, Frame.find? w s.globals = some lw → lw < s.store.size := by
      intro w lw hw
      obtain ⟨_, svw, _, k2, _⟩ := r.glob.bound w lw hw
      exact getElem?_lt k2
    by_cases hyx : y = x <;> by_cases hzx : z = x
    · rw [hyx, hzx]
    · subst hyx
      simp only [Frame.find?, if_true, Option.some.injEq] at hy
      rw [Frame.find?_cons_ne _ _ _ _ hzx] at hz
      have := key z l hz
      subst hy
      exact absurd this (Nat.lt_irrefl _)
    · subst hzx
      simp only [Frame.find?, if_true, Option.some.injEq] at hz
      rw [Frame.find?_cons_ne _ _ _ _ hyx] at hy
      have := key y l hy
      subst hz
      exact absurd this (Nat.lt_irrefl _)
    · rw [Frame.find?_cons_ne _ _ _ _ hyx] at hy
      rw [Frame.find?_cons_ne _ _ _ _ hzx] at hz
      exact r.glob.inj y z l hy hz
  · intro l2 e2 i2 hb2
    obtain ⟨sv2, arr2, g2, k1, k2, k3, k4⟩ := r.heap.slot l2 e2 i2 hb2
    exact ⟨sv2, arr2, g2, old _ _ k1, k2, k3, k4⟩

end Marwood.Vm.EnvRefine
