import Marwood.Lex
/-!
# Span discipline of the scanner (C11, C20)

`Lexed pos text tokens`: the text is gap, token body, gap, …; a token's offsets are byte lengths of
prefixes (hence on character boundaries), gaps are whitespace and `;` comments. `Piece.Good` is what
every outcome of the dispatch satisfies: where the piece lies and, for a token, how it is spelled.
Entry points: `scanPiece_good` (read through `scanPiece_tok` / `scanPiece_skip`), `scan_fuel` / `scan_of_fuel`,
`scan_lexed`; `mono_of_succ` turns "one more unit of fuel changes nothing" into monotonicity for any fuelled function.
-/
namespace Marwood

theorem spanWhile_split (p : Char → Bool) (cs : Text) :
    (spanWhile p cs).1 ++ (spanWhile p cs).2 = cs := by
  induction cs with
  | nil => simp [spanWhile]
  | cons c cs ih => simp only [spanWhile]; split <;> simp_all

theorem takeComment_split (cs : Text) : (takeComment cs).1 ++ (takeComment cs).2 = cs := by
  induction cs with
  | nil => simp [takeComment]
  | cons c cs ih => simp only [takeComment]; split <;> simp_all

theorem takeComment_body (cs : Text) : ∀ x ∈ (takeComment cs).1.dropLast, x ≠ '\n' := by
  induction cs with
  | nil => simp [takeComment]
  | cons c cs ih =>
    simp only [takeComment]; split
    · simp
    · rename_i h
      intro x hx
      cases hA : (takeComment cs).1 with
      | nil => simp [hA] at hx
      | cons a as =>
        simp [hA, List.dropLast] at hx
        rcases hx with rfl | hx
        · simpa using h
        · exact ih x (by simpa [hA, List.dropLast] using hx)

theorem numberTail_split (m d k : Bool) (cs : Text) :
    (numberTail m d k cs).1 ++ (numberTail m d k cs).2.1 = cs := by
  induction cs generalizing m d k with
  | nil => simp [numberTail]
  | cons c cs ih =>
    simp only [numberTail]
    split
    · simp [ih]
    · split
      · simp [ih]
      · simp

theorem dotNumberTail_split (m d k : Bool) (cs : Text) :
    (dotNumberTail m d k cs).1 ++ (dotNumberTail m d k cs).2.1 = cs := by
  induction cs generalizing m d k with
  | nil => simp [dotNumberTail]
  | cons c cs ih =>
    simp only [dotNumberTail]
    split
    · simp [dotSymbolTail, spanWhile_split]
    · split
      · simp [ih]
      · simp

theorem stringTail_split : ∀ (cs : Text) (esc : Bool) (a r : Text),
    stringTail esc cs = some (a, r) → a ++ r = cs ∧ ∃ inner, a = inner ++ ['"'] := by
  intro cs
  induction cs with
  | nil => intro esc a r h; simp [stringTail] at h
  | cons c cs ih =>
    intro esc a r h
    simp only [stringTail] at h
    split at h
    · rename_i hc
      cases h
      have : c = '"' := by
        simp only [Bool.and_eq_true, beq_iff_eq] at hc; exact hc.1
      exact ⟨rfl, [], by simp [this]⟩
    · split at h
      · rename_i a' r' hr
        cases h
        obtain ⟨hs, inner, hi⟩ := ih _ _ _ hr
        exact ⟨by simp [hs], c :: inner, by simp [hi]⟩
      · cases h

theorem charTail_split (cs a r : Text) (h : charTail cs = some (a, r)) : a ++ r = cs ∧ a ≠ [] := by
  cases cs with
  | nil => simp [charTail] at h
  | cons c cs =>
    simp only [charTail] at h
    split at h
    · cases h; simp
    · cases h; simp [spanWhile_split]

-- `dropLast`: a comment's newline is its last character; at the end of the text there is none.
-- Nothing makes a piece without newline the last one: not every `Lexed` text is the scanner's.
/-- a piece of text that may separate tokens -/
inductive GapPiece : Text → Prop
  | ws (c : Char) : isWhitespaceL1 c = true → GapPiece [c]
  | comment (b : Text) : (∀ x ∈ b.dropLast, x ≠ '\n') → GapPiece (';' :: b)

inductive Gap : Text → Prop
  | nil : Gap []
  | cons {a cs} : GapPiece a → Gap cs → Gap (a ++ cs)

namespace ParseText

def isPrefixLetter (d : Char) : Prop :=
  d = 'e' ∨ d = 'i' ∨ d = 'b' ∨ d = 'o' ∨ d = 'd' ∨ d = 'x'

/-- what the parser's slicing and unwrapping relies on, by token type: a character token is
    spelled `#\…`, a string token `"…"` (two distinct quote characters), a number prefix `#` and one
    of the six letters -/
def BodyOK (ty : TokType) (b : Text) : Prop :=
  (ty = .char → ∃ r, b = '#' :: '\\' :: r) ∧
  (ty = .string → ∃ inner, b = '"' :: (inner ++ ['"'])) ∧
  (ty = .numberPrefix → ∃ d, b = ['#', d] ∧ isPrefixLetter d)

end ParseText

/-- what every outcome of `scanPiece` satisfies -/
def Piece.Good (c : Char) (cs : Text) : Piece → Prop
  | .tok a ty r => a ++ r = c :: cs ∧ a ≠ [] ∧ ParseText.BodyOK ty a
  | .skip a r => a ++ r = c :: cs ∧ GapPiece a
  | .fail _ => True

theorem scanHash_cases (c d : Char) (ds : Text) :
    (∃ ty ∈ [TokType.true_, .false_, .hashParen], scanHash c (d :: ds) = .tok [c, d] ty ds) ∨
    ((d == 'e' || d == 'i' || d == 'b' || d == 'o' || d == 'd' || d == 'x') = true ∧
      scanHash c (d :: ds) = .tok [c, d] .numberPrefix ds) ∨
    (∃ a r, d = '\\' ∧ charTail ds = some (a, r) ∧ scanHash c (d :: ds) = .tok (c :: d :: a) .char r) ∨
    (∃ e, scanHash c (d :: ds) = .fail e) := by
  unfold scanHash
  dsimp only
  by_cases h : (d == 't') = true
  · exact .inl ⟨_, by simp, if_pos h⟩
  rw [if_neg h]
  by_cases h : (d == 'f') = true
  · exact .inl ⟨_, by simp, if_pos h⟩
  rw [if_neg h]
  by_cases h : (d == '(') = true
  · exact .inl ⟨_, by simp, if_pos h⟩
  rw [if_neg h]
  by_cases h : (d == 'e' || d == 'i' || d == 'b' || d == 'o' || d == 'd' || d == 'x') = true
  · exact .inr (.inl ⟨h, if_pos h⟩)
  rw [if_neg h]
  by_cases h : (d == '\\') = true
  · rw [if_pos h]
    cases ht : charTail ds with
    | none => exact .inr (.inr (.inr ⟨_, rfl⟩))
    | some ar => exact .inr (.inr (.inl ⟨ar.1, ar.2, beq_iff_eq.mp h, rfl, rfl⟩))
  · exact .inr (.inr (.inr ⟨_, if_neg h⟩))

theorem scanHash_good (cs : Text) : (scanHash '#' cs).Good '#' cs := by
  cases cs with
  | nil => trivial
  | cons d ds =>
    rcases scanHash_cases '#' d ds with ⟨ty, hty, h⟩ | ⟨hd, h⟩ | ⟨a, r, rfl, ht, h⟩ | ⟨e, h⟩ <;> rw [h]
    · simp only [List.mem_cons, List.not_mem_nil, or_false] at hty
      rcases hty with rfl | rfl | rfl <;> simp [Piece.Good, ParseText.BodyOK]
    · exact ⟨rfl, by simp, by simpa [ParseText.BodyOK, ParseText.isPrefixLetter, or_assoc] using hd⟩
    · simp [Piece.Good, ParseText.BodyOK, (charTail_split _ _ _ ht).1]
    · trivial

theorem scanDot_good (c : Char) (cs : Text) : (scanDot c cs).Good c cs := by
  unfold scanDot
  repeat' split
  all_goals simp [Piece.Good, ParseText.BodyOK, spanWhile_split, dotSymbolTail, dotNumberTail_split]
  -- left: the arm whose type is `symbol` or `number` by the flag of `dotNumberTail`
  split <;> simp

theorem scanString_good (cs : Text) : (scanString '"' cs).Good '"' cs := by
  unfold scanString
  split
  · trivial
  · rename_i hr
    obtain ⟨hs, inner, rfl⟩ := stringTail_split _ _ _ _ hr
    simp [Piece.Good, ParseText.BodyOK, ← hs]

theorem scanOther_cases (c : Char) (cs : Text) :
    (∃ a r, scanOther c cs = .tok (c :: a) .symbol r ∧ a ++ r = cs) ∨
    (∃ a r, scanOther c cs = .tok (c :: a) .number r ∧ a ++ r = cs) ∨
    (c = ';' ∧ scanOther c cs = .skip (c :: (takeComment cs).1) (takeComment cs).2) ∨
    (isWhitespaceL1 c = true ∧ scanOther c cs = .skip [c] cs) ∨
    (∃ e, scanOther c cs = .fail e) := by
  unfold scanOther
  by_cases h : isInitialIdentifier c = true
  · exact .inl ⟨_, _, if_pos h, spanWhile_split _ cs⟩
  rw [if_neg h]
  by_cases h : isInitialNumber c = true
  · rw [if_pos h]
    dsimp only
    have hs := numberTail_split true (isAsciiDigit c) false cs
    cases (numberTail true (isAsciiDigit c) false cs).2.2
    · exact .inr (.inl ⟨_, _, rfl, hs⟩)
    · exact .inl ⟨_, _, rfl, hs⟩
  rw [if_neg h]
  by_cases h : (c == ';') = true
  · exact .inr (.inr (.inl ⟨beq_iff_eq.mp h, if_pos h⟩))
  rw [if_neg h]
  by_cases h : isWhitespaceL1 c = true
  · exact .inr (.inr (.inr (.inl ⟨h, if_pos h⟩)))
  · exact .inr (.inr (.inr (.inr ⟨_, if_neg h⟩)))

theorem scanOther_good (c : Char) (cs : Text) : (scanOther c cs).Good c cs := by
  rcases scanOther_cases c cs with ⟨a, r, h, hs⟩ | ⟨a, r, h, hs⟩ | ⟨rfl, h⟩ | ⟨hws, h⟩ | ⟨e, h⟩ <;> rw [h]
  · simp [Piece.Good, ParseText.BodyOK, hs]
  · simp [Piece.Good, ParseText.BodyOK, hs]
  · exact ⟨by simp [takeComment_split], .comment _ (takeComment_body cs)⟩
  · exact ⟨by simp, .ws c hws⟩
  · trivial

theorem scanPiece_cases (c : Char) (cs : Text) :
    (∃ ty ∈ [TokType.leftParen, .rightParen, .singleQuote, .quasiquote, .unquote],
      scanPiece c cs = .tok [c] ty cs) ∨
    (c = '#' ∧ scanPiece c cs = scanHash c cs) ∨
    scanPiece c cs = scanDot c cs ∨
    (c = '"' ∧ scanPiece c cs = scanString c cs) ∨
    scanPiece c cs = scanOther c cs := by
  unfold scanPiece
  by_cases h : isOpenChar c = true
  · exact .inl ⟨_, by simp, if_pos h⟩
  rw [if_neg h]
  by_cases h : isCloseChar c = true
  · exact .inl ⟨_, by simp, if_pos h⟩
  rw [if_neg h]
  by_cases h : (c == '\'') = true
  · exact .inl ⟨_, by simp, if_pos h⟩
  rw [if_neg h]
  by_cases h : (c == '`') = true
  · exact .inl ⟨_, by simp, if_pos h⟩
  rw [if_neg h]
  by_cases h : (c == ',') = true
  · exact .inl ⟨_, by simp, if_pos h⟩
  rw [if_neg h]
  by_cases h : (c == '#') = true
  · exact .inr (.inl ⟨beq_iff_eq.mp h, if_pos h⟩)
  rw [if_neg h]
  by_cases h : (c == '.') = true
  · exact .inr (.inr (.inl (if_pos h)))
  rw [if_neg h]
  by_cases h : (c == '"') = true
  · exact .inr (.inr (.inr (.inl ⟨beq_iff_eq.mp h, if_pos h⟩)))
  · exact .inr (.inr (.inr (.inr (if_neg h))))

theorem scanPiece_good (c : Char) (cs : Text) : (scanPiece c cs).Good c cs := by
  rcases scanPiece_cases c cs with ⟨ty, hty, h⟩ | ⟨rfl, h⟩ | h | ⟨rfl, h⟩ | h <;> rw [h]
  · simp only [List.mem_cons, List.not_mem_nil, or_false] at hty
    rcases hty with rfl | rfl | rfl | rfl | rfl <;> simp [Piece.Good, ParseText.BodyOK]
  · exact scanHash_good cs
  · exact scanDot_good c cs
  · exact scanString_good cs
  · exact scanOther_good c cs

theorem scanPiece_tok {c : Char} {cs a r : Text} {ty : TokType}
    (h : scanPiece c cs = .tok a ty r) : a ++ r = c :: cs ∧ a ≠ [] := by
  have := scanPiece_good c cs; rw [h] at this; exact ⟨this.1, this.2.1⟩

theorem scanPiece_skip {c : Char} {cs a r : Text}
    (h : scanPiece c cs = .skip a r) : a ++ r = c :: cs ∧ GapPiece a := by
  have := scanPiece_good c cs; rw [h] at this; exact this

theorem GapPiece.ne_nil {a : Text} (h : GapPiece a) : a ≠ [] := by
  cases h <;> simp

-- `pos`: the byte offset of the head of the text
inductive Lexed : Nat → Text → List Token → Prop
  | done {pos cs} : Gap cs → Lexed pos cs []
  | tok {pos g body rest t ts} : Gap g → body ≠ [] →
      t.lo = pos + byteLen g → t.hi = t.lo + byteLen body →
      Lexed t.hi rest ts → Lexed pos (g ++ body ++ rest) (t :: ts)

theorem Lexed.prepend_gap {pos a cs ts} (ha : GapPiece a)
    (h : Lexed (pos + byteLen a) cs ts) : Lexed pos (a ++ cs) ts := by
  cases h with
  | done hg => exact .done (.cons ha hg)
  | tok hg hb hlo hhi hrest =>
    rename_i g body rest t ts
    have : a ++ (g ++ body ++ rest) = (a ++ g) ++ body ++ rest := by simp
    rw [this]
    refine .tok (.cons ha hg) hb ?_ hhi hrest
    rw [hlo, byteLen_append]; omega

theorem scanFuel_lexed : ∀ (f pos : Nat) (cs : Text) (ts : List Token),
    scanFuel f pos cs = some (.ok ts) → Lexed pos cs ts := by
  intro f
  induction f with
  | zero => intro pos cs ts h; simp [scanFuel] at h
  | succ f ih =>
    intro pos cs ts h
    cases cs with
    | nil => simp [scanFuel] at h; subst h; exact .done .nil
    | cons c cs =>
      simp only [scanFuel] at h
      split at h
      · cases h
      · rename_i a r hp
        have ⟨hs, hg⟩ := scanPiece_skip hp
        rw [← hs]
        exact Lexed.prepend_gap hg (ih _ _ _ h)
      · rename_i a ty r hp
        have ⟨hs, hne⟩ := scanPiece_tok hp
        split at h
        · cases h
        · cases h
        · rename_i ts' hr
          cases h
          have := ih _ _ _ hr
          have e : c :: cs = [] ++ a ++ r := by simp [hs]
          rw [e]
          exact .tok .nil hne (by simp) (by simp) this

theorem scanFuel_total : ∀ (f pos : Nat) (cs : Text), cs.length < f → scanFuel f pos cs ≠ none := by
  intro f
  induction f with
  | zero => intro pos cs h; omega
  | succ f ih =>
    intro pos cs hlen
    cases cs with
    | nil => simp [scanFuel]
    | cons c cs =>
      simp only [scanFuel]
      split
      · simp
      · rename_i a r hp
        have ⟨hs, hg⟩ := scanPiece_skip hp
        have hne := hg.ne_nil
        apply ih
        have : (a ++ r).length = (c :: cs).length := by rw [hs]
        cases a with
        | nil => exact absurd rfl hne
        | cons x xs => simp at this hlen; omega
      · rename_i a ty r hp
        have ⟨hs, hne⟩ := scanPiece_tok hp
        have hr : scanFuel f (pos + byteLen a) r ≠ none := by
          apply ih
          have : (a ++ r).length = (c :: cs).length := by rw [hs]
          cases a with
          | nil => exact absurd rfl hne
          | cons x xs => simp at this hlen; omega
        split
        · rename_i h; exact absurd h hr
        · simp
        · simp

theorem scanFuel_succ : ∀ (f pos : Nat) (cs : Text) (r : Except LexErr (List Token)),
    scanFuel f pos cs = some r → scanFuel (f + 1) pos cs = some r := by
  intro f
  induction f with
  | zero => intro pos cs r h; simp [scanFuel] at h
  | succ f ih =>
    intro pos cs r h
    cases cs with
    | nil => simpa [scanFuel] using h
    | cons c cs =>
      rw [scanFuel] at h ⊢
      split
      · rename_i e he; simp only [he] at h; exact h
      · rename_i a r' he
        simp only [he] at h
        exact ih _ _ _ h
      · rename_i a ty r' he
        simp only [he] at h
        cases hr : scanFuel f (pos + byteLen a) r' with
        | none => simp [hr] at h
        | some x =>
          rw [ih _ _ _ hr]
          simp only [hr] at h
          exact h

theorem mono_of_succ {α : Type} {g : Nat → Option α} (hs : ∀ f r, g f = some r → g (f + 1) = some r)
    {f f' : Nat} (hle : f ≤ f') {r : α} (h : g f = some r) : g f' = some r := by
  induction hle with
  | refl => exact h
  | step _ ih => exact hs _ _ ih

theorem scanFuel_mono {f f' pos : Nat} {cs : Text} {r : Except LexErr (List Token)} (hle : f ≤ f')
    (h : scanFuel f pos cs = some r) : scanFuel f' pos cs = some r :=
  mono_of_succ (fun f r => scanFuel_succ f pos cs r) hle h

theorem scan_of_fuel {cs : Text} {f : Nat} {r : Except LexErr (List Token)}
    (hf : scanFuel f 0 cs = some r) : scan cs = r := by
  unfold scan scanFrom
  have htot := scanFuel_total (cs.length + 1) 0 cs (by omega)
  cases hp : scanFuel (cs.length + 1) 0 cs with
  | none => exact absurd hp htot
  | some r' =>
    simp only
    have h1 := scanFuel_mono (Nat.le_max_left f (cs.length + 1)) hf
    have h2 := scanFuel_mono (Nat.le_max_right f (cs.length + 1)) hp
    rw [h1] at h2
    exact (Option.some.inj h2).symm

theorem scan_fuel {cs : Text} {ts : List Token} (h : scan cs = .ok ts) :
    scanFuel (cs.length + 1) 0 cs = some (.ok ts) := by
  unfold scan scanFrom at h
  split at h
  · rename_i r hr; rw [hr, h]
  · cases h

theorem scan_lexed {cs : Text} {ts : List Token} (h : scan cs = .ok ts) : Lexed 0 cs ts :=
  scanFuel_lexed _ _ _ _ (scan_fuel h)

end Marwood
