import Marwood.Lemmas.NoPanicFacts
import Marwood.Lemmas.EnvFitStepA
import Marwood.Lemmas.EnvFitStepB2
import Marwood.Lemmas.EnvFitStepC
import Marwood.Lemmas.EnvFitGc
import Marwood.Lemmas.EnvTaintMain
/-!
# The slot clause of T06.6 as an invariant: `FInv` across `run_one`, all 16 opcodes

The verifier's typing of the current code object (`WFS.instr`) says which successor offsets are prologue offsets (`InPre`):
none, except after CALL / TCALL of a procedure and after VARARG.
-/
namespace Marwood.Lemmas.Good
open Marwood Marwood.Vm Marwood.Vm.Verify Marwood.Vm.Concrete Marwood.Lemmas.Sim
open Marwood.Heap (GcState)
open StepC

theorem tyOf_codeC {h : CHeap} {l : Nat} {t : LamTy} :
    tyOf (codeC h) l = some t ↔ ∃ lam, lambdaAt h l = some lam ∧ verifyLam lam.bc = some t := by
  unfold tyOf codeC
  cases hl : lambdaAt h l with
  | none => simp
  | some lam => simp

theorem inPre_of_ty {h : CHeap} {l o : Nat} {t : LamTy} (ht : tyOf (codeC h) l = some t) :
    InPre h l o ↔ (t.entry = false ∧ stateAt t.tm o = some .pre) := by
  obtain ⟨lam, hl, hv⟩ := tyOf_codeC.mp ht
  constructor
  · rintro ⟨lam', t', h1, h2, h3, h4⟩
    rw [hl] at h1; cases h1
    rw [hv] at h2; cases h2
    exact ⟨h3, h4⟩
  · rintro ⟨h3, h4⟩
    exact ⟨lam, t, hl, hv, h3, h4⟩

theorem not_inPre_of_st {h : CHeap} {l o : Nat} {t : LamTy} (ht : tyOf (codeC h) l = some t) {st : AState}
    (hst : stateAt t.tm o = some st) (hne : st ≠ .pre) : ¬ InPre h l o := by
  intro hp
  have := ((inPre_of_ty ht).mp hp).2
  rw [hst] at this
  exact hne (Option.some.inj this)

theorem not_inPre_of_flows {h : CHeap} {l k : Nat} {t : LamTy} (ht : tyOf (codeC h) l = some t) {x : List ACell}
    (hf : flowsTo x (stateAt t.tm k) = true) : ¬ InPre h l k := by
  intro hp
  have := ((inPre_of_ty ht).mp hp).2
  rw [this] at hf
  simp [flowsTo] at hf

theorem not_inPre_of_entry {h : CHeap} {l k : Nat} {t : LamTy} (ht : tyOf (codeC h) l = some t)
    (he : t.entry = true) : ¬ InPre h l k := by
  intro hp
  have := ((inPre_of_ty ht).mp hp).1
  rw [he] at this; cases this

theorem cont_not_inPre {h : CHeap} (ci : CInvG IsValue h) {p : Nat} {c : Cont} (hc : h.cells[p]? = some (.cont c)) :
    ¬ InPre h c.ipL c.ipO := by
  obtain ⟨K, hk⟩ := ci.cont p c hc
  rintro ⟨lam, t, h1, h2, h3, h4⟩
  exact hk.body t (tyOf_codeC.mpr ⟨lam, h1, h2⟩) h4

section
variable {ext : ExtOps} {ecl : ExtCodeLawsV ext}

theorem finv_step (eg : ExtGood ext) (ef : ExtFit ext) {s s' : St CHeap} {b : Bool} (h : VmOkP ext ecl s)
    (tv : Taint.TInv s) (f : FInv s) (hs : step (concreteOps ext) s = .ok (s', b)) (sm' : Small s'.heap) :
    FInv s' := by
  have hwfs : ∃ K, WFS (concreteLawsV ext ecl) s K := by
    rcases h.1.2 with hw | hh
    · exact hw
    · exact absurd hs (haltedAt_no_step hh _)
  obtain ⟨K, hw⟩ := hwfs
  have g : GoodI s := h.1.1
  have ci : CInvG IsValue s.heap := h.1.cinv
  have sd : StackDisc s := h.1.stackDisc
  have lf : LF s.heap := LF.of_cinv ci
  have ok : CalleeOk s := h.calleeOk
  rw [step_eq] at hs
  obtain ⟨⟨op, s1⟩, hro, hx⟩ := bind_inv hs
  have hro' : readOpcode (vops ext) s = .ok (op, s1) := by rw [← readOpcode_vops]; exact hro
  obtain ⟨rfl, hop⟩ := readOpcode_inv hro
  obtain ⟨ty, st, ai, _⟩ := hw.instr hro'
  have hty : tyOf (codeC s.heap) s.ipL = some ty := ai.ht
  have hst := ai.hst
  have chk := ai.chk
  simp only at hx
  -- `checkOp` is `false` in every abstract state but the one the opcode expects: there `cases chk` closes the goal,
  -- and in the expected state `chk` becomes that row of the typing rule
  cases op with
  | cons =>
    cases st <;> first | cases chk | simp only [checkOp] at chk
    rename_i x
    have hfit := f.fit (not_inPre_of_st hty hst nofun)
    rcases x with _ | ⟨c1, _ | ⟨c2, x⟩⟩ <;> simp only [Bool.and_eq_true] at chk <;>
      try (exact absurd chk Bool.false_ne_true)
    exact fv_cons g lf sd sm' f hfit (not_inPre_of_flows hty chk.2) hop hx
  | jmp =>
    cases st <;> first | cases chk | simp only [checkOp] at chk
    have hfit := f.fit (not_inPre_of_st hty hst nofun)
    refine fv_jmp g lf sm' f hfit ?_ hx
    intro l t hl hb
    obtain ⟨lam, hl', hv⟩ := tyOf_codeC.mp hty
    rw [hl] at hl'; cases hl'
    have hbc : ty.bc = l.bc := (verifyLam_spec hv).1
    rw [hbc, hb] at chk
    exact not_inPre_of_flows hty chk
  | jnt =>
    cases st <;> first | cases chk | simp only [checkOp] at chk
    have hfit := f.fit (not_inPre_of_st hty hst nofun)
    obtain ⟨lam, hl', hv⟩ := tyOf_codeC.mp hty
    have hbc : ty.bc = lam.bc := (verifyLam_spec hv).1
    cases hb : lam.bc[s.ipO + 1]? with
    | none => rw [hbc, hb] at chk; exact absurd chk Bool.false_ne_true
    | some w =>
      rw [hbc, hb] at chk
      cases w <;> simp only [Bool.and_eq_true] at chk <;> try (exact absurd chk Bool.false_ne_true)
      rename_i tgt
      refine fv_jnt g lf sm' f hfit ?_ (not_inPre_of_flows hty chk.2) hx
      intro l t hl hb2
      rw [hl] at hl'; cases hl'
      rw [hb] at hb2; cases hb2
      exact not_inPre_of_flows hty chk.1
  | mov =>
    cases st <;> first | cases chk | simp only [checkOp, Bool.and_eq_true] at chk
    have hfit := f.fit (not_inPre_of_st hty hst nofun)
    exact fv_mov g lf sd sm' f hfit (not_inPre_of_flows hty chk.2) hop hx
  | movImm =>
    cases st <;> first | cases chk | simp only [checkOp, Bool.and_eq_true] at chk
    have hfit := f.fit (not_inPre_of_st hty hst nofun)
    exact fv_movImm g lf sm' f hfit (not_inPre_of_flows hty chk.2) hop hx
  | push =>
    cases st <;> first | cases chk | simp only [checkOp] at chk
    have hfit := f.fit (not_inPre_of_st hty hst nofun)
    refine fv_push g lf sd sm' f hfit (not_inPre_of_flows hty chk) hop ?_ hx
    intro l off v hl hb h0 hv
    obtain ⟨lam, hl', hvf⟩ := tyOf_codeC.mp hty
    rw [hl] at hl'; cases hl'
    have hbc : ty.bc = l.bc := (verifyLam_spec hvf).1
    have := ai.bp_val (off := off) (by rw [hbc]; exact hb) h0
    have e : s.stack.cellAt ((s.bp : Int) + off).toNat = v := by unfold Stack.cellAt; rw [hv]; rfl
    rw [e] at this
    exact this
  | pushImm =>
    cases st <;> first | cases chk | simp only [checkOp] at chk
    have hfit := f.fit (not_inPre_of_st hty hst nofun)
    cases hb : ty.bc[s.ipO + 1]? with
    | none => rw [hb] at chk; exact absurd chk Bool.false_ne_true
    | some w =>
      rw [hb] at chk
      exact fv_pushImm g lf sm' f hfit (not_inPre_of_flows hty chk) hop hx
  | pushAcc =>
    cases st <;> first | cases chk | simp only [checkOp] at chk
    have hfit := f.fit (not_inPre_of_st hty hst nofun)
    exact fv_pushAcc g lf sm' f hfit (not_inPre_of_flows hty chk) hx
  | halt =>
    cases st <;> first | cases chk | simp only [checkOp, Bool.and_eq_true] at chk
    have hfit := f.fit (not_inPre_of_st hty hst nofun)
    exact fv_halt g lf sm' f hfit (not_inPre_of_entry hty chk.1.1) hx
  | vpushAcc =>
    cases st <;> first | cases chk | simp only [checkOp] at chk
    rename_i x
    have hfit := f.fit (not_inPre_of_st hty hst nofun)
    cases x <;> simp only at chk <;> try (exact absurd chk Bool.false_ne_true)
    exact fv_vpush eg ef g lf sm' f hfit (not_inPre_of_flows hty chk) hop hx
  | closureAcc =>
    cases st <;> first | cases chk | simp only [checkOp] at chk
    have hfit := f.fit (not_inPre_of_st hty hst nofun)
    exact fv_closure g lf sm' f hfit (not_inPre_of_flows hty chk) hx
  | callAcc =>
    cases st <;> first | cases chk | simp only [checkOp] at chk
    have hnpR := not_inPre_of_st hty hst nofun
    have hfit := f.fit hnpR
    refine fv_call eg ef g ci sd ok sm' f hfit hop hnpR (not_inPre_of_flows hty chk) ?_ hx
    intro c hc
    obtain ⟨p, _, hcell⟩ := callee_cont_cell hc
    exact cont_not_inPre ci hcell
  | tcallAcc =>
    cases st <;> first | cases chk | simp only [checkOp, Bool.and_eq_true] at chk
    have hnpR := not_inPre_of_st hty hst nofun
    have hfit := f.fit hnpR
    refine fv_tcall eg ef g ci sd ok sm' f hfit hop hnpR (not_inPre_of_flows hty chk.2) ?_ hx
    intro c hc
    obtain ⟨p, _, hcell⟩ := callee_cont_cell hc
    exact cont_not_inPre ci hcell
  | enter =>
    cases st <;> first | cases chk | simp only [checkOp, Bool.and_eq_true] at chk
    have hent : ty.entry = false := by simpa using chk.1
    have hpre : InPre s.heap s.ipL s.ipO := (inPre_of_ty hty).mpr ⟨hent, hst⟩
    refine fv_enter g lf sm' f hpre (not_inPre_of_flows hty chk.2) ?_ hx
    intro p lam hacc _ hl
    -- the instruction is ENTER, not CLOSURE: `acc` does not point to a capturing lambda
    rcases tv.acc_cases with hne | hsite
    · rw [hacc] at hne
      simp only [Taint.neE_ptr, Bool.not_eq_true'] at hne
      exact Taint.capAt_false_iff.mp hne lam hl
    · obtain ⟨l0, j, h1, h2, _, _, _, h6⟩ := Taint.atSiteB_inv hsite
      obtain ⟨l1, k1, k2⟩ := hop
      rw [h1] at k1; cases k1
      rw [h2] at k2
      rw [h6] at k2; cases k2
  | ret =>
    cases st <;> first | cases chk | simp only [checkOp] at chk
    have hent : ty.entry = false := by simpa using chk
    refine fv_ret g sd f hop ?_ hx
    intro e l o he hl
    have hfr := hw.wf.frames
    cases hfr with
    | @entry _ _ _ _ t1 st1 h1 h2 h3 h4 =>
      have e1 : t1 = ty := by
        have : tyOf (codeC s.heap) s.ipL = some t1 := h1
        rw [hty] at this; exact (Option.some.inj this).symm
      subst e1
      rw [h2] at hent; cases hent
    | @frame _ _ _ _ t1 st1 n ep' l' o' bp' K h1 h2 h3 h4 h5 h6 h7 h8 h9 hnd hav hnp h10 =>
      have k6 : s.stack.cellAt (s.bp + 2) = .envPtr ep' := h6
      have k7 : s.stack.cellAt (s.bp + 3) = .instrPtr l' o' := h7
      unfold Stack.cellAt at k6 k7
      rw [he] at k6; rw [hl] at k7
      simp only [Option.getD_some] at k6 k7
      cases k6; cases k7
      rintro ⟨lam, t, q1, q2, _, q4⟩
      exact hnp t (tyOf_codeC.mpr ⟨lam, q1, q2⟩) q4
    | @pre _ _ _ _ t1 n ep' l' o' K h1 h2 h3 h4 h5 h6 h7 hav hnp h8 =>
      have e1 : t1 = ty := by
        have : tyOf (codeC s.heap) s.ipL = some t1 := h1
        rw [hty] at this; exact (Option.some.inj this).symm
      subst e1
      rw [hst] at h3; cases h3
  | varArg =>
    cases st <;> first | cases chk | simp only [checkOp, Bool.and_eq_true, decide_eq_true_eq] at chk
    have hent : ty.entry = false := by simpa using chk.1
    have hpre : InPre s.heap s.ipL s.ipO := (inPre_of_ty hty).mpr ⟨hent, hst⟩
    have hpre' : InPre s.heap s.ipL (s.ipO + 1) := (inPre_of_ty hty).mpr ⟨hent, chk.2⟩
    exact fv_varArg g lf sd sm' f hpre hpre' hop hx

end

end Marwood.Lemmas.Good
