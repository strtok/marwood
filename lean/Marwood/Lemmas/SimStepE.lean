import Marwood.Lemmas.SimStepD
import Marwood.Lemmas.TCall
/-!
# Heap simulation, opcode lemmas: TCALL (builtins through `BuiltinLaw`)
-/
namespace Marwood.Lemmas.Sim
open Marwood Marwood.Vm Marwood.Vm.Concrete

theorem stepTCall_eq {H : Type} (ops : HeapOps H) (s : St H) :
    stepTCall ops s =
      match ops.callee s.heap s.acc with
      | .builtin id => runBuiltin ops id s
      | .continuation c => invokeCont s c
      | .other => .err .invalidProcedure
      | .closure lam _ => tcallTail s lam
      | .lambda => asPtr s.acc >>= tcallTail s := by
  unfold stepTCall
  cases ops.callee s.heap s.acc <;> rfl

section
variable (ext : ExtOps) {φ : Inj} {s t : St CHeap}

theorem tcallCopySame_rel {K : Nat} (bp : Nat) :
    ∀ (k it : Nat) {st st' : Stack}, StackRelK φ K st st' → st.sp ≤ K →
      ORel (fun a b => StackRelK φ K a b ∧ a.sp = st.sp) (tcallCopySame k it bp st) (tcallCopySame k it bp st') := by
  intro k
  induction k with
  | zero => intro it st st' h _; exact .ok ⟨h, rfl⟩
  | succ k ih =>
    intro it st st' h hk
    simp only [tcallCopySame]
    refine (h.getOffset hk (by omega)).bind ?_
    intro v v' hv
    refine (usub_rel bp it _).bind ?_
    intro i i' e
    subst e
    refine (h.set i hv).bind ?_
    rintro st1 st1' ⟨h1, hsp⟩
    refine (ih (it + 1) h1 (by omega)).imp ?_
    rintro a b ⟨h2, hsp2⟩
    exact ⟨h2, by omega⟩

theorem tcallCopyDiff_rel (savedSp : Nat) :
    ∀ (it : Nat) {K : Nat} {st st' : Stack}, StackRelK φ K st st' → st.sp ≤ K → savedSp ≤ K →
      ORel (fun a b => ∃ K', StackRelK φ K' a b ∧ a.sp ≤ K' ∧ savedSp ≤ K')
        (tcallCopyDiff it savedSp st) (tcallCopyDiff it savedSp st') := by
  intro it
  induction it with
  | zero => intro K st st' h hk hs; exact .ok ⟨K, h, hk, hs⟩
  | succ it ih =>
    intro K st st' h hk hs
    simp only [tcallCopyDiff]
    refine (usub_rel_le savedSp (it + 1) _).bind ?_
    rintro i i' ⟨e, hle⟩
    subst e
    refine (h.get (i := i) (by omega)).bind ?_
    intro v v' hv
    obtain ⟨hp, hsp⟩ := h.push hk hv
    exact ih hp (by omega) (by omega)

theorem pushK {K : Nat} {st st' : Stack} (h : StackRelK φ K st st') (hk : st.sp ≤ K) {v v'} (hv : VRel φ v v') :
    ∃ K', StackRelK φ K' (st.push v) (st'.push v') ∧ (st.push v).sp ≤ K' ∧ K ≤ K' := by
  obtain ⟨hp, hsp⟩ := h.push hk hv
  exact ⟨_, hp, by omega, by omega⟩

theorem tcallTail_rel (h : Sim φ s t) (fl : FrameLive s) {lam lam' : Nat} (hl : AddrRel φ lam lam') :
    ORel (Post φ) (tcallTail s lam) (tcallTail t lam') := by
  unfold tcallTail
  unfold FrameLive at fl
  rw [show t.bp = s.bp from h.bp.symm, show t.stack.sp = s.stack.sp from h.stack.1.symm]
  refine ((h.stack.getOffset (Nat.le_refl _) (Int.le_refl 0)).bind (fun _ _ hv => asArgc_rel hv)).bind ?_
  intro argc argc' e
  subst e
  refine ((h.stack.get (i := s.bp + 1) (by omega)).bind (fun _ _ hv => asArgc_rel hv)).bind ?_
  intro fa fa' e
  subst e
  split
  · refine (h.stack.get (i := s.bp + 4) (by omega)).bind ?_
    intro sb sb' hsb
    refine (tcallCopySame_rel s.bp argc 0 h.stack (Nat.le_refl _)).bind ?_
    rintro st1 st1' ⟨h1, _⟩
    refine (asBp_rel hsb).bind ?_
    intro b b' e
    subst e
    refine .ok ⟨φ, φ.le_refl, h.setFrame ?_ hl _⟩
    exact StackRelK.weaken (K := s.stack.sp) ⟨rfl, h1.2.1, h1.2.2⟩ (by show s.bp + 3 ≤ s.stack.sp; omega)
  · refine (h.stack.get (i := s.bp + 2) (by omega)).bind ?_
    intro se se' hse
    refine (h.stack.get (i := s.bp + 3) (by omega)).bind ?_
    intro si si' hsi
    refine (h.stack.get (i := s.bp + 4) (by omega)).bind ?_
    intro sb sb' hsb
    refine (usub_rel_le s.bp fa _).bind ?_
    rintro sp0 sp0' ⟨e, hle⟩
    subst e
    -- `sp` drops to `sp0` but `tcallCopyDiff` reads the arguments above it
    have hst0 : StackRelK φ s.stack.sp { s.stack with sp := sp0 } { t.stack with sp := sp0 } :=
      ⟨rfl, h.stack.2.1, h.stack.2.2⟩
    refine (tcallCopyDiff_rel s.stack.sp argc hst0 (by show sp0 ≤ s.stack.sp; omega) (Nat.le_refl _)).bind ?_
    rintro st1 st1' ⟨K1, h1, hk1, _⟩
    have k1 : StackRel φ st1 st1' := h1.weaken hk1
    refine (asBp_rel hsb).bind ?_
    intro b b' e
    subst e
    exact .ok ⟨φ, φ.le_refl, h.setFrame (((k1.push (.atom rfl)).push hse).push hsi) hl _⟩

theorem stepTCall_rel (bl : BuiltinLaw ext) (h : Sim φ s t) (ok : SizeOk s.heap) (ok' : SizeOk t.heap)
    (so : SymOk s.heap) (so' : SymOk t.heap) (fl : FrameLive s) :
    ORel (Post φ) (stepTCall (concreteOps ext) s) (stepTCall (concreteOps ext) t) := by
  rw [stepTCall_eq, stepTCall_eq]
  have hcal := callee_rel h.heap ok ok' h.acc
  simp only [concreteOps] at hcal ⊢
  generalize callee s.heap s.acc = k at hcal
  generalize callee t.heap t.acc = k' at hcal
  cases hcal with
  | closure hl _ => exact tcallTail_rel h fl hl
  | lambda => exact (asPtr_rel h.acc).bind fun _ _ r => tcallTail_rel h fl r
  | builtin => exact bl φ s t _ h ok ok' so so'
  | continuation hc => exact (invokeCont_rel h hc).imp fun _ _ r => .of_sim r
  | other => exact .err

theorem exec_tcall (bl : BuiltinLaw ext) (h : Sim φ s t) (ok : SizeOk s.heap) (ok' : SizeOk t.heap)
    (so : SymOk s.heap) (so' : SymOk t.heap) (fl : FrameLive s) :
    ORel (PostB φ) (exec (concreteOps ext) .tcallAcc s) (exec (concreteOps ext) .tcallAcc t) :=
  (stepTCall_rel ext bl h ok ok' so so' fl).continues

end

end Marwood.Lemmas.Sim
