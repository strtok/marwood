import Marwood.Lemmas.CompileView
/-!
# The application arm of the compiler model

`compileExpr` tests the head of a pair against the eight keywords of `specialForms` before it reaches the arm for
procedure applications; `compileExpr_app_inv` is that arm, for a head that is none of them.
-/
namespace Marwood.Vm

theorem compileExpr_app_inv {fuel : Nat} {st st' : CState} {c : Ctx} {base : Nat} {tail : Bool}
    {proc rest : Datum} {code : List BC} (hn : ∀ kw ∈ specialForms, proc.isSymStr kw = false)
    (h : compileExpr (fuel + 1) st c base tail (.pair proc rest) = .ok (st', code)) :
    ∃ st1 code1 n pcode, compileArgs fuel st c base rest = .ok (st1, code1, n) ∧
      compileExpr fuel st1 c (base + code1.length + 2) false proc = .ok (st', pcode) ∧
      code = code1 ++ [.op .pushImm, .argc n] ++ pcode ++ [.op (if tail then .tcallAcc else .callAcc)] := by
  have hk := headKind_app hn
  cases compileExpr_view h with
  | app _ h1 h2 => exact ⟨_, _, _, _, h1, h2, rfl⟩
  | _ => simp_all [selfEval]

end Marwood.Vm
