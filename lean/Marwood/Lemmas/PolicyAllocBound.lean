import Marwood.Lemmas.GoodMain
import Marwood.Lemmas.PolicyWF
import Marwood.Lemmas.NoPanicPath
import Marwood.Lemmas.PolicyRun
import Marwood.Lemmas.MachineAllocRel
/-!
# One instruction allocates a constant number of heap cells (C12, the parameter `A` of T12.3)

Generic in the heap type (the graded form of `MachineGarbage.step_rel`): if `R h h' k` — "`h'` comes from `h` by at
most `k` allocations" — is respected by every state-changing field of `HeapOps` with the grade that field allocates
(`put` / `maybe_put` / `newCont` / `makeActivation` 1, `makeClosure` 2, writes 0, the unmodelled operations by three
cost functions), then one instruction of `run_one` respects it with the grade `opAlloc op + extraOf … s op`.
`opAlloc`: CONS 3, CLOSURE 2, ENTER 1, CALL / TCALL 2 (call/cc: the continuation and the boxed result; `apply`: the
boxed result), VARARG 3, else 0.

For the concrete machine `R` is `AllocsLe`: `HInv` is kept and the erased heap goes from `toHeap h` to `toHeap h'` by
exactly `j ≤ k` steps `Heap.alloc` and counter-preserving edits (vocabulary of `PolicyRun.HRun`), so the grade counts
the `.alloc` operations of the policy specification between two collection points.
-/
namespace Marwood.Vm
variable {H : Type} {ops : HeapOps H} {R : H → H → Nat → Prop}
  {cb : H → Nat → List VCell → Nat} {cc : H → VCell → Nat} {cv : H → VCell → VCell → Nat}

def opAlloc : Op → Nat
  | .cons => 3
  | .closureAcc => 2
  | .enter => 1
  | .callAcc => 2
  | .tcallAcc => 2
  | .varArg => 3
  | _ => 0

def maxOpAlloc : Nat := 3

theorem opAlloc_le (op : Op) : opAlloc op ≤ maxOpAlloc := by cases op <;> decide

/-- the arguments a generic builtin is about to pop: `argc`, then that many cells -/
def genericArgs (s : St H) : Option (List VCell) :=
  match s.stack.pop with
  | .ok (a, st) =>
    match asArgc a with
    | .ok argc =>
      match popN argc st with
      | .ok (args, _) => some args
      | _ => none
    | _ => none
  | _ => none

/-- the expression `eval` is about to pop (below `argc`) -/
def evalArg (s : St H) : Option VCell :=
  match s.stack.pop with
  | .ok (_, st) =>
    match st.pop with
    | .ok (e, _) => some e
    | _ => none
  | _ => none

/-- what the unmodelled operation called by a builtin procedure may allocate -/
def builtinExtra (ops : HeapOps H) (cb : H → Nat → List VCell → Nat) (cc : H → VCell → Nat) (s : St H) (id : Nat) : Nat :=
  match ops.builtinKind s.heap id with
  | .generic => match genericArgs s with
    | some args => cb s.heap id args
    | none => 0
  | .eval => match evalArg s with
    | some e => cc s.heap (ops.deref s.heap e)
    | none => 0
  | _ => 0

def calleeExtra (ops : HeapOps H) (cb : H → Nat → List VCell → Nat) (cc : H → VCell → Nat) (s : St H) : Nat :=
  match ops.callee s.heap s.acc with
  | .builtin id => builtinExtra ops cb cc s id
  | _ => 0

/-- what an instruction allocates beyond `opAlloc`: the cost of the unmodelled operation it calls (generic
    builtin, `eval`'s compiler, VPUSH), `2 · argc` for VARARG (a pair and at most a box per collected argument) -/
def extraOf (ops : HeapOps H) (cb : H → Nat → List VCell → Nat) (cc : H → VCell → Nat) (cv : H → VCell → VCell → Nat)
    (s : St H) : Op → Nat
  | .vpushAcc => match s.stack.pop with
    | .ok (v, _) => cv s.heap (ops.deref s.heap v) s.acc
    | _ => 0
  | .varArg => match s.stack.getOffset (-2) with
    | .ok (.argc n) => 2 * n
    | _ => 0
  | .callAcc => calleeExtra ops cb cc s
  | .tcallAcc => calleeExtra ops cb cc s
  | _ => 0

/-- an instruction that calls no unmodelled operation and builds no rest-argument list -/
def NonExt (ops : HeapOps H) (s : St H) (op : Op) : Prop :=
  op ≠ .vpushAcc ∧ op ≠ .varArg ∧
  ∀ id, ops.callee s.heap s.acc = .builtin id →
    ops.builtinKind s.heap id = .apply ∨ ops.builtinKind s.heap id = .callcc

theorem extraOf_nonExt {s : St H} {op : Op} (h : NonExt ops s op) : extraOf ops cb cc cv s op = 0 := by
  obtain ⟨h1, h2, h3⟩ := h
  have hc : calleeExtra ops cb cc s = 0 := by
    unfold calleeExtra
    split
    · rename_i id hid
      unfold builtinExtra
      rcases h3 id hid with e | e <;> rw [e]
    · rfl
  cases op <;> first | rfl | exact hc | exact absurd rfl h1 | exact absurd rfl h2

structure OpsCost (ops : HeapOps H) (R : H → H → Nat → Prop) (cb : H → Nat → List VCell → Nat)
    (cc : H → VCell → Nat) (cv : H → VCell → VCell → Nat) : Prop where
  refl : ∀ h, R h h 0
  trans : ∀ {a b c j k}, R a b j → R b c k → R a c (j + k)
  mono : ∀ {a b j k}, R a b j → j ≤ k → R a b k
  put : ∀ h v, R h (ops.put h v).1 1
  maybePut : ∀ h v, R h (ops.maybePut h v).1 1
  setAt : ∀ h p v, R h (ops.setAt h p v) 0
  newCont : ∀ h c, R h (ops.newCont h c).1 1
  globPut : ∀ h n v, R h (ops.globPut h n v) 0
  envPut : ∀ {h e k v h'}, ops.envPut h e k v = some h' → R h h' 0
  makeClosure : ∀ {h lam ep bp st h' c}, ops.makeClosure h lam ep bp st = .ok (h', c) → R h h' 2
  makeActivation : ∀ {h lam env bp st h' e}, ops.makeActivation h lam env bp st = .ok (h', e) → R h h' 1
  vectorPush : ∀ {h vec v h'}, ops.vectorPush h vec v = .ok h' → R h h' (cv h vec v)
  builtinEval : ∀ {h id args h' v}, ops.builtinEval h id args = .ok (h', v) → R h h' (cb h id args)
  compileEval : ∀ {h v h' lam}, ops.compileEval h v = .ok (h', lam) → R h h' (cc h v)

theorem OpsCost.zero (o : OpsCost ops R cb cc cv) (h : H) (k : Nat) : R h h k := o.mono (o.refl h) (Nat.zero_le k)

theorem OpsCost.put' (o : OpsCost ops R cb cc cv) {h h' : H} {v r : VCell} (e : ops.put h v = (h', r)) : R h h' 1 := by
  have := o.put h v; rw [e] at this; exact this

theorem OpStores.cost (o : OpsCost ops R cb cc cv) {s s' : St H} {v c : VCell} (st : OpStores ops s v c s') :
    R s.heap s'.heap 0 := by
  cases st with
  | acc => exact o.refl _
  | ptr p => exact o.setAt _ p v
  | bp _ => exact o.refl _
  | glob k => exact o.globPut _ k v
  | env _ _ hp => exact o.envPut hp
  | envPtr _ hp => exact o.envPut hp

theorem calleeExtra_builtin {s : St H} {id : Nat} (h : ops.callee s.heap s.acc = .builtin id) :
    calleeExtra ops cb cc s = builtinExtra ops cb cc s id := by
  simp only [calleeExtra, h]

theorem runBuiltin_cost (o : OpsCost ops R cb cc cv) {id : Nat} {s s' : St H} (h : runBuiltin ops id s = .ok s') :
    R s.heap s'.heap (2 + builtinExtra ops cb cc s id) := by
  obtain ⟨s2, v, e, ht⟩ := runBuiltin_iff.mp h
  have r1 : R s.heap s2.heap (1 + builtinExtra ops cb cc s id) := by
    unfold builtinExtra
    cases e with
    | apply hk hb => rw [builtinApply_heap hb]; exact o.zero _ _
    | @eval ev _ _ hk h2 hA he hce =>
      have ea : evalArg s = some ev := by
        have p2 : Stack.pop { s.stack with sp := s.stack.sp - 1 } = .ok (ev, _) :=
          Stack.pop_eq_ok.mpr ⟨by show 0 < s.stack.sp - 1; omega, he, rfl⟩
        simp only [evalArg, Stack.pop_eq_ok.mpr ⟨by omega, hA, rfl⟩, p2]
      simp only [hk, ea]
      exact o.mono (o.compileEval hce) (Nat.le_add_left _ _)
    | callcc hk => exact o.mono (o.newCont _ _) (Nat.le_add_right _ _)
    | @generic _ args _ _ hk hn hA hpn hbe =>
      have ea : genericArgs s = some args := by
        simp only [genericArgs, Stack.pop_eq_ok.mpr ⟨by omega, hA, rfl⟩, asArgc, hpn]
      simp only [hk, ea]
      exact o.mono (o.builtinEval hbe) (Nat.le_add_left _ _)
  rcases (accTail_ok ht).2.2.2.2.2 with e | e <;> rw [e]
  · exact o.mono r1 (by omega)
  · exact o.mono (o.trans r1 (o.maybePut _ _)) (by omega)

theorem Puts.cost (o : OpsCost ops R cb cc cv) {k : Nat} {h h' : H} (p : Puts ops k h h') : R h h' k := by
  induction p with
  | refl => exact o.refl _
  | put v _ ih => exact o.trans ih (o.put _ v)

theorem stepVarArg_cost (o : OpsCost ops R cb cc cv) {s s' : St H} (h : stepVarArg ops s = .ok s') :
    ∃ n, s.stack.getOffset (-2) = .ok (.argc n) ∧ R s.heap s'.heap (3 + 2 * n) := by
  obtain ⟨_, n, _, _, rfl, _, _, h2, hA, _, ⟨j, hj, hp⟩, _⟩ := stepVarArg_eff h
  refine ⟨n, ?_, o.mono (hp.cost o) hj⟩
  have hl : s.stack.sp - 2 < s.stack.cells.length := by
    rcases Nat.lt_or_ge (s.stack.sp - 2) s.stack.cells.length with hl | hl
    · exact hl
    · unfold Stack.cellAt at hA
      rw [List.getElem?_eq_none hl] at hA
      cases hA
  rw [← hA]
  exact Stack.getOffset_of_lt s.stack 2 h2 hl

theorem step_cost (o : OpsCost ops R cb cc cv) {s s' : St H} {b : Bool} (h : step ops s = .ok (s', b)) :
    ∃ op s1, readOpcode ops s = .ok (op, s1) ∧ R s.heap s'.heap (opAlloc op + extraOf ops cb cc cv s op) := by
  obtain ⟨op, hr, e⟩ := step_eff h
  refine ⟨op, _, hr, ?_⟩
  cases e with
  | jmp | jntTaken | jntFall | halt | push | pushImm | pushAcc | callProc | ret => exact o.zero _ _
  | mov _ _ _ st => exact o.mono (st.cost o) (Nat.zero_le _)
  | movImm _ _ _ st => exact o.mono (st.cost o) (Nat.zero_le _)
  | cons _ _ _ e1 e2 e3 =>
    have r : R s.heap _ (1 + 1 + 1) := o.trans (o.trans (o.put' e1) (o.put' e2)) (o.put' e3)
    exact r
  | vpush h1 hd hv =>
    have hp := Stack.pop_eq_ok.mpr ⟨h1, hd, rfl⟩
    simp only [opAlloc, extraOf, hp, Nat.zero_add]
    exact o.vectorPush hv
  | closure _ hm => exact o.makeClosure hm
  | tcallProc _ ht => rw [tcallTail_heap ht]; exact o.zero _ _
  | callBuiltin hc hb | tcallBuiltin hc hb =>
    have r := runBuiltin_cost (cb := cb) (cc := cc) o hb
    rw [← calleeExtra_builtin (s := { s with ipO := s.ipO + 1 }) hc] at r
    exact r
  | callCont _ hi | tcallCont _ hi => rw [invokeCont_heap hi]; exact o.zero _ _
  | enter _ _ _ _ hh =>
    rcases hh with ⟨_, rfl, _⟩ | ⟨env, _, hm⟩
    · exact o.zero _ _
    · exact o.makeActivation hm
  | varArg he =>
    obtain ⟨n, hn, r⟩ := stepVarArg_cost o he
    have hn' : s.stack.getOffset (-2) = .ok (.argc n) := hn
    simp only [opAlloc, extraOf, hn']
    exact r

end Marwood.Vm

namespace Marwood.Lemmas.PolicyAlloc
open Marwood Marwood.Vm Marwood.Vm.Concrete Marwood.Lemmas.Sim Marwood.Lemmas.Good
open Marwood.Heap (GcState Heap)
open Marwood.Spec Marwood.Spec.HeapPolicy
open Marwood.Lemmas.HeapOps Marwood.Lemmas.PolicyRun Marwood.Lemmas.PolicyRefine Marwood.Lemmas.PolicyWF

/-- cells in use, what `run_gc`'s utilisation test reads -/
def used (h : CHeap) : Nat := h.cells.size - h.free.length

theorem proj_toHeap (h : CHeap) : proj (toHeap h) = ⟨h.chunk, h.cells.size, used h⟩ := by
  simp [proj, toHeap, used]

theorem pre_of_inv {h : CHeap} (inv : HInv h) : Pre (toHeap h) := by
  refine ⟨by simp [toHeap, inv.sizes], inv.no_used, by simpa [Shape, toHeap] using inv.shape, ?_⟩
  show h.free.length ≤ (h.cells.map eraseC).size
  rw [Array.size_map]
  apply nodup_bounded_length _ _ inv.nodup
  intro x hx
  rw [← inv.sizes]
  exact lt_of_get_some ((inv.free_iff x).mp hx)

/-- the erased heap goes from `toHeap h` to `toHeap h'` by exactly `j` steps `Heap.alloc` and counter-preserving
    edits, said as: whatever the heap model does from `toHeap h'`, it does from `toHeap h` after `j` more `.alloc` -/
def Allocs (h h' : CHeap) (j : Nat) : Prop :=
  ∀ (fixed : Bool) (ops : List HeapPolicy.Op) (hf : Heap),
    HRun fixed (toHeap h') ops hf → HRun fixed (toHeap h) (List.replicate j .alloc ++ ops) hf

def AllocsLe (h h' : CHeap) (k : Nat) : Prop := HInv h → HInv h' ∧ ∃ j, j ≤ k ∧ Allocs h h' j

theorem Allocs.refl (h : CHeap) : Allocs h h 0 := fun _ _ _ hr => hr

theorem Allocs.trans {a b c : CHeap} {j k : Nat} (h1 : Allocs a b j) (h2 : Allocs b c k) : Allocs a c (j + k) := by
  intro fixed ops hf hr
  have := h1 fixed _ hf (h2 fixed ops hf hr)
  rwa [← List.append_assoc, List.replicate_append_replicate] at this

theorem Allocs.of_proj {h h' : CHeap} (e : proj (toHeap h') = proj (toHeap h)) : Allocs h h' 0 :=
  fun _ _ _ hr => .other e hr

theorem run_allocs_used : ∀ (j : Nat) (s : PState), (HeapPolicy.run s (List.replicate j .alloc)).used = s.used + j
  | 0, s => rfl
  | j+1, s => by
    have : (HeapPolicy.alloc s).used = s.used + 1 := by unfold HeapPolicy.alloc; split <;> rfl
    simp only [List.replicate_succ, HeapPolicy.run, HeapPolicy.step, run_allocs_used j, this]
    omega

theorem Allocs.used {h h' : CHeap} {j : Nat} (a : Allocs h h' j) : used h' = used h + j := by
  have hr := a true [] (toHeap h') (.done _)
  have hp := hrun_proj true _ _ _ hr
  rw [List.append_nil, proj_toHeap, proj_toHeap] at hp
  have := congrArg PState.used hp
  rw [run_allocs_used] at this
  exact this

theorem AllocsLe.refl (h : CHeap) : AllocsLe h h 0 := fun inv => ⟨inv, 0, Nat.le_refl _, .refl h⟩

theorem AllocsLe.trans {a b c : CHeap} {j k : Nat} (h1 : AllocsLe a b j) (h2 : AllocsLe b c k) : AllocsLe a c (j + k) := by
  intro inv
  obtain ⟨inv1, j1, hj1, a1⟩ := h1 inv
  obtain ⟨inv2, j2, hj2, a2⟩ := h2 inv1
  exact ⟨inv2, j1 + j2, by omega, a1.trans a2⟩

theorem AllocsLe.mono {a b : CHeap} {j k : Nat} (h : AllocsLe a b j) (hjk : j ≤ k) : AllocsLe a b k := by
  intro inv
  obtain ⟨inv1, j1, hj1, a1⟩ := h inv
  exact ⟨inv1, j1, by omega, a1⟩

theorem AllocsLe.used {h h' : CHeap} {k : Nat} (a : AllocsLe h h' k) (inv : HInv h) : used h' ≤ used h + k := by
  obtain ⟨_, j, hj, aj⟩ := a inv
  rw [aj.used]; omega

theorem calloc_allocs (h : CHeap) : AllocsLe h (calloc h).1 1 := by
  intro inv
  refine ⟨(calloc_spec h inv).inv, 1, Nat.le_refl _, ?_⟩
  intro fixed ops hf hr
  exact .alloc (pre_of_inv inv) (toHeap_alloc inv) hr

theorem cwrite_allocs (h : CHeap) (p : Nat) (c : CCell) : AllocsLe h (cwrite h p c) 0 := by
  intro inv
  exact ⟨cwrite_inv h inv p c, 0, Nat.le_refl _, .of_proj (by simp [proj, toHeap, cwrite])⟩

theorem cput_allocs (h : CHeap) (c : CCell) : AllocsLe h (cput h c).1 1 :=
  (calloc_allocs h).trans (cwrite_allocs _ _ _)

theorem inv_symtab {h : CHeap} (inv : HInv h) (t : List (Text × Nat)) : HInv { h with symtab := t } :=
  ⟨inv.sizes, inv.shape, inv.free_iff, inv.nodup, inv.no_used⟩

theorem inv_globals {h : CHeap} (inv : HInv h) (g : Array VCell) : HInv { h with globals := g } :=
  ⟨inv.sizes, inv.shape, inv.free_iff, inv.nodup, inv.no_used⟩

theorem symtab_allocs (h : CHeap) (t : List (Text × Nat)) : Allocs h { h with symtab := t } 0 := .of_proj rfl

/-- every modelled heap operation changes `(capacity, used)` only through `Heap::alloc` -/
theorem allocsLe_rel : AllocRel AllocsLe where
  refl := AllocsLe.refl
  trans := AllocsLe.trans
  mono := AllocsLe.mono
  cputVal h _ := cput_allocs h _
  cputEnv h _ := cput_allocs h _
  envWrite _ _ := cwrite_allocs _ _ _
  symtab h t inv := ⟨inv_symtab inv t, 0, Nat.le_refl _, symtab_allocs h t⟩

theorem putNew_allocs (h : CHeap) (v : VCell) : AllocsLe h (putNew h v).1 1 := allocsLe_rel.putNew h v

theorem putV_allocs (h : CHeap) (v : VCell) : AllocsLe h (putV h v).1 1 := allocsLe_rel.putV h v

theorem globPut_allocs (h : CHeap) (g : Array VCell) : AllocsLe h { h with globals := g } 0 := by
  intro inv
  exact ⟨inv_globals inv g, 0, Nat.le_refl _, .of_proj rfl⟩

def growth {α : Type} (h : CHeap) : Outcome (CHeap × α) → Nat
  | .ok (h', _) => used h' - used h
  | _ => 0

def builtinCost (ext : ExtOps) (h : CHeap) (id : Nat) (args : List VCell) : Nat := growth h (ext.builtinEval h id args)
def compileCost (ext : ExtOps) (h : CHeap) (v : VCell) : Nat := growth h (ext.compileEval h v)
def vpushCost (ext : ExtOps) (h : CHeap) (vec v : VCell) : Nat :=
  match ext.vectorPush h vec v with
  | .ok h' => used h' - used h
  | _ => 0

/-- the law assumed of the unmodelled operations (like `ExtLaws` / `ExtGood`): they change `(capacity, used)`
    only through `Heap::alloc` and keep the allocator invariant -/
structure ExtAllocOnly (ext : ExtOps) : Prop where
  builtinEval : ∀ {h id args h' v}, ext.builtinEval h id args = .ok (h', v) → HInv h → HInv h' ∧ ∃ j, Allocs h h' j
  compileEval : ∀ {h v h' lam}, ext.compileEval h v = .ok (h', lam) → HInv h → HInv h' ∧ ∃ j, Allocs h h' j
  vectorPush : ∀ {h vec v h'}, ext.vectorPush h vec v = .ok h' → HInv h → HInv h' ∧ ∃ j, Allocs h h' j

theorem allocsLe_of_allocs {h h' : CHeap} (a : HInv h → HInv h' ∧ ∃ j, Allocs h h' j) : AllocsLe h h' (used h' - used h) := by
  intro inv
  obtain ⟨inv', j, aj⟩ := a inv
  exact ⟨inv', j, by rw [aj.used]; omega, aj⟩

theorem allocsLe_growth {α : Type} {h h' : CHeap} {a : α} {x : Outcome (CHeap × α)} (e : x = .ok (h', a))
    (al : HInv h → HInv h' ∧ ∃ j, Allocs h h' j) : AllocsLe h h' (growth h x) := by
  subst e
  exact allocsLe_of_allocs al

theorem concrete_opsCost {ext : ExtOps} (ea : ExtAllocOnly ext) :
    OpsCost (concreteOps ext) AllocsLe (builtinCost ext) (compileCost ext) (vpushCost ext) where
  refl := AllocsLe.refl
  trans := AllocsLe.trans
  mono := AllocsLe.mono
  put := putV_allocs
  maybePut := allocsLe_rel.maybePutV
  setAt h p v := cwrite_allocs h p _
  newCont h c := cput_allocs h _
  globPut h n v := globPut_allocs h _
  envPut := allocsLe_rel.envPut
  makeClosure := allocsLe_rel.makeClosure
  makeActivation := allocsLe_rel.makeActivation
  vectorPush := by
    intro h vec v h' e
    have := allocsLe_of_allocs (ea.vectorPush e)
    have e' : ext.vectorPush h vec v = .ok h' := e
    simpa only [vpushCost, e'] using this
  builtinEval := fun e => allocsLe_growth e (ea.builtinEval e)
  compileEval := fun e => allocsLe_growth e (ea.compileEval e)

def extra (ext : ExtOps) (s : St CHeap) (op : Vm.Op) : Nat :=
  extraOf (concreteOps ext) (builtinCost ext) (compileCost ext) (vpushCost ext) s op

theorem step_allocs {ext : ExtOps} (ea : ExtAllocOnly ext) {s s' : St CHeap} {b : Bool}
    (h : step (concreteOps ext) s = .ok (s', b)) :
    ∃ op s1, readOpcode (concreteOps ext) s = .ok (op, s1) ∧ AllocsLe s.heap s'.heap (opAlloc op + extra ext s op) :=
  step_cost (concrete_opsCost ea) h

theorem step_alloc_bound {ext : ExtOps} (ea : ExtAllocOnly ext) {s s' : St CHeap} {b : Bool} (inv : HInv s.heap)
    (h : step (concreteOps ext) s = .ok (s', b)) :
    ∃ op s1, readOpcode (concreteOps ext) s = .ok (op, s1) ∧ HInv s'.heap ∧
      used s'.heap ≤ used s.heap + opAlloc op + extra ext s op := by
  obtain ⟨op, s1, hro, a⟩ := step_allocs ea h
  exact ⟨op, s1, hro, (a inv).1, by have := a.used inv; omega⟩

theorem step_alloc_bound_core {ext : ExtOps} (ea : ExtAllocOnly ext) {s s' : St CHeap} {b : Bool} (inv : HInv s.heap)
    (h : step (concreteOps ext) s = .ok (s', b)) {op : Vm.Op} {s1 : St CHeap}
    (hro : readOpcode (concreteOps ext) s = .ok (op, s1)) (ne : NonExt (concreteOps ext) s op) :
    used s'.heap ≤ used s.heap + opAlloc op ∧ used s'.heap ≤ used s.heap + maxOpAlloc := by
  obtain ⟨op', s1', hro', _, hu⟩ := step_alloc_bound ea inv h
  rw [hro] at hro'
  cases hro'
  have : extra ext s op = 0 := extraOf_nonExt ne
  have := opAlloc_le op
  omega

/-- `Slice ext n E s s'`: `n` consecutive instructions, no collection in between, lead from `s` to `s'`; `E` is the
    sum of `extra` over them -/
inductive Slice (ext : ExtOps) : Nat → Nat → St CHeap → St CHeap → Prop
  | nil (s : St CHeap) : Slice ext 0 0 s s
  | cons {n E : Nat} {s s1 s' sx : St CHeap} {b : Bool} {op : Vm.Op} : step (concreteOps ext) s = .ok (s1, b) →
      readOpcode (concreteOps ext) s = .ok (op, sx) → Slice ext n E s1 s' → Slice ext (n + 1) (extra ext s op + E) s s'

theorem slice_allocs {ext : ExtOps} (ea : ExtAllocOnly ext) {n E : Nat} {s s' : St CHeap} (sl : Slice ext n E s s') :
    AllocsLe s.heap s'.heap (maxOpAlloc * n + E) := by
  induction sl with
  | nil s => exact AllocsLe.refl _
  | @cons n E s s1 s' sx b op hs hro _ ih =>
    obtain ⟨op', s1', hro', a⟩ := step_allocs ea hs
    rw [hro] at hro'
    cases hro'
    have := opAlloc_le op
    exact (a.trans ih).mono (by simp only [maxOpAlloc] at *; omega)

/-- the `A` of T12.3 for one slice: `run_gc` runs every 8192 cycles, at a budget stop and at the end of an
    evaluation (`run.rs`) -/
theorem slice_alloc_bound {ext : ExtOps} (ea : ExtAllocOnly ext) {n E : Nat} {s s' : St CHeap} (inv : HInv s.heap)
    (sl : Slice ext n E s s') (hn : n ≤ 8192) :
    HInv s'.heap ∧ used s'.heap ≤ used s.heap + (8192 * maxOpAlloc + E) ∧
      ∃ j, j ≤ 8192 * maxOpAlloc + E ∧ Allocs s.heap s'.heap j := by
  have a := (slice_allocs ea sl).mono (k := 8192 * maxOpAlloc + E) (by simp only [maxOpAlloc]; omega)
  obtain ⟨inv', j, hj, aj⟩ := a inv
  exact ⟨inv', a.used inv, j, hj, aj⟩

theorem paced_allocs (A L : Nat) : ∀ (j a : Nat) (ops : List HeapPolicy.Op), a + j ≤ A → Paced A L (a + j) ops →
    Paced A L a (List.replicate j .alloc ++ ops)
  | 0, a, ops, _, hp => by simpa using hp
  | j+1, a, ops, hle, hp => by
    simp only [List.replicate_succ, List.cons_append, Paced]
    refine ⟨by omega, paced_allocs A L j (a + 1) ops (by omega) ?_⟩
    rwa [Nat.add_assoc, Nat.add_comm 1 j]

/-- the policy operations of a session: per block `(j, force, live)`, `j` allocations then a collection point -/
def blocksOps : List (Nat × Bool × Nat) → List HeapPolicy.Op
  | [] => []
  | (j, f, l) :: bs => List.replicate j .alloc ++ .gcPoint f l :: blocksOps bs

theorem paced_blocks_append (A L : Nat) : ∀ bs : List (Nat × Bool × Nat), (∀ b ∈ bs, b.1 ≤ A ∧ b.2.2 ≤ L) →
    ∀ ops, Paced A L 0 ops → Paced A L 0 (blocksOps bs ++ ops)
  | [], _, ops, h => h
  | (j, f, l) :: bs, h, ops, hp => by
    have hb := h (j, f, l) (List.mem_cons_self ..)
    have ih := paced_blocks_append A L bs (fun b hb' => h b (List.mem_cons_of_mem _ hb')) ops hp
    show Paced A L 0 ((List.replicate j .alloc ++ .gcPoint f l :: blocksOps bs) ++ ops)
    rw [List.append_assoc]
    exact paced_allocs A L j 0 _ (by rw [Nat.zero_add]; exact hb.1) ⟨hb.2, ih⟩

theorem paced_blocks (A L : Nat) : ∀ bs : List (Nat × Bool × Nat), (∀ b ∈ bs, b.1 ≤ A ∧ b.2.2 ≤ L) →
    Paced A L 0 (blocksOps bs) := fun bs h => by
  have := paced_blocks_append A L bs h [] trivial
  rwa [List.append_nil] at this

/-- a parameter set whose generic builtins allocate one cell (like `cons` of two references), whose VPUSH
    allocates nothing and whose compiler fails -/
def allocExt : ExtOps :=
  { builtinKind := fun _ _ => .generic
    builtinEval := fun h _ _ => .ok ((cput h (.val .nil)).1, .ptr (cput h (.val .nil)).2)
    compileEval := fun _ _ => .err (.builtin "unsupported")
    vectorPush := fun h _ _ => .ok h }

theorem allocExt_allocOnly : ExtAllocOnly allocExt := by
  refine ⟨?_, ?_, ?_⟩
  · intro h id args h' v e inv
    cases e
    obtain ⟨inv', j, _, aj⟩ := cput_allocs h (.val .nil) inv
    exact ⟨inv', j, aj⟩
  · intro h v h' lam e; cases e
  · intro h vec v h' e inv
    cases e
    exact ⟨inv, 0, .refl _⟩

end Marwood.Lemmas.PolicyAlloc
