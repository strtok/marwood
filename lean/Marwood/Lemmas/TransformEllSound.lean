import Marwood.Lemmas.TransformEllShape
import Marwood.Lemmas.TransformEllExpand
/-!
# Soundness of `transform` for transformers with ellipses at depth ≤ 1 (`transformRules_d1`)
-/
namespace Marwood.Transform
open Marwood Marwood.Spec.Match

/-- T17.1's conclusion: the expansion is what R7RS prescribes — rule `i` matches, no earlier rule
    does, and `e` instantiates rule `i`'s template (the second disjunct is the excluded class: ellipsis
    variables of one sub-template matched different numbers of items) -/
def Sound (c : Ctx) (rules : List Rule) (u e : Datum) : Prop :=
  ∃ i r b, rules[i]? = some r ∧ matchRule c r u = some b ∧
    (∀ j : Nat, j < i → ∀ r', rules[j]? = some r' → matchRule c r' u = none) ∧
    (instantiate c r.template b = .ok e ∨ instantiate c r.template b = .mismatch)

theorem Sound.shift {c : Ctx} {r0 : Rule} {rules : List Rule} {u e : Datum}
    (h0 : matchRule c r0 u = none) (h : Sound c rules u e) : Sound c (r0 :: rules) u e := by
  obtain ⟨i, r, b, hi, hm, hprev, hinst⟩ := h
  refine ⟨i + 1, r, b, by simpa using hi, hm, ?_, hinst⟩
  intro j hj r' hr'
  cases j with
  | zero => simp at hr'; subst hr'; exact h0
  | succ j => exact hprev j (by omega) r' (by simpa using hr')

theorem corr_of_match (s : Setup) (pat : Pattern) (body urest : Datum) (B : Bindings) (bs : Binds)
    (hvars : pat.variables = (patVars s.ctx body).map Datum.sym)
    (hnd : (patVars s.ctx body).Nodup)
    (hexp : ∀ x, pat.isExpandedVariable (.sym x) = decide (x ∈ ellVars s.ctx body))
    (hnn : nn s.es body = true)
    (hm : specMatch s.ctx body urest = some bs) (hfl : Flat B bs) :
    Corr pat (ellVars s.ctx body) B bs := by
  have hk := specMatch_keys _ _ _ _ hm
  have hkn : (bs.map Prod.fst).Nodup := by rw [hk]; exact hnd
  have hshape := shape_of_match s body urest bs hnn hnd hm
  have hvar : ∀ x, pat.isVariable (.sym x) = decide (x ∈ patVars s.ctx body) := by
    intro x; simp only [Pattern.isVariable, hvars, anySym_mem]
  refine ⟨hexp, ?_, ?_, ?_⟩
  · intro x hx
    rw [hvar] at hx
    have hx' : x ∉ patVars s.ctx body := by simpa using hx
    exact ⟨lookup_none_of_not_mem x bs (by rw [hk]; exact hx'), fun h => hx' (ellVars_sub _ _ x h)⟩
  · intro x hx hnev
    rw [hvar] at hx
    have hx' : x ∈ patVars s.ctx body := by simpa using hx
    obtain ⟨t, ht⟩ := lookup_some_of_mem_keys x bs (by rw [hk]; exact hx')
    obtain ⟨d, hd⟩ := (hshape x t (lookup_mem x bs t ht)).2 hnev
    subst hd
    refine ⟨d, ht, ?_⟩
    rw [hfl x, projS_lookup x bs hkn _ ht]; rfl
  · intro x hxev
    have hx' : x ∈ patVars s.ctx body := ellVars_sub _ _ x hxev
    refine ⟨by rw [hvar]; simpa using hx', ?_⟩
    obtain ⟨t, ht⟩ := lookup_some_of_mem_keys x bs (by rw [hk]; exact hx')
    obtain ⟨ds, hds⟩ := (hshape x t (lookup_mem x bs t ht)).1 hxev
    subst hds
    rw [hfl x, projS_lookup x bs hkn _ ht, leaves_many_one]
    exact ht

def ruleD1 (c : Ctx) (r : Pattern × Datum) : Bool :=
  match r.1.expr with
  | .pair _ body => nn c.ellipsis body && tP c.ellipsis (ellVars c body) r.2
  | _ => false

/-- rule by rule. The matcher's `true`: its bindings are R7RS's, flattened (`patternMatch_binds`),
    hence `Corr`, and `expand_groups` turns the expansion into `instantiate`. Its `false`: by
    `match_run_aux` R7RS does not match either, the use being outside `zeroRepTail`, and the
    next rule is tried -/
theorem transformRules_d1 (s : Setup) (f f0 : Nat) (t : Transform) (u : Datum)
    (hte : t.ellipsis = s.ell) (htl : t.literals = s.lits) :
    ∀ (rules : List (Pattern × Datum)) (e : Datum),
      (∀ r ∈ rules, RuleOK f0 s.ell s.lits r ∧ ruleD1 s.ctx r = true) →
      (∀ r ∈ rules, zeroRepTailRule s.ctx ⟨r.1.expr, r.2⟩ u = false) →
      transformRules f t u rules = .ok e →
      Sound s.ctx (rules.map fun r => ⟨r.1.expr, r.2⟩) u e := by
  intro rules
  induction rules with
  | nil => intro e _ _ h; simp [transformRules] at h
  | cons r rules ih =>
    intro e hr hgap h
    obtain ⟨pat, tmpl⟩ := r
    obtain ⟨hok, hd1⟩ := hr (pat, tmpl) (by simp)
    have hg := hgap (pat, tmpl) (by simp)
    simp only at hg
    obtain ⟨kw, body, hpe, hvars, hnd, hexp, _⟩ := ruleOK_build s hok
    simp only at hpe hvars hnd hexp
    have hwf := ruleOK_wfPattern s hok
    rw [hpe] at hwf
    obtain ⟨hbody, hhd⟩ := wfPattern_body s hwf
    simp only [ruleD1, hpe, Bool.and_eq_true] at hd1
    have hnn : nn s.es body = true := hd1.1
    have htP : tP s.es (ellVars s.ctx body) tmpl = true := hd1.2
    unfold transformRules at h
    simp only [hpe, cdrE] at h
    cases u with
    | pair ukw urest =>
      simp only [cdrE] at h
      rw [hte, htl] at h
      have hmr : matchRule s.ctx ⟨pat.expr, tmpl⟩ (.pair ukw urest) = specMatch s.ctx body urest := by
        simp [matchRule, hpe]
      have hgr : zeroRepTail s.ctx body urest = false := by
        simpa [zeroRepTailRule, hpe] using hg
      cases hm : patternMatch s.ell s.lits f body urest [] with
      | ok r1 =>
        obtain ⟨b, B⟩ := r1
        rw [hm] at h
        cases b with
        | true =>
          simp only at h
          obtain ⟨bs, hbs, hfl⟩ := patternMatch_binds s f body urest B hbody hhd hnd hm
          have hc := corr_of_match s pat body urest B bs hvars hnd hexp hnn hbs hfl
          cases hx : expand s.ell pat f tmpl (PEnv.new pat B) with
          | ok r2 =>
            obtain ⟨o, env'⟩ := r2
            rw [hx] at h
            cases o with
            | some cexp =>
              simp only at h
              cases h
              refine ⟨0, ⟨pat.expr, tmpl⟩, bs, by simp, by rw [hmr]; exact hbs, by intro j hj; omega, ?_⟩
              rcases expand_groups s pat (ellVars s.ctx body) B bs hc f tmpl e env' htP hx with hmis | ⟨_, hi⟩
              · right; exact hmis
              · left; exact hi
            | none => cases h
          | err x => rw [hx] at h; cases h
          | panic m => rw [hx] at h; cases h
          | fuel => rw [hx] at h; cases h
        | false =>
          simp only at h
          have hv := ((match_run_aux s f).1 body urest [] (false, B) hbody hhd hm).1
          have hnone : specMatch s.ctx body urest = none := by
            rcases hv.2 rfl with h2 | h2
            · simpa [sm] using h2
            · rw [gp, hgr] at h2; cases h2
          have := ih e (fun r hr' => hr r (List.mem_cons_of_mem _ hr'))
            (fun r hr' => hgap r (List.mem_cons_of_mem _ hr')) h
          simp only [List.map_cons]
          exact Sound.shift (by rw [hmr]; exact hnone) this
      | err x => rw [hm] at h; cases h
      | panic m => rw [hm] at h; cases h
      | fuel => rw [hm] at h; cases h
    | _ => simp [cdrE] at h

end Marwood.Transform
