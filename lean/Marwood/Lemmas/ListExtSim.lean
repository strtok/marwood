import Marwood.Vm.ListExt
import Marwood.Lemmas.SimBuiltin
/-!
# `ExtLaws (listExtWith eqTag)`: the real builtins respect the heap simulation

Related heaps and related arguments give the same error or related results under an extension of `φ` (`ExtPost`). The
allocating builtins go through `putV_sim` like the opcode CONS; the mutation is `cwrite_sim`; `eq?` needs that `φ` is
injective and that a sentinel address is never a cell of a heap below `2^63` cells.
-/
namespace Marwood.Lemmas.Sim
open Marwood Marwood.Vm Marwood.Vm.Concrete Marwood.Vm.Concrete.ListExt

section
variable {φ : Inj} {h h' : CHeap} (eqTag : String → String → Bool)

theorem addrRel_eq_iff (hs : HeapSim φ h h') (ok : SizeOk h) (ok' : SizeOk h') {a a' b b' : Nat}
    (ha : AddrRel φ a a') (hb : AddrRel φ b b') : a = b ↔ a' = b' := by
  unfold SizeOk at ok ok'
  constructor
  · intro e
    subst e
    rcases ha with ha | ⟨rfl, ha⟩
    · rcases hb with hb | ⟨rfl, hb⟩
      · rw [ha] at hb; exact Option.some.inj hb
      · have := (hs.dom_lt ha).1; omega
    · rcases hb with hb | ⟨rfl, _⟩
      · have := (hs.dom_lt hb).1; omega
      · rfl
  · intro e
    subst e
    rcases ha with ha | ⟨rfl, ha⟩
    · rcases hb with hb | ⟨rfl, hb⟩
      · exact hs.inj _ _ _ ha hb
      · have := (hs.dom_lt ha).2.1; omega
    · rcases hb with hb | ⟨rfl, _⟩
      · have := (hs.dom_lt hb).2.1; omega
      · rfl

theorem beq_addr (hs : HeapSim φ h h') (ok : SizeOk h) (ok' : SizeOk h') {a a' b b' : Nat}
    (ha : AddrRel φ a a') (hb : AddrRel φ b b') : (a == b) = (a' == b') := by
  show decide (a = b) = decide (a' = b')
  exact decide_eq_decide.mpr (addrRel_eq_iff hs ok ok' ha hb)

theorem samePtr_atom_left {l : VCell} (hf : addrFree l = true) (r : VCell) : samePtr l r = false := by
  unfold samePtr
  split
  · cases hf
  · rfl

theorem samePtr_atom_right {r : VCell} (hf : addrFree r = true) (l : VCell) : samePtr l r = false := by
  unfold samePtr
  split
  · split
    · cases hf
    · rfl
  · rfl

theorem samePtr_rel (hs : HeapSim φ h h') (ok : SizeOk h) (ok' : SizeOk h') {l l' r r' : VCell}
    (hl : VRel φ l l') (hr : VRel φ r r') : samePtr l r = samePtr l' r' := by
  cases hl with
  | ptr ha =>
    cases hr with
    | ptr hb => exact beq_addr hs ok ok' ha hb
    | atom hf => rw [samePtr_atom_right hf, samePtr_atom_right hf]
    | _ => rfl
  | atom hf => rw [samePtr_atom_left hf, samePtr_atom_left hf]
  | _ => rfl

/-! ## `Vm::eqv` on dereferenced operands: it looks at addresses only when both operands are pairs -/

theorem eqvVal_left {l : VCell} (hf : addrFree l = false) (hp : Pred.isPair.test l = false) (r : VCell) :
    eqvVal eqTag l r = false := by
  unfold eqvVal
  split
  · cases hf
  · cases hf
  · cases hp
  · cases hf
  · rfl

theorem eqvVal_right {r : VCell} (hf : addrFree r = false) (hp : Pred.isPair.test r = false) (l : VCell) :
    eqvVal eqTag l r = false := by
  unfold eqvVal
  split
  · split
    · cases hf
    · rfl
  · split
    · cases hf
    · rfl
  · split
    · cases hp
    · rfl
  · split
    · cases hf
    · rfl
  · rfl

theorem eqvVal_pair_atom {r : VCell} (hf : addrFree r = true) (a d : Nat) : eqvVal eqTag (.pair a d) r = false := by
  simp only [eqvVal]
  split
  · cases hf
  · rfl

theorem eqvVal_atom_pair {l : VCell} (hf : addrFree l = true) (a d : Nat) : eqvVal eqTag l (.pair a d) = false := by
  unfold eqvVal
  split
  · rfl
  · rfl
  · cases hf
  · rfl
  · rfl

theorem eqvVal_rel (hs : HeapSim φ h h') (ok : SizeOk h) (ok' : SizeOk h') {l l' r r' : VCell}
    (hl : VRel φ l l') (hr : VRel φ r r') : eqvVal eqTag l r = eqvVal eqTag l' r' := by
  cases hl with
  | pair ha hd =>
    cases hr with
    | pair hb he =>
      simp only [eqvVal]
      rw [beq_addr hs ok ok' ha hb, beq_addr hs ok ok' hd he]
    | atom hf => rw [eqvVal_pair_atom eqTag hf, eqvVal_pair_atom eqTag hf]
    | _ => rfl
  | atom hf =>
    cases hr with
    | atom hg => rfl
    | pair _ _ => rw [eqvVal_atom_pair eqTag hf, eqvVal_atom_pair eqTag hf]
    | _ => rw [eqvVal_right eqTag, eqvVal_right eqTag] <;> rfl
  | _ => rw [eqvVal_left eqTag, eqvVal_left eqTag] <;> rfl

theorem eqvC_rel (hs : HeapSim φ h h') (ok : SizeOk h) (ok' : SizeOk h') {l l' r r' : VCell}
    (hl : VRel φ l l') (hr : VRel φ r r') : eqvC eqTag h l r = eqvC eqTag h' l' r' := by
  unfold eqvC
  rw [samePtr_rel hs ok ok' hl hr, eqvVal_rel eqTag hs ok ok' (deref_rel hs ok ok' hl) (deref_rel hs ok ok' hr)]

theorem Pred.test_rel (q : Pred) {v v' : VCell} (hv : VRel φ v v') : q.test v = q.test v' := by
  cases hv with
  | atom _ => rfl
  | _ => cases q <;> rfl

theorem evalCar_rel (first : Bool) (hs : HeapSim φ h h') (ok : SizeOk h) (ok' : SizeOk h') (so : SymOk h)
    (so' : SymOk h') {x x' : VCell} (hx : VRel φ x x') :
    ORel (ExtPost φ) (evalCar first h x) (evalCar first h' x') := by
  unfold evalCar
  have hd := deref_rel hs ok ok' hx
  generalize deref h x = v at hd
  generalize deref h' x' = v' at hd
  cases hd with
  | pair ha hb =>
    refine .ok ⟨φ, φ.le_refl, hs, ?_, so, so'⟩
    cases first
    · exact .ptr hb
    · exact .ptr ha
  | atom hf => cases v <;> first | exact .err | cases hf
  | _ => exact .err

theorem evalCons_rel (hs : HeapSim φ h h') (so : SymOk h) (so' : SymOk h') {d d' a a' : VCell}
    (hd : VRel φ d d') (ha : VRel φ a a') : ORel (ExtPost φ) (evalCons h d a) (evalCons h' d' a') := by
  simp only [evalCons]
  obtain ⟨ψ1, le1, hh1, hd1, so1, so1'⟩ := putV_sim hs so so' hd
  refine (asPtr_rel hd1).bind ?_
  intro dp dp' hdp
  obtain ⟨ψ2, le2, hh2, ha2, so2, so2'⟩ := putV_sim hh1 so1 so1' (ha.mono le1)
  refine (asPtr_rel ha2).bind ?_
  intro ap ap' hap
  exact .ok ⟨ψ2, Inj.le_trans le1 le2, hh2, .pair hap (hdp.mono le2), so2, so2'⟩

theorem cwrite_symOk {h : CHeap} (so : SymOk h) {p : Nat} {a d a1 d1 : Nat}
    (hc : h.cells[p]? = some (CCell.val (.pair a d))) : SymOk (cwrite h p (.val (.pair a1 d1))) := by
  intro name q
  have e : symLookup (cwrite h p (.val (.pair a1 d1))) name = symLookup h name := rfl
  rw [e, so name q]
  have hf : (cwrite h p (.val (.pair a1 d1))).free = h.free := rfl
  rw [hf]
  by_cases hq : q = p
  · subst hq
    have hlt := lt_of_get_some hc
    have hn : (cwrite h q (.val (.pair a1 d1))).cells[q]? = some (CCell.val (.pair a1 d1)) := by
      simp [cwrite, hlt]
    rw [hc, hn]
    constructor
    · rintro ⟨c, e1, ⟨tag, e2, _⟩, _⟩; cases e1; cases e2
    · rintro ⟨c, e1, ⟨tag, e2, _⟩, _⟩; cases e1; cases e2
  · have hn : (cwrite h p (.val (.pair a1 d1))).cells[q]? = h.cells[q]? := by
      simp only [cwrite]; exact Array.getElem?_setIfInBounds_ne (Ne.symm hq)
    rw [hn]

theorem putNew_keeps {h : CHeap} (inv : HInv h) {p : Nat} {c : CCell} (e : h.cells[p]? = some c) (hf : p ∉ h.free)
    (v : VCell) : (putNew h v).1.cells[p]? = some c := by
  unfold putNew
  split
  · split
    · exact e
    · exact (cput_old inv _ e hf).1
  · exact (cput_old inv _ e hf).1

theorem putV_keeps {h : CHeap} (inv : HInv h) {p : Nat} {c : CCell} (e : h.cells[p]? = some c) (hf : p ∉ h.free)
    {v : VCell} : (putV h v).1.cells[p]? = some c := by
  unfold putV
  split
  · exact e
  · exact putNew_keeps inv e hf v

theorem evalSetPair_rel (first : Bool) (hs : HeapSim φ h h') (ok : SizeOk h) (ok' : SizeOk h') (so : SymOk h)
    (so' : SymOk h') {obj obj' pair pair' : VCell} (ho : VRel φ obj obj') (hp : VRel φ pair pair') :
    ORel (ExtPost φ) (evalSetPair first h obj pair) (evalSetPair first h' obj' pair') := by
  simp only [evalSetPair]
  obtain ⟨ψ1, le1, hh1, ho1, so1, so1'⟩ := putV_sim hs so so' ho
  cases hp with
  | ptr hab =>
    rename_i p p'
    simp only [deref]
    unfold getAt
    rcases hab.lookup hs ok ok' with ⟨e1, e2⟩ | ⟨hφ, c, c', e1, e2, r⟩
    · rw [e1, e2]; exact .err
    · rw [e1, e2]
      cases r with
      | val hv =>
        cases hv with
        | pair ha hd =>
          rename_i a d a' d'
          simp only [Concrete.repr]
          refine (asPtr_rel ho1).bind ?_
          intro o o' hoo
          simp only [asPtr]
          -- the pair cell survives the allocation on both sides (it is in the domain of `ψ1`)
          have hψ : ψ1 p = some p' := le1 _ _ hφ
          obtain ⟨c1, c1', g1, g2, _, _, _⟩ := hh1.cells p p' hψ
          have hw : HeapSim ψ1 (cwrite (putV h obj).1 p (.val (if first then .pair o d else .pair a o)))
              (cwrite (putV h' obj').1 p' (.val (if first then .pair o' d' else .pair a' o'))) := by
            refine cwrite_sim hh1 hψ (.val ?_)
            cases first
            · exact .pair (ha.mono le1) hoo
            · exact .pair hoo (hd.mono le1)
          -- what the cell holds after the allocation is still the pair (needed for `SymOk`)
          have k1 : (putV h obj).1.cells[p]? = some (CCell.val (.pair a d)) := putV_keeps hs.inv e1 (hs.dom_lt hφ).2.2.1
          have k2 : (putV h' obj').1.cells[p']? = some (CCell.val (.pair a' d')) :=
            putV_keeps hs.inv' e2 (hs.dom_lt hφ).2.2.2
          refine .ok ⟨ψ1, le1, hw, .atom rfl, ?_, ?_⟩
          · cases first
            · exact cwrite_symOk so1 k1
            · exact cwrite_symOk so1 k1
          · cases first
            · exact cwrite_symOk so1' k2
            · exact cwrite_symOk so1' k2
        | atom hf => rename_i v; cases v <;> first | exact .err | cases hf
        | _ => exact .err
      | _ => exact .err
  | pair ha hd =>
    -- an inline `Pair` operand: the shape test passes, `pair.as_ptr()` fails
    simp only [deref]
    refine (asPtr_rel ho1).bind ?_
    intro o o' _
    exact .err
  | atom hf =>
    rw [deref_atom hf, deref_atom hf]
    cases pair <;> first | exact .err | cases hf
  | _ => exact .err

theorem evalPrim_rel (p : Prim) (hs : HeapSim φ h h') (ok : SizeOk h) (ok' : SizeOk h') (so : SymOk h)
    (so' : SymOk h') {args args' : List VCell} (hargs : VsRel φ args args') :
    ORel (ExtPost φ) (evalPrim eqTag p h args) (evalPrim eqTag p h' args') := by
  cases hargs with
  | nil => cases p <;> exact .err
  | cons h1 t1 =>
    cases t1 with
    | nil =>
      cases p with
      | car => exact evalCar_rel true hs ok ok' so so' h1
      | cdr => exact evalCar_rel false hs ok ok' so so' h1
      | pred q =>
        simp only [evalPrim]
        rw [Pred.test_rel q (deref_rel hs ok ok' h1)]
        exact .ok ⟨φ, φ.le_refl, hs, .atom rfl, so, so'⟩
      | _ => exact .err
    | cons h2 t2 =>
      cases t2 with
      | nil =>
        cases p with
        | cons => exact evalCons_rel hs so so' h1 h2
        | setCar => exact evalSetPair_rel true hs ok ok' so so' h1 h2
        | setCdr => exact evalSetPair_rel false hs ok ok' so so' h1 h2
        | eq =>
          simp only [evalPrim]
          rw [eqvC_rel eqTag hs ok ok' h1 h2]
          exact .ok ⟨φ, φ.le_refl, hs, .atom rfl, so, so'⟩
        | _ => exact .err
      | cons _ _ => cases p <;> exact .err

theorem listExtWith_laws : ExtLaws (listExtWith eqTag) where
  kind := fun _ _ _ _ _ => rfl
  eval := by
    intro φ h h' id args args' hs ok ok' so so' hargs
    show ORel (ExtPost φ) (ListExt.builtinEval eqTag h id args) (ListExt.builtinEval eqTag h' id args')
    unfold ListExt.builtinEval
    cases primOf id with
    | none => exact .err
    | some p => exact evalPrim_rel eqTag p hs ok ok' so so' hargs
  compile := fun _ _ _ _ _ _ _ _ _ _ _ => .err
  vpush := fun _ _ _ _ _ _ _ _ _ _ _ _ => .err

theorem listExt_laws : ExtLaws listExt := listExtWith_laws _

end

end Marwood.Lemmas.Sim
