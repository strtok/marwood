import Marwood.Lemmas.SimRefl
import Marwood.Lemmas.StackWFLaws
/-!
# `Safe` as an invariant: definitions

Lemmas/SimMain.lean assumes `Good` of every state along a run (`Safe`); Lemmas/Good*.lean prove the clauses that are
invariants of `run_one` and `run_gc`: `HG h` (`WFHeap` of the erasure, T03.3; the kind discipline `Plain`; the code
discipline `LamAll`; the environment discipline `EnvOk`) and `GoodI s` (`HG`, `RootsOk`, `acc` holds a value).
`StackDisc s` is what is NOT an invariant over arbitrary stacks — the frame discipline of the current instruction, and
that the stack cells it consumes as values satisfy `plainGlob` (no `EnvironmentPointer` / `InstructionPointer`, no inline
pair, closure or `LexicalEnvPtr`; an `ArgumentCount` or `BasePtr` passes); it follows from WF-stack (`stackDisc_of_wfs`).
`Small h`: at most `2^62` cells, so that a growth (`(3k+1)/2 ≤ 2k` chunks, `Small.grown`) stays below the sentinel
addresses `≥ 2^63` — the only size hypothesis.
-/
namespace Marwood.Lemmas.Good
open Marwood Marwood.Vm Marwood.Vm.Concrete Marwood.Lemmas.Sim
open Marwood.Heap (GcState WFHeap RootsOk vrefs vrefsList crefs bcRefs)

def NF (h : CHeap) (y : Nat) : Prop := (toHeap h).NonFree y ∨ Heap.Sentinel y

def VRefsOk (h : CHeap) (v : VCell) : Prop := ∀ y ∈ vrefs true (eraseV v), NF h y

def CRefsOk (h : CHeap) (c : CCell) : Prop := ∀ y ∈ crefs true (eraseC c), NF h y

def VOk (h : CHeap) (v : VCell) : Prop := plainGlob v = true ∧ VRefsOk h v

def Small (h : CHeap) : Prop := 2 * h.cells.size ≤ 2 ^ 63

def notPtr : VCell → Bool
  | .ptr _ => false
  | _ => true

def opndAll (P : VCell → Bool) : Option VCell → Bool
  | some v => P v
  | none => true

structure LamOk (l : CLambda) : Prop where
  noIof : ∀ p ∈ l.envmap, ∀ a, p.2 ≠ Source.iofArg a
  mov : ∀ j, l.bc[j]? = some (.opcode .mov) →
    opndAll notPtr l.bc[j + 1]? = true ∧ opndAll notPtr l.bc[j + 2]? = true
  movImm : ∀ j, l.bc[j]? = some (.opcode .movImm) →
    opndAll plainGlob l.bc[j + 1]? = true ∧ opndAll notPtr l.bc[j + 2]? = true

def LamAll (h : CHeap) : Prop := ∀ (i : Nat) (l : CLambda), h.cells[i]? = some (CCell.lambda l) → LamOk l

def SlotOk (h : CHeap) (v : VCell) : Prop :=
  plainGlob v = true ∨ ∃ e k ss w, v = .lexEnvPtr e k ∧ h.cells[e]? = some (CCell.lexEnv ss) ∧ ss[k]? = some w ∧
    plainGlob w = true

def EnvOk (h : CHeap) : Prop :=
  ∀ (i : Nat) (ss : List VCell), h.cells[i]? = some (CCell.lexEnv ss) → ∀ v ∈ ss, SlotOk h v

structure HG (h : CHeap) : Prop where
  wf : WFHeap true (toHeap h)
  plain : Plain h
  lam : LamAll h
  env : EnvOk h

structure Mono (h h' : CHeap) : Prop where
  size : h.cells.size ≤ h'.cells.size
  nf : ∀ y, (toHeap h).NonFree y → (toHeap h').NonFree y

structure GoodI (s : St CHeap) : Prop where
  hg : HG s.heap
  roots : RootsOk (toHeap s.heap) ((rootsOf s).refs true)
  accv : plainGlob s.acc = true

/-- if cell `k` is `ArgumentCount(n)`, the `n` cells below it hold values -/
def ArgBlock (st : Stack) (k : Nat) : Prop :=
  ∀ n, st.cells[k]? = some (VCell.argc n) → ∀ i v, i < k → k ≤ i + n → st.cells[i]? = some v → plainGlob v = true

def opAt (s : St CHeap) (op : Op) : Prop :=
  ∃ l, lambdaAt s.heap s.ipL = some l ∧ l.bc[s.ipO]? = some (VCell.opcode op)

structure StackDisc (s : St CHeap) : Prop where
  bpLive : BpLive { s with ipO := s.ipO + 1 }
  frameLive : ∀ l, lambdaAt s.heap s.ipL = some l →
    (l.bc[s.ipO]? = some (.opcode .ret) ∨ l.bc[s.ipO]? = some (.opcode .tcallAcc)) → FrameLive s
  /-- `MOV bp[off] …` reads a value -/
  src : ∀ l off v, lambdaAt s.heap s.ipL = some l → l.bc[s.ipO]? = some (.opcode .mov) →
    l.bc[s.ipO + 1]? = some (VCell.bpOffset off) → 0 ≤ (s.bp : Int) + off →
    s.stack.cells[((s.bp : Int) + off).toNat]? = some v → plainGlob v = true
  cons : opAt s .cons → ∀ i v, i ≤ s.stack.sp → s.stack.sp ≤ i + 1 → s.stack.cells[i]? = some v → plainGlob v = true
  /-- CALL / TCALL: the argument block under the `ArgumentCount` on top of the stack holds values -/
  call : opAt s .callAcc ∨ opAt s .tcallAcc → ArgBlock s.stack s.stack.sp
  /-- ENTER / VARARG: so does the argument block under the two header cells CALL pushed -/
  enter : opAt s .enter ∨ opAt s .varArg → ArgBlock s.stack (s.stack.sp - 2)

theorem Mono.refl (h : CHeap) : Mono h h := ⟨Nat.le_refl _, fun _ x => x⟩

theorem Mono.trans {a b c : CHeap} (x : Mono a b) (y : Mono b c) : Mono a c :=
  ⟨Nat.le_trans x.size y.size, fun z hz => y.nf z (x.nf z hz)⟩

theorem NF.mono {h h' : CHeap} (m : Mono h h') {y : Nat} (x : NF h y) : NF h' y := by
  rcases x with x | x
  · exact .inl (m.nf y x)
  · exact .inr x

theorem VRefsOk.mono {h h' : CHeap} (m : Mono h h') {v : VCell} (x : VRefsOk h v) : VRefsOk h' v :=
  fun y hy => (x y hy).mono m

theorem VOk.mono {h h' : CHeap} (m : Mono h h') {v : VCell} (x : VOk h v) : VOk h' v := ⟨x.1, x.2.mono m⟩

theorem Small.of_le {h h' : CHeap} (x : Small h') (le : h.cells.size ≤ h'.cells.size) : Small h := by
  unfold Small at *; omega

theorem Small.sizeOk {h : CHeap} (x : Small h) : SizeOk h := by
  unfold Small at x; unfold SizeOk; omega

theorem vrefs_addrFree {v : VCell} (hf : addrFree v = true) : vrefs true (eraseV v) = [] := by
  cases v with
  | «opaque» tag => simp only [eraseV]; split <;> simp [vrefs]
  | opcode op => simp [eraseV, vrefs]
  | pair _ _ | closure _ _ | lexEnvPtr _ _ | envPtr _ | instrPtr _ _ | ptr _ => simp [addrFree] at hf
  | _ => simp [eraseV, vrefs]

theorem VRefsOk.of_addrFree (h : CHeap) {v : VCell} (hf : addrFree v = true) : VRefsOk h v := by
  intro y hy; rw [vrefs_addrFree hf] at hy; cases hy

theorem VOk.of_addrFree (h : CHeap) {v : VCell} (hf : addrFree v = true) : VOk h v :=
  ⟨by simp [plainGlob, hf], .of_addrFree h hf⟩

theorem VRefsOk.ptr {h : CHeap} {a : Nat} : VRefsOk h (.ptr a) ↔ NF h a := by
  simp [VRefsOk, eraseV, vrefs]

theorem VOk.ptr {h : CHeap} {a : Nat} (x : NF h a) : VOk h (.ptr a) := ⟨rfl, VRefsOk.ptr.mpr x⟩

theorem plainGlob_cases {v : VCell} (hp : plainGlob v = true) : (∃ a, v = .ptr a) ∨ addrFree v = true := by
  unfold plainGlob at hp
  cases v <;> simp [isPtr] at hp ⊢ <;> first | exact hp | rfl

theorem plainGlob_plainVal {v : VCell} (hp : plainGlob v = true) : plainVal v = true := by
  rcases plainGlob_cases hp with ⟨a, rfl⟩ | hf
  · rfl
  · cases v <;> first | rfl | simp [addrFree] at hf

theorem crefs_sub_vrefs (v : VCell) : ∀ y ∈ crefs true (eraseV v), y ∈ vrefs true (eraseV v) := by
  intro y hy
  cases v with
  | «opaque» tag => simp only [eraseV] at hy ⊢; split at hy <;> simp [crefs] at hy
  | pair _ _ | closure _ _ | envPtr _ | ptr _ => simpa [eraseV, crefs, vrefs] using hy
  | _ => simp [eraseV, crefs] at hy

theorem CRefsOk.val {h : CHeap} {v : VCell} (x : VRefsOk h v) : CRefsOk h (.val v) :=
  fun y hy => x y (crefs_sub_vrefs v y hy)

theorem vrefs_sub_crefs {v : VCell} (hp : plainVal v = true) : ∀ y ∈ vrefs true (eraseV v), y ∈ crefs true (eraseV v) := by
  intro y hy
  cases v with
  | «opaque» tag => simp only [eraseV] at hy ⊢; split at hy <;> simp [vrefs] at hy
  | pair _ _ | closure _ _ | envPtr _ | ptr _ => simpa [eraseV, crefs, vrefs] using hy
  | lexEnvPtr _ _ | instrPtr _ _ => simp [plainVal] at hp
  | _ => simp [eraseV, vrefs] at hy

theorem vrefsList_mem_iff {l : List VCell} {x : Nat} :
    x ∈ vrefsList true (l.map eraseV) ↔ ∃ c ∈ l, x ∈ vrefs true (eraseV c) := by
  induction l with
  | nil => simp [vrefsList]
  | cons d ds ih =>
    simp only [List.map_cons, vrefsList, List.mem_append, ih, List.mem_cons]
    constructor
    · rintro (h | ⟨c, hc, hx⟩)
      · exact ⟨d, .inl rfl, h⟩
      · exact ⟨c, .inr hc, hx⟩
    · rintro ⟨c, hc | hc, hx⟩
      · subst hc; exact .inl hx
      · exact .inr ⟨c, hc, hx⟩

theorem CRefsOk.lexEnv {h : CHeap} {ss : List VCell} (x : ∀ v ∈ ss, VRefsOk h v) : CRefsOk h (.lexEnv ss) := by
  intro y hy
  simp only [eraseC, crefs] at hy
  obtain ⟨c, hc, hx⟩ := vrefsList_mem_iff.mp hy
  exact x c hc y hx

theorem CRefsOk.cont {h : CHeap} {k : Cont} (x : ∀ v ∈ k.stack.cells, VRefsOk h v) (hl : NF h k.ipL) (he : NF h k.ep) :
    CRefsOk h (.cont k) := by
  intro y hy
  simp only [eraseC, crefs, Heap.contRefs, List.mem_append, List.mem_cons, List.not_mem_nil, or_false] at hy
  rcases hy with hy | hy | hy
  · obtain ⟨c, hc, hx⟩ := vrefsList_mem_iff.mp hy
    exact x c hc y hx
  · subst hy; exact hl
  · subst hy; exact he

section roots
variable {s : St CHeap}

theorem roots_acc (r : RootsOk (toHeap s.heap) ((rootsOf s).refs true)) : VRefsOk s.heap s.acc :=
  fun y hy => r y (mem_refs_acc (by simpa [rootsOf] using hy))

theorem roots_ep (r : RootsOk (toHeap s.heap) ((rootsOf s).refs true)) : NF s.heap s.ep :=
  r _ (by simp [Heap.Roots.refs, rootsOf])

theorem roots_ipL (r : RootsOk (toHeap s.heap) ((rootsOf s).refs true)) : NF s.heap s.ipL :=
  r _ (by simp [Heap.Roots.refs, rootsOf])

theorem roots_stack (r : RootsOk (toHeap s.heap) ((rootsOf s).refs true)) {i : Nat} {v : VCell}
    (hi : i ≤ s.stack.sp) (hv : s.stack.cells[i]? = some v) : VRefsOk s.heap v := by
  intro y hy
  refine r y (mem_refs_stack ?_)
  simp only [rootsOf]
  refine vrefsList_mem_iff.mpr ⟨v, ?_, hy⟩
  exact mem_take_succ.mpr ⟨i, hi, hv⟩

theorem eraseV_asPtr {v : VCell} {y : Nat} (he : (eraseV v).asPtr? = some y) : v = .ptr y := by
  cases v with
  | «opaque» tag => simp only [eraseV] at he; split at he <;> cases he
  | ptr a => simp only [eraseV, Heap.VCell.asPtr?] at he; cases he; rfl
  | _ => simp [eraseV, Heap.VCell.asPtr?] at he

/-- the converse of `roots_stack`, `roots_acc`, `roots_ipL`, `roots_ep`, `roots_glob`: what the roots of a state are -/
theorem rootsOk_intro (hsy : ∀ y ∈ s.heap.globSyms, NF s.heap y) (hgl : ∀ v ∈ s.heap.globals.toList, VRefsOk s.heap v)
    (hst : ∀ (i : Nat) (v : VCell), i ≤ s.stack.sp → s.stack.cells[i]? = some v → VRefsOk s.heap v)
    (hacc : VRefsOk s.heap s.acc) (hip : NF s.heap s.ipL) (hep : NF s.heap s.ep) :
    RootsOk (toHeap s.heap) ((rootsOf s).refs true) := by
  intro y hy
  show NF s.heap y
  simp only [Heap.Roots.refs, rootsOf, List.mem_append, List.mem_cons, List.not_mem_nil, or_false] at hy
  rcases hy with (((hy | hy) | hy) | hy) | hy
  · exact hsy y hy
  · obtain ⟨c, hc, he⟩ := List.mem_filterMap.mp hy
    obtain ⟨v, hv, rfl⟩ := List.mem_map.mp hc
    cases eraseV_asPtr he
    exact hgl _ hv y (by simp [eraseV, vrefs])
  · obtain ⟨c, hc, hx⟩ := vrefsList_mem_iff.mp hy
    obtain ⟨i, hi, hv⟩ := mem_take_succ.mp hc
    exact hst i c hi hv y hx
  · exact hacc y hy
  · rcases hy with rfl | rfl
    · exact hip
    · exact hep

theorem roots_glob (r : RootsOk (toHeap s.heap) ((rootsOf s).refs true)) (pl : Plain s.heap) {v : VCell}
    (hv : v ∈ s.heap.globals.toList) : VOk s.heap v := by
  have hp := pl.globals v hv
  refine ⟨hp, ?_⟩
  rcases plainGlob_cases hp with ⟨a, rfl⟩ | hf
  · refine VRefsOk.ptr.mpr (r a (mem_refs_slot ?_))
    simp only [rootsOf]
    exact List.mem_map.mpr ⟨_, hv, rfl⟩
  · exact .of_addrFree _ hf

theorem GoodI.accOk (g : GoodI s) : VOk s.heap s.acc := ⟨g.accv, roots_acc g.roots⟩

end roots

theorem NF.nonFree {h : CHeap} (wf : WFHeap true (toHeap h)) {y : Nat} {c : CCell} (x : NF h y)
    (hc : h.cells[y]? = some c) : (toHeap h).NonFree y := by
  rcases x with x | x
  · exact x
  · exfalso
    have hlt := lt_of_get_some hc
    have hb := wf.bound
    simp only [toHeap, Array.size_map] at hb
    unfold Heap.Sentinel at x
    omega

theorem HG.closed {h : CHeap} (g : HG h) {y : Nat} {c : CCell} (hy : (toHeap h).NonFree y) (hc : h.cells[y]? = some c) :
    CRefsOk h c := by
  intro z hz
  refine g.wf.closed y hy z ?_
  rw [toHeap_children, hc]; exact hz

theorem GoodI.good {s : St CHeap} (g : GoodI s) (sm : Small s.heap) (sd : StackDisc s) : Good s :=
  ⟨sm.sizeOk, g.hg.plain, g.hg.wf, g.roots, fun i l hc => (g.hg.lam i l hc).noIof, sd.bpLive, sd.frameLive⟩

/-- a closure as the dispatch sees it: the closure value itself, or a pointer to a closure cell -/
theorem callee_closure_cell {h : CHeap} {v : VCell} {l e : Nat} (hc : callee h v = .closure l e) :
    v = .closure l e ∨ ∃ p, v = .ptr p ∧ h.cells[p]? = some (CCell.val (.closure l e)) := by
  unfold callee at hc
  split at hc
  · rename_i p
    split at hc
    · rename_i cell hcell
      cases cell with
      | val w => cases w <;> simp only [calleeOfCell] at hc <;> cases hc; exact .inr ⟨p, rfl, hcell⟩
      | _ => simp only [calleeOfCell] at hc <;> cases hc
    · cases hc
  · cases hc; exact .inl rfl
  · cases hc
  · cases hc

end Marwood.Lemmas.Good
