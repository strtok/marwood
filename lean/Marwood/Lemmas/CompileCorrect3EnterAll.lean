import Marwood.Lemmas.CompileCorrect3Enter
import Marwood.Lemmas.CompileCorrect3VarArg
/-!
# T01.3 stage 3 — the prologue of a closure: `VARARG` (rest parameter) and `ENTER`

`enter_closure3`: the specification binds the parameters (`bindArgs`: one variable per fixed parameter, then a fresh
list of the remaining arguments for the rest parameter) and allocates the internally defined variables (`evalBody`);
the machine runs `[VARARG;] ENTER`. Afterwards the activation environment represents the specification's environment:
parameters readable, internal names not yet.
-/
namespace Marwood.Lemmas.CompileCorrect3
open Marwood Marwood.Vm Marwood.Lemmas.CompileCorrect Marwood.Lemmas.CompileCorrect2
open Marwood.Spec.Eval (Val Prim Cell Env evalN evalStep applyStep evalArgs properList quoteVal kwOf insertG
  k_quote k_if_ k_setBang k_define k_lambda)

variable {H : Type} {ops : HeapOps H} {D : RepData2 ops}

/-- where the specification puts slot `n` of an activation, from the first cell `bindArgs` allocates: the `np` fixed
    parameters; then, past the cells of the rest list (`na` arguments in all), the rest parameter and the internal
    definitions -/
def actLoc (base np na n : Nat) : Nat := if n < np then base + n else base + na + (n - np)

theorem actLoc_fix {base np na n : Nat} (h : n < np) : actLoc base np na n = base + n := if_pos h

theorem actLoc_rest (base np na i : Nat) : actLoc base np na (np + i) = base + na + i := by
  unfold actLoc
  rw [if_neg (Nat.not_lt.mpr (Nat.le_add_right _ _)), Nat.add_sub_cancel_left]

theorem actLoc_ge (base np na n : Nat) : base ≤ actLoc base np na n := by
  unfold actLoc; split <;> omega

theorem actLoc_inj {base np na n m : Nat} (h : np ≤ na) (e : actLoc base np na n = actLoc base np na m) : n = m := by
  unfold actLoc at e
  split at e <;> split at e <;> omega

theorem enter_closure3 (L : Laws3 D) {ps : List Text} {rest : Option Text} {body : List Datum} {ρc ρ' ρ2 : Env}
    {ws : List Val} {σ σ1 σ2 : SSt}
    (hbind : Spec.Eval.bindArgs ps rest ws ρc σ = .ok ρ' σ1)
    (halloc : Spec.Eval.allocVars ((Spec.Eval.leadingDefs body).map fun x => (x, Val.undef)) ρ' σ1 = .ok ρ2 σ2)
    {W : World} {s : MSt H} {lam cenv : Nat} {vs : List VCell} {st0 : Stack} {epc lc oc : Nat}
    (hcal : ops.callee s.heap s.acc = .closure lam cenv) (hclos : ClosOK3 D W s.heap lam cenv ps rest body ρc)
    (hi : Inv3 D W s.heap σ) (hvs : All2 (VR3 D W s.heap σ.store) vs ws) (hipL : s.ipL = lam) (hipO : s.ipO = 0)
    (hst : LiveEq (callFrame st0 vs epc lc oc) s.stack) (hw0 : SWF st0) (hw : SWF s.stack) :
    ∃ (f : Nat) (cst cst1 : CState) (p : LambdaParts) (bcode : List BC) (ints : List Text) (h' : H) (a : Nat)
      (W' : World) (stE : Stack) (nf : Nat),
      Steps ops s { s with heap := h', ep := a, stack := stE, bp := st0.sp + nf, ipO := p.prologue.length } ∧
      W.le W' ∧ Inv3 D W' h' σ2 ∧ EnvRep3 ops W' h' p.ctx a ρ2 (fun x => x ∈ ints) ∧ CtxOK p.ctx ∧
      F3B D.setG f p.ctx (bound ρ2) (fun x => x ∈ ints) ints p.body ∧
      compileBody f cst p.ctx p.prologue.length p.body = .ok (cst1, bcode) ∧
      cst1.lambdas <+: D.final ∧ properList p.body = some body ∧
      CodeAt2 D p.ctx.envmap h' σ2.store lam 0 (p.prologue ++ bcode ++ [.op .ret]) ∧
      SWF stE ∧ FrameAt stE (st0.sp + nf) ⟨nf, epc, lc, oc, s.bp, st0⟩ ∧
      Ext3 D s.heap σ.store h' σ2.store := by
  obtain ⟨f, cst, cst1, co, p, bcode, ints, caps, a1, a2, a3, a4, a5, a6, a7, a8, a9, a10, a11, a12, a13, a14, a15,
    a16, a17, a18, a19⟩ := hclos
  have hld : Spec.Eval.leadingDefs body = ints := leadingDefs_of_F3B a12 a6
  rw [hld] at halloc
  have hndf : (ps ++ rest.toList).Nodup := (List.nodup_append.mp a5).1
  have hndi : ints.Nodup := (List.nodup_append.mp a5).2.1
  have hdisj : ∀ x, x ∈ ps ++ rest.toList → x ∉ ints := fun x hx hxi =>
    (List.nodup_append.mp a5).2.2 x hx x hxi rfl
  obtain ⟨b1, b2, b3, b4, b5, b6, b7, b8, b9, b10⟩ := bindArgs3_inv ps rest ws ρc ρ' σ σ1 hndf hbind
  obtain ⟨c1, c2, c3, c4, c5, c6, c7⟩ := allocVars_undef_inv ints ρ' ρ2 σ1 σ2 hndi halloc
  have hsz1 : σ.store.size ≤ σ1.store.size := by omega
  -- the specification only grew the store: `Inv3` moves to `σ2` on the unchanged heap before the machine runs
  have hold : ∀ l, l < σ.store.size → σ2.store[l]? = σ.store[l]? := fun l hl => by
    rw [c4 l (by omega), b6 l hl]
  have hse : StoreExt σ.store σ2.store := StoreExt.ofPrefix (by omega) hold
  have hx0 : Ext3 D s.heap σ.store s.heap σ2.store := Ext3.storeOnly L s.heap hse
  have hbnd : ∀ e n l, W e n l → l < σ.store.size := by
    intro e n l hW
    obtain ⟨_, u, _, _, h3, _⟩ := hi.vars e n l hW
    exact lt_size_of_get h3
  have hi2 : Inv3 D W s.heap σ2 :=
    hi.frame hx0 (L.srx_store _ _ _ hse hi.extra) (c1.trans b3) (fun _ => rfl)
      (fun e n l hW => ⟨rfl, hold l (hbnd e n l hW)⟩)
  have hvs2 : All2 (VR3 D W s.heap σ2.store) vs ws := All2.vr3_mono hvs hx0 (World.le_refl _)
  have hvl : vs.length = ws.length := All2.length_eq hvs
  obtain ⟨hcode, hinfo⟩ := hi2.loaded _ _ a8
  rw [← a10] at hcode hinfo
  have hcodeP : CodeAt2 D p.ctx.envmap s.heap σ2.store lam 0 (p.prologue ++ bcode ++ [.op .ret]) := hcode
  have hbound : (fun x => x ∈ ps ++ rest.toList ++ ints ∨ bound ρc x) = bound ρ2 := by
    funext x
    apply propext
    have key : x ∈ ps ++ rest.toList ++ ints → bound ρ2 x := by
      intro hm
      rcases List.mem_append.mp hm with hm | hm
      · have hni := hdisj x hm
        show (ρ2.lookup x).isSome = true
        rw [c7 x hni]
        rcases List.mem_append.mp hm with hm | hm
        · obtain ⟨i, hi', hxi⟩ := List.getElem_of_mem hm
          have : ps[i]? = some x := by rw [List.getElem?_eq_getElem hi', hxi]
          simp [b8 i x this]
        · cases rest with
          | none => simp at hm
          | some rn =>
            have : x = rn := by simpa using hm
            subst this
            obtain ⟨lv, g1, _, _⟩ := b9 x rfl
            simp [g1]
      · obtain ⟨i, hi', hxi⟩ := List.getElem_of_mem hm
        have : ints[i]? = some x := by rw [List.getElem?_eq_getElem hi', hxi]
        show (ρ2.lookup x).isSome = true
        simp [c6 i x this]
    constructor
    · intro hx
      by_cases hm : x ∈ ps ++ rest.toList ++ ints
      · exact key hm
      · rcases hx with hx | hx
        · exact absurd hx hm
        · show (ρ2.lookup x).isSome = true
          have h1 : x ∉ ints := fun h => hm (List.mem_append_right _ h)
          have h2 : x ∉ ps ++ rest.toList := fun h => hm (List.mem_append_left _ h)
          rw [c7 x h1, b10 x h2]; exact hx
    · intro hx
      by_cases hm : x ∈ ps ++ rest.toList ++ ints
      · exact .inl hm
      · right
        show (ρc.lookup x).isSome = true
        have h1 : x ∉ ints := fun h => hm (List.mem_append_right _ h)
        have h2 : x ∉ ps ++ rest.toList := fun h => hm (List.mem_append_left _ h)
        rw [← b10 x h2, ← c7 x h1]; exact hx
  rw [hbound] at a12
  have hother : ∀ x, x ∉ ps ++ rest.toList ++ ints → ρ2.lookup x = ρc.lookup x := by
    intro x hm
    have h1 : x ∉ ints := fun h => hm (List.mem_append_right _ h)
    have h2 : x ∉ ps ++ rest.toList := fun h => hm (List.mem_append_left _ h)
    rw [c7 x h1, b10 x h2]
  have hil : ∀ i x, ints[i]? = some x → ρ2.lookup x = some (σ1.store.size + i) := c6
  have hiv : ∀ i, i < ints.length → ∃ w, σ2.store[σ1.store.size + i]? = some (.var w) := fun i hi' => ⟨_, c5 i hi'⟩
  cases rest with
  | none =>
    have hfs : ps ++ (none : Option Text).toList = ps := by simp
    rw [hfs] at a1 a5 a14 a17 hother
    have hwl : ws.length = ps.length := b2 rfl
    have hpro : p.prologue = [.op .enter] := by rw [a4, a2]; rfl
    have b5' : σ1.store.size = σ.store.size + ws.length := by simpa using b5
    obtain ⟨h', a, W', stE, hsE, hwW, hi1, her1, hcx, hwE, hfrE, hext⟩ :=
      enter_core L (loc := actLoc σ.store.size ps.length ws.length) (bnd := σ.store.size) (pos := 0) (ρ2 := ρ2)
        (ρc := ρc) hcal (a3.trans a1) a1 a8 a10 a11 a13 a14 a15 a16 a17 a18 a19 (by rw [hpro]; rfl) hi2 hvs2
        (hvl.trans hwl) hipL hipO hst hw0 hw hbnd (fun n _ => actLoc_ge _ _ _ _) (fun n m _ _ e => actLoc_inj b1 e)
        (by
          intro i x hx
          have hlt : i < ps.length := (List.getElem?_eq_some_iff.mp hx).1
          have hni : x ∉ ints := hdisj x (by simpa using List.mem_of_getElem? hx)
          rw [actLoc_fix hlt, c7 x hni]; exact b8 i x hx)
        (by
          intro i w hw'
          have hlt : i < ps.length := hwl ▸ (List.getElem?_eq_some_iff.mp hw').1
          rw [actLoc_fix hlt, c4 _ (by rw [b5', hwl]; exact Nat.add_lt_add_left hlt _)]; exact b7 i w hlt hw')
        (by intro i x hx; rw [actLoc_rest, ← b5']; exact hil i x hx)
        (by intro i hi'; rw [actLoc_rest, ← b5']; exact hiv i hi')
        hother
    refine ⟨f, cst, cst1, p, bcode, ints, h', a, W', stE, vs.length, ?_, hwW, hi1, her1, hcx, a12, a7, a9, a6,
      hcodeP.ext hext.toExt2, hwE, hfrE, hx0.trans hext⟩
    have : p.prologue.length = s.ipO + 1 := by rw [hpro, hipO]; rfl
    rw [this]
    exact Steps.one hsE
  | some rn =>
    have hfs : ps ++ (some rn : Option Text).toList = ps ++ [rn] := by simp
    rw [hfs] at a1 a5 a14 a17 hother
    have hpro : p.prologue = [.op .varArg, .op .enter] := by rw [a4, a2]; rfl
    have b5' : σ1.store.size = σ.store.size + ws.length + 1 := by simpa using b5
    obtain ⟨lv, g1, g2, g3⟩ := b9 rn rfl
    have hlist : ListIn σ2.store lv (ws.drop ps.length) := ListIn.mono_of_lt c4 g3
    have hinfo' : ops.lambdaInfo s.heap s.ipL = some ⟨ps.length + 1⟩ := by
      rw [hipL, hinfo]; simp [lamOf, a1]
    have hf0 : ops.fetch s.heap s.ipL s.ipO = some (.opcode .varArg) := by
      have := hcodeP.op 0 (o := .varArg) (by rw [hpro]; rfl)
      rw [hipL, hipO]; simpa using this
    obtain ⟨h1, lst, st1, hstepV, hlive1, hswf1, hvrl, hs3⟩ :=
      varArg_ok L (by rw [hipL]; exact a11) hf0 hinfo' hi2.extra hvs2 (hvl ▸ b1) hlist hst hw0 hw
    have hvs1 : All2 (VR3 D W h1 σ2.store) (vs.take ps.length ++ [.ptr lst]) (ws.take ps.length ++ [lv]) :=
      all2_snoc (all2_take _ (All2.vr3_mono hvs2 hs3.ext (World.le_refl _))) hvrl
    have hi3 : Inv3 D W h1 σ2 := hi2.step3 hs3
    obtain ⟨k1, _, _, k4⟩ := hs3.ext.code lam a11
    have hlen1 : (vs.take ps.length ++ [VCell.ptr lst]).length = ps.length + 1 := by
      rw [List.length_append, List.length_take, Nat.min_eq_left (hvl ▸ b1)]; rfl
    have hlenw : (ws.take ps.length).length = ps.length := by rw [List.length_take, Nat.min_eq_left b1]
    have hfl : (ps ++ [rn]).length = ps.length + 1 := List.length_append
    -- slot `ps.length` is the rest parameter
    have hlocR : actLoc σ.store.size ps.length ws.length ps.length = σ.store.size + ws.length :=
      actLoc_rest _ _ _ 0
    obtain ⟨h', a, W', stE, hsE, hwW, hi1, her1, hcx, hwE, hfrE, hext⟩ :=
      enter_core L (s := { s with heap := h1, stack := st1, ipO := s.ipO + 1 })
        (loc := actLoc σ.store.size ps.length ws.length) (bnd := σ.store.size) (pos := 1) (ρ2 := ρ2) (ρc := ρc)
        (hs3.ext.clos _ _ _ hcal) (a3.trans a1) a1 a8 a10 k1 (k4.trans a13) a14 a15
        (fun j hj => by obtain ⟨g, hg⟩ := a16 j hj; exact hs3.ext.toExt2.envSome hg)
        (fun j x hj hx => by
          obtain ⟨e, n, l, q1, q2, q3, q4⟩ := a17 j x hj hx
          exact ⟨e, n, l, hs3.ext.envPtr _ _ _ _ q1, q2, q3, hs3.ext.init _ _ q4⟩)
        (hs3.ext.envOK _ a18) (fun j x hx => hs3.ext.undefOK _ _ a18 (a19 j x hx)) (by rw [hpro]; rfl) hi3 hvs1
        (hlen1.trans hfl.symm) hipL (by show s.ipO + 1 = 1; rw [hipO]) hlive1 hw0 hswf1 hbnd
        (fun n _ => actLoc_ge _ _ _ _) (fun n m _ _ e => actLoc_inj b1 e)
        (by
          intro i x hx
          have hni : x ∉ ints := hdisj x (by simpa using List.mem_of_getElem? hx)
          rw [c7 x hni]
          rcases Nat.lt_or_ge i ps.length with hlt | hge
          · rw [actLoc_fix hlt]
            rw [List.getElem?_append_left hlt] at hx
            exact b8 i x hx
          · obtain rfl : i = ps.length := by
              have := (List.getElem?_eq_some_iff.mp hx).1
              rw [hfl] at this
              exact Nat.le_antisymm (Nat.le_of_lt_succ this) hge
            obtain rfl : x = rn := by simpa using hx.symm
            rw [hlocR]; exact g1)
        (by
          intro i w hw'
          rcases Nat.lt_or_ge i ps.length with hlt | hge
          · rw [actLoc_fix hlt, c4 _ (by rw [b5']; omega)]
            rw [List.getElem?_append_left (hlenw.symm ▸ hlt), List.getElem?_take, if_pos hlt] at hw'
            exact b7 i w hlt hw'
          · obtain rfl : i = ps.length := by
              have := (List.getElem?_eq_some_iff.mp hw').1
              rw [List.length_append, hlenw] at this
              exact Nat.le_antisymm (Nat.le_of_lt_succ this) hge
            rw [List.getElem?_append_right (Nat.le_of_eq hlenw), hlenw, Nat.sub_self] at hw'
            obtain rfl : lv = w := by simpa using hw'
            rw [hlocR, c4 _ (by rw [b5']; exact Nat.lt_succ_self _)]; exact g2)
        (by
          intro i x hx
          rw [hfl, Nat.add_assoc, actLoc_rest, ← Nat.add_assoc, ← b5']; exact hil i x hx)
        (by
          intro i hi'
          rw [hfl, Nat.add_assoc, actLoc_rest, ← Nat.add_assoc, ← b5']; exact hiv i hi')
        hother
    refine ⟨f, cst, cst1, p, bcode, ints, h', a, W', stE, ps.length + 1, ?_, hwW, hi1, her1, hcx, a12, a7, a9, a6,
      (hcodeP.ext hs3.ext.toExt2).ext hext.toExt2, hwE, by rw [← hlen1]; exact hfrE, (hx0.trans hs3.ext).trans hext⟩
    have hpl : p.prologue.length = s.ipO + 1 + 1 := by rw [hpro, hipO]; rfl
    rw [hpl, ← hlen1]
    exact .cons hstepV (Steps.one hsE)

end Marwood.Lemmas.CompileCorrect3
