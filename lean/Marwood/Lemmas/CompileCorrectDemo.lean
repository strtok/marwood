import Marwood.Lemmas.CompileCorrectConcrete
/-!
# T01.3 stage 1 — the builtin hypothesis is satisfiable: a concrete machine with `not`

`notExt` gives the concrete machine one generic builtin (every id behaves as `not`); the encoding supports the
primitive `not` (builtin id 7). All of `AtomLaws` then holds (`not_atomLaws`), including `builtin`, which
`concrete_atomLaws` leaves as a hypothesis, and `demo_not_runs` applies the main theorem to `(not #t)`.
-/
namespace Marwood.Lemmas.CompileCorrect
open Marwood Marwood.Vm Marwood.Vm.Concrete
open Marwood.Spec.Eval (Val Prim applyPrim1 truthy)

def notExt : ExtOps where
  builtinKind _ _ := .generic
  builtinEval h _ args := match args with
    | [v] => .ok (h, .bool (Concrete.deref h v == .bool false))
    | _ => .err .invalidNumArgs
  compileEval _ _ := .err .invalidSyntax
  vectorPush _ _ _ := .err .invalidSyntax

def notEnc (int : Int → String) (char : Char → String) (str sym : Text → String) : AtomEnc :=
  ⟨int, char, str, sym, fun p => if p = .not then some 7 else none⟩

theorem not_truthy_iff (x : Val) : (!truthy x) = true ↔ x = .bool false :=
  ⟨fun h => eq_false_of_not_truthy (by simpa using h), fun h => by subst h; rfl⟩

theorem atomVR_deref {ext : ExtOps} {E : AtomEnc} {h : CHeap} {S : Array Spec.Eval.Cell} {v : VCell} {x : Val}
    (hv : atomVR (concreteOps ext) E h S v x) : ∃ c, E.cell x = some c ∧ Concrete.deref h v = c := by
  obtain ⟨c, hc, hv⟩ := hv
  refine ⟨c, hc, ?_⟩
  rcases hv with rfl | ⟨p, rfl, hg⟩
  · exact deref_of_not_ptr (cell_not_ptr hc)
  · exact hg

theorem not_atomLaws (int : Int → String) (char : Char → String) (str sym : Text → String)
    (named : Text → Prop) (slot : Text → Nat)
    (hinj : ∀ a b, named a → named b → slot a = slot b → a = b) :
    AtomLaws (concreteOps notExt) (notEnc int char str sym) (concreteBase notExt named slot) := by
  refine concrete_atomLaws notExt _ named slot hinj ?_ ?_
  · intro p id h
    simp only [notEnc] at h
    split at h
    · rename_i hp; subst hp; exact ⟨by decide, by decide, by decide, by decide, by decide⟩
    · cases h
  · intro h σ p id vs ws w σ' l hsr hp hvs hap
    simp only [notEnc] at hp
    split at hp
    · rename_i hpn
      subst hpn
      cases hp
      refine ⟨rfl, ?_⟩
      match ws, hvs, hap with
      | [], _, hap => cases hap
      | [x], hvs, hap =>
        cases hvs with
        | cons hv ht =>
          cases ht
          rename_i v
          have hw : w = .bool (!truthy x) ∧ σ' = σ := by
            change Spec.Eval.Res.ok (Val.bool (!truthy x)) σ = _ at hap
            injection hap with h1 h2
            exact ⟨h1.symm, h2.symm⟩
          obtain ⟨rfl, rfl⟩ := hw
          obtain ⟨c, hc, hd⟩ := atomVR_deref hv
          refine ⟨h, .bool (Concrete.deref h v == .bool false), rfl, ?_, hsr, Evolves.refl _ _ _⟩
          refine ⟨.bool (!truthy x), rfl, .inl ?_⟩
          congr 1
          rw [hd]
          have h1 := cell_false_iff hc
          have h2 := not_truthy_iff x
          by_cases hx : x = .bool false
          · rw [h1.mpr hx, h2.mpr hx]; rfl
          · have hc' : ¬ c = .bool false := fun e => hx (h1.mp e)
            have ht : ¬ (!truthy x) = true := fun e => hx (h2.mp e)
            simp only [Bool.not_eq_true] at ht
            rw [ht]
            simpa using hc'
      | x :: y :: r, _, hap => cases hap
    · cases hp

def k_not : Text := ['n', 'o', 't']

def notExpr : Datum := .pair (.sym k_not) (.pair (.bool true) .nil)

def notCode : List BC :=
  [.op .movImm, .datum (.bool true), .acc, .op .pushAcc, .op .pushImm, .argc 1,
   .op .mov, .global k_not, .acc, .op .callAcc]

def notHeap : CHeap :=
  { chunk := 1
    cells := #[.lambda ⟨[.opcode .movImm, .bool true, .acc, .opcode .pushAcc, .opcode .pushImm, .argc 1,
                         .opcode .mov, .globSlot 0, .acc, .opcode .callAcc], [], []⟩]
    gc := #[.allocated], free := [], symtab := [], globSyms := [], globals := #[.builtin 7] }

def notState : MSt CHeap :=
  { heap := notHeap, stack := ⟨[.undefined, .undefined, .undefined, .undefined], 0⟩, acc := .undefined,
    ep := 0, ipL := 0, ipO := 0, bp := 0 }

def notSpecSt : SSt := { globals := [(k_not, .prim .not)], store := #[], out := [] }

theorem notExpr_frag : Frag notExpr := by
  refine .app _ _ ⟨by decide, ?_⟩ (.sym _) (.cons _ _ (.bool true) .nil)
  intro x hx; cases hx; decide

theorem notExpr_compile : compileExpr 3 {} c0 0 false notExpr = .ok ({}, notCode) := by
  with_unfolding_all rfl

theorem notExpr_eval : (Spec.Eval.evalN 3).eval notExpr [] notSpecSt = .ok (.bool false) notSpecSt := by
  rfl

theorem demo_not_runs (int : Int → String) (char : Char → String) (str sym : Text → String) :
    ∃ s', ExprRun (atomData (concreteOps notExt) (notEnc int char str sym)
        (concreteBase notExt (fun x => x = k_not) (fun _ => 0)))
      notState 10 notSpecSt notSpecSt (.bool false) s' := by
  refine compileExpr_correct_atoms
    (not_atomLaws int char str sym (fun x => x = k_not) (fun _ => 0) (by intro a b ha hb _; rw [ha, hb]))
    3 {} 0 false notExpr {} notCode notExpr_frag notExpr_compile 3 notSpecSt (.bool false) notSpecSt
    notExpr_eval notState (CodeAt.ofCells _ rfl (fun i _ => by rw [Nat.zero_add]; rfl) ?_) rfl ⟨?_, ?_, ?_⟩
    (by show 0 < 4; omega)
  · exact .cons rfl (.cons (loads_true _ _) (.cons rfl (.cons rfl (.cons rfl (.cons rfl (.cons rfl
      (.cons ⟨rfl, rfl⟩ (.cons rfl (.cons rfl .nil)))))))))
  · intro x w hx hl
    cases (show x = k_not from hx)
    have : w = .prim .not := by
      have : notSpecSt.globals.lookup k_not = some (.prim .not) := by decide
      rw [this] at hl; injection hl with hl; exact hl.symm
    subst this
    exact ⟨.builtin 7, rfl, .inl rfl⟩
  · intro x hx hl
    cases (show x = k_not from hx)
    have : notSpecSt.globals.lookup k_not = some (.prim .not) := by decide
    rw [this] at hl; cases hl
  · intro x hx
    show (fun _ => 0) x < notHeap.globals.size
    show 0 < 1
    omega

end Marwood.Lemmas.CompileCorrect
