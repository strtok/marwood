import Marwood.Lemmas.CompileCorrect3Cases
/-!
# T01.3 stage 3 — the dispatch of `CALL` / `TCALL` on a represented procedure, as a statement of its own

`disp3_ok`: `CALL`/`TCALL` with a represented procedure in `acc`, the represented operands and their number on the stack,
the specification's `apply` returning: the machine runs to the state behind the call, or — `TCALL` of a closure — to the
state the `RET` of the current activation would have left. The `apply` re-dispatch ends in it. It DUPLICATES the case
distinction (closure / primitive) of `CompileSimApp.app_res`, through which the main theorem goes.
-/
namespace Marwood.Lemmas.CompileCorrect3
open Marwood Marwood.Vm Marwood.Lemmas.CompileCorrect Marwood.Lemmas.CompileCorrect2
open Marwood.Spec.Eval (Val Prim Cell Env evalN evalStep applyStep evalArgs properList quoteVal kwOf insertG
  k_quote k_if_ k_setBang k_define k_lambda)

variable {H : Type} {ops : HeapOps H} {D : RepData2 ops}

/-- `stk0`: the stack before the operands were pushed -/
structure CallRun3 (D : RepData2 ops) (W' : World) (s : MSt H) (stk0 : Stack) (σ σ' : SSt) (w : Val) (s' : MSt H) :
    Prop where
  steps : Steps ops s s'
  ipL : s'.ipL = s.ipL
  ipO : s'.ipO = s.ipO + 1
  bp : s'.bp = s.bp
  ep : s'.ep = s.ep
  stack : LiveEq stk0 s'.stack
  swf : SWF s'.stack
  acc : VR3 D W' s'.heap σ'.store s'.acc w
  inv : Inv3 D W' s'.heap σ'
  ext : Ext3 D s.heap σ.store s'.heap σ'.store

def DispOut (D : RepData2 ops) (W' : World) (s : MSt H) (stk0 : Stack) (σ σ' : SSt) (w : Val) (tail : Bool)
    (fr : Frame) (s' : MSt H) : Prop :=
  CallRun3 D W' s stk0 σ σ' w s' ∨ (tail = true ∧ Ret3 D W' s σ σ' w fr s')

theorem disp3_ok (L : Laws3 D) {n : Nat} (ihc : CallOK3 D n) {tail : Bool} {em : List (Text × Source)} {W : World}
    {s : MSt H} {fr : Frame} {stk0 : Stack} {σ σ' : SSt} {fv w : Val} {vs : List VCell} {ws : List Val}
    (hc : CodeAt2 D em s.heap σ.store s.ipL s.ipO [BC.op (if tail = true then .tcallAcc else .callAcc)])
    (hacc : VR3 D W s.heap σ.store s.acc fv) (hi : Inv3 D W s.heap σ)
    (hvals : All2 (VR3 D W s.heap σ.store) vs ws)
    (hst : LiveEq ((pushAll stk0 vs).push (.argc vs.length)) s.stack) (hw0 : SWF stk0) (hw : SWF s.stack)
    (hfrm : tail = true → FrameAt stk0 s.bp fr)
    (hap : (evalN n).apply fv ws σ = .ok w σ') :
    ∃ W' s', W.le W' ∧ DispOut D W' s stk0 σ σ' w tail fr s' := by
  cases n with
  | zero => cases hap
  | succ m =>
    cases fv with
    | closure ps rest body ρc =>
      obtain ⟨lam, cenv, hcal, hok⟩ := VR3.closure_inv L hacc
      cases tail with
      | false =>
        have hcall := step_call_closure hc.1 (hc.op 0 rfl) hcal
        have hst4 : LiveEq (callFrame stk0 vs s.ep s.ipL (s.ipO + 1))
            ((s.stack.push (.envPtr s.ep)).push (.instrPtr s.ipL (s.ipO + 1))) := by
          unfold callFrame
          exact ((hst.push (push_swf _ _) hw _).push (push_swf _ _) (push_swf _ _) _)
        obtain ⟨W5, s5, hw5, st5, i1, i2, i3, i4, i5, i6, i7, i8, i9⟩ :=
          ihc ps rest body ρc ws σ w σ' hap W
            { s with stack := (s.stack.push (.envPtr s.ep)).push (.instrPtr s.ipL (s.ipO + 1)),
                     ipL := lam, ipO := 0 }
            lam cenv vs stk0 s.ep s.ipL (s.ipO + 1) hcal hok hi hvals rfl rfl hst4 hw0 (push_swf _ _)
        exact ⟨W5, s5, hw5, .inl ⟨.cons hcall st5, i1, i2, i4, i3, i5, i6, i7, i8, i9⟩⟩
      | true =>
        have hfr0 := hfrm rfl
        obtain ⟨st4, htc, hst4, hw4⟩ := step_tcall_closure (fr := fr) hc.1 (hc.op 0 rfl) hcal hfr0 hw0 hst hw
        obtain ⟨W5, s5, hw5, st5, i1, i2, i3, i4, i5, i6, i7, i8, i9⟩ :=
          ihc ps rest body ρc ws σ w σ' hap W { s with stack := st4, bp := fr.bpc, ipL := lam, ipO := 0 }
            lam cenv vs fr.st0 fr.epc fr.lc fr.oc hcal hok hi hvals rfl rfl hst4 hfr0.swf0 hw4
        exact ⟨W5, s5, hw5, .inr ⟨rfl, ⟨.cons htc st5, i1, i2, i3, i4, i5, i6, i7, i8, i9⟩⟩⟩
    | prim p =>
      have hvf : D.VR s.heap σ.store s.acc (.prim p) := (VR3.prim_inv L hacc).1
      obtain ⟨id, h', r, hcal, hkind, hres, hvr, hinv, hext⟩ :=
        L.call (m + 1) W s.heap σ s.acc p vs ws w σ' hi hvf hvals hap
      obtain ⟨st', hstep, hl', hw'⟩ := step_call_builtin hc.1 (hc.op 0 rfl) hcal hkind hst hw0 hw hres
      exact ⟨W, _, World.le_refl _, .inl ⟨Steps.one hstep, rfl, rfl, rfl, rfl, hl', hw', hvr, hinv, hext⟩⟩
    | _ => cases hap

end Marwood.Lemmas.CompileCorrect3
