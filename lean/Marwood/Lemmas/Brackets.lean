import Marwood.Spec.Brackets
/-!
# The counting scan of `find_matching_bracket` computes the stack-discipline partner
-/
namespace Marwood
open Marwood.Spec

/-- index-returning version of `countScan` on token types (relative index) -/
def countIdx (have_ want : TokType → Bool) : Nat → List TokType → Option Nat
  | _, [] => none
  | n, t :: ts =>
    let n1 := if have_ t then n + 1 else n
    if want t then (if n1 = 0 then some 0 else (countIdx have_ want (n1 - 1) ts).map (· + 1))
    else (countIdx have_ want n1 ts).map (· + 1)

theorem countScan_eq_countIdx (h w : TokType → Bool) : ∀ (ts : List Token) (n : Nat),
    countScan h w n ts = (countIdx h w n (ts.map (·.ty))).bind (fun r => ts[r]?) := by
  intro ts
  induction ts with
  | nil => intro n; simp [countScan, countIdx]
  | cons t ts ih =>
    intro n
    simp only [countScan, countIdx, List.map_cons]
    by_cases hw : w t.ty = true <;> by_cases hh : h t.ty = true <;>
      simp only [hw, hh, if_true, if_false, Bool.false_eq_true]
    · rw [ih]; simp; cases countIdx h w n (List.map (fun x => x.ty) ts) <;> simp
    · by_cases hn : n = 0
      · simp [hn]
      · simp only [hn, if_false]; rw [ih]
        cases countIdx h w (n - 1) (List.map (fun x => x.ty) ts) <;> simp
    · rw [ih]; cases countIdx h w (n + 1) (List.map (fun x => x.ty) ts) <;> simp
    · rw [ih]; cases countIdx h w n (List.map (fun x => x.ty) ts) <;> simp

theorem countIdx_at (h w : TokType → Bool) : ∀ (l : List TokType) (n r : Nat),
    countIdx h w n l = some r → ∃ t, l[r]? = some t ∧ w t = true := by
  intro l
  induction l with
  | nil => intro n r hr; simp [countIdx] at hr
  | cons t ts ih =>
    intro n r hr
    simp only [countIdx] at hr
    by_cases hw : w t = true
    · simp only [hw, if_true] at hr
      by_cases h0 : (if h t = true then n + 1 else n) = 0
      · simp only [h0, if_true] at hr; cases hr; exact ⟨t, rfl, hw⟩
      · simp only [h0, if_false] at hr
        obtain ⟨v, hv, rfl⟩ := Option.map_eq_some_iff.mp hr
        simpa using ih _ v hv
    · simp only [hw, Bool.false_eq_true, if_false] at hr
      obtain ⟨v, hv, rfl⟩ := Option.map_eq_some_iff.mp hr
      simpa using ih _ v hv

theorem isOpen_not_isClose {t : TokType} (h : t.isOpen = true) : t.isClose = false := by
  cases t <;> simp_all [TokType.isOpen, TokType.isClose]

def stackAfter : Nat → List Nat → List TokType → List Nat
  | _, st, [] => st
  | i, st, t :: ts =>
    if t.isOpen then stackAfter (i+1) (i :: st) ts
    else if t.isClose then stackAfter (i+1) st.tail ts
    else stackAfter (i+1) st ts

/-- opener positions, innermost first. Strict decrease makes them distinct, so `find? (·.1 == st[n])`
hits the pair of entry `n` and no other. -/
def ValidStack (i : Nat) (st : List Nat) : Prop := st.Pairwise (· > ·) ∧ ∀ x ∈ st, x < i

theorem ValidStack.push {i st} (h : ValidStack i st) : ValidStack (i+1) (i :: st) := by
  refine ⟨List.pairwise_cons.mpr ⟨fun x hx => h.2 x hx, h.1⟩, ?_⟩
  intro x hx
  rcases List.mem_cons.mp hx with rfl | hx
  · omega
  · have := h.2 x hx; omega

theorem ValidStack.tail {i st} (h : ValidStack i st) : ValidStack (i+1) st.tail := by
  refine ⟨h.1.sublist (List.tail_sublist st), ?_⟩
  intro x hx
  have := h.2 x (List.mem_of_mem_tail hx); omega

theorem ValidStack.step {i st} (h : ValidStack i st) : ValidStack (i+1) st :=
  ⟨h.1, fun x hx => by have := h.2 x hx; omega⟩

theorem stackAfter_valid : ∀ (tys : List TokType) (i : Nat) (st : List Nat),
    ValidStack i st → ValidStack (i + tys.length) (stackAfter i st tys) := by
  intro tys
  induction tys with
  | nil => intro i st h; simpa [stackAfter] using h
  | cons t ts ih =>
    intro i st h
    simp only [stackAfter, List.length_cons]
    have e : i + (ts.length + 1) = (i + 1) + ts.length := by omega
    rw [e]
    split
    · exact ih _ _ h.push
    · split
      · exact ih _ _ h.tail
      · exact ih _ _ h.step

theorem pairsGo_append : ∀ (pre rest : List TokType) (i : Nat) (st : List Nat),
    pairsGo i st (pre ++ rest)
      = pairsGo i st pre ++ pairsGo (i + pre.length) (stackAfter i st pre) rest := by
  intro pre
  induction pre with
  | nil => intro rest i st; simp [pairsGo, stackAfter]
  | cons t ts ih =>
    intro rest i st
    have e : i + (ts.length + 1) = (i + 1) + ts.length := by omega
    simp only [List.cons_append, pairsGo, stackAfter, List.length_cons, e]
    split
    · exact ih _ _ _
    · split
      · cases st with
        | nil => simpa using ih rest (i+1) []
        | cons o st' => simp [ih]
      · exact ih _ _ _

theorem stackAfter_append : ∀ (pre rest : List TokType) (i : Nat) (st : List Nat),
    stackAfter i st (pre ++ rest) = stackAfter (i + pre.length) (stackAfter i st pre) rest := by
  intro pre
  induction pre with
  | nil => intro rest i st; simp [stackAfter]
  | cons t ts ih =>
    intro rest i st
    have e : i + (ts.length + 1) = (i + 1) + ts.length := by omega
    simp only [List.cons_append, stackAfter, List.length_cons, e]
    split
    · exact ih _ _ _
    · split <;> exact ih _ _ _

theorem pairsGo_bounds : ∀ (tys : List TokType) (i : Nat) (st : List Nat) (p : Nat × Nat),
    p ∈ pairsGo i st tys → (i ≤ p.2 ∧ p.2 < i + tys.length) ∧ (p.1 ∈ st ∨ (i ≤ p.1 ∧ p.1 < i + tys.length)) := by
  intro tys
  induction tys with
  | nil => intro i st p h; simp [pairsGo] at h
  | cons t ts ih =>
    intro i st p h
    simp only [pairsGo] at h
    simp only [List.length_cons]
    split at h
    · have := ih _ _ _ h
      refine ⟨by omega, ?_⟩
      rcases this.2 with h1 | h1
      · rcases List.mem_cons.mp h1 with h2 | h2
        · right; omega
        · left; exact h2
      · right; omega
    · split at h
      · cases st with
        | nil =>
          have := ih _ _ _ h
          refine ⟨by omega, ?_⟩
          rcases this.2 with h1 | h1
          · simp at h1
          · right; omega
        | cons o st' =>
          rcases List.mem_cons.mp h with rfl | h
          · exact ⟨by simp, by simp⟩
          · have := ih _ _ _ h
            refine ⟨by omega, ?_⟩
            rcases this.2 with h1 | h1
            · left; exact List.mem_cons_of_mem _ h1
            · right; omega
      · have := ih _ _ _ h
        refine ⟨by omega, ?_⟩
        rcases this.2 with h1 | h1
        · left; exact h1
        · right; omega

/-- forward: the counter started at depth `n` finds the closer of stack entry `n` -/
theorem pairsGo_find_fst : ∀ (tys : List TokType) (i : Nat) (st : List Nat) (n : Nat)
    (hn : n < st.length), ValidStack i st →
    (pairsGo i st tys).find? (fun p => p.1 == st[n])
      = (countIdx TokType.isOpen TokType.isClose n tys).map (fun r => (st[n], i + r)) := by
  intro tys
  induction tys with
  | nil => intro i st n hn hv; simp [pairsGo, countIdx]
  | cons t ts ih =>
    intro i st n hn hv
    simp only [pairsGo, countIdx]
    by_cases ho : t.isOpen = true
    · have hc := isOpen_not_isClose ho
      simp only [ho, hc, if_true]
      have := ih (i+1) (i :: st) (n+1) (by simpa using hn) hv.push
      simp only [List.getElem_cons_succ] at this
      rw [this]
      cases countIdx TokType.isOpen TokType.isClose (n+1) ts <;> simp <;> omega
    · simp only [ho]
      by_cases hc : t.isClose = true
      · simp only [hc, if_true]
        cases st with
        | nil => simp at hn
        | cons o st' =>
          cases n with
          | zero => simp
          | succ m =>
            have hne : o ≠ st'[m]'(by simpa using hn) := by
              have : o > st'[m]'(by simpa using hn) :=
                (List.pairwise_cons.mp hv.1).1 (st'[m]'(by simpa using hn)) (List.getElem_mem _)
              omega
            simp only [List.getElem_cons_succ, Bool.false_eq_true, if_false]
            rw [List.find?_cons_of_neg (by simpa using hne)]
            have hv' : ValidStack (i+1) st' := hv.tail
            have := ih (i+1) st' m (by simpa using hn) hv'
            rw [this]
            simp only [Nat.add_one_ne_zero, if_false, Nat.add_sub_cancel, Option.map_map]
            cases countIdx TokType.isOpen TokType.isClose m ts <;> simp <;> omega
      · simp only [hc, Bool.false_eq_true, if_false]
        have := ih (i+1) st n hn hv.step
        rw [this]
        cases countIdx TokType.isOpen TokType.isClose n ts <;> simp <;> omega

/-- backward: over the reversed prefix, closers counting up, it finds entry `n` of the stack built so far -/
theorem countIdx_backward_rev : ∀ (q : List TokType) (n : Nat),
    (countIdx TokType.isClose TokType.isOpen n q).map (fun r => q.length - 1 - r)
      = (stackAfter 0 [] q.reverse)[n]? := by
  intro q
  induction q with
  | nil => intro n; simp [countIdx, stackAfter]
  | cons x p ih =>
    intro n
    rw [List.reverse_cons, stackAfter_append]
    simp only [countIdx, stackAfter, Nat.zero_add, List.length_cons, List.length_reverse]
    by_cases ho : x.isOpen = true
    · have hc := isOpen_not_isClose ho
      simp only [ho, hc, Bool.false_eq_true, if_false, if_true]
      cases n with
      | zero => simp
      | succ m =>
        simp only [Nat.add_one_ne_zero, if_false, Nat.add_sub_cancel, List.getElem?_cons_succ]
        rw [← ih m]
        cases countIdx TokType.isClose TokType.isOpen m p <;> simp <;> omega
    · simp only [ho, Bool.false_eq_true, if_false]
      by_cases hc : x.isClose = true
      · simp only [hc, if_true]
        have := ih (n+1)
        rw [List.getElem?_tail, ← this]
        cases countIdx TokType.isClose TokType.isOpen (n+1) p <;> simp <;> omega
      · simp only [hc, Bool.false_eq_true, if_false]
        rw [← ih n]
        cases countIdx TokType.isClose TokType.isOpen n p <;> simp <;> omega

theorem countIdx_backward (pre : List TokType) (n : Nat) :
    (countIdx TokType.isClose TokType.isOpen n pre.reverse).map (fun r => pre.length - 1 - r)
      = (stackAfter 0 [] pre)[n]? := by
  have := countIdx_backward_rev pre.reverse n
  simpa using this

end Marwood
