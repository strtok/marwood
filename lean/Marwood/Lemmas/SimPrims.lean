import Marwood.Lemmas.SimAlloc
/-!
# Heap simulation: outcomes, the decoding of frame cells, and the stack operations

`ORel R x y`: both `ok` with `R`-related results, or the same error, or the same panic. `ORel.bind` makes the step lemmas
follow the `do` blocks of `Machine.lean` line by line.
-/
namespace Marwood.Lemmas.Sim
open Marwood Marwood.Vm Marwood.Vm.Concrete
open Marwood.Heap (GcState)

inductive ORel {α β : Type} (R : α → β → Prop) : Outcome α → Outcome β → Prop
  | ok {a b} : R a b → ORel R (.ok a) (.ok b)
  | err {e} : ORel R (.err e) (.err e)
  | panic {s} : ORel R (.panic s) (.panic s)

theorem ORel.bind {α β γ δ : Type} {R : α → β → Prop} {Q : γ → δ → Prop} {x : Outcome α} {y : Outcome β}
    {f : α → Outcome γ} {g : β → Outcome δ} (h : ORel R x y) (hf : ∀ a b, R a b → ORel Q (f a) (g b)) :
    ORel Q (x >>= f) (y >>= g) := by
  cases h with
  | ok r => exact hf _ _ r
  | err => exact .err
  | panic => exact .panic

theorem ORel.imp {α β : Type} {R Q : α → β → Prop} {x y} (h : ORel R x y) (hq : ∀ a b, R a b → Q a b) :
    ORel Q x y := by
  cases h with
  | ok r => exact .ok (hq _ _ r)
  | err => exact .err
  | panic => exact .panic

theorem usub_rel (a b : Nat) (site : String) : ORel Eq (usub a b site) (usub a b site) := by
  unfold usub; split
  · exact .ok rfl
  · exact .panic

theorem asPtr_rel {φ : Inj} {v v'} (h : VRel φ v v') : ORel (AddrRel φ) (asPtr v) (asPtr v') := by
  cases h with
  | ptr h1 => exact .ok h1
  | atom h1 => cases v <;> first | exact .err | simp [addrFree] at h1
  | _ => exact .err

theorem asArgc_rel {φ : Inj} {v v'} (h : VRel φ v v') : ORel Eq (asArgc v) (asArgc v') := by
  cases h with
  | atom h1 => cases v <;> first | exact .err | exact .ok rfl
  | _ => exact .err

theorem asBp_rel {φ : Inj} {v v'} (h : VRel φ v v') : ORel Eq (asBp v) (asBp v') := by
  cases h with
  | atom h1 => cases v <;> first | exact .err | exact .ok rfl
  | _ => exact .err

theorem asEp_rel {φ : Inj} {v v'} (h : VRel φ v v') : ORel (AddrRel φ) (asEp v) (asEp v') := by
  cases h with
  | envPtr h1 => exact .ok h1
  | atom h1 => cases v <;> first | exact .err | simp [addrFree] at h1
  | _ => exact .err

theorem asIp_rel {φ : Inj} {v v'} (h : VRel φ v v') :
    ORel (fun p q => AddrRel φ p.1 q.1 ∧ p.2 = q.2) (asIp v) (asIp v') := by
  cases h with
  | instrPtr h1 => exact .ok ⟨h1, rfl⟩
  | atom h1 => cases v <;> first | exact .err | simp [addrFree] at h1
  | _ => exact .err

theorem StackRelK.get {φ : Inj} {K st st'} (h : StackRelK φ K st st') {i : Nat} (hi : i ≤ K) :
    ORel (VRel φ) (st.get i) (st'.get i) := by
  unfold Stack.get
  cases e1 : st.cells[i]? with
  | none =>
    have : st'.cells[i]? = none := by
      rw [List.getElem?_eq_none_iff] at e1 ⊢; rw [← h.2.1]; exact e1
    rw [this]; exact .err
  | some v =>
    have hl : i < st'.cells.length := by
      rw [← h.2.1]; exact (List.getElem?_eq_some_iff.mp e1).1
    rw [List.getElem?_eq_getElem hl]
    exact .ok (h.2.2 i hi _ _ e1 (List.getElem?_eq_getElem hl))

theorem StackRelK.getOffset {φ : Inj} {K st st'} (h : StackRelK φ K st st') (hk : st.sp ≤ K) {off : Int}
    (ho : off ≤ 0) : ORel (VRel φ) (st.getOffset off) (st'.getOffset off) := by
  unfold Stack.getOffset
  rw [← h.1]
  simp only
  split
  · exact h.get (by omega)
  · exact .err

theorem StackRelK.set {φ : Inj} {K st st'} (h : StackRelK φ K st st') (i : Nat) {v v'} (hv : VRel φ v v') :
    ORel (fun a b => StackRelK φ K a b ∧ a.sp = st.sp) (st.set i v) (st'.set i v') := by
  unfold Stack.set
  rw [← h.2.1]
  split
  · refine .ok ⟨⟨h.1, by simp [h.2.1], ?_⟩, rfl⟩
    intro j hj w w' h1 h2
    simp only at h1 h2
    by_cases e : i = j
    · subst e
      rename_i hlt
      rw [List.getElem?_set_self hlt] at h1
      rw [List.getElem?_set_self (by rw [← h.2.1]; exact hlt)] at h2
      cases h1; cases h2; exact hv
    · rw [List.getElem?_set_ne e] at h1 h2
      exact h.2.2 j hj w w' h1 h2
  · exact .err

theorem StackRelK.setOffset {φ : Inj} {K st st'} (h : StackRelK φ K st st') (off : Int) {v v'}
    (hv : VRel φ v v') :
    ORel (fun a b => StackRelK φ K a b ∧ a.sp = st.sp) (st.setOffset off v) (st'.setOffset off v') := by
  unfold Stack.setOffset
  rw [← h.1]
  simp only
  split
  · exact h.set _ hv
  · exact .err

theorem getElem?_set_append {α} (l r : List α) (i : Nat) (v : α) (j : Nat) :
    ((l ++ r).set i v)[j]? = if i = j ∧ j < (l ++ r).length then some v else (l ++ r)[j]? := by
  generalize l ++ r = m
  rw [List.getElem?_set]
  by_cases e : i = j
  · subst e
    by_cases hl : i < m.length
    · simp [hl]
    · have hn2 : m[i]? = none := by rw [List.getElem?_eq_none_iff]; omega
      simp [hl, hn2]
  · simp [e]

theorem StackRelK.push {φ : Inj} {K st st'} (h : StackRelK φ K st st') (hk : st.sp ≤ K) {v v'}
    (hv : VRel φ v v') : StackRelK φ (max K (st.sp + 1)) (st.push v) (st'.push v') ∧ (st.push v).sp = st.sp + 1 := by
  unfold Stack.push
  rw [← h.1, ← h.2.1]
  have key : ∀ (pad : List VCell), (∀ w ∈ pad, w = VCell.undefined) → StackRelK φ (max K (st.sp + 1))
      { cells := (st.cells ++ pad).set (st.sp + 1) v, sp := st.sp + 1 }
      { cells := (st'.cells ++ pad).set (st.sp + 1) v', sp := st.sp + 1 } := by
    intro pad hpad
    refine ⟨rfl, by simp [h.2.1], ?_⟩
    intro j hj w w' h1 h2
    simp only at h1 h2
    rw [getElem?_set_append] at h1 h2
    have hlen : (st.cells ++ pad).length = (st'.cells ++ pad).length := by simp [h.2.1]
    by_cases e : st.sp + 1 = j ∧ j < (st.cells ++ pad).length
    · rw [if_pos e] at h1
      rw [if_pos ⟨e.1, by rw [← hlen]; exact e.2⟩] at h2
      cases h1; cases h2; exact hv
    · rw [if_neg e] at h1
      rw [if_neg (by rw [← hlen]; exact e)] at h2
      by_cases hjs : j = st.sp + 1
      · -- `sp + 1` beyond the padded capacity holds no value
        exfalso
        apply e
        refine ⟨hjs.symm, ?_⟩
        exact (List.getElem?_eq_some_iff.mp h1).1
      · have hjK : j ≤ K := by omega
        by_cases hjl : j < st.cells.length
        · rw [List.getElem?_append_left hjl] at h1
          rw [List.getElem?_append_left (by rw [← h.2.1]; exact hjl)] at h2
          exact h.2.2 j hjK w w' h1 h2
        · rw [List.getElem?_append_right (by omega)] at h1
          rw [List.getElem?_append_right (by rw [← h.2.1]; omega)] at h2
          rw [← h.2.1] at h2
          rw [h1] at h2; cases h2
          have : w = VCell.undefined := hpad w (List.mem_of_getElem? h1)
          rw [this]; exact .atom rfl
  split
  · have := key [] (by intro w hw; cases hw)
    simp only [List.append_nil] at this
    exact ⟨this, rfl⟩
  · exact ⟨key _ (by intro w hw; exact (List.mem_replicate.mp hw).2), rfl⟩

/-- the bound is `(st.push v).sp`, not `st.sp + 1`: chained pushes compose without unfolding `Stack.push` -/
theorem StackRel.push {φ : Inj} {st st'} (h : StackRel φ st st') {v v'} (hv : VRel φ v v') :
    StackRel φ (st.push v) (st'.push v') := by
  obtain ⟨hp, hsp⟩ := StackRelK.push h (Nat.le_refl _) hv
  unfold StackRel
  rw [hsp]
  exact hp.weaken (Nat.le_max_right ..)

end Marwood.Lemmas.Sim
