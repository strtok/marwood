import Marwood.Lemmas.EvalPromise
/-!
# Promises: concrete programs evaluated on both sides (kernel-checked)

Native `delay`/`force` of `Spec.Eval` against the prelude's expansion evaluated by `Spec.Eval` after
loading the five regenerated library definitions (`promLibDefs`): memoisation (the delayed expression
prints once however often the promise is forced, and not at all when it is not), the R7RS 4.2.5
re-entrancy example (a promise forced while its own expression is being evaluated: the first value
stays), and a `delay-force` chain against its R7RS reading `(delay (force …))`.
-/
namespace Marwood.Spec.Eval.Derived
open Marwood Marwood.Spec.Eval Marwood.Spec.Eval.Prelude

def promLibDefs : List Datum :=
  [Gen.PreludeProcs.proc14, Gen.PreludeProcs.proc15, Gen.PreludeProcs.proc16, Gen.PreludeProcs.proc17,
   Gen.PreludeProcs.proc18]

private def sy (x : String) : Datum := .sym x.toList
private def nm (n : Int) : Datum := .num (.fix n)
private def vd : FormRes := .ok .void

/-- `(begin (display 'x) 1)` -/
def eDisplayOne : Datum := L [s k_begin_, L [sy "display", L [s k_quote, sy "x"]], nm 1]
/-- `(let ((p D)) (+ (force p) (force p)))` where `D` is the delayed `(begin (display 'x) 1)` -/
def memoProg (d : Datum → Datum) : Datum :=
  L [s k_let_, L [L [sy "p", d eDisplayOne]], L [sy "+", forceUse (sy "p"), forceUse (sy "p")]]
/-- `(let ((p D)) 5)`: never forced -/
def zeroProg (d : Datum → Datum) : Datum := L [s k_let_, L [L [sy "p", d eDisplayOne]], nm 5]
/-- R7RS 4.2.5: `(define count 0) (define p (delay (begin (set! count (+ count 1)) (if (> count x) count (force p)))))
    (define x 5) (force p) (begin (set! x 10) (force p))` -/
def reentrantProg (d : Datum → Datum) : List Datum :=
  [L [s k_define, sy "count", nm 0],
   L [s k_define, sy "p", d (L [s k_begin_, L [s k_setBang, sy "count", L [sy "+", sy "count", nm 1]],
        L [s k_if_, L [sy ">", sy "count", sy "x"], sy "count", forceUse (sy "p")]])],
   L [s k_define, sy "x", nm 5],
   forceUse (sy "p"),
   L [s k_begin_, L [s k_setBang, sy "x", nm 10], forceUse (sy "p")]]
/-- `(force (delay-force (delay (+ 1 2))))`, both macros expanded -/
def chainExp : Datum := forceUse (delayForceExp (delayFull (L [sy "+", nm 1, nm 2])))
/-- its R7RS reading `(force (delay (force (delay (+ 1 2)))))`, native -/
def chainNative : Datum := forceUse (delayUse (forceUse (delayUse (L [sy "+", nm 1, nm 2]))))

/-- forced twice: one `display`, value 2 -/
theorem memo_native : results 12 [memoProg delayUse] = [.ok (nm 2)] ∧
    output 12 [memoProg delayUse] = [(false, sy "x")] := by decide +kernel
theorem memo_expansion : results 20 (promLibDefs ++ [memoProg delayFull]) = [vd, vd, vd, vd, vd, .ok (nm 2)] ∧
    output 20 (promLibDefs ++ [memoProg delayFull]) = [(false, sy "x")] := by decide +kernel

theorem unforced_native : results 12 [zeroProg delayUse] = [.ok (nm 5)] ∧ output 12 [zeroProg delayUse] = [] := by
  decide +kernel
theorem unforced_expansion : results 20 (promLibDefs ++ [zeroProg delayFull]) = [vd, vd, vd, vd, vd, .ok (nm 5)] ∧
    output 20 (promLibDefs ++ [zeroProg delayFull]) = [] := by decide +kernel

/-- R7RS gives 6, then 6 again -/
theorem reentrant_native : results 60 (reentrantProg delayUse) = [vd, vd, vd, .ok (nm 6), .ok (nm 6)] := by
  decide +kernel
theorem reentrant_expansion : results 80 (promLibDefs ++ reentrantProg delayFull) =
    [vd, vd, vd, vd, vd, vd, vd, vd, .ok (nm 6), .ok (nm 6)] := by decide +kernel

theorem delayForce_chain : results 12 [chainNative] = [.ok (nm 3)] ∧
    results 30 (promLibDefs ++ [chainExp]) = [vd, vd, vd, vd, vd, .ok (nm 3)] := by decide +kernel

end Marwood.Spec.Eval.Derived
