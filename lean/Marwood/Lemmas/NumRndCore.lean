import Mathlib.Data.Rat.Floor
import Mathlib.Tactic.Linarith
import Mathlib.Tactic.Ring
import Mathlib.Tactic.Positivity
import Mathlib.Algebra.Order.Field.Power
import Marwood.Num.F64
/-!
# The integer routines under `Fl.rnd`: `roundHalfEven`, `geTwoPow`, `floorLog2`

`RN y`, round-half-even of a rational by `⌊y⌋`, is what `roundHalfEven N D` computes of `N / D`;
`geTwoPow` and `floorLog2` against the powers of two.
-/
namespace Marwood.Fl

def RN (y : ℚ) : ℤ :=
  if 2 * (y - ⌊y⌋) > 1 then ⌊y⌋ + 1 else if 2 * (y - ⌊y⌋) = 1 then ⌊y⌋ + ⌊y⌋ % 2 else ⌊y⌋

theorem RN_ge_floor (y : ℚ) : ⌊y⌋ ≤ RN y := by
  unfold RN
  have := Int.emod_two_eq_zero_or_one ⌊y⌋
  split_ifs <;> omega

theorem RN_le_floor_add_one (y : ℚ) : RN y ≤ ⌊y⌋ + 1 := by
  unfold RN
  have := Int.emod_two_eq_zero_or_one ⌊y⌋
  split_ifs <;> omega

theorem RN_near (y : ℚ) : |(RN y : ℚ) - y| ≤ 1 / 2 := by
  have h1 := Int.floor_le y
  have h2 := Int.lt_floor_add_one y
  unfold RN
  rw [abs_le]
  split_ifs with ha hb
  · push_cast; constructor <;> linarith
  · rcases Int.emod_two_eq_zero_or_one ⌊y⌋ with h | h <;> rw [h] <;> push_cast <;>
      constructor <;> linarith
  · have : 2 * (y - ⌊y⌋) < 1 := lt_of_le_of_ne (not_lt.mp ha) hb
    constructor <;> linarith

theorem RN_mono {y y' : ℚ} (h : y ≤ y') : RN y ≤ RN y' := by
  have hf := Int.floor_le_floor h
  rcases lt_or_eq_of_le hf with hlt | heq
  · have := RN_le_floor_add_one y
    have := RN_ge_floor y'
    omega
  · unfold RN
    rw [← heq]
    have h2 := Int.emod_two_eq_zero_or_one ⌊y⌋
    by_cases A : 2 * (y - ⌊y⌋) > 1
    · have A' : 2 * (y' - ⌊y⌋) > 1 := by linarith
      rw [if_pos A, if_pos A']
    · rw [if_neg A]
      by_cases B : 2 * (y - ⌊y⌋) = 1
      · rw [if_pos B]
        by_cases A' : 2 * (y' - ⌊y⌋) > 1
        · rw [if_pos A']; omega
        · have B' : 2 * (y' - ⌊y⌋) = 1 := le_antisymm (not_lt.mp A') (by linarith)
          rw [if_neg A', if_pos B']
      · rw [if_neg B]
        by_cases A' : 2 * (y' - ⌊y⌋) > 1
        · rw [if_pos A']; omega
        · rw [if_neg A']
          by_cases B' : 2 * (y' - ⌊y⌋) = 1
          · rw [if_pos B']; omega
          · rw [if_neg B']

theorem RN_intCast (k : ℤ) : RN (k : ℚ) = k := by
  unfold RN
  rw [Int.floor_intCast]
  simp

theorem RN_natCast (k : ℕ) : RN (k : ℚ) = k := by
  have := RN_intCast (k : ℤ)
  simpa using this

theorem RN_nonneg {y : ℚ} (h : 0 ≤ y) : 0 ≤ RN y := by
  have := RN_mono h
  rwa [show (0 : ℚ) = ((0 : ℤ) : ℚ) by simp, RN_intCast] at this

theorem roundHalfEven_eq (N D : ℕ) (hD : 0 < D) : (roundHalfEven N D : ℤ) = RN ((N : ℚ) / D) := by
  have hDq : (0 : ℚ) < D := by exact_mod_cast hD
  have hfloor : ⌊(N : ℚ) / D⌋ = ((N / D : ℕ) : ℤ) := by
    have := Rat.floor_intCast_div_natCast (N : ℤ) D
    simpa using this
  have hdm : D * (N / D) + N % D = N := Nat.div_add_mod N D
  have hrlt : N % D < D := Nat.mod_lt N hD
  have hfrac : (N : ℚ) / D - ((N / D : ℕ) : ℚ) = ((N % D : ℕ) : ℚ) / D := by
    have : (N : ℚ) = D * ((N / D : ℕ) : ℚ) + ((N % D : ℕ) : ℚ) := by exact_mod_cast hdm.symm
    rw [eq_div_iff hDq.ne', sub_mul, div_mul_cancel₀ _ hDq.ne']
    linarith
  unfold RN roundHalfEven
  rw [hfloor, Int.cast_natCast, hfrac]
  have c1 : (2 * (((N % D : ℕ) : ℚ) / D) > 1) ↔ 2 * (N % D) > D := by
    rw [gt_iff_lt, ← mul_div_assoc, lt_div_iff₀ hDq, one_mul]; exact_mod_cast Iff.rfl
  have c2 : (2 * (((N % D : ℕ) : ℚ) / D) = 1) ↔ 2 * (N % D) = D := by
    rw [← mul_div_assoc, div_eq_iff hDq.ne', one_mul]; exact_mod_cast Iff.rfl
  simp only [c1, c2, beq_iff_eq]
  split_ifs <;> push_cast <;> omega

theorem two_zpow_pos (k : ℤ) : (0 : ℚ) < 2 ^ k := zpow_pos (by norm_num) k

theorem two_zpow_toNat {k : ℤ} (hk : 0 ≤ k) : ((2 ^ k.toNat : ℕ) : ℚ) = (2 : ℚ) ^ k := by
  have : (2 : ℚ) ^ k = (2 : ℚ) ^ ((k.toNat : ℕ) : ℤ) := by rw [Int.toNat_of_nonneg hk]
  rw [this, zpow_natCast]; push_cast; rfl

theorem two_zpow_neg_toNat {k : ℤ} (hk : k ≤ 0) : (((2 ^ (-k).toNat : ℕ) : ℚ))⁻¹ = (2 : ℚ) ^ k := by
  rw [two_zpow_toNat (by omega : 0 ≤ -k), zpow_neg, inv_inv]

theorem two_zpow_mono {a b : ℤ} (h : a ≤ b) : (2 : ℚ) ^ a ≤ 2 ^ b :=
  zpow_le_zpow_right₀ (by norm_num) h

theorem two_zpow_lt {a b : ℤ} (h : a < b) : (2 : ℚ) ^ a < 2 ^ b :=
  zpow_lt_zpow_right₀ (by norm_num) h

theorem two_zpow_lt_iff {a b : ℤ} : (2 : ℚ) ^ a < 2 ^ b ↔ a < b :=
  zpow_lt_zpow_iff_right₀ (by norm_num)

theorem two_zpow_add (a b : ℤ) : (2 : ℚ) ^ (a + b) = 2 ^ a * 2 ^ b := zpow_add₀ (by norm_num) a b

theorem two_zpow_sub (a b : ℤ) : (2 : ℚ) ^ (a - b) = 2 ^ a / 2 ^ b := zpow_sub₀ (by norm_num) a b

theorem geTwoPow_iff (n d : ℕ) (hd : 0 < d) (k : ℤ) :
    geTwoPow n d k = true ↔ (2 : ℚ) ^ k ≤ (n : ℚ) / d := by
  have hdq : (0 : ℚ) < d := by exact_mod_cast hd
  unfold geTwoPow
  by_cases hk : k ≥ 0
  · rw [if_pos hk, decide_eq_true_iff, le_div_iff₀ hdq, ← two_zpow_toNat hk]
    constructor
    · intro h; have : ((d * 2 ^ k.toNat : ℕ) : ℚ) ≤ n := by exact_mod_cast h
      push_cast at this ⊢; linarith
    · intro h
      have : ((d * 2 ^ k.toNat : ℕ) : ℚ) ≤ n := by push_cast at h ⊢; linarith
      exact_mod_cast this
  · rw [if_neg hk, decide_eq_true_iff, le_div_iff₀ hdq, ← two_zpow_neg_toNat (by omega : k ≤ 0)]
    have hp : (0 : ℚ) < ((2 ^ (-k).toNat : ℕ) : ℚ) := by positivity
    rw [inv_mul_le_iff₀ hp]
    constructor
    · intro h; have : ((d : ℕ) : ℚ) ≤ ((n * 2 ^ (-k).toNat : ℕ) : ℚ) := by exact_mod_cast h
      push_cast at this ⊢; linarith
    · intro h
      have : ((d : ℕ) : ℚ) ≤ ((n * 2 ^ (-k).toNat : ℕ) : ℚ) := by push_cast at h ⊢; linarith
      exact_mod_cast this

theorem floorLog2_spec (n d : ℕ) (hn : 0 < n) (hd : 0 < d) :
    (2 : ℚ) ^ (floorLog2 n d) ≤ (n : ℚ) / d ∧ (n : ℚ) / d < 2 ^ (floorLog2 n d + 1) := by
  have hdq : (0 : ℚ) < d := by exact_mod_cast hd
  have hnq : (0 : ℚ) < n := by exact_mod_cast hn
  -- 2^a ≤ n < 2^(a+1), 2^b ≤ d < 2^(b+1)
  have na : ((2 : ℚ) ^ ((Nat.log2 n : ℕ) : ℤ)) ≤ n := by
    rw [zpow_natCast]; exact_mod_cast Nat.log2_self_le hn.ne'
  have na' : (n : ℚ) < (2 : ℚ) ^ (((Nat.log2 n : ℕ) : ℤ) + 1) := by
    have : (n : ℚ) < ((2 ^ (Nat.log2 n + 1) : ℕ) : ℚ) := by exact_mod_cast Nat.lt_log2_self
    rw [show (((Nat.log2 n : ℕ) : ℤ) + 1) = ((Nat.log2 n + 1 : ℕ) : ℤ) by push_cast; rfl, zpow_natCast]
    push_cast at this; exact this
  have db : ((2 : ℚ) ^ ((Nat.log2 d : ℕ) : ℤ)) ≤ d := by
    rw [zpow_natCast]; exact_mod_cast Nat.log2_self_le hd.ne'
  have db' : (d : ℚ) < (2 : ℚ) ^ (((Nat.log2 d : ℕ) : ℤ) + 1) := by
    have : (d : ℚ) < ((2 ^ (Nat.log2 d + 1) : ℕ) : ℚ) := by exact_mod_cast Nat.lt_log2_self
    rw [show (((Nat.log2 d : ℕ) : ℤ) + 1) = ((Nat.log2 d + 1 : ℕ) : ℤ) by push_cast; rfl, zpow_natCast]
    push_cast at this; exact this
  set a : ℤ := ((Nat.log2 n : ℕ) : ℤ) with ha
  set b : ℤ := ((Nat.log2 d : ℕ) : ℤ) with hb
  have pa := two_zpow_pos a
  have pb := two_zpow_pos b
  -- n/d < 2^(a-b+1) and 2^(a-b-1) < n/d
  have up : (n : ℚ) / d < 2 ^ (a - b + 1) := by
    rw [div_lt_iff₀ hdq]
    have e : (2 : ℚ) ^ (a - b + 1) * 2 ^ b = 2 ^ (a + 1) := by
      rw [← two_zpow_add]; congr 1; ring
    calc (n : ℚ) < 2 ^ (a + 1) := na'
      _ = 2 ^ (a - b + 1) * 2 ^ b := e.symm
      _ ≤ 2 ^ (a - b + 1) * d := by
        apply mul_le_mul_of_nonneg_left db (two_zpow_pos _).le
  have lo : (2 : ℚ) ^ (a - b - 1) ≤ (n : ℚ) / d := by
    rw [le_div_iff₀ hdq]
    have e : (2 : ℚ) ^ (a - b - 1) * 2 ^ (b + 1) = 2 ^ a := by
      rw [← two_zpow_add]; congr 1; ring
    calc (2 : ℚ) ^ (a - b - 1) * d ≤ 2 ^ (a - b - 1) * 2 ^ (b + 1) := by
          apply mul_le_mul_of_nonneg_left db'.le (two_zpow_pos _).le
      _ = 2 ^ a := e
      _ ≤ n := na
  unfold floorLog2
  simp only [← ha, ← hb]
  by_cases hg : geTwoPow n d (a - b) = true
  · rw [if_pos hg]
    exact ⟨(geTwoPow_iff n d hd _).mp hg, up⟩
  · rw [if_neg hg]
    have : ¬ (2 : ℚ) ^ (a - b) ≤ (n : ℚ) / d := fun h => hg ((geTwoPow_iff n d hd _).mpr h)
    refine ⟨lo, ?_⟩
    rw [show a - b - 1 + 1 = a - b by ring]
    exact not_le.mp this

end Marwood.Fl
