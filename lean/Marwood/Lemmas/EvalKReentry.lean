import Marwood.Lemmas.EvalK
import Marwood.Lemmas.EvalKTable
/-! # A continuation is a value: it can be re-entered any number of times, from any later state -/
namespace Marwood.Lemmas.EvalK
open Marwood Marwood.Spec.Eval Marwood.Spec.EvalK

def iterK : Nat → Next → Next
  | 0, x => x
  | n+1, .run s => iterK n (stepK s)
  | _+1, x => x

/-- an entry of the continuation table is never changed or removed by the machine -/
theorem iterK_ks_mono (i : Nat) (κ : Kont) : ∀ (n : Nat) (s s' : State),
    iterK n (.run s) = .run s' → s.ks[i]? = some κ → s'.ks[i]? = some κ := by
  intro n
  induction n with
  | zero => intro s s' h hi; simp only [iterK, Next.run.injEq] at h; subst h; exact hi
  | succ n ih =>
    intro s s' h hi
    simp only [iterK] at h
    cases hs : stepK s with
    | run s1 =>
      rw [hs] at h
      exact ih s1 s' h (step_ks_mono true s s1 hs i κ hi)
    | halt o σ ks => rw [hs] at h; cases n <;> simp [iterK] at h
    | stuck => rw [hs] at h; cases n <;> simp [iterK] at h

/-- **re-entry any number of times**: let `contVal i` denote `κ'` in state `s`. In EVERY state `s'` the machine reaches
    from `s` within one run (`iterK`: after any number of steps, hence of earlier invocations of the same continuation,
    inside or after the extent of its `call/cc`), applying it to `v` from whatever continuation `κnow` is current yields
    `ret v` to `κ'` on the store of `s'`. A later top-level form is another run (`runFormK` hands the final table on):
    not covered here. -/
theorem reentry_any_number_of_times (i : Nat) (κ' : Kont) (n : Nat) (s s' : State)
    (h0 : s.ks[i]? = some κ') (hreach : iterK n (.run s) = .run s') (v : Val) (κnow : Kont) :
    stepK ⟨.app (contVal i) [v], κnow, s'.σ, s'.ks⟩ = .run ⟨.ret v, κ', s'.σ, s'.ks⟩ :=
  throw_discards_context i κ' [v] v κnow s'.σ s'.ks (iterK_ks_mono i κ' n s s' hreach h0) rfl

/-- the continuation captured by a `call/cc` is available, unchanged, in every later state -/
theorem captured_stays (f : Val) (κ : Kont) (σ : St) (ks : Array Kont) (hf : isProcedure f = true)
    (n : Nat) (s' : State) (hreach : iterK (n + 1) (.run ⟨.app callccVal [f], κ, σ, ks⟩) = .run s') :
    s'.ks[ks.size]? = some κ := by
  simp only [iterK] at hreach
  rw [callcc_captures f κ σ ks hf] at hreach
  exact iterK_ks_mono ks.size κ n _ s' hreach (by simp)

end Marwood.Lemmas.EvalK
