import Marwood.Lemmas.NumRndCore
/-!
# `Fl.rndMag`: exponent, significand, bit pattern and its value

For a positive magnitude `x = n/d`: `e = eOf n d = max (⌊log₂ x⌋ - 52) (-1074)`,
`m = mOf n d = RN (x / 2^e)`, pattern `(e + 1074) * 2^52 + m` (clamped to the pattern of ∞).
A pattern below `infBits` decodes to `m * 2^e`; `(e, m)` is lexicographically monotone in `x`, hence so are
patterns and values.
-/
namespace Marwood.Fl

def eOf (n d : ℕ) : ℤ := max (floorLog2 n d - 52) (-1074)

def mOf (n d : ℕ) : ℕ :=
  if eOf n d ≥ 0 then roundHalfEven n (d * 2 ^ (eOf n d).toNat)
  else roundHalfEven (n * 2 ^ (-(eOf n d)).toNat) d

def EOf (n d : ℕ) : ℕ := (eOf n d + 1074).toNat

def patOf (n d : ℕ) : ℕ := EOf n d * twoP52 + mOf n d

theorem rndMag_eq (n d : ℕ) : rndMag n d = if patOf n d ≥ infBits then infBits else patOf n d := rfl

theorem eOf_ge (n d : ℕ) : -1074 ≤ eOf n d := le_max_right _ _

theorem EOf_cast (n d : ℕ) : (EOf n d : ℤ) = eOf n d + 1074 := by
  unfold EOf; have := eOf_ge n d; omega

theorem mOf_eq (n d : ℕ) (hd : 0 < d) : (mOf n d : ℤ) = RN ((n : ℚ) / d / 2 ^ (eOf n d)) := by
  have hdq : (0 : ℚ) < d := by exact_mod_cast hd
  unfold mOf
  by_cases he : eOf n d ≥ 0
  · rw [if_pos he, roundHalfEven_eq _ _ (by positivity)]
    congr 1
    rw [Nat.cast_mul, two_zpow_toNat he, div_div]
  · rw [if_neg he, roundHalfEven_eq _ _ hd]
    congr 1
    have h0 : 0 ≤ -(eOf n d) := by omega
    rw [Nat.cast_mul, two_zpow_toNat h0, zpow_neg]
    field_simp

theorem p53 : (2 : ℚ) ^ (53 : ℤ) = ((twoP53 : ℕ) : ℚ) := by norm_num [twoP53]
theorem p52 : (2 : ℚ) ^ (52 : ℤ) = ((twoP52 : ℕ) : ℚ) := by norm_num [twoP52]

theorem quot_lt (n d : ℕ) (hn : 0 < n) (hd : 0 < d) : (n : ℚ) / d / 2 ^ (eOf n d) < 2 ^ (53 : ℤ) := by
  obtain ⟨_, hup⟩ := floorLog2_spec n d hn hd
  have hle : floorLog2 n d + 1 ≤ eOf n d + 53 := by
    have : floorLog2 n d - 52 ≤ eOf n d := le_max_left _ _
    omega
  rw [div_lt_iff₀ (two_zpow_pos _), ← two_zpow_add]
  calc (n : ℚ) / d < 2 ^ (floorLog2 n d + 1) := hup
    _ ≤ 2 ^ (53 + eOf n d) := two_zpow_mono (by omega)

theorem quot_ge (n d : ℕ) (hn : 0 < n) (hd : 0 < d) (he : eOf n d = floorLog2 n d - 52) :
    (2 : ℚ) ^ (52 : ℤ) ≤ (n : ℚ) / d / 2 ^ (eOf n d) := by
  obtain ⟨hlo, _⟩ := floorLog2_spec n d hn hd
  rw [le_div_iff₀ (two_zpow_pos _), ← two_zpow_add]
  calc (2 : ℚ) ^ (52 + eOf n d) = 2 ^ (floorLog2 n d) := by congr 1; omega
    _ ≤ (n : ℚ) / d := hlo

theorem mOf_le (n d : ℕ) (hn : 0 < n) (hd : 0 < d) : mOf n d ≤ twoP53 := by
  have h := RN_mono (quot_lt n d hn hd).le
  rw [← mOf_eq n d hd, p53, RN_natCast] at h
  exact_mod_cast h

theorem mOf_ge (n d : ℕ) (hn : 0 < n) (hd : 0 < d) (he : eOf n d = floorLog2 n d - 52) :
    twoP52 ≤ mOf n d := by
  have h := RN_mono (quot_ge n d hn hd he)
  rw [← mOf_eq n d hd, p52, RN_natCast] at h
  exact_mod_cast h

theorem mOf_ge_of_E (n d : ℕ) (hn : 0 < n) (hd : 0 < d) (hE : 0 < EOf n d) : twoP52 ≤ mOf n d := by
  apply mOf_ge n d hn hd
  have h1 := EOf_cast n d
  have : eOf n d = max (floorLog2 n d - 52) (-1074) := rfl
  omega

theorem sig_ex_of (f : F64) : sig f * 2 ^ ex f =
    (if expField f = 0 then mantField f else twoP52 + mantField f) *
      2 ^ (if expField f = 0 then 0 else expField f - 1) := by
  unfold sig ex
  simp only [beq_iff_eq]

theorem fields_add {E μ : ℕ} (hE : E < 2048) (hμ : μ < twoP52) :
    expField ⟨E * twoP52 + μ⟩ = E ∧ mantField ⟨E * twoP52 + μ⟩ = μ ∧ signBit ⟨E * twoP52 + μ⟩ = false := by
  unfold twoP52 at hμ
  simp only [expField, mantField, signBit, twoP52, twoP63, beq_eq_false_iff_ne]
  omega

/-- `E·2⁵² + m = E'·2⁵² + μ` with `μ < 2⁵²`, where `(E', μ)` is `(0, m)` for `m < 2⁵²` (subnormal), `(E + 1, m - 2⁵²)` for
    `2⁵² ≤ m < 2⁵³` (normal), `(E + 2, 0)` for `m = 2⁵³` (the carry of rounding up moves into the exponent) -/
theorem decode_fields (E m : ℕ) (hm : m ≤ twoP53) (hE : 0 < E → twoP52 ≤ m)
    (hb : E * twoP52 + m < infBits) :
    expField ⟨E * twoP52 + m⟩ ≠ 2047 ∧ signBit ⟨E * twoP52 + m⟩ = false ∧
    sig ⟨E * twoP52 + m⟩ * 2 ^ ex ⟨E * twoP52 + m⟩ = m * 2 ^ E := by
  obtain ⟨E', μ, e, hE', hμ, hv⟩ : ∃ E' μ, E * twoP52 + m = E' * twoP52 + μ ∧ E' < 2047 ∧ μ < twoP52 ∧
      (if E' = 0 then μ else twoP52 + μ) * 2 ^ (if E' = 0 then 0 else E' - 1) = m * 2 ^ E := by
    unfold twoP53 at hm
    unfold infBits at hb
    unfold twoP52 at hE hb ⊢
    rcases Nat.lt_or_ge m 4503599627370496 with h1 | h1
    · have hE0 : E = 0 := by
        rcases Nat.eq_zero_or_pos E with h | h
        · exact h
        · have := hE h; omega
      exact ⟨0, m, by omega, by omega, h1, by simp [hE0]⟩
    · rcases Nat.lt_or_ge m 9007199254740992 with h2 | h2
      · refine ⟨E + 1, m - 4503599627370496, by omega, by omega, by omega, ?_⟩
        rw [if_neg (by omega), if_neg (by omega), Nat.add_sub_cancel, Nat.add_sub_cancel' h1]
      · refine ⟨E + 2, 0, by omega, by omega, by omega, ?_⟩
        have hm' : m = 4503599627370496 * 2 := by omega
        rw [if_neg (by omega), if_neg (by omega), hm', Nat.mul_assoc, ← Nat.pow_succ']
        rfl
  obtain ⟨a1, a2, hs⟩ := fields_add (Nat.lt_succ_of_lt hE') hμ
  rw [sig_ex_of, e, a1, a2]
  exact ⟨by omega, hs, hv⟩

theorem sign_fields (b : ℕ) (hb : b < twoP63) :
    expField ⟨twoP63 + b⟩ = expField ⟨b⟩ ∧ mantField ⟨twoP63 + b⟩ = mantField ⟨b⟩ ∧
    signBit ⟨twoP63 + b⟩ = true := by
  unfold twoP63 at hb
  simp only [expField, mantField, signBit, twoP52, twoP63]
  refine ⟨by omega, by omega, ?_⟩
  rw [beq_iff_eq]; omega

theorem magRat_sign (b : ℕ) (hb : b < twoP63) : magRat ⟨twoP63 + b⟩ = magRat ⟨b⟩ := by
  obtain ⟨h1, h2, _⟩ := sign_fields b hb
  unfold magRat sig ex
  rw [h1, h2]

theorem magRat_eq (f : F64) : magRat f = ((sig f * 2 ^ ex f : ℕ) : ℚ) / 2 ^ (1074 : ℕ) := by
  unfold magRat
  rw [Rat.mkRat_eq_div]
  simp only [Int.ofNat_eq_natCast, Int.cast_natCast, Nat.cast_pow, Nat.cast_ofNat]

theorem pat_val (n d : ℕ) (hn : 0 < n) (hd : 0 < d) (hb : patOf n d < infBits) :
    expField ⟨patOf n d⟩ ≠ 2047 ∧ signBit ⟨patOf n d⟩ = false ∧
    magRat ⟨patOf n d⟩ = (mOf n d : ℚ) * 2 ^ (eOf n d) := by
  obtain ⟨h1, h2, h3⟩ := decode_fields (EOf n d) (mOf n d) (mOf_le n d hn hd)
    (mOf_ge_of_E n d hn hd) hb
  refine ⟨h1, h2, ?_⟩
  rw [magRat_eq]
  unfold patOf
  rw [h3]
  have hE : (2 : ℚ) ^ (eOf n d) = ((2 ^ EOf n d : ℕ) : ℚ) / 2 ^ (1074 : ℕ) := by
    have : eOf n d = (EOf n d : ℤ) - 1074 := by have := EOf_cast n d; omega
    rw [this, two_zpow_sub, zpow_natCast]
    push_cast
    rfl
  rw [hE]
  push_cast
  ring

theorem infBits_lt : infBits < twoP63 := by decide

theorem floorLog2_mono {n d n' d' : ℕ} (hn : 0 < n) (hd : 0 < d) (hn' : 0 < n') (hd' : 0 < d')
    (h : (n : ℚ) / d ≤ (n' : ℚ) / d') : floorLog2 n d ≤ floorLog2 n' d' := by
  obtain ⟨lo, _⟩ := floorLog2_spec n d hn hd
  obtain ⟨_, up'⟩ := floorLog2_spec n' d' hn' hd'
  have : (2 : ℚ) ^ (floorLog2 n d) < 2 ^ (floorLog2 n' d' + 1) :=
    lt_of_le_of_lt (le_trans lo h) up'
  have := two_zpow_lt_iff.mp this
  omega

theorem lex_mono {n d n' d' : ℕ} (hn : 0 < n) (hd : 0 < d) (hn' : 0 < n') (hd' : 0 < d')
    (h : (n : ℚ) / d ≤ (n' : ℚ) / d') :
    (eOf n d < eOf n' d' ∧ twoP52 ≤ mOf n' d') ∨ (eOf n d = eOf n' d' ∧ mOf n d ≤ mOf n' d') := by
  have hfl := floorLog2_mono hn hd hn' hd' h
  have he : eOf n d ≤ eOf n' d' := by unfold eOf; omega
  rcases lt_or_eq_of_le he with hlt | heq
  · left
    refine ⟨hlt, mOf_ge n' d' hn' hd' ?_⟩
    have := eOf_ge n d
    unfold eOf at hlt ⊢
    omega
  · right
    refine ⟨heq, ?_⟩
    have h1 := mOf_eq n d hd
    have h2 := mOf_eq n' d' hd'
    have : RN ((n : ℚ) / d / 2 ^ (eOf n d)) ≤ RN ((n' : ℚ) / d' / 2 ^ (eOf n' d')) := by
      apply RN_mono
      rw [heq]
      exact div_le_div_of_nonneg_right h (two_zpow_pos _).le
    rw [← h1, ← h2] at this
    exact_mod_cast this

theorem patOf_mono {n d n' d' : ℕ} (hn : 0 < n) (hd : 0 < d) (hn' : 0 < n') (hd' : 0 < d')
    (h : (n : ℚ) / d ≤ (n' : ℚ) / d') : patOf n d ≤ patOf n' d' := by
  have hm := mOf_le n d hn hd
  unfold patOf twoP52
  unfold twoP53 at hm
  rcases lex_mono hn hd hn' hd' h with ⟨h1, h2⟩ | ⟨h1, h2⟩
  · have : EOf n d + 1 ≤ EOf n' d' := by
      have a := EOf_cast n d; have b := EOf_cast n' d'; omega
    unfold twoP52 at h2
    have : (EOf n d + 1) * 4503599627370496 ≤ EOf n' d' * 4503599627370496 :=
      Nat.mul_le_mul_right _ this
    omega
  · have : EOf n d = EOf n' d' := by unfold EOf; rw [h1]
    rw [this]; omega

theorem rndMag_mono {n d n' d' : ℕ} (hn : 0 < n) (hd : 0 < d) (hn' : 0 < n') (hd' : 0 < d')
    (h : (n : ℚ) / d ≤ (n' : ℚ) / d') : rndMag n d ≤ rndMag n' d' := by
  have := patOf_mono hn hd hn' hd' h
  rw [rndMag_eq, rndMag_eq]
  split_ifs <;> omega

theorem val_mono {n d n' d' : ℕ} (hn : 0 < n) (hd : 0 < d) (hn' : 0 < n') (hd' : 0 < d')
    (h : (n : ℚ) / d ≤ (n' : ℚ) / d') :
    (mOf n d : ℚ) * 2 ^ (eOf n d) ≤ (mOf n' d' : ℚ) * 2 ^ (eOf n' d') := by
  rcases lex_mono hn hd hn' hd' h with ⟨h1, h2⟩ | ⟨h1, h2⟩
  · have hm : (mOf n d : ℚ) ≤ 2 ^ (53 : ℤ) := by rw [p53]; exact_mod_cast mOf_le n d hn hd
    have hm' : (2 : ℚ) ^ (52 : ℤ) ≤ (mOf n' d' : ℚ) := by rw [p52]; exact_mod_cast h2
    calc (mOf n d : ℚ) * 2 ^ (eOf n d) ≤ 2 ^ (53 : ℤ) * 2 ^ (eOf n d) :=
          mul_le_mul_of_nonneg_right hm (two_zpow_pos _).le
      _ = 2 ^ (52 : ℤ) * 2 ^ (eOf n d + 1) := by
          rw [← two_zpow_add, ← two_zpow_add]; congr 1; ring
      _ ≤ 2 ^ (52 : ℤ) * 2 ^ (eOf n' d') :=
          mul_le_mul_of_nonneg_left (two_zpow_mono (by omega)) (two_zpow_pos _).le
      _ ≤ (mOf n' d' : ℚ) * 2 ^ (eOf n' d') :=
          mul_le_mul_of_nonneg_right hm' (two_zpow_pos _).le
  · rw [h1]
    exact mul_le_mul_of_nonneg_right (by exact_mod_cast h2) (two_zpow_pos _).le

end Marwood.Fl
