import Marwood.Vm.Compile
/-!
# What a successful call of each compile function looks like

One inductive family per compile function, one constructor per way it can succeed with fuel `fuel + 1`: the recursive
calls (at `fuel`) that succeeded and the code put together from theirs. The inductions on the compiler's fuel take
their cases from here.
-/
namespace Marwood.Vm
open Marwood

inductive HeadKind
  | define | defineSyntax | lambda | quasiquote | quote | ifForm | setBang | app
deriving DecidableEq

def headKind (proc : Datum) : HeadKind :=
  if proc.isSymStr ['d', 'e', 'f', 'i', 'n', 'e'] then .define
  else if proc.isSymStr ['d', 'e', 'f', 'i', 'n', 'e', '-', 's', 'y', 'n', 't', 'a', 'x'] then .defineSyntax
  else if proc.isSymStr ['l', 'a', 'm', 'b', 'd', 'a'] || proc.isSymStr ['λ'] then .lambda
  else if proc.isSymStr ['q', 'u', 'a', 's', 'i', 'q', 'u', 'o', 't', 'e'] then .quasiquote
  else if proc.isSymStr ['q', 'u', 'o', 't', 'e'] then .quote
  else if proc.isSymStr ['i', 'f'] then .ifForm
  else if proc.isSymStr ['s', 'e', 't', '!'] then .setBang
  else .app

theorem headKind_app {proc : Datum} (hn : ∀ kw ∈ specialForms, proc.isSymStr kw = false) : headKind proc = .app := by
  simp only [specialForms, List.forall_mem_cons] at hn
  obtain ⟨k1, k2, k3, k4, k5, k6, k7, k8, -⟩ := hn
  simp [headKind, k1, k2, k3, k4, k5, k6, k7, k8]

/-- the chain of keyword tests of `compile_expression`, with the branches as parameters; `compileExpr_view` folds
the unfolded `compileExpr` into this (`change`) and gets a `match` on `headKind` from `headCases_eq` -/
def headCases {α : Sort _} (proc : Datum) (define defineSyntax lambda quasiquote quote ifForm setBang app : α) : α :=
  if proc.isSymStr ['d', 'e', 'f', 'i', 'n', 'e'] then define
  else if proc.isSymStr ['d', 'e', 'f', 'i', 'n', 'e', '-', 's', 'y', 'n', 't', 'a', 'x'] then defineSyntax
  else if proc.isSymStr ['l', 'a', 'm', 'b', 'd', 'a'] || proc.isSymStr ['λ'] then lambda
  else if proc.isSymStr ['q', 'u', 'a', 's', 'i', 'q', 'u', 'o', 't', 'e'] then quasiquote
  else if proc.isSymStr ['q', 'u', 'o', 't', 'e'] then quote
  else if proc.isSymStr ['i', 'f'] then ifForm
  else if proc.isSymStr ['s', 'e', 't', '!'] then setBang
  else app

theorem headCases_eq {α : Sort _} (proc : Datum) (a1 a2 a3 a4 a5 a6 a7 a8 : α) :
    headCases proc a1 a2 a3 a4 a5 a6 a7 a8 =
      match headKind proc with
      | .define => a1 | .defineSyntax => a2 | .lambda => a3 | .quasiquote => a4
      | .quote => a5 | .ifForm => a6 | .setBang => a7 | .app => a8 := by
  have chain : ∀ b1 b2 b3 b4 b5 b6 b7 : Bool,
      (if b1 then a1 else if b2 then a2 else if b3 then a3 else if b4 then a4 else if b5 then a5
        else if b6 then a6 else if b7 then a7 else a8) =
      match (if b1 then HeadKind.define else if b2 then .defineSyntax else if b3 then .lambda
        else if b4 then .quasiquote else if b5 then .quote else if b6 then .ifForm else if b7 then .setBang
        else .app) with
      | .define => a1 | .defineSyntax => a2 | .lambda => a3 | .quasiquote => a4
      | .quote => a5 | .ifForm => a6 | .setBang => a7 | .app => a8 := by
    intro b1 b2 b3 b4 b5 b6 b7
    cases b1; cases b2; cases b3; cases b4; cases b5; cases b6; cases b7
    all_goals rfl
  exact chain _ _ _ _ _ _ _

/-- a datum `compile_expression` emits as an immediate -/
def selfEval : Datum → Bool
  | .bool _ | .char _ | .num _ | .str _ | .vec _ => true
  | _ => false

inductive ExprView (fuel : Nat) (st : CState) (c : Ctx) (base : Nat) (tail : Bool) :
    Datum → CState → List BC → Prop
  | defineVar {proc value : Datum} {s : Text} {st' : CState} {code : List BC} (hk : headKind proc = .define)
      (h : compileExpr fuel st c base false value = .ok (st', code)) (hs : isPrimitive s = false) :
      ExprView fuel st c base tail (.pair proc (.pair (.sym s) (.pair value .nil))) st' (code ++ storeCode c s)
  | defineFun {proc d value rest3 : Datum} {s : Text} {p : LambdaParts} {st1 : CState} {bcode : List BC}
      (hk : headKind proc = .define)
      (hp : lambdaParts fuel c (.pair proc (.pair (.pair (.sym s) d) (.pair value rest3))) true = .ok p)
      (hb : compileBody fuel st p.ctx p.prologue.length p.body = .ok (st1, bcode)) (hs : isPrimitive s = false) :
      ExprView fuel st c base tail (.pair proc (.pair (.pair (.sym s) d) (.pair value rest3)))
        (finishLambda st1 p bcode).1 ((finishLambda st1 p bcode).2 ++ storeCode c s)
  | lambda {proc rest : Datum} {p : LambdaParts} {st1 : CState} {bcode : List BC} (hk : headKind proc = .lambda)
      (hp : lambdaParts fuel c (.pair proc rest) false = .ok p)
      (hb : compileBody fuel st p.ctx p.prologue.length p.body = .ok (st1, bcode)) :
      ExprView fuel st c base tail (.pair proc rest) (finishLambda st1 p bcode).1 (finishLambda st1 p bcode).2
  | quasi {proc x d : Datum} {st' : CState} {code : List BC} (hk : headKind proc = .quasiquote)
      (h : compileQuasi fuel st c base x 0 = .ok (st', code)) :
      ExprView fuel st c base tail (.pair proc (.pair x d)) st' code
  | quote {proc x d : Datum} (hk : headKind proc = .quote) :
      ExprView fuel st c base tail (.pair proc (.pair x d)) st [.op .movImm, .datum x, .acc]
  | if2 {proc rest test conseq : Datum} {st1 st' : CState} {tcode ccode : List BC} (hk : headKind proc = .ifForm)
      (hi : Datum.iter rest = [test, conseq])
      (h1 : compileExpr fuel st c base false test = .ok (st1, tcode))
      (h2 : compileExpr fuel st1 c (base + tcode.length + 2) tail conseq = .ok (st', ccode)) :
      ExprView fuel st c base tail (.pair proc rest) st'
        (tcode ++ [.op .jnt, .target (base + tcode.length + 2 + ccode.length + 2)] ++ ccode
          ++ [.op .jmp, .target (base + tcode.length + 2 + ccode.length + 2 + 3)] ++ [.op .movImm, .void, .acc])
  | if3 {proc rest test conseq alt : Datum} {st1 st2 st' : CState} {tcode ccode acode : List BC}
      (hk : headKind proc = .ifForm) (hi : Datum.iter rest = [test, conseq, alt])
      (h1 : compileExpr fuel st c base false test = .ok (st1, tcode))
      (h2 : compileExpr fuel st1 c (base + tcode.length + 2) tail conseq = .ok (st2, ccode))
      (h3 : compileExpr fuel st2 c (base + tcode.length + 2 + ccode.length + 2) tail alt = .ok (st', acode)) :
      ExprView fuel st c base tail (.pair proc rest) st'
        (tcode ++ [.op .jnt, .target (base + tcode.length + 2 + ccode.length + 2)] ++ ccode
          ++ [.op .jmp, .target (base + tcode.length + 2 + ccode.length + 2 + acode.length)] ++ acode)
  | setBang {proc rest value : Datum} {s : Text} {st' : CState} {code : List BC} (hk : headKind proc = .setBang)
      (hi : Datum.iter rest = [.sym s, value]) (hs : isPrimitive s = false)
      (h : compileExpr fuel st c base false value = .ok (st', code)) :
      ExprView fuel st c base tail (.pair proc rest) st' (code ++ storeCode c s)
  | app {proc rest : Datum} {st1 st' : CState} {code pcode : List BC} {n : Nat} (hk : headKind proc = .app)
      (h1 : compileArgs fuel st c base rest = .ok (st1, code, n))
      (h2 : compileExpr fuel st1 c (base + code.length + 2) false proc = .ok (st', pcode)) :
      ExprView fuel st c base tail (.pair proc rest) st'
        (code ++ [.op .pushImm, .argc n] ++ pcode ++ [.op (if tail then .tcallAcc else .callAcc)])
  | sym {s : Text} (hs : isPrimitive s = false) :
      ExprView fuel st c base tail (.sym s) st [.op .mov, emitLoc c s, .acc]
  | const {d : Datum} (hd : selfEval d = true) : ExprView fuel st c base tail d st [.op .movImm, .datum d, .acc]

inductive ArgsView (fuel : Nat) (st : CState) (c : Ctx) (base : Nat) : Datum → CState → List BC → Nat → Prop
  | cons {a d : Datum} {st1 st' : CState} {code code2 : List BC} {n : Nat}
      (h1 : compileExpr fuel st c base false a = .ok (st1, code))
      (h2 : compileArgs fuel st1 c (base + code.length + 1) d = .ok (st', code2, n)) :
      ArgsView fuel st c base (.pair a d) st' (code ++ [.op .pushAcc] ++ code2) (n + 1)
  | nil {rest : Datum} (hr : rest.isPair = false) : ArgsView fuel st c base rest st [] 0

inductive BodyView (fuel : Nat) (st : CState) (c : Ctx) (base : Nat) : Datum → CState → List BC → Prop
  | cons {x rest : Datum} {st1 st' : CState} {code code2 : List BC}
      (h1 : compileExpr fuel st c base rest.isNil x = .ok (st1, code))
      (h2 : compileBody fuel st1 c (base + code.length) rest = .ok (st', code2)) :
      BodyView fuel st c base (.pair x rest) st' (code ++ code2)
  | nil {body : Datum} (hr : body.isPair = false) : BodyView fuel st c base body st []

/-- the nesting depth of the elements of a quasiquoted list whose head is `car` -/
def quasiDepth (car : Datum) (depth : Nat) : Nat :=
  let depth := if car.isSymStr ['u', 'n', 'q', 'u', 'o', 't', 'e'] then depth - 1 else depth
  if car.isSymStr ['q', 'u', 'a', 's', 'i', 'q', 'u', 'o', 't', 'e'] then depth + 1 else depth

inductive QuasiView (fuel : Nat) (st : CState) (c : Ctx) (base : Nat) : Datum → Nat → CState → List BC → Prop
  | vec {elems : Datum} {depth : Nat} {st' : CState} {code : List BC}
      (h : quasiVec fuel st c (base + 6) elems depth = .ok (st', code)) :
      QuasiView fuel st c base (.vec elems) depth st'
        ([.op .pushImm, .argc 0, .op .mov, .global ['v', 'e', 'c', 't', 'o', 'r'], .acc, .op .callAcc] ++ code)
  | unquote {car x d : Datum} {depth : Nat} {st' : CState} {code : List BC}
      (hu : (car.isSymStr ['u', 'n', 'q', 'u', 'o', 't', 'e'] && depth == 0) = true)
      (h : compileExpr fuel st c base false x = .ok (st', code)) :
      QuasiView fuel st c base (.pair car (.pair x d)) depth st' code
  | list {car d tailD : Datum} {depth count : Nat} {st' : CState} {code : List BC}
      (hu : (car.isSymStr ['u', 'n', 'q', 'u', 'o', 't', 'e'] && depth == 0) = false)
      (h : quasiList fuel st c base (.pair car d) (quasiDepth car depth) = .ok (st', code, count, tailD)) :
      QuasiView fuel st c base (.pair car d) depth st' (code ++ [.op .pushImm, .datum tailD] ++ consChain count)
  | atom {d : Datum} {depth : Nat} (hp : d.isPair = false) (hv : ∀ e, d ≠ .vec e) :
      QuasiView fuel st c base d depth st [.op .movImm, .datum d, .acc]

inductive QVecView (fuel : Nat) (st : CState) (c : Ctx) (base : Nat) (depth : Nat) :
    Datum → CState → List BC → Prop
  | cons {x rest : Datum} {st1 st' : CState} {code code2 : List BC}
      (h1 : compileQuasi fuel st c (base + 1) x depth = .ok (st1, code))
      (h2 : quasiVec fuel st1 c (base + 1 + code.length + 1) rest depth = .ok (st', code2)) :
      QVecView fuel st c base depth (.pair x rest) st' ([.op .pushAcc] ++ code ++ [.op .vpushAcc] ++ code2)
  | nil {elems : Datum} (hr : elems.isPair = false) : QVecView fuel st c base depth elems st []

inductive QListView (fuel : Nat) (st : CState) (c : Ctx) (base : Nat) (depth : Nat) :
    Datum → CState → List BC → Nat → Datum → Prop
  | cons {x d t : Datum} {st1 st' : CState} {code code2 : List BC} {count : Nat}
      (h1 : compileQuasi fuel st c base x depth = .ok (st1, code))
      (h2 : quasiList fuel st1 c (base + code.length + 1) d depth = .ok (st', code2, count, t)) :
      QListView fuel st c base depth (.pair x d) st' (code ++ [.op .pushAcc] ++ code2) (count + 1) t
  | nil {rest : Datum} (hr : rest.isPair = false) : QListView fuel st c base depth rest st [] 0 rest

variable {fuel : Nat} {st st' : CState} {c : Ctx} {base : Nat} {code : List BC}

theorem compileArgs_view {rest : Datum} {n : Nat} (h : compileArgs (fuel + 1) st c base rest = .ok (st', code, n)) :
    ArgsView fuel st c base rest st' code n := by
  cases rest with
  | pair a d =>
    unfold compileArgs at h
    cases h1 : compileExpr fuel st c base false a with
    | error e => simp [h1] at h
    | ok r1 =>
      obtain ⟨st1, code1⟩ := r1
      simp only [h1] at h
      cases h2 : compileArgs fuel st1 c (base + code1.length + 1) d with
      | error e => simp [h2] at h
      | ok r2 =>
        obtain ⟨st2, code2, n2⟩ := r2
        simp only [h2] at h
        cases h
        exact .cons h1 h2
  | _ => unfold compileArgs at h; cases h; exact .nil rfl

theorem compileBody_view {body : Datum} (h : compileBody (fuel + 1) st c base body = .ok (st', code)) :
    BodyView fuel st c base body st' code := by
  cases body with
  | pair x rest =>
    unfold compileBody at h
    cases h1 : compileExpr fuel st c base rest.isNil x with
    | error e => simp [h1] at h
    | ok r1 =>
      obtain ⟨st1, code1⟩ := r1
      simp only [h1] at h
      cases h2 : compileBody fuel st1 c (base + code1.length) rest with
      | error e => simp [h2] at h
      | ok r2 =>
        obtain ⟨st2, code2⟩ := r2
        simp only [h2] at h
        cases h
        exact .cons h1 h2
  | _ => unfold compileBody at h; cases h; exact .nil rfl

theorem quasiVec_view {elems : Datum} {depth : Nat}
    (h : quasiVec (fuel + 1) st c base elems depth = .ok (st', code)) :
    QVecView fuel st c base depth elems st' code := by
  cases elems with
  | pair x rest =>
    unfold quasiVec at h
    cases h1 : compileQuasi fuel st c (base + 1) x depth with
    | error e => simp [h1] at h
    | ok r1 =>
      obtain ⟨st1, code1⟩ := r1
      simp only [h1] at h
      cases h2 : quasiVec fuel st1 c (base + 1 + code1.length + 1) rest depth with
      | error e => simp [h2] at h
      | ok r2 =>
        obtain ⟨st2, code2⟩ := r2
        simp only [h2] at h
        cases h
        exact .cons h1 h2
  | _ => unfold quasiVec at h; cases h; exact .nil rfl

theorem quasiList_view {rest t : Datum} {depth count : Nat}
    (h : quasiList (fuel + 1) st c base rest depth = .ok (st', code, count, t)) :
    QListView fuel st c base depth rest st' code count t := by
  cases rest with
  | pair x d =>
    unfold quasiList at h
    cases h1 : compileQuasi fuel st c base x depth with
    | error e => simp [h1] at h
    | ok r1 =>
      obtain ⟨st1, code1⟩ := r1
      simp only [h1] at h
      cases h2 : quasiList fuel st1 c (base + code1.length + 1) d depth with
      | error e => simp [h2] at h
      | ok r2 =>
        obtain ⟨st2, code2, n2, t2⟩ := r2
        simp only [h2] at h
        cases h
        exact .cons h1 h2
  | _ => unfold quasiList at h; cases h; exact .nil rfl

theorem compileQuasi_view {e : Datum} {depth : Nat}
    (h : compileQuasi (fuel + 1) st c base e depth = .ok (st', code)) :
    QuasiView fuel st c base e depth st' code := by
  cases e with
  | vec elems =>
    unfold compileQuasi at h
    cases h1 : quasiVec fuel st c (base + 6) elems depth with
    | error e => simp [h1] at h
    | ok r1 =>
      obtain ⟨st1, code1⟩ := r1
      simp only [h1] at h
      cases h
      exact .vec h1
  | pair car d =>
    unfold compileQuasi at h
    simp only at h
    split at h
    · rename_i hu
      cases d with
      | pair x d2 => exact .unquote hu h
      | _ => simp at h
    · rename_i hu
      cases h1 : quasiList fuel st c base (.pair car d) (quasiDepth car depth) with
      | error e => simp [quasiDepth] at h1; simp [h1] at h
      | ok r1 =>
        obtain ⟨st1, code1, cnt, t⟩ := r1
        have h1' := h1
        simp only [quasiDepth] at h1'
        simp only [h1'] at h
        cases h
        exact .list (by simpa using hu) h1
  | _ => unfold compileQuasi at h; cases h; exact .atom rfl (fun _ => nofun)

theorem compileExpr_view {tail : Bool} {e : Datum} (h : compileExpr (fuel + 1) st c base tail e = .ok (st', code)) :
    ExprView fuel st c base tail e st' code := by
  cases e with
  | pair proc rest =>
    unfold compileExpr at h
    change headCases proc _ _ _ _ _ _ _ _ = _ at h
    rw [headCases_eq] at h
    cases hk : headKind proc <;> simp only [hk] at h
    · cases rest with
      | pair target rest2 =>
        simp only at h
        split at h
        · cases h
        · cases rest2 with
          | pair value rest3 =>
            simp only at h
            cases target with
            | sym s =>
              simp only at h
              split at h
              · cases h
              · rename_i hn
                cases h1 : compileExpr fuel st c base false value with
                | error e => simp [h1] at h
                | ok r1 =>
                  obtain ⟨st1, code1⟩ := r1
                  simp only [h1] at h
                  split at h
                  · cases h
                  · rename_i hs
                    cases h
                    cases rest3 <;> first | exact .defineVar hk h1 (by simpa using hs) | simp [Datum.isNil] at hn
            | pair name d =>
              simp only at h
              cases hp : lambdaParts fuel c (Datum.pair proc (Datum.pair (Datum.pair name d) (Datum.pair value rest3))) true with
              | error e => simp [hp] at h
              | ok p =>
                simp only [hp] at h
                cases hb : compileBody fuel st p.ctx p.prologue.length p.body with
                | error e => simp [hb] at h
                | ok r =>
                  obtain ⟨st1, bcode⟩ := r
                  simp only [hb] at h
                  cases name with
                  | sym s =>
                    simp only at h
                    split at h
                    · cases h
                    · rename_i hs
                      cases h
                      exact .defineFun hk hp hb (by simpa using hs)
                  | _ => simp at h
            | _ => simp at h
          | _ => simp at h
      | _ => simp at h
    · cases h
    · cases hp : lambdaParts fuel c (Datum.pair proc rest) false with
      | error e => simp [hp] at h
      | ok p =>
        simp only [hp] at h
        cases hb : compileBody fuel st p.ctx p.prologue.length p.body with
        | error e => simp [hb] at h
        | ok r =>
          obtain ⟨st1, bcode⟩ := r
          simp only [hb] at h
          cases h
          exact .lambda hk hp hb
    · cases rest with
      | pair x d => exact .quasi hk h
      | _ => simp at h
    · cases rest with
      | pair x d => simp only at h; cases h; exact .quote hk
      | _ => simp at h
    · split at h
      · cases h
      · split at h
        · rename_i test conseq hit
          cases h1 : compileExpr fuel st c base false test with
          | error e => simp [h1] at h
          | ok r1 =>
            obtain ⟨st1, tcode⟩ := r1
            simp only [h1] at h
            cases h2 : compileExpr fuel st1 c (base + tcode.length + 2) tail conseq with
            | error e => simp [h2] at h
            | ok r2 =>
              obtain ⟨st2, ccode⟩ := r2
              simp only [h2] at h
              cases h
              exact .if2 hk hit h1 h2
        · rename_i test conseq alt hit
          cases h1 : compileExpr fuel st c base false test with
          | error e => simp [h1] at h
          | ok r1 =>
            obtain ⟨st1, tcode⟩ := r1
            simp only [h1] at h
            cases h2 : compileExpr fuel st1 c (base + tcode.length + 2) tail conseq with
            | error e => simp [h2] at h
            | ok r2 =>
              obtain ⟨st2, ccode⟩ := r2
              simp only [h2] at h
              cases h3 : compileExpr fuel st2 c (base + tcode.length + 2 + ccode.length + 2) tail alt with
              | error e => simp [h3] at h
              | ok r3 =>
                obtain ⟨st3, acode⟩ := r3
                simp only [h3] at h
                cases h
                exact .if3 hk hit h1 h2 h3
        · cases h
    · split at h
      · rename_i s value hit
        split at h
        · cases h
        · rename_i hp
          cases h1 : compileExpr fuel st c base false value with
          | error e => simp [h1] at h
          | ok r1 =>
            obtain ⟨st1, code1⟩ := r1
            simp only [h1] at h
            cases h
            exact .setBang hk hit (by simpa using hp) h1
      · cases h
      · cases h
    · cases h1 : compileArgs fuel st c base rest with
      | error e => simp [h1] at h
      | ok r1 =>
        obtain ⟨st1, code1, n⟩ := r1
        simp only [h1] at h
        cases h2 : compileExpr fuel st1 c (base + code1.length + 2) false proc with
        | error e => simp [h2] at h
        | ok r2 =>
          obtain ⟨st2, pcode⟩ := r2
          simp only [h2] at h
          cases h
          exact .app hk h1 h2
  | sym s =>
    unfold compileExpr at h
    simp only at h
    split at h
    · cases h
    · rename_i hs
      cases h
      exact .sym (by simpa using hs)
  | _ => unfold compileExpr at h; cases h <;> exact .const rfl

theorem lambdaParts_view {fuel : Nat} {iof : Ctx} {e : Datum} {isDefine : Bool} {p : LambdaParts}
    (h : lambdaParts fuel iof e isDefine = .ok p) :
    ∃ head first internal free, e = .pair head (.pair first p.body) ∧
      p.ctx = ⟨p.formals, newEnvmap p.formals internal free ⟨iof.args, false, iof.envmap, [], false⟩⟩ ∧
      p.prologue = (if p.isVararg then [BC.op .varArg] else []) ++ [BC.op .enter] := by
  unfold lambdaParts at h
  split at h
  · split at h
    · cases h
    · split at h
      · simp only at h
        split at h
        · cases h
        · split at h
          · cases h
          · split at h
            · cases h
            · split at h
              · cases h
              · split at h
                · cases h
                · cases h
                  exact ⟨_, _, _, _, rfl, rfl, rfl⟩
      · cases h
  · cases h

theorem findIdx?_beq {l : List Text} {s : Text} {n : Nat} (h : l.findIdx? (· == s) = some n) : l[n]? = some s := by
  obtain ⟨hn, hs, _⟩ := List.findIdx?_eq_some_iff_getElem.1 h
  rw [List.getElem?_eq_getElem hn, eq_of_beq hs]

theorem mem_newEnvmap {formals internal free : List Text} {iof : LambdaM} {x : Text × Source}
    (hx : x ∈ newEnvmap formals internal free iof) :
    (x.2 = .iofEnvironment → iof.envmap.any (·.1 == x.1) = true) ∧
    ∀ n, x.2 = .iofArgument n → iof.envmap.any (·.1 == x.1) = false ∧ iof.args[n]? = some x.1 := by
  unfold newEnvmap at hx
  simp only [List.mem_append, List.mem_map, List.mem_filterMap] at hx
  rcases hx with (⟨⟨a, i⟩, _, rfl⟩ | ⟨a, _, rfl⟩) | ⟨s, _, hs⟩
  · exact ⟨nofun, nofun⟩
  · exact ⟨nofun, nofun⟩
  · cases h : iof.envmap.any (·.1 == s)
    · simp only [h, Bool.false_eq_true, if_false] at hs
      cases hf : iof.args.findIdx? (· == s) with
      | none => rw [hf] at hs; cases hs
      | some k => rw [hf] at hs; cases hs; exact ⟨nofun, fun n hn => by cases hn; exact ⟨h, findIdx?_beq hf⟩⟩
    · simp only [h, if_true] at hs; cases hs; exact ⟨fun _ => h, nofun⟩

theorem compileExpr_zero {tail : Bool} {e : Datum} {r : CState × List BC} :
    compileExpr 0 st c base tail e ≠ .ok r := by
  intro h; unfold compileExpr at h; cases h
theorem compileArgs_zero {e : Datum} {r : CState × List BC × Nat} : compileArgs 0 st c base e ≠ .ok r := by
  intro h; unfold compileArgs at h; cases h
theorem compileBody_zero {e : Datum} {r : CState × List BC} : compileBody 0 st c base e ≠ .ok r := by
  intro h; unfold compileBody at h; cases h
theorem compileQuasi_zero {e : Datum} {d : Nat} {r : CState × List BC} :
    compileQuasi 0 st c base e d ≠ .ok r := by
  intro h; unfold compileQuasi at h; cases h
theorem quasiVec_zero {e : Datum} {d : Nat} {r : CState × List BC} : quasiVec 0 st c base e d ≠ .ok r := by
  intro h; unfold quasiVec at h; cases h
theorem quasiList_zero {e : Datum} {d : Nat} {r : CState × List BC × Nat × Datum} :
    quasiList 0 st c base e d ≠ .ok r := by
  intro h; unfold quasiList at h; cases h

theorem compileTop_ok {e : Datum} {fuel : Nat} {st : CState} {lam : LambdaM} (h : compileTop e fuel = .ok (st, lam)) :
    ∃ code, compileExpr fuel {} ⟨[], []⟩ 1 true e = .ok (st, code) ∧
      lam = ⟨[], false, [], [.op .enter] ++ code ++ [.op .ret], true⟩ := by
  unfold compileTop at h
  split at h
  · cases h; exact ⟨_, ‹_›, rfl⟩
  · cases h

/-- every compile function extends the table at its end -/
structure GrowsOK (fuel : Nat) : Prop where
  expr : ∀ {st c base tail e st' code}, compileExpr fuel st c base tail e = .ok (st', code) →
    st.lambdas <+: st'.lambdas
  args : ∀ {st c base e st' code n}, compileArgs fuel st c base e = .ok (st', code, n) → st.lambdas <+: st'.lambdas
  body : ∀ {st c base e st' code}, compileBody fuel st c base e = .ok (st', code) → st.lambdas <+: st'.lambdas
  quasi : ∀ {st c base e depth st' code}, compileQuasi fuel st c base e depth = .ok (st', code) →
    st.lambdas <+: st'.lambdas
  qvec : ∀ {st c base e depth st' code}, quasiVec fuel st c base e depth = .ok (st', code) →
    st.lambdas <+: st'.lambdas
  qlist : ∀ {st c base e depth st' code n t}, quasiList fuel st c base e depth = .ok (st', code, n, t) →
    st.lambdas <+: st'.lambdas

theorem growsOK : ∀ fuel, GrowsOK fuel
  | 0 => ⟨fun h => absurd h compileExpr_zero, fun h => absurd h compileArgs_zero, fun h => absurd h compileBody_zero,
      fun h => absurd h compileQuasi_zero, fun h => absurd h quasiVec_zero, fun h => absurd h quasiList_zero⟩
  | fuel + 1 => by
    have ih := growsOK fuel
    have fin : ∀ (st : CState) (p : LambdaParts) (code : List BC),
        st.lambdas <+: (finishLambda st p code).1.lambdas := fun _ _ _ => List.prefix_append _ _
    refine ⟨fun h => ?_, fun h => ?_, fun h => ?_, fun h => ?_, fun h => ?_, fun h => ?_⟩
    · cases compileExpr_view h with
      | defineVar _ h1 => exact ih.expr h1
      | defineFun _ _ hb => exact (ih.body hb).trans (fin _ _ _)
      | lambda _ _ hb => exact (ih.body hb).trans (fin _ _ _)
      | quasi _ h1 => exact ih.quasi h1
      | if2 _ _ h1 h2 => exact (ih.expr h1).trans (ih.expr h2)
      | if3 _ _ h1 h2 h3 => exact ((ih.expr h1).trans (ih.expr h2)).trans (ih.expr h3)
      | setBang _ _ _ h1 => exact ih.expr h1
      | app _ h1 h2 => exact (ih.args h1).trans (ih.expr h2)
      | quote | sym | const => exact List.prefix_refl _
    · cases compileArgs_view h with
      | cons h1 h2 => exact (ih.expr h1).trans (ih.args h2)
      | nil => exact List.prefix_refl _
    · cases compileBody_view h with
      | cons h1 h2 => exact (ih.expr h1).trans (ih.body h2)
      | nil => exact List.prefix_refl _
    · cases compileQuasi_view h with
      | vec h1 => exact ih.qvec h1
      | unquote _ h1 => exact ih.expr h1
      | list _ h1 => exact ih.qlist h1
      | atom => exact List.prefix_refl _
    · cases quasiVec_view h with
      | cons h1 h2 => exact (ih.quasi h1).trans (ih.qvec h2)
      | nil => exact List.prefix_refl _
    · cases quasiList_view h with
      | cons h1 h2 => exact (ih.quasi h1).trans (ih.qlist h2)
      | nil => exact List.prefix_refl _

end Marwood.Vm
