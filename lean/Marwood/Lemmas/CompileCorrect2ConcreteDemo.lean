import Marwood.Lemmas.CompileCorrect2ConcreteAll
import Marwood.Lemmas.CompileCorrect2ConcreteDemoHeap
import Marwood.Lemmas.CompileCorrect2Demo
import Marwood.Lemmas.CompileCorrect2ErrAtoms
/-!
# T01.3 stage 2: `((lambda (x) (if x 1 2)) #t)` on the CONCRETE heap model

`cdHeap` and `cLamTop` are written out; they are `c3Heap cLam0 cLamTop` and `topLam demoCells1` of
`CompileCorrect2ConcreteDemoHeap.lean` by `rfl`, which is how `c3_inv`, `c3_freeInv` and `topLam_fetch` apply to them.
CLOSURE takes the two free cells, ENTER grows the heap, through the allocator of `Vm/ConcreteHeap.lean`, with `Laws2`
proved (`concrete_laws2`; no global is named and no primitive is bound, so its hypotheses `hinj` and `hcall` hold
vacuously). At the end, `concrete_errLaws2`: `ErrLaws2` for the same representation, the failing builtins being the
hypothesis.
-/
namespace Marwood.Lemmas.CompileCorrect2.Conc
open Marwood Marwood.Vm Marwood.Vm.Concrete Marwood.Vm.Verify Marwood.Lemmas.CompileCorrect
open Marwood.Lemmas.CompileCorrect2 Marwood.Lemmas.CompileCorrect2.Toy
open Marwood.Spec.Eval (Val Cell evalN)

/-- `.opaque "yx"` stands for the symbol `x`; of a code object's formals only the number, of its map only the
    sources are ever read -/
def cLam0 : CLambda := ⟨demoCells0, [.opaque "yx"], [(.opaque "yx", .arg 0)]⟩
def cLamTop : CLambda := ⟨[.opcode .enter] ++ demoCells1 ++ [.opcode .ret], [], []⟩

def cdHeap : CHeap :=
  { chunk := 4, cells := #[.lambda cLam0, .lambda cLamTop, .val .undefined, .val .undefined]
    gc := #[.allocated, .allocated, .free, .free], free := [2, 3], symtab := [], globSyms := [], globals := #[] }

def cdState : MSt CHeap :=
  { heap := cdHeap, stack := ⟨List.replicate 8 .undefined, 0⟩, acc := .undefined, ep := 0, ipL := 1, ipO := 1, bp := 0 }

abbrev cdD (ext : ExtOps) : RepData2 (concreteOps ext) :=
  cD ext demoEnc (fun _ => False) (fun _ => 0) id [demoLam] (fun _ => False)

theorem cd_compile : compileExpr 20 {} c0 1 false progE = .ok ({ lambdas := [demoLam] }, progCode) :=
  okIs_eq (by decide +kernel)

theorem cd_ver0 : (verifyLam cLam0.bc).isSome = true := by decide +kernel
theorem cd_ver1 : (verifyLam cLamTop.bc).isSome = true := by decide +kernel

theorem cd_inv : CInv cdHeap :=
  CompileCorrect3.Conc.c3_inv cd_ver0 cd_ver1
    (by
      intro x hx n
      have : x = (VCell.opaque "yx", Concrete.Source.arg 0) := by simpa [cLam0] using hx
      subst this
      intro e; cases e)
    (by intro x hx; simp [cLamTop] at hx) (by decide) (by decide)

theorem cd_free : FreeInv cdHeap := CompileCorrect3.Conc.c3_freeInv

theorem cd_code0 (ext : ExtOps) (S : Array Cell) : CodeAt2 (cdD ext) lamCtx.envmap cdHeap S 0 0 demoLam.bc := by
  refine CodeAt2.ofAll2 demoCells0 rfl (fun i _ => by rw [Nat.zero_add]; rfl) ?_
  have hslot : Loads2 (cdD ext) lamCtx.envmap cdHeap S (.envSlot kx) (.lexEnvSlot 0) := ⟨0, by decide, rfl⟩
  have n1 : Loads2 (cdD ext) lamCtx.envmap cdHeap S (.datum (.num (.fix 1))) (.opaque "n1") :=
    ⟨(by intro o e; cases e), .atom (w := .int 1) rfl (.base ⟨.opaque "n1", by decide, .inl rfl⟩)⟩
  have n2 : Loads2 (cdD ext) lamCtx.envmap cdHeap S (.datum (.num (.fix 2))) (.opaque "n2") :=
    ⟨(by intro o e; cases e), .atom (w := .int 2) rfl (.base ⟨.opaque "n2", by decide, .inl rfl⟩)⟩
  exact .cons rfl (.cons rfl (.cons hslot (.cons rfl (.cons rfl (.cons rfl (.cons rfl
    (.cons n1 (.cons rfl (.cons rfl (.cons rfl (.cons rfl (.cons n2 (.cons rfl (.cons rfl .nil))))))))))))))

theorem cd_code1 (ext : ExtOps) (S : Array Cell) : CodeAt2 (cdD ext) c0.envmap cdHeap S 1 1 progCode := by
  refine CodeAt2.ofAll2 demoCells1 rfl (fun i hi => CompileCorrect3.Conc.topLam_fetch demoCells1 i hi) ?_
  have hb : Loads2 (cdD ext) c0.envmap cdHeap S (.datum (.bool true)) (.bool true) :=
    ⟨(by intro o e; cases e), .atom (w := .bool true) rfl (.base ⟨.bool true, rfl, .inl rfl⟩)⟩
  have hlam : Loads2 (cdD ext) c0.envmap cdHeap S (.lambda 0) (.ptr 0) := loads_lambda (id := 0) rfl rfl rfl
  exact .cons rfl (.cons hb (.cons rfl (.cons rfl (.cons rfl (.cons rfl (.cons rfl (.cons hlam (.cons rfl
    (.cons rfl (.cons rfl .nil))))))))))

theorem cd_inv2 (ext : ExtOps) : Inv2 (cdD ext) W0 cdHeap demoSt :=
  ⟨(by intro x w h; cases h), (by intro x h; cases h), ⟨cd_inv, cd_free, by intro x h; cases h⟩,
    (by intro x h; cases h), forall_getElem?_cons ⟨cd_code0 ext _, rfl⟩ forall_getElem?_nil,
    (by intro e n l l' h; cases h), (by intro e n e' n' l h; cases h), (by intro e n l h; cases h)⟩

theorem cd_laws (ext : ExtOps) : Laws2 (cdD ext) :=
  concrete_laws2 (by intro a b h; cases h)
    fun _ _ _ _ _ _ _ _ _ _ _ hvf => (cVR_no_prim rfl hvf).elim

/-- **Stage 2 on the concrete heap model**: the run of `((lambda (x) (if x 1 2)) #t)` exists — CLOSURE and ENTER
    allocate through the free list and the chunk growth of the real allocator — and ends with a representation
    of `1` in `acc`, for every choice of the unmodelled operations `ext`. -/
theorem demo_concrete_closure_runs (ext : ExtOps) :
    ∃ W' s', Run2 (cdD ext) W' cdState 11 demoSt demoSt' (.int 1) s' := by
  obtain ⟨W', s', _, r⟩ := compileExpr_correct2_nontail (cd_laws ext) 20 {} c0 1 progE _ progCode [] demo_frag
    ctxOK_top cd_compile (List.prefix_refl _) 6 demoSt (.int 1) demoSt' demo_eval W0 cdState (cd_code1 ext _) rfl
    (cd_inv2 ext) (envRep_top _ _ _) (by show 0 < 8; omega)
  exact ⟨W', s', r⟩

variable {ext : ExtOps} {E : AtomEnc} {named : Text → Prop} {slot : Text → Nat} {LM : Nat → Nat}
  {final : List LambdaM} {setG : Text → Prop}

theorem c_callee_other {h : CHeap} {S : Array Cell} {v : VCell} {w : Val} (hv : cVR ext E h S v w)
    (hp : ∀ p, w ≠ .prim p) : (concreteOps ext).callee h v = .other := by
  refine callee_other ?_
  cases hv with
  | base hb =>
    obtain ⟨c, hc, hv⟩ := hb
    have hd : Concrete.deref h v = c := by
      rcases hv with rfl | ⟨q, rfl, hg⟩
      · exact deref_of_not_ptr (cell_not_ptr hc)
      · exact hg
    rw [hd]; exact nonProc_not_proc (cell_nonProc hc hp)
  | pair hs hd _ _ => rw [show Concrete.deref h v = .pair _ _ from hd]; rfl
  | vec hs hv' _ => cases hv'

/-- **`ErrLaws2` on the concrete heap model**: the dispatch part is a theorem, the failing builtins are the
    hypothesis. -/
theorem concrete_errLaws2
    (hcall : ∀ n W h (σ : SSt) vf p vs ws c (σ' : SSt), Inv2 (cD ext E named slot LM final setG) W h σ →
      (cD ext E named slot LM final setG).VR h σ.store vf (.prim p) →
      All2 (VR2 (cD ext E named slot LM final setG) W h σ.store) vs ws → (evalN n).apply (.prim p) ws σ = .err c σ' →
      c ≠ .syntax →
      ∃ id e', (concreteOps ext).callee h vf = .builtin id ∧ (concreteOps ext).builtinKind h id = .generic ∧
        builtinResult (concreteOps ext) h id vs.reverse = .err e' ∧ machClass e' = specClass c ∧
        Inv2 (cD ext E named slot LM final setG) W h σ' ∧
        Ext2 (cD ext E named slot LM final setG) h σ.store h σ'.store) :
    ErrLaws2 (cD ext E named slot LM final setG) where
  call_err := hcall
  callee_other := fun _ _ _ _ hv hp => c_callee_other hv hp

end Marwood.Lemmas.CompileCorrect2.Conc
