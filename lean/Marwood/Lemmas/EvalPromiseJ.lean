import Marwood.Lemmas.EvalExtraMain
/-!
# Extra-cell invariance WITH A FRAME: the cells of the larger store outside the image stay as they are

`StRel f st st'` (`EvalExtra.lean`) says nothing about the cells of the larger store outside the image
of `f`. The promise theorems need them: the prelude's `force` allocates the promise structure and the
parameter cells of its calls BEFORE the delayed expression runs and reads them again afterwards
(natively: the promise cell). The FRAME `J : Loc → Option Cell` lists such cells (`joff`);
`StRelJ f J` = `StRel f` + "they hold what `J` says" (`junk`); `SimJ` is `SimD` at `J`, time-out allowed
on the left: every write of the larger run goes to an image location or to the allocation frontier.
(The frame property T01.1 is something else: `EvalFrameMain.lean`.)
-/
namespace Marwood.Spec.Eval.ExtraJ
open Marwood Marwood.Spec.Eval Marwood.Spec.Eval.Extra

def ResRelJ {α α' : Type} (f : LMap) (J : Junk) (R : α → α' → Prop) : Res α → Res α' → Prop
  | .ok a s, .ok a' s' => R a a' ∧ StRelJ f J s s'
  | .err e s, .err e' s' => e = e' ∧ StRelJ f J s s'
  | .timeout, _ => True
  | _, _ => False

def SimJ {α α' : Type} (f : LMap) (J : Junk) (R : α → α' → Prop) (m : M α) (m' : M α') : Prop :=
  ∀ st st', StRelJ f J st st' → ResRelJ f J R (m st) (m' st')

variable {f : LMap} {J : Junk} {α α' β β' : Type}

theorem resRelJ_iff {R : α → α' → Prop} {res : Res α} {res' : Res α'} :
    ResRelJ f J R res res' ↔ ResRelD (StRelJ f J) .left R res res' := by
  cases res <;> cases res' <;> simp [ResRelJ, ResRelD]

theorem simJ_iff {R : α → α' → Prop} {m : M α} {m' : M α'} : SimJ f J R m m' ↔ SimD f J .left R m m' :=
  ⟨fun h st st' r => resRelJ_iff.1 (h st st' r), fun h st st' r => resRelJ_iff.2 (h st st' r)⟩

theorem ResRelJ.ok_inv {R : α → α' → Prop} {a : α} {s : St} {res' : Res α'} (h : ResRelJ f J R (.ok a s) res') :
    ∃ a' s', res' = .ok a' s' ∧ R a a' ∧ StRelJ f J s s' := by
  cases res' with
  | ok a' s' => exact ⟨a', s', rfl, h.1, h.2⟩
  | err e s' => exact h.elim
  | timeout => exact h.elim

theorem ResRelJ.err_inv {R : α → α' → Prop} {e : ErrClass} {s : St} {res' : Res α'} (h : ResRelJ f J R (.err e s) res') :
    ∃ s', res' = .err e s' ∧ StRelJ f J s s' := by
  cases res' with
  | ok a' s' => exact h.elim
  | err e' s' => obtain ⟨rfl, h2⟩ := h; exact ⟨s', rfl, h2⟩
  | timeout => exact h.elim

theorem SimJ.bind {R : α → α' → Prop} {Q : β → β' → Prop} {m : M α} {m' : M α'} {k : α → M β} {k' : α' → M β'}
    (hm : SimJ f J R m m') (hk : ∀ a a', R a a' → SimJ f J Q (k a) (k' a')) : SimJ f J Q (m >>= k) (m' >>= k') :=
  simJ_iff.2 ((simJ_iff.1 hm).bind fun a a' h => simJ_iff.1 (hk a a' h))

theorem SimJ.pure {R : α → α' → Prop} (a : α) (a' : α') (h : R a a') : SimJ f J R (pure a : M α) (pure a' : M α') :=
  simJ_iff.2 (SimD.pure a a' h)

theorem SimJ.throw {R : α → α' → Prop} (e : ErrClass) : SimJ f J R (throw e : M α) (throw e : M α') :=
  simJ_iff.2 (SimD.throw e)

theorem SimJ.timeout {R : α → α' → Prop} (m' : M α') : SimJ f J R (timeoutM : M α) m' :=
  simJ_iff.2 (SimD.timeout_left m')

theorem SimJ.mono {R Q : α → α' → Prop} {m : M α} {m' : M α'} (hm : SimJ f J R m m')
    (hq : ∀ a a', R a a' → Q a a') : SimJ f J Q m m' := simJ_iff.2 ((simJ_iff.1 hm).mono hq)

theorem ResRelJ.to_fwd {R : α → α' → Prop} {res : Res α} {res' : Res α'} (h : ResRelJ f J R res res') :
    ResRel f R res res' :=
  resRel_iff.2 ((resRelJ_iff.1 h).imp (fun _ _ hs => hs.toStRel) (fun _ _ hr => hr))

structure RecSimJ (f : LMap) (J : Junk) (r r' : Rec) : Prop where
  eval : ∀ e ρ ρ' B, EnvRel f B ρ ρ' → CleanB B e → SimJ f J (VRel f) (r.eval e ρ) (r'.eval e ρ')
  apply : ∀ g g' args args', VRel f g g' → VsRel f args args' → SimJ f J (VRel f) (r.apply g args) (r'.apply g' args')

/-- the guarded evaluator at fuel `n` is simulated by the evaluator at fuel `n` -/
theorem recSimJ (hf : Inj f) : ∀ (n : Nat), RecSimJ f J (guardN n) (evalN n) :=
  fun n => ⟨fun e ρ ρ' B he hc => simJ_iff.2 ((recSimD hf n).eval e ρ ρ' B he hc),
            fun g g' args args' hg ha => simJ_iff.2 ((recSimD hf n).apply g g' args args' hg ha)⟩

/-- `Extra.extra_cell_invariance` with the frame: the cells `J` lists, outside the image of `f`, hold the
    same content after the run (`StRelJ.junk` of the resulting states) -/
theorem extra_cell_invariance (hf : Inj f) (n : Nat) (e : Datum) {B : List Text} {ρ ρ' : Env} (he : EnvRel f B ρ ρ')
    (hc : CleanB B e) {st st' : St} (rs : StRelJ f J st st') :
    ResRelJ f J (VRel f) ((guardN n).eval e ρ st) ((evalN n).eval e ρ' st') :=
  (recSimJ hf n).eval e ρ ρ' B he hc st st' rs

theorem extra_cell_invariance_apply (hf : Inj f) (n : Nat) {g g' : Val} (hg : VRel f g g') {args args' : List Val}
    (ha : VsRel f args args') {st st' : St} (rs : StRelJ f J st st') :
    ResRelJ f J (VRel f) ((guardN n).apply g args st) ((evalN n).apply g' args' st') :=
  (recSimJ hf n).apply g g' args args' hg ha st st' rs

theorem extra_cell_invariance_top (hf : Inj f) (n : Nat) (d : Datum) {st st' : St} (rs : StRelJ f J st st') :
    ResRelJ f J (VRel f) (evalTop (guardN n) d st) (evalTop (evalN n) d st') :=
  resRelJ_iff.2 (simD_evalTop hf (recSimD hf n) d st st' rs)

end Marwood.Spec.Eval.ExtraJ
