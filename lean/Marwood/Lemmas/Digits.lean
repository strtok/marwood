import Marwood.Num.Text
/-!
# Digits: printing and reading naturals and integers in radix 2..36 are inverse (C16, C10)

`natDigits` is by well-founded recursion: the inductions unfold it through `natDigits_lt`, `natDigits_ge`; what holds
of every character of a digit string comes from a table over the digit characters by `natDigits_forall`.
-/
namespace Marwood

theorem digitVal_digitChar : ∀ d, d < 36 → digitVal (digitChar d) = some d := by decide

theorem digitChar_plain : ∀ d, d < 36 →
    digitChar d ≠ '+' ∧ digitChar d ≠ '-' ∧ digitChar d ≠ '_' ∧ digitChar d ≠ '/' ∧
    digitChar d ≠ '.' ∧ digitChar d ≠ '#' := by decide

theorem toDigit_digitChar {r d : Nat} (hd : d < r) (hr : r ≤ 36) :
    toDigit r (digitChar d) = some d := by
  unfold toDigit
  rw [digitVal_digitChar d (by omega)]
  simp [hd]

theorem digitsVal_append (r : Nat) : ∀ (xs ys : Text) (acc : Nat),
    digitsVal r acc (xs ++ ys) = (digitsVal r acc xs).bind (fun a => digitsVal r a ys) := by
  intro xs
  induction xs with
  | nil => intro ys acc; simp [digitsVal]
  | cons c cs ih =>
    intro ys acc
    simp only [List.cons_append, digitsVal]
    cases toDigit r c with
    | none => simp
    | some d => simp only; exact ih ys _

theorem natDigits_lt {r n : Nat} (h : n < r) : natDigits r n = [digitChar n] := by
  rw [natDigits]; simp [h]

theorem natDigits_ge {r n : Nat} (h1 : ¬ n < r) (h2 : 2 ≤ r) :
    natDigits r n = natDigits r (n / r) ++ [digitChar (n % r)] := by
  rw [natDigits]
  have : ¬ (n < r ∨ r < 2) := by omega
  simp [this]

theorem natDigits_ne_nil (r n : Nat) : natDigits r n ≠ [] := by
  unfold natDigits
  split <;> simp

/-- T16.1 core -/
theorem digitsVal_natDigits {r : Nat} (h2 : 2 ≤ r) (h36 : r ≤ 36) :
    ∀ n, digitsVal r 0 (natDigits r n) = some n := by
  intro n
  induction n using Nat.strongRecOn with
  | _ n ih =>
    by_cases hn : n < r
    · simp [natDigits_lt hn, digitsVal, toDigit_digitChar hn h36]
    · have hlt : n / r < n := Nat.div_lt_self (by omega) (by omega)
      rw [natDigits_ge hn h2, digitsVal_append, ih _ hlt]
      have hm : n % r < r := Nat.mod_lt _ (by omega)
      simp only [Option.bind_some, digitsVal, toDigit_digitChar hm h36]
      congr 1
      exact Nat.div_add_mod' n r

theorem natDigits_chars {r : Nat} (h2 : 2 ≤ r) : ∀ n, ∀ c ∈ natDigits r n, ∃ d, d < r ∧ c = digitChar d := by
  intro n
  induction n using Nat.strongRecOn with
  | _ n ih =>
    by_cases hn : n < r
    · intro c hc
      rw [natDigits_lt hn, List.mem_singleton] at hc
      exact ⟨n, hn, hc⟩
    · have hlt : n / r < n := Nat.div_lt_self (by omega) (by omega)
      intro c hc
      rw [natDigits_ge hn h2] at hc
      rcases List.mem_append.mp hc with hc | hc
      · exact ih _ hlt c hc
      · simp only [List.mem_singleton] at hc
        exact ⟨n % r, Nat.mod_lt _ (by omega), hc⟩

theorem natDigits_forall {r : Nat} (h2 : 2 ≤ r) {P : Char → Prop} (h : ∀ d, d < r → P (digitChar d))
    (n : Nat) : ∀ c ∈ natDigits r n, P c := by
  intro c hc
  obtain ⟨d, hd, rfl⟩ := natDigits_chars h2 n c hc
  exact h d hd

theorem parseNat_natDigits {r : Nat} (h2 : 2 ≤ r) (h36 : r ≤ 36) (n : Nat) :
    parseNat r (natDigits r n) = some n := by
  unfold parseNat
  have := natDigits_ne_nil r n
  cases h : natDigits r n with
  | nil => exact absurd h this
  | cons c cs => simp only; rw [← h]; exact digitsVal_natDigits h2 h36 n

theorem natDigits_head {r : Nat} (h2 : 2 ≤ r) (h36 : r ≤ 36) (n : Nat) :
    ∃ c cs, natDigits r n = c :: cs ∧ c ≠ '+' ∧ c ≠ '-' ∧ c ≠ '_' := by
  cases h : natDigits r n with
  | nil => exact absurd h (natDigits_ne_nil r n)
  | cons c cs =>
    obtain ⟨d, hd, rfl⟩ := natDigits_chars h2 n c (by rw [h]; simp)
    have := digitChar_plain d (by omega)
    exact ⟨_, _, rfl, this.1, this.2.1, this.2.2.1⟩

/-- exactly when it is in range -/
theorem parseIntStd_intDigits {r : Nat} (h2 : 2 ≤ r) (h36 : r ≤ 36) (inR : Int → Bool) (n : Int) :
    parseIntStd inR r (intDigits r n) = if inR n then some n else none := by
  unfold intDigits
  obtain ⟨c, cs, hcs, hp, hm, _⟩ := natDigits_head h2 h36 n.natAbs
  have hpn := parseNat_natDigits h2 h36 n.natAbs
  by_cases hneg : n < 0
  · simp only [hneg, if_true, hcs]
    have hv : -((n.natAbs : Nat) : Int) = n := by omega
    unfold parseIntStd
    simp only [show ('-' : Char) ≠ '+' by decide, if_false, if_true]
    rw [← hcs, hpn]
    simp only [hv]
  · simp only [hneg, if_false, hcs]
    have hv : ((n.natAbs : Nat) : Int) = n := by omega
    unfold parseIntStd
    cases cs with
    | nil =>
      simp only [hp, hm, or_self, if_false]
      rw [← hcs, hpn]; simp only [hv]
    | cons x xs =>
      simp only [hp, hm, if_false]
      rw [← hcs, hpn]; simp only [hv]

theorem bigDigitsVal_eq_digitsVal (r : Nat) : ∀ (cs : Text) (acc : Nat), (∀ c ∈ cs, c ≠ '_') →
    bigDigitsVal r acc cs = digitsVal r acc cs := by
  intro cs
  induction cs with
  | nil => intro acc _; rfl
  | cons c cs ih =>
    intro acc h
    have hc : c ≠ '_' := h c (by simp)
    simp only [bigDigitsVal, digitsVal, hc, if_false]
    cases toDigit r c with
    | none => rfl
    | some d => exact ih _ (fun x hx => h x (by simp [hx]))

theorem natDigits_no_underscore {r : Nat} (h2 : 2 ≤ r) (h36 : r ≤ 36) (n : Nat) :
    ∀ c ∈ natDigits r n, c ≠ '_' :=
  natDigits_forall h2 (fun d hd => (digitChar_plain d (by omega)).2.2.1) n

theorem stripPlus_of_ne {c : Char} {cs : Text} (h : c ≠ '+') : stripPlus (c :: cs) = c :: cs := by
  unfold stripPlus
  split
  · rename_i heq; simp only [List.cons.injEq] at heq; exact absurd heq.1 h
  · rfl

theorem afterMinus_of_ne {c : Char} {cs : Text} (h : c ≠ '+') : afterMinus (c :: cs) = c :: cs := by
  unfold afterMinus
  split
  · rename_i heq; simp only [List.cons.injEq] at heq; exact absurd heq.1 h
  · rfl

theorem parseBigUint_natDigits {r : Nat} (h2 : 2 ≤ r) (h36 : r ≤ 36) (n : Nat) :
    parseBigUint r (natDigits r n) = some n := by
  obtain ⟨c, cs, hcs, hp, hm, hu⟩ := natDigits_head h2 h36 n
  unfold parseBigUint
  rw [hcs, stripPlus_of_ne hp]
  simp only [hu, if_false]
  rw [← hcs, bigDigitsVal_eq_digitsVal _ _ _ (natDigits_no_underscore h2 h36 n)]
  exact digitsVal_natDigits h2 h36 n

theorem parseBigInt_intDigits {r : Nat} (h2 : 2 ≤ r) (h36 : r ≤ 36) (n : Int) :
    parseBigInt r (intDigits r n) = some n := by
  unfold intDigits
  obtain ⟨c, cs, hcs, hp, hm, _⟩ := natDigits_head h2 h36 n.natAbs
  have hpn := parseBigUint_natDigits h2 h36 n.natAbs
  by_cases hneg : n < 0
  · simp only [hneg, if_true]
    unfold parseBigInt
    simp only
    rw [hcs, afterMinus_of_ne hp, ← hcs, hpn]
    show some (-(Int.ofNat n.natAbs)) = some n
    congr 1
    rw [Int.ofNat_eq_natCast]
    omega
  · simp only [hneg, if_false]
    unfold parseBigInt
    rw [hcs]
    split
    · rename_i heq; simp only [List.cons.injEq] at heq; exact absurd heq.1 hm
    · rw [← hcs, hpn]
      show some (Int.ofNat n.natAbs) = some n
      congr 1
      rw [Int.ofNat_eq_natCast]
      omega

/-! ## a character that is no digit makes every integer parser fail; `/` splits a ratio spelling -/

theorem digitsVal_fail (r : Nat) {c : Char} (hc : toDigit r c = none) :
    ∀ (cs : Text) (acc : Nat), c ∈ cs → digitsVal r acc cs = none := by
  intro cs
  induction cs with
  | nil => intro acc h; simp at h
  | cons x xs ih =>
    intro acc h
    simp only [digitsVal]
    rcases List.mem_cons.mp h with rfl | h
    · rw [hc]
    · cases toDigit r x with
      | none => rfl
      | some d => exact ih _ h

theorem bigDigitsVal_fail (r : Nat) {c : Char} (hc : toDigit r c = none) (hu : c ≠ '_') :
    ∀ (cs : Text) (acc : Nat), c ∈ cs → bigDigitsVal r acc cs = none := by
  intro cs
  induction cs with
  | nil => intro acc h; simp at h
  | cons x xs ih =>
    intro acc h
    simp only [bigDigitsVal]
    rcases List.mem_cons.mp h with rfl | h
    · simp only [hu, if_false]; rw [hc]
    · split
      · exact ih _ h
      · cases toDigit r x with
        | none => rfl
        | some d => exact ih _ h

theorem parseNat_fail (r : Nat) {c : Char} (hc : toDigit r c = none) (cs : Text) (h : c ∈ cs) :
    parseNat r cs = none := by
  unfold parseNat
  cases cs with
  | nil => rfl
  | cons x xs => exact digitsVal_fail r hc _ _ h

theorem parseIntStd_fail (inR : Int → Bool) (r : Nat) {c : Char} (hc : toDigit r c = none)
    (hp : c ≠ '+') (hm : c ≠ '-') (s : Text) (h : c ∈ s) : parseIntStd inR r s = none := by
  cases s with
  | nil => simp at h
  | cons x rest =>
    cases rest with
    | nil =>
      simp only [List.mem_singleton] at h
      subst h
      simp only [parseIntStd, hp, hm, or_self, if_false]
      rw [parseNat_fail r hc _ (by simp)]
    | cons y ys =>
      simp only [parseIntStd]
      by_cases hxp : x = '+'
      · have : c ∈ y :: ys := by
          rcases List.mem_cons.mp h with h | h
          · exact absurd (h.trans hxp) hp
          · exact h
        simp only [hxp, if_true]
        rw [parseNat_fail r hc _ this]
      · by_cases hxm : x = '-'
        · have : c ∈ y :: ys := by
            rcases List.mem_cons.mp h with h | h
            · exact absurd (h.trans hxm) hm
            · exact h
          simp only [hxm, show ('-' : Char) ≠ '+' by decide, if_false, if_true]
          rw [parseNat_fail r hc _ this]
        · simp only [hxp, hxm, if_false]
          rw [parseNat_fail r hc _ h]

theorem parseBigUint_fail (r : Nat) {c : Char} (hc : toDigit r c = none) (hp : c ≠ '+')
    (hu : c ≠ '_') (s : Text) (h : c ∈ s) : parseBigUint r s = none := by
  unfold parseBigUint
  have hmem : c ∈ stripPlus s := by
    unfold stripPlus
    split
    · rename_i tail
      split
      · exact h
      · rcases List.mem_cons.mp h with h | h
        · exact absurd h hp
        · exact h
    · exact h
  cases hs : stripPlus s with
  | nil => rfl
  | cons x xs =>
    simp only
    split
    · rfl
    · rw [hs] at hmem
      exact bigDigitsVal_fail r hc hu _ _ hmem

theorem parseBigInt_fail (r : Nat) {c : Char} (hc : toDigit r c = none) (hp : c ≠ '+')
    (hm : c ≠ '-') (hu : c ≠ '_') (s : Text) (h : c ∈ s) : parseBigInt r s = none := by
  unfold parseBigInt
  split
  · rename_i tail
    have h1 : c ∈ tail := by
      rcases List.mem_cons.mp h with h | h
      · exact absurd h hm
      · exact h
    have h2 : c ∈ afterMinus tail := by
      unfold afterMinus
      split
      · exact List.mem_cons_of_mem _ h1
      · exact h1
    rw [parseBigUint_fail r hc hp hu _ h2]
  · rw [parseBigUint_fail r hc hp hu _ h]

theorem splitSlash_append (a b : Text) (ha : ∀ x ∈ a, x ≠ '/') :
    splitSlash (a ++ '/' :: b) = some (a, b) := by
  induction a with
  | nil => simp [splitSlash]
  | cons x xs ih =>
    have hx : x ≠ '/' := ha x (by simp)
    simp only [List.cons_append, splitSlash, hx, if_false]
    rw [ih (fun y hy => ha y (by simp [hy]))]

theorem splitSlash_none (s : Text) (h : ∀ x ∈ s, x ≠ '/') : splitSlash s = none := by
  induction s with
  | nil => rfl
  | cons x xs ih =>
    have hx : x ≠ '/' := h x (by simp)
    simp only [splitSlash, hx, if_false]
    rw [ih (fun y hy => h y (by simp [hy]))]

theorem intDigits_chars {r : Nat} (h2 : 2 ≤ r) (n : Int) :
    ∀ c ∈ intDigits r n, c = '-' ∨ ∃ d, d < r ∧ c = digitChar d := by
  intro c hc
  unfold intDigits at hc
  split at hc
  · rcases List.mem_cons.mp hc with h | h
    · exact .inl h
    · exact .inr (natDigits_chars h2 _ c h)
  · exact .inr (natDigits_chars h2 _ c hc)

theorem intDigits_no_slash {r : Nat} (h2 : 2 ≤ r) (h36 : r ≤ 36) (n : Int) :
    ∀ c ∈ intDigits r n, c ≠ '/' := by
  intro c hc
  rcases intDigits_chars h2 n c hc with rfl | ⟨d, hd, rfl⟩
  · decide
  · exact (digitChar_plain d (by omega)).2.2.2.1

theorem toDigit_slash (r : Nat) : toDigit r '/' = none := by
  unfold toDigit
  have : digitVal '/' = none := by decide
  rw [this]

theorem toDigit_dot (r : Nat) : toDigit r '.' = none := by
  unfold toDigit
  have : digitVal '.' = none := by decide
  rw [this]

theorem toDigit_e_10 : toDigit 10 'e' = none := by decide

theorem numberToString10 (fo : FloatOps) (n : Num) : numberToString fo 10 n = printNumber fo n := by
  simp [numberToString]

end Marwood
