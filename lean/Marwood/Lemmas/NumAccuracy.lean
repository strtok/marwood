import Marwood.Lemmas.NumExactly
import Marwood.Lemmas.NumFlOps
/-!
# Accuracy of the inexact answers of `+` and `−` (T08.2, second conjunct)

The fall-backs of `+ − × ÷` convert each exact operand by one correct rounding (purely relative: an exact
operand is 0 or at least 2⁻¹⁰²², `exact_val_lower`, `rnd_rel`) and perform one IEEE operation, which rounds the
exact result on the two doubles (`Fl.RoundsTo`): three roundings, within 2⁻⁵⁰·max(|x|, |y|, |exact result|)
(`three_roundings`).  `×` and `÷` are in NumAccuracyMul.
-/
namespace Marwood.Arith
open Marwood Marwood.NumSpec

theorem toF_exact {a : Num} (ha : a.WF = true) (hea : isExact a = true) {x : ℚ}
    (hx : val a = some x) : toF a = Fl.rnd x := by
  cases a with
  | flo f => cases hea
  | fix n => simp only [val, Option.some.injEq] at hx; subst hx; rfl
  | big n => simp only [val, Option.some.injEq] at hx; subst hx; rfl
  | rat n d =>
    simp only [val, Option.some.injEq] at hx; subst hx
    show Fl.ofRatio n d = _
    unfold Fl.ofRatio; rw [mkRat_toNat (wf_rat_pos ha)]

theorem ratArm_inexact {q : Option Ratio} {fb : Num} (h : isExact (ratArm q fb) = false) :
    ratArm q fb = fb := by
  cases q with
  | none => rfl
  | some r => cases h

theorem add_inexact_form {a b : Num} (ha : a.WF = true) (hb : b.WF = true)
    (he : isExact (add a b) = false) : add a b = .flo (Fl.add (toF a) (toF b)) :=
  (add_answers a b (.of_wf ha) (.of_wf hb)).of_inexact he

theorem sub_inexact_form {a b : Num} (ha : a.WF = true) (hb : b.WF = true)
    (he : isExact (sub a b) = false) : sub a b = .flo (Fl.sub (toF a) (toF b)) :=
  (sub_answers a b (.of_wf ha) (.of_wf hb)).of_inexact he

theorem uro_le_quarter : Fl.uro ≤ 1 / 4 := by
  calc Fl.uro = 2 ^ (-53 : ℤ) := rfl
    _ ≤ 2 ^ (-2 : ℤ) := Fl.two_zpow_mono (by norm_num)
    _ = 1 / 4 := by norm_num

theorem pert_lt_1023 {q qt N : ℚ} (hqN : |q| ≤ N) (hN : N < 2 ^ (1022 : ℤ))
    (hp : |qt - q| ≤ 3 * (Fl.uro * N)) : |qt| < 2 ^ (1023 : ℤ) := by
  have h23 : (2 : ℚ) ^ (1023 : ℤ) = 2 * 2 ^ (1022 : ℤ) := by
    rw [show (1023 : ℤ) = 1 + 1022 by norm_num, Fl.two_zpow_add]; norm_num
  have hN0 : 0 ≤ N := (abs_nonneg q).trans hqN
  have a1 : Fl.uro * N ≤ 1 / 4 * N := mul_le_mul_of_nonneg_right uro_le_quarter hN0
  have h3 := abs_sub_abs_le_abs_sub qt q
  rw [h23]
  clear h23
  generalize (2 : ℚ) ^ (1022 : ℤ) = A at *
  linarith

/-- `N` is `|q|` for `× ÷`, the largest operand for `+ −` (the sum may cancel); `eta = 2⁻⁵³·2⁻¹⁰²²` is
    absorbed by `M ≥ 2⁻¹⁰²²` -/
theorem final_round {q qt v N M : ℚ} (hqN : |q| ≤ N) (hNM : N ≤ M)
    (hM : (2 : ℚ) ^ (-1022 : ℤ) ≤ M) (hp : |qt - q| ≤ 3 * (Fl.uro * N))
    (h3 : |v - qt| ≤ Fl.uro * |qt| + Fl.eta) : |v - q| ≤ 2 ^ (-50 : ℤ) * M := by
  have hupos : 0 < Fl.uro := Fl.two_zpow_pos _
  have heta : Fl.eta ≤ Fl.uro * M := by
    have : Fl.eta = Fl.uro * 2 ^ (-1022 : ℤ) := by
      unfold Fl.eta Fl.uro; rw [← Fl.two_zpow_add]; norm_num
    rw [this]; exact mul_le_mul_of_nonneg_left hM hupos.le
  have h50 : (2 : ℚ) ^ (-50 : ℤ) = 8 * Fl.uro := by
    rw [show Fl.uro = 2 ^ (-53 : ℤ) from rfl, show (-50 : ℤ) = 3 + -53 by norm_num, Fl.two_zpow_add]
    norm_num
  have hN0 : 0 ≤ N := (abs_nonneg q).trans hqN
  have a0 : 0 ≤ Fl.uro * N := mul_nonneg hupos.le hN0
  have a1 : Fl.uro * N ≤ Fl.uro * M := mul_le_mul_of_nonneg_left hNM hupos.le
  have b1 : |qt| ≤ N + 3 * (Fl.uro * N) := by
    have := abs_sub_abs_le_abs_sub qt q; linarith
  have c1 : Fl.uro * |qt| ≤ Fl.uro * (N + 3 * (Fl.uro * N)) := mul_le_mul_of_nonneg_left b1 hupos.le
  have c2 : Fl.uro * (Fl.uro * N) ≤ 1 / 4 * (Fl.uro * N) :=
    mul_le_mul_of_nonneg_right uro_le_quarter a0
  rw [show Fl.uro * (N + 3 * (Fl.uro * N)) = Fl.uro * N + 3 * (Fl.uro * (Fl.uro * N)) by ring] at c1
  have d : |v - q| ≤ |v - qt| + |qt - q| := by
    have := abs_add_le (v - qt) (qt - q)
    rwa [show v - qt + (qt - q) = v - q by ring] at this
  rw [h50]
  linarith

/-- the 3 covers `2·u` for `+ −` (`add_pert`), `9/4·u` for `×` (`mul_pert`), `8/3·u` for `÷` (`div_pert`) -/
theorem three_roundings {q qt N M : ℚ} {F : F64} (hF : Fl.RoundsTo qt F) (hqN : |q| ≤ N) (hNM : N ≤ M)
    (hN : N < 2 ^ (1022 : ℤ)) (hM : (2 : ℚ) ^ (-1022 : ℤ) ≤ M) (hp : |qt - q| ≤ 3 * (Fl.uro * N)) :
    ∃ v, Fl.toRat? F = some v ∧ |v - q| ≤ 2 ^ (-50 : ℤ) * M :=
  have ⟨v, hv, ev⟩ := hF.err (pert_lt_1023 hqN hN hp)
  ⟨v, hv, final_round hqN hNM hM hp ev⟩

theorem rnd_rel {x : ℚ} (hx : x = 0 ∨ (2 : ℚ) ^ (-1022 : ℤ) ≤ |x|)
    (hmx : |x| < 2 ^ (1023 : ℤ)) :
    ∃ xt, Fl.toRat? (Fl.rnd x) = some xt ∧ |xt - x| ≤ Fl.uro * |x| := by
  rcases hx with h0 | hlo
  · subst h0
    exact ⟨0, by rw [Fl.rnd_zero]; exact Fl.toRat_zero, by simp⟩
  · exact Fl.rnd_relerr x hlo hmx

/-- `2·u·N` holds; stated with the 3 of `three_roundings` -/
theorem add_pert {x y xt yt u N : ℚ} (hu0 : 0 ≤ u) (hx : |x| ≤ N) (hy : |y| ≤ N)
    (h1 : |xt - x| ≤ u * |x|) (h2 : |yt - y| ≤ u * |y|) :
    |xt + yt - (x + y)| ≤ 3 * (u * N) := by
  have a1 : u * |x| ≤ u * N := mul_le_mul_of_nonneg_left hx hu0
  have a2 : u * |y| ≤ u * N := mul_le_mul_of_nonneg_left hy hu0
  have := abs_add_le (xt - x) (yt - y)
  rw [show xt - x + (yt - y) = xt + yt - (x + y) by ring] at this
  have : 0 ≤ u * N := mul_nonneg hu0 ((abs_nonneg x).trans hx)
  linarith

theorem fladd_accurate {f g : F64} {x y xt yt : ℚ} (hf : Fl.toRat? f = some xt)
    (hg : Fl.toRat? g = some yt) (ex : |xt - x| ≤ Fl.uro * |x|) (ey : |yt - y| ≤ Fl.uro * |y|)
    (hmx : |x| < 2 ^ (1000 : ℤ)) (hmy : |y| < 2 ^ (1000 : ℤ))
    (hM : (2 : ℚ) ^ (-1022 : ℤ) ≤ max |x| (max |y| |x + y|)) :
    ∃ v, Fl.toRat? (Fl.add f g) = some v ∧
      |v - (x + y)| ≤ 2 ^ (-50 : ℤ) * max |x| (max |y| |x + y|) := by
  have hxM : |x| ≤ max |x| (max |y| |x + y|) := le_max_left _ _
  have hyM : |y| ≤ max |x| (max |y| |x + y|) := le_trans (le_max_left _ _) (le_max_right _ _)
  have hsM : |x + y| ≤ max |x| (max |y| |x + y|) := le_trans (le_max_right _ _) (le_max_right _ _)
  have hlt : max |x| (max |y| |x + y|) < 2 ^ (1022 : ℤ) := by
    have h1 : (2 : ℚ) ^ (1000 : ℤ) + 2 ^ (1000 : ℤ) ≤ 2 ^ (1022 : ℤ) := by
      rw [← two_mul, show (1022 : ℤ) = 22 + 1000 by norm_num, Fl.two_zpow_add]
      exact mul_le_mul_of_nonneg_right (by norm_num) (Fl.two_zpow_pos _).le
    have h0 := Fl.two_zpow_pos (1000 : ℤ)
    have := abs_add_le x y
    generalize (2 : ℚ) ^ (1022 : ℤ) = B at *
    generalize (2 : ℚ) ^ (1000 : ℤ) = A at *
    exact max_lt (by linarith) (max_lt (by linarith) (by linarith))
  exact three_roundings (Fl.add_rounds hf hg) hsM le_rfl hlt hM
    (add_pert (Fl.two_zpow_pos _).le hxM hyM ex ey)

theorem lt_1023_of_lt_1000 {z : ℚ} (h : |z| < 2 ^ (1000 : ℤ)) : |z| < 2 ^ (1023 : ℤ) :=
  h.trans_le (Fl.two_zpow_mono (by norm_num))

/-- T08.2, second conjunct (+) -/
theorem add_inexact_accurate (a b : Num) (ha : a.WF = true) (hb : b.WF = true)
    (hea : isExact a = true) (heb : isExact b = true) {x y : ℚ} (hx : val a = some x)
    (hy : val b = some y) (hmx : |x| < 2 ^ (1000 : ℤ)) (hmy : |y| < 2 ^ (1000 : ℤ))
    (hM : (2 : ℚ) ^ (-1022 : ℤ) ≤ max |x| (max |y| |x + y|))
    (he : isExact (add a b) = false) :
    ∃ v, val (add a b) = some v ∧ |v - (x + y)| ≤ 2 ^ (-50 : ℤ) * max |x| (max |y| |x + y|) := by
  obtain ⟨xt, hxt, ex⟩ := rnd_rel (exact_val_lower ha hea hx) (lt_1023_of_lt_1000 hmx)
  obtain ⟨yt, hyt, ey⟩ := rnd_rel (exact_val_lower hb heb hy) (lt_1023_of_lt_1000 hmy)
  rw [add_inexact_form ha hb he, toF_exact ha hea hx, toF_exact hb heb hy]
  exact fladd_accurate hxt hyt ex ey hmx hmy hM

/-- T08.2, second conjunct (−) -/
theorem sub_inexact_accurate (a b : Num) (ha : a.WF = true) (hb : b.WF = true)
    (hea : isExact a = true) (heb : isExact b = true) {x y : ℚ} (hx : val a = some x)
    (hy : val b = some y) (hmx : |x| < 2 ^ (1000 : ℤ)) (hmy : |y| < 2 ^ (1000 : ℤ))
    (hM : (2 : ℚ) ^ (-1022 : ℤ) ≤ max |x| (max |y| |x - y|))
    (he : isExact (sub a b) = false) :
    ∃ v, val (sub a b) = some v ∧ |v - (x - y)| ≤ 2 ^ (-50 : ℤ) * max |x| (max |y| |x - y|) := by
  obtain ⟨xt, hxt, ex⟩ := rnd_rel (exact_val_lower ha hea hx) (lt_1023_of_lt_1000 hmx)
  obtain ⟨yt, hyt, ey⟩ := rnd_rel (exact_val_lower hb heb hy) (lt_1023_of_lt_1000 hmy)
  rw [sub_inexact_form ha hb he, toF_exact ha hea hx, toF_exact hb heb hy]
  have ey' : |-yt - -y| ≤ Fl.uro * |-y| := by
    rw [abs_neg, show -yt - -y = -(yt - y) by ring, abs_neg]; exact ey
  -- not `rwa`: `assumption` against the hypotheses about `2 ^ 1000` is slow
  have := fladd_accurate hxt (Fl.neg_val (Fl.rnd_bits_lt y) hyt) ex ey' hmx
    (by rw [abs_neg]; exact hmy) (by rw [abs_neg, ← sub_eq_add_neg]; exact hM)
  rw [abs_neg, ← sub_eq_add_neg] at this
  exact this

end Marwood.Arith
