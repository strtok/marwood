import Marwood.Lemmas.CompileCorrect3ErrTop
import Marwood.Lemmas.CompileCorrect3Demo
/-!
# T01.3 stage 3, ERROR case — the laws are satisfiable, and a worked failure inside an initialiser

`errLaws3_toy`: `ErrLaws3` on the toy heap (`call_err` is VACUOUS: no first-order primitive is a represented value).
Every hypothesis of `compileExpr_correct3_err` is discharged for `((lambda (x) (define y (x)) y) #t)`: `CALL` on `#t` fails
with `InvalidProcedure` inside the initialiser of `y`; nothing is stored, the heap at the failure represents the
specification's failure state (the cell of `y` still `#<undefined>`), the top-level stack is intact below the frame.
-/
namespace Marwood.Lemmas.CompileCorrect3.Toy
open Marwood Marwood.Vm Marwood.Lemmas.CompileCorrect Marwood.Lemmas.CompileCorrect2
  Marwood.Lemmas.CompileCorrect3
open Marwood.Spec.Eval (Val Cell evalN k_lambda k_if_)

theorem tCallee_other_of_deref {h : THeap} {v c : VCell} (hd : tDeref h v = c) (hc : tCalleeCell c = .other)
    (hb : ∀ id, c ≠ .builtin id) : tCallee h v = .other := by
  cases v with
  | ptr p =>
    show tCalleeCell (tDeref h (.ptr p)) = .other
    rw [hd]; exact hc
  | builtin id => exact absurd hd.symm (hb id)
  | _ => rfl

theorem errLaws3_toyg (g : Array VCell) (final : List LambdaM) : ErrLaws3 (tD3g g final) where
  call_err := by
    intro n W h σ vf p vs ws c σ' _ hvf
    cases hvf with
    | base hb => cases hb
  callee_other := by
    intro h S v w hv _
    show tCallee h v = .other
    cases hv with
    | base hb =>
      have hb' : tVR (tDeref h v) w := hb
      cases w <;> simp only [tVR] at hb' <;> first
        | exact tCallee_other_of_deref hb' rfl (by intro id e; cases e)
        | cases hb'
    | pair hs hd _ _ => exact tCallee_other_of_deref hd rfl (by intro id e; cases e)
    | vec hs hv' _ => cases hv'
  pair_other := by
    intro h v a d hd
    exact tCallee_other_of_deref hd rfl (by intro id e; cases e)

theorem errLaws3_toy (final : List LambdaM) : ErrLaws3 (tD3 final) := errLaws3_toyg #[] final

def callX : Datum := Datum.ofList [.sym kx]

def bodyE : Datum := .pair (defForm ky callX) (.pair (.sym ky) .nil)

def lamE : Datum := .pair (.sym k_lambda) (.pair (Datum.ofList [.sym kx]) bodyE)

def progE : Datum := Datum.ofList [lamE, .bool true]

def bodyCodeE : List BC :=
  [.op .pushImm, .argc 0, .op .mov, .envSlot kx, .acc, .op .callAcc,
   .op .mov, .acc, .envSlot ky, .op .movImm, .void, .acc,
   .op .mov, .envSlot ky, .acc]

def partsE : LambdaParts :=
  { formals := [kx], isVararg := false, ctx := lamCtxD, prologue := [.op .enter], body := bodyE }

def demoLamE : LambdaM := lamOf partsE bodyCodeE

theorem demoE_parts : lambdaParts 18 c0 lamE false = .ok partsE := ok_of_decide (by decide +kernel)

theorem demoE_compile : compileExpr 20 {} c0 0 false progE = .ok ({ lambdas := [demoLamE] }, progCodeD) :=
  CompileCorrect2.Toy.okIs_eq (by decide +kernel)

def cellsE0 : List VCell :=
  [.opcode .enter, .opcode .pushImm, .argc 0, .opcode .mov, .lexEnvSlot 0, .acc, .opcode .callAcc,
   .opcode .mov, .acc, .lexEnvSlot 1, .opcode .movImm, .void, .acc,
   .opcode .mov, .lexEnvSlot 1, .acc, .opcode .ret]

def demoHeapE : THeap :=
  { lams := [⟨cellsE0, 1, [.arg 0, .internal]⟩, ⟨cellsD1, 0, []⟩], envs := #[], cells := #[], globals := #[] }

def demoStateE : MSt THeap :=
  { heap := demoHeapE, stack := ⟨List.replicate 8 .undefined, 0⟩, acc := .undefined, ep := 0, ipL := 1, ipO := 0,
    bp := 0 }

/-- at the failure: the cell of `x`, the cell of `y` (not yet defined) -/
def demoStE' : SSt := { globals := [], store := #[.var (.bool true), .var .undef], out := [] }

theorem demoE_eval : (evalN 8).eval progE [] demoSt = .err .notProcedure demoStE' := by rfl

abbrev demoDE : RepData2 tops := tD3 [demoLamE]

theorem demoE_frag : F3 (fun _ => False) 20 c0 (bound []) (fun _ => False) false progE := by
  have hx : inEnv lamCtxD kx = true := by decide
  have hy : inEnv lamCtxD ky = true := by decide
  refine F3.app lamE _ ⟨by decide, by intro x h; cases h⟩ ?_ (F3L.cons _ _ (F3.bool true) F3L.nil)
  refine F3.lambda (Datum.ofList [.sym kx]) _ partsE [kx] none [ky] [] demoE_parts (by rfl) rfl rfl (by decide) rfl
    (by intro q hq; cases hq) ?_
  refine F3B.defv ky callX _ _ [] hy (.inl (by decide)) (by rfl) ?_ ?_
  · exact F3.app _ _ ⟨by decide, by intro x h; cases h; decide⟩
      (F3.sym kx ⟨fun _ => .inl (by decide), fun _ => hx⟩ (by decide)) F3L.nil
  · exact F3B.last _ rfl (F3.sym ky ⟨fun _ => .inl (by decide), fun _ => hy⟩ (fun h => h.2 rfl))

theorem demoE_code0 (S : Array Cell) : CodeAt2 demoDE lamCtxD.envmap demoHeapE S 0 0 demoLamE.bc := by
  refine CompileCorrect2.Toy.CodeAt2.ofAll2 cellsE0 rfl (fun i _ => by rw [Nat.zero_add]; rfl) ?_
  have sx : Loads2 demoDE lamCtxD.envmap demoHeapE S (.envSlot kx) (.lexEnvSlot 0) := ⟨0, by decide, rfl⟩
  have sy : Loads2 demoDE lamCtxD.envmap demoHeapE S (.envSlot ky) (.lexEnvSlot 1) := ⟨1, by decide, rfl⟩
  exact .cons rfl (.cons rfl (.cons rfl (.cons rfl (.cons sx (.cons rfl (.cons rfl
    (.cons rfl (.cons rfl (.cons sy (.cons rfl (.cons rfl (.cons rfl
    (.cons rfl (.cons sy (.cons rfl (.cons rfl .nil))))))))))))))))

theorem demoE_code1 (S : Array Cell) : CodeAt2 demoDE c0.envmap demoHeapE S 1 0 progCodeD := by
  refine CompileCorrect2.Toy.CodeAt2.ofAll2 cellsD1 rfl (fun i _ => by rw [Nat.zero_add]; rfl) ?_
  have hb : Loads2 demoDE c0.envmap demoHeapE S (.datum (.bool true)) (.bool true) :=
    ⟨(by intro o e; cases e), .atom rfl (.base rfl)⟩
  have hlam : Loads2 demoDE c0.envmap demoHeapE S (.lambda 0) (.ptr 0) :=
    CompileCorrect2.Toy.loads_lambda (id := 0) rfl rfl rfl
  exact .cons rfl (.cons hb (.cons rfl (.cons rfl (.cons rfl (.cons rfl (.cons rfl (.cons hlam (.cons rfl
    (.cons rfl (.cons rfl .nil))))))))))

theorem demoE_inv : Inv3 demoDE W0 demoHeapE demoSt :=
  inv3_top rfl (CompileCorrect2.Toy.forall_getElem?_cons ⟨demoE_code0 _, rfl⟩ CompileCorrect2.Toy.forall_getElem?_nil)

theorem demo_define_init_fails :
    ∃ W' sf e', ErrRun3 demoDE W' demoStateE demoStateE.stack demoSt demoStE' .notProcedure sf e' ∧
      e' = .invalidProcedure := by
  obtain ⟨W', sf, e', _, r⟩ := compileExpr_correct3_err (laws3 [demoLamE]) (errLaws3_toy [demoLamE]) 20 {} c0 0 false
    progE _ progCodeD [] (fun _ => False) demoE_frag ctxOK_top demoE_compile (List.prefix_refl _) 8 demoSt
    .notProcedure demoStE' demoE_eval (by decide) W0 demoStateE ⟨0, 0, 0, 0, 0, demoStateE.stack⟩ (demoE_code1 _) rfl
    demoE_inv (envRep3_top _ _ _ _) (by show 0 < 8; omega) (by intro h; cases h)
  refine ⟨W', sf, e', r, ?_⟩
  have hc := r.cls
  cases e' <;> simp [machClass, specClass] at hc ⊢
  split at hc <;> cases hc

end Marwood.Lemmas.CompileCorrect3.Toy
