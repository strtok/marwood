import Marwood.Lemmas.TransformEllBuild
import Marwood.Lemmas.TransformEllKeys
/-!
# Patterns with ellipsis depth ≤ 1 (`nn`: what precedes an ellipsis is `plain`): a match binds every
variable outside an ellipsis to `one d` and every variable under one to `many [one d₁, …]`
-/
namespace Marwood.Transform
open Marwood Marwood.Spec.Match

def nn (es : Text) : Datum → Bool
  | .pair a (.pair e rest) =>
    if e = .sym es then plain es a && nn es rest else nn es a && nn es (.pair e rest)
  | .pair a d => nn es a && nn es d
  | .vec _ => false
  | _ => true

theorem nn_cons_group (es : Text) (p : Datum) (rest : List Datum) :
    nn es (Datum.ofList (p :: .sym es :: rest)) = (plain es p && nn es (Datum.ofList rest)) := by
  show nn es (.pair p (.pair (.sym es) (Datum.ofList rest))) = _
  rw [nn, if_pos rfl]

theorem nn_cons_ne (es : Text) (p : Datum) (rest : List Datum) (h : peekIs (.sym es) rest = false) :
    nn es (Datum.ofList (p :: rest)) = (nn es p && nn es (Datum.ofList rest)) := by
  cases rest with
  | nil => show nn es (.pair p .nil) = _; rw [nn]; rfl; nofun
  | cons e r =>
    show nn es (.pair p (.pair e (Datum.ofList r))) = _
    rw [nn, if_neg (by simpa [peekIs] using h)]; rfl

theorem nn_ell_cons (es : Text) (rest : List Datum) (h : peekIs (.sym es) rest = false) :
    nn es (Datum.ofList (.sym es :: rest)) = nn es (Datum.ofList rest) := by
  rw [nn_cons_ne es _ rest h]; rfl

def ShapeOK (ev : List Text) (bs : Binds) : Prop :=
  ∀ x t, (x, t) ∈ bs → (x ∈ ev → ∃ ds : List Datum, t = .many (ds.map MTree.one)) ∧ (x ∉ ev → ∃ d, t = .one d)

theorem all_one_map (L : List MTree) (h : ∀ t ∈ L, ∃ d, t = MTree.one d) :
    ∃ ds : List Datum, L = ds.map MTree.one := by
  induction L with
  | nil => exact ⟨[], rfl⟩
  | cons t L ih =>
    obtain ⟨d, hd⟩ := h t (by simp)
    obtain ⟨ds, hds⟩ := ih (fun t' ht' => h t' (List.mem_cons_of_mem _ ht'))
    exact ⟨d :: ds, by simp [hd, hds]⟩

theorem leaves_many_one (ds : List Datum) : leaves (.many (ds.map MTree.one)) = ds := by
  simp only [leaves]
  induction ds with
  | nil => rfl
  | cons d ds ih => simp [leaves.leavesL, leaves, ih]

theorem mem_keys_of_mem {x : Text} {t : MTree} {bs : Binds} (h : (x, t) ∈ bs) : x ∈ bs.map Prod.fst :=
  List.mem_map.mpr ⟨(x, t), h, rfl⟩

theorem shape_collect (s : Setup) (p : Datum) (hp : plain s.es p = true) (xs : List Datum)
    (bsl : List Binds) (h : xs.mapM (fun x => specMatch s.ctx p x) = some bsl) :
    ∀ x t, (x, t) ∈ collect (patVars s.ctx p) bsl → ∃ ds : List Datum, t = .many (ds.map MTree.one) := by
  intro x t hm
  simp only [collect, List.mem_map] at hm
  obtain ⟨v, _, hv⟩ := hm
  have hvx : v = x := by injection hv
  have ht : t = MTree.many (bsl.filterMap fun b => b.lookup v) := by injection hv with _ h2; exact h2.symm
  obtain ⟨ds, hds⟩ := all_one_map (bsl.filterMap fun b => b.lookup v) (by
    intro t' ht'
    obtain ⟨b, hb, hl⟩ := List.mem_filterMap.mp ht'
    obtain ⟨x', _, hx'⟩ := mapM_some_mem _ _ _ h b hb
    exact (specMatch_plain_allOne s p).1 hp x' b hx' v t' (lookup_mem v b t' hl))
  exact ⟨ds, by rw [ht, hds]⟩

theorem shape_append {ev1 ev2 K1 K2 : List Text} {b1 b2 : Binds}
    (h1 : ShapeOK ev1 b1) (h2 : ShapeOK ev2 b2)
    (k1 : b1.map Prod.fst = K1) (k2 : b2.map Prod.fst = K2)
    (e1 : ∀ x ∈ ev1, x ∈ K1) (e2 : ∀ x ∈ ev2, x ∈ K2) (hd : ∀ x ∈ K1, x ∉ K2) :
    ShapeOK (ev1 ++ ev2) (b1 ++ b2) := by
  intro x t hm
  rcases List.mem_append.mp hm with hm | hm
  · have hx1 : x ∈ K1 := by rw [← k1]; exact mem_keys_of_mem hm
    have hx2 : x ∉ ev2 := fun h => hd x hx1 (e2 x h)
    obtain ⟨ha, hb⟩ := h1 x t hm
    refine ⟨fun h => ?_, fun h => hb (fun h' => h (List.mem_append_left _ h'))⟩
    rcases List.mem_append.mp h with h | h
    · exact ha h
    · exact absurd h hx2
  · have hx2 : x ∈ K2 := by rw [← k2]; exact mem_keys_of_mem hm
    have hx1 : x ∉ ev1 := fun h => hd x (e1 x h) hx2
    obtain ⟨ha, hb⟩ := h2 x t hm
    refine ⟨fun h => ?_, fun h => hb (fun h' => h (List.mem_append_right _ h'))⟩
    rcases List.mem_append.mp h with h | h
    · exact absurd h hx1
    · exact ha h

theorem shape_nil (ev : List Text) : ShapeOK ev [] := fun _ _ h => by cases h

theorem shape_of_match (s : Setup) (P E : Datum) : ∀ (bs : Binds),
    nn s.es P = true → (patVars s.ctx P).Nodup →
    specMatch s.ctx P E = some bs → ShapeOK (ellVars s.ctx P) bs := by
  fun_induction specMatch s.ctx P E <;> intro bs hnn hnd h
  case case1 => cases h; exact shape_nil _
  case case4 => cases h; exact shape_nil _
  case case20 => cases h; exact shape_nil _
  case case5 s' e _ _ _ =>
    cases h
    intro x t hm
    simp only [List.mem_singleton, Prod.mk.injEq] at hm
    obtain ⟨rfl, rfl⟩ := hm
    exact ⟨fun h => by simp [ellVars] at h, fun _ => ⟨_, rfl⟩⟩
  case case9 p q rest e hq _ _ _ bsl hbsl tb htb ih2 ih1 =>
    cases h
    have hqe : q = .sym s.es := by simpa [s.isEllD_eq, Setup.ell] using hq
    subst hqe
    simp only [nn, if_true, Bool.and_eq_true] at hnn
    have hpv : patVars s.ctx (Datum.sym s.es) = [] := patVars_ellD s.ctx _ hq
    have hnd0 : (patVars s.ctx p ++ patVars s.ctx rest).Nodup := by
      have : patVars s.ctx (.pair p (.pair (.sym s.es) rest))
          = patVars s.ctx p ++ (patVars s.ctx (.sym s.es) ++ patVars s.ctx rest) := by
        simp only [patVars]
      rw [this, hpv, List.nil_append] at hnd; exact hnd
    have hnd' := List.nodup_append.mp hnd0
    have hE : ellVars s.ctx (.pair p (.pair (.sym s.es) rest)) = patVars s.ctx p ++ ellVars s.ctx rest := by
      simp [ellVars, hq]
    rw [hE]
    refine shape_append (K1 := patVars s.ctx p) (K2 := patVars s.ctx rest) ?_
      (ih1 tb hnn.2 hnd'.2.1 htb) (collect_keys _ _) (specMatch_keys _ _ _ _ htb)
      (fun x hx => hx) (ellVars_sub _ _) (fun x hx hx' => hnd'.2.2 x hx x hx' rfl)
    intro x t hm
    exact ⟨fun _ => shape_collect s p hnn.1 _ bsl hbsl x t hm,
           fun hx => absurd (by rw [← collect_keys (patVars s.ctx p) bsl]; exact mem_keys_of_mem hm) hx⟩
  case case12 p q rest hq e1 er b1 hb1 b2 hb2 ih2 ih1 =>
    cases h
    have hqe : q ≠ .sym s.es := by
      intro hqe; apply hq; simp [s.isEllD_eq, Setup.ell, hqe]
    simp only [nn, hqe, if_false, Bool.and_eq_true] at hnn
    have hnd' := List.nodup_append.mp (by simpa [patVars] using hnd :
      (patVars s.ctx p ++ patVars s.ctx (.pair q rest)).Nodup)
    have hE : ellVars s.ctx (.pair p (.pair q rest)) = ellVars s.ctx p ++ ellVars s.ctx (.pair q rest) := by
      have : s.ctx.isEllD q = false := by simpa using hq
      simp [ellVars, this]
    rw [hE]
    exact shape_append (ih2 b1 hnn.1 hnd'.1 hb1) (ih1 b2 hnn.2 hnd'.2.1 hb2)
      (specMatch_keys _ _ _ _ hb1) (specMatch_keys _ _ _ _ hb2)
      (ellVars_sub _ _) (ellVars_sub _ _) (fun x hx hx' => hnd'.2.2 x hx x hx' rfl)
  case case16 p rest hrest e1 er b1 hb1 b2 hb2 ih2 ih1 =>
    cases h
    -- `rest` is not a pair: the second equations of `nn` and `ellVars` apply
    rw [nn.eq_2 _ _ _ hrest, Bool.and_eq_true] at hnn
    have hnd' := List.nodup_append.mp (by simpa [patVars] using hnd :
      (patVars s.ctx p ++ patVars s.ctx rest).Nodup)
    rw [ellVars.eq_2 _ _ _ hrest]
    exact shape_append (ih2 b1 hnn.1 hnd'.1 hb1) (ih1 b2 hnn.2 hnd'.2.1 hb2)
      (specMatch_keys _ _ _ _ hb1) (specMatch_keys _ _ _ _ hb2)
      (ellVars_sub _ _) (ellVars_sub _ _) (fun x hx hx' => hnd'.2.2 x hx x hx' rfl)
  case case18 => simp [nn] at hnn
  all_goals cases h

end Marwood.Transform
