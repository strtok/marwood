import Marwood.Vm.EnvInvCheck
import Marwood.Lemmas.ProcInvDefs
/-!
# "No value leads to a capturing lambda" as an invariant: definitions

`HP h`: the heap part of Vm/EnvInvCheck.lean as a proposition; `PInv s`: `HP`, and `acc` and the live stack do not point to
a capturing lambda. The state invariant proper is `TInv`: `acc` may be the immediate the `MOVIMM _ %acc` before the CLOSURE
under `ip` loaded (`atSiteB`). The instance `Spec.cap` of Lemmas/LeadDefs.lean (Lemmas/EnvTaintOps.lean).
-/
namespace Marwood.Lemmas.Taint
open Marwood.Lemmas.Good Marwood Marwood.Vm Marwood.Vm.Verify Marwood.Vm.Concrete Marwood.Lemmas.Sim
open Marwood.Heap (GcState)

structure HP (h : CHeap) : Prop where
  cells : ∀ (i : Nat) (c : CCell), h.cells[i]? = some c → cellEB h c = true
  globals : ∀ (n : Nat) (v : VCell), h.globals[n]? = some v → neE h v = true
  sym : ∀ (name : Text) (p : Nat), symLookup h name = some p → capAt h p = false

structure PInv (s : St CHeap) : Prop where
  hp : HP s.heap
  acc : neE s.heap s.acc = true
  stk : ∀ (i : Nat) (v : VCell), i ≤ s.stack.sp → s.stack.cells[i]? = some v → neE s.heap v = true

structure TInv (s : St CHeap) : Prop where
  hp : HP s.heap
  acc : neE s.heap s.acc = true ∨ atSiteB s = true
  stk : ∀ (i : Nat) (v : VCell), i ≤ s.stack.sp → s.stack.cells[i]? = some v → neE s.heap v = true

def EShr (h h' : CHeap) : Prop := ∀ p, capAt h' p = true → capAt h p = true

@[simp] theorem neE_ptr (h : CHeap) (p : Nat) : neE h (.ptr p) = !capAt h p := rfl

theorem neE_of_not_ptr (h : CHeap) {v : VCell} (hn : ∀ p, v ≠ .ptr p) : neE h v = true := by
  cases v <;> first | rfl | exact absurd rfl (hn _)

theorem neE_undefined (h : CHeap) : neE h .undefined = true := rfl

theorem siteB_inv {bc : List VCell} {j : Nat} (h : siteB bc j = true) :
    bc[j]? = some (.opcode .movImm) ∧ bc[j + 2]? = some .acc ∧ bc[j + 3]? = some (.opcode .closureAcc) := by
  unfold siteB at h
  simp only [Bool.and_eq_true, beq_iff_eq] at h
  exact ⟨h.1.1, h.1.2, h.2⟩

theorem atSiteB_inv {s : St CHeap} (h : atSiteB s = true) :
    ∃ l j, lambdaAt s.heap s.ipL = some l ∧ s.ipO = j + 3 ∧ l.bc[j]? = some (.opcode .movImm) ∧
      l.bc[j + 1]? = some s.acc ∧ l.bc[j + 2]? = some .acc ∧ l.bc[j + 3]? = some (.opcode .closureAcc) := by
  unfold atSiteB at h
  cases hl : lambdaAt s.heap s.ipL with
  | none => rw [hl] at h; cases h
  | some l =>
    rw [hl] at h
    simp only [Bool.and_eq_true, decide_eq_true_eq, beq_iff_eq] at h
    obtain ⟨⟨h1, h2⟩, h3⟩ := h
    obtain ⟨k1, k2, k3⟩ := siteB_inv h2
    exact ⟨l, s.ipO - 3, rfl, by omega, k1, h3, k2, k3⟩

theorem atSiteB_intro {s : St CHeap} {l : CLambda} {j : Nat} (hl : lambdaAt s.heap s.ipL = some l) (ho : s.ipO = j + 3)
    (hs : siteB l.bc j = true) (hv : l.bc[j + 1]? = some s.acc) : atSiteB s = true := by
  unfold atSiteB
  rw [hl]
  have e : s.ipO - 3 = j := by omega
  simp only [e, hs, hv, Bool.and_eq_true, decide_eq_true_eq, beq_self_eq_true, and_true]
  omega

def SM (h : CHeap) (st : Stack) (B : Nat) : Prop :=
  ∀ (i : Nat) (v : VCell), (i ≤ B ∨ i ≤ st.sp) → st.cells[i]? = some v → neE h v = true

end Marwood.Lemmas.Taint
