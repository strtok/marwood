import Marwood.Lemmas.TransformEllAcceptPat
import Marwood.Lemmas.TransformEllSound
import Marwood.Lemmas.TransformTermShape
/-!
# Every template `Transform::try_new` accepts is in the class `tP`

`check_template_syntax`: no list starts with the ellipsis or contains it twice (`plP`/`plS`: `okP`/`okS`
without "proper, vector-free"). `check_template_support`: proper, vector-free lists; outside a group no
expanded variable; an element followed by the ellipsis has no element followed by the ellipsis inside
(with the placement: no ellipsis at all, `plain`), its expanded variables are collected in `seen` once
each and there is at least one.
-/
namespace Marwood.Transform
open Marwood

mutual
def plP (es : Text) : Datum → Bool
  | .pair a d => decide (a ≠ .sym es) && plP es a && plS es true d
  | _ => true
def plS (es : Text) : Bool → Datum → Bool
  | allow, .pair q rest =>
    if q = .sym es then allow && plS es false rest else plP es q && plS es allow rest
  | _, _ => true
end

theorem plS_ofList_cons_ne {es : Text} {allow : Bool} {q : Datum} {rest : List Datum} (hq : q ≠ .sym es) :
    plS es allow (Datum.ofList (q :: rest)) = (plP es q && plS es allow (Datum.ofList rest)) := by
  simp [Datum.ofList, plS, hq]

theorem plS_ofList_cons_ell {es : Text} {allow : Bool} {rest : List Datum} :
    plS es allow (Datum.ofList (Datum.sym es :: rest)) = (allow && plS es false (Datum.ofList rest)) := by
  simp [Datum.ofList, plS]

end Marwood.Transform

namespace Marwood.Transform.EllAccept
open Marwood Marwood.Spec.Match Marwood.Transform.Term

theorem plS_of_iterList (es : Text) : ∀ (x : Datum) (allow : Bool),
    plS es allow (Datum.ofList (iterList x)) = true → plS es allow x = true := by
  intro x
  induction x with
  | pair q rest _ ihr =>
    intro allow h
    simp only [iterList, Datum.ofList, plS] at h ⊢
    split
    · rename_i hq
      simp only [hq, if_true, Bool.and_eq_true] at h
      simp only [Bool.and_eq_true]
      exact ⟨h.1, ihr _ h.2⟩
    · rename_i hq
      simp only [hq, if_false, Bool.and_eq_true] at h
      simp only [Bool.and_eq_true]
      exact ⟨h.1, ihr _ h.2⟩
  | _ => intro allow _; simp [plS]

theorem plP_of_plS {es : Text} {a d : Datum} (ha : a ≠ .sym es) (h : plS es true (.pair a d) = true) :
    plP es (.pair a d) = true := by
  simp only [plS, ha, if_false, Bool.and_eq_true] at h
  simp only [plP, Bool.and_eq_true, decide_eq_true_eq]
  exact ⟨⟨ha, h.1⟩, h.2⟩

theorem plS_of_plP {es : Text} {a d : Datum} (h : plP es (.pair a d) = true) :
    a ≠ .sym es ∧ plS es true (.pair a d) = true := by
  simp only [plP, Bool.and_eq_true, decide_eq_true_eq] at h
  refine ⟨h.1.1, ?_⟩
  simp only [plS, h.1.1, if_false, Bool.and_eq_true]
  exact ⟨h.1.2, h.2⟩

theorem ctsLoop_place (p : Pattern) (es : Text) : ∀ (f : Nat) (imp se : Bool) (items : List Datum),
    ctsLoop p (.sym es) f imp se items = .ok () → plS es (!se) (Datum.ofList items) = true := by
  intro f
  induction f with
  | zero => intro imp se items h; simp [ctsLoop] at h
  | succ f ih =>
    intro imp se items h
    cases items with
    | nil => simp [Datum.ofList, plS]
    | cons t rest =>
      obtain ⟨hrest, hell, hpair⟩ := ctsLoop_cons h
      have h2 := ih _ _ _ hrest
      by_cases ht : t = .sym es
      · subst ht
        rw [plS_ofList_cons_ell]
        simpa [hell rfl] using h2
      · have hp : plP es t = true := by
          cases t with
          | pair a d =>
            obtain ⟨ha, hsub⟩ := hpair a d rfl
            exact plP_of_plS ha (plS_of_iterList es _ _ (by simpa using ih _ _ _ hsub))
          | _ => simp [plP]
        rw [plS_ofList_cons_ne ht]
        simpa [ht, hp] using h2

theorem checkTemplateSyntax_place {f : Nat} {T : Datum} {p : Pattern} {es : Text}
    (h : checkTemplateSyntax f T p (.sym es) = .ok ()) : plP es T = true := by
  unfold checkTemplateSyntax at h
  cases T with
  | pair a d =>
    simp only at h
    split at h
    · cases h
    · rename_i hhead
      have ha : a ≠ .sym es := by simpa using hhead
      have h1 := plS_of_iterList es _ _ (by simpa using ctsLoop_place p es _ _ _ _ h)
      exact plP_of_plS ha h1
  | _ => simp [plP]

def evSymsL (ev : List Text) : List Datum → List Text
  | [] => []
  | it :: rest => evSyms ev it ++ evSymsL ev rest

theorem evSymsL_iterList (ev : List Text) (d : Datum) : evSymsL ev (iterList d) = evSyms ev d := by
  induction d with
  | pair a d _ ihd => simp only [iterList, evSymsL, ihd, evSyms, tmplSyms, List.filter_append]
  | nil => rfl
  | _ => simp [iterList, evSymsL]

def UnitRes (es : Text) (ev : List Text) (items : List Datum) (ns : List Text) (seen' : List Datum) : Prop :=
  (∀ it ∈ items, plain es it = true) ∧ seen' = (ns ++ evSymsL ev items).map Datum.sym ∧
    (ns.Nodup → (ns ++ evSymsL ev items).Nodup)

theorem supOne_unit (p : Pattern) (es : Text) (ev : List Text)
    (hexp : ∀ x, p.isExpandedVariable (.sym x) = decide (x ∈ ev)) (f : Nat)
    (ih : ∀ (items : List Datum) (allow : Bool) (ns : List Text) (seen' : List Datum),
      peekIs (.sym es) items = false → plS es allow (Datum.ofList items) = true →
      ctsupLoop p (.sym es) f true items (ns.map Datum.sym) = .ok seen' → UnitRes es ev items ns seen')
    (it : Datum) (ns : List Text) (seen' : List Datum) (hne : it ≠ .sym es) (hpl : plP es it = true)
    (h : supOne p (.sym es) f it true (ns.map Datum.sym) = .ok seen') :
    plain es it = true ∧ seen' = (ns ++ evSyms ev it).map Datum.sym ∧
      (ns.Nodup → (ns ++ evSyms ev it).Nodup) := by
  cases it with
  | vec v => simp [supOne] at h
  | sym x =>
    have hx : x ≠ es := by simpa using hne
    have hc : cellEq (Datum.sym x) (Datum.sym es) = false := by simp [hx]
    simp only [supOne, hc, Bool.false_eq_true, if_false, hexp, anySym_mem, Bool.not_true] at h
    by_cases hxe : x ∈ ev
    · simp only [hxe, decide_true, if_true] at h
      by_cases hxn : x ∈ ns
      · simp [hxn] at h
      · simp only [hxn, decide_false, Bool.false_eq_true, if_false] at h
        cases h
        have hev : evSyms ev (.sym x) = [x] := by simp [evSyms, tmplSyms, hxe]
        rw [hev]
        refine ⟨by simp [plain, hx], by simp, fun hnd => ?_⟩
        rw [List.nodup_append]
        exact ⟨hnd, by simp, fun a ha b hb => by
          simp only [List.mem_singleton] at hb; subst hb; intro hab; subst hab; exact hxn ha⟩
    · simp only [hxe, decide_false, Bool.false_eq_true, if_false] at h
      cases h
      have hev : evSyms ev (.sym x) = [] := by simp [evSyms, tmplSyms, hxe]
      rw [hev]
      exact ⟨by simp [plain, hx], by simp, fun hnd => by simpa using hnd⟩
  | pair a d =>
    simp only [supOne] at h
    split at h
    · cases h
    · rename_i himp
      have hnil := isImproper_false_endsInNil (by simpa using himp)
      have heq := endsInNil_ofList hnil
      obtain ⟨ha, hpls⟩ := plS_of_plP hpl
      have hres := ih (iterList (.pair a d)) true ns seen' (by simp [iterList, peekIs, ha])
        (by rw [← heq]; exact hpls) h
      obtain ⟨h1, h2, h3⟩ := hres
      rw [evSymsL_iterList] at h2 h3
      exact ⟨plain_of_iterList hnil h1, h2, h3⟩
  | _ =>
    simp only [supOne] at h
    cases h
    exact ⟨rfl, by simp [evSyms, tmplSyms], fun hnd => by simpa [evSyms, tmplSyms] using hnd⟩

theorem ctsupLoop_unit (p : Pattern) (es : Text) (ev : List Text)
    (hexp : ∀ x, p.isExpandedVariable (.sym x) = decide (x ∈ ev)) : ∀ (f : Nat)
    (items : List Datum) (allow : Bool) (ns : List Text) (seen' : List Datum),
    peekIs (.sym es) items = false → plS es allow (Datum.ofList items) = true →
    ctsupLoop p (.sym es) f true items (ns.map Datum.sym) = .ok seen' → UnitRes es ev items ns seen' := by
  intro f
  induction f with
  | zero => intro items allow ns seen' _ _ h; simp [ctsupLoop] at h
  | succ f ih =>
    intro items allow ns seen' hhead hpl h
    cases items with
    | nil =>
      simp only [ctsupLoop] at h
      cases h
      exact ⟨fun it hit => (by cases hit), (by simp [evSymsL]), fun hnd => (by simpa [evSymsL] using hnd)⟩
    | cons it rest =>
      have hne : it ≠ .sym es := by
        intro hit; subst hit; simp [peekIs] at hhead
      have hc : cellEq it (Datum.sym es) = false := by simpa using hne
      rw [plS_ofList_cons_ne hne] at hpl
      simp only [Bool.and_eq_true] at hpl
      rw [ctsupLoop_succ] at h
      simp only [hc, Bool.false_eq_true, if_false, if_true] at h
      split at h
      · cases h
      · rename_i hpk
        have hpk : peekIs (.sym es) rest = false := by simpa using hpk
        split at h
        · rename_i seen1 hone
          obtain ⟨h1, h2, h3⟩ := supOne_unit p es ev hexp f ih it ns seen1 hne hpl.1 hone
          rw [h2] at h
          obtain ⟨r1, r2, r3⟩ := ih rest allow _ seen' hpk hpl.2 h
          refine ⟨?_, ?_, ?_⟩
          · intro x hx
            simp only [List.mem_cons] at hx
            rcases hx with rfl | hx
            · exact h1
            · exact r1 x hx
          · rw [r2]; simp [evSymsL, List.append_assoc]
          · intro hnd
            have := r3 (h3 hnd)
            simpa [evSymsL, List.append_assoc] using this
        all_goals cases h

theorem supOne_outer (p : Pattern) (es : Text) (ev : List Text)
    (hexp : ∀ x, p.isExpandedVariable (.sym x) = decide (x ∈ ev)) (f : Nat)
    (ih : ∀ (items : List Datum) (allow : Bool) (seen seen' : List Datum),
      peekIs (.sym es) items = false → plS es allow (Datum.ofList items) = true →
      ctsupLoop p (.sym es) f false items seen = .ok seen' → tS es ev (Datum.ofList items) = true)
    (it : Datum) (seen seen' : List Datum) (hne : it ≠ .sym es) (hpl : plP es it = true)
    (h : supOne p (.sym es) f it false seen = .ok seen') : tP es ev it = true := by
  cases it with
  | vec v => simp [supOne] at h
  | sym x =>
    have hx : x ≠ es := by simpa using hne
    have hc : cellEq (Datum.sym x) (Datum.sym es) = false := by simp [hx]
    simp only [supOne, hc, Bool.false_eq_true, if_false, hexp, Bool.not_false, if_true] at h
    by_cases hxe : x ∈ ev
    · simp [hxe] at h
    · simp [tP, hx, hxe]
  | pair a d =>
    simp only [supOne] at h
    split at h
    · cases h
    · rename_i himp
      have hnil := isImproper_false_endsInNil (by simpa using himp)
      have heq := endsInNil_ofList hnil
      obtain ⟨ha, hpls⟩ := plS_of_plP hpl
      have hres := ih (iterList (.pair a d)) true seen seen' (by simp [iterList, peekIs, ha])
        (by rw [← heq]; exact hpls) h
      rw [← heq] at hres
      rw [tP_pair]; exact hres
  | _ => simp [tP]

theorem ctsupLoop_outer (s : Setup) (p : Pattern) (ev : List Text)
    (hexp : ∀ x, p.isExpandedVariable (.sym x) = decide (x ∈ ev)) : ∀ (f : Nat)
    (items : List Datum) (allow : Bool) (seen seen' : List Datum),
    peekIs (.sym s.es) items = false → plS s.es allow (Datum.ofList items) = true →
    ctsupLoop p (.sym s.es) f false items seen = .ok seen' → tS s.es ev (Datum.ofList items) = true := by
  intro f
  -- strong induction: a group `it ...` takes two turns of the loop
  induction f using Nat.strongRecOn with
  | ind f ih =>
  intro items allow seen seen' hhead hpl h
  cases f with
  | zero => simp [ctsupLoop] at h
  | succ f =>
    cases items with
    | nil => simp [Datum.ofList, tS]
    | cons it rest =>
      have hne : it ≠ .sym s.es := by
        intro hit; subst hit; simp [peekIs] at hhead
      have hc : cellEq it (Datum.sym s.es) = false := by simpa using hne
      rw [plS_ofList_cons_ne hne] at hpl
      simp only [Bool.and_eq_true] at hpl
      rw [ctsupLoop_succ] at h
      simp only [hc, Bool.false_eq_true, if_false] at h
      by_cases hpk : peekIs (.sym s.es) rest = true
      · -- a group `it ...`
        simp only [hpk, if_true] at h
        cases rest with
        | nil => simp [peekIs] at hpk
        | cons e rest' =>
          have he : e = .sym s.es := by simpa [peekIs] using hpk
          subst he
          split at h
          · rename_i seen1 hone
            split at h
            · cases h
            · rename_i hne1
              obtain ⟨h1, h2, h3⟩ := supOne_unit p s.es ev hexp f (ctsupLoop_unit p s.es ev hexp f)
                it [] seen1 hne hpl.1 hone
              simp only [List.nil_append] at h2 h3
              have hunit : unitOK s.es ev it = true := by
                simp only [unitOK, Bool.and_eq_true, decide_eq_true_eq, Bool.not_eq_true']
                refine ⟨⟨h1, h3 List.nodup_nil⟩, ?_⟩
                cases hev : evSyms ev it with
                | nil => rw [h2, hev] at hne1; simp at hne1
                | cons _ _ => rfl
              have hpl2 := hpl.2
              rw [plS_ofList_cons_ell] at hpl2
              simp only [Bool.and_eq_true] at hpl2
              have hhead' : peekIs (.sym s.es) rest' = false := by
                cases rest' with
                | nil => rfl
                | cons q qs =>
                  by_cases hq : q = .sym s.es
                  · subst hq
                    have := hpl2.2
                    rw [plS_ofList_cons_ell] at this
                    simp at this
                  · simpa [peekIs] using hq
              cases f with
              | zero => simp [ctsupLoop] at h
              | succ f' =>
                rw [ctsupLoop_succ] at h
                have hcc : cellEq (Datum.sym s.es) (Datum.sym s.es) = true := by simp
                simp only [hcc, if_true] at h
                have hrest := ih f' (by omega) rest' false seen seen' hhead' hpl2.2 h
                rw [tS_cons_ell]
                simp [hunit, hrest]
          all_goals cases h
      · have hpk : peekIs (.sym s.es) rest = false := by simpa using hpk
        simp only [hpk, Bool.false_eq_true, if_false] at h
        split at h
        · rename_i seen1 hone
          have hit := supOne_outer p s.es ev hexp f (ih f (Nat.lt_succ_self f)) it seen seen1 hne hpl.1 hone
          have hrest := ih f (Nat.lt_succ_self f) rest allow seen1 seen' hpk hpl.2 h
          rw [tS_cons_ne s ev it rest (by simpa [Setup.ell] using hpk)]
          simp [hit, hrest]
        all_goals cases h

end Marwood.Transform.EllAccept

namespace Marwood.Transform
open Marwood Marwood.Spec.Match Marwood.Transform.Term Marwood.Transform.EllAccept

theorem ruleOK_tP (s : Setup) {f : Nat} {r : Pattern × Datum} (h : RuleOK f s.ell s.lits r)
    {kw body : Datum} (hpe : r.1.expr = .pair kw body) :
    tP s.es (ellVars s.ctx body) r.2 = true := by
  obtain ⟨kw', body', hpe', _, _, hexp, _⟩ := ruleOK_build s h
  rw [hpe] at hpe'
  injection hpe' with _ hb
  subst hb
  have hplace := checkTemplateSyntax_place (es := s.es) h.tsyntax
  obtain ⟨seen, hsup⟩ := h.tsupport
  rw [checkTemplateSupport_eq] at hsup
  have hne : r.2 ≠ .sym s.es := by
    intro hT
    rw [hT] at hsup
    simp [supOne, Setup.ell] at hsup
  exact supOne_outer r.1 s.es _ hexp f (ctsupLoop_outer s r.1 _ hexp f) r.2 [] seen hne hplace hsup

theorem ruleOK_d1 (s : Setup) {f : Nat} {r : Pattern × Datum} (h : RuleOK f s.ell s.lits r) :
    ruleD1 s.ctx r = true := by
  obtain ⟨kw, body, hpe, _⟩ := ruleOK_build s h
  simp only [ruleD1, hpe, Bool.and_eq_true]
  exact ⟨ruleOK_nn s h hpe, ruleOK_tP s h hpe⟩

theorem accepted_d1 {f : Nat} {d : Datum} {t : Transform} (hdef : Transform.tryNew f d = .ok t) :
    ∃ s : Setup, t.ellipsis = s.ell ∧ t.literals = s.lits ∧
      ∀ r ∈ t.rules, RuleOK f s.ell s.lits r ∧ ruleD1 s.ctx r = true := by
  obtain ⟨s, hte, htl, hrules⟩ := Transform.tryNew_ok hdef
  exact ⟨s, hte, htl, fun r hr => ⟨hrules r hr, ruleOK_d1 s (hrules r hr)⟩⟩

/-- the class is a computed fact about `(syntax-rules (else) ((_ x (a b) ... else) ((a ...) x)))`, and
    false for a template that uses the ellipsis variable `a` outside a group -/
example : ∃ t, Transform.tryNew 100 ellBuildDef = .ok t ∧
    (t.rules.all fun r => ruleD1 ellBuildSetup.ctx r) = true ∧
    (t.rules.all fun r => ruleD1 ellBuildSetup.ctx (r.1, .sym ['a'])) = false :=
  ⟨_, rfl, by decide, by decide⟩

end Marwood.Transform
