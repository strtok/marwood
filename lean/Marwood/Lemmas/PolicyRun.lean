import Marwood.Lemmas.PolicyRefine
import Marwood.Lemmas.PolicyBound
/-!
# Runs of the heap model project onto runs of the policy specification

`HRun h ops h'`: the heap model goes from `h` to `h'` by `Heap.alloc`s, `Heap.runGc`s (any roots, forced or
not, skipped or not) and steps that leave the counters alone (writes into cells, symbol-table edits); `ops` are
the policy operations performed. Each operation starts in a heap satisfying `Pre` (consequences of `WFHeap`; for
the concrete machine `PolicyAlloc.pre_of_inv`).
-/
namespace Marwood.Lemmas.PolicyRun
open Marwood Marwood.Heap Marwood.Spec Marwood.Spec.HeapPolicy
open Marwood.Lemmas.HeapOps Marwood.Lemmas.PolicyRefine Marwood.Lemmas.PolicyBound

structure Pre (h : Heap) : Prop where
  sizes : h.gc.size = h.cells.size
  no_used : ∀ i : Nat, h.gc[i]? ≠ some GcState.used
  shape : Shape h
  free_le : h.free.length ≤ h.cells.size

/-- in `skipped`, `live` is free (the specification ignores it), yet `Paced` asks `live ≤ L` of whoever chooses it -/
inductive HRun (fixed : Bool) : Heap → List HeapPolicy.Op → Heap → Prop
  | done (h : Heap) : HRun fixed h [] h
  | alloc {h h1 h' : Heap} {p : Nat} {ops : List HeapPolicy.Op} :
      Pre h → h.alloc = .ok (h1, p) → HRun fixed h1 ops h' → HRun fixed h (.alloc :: ops) h'
  | skipped {h h' : Heap} {r : Roots} {force : Bool} {live : Nat} {ops : List HeapPolicy.Op} :
      Pre h → Heap.runGc fixed force h r = .ok (.skipped h) → HRun fixed h ops h' →
      HRun fixed h (.gcPoint force live :: ops) h'
  | collected {h h1 h' : Heap} {r : Roots} {force : Bool} {ops : List HeapPolicy.Op} :
      Pre h → Heap.runGc fixed force h r = .ok (.collected h1) → HRun fixed h1 ops h' →
      HRun fixed h (.gcPoint force (proj h1).used :: ops) h'
  | other {h h1 h' : Heap} {ops : List HeapPolicy.Op} :
      proj h1 = proj h → HRun fixed h1 ops h' → HRun fixed h ops h'

theorem hrun_proj (fixed : Bool) (h h' : Heap) (ops : List HeapPolicy.Op) (hr : HRun fixed h ops h') :
    proj h' = run (proj h) ops := by
  induction hr with
  | done h => rfl
  | alloc pre ha _ ih =>
    rw [ih, alloc_refines _ _ _ pre.sizes pre.shape pre.free_le ha]; rfl
  | @skipped h0 _ r force live _ pre hg _ ih =>
    have := runGc_refines fixed force h0 r _ pre.sizes pre.no_used pre.shape hg
    simp only at this
    rw [ih]
    simp only [run, step, gcPoint, this.2]
    rfl
  | @collected h0 h1 _ r force _ pre hg _ ih =>
    have := runGc_refines fixed force h0 r _ pre.sizes pre.no_used pre.shape hg
    simp only at this
    rw [ih]
    simp only [run, step]
    rw [← this.2]
  | other he _ ih => rw [ih, he]

/-- T12.3 for the heap model -/
theorem hrun_capacity_bounded (fixed : Bool) (h h' : Heap) (ops : List HeapPolicy.Op) (A L : Nat)
    (pre : Pre h) (hr : HRun fixed h ops h')
    (hu : (proj h).used ≤ L ∨ 4 * (proj h).used < 3 * h.cells.size) (hp : Paced A L 0 ops) :
    h'.cells.size ≤ bound h.chunk h.cells.size A L := by
  obtain ⟨_, _, k, _, hk⟩ := pre.shape
  have hproj := hrun_proj fixed h h' ops hr
  have hinit : Inv h.chunk h.cells.size A L 0 (proj h) := by
    have := inv_init h.chunk k (proj h).used A L (by rw [← hk]; exact hu)
    rw [← hk] at this
    exact this
  obtain ⟨a', hi⟩ := inv_run h.chunk h.cells.size A L ops _ 0 hinit hp
  have := hi.cap
  rw [← hproj] at this
  exact this

end Marwood.Lemmas.PolicyRun
