import Marwood.Lemmas.CompileCorrect2ErrMain
import Marwood.Lemmas.CompileCorrectConcrete
/-!
# T01.3 stage 1, error case — `ErrLaws` from elementary laws, on the concrete heap, and a worked failure

`AtomErrLaws`, for `atomData`: `CALL`'s dispatch sees no procedure in a non-procedure scalar (flat or behind a pointer),
and a supported primitive on which `applyPrim1` fails is a generic builtin whose evaluation fails with the same class.
The dispatch part is a theorem on the concrete heap (`concrete_atomErrLaws`). `demo_err_runs` discharges every
hypothesis of `compileExpr_correct_err` for `(if (set! g #t) (g) 1)` with `g` bound: the machine stores `#t` in `g`,
then fails in `CALL` with `InvalidProcedure`; the heap at the failure represents the failure state (`g = #t`).
-/
namespace Marwood.Lemmas.CompileCorrect
open Marwood Marwood.Vm Marwood.Vm.Concrete
open Marwood.Spec.Eval (Val Prim Cell ErrClass evalN evalStep applyStep applyPrim1 evalArgs properList)

variable {H : Type}

def nonProcCell : VCell → Prop
  | .bool _ | .nil | .void | .opaque _ => True
  | _ => False

structure AtomErrLaws (ops : HeapOps H) (E : AtomEnc) (B : AtomBase ops) : Prop where
  callee_other_imm : ∀ h c, nonProcCell c → ops.callee h c = .other
  callee_other_ptr : ∀ h p, nonProcCell (ops.getAt h p) → ops.callee h (.ptr p) = .other
  builtin_err : ∀ h (σ : SSt) p id vs ws c (σ' : SSt) l, SR (atomData ops E B) h σ → E.prim p = some id →
    All2 (atomVR ops E h σ.store) vs ws → applyPrim1 p ws σ = .err c σ' → c ≠ .syntax →
    ops.builtinKind h id = .generic ∧
    ∃ e', builtinResult ops h id vs.reverse = .err e' ∧ machClass e' = specClass c ∧
      SR (atomData ops E B) h σ' ∧ Evolves (atomData ops E B) l h σ.store h σ'.store

variable {ops : HeapOps H} {E : AtomEnc}

theorem nonProc_not_proc {c : VCell} (hc : nonProcCell c) : Concrete.isProcedure c = false := by
  cases c <;> first | rfl | exact absurd hc (by simp [nonProcCell])

theorem cell_nonProc {w : Val} {c : VCell} (h : E.cell w = some c) (hp : ∀ p, w ≠ .prim p) : nonProcCell c := by
  cases w <;> simp [AtomEnc.cell] at h <;> first
    | (subst h; trivial)
    | exact absurd rfl (hp _)

theorem atomErrLaws_errLaws {B : AtomBase ops} (A : AtomLaws ops E B) (AE : AtomErrLaws ops E B) :
    ErrLaws (atomData ops E B) where
  call_err := by
    intro n h σ vf f vs ws c σ' l hsr ⟨cv, hcv, hv⟩ hvs hap hcs
    cases n with
    | zero => cases hap
    | succ n =>
      change applyStep (evalN n) f ws σ = _ at hap
      have nonproc : (∀ p, f ≠ .prim p) → (∀ a b c d, f ≠ .closure a b c d) →
          SR (atomData ops E B) h σ' ∧ Evolves (atomData ops E B) l h σ.store h σ'.store ∧
          ((ops.callee h vf = .other ∧ specClass c = .notProcedure) ∨
           ∃ id e', ops.callee h vf = .builtin id ∧ ops.builtinKind h id = .generic ∧
             builtinResult ops h id vs.reverse = .err e' ∧ machClass e' = specClass c) := by
        intro hp hcl
        rw [applyStep_other ws σ hp hcl] at hap
        injection hap with h1 h2
        subst h1 h2
        refine ⟨hsr, Evolves.refl _ _ _, .inl ⟨?_, rfl⟩⟩
        have hnp := cell_nonProc hcv hp
        rcases hv with rfl | ⟨q, rfl, hg⟩
        · exact AE.callee_other_imm h _ hnp
        · exact AE.callee_other_ptr h q (by rw [hg]; exact hnp)
      cases f with
      | prim p =>
        simp only [AtomEnc.cell, Option.map_eq_some_iff] at hcv
        obtain ⟨id, hid, rfl⟩ := hcv
        rw [applyStep_prim_fo _ _ _ (A.prim_fo p id hid)] at hap
        obtain ⟨hk, e', hres, hcl, hsr', hev⟩ := AE.builtin_err h σ p id vs ws c σ' l hsr hid hvs hap hcs
        refine ⟨hsr', hev, .inr ⟨id, e', ?_, hk, hres, hcl⟩⟩
        rcases hv with rfl | ⟨q, rfl, hg⟩
        · exact A.callee_imm h id
        · exact A.callee_ptr h q id hg
      | _ => first
        | (simp [AtomEnc.cell] at hcv; done)
        | exact nonproc (by intro p e; cases e) (by intro a b c d e; cases e)

/-- the failing-builtin part `hb` stays a parameter, like the builtins themselves -/
theorem concrete_atomErrLaws (ext : ExtOps) (E : AtomEnc) (named : Text → Prop) (slot : Text → Nat)
    (hb : ∀ h (σ : SSt) p id vs ws c (σ' : SSt) l,
      SR (atomData (concreteOps ext) E (concreteBase ext named slot)) h σ → E.prim p = some id →
      All2 (atomVR (concreteOps ext) E h σ.store) vs ws → applyPrim1 p ws σ = .err c σ' → c ≠ .syntax →
      (concreteOps ext).builtinKind h id = .generic ∧
      ∃ e', builtinResult (concreteOps ext) h id vs.reverse = .err e' ∧ machClass e' = specClass c ∧
        SR (atomData (concreteOps ext) E (concreteBase ext named slot)) h σ' ∧
        Evolves (atomData (concreteOps ext) E (concreteBase ext named slot)) l h σ.store h σ'.store) :
    AtomErrLaws (concreteOps ext) E (concreteBase ext named slot) where
  callee_other_imm := fun h c hc => by cases c <;> first | rfl | exact absurd hc (by simp [nonProcCell])
  callee_other_ptr := fun h p hnp => CompileCorrect2.Conc.callee_other (v := .ptr p) (nonProc_not_proc hnp)
  builtin_err := hb

def k_g : Text := ['g']

def errExpr : Datum :=
  Datum.ofList [.sym Spec.Eval.k_if_, Datum.ofList [.sym Spec.Eval.k_setBang, .sym k_g, .bool true],
    Datum.ofList [.sym k_g], .num (.fix 1)]

def errCode : List BC :=
  [.op .movImm, .datum (.bool true), .acc, .op .mov, .acc, .global k_g, .op .movImm, .void, .acc,
   .op .jnt, .target 19,
   .op .pushImm, .argc 0, .op .mov, .global k_g, .acc, .op .callAcc,
   .op .jmp, .target 22,
   .op .movImm, .datum (.num (.fix 1)), .acc]

def errCells : List VCell :=
  [.opcode .movImm, .bool true, .acc, .opcode .mov, .acc, .globSlot 0, .opcode .movImm, .void, .acc,
   .opcode .jnt, .ptr 19,
   .opcode .pushImm, .argc 0, .opcode .mov, .globSlot 0, .acc, .opcode .callAcc,
   .opcode .jmp, .ptr 22,
   .opcode .movImm, .opaque "n1", .acc]

def errHeap : CHeap :=
  { chunk := 1, cells := #[.lambda ⟨errCells, [], []⟩], gc := #[.allocated], free := [], symtab := [],
    globSyms := [], globals := #[.bool false] }

def errState : MSt CHeap :=
  { heap := errHeap, stack := ⟨[.undefined, .undefined, .undefined, .undefined], 0⟩, acc := .undefined,
    ep := 0, ipL := 0, ipO := 0, bp := 0 }

def errSpecSt : SSt := { globals := [(k_g, .bool false)], store := #[], out := [] }
def errSpecSt' : SSt := { globals := [(k_g, .bool true)], store := #[], out := [] }

theorem errExpr_frag : Frag errExpr := by
  refine .if3 _ _ _ (.setBang _ _ (.bool true)) (.app _ _ ⟨by decide, ?_⟩ (.sym _) .nil) (.num _)
  intro x hx; cases hx; decide

theorem errExpr_compile : compileExpr 4 {} c0 0 false errExpr = .ok ({}, errCode) := by
  with_unfolding_all rfl

theorem errExpr_eval : (evalN 4).eval errExpr [] errSpecSt = .err .notProcedure errSpecSt' := by
  rfl

theorem demo_err_runs (ext : ExtOps) :
    ∃ sf e', ErrRun (atomData (concreteOps ext) demoEnc (concreteBase ext (fun x => x = k_g) (fun _ => 0)))
      errState errSpecSt errSpecSt' .notProcedure sf e' ∧ e' = .invalidProcedure := by
  have A := concrete_atomLaws_noPrims ext (fun i => "n" ++ toString i) (fun _ => "c") (fun _ => "s") (fun _ => "y")
    (fun x => x = k_g) (fun _ => 0) (by intro a b ha hb _; rw [ha, hb])
  have AE : AtomErrLaws (concreteOps ext) demoEnc (concreteBase ext (fun x => x = k_g) (fun _ => 0)) :=
    concrete_atomErrLaws ext demoEnc _ _ (by intro h σ p id vs ws c σ' l _ hp; cases hp)
  have hset : ∀ x ∈ setTargets errExpr, errSpecSt'.globals.lookup x ≠ none := by
    intro x hx
    have : x = k_g := by simpa [errExpr, Datum.ofList, setTargets, setHead] using hx
    subst this
    decide
  have hcode : CodeAt (atomData (concreteOps ext) demoEnc (concreteBase ext (fun x => x = k_g) (fun _ => 0)))
      errState.heap errSpecSt.store errState.ipL 0 errCode := by
    refine CodeAt.ofCells errCells rfl (fun i _ => by rw [Nat.zero_add]; rfl) ?_
    have hn : Loads (atomData (concreteOps ext) demoEnc (concreteBase ext (fun x => x = k_g) (fun _ => 0)))
        errState.heap errSpecSt.store (.datum (.num (.fix 1))) (.opaque "n1") :=
      ⟨(by intro o h; cases h), (by intro w hw; cases hw; exact ⟨.opaque "n1", by decide, .inl rfl⟩)⟩
    have hg : Loads (atomData (concreteOps ext) demoEnc (concreteBase ext (fun x => x = k_g) (fun _ => 0)))
        errState.heap errSpecSt.store (.global k_g) (.globSlot 0) := ⟨rfl, rfl⟩
    exact .cons rfl (.cons (loads_true _ _) (.cons rfl (.cons rfl (.cons rfl (.cons hg (.cons rfl (.cons rfl (.cons rfl
      (.cons rfl (.cons rfl (.cons rfl (.cons rfl (.cons rfl (.cons hg (.cons rfl (.cons rfl (.cons rfl
      (.cons rfl (.cons rfl (.cons hn (.cons rfl .nil)))))))))))))))))))))
  have hsr : SR (atomData (concreteOps ext) demoEnc (concreteBase ext (fun x => x = k_g) (fun _ => 0)))
      errState.heap errSpecSt := by
    refine ⟨?_, ?_, ?_⟩
    · intro x w hx hl
      cases (show x = k_g from hx)
      have : w = .bool false := by
        have : errSpecSt.globals.lookup k_g = some (.bool false) := by decide
        rw [this] at hl; injection hl with hl; exact hl.symm
      subst this
      exact ⟨.bool false, rfl, .inl rfl⟩
    · intro x hx hl
      cases (show x = k_g from hx)
      have : errSpecSt.globals.lookup k_g = some (.bool false) := by decide
      rw [this] at hl; cases hl
    · intro x hx
      show 0 < 1
      omega
  obtain ⟨sf, e', r⟩ := compileExpr_correct_err (atomLaws_repLaws A) (atomErrLaws_errLaws A AE)
    4 {} 0 false errExpr {} errCode errExpr_frag errExpr_compile 4 errSpecSt .notProcedure errSpecSt'
    errExpr_eval (by decide) hset errState hcode rfl hsr (by show 0 < 4; omega)
  refine ⟨sf, e', r, ?_⟩
  have hc := r.cls
  cases e' <;> simp [machClass, specClass] at hc ⊢
  split at hc <;> cases hc

end Marwood.Lemmas.CompileCorrect
