import Marwood.Lemmas.SimStepE
/-!
# Heap simulation, opcode lemmas: VARARG and CLOSURE (both allocating)

CLOSURE's `IofArgument` binding source reads the frame through `load_arg` (`stack[bp + 1]`, `stack[bp - argc + index + 1]`).
It is reachable only from the argument-less top-level lambda (DESIGN §1: effectively dead) and is excluded by the side
condition `NoIofArg`; proving the arm would take `FrameLive` and a bound on the index.
-/
namespace Marwood.Lemmas.Sim
open Marwood Marwood.Vm Marwood.Vm.Concrete

theorem ORel.bind_eq {α β γ δ : Type} {R : α → β → Prop} {Q : γ → δ → Prop} {x : Outcome α} {y : Outcome β}
    {f : α → Outcome γ} {g : β → Outcome δ} (h : ORel R x y)
    (hf : ∀ a b, x = .ok a → y = .ok b → R a b → ORel Q (f a) (g b)) : ORel Q (x >>= f) (y >>= g) := by
  cases h with
  | ok r => exact hf _ _ rfl rfl r
  | err => exact .err
  | panic => exact .panic

theorem getOffset_cell {st : Stack} {off : Int} {v : VCell} (ho : off ≤ 0) (h : st.getOffset off = .ok v) :
    ∃ i, i ≤ st.sp ∧ st.cells[i]? = some v := by
  unfold Stack.getOffset at h
  simp only at h
  split at h
  · unfold Stack.get at h
    refine ⟨((st.sp : Int) + off).toNat, by omega, ?_⟩
    split at h
    · rename_i w hw; cases h; exact hw
    · cases h
  · cases h

section
variable (ext : ExtOps) {φ : Inj} {s t : St CHeap}

theorem varargCollect_rel {K : Nat} :
    ∀ (k : Nat) {ψ : Inj} {h h' : CHeap} {acc acc' : Nat} {st st' : Stack}, HeapSim ψ h h' → SymOk h → SymOk h' →
      AddrRel ψ acc acc' → StackRelK ψ K st st' → st.sp ≤ K →
      ORel (fun a b => ∃ χ, ψ.le χ ∧ HeapSim χ a.1 b.1 ∧ AddrRel χ a.2.1 b.2.1 ∧ StackRelK χ K a.2.2 b.2.2 ∧
          a.2.2.sp ≤ st.sp)
        (varargCollect (concreteOps ext) k h acc st) (varargCollect (concreteOps ext) k h' acc' st') := by
  intro k
  induction k with
  | zero => intro ψ h h' acc acc' st st' hh _ _ ha hst _; exact .ok ⟨ψ, ψ.le_refl, hh, ha, hst, Nat.le_refl _⟩
  | succ k ih =>
    intro ψ h h' acc acc' st st' hh so so' ha hst hk
    simp only [varargCollect, concreteOps]
    refine (hst.pop hk).bind ?_
    rintro ⟨v, st1⟩ ⟨v', st1'⟩ ⟨hv, hst1, hsp1, _, _⟩
    simp only at hv hst1 hsp1 ⊢
    obtain ⟨ψ1, h1, a1, h1', a1', e, e', le1, hh1, hv1, so1, so1'⟩ :=
      putV_simE hh so so' hv
    rw [e, e']
    dsimp only
    refine (asPtr_rel hv1).bind ?_
    intro pa pa' hpa
    obtain ⟨ψ2, h2, p2, h2', p2', e, e', le2, hh2, hp2, so2, so2'⟩ :=
      putV_simE hh1 so1 so1' (v := .pair pa acc) (v' := .pair pa' acc')
      (.pair hpa (ha.mono le1))
    rw [e, e']
    dsimp only
    refine (asPtr_rel hp2).bind ?_
    intro pp pp' hpp
    have le12 := Inj.le_trans le1 le2
    refine (ih hh2 so2 so2' hpp (hst1.mono le12) (by omega)).imp ?_
    rintro ⟨x1, x2, x3⟩ ⟨y1, y2, y3⟩ ⟨χ, le3, c1, c2, c3, c4⟩
    exact ⟨χ, Inj.le_trans le12 le3, c1, c2, c3, by simp only at c4 ⊢; omega⟩

theorem stepVarArg_rel (h : Sim φ s t) (ok : SizeOk s.heap) (ok' : SizeOk t.heap) (so : SymOk s.heap)
    (so' : SymOk t.heap) :
    ORel (Post φ) (stepVarArg (concreteOps ext) s) (stepVarArg (concreteOps ext) t) := by
  unfold stepVarArg
  rcases lambdaAt_rel h.heap ok ok' h.ipL with ⟨e1, e2⟩ | ⟨l, l', e1, e2, _, hargs, _⟩
  · simp only [concreteOps, e1, e2, Option.map_none]; exact .panic
  · simp only [concreteOps, e1, e2, Option.map_some]
    rw [← hargs.length_eq]
    refine (usub_rel _ 1 _).bind ?_
    intro req req' e
    subst e
    refine ((h.stack.getOffset (Nat.le_refl _) (by omega)).bind (fun _ _ hv => asArgc_rel hv)).bind ?_
    intro argc argc' e
    subst e
    split
    · exact .err
    · split
      · -- exactly one optional argument: converted in place
        refine (h.stack.getOffset (Nat.le_refl _) (off := -3) (by omega)).bind ?_
        intro v v' hv
        obtain ⟨ψ1, h1, a1, h1', a1', e, e', le1, hh1, hv1, so1, so1'⟩ :=
          putV_simE h.heap so so' hv
        rw [e, e']
        dsimp only
        obtain ⟨ψ2, h2, n2, h2', n2', e, e', le2, hh2, hn2, so2, so2'⟩ :=
          putV_simE hh1 so1 so1' (v := .nil) (v' := .nil) (.atom rfl)
        rw [e, e']
        dsimp only
        refine (asPtr_rel (hv1.mono le2)).bind ?_
        intro pa pa' hpa
        refine (asPtr_rel hn2).bind ?_
        intro pn pn' hpn
        obtain ⟨ψ3, h3, p3, h3', p3', e, e', le3, hh3, hp3, _, _⟩ :=
          putV_simE hh2 so2 so2' (v := .pair pa pn) (v' := .pair pa' pn')
          (.pair hpa hpn)
        rw [e, e']
        dsimp only
        have le : φ.le ψ3 := Inj.le_trans le1 (Inj.le_trans le2 le3)
        refine ((StackRelK.mono le h.stack).setOffset (-3) hp3).bind ?_
        rintro st1 st1' ⟨hst1, hsp1⟩
        refine .ok ⟨ψ3, le, hh3, ?_, h.acc.mono le, h.ep.mono le, h.ipL.mono le, h.ipO, h.bp⟩
        show StackRelK ψ3 st1.sp st1 st1'
        rw [hsp1]; exact hst1
      · -- several (or no) optional arguments: popped into a fresh list
        refine (h.stack.pop (Nat.le_refl _)).bind ?_
        rintro ⟨c1, st1⟩ ⟨c1', st1'⟩ ⟨hc1, hst1, hsp1, _, _⟩
        simp only at hc1 hst1 hsp1 ⊢
        refine (hst1.pop (by omega)).bind ?_
        rintro ⟨c2, st2⟩ ⟨c2', st2'⟩ ⟨hc2, hst2, hsp2, _, _⟩
        simp only at hc2 hst2 hsp2 ⊢
        refine (hst2.pop (by omega)).bind ?_
        rintro ⟨c3, st3⟩ ⟨c3', st3'⟩ ⟨_, hst3, hsp3, _, _⟩
        simp only at hst3 hsp3 ⊢
        obtain ⟨ψ1, h1, n1, h1', n1', e, e', le1, hh1, hn1, so1, so1'⟩ :=
          putV_simE h.heap so so' (v := .nil) (v' := .nil) (.atom rfl)
        rw [e, e']
        dsimp only
        refine (asPtr_rel hn1).bind ?_
        intro pn pn' hpn
        refine (varargCollect_rel ext _ hh1 so1 so1' hpn (hst3.mono le1) (by omega)).bind ?_
        rintro ⟨h2, lst, st4⟩ ⟨h2', lst', st4'⟩ ⟨χ, le2, hh2, hl2, hst4, hsp4⟩
        simp only at hh2 hl2 hst4 hsp4 ⊢
        have le : φ.le χ := Inj.le_trans le1 le2
        have k0 : StackRel χ st4 st4' := hst4.weaken (by omega)
        exact .ok ⟨χ, le, h.setHeapStack le hh2
          ((((k0.push (.ptr hl2)).push (.atom rfl)).push (hc2.mono le)).push (hc1.mono le))⟩

theorem exec_varArg (h : Sim φ s t) (ok : SizeOk s.heap) (ok' : SizeOk t.heap) (so : SymOk s.heap)
    (so' : SymOk t.heap) :
    ORel (PostB φ) (exec (concreteOps ext) .varArg s) (exec (concreteOps ext) .varArg t) :=
  (stepVarArg_rel ext h ok ok' so so').continues

end

def NoIofArg (h : CHeap) : Prop :=
  ∀ (i : Nat) (l : CLambda), h.cells[i]? = some (CCell.lambda l) → ∀ p ∈ l.envmap, ∀ a, p.2 ≠ Source.iofArg a

section
variable (ext : ExtOps) {φ : Inj} {s t : St CHeap}

theorem closureSlot_rel {h h' : CHeap} (hs : HeapSim φ h h') (ok : SizeOk h) (ok' : SizeOk h') {ep ep' : Nat}
    (hep : AddrRel φ ep ep') (bp : Nat) (st st' : Stack) (src : Source) (hsrc : ∀ a, src ≠ .iofArg a) :
    ORel (VRel φ) (closureSlot h ep bp st src) (closureSlot h' ep' bp st' src) := by
  cases src with
  | iofArg a => exact absurd rfl (hsrc a)
  | iofEnv k =>
    simp only [closureSlot]
    rcases envAt_rel hs ok ok' hep with ⟨e1, e2⟩ | ⟨_, ss, ss', e1, e2, r⟩
    · rw [e1, e2]; exact .err
    · rw [e1, e2]
      simp only
      have hk := r.getOpt k
      generalize ss[k]? = x at hk
      generalize ss'[k]? = y at hk
      cases hk with
      | none => exact .panic
      | some hv =>
        cases hv with
        | lexEnvPtr a => exact .ok (.lexEnvPtr a)
        | atom hf => rename_i w; cases w <;> first | exact .ok (.lexEnvPtr hep) | simp [addrFree] at hf
        | _ => exact .ok (.lexEnvPtr hep)
  | global => exact .ok (.atom rfl)
  | arg _ => exact .ok (.atom rfl)
  | internal => exact .ok (.atom rfl)

theorem closureSlots_rel {h h' : CHeap} (hs : HeapSim φ h h') (ok : SizeOk h) (ok' : SizeOk h') {ep ep' : Nat}
    (hep : AddrRel φ ep ep') (bp : Nat) (st st' : Stack) {em em'} (hem : EnvmapRel φ em em')
    (hno : ∀ p ∈ em, ∀ a, p.2 ≠ Source.iofArg a) :
    ORel (VsRel φ) (closureSlots h ep bp st em) (closureSlots h' ep' bp st' em') := by
  induction hem with
  | nil => exact .ok .nil
  | @cons p q rest rest' hp _ ih =>
    obtain ⟨s1, src⟩ := p
    obtain ⟨s2, src'⟩ := q
    have : src = src' := hp.2
    subst this
    simp only [closureSlots]
    refine (closureSlot_rel hs ok ok' hep bp st st' src (hno (s1, src) (List.mem_cons_self ..))).bind ?_
    intro v v' hv
    refine (ih (fun p hp => hno p (List.mem_cons_of_mem _ hp))).bind ?_
    intro vs vs' hvs
    exact .ok (.cons hv hvs)

theorem makeClosure_rel {h h' : CHeap} (hs : HeapSim φ h h') (ok : SizeOk h) (ok' : SizeOk h') (hno : NoIofArg h)
    {lam lam' ep ep' : Nat} (hl : AddrRel φ lam lam') (hep : AddrRel φ ep ep') (bp : Nat) (st st' : Stack) :
    ORel (fun a b => ∃ ψ, φ.le ψ ∧ HeapSim ψ a.1 b.1 ∧ VRel ψ a.2 b.2)
      (makeClosure h lam ep bp st) (makeClosure h' lam' ep' bp st') := by
  unfold makeClosure
  rcases lambdaAt_rel hs ok ok' hl with ⟨e1, e2⟩ | ⟨l, l', e1, e2, _, _, hem⟩
  · rw [e1, e2]; exact .err
  · rw [e1, e2]
    simp only
    refine (closureSlots_rel hs ok ok' hep bp st st' hem (hno lam l (lambdaAt_iff.mp e1))).bind ?_
    intro slots slots' hsl
    obtain ⟨ψ1, le1, hpq1, hh1⟩ := cput_sim hs (c := .lexEnv slots) (c' := .lexEnv slots')
      (fun ψ hle _ => .lexEnv (VsRel.mono hle hsl))
    obtain ⟨ψ2, le2, hpq2, hh2⟩ := cput_sim hh1
      (c := .val (.closure lam (cput h (.lexEnv slots)).2)) (c' := .val (.closure lam' (cput h' (.lexEnv slots')).2))
      (fun ψ hle _ => .val (.closure ((hl.mono le1).mono hle) (.inl (hle _ _ hpq1))))
    exact .ok ⟨ψ2, Inj.le_trans le1 le2, hh2, .ptr (.inl hpq2)⟩

theorem exec_closure (h : Sim φ s t) (ok : SizeOk s.heap) (ok' : SizeOk t.heap) (hno : NoIofArg s.heap) :
    ORel (PostB φ) (exec (concreteOps ext) .closureAcc s) (exec (concreteOps ext) .closureAcc t) := by
  unfold exec
  refine (asPtr_rel h.acc).bind ?_
  intro lam lam' hl
  simp only [concreteOps]
  rw [show t.bp = s.bp from h.bp.symm]
  refine (makeClosure_rel h.heap ok ok' hno hl h.ep s.bp s.stack t.stack).bind ?_
  rintro ⟨h1, c⟩ ⟨h1', c'⟩ ⟨ψ, le, hh, hc⟩
  exact .ok ⟨rfl, ψ, le, hh, StackRelK.mono le h.stack, hc, h.ep.mono le, h.ipL.mono le, h.ipO, rfl⟩

end

end Marwood.Lemmas.Sim
