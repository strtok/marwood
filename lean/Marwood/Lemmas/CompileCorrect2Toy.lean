import Marwood.Lemmas.CompileCorrect2Pres
import Marwood.Lemmas.CompileCorrect2ToyEnv
/-!
# T01.3 stage 2: the laws are satisfiable, a small heap on which every field of `Laws2` is a theorem

`THeap`: an immutable table of code objects (address = index), growing tables of lexical environments and of closure
cells, and the global slots. Allocation never reuses an address (no collector: GC transparency is C03's subject).
CLOSURE and ENTER follow run.rs (`build_closure_environment`, `build_lexical_environment`), except that `tCloSlot` puts
`Undefined` for an `IofArgument` source where run.rs loads the argument (`closure_ok` excludes such sources). Values
are immediate (integers: tag `n<decimal>`) or pair cells of such (`tVRc`). There is no builtin and no named global
(`named := fun _ => False`), so the laws `call`, `slot_inj` and `glob_get_put` hold vacuously.
-/
namespace Marwood.Lemmas.CompileCorrect2.Toy
open Marwood Marwood.Vm Marwood.Lemmas.CompileCorrect Marwood.Lemmas.CompileCorrect2
open Marwood.Spec.Eval (Val Cell)

structure TLam where
  bc : List VCell
  nargs : Nat
  srcs : List RSrc

structure THeap where
  lams : List TLam
  envs : Array (List VCell)
  clos : Array (Nat × Nat)
  globals : Array VCell

def tEnvGet (h : THeap) (e k : Nat) : Option VCell := (h.envs[e]?).bind (·[k]?)

def tCloSlot (h : THeap) (ep : Nat) : RSrc → VCell
  | .iofEnv k => match tEnvGet h ep k with
    | some (.lexEnvPtr e n) => .lexEnvPtr e n
    | _ => .lexEnvPtr ep k
  | _ => .undefined

def tActSlot (cenv bp nargs : Nat) (st : Stack) (olds : List VCell) (j : Nat) : RSrc → VCell
  | .arg i => st.cells[bp - (nargs - i) + 1]?.getD .undefined
  | .iofEnv _ => actCaptured cenv j olds[j]?
  | .iofArg _ => actCaptured cenv j olds[j]?
  | .internal => olds[j]?.getD .undefined

def tops : HeapOps THeap where
  fetch h l o := (h.lams[l]?).bind (·.bc[o]?)
  isLambda h l := (h.lams[l]?).isSome
  callee h v := match v with
    | .ptr p => match h.clos[p]? with
      | some (l, e) => .closure l e
      | none => .other
    | _ => .other
  lambdaInfo h l := (h.lams[l]?).map fun t => ⟨t.nargs⟩
  deref _ v := v
  getAt _ _ := .undefined
  setAt h _ _ := h
  put h v := (h, v)
  maybePut h v := (h, v)
  newCont h _ := (h, .undefined)
  globGet h n := h.globals[n]?.getD .undefined
  globPut h n v := { h with globals := h.globals.setIfInBounds n v }
  envGet := tEnvGet
  envPut h e k v := match h.envs[e]? with
    | some ss => if k < ss.length then some { h with envs := h.envs.setIfInBounds e (ss.set k v) } else none
    | none => none
  makeClosure h lam ep _ _ := match h.lams[lam]? with
    | none => .err .expectedType
    | some t =>
      .ok ({ h with envs := h.envs.push (t.srcs.map (tCloSlot h ep)), clos := h.clos.push (lam, h.envs.size) },
           .ptr h.clos.size)
  makeActivation h lam cenv bp st := match h.lams[lam]? with
    | some t =>
      .ok ({ h with envs := h.envs.push (t.srcs.zipIdx.map fun (src, j) =>
                      tActSlot cenv bp t.nargs st ((h.envs[cenv]?).getD []) j src) },
           h.envs.size)
    | none => .err .expectedType
  vectorPush _ _ _ := .err .expectedType
  builtinKind _ _ := .generic
  builtinEval _ _ _ := .err .invalidSyntax
  compileEval _ _ := .err .invalidSyntax
  isProcedure _ _ := false

def tVR (v : VCell) : Val → Prop
  | .bool b => v = .bool b
  | .nil => v = .nil
  | .void => v = .void
  | .int n => v = .opaque ("n" ++ toString n)
  | _ => False

/-- a pair cell is its own `heap.get`; there are no vectors -/
abbrev tVRc (h : THeap) (S : Array Cell) (v : VCell) (w : Val) : Prop :=
  ClosedVR tops (fun _ _ => none) (fun _ v w => tVR v w) h S v w

def tD (final : List LambdaM) : RepData2 tops :=
  { named := fun _ => False, slot := fun _ => 0, VR := tVRc, SRx := fun _ _ => True,
    vecElems := fun _ _ => none, envOK := fun _ _ => True,
    lamSrcs := fun h l => (h.lams[l]?).map (·.srcs), LM := id, final := final,
    setG := fun _ => False }

theorem tVRc_move {h h' : THeap} {S S' : Array Cell}
    (keep : ∀ (l : Nat) (c : Cell), S[l]? = some c → (∀ v, c ≠ .var v) → S'[l]? = some c) :
    ∀ {v w}, tVRc h S v w → tVRc h' S' v w :=
  fun x => ClosedVR.transport (ops := tops) (vecElems := fun _ _ => none) (h := h) (h' := h')
    (fun _ _ b => b) (fun _ _ _ d => d) (fun _ _ e => e) keep x

theorem tVRc_moveAll {h h' : THeap} {S S' : Array Cell}
    (keep : ∀ (l : Nat) (c : Cell), S[l]? = some c → (∀ v, c ≠ .var v) → S'[l]? = some c) :
    ∀ {ps xs}, All2 (tVRc h S) ps xs → All2 (tVRc h' S') ps xs :=
  fun x => ClosedVR.transportAll (ops := tops) (vecElems := fun _ _ => none) (h := h) (h' := h')
    (fun _ _ b => b) (fun _ _ _ d => d) (fun _ _ e => e) keep x

theorem tVRc_heap {h h' : THeap} {S : Array Cell} {v : VCell} {w : Val} (x : tVRc h S v w) : tVRc h' S v w :=
  tVRc_move (fun _ _ hc _ => hc) x

theorem tVRc_obs {h : THeap} {S : Array Cell} {v : VCell} {w : Val} (x : tVRc h S v w) :
    (v = .bool false ↔ w = .bool false) ∧ v ≠ .undefined ∧ isEnvPtr v = false ∧ tops.callee h v = .other := by
  cases x with
  | base hb =>
    cases w <;> simp only [tVR] at hb <;> first
      | (subst hb; exact ⟨by simp, (fun e => by cases e), rfl, rfl⟩)
      | cases hb
  | pair hs hd _ _ =>
    have : v = .pair _ _ := hd
    subst this
    exact ⟨⟨(fun e => by cases e), (fun e => by cases e)⟩, (fun e => by cases e), rfl, rfl⟩
  | vec hs hv' _ => cases hv'

theorem tCloSlot_eq (h : THeap) (ep : Nat) (src : RSrc) : tCloSlot h ep src = cloSlot tops h ep src := by
  cases src <;> rfl

theorem ext_same (final : List LambdaM) (h h' : THeap) (S : Array Cell) (hl : h'.lams = h.lams)
    (hc : ∀ (p : Nat) (v : Nat × Nat), h.clos[p]? = some v → h'.clos[p]? = some v)
    (hp : ∀ e k a b, tEnvGet h e k = some (.lexEnvPtr a b) → tEnvGet h' e k = some (.lexEnvPtr a b))
    (hv : ∀ e k v, tEnvGet h e k = some v → isEnvPtr v = false → ∃ v', tEnvGet h' e k = some v' ∧ isEnvPtr v' = false) :
    Ext2 (tD final) h S h' S := by
  refine ⟨StoreExt.refl _, fun _ _ x => tVRc_heap x,
    fun _ _ x => DatumAt.transport (D := (tD final).toRepData) (vecElems := (tD final).vecElems) (h := h) (h' := h')
      (S := S) (S' := S) (fun _ _ y => tVRc_heap y) (fun _ _ _ y => y) (fun _ _ y => y) x,
    fun l x => ?_, fun v l e x => ?_, fun _ _ => trivial, hp, hv⟩
  · show (h'.lams[l]?).isSome = true ∧ (∀ o, (h'.lams[l]?).bind _ = (h.lams[l]?).bind _) ∧
      (h'.lams[l]?).map _ = (h.lams[l]?).map _ ∧ (h'.lams[l]?).map _ = (h.lams[l]?).map _
    rw [hl]
    exact ⟨x, fun _ => rfl, rfl, rfl⟩
  · cases v with
    | ptr p =>
      have x' : (match h.clos[p]? with | some (l, e) => Callee.closure l e | none => Callee.other) = .closure l e := x
      show (match h'.clos[p]? with | some (l, e) => Callee.closure l e | none => Callee.other) = .closure l e
      cases hcp : h.clos[p]? with
      | none => rw [hcp] at x'; cases x'
      | some q =>
        rw [hcp] at x'
        rw [hc p q hcp]
        exact x'
    | _ => cases x

theorem ext_push (final : List LambdaM) (h : THeap) (S : Array Cell) (ss : List VCell) (c : Array (Nat × Nat))
    (hc : ∀ (p : Nat) (v : Nat × Nat), h.clos[p]? = some v → c[p]? = some v) :
    Ext2 (tD final) h S { h with envs := h.envs.push ss, clos := c } S :=
  have keep : ∀ e k v, tEnvGet h e k = some v →
      tEnvGet { h with envs := h.envs.push ss, clos := c } e k = some v :=
    fun e k _ hx => (rows_push_ne h.envs ss e k (rows_some_ne hx)).trans hx
  ext_same final h _ S rfl hc (fun e k _ _ hx => keep e k _ hx) (fun e k v hx hv => ⟨v, keep e k v hx, hv⟩)

theorem laws (final : List LambdaM) : Laws2 (tD final) where
  slot_inj := by intro a b h; cases h
  truth := fun _ _ _ _ x => (tVRc_obs x).1
  ne_undefined := fun _ _ _ _ x => (tVRc_obs x).2.1
  not_envptr := fun _ _ _ _ x => (tVRc_obs x).2.2.1
  void := fun _ _ => .base rfl
  vr_pair := fun _ _ _ _ _ _ _ _ hs hd h1 h2 => .pair hs hd h1 h2
  vr_vec := fun _ _ _ _ _ _ hs hv hall => .vec hs hv hall
  clos_true := by
    intro h v l e hc
    show v ≠ _
    intro e0; subst e0
    cases hc
  clos_ne_undefined := by
    intro h v l e hc e0; subst e0
    cases hc
  clos_not_envptr := by
    intro h v l e hc
    cases v <;> first | rfl | cases hc
  vr_store := fun _ _ _ _ _ hx x => tVRc_move hx.keep x
  srx_store := fun _ _ _ _ _ => trivial
  glob_get_put := by intro h S x v m _ hn; cases hn
  globPut_ext := by
    intro h S n u _
    exact ⟨ext_same final h _ S rfl (fun _ _ x => x) (fun _ _ _ _ x => x) (fun _ _ v x y => ⟨v, x, y⟩), trivial,
      fun _ _ => rfl⟩
  envPut_ok := by
    intro h S e k old u _ hget hold hu
    obtain ⟨ss, hes, hk, hgetAll⟩ := rows_set u hget
    refine ⟨{ h with envs := h.envs.setIfInBounds e (ss.set k u) }, ?_, ?_, trivial, hgetAll, fun _ => rfl⟩
    · show (match h.envs[e]? with | some ss => _ | none => none) = _
      rw [hes]; simp only [hk, if_true]
    · obtain ⟨hp, hv⟩ := envGet_set_keeps hgetAll hget hold hu
      exact ext_same final h _ S rfl (fun _ _ x => x) hp hv
  closure_ok := by
    intro h S lam ep bp st srcs _ _ hsrc _ _
    have hsrc' : (h.lams[lam]?).map (·.srcs) = some srcs := hsrc
    cases hl : h.lams[lam]? with
    | none => rw [hl] at hsrc'; cases hsrc'
    | some t =>
      rw [hl] at hsrc'
      have ht : t.srcs = srcs := by simpa using hsrc'
      let h' : THeap := { h with envs := h.envs.push (t.srcs.map (tCloSlot h ep)), clos := h.clos.push (lam, h.envs.size) }
      refine ⟨h', h.clos.size, h.envs.size, ?_, ?_, rows_fresh h.envs, ?_, ?_, fun _ => rfl, ?_, trivial, trivial⟩
      · show (match h.lams[lam]? with | none => _ | some t => _) = _
        rw [hl]
      · show (match (h.clos.push (lam, h.envs.size))[h.clos.size]? with | some (l, e) => _ | none => _) = _
        simp
      · intro j src hj
        show tEnvGet h' h.envs.size j = _
        unfold tEnvGet
        show ((h.envs.push _)[h.envs.size]?).bind _ = _
        simp only [Array.getElem?_push_size, Option.bind, List.getElem?_map, ht, hj, Option.map]
        rw [tCloSlot_eq]
      · intro e k he
        exact rows_push_ne h.envs _ e k he
      · exact ext_push final h S _ _ (fun p v x => push_old _ _ _ _ x)
  activation_ok := by
    intro h S lam cenv bp st srcs nargs _ _ hsrc hinfo _ _ _
    have hsrc' : (h.lams[lam]?).map (·.srcs) = some srcs := hsrc
    have hinfo' : (h.lams[lam]?).map (fun t => (⟨t.nargs⟩ : LambdaInfo)) = some ⟨nargs⟩ := hinfo
    cases hl : h.lams[lam]? with
    | none => rw [hl] at hsrc'; cases hsrc'
    | some t =>
      rw [hl] at hsrc' hinfo'
      have ht : t.srcs = srcs := by simpa using hsrc'
      have hn : t.nargs = nargs := by
        have : (⟨t.nargs⟩ : LambdaInfo) = ⟨nargs⟩ := by simpa using hinfo'
        injection this
      let olds := (h.envs[cenv]?).getD []
      let slots := t.srcs.zipIdx.map fun (src, j) => tActSlot cenv bp t.nargs st olds j src
      let h' : THeap := { h with envs := h.envs.push slots }
      have hslot : ∀ j src, srcs[j]? = some src →
          tEnvGet h' h.envs.size j = some (tActSlot cenv bp nargs st olds j src) := by
        intro j src hj
        unfold tEnvGet
        show ((h.envs.push slots)[h.envs.size]?).bind _ = _
        simp only [Array.getElem?_push_size, Option.bind]
        show slots[j]? = _
        simp only [slots, List.getElem?_map, List.getElem?_zipIdx, ht, hj, Option.map, hn, Nat.zero_add]
      have hold : ∀ j, tEnvGet h cenv j = olds[j]? := by
        intro j; unfold tEnvGet
        show (h.envs[cenv]?).bind _ = ((h.envs[cenv]?).getD [])[j]?
        cases h.envs[cenv]? <;> simp
      refine ⟨h', h.envs.size, ?_, rows_fresh h.envs, ?_, ?_, ?_, fun _ => rfl, ?_, trivial⟩
      · show (match h.lams[lam]? with | some t => _ | none => _) = _
        rw [hl]
      · intro j i v hj hv
        rw [show tops.envGet h' h.envs.size j = tEnvGet h' h.envs.size j from rfl, hslot j _ hj]
        simp [tActSlot, hv]
      · intro j k hj
        rw [show tops.envGet h' h.envs.size j = tEnvGet h' h.envs.size j from rfl, hslot j _ hj]
        show some (actCaptured cenv j olds[j]?) = some (actCaptured cenv j (tEnvGet h cenv j))
        rw [hold]
      · intro e k he
        exact rows_push_ne h.envs _ e k he
      · exact ext_push final h S slots h.clos (fun _ _ x => x)
  call := by
    intro n W h σ vf p vs ws w σ' _ hvf
    cases hvf with
    | base hb => cases hb

end Marwood.Lemmas.CompileCorrect2.Toy
