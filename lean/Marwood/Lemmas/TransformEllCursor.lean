import Marwood.Lemmas.TransformEllDefs
/-!
# The per-variable cursors of `PatternEnvironment`

`get_expanded_binding` walks, for each ellipsis variable, through that variable's bindings in the flat
binding list: a cursor "at stage `j`" yields the `j`-th item bound to the variable and moves to stage
`j + 1`; at the end it answers `None`.
-/
namespace Marwood.Transform
open Marwood Marwood.Spec.Match

theorem findKey_spec (k : Datum) : ∀ (L : Bindings) (i0 : Nat),
    (findKey k L i0 = none ∧ proj k L = []) ∨
    (∃ i v, findKey k L i0 = some (i0 + i, v) ∧ i < L.length ∧ proj k L = v :: proj k (L.drop (i + 1))) := by
  intro L
  induction L with
  | nil => intro i0; left; exact ⟨rfl, rfl⟩
  | cons b L ih =>
    intro i0
    obtain ⟨k', v'⟩ := b
    by_cases hk : cellEq k' k = true
    · right
      exact ⟨0, v', by simp [findKey, hk], by simp, by simp [proj, hk]⟩
    · have hk' : cellEq k' k = false := by simpa using hk
      rcases ih (i0 + 1) with ⟨h1, h2⟩ | ⟨i, v, h1, h2, h3⟩
      · left; exact ⟨by simp [findKey, hk', h1], by simp [proj, hk', h2]⟩
      · right
        refine ⟨i + 1, v, ?_, by simp; omega, ?_⟩
        · simp only [findKey, hk', Bool.false_eq_true, if_false, h1]
          congr 2; omega
        · simp [proj, hk', h3]

/-- cursor `c` of variable `x` is at stage `j` -/
def CurAt (B : Bindings) (x : Text) (c : Option Nat) (j : Nat) : Prop :=
  c.getD 0 ≤ B.length ∧ proj (.sym x) (B.drop (c.getD 0)) = (proj (.sym x) B).drop j

theorem CurAt_none (B : Bindings) (x : Text) : CurAt B x none 0 := by
  simp [CurAt]

theorem setIter_keys (k : Datum) (v : Option Nat) : ∀ (it : List (Datum × Option Nat)),
    (setIter k v it).map Prod.fst = it.map Prod.fst := by
  intro it
  induction it with
  | nil => rfl
  | cons e it ih =>
    obtain ⟨k', c'⟩ := e
    by_cases hk : cellEq k' k = true
    · simp [setIter, hk]
    · have hk' : cellEq k' k = false := by simpa using hk
      simp [setIter, hk', ih]

theorem getExpandedBinding_hit (B : Bindings) (iters : List (Datum × Option Nat)) (x : Text)
    (c : Option Nat) (j : Nat) (d : Datum)
    (hc : findIter (.sym x) iters = some c) (hat : CurAt B x c j)
    (hd : (proj (.sym x) B)[j]? = some d) :
    ∃ c', PEnv.getExpandedBinding ⟨B, iters⟩ (.sym x) = .ok (some d, ⟨B, setIter (.sym x) (some c') iters⟩) ∧
      CurAt B x (some c') (j + 1) := by
  obtain ⟨hle, hpr⟩ := hat
  have hdrop : (proj (.sym x) B).drop j = d :: (proj (.sym x) B).drop (j + 1) := by
    have hj : j < (proj (.sym x) B).length := by
      rcases Nat.lt_or_ge j (proj (.sym x) B).length with h | h
      · exact h
      · rw [List.getElem?_eq_none h] at hd; cases hd
    rw [List.drop_eq_getElem_cons hj]
    rw [List.getElem?_eq_getElem hj] at hd
    cases hd; rfl
  rw [getExpandedBinding_eq _ _ c hc]
  have : ¬ (c.getD 0 > B.length) := by omega
  simp only [this, if_false]
  rcases findKey_spec (.sym x) (B.drop (c.getD 0)) 0 with ⟨_, h2⟩ | ⟨i, v, h1, h2, h3⟩
  · rw [hpr, hdrop] at h2; cases h2
  · rw [hpr, hdrop] at h3
    injection h3 with hv htl
    subst hv
    simp only [Nat.zero_add] at h1
    rw [h1]
    refine ⟨c.getD 0 + i + 1, rfl, ?_⟩
    simp only [List.length_drop] at h2
    refine ⟨?_, ?_⟩
    · show c.getD 0 + i + 1 ≤ B.length
      omega
    · show proj (.sym x) (B.drop (c.getD 0 + i + 1)) = _
      rw [htl, List.drop_drop]
      congr 2

theorem getExpandedBinding_miss (B : Bindings) (iters : List (Datum × Option Nat)) (x : Text)
    (c : Option Nat) (j : Nat)
    (hc : findIter (.sym x) iters = some c) (hat : CurAt B x c j)
    (hd : (proj (.sym x) B).length ≤ j) :
    PEnv.getExpandedBinding ⟨B, iters⟩ (.sym x) = .ok (none, ⟨B, setIter (.sym x) none iters⟩) := by
  obtain ⟨hle, hpr⟩ := hat
  have hdrop : (proj (.sym x) B).drop j = [] := List.drop_eq_nil_of_le hd
  rw [getExpandedBinding_eq _ _ c hc]
  have : ¬ (c.getD 0 > B.length) := by omega
  simp only [this, if_false]
  rcases findKey_spec (.sym x) (B.drop (c.getD 0)) 0 with ⟨h1, _⟩ | ⟨i, v, _, _, h3⟩
  · rw [h1]
  · rw [hpr, hdrop] at h3; cases h3

structure SameKeys (env env' : PEnv) : Prop where
  b : env'.bindings = env.bindings
  k : env'.iters.map Prod.fst = env.iters.map Prod.fst

theorem SameKeys.refl (env : PEnv) : SameKeys env env := ⟨rfl, rfl⟩
theorem SameKeys.trans {a b c : PEnv} (h1 : SameKeys a b) (h2 : SameKeys b c) : SameKeys a c :=
  ⟨h2.b.trans h1.b, h2.k.trans h1.k⟩

theorem getExpandedBinding_sameKeys (env env' : PEnv) (sym : Datum) (o : Option Datum)
    (h : env.getExpandedBinding sym = .ok (o, env')) : SameKeys env env' := by
  cases hfi : findIter sym env.iters with
  | none => rw [getExpandedBinding_absent _ _ hfi] at h; cases h; exact SameKeys.refl _
  | some c =>
    rw [getExpandedBinding_eq _ _ c hfi] at h
    split at h
    · cases h
    · split at h <;> cases h <;> exact ⟨rfl, setIter_keys _ _ _⟩

theorem getBinding_sameKeys (p : Pattern) (env env' : PEnv) (sym : Datum) (o : Option Datum)
    (h : env.getBinding p sym = .ok (o, env')) : SameKeys env env' := by
  rcases getBinding_cases h with rfl | ⟨_, h⟩
  · exact SameKeys.refl _
  · exact getExpandedBinding_sameKeys _ _ _ _ h

theorem resetIters_sameKeys (env : PEnv) : SameKeys env env.resetIters :=
  ⟨rfl, by simp [PEnv.resetIters, Function.comp_def]⟩

theorem expand_sameKeys (ell : Datum) (p : Pattern) : ∀ f : Nat,
    (∀ T env o env', expand ell p f T env = .ok (o, env') → SameKeys env env') ∧
    (∀ cur rest v env o env', expandLoop ell p f cur rest v env = .ok (o, env') → SameKeys env env') := by
  intro f
  have keeps := fun env0 => expand_keeps ell p (I := SameKeys env0)
    (fun _ _ _ _ hI h => hI.trans (getBinding_sameKeys _ _ _ _ _ h))
    (fun _ hI => hI.trans (resetIters_sameKeys _)) f
  exact ⟨fun T env o env' h => (keeps env).1 T env o env' (.refl env) h,
         fun cur rest v env o env' h => (keeps env).2 cur rest v env o env' (.refl env) h⟩

end Marwood.Transform
