import Marwood.Spec.StoreTree
import Marwood.Lemmas.Store
/-!
# `equal?` is structural equality of the abstract tree views (C14): what the induction rests on

`View s v t` (`Spec/StoreTree.lean`) unfolds a value into a tree with no addresses. The view is unique (`View.det`),
`Tree.equiv` (R7RS `equal?` on trees) is equality, on two scalar cells `eqvCells` is `Atom.eqv`, and when `eqv` on two viewed
values says yes the views are the same tree (`eqv_view`).
-/
namespace Marwood.Store
open Outcome

theorem Atom.eqv_iff (a b : Atom) : Atom.eqv a b = true ↔ a = b := by
  cases a <;> cases b <;> simp [Atom.eqv]

theorem Atom.eqv_refl (a : Atom) : Atom.eqv a a = true := (Atom.eqv_iff a a).mpr rfl

theorem Atom.toCell_inj {a b : Atom} (h : a.toCell = b.toCell) : a = b := by
  cases a <;> cases b <;> simp only [Atom.toCell] at h <;> first | rfl | (cases h; rfl) | cases h

theorem Atom.toCell_isPtr (a : Atom) : a.toCell.isPtr = false := by cases a <;> rfl

/-- the leaf relation is the model's `eqv?` -/
theorem eqvCells_atom (s : Store) (a b : Atom) : eqvCells s a.toCell b.toCell = .ok (Atom.eqv a b) := by
  cases a <;> cases b <;> rfl

theorem eqv_cells (s : Store) {cl cr : VCell} (hl : cl.isPtr = false) (hr : cr.isPtr = false) :
    eqv s cl cr = eqvCells s cl cr := by
  simp only [eqv, hl, Bool.false_and, Bool.false_eq_true, if_false, derefArg, get_imm hl, get_imm hr,
    bind_ok]

theorem strGet_of {s : Store} {i : Nat} {t : Text} (h : s.strs[i]? = some t) : s.strGet i = .ok t := by
  simp [Store.strGet, h]

theorem vecGet_of {s : Store} {i : Nat} {xs : List VCell} (h : s.vecs[i]? = some xs) : s.vecGet i = .ok xs := by
  simp [Store.vecGet, h]

theorem View.deref {s : Store} {v : VCell} {t : Tree} (h : View s v t) :
    ∃ c, s.get v = .ok c ∧ c.isPtr = false ∧ View s c t := by
  cases h with
  | atom hg => exact ⟨_, hg, Atom.toCell_isPtr _, .atom (get_imm (Atom.toCell_isPtr _))⟩
  | str hg hs => exact ⟨_, hg, rfl, .str rfl hs⟩
  | pair hg ha hd => exact ⟨_, hg, rfl, .pair rfl ha hd⟩
  | vec hg hv hx => exact ⟨_, hg, rfl, .vec rfl hv hx⟩

theorem View.cell_cases {s : Store} {c : VCell} {t : Tree} (hc : c.isPtr = false) (h : View s c t) :
    (∃ a, c = a.toCell ∧ t = .leaf a) ∨
    (∃ id txt, c = .str id ∧ s.strs[id]? = some txt ∧ t = .str txt) ∨
    (∃ a d ta td, c = .pair a d ∧ View s (.ptr a) ta ∧ View s (.ptr d) td ∧ t = .pair ta td) ∨
    (∃ id xs ts, c = .vec id ∧ s.vecs[id]? = some xs ∧ ViewAll s xs ts ∧ t = .vec ts) := by
  have hg := get_imm (s := s) hc
  cases h with
  | atom h1 => rw [hg] at h1; cases h1; exact .inl ⟨_, rfl, rfl⟩
  | str h1 hs => rw [hg] at h1; cases h1; exact .inr (.inl ⟨_, _, rfl, hs, rfl⟩)
  | pair h1 ha hd => rw [hg] at h1; cases h1; exact .inr (.inr (.inl ⟨_, _, _, _, rfl, ha, hd, rfl⟩))
  | vec h1 hv hx => rw [hg] at h1; cases h1; exact .inr (.inr (.inr ⟨_, _, _, rfl, hv, hx, rfl⟩))

theorem ViewAll.length {s : Store} : ∀ {xs : List VCell} {ts : List Tree}, ViewAll s xs ts → xs.length = ts.length
  | _, _, .nil => rfl
  | _, _, .cons _ h => by simp [ViewAll.length h]

mutual
theorem View.det {s : Store} : ∀ (t : Tree) {v : VCell} {t' : Tree}, View s v t → View s v t' → t = t'
  | .leaf a, _, _, h, h' => by
    cases h with
    | atom hg =>
      cases h' with
      | atom hg' => rw [hg] at hg'; rw [Atom.toCell_inj (Outcome.ok.inj hg')]
      | str hg' _ => rw [hg] at hg'; cases a <;> cases hg'
      | pair hg' _ _ => rw [hg] at hg'; cases a <;> cases hg'
      | vec hg' _ _ => rw [hg] at hg'; cases a <;> cases hg'
  | .str txt, _, _, h, h' => by
    cases h with
    | str hg hs =>
      cases h' with
      | @atom _ b hg' => rw [hg] at hg'; cases b <;> cases hg'
      | str hg' hs' => rw [hg] at hg'; cases hg'; rw [hs] at hs'; cases hs'; rfl
      | pair hg' _ _ => rw [hg] at hg'; cases hg'
      | vec hg' _ _ => rw [hg] at hg'; cases hg'
  | .pair ta td, _, _, h, h' => by
    cases h with
    | pair hg ha hd =>
      cases h' with
      | @atom _ b hg' => rw [hg] at hg'; cases b <;> cases hg'
      | str hg' _ => rw [hg] at hg'; cases hg'
      | pair hg' ha' hd' =>
        rw [hg] at hg'; cases hg'
        rw [View.det ta ha ha', View.det td hd hd']
      | vec hg' _ _ => rw [hg] at hg'; cases hg'
  | .vec ts, _, _, h, h' => by
    cases h with
    | vec hg hv hx =>
      cases h' with
      | @atom _ b hg' => rw [hg] at hg'; cases b <;> cases hg'
      | str hg' _ => rw [hg] at hg'; cases hg'
      | pair hg' _ _ => rw [hg] at hg'; cases hg'
      | vec hg' hv' hx' =>
        rw [hg] at hg'; cases hg'
        rw [hv] at hv'; cases hv'
        rw [ViewAll.det ts hx hx']
theorem ViewAll.det {s : Store} : ∀ (ts : List Tree) {xs : List VCell} {ts' : List Tree},
    ViewAll s xs ts → ViewAll s xs ts' → ts = ts'
  | [], _, _, h, h' => by
    cases h; cases h'; rfl
  | t :: ts, _, _, h, h' => by
    cases h with
    | cons h1 h2 =>
      cases h' with
      | cons h1' h2' => rw [View.det t h1 h1', ViewAll.det ts h2 h2']
end

mutual
theorem Tree.equiv_iff : ∀ (t u : Tree), Tree.equiv t u = true ↔ t = u
  | .leaf a, u => by
    cases u <;> simp [Tree.equiv, Atom.eqv_iff]
  | .str a, u => by
    cases u <;> simp [Tree.equiv]
  | .pair a d, u => by
    cases u with
    | pair a' d' => simp [Tree.equiv, Tree.equiv_iff a a', Tree.equiv_iff d d']
    | _ => simp [Tree.equiv]
  | .vec ts, u => by
    cases u with
    | vec us => simp [Tree.equiv, Tree.equivAll_iff ts us]
    | _ => simp [Tree.equiv]
theorem Tree.equivAll_iff : ∀ (ts us : List Tree), Tree.equivAll ts us = true ↔ ts = us
  | [], us => by cases us <;> simp [Tree.equivAll]
  | t :: ts, us => by
    cases us with
    | nil => simp [Tree.equivAll]
    | cons u us => simp [Tree.equivAll, Tree.equiv_iff t u, Tree.equivAll_iff ts us]
end

theorem Tree.equiv_refl (t : Tree) : Tree.equiv t t = true := (Tree.equiv_iff t t).mpr rfl

instance : DecidableEq Tree := fun t u => decidable_of_iff _ (Tree.equiv_iff t u)

theorem Tree.equiv_eq_decide (t u : Tree) : Tree.equiv t u = decide (t = u) := by
  cases h : Tree.equiv t u
  · have : ¬ t = u := fun e => by rw [(Tree.equiv_iff t u).mpr e] at h; cases h
    simp [this]
  · simp [(Tree.equiv_iff t u).mp h]

theorem Tree.equivAll_length {ts us : List Tree} (h : ts.length ≠ us.length) : Tree.equivAll ts us = false := by
  cases hb : Tree.equivAll ts us
  · rfl
  · exact absurd (congrArg List.length ((Tree.equivAll_iff ts us).mp hb)) h

theorem Tree.size_pos : ∀ t : Tree, 0 < t.size
  | .leaf _ => by simp [Tree.size]
  | .str _ => by simp [Tree.size]
  | .pair _ _ => by simp [Tree.size]
  | .vec _ => by simp [Tree.size]

theorem eqvCells_view {s : Store} {cl cr : VCell} {tl tr : Tree} (hcl : cl.isPtr = false) (hcr : cr.isPtr = false)
    (hl : View s cl tl) (hr : View s cr tr) : ∃ b, eqvCells s cl cr = .ok b ∧ (b = true → tl = tr) := by
  rcases hl.cell_cases hcl with ⟨a, rfl, rfl⟩ | ⟨i, ta, rfl, hsa, rfl⟩ | ⟨a, d, ta, td, rfl, ha, hd, rfl⟩ |
      ⟨i, xs, ts, rfl, hv, hx, rfl⟩
  · rcases hr.cell_cases hcr with ⟨b, rfl, rfl⟩ | ⟨j, tb, rfl, hsb, rfl⟩ | ⟨a', d', ta', td', rfl, ha', hd', rfl⟩ |
        ⟨j, ys, us, rfl, hv', hx', rfl⟩
    · exact ⟨_, eqvCells_atom s a b, fun h => by rw [(Atom.eqv_iff a b).mp h]⟩
    · exact ⟨false, by cases a <;> rfl, fun h => by cases h⟩
    · exact ⟨false, by cases a <;> rfl, fun h => by cases h⟩
    · exact ⟨false, by cases a <;> rfl, fun h => by cases h⟩
  · rcases hr.cell_cases hcr with ⟨b, rfl, rfl⟩ | ⟨j, tb, rfl, hsb, rfl⟩ | ⟨a', d', ta', td', rfl, ha', hd', rfl⟩ |
        ⟨j, ys, us, rfl, hv', hx', rfl⟩
    · exact ⟨false, by cases b <;> rfl, fun h => by cases h⟩
    · refine ⟨ta == tb, by simp only [eqvCells, strGet_of hsa, strGet_of hsb, bind_ok], fun h => ?_⟩
      rw [eq_of_beq h]
    · exact ⟨false, rfl, fun h => by cases h⟩
    · exact ⟨false, rfl, fun h => by cases h⟩
  · rcases hr.cell_cases hcr with ⟨b, rfl, rfl⟩ | ⟨j, tb, rfl, hsb, rfl⟩ | ⟨a', d', ta', td', rfl, ha', hd', rfl⟩ |
        ⟨j, ys, us, rfl, hv', hx', rfl⟩
    · exact ⟨false, by cases b <;> rfl, fun h => by cases h⟩
    · exact ⟨false, rfl, fun h => by cases h⟩
    · refine ⟨a == a' && d == d', rfl, fun h => ?_⟩
      simp only [Bool.and_eq_true, beq_iff_eq] at h
      obtain ⟨rfl, rfl⟩ := h
      rw [View.det ta ha ha', View.det td hd hd']
    · exact ⟨false, rfl, fun h => by cases h⟩
  · rcases hr.cell_cases hcr with ⟨b, rfl, rfl⟩ | ⟨j, tb, rfl, hsb, rfl⟩ | ⟨a', d', ta', td', rfl, ha', hd', rfl⟩ |
        ⟨j, ys, us, rfl, hv', hx', rfl⟩
    · exact ⟨false, by cases b <;> rfl, fun h => by cases h⟩
    · exact ⟨false, rfl, fun h => by cases h⟩
    · exact ⟨false, rfl, fun h => by cases h⟩
    · exact ⟨false, rfl, fun h => by cases h⟩

theorem eqv_view {s : Store} {l r : VCell} {tl tr : Tree} (hl : View s l tl) (hr : View s r tr) :
    ∃ b, eqv s l r = .ok b ∧ (b = true → tl = tr) := by
  obtain ⟨cl, hgl, hcl, hl'⟩ := hl.deref
  obtain ⟨cr, hgr, hcr, hr'⟩ := hr.deref
  unfold eqv
  by_cases h : (l.isPtr && r.isPtr && l == r) = true
  · rw [if_pos h]
    simp only [Bool.and_eq_true, beq_iff_eq] at h
    obtain ⟨_, rfl⟩ := h
    exact ⟨true, rfl, fun _ => View.det tl hl hr⟩
  · rw [if_neg h]
    simp only [derefArg, hgl, hgr, bind_ok]
    exact eqvCells_view hcl hcr hl' hr'

end Marwood.Store
