import Marwood.Lemmas.CompileCorrect
/-!
# T01.3: `quote` of compound data, over the generic heap

`compile_quote` puts the constant on the heap at compile time (`put_cell`) and emits `MOV-IMMEDIATE <pointer> %acc`;
`Spec.Eval.quoteVal` allocates the pairs and vectors of the datum in the store at every evaluation. One heap object
thus represents every copy the specification makes: the relation is many-to-one, sound as long as nothing mutates a
constant (R7RS: "it is an error"). `Machine.lean` makes vector payloads opaque, so the observation `vecElems` is a
parameter, and `QuoteLaws` asks of `D.VR` the two closure rules (pair, vector) and monotonicity in the store;
`closedVR_quoteLaws` shows them satisfiable. The file belongs to no stage (namespace `CompileCorrect`):
`C01.quote_compound_partial` is `run_quote`, and `Loads2`, `Ext2` of `CompileCorrect2Defs.lean` are built on `DatumAt`.
-/
namespace Marwood.Lemmas.CompileCorrect
open Marwood Marwood.Vm
open Marwood.Spec.Eval (Val Prim Cell evalN evalStep quoteVal quoteElems)

variable {H : Type} {ops : HeapOps H}

def StorePrefix (S S' : Array Cell) : Prop := ∀ (l : Nat) (c : Cell), S[l]? = some c → S'[l]? = some c

theorem StorePrefix.refl (S : Array Cell) : StorePrefix S S := fun _ _ h => h
theorem StorePrefix.trans {a b c : Array Cell} (h1 : StorePrefix a b) (h2 : StorePrefix b c) : StorePrefix a c :=
  fun l x h => h2 l x (h1 l x h)
theorem StorePrefix.push (S : Array Cell) (c : Cell) : StorePrefix S (S.push c) := by
  intro l x h
  have hlt : l < S.size := (Array.getElem?_eq_some_iff.mp h).1
  simp [Array.getElem?_push, Nat.ne_of_lt hlt, h]

structure QuoteLaws (D : RepData ops) (vecElems : H → VCell → Option (List VCell)) : Prop where
  vr_pair : ∀ h S v (l : Nat) a d pa pd, S[l]? = some (.pair a d) → ops.deref h v = .pair pa pd →
    D.VR h S (.ptr pa) a → D.VR h S (.ptr pd) d → D.VR h S v (.pair l)
  vr_vec : ∀ h S v (l : Nat) xs ps, S[l]? = some (.vec xs) → vecElems h v = some ps → All2 (D.VR h S) ps xs →
    D.VR h S v (.vec l)
  vr_store : ∀ h S S' v w, StorePrefix S S' → D.VR h S v w → D.VR h S' v w
  srx_store : ∀ h S S', StorePrefix S S' → D.SRx h S → D.SRx h S'

mutual
/-- `d` as `put_cell` lays it out, reachable from `v`; atoms are represented relative to the store `S` -/
inductive DatumAt (D : RepData ops) (vecElems : H → VCell → Option (List VCell)) (h : H) (S : Array Cell) :
    VCell → Datum → Prop
  | atom {v d w} : atomVal d = some w → D.VR h S v w → DatumAt D vecElems h S v d
  | pair {v a d pa pd} : ops.deref h v = .pair pa pd → DatumAt D vecElems h S (.ptr pa) a →
      DatumAt D vecElems h S (.ptr pd) d → DatumAt D vecElems h S v (.pair a d)
  | vec {v e ps} : vecElems h v = some ps → DatumsAt D vecElems h S ps e → DatumAt D vecElems h S v (.vec e)
/-- the elements of a vector datum (a pair/nil spine) -/
inductive DatumsAt (D : RepData ops) (vecElems : H → VCell → Option (List VCell)) (h : H) (S : Array Cell) :
    List VCell → Datum → Prop
  | nil {t} : (∀ a d, t ≠ .pair a d) → DatumsAt D vecElems h S [] t
  | cons {p ps a d} : DatumAt D vecElems h S p a → DatumsAt D vecElems h S ps d →
      DatumsAt D vecElems h S (p :: ps) (.pair a d)
end

mutual
theorem DatumAt.transport {D : RepData ops} {vecElems : H → VCell → Option (List VCell)} {h h' : H}
    {S S' : Array Cell} (fv : ∀ v w, D.VR h S v w → D.VR h' S' v w)
    (fd : ∀ v a d, ops.deref h v = .pair a d → ops.deref h' v = .pair a d)
    (fe : ∀ v ps, vecElems h v = some ps → vecElems h' v = some ps) :
    ∀ {v d}, DatumAt D vecElems h S v d → DatumAt D vecElems h' S' v d
  | _, _, .atom ha hv => .atom ha (fv _ _ hv)
  | _, _, .pair hd h1 h2 => .pair (fd _ _ _ hd) (DatumAt.transport fv fd fe h1) (DatumAt.transport fv fd fe h2)
  | _, _, .vec he hs => .vec (fe _ _ he) (DatumsAt.transport fv fd fe hs)
theorem DatumsAt.transport {D : RepData ops} {vecElems : H → VCell → Option (List VCell)} {h h' : H}
    {S S' : Array Cell} (fv : ∀ v w, D.VR h S v w → D.VR h' S' v w)
    (fd : ∀ v a d, ops.deref h v = .pair a d → ops.deref h' v = .pair a d)
    (fe : ∀ v ps, vecElems h v = some ps → vecElems h' v = some ps) :
    ∀ {ps d}, DatumsAt D vecElems h S ps d → DatumsAt D vecElems h' S' ps d
  | _, _, .nil hn => .nil hn
  | _, _, .cons h1 h2 => .cons (DatumAt.transport fv fd fe h1) (DatumsAt.transport fv fd fe h2)
end

structure QuoteEffect (σ σ' : SSt) : Prop where
  store : StorePrefix σ.store σ'.store
  globals : σ'.globals = σ.globals
  out : σ'.out = σ.out

theorem QuoteEffect.refl (σ : SSt) : QuoteEffect σ σ := ⟨StorePrefix.refl _, rfl, rfl⟩
theorem QuoteEffect.trans {a b c : SSt} (h1 : QuoteEffect a b) (h2 : QuoteEffect b c) : QuoteEffect a c :=
  ⟨h1.store.trans h2.store, h2.globals.trans h1.globals, h2.out.trans h1.out⟩

open Marwood.Spec.Eval in
theorem allocCell_ok_inv {c : Cell} {σ σ' : SSt} {l : Nat} (h : allocCell c σ = .ok l σ') :
    l = σ.store.size ∧ σ'.store = σ.store.push c ∧ QuoteEffect σ σ' := by
  unfold allocCell at h
  injection h with h1 h2
  subst h1 h2
  exact ⟨rfl, rfl, ⟨StorePrefix.push _ _, rfl, rfl⟩⟩

theorem All2.mono' {α β : Type} {R R' : α → β → Prop} {l : List α} {l' : List β}
    (f : ∀ a b, R a b → R' a b) (h : All2 R l l') : All2 R' l l' := All2.mono f h

variable {D : RepData ops} {vecElems : H → VCell → Option (List VCell)}

/-- The layout is stated in a fixed store `S0` below the running one: `quoteVal` copies the second component of a pair
    in the store the copy of the first has extended, while the constant was laid out once; `Q.vr_store` moves each
    part up. -/
theorem quote_rep_both (Q : QuoteLaws D vecElems) (h : H) (S0 : Array Cell) (d : Datum) :
    (∀ v (σ : SSt) w σ', StorePrefix S0 σ.store → DatumAt D vecElems h S0 v d → quoteVal d σ = .ok w σ' →
      D.VR h σ'.store v w ∧ QuoteEffect σ σ') ∧
    (∀ ps (σ : SSt) xs σ', StorePrefix S0 σ.store → DatumsAt D vecElems h S0 ps d → quoteElems d σ = .ok xs σ' →
      All2 (D.VR h σ'.store) ps xs ∧ QuoteEffect σ σ') := by
  have atomCase : ∀ d, (∀ a b, d ≠ .pair a b) → (∀ e, d ≠ .vec e) →
      ∀ v (σ : SSt) w σ', StorePrefix S0 σ.store → DatumAt D vecElems h S0 v d → quoteVal d σ = .ok w σ' →
        D.VR h σ'.store v w ∧ QuoteEffect σ σ' := by
    intro d hnp hnv v σ w σ' hpre hd hq
    cases hd with
    | atom ha hv =>
      obtain ⟨ha', rfl⟩ := quoteVal_atom (.inl (by rw [ha]; rfl)) hq
      rw [ha] at ha'; cases ha'
      exact ⟨Q.vr_store _ _ _ _ _ hpre hv, QuoteEffect.refl _⟩
    | pair _ _ _ => exact absurd rfl (hnp _ _)
    | vec _ _ => exact absurd rfl (hnv _)
  have elemsNil : ∀ d, (∀ a b, d ≠ .pair a b) → ∀ ps (σ : SSt) xs σ', StorePrefix S0 σ.store →
      DatumsAt D vecElems h S0 ps d →
      quoteElems d σ = .ok xs σ' → All2 (D.VR h σ'.store) ps xs ∧ QuoteEffect σ σ' := by
    intro d hnp ps σ xs σ' _ hd hq
    cases hd with
    | nil _ =>
      have : quoteElems d σ = (pure [] : Spec.Eval.M _) σ := by
        cases d <;> first | rfl | exact absurd rfl (hnp _ _)
      rw [this] at hq
      obtain ⟨rfl, rfl⟩ := pure_ok_inv hq
      exact ⟨.nil, QuoteEffect.refl _⟩
    | cons _ _ => exact absurd rfl (hnp _ _)
  induction d with
  | pair a d iha ihd =>
    refine ⟨?_, ?_⟩
    · intro v σ w σ' hpre hd hq
      cases hd with
      | atom ha _ => simp [atomVal] at ha
      | pair hder h1 h2 =>
        unfold quoteVal at hq
        obtain ⟨a', σ1, q1, hq⟩ := bind_ok_inv hq
        obtain ⟨d', σ2, q2, hq⟩ := bind_ok_inv hq
        change (Spec.Eval.allocCell (.pair a' d') >>= fun l => pure (Val.pair l)) σ2 = _ at hq
        obtain ⟨l, σ3, q3, hq⟩ := bind_ok_inv hq
        obtain ⟨rfl, rfl⟩ := pure_ok_inv hq
        obtain ⟨r1, e1⟩ := iha.1 _ _ _ _ hpre h1 q1
        obtain ⟨r2, e2⟩ := ihd.1 _ _ _ _ (hpre.trans e1.store) h2 q2
        obtain ⟨rfl, hst, e3⟩ := allocCell_ok_inv q3
        refine ⟨?_, (e1.trans e2).trans e3⟩
        refine Q.vr_pair h _ v _ a' d' _ _ (by rw [hst]; simp) hder ?_ ?_
        · exact Q.vr_store _ _ _ _ _ (e2.store.trans e3.store) r1
        · exact Q.vr_store _ _ _ _ _ e3.store r2
    · intro ps σ xs σ' hpre hd hq
      cases hd with
      | nil hn => exact absurd rfl (hn _ _)
      | cons h1 h2 =>
        unfold quoteElems at hq
        obtain ⟨a', σ1, q1, hq⟩ := bind_ok_inv hq
        obtain ⟨d', σ2, q2, hq⟩ := bind_ok_inv hq
        obtain ⟨rfl, rfl⟩ := pure_ok_inv hq
        obtain ⟨r1, e1⟩ := iha.1 _ _ _ _ hpre h1 q1
        obtain ⟨r2, e2⟩ := ihd.2 _ _ _ _ (hpre.trans e1.store) h2 q2
        exact ⟨.cons (Q.vr_store _ _ _ _ _ e2.store r1) r2, e1.trans e2⟩
  | vec e ihe =>
    refine ⟨?_, elemsNil _ (by intro a b x; cases x)⟩
    intro v σ w σ' hpre hd hq
    cases hd with
    | atom ha _ => simp [atomVal] at ha
    | vec hve hes =>
      unfold quoteVal at hq
      obtain ⟨xs, σ1, q1, hq⟩ := bind_ok_inv hq
      change (Spec.Eval.allocCell (.vec xs) >>= fun l => pure (Val.vec l)) σ1 = _ at hq
      obtain ⟨l, σ2, q2, hq⟩ := bind_ok_inv hq
      obtain ⟨rfl, rfl⟩ := pure_ok_inv hq
      obtain ⟨r1, e1⟩ := ihe.2 _ _ _ _ hpre hes q1
      obtain ⟨rfl, hst, e2⟩ := allocCell_ok_inv q2
      refine ⟨Q.vr_vec h _ v _ xs _ (by rw [hst]; simp) hve ?_, e1.trans e2⟩
      exact All2.mono (fun a b x => Q.vr_store _ _ _ _ _ e2.store x) r1
  | _ => exact ⟨atomCase _ (by intro a b x; cases x) (by intro e x; cases x), elemsNil _ (by intro a b x; cases x)⟩

/-- **Quoted constants.** If the datum `d` sits in the heap at `v`, then `v` represents the value
    `quoteVal d` returns, in the store it leaves; that store extends the old one, nothing else changed. -/
theorem quote_rep (Q : QuoteLaws D vecElems) {h : H} {d : Datum} {v : VCell} {σ σ' : SSt} {w : Val}
    (hd : DatumAt D vecElems h σ.store v d) (hq : quoteVal d σ = .ok w σ') :
    D.VR h σ'.store v w ∧ QuoteEffect σ σ' :=
  (quote_rep_both Q h σ.store d).1 v σ w σ' (StorePrefix.refl _) hd hq

theorem SR.quoteEffect (Q : QuoteLaws D vecElems) {h : H} {σ σ' : SSt} (hsr : SR D h σ) (e : QuoteEffect σ σ') :
    SR D h σ' :=
  ⟨fun x w hn hl => Q.vr_store _ _ _ _ _ e.store (hsr.bound x w hn (e.globals ▸ hl)),
   fun x hn hl => hsr.unbound x hn (e.globals ▸ hl), Q.srx_store _ _ _ e.store hsr.extra⟩

/-- `(quote d)` or a self-evaluating vector constant; the operand `v` is where `put_cell` laid `d` out -/
theorem run_quote (Q : QuoteLaws D vecElems) {s : MSt H} {σ σ' : SSt} {w : Val} {d : Datum} {v : VCell}
    (hl : ops.isLambda s.heap s.ipL = true)
    (h0 : ops.fetch s.heap s.ipL s.ipO = some (.opcode .movImm))
    (h1 : ops.fetch s.heap s.ipL (s.ipO + 1) = some v) (hv : ∀ o, v ≠ .opcode o)
    (h2 : ops.fetch s.heap s.ipL (s.ipO + 2) = some .acc)
    (hd : DatumAt D vecElems s.heap σ.store v d) (hq : quoteVal d σ = .ok w σ')
    (hsr : SR D s.heap σ) (hw : SWF s.stack) :
    ∃ s', ExprRun D s 3 σ σ' w s' := by
  obtain ⟨hvr, eff⟩ := quote_rep Q hd hq
  have hs := step_movImm_acc hl h0 h1 hv h2
  exact ⟨_, ⟨Steps.one hs, rfl, rfl, rfl, rfl, LiveEq.refl _, hw, hvr, SR.quoteEffect Q hsr eff,
    ⟨fun a b x => Q.vr_store _ _ _ _ _ eff.store x, fun x => x, fun _ _ => rfl⟩⟩⟩

theorem run_quote_form (Q : QuoteLaws D vecElems) {s : MSt H} {σ σ' : SSt} {w : Val} {d rest : Datum} {v : VCell}
    {r : Spec.Eval.Rec} {ρ : Spec.Eval.Env}
    (hl : ops.isLambda s.heap s.ipL = true)
    (h0 : ops.fetch s.heap s.ipL s.ipO = some (.opcode .movImm))
    (h1 : ops.fetch s.heap s.ipL (s.ipO + 1) = some v) (hv : ∀ o, v ≠ .opcode o)
    (h2 : ops.fetch s.heap s.ipL (s.ipO + 2) = some .acc)
    (hd : DatumAt D vecElems s.heap σ.store v d)
    (hq : evalStep r (.pair (.sym Spec.Eval.k_quote) (.pair d rest)) ρ σ = .ok w σ')
    (hsr : SR D s.heap σ) (hw : SWF s.stack) :
    ∃ s', ExprRun D s 3 σ σ' w s' := by
  rw [evalStep_quote] at hq
  exact run_quote Q hl h0 h1 hv h2 hd hq hsr hw

inductive ClosedVR (ops : HeapOps H) (vecElems : H → VCell → Option (List VCell))
    (base : H → VCell → Val → Prop) (h : H) (S : Array Cell) : VCell → Val → Prop
  | base {v w} : base h v w → ClosedVR ops vecElems base h S v w
  | pair {v l a d pa pd} : S[l]? = some (.pair a d) → ops.deref h v = .pair pa pd →
      ClosedVR ops vecElems base h S (.ptr pa) a → ClosedVR ops vecElems base h S (.ptr pd) d →
      ClosedVR ops vecElems base h S v (.pair l)
  | vec {v l xs ps} : S[l]? = some (.vec xs) → vecElems h v = some ps →
      All2 (ClosedVR ops vecElems base h S) ps xs → ClosedVR ops vecElems base h S v (.vec l)

mutual
theorem ClosedVR.store {vecElems : H → VCell → Option (List VCell)} {base : H → VCell → Val → Prop} {h : H}
    {S S' : Array Cell} (hp : StorePrefix S S') :
    ∀ {v w}, ClosedVR ops vecElems base h S v w → ClosedVR ops vecElems base h S' v w
  | _, _, .base hb => .base hb
  | _, _, .pair hs hd h1 h2 => .pair (hp _ _ hs) hd (ClosedVR.store hp h1) (ClosedVR.store hp h2)
  | _, _, .vec hs hv hall => .vec (hp _ _ hs) hv (ClosedVR.storeAll hp hall)
theorem ClosedVR.storeAll {vecElems : H → VCell → Option (List VCell)} {base : H → VCell → Val → Prop} {h : H}
    {S S' : Array Cell} (hp : StorePrefix S S') :
    ∀ {ps xs}, All2 (ClosedVR ops vecElems base h S) ps xs → All2 (ClosedVR ops vecElems base h S') ps xs
  | _, _, .nil => .nil
  | _, _, .cons a t => .cons (ClosedVR.store hp a) (ClosedVR.storeAll hp t)
end

mutual
theorem ClosedVR.transport {vecElems : H → VCell → Option (List VCell)} {base : H → VCell → Val → Prop} {h h' : H}
    {S S' : Array Cell} (fb : ∀ v w, base h v w → base h' v w)
    (fd : ∀ v a d, ops.deref h v = .pair a d → ops.deref h' v = .pair a d)
    (fe : ∀ v ps, vecElems h v = some ps → vecElems h' v = some ps)
    (keep : ∀ (l : Nat) (c : Cell), S[l]? = some c → (∀ v, c ≠ .var v) → S'[l]? = some c) :
    ∀ {v w}, ClosedVR ops vecElems base h S v w → ClosedVR ops vecElems base h' S' v w
  | _, _, .base hb => .base (fb _ _ hb)
  | _, _, .pair hs hd h1 h2 =>
    .pair (keep _ _ hs (by intro v e; cases e)) (fd _ _ _ hd) (ClosedVR.transport fb fd fe keep h1)
      (ClosedVR.transport fb fd fe keep h2)
  | _, _, .vec hs hv hall =>
    .vec (keep _ _ hs (by intro v e; cases e)) (fe _ _ hv) (ClosedVR.transportAll fb fd fe keep hall)
theorem ClosedVR.transportAll {vecElems : H → VCell → Option (List VCell)} {base : H → VCell → Val → Prop}
    {h h' : H} {S S' : Array Cell} (fb : ∀ v w, base h v w → base h' v w)
    (fd : ∀ v a d, ops.deref h v = .pair a d → ops.deref h' v = .pair a d)
    (fe : ∀ v ps, vecElems h v = some ps → vecElems h' v = some ps)
    (keep : ∀ (l : Nat) (c : Cell), S[l]? = some c → (∀ v, c ≠ .var v) → S'[l]? = some c) :
    ∀ {ps xs}, All2 (ClosedVR ops vecElems base h S) ps xs → All2 (ClosedVR ops vecElems base h' S') ps xs
  | _, _, .nil => .nil
  | _, _, .cons a t => .cons (ClosedVR.transport fb fd fe keep a) (ClosedVR.transportAll fb fd fe keep t)
end

/-- `QuoteLaws` hold for the closure of any store-independent base relation (with any heap invariant that
    ignores the store) -/
theorem closedVR_quoteLaws (vecElems : H → VCell → Option (List VCell)) (base : H → VCell → Val → Prop)
    (named : Text → Prop) (slot : Text → Nat) (inv : H → Prop) :
    QuoteLaws (ops := ops) ⟨named, slot, ClosedVR ops vecElems base, fun h _ => inv h⟩ vecElems where
  vr_pair := fun _ _ _ _ _ _ _ _ hs hd h1 h2 => .pair hs hd h1 h2
  vr_vec := fun _ _ _ _ _ _ hs hv hall => .vec hs hv hall
  vr_store := fun _ _ _ _ _ hp x => ClosedVR.store hp x
  srx_store := fun _ _ _ _ x => x

end Marwood.Lemmas.CompileCorrect
