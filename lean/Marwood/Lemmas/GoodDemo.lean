import Marwood.Lemmas.GoodMain
import Marwood.Lemmas.CodeHeap
/-!
# `Safe` as an invariant: a concrete good initial state (non-vacuity)

The one-instruction program `HALT` on a well-formed four-cell heap (`hHalt`, `sHalt o`; the non-vacuity examples of
C03, C07 and C13 are about this state): `GoodI`, and the two hypotheses along the run (`SizeBounded`, `StackDiscAlong`)
hold for every parameter set `ext` with the utilisation-tested collector.
-/
namespace Marwood.Lemmas.Good.Demo
open Marwood Marwood.Vm Marwood.Vm.Concrete Marwood.Lemmas.Sim Marwood.Lemmas.Good
open Marwood.Heap (Heap GcState WFHeap RootsOk Roots vrefs vrefsList crefs)

theorem four_cases {i : Nat} (hi : i < 4) : i = 0 ∨ i = 1 ∨ i = 2 ∨ i = 3 := by omega


open Marwood.Lemmas.HeapWF in
def hHalt : CHeap :=
  { chunk := 4, cells := #[.lambda { bc := [.opcode .halt], args := [], envmap := [] }, .val .undefined, .val .undefined,
      .val .undefined]
    gc := #[.allocated, .free, .free, .free], free := [1, 2, 3], symtab := [], globSyms := [], globals := #[] }

def sHalt (o : Nat) : St CHeap :=
  { heap := hHalt, stack := { cells := [.undefined], sp := 0 }, acc := .undefined, ep := usizeMax, ipL := 0, ipO := o,
    bp := 0 }

def eHalt : Heap :=
  { chunk := 4, cells := #[.lambda [.opcode .halt] [] [], .atom .undefined, .atom .undefined, .atom .undefined]
    gc := #[.allocated, .free, .free, .free], free := [1, 2, 3], symtab := [] }

theorem toHeap_hHalt : toHeap hHalt = eHalt := by
  unfold toHeap hHalt; rw [List.map_toArray]; rfl

theorem haltLam_ok : LamOk { bc := [.opcode .halt], args := [], envmap := [] } := by
  refine ⟨?_, ?_, ?_⟩
  · intro p hp; cases hp
  · intro j hj; cases j <;> cases hj
  · intro j hj; cases j <;> cases hj

theorem hHalt_code : CodeHeap hHalt { bc := [.opcode .halt], args := [], envmap := [] } 3 where
  cells := rfl
  gc := rfl
  free := rfl
  symtab := rfl
  shape := ⟨by decide, by decide, 1, by decide, by decide⟩
  bound := by decide
  globals := fun _ hv => nomatch hv
  closed := rfl
  lamOk := haltLam_ok
  ver := by decide +kernel
  args := by decide

theorem hHalt_cell {i : Nat} {c : CCell} (hc : hHalt.cells[i]? = some c) :
    (i = 0 ∧ c = .lambda { bc := [.opcode .halt], args := [], envmap := [] }) ∨ c = .val .undefined :=
  hHalt_code.cell_cases hc

theorem hHalt_hg : HG hHalt := hHalt_code.hg

-- the offset `ip.1` is no root (only the code object `ip.0` is): one evaluation at `o = 0` serves every `o`
theorem sHalt_goodI (o : Nat) : GoodI (sHalt o) :=
  CodeHeap.goodI (s := sHalt o) hHalt_code (show ∀ y ∈ (rootsOf (sHalt 0)).refs true, _ from by decide +kernel) rfl

theorem sHalt_step0 (ext : ExtOps) (force : Bool) : (machine ext force).step (sHalt 0) = .halt (sHalt 1) := rfl
theorem sHalt_step1 (ext : ExtOps) (force : Bool) :
    (machine ext force).step (sHalt 1) = .fail (.err .invalidBytecode) (sHalt 1) := rfl
theorem sHalt_gc (ext : ExtOps) (o : Nat) : (machine ext false).gc (sHalt o) = sHalt o := by
  show cgc false (sHalt o) = sHalt o
  unfold cgc
  have : Heap.runGc true false (toHeap (sHalt o).heap) (rootsOf (sHalt o)) = .ok (.skipped eHalt) := by
    show Heap.runGc true false (toHeap hHalt) _ = _
    rw [toHeap_hHalt]; rfl
  rw [this]

theorem sHalt_fetch (o : Nat) {l : CLambda} {j : Nat} {v : VCell}
    (h : lambdaAt (sHalt o).heap (sHalt o).ipL = some l) (hv : l.bc[j]? = some v) : v = .opcode .halt := by
  cases (show some { bc := [.opcode .halt], args := [], envmap := [] } = some l from h)
  cases j <;> cases hv
  rfl

theorem sHalt_disc (o : Nat) (_ : o = 0 ∨ o = 1) : StackDisc (sHalt o) := by
  have nop : ∀ op, op ≠ .halt → ¬ opAt (sHalt o) op := by
    rintro op hne ⟨l, hl, hb⟩
    cases sHalt_fetch o hl hb
    exact hne rfl
  refine ⟨?_, ?_, ?_, ?_, ?_, ?_⟩
  · intro l off h1 h2; cases sHalt_fetch o h1 h2
  · rintro l h1 (h2 | h2) <;> cases sHalt_fetch o h1 h2
  · intro l off v h1 h2; cases sHalt_fetch o h1 h2
  · intro h; exact absurd h (nop _ (by decide))
  · rintro (h | h) <;> exact absurd h (nop _ (by decide))
  · rintro (h | h) <;> exact absurd h (nop _ (by decide))

theorem sHalt_reaches (ext : ExtOps) {s' : St CHeap} (hr : Reaches (machine ext false) (sHalt 0) s') :
    s' = sHalt 0 ∨ s' = sHalt 1 := by
  induction hr with
  | refl => exact .inl rfl
  | next _ e ih =>
    rcases ih with h | h <;> subst h
    · rw [sHalt_step0] at e; cases e
    · rw [sHalt_step1] at e; cases e
  | halt _ e ih =>
    rcases ih with h | h <;> subst h
    · rw [sHalt_step0] at e; cases e; exact .inr rfl
    · rw [sHalt_step1] at e; cases e
  | gc _ ih =>
    rcases ih with h | h <;> subst h
    · exact .inl (sHalt_gc ext 0)
    · exact .inr (sHalt_gc ext 1)

theorem sHalt_small (o : Nat) : Small (sHalt o).heap := by
  show 2 * 4 ≤ 2 ^ 63; decide

theorem sHalt_sizeBounded (ext : ExtOps) : SizeBounded (machine ext false) (sHalt 0) := by
  intro s' hr
  rcases sHalt_reaches ext hr with h | h <;> subst h <;> exact sHalt_small _

theorem sHalt_discAlong (ext : ExtOps) : StackDiscAlong (machine ext false) (sHalt 0) := by
  intro s' hr
  rcases sHalt_reaches ext hr with h | h <;> subst h
  · exact sHalt_disc 0 (.inl rfl)
  · exact sHalt_disc 1 (.inr rfl)

theorem sHalt_reaches1 (ext : ExtOps) {s' : St CHeap} (hr : Reaches (machine ext false) (sHalt 1) s') :
    s' = sHalt 1 := by
  induction hr with
  | refl => rfl
  | next _ e ih => subst ih; rw [sHalt_step1] at e; cases e
  | halt _ e ih => subst ih; rw [sHalt_step1] at e; cases e
  | gc _ ih => subst ih; exact sHalt_gc ext 1

theorem sHalt_sizeBounded1 (ext : ExtOps) : SizeBounded (machine ext false) (sHalt 1) := by
  intro s' hr; rw [sHalt_reaches1 ext hr]; exact sHalt_small 1

theorem sHalt_discAlong1 (ext : ExtOps) : StackDiscAlong (machine ext false) (sHalt 1) := by
  intro s' hr; rw [sHalt_reaches1 ext hr]; exact sHalt_disc 1 (.inr rfl)

end Marwood.Lemmas.Good.Demo
