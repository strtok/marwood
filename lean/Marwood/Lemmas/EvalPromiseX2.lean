import Marwood.Lemmas.EvalPromiseX
/-!
# T01.2 for `delay` / `force`: the statements about whole states

`delayX_eval` (zero forces), `forceX_done` (forcing a forced promise), `forceDelayX_ok` / `forceDelayX_err`
(`(force (delay e))` when `e` yields a value / fails): the lemmas of `EvalPromiseX.lean` on states `St`.
-/
namespace Marwood.Spec.Eval.Derived
open Marwood Marwood.Spec.Eval Marwood.Spec.Eval.Prelude

theorem fr_push {σ σ0 : Array Cell} {l : Nat} (c : Cell) (hs : l < σ.size) (h : σ[l]? = σ0[l]?) :
    (σ.push c)[l]? = σ0[l]? := by
  rw [get_push_lt c hs]; exact h

theorem fr_set {σ σ0 : Array Cell} {l i : Nat} (c : Cell) (hne : i ≠ l) (h : σ[l]? = σ0[l]?) :
    (σ.setIfInBounds i c)[l]? = σ0[l]? := by
  rw [Array.getElem?_setIfInBounds, if_neg hne]; exact h

/-- a cell below is untouched by pushes and by overwrites elsewhere -/
syntax "fr" : tactic
macro_rules
  | `(tactic| fr) => `(tactic| first
      | with_reducible rfl
      | (with_reducible refine fr_push _ ?_ ?_
         · (try simp only [Array.size_push, Array.size_setIfInBounds, push4_size, updStore_size]) <;> omega
         · fr)
      | (with_reducible refine fr_set _ ?_ ?_
         · omega
         · fr))

/-- **zero forces**: what the fully expanded `delay` builds -/
theorem delayX_eval (k : Nat) (e : Datum) (ρ : Env) (st : St) (hl : LibSt st) (hρ2 : ρ.lookup k_makePromise = none) :
    (evalN (k + 5)).eval (delayFull e) ρ st = .ok (.pair (st.store.size + 3))
      { st with store := pushAll st.store [.var (.bool false), .var (thunkX e ρ), .pair (.bool false) (thunkX e ρ), .pair (.pair (st.store.size + 2)) .nil] } := by
  obtain ⟨g, σ, o⟩ := st
  exact delayX_eval' (Nat.le_add_left 5 k) e ρ hl.1 hρ2

/-- **forcing an already forced promise**: its value, three fresh cells, nothing else changes -/
theorem forceX_done (k : Nat) (p : Loc) (w : Val) (st : St) (hl : LibSt st) (hp : PromStruct st.store p true w) :
    ∃ s3, (evalN (k + 7)).apply cForce [.pair p] st = .ok w s3 ∧ s3.out = st.out ∧ s3.globals = st.globals ∧
      s3.store.size = st.store.size + 3 ∧ (∀ l, l < st.store.size → s3.store[l]? = st.store[l]?) := by
  obtain ⟨g, σ, o⟩ := st
  obtain ⟨b, hp1, hb1⟩ := hp
  refine ⟨_, force_done' (Nat.le_add_left 7 k) hl.1 hp1 hb1, rfl, rfl, ?_, ?_⟩
  · simp [Array.size_push]
  · intro l h
    have h : l < σ.size := h
    show (((σ.push _).push _).push _)[l]? = σ[l]?
    rw [get_push_lt _ (by simp only [Array.size_push]; omega), get_push_lt _ (by simp only [Array.size_push]; omega),
      get_push_lt _ h]

theorem preX_cells (e : Datum) (ρ : Env) (g : List (Text × Val)) (σ : Array Cell) (o : List (Bool × Datum)) :
    (preX e ρ ⟨g, σ, o⟩).store[σ.size + 2]? = some (.pair (.bool false) (thunkX e ρ)) ∧
    (preX e ρ ⟨g, σ, o⟩).store[σ.size + 3]? = some (.pair (.pair (σ.size + 2)) .nil) ∧
    (preX e ρ ⟨g, σ, o⟩).store[σ.size + 4]? = some (.var (.pair (σ.size + 3))) := by
  refine ⟨?_, ?_, ?_⟩
  · show (preStore σ (thunkX e ρ))[σ.size + 2]? = _
    lk
  · show (preStore σ (thunkX e ρ))[σ.size + 3]? = _
    lk
  · show (preStore σ (thunkX e ρ))[σ.size + 4]? = _
    lk

/-- **`(force (delay e))`, the delayed expression yields a value.** The library needs 13 levels whatever `e`
    is (header of `EvalPromiseX.lean`), hence the offset 12 (`m ≥ 1`), not the 10 of `forceDelayX_err`. Of
    the seven cells of `hint` only `+2 +3 +4` are used. -/
theorem forceDelayX_ok (m : Nat) (e : Datum) (ρ : Env) (st s2 : St) (v : Val) (hl : LibSt st)
    (hρ1 : ρ.lookup k_force = none) (hρ2 : ρ.lookup k_makePromise = none)
    (he : (evalN m).eval e ρ (preX e ρ st) = .ok v s2)
    (hl2 : LibSt s2) (hgrow : (preX e ρ st).store.size ≤ s2.store.size)
    (hint : ∀ i, i < 7 → s2.store[st.store.size + i]? = (preX e ρ st).store[st.store.size + i]?) :
    ∃ s3, (evalN (m + 12)).eval (forceUse (delayFull e)) ρ st = .ok v s3 ∧ s3.out = s2.out ∧ s3.globals = s2.globals ∧
      s3.store.size = s2.store.size + 13 ∧
      (∀ l, l < s2.store.size → l ≠ st.store.size + 2 → s3.store[l]? = s2.store[l]?) ∧
      PromStruct s3.store (st.store.size + 3) true v := by
  obtain ⟨g, σ, o⟩ := st
  obtain ⟨g2, σ2, o2⟩ := s2
  cases m with
  | zero =>
    have h0 : (Res.timeout : Res Val) = Res.ok v _ := he
    cases h0
  | succ m =>
    obtain ⟨c2, c3, c4⟩ := preX_cells e ρ g σ o
    have hg : σ.size + 7 ≤ σ2.size := by
      have : (preX e ρ ⟨g, σ, o⟩).store.size = σ.size + 7 := by
        show (preStore σ (thunkX e ρ)).size = _
        simp only [Array.size_push]
      rw [this] at hgrow
      exact hgrow
    have h2 : σ2[σ.size + 2]? = _ := (hint 2 (by omega)).trans c2
    have h3 : σ2[σ.size + 3]? = _ := (hint 3 (by omega)).trans c3
    have h4 : σ2[σ.size + 4]? = _ := (hint 4 (by omega)).trans c4
    refine ⟨_, forceDelay_aux m e ρ hl.1 hl.2 hρ1 hρ2 he hl2.1 hl2.2 hg h2 h3 h4, rfl, rfl, ?_, ?_, ⟨σ.size + 2, ?_, ?_⟩⟩
    · show (finalStore σ2 σ.size v (thunkX e ρ)).size = σ2.size + 13
      simp only [Array.size_push, updStore_size]
    · intro l hl1 hl2
      have hl1 : l < σ2.size := hl1
      have hl2 : l ≠ σ.size + 2 := hl2
      show (finalStore σ2 σ.size v (thunkX e ρ))[l]? = σ2[l]?
      fr
    · show (finalStore σ2 σ.size v (thunkX e ρ))[σ.size + 3]? = _
      lk
    · show (finalStore σ2 σ.size v (thunkX e ρ))[σ.size + 2]? = _
      lk

/-- **… or fails**: the same failure in the same state -/
theorem forceDelayX_err (m : Nat) (e : Datum) (ρ : Env) (st s2 : St) (c : ErrClass) (hl : LibSt st)
    (hρ1 : ρ.lookup k_force = none) (hρ2 : ρ.lookup k_makePromise = none)
    (he : (evalN m).eval e ρ (preX e ρ st) = .err c s2) :
    (evalN (m + 10)).eval (forceUse (delayFull e)) ρ st = .err c s2 := by
  obtain ⟨g, σ, o⟩ := st
  rw [force_prefix m e ρ hl.1 hl.2 hρ1 hρ2]
  exact bind_err (apply_thunk_err (j := m+5) (m := m) (by omega) (by omega) he)

theorem definite_bind {α β : Type} {m : M α} {f : α → M β} {st : St} (h : (m >>= f) st ≠ .timeout) :
    m st ≠ .timeout := by
  intro h'
  apply h
  show M.bind' m f st = _
  unfold M.bind'; rw [h']

theorem of_def_eval {n J : Nat} {e : Datum} {ρ : Env} {st s1 : St} {v : Val}
    (hd : (evalN n).eval e ρ st ≠ .timeout) (h : (evalN J).eval e ρ st = .ok v s1) :
    (evalN n).eval e ρ st = .ok v s1 := by
  rcases Nat.le_total n J with hle | hle
  · rw [← evalN_mono hle e ρ st hd]; exact h
  · rw [evalN_mono hle e ρ st (by rw [h]; simp)]; exact h

theorem pos_eval {N : Nat} {e : Datum} {ρ : Env} {st : St} (hd : (evalN N).eval e ρ st ≠ .timeout) :
    ∃ n, N = n + 1 := by
  cases N with
  | zero => exact absurd rfl hd
  | succ n => exact ⟨n, rfl⟩

theorem pos_apply {N : Nat} {f : Val} {a : List Val} {st : St} (hd : (evalN N).apply f a st ≠ .timeout) :
    ∃ n, N = n + 1 := by
  cases N with
  | zero => exact absurd rfl hd
  | succ n => exact ⟨n, rfl⟩

/-- **if the expansion is definite, so was the delayed expression** (with the same fuel; in fact with 7
    levels less): a second walk through `force`, from definiteness. A step towards expansion ⇒ native,
    which is not proved for promises; nothing uses it. -/
theorem forceDelayX_definite (N : Nat) (e : Datum) (ρ : Env) (st : St) (hl : LibSt st)
    (hρ1 : ρ.lookup k_force = none) (hρ2 : ρ.lookup k_makePromise = none)
    (hd : (evalN N).eval (forceUse (delayFull e)) ρ st ≠ .timeout) : (evalN N).eval e ρ (preX e ρ st) ≠ .timeout := by
  obtain ⟨g, σ, o⟩ := st
  -- (force d): the operand, the operator
  obtain ⟨N1, rfl⟩ := pos_eval hd
  rw [evalN_succ_eval, forceUse, native_app _ _ _ _ (nk (by decide)), evalArgs_one, M.bind_assoc] at hd
  have hA := of_def_eval (definite_bind hd)
    (delayX_eval' (g := g) (σ := σ) (o := o) (j := 5) (Nat.le_refl 5) e ρ hl.1 hρ2)
  rw [bind_ok hA, M.pure_bind] at hd
  have hF := of_def_eval (definite_bind hd)
    (sym_global (n := 0) (st := ⟨g, push4 σ (.bool false) (thunkX e ρ), o⟩) (by decide) hρ1 hl.2)
  rw [bind_ok hF] at hd
  -- the body of `force`: the test
  obtain ⟨N2, rfl⟩ := pos_apply hd
  rw [cForce, closure1 (body := bodyForce) (by decide), push4_size] at hd
  obtain ⟨N3, rfl⟩ := pos_eval hd
  rw [evalN_succ_eval, bodyForce, native_if3] at hd
  have hD := of_def_eval (definite_bind hd)
    (eval_doneForm (o := o) (σ := (push4 σ (.bool false) (thunkX e ρ)).push (.var (.pair (σ.size + 3)))) 0 hl.1
      (by decide) (lp := σ.size + 4) (p := σ.size + 3) (b := σ.size + 2) (done := false) (w := thunkX e ρ) rfl rfl
      (by lk) (by lk) (by lk))
  rw [bind_ok hD] at hd
  have hd : (evalN N3).eval forceLet [(k_promise, σ.size + 4)]
      ⟨g, ((push4 σ (.bool false) (thunkX e ρ)).push (.var (.pair (σ.size + 3)))).push (.var (.pair (σ.size + 3))), o⟩ ≠
      .timeout := hd
  -- the `let`: `((promise-value promise))`
  obtain ⟨N4, rfl⟩ := pos_eval hd
  rw [evalN_succ_eval, forceLet_eval] at hd
  have hd1 : (evalN N4).eval (L [.pair (s k_promiseValue) (L [s k_promise])]) [(k_promise, σ.size + 4)]
      ⟨g, ((push4 σ (.bool false) (thunkX e ρ)).push (.var (.pair (σ.size + 3)))).push (.var (.pair (σ.size + 3))), o⟩ ≠
      .timeout := definite_bind hd
  obtain ⟨N5, rfl⟩ := pos_eval hd1
  rw [evalN_succ_eval, native_app_pair, evalArgs_nil, M.pure_bind] at hd1
  have hV := of_def_eval (definite_bind hd1)
    (eval_valueForm (o := o)
      (σ := ((push4 σ (.bool false) (thunkX e ρ)).push (.var (.pair (σ.size + 3)))).push (.var (.pair (σ.size + 3))))
      0 hl.1 (by decide) (lp := σ.size + 4) (p := σ.size + 3) (b := σ.size + 2) (done := false) (w := thunkX e ρ) rfl rfl
      (by lk) (by lk) (by lk))
  rw [bind_ok hV] at hd1
  -- the thunk: `(make-promise #t e)`
  obtain ⟨N6, rfl⟩ := pos_apply hd1
  have hd2 : (evalN N6).eval (mkDone e) ρ ⟨g, preStore σ (thunkX e ρ), o⟩ ≠ .timeout := hd1
  obtain ⟨N7, rfl⟩ := pos_eval hd2
  rw [evalN_succ_eval, mkDone, native_app _ _ _ _ (nk (by decide)), evalArgs_two, M.bind_assoc] at hd2
  obtain ⟨N8, rfl⟩ := pos_eval (definite_bind hd2)
  have hb : (evalN (N8+1)).eval (.bool true) ρ ⟨g, preStore σ (thunkX e ρ), o⟩ =
      .ok (.bool true) ⟨g, preStore σ (thunkX e ρ), o⟩ := rfl
  rw [bind_ok hb, M.bind_assoc] at hd2
  have hd4 : (evalN (N8+1)).eval e ρ (preX e ρ ⟨g, σ, o⟩) ≠ .timeout := definite_bind hd2
  intro hto
  have hm : N8 + 1 ≤ N8 + 1 + 1 + 1 + 1 + 1 + 1 + 1 + 1 := by omega
  rw [evalN_mono hm e ρ _ hd4] at hto
  exact hd4 hto

end Marwood.Spec.Eval.Derived
