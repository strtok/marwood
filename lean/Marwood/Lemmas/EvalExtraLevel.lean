import Marwood.Lemmas.EvalExtraForms
import Marwood.Lemmas.EvalExtraPrims
import Marwood.Lemmas.EvalExtraFuelPrims
/-!
# The simulation: one level of evaluation, and the fuel induction for `guardN` against `evalN`

What the other files cite: `simG_evalStep`, `simGAt_applyStep` (one level, for any related recursors `RecSimG`) and
`recSimG` (the guarded tower against the plain one, side `.left`).
-/
namespace Marwood.Spec.Eval.Extra
open Marwood Marwood.Spec.Eval Marwood.Spec.Eval.ExtraJ

variable {f : LMap} {G : List Text} {E : EnvCorr f G} {GL : GlCorr f G E} {J : Junk} {δ : Side} {r r' : Rec}

theorem simG_evalTopForm (_hf : Inj f) (hr : RecSimG f G E GL J δ r r') (d : Datum) (hd : CleanB G d) :
    SimG f G E GL J δ (VRelG f G E) (evalTopForm r d) (evalTopForm r' d) := by
  unfold evalTopForm
  split
  · refine SimG.bind (simG_defineValue hr E.top d hd) (fun p p' hp => ?_)
    obtain ⟨x, v⟩ := p
    obtain ⟨x', v'⟩ := p'
    obtain ⟨h1, _, h3⟩ := hp
    simp only at h1 h3 ⊢
    subst h1
    refine SimG.bind (simG_putGlobal x' h3) (fun _ _ _ => ?_)
    exact SimG.pure _ _ .void
  · exact hr.eval d [] [] G E.top hd

theorem simG_evalTopForms (hf : Inj f) (hr : RecSimG f G E GL J δ r r') : ∀ (ds : List Datum), CleanBs G ds →
    SimG f G E GL J δ (VRelG f G E) (evalTopForms r ds) (evalTopForms r' ds)
  | [], _ => SimG.throw _
  | [d], h => by simpa [evalTopForms] using simG_evalTopForm hf hr d (h d (by simp))
  | d :: d' :: ds, h => by
    rw [cleanBs_cons] at h
    simp only [evalTopForms]
    refine SimG.bind (simG_evalTopForm hf hr d h.1) (fun _ _ _ => ?_)
    exact simG_evalTopForms hf hr (d' :: ds) h.2

theorem simG_evalTop (hf : Inj f) (hr : RecSimG f G E GL J δ r r') (d : Datum) (hd : CleanB G d) :
    SimG f G E GL J δ (VRelG f G E) (evalTop r d) (evalTop r' d) := by
  unfold evalTop
  split
  · split
    · split
      · rename_i hp
        exact simG_evalTopForms hf hr _ (cleanBs_properList hp (cleanB_pair.1 hd).2)
      · exact SimG.throw _
    · exact simG_evalTopForm hf hr _ hd
  · exact simG_evalTopForm hf hr _ hd

theorem simG_application (hr : RecSimG f G E GL J δ r r') {B : List Text} {ρ ρ' : Env} (he : E.rel B ρ ρ') (g rest : Datum)
    (hg : CleanB B g) (hrest : CleanB B rest) :
    SimG f G E GL J δ (VRelG f G E)
      (match properList rest with
        | some es => do
          let vs ← evalArgs r ρ es
          let fv ← r.eval g ρ
          r.apply fv vs
        | none => throw .syntax)
      (match properList rest with
        | some es => do
          let vs ← evalArgs r' ρ' es
          let fv ← r'.eval g ρ'
          r'.apply fv vs
        | none => throw .syntax) := by
  split
  · rename_i es hp
    refine SimG.bind (simG_evalArgs hr he es (cleanBs_properList hp hrest)) (fun vs vs' hvs => ?_)
    refine SimG.bind (hr.eval g ρ ρ' B he hg) (fun fv fv' hfv => ?_)
    exact hr.apply fv fv' vs vs' hfv hvs
  · exact SimG.throw _

theorem simG_evalStep (hf : Inj f) (hr : RecSimG f G E GL J δ r r') {B : List Text} {ρ ρ' : Env} (he : E.rel B ρ ρ')
    (e : Datum) (hc : CleanB B e) : SimG f G E GL J δ (VRelG f G E) (evalStep r e ρ) (evalStep r' e ρ') := by
  cases e with
  | sym s => simpa [evalStep] using simG_evalVar he s (cleanB_sym.1 hc)
  | pair g rest =>
    rw [cleanB_pair] at hc
    cases g with
    | sym s =>
      simp only [evalStep]
      cases hk : kwOf s with
      | some k => exact simG_evalKw hf hr he k rest hc.2
      | none => exact simG_application hr he _ rest hc.1 hc.2
    | _ =>
      simp only [evalStep]
      exact simG_application hr he _ rest hc.1 hc.2
  | nil => exact SimG.throw _
  | procedure _ => exact SimG.throw _
  | macro_ => exact SimG.throw _
  | continuation => exact SimG.throw _
  | void => exact SimG.throw _
  | undefined => exact SimG.throw _
  | bool b => simpa [evalStep] using simG_quoteVal (f := f) (J := J) (δ := δ) (.bool b) (E.cleanG he hc)
  | char c => simpa [evalStep] using simG_quoteVal (f := f) (J := J) (δ := δ) (.char c) (E.cleanG he hc)
  | num n => simpa [evalStep] using simG_quoteVal (f := f) (J := J) (δ := δ) (.num n) (E.cleanG he hc)
  | str t => simpa [evalStep] using simG_quoteVal (f := f) (J := J) (δ := δ) (.str t) (E.cleanG he hc)
  | vec v => simpa [evalStep] using simG_quoteVal (f := f) (J := J) (δ := δ) (.vec v) (E.cleanG he hc)

theorem simGAt_applyPrim1 (hf : Inj f) (p : Prim) {args args' : List Val} (ha : VsRelG f G E args args') {st st' : St}
    (r : StRelG f G E GL J st st') (hc : NoCut st st' (helperCut (.prim p) args st.store)) :
    ResRelD (StRelG f G E GL J) δ (VRelG f G E) (applyPrim1 p args st) (applyPrim1 p args' st') := by
  cases hg : primGroup p with
  | num => simp only [applyPrim1, hg]; exact simG_primNum p ha st st' r
  | pair =>
    simp only [applyPrim1, hg]
    by_cases hp : pairNoFuel p = true
    · exact simG_primPair hf p hp ha st st' r
    · cases p <;> simp [pairNoFuel] at hp
      case length =>
        rcases ha with _ | ⟨h1, _ | ⟨h2, _⟩⟩
        · exact ⟨rfl, r⟩
        · exact simGAt_length r h1 hc
        · exact ⟨rfl, r⟩
      case reverse =>
        rcases ha with _ | ⟨h1, _ | ⟨h2, _⟩⟩
        · exact ⟨rfl, r⟩
        · exact simGAt_reverse r h1 hc
        · exact ⟨rfl, r⟩
      case listP =>
        rcases ha with _ | ⟨h1, _ | ⟨h2, _⟩⟩
        · exact ⟨rfl, r⟩
        · exact simGAt_listP r h1 hc
        · exact ⟨rfl, r⟩
      case append =>
        rcases ha with _ | ⟨h1, _ | ⟨h2, _ | ⟨h3, _ | ⟨h4, _⟩⟩⟩⟩
        · exact ⟨.nil, r⟩
        · exact ⟨h1, r⟩
        · exact simGAt_append2 r h1 h2 hc
        · have hc' := hc
          rw [helperCut_append3, NoCut.or] at hc'
          exact simGAt_append3 r h1 h2 h3 hc'.1 hc'.2
        · exact ⟨rfl, r⟩
      case memv =>
        rcases ha with _ | ⟨h1, _ | ⟨h2, _ | ⟨h3, _⟩⟩⟩
        · exact ⟨rfl, r⟩
        · exact ⟨rfl, r⟩
        · exact simGAt_mem hf r .memv false primPair_memv h1 h2 hc
        · exact ⟨rfl, r⟩
      case memq =>
        rcases ha with _ | ⟨h1, _ | ⟨h2, _ | ⟨h3, _⟩⟩⟩
        · exact ⟨rfl, r⟩
        · exact ⟨rfl, r⟩
        · exact simGAt_mem hf r .memq false primPair_memq h1 h2 hc
        · exact ⟨rfl, r⟩
      case assv =>
        rcases ha with _ | ⟨h1, _ | ⟨h2, _ | ⟨h3, _⟩⟩⟩
        · exact ⟨rfl, r⟩
        · exact ⟨rfl, r⟩
        · exact simGAt_mem hf r .assv true primPair_assv h1 h2 hc
        · exact ⟨rfl, r⟩
      case assq =>
        rcases ha with _ | ⟨h1, _ | ⟨h2, _ | ⟨h3, _⟩⟩⟩
        · exact ⟨rfl, r⟩
        · exact ⟨rfl, r⟩
        · exact simGAt_mem hf r .assq true primPair_assq h1 h2 hc
        · exact ⟨rfl, r⟩
  | vec =>
    simp only [applyPrim1, hg]
    by_cases hp : p = .listToVector
    · subst hp
      rcases ha with _ | ⟨h1, _ | ⟨h2, _⟩⟩
      · exact ⟨rfl, r⟩
      · exact simGAt_listToVector r h1 hc
      · exact ⟨rfl, r⟩
    · exact simG_primVec hf p hp ha st st' r
  | pred =>
    simp only [applyPrim1, hg]
    by_cases hp : p = .equalP
    · subst hp
      rcases ha with _ | ⟨h1, _ | ⟨h2, _ | ⟨h3, _⟩⟩⟩
      · exact ⟨rfl, r⟩
      · exact ⟨rfl, r⟩
      · exact simGAt_equalP hf r h1 h2 hc
      · exact ⟨rfl, r⟩
    · exact simG_primPred hf p hp ha st st' r
  | misc =>
    simp only [applyPrim1, hg]
    cases p <;> simp [primGroup] at hg
    case display =>
      rcases ha with _ | ⟨h1, _ | ⟨h2, _⟩⟩
      · exact ⟨rfl, r⟩
      · exact simGAt_display r h1 hc
      · exact ⟨rfl, r⟩
    case write =>
      rcases ha with _ | ⟨h1, _ | ⟨h2, _⟩⟩
      · exact ⟨rfl, r⟩
      · exact simGAt_write r h1 hc
      · exact ⟨rfl, r⟩
    case error => exact simG_primMisc_error st st' r

theorem simGAt_applyStep (hf : Inj f) (hr : RecSimG f G E GL J δ r r') {g g' : Val} (hg : VRelG f G E g g') {args args' : List Val}
    (ha : VsRelG f G E args args') {st st' : St} (rs : StRelG f G E GL J st st') (hc : NoCut st st' (helperCut g args st.store)) :
    ResRelD (StRelG f G E GL J) δ (VRelG f G E) (applyStep r g args st) (applyStep r' g' args' st') := by
  cases hg with
  | closure ps rest body ρ ρ' B hρ hb =>
    simp only [applyStep]
    exact SimG.bind (simG_bindArgs ps rest ha hρ) (fun ρ1 ρ1' h1 => simG_evalBody hf hr h1 body hb) st st' rs
  | prim p =>
    by_cases h1 : p = .apply
    · subst h1
      rcases ha with _ | ⟨hg1, _ | ⟨h2, h3⟩⟩
      · exact ⟨rfl, rs⟩
      · exact ⟨rfl, rs⟩
      · simp only [applyStep]
        have hlast := (VsRelG.cons h2 h3).getLastD
        refine ResRelD.bind (simGAt_getList rs hlast hc) (fun xs xs' s s' _ hx rs2 => ?_)
        exact hr.apply _ _ _ _ hg1 ((VsRelG.cons h2 h3).dropLast.append hx) s s' rs2
    by_cases h2 : p = .eval
    · subst h2
      rcases ha with _ | ⟨hv, _ | ⟨h2, h3⟩⟩
      · exact ⟨rfl, rs⟩
      · simp only [applyStep]
        refine ResRelD.bind (simGAt_externalise rs hv hc) (fun d d' s s' hm hd rs2 => ?_)
        subst hd
        exact simG_evalTop hf hr _ (cleanB_externalise rs hv hm) s s' rs2
      · exact ⟨rfl, rs⟩
    by_cases h3 : p = .force
    · subst h3
      rcases ha with _ | ⟨hv, _ | ⟨h2, h3⟩⟩
      · exact ⟨rfl, rs⟩
      · cases hv with
        | promise l =>
          simp only [applyStep]
          refine SimG.bind (simG_readCell rfl) (fun c c' hcell => ?_) st st' rs
          cases hcell with
          | promise b hw =>
            cases b with
            | true => exact SimG.pure _ _ hw
            | false =>
              simp only
              refine SimG.bind (hr.apply _ _ _ _ hw .nil) (fun v v' hv => ?_)
              refine SimG.bind (simG_readCell rfl) (fun c2 c2' hc2 => ?_)
              cases hc2 with
              | promise b2 hw2 =>
                cases b2 with
                | true => exact SimG.pure _ _ hw2
                | false =>
                  simp only
                  exact SimG.bind (simG_writeCell hf rfl (.promise true hv)) (fun _ _ _ => SimG.pure _ _ hv)
              | var _ => exact SimG.bind (simG_writeCell hf rfl (.promise true hv)) (fun _ _ _ => SimG.pure _ _ hv)
              | pair _ _ => exact SimG.bind (simG_writeCell hf rfl (.promise true hv)) (fun _ _ _ => SimG.pure _ _ hv)
              | vec _ => exact SimG.bind (simG_writeCell hf rfl (.promise true hv)) (fun _ _ _ => SimG.pure _ _ hv)
          | var _ => exact SimG.throw _
          | pair _ _ => exact SimG.throw _
          | vec _ => exact SimG.throw _
        | _ => exact ⟨rfl, rs⟩
      · cases hv <;> exact ⟨rfl, rs⟩
    by_cases h4 : p = .map
    · subst h4
      rcases ha with _ | ⟨hg1, _ | ⟨h2, h3⟩⟩
      · exact ⟨rfl, rs⟩
      · exact ⟨rfl, rs⟩
      · simp only [applyStep]
        have hc' := hc
        rw [helperCut_map] at hc'
        refine ResRelD.bind (simGAt_getLists rs (.cons h2 h3)
          (fun v hv => hc'.any v hv)) (fun lists lists' s s' hm hl rs2 => ?_)
        have hs := getLists_ok_state hm
        subst hs
        exact SimG.bind (simG_mapApply hr hg1 (simGAt_zipRows rs2 hm hl)) (fun vs vs' hvs => simG_allocList hvs) s s' rs2
    by_cases h5 : p = .forEach
    · subst h5
      rcases ha with _ | ⟨hg1, _ | ⟨h2, h3⟩⟩
      · exact ⟨rfl, rs⟩
      · exact ⟨rfl, rs⟩
      · simp only [applyStep]
        have hc' := hc
        rw [helperCut_forEach] at hc'
        refine ResRelD.bind (simGAt_getLists rs (.cons h2 h3)
          (fun v hv => hc'.any v hv)) (fun lists lists' s s' hm hl rs2 => ?_)
        have hs := getLists_ok_state hm
        subst hs
        exact SimG.bind (simG_mapApply hr hg1 (simGAt_zipRows rs2 hm hl)) (fun vs vs' hvs => SimG.pure _ _ .void) s s' rs2
    have e1 : ∀ (rr : Rec) (as : List Val), applyStep rr (.prim p) as = applyPrim1 p as := by
      intro rr as
      cases p <;> first | rfl | exact absurd rfl h1 | exact absurd rfl h2 | exact absurd rfl h3 | exact absurd rfl h4 | exact absurd rfl h5
    rw [e1, e1]
    exact simGAt_applyPrim1 hf p ha rs hc
  | _ => exact ⟨rfl, rs⟩

/-- the fuel induction: `guardN n`, guarded by `helperCut`, against `evalN n` -/
theorem recSimG (hf : Inj f) : ∀ (n : Nat), RecSimG f G E GL J .left (guardN n) (evalN n)
  | 0 => ⟨fun _ _ _ _ _ _ => SimG.timeout_left _, fun _ _ _ _ _ _ => SimG.timeout_left _⟩
  | n+1 => ⟨fun e ρ ρ' B he hc => simG_evalStep hf (recSimG hf n) he e hc,
            fun g g' args args' hg ha st st' rs => by
              show ResRelD (StRelG f G E GL J) .left (VRelG f G E) (guardApply (guardN n) g args st) (applyStep (evalN n) g' args' st')
              unfold guardApply
              split
              · exact ResRelD.timeout_left _
              · rename_i hcut
                exact simGAt_applyStep hf (recSimG hf n) hg ha rs (Or.inr (by simpa using hcut))⟩


end Marwood.Spec.Eval.Extra
