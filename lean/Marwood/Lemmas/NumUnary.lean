import Marwood.Lemmas.NumArith
/-!
# floor, ceiling, truncate, numerator, denominator: the answers are the exact results (T08.1)

Also what `abs` and `expt` compute with (NumExactly).
-/
namespace Marwood.Arith
open Marwood Marwood.NumSpec

theorem floor_bracket {n d q r : Int} (hd : 0 < d) (h : q * d + r = n) (h0 : 0 ≤ r) (h1 : r < d) :
    (q : Rat) ≤ (n : Rat) / d ∧ (n : Rat) / d < q + 1 := by
  have hq : (0 : Rat) < d := by exact_mod_cast hd
  have h' : (q : Rat) * d + r = n := by exact_mod_cast h
  have h0' : (0 : Rat) ≤ r := by exact_mod_cast h0
  have h1' : (r : Rat) < d := by exact_mod_cast h1
  rw [le_div_iff₀ hq, div_lt_iff₀ hq]
  constructor <;> linarith

theorem ceil_bracket {n d q r : Int} (hd : 0 < d) (h : q * d + r = n) (h0 : -d < r) (h1 : r ≤ 0) :
    (n : Rat) / d ≤ q ∧ (q : Rat) - 1 < (n : Rat) / d := by
  have hq : (0 : Rat) < d := by exact_mod_cast hd
  have h' : (q : Rat) * d + r = n := by exact_mod_cast h
  have h0' : -(d : Rat) < r := by exact_mod_cast h0
  have h1' : (r : Rat) ≤ 0 := by exact_mod_cast h1
  rw [div_le_iff₀ hq, lt_div_iff₀ hq]
  constructor <;> linarith

theorem val_rat_one (k : Int) : val (.rat k 1) = some (k : Rat) := by simp

theorem floor_spec (a : Num) (ha : a.WF = true) {r : Num} (h : floor a = some r) :
    ∃ (x : Rat) (k : Int), val a = some x ∧ val r = some (k : Rat) ∧ (k : Rat) ≤ x ∧ x < k + 1 := by
  cases a with
  | fix n => cases h; exact ⟨n, n, rfl, rfl, le_refl _, lt_add_one _⟩
  | big n => cases h; exact ⟨n, n, rfl, rfl, le_refl _, lt_add_one _⟩
  | flo f => cases h
  | rat n d =>
    have hd := wf_rat_pos ha
    cases h
    rw [Int.fdiv_eq_ediv_of_nonneg _ hd.le]
    exact ⟨_, _, rfl, val_rat_one _, floor_bracket hd (Int.ediv_mul_add_emod n d)
      (Int.emod_nonneg n hd.ne') (Int.emod_lt_of_pos n hd)⟩

theorem ceil_spec (a : Num) (ha : a.WF = true) {r : Num} (h : ceil a = some r) :
    ∃ (x : Rat) (k : Int), val a = some x ∧ val r = some (k : Rat) ∧ x ≤ (k : Rat) ∧ (k : Rat) - 1 < x := by
  cases a with
  | fix n => cases h; exact ⟨n, n, rfl, rfl, le_refl _, sub_one_lt _⟩
  | big n => cases h; exact ⟨n, n, rfl, rfl, le_refl _, sub_one_lt _⟩
  | flo f => cases h
  | rat n d =>
    have hd := wf_rat_pos ha
    cases h
    rw [Int.fdiv_eq_ediv_of_nonneg _ hd.le, Int.fmod_eq_emod_of_nonneg _ hd.le]
    have h1 := Int.ediv_mul_add_emod n d
    have h2 := Int.emod_nonneg n hd.ne'
    have h3 := Int.emod_lt_of_pos n hd
    refine ⟨_, _, rfl, val_rat_one _, ?_⟩
    by_cases hz : n % d = 0
    · simp only [hz, bne_self_eq_false, Bool.false_eq_true, if_false, Int.add_zero] at h1 ⊢
      exact ceil_bracket (r := 0) hd (by omega) (by omega) (le_refl _)
    · rw [if_pos (by simpa using hz)]
      exact ceil_bracket (r := n % d - d) hd (by rw [Int.add_mul]; omega) (by omega) (by omega)

theorem truncate_spec (a : Num) (ha : a.WF = true) {r : Num} (h : truncate a = some r) :
    ∃ (x : Rat) (k : Int), val a = some x ∧ val r = some (k : Rat) ∧
      (0 ≤ x → (k : Rat) ≤ x ∧ x < k + 1) ∧ (x ≤ 0 → x ≤ (k : Rat) ∧ (k : Rat) - 1 < x) := by
  cases a with
  | fix n => cases h; exact ⟨n, n, rfl, rfl, fun _ => ⟨le_refl _, lt_add_one _⟩, fun _ => ⟨le_refl _, sub_one_lt _⟩⟩
  | big n => cases h; exact ⟨n, n, rfl, rfl, fun _ => ⟨le_refl _, lt_add_one _⟩, fun _ => ⟨le_refl _, sub_one_lt _⟩⟩
  | flo f => cases h
  | rat n d =>
    have hd := wf_rat_pos ha
    have hq : (0 : Rat) < d := by exact_mod_cast hd
    cases h
    have hdec := Int.tdiv_mul_add_tmod n d
    refine ⟨_, _, rfl, val_rat_one _, fun hx => ?_, fun hx => ?_⟩
    · have hn : 0 ≤ n := by
        by_contra hlt
        exact absurd hx (not_le.mpr (by rw [div_lt_iff₀ hq, zero_mul]; exact_mod_cast not_le.mp hlt))
      exact floor_bracket hd hdec (Int.tmod_nonneg d hn) (Int.tmod_lt_of_pos n hd)
    · have hn : n ≤ 0 := by
        by_contra hlt
        exact absurd hx (not_le.mpr (div_pos (by exact_mod_cast not_le.mp hlt) hq))
      have t1 : n.tmod d ≤ 0 := by
        have := Int.tmod_nonneg d (a := -n) (by omega)
        rw [Int.neg_tmod] at this; omega
      exact ceil_bracket hd hdec (Int.lt_tmod_of_pos n hd) t1

theorem absR_div (n : Int) {d : Int} (hd : 0 < d) :
    absR ((n : Rat) / d) = ((if n < 0 then -n else n : Int) : Rat) / d := by
  have hq : (0 : Rat) < d := by exact_mod_cast hd
  have hs : (n : Rat) / d < 0 ↔ n < 0 := by rw [div_lt_iff₀ hq, zero_mul]; exact_mod_cast Iff.rfl
  unfold absR
  by_cases hn : n < 0
  · rw [if_pos hn, if_pos (hs.mpr hn), Int.cast_neg, neg_div]
  · rw [if_neg hn, if_neg (mt hs.mp hn)]

theorem absR_int (n : Int) : absR (n : Rat) = ((if n < 0 then -n else n : Int) : Rat) := by
  have := absR_div n Int.one_pos
  rwa [Int.cast_one, div_one, div_one] at this

theorem natAbs_eq_ite (n : Int) : (n.natAbs : Int) = if n < 0 then -n else n := by split <;> omega

theorem chk32_abs_none {n : Int} (hn : inI32 n = true)
    (h : chk32 (if n < 0 then -n else n) = none) : n = -2147483648 := by
  have hn := (inI32_iff n).mp hn
  have : ¬ inI32 (if n < 0 then -n else n) = true := fun hi => by rw [chk32_of hi] at h; cases h
  rw [inI32_iff] at this
  split at this <;> omega

theorem wf_rat_coprime {n d : Int} (h : (Num.rat n d).WF = true) : n.natAbs.Coprime d.natAbs := by
  simp only [Num.WF, Bool.and_eq_true, beq_iff_eq] at h
  have := h.2
  unfold Nat.Coprime
  rw [Int.gcd] at this; exact this

theorem wf_rat_num_den {n d : Int} (h : (Num.rat n d).WF = true) :
    ((n : Rat) / d).num = n ∧ (((n : Rat) / d).den : Int) = d :=
  ⟨Rat.num_div_eq_of_coprime (wf_rat_pos h) (wf_rat_coprime h),
   Rat.den_div_eq_of_coprime (wf_rat_pos h) (wf_rat_coprime h)⟩

theorem numer_denom_spec (a : Num) (ha : a.WF = true) {r s : Num} (h1 : numerator a = some r)
    (h2 : denominator a = some s) :
    ∃ x : Rat, val a = some x ∧ val r = some (x.num : Rat) ∧ val s = some (x.den : Rat) := by
  cases a with
  | fix n => cases h1; cases h2; exact ⟨n, rfl, by simp, by simp⟩
  | big n => cases h1; cases h2; exact ⟨n, rfl, by simp, by simp⟩
  | flo f => cases h1
  | rat n d =>
    cases h1; cases h2
    obtain ⟨hn, hd⟩ := wf_rat_num_den ha
    exact ⟨(n : Rat) / d, rfl, by rw [hn]; rfl, by rw [val_fix]; congr 1; exact_mod_cast hd.symm⟩

theorem chkPow_some {inR : Int → Bool} {b r : Int} {e : Nat} (h : chkPow inR b e = some r) :
    r = b ^ e := by
  unfold chkPow at h
  simp only at h
  split at h
  · cases h; rfl
  · cases h

theorem val_powFix (n : Int) (e : Nat) : val (powFix n e) = some ((n : Rat) ^ e) := by
  unfold powFix
  split
  · rename_i r hr; rw [chkPow_some hr]; simp
  · simp

theorem isExact_powFix (n : Int) (e : Nat) : isExact (powFix n e) = true := by
  unfold powFix; split <;> rfl

end Marwood.Arith
