import Marwood.Lemmas.CompileCorrect3VarArg
/-!
# T01.3 stage 3 — the `apply` builtin: the stack rewrite

`builtinApply` under `CALL`/`TCALL`: the operands `proc, a₁ … aₖ, lst` become `a₁ … aₖ, e₁ … eₘ` (the elements of the
proper list `lst`), `proc` moves to `acc`, and the same instruction runs again.
-/
namespace Marwood.Lemmas.CompileCorrect3
open Marwood Marwood.Vm Marwood.Lemmas.CompileCorrect Marwood.Lemmas.CompileCorrect2
variable {H : Type} {ops : HeapOps H}

/-- `v` is a proper machine list whose element cells are at the heap addresses `ptrs` -/
inductive MList (ops : HeapOps H) (h : H) : VCell → List Nat → Prop
  | nil {v} : ops.deref h v = .nil → MList ops h v []
  | cons {v pa pd ps} : ops.deref h v = .pair pa pd → MList ops h (.ptr pd) ps → MList ops h v (pa :: ps)

theorem liveEq_pushAll {st0 st' : Stack} {vs : List VCell} (hw0 : SWF st0)
    (hsp : st'.sp = st0.sp + vs.length)
    (h0 : ∀ i, i ≤ st0.sp → st'.cells[i]? = st0.cells[i]?)
    (h1 : ∀ j, j < vs.length → st'.cells[st0.sp + 1 + j]? = vs[j]?) : LiveEq (pushAll st0 vs) st' := by
  refine ⟨by rw [pushAll_sp, hsp], ?_⟩
  intro i hi
  rw [pushAll_sp] at hi
  by_cases c : i ≤ st0.sp
  · rw [pushAll_below st0 vs hw0 i c, h0 i c]
  · obtain ⟨j, rfl⟩ : ∃ j, i = st0.sp + 1 + j := ⟨i - (st0.sp + 1), by omega⟩
    rw [pushAll_get st0 vs hw0 j (by omega), h1 j (by omega)]

theorem pop_any {st : Stack} (hw : SWF st) (hp : 0 < st.sp) :
    ∃ v, st.pop = .ok (v, { st with sp := st.sp - 1 }) := by
  unfold SWF at hw
  unfold Stack.pop
  simp only [hp, if_true]
  rw [List.getElem?_eq_getElem hw]
  exact ⟨_, rfl⟩

theorem shift_ok : ∀ (j : Nat) (st : Stack), j ≤ st.sp → SWF st →
    ∃ st', builtinApply.shift j st = .ok st' ∧ st'.sp = st.sp ∧ st'.cells.length = st.cells.length ∧
      (∀ i, i + j < st.sp ∨ st.sp ≤ i → st'.cells[i]? = st.cells[i]?) ∧
      (∀ i, st.sp ≤ i + j → i < st.sp → st'.cells[i]? = st.cells[i + 1]?)
  | 0, st, _, _ => ⟨st, rfl, rfl, rfl, fun _ _ => rfl, fun i h1 h2 => by omega⟩
  | j + 1, st, hj, hw => by
    have hw' : st.sp < st.cells.length := hw
    obtain ⟨i0, hi0⟩ : ∃ i0, st.sp = i0 + j + 1 := ⟨st.sp - (j + 1), (Nat.sub_add_cancel hj).symm⟩
    have hlt1 : i0 + 1 < st.cells.length :=
      Nat.lt_of_le_of_lt (hi0 ▸ Nat.succ_le_succ (Nat.le_add_right i0 j)) hw'
    have hget : st.getOffset (-(j : Int)) = .ok st.cells[i0 + 1] :=
      getOffset_neg (i := i0 + 1) (by rw [hi0, Nat.add_right_comm]) (List.getElem?_eq_getElem hlt1)
    have hset := setOffset_neg (v := st.cells[i0 + 1]) hi0 hw
    obtain ⟨st', e, h1, h2, h3, h4⟩ := shift_ok j { st with cells := st.cells.set i0 st.cells[i0 + 1] }
      (Nat.le_of_succ_le hj) (by show st.sp < (st.cells.set i0 _).length; rw [List.length_set]; exact hw')
    refine ⟨st', ?_, h1, by rw [h2]; exact List.length_set .., ?_, ?_⟩
    · unfold builtinApply.shift
      simp only [hget, outcome_bind_ok, hset]
      exact e
    · intro i hi
      have a : (i + j < st.sp ∨ st.sp ≤ i) ∧ i0 ≠ i := by omega
      rw [h3 i a.1]
      exact List.getElem?_set_ne a.2
    · intro i hi1 hi2
      by_cases c : i = i0
      · subst c
        rw [h3 i (.inl (hi0 ▸ Nat.lt_succ_self _))]
        show (st.cells.set i _)[i]? = _
        rw [List.getElem?_set_self (Nat.lt_of_succ_lt hlt1), List.getElem?_eq_getElem]
      · have a : st.sp ≤ i + j ∧ i0 ≠ i + 1 := by omega
        rw [h4 i a.1 hi2]
        exact List.getElem?_set_ne a.2

theorem pushList_ok {s : MSt H} {v : VCell} {ptrs : List Nat} (hml : MList ops s.heap v ptrs) :
    ∀ (fuel n : Nat) (a b : Stack), ptrs.length < fuel → LiveEq a b → SWF a → SWF b →
    ∃ b', builtinApply.pushList ops s fuel (ops.deref s.heap v) n b = .ok (n + ptrs.length, b') ∧
      LiveEq (pushAll a (ptrs.map VCell.ptr)) b' ∧ SWF b' := by
  induction hml with
  | nil hd =>
    intro fuel n a b hf hl ha hb
    obtain ⟨f, rfl⟩ : ∃ f, fuel = f + 1 := ⟨fuel - 1, by simp at hf; omega⟩
    refine ⟨b, ?_, hl, hb⟩
    unfold builtinApply.pushList
    rw [hd]
    rfl
  | @cons v pa pd ps hd _ ih =>
    intro fuel n a b hf hl ha hb
    obtain ⟨f, rfl⟩ : ∃ f, fuel = f + 1 := ⟨fuel - 1, by omega⟩
    obtain ⟨b', e, hl', hb'⟩ := ih f (n + 1) (a.push (.ptr pa)) (b.push (.ptr pa))
      (by simp only [List.length_cons] at hf; omega) (hl.push ha hb _) (push_swf _ _) (push_swf _ _)
    refine ⟨b', ?_, ?_, hb'⟩
    · unfold builtinApply.pushList
      rw [hd]
      simp only
      rw [e, List.length_cons]
      congr 2
      omega
    · rw [List.map_cons, pushAll_cons]
      exact hl'

theorem builtinApply_ok {s : MSt H} {stk0 : Stack} {pg : Nat} {vl : VCell} {mid : List VCell} {ptrs : List Nat}
    (hst : LiveEq ((pushAll stk0 (.ptr pg :: mid ++ [vl])).push (.argc (mid.length + 2))) s.stack)
    (hw0 : SWF stk0) (hw : SWF s.stack)
    (hml : MList ops s.heap vl ptrs) (hlen : ptrs.length + 1 ≤ 100000) (hip : 0 < s.ipO) :
    ∃ st', builtinApply ops s = .ok ({ s with stack := st', ipO := s.ipO - 1 }, .ptr pg) ∧
      LiveEq ((pushAll stk0 (mid ++ ptrs.map VCell.ptr)).push (.argc (mid.length + ptrs.length))) st' ∧ SWF st' := by
  rw [pushAll_append] at hst
  change LiveEq (((pushAll stk0 (.ptr pg :: mid)).push vl).push (.argc (mid.length + 2))) s.stack at hst
  have hA : SWF (pushAll stk0 (.ptr pg :: mid)) := pushAll_swf _ _ hw0
  obtain ⟨st1, pp1, l1, w1⟩ := pop_push' hst (push_swf _ _) hw
  obtain ⟨st2, pp2, l2, w2⟩ := pop_push' l1 hA w1
  -- in the order of `builtinApply`: `argc` and the list popped (`st2`), the procedure read, the shift, a pop, the list
  have sp2 : st2.sp = stk0.sp + 1 + mid.length := by
    rw [← l2.1, pushAll_sp, List.length_cons, Nat.add_comm mid.length 1, Nat.add_assoc]
  have cell2 : ∀ i, i ≤ stk0.sp + 1 + mid.length → st2.cells[i]? = (pushAll stk0 (.ptr pg :: mid)).cells[i]? :=
    fun i hi => (l2.2 i (by rw [l2.1, sp2]; exact hi)).symm
  have low2 : ∀ i, i ≤ stk0.sp → st2.cells[i]? = stk0.cells[i]? := fun i hi => by
    rw [cell2 i (Nat.le_trans hi (Nat.le_trans (Nat.le_add_right _ 1) (Nat.le_add_right _ _))),
      pushAll_below stk0 _ hw0 i hi]
  have up2 : ∀ j, j < mid.length + 1 → st2.cells[stk0.sp + 1 + j]? = (VCell.ptr pg :: mid)[j]? := fun j hj => by
    rw [cell2 _ (Nat.add_le_add_left (Nat.le_of_lt_succ hj) _),
      pushAll_get stk0 _ hw0 j (by rw [List.length_cons]; exact hj)]
  have hshape : ops.deref s.heap vl = .nil ∨ ∃ a d, ops.deref s.heap vl = .pair a d := by
    cases hml with
    | nil hd => exact .inl hd
    | cons hd _ => exact .inr ⟨_, _, hd⟩
  have hproc : st2.getOffset (-(((mid.length + 2 : Nat) : Int) - 2)) = .ok (.ptr pg) := by
    have e : (-(((mid.length + 2 : Nat) : Int) - 2)) = -(mid.length : Int) := by omega
    rw [e]
    exact getOffset_neg (i := stk0.sp + 1) sp2 (up2 0 (Nat.succ_pos _))
  obtain ⟨st3, e3, sp3, len3, keep3, mv3⟩ := shift_ok mid.length st2 (sp2 ▸ Nat.le_add_left _ _) w2
  rw [sp2] at sp3 keep3 mv3
  have w3 : SWF st3 := by
    show st3.sp < st3.cells.length
    rw [sp3, len3, ← sp2]; exact w2
  obtain ⟨vtop, pp3⟩ := pop_any w3 (by rw [sp3]; exact Nat.lt_of_lt_of_le (Nat.succ_pos _) (Nat.le_add_right _ _))
  have l4 : LiveEq (pushAll stk0 mid) { st3 with sp := st3.sp - 1 } := by
    refine liveEq_pushAll hw0 ?_ ?_ ?_
    · show st3.sp - 1 = _
      rw [sp3, Nat.add_right_comm, Nat.add_sub_cancel]
    · intro i hi
      show st3.cells[i]? = _
      rw [keep3 i (.inl (Nat.add_lt_add_right (Nat.lt_succ_of_le hi) _)), low2 i hi]
    · intro j hj
      show st3.cells[stk0.sp + 1 + j]? = _
      rw [mv3 _ (Nat.add_le_add_right (Nat.le_add_right _ _) _) (Nat.add_lt_add_left hj _), Nat.add_assoc, up2 (j + 1) (Nat.succ_lt_succ hj)]
      rfl
  have w4 : SWF { st3 with sp := st3.sp - 1 } := pop_swf w3
  obtain ⟨st5, e5, l5, w5⟩ := pushList_ok hml 100000 mid.length (pushAll stk0 mid) _ (Nat.lt_of_succ_le hlen) l4
    (pushAll_swf _ _ hw0) w4
  have hu : usub s.ipO 1 "apply: ip.1 -= 1" = .ok (s.ipO - 1) := by
    unfold usub
    have : 1 ≤ s.ipO := hip
    simp only [this, if_true]
  have hnlt : ¬ mid.length + 2 < 2 := Nat.not_lt.mpr (Nat.le_add_left _ _)
  refine ⟨st5.push (.argc (mid.length + ptrs.length)), ?_, ?_, push_swf _ _⟩
  · unfold builtinApply
    rcases hshape with hd | ⟨a, d, hd⟩ <;>
    · rw [hd] at e5
      simp only [pp1, outcome_bind_ok, asArgc, hnlt, if_false, pp2, hd, Bool.not_true, Bool.false_eq_true, hproc,
        Nat.add_sub_cancel, e3, pp3, e5, hu]
  · rw [pushAll_append]
    exact l5.push (pushAll_swf _ _ (pushAll_swf _ _ hw0)) w5 _

/-- one step: the same instruction is about to run again with `proc` in `acc` and `a₁ … aₖ, e₁ … eₘ` on the stack -/
theorem step_apply {s : MSt H} {tail : Bool} {id : Nat} {stk0 : Stack} {pg : Nat} {vl : VCell} {mid : List VCell}
    {ptrs : List Nat}
    (hl : ops.isLambda s.heap s.ipL = true)
    (h0 : ops.fetch s.heap s.ipL s.ipO = some (.opcode (if tail = true then .tcallAcc else .callAcc)))
    (hcal : ops.callee s.heap s.acc = .builtin id) (hkind : ops.builtinKind s.heap id = .apply)
    (hst : LiveEq ((pushAll stk0 (.ptr pg :: mid ++ [vl])).push (.argc (mid.length + 2))) s.stack)
    (hw0 : SWF stk0) (hw : SWF s.stack)
    (hml : MList ops s.heap vl ptrs) (hlen : ptrs.length + 1 ≤ 100000) :
    ∃ st', step ops s = .ok ({ s with stack := st', acc := .ptr pg }, false) ∧
      LiveEq ((pushAll stk0 (mid ++ ptrs.map VCell.ptr)).push (.argc (mid.length + ptrs.length))) st' ∧ SWF st' := by
  obtain ⟨st', e, h2, h3⟩ := builtinApply_ok (ops := ops) (s := { s with ipO := s.ipO + 1 }) hst hw0 hw hml hlen
    (Nat.succ_pos _)
  refine ⟨st', ?_, h2, h3⟩
  have hrb : runBuiltin ops id { s with ipO := s.ipO + 1 } = .ok { s with stack := st', acc := .ptr pg } := by
    unfold runBuiltin
    simp only [hkind, e, outcome_bind_ok]
    rfl
  cases tail
  · exact StepEff.run (readOpcode_eq hl h0) (.callBuiltin hcal hrb)
  · exact StepEff.run (readOpcode_eq hl h0) (.tcallBuiltin hcal hrb)

end Marwood.Lemmas.CompileCorrect3
