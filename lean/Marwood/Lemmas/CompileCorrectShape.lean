import Marwood.Lemmas.CompileCorrectDefs
import Marwood.Lemmas.CompileView
import Marwood.Lemmas.ProofsAuxCompileApp
/-!
# T01.3 — the code `compileExpr` emits for the forms of the fragments, in any binding context

Stage 1 uses these at the top-level context `c0`. The inversions are in the namespace `CompileCorrect2` and end in
`_inv2` ("any binding context"); every stage uses them.
-/
namespace Marwood.Lemmas.CompileCorrect
open Marwood Marwood.Vm
open Marwood.Spec.Eval (k_quote k_if_ k_setBang k_define k_lambda)

theorem emitLoc_c0 (s : Text) : emitLoc c0 s = .global s := by
  simp [emitLoc, Ctx.bindingLocation, c0]

theorem storeCode_c0 (s : Text) :
    storeCode c0 s = [.op .mov, .acc, .global s, .op .movImm, .void, .acc] := by
  simp [storeCode, emitLoc_c0]

/-! As `simp` facts these close the other cases of `compileExpr_view` in the inversions below
(`| _ => simp_all [selfEval]`): there `hk : headKind (.sym k_quote) = .define` and the like is false; `selfEval` is for
the case `const`. -/

@[simp] theorem headKind_quote : headKind (.sym k_quote) = .quote := by decide
@[simp] theorem headKind_if : headKind (.sym k_if_) = .ifForm := by decide
@[simp] theorem headKind_setBang : headKind (.sym k_setBang) = .setBang := by decide
@[simp] theorem headKind_define : headKind (.sym k_define) = .define := by decide
@[simp] theorem headKind_lambda : headKind (.sym k_lambda) = .lambda := by decide

end Marwood.Lemmas.CompileCorrect

namespace Marwood.Lemmas.CompileCorrect2
open Marwood Marwood.Vm Marwood.Lemmas.CompileCorrect
open Marwood.Spec.Eval (k_quote k_if_ k_setBang k_define k_lambda)

variable {fuel : Nat} {st st' : CState} {c : Ctx} {base : Nat} {tail : Bool} {code : List BC}

theorem compile_selfEval_inv2 {d : Datum} (hd : selfEval d = true)
    (h : compileExpr (fuel + 1) st c base tail d = .ok (st', code)) :
    code = [.op .movImm, .datum d, .acc] ∧ st' = st := by
  cases compileExpr_view h with
  | const => exact ⟨rfl, rfl⟩
  | _ => cases hd

theorem compile_sym_inv2 {s : Text} (h : compileExpr (fuel + 1) st c base tail (.sym s) = .ok (st', code)) :
    code = [.op .mov, emitLoc c s, .acc] ∧ st' = st := by
  cases compileExpr_view h with
  | sym => exact ⟨rfl, rfl⟩
  | const hd => cases hd

theorem compile_quote_inv2 {d rest : Datum}
    (h : compileExpr (fuel + 1) st c base tail (.pair (.sym k_quote) (.pair d rest)) = .ok (st', code)) :
    code = [.op .movImm, .datum d, .acc] ∧ st' = st := by
  cases compileExpr_view h with
  | quote => exact ⟨rfl, rfl⟩
  | _ => simp_all [selfEval]

theorem compile_setBang_inv2 {x : Text} {e : Datum}
    (h : compileExpr (fuel + 1) st c base tail
      (.pair (.sym k_setBang) (.pair (.sym x) (.pair e .nil))) = .ok (st', code)) :
    ∃ code1, compileExpr fuel st c base false e = .ok (st', code1) ∧
      code = code1 ++ [.op .mov, .acc, emitLoc c x, .op .movImm, .void, .acc] := by
  cases compileExpr_view h with
  | setBang _ hi _ h1 =>
    simp only [Datum.iter, List.cons.injEq, Datum.sym.injEq, and_true] at hi
    obtain ⟨rfl, rfl⟩ := hi
    exact ⟨_, h1, rfl⟩
  | _ => simp_all [selfEval]

theorem compile_define_inv2 {x : Text} {e : Datum}
    (h : compileExpr (fuel + 1) st c base tail
      (.pair (.sym k_define) (.pair (.sym x) (.pair e .nil))) = .ok (st', code)) :
    ∃ code1, compileExpr fuel st c base false e = .ok (st', code1) ∧
      code = code1 ++ [.op .mov, .acc, emitLoc c x, .op .movImm, .void, .acc] := by
  cases compileExpr_view h with
  | defineVar _ h1 => exact ⟨_, h1, rfl⟩
  | _ => simp_all [selfEval]

theorem compile_if2_inv2 {t cn : Datum}
    (h : compileExpr (fuel + 1) st c base tail
      (.pair (.sym k_if_) (.pair t (.pair cn .nil))) = .ok (st', code)) :
    ∃ st1 tcode ccode, compileExpr fuel st c base false t = .ok (st1, tcode) ∧
      compileExpr fuel st1 c (base + tcode.length + 2) tail cn = .ok (st', ccode) ∧
      code = tcode ++ [.op .jnt, .target (base + tcode.length + 2 + ccode.length + 2)] ++ ccode
              ++ [.op .jmp, .target (base + tcode.length + 2 + ccode.length + 2 + 3)]
              ++ [.op .movImm, .void, .acc] := by
  cases compileExpr_view h with
  | if2 _ hi h1 h2 =>
    simp only [Datum.iter, List.cons.injEq, and_true] at hi
    obtain ⟨rfl, rfl⟩ := hi
    exact ⟨_, _, _, h1, h2, rfl⟩
  | _ => simp_all [selfEval, Datum.iter]

theorem compile_if3_inv2 {t cn a : Datum}
    (h : compileExpr (fuel + 1) st c base tail
      (.pair (.sym k_if_) (.pair t (.pair cn (.pair a .nil)))) = .ok (st', code)) :
    ∃ st1 st2 tcode ccode acode, compileExpr fuel st c base false t = .ok (st1, tcode) ∧
      compileExpr fuel st1 c (base + tcode.length + 2) tail cn = .ok (st2, ccode) ∧
      compileExpr fuel st2 c (base + tcode.length + 2 + ccode.length + 2) tail a = .ok (st', acode) ∧
      code = tcode ++ [.op .jnt, .target (base + tcode.length + 2 + ccode.length + 2)] ++ ccode
              ++ [.op .jmp, .target (base + tcode.length + 2 + ccode.length + 2 + acode.length)]
              ++ acode := by
  cases compileExpr_view h with
  | if3 _ hi h1 h2 h3 =>
    simp only [Datum.iter, List.cons.injEq, and_true] at hi
    obtain ⟨rfl, rfl, rfl⟩ := hi
    exact ⟨_, _, _, _, _, h1, h2, h3, rfl⟩
  | _ => simp_all [selfEval, Datum.iter]

theorem compile_app_inv2 {f rest : Datum} (hf : AppHead f)
    (h : compileExpr (fuel + 1) st c base tail (.pair f rest) = .ok (st', code)) :
    ∃ st1 code1 n pcode, compileArgs fuel st c base rest = .ok (st1, code1, n) ∧
      compileExpr fuel st1 c (base + code1.length + 2) false f = .ok (st', pcode) ∧
      code = code1 ++ [.op .pushImm, .argc n] ++ pcode ++ [.op (if tail then .tcallAcc else .callAcc)] :=
  compileExpr_app_inv hf.1 h

theorem compileArgs_pair_inv2 {a d : Datum} {n : Nat}
    (h : compileArgs (fuel + 1) st c base (.pair a d) = .ok (st', code, n)) :
    ∃ st1 code1 code2 n2, compileExpr fuel st c base false a = .ok (st1, code1) ∧
      compileArgs fuel st1 c (base + code1.length + 1) d = .ok (st', code2, n2) ∧
      code = code1 ++ [.op .pushAcc] ++ code2 ∧ n = n2 + 1 := by
  cases compileArgs_view h with
  | cons h1 h2 => exact ⟨_, _, _, _, h1, h2, rfl, rfl⟩
  | nil hr => cases hr

theorem compileArgs_nil_inv2 {n : Nat}
    (h : compileArgs (fuel + 1) st c base .nil = .ok (st', code, n)) : code = [] ∧ n = 0 ∧ st' = st := by
  cases compileArgs_view h; exact ⟨rfl, rfl, rfl⟩

theorem compileBody_pair_inv {x rest : Datum}
    (h : compileBody (fuel + 1) st c base (.pair x rest) = .ok (st', code)) :
    ∃ st1 code1 code2, compileExpr fuel st c base rest.isNil x = .ok (st1, code1) ∧
      compileBody fuel st1 c (base + code1.length) rest = .ok (st', code2) ∧ code = code1 ++ code2 := by
  cases compileBody_view h with
  | cons h1 h2 => exact ⟨_, _, _, h1, h2, rfl⟩
  | nil hr => cases hr

theorem compileBody_nil_inv (h : compileBody (fuel + 1) st c base .nil = .ok (st', code)) :
    code = [] ∧ st' = st := by
  cases compileBody_view h; exact ⟨rfl, rfl⟩

end Marwood.Lemmas.CompileCorrect2
