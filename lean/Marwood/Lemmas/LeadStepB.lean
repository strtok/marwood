import Marwood.Lemmas.LeadStepA
/-!
# "No value leads to a code object of class `K`" across `run_one`, opcode by opcode (2): CONS VPUSH CLOSURE VARARG

CLOSURE takes `TInv`: `acc` may be the pointer to a `K` lambda the exempt `MOVIMM _ %acc` before it loaded; it is
overwritten by the pointer to the new closure cell.
-/
namespace Marwood.Lemmas.Lead
open Marwood.Lemmas.Good Marwood Marwood.Vm Marwood.Vm.Verify Marwood.Vm.Concrete Marwood.Lemmas.Sim
open Marwood.Heap (GcState)
open StepB

variable {I : Spec}

theorem putV_pv {h h' : CHeap} (lf : LF h) (hp : HP I h) {v r : VCell} (hv : valX I h v = true)
    (e : putV h v = (h', r)) : OpRes I h h' ∧ ne I h' r = true := by
  have := putV_res lf hp hv
  rw [e] at this
  exact this

section
variable {ext : ExtOps}

theorem varargCollect_pv : ∀ (k : Nat) {h h' : CHeap} {acc l : Nat} {st st' : Stack} {B : Nat},
    varargCollect (concreteOps ext) k h acc st = .ok (h', l, st') → LF h → HP I h → bad I h acc = false →
    (∀ i v, i ≤ st.sp → st.sp < i + k → st.cells[i]? = some v → plainGlob v = true) → SM I h st B →
    OpRes I h h' ∧ bad I h' l = false ∧ st'.cells = st.cells ∧ st'.sp ≤ st.sp := by
  intro k
  induction k with
  | zero =>
    intro h h' acc l st st' B hr lf hp hacc _ _
    simp only [varargCollect] at hr
    cases hr
    exact ⟨.refl hp lf, hacc, rfl, Nat.le_refl _⟩
  | succ k ih =>
    intro h h' acc l st st' B hr lf hp hacc hc hsm
    obtain ⟨v, h1, a, h2, p, hpos, hcell, e1, e2, hr⟩ := varargCollect_succ hr
    have hv := hc st.sp v (Nat.le_refl _) (by omega) hcell
    have hvn : ne I h v = true := hsm _ _ (.inr (Nat.le_refl _)) hcell
    obtain ⟨r1, n1⟩ := putV_pv lf hp (valX_of_value hv hvn) e1
    have hacc1 : bad I h1 acc = false := by rw [r1.ls.bad]; exact hacc
    obtain ⟨r2, n2⟩ := putV_pv r1.lf r1.hp (valX_pair (ptr_bad n1) hacc1) e2
    have hsm2 : SM I h2 { st with sp := st.sp - 1 } B := (hsm.resp (st' := { st with sp := st.sp - 1 }) rfl (.inr (by show st.sp - 1 ≤ st.sp; omega))).heap (r1.trans r2).eshr
    obtain ⟨r3, k2, k3, k4⟩ := ih hr r2.lf r2.hp (ptr_bad n2)
      (fun i w hi hlt hw => hc i w (by simp only at hi; omega) (by simp only at hlt; omega) hw) hsm2
    exact ⟨(r1.trans r2).trans r3, k2, k3, by simp only at k4; omega⟩

end

section
variable {ext : ExtOps} {s0 : St CHeap}

theorem pv_cons {s' : St CHeap} {b : Bool} (lf : LF s0.heap) (sd : StackDisc s0) (p : PInv I s0) (hop : opAt s0 .cons)
    (hx : exec (concreteOps ext) .cons (nx s0) = .ok (s', b)) : PInv I s' := by
  obtain ⟨d, a, h1, d', h2, a', h3, pp, hsp, hc1, hc2, e1, e2, e3, rfl⟩ := cons_effect hx
  have pd := sd.cons hop _ d (Nat.le_refl _) (by omega) hc1
  have pa := sd.cons hop _ a (by omega) (by omega) hc2
  have nd : ne I s0.heap d = true := p.stk _ _ (Nat.le_refl _) hc1
  have na : ne I s0.heap a = true := p.stk _ _ (by omega) hc2
  obtain ⟨r1, n1⟩ := putV_pv lf p.hp (valX_of_value pd nd) e1
  obtain ⟨r2, n2⟩ := putV_pv r1.lf r1.hp (r1.valX (valX_of_value pa na)) e2
  have hd2 : bad I h2 d' = false := by rw [r2.ls.bad]; exact ptr_bad n1
  obtain ⟨r3, n3⟩ := putV_pv r2.lf r2.hp (valX_pair (ptr_bad n2) hd2) e3
  exact PInv.mkRes (s := s0) ((r1.trans r2).trans r3) n3 (p.sm.cut (.inl (by omega)))

theorem pv_vpush {s' : St CHeap} {b : Bool} (ep : ExtLead I ext) (g : GoodI s0) (lf : LF s0.heap) (p : PInv I s0)
    (hx : exec (concreteOps ext) .vpushAcc (nx s0) = .ok (s', b)) : PInv I s' := by
  obtain ⟨v, h', _, hcell, h2, rfl⟩ := vpush_effect hx
  have nv : ne I s0.heap v = true := p.stk _ _ (Nat.le_refl _) hcell
  obtain ⟨hp', es⟩ := ep.vpush s0.heap (deref s0.heap v) s0.acc h' p.hp lf g.accv p.acc h2
  exact ⟨hp', es.ne nv, ((p.sm.cut (.inr (Nat.sub_le _ 1))).heap es).stk⟩

theorem pv_closure {s' : St CHeap} {b : Bool} (g : GoodI s0) (lf : LF s0.heap) (p : TInv I s0)
    (hx : exec (concreteOps ext) .closureAcc (nx s0) = .ok (s', b)) : PInv I s' := by
  obtain ⟨lam, h', c, hacc, h2, rfl⟩ := closure_effect hx
  have hne : bad I s0.heap lam = false ∨ I.site = true := by
    rcases p.acc with h | ⟨hs, _⟩
    · exact .inl (ptr_bad (hacc ▸ h))
    · exact .inr hs
  have hno : ∀ l, lambdaAt s0.heap lam = some l → ∀ x ∈ l.envmap, ∀ n, x.2 ≠ Source.iofArg n :=
    fun l hl => (g.hg.lam _ l (lambdaAt_iff.mp hl)).noIof
  obtain ⟨r, hc⟩ := makeClosure_res lf p.hp hne hno h2
  exact PInv.mkRes (s := s0) r hc p.sm

theorem pv_varArg {s' : St CHeap} {b : Bool} (lf : LF s0.heap) (sd : StackDisc s0) (p : PInv I s0) (hop : opAt s0 .varArg)
    (hx : exec (concreteOps ext) .varArg (nx s0) = .ok (s', b)) : PInv I s' := by
  obtain ⟨argc, hcA, _, hcase⟩ := varArg_effect hx
  have ab := sd.enter (.inr hop) argc hcA
  rcases hcase with ⟨v, hp1, a', hp2, n', hp3, pp, st, _, _, hcV, e1, e2, e3, hst, rfl⟩ |
    ⟨req, c1, c2, hp1, n', hp2, lst, st4, _, hc1, hc2, e1, hcol, rfl⟩
  · have pv := ab _ v (by omega) (by omega) hcV
    have nv : ne I s0.heap v = true := p.stk _ _ (by omega) hcV
    obtain ⟨r1, m1⟩ := putV_pv lf p.hp (valX_of_value pv nv) e1
    obtain ⟨r2, m2⟩ := putV_pv r1.lf r1.hp (v := .nil) rfl e2
    have ha2 : bad I hp2 a' = false := by rw [r2.ls.bad]; exact ptr_bad m1
    obtain ⟨r3, m3⟩ := putV_pv r2.lf r2.hp (valX_pair ha2 (ptr_bad m2)) e3
    have rr := (r1.trans r2).trans r3
    have hsm : SM I hp3 st s0.stack.sp := (p.sm.heap rr.eshr).setOffset m3 hst
    exact ⟨rr.hp, rr.ne p.acc, hsm.stk⟩
  · have nc1 : ne I s0.heap c1 = true := p.stk _ _ (Nat.le_refl _) hc1
    have nc2 : ne I s0.heap c2 = true := p.stk _ _ (by omega) hc2
    obtain ⟨r1, m1⟩ := putV_pv lf p.hp (v := .nil) rfl e1
    have hsm1 : SM I hp1 { s0.stack with sp := s0.stack.sp - 3 } s0.stack.sp :=
      (p.sm.resp (st' := { s0.stack with sp := s0.stack.sp - 3 }) rfl
        (.inl (by show s0.stack.sp - 3 ≤ s0.stack.sp; omega))).heap r1.eshr
    obtain ⟨r2, k2, k3, k4⟩ := varargCollect_pv _ hcol r1.lf r1.hp (ptr_bad m1)
      (fun i w hi hlt hw => by
        have hi' : i ≤ s0.stack.sp - 3 := hi
        have hlt' : s0.stack.sp - 3 < i + (argc - req) := hlt
        have hw' : s0.stack.cells[i]? = some w := hw
        exact ab i w (by omega) (by omega) hw') hsm1
    have rr := r1.trans r2
    have k4' : st4.sp ≤ s0.stack.sp - 3 := k4
    have hsm4 : SM I hp2 st4 s0.stack.sp := (hsm1.heap r2.eshr).resp k3 (.inl (by omega))
    have nl : ne I hp2 (.ptr lst) = true := by simp only [ne_ptr, k2]; rfl
    have hfin := (((hsm4.push nl).push (v := .argc (req + 1)) rfl).push (rr.ne nc2)).push (rr.ne nc1)
    exact ⟨rr.hp, rr.ne p.acc, hfin.stk⟩

end

end Marwood.Lemmas.Lead
