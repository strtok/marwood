import Marwood.Lemmas.LeadStepA
/-!
# "No value leads to a code object of class `K`" across `run_one`: CALL, the builtins, invoking a continuation

The stack clause is tracked (`SM`) through every stack operation. `eval`'s compiler may create `K` lambdas at fresh
addresses (`EKeep`): `acc` and the live stack cells are roots (`GoodI`), so they still do not point to one.
-/
namespace Marwood.Lemmas.Lead
open Marwood.Lemmas.Good Marwood Marwood.Vm Marwood.Vm.Verify Marwood.Vm.Concrete Marwood.Lemmas.Sim
open Marwood.Heap (GcState)

variable {I : Spec}
open StepC

section
variable {ext : ExtOps}

theorem invokeCont_pv {s s' : St CHeap} {c : Cont} (g : GoodI s) (p : PInv I s)
    (hc : callee s.heap s.acc = .continuation c) (h : invokeCont s c = .ok s') : PInv I s' := by
  obtain ⟨q, _, hcell⟩ := callee_cont_cell hc
  have hcn := cont_cells_ne p.hp hcell
  have hlen := g.hg.plain.conts q c hcell
  obtain ⟨n, r, hsp, _, _, hr, _, rfl⟩ := invokeCont_iff.mp h
  refine ⟨p.hp, p.stk _ _ (by omega) hr, fun i v hi hv => ?_⟩
  simp only [contSt] at hi hv
  rw [List.getElem?_append_left (by omega)] at hv
  exact hcn v (List.mem_of_getElem? hv)

end

theorem sm_getOffset_neg {h : CHeap} {st : Stack} {B : Nat} (x : SM I h st B) {k : Nat} {v : VCell}
    (hg : st.getOffset (-(k : Int)) = .ok v) : ne I h v = true := by
  obtain ⟨_, r2⟩ := getOffset_inv hg
  exact x _ _ (.inr (by omega)) r2

theorem applyShift_sm {h : CHeap} {B : Nat} :
    ∀ (k : Nat) (st st' : Stack), builtinApply.shift k st = .ok st' → SM I h st B → SM I h st' B := by
  intro k
  induction k with
  | zero =>
    intro st st' hs x
    simp only [builtinApply.shift] at hs
    cases hs
    exact x
  | succ k ih =>
    intro st st' hs x
    simp only [builtinApply.shift] at hs
    obtain ⟨v, hv, hs⟩ := bind_inv hs
    obtain ⟨st1, hs1, hs⟩ := bind_inv hs
    exact ih st1 st' hs (x.setOffset (sm_getOffset_neg x hv) hs1)

theorem applyPushList_sm {ext : ExtOps} {s : St CHeap} (hp : HP I s.heap) {B : Nat} :
    ∀ (fuel : Nat) (rest : VCell) (n : Nat) (st : Stack) (n' : Nat) (st' : Stack),
      builtinApply.pushList (concreteOps ext) s fuel rest n st = .ok (n', st') → valX I s.heap rest = true →
      SM I s.heap st B → SM I s.heap st' B := by
  intro fuel
  induction fuel with
  | zero => intro rest n st n' st' h; simp only [builtinApply.pushList] at h; cases h
  | succ fuel ih =>
    intro rest n st n' st' h hv x
    simp only [builtinApply.pushList] at h
    split at h
    · rename_i car cdr
      have hv' : (!bad I s.heap car && !bad I s.heap cdr) = true := hv
      simp only [Bool.and_eq_true] at hv'
      have hcar : ne I s.heap (.ptr car) = true := hv'.1
      have hcdr : ne I s.heap (.ptr cdr) = true := hv'.2
      exact ih _ _ _ _ _ h (deref_valX hp rfl hcdr) (x.push hcar)
    · cases h
      exact x
    · cases h

section
variable {ext : ExtOps} {s s2 : St CHeap} {v : VCell}

def BRes (I : Spec) (s2 : St CHeap) (v : VCell) : Prop :=
  HP I s2.heap ∧ LF s2.heap ∧ SM I s2.heap s2.stack s2.stack.sp ∧ valX I s2.heap v = true

theorem builtinApply_pv (lf : LF s.heap) (hblk : ArgBlock s.stack s.stack.sp) (p : PInv I s)
    (h : builtinApply (concreteOps ext) s = .ok (s2, v)) : BRes I s2 v := by
  obtain ⟨argc, top, st2, st3, x0, st4, n, st5, hge, k1, p2, q2, e2, c2, r1, r2, h5, h6, h7, _, rfl⟩ :=
    builtinApply_effect h
  have sm2 : SM I s.heap st2 s.stack.sp := p.sm.resp c2 (.inl (by omega))
  -- the list argument
  have hrest : valX I s.heap (deref s.heap top) = true :=
    deref_valX p.hp (hblk argc p2 _ _ (by omega) (by omega) q2) (p.stk _ _ (by omega) q2)
  -- the procedure
  have hne : ne I s.heap v = true := p.stk _ _ (by omega) r2
  have hpg : plainGlob v = true := hblk argc p2 _ _ (by omega) (by omega) r2
  have sm3 := applyShift_sm _ _ _ h5 sm2
  obtain ⟨_, sm4, _, _⟩ := sm3.pop h6
  have sm5 := applyPushList_sm (ext := ext) p.hp _ _ _ _ _ _ h7 hrest sm4
  have sm6 : SM I s.heap (st5.push (.argc n)) s.stack.sp := sm5.push rfl
  exact ⟨p.hp, lf, SM.of_stk sm6.stk, valX_of_value hpg hne⟩

theorem builtinCallcc_pv (lf : LF s.heap) (hblk : ArgBlock s.stack s.stack.sp) (p : PInv I s)
    (h : builtinCallcc (concreteOps ext) s = .ok (s2, v)) : BRes I s2 v := by
  obtain ⟨st2, k1, p2, q2, e2, c2, _, _, rfl⟩ := builtinCallcc_effect h
  have sm2 : SM I s.heap st2 s.stack.sp := p.sm.resp c2 (.inl (by omega))
  have hne : ne I s.heap v = true := p.stk _ _ (by omega) q2
  have hpg : plainGlob v = true := hblk 1 p2 _ _ (by omega) (by omega) q2
  have hcells : ∀ w ∈ (st2.cells.take (st2.sp + 1)), ne I s.heap w = true := by
    intro w hw
    obtain ⟨i, hi, hv⟩ := mem_take_succ.mp hw
    exact sm2 i w (.inr hi) hv
  obtain ⟨r, he⟩ := newCont_res lf p.hp
    (k := ⟨⟨st2.cells.take (st2.sp + 1), st2.sp⟩, s.ep, s.ipL, s.ipO, s.bp⟩) hcells
  have hk : ne I (cput s.heap (.cont ⟨⟨st2.cells.take (st2.sp + 1), st2.sp⟩, s.ep, s.ipL, s.ipO, s.bp⟩)).1
      (.ptr (cput s.heap (.cont ⟨⟨st2.cells.take (st2.sp + 1), st2.sp⟩, s.ep, s.ipL, s.ipO, s.bp⟩)).2) = true := by
    simp only [ne_ptr, he]; rfl
  have sm3 := ((sm2.heap r.eshr).push hk).push (v := .argc 1) rfl
  exact ⟨r.hp, r.lf, SM.of_stk sm3.stk, r.valX (valX_of_value hpg hne)⟩

theorem SM.keep {h h' : CHeap} {st : Stack} {B : Nat} (x : SM I h st B) (ek : EKeep I h h')
    (hr : ∀ (i : Nat) (v : VCell), (i ≤ B ∨ i ≤ st.sp) → st.cells[i]? = some v → VRefsOk h v) : SM I h' st B :=
  fun i v hi hv => ek v (hr i v hi hv) (x i v hi hv)

theorem builtinEvalProc_pv (ep : ExtLead I ext) (ecl : ExtCodeLawsV ext) (g : GoodI s) (ci : CInvG IsValue s.heap)
    (hblk : ArgBlock s.stack s.stack.sp) (p : PInv I s)
    (h : builtinEvalProc (concreteOps ext) s = .ok (s2, v)) : BRes I s2 v := by
  obtain ⟨e, st2, h', k1, p2, q2, e2, c2, h4, _, rfl⟩ := builtinEvalProc_effect h
  have sm2 : SM I s.heap st2 s.stack.sp := p.sm.resp c2 (.inl (by omega))
  have hne : ne I s.heap e = true := p.stk _ _ (by omega) q2
  have hpg : plainGlob e = true := hblk 1 p2 _ _ (by omega) (by omega) q2
  obtain ⟨r1, r2, r3⟩ := ep.compile _ _ _ _ p.hp (LF.of_cinv ci) (deref_valX p.hp hpg hne) h4
  have lf' : LF h' := LF.of_cinv (ecl.compileEval ci h4).1
  have hrefs : ∀ (i : Nat) (w : VCell), (i ≤ s.stack.sp ∨ i ≤ st2.sp) → st2.cells[i]? = some w → VRefsOk s.heap w := by
    intro i w hi hw
    rw [c2] at hw
    exact roots_stack g.roots (by omega) hw
  have sm3 : SM I h' (st2.push (.argc 0)) s.stack.sp := (sm2.keep r2 hrefs).push rfl
  exact ⟨r1, lf', SM.of_stk sm3.stk, r3⟩

theorem builtinGeneric_pv {id : Nat} (ep : ExtLead I ext) (ecl : ExtCodeLawsV ext) (ci : CInvG IsValue s.heap)
    (hblk : ArgBlock s.stack s.stack.sp) (p : PInv I s)
    (h : builtinGeneric (concreteOps ext) id s = .ok (s2, v)) : BRes I s2 v := by
  obtain ⟨argc, args, st2, h', p2, c2, e2, q3, h4, rfl⟩ := builtinGeneric_effect h
  have hargs : ∀ x ∈ args, plainGlob x = true ∧ ne I s.heap x = true := by
    intro x hx
    obtain ⟨i, i1, i2, i3⟩ := q3 x hx
    exact ⟨hblk argc p2 i x (by omega) (by omega) i3, p.stk i x (by omega) i3⟩
  obtain ⟨r1, r2, r3⟩ := ep.eval _ _ _ _ _ p.hp (LF.of_cinv ci) hargs h4
  have lf' : LF h' := LF.of_cinv (ecl.builtinEval ci h4).1
  have sm3 : SM I h' st2 s.stack.sp := (p.sm.resp c2 (.inl (by omega))).heap r2
  exact ⟨r1, lf', SM.of_stk sm3.stk, r3⟩

theorem runBuiltin_pv {id : Nat} {s s' : St CHeap} (ep : ExtLead I ext) (ecl : ExtCodeLawsV ext) (g : GoodI s)
    (ci : CInvG IsValue s.heap) (hblk : ArgBlock s.stack s.stack.sp) (p : PInv I s)
    (hr : runBuiltin (concreteOps ext) id s = .ok s') : PInv I s' := by
  rw [runBuiltin_accTail] at hr
  obtain ⟨⟨s2, v⟩, h1, hr⟩ := bind_inv hr
  have lf : LF s.heap := LF.of_cinv ci
  have key : BRes I s2 v := by
    cases hk : (concreteOps ext).builtinKind s.heap id <;> rw [hk] at h1 <;> simp only at h1
    · exact builtinApply_pv lf hblk p h1
    · exact builtinEvalProc_pv ep ecl g ci hblk p h1
    · exact builtinCallcc_pv lf hblk p h1
    · exact builtinGeneric_pv ep ecl ci hblk p h1
  obtain ⟨k1, k2, k5, k6⟩ := key
  cases (accTail_eq ext s2 v).symm.trans hr
  obtain ⟨r, hne⟩ := maybePutV_res k2 k1 k6
  exact ⟨r.hp, hne, (k5.heap r.eshr).stk⟩

theorem pv_call {s0 s' : St CHeap} {b : Bool} (ep : ExtLead I ext) (ecl : ExtCodeLawsV ext) (g : GoodI s0)
    (ci : CInvG IsValue s0.heap) (sd : StackDisc s0) (p : PInv I s0) (hop : opAt s0 .callAcc)
    (hx : exec (concreteOps ext) .callAcc (nx s0) = .ok (s', b)) : PInv I s' := by
  have hblk : ArgBlock (nx s0).stack (nx s0).stack.sp := sd.call (.inl hop)
  cases exec_eff hx with
  | callBuiltin _ h1 => exact runBuiltin_pv ep ecl g.nx ci hblk p.nx h1
  | callCont hc h1 => exact invokeCont_pv g.nx p.nx hc h1
  | callProc _ => exact p.mk' rfl p.acc ((p.sm.push (v := .envPtr s0.ep) rfl).push (v := .instrPtr s0.ipL (s0.ipO + 1)) rfl)

end

end Marwood.Lemmas.Lead
