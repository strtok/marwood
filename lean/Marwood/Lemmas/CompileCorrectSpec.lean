import Marwood.Lemmas.CompileCorrectDefs
/-!
# T01.3 — `Spec.Eval` on the forms of the fragments, for every stage

The forms as equations of the specification (`evalStep_sym`, `evalStep_if2/3`, `evalStep_setBang`, `evalStep_app`,
`evalArgs_cons` …), read with `bind_ok` / `bind_err` / `bind_timeout` by cases on the first result: this is what the
simulation (`CompileSim*`, stage 1 in place) uses. The inversions (`bind_ok_inv`, `bind_err_inv`, `pure_ok_inv` …)
serve the leaves that start from a given outcome.
-/
namespace Marwood.Lemmas.CompileCorrect
open Marwood
open Marwood.Spec.Eval

theorem bind_ok_inv {α β : Type} {m : M α} {f : α → M β} {σ σ' : SSt} {b : β}
    (h : (m >>= f) σ = .ok b σ') : ∃ a σ1, m σ = .ok a σ1 ∧ f a σ1 = .ok b σ' := by
  change M.bind' m f σ = _ at h
  unfold M.bind' at h
  cases hm : m σ with
  | ok a σ1 => rw [hm] at h; exact ⟨a, σ1, rfl, h⟩
  | err e σ1 => rw [hm] at h; cases h
  | timeout => rw [hm] at h; cases h

theorem pure_ok_inv {α : Type} {a b : α} {σ σ' : SSt} (h : (pure a : M α) σ = .ok b σ') : b = a ∧ σ' = σ := by
  change Res.ok a σ = _ at h
  injection h with h1 h2
  exact ⟨h1.symm, h2.symm⟩

theorem throw_ne_ok {α : Type} {e : ErrClass} {b : α} {σ σ' : SSt} : (throw e : M α) σ ≠ .ok b σ' := by
  intro h; cases h

theorem bind_err_inv {α β : Type} {m : M α} {f : α → M β} {σ σ' : SSt} {c : ErrClass}
    (h : (m >>= f) σ = .err c σ') : m σ = .err c σ' ∨ ∃ a σ1, m σ = .ok a σ1 ∧ f a σ1 = .err c σ' := by
  change M.bind' m f σ = _ at h
  unfold M.bind' at h
  cases hm : m σ with
  | ok a σ1 => rw [hm] at h; exact .inr ⟨a, σ1, rfl, h⟩
  | err e σ1 => rw [hm] at h; injection h with h1 h2; subst h1 h2; exact .inl rfl
  | timeout => rw [hm] at h; cases h

theorem pure_ne_err {α : Type} {a : α} {σ σ' : SSt} {c : ErrClass} : (pure a : M α) σ ≠ .err c σ' := by
  intro h; cases h

theorem throw_err_inv {α : Type} {e c : ErrClass} {σ σ' : SSt} (h : (throw e : M α) σ = .err c σ') :
    c = e ∧ σ' = σ := by
  injection h with h1 h2; exact ⟨h1.symm, h2.symm⟩

theorem quoteVal_of_atom {d : Datum} (hd : IsAtom d) (σ : SSt) :
    quoteVal d σ = match atomVal d with | some w => .ok w σ | none => .err .syntax σ := by
  cases d with
  | num n =>
    unfold quoteVal
    show _ = match (intOfNum n).map Val.int with | some w => Res.ok w σ | none => Res.err .syntax σ
    cases intOfNum n <;> rfl
  | _ => first | rfl | (rcases hd with hd | ⟨n, hn⟩ <;> simp [atomVal] at *)

theorem quoteVal_atom {d : Datum} (hd : IsAtom d) {σ σ' : SSt} {w : Val} (h : quoteVal d σ = .ok w σ') :
    atomVal d = some w ∧ σ' = σ := by
  rw [quoteVal_of_atom hd] at h
  cases ha : atomVal d <;> rw [ha] at h <;> cases h
  exact ⟨rfl, rfl⟩

variable {r : Rec}

theorem kwOf_quote : kwOf k_quote = some .quote := by decide
theorem kwOf_if : kwOf k_if_ = some .if_ := by decide
theorem kwOf_setBang : kwOf k_setBang = some .setBang := by decide

theorem evalStep_quote (d rest : Datum) (ρ : Env) :
    evalStep r (.pair (.sym k_quote) (.pair d rest)) ρ = quoteVal d := by
  simp only [evalStep, kwOf_quote, evalKw]

theorem properList_pair_inv {a d : Datum} {es : List Datum} (h : properList (.pair a d) = some es) :
    ∃ es', properList d = some es' ∧ es = a :: es' := by
  simp only [properList] at h
  cases hd : properList d with
  | none => rw [hd] at h; cases h
  | some es' => rw [hd] at h; injection h with h; exact ⟨es', rfl, h.symm⟩

/-! The forms as equations, and the monad by cases on the first result: with these a proof about a form follows the
specification whatever its result is; the inversions above serve a proof that starts from one given result. -/

theorem bind_ok {α β : Type} {m : M α} {k : α → M β} {σ σ1 : SSt} {a : α} (h : m σ = .ok a σ1) :
    (m >>= k) σ = k a σ1 := by
  change M.bind' m k σ = _; unfold M.bind'; rw [h]

theorem bind_err {α β : Type} {m : M α} {k : α → M β} {σ σ1 : SSt} {c : ErrClass} (h : m σ = .err c σ1) :
    (m >>= k) σ = .err c σ1 := by
  change M.bind' m k σ = _; unfold M.bind'; rw [h]

theorem bind_timeout {α β : Type} {m : M α} {k : α → M β} {σ : SSt} (h : m σ = .timeout) :
    (m >>= k) σ = .timeout := by
  change M.bind' m k σ = _; unfold M.bind'; rw [h]

theorem eq_false_of_not_truthy {v : Val} (h : ¬ truthy v = true) : v = .bool false := by
  cases v <;> simp [truthy] at h ⊢
  rename_i b; cases b <;> simp at h ⊢

theorem not_false_of_truthy {v : Val} (h : truthy v = true) : v ≠ .bool false := by
  intro e; subst e; simp [truthy] at h

theorem evalStep_sym (x : Text) (ρ : Env) (σ : SSt) :
    evalStep r (.sym x) ρ σ =
      if reserved x = true then .err .syntax σ else
      match ρ.lookup x with
      | some l => (match σ.store[l]? with | some (.var v) => .ok v σ | _ => .err .internal σ)
      | none => (match σ.globals.lookup x with | some v => .ok v σ | none => .err .unbound σ) := by
  change evalVar x ρ σ = _
  unfold evalVar
  split
  · rfl
  cases ρ.lookup x with
  | some l =>
    show (readCell l >>= fun c => match c with | .var v => pure v | _ => throw .internal) σ
      = (match σ.store[l]? with | some (.var v) => .ok v σ | _ => .err .internal σ)
    cases hs : σ.store[l]? with
    | none => rw [bind_err (show readCell l σ = .err .internal σ by unfold readCell; rw [hs])]
    | some c => rw [bind_ok (show readCell l σ = .ok c σ by unfold readCell; rw [hs])]; cases c <;> rfl
  | none =>
    change getGlobal x σ = _
    unfold getGlobal
    cases σ.globals.lookup x <;> rfl

theorem evalStep_if3 (t c a : Datum) (ρ : Env) :
    evalStep r (.pair (.sym k_if_) (.pair t (.pair c (.pair a .nil)))) ρ
      = (r.eval t ρ >>= fun v => if truthy v = true then r.eval c ρ else r.eval a ρ) := by
  simp only [evalStep, kwOf_if, evalKw, properList, Option.map]

theorem evalStep_if2 (t c : Datum) (ρ : Env) :
    evalStep r (.pair (.sym k_if_) (.pair t (.pair c .nil))) ρ
      = (r.eval t ρ >>= fun v => if truthy v = true then r.eval c ρ else pure .void) := by
  simp only [evalStep, kwOf_if, evalKw, properList, Option.map]

theorem evalStep_setBang (x : Text) (e : Datum) (ρ : Env) :
    evalStep r (.pair (.sym k_setBang) (.pair (.sym x) (.pair e .nil))) ρ
      = if reserved x = true then Spec.Eval.throw .syntax
        else (r.eval e ρ >>= fun v => assignVar ρ x v >>= fun _ => pure .void) := by
  simp only [evalStep, kwOf_setBang, evalKw, properList, Option.map]

theorem assignVar_unbound {x : Text} {v : Val} {σ : SSt} (hl : σ.globals.lookup x = none) :
    assignVar [] x v σ = .err .unbound σ := by
  simp only [assignVar, List.lookup, setGlobal, hl]

theorem evalStep_app {f rest : Datum} (hf : AppHead f) (ρ : Env) {es : List Datum} (hpl : properList rest = some es) :
    evalStep r (.pair f rest) ρ = (evalArgs r ρ es >>= fun vs => r.eval f ρ >>= fun fv => r.apply fv vs) := by
  cases f with
  | sym s => have hk := hf.2 s rfl; simp only [evalStep, hk, hpl]
  | _ => simp only [evalStep, hpl]

theorem evalStep_app_none {f rest : Datum} (hf : AppHead f) (ρ : Env) (hpl : properList rest = none) :
    evalStep r (.pair f rest) ρ = Spec.Eval.throw .syntax := by
  cases f with
  | sym s => have hk := hf.2 s rfl; simp only [evalStep, hk, hpl]
  | _ => simp only [evalStep, hpl]

theorem evalArgs_cons (ρ : Env) (e : Datum) (es : List Datum) :
    evalArgs r ρ (e :: es) = (r.eval e ρ >>= fun v => evalArgs r ρ es >>= fun vs => pure (v :: vs)) := rfl

theorem applyStep_other {fv : Val} (ws : List Val) (σ : SSt) (hp : ∀ p, fv ≠ .prim p)
    (hc : ∀ a b c d, fv ≠ .closure a b c d) : applyStep r fv ws σ = .err .notProcedure σ := by
  cases fv <;> first | rfl | exact absurd rfl (hp _) | exact absurd rfl (hc _ _ _ _)

theorem apply_other {n : Nat} {fv : Val} (ws : List Val) (σ : SSt) (hp : ∀ p, fv ≠ .prim p)
    (hc : ∀ a b c d, fv ≠ .closure a b c d) :
    (evalN n).apply fv ws σ = .timeout ∨ (evalN n).apply fv ws σ = .err .notProcedure σ := by
  cases n with
  | zero => exact .inl rfl
  | succ m => exact .inr (applyStep_other ws σ hp hc)

end Marwood.Lemmas.CompileCorrect
