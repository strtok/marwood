import Marwood.Lemmas.CompileCorrect2Lambda
import Marwood.Lemmas.CompileCorrect3Cases
import Marwood.Lemmas.CompileCorrect3Spec
/-!
# T01.3 stage 3 — `lambda` (any formals, leading internal definitions): `MOV-IMMEDIATE <lambda> %acc; CLOSURE`
leaves a representation of the closure
-/
namespace Marwood.Lemmas.CompileCorrect3
open Marwood Marwood.Vm Marwood.Lemmas.CompileCorrect Marwood.Lemmas.CompileCorrect2
open Marwood.Spec.Eval (Val Prim Cell Env evalN evalStep applyStep evalArgs properList quoteVal kwOf insertG
  k_quote k_if_ k_setBang k_define k_lambda)

variable {H : Type} {ops : HeapOps H} {D : RepData2 ops}

theorem F3K_proper_aux {G : Text → Prop} : ∀ {f : Nat} {c : Ctx} {ns us : Text → Prop} {Bs todo ints : List Text}
    {bodyD : Datum}, F3K G f c ns us Bs todo ints bodyD → ∃ body, properList bodyD = some body :=
  fun h => let ⟨b, hb, _⟩ := F3K_shape h; ⟨b, hb⟩

theorem F3B_cons {G : Text → Prop} {f : Nat} {c : Ctx} {ns us : Text → Prop} {ints : List Text} {bodyD : Datum}
    (h : F3B G f c ns us ints bodyD) : ∃ b bs, properList bodyD = some (b :: bs) := by
  obtain ⟨bl, hbl, _, hne⟩ := F3B_shape h
  cases bl with
  | nil => exact absurd rfl hne
  | cons b bs => exact ⟨b, bs, hbl⟩

/-- `MOV-IMMEDIATE <lambda> %acc; CLOSURE` for a registered code object. The demand on captured locations is a parameter
    (inside a block it is `BlkP`, not `InitM`): `P` is what the current environment guarantees of a readable name, `P'`
    what the closure records of a captured location -/
theorem closure_core0 (L : Laws3 D) {P : Nat → Nat → Prop} {P' : H → Nat → Nat → Prop}
    {f : Nat} {cst st1 : CState} {c : Ctx} {body : Datum} {bcode : List BC} {ρ : Env} {us : Text → Prop}
    {p : LambdaParts} {ps : List Text} {rest : Option Text} {ints : List Text} {caps : List (Text × Source)}
    {b0 : Datum} {bs0 : List Datum}
    (hpb : p.body = body) (hpa : p.ctx.args = p.formals)
    (hpro : p.prologue = (if p.isVararg then [.op .varArg] else []) ++ [.op .enter])
    (hps : p.formals = ps ++ rest.toList)
    (hva : p.isVararg = rest.isSome) (hnd : (ps ++ rest.toList ++ ints).Nodup)
    (hem : p.ctx.envmap = em3 (ps ++ rest.toList) ints caps)
    (hcaps : ∀ q ∈ caps, q.2 = .iofEnvironment ∧ inEnv c q.1 = true ∧ ¬ us q.1)
    (hfb : F3B D.setG f p.ctx (fun x => x ∈ ps ++ rest.toList ++ ints ∨ bound ρ x) (fun x => x ∈ ints) ints body)
    (hbl : properList body = some (b0 :: bs0))
    (hcb : compileBody f cst p.ctx p.prologue.length p.body = .ok (st1, bcode))
    (hfin : D.final[st1.lambdas.length]? = some (lamOf p bcode)) (hpre1 : st1.lambdas <+: D.final)
    {σ : SSt} {W : World} {s : MSt H}
    (hc : CodeAt2 D c.envmap s.heap σ.store s.ipL s.ipO
      [.op .movImm, .lambda st1.lambdas.length, .acc, .op .closureAcc])
    (hsrx : D.SRx s.heap σ.store) (her : EnvRep3g ops W s.heap P c s.ep ρ us)
    (hPP : ∀ h', Ext3 D s.heap σ.store h' σ.store → ∀ e n, P e n → P' h' e n) :
    ∃ (h' : H) (pp lam cenv : Nat),
      Steps ops s { s with heap := h', acc := .ptr pp, ipO := s.ipO + 4 } ∧
      ops.callee h' (.ptr pp) = .closure lam cenv ∧
      ClosOK3g D W h' (P' h') lam cenv ps rest (b0 :: bs0) ρ ∧ (∀ k, ops.envGet s.heap cenv k = none) ∧
      (∀ e k, e ≠ cenv → ops.envGet h' e k = ops.envGet s.heap e k) ∧
      (∀ m, ops.globGet h' m = ops.globGet s.heap m) ∧ Ext3 D s.heap σ.store h' σ.store ∧ D.SRx h' σ.store := by
  obtain ⟨hf1, hlam⟩ := hc.lambdaCell 1 rfl
  obtain ⟨hisl, hsrcs⟩ := hlam _ hfin
  have hs1 := step_movImm_acc hc.1 (hc.op 0 rfl) hf1 (by intro o h; cases h) (hc.accCell 2 rfl)
  have hemL : (lamOf p bcode).envmap = em3 (ps ++ rest.toList) ints caps := hem
  rw [hemL] at hsrcs
  -- the captured entries are slots of the current environment and satisfy `P`
  obtain ⟨p1, p2, post⟩ := closure_slots (em := em3 (ps ++ rest.toList) ints caps)
    (Q := fun x e n => ∃ l, ρ.lookup x = some l ∧ W e n l ∧ P e n)
    (fun j q hq => by
      rcases em3_entry_cases hq with ⟨_, _, _, e⟩ | ⟨_, _, _, _, e⟩ | h
      · exact .inl ⟨j, e ▸ rfl⟩
      · exact .inr (.inl (e ▸ rfl))
      · exact .inr (.inr h.2))
    (fun q hq => by
      obtain ⟨hq2, hq1, hq3⟩ := hcaps q hq
      obtain ⟨k, hk⟩ := (slotIdx_some_iff_inEnv c q.1).mp hq1
      obtain ⟨e, n, l, hd, hl', hW, hin⟩ := her q.1 k hk
      exact ⟨hq2, k, e, n, hk, hd, l, hl', hW, hin hq3⟩)
  obtain ⟨h', pp, cenv, hmk, hcallee, hfresh, hslots, hframe, hglob, hext, hsrx', henvok⟩ :=
    L.closure_ok s.heap σ.store (D.LM st1.lambdas.length) s.ep s.bp s.stack _ hsrx hisl hsrcs p1 p2
  have hs2 := step_closure (s := { s with acc := .ptr (D.LM st1.lambdas.length), ipO := s.ipO + 3 })
    (by exact hc.1) (by
      have := hc.op 3 (o := .closureAcc) rfl
      exact this) rfl hmk
  refine ⟨h', pp, D.LM st1.lambdas.length, cenv, .cons hs1 (Steps.one hs2), hcallee, ?_, hfresh, hframe, hglob, hext,
    hsrx'⟩
  · refine ⟨f, cst, st1, c, p, bcode, ints, caps, hps, hva, hpa, hpro, hnd, by rw [hpb]; exact hbl, hcb, hfin, hpre1, rfl,
      (hext.code _ hisl).1, by rw [hpb]; exact hfb, ?_, hem, fun q hq => (hcaps q hq).1, hem ▸ (post hslots).1,
      fun j x _ hx => ?_, henvok, ?_⟩
    · rw [(hext.code _ hisl).2.2.2, hsrcs, hem]
    · obtain ⟨e, n, g, l, hl', hW, hin⟩ := (post hslots).2 j x (hem ▸ hx)
      exact ⟨e, n, l, g, hl', hW, hPP h' hext _ _ hin⟩
    · intro j x hx
      rw [hem] at hx
      have : ((em3 (ps ++ rest.toList) ints caps).map (rsrc c.envmap))[j]? = some .internal := by
        rw [List.getElem?_map, hx]; rfl
      rw [hslots j _ this]; rfl

/-- for a `lambda` expression: the code object is the one `compileExpr` registers for it -/
theorem closure_core (L : Laws3 D) {P : Nat → Nat → Prop} {P' : H → Nat → Nat → Prop}
    {f : Nat} {cst cst' : CState} {c : Ctx} {base : Nat} {tail : Bool}
    {formals body : Datum} {code : List BC} {ρ : Env} {us : Text → Prop} {p : LambdaParts} {ps : List Text}
    {rest : Option Text} {ints : List Text} {caps : List (Text × Source)}
    (hp : lambdaParts f c (.pair (.sym k_lambda) (.pair formals body)) false = .ok p)
    (hpf : Spec.Eval.parseFormals formals = some (ps, rest)) (hps : p.formals = ps ++ rest.toList)
    (hva : p.isVararg = rest.isSome) (hnd : (ps ++ rest.toList ++ ints).Nodup)
    (hem : p.ctx.envmap = em3 (ps ++ rest.toList) ints caps)
    (hcaps : ∀ q ∈ caps, q.2 = .iofEnvironment ∧ inEnv c q.1 = true ∧ ¬ us q.1)
    (hfb : F3B D.setG f p.ctx (fun x => x ∈ ps ++ rest.toList ++ ints ∨ bound ρ x) (fun x => x ∈ ints) ints body)
    (hcomp : compileExpr (f + 1) cst c base tail (.pair (.sym k_lambda) (.pair formals body)) = .ok (cst', code))
    (hpre : cst'.lambdas <+: D.final) {r : Spec.Eval.Rec} {σ σ' : SSt} {w : Val}
    (hev : evalStep r (.pair (.sym k_lambda) (.pair formals body)) ρ σ = .ok w σ')
    {W : World} {s : MSt H} (hc : CodeAt2 D c.envmap s.heap σ.store s.ipL base code) (hip : s.ipO = base)
    (hsrx : D.SRx s.heap σ.store) (her : EnvRep3g ops W s.heap P c s.ep ρ us)
    (hPP : ∀ h', Ext3 D s.heap σ.store h' σ.store → ∀ e n, P e n → P' h' e n) :
    ∃ (h' : H) (pp lam cenv : Nat) (bl : List Datum),
      Steps ops s { s with heap := h', acc := .ptr pp, ipO := s.ipO + code.length } ∧
      w = .closure ps rest bl ρ ∧ σ' = σ ∧ ops.callee h' (.ptr pp) = .closure lam cenv ∧
      ClosOK3g D W h' (P' h') lam cenv ps rest bl ρ ∧ (∀ k, ops.envGet s.heap cenv k = none) ∧
      (∀ e k, e ≠ cenv → ops.envGet h' e k = ops.envGet s.heap e k) ∧
      (∀ m, ops.globGet h' m = ops.globGet s.heap m) ∧ Ext3 D s.heap σ.store h' σ.store ∧ D.SRx h' σ.store := by
  obtain ⟨p', st1, bcode, hp', hcb, hl, rfl⟩ := compile_lambda_inv hcomp
  rw [hp] at hp'; cases hp'
  obtain ⟨hpb, hpa, hpro⟩ := lambdaParts_inv hp
  obtain ⟨b0, bs0, hbl⟩ := F3B_cons hfb
  obtain ⟨rfl, hσ⟩ := evalStep_lambda_inv hpf hbl hev
  have hσ' := hσ.symm
  subst hσ'
  subst hip
  rw [hl] at hpre
  obtain ⟨hfin, hpre1⟩ := prefix_get hpre
  obtain ⟨h', pp, lam, cenv, hsteps, hcallee, hok, hfresh, hframe, hglob, hext, hsrx'⟩ :=
    closure_core0 (P' := P') L hpb hpa hpro hps hva hnd hem hcaps hfb hbl hcb hfin hpre1 hc hsrx her hPP
  exact ⟨h', pp, lam, cenv, b0 :: bs0, by simpa [finishLambda] using hsteps, rfl, rfl, hcallee, hok, hfresh, hframe,
    hglob, hext, hsrx'⟩

theorem case3_lambda (L : Laws3 D) {f : Nat} {cst cst' : CState} {c : Ctx} {base : Nat} {tail : Bool}
    {formals body : Datum} {code : List BC} {ρ : Env} {us : Text → Prop} {p : LambdaParts} {ps : List Text}
    {rest : Option Text} {ints : List Text} {caps : List (Text × Source)}
    (hp : lambdaParts f c (.pair (.sym k_lambda) (.pair formals body)) false = .ok p)
    (hpf : Spec.Eval.parseFormals formals = some (ps, rest)) (hps : p.formals = ps ++ rest.toList)
    (hva : p.isVararg = rest.isSome) (hnd : (ps ++ rest.toList ++ ints).Nodup)
    (hem : p.ctx.envmap = em3 (ps ++ rest.toList) ints caps)
    (hcaps : ∀ q ∈ caps, q.2 = .iofEnvironment ∧ inEnv c q.1 = true ∧ ¬ us q.1)
    (hfb : F3B D.setG f p.ctx (fun x => x ∈ ps ++ rest.toList ++ ints ∨ bound ρ x) (fun x => x ∈ ints) ints body)
    (hcomp : compileExpr (f + 1) cst c base tail (.pair (.sym k_lambda) (.pair formals body)) = .ok (cst', code))
    (hpre : cst'.lambdas <+: D.final) {r : Spec.Eval.Rec} {σ σ' : SSt} {w : Val}
    (hev : evalStep r (.pair (.sym k_lambda) (.pair formals body)) ρ σ = .ok w σ')
    {W : World} {s : MSt H} (hc : CodeAt2 D c.envmap s.heap σ.store s.ipL base code) (hip : s.ipO = base)
    (hi : Inv3 D W s.heap σ) (her : EnvRep3 ops W s.heap c s.ep ρ us) (hw : SWF s.stack) :
    ∃ W' s', W.le W' ∧ Run3 D W' s code.length σ σ' w s' := by
  obtain ⟨h', pp, lam, cenv, bl, hsteps, rfl, rfl, hcallee, hok, hfresh, hframe, hglob, hext, hsrx'⟩ :=
    closure_core (P := InitM ops s.heap) (P' := fun h' => InitM ops h') L hp hpf hps hva hnd hem hcaps hfb hcomp hpre hev hc
      hip hi.extra her (fun h' x e n y => x.init e n y)
  refine ⟨W, _, World.le_refl _, ⟨hsteps, rfl, rfl, rfl, rfl, LiveEq.refl _, hw, .clos hcallee hok, ?_, hext⟩⟩
  refine hi.frame hext hsrx' rfl hglob (fun e n l hW => ⟨?_, rfl⟩)
  obtain ⟨v, _, h1, _⟩ := hi.vars e n l hW
  have hne : e ≠ cenv := by
    intro e0; subst e0
    rw [hfresh n] at h1; cases h1
  exact hframe e n hne

end Marwood.Lemmas.CompileCorrect3
