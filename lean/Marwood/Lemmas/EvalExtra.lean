import Marwood.Lemmas.EvalFrame
/-!
# Invariance of `Spec.Eval` under a renaming of locations, extra cells and unused bindings: the relation

Two runs of the evaluator on the SAME code are related: every location the first run uses corresponds to a
location of the second under a FIXED injective map `f`. `front : ∀ i, f (size + i) = size' + i` fixes the image of
every future allocation: `f` never grows, so a user picks the whole map up front (`shiftAt s 1` in `binder_agree`)
and cells that only the second run has are a frame `J`, not an extension of `f`. One level of the evaluator
preserves the relation (`simG_evalStep`, `simGAt_applyStep`; `EvalExtraSteps` … `EvalExtraLevel`) for every

* `f`, and `J`: cells of the second store outside the image of `f`, which stay as they are;
* `δ`: the run that may run out of fuel with nothing claimed;
* `G`: global names on which the states need not agree; code, closures and symbols held as values must not mention
  them (a value can become code through `eval`);
* `E : EnvCorr f G`, `GL : GlCorr f G E`: how the environments of corresponding closures (`E.rel B ρ ρ'`, `B` names
  the code does not mention) and the two global tables correspond, with the facts the evaluator needs of them.

The helpers that take their fuel from the store size are related when the stores have the same size or the first
run does not hit the fuel bound (`NoCut`, `EvalExtraFuel`). Instances: `SimD f J δ` (no excluded global, look-up
correspondences; `EvalExtraMain`) is extra-cell invariance, `Sim`, `SimR`, `SimJ` are `SimD` at a side and a frame;
at the identity map with equal environments it is T01.1 (one excluded global, `EvalFrameMain`) and fuel
monotonicity (equal global tables, `EvalMonoMain`).
-/
namespace Marwood.Spec.Eval

theorem get_lt {σ : Array Cell} {l : Nat} {c : Cell} (h : σ[l]? = some c) : l < σ.size :=
  (Array.getElem?_eq_some_iff.mp h).1

theorem get_ge {σ : Array Cell} {l : Nat} (h : σ[l]? = none) : σ.size ≤ l := Array.getElem?_eq_none_iff.mp h

end Marwood.Spec.Eval

namespace Marwood.Spec.Eval.Extra
open Marwood Marwood.Spec.Eval

abbrev LMap := Nat → Nat

def Inj (f : LMap) : Prop := ∀ a b, f a = f b → a = b

def CleanB (B : List Text) (d : Datum) : Prop := ∀ b ∈ B, Clean b d
def CleanBs (B : List Text) (ds : List Datum) : Prop := ∀ d ∈ ds, CleanB B d

inductive LookRel (f : LMap) : Option Loc → Option Loc → Prop
  | none : LookRel f none none
  | some (l : Loc) : LookRel f (some l) (some (f l))

def EnvRel (f : LMap) (B : List Text) (ρ ρ' : Env) : Prop := ∀ y, y ∉ B → LookRel f (ρ.lookup y) (ρ'.lookup y)

inductive VRel (f : LMap) : Val → Val → Prop
  | bool (b : Bool) : VRel f (.bool b) (.bool b)
  | char (c : Char) : VRel f (.char c) (.char c)
  | nil : VRel f .nil .nil
  | int (n : Int) : VRel f (.int n) (.int n)
  | str (s : Text) : VRel f (.str s) (.str s)
  | sym (s : Text) : VRel f (.sym s) (.sym s)
  | pair (l : Loc) : VRel f (.pair l) (.pair (f l))
  | vec (l : Loc) : VRel f (.vec l) (.vec (f l))
  | promise (l : Loc) : VRel f (.promise l) (.promise (f l))
  | prim (p : Prim) : VRel f (.prim p) (.prim p)
  | closure (ps : List Text) (rest : Option Text) (body : List Datum) (ρ ρ' : Env) (B : List Text)
      (hρ : EnvRel f B ρ ρ') (hb : CleanBs B body) : VRel f (.closure ps rest body ρ) (.closure ps rest body ρ')
  | void : VRel f .void .void
  | undef : VRel f .undef .undef

inductive VsRel (f : LMap) : List Val → List Val → Prop
  | nil : VsRel f [] []
  | cons {v v' : Val} {vs vs' : List Val} : VRel f v v' → VsRel f vs vs' → VsRel f (v :: vs) (v' :: vs')

inductive CellRel (f : LMap) : Cell → Cell → Prop
  | var {v v' : Val} : VRel f v v' → CellRel f (.var v) (.var v')
  | pair {a a' d d' : Val} : VRel f a a' → VRel f d d' → CellRel f (.pair a d) (.pair a' d')
  | vec {xs xs' : List Val} : VsRel f xs xs' → CellRel f (.vec xs) (.vec xs')
  | promise (b : Bool) {v v' : Val} : VRel f v v' → CellRel f (.promise b v) (.promise b v')

inductive GRel (f : LMap) : Option Val → Option Val → Prop
  | none : GRel f none none
  | some {v v' : Val} : VRel f v v' → GRel f (some v) (some v')

structure StRel (f : LMap) (st st' : St) : Prop where
  cells : ∀ l c, st.store[l]? = some c → ∃ c', st'.store[f l]? = some c' ∧ CellRel f c c'
  front : ∀ i, f (st.store.size + i) = st'.store.size + i
  size_le : st.store.size ≤ st'.store.size
  out : st'.out = st.out
  globals : ∀ y, GRel f (st.globals.lookup y) (st'.globals.lookup y)

/-- outcomes correspond; nothing is claimed when the first computation ran out of fuel -/
def ResRel {α α' : Type} (f : LMap) (R : α → α' → Prop) : Res α → Res α' → Prop
  | .ok a s, .ok a' s' => R a a' ∧ StRel f s s'
  | .err e s, .err e' s' => e = e' ∧ StRel f s s'
  | .timeout, _ => True
  | _, _ => False

def Sim {α α' : Type} (f : LMap) (R : α → α' → Prop) (m : M α) (m' : M α') : Prop :=
  ∀ st st', StRel f st st' → ResRel f R (m st) (m' st')

end Marwood.Spec.Eval.Extra

namespace Marwood.Spec.Eval.ExtraJ
open Marwood Marwood.Spec.Eval Marwood.Spec.Eval.Extra

abbrev Junk := Nat → Option Cell

structure StRelJ (f : LMap) (J : Junk) (st st' : St) : Prop extends StRel f st st' where
  junk : ∀ l' c, J l' = some c → st'.store[l']? = some c
  joff : ∀ l, J (f l) = none

instance {f : LMap} {J : Junk} {st st' : St} : CoeOut (StRelJ f J st st') (StRel f st st') := ⟨StRelJ.toStRel⟩

end Marwood.Spec.Eval.ExtraJ

namespace Marwood.Spec.Eval.Extra
open Marwood Marwood.Spec.Eval Marwood.Spec.Eval.ExtraJ

theorem stRelJ_none {f : LMap} {st st' : St} : StRelJ f (fun _ => none) st st' ↔ StRel f st st' :=
  ⟨fun r => r.toStRel, fun r => ⟨r, fun _ _ h => (nomatch h), fun _ => rfl⟩⟩

/-- the run whose running out of fuel leaves the other one unconstrained -/
inductive Side
  | left | right

/-- outcomes correspond, the final states by `S`; nothing is claimed when the run on side `δ` ran out of fuel -/
def ResRelD {α α' : Type} (S : St → St → Prop) (δ : Side) (R : α → α' → Prop) : Res α → Res α' → Prop
  | .ok a s, .ok a' s' => R a a' ∧ S s s'
  | .err e s, .err e' s' => e = e' ∧ S s s'
  | .timeout, .timeout => True
  | .timeout, _ => δ = .left
  | _, .timeout => δ = .right
  | _, _ => False

def SimD {α α' : Type} (f : LMap) (J : Junk) (δ : Side) (R : α → α' → Prop) (m : M α) (m' : M α') : Prop :=
  ∀ st st', StRelJ f J st st' → ResRelD (StRelJ f J) δ R (m st) (m' st')

variable {f : LMap} {J : Junk} {δ : Side} {S S' : St → St → Prop} {α α' β β' : Type}

theorem ResRelD.timeout_left {R : α → α' → Prop} (res' : Res α') : ResRelD S .left R (.timeout : Res α) res' := by
  cases res' <;> trivial

theorem ResRelD.timeout_right {R : α → α' → Prop} (res : Res α) : ResRelD S .right R res (.timeout : Res α') := by
  cases res <;> trivial

/-- where the right run is definite, so is the left, and either side may be the one allowed to time out -/
theorem ResRelD.of_right {R : α → α' → Prop} {res : Res α} {res' : Res α'} (h : ResRelD S .right R res res')
    (hd : res' ≠ .timeout) : res ≠ .timeout ∧ ResRelD S .left R res res' := by
  cases res <;> cases res' <;> first | exact absurd rfl hd | exact ⟨nofun, h⟩ | cases h

theorem ResRelD.imp {R Q : α → α' → Prop} {res : Res α} {res' : Res α'} (h : ResRelD S δ R res res')
    (hs : ∀ s s', S s s' → S' s s') (hq : ∀ a a', R a a' → Q a a') : ResRelD S' δ Q res res' := by
  cases res <;> cases res' <;> first | exact h | exact ⟨hq _ _ h.1, hs _ _ h.2⟩ | exact ⟨h.1, hs _ _ h.2⟩

theorem ResRelD.mono {R Q : α → α' → Prop} {res : Res α} {res' : Res α'} (h : ResRelD S δ R res res')
    (hq : ∀ a a', R a a' → Q a a') : ResRelD S δ Q res res' := h.imp (fun _ _ hs => hs) hq

theorem ResRelD.bind {R : α → α' → Prop} {Q : β → β' → Prop} {m : M α} {m' : M α'} {k : α → M β} {k' : α' → M β'}
    {st st' : St} (hm : ResRelD S δ R (m st) (m' st'))
    (hk : ∀ a a' s s', m st = .ok a s → R a a' → S s s' → ResRelD S δ Q (k a s) (k' a' s')) :
    ResRelD S δ Q ((m >>= k) st) ((m' >>= k') st') := by
  show ResRelD S δ Q (M.bind' m k st) (M.bind' m' k' st')
  unfold M.bind'
  cases h1 : m st <;> cases h2 : m' st' <;> rw [h1, h2] at hm <;> dsimp only
  case ok.ok => exact hk _ _ _ _ h1 hm.1 hm.2
  case ok.timeout => cases hm; exact ResRelD.timeout_right _
  case timeout.ok => cases hm; exact ResRelD.timeout_left _
  all_goals first | exact hm | exact hm.elim

theorem SimD.bind {R : α → α' → Prop} {Q : β → β' → Prop} {m : M α} {m' : M α'} {k : α → M β} {k' : α' → M β'}
    (hm : SimD f J δ R m m') (hk : ∀ a a', R a a' → SimD f J δ Q (k a) (k' a')) : SimD f J δ Q (m >>= k) (m' >>= k') := by
  intro st st' r
  exact ResRelD.bind (hm st st' r) (fun a a' s s' _ ra rs => hk a a' ra s s' rs)

theorem SimD.pure {R : α → α' → Prop} (a : α) (a' : α') (h : R a a') : SimD f J δ R (pure a : M α) (pure a' : M α') := by
  intro st st' r; exact ⟨h, r⟩

theorem SimD.throw {R : α → α' → Prop} (e : ErrClass) : SimD f J δ R (throw e : M α) (throw e : M α') := by
  intro st st' r; exact ⟨rfl, r⟩

theorem SimD.timeout_left {R : α → α' → Prop} (m' : M α') : SimD f J .left R (timeoutM : M α) m' :=
  fun _ _ _ => ResRelD.timeout_left _

theorem SimD.timeout_right {R : α → α' → Prop} (m : M α) : SimD f J .right R m (timeoutM : M α') :=
  fun _ _ _ => ResRelD.timeout_right _

theorem SimD.mono {R Q : α → α' → Prop} {m : M α} {m' : M α'} (hm : SimD f J δ R m m')
    (hq : ∀ a a', R a a' → Q a a') : SimD f J δ Q m m' := fun st st' r => (hm st st' r).mono hq

/-! ## the forward simulation is the instance with no frame in which the left run may time out -/

theorem resRel_iff {R : α → α' → Prop} {res : Res α} {res' : Res α'} :
    ResRel f R res res' ↔ ResRelD (StRel f) .left R res res' := by
  cases res <;> cases res' <;> simp [ResRel, ResRelD]

theorem resRel_iff_none {R : α → α' → Prop} {res : Res α} {res' : Res α'} :
    ResRel f R res res' ↔ ResRelD (StRelJ f fun _ => none) .left R res res' :=
  resRel_iff.trans ⟨fun h => h.imp (fun _ _ => stRelJ_none.2) (fun _ _ h => h),
    fun h => h.imp (fun _ _ => stRelJ_none.1) (fun _ _ h => h)⟩

theorem sim_iff {R : α → α' → Prop} {m : M α} {m' : M α'} : Sim f R m m' ↔ SimD f (fun _ => none) .left R m m' :=
  ⟨fun h st st' r => resRel_iff_none.1 (h st st' r.toStRel), fun h st st' r => resRel_iff_none.2 (h st st' (stRelJ_none.2 r))⟩

theorem ResRel.ok_inv {R : α → α' → Prop} {a : α} {s : St} {res' : Res α'} (h : ResRel f R (.ok a s) res') :
    ∃ a' s', res' = .ok a' s' ∧ R a a' ∧ StRel f s s' := by
  cases res' with
  | ok a' s' => exact ⟨a', s', rfl, h.1, h.2⟩
  | err e s' => exact h.elim
  | timeout => exact h.elim

theorem ResRel.err_inv {R : α → α' → Prop} {e : ErrClass} {s : St} {res' : Res α'} (h : ResRel f R (.err e s) res') :
    ∃ s', res' = .err e s' ∧ StRel f s s' := by
  cases res' with
  | ok a' s' => exact h.elim
  | err e' s' => obtain ⟨rfl, h2⟩ := h; exact ⟨s', rfl, h2⟩
  | timeout => exact h.elim

theorem ResRel.bind {R : α → α' → Prop} {Q : β → β' → Prop} {m : M α} {m' : M α'} {k : α → M β} {k' : α' → M β'}
    {st st' : St} (hm : ResRel f R (m st) (m' st'))
    (hk : ∀ a a' s s', m st = .ok a s → R a a' → StRel f s s' → ResRel f Q (k a s) (k' a' s')) :
    ResRel f Q ((m >>= k) st) ((m' >>= k') st') :=
  resRel_iff.2 ((resRel_iff.1 hm).bind fun a a' s s' h ra rs => resRel_iff.1 (hk a a' s s' h ra rs))

theorem Sim.bind {R : α → α' → Prop} {Q : β → β' → Prop} {m : M α} {m' : M α'} {k : α → M β} {k' : α' → M β'}
    (hm : Sim f R m m') (hk : ∀ a a', R a a' → Sim f Q (k a) (k' a')) : Sim f Q (m >>= k) (m' >>= k') :=
  sim_iff.2 ((sim_iff.1 hm).bind fun a a' h => sim_iff.1 (hk a a' h))

theorem Sim.pure {R : α → α' → Prop} (a : α) (a' : α') (h : R a a') : Sim f R (pure a : M α) (pure a' : M α') :=
  sim_iff.2 (SimD.pure a a' h)

theorem Sim.throw {R : α → α' → Prop} (e : ErrClass) : Sim f R (throw e : M α) (throw e : M α') :=
  sim_iff.2 (SimD.throw e)

theorem Sim.timeout {R : α → α' → Prop} (m' : M α') : Sim f R (timeoutM : M α) m' :=
  sim_iff.2 (SimD.timeout_left m')

theorem Sim.mono {R Q : α → α' → Prop} {m : M α} {m' : M α'} (hm : Sim f R m m')
    (hq : ∀ a a', R a a' → Q a a') : Sim f Q m m' := sim_iff.2 ((sim_iff.1 hm).mono hq)

theorem VRel.truthy {v v' : Val} (h : VRel f v v') : truthy v' = truthy v := by
  cases h <;> rfl

theorem Inj.beq (hf : Inj f) (l1 l2 : Nat) : (f l1 == f l2) = (l1 == l2) := by
  by_cases h : l1 = l2
  · subst h; simp
  · have h1 : f l1 ≠ f l2 := fun e => h (hf _ _ e)
    have e1 : (f l1 == f l2) = false := by simpa using h1
    have e2 : (l1 == l2) = false := by simpa using h
    rw [e1, e2]

theorem StRel.cell_none {st st' : St} (r : StRel f st st') {l : Loc} (h : st.store[l]? = none) :
    st'.store[f l]? = none := by
  obtain ⟨i, rfl⟩ := Nat.exists_eq_add_of_le (get_ge h)
  rw [r.front i]
  exact Array.getElem?_eq_none (Nat.le_add_right _ _)

theorem inj_id : Inj (fun l => l) := fun _ _ h => h

structure EnvCorr (f : LMap) (G : List Text) where
  rel : List Text → Env → Env → Prop
  look : ∀ {B ρ ρ'}, rel B ρ ρ' → ∀ y, y ∉ B → LookRel f (ρ.lookup y) (ρ'.lookup y)
  cons : ∀ {B ρ ρ'}, rel B ρ ρ' → ∀ (x : Text) (l : Loc), rel B ((x, l) :: ρ) ((x, f l) :: ρ')
  sub : ∀ {B ρ ρ'}, rel B ρ ρ' → ∀ g ∈ G, g ∈ B
  top : rel G [] []

inductive VRelG (f : LMap) (G : List Text) (E : EnvCorr f G) : Val → Val → Prop
  | bool (b : Bool) : VRelG f G E (.bool b) (.bool b)
  | char (c : Char) : VRelG f G E (.char c) (.char c)
  | nil : VRelG f G E .nil .nil
  | int (n : Int) : VRelG f G E (.int n) (.int n)
  | str (s : Text) : VRelG f G E (.str s) (.str s)
  | sym (s : Text) (hs : s ∉ G) : VRelG f G E (.sym s) (.sym s)
  | pair (l : Loc) : VRelG f G E (.pair l) (.pair (f l))
  | vec (l : Loc) : VRelG f G E (.vec l) (.vec (f l))
  | promise (l : Loc) : VRelG f G E (.promise l) (.promise (f l))
  | prim (p : Prim) : VRelG f G E (.prim p) (.prim p)
  | closure (ps : List Text) (rest : Option Text) (body : List Datum) (ρ ρ' : Env) (B : List Text)
      (hρ : E.rel B ρ ρ') (hb : CleanBs B body) : VRelG f G E (.closure ps rest body ρ) (.closure ps rest body ρ')
  | void : VRelG f G E .void .void
  | undef : VRelG f G E .undef .undef

inductive VsRelG (f : LMap) (G : List Text) (E : EnvCorr f G) : List Val → List Val → Prop
  | nil : VsRelG f G E [] []
  | cons {v v' : Val} {vs vs' : List Val} : VRelG f G E v v' → VsRelG f G E vs vs' → VsRelG f G E (v :: vs) (v' :: vs')

inductive CellRelG (f : LMap) (G : List Text) (E : EnvCorr f G) : Cell → Cell → Prop
  | var {v v' : Val} : VRelG f G E v v' → CellRelG f G E (.var v) (.var v')
  | pair {a a' d d' : Val} : VRelG f G E a a' → VRelG f G E d d' → CellRelG f G E (.pair a d) (.pair a' d')
  | vec {xs xs' : List Val} : VsRelG f G E xs xs' → CellRelG f G E (.vec xs) (.vec xs')
  | promise (b : Bool) {v v' : Val} : VRelG f G E v v' → CellRelG f G E (.promise b v) (.promise b v')

inductive GRelG (f : LMap) (G : List Text) (E : EnvCorr f G) : Option Val → Option Val → Prop
  | none : GRelG f G E none none
  | some {v v' : Val} : VRelG f G E v v' → GRelG f G E (some v) (some v')

structure GlCorr (f : LMap) (G : List Text) (E : EnvCorr f G) where
  rel : List (Text × Val) → List (Text × Val) → Prop
  look : ∀ {g g'}, rel g g' → ∀ y, y ∉ G → GRelG f G E (g.lookup y) (g'.lookup y)
  ins : ∀ {g g'}, rel g g' → ∀ (s : Text) {v v' : Val}, VRelG f G E v v' → rel (insertG s v g) (insertG s v' g')

/-- the global tables agree, up to `VRelG`, off `G` -/
def glLookup (f : LMap) (G : List Text) (E : EnvCorr f G) : GlCorr f G E where
  rel := fun g g' => ∀ y, y ∉ G → GRelG f G E (g.lookup y) (g'.lookup y)
  look := fun h => h
  ins := fun h s _ _ hv y hy => by
    simp only [lookup_insertG]
    split
    · exact .some hv
    · exact h y hy

structure StRelG (f : LMap) (G : List Text) (E : EnvCorr f G) (GL : GlCorr f G E) (J : Junk) (st st' : St) : Prop where
  cells : ∀ l c, st.store[l]? = some c → ∃ c', st'.store[f l]? = some c' ∧ CellRelG f G E c c'
  front : ∀ i, f (st.store.size + i) = st'.store.size + i
  size_le : st.store.size ≤ st'.store.size
  out : st'.out = st.out
  globals : GL.rel st.globals st'.globals
  junk : ∀ l' c, J l' = some c → st'.store[l']? = some c
  joff : ∀ l, J (f l) = none

def SimG {α α' : Type} (f : LMap) (G : List Text) (E : EnvCorr f G) (GL : GlCorr f G E) (J : Junk) (δ : Side)
    (R : α → α' → Prop) (m : M α) (m' : M α') : Prop :=
  ∀ st st', StRelG f G E GL J st st' → ResRelD (StRelG f G E GL J) δ R (m st) (m' st')

variable {G : List Text} {E : EnvCorr f G} {GL : GlCorr f G E}

theorem EnvCorr.cons' {B : List Text} {ρ ρ' : Env} (he : E.rel B ρ ρ') (x : Text) {l l' : Loc} (hl : f l = l') :
    E.rel B ((x, l) :: ρ) ((x, l') :: ρ') := hl ▸ E.cons he x l

theorem EnvCorr.notG {B : List Text} {ρ ρ' : Env} (he : E.rel B ρ ρ') {y : Text} (hy : y ∉ B) : y ∉ G :=
  fun h => hy (E.sub he y h)

theorem EnvCorr.cleanG {B : List Text} {ρ ρ' : Env} (he : E.rel B ρ ρ') {d : Datum} (hc : CleanB B d) :
    CleanB G d := fun g hg => hc g (E.sub he g hg)

theorem SimG.bind {R : α → α' → Prop} {Q : β → β' → Prop} {m : M α} {m' : M α'} {k : α → M β} {k' : α' → M β'}
    (hm : SimG f G E GL J δ R m m') (hk : ∀ a a', R a a' → SimG f G E GL J δ Q (k a) (k' a')) :
    SimG f G E GL J δ Q (m >>= k) (m' >>= k') := by
  intro st st' r
  exact ResRelD.bind (hm st st' r) (fun a a' s s' _ ra rs => hk a a' ra s s' rs)

theorem SimG.pure {R : α → α' → Prop} (a : α) (a' : α') (h : R a a') : SimG f G E GL J δ R (pure a : M α) (pure a' : M α') := by
  intro st st' r; exact ⟨h, r⟩

theorem SimG.throw {R : α → α' → Prop} (e : ErrClass) : SimG f G E GL J δ R (throw e : M α) (throw e : M α') := by
  intro st st' r; exact ⟨rfl, r⟩

theorem SimG.timeout_left {R : α → α' → Prop} (m' : M α') : SimG f G E GL J .left R (timeoutM : M α) m' :=
  fun _ _ _ => ResRelD.timeout_left _

theorem SimG.timeout {R : α → α' → Prop} : SimG f G E GL J δ R (timeoutM : M α) (timeoutM : M α') :=
  fun _ _ _ => trivial

theorem SimG.mono {R Q : α → α' → Prop} {m : M α} {m' : M α'} (hm : SimG f G E GL J δ R m m')
    (hq : ∀ a a', R a a' → Q a a') : SimG f G E GL J δ Q m m' := fun st st' r => (hm st st' r).mono hq

theorem VRelG.truthy {v v' : Val} (h : VRelG f G E v v') : truthy v' = truthy v := by
  cases h <;> rfl

theorem VRelG.eqv (hf : Inj f) {a a' b b' : Val} (ha : VRelG f G E a a') (hb : VRelG f G E b b') : eqv a' b' = eqv a b := by
  cases ha <;> first | rfl | (cases hb <;> first | rfl | exact hf.beq _ _)

theorem StRelG.lt_image {st st' : St} (r : StRelG f G E GL J st st') {l : Loc} (h : l < st.store.size) : f l < st'.store.size := by
  obtain ⟨c', h1, _⟩ := r.cells l _ (Array.getElem?_eq_getElem h)
  exact get_lt h1

theorem StRelG.cell_none {st st' : St} (r : StRelG f G E GL J st st') {l : Loc} (h : st.store[l]? = none) :
    st'.store[f l]? = none := by
  obtain ⟨i, rfl⟩ := Nat.exists_eq_add_of_le (get_ge h)
  rw [r.front i]
  exact Array.getElem?_eq_none (Nat.le_add_right _ _)

theorem StRelG.alloc {st st' : St} (r : StRelG f G E GL J st st') {c c' : Cell} (hc : CellRelG f G E c c') :
    StRelG f G E GL J { st with store := st.store.push c } { st' with store := st'.store.push c' } := by
  have h0 : f st.store.size = st'.store.size := by simpa using r.front 0
  refine ⟨?_, ?_, ?_, r.out, r.globals, ?_, r.joff⟩
  · intro l d hl
    simp only [Array.getElem?_push] at hl
    split at hl
    · rename_i hsz
      cases hl
      subst hsz
      refine ⟨c', ?_, hc⟩
      rw [h0]; simp
    · obtain ⟨d', h1, h2⟩ := r.cells l d hl
      refine ⟨d', ?_, h2⟩
      have hlt := get_lt h1
      have hne : ¬ f l = st'.store.size := by omega
      simp only [Array.getElem?_push, if_neg hne]
      exact h1
  · intro i
    simp only [Array.size_push]
    have := r.front (i + 1)
    rw [Nat.add_assoc, Nat.add_comm 1 i, this]
    omega
  · simp only [Array.size_push]; have := r.size_le; omega
  · intro l' c hl
    have h := r.junk l' c hl
    have hlt := get_lt h
    have hne : ¬ l' = st'.store.size := by omega
    simp only [Array.getElem?_push, if_neg hne]
    exact h

theorem StRelG.write (hf : Inj f) {st st' : St} (r : StRelG f G E GL J st st') {l : Loc} (h : l < st.store.size)
    {c c' : Cell} (hc : CellRelG f G E c c') :
    StRelG f G E GL J { st with store := st.store.setIfInBounds l c } { st' with store := st'.store.setIfInBounds (f l) c' } := by
  have hlt := r.lt_image h
  refine ⟨?_, ?_, ?_, r.out, r.globals, ?_, r.joff⟩
  · intro l2 d hl2
    simp only [Array.getElem?_setIfInBounds] at hl2 ⊢
    by_cases e : l = l2
    · subst e
      simp only [if_true, h] at hl2
      cases hl2
      exact ⟨c', by simp [hlt], hc⟩
    · rw [if_neg e] at hl2
      obtain ⟨d2, h3, h4⟩ := r.cells l2 d hl2
      have : f l ≠ f l2 := fun e' => e (hf _ _ e')
      exact ⟨d2, by rw [if_neg this]; exact h3, h4⟩
  · intro i; simpa using r.front i
  · simpa using r.size_le
  · intro l2 c2 hl
    have hne : f l ≠ l2 := by intro e; subst e; rw [r.joff l] at hl; cases hl
    simp only [Array.getElem?_setIfInBounds, if_neg hne]
    exact r.junk l2 c2 hl

theorem StRelG.with_globals {st st' : St} (r : StRelG f G E GL J st st') {g g' : List (Text × Val)}
    (hg : GL.rel g g') :
    StRelG f G E GL J { st with globals := g } { st' with globals := g' } :=
  ⟨r.cells, r.front, r.size_le, r.out, hg, r.junk, r.joff⟩

theorem simG_allocCell {c c' : Cell} (hc : CellRelG f G E c c') :
    SimG f G E GL J δ (fun l l' => f l = l') (allocCell c) (allocCell c') := by
  intro st st' r
  exact ⟨by simpa using r.front 0, r.alloc hc⟩

theorem simG_readCell {l l' : Loc} (hl : f l = l') : SimG f G E GL J δ (CellRelG f G E) (readCell l) (readCell l') := by
  intro st st' r
  subst hl
  simp only [readCell]
  cases h : st.store[l]? with
  | some c =>
    obtain ⟨c', h1, h2⟩ := r.cells l c h
    simp only [h1]
    exact ⟨h2, r⟩
  | none =>
    rw [r.cell_none h]
    exact ⟨rfl, r⟩

theorem simG_writeCell (hf : Inj f) {l l' : Loc} {c c' : Cell} (hl : f l = l') (hc : CellRelG f G E c c') :
    SimG f G E GL J δ (fun _ _ => True) (writeCell l c) (writeCell l' c') := by
  intro st st' r
  subst hl
  simp only [writeCell]
  by_cases h : l < st.store.size
  · rw [if_pos h, if_pos (r.lt_image h)]
    exact ⟨trivial, r.write hf h hc⟩
  · obtain ⟨i, rfl⟩ := Nat.exists_eq_add_of_le (Nat.le_of_not_lt h)
    have h2 : ¬ st'.store.size + i < st'.store.size := by omega
    rw [if_neg h, r.front i, if_neg h2]
    exact ⟨rfl, r⟩

theorem simG_getGlobal (s : Text) (hs : s ∉ G) :
    SimG f G E GL J δ (VRelG f G E) (getGlobal s) (getGlobal s) := by
  intro st st' r
  simp only [getGlobal]
  have := GL.look r.globals s hs
  revert this
  generalize st.globals.lookup s = o
  generalize st'.globals.lookup s = o'
  intro h
  cases h with
  | none => exact ⟨rfl, r⟩
  | some hv => exact ⟨hv, r⟩

theorem simG_putGlobal (s : Text) {v v' : Val} (hv : VRelG f G E v v') :
    SimG f G E GL J δ (fun _ _ => True) (putGlobal s v) (putGlobal s v') := by
  intro st st' r
  exact ⟨trivial, r.with_globals (GL.ins r.globals s hv)⟩

theorem simG_setGlobal (s : Text) (hs : s ∉ G) {v v' : Val} (hv : VRelG f G E v v') :
    SimG f G E GL J δ (fun _ _ => True) (setGlobal s v) (setGlobal s v') := by
  intro st st' r
  simp only [setGlobal]
  have := GL.look r.globals s hs
  revert this
  generalize st.globals.lookup s = o
  generalize st'.globals.lookup s = o'
  intro h
  cases h with
  | none => exact ⟨rfl, r⟩
  | some _ => exact ⟨trivial, r.with_globals (GL.ins r.globals s hv)⟩

theorem simG_emit (w : Bool) (d : Datum) : SimG f G E GL J δ (fun _ _ => True) (emit w d) (emit w d) := by
  intro st st' r
  exact ⟨trivial, r.cells, r.front, r.size_le, by simp [r.out], r.globals, r.junk, r.joff⟩


end Marwood.Spec.Eval.Extra
