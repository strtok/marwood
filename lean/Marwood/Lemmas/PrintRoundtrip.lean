import Marwood.Lemmas.PrintRead
/-!
# T10.1: the induction over the datum, what it yields for `parse_text (write d)`, and `canon d` against `d`
-/
namespace Marwood
open Marwood.Proofs.C16

variable (fo : FloatOps)

/-- one statement per printer function. The last carries the induction through the quote sugar: `'x` prints the car of
the cdr (`printCadr`), no immediate part of `pair a d`, so the statement for the cdr has to deliver `ReadsD` for its car. -/
def ReadsAll (d : Datum) : Prop :=
  (Readable fo d → ∀ text pre rest0, Delim rest0 → text = pre ++ printD fo true d ++ rest0 →
      ReadsD fo text pre (printD fo true d) rest0 (canon d)) ∧
  (Readable fo d → ∀ text pre rest0, text = pre ++ printRest fo true d ++ rest0 →
      ReadsRest fo text pre (printRest fo true d) rest0 (canon d)) ∧
  (Readable fo d → properSpine d = true → ∀ text pre rest0,
      text = pre ++ (printElems fo true d ++ [')']) ++ rest0 →
      ReadsElems fo text pre (printElems fo true d ++ [')']) rest0 ((Datum.listElems d).map canon)) ∧
  (∀ x y, d = .pair x y → Readable fo x → ∀ text pre rest0, Delim rest0 →
      text = pre ++ printD fo true x ++ rest0 → ReadsD fo text pre (printD fo true x) rest0 (canon x))

/-- neither a pair nor nil: `printRest` is ` . ` + the printed form + `)` -/
theorem readsAll_of_atom (d : Datum)
    (hD : Readable fo d → ∀ text pre rest0, Delim rest0 → text = pre ++ printD fo true d ++ rest0 →
      ReadsD fo text pre (printD fo true d) rest0 (canon d))
    (hrest : printRest fo true d = ' ' :: '.' :: ' ' :: (printD fo true d ++ [')']))
    (hspine : properSpine d = false) (hnp : ∀ x y, d ≠ .pair x y) : ReadsAll fo d := by
  refine ⟨?_, ?_, ?_, ?_⟩
  · exact hD
  · intro hr text pre rest0 htext
    rw [hrest] at htext ⊢
    exact readsRest_dotted fo (fun pre' rest0' hd' ht' => hD hr text pre' rest0' hd' ht') htext
  · intro _ h; rw [hspine] at h; cases h
  · intro x y e; exact absurd e (hnp x y)

theorem printElems_nil (alt : Bool) : printElems fo alt .nil = [] := by
  rw [printElems]
  intro x y e
  cases e

theorem isQuoteForm_true {a d : Datum} (h : isQuoteForm a d = true) :
    ∃ x, a = .sym quoteName ∧ d = .pair x .nil := by
  unfold isQuoteForm at h
  split at h
  · rename_i s x
    exact ⟨x, by simp at h; rw [h], rfl⟩
  · cases h

theorem quoteForm_quote (x : Datum) : quoteForm "quote" x = .pair (.sym quoteName) (.pair x .nil) := rfl

theorem readsAll (ht : FloatText fo) (hl : FloatLex fo) : ∀ d : Datum, ReadsAll fo d := by
  intro d
  induction d with
  | bool b =>
    refine readsAll_of_atom fo _ ?_ (by rw [printRest, printD]) rfl (by intro x y e; cases e)
    intro _ text pre rest0 _ htext
    rw [printD] at htext ⊢
    exact readsD_bool fo b htext
  | char c =>
    refine readsAll_of_atom fo _ ?_ (by rw [printRest, printD]) rfl (by intro x y e; cases e)
    intro _ text pre rest0 hd htext
    rw [printD] at htext ⊢
    exact readsD_char fo c hd htext
  | str s =>
    refine readsAll_of_atom fo _ ?_ (by rw [printRest, printD]) rfl (by intro x y e; cases e)
    intro _ text pre rest0 _ htext
    rw [printD] at htext ⊢
    exact readsD_str fo s htext
  | sym s =>
    refine readsAll_of_atom fo _ ?_ (by rw [printRest, printD]) rfl (by intro x y e; cases e)
    intro hr text pre rest0 hd htext
    rw [printD] at htext ⊢
    exact readsD_sym fo s hr hd htext
  | num n =>
    refine readsAll_of_atom fo _ ?_ (by rw [printRest, printD]) rfl
      (by intro x y e; cases e)
    intro hr text pre rest0 hd htext
    rw [printD] at htext ⊢
    exact readsD_num fo ht hl n hr.1 hr.2 hd htext
  | continuation | macro_ | procedure p | undefined | void =>
    exact ⟨fun h => h.elim, fun h => h.elim, fun h => h.elim, by intro x y e; cases e⟩
  | nil =>
    refine ⟨?_, ?_, ?_, by intro x y e; cases e⟩
    · intro _ text pre rest0 _ htext
      rw [printD] at htext ⊢
      exact readsD_nil fo htext
    · intro _ text pre rest0 htext
      rw [printRest] at htext ⊢
      exact readsRest_nil fo htext
    · intro _ _ text pre rest0 htext
      rw [printElems_nil] at htext ⊢
      exact readsElems_nil fo (by simpa using htext)
  | vec e ih =>
    have hD : Readable fo (.vec e) → ∀ text pre rest0, Delim rest0 →
        text = pre ++ printD fo true (.vec e) ++ rest0 →
        ReadsD fo text pre (printD fo true (.vec e)) rest0 (.vec (canon e)) := by
      intro hr text pre rest0 _ htext
      rw [printD] at htext ⊢
      have hE := ih.2.2.1 hr.1 hr.2 text (pre ++ ['#', '(']) rest0 (by rw [htext]; simp)
      have := readsD_vec fo hE
      rw [Datum.vecOfList, ofList_map_canon e hr.2] at this
      exact this
    refine readsAll_of_atom fo _ hD ?_ rfl (by intro x y e; cases e)
    rw [printRest, printD]
    simp
  | pair a d iha ihd =>
    refine ⟨?_, ?_, ?_, ?_⟩
    · -- printD
      intro hr text pre rest0 hd0 htext
      rw [printD] at htext ⊢
      by_cases hq : isQuoteForm a d = true
      · obtain ⟨x, ha, hdd⟩ := isQuoteForm_true hq
        simp only [hq, if_true] at htext ⊢
        subst ha hdd
        rw [printCadr] at htext ⊢
        have hx : Readable fo x := hr.2.1
        have hX := ihd.2.2.2 x .nil rfl hx text (pre ++ ['\'']) rest0 hd0 (by rw [htext]; simp)
        have := readsD_quote fo hX
        rw [quoteForm_quote] at this
        exact this
      · simp only [hq, Bool.false_eq_true, if_false] at htext ⊢
        have hA := iha.1 hr.1 text (pre ++ ['(']) (printRest fo true d ++ rest0) (printRest_delim fo d rest0)
          (by rw [htext]; simp)
        have hR := ihd.2.1 hr.2 text (pre ++ ['('] ++ printD fo true a) rest0 (by rw [htext]; simp)
        exact readsD_list fo hA hR htext
    · -- printRest
      intro hr text pre rest0 htext
      rw [printRest] at htext ⊢
      have hA := iha.1 hr.1 text (pre ++ [' ']) (printRest fo true d ++ rest0) (printRest_delim fo d rest0)
        (by rw [htext]; simp)
      have hR := ihd.2.1 hr.2 text (pre ++ [' '] ++ printD fo true a) rest0 (by rw [htext]; simp)
      exact readsRest_cons fo hA hR
    · -- printElems
      intro hr hs text pre rest0 htext
      simp only [properSpine] at hs
      rw [printElems] at htext ⊢
      have hsep : (if d.isPair = true then [' '] else ([] : Text)) = [] ∨
          (if d.isPair = true then [' '] else ([] : Text)) = [' '] := by
        split
        · exact Or.inr rfl
        · exact Or.inl rfl
      have hdelim : Delim ((if d.isPair = true then [' '] else ([] : Text)) ++
          (printElems fo true d ++ [')']) ++ rest0) := by
        cases d with
        | pair x y => simp [Datum.isPair, Delim]
        | nil => rw [printElems_nil]; simp [Datum.isPair, Delim]
        | _ => cases hs
      have hX := iha.1 hr.1 text pre _ hdelim (by rw [htext]; simp)
      have hE := ihd.2.2.1 hr.2 hs text
        (pre ++ printD fo true a ++ (if d.isPair = true then [' '] else ([] : Text))) rest0
        (by rw [htext]; simp)
      have := readsElems_cons fo hsep hX hE
      simpa [Datum.listElems, List.append_assoc] using this
    · intro x y e hx
      cases e
      exact iha.1 hx

theorem parseText_of_readsD {text : Text} {d' : Datum} (h : ReadsD fo text [] text [] d') :
    parseText fo text = .ok (d', none) := by
  obtain ⟨tsd, hseg, _, hparse⟩ := h
  obtain ⟨f, hf⟩ := hparse []
  rw [List.append_nil] at hf
  exact ParseText.parseText_last fo (scan_of_scanTo (by simpa using hseg [] (ScanTo.nil _)))
    (parseTokens_of_fuel fo text hf)

theorem parseText_write (ht : FloatText fo) (hl : FloatLex fo) (d : Datum) (hr : Readable fo d) :
    parseText fo (write fo d) = .ok (canon d, none) :=
  parseText_of_readsD fo ((readsAll fo ht hl d).1 hr (write fo d) [] [] trivial (by simp [write]))

theorem identShape_quoteName : identShape quoteName = true := by decide

/-- the source text `(quote <written form>)` -/
theorem parseText_quote_write (ht : FloatText fo) (hl : FloatLex fo) (d : Datum) (hr : Readable fo d) :
    parseText fo ('(' :: (quoteName ++ (' ' :: (write fo d ++ [')'])))) =
      .ok (.pair (.sym quoteName) (.pair (canon d) .nil), none) := by
  unfold write
  generalize htext : ('(' :: (quoteName ++ (' ' :: (printD fo true d ++ [')'])))) = text
  have hq : SymTok fo quoteName := fun rest hd => Or.inl (scansAs_ident identShape_quoteName rest hd)
  have hA : ReadsD fo text ([] ++ ['(']) quoteName ((' ' :: (printD fo true d ++ [')'])) ++ [])
      (.sym quoteName) :=
    readsD_sym fo quoteName hq (rest0 := (' ' :: (printD fo true d ++ [')'])) ++ []) (by simp [Delim])
      (by rw [← htext, printAtom_sym]; simp)
  have hD : ReadsD fo text ([] ++ ['('] ++ quoteName ++ [' ']) (printD fo true d) ([')'] ++ []) (canon d) :=
    (readsAll fo ht hl d).1 hr text _ _ (by simp [Delim]) (by rw [← htext]; simp)
  have hN : ReadsRest fo text ([] ++ ['('] ++ quoteName ++ [' '] ++ printD fo true d) [')'] [] .nil :=
    readsRest_nil fo (by rw [← htext]; simp)
  have hR : ReadsRest fo text ([] ++ ['('] ++ quoteName) (' ' :: (printD fo true d ++ [')'])) []
      (.pair (canon d) .nil) := readsRest_cons fo hD hN
  have hL : ReadsD fo text [] ('(' :: (quoteName ++ (' ' :: (printD fo true d ++ [')'])))) []
      (.pair (.sym quoteName) (.pair (canon d) .nil)) :=
    readsD_list fo hA hR (by rw [← htext]; simp)
  rw [htext] at hL
  exact parseText_of_readsD fo hL

/-! ## `canon d` is `d` up to number representation, and prints the same (T10.1 second half) -/

/-- `≈` of T10.1: same structure, characters, strings, symbols; numbers equal in exactness and value -/
inductive SameDatum : Datum → Datum → Prop
  | refl (d : Datum) : SameDatum d d
  | num (a b : Num) : isExact a = true → isExact b = true → SameValue a b → SameDatum (.num a) (.num b)
  | pair {a a' d d' : Datum} : SameDatum a a' → SameDatum d d' → SameDatum (.pair a d) (.pair a' d')
  | vec {e e' : Datum} : SameDatum e e' → SameDatum (.vec e) (.vec e')

theorem canon_same (d : Datum) : SameDatum (canon d) d := by
  induction d with
  | num n =>
    cases n with
    | flo f => exact .refl _
    | fix m => exact .refl _
    | big m =>
      have := normalize_exact (.big m) rfl
      exact .num _ _ this.1 rfl this.2
    | rat m k =>
      have := normalize_exact (.rat m k) rfl
      exact .num _ _ this.1 rfl this.2
  | pair a d iha ihd => exact .pair iha ihd
  | vec e ih => exact .vec ih
  | _ => exact .refl _

theorem printNumber_normalize (n : Num) : printNumber fo (normalize n) = printNumber fo n := by
  cases n with
  | fix m => rfl
  | flo f => rfl
  | big m =>
    simp only [normalize]
    split <;> rfl
  | rat m d =>
    simp only [normalize]
    split
    · rename_i h; subst h; simp [printNumber, ratDigits]
    · rfl

theorem isQuoteForm_canon (a d : Datum) : isQuoteForm (canon a) (canon d) = isQuoteForm a d := by
  cases a <;> cases d <;> try rfl
  rename_i s x y
  cases y <;> rfl

theorem print_canon (alt : Bool) : ∀ d : Datum,
    printD fo alt (canon d) = printD fo alt d ∧ printRest fo alt (canon d) = printRest fo alt d ∧
    printElems fo alt (canon d) = printElems fo alt d ∧ printCadr fo alt (canon d) = printCadr fo alt d ∧
    (canon d).isPair = d.isPair := by
  intro d
  induction d with
  | num n =>
    refine ⟨?_, ?_, ?_, ?_, rfl⟩
    · rw [canon, printD, printD, printAtom_num, printAtom_num, printNumber_normalize]
    · rw [canon, printRest, printRest, printAtom_num, printAtom_num, printNumber_normalize]
    · rw [canon, printElems, printElems] <;> (intro x y e; cases e)
    · rw [canon, printCadr, printCadr] <;> (intro x y e; cases e)
  | pair a d iha ihd =>
    refine ⟨?_, ?_, ?_, ?_, rfl⟩
    · simp only [canon, printD, isQuoteForm_canon, iha.1, ihd.2.1, ihd.2.2.2.1]
    · simp only [canon, printRest, iha.1, ihd.2.1]
    · simp only [canon, printElems, iha.1, ihd.2.2.1, ihd.2.2.2.2]
    · simp only [canon, printCadr, iha.1]
  | vec e ih =>
    refine ⟨?_, ?_, ?_, ?_, rfl⟩
    · simp only [canon, printD, ih.2.2.1]
    · simp only [canon, printRest, ih.2.2.1]
    · rw [canon, printElems, printElems] <;> (intro x y e; cases e)
    · rw [canon, printCadr, printCadr] <;> (intro x y e; cases e)
  | _ => exact ⟨rfl, rfl, rfl, rfl, rfl⟩

theorem write_canon (d : Datum) : write fo (canon d) = write fo d := (print_canon fo true d).1

end Marwood
