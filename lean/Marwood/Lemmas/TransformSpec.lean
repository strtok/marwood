import Marwood.Lemmas.TransformBasic
namespace Marwood.Spec.Match
open Marwood Marwood.Transform

def consMatch (c : Ctx) (p rest : Datum) : Datum → Option Binds
  | .pair e1 er =>
    match specMatch c p e1 with
    | none => none
    | some b1 =>
      match specMatch c rest er with
      | none => none
      | some b2 => some (b1 ++ b2)
  | _ => none

def headNotEll (c : Ctx) : Datum → Bool
  | .pair q _ => !c.isEllD q
  | _ => true

/-- the right disjunct is the side condition of the compiled equations of `specMatch`, `zeroRepTail` -/
theorem pair_or_not (d : Datum) : (∃ a b, d = .pair a b) ∨ ∀ a b, d = .pair a b → False := by
  cases d with
  | pair a b => exact .inl ⟨a, b, rfl⟩
  | _ => exact .inr fun _ _ h => Datum.noConfusion h

theorem headNotEll_pair {c : Ctx} {rest : Datum} (h : headNotEll c rest = true) :
    ∀ q r, rest = .pair q r → ¬ c.isEllD q = true := by
  rintro q r rfl; simpa [headNotEll] using h

theorem specMatch_pair (c : Ctx) (p rest E : Datum) (h : headNotEll c rest = true) :
    specMatch c (.pair p rest) E = consMatch c p rest E := by
  have hq := headNotEll_pair h
  rcases pair_or_not E with ⟨e1, er, rfl⟩ | hE <;> rcases pair_or_not rest with ⟨q, r, rfl⟩ | hr
  · rw [specMatch.eq_2, if_neg (hq _ _ rfl)]; rfl
  · rw [specMatch.eq_4 _ _ _ _ _ hr]; rfl
  · rw [specMatch.eq_3 _ _ _ _ _ hE, if_neg (hq _ _ rfl), consMatch.eq_2 _ _ _ _ hE]
  · rw [specMatch.eq_5 _ _ _ _ hr hE, consMatch.eq_2 _ _ _ _ hE]

theorem specMatch_pair_some {c : Ctx} {p rest E : Datum} {bs : Binds} (h : headNotEll c rest = true)
    (hm : specMatch c (.pair p rest) E = some bs) :
    ∃ e1 er b1 b2, E = .pair e1 er ∧ specMatch c p e1 = some b1 ∧ specMatch c rest er = some b2 ∧
      bs = b1 ++ b2 := by
  rw [specMatch_pair _ _ _ _ h] at hm
  rcases pair_or_not E with ⟨e1, er, rfl⟩ | hE
  · simp only [consMatch] at hm
    cases h1 : specMatch c p e1 with
    | none => rw [h1] at hm; cases hm
    | some b1 =>
      cases h2 : specMatch c rest er with
      | none => rw [h1, h2] at hm; cases hm
      | some b2 => rw [h1, h2] at hm; exact ⟨e1, er, b1, b2, rfl, h1, h2, (Option.some.inj hm).symm⟩
  · rw [consMatch.eq_2 _ _ _ _ hE] at hm; cases hm

theorem specMatch_nil (c : Ctx) (E : Datum) :
    specMatch c .nil E = if E = .nil then some [] else none := by
  unfold specMatch
  simp [cellEq_nil_left]

theorem inst_cons (c : Ctx) (skip : Bool) (x rest : Datum) (b : Binds) (hx : c.isEllD x = false)
    (hr : leadEll c rest = 0) :
    inst c false skip (.pair x rest) b =
      (inst c false false x b).bind fun h => (inst c false false rest b).bind fun t => .ok (.pair h t) := by
  conv => lhs; unfold inst
  simp only [hx, hr, Bool.not_false, Bool.true_and, Bool.false_eq_true, if_false, beq_self_eq_true, if_true]
  generalize inst c false false x b = r1
  generalize inst c false false rest b = r2
  cases r1 <;> cases r2 <;> rfl

theorem inst_skip (c : Ctx) (rest : Datum) (b : Binds) (hr : leadEll c rest = 0) :
    inst c false true rest b = inst c false false rest b := by
  cases rest with
  | pair y r =>
    have hy : c.isEllD y = false := by
      cases h : c.isEllD y with
      | false => rfl
      | true => simp [leadEll, h] at hr
    conv => lhs; unfold inst
    conv => rhs; unfold inst
    simp only [hy, Bool.and_false, Bool.false_eq_true, if_false]
  | _ => conv => lhs; unfold inst
         conv => rhs; unfold inst

theorem inst_rep (c : Ctx) (skip : Bool) (x q rest : Datum) (b : Binds) (hx : c.isEllD x = false)
    (hq : c.isEllD q = true) (hr : leadEll c rest = 0) :
    inst c false skip (.pair x (.pair q rest)) b =
      (instRep (fun b' => inst c false false x b') (tmplSyms x) 1 b).bind fun hs =>
        (inst c false false rest b).bind fun t => .ok (appendSpine hs t) := by
  have hl : leadEll c (.pair q rest) = 1 := by simp [leadEll, hq, hr]
  have h2 : inst c false true (.pair q rest) b = inst c false false rest b := by
    conv => lhs; unfold inst
    simp only [hq, Bool.not_false, Bool.true_and, if_true]
    exact inst_skip c rest b hr
  conv => lhs; unfold inst
  simp only [hx, hl, h2, Bool.not_false, Bool.true_and, Bool.false_eq_true, if_false]
  generalize instRep (fun b' => inst c false false x b') (tmplSyms x) 1 b = r1
  generalize inst c false false rest b = r2
  cases r1 <;> cases r2 <;> rfl

theorem mapMI_instRep0 (f : Binds → IRes Datum) (syms : List Text) : ∀ bs : List Binds,
    (match mapMI (instRep f syms 0) bs with
      | .ok rs => IRes.ok rs.flatten
      | .mismatch => .mismatch
      | .malformed => .malformed) = mapMI f bs := by
  intro bs
  induction bs with
  | nil => rfl
  | cons x xs ih =>
    rw [mapMI, mapMI, ← ih]
    have h0 : instRep f syms 0 x =
        (match f x with | .ok d => .ok [d] | .mismatch => .mismatch | .malformed => .malformed) := by
      cases h : f x <;> simp [instRep, h]
    rw [h0]
    cases f x with
    | ok d => dsimp only; cases mapMI (instRep f syms 0) xs <;> rfl
    | _ => rfl

theorem instRep_one_eq (f : Binds → IRes Datum) (syms : List Text) (b : Binds) :
    instRep f syms 1 b = (repBinds syms b).bind (mapMI f) := by
  unfold instRep
  cases repBinds syms b with
  | ok bs => exact mapMI_instRep0 f syms bs
  | _ => rfl

end Marwood.Spec.Match
