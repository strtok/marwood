import Marwood.Lemmas.CompileVerifies
import Marwood.Lemmas.CompileCorrect2Defs
/-!
# T04.6 and the loading relations of the compiler-correctness proofs (T01.3)

`Loads` (stage 1) and `Loads2` (stages 2/3, `CodeAt2`) constrain the cell of a quoted datum only through the
representation relation `VR`, a parameter, so they do not by themselves make it a data cell; with that one extra fact
they imply `Enc`, under which `compileTop_verifies_loaded` holds. Hence `codeAt2_verifies`: a lambda of the heap whose
cells are `CodeAt2`-loaded from a code object of the compiler model passes the verifier.
-/
namespace Marwood.Vm
open Marwood Marwood.Vm.Verify Marwood.Lemmas.CompileCorrect Marwood.Lemmas.CompileCorrect2

variable {H : Type} {ops : HeapOps H}

theorem enc_of_loads {D : RepData ops} {h : H} {S : Array Marwood.Spec.Eval.Cell} {b : BC} {v : VCell}
    (hl : Loads D h S b v) (hd : ∀ d, b = .datum d → dataCell v = true) : Enc b v := by
  cases b <;> simp only [Loads] at hl <;> simp only [Enc]
  · exact hl
  · exact hl
  · exact ⟨_, hl.2⟩
  · exact hl
  · exact hl
  · exact hd _ rfl
  · exact hl

theorem enc_of_loads2 {D : RepData2 ops} {em : List (Text × Source)} {h : H}
    {S : Array Marwood.Spec.Eval.Cell} {b : BC} {v : VCell}
    (hl : Loads2 D em h S b v) (hd : ∀ d, b = .datum d → dataCell v = true) : Enc b v := by
  cases b <;> simp only [Loads2] at hl <;> simp only [Enc]
  · exact hl
  · exact hl
  · exact ⟨_, hl.2⟩
  · obtain ⟨j, _, hj⟩ := hl; exact ⟨j, hj⟩
  · exact hl
  · exact hl
  · exact hd _ rfl
  · exact hl
  · exact ⟨_, hl.1⟩

theorem encList_of_forall : ∀ {code : List BC} {cells : List VCell}, cells.length = code.length →
    (∀ (i : Nat) (b : BC), code[i]? = some b → ∃ v, cells[i]? = some v ∧ Enc b v) → EncList code cells
  | [], [], _, _ => trivial
  | [], _ :: _, h, _ => by cases h
  | _ :: _, [], h, _ => by cases h
  | b :: bs, v :: vs, hl, hi => by
    refine ⟨?_, encList_of_forall (Nat.succ.inj hl) fun i b' hb => hi (i + 1) b' hb⟩
    obtain ⟨v', hv, he⟩ := hi 0 b rfl
    cases hv
    exact he

theorem codeAt2_verifies {e : Datum} {fuel : Nat} {st : CState} {lam : LambdaM}
    (hc : compileTop e fuel = .ok (st, lam)) {m : LambdaM} (hm : m = lam ∨ m ∈ st.lambdas)
    {D : RepData2 ops} {h : H} {S : Array Marwood.Spec.Eval.Cell} {l : Nat} {cells : List VCell}
    (hcode : CodeAt2 D m.envmap h S l 0 m.bc) (hlen : cells.length = m.bc.length)
    (hcells : ∀ i : Nat, i < cells.length → ops.fetch h l i = cells[i]?)
    (hdata : ∀ (i : Nat) d v, m.bc[i]? = some (.datum d) → ops.fetch h l i = some v → dataCell v = true) :
    ∃ t, verifyLam cells = some t ∧ t.entry = false ∧ t.bc = cells := by
  refine compileTop_verifies_loaded hc m hm cells (encList_of_forall hlen ?_)
  intro i b hb
  obtain ⟨v, hv, hlo⟩ := hcode.2 i b hb
  simp only [Nat.zero_add] at hv
  have hi : i < cells.length := by
    rw [hlen]
    rcases Nat.lt_or_ge i m.bc.length with h | h
    · exact h
    · rw [List.getElem?_eq_none h] at hb; cases hb
  refine ⟨v, by rw [← hcells i hi, hv], enc_of_loads2 hlo ?_⟩
  intro d hd
  subst hd
  exact hdata i d v hb hv

end Marwood.Vm
