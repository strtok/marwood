import Marwood.Lemmas.EnvRuntime
/-!
# T02.2: one level of indirection is an invariant of CLOSURE, ENTER and assignment
-/
namespace Marwood.Vm.Env
open Marwood.Scope

variable {α : Type}

/-- every `LexicalEnvPtr(p, q)` stored in an environment points at a slot that holds a value (or
    is still undefined), never at another pointer -/
def OneLevel (h : Envs α) : Prop :=
  ∀ (e : Nat) (a : Array (Slot α)) (i p q : Nat), h.envs[e]? = some a → a[i]? = some (.ptr p q) →
    ∃ (b : Array (Slot α)) (g : Slot α), h.envs[p]? = some b ∧ b[q]? = some g ∧ g.isPtr = false

theorem OneLevel.empty : OneLevel ({} : Envs α) := by
  intro e a i p q ha
  simp at ha

theorem closureSlots_inv (h : Envs α) (ep : Nat) (args : List α) (em : Envmap) (ss : List (Slot α))
    (hs : closureSlots h ep args em = .ok ss) (i : Nat) (v : Slot α) (hv : ss[i]? = some v) :
    ∃ x src, em[i]? = some (x, src) ∧ closureSlot h ep args src = .ok v := by
  induction em generalizing i ss with
  | nil => cases hs; simp at hv
  | cons p em ih =>
    simp only [closureSlots] at hs
    obtain ⟨v0, h1, hs⟩ := bind_ok.mp hs
    obtain ⟨ss', h2, hs⟩ := bind_ok.mp hs
    cases hs
    cases i with
    | zero => cases hv; exact ⟨p.1, p.2, rfl, h1⟩
    | succ j => exact ih ss' h2 j hv

theorem target_valid (h : Envs α) (hone : OneLevel h) (ep s e t : Nat) (ht : target h ep s = .ok (e, t)) :
    ∃ (b : Array (Slot α)) (g : Slot α), h.envs[e]? = some b ∧ b[t]? = some g ∧ g.isPtr = false := by
  obtain ⟨a, g, ha, hg, hr⟩ := target_ok.mp ht
  cases g with
  | ptr p q => cases hr; exact hone ep a s _ _ ha hg
  | undef => cases hr; exact ⟨a, _, ha, hg, rfl⟩
  | val v => cases hr; exact ⟨a, _, ha, hg, rfl⟩

theorem target_not_ptr (h : Envs α) (hone : OneLevel h) (ep s e t : Nat) (ht : target h ep s = .ok (e, t)) :
    ∀ (a : Array (Slot α)) (g : Slot α), h.envs[e]? = some a → a[t]? = some g → g.isPtr = false := by
  intro a g ha hg
  obtain ⟨b, g', hb, hg', hnp⟩ := target_valid h hone ep s e t ht
  cases ha.symm.trans hb
  cases hg.symm.trans hg'
  exact hnp

theorem closureSlot_ptr (h : Envs α) (ep : Nat) (args : List α) (src : Source) (p q : Nat)
    (hc : closureSlot h ep args src = .ok (.ptr p q)) : ∃ k, target h ep k = .ok (p, q) := by
  cases src with
  | argument n => cases hc
  | internal => cases hc
  | iofArg n => simp only [closureSlot] at hc; split at hc <;> cases hc
  | iofEnv k =>
    simp only [closureSlot, bind_ok, getEnv_ok, getSlot_ok] at hc
    obtain ⟨a, ha, g, hg, hc⟩ := hc
    refine ⟨k, target_ok.mpr ⟨a, g, ha, hg, ?_⟩⟩
    cases g <;> cases hc <;> rfl

theorem OneLevel.push (h : Envs α) (hone : OneLevel h) (arr : Array (Slot α))
    (hnew : ∀ (i p q : Nat), arr[i]? = some (Slot.ptr p q) →
      ∃ (b : Array (Slot α)) (g : Slot α), h.envs[p]? = some b ∧ b[q]? = some g ∧ g.isPtr = false) :
    OneLevel (h.push arr).1 := by
  intro e a i p q ha hg
  have key : ∃ (b : Array (Slot α)) (g : Slot α), h.envs[p]? = some b ∧ b[q]? = some g ∧ g.isPtr = false := by
    simp only [Envs.push, Array.getElem?_push] at ha
    split at ha
    · cases ha; exact hnew i p q hg
    · exact hone e a i p q ha hg
  obtain ⟨b, g, hb, hg', hnp⟩ := key
  exact ⟨b, g, push_get_old h arr b p hb, hg', hnp⟩

/-- T02.2, CLOSURE: its pointers are locations the creator's slots denote, and those hold values -/
theorem buildClosureEnvironment_oneLevel (h h1 : Envs α) (hone : OneLevel h) (ep c : Nat) (args : List α)
    (em : Envmap) (hb : buildClosureEnvironment h ep args em = .ok (h1, c)) : OneLevel h1 := by
  obtain ⟨ss, hs, hb⟩ := buildClosureEnvironment_ok.mp hb
  cases hb
  apply OneLevel.push h hone
  intro i p q hg
  obtain ⟨x, src, _, hc⟩ := closureSlots_inv h ep args em ss hs i _ (by simpa using hg)
  obtain ⟨k, ht⟩ := closureSlot_ptr h ep args src p q hc
  exact target_valid h hone ep k p q ht

theorem activationSlots_inv (cenv : Nat) (args : List α) (i0 : Nat) (olds : List (Slot α)) (em : Envmap)
    (ss : List (Slot α)) (hs : activationSlots cenv args i0 olds em = .ok ss) (i : Nat) (v : Slot α)
    (hv : ss[i]? = some v) :
    ∃ old, olds[i]? = some old ∧ (v = old ∨ ∃ src, activationSlot cenv args (i0 + i) old src = .ok v) := by
  induction em generalizing i i0 olds ss with
  | nil => cases olds <;> cases hs <;> exact ⟨v, hv, Or.inl rfl⟩
  | cons p em ih =>
    cases olds with
    | nil => cases hs
    | cons o olds' =>
      simp only [activationSlots] at hs
      obtain ⟨v0, h1, hs⟩ := bind_ok.mp hs
      obtain ⟨ss', h2, hs⟩ := bind_ok.mp hs
      cases hs
      cases i with
      | zero => cases hv; exact ⟨o, rfl, Or.inr ⟨p.2, h1⟩⟩
      | succ j =>
        obtain ⟨old, ho, hcase⟩ := ih (i0 + 1) olds' ss' h2 j hv
        exact ⟨old, ho, by rwa [Nat.add_right_comm, Nat.add_assoc] at hcase⟩

theorem activationSlot_ptr (cenv : Nat) (args : List α) (i : Nat) (old : Slot α) (src : Source) (p q : Nat)
    (hc : activationSlot cenv args i old src = .ok (.ptr p q)) :
    old = .ptr p q ∨ (p, q) = old.loc cenv i := by
  cases src with
  | argument n => simp only [activationSlot] at hc; split at hc <;> cases hc
  | internal => cases hc; exact Or.inl rfl
  | iofArg n => cases old <;> cases hc <;> exact Or.inr rfl
  | iofEnv k => cases old <;> cases hc <;> exact Or.inr rfl

/-- T02.2, ENTER: a pointer of the new environment is the closure environment's own, or the location one of its
    slots denotes -/
theorem buildLexicalEnvironment_oneLevel (h h1 : Envs α) (hone : OneLevel h) (cenv a : Nat) (args : List α)
    (em : Envmap) (hb : buildLexicalEnvironment h cenv args em = .ok (h1, a)) : OneLevel h1 := by
  obtain ⟨c, ss, hc, hs, hb⟩ := buildLexicalEnvironment_ok.mp hb
  cases hb
  apply OneLevel.push h hone
  intro i p q hg
  obtain ⟨old, ho, hcase⟩ := activationSlots_inv cenv args 0 c.toList em ss hs i _ (by simpa using hg)
  have ho' : c[i]? = some old := by simpa using ho
  have hptr : old = .ptr p q ∨ (p, q) = old.loc cenv i := by
    rcases hcase with h | ⟨src, h⟩
    · exact Or.inl h.symm
    · exact activationSlot_ptr cenv args i old src p q (by simpa using h)
  rcases hptr with rfl | hpq
  · exact hone cenv c i p q hc ho'
  · exact target_valid h hone cenv i p q (target_ok.mpr ⟨c, old, hc, ho', hpq⟩)

theorem store_evolves_of_oneLevel (h h' : Envs α) (hone : OneLevel h) (ep s : Nat) (v : α)
    (hs : store h ep s v = .ok h') : Evolves h h' := by
  obtain ⟨e, t, _, ht, _⟩ := store_ok.mp hs
  exact store_evolves h h' ep s v hs e t ht (target_not_ptr h hone ep s e t ht)

/-- each pointer of the later heap was there before, and what it points at is still a value -/
theorem OneLevel.of_evolves {h h' : Envs α} (hone : OneLevel h) (hev : Evolves h h')
    (hsize : h'.envs.size = h.envs.size) : OneLevel h' := by
  intro e a' i p q ha' hg'
  have hlt : e < h.envs.size := hsize ▸ (Array.getElem?_eq_some_iff.mp ha').1
  obtain ⟨a'', ha'', hsz, hslots⟩ := hev.2 e h.envs[e] (Array.getElem?_eq_getElem hlt)
  cases ha'.symm.trans ha''
  have hi : i < h.envs[e].size := hsz ▸ (Array.getElem?_eq_some_iff.mp hg').1
  obtain ⟨g2, hg2, hm⟩ := hslots i _ (Array.getElem?_eq_getElem hi)
  cases hg'.symm.trans hg2
  obtain ⟨b, gb, hb, hgb, hnp⟩ := hone e _ i p q (Array.getElem?_eq_getElem hlt)
    ((Array.getElem?_eq_getElem hi).trans (congrArg some (Slot.Keeps.eq_of_ptr hm)))
  obtain ⟨b', hb', _, hbs⟩ := hev.2 _ b hb
  obtain ⟨gb', hgb', hmb⟩ := hbs _ gb hgb
  exact ⟨b', gb', hb', hgb', (Slot.Keeps.isPtr hmb).trans hnp⟩

/-- T02.2, assignment: the heap evolves and gains no environment -/
theorem store_oneLevel (h h' : Envs α) (hone : OneLevel h) (ep s : Nat) (v : α)
    (hs : store h ep s v = .ok h') : OneLevel h' := by
  refine hone.of_evolves (store_evolves_of_oneLevel h h' hone ep s v hs) ?_
  obtain ⟨_, _, _, _, _, _, rfl⟩ := store_ok.mp hs
  simp

/-- One shared mutable location: after an assignment through one slot operand, a load through any slot operand that
    denotes the same location yields the assigned value. -/
theorem load_after_store (h h' : Envs α) (ep s : Nat) (v : α) (hs : store h ep s v = .ok h')
    (e t : Nat) (ht : target h ep s = .ok (e, t))
    (hone : ∀ (a : Array (Slot α)) (g : Slot α), h.envs[e]? = some a → a[t]? = some g → g.isPtr = false)
    (ep2 s2 : Nat) (ht2 : target h ep2 s2 = .ok (e, t)) :
    load h' ep2 s2 = .ok (.val v) := by
  -- the heap evolves, so the second operand still denotes the location, and the location holds the value
  have ht2' := target_stable (store_evolves h h' ep s v hs e t ht hone) ep2 s2 _ ht2
  obtain ⟨e', t', a, ht', ha, hlt, rfl⟩ := store_ok.mp hs
  cases ht.symm.trans ht'
  have he := (Array.getElem?_eq_some_iff.mp ha).1
  exact load_ok.mpr ⟨e, t, a.setIfInBounds t (.val v), ht2', by simp [he], by simp [hlt]⟩

theorem load_after_store_of_oneLevel (h h' : Envs α) (hone : OneLevel h) (ep s : Nat) (v : α)
    (hs : store h ep s v = .ok h') (e t : Nat) (ht : target h ep s = .ok (e, t))
    (ep2 s2 : Nat) (ht2 : target h ep2 s2 = .ok (e, t)) : load h' ep2 s2 = .ok (.val v) :=
  load_after_store h h' ep s v hs e t ht (target_not_ptr h hone ep s e t ht) ep2 s2 ht2

end Marwood.Vm.Env
