import Marwood.Lemmas.CompileCorrect2ConcreteStep
/-!
# T01.3 stage 2: `Laws2` on the concrete heap model

`concrete_laws2`: for `concreteOps ext` (`Vm/ConcreteHeap.lean`: the allocator's free list, CLOSURE and ENTER as in
run.rs) with the representation `cD`, every field of `Laws2` about the heap proper is a THEOREM, including that an
allocation never disturbs a represented object although addresses are reused. What remains a hypothesis: `hinj`
(`slot_inj`, a property of the chosen `slot`) and `hcall` (`call`): the builtins are parameters of the concrete machine
too (`ExtOps`), and their agreement with `Spec.Eval` is what the differential correspondence tests.
-/
namespace Marwood.Lemmas.CompileCorrect2.Conc
open Marwood Marwood.Vm Marwood.Vm.Concrete Marwood.Lemmas.CompileCorrect Marwood.Lemmas.CompileCorrect2
  Marwood.Lemmas.CompileCorrect3.Conc
open Marwood.Spec.Eval (Val Cell evalN)

variable {ext : ExtOps} {E : AtomEnc} {named : Text → Prop} {slot : Text → Nat} {LM : Nat → Nat}
  {final : List LambdaM} {setG : Text → Prop}

theorem cVR_obs {h : CHeap} {S : Array Cell} {v : VCell} {w : Val} (hv : cVR ext E h S v w) :
    ((concreteOps ext).deref h v = .bool false ↔ w = .bool false) ∧ v ≠ .undefined ∧ isEnvPtr v = false := by
  cases hv with
  | base hb =>
    obtain ⟨c, hc, hv⟩ := hb
    rcases hv with rfl | ⟨p, rfl, hg⟩
    · refine ⟨?_, cell_ne_undefined hc, ?_⟩
      · show Concrete.deref h v = _ ↔ _
        rw [deref_of_not_ptr (cell_not_ptr hc)]; exact cell_false_iff hc
      · cases w <;> simp [AtomEnc.cell] at hc <;> first
          | (subst hc; rfl)
          | (obtain ⟨a, _, rfl⟩ := hc; rfl)
    · refine ⟨?_, (by intro e; cases e), rfl⟩
      show Concrete.getAt h p = _ ↔ _
      have hg' : Concrete.getAt h p = c := hg
      rw [hg']; exact cell_false_iff hc
  | pair hs hd _ _ =>
    have hd' : Concrete.deref h v = .pair _ _ := hd
    refine ⟨?_, ?_, ?_⟩
    · show Concrete.deref h v = _ ↔ _
      rw [hd']
      exact ⟨(fun e => by cases e), (fun e => by cases e)⟩
    · intro e; subst e; cases hd'
    · cases v <;> first | rfl | cases hd'
  | vec hs hv' _ => cases hv'

theorem closure_obs {h : CHeap} {v : VCell} {l e : Nat} (hc : (concreteOps ext).callee h v = .closure l e) :
    (concreteOps ext).deref h v ≠ .bool false ∧ v ≠ .undefined ∧ isEnvPtr v = false := by
  rcases callee_closure_inv hc with rfl | ⟨p, rfl, hcell⟩
  · exact ⟨(by intro x; cases x), (by intro x; cases x), rfl⟩
  · refine ⟨?_, (by intro x; cases x), rfl⟩
    show Concrete.getAt h p ≠ _
    unfold Concrete.getAt; rw [hcell]
    intro x; cases x

theorem cVR_no_prim {h : CHeap} {S : Array Cell} {v : VCell} {p : Spec.Eval.Prim} (hE : E.prim p = none) :
    ¬ cVR ext E h S v (.prim p) := by
  intro hv
  cases hv with
  | base hb =>
    obtain ⟨c, hc, _⟩ := hb
    simp [AtomEnc.cell, hE] at hc

/-- **`Laws2` on the concrete heap model**, the behaviour of builtins being the only assumption. -/
theorem concrete_laws2 (hinj : ∀ a b, named a → named b → slot a = slot b → a = b)
    (hcall : ∀ n W h (σ : SSt) vf p vs ws w (σ' : SSt), Inv2 (cD ext E named slot LM final setG) W h σ →
      (cD ext E named slot LM final setG).VR h σ.store vf (.prim p) →
      All2 (VR2 (cD ext E named slot LM final setG) W h σ.store) vs ws → (evalN n).apply (.prim p) ws σ = .ok w σ' →
      ∃ id h' r, (concreteOps ext).callee h vf = .builtin id ∧ (concreteOps ext).builtinKind h id = .generic ∧
        builtinResult (concreteOps ext) h id vs.reverse = .ok (h', r) ∧
        VR2 (cD ext E named slot LM final setG) W h' σ'.store r w ∧ Inv2 (cD ext E named slot LM final setG) W h' σ' ∧
        Ext2 (cD ext E named slot LM final setG) h σ.store h' σ'.store) :
    Laws2 (cD ext E named slot LM final setG) where
  slot_inj := hinj
  truth := fun _ _ _ _ hv => (cVR_obs hv).1
  ne_undefined := fun _ _ _ _ hv => (cVR_obs hv).2.1
  not_envptr := fun _ _ _ _ hv => (cVR_obs hv).2.2
  void := fun _ _ => .base ⟨.void, rfl, .inl rfl⟩
  clos_true := fun _ _ _ _ hc => (closure_obs hc).1
  clos_ne_undefined := fun _ _ _ _ hc => (closure_obs hc).2.1
  clos_not_envptr := fun _ _ _ _ hc => (closure_obs hc).2.2
  vr_pair := fun _ _ _ _ _ _ _ _ hs hd h1 h2 => .pair hs hd h1 h2
  vr_vec := fun _ _ _ _ _ _ hs hv hall => .vec hs hv hall
  vr_store := fun _ _ _ _ _ hx x => (Keeps.refl _).vr hx.keep x
  srx_store := fun _ _ _ _ x => x
  glob_get_put := fun h _ x v m hsrx hn => globGet_globPut h (hsrx.2.2 x hn) v m
  globPut_ext := fun h S n u hsrx =>
    have x := (globPut_gen h n u hsrx.1 hsrx.2.1).ext2 S hsrx
    ⟨x.1, x.2, fun _ _ => rfl⟩
  envPut_ok := fun h S e k old u hsrx hget hold hu => by
    obtain ⟨h', hput, hall, hglob, hk, _, inv', fi', hg, _⟩ := envPut_gen (ext := ext) h e k old u hsrx.1 hsrx.2.1 hget
    obtain ⟨hp, hv⟩ := envGet_set_keeps hall hget hold hu
    exact ⟨h', hput, ext2_of_keeps S hk hp hv, ⟨inv', fi', by rw [hg]; exact hsrx.2.2⟩, hall, hglob⟩
  closure_ok := fun h S lam ep bp st srcs hsrx _ hsrc h1 h2 => by
    obtain ⟨h', p, cenv, a1, a2, a3, a4, a5, a6, cs, ok⟩ :=
      closure_gen (ext := ext) h lam ep bp st srcs hsrx.1 hsrx.2.1 hsrc h1 h2
    exact ⟨h', p, cenv, a1, a2, a3, a4, a5, a6, (cs.ext2 S hsrx).1, (cs.ext2 S hsrx).2, ok.1⟩
  activation_ok := fun h S lam cenv bp st srcs nargs hsrx _ hsrc hinfo hok hslots hargs => by
    obtain ⟨h', a, a1, a2, a3, a4, a5, a6, cs, _⟩ :=
      activation_gen (ext := ext) h lam cenv bp st srcs nargs hsrx.1 hsrx.2.1 hsrc hinfo hok hslots hargs
    exact ⟨h', a, a1, a2, a3, a4, a5, a6, (cs.ext2 S hsrx).1, (cs.ext2 S hsrx).2⟩
  call := hcall

end Marwood.Lemmas.CompileCorrect2.Conc
