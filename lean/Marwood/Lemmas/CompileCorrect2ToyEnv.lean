import Marwood.Lemmas.CompileCorrect2Defs
/-!
# T01.3 stage 2: assignment to an environment slot, seen through `envGet`

What `Ext2` asks of the environment slots after `envPut` follows from the one equation that describes the new `envGet`
(`envGet_set_keeps`); the toy heaps and the concrete heap conclude from here. `rowsGet`, `rows_*`: the environment
table both toy heaps have.
-/
namespace Marwood.Lemmas.CompileCorrect2
open Marwood Marwood.Vm

theorem envGet_set_keeps {g g' : Nat → Nat → Option VCell} {e k : Nat} {old u : VCell}
    (hall : ∀ e' k', g' e' k' = if e' = e ∧ k' = k then some u else g e' k')
    (hget : g e k = some old) (hold : isEnvPtr old = false) (hu : isEnvPtr u = false) :
    (∀ e' k' a b, g e' k' = some (.lexEnvPtr a b) → g' e' k' = some (.lexEnvPtr a b)) ∧
    ∀ e' k' v, g e' k' = some v → isEnvPtr v = false → ∃ v', g' e' k' = some v' ∧ isEnvPtr v' = false := by
  refine ⟨fun e' k' a b hx => ?_, fun e' k' v hx hv => ?_⟩
  · rw [hall]
    by_cases hs : e' = e ∧ k' = k
    · obtain ⟨rfl, rfl⟩ := hs
      rw [hget] at hx; cases hx; cases hold
    · rw [if_neg hs]; exact hx
  · rw [hall]
    by_cases hs : e' = e ∧ k' = k
    · exact ⟨u, if_pos hs, hu⟩
    · exact ⟨v, (if_neg hs).trans hx, hv⟩

theorem bind_getElem?_set {row row' : Nat → Option (List VCell)} {e k : Nat} {ss : List VCell} {u : VCell}
    (hrow : row e = some ss) (hk : k < ss.length)
    (hrow' : ∀ e', row' e' = if e' = e then some (ss.set k u) else row e') (e' k' : Nat) :
    (row' e').bind (·[k']?) = if e' = e ∧ k' = k then some u else (row e').bind (·[k']?) := by
  rw [hrow']
  by_cases he : e' = e
  · subst he
    rw [if_pos rfl, hrow]
    show (ss.set k u)[k']? = _
    by_cases hk' : k' = k
    · subst hk'; rw [if_pos ⟨rfl, rfl⟩, List.getElem?_set_self hk]
    · rw [if_neg (fun h => hk' h.2), List.getElem?_set_ne (Ne.symm hk')]; rfl
  · rw [if_neg he, if_neg (fun h => he h.1)]

theorem push_old {α : Type} (a : Array α) (x : α) (i : Nat) (v : α) (h : a[i]? = some v) :
    (a.push x)[i]? = some v := by
  have hlt : i < a.size := (Array.getElem?_eq_some_iff.mp h).1
  simp [Array.getElem?_push, Nat.ne_of_lt hlt, h]

theorem push_ne {α : Type} (a : Array α) (x : α) (i : Nat) (h : i ≠ a.size) : (a.push x)[i]? = a[i]? := by
  simp [Array.getElem?_push, h]

def rowsGet (envs : Array (List VCell)) (e k : Nat) : Option VCell := (envs[e]?).bind (·[k]?)

theorem rows_push_ne (envs : Array (List VCell)) (ss : List VCell) (e k : Nat) (he : e ≠ envs.size) :
    rowsGet (envs.push ss) e k = rowsGet envs e k := by
  unfold rowsGet; rw [push_ne _ _ _ he]

theorem rows_fresh (envs : Array (List VCell)) (k : Nat) : rowsGet envs envs.size k = none := by
  unfold rowsGet; simp

theorem rows_some_ne {envs : Array (List VCell)} {e k : Nat} {v : VCell} (hv : rowsGet envs e k = some v) :
    e ≠ envs.size := by
  intro e0; subst e0; rw [rows_fresh] at hv; cases hv

theorem rows_set {envs : Array (List VCell)} {e k : Nat} {old : VCell} (u : VCell)
    (hget : rowsGet envs e k = some old) :
    ∃ ss, envs[e]? = some ss ∧ k < ss.length ∧
      ∀ e' k', rowsGet (envs.setIfInBounds e (ss.set k u)) e' k' =
        if e' = e ∧ k' = k then some u else rowsGet envs e' k' := by
  unfold rowsGet at hget
  cases hes : envs[e]? with
  | none => rw [hes] at hget; cases hget
  | some ss =>
    rw [hes] at hget
    have hss : ss[k]? = some old := hget
    have hk : k < ss.length := (List.getElem?_eq_some_iff.mp hss).1
    have helt : e < envs.size := (Array.getElem?_eq_some_iff.mp hes).1
    exact ⟨ss, rfl, hk, bind_getElem?_set (row := fun e' => envs[e']?)
      (row' := fun e' => (envs.setIfInBounds e (ss.set k u))[e']?) hes hk fun e' => by
        by_cases he : e' = e
        · rw [if_pos he, he, Array.getElem?_setIfInBounds_self_of_lt helt]
        · rw [if_neg he, Array.getElem?_setIfInBounds_ne (Ne.symm he)]⟩

end Marwood.Lemmas.CompileCorrect2
