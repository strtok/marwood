import Marwood.Lemmas.EvalPromise
import Marwood.Lemmas.EvalDerivedLet
/-!
# T01.2 for `delay` / `force`: running the prelude's promise library in `Spec.Eval`

Symbolic execution, one lemma per library closure and per form that several bodies evaluate (`eval_carVar`,
`eval_doneForm`, `eval_valueForm`), on states written as triples `⟨g, σ, o⟩` so that the results compose
syntactically; the statements about whole states are in `EvalPromiseX2.lean`.

Fuel: one level per closure call and per nesting of the expression (a variable needs one). So a call of
`promise-done?`, body `(car (car x))`, needs `4 ≤ j`; `promise-update!` 7 (call, `set-car!` form,
application, those 4), and it is applied 6 levels below the use: the 13 of `forceDelay_aux`.

Stores are written twice, definitionally equal: lists of cells (`pushAll`, `junkPre`, `preX`: for
`size_pushAll`, `get_pushAll_lt` in `EvalPromiseMain.lean`) and reducible nested pushes (`push4`,
`preStore`, `finalStore`: what the tactic `lk` sees through).
-/
namespace Marwood.Spec.Eval.Derived
open Marwood Marwood.Spec.Eval Marwood.Spec.Eval.Prelude

def pushAll (σ : Array Cell) (cs : List Cell) : Array Cell := cs.foldl Array.push σ
def thunkX (e : Datum) (ρ : Env) : Val := .closure [] none [mkDone e] ρ
/-- the seven cells the expansion of `(force (delay e))` allocates before `e` runs (`n` = store size):
    `make-promise`'s parameters, BOX `n+2`, ROOT `n+3`, `force`'s `promise` `n+4`, the `x` of
    `promise-done?` and of `promise-value` -/
def junkPre (n : Nat) (T : Val) : List Cell :=
  [.var (.bool false), .var T, .pair (.bool false) T, .pair (.pair (n+2)) .nil, .var (.pair (n+3)), .var (.pair (n+3)), .var (.pair (n+3))]
/-- the state in which the expansion evaluates the delayed expression -/
def preX (e : Datum) (ρ : Env) (st : St) : St := { st with store := pushAll st.store (junkPre st.store.size (thunkX e ρ)) }
def LibSt (st : St) : Prop := LibOK st.globals ∧ st.globals.lookup k_force = some cForce

theorem bind_ok {α β : Type} {m : M α} {f : α → M β} {st st' : St} {a : α} (h : m st = .ok a st') :
    (m >>= f) st = f a st' := by
  show M.bind' m f st = _
  unfold M.bind'; rw [h]

theorem bind_congr_left {α β : Type} {m m' : M α} {f : α → M β} {st st' : St} (h : m st = m' st') :
    (m >>= f) st = (m' >>= f) st' := by
  show M.bind' m f st = M.bind' m' f st'
  unfold M.bind'; rw [h]

theorem bind_err {α β : Type} {m : M α} {f : α → M β} {st st' : St} {c : ErrClass} (h : m st = .err c st') :
    (m >>= f) st = .err c st' := by
  show M.bind' m f st = _
  unfold M.bind'; rw [h]

theorem get_push {σ : Array Cell} {l : Nat} {c : Cell} (c' : Cell) (h : σ[l]? = some c) :
    (σ.push c')[l]? = some c := by
  have := get_lt h
  rw [Array.getElem?_push, if_neg (by omega), h]

theorem get_push_size (σ : Array Cell) (c : Cell) : (σ.push c)[σ.size]? = some c := by
  rw [Array.getElem?_push, if_pos rfl]

theorem get_set_ne {σ : Array Cell} {l i : Nat} {c : Cell} (c' : Cell) (h : σ[l]? = some c) (hne : i ≠ l) :
    (σ.setIfInBounds i c')[l]? = some c := by
  rw [Array.getElem?_setIfInBounds, if_neg hne, h]

theorem get_set_eq {σ : Array Cell} {i : Nat} (c' : Cell) (h : i < σ.size) :
    (σ.setIfInBounds i c')[i]? = some c' := by
  rw [Array.getElem?_setIfInBounds, if_pos rfl, if_pos h]

theorem get_push_lt {σ : Array Cell} {l : Nat} (c' : Cell) (h : l < σ.size) : (σ.push c')[l]? = σ[l]? := by
  rw [Array.getElem?_push, if_neg (by omega)]

theorem get_push_eq {σ : Array Cell} {l : Nat} (c : Cell) (h : l = σ.size) : (σ.push c)[l]? = some c := by
  rw [Array.getElem?_push, if_pos h]

/-- the four cells of `(make-promise d T)` -/
@[reducible] def push4 (σ : Array Cell) (d T : Val) : Array Cell :=
  (((σ.push (.var d)).push (.var T)).push (.pair d T)).push (.pair (.pair (σ.size + 2)) .nil)

/-- the store after `(promise-update! new old)` -/
@[reducible] def updStore (σ : Array Cell) (pn p b : Loc) (dn : Bool) (v T : Val) : Array Cell :=
  ((((((σ.push (.var (.pair pn))).push (.var (.pair p))).push (.var (.pair pn))).setIfInBounds b
    (.pair (.bool dn) T)).push (.var (.pair pn))).setIfInBounds b (.pair (.bool dn) v)).setIfInBounds pn
    (.pair (.pair b) .nil)

@[reducible] def preStore (σ : Array Cell) (T : Val) : Array Cell :=
  (((push4 σ (.bool false) T).push (.var (.pair (σ.size + 3)))).push (.var (.pair (σ.size + 3)))).push
    (.var (.pair (σ.size + 3)))

/-- the store after `(force (delay e))`, `σ2` the store after the delayed expression -/
@[reducible] def finalStore (σ2 : Array Cell) (n : Nat) (v T : Val) : Array Cell :=
  (((updStore (((push4 σ2 (.bool true) v).push (.var (.pair (σ2.size + 3)))).push (.var (.pair (n + 3))))
    (σ2.size + 3) (n + 3) (n + 2) true v T).push (.var (.pair (n + 3)))).push (.var (.pair (n + 3)))).push
    (.var (.pair (n + 3)))

theorem push4_size (σ : Array Cell) (d T : Val) : (push4 σ d T).size = σ.size + 4 := by
  simp [push4, Array.size_push]

theorem updStore_size (σ : Array Cell) (pn p b : Loc) (dn : Bool) (v T : Val) :
    (updStore σ pn p b dn v T).size = σ.size + 4 := by
  simp [updStore, Array.size_push, Array.size_setIfInBounds]

/-- look a cell up through pushes and overwrites -/
syntax "lk" : tactic
macro_rules
  | `(tactic| lk) => `(tactic| first
      | with_reducible assumption
      | with_reducible exact get_push_size _ _
      | (with_reducible refine get_push_eq _ ?_; (try simp only [Array.size_push, Array.size_setIfInBounds, push4_size, updStore_size]) <;> omega)
      | (with_reducible refine get_set_eq _ ?_; (try simp only [Array.size_push, Array.size_setIfInBounds, push4_size, updStore_size]) <;> omega)
      | (with_reducible refine get_set_ne _ ?_ ?_; rotate_left; omega; lk)
      | (with_reducible refine get_push _ ?_; lk))

theorem sym_local {n : Nat} {x : Text} {ρ : Env} {l : Loc} {v : Val} {st : St} (hx : reserved x = false)
    (hl : ρ.lookup x = some l) (hc : st.store[l]? = some (.var v)) :
    (evalN (n+1)).eval (s x) ρ st = .ok v st := by
  rw [evalN_succ_eval, native_sym]
  simp only [evalVar, hx, hl]
  show M.bind' (readCell l) _ st = _
  simp [M.bind', readCell, hc, Pure.pure, M.pure']

theorem sym_global {n : Nat} {x : Text} {ρ : Env} {v : Val} {st : St} (hx : reserved x = false)
    (hl : ρ.lookup x = none) (hg : st.globals.lookup x = some v) :
    (evalN (n+1)).eval (s x) ρ st = .ok v st := by
  rw [evalN_succ_eval, native_sym]
  simp [evalVar, hx, hl, getGlobal, hg]

theorem app0 {n : Nat} {a d : Datum} {ρ : Env} {st s1 : St} {fv : Val}
    (hfv : (evalN n).eval (.pair a d) ρ st = .ok fv s1) :
    (evalN (n+1)).eval (L [.pair a d]) ρ st = (evalN n).apply fv [] s1 := by
  rw [evalN_succ_eval, native_app_pair, evalArgs_nil, M.pure_bind, bind_ok hfv]

theorem app1 {n : Nat} {f a : Datum} {ρ : Env} {st s1 : St} {va fv : Val} (hf : ∀ x, f = .sym x → kwOf x = none)
    (ha : (evalN n).eval a ρ st = .ok va s1) (hfv : (evalN n).eval f ρ s1 = .ok fv s1) :
    (evalN (n+1)).eval (L [f, a]) ρ st = (evalN n).apply fv [va] s1 := by
  rw [evalN_succ_eval, native_app _ _ _ _ hf, evalArgs_one, M.bind_assoc, bind_ok ha, M.pure_bind, bind_ok hfv]

theorem evalArgs_two (r : Rec) (ρ : Env) (a b : Datum) :
    evalArgs r ρ [a, b] = (r.eval a ρ >>= fun va => r.eval b ρ >>= fun vb => pure [va, vb]) := by
  simp only [evalArgs, M.bind_assoc, M.pure_bind]

theorem app2 {n : Nat} {f a b : Datum} {ρ : Env} {st s1 s2 : St} {va vb fv : Val}
    (hf : ∀ x, f = .sym x → kwOf x = none)
    (ha : (evalN n).eval a ρ st = .ok va s1) (hb : (evalN n).eval b ρ s1 = .ok vb s2)
    (hfv : (evalN n).eval f ρ s2 = .ok fv s2) :
    (evalN (n+1)).eval (L [f, a, b]) ρ st = (evalN n).apply fv [va, vb] s2 := by
  rw [evalN_succ_eval, native_app _ _ _ _ hf, evalArgs_two, M.bind_assoc, bind_ok ha, M.bind_assoc, bind_ok hb,
    M.pure_bind, bind_ok hfv]

theorem nk {k : Text} (h : kwOf k = none) : ∀ x, s k = .sym x → kwOf x = none := by
  intro x hx
  cases hx
  exact h

theorem closure1 {n : Nat} {x : Text} {body : Datum} {v : Val} {g : List (Text × Val)} {σ : Array Cell}
    {o : List (Bool × Datum)} (hb : isDefine body = false) :
    (evalN (n+1)).apply (.closure [x] none [body] []) [v] ⟨g, σ, o⟩ =
      (evalN n).eval body [(x, σ.size)] ⟨g, σ.push (.var v), o⟩ := by
  rw [evalN_succ_apply]
  show (bindArgs [x] none [v] [] >>= fun ρ' => evalBody (evalN n) ρ' [body]) _ = _
  have : bindArgs [x] none [v] [] ⟨g, σ, o⟩ = .ok [(x, σ.size)] ⟨g, σ.push (.var v), o⟩ := rfl
  rw [bind_ok this, evalBody_noDefs _ _ [body] (by intro d hd; simp at hd; subst hd; exact hb)]
  rfl

theorem closure2 {n : Nat} {x y : Text} {body : List Datum} {v w : Val} {g : List (Text × Val)} {σ : Array Cell}
    {o : List (Bool × Datum)} (hb : ∀ d ∈ body, isDefine d = false) :
    (evalN (n+1)).apply (.closure [x, y] none body []) [v, w] ⟨g, σ, o⟩ =
      evalExprs (evalN n) [(y, σ.size + 1), (x, σ.size)] body ⟨g, (σ.push (.var v)).push (.var w), o⟩ := by
  rw [evalN_succ_apply]
  show (bindArgs [x, y] none [v, w] [] >>= fun ρ' => evalBody (evalN n) ρ' body) _ = _
  have : bindArgs [x, y] none [v, w] [] ⟨g, σ, o⟩ =
      .ok [(y, σ.size + 1), (x, σ.size)] ⟨g, (σ.push (.var v)).push (.var w), o⟩ := by
    have h : bindArgs [x, y] none [v, w] [] ⟨g, σ, o⟩ =
      .ok [(y, (σ.push (.var v)).size), (x, σ.size)] ⟨g, (σ.push (.var v)).push (.var w), o⟩ := rfl
    rwa [Array.size_push] at h
  rw [bind_ok this, evalBody_noDefs _ _ body hb]

theorem prim_car {n : Nat} {l : Loc} {a d : Val} {st : St} (h : st.store[l]? = some (.pair a d)) :
    (evalN (n+1)).apply (.prim .car) [.pair l] st = .ok a st := by
  rw [evalN_succ_apply]
  show M.bind' (readPair (.pair l)) _ st = _
  have : readPair (.pair l) st = .ok (a, d) st := by
    show M.bind' (readCell l) _ st = _
    simp [M.bind', readCell, h, Pure.pure, M.pure']
  simp [M.bind', this, Pure.pure, M.pure']

theorem prim_cdr {n : Nat} {l : Loc} {a d : Val} {st : St} (h : st.store[l]? = some (.pair a d)) :
    (evalN (n+1)).apply (.prim .cdr) [.pair l] st = .ok d st := by
  rw [evalN_succ_apply]
  show M.bind' (readPair (.pair l)) _ st = _
  have : readPair (.pair l) st = .ok (a, d) st := by
    show M.bind' (readCell l) _ st = _
    simp [M.bind', readCell, h, Pure.pure, M.pure']
  simp [M.bind', this, Pure.pure, M.pure']

theorem prim_cons {n : Nat} {a d : Val} {g : List (Text × Val)} {σ : Array Cell} {o : List (Bool × Datum)} :
    (evalN (n+1)).apply (.prim .cons) [a, d] ⟨g, σ, o⟩ = .ok (.pair σ.size) ⟨g, σ.push (.pair a d), o⟩ := rfl

theorem prim_list1 {n : Nat} {a : Val} {g : List (Text × Val)} {σ : Array Cell} {o : List (Bool × Datum)} :
    (evalN (n+1)).apply (.prim .list) [a] ⟨g, σ, o⟩ = .ok (.pair σ.size) ⟨g, σ.push (.pair a .nil), o⟩ := rfl

theorem readCell_ok {l : Loc} {c : Cell} {st : St} (h : st.store[l]? = some c) : readCell l st = .ok c st := by
  unfold readCell; rw [h]

theorem writeCell_ok {l : Loc} (c : Cell) {g : List (Text × Val)} {σ : Array Cell} {o : List (Bool × Datum)}
    (h : l < σ.size) : writeCell l c ⟨g, σ, o⟩ = .ok () ⟨g, σ.setIfInBounds l c, o⟩ := by
  unfold writeCell; rw [if_pos h]

theorem prim_setCar {n : Nat} {l : Loc} {a d v : Val} {g : List (Text × Val)} {σ : Array Cell}
    {o : List (Bool × Datum)} (h : σ[l]? = some (.pair a d)) :
    (evalN (n+1)).apply (.prim .setCar) [.pair l, v] ⟨g, σ, o⟩ = .ok .void ⟨g, σ.setIfInBounds l (.pair v d), o⟩ := by
  rw [evalN_succ_apply]
  show (readCell l >>= _) _ = _
  rw [bind_ok (readCell_ok h)]
  show (writeCell l (.pair v d) >>= _) _ = _
  rw [bind_ok (writeCell_ok _ (get_lt h))]
  rfl

theorem prim_setCdr {n : Nat} {l : Loc} {a d v : Val} {g : List (Text × Val)} {σ : Array Cell}
    {o : List (Bool × Datum)} (h : σ[l]? = some (.pair a d)) :
    (evalN (n+1)).apply (.prim .setCdr) [.pair l, v] ⟨g, σ, o⟩ = .ok .void ⟨g, σ.setIfInBounds l (.pair a v), o⟩ := by
  rw [evalN_succ_apply]
  show (readCell l >>= _) _ = _
  rw [bind_ok (readCell_ok h)]
  show (writeCell l (.pair a v) >>= _) _ = _
  rw [bind_ok (writeCell_ok _ (get_lt h))]
  rfl

section Lib
variable {g : List (Text × Val)} {σ : Array Cell} {o : List (Bool × Datum)}

theorem eval_carVar (n : Nat) (hl : LibOK g) {x : Text} (hx : reserved x = false) {lx l : Loc} {a d : Val} {ρ' : Env}
    (hρ : ρ'.lookup x = some lx) (hρc : ρ'.lookup k_car = none) (hv : σ[lx]? = some (.var (.pair l)))
    (hc : σ[l]? = some (.pair a d)) :
    (evalN (n+2)).eval (L [s k_car, s x]) ρ' ⟨g, σ, o⟩ = .ok a ⟨g, σ, o⟩ :=
  (app1 (nk (by decide)) (sym_local hx hρ hv) (sym_global (by decide) hρc hl.car)).trans (prim_car hc)

theorem apply_cDone {j : Nat} (hj : 4 ≤ j) (hl : LibOK g) {p b : Loc} {done : Bool} {w : Val}
    (hp : σ[p]? = some (.pair (.pair b) .nil)) (hb : σ[b]? = some (.pair (.bool done) w)) :
    (evalN j).apply cDone [.pair p] ⟨g, σ, o⟩ = .ok (.bool done) ⟨g, σ.push (.var (.pair p)), o⟩ := by
  obtain ⟨k, rfl⟩ := Nat.exists_eq_add_of_le' hj
  have h2 : (evalN (k+3)).eval bodyDone [(k_x, σ.size)] ⟨g, σ.push (.var (.pair p)), o⟩ =
      .ok (.bool done) ⟨g, σ.push (.var (.pair p)), o⟩ :=
    (app1 (nk (by decide)) (eval_carVar k hl (by decide) rfl rfl (get_push_size _ _) (get_push _ hp))
      (sym_global (by decide) rfl hl.car)).trans (prim_car (get_push _ hb))
  exact (closure1 (by decide)).trans h2

theorem apply_cValue {j : Nat} (hj : 4 ≤ j) (hl : LibOK g) {p b : Loc} {done : Bool} {w : Val}
    (hp : σ[p]? = some (.pair (.pair b) .nil)) (hb : σ[b]? = some (.pair (.bool done) w)) :
    (evalN j).apply cValue [.pair p] ⟨g, σ, o⟩ = .ok w ⟨g, σ.push (.var (.pair p)), o⟩ := by
  obtain ⟨k, rfl⟩ := Nat.exists_eq_add_of_le' hj
  have h2 : (evalN (k+3)).eval bodyValue [(k_x, σ.size)] ⟨g, σ.push (.var (.pair p)), o⟩ =
      .ok w ⟨g, σ.push (.var (.pair p)), o⟩ :=
    (app1 (nk (by decide)) (eval_carVar k hl (by decide) rfl rfl (get_push_size _ _) (get_push _ hp))
      (sym_global (by decide) rfl hl.cdr)).trans (prim_cdr (get_push _ hb))
  exact (closure1 (by decide)).trans h2

theorem eval_doneForm (k : Nat) (hl : LibOK g) {x : Text} (hx : reserved x = false) {lp p b : Loc} {done : Bool} {w : Val}
    {ρ' : Env} (hρ : ρ'.lookup x = some lp) (hρd : ρ'.lookup k_promiseDone = none) (hv : σ[lp]? = some (.var (.pair p)))
    (hp : σ[p]? = some (.pair (.pair b) .nil)) (hb : σ[b]? = some (.pair (.bool done) w)) :
    (evalN (k+5)).eval (L [s k_promiseDone, s x]) ρ' ⟨g, σ, o⟩ = .ok (.bool done) ⟨g, σ.push (.var (.pair p)), o⟩ :=
  (app1 (n := k+4) (nk (by decide)) (sym_local hx hρ hv) (sym_global (by decide) hρd hl.done)).trans
    (apply_cDone (Nat.le_add_left 4 k) hl hp hb)

theorem eval_valueForm (k : Nat) (hl : LibOK g) {x : Text} (hx : reserved x = false) {lp p b : Loc} {done : Bool} {w : Val}
    {ρ' : Env} (hρ : ρ'.lookup x = some lp) (hρd : ρ'.lookup k_promiseValue = none) (hv : σ[lp]? = some (.var (.pair p)))
    (hp : σ[p]? = some (.pair (.pair b) .nil)) (hb : σ[b]? = some (.pair (.bool done) w)) :
    (evalN (k+5)).eval (L [s k_promiseValue, s x]) ρ' ⟨g, σ, o⟩ = .ok w ⟨g, σ.push (.var (.pair p)), o⟩ :=
  (app1 (n := k+4) (nk (by decide)) (sym_local hx hρ hv) (sym_global (by decide) hρd hl.value)).trans
    (apply_cValue (Nat.le_add_left 4 k) hl hp hb)

theorem apply_cMakePromise {j : Nat} (hj : 4 ≤ j) (hl : LibOK g) (d T : Val) :
    (evalN j).apply cMakePromise [d, T] ⟨g, σ, o⟩ = .ok (.pair (σ.size + 3))
      ⟨g, push4 σ d T, o⟩ := by
  obtain ⟨k, rfl⟩ := Nat.exists_eq_add_of_le' hj
  have hd : (evalN (k+1)).eval (s k_doneP) [(k_proc, σ.size + 1), (k_doneP, σ.size)]
      ⟨g, (σ.push (.var d)).push (.var T), o⟩ = .ok d ⟨g, (σ.push (.var d)).push (.var T), o⟩ :=
    sym_local (by decide) rfl (get_push _ (get_push_size _ _))
  have hT : (evalN (k+1)).eval (s k_proc) [(k_proc, σ.size + 1), (k_doneP, σ.size)]
      ⟨g, (σ.push (.var d)).push (.var T), o⟩ = .ok T ⟨g, (σ.push (.var d)).push (.var T), o⟩ :=
    sym_local (by decide) rfl (get_push_eq _ (by simp))
  have hcons : (evalN (k+1)).eval (s k_cons) [(k_proc, σ.size + 1), (k_doneP, σ.size)]
      ⟨g, (σ.push (.var d)).push (.var T), o⟩ = .ok (.prim .cons) ⟨g, (σ.push (.var d)).push (.var T), o⟩ :=
    sym_global (by decide) rfl hl.cons
  have h1 := (app2 (nk (by decide)) hd hT hcons).trans prim_cons
  have hlist : (evalN (k+2)).eval (s k_list) [(k_proc, σ.size + 1), (k_doneP, σ.size)]
      ⟨g, ((σ.push (.var d)).push (.var T)).push (.pair d T), o⟩ =
      .ok (.prim .list) ⟨g, ((σ.push (.var d)).push (.var T)).push (.pair d T), o⟩ :=
    sym_global (by decide) rfl hl.list
  have h2 := (app1 (nk (by decide)) h1 hlist).trans prim_list1
  refine (closure2 (body := [bodyMakePromise]) (by decide)).trans ?_
  show (evalN (k+3)).eval bodyMakePromise _ _ = _
  refine h2.trans ?_
  simp [Array.size_push]

theorem eval_lambda0 {n : Nat} (e : Datum) (ρ : Env) (st : St) :
    (evalN (n+1)).eval (L [s k_lambda, .nil, mkDone e]) ρ st = .ok (thunkX e ρ) st := rfl

theorem delayX_eval' {j : Nat} (hj : 5 ≤ j) (e : Datum) (ρ : Env) (hl : LibOK g)
    (hρ2 : ρ.lookup k_makePromise = none) :
    (evalN j).eval (delayFull e) ρ ⟨g, σ, o⟩ = .ok (.pair (σ.size + 3))
      ⟨g, push4 σ (.bool false) (thunkX e ρ), o⟩ := by
  obtain ⟨k, rfl⟩ := Nat.exists_eq_add_of_le' hj
  have hf : (evalN (k+4)).eval (.bool false) ρ ⟨g, σ, o⟩ = .ok (.bool false) ⟨g, σ, o⟩ := rfl
  have hm : (evalN (k+4)).eval (s k_makePromise) ρ ⟨g, σ, o⟩ = .ok cMakePromise ⟨g, σ, o⟩ :=
    sym_global (by decide) hρ2 hl.makePromise
  exact (app2 (nk (by decide)) hf (eval_lambda0 e ρ _) hm).trans (apply_cMakePromise (by omega) hl _ _)

/-- the start of `force`: bind `promise`, test `(promise-done? promise)` -/
theorem force_start {k : Nat} (hl : LibOK g) {p b : Loc} {done : Bool} {w : Val}
    (hp : σ[p]? = some (.pair (.pair b) .nil)) (hb : σ[b]? = some (.pair (.bool done) w)) :
    (evalN (k+7)).apply cForce [.pair p] ⟨g, σ, o⟩ =
      (evalN (k+5)).eval (if done then L [s k_promiseValue, s k_promise] else forceLet) [(k_promise, σ.size)]
        ⟨g, (σ.push (.var (.pair p))).push (.var (.pair p)), o⟩ := by
  have h1 := eval_doneForm (o := o) k hl (x := k_promise) (by decide) (ρ' := [(k_promise, σ.size)]) rfl rfl
    (get_push_size _ _) (get_push (.var (.pair p)) hp) (get_push (.var (.pair p)) hb)
  refine (closure1 (by decide)).trans ?_
  rw [evalN_succ_eval, bodyForce, native_if3, bind_ok h1]
  cases done <;> rfl

theorem force_done' {j : Nat} (hj : 7 ≤ j) (hl : LibOK g) {p b : Loc} {w : Val}
    (hp : σ[p]? = some (.pair (.pair b) .nil)) (hb : σ[b]? = some (.pair (.bool true) w)) :
    (evalN j).apply cForce [.pair p] ⟨g, σ, o⟩ =
      .ok w ⟨g, ((σ.push (.var (.pair p))).push (.var (.pair p))).push (.var (.pair p)), o⟩ := by
  obtain ⟨k, rfl⟩ := Nat.exists_eq_add_of_le' hj
  rw [force_start hl hp hb, if_pos rfl]
  exact eval_valueForm k hl (by decide) (lp := σ.size) (b := b) (done := true) rfl rfl (by lk) (by lk) (by lk)

theorem apply_cUpdate {j : Nat} (hj : 7 ≤ j) (hl : LibOK g) {pn bn p b : Loc} {dn : Bool} {v d0 T : Val}
    (hpn : σ[pn]? = some (.pair (.pair bn) .nil)) (hbn : σ[bn]? = some (.pair (.bool dn) v))
    (hp : σ[p]? = some (.pair (.pair b) .nil)) (hb : σ[b]? = some (.pair d0 T))
    (h1 : b ≠ p) (h2 : b ≠ pn) (h3 : b ≠ bn) :
    (evalN j).apply cUpdate [.pair pn, .pair p] ⟨g, σ, o⟩ = .ok .void ⟨g, updStore σ pn p b dn v T, o⟩ := by
  obtain ⟨k, rfl⟩ := Nat.exists_eq_add_of_le' hj
  have lpn := get_lt hpn
  have lbn := get_lt hbn
  have lp := get_lt hp
  have lb := get_lt hb
  have hnew : ∀ n σ', σ'[σ.size]? = some (.var (.pair pn)) →
      (evalN (n+1)).eval (s k_new) [(k_old, σ.size + 1), (k_new, σ.size)] ⟨g, σ', o⟩ = .ok (.pair pn) ⟨g, σ', o⟩ :=
    fun n σ' h => sym_local (by decide) rfl h
  have hcarold : ∀ σ', σ'[σ.size + 1]? = some (.var (.pair p)) → σ'[p]? = some (.pair (.pair b) .nil) →
      (evalN (k+5)).eval (L [s k_car, s k_old]) [(k_old, σ.size + 1), (k_new, σ.size)] ⟨g, σ', o⟩ =
        .ok (.pair b) ⟨g, σ', o⟩ :=
    fun σ' h h' => eval_carVar (k+3) hl (by decide) rfl rfl h h'
  have f1 : (evalN (k+6)).eval (L [s k_setCar, L [s k_car, s k_old], L [s k_promiseDone, s k_new]])
      [(k_old, σ.size + 1), (k_new, σ.size)] ⟨g, (σ.push (.var (.pair pn))).push (.var (.pair p)), o⟩ =
      .ok .void ⟨g, (((σ.push (.var (.pair pn))).push (.var (.pair p))).push (.var (.pair pn))).setIfInBounds b
        (.pair (.bool dn) T), o⟩ :=
    (app2 (n := k+5) (nk (by decide)) (hcarold _ (by lk) (by lk))
      (eval_doneForm k hl (by decide) (lp := σ.size) (p := pn) (b := bn) (done := dn) (w := v) rfl rfl (by lk) (by lk) (by lk))
      (sym_global (by decide) rfl hl.setCar)).trans (prim_setCar (a := d0) (d := T) (by lk))
  have f2 : (evalN (k+6)).eval (L [s k_setCdr, L [s k_car, s k_old], L [s k_promiseValue, s k_new]])
      [(k_old, σ.size + 1), (k_new, σ.size)]
      ⟨g, (((σ.push (.var (.pair pn))).push (.var (.pair p))).push (.var (.pair pn))).setIfInBounds b
        (.pair (.bool dn) T), o⟩ =
      .ok .void ⟨g, (((((σ.push (.var (.pair pn))).push (.var (.pair p))).push (.var (.pair pn))).setIfInBounds b
        (.pair (.bool dn) T)).push (.var (.pair pn))).setIfInBounds b (.pair (.bool dn) v), o⟩ :=
    (app2 (n := k+5) (nk (by decide)) (hcarold _ (by lk) (by lk))
      (eval_valueForm k hl (by decide) (lp := σ.size) (p := pn) (b := bn) (done := dn) (w := v) rfl rfl (by lk) (by lk) (by lk))
      (sym_global (by decide) rfl hl.setCdr)).trans (prim_setCdr (a := .bool dn) (d := T) (by lk))
  have f3 : (evalN (k+6)).eval (L [s k_setCar, s k_new, L [s k_car, s k_old]])
      [(k_old, σ.size + 1), (k_new, σ.size)]
      ⟨g, (((((σ.push (.var (.pair pn))).push (.var (.pair p))).push (.var (.pair pn))).setIfInBounds b
        (.pair (.bool dn) T)).push (.var (.pair pn))).setIfInBounds b (.pair (.bool dn) v), o⟩ =
      .ok .void ⟨g, updStore σ pn p b dn v T, o⟩ :=
    (app2 (n := k+5) (nk (by decide)) (hnew (k+4) _ (by lk)) (hcarold _ (by lk) (by lk))
      (sym_global (by decide) rfl hl.setCar)).trans (prim_setCar (a := .pair bn) (d := .nil) (by lk))
  refine (closure2 (body := bodyUpdate) (by decide)).trans ?_
  show ((evalN (k+6)).eval _ _ >>= fun _ => (evalN (k+6)).eval _ _ >>= fun _ => (evalN (k+6)).eval _ _) _ = _
  rw [bind_ok f1, bind_ok f2]
  exact f3

/-- the body of `force` for a promise that is not done -/
theorem forceLet_eval (r : Rec) (ρ : Env) :
    evalStep r forceLet ρ = (r.eval (L [L [s k_promiseValue, s k_promise]]) ρ >>= fun v =>
      allocCell (.var v) >>= fun l =>
      r.eval (L [s k_unless_, L [s k_promiseDone, s k_promise], L [s k_promiseUpdate, s k_promiseStar, s k_promise]])
        ((k_promiseStar, l) :: ρ) >>= fun _ => r.eval (L [s k_force, s k_promise]) ((k_promiseStar, l) :: ρ)) := by
  have h := native_let r ρ [(k_promiseStar, L [L [s k_promiseValue, s k_promise]])]
    (L [s k_unless_, L [s k_promiseDone, s k_promise], L [s k_promiseUpdate, s k_promiseStar, s k_promise]])
    [L [s k_force, s k_promise]] (by decide)
  have e1 : letUse (symBindings [(k_promiseStar, L [L [s k_promiseValue, s k_promise]])])
    (L [s k_unless_, L [s k_promiseDone, s k_promise], L [s k_promiseUpdate, s k_promiseStar, s k_promise]])
    [L [s k_force, s k_promise]] = forceLet := rfl
  rw [e1] at h
  rw [h]
  simp only [List.map, evalArgs_one, M.bind_assoc, M.pure_bind, List.zip_cons_cons, List.zip_nil_right, allocVars_one]
  congr 1

theorem thunk_unfold (k : Nat) (e : Datum) (ρ : Env) (S : St) :
    (evalN (k+3)).apply (thunkX e ρ) [] S = ((evalN (k+1)).eval e ρ >>= fun vb =>
      (evalN (k+1)).eval (s k_makePromise) ρ >>= fun fv => (evalN (k+1)).apply fv [.bool true, vb]) S := by
  rw [evalN_succ_apply]
  show (evalN (k+2)).eval (mkDone e) ρ S = _
  have hb : (evalN (k+1)).eval (.bool true) ρ S = .ok (.bool true) S := rfl
  rw [evalN_succ_eval, mkDone, native_app _ _ _ _ (nk (by decide)), evalArgs_two, M.bind_assoc, bind_ok hb, M.bind_assoc]
  simp only [M.pure_bind]

theorem apply_thunk_ok {j m : Nat} (hj1 : m + 2 ≤ j) (hj2 : 6 ≤ j) {e : Datum} {ρ : Env} {S : St} {v : Val}
    {g2 : List (Text × Val)} {σ2 : Array Cell} {o2 : List (Bool × Datum)}
    (hρ2 : ρ.lookup k_makePromise = none) (he : (evalN m).eval e ρ S = .ok v ⟨g2, σ2, o2⟩) (hl2 : LibOK g2) :
    (evalN j).apply (thunkX e ρ) [] S = .ok (.pair (σ2.size + 3))
      ⟨g2, push4 σ2 (.bool true) v, o2⟩ := by
  obtain ⟨k, rfl⟩ := Nat.exists_eq_add_of_le' hj2
  have he' : (evalN (k+3+1)).eval e ρ S = .ok v ⟨g2, σ2, o2⟩ := by
    rw [evalN_mono (n := m) (by omega) e ρ S (by rw [he]; simp), he]
  have hm : (evalN (k+3+1)).eval (s k_makePromise) ρ ⟨g2, σ2, o2⟩ = .ok cMakePromise ⟨g2, σ2, o2⟩ :=
    sym_global (by decide) hρ2 hl2.makePromise
  rw [thunk_unfold (k+3), bind_ok he', bind_ok hm]
  exact apply_cMakePromise (by omega) hl2 _ _

theorem apply_thunk_err {j m : Nat} (hj1 : m + 2 ≤ j) (hj2 : 3 ≤ j) {e : Datum} {ρ : Env} {S s2 : St} {c : ErrClass}
    (he : (evalN m).eval e ρ S = .err c s2) :
    (evalN j).apply (thunkX e ρ) [] S = .err c s2 := by
  obtain ⟨k, rfl⟩ := Nat.exists_eq_add_of_le' hj2
  have he' : (evalN (k+1)).eval e ρ S = .err c s2 := by
    rw [evalN_mono (n := m) (by omega) e ρ S (by rw [he]; simp), he]
  rw [thunk_unfold k, bind_err he']

/-- `(force (delay e))` up to the call of the thunk -/
theorem force_prefix (k : Nat) (e : Datum) (ρ : Env) (hl : LibOK g) (hf : g.lookup k_force = some cForce)
    (hρ1 : ρ.lookup k_force = none) (hρ2 : ρ.lookup k_makePromise = none) :
    (evalN (k+10)).eval (forceUse (delayFull e)) ρ ⟨g, σ, o⟩ =
      ((evalN (k+5)).apply (thunkX e ρ) [] >>= fun v => allocCell (.var v) >>= fun l =>
        (evalN (k+6)).eval (L [s k_unless_, L [s k_promiseDone, s k_promise],
          L [s k_promiseUpdate, s k_promiseStar, s k_promise]]) [(k_promiseStar, l), (k_promise, σ.size + 4)] >>= fun _ =>
        (evalN (k+6)).eval (L [s k_force, s k_promise]) [(k_promiseStar, l), (k_promise, σ.size + 4)])
      ⟨g, preStore σ (thunkX e ρ), o⟩ := by
  have hA := delayX_eval' (g := g) (σ := σ) (o := o) (j := k+9) (by omega) e ρ hl hρ2
  have hF : (evalN (k+9)).eval (s k_force) ρ ⟨g, push4 σ (.bool false) (thunkX e ρ), o⟩ =
      .ok cForce ⟨g, push4 σ (.bool false) (thunkX e ρ), o⟩ := sym_global (by decide) hρ1 hf
  refine (app1 (n := k+9) (nk (by decide)) hA hF).trans ?_
  have hS := force_start (g := g) (o := o) (σ := push4 σ (.bool false) (thunkX e ρ)) (k := k+2) hl
    (p := σ.size + 3) (b := σ.size + 2) (done := false) (w := thunkX e ρ) (by lk) (by lk)
  rw [push4_size] at hS
  refine hS.trans ?_
  show (evalN (k+6+1)).eval forceLet _ _ = _
  rw [evalN_succ_eval, forceLet_eval]
  exact bind_congr_left (app0 (n := k+5) (eval_valueForm k hl (by decide) (lp := σ.size + 4) (p := σ.size + 3)
    (b := σ.size + 2) (done := false) (w := thunkX e ρ) rfl rfl (by lk) (by lk) (by lk)))

/-- **`(force (delay e))`, `e` yields a value** (with fuel `m + 1`). `h2 h3 h4`: of the seven cells `e` must
    leave box, root and `force`'s `promise`, which `force` reads again after the thunk returns (test,
    update, second `force`). -/
theorem forceDelay_aux (m : Nat) (e : Datum) (ρ : Env) {g2 : List (Text × Val)} {σ2 : Array Cell}
    {o2 : List (Bool × Datum)} {v : Val} (hl : LibOK g) (hf : g.lookup k_force = some cForce)
    (hρ1 : ρ.lookup k_force = none) (hρ2 : ρ.lookup k_makePromise = none)
    (he : (evalN (m+1)).eval e ρ ⟨g, preStore σ (thunkX e ρ), o⟩ = .ok v ⟨g2, σ2, o2⟩)
    (hl2 : LibOK g2) (hf2 : g2.lookup k_force = some cForce) (hgrow : σ.size + 7 ≤ σ2.size)
    (h2 : σ2[σ.size + 2]? = some (.pair (.bool false) (thunkX e ρ)))
    (h3 : σ2[σ.size + 3]? = some (.pair (.pair (σ.size + 2)) .nil))
    (h4 : σ2[σ.size + 4]? = some (.var (.pair (σ.size + 3)))) :
    (evalN (m+13)).eval (forceUse (delayFull e)) ρ ⟨g, σ, o⟩ =
      .ok v ⟨g2, finalStore σ2 σ.size v (thunkX e ρ), o2⟩ := by
  rw [force_prefix (m+3) e ρ hl hf hρ1 hρ2,
    bind_ok (apply_thunk_ok (j := m+3+5) (m := m+1) (by omega) (by omega) hρ2 he hl2)]
  have hAl : allocCell (.var (.pair (σ2.size + 3))) ⟨g2, push4 σ2 (.bool true) v, o2⟩ =
      .ok (σ2.size + 4) ⟨g2, (push4 σ2 (.bool true) v).push (.var (.pair (σ2.size + 3))), o2⟩ := by
    show Res.ok _ _ = _
    rw [push4_size]
  rw [bind_ok hAl]
  -- (promise-done? promise): not yet
  have hD : (evalN (m+8)).eval (L [s k_promiseDone, s k_promise]) [(k_promiseStar, σ2.size + 4), (k_promise, σ.size + 4)]
      ⟨g2, (push4 σ2 (.bool true) v).push (.var (.pair (σ2.size + 3))), o2⟩ = .ok (.bool false)
      ⟨g2, ((push4 σ2 (.bool true) v).push (.var (.pair (σ2.size + 3)))).push (.var (.pair (σ.size + 3))), o2⟩ :=
    eval_doneForm (m+3) hl2 (by decide) (lp := σ.size + 4) (b := σ.size + 2) (w := thunkX e ρ) rfl rfl (by lk) (by lk) (by lk)
  -- (promise-update! promise* promise)
  have d1 : σ.size + 2 ≠ σ.size + 3 := by omega
  have d2 : σ.size + 2 ≠ σ2.size + 3 := by omega
  have d3 : σ.size + 2 ≠ σ2.size + 2 := by omega
  have hU : (evalN (m+8)).eval (L [s k_promiseUpdate, s k_promiseStar, s k_promise])
      [(k_promiseStar, σ2.size + 4), (k_promise, σ.size + 4)]
      ⟨g2, ((push4 σ2 (.bool true) v).push (.var (.pair (σ2.size + 3)))).push (.var (.pair (σ.size + 3))), o2⟩ = .ok .void
      ⟨g2, updStore (((push4 σ2 (.bool true) v).push (.var (.pair (σ2.size + 3)))).push (.var (.pair (σ.size + 3))))
        (σ2.size + 3) (σ.size + 3) (σ.size + 2) true v (thunkX e ρ), o2⟩ :=
    (app2 (n := m+7) (nk (by decide))
      (sym_local (l := σ2.size + 4) (v := .pair (σ2.size + 3)) (by decide) rfl (by lk))
      (sym_local (l := σ.size + 4) (v := .pair (σ.size + 3)) (by decide) rfl (by lk))
      (sym_global (by decide) rfl hl2.update)).trans
    (apply_cUpdate (o := o2) (j := m+7) (by omega) hl2 (pn := σ2.size + 3) (bn := σ2.size + 2) (p := σ.size + 3)
      (b := σ.size + 2) (dn := true) (v := v) (d0 := .bool false) (T := thunkX e ρ) (by lk) (by lk) (by lk) (by lk)
      d1 d2 d3)
  have hUn : (evalN (m+3+6)).eval (L [s k_unless_, L [s k_promiseDone, s k_promise],
      L [s k_promiseUpdate, s k_promiseStar, s k_promise]]) [(k_promiseStar, σ2.size + 4), (k_promise, σ.size + 4)]
      ⟨g2, (push4 σ2 (.bool true) v).push (.var (.pair (σ2.size + 3))), o2⟩ = .ok .void
      ⟨g2, updStore (((push4 σ2 (.bool true) v).push (.var (.pair (σ2.size + 3)))).push (.var (.pair (σ.size + 3))))
        (σ2.size + 3) (σ.size + 3) (σ.size + 2) true v (thunkX e ρ), o2⟩ := by
    have hn := native_unless (evalN (m+8)) [(k_promiseStar, σ2.size + 4), (k_promise, σ.size + 4)]
      (L [s k_promiseDone, s k_promise]) (L [s k_promiseUpdate, s k_promiseStar, s k_promise]) []
    show evalStep (evalN (m+8)) (unlessUse _ _ []) _ _ = _
    rw [hn, bind_ok hD]
    exact hU
  rw [bind_ok hUn]
  -- (force promise): done now
  exact (app1 (n := m+8) (nk (by decide))
    (sym_local (l := σ.size + 4) (v := .pair (σ.size + 3)) (by decide) rfl (by lk))
    (sym_global (by decide) rfl hf2)).trans
    (force_done' (o := o2) (j := m+8) (by omega) hl2 (p := σ.size + 3) (b := σ.size + 2) (w := v) (by lk) (by lk))

end Lib

end Marwood.Spec.Eval.Derived
