import Marwood.Print.Store
/-!
# T10.2: `get_as_cell (put_cell d) = d` over the abstract store

`Ext st st'`: allocation only appends. Reading is stable under extension and under more fuel; `put_cell` extends the
store and returns a pointer to a cell from which `get_as_cell` rebuilds the datum.
-/
namespace Marwood.PStore
open Marwood

def Ext (st st' : Store) : Prop := ∃ extra, st'.cells = st.cells ++ extra

theorem Ext.refl (st : Store) : Ext st st := ⟨[], by simp⟩

theorem Ext.trans {a b c : Store} (h1 : Ext a b) (h2 : Ext b c) : Ext a c := by
  obtain ⟨x, hx⟩ := h1
  obtain ⟨y, hy⟩ := h2
  exact ⟨x ++ y, by rw [hy, hx, List.append_assoc]⟩

theorem Ext.get {st st' : Store} (h : Ext st st') {p : Nat} {c : SCell} (hc : st.cells[p]? = some c) :
    st'.cells[p]? = some c := by
  obtain ⟨x, hx⟩ := h
  rw [hx]
  have hp : p < st.cells.length := by
    rcases Nat.lt_or_ge p st.cells.length with h | h
    · exact h
    · rw [List.getElem?_eq_none h] at hc; cases hc
  rw [List.getElem?_append_left hp]
  exact hc

theorem alloc_ext (st : Store) (c : SCell) : Ext st (st.alloc c).1 ∧
    (st.alloc c).1.cells[(st.alloc c).2]? = some c := by
  refine ⟨⟨[c], rfl⟩, ?_⟩
  simp [Store.alloc]

theorem findSym_spec (s : Text) : ∀ (cs : List SCell) (i p : Nat), findSym s cs i = some p →
    i ≤ p ∧ cs[p - i]? = some (.sym s) := by
  intro cs
  induction cs with
  | nil => intro i p h; cases h
  | cons c cs ih =>
    intro i p h
    simp only [findSym] at h
    split at h
    · rename_i hc
      cases h
      simp [hc]
    · obtain ⟨h1, h2⟩ := ih (i + 1) p h
      refine ⟨by omega, ?_⟩
      have : p - i = (p - (i + 1)) + 1 := by omega
      rw [this, List.getElem?_cons_succ]
      exact h2

theorem put_spec (st : Store) (c : SCell) : Ext st (st.put c).1 ∧ (st.put c).1.cells[(st.put c).2]? = some c := by
  cases c with
  | sym s =>
    simp only [Store.put]
    cases h : findSym s st.cells 0 with
    | none => exact alloc_ext st _
    | some p =>
      simp only
      have := (findSym_spec s st.cells 0 p h).2
      simp only [Nat.sub_zero] at this
      exact ⟨Ext.refl st, this⟩
  | val d => exact alloc_ext st _
  | pair a b => exact alloc_ext st _
  | str s => exact alloc_ext st _
  | vec es => exact alloc_ext st _

def okOf {α : Type} (r : R α) : Option α :=
  match r with
  | .ok a => some a
  | _ => none

theorem get_stable (st st' : Store) (hext : Ext st st') : ∀ f : Nat,
    (∀ p x, getPtr st f p = .ok x → ∀ f', f ≤ f' → getPtr st' f' p = .ok x) ∧
    (∀ c x, getCell st f c = .ok x → ∀ f', f ≤ f' → getCell st' f' c = .ok x) ∧
    (∀ v x, getVal st f v = .ok x → ∀ f', f ≤ f' → getVal st' f' v = .ok x) ∧
    (∀ vs xs, getVals st f vs = .ok xs → ∀ f', f ≤ f' → getVals st' f' vs = .ok xs) ∧
    (∀ a d acc x, getSpine st f a d acc = .ok x → ∀ f', f ≤ f' → getSpine st' f' a d acc = .ok x) := by
  intro f
  induction f with
  | zero =>
    refine ⟨?_, ?_, ?_, ?_, ?_⟩ <;> intros <;> simp_all [getPtr, getCell, getVal, getVals, getSpine]
  | succ f ih =>
    obtain ⟨ihP, ihC, ihV, ihVs, ihS⟩ := ih
    have succ : ∀ f', f + 1 ≤ f' → ∃ g, f' = g + 1 ∧ f ≤ g := fun f' h => ⟨f' - 1, by omega, by omega⟩
    refine ⟨?_, ?_, ?_, ?_, ?_⟩
    · intro p x h f' hle
      obtain ⟨g, rfl, hg⟩ := succ f' hle
      rw [getPtr] at h ⊢
      cases hc : st.cells[p]? with
      | none => simp [hc] at h
      | some c =>
        simp only [hc] at h
        simp only [hext.get hc]
        exact ihC c x h g hg
    · intro c x h f' hle
      obtain ⟨g, rfl, hg⟩ := succ f' hle
      cases c with
      | val d | str s | sym s => rw [getCell] at h ⊢; exact h
      | vec es =>
        rw [getCell] at h ⊢
        cases hv : getVals st f es with
        | ok xs =>
          simp only [hv] at h
          simp only [ihVs es xs hv g hg]
          exact h
        | err e | panic m => simp [hv] at h
      | pair a d =>
        rw [getCell] at h ⊢
        exact ihS a d [] x h g hg
    · intro v x h f' hle
      obtain ⟨g, rfl, hg⟩ := succ f' hle
      cases v with
      | imm d => rw [getVal] at h ⊢; exact h
      | ptr p => rw [getVal] at h ⊢; exact ihP p x h g hg
    · intro vs xs h f' hle
      obtain ⟨g, rfl, hg⟩ := succ f' hle
      cases vs with
      | nil => rw [getVals] at h ⊢; exact h
      | cons v vs =>
        rw [getVals] at h ⊢
        cases hv : getVal st f v with
        | ok x =>
          simp only [hv] at h
          cases hvs : getVals st f vs with
          | ok ys =>
            simp only [hvs] at h
            simp only [ihV v x hv g hg, ihVs vs ys hvs g hg]
            exact h
          | err e | panic m => simp [hvs] at h
        | err e | panic m => simp [hv] at h
    · intro a d acc x h f' hle
      obtain ⟨g, rfl, hg⟩ := succ f' hle
      rw [getSpine] at h ⊢
      cases hp : getPtr st f a with
      | ok y =>
        simp only [hp] at h
        cases hc : st.cells[d]? with
        | none => simp [hc] at h
        | some c =>
          simp only [hc] at h
          simp only [ihP a y hp g hg, hext.get hc]
          cases hk : spineKind c with
          | next a' d' =>
            simp only [hk] at h ⊢
            exact ihS _ _ _ _ h g hg
          | stop =>
            simp only [hk] at h ⊢
            exact h
          | tail =>
            simp only [hk] at h ⊢
            cases hgc : getCell st f c with
            | ok t =>
              simp only [hgc] at h
              simp only [ihC c t hgc g hg]
              exact h
            | err e | panic m => simp [hgc] at h
      | err e | panic m => simp [hp] at h

theorem getCell_mono {st st' : Store} (hext : Ext st st') {f f' : Nat} (hle : f ≤ f') {c : SCell} {x : Datum}
    (h : getCell st f c = .ok x) : getCell st' f' c = .ok x :=
  (get_stable st st' hext f).2.1 c x h f' hle

theorem getPtr_mono {st st' : Store} (hext : Ext st st') {f f' : Nat} (hle : f ≤ f') {p : Nat} {x : Datum}
    (h : getPtr st f p = .ok x) : getPtr st' f' p = .ok x :=
  (get_stable st st' hext f).1 p x h f' hle

theorem getVal_mono {st st' : Store} (hext : Ext st st') {f f' : Nat} (hle : f ≤ f') {v : SVal} {x : Datum}
    (h : getVal st f v = .ok x) : getVal st' f' v = .ok x :=
  (get_stable st st' hext f).2.2.1 v x h f' hle

theorem getVals_mono {st st' : Store} (hext : Ext st st') {f f' : Nat} (hle : f ≤ f') {vs : List SVal}
    {xs : List Datum} (h : getVals st f vs = .ok xs) : getVals st' f' vs = .ok xs :=
  (get_stable st st' hext f).2.2.2.1 vs xs h f' hle

theorem getSpine_mono {st st' : Store} (hext : Ext st st') {f f' : Nat} (hle : f ≤ f') {a d : Nat}
    {acc : List Datum} {x : Datum} (h : getSpine st f a d acc = .ok x) : getSpine st' f' a d acc = .ok x :=
  (get_stable st st' hext f).2.2.2.2 a d acc x h f' hle

theorem ofListTail_append (xs ys : List Datum) (t : Datum) :
    Datum.ofListTail (xs ++ ys) t = Datum.ofListTail xs (Datum.ofListTail ys t) := by
  induction xs with
  | nil => rfl
  | cons x xs ih => simp [Datum.ofListTail, ih]

theorem ofListTail_nil (xs : List Datum) : Datum.ofListTail xs .nil = Datum.ofList xs := by
  induction xs with
  | nil => rfl
  | cons x xs ih => simp [Datum.ofListTail, Datum.ofList, ih]

theorem getSpine_acc (st : Store) : ∀ (f a d : Nat) (acc0 acc : List Datum) (r0 : Datum),
    getSpine st f a d acc0 = .ok r0 → getSpine st f a d (acc ++ acc0) = .ok (Datum.ofListTail acc r0) := by
  intro f
  induction f with
  | zero => intro a d acc0 acc r0 h; simp [getSpine] at h
  | succ f ih =>
    intro a d acc0 acc r0 h
    rw [getSpine] at h ⊢
    cases hp : getPtr st f a with
    | ok x =>
      simp only [hp] at h ⊢
      cases hc : st.cells[d]? with
      | none => simp [hc] at h
      | some c =>
        simp only [hc] at h ⊢
        cases hk : spineKind c with
        | next a' d' =>
          simp only [hk] at h ⊢
          rw [List.append_assoc]
          exact ih _ _ _ _ _ h
        | stop =>
          simp only [hk] at h ⊢
          cases h
          rw [List.append_assoc, ← ofListTail_nil, ofListTail_append, ofListTail_nil]
        | tail =>
          simp only [hk] at h ⊢
          cases hg : getCell st f c with
          | ok t =>
            simp only [hg] at h ⊢
            cases h
            simp only [improper]
            rw [List.append_assoc, ofListTail_append]
          | err e | panic m => simp [hg] at h
    | err e | panic m => simp [hp] at h

def proper : Datum → Bool
  | .nil => true
  | .pair _ d => proper d
  | _ => false

/-- data that have a heap form -/
def Plain : Datum → Bool
  | .continuation => false
  | .macro_ => false
  | .procedure _ => false
  | .pair a d => Plain a && Plain d
  | .vec e => Plain e && proper e
  | _ => true

/-- the loop of `get_as_cell` decides by the cell the cdr points at whether to go on along the spine, end a proper
list or read an improper tail (`spineKind`), so the statement about a pair needs this of the cell built for its cdr -/
def KindFor (c : SCell) (d : Datum) : Prop :=
  match d with
  | .pair _ _ => ∃ a b, c = .pair a b
  | .nil => spineKind c = .stop
  | _ => spineKind c = .tail

/-- a pair costs `getCell → getSpine → getPtr → getCell` before the car's cell is read: four units, one to spare. From
a value the way in is `getVal → getPtr → getCell` (`+ 2` in `PutOk`), from a pointer `getPtr → getCell` (`+ 1`). -/
def bound (d : Datum) : Nat := 4 * dsize d

theorem dsize_pos (d : Datum) : 1 ≤ dsize d := by
  cases d <;> simp [dsize]

theorem ofList_listElems : ∀ e : Datum, proper e = true → Datum.ofList (Datum.listElems e) = e := by
  intro e
  induction e with
  | nil => intro _; rfl
  | pair a d _ ih => intro h; simp only [proper] at h; simp [Datum.listElems, Datum.ofList, ih h]
  | _ => intro h; cases h

/-- what `put_cell`, `maybe_put_cell` and the element loop of the `Vector` arm establish -/
def PutOk (d : Datum) : Prop :=
  (∀ st, ∃ st' p c, putCell st d = .ok (st', p) ∧ Ext st st' ∧ st'.cells[p]? = some c ∧ KindFor c d ∧
      getCell st' (bound d) c = .ok d) ∧
  (∀ st, ∃ st' v, maybePutCell st d = .ok (st', v) ∧ Ext st st' ∧ getVal st' (bound d + 2) v = .ok d) ∧
  (proper d = true → ∀ st, ∃ st' vs, putElems st d = .ok (st', vs) ∧ Ext st st' ∧
      getVals st' (bound d) vs = .ok (Datum.listElems d))

theorem putOk_scalar (d : Datum) (hput : ∀ st, putCell st d = .ok (st.put (.val d)))
    (hmaybe : ∀ st, maybePutCell st d = .ok (st, .imm d)) (hk : KindFor (.val d) d)
    (he : ∀ st, putElems st d = .ok (st, [])) (hl : Datum.listElems d = []) : PutOk d := by
  refine ⟨?_, ?_, ?_⟩
  · intro st
    obtain ⟨h1, h2⟩ := put_spec st (.val d)
    refine ⟨_, _, _, hput st, h1, h2, hk, ?_⟩
    have : bound d = (bound d - 1) + 1 := by have := dsize_pos d; unfold bound; omega
    rw [this, getCell]
  · intro st
    exact ⟨st, _, hmaybe st, Ext.refl st, by rw [getVal]⟩
  · intro _ st
    refine ⟨st, [], he st, Ext.refl st, ?_⟩
    have : bound d = (bound d - 1) + 1 := by have := dsize_pos d; unfold bound; omega
    rw [this, getVals, hl]

theorem getVal_ptr {st : Store} {p : Nat} {c : SCell} {d : Datum} {f : Nat} (hc : st.cells[p]? = some c)
    (h : getCell st f c = .ok d) : getVal st (f + 2) (.ptr p) = .ok d := by
  rw [getVal, getPtr]
  simp only [hc, h]

theorem putOk_boxed (d : Datum) (c : SCell) (hput : ∀ st, putCell st d = .ok (st.put c))
    (hmaybe : ∀ st, maybePutCell st d = .ok ((st.put c).1, .ptr (st.put c).2)) (hk : KindFor c d)
    (hget : ∀ st f, getCell st (f + 1) c = .ok d)
    (he : ∀ st, putElems st d = .ok (st, [])) (hl : Datum.listElems d = []) : PutOk d := by
  have hb : bound d = (bound d - 1) + 1 := by have := dsize_pos d; unfold bound; omega
  refine ⟨?_, ?_, ?_⟩
  · intro st
    obtain ⟨h1, h2⟩ := put_spec st c
    exact ⟨_, _, _, hput st, h1, h2, hk, by rw [hb]; exact hget _ _⟩
  · intro st
    obtain ⟨h1, h2⟩ := put_spec st c
    exact ⟨_, _, hmaybe st, h1, getVal_ptr h2 (by rw [hb]; exact hget _ _)⟩
  · intro _ st
    refine ⟨st, [], he st, Ext.refl st, ?_⟩
    rw [hb, getVals, hl]

theorem spineKind_next {c : SCell} {a b : Nat} (h : spineKind c = .next a b) : c = .pair a b := by
  cases c with
  | pair x y => simp only [spineKind] at h; cases h; rfl
  | val d => cases d <;> simp [spineKind] at h
  | str s => simp [spineKind] at h
  | sym s => simp [spineKind] at h
  | vec es => simp [spineKind] at h

theorem getCell_pair {st : Store} {a d : Datum} {pa pd : Nat} {ca cd : SCell}
    (hca : st.cells[pa]? = some ca) (hga : getCell st (bound a) ca = .ok a)
    (hcd : st.cells[pd]? = some cd) (hkd : KindFor cd d) (hgd : getCell st (bound d) cd = .ok d) :
    getCell st (bound (.pair a d)) (.pair pa pd) = .ok (.pair a d) := by
  have hb : bound (.pair a d) = (bound a + bound d + 2) + 1 + 1 := by simp [bound, dsize]; omega
  rw [hb, getCell, getSpine]
  have hp : getPtr st (bound a + bound d + 2) pa = .ok a := by
    have : bound a + bound d + 2 = (bound a + bound d + 1) + 1 := by omega
    rw [this, getPtr]
    simp only [hca]
    exact getCell_mono (Ext.refl st) (by omega) hga
  simp only [hp, hcd]
  have hk : (∃ x y, d = .pair x y) ∨ d = .nil ∨ spineKind cd = .tail := by
    cases d
    case pair => exact .inl ⟨_, _, rfl⟩
    case nil => exact .inr (.inl rfl)
    all_goals exact .inr (.inr hkd)
  rcases hk with ⟨x, y, rfl⟩ | rfl | hk
  · obtain ⟨a', d', hcd'⟩ := hkd
    subst hcd'
    simp only [spineKind]
    have hbd : bound (.pair x y) = (bound (.pair x y) - 1) + 1 := by simp [bound, dsize]; omega
    rw [hbd, getCell] at hgd
    have := getSpine_acc st _ _ _ [] [a] _ hgd
    simp only [List.append_nil] at this
    exact getSpine_mono (Ext.refl st) (by omega) this
  · simp only [KindFor] at hkd
    simp only [hkd]
    rfl
  · -- the cdr is not on the spine: it is read as a cell of its own
    simp only [hk, getCell_mono (Ext.refl st) (show bound d ≤ bound a + bound d + 2 by omega) hgd]
    rfl

theorem putOk_pair (a d : Datum) (ha : PutOk a) (hd : PutOk d) : PutOk (.pair a d) := by
  -- what both `put_cell` and `maybe_put_cell` do with a pair
  have core : ∀ st, ∃ st1 pa st2 pd, putCell st a = .ok (st1, pa) ∧ putCell st1 d = .ok (st2, pd) ∧
      Ext st (st2.put (.pair pa pd)).1 ∧
      (st2.put (.pair pa pd)).1.cells[(st2.put (.pair pa pd)).2]? = some (.pair pa pd) ∧
      getCell (st2.put (.pair pa pd)).1 (bound (.pair a d)) (.pair pa pd) = .ok (.pair a d) := by
    intro st
    obtain ⟨st1, pa, ca, h1, e1, hca, _, hga⟩ := ha.1 st
    obtain ⟨st2, pd, cd, h2, e2, hcd, hkd, hgd⟩ := hd.1 st1
    obtain ⟨e3, hc3⟩ := put_spec st2 (.pair pa pd)
    refine ⟨st1, pa, st2, pd, h1, h2, e1.trans (e2.trans e3), hc3, ?_⟩
    exact getCell_pair ((e2.trans e3).get hca) (getCell_mono (e2.trans e3) (Nat.le_refl _) hga)
      (e3.get hcd) hkd (getCell_mono e3 (Nat.le_refl _) hgd)
  refine ⟨?_, ?_, ?_⟩
  · intro st
    obtain ⟨st1, pa, st2, pd, h1, h2, e, hc, hg⟩ := core st
    refine ⟨_, _, _, ?_, e, hc, ⟨pa, pd, rfl⟩, hg⟩
    rw [putCell]
    simp only [h1, h2]
  · intro st
    obtain ⟨st1, pa, st2, pd, h1, h2, e, hc, hg⟩ := core st
    refine ⟨_, _, ?_, e, getVal_ptr hc hg⟩
    rw [maybePutCell]
    simp only [h1, h2]
  · intro hp st
    simp only [proper] at hp
    obtain ⟨st1, v, h1, e1, hv⟩ := ha.2.1 st
    obtain ⟨st2, vs, h2, e2, hvs⟩ := hd.2.2 hp st1
    refine ⟨st2, v :: vs, ?_, e1.trans e2, ?_⟩
    · rw [putElems]
      simp only [h1, h2]
    · have hb : bound (.pair a d) = (bound a + bound d + 3) + 1 := by simp [bound, dsize]; omega
      rw [hb, getVals]
      have g1 := getVal_mono e2 (show bound a + 2 ≤ bound a + bound d + 3 by omega) hv
      have g2 := getVals_mono (Ext.refl st2) (show bound d ≤ bound a + bound d + 3 by omega) hvs
      simp only [g1, g2, Datum.listElems]

theorem putOk_vec (e : Datum) (he : PutOk e) (hp : proper e = true) : PutOk (.vec e) := by
  have core : ∀ st, ∃ st1 vs, putElems st e = .ok (st1, vs) ∧ Ext st (st1.put (.vec vs)).1 ∧
      (st1.put (.vec vs)).1.cells[(st1.put (.vec vs)).2]? = some (.vec vs) ∧
      getCell (st1.put (.vec vs)).1 (bound (.vec e)) (.vec vs) = .ok (.vec e) := by
    intro st
    obtain ⟨st1, vs, h1, e1, hvs⟩ := he.2.2 hp st
    obtain ⟨e2, hc⟩ := put_spec st1 (.vec vs)
    refine ⟨st1, vs, h1, e1.trans e2, hc, ?_⟩
    have hb : bound (.vec e) = (bound e + 3) + 1 := by simp [bound, dsize]; omega
    rw [hb, getCell]
    have g := getVals_mono e2 (show bound e ≤ bound e + 3 by omega) hvs
    simp only [g, Datum.vecOfList, ofList_listElems e hp]
  refine ⟨?_, ?_, ?_⟩
  · intro st
    obtain ⟨st1, vs, h1, e, hc, hg⟩ := core st
    refine ⟨_, _, _, ?_, e, hc, rfl, hg⟩
    rw [putCell]
    simp only [h1]
  · intro st
    obtain ⟨st1, vs, h1, e, hc, hg⟩ := core st
    refine ⟨_, _, ?_, e, getVal_ptr hc hg⟩
    rw [maybePutCell]
    simp only [h1]
  · intro h; cases h

theorem putOk_all : ∀ d : Datum, Plain d = true → PutOk d := by
  intro d
  induction d with
  | bool b | char c | num n | nil | undefined | void =>
    intro _; exact putOk_scalar _ (fun _ => rfl) (fun _ => rfl) rfl (fun _ => rfl) rfl
  | str s =>
    intro _
    exact putOk_boxed _ (.str s) (fun _ => rfl) (fun _ => rfl) rfl (fun _ _ => rfl) (fun _ => rfl) rfl
  | sym s =>
    intro _
    exact putOk_boxed _ (.sym s) (fun _ => rfl) (fun _ => rfl) rfl (fun _ _ => rfl) (fun _ => rfl) rfl
  | continuation | macro_ | procedure p => intro h; cases h
  | pair a d iha ihd =>
    intro h
    simp only [Plain, Bool.and_eq_true] at h
    exact putOk_pair a d (iha h.1) (ihd h.2)
  | vec e ih =>
    intro h
    simp only [Plain, Bool.and_eq_true] at h
    exact putOk_vec e (ih h.1) h.2

theorem hasOpaque_of_plain : ∀ d : Datum, Plain d = true → hasOpaque d = false := by
  intro d
  induction d with
  | pair a d iha ihd =>
    intro h
    simp only [Plain, Bool.and_eq_true] at h
    simp [hasOpaque, iha h.1, ihd h.2]
  | vec e ih =>
    intro h
    simp only [Plain, Bool.and_eq_true] at h
    simp [hasOpaque, ih h.1]
  | continuation | macro_ | procedure p => intro h; cases h
  | _ => intro _; rfl

/-- **T10.2** `Vm::eval` of `(quote d)` returns `d` -/
theorem evalQuote_id (d : Datum) (h : Plain d = true) : evalQuote d = .ok d := by
  obtain ⟨st', v, hput, _, hg⟩ := (putOk_all d h).2.1 Store.empty
  unfold evalQuote
  simp only [hasOpaque_of_plain d h, Bool.false_eq_true, if_false, hput]
  exact getVal_mono (Ext.refl _) (by unfold bound; omega) hg

end Marwood.PStore
