import Marwood.Lemmas.CompileCorrect3Defs
import Marwood.Lemmas.EvalMono
/-!
# T01.3 stage 2: `Spec.Eval` on `lambda`, closure application and bodies

Binding the parameters is inverted once, with an optional rest parameter (`CompileCorrect3.bindArgs3_inv`,
`bindArgs3_err_inv`); the fixed-arity statements of stage 2 are the case `rest = none`. The stage-3 definitions are
imported for `ListIn`, the list in the store a rest parameter is bound to, in which `bindArgs3_inv` is stated.
-/
namespace Marwood.Lemmas.CompileCorrect3
open Marwood Marwood.Lemmas.CompileCorrect
open Marwood.Spec.Eval

theorem ListIn.mono {S S' : Array Cell} (hS : ∀ (l : Nat) (c : Cell), S[l]? = some c → S'[l]? = some c) :
    ∀ {v : Val} {xs : List Val}, ListIn S v xs → ListIn S' v xs := by
  intro v xs h
  induction h with
  | nil => exact .nil
  | cons h1 _ ih => exact .cons (hS _ _ h1) ih

theorem ListIn.mono_of_lt {S S' : Array Cell} (hS : ∀ l, l < S.size → S'[l]? = S[l]?)
    {v : Val} {xs : List Val} (h : ListIn S v xs) : ListIn S' v xs := by
  refine ListIn.mono (fun l c hc => ?_) h
  rw [hS l (Array.getElem?_eq_some_iff.mp hc).1]; exact hc

theorem allocList_inv : ∀ (xs : List Val) (σ σ' : SSt) (v : Val), allocList xs σ = .ok v σ' →
    σ'.globals = σ.globals ∧ σ'.out = σ.out ∧ σ'.store.size = σ.store.size + xs.length ∧
    (∀ l, l < σ.store.size → σ'.store[l]? = σ.store[l]?) ∧ ListIn σ'.store v xs := by
  intro xs
  induction xs with
  | nil =>
    intro σ σ' v h
    simp only [allocList] at h
    obtain ⟨rfl, rfl⟩ := pure_ok_inv h
    exact ⟨rfl, rfl, rfl, fun _ _ => rfl, .nil⟩
  | cons a as ih =>
    intro σ σ' v h
    simp only [allocList] at h
    obtain ⟨t, σ0, h1, h2⟩ := bind_ok_inv h
    unfold Marwood.Spec.Eval.cons at h2
    obtain ⟨l, σ2, h3, h4⟩ := bind_ok_inv h2
    unfold allocCell at h3
    injection h3 with hl hσ
    subst hl hσ
    obtain ⟨rfl, rfl⟩ := pure_ok_inv h4
    obtain ⟨e1, e2, e3, e4, e5⟩ := ih σ σ0 t h1
    refine ⟨e1, e2, by simp [Array.size_push, e3]; omega, ?_, ?_⟩
    · intro l hl
      show (σ0.store.push _)[l]? = _
      rw [← e4 l hl]
      simp [Array.getElem?_push, Nat.ne_of_lt (show l < σ0.store.size by omega)]
    · refine .cons (l := σ0.store.size) (a := a) (d := t) (by simp) ?_
      exact ListIn.mono_of_lt (fun l hl => by simp [Array.getElem?_push, Nat.ne_of_lt hl]) e5

/-- `bindArgs` with an optional rest parameter -/
theorem bindArgs3_inv : ∀ (ps : List Text) (rest : Option Text) (args : List Val) (ρ ρ' : Env) (σ σ1 : SSt),
    (ps ++ rest.toList).Nodup → bindArgs ps rest args ρ σ = .ok ρ' σ1 →
    ps.length ≤ args.length ∧ (rest = none → args.length = ps.length) ∧
    σ1.globals = σ.globals ∧ σ1.out = σ.out ∧
    σ1.store.size = σ.store.size + args.length + (if rest.isSome then 1 else 0) ∧
    (∀ l, l < σ.store.size → σ1.store[l]? = σ.store[l]?) ∧
    (∀ i a, i < ps.length → args[i]? = some a → σ1.store[σ.store.size + i]? = some (.var a)) ∧
    (∀ i x, ps[i]? = some x → ρ'.lookup x = some (σ.store.size + i)) ∧
    (∀ rn, rest = some rn → ∃ lv, ρ'.lookup rn = some (σ.store.size + args.length) ∧
        σ1.store[σ.store.size + args.length]? = some (.var lv) ∧ ListIn σ1.store lv (args.drop ps.length)) ∧
    (∀ x, x ∉ ps ++ rest.toList → ρ'.lookup x = ρ.lookup x) := by
  intro ps
  induction ps with
  | nil =>
    intro rest args ρ ρ' σ σ1 _ h
    cases rest with
    | none =>
      cases args with
      | nil =>
        simp only [bindArgs] at h
        obtain ⟨rfl, rfl⟩ := pure_ok_inv h
        exact ⟨Nat.le_refl _, fun _ => rfl, rfl, rfl, rfl, fun _ _ => rfl, by intro i a hi; simp at hi,
          by intro i x hi; simp at hi, (fun rn hrn => nomatch hrn), fun _ _ => rfl⟩
      | cons a as => simp only [bindArgs] at h; exact absurd h throw_ne_ok
    | some rn =>
      simp only [bindArgs] at h
      obtain ⟨lst, σ0, h1, h2⟩ := bind_ok_inv h
      obtain ⟨l, σ2, h3, h4⟩ := bind_ok_inv h2
      unfold allocCell at h3
      injection h3 with hl hσ
      subst hl hσ
      obtain ⟨rfl, rfl⟩ := pure_ok_inv h4
      obtain ⟨e1, e2, e3, e4, e5⟩ := allocList_inv args σ σ0 lst h1
      refine ⟨Nat.zero_le _, (fun hc => nomatch hc), e1, e2, by simp [Array.size_push, e3], ?_, ?_, ?_, ?_, ?_⟩
      · intro l hl
        show (σ0.store.push _)[l]? = _
        rw [← e4 l hl]
        simp [Array.getElem?_push, Nat.ne_of_lt (show l < σ0.store.size by omega)]
      · intro i a hi; simp at hi
      · intro i x hi; simp at hi
      · intro rn' hrn
        cases hrn
        refine ⟨lst, by simp [List.lookup, e3], ?_, ?_⟩
        · show (σ0.store.push _)[σ.store.size + args.length]? = _
          rw [← e3]; simp
        · simp only [List.length_nil, List.drop_zero]
          exact ListIn.mono_of_lt (fun l hl => by simp [Array.getElem?_push, Nat.ne_of_lt hl]) e5
      · intro x hx
        have hx1 : x ≠ rn := by simpa using hx
        have : (x == rn) = false := by simpa using hx1
        simp [List.lookup, this]
  | cons p ps ih =>
    intro rest args ρ ρ' σ σ1 hnd h
    cases args with
    | nil => simp only [bindArgs] at h; exact absurd h throw_ne_ok
    | cons a as =>
      simp only [bindArgs] at h
      obtain ⟨l, σ0, h1, h2⟩ := bind_ok_inv h
      unfold allocCell at h1
      injection h1 with hl hσ
      subst hl hσ
      rw [List.cons_append] at hnd
      have hnd' : (ps ++ rest.toList).Nodup := (List.nodup_cons.mp hnd).2
      have hp : p ∉ ps ++ rest.toList := (List.nodup_cons.mp hnd).1
      obtain ⟨e1, e2, e3, e4, e5, e6, e7, e8, e9, e10⟩ := ih rest as _ ρ' _ σ1 hnd' h2
      simp only [Array.size_push] at e5 e6 e7 e8 e9
      refine ⟨by simp; omega, by intro hr; simp [e2 hr], e3, e4, by simp [e5]; omega, ?_, ?_, ?_, ?_, ?_⟩
      · intro l hl
        rw [e6 l (by omega)]
        simp [Array.getElem?_push, Nat.ne_of_lt hl]
      · intro i v hlt hi
        cases i with
        | zero =>
          simp at hi; subst hi
          rw [Nat.add_zero, e6 σ.store.size (by omega)]
          simp
        | succ j =>
          simp at hi hlt
          have := e7 j v hlt hi
          rwa [show σ.store.size + 1 + j = σ.store.size + (j + 1) by omega] at this
      · intro i x hi
        cases i with
        | zero =>
          simp at hi; subst hi
          rw [Nat.add_zero, e10 p hp]
          simp [List.lookup]
        | succ j =>
          simp at hi
          have := e8 j x hi
          rwa [show σ.store.size + 1 + j = σ.store.size + (j + 1) by omega] at this
      · intro rn hrn
        obtain ⟨lv, g1, g2, g3⟩ := e9 rn hrn
        refine ⟨lv, ?_, ?_, ?_⟩
        · rw [g1]; simp; omega
        · rw [show σ.store.size + (a :: as).length = σ.store.size + 1 + as.length by simp; omega]; exact g2
        · simpa using g3
      · intro x hx
        rw [List.cons_append] at hx
        have hx1 : x ≠ p := fun e => hx (e ▸ List.mem_cons_self)
        have hx2 : x ∉ ps ++ rest.toList := fun e => hx (List.mem_cons_of_mem _ e)
        rw [e10 x hx2]
        have : (x == p) = false := by simpa using hx1
        simp [List.lookup, this]

open Marwood.Spec.Eval in
theorem allocList_ne_err : ∀ (xs : List Val) (σ σ' : SSt) (c : ErrClass), allocList xs σ ≠ .err c σ'
  | [], _, _, _ => by simp only [allocList]; exact pure_ne_err
  | x :: xs, σ, σ', c => by
    intro h
    simp only [allocList] at h
    rcases bind_err_inv h with h1 | ⟨t, σ1, _, h2⟩
    · exact allocList_ne_err xs _ _ _ h1
    · unfold Spec.Eval.cons at h2
      rcases bind_err_inv h2 with h3 | ⟨l, σ2, _, h4⟩
      · unfold allocCell at h3; cases h3
      · exact absurd h4 pure_ne_err

open Marwood.Spec.Eval in
/-- the store may have grown by unreferenced cells -/
theorem bindArgs3_err_inv : ∀ (ps : List Text) (rest : Option Text) (args : List Val) (ρ : Env) (σ σ' : SSt)
    (c : ErrClass), bindArgs ps rest args ρ σ = .err c σ' →
    c = .arity ∧ (rest = none → args.length ≠ ps.length) ∧ (rest.isSome = true → args.length < ps.length) ∧
    σ'.globals = σ.globals ∧ σ.store.size ≤ σ'.store.size ∧ ∀ l, l < σ.store.size → σ'.store[l]? = σ.store[l]? := by
  intro ps
  induction ps with
  | nil =>
    intro rest args ρ σ σ' c h
    cases rest with
    | none =>
      cases args with
      | nil => simp only [bindArgs] at h; exact absurd h pure_ne_err
      | cons a as =>
        simp only [bindArgs] at h
        obtain ⟨rfl, rfl⟩ := throw_err_inv h
        exact ⟨rfl, by simp, by simp, rfl, Nat.le_refl _, fun _ _ => rfl⟩
    | some rn =>
      exfalso
      simp only [bindArgs] at h
      rcases bind_err_inv h with h1 | ⟨lst, σ0, _, h2⟩
      · exact allocList_ne_err _ _ _ _ h1
      · rcases bind_err_inv h2 with h3 | ⟨l, σ2, _, h4⟩
        · unfold allocCell at h3; cases h3
        · exact absurd h4 pure_ne_err
  | cons p ps ih =>
    intro rest args ρ σ σ' c h
    cases args with
    | nil =>
      simp only [bindArgs] at h
      obtain ⟨rfl, rfl⟩ := throw_err_inv h
      exact ⟨rfl, by simp, by simp, rfl, Nat.le_refl _, fun _ _ => rfl⟩
    | cons a as =>
      simp only [bindArgs] at h
      rcases bind_err_inv h with h1 | ⟨l, σ0, h1, h2⟩
      · unfold allocCell at h1; cases h1
      · unfold allocCell at h1
        injection h1 with hl hσ
        subst hl hσ
        obtain ⟨e1, e2, e2', e3, e4, e5⟩ := ih rest as _ _ σ' c h2
        simp only [Array.size_push] at e4 e5
        refine ⟨e1, fun hr => by simpa using e2 hr, fun hr => by simpa using e2' hr, e3, by omega, fun l hl => ?_⟩
        rw [e5 l (by omega)]
        simp [Array.getElem?_push, Nat.ne_of_lt hl]

end Marwood.Lemmas.CompileCorrect3

namespace Marwood.Lemmas.CompileCorrect2
open Marwood Marwood.Lemmas.CompileCorrect
open Marwood.Spec.Eval

variable {r : Rec}

theorem kwOf_lambda : kwOf k_lambda = some .lambda := by decide

theorem evalStep_lambda {formals body : Datum} {ps : List Text} {rest : Option Text} {b : Datum} {bs : List Datum}
    (ρ : Env) (σ : SSt) (hf : parseFormals formals = some (ps, rest)) (hb : properList body = some (b :: bs)) :
    evalStep r (.pair (.sym k_lambda) (.pair formals body)) ρ σ = .ok (.closure ps rest (b :: bs) ρ) σ := by
  simp only [evalStep, kwOf_lambda, evalKw, makeClosure, hf, hb]
  rfl

theorem evalStep_lambda_inv {formals body : Datum} {ps : List Text} {rest : Option Text} {b : Datum}
    {bs : List Datum} {ρ : Env} {σ σ' : SSt} {w : Val}
    (hf : parseFormals formals = some (ps, rest)) (hb : properList body = some (b :: bs))
    (h : evalStep r (.pair (.sym k_lambda) (.pair formals body)) ρ σ = .ok w σ') :
    w = .closure ps rest (b :: bs) ρ ∧ σ' = σ := by
  rw [evalStep_lambda ρ σ hf hb] at h
  cases h; exact ⟨rfl, rfl⟩

theorem bindArgs_inv : ∀ (ps : List Text) (args : List Val) (ρ ρ' : Env) (σ σ1 : SSt),
    ps.Nodup → bindArgs ps none args ρ σ = .ok ρ' σ1 →
    args.length = ps.length ∧ σ1.globals = σ.globals ∧ σ1.out = σ.out ∧
    σ1.store.size = σ.store.size + args.length ∧
    (∀ l, l < σ.store.size → σ1.store[l]? = σ.store[l]?) ∧
    (∀ i a, args[i]? = some a → σ1.store[σ.store.size + i]? = some (.var a)) ∧
    (∀ i x, ps[i]? = some x → ρ'.lookup x = some (σ.store.size + i)) ∧
    (∀ x, x ∉ ps → ρ'.lookup x = ρ.lookup x) := by
  intro ps args ρ ρ' σ σ1 hnd h
  obtain ⟨_, e1, e2, e3, e4, e5, e6, e7, _, e8⟩ :=
    CompileCorrect3.bindArgs3_inv ps none args ρ ρ' σ σ1 (by simpa using hnd) h
  have hl := e1 rfl
  refine ⟨hl, e2, e3, by simpa using e4, e5, fun i a hi => e6 i a ?_ hi, e7, fun x hx => e8 x (by simpa using hx)⟩
  rw [← hl]
  exact (List.getElem?_eq_some_iff.mp hi).1

theorem bindArgs_err_inv : ∀ (ps : List Text) (args : List Val) (ρ : Env) (σ σ' : SSt) (c : ErrClass),
    bindArgs ps none args ρ σ = .err c σ' →
    c = .arity ∧ args.length ≠ ps.length ∧ σ'.globals = σ.globals ∧ σ.store.size ≤ σ'.store.size ∧
    ∀ l, l < σ.store.size → σ'.store[l]? = σ.store[l]? := fun ps args ρ σ σ' c h =>
  let ⟨a, b, _, d, e, f⟩ := CompileCorrect3.bindArgs3_err_inv ps none args ρ σ σ' c h
  ⟨a, b rfl, d, e, f⟩

theorem applyStep_closure (ps : List Text) (rest : Option Text) (body : List Datum) (ρc : Env) (args : List Val) :
    applyStep r (.closure ps rest body ρc) args = (bindArgs ps rest args ρc >>= fun ρ' => evalBody r ρ' body) := rfl

end Marwood.Lemmas.CompileCorrect2
