import Marwood.Lemmas.CompileCorrect2Enter
/-!
# T01.3 stage 2: bodies, and the call of a closure (`ENTER`, the body, `RET`)

Both for whatever the specification answers (`CompileSim.BodyOut`, `CompileSim.CallRes`).
-/
namespace Marwood.Lemmas.CompileCorrect2
open Marwood Marwood.Vm Marwood.Lemmas.CompileCorrect Marwood.Lemmas.CompileSim
open Marwood.Spec.Eval (Val Prim Cell Env ErrClass Res evalN evalStep applyStep evalArgs properList quoteVal kwOf insertG
  k_quote k_if_ k_setBang k_define k_lambda)

variable {H : Type} {ops : HeapOps H} {D : RepData2 ops}

theorem body_res2 {n : Nat} (ih : ExprRes (rel2 D) n) :
    ∀ (body : List Datum) f cst c base bodyD cst' code (ρ : Env) (d : Bool), F2B D.setG f c (bound ρ) bodyD → CtxOK c →
    compileBody f cst c base bodyD = .ok (cst', code) → cst'.lambdas <+: D.final →
    properList bodyD = some body → (∀ e ∈ body, Spec.Eval.isDefine e = false) →
    ∀ (σ : SSt) (W : World) (s : MSt H) (fr : Frame), CodeAt2 D c.envmap s.heap σ.store s.ipL base code → s.ipO = base →
      Inv2 D W s.heap σ → EnvRep ops W s.heap c s.ep ρ → SWF s.stack → FrameAt s.stack s.bp fr →
    BodyOut (rel2 D) W s code.length σ fr (Spec.Eval.evalBodyForms (evalN n) ρ d body σ) := by
  have LL : ExtLaws (rel2 D) := extLaws2
  intro body
  induction body with
  | nil =>
    intro f cst c base bodyD cst' code ρ d hfb hcx hcomp hpre hpl
    cases hfb with
    | last x _ => simp [properList] at hpl
    | cons x y rest _ _ =>
      obtain ⟨es', _, h⟩ := properList_pair_inv hpl
      cases h
  | cons e0 es ihes =>
    intro f cst c base bodyD cst' code ρ d hfb hcx hcomp hpre hpl hnd σ W s fr hc hip hi her hw hfr
    have hd0 : Spec.Eval.isDefine e0 = false := hnd e0 List.mem_cons_self
    cases hfb with
    | last x hfx =>
      obtain ⟨_, _, hes⟩ := properList_pair_inv hpl
      cases hes
      exact body_last (us := fun _ => False) ih hfx hd0 hcx hcomp hpre hpl hc hip hi her hw hfr
    | cons x y rest hfx hfr' =>
      obtain ⟨es', hpl', hes⟩ := properList_pair_inv hpl
      cases hes
      obtain ⟨es'', hpl'', rfl⟩ := properList_pair_inv hpl'
      rw [Spec.Eval.evalBodyForms_cons hd0]
      obtain ⟨cst1, code1, code2, c1, c2, rfl⟩ := compileBody_pair_inv hcomp
      subst hip
      rw [List.length_append]
      exact .seq LL (ih _ _ _ _ _ _ _ _ _ (fun _ => False) hfx hcx c1 (((growsOK _).body c2).trans hpre) σ W s fr hc.left
        rfl hi her hw nofun) hfr fun v σ1 W1 s1 hw1 r1 => ihes _ _ _ _ _ _ _ ρ false hfr' hcx c2 hpre hpl'
          (fun e he => hnd e (List.mem_cons_of_mem _ he)) σ1 W1 s1 fr (r1.codeAfter LL hc.right) r1.ipO r1.inv
          (r1.envRep (us := fun _ => False) LL hw1 her) r1.swf (r1.frameAt (fun _ => hfr) rfl)

/-- a wrong number of arguments fails in `ENTER`; otherwise `ENTER`, the body, and `RET` unless the body ended in a
    tail call -/
theorem callRes2_succ (L : Laws2 D) {n : Nat} (ih : ExprRes (rel2 D) n) : CallRes (crel2 D) (n + 1) := by
  have LL : ExtLaws (rel2 D) := extLaws2
  intro ps rest body ρc ws σ W s lam cenv vs st0 epc lc oc hcal hclos hi hvs hipL hipO hst hw0 hw
  obtain ⟨rfl, hclos⟩ := hclos
  change CallOut _ W s st0 epc lc oc σ (applyStep (evalN n) (.closure ps none body ρc) ws σ)
  rw [applyStep_closure]
  cases hbind : Spec.Eval.bindArgs ps none ws ρc σ with
  | timeout => rw [bind_timeout hbind]; trivial
  | err cl σ' =>
    rw [bind_err hbind]
    intro _ _
    obtain ⟨rfl, hne, hg, hsz, hpre⟩ := bindArgs_err_inv _ _ _ _ _ _ hbind
    obtain ⟨f, cst, cst1, co, formals, bodyD, p, bcode, caps, hparts, hformals, hva, _, _, _, _, hfin, _, hlam, hisl,
      _, _, _, _, _, _, _⟩ := hclos
    obtain ⟨_, hinfo, hfetch0⟩ := loaded_closure hi hparts hformals hva hfin hlam
    obtain ⟨hsp, hargc, _⟩ := enter_stack (bp := s.bp) hst hw0 hw
    have hvl : vs.length ≠ ps.length := by rw [All2.length_eq hvs]; exact hne
    have hs := step_enter_arity (s := s) (by rw [hipL]; exact hisl) (by rw [hipL, hipO]; exact hfetch0) hcal hinfo
      (by omega) hargc hvl
    have hse : StoreExt σ.store σ'.store := StoreExt.ofPrefix hsz hpre
    have hx : Ext2 D s.heap σ.store s.heap σ'.store := Ext2.storeOnly L _ hse
    have hinv : Inv2 D W s.heap σ' :=
      hi.frame hx (L.srx_store _ _ _ hse hi.extra) hg (fun _ => rfl) (fun e n l hW => ⟨rfl, hpre l (hi.var_lt hW)⟩)
    exact ⟨W, s, _, World.le_refl _, ⟨.refl _, hs, rfl, callFrame_stackExt hw0 hst, hw, hinv, hx⟩⟩
  | ok ρ' σ1 =>
    rw [bind_ok hbind]
    obtain ⟨f, cst, cst1, p, bodyD, bcode, h', a, W', stE, hsE, hwW, hi1, her1, hcx, hfb, hcb, hpre, hbody, hnodef,
      hcodeE, hwE, hfrE, hx1⟩ := enter_closure L hbind hcal hclos hi hvs hipL hipO hst hw0 hw
    obtain ⟨b0, bs0, hb0⟩ : ∃ b0 bs0, body = b0 :: bs0 := by
      cases body with
      | nil =>
        exfalso
        cases hfb with
        | last x _ => simp [properList] at hbody
        | cons x y rest _ _ =>
          obtain ⟨es', _, h⟩ := properList_pair_inv hbody
          cases h
      | cons b0 bs0 => exact ⟨b0, bs0, rfl⟩
    subst hb0
    rw [Spec.Eval.evalBody_noLeadingDef (hnodef b0 List.mem_cons_self)]
    let sE : MSt H := { s with heap := h', ep := a, stack := stE, bp := st0.sp + vs.length, ipO := s.ipO + 1 }
    have hcodeB : CodeAt2 D p.ctx.envmap sE.heap σ1.store sE.ipL 1 bcode := by
      have := hcodeE.left.right.cast (show 0 + [BC.op .enter].length = 1 by rfl)
      show CodeAt2 D p.ctx.envmap h' σ1.store s.ipL 1 bcode
      rw [hipL]; exact this
    have hret : CodeAt2 D p.ctx.envmap sE.heap σ1.store sE.ipL (sE.ipO + bcode.length) [.op .ret] := by
      show CodeAt2 D p.ctx.envmap h' σ1.store s.ipL (s.ipO + 1 + bcode.length) _
      rw [hipL, hipO]
      exact hcodeE.right.cast (by simp; omega)
    exact CallOut.of_body LL (fr := ⟨vs.length, epc, lc, oc, s.bp, st0⟩) (Steps.one hsE) hwW hx1 hfrE rfl hret
      (body_res2 ih _ _ _ _ _ _ _ _ ρ' true hfb hcx hcb hpre hbody hnodef σ1 W' sE _ hcodeB
        (by show s.ipO + 1 = 1; omega) hi1 her1 hwE hfrE)

end Marwood.Lemmas.CompileCorrect2
