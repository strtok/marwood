import Marwood.Lemmas.StoreList
import Marwood.Spec.StrVec
/-! # C15: byte offsets as prefix sums, ranges, string contents -/
namespace Marwood.Store
open Marwood Outcome

theorem nthOffset_spec : ∀ (cs : Text) (k off : Nat),
    nthOffset cs k off =
      if h : k < cs.length then some (off + byteLen (cs.take k), cs[k]) else none := by
  intro cs
  induction cs with
  | nil => intro k off; simp [nthOffset]
  | cons c cs ih =>
    intro k off
    cases k with
    | zero => simp [nthOffset]
    | succ k =>
      simp only [nthOffset, ih, List.length_cons, Nat.add_lt_add_iff_right, List.take_succ_cons,
        byteLen_cons, List.getElem_cons_succ]
      split
      · simp; omega
      · rfl

theorem byteLen_take_succ (cs : Text) (k : Nat) (h : k < cs.length) :
    byteLen (cs.take (k + 1)) = byteLen (cs.take k) + cs[k].utf8Size := by
  rw [List.take_succ_eq_append_getElem h, byteLen_append]; simp

theorem byteLen_take_le (cs : Text) {a b : Nat} (h : a ≤ b) :
    byteLen (cs.take a) ≤ byteLen (cs.take b) := by
  have : cs.take b = cs.take a ++ (cs.take b).drop a := by
    have := List.take_append_drop a (cs.take b)
    rw [List.take_take, Nat.min_eq_left h] at this
    exact this.symm
  rw [this, byteLen_append]; omega

theorem takeBytes_take (cs : Text) (k : Nat) :
    takeBytes (byteLen (cs.take k)) cs = some (cs.take k) := by
  have := takeBytes_append (cs.take k) (cs.drop k)
  rwa [List.take_append_drop] at this

theorem dropBytes_take (cs : Text) (k : Nat) :
    dropBytes (byteLen (cs.take k)) cs = some (cs.drop k) := by
  have := dropBytes_append (cs.take k) (cs.drop k)
  rwa [List.take_append_drop] at this

theorem replaceRange_take (cs new : Text) {a b : Nat} (h : a ≤ b) :
    replaceRange cs (byteLen (cs.take a)) (byteLen (cs.take b)) new =
      .ok (cs.take a ++ new ++ cs.drop b) := by
  simp only [replaceRange, byteLen_take_le cs h, if_true, takeBytes_take, dropBytes_take]

theorem sliceBytes_take (cs : Text) {a b : Nat} (h : a ≤ b) :
    sliceBytes (byteLen (cs.take a)) (byteLen (cs.take b)) cs = some ((cs.take b).drop a) := by
  have h1 : cs.take a ++ (cs.take b).drop a = cs.take b := by
    have := List.take_append_drop a (cs.take b)
    rwa [List.take_take, Nat.min_eq_left h] at this
  have h2 : cs = cs.take a ++ (cs.take b).drop a ++ cs.drop b := by
    rw [h1, List.take_append_drop]
  have h3 : byteLen (cs.take b) = byteLen (cs.take a) + byteLen ((cs.take b).drop a) := by
    rw [← byteLen_append, h1]
  have := sliceBytes_append (cs.take a) ((cs.take b).drop a) (cs.drop b)
  rw [← h2, ← h3] at this
  exact this

theorem stringRefC_ok {cs : Text} {k : Nat} (h : k < cs.length) : stringRefC cs k = .ok cs[k] := by
  simp [stringRefC, List.getElem?_eq_getElem h]

theorem stringRefC_err {cs : Text} {k : Nat} (h : cs.length ≤ k) : stringRefC cs k = .err .sindex := by
  simp [stringRefC, List.getElem?_eq_none h]

/-- whatever the UTF-8 widths of old and new -/
theorem stringSetC_ok {cs : Text} {k : Nat} (c : Char) (h : k < cs.length) :
    stringSetC cs k c = .ok (cs.set k c) := by
  simp only [stringSetC, nthOffset_spec, dif_pos h, Option.map_some, orErr_some, bind_ok,
    Nat.zero_add]
  rw [← byteLen_take_succ cs k h, replaceRange_take cs [c] (Nat.le_succ k)]
  rw [List.set_eq_take_append_cons_drop]
  simp [h]

theorem stringSetC_err {cs : Text} {k : Nat} (c : Char) (h : cs.length ≤ k) :
    stringSetC cs k c = .err .sindex := by
  have : ¬ k < cs.length := by omega
  simp [stringSetC, nthOffset_spec, this]

theorem charOffset_ok {cs : Text} {k : Nat} (h : k < cs.length) :
    charOffset cs k = .ok (byteLen (cs.take k)) := by
  simp [charOffset, nthOffset_spec, h]

theorem charOffsetInclusive_ok {cs : Text} {k : Nat} (h : k < cs.length) :
    charOffsetInclusive cs k = .ok (byteLen (cs.take (k + 1))) := by
  simp [charOffsetInclusive, nthOffset_spec, h, byteLen_take_succ cs k h]

/-- `end` only together with `start`, `start ≤ end ≤ length` -/
def ValidRange (len : Nat) (start end_ : Option Nat) : Prop :=
  (end_.isSome → start.isSome) ∧ start.getD 0 ≤ end_.getD len ∧ end_.getD len ≤ len

theorem byteLen_take_all (cs : Text) : byteLen (cs.take cs.length) = byteLen cs := by simp

/-- the two prefix sums, or the `(0, 0)` shortcut of an empty range (harmless: nothing is cut or filled) -/
theorem charSubstringOffset_ok {cs : Text} {start end_ : Option Nat}
    (hv : ValidRange cs.length start end_) :
    charSubstringOffset cs start end_ =
        .ok (byteLen (cs.take (start.getD 0)), byteLen (cs.take (end_.getD cs.length))) ∨
    (charSubstringOffset cs start end_ = .ok (0, 0) ∧ start.getD 0 = end_.getD cs.length) := by
  obtain ⟨h0, h1, h2⟩ := hv
  cases start with
  | none =>
    cases end_ with
    | some e => simp at h0
    | none =>
      left
      simp [charSubstringOffset, optExceeds, optInverted, charSubstringOffset.optSame]
  | some st =>
    cases end_ with
    | none =>
      simp only [Option.getD_some, Option.getD_none] at h1 h2 ⊢
      by_cases hst : st = cs.length
      · right
        subst hst
        simp [charSubstringOffset, optExceeds, optInverted, charSubstringOffset.optSame]
      · left
        have hlt : st < cs.length := by omega
        have hne : ¬ (st > cs.length) := by omega
        simp [charSubstringOffset, optExceeds, optInverted, charSubstringOffset.optSame, hne, hst,
          charOffset_ok hlt]
    | some e =>
      simp only [Option.getD_some] at h1 h2 ⊢
      by_cases hse : st = e
      · right
        subst hse
        have hne : ¬ (st > cs.length) := by omega
        simp [charSubstringOffset, optExceeds, charSubstringOffset.optSame, hne]
      · left
        have hlt : st < cs.length := by omega
        have h1e : 1 ≤ e := by omega
        have hne1 : ¬ (st > cs.length) := by omega
        have hne2 : ¬ (e > cs.length) := by omega
        have hne3 : ¬ (st > e) := by omega
        have hne4 : st ≠ cs.length := by omega
        have hinc := charOffsetInclusive_ok (cs := cs) (k := e - 1) (by omega)
        have he : e - 1 + 1 = e := by omega
        rw [he] at hinc
        simp [charSubstringOffset, optExceeds, optInverted, charSubstringOffset.optSame, hne1, hne2,
          hne3, hne4, hse, charOffset_ok hlt, usub, h1e, hinc]

theorem sliceBytes_zero (cs : Text) : sliceBytes 0 0 cs = some [] := by
  simp [sliceBytes, dropBytes, takeBytes]

theorem substringC_ok {cs : Text} {start end_ : Option Nat} (hv : ValidRange cs.length start end_) :
    substringC cs start end_ =
      .ok ((cs.drop (start.getD 0)).take (end_.getD cs.length - start.getD 0)) := by
  rcases charSubstringOffset_ok hv with h | ⟨h, heq⟩
  · simp only [substringC, h, bind_ok, strSlice, sliceBytes_take cs hv.2.1, ofOption_some,
      List.drop_take]
  · simp only [substringC, h, bind_ok, strSlice, sliceBytes_zero, ofOption_some, heq, Nat.sub_self,
      List.take_zero]

theorem charSubstringOffset_err {cs : Text} {st : Nat} (end_ : Option Nat)
    (hbad : ¬ (st ≤ end_.getD cs.length ∧ end_.getD cs.length ≤ cs.length)) :
    ∃ e, charSubstringOffset cs (some st) end_ = .err e := by
  by_cases h1 : st > cs.length
  · exact ⟨.sindex, by simp [charSubstringOffset, optExceeds, h1]⟩
  cases end_ with
  | none => simp at hbad; omega
  | some e =>
    simp only [Option.getD_some] at hbad
    by_cases h2 : e > cs.length
    · exact ⟨.sindex, by simp [charSubstringOffset, optExceeds, h1, h2]⟩
    · have h3 : st > e := by omega
      have h4 : ¬ st = e := by omega
      exact ⟨.syntax, by simp [charSubstringOffset, optExceeds, h1, h2, charSubstringOffset.optSame, h4,
        optInverted, h3]⟩

theorem substringC_err {cs : Text} {st : Nat} (end_ : Option Nat)
    (hbad : ¬ (st ≤ end_.getD cs.length ∧ end_.getD cs.length ≤ cs.length)) :
    ∃ e, substringC cs (some st) end_ = .err e := by
  obtain ⟨e, he⟩ := charSubstringOffset_err end_ hbad
  exact ⟨e, by simp only [substringC, he, bind_err]⟩

theorem stringFillC_ok {cs : Text} {start end_ : Option Nat} (c : Char)
    (hv : ValidRange cs.length start end_) :
    stringFillC cs c start end_ =
      .ok (cs.take (start.getD 0) ++ List.replicate (end_.getD cs.length - start.getD 0) c ++
        cs.drop (end_.getD cs.length)) := by
  have hcount : fillCount cs.length start end_ = end_.getD cs.length - start.getD 0 := by
    obtain ⟨h0, h1, h2⟩ := hv
    cases start with
    | none => cases end_ with
      | none => simp [fillCount]
      | some e => simp at h0
    | some st => cases end_ with
      | none => simp [fillCount]
      | some e => simp only [Option.getD_some] at h1; simp [fillCount, h1]
  rcases charSubstringOffset_ok hv with h | ⟨h, heq⟩
  · simp only [stringFillC, h, bind_ok, hcount, replaceRange_take cs _ hv.2.1]
  · have h0 : replaceRange cs 0 0 (List.replicate (end_.getD cs.length - start.getD 0) c) =
        .ok (cs.take (start.getD 0) ++
          List.replicate (end_.getD cs.length - start.getD 0) c ++ cs.drop (end_.getD cs.length)) := by
      rw [heq, Nat.sub_self]
      have := replaceRange_take cs [] (Nat.le_refl 0)
      simp only [List.take_zero, byteLen_nil, List.nil_append, List.drop_zero] at this
      simp [this]
    simp only [stringFillC, h, bind_ok, hcount, h0]

theorem stringFillC_err {cs : Text} {st : Nat} (c : Char) (end_ : Option Nat)
    (hbad : ¬ (st ≤ end_.getD cs.length ∧ end_.getD cs.length ≤ cs.length)) :
    ∃ e, stringFillC cs c (some st) end_ = .err e := by
  obtain ⟨e, he⟩ := charSubstringOffset_err end_ hbad
  exact ⟨e, by simp only [stringFillC, he, bind_err]⟩

theorem fill_getElem? (cs : Text) (c : Char) {a b : Nat} (hab : a ≤ b) (hb : b ≤ cs.length) (i : Nat) :
    (cs.take a ++ List.replicate (b - a) c ++ cs.drop b)[i]? =
      if a ≤ i ∧ i < b then some c else cs[i]? := by
  have := splice_getElem? cs (List.replicate (b - a) c) a (by simp; omega) i
  simp only [List.length_replicate, Nat.add_sub_cancel' hab] at this
  rw [this]
  split
  · rw [List.getElem?_replicate, if_pos (by omega)]
  · rfl


theorem popString_of_isStr {s : Store} {v : VCell} {id : Nat} {t : Text} (h : IsStr s v id t) :
    popString s v = .ok id := by unfold popString; simp [h.1]

theorem strGet_of_isStr {s : Store} {v : VCell} {id : Nat} {t : Text} (h : IsStr s v id t) :
    s.strGet id = .ok t := by unfold Store.strGet; simp [h.2]

theorem isStr_lt {s : Store} {v : VCell} {id : Nat} {t : Text} (h : IsStr s v id t) :
    id < s.strs.length := (List.getElem?_eq_some_iff.mp h.2).1

theorem strSet_spec {s : Store} {id : Nat} (h : id < s.strs.length) (t : Text) :
    ∃ s', s.strSet id t = .ok s' ∧ OnlyStr s s' id ∧ s'.strs[id]? = some t := by
  refine ⟨{ s with strs := s.strs.set id t }, by simp [Store.strSet, h], ⟨rfl, rfl, by simp, ?_⟩,
    by simp [h]⟩
  intro i hi
  simp [Ne.symm hi]

theorem popChar_of_get {s : Store} {v : VCell} {c : Char} (h : s.get v = .ok (.char c)) :
    popChar s v = .ok c := by unfold popChar; simp [h]

theorem newStrRes_spec (s : Store) (t : Text) :
    ∃ s' p, newStrRes s t = .ok (s', .ptr p) ∧ IsStr s' (.ptr p) s.strs.length t ∧ Extends s s' := by
  refine ⟨{ cells := s.cells ++ [.str s.strs.length], vecs := s.vecs, strs := s.strs ++ [t] },
    s.cells.length, rfl, ⟨?_, ?_⟩, ⟨fun i hi => ?_, fun _ _ => rfl, fun i hi => ?_⟩⟩
  · simp [Store.get, ofOption]
  · simp
  · simp [List.getElem?_append_left hi]
  · simp [List.getElem?_append_left hi]

theorem chainHolds_snoc {α : Type} (r : α → α → Bool) : ∀ (xs : List α) (x y : α),
    Spec.chainHolds r (xs ++ [x, y]) = (Spec.chainHolds r (xs ++ [x]) && r x y) := by
  intro xs
  induction xs with
  | nil => intro x y; simp [Spec.chainHolds]
  | cons a xs ih =>
    intro x y
    cases xs with
    | nil => simp [Spec.chainHolds, Bool.and_comm]
    | cons b xs =>
      have := ih x y
      simp only [List.cons_append] at this ⊢
      simp only [Spec.chainHolds, this, Bool.and_assoc]

/-- `string_comp` / `char_comp` test every adjacent pair: no short circuit -/
theorem compLoop_eq_chain {α : Type} (r : α → α → Bool) : ∀ (xs : List α) (y : α) (acc : Bool),
    compLoop r xs y acc = (acc && Spec.chainHolds r (xs.reverse ++ [y])) := by
  intro xs
  induction xs with
  | nil => intro y acc; simp [compLoop, Spec.chainHolds]
  | cons x xs ih =>
    intro y acc
    simp only [compLoop, ih, List.reverse_cons, List.append_assoc, List.cons_append, List.nil_append]
    rw [chainHolds_snoc]
    cases h : r x y <;> cases acc <;> simp


theorem popChars_of_allChar {s : Store} {vs : List VCell} {cs : List Char} (h : AllChar s vs cs) :
    popChars s vs = .ok cs := by
  induction h with
  | nil => rfl
  | cons hc _ ih => simp only [popChars, popChar_of_get hc, bind_ok, ih]

theorem AllChar.snoc {s : Store} {vs : List VCell} {cs : List Char} {v : VCell} {c : Char}
    (h : AllChar s vs cs) (hc : s.get v = .ok (.char c)) : AllChar s (vs ++ [v]) (cs ++ [c]) := by
  induction h with
  | nil => exact .cons hc .nil
  | cons h1 _ ih => exact .cons h1 ih

theorem AllChar.reverse {s : Store} {vs : List VCell} {cs : List Char} (h : AllChar s vs cs) :
    AllChar s vs.reverse cs.reverse := by
  induction h with
  | nil => exact .nil
  | cons h1 _ ih => simpa using ih.snoc h1

theorem popStrings_of_allStr {s : Store} {vs : List VCell} {ts : List Text} (h : AllStr s vs ts) :
    popStrings s vs = .ok ts := by
  induction h with
  | nil => rfl
  | cons h1 _ ih =>
    simp only [popStrings, popString_of_isStr h1, strGet_of_isStr h1, bind_ok, ih]

theorem AllStr.snoc {s : Store} {vs : List VCell} {ts : List Text} {v : VCell} {id : Nat} {t : Text}
    (h : AllStr s vs ts) (hc : IsStr s v id t) : AllStr s (vs ++ [v]) (ts ++ [t]) := by
  induction h with
  | nil => exact .cons hc .nil
  | cons h1 _ ih => exact .cons h1 ih

theorem AllStr.reverse {s : Store} {vs : List VCell} {ts : List Text} (h : AllStr s vs ts) :
    AllStr s vs.reverse ts.reverse := by
  induction h with
  | nil => exact .nil
  | cons h1 _ ih => simpa using ih.snoc h1

theorem foldl_prepend (ts : List Text) (acc : Text) :
    ts.foldl (fun out t => t ++ out) acc = ts.reverse.flatten ++ acc := by
  induction ts generalizing acc with
  | nil => simp
  | cons t ts ih => simp [ih]


theorem collectChars_spec {s : Store} {tail : VCell} : ∀ (rest : List Nat) (fuel a d : Nat)
    (acc : List Char) (c0 : Char) (ccs : List Char), Spine s (.ptr d) rest tail →
    s.cells[a]? = some (.char c0) → CharsAt s rest ccs → rest.length + 1 < fuel →
    collectChars fuel s (.pair a d) acc = .ok (acc ++ c0 :: ccs, tail) := by
  intro rest
  induction rest with
  | nil =>
    intro fuel a d acc c0 ccs hl ha hcs hfuel
    obtain ⟨f, rfl⟩ : ∃ f, fuel = f + 2 := ⟨fuel - 2, by simp at hfuel; omega⟩
    cases hcs
    cases hl with
    | done hg hp =>
      simp only [collectChars, VCell.isPair_pair, if_true, VCell.asCar_pair, VCell.asCdr_pair, bind_ok,
        get_of_cell ha, hg, hp, Bool.false_eq_true, if_false]
  | cons a2 rest2 ih =>
    intro fuel a d acc c0 ccs hl ha hcs hfuel
    obtain ⟨f, rfl⟩ : ∃ f, fuel = f + 1 := ⟨fuel - 1, by simp at hfuel; omega⟩
    cases hcs with
    | cons hc2 hrest =>
      cases hl with
      | cons hg ht =>
        rename_i d2
        simp only [collectChars, VCell.isPair_pair, if_true, VCell.asCar_pair, VCell.asCdr_pair, bind_ok,
          get_of_cell ha, hg]
        rw [ih f a2 d2 _ _ _ ht hc2 hrest (by simp at hfuel; omega)]
        simp

/-- `string->list` conses up its result as `vector->list` does, on the characters as slots -/
theorem charListLoop_eq : ∀ (cs : List Char) (s : Store) (tail : VCell),
    charListLoop s cs tail = vecToListLoop s (cs.map VCell.char) tail
  | [], _, _ => rfl
  | c :: cs, s, tail => by
    simp only [charListLoop, vecToListLoop, List.map_cons]
    cases (s.put (.char c)).2.asPtr with
    | ok cp =>
      cases tail.asPtr with
      | ok tp => exact charListLoop_eq cs _ _
      | _ => rfl
    | _ => rfl

/-- the `u32` test of `to_u32` is implied by `char::from_u32`'s -/
theorem integerToChar_nat {s : Store} {v : VCell} {k : Nat} (hg : s.get v = .ok (.num (k : Int))) :
    integerToChar s [v] =
      if h : k.isValidChar then .ok (s, .char (Char.ofNatAux k h)) else .err .syntax := by
  simp only [integerToChar, hg, bind_ok]
  show (if k ≤ 4294967295 then
      (if h : k.isValidChar then Outcome.ok (s, VCell.char (Char.ofNatAux k h)) else .err .syntax)
    else .err .syntax) = _
  by_cases h : k.isValidChar
  · rw [if_pos (by rcases h with h | ⟨_, h⟩ <;> omega)]
  · rw [dif_neg h]; split <;> rfl

theorem slotsToChars_of_allChar {s : Store} {xs : List VCell} {cs : List Char}
    (h : AllChar s xs cs) : slotsToChars s xs = .ok cs := by
  induction h with
  | nil => rfl
  | cons hc _ ih => simp only [slotsToChars, hc, bind_ok, ih]

end Marwood.Store
