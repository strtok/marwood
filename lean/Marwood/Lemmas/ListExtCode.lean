import Marwood.Lemmas.ListExtOps
import Marwood.Lemmas.ConcreteLawsVal
import Marwood.Lemmas.MachineGarbage
import Marwood.Lemmas.PolicyAllocBound
/-!
# `ExtCodeLawsG V`, `ExtCodePlain`, `ExtAllocOnly` for `listExtWith eqTag`

The three laws that only look at WHAT a builtin does to the heap: the heap a builtin of the table returns is reached by
`heap.put`s and overwrites of non-lambda cells with `val` cells (`Eff`; `builtinEval_eff`, by the four shapes of
`evalPrim_ok`). Such a sequence keeps every lambda cell and `CInvG V` (`Grows NoCont`), creates no code object (`LamSub`),
and changes `(capacity, used)` only through `Heap::alloc` (`AllocsLe`).
-/
namespace Marwood.Vm.Concrete
open Marwood Marwood.Vm Marwood.Vm.Concrete.ListExt

inductive Eff : CHeap → CHeap → Prop
  | refl (h : CHeap) : Eff h h
  | put {h h1 : CHeap} (v : VCell) : Eff (putV h v).1 h1 → Eff h h1
  | write {h h1 : CHeap} (p : Nat) (w : VCell) : (∀ lam, h.cells[p]? ≠ some (CCell.lambda lam)) →
      Eff (cwrite h p (.val w)) h1 → Eff h h1

theorem builtinEval_eff (eqTag : String → String → Bool) {h h' : CHeap} {v : VCell} {id : Nat} {args : List VCell}
    (he : (listExtWith eqTag).builtinEval h id args = .ok (h', v)) : Eff h h' := by
  obtain ⟨q, hq⟩ := builtinEval_ok he
  rcases evalPrim_ok hq with ⟨b, rfl, _⟩ | ⟨first, x, _, hc⟩ | ⟨d, a, _, hc⟩ | ⟨first, obj, pair, _, hc⟩
  · exact .refl _
  · obtain ⟨_, _, _, rfl, _⟩ := evalCar_ok hc
    exact .refl _
  · obtain ⟨_, _, _, _, rfl, _⟩ := evalCons_ok hc
    exact .put d (.put a (.refl _))
  · obtain ⟨_, _, _, p, _, hcell, _, rfl, _⟩ := evalSetPair_ok hc
    refine .put obj (.write p _ ?_ (.refl _))
    -- `heap.put` creates no lambda cell, and cell `p` held a pair
    intro lam hl
    have := Lemmas.MachineGarbage.putV_lamSub h obj p lam hl
    rw [hcell] at this; cases this

theorem Eff.grows {V : VCell → Prop} {h h' : CHeap} (e : Eff h h') (inv : CInvG V h) : Grows NoCont h h' := by
  induction e with
  | refl h => exact .refl inv
  | put v _ ih =>
    have g := putV_grows inv v
    exact g.trans (ih (g.inv inv (fun c hc => hc.elim)))
  | write p w hp _ ih =>
    have g : Grows NoCont _ _ := cwrite_grows inv hp (val_not_lambda w) (val_not_cont w)
    exact g.trans (ih (g.inv inv (fun c hc => hc.elim)))

theorem listExtWith_codeLawsG (eqTag : String → String → Bool) (V : VCell → Prop) :
    ExtCodeLawsG V (listExtWith eqTag) where
  builtinEval := by
    intro h h' id args v inv he
    have g := (builtinEval_eff eqTag he).grows inv
    exact ⟨g.inv inv (fun c hc => hc.elim), fun l bc hc => g.code hc⟩
  compileEval := fun _ h => (by cases h)
  vectorPush := fun _ h => (by cases h)

theorem listExtWith_codeLawsV (eqTag : String → String → Bool) : ExtCodeLawsV (listExtWith eqTag) :=
  listExtWith_codeLawsG eqTag _

theorem listExtWith_codeLaws (eqTag : String → String → Bool) : ExtCodeLaws (listExtWith eqTag) :=
  listExtWith_codeLawsG eqTag _

theorem listExt_codeLawsV : ExtCodeLawsV listExt := listExtWith_codeLawsV _
theorem listExt_codeLaws : ExtCodeLaws listExt := listExtWith_codeLaws _

end Marwood.Vm.Concrete

namespace Marwood.Lemmas.MachineGarbage
open Marwood Marwood.Vm Marwood.Vm.Concrete

theorem Eff.lamSub {h h' : CHeap} (e : Eff h h') : LamSub h h' := by
  induction e with
  | refl h => exact .refl h
  | put v _ ih => exact (putV_lamSub _ v).trans ih
  | write p w _ _ ih => exact (cwrite_lamSub _ p (c := .val w) (by intro l e; cases e)).trans ih

theorem listExtWith_codePlain (eqTag : String → String → Bool) : ExtCodePlain (listExtWith eqTag) where
  builtinEval := fun cp he => (Eff.lamSub (builtinEval_eff eqTag he)).codePlain cp
  compileEval := fun _ h => (by cases h)
  vectorPush := fun _ h => (by cases h)

theorem listExt_codePlain : ExtCodePlain listExt := listExtWith_codePlain _

end Marwood.Lemmas.MachineGarbage

namespace Marwood.Lemmas.PolicyAlloc
open Marwood Marwood.Vm Marwood.Vm.Concrete Marwood.Lemmas.Sim

theorem Eff.allocsLe {h h' : CHeap} (e : Eff h h') : ∃ k, AllocsLe h h' k := by
  induction e with
  | refl h => exact ⟨0, .refl h⟩
  | put v _ ih =>
    obtain ⟨k, hk⟩ := ih
    exact ⟨1 + k, (putV_allocs _ v).trans hk⟩
  | write p w _ _ ih =>
    obtain ⟨k, hk⟩ := ih
    exact ⟨0 + k, (cwrite_allocs _ p _).trans hk⟩  -- `0 + k`: the index `AllocsLe.trans` produces

theorem listExtWith_allocOnly (eqTag : String → String → Bool) : ExtAllocOnly (listExtWith eqTag) where
  builtinEval := by
    intro h id args h' v he inv
    obtain ⟨k, hk⟩ := Eff.allocsLe (builtinEval_eff eqTag he)
    obtain ⟨inv', j, _, aj⟩ := hk inv
    exact ⟨inv', j, aj⟩
  compileEval := fun h => (by cases h)
  vectorPush := fun h => (by cases h)

theorem listExt_allocOnly : ExtAllocOnly listExt := listExtWith_allocOnly _

/-- one more cell for the pair itself is allocated by the `maybe_put` of `runBuiltin` -/
theorem evalCons_allocs {h h' : CHeap} {d a v : VCell} (he : ListExt.evalCons h d a = .ok (h', v)) : AllocsLe h h' 2 := by
  obtain ⟨_, _, _, _, rfl, _⟩ := ListExt.evalCons_ok he
  exact (putV_allocs h d).trans (putV_allocs _ a)

end Marwood.Lemmas.PolicyAlloc
