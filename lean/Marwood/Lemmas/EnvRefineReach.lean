import Marwood.Lemmas.EnvRefineStep2
/-!
# T02.2 in every reachable state of the model evaluator (no hypothesis on the program)

`Keeps m` (a property of a computation, not `Slot.Keeps` of EnvRuntime): started in a heap with one level of
indirection, `m` ends, with a value or with any error, in a heap that still has it and that `Evolves` from the first.
Every function of `Vm.EnvRun` keeps it; hence every state a session reaches from the empty state has one level of
indirection.
-/
namespace Marwood.Vm.EnvRefine
open Marwood Marwood.Scope Marwood.Vm.Env Marwood.Vm.EnvRun

def Keeps {α : Type} (m : X MErr MSt α) : Prop :=
  ∀ t : MSt, OneLevel t.envs → OneLevel (exec m t).2.envs ∧ Evolves t.envs (exec m t).2.envs

theorem Keeps.of_same {α : Type} (m : X MErr MSt α) (h : ∀ t, (exec m t).2.envs = t.envs) : Keeps m :=
  fun t ho => by rw [h t]; exact ⟨ho, Evolves.refl _⟩

theorem Keeps.pure {α : Type} (a : α) : Keeps (pure a : X MErr MSt α) := Keeps.of_same _ fun _ => rfl
theorem Keeps.throw {α : Type} (e : MErr) : Keeps (throw e : X MErr MSt α) := Keeps.of_same _ fun _ => rfl

theorem Keeps.bind {α β : Type} {m : X MErr MSt α} {k : α → X MErr MSt β} (hm : Keeps m) (hk : ∀ a, Keeps (k a)) :
    Keeps (m >>= k) := by
  intro t ho
  rw [exec_bind]
  obtain ⟨h1, h2⟩ := hm t ho
  rcases hx : exec m t with ⟨r, t1⟩
  rw [hx] at h1 h2
  cases r with
  | error e => exact ⟨h1, h2⟩
  | ok a =>
    obtain ⟨h3, h4⟩ := hk a t1 h1
    exact ⟨h3, h2.trans h4⟩

theorem keeps_tick : Keeps Vm.EnvRun.tick := Keeps.of_same _ fun _ => rfl

theorem keeps_log (s : Nat) (v : MVal) : Keeps (modify fun st : MSt => { st with log := (s, v) :: st.log }) :=
  Keeps.of_same _ fun _ => rfl

theorem keeps_setGlobal (x : Name) (v : MVal) : Keeps (setGlobal x v) := Keeps.of_same _ fun _ => rfl

theorem keeps_readVar (c : LamCtx) (ep : Option Nat) (x : Name) : Keeps (readVar c ep x) := by
  apply Keeps.of_same
  intro t
  unfold readVar
  cases bindingLocation c x with
  | env s =>
    cases ep with
    | none => rfl
    | some e =>
      simp only [exec_bind, exec_get]
      cases load t.envs e s with
      | error f => cases f <;> rfl
      | ok g => cases g <;> rfl
  | global =>
    simp only [exec_bind, exec_get]
    split <;> rfl
  | arg n => rfl

theorem keeps_writeVar (c : LamCtx) (ep : Option Nat) (x : Name) (v : MVal) : Keeps (writeVar c ep x v) := by
  unfold writeVar
  cases bindingLocation c x with
  | env s =>
    cases ep with
    | none => exact Keeps.throw _
    | some e =>
      intro t ho
      simp only [exec_bind, exec_get]
      cases hs : store t.envs e s v with
      | error f => cases f <;> exact ⟨ho, Evolves.refl _⟩
      | ok h =>
        exact ⟨store_oneLevel _ _ ho e s v hs, store_evolves_of_oneLevel _ _ ho e s v hs⟩
  | global => exact keeps_setGlobal x v
  | arg n => exact Keeps.throw _

theorem keeps_mkClosure (c : LamCtx) (ep : Option Nat) (sugar : Bool) (ps : List Name) (r : Option Name) (ds : Defs)
    (body : Exprs) : Keeps (mkClosure c ep sugar ps r ds body) := by
  intro t ho
  unfold mkClosure
  cases ep with
  | some e =>
    simp only [exec_bind, exec_get]
    cases hb : buildClosureEnvironment t.envs e [] (compileLam c sugar ps r ds body).envmap with
    | error f => cases f <;> exact ⟨ho, Evolves.refl _⟩
    | ok p =>
      obtain ⟨h, ce⟩ := p
      exact ⟨buildClosureEnvironment_oneLevel _ _ ho _ _ _ _ hb, buildClosureEnvironment_evolves _ _ _ _ _ _ hb⟩
  | none =>
    simp only
    split
    · refine ⟨?_, Evolves.push _ _⟩
      apply OneLevel.push _ ho
      intro i p q hg
      simp at hg
    · exact ⟨ho, Evolves.refl _⟩

/-- the seven functions of the model evaluator at fuel `g` -/
structure KeepsAll (g : Nat) : Prop where
  eval : ∀ c ep e, Keeps (Vm.EnvRun.eval g c ep e)
  evalList : ∀ c ep es, Keeps (Vm.EnvRun.evalList g c ep es)
  evalBody : ∀ c ep es, Keeps (Vm.EnvRun.evalBody g c ep es)
  evalDefs : ∀ c ep ds, Keeps (Vm.EnvRun.evalDefs g c ep ds)
  apply : ∀ fv vs, Keeps (Vm.EnvRun.apply g fv vs)
  loopGo : ∀ fv n, Keeps (Vm.EnvRun.loopGo g fv n)
  eachGo : ∀ lv vs, Keeps (Vm.EnvRun.eachGo g lv vs)

theorem keeps_apply_step {g : Nat} (ih : KeepsAll g) (fv : MVal) (vs : List MVal) :
    Keeps (Vm.EnvRun.apply (g + 1) fv vs) := by
  cases fv with
  | clo ps r ds body ctx cenv =>
    intro t ho
    cases hm : frameArgs ps r vs with
    | error e =>
      have : exec (Vm.EnvRun.apply (g + 1) (.clo ps r ds body ctx cenv) vs) t = (.error e, t) := by
        simp [Vm.EnvRun.apply, hm]
      rw [this]; exact ⟨ho, Evolves.refl _⟩
    | ok margs =>
      cases hb : buildLexicalEnvironment t.envs cenv margs ctx.envmap with
      | error f =>
        have : (exec (Vm.EnvRun.apply (g + 1) (.clo ps r ds body ctx cenv) vs) t).2 = t := by
          cases f <;> simp [Vm.EnvRun.apply, hm, exec_bind, hb, liftFault]
        rw [this]; exact ⟨ho, Evolves.refl _⟩
      | ok p =>
        obtain ⟨h1, a⟩ := p
        rw [exec_apply_clo g ps r ds body ctx cenv vs margs t h1 a hm hb]
        have ho1 := buildLexicalEnvironment_oneLevel _ _ ho _ _ _ _ hb
        have ev1 := buildLexicalEnvironment_evolves _ _ _ _ _ _ hb
        obtain ⟨k1, k2⟩ := (Keeps.bind (ih.evalDefs ctx (some a) ds) fun _ => ih.evalBody ctx (some a) body)
          { t with envs := h1 } ho1
        exact ⟨k1, ev1.trans k2⟩
  | int _ | nil | void | undef | pair _ _ => simp only [Vm.EnvRun.apply]; exact Keeps.throw _

theorem keepsAll : ∀ g, KeepsAll g
  | 0 => by
    refine ⟨?_, ?_, ?_, ?_, ?_, ?_, ?_⟩ <;> intros
    · rw [Vm.EnvRun.eval]; exact Keeps.throw _
    · rw [Vm.EnvRun.evalList]; exact Keeps.throw _
    · rw [Vm.EnvRun.evalBody]; exact Keeps.throw _
    · rw [Vm.EnvRun.evalDefs]; exact Keeps.throw _
    · rw [Vm.EnvRun.apply]; exact Keeps.throw _
    · rw [Vm.EnvRun.loopGo]; exact Keeps.throw _
    · rw [Vm.EnvRun.eachGo]; exact Keeps.throw _
  | g + 1 => by
    have ih := keepsAll g
    refine ⟨?_, ?_, ?_, ?_, keeps_apply_step ih, ?_, ?_⟩
    · intro c ep e
      cases e with
      | fresh => simp only [Vm.EnvRun.eval]; exact keeps_tick
      | ref s x =>
        simp only [Vm.EnvRun.eval]
        exact Keeps.bind (keeps_readVar c ep x) fun v => Keeps.bind (keeps_log s v) fun _ => Keeps.pure _
      | set s x e =>
        simp only [Vm.EnvRun.eval]
        exact Keeps.bind (ih.eval c ep e) fun v => Keeps.bind (keeps_log s v) fun _ =>
          Keeps.bind (keeps_writeVar c ep x v) fun _ => Keeps.pure _
      | lam ps r ds body => simp only [Vm.EnvRun.eval]; exact keeps_mkClosure _ _ _ _ _ _ _
      | call fn args =>
        simp only [Vm.EnvRun.eval]
        exact Keeps.bind (ih.evalList c ep args) fun vs => Keeps.bind (ih.eval c ep fn) fun fv => ih.apply fv vs
      | seq es =>
        simp only [Vm.EnvRun.eval]
        exact Keeps.bind (keeps_mkClosure _ _ _ _ _ _ _) fun fv => ih.apply fv []
      | loop n fn =>
        simp only [Vm.EnvRun.eval]
        exact Keeps.bind (ih.eval c ep fn) fun fv => ih.loopGo fv n
      | each l args =>
        simp only [Vm.EnvRun.eval]
        exact Keeps.bind (ih.eval c ep l) fun lv => Keeps.bind (ih.evalList c ep args) fun vs => ih.eachGo lv vs
    · intro c ep es
      cases es with
      | nil => simp only [Vm.EnvRun.evalList]; exact Keeps.pure _
      | cons e es =>
        simp only [Vm.EnvRun.evalList]
        exact Keeps.bind (ih.eval c ep e) fun v => Keeps.bind (ih.evalList c ep es) fun vs => Keeps.pure _
    · intro c ep es
      cases es with
      | nil => simp only [Vm.EnvRun.evalBody]; exact Keeps.pure _
      | cons e es =>
        cases es with
        | nil => simp only [Vm.EnvRun.evalBody]; exact ih.eval c ep e
        | cons e' es' =>
          simp only [Vm.EnvRun.evalBody]
          exact Keeps.bind (ih.eval c ep e) fun _ => ih.evalBody c ep _
    · intro c ep ds
      cases ds with
      | nil => simp only [Vm.EnvRun.evalDefs]; exact Keeps.pure _
      | cons x sugar e ds =>
        simp only [Vm.EnvRun.evalDefs]
        split
        · exact Keeps.bind (keeps_mkClosure _ _ _ _ _ _ _) fun v => Keeps.bind (keeps_writeVar c ep x v) fun _ =>
            ih.evalDefs c ep ds
        · exact Keeps.bind (ih.eval c ep _) fun v => Keeps.bind (keeps_writeVar c ep x v) fun _ =>
            ih.evalDefs c ep ds
    · intro fv n
      cases n with
      | zero => simp only [Vm.EnvRun.loopGo]; exact Keeps.pure _
      | succ n =>
        simp only [Vm.EnvRun.loopGo]
        exact Keeps.bind keeps_tick fun tv => Keeps.bind (ih.apply fv [tv]) fun v =>
          Keeps.bind (ih.loopGo fv n) fun rest => Keeps.pure _
    · intro lv vs
      cases lv with
      | nil => simp only [Vm.EnvRun.eachGo]; exact Keeps.pure _
      | pair c rest =>
        simp only [Vm.EnvRun.eachGo]
        exact Keeps.bind (ih.apply c vs) fun v => Keeps.bind (ih.eachGo rest vs) fun r => Keeps.pure _
      | int _ | void | undef | clo _ _ _ _ _ _ => simp only [Vm.EnvRun.eachGo]; exact Keeps.throw _

theorem keeps_runTop (g : Nat) (top : Top) : Keeps (Vm.EnvRun.runTop g top) := by
  cases top with
  | define x e =>
    simp only [Vm.EnvRun.runTop]
    exact Keeps.bind ((keepsAll g).eval _ _ e) fun v => Keeps.bind (keeps_setGlobal x v) fun _ => Keeps.pure _
  | expr e => exact (keepsAll g).eval _ _ e

theorem run_keeps (g : Nat) (p : Program) (t : MSt) (ho : OneLevel t.envs) :
    OneLevel (Vm.EnvRun.run g p t).2.envs ∧ Evolves t.envs (Vm.EnvRun.run g p t).2.envs := by
  induction p generalizing t with
  | nil => exact ⟨ho, Evolves.refl _⟩
  | cons top ts ih =>
    have h1 := keeps_runTop g top t ho
    have : Vm.EnvRun.run g (top :: ts) t = _ := rfl
    obtain ⟨k1, k2⟩ := ih (exec (Vm.EnvRun.runTop g top) t).2 h1.1
    exact ⟨k1, h1.2.trans k2⟩

end Marwood.Vm.EnvRefine
