import Marwood.Lemmas.PrepareDefs
import Marwood.Lemmas.GoodAlloc
/-!
# One allocator step of the loader (`InstStep`, Lemmas/PrepareDefs.lean) preserves the heap invariant `HG`

`cell` / `sym` are `put_core` / `putNew_hg` of Lemmas/GoodAlloc.lean; `glob` and `resym` do not touch what the
erasure `toHeap` reads except for the representation of the symbol table (same lookup function).
-/
namespace Marwood.Lemmas.Good
open Marwood Marwood.Vm Marwood.Vm.Verify Marwood.Vm.Concrete Marwood.Lemmas.Sim
open Marwood.Heap (GcState WFHeap RootsOk vrefs vrefsList crefs)
open Marwood.Lemmas.HeapWFOps (VCell.isSymbol)

theorem instStep_size {Q : CHeap → CLambda → Prop} {h h' : CHeap} (st : InstStep Q h h') : h.cells.size ≤ h'.cells.size := by
  cases st with
  | cell _ _ _ _ => exact cput_size h _
  | sym _ _ => exact putNew_size h _
  | glob _ => exact Nat.le_refl _
  | resym _ _ => exact Nat.le_refl _

theorem instSteps_size {Q : CHeap → CLambda → Prop} {h h' : CHeap} (st : InstSteps Q h h') : h.cells.size ≤ h'.cells.size := by
  induction st with
  | refl _ => exact Nat.le_refl _
  | step s _ ih => exact Nat.le_trans (instStep_size s) ih

theorem addrFree_plainVal {v : VCell} (hf : addrFree v = true) : plainVal v = true := by
  cases v <;> first | rfl | simp [addrFree] at hf

theorem NewCellOk.cellOk {Q : CLambda → Prop} (hQ : ∀ cl, Q cl → LamOk cl) (h : CHeap) {c : CCell}
    (x : NewCellOk Q c) : CellOk h c := by
  cases x with
  | pair a d => exact (rfl : plainVal (.pair a d) = true)
  | atom hf _ => exact addrFree_plainVal hf
  | vector es => exact True.intro
  | lambda q => exact hQ _ q

theorem NewCellOk.nonsym {Q : CLambda → Prop} {c : CCell} (x : NewCellOk Q c) : ¬ VCell.isSymbol (eraseC c) := by
  cases x with
  | pair a d => simp [eraseC, eraseV, VCell.isSymbol]
  | atom _ hs => exact eraseV_nonsym hs
  | vector es => simp [eraseC, VCell.isSymbol]
  | lambda q => simp [eraseC, VCell.isSymbol]

theorem GlobRoots.mono {h h' : CHeap} (gr : GlobRoots h) (m : Mono h h') (e1 : h'.globals = h.globals)
    (e2 : h'.globSyms = h.globSyms) : GlobRoots h' :=
  ⟨fun y hy => (gr.1 y (e2 ▸ hy)).mono m, fun v hv => (gr.2 v (e1 ▸ hv)).mono m⟩

theorem instStep_hg {Q : CHeap → CLambda → Prop} (hQ : ∀ h cl, Q h cl → LamOk cl) {h h' : CHeap} (st : InstStep Q h h')
    (g : HG h) (gr : GlobRoots h) (sm : Small h') : HG h' ∧ Mono h h' ∧ GlobRoots h' := by
  cases st with
  | @cell c nc hr _ _ =>
    have a := calloc_spec h (HInv.of_wf g.wf)
    have r := put_core g (nc.cellOk (hQ h) h) hr sm rfl a.globals a.globSyms (toHeap_cput (HInv.of_wf g.wf) c nc.nonsym)
    exact ⟨r.hg, r.mono, gr.mono r.mono r.globals r.globSyms⟩
  | @sym v name hs _ =>
    obtain ⟨tag, rfl, _⟩ := symOf_some hs
    have r := (putNew_hg g (VRefsOk.of_addrFree h (v := .opaque tag) rfl) rfl sm).1
    exact ⟨r.hg, r.mono, gr.mono r.mono r.globals r.globSyms⟩
  | @glob y hy =>
    refine ⟨⟨g.wf, ⟨g.plain.cells, ?_, g.plain.conts⟩, g.lam, g.env⟩, ⟨Nat.le_refl _, fun _ x => x⟩, ?_, ?_⟩
    · intro v hv
      rcases Array.mem_push.mp (Array.mem_toList_iff.mp hv) with hv | rfl
      · exact g.plain.globals v (Array.mem_toList_iff.mpr hv)
      · rfl
    · intro z hz
      rcases List.mem_cons.mp hz with rfl | hz
      · exact .inl hy
      · exact gr.1 z hz
    · intro v hv
      rcases Array.mem_push.mp (Array.mem_toList_iff.mp hv) with hv | rfl
      · exact gr.2 v (Array.mem_toList_iff.mpr hv)
      · exact VRefsOk.of_addrFree _ rfl
  | @resym tab gs hl hgs =>
    have wf := g.wf
    refine ⟨⟨⟨⟨wf.sizes, wf.shape, wf.bound, wf.free_iff, wf.nodup, wf.free_undef, ?_, wf.closed⟩, wf.no_used⟩,
      ⟨g.plain.cells, g.plain.globals, g.plain.conts⟩, g.lam, g.env⟩,
      ⟨Nat.le_refl _, fun _ x => x⟩, fun z hz => gr.1 z ((hgs z).mp hz), gr.2⟩
    · intro name i
      have e : (toHeap { h with symtab := tab, globSyms := gs }).symLookup name = (toHeap h).symLookup name := hl name
      rw [e]
      exact wf.interned name i

theorem instSteps_hg {Q : CHeap → CLambda → Prop} (hQ : ∀ h cl, Q h cl → LamOk cl) {h h' : CHeap} (st : InstSteps Q h h')
    (g : HG h) (gr : GlobRoots h) (sm : Small h') : HG h' ∧ Mono h h' ∧ GlobRoots h' := by
  induction st with
  | refl _ => exact ⟨g, .refl _, gr⟩
  | step s rest ih =>
    obtain ⟨g1, m1, gr1⟩ := instStep_hg hQ s g gr (sm.of_le (instSteps_size rest))
    obtain ⟨g2, m2, gr2⟩ := ih g1 gr1 sm
    exact ⟨g2, m1.trans m2, gr2⟩

end Marwood.Lemmas.Good
