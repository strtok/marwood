import Marwood.Lemmas.ProcInvOps
import Marwood.Lemmas.VmOkDemo
/-!
# `CalleeOkAlong` is a theorem: "no value leads to entry code" is an invariant of the real machine

`pinv_step`, `pinv_gc` are the instance `Spec.entry` of `Lead.tinv_step`, `Lead.pinv_gc`. At every state reachable from a
`VmOkP = VmOk ∧ PInv` state the callee guard passes (`calleeOk_of_pinv`), so `vmOk_step` applies without `CalleeOkAlong`
(`vmOkP_reaches`, `calleeOkAlong_of_vmOk`).
-/
namespace Marwood.Lemmas.Good
open Marwood Marwood.Vm Marwood.Vm.Verify Marwood.Vm.Concrete Marwood.Lemmas.Sim
open Marwood.Heap (GcState)
open StepC

section
variable {ext : ExtOps}

theorem pinv_step (ep : ExtProc ext) (ecl : ExtCodeLawsV ext) {s s' : St CHeap} {b : Bool} (g : GoodI s)
    (ci : CInvG IsValue s.heap) (sd : StackDisc s) (p : PInv s) (hs : step (concreteOps ext) s = .ok (s', b)) :
    PInv s' :=
  .of_lead (Lead.tinv_step ep.lead ecl g ci sd p.lead hs)

end

theorem pinv_gc (force : Bool) {s : St CHeap} (ci : CInvG IsValue s.heap) (p : PInv s) : PInv (cgc force s) :=
  pinv_iff.mpr (Lead.pinv_gc force ci (pinv_iff.mp p))

theorem symLookup_toHeap (h : CHeap) (name : Text) : (toHeap h).symLookup name = symLookup h name := rfl

variable {ext : ExtOps} {ecl : ExtCodeLawsV ext}

def VmOkP (ext : ExtOps) (ecl : ExtCodeLawsV ext) (s : St CHeap) : Prop := VmOk ext ecl s ∧ PInv s

theorem VmOk.cinv {s : St CHeap} (h : VmOk ext ecl s) : CInvG IsValue s.heap := by
  rcases h.2 with ⟨K, hw⟩ | hh
  · exact hw.inv
  · exact hh.1

theorem VmOkP.calleeOk {s : St CHeap} (h : VmOkP ext ecl s) : CalleeOk s := calleeOk_of_pinv h.1.1 h.2

theorem vmOkP_step (el : ExtLaws ext) (eg : ExtGood ext) (ep : ExtProc ext) {s s' : St CHeap} {b : Bool}
    (h : VmOkP ext ecl s) (sm : Small s.heap) (hs : step (concreteOps ext) s = .ok (s', b)) (sm' : Small s'.heap) :
    VmOkP ext ecl s' :=
  ⟨vmOk_step el eg h.1 (fun _ => h.calleeOk) sm hs sm', pinv_step ep ecl h.1.1 h.1.cinv h.1.stackDisc h.2 hs⟩

theorem vmOkP_gc (force : Bool) {s : St CHeap} (h : VmOkP ext ecl s) (sm' : Small (cgc force s).heap) :
    VmOkP ext ecl (cgc force s) :=
  ⟨vmOk_gc force h.1 sm', pinv_gc force h.1.cinv h.2⟩

/-- no hypothesis along the run besides the physical size bound -/
theorem vmOkP_reaches (force : Bool) (el : ExtLaws ext) (eg : ExtGood ext) (ep : ExtProc ext) {s0 : St CHeap}
    (h0 : VmOkP ext ecl s0) (sb : SizeBounded (machine ext force) s0) :
    ∀ s', Reaches (machine ext force) s0 s' → VmOkP ext ecl s' :=
  Reaches.machine_induct h0
    (fun _ _ _ hr1 ih hst hr2 => vmOkP_step el eg ep ih (sb _ hr1) hst (sb _ hr2))
    (fun _ hr1 ih => vmOkP_gc force ih (sb _ (.gc hr1)))

theorem calleeOkAlong_of_vmOk (force : Bool) (el : ExtLaws ext) (eg : ExtGood ext) (ep : ExtProc ext) {s0 : St CHeap}
    (h0 : VmOk ext ecl s0) (p0 : PInv s0) (sb : SizeBounded (machine ext force) s0) :
    CalleeOkAlong (machine ext force) s0 :=
  fun s' hr _ => (vmOkP_reaches force el eg ep ⟨h0, p0⟩ sb s' hr).calleeOk

/-- **Assumed of the unmodelled compiler** inside `prepare_eval`: the heap it returns — with the fresh entry lambda, which
    nothing but `ip.0` refers to — satisfies `HP` -/
structure CompProc (comp : CHeap → VCell → Outcome (CHeap × VCell)) : Prop where
  hp : ∀ (h : CHeap) (d : VCell) (h' : CHeap) (v : VCell), HP h → addrFree d = true → comp h d = .ok (h', v) → HP h'

theorem prepare_pinv {comp : CHeap → VCell → Outcome (CHeap × VCell)} (cp : CompProc comp) {s s' : St CHeap}
    {d : VCell} (p : PInv s) (hacc : s.acc = .undefined) (hst : ∀ c ∈ s.stack.cells, c = VCell.undefined)
    (hd : addrFree d = true) (hp : prepareEval comp s d = .ok s') : PInv s' :=
  .of_lead (Lead.prepare_tinv (fun h d h' v x => (hp_iff.mp <| cp.hp h d h' v (hp_iff.mpr x) · ·)) p.lead hacc hst hd hp)

theorem onError_pinv {s : St CHeap} (p : PInv s) : PInv (onError s) := .of_lead (Lead.onError_tinv p.lead)

namespace Demo

theorem sHalt_statePB (o : Nat) : statePB (sHalt o) = true := by
  show statePB (sHalt 0) = true
  decide +kernel

theorem sHalt_pinv (o : Nat) : PInv (sHalt o) := statePB_sound (sHalt_statePB o)

theorem sHalt_vmOkP (ext : ExtOps) (ecl : ExtCodeLawsV ext) : VmOkP ext ecl (sHalt 0) :=
  ⟨sHalt_vmOk ext ecl, sHalt_pinv 0⟩

theorem sHalt1_vmOkP (ext : ExtOps) (ecl : ExtCodeLawsV ext) : VmOkP ext ecl (sHalt 1) :=
  ⟨sHalt1_vmOk ext ecl, sHalt_pinv 1⟩

/-- the clauses are not trivially true: the demo heap's cell 0 is an entry lambda (`[HALT]`), and a state whose `acc`
    points to it, or whose heap holds a closure over it, is rejected by the executable check -/
example : statePB { sHalt 0 with acc := .ptr 0 } = false := by decide +kernel

example : heapPB { hHalt with cells := hHalt.cells.setIfInBounds 1 (.val (.closure 0 2)) } = false := by decide +kernel

end Demo

end Marwood.Lemmas.Good
