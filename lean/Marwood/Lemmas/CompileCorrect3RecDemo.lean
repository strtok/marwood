import Marwood.Lemmas.CompileCorrect3Demo
/-!
# T01.3 stage 3 — every hypothesis discharged for recursion through internal definitions (`F3B.block`), toy heap

* self recursion (`F3K.defc`): `((lambda (n) (define (loop i) (if i (loop #f) 7)) (loop n)) #t)`. `loop` is lambda 0
  (`[i ↦ Argument 0, loop ↦ IofEnvironment]`: the free-variable analysis finds `loop` free in its own definition
  form), the enclosing lambda is lambda 1, the top-level code is at address 2. ENTER leaves the slot of `loop`
  `Undefined`, CLOSURE captures a pointer to that slot (`iofEnv 1`), the definition stores the closure into it.
* mutual recursion (`F3K.defl`): `((lambda (b) (define ev (lambda (x) (if x (od #f) 1)))
  (define od (lambda (x) (if x (ev #f) 2))) (ev b)) #t)`. `ev`, `od`, the enclosing lambda are lambdas 0, 1, 2, the
  top-level code is at address 3. The closure of `ev` is built while the slot of `od` is still `Undefined`.

The toy heap has no arithmetic, so the programs recurse on a boolean.
-/
namespace Marwood.Lemmas.CompileCorrect3.Toy
open Marwood Marwood.Vm Marwood.Lemmas.CompileCorrect Marwood.Lemmas.CompileCorrect2
  Marwood.Lemmas.CompileCorrect3
open Marwood.Spec.Eval (Val Cell evalN k_lambda k_if_)

def kn : Text := ['n']
def ki : Text := ['i']
def kloop : Text := ['l', 'o', 'o', 'p']

def ifS : Datum := Datum.ofList [.sym k_if_, .sym ki, Datum.ofList [.sym kloop, .bool false], .num (.fix 7)]

def formalsS : Datum := Datum.ofList [.sym ki]

def callS : Datum := Datum.ofList [.sym kloop, .sym kn]

def defS : Datum := curForm kloop formalsS (.pair ifS .nil)

def bodyS : Datum := .pair defS (.pair callS .nil)

def lamS : Datum := .pair (.sym k_lambda) (.pair (Datum.ofList [.sym kn]) bodyS)

def progS : Datum := Datum.ofList [lamS, .bool true]

def lamCtxS : Ctx := ⟨[kn], [(kn, .argument 0), (kloop, .internal)]⟩

def lamCtxL : Ctx := ⟨[ki], [(ki, .argument 0), (kloop, .iofEnvironment)]⟩

def bodyCodeL : List BC :=
  [.op .mov, .envSlot ki, .acc, .op .jnt, .target 18,
   .op .movImm, .datum (.bool false), .acc, .op .pushAcc, .op .pushImm, .argc 1,
   .op .mov, .envSlot kloop, .acc, .op .tcallAcc,
   .op .jmp, .target 21, .op .movImm, .datum (.num (.fix 7)), .acc]

def bodyCodeS : List BC :=
  [.op .movImm, .lambda 0, .acc, .op .closureAcc, .op .mov, .acc, .envSlot kloop, .op .movImm, .void, .acc,
   .op .mov, .envSlot kn, .acc, .op .pushAcc, .op .pushImm, .argc 1,
   .op .mov, .envSlot kloop, .acc, .op .tcallAcc]

def partsL : LambdaParts :=
  { formals := [ki], isVararg := false, ctx := lamCtxL, prologue := [.op .enter], body := .pair ifS .nil }

def partsS : LambdaParts :=
  { formals := [kn], isVararg := false, ctx := lamCtxS, prologue := [.op .enter], body := bodyS }

def demoLamL : LambdaM := lamOf partsL bodyCodeL

def demoLamS : LambdaM := lamOf partsS bodyCodeS

def progCodeS : List BC :=
  [.op .movImm, .datum (.bool true), .acc, .op .pushAcc, .op .pushImm, .argc 1,
   .op .movImm, .lambda 1, .acc, .op .closureAcc, .op .callAcc]

theorem demoS_parts : lambdaParts 18 c0 lamS false = .ok partsS := ok_of_decide (by decide +kernel)

/-- the definition form itself is the "lambda expression" (`compile_define`) -/
theorem demoL_parts : lambdaParts 16 lamCtxS defS true = .ok partsL := ok_of_decide (by decide +kernel)

theorem demoS_compile :
    compileExpr 20 {} c0 0 false progS = .ok ({ lambdas := [demoLamL, demoLamS] }, progCodeS) :=
  CompileCorrect2.Toy.okIs_eq (by decide +kernel)

def cellsS0 : List VCell :=
  [.opcode .enter, .opcode .mov, .lexEnvSlot 0, .acc, .opcode .jnt, .ptr 18,
   .opcode .movImm, .bool false, .acc, .opcode .pushAcc, .opcode .pushImm, .argc 1,
   .opcode .mov, .lexEnvSlot 1, .acc, .opcode .tcallAcc,
   .opcode .jmp, .ptr 21, .opcode .movImm, .opaque "n7", .acc, .opcode .ret]

def cellsS1 : List VCell :=
  [.opcode .enter, .opcode .movImm, .ptr 0, .acc, .opcode .closureAcc, .opcode .mov, .acc, .lexEnvSlot 1,
   .opcode .movImm, .void, .acc,
   .opcode .mov, .lexEnvSlot 0, .acc, .opcode .pushAcc, .opcode .pushImm, .argc 1,
   .opcode .mov, .lexEnvSlot 1, .acc, .opcode .tcallAcc, .opcode .ret]

def cellsS2 : List VCell :=
  [.opcode .movImm, .bool true, .acc, .opcode .pushAcc, .opcode .pushImm, .argc 1,
   .opcode .movImm, .ptr 1, .acc, .opcode .closureAcc, .opcode .callAcc]

def demoHeapS : THeap :=
  { lams := [⟨cellsS0, 1, [.arg 0, .iofEnv 1]⟩, ⟨cellsS1, 1, [.arg 0, .internal]⟩, ⟨cellsS2, 0, []⟩],
    envs := #[], cells := #[], globals := #[] }

def demoStateS : MSt THeap :=
  { heap := demoHeapS, stack := ⟨List.replicate 8 .undefined, 0⟩, acc := .undefined, ep := 0, ipL := 2, ipO := 0,
    bp := 0 }

/-- cells of `n`, `loop` (the closure refers to its own cell, location 1), `i` in the two activations of `loop` -/
def demoStS' : SSt :=
  { globals := []
    store := #[.var (.bool true), .var (.closure [ki] none [ifS] [(kloop, 1), (kn, 0)]), .var (.bool true),
               .var (.bool false)]
    out := [] }

theorem demoS_eval : (evalN 9).eval progS [] demoSt = .ok (.int 7) demoStS' := by rfl

abbrev demoDS : RepData2 tops := tD3 [demoLamL, demoLamS]

theorem demoS_frag : F3 (fun _ => False) 20 c0 (bound []) (fun _ => False) false progS := by
  have hn : inEnv lamCtxS kn = true := by decide
  have hl : inEnv lamCtxS kloop = true := by decide
  have hi' : inEnv lamCtxL ki = true := by decide
  have hl' : inEnv lamCtxL kloop = true := by decide
  have hd : AppHead (.sym kloop) := ⟨by decide, by intro x h; injection h with h; subst h; rfl⟩
  refine F3.app lamS _ ⟨by decide, by intro x h; cases h⟩ ?_ (F3L.cons _ _ (F3.bool true) F3L.nil)
  refine F3.lambda (Datum.ofList [.sym kn]) _ partsS [kn] none [kloop] [] demoS_parts (by rfl) rfl rfl (by decide) rfl
    (by intro q hq; cases hq) ?_
  refine F3B.block [kloop] _ _ (by decide) ?_
  refine F3K.defc kloop formalsS (.pair ifS .nil) callS .nil [] partsL [ki] none [] [(kloop, .iofEnvironment)]
    hl (.inl (by decide)) (by rfl) demoL_parts (by rfl) rfl rfl (by decide) rfl ?_ ?_ ?_
  · -- the captured variable is a name of the block
    intro q hq
    obtain rfl : q = (kloop, .iofEnvironment) := by simpa using hq
    exact ⟨rfl, hl, fun h => h.2 (by decide)⟩
  · -- the body of `loop`
    refine F3B.last _ rfl (F3.if3 _ _ _
      (F3.sym ki ⟨fun _ => .inl (by decide), fun _ => hi'⟩ (by decide)) ?_ (F3.num _))
    exact F3.app _ _ hd (F3.sym kloop ⟨fun _ => .inr (.inl (by decide)), fun _ => hl'⟩ (by decide))
      (F3L.cons _ _ (F3.bool false) F3L.nil)
  · -- `(loop n)`, `loop` readable
    refine F3K.done _ _ (F3B.last _ rfl ?_)
    exact F3.app _ _ hd (F3.sym kloop ⟨fun _ => .inl (by decide), fun _ => hl⟩ (fun h => h.2 (by decide)))
      (F3L.cons _ _ (F3.sym kn ⟨fun _ => .inl (by decide), fun _ => hn⟩ (fun h => absurd h.1 (by decide))) F3L.nil)

theorem demoS_code0 (S : Array Cell) : CodeAt2 demoDS lamCtxL.envmap demoHeapS S 0 0 demoLamL.bc := by
  refine CompileCorrect2.Toy.CodeAt2.ofAll2 cellsS0 rfl (fun i _ => by rw [Nat.zero_add]; rfl) ?_
  have si : Loads2 demoDS lamCtxL.envmap demoHeapS S (.envSlot ki) (.lexEnvSlot 0) := ⟨0, by decide, rfl⟩
  have sl : Loads2 demoDS lamCtxL.envmap demoHeapS S (.envSlot kloop) (.lexEnvSlot 1) := ⟨1, by decide, rfl⟩
  have hb : Loads2 demoDS lamCtxL.envmap demoHeapS S (.datum (.bool false)) (.bool false) :=
    ⟨(by intro o e; cases e), .atom rfl (.base rfl)⟩
  have n7 := loads_num demoDS rfl 7 (.fix 7) rfl "n7" (by decide) demoHeapS S lamCtxL.envmap
  exact .cons rfl (.cons rfl (.cons si (.cons rfl (.cons rfl (.cons rfl
    (.cons rfl (.cons hb (.cons rfl (.cons rfl (.cons rfl (.cons rfl
    (.cons rfl (.cons sl (.cons rfl (.cons rfl
    (.cons rfl (.cons rfl (.cons rfl (.cons n7 (.cons rfl (.cons rfl .nil)))))))))))))))))))))

theorem demoS_code1 (S : Array Cell) : CodeAt2 demoDS lamCtxS.envmap demoHeapS S 1 0 demoLamS.bc := by
  refine CompileCorrect2.Toy.CodeAt2.ofAll2 cellsS1 rfl (fun i _ => by rw [Nat.zero_add]; rfl) ?_
  have sn : Loads2 demoDS lamCtxS.envmap demoHeapS S (.envSlot kn) (.lexEnvSlot 0) := ⟨0, by decide, rfl⟩
  have sl : Loads2 demoDS lamCtxS.envmap demoHeapS S (.envSlot kloop) (.lexEnvSlot 1) := ⟨1, by decide, rfl⟩
  have hlam : Loads2 demoDS lamCtxS.envmap demoHeapS S (.lambda 0) (.ptr 0) :=
    CompileCorrect2.Toy.loads_lambda (id := 0) rfl rfl (by decide)
  exact .cons rfl (.cons rfl (.cons hlam (.cons rfl (.cons rfl (.cons rfl (.cons rfl (.cons sl
    (.cons rfl (.cons rfl (.cons rfl
    (.cons rfl (.cons sn (.cons rfl (.cons rfl (.cons rfl (.cons rfl
    (.cons rfl (.cons sl (.cons rfl (.cons rfl (.cons rfl .nil)))))))))))))))))))))

theorem demoS_code2 (S : Array Cell) : CodeAt2 demoDS c0.envmap demoHeapS S 2 0 progCodeS := by
  refine CompileCorrect2.Toy.CodeAt2.ofAll2 cellsS2 rfl (fun i _ => by rw [Nat.zero_add]; rfl) ?_
  have hb : Loads2 demoDS c0.envmap demoHeapS S (.datum (.bool true)) (.bool true) :=
    ⟨(by intro o e; cases e), .atom rfl (.base rfl)⟩
  have hlam : Loads2 demoDS c0.envmap demoHeapS S (.lambda 1) (.ptr 1) :=
    CompileCorrect2.Toy.loads_lambda (id := 1) rfl rfl (by decide)
  exact .cons rfl (.cons hb (.cons rfl (.cons rfl (.cons rfl (.cons rfl (.cons rfl (.cons hlam (.cons rfl
    (.cons rfl (.cons rfl .nil))))))))))

theorem demoS_inv : Inv3 demoDS W0 demoHeapS demoSt :=
  inv3_top rfl (CompileCorrect2.Toy.forall_getElem?_cons ⟨demoS_code0 _, rfl⟩
    (CompileCorrect2.Toy.forall_getElem?_cons ⟨demoS_code1 _, rfl⟩ CompileCorrect2.Toy.forall_getElem?_nil))

theorem demo_selfrec_runs :
    ∃ W' s', Run3 demoDS W' demoStateS 11 demoSt demoStS' (.int 7) s' := by
  obtain ⟨W', s', _, r⟩ := compileExpr_correct3_nontail (laws3 [demoLamL, demoLamS]) 20 {} c0 0 progS _ progCodeS []
    (fun _ => False) demoS_frag ctxOK_top demoS_compile (List.prefix_refl _) 9 demoSt (.int 7) demoStS' demoS_eval
    W0 demoStateS (demoS_code2 _) rfl demoS_inv (envRep3_top _ _ _ _) (by show 0 < 8; omega)
  exact ⟨W', s', r⟩

theorem demo_selfrec_acc :
    ∃ W' s', Run3 demoDS W' demoStateS 11 demoSt demoStS' (.int 7) s' ∧ tDeref s'.heap s'.acc = .opaque "n7" := by
  obtain ⟨W', s', r⟩ := demo_selfrec_runs
  exact ⟨W', s', r, tVR3_int r.acc⟩

def kbM : Text := ['b']
def kev : Text := ['e', 'v']
def kod : Text := ['o', 'd']

def formalsX : Datum := Datum.ofList [.sym kx]

def ifEv : Datum := Datum.ofList [.sym k_if_, .sym kx, Datum.ofList [.sym kod, .bool false], .num (.fix 1)]

def ifOd : Datum := Datum.ofList [.sym k_if_, .sym kx, Datum.ofList [.sym kev, .bool false], .num (.fix 2)]

def lamEv : Datum := .pair (.sym k_lambda) (.pair formalsX (.pair ifEv .nil))

def lamOd : Datum := .pair (.sym k_lambda) (.pair formalsX (.pair ifOd .nil))

def callM : Datum := Datum.ofList [.sym kev, .sym kbM]

def bodyM : Datum := .pair (defForm kev lamEv) (.pair (defForm kod lamOd) (.pair callM .nil))

def lamM : Datum := .pair (.sym k_lambda) (.pair (Datum.ofList [.sym kbM]) bodyM)

def progM : Datum := Datum.ofList [lamM, .bool true]

def lamCtxM : Ctx := ⟨[kbM], [(kbM, .argument 0), (kev, .internal), (kod, .internal)]⟩

def lamCtxEv : Ctx := ⟨[kx], [(kx, .argument 0), (kod, .iofEnvironment)]⟩

def lamCtxOd : Ctx := ⟨[kx], [(kx, .argument 0), (kev, .iofEnvironment)]⟩

def bodyCodeEv : List BC :=
  [.op .mov, .envSlot kx, .acc, .op .jnt, .target 18,
   .op .movImm, .datum (.bool false), .acc, .op .pushAcc, .op .pushImm, .argc 1,
   .op .mov, .envSlot kod, .acc, .op .tcallAcc,
   .op .jmp, .target 21, .op .movImm, .datum (.num (.fix 1)), .acc]

def bodyCodeOd : List BC :=
  [.op .mov, .envSlot kx, .acc, .op .jnt, .target 18,
   .op .movImm, .datum (.bool false), .acc, .op .pushAcc, .op .pushImm, .argc 1,
   .op .mov, .envSlot kev, .acc, .op .tcallAcc,
   .op .jmp, .target 21, .op .movImm, .datum (.num (.fix 2)), .acc]

def bodyCodeM : List BC :=
  [.op .movImm, .lambda 0, .acc, .op .closureAcc, .op .mov, .acc, .envSlot kev, .op .movImm, .void, .acc,
   .op .movImm, .lambda 1, .acc, .op .closureAcc, .op .mov, .acc, .envSlot kod, .op .movImm, .void, .acc,
   .op .mov, .envSlot kbM, .acc, .op .pushAcc, .op .pushImm, .argc 1,
   .op .mov, .envSlot kev, .acc, .op .tcallAcc]

def partsEv : LambdaParts :=
  { formals := [kx], isVararg := false, ctx := lamCtxEv, prologue := [.op .enter], body := .pair ifEv .nil }

def partsOd : LambdaParts :=
  { formals := [kx], isVararg := false, ctx := lamCtxOd, prologue := [.op .enter], body := .pair ifOd .nil }

def partsM : LambdaParts :=
  { formals := [kbM], isVararg := false, ctx := lamCtxM, prologue := [.op .enter], body := bodyM }

def demoLamEv : LambdaM := lamOf partsEv bodyCodeEv

def demoLamOd : LambdaM := lamOf partsOd bodyCodeOd

def demoLamM : LambdaM := lamOf partsM bodyCodeM

def progCodeM : List BC :=
  [.op .movImm, .datum (.bool true), .acc, .op .pushAcc, .op .pushImm, .argc 1,
   .op .movImm, .lambda 2, .acc, .op .closureAcc, .op .callAcc]

theorem demoM_parts : lambdaParts 18 c0 lamM false = .ok partsM := ok_of_decide (by decide +kernel)

theorem demoEv_parts : lambdaParts 15 lamCtxM lamEv false = .ok partsEv := ok_of_decide (by decide +kernel)

theorem demoOd_parts : lambdaParts 14 lamCtxM lamOd false = .ok partsOd := ok_of_decide (by decide +kernel)

theorem demoM_compile :
    compileExpr 20 {} c0 0 false progM = .ok ({ lambdas := [demoLamEv, demoLamOd, demoLamM] }, progCodeM) :=
  CompileCorrect2.Toy.okIs_eq (by decide +kernel)

def cellsM0 : List VCell :=
  [.opcode .enter, .opcode .mov, .lexEnvSlot 0, .acc, .opcode .jnt, .ptr 18,
   .opcode .movImm, .bool false, .acc, .opcode .pushAcc, .opcode .pushImm, .argc 1,
   .opcode .mov, .lexEnvSlot 1, .acc, .opcode .tcallAcc,
   .opcode .jmp, .ptr 21, .opcode .movImm, .opaque "n1", .acc, .opcode .ret]

def cellsM1 : List VCell :=
  [.opcode .enter, .opcode .mov, .lexEnvSlot 0, .acc, .opcode .jnt, .ptr 18,
   .opcode .movImm, .bool false, .acc, .opcode .pushAcc, .opcode .pushImm, .argc 1,
   .opcode .mov, .lexEnvSlot 1, .acc, .opcode .tcallAcc,
   .opcode .jmp, .ptr 21, .opcode .movImm, .opaque "n2", .acc, .opcode .ret]

def cellsM2 : List VCell :=
  [.opcode .enter, .opcode .movImm, .ptr 0, .acc, .opcode .closureAcc, .opcode .mov, .acc, .lexEnvSlot 1,
   .opcode .movImm, .void, .acc,
   .opcode .movImm, .ptr 1, .acc, .opcode .closureAcc, .opcode .mov, .acc, .lexEnvSlot 2,
   .opcode .movImm, .void, .acc,
   .opcode .mov, .lexEnvSlot 0, .acc, .opcode .pushAcc, .opcode .pushImm, .argc 1,
   .opcode .mov, .lexEnvSlot 1, .acc, .opcode .tcallAcc, .opcode .ret]

def cellsM3 : List VCell :=
  [.opcode .movImm, .bool true, .acc, .opcode .pushAcc, .opcode .pushImm, .argc 1,
   .opcode .movImm, .ptr 2, .acc, .opcode .closureAcc, .opcode .callAcc]

def demoHeapM : THeap :=
  { lams := [⟨cellsM0, 1, [.arg 0, .iofEnv 2]⟩, ⟨cellsM1, 1, [.arg 0, .iofEnv 1]⟩,
             ⟨cellsM2, 1, [.arg 0, .internal, .internal]⟩, ⟨cellsM3, 0, []⟩],
    envs := #[], cells := #[], globals := #[] }

def demoStateM : MSt THeap :=
  { heap := demoHeapM, stack := ⟨List.replicate 8 .undefined, 0⟩, acc := .undefined, ep := 0, ipL := 3, ipO := 0,
    bp := 0 }

def envM : Spec.Eval.Env := [(kod, 2), (kev, 1), (kbM, 0)]

/-- cells of `b`, `ev`, `od`, and of `x` in the activations of `ev` and `od` -/
def demoStM' : SSt :=
  { globals := []
    store := #[.var (.bool true), .var (.closure [kx] none [ifEv] envM), .var (.closure [kx] none [ifOd] envM),
               .var (.bool true), .var (.bool false)]
    out := [] }

theorem demoM_eval : (evalN 9).eval progM [] demoSt = .ok (.int 2) demoStM' := by rfl

abbrev demoDM : RepData2 tops := tD3 [demoLamEv, demoLamOd, demoLamM]

theorem demoM_frag : F3 (fun _ => False) 20 c0 (bound []) (fun _ => False) false progM := by
  have hb : inEnv lamCtxM kbM = true := by decide
  have he : inEnv lamCtxM kev = true := by decide
  have ho : inEnv lamCtxM kod = true := by decide
  have hde : AppHead (.sym kev) := ⟨by decide, by intro x h; injection h with h; subst h; rfl⟩
  have hdo : AppHead (.sym kod) := ⟨by decide, by intro x h; injection h with h; subst h; rfl⟩
  refine F3.app lamM _ ⟨by decide, by intro x h; cases h⟩ ?_ (F3L.cons _ _ (F3.bool true) F3L.nil)
  refine F3.lambda (Datum.ofList [.sym kbM]) _ partsM [kbM] none [kev, kod] [] demoM_parts (by rfl) rfl rfl (by decide)
    rfl (by intro q hq; cases hq) ?_
  refine F3B.block [kev, kod] _ _ (by decide) ?_
  refine F3K.defl kev formalsX (.pair ifEv .nil) (defForm kod lamOd) (.pair callM .nil) [kod] he (.inl (by decide))
    (by rfl) ?_ (F3K.defl kod formalsX (.pair ifOd .nil) callM .nil [] ho (.inl (by decide)) (by rfl) ?_ ?_)
  · -- `ev` captures the location of `od`, defined LATER
    refine F3.lambda formalsX _ partsEv [kx] none [] [(kod, .iofEnvironment)] demoEv_parts (by rfl) rfl rfl (by decide)
      rfl ?_ ?_
    · intro q hq
      obtain rfl : q = (kod, .iofEnvironment) := by simpa using hq
      exact ⟨rfl, ho, fun h => h.2 (by decide)⟩
    · refine F3B.last _ rfl (F3.if3 _ _ _
        (F3.sym kx ⟨fun _ => .inl (by decide), fun _ => by decide⟩ (by decide)) ?_ (F3.num _))
      exact F3.app _ _ hdo (F3.sym kod ⟨fun _ => .inr (.inl (by decide)), fun _ => by decide⟩ (by decide))
        (F3L.cons _ _ (F3.bool false) F3L.nil)
  · -- `od`
    refine F3.lambda formalsX _ partsOd [kx] none [] [(kev, .iofEnvironment)] demoOd_parts (by rfl) rfl rfl (by decide)
      rfl ?_ ?_
    · intro q hq
      obtain rfl : q = (kev, .iofEnvironment) := by simpa using hq
      exact ⟨rfl, he, fun h => h.2 (by decide)⟩
    · refine F3B.last _ rfl (F3.if3 _ _ _
        (F3.sym kx ⟨fun _ => .inl (by decide), fun _ => by decide⟩ (by decide)) ?_ (F3.num _))
      exact F3.app _ _ hde (F3.sym kev ⟨fun _ => .inr (.inl (by decide)), fun _ => by decide⟩ (by decide))
        (F3L.cons _ _ (F3.bool false) F3L.nil)
  · -- `(ev b)`, the block readable
    refine F3K.done _ _ (F3B.last _ rfl ?_)
    exact F3.app _ _ hde (F3.sym kev ⟨fun _ => .inl (by decide), fun _ => he⟩ (fun h => h.2 (by decide)))
      (F3L.cons _ _ (F3.sym kbM ⟨fun _ => .inl (by decide), fun _ => hb⟩ (fun h => absurd h.1 (by decide))) F3L.nil)

theorem demoM_code0 (S : Array Cell) : CodeAt2 demoDM lamCtxEv.envmap demoHeapM S 0 0 demoLamEv.bc := by
  refine CompileCorrect2.Toy.CodeAt2.ofAll2 cellsM0 rfl (fun i _ => by rw [Nat.zero_add]; rfl) ?_
  have sx : Loads2 demoDM lamCtxEv.envmap demoHeapM S (.envSlot kx) (.lexEnvSlot 0) := ⟨0, by decide, rfl⟩
  have so : Loads2 demoDM lamCtxEv.envmap demoHeapM S (.envSlot kod) (.lexEnvSlot 1) := ⟨1, by decide, rfl⟩
  have hb : Loads2 demoDM lamCtxEv.envmap demoHeapM S (.datum (.bool false)) (.bool false) :=
    ⟨(by intro o e; cases e), .atom rfl (.base rfl)⟩
  have n1 := loads_num demoDM rfl 1 (.fix 1) rfl "n1" (by decide) demoHeapM S lamCtxEv.envmap
  exact .cons rfl (.cons rfl (.cons sx (.cons rfl (.cons rfl (.cons rfl
    (.cons rfl (.cons hb (.cons rfl (.cons rfl (.cons rfl (.cons rfl
    (.cons rfl (.cons so (.cons rfl (.cons rfl
    (.cons rfl (.cons rfl (.cons rfl (.cons n1 (.cons rfl (.cons rfl .nil)))))))))))))))))))))

theorem demoM_code1 (S : Array Cell) : CodeAt2 demoDM lamCtxOd.envmap demoHeapM S 1 0 demoLamOd.bc := by
  refine CompileCorrect2.Toy.CodeAt2.ofAll2 cellsM1 rfl (fun i _ => by rw [Nat.zero_add]; rfl) ?_
  have sx : Loads2 demoDM lamCtxOd.envmap demoHeapM S (.envSlot kx) (.lexEnvSlot 0) := ⟨0, by decide, rfl⟩
  have se : Loads2 demoDM lamCtxOd.envmap demoHeapM S (.envSlot kev) (.lexEnvSlot 1) := ⟨1, by decide, rfl⟩
  have hb : Loads2 demoDM lamCtxOd.envmap demoHeapM S (.datum (.bool false)) (.bool false) :=
    ⟨(by intro o e; cases e), .atom rfl (.base rfl)⟩
  have n2 := loads_num demoDM rfl 2 (.fix 2) rfl "n2" (by decide) demoHeapM S lamCtxOd.envmap
  exact .cons rfl (.cons rfl (.cons sx (.cons rfl (.cons rfl (.cons rfl
    (.cons rfl (.cons hb (.cons rfl (.cons rfl (.cons rfl (.cons rfl
    (.cons rfl (.cons se (.cons rfl (.cons rfl
    (.cons rfl (.cons rfl (.cons rfl (.cons n2 (.cons rfl (.cons rfl .nil)))))))))))))))))))))

theorem demoM_code2 (S : Array Cell) : CodeAt2 demoDM lamCtxM.envmap demoHeapM S 2 0 demoLamM.bc := by
  refine CompileCorrect2.Toy.CodeAt2.ofAll2 cellsM2 rfl (fun i _ => by rw [Nat.zero_add]; rfl) ?_
  have sb : Loads2 demoDM lamCtxM.envmap demoHeapM S (.envSlot kbM) (.lexEnvSlot 0) := ⟨0, by decide, rfl⟩
  have se : Loads2 demoDM lamCtxM.envmap demoHeapM S (.envSlot kev) (.lexEnvSlot 1) := ⟨1, by decide, rfl⟩
  have so : Loads2 demoDM lamCtxM.envmap demoHeapM S (.envSlot kod) (.lexEnvSlot 2) := ⟨2, by decide, rfl⟩
  have hl0 : Loads2 demoDM lamCtxM.envmap demoHeapM S (.lambda 0) (.ptr 0) :=
    CompileCorrect2.Toy.loads_lambda (id := 0) rfl rfl (by decide)
  have hl1 : Loads2 demoDM lamCtxM.envmap demoHeapM S (.lambda 1) (.ptr 1) :=
    CompileCorrect2.Toy.loads_lambda (id := 1) rfl rfl (by decide)
  exact .cons rfl (.cons rfl (.cons hl0 (.cons rfl (.cons rfl (.cons rfl (.cons rfl (.cons se
    (.cons rfl (.cons rfl (.cons rfl
    (.cons rfl (.cons hl1 (.cons rfl (.cons rfl (.cons rfl (.cons rfl (.cons so
    (.cons rfl (.cons rfl (.cons rfl
    (.cons rfl (.cons sb (.cons rfl (.cons rfl (.cons rfl (.cons rfl
    (.cons rfl (.cons se (.cons rfl (.cons rfl (.cons rfl .nil)))))))))))))))))))))))))))))))

theorem demoM_code3 (S : Array Cell) : CodeAt2 demoDM c0.envmap demoHeapM S 3 0 progCodeM := by
  refine CompileCorrect2.Toy.CodeAt2.ofAll2 cellsM3 rfl (fun i _ => by rw [Nat.zero_add]; rfl) ?_
  have hb : Loads2 demoDM c0.envmap demoHeapM S (.datum (.bool true)) (.bool true) :=
    ⟨(by intro o e; cases e), .atom rfl (.base rfl)⟩
  have hlam : Loads2 demoDM c0.envmap demoHeapM S (.lambda 2) (.ptr 2) :=
    CompileCorrect2.Toy.loads_lambda (id := 2) rfl rfl (by decide)
  exact .cons rfl (.cons hb (.cons rfl (.cons rfl (.cons rfl (.cons rfl (.cons rfl (.cons hlam (.cons rfl
    (.cons rfl (.cons rfl .nil))))))))))

theorem demoM_inv : Inv3 demoDM W0 demoHeapM demoSt :=
  inv3_top rfl (CompileCorrect2.Toy.forall_getElem?_cons ⟨demoM_code0 _, rfl⟩
    (CompileCorrect2.Toy.forall_getElem?_cons ⟨demoM_code1 _, rfl⟩
      (CompileCorrect2.Toy.forall_getElem?_cons ⟨demoM_code2 _, rfl⟩ CompileCorrect2.Toy.forall_getElem?_nil)))

theorem demo_mutrec_runs :
    ∃ W' s', Run3 demoDM W' demoStateM 11 demoSt demoStM' (.int 2) s' := by
  obtain ⟨W', s', _, r⟩ := compileExpr_correct3_nontail (laws3 [demoLamEv, demoLamOd, demoLamM]) 20 {} c0 0 progM _
    progCodeM [] (fun _ => False) demoM_frag ctxOK_top demoM_compile (List.prefix_refl _) 9 demoSt (.int 2) demoStM'
    demoM_eval W0 demoStateM (demoM_code3 _) rfl demoM_inv (envRep3_top _ _ _ _) (by show 0 < 8; omega)
  exact ⟨W', s', r⟩

theorem demo_mutrec_acc :
    ∃ W' s', Run3 demoDM W' demoStateM 11 demoSt demoStM' (.int 2) s' ∧ tDeref s'.heap s'.acc = .opaque "n2" := by
  obtain ⟨W', s', r⟩ := demo_mutrec_runs
  exact ⟨W', s', r, tVR3_int r.acc⟩

end Marwood.Lemmas.CompileCorrect3.Toy
