import Marwood.Lemmas.SimDefs
import Marwood.Lemmas.ConcreteAlloc
/-!
# Heap simulation: the relation looks only where the marker looks

If `D` contains every address the (repaired) marker follows from the erasure of a value / cell (`vrefs`, `crefs` of
Heap/Cell.lean), a relation modulo `φ` is one modulo `restr φ D`; with `D` = "reachable from the roots" a collection can
shrink the domain of `φ` to the reachable cells. Two kinds are outside the marker's view and need the kind discipline
`Plain` (Heap/Check.lean checks its counterpart on every snapshot): a heap cell holding a bare `LexicalEnvPtr` /
`InstructionPointer` contributes nothing in `Heap::mark`, and a global slot is a root only when it is a `Ptr`.
-/
namespace Marwood.Lemmas.Sim
open Marwood Marwood.Vm Marwood.Vm.Concrete
open Marwood.Heap (GcState vrefs vrefsList bcRefs crefs lambdaRefs contRefs)
open Classical

noncomputable def restr (φ : Inj) (D : Nat → Prop) : Inj := fun x => if D x then φ x else none

theorem restr_le (φ : Inj) (D : Nat → Prop) : (restr φ D).le φ := by
  intro a b h
  unfold restr at h
  split at h
  · exact h
  · cases h

theorem restr_some {φ : Inj} {D : Nat → Prop} {a b} (h : φ a = some b) (hd : D a) : restr φ D a = some b := by
  simp [restr, hd, h]

/-- `D a` is asked only where `φ a` is defined: a sentinel need not be in `D` -/
theorem AddrRel.restrict {φ : Inj} {D : Nat → Prop} {a b} (h : AddrRel φ a b) (hd : ∀ b, φ a = some b → D a) :
    AddrRel (restr φ D) a b := by
  rcases h with h | h
  · exact .inl (restr_some h (hd _ h))
  · exact .inr h

structure Plain (h : CHeap) : Prop where
  cells : ∀ (i : Nat) (v : VCell), h.cells[i]? = some (CCell.val v) → plainVal v = true
  globals : ∀ v ∈ h.globals.toList, plainGlob v = true
  /-- `to_continuation` saves `stack[0..=sp]`, so the saved `sp` lies inside the saved cells -/
  conts : ∀ (i : Nat) (c : Cont), h.cells[i]? = some (CCell.cont c) → c.stack.sp < c.stack.cells.length

/-- `Heap::mark_vcell` -/
theorem VRel.restrict {φ : Inj} {D : Nat → Prop} {v v'} (h : VRel φ v v')
    (hd : ∀ x ∈ vrefs true (eraseV v), ∀ b, φ x = some b → D x) : VRel (restr φ D) v v' := by
  cases h with
  | pair h1 h2 =>
    exact .pair (h1.restrict (hd _ (by simp [eraseV, vrefs]))) (h2.restrict (hd _ (by simp [eraseV, vrefs])))
  | closure h1 h2 =>
    exact .closure (h1.restrict (hd _ (by simp [eraseV, vrefs]))) (h2.restrict (hd _ (by simp [eraseV, vrefs])))
  | lexEnvPtr h1 => exact .lexEnvPtr (h1.restrict (hd _ (by simp [eraseV, vrefs])))
  | envPtr h1 => exact .envPtr (h1.restrict (hd _ (by simp [eraseV, vrefs])))
  | instrPtr h1 => exact .instrPtr (h1.restrict (hd _ (by simp [eraseV, vrefs])))
  | ptr h1 => exact .ptr (h1.restrict (hd _ (by simp [eraseV, vrefs])))
  | atom h1 => exact .atom h1

/-- the `match` of `Heap::mark` -/
theorem VRel.restrict_cell {φ : Inj} {D : Nat → Prop} {v v'} (h : VRel φ v v') (hp : plainVal v = true)
    (hd : ∀ x ∈ crefs true (eraseV v), ∀ b, φ x = some b → D x) : VRel (restr φ D) v v' := by
  cases h with
  | pair h1 h2 =>
    exact .pair (h1.restrict (hd _ (by simp [eraseV, crefs]))) (h2.restrict (hd _ (by simp [eraseV, crefs])))
  | closure h1 h2 =>
    exact .closure (h1.restrict (hd _ (by simp [eraseV, crefs]))) (h2.restrict (hd _ (by simp [eraseV, crefs])))
  | lexEnvPtr h1 => simp [plainVal] at hp
  | envPtr h1 => exact .envPtr (h1.restrict (hd _ (by simp [eraseV, crefs])))
  | instrPtr h1 => simp [plainVal] at hp
  | ptr h1 => exact .ptr (h1.restrict (hd _ (by simp [eraseV, crefs])))
  | atom h1 => exact .atom h1

theorem vrefsList_mem {l : List VCell} {c : VCell} (hc : c ∈ l) {x} (hx : x ∈ vrefs true (eraseV c)) :
    x ∈ vrefsList true (l.map eraseV) := by
  induction l with
  | nil => cases hc
  | cons d ds ih =>
    simp only [List.map_cons, vrefsList, List.mem_append]
    rcases List.mem_cons.mp hc with h | h
    · subst h; exact .inl hx
    · exact .inr (ih h)

theorem vrefsList_take_sub (cells : List VCell) (n : Nat) {y : Nat}
    (hy : y ∈ vrefsList true ((cells.take n).map eraseV)) : y ∈ vrefsList true (cells.map eraseV) := by
  have e : cells = cells.take n ++ cells.drop n := (List.take_append_drop _ _).symm
  rw [e, List.map_append]
  generalize (cells.take n).map eraseV = A at hy
  generalize (cells.drop n).map eraseV = B
  induction A with
  | nil => simp [vrefsList] at hy
  | cons a as ih =>
    simp only [List.cons_append, vrefsList, List.mem_append] at hy ⊢
    rcases hy with h | h
    · exact .inl h
    · exact .inr (ih h)

theorem VsRel.restrict {φ : Inj} {D : Nat → Prop} {l l'} (h : VsRel φ l l')
    (hd : ∀ x ∈ vrefsList true (l.map eraseV), ∀ b, φ x = some b → D x) : VsRel (restr φ D) l l' := by
  induction h with
  | nil => exact .nil
  | cons h1 _ ih =>
    refine .cons (h1.restrict ?_) (ih ?_)
    · intro x hx; exact hd x (by simp only [List.map_cons, vrefsList, List.mem_append]; exact .inl hx)
    · intro x hx; exact hd x (by simp only [List.map_cons, vrefsList, List.mem_append]; exact .inr hx)

theorem EnvmapRel.restrict {φ : Inj} {D : Nat → Prop} {l l' : List (VCell × Source)} (h : EnvmapRel φ l l')
    (hd : ∀ x ∈ vrefsList true (l.map fun p => eraseV p.1), ∀ b, φ x = some b → D x) :
    EnvmapRel (restr φ D) l l' := by
  induction h with
  | nil => exact .nil
  | cons h1 _ ih =>
    refine .cons ⟨h1.1.restrict ?_, h1.2⟩ (ih ?_)
    · intro x hx; exact hd x (by simp only [List.map_cons, vrefsList, List.mem_append]; exact .inl hx)
    · intro x hx; exact hd x (by simp only [List.map_cons, vrefsList, List.mem_append]; exact .inr hx)

theorem StackRelK.restrict {φ : Inj} {D : Nat → Prop} {K st st'} (h : StackRelK φ K st st')
    (hd : ∀ x ∈ vrefsList true ((st.cells.take (K + 1)).map eraseV), ∀ b, φ x = some b → D x) :
    StackRelK (restr φ D) K st st' := by
  refine ⟨h.1, h.2.1, ?_⟩
  intro i hi v v' h1 h2
  refine (h.2.2 i hi v v' h1 h2).restrict ?_
  intro x hx
  refine hd x (vrefsList_mem (c := v) ?_ hx)
  exact mem_take_succ.mpr ⟨i, hi, h1⟩

theorem isJumpOp_erase (c : VCell) : (eraseV c).isJumpOp = isJumpOp c := by
  cases c <;> try rfl
  · rename_i tag
    simp only [eraseV]
    split <;> rfl
  · rename_i op
    cases op <;> rfl

/-- `prevIsJump` with a flag for position 0 -/
def prevFrom (prev : Bool) (l : List VCell) : Nat → Bool
  | 0 => prev
  | j+1 => match l[j]? with
    | some c => isJumpOp c
    | none => false

theorem prevFrom_false (l : List VCell) (i : Nat) : prevFrom false l i = prevIsJump l i := by
  cases i <;> rfl

theorem bcRefs_mem : ∀ (l : List VCell) (skip prev : Bool), (skip = true → prev = true) →
    ∀ i c, l[i]? = some c → prevFrom prev l i = false →
      ∀ x ∈ vrefs true (eraseV c), x ∈ bcRefs true skip (l.map eraseV) := by
  intro l
  induction l with
  | nil => intro _ _ _ i c h; simp at h
  | cons d ds ih =>
    intro skip prev hsp i c hc hpf x hx
    simp only [List.map_cons, bcRefs]
    cases i with
    | zero =>
      simp only [List.getElem?_cons_zero, Option.some.injEq] at hc
      subst hc
      simp only [prevFrom] at hpf
      have hs : skip = false := by
        cases skip with
        | false => rfl
        | true => have := hsp rfl; rw [hpf] at this; cases this
      subst hs
      simp only [Bool.false_eq_true, if_false]
      rw [isJumpOp_erase]
      split
      · rename_i hj
        -- a jump opcode has no references
        cases d <;> simp [isJumpOp] at hj
        rename_i op
        cases op <;> simp [eraseV, vrefs] at hx
      · exact List.mem_append.mpr (.inl hx)
    | succ i =>
      simp only [List.getElem?_cons_succ] at hc
      have hpf' : prevFrom (isJumpOp d) ds i = false := by
        cases i with
        | zero => simpa [prevFrom] using hpf
        | succ i => simpa [prevFrom] using hpf
      cases skip with
      | true =>
        simp only [if_true]
        exact ih false (isJumpOp d) (by intro h; cases h) i c hc hpf' x hx
      | false =>
        simp only [Bool.false_eq_true, if_false]
        rw [isJumpOp_erase]
        split
        · rename_i hj
          exact ih true (isJumpOp d) (fun _ => hj) i c hc hpf' x hx
        · rename_i hj
          refine List.mem_append.mpr (.inr ?_)
          exact ih false (isJumpOp d) (by intro h; cases h) i c hc hpf' x hx

theorem BcRel.restrict {φ : Inj} {D : Nat → Prop} {l l'} (h : BcRel φ l l')
    (hd : ∀ x ∈ bcRefs true false (l.map eraseV), ∀ b, φ x = some b → D x) : BcRel (restr φ D) l l' := by
  refine ⟨h.1, ?_⟩
  intro i c c' h1 h2
  obtain ⟨a, b⟩ := h.2 i c c' h1 h2
  refine ⟨a, fun hp => (b hp).restrict ?_⟩
  intro x hx
  exact hd x (bcRefs_mem l false false (by intro h; cases h) i c h1 (by rw [prevFrom_false]; exact hp) x hx)

theorem CellRel.restrict {φ : Inj} {D : Nat → Prop} {c c'} (h : CellRel φ c c')
    (hp : ∀ v, c = CCell.val v → plainVal v = true)
    (hd : ∀ x ∈ crefs true (eraseC c), ∀ b, φ x = some b → D x) : CellRel (restr φ D) c c' := by
  cases h with
  | val h1 => exact .val (h1.restrict_cell (hp _ rfl) hd)
  | lexEnv h1 => exact .lexEnv (VsRel.restrict h1 hd)
  | vector h1 => exact .vector (VsRel.restrict h1 hd)
  | lambda h1 h2 h3 =>
    simp only [eraseC, crefs, lambdaRefs, if_true] at hd
    refine .lambda (h1.restrict ?_) (VsRel.restrict h2 ?_) (EnvmapRel.restrict h3 ?_)
    · intro x hx; exact hd x (List.mem_append.mpr (.inl (List.mem_append.mpr (.inl hx))))
    · intro x hx; exact hd x (List.mem_append.mpr (.inl (List.mem_append.mpr (.inr hx))))
    · intro x hx; exact hd x (List.mem_append.mpr (.inr hx))
  | cont h1 =>
    simp only [eraseC, crefs, contRefs] at hd
    refine .cont ⟨?_, h1.full, h1.ep.restrict ?_, h1.ipL.restrict ?_, h1.ipO, h1.bp⟩
    · refine StackRelK.restrict h1.stack ?_
      intro x hx
      -- the marker scans the whole saved stack, of which `[0..sp]` is a prefix
      exact hd x (List.mem_append.mpr (.inl (vrefsList_take_sub _ _ hx)))
    · intro b hb; exact hd _ (by simp) b hb
    · intro b hb; exact hd _ (by simp) b hb

end Marwood.Lemmas.Sim
