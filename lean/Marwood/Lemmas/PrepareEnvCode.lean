import Marwood.Lemmas.PrepareDefs
import Marwood.Lemmas.CompileEnvmap2
/-!
# The environment clauses of a loaded code object are consequences of the compiler model (`LoadedQ ⊆ CodeOkH`)

`InstallsGarbage` states the environment clauses `LamEnvOk h cl` of every code object a REJECTED form leaves behind. For an
ACCEPTED form they are not part of `Installs`: they follow from the compiler-model theorems of Lemmas/CompileEnvmap*.lean
(`compileTop_envCode`: a code-object pointer occurs only as the immediate of `MOVIMM (lambda id) acc; CLOSURE`, other
immediates are quoted data / `Void` / argument counts; the top-level lambda captures nothing), from `LoadedLam` (the loaded
cells are `Enc`-loadings of the model's) and from `ImmLoaded` (what the loader guarantees of the cells the immediates point
to). Hence `LoadedQ.codeOkH`, and `Installs.garbage`: an accepted form's steps are garbage steps too.
-/
namespace Marwood.Lemmas.Good
open Marwood Marwood.Vm Marwood.Vm.Verify Marwood.Vm.Concrete Marwood.Lemmas.Sim
open Marwood.Heap (GcState)

theorem encList_back {code : List BC} {cells : List VCell} (h : EncList code cells) {i : Nat} {v : VCell}
    (hv : cells[i]? = some v) : ∃ b, code[i]? = some b ∧ Enc b v := by
  obtain ⟨hl, hs⟩ := encList_spec h
  have hi : i < code.length := by rw [← hl]; exact (List.getElem?_eq_some_iff.mp hv).1
  obtain ⟨v', hv', he⟩ := hs i code[i] (List.getElem?_eq_getElem hi)
  rw [hv] at hv'
  cases hv'
  exact ⟨_, List.getElem?_eq_getElem hi, he⟩

theorem encList_fwd {code : List BC} {cells : List VCell} (h : EncList code cells) {i : Nat} {b : BC}
    (hb : code[i]? = some b) : ∃ v, cells[i]? = some v ∧ Enc b v := (encList_spec h).2 i b hb

theorem enc_opcode {b : BC} {o : Op} (h : Enc b (.opcode o)) : b = .op o := by
  cases b <;> simp [Enc, dataCell] at h
  exact congrArg _ h.symm

theorem enc_op {o : Op} {v : VCell} (h : Enc (.op o) v) : v = .opcode o := h

theorem enc_acc {v : VCell} (h : Enc .acc v) : v = .acc := h

theorem loaded_op {code : List BC} {cells : List VCell} (h : EncList code cells) {i : Nat} {o : Op}
    (hv : cells[i]? = some (.opcode o)) : code[i]? = some (.op o) := by
  obtain ⟨b, hb, he⟩ := encList_back h hv
  rw [hb, enc_opcode he]

theorem siteB_parts {bc : List VCell} {j : Nat} (h : siteB bc j = true) :
    bc[j]? = some (.opcode .movImm) ∧ bc[j + 2]? = some .acc ∧ bc[j + 3]? = some (.opcode .closureAcc) := by
  unfold siteB at h
  simp only [Bool.and_eq_true, beq_iff_eq] at h
  exact ⟨h.1.1, h.1.2, h.2⟩

theorem capAt_of_empty {h : CHeap} {p : Nat} {lam : CLambda} (hl : lambdaAt h p = some lam) (he : lam.envmap = []) :
    capAt h p = false := by
  simp [capAt, hl, he]

theorem empty_of_capAt {h : CHeap} {p : Nat} {lam : CLambda} (hl : lambdaAt h p = some lam) (hc : capAt h p = false) :
    lam.envmap = [] := by
  unfold capAt at hc
  rw [hl] at hc
  simpa using hc

structure ModelEnv (tbl : List LambdaM) (m : LambdaM) : Prop where
  lam : ∀ (k id : Nat), m.bc[k]? = some (.lambda id) → ∃ j, k = j + 1 ∧ m.bc[j]? = some (.op .movImm) ∧
    ((m.bc[j + 2]? = some .acc ∧ m.bc[j + 3]? = some (.op .closureAcc)) ∨ ∀ m', tbl[id]? = some m' → m'.envmap = [])
  mov : ∀ (j : Nat), m.bc[j]? = some (.op .movImm) → ∃ x, m.bc[j + 1]? = some x ∧ immB x = true
  push : ∀ (j : Nat), m.bc[j]? = some (.op .pushImm) → ∃ x, m.bc[j + 1]? = some x ∧ pushB x = true

theorem ModelEnv.of_envCode {tbl : List LambdaM} {P : Nat → Prop} {m : LambdaM} (e : EnvCode P m.bc) : ModelEnv tbl m :=
  ⟨fun k id hk => by
      obtain ⟨_, j, a, b, c, d⟩ := e.lam k id hk
      exact ⟨j, a, b, .inl ⟨c, d⟩⟩,
    e.mov, e.push⟩

/-- the one code-object pointer of the entry lambda `PUSHIMM argc0; MOVIMM <lambda id> acc; CALL; HALT` -/
theorem entryCode_lambda {id k id' : Nat} (h : (entryCode id)[k]? = some (.lambda id')) : k = 3 ∧ id' = id := by
  rcases k with _ | _ | _ | _ | _ | _ | _ | k <;> cases h
  exact ⟨rfl, rfl⟩

theorem entryCode_movImm {id k : Nat} (h : (entryCode id)[k]? = some (.op .movImm)) : k = 2 := by
  rcases k with _ | _ | _ | _ | _ | _ | _ | k <;> cases h
  rfl

theorem entryCode_pushImm {id k : Nat} (h : (entryCode id)[k]? = some (.op .pushImm)) : k = 0 := by
  rcases k with _ | _ | _ | _ | _ | _ | _ | k <;> cases h
  rfl

theorem ModelEnv.entry {tbl : List LambdaM} {id : Nat} (h : ∀ m', tbl[id]? = some m' → m'.envmap = []) :
    ModelEnv tbl (entryLam id) := by
  refine ⟨fun k id' hk => ?_, fun j hj => ?_, fun j hj => ?_⟩
  · obtain ⟨rfl, rfl⟩ := entryCode_lambda hk
    exact ⟨2, rfl, rfl, .inr h⟩
  · cases entryCode_movImm hj
    exact ⟨.lambda id, rfl, rfl⟩
  · cases entryCode_pushImm hj
    exact ⟨.argc 0, rfl, rfl⟩

theorem immB_cases {x : BC} (h : immB x = true) : (∃ d, x = .datum d) ∨ x = .void ∨ ∃ id, x = .lambda id := by
  unfold immB at h
  split at h
  · exact .inl ⟨_, rfl⟩
  · exact .inr (.inl rfl)
  · exact .inr (.inr ⟨_, rfl⟩)
  · cases h

theorem pushB_cases {x : BC} (h : pushB x = true) : (∃ n, x = .argc n) ∨ ∃ d, x = .datum d := by
  unfold pushB at h
  split at h
  · exact .inl ⟨_, rfl⟩
  · exact .inr ⟨_, rfl⟩
  · cases h

section
variable {tbl : List LambdaM} {h : CHeap} {m : LambdaM} {cl : CLambda}

theorem imm_plain_ne (hi : ImmLoaded tbl h m cl) {j : Nat} {x : BC} {v : VCell} (hx : m.bc[j]? = some x)
    (hv : cl.bc[j]? = some v) (he : Enc x v) (hp : (∃ d, x = .datum d) ∨ x = .void ∨ ∃ n, x = .argc n) :
    neF (capAt h) v = true := by
  rcases hp with ⟨d, rfl⟩ | rfl | ⟨n, rfl⟩
  · exact hi.data j _ v hx rfl hv
  · have : v = .void := he
    subst this; rfl
  · have : v = .argc n := he
    subst this; rfl

theorem loaded_mov (me : ModelEnv tbl m) (hl : LoadedLam m cl) (hi : ImmLoaded tbl h m cl) {j : Nat} {v : VCell}
    (hop : cl.bc[j]? = some (.opcode .movImm)) (hv : cl.bc[j + 1]? = some v) :
    neF (capAt h) v = true ∨ ∃ id a, v = .ptr a ∧ m.bc[j + 1]? = some (.lambda id) := by
  obtain ⟨x, hx, hpx⟩ := me.mov j (loaded_op hl.bc hop)
  obtain ⟨v', hv', he⟩ := encList_fwd hl.bc hx
  rw [hv] at hv'; cases hv'
  rcases immB_cases hpx with ⟨d, rfl⟩ | rfl | ⟨id, rfl⟩
  · exact .inl (imm_plain_ne hi hx hv he (.inl ⟨d, rfl⟩))
  · exact .inl (imm_plain_ne hi hx hv he (.inr (.inl rfl)))
  · obtain ⟨a, rfl⟩ : ∃ a, v = .ptr a := he
    exact .inr ⟨id, a, rfl, hx⟩

theorem loaded_immTF (me : ModelEnv tbl m) (hl : LoadedLam m cl) (hi : ImmLoaded tbl h m cl) :
    immTF (capAt h) cl.bc = true := by
  unfold immTF
  rw [List.all_eq_true]
  intro j _
  split
  · -- PUSHIMM
    rename_i hop
    obtain ⟨x, hx, hpx⟩ := me.push j (loaded_op hl.bc hop)
    cases hv : cl.bc[j + 1]? with
    | none => rfl
    | some v =>
      obtain ⟨v', hv', he⟩ := encList_fwd hl.bc hx
      rw [hv] at hv'; cases hv'
      rcases pushB_cases hpx with ⟨n, rfl⟩ | ⟨d, rfl⟩
      · exact imm_plain_ne hi hx hv he (.inr (.inr ⟨n, rfl⟩))
      · exact imm_plain_ne hi hx hv he (.inl ⟨d, rfl⟩)
  · -- MOVIMM
    rename_i hop
    cases hv : cl.bc[j + 1]? with
    | none => rfl
    | some v =>
      simp only [Bool.or_eq_true]
      rcases loaded_mov me hl hi hop hv with hne | ⟨id, a, rfl, hx⟩
      · exact .inl hne
      · obtain ⟨j', e1, _, hsite⟩ := me.lam (j + 1) id hx
        have e2 : j' = j := by omega
        rw [e2] at hsite
        rcases hsite with ⟨s1, s2⟩ | hemp
        · right
          obtain ⟨w1, hw1, he1⟩ := encList_fwd hl.bc s1
          obtain ⟨w2, hw2, he2⟩ := encList_fwd hl.bc s2
          rw [enc_acc he1] at hw1
          rw [enc_op he2] at hw2
          unfold siteB
          rw [hop, hw1, hw2]
          rfl
        · left
          obtain ⟨m', cl', ht, hla, hll, _⟩ := hi.lam (j + 1) id a hx hv
          have hz : cl'.envmap = [] := by
            have := hll.envLen
            rw [hemp m' ht] at this
            exact List.length_eq_zero_iff.mp this
          show (!capAt h a) = true
          rw [capAt_of_empty hla hz]; rfl
  · rfl

theorem loaded_sitesFB (me : ModelEnv tbl m) (hl : LoadedLam m cl) (hi : ImmLoaded tbl h m cl) :
    sitesFB h cl = true := by
  unfold sitesFB
  rw [List.all_eq_true]
  intro j _
  rw [Bool.and_eq_true]
  constructor
  · by_cases hs : siteB cl.bc j = true
    · simp only [hs, Bool.not_true, Bool.false_or]
      obtain ⟨hop, _, _⟩ := siteB_parts hs
      cases hv : cl.bc[j + 1]? with
      | none => rfl
      | some v =>
        simp only
        unfold childFitB
        split
        · rename_i p
          split
          · rename_i lam' hlam'
            unfold iofEnvFitB
            rw [List.all_eq_true]
            intro y hy
            split
            · rename_i k hk
              rw [decide_eq_true_eq]
              rcases loaded_mov me hl hi hop hv with hne | ⟨id, a, e, hx⟩
              · -- not a pointer to a capturing lambda: the child's map is empty
                have hc : capAt h p = false := by simpa [neF] using hne
                rw [empty_of_capAt hlam' hc] at hy
                cases hy
              · -- the loading of `lambda id`: `ImmLoaded.lam` places its `IofEnvironment(k)` slots in this object's map
                cases e
                obtain ⟨m', cl', _, hla, _, hslot⟩ := hi.lam (j + 1) id p hx hv
                rw [hlam'] at hla; cases hla
                obtain ⟨z, hz, _⟩ := hslot y hy k hk
                exact (List.getElem?_eq_some_iff.mp hz).1
            · rfl
          · rfl
        · rfl
    · have : siteB cl.bc j = false := by simpa using hs
      simp [this]
  · split
    · rename_i v hop hv
      obtain ⟨x, hx, hpx⟩ := me.push j (loaded_op hl.bc hop)
      obtain ⟨v', hv', he⟩ := encList_fwd hl.bc hx
      rw [hv] at hv'; cases hv'
      rcases pushB_cases hpx with ⟨n, rfl⟩ | ⟨d, rfl⟩
      · have : v = .argc n := he
        subst this; rfl
      · have hd : dataCell v = true := he
        cases v <;> first | rfl | simp [dataCell] at hd
    · rfl

/-- **the environment clauses of a loaded code object** -/
theorem loaded_envOk (me : ModelEnv tbl m) (hl : LoadedLam m cl) (hi : ImmLoaded tbl h m cl) : LamEnvOk h cl :=
  ⟨loaded_immTF me hl hi, loaded_sitesFB me hl hi⟩

end

/-- for the table `st.lambdas ++ [lam]` the `lambda id` cells index: the entry lambda's `id` is the top-level lambda `lam`,
    which is LAST -/
theorem compiled_modelEnv {e : Datum} {fuel : Nat} {st : CState} {lam ent m : LambdaM}
    (hc : compileRunnable e fuel = .ok (st, lam, ent)) (hm : m = lam ∨ m ∈ st.lambdas ∨ m = ent) :
    ModelEnv (st.lambdas ++ [lam]) m := by
  obtain ⟨ht, rfl⟩ := compileRunnable_ok hc
  obtain ⟨htbl, hlam, hemp, _⟩ := compileTop_envCode ht
  rcases hm with rfl | hm | rfl
  · exact .of_envCode hlam
  · exact .of_envCode (htbl m hm)
  · refine .entry ?_
    intro m' hm'
    rw [List.getElem?_append_right (Nat.le_refl _), Nat.sub_self] at hm'
    cases hm'
    exact hemp

/-- **a code object `prepare_eval` installs for an accepted form satisfies every clause the invariants state of a
    lambda cell**, the environment clauses included — from the compiler-model theorems -/
theorem LoadedQ.codeOkH {e : Datum} {fuel : Nat} {h : CHeap} {cl : CLambda} (q : LoadedQ e fuel h cl) : CodeOkH h cl := by
  obtain ⟨st, lam, ent, m, hc, hm, hl, hi⟩ := q.comp
  exact ⟨q.codeOk, loaded_envOk (compiled_modelEnv hc hm) hl hi⟩

/-- the loader steps of an accepted form are garbage steps -/
theorem Installs.garbage {e : Datum} {fuel : Nat} {s s' : St CHeap} {entry : Nat} (i : Installs e fuel s s' entry) :
    InstallsGarbage s s' :=
  ⟨i.regs, i.steps.mono (fun _ _ q => q.codeOkH)⟩

/-- the entry cell of `Installs` captures nothing -/
theorem Installs.entry_empty {e : Datum} {fuel : Nat} {s s' : St CHeap} {entry : Nat} (i : Installs e fuel s s' entry)
    {cl : CLambda} (hl : lambdaAt s'.heap entry = some cl) : cl.envmap = [] := by
  obtain ⟨st, lam, ent, cl', hc, hcell, hll⟩ := i.entryLam
  rw [lambdaAt_iff.mpr hcell] at hl
  cases hl
  have := hll.envLen
  rw [(compileRunnable_ok hc).2] at this
  exact List.length_eq_zero_iff.mp this

end Marwood.Lemmas.Good
