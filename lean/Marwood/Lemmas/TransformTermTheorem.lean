import Marwood.Lemmas.TransformEllAcceptTmpl
import Marwood.Lemmas.TransformFuel
/-!
# T17.2: `expand` and `transform` terminate for every transformer `Transform::try_new` accepts

A rule of an accepted transformer is as `expand_run` asks (`ruleOK_tP`, `ruleOK_build`); so with `n`
bindings, whatever they are, and fuel `expandFuel T n = 2·(n+1)·|T|`, `expand` answers. `transform` adds
the matcher (`3·|use|+1`, at most `|use|` bindings).
-/
namespace Marwood.Transform
open Marwood Marwood.Transform.Term

def expandFuel (T : Datum) (n : Nat) : Nat := 2 * (n + 1) * dsize T

theorem expandFuel_mono (T : Datum) {n m : Nat} (h : n ≤ m) : expandFuel T n ≤ expandFuel T m := by
  unfold expandFuel
  exact Nat.mul_le_mul_right _ (by omega)

theorem expand_ruleOK (s : Setup) {f0 : Nat} {r : Pattern × Datum} (hok : RuleOK f0 s.ell s.lits r)
    (B : Bindings) (fuel : Nat) (hf : expandFuel r.2 B.length ≤ fuel) :
    ∃ o env', expand s.ell r.1 fuel r.2 (PEnv.new r.1 B) = .ok (o, env') := by
  obtain ⟨kw, body, hpe, _, _, hexp, hsub⟩ := ruleOK_build s hok
  obtain ⟨env', hrun, _⟩ := (expand_run s r.1 _ B hexp
    (fun x hx => hsub _ (by rw [hexp]; simpa using hx)) _ rfl fuel).1 r.2 (ruleOK_tP s hok hpe)
    (by unfold expandFuel at hf; omega)
  exact ⟨_, env', hrun⟩

/-- **`expand` terminates on every rule of every accepted transformer** -/
theorem expand_terminates_accepted (f0 : Nat) (d : Datum) (t : Transform)
    (hdef : Transform.tryNew f0 d = .ok t) (r : Pattern × Datum) (hr : r ∈ t.rules)
    (hsub : ∀ c, r.1.isExpandedVariable c = true → r.1.isVariable c = true)
    (B : Bindings) (fuel : Nat) (hf : expandFuel r.2 B.length ≤ fuel) :
    expand t.ellipsis r.1 fuel r.2 (PEnv.new r.1 B) ≠ .fuel := by
  have _ := hsub -- not needed: `ruleOK_build` has it for every rule of an accepted transformer
  obtain ⟨s, hte, _, hrules⟩ := Transform.tryNew_ok hdef
  obtain ⟨o, env', hrun⟩ := expand_ruleOK s (hrules r hr) B fuel hf
  rw [hte, hrun]
  nofun

/-- the possible answers spelt out: a result or a panic (the slice in `get_expanded_binding`), never
    fuel exhaustion, never an error; by `expand_ruleOK` it is a result -/
theorem expand_terminates_accepted' (f0 : Nat) (d : Datum) (t : Transform)
    (hdef : Transform.tryNew f0 d = .ok t) (r : Pattern × Datum) (hr : r ∈ t.rules)
    (hsub : ∀ c, r.1.isExpandedVariable c = true → r.1.isVariable c = true)
    (B : Bindings) (fuel : Nat) (hf : expandFuel r.2 B.length ≤ fuel) :
    (∃ o, expand t.ellipsis r.1 fuel r.2 (PEnv.new r.1 B) = .ok o) ∨
    (∃ site, expand t.ellipsis r.1 fuel r.2 (PEnv.new r.1 B) = .panic site) := by
  have _ := hsub
  obtain ⟨s, hte, _, hrules⟩ := Transform.tryNew_ok hdef
  obtain ⟨o, env', hrun⟩ := expand_ruleOK s (hrules r hr) B fuel hf
  exact .inl ⟨_, by rw [hte]; exact hrun⟩

theorem Term.cdrE_dsize {x y : Datum} (h : cdrE x = .ok y) : dsize y ≤ dsize x := by
  cases x <;> simp [cdrE] at h
  subst h; simp only [dsize]; omega

theorem Term.transformRules_terminates (s : Setup) (f0 : Nat) (t : Transform) (hte : t.ellipsis = s.ell)
    (fuel : Nat) (u : Datum) (hf1 : 3 * dsize u + 1 ≤ fuel) : ∀ (rules : List (Pattern × Datum)),
    (∀ r ∈ rules, RuleOK f0 s.ell s.lits r ∧ expandFuel r.2 (dsize u) ≤ fuel) →
    transformRules fuel t u rules ≠ .fuel := by
  intro rules
  induction rules with
  | nil => intro _; simp [transformRules]
  | cons r rules ih =>
    intro hall
    obtain ⟨pat, template⟩ := r
    obtain ⟨hok, hfr⟩ := hall (pat, template) (by simp)
    have ih' := ih (fun r hr => hall r (List.mem_cons_of_mem _ hr))
    unfold transformRules
    cases hp : cdrE pat.expr with
    | ok pcdr =>
      simp only
      cases hu : cdrE u with
      | ok ecdr =>
        simp only
        have hsz : dsize ecdr ≤ dsize u := cdrE_dsize hu
        obtain ⟨b, B, hres, hB⟩ := patternMatch_total t.ellipsis t.literals pcdr ecdr [] fuel (by omega)
        rw [hres]
        cases b with
        | false => exact ih'
        | true =>
          simp only
          have hB : B.length ≤ dsize ecdr := by simpa using hB
          obtain ⟨o, env', hrun⟩ := expand_ruleOK s hok B fuel
            (Nat.le_trans (expandFuel_mono template (Nat.le_trans hB hsz)) hfr)
          rw [hte, hrun]
          cases o <;> simp
      | err e => simp
      | panic m => simp
      | fuel => simp [cdrE] at hu; cases u <;> simp at hu
    | err e => simp
    | panic m => simp
    | fuel => cases hpe : pat.expr <;> simp [cdrE, hpe] at hp

/-- **`transform` terminates for every accepted transformer and every use** -/
theorem transform_terminates_accepted (f0 : Nat) (d : Datum) (t : Transform)
    (hdef : Transform.tryNew f0 d = .ok t)
    (hsub : ∀ r ∈ t.rules, ∀ c, r.1.isExpandedVariable c = true → r.1.isVariable c = true)
    (u : Datum) (fuel : Nat) (hf1 : 3 * dsize u + 1 ≤ fuel)
    (hf2 : ∀ r ∈ t.rules, expandFuel r.2 (dsize u) ≤ fuel) :
    t.transform fuel u ≠ .fuel := by
  have _ := hsub
  obtain ⟨s, hte, _, hrules⟩ := Transform.tryNew_ok hdef
  unfold Transform.transform
  split
  · simp
  · exact transformRules_terminates s f0 t hte fuel u hf1 t.rules (fun r hr => ⟨hrules r hr, hf2 r hr⟩)

theorem Term.mem_iterList_dsize {it d : Datum} (h : it ∈ iterList d) : dsize it ≤ dsize d := by
  have hw : ∀ (l : List Datum), it ∈ l → dsize it ≤ wsum l := by
    intro l
    induction l with
    | nil => intro h; cases h
    | cons x xs ih =>
      intro h
      simp only [List.mem_cons] at h
      simp only [wsum]
      rcases h with rfl | h
      · omega
      · have := ih h; omega
  exact Nat.le_trans (hw _ h) (wsum_iterList_le d)

theorem Term.carE_dsize {x y : Datum} (h : carE x = .ok y) : dsize y ≤ dsize x := by
  cases x <;> simp [carE] at h
  subst h; simp only [dsize]; omega

theorem Term.tryNew_template_dsize {f : Nat} {d : Datum} {t : Transform} (h : Transform.tryNew f d = .ok t) :
    ∀ r ∈ t.rules, dsize r.2 ≤ dsize d := by
  obtain ⟨s, _, _, x, keyword, sr, sr1, sr2, sr3, hiter, hsr1, hsr2, hsr3, hrules⟩ := Transform.tryNew_inv h
  have hsr : dsize sr ≤ dsize d := mem_iterList_dsize (by rw [hiter]; simp)
  have h1 := cdrE_dsize hsr1
  have h2 : dsize sr2 ≤ dsize sr1 := by
    rcases hsr2 with rfl | hc
    · exact Nat.le_refl _
    · exact cdrE_dsize hc
  have h3 := cdrE_dsize hsr3
  intro r hr
  obtain ⟨_, it, hit, hcadr⟩ := (rulesLoop_ok f _ _ _ [] _ hrules r hr).resolve_left List.not_mem_nil
  have := mem_iterList_dsize hit
  cases hcd : cdrE it with
  | ok c =>
    rw [hcd] at hcadr
    have h4 := cdrE_dsize hcd
    have h5 := carE_dsize (x := c) hcadr
    omega
  | _ => rw [hcd] at hcadr; cases hcadr

/-- **the test driver's fuel is enough** (`useFuel`, `Driver/Transform.lean`) -/
theorem transform_useFuel_terminates (f0 : Nat) (d : Datum) (t : Transform)
    (hdef : Transform.tryNew f0 d = .ok t)
    (hsub : ∀ r ∈ t.rules, ∀ c, r.1.isExpandedVariable c = true → r.1.isVariable c = true)
    (u : Datum) : t.transform (useFuel d u) u ≠ .fuel := by
  have hmul : useFuel d u = 2 * (dsize u + 2) * dsize d + 2 * (dsize u + 2) * 2 := by
    unfold useFuel
    rw [Nat.mul_assoc, Nat.mul_comm (dsize d + 2), ← Nat.mul_assoc, Nat.mul_add]
  refine transform_terminates_accepted f0 d t hdef hsub u _ ?_ ?_
  · have : 2 * (dsize u + 2) * 2 = 4 * dsize u + 8 := by omega
    omega
  · intro r hr
    have hsz := tryNew_template_dsize hdef r hr
    unfold expandFuel
    have h1 : 2 * (dsize u + 1) * dsize r.2 ≤ 2 * (dsize u + 2) * dsize d :=
      Nat.mul_le_mul (by omega) hsz
    omega

namespace Term

/-! ## The hypotheses are satisfiable: an accepted definition with an ellipsis template -/

/-- `(define-syntax m (syntax-rules () ((_ (a b) ...) ((b a) ...))))` -/
def swapDef : Datum :=
  Datum.ofList [.sym ['d'], .sym ['m'], Datum.ofList [syntaxRulesSym, .nil,
    Datum.ofList [Datum.ofList [.sym ['_'], Datum.ofList [.sym ['a'], .sym ['b']], defaultEllipsis],
                  Datum.ofList [Datum.ofList [.sym ['b'], .sym ['a']], defaultEllipsis]]]]

/-- `((b a) ...)` -/
def swapTemplate : Datum := Datum.ofList [Datum.ofList [.sym ['b'], .sym ['a']], defaultEllipsis]

def swapPat : Pattern :=
  { expr := Datum.ofList [.sym ['_'], Datum.ofList [.sym ['a'], .sym ['b']], defaultEllipsis],
    variables := [.sym ['a'], .sym ['b']], expanded := [.sym ['a'], .sym ['b']],
    ellipsis := defaultEllipsis, literals := [] }

def swapT : Transform :=
  { keyword := .sym ['m'], ellipsis := defaultEllipsis, rules := [(swapPat, swapTemplate)], literals := [] }

/-- `(m (1 2) (3 4))` -/
def swapUse : Datum :=
  Datum.ofList [.sym ['m'], Datum.ofList [.num (.fix 1), .num (.fix 2)],
    Datum.ofList [.num (.fix 3), .num (.fix 4)]]

theorem swapDef_accepted : Transform.tryNew (defFuel swapDef) swapDef = .ok swapT := by decide

theorem swapT_hsub : ∀ r ∈ swapT.rules, ∀ c, r.1.isExpandedVariable c = true → r.1.isVariable c = true := by
  intro r hr c h
  simp only [swapT, List.mem_singleton] at hr
  subst hr
  exact h

/-- the accepted shape, computed: the group `(b a) ...` is group-free inside and mentions `b` -/
example : okT swapPat defaultEllipsis swapTemplate = true := by decide

example (B : Bindings) (fuel : Nat) (hf : expandFuel swapTemplate B.length ≤ fuel) :
    expand swapT.ellipsis swapPat fuel swapTemplate (PEnv.new swapPat B) ≠ .fuel :=
  expand_terminates_accepted _ _ _ swapDef_accepted (swapPat, swapTemplate) (by simp [swapT])
    (swapT_hsub _ (by simp [swapT])) B fuel hf

/-- the run it speaks about is a real expansion through the ellipsis: `((2 1) (4 3))` -/
example (fuel : Nat) (hf : 288 ≤ fuel) : swapT.transform fuel swapUse ≠ .fuel := by
  have hu : dsize swapUse = 15 := by decide
  refine transform_terminates_accepted _ _ _ swapDef_accepted swapT_hsub swapUse fuel (by omega) ?_
  intro r hr
  simp only [swapT, List.mem_singleton] at hr
  subst hr
  have : expandFuel swapTemplate (dsize swapUse) = 288 := by decide
  show expandFuel swapTemplate (dsize swapUse) ≤ fuel
  omega

example : swapT.transform 288 swapUse
    = .ok (Datum.ofList [Datum.ofList [.num (.fix 2), .num (.fix 1)],
                         Datum.ofList [.num (.fix 4), .num (.fix 3)]]) := by decide

end Term

end Marwood.Transform
