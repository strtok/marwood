import Marwood.Lemmas.EvalDerivedExpand
import Marwood.Gen.PreludeProcs
/-!
# T01.2 for `delay` / `delay-force` / `force`: shapes, the prelude's promise library, the representation

`Spec.Eval` has NATIVE promises: `(delay e)` allocates one cell `Cell.promise false thunk`; the primitive
`force` runs the thunk once and overwrites the cell with `Cell.promise true v`. The prelude has no
promise objects: `(delay e)` expands (two rules) to `(make-promise #f (lambda () (make-promise #t e)))`,
and `make-promise`, `force`, `promise-done?`, `promise-value`, `promise-update!` are LIBRARY PROCEDURES
of `prelude.scm` that represent a promise as the list `((done? . value-or-thunk))`: a ROOT pair whose
car is a BOX pair and whose cdr is `()`.
-/
namespace Marwood.Spec.Eval.Derived
open Marwood Marwood.Spec.Eval Marwood.Spec.Eval.Prelude

def k_force : Text := ['f', 'o', 'r', 'c', 'e']
def k_promiseDone : Text := ['p', 'r', 'o', 'm', 'i', 's', 'e', '-', 'd', 'o', 'n', 'e', '?']
def k_promiseValue : Text := ['p', 'r', 'o', 'm', 'i', 's', 'e', '-', 'v', 'a', 'l', 'u', 'e']
def k_promiseUpdate : Text := ['p', 'r', 'o', 'm', 'i', 's', 'e', '-', 'u', 'p', 'd', 'a', 't', 'e', '!']
def k_promise : Text := ['p', 'r', 'o', 'm', 'i', 's', 'e']
def k_promiseStar : Text := ['p', 'r', 'o', 'm', 'i', 's', 'e', '*']
def k_doneP : Text := ['d', 'o', 'n', 'e', '?']
def k_proc : Text := ['p', 'r', 'o', 'c']
def k_x : Text := ['x']
def k_new : Text := ['n', 'e', 'w']
def k_old : Text := ['o', 'l', 'd']
def k_car : Text := ['c', 'a', 'r']
def k_cdr : Text := ['c', 'd', 'r']
def k_cons : Text := ['c', 'o', 'n', 's']
def k_list : Text := ['l', 'i', 's', 't']
def k_setCar : Text := ['s', 'e', 't', '-', 'c', 'a', 'r', '!']
def k_setCdr : Text := ['s', 'e', 't', '-', 'c', 'd', 'r', '!']

def forceUse (d : Datum) : Datum := L [s k_force, d]

def mkDone (e : Datum) : Datum := L [s k_makePromise, .bool true, e]

/-- `(delay e)` after the rule of `delay` and then that of `delay-force` -/
def delayFull (e : Datum) : Datum := delayForceExp (mkDone e)

/-- T01.2 first half for `delay` -/
theorem expand_delay_full (e : Datum) :
    ∃ mid, expand k_delay (delayUse e) = some mid ∧ expand k_delayForce mid = some (delayFull e) :=
  ⟨delayExp e, expand_delay e, expand_delayForce (mkDone e)⟩

def bodyMakePromise : Datum := L [s k_list, L [s k_cons, s k_doneP, s k_proc]]
def bodyDone : Datum := L [s k_car, L [s k_car, s k_x]]
def bodyValue : Datum := L [s k_cdr, L [s k_car, s k_x]]
def bodyUpdate : List Datum :=
  [L [s k_setCar, L [s k_car, s k_old], L [s k_promiseDone, s k_new]],
   L [s k_setCdr, L [s k_car, s k_old], L [s k_promiseValue, s k_new]],
   L [s k_setCar, s k_new, L [s k_car, s k_old]]]
/-- `(let ((promise* ((promise-value promise)))) (unless (promise-done? promise) (promise-update! promise* promise)) (force promise))` -/
def forceLet : Datum :=
  L [s k_let_, L [L [s k_promiseStar, L [L [s k_promiseValue, s k_promise]]]],
     L [s k_unless_, L [s k_promiseDone, s k_promise], L [s k_promiseUpdate, s k_promiseStar, s k_promise]],
     L [s k_force, s k_promise]]
def bodyForce : Datum :=
  L [s k_if_, L [s k_promiseDone, s k_promise], L [s k_promiseValue, s k_promise], forceLet]

def cMakePromise : Val := .closure [k_doneP, k_proc] none [bodyMakePromise] []
def cForce : Val := .closure [k_promise] none [bodyForce] []
def cDone : Val := .closure [k_x] none [bodyDone] []
def cValue : Val := .closure [k_x] none [bodyValue] []
def cUpdate : Val := .closure [k_new, k_old] none bodyUpdate []

/-- The regenerated definitions evaluate to these closures. They are picked by POSITION (`proc14 … proc18`;
    `Gen.PreludeProcs.procs` is keyed by name): a `define` inserted earlier in `prelude.scm` breaks these
    `rfl`s just as a change to one of the five does. -/
theorem load_makePromise (n : Nat) (st : St) :
    evalTop (evalN (n+2)) Gen.PreludeProcs.proc14 st =
      .ok .void { st with globals := insertG k_makePromise cMakePromise st.globals } := rfl
theorem load_force (n : Nat) (st : St) :
    evalTop (evalN (n+2)) Gen.PreludeProcs.proc15 st =
      .ok .void { st with globals := insertG k_force cForce st.globals } := rfl
theorem load_done (n : Nat) (st : St) :
    evalTop (evalN (n+2)) Gen.PreludeProcs.proc16 st =
      .ok .void { st with globals := insertG k_promiseDone cDone st.globals } := rfl
theorem load_value (n : Nat) (st : St) :
    evalTop (evalN (n+2)) Gen.PreludeProcs.proc17 st =
      .ok .void { st with globals := insertG k_promiseValue cValue st.globals } := rfl
theorem load_update (n : Nat) (st : St) :
    evalTop (evalN (n+2)) Gen.PreludeProcs.proc18 st =
      .ok .void { st with globals := insertG k_promiseUpdate cUpdate st.globals } := rfl

/-- What the library needs of the globals. Modelling decision: `list` is the PRIMITIVE of `Spec.Eval`; on
    the real system it is the prelude's closure `(define (list . l) l)` (`proc5`), which allocates the
    rest list and a variable cell where `prim_list1` has one cell: the offsets of `EvalPromiseX.lean`
    are those of the primitive only. -/
structure LibOK (g : List (Text × Val)) : Prop where
  makePromise : g.lookup k_makePromise = some cMakePromise
  done : g.lookup k_promiseDone = some cDone
  value : g.lookup k_promiseValue = some cValue
  update : g.lookup k_promiseUpdate = some cUpdate
  car : g.lookup k_car = some (.prim .car)
  cdr : g.lookup k_cdr = some (.prim .cdr)
  cons : g.lookup k_cons = some (.prim .cons)
  list : g.lookup k_list = some (.prim .list)
  setCar : g.lookup k_setCar = some (.prim .setCar)
  setCdr : g.lookup k_setCdr = some (.prim .setCdr)

/-- the expansion's side: `force` is the prelude's procedure -/
def withForce (st : St) : St := { st with globals := insertG k_force cForce st.globals }

/-- the prelude's structure for a promise, rooted at the pair `p` of store `σ'`:
    `p ↦ (box . ())`, `box ↦ (done . payload)` -/
def PromStruct (σ' : Array Cell) (p : Loc) (done : Bool) (payload : Val) : Prop :=
  ∃ b, σ'[p]? = some (.pair (.pair b) .nil) ∧ σ'[b]? = some (.pair (.bool done) payload)

/-- thunks of an unforced promise correspond by code: native `(lambda () e)` against the prelude's
    `(lambda () (make-promise #t e))`, same environment; `done` is never constructed (see `PromRep`) -/
inductive PayloadRel (R : Val → Val → Prop) : Bool → Val → Val → Prop
  | done {v v' : Val} : R v v' → PayloadRel R true v v'
  | thunk (e : Datum) (ρ : Env) : PayloadRel R false (.closure [] none [e] ρ) (.closure [] none [mkDone e] ρ)

/-- the native promise cell `l` of `σ` against the prelude's structure rooted at `p` in `σ'`. Used once,
    for the UNFORCED promise (C01 `t01_2_delay_unforced`, at `R := fun _ _ => False`); the forced state
    is spelled out in `SpanAgree` instead. -/
def PromRep (R : Val → Val → Prop) (σ σ' : Array Cell) (l p : Loc) : Prop :=
  ∃ done v v', σ[l]? = some (.promise done v) ∧ PromStruct σ' p done v' ∧ PayloadRel R done v v'

end Marwood.Spec.Eval.Derived
