import Marwood.Lemmas.EvalDerivedRec
/-!
# T01.2, second half: `cond`, `case` (the rules without a binder), and what the binder rules compute

`cond` rules 1, 6, 7 (`else`, `(t r1 r2 …)`) and `case` rule 2 (`else =>`) are equivalences (`Same`);
`(cond (t))` and `(case k (else r1 …))` are not (`cond_test_final_eval`, `case_else_native_eval`).
The rules that expand to `(let ((x t)) (if x A B))` — `or` with two or more operands (`var1`), `cond`
with a `=>` or test-only clause (`temp`) — allocate a variable the native meaning does not have and
evaluate `A`, `B` under the extra binding: `section tower` computes what such an expansion does, next
to the native meaning (`or_native_eval`, `cond_test_native_eval`); the two differ by that cell and
binding already when the first test is true (`or_exp_truthy`). That the difference cannot be observed
is extra-cell invariance (`EvalExtraMain.lean`; for runs that do not drive a store-size-fuelled helper
into its bound: externalising cyclic data depends on the store size); `EvalDerived2.lean` applies it.
-/
namespace Marwood.Spec.Eval.Derived
open Marwood Marwood.Spec.Eval Marwood.Spec.Eval.Prelude

variable (r : Rec) (ρ : Env)

theorem native_cond (c : Datum) (cs : List Datum) : evalStep r (condUse (c :: cs)) ρ = evalCond r ρ (c :: cs) := by
  have hl : properList (Datum.pair c (Datum.ofList cs)) = some (c :: cs) := properList_ofList (c :: cs)
  simp only [condUse, L, s, Datum.ofList, evalStep, kwOf_cond, evalKw, hl]

theorem evalCond_else (r1 : Datum) (rs : List Datum) :
    evalCond r ρ [L (s k_else_ :: r1 :: rs)] = evalExprs r ρ (r1 :: rs) := by
  have hl : properList (L (Datum.sym k_else_ :: r1 :: rs)) = some (Datum.sym k_else_ :: r1 :: rs) :=
    properList_ofList _
  simp [evalCond, hl, s]

theorem evalCond_body (t r1 : Datum) (rs cs : List Datum) (ht : t ≠ s k_else_)
    (hr : ¬ (r1 = s k_arrow ∧ rs.length = 1)) :
    evalCond r ρ (L (t :: r1 :: rs) :: cs) = (do
      let v ← r.eval t ρ
      if truthy v then evalExprs r ρ (r1 :: rs) else evalCond r ρ cs) := by
  have hl : properList (L (t :: r1 :: rs)) = some (t :: r1 :: rs) := properList_ofList _
  have ht' : (t == Datum.sym k_else_) = false := by simpa [s] using ht
  simp only [evalCond, hl, ht']
  congr 1; funext v
  match rs, hr with
  | [], _ => rfl
  | [f], hr =>
    have : (r1 == Datum.sym k_arrow) = false := by
      simpa [s] using hr
    simp [this]
  | _ :: _ :: _, _ => rfl

theorem evalCond_test (t : Datum) (cs : List Datum) (ht : t ≠ s k_else_) :
    evalCond r ρ (L [t] :: cs) = (do
      let v ← r.eval t ρ
      if truthy v then pure v else evalCond r ρ cs) := by
  have hl : properList (L [t]) = some [t] := properList_ofList _
  have ht' : (t == Datum.sym k_else_) = false := by simpa [s] using ht
  simp only [evalCond, hl, ht']
  rfl

theorem cond_else_same (r1 : Datum) (rs : List Datum) :
    Same 1 (condUse [L (s k_else_ :: r1 :: rs)]) (condElseExp r1 rs) ρ := by
  intro n
  cases n with
  | zero => exact ⟨Le.timeout _, Le.timeout _⟩
  | succ n =>
    have e : evalStep (evalN n) (condUse [L (s k_else_ :: r1 :: rs)]) ρ = evalStep (evalN n) (condElseExp r1 rs) ρ := by
      rw [native_cond, evalCond_else, condElseExp, native_begin]
    exact ⟨(Le.of_eq (by rw [evalN_succ_eval, evalN_succ_eval, e])).trans (eval_le_add (n+1) 1 _ ρ),
           (Le.of_eq (by rw [evalN_succ_eval, evalN_succ_eval, e])).trans (eval_le_add (n+1) 1 _ ρ)⟩

theorem native_condBodyExp (t r1 : Datum) (rs cs : List Datum) :
    evalStep r (condBodyExp t r1 rs cs) ρ = (do
      let v ← r.eval t ρ
      if truthy v then r.eval (L (s k_begin_ :: r1 :: rs)) ρ
      else (match cs with | [] => pure .void | c :: cs' => r.eval (condUse (c :: cs')) ρ)) := by
  cases cs with
  | nil => exact native_if2 r ρ _ _
  | cons c cs' => exact native_if3 r ρ _ _ _

theorem cond_body_same (t r1 : Datum) (rs cs : List Datum) (ht : t ≠ s k_else_)
    (hr : ¬ (r1 = s k_arrow ∧ rs.length = 1)) :
    Same 1 (condUse (L (t :: r1 :: rs) :: cs)) (condBodyExp t r1 rs cs) ρ := by
  intro n
  cases n with
  | zero => exact ⟨Le.timeout _, Le.timeout _⟩
  | succ n =>
    constructor
    · rw [evalN_succ_eval, evalN_succ_eval, native_cond, evalCond_body _ _ t r1 rs cs ht hr, native_condBodyExp]
      refine Le.bind ((recLe_evalN_succ n).eval t ρ) (fun v => ?_)
      split
      · rw [evalN_succ_eval, native_begin]; exact Le.refl _
      · cases cs with
        | nil => exact Le.refl _
        | cons c cs' =>
          show Le _ ((evalN (n+1)).eval (condUse (c :: cs')) ρ)
          rw [evalN_succ_eval, native_cond]; exact Le.refl _
    · refine Le.trans ?_ (eval_le_add (n+1) 1 _ ρ)
      rw [evalN_succ_eval, evalN_succ_eval, native_cond, evalCond_body _ _ t r1 rs cs ht hr, native_condBodyExp]
      refine Le.bind (Le.refl _) (fun v => ?_)
      split
      · have := eval_le_step n (L (s k_begin_ :: r1 :: rs)) ρ
        rwa [native_begin] at this
      · cases cs with
        | nil => exact Le.refl _
        | cons c cs' =>
          show Le ((evalN n).eval (condUse (c :: cs')) ρ) _
          have := eval_le_step n (condUse (c :: cs')) ρ
          rwa [native_cond] at this

/-- **cond**, rule 4, `(cond (t))` against its expansion `t`: they differ exactly when `t` yields `#f`
    (natively `#<void>`, the expansion `#f`; R7RS leaves the value unspecified there). -/
theorem cond_test_final_eval (t : Datum) (ht : t ≠ s k_else_) (n : Nat) :
    (evalN (n+1)).eval (condUse [L [t]]) ρ = (do
      let v ← (evalN n).eval t ρ
      if truthy v then pure v else pure .void) ∧
    condTestExp t [] = t := by
  refine ⟨?_, rfl⟩
  rw [evalN_succ_eval, native_cond, evalCond_test _ _ t [] ht]
  rfl

theorem alloc_read {β : Type} (v : Val) (K : Loc → Val → M β) :
    (allocCell (.var v) >>= fun l => readVar l >>= K l) = (allocCell (.var v) >>= fun l => K l v) := by
  funext st
  show M.bind' (allocCell (.var v)) (fun l => M.bind' (readVar l) (K l)) st = M.bind' (allocCell (.var v)) (fun l => K l v) st
  unfold M.bind' allocCell
  have : readVar st.store.size { st with store := st.store.push (.var v) } =
      .ok v { st with store := st.store.push (.var v) } := by
    show M.bind' (readCell _) _ _ = _
    simp [M.bind', readCell, Pure.pure, M.pure']
  simp only [this]

theorem isDefine_if (rest : List Datum) : isDefine (L (s k_if_ :: rest)) = false := by
  have : (k_if_ == k_define) = false := by decide
  simp [L, s, Datum.ofList, isDefine, this]

theorem evalVar_binder (x : Text) (hx : reserved x = false) (l : Loc) : evalVar x ((x, l) :: ρ) = readVar l := by
  simp [evalVar, hx, List.lookup]

/-! All that is used of the evaluator `T (n+1)` is that it evaluates by one step over `T n`: instantiated at
`evalN` below and at `sguardN 1` for the converse (`EvalConverseDerived.lean`). -/
section tower
variable {T : Nat → Rec} (hT : ∀ n, (T (n+1)).eval = evalStep (T n))
include hT

theorem letIf_eval (n : Nat) (x : Text) (t A B : Datum) (hx : reserved x = false) :
    (T (n+3)).eval (L [s k_let_, L [L [s x, t]], L [s k_if_, s x, A, B]]) ρ = (do
      let v ← (T (n+2)).eval t ρ
      let l ← allocCell (.var v)
      if truthy v then (T (n+1)).eval A ((x, l) :: ρ) else (T (n+1)).eval B ((x, l) :: ρ)) := by
  rw [hT, let1_eval _ _ x t _ hx (isDefine_if _)]
  congr 1; funext v
  simp only [hT (n + 1), native_if3, hT n, native_sym, evalVar_binder _ x hx]
  exact alloc_read v _

theorem letIf2_eval (n : Nat) (x : Text) (t A : Datum) (hx : reserved x = false) :
    (T (n+3)).eval (L [s k_let_, L [L [s x, t]], L [s k_if_, s x, A]]) ρ = (do
      let v ← (T (n+2)).eval t ρ
      let l ← allocCell (.var v)
      if truthy v then (T (n+1)).eval A ((x, l) :: ρ) else pure .void) := by
  rw [hT, let1_eval _ _ x t _ hx (isDefine_if _)]
  congr 1; funext v
  simp only [hT (n + 1), native_if2, hT n, native_sym, evalVar_binder _ x hx]
  exact alloc_read v _

theorem eval_binder (n : Nat) (x : Text) (hx : reserved x = false) (v : Val) (s1 : St) :
    (T (n+1)).eval (s x) ((x, s1.store.size) :: ρ) { s1 with store := s1.store.push (.var v) } =
      .ok v { s1 with store := s1.store.push (.var v) } := by
  rw [hT, native_sym, evalVar_binder _ x hx]
  show M.bind' (readCell _) _ _ = _
  simp [M.bind', readCell, Pure.pure, M.pure']

theorem letIfSelf_eval (n : Nat) (x : Text) (t B : Datum) (hx : reserved x = false) :
    (T (n+3)).eval (L [s k_let_, L [L [s x, t]], L [s k_if_, s x, s x, B]]) ρ = (do
      let v ← (T (n+2)).eval t ρ
      let l ← allocCell (.var v)
      if truthy v then pure v else (T (n+1)).eval B ((x, l) :: ρ)) := by
  rw [letIf_eval ρ hT n x t _ _ hx]
  congr 1; funext v
  funext st
  show M.bind' (allocCell (.var v)) _ st = M.bind' (allocCell (.var v)) _ st
  unfold M.bind' allocCell
  simp only
  split
  · exact eval_binder ρ hT n x hx v st
  · rfl

theorem cond_arrow_exp_tower (n : Nat) (t f : Datum) (cs : List Datum) :
    (T (n+3)).eval (condArrowExp t f cs) ρ = (do
      let v ← (T (n+2)).eval t ρ
      let l ← allocCell (.var v)
      if truthy v then (T (n+1)).eval (L [f, s k_temp]) ((k_temp, l) :: ρ)
      else (match cs with
        | [] => pure .void
        | c :: cs' => (T (n+1)).eval (condUse (c :: cs')) ((k_temp, l) :: ρ))) := by
  cases cs with
  | nil => exact letIf2_eval ρ hT n k_temp t _ (by decide)
  | cons c cs' => exact letIf_eval ρ hT n k_temp t _ _ (by decide)

end tower

theorem or_native_eval (n : Nat) (e e2 : Datum) (es : List Datum) :
    (evalN (n+1)).eval (orUse (e :: e2 :: es)) ρ = (do
      let v ← (evalN n).eval e ρ
      if truthy v then pure v else evalOr (evalN n) ρ (e2 :: es)) := by
  rw [evalN_succ_eval, native_or]; rfl

theorem or_exp_eval (n : Nat) (e e2 : Datum) (es : List Datum) :
    (evalN (n+4)).eval (orExp (e :: e2 :: es)) ρ = (do
      let v ← (evalN (n+3)).eval e ρ
      let l ← allocCell (.var v)
      if truthy v then pure v else evalOr (evalN (n+1)) ((k_var1, l) :: ρ) (e2 :: es)) := by
  have h : ∀ ρ', evalStep (evalN (n+1)) (L (s k_or_ :: e2 :: es)) ρ' = evalOr (evalN (n+1)) ρ' (e2 :: es) :=
    fun ρ' => native_or _ ρ' (e2 :: es)
  rw [orExp, letIfSelf_eval ρ (T := evalN) (fun _ => rfl) (n+1) k_var1 e _ (by decide)]
  simp only [evalN_succ_eval (n+1), h]

theorem or_exp_truthy (n : Nat) (e e2 : Datum) (es : List Datum) (st st1 : St) (v : Val)
    (he : (evalN n).eval e ρ st = .ok v st1) (hv : truthy v = true) :
    (evalN (n+1)).eval (orUse (e :: e2 :: es)) ρ st = .ok v st1 ∧
    (evalN (n+4)).eval (orExp (e :: e2 :: es)) ρ st = .ok v { st1 with store := st1.store.push (.var v) } := by
  constructor
  · rw [or_native_eval]
    show M.bind' _ _ st = _
    simp [M.bind', he, hv, Pure.pure, M.pure']
  · have he' : (evalN (n+3)).eval e ρ st = .ok v st1 := by
      rw [evalN_mono (Nat.le_add_right n 3) e ρ st (by simp [he]), he]
    rw [or_exp_eval]
    show M.bind' _ _ st = _
    simp only [M.bind', he', hv, if_true]
    rfl

theorem cond_test_native_eval (n : Nat) (t c : Datum) (cs : List Datum) (ht : t ≠ s k_else_) :
    (evalN (n+1)).eval (condUse (L [t] :: c :: cs)) ρ = (do
      let v ← (evalN n).eval t ρ
      if truthy v then pure v else evalCond (evalN n) ρ (c :: cs)) := by
  rw [evalN_succ_eval, native_cond, evalCond_test _ _ t _ ht]

theorem cond_test_exp_eval (n : Nat) (t c : Datum) (cs : List Datum) :
    (evalN (n+4)).eval (condTestExp t (c :: cs)) ρ = (do
      let v ← (evalN (n+3)).eval t ρ
      let l ← allocCell (.var v)
      if truthy v then pure v else evalCond (evalN (n+1)) ((k_temp, l) :: ρ) (c :: cs)) := by
  have h : ∀ ρ', evalStep (evalN (n+1)) (L (s k_cond :: c :: cs)) ρ' = evalCond (evalN (n+1)) ρ' (c :: cs) :=
    fun ρ' => native_cond _ ρ' c cs
  rw [condTestExp, letIfSelf_eval ρ (T := evalN) (fun _ => rfl) (n+1) k_temp t _ (by decide)]
  simp only [evalN_succ_eval (n+1), h]

theorem cond_arrow_exp_eval (n : Nat) (t f : Datum) (cs : List Datum) :
    (evalN (n+3)).eval (condArrowExp t f cs) ρ = (do
      let v ← (evalN (n+2)).eval t ρ
      let l ← allocCell (.var v)
      if truthy v then (evalN (n+1)).eval (L [f, s k_temp]) ((k_temp, l) :: ρ)
      else (match cs with
        | [] => pure .void
        | c :: cs' => (evalN (n+1)).eval (condUse (c :: cs')) ((k_temp, l) :: ρ))) :=
  cond_arrow_exp_tower ρ (T := evalN) (fun _ => rfl) n t f cs

theorem case_else_arrow_same (k f : Datum) (hf : ∀ x, f = .sym x → kwOf x = none) :
    Same 1 (caseUse k [L [s k_else_, s k_arrow, f]]) (caseElseArrowExp k f) ρ := by
  intro n
  cases n with
  | zero => exact ⟨Le.timeout _, Le.timeout _⟩
  | succ n =>
    have e : evalStep (evalN n) (caseUse k [L [s k_else_, s k_arrow, f]]) ρ =
        evalStep (evalN n) (caseElseArrowExp k f) ρ := by
      rw [caseElseArrowExp, native_app _ _ f [k] hf, evalArgs_one, M.bind_assoc]
      simp only [M.pure_bind]
      have hl : properList (Datum.ofList [L [s k_else_, s k_arrow, f]]) = some [L [s k_else_, s k_arrow, f]] :=
        properList_ofList _
      simp only [caseUse, L, s, Datum.ofList, evalStep, kwOf_case, evalKw] at hl ⊢
      simp [properList, evalCase]
    exact ⟨(Le.of_eq (by rw [evalN_succ_eval, evalN_succ_eval, e])).trans (eval_le_add (n+1) 1 _ ρ),
           (Le.of_eq (by rw [evalN_succ_eval, evalN_succ_eval, e])).trans (eval_le_add (n+1) 1 _ ρ)⟩

/-- **case**, rule 3, `(case k (else r1 r2 …))` against `(begin r1 r2 …)`: the native meaning evaluates
    the key first, the expansion does not mention it (`case_else_same`: when `k` has no effect). -/
theorem case_else_native_eval (k r1 : Datum) (rs : List Datum) (hr : ¬ (r1 = s k_arrow ∧ rs.length = 1)) (n : Nat) :
    (evalN (n+1)).eval (caseUse k [L (s k_else_ :: r1 :: rs)]) ρ =
      ((evalN n).eval k ρ >>= fun _ => evalExprs (evalN n) ρ (r1 :: rs)) ∧
    (evalN (n+1)).eval (caseElseExp r1 rs) ρ = evalExprs (evalN n) ρ (r1 :: rs) := by
  constructor
  · rw [evalN_succ_eval]
    have hl : properList (Datum.ofList (r1 :: rs)) = some (r1 :: rs) := properList_ofList _
    simp only [caseUse, L, s, Datum.ofList, evalStep, kwOf_case, evalKw, properList, Option.map] at hl ⊢
    simp only [evalCase, properList, hl, Option.map]
    congr 1; funext key
    match rs, hr with
    | [], _ => simp
    | [f], hr =>
      have : (r1 == Datum.sym k_arrow) = false := by simpa [s] using hr
      simp [this]
    | _ :: _ :: _, _ => simp
  · rw [evalN_succ_eval, caseElseExp, native_begin]

end Marwood.Spec.Eval.Derived
