import Marwood.Vm.Verify
import Marwood.Lemmas.Stack
import Marwood.Lemmas.ValueKinds
/-!
# WF-stack: the frame-chain invariant of the machine, relative to the bytecode verifier

`Frames V T e f top bp l o K`: the stack `f` (a function from indices to cells) up to index `top` is a chain of
frames, the current one executing lambda `l` at offset `o` with base register `bp`; `T` gives the verified typing of
every code object, `e` is the stack pointer at which the evaluation was entered, `K` lists — innermost first — what
each frame will restore when it returns (a ghost: where the frame starts, saved `ep`, `ip`, `bp`).

Frame layout (run.rs CALL / ENTER): `args…, ArgumentCount(n), EnvironmentPointer, InstructionPointer, BasePointer`,
`bp` = index of the last argument, temporaries from `bp + 5`.

`V : VCell → Prop`, "the cell holds a value": a temporary the verifier types `val` satisfies `V`, so do the cells of
the argument block under a CALL / TCALL and the argument cells of every frame; a frame of code object `t` has at least
`argNeed t.bc` argument cells, so every `BasePointerOffset` operand of its code addresses one of them. `V` is a field
of the heap laws (`CodeLaws.Val`): `IsValue` for the concrete machine, `fun _ => True` for the toy instances.
-/
namespace Marwood.Vm
open Verify Stack

variable {H : Type}

/-- **a first-class value**: a pointer, or a cell that mentions no heap address — the notion of the
    heap-simulation invariant (`GoodI.accv`, `Plain.globals`, the value-read clauses of `StackDisc`) -/
def IsValue (v : VCell) : Prop := Lemmas.Sim.plainGlob v = true

theorem isVal_eq_plainGlob (v : VCell) : Verify.isVal v = Lemmas.Sim.plainGlob v := by
  cases v <;> rfl

theorem isValue_of_isVal {v : VCell} (h : Verify.isVal v = true) : IsValue v := by
  unfold IsValue; rw [← isVal_eq_plainGlob]; exact h

theorem isValue_ptr (a : Nat) : IsValue (.ptr a) := rfl
theorem isValue_argc (n : Nat) : IsValue (.argc n) := rfl

def cellOk (V : VCell → Prop) : ACell → VCell → Prop
  | .any, _ => True
  | .val, v => V v
  | .argc n, v => v = .argc n ∧ V v

theorem cellOk.val_of_isV {V : VCell → Prop} {t : ACell} {v : VCell} (ht : t.isV = true) (h : cellOk V t v) : V v := by
  cases t with
  | any => cases ht
  | val => exact h
  | argc n => exact h.2

/-- the temporaries `a` (top first) are the cells `lo+1 … top` -/
def MatchAt (V : VCell → Prop) : List ACell → (Nat → VCell) → Nat → Nat → Prop
  | [], _, top, lo => top = lo
  | t :: a, f, top, lo => lo < top ∧ cellOk V t (f top) ∧ MatchAt V a f (top - 1) lo

/-- the cells `lo+1 … top` are what the abstract state says. At a CALL/TCALL the argument block is characterised at
    run time: *some* `argc m` on top of `m` **values** on top of the static rest. -/
def MatchSt (V : VCell → Prop) : AState → (Nat → VCell) → Nat → Nat → Prop
  | .pre, _, _, _ => False
  | .body a, f, top, lo => MatchAt V a f top lo
  | .call a, f, top, lo => ∃ m, f top = .argc m ∧ lo + m + 1 ≤ top ∧
      (∀ i, top - 1 - m < i → i < top → V (f i)) ∧ MatchAt V a f (top - 1 - m) lo

abbrev Typing := Nat → Option LamTy

/-- ghost description of a frame: index of its first cell, and the saved registers it returns to. `sep` and `sip` are
    the header CELLS (always an `EnvironmentPointer` and an `InstructionPointer` cell): TCALL copies them as they are
    and `header_of_base` compares cells, so no cast is needed to say "the same header" -/
structure FDesc where
  base : Nat
  sep : VCell
  sip : VCell
  sbp : Nat

inductive Frames (V : VCell → Prop) (T : Typing) (e : Nat) (f : Nat → VCell) :
    Nat → Nat → Nat → Nat → List FDesc → Prop
  /-- the entry frame: entry code (`PUSHIMM argc0; MOVIMM λ acc; CALL; HALT`), temporaries from `e+1`. It has no
      header, and `bp` is free: `prepare` does not reset it and entry code never reads it -/
  | entry {top bp l o : Nat} {t : LamTy} {st : AState} :
      T l = some t → t.entry = true → stateAt t.tm o = some st → MatchSt V st f top e →
      Frames V T e f top bp l o []
  /-- a complete frame: header intact at `bp+1 … bp+4`, temporaries as typed, at least as many argument cells as the
      code addresses, each holding a value, and below the first argument the caller's frame in the state it will
      be in when this frame returns (never a prologue instruction) -/
  | frame {top bp l o : Nat} {t : LamTy} {st : AState} {n ep' l' o' bp' : Nat} {K : List FDesc} :
      T l = some t → t.entry = false → stateAt t.tm o = some st → MatchSt V st f top (bp + 4) →
      f (bp + 1) = .argc n → f (bp + 2) = .envPtr ep' → f (bp + 3) = .instrPtr l' o' →
      f (bp + 4) = .basePtr bp' → n ≤ bp →
      argNeed t.bc ≤ n → (∀ i, bp - n < i → i ≤ bp → V (f i)) →
      (∀ t', T l' = some t' → stateAt t'.tm o' ≠ some .pre) →
      Frames V T e f (bp - n) bp' l' o' K →
      Frames V T e f top bp l o (⟨bp + 1 - n, .envPtr ep', .instrPtr l' o', bp'⟩ :: K)
  /-- between CALL/TCALL and the callee's ENTER: `args, argc, ep, ip` pushed, `bp` still the caller's -/
  | pre {top bp l o : Nat} {t : LamTy} {n ep' l' o' : Nat} {K : List FDesc} :
      T l = some t → t.entry = false → stateAt t.tm o = some .pre →
      n + 3 ≤ top → f top = .instrPtr l' o' → f (top - 1) = .envPtr ep' → f (top - 2) = .argc n →
      (∀ i, top - 3 - n < i → i ≤ top - 3 → V (f i)) →
      (∀ t', T l' = some t' → stateAt t'.tm o' ≠ some .pre) →
      Frames V T e f (top - 3 - n) bp l' o' K →
      Frames V T e f top bp l o (⟨top - 2 - n, .envPtr ep', .instrPtr l' o', bp⟩ :: K)

structure WF (V : VCell → Prop) (T : Typing) (e : Nat) (s : St H) (K : List FDesc) : Prop where
  cap : s.stack.sp < s.stack.cells.length
  frames : Frames V T e s.stack.cellAt s.stack.sp s.bp s.ipL s.ipO K

/-- a continuation object is the snapshot of a WF state at the return point of a call (never inside a
    procedure prologue) -/
structure ContWF (V : VCell → Prop) (T : Typing) (e : Nat) (c : Cont) (K : List FDesc) : Prop where
  cap : c.stack.sp < c.stack.cells.length
  frames : Frames V T e c.stack.cellAt c.stack.sp c.bp c.ipL c.ipO K
  body : ∀ t, T c.ipL = some t → stateAt t.tm c.ipO ≠ some .pre

variable {V : VCell → Prop}

theorem MatchAt.top_eq {a : List ACell} {f : Nat → VCell} : ∀ {top lo : Nat},
    MatchAt V a f top lo → top = lo + a.length := by
  induction a with
  | nil => intro top lo h; simpa [MatchAt] using h
  | cons t a ih =>
    intro top lo h
    obtain ⟨h1, _, h3⟩ := h
    have := ih h3
    simp only [List.length_cons]; omega

theorem MatchAt.congr {a : List ACell} {f f' : Nat → VCell} : ∀ {top lo : Nat},
    (∀ i, i ≤ top → f' i = f i) → MatchAt V a f top lo → MatchAt V a f' top lo := by
  induction a with
  | nil => intro top lo _ h; exact h
  | cons t a ih =>
    intro top lo hf h
    obtain ⟨h1, h2, h3⟩ := h
    refine ⟨h1, ?_, ih (fun i hi => hf i (by omega)) h3⟩
    rw [hf top (Nat.le_refl _)]; exact h2

theorem MatchAt.weaken {V' : VCell → Prop} (hV : ∀ v, V v → V' v) {a : List ACell} {f : Nat → VCell} :
    ∀ {top lo : Nat}, MatchAt V a f top lo → MatchAt V' a f top lo := by
  induction a with
  | nil => intro top lo h; exact h
  | cons t a ih =>
    intro top lo h
    obtain ⟨h1, h2, h3⟩ := h
    refine ⟨h1, ?_, ih h3⟩
    cases t with
    | any => trivial
    | val => exact hV _ h2
    | argc n => exact ⟨h2.1, hV _ h2.2⟩

theorem MatchAt.drop {f : Nat → VCell} : ∀ {a : List ACell} {n top lo : Nat},
    MatchAt V a f top lo → n ≤ a.length → MatchAt V (a.drop n) f (top - n) lo := by
  intro a n
  induction n generalizing a with
  | zero => intro top lo h _; simpa using h
  | succ n ih =>
    intro top lo h hn
    cases a with
    | nil => simp at hn
    | cons t a =>
      obtain ⟨_, _, h3⟩ := h
      have := ih h3 (by simpa using hn)
      simp only [List.drop_succ_cons]
      have e : top - (n + 1) = top - 1 - n := by omega
      rw [e]; exact this

theorem MatchAt.take_vals {f : Nat → VCell} : ∀ {a : List ACell} {n top lo : Nat},
    MatchAt V a f top lo → n ≤ a.length → (a.take n).all ACell.isV = true →
    ∀ i, top - n < i → i ≤ top → V (f i) := by
  intro a n
  induction n generalizing a with
  | zero => intro top lo _ _ _ i h1 h2; omega
  | succ n ih =>
    intro top lo h hn hall i h1 h2
    cases a with
    | nil => simp at hn
    | cons t a =>
      obtain ⟨hlt, hc, h3⟩ := h
      simp only [List.take_succ_cons, List.all_cons, Bool.and_eq_true] at hall
      by_cases hi : i = top
      · subst hi; exact hc.val_of_isV hall.1
      · exact ih h3 (by simpa using hn) hall.2 i (by omega) (by omega)

theorem MatchAt.push {a : List ACell} {f f' : Nat → VCell} {top lo : Nat} {t : ACell}
    (h : MatchAt V a f top lo) (hf : ∀ i, i ≤ top → f' i = f i) (ht : cellOk V t (f' (top + 1))) :
    MatchAt V (t :: a) f' (top + 1) lo := by
  have := h.top_eq
  exact ⟨by omega, ht, by simpa using h.congr hf⟩

theorem MatchSt.lo_le {st : AState} {f : Nat → VCell} {top lo : Nat} (h : MatchSt V st f top lo) :
    lo ≤ top := by
  cases st with
  | pre => exact h.elim
  | body a => have := MatchAt.top_eq h; omega
  | call a => obtain ⟨m, _, h2, _⟩ := h; omega

theorem MatchSt.congr {st : AState} {f f' : Nat → VCell} {top lo : Nat}
    (hf : ∀ i, i ≤ top → f' i = f i) (h : MatchSt V st f top lo) : MatchSt V st f' top lo := by
  cases st with
  | pre => exact h
  | body a => exact MatchAt.congr hf h
  | call a =>
    obtain ⟨m, h1, h2, hv, h3⟩ := h
    exact ⟨m, by rw [hf top (Nat.le_refl _)]; exact h1, h2,
      fun i hi1 hi2 => by rw [hf i (by omega)]; exact hv i hi1 hi2,
      MatchAt.congr (fun i hi => hf i (by omega)) h3⟩

theorem MatchSt.weaken {V' : VCell → Prop} (hV : ∀ v, V v → V' v) {st : AState} {f : Nat → VCell}
    {top lo : Nat} (h : MatchSt V st f top lo) : MatchSt V' st f top lo := by
  cases st with
  | pre => exact h
  | body a => exact MatchAt.weaken hV h
  | call a =>
    obtain ⟨m, h1, h2, hv, h3⟩ := h
    exact ⟨m, h1, h2, fun i a b => hV _ (hv i a b), MatchAt.weaken hV h3⟩

theorem flowsTo_sound {x : List ACell} {s : Option AState} {f : Nat → VCell} {top lo : Nat}
    (hfl : flowsTo x s = true) (h : MatchAt V x f top lo) : ∃ st, s = some st ∧ MatchSt V st f top lo := by
  cases s with
  | none => simp [flowsTo] at hfl
  | some st =>
    cases st with
    | pre => simp [flowsTo] at hfl
    | body y =>
      simp only [flowsTo, decide_eq_true_eq] at hfl
      subst hfl
      exact ⟨_, rfl, h⟩
    | call a =>
      cases x with
      | nil => simp [flowsTo] at hfl
      | cons c r =>
        cases c with
        | any => simp [flowsTo] at hfl
        | val => simp [flowsTo] at hfl
        | argc n =>
          simp only [flowsTo, Bool.and_eq_true, decide_eq_true_eq] at hfl
          obtain ⟨⟨hn, ha⟩, hall⟩ := hfl
          obtain ⟨h1, h2, h3⟩ := h
          have hb := h3.top_eq
          refine ⟨_, rfl, n, h2.1, by omega, ?_, ?_⟩
          · intro i hi1 hi2
            exact h3.take_vals hn hall i (by omega) (by omega)
          · rw [ha]
            exact h3.drop hn

theorem Frames.congr {T : Typing} {e : Nat} {f f' : Nat → VCell} {top bp l o : Nat} {K : List FDesc}
    (h : Frames V T e f top bp l o K) : (∀ i, i ≤ top → f' i = f i) → Frames V T e f' top bp l o K := by
  induction h with
  | entry h1 h2 h3 h4 => intro hf; exact .entry h1 h2 h3 (h4.congr hf)
  | @frame top bp l o t st n ep' l' o' bp' K h1 h2 h3 h4 h5 h6 h7 h8 h9 hnd hav hnp _ ih =>
    intro hf
    have hle := h4.lo_le
    have r := Frames.frame (f := f') h1 h2 h3 (h4.congr hf)
      (by rw [hf _ (by omega)]; exact h5) (by rw [hf _ (by omega)]; exact h6)
      (by rw [hf _ (by omega)]; exact h7) (by rw [hf _ (by omega)]; exact h8) h9 hnd
      (fun i a b => by rw [hf _ (by omega)]; exact hav i a b) hnp
      (ih (fun i hi => hf i (by omega)))
    exact r
  | @pre top bp l o t n ep' l' o' K h1 h2 h3 h4 h5 h6 h7 hav hnp _ ih =>
    intro hf
    exact Frames.pre (f := f') h1 h2 h3 h4
      (by rw [hf _ (by omega)]; exact h5) (by rw [hf _ (by omega)]; exact h6)
      (by rw [hf _ (by omega)]; exact h7)
      (fun i a b => by rw [hf _ (by omega)]; exact hav i a b) hnp
      (ih (fun i hi => hf i (by omega)))

theorem Frames.has_ty {T : Typing} {e : Nat} {f : Nat → VCell} {top bp l o : Nat} {K : List FDesc}
    (h : Frames V T e f top bp l o K) : ∃ t st, T l = some t ∧ stateAt t.tm o = some st := by
  cases h with
  | entry h1 _ h3 _ => exact ⟨_, _, h1, h3⟩
  | frame h1 _ h3 => exact ⟨_, _, h1, h3⟩
  | pre h1 _ h3 => exact ⟨_, _, h1, h3⟩

theorem Frames.np_mono {T T' : Typing} {e : Nat} {f : Nat → VCell} {top bp l o : Nat} {K : List FDesc}
    (h : Frames V T e f top bp l o K) (hT : ∀ t, T l = some t → T' l = some t)
    (hnp : ∀ t', T l = some t' → stateAt t'.tm o ≠ some .pre) :
    ∀ t', T' l = some t' → stateAt t'.tm o ≠ some .pre := by
  intro t' ht'
  obtain ⟨t, _, ht, _⟩ := h.has_ty
  have := hT t ht
  rw [ht'] at this
  have e : t' = t := Option.some.inj this
  rw [e]
  exact hnp t ht

/-- `Frames` only consults the typing of the lambdas the chain mentions: the current one and those
    of the saved `InstructionPointer`s at or below `top` -/
theorem Frames.mono_on {V : VCell → Prop} {T T' : Typing} {e : Nat} {f : Nat → VCell} {top bp l o : Nat}
    {K : List FDesc} (h : Frames V T e f top bp l o K) :
    (∀ l1 t, T l1 = some t → (l1 = l ∨ ∃ i o1, i ≤ top ∧ f i = .instrPtr l1 o1) → T' l1 = some t) →
    Frames V T' e f top bp l o K := by
  induction h with
  | entry h1 h2 h3 h4 => intro hT; exact .entry (hT _ _ h1 (.inl rfl)) h2 h3 h4
  | @frame top bp l o t st n ep' l' o' bp' K h1 h2 h3 h4 h5 h6 h7 h8 h9 hnd hav hnp hc ih =>
    intro hT
    have hle := h4.lo_le
    have hT' : ∀ l1 t1, T l1 = some t1 → (l1 = l' ∨ ∃ i o1, i ≤ bp - n ∧ f i = .instrPtr l1 o1) → T' l1 = some t1 := by
      intro l1 t1 ht1 hor
      refine hT l1 t1 ht1 (.inr ?_)
      rcases hor with rfl | ⟨i, o1, hi, hf⟩
      · exact ⟨bp + 3, o', by omega, h7⟩
      · exact ⟨i, o1, by omega, hf⟩
    exact .frame (hT _ _ h1 (.inl rfl)) h2 h3 h4 h5 h6 h7 h8 h9 hnd hav
      (hc.np_mono (fun t1 ht1 => hT' _ t1 ht1 (.inl rfl)) hnp) (ih hT')
  | @pre top bp l o t n ep' l' o' K h1 h2 h3 h4 h5 h6 h7 hav hnp hc ih =>
    intro hT
    have hT' : ∀ l1 t1, T l1 = some t1 → (l1 = l' ∨ ∃ i o1, i ≤ top - 3 - n ∧ f i = .instrPtr l1 o1) → T' l1 = some t1 := by
      intro l1 t1 ht1 hor
      refine hT l1 t1 ht1 (.inr ?_)
      rcases hor with rfl | ⟨i, o1, hi, hf⟩
      · exact ⟨top, o', Nat.le_refl _, h5⟩
      · exact ⟨i, o1, by omega, hf⟩
    exact .pre (hT _ _ h1 (.inl rfl)) h2 h3 h4 h5 h6 h7 hav
      (hc.np_mono (fun t1 ht1 => hT' _ t1 ht1 (.inl rfl)) hnp) (ih hT')

theorem Frames.mono {T T' : Typing} {e : Nat} {f : Nat → VCell} {top bp l o : Nat} {K : List FDesc}
    (hT : ∀ l t, T l = some t → T' l = some t)
    (h : Frames V T e f top bp l o K) : Frames V T' e f top bp l o K :=
  h.mono_on (fun l t ht _ => hT l t ht)

theorem Frames.weaken {V' : VCell → Prop} (hV : ∀ v, V v → V' v) {T : Typing} {e : Nat} {f : Nat → VCell}
    {top bp l o : Nat} {K : List FDesc} (h : Frames V T e f top bp l o K) : Frames V' T e f top bp l o K := by
  induction h with
  | entry h1 h2 h3 h4 => exact .entry h1 h2 h3 (h4.weaken hV)
  | frame h1 h2 h3 h4 h5 h6 h7 h8 h9 hnd hav hnp _ ih =>
    exact .frame h1 h2 h3 (h4.weaken hV) h5 h6 h7 h8 h9 hnd (fun i a b => hV _ (hav i a b)) hnp ih
  | pre h1 h2 h3 h4 h5 h6 h7 hav hnp _ ih => exact .pre h1 h2 h3 h4 h5 h6 h7 (fun i a b => hV _ (hav i a b)) hnp ih

theorem Frames.e_le {T : Typing} {e : Nat} {f : Nat → VCell} {top bp l o : Nat} {K : List FDesc}
    (h : Frames V T e f top bp l o K) : e ≤ top := by
  induction h with
  | entry _ _ _ h4 => exact h4.lo_le
  | frame _ _ _ h4 _ _ _ _ _ _ _ _ _ ih => have := h4.lo_le; omega
  | pre _ _ _ _ _ _ _ _ _ _ ih => omega

/-- the temporaries match, and the frame can be rebuilt with any new temporaries above the same base `lo` -/
theorem Frames.inv_body {T : Typing} {e : Nat} {f : Nat → VCell} {top bp l o : Nat} {K : List FDesc}
    (h : Frames V T e f top bp l o K) {t : LamTy} (ht : T l = some t) {st : AState}
    (hst : stateAt t.tm o = some st) (hne : st ≠ .pre) :
    ∃ lo, MatchSt V st f top lo ∧ (t.entry = true → lo = e) ∧ (t.entry = false → lo = bp + 4) ∧
      ∀ (f' : Nat → VCell) (top' o' : Nat) (st' : AState), (∀ i, i ≤ lo → f' i = f i) →
        stateAt t.tm o' = some st' → MatchSt V st' f' top' lo → Frames V T e f' top' bp l o' K := by
  cases h with
  | @entry _ _ _ _ t1 st1 h1 h2 h3 h4 =>
    have e1 : t1 = t := by rw [h1] at ht; exact Option.some.inj ht
    subst e1
    have e2 : st1 = st := by rw [h3] at hst; exact Option.some.inj hst
    subst e2
    refine ⟨e, h4, fun _ => rfl, fun h' => (by rw [h2] at h'; cases h'), ?_⟩
    intro f' top' o' st' _ hs hm
    exact .entry h1 h2 hs hm
  | @frame _ _ _ _ t1 st1 n ep' l' o' bp' K h1 h2 h3 h4 h5 h6 h7 h8 h9 hnd hav hnp h10 =>
    have e1 : t1 = t := by rw [h1] at ht; exact Option.some.inj ht
    subst e1
    have e2 : st1 = st := by rw [h3] at hst; exact Option.some.inj hst
    subst e2
    refine ⟨bp + 4, h4, fun h' => (by rw [h2] at h'; cases h'), fun _ => rfl, ?_⟩
    intro f' top' o' st' hf hs hm
    exact Frames.frame (f := f') h1 h2 hs hm
      (by rw [hf _ (by omega)]; exact h5) (by rw [hf _ (by omega)]; exact h6)
      (by rw [hf _ (by omega)]; exact h7) (by rw [hf _ (by omega)]; exact h8) h9 hnd
      (fun i a b => by rw [hf _ (by omega)]; exact hav i a b) hnp
      (h10.congr (fun i hi => hf i (by omega)))
  | @pre _ _ _ _ t1 n ep' l' o' K h1 h2 h3 h4 h5 h6 h7 hav hnp h8 =>
    have e1 : t1 = t := by rw [h1] at ht; exact Option.some.inj ht
    subst e1
    rw [h3] at hst
    exact absurd (Option.some.inj hst).symm hne

theorem Frames.inv_frame {T : Typing} {e : Nat} {f : Nat → VCell} {top bp l o : Nat} {K : List FDesc}
    (h : Frames V T e f top bp l o K) {t : LamTy} (ht : T l = some t) (hent : t.entry = false) {st : AState}
    (hst : stateAt t.tm o = some st) (hne : st ≠ .pre) :
    ∃ n ep' l' o' bp' K', MatchSt V st f top (bp + 4) ∧
      f (bp + 1) = .argc n ∧ f (bp + 2) = .envPtr ep' ∧ f (bp + 3) = .instrPtr l' o' ∧
      f (bp + 4) = .basePtr bp' ∧ n ≤ bp ∧ Frames V T e f (bp - n) bp' l' o' K' ∧
      K = ⟨bp + 1 - n, .envPtr ep', .instrPtr l' o', bp'⟩ :: K' := by
  cases h with
  | @entry _ _ _ _ t1 st1 h1 h2 h3 h4 =>
    have e1 : t1 = t := by rw [h1] at ht; exact Option.some.inj ht
    subst e1
    rw [h2] at hent; cases hent
  | @frame _ _ _ _ t1 st1 n ep' l' o' bp' K h1 h2 h3 h4 h5 h6 h7 h8 h9 hnd hav hnp h10 =>
    have e1 : t1 = t := by rw [h1] at ht; exact Option.some.inj ht
    subst e1
    have e2 : st1 = st := by rw [h3] at hst; exact Option.some.inj hst
    subst e2
    exact ⟨n, ep', l', o', bp', K, h4, h5, h6, h7, h8, h9, h10, rfl⟩
  | @pre _ _ _ _ t1 n ep' l' o' K h1 h2 h3 h4 h5 h6 h7 hav hnp h8 =>
    have e1 : t1 = t := by rw [h1] at ht; exact Option.some.inj ht
    subst e1
    rw [h3] at hst
    exact absurd (Option.some.inj hst).symm hne

theorem Frames.inv_args {T : Typing} {e : Nat} {f : Nat → VCell} {top bp l o : Nat} {K : List FDesc}
    (h : Frames V T e f top bp l o K) {t : LamTy} (ht : T l = some t) (hent : t.entry = false) {st : AState}
    (hst : stateAt t.tm o = some st) (hne : st ≠ .pre) :
    ∃ n l' o', f (bp + 1) = .argc n ∧ f (bp + 3) = .instrPtr l' o' ∧ n ≤ bp ∧ argNeed t.bc ≤ n ∧
      (∀ i, bp - n < i → i ≤ bp → V (f i)) ∧ ∀ t', T l' = some t' → stateAt t'.tm o' ≠ some .pre := by
  cases h with
  | @entry _ _ _ _ t1 st1 h1 h2 h3 h4 =>
    have e1 : t1 = t := by rw [h1] at ht; exact Option.some.inj ht
    subst e1
    rw [h2] at hent; cases hent
  | @frame _ _ _ _ t1 st1 n ep' l' o' bp' K h1 h2 h3 h4 h5 h6 h7 h8 h9 hnd hav hnp h10 =>
    have e1 : t1 = t := by rw [h1] at ht; exact Option.some.inj ht
    subst e1
    exact ⟨n, l', o', h5, h7, h9, hnd, hav, hnp⟩
  | @pre _ _ _ _ t1 n ep' l' o' K h1 h2 h3 h4 h5 h6 h7 hav hnp h8 =>
    have e1 : t1 = t := by rw [h1] at ht; exact Option.some.inj ht
    subst e1
    rw [h3] at hst
    exact absurd (Option.some.inj hst).symm hne

theorem Frames.inv_pre {T : Typing} {e : Nat} {f : Nat → VCell} {top bp l o : Nat} {K : List FDesc}
    (h : Frames V T e f top bp l o K) {t : LamTy} (ht : T l = some t)
    (hst : stateAt t.tm o = some .pre) :
    t.entry = false ∧ ∃ n ep' l' o' K', n + 3 ≤ top ∧ f top = .instrPtr l' o' ∧ f (top - 1) = .envPtr ep' ∧
      f (top - 2) = .argc n ∧ Frames V T e f (top - 3 - n) bp l' o' K' ∧
      K = ⟨top - 2 - n, .envPtr ep', .instrPtr l' o', bp⟩ :: K' := by
  cases h with
  | @entry _ _ _ _ t1 st1 h1 h2 h3 h4 =>
    have e1 : t1 = t := by rw [h1] at ht; exact Option.some.inj ht
    subst e1
    rw [h3] at hst
    have := Option.some.inj hst
    subst this
    exact h4.elim
  | @frame _ _ _ _ t1 st1 n ep' l' o' bp' K h1 h2 h3 h4 h5 h6 h7 h8 h9 hnd hav hnp h10 =>
    have e1 : t1 = t := by rw [h1] at ht; exact Option.some.inj ht
    subst e1
    rw [h3] at hst
    have := Option.some.inj hst
    subst this
    exact h4.elim
  | @pre _ _ _ _ t1 n ep' l' o' K h1 h2 h3 h4 h5 h6 h7 hav hnp h8 =>
    have e1 : t1 = t := by rw [h1] at ht; exact Option.some.inj ht
    subst e1
    exact ⟨h2, n, ep', l', o', K, h4, h5, h6, h7, h8, rfl⟩

theorem Frames.inv_pre_args {T : Typing} {e : Nat} {f : Nat → VCell} {top bp l o : Nat} {K : List FDesc}
    (h : Frames V T e f top bp l o K) {t : LamTy} (ht : T l = some t)
    (hst : stateAt t.tm o = some .pre) :
    ∃ n l' o', f (top - 2) = .argc n ∧ f top = .instrPtr l' o' ∧ n + 3 ≤ top ∧
      (∀ i, top - 3 - n < i → i ≤ top - 3 → V (f i)) ∧ ∀ t', T l' = some t' → stateAt t'.tm o' ≠ some .pre := by
  cases h with
  | @entry _ _ _ _ t1 st1 h1 h2 h3 h4 =>
    have e1 : t1 = t := by rw [h1] at ht; exact Option.some.inj ht
    subst e1
    rw [h3] at hst
    have := Option.some.inj hst
    subst this
    exact h4.elim
  | @frame _ _ _ _ t1 st1 n ep' l' o' bp' K h1 h2 h3 h4 h5 h6 h7 h8 h9 hnd hav hnp h10 =>
    have e1 : t1 = t := by rw [h1] at ht; exact Option.some.inj ht
    subst e1
    rw [h3] at hst
    have := Option.some.inj hst
    subst this
    exact h4.elim
  | @pre _ _ _ _ t1 n ep' l' o' K h1 h2 h3 h4 h5 h6 h7 hav hnp h8 =>
    exact ⟨n, l', o', h7, h5, h4, hav, hnp⟩

def argStep (m : Nat) (c : VCell) : Nat :=
  match c with
  | .bpOffset off => max m ((-off).toNat + 1)
  | _ => m

theorem argNeed_eq (bc : List VCell) : argNeed bc = bc.foldl argStep 0 := rfl

theorem foldl_argStep_ge : ∀ (bc : List VCell) (m : Nat), m ≤ bc.foldl argStep m := by
  intro bc
  induction bc with
  | nil => intro m; exact Nat.le_refl _
  | cons c bc ih =>
    intro m
    simp only [List.foldl_cons]
    refine Nat.le_trans ?_ (ih _)
    unfold argStep
    split
    · exact Nat.le_max_left _ _
    · exact Nat.le_refl _

theorem foldl_argStep_mem : ∀ (bc : List VCell) (m j : Nat) (off : Int),
    bc[j]? = some (.bpOffset off) → (-off).toNat + 1 ≤ bc.foldl argStep m := by
  intro bc
  induction bc with
  | nil => intro m j off h; simp at h
  | cons c bc ih =>
    intro m j off h
    simp only [List.foldl_cons]
    cases j with
    | zero =>
      simp only [List.getElem?_cons_zero, Option.some.injEq] at h
      subst h
      refine Nat.le_trans ?_ (foldl_argStep_ge _ _)
      simp only [argStep]
      exact Nat.le_max_right _ _
    | succ j =>
      simp only [List.getElem?_cons_succ] at h
      exact ih _ j off h

/-- a `BasePointerOffset(off)` cell of the code addresses one of the `argNeed` topmost argument cells -/
theorem argNeed_ge {bc : List VCell} {j : Nat} {off : Int} (h : bc[j]? = some (.bpOffset off)) :
    (-off).toNat + 1 ≤ argNeed bc := by
  rw [argNeed_eq]; exact foldl_argStep_mem bc 0 j off h

theorem verifyLam_spec {bc : List VCell} {t : LamTy} (h : verifyLam bc = some t) :
    t.bc = bc ∧ checkAll t.bc t.tm t.entry = true := by
  unfold verifyLam verify at h
  simp only at h
  cases hi : infer bc (isEntryCode bc) with
  | error e => rw [hi] at h; cases h
  | ok r =>
    obtain ⟨tm, hh⟩ := r
    rw [hi] at h
    simp only at h
    by_cases hc : checkAll bc tm (isEntryCode bc) = true
    · simp only [hc, if_true] at h
      cases h
      exact ⟨rfl, hc⟩
    · have hc' : checkAll bc tm (isEntryCode bc) = false := by simpa using hc
      rw [hc'] at h
      simp only [Bool.false_eq_true, if_false] at h
      split at h
      · rename_i heq; split at heq <;> cases heq
      · cases h

theorem checkAll_at {bc : List VCell} {tm : TypeMap} {entry : Bool} (h : checkAll bc tm entry = true)
    {o : Nat} (ho : o < bc.length) : checkAt bc tm entry o = true := by
  unfold checkAll at h
  simp only [Bool.and_eq_true, List.all_eq_true, List.mem_range] at h
  exact h.2 o ho

theorem checkAll_init {bc : List VCell} {tm : TypeMap} {entry : Bool} (h : checkAll bc tm entry = true) :
    stateAt tm 0 = some (initState entry) := by
  unfold checkAll at h
  simp only [Bool.and_eq_true, decide_eq_true_eq] at h
  exact h.1

theorem typed_offset {t : LamTy} (hc : checkAll t.bc t.tm t.entry = true) {o : Nat} {st : AState}
    (hst : stateAt t.tm o = some st) (ho : o < t.bc.length) :
    ∃ op, t.bc[o]? = some (.opcode op) ∧ bpSrcOk t.entry t.bc[o + 1]? = true ∧
      checkOp t.bc t.tm t.entry o st op = true := by
  have := checkAll_at hc ho
  unfold checkAt at this
  rw [hst] at this
  simp only at this
  split at this
  · rename_i op hop
    simp only [Bool.and_eq_true] at this
    exact ⟨op, hop, this.1, this.2⟩
  · cases this

theorem lt_of_fetch {bc : List VCell} {o : Nat} {c : VCell} (hf : bc[o]? = some c) : o < bc.length := by
  rcases Nat.lt_or_ge o bc.length with h | h
  · exact h
  · rw [List.getElem?_eq_none h] at hf; cases hf

theorem check_of_fetch {t : LamTy} (hc : checkAll t.bc t.tm t.entry = true) {o : Nat} {op : Op}
    {st : AState} (hf : t.bc[o]? = some (.opcode op)) (hst : stateAt t.tm o = some st) :
    checkOp t.bc t.tm t.entry o st op = true := by
  obtain ⟨op', hop, _, hck⟩ := typed_offset hc hst (lt_of_fetch hf)
  cases hf.symm.trans hop
  exact hck

/-- a `BasePointerOffset` in the cell after an opcode (the source operand of MOV / PUSH) is in procedure code and
    not above the frame base -/
theorem src_of_fetch {t : LamTy} (hc : checkAll t.bc t.tm t.entry = true) {o : Nat} {op : Op}
    {st : AState} (hf : t.bc[o]? = some (.opcode op)) (hst : stateAt t.tm o = some st) :
    bpSrcOk t.entry t.bc[o + 1]? = true := by
  obtain ⟨_, _, h, _⟩ := typed_offset hc hst (lt_of_fetch hf)
  exact h

def tyOf (code : Nat → Option (List VCell)) : Typing := fun l => (code l).bind verifyLam

theorem tyOf_mono {code code' : Nat → Option (List VCell)}
    (h : ∀ l bc, code l = some bc → code' l = some bc) :
    ∀ l t, tyOf code l = some t → tyOf code' l = some t := by
  intro l t ht
  unfold tyOf at ht ⊢
  cases hc : code l with
  | none => rw [hc] at ht; cases ht
  | some bc => rw [hc] at ht; rw [h l bc hc]; exact ht

theorem tyOf_spec {code : Nat → Option (List VCell)} {l : Nat} {t : LamTy} (h : tyOf code l = some t) :
    code l = some t.bc ∧ checkAll t.bc t.tm t.entry = true := by
  unfold tyOf at h
  cases hc : code l with
  | none => rw [hc] at h; cases h
  | some bc =>
    rw [hc] at h
    have := verifyLam_spec h
    exact ⟨by rw [this.1], this.2⟩

theorem tyOf_of_verify {code : Nat → Option (List VCell)} {l : Nat} {bc : List VCell} {e : Bool}
    (hc : code l = some bc) (hv : (verifyLam bc).map (·.entry) = some e) :
    ∃ t, tyOf code l = some t ∧ t.entry = e := by
  cases hv' : verifyLam bc with
  | none => rw [hv'] at hv; cases hv
  | some t =>
    rw [hv'] at hv
    exact ⟨t, by unfold tyOf; rw [hc]; exact hv', by simpa using hv⟩

end Marwood.Vm
