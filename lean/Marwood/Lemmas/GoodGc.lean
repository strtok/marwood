import Marwood.Lemmas.GoodDefs
/-!
# `Safe` as an invariant: a collection preserves `GoodI`

`cgc force s` runs the C03 collector model on the erasure and copies the result back (`liftGc`): T03.3
(`runGc_wf`) gives `WFHeap`, T03.2 (`runGc_spec`) says the cells reachable from the roots keep their content
and stay allocated and every other cell is free (hence `Undefined`); registers are untouched (`cgc_regs`).
-/
namespace Marwood.Lemmas.Good
open Marwood Marwood.Vm Marwood.Vm.Concrete Marwood.Lemmas.Sim
open Marwood.Heap (GcState WFHeap RootsOk vrefs vrefsList crefs)
open Marwood.Lemmas.GcSafety Marwood.Lemmas.HeapWF Marwood.Lemmas.GcMark Marwood.Spec

theorem liftGc_cells_get (h : CHeap) (h' : Heap.Heap) (i : Nat) :
    (liftGc h h').cells[i]? =
      if i < h'.cells.size then
        some (if h'.gc[i]? = some GcState.free then CCell.val .undefined
              else (h.cells[i]?).getD (CCell.val .undefined))
      else none := liftGc_cell h h' i

structure Lifted (s : St CHeap) (h' : Heap.Heap) : Prop where
  cell : ∀ i c, (liftGc s.heap h').cells[i]? = some c → c = CCell.val .undefined ∨
    (Reachable true (toHeap s.heap) ((rootsOf s).refs true) i ∧ s.heap.cells[i]? = some c)
  keep : ∀ i, Reachable true (toHeap s.heap) ((rootsOf s).refs true) i →
    (liftGc s.heap h').cells[i]? = s.heap.cells[i]? ∧ h'.gc[i]? = some GcState.allocated
  erase : toHeap (liftGc s.heap h') = h'

theorem lifted {s : St CHeap} {h' : Heap.Heap} (wf : WFHeap true (toHeap s.heap)) (wf' : WFHeap true h')
    (gs : GcSpec true (toHeap s.heap) ((rootsOf s).refs true) h') : Lifted s h' := by
  have hsize : (toHeap s.heap).gc.size = s.heap.cells.size := by
    rw [wf.sizes]; simp [toHeap]
  have hle : s.heap.cells.size ≤ h'.cells.size := by
    have := gs.size_le; simpa [toHeap] using this
  have hreach : ∀ i, i < h'.cells.size → h'.gc[i]? ≠ some GcState.free →
      Reachable true (toHeap s.heap) ((rootsOf s).refs true) i := by
    intro i hi hnf
    apply Classical.byContradiction
    intro hn
    exact hnf (gs.gc_unreach i hi hn)
  have hkeep : ∀ i, Reachable true (toHeap s.heap) ((rootsOf s).refs true) i →
      (liftGc s.heap h').cells[i]? = s.heap.cells[i]? ∧ h'.gc[i]? = some GcState.allocated := by
    intro i di
    have hga := gs.gc_reach i di
    have hlt : i < s.heap.cells.size := by rw [← hsize]; exact reach_lt _ di
    have hlt' : i < h'.cells.size := by omega
    refine ⟨?_, hga⟩
    rw [liftGc_cells_get]
    simp [hlt', hga, hlt]
  refine ⟨?_, hkeep, ?_⟩
  · intro i c hc
    rw [liftGc_cells_get] at hc
    split at hc
    · rename_i hi
      simp only [Option.some.injEq] at hc
      split at hc
      · exact .inl hc.symm
      · rename_i hnf
        have di := hreach i hi hnf
        have hlt : i < s.heap.cells.size := by rw [← hsize]; exact reach_lt _ di
        refine .inr ⟨di, ?_⟩
        rw [← hc]
        simp [hlt]
    · cases hc
  · have hcells : (toHeap (liftGc s.heap h')).cells = h'.cells := by
      apply Array.ext_getElem?
      intro i
      rw [toHeap_cells_get, liftGc_cells_get]
      by_cases hi : i < h'.cells.size
      · simp only [hi, if_true, Option.map_some]
        by_cases hf : h'.gc[i]? = some GcState.free
        · simp only [hf, if_true]
          rw [wf'.free_undef i hf]
          rfl
        · simp only [hf, if_false]
          have di := hreach i hi hf
          have hlt : i < s.heap.cells.size := by rw [← hsize]; exact reach_lt _ di
          rw [gs.cells_reach i di, toHeap_cells_get]
          simp [hlt]
      · simp only [hi, if_false, Option.map_none]
        exact (Array.getElem?_eq_none (by omega)).symm
    have hchunk : (toHeap (liftGc s.heap h')).chunk = h'.chunk := by
      rw [gs.chunk]; rfl
    have hgc : (toHeap (liftGc s.heap h')).gc = h'.gc := rfl
    have hfree : (toHeap (liftGc s.heap h')).free = h'.free := rfl
    have hsym : (toHeap (liftGc s.heap h')).symtab = h'.symtab := rfl
    generalize toHeap (liftGc s.heap h') = x at *
    cases x; cases h'
    simp only at hcells hchunk hgc hfree hsym
    subst hcells hchunk hgc hfree hsym
    rfl

theorem good_gc (force : Bool) {s : St CHeap} (g : GoodI s) (sm : Small (cgc force s).heap) :
    GoodI (cgc force s) := by
  unfold cgc at sm ⊢
  cases hrun : Heap.Heap.runGc true force (toHeap s.heap) (rootsOf s) with
  | error e => simpa [hrun] using g
  | ok res =>
    cases res with
    | skipped _ => simpa [hrun] using g
    | fuelExhausted => simpa [hrun] using g
    | collected h' =>
      simp only [hrun] at sm ⊢
      have wf := g.hg.wf
      have hb' : h'.cells.size ≤ 2 ^ 63 := by
        have : 2 * h'.cells.size ≤ 2 ^ 63 := by simpa [Small, liftGc] using sm
        omega
      have wf' := runGc_wf true force _ _ h' wf g.roots hb' hrun
      have gs := runGc_spec true force _ _ h' wf.sizes wf.no_used wf.shape hrun
      have L := lifted wf wf' gs
      have hsize : (toHeap s.heap).gc.size = s.heap.cells.size := by
        rw [wf.sizes]; simp [toHeap]
      refine ⟨⟨?_, ?_, ?_, ?_⟩, ?_, g.accv⟩
      · show WFHeap true (toHeap (liftGc s.heap h'))
        rw [L.erase]; exact wf'
      · -- Plain
        refine ⟨?_, g.hg.plain.globals, ?_⟩
        · intro i v hc
          rcases L.cell i _ hc with e | ⟨_, e⟩
          · cases e; rfl
          · exact g.hg.plain.cells i v e
        · intro i c hc
          rcases L.cell i _ hc with e | ⟨_, e⟩
          · cases e
          · exact g.hg.plain.conts i c e
      · -- LamAll
        intro i l hc
        rcases L.cell i _ hc with e | ⟨_, e⟩
        · cases e
        · exact g.hg.lam i l e
      · -- EnvOk
        intro i ss hc v hv
        rcases L.cell i _ hc with e | ⟨di, e⟩
        · cases e
        · rcases g.hg.env i ss e v hv with hp | ⟨e', k, ss', w, rfl, he, hk, hw⟩
          · exact .inl hp
          · refine .inr ⟨e', k, ss', w, rfl, ?_, hk, hw⟩
            have hlt : e' < (toHeap s.heap).gc.size := by
              rw [hsize]; exact lt_of_get_some he
            have de : Reachable true (toHeap s.heap) ((rootsOf s).refs true) e' := by
              refine Reach.step di ?_ hlt
              rw [toHeap_children, e]
              simp only [eraseC, crefs]
              exact vrefsList_mem_iff.mpr ⟨_, hv, by simp [eraseV, vrefs]⟩
            show (liftGc s.heap h').cells[e']? = _
            rw [(L.keep e' de).1]; exact he
      · -- RootsOk
        show RootsOk (toHeap (liftGc s.heap h')) ((rootsOf { s with heap := liftGc s.heap h' }).refs true)
        rw [L.erase]
        have hroots : rootsOf { s with heap := liftGc s.heap h' } = rootsOf s := rfl
        rw [hroots]
        intro y hy
        rcases g.roots y hy with hn | hs
        · have hlt : y < (toHeap s.heap).gc.size := by
            rcases hn with hn | hn <;> exact lt_of_get_some hn
          exact .inl (.inl (gs.gc_reach y (Reach.root hy hlt)))
        · exact .inr hs

end Marwood.Lemmas.Good
