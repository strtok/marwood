import Marwood.Lemmas.ConcreteAlloc
import Marwood.Lemmas.StackWF
/-!
# `CodeLaws` for the concrete heap: the invariant, and what the allocator does to code objects

`concreteOps ext : HeapOps CHeap` (`Vm/ConcreteHeap.lean`) keeps lambdas as heap cells holding their bytecode; `codeC`, the
ghost `code` of `CodeLaws`, reads it. `CInvG V` is the ghost invariant (field `HInv` of `CodeLaws`; not the structure
`Sim.HInv`, with which it shares `sizes`, `shape`, `noUsed` only). `Grows P h h'`, "a later heap", carries it: the same lambda
cells with the same content, new continuation cells only from `P`, the free list only shrinks or gets fresh addresses.
Proved here for the allocator primitives; `Lemmas/ConcreteLawsOps.lean` lifts it to the heap operations of `run_one`.
-/
namespace Marwood.Vm.Concrete
open Marwood Marwood.Vm Marwood.Vm.Verify
open Marwood.Heap (GcState)

def codeC (h : CHeap) (l : Nat) : Option (List VCell) := (lambdaAt h l).map (·.bc)

theorem codeC_some {h : CHeap} {l : Nat} {bc : List VCell} (hc : codeC h l = some bc) :
    ∃ lam, h.cells[l]? = some (CCell.lambda lam) ∧ lam.bc = bc := by
  unfold codeC at hc
  cases hl : lambdaAt h l with
  | none => rw [hl] at hc; cases hc
  | some lam =>
    rw [hl] at hc
    exact ⟨lam, lambdaAt_iff.mp hl, by simpa using hc⟩

theorem codeC_of_cell {h : CHeap} {l : Nat} {lam : CLambda} (hc : h.cells[l]? = some (CCell.lambda lam)) :
    codeC h l = some lam.bc := by
  unfold codeC; rw [lambdaAt_iff.mpr hc]; rfl

/-- The content is `lamVer`: what the `bytecode-verifier` stream checks on every lambda object of the real heap on every
    run. `cont`: every continuation cell is the snapshot of a WF-stack state whose values satisfy `V`. -/
structure CInvG (V : VCell → Prop) (h : CHeap) : Prop where
  sizes : h.gc.size = h.cells.size
  shape : 0 < h.chunk ∧ h.chunk % 4 = 0 ∧ ∃ k, 0 < k ∧ h.cells.size = k * h.chunk
  noUsed : ∀ i : Nat, h.gc[i]? ≠ some GcState.used
  lamFree : ∀ (l : Nat) (lam : CLambda), h.cells[l]? = some (CCell.lambda lam) → l ∉ h.free
  lamVer : ∀ (l : Nat) (lam : CLambda), h.cells[l]? = some (CCell.lambda lam) → (verifyLam lam.bc).isSome = true
  /-- `EnvironmentMap::new_from_iof` looks a free symbol up in the enclosing lambda's environment map first, which contains
      every formal, so its `IofArgument` arm is never taken (checked on every real lambda by the `bytecode-verifier` stream);
      CLOSURE's `build_closure_environment` therefore never reads the stack. -/
  noIofArg : ∀ (l : Nat) (lam : CLambda), h.cells[l]? = some (CCell.lambda lam) →
    ∀ x ∈ lam.envmap, ∀ n, x.2 ≠ Source.iofArg n
  /-- `compile.rs` emits `BasePointerOffset(bp - argc + i + 1)` for formal `i` only (compared on every real lambda by the
      `bytecode-verifier` stream) -/
  lamArgs : ∀ (l : Nat) (lam : CLambda), h.cells[l]? = some (CCell.lambda lam) → argNeed lam.bc ≤ lam.args.length
  cont : ∀ (p : Nat) (c : Cont), h.cells[p]? = some (CCell.cont c) → ∃ K, ContWF V (tyOf (codeC h)) 0 c K

abbrev CInv := CInvG (fun _ => True)

variable {V : VCell → Prop}

theorem CInvG.weaken {V' : VCell → Prop} (hV : ∀ v, V v → V' v) {h : CHeap} (inv : CInvG V h) : CInvG V' h :=
  ⟨inv.sizes, inv.shape, inv.noUsed, inv.lamFree, inv.lamVer, inv.noIofArg, inv.lamArgs, fun p c hc => by
    obtain ⟨K, hk⟩ := inv.cont p c hc
    exact ⟨K, hk.cap, hk.frames.weaken hV, hk.body⟩⟩

structure Grows (P : Cont → Prop) (h h' : CHeap) : Prop where
  sizes : h'.gc.size = h'.cells.size
  shape : 0 < h'.chunk ∧ h'.chunk % 4 = 0 ∧ ∃ k, 0 < k ∧ h'.cells.size = k * h'.chunk
  noUsed : ∀ i : Nat, h'.gc[i]? ≠ some GcState.used
  size_le : h.cells.size ≤ h'.cells.size
  keep : ∀ (l : Nat) (lam : CLambda), h.cells[l]? = some (CCell.lambda lam) → h'.cells[l]? = some (CCell.lambda lam)
  newLam : ∀ (l : Nat) (lam : CLambda), h'.cells[l]? = some (CCell.lambda lam) → h.cells[l]? = some (CCell.lambda lam)
  newCont : ∀ (p : Nat) (c : Cont), h'.cells[p]? = some (CCell.cont c) → h.cells[p]? = some (CCell.cont c) ∨ P c
  free : ∀ p : Nat, p ∈ h'.free → p ∈ h.free ∨ h.cells.size ≤ p

abbrev NoCont : Cont → Prop := fun _ => False

theorem Grows.refl {P : Cont → Prop} {h : CHeap} (inv : CInvG V h) : Grows P h h :=
  ⟨inv.sizes, inv.shape, inv.noUsed, Nat.le_refl _, fun _ _ x => x, fun _ _ x => x, fun _ _ x => .inl x,
    fun _ x => .inl x⟩

theorem Grows.trans {P : Cont → Prop} {h1 h2 h3 : CHeap} (a : Grows P h1 h2) (b : Grows P h2 h3) :
    Grows P h1 h3 := by
  refine ⟨b.sizes, b.shape, b.noUsed, Nat.le_trans a.size_le b.size_le, fun l lam x => b.keep l lam (a.keep l lam x),
    fun l lam x => a.newLam l lam (b.newLam l lam x), ?_, ?_⟩
  · intro p c hc
    rcases b.newCont p c hc with h | h
    · exact a.newCont p c h
    · exact .inr h
  · intro p hp
    rcases b.free p hp with h | h
    · exact a.free p h
    · right; have := a.size_le; omega

theorem Grows.weaken {P Q : Cont → Prop} {h h' : CHeap} (g : Grows P h h') (hpq : ∀ c, P c → Q c) : Grows Q h h' :=
  ⟨g.sizes, g.shape, g.noUsed, g.size_le, g.keep, g.newLam,
    fun p c hc => (g.newCont p c hc).imp id (hpq c), g.free⟩

theorem Grows.code {P : Cont → Prop} {h h' : CHeap} (g : Grows P h h') {l : Nat} {bc : List VCell}
    (hc : codeC h l = some bc) : codeC h' l = some bc := by
  obtain ⟨lam, h1, h2⟩ := codeC_some hc
  rw [codeC_of_cell (g.keep l lam h1), h2]

theorem Grows.inv {P : Cont → Prop} {h h' : CHeap} (inv : CInvG V h) (g : Grows P h h')
    (hP : ∀ c, P c → ∃ K, ContWF V (tyOf (codeC h)) 0 c K) : CInvG V h' := by
  have hty : ∀ l t, tyOf (codeC h) l = some t → tyOf (codeC h') l = some t :=
    tyOf_mono (fun l bc hc => g.code hc)
  refine ⟨g.sizes, g.shape, g.noUsed, ?_, ?_, ?_, ?_, ?_⟩
  · intro l lam hl hm
    have hold := g.newLam l lam hl
    rcases g.free l hm with h1 | h1
    · exact inv.lamFree l lam hold h1
    · have := lt_of_get_some hold; omega
  · intro l lam hl
    exact inv.lamVer l lam (g.newLam l lam hl)
  · intro l lam hl
    exact inv.noIofArg l lam (g.newLam l lam hl)
  · intro l lam hl
    exact inv.lamArgs l lam (g.newLam l lam hl)
  · intro p c hc
    have : ∃ K, ContWF V (tyOf (codeC h)) 0 c K := by
      rcases g.newCont p c hc with h1 | h1
      · exact inv.cont p c h1
      · exact hP c h1
    obtain ⟨K, hk⟩ := this
    refine ⟨K, hk.cap, hk.frames.mono hty, ?_⟩
    intro t ht
    obtain ⟨t0, _, ht0, _⟩ := hk.frames.has_ty
    have := hty _ _ ht0
    rw [ht] at this
    have e : t = t0 := Option.some.inj this
    rw [e]
    exact hk.body t0 ht0

theorem Grows.of_eq {P : Cont → Prop} {h h' : CHeap} (inv : CInvG V h) (hc : h'.cells = h.cells) (hg : h'.gc = h.gc)
    (hf : h'.free = h.free) (hk : h'.chunk = h.chunk) : Grows P h h' := by
  refine ⟨by rw [hg, hc]; exact inv.sizes, by rw [hk, hc]; exact inv.shape, by rw [hg]; exact inv.noUsed,
    by rw [hc]; exact Nat.le_refl _, ?_, ?_, ?_, ?_⟩
  · intro l lam x; rw [hc]; exact x
  · intro l lam x; rw [hc] at x; exact x
  · intro p c x; rw [hc] at x; exact .inl x
  · intro p x; rw [hf] at x; exact .inl x

/-- the address returned holds no lambda: it was on the free list (`lamFree`), or it is fresh -/
theorem Allocd.grows {h h1 : CHeap} {p : Nat} (a : Allocd h h1 p) (inv : CInvG V h) :
    Grows NoCont h h1 ∧ ∀ lam, h1.cells[p]? ≠ some (CCell.lambda lam) := by
  have hsz := a.size_le
  have hold : ∀ (i : Nat) (c : CCell), h1.cells[i]? = some c → c ≠ CCell.val .undefined → h.cells[i]? = some c := by
    intro i c hc hne
    by_cases hl : i < h.cells.size
    · rw [← a.cells_old i hl]; exact hc
    · exact absurd (a.cells_new i c (by omega) hc) hne
  refine ⟨⟨?_, a.chunks inv.shape, fun i hi => inv.noUsed i (a.gc_used i hi), hsz,
    fun l lam x => by rw [a.cells_old l (lt_of_get_some x)]; exact x, fun l lam x => hold l _ x (by intro e; cases e),
    fun q c x => .inl (hold q _ x (by intro e; cases e)), a.free_sub⟩, fun lam hl => ?_⟩
  · rw [a.gc_size, inv.sizes]; omega
  · have hl0 := hold p _ hl (by intro e; cases e)
    rcases a.fresh with h1' | h1'
    · exact inv.lamFree p lam hl0 h1'
    · have := lt_of_get_some hl0; omega

theorem calloc_grows {h : CHeap} (inv : CInvG V h) :
    Grows NoCont h (calloc h).1 ∧ ∀ lam, (calloc h).1.cells[(calloc h).2]? ≠ some (CCell.lambda lam) :=
  (calloc_allocd h).grows inv

theorem cgrow_grows {P : Cont → Prop} {h : CHeap} (inv : CInvG V h) : Grows P h (cgrow h) := by
  obtain ⟨hlt, hch⟩ := (show Chunks h from inv.shape).grow
  have hold : ∀ (i : Nat) (c : CCell), (cgrow h).cells[i]? = some c → c ≠ CCell.val .undefined → h.cells[i]? = some c := by
    intro i c hc hne
    by_cases hl : i < h.cells.size
    · rw [← cgrow_cells_old h hl]; exact hc
    · exact absurd (cgrow_cells_new h (Nat.le_of_not_lt hl) hc) hne
  exact ⟨by rw [cgrow_gc_size, inv.sizes, Nat.add_sub_cancel' (Nat.le_of_lt hlt)], hch,
    fun i hi => inv.noUsed i (cgrow_used hi), Nat.le_of_lt hlt,
    fun l lam x => by rw [cgrow_cells_old h (lt_of_get_some x)]; exact x, fun l lam x => hold l _ x (by intro e; cases e),
    fun q c x => .inl (hold q _ x (by intro e; cases e)),
    fun q hq => ((mem_cgrow_free h q).mp hq).elim (fun x => .inr x.1) .inl⟩

theorem cwrite_grows {P : Cont → Prop} {h : CHeap} (inv : CInvG V h) {p : Nat} {c : CCell}
    (hp : ∀ lam, h.cells[p]? ≠ some (CCell.lambda lam)) (hc : ∀ lam, c ≠ CCell.lambda lam)
    (hcc : ∀ k, c = CCell.cont k → P k) : Grows P h (cwrite h p c) := by
  refine ⟨by simp [cwrite, inv.sizes], by simpa [cwrite] using inv.shape, inv.noUsed, by simp [cwrite], ?_, ?_, ?_,
    fun _ x => .inl x⟩
  · exact fun l lam x => lambdaAt_iff.mp ((lambdaAt_cwrite hp hc l).trans (lambdaAt_iff.mpr x))
  · exact fun l lam x => lambdaAt_iff.mp ((lambdaAt_cwrite hp hc l).symm.trans (lambdaAt_iff.mpr x))
  · intro q k x
    rw [cwrite_cells] at x
    split at x
    · cases x; exact .inr (hcc k rfl)
    · exact .inl x

theorem cput_grows {P : Cont → Prop} {h : CHeap} (inv : CInvG V h) {c : CCell} (hc : ∀ lam, c ≠ CCell.lambda lam)
    (hcc : ∀ k, c = CCell.cont k → P k) : Grows P h (cput h c).1 := by
  obtain ⟨g, hfresh⟩ := calloc_grows inv
  have ginv := g.inv inv (fun c hc => hc.elim)
  exact (g.weaken (fun c hc => hc.elim)).trans (cwrite_grows ginv hfresh hc hcc)

end Marwood.Vm.Concrete
