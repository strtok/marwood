import Marwood.Lemmas.EnvFitStack
/-!
# The slot clause of T06.6 as an invariant: the builtins reached from CALL / TCALL, invoking a continuation

The shape of Lemmas/LeadStepC.lean with `PairsOk` in place of `SM` and `FStep` / `HF.step` in place of `OpRes`.
-/
namespace Marwood.Lemmas.Good
open Marwood Marwood.Vm Marwood.Vm.Verify Marwood.Vm.Concrete Marwood.Lemmas.Sim
open Marwood.Heap (GcState vrefs crefs)
open StepC

open FB

theorem invokeCont_fv {s s' : St CHeap} {c : Cont} (g : GoodI s) (f : FInv s)
    (hc : callee s.heap s.acc = .continuation c) (hnp : ¬ InPre s.heap c.ipL c.ipO)
    (h : invokeCont s c = .ok s') : FInv s' := by
  obtain ⟨q, _, hcell⟩ := callee_cont_cell hc
  have hcf : ContF s.heap c := f.hf q _ hcell
  have hlen := g.hg.plain.conts q c hcell
  obtain ⟨n, r, _, _, _, _, _, rfl⟩ := invokeCont_iff.mp h
  refine ⟨f.hf, hcf.1.congr fun i hi => ?_, fun hp => absurd hp hnp, fun _ => hcf.2⟩
  simp only [contSt]
  rw [List.getElem?_append_left (by omega)]

theorem applyShift_fv {h : CHeap} {B S n : Nat} :
    ∀ (k : Nat) (st st' : Stack), builtinApply.shift k st = .ok st' → PairsOk h st.cells B → SA h st B → Blk st S n →
      st.sp + 2 = S → k + 1 ≤ n → PairsOk h st'.cells B ∧ SA h st' B ∧ st'.sp = st.sp := by
  intro k
  induction k with
  | zero =>
    intro st st' hs x y _ _ _
    simp only [builtinApply.shift] at hs
    cases hs
    exact ⟨x, y, rfl⟩
  | succ k ih =>
    intro st st' hs x y z hS hk
    simp only [builtinApply.shift] at hs
    obtain ⟨v, hv, hs⟩ := bind_inv hs
    obtain ⟨st1, hs1, hs⟩ := bind_inv hs
    obtain ⟨r1, r2⟩ := getOffset_inv hv
    have hpg : plainGlob v = true := z _ v (by omega) (by omega) r2
    obtain ⟨k', hk'⟩ := setOffset_inv hs1
    obtain ⟨x1, e1, _⟩ := x.setOffset (NHdr.of_plainGlob hpg) hs1
    have y1 := y.set (.of_nhdr (NHdr.of_plainGlob hpg)) hk'
    have z1 := z.set hpg hk'
    obtain ⟨a, b, c⟩ := ih st1 st' hs x1 y1 z1 (by omega) (by omega)
    exact ⟨a, b, by omega⟩

theorem applyPushList_fv {ext : ExtOps} {s : St CHeap} {h : CHeap} {B : Nat} :
    ∀ (fuel : Nat) (rest : VCell) (n : Nat) (st : Stack) (n' : Nat) (st' : Stack),
      builtinApply.pushList (concreteOps ext) s fuel rest n st = .ok (n', st') →
      PairsOk h st.cells st.sp → SA h st B → PairsOk h st'.cells st'.sp ∧ SA h st' B := by
  intro fuel
  induction fuel with
  | zero => intro rest n st n' st' hh; simp only [builtinApply.pushList] at hh; cases hh
  | succ fuel ih =>
    intro rest n st n' st' hh x y
    simp only [builtinApply.pushList] at hh
    split at hh
    · rename_i car cdr
      exact ih _ _ _ _ _ hh (x.push (nhdr_ptr car).2) (y.push (.of_nhdr (nhdr_ptr car)))
    · cases hh
      exact ⟨x, y⟩
    · cases hh

structure BResF (s s2 : St CHeap) (v : VCell) : Prop where
  hg : HG s2.heap
  hf : HF s2.heap
  fk : FitKeep s.heap s2.heap
  lk : LamKeep s.heap s2.heap
  mono : Mono s.heap s2.heap
  stk : PairsOk s2.heap s2.stack.cells s2.stack.sp
  sa : SA s2.heap s2.stack s2.stack.sp
  ep : s2.ep = s.ep
  ipL : s2.ipL = s.ipL
  ipO : s2.ipO = s.ipO ∨ s2.ipO + 1 = s.ipO
  clo : ∀ l e, v = .closure l e → Fit s2.heap e l
  vr : VRefsOk s2.heap v

theorem BResF.build {s s2 : St CHeap} {v : VCell} {B : Nat} (hg : HG s2.heap) (hf : HF s2.heap)
    (fk : FitKeep s.heap s2.heap) (lk : LamKeep s.heap s2.heap) (mono : Mono s.heap s2.heap)
    (stk : PairsOk s.heap s2.stack.cells s2.stack.sp) (sa : SA s.heap s2.stack B)
    (ep : s2.ep = s.ep) (ipL : s2.ipL = s.ipL) (ipO : s2.ipO = s.ipO ∨ s2.ipO + 1 = s.ipO)
    (clo : ∀ l e, v = .closure l e → Fit s2.heap e l) (vr : VRefsOk s2.heap v) :
    BResF s s2 v :=
  ⟨hg, hf, fk, lk, mono, stk.keep' fk sa.nfe sa.nfl, fun i w hi hw => (sa i w (.inr (by omega)) hw).mono mono,
    ep, ipL, ipO, clo, vr⟩

section
variable {ext : ExtOps} {s s2 : St CHeap} {v : VCell}

theorem builtinApply_fv (g : GoodI s) (hblk : ArgBlock s.stack s.stack.sp) (f : FInv s)
    (h : builtinApply (concreteOps ext) s = .ok (s2, v)) : BResF s s2 v := by
  obtain ⟨argc, top, st2, st3, x0, st4, n, st5, hge, k1, p2, _, e2, c2, r1, r2, h5, h6, h7, u1, rfl⟩ :=
    builtinApply_effect h
  have sa2 : SA s.heap st2 s.stack.sp := (SA.of_good g).resp c2 (.inl (by omega))
  have pk2 : PairsOk s.heap st2.cells st2.sp := by rw [c2]; exact f.stk.mono (by omega)
  have blk2 : Blk st2 s.stack.sp argc := by
    intro i w i1 i2 hw
    rw [c2] at hw
    exact hblk argc p2 i w i1 i2 hw
  -- the procedure
  have hpg : plainGlob v = true := hblk argc p2 _ _ (by omega) (by omega) r2
  have hvr : VRefsOk s.heap v := roots_stack g.roots (by omega) r2
  -- the loops
  obtain ⟨pk3, sa3, e3⟩ := applyShift_fv (h := s.heap) (B := st2.sp) (S := s.stack.sp) (n := argc) _ _ _ h5 pk2
    (fun i w hi hw => sa2 i w (by omega) hw) blk2 (by omega) (by omega)
  have pk4 : PairsOk s.heap st4.cells st4.sp := by
    obtain ⟨_, _, t3, t4⟩ := pop_inv h6
    rw [t4]; exact pk3.mono (by omega)
  have sa4 := sa3.pop h6
  obtain ⟨pk5, sa5⟩ := applyPushList_fv (ext := ext) (s := s) _ _ _ _ _ _ h7 pk4 sa4
  have pk6 := pk5.push (v := .argc n) (nhdr_argc n).2
  have sa6 := sa5.push (v := .argc n) (.of_nhdr (nhdr_argc n))
  exact BResF.build (s := s) g.hg f.hf (fun _ _ _ _ x => x) (fun _ _ x => x) (.refl _) pk6 sa6 rfl rfl
    (.inr (by show s.ipO - 1 + 1 = s.ipO; omega)) (fun l e he => absurd he (plainGlob_not_closure hpg l e)) hvr

theorem builtinCallcc_fv (g : GoodI s) (hblk : ArgBlock s.stack s.stack.sp) (f : FInv s)
    (hfit : Fit s.heap s.ep s.ipL) (h : builtinCallcc (concreteOps ext) s = .ok (s2, v)) (sm : Small s2.heap) :
    BResF s s2 v := by
  obtain ⟨st2, k1, p2, q2, e2, c2, hlen, u1, rfl⟩ := builtinCallcc_effect h
  have sa2 : SA s.heap st2 s.stack.sp := (SA.of_good g).resp c2 (.inl (by omega))
  have pk2 : PairsOk s.heap st2.cells st2.sp := by rw [c2]; exact f.stk.mono (by omega)
  have hpg : plainGlob v = true := hblk 1 p2 _ _ (by omega) (by omega) q2
  have hvr : VRefsOk s.heap v := roots_stack g.roots (by omega) q2
  have hcells : ∀ w ∈ (st2.cells.take (st2.sp + 1)), VRefsOk s.heap w := by
    intro w hw
    obtain ⟨i, hi, hv⟩ := mem_take_succ.mp hw
    exact roots_stack g.roots (by omega) (c2 ▸ hv)
  have r := newCont_hg g.hg (k := ⟨⟨st2.cells.take (st2.sp + 1), st2.sp⟩, s.ep, s.ipL, s.ipO, s.bp⟩)
    hcells (roots_ipL g.roots) (roots_ep g.roots)
    (by simp only [List.length_take]; omega) sm
  have x := newCont_fstep (lf_of_hg g.hg) ⟨⟨st2.cells.take (st2.sp + 1), st2.sp⟩, s.ep, s.ipL, s.ipO, s.bp⟩
  generalize hk : (⟨⟨st2.cells.take (st2.sp + 1), st2.sp⟩, s.ep, s.ipL, s.ipO, s.bp⟩ : Cont) = k at r x sm ⊢
  have b' : (cput s.heap (.cont k)).1.cells.size ≤ 2 ^ 63 := small_bound sm
  have fk := x.fitKeep g.hg b'
  -- the continuation object's clause
  have pkc : PairsOk s.heap k.stack.cells k.stack.sp := by
    subst hk
    refine pk2.congr ?_
    intro i hi
    simp only at hi ⊢
    rw [List.getElem?_take, if_pos (by omega)]
  have hcf : ContF (cput s.heap (.cont k)).1 k := by
    refine ⟨pkc.keep' fk ?_ ?_, ?_⟩
    · intro i e hi hv
      subst hk
      simp only at hi hv
      rw [List.getElem?_take, if_pos (by omega)] at hv
      exact sa2.nfe i e hi hv
    · intro i l o hi hv
      subst hk
      simp only at hi hv
      rw [List.getElem?_take, if_pos (by omega)] at hv
      exact sa2.nfl i l o hi hv
    · subst hk
      exact fk _ _ (roots_ep g.roots) (roots_ipL g.roots) hfit
  have hf' : HF (cput s.heap (.cont k)).1 :=
    HF.step g.hg b' f.hf x (fun i c _ hc => by subst hc; exact hcf)
  have pk3 := (pk2.push (v := .ptr (cput s.heap (.cont k)).2) (nhdr_ptr _).2).push (v := .argc 1) (nhdr_argc 1).2
  have sa3 := (sa2.push (v := .ptr (cput s.heap (.cont k)).2) (.of_nhdr (nhdr_ptr _))).push (v := .argc 1)
    (.of_nhdr (nhdr_argc 1))
  exact BResF.build (s := s) r.1 hf' fk (lamKeep_of_ls x.ls) r.2.1 pk3 sa3 rfl rfl
    (.inr (by show s.ipO - 1 + 1 = s.ipO; omega)) (fun l e he => absurd he (plainGlob_not_closure hpg l e))
    (hvr.mono r.2.1)

theorem builtinEvalProc_fv (eg : ExtGood ext) (ef : ExtFit ext) (g : GoodI s) (hblk : ArgBlock s.stack s.stack.sp)
    (f : FInv s) (h : builtinEvalProc (concreteOps ext) s = .ok (s2, v)) (sm : Small s2.heap) : BResF s s2 v := by
  obtain ⟨e, st2, h', k1, p2, q2, e2, c2, h4, u1, rfl⟩ := builtinEvalProc_effect h
  have sa2 : SA s.heap st2 s.stack.sp := (SA.of_good g).resp c2 (.inl (by omega))
  have pk2 : PairsOk s.heap st2.cells st2.sp := by rw [c2]; exact f.stk.mono (by omega)
  have hpg : plainGlob e = true := hblk 1 p2 _ _ (by omega) (by omega) q2
  have hvr : VRefsOk s.heap e := roots_stack g.roots (by omega) q2
  have hd := (deref_ok g.hg hvr (plainGlob_plainVal hpg)).1
  obtain ⟨r1, r2, r3, r4⟩ := eg.compile _ _ _ _ g.hg hd h4 sm
  obtain ⟨t1, t2, t3, t4⟩ := ef.compile _ _ _ _ g.hg r1 f.hf (lf_of_hg g.hg) hd h4
  have pk3 := pk2.push (v := .argc 0) (nhdr_argc 0).2
  have sa3 := sa2.push (v := .argc 0) (.of_nhdr (nhdr_argc 0))
  exact BResF.build (s := s) r1 t1 t2 t3 r2 pk3 sa3 rfl rfl (.inr (by show s.ipO - 1 + 1 = s.ipO; omega)) t4 r4

theorem builtinGeneric_fv {id : Nat} (eg : ExtGood ext) (ef : ExtFit ext) (g : GoodI s)
    (hblk : ArgBlock s.stack s.stack.sp) (f : FInv s)
    (h : builtinGeneric (concreteOps ext) id s = .ok (s2, v)) (sm : Small s2.heap) : BResF s s2 v := by
  obtain ⟨argc, args, st2, h', p2, c2, e2, q3, h4, rfl⟩ := builtinGeneric_effect h
  have sa2 : SA s.heap st2 s.stack.sp := (SA.of_good g).resp c2 (.inl (by omega))
  have pk2 : PairsOk s.heap st2.cells st2.sp := by rw [c2]; exact f.stk.mono (by omega)
  have hargs : ∀ x ∈ args, VOk s.heap x := by
    intro x hx
    obtain ⟨i, i1, i2, i3⟩ := q3 x hx
    exact ⟨hblk argc p2 i x (by omega) (by omega) i3, roots_stack g.roots (by omega) i3⟩
  obtain ⟨r1, r2, r3, r4⟩ := eg.eval _ _ _ _ _ g.hg hargs h4 sm
  obtain ⟨t1, t2, t3, t4⟩ := ef.eval _ _ _ _ _ g.hg r1 f.hf (lf_of_hg g.hg) hargs h4
  exact BResF.build (s := s) r1 t1 t2 t3 r2 pk2 sa2 rfl rfl (.inl rfl) t4 r4

theorem BResF.finish {N : CCell → Prop} {s s2 s' : St CHeap} {v : VCell} (g : GoodI s) (r : BResF s s2 v)
    (x : FStep N s2.heap s'.heap) (b' : s'.heap.cells.size ≤ 2 ^ 63)
    (hN : ∀ (i : Nat) (c : CCell), s'.heap.cells[i]? = some c → N c → CellF s'.heap c)
    (hst : s'.stack = s2.stack) (hep : s'.ep = s2.ep) (hl : s'.ipL = s2.ipL) (ho : s'.ipO = s2.ipO)
    (hfit : Fit s.heap s.ep s.ipL) (hlam : ∃ lam, lambdaAt s.heap s.ipL = some lam)
    (h1 : 1 ≤ s.ipO → ¬ InPre s.heap s.ipL (s.ipO - 1)) (h2 : ¬ InPre s.heap s.ipL s.ipO) : FInv s' := by
  have fk2 := x.fitKeep r.hg b'
  refine ⟨HF.step r.hg b' r.hf x hN, ?_, ?_, ?_⟩
  · rw [hst]; exact r.stk.keep' fk2 r.sa.nfe r.sa.nfl
  · intro hp
    exfalso
    rw [hl, r.ipL, ho, InPre.ls x.ls] at hp
    obtain ⟨lam, hlam⟩ := hlam
    have hp' := InPre.lamKeep r.lk hlam hp
    rcases r.ipO with e | e
    · rw [e] at hp'; exact h2 hp'
    · have e' : s2.ipO = s.ipO - 1 := by omega
      rw [e'] at hp'; exact h1 (by omega) hp'
  · intro _
    rw [hep, hl, r.ep, r.ipL]
    exact fk2 _ _ ((roots_ep g.roots).mono r.mono) ((roots_ipL g.roots).mono r.mono)
      (r.fk _ _ (roots_ep g.roots) (roots_ipL g.roots) hfit)

/-- `s` is the state after the opcode has been read: `s.ipO - 1` is the offset of CALL / TCALL, where `apply`, `call/cc` and
    `eval` go back to -/
theorem runBuiltin_fv {id : Nat} {s s' : St CHeap} (eg : ExtGood ext) (ef : ExtFit ext) (g : GoodI s)
    (hblk : ArgBlock s.stack s.stack.sp) (sm' : Small s'.heap) (f : FInv s)
    (hfit : Fit s.heap s.ep s.ipL) (hlam : ∃ lam, lambdaAt s.heap s.ipL = some lam)
    (h1 : 1 ≤ s.ipO → ¬ InPre s.heap s.ipL (s.ipO - 1)) (h2 : ¬ InPre s.heap s.ipL s.ipO)
    (hr : runBuiltin (concreteOps ext) id s = .ok s') : FInv s' := by
  rw [runBuiltin_accTail] at hr
  obtain ⟨⟨s2, v⟩, hb, hr⟩ := bind_inv hr
  have key : Small s2.heap → BResF s s2 v := by
    intro sm2
    cases hk : (concreteOps ext).builtinKind s.heap id <;> rw [hk] at hb <;> simp only at hb
    · exact builtinApply_fv g hblk f hb
    · exact builtinEvalProc_fv eg ef g hblk f hb sm2
    · exact builtinCallcc_fv g hblk f hfit hb sm2
    · exact builtinGeneric_fv eg ef g hblk f hb sm2
  cases (accTail_eq ext s2 v).symm.trans hr
  have r := key (sm'.of_le (maybePutV_size _ _))
  have x := maybePutV_fstep (lf_of_hg r.hg) v
  have b' : (maybePutV s2.heap v).1.cells.size ≤ 2 ^ 63 := small_bound sm'
  refine r.finish (s' := { s2 with heap := (maybePutV s2.heap v).1, acc := (maybePutV s2.heap v).2 }) g x b' ?_
    rfl rfl rfl rfl hfit hlam h1 h2
  intro i c _ hc
  subst hc
  intro l e he
  subst he
  exact x.fitKeep r.hg b' e l (r.vr e (by simp [eraseV, vrefs])) (r.vr l (by simp [eraseV, vrefs])) (r.clo l e rfl)

end

end Marwood.Lemmas.Good
