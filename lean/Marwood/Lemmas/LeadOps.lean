import Marwood.Lemmas.LeadDefs
/-!
# "No value leads to a code object of class `K`": the heap operations of `run_one`, and the law of the unmodelled ones

Each modelled heap operation keeps `HP`, `LF` and every lambda cell (`OpRes`) and returns a value that does not point to a
`K` lambda. `ExtLead I ext` is what is assumed of the parameters of the concrete model (`ExtOps`).
-/
namespace Marwood.Lemmas.Lead
open Marwood.Lemmas.Good Marwood Marwood.Vm Marwood.Vm.Verify Marwood.Vm.Concrete Marwood.Lemmas.Sim
open Marwood.Heap (GcState)

structure OpRes (I : Spec) (h h' : CHeap) : Prop where
  hp : HP I h'
  lf : LF h'
  ls : LamSame h h'

variable {I : Spec}

theorem OpRes.refl {h : CHeap} (hp : HP I h) (lf : LF h) : OpRes I h h := ⟨hp, lf, .refl h⟩

theorem OpRes.trans {a b c : CHeap} (x : OpRes I a b) (y : OpRes I b c) : OpRes I a c := ⟨y.hp, y.lf, x.ls.trans y.ls⟩

theorem OpRes.eshr {h h' : CHeap} (r : OpRes I h h') : EShr I h h' := r.ls.shr

theorem OpRes.ne {h h' : CHeap} (r : OpRes I h h') {v : VCell} (x : ne I h v = true) : ne I h' v = true := by
  rw [r.ls.ne]; exact x

theorem OpRes.valX {h h' : CHeap} (r : OpRes I h h') {v : VCell} (x : valX I h v = true) : valX I h' v = true := by
  rw [r.ls.valX]; exact x

theorem cput_res {h : CHeap} (lf : LF h) (hp : HP I h) {c : CCell} (hc : ∀ lam, c ≠ CCell.lambda lam)
    (ok : cellX I h c = true) : OpRes I h (cput h c).1 ∧ bad I (cput h c).1 (cput h c).2 = false := by
  obtain ⟨a, b, c', d⟩ := cput_hp lf hp hc ok
  exact ⟨⟨a, b, c'⟩, d⟩

theorem cwrite_res {h : CHeap} (lf : LF h) (hp : HP I h) {p : Nat} {c : CCell}
    (hold : ∀ lam, h.cells[p]? ≠ some (CCell.lambda lam)) (hc : ∀ lam, c ≠ CCell.lambda lam)
    (ok : cellX I h c = true) : OpRes I h (cwrite h p c) := by
  have ls : LamSame h (cwrite h p c) := lambdaAt_cwrite hold hc
  refine ⟨⟨?_, ?_, ?_⟩, ?_, ls⟩
  · intro i x hx
    rw [ls.cellX]
    rw [cwrite_cells] at hx
    split at hx
    · cases hx; exact ok
    · exact hp.cells i x hx
  · intro n v hv
    rw [ls.ne]
    exact hp.globals n v hv
  · intro name q hl
    rw [ls.bad]
    exact hp.sym name q hl
  · exact fun l lam hl hm => lf l lam (ls.cell hl) hm

theorem putNew_res {h : CHeap} (lf : LF h) (hp : HP I h) {v : VCell} (hv : valX I h v = true) :
    OpRes I h (putNew h v).1 ∧ ne I (putNew h v).1 (putNew h v).2 = true := by
  have hc : ∀ lam, CCell.val v ≠ CCell.lambda lam := fun lam hh => by cases hh
  cases hs : symOf v with
  | none =>
    have e : putNew h v = ((cput h (.val v)).1, .ptr (cput h (.val v)).2) := by simp only [putNew, hs]
    rw [e]
    obtain ⟨r, he⟩ := cput_res lf hp hc hv
    exact ⟨r, by simp only [ne_ptr, he]; rfl⟩
  | some name =>
    cases hk : symLookup h name with
    | some p =>
      have e : putNew h v = (h, .ptr p) := by simp only [putNew, hs, hk]
      rw [e]
      refine ⟨.refl hp lf, ?_⟩
      simp only [ne_ptr, hp.sym name p hk]; rfl
    | none =>
      have e : putNew h v = ({ (cput h (.val v)).1 with
          symtab := Heap.Heap.symInsert (cput h (.val v)).1.symtab name (cput h (.val v)).2 },
          .ptr (cput h (.val v)).2) := by simp only [putNew, hs, hk]
      rw [e]
      obtain ⟨r, he⟩ := cput_res lf hp hc hv
      have ls2 : LamSame (cput h (.val v)).1 { (cput h (.val v)).1 with
          symtab := Heap.Heap.symInsert (cput h (.val v)).1.symtab name (cput h (.val v)).2 } := .of_cells rfl
      refine ⟨⟨⟨?_, ?_, ?_⟩, ?_, r.ls.trans ls2⟩, ?_⟩
      · intro i x hx
        rw [ls2.cellX]
        exact r.hp.cells i x hx
      · intro n w hw
        rw [ls2.ne]
        exact r.hp.globals n w hw
      · intro nm q hl
        rw [ls2.bad]
        have hl' : ((Heap.Heap.symInsert (cput h (.val v)).1.symtab name (cput h (.val v)).2).find? (·.1 = nm)).map (·.2) =
            some q := hl
        rw [Lemmas.GcSweep.lookup_insert] at hl'
        split at hl'
        · cases hl'; exact he
        · exact r.hp.sym nm q hl'
      · intro l lam hl hm
        exact r.lf l lam hl hm
      · simp only [ne_ptr]
        rw [ls2.bad, he]; rfl

theorem putV_res {h : CHeap} (lf : LF h) (hp : HP I h) {v : VCell} (hv : valX I h v = true) :
    OpRes I h (putV h v).1 ∧ ne I (putV h v).1 (putV h v).2 = true := by
  unfold putV
  split
  · exact ⟨.refl hp lf, ne_of_valX hv⟩
  · exact putNew_res lf hp hv

theorem maybePutV_res {h : CHeap} (lf : LF h) (hp : HP I h) {v : VCell} (hv : valX I h v = true) :
    OpRes I h (maybePutV h v).1 ∧ ne I (maybePutV h v).1 (maybePutV h v).2 = true := by
  unfold maybePutV
  split
  · exact ⟨.refl hp lf, ne_of_valX hv⟩
  · exact putNew_res lf hp hv

theorem globPut_res {h : CHeap} (lf : LF h) (hp : HP I h) (n : Nat) {v : VCell} (hv : ne I h v = true) :
    OpRes I h { h with globals := h.globals.setIfInBounds n v } := by
  have ls : LamSame h { h with globals := h.globals.setIfInBounds n v } := .of_cells rfl
  refine ⟨⟨?_, ?_, ?_⟩, ?_, ls⟩
  · intro i x hx; rw [ls.cellX]; exact hp.cells i x hx
  · intro k w hw
    rw [ls.ne]
    have hw' : (h.globals.setIfInBounds n v)[k]? = some w := hw
    by_cases hk : n = k
    · subst hk
      by_cases hl : n < h.globals.size
      · rw [Array.getElem?_setIfInBounds_self_of_lt hl] at hw'
        cases hw'; exact hv
      · rw [Array.getElem?_eq_none (by simp; omega)] at hw'; cases hw'
    · rw [Array.getElem?_setIfInBounds_ne hk] at hw'
      exact hp.globals k w hw'
  · intro name q hl; rw [ls.bad]; exact hp.sym name q hl
  · intro l lam hl hm; exact lf l lam hl hm

theorem envAt_slots {h : CHeap} (hp : HP I h) {e : Nat} {ss : List VCell} (he : envAt h e = some ss) :
    ∀ v ∈ ss, ne I h v = true := by
  have := hp.cells e _ (envAt_cell he)
  have h2 : ss.all (ne I h) = true := this
  rw [List.all_eq_true] at h2
  exact h2

theorem envGet_ne {h : CHeap} (hp : HP I h) {e k : Nat} {v : VCell} (hg : envGet h e k = some v) : ne I h v = true := by
  unfold envGet at hg
  cases he : envAt h e with
  | none => rw [he] at hg; cases hg
  | some ss =>
    rw [he] at hg
    exact envAt_slots hp he v (List.mem_of_getElem? hg)

theorem envPut_res {h h' : CHeap} (lf : LF h) (hp : HP I h) {e k : Nat} {v : VCell} (hv : ne I h v = true)
    (hpt : envPut h e k v = some h') : OpRes I h h' := by
  obtain ⟨ss, hc, _, rfl⟩ := envPut_inv hpt
  refine cwrite_res lf hp (fun lam hl => nomatch hc.symm.trans hl) (fun lam hh => nomatch hh) ?_
  show (ss.set k v).all (ne I h) = true
  rw [List.all_eq_true]
  intro w hw
  rcases (List.mem_or_eq_of_mem_set hw).symm with rfl | hw
  · exact hv
  · exact envAt_slots hp (envAt_iff.mpr hc) w hw

/-- a slot CLOSURE makes is a `LexicalEnvPtr` or `Undefined`, never a `Ptr`: `ne` holds whatever the heap. An
    `IofArgument` source is excluded (`LamOk.noIof`): `loadArg` would copy an arbitrary stack cell. -/
theorem closureSlots_ne {h : CHeap} {ep bp : Nat} {st : Stack} (em : List (VCell × Source)) (slots : List VCell)
    (hno : ∀ x ∈ em, ∀ n, x.2 ≠ Source.iofArg n) (hc : closureSlots h ep bp st em = .ok slots) (v : VCell)
    (hv : v ∈ slots) : ne I h v = true := by
  obtain ⟨⟨sym, src⟩, hx, h1⟩ := (closureSlots_mem em slots hc).2 v hv
  cases src with
  | iofArg n => exact absurd rfl (hno _ hx n)
  | iofEnv k =>
    simp only [closureSlot] at h1
    repeat' split at h1
    all_goals first | (cases h1; rfl) | cases h1
  | global => simp only [closureSlot] at h1; cases h1; rfl
  | arg n => simp only [closureSlot] at h1; cases h1; rfl
  | internal => simp only [closureSlot] at h1; cases h1; rfl

theorem makeClosure_res {h h' : CHeap} (lf : LF h) (hp : HP I h) {lam ep bp : Nat} {st : Stack} {c : VCell}
    (hne : bad I h lam = false ∨ I.site = true)
    (hno : ∀ l, lambdaAt h lam = some l → ∀ x ∈ l.envmap, ∀ n, x.2 ≠ Source.iofArg n)
    (hm : makeClosure h lam ep bp st = .ok (h', c)) : OpRes I h h' ∧ ne I h' c = true := by
  unfold makeClosure at hm
  cases hl : lambdaAt h lam with
  | none => rw [hl] at hm; cases hm
  | some l =>
    rw [hl] at hm
    simp only at hm
    obtain ⟨slots, hsl, hm⟩ := bind_inv hm
    cases hm
    have hsn := closureSlots_ne (I := I) l.envmap slots (hno l hl) hsl
    obtain ⟨r1, _⟩ := cput_res lf hp (c := .lexEnv slots) (fun lam hh => by cases hh)
      (by show slots.all (ne I h) = true; rw [List.all_eq_true]; exact hsn)
    have hpr : clos I (cput h (.lexEnv slots)).1 lam = true := by
      rw [r1.ls.clos]; exact clos_of_lambda hl hne
    obtain ⟨r2, he2⟩ := cput_res r1.lf r1.hp (c := .val (.closure lam (cput h (.lexEnv slots)).2))
      (fun lam hh => by cases hh) hpr
    exact ⟨r1.trans r2, by simp only [ne_ptr, he2]; rfl⟩

theorem activationSlots_ne {h : CHeap} {env bp argc : Nat} {st : Stack}
    (hst : ∀ (i : Nat) (v : VCell), i ≤ bp + 1 → st.cells[i]? = some v → ne I h v = true)
    (em : List (VCell × Source)) (slot : Nat) (olds slots : List VCell) (ho : ∀ v ∈ olds, ne I h v = true)
    (hc : activationSlots env bp argc st slot olds em = .ok slots) (v : VCell) (hv : v ∈ slots) : ne I h v = true := by
  rcases (activationSlots_mem em slot olds slots hc).2 v hv with hm | ⟨k, old, ⟨sym, src⟩, hk, _, h1⟩
  · exact ho v hm
  · have hold : ne I h old = true := ho old (List.mem_of_getElem? hk)
    cases src with
    | arg a =>
      simp only [activationSlot] at h1
      obtain ⟨d, hd, h1⟩ := bind_inv h1
      obtain ⟨base, hb, h1⟩ := bind_inv h1
      obtain ⟨_, e2⟩ := usub_ok hb
      unfold Stack.get at h1
      split at h1
      · rename_i w hw; cases h1; exact hst _ _ (by omega) hw
      · cases h1
    | iofArg n =>
      simp only [activationSlot] at h1
      split at h1 <;> (cases h1; first | exact hold | rfl)
    | iofEnv n =>
      simp only [activationSlot] at h1
      split at h1 <;> (cases h1; first | exact hold | rfl)
    | global => simp only [activationSlot] at h1; cases h1; exact hold
    | internal => simp only [activationSlot] at h1; cases h1; exact hold

theorem makeActivation_res {h h' : CHeap} (lf : LF h) (hp : HP I h) {lam env bp : Nat} {st : Stack} {e : Nat}
    (hst : ∀ (i : Nat) (v : VCell), i ≤ bp + 1 → st.cells[i]? = some v → ne I h v = true)
    (hm : makeActivation h lam env bp st = .ok (h', e)) : OpRes I h h' := by
  unfold makeActivation at hm
  cases hl : lambdaAt h lam with
  | none => rw [hl] at hm; cases hm
  | some l =>
    rw [hl] at hm
    simp only at hm
    cases he : envAt h env with
    | none => rw [he] at hm; cases hm
    | some olds =>
      rw [he] at hm
      simp only at hm
      obtain ⟨slots, hsl, hm⟩ := bind_inv hm
      cases hm
      have hsn := activationSlots_ne hst l.envmap 0 olds slots (envAt_slots hp he) hsl
      exact (cput_res lf hp (c := .lexEnv slots) (fun lam hh => by cases hh)
        (by show slots.all (ne I h) = true; rw [List.all_eq_true]; exact hsn)).1

theorem newCont_res {h : CHeap} (lf : LF h) (hp : HP I h) {k : Cont} (hs : ∀ v ∈ k.stack.cells, ne I h v = true) :
    OpRes I h (cput h (.cont k)).1 ∧ bad I (cput h (.cont k)).1 (cput h (.cont k)).2 = false :=
  cput_res lf hp (c := .cont k) (fun lam hh => by cases hh)
    (by show k.stack.cells.all (ne I h) = true; rw [List.all_eq_true]; exact hs)

theorem cont_cells_ne {h : CHeap} (hp : HP I h) {p : Nat} {k : Cont} (hc : h.cells[p]? = some (CCell.cont k)) :
    ∀ v ∈ k.stack.cells, ne I h v = true := by
  have := hp.cells p _ hc
  have h2 : k.stack.cells.all (ne I h) = true := this
  rw [List.all_eq_true] at h2
  exact h2

theorem deref_valX {h : CHeap} (hp : HP I h) {v : VCell} (hpl : plainGlob v = true) (hn : ne I h v = true) :
    valX I h (deref h v) = true := by
  cases v with
  | ptr p =>
    show valX I h (getAt h p) = true
    unfold getAt
    cases hc : h.cells[p]? with
    | none => rfl
    | some c =>
      cases c with
      | val w => exact hp.cells p _ hc
      | _ => rfl
  | _ => exact valX_of_value hpl hn

/-- `eval`'s compiler creates code objects at fresh addresses only: values that referred to allocated cells are unaffected -/
def EKeep (I : Spec) (h h' : CHeap) : Prop := ∀ v, VRefsOk h v → ne I h v = true → ne I h' v = true

theorem EShr.ekeep {h h' : CHeap} (es : EShr I h h') : EKeep I h h' := fun _ _ hv => es.ne hv

/-- **Assumed of the parameters of the concrete model** (`ExtOps`): on a heap satisfying `HP` and `LF` and arguments that are
    values not pointing to a `K` lambda, the generic builtins and VPUSH's push create no `K` lambda (`EShr`), return a heap
    satisfying `HP` and a result that `maybe_put` may store (`valX`); `eval`'s compiler may create `K` lambdas, at fresh
    addresses (`EKeep`). -/
structure ExtLead (I : Spec) (ext : ExtOps) : Prop where
  eval : ∀ (h : CHeap) (id : Nat) (args : List VCell) (h' : CHeap) (v : VCell), HP I h → LF h →
    (∀ a ∈ args, plainGlob a = true ∧ ne I h a = true) →
    ext.builtinEval h id args = .ok (h', v) → HP I h' ∧ EShr I h h' ∧ valX I h' v = true
  compile : ∀ (h : CHeap) (d : VCell) (h' : CHeap) (v : VCell), HP I h → LF h → valX I h d = true →
    ext.compileEval h d = .ok (h', v) → HP I h' ∧ EKeep I h h' ∧ valX I h' v = true
  vpush : ∀ (h : CHeap) (vec a : VCell) (h' : CHeap), HP I h → LF h → plainGlob a = true →
    ne I h a = true → ext.vectorPush h vec a = .ok h' → HP I h' ∧ EShr I h h'

end Marwood.Lemmas.Lead
