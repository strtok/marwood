import Marwood.Spec.Reach
import Marwood.Lemmas.HeapOps
/-!
# The worklist marker computes exactly the reachable set (generic part of T03.1)

For any array of node states, any "is marked" test `isM`, any marked value `m` with `isM m`, any
child function: if `markLoop` returns, the marked nodes of the result are the previously marked
ones plus everything reachable from the worklist (soundness), all of those are marked and the
marked set is closed under children provided the start was (completeness), every other entry is
untouched (frame), and fuel `|work| + Σ_{unmarked x} |children x|` always suffices (adequacy).
-/
namespace Marwood.Lemmas.GcMark
open Marwood.Heap Marwood.Spec

variable {α : Type} (isM : α → Bool) (m : α) (children : Nat → List Nat)

def Marked (a : Array α) (x : Nat) : Prop := ∃ s, a[x]? = some s ∧ isM s = true

theorem reach_mono {n : Nat} {r₁ r₂ : List Nat}
    (h : ∀ x ∈ r₁, x < n → Reach children n r₂ x) :
    ∀ {x}, Reach children n r₁ x → Reach children n r₂ x := by
  intro x hx
  induction hx with
  | root hm hl => exact h _ hm hl
  | step _ hc hl ih => exact Reach.step ih hc hl

theorem reach_lt {n : Nat} {r : List Nat} {x : Nat} (h : Reach children n r x) : x < n := by
  cases h with
  | root _ hl => exact hl
  | step _ _ hl => exact hl

/-- A run of the loop is a sequence of two kinds of step: the head of the worklist is dropped (out of
range, or marked already), or it is marked and its children go in front. What holds of the empty run
and is carried backwards over both kinds of step holds of every run that returns. -/
theorem markLoop_induction {motive : List Nat → Array α → Array α → Prop}
    (nil : ∀ a, motive [] a a)
    (skip : ∀ x w a r, a[x]? = none ∨ Marked isM a x → motive w a r → motive (x :: w) a r)
    (visit : ∀ x w a r s, a[x]? = some s → ¬ isM s = true →
      motive (children x ++ w) (a.setIfInBounds x m) r → motive (x :: w) a r) :
    ∀ (f : Nat) (w : List Nat) (a r : Array α), markLoop isM m children f w a = some r → motive w a r := by
  intro f
  induction f with
  | zero =>
    intro w a r h
    cases w with
    | nil => cases h; exact nil a
    | cons x w => cases h
  | succ f ih =>
    intro w a r h
    cases w with
    | nil => cases h; exact nil a
    | cons x w =>
      rw [markLoop] at h
      split at h
      · next hn => exact skip x w a r (Or.inl hn) (ih _ _ _ h)
      · next s hs =>
        split at h
        · next hms => exact skip x w a r (Or.inr ⟨s, hs, hms⟩) (ih _ _ _ h)
        · next hns => exact visit x w a r s hs hns (ih _ _ _ h)

theorem not_marked_of_getElem? {a : Array α} {x : Nat} {s : α} (hs : a[x]? = some s) (hns : ¬ isM s = true) :
    ¬ Marked isM a x := by
  rintro ⟨s', hs', hm'⟩
  rw [hs] at hs'; cases hs'; exact hns hm'

theorem markLoop_size (f : Nat) (w : List Nat) (a r : Array α)
    (h : markLoop isM m children f w a = some r) : r.size = a.size :=
  markLoop_induction isM m children (motive := fun _ a r => r.size = a.size) (fun _ => rfl)
    (fun _ _ _ _ _ ih => ih) (fun _ _ _ _ _ _ _ ih => ih.trans Array.size_setIfInBounds) f w a r h

theorem markLoop_frame (f : Nat) (w : List Nat) (a r : Array α)
    (h : markLoop isM m children f w a = some r) :
    ∀ x, r[x]? = a[x]? ∨ (r[x]? = some m ∧ ¬ Marked isM a x ∧ x < a.size) := by
  refine markLoop_induction isM m children
    (motive := fun _ a r => ∀ x, r[x]? = a[x]? ∨ (r[x]? = some m ∧ ¬ Marked isM a x ∧ x < a.size))
    (fun _ _ => Or.inl rfl) (fun _ _ _ _ _ ih => ih) ?_ f w a r h
  intro y w a r s hs hns ih x
  have hy := lt_of_get_some hs
  by_cases hxy : y = x
  · subst hxy
    refine Or.inr ⟨?_, not_marked_of_getElem? isM hs hns, hy⟩
    rcases ih y with h1 | ⟨h1, _⟩
    · rw [h1, Array.getElem?_setIfInBounds_self, if_pos hy]
    · exact h1
  · rcases ih x with h1 | ⟨h1, h2, h3⟩
    · left; rw [h1, Array.getElem?_setIfInBounds_ne hxy]
    · refine Or.inr ⟨h1, fun hc => h2 ?_, Array.size_setIfInBounds ▸ h3⟩
      obtain ⟨s', hs', hm'⟩ := hc
      exact ⟨s', by rw [Array.getElem?_setIfInBounds_ne hxy]; exact hs', hm'⟩

variable (hm : isM m = true)
include hm

theorem marked_set_self {a : Array α} {x : Nat} (hx : x < a.size) :
    Marked isM (a.setIfInBounds x m) x :=
  ⟨m, by rw [Array.getElem?_setIfInBounds_self, if_pos hx], hm⟩

theorem marked_set_of_marked {a : Array α} {x y : Nat} (h : Marked isM a y) :
    Marked isM (a.setIfInBounds x m) y := by
  by_cases hxy : x = y
  · subst hxy
    obtain ⟨s, hs, _⟩ := h
    exact marked_set_self isM m hm (lt_of_get_some hs)
  · obtain ⟨s, hs, hms⟩ := h
    exact ⟨s, by rw [Array.getElem?_setIfInBounds_ne hxy]; exact hs, hms⟩

omit hm in
theorem marked_set_inv {a : Array α} {x y : Nat} (h : Marked isM (a.setIfInBounds x m) y) :
    y = x ∨ Marked isM a y := by
  by_cases hxy : x = y
  · exact Or.inl hxy.symm
  · obtain ⟨s, hs, hms⟩ := h
    exact Or.inr ⟨s, by rw [Array.getElem?_setIfInBounds_ne hxy] at hs; exact hs, hms⟩

omit hm in
theorem markLoop_sound (f : Nat) (w : List Nat) (a r : Array α)
    (h : markLoop isM m children f w a = some r) :
    ∀ x, Marked isM r x → Marked isM a x ∨ Reach children a.size w x := by
  refine markLoop_induction isM m children
    (motive := fun w a r => ∀ x, Marked isM r x → Marked isM a x ∨ Reach children a.size w x)
    (fun _ _ hx => Or.inl hx) ?_ ?_ f w a r h
  · intro y w a r _ ih x hx
    exact (ih x hx).imp id
      (reach_mono children fun z hz hl => Reach.root (List.mem_cons_of_mem _ hz) hl)
  · intro y w a r s hs hns ih x hx
    have hy := lt_of_get_some hs
    rcases ih x hx with h1 | h1
    · rcases marked_set_inv isM m h1 with h2 | h2
      · subst h2; exact Or.inr (Reach.root List.mem_cons_self hy)
      · exact Or.inl h2
    · rw [Array.size_setIfInBounds] at h1
      refine Or.inr (reach_mono children ?_ h1)
      intro z hz hl
      rcases List.mem_append.mp hz with h3 | h3
      · exact Reach.step (Reach.root List.mem_cons_self hy) h3 hl
      · exact Reach.root (List.mem_cons_of_mem _ h3) hl

def ClosedIn (w : List Nat) (a : Array α) : Prop :=
  ∀ x, Marked isM a x → ∀ y ∈ children x, y < a.size → Marked isM a y ∨ y ∈ w

theorem markLoop_complete (f : Nat) (w : List Nat) (a r : Array α)
    (h : markLoop isM m children f w a = some r) : ClosedIn isM children w a →
    (∀ x, Marked isM a x → Marked isM r x) ∧ (∀ x ∈ w, x < a.size → Marked isM r x) ∧
      ClosedIn isM children [] r := by
  refine markLoop_induction isM m children
    (motive := fun w a r => ClosedIn isM children w a →
      (∀ x, Marked isM a x → Marked isM r x) ∧ (∀ x ∈ w, x < a.size → Marked isM r x) ∧
        ClosedIn isM children [] r)
    (fun _ hinv => ⟨fun _ h => h, fun _ hx => (nomatch hx), hinv⟩) ?_ ?_ f w a r h
  · -- `y` is dropped: in range it is marked already, so nothing is lost
    intro y w a r hy ih hinv
    have hym : y < a.size → Marked isM a y := fun hl => hy.resolve_left fun hn => by
      rw [Array.getElem?_eq_getElem hl] at hn; cases hn
    obtain ⟨h1, h2, h3⟩ := ih fun x hx z hz hl => (hinv x hx z hz hl).elim Or.inl fun hm =>
      (List.mem_cons.mp hm).elim (fun e => Or.inl (e ▸ hym (e ▸ hl))) Or.inr
    refine ⟨h1, fun x hx hl => ?_, h3⟩
    rcases List.mem_cons.mp hx with h4 | h4
    · exact h1 _ (h4 ▸ hym (h4 ▸ hl))
    · exact h2 x h4 hl
  · -- `y` is marked and its children go in front: the invariant holds of the new worklist and array
    intro y w a r s hs hns ih hinv
    have hy := lt_of_get_some hs
    have hinv' : ClosedIn isM children (children y ++ w) (a.setIfInBounds y m) := by
      intro x hx z hz hl
      rw [Array.size_setIfInBounds] at hl
      rcases marked_set_inv isM m hx with h1 | h1
      · subst h1; exact Or.inr (List.mem_append.mpr (Or.inl hz))
      · rcases hinv x h1 z hz hl with h2 | h2
        · exact Or.inl (marked_set_of_marked isM m hm h2)
        · rcases List.mem_cons.mp h2 with h3 | h3
          · subst h3; exact Or.inl (marked_set_self isM m hm hy)
          · exact Or.inr (List.mem_append.mpr (Or.inr h3))
    obtain ⟨h1, h2, h3⟩ := ih hinv'
    refine ⟨fun x hx => h1 x (marked_set_of_marked isM m hm hx), fun x hx hl => ?_, h3⟩
    rcases List.mem_cons.mp hx with h4 | h4
    · subst h4; exact h1 _ (marked_set_self isM m hm hy)
    · exact h2 x (List.mem_append.mpr (Or.inr h4)) (by rw [Array.size_setIfInBounds]; exact hl)

theorem markLoop_exact (f : Nat) (w : List Nat) (a r : Array α)
    (h : markLoop isM m children f w a = some r) (h0 : ∀ x, ¬ Marked isM a x) :
    ∀ x, Marked isM r x ↔ Reach children a.size w x := by
  intro x
  constructor
  · intro hx
    rcases markLoop_sound isM m children f w a r h x hx with h1 | h1
    · exact absurd h1 (h0 x)
    · exact h1
  · intro hx
    obtain ⟨_, h2, h3⟩ := markLoop_complete isM m children hm f w a r h
      (by intro x hx; exact absurd hx (h0 x))
    have hsz := markLoop_size isM m children f w a r h
    induction hx with
    | root hmem hl => exact h2 _ hmem hl
    | step _ hc hl ih =>
      rcases h3 _ ih _ hc (by rw [hsz]; exact hl) with h4 | h4
      · exact h4
      · simp at h4

omit hm

/-- references leaving node `x` that the loop may still have to push: none once `x` is marked -/
def load (a : Array α) (x : Nat) : Nat :=
  match a[x]? with
  | some s => if isM s then 0 else (children x).length
  | none => 0

def weight (a : Array α) : Nat := ((List.range a.size).map (load isM children a)).sum

theorem load_le (a : Array α) (x : Nat) : load isM children a x ≤ (children x).length := by
  unfold load
  split
  · split
    · exact Nat.zero_le _
    · exact Nat.le_refl _
  · exact Nat.zero_le _

theorem sum_map_le (l : List Nat) (f g : Nat → Nat) (h : ∀ x, f x ≤ g x) : (l.map f).sum ≤ (l.map g).sum := by
  induction l with
  | nil => exact Nat.le_refl _
  | cons y l ih => exact Nat.add_le_add (h y) ih

theorem sum_map_range_update (n : Nat) (f g : Nat → Nat) (x : Nat) (hx : x < n)
    (hfg : ∀ y, y ≠ x → g y = f y) :
    ((List.range n).map g).sum + f x = ((List.range n).map f).sum + g x := by
  induction n with
  | zero => exact absurd hx (Nat.not_lt_zero x)
  | succ n ih =>
    simp only [List.range_succ, List.map_append, List.sum_append, List.map_cons, List.map_nil, List.sum_cons,
      List.sum_nil, Nat.add_zero]
    by_cases hxn : x = n
    · subst hxn
      rw [List.map_congr_left fun y hy => hfg y (Nat.ne_of_lt (List.mem_range.mp hy))]
      exact Nat.add_right_comm _ _ _
    · rw [hfg n (Ne.symm hxn), Nat.add_right_comm, ih (Nat.lt_of_le_of_ne (Nat.le_of_lt_succ hx) hxn),
        Nat.add_right_comm]

theorem weight_set (a : Array α) (x : Nat) (s : α) (hs : a[x]? = some s) (hns : ¬ isM s = true)
    (hm : isM m = true) :
    weight isM children (a.setIfInBounds x m) + (children x).length = weight isM children a := by
  have hx := lt_of_get_some hs
  have h1 : load isM children a x = (children x).length := by
    unfold load; rw [hs]; exact if_neg hns
  have h2 : load isM children (a.setIfInBounds x m) x = 0 := by
    unfold load; rw [Array.getElem?_setIfInBounds_self, if_pos hx]; exact if_pos hm
  have := sum_map_range_update a.size (load isM children a) (load isM children (a.setIfInBounds x m)) x hx
    fun y hy => by unfold load; rw [Array.getElem?_setIfInBounds_ne (Ne.symm hy)]
  rw [h1, h2] at this
  unfold weight
  rw [Array.size_setIfInBounds]
  exact this

theorem markLoop_fuel (hm : isM m = true) : ∀ (f : Nat) (w : List Nat) (a : Array α),
    w.length + weight isM children a ≤ f → ∃ r, markLoop isM m children f w a = some r := by
  intro f
  induction f with
  | zero =>
    intro w a h
    cases w with
    | nil => exact ⟨a, rfl⟩
    | cons x w => exact absurd h (by rw [List.length_cons]; omega)
  | succ f ih =>
    intro w a h
    cases w with
    | nil => exact ⟨a, rfl⟩
    | cons x w =>
      rw [List.length_cons] at h
      rw [markLoop]
      split
      · exact ih _ _ (by omega)
      · next s hs =>
        split
        · exact ih _ _ (by omega)
        · next hns =>
          apply ih
          have := weight_set isM m children a x s hs hns hm
          rw [List.length_append]
          omega

theorem weight_le_total (a : Array α) :
    weight isM children a ≤ ((List.range a.size).map fun x => (children x).length).sum :=
  sum_map_le _ _ _ (load_le isM children a)

end Marwood.Lemmas.GcMark
