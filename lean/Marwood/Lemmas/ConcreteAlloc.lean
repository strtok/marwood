import Marwood.Vm.ConcreteHeap
import Marwood.Lemmas.HeapOps
/-!
# The allocator of the concrete heap (`cgrow`, `takeFree`, `calloc`, `cwrite`, `cput`)

`Allocd h h1 p`: what `Heap::alloc` does to ANY heap, for the invariants that do not know the free list (`CInvG`/`Grows`,
`HP`/`LF`, `LamSub`, `AllCells`). `AllocdOk h h1 p`: under `FreeOk` the address is in range and the free list and the 2-bit
map are known exactly; from this the invariants that do know the free list (`Sim.HInv`, `FreeInv`) are re-established.
-/
namespace Marwood.Vm.Concrete
open Marwood Marwood.Vm
open Marwood.Heap (GcState)

theorem mem_tail_iff {l rest : List Nat} {p : Nat} (hl : l = p :: rest) (hnd : l.Nodup) (i : Nat) :
    i ∈ rest ↔ i ≠ p ∧ i ∈ l := by
  subst hl
  have hnd' := List.nodup_cons.mp hnd
  exact ⟨fun x => ⟨fun e => hnd'.1 (e ▸ x), List.mem_cons_of_mem _ x⟩,
    fun x => (List.mem_cons.mp x.2).elim (fun e => absurd e x.1) id⟩

/-- the cells of a stack up to `sp` (`rootsOf`, the stack saved by `call/cc`, `stateB`-style checks) by index -/
theorem mem_take_succ {α : Type} {l : List α} {n : Nat} {w : α} : w ∈ l.take (n + 1) ↔ ∃ i, i ≤ n ∧ l[i]? = some w := by
  rw [List.mem_iff_getElem?]
  constructor
  · rintro ⟨i, hi⟩
    rw [List.getElem?_take] at hi
    split at hi
    · exact ⟨i, by omega, hi⟩
    · cases hi
  · rintro ⟨i, hi, hw⟩
    exact ⟨i, by rw [List.getElem?_take, if_pos (by omega)]; exact hw⟩

theorem cwrite_cells (h : CHeap) (p : Nat) (c : CCell) (i : Nat) :
    (cwrite h p c).cells[i]? = if p = i ∧ p < h.cells.size then some c else h.cells[i]? := by
  simp only [cwrite]
  by_cases hpi : p = i
  · subst hpi
    by_cases hl : p < h.cells.size
    · simp [hl]
    · simp [hl]
  · rw [Array.getElem?_setIfInBounds_ne hpi]; simp [hpi]

theorem lambdaAt_iff {h : CHeap} {l : Nat} {lam : CLambda} :
    lambdaAt h l = some lam ↔ h.cells[l]? = some (CCell.lambda lam) := by
  unfold lambdaAt
  constructor
  · intro hh
    split at hh
    · rename_i lam' heq; cases hh; exact heq
    · cases hh
  · intro hh; rw [hh]

theorem envAt_iff {h : CHeap} {e : Nat} {ss : List VCell} :
    envAt h e = some ss ↔ h.cells[e]? = some (CCell.lexEnv ss) := by
  unfold envAt
  constructor
  · intro hh
    split at hh
    · rename_i ss' heq; cases hh; exact heq
    · cases hh
  · intro hh; rw [hh]

theorem envAt_cell {h : CHeap} {e : Nat} {ss : List VCell} (he : envAt h e = some ss) :
    h.cells[e]? = some (CCell.lexEnv ss) := envAt_iff.mp he

theorem lambdaAt_cwrite {h : CHeap} {p : Nat} {c : CCell} (hold : ∀ lam, h.cells[p]? ≠ some (CCell.lambda lam))
    (hc : ∀ lam, c ≠ CCell.lambda lam) (l : Nat) : lambdaAt (cwrite h p c) l = lambdaAt h l := by
  refine Option.ext fun lam => ?_
  rw [lambdaAt_iff, lambdaAt_iff, cwrite_cells]
  split
  · rename_i hh; obtain ⟨rfl, _⟩ := hh
    exact ⟨fun e => absurd (Option.some.inj e) (hc lam), fun e => absurd e (hold lam)⟩
  · rfl

theorem envAt_cwrite {h : CHeap} {p : Nat} {c : CCell} (hold : ∀ ss, h.cells[p]? ≠ some (CCell.lexEnv ss))
    (hc : ∀ ss, c ≠ CCell.lexEnv ss) (e : Nat) : envAt (cwrite h p c) e = envAt h e := by
  refine Option.ext fun ss => ?_
  rw [envAt_iff, envAt_iff, cwrite_cells]
  split
  · rename_i hh; obtain ⟨rfl, _⟩ := hh
    exact ⟨fun x => absurd (Option.some.inj x) (hc ss), fun x => absurd x (hold ss)⟩
  · rfl

theorem envPut_inv {h h' : CHeap} {e k : Nat} {v : VCell} (hp : envPut h e k v = some h') :
    ∃ ss, h.cells[e]? = some (CCell.lexEnv ss) ∧ k < ss.length ∧ h' = cwrite h e (.lexEnv (ss.set k v)) := by
  unfold envPut at hp
  split at hp
  · rename_i ss he
    split at hp
    · rename_i hk; cases hp; exact ⟨ss, envAt_cell he, hk, rfl⟩
    · cases hp
  · cases hp

/-- `k > 0` chunks of a size `gc::Map::resize` accepts (`% 4`) -/
def Chunks (h : CHeap) : Prop := 0 < h.chunk ∧ h.chunk % 4 = 0 ∧ ∃ k, 0 < k ∧ h.cells.size = k * h.chunk

theorem cgrow_cells_size (h : CHeap) :
    (cgrow h).cells.size = h.cells.size + (Heap.Heap.grownSize h.chunk h.cells.size - h.cells.size) := by
  simp [cgrow]

theorem cgrow_gc_size (h : CHeap) : (cgrow h).gc.size = h.gc.size + ((cgrow h).cells.size - h.cells.size) := by
  rw [cgrow_cells_size, Nat.add_sub_cancel_left]; simp [cgrow]

theorem cgrow_cells_old (h : CHeap) {i : Nat} (hi : i < h.cells.size) : (cgrow h).cells[i]? = h.cells[i]? :=
  Array.getElem?_append_left hi

theorem cgrow_cells_new (h : CHeap) {i : Nat} {c : CCell} (hi : h.cells.size ≤ i) (hc : (cgrow h).cells[i]? = some c) :
    c = CCell.val .undefined := by
  simp only [cgrow] at hc
  rw [Array.getElem?_append_right hi, Array.getElem?_replicate] at hc
  split at hc <;> cases hc
  rfl

theorem mem_cgrow_free (h : CHeap) (q : Nat) :
    q ∈ (cgrow h).free ↔ (h.cells.size ≤ q ∧ q < (cgrow h).cells.size) ∨ q ∈ h.free := by
  rw [cgrow_cells_size]
  simp only [cgrow, List.mem_append, List.mem_reverse, List.mem_range'_1]

theorem cgrow_gc (h : CHeap) (i : Nat) (s : GcState) :
    (cgrow h).gc[i]? = some s ↔
      h.gc[i]? = some s ∨ (s = .free ∧ h.gc.size ≤ i ∧ i < h.gc.size + ((cgrow h).cells.size - h.cells.size)) := by
  rw [cgrow_cells_size, Nat.add_sub_cancel_left]
  simp only [cgrow]
  by_cases hx : i < h.gc.size
  · rw [Array.getElem?_append_left hx]
    exact ⟨.inl, fun x => x.elim id (fun y => absurd hx (Nat.not_lt_of_le y.2.1))⟩
  · have hx' := Nat.le_of_not_lt hx
    rw [Array.getElem?_append_right hx', Array.getElem?_replicate, Array.getElem?_eq_none hx']
    split
    · rename_i hlt
      exact ⟨fun x => .inr ⟨(Option.some.inj x).symm, hx', (Nat.sub_lt_iff_lt_add' hx').mp hlt⟩,
        fun x => x.elim (by simp) (fun y => by rw [y.1])⟩
    · rename_i hlt
      exact ⟨by simp, fun x => x.elim (by simp) (fun y => absurd (Nat.sub_lt_left_of_lt_add hx' y.2.2) hlt)⟩

theorem Chunks.grow {h : CHeap} (c : Chunks h) : h.cells.size < (cgrow h).cells.size ∧ Chunks (cgrow h) := by
  obtain ⟨hc, h4, k, hk, hsize⟩ := c
  have hlt : h.cells.size < Heap.Heap.grownSize h.chunk h.cells.size :=
    hsize ▸ Lemmas.HeapOps.grownSize_gt h.chunk k hc hk
  have hsz0 : (cgrow h).cells.size = Heap.Heap.grownSize h.chunk h.cells.size := by
    rw [cgrow_cells_size, Nat.add_sub_cancel' (Nat.le_of_lt hlt)]
  have hsz : (cgrow h).cells.size = (3 * k + 1) / 2 * h.chunk := by
    rw [hsz0, Heap.Heap.grownSize, hsize, Nat.mul_div_cancel _ hc]
  have hlt' : h.cells.size < (cgrow h).cells.size := hsz0 ▸ hlt
  refine ⟨hlt', hc, h4, (3 * k + 1) / 2, Nat.pos_of_ne_zero fun e => ?_, hsz⟩
  rw [hsz, e, Nat.zero_mul] at hlt'
  exact Nat.not_lt_zero _ hlt'

structure Allocd (h h1 : CHeap) (p : Nat) : Prop where
  fresh : p ∈ h.free ∨ h.cells.size ≤ p
  grown : h1.cells = h.cells ∨ (h.free = [] ∧ h1.cells = (cgrow h).cells)
  cells_old : ∀ i, i < h.cells.size → h1.cells[i]? = h.cells[i]?
  cells_new : ∀ i c, h.cells.size ≤ i → h1.cells[i]? = some c → c = CCell.val .undefined
  free_sub : ∀ q, q ∈ h1.free → q ∈ h.free ∨ h.cells.size ≤ q
  gc_size : h1.gc.size = h.gc.size + (h1.cells.size - h.cells.size)
  gc_used : ∀ i : Nat, h1.gc[i]? = some GcState.used → h.gc[i]? = some GcState.used
  chunk : h1.chunk = h.chunk
  globals : h1.globals = h.globals
  globSyms : h1.globSyms = h.globSyms
  symtab : h1.symtab = h.symtab

theorem set_used {g : Array GcState} {p i : Nat} (hi : (g.setIfInBounds p .allocated)[i]? = some GcState.used) :
    g[i]? = some GcState.used := by
  rw [Array.getElem?_setIfInBounds] at hi
  split at hi
  · split at hi <;> cases hi
  · exact hi

theorem cgrow_used {h : CHeap} {i : Nat} (hi : (cgrow h).gc[i]? = some GcState.used) : h.gc[i]? = some GcState.used :=
  ((cgrow_gc h i _).mp hi).elim id (fun x => by cases x.1)

theorem calloc_cons {h : CHeap} {p : Nat} {rest : List Nat} (hf : h.free = p :: rest) :
    calloc h = takeFree h p rest := by
  unfold calloc; rw [hf]

theorem calloc_nil_cons {h : CHeap} {p : Nat} {rest : List Nat} (hf : h.free = [])
    (hg : (cgrow h).free = p :: rest) : calloc h = takeFree (cgrow h) p rest := by
  unfold calloc; rw [hf]; simp only [hg]

theorem calloc_nil_nil {h : CHeap} (hf : h.free = []) (hg : (cgrow h).free = []) :
    calloc h = (cgrow h, (cgrow h).cells.size) := by
  unfold calloc; rw [hf]; simp only [hg]

theorem takeFree_allocd {h : CHeap} {p : Nat} {rest : List Nat} (hf : h.free = p :: rest) :
    Allocd h (takeFree h p rest).1 p :=
  ⟨.inl (hf ▸ List.mem_cons_self), .inl rfl, fun _ _ => rfl,
    fun i c hi hc => absurd (lt_of_get_some (show h.cells[i]? = some c from hc)) (Nat.not_lt_of_le hi),
    fun q hq => .inl (hf ▸ List.mem_cons_of_mem _ hq),
    Array.size_setIfInBounds.trans (by rw [show (takeFree h p rest).1.cells = h.cells from rfl, Nat.sub_self]; rfl),
    fun i hi => set_used hi, rfl, rfl, rfl, rfl⟩

theorem cgrow_size_le (h : CHeap) : h.cells.size ≤ (cgrow h).cells.size := cgrow_cells_size h ▸ Nat.le_add_right _ _

theorem cgrow_free_ge {h : CHeap} (hf : h.free = []) {q : Nat} (hq : q ∈ (cgrow h).free) : h.cells.size ≤ q :=
  ((mem_cgrow_free h q).mp hq).elim (·.1) (fun x => by rw [hf] at x; cases x)

theorem Allocd.of_cgrow {h h1 : CHeap} {p : Nat} (a : Allocd (cgrow h) h1 p) (hf : h.free = [])
    (hs : h1.cells = (cgrow h).cells) : Allocd h h1 p :=
  ⟨.inr (a.fresh.elim (cgrow_free_ge hf) (Nat.le_trans (cgrow_size_le h))), .inr ⟨hf, hs⟩,
    fun i hi => by rw [hs]; exact cgrow_cells_old h hi, fun i c hi hc => cgrow_cells_new h hi (hs ▸ hc),
    fun q hq => .inr ((a.free_sub q hq).elim (cgrow_free_ge hf) (Nat.le_trans (cgrow_size_le h))),
    by rw [a.gc_size, hs, Nat.sub_self, Nat.add_zero]; exact cgrow_gc_size h,
    fun i hi => cgrow_used (a.gc_used i hi), a.chunk, a.globals, a.globSyms, a.symtab⟩

theorem calloc_allocd (h : CHeap) : Allocd h (calloc h).1 (calloc h).2 := by
  cases hf : h.free with
  | cons p rest => rw [calloc_cons hf]; exact takeFree_allocd hf
  | nil =>
    cases hg : (cgrow h).free with
    | cons p rest => rw [calloc_nil_cons hf hg]; exact (takeFree_allocd hg).of_cgrow hf rfl
    | nil =>
      rw [calloc_nil_nil hf hg]
      exact ⟨.inr (cgrow_size_le h), .inr ⟨hf, rfl⟩, fun i hi => cgrow_cells_old h hi, fun i c hi hc => cgrow_cells_new h hi hc,
        fun q hq => (by rw [show (cgrow h).free = [] from hg] at hq; cases hq), cgrow_gc_size h,
        fun i hi => cgrow_used hi, rfl, rfl, rfl, rfl⟩

theorem Allocd.size_le {h h1 : CHeap} {p : Nat} (a : Allocd h h1 p) : h.cells.size ≤ h1.cells.size := by
  rcases a.grown with e | ⟨_, e⟩ <;> rw [e]
  · exact Nat.le_refl _
  · exact cgrow_size_le h

theorem Allocd.chunks {h h1 : CHeap} {p : Nat} (a : Allocd h h1 p) (c : Chunks h) : Chunks h1 := by
  unfold Chunks
  rw [a.chunk]
  rcases a.grown with e | ⟨_, e⟩ <;> rw [e]
  · exact c
  · exact c.grow.2

theorem Allocd.cells_new' {h h1 : CHeap} {p : Nat} (a : Allocd h h1 p) {i : Nat} (h1' : h.cells.size ≤ i)
    (h2 : i < h1.cells.size) : h1.cells[i]? = some (CCell.val .undefined) := by
  have hc := Array.getElem?_eq_getElem h2
  rw [hc, a.cells_new i _ h1' hc]

theorem Allocd.sizes {h h1 : CHeap} {p : Nat} (a : Allocd h h1 p) (hs : h.gc.size = h.cells.size) :
    h1.gc.size = h1.cells.size := by
  rw [a.gc_size, hs, Nat.add_sub_cancel' a.size_le]

structure FreeOk (h : CHeap) : Prop where
  chunks : Chunks h
  lt : ∀ q, q ∈ h.free → q < h.cells.size
  nodup : h.free.Nodup

structure AllocdOk (h h1 : CHeap) (p : Nat) : Prop where
  lt : p < h1.cells.size
  mem_free : ∀ i, i ∈ h1.free ↔ i ≠ p ∧ ((h.cells.size ≤ i ∧ i < h1.cells.size) ∨ i ∈ h.free)
  gc_at : h.gc.size = h.cells.size → h1.gc[p]? = some GcState.allocated
  gc_other : ∀ (i : Nat) (s : GcState), i ≠ p → (h1.gc[i]? = some s ↔
    h.gc[i]? = some s ∨ (s = GcState.free ∧ h.gc.size ≤ i ∧ i < h.gc.size + (h1.cells.size - h.cells.size)))
  nodup : h1.free.Nodup

theorem takeFree_ok {h : CHeap} {p : Nat} {rest : List Nat} (hf : h.free = p :: rest) (hlt : p < h.cells.size)
    (hnd : h.free.Nodup) : AllocdOk h (takeFree h p rest).1 p := by
  refine ⟨hlt, fun i => (mem_tail_iff hf hnd i).trans
      ⟨fun x => ⟨x.1, .inr x.2⟩, fun x => ⟨x.1, x.2.elim (fun y => absurd y.2 (Nat.not_lt_of_le y.1)) id⟩⟩,
    fun hs => Array.getElem?_setIfInBounds_self_of_lt (hs ▸ hlt), fun i s hi => ?_, (List.nodup_cons.mp (hf ▸ hnd)).2⟩
  show (h.gc.setIfInBounds p _)[i]? = _ ↔ _ ∨ (_ ∧ _ ∧ _ < _ + (h.cells.size - _))
  rw [Array.getElem?_setIfInBounds_ne (show p ≠ i from Ne.symm hi), Nat.sub_self]
  exact ⟨.inl, fun x => x.elim id fun y => absurd y.2.2 (Nat.not_lt_of_le y.2.1)⟩

theorem AllocdOk.of_cgrow {h h1 : CHeap} {p : Nat} (b : AllocdOk (cgrow h) h1 p)
    (hs : h1.cells = (cgrow h).cells) : AllocdOk h h1 p := by
  have hle := cgrow_size_le h
  refine ⟨b.lt, fun i => (b.mem_free i).trans (and_congr_right' ?_), fun hs0 => b.gc_at ?_, fun i s hi => ?_, b.nodup⟩
  · rw [hs, mem_cgrow_free]
    exact ⟨fun x => x.elim (fun y => absurd y.2 (Nat.not_lt_of_le y.1)) id, .inr⟩
  · rw [cgrow_gc_size, hs0, Nat.add_sub_cancel' hle]
  · rw [b.gc_other i s hi, hs, Nat.sub_self, cgrow_gc]
    exact ⟨fun x => x.elim id (fun y => absurd y.2.2 (Nat.not_lt_of_le y.2.1)), .inl⟩

theorem calloc_ok {h : CHeap} (ok : FreeOk h) : AllocdOk h (calloc h).1 (calloc h).2 := by
  cases hf : h.free with
  | cons p rest => rw [calloc_cons hf]; exact takeFree_ok hf (ok.lt p (hf ▸ List.mem_cons_self)) ok.nodup
  | nil =>
    have hlt := ok.chunks.grow.1
    have hnd : (cgrow h).free.Nodup := by
      simp only [cgrow, hf, List.append_nil]
      exact List.pairwise_reverse.mpr (List.Pairwise.imp Ne.symm List.nodup_range')
    cases hg : (cgrow h).free with
    | nil =>
      have := (mem_cgrow_free h h.cells.size).mpr (.inl ⟨Nat.le_refl _, hlt⟩)
      rw [hg] at this; cases this
    | cons p rest =>
      rw [calloc_nil_cons hf hg]
      have hp : p < (cgrow h).cells.size :=
        ((mem_cgrow_free h p).mp (hg ▸ List.mem_cons_self)).elim (·.2) (fun x => by rw [hf] at x; cases x)
      exact (takeFree_ok hg hp hnd).of_cgrow rfl

theorem cput_cells0 {h : CHeap} (c : CCell) :
    (∀ i x, (cput h c).1.cells[i]? = some x →
      (i = (cput h c).2 ∧ x = c) ∨ (i ≠ (cput h c).2 ∧ h.cells[i]? = some x) ∨ x = CCell.val .undefined) ∧
    (∀ i x, h.cells[i]? = some x → i ≠ (cput h c).2 → (cput h c).1.cells[i]? = some x) := by
  have a := calloc_allocd h
  refine ⟨fun i x hx => ?_, fun i x hx hne => ?_⟩
  · simp only [cput] at hx ⊢
    rw [cwrite_cells] at hx
    split at hx
    · rename_i hh; cases hx; exact .inl ⟨hh.1.symm, rfl⟩
    · rename_i hne
      by_cases hlt : i < h.cells.size
      · rw [a.cells_old i hlt] at hx
        exact .inr (.inl ⟨fun hip => hne ⟨hip.symm, hip ▸ Nat.lt_of_lt_of_le hlt a.size_le⟩, hx⟩)
      · exact .inr (.inr (a.cells_new i x (Nat.le_of_not_lt hlt) hx))
  · simp only [cput] at hne ⊢
    rw [cwrite_cells, if_neg (fun hh => hne hh.1.symm), a.cells_old i (lt_of_get_some hx)]; exact hx

end Marwood.Vm.Concrete
