import Marwood.Vm.ListExt
import Marwood.Lemmas.StackWFLaws
/-!
# What a successful call of a table builtin did

The laws about `listExtWith eqTag` all start from `builtinEval … = .ok (h', v)`. The table has four kinds of entries
(`evalPrim_ok`): tests, which return the heap they were given and a boolean; the selectors `car` / `cdr`; `cons`, two
`heap.put`s; `set-car!` / `set-cdr!`, one `heap.put` and one overwrite of a pair cell. A law is proved on these four shapes.
-/
namespace Marwood.Vm.Concrete
open Marwood Marwood.Vm

theorem getAt_pair_cell {h : CHeap} {p a d : Nat} (e : getAt h p = .pair a d) :
    h.cells[p]? = some (CCell.val (.pair a d)) := by
  unfold getAt at e
  cases hc : h.cells[p]? with
  | none => rw [hc] at e; cases e
  | some c =>
    rw [hc] at e
    cases c with
    | val v => simp only [repr] at e; rw [e]
    | _ => simp [repr] at e

namespace ListExt
variable {eqTag : String → String → Bool} {h h' : CHeap} {v : VCell}

theorem evalCar_ok {first : Bool} {x : VCell} (he : evalCar first h x = .ok (h', v)) :
    ∃ a d, deref h x = .pair a d ∧ h' = h ∧ v = .ptr (if first then a else d) := by
  unfold evalCar at he
  split at he
  · cases he; exact ⟨_, _, by assumption, rfl, rfl⟩
  · cases he

theorem evalCons_ok {d a : VCell} (he : evalCons h d a = .ok (h', v)) :
    ∃ dp ap, (putV h d).2 = .ptr dp ∧ (putV (putV h d).1 a).2 = .ptr ap ∧ h' = (putV (putV h d).1 a).1 ∧
      v = .pair ap dp := by
  simp only [evalCons] at he
  obtain ⟨dp, h1, he⟩ := bind_inv he
  obtain ⟨ap, h2, he⟩ := bind_inv he
  cases he
  exact ⟨dp, ap, asPtr_ok h1, asPtr_ok h2, rfl, rfl⟩

/-- the operand is a pointer to a cell holding a pair; the new element is put first, then that cell is overwritten -/
theorem evalSetPair_ok {first : Bool} {obj pair : VCell} (he : evalSetPair first h obj pair = .ok (h', v)) :
    ∃ a d o p, pair = .ptr p ∧ h.cells[p]? = some (CCell.val (.pair a d)) ∧ (putV h obj).2 = .ptr o ∧
      h' = cwrite (putV h obj).1 p (.val (if first then .pair o d else .pair a o)) ∧ v = .void := by
  simp only [evalSetPair] at he
  split at he
  · rename_i a d hd
    obtain ⟨o, h1, he⟩ := bind_inv he
    obtain ⟨p, h2, he⟩ := bind_inv he
    cases he
    cases asPtr_ok h2
    exact ⟨a, d, o, p, rfl, getAt_pair_cell hd, asPtr_ok h1, rfl, rfl⟩
  · cases he

theorem evalPrim_ok {p : Prim} {args : List VCell} (he : evalPrim eqTag p h args = .ok (h', v)) :
    (∃ b, h' = h ∧ v = .bool b) ∨ (∃ first x, args = [x] ∧ evalCar first h x = .ok (h', v)) ∨
    (∃ d a, args = [d, a] ∧ evalCons h d a = .ok (h', v)) ∨
    (∃ first obj pair, args = [obj, pair] ∧ evalSetPair first h obj pair = .ok (h', v)) := by
  unfold evalPrim at he
  split at he
  · exact .inr (.inl ⟨true, _, rfl, he⟩)
  · exact .inr (.inl ⟨false, _, rfl, he⟩)
  · exact .inr (.inr (.inl ⟨_, _, rfl, he⟩))
  · exact .inr (.inr (.inr ⟨true, _, _, rfl, he⟩))
  · exact .inr (.inr (.inr ⟨false, _, _, rfl, he⟩))
  · cases he; exact .inl ⟨_, rfl, rfl⟩
  · cases he; exact .inl ⟨_, rfl, rfl⟩
  · cases he

theorem builtinEval_ok {id : Nat} {args : List VCell}
    (he : (listExtWith eqTag).builtinEval h id args = .ok (h', v)) : ∃ p, evalPrim eqTag p h args = .ok (h', v) := by
  have he' : builtinEval eqTag h id args = .ok (h', v) := he
  unfold builtinEval at he'
  split at he'
  · exact ⟨_, he'⟩
  · cases he'

end ListExt
end Marwood.Vm.Concrete
