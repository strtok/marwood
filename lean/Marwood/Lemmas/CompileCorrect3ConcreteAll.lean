import Marwood.Lemmas.CompileCorrect3ConcretePut
/-!
# T01.3 stage 3 — `Laws3` for the concrete heap model, assembled

`concrete_laws3`: every field for `concreteOps ext` with the representation `cD3`, except `slot_inj` (hypothesis `hinj`)
and `call` (hypothesis `hcall`: the builtins are the parameters `ExtOps` of the concrete machine). `hE`: the atom encoding
gives no machine value to the re-dispatching builtins (`apply`, `eval`, `force`, `map`, `for-each`).
-/
namespace Marwood.Lemmas.CompileCorrect3.Conc
open Marwood Marwood.Vm Marwood.Vm.Concrete Marwood.Lemmas.CompileCorrect Marwood.Lemmas.CompileCorrect2
  Marwood.Lemmas.CompileCorrect2.Conc
open Marwood.Spec.Eval (Val Cell evalN)

variable {ext : ExtOps} {E : AtomEnc} {named : Text → Prop} {slot : Text → Nat} {LM : Nat → Nat}
  {final : List LambdaM} {setG : Text → Prop}

theorem deref_pair_inv {h : CHeap} {v : VCell} {a d : Nat} (x : Concrete.deref h v = .pair a d) :
    v = .pair a d ∨ ∃ p, v = .ptr p := by
  cases v with
  | ptr p => exact .inr ⟨p, rfl⟩
  | _ => exact .inl x

theorem c3_envPut_ok (h : CHeap) (S : Array Cell) (e k : Nat) (old u : VCell)
    (hsrx : (cD3 ext E named slot LM final setG).SRx h S) (hnok : ¬ (cD3 ext E named slot LM final setG).envOK h e)
    (hget : (concreteOps ext).envGet h e k = some old) (hold : isEnvPtr old = false) (hu : isEnvPtr u = false)
    (hund : u ≠ .undefined) :
    ∃ h', (concreteOps ext).envPut h e k u = some h' ∧ Ext3 (cD3 ext E named slot LM final setG) h S h' S ∧
      (cD3 ext E named slot LM final setG).SRx h' S ∧
      (∀ e' k', (concreteOps ext).envGet h' e' k' = if e' = e ∧ k' = k then some u else (concreteOps ext).envGet h e' k') ∧
      ∀ m, (concreteOps ext).globGet h' m = (concreteOps ext).globGet h m := by
  obtain ⟨h', hput, hall, hglob, hk, hnc, inv', fi', hg, hx⟩ :=
    envPut_gen (ext := ext) h e k old u hsrx.1 hsrx.2.1 hget
  obtain ⟨hp, hv⟩ := envGet_set_keeps hall hget hold hu
  have hall' : ∀ e' k', Concrete.envGet h' e' k' = if e' = e ∧ k' = k then some u else Concrete.envGet h e' k' := hall
  refine ⟨h', hput, ext3_of_keeps S hk hp hv ?_ ?_ hnc,
    ⟨inv', fi', by rw [hg]; exact srx_slots hsrx, hx hsrx.2.2.2⟩, hall, hglob⟩
  · intro e' n v x hv hne
    rw [hall']
    by_cases hs : e' = e ∧ n = k
    · exact ⟨u, if_pos hs, hu, hund⟩
    · exact ⟨v, (if_neg hs).trans x, hv, hne⟩
  · intro e' n okE x
    rw [hall']
    by_cases hs : e' = e ∧ n = k
    · obtain ⟨rfl, rfl⟩ := hs
      exact absurd okE hnok
    · exact (if_neg hs).trans x

theorem concrete_laws3 (hinj : ∀ a b, named a → named b → slot a = slot b → a = b)
    (hE : ∀ p, Redisp p → E.prim p = none)
    (hcall : ∀ n W h (σ : SSt) vf p vs ws w (σ' : SSt), Inv3 (cD3 ext E named slot LM final setG) W h σ →
      (cD3 ext E named slot LM final setG).VR h σ.store vf (.prim p) →
      All2 (VR3 (cD3 ext E named slot LM final setG) W h σ.store) vs ws → (evalN n).apply (.prim p) ws σ = .ok w σ' →
      ∃ id h' r, (concreteOps ext).callee h vf = .builtin id ∧ (concreteOps ext).builtinKind h id = .generic ∧
        builtinResult (concreteOps ext) h id vs.reverse = .ok (h', r) ∧
        VR3 (cD3 ext E named slot LM final setG) W h' σ'.store r w ∧ Inv3 (cD3 ext E named slot LM final setG) W h' σ' ∧
        Ext3 (cD3 ext E named slot LM final setG) h σ.store h' σ'.store) :
    Laws3 (cD3 ext E named slot LM final setG) where
  slot_inj := hinj
  truth := fun _ _ _ _ hv => (cVR_obs hv).1
  ne_undefined := fun _ _ _ _ hv => (cVR_obs hv).2.1
  not_envptr := fun _ _ _ _ hv => (cVR_obs hv).2.2
  void := fun _ _ => .base ⟨.void, rfl, .inl rfl⟩
  nil := fun _ _ => .base ⟨.nil, rfl, .inl rfl⟩
  vr_no_closure := by
    intro h S v a b c e hv
    cases hv with
    | base hb =>
      obtain ⟨c, hc, _⟩ := hb
      cases hc
  vr_no_redisp := fun _ _ _ p hv hr => cVR_no_prim (hE p hr) hv
  clos_true := fun _ _ _ _ hc => (closure_obs hc).1
  clos_ne_undefined := fun _ _ _ _ hc => (closure_obs hc).2.1
  clos_not_envptr := fun _ _ _ _ hc => (closure_obs hc).2.2
  pair_ne_undefined := by
    intro h v a d hd
    rcases deref_pair_inv hd with rfl | ⟨p, rfl⟩ <;> (intro x; cases x)
  pair_not_envptr := by
    intro h v a d hd
    rcases deref_pair_inv hd with rfl | ⟨p, rfl⟩ <;> rfl
  vr_pair := fun _ _ _ _ _ _ _ _ hs hd h1 h2 => .pair hs hd h1 h2
  vr_vec := fun _ _ _ _ _ _ hs hv hall => .vec hs hv hall
  vr_store := fun _ _ _ _ _ hx x => (Keeps.refl _).vr hx.keep x
  srx_store := fun _ _ _ _ x => x
  glob_get_put := fun h _ x v m hsrx hn => globGet_globPut h (srx_slots hsrx x hn) v m
  globPut_ext := fun h S n u hsrx =>
    have x := (globPut_gen h n u hsrx.1 hsrx.2.1).ext3 S hsrx
    ⟨x.1, x.2, fun _ _ => rfl⟩
  envPut_ok := c3_envPut_ok
  closure_ok := fun h S lam ep bp st srcs hsrx _ hsrc h1 h2 => by
    obtain ⟨h', p, cenv, a1, a2, a3, a4, a5, a6, cs, ok⟩ :=
      closure_gen (ext := ext) h lam ep bp st srcs hsrx.1 hsrx.2.1 hsrc h1 h2
    exact ⟨h', p, cenv, a1, a2, a3, a4, a5, a6, (cs.ext3 S hsrx).1, (cs.ext3 S hsrx).2, ok⟩
  activation_ok := fun h S lam cenv bp st srcs nargs hsrx _ hsrc hinfo hok hslots hargs hint => by
    obtain ⟨h', a, a1, a2, a3, a4, a5, a6, cs, cpy, nok⟩ :=
      activation_gen (ext := ext) h lam cenv bp st srcs nargs hsrx.1 hsrx.2.1 hsrc hinfo hok.1 hslots hargs
    exact ⟨h', a, a1, a2, a3, fun j hj => (cpy j hj).trans (hint j hj), a4, a5, a6, (cs.ext3 S hsrx).1,
      (cs.ext3 S hsrx).2, nok hsrx.2.2.2.1⟩
  put_val := fun h S v W w hsrx hr => c3_put_val h S v W w hsrx hr
  put_pair := fun h S a d hsrx => c3_put_pair h S a d hsrx
  call := hcall

theorem c3_vr_nil_inv (h : CHeap) (S : Array Cell) (v : VCell)
    (x : (cD3 ext E named slot LM final setG).VR h S v .nil) : (concreteOps ext).deref h v = .nil := by
  have x' : cVR ext E h S v .nil := x
  cases x' with
  | base hb =>
    obtain ⟨c, hc, hv⟩ := hb
    cases hc
    rcases hv with rfl | ⟨p, rfl, hg⟩
    · rfl
    · exact hg

theorem c3_vr_pair_inv (h : CHeap) (S : Array Cell) (v : VCell) (l : Nat)
    (x : (cD3 ext E named slot LM final setG).VR h S v (.pair l)) :
    ∃ a d pa pd, S[l]? = some (.pair a d) ∧ (concreteOps ext).deref h v = .pair pa pd ∧
      (cD3 ext E named slot LM final setG).VR h S (.ptr pa) a ∧ (cD3 ext E named slot LM final setG).VR h S (.ptr pd) d := by
  have x' : cVR ext E h S v (.pair l) := x
  cases x' with
  | base hb =>
    obtain ⟨c, hc, _⟩ := hb
    cases hc
  | pair hs hd x1 x2 => exact ⟨_, _, _, _, hs, hd, x1, x2⟩

end Marwood.Lemmas.CompileCorrect3.Conc
