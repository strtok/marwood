import Marwood.Lemmas.CalleeCongr
/-!
# `step` consults the global / environment reads only on the heap of the current state

`HeapOps.withReads ops g e vp` replaces `globGet`, `envGet` and `vectorPush`. `step_wr`: if `g` / `e` agree with the
originals on the heap of `s`, and `vp` succeeds with the same heap where a VPUSH executed in `s` calls the original, a
successful instruction from `s` is the same under the replaced operations. Used to relate the concrete machine to its
value-guarded version (`Lemmas/ConcreteLawsVal.lean`).
-/
namespace Marwood.Vm
variable {H : Type}

def HeapOps.withReads (ops : HeapOps H) (g : H → Nat → VCell) (e : H → Nat → Nat → Option VCell)
    (vp : H → VCell → VCell → Outcome H) : HeapOps H :=
  { ops with globGet := g, envGet := e, vectorPush := vp }

variable (ops : HeapOps H) (g : H → Nat → VCell) (e : H → Nat → Nat → Option VCell)
  (vp : H → VCell → VCell → Outcome H)

theorem stepCall_wr (s : St H) : stepCall (ops.withReads g e vp) s = stepCall ops s :=
  stepCall_with ops ops.callee g e vp s rfl

theorem stepTCall_wr (s : St H) : stepTCall (ops.withReads g e vp) s = stepTCall ops s :=
  stepTCall_with ops ops.callee g e vp s rfl

theorem stepVarArg_wr (s : St H) : stepVarArg (ops.withReads g e vp) s = stepVarArg ops s :=
  stepVarArg_congr (ops := ops) (ops' := ops.withReads g e vp) rfl rfl s

theorem loadOperand_wr (s : St H) (hg : ∀ n, g s.heap n = ops.globGet s.heap n)
    (he : ∀ a k, e s.heap a k = ops.envGet s.heap a k) :
    loadOperand (ops.withReads g e vp) s = loadOperand ops s := by
  unfold loadOperand
  refine bind_congr_ok (x := readOperand ops s) ?_
  rintro ⟨opnd, s1⟩ hro
  have hh : s1.heap = s.heap := by rw [(readOperand_ok hro).2]
  have he1 : (ops.withReads g e vp).envGet s1.heap = ops.envGet s1.heap := by
    funext a k; rw [hh]; exact he a k
  have hg1 : (ops.withReads g e vp).globGet s1.heap = ops.globGet s1.heap := by
    funext n; rw [hh]; exact hg n
  cases opnd
  case lexEnvSlot n => simp only [he1]
  case globSlot n => simp only [hg1]
  all_goals rfl

theorem storeOperand_wr (s : St H) (v : VCell) (he : ∀ a k, e s.heap a k = ops.envGet s.heap a k) :
    storeOperand (ops.withReads g e vp) s v = storeOperand ops s v := by
  unfold storeOperand
  refine bind_congr_ok (x := readOperand ops s) ?_
  rintro ⟨opnd, s1⟩ hro
  have he1 : (ops.withReads g e vp).envGet s1.heap = ops.envGet s1.heap := by
    funext a k; rw [(readOperand_ok hro).2]; exact he a k
  cases opnd
  case lexEnvSlot n =>
    simp only [he1]
    rfl
  all_goals rfl

theorem bind_ok_imp {α β : Type} {x : Outcome α} {f g : α → Outcome β} {r : β}
    (h : ∀ a, x = .ok a → f a = .ok r → g a = .ok r) (hs : (x >>= f) = .ok r) : (x >>= g) = .ok r := by
  obtain ⟨a, hx, hf⟩ := bind_inv hs
  rw [hx]
  exact h a hx hf

/-- a successful instruction under `ops` is the same instruction under the replaced reads -/
theorem step_wr (s : St H) (hg : ∀ n, g s.heap n = ops.globGet s.heap n)
    (he : ∀ a k, e s.heap a k = ops.envGet s.heap a k)
    (hv : ∀ s1 d st1 h', readOpcode ops s = .ok (.vpushAcc, s1) → s.stack.pop = .ok (d, st1) →
      ops.vectorPush s.heap (ops.deref s.heap d) s.acc = .ok h' →
      vp s.heap (ops.deref s.heap d) s.acc = .ok h')
    {r : St H × Bool} (hs : step ops s = .ok r) : step (ops.withReads g e vp) s = .ok r := by
  unfold step at hs ⊢
  refine bind_ok_imp (x := readOpcode ops s) ?_ hs
  rintro ⟨op, s1⟩ hro hs
  have e1 := (readOpcode_ok hro).2
  have hh : s1.heap = s.heap := by rw [e1]
  have hg1 : ∀ n, g s1.heap n = ops.globGet s1.heap n := by rw [hh]; exact hg
  have he1 : ∀ a k, e s1.heap a k = ops.envGet s1.heap a k := by rw [hh]; exact he
  cases op
  case mov =>
    show (loadOperand _ s1 >>= _) = _
    rw [loadOperand_wr ops g e vp s1 hg1 he1]
    refine bind_ok_imp ?_ hs
    rintro ⟨v, s2⟩ hlo hs
    show (storeOperand _ s2 v >>= _) = _
    rw [storeOperand_wr ops g e vp s2 v (by rw [loadOperand_ok hlo]; exact he1)]
    exact hs
  case movImm =>
    refine bind_ok_imp (x := readOperand ops s1) ?_ hs
    rintro ⟨v, s2⟩ hro2 hs
    show (storeOperand _ s2 v >>= _) = _
    rw [storeOperand_wr ops g e vp s2 v (by rw [(readOperand_ok hro2).2]; exact he1)]
    exact hs
  case push =>
    show (loadOperand _ s1 >>= _) = _
    rw [loadOperand_wr ops g e vp s1 hg1 he1]
    exact hs
  case vpushAcc =>
    refine bind_ok_imp (x := s1.stack.pop) ?_ hs
    rintro ⟨d, st1⟩ hp hs
    obtain ⟨h', hvp, hs⟩ := bind_inv hs
    have : vp s1.heap (ops.deref s1.heap d) s1.acc = .ok h' := by
      rw [e1] at hp hvp ⊢
      exact hv _ _ _ _ hro hp hvp
    show (vp s1.heap (ops.deref s1.heap d) s1.acc >>= _) = _
    rw [this]
    exact hs
  case callAcc => show (stepCall _ s1 >>= _) = _; rw [stepCall_wr]; exact hs
  case tcallAcc => show (stepTCall _ s1 >>= _) = _; rw [stepTCall_wr]; exact hs
  case varArg => show (stepVarArg _ s1 >>= _) = _; rw [stepVarArg_wr]; exact hs
  all_goals exact hs

end Marwood.Vm
