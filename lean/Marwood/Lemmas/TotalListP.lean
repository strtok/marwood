import Marwood.Lemmas.Total
/-!
# T06.3 for `list?` (the half-speed cursor of 3d7bbb6) on every store

`THL`: tortoise and hare on a list. Along the cdr chain `C 0, C 1, …` of the argument (`THL.cellAt`) the state of
`isListTHLoop` before iteration `n` is `rest = C n`, `slow = C (n / 2)`, `step_slow = (n odd)`; iteration `n` answers when
`C n` is not a pair, or when `n` is odd and `C n`, `C (n / 2)` have the same cdr reference.
* acyclic chain: the first non-pair sits at `K ≤ |cells|` (pigeonhole: a repeated cdr reference makes the chain periodic,
  hence pairs forever) and no earlier iteration can see two equal references;
* cyclic chain: `p 0 … p N` (`N = |cells|`) contain a repetition `p i = p j`; the chain has period `j - i` from `i + 1` on,
  so some `m ≤ j` with `(j - i) ∣ m + 1` has `C (2m+1) = C m`: iteration `2m+1 ≤ 2N+1` answers `#f` at the latest.
The chain lemmas also carry the proof for `length` (TotalLength.lean).
-/
namespace Marwood.Store
open Outcome

inductive ProperList (s : Store) : VCell → Prop
  | nil {v : VCell} : s.get v = .ok .nil → ProperList s v
  | cons {v : VCell} {a d : Nat} : s.get v = .ok (.pair a d) → ProperList s (.ptr d) → ProperList s v

namespace THL

/-- a non-pair stays where it is; a reference outside the heap is followed by `undef`, chosen because it is not a pair -/
def nx (s : Store) : VCell → VCell
  | .pair _ d => (s.cells[d]?).getD .undef
  | c => c

def cdrIx : VCell → Nat
  | .pair _ d => d
  | _ => 0

def cellAt (s : Store) (c : VCell) : Nat → VCell
  | 0 => c
  | k+1 => nx s (cellAt s c k)

variable {s : Store} {c : VCell}

theorem nx_of_not_pair {c : VCell} (h : c.isPair = false) : nx s c = c := by
  cases c <;> simp_all [nx, VCell.isPair]

theorem nx_congr {a b : VCell} (ha : a.isPair = true) (hb : b.isPair = true) (h : cdrIx a = cdrIx b) :
    nx s a = nx s b := by
  obtain ⟨_, d, rfl⟩ := VCell.isPair_iff.mp ha
  obtain ⟨_, d', rfl⟩ := VCell.isPair_iff.mp hb
  obtain rfl : d = d' := h
  rfl

theorem cellAt_succ_nx (s : Store) (c : VCell) : ∀ k, cellAt s c (k+1) = cellAt s (nx s c) k
  | 0 => rfl
  | k+1 => by
    show nx s (cellAt s c (k+1)) = nx s (cellAt s (nx s c) k)
    rw [cellAt_succ_nx s c k]

theorem cellAt_stable {k : Nat} (h : (cellAt s c k).isPair = false) : ∀ j, cellAt s c (k + j) = cellAt s c k
  | 0 => rfl
  | j+1 => by
    show nx s (cellAt s c (k + j)) = _
    rw [cellAt_stable h j, nx_of_not_pair h]

theorem pair_mono {n : Nat} (h : (cellAt s c n).isPair = true) {k : Nat} (hk : k ≤ n) :
    (cellAt s c k).isPair = true := by
  cases hc : (cellAt s c k).isPair with
  | true => rfl
  | false =>
    have h2 := cellAt_stable hc (n - k)
    rw [Nat.add_sub_cancel' hk] at h2
    rw [h2, hc] at h; cases h

theorem get_next {c : VCell} (hp : c.isPair = true) (hb : cdrIx c < s.cells.length) :
    s.get (.ptr (cdrIx c)) = .ok (nx s c) := by
  obtain ⟨_, d, rfl⟩ := VCell.isPair_iff.mp hp
  have hb : d < s.cells.length := hb
  simp [nx, cdrIx, List.getElem?_eq_getElem hb]

/-- the Rust code would panic in `get_at_index`; the model answers `panic`, which is an answer, not a hang -/
theorem get_oob {d : Nat} (h : ¬ d < s.cells.length) : s.get (.ptr d) = .panic "heap index out of bounds" := by
  simp [ofOption, List.getElem?_eq_none (Nat.le_of_not_gt h)]

theorem loop_stop {f : Nat} {rest slow : VCell} {step : Bool} (h : rest.isPair = false) :
    isListTHLoop (f+1) s rest slow step = .ok rest.isNil := by
  simp [isListTHLoop, h]

theorem loop_even {f : Nat} {rest slow : VCell} (hp : rest.isPair = true) (hb : cdrIx rest < s.cells.length) :
    isListTHLoop (f+1) s rest slow false = isListTHLoop f s (nx s rest) slow true := by
  obtain ⟨a, d, rfl⟩ := VCell.isPair_iff.mp hp
  have hg : s.get (.ptr d) = _ := get_next hp hb
  simp [isListTHLoop, hg]

theorem loop_odd_meet {f : Nat} {rest slow : VCell} (hp : rest.isPair = true) (hq : slow.isPair = true)
    (hm : cdrIx rest = cdrIx slow) : isListTHLoop (f+1) s rest slow true = .ok false := by
  obtain ⟨a, d, rfl⟩ := VCell.isPair_iff.mp hp
  obtain ⟨a', d', rfl⟩ := VCell.isPair_iff.mp hq
  obtain rfl : d = d' := hm
  simp [isListTHLoop]

theorem loop_odd_adv {f : Nat} {rest slow : VCell} (hp : rest.isPair = true) (hq : slow.isPair = true)
    (hb : cdrIx rest < s.cells.length) (hb' : cdrIx slow < s.cells.length) (hm : cdrIx rest ≠ cdrIx slow) :
    isListTHLoop (f+1) s rest slow true = isListTHLoop f s (nx s rest) (nx s slow) false := by
  obtain ⟨a, d, rfl⟩ := VCell.isPair_iff.mp hp
  obtain ⟨a', d', rfl⟩ := VCell.isPair_iff.mp hq
  have hg : s.get (.ptr d) = _ := get_next hp hb
  have hg' : s.get (.ptr d') = _ := get_next hq hb'
  have hm : d ≠ d' := hm
  simp [isListTHLoop, hg, hg', hm]

/-- a wild cdr reference in the fast cursor: a panic, or `#f` when the slow cursor holds the same reference -/
theorem loop_oob {rest : VCell} (hp : rest.isPair = true) (hb : ¬ cdrIx rest < s.cells.length)
    (slow : VCell) (step : Bool) :
    ∃ r : Outcome Bool, r ≠ .diverge ∧ ∀ f, isListTHLoop (f+1) s rest slow step = r := by
  obtain ⟨a, d, rfl⟩ := VCell.isPair_iff.mp hp
  have hg : s.get (.ptr d) = _ := get_oob hb
  refine ⟨isListTHLoop 1 s (.pair a d) slow step, ?_, fun f => by simp [isListTHLoop, hg]⟩
  simp only [isListTHLoop, VCell.isPair_pair, VCell.asCdr_pair, bind_ok, hg, bind_panic]
  cases step
  · simp
  · exact bind_ne_diverge (by cases slow <;> simp [VCell.asCdr]) fun sn _ => by
      split
      · simp
      · exact bind_ne_diverge (get_ne_diverge s sn) fun _ _ => by simp

def runAt (f : Nat) (s : Store) (c : VCell) (n : Nat) : Outcome Bool :=
  isListTHLoop f s (cellAt s c n) (cellAt s c (n / 2)) (decide (n % 2 = 1))

def Meet (s : Store) (c : VCell) (n : Nat) : Prop :=
  n % 2 = 1 ∧ cdrIx (cellAt s c n) = cdrIx (cellAt s c (n / 2))

instance (s : Store) (c : VCell) (n : Nat) : Decidable (Meet s c n) := by unfold Meet; infer_instance

def InB (s : Store) (c : VCell) (k : Nat) : Prop := cdrIx (cellAt s c k) < s.cells.length

theorem runAt_stop {f n : Nat} (hp : (cellAt s c n).isPair = false) :
    runAt (f+1) s c n = .ok (cellAt s c n).isNil := loop_stop hp

theorem runAt_meet {f n : Nat} (hp : (cellAt s c n).isPair = true) (hm : Meet s c n) :
    runAt (f+1) s c n = .ok false := by
  unfold runAt
  rw [show decide (n % 2 = 1) = true from by simp [hm.1]]
  exact loop_odd_meet hp (pair_mono hp (Nat.div_le_self n 2)) hm.2

theorem runAt_adv {f n : Nat} (hp : (cellAt s c n).isPair = true) (hb : ∀ k ≤ n, InB s c k)
    (hm : ¬ Meet s c n) : runAt (f+1) s c n = runAt f s c (n+1) := by
  unfold runAt
  rcases Nat.mod_two_eq_zero_or_one n with h0 | h1
  · have e1 : (n + 1) / 2 = n / 2 := by omega
    have e2 : (n + 1) % 2 = 1 := by omega
    rw [show decide (n % 2 = 1) = false from by simp [h0], show decide ((n+1) % 2 = 1) = true from by simp [e2], e1]
    exact loop_even hp (hb n (Nat.le_refl n))
  · have e1 : (n + 1) / 2 = n / 2 + 1 := by omega
    have e2 : (n + 1) % 2 = 0 := by omega
    rw [show decide (n % 2 = 1) = true from by simp [h1], show decide ((n+1) % 2 = 1) = false from by simp [e2], e1]
    have hne : cdrIx (cellAt s c n) ≠ cdrIx (cellAt s c (n / 2)) := fun h => hm ⟨h1, h⟩
    exact loop_odd_adv hp (pair_mono hp (Nat.div_le_self n 2)) (hb n (Nat.le_refl n))
      (hb (n / 2) (Nat.div_le_self n 2)) hne

theorem walk_to {α : Type} {R : Nat → Nat → Outcome α} {K : Nat} {r : Outcome α}
    (hadv : ∀ n, n < K → ∀ f, R (f+1) n = R f (n+1)) (hend : ∀ f, R (f+1) K = r) :
    ∀ j n, n + j = K → ∀ f, j < f → R f n = r
  | _, _, _, 0, hf => absurd hf (Nat.not_lt_zero _)
  | 0, n, hn, f+1, _ => by
    obtain rfl : n = K := hn
    exact hend f
  | j+1, n, hn, f+1, hf => by
    rw [hadv n (by omega)]
    exact walk_to hadv hend j (n+1) (by omega) f (by omega)

theorem periodic {i j : Nat} (hpi : (cellAt s c i).isPair = true) (hpj : (cellAt s c j).isPair = true)
    (he : cdrIx (cellAt s c i) = cdrIx (cellAt s c j)) : ∀ t, cellAt s c (i + 1 + t) = cellAt s c (j + 1 + t)
  | 0 => nx_congr hpi hpj he
  | t+1 => by
    show nx s (cellAt s c (i + 1 + t)) = nx s (cellAt s c (j + 1 + t))
    rw [periodic hpi hpj he t]

theorem periodic_all_pairs {i j : Nat} (hij : i < j) (hp : ∀ k ≤ j, (cellAt s c k).isPair = true)
    (he : cdrIx (cellAt s c i) = cdrIx (cellAt s c j)) : ∀ k, (cellAt s c k).isPair = true := by
  intro k
  induction k using Nat.strongRecOn with
  | _ k ih =>
    by_cases hk : k ≤ j
    · exact hp k hk
    · have hper := periodic (hp i (by omega)) (hp j (Nat.le_refl j)) he (k - (j + 1))
      rw [show j + 1 + (k - (j + 1)) = k from by omega] at hper
      rw [← hper]
      exact ih _ (by omega)

/-- pigeonhole, by hand: `Proofs/C14.lean` imports this file and does not parse under Mathlib's notation -/
theorem pigeon : ∀ (N : Nat) (p : Nat → Nat), (∀ k, k ≤ N → p k < N) → ∃ i j, i < j ∧ j ≤ N ∧ p i = p j
  | 0, p, h => absurd (h 0 (Nat.le_refl 0)) (Nat.not_lt_zero _)
  | N+1, p, h => by
    by_cases hex : ∃ k, k ≤ N ∧ p k = p (N+1)
    · obtain ⟨k, hk, he⟩ := hex
      exact ⟨k, N+1, by omega, Nat.le_refl _, he⟩
    · -- the value `p (N+1)` does not occur among `p 0 … p N`: squeeze it out
      have hne : ∀ k, k ≤ N → p k ≠ p (N+1) := fun k hk he => hex ⟨k, hk, he⟩
      have hv := h (N+1) (Nat.le_refl _)
      obtain ⟨i, j, hij, hj, he⟩ := pigeon N (fun k => if p k < p (N+1) then p k else p k - 1) (by
        intro k hk
        have h1 := h k (by omega)
        have h2 := hne k hk
        show (if p k < p (N+1) then p k else p k - 1) < N
        split <;> omega)
      refine ⟨i, j, hij, by omega, ?_⟩
      have h1 := hne i (by omega)
      have h2 := hne j hj
      have he' : (if p i < p (N+1) then p i else p i - 1) = (if p j < p (N+1) then p j else p j - 1) := he
      split at he' <;> split at he' <;> omega

theorem exists_least {P : Nat → Prop} {n : Nat} (hn : P n) : ∃ m, m ≤ n ∧ P m ∧ ∀ k, k < m → ¬ P k := by
  induction n using Nat.strongRecOn with
  | _ n ih =>
    by_cases hex : ∃ k, k < n ∧ P k
    · obtain ⟨k, hk, hpk⟩ := hex
      obtain ⟨m, hm, h⟩ := ih k hk hpk
      exact ⟨m, by omega, h⟩
    · exact ⟨n, Nat.le_refl n, hn, fun k hk hpk => hex ⟨k, hk, hpk⟩⟩

/-- a wild reference is followed by `undef`, which is not a pair -/
theorem inB_of_next_pair {k : Nat} (hp : (cellAt s c k).isPair = true) (hn : (cellAt s c (k+1)).isPair = true) :
    InB s c k := by
  obtain ⟨a, d, h⟩ := VCell.isPair_iff.mp hp
  rw [InB, h]
  refine Nat.lt_of_not_le fun (hle : s.cells.length ≤ d) => ?_
  simp [cellAt, h, nx, List.getElem?_eq_none hle, VCell.isPair] at hn

/-- in a chain of pairs some odd iteration `≤ 2N+1` sees equal references -/
theorem exists_meet (hp : ∀ k, (cellAt s c k).isPair = true) :
    ∃ n, n ≤ 2 * s.cells.length + 1 ∧ Meet s c n := by
  obtain ⟨i, j, hij, hjN, he⟩ := pigeon s.cells.length (fun k => cdrIx (cellAt s c k))
    (fun k _ => inB_of_next_pair (hp k) (hp (k+1)))
  have hper := periodic (hp i) (hp j) he
  -- period `l = j - i` from `i + 1` on
  have per1 : ∀ k, i + 1 ≤ k → cellAt s c (k + (j - i)) = cellAt s c k := by
    intro k hk
    have := hper (k - (i + 1))
    rw [show i + 1 + (k - (i + 1)) = k from by omega, show j + 1 + (k - (i + 1)) = k + (j - i) from by omega] at this
    exact this.symm
  have perT : ∀ t k, i + 1 ≤ k → cellAt s c (k + t * (j - i)) = cellAt s c k := by
    intro t
    induction t with
    | zero => intro k _; simp
    | succ t ih =>
      intro k hk
      rw [show k + (t + 1) * (j - i) = (k + t * (j - i)) + (j - i) from by rw [Nat.succ_mul]; omega]
      rw [per1 _ (by omega)]
      exact ih k hk
  -- a multiple `M` of the period with `i + 2 ≤ M ≤ j + 1`
  have hl : 0 < j - i := by omega
  let q := (i + 1) / (j - i) + 1
  have hdm := Nat.div_add_mod (i + 1) (j - i)
  have hml := Nat.mod_lt (i + 1) hl
  have hM : q * (j - i) = (j - i) * ((i + 1) / (j - i)) + (j - i) := by
    show ((i + 1) / (j - i) + 1) * (j - i) = _
    rw [Nat.succ_mul, Nat.mul_comm]
  have hM1 : i + 2 ≤ q * (j - i) := by omega
  have hM2 : q * (j - i) ≤ j + 1 := by omega
  refine ⟨2 * (q * (j - i) - 1) + 1, by omega, by omega, ?_⟩
  have e1 : 2 * (q * (j - i) - 1) + 1 = (q * (j - i) - 1) + q * (j - i) := by omega
  have e2 : (2 * (q * (j - i) - 1) + 1) / 2 = q * (j - i) - 1 := by omega
  rw [e2, e1, perT q _ (by omega)]

theorem chain_cases (s : Store) (c : VCell) : (∀ k, (cellAt s c k).isPair = true) ∨
    ∃ K, (cellAt s c K).isPair = false ∧ ∀ k, k < K → (cellAt s c k).isPair = true := by
  by_cases h : ∃ k, (cellAt s c k).isPair = false
  · obtain ⟨k, hk⟩ := h
    obtain ⟨K, _, hK, hmin⟩ := exists_least (P := fun k => (cellAt s c k).isPair = false) hk
    exact .inr ⟨K, hK, fun k hk => by simpa using hmin k hk⟩
  · exact .inl fun k => by simpa using fun hk => h ⟨k, hk⟩

section
variable {K : Nat} (hK : (cellAt s c K).isPair = false) (hmin : ∀ k, k < K → (cellAt s c k).isPair = true)
include hK

/-- a repetition would make the chain periodic -/
theorem no_repeat {i j : Nat} (hij : i < j) (hp : ∀ k ≤ j, (cellAt s c k).isPair = true) :
    cdrIx (cellAt s c i) ≠ cdrIx (cellAt s c j) := fun he => by
  simpa [hK] using periodic_all_pairs hij hp he K

include hmin

theorem not_meet {k : Nat} (hk : k < K) : ¬ Meet s c k := fun hm =>
  no_repeat hK (i := k / 2) (j := k) (by have := hm.1; omega) (fun m hm' => hmin m (by omega)) hm.2.symm

theorem inB_le {M : Nat} (hM : M ≤ K) (hb : ∀ k, k < M → InB s c k) : M ≤ s.cells.length := by
  refine Nat.le_of_not_lt fun hgt => ?_
  obtain ⟨i, j, hij, hjN, he⟩ := pigeon s.cells.length (fun k => cdrIx (cellAt s c k)) (fun k hk => hb k (by omega))
  exact no_repeat hK hij (fun m hm => hmin m (by omega)) he

theorem reaches_nil_iff : (∃ n, cellAt s c n = .nil) ↔ (cellAt s c K).isNil = true := by
  constructor
  · rintro ⟨n, hn⟩
    have hle : K ≤ n := Nat.le_of_not_lt fun h => by simpa [hn, VCell.isPair] using hmin n h
    have := cellAt_stable hK (n - K)
    rw [Nat.add_sub_cancel' hle, hn] at this
    rw [← this]; rfl
  · intro h
    refine ⟨K, ?_⟩
    cases h' : cellAt s c K <;> simp [h', VCell.isNil] at h ⊢

theorem run_acyclic {M : Nat} {r : Outcome Bool} (hM : M ≤ K) (hb : ∀ k, k < M → InB s c k)
    (hend : ∀ f, runAt (f+1) s c M = r) {fuel : Nat} (hf : s.cells.length < fuel) : runAt fuel s c 0 = r :=
  walk_to (R := (runAt · s c ·)) (K := M) (fun k hk f => runAt_adv (hmin k (by omega)) (fun j hj => hb j (by omega)) (not_meet hK hmin (by omega)))
    hend M 0 (by omega) fuel (by have := inB_le hK hmin hM hb; omega)

end

theorem run_cyclic (hcyc : ∀ k, (cellAt s c k).isPair = true) {fuel : Nat} (hf : 2 * s.cells.length + 2 ≤ fuel) :
    runAt fuel s c 0 = .ok false := by
  obtain ⟨n, hn, hm⟩ := exists_meet hcyc
  obtain ⟨n0, hle, hm0, hmin⟩ := exists_least (P := Meet s c) hm
  exact walk_to (R := (runAt · s c ·)) (fun k hk f => runAt_adv (hcyc k) (fun j _ => inB_of_next_pair (hcyc j) (hcyc (j+1))) (hmin k hk))
    (fun f => runAt_meet (hcyc n0) hm0) n0 0 (by omega) fuel (by omega)

theorem nx_valid (hs : s.WF) {c : VCell} (hv : VCell.Valid s c) : VCell.Valid s (nx s c) := by
  cases c with
  | pair a d =>
    have hd : d < s.cells.length := hv.2
    simp only [nx, List.getElem?_eq_getElem hd, Option.getD_some]
    exact hs.cells _ (List.getElem_mem hd)
  | _ => exact hv

theorem cellAt_valid (hs : s.WF) (hv : VCell.Valid s c) : ∀ k, VCell.Valid s (cellAt s c k)
  | 0 => hv
  | k+1 => nx_valid hs (cellAt_valid hs hv k)

theorem inB_of_valid {k : Nat} (hv : VCell.Valid s (cellAt s c k)) (hp : (cellAt s c k).isPair = true) :
    InB s c k := by
  obtain ⟨a, d, h⟩ := VCell.isPair_iff.mp hp
  rw [h] at hv
  rw [InB, h]
  exact hv.2

theorem properList_reaches {v : VCell} (h : ProperList s v) : ∀ c, s.get v = .ok c → ∃ K, cellAt s c K = .nil := by
  induction h with
  | nil hg => intro c hc; rw [hg] at hc; cases hc; exact ⟨0, rfl⟩
  | @cons v a d hg htl ih =>
    intro c hc
    rw [hg] at hc; cases hc
    -- the tail is a proper list, so its reference resolves
    obtain ⟨c', hc'⟩ : ∃ c', s.get (.ptr d) = .ok c' := by
      cases htl with
      | nil h0 => exact ⟨_, h0⟩
      | cons h0 _ => exact ⟨_, h0⟩
    obtain ⟨K, hK⟩ := ih c' hc'
    refine ⟨K+1, ?_⟩
    rw [cellAt_succ_nx]
    simpa [nx, cell_of_get hc'] using hK

theorem reaches_properList (hs : s.WF) : ∀ (K : Nat) (v c : VCell), s.get v = .ok c → VCell.Valid s c →
    cellAt s c K = .nil → ProperList s v
  | 0, v, c, hg, _, hK => by
    simp only [cellAt] at hK; subst hK; exact .nil hg
  | K+1, v, c, hg, hv, hK => by
    rw [cellAt_succ_nx] at hK
    cases c with
    | pair a d =>
      have hd : d < s.cells.length := hv.2
      have hg' : s.get (.ptr d) = .ok (nx s (.pair a d)) := get_next (c := .pair a d) rfl hd
      exact .cons hg (reaches_properList hs K (.ptr d) _ hg' (nx_valid hs hv) hK)
    | _ => exact reaches_properList hs K v _ hg hv (by simpa [nx] using hK)

theorem loop_total (hs : s.WF) (hv : VCell.Valid s c) {fuel : Nat} (hf : 2 * s.cells.length + 2 ≤ fuel) :
    ∃ b, isListTHLoop fuel s c c false = .ok b ∧ (b = true ↔ ∃ K, cellAt s c K = .nil) := by
  rcases chain_cases s c with hcyc | ⟨K, hK, hmin⟩
  · refine ⟨false, run_cyclic hcyc hf, by simp, fun ⟨n, hn⟩ => ?_⟩
    simpa [hn, VCell.isPair] using hcyc n
  · exact ⟨(cellAt s c K).isNil,
      run_acyclic hK hmin (Nat.le_refl K) (fun k hk => inB_of_valid (cellAt_valid hs hv k) (hmin k hk))
        (fun f => runAt_stop hK) (by omega),
      (reaches_nil_iff hK hmin).symm⟩

theorem loop_never_diverges (s : Store) (c : VCell) {fuel : Nat} (hf : 2 * s.cells.length + 2 ≤ fuel) :
    isListTHLoop fuel s c c false ≠ .diverge := by
  show runAt fuel s c 0 ≠ _
  rcases chain_cases s c with hcyc | ⟨K, hK, hmin⟩
  · simp [run_cyclic hcyc hf]
  · by_cases hw : ∀ k, k < K → InB s c k
    · simp [run_acyclic hK hmin (Nat.le_refl K) hw (fun f => runAt_stop hK) (show _ < fuel by omega)]
    · -- only the last pair of the chain can hold a wild reference
      obtain ⟨k, hk, hwild⟩ : ∃ k, k < K ∧ ¬ InB s c k := by simpa using hw
      obtain rfl : K = k + 1 := by
        have : ¬ k + 1 < K := fun h => hwild (inB_of_next_pair (hmin k hk) (hmin (k+1) h))
        omega
      obtain ⟨r, hr, hall⟩ := loop_oob (hmin k hk) hwild (cellAt s c (k / 2)) (decide (k % 2 = 1))
      rw [run_acyclic hK hmin (Nat.le_succ k)
        (fun j hj => inB_of_next_pair (hmin j (by omega)) (hmin (j+1) (by omega))) hall (show _ < fuel by omega)]
      exact hr

end THL

/-- **T06.3 for `list?`.** On every well-formed store, circular or not, `fuel ≥ 2·|cells| + 2` suffices: a boolean (no
    `diverge`, `panic`, `err`), the store as it was, and `#t` exactly when the cdr chain reaches `()`. -/
theorem isListTH_total {s : Store} (hs : s.WF) {x : VCell} (hx : VCell.Valid s x) {fuel : Nat}
    (hf : 2 * s.cells.length + 2 ≤ fuel) :
    ∃ b, isListTH fuel s [x] = .ok (s, .bool b) ∧ (b = true ↔ ProperList s x) := by
  obtain ⟨c, hc, hcv⟩ := get_valid hs hx
  obtain ⟨b, hb, hiff⟩ := THL.loop_total hs hcv hf
  refine ⟨b, by simp [isListTH, hc, hb], hiff.trans ⟨?_, ?_⟩⟩
  · intro ⟨K, hK⟩; exact THL.reaches_properList hs K x c hc hcv hK
  · intro h; exact THL.properList_reaches h c hc

theorem isListTH_terminates {s : Store} (hs : s.WF) {args : List VCell} (ha : ∀ v ∈ args, VCell.Valid s v)
    {fuel : Nat} (hf : 2 * s.cells.length + 2 ≤ fuel) :
    (∃ b, isListTH fuel s args = .ok (s, .bool b)) ∨ isListTH fuel s args = .err .arity := by
  match args, ha with
  | [x], ha =>
    obtain ⟨b, hb, _⟩ := isListTH_total hs (ha x (by simp)) hf
    exact .inl ⟨b, hb⟩
  | [], _ => exact .inr rfl
  | _ :: _ :: _, _ => exact .inr rfl

/-- no hypothesis on the store at all: the Rust loop returns (or panics on a wild pointer) on every heap -/
theorem isListTH_never_diverges (s : Store) (args : List VCell) {fuel : Nat}
    (hf : 2 * s.cells.length + 2 ≤ fuel) : isListTH fuel s args ≠ .diverge := by
  unfold isListTH
  split
  · exact bind_ne_diverge (get_ne_diverge s _) fun c _ =>
      bind_ne_diverge (THL.loop_never_diverges s c hf) fun _ _ => by simp
  · simp

end Marwood.Store
