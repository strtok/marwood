import Marwood.Spec.Plain
import Marwood.Lemmas.GcSafety
/-!
# Under the kind discipline `Plain` the repaired marker follows exactly the semantic references

`crefs true c = srefs c` (as lists, in marking order) for every plain heap cell, kind by kind; hence the
marker's graph and root list coincide with `Spec.schildren` / `Spec.sroots` on a plain heap.
-/
namespace Marwood.Lemmas.PolicyPlain
open Marwood Marwood.Heap Marwood.Spec Marwood.Lemmas.GcSafety

theorem bcSem_zero (j : Bool) (l : List VCell) : bcSem 0 j l = bcSem 0 false l := by
  cases l with
  | nil => rfl
  | cons c cs => cases c <;> rfl

theorem isJumpOp_of_not_opcode (c : VCell) (h : VCell.isOpcode c = false) : c.isJumpOp = false := by
  cases c <;> first | rfl | cases h

theorem arity_of_isJump (o : Op) (h : o.isJump = true) : o.arity = 1 := by
  cases o <;> first | rfl | cases h

/-- where an instruction is expected, a cell that is not an opcode is read as a datum by all three -/
theorem bc_head (c : VCell) (cs : List VCell) : (∃ o, c = .opcode o) ∨
    (plainBc 0 (c :: cs) = (plainV c && plainBc 0 cs) ∧
     bcRefs true false (c :: cs) = vrefs true c ++ bcRefs true false cs ∧
     bcSem 0 false (c :: cs) = srefs c ++ bcSem 0 false cs) := by
  cases c <;> first | exact .inl ⟨_, rfl⟩ | exact .inr ⟨rfl, rfl, rfl⟩

mutual
theorem vrefs_eq (c : VCell) (h : plainV c = true) : vrefs true c = srefs c := by
  match c, h with
  | .atom _, _ | .opcode _, _ | .symbol _, _ | .pair _ _, _ | .ptr _, _ | .closure _ _, _
  | .envPtr _, _ | .lexEnvPtr _ _, _ | .ip _ _, _ => rfl
  | .lexEnv _, h => cases h
  | .vector es, h => exact vrefsList_eq es h
  | .cont stk l e, h => exact congrArg (· ++ [l, e]) (vrefsList_eq stk h)
  | .lambda bc args em, h =>
    replace h : (plainBc 0 bc && plainVs args && plainVs em) = true := h
    simp only [Bool.and_eq_true] at h
    show bcRefs true false bc ++ vrefsList true args ++ vrefsList true em = _
    rw [bcRefs_eq bc 0 h.1.1, vrefsList_eq args h.1.2, vrefsList_eq em h.2]
    rfl
theorem vrefsList_eq (l : List VCell) (h : plainVs l = true) : vrefsList true l = srefsList l := by
  match l, h with
  | [], _ => rfl
  | c :: cs, h =>
    replace h : (plainV c && plainVs cs) = true := h
    simp only [Bool.and_eq_true] at h
    show vrefs true c ++ vrefsList true cs = _
    rw [vrefs_eq c h.1, vrefsList_eq cs h.2]
    rfl
/-- the bytecode loop of the repaired `mark_lambda` = decoding by opcode arity -/
theorem bcRefs_eq (l : List VCell) (p : Nat) (h : plainBc p l = true) :
    bcRefs true false l = bcSem p false l := by
  match l, p, h with
  | [], _, _ => rfl
  | c :: cs, p+1, h =>
    replace h : (!VCell.isOpcode c && plainV c && plainBc p cs) = true := h
    simp only [Bool.and_eq_true, Bool.not_eq_true'] at h
    show (if c.isJumpOp then bcRefs true true cs else vrefs true c ++ bcRefs true false cs) =
      srefs c ++ bcSem p false cs
    rw [isJumpOp_of_not_opcode c h.1.1, vrefs_eq c h.1.2, bcRefs_eq cs p h.2]
    rfl
  | c :: cs, 0, h =>
    rcases bc_head c cs with ⟨o, rfl⟩ | ⟨e1, e2, e3⟩
    · replace h : plainBc o.arity cs = true := h
      show (if o.isJump then bcRefs true true cs else bcRefs true false cs) = bcSem o.arity o.isJump cs
      cases hj : o.isJump with
      | false => exact bcRefs_eq cs _ h
      | true =>
        -- arity 1, the operand is an offset — skipped by both
        rw [arity_of_isJump o hj] at h ⊢
        match cs, h with
        | [], _ => rfl
        | d :: ds, h =>
          replace h : (!VCell.isOpcode d && plainV d && plainBc 0 ds) = true := h
          simp only [Bool.and_eq_true] at h
          show bcRefs true false ds = bcSem 0 true ds
          rw [bcSem_zero true]
          exact bcRefs_eq ds 0 h.2
    · rw [e1, Bool.and_eq_true] at h
      rw [e2, e3, vrefs_eq c h.1, bcRefs_eq cs 0 h.2]
end

theorem crefs_eq (c : VCell) (h : plainC c = true) : crefs true c = srefs c := by
  cases c with
  | lexEnvPtr _ _ | ip _ _ => cases h
  | lexEnv slots => exact vrefsList_eq slots h
  -- on every other kind `Heap::mark` does what `mark_vcell` does
  | _ => exact vrefs_eq _ h

theorem slots_eq (l : List VCell) (h : l.all plainSlot = true) :
    l.filterMap VCell.asPtr? = srefsList l := by
  induction l with
  | nil => rfl
  | cons c cs ih =>
    simp only [List.all_cons, Bool.and_eq_true] at h
    show _ = srefs c ++ srefsList cs
    rw [← ih h.2]
    cases c
    case ptr p => rfl
    all_goals
      simp only [plainSlot, List.isEmpty_iff] at h
      rw [h.1]
      rfl

theorem roots_eq (r : Roots) (h : plainRoots r = true) : r.refs true = sroots r := by
  simp only [plainRoots, Bool.and_eq_true] at h
  simp [Roots.refs, sroots, slots_eq _ h.1.1, vrefsList_eq _ h.1.2, vrefs_eq _ h.2]

theorem children_eq (h : Heap) (hp : plainHeap h = true) (x : Nat) :
    h.children true x = schildren h x := by
  unfold Heap.children schildren
  cases hc : h.cells[x]? with
  | none => rfl
  | some c =>
    simp only
    apply crefs_eq
    have hlt : x < h.cells.size := lt_of_get_some hc
    rw [Array.getElem?_eq_getElem hlt] at hc
    cases hc
    exact (List.all_eq_true.mp hp) _ (Array.mem_toList_iff.mpr (Array.getElem_mem hlt))

theorem reachable_iff_live (h : Heap) (r : Roots) (hsz : h.gc.size = h.cells.size)
    (hp : plainHeap h = true) (hr : plainRoots r = true) (x : Nat) :
    Reachable true h (r.refs true) x ↔ Live h r x := by
  unfold Reachable Live
  have hc : h.children true = schildren h := funext (children_eq h hp)
  rw [hc, roots_eq r hr, hsz]

end Marwood.Lemmas.PolicyPlain
