import Marwood.Heap.Gc
/-!
# What `Heap::sweep` does, extensionally

`SweepSpec h h'`: per cell `Used ↦ Allocated`, `Free ↦ Free`, `Allocated ↦ Free` (the cell becomes `Undefined`,
goes on the free list, and its name, if it holds a symbol, leaves the table). Proved for the index loop `sweepFrom`.
-/
namespace Marwood.Lemmas.GcSweep
open Marwood Marwood.Heap
open Classical

def sweptState : GcState → GcState
  | .used => .allocated
  | _ => .free

theorem getElem?_set {α} (a : Array α) {p : Nat} (v : α) (hp : p < a.size) (i : Nat) :
    (a.setIfInBounds p v)[i]? = if i = p then some v else a[i]? := by
  rw [Array.getElem?_setIfInBounds, if_pos hp]
  by_cases h : i = p
  · rw [if_pos h, if_pos h.symm]
  · rw [if_neg h, if_neg (Ne.symm h)]

theorem lookup_remove (tab : List (Text × Nat)) (n name : Text) :
    ((Heap.symRemove tab n).find? (·.1 = name)).map (·.2) =
      if name = n then none else (tab.find? (·.1 = name)).map (·.2) := by
  rw [Heap.symRemove, List.find?_filter]
  split
  · next h =>
    subst h
    rw [List.find?_eq_none.mpr]; rfl
    intro e _; simp
  · next h =>
    congr 2; funext e
    by_cases he : e.1 = name
    · simp [he, h]
    · simp [he]

theorem lookup_insert (tab : List (Text × Nat)) (n name : Text) (p : Nat) :
    ((Heap.symInsert tab n p).find? (·.1 = name)).map (·.2) =
      if name = n then some p else (tab.find? (·.1 = name)).map (·.2) := by
  unfold Heap.symInsert
  by_cases hn : name = n
  · simp [hn]
  · have : ¬ n = name := fun h => hn h.symm
    simp only [List.find?_cons, this, decide_false, hn, if_false]
    have := lookup_remove tab n name
    simp only [Heap.symRemove, hn, if_false] at this
    exact this

theorem lookup_freeTab (cells : Array VCell) (tab : List (Text × Nat)) (p : Nat) (n : Text) :
    ((Heap.freeTab cells tab p).find? (·.1 = n)).map (·.2) =
      if cells[p]? = some (VCell.symbol n) then none else (tab.find? (·.1 = n)).map (·.2) := by
  unfold Heap.freeTab
  split
  · next name hc =>
    rw [lookup_remove, hc]
    simp only [Option.some.injEq, VCell.symbol.injEq, eq_comm]
  · next hc =>
    rw [if_neg]
    intro e; exact hc n e

structure StepSpec (h h1 : Heap) (i : Nat) : Prop where
  chunk : h1.chunk = h.chunk
  gcsize : h1.gc.size = h.gc.size
  csize : h1.cells.size = h.cells.size
  gc : ∀ j : Nat, h1.gc[j]? = if j = i then (h.gc[i]?).map sweptState else h.gc[j]?
  cells : ∀ j : Nat, h1.cells[j]? =
    if j = i ∧ h.gc[i]? = some GcState.allocated then some VCell.undefined else h.cells[j]?
  free : h1.free = if h.gc[i]? = some GcState.allocated then i :: h.free else h.free
  sym : ∀ name, h1.symLookup name =
    if h.gc[i]? = some GcState.allocated ∧ h.cells[i]? = some (VCell.symbol name) then none
    else h.symLookup name

theorem sweepStep_spec (h : Heap) (i : Nat) (hsz : h.gc.size = h.cells.size) (hi : i < h.gc.size) :
    ∃ h1, Heap.sweepStep h i = .ok h1 ∧ StepSpec h h1 i := by
  have hic : i < h.cells.size := hsz ▸ hi
  unfold Heap.sweepStep
  cases hst : h.gc[i] with
  | free =>
    have hg : h.gc[i]? = some GcState.free := hst ▸ Array.getElem?_eq_getElem hi
    have hna : ¬ h.gc[i]? = some GcState.allocated := by rw [hg]; simp
    rw [hg]
    refine ⟨h, rfl, ⟨rfl, rfl, rfl, fun j => ?_, fun j => ?_, ?_, fun name => ?_⟩⟩
    · split
      · next e => rw [e, hg]; rfl
      · rfl
    · rw [if_neg fun e => hna e.2]
    · rw [if_neg hna]
    · rw [if_neg fun e => hna e.1]
  | used =>
    have hg : h.gc[i]? = some GcState.used := hst ▸ Array.getElem?_eq_getElem hi
    have hna : ¬ h.gc[i]? = some GcState.allocated := by rw [hg]; simp
    rw [hg]
    refine ⟨{ h with gc := h.gc.setIfInBounds i .allocated }, ?_,
      ⟨rfl, Array.size_setIfInBounds, rfl, fun j => ?_, fun j => ?_, ?_, fun name => ?_⟩⟩
    · rw [Heap.setState, if_pos hi]
    · rw [hg]; exact getElem?_set _ _ hi j
    · rw [if_neg fun e => hna e.2]
    · rw [if_neg hna]
    · rw [if_neg fun e => hna e.1]; rfl
  | allocated =>
    have hg : h.gc[i]? = some GcState.allocated := hst ▸ Array.getElem?_eq_getElem hi
    simp only [hg, Heap.free', Heap.setState, hi, hic, if_true, bind, Except.bind]
    refine ⟨_, rfl, ⟨rfl, Array.size_setIfInBounds, Array.size_setIfInBounds, fun j => ?_, fun j => ?_,
        (if_pos hg).symm, fun name => ?_⟩⟩
    · rw [hg]; exact getElem?_set _ _ hi j
    · simp only [hg, and_true]; exact getElem?_set _ _ hic j
    · simp only [hg, true_and]; exact lookup_freeTab h.cells h.symtab i name

theorem sweepFrom_snoc {l : List Nat} {k : Nat} : ∀ {h h' h'' : Heap}, Heap.sweepFrom h l = .ok h' →
    Heap.sweepStep h' k = .ok h'' → Heap.sweepFrom h (l ++ [k]) = .ok h'' := by
  induction l with
  | nil =>
    intro h h' h'' h1 h2
    cases h1
    show (Heap.sweepStep h k >>= fun x => Heap.sweepFrom x []) = _
    rw [h2]; rfl
  | cons i l ih =>
    intro h h' h'' h1 h2
    rw [List.cons_append, Heap.sweepFrom]
    rw [Heap.sweepFrom] at h1
    cases hs : Heap.sweepStep h i with
    | error e => rw [hs] at h1; cases h1
    | ok x => rw [hs] at h1; exact ih h1 h2

/-- the heap after the loop has dealt with the indices below `k` -/
structure SweptTo (k : Nat) (h h' : Heap) : Prop where
  chunk : h'.chunk = h.chunk
  gcsize : h'.gc.size = h.gc.size
  csize : h'.cells.size = h.cells.size
  gc : ∀ j : Nat, h'.gc[j]? = if j < k then (h.gc[j]?).map sweptState else h.gc[j]?
  cells : ∀ j : Nat, h'.cells[j]? =
    if j < k ∧ h.gc[j]? = some GcState.allocated then some VCell.undefined else h.cells[j]?
  free : h'.free = ((List.range k).filter fun j => h.gc[j]? = some GcState.allocated).reverse ++ h.free
  sym : ∀ name, h'.symLookup name =
    if ∃ j < k, h.gc[j]? = some GcState.allocated ∧ h.cells[j]? = some (VCell.symbol name) then none
    else h.symLookup name

theorem sweepFrom_range (h : Heap) (hsz : h.gc.size = h.cells.size) : ∀ k ≤ h.gc.size,
    ∃ h', Heap.sweepFrom h (List.range k) = .ok h' ∧ SweptTo k h h' := by
  intro k
  induction k with
  | zero =>
    intro _
    refine ⟨h, rfl, ⟨rfl, rfl, rfl, fun j => (if_neg (Nat.not_lt_zero j)).symm,
      fun j => (if_neg fun e => Nat.not_lt_zero j e.1).symm, rfl,
      fun name => (if_neg fun ⟨j, e, _⟩ => Nat.not_lt_zero j e).symm⟩⟩
  | succ k ih =>
    intro hk
    obtain ⟨h', hs', sp⟩ := ih (Nat.le_of_succ_le hk)
    -- cell `k` itself is still as it was
    have hgk : h'.gc[k]? = h.gc[k]? := by rw [sp.gc, if_neg (Nat.lt_irrefl k)]
    have hck : h'.cells[k]? = h.cells[k]? := by rw [sp.cells, if_neg fun e => Nat.lt_irrefl k e.1]
    obtain ⟨h'', hs, st⟩ := sweepStep_spec h' k (by rw [sp.gcsize, sp.csize]; exact hsz)
      (by rw [sp.gcsize]; exact hk)
    have hlt : ∀ j, j < k + 1 ↔ j < k ∨ j = k := fun j => Nat.lt_succ_iff_lt_or_eq
    refine ⟨h'', by rw [List.range_succ]; exact sweepFrom_snoc hs' hs,
      ⟨by rw [st.chunk, sp.chunk], by rw [st.gcsize, sp.gcsize], by rw [st.csize, sp.csize],
        fun j => ?_, fun j => ?_, ?_, fun name => ?_⟩⟩
    · rw [st.gc j, hgk, sp.gc j]
      by_cases hj : j = k
      · rw [hj, if_pos rfl, if_pos (Nat.lt_succ_self k)]
      · simp only [hlt, hj, if_false, or_false]
    · rw [st.cells j, hgk, sp.cells j]
      by_cases hj : j = k
      · subst hj; simp only [Nat.lt_irrefl, Nat.lt_succ_self, true_and, false_and, if_false]
      · simp only [hlt, hj, false_and, or_false, if_false]
    · rw [st.free, hgk, sp.free, List.range_succ, List.filter_append, List.reverse_append]
      by_cases ha : h.gc[k]? = some GcState.allocated
      · simp [ha]
      · simp [ha]
    · rw [st.sym name, hgk, hck, sp.sym name]
      by_cases hex : ∃ j < k, h.gc[j]? = some GcState.allocated ∧ h.cells[j]? = some (VCell.symbol name)
      · rw [if_pos hex, ite_self]
        obtain ⟨j, hj, e⟩ := hex
        rw [if_pos ⟨j, Nat.lt_succ_of_lt hj, e⟩]
      · rw [if_neg hex]
        refine ite_congr (propext ⟨?_, ?_⟩) (fun _ => rfl) (fun _ => rfl)
        · exact fun e => ⟨k, Nat.lt_succ_self k, e⟩
        · rintro ⟨j, hj, e⟩
          rcases (hlt j).mp hj with hj | hj
          · exact absurd ⟨j, hj, e⟩ hex
          · exact hj ▸ e

structure SweepSpec (h h' : Heap) : Prop where
  chunk : h'.chunk = h.chunk
  gcsize : h'.gc.size = h.gc.size
  csize : h'.cells.size = h.cells.size
  gc : ∀ j : Nat, h'.gc[j]? = (h.gc[j]?).map sweptState
  cells : ∀ j : Nat, h'.cells[j]? =
    if h.gc[j]? = some GcState.allocated then some VCell.undefined else h.cells[j]?
  free : h'.free =
    ((List.range h.cells.size).filter fun j => h.gc[j]? = some GcState.allocated).reverse ++ h.free
  sym : ∀ name, h'.symLookup name =
    if ∃ j : Nat, h.gc[j]? = some GcState.allocated ∧ h.cells[j]? = some (VCell.symbol name) then none
    else h.symLookup name

theorem sweep_spec (h : Heap) (hsz : h.gc.size = h.cells.size) :
    ∃ h', Heap.sweep h = .ok h' ∧ SweepSpec h h' := by
  obtain ⟨h', hs, sp⟩ := sweepFrom_range h hsz h.cells.size (Nat.le_of_eq hsz.symm)
  -- beyond the end there is no state, so the bound on `j` can go
  have hout : ∀ j, ¬ j < h.cells.size → h.gc[j]? = none := fun j hj =>
    Array.getElem?_eq_none (by omega)
  refine ⟨h', hs, ⟨sp.chunk, sp.gcsize, sp.csize, fun j => ?_, fun j => ?_, sp.free, fun name => ?_⟩⟩
  · rw [sp.gc j]
    split
    · rfl
    · next hj => rw [hout j hj]; rfl
  · rw [sp.cells j]
    refine ite_congr (propext ⟨?_, ?_⟩) (fun _ => rfl) (fun _ => rfl)
    · exact fun e => e.2
    · intro e
      refine ⟨Classical.byContradiction fun hj => ?_, e⟩
      rw [hout j hj] at e; cases e
  · rw [sp.sym name]
    refine ite_congr (propext ⟨?_, ?_⟩) (fun _ => rfl) (fun _ => rfl)
    · rintro ⟨j, _, e⟩; exact ⟨j, e⟩
    · rintro ⟨j, e⟩
      have hj : j < h.cells.size := Classical.byContradiction fun hj => by
        rw [hout j hj] at e; cases e.1
      exact ⟨j, hj, e⟩

end Marwood.Lemmas.GcSweep
