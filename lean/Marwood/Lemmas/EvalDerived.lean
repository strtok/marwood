import Marwood.Lemmas.EvalMonoMain
import Marwood.Lemmas.EvalDerivedShapes
/-!
# T01.2, second half — evaluating the prelude's expansion agrees with the native meaning

For a derived form `use` and the term `exp` the prelude's rule rewrites it to
(`Lemmas/EvalDerivedShapes.lean`), `Same k use exp ρ` says: whatever `Spec.Eval` yields definitely
(value or error, with the state: globals, store, output log) for one of the two with fuel `n`, it
yields for the other with fuel `n + k` — expansions nest deeper than the native form, so the equality
is up to fuel, and fuel monotonicity (`Lemmas/EvalMonoMain.lean`) makes `n + k` stand for "every
sufficient fuel". `exp` is the result of ONE rewriting step: the `(and e2 …)`, `(or e2 …)`, `(cond c …)`,
`(case k c …)`, `(let* (rest …) …)` and the inner `letrec` of named `let` that remain in it are read,
like its `let`, `begin`, `if`, with their NATIVE meaning.

This file: the calculus (`Same`, `SameAt`; `LeAt` is in `Lemmas/EvalMono.lean`), the native meaning of the core forms as equations,
and `when`.
-/
namespace Marwood.Spec.Eval.Derived
open Marwood Marwood.Spec.Eval Marwood.Spec.Eval.Prelude

theorem throw_bind {α β : Type} (e : ErrClass) (f : α → M β) : ((throw e : M α) >>= f) = throw e := rfl

theorem Le.of_eq {α : Type} {m m' : M α} (h : m = m') : Le m m' := h ▸ Le.refl m

theorem Le.at {α : Type} {m m' : M α} (h : Le m m') (st : St) : LeAt st m m' := h st

theorem LeAt.refl {α : Type} (st : St) (m : M α) : LeAt st m m := fun _ => rfl

theorem LeAt.of_eq {α : Type} {st : St} {m m' : M α} (h : m' st = m st) : LeAt st m m' := fun _ => h

theorem Le.bindP {α β : Type} {m m' : M α} {f f' : α → M β} (P : α → Prop) (hm : Le m m')
    (hp : ∀ st a st', m st = .ok a st' → P a) (hf : ∀ a, P a → Le (f a) (f' a)) :
    Le (m >>= f) (m' >>= f') :=
  fun st => LeAt.bind (hm st) fun a st' h => hf a (hp st a st' h) st'

theorem evalN_succ_eval (n : Nat) (e : Datum) (ρ : Env) : (evalN (n+1)).eval e ρ = evalStep (evalN n) e ρ := rfl
theorem evalN_succ_apply (n : Nat) (f : Val) (a : List Val) : (evalN (n+1)).apply f a = applyStep (evalN n) f a := rfl

theorem eval_le_step (m : Nat) (e : Datum) (ρ : Env) : Le ((evalN m).eval e ρ) (evalStep (evalN m) e ρ) :=
  (recLe_evalN_succ m).eval e ρ

theorem apply_le_step (m : Nat) (f : Val) (a : List Val) : Le ((evalN m).apply f a) (applyStep (evalN m) f a) :=
  (recLe_evalN_succ m).apply f a

theorem eval_le_add (m k : Nat) (e : Datum) (ρ : Env) : Le ((evalN m).eval e ρ) ((evalN (m + k)).eval e ρ) :=
  (recLe_evalN (Nat.le_add_right m k)).eval e ρ

/-- `use` (native) and `exp` (expansion) evaluate alike in `ρ`, up to `k` levels of fuel. `k` (also in
    `SameAt`, `AgreesUpToExtra`): how many more nested forms the expansion evaluates than the use to reach a
    sub-form or a reference of its own. 1: one `if` / `begin` / `let` / application level. 2: `unless` (the call
    `(not t)`, then `not`), named `let` (`letrec`, then its `lambda`), `cond =>` (`let`, `if`), `case` rule 1
    (`let`, then `atom-key`). `or_agrees`, `cond_test_agrees` state 3 where `let`, `if` = 2 would do. -/
def Same (k : Nat) (use exp : Datum) (ρ : Env) : Prop :=
  ∀ n, Le ((evalN n).eval use ρ) ((evalN (n + k)).eval exp ρ) ∧
       Le ((evalN n).eval exp ρ) ((evalN (n + k)).eval use ρ)

/-- `Same` from one state only (for hypotheses about the state, e.g. "`not` is the primitive") -/
def SameAt (k : Nat) (use exp : Datum) (ρ : Env) (st : St) : Prop :=
  ∀ n, ((evalN n).eval use ρ st ≠ .timeout → (evalN (n + k)).eval exp ρ st = (evalN n).eval use ρ st) ∧
       ((evalN n).eval exp ρ st ≠ .timeout → (evalN (n + k)).eval use ρ st = (evalN n).eval exp ρ st)

theorem Same.at {k : Nat} {use exp : Datum} {ρ : Env} (h : Same k use exp ρ) (st : St) : SameAt k use exp ρ st :=
  fun n => ⟨(h n).1 st, (h n).2 st⟩

theorem Same.mono {k k' : Nat} {use exp : Datum} {ρ : Env} (h : Same k use exp ρ) (hk : k ≤ k') :
    Same k' use exp ρ := by
  intro n
  obtain ⟨d, rfl⟩ := Nat.exists_eq_add_of_le hk
  rw [← Nat.add_assoc]
  exact ⟨(h n).1.trans (eval_le_add _ _ _ _), (h n).2.trans (eval_le_add _ _ _ _)⟩

/-- the fuel-free reading: the form and its expansion have the same definite outcomes (for some fuel) -/
theorem SameAt.limit {k : Nat} {use exp : Datum} {ρ : Env} {st : St} (h : SameAt k use exp ρ st)
    (res : Res Val) (hres : res ≠ .timeout) :
    (∃ n, (evalN n).eval use ρ st = res) ↔ (∃ n, (evalN n).eval exp ρ st = res) := by
  constructor
  · rintro ⟨n, rfl⟩; exact ⟨n + k, (h n).1 hres⟩
  · rintro ⟨n, rfl⟩; exact ⟨n + k, (h n).2 hres⟩

theorem properList_ofList (xs : List Datum) : properList (Datum.ofList xs) = some xs := by
  induction xs with
  | nil => rfl
  | cons x xs ih => simp [Datum.ofList, properList, ih]

@[simp] theorem kwOf_lambda : kwOf k_lambda = some .lambda := by decide
@[simp] theorem kwOf_setBang : kwOf k_setBang = some .setBang := by decide
@[simp] theorem kwOf_if : kwOf k_if_ = some .if_ := by decide
@[simp] theorem kwOf_let : kwOf k_let_ = some .let_ := by decide
@[simp] theorem kwOf_letStar : kwOf k_letStar = some .letStar := by decide
@[simp] theorem kwOf_letrec : kwOf k_letrec = some .letrec := by decide
@[simp] theorem kwOf_begin : kwOf k_begin_ = some .begin_ := by decide
@[simp] theorem kwOf_cond : kwOf k_cond = some .cond := by decide
@[simp] theorem kwOf_case : kwOf k_case_ = some .case_ := by decide
@[simp] theorem kwOf_and : kwOf k_and_ = some .and_ := by decide
@[simp] theorem kwOf_or : kwOf k_or_ = some .or_ := by decide
@[simp] theorem kwOf_when : kwOf k_when_ = some .when_ := by decide
@[simp] theorem kwOf_unless : kwOf k_unless_ = some .unless_ := by decide
@[simp] theorem kwOf_not : kwOf k_not = none := by decide

theorem truthy_false {v : Val} (h : ¬ truthy v = true) : v = .bool false := by
  cases v with
  | bool b => cases b with
    | false => rfl
    | true => exact absurd rfl h
  | _ => exact absurd rfl h

variable (r : Rec) (ρ : Env)

theorem native_sym (x : Text) : evalStep r (s x) ρ = evalVar x ρ := rfl

theorem native_bool (b : Bool) : evalStep r (.bool b) ρ = pure (.bool b) := rfl

theorem native_if2 (t c : Datum) :
    evalStep r (L [s k_if_, t, c]) ρ = (do
      let v ← r.eval t ρ
      if truthy v then r.eval c ρ else pure .void) := by
  simp [L, s, Datum.ofList, evalStep, evalKw, properList]

theorem native_if3 (t c a : Datum) :
    evalStep r (L [s k_if_, t, c, a]) ρ = (do
      let v ← r.eval t ρ
      if truthy v then r.eval c ρ else r.eval a ρ) := by
  simp [L, s, Datum.ofList, evalStep, evalKw, properList]

theorem native_begin (es : List Datum) : evalStep r (L (s k_begin_ :: es)) ρ = evalExprs r ρ es := by
  simp [L, s, Datum.ofList, evalStep, evalKw, properList_ofList]

theorem native_lambda (formals : Datum) (body : List Datum) :
    evalStep r (L (s k_lambda :: formals :: body)) ρ = makeClosure formals (L body) ρ := by
  simp [L, s, Datum.ofList, evalStep, evalKw]

theorem native_app_pair (a d : Datum) (args : List Datum) :
    evalStep r (L (.pair a d :: args)) ρ = (do
      let vs ← evalArgs r ρ args
      let fv ← r.eval (.pair a d) ρ
      r.apply fv vs) := by
  simp [L, Datum.ofList, evalStep, properList_ofList]

theorem native_app (f : Datum) (args : List Datum) (hf : ∀ x, f = .sym x → kwOf x = none) :
    evalStep r (L (f :: args)) ρ = (do
      let vs ← evalArgs r ρ args
      let fv ← r.eval f ρ
      r.apply fv vs) := by
  cases f with
  | sym x => simp [L, Datum.ofList, evalStep, properList_ofList, hf x rfl]
  | _ => simp [L, Datum.ofList, evalStep, properList_ofList]

theorem evalArgs_nil : evalArgs r ρ [] = pure [] := rfl

theorem evalArgs_one (e : Datum) : evalArgs r ρ [e] = (r.eval e ρ >>= fun v => pure [v]) := by
  simp only [evalArgs]
  rfl

theorem native_when (t b : Datum) (body : List Datum) :
    evalStep r (whenUse t b body) ρ = (do
      let v ← r.eval t ρ
      if truthy v then evalExprs r ρ (b :: body) else pure .void) := by
  simp [whenUse, L, s, Datum.ofList, evalStep, evalKw, properList, properList_ofList]

theorem native_unless (t b : Datum) (body : List Datum) :
    evalStep r (unlessUse t b body) ρ = (do
      let v ← r.eval t ρ
      if truthy v then pure .void else evalExprs r ρ (b :: body)) := by
  simp [unlessUse, L, s, Datum.ofList, evalStep, evalKw, properList, properList_ofList]

theorem native_and (es : List Datum) : evalStep r (andUse es) ρ = evalAnd r ρ es := by
  simp [andUse, L, s, Datum.ofList, evalStep, evalKw, properList_ofList]

theorem native_or (es : List Datum) : evalStep r (orUse es) ρ = evalOr r ρ es := by
  simp [orUse, L, s, Datum.ofList, evalStep, evalKw, properList_ofList]

theorem when_same (t b : Datum) (body : List Datum) : Same 1 (whenUse t b body) (whenExp t b body) ρ := by
  intro n
  cases n with
  | zero => exact ⟨Le.timeout _, Le.timeout _⟩
  | succ n =>
    constructor
    · rw [evalN_succ_eval, evalN_succ_eval, native_when, whenExp, native_if2]
      refine Le.bind ((recLe_evalN_succ n).eval t ρ) (fun v => ?_)
      split
      · rw [evalN_succ_eval, native_begin]
        exact Le.refl _
      · exact Le.refl _
    · refine Le.trans ?_ (eval_le_add (n+1) 1 _ ρ)
      rw [evalN_succ_eval, evalN_succ_eval, native_when, whenExp, native_if2]
      refine Le.bind (Le.refl _) (fun v => ?_)
      split
      · have := eval_le_step n (L (s k_begin_ :: b :: body)) ρ
        rwa [native_begin] at this
      · exact Le.refl _

end Marwood.Spec.Eval.Derived
