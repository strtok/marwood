import Marwood.Lemmas.PrintAtoms
import Marwood.Lemmas.LexSpans
/-!
# Printed atoms are self-delimiting tokens (C10)

`ScansAs sp ty rest`: the scanner, looking at `sp ++ rest`, produces one token of type `ty` spelled exactly `sp` and
continues with `rest`. Brackets, the quote mark, booleans and strings are self-delimiting whatever follows; the dot
needs the space the printer writes after it; characters, numbers and symbols need what the printer always puts after
an atom (`Delim`). `ScanTo pos cs ts`: scanning `cs` whose head is at byte `pos` yields the tokens `ts`.
-/
namespace Marwood

/-- what the printer puts after an atom: the end of the text, a space or `)` -/
def Delim : Text → Prop
  | [] => True
  | c :: _ => c = ' ' ∨ c = ')'

def ScansAs (sp : Text) (ty : TokType) (rest : Text) : Prop :=
  ∃ c cs, sp = c :: cs ∧ scanPiece c (cs ++ rest) = .tok sp ty rest

def ScanTo (pos : Nat) (cs : Text) (ts : List Token) : Prop :=
  ∃ f, scanFuel f pos cs = some (.ok ts)

theorem ScanTo.nil (pos : Nat) : ScanTo pos [] [] := ⟨1, rfl⟩

theorem ScanTo.tok {pos : Nat} {sp rest : Text} {ty : TokType} {ts : List Token}
    (hs : ScansAs sp ty rest) (h : ScanTo (pos + byteLen sp) rest ts) :
    ScanTo pos (sp ++ rest) (⟨pos, pos + byteLen sp, ty⟩ :: ts) := by
  obtain ⟨c, cs, rfl, hp⟩ := hs
  obtain ⟨f, hf⟩ := h
  refine ⟨f + 1, ?_⟩
  simp only [List.cons_append, scanFuel, hp, hf]

theorem scanPiece_space (rest : Text) : scanPiece ' ' rest = .skip [' '] rest := by
  have : scanOther ' ' rest = .skip [' '] rest := by
    unfold scanOther
    have a : isInitialIdentifier ' ' = false := by decide
    have b : isInitialNumber ' ' = false := by decide
    have c : isWhitespaceL1 ' ' = true := by decide
    simp [a, b, c]
  unfold scanPiece
  have h1 : isOpenChar ' ' = false := by decide
  have h2 : isCloseChar ' ' = false := by decide
  simp [h1, h2, this]

theorem ScanTo.space {pos : Nat} {rest : Text} {ts : List Token} (h : ScanTo (pos + 1) rest ts) :
    ScanTo pos (' ' :: rest) ts := by
  obtain ⟨f, hf⟩ := h
  refine ⟨f + 1, ?_⟩
  have hb : byteLen [' '] = 1 := by decide
  simp only [scanFuel, scanPiece_space, hb, hf]

theorem scan_of_scanTo {cs : Text} {ts : List Token} (h : ScanTo 0 cs ts) : scan cs = .ok ts := by
  obtain ⟨f, hf⟩ := h
  exact scan_of_fuel hf

theorem scansAs_lparen (rest : Text) : ScansAs ['('] .leftParen rest :=
  ⟨'(', [], rfl, by simp [scanPiece, isOpenChar]⟩

theorem scansAs_rparen (rest : Text) : ScansAs [')'] .rightParen rest :=
  ⟨')', [], rfl, by simp [scanPiece, isOpenChar, isCloseChar]⟩

theorem scansAs_quote (rest : Text) : ScansAs ['\''] .singleQuote rest :=
  ⟨'\'', [], rfl, by simp [scanPiece, isOpenChar, isCloseChar]⟩

theorem scanPiece_hash (cs : Text) : scanPiece '#' cs = scanHash '#' cs := by
  simp [scanPiece, isOpenChar, isCloseChar]

theorem scanPiece_dot (cs : Text) : scanPiece '.' cs = scanDot '.' cs := by
  simp [scanPiece, isOpenChar, isCloseChar]

theorem scanPiece_string (cs : Text) : scanPiece '"' cs = scanString '"' cs := by
  simp [scanPiece, isOpenChar, isCloseChar]

theorem scansAs_hashParen (rest : Text) : ScansAs ['#', '('] .hashParen rest :=
  ⟨'#', ['('], rfl, by rw [scanPiece_hash]; simp [scanHash]⟩

theorem scansAs_true (rest : Text) : ScansAs ['#', 't'] .true_ rest :=
  ⟨'#', ['t'], rfl, by rw [scanPiece_hash]; simp [scanHash]⟩

theorem scansAs_false (rest : Text) : ScansAs ['#', 'f'] .false_ rest :=
  ⟨'#', ['f'], rfl, by rw [scanPiece_hash]; simp [scanHash]⟩

theorem scansAs_dot (rest : Text) : ScansAs ['.'] .dot (' ' :: rest) :=
  ⟨'.', [], rfl, by
    have h3 : isSubsequentNumber ' ' = false := by decide
    have h4 : isSubsequentIdentifier ' ' = false := by decide
    simp [scanPiece_dot, scanDot, h3, h4]⟩

theorem scansAs_string (s rest : Text) : ScansAs (writeString s) .string rest := by
  refine ⟨'"', escapeStr s ++ ['"'], rfl, ?_⟩
  have e : escapeStr s ++ ['"'] ++ rest = escapeStr s ++ '"' :: rest := by simp
  rw [scanPiece_string, scanString, e, stringTail_escapeStr]
  rfl

theorem spanWhile_delim (p : Char → Bool) (hsp : p ' ' = false) (hrp : p ')' = false) :
    ∀ (ds rest : Text), (∀ x ∈ ds, p x = true) → Delim rest → spanWhile p (ds ++ rest) = (ds, rest) := by
  intro ds
  induction ds with
  | nil =>
    intro rest _ hd
    cases rest with
    | nil => rfl
    | cons c cs =>
      have : p c = false := by
        rcases hd with h | h <;> subst h <;> assumption
      simp [spanWhile, this]
  | cons d ds ih =>
    intro rest h hd
    have hdp : p d = true := h d (by simp)
    simp only [List.cons_append, spanWhile, hdp, if_true]
    rw [ih rest (fun x hx => h x (by simp [hx])) hd]

theorem digitChar_alnum : ∀ d, d < 16 → isAsciiAlnum (digitChar d) = true := by decide

theorem hexOf_alnum (c : Char) : ∀ x ∈ hexOf c, isAsciiAlnum x = true :=
  natDigits_forall (by omega) digitChar_alnum _

theorem scansAs_char_of_tail {body rest : Text}
    (h : charTail (body ++ rest) = some (body, rest)) : ScansAs ('#' :: '\\' :: body) .char rest := by
  refine ⟨'#', '\\' :: body, rfl, ?_⟩
  rw [scanPiece_hash]
  have e1 : (('\\' : Char) == 't') = false := by decide
  have e2 : (('\\' : Char) == 'f') = false := by decide
  have e3 : (('\\' : Char) == '(') = false := by decide
  have e4 : (('\\' : Char) == 'e' || ('\\' : Char) == 'i' || ('\\' : Char) == 'b' || ('\\' : Char) == 'o'
      || ('\\' : Char) == 'd' || ('\\' : Char) == 'x') = false := by decide
  have e5 : (('\\' : Char) == '\\') = true := by decide
  simp only [List.cons_append, scanHash, e1, e2, e3, e4, e5, Bool.false_eq_true, if_false, if_true, h]

/-- `space`, `newline`, `x1f` -/
theorem charTail_word (c : Char) (ds rest : Text) (hc : isAsciiAlpha c = true)
    (hds : ∀ x ∈ ds, isAsciiAlnum x = true) (hd : Delim rest) :
    charTail (c :: ds ++ rest) = some (c :: ds, rest) := by
  simp only [List.cons_append, charTail, hc, Bool.not_true, Bool.false_eq_true, if_false]
  rw [spanWhile_delim isAsciiAlnum (by decide) (by decide) ds rest hds hd]

theorem scansAs_char (c : Char) (rest : Text) (hd : Delim rest) :
    ScansAs (writeEscapedChar c) .char rest := by
  rcases writeEscapedChar_cases c with ⟨-, h⟩ | ⟨-, h⟩ | ⟨-, h⟩ | h <;> rw [h]
  · exact scansAs_char_of_tail (body := "space".toList)
      (charTail_word 's' "pace".toList rest (by decide) (by decide) hd)
  · exact scansAs_char_of_tail (body := "newline".toList)
      (charTail_word 'n' "ewline".toList rest (by decide) (by decide) hd)
  · exact scansAs_char_of_tail (body := 'x' :: hexOf c)
      (charTail_word 'x' (hexOf c) rest (by decide) (hexOf_alnum c) hd)
  · apply scansAs_char_of_tail (body := [c])
    by_cases ha : isAsciiAlpha c = true
    · exact charTail_word c [] rest ha (by simp) hd
    · simp [charTail, ha]

/-- what ends a number token: the end of the text, or a character that is neither a number character nor (except `;`)
an identifier character; `Delim` is a special case -/
def Stop : Text → Prop
  | [] => True
  | c :: _ => isSubsequentNumber c = false ∧ (isSubsequentIdentifier c = false ∨ c = ';')

theorem Stop_of_delim {rest : Text} (h : Delim rest) : Stop rest := by
  cases rest with
  | nil => trivial
  | cons c cs =>
    rcases h with rfl | rfl
    · exact ⟨by decide, .inl (by decide)⟩
    · exact ⟨by decide, .inl (by decide)⟩

theorem stop_not_sign {c : Char} (h : isSubsequentIdentifier c = false ∨ c = ';') :
    (c == '+' || c == '-') = false := by
  rcases h with h | rfl
  · have h1 : c ≠ '+' := by rintro rfl; exact absurd h (by decide)
    have h2 : c ≠ '-' := by rintro rfl; exact absurd h (by decide)
    simp [h1, h2]
  · decide

theorem numberTail_stop : ∀ (ds rest : Text) (m d k : Bool), (∀ x ∈ ds, isSubsequentNumber x = true) →
    Stop rest → numberTail m d k (ds ++ rest) = (ds, rest, false) := by
  intro ds
  induction ds with
  | nil =>
    intro rest m d k _ hst
    cases rest with
    | nil => rfl
    | cons c cs =>
      obtain ⟨h1, h2⟩ := hst
      have h3 := stop_not_sign h2
      have h4 : (isSubsequentIdentifier c && c != ';') = false := by
        rcases h2 with h | rfl
        · simp [h]
        · decide
      simp [numberTail, h1, h3, h4]
  | cons x ds ih =>
    intro rest m d k h hst
    have hdp : isSubsequentNumber x = true := h x (by simp)
    simp only [List.cons_append, numberTail, hdp, Bool.true_or, if_true]
    rw [ih rest _ _ _ (fun y hy => h y (by simp [hy])) hst]

theorem numberTail_delim (ds rest : Text) (m d k : Bool) (h : ∀ x ∈ ds, isSubsequentNumber x = true)
    (hd : Delim rest) : numberTail m d k (ds ++ rest) = (ds, rest, false) :=
  numberTail_stop ds rest m d k h (Stop_of_delim hd)

/-- falls through the eight punctuation tests of `scanPiece` and the identifier test of `scanOther` -/
abbrev NumStart (c : Char) : Prop :=
  isOpenChar c = false ∧ isCloseChar c = false ∧ c ≠ '\'' ∧ c ≠ '`' ∧ c ≠ ',' ∧ c ≠ '#' ∧ c ≠ '.' ∧
    c ≠ '"' ∧ isInitialIdentifier c = false ∧ isInitialNumber c = true

theorem scanPiece_numStart {c : Char} (hc : NumStart c) (cs : Text) :
    scanPiece c cs = (let r := numberTail true (isAsciiDigit c) false cs
      .tok (c :: r.1) (if r.2.2 then .symbol else .number) r.2.1) := by
  obtain ⟨h1, h2, h3, h4, h5, h6, h7, h8, h9, h10⟩ := hc
  simp only [scanPiece, h1, h2, h3, h4, h5, h6, h7, h8, beq_iff_eq, Bool.false_eq_true, if_false]
  simp only [scanOther, h9, h10, Bool.false_eq_true, if_false, if_true]

theorem digitChar_numStart : ∀ d, d < 10 → NumStart (digitChar d) := by decide

theorem digit_numStart {c : Char} (h : isAsciiDigit c = true) : NumStart c := by
  simp only [isAsciiDigit, Bool.and_eq_true, decide_eq_true_eq] at h
  have hc : c = digitChar (c.toNat - 48) := by
    have : digitChar (c.toNat - 48) = Char.ofNat (48 + (c.toNat - 48)) := by
      unfold digitChar
      have : c.toNat - 48 < 10 := by omega
      simp [this]
    rw [this]
    have e : 48 + (c.toNat - 48) = c.toNat := by omega
    rw [e, Char.ofNat_toNat]
  rw [hc]
  exact digitChar_numStart _ (by omega)

theorem minus_numStart : NumStart '-' := by decide

theorem digitChar_subsequentNumber : ∀ d, d < 16 → isSubsequentNumber (digitChar d) = true := by decide

theorem natDigits_subsequentNumber {r : Nat} (h2 : 2 ≤ r) (h16 : r ≤ 16) (n : Nat) :
    ∀ x ∈ natDigits r n, isSubsequentNumber x = true :=
  natDigits_forall h2 (fun d hd => digitChar_subsequentNumber d (by omega)) n

theorem natDigits10_subsequent (n : Nat) : ∀ x ∈ natDigits 10 n, isSubsequentNumber x = true :=
  natDigits_subsequentNumber (by omega) (by omega) n

/-- one number token when a delimiter follows -/
def NumberShape (sp : Text) : Prop :=
  ∃ c ds, sp = c :: ds ∧ NumStart c ∧ ∀ x ∈ ds, isSubsequentNumber x = true

theorem scansAs_numberShape {sp : Text} (h : NumberShape sp) (rest : Text) (hd : Delim rest) :
    ScansAs sp .number rest := by
  obtain ⟨c, ds, rfl, hc, hds⟩ := h
  refine ⟨c, ds, rfl, ?_⟩
  rw [scanPiece_numStart hc, numberTail_delim ds rest _ _ _ hds hd]
  rfl

theorem NumberShape.append {a b : Text} (ha : NumberShape a) (hb : ∀ x ∈ b, isSubsequentNumber x = true) :
    NumberShape (a ++ b) := by
  obtain ⟨c, ds, rfl, hc, hds⟩ := ha
  refine ⟨c, ds ++ b, rfl, hc, ?_⟩
  intro x hx
  rcases List.mem_append.mp hx with h | h
  · exact hds x h
  · exact hb x h

theorem initial_not_special {c : Char} (h : isInitialIdentifier c = true) :
    isOpenChar c = false ∧ isCloseChar c = false ∧ c ≠ '\'' ∧ c ≠ '`' ∧ c ≠ ',' ∧ c ≠ '#' ∧ c ≠ '.' ∧
      c ≠ '"' := by
  have key : ∀ x : Char, isInitialIdentifier x = false → c ≠ x := by
    intro x hx e
    subst e
    rw [h] at hx
    cases hx
  have o : isOpenChar c = false := by
    cases ho : isOpenChar c with
    | false => rfl
    | true =>
      simp only [isOpenChar, Bool.or_eq_true, beq_iff_eq] at ho
      rcases ho with (e | e) | e
      · exact absurd e (key _ (by decide))
      · exact absurd e (key _ (by decide))
      · exact absurd e (key _ (by decide))
  have cl : isCloseChar c = false := by
    cases ho : isCloseChar c with
    | false => rfl
    | true =>
      simp only [isCloseChar, Bool.or_eq_true, beq_iff_eq] at ho
      rcases ho with (e | e) | e
      · exact absurd e (key _ (by decide))
      · exact absurd e (key _ (by decide))
      · exact absurd e (key _ (by decide))
  exact ⟨o, cl, key _ (by decide), key _ (by decide), key _ (by decide), key _ (by decide),
    key _ (by decide), key _ (by decide)⟩

def identShape : Text → Bool
  | [] => false
  | c :: cs => isInitialIdentifier c && cs.all isSubsequentIdentifier

theorem scansAs_ident {s : Text} (h : identShape s = true) (rest : Text) (hd : Delim rest) :
    ScansAs s .symbol rest := by
  cases s with
  | nil => cases h
  | cons c cs =>
    simp only [identShape, Bool.and_eq_true, List.all_eq_true] at h
    refine ⟨c, cs, rfl, ?_⟩
    obtain ⟨h1, h2, h3, h4, h5, h6, h7, h8⟩ := initial_not_special h.1
    simp only [scanPiece, h1, h2, h3, h4, h5, h6, h7, h8, beq_iff_eq, Bool.false_eq_true, if_false]
    simp only [scanOther, h.1, if_true, symbolTail]
    rw [spanWhile_delim isSubsequentIdentifier (by decide) (by decide) cs rest h.2 hd]

/-! The printed form of an integer or ratio in radix `r ≤ 16`. A decimal digit or a sign starts a number token; only
above radix ten can the first digit be one of `a`–`f`, which starts an identifier. -/

theorem digitChar_subsequentIdentifier : ∀ d, d < 16 → isSubsequentIdentifier (digitChar d) = true := by
  decide

theorem digitChar_initial : ∀ d, d < 16 → 10 ≤ d → isInitialIdentifier (digitChar d) = true := by decide

theorem natDigits_subsequentIdentifier {r : Nat} (h2 : 2 ≤ r) (h16 : r ≤ 16) (n : Nat) :
    ∀ x ∈ natDigits r n, isSubsequentIdentifier x = true :=
  natDigits_forall h2 (fun d hd => digitChar_subsequentIdentifier d (by omega)) n

/-- may follow the digits inside one token, be it a number or an identifier token -/
def TailOk (tail : Text) : Prop :=
  ∀ x ∈ tail, isSubsequentNumber x = true ∧ isSubsequentIdentifier x = true

theorem tailOk_nil : TailOk [] := fun _ h => by cases h

theorem tailOk_slash_intDigits {r : Nat} (h2 : 2 ≤ r) (h16 : r ≤ 16) (d : Int) (hd : 0 ≤ d) :
    TailOk ('/' :: intDigits r d) := by
  intro x hx
  rcases List.mem_cons.mp hx with rfl | hx
  · exact ⟨by decide, by decide⟩
  · unfold intDigits at hx
    have : ¬ d < 0 := by omega
    simp only [this, if_false] at hx
    exact ⟨natDigits_subsequentNumber h2 h16 _ x hx,
      natDigits_subsequentIdentifier h2 h16 _ x hx⟩

theorem intDigits_tail {r : Nat} (h2 : 2 ≤ r) (h16 : r ≤ 16) (n : Int) (tail : Text) (ht : TailOk tail) :
    NumberShape (intDigits r n ++ tail) ∨ (10 < r ∧ identShape (intDigits r n ++ tail) = true) := by
  have hnum : ∀ m, ∀ x ∈ natDigits r m ++ tail, isSubsequentNumber x = true := fun m x hx =>
    (List.mem_append.mp hx).elim (natDigits_subsequentNumber h2 h16 m x) (fun h => (ht x h).1)
  unfold intDigits
  split
  · exact .inl ⟨'-', _, rfl, minus_numStart, hnum _⟩
  · cases h : natDigits r n.natAbs with
    | nil => exact absurd h (natDigits_ne_nil _ _)
    | cons c cs =>
      obtain ⟨d, hd, rfl⟩ := natDigits_chars h2 _ c (by rw [h]; simp)
      have hcs : ∀ x ∈ cs ++ tail, x ∈ natDigits r n.natAbs ++ tail := fun x hx => by rw [h]; simp [hx]
      rcases Nat.lt_or_ge d 10 with hd10 | hd10
      · exact .inl ⟨_, cs ++ tail, rfl, digitChar_numStart d hd10, fun x hx => hnum _ x (hcs x hx)⟩
      · refine .inr ⟨by omega, ?_⟩
        simp only [List.cons_append, identShape, digitChar_initial d (by omega) hd10, Bool.true_and, List.all_eq_true]
        intro x hx
        rcases List.mem_append.mp hx with hx | hx
        · exact natDigits_subsequentIdentifier h2 h16 _ x (by rw [h]; simp [hx])
        · exact (ht x hx).2

theorem ratDigits_tail {r : Nat} (h2 : 2 ≤ r) (h16 : r ≤ 16) (n d : Int) (hd : 1 ≤ d) :
    NumberShape (ratDigits r n d) ∨ (10 < r ∧ identShape (ratDigits r n d) = true) := by
  unfold ratDigits
  split
  · simpa using intDigits_tail h2 h16 n [] tailOk_nil
  · exact intDigits_tail h2 h16 n _ (tailOk_slash_intDigits h2 h16 d (by omega))

theorem ratDigits10_shape (n d : Int) (hd : 1 ≤ d) : NumberShape (ratDigits 10 n d) :=
  (ratDigits_tail (by omega) (by omega) n d hd).resolve_right (by omega)

theorem intDigits10_shape (n : Int) : NumberShape (intDigits 10 n) := by
  simpa [ratDigits] using ratDigits10_shape n 1 (by omega)

/-- what the loop of `scan_number` consumes; an identifier character among them turns the token into a symbol -/
def contChar (x : Char) : Bool := isSubsequentNumber x || (isSubsequentIdentifier x && x != ';')

/-- whether the loop of `scan_number`, entered in state (`m`antissa, `d`igits, mar`k`er), turns the token into a symbol
while consuming `ds`: some character is neither a number character nor the sign directly after the exponent marker of
a decimal mantissa (lex.rs with c1c04ca: `1e-7` stays a number, `1+`, `1e--7`, `1ee-7` do not) -/
def numSymFlag (m d k : Bool) : Text → Bool
  | [] => false
  | x :: xs =>
    (!isSubsequentNumber x && !(k && (x == '+' || x == '-'))) ||
      numSymFlag (m && (isAsciiDigit x || x == '.')) (d || isAsciiDigit x) (m && d && (x == 'e' || x == 'E')) xs

/-- number-initial symbols (`1+`, `-a`, `->x`, `12ab`), which `scan_number` scans as a `Number` token and
downgrades to `Symbol`: a digit or sign, then characters that continue a number token or an identifier
(except `;`), at least one of which does not continue a number (`numSymFlag`) -/
def numSymShape : Text → Bool
  | [] => false
  | c :: ds => (isAsciiDigit c || c == '+' || c == '-') && ds.all contChar &&
      numSymFlag true (isAsciiDigit c) false ds

/-- a sufficient condition that does not mention the scanner state -/
theorem numSymFlag_of_any (ds : Text) :
    ∀ (m d k : Bool), ds.any (fun x => !isSubsequentNumber x && x != '+' && x != '-') = true →
      numSymFlag m d k ds = true := by
  induction ds with
  | nil => intro m d k h; simp at h
  | cons x xs ih =>
    intro m d k h
    simp only [List.any_cons, Bool.or_eq_true] at h
    simp only [numSymFlag, Bool.or_eq_true]
    rcases h with h | h
    · left
      simp only [Bool.and_eq_true, Bool.not_eq_true', bne_iff_ne, ne_eq] at h
      obtain ⟨⟨h1, h2⟩, h3⟩ := h
      have e : (x == '+' || x == '-') = false := by simp [h2, h3]
      simp [h1, e]
    · right; exact ih _ _ _ h

/-- before the first exponent marker nothing is a sign position: `1+`, `-+5`, `+-` are symbols -/
theorem numSymFlag_sign_first (m d : Bool) (x : Char) (xs : Text) (hx : x = '+' ∨ x = '-') :
    numSymFlag m d false (x :: xs) = true := by
  have h1 : isSubsequentNumber '+' = false := by decide
  have h2 : isSubsequentNumber '-' = false := by decide
  rcases hx with rfl | rfl <;> simp [numSymFlag, h1, h2]

theorem numberTail_cont : ∀ (ds rest : Text) (m d k : Bool), (∀ x ∈ ds, contChar x = true) → Delim rest →
    numberTail m d k (ds ++ rest) = (ds, rest, numSymFlag m d k ds) := by
  intro ds
  induction ds with
  | nil =>
    intro rest m d k _ hd
    have := numberTail_delim [] rest m d k (by simp) hd
    simpa [numSymFlag] using this
  | cons x ds ih =>
    intro rest m d k h hd
    have hdc : contChar x = true := h x (by simp)
    have ih' := fun m d k => ih rest m d k (fun y hy => h y (by simp [hy])) hd
    simp only [List.cons_append, numberTail, numSymFlag]
    by_cases hn : (isSubsequentNumber x || (k && (x == '+' || x == '-'))) = true
    · simp only [hn, if_true, ih']
      rcases Bool.or_eq_true _ _ |>.mp hn with h1 | h1
      · simp [h1]
      · simp [h1]
    · have hn' : (isSubsequentNumber x || (k && (x == '+' || x == '-'))) = false := by simpa using hn
      have hn1 : isSubsequentNumber x = false := by
        cases hh : isSubsequentNumber x <;> simp [hh] at hn' ⊢
      have hn2 : (k && (x == '+' || x == '-')) = false := by
        cases hh : (k && (x == '+' || x == '-')) <;> simp [hh, hn1] at hn' ⊢
      have hid : (isSubsequentIdentifier x && x != ';') = true := by
        simpa [contChar, hn1] using hdc
      simp [hid, ih', hn1, hn2]

theorem scansAs_numSym {s : Text} (h : numSymShape s = true) (rest : Text) (hd : Delim rest) :
    ScansAs s .symbol rest := by
  cases s with
  | nil => cases h
  | cons c ds =>
    simp only [numSymShape, Bool.and_eq_true, Bool.or_eq_true, beq_iff_eq, List.all_eq_true] at h
    obtain ⟨⟨hc, hall⟩, hany⟩ := h
    have hs : NumStart c := by
      rcases hc with (hc | hc) | hc
      · exact digit_numStart hc
      · subst hc; decide
      · subst hc; decide
    refine ⟨c, ds, rfl, ?_⟩
    rw [scanPiece_numStart hs, numberTail_cont ds rest _ _ _ hall hd]
    simp only [hany, if_true]

/-! ## Radix-prefixed number literals (C16, T16.3)

What `number->string` prints for an exact number in radix 2, 8, 10 or 16, behind `#b #o #d #x`, is scanned as exactly
two tokens, the prefix and one token spelling the digits: of type `Number` when the spelling starts with a sign or a
decimal digit, `Symbol` when it starts with one of `a`–`f` (`parse_number` accepts both). -/

def radixLetter (r : Nat) : Char :=
  if r = 2 then 'b' else if r = 8 then 'o' else if r = 16 then 'x' else 'd'

theorem prefixStep_radixLetter {r : Nat} (hr : r = 2 ∨ r = 8 ∨ r = 10 ∨ r = 16) (ex : Exactness)
    (r0 : Nat) : prefixStep ['#', radixLetter r] ex r0 = some (ex, r) := by
  rcases hr with rfl | rfl | rfl | rfl <;> rfl

theorem scansAs_radixPrefix {r : Nat} (hr : r = 2 ∨ r = 8 ∨ r = 10 ∨ r = 16) (rest : Text) :
    ScansAs ['#', radixLetter r] .numberPrefix rest := by
  refine ⟨'#', [radixLetter r], rfl, ?_⟩
  rw [scanPiece_hash]
  rcases hr with rfl | rfl | rfl | rfl <;> rfl

/-- before a delimiter, one token of type `Number` or `Symbol` -/
def NumTokShape (sp : Text) : Prop := NumberShape sp ∨ identShape sp = true

theorem scansAs_numTokShape {sp : Text} (h : NumTokShape sp) (rest : Text) (hd : Delim rest) :
    ScansAs sp .number rest ∨ ScansAs sp .symbol rest := by
  rcases h with h | h
  · exact .inl (scansAs_numberShape h rest hd)
  · exact .inr (scansAs_ident h rest hd)

theorem ratDigits_shape {r : Nat} (h2 : 2 ≤ r) (h16 : r ≤ 16) (n d : Int) (hd : 1 ≤ d) :
    NumTokShape (ratDigits r n d) :=
  (ratDigits_tail h2 h16 n d hd).imp_right And.right

theorem intDigits_shape {r : Nat} (h2 : 2 ≤ r) (h16 : r ≤ 16) (n : Int) : NumTokShape (intDigits r n) := by
  simpa [ratDigits] using ratDigits_shape h2 h16 n 1 (by omega)

theorem tokSpan_at (pre sp post : Text) (ty : TokType) :
    tokSpan (pre ++ sp ++ post) ⟨byteLen pre, byteLen pre + byteLen sp, ty⟩ = .ok sp := by
  unfold tokSpan
  simp only [sliceBytes_append]

theorem scan_prefixed_then {r : Nat} (hr : r = 2 ∨ r = 8 ∨ r = 10 ∨ r = 16) {sp rest : Text}
    {ty : TokType} {ts0 : List Token} (hs : ScansAs sp ty rest) (h : ScanTo (2 + byteLen sp) rest ts0) :
    scan ('#' :: radixLetter r :: (sp ++ rest)) =
      .ok (⟨0, 2, .numberPrefix⟩ :: ⟨2, 2 + byteLen sp, ty⟩ :: ts0) := by
  apply scan_of_scanTo
  have hb : byteLen ['#', radixLetter r] = 2 := by
    rcases hr with rfl | rfl | rfl | rfl <;> decide
  have h1 : ScanTo (0 + byteLen ['#', radixLetter r]) (sp ++ rest)
      (⟨0 + byteLen ['#', radixLetter r], 0 + byteLen ['#', radixLetter r] + byteLen sp, ty⟩ :: ts0) :=
    ScanTo.tok hs (by simpa [hb] using h)
  have h2 := ScanTo.tok (scansAs_radixPrefix hr (sp ++ rest)) h1
  simpa [hb] using h2

theorem scan_prefixed {r : Nat} (hr : r = 2 ∨ r = 8 ∨ r = 10 ∨ r = 16) {sp : Text} {ty : TokType}
    (hs : ScansAs sp ty []) :
    scan ('#' :: radixLetter r :: sp) =
      .ok [⟨0, 2, .numberPrefix⟩, ⟨2, 2 + byteLen sp, ty⟩] := by
  have := scan_prefixed_then hr hs (ScanTo.nil _)
  simpa using this

end Marwood
