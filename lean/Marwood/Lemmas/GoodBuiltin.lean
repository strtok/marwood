import Marwood.Lemmas.GoodStepEffect
/-!
# `Safe` as an invariant: the builtins reached from CALL / TCALL (`apply`, `call/cc`, `eval`, generic) and the
invocation of a continuation
-/
namespace Marwood.Lemmas.Good
open Marwood Marwood.Vm Marwood.Vm.Concrete Marwood.Lemmas.Sim
open Marwood.Heap (GcState WFHeap RootsOk vrefs vrefsList crefs)

open StepC

theorem invokeCont_hg {s s' : St CHeap} {c : Cont} (g : GoodI s) (hblk : ArgBlock s.stack s.stack.sp)
    (h : invokeCont s c = .ok s') : HG s'.heap ∧ plainGlob s'.acc = true := by
  obtain ⟨n, r, hsp, ha, hn, hr, _, rfl⟩ := invokeCont_iff.mp h
  exact ⟨g.hg, hblk n ha _ _ (by omega) (by omega) hr⟩

section
variable {ext : ExtOps} {s s2 : St CHeap} {v : VCell}

theorem builtinApply_ok (g : GoodI s) (hblk : ArgBlock s.stack s.stack.sp)
    (h : builtinApply (concreteOps ext) s = .ok (s2, v)) :
    HG s2.heap ∧ VRefsOk s2.heap v ∧ plainVal v = true := by
  obtain ⟨argc, top, st2, st3, x0, st4, n, st5, hge, k1, p2, q2, e2, c2, r1, r2, _, _, _, _, rfl⟩ :=
    builtinApply_effect h
  exact ⟨g.hg, roots_stack g.roots (by omega) r2, plainGlob_plainVal (hblk argc p2 _ _ (by omega) (by omega) r2)⟩

theorem builtinCallcc_ok (g : GoodI s) (hblk : ArgBlock s.stack s.stack.sp)
    (h : builtinCallcc (concreteOps ext) s = .ok (s2, v)) (sm : Small s2.heap) :
    HG s2.heap ∧ VRefsOk s2.heap v ∧ plainVal v = true := by
  obtain ⟨st2, k1, p2, q2, e2, c2, hlen, _, rfl⟩ := builtinCallcc_effect h
  have hcells : ∀ w ∈ (st2.cells.take (st2.sp + 1)), VRefsOk s.heap w := by
    intro w hw
    obtain ⟨i, hi, hv⟩ := mem_take_succ.mp hw
    exact roots_stack g.roots (by omega) (c2 ▸ hv)
  have r := newCont_hg g.hg (k := ⟨⟨st2.cells.take (st2.sp + 1), st2.sp⟩, s.ep, s.ipL, s.ipO, s.bp⟩)
    hcells (roots_ipL g.roots) (roots_ep g.roots) (by simp only [List.length_take]; omega) sm
  exact ⟨r.1, (roots_stack g.roots (by omega) q2).mono r.2.1,
    plainGlob_plainVal (hblk 1 p2 _ _ (by omega) (by omega) q2)⟩

theorem builtinEvalProc_ok (eg : ExtGood ext) (g : GoodI s) (hblk : ArgBlock s.stack s.stack.sp)
    (h : builtinEvalProc (concreteOps ext) s = .ok (s2, v)) (sm : Small s2.heap) :
    HG s2.heap ∧ VRefsOk s2.heap v ∧ plainVal v = true := by
  obtain ⟨e, st2, h', k1, p2, q2, e2, c2, h4, _, rfl⟩ := builtinEvalProc_effect h
  have hd := (deref_ok g.hg (roots_stack g.roots (by omega) q2)
    (plainGlob_plainVal (hblk 1 p2 _ _ (by omega) (by omega) q2))).1
  obtain ⟨r1, _, r3, r4⟩ := eg.compile _ _ _ _ g.hg hd h4 sm
  exact ⟨r1, r4, r3⟩

theorem builtinGeneric_ok {id : Nat} (eg : ExtGood ext) (g : GoodI s) (hblk : ArgBlock s.stack s.stack.sp)
    (h : builtinGeneric (concreteOps ext) id s = .ok (s2, v)) (sm : Small s2.heap) :
    HG s2.heap ∧ VRefsOk s2.heap v ∧ plainVal v = true := by
  obtain ⟨argc, args, st2, h', p2, c2, e2, q3, h4, rfl⟩ := builtinGeneric_effect h
  have hargs : ∀ x ∈ args, VOk s.heap x := by
    intro x hx
    obtain ⟨i, i1, i2, i3⟩ := q3 x hx
    exact ⟨hblk argc p2 i x (by omega) (by omega) i3, roots_stack g.roots (by omega) i3⟩
  obtain ⟨r1, _, r3, r4⟩ := eg.eval _ _ _ _ _ g.hg hargs h4 sm
  exact ⟨r1, r4, r3⟩

theorem runBuiltin_hg {id : Nat} {s' : St CHeap} (eg : ExtGood ext) (g : GoodI s) (hblk : ArgBlock s.stack s.stack.sp)
    (hr : runBuiltin (concreteOps ext) id s = .ok s') (sm : Small s'.heap) :
    HG s'.heap ∧ plainGlob s'.acc = true := by
  rw [runBuiltin_accTail] at hr
  obtain ⟨⟨s2, v⟩, h1, hr⟩ := bind_inv hr
  have key : Small s2.heap → HG s2.heap ∧ VRefsOk s2.heap v ∧ plainVal v = true := by
    intro sm2
    cases hk : (concreteOps ext).builtinKind s.heap id <;> rw [hk] at h1 <;> simp only at h1
    · exact builtinApply_ok g hblk h1
    · exact builtinEvalProc_ok eg g hblk h1 sm2
    · exact builtinCallcc_ok g hblk h1 sm2
    · exact builtinGeneric_ok eg g hblk h1 sm2
  cases (accTail_eq ext s2 v).symm.trans hr
  have sm2 : Small s2.heap := sm.of_le (maybePutV_size _ _)
  obtain ⟨k1, k2, k3⟩ := key sm2
  have r := maybePutV_hg k1 k2 k3 sm
  exact ⟨r.hg, r.res.1⟩

end

end Marwood.Lemmas.Good
