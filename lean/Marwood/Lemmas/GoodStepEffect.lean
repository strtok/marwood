import Marwood.Lemmas.GoodStepA
/-!
# What an instruction did, read off its successful run

The inversions of one successful instruction are the cases of `Vm.StepEff` (`exec_eff`, Lemmas/GoodStepA.lean). The cases
that carry a heap operation are read here once more at `concreteOps ext`, in the concrete heap's vocabulary (`putV`,
`makeClosure`, `lambdaAt` … for `ops.put` …), which is what `HG`, `Lead` and "fit" rewrite with; for the others the
invariants do `cases exec_eff hx` themselves. Also here: the stack operations inverted in the `cells[i]? = some v` form.
-/
namespace Marwood.Lemmas.Good
open Marwood Marwood.Vm Marwood.Vm.Concrete Marwood.Lemmas.Sim

namespace StepC

theorem pop_inv {st st' : Stack} {v : VCell} (h : st.pop = .ok (v, st')) :
    0 < st.sp ∧ st.cells[st.sp]? = some v ∧ st'.sp = st.sp - 1 ∧ st'.cells = st.cells := by
  obtain ⟨h1, h2, rfl⟩ := StepB.pop_inv h
  exact ⟨h1, h2, rfl, rfl⟩

theorem popN_inv : ∀ (n : Nat) {st st' : Stack} {vs : List VCell}, popN n st = .ok (vs, st') →
    st'.cells = st.cells ∧ st'.sp + n = st.sp ∧ ∀ v ∈ vs, ∃ i, st'.sp < i ∧ i ≤ st.sp ∧ st.cells[i]? = some v
  | 0, st, st', vs, h => by
    simp only [popN] at h; cases h; exact ⟨rfl, rfl, fun v hv => by cases hv⟩
  | n+1, st, st', vs, h => by
    simp only [popN] at h
    obtain ⟨⟨v, st1⟩, h1, h⟩ := bind_inv h
    simp only at h
    obtain ⟨⟨vs1, st2⟩, h2, h⟩ := bind_inv h
    simp only at h
    cases h
    obtain ⟨p1, p2, p3, p4⟩ := pop_inv h1
    obtain ⟨q1, q2, q3⟩ := popN_inv n h2
    refine ⟨q1.trans p4, by omega, ?_⟩
    intro w hw
    rcases List.mem_cons.mp hw with rfl | hw
    · exact ⟨st.sp, by omega, Nat.le_refl _, p2⟩
    · obtain ⟨i, i1, i2, i3⟩ := q3 w hw
      exact ⟨i, i1, by omega, by rw [← p4]; exact i3⟩

theorem getOffset_inv {st : Stack} {k : Nat} {v : VCell} (h : st.getOffset (-(k : Int)) = .ok v) :
    k ≤ st.sp ∧ st.cells[st.sp - k]? = some v := by
  obtain ⟨h1, h2⟩ := StepB.getOffset_inv h
  rw [show ((st.sp : Int) + -(k : Int)).toNat = st.sp - k by omega] at h2
  exact ⟨by omega, h2⟩

theorem push_sp (st : Stack) (v : VCell) : (st.push v).sp = st.sp + 1 := by
  unfold Stack.push; split <;> rfl

end StepC

open StepC

theorem push_top (st : Stack) (v : VCell) : (st.push v).cells[st.sp + 1]? = some v := by
  unfold Stack.push
  split
  · simp only; rw [List.getElem?_set_self (by omega)]
  · simp only; rw [List.getElem?_set_self (by simp; omega)]

theorem push_get' {st : Stack} {v w : VCell} {i : Nat} (hi : i ≠ st.sp + 1) (h : (st.push v).cells[i]? = some w) :
    st.cells[i]? = some w ∨ w = .undefined := by
  unfold Stack.push at h
  split at h
  · simp only at h
    rw [List.getElem?_set_ne (by omega)] at h
    exact .inl h
  · simp only at h
    rw [List.getElem?_set_ne (by omega), List.getElem?_append] at h
    split at h
    · exact .inl h
    · right
      rw [List.getElem?_replicate] at h
      split at h
      · cases h; rfl
      · cases h

theorem StepC.push_get {st : Stack} {v w : VCell} {i : Nat} (hi : i ≤ st.sp) (h : (st.push v).cells[i]? = some w) :
    st.cells[i]? = some w ∨ w = .undefined := push_get' (by omega) h

theorem lambdaInfo_inv {ext : ExtOps} {h : CHeap} {lam : Nat} {info : LambdaInfo}
    (hi : (concreteOps ext).lambdaInfo h lam = some info) : ∃ l, lambdaAt h lam = some l ∧ info.argc = l.args.length := by
  change (lambdaAt h lam).map _ = some info at hi
  cases hl : lambdaAt h lam with
  | none => rw [hl] at hi; cases hi
  | some l => rw [hl] at hi; cases hi; exact ⟨l, rfl, rfl⟩

section
variable {ext : ExtOps} {s s2 : St CHeap} {v : VCell}

/-- `apply` shifts the fixed arguments down over the procedure, pushes the list's elements and the new `argc`, and the CALL
    is run again -/
theorem builtinApply_effect (h : builtinApply (concreteOps ext) s = .ok (s2, v)) :
    ∃ (argc : Nat) (top : VCell) (st2 st3 : Stack) (x0 : VCell) (st4 : Stack) (n : Nat) (st5 : Stack), 2 ≤ argc ∧ 1 < s.stack.sp ∧ s.stack.cells[s.stack.sp]? = some (.argc argc) ∧
      s.stack.cells[s.stack.sp - 1]? = some top ∧ st2.sp = s.stack.sp - 2 ∧ st2.cells = s.stack.cells ∧
      argc - 2 ≤ st2.sp ∧ s.stack.cells[st2.sp - (argc - 2)]? = some v ∧
      builtinApply.shift (argc - 2) st2 = .ok st3 ∧ st3.pop = .ok (x0, st4) ∧
      builtinApply.pushList (concreteOps ext) s 100000 (deref s.heap top) (argc - 2) st4 = .ok (n, st5) ∧
      1 ≤ s.ipO ∧ s2 = { s with stack := st5.push (.argc n), ipO := s.ipO - 1 } := by
  unfold builtinApply at h
  obtain ⟨⟨a, st1⟩, h1, h⟩ := bind_inv h
  obtain ⟨argc, h2, h⟩ := bind_inv h
  obtain ⟨hge, h⟩ := ite_err_inv h
  obtain ⟨⟨top, st2⟩, h3, h⟩ := bind_inv h
  obtain ⟨_, h⟩ := ite_err_inv h
  obtain ⟨proc, h4, h⟩ := bind_inv h
  obtain ⟨st3, h5, h⟩ := bind_inv h
  obtain ⟨⟨x0, st4⟩, h6, h⟩ := bind_inv h
  obtain ⟨⟨n, st5⟩, h7, h⟩ := bind_inv h
  obtain ⟨ipO, hip, h⟩ := bind_inv h
  cases h
  obtain ⟨p1, p2, p3, p4⟩ := pop_inv h1
  obtain ⟨q1, q2, q3, q4⟩ := pop_inv h3
  cases asArgc_ok h2
  rw [p3, p4] at q2
  rw [show -((argc : Int) - 2) = -(((argc - 2 : Nat)) : Int) by omega] at h4
  obtain ⟨r1, r2⟩ := getOffset_inv h4
  obtain ⟨u1, rfl⟩ := usub_ok hip
  exact ⟨argc, top, st2, st3, x0, st4, n, st5, by omega, by omega, p2, q2, by omega, q4.trans p4, r1,
    (q4.trans p4) ▸ r2, h5, h6, h7, u1, rfl⟩

theorem builtinCallcc_effect (h : builtinCallcc (concreteOps ext) s = .ok (s2, v)) :
    ∃ st2 : Stack, 1 < s.stack.sp ∧ s.stack.cells[s.stack.sp]? = some (.argc 1) ∧ s.stack.cells[s.stack.sp - 1]? = some v ∧
      st2.sp = s.stack.sp - 2 ∧ st2.cells = s.stack.cells ∧ st2.sp < st2.cells.length ∧ 1 ≤ s.ipO ∧
      s2 = { s with heap := (cput s.heap (.cont ⟨⟨st2.cells.take (st2.sp + 1), st2.sp⟩, s.ep, s.ipL, s.ipO, s.bp⟩)).1,
                    stack := (st2.push (.ptr (cput s.heap
                      (.cont ⟨⟨st2.cells.take (st2.sp + 1), st2.sp⟩, s.ep, s.ipL, s.ipO, s.bp⟩)).2)).push (.argc 1),
                    ipO := s.ipO - 1 } := by
  obtain ⟨h2, hl, hA, _, hip, rfl, rfl⟩ := builtinCallcc_iff.mp h
  exact ⟨{ s.stack with sp := s.stack.sp - 2 }, h2, hA ▸ Stack.some_cellAt _ hl, Stack.some_cellAt _ (by omega), rfl, rfl,
    by show s.stack.sp - 2 < s.stack.cells.length; omega, hip, rfl⟩

theorem builtinEvalProc_effect (h : builtinEvalProc (concreteOps ext) s = .ok (s2, v)) :
    ∃ (e : VCell) (st2 : Stack) (h' : CHeap), 1 < s.stack.sp ∧ s.stack.cells[s.stack.sp]? = some (.argc 1) ∧ s.stack.cells[s.stack.sp - 1]? = some e ∧
      st2.sp = s.stack.sp - 2 ∧ st2.cells = s.stack.cells ∧ ext.compileEval s.heap (deref s.heap e) = .ok (h', v) ∧
      1 ≤ s.ipO ∧ s2 = { s with heap := h', stack := st2.push (.argc 0), ipO := s.ipO - 1 } := by
  obtain ⟨e, h', h2, hA, he, hce, hip, rfl⟩ := builtinEvalProc_iff.mp h
  exact ⟨e, { s.stack with sp := s.stack.sp - 2 }, h', h2, hA, he, rfl, rfl, hce, hip, rfl⟩

theorem builtinGeneric_effect {id : Nat} (h : builtinGeneric (concreteOps ext) id s = .ok (s2, v)) :
    ∃ (argc : Nat) (args : List VCell) (st2 : Stack) (h' : CHeap), s.stack.cells[s.stack.sp]? = some (.argc argc) ∧
      st2.cells = s.stack.cells ∧ st2.sp + argc + 1 = s.stack.sp ∧
      (∀ x ∈ args, ∃ i, st2.sp < i ∧ i < s.stack.sp ∧ s.stack.cells[i]? = some x) ∧
      ext.builtinEval s.heap id args = .ok (h', v) ∧ s2 = { s with heap := h', stack := st2 } := by
  obtain ⟨argc, args, st2, h', h0, hA, hpn, hbe, rfl⟩ := builtinGeneric_iff.mp h
  obtain ⟨q1, q2, q3⟩ := popN_inv argc hpn
  refine ⟨argc, args, st2, h', hA, q1, by have : st2.sp + argc = s.stack.sp - 1 := q2; omega, fun x hx => ?_, hbe, rfl⟩
  obtain ⟨i, i1, i2, i3⟩ := q3 x hx
  exact ⟨i, i1, by have : i ≤ s.stack.sp - 1 := i2; omega, i3⟩

end

/-- `maybe_put` returns a `Ptr` as it is, so the `Ptr` arm of `accTail` is no special case -/
theorem accTail_eq (ext : ExtOps) (s : St CHeap) (v : VCell) :
    accTail (concreteOps ext) s v = .ok { s with heap := (maybePutV s.heap v).1, acc := (maybePutV s.heap v).2 } := by
  cases v <;> rfl

namespace StepB
variable {ext : ExtOps}

theorem varargCollect_succ {k : Nat} {h h' : CHeap} {acc l : Nat} {st st' : Stack}
    (hr : varargCollect (concreteOps ext) (k + 1) h acc st = .ok (h', l, st')) :
    ∃ v h1 a h2 p, 0 < st.sp ∧ st.cells[st.sp]? = some v ∧ putV h v = (h1, .ptr a) ∧
      putV h1 (.pair a acc) = (h2, .ptr p) ∧
      varargCollect (concreteOps ext) k h2 p { st with sp := st.sp - 1 } = .ok (h', l, st') := by
  simp only [varargCollect, concreteOps] at hr
  obtain ⟨⟨v, st1⟩, hpop, hr⟩ := bind_inv hr
  simp only at hr
  generalize e1 : putV h v = r1 at hr
  obtain ⟨h1, a1⟩ := r1
  simp only at hr
  obtain ⟨a, ha, hr⟩ := bind_inv hr
  generalize e2 : putV h1 (.pair a acc) = r2 at hr
  obtain ⟨h2, p2⟩ := r2
  simp only at hr
  obtain ⟨p, hp, hr⟩ := bind_inv hr
  obtain ⟨hpos, hcell, rfl⟩ := pop_inv hpop
  cases asPtr_ok ha
  cases asPtr_ok hp
  exact ⟨v, h1, a, h2, p, hpos, hcell, e1, e2, hr⟩

inductive VarArgDone (ext : ExtOps) (s : St CHeap) (req argc : Nat) : St CHeap → Prop
  | one {v p : VCell} {a n : Nat} {h1 h2 h3 : CHeap} {st : Stack} : argc = req + 1 → 3 ≤ s.stack.sp →
      s.stack.cells[s.stack.sp - 3]? = some v → putV s.heap v = (h1, .ptr a) → putV h1 .nil = (h2, .ptr n) →
      putV h2 (.pair a n) = (h3, p) → s.stack.setOffset (-3) p = .ok st →
      VarArgDone ext s req argc { s with heap := h3, stack := st }
  | many {c1 c2 : VCell} {n lst : Nat} {h1 h2 : CHeap} {st : Stack} : 3 ≤ s.stack.sp →
      s.stack.cells[s.stack.sp]? = some c1 → s.stack.cells[s.stack.sp - 1]? = some c2 →
      putV s.heap .nil = (h1, .ptr n) →
      varargCollect (concreteOps ext) (argc - req) h1 n { s.stack with sp := s.stack.sp - 3 } = .ok (h2, lst, st) →
      VarArgDone ext s req argc
        { s with heap := h2, stack := (((st.push (.ptr lst)).push (.argc (req + 1))).push c2).push c1 }

theorem stepVarArg_inv {s s' : St CHeap} (h : stepVarArg (concreteOps ext) s = .ok s') :
    ∃ lam argc, lambdaAt s.heap s.ipL = some lam ∧ s.stack.cells[s.stack.sp - 2]? = some (.argc argc) ∧
      2 ≤ s.stack.sp ∧ lam.args.length - 1 ≤ argc ∧ VarArgDone ext s (lam.args.length - 1) argc s' := by
  unfold stepVarArg at h
  simp only [concreteOps] at h
  cases hl : lambdaAt s.heap s.ipL with
  | none => simp [hl] at h
  | some lam =>
    simp only [hl, Option.map_some] at h
    obtain ⟨req, hreq, h⟩ := bind_inv h
    obtain ⟨argc, hargc, h⟩ := bind_inv h
    obtain ⟨va, hva, hargc⟩ := bind_inv hargc
    cases asArgc_ok hargc
    obtain ⟨nn2, hcA⟩ := getOffset_inv hva
    have e2 : ((s.stack.sp : Int) + -2).toNat = s.stack.sp - 2 := by omega
    rw [e2] at hcA
    unfold usub at hreq
    split at hreq <;> cases hreq
    refine ⟨lam, argc, rfl, hcA, by omega, ?_⟩
    split at h
    · cases h
    · rename_i hge
      refine ⟨by omega, ?_⟩
      split at h
      · rename_i heq
        obtain ⟨v, hv, h⟩ := bind_inv h
        generalize e1 : putV s.heap v = r1 at h
        obtain ⟨hp1, a1⟩ := r1
        simp only at h
        generalize e2' : putV hp1 .nil = r2 at h
        obtain ⟨hp2, n1⟩ := r2
        simp only at h
        obtain ⟨a', ha, h⟩ := bind_inv h
        obtain ⟨n', hn, h⟩ := bind_inv h
        generalize e3 : putV hp2 (.pair a' n') = r3 at h
        obtain ⟨hp3, p⟩ := r3
        simp only at h
        obtain ⟨st, hst, h⟩ := bind_inv h
        cases h
        cases asPtr_ok ha
        cases asPtr_ok hn
        obtain ⟨nn3, hcV⟩ := getOffset_inv hv
        have e3' : ((s.stack.sp : Int) + -3).toNat = s.stack.sp - 3 := by omega
        rw [e3'] at hcV
        exact .one heq (by omega) hcV e1 e2' e3 hst
      · obtain ⟨⟨c1, st1⟩, hq1, h⟩ := bind_inv h
        obtain ⟨⟨c2, st2⟩, hq2, h⟩ := bind_inv h
        obtain ⟨⟨c3, st3⟩, hq3, h⟩ := bind_inv h
        simp only at h
        generalize e1 : putV s.heap .nil = r1 at h
        obtain ⟨hp1, n1⟩ := r1
        simp only at h
        obtain ⟨n', hn, h⟩ := bind_inv h
        obtain ⟨⟨hp2, lst, st4⟩, hcol, h⟩ := bind_inv h
        cases h
        cases asPtr_ok hn
        obtain ⟨pos1, hc1, rfl⟩ := pop_inv hq1
        obtain ⟨pos2, hc2, rfl⟩ := pop_inv hq2
        obtain ⟨pos3, _, rfl⟩ := pop_inv hq3
        have pos1' : 0 < s.stack.sp := pos1
        have pos2' : 0 < s.stack.sp - 1 := pos2
        have pos3' : 0 < s.stack.sp - 1 - 1 := pos3
        have e : ({ cells := s.stack.cells, sp := s.stack.sp - 1 - 1 - 1 } : Stack) =
            { s.stack with sp := s.stack.sp - 3 } := by congr 1
        rw [e] at hcol
        exact .many (by omega) hc1 hc2 e1 hcol

end StepB

section
variable {ext : ExtOps} {s0 s' : St CHeap} {b : Bool}

/-- `req` is left unconstrained in the second case: the invariants hold for any number `argc - req` of collected cells -/
theorem varArg_effect (hx : exec (concreteOps ext) .varArg (nx s0) = .ok (s', b)) :
    ∃ argc, s0.stack.cells[s0.stack.sp - 2]? = some (.argc argc) ∧ 2 ≤ s0.stack.sp ∧
      ((∃ v h1 a h2 n h3 p st, 1 ≤ argc ∧ 3 ≤ s0.stack.sp ∧ s0.stack.cells[s0.stack.sp - 3]? = some v ∧
          putV s0.heap v = (h1, .ptr a) ∧ putV h1 .nil = (h2, .ptr n) ∧ putV h2 (.pair a n) = (h3, p) ∧
          s0.stack.setOffset (-3) p = .ok st ∧ s' = { nx s0 with heap := h3, stack := st }) ∨
       (∃ req c1 c2 h1 n h2 lst st4, 3 ≤ s0.stack.sp ∧ s0.stack.cells[s0.stack.sp]? = some c1 ∧
          s0.stack.cells[s0.stack.sp - 1]? = some c2 ∧ putV s0.heap .nil = (h1, .ptr n) ∧
          varargCollect (concreteOps ext) (argc - req) h1 n { s0.stack with sp := s0.stack.sp - 3 } = .ok (h2, lst, st4) ∧
          s' = { nx s0 with heap := h2,
                            stack := (((st4.push (.ptr lst)).push (.argc (req + 1))).push c2).push c1 })) := by
  cases exec_eff hx with
  | varArg h1 =>
    obtain ⟨lam, argc, _, hcA, hsp, _, d⟩ := StepB.stepVarArg_inv h1
    refine ⟨argc, hcA, hsp, ?_⟩
    cases d with
    | one heq h3 hcV e1 e2 e3 hst => exact .inl ⟨_, _, _, _, _, _, _, _, by omega, h3, hcV, e1, e2, e3, hst, rfl⟩
    | many h3 hc1 hc2 e1 hcol => exact .inr ⟨_, _, _, _, _, _, _, _, h3, hc1, hc2, e1, hcol, rfl⟩

theorem cons_effect (hx : exec (concreteOps ext) .cons (nx s0) = .ok (s', b)) :
    ∃ d a h1 d' h2 a' h3 p, 1 < s0.stack.sp ∧ s0.stack.cells[s0.stack.sp]? = some d ∧
      s0.stack.cells[s0.stack.sp - 1]? = some a ∧ putV s0.heap d = (h1, .ptr d') ∧ putV h1 a = (h2, .ptr a') ∧
      putV h2 (.pair a' d') = (h3, p) ∧
      s' = { nx s0 with heap := h3, stack := { s0.stack with sp := s0.stack.sp - 1 - 1 }, acc := p } := by
  cases exec_eff hx with
  | cons hsp hc1 hc2 e1 e2 e3 => exact ⟨_, _, _, _, _, _, _, _, hsp, hc1, hc2, e1, e2, e3, rfl⟩

theorem vpush_effect (hx : exec (concreteOps ext) .vpushAcc (nx s0) = .ok (s', b)) :
    ∃ v h', 0 < s0.stack.sp ∧ s0.stack.cells[s0.stack.sp]? = some v ∧
      ext.vectorPush s0.heap (deref s0.heap v) s0.acc = .ok h' ∧
      s' = { nx s0 with heap := h', stack := { s0.stack with sp := s0.stack.sp - 1 }, acc := v } := by
  cases exec_eff hx with
  | vpush hsp hc h2 => exact ⟨_, _, hsp, hc, h2, rfl⟩

theorem closure_effect (hx : exec (concreteOps ext) .closureAcc (nx s0) = .ok (s', b)) :
    ∃ lam h' c, s0.acc = .ptr lam ∧ makeClosure s0.heap lam s0.ep s0.bp s0.stack = .ok (h', c) ∧
      s' = { nx s0 with heap := h', acc := c } := by
  cases exec_eff hx with
  | closure ha h2 => exact ⟨_, _, _, ha, h2, rfl⟩

end

/-- equal `argc`: the arguments are copied over the old ones, the header stays; otherwise the stack is cut below the old
    arguments and arguments, `argc`, saved `ep` and `ip` are pushed -/
inductive TcallStack (bp : Nat) (stk : Stack) (argc : Nat) : Stack → Prop
  | same {st : Stack} : tcallCopySame argc 0 bp stk = .ok st → TcallStack bp stk argc { st with sp := bp + 3 }
  | diff {fargc : Nat} {savedEp savedIp : VCell} {st : Stack} : stk.cells[bp + 2]? = some savedEp →
      stk.cells[bp + 3]? = some savedIp → fargc ≤ bp →
      tcallCopyDiff argc stk.sp { stk with sp := bp - fargc } = .ok st →
      TcallStack bp stk argc (((st.push (.argc argc)).push savedEp).push savedIp)

theorem tcallRest_effect {s s' : St CHeap} {lam : Nat} (h : tcallTail s lam = .ok s') :
    ∃ argc st bp, s.stack.cells[s.stack.sp]? = some (.argc argc) ∧ TcallStack s.bp s.stack argc st ∧
      s' = { s with stack := st, bp := bp, ipL := lam, ipO := 0 } := by
  unfold tcallTail at h
  obtain ⟨argc, hargc, h⟩ := bind_inv h
  obtain ⟨frameArgc, _, h⟩ := bind_inv h
  obtain ⟨a, ha, hargc⟩ := bind_inv hargc
  obtain ⟨_, ha⟩ := StepB.getOffset_inv ha
  have ha' : s.stack.cells[s.stack.sp]? = some a := by simpa using ha
  cases asArgc_ok hargc
  split at h
  · obtain ⟨savedBp, _, h⟩ := bind_inv h
    obtain ⟨st, hst, h⟩ := bind_inv h
    obtain ⟨bp, _, h⟩ := bind_inv h
    cases h
    exact ⟨argc, _, bp, ha', .same hst, rfl⟩
  · obtain ⟨savedEp, hep, h⟩ := bind_inv h
    obtain ⟨savedIp, hip, h⟩ := bind_inv h
    obtain ⟨savedBp, _, h⟩ := bind_inv h
    obtain ⟨sp0, hsp0, h⟩ := bind_inv h
    obtain ⟨st, hst, h⟩ := bind_inv h
    obtain ⟨bp, _, h⟩ := bind_inv h
    cases h
    obtain ⟨hle, rfl⟩ := usub_ok hsp0
    exact ⟨argc, _, bp, ha', .diff (get_inv hep) (get_inv hip) hle hst, rfl⟩

section
variable {ext : ExtOps} {s0 s' : St CHeap} {b : Bool}

theorem enter_effect (hx : exec (concreteOps ext) .enter (nx s0) = .ok (s', b)) :
    ∃ lam l, lambdaAt s0.heap lam = some l ∧ 3 ≤ s0.stack.sp ∧
      s0.stack.cells[s0.stack.sp - 2]? = some (.argc l.args.length) ∧
      ((callee s0.heap s0.acc = .lambda ∧ s0.acc = .ptr lam ∧
          s' = { nx s0 with stack := s0.stack.push (.basePtr s0.bp), bp := s0.stack.sp - 3 }) ∨
       (∃ env h' e, callee s0.heap s0.acc = .closure lam env ∧
          makeActivation s0.heap lam env (s0.stack.sp - 3) (s0.stack.push (.basePtr s0.bp)) = .ok (h', e) ∧
          s' = { nx s0 with heap := h', ep := e, stack := s0.stack.push (.basePtr s0.bp),
                            bp := s0.stack.sp - 3 })) := by
  cases exec_eff hx with
  | enter hl0 hi hcA hsp hcase =>
    obtain ⟨l, hl, e⟩ := lambdaInfo_inv hi
    refine ⟨_, l, hl, hsp, e ▸ hcA, ?_⟩
    rcases hcase with ⟨hc, rfl, rfl⟩ | ⟨env, hc, hma⟩
    · rcases enterLam_eq_some.mp hl0 with ⟨_, hc'⟩ | ⟨_, ha⟩
      · cases hc.symm.trans hc'
      · exact .inl ⟨hc, ha, rfl⟩
    · exact .inr ⟨env, _, _, hc, hma, rfl⟩

end

end Marwood.Lemmas.Good
