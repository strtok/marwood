import Marwood.Lemmas.EvalKAgreeForms
/-! # `Spec.EvalK` without `call/cc` is `Spec.Eval` — bodies, operands, `let*`, `letrec` -/
namespace Marwood.Lemmas.EvalKAgree
open Marwood Marwood.Spec.Eval Marwood.Spec.EvalK
variable {r : Rec}

theorem sim_bodyForms (hr : SimRec r) (ρ : Env) (defs : Bool) (forms : List Datum) (σ : St) (κ : Kont) (ks : Array Kont) :
    Sim (bodyFormsGo ρ defs forms κ σ ks) (evalBodyForms r ρ defs forms σ) κ ks := by
  induction forms generalizing defs σ with
  | nil => exact Sim.throw _ _ _ _
  | cons e es ih =>
    cases es with
    | nil =>
      simp only [bodyFormsGo, evalBodyForms]
      split
      · apply sim_define hr
        intro x v σ'
        exact sim_withM_pure (assignVar ρ x v) (fun _ => Val.void) σ' κ ks
      · exact hr.eval e ρ σ κ ks
    | cons e2 es =>
      simp only [bodyFormsGo, evalBodyForms]
      split
      · apply sim_define hr
        intro x v σ'
        show Sim (withM (assignVar ρ x v) σ' ks _)
          ((assignVar ρ x v >>= fun _ => evalBodyForms r ρ true (e2 :: es)) σ') κ ks
        apply Sim.withM
        intro _ σ'' _
        exact ih true σ''
      · rw [evalBodyForms_false]
        apply Sim.evalBind hr
        intro v σ' _
        exact sim_exprs hr ρ (e2 :: es) σ' κ ks

theorem sim_body (hr : SimRec r) (ρ : Env) (body : List Datum) (σ : St) (κ : Kont) (ks : Array Kont) :
    Sim (bodyGo ρ body κ σ ks) (evalBody r ρ body σ) κ ks := by
  unfold bodyGo evalBody
  apply Sim.withM
  intro ρ' σ' _
  exact sim_bodyForms hr ρ' true body σ' κ ks

/-- operands: `g` = what `Spec.Eval` does with the operand values, `h` = the machine's `argsDone` simulates it -/
theorem sim_args (hr : SimRec r) (ρ : Env) (th : ArgsThen) (g : List Val → M Val) (κ : Kont) (ks : Array Kont)
    (h : ∀ vs σ', Sim (argsDone ρ vs th κ σ' ks) (g vs σ') κ ks) :
    ∀ (todo : List Datum) (done : List Val) (σ : St),
      Sim (argsGo ρ done todo th κ σ ks) ((evalArgs r ρ todo >>= fun vs => g (done.reverse ++ vs)) σ) κ ks := by
  intro todo
  induction todo with
  | nil =>
    intro done σ
    show Sim (argsDone ρ done.reverse th κ σ ks) (g (done.reverse ++ []) σ) κ ks
    rw [List.append_nil]
    exact h _ _
  | cons e es ih =>
    intro done σ
    show Sim (evalIn e ρ (.args ρ done es th :: κ) σ ks)
      (((r.eval e ρ >>= fun v => evalArgs r ρ es >>= fun vs => (pure (v :: vs) : M (List Val))) >>=
        fun vs => g (done.reverse ++ vs)) σ) κ ks
    rw [M.bind_assoc]
    apply Sim.evalBind hr
    intro v σ' _
    show Sim (argsGo ρ (v :: done) es th κ σ' ks) _ κ ks
    have := ih (v :: done) σ'
    rw [M.bind_assoc]
    simp only [M.pure_bind]
    simpa only [List.reverse_cons, List.append_assoc, List.singleton_append] using this

theorem sim_args_nil (hr : SimRec r) (ρ : Env) (th : ArgsThen) (g : List Val → M Val) (κ : Kont) (ks : Array Kont)
    (todo : List Datum) (σ : St) (h : ∀ vs σ', Sim (argsDone ρ vs th κ σ' ks) (g vs σ') κ ks) :
    Sim (argsGo ρ [] todo th κ σ ks) ((evalArgs r ρ todo >>= g) σ) κ ks :=
  sim_args hr ρ th g κ ks h todo [] σ

theorem sim_letStar (hr : SimRec r) (body : List Datum) :
    ∀ (bs : List (Text × Datum)) (ρ : Env) (σ : St) (κ : Kont) (ks : Array Kont),
      Sim (letStarGo body bs ρ κ σ ks) (evalLetStar r body bs ρ σ) κ ks := by
  intro bs
  induction bs with
  | nil =>
    intro ρ σ κ ks
    exact sim_body hr ρ body σ κ ks
  | cons b bs ih =>
    intro ρ σ κ ks
    obtain ⟨x, e⟩ := b
    show Sim (evalIn e ρ (.letStarK ρ x bs body :: κ) σ ks)
      ((r.eval e ρ >>= fun v => allocCell (.var v) >>= fun l => evalLetStar r body bs ((x, l) :: ρ)) σ) κ ks
    apply Sim.evalBind hr
    intro v σ' _
    simp only [retGo]
    apply Sim.withM
    intro l σ'' _
    exact ih ((x, l) :: ρ) σ'' κ ks

theorem sim_letrec (hr : SimRec r) (ρ : Env) (body : List Datum) :
    ∀ (bs : List (Text × Datum)) (σ : St) (κ : Kont) (ks : Array Kont),
      Sim (letrecGo ρ bs body κ σ ks) ((evalLetrecInits r ρ bs >>= fun _ => evalBody r ρ body) σ) κ ks := by
  intro bs
  induction bs with
  | nil =>
    intro σ κ ks
    exact sim_body hr ρ body σ κ ks
  | cons b bs ih =>
    intro σ κ ks
    obtain ⟨x, e⟩ := b
    show Sim (evalIn e ρ (.letrecK ρ x bs body :: κ) σ ks)
      (((r.eval e ρ >>= fun v => assignVar ρ x v >>= fun _ => evalLetrecInits r ρ bs) >>=
        fun _ => evalBody r ρ body) σ) κ ks
    rw [M.bind_assoc]
    apply Sim.evalBind hr
    intro v σ' _
    rw [M.bind_assoc]
    show Sim (withM (assignVar ρ x v) σ' ks _) _ κ ks
    apply Sim.withM
    intro _ σ'' _
    exact ih σ'' κ ks

theorem sim_argsDone_call (hr : SimRec r) (ρ : Env) (f : Datum) (vs : List Val) (σ : St) (κ : Kont) (ks : Array Kont) :
    Sim (argsDone ρ vs (.call f) κ σ ks) ((r.eval f ρ >>= fun fv => r.apply fv vs) σ) κ ks := by
  show Sim (evalIn f ρ (.fn vs :: κ) σ ks) _ κ ks
  apply Sim.evalBind hr
  intro fv σ' _
  exact hr.apply fv vs σ' κ ks

theorem sim_argsDone_letBody (hr : SimRec r) (ρ : Env) (names : List Text) (body : List Datum) (vs : List Val) (σ : St) (κ : Kont) (ks : Array Kont) :
    Sim (argsDone ρ vs (.letBody names body) κ σ ks) ((allocVars (names.zip vs) ρ >>= fun ρ' => evalBody r ρ' body) σ) κ ks := by
  show Sim (withM (allocVars (names.zip vs) ρ) σ ks _) _ κ ks
  apply Sim.withM
  intro ρ' σ' _
  exact sim_body hr ρ' body σ' κ ks

theorem sim_argsDone_namedLet (hr : SimRec r) (ρ : Env) (name : Text) (names : List Text) (body : List Datum) (vs : List Val) (σ : St) (κ : Kont) (ks : Array Kont) :
    Sim (argsDone ρ vs (.namedLet name names body) κ σ ks)
      ((do let l ← allocCell (.var .undef)
           let f := Val.closure names none body ((name, l) :: ρ)
           writeCell l (.var f)
           r.apply f vs : M Val) σ) κ ks := by
  show Sim (withM (allocCell (.var .undef) >>= fun l =>
        writeCell l (.var (Val.closure names none body ((name, l) :: ρ))) >>= fun _ =>
          (pure (Val.closure names none body ((name, l) :: ρ)) : M Val)) σ ks _)
    ((allocCell (.var .undef) >>= fun l =>
        writeCell l (.var (Val.closure names none body ((name, l) :: ρ))) >>= fun _ =>
          r.apply (Val.closure names none body ((name, l) :: ρ)) vs) σ) κ ks
  have e : (allocCell (.var .undef) >>= fun l =>
        writeCell l (.var (Val.closure names none body ((name, l) :: ρ))) >>= fun _ =>
          r.apply (Val.closure names none body ((name, l) :: ρ)) vs)
      = ((allocCell (.var .undef) >>= fun l =>
        writeCell l (.var (Val.closure names none body ((name, l) :: ρ))) >>= fun _ =>
          (pure (Val.closure names none body ((name, l) :: ρ)) : M Val)) >>= fun f => r.apply f vs) := by
    rw [M.bind_assoc]
    congr 1; funext l
    rw [M.bind_assoc]
    rfl
  rw [e]
  apply Sim.withM
  intro f σ' _
  exact hr.apply f vs σ' κ ks

end Marwood.Lemmas.EvalKAgree
