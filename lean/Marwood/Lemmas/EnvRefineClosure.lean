import Marwood.Lemmas.EnvRefineMap
import Marwood.Lemmas.EnvRefineOps
/-!
# T02.4, part 4: CLOSURE and ENTER keep the simulation relation

`sim_mkClosure`: every captured entry of the closure environment is a pointer to the slot that stands for the location
the chain resolves the name to. `sim_enter`, against `bindParams` + `allocDefs`: the new activation environment is the
image of the new frame, slot by slot (`β` is extended by exactly these pairs, `extendβ`); assembled from `enter_heap`,
`StRel.enter` (the two states) and `ActRel.enter` (the activation).
-/
namespace Marwood.Vm.EnvRefine
open Marwood Marwood.Scope Marwood.Vm.Env Marwood.Spec.Scope

theorem closureSlots_ok (h : Envs MVal) (ep : Nat) (args : List MVal) (em : Envmap)
    (hok : ∀ p ∈ em, ∃ v, closureSlot h ep args p.2 = .ok v) :
    ∃ ss, closureSlots h ep args em = .ok ss ∧ ss.length = em.length := by
  induction em with
  | nil => exact ⟨[], rfl, rfl⟩
  | cons p em ih =>
    obtain ⟨y, src⟩ := p
    obtain ⟨v, hv⟩ := hok (y, src) (List.mem_cons_self ..)
    obtain ⟨ss, hss, hl⟩ := ih (fun q hq => hok q (List.mem_cons_of_mem _ hq))
    exact ⟨v :: ss, by simp [closureSlots, bind, Except.bind, hv, hss, pure, Except.pure], by simp [hl]⟩

open Marwood.Vm.EnvRun in
theorem sim_mkClosure {β : LocMap} {s : SSt} {t : MSt} {N ctx ep ρ acts} (r : StRel β s t)
    (a : ActRel β t.envs N ctx ep ρ acts) (sugar : Bool) (ps : List Name) (rst : Option Name) (ds : Defs)
    (body : Exprs) (hN : ∀ x ∈ fvLam sugar ps rst ds body, N x) :
    ∃ cenv t' carr, exec (mkClosure ctx ep sugar ps rst ds body) t =
        (.ok (.clo ps rst ds body (compileLam ctx sugar ps rst ds body) cenv), t') ∧
      Ext β t.envs β t'.envs ∧ StRel β s t' ∧
      CloFacts β t'.envs (fvLam sugar ps rst ds body) ctx (compileLam ctx sugar ps rst ds body) cenv ρ acts carr := by
  -- no entry of the new map is `IofArgument`: by `a.noarg` every parameter of the creator has a slot
  have entries : ∀ (sl : Nat) (x : Name) (src : Source),
      (compileLam ctx sugar ps rst ds body).envmap[sl]? = some (x, src) →
      (∃ n, src = .argument n) ∨ src = .internal ∨ ∃ k, src = .iofEnv k ∧ slotOf ctx.envmap x = some k := by
    intro sl x src he
    rcases newEnvmap_getElem _ _ _ _ _ _ _ he with ⟨_, _, h3⟩ | ⟨_, _, _, h3⟩ | ⟨_, y, _, hy⟩
    · exact Or.inl ⟨_, h3⟩
    · exact Or.inr (Or.inl h3)
    · obtain ⟨rfl, k, rfl, hk⟩ := freeEntry_cases ctx a.noarg y x src hy
      exact Or.inr (Or.inr ⟨k, rfl, hk⟩)
  cases ep with
  | none =>
    -- top level: nothing is captured
    have hnone : ∀ x, slotOf ctx.envmap x = none := by
      intro x
      cases hs : slotOf ctx.envmap x with
      | none => rfl
      | some sl => obtain ⟨_, _, _, _, h1, _⟩ := a.res x sl hs; cases h1
    let arr : Array (Slot MVal) := ((compileLam ctx sugar ps rst ds body).envmap.map fun _ => Slot.undef).toArray
    have hone : OneLevel (t.envs.push arr).1 := by
      apply OneLevel.push _ r.one
      intro i p q hg
      simp [arr] at hg
    refine ⟨t.envs.envs.size, { t with envs := (t.envs.push arr).1 }, arr, ?_, ⟨fun _ _ hp => hp, Evolves.push _ _⟩,
      r.push arr hone, ?_⟩
    · simp only [mkClosure]
      split
      · rfl
      · next hn =>
        exfalso
        apply hn
        rw [List.all_eq_true]
        intro p hp
        obtain ⟨sl, hsl⟩ := List.getElem?_of_mem hp
        obtain ⟨x, src⟩ := p
        rcases entries sl x src hsl with ⟨n, rfl⟩ | rfl | ⟨k, _, hk⟩
        · rfl
        · rfl
        · rw [hnone x] at hk; cases hk
    · refine ⟨⟨a.unb, a.noarg⟩, fun x hx => a.need x (hN x hx), push_get_new _ _, by simp [arr], ?_, ?_, a.chain⟩
      · intro sl x k he
        rcases entries sl x _ he with ⟨n, hh⟩ | hh | ⟨k', _, hk⟩
        · cases hh
        · cases hh
        · rw [hnone x] at hk; cases hk
      · intro sl x src he _
        refine ⟨.undef, ?_, rfl⟩
        have := List.getElem?_eq_some_iff.mp he
        obtain ⟨hlt, _⟩ := this
        simp [arr, hlt]
  | some ae =>
    have hok : ∀ p ∈ (compileLam ctx sugar ps rst ds body).envmap, ∃ v, closureSlot t.envs ae [] p.2 = .ok v := by
      intro p hp
      obtain ⟨sl, hsl⟩ := List.getElem?_of_mem hp
      obtain ⟨x, src⟩ := p
      rcases entries sl x src hsl with ⟨n, rfl⟩ | rfl | ⟨k, rfl, hk⟩
      · exact ⟨_, rfl⟩
      · exact ⟨_, rfl⟩
      · obtain ⟨ae', l, e, i, h1, _, h3, _⟩ := a.res x k hk
        cases h1
        exact ⟨_, closureSlot_iofEnv t.envs ae [] k (e, i) h3⟩
    obtain ⟨ss, hss, hlen⟩ := closureSlots_ok t.envs ae [] _ hok
    have hb : buildClosureEnvironment t.envs ae [] (compileLam ctx sugar ps rst ds body).envmap =
        .ok ((t.envs.push ss.toArray).1, t.envs.envs.size) := buildClosureEnvironment_ok.mpr ⟨ss, hss, rfl⟩
    have hone := buildClosureEnvironment_oneLevel _ _ r.one _ _ _ _ hb
    refine ⟨t.envs.envs.size, { t with envs := (t.envs.push ss.toArray).1 }, ss.toArray, ?_,
      ⟨fun _ _ hp => hp, Evolves.push _ _⟩, r.push _ hone, ?_⟩
    · simp only [mkClosure, exec_bind, exec_get, hb, liftFault, exec_pure, exec_modify]
    · refine ⟨⟨a.unb, a.noarg⟩, fun x hx => a.need x (hN x hx), push_get_new _ _, by simp [hlen], ?_, ?_, a.chain⟩
      · intro sl x k he
        rcases entries sl x _ he with ⟨n, hh⟩ | hh | ⟨k', hh, hk⟩
        · cases hh
        · cases hh
        · cases hh
          obtain ⟨ae', l, e, i, h1, h2, h3, h4⟩ := a.res x k hk
          cases h1
          obtain ⟨_, arr', harr', hslot⟩ := closure_captures _ _ _ _ _ _ hb sl x k he (e, i) h3
          have hn : (t.envs.push ss.toArray).1.envs[t.envs.envs.size]? = some ss.toArray := push_get_new _ _
          rw [hn] at harr'
          cases harr'
          exact ⟨l, e, i, h2, h4, hslot⟩
      · intro sl x src he hn
        obtain ⟨v, hv, hg⟩ := closureSlots_get _ _ _ _ _ hss sl x src he
        refine ⟨v, by simpa using hg, ?_⟩
        rcases entries sl x src he with ⟨n, rfl⟩ | rfl | ⟨k, rfl, _⟩
        · simp [closureSlot] at hv; subst hv; rfl
        · simp [closureSlot] at hv; subst hv; rfl
        · exact absurd rfl (hn k)

theorem activationSlots_ok (cenv : Nat) (args : List MVal) (i0 : Nat) (olds : List (Slot MVal)) (em : Envmap)
    (hlen : olds.length = em.length)
    (harg : ∀ p ∈ em, ∀ n, p.2 = .argument n → n < args.length) :
    ∃ ss, activationSlots cenv args i0 olds em = .ok ss ∧ ss.length = em.length := by
  induction em generalizing i0 olds with
  | nil =>
    cases olds with
    | nil => exact ⟨[], rfl, rfl⟩
    | cons o os => simp at hlen
  | cons p em ih =>
    obtain ⟨y, src⟩ := p
    cases olds with
    | nil => simp at hlen
    | cons o os =>
      have h1 : ∃ v, activationSlot cenv args i0 o src = .ok v := by
        cases src with
        | argument n =>
          have := harg (y, .argument n) (List.mem_cons_self ..) n rfl
          exact ⟨.val args[n], by simp [activationSlot, this]⟩
        | internal => exact ⟨o, rfl⟩
        | iofEnv k => cases o <;> exact ⟨_, rfl⟩
        | iofArg k => cases o <;> exact ⟨_, rfl⟩
      obtain ⟨v, hv⟩ := h1
      obtain ⟨ss, hss, hl⟩ := ih (i0 + 1) os (by simpa using hlen)
        (fun q hq => harg q (List.mem_cons_of_mem _ hq))
      exact ⟨v :: ss, by simp [activationSlots, bind, Except.bind, hv, hss, pure, Except.pure], by simp [hl]⟩

/-- `margs[n]!` never takes its default (`n < margs.length` is assumed); it keeps a dependent index out of the statement -/
theorem enter_heap {β : LocMap} {h : Envs MVal} {fvs octx cenv ρ acts carr}
    (sugar : Bool) (ps : List Name) (rst : Option Name) (ds : Defs) (body : Exprs)
    (c : CloFacts β h fvs octx (compileLam octx sugar ps rst ds body) cenv ρ acts carr)
    (margs : List MVal) (hm : margs.length = (ps ++ rst.toList).length) :
    ∃ arr : Array (Slot MVal),
      buildLexicalEnvironment h cenv margs (compileLam octx sugar ps rst ds body).envmap =
        .ok ((h.push arr).1, h.envs.size) ∧
      (∀ n, n < margs.length → arr[n]? = some (.val margs[n]!)) ∧
      (∀ n, n < margs.length + ds.names.length → ∃ g, arr[n]? = some g ∧ g.isPtr = false) ∧
      (∀ (sl : Nat) (x : Name) (k : Nat),
        (compileLam octx sugar ps rst ds body).envmap[sl]? = some (x, Source.iofEnv k) →
        arr[sl]? = carr[sl]?) := by
  have harg : ∀ p ∈ (compileLam octx sugar ps rst ds body).envmap, ∀ n, p.2 = Source.argument n → n < margs.length := by
    intro p hp n hn
    obtain ⟨sl, hsl⟩ := List.getElem?_of_mem hp
    obtain ⟨x, src⟩ := p
    simp only at hn
    subst hn
    rcases newEnvmap_getElem _ _ _ _ _ _ _ hsl with ⟨h1, _, h3⟩ | ⟨_, _, _, h3⟩ | ⟨_, y, _, hy⟩
    · cases h3; rw [hm]; exact h1
    · cases h3
    · obtain ⟨_, k, hk, _⟩ := freeEntry_cases octx c.scope.noarg y x _ hy
      cases hk
  obtain ⟨ss, hss, hlen⟩ := activationSlots_ok cenv margs 0 carr.toList _ (by simp [c.size]) harg
  have hb : buildLexicalEnvironment h cenv margs (compileLam octx sugar ps rst ds body).envmap =
      .ok ((h.push ss.toArray).1, h.envs.size) := buildLexicalEnvironment_ok.mpr ⟨carr, ss, c.env, hss, rfl⟩
  have slot : ∀ sl x src, (compileLam octx sugar ps rst ds body).envmap[sl]? = some (x, src) →
      ∃ old v, carr[sl]? = some old ∧ ss.toArray[sl]? = some v ∧
        activationSlot cenv margs sl old src = .ok v := by
    intro sl x src he
    have hlt : sl < carr.size := by
      rw [c.size]
      exact (List.getElem?_eq_some_iff.mp he).1
    have ho : carr[sl]? = some carr[sl] := by simp [hlt]
    obtain ⟨_, arr', v, harr', hv, hact⟩ := activation_slots h _ cenv _ margs _ hb sl x src he carr c.env _ ho
    have hn : (h.push ss.toArray).1.envs[h.envs.size]? = some ss.toArray := push_get_new _ _
    rw [hn] at harr'
    cases harr'
    exact ⟨_, v, ho, hv, hact⟩
  refine ⟨ss.toArray, hb, ?_, ?_, ?_⟩
  · intro n hn
    obtain ⟨x, hx⟩ := newEnvmap_arg_entry (ps ++ rst.toList) ds.names (fvLam sugar ps rst ds body) octx n (hm ▸ hn)
    obtain ⟨old, v, _, hv, hact⟩ := slot n x _ hx
    simp only [activationSlot, List.getElem?_eq_getElem hn, Except.ok.injEq] at hact
    rw [hv, ← hact]
    simp [hn]
  · intro n hn
    by_cases hlt : n < margs.length
    · obtain ⟨x, hx⟩ := newEnvmap_arg_entry (ps ++ rst.toList) ds.names (fvLam sugar ps rst ds body) octx n (hm ▸ hlt)
      obtain ⟨old, v, _, hv, hact⟩ := slot n x _ hx
      simp only [activationSlot, List.getElem?_eq_getElem hlt, Except.ok.injEq] at hact
      exact ⟨v, hv, by rw [← hact]; rfl⟩
    · obtain ⟨x, hx⟩ := newEnvmap_internal_entry (ps ++ rst.toList) ds.names (fvLam sugar ps rst ds body) octx n
        (by omega) (by omega)
      obtain ⟨old, v, ho, hv, hact⟩ := slot n x _ hx
      simp only [activationSlot, Except.ok.injEq] at hact
      subst hact
      obtain ⟨g, hg, hnp⟩ := c.vals n x _ hx (fun k hk => by cases hk)
      rw [ho] at hg
      cases hg
      exact ⟨old, hv, hnp⟩
  · intro sl x k he
    obtain ⟨old, v, ho, hv, hact⟩ := slot sl x _ he
    obtain ⟨l, e, i, _, _, hp⟩ := c.ptrs sl x k he
    rw [ho] at hp
    cases hp
    simp only [activationSlot, Except.ok.injEq] at hact
    rw [ho, hv, hact]

theorem Forall2.length_eq {α β : Type} {R : α → β → Prop} {as : List α} {bs : List β} (h : Forall2 R as bs) :
    as.length = bs.length := by
  induction h with
  | nil => rfl
  | cons _ _ ih => simp [ih]

theorem Forall2.get {α β : Type} {R : α → β → Prop} {as : List α} {bs : List β} (h : Forall2 R as bs)
    (i : Nat) (a : α) (ha : as[i]? = some a) : ∃ b, bs[i]? = some b ∧ R a b := by
  induction h generalizing i with
  | nil => simp at ha
  | cons hr _ ih =>
    cases i with
    | zero => simp at ha; subst ha; exact ⟨_, by simp, hr⟩
    | succ i => simp at ha; simpa using ih i ha

/-- `β` extended by the frame of a new activation: the `m` locations from `n0` on are sent to the
    slots `0 … m-1` of environment `a` -/
def extendβ (β : LocMap) (n0 m a : Nat) : LocMap :=
  fun (l : Nat) => if n0 ≤ l ∧ l < n0 + m then some (a, l - n0) else β l

theorem extendβ_old (β : LocMap) (n0 m a l : Nat) (h : l < n0) : extendβ β n0 m a l = β l := by
  simp [extendβ, Nat.not_le.mpr h]

theorem extendβ_new (β : LocMap) (n0 m a i : Nat) (h : i < m) : extendβ β n0 m a (n0 + i) = some (a, i) := by
  simp [extendβ, h]

theorem extendβ_some {β : LocMap} {n0 m a l : Nat} {p : Nat × Nat} (h : extendβ β n0 m a l = some p) :
    (n0 ≤ l ∧ l < n0 + m ∧ p = (a, l - n0)) ∨ β l = some p := by
  unfold extendβ at h
  split at h
  · next hl => exact .inl ⟨hl.1, hl.2, (Option.some.inj h).symm⟩
  · exact .inr h

/-- the names an activation of a lambda form may need: its free symbols and its binders -/
def needOf (sugar : Bool) (ps : List Name) (rst : Option Name) (ds : Defs) (body : Exprs) (x : Name) : Prop :=
  x ∈ fvLam sugar ps rst ds body ∨ x ∈ ps ++ rst.toList ∨ x ∈ ds.names

/-- ENTER, the two states: the store grows by `W`, the heap by one environment whose first slots are related to `W` -/
theorem StRel.enter {β : LocMap} {s : SSt} {t : MSt} (r : StRel β s t) (W : List SVal) (arr : Array (Slot MVal))
    (hone : OneLevel (t.envs.push arr).1)
    (hW : ∀ (i : Nat) (sv : SVal), W[i]? = some sv → ∃ g, arr[i]? = some g ∧ SlotRel β t.envs sv g) :
    Ext β t.envs (extendβ β s.store.size W.length t.envs.envs.size) (t.envs.push arr).1 ∧
    StRel (extendβ β s.store.size W.length t.envs.envs.size) { s with store := s.store ++ W.toArray }
      { t with envs := (t.envs.push arr).1 } := by
  have hβe : ∀ l e i, β l = some (e, i) → e < t.envs.envs.size := by
    intro l e i hp
    obtain ⟨_, _, _, _, h2, _⟩ := r.heap.slot l e i hp
    exact getElem?_lt h2
  have ext : Ext β t.envs (extendβ β s.store.size W.length t.envs.envs.size) (t.envs.push arr).1 := by
    refine ⟨fun l p hp => ?_, Evolves.push _ _⟩
    obtain ⟨_, _, _, h1, _⟩ := r.heap.slot l p.1 p.2 hp
    rw [extendβ_old β _ _ _ l (getElem?_lt h1)]; exact hp
  have hold : ∀ (l : Nat) (v : SVal), s.store[l]? = some v → (s.store ++ W.toArray)[l]? = some v := by
    intro l v hl
    rw [Array.getElem?_append_left (getElem?_lt hl)]; exact hl
  refine ⟨ext, r.counter, r.log.mono ext, ⟨?_, r.glob.free, r.glob.inj⟩, ⟨?_, ?_⟩, hone⟩
  · intro x l hl
    obtain ⟨h1, sv, mv, h2, h3, h4⟩ := r.glob.bound x l hl
    exact ⟨by rw [extendβ_old β _ _ _ l (getElem?_lt h2)]; exact h1, sv, mv, hold _ _ h2, h3, h4.mono ext⟩
  · intro (l : Nat) e i hb
    rcases extendβ_some hb with ⟨h1, h2, hp⟩ | hb
    · cases hp
      have hwl : l - s.store.size < W.length := by omega
      obtain ⟨g, hg, hrel⟩ := hW _ _ (List.getElem?_eq_getElem hwl)
      refine ⟨_, arr, g, ?_, push_get_new _ _, hg, hrel.mono ext⟩
      rw [Array.getElem?_append_right h1, List.getElem?_toArray, List.getElem?_eq_getElem hwl]
    · obtain ⟨sv, arr0, g, h1, h2, h3, h4⟩ := r.heap.slot l e i hb
      exact ⟨sv, arr0, g, hold _ _ h1, push_get_old _ _ _ _ h2, h3, h4.mono ext⟩
  · intro (l : Nat) (l' : Nat) p h1 h2
    rcases extendβ_some h1 with ⟨a1, a2, rfl⟩ | h1 <;> rcases extendβ_some h2 with ⟨b1, b2, hp⟩ | h2
    · have : l - s.store.size = l' - s.store.size := (Prod.mk.inj hp).2
      show (l : Nat) = l'
      omega
    · exact absurd (hβe _ _ _ h2) (Nat.lt_irrefl _)
    · subst hp
      exact absurd (hβe _ _ _ h1) (Nat.lt_irrefl _)
    · exact r.heap.inj l l' p h1 h2

/-- ENTER, the activation: its bound slots hold no pointer, its captured slots are the closure environment's -/
theorem ActRel.enter {β β' : LocMap} {h h' : Envs MVal} {F : List Name} {octx : LamCtx} {cenv : Nat} {ρ acts carr}
    (A D : List Name) (c : CloFacts β h F octx ⟨A, newEnvmap A D F octx⟩ cenv ρ acts carr)
    (ext : Ext β h β' h') (n0 a : Nat) (arr : Array (Slot MVal)) (hnew : h'.envs[a]? = some arr)
    (hnp : ∀ n, n < (A ++ D).length → ∃ g, arr[n]? = some g ∧ g.isPtr = false)
    (hptr : ∀ (sl : Nat) (x : Name) (k : Nat), (newEnvmap A D F octx)[sl]? = some (x, Source.iofEnv k) →
      arr[sl]? = carr[sl]?)
    (hβ' : ∀ i, i < (A ++ D).length → β' (n0 + i) = some (a, i)) :
    ActRel β' h' (fun x => x ∈ F ∨ x ∈ A ∨ x ∈ D) ⟨A, newEnvmap A D F octx⟩ (some a)
      (frameAt (A ++ D) n0 :: ρ) (a :: acts) := by
  have hslot := hasSlot_newEnvmap A D F octx c.scope.noarg
  -- the chain resolves a name iff the new frame binds it or the closure's chain resolves it
  have hres : ∀ x, resolve x (frameAt (A ++ D) n0 :: ρ) ≠ none ↔ x ∈ A ++ D ∨ resolve x ρ ≠ none := by
    intro x
    rw [resolve_frameAt, Ne, Option.or_eq_none_iff, Option.map_eq_none_iff, argIndex_none_iff]
    exact Decidable.not_and_iff_not_or_not.trans (or_congr_left Decidable.not_not)
  refine ⟨?_, ?_, newEnvmap_noarg A D F octx, ?_, ⟨?_, ChainOK.mono ext.sub _ _ c.chain⟩⟩
  · intro x sl (hsl : slotOf (newEnvmap A D F octx) x = some sl)
    rw [resolve_frameAt]
    have hsl' := hsl
    rw [slotOf_newEnvmap] at hsl'
    cases hn : argIndex (A ++ D) x with
    | some n =>
      rw [hn] at hsl'
      have hnsl : n = sl := Option.some.inj hsl'
      subst hnsl
      have hlt := argIndex_lt _ _ _ hn
      obtain ⟨g, hg, hgp⟩ := hnp n hlt
      refine ⟨a, n0 + n, a, n, rfl, rfl, ?_, hβ' n hlt⟩
      rw [target_eq _ a n arr g hnew hg]
      cases g with
      | ptr => cases hgp
      | _ => rfl
    | none =>
      -- the slot lies behind the binders, so its entry is what `freeEntry` made of `x`: a captured variable
      rw [hn, Option.none_or] at hsl'
      obtain ⟨j, _, rfl⟩ := Option.map_eq_some_iff.mp hsl'
      obtain ⟨src, _, hget⟩ := entryOf_of_slotOf hsl
      have hget' := hget
      rw [newEnvmap_getElem?, if_neg (by rw [List.length_append]; omega),
        if_neg (by rw [List.length_append]; omega)] at hget'
      obtain ⟨y, _, hy⟩ := List.mem_filterMap.mp (List.mem_of_getElem? hget')
      obtain ⟨rfl, k, rfl, hk⟩ := freeEntry_cases octx c.scope.noarg y x src hy
      obtain ⟨l, e, i, h1, h2, h3⟩ := c.ptrs _ x k hget
      have h4 := hptr _ x k hget
      rw [h3] at h4
      exact ⟨a, l, e, i, rfl, h1, by rw [target_eq _ a _ arr _ hnew h4], ext.sub _ _ h2⟩
  · intro x hx
    refine Decidable.byContradiction fun hs => ?_
    rcases (hslot x).mp hs with hb | ⟨_, ho⟩
    · exact (hres x).mpr (.inl hb) hx
    · exact (hres x).mpr (.inr fun hr => ho (c.scope.unb x hr)) hx
  · intro x hx hr
    refine (hslot x).mpr ?_
    rcases (hres x).mp hr with hb | hρ
    · exact .inl hb
    · rcases hx with hF | hA | hD
      · exact .inr ⟨hF, c.need x hF hρ⟩
      · exact .inl (List.mem_append_left _ hA)
      · exact .inl (List.mem_append_right _ hD)
  · intro i x l hi
    rw [frameAt_getElem] at hi
    obtain ⟨h1, rfl⟩ := hi
    exact hβ' i (List.getElem?_eq_some_iff.mp h1).1

/-- **ENTER against `bindParams` + `allocDefs`.** -/
theorem sim_enter {β : LocMap} {s : SSt} {t : MSt} {octx cenv ρ acts carr} (r : StRel β s t)
    (sugar : Bool) (ps : List Name) (rst : Option Name) (ds : Defs) (body : Exprs)
    (c : CloFacts β t.envs (fvLam sugar ps rst ds body) octx (compileLam octx sugar ps rst ds body) cenv ρ acts carr)
    (vals : List SVal) (margs : List MVal) (hrel : Forall2 (VRel β t.envs) vals margs)
    (hm : margs.length = (ps ++ rst.toList).length) :
    ∃ (arr : Array (Slot MVal)) (β' : LocMap),
      buildLexicalEnvironment t.envs cenv margs (compileLam octx sugar ps rst ds body).envmap =
        .ok ((t.envs.push arr).1, t.envs.envs.size) ∧
      Ext β t.envs β' (t.envs.push arr).1 ∧
      StRel β' { s with store := s.store ++ vals.toArray ++ (ds.names.map fun _ => Val.undef).toArray }
        { t with envs := (t.envs.push arr).1 } ∧
      ActRel β' (t.envs.push arr).1 (needOf sugar ps rst ds body) (compileLam octx sugar ps rst ds body)
        (some t.envs.envs.size)
        ((frameAt (ps ++ rst.toList) s.store.size ++ frameAt ds.names (s.store.size + vals.length)) :: ρ)
        (t.envs.envs.size :: acts) := by
  obtain ⟨arr, hb, harg, hnp, hptr⟩ := enter_heap sugar ps rst ds body c margs hm
  have hvl : vals.length = (ps ++ rst.toList).length := hrel.length_eq.trans hm
  have hWlen : (vals ++ ds.names.map fun _ => Val.undef).length = (ps ++ rst.toList ++ ds.names).length := by
    simp [hvl, Nat.add_assoc]
  obtain ⟨ext, r'⟩ := r.enter (vals ++ ds.names.map fun _ => Val.undef) arr
    (buildLexicalEnvironment_oneLevel _ _ r.one _ _ _ _ hb) (by
      intro i sv hi
      obtain ⟨g, hg, hgp⟩ := hnp i (by
        have := (List.getElem?_eq_some_iff.mp hi).1
        rw [hWlen, List.length_append, ← hm] at this
        exact this)
      refine ⟨g, hg, hgp, ?_⟩
      by_cases hlv : i < vals.length
      · rw [List.getElem?_append_left hlv] at hi
        obtain ⟨mv, hmv, hvr⟩ := hrel.get _ _ hi
        have hml := (List.getElem?_eq_some_iff.mp hmv).1
        have hmi : margs[i]! = mv := by simp [hmv]
        have := harg i hml
        rw [hg, hmi] at this
        exact .inr ⟨mv, Option.some.inj this, hvr⟩
      · rw [List.getElem?_append_right (Nat.le_of_not_lt hlv)] at hi
        obtain ⟨_, _, rfl⟩ := List.mem_map.mp (List.mem_of_getElem? hi)
        exact .inl rfl)
  rw [hWlen] at ext r'
  have hstore : s.store ++ vals.toArray ++ (ds.names.map fun _ => Val.undef).toArray =
      s.store ++ (vals ++ ds.names.map fun _ => Val.undef).toArray := by
    rw [Array.append_assoc]; simp
  refine ⟨arr, _, hb, ext, hstore ▸ r', ?_⟩
  rw [hvl, ← frameAt_append]
  exact ActRel.enter (ps ++ rst.toList) ds.names c ext s.store.size _ arr (push_get_new _ _)
    (by rw [List.length_append, ← hm]; exact hnp) hptr fun i hi => extendβ_new _ _ _ _ i hi

end Marwood.Vm.EnvRefine
