import Marwood.Lemmas.LeadOps
import Marwood.Lemmas.EnvTaintDefs
/-!
# "No value leads to a code object of class `K`" across `run_one`: JMP JNT MOV MOVIMM PUSH PUSHIMM PUSHACC HALT RET

Each lemma goes from `PInv I s0` to `PInv I` of the successor, except MOVIMM, which concludes `TInv`: at an exempt
`MOVIMM <Ptr(p)> %acc; CLOSURE` site the immediate may point to a `K` lambda; only `acc` changes and the successor is at
the site (`atSiteB`).
-/
namespace Marwood.Lemmas.Lead
open Marwood.Lemmas.Good Marwood Marwood.Vm Marwood.Vm.Verify Marwood.Vm.Concrete Marwood.Lemmas.Sim
open Marwood.Heap (GcState)

variable {I : Spec}

theorem PInv.nx {s : St CHeap} (p : PInv I s) : PInv I (nx s) := ⟨p.hp, p.acc, p.stk⟩

theorem PInv.sm {s : St CHeap} (p : PInv I s) : SM I s.heap s.stack s.stack.sp := SM.of_stk p.stk

theorem TInv.sm {s : St CHeap} (p : TInv I s) : SM I s.heap s.stack s.stack.sp := SM.of_stk p.stk

theorem PInv.mk' {s s' : St CHeap} (p : PInv I s) (hh : s'.heap = s.heap) (ha : ne I s.heap s'.acc = true)
    {B : Nat} (hs : SM I s.heap s'.stack B) : PInv I s' :=
  ⟨by rw [hh]; exact p.hp, by rw [hh]; exact ha, by rw [hh]; exact hs.stk⟩

theorem PInv.mkRes {s s' : St CHeap} (r : OpRes I s.heap s'.heap) (ha : ne I s'.heap s'.acc = true)
    {B : Nat} (hs : SM I s.heap s'.stack B) : PInv I s' :=
  ⟨r.hp, ha, (hs.heap r.eshr).stk⟩

section
variable {ext : ExtOps} {s : St CHeap}

theorem imm_push_ne (p : PInv I s) {l : CLambda} (hl : lambdaAt s.heap s.ipL = some l) {j : Nat} {v : VCell}
    (hop : l.bc[j]? = some (.opcode .pushImm)) (hv : l.bc[j + 1]? = some v) : ne I s.heap v = true := by
  have := p.hp.cells s.ipL _ (lambdaAt_iff.mp hl)
  exact immXF_push (E := bad I s.heap) this hop hv

theorem imm_mov_ne (p : PInv I s) {l : CLambda} (hl : lambdaAt s.heap s.ipL = some l) {j : Nat} {v : VCell}
    (hop : l.bc[j]? = some (.opcode .movImm)) (hv : l.bc[j + 1]? = some v) :
    ne I s.heap v = true ∨ (I.site = true ∧ siteB l.bc j = true) := by
  have := p.hp.cells s.ipL _ (lambdaAt_iff.mp hl)
  exact immXF_mov (E := bad I s.heap) this hop hv

theorem loads_pv (p : PInv I s) {c v : VCell} (live : ∀ off, c = .bpOffset off → (s.bp : Int) + off ≤ s.stack.sp)
    (ld : OpLoads (concreteOps ext) s c v) : ne I s.heap v = true := by
  cases ld with
  | acc => exact p.acc
  | ptr q =>
    show ne I s.heap (getAt s.heap q) = true
    unfold getAt
    cases hq : s.heap.cells[q]? with
    | none => rfl
    | some c =>
      cases c with
      | val w => exact ne_of_valX (p.hp.cells q _ hq)
      | _ => rfl
  | bp hnn hg => exact p.stk _ _ (by have := live _ rfl; omega) (get_inv hg)
  | glob n hne => exact p.hp.globals _ _ (globGet_some hne)
  | env h1 _ => exact envGet_ne p.hp h1
  | envPtr _ h2 => exact envGet_ne p.hp h2

theorem stores_pv (p : PInv I s) (lf : LF s.heap) {d v : VCell} (hdst : notPtr d = true) (hv : ne I s.heap v = true)
    {s' : St CHeap} (st : OpStores (concreteOps ext) s v d s') : PInv I s' := by
  have henv : ∀ {e k : Nat} {h' : CHeap}, envPut s.heap e k v = some h' → PInv I { s with heap := h' } :=
    fun h2 => PInv.mkRes (s := s) (envPut_res lf p.hp hv h2) ((envPut_res lf p.hp hv h2).ne p.acc) p.sm
  cases st with
  | acc => exact ⟨p.hp, hv, p.stk⟩
  | ptr q => cases hdst
  | bp hst => exact p.mk' rfl p.acc (p.sm.setOffset hv hst)
  | glob n => exact PInv.mkRes (s := s) (globPut_res lf p.hp n hv) ((globPut_res lf p.hp n hv).ne p.acc) p.sm
  | env _ _ h2 => exact henv h2
  | envPtr _ h2 => exact henv h2

end

section
variable {ext : ExtOps} {s0 : St CHeap}

theorem pv_jmp {s' : St CHeap} {b : Bool} (p : PInv I s0) (hx : exec (concreteOps ext) .jmp (nx s0) = .ok (s', b)) :
    PInv I s' := by
  cases exec_eff hx with
  | jmp _ => exact ⟨p.hp, p.acc, p.stk⟩

theorem pv_jnt {s' : St CHeap} {b : Bool} (p : PInv I s0) (hx : exec (concreteOps ext) .jnt (nx s0) = .ok (s', b)) :
    PInv I s' := by
  cases exec_eff hx with
  | jntTaken _ _ => exact ⟨p.hp, p.acc, p.stk⟩
  | jntFall _ _ => exact ⟨p.hp, p.acc, p.stk⟩

theorem pv_mov {s' : St CHeap} {b : Bool} (g : GoodI s0) (lf : LF s0.heap) (sd : StackDisc s0) (p : PInv I s0)
    (hop : opAt s0 .mov) (hx : exec (concreteOps ext) .mov (nx s0) = .ok (s', b)) : PInv I s' := by
  obtain ⟨l, hl, hop⟩ := hop
  have lo := (g.hg.lam _ l (lambdaAt_iff.mp hl)).mov s0.ipO hop
  cases exec_eff hx with
  | mov hf ld hd st =>
    have hv := loads_pv p (fun off e => sd.bpLive l off hl (e ▸ fetch_at hl hf)) ld
    exact stores_pv p.nx.nx.nx lf (opndAll_at lo.2 (fetch_at hl hd)) hv st

theorem pv_movImm {s' : St CHeap} {b : Bool} (g : GoodI s0) (lf : LF s0.heap) (p : PInv I s0)
    (hop : opAt s0 .movImm) (hx : exec (concreteOps ext) .movImm (nx s0) = .ok (s', b)) : TInv I s' := by
  obtain ⟨l, hl, hop⟩ := hop
  have lo := (g.hg.lam _ l (lambdaAt_iff.mp hl)).movImm s0.ipO hop
  cases exec_eff hx with
  | movImm hf _ hd st =>
    have hv' := fetch_at hl hf
    have hd := fetch_at hl hd
    rcases imm_mov_ne p hl hop hv' with hne | ⟨hxs, hsite⟩
    · exact (stores_pv p.nx.nx.nx lf (opndAll_at lo.2 hd) hne st).tinv
    · cases (Taint.siteB_inv hsite).2.1.symm.trans hd
      cases st
      exact ⟨p.hp, .inr ⟨hxs, Taint.atSiteB_intro (l := l) (j := s0.ipO) hl rfl hsite hv'⟩, p.stk⟩

theorem pv_push {s' : St CHeap} {b : Bool} (sd : StackDisc s0) (p : PInv I s0)
    (hx : exec (concreteOps ext) .push (nx s0) = .ok (s', b)) : PInv I s' := by
  cases exec_eff hx with
  | push hf ld =>
    obtain ⟨l, hl, hc⟩ := fetch_inv hf
    exact p.mk' rfl p.acc (p.sm.push (loads_pv p (fun off e => sd.bpLive l off hl (e ▸ hc)) ld))

theorem pv_pushImm {s' : St CHeap} {b : Bool} (p : PInv I s0) (hop : opAt s0 .pushImm)
    (hx : exec (concreteOps ext) .pushImm (nx s0) = .ok (s', b)) : PInv I s' := by
  obtain ⟨l, hl, hop⟩ := hop
  cases exec_eff hx with
  | pushImm hf _ => exact p.mk' rfl p.acc (p.sm.push (imm_push_ne p hl hop (fetch_at hl hf)))

theorem pv_pushAcc {s' : St CHeap} {b : Bool} (p : PInv I s0)
    (hx : exec (concreteOps ext) .pushAcc (nx s0) = .ok (s', b)) : PInv I s' := by
  cases exec_eff hx with
  | pushAcc => exact p.mk' rfl p.acc (p.sm.push p.acc)

theorem pv_halt {s' : St CHeap} {b : Bool} (p : PInv I s0)
    (hx : exec (concreteOps ext) .halt (nx s0) = .ok (s', b)) : PInv I s' := by
  cases exec_eff hx with
  | halt => exact ⟨p.hp, p.acc, p.stk⟩

theorem pv_ret {s' : St CHeap} {b : Bool} (sd : StackDisc s0) (p : PInv I s0) (hop : opAt s0 .ret)
    (hx : exec (concreteOps ext) .ret (nx s0) = .ok (s', b)) : PInv I s' := by
  cases exec_eff hx with
  | @ret n ep l' o bp _ _ _ _ _ =>
    obtain ⟨l, hl, hop⟩ := hop
    have hfl : s0.bp + 4 ≤ s0.stack.sp := sd.frameLive l hl (.inl hop)
    exact p.mk' rfl p.acc (p.sm.cut (.inl (by omega)))

end

end Marwood.Lemmas.Lead
