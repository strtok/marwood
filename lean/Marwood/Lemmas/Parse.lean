import Marwood.Parse
import Marwood.Lemmas.LexSpans
/-!
# Token consumption of the datum parser (C11, C10)

`Consumes run ts d rest`: `run ts` gave `d` having consumed a non-empty prefix `pre` of `ts`; `pre`
followed by anything else gives `d` and leaves what follows; every proper prefix of `pre` is
`Incomplete`. It is built along the parser (`Consumes.head`, `Consumes.seq`). The three loops treat
the outcome of `parse` on the next element alike (`andThen`); every walk over the reader uses that.
-/
namespace Marwood

/-- `&span[1..len-1]` of a token spelled `"…"` is what stands between the quotes -/
theorem stringInner_quoted (inner : Text) : stringInner ('"' :: (inner ++ ['"'])) = .ok inner := by
  unfold stringInner
  split
  · rename_i h
    rw [List.cons.injEq] at h
    cases inner with
    | nil => rfl
    | cons x xs => simp at h
  · have hq : byteLen ['"'] = 1 := by decide
    have e : '"' :: (inner ++ ['"']) = ['"'] ++ inner ++ ['"'] := rfl
    have hlen : byteLen ('"' :: (inner ++ ['"'])) = 1 + byteLen inner + 1 := by
      rw [e, byteLen_append, byteLen_append, hq]
    have hs := sliceBytes_append ['"'] inner ['"']
    rw [hq] at hs
    rw [if_neg (by omega), hlen, Nat.add_sub_cancel, e, hs]

abbrev Run := List Token → Option (PRes (Datum × List Token))

def Consumes (run : Run) (ts : List Token) (d : Datum) (rest : List Token) : Prop :=
  ∃ pre, pre ≠ [] ∧ ts = pre ++ rest ∧
    (∀ rest', run (pre ++ rest') = some (.ok (d, rest'))) ∧
    (∀ p q, pre = p ++ q → q ≠ [] → run p = some (.err .incomplete))

/-- the head token already taken: `pre` may be empty -/
def ConsumesTail (run : Run) (ts : List Token) (d : Datum) (rest : List Token) : Prop :=
  ∃ pre, ts = pre ++ rest ∧
    (∀ rest', run (pre ++ rest') = some (.ok (d, rest'))) ∧
    (∀ p q, pre = p ++ q → q ≠ [] → run p = some (.err .incomplete))

theorem Consumes.tail {run : Run} {ts rest : List Token} {d : Datum} (h : Consumes run ts d rest) :
    ConsumesTail run ts d rest := by
  obtain ⟨pre, -, h⟩ := h
  exact ⟨pre, h⟩

theorem ConsumesTail.nil {run : Run} {ts : List Token} {d : Datum}
    (h : ∀ rest', run rest' = some (.ok (d, rest'))) : ConsumesTail run ts d ts :=
  ⟨[], rfl, h, fun _ _ hp hq => absurd (List.append_eq_nil_iff.mp hp.symm).2 hq⟩

theorem cons_prefix_cases {α} {t : α} {pre p q : List α} (hp : t :: pre = p ++ q) :
    (p = [] ∧ q = t :: pre) ∨ ∃ p', p = t :: p' ∧ pre = p' ++ q := by
  cases p with
  | nil => exact .inl ⟨rfl, by simpa using hp.symm⟩
  | cons x p' =>
    simp only [List.cons_append, List.cons.injEq] at hp
    exact .inr ⟨p', by rw [hp.1], hp.2⟩

theorem append_prefix_cases {α} {a b p q : List α} (h : a ++ b = p ++ q) :
    (∃ a2, a = p ++ a2 ∧ q = a2 ++ b ∧ a2 ≠ []) ∨ (∃ p2, p = a ++ p2 ∧ b = p2 ++ q) := by
  induction a generalizing p with
  | nil => exact .inr ⟨p, by simp, by simpa using h⟩
  | cons x a ih =>
    cases p with
    | nil => exact .inl ⟨x :: a, by simp, by simpa using h.symm, by simp⟩
    | cons y p' =>
      simp only [List.cons_append, List.cons.injEq] at h
      obtain ⟨rfl, h⟩ := h
      rcases ih h with ⟨a2, h1, h2, h3⟩ | ⟨p2, h1, h2⟩
      · exact .inl ⟨a2, by simp [h1], h2, h3⟩
      · exact .inr ⟨p2, by simp [h1], h2⟩

/-- one token, then `inner` on what follows; `g` passes a success and `Incomplete` on -/
theorem Consumes.head {run inner : Run} {t : Token} {ts rest : List Token} {d d' : Datum}
    (g : Option (PRes (Datum × List Token)) → Option (PRes (Datum × List Token)))
    (hrun : ∀ ts', run (t :: ts') = g (inner ts')) (hnil : run [] = some (.err .incomplete))
    (hok : ∀ r, g (some (.ok (d', r))) = some (.ok (d, r)))
    (hinc : g (some (.err .incomplete)) = some (.err .incomplete))
    (h : ConsumesTail inner ts d' rest) : Consumes run (t :: ts) d rest := by
  obtain ⟨pre, hts, hall, hpre⟩ := h
  refine ⟨t :: pre, by simp, by simp [hts], fun rest' => ?_, fun p q hp hq => ?_⟩
  · rw [List.cons_append, hrun, hall, hok]
  · rcases cons_prefix_cases hp with ⟨rfl, -⟩ | ⟨p', rfl, hp'⟩
    · exact hnil
    · rw [hrun, hpre p' q hp' hq, hinc]

/-- what the three loops do with `parse`'s outcome on the next element -/
def andThen (x : Option (PRes (Datum × List Token))) (k : Datum → Run) :
    Option (PRes (Datum × List Token)) :=
  match x with
  | none => none
  | some (.ok (d, rest)) => k d rest
  | some (.err e) => some (.err e)
  | some (.panic m) => some (.panic m)

theorem andThen_ok {x : Option (PRes (Datum × List Token))} {k : Datum → Run} {v : Datum × List Token}
    (h : andThen x k = some (.ok v)) : ∃ d r, x = some (.ok (d, r)) ∧ k d r = some (.ok v) := by
  unfold andThen at h
  split at h
  · cases h
  · exact ⟨_, _, rfl, h⟩
  · cases h
  · cases h

theorem andThen_mono {x x' : Option (PRes (Datum × List Token))} {k k' : Datum → Run}
    {r : PRes (Datum × List Token)} (hx : ∀ r, x = some r → x' = some r)
    (hk : ∀ d ts r, k d ts = some r → k' d ts = some r) (h : andThen x k = some r) :
    andThen x' k' = some r := by
  cases x with
  | none => cases h
  | some y =>
    rw [hx y rfl]
    unfold andThen at h ⊢
    split at h
    · cases h
    · exact hk _ _ _ h
    · exact h
    · exact h

theorem andThen_ne_none {x : Option (PRes (Datum × List Token))} {k : Datum → Run} (hx : x ≠ none)
    (hk : ∀ d r, x = some (.ok (d, r)) → k d r ≠ none) : andThen x k ≠ none := by
  unfold andThen
  split
  · exact absurd rfl hx
  · exact hk _ _ rfl
  · simp
  · simp

/-- one element, then the rest of a loop -/
theorem Consumes.seq {run elem : Run} {loop : Datum → Run} {t : Token} {ts rest1 rest : List Token}
    {d1 d : Datum} (hrun : ∀ ts', run (t :: ts') = andThen (elem (t :: ts')) loop)
    (hnil : run [] = some (.err .incomplete))
    (h1 : Consumes elem (t :: ts) d1 rest1) (h2 : ConsumesTail (loop d1) rest1 d rest) :
    Consumes run (t :: ts) d rest := by
  obtain ⟨pre1, hne1, hts1, hall1, hpre1⟩ := h1
  obtain ⟨pre2, hts2, hall2, hpre2⟩ := h2
  obtain ⟨pre1', rfl⟩ : ∃ pre1', pre1 = t :: pre1' := by
    cases pre1 with
    | nil => exact absurd rfl hne1
    | cons x xs =>
      rw [List.cons_append, List.cons.injEq] at hts1
      exact ⟨xs, by rw [hts1.1]⟩
  refine ⟨t :: pre1' ++ pre2, by simp, by rw [hts1, hts2, List.append_assoc],
    fun rest' => ?_, fun p q hp hq => ?_⟩
  · rw [List.append_assoc, List.cons_append, hrun, ← List.cons_append, hall1]
    exact hall2 rest'
  · rcases append_prefix_cases hp with ⟨a2, h1', -, h3'⟩ | ⟨p2, rfl, h2'⟩
    · -- `p` is a proper prefix of the element's tokens
      rcases cons_prefix_cases h1' with ⟨rfl, -⟩ | ⟨p', rfl, hp'⟩
      · exact hnil
      · rw [hrun, hpre1 (t :: p') a2 (by rw [hp', List.cons_append]) h3']
        rfl
    · -- the element is complete; the rest of the loop is cut
      rw [List.cons_append, hrun, ← List.cons_append, hall1]
      exact hpre2 p2 q h2' hq

theorem numberFinal_consumes (fo : FloatOps) (text : Text) (ex : Exactness) (radix : Nat)
    (t : Token) (ts : List Token) (d : Datum) (rest : List Token)
    (h : numberFinal fo text ex radix t ts = .ok (d, rest)) :
    rest = ts ∧ ∀ rest', numberFinal fo text ex radix t rest' = .ok (d, rest') := by
  unfold numberFinal at h ⊢
  repeat' split at h
  all_goals first | cases h | skip
  all_goals simp_all

theorem parseNumberTok_consumes (fo : FloatOps) (text : Text) :
    ∀ (ts : List Token) (ex : Exactness) (radix : Nat) (t : Token) (d : Datum) (rest : List Token),
      parseNumberTok fo text ex radix t ts = .ok (d, rest) →
      ConsumesTail (fun ts => some (parseNumberTok fo text ex radix t ts)) ts d rest := by
  have final : ∀ ts ex radix t d rest, ¬ t.ty = .numberPrefix →
      parseNumberTok fo text ex radix t ts = .ok (d, rest) →
      ConsumesTail (fun ts => some (parseNumberTok fo text ex radix t ts)) ts d rest := by
    intro ts ex radix t d rest hty h
    unfold parseNumberTok at h
    simp only [hty, if_false] at h
    obtain ⟨rfl, h2⟩ := numberFinal_consumes _ _ _ _ _ _ _ _ h
    refine .nil fun rest' => ?_
    unfold parseNumberTok
    simp only [hty, if_false, h2 rest']
  intro ts
  induction ts with
  | nil =>
    intro ex radix t d rest h
    by_cases hty : t.ty = .numberPrefix
    · unfold parseNumberTok at h
      simp only [hty, if_true] at h
      repeat' split at h
      all_goals cases h
    · exact final _ _ _ _ _ _ hty h
  | cons t' ts ih =>
    intro ex radix t d rest h
    by_cases hty : t.ty = .numberPrefix
    · -- a prefix token: the loop continues with t'
      unfold parseNumberTok at h
      simp only [hty, if_true] at h
      cases hs : tokSpan text t with
      | panic m | err e => simp [hs] at h
      | ok sp =>
        simp only [hs] at h
        cases hstep : prefixStep sp ex radix with
        | none => simp [hstep] at h
        | some er =>
          obtain ⟨ex', radix'⟩ := er
          simp only [hstep] at h
          obtain ⟨pre, hts, hall, hpre⟩ := ih ex' radix' t' d rest h
          refine ⟨t' :: pre, by simp [hts], ?_, ?_⟩
          · intro rest'
            have := hall rest'
            dsimp only at this ⊢
            rw [parseNumberTok]
            simp only [hty, if_true, hs, hstep, List.cons_append]
            exact this
          · intro p q hp hq
            dsimp only
            rw [parseNumberTok]
            simp only [hty, if_true, hs, hstep]
            cases p with
            | nil => rfl
            | cons x p' =>
              simp only [List.cons_append, List.cons.injEq] at hp
              obtain ⟨rfl, hp⟩ := hp
              exact hpre p' q hp hq
    · exact final _ _ _ _ _ _ hty h

theorem parseAtom_consumes (fo : FloatOps) (text : Text) (t : Token) (ts : List Token) (d : Datum)
    (rest : List Token) (h : parseAtom fo text t ts = .ok (d, rest)) :
    ConsumesTail (fun ts => some (parseAtom fo text t ts)) ts d rest := by
  by_cases hn : t.ty = .number ∨ t.ty = .numberPrefix
  · have e : ∀ ts', parseAtom fo text t ts' = parseNumberTok fo text .unspecified 10 t ts' := by
      intro ts'; unfold parseAtom; rcases hn with hn | hn <;> simp [hn]
    rw [e] at h
    simp only [e]
    exact parseNumberTok_consumes fo text ts _ _ t d rest h
  · have key : rest = ts ∧ ∀ rest', parseAtom fo text t rest' = .ok (d, rest') := by
      unfold parseAtom at h ⊢
      repeat' split at h
      all_goals first | cases h | skip
      all_goals simp_all
    obtain ⟨rfl, hk⟩ := key
    exact .nil fun rest' => by rw [hk]

theorem wrapRes_ok {name : String} {r : Option (PRes (Datum × List Token))} {d : Datum}
    {rest : List Token} (h : wrapRes name r = some (.ok (d, rest))) :
    ∃ d', r = some (.ok (d', rest)) ∧ d = quoteForm name d' := by
  unfold wrapRes at h
  split at h
  · cases h
  · cases h; exact ⟨_, rfl, rfl⟩
  · cases h
  · cases h

theorem listF_step (fo : FloatOps) (text : Text) (f : Nat) (start : Token) (acc : List Datum)
    {t : Token} (hr : ¬ t.ty = .rightParen) (hd : ¬ t.ty = .dot) (ts : List Token) :
    listF fo text (f + 1) start acc (t :: ts) =
      andThen (parseF fo text f (t :: ts)) fun d rest => listF fo text f start (acc ++ [d]) rest := by
  rw [listF]
  simp only [hr, hd, if_false]
  rfl

theorem vectorF_step (fo : FloatOps) (text : Text) (f : Nat) (acc : List Datum)
    {t : Token} (hr : ¬ t.ty = .rightParen) (hd : ¬ t.ty = .dot) (ts : List Token) :
    vectorF fo text (f + 1) acc (t :: ts) =
      andThen (parseF fo text f (t :: ts)) fun d rest => vectorF fo text f (acc ++ [d]) rest := by
  rw [vectorF]
  simp only [hr, hd, if_false]
  rfl

/-- what `parse_improper_list_tail` does after the datum behind the dot -/
def closeTail (acc : List Datum) (d : Datum) : Run
  | [] => some (.err .incomplete)
  | c :: rest' =>
    if c.ty = .rightParen then some (.ok (newImproperList acc d, rest'))
    else some (.err .expectedOneTokenAfterDot)

theorem tailF_step (fo : FloatOps) (text : Text) (f : Nat) {acc : List Datum}
    (he : ¬ acc.isEmpty = true) {t : Token} (hdr : ¬ (t.ty = .dot ∨ t.ty = .rightParen))
    (ts : List Token) :
    tailF fo text (f + 1) acc (t :: ts) = andThen (parseF fo text f (t :: ts)) (closeTail acc) := by
  rw [tailF]
  simp only [he, Bool.false_eq_true, hdr, if_false]
  unfold andThen closeTail
  rfl

theorem consumes_all (fo : FloatOps) (text : Text) : ∀ f : Nat,
    (∀ ts d rest, parseF fo text f ts = some (.ok (d, rest)) →
        Consumes (parseF fo text f) ts d rest) ∧
    (∀ start acc ts d rest, listF fo text f start acc ts = some (.ok (d, rest)) →
        Consumes (listF fo text f start acc) ts d rest) ∧
    (∀ acc ts d rest, tailF fo text f acc ts = some (.ok (d, rest)) →
        Consumes (tailF fo text f acc) ts d rest) ∧
    (∀ acc ts d rest, vectorF fo text f acc ts = some (.ok (d, rest)) →
        Consumes (vectorF fo text f acc) ts d rest) := by
  intro f
  induction f with
  | zero =>
    refine ⟨?_, ?_, ?_, ?_⟩ <;> intros <;> simp_all [parseF, listF, tailF, vectorF]
  | succ f ih =>
    obtain ⟨ihP, ihL, ihT, ihV⟩ := ih
    refine ⟨?_, ?_, ?_, ?_⟩
    · -- parse
      intro ts d rest h
      cases ts with
      | nil => simp [parseF] at h
      | cons t ts =>
        rw [parseF] at h
        cases hk : tokKind t.ty with
        | wrap name =>
          simp only [hk] at h
          obtain ⟨d', hr, rfl⟩ := wrapRes_ok h
          exact .head (wrapRes name) (fun ts' => by rw [parseF]; simp only [hk]) (by simp [parseF])
            (fun _ => rfl) rfl (ihP _ _ _ hr).tail
        | list =>
          simp only [hk] at h
          exact .head id (fun ts' => by rw [parseF]; simp only [hk]; rfl) (by simp [parseF])
            (fun _ => rfl) rfl (ihL _ _ _ _ _ h).tail
        | vector =>
          simp only [hk] at h
          exact .head id (fun ts' => by rw [parseF]; simp only [hk]; rfl) (by simp [parseF])
            (fun _ => rfl) rfl (ihV _ _ _ _ h).tail
        | atom =>
          simp only [hk, Option.some.injEq] at h
          exact .head id (fun ts' => by rw [parseF]; simp only [hk]; rfl) (by simp [parseF])
            (fun _ => rfl) rfl (parseAtom_consumes fo text t ts d rest h)
    · -- parse_list
      intro start acc ts d rest h
      cases ts with
      | nil => simp [listF] at h
      | cons t ts =>
        by_cases hr : t.ty = .rightParen
        · rw [listF] at h
          simp only [hr, if_true, Option.some.injEq] at h
          have hrest : rest = ts ∧ ∀ r', closeList text start t acc r' = .ok (d, r') := by
            unfold closeList at h ⊢
            repeat' split at h
            all_goals first | cases h | skip
            all_goals simp_all
          obtain ⟨rfl, hcl⟩ := hrest
          exact .head id (inner := fun ts' => some (closeList text start t acc ts'))
            (fun ts' => by rw [listF]; simp only [hr, if_true]; rfl) (by simp [listF]) (fun _ => rfl) rfl
            (.nil fun r' => by rw [hcl])
        · by_cases hd : t.ty = .dot
          · rw [listF] at h
            simp only [hd, if_true, reduceCtorEq, if_false] at h
            exact .head id (fun ts' => by rw [listF]; simp only [hd, if_true, reduceCtorEq, if_false]; rfl)
              (by simp [listF]) (fun _ => rfl) rfl (ihT _ _ _ _ h).tail
          · rw [listF_step fo text f start acc hr hd] at h
            obtain ⟨d1, rest1, h1, h2⟩ := andThen_ok h
            exact .seq (listF_step fo text f start acc hr hd) (by simp [listF]) (ihP _ _ _ h1)
              (ihL _ _ _ _ _ h2).tail
    · -- parse_improper_list_tail
      intro acc ts d rest h
      by_cases he : acc.isEmpty = true
      · cases ts <;> simp [tailF, he] at h
      · cases ts with
        | nil => simp [tailF, he] at h
        | cons t ts =>
          by_cases hdr : t.ty = .dot ∨ t.ty = .rightParen
          · simp [tailF, he, hdr] at h
          · rw [tailF_step fo text f he hdr] at h
            obtain ⟨d1, rest1, h1, h2⟩ := andThen_ok h
            refine .seq (tailF_step fo text f he hdr) (by simp [tailF, he]) (ihP _ _ _ h1) ?_
            cases rest1 with
            | nil => simp [closeTail] at h2
            | cons c rest1' =>
              by_cases hc : c.ty = .rightParen
              · simp only [closeTail, hc, if_true, Option.some.injEq, Res.ok.injEq, Prod.mk.injEq] at h2
                obtain ⟨rfl, rfl⟩ := h2
                refine ⟨[c], rfl, fun rest' => by simp [closeTail, hc], fun p q hp hq => ?_⟩
                rcases cons_prefix_cases hp with ⟨rfl, -⟩ | ⟨p', rfl, hp'⟩
                · rfl
                · exact absurd (List.append_eq_nil_iff.mp hp'.symm).2 hq
              · simp [closeTail, hc] at h2
    · -- parse_vector
      intro acc ts d rest h
      cases ts with
      | nil => simp [vectorF] at h
      | cons t ts =>
        by_cases hr : t.ty = .rightParen
        · rw [vectorF] at h
          simp only [hr, if_true, Option.some.injEq] at h
          have hrest : rest = ts ∧ ∀ r', closeVector text t acc r' = .ok (d, r') := by
            unfold closeVector at h ⊢
            repeat' split at h
            all_goals first | cases h | skip
            all_goals simp_all
          obtain ⟨rfl, hcl⟩ := hrest
          exact .head id (inner := fun ts' => some (closeVector text t acc ts'))
            (fun ts' => by rw [vectorF]; simp only [hr, if_true]; rfl) (by simp [vectorF]) (fun _ => rfl) rfl
            (.nil fun r' => by rw [hcl])
        · by_cases hd : t.ty = .dot
          · simp [vectorF, hd] at h
          · rw [vectorF_step fo text f acc hr hd] at h
            obtain ⟨d1, rest1, h1, h2⟩ := andThen_ok h
            exact .seq (vectorF_step fo text f acc hr hd) (by simp [vectorF]) (ihP _ _ _ h1)
              (ihV _ _ _ _ h2).tail

theorem wrapRes_some {name : String} {r : Option (PRes (Datum × List Token))}
    {x : PRes (Datum × List Token)} (h : wrapRes name r = some x) : ∃ r0, r = some r0 := by
  cases r with
  | none => simp [wrapRes] at h
  | some r0 => exact ⟨r0, rfl⟩

theorem fuel_succ (fo : FloatOps) (text : Text) : ∀ f : Nat,
    (∀ ts r, parseF fo text f ts = some r → parseF fo text (f+1) ts = some r) ∧
    (∀ start acc ts r, listF fo text f start acc ts = some r →
        listF fo text (f+1) start acc ts = some r) ∧
    (∀ acc ts r, tailF fo text f acc ts = some r → tailF fo text (f+1) acc ts = some r) ∧
    (∀ acc ts r, vectorF fo text f acc ts = some r → vectorF fo text (f+1) acc ts = some r) := by
  intro f
  induction f with
  | zero => refine ⟨?_, ?_, ?_, ?_⟩ <;> intros <;> simp_all [parseF, listF, tailF, vectorF]
  | succ f ih =>
    obtain ⟨ihP, ihL, ihT, ihV⟩ := ih
    refine ⟨?_, ?_, ?_, ?_⟩
    · intro ts r h
      cases ts with
      | nil => rw [parseF] at h ⊢; exact h
      | cons t ts =>
        rw [parseF] at h ⊢
        cases hk : tokKind t.ty with
        | wrap name =>
          simp only [hk] at h ⊢
          obtain ⟨r0, hr0⟩ := wrapRes_some h
          rw [ihP _ _ hr0, ← hr0]; exact h
        | list => simp only [hk] at h ⊢; exact ihL _ _ _ _ h
        | vector => simp only [hk] at h ⊢; exact ihV _ _ _ h
        | atom => simp only [hk] at h ⊢; exact h
    · intro start acc ts r h
      cases ts with
      | nil => rw [listF] at h ⊢; exact h
      | cons t ts =>
        by_cases hr : t.ty = .rightParen
        · rw [listF] at h ⊢; simp only [hr, if_true] at h ⊢; exact h
        · by_cases hd : t.ty = .dot
          · rw [listF] at h ⊢
            simp only [hd, if_true, reduceCtorEq, if_false] at h ⊢; exact ihT _ _ _ h
          · rw [listF_step fo text _ start acc hr hd] at h ⊢
            exact andThen_mono (ihP _) (fun _ => ihL _ _) h
    · intro acc ts r h
      cases ts with
      | nil => rw [tailF] at h ⊢; exact h
      | cons t ts =>
        by_cases he : acc.isEmpty = true
        · rw [tailF] at h ⊢; simp only [he, if_true] at h ⊢; exact h
        · by_cases hdr : t.ty = .dot ∨ t.ty = .rightParen
          · rw [tailF] at h ⊢; simp only [he, Bool.false_eq_true, if_false, hdr, if_true] at h ⊢; exact h
          · rw [tailF_step fo text _ he hdr] at h ⊢
            exact andThen_mono (ihP _) (fun _ _ _ h => h) h
    · intro acc ts r h
      cases ts with
      | nil => rw [vectorF] at h ⊢; exact h
      | cons t ts =>
        by_cases hr : t.ty = .rightParen
        · rw [vectorF] at h ⊢; simp only [hr, if_true] at h ⊢; exact h
        · by_cases hd : t.ty = .dot
          · rw [vectorF] at h ⊢; simp only [hd, if_true, reduceCtorEq, if_false] at h ⊢; exact h
          · rw [vectorF_step fo text _ acc hr hd] at h ⊢
            exact andThen_mono (ihP _) (fun _ => ihV _) h

theorem parseF_mono (fo : FloatOps) (text : Text) {f f' : Nat} {ts : List Token}
    {r : PRes (Datum × List Token)} (hle : f ≤ f') (h : parseF fo text f ts = some r) :
    parseF fo text f' ts = some r :=
  mono_of_succ (fun f r => (fuel_succ fo text f).1 ts r) hle h

theorem parseF_rest_lt (fo : FloatOps) (text : Text) {f : Nat} {ts rest : List Token} {d : Datum}
    (h : parseF fo text f ts = some (.ok (d, rest))) : rest.length < ts.length := by
  obtain ⟨pre, hne, hts, _, _⟩ := (consumes_all fo text f).1 _ _ _ h
  rw [hts]
  cases pre with
  | nil => exact absurd rfl hne
  | cons x xs => simp; omega

/-- Two units per token: a loop at `f + 1` hands the whole list to `parseF f`, which spends a second
on its head; an element leaves fewer tokens (`parseF_rest_lt`), so the loop goes on at the same `f`. -/
theorem fuel_enough (fo : FloatOps) (text : Text) : ∀ f : Nat,
    (∀ ts, 2 * ts.length + 1 ≤ f → parseF fo text f ts ≠ none) ∧
    (∀ start acc ts, 2 * ts.length + 2 ≤ f → listF fo text f start acc ts ≠ none) ∧
    (∀ acc ts, 2 * ts.length + 2 ≤ f → tailF fo text f acc ts ≠ none) ∧
    (∀ acc ts, 2 * ts.length + 2 ≤ f → vectorF fo text f acc ts ≠ none) := by
  intro f
  induction f with
  | zero => refine ⟨?_, ?_, ?_, ?_⟩ <;> intros <;> omega
  | succ f ih =>
    obtain ⟨ihP, ihL, ihT, ihV⟩ := ih
    refine ⟨?_, ?_, ?_, ?_⟩
    · intro ts hf
      cases ts with
      | nil => simp [parseF]
      | cons t ts =>
        rw [parseF]
        simp only [List.length_cons] at hf
        cases hk : tokKind t.ty with
        | wrap name =>
          simp only
          have := ihP ts (by omega)
          cases hp : parseF fo text f ts with
          | none => exact absurd hp this
          | some r => cases r <;> simp [wrapRes]
        | list => simp only; exact ihL _ _ _ (by omega)
        | vector => simp only; exact ihV _ _ (by omega)
        | atom => simp
    · intro start acc ts hf
      cases ts with
      | nil => simp [listF]
      | cons t ts =>
        simp only [List.length_cons] at hf
        by_cases hr : t.ty = .rightParen
        · simp [listF, hr]
        · by_cases hd : t.ty = .dot
          · rw [listF]
            simp only [hd, if_true, reduceCtorEq, if_false]; exact ihT _ _ (by omega)
          · rw [listF_step fo text _ start acc hr hd]
            refine andThen_ne_none (ihP _ (by simp only [List.length_cons]; omega)) fun d1 rest1 h1 => ?_
            have hlt := parseF_rest_lt fo text h1
            simp only [List.length_cons] at hlt
            exact ihL _ _ _ (by omega)
    · intro acc ts hf
      cases ts with
      | nil => rw [tailF]; split <;> simp
      | cons t ts =>
        simp only [List.length_cons] at hf
        by_cases he : acc.isEmpty = true
        · simp [tailF, he]
        · by_cases hdr : t.ty = .dot ∨ t.ty = .rightParen
          · simp [tailF, he, hdr]
          · rw [tailF_step fo text _ he hdr]
            refine andThen_ne_none (ihP _ (by simp only [List.length_cons]; omega)) fun d1 rest1 _ => ?_
            unfold closeTail
            repeat' split
            all_goals simp
    · intro acc ts hf
      cases ts with
      | nil => simp [vectorF]
      | cons t ts =>
        simp only [List.length_cons] at hf
        by_cases hr : t.ty = .rightParen
        · simp [vectorF, hr]
        · by_cases hd : t.ty = .dot
          · simp [vectorF, hd]
          · rw [vectorF_step fo text _ acc hr hd]
            refine andThen_ne_none (ihP _ (by simp only [List.length_cons]; omega)) fun d1 rest1 h1 => ?_
            have hlt := parseF_rest_lt fo text h1
            simp only [List.length_cons] at hlt
            exact ihV _ _ (by omega)

theorem parseTokens_of_fuel (fo : FloatOps) (text : Text) {f : Nat} {ts : List Token}
    {r : PRes (Datum × List Token)} (h : parseF fo text f ts = some r) :
    parseTokens fo text ts = r := by
  unfold parseTokens
  have htot := (fuel_enough fo text (parseFuel ts)).1 ts (by unfold parseFuel; omega)
  cases hp : parseF fo text (parseFuel ts) ts with
  | none => exact absurd hp htot
  | some r' =>
    simp only
    have h1 := parseF_mono fo text (Nat.le_max_left f (parseFuel ts)) h
    have h2 := parseF_mono fo text (Nat.le_max_right f (parseFuel ts)) hp
    rw [h1] at h2
    exact (Option.some.inj h2).symm

theorem parseTokens_fuel (fo : FloatOps) (text : Text) (ts : List Token) :
    parseF fo text (parseFuel ts) ts = some (parseTokens fo text ts) := by
  have htot := (fuel_enough fo text (parseFuel ts)).1 ts (by unfold parseFuel; omega)
  cases hp : parseF fo text (parseFuel ts) ts with
  | none => exact absurd hp htot
  | some r' => rw [parseTokens_of_fuel fo text hp]

/-- T11.3 and T11.5 in one statement -/
theorem parseTokens_consumes (fo : FloatOps) {text : Text} {ts rest : List Token} {d : Datum}
    (h : parseTokens fo text ts = .ok (d, rest)) :
    Consumes (fun ts => some (parseTokens fo text ts)) ts d rest := by
  have hf := parseTokens_fuel fo text ts
  rw [h] at hf
  obtain ⟨pre, hne, hts, hall, hpre⟩ := (consumes_all fo text _).1 _ _ _ hf
  exact ⟨pre, hne, hts, fun r' => congrArg some (parseTokens_of_fuel fo text (hall r')),
    fun p q hp hq => congrArg some (parseTokens_of_fuel fo text (hpre p q hp hq))⟩

namespace ParseText

theorem parseText_lexErr (fo : FloatOps) {text : Text} {e : LexErr} (h : scan text = .error e) :
    parseText fo text = .err (.lex e) := by
  simp [parseText, h]

theorem parseText_err (fo : FloatOps) {text : Text} {ts : List Token} {e : ParseErr}
    (hs : scan text = .ok ts) (hp : parseTokens fo text ts = .err e) :
    parseText fo text = .err e := by
  simp [parseText, hs, hp]

theorem parseText_panic (fo : FloatOps) {text : Text} {ts : List Token} {m : String}
    (hs : scan text = .ok ts) (hp : parseTokens fo text ts = .panic m) :
    parseText fo text = .panic m := by
  simp [parseText, hs, hp]

theorem parseText_last (fo : FloatOps) {text : Text} {ts : List Token} {d : Datum}
    (hs : scan text = .ok ts) (hp : parseTokens fo text ts = .ok (d, [])) :
    parseText fo text = .ok (d, none) := by
  simp [parseText, hs, hp]

end ParseText

end Marwood
