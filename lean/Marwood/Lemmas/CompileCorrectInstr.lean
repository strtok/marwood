import Marwood.Lemmas.CompileCorrectStack
import Marwood.Lemmas.StepEff
/-!
# T01.3 stage 1 — single instructions of the fragment's code: the cases of `Vm.StepEff` on given cells
-/
namespace Marwood.Lemmas.CompileCorrect
open Marwood Marwood.Vm

variable {H : Type} {ops : HeapOps H}

theorem readOpcode_eq {s : MSt H} {op : Op} (hl : ops.isLambda s.heap s.ipL = true)
    (h0 : ops.fetch s.heap s.ipL s.ipO = some (.opcode op)) :
    readOpcode ops s = .ok (op, { s with ipO := s.ipO + 1 }) := by
  simp [readOpcode, hl, h0]

theorem step_movImm_acc {s : MSt H} {v : VCell} (hl : ops.isLambda s.heap s.ipL = true)
    (h0 : ops.fetch s.heap s.ipL s.ipO = some (.opcode .movImm))
    (h1 : ops.fetch s.heap s.ipL (s.ipO + 1) = some v) (hv : ∀ o, v ≠ .opcode o)
    (h2 : ops.fetch s.heap s.ipL (s.ipO + 2) = some .acc) :
    step ops s = .ok ({ s with acc := v, ipO := s.ipO + 3 }, false) :=
  StepEff.run (readOpcode_eq hl h0) (.movImm h1 hv h2 .acc)

theorem step_mov_glob_acc {s : MSt H} {n : Nat} (hl : ops.isLambda s.heap s.ipL = true)
    (h0 : ops.fetch s.heap s.ipL s.ipO = some (.opcode .mov))
    (h1 : ops.fetch s.heap s.ipL (s.ipO + 1) = some (.globSlot n))
    (hb : ops.globGet s.heap n ≠ .undefined)
    (h2 : ops.fetch s.heap s.ipL (s.ipO + 2) = some .acc) :
    step ops s = .ok ({ s with acc := ops.globGet s.heap n, ipO := s.ipO + 3 }, false) :=
  StepEff.run (readOpcode_eq hl h0) (.mov h1 (.glob n hb) h2 .acc)

theorem step_mov_acc_glob {s : MSt H} {n : Nat} (hl : ops.isLambda s.heap s.ipL = true)
    (h0 : ops.fetch s.heap s.ipL s.ipO = some (.opcode .mov))
    (h1 : ops.fetch s.heap s.ipL (s.ipO + 1) = some .acc)
    (h2 : ops.fetch s.heap s.ipL (s.ipO + 2) = some (.globSlot n)) :
    step ops s = .ok ({ s with heap := ops.globPut s.heap n s.acc, ipO := s.ipO + 3 }, false) :=
  StepEff.run (readOpcode_eq hl h0) (.mov h1 .acc h2 (.glob n))

theorem step_pushAcc {s : MSt H} (hl : ops.isLambda s.heap s.ipL = true)
    (h0 : ops.fetch s.heap s.ipL s.ipO = some (.opcode .pushAcc)) :
    step ops s = .ok ({ s with stack := s.stack.push s.acc, ipO := s.ipO + 1 }, false) :=
  StepEff.run (readOpcode_eq hl h0) .pushAcc

theorem step_pushImm {s : MSt H} {v : VCell} (hl : ops.isLambda s.heap s.ipL = true)
    (h0 : ops.fetch s.heap s.ipL s.ipO = some (.opcode .pushImm))
    (h1 : ops.fetch s.heap s.ipL (s.ipO + 1) = some v) (hv : ∀ o, v ≠ .opcode o) :
    step ops s = .ok ({ s with stack := s.stack.push v, ipO := s.ipO + 2 }, false) :=
  StepEff.run (readOpcode_eq hl h0) (.pushImm h1 hv)

theorem step_jmp {s : MSt H} {o : Nat} (hl : ops.isLambda s.heap s.ipL = true)
    (h0 : ops.fetch s.heap s.ipL s.ipO = some (.opcode .jmp))
    (h1 : ops.fetch s.heap s.ipL (s.ipO + 1) = some (.ptr o)) :
    step ops s = .ok ({ s with ipO := o }, false) :=
  StepEff.run (readOpcode_eq hl h0) (.jmp h1)

theorem step_jnt_false {s : MSt H} {o : Nat} (hl : ops.isLambda s.heap s.ipL = true)
    (h0 : ops.fetch s.heap s.ipL s.ipO = some (.opcode .jnt))
    (h1 : ops.fetch s.heap s.ipL (s.ipO + 1) = some (.ptr o))
    (hf : ops.deref s.heap s.acc = .bool false) :
    step ops s = .ok ({ s with ipO := o }, false) :=
  StepEff.run (readOpcode_eq hl h0) (.jntTaken h1 hf)

theorem step_jnt_true {s : MSt H} {o : Nat} (hl : ops.isLambda s.heap s.ipL = true)
    (h0 : ops.fetch s.heap s.ipL s.ipO = some (.opcode .jnt))
    (h1 : ops.fetch s.heap s.ipL (s.ipO + 1) = some (.ptr o))
    (hf : ops.deref s.heap s.acc ≠ .bool false) :
    step ops s = .ok ({ s with ipO := s.ipO + 2 }, false) :=
  StepEff.run (readOpcode_eq hl h0) (.jntFall h1 hf)

theorem step_call {s : MSt H} (hl : ops.isLambda s.heap s.ipL = true)
    (h0 : ops.fetch s.heap s.ipL s.ipO = some (.opcode .callAcc)) :
    step ops s = (do let s ← stepCall ops { s with ipO := s.ipO + 1 }; .ok (s, false)) := by
  rw [step_read (readOpcode_eq hl h0), execOp]

theorem step_tcall {s : MSt H} (hl : ops.isLambda s.heap s.ipL = true)
    (h0 : ops.fetch s.heap s.ipL s.ipO = some (.opcode .tcallAcc)) :
    step ops s = (do let s ← stepTCall ops { s with ipO := s.ipO + 1 }; .ok (s, false)) := by
  rw [step_read (readOpcode_eq hl h0), execOp]

theorem stepCall_builtin {s : MSt H} {id : Nat} (hc : ops.callee s.heap s.acc = .builtin id) :
    stepCall ops s = runBuiltin ops id s := by
  unfold stepCall; rw [hc]

theorem stepTCall_builtin {s : MSt H} {id : Nat} (hc : ops.callee s.heap s.acc = .builtin id) :
    stepTCall ops s = runBuiltin ops id s := by
  unfold stepTCall; rw [hc]

theorem stepCall_other {s : MSt H} (hc : ops.callee s.heap s.acc = .other) :
    stepCall ops s = .err .invalidProcedure := by
  unfold stepCall; rw [hc]

theorem stepTCall_other {s : MSt H} (hc : ops.callee s.heap s.acc = .other) :
    stepTCall ops s = .err .invalidProcedure := by
  unfold stepTCall; rw [hc]

theorem runBuiltin_generic {s : MSt H} {id : Nat} {st0 : Stack} {vs : List VCell} {h' : H} {r : VCell}
    (hk : ops.builtinKind s.heap id = .generic)
    (hst : LiveEq ((pushAll st0 vs).push (.argc vs.length)) s.stack) (hw0 : SWF st0) (hw : SWF s.stack)
    (hr : builtinResult ops s.heap id vs.reverse = .ok (h', r)) :
    ∃ st', runBuiltin ops id s = .ok { s with heap := h', stack := st', acc := r } ∧
      LiveEq st0 st' ∧ SWF st' := by
  obtain ⟨hpop, hl1⟩ := pop_of_push hst (pushAll_swf st0 vs hw0)
  obtain ⟨st', hpn, hl2, hw2⟩ := popN_pushAll vs hl1 hw0 (pop_swf hw)
  refine ⟨st', ?_, hl2, hw2⟩
  unfold runBuiltin
  simp only [hk, builtinGeneric, hpop, outcome_bind_ok, asArgc, hpn]
  unfold builtinResult at hr
  cases hb : ops.builtinEval s.heap id vs.reverse with
  | err e => rw [hb] at hr; cases hr
  | panic m => rw [hb] at hr; cases hr
  | ok p =>
    obtain ⟨h1, v⟩ := p
    rw [hb] at hr
    simp only [outcome_bind_ok]
    cases v <;> simp only at hr ⊢ <;>
      first
      | (cases hr; rfl)
      | (injection hr with hr
         exact congrArg (fun p : H × VCell => Outcome.ok { s with heap := p.1, stack := st', acc := p.2 }) hr)

theorem step_call_builtin {s : MSt H} {tail : Bool} {id : Nat} {st0 : Stack} {vs : List VCell} {h' : H} {r : VCell}
    (hl : ops.isLambda s.heap s.ipL = true)
    (h0 : ops.fetch s.heap s.ipL s.ipO = some (.opcode (if tail = true then .tcallAcc else .callAcc)))
    (hc : ops.callee s.heap s.acc = .builtin id)
    (hk : ops.builtinKind s.heap id = .generic)
    (hst : LiveEq ((pushAll st0 vs).push (.argc vs.length)) s.stack) (hw0 : SWF st0) (hw : SWF s.stack)
    (hr : builtinResult ops s.heap id vs.reverse = .ok (h', r)) :
    ∃ st', step ops s = .ok ({ s with heap := h', stack := st', acc := r, ipO := s.ipO + 1 }, false) ∧
      LiveEq st0 st' ∧ SWF st' := by
  obtain ⟨st', hrb, hl2, hw2⟩ := runBuiltin_generic (s := { s with ipO := s.ipO + 1 }) hk hst hw0 hw hr
  refine ⟨st', ?_, hl2, hw2⟩
  cases tail
  · exact StepEff.run (readOpcode_eq hl h0) (.callBuiltin hc hrb)
  · exact StepEff.run (readOpcode_eq hl h0) (.tcallBuiltin hc hrb)

end Marwood.Lemmas.CompileCorrect
