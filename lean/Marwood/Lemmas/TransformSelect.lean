import Marwood.Lemmas.TransformEllMatch
/-!
# Rule selection: `transform` expands with the first rule R7RS matches (all pattern classes)
-/
namespace Marwood.Transform
open Marwood Marwood.Spec.Match

/-- `(keyword . body)` with `body` well-formed (`okS`) and not starting with the ellipsis -/
def wfPattern (es : Text) : Datum → Bool
  | .pair _ body => okS es true body && (match body with | .pair q _ => decide (q ≠ .sym es) | _ => true)
  | _ => false

theorem wfPattern_body (s : Setup) {kw body : Datum} (h : wfPattern s.es (.pair kw body) = true) :
    okS s.es true body = true ∧ headNotEll s.ctx body = true := by
  simp only [wfPattern, Bool.and_eq_true] at h
  refine ⟨h.1, ?_⟩
  cases body with
  | pair q R => simp [headNotEll, s.isEllD_eq, Setup.ell, of_decide_eq_true h.2]
  | _ => rfl

/-- rule `i` is the one R7RS selects, up to the excluded class: it matches, and every earlier rule
    either does not match or meets `zeroRepTail` -/
def Selects (c : Ctx) (rules : List Rule) (u : Datum) : Prop :=
  ∃ i r, rules[i]? = some r ∧ (matchRule c r u).isSome = true ∧
    ∀ j : Nat, j < i → ∀ r', rules[j]? = some r' →
      matchRule c r' u = none ∨ zeroRepTailRule c r' u = true

theorem Selects.shift {c : Ctx} {r0 : Rule} {rules : List Rule} {u : Datum}
    (h0 : matchRule c r0 u = none ∨ zeroRepTailRule c r0 u = true) (h : Selects c rules u) :
    Selects c (r0 :: rules) u := by
  obtain ⟨i, r, hi, hm, hprev⟩ := h
  refine ⟨i + 1, r, by simpa using hi, hm, ?_⟩
  intro j hj r' hr'
  cases j with
  | zero => simp at hr'; subst hr'; exact h0
  | succ j => exact hprev j (by omega) r' (by simpa using hr')

theorem transformRules_selects (s : Setup) (f : Nat) (t : Transform) (u : Datum)
    (hte : t.ellipsis = s.ell) (htl : t.literals = s.lits) :
    ∀ (rules : List (Pattern × Datum)) (e : Datum),
      (∀ r ∈ rules, wfPattern s.es r.1.expr = true) →
      transformRules f t u rules = .ok e →
      Selects s.ctx (rules.map fun r => ⟨r.1.expr, r.2⟩) u := by
  intro rules
  induction rules with
  | nil => intro e _ h; simp [transformRules] at h
  | cons r rules ih =>
    intro e hr h
    obtain ⟨pat, tmpl⟩ := r
    have hwf := hr (pat, tmpl) (by simp)
    simp only at hwf
    cases hpe : pat.expr with
    | pair kw body =>
      rw [hpe] at hwf
      obtain ⟨hbody, hhd⟩ := wfPattern_body s hwf
      unfold transformRules at h
      simp only [hpe, cdrE] at h
      cases u with
      | pair ukw urest =>
        simp only [cdrE] at h
        rw [hte, htl] at h
        have hmr : matchRule s.ctx ⟨pat.expr, tmpl⟩ (.pair ukw urest) = specMatch s.ctx body urest := by
          simp [matchRule, hpe]
        have hgr : zeroRepTailRule s.ctx ⟨pat.expr, tmpl⟩ (.pair ukw urest) = zeroRepTail s.ctx body urest := by
          simp [zeroRepTailRule, hpe]
        cases hm : patternMatch s.ell s.lits f body urest [] with
        | ok r1 =>
          obtain ⟨b, B⟩ := r1
          have hv := ((match_run_aux s f).1 body urest [] (b, B) hbody hhd hm).1
          rw [hm] at h
          cases b with
          | true =>
            refine ⟨0, ⟨pat.expr, tmpl⟩, by simp, ?_, by intro j hj; omega⟩
            rw [hmr]; exact hv.1 rfl
          | false =>
            simp only at h
            have := ih e (fun r hr' => hr r (List.mem_cons_of_mem _ hr')) h
            simp only [List.map_cons]
            refine Selects.shift ?_ this
            rw [hmr, hgr]
            rcases hv.2 rfl with h2 | h2
            · left; simpa [sm] using h2
            · right; exact h2
        | err x => rw [hm] at h; cases h
        | panic m => rw [hm] at h; cases h
        | fuel => rw [hm] at h; cases h
      | _ => simp [cdrE] at h
    | _ => rw [hpe] at hwf; simp [wfPattern] at hwf

end Marwood.Transform
