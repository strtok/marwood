import Marwood.Lemmas.StackStepEff
/-!
# `step` consults `callee` only at `(heap, acc)` of the current state

`HeapOps.withCallee ops c` replaces the `callee` field. `step_wc`: if `c` agrees with `ops.callee` on the heap and
accumulator of `s`, one instruction from `s` is the same under both; `step_wc_site` asks for the agreement only when
the instruction is CALL / TCALL / ENTER. Used to relate `concreteOps ext` to its callee-guarded version `gops ext`.
-/
namespace Marwood.Vm
variable {H : Type}

def HeapOps.withCallee (ops : HeapOps H) (c : H → VCell → Callee) : HeapOps H := { ops with callee := c }

theorem pushList_congr {ops ops' : HeapOps H} (hd : ops'.deref = ops.deref) (s : St H) :
    ∀ (fuel : Nat) (rest : VCell) (n : Nat) (st : Stack),
      builtinApply.pushList ops' s fuel rest n st = builtinApply.pushList ops s fuel rest n st := by
  intro fuel
  induction fuel with
  | zero => intro rest n st; rfl
  | succ f ih =>
    intro rest n st
    unfold builtinApply.pushList
    cases rest <;> first | rfl | (rw [hd]; exact ih _ _ _)

theorem builtinApply_congr {ops ops' : HeapOps H} (hd : ops'.deref = ops.deref) (s : St H) :
    builtinApply ops' s = builtinApply ops s := by
  unfold builtinApply
  simp only [pushList_congr hd, hd]

theorem varargCollect_congr {ops ops' : HeapOps H} (hp : ops'.put = ops.put) :
    ∀ (k : Nat) (h : H) (acc : Nat) (st : Stack), varargCollect ops' k h acc st = varargCollect ops k h acc st := by
  intro k
  induction k with
  | zero => intro h acc st; rfl
  | succ k ih =>
    intro h acc st
    unfold varargCollect
    simp only [ih, hp]

theorem stepVarArg_congr {ops ops' : HeapOps H} (hp : ops'.put = ops.put) (hl : ops'.lambdaInfo = ops.lambdaInfo)
    (s : St H) : stepVarArg ops' s = stepVarArg ops s := by
  unfold stepVarArg
  simp only [varargCollect_congr hp, hp, hl]

section replaced
/-! CALL and TCALL with `callee`, `globGet`, `envGet`, `vectorPush` replaced (the fields `withCallee` and
`HeapOps.withReads` replace between them): no builtin uses any of them. -/
variable (ops : HeapOps H) (c : H → VCell → Callee) (g : H → Nat → VCell) (e : H → Nat → Nat → Option VCell)
  (vp : H → VCell → VCell → Outcome H)

theorem runBuiltin_with (id : Nat) (s : St H) :
    runBuiltin { ops with callee := c, globGet := g, envGet := e, vectorPush := vp } id s = runBuiltin ops id s := by
  unfold runBuiltin
  rw [builtinApply_congr (ops := ops) (ops' := { ops with callee := c, globGet := g, envGet := e, vectorPush := vp }) rfl]
  rfl

theorem stepCall_with (s : St H) (h : c s.heap s.acc = ops.callee s.heap s.acc) :
    stepCall { ops with callee := c, globGet := g, envGet := e, vectorPush := vp } s = stepCall ops s := by
  unfold stepCall
  dsimp only
  rw [h]
  simp only [runBuiltin_with]

theorem stepTCall_with (s : St H) (h : c s.heap s.acc = ops.callee s.heap s.acc) :
    stepTCall { ops with callee := c, globGet := g, envGet := e, vectorPush := vp } s = stepTCall ops s := by
  unfold stepTCall
  dsimp only
  rw [h]
  simp only [runBuiltin_with]

end replaced

theorem stepCall_wc (ops : HeapOps H) (c : H → VCell → Callee) (s : St H)
    (h : c s.heap s.acc = ops.callee s.heap s.acc) : stepCall (ops.withCallee c) s = stepCall ops s :=
  stepCall_with ops c _ _ _ s h

theorem stepTCall_wc (ops : HeapOps H) (c : H → VCell → Callee) (s : St H)
    (h : c s.heap s.acc = ops.callee s.heap s.acc) : stepTCall (ops.withCallee c) s = stepTCall ops s :=
  stepTCall_with ops c _ _ _ s h

theorem stepEnter_wc (ops : HeapOps H) (c : H → VCell → Callee) (s : St H)
    (h : c s.heap s.acc = ops.callee s.heap s.acc) : stepEnter (ops.withCallee c) s = stepEnter ops s := by
  unfold stepEnter
  have e : (ops.withCallee c).callee s.heap s.acc = ops.callee s.heap s.acc := h
  rw [e]
  rfl

theorem stepVarArg_wc (ops : HeapOps H) (c : H → VCell → Callee) (s : St H) :
    stepVarArg (ops.withCallee c) s = stepVarArg ops s := stepVarArg_congr (ops := ops) (ops' := ops.withCallee c) rfl rfl s

theorem bind_congr_ok {α β : Type} {x : Outcome α} {f g : α → Outcome β} (h : ∀ a, x = .ok a → f a = g a) :
    (x >>= f) = (x >>= g) := by
  cases x with
  | ok a => exact h a rfl
  | err e => rfl
  | panic m => rfl

theorem step_wc_site (ops : HeapOps H) (c : H → VCell → Callee) (s : St H)
    (h : ∀ op s1, readOpcode ops s = .ok (op, s1) → (op = .callAcc ∨ op = .tcallAcc ∨ op = .enter) →
      c s.heap s.acc = ops.callee s.heap s.acc) : step (ops.withCallee c) s = step ops s := by
  unfold step
  refine bind_congr_ok (x := readOpcode ops s) ?_
  rintro ⟨op, s1⟩ hro
  have h1 : (op = .callAcc ∨ op = .tcallAcc ∨ op = .enter) → c s1.heap s1.acc = ops.callee s1.heap s1.acc := by
    intro hop
    rw [(readOpcode_ok hro).2]
    exact h op s1 hro hop
  cases op
  case callAcc => exact congrArg (· >>= _) (stepCall_wc ops c s1 (h1 (.inl rfl)))
  case tcallAcc => exact congrArg (· >>= _) (stepTCall_wc ops c s1 (h1 (.inr (.inl rfl))))
  case enter => exact congrArg (· >>= _) (stepEnter_wc ops c s1 (h1 (.inr (.inr rfl))))
  case varArg => exact congrArg (· >>= _) (stepVarArg_wc ops c s1)
  all_goals rfl

/-- **`step` consults `callee` only at `(heap, acc)` of the current state** -/
theorem step_wc (ops : HeapOps H) (c : H → VCell → Callee) (s : St H)
    (h : c s.heap s.acc = ops.callee s.heap s.acc) : step (ops.withCallee c) s = step ops s :=
  step_wc_site ops c s fun _ _ _ _ => h

end Marwood.Vm
