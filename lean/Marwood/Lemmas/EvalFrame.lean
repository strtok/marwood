import Marwood.Spec.Eval
/-!
# T01.1 — the frame (independence) property of `Spec.Eval`: definitions

Fix a name `x`. Two states are similar (`Sim`) when they have the same store and output log and their global
tables agree off `x`. A state is clean (`Inv`) when no value in it, other than the one bound to the global `x`,
mentions `x`: no symbol `x`, no closure whose BODY contains the symbol anywhere, quoted data included (`eval`
could turn it into a reference). A closure's environment is not constrained: a lexical `x` that the body never
names is never looked up. `Resp x m P`: from similar states, the first clean, `m` ends in similar states, clean
again, with equal results satisfying `P`. `RecOK x r`: the sub-evaluator `r` respects the frame (`EvalFrameMain`:
`recOK_evalN`, `recOK_guardN`); before it, what "does not mention `x`" gives of the syntactic helpers: sub-forms, parsed
bindings, externalised lists. The proof (`EvalFrameMain`) is an instance of the simulation of `EvalExtra*`. At the end,
small facts that the well-formedness proof (`EvalWF*`) uses too.
-/
namespace Marwood.Spec.Eval
open Marwood

def mentions (x : Text) : Datum → Bool
  | .sym s => s == x
  | .pair a d => mentions x a || mentions x d
  | .vec e => mentions x e
  | _ => false

def Clean (x : Text) (d : Datum) : Prop := mentions x d = false

def CleanVal (x : Text) : Val → Prop
  | .sym s => s ≠ x
  | .closure _ _ body _ => ∀ d ∈ body, Clean x d
  | _ => True

def CleanCell (x : Text) : Cell → Prop
  | .var v => CleanVal x v
  | .pair a d => CleanVal x a ∧ CleanVal x d
  | .vec xs => ∀ v ∈ xs, CleanVal x v
  | .promise _ v => CleanVal x v

def CleanStore (x : Text) (s : Array Cell) : Prop := ∀ (i : Nat) (c : Cell), s[i]? = some c → CleanCell x c

structure Inv (x : Text) (st : St) : Prop where
  store : CleanStore x st.store
  globals : ∀ y v, y ≠ x → st.globals.lookup y = some v → CleanVal x v

structure Sim (x : Text) (st st' : St) : Prop where
  store : st'.store = st.store
  out : st'.out = st.out
  globals : ∀ y, y ≠ x → st'.globals.lookup y = st.globals.lookup y

def Rel (x : Text) (st st' : St) : Prop := Inv x st ∧ Sim x st st'

def RRes {α : Type} (x : Text) (P : α → Prop) : Res α → Res α → Prop
  | .ok a s, .ok a' s' => a = a' ∧ P a ∧ Rel x s s'
  | .err e s, .err e' s' => e = e' ∧ Rel x s s'
  | .timeout, .timeout => True
  | _, _ => False

def Resp {α : Type} (x : Text) (m : M α) (P : α → Prop) : Prop :=
  ∀ st st', Rel x st st' → RRes x P (m st) (m st')

variable {x : Text} {α β : Type}

theorem Resp.pure {P : α → Prop} (a : α) (h : P a) : Resp x (pure a : M α) P := by
  intro st st' r; exact ⟨rfl, h, r⟩

theorem Resp.throw {P : α → Prop} (e : ErrClass) : Resp x (throw e : M α) P := by
  intro st st' r; exact ⟨rfl, r⟩

theorem Resp.timeout {P : α → Prop} : Resp x (timeoutM : M α) P := by
  intro st st' _; trivial

theorem Resp.bind {P : α → Prop} {Q : β → Prop} {m : M α} {f : α → M β}
    (hm : Resp x m P) (hf : ∀ a, P a → Resp x (f a) Q) : Resp x (m >>= f) Q := by
  intro st st' r
  have h := hm st st' r
  show RRes x Q (M.bind' m f st) (M.bind' m f st')
  unfold M.bind'
  cases h1 : m st with
  | ok a s =>
    cases h2 : m st' with
    | ok a' s' =>
      simp only [h1, h2, RRes] at h
      obtain ⟨rfl, pa, rr⟩ := h
      exact hf a pa s s' rr
    | err e s' => simp [h1, h2, RRes] at h
    | timeout => simp [h1, h2, RRes] at h
  | err e s =>
    cases h2 : m st' with
    | ok a' s' => simp [h1, h2, RRes] at h
    | err e' s' => simpa [h1, h2, RRes] using h
    | timeout => simp [h1, h2, RRes] at h
  | timeout =>
    cases h2 : m st' with
    | ok a' s' => simp [h1, h2, RRes] at h
    | err e' s' => simp [h1, h2, RRes] at h
    | timeout => trivial

theorem Resp.mono {P Q : α → Prop} {m : M α} (hm : Resp x m P) (h : ∀ a, P a → Q a) : Resp x m Q := by
  intro st st' r
  have := hm st st' r
  cases h1 : m st <;> cases h2 : m st' <;> simp_all [RRes]
  obtain ⟨rfl, pa, _⟩ := this
  exact h _ pa

theorem Resp.map_unit {P : α → Prop} {m : M α} (hm : Resp x m P) : Resp x m (fun _ => True) :=
  hm.mono (fun _ _ => trivial)

@[simp] theorem clean_pair (a d : Datum) : Clean x (.pair a d) ↔ Clean x a ∧ Clean x d := by
  simp [Clean, mentions]

@[simp] theorem clean_vec (e : Datum) : Clean x (.vec e) ↔ Clean x e := by
  simp [Clean, mentions]

@[simp] theorem clean_sym (s : Text) : Clean x (.sym s) ↔ s ≠ x := by
  simp [Clean, mentions]

theorem clean_properList (d : Datum) : ∀ (es : List Datum), properList d = some es → Clean x d →
    ∀ e ∈ es, Clean x e := by
  fun_induction properList d with
  | case1 => intro es h _; cases h; simp
  | case2 a d ih =>
    intro es h hc
    simp only [Option.map_eq_some_iff] at h
    obtain ⟨es', h', rfl⟩ := h
    simp only [clean_pair] at hc
    intro e he
    simp only [List.mem_cons] at he
    rcases he with rfl | he
    · exact hc.1
    · exact ih es' h' hc.2 e he
  | case3 => intro es h; cases h

theorem clean_parseBindings (d : Datum) : ∀ (bs : List (Text × Datum)), parseBindings d = some bs →
    Clean x d → ∀ b ∈ bs, b.1 ≠ x ∧ Clean x b.2 := by
  fun_induction parseBindings d with
  | case1 => intro bs h _; cases h; simp
  | case2 y e rest hres => intro bs h; cases h
  | case3 y e rest hres ih =>
    intro bs h hc
    simp only [Option.map_eq_some_iff] at h
    obtain ⟨bs', h', rfl⟩ := h
    simp only [clean_pair, clean_sym] at hc
    intro b hb
    simp only [List.mem_cons] at hb
    rcases hb with rfl | hb
    · exact ⟨hc.1.1, hc.1.2.1⟩
    · exact ih bs' h' hc.2 b hb
  | case4 => intro bs h; cases h

structure RecOK (x : Text) (r : Rec) : Prop where
  eval : ∀ e ρ, Clean x e → Resp x (r.eval e ρ) (CleanVal x)
  apply : ∀ f args, CleanVal x f → (∀ a ∈ args, CleanVal x a) → Resp x (r.apply f args) (CleanVal x)

def CleanVals (x : Text) (vs : List Val) : Prop := ∀ v ∈ vs, CleanVal x v
def CleanData (x : Text) (ds : List Datum) : Prop := ∀ d ∈ ds, Clean x d

@[simp] theorem cleanVals_nil : CleanVals x [] := by simp [CleanVals]
@[simp] theorem cleanVals_cons (v : Val) (vs : List Val) :
    CleanVals x (v :: vs) ↔ CleanVal x v ∧ CleanVals x vs := by simp [CleanVals]
@[simp] theorem cleanData_nil : CleanData x [] := by simp [CleanData]
@[simp] theorem cleanData_cons (d : Datum) (ds : List Datum) :
    CleanData x (d :: ds) ↔ Clean x d ∧ CleanData x ds := by simp [CleanData]

theorem clean_ofList : ∀ (ds : List Datum), (∀ d ∈ ds, Clean x d) → Clean x (Datum.ofList ds)
  | [], _ => by simp [Datum.ofList, Clean, mentions]
  | d :: ds, h => by
    simp only [Datum.ofList, clean_pair]
    exact ⟨h d (by simp), clean_ofList ds (fun d' hd' => h d' (by simp [hd']))⟩

theorem lookup_insertG (s : Text) (v : Val) (g : List (Text × Val)) (y : Text) :
    (insertG s v g).lookup y = if y == s then some v else g.lookup y := by
  induction g with
  | nil => by_cases hy : y == s <;> simp [insertG, List.lookup, hy]
  | cons kv r ih =>
    obtain ⟨k, w⟩ := kv
    by_cases hk : k == s
    · have hks : k = s := by simpa using hk
      subst hks
      by_cases hy : y == k <;> simp [insertG, List.lookup, hy]
    · by_cases hy : y == k
      · have hyk : y = k := by simpa using hy
        subst hyk
        simp [insertG, List.lookup, hk]
      · have hk' : (k == s) = false := by simpa using hk
        have hy' : (y == k) = false := by simpa using hy
        simp only [insertG, hk']
        rw [if_neg (by simp), List.lookup_cons, hy', List.lookup_cons, hy']
        simp [ih]

/-- whatever holds of all the arguments holds of all the rows of their transpose -/
theorem forall_mem_zipArgs (P : Val → Prop) : ∀ (fuel : Nat) (ls : List (List Val)),
    (∀ l ∈ ls, ∀ v ∈ l, P v) → ∀ a ∈ zipArgs fuel ls, ∀ v ∈ a, P v
  | 0, _, _ => by simp [zipArgs]
  | fuel+1, ls, h => by
    simp only [zipArgs]
    split
    · simp
    · rename_i hne
      intro a ha
      simp only [List.mem_cons] at ha
      rcases ha with rfl | ha
      · intro v hv
        simp only [List.mem_map] at hv
        obtain ⟨l, hl, rfl⟩ := hv
        cases l with
        | nil =>
          exfalso
          apply hne
          simp only [Bool.or_eq_true, List.any_eq_true]
          exact Or.inr ⟨[], hl, rfl⟩
        | cons w ws => exact h _ hl w (by simp)
      · refine forall_mem_zipArgs P fuel _ ?_ a ha
        intro l hl
        simp only [List.mem_map] at hl
        obtain ⟨l', hl', rfl⟩ := hl
        intro v hv
        exact h l' hl' v (List.mem_of_mem_tail hv)

/-- the measure of the quasiquote walk, which descends two levels at once -/
def dsz : Datum → Nat
  | .pair a d => dsz a + dsz d + 1
  | .vec e => dsz e + 1
  | _ => 1

theorem allocList_eq_tail : ∀ (vs : List Val), allocList vs = allocListTail vs .nil
  | [] => rfl
  | v :: vs => by simp only [allocList, allocListTail, allocList_eq_tail vs]

theorem lookup_initGlobals (y : Text) (v : Val) (h : initGlobals.lookup y = some v) : ∃ p, v = .prim p := by
  unfold initGlobals at h
  generalize primTable = t at h
  induction t with
  | nil => simp at h
  | cons kv t ih =>
    obtain ⟨k, p⟩ := kv
    simp only [List.map_cons, List.lookup_cons] at h
    split at h
    · exact ⟨p, by cases h; rfl⟩
    · exact ih h

end Marwood.Spec.Eval
