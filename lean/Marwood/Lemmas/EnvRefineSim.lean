import Marwood.Lemmas.EnvRefineRel
/-!
# T02.4, part 5: the model evaluator simulates the specification interpreter

`Post β t Q out out'`: the outcomes of the same step on the two sides, started in `β`-related states, agree: same kind
of error or `Q`-related results, and final states related by a later `β'`. If the specification stopped with `unbound`
or `fuel`, nothing is claimed (see `Proofs/C02.lean`).

`Sims f`: for specification fuel `f` and every model fuel `g ≥ 2 f` (a `begin` costs the model two levels: the call of
the parameterless lambda) the seven mutually recursive functions of the two evaluators are related by `Post`.
-/
namespace Marwood.Vm.EnvRefine
open Marwood Marwood.Scope Marwood.Vm.Env Marwood.Spec.Scope

def errMap : SErr → MErr
  | .unbound => .unbound | .arity => .arity | .notProcedure => .notProcedure
  | .type => .type | .fuel => .fuel

def Post {α α' : Type} (β : LocMap) (t : MSt) (Q : LocMap → Envs MVal → α → α' → Prop)
    (out : Except SErr α × SSt) (out' : Except MErr α' × MSt) : Prop :=
  match out.1 with
  | .error .unbound => True
  | .error .fuel => True
  | .error e => ∃ β', out'.1 = .error (errMap e) ∧ Ext β t.envs β' out'.2.envs ∧ StRel β' out.2 out'.2
  | .ok a => ∃ β' a', out'.1 = .ok a' ∧ Ext β t.envs β' out'.2.envs ∧ StRel β' out.2 out'.2 ∧
      Q β' out'.2.envs a a'

section post
variable {α α' γ γ' : Type} {β : LocMap} {t : MSt}

theorem Post.unbound {Q : LocMap → Envs MVal → α → α' → Prop} {s' : SSt} {out'} :
    Post β t Q (.error .unbound, s') out' := trivial

theorem Post.fuel {Q : LocMap → Envs MVal → α → α' → Prop} {s' : SSt} {out'} :
    Post β t Q (.error .fuel, s') out' := trivial

theorem Post.ok {Q : LocMap → Envs MVal → α → α' → Prop} {a : α} {a' : α'} {s' : SSt} {t' : MSt} (β' : LocMap)
    (e : Ext β t.envs β' t'.envs) (r : StRel β' s' t') (q : Q β' t'.envs a a') :
    Post β t Q (.ok a, s') (.ok a', t') := ⟨β', a', rfl, e, r, q⟩

theorem Post.err {Q : LocMap → Envs MVal → α → α' → Prop} {er : SErr} {s' : SSt} {t' : MSt} (β' : LocMap)
    (e : Ext β t.envs β' t'.envs) (r : StRel β' s' t') :
    Post β t Q (.error er, s') (.error (errMap er), t') := by
  cases er <;> first | trivial | exact ⟨β', rfl, e, r⟩

theorem Post.weaken {Q : LocMap → Envs MVal → α → α' → Prop} {β0 : LocMap} {t0 : MSt} {out out'}
    (e0 : Ext β0 t0.envs β t.envs) (p : Post β t Q out out') : Post β0 t0 Q out out' := by
  obtain ⟨r, s'⟩ := out
  cases r with
  | error er =>
    cases er <;> first | trivial | (obtain ⟨β', h1, h2, h3⟩ := p; exact ⟨β', h1, e0.trans h2, h3⟩)
  | ok a =>
    obtain ⟨β', a', h1, h2, h3, h4⟩ := p
    exact ⟨β', a', h1, e0.trans h2, h3, h4⟩

theorem Post.mono {Q Q' : LocMap → Envs MVal → α → α' → Prop} {out out'}
    (p : Post β t Q out out') (hq : ∀ β' h' a a', Q β' h' a a' → Q' β' h' a a') : Post β t Q' out out' := by
  obtain ⟨r, s'⟩ := out
  cases r with
  | error er => cases er <;> exact p
  | ok a =>
    obtain ⟨β', a', h1, h2, h3, h4⟩ := p
    exact ⟨β', a', h1, h2, h3, hq _ _ _ _ h4⟩

/-- sequencing: the continuation is entered in a later world -/
theorem Post.bind {Q1 : LocMap → Envs MVal → α → α' → Prop} {Q2 : LocMap → Envs MVal → γ → γ' → Prop}
    {s : SSt} (m : X SErr SSt α) (k : α → X SErr SSt γ) (m' : X MErr MSt α') (k' : α' → X MErr MSt γ')
    (h1 : Post β t Q1 (exec m s) (exec m' t))
    (h2 : ∀ β1 s1 t1 a a', Ext β t.envs β1 t1.envs → StRel β1 s1 t1 → Q1 β1 t1.envs a a' →
      Post β1 t1 Q2 (exec (k a) s1) (exec (k' a') t1)) :
    Post β t Q2 (exec (m >>= k) s) (exec (m' >>= k') t) := by
  rw [exec_bind, exec_bind]
  rcases hm : exec m s with ⟨r, s1⟩
  rcases hm' : exec m' t with ⟨r', t1⟩
  rw [hm, hm'] at h1
  cases r with
  | error er =>
    cases er with
    | unbound => trivial
    | fuel => trivial
    | arity | notProcedure | type =>
      obtain ⟨β', e1, e2, e3⟩ := h1
      simp only at e1
      subst e1
      exact ⟨β', rfl, e2, e3⟩
  | ok a =>
    obtain ⟨β1, a', e1, e2, e3, e4⟩ := h1
    simp only at e1
    subst e1
    exact (h2 β1 s1 t1 a a' e2 e3 e4).weaken e2

end post

abbrev QV : LocMap → Envs MVal → SVal → MVal → Prop := fun β h v v' => VRel β h v v'
abbrev QL : LocMap → Envs MVal → List SVal → List MVal → Prop := fun β h vs vs' => Forall2 (VRel β h) vs vs'
abbrev QU : LocMap → Envs MVal → Unit → Unit → Prop := fun _ _ _ _ => True

theorem Forall2.mono' {β β' : LocMap} {h h' : Envs MVal} (e : Ext β h β' h') {vs : List SVal} {vs' : List MVal}
    (r : Forall2 (VRel β h) vs vs') : Forall2 (VRel β' h') vs vs' := by
  induction r with
  | nil => exact .nil
  | cons hv _ ih => exact .cons (hv.mono e) ih

/-- the seven simulation statements at specification fuel `f` -/
structure Sims (f : Nat) : Prop where
  eval : ∀ g, 2 * f ≤ g → ∀ (β : LocMap) (s : SSt) (t : MSt) (N : Name → Prop) (ctx : LamCtx) (ep : Option Nat)
    (ρ : Chain) (acts : List Nat) (e : Expr), StRel β s t → ActRel β t.envs N ctx ep ρ acts → (∀ x ∈ fv e, N x) →
    Post β t QV (exec (Spec.Scope.eval f ρ e) s) (exec (Vm.EnvRun.eval g ctx ep e) t)
  evalList : ∀ g, 2 * f ≤ g → ∀ (β : LocMap) (s : SSt) (t : MSt) (N : Name → Prop) (ctx : LamCtx) (ep : Option Nat)
    (ρ : Chain) (acts : List Nat) (es : Exprs), StRel β s t → ActRel β t.envs N ctx ep ρ acts →
    (∀ x ∈ fvList es, N x) →
    Post β t QL (exec (Spec.Scope.evalList f ρ es) s) (exec (Vm.EnvRun.evalList g ctx ep es) t)
  evalBody : ∀ g, 2 * f ≤ g → ∀ (β : LocMap) (s : SSt) (t : MSt) (N : Name → Prop) (ctx : LamCtx) (ep : Option Nat)
    (ρ : Chain) (acts : List Nat) (es : Exprs), StRel β s t → ActRel β t.envs N ctx ep ρ acts →
    (∀ x ∈ fvList es, N x) →
    Post β t QV (exec (Spec.Scope.evalBody f ρ es) s) (exec (Vm.EnvRun.evalBody g ctx ep es) t)
  evalDefs : ∀ g, 2 * f ≤ g → ∀ (β : LocMap) (s : SSt) (t : MSt) (N : Name → Prop) (ctx : LamCtx) (ep : Option Nat)
    (ρ : Chain) (acts : List Nat) (ds : Defs), StRel β s t → ActRel β t.envs N ctx ep ρ acts →
    (∀ x ∈ fvDefs ds, N x) → (∀ x ∈ ds.names, N x) →
    Post β t QU (exec (Spec.Scope.evalDefs f ρ ds) s) (exec (Vm.EnvRun.evalDefs g ctx ep ds) t)
  apply : ∀ g, 2 * f ≤ g → ∀ (β : LocMap) (s : SSt) (t : MSt) (fv : SVal) (fv' : MVal) (vs : List SVal)
    (vs' : List MVal), StRel β s t → VRel β t.envs fv fv' → Forall2 (VRel β t.envs) vs vs' →
    Post β t QV (exec (Spec.Scope.apply f fv vs) s) (exec (Vm.EnvRun.apply g fv' vs') t)
  loopGo : ∀ g, 2 * f ≤ g → ∀ (β : LocMap) (s : SSt) (t : MSt) (fv : SVal) (fv' : MVal) (n : Nat),
    StRel β s t → VRel β t.envs fv fv' →
    Post β t QV (exec (Spec.Scope.loopGo f fv n) s) (exec (Vm.EnvRun.loopGo g fv' n) t)
  eachGo : ∀ g, 2 * f ≤ g → ∀ (β : LocMap) (s : SSt) (t : MSt) (lv : SVal) (lv' : MVal) (vs : List SVal)
    (vs' : List MVal), StRel β s t → VRel β t.envs lv lv' → Forall2 (VRel β t.envs) vs vs' →
    Post β t QV (exec (Spec.Scope.eachGo f lv vs) s) (exec (Vm.EnvRun.eachGo g lv' vs') t)

theorem sims_zero : Sims 0 := by
  refine ⟨?_, ?_, ?_, ?_, ?_, ?_, ?_⟩ <;> intros
  · rw [Spec.Scope.eval]; exact Post.fuel
  · rw [Spec.Scope.evalList]; exact Post.fuel
  · rw [Spec.Scope.evalBody]; exact Post.fuel
  · rw [Spec.Scope.evalDefs]; exact Post.fuel
  · rw [Spec.Scope.apply]; exact Post.fuel
  · rw [Spec.Scope.loopGo]; exact Post.fuel
  · rw [Spec.Scope.eachGo]; exact Post.fuel

end Marwood.Vm.EnvRefine
