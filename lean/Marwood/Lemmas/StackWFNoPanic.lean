import Marwood.Lemmas.StackWFStep
import Marwood.Lemmas.StackWFToy
/-!
# `step` of a WF machine state does not panic, except at two named sites (T06.6)

Every `usub`, slice and `expect` of `step` (`run_one` of run.rs) is examined in a WF-stack state. The arithmetic sites
— `bp - n` of RET, `sp - 4` of ENTER, `bp - it`, `saved_sp - it - 1`, `bp - frame_argc` of TCALL, the slice of
`to_continuation` — are excluded by the invariant; `ip.1 -= 1` of `apply` / `eval` / `call/cc` by the opcode just read.
What the invariant cannot see is stated as `PanicLaws`. Two sites remain (`Residual`): the `split_at_mut` of
`restore_continuation` (needs the temporal fact that a continuation's snapshot is no longer than the current stack,
which only grows) and the model's own fuel guard in `apply`'s list walk (the Rust loop would not return).

The analysis of `step` is made once, `step_pinG`, under `PanicSites ops s R`: the heap-side facts at the arguments the
instruction at `s` hands the operation, and a bound `R` on those two sites. `step_pin` is its instance under
`PanicLaws`; `Lemmas/NoPanicLocal.lean` has the instance under state-local facts.

Suffixes: `_np` no panic at all; `_pin` panics confined to `Residual`; `_pinA` confined to `ApplyGuard`; a trailing `L`
under `PanicSites` at `s`, the state whose instruction is being executed; `_pinG` with the bound `R` a parameter.
-/
namespace Marwood.Vm
open Verify Stack

variable {H : Type} {ops : HeapOps H}

def Outcome.PanicsIn {α : Type} (R : String → Prop) (o : Outcome α) : Prop := ∀ m, o = .panic m → R m

abbrev Outcome.NoPanic {α : Type} (o : Outcome α) : Prop := Outcome.PanicsIn (fun _ => False) o

theorem pin_ok {α : Type} {R : String → Prop} (a : α) : Outcome.PanicsIn R (.ok a) := by intro m h; cases h
theorem pin_err {α : Type} {R : String → Prop} (e : Err) : Outcome.PanicsIn R (.err e : Outcome α) := by
  intro m h; cases h

@[simp] theorem outcome_bind_panic {α β : Type} (m : String) (f : α → Outcome β) :
    (Outcome.panic m >>= f) = .panic m := rfl
@[simp] theorem outcome_bind_err {α β : Type} (e : Err) (f : α → Outcome β) :
    (Outcome.err e >>= f) = .err e := rfl

theorem pin_bind {α β : Type} {R : String → Prop} {x : Outcome α} {f : α → Outcome β}
    (hx : Outcome.PanicsIn R x) (hf : ∀ a, x = .ok a → Outcome.PanicsIn R (f a)) :
    Outcome.PanicsIn R (x >>= f) := by
  cases x with
  | ok a => exact hf a rfl
  | err e => exact pin_err e
  | panic m => intro m' h; rw [outcome_bind_panic] at h; cases h; exact hx m rfl

theorem Outcome.NoPanic.to {α : Type} {R : String → Prop} {o : Outcome α} (h : Outcome.NoPanic o) :
    Outcome.PanicsIn R o := fun m hm => (h m hm).elim

theorem get_np (st : Stack) (i : Nat) : Outcome.NoPanic (st.get i) := by
  intro m h; unfold Stack.get at h; split at h <;> cases h

theorem getOffset_np (st : Stack) (off : Int) : Outcome.NoPanic (st.getOffset off) := by
  unfold Stack.getOffset
  simp only
  split
  · exact get_np _ _
  · exact pin_err _

theorem set_np (st : Stack) (i : Nat) (v : VCell) : Outcome.NoPanic (st.set i v) := by
  intro m h; unfold Stack.set at h; split at h <;> cases h

theorem setOffset_np (st : Stack) (off : Int) (v : VCell) : Outcome.NoPanic (st.setOffset off v) := by
  unfold Stack.setOffset
  simp only
  split
  · exact set_np _ _ _
  · exact pin_err _

theorem pop_np (st : Stack) : Outcome.NoPanic st.pop := by
  intro m h; unfold Stack.pop at h
  split at h
  · split at h <;> cases h
  · cases h

theorem asPtr_np (v : VCell) : Outcome.NoPanic (asPtr v) := by cases v <;> (intro m h; cases h)
theorem asArgc_np (v : VCell) : Outcome.NoPanic (asArgc v) := by cases v <;> (intro m h; cases h)
theorem asBp_np (v : VCell) : Outcome.NoPanic (asBp v) := by cases v <;> (intro m h; cases h)
theorem asEp_np (v : VCell) : Outcome.NoPanic (asEp v) := by cases v <;> (intro m h; cases h)
theorem asIp_np (v : VCell) : Outcome.NoPanic (asIp v) := by cases v <;> (intro m h; cases h)

theorem usub_of_le {a b : Nat} (site : String) (h : b ≤ a) : usub a b site = .ok (a - b) := by
  simp [usub, h]

theorem popN_np : ∀ (k : Nat) (st : Stack), Outcome.NoPanic (popN k st)
  | 0, st => pin_ok _
  | k+1, st => by
    unfold popN
    refine pin_bind (pop_np st) (fun a _ => ?_)
    obtain ⟨v, st1⟩ := a
    refine pin_bind (popN_np k st1) (fun b _ => ?_)
    exact pin_ok _

theorem readOpcode_np {s : St H} (hl : ops.isLambda s.heap s.ipL = true) : Outcome.NoPanic (readOpcode ops s) := by
  intro m h
  unfold readOpcode at h
  simp only [hl, Bool.not_true, Bool.false_eq_true, if_false] at h
  split at h <;> cases h

theorem readOperand_np {s : St H} (hl : ops.isLambda s.heap s.ipL = true) : Outcome.NoPanic (readOperand ops s) := by
  intro m h
  unfold readOperand at h
  simp only [hl, Bool.not_true, Bool.false_eq_true, if_false] at h
  split at h <;> cases h

theorem loadOperand_np {s : St H} (hl : ops.isLambda s.heap s.ipL = true) : Outcome.NoPanic (loadOperand ops s) := by
  unfold loadOperand
  refine pin_bind (readOperand_np hl) (fun a _ => ?_)
  obtain ⟨opnd, s1⟩ := a
  simp only
  split
  · exact pin_ok _
  · exact pin_ok _
  · split
    · exact pin_bind (get_np _ _) (fun _ _ => pin_ok _)
    · exact pin_err _
  · split
    · exact pin_err _
    · exact pin_ok _
  · split
    · exact pin_err _
    · split
      · exact pin_err _
      · exact pin_ok _
    · exact pin_ok _
  · exact pin_err _

theorem storeOperand_np {s : St H} (v : VCell) (hl : ops.isLambda s.heap s.ipL = true) :
    Outcome.NoPanic (storeOperand ops s v) := by
  unfold storeOperand
  refine pin_bind (readOperand_np hl) (fun a _ => ?_)
  obtain ⟨opnd, s1⟩ := a
  simp only
  split
  · exact pin_ok _
  · exact pin_ok _
  · exact pin_bind (setOffset_np _ _ _) (fun _ _ => pin_ok _)
  · exact pin_ok _
  · split
    · exact pin_err _
    · split
      · exact pin_err _
      · exact pin_ok _
    · split
      · exact pin_err _
      · exact pin_ok _
  · exact pin_err _

/-- facts about heap objects and heap-side operations (hypotheses, like `CodeLaws`):
    * `isLambda_code` — a cell that holds verified code is a lambda (`%ip` always designates one);
    * `vararg_info` — a lambda whose code contains VARARG has a rest parameter (`compile_lambda` emits VARARG exactly
      for those);
    * the remaining fields: the heap-side operations of `run_one` do not panic (for the generic builtins this is
      T06.2; for `eval` it is the compiler's totality). -/
structure PanicLaws (cl : CodeLaws ops) : Prop where
  isLambda_code : ∀ {h : H} {l : Nat} {bc : List VCell}, cl.HInv h → cl.code h l = some bc → ops.isLambda h l = true
  vararg_info : ∀ {h : H} {l : Nat} {bc : List VCell} {o : Nat}, cl.HInv h → cl.code h l = some bc →
    bc[o]? = some (.opcode .varArg) → ∃ info, ops.lambdaInfo h l = some info ∧ 1 ≤ info.argc
  makeClosure_np : ∀ {h : H} (lam ep bp : Nat) (st : Stack), cl.HInv h → Outcome.NoPanic (ops.makeClosure h lam ep bp st)
  makeActivation_np : ∀ {h : H} (lam env bp : Nat) (st : Stack), cl.HInv h →
    Outcome.NoPanic (ops.makeActivation h lam env bp st)
  vectorPush_np : ∀ {h : H} (vec v : VCell), cl.HInv h → Outcome.NoPanic (ops.vectorPush h vec v)
  builtinEval_np : ∀ {h : H} (id : Nat) (args : List VCell), cl.HInv h → Outcome.NoPanic (ops.builtinEval h id args)
  compileEval_np : ∀ {h : H} (v : VCell), cl.HInv h → Outcome.NoPanic (ops.compileEval h v)

def Residual (m : String) : Prop :=
  m = "restore_continuation: split_at_mut out of range" ∨ m = "apply: list longer than fuel (cyclic list)"

theorem invokeCont_pin (s : St H) (c : Cont) : Outcome.PanicsIn Residual (invokeCont s c) := by
  unfold invokeCont
  refine pin_bind (pop_np _).to (fun a _ => ?_)
  obtain ⟨a, st⟩ := a
  refine pin_bind (asArgc_np _).to (fun n _ => ?_)
  split
  · exact pin_err _
  · refine pin_bind (pop_np _).to (fun r _ => ?_)
    obtain ⟨result, st2⟩ := r
    refine pin_bind ?_ (fun s2 _ => pin_ok _)
    unfold restoreCont
    refine pin_bind ?_ (fun st3 _ => pin_ok _)
    intro m h
    unfold Stack.restore at h
    split at h
    · cases h
    · cases h; exact .inl rfl

theorem shift_np : ∀ (k : Nat) (st : Stack), Outcome.NoPanic (builtinApply.shift k st)
  | 0, st => pin_ok _
  | k+1, st => by
    unfold builtinApply.shift
    refine pin_bind (getOffset_np _ _) (fun v _ => ?_)
    refine pin_bind (setOffset_np _ _ _) (fun st2 _ => ?_)
    exact shift_np k st2

theorem builtinCallcc_np (s : St H) (hip : 1 ≤ s.ipO) (hcap : s.stack.sp < s.stack.cells.length) :
    Outcome.NoPanic (builtinCallcc ops s) := by
  unfold builtinCallcc
  cases hp1 : s.stack.pop with
  | ok r1 =>
    obtain ⟨a, st⟩ := r1
    obtain ⟨p1, p2, _⟩ := pop_ok hp1
    simp only [outcome_bind_ok]
    refine pin_bind (asArgc_np _) (fun argc _ => ?_)
    split
    · exact pin_err _
    · cases hp2 : st.pop with
      | ok r2 =>
        obtain ⟨proc, st2⟩ := r2
        obtain ⟨q1, q2, _⟩ := pop_ok hp2
        simp only [outcome_bind_ok]
        split
        · exact pin_err _
        · have hc : st2.capture = .ok { cells := st2.cells.take (st2.sp + 1), sp := st2.sp } := by
            unfold Stack.capture
            have : st2.sp + 1 ≤ st2.cells.length := by rw [q2, p2]; omega
            simp [this]
          simp only [hc, outcome_bind_ok, usub_of_le _ hip]
          exact pin_ok _
      | err e => exact pin_err _
      | panic m => exact absurd rfl (fun h => pop_np st m (hp2.trans h))
  | err e => exact pin_err _
  | panic m => exact absurd rfl (fun h => pop_np s.stack m (hp1.trans h))

theorem tcallTail_np (s : St H) (lam : Nat) {n m : Nat} (hcap : s.stack.sp < s.stack.cells.length)
    (hA : s.stack.cellAt (s.bp + 1) = .argc n) (hn : n ≤ s.bp) (hm : s.stack.cellAt s.stack.sp = .argc m)
    (hle : s.bp + 4 + m + 1 ≤ s.stack.sp) : Outcome.NoPanic (tcallTail s lam) := by
  obtain ⟨st, h, _⟩ := tcallTail_eq s lam hcap hA hm (by omega) (k := s.bp - n) (by omega)
  rw [h]
  exact pin_bind (asBp_np _) (fun _ _ => pin_ok _)

theorem stepRet_np (s : St H) {n : Nat} (hlen : s.bp + 1 < s.stack.cells.length)
    (hA : s.stack.cellAt (s.bp + 1) = .argc n) (hn : n ≤ s.bp) : Outcome.NoPanic (stepRet s) := by
  have h1 : s.stack.get (s.bp + 1) = .ok (.argc n) := by rw [get_of_lt _ _ hlen, hA]
  unfold stepRet
  simp only [h1, outcome_bind_ok, asArgc, usub_of_le _ hn]
  refine pin_bind (pin_bind (get_np _ _) (fun _ _ => asEp_np _)) (fun ep _ => ?_)
  refine pin_bind (pin_bind (get_np _ _) (fun _ _ => asIp_np _)) (fun lo _ => ?_)
  obtain ⟨l, o⟩ := lo
  refine pin_bind (pin_bind (get_np _ _) (fun _ _ => asBp_np _)) (fun bp _ => ?_)
  exact pin_ok _

theorem varargCollect_np : ∀ (k : Nat) (h : H) (acc : Nat) (st : Stack),
    Outcome.NoPanic (varargCollect ops k h acc st)
  | 0, _, _, _ => pin_ok _
  | k+1, h, acc, st => by
    unfold varargCollect
    refine pin_bind (pop_np _) (fun a _ => ?_)
    obtain ⟨v, st2⟩ := a
    try dsimp only
    refine pin_bind (asPtr_np _) (fun a2 _ => ?_)
    try dsimp only
    refine pin_bind (asPtr_np _) (fun p _ => ?_)
    exact varargCollect_np k _ _ _

theorem stepVarArg_np (s : St H) {info : LambdaInfo} (hinfo : ops.lambdaInfo s.heap s.ipL = some info)
    (hargc : 1 ≤ info.argc) : Outcome.NoPanic (stepVarArg ops s) := by
  unfold stepVarArg
  rw [hinfo]
  simp only [usub_of_le _ hargc, outcome_bind_ok]
  refine pin_bind (pin_bind (getOffset_np _ _) (fun _ _ => asArgc_np _)) (fun argc _ => ?_)
  split
  · exact pin_err _
  · split
    · refine pin_bind (getOffset_np _ _) (fun v _ => ?_)
      try dsimp only
      refine pin_bind (asPtr_np _) (fun a _ => ?_)
      refine pin_bind (asPtr_np _) (fun n _ => ?_)
      try dsimp only
      refine pin_bind (setOffset_np _ _ _) (fun st _ => ?_)
      exact pin_ok _
    · refine pin_bind (pop_np _) (fun r1 _ => ?_)
      obtain ⟨c1, st1⟩ := r1
      refine pin_bind (pop_np _) (fun r2 _ => ?_)
      obtain ⟨c2, st2⟩ := r2
      refine pin_bind (pop_np _) (fun r3 _ => ?_)
      obtain ⟨_, st3⟩ := r3
      try dsimp only
      refine pin_bind (asPtr_np _) (fun n _ => ?_)
      refine pin_bind (varargCollect_np _ _ _ _) (fun r4 _ => ?_)
      exact pin_ok _

def OpAt (ops : HeapOps H) (s : St H) (op : Op) : Prop := ops.fetch s.heap s.ipL s.ipO = some (.opcode op)

/-- the one panic site of the MODEL's `step` that is not a panic site of `run_one`: the fuel guard of `apply`'s
    list walk (the Rust loop has no bound; on a cyclic list it does not return) -/
def ApplyGuard (m : String) : Prop := m = "apply: list longer than fuel (cyclic list)"

abbrev nxt (s : St H) : St H := { s with ipO := s.ipO + 1 }

/-- **what `step` needs of the heap side at `s`** (before the opcode is read): the heap-side operations do not panic at
    the arguments the instruction at `s` hands them — spelled as the instruction computes them
    (`(s.stack.push (.basePtr s.bp)).sp - 4` is ENTER's `bp`; the pops of a builtin call are hypotheses, so that an
    instance can use what the popped cells are) — and the two sites no local fact excludes are confined to `R` -/
structure PanicSites (ops : HeapOps H) (s : St H) (R : String → Prop) : Prop where
  isLambda : ops.isLambda s.heap s.ipL = true
  vararg : OpAt ops s .varArg → ∃ info, ops.lambdaInfo s.heap s.ipL = some info ∧ 1 ≤ info.argc
  makeClosure_np : OpAt ops s .closureAcc → ∀ lam, s.acc = .ptr lam →
    Outcome.NoPanic (ops.makeClosure s.heap lam s.ep s.bp s.stack)
  makeActivation_np : OpAt ops s .enter → ∀ lam env info n, ops.callee s.heap s.acc = .closure lam env →
    ops.lambdaInfo s.heap lam = some info → s.stack.getOffset (-2) = .ok (.argc n) → n = info.argc →
    Outcome.NoPanic (ops.makeActivation s.heap lam env ((s.stack.push (.basePtr s.bp)).sp - 4)
      (s.stack.push (.basePtr s.bp)))
  vectorPush_np : OpAt ops s .vpushAcc → ∀ v st, s.stack.pop = .ok (v, st) →
    Outcome.NoPanic (ops.vectorPush s.heap (ops.deref s.heap v) s.acc)
  builtinEval_np : OpAt ops s .callAcc ∨ OpAt ops s .tcallAcc → ∀ id a st argc args st2,
    ops.callee s.heap s.acc = .builtin id → s.stack.pop = .ok (a, st) → asArgc a = .ok argc →
    popN argc st = .ok (args, st2) → Outcome.NoPanic (ops.builtinEval s.heap id args)
  compileEval_np : OpAt ops s .callAcc ∨ OpAt ops s .tcallAcc → ∀ id a st e st2,
    ops.callee s.heap s.acc = .builtin id → s.stack.pop = .ok (a, st) → asArgc a = .ok 1 →
    st.pop = .ok (e, st2) → Outcome.NoPanic (ops.compileEval s.heap (ops.deref s.heap e))
  invoke : ∀ c, ops.callee s.heap s.acc = .continuation c → Outcome.PanicsIn R (invokeCont (nxt s) c)
  apply : Outcome.PanicsIn R (builtinApply ops (nxt s))

theorem pushList_pinA (s : St H) : ∀ (fuel : Nat) (rest : VCell) (n : Nat) (st : Stack),
    Outcome.PanicsIn ApplyGuard (builtinApply.pushList ops s fuel rest n st)
  | 0, rest, n, st => by
    intro m h
    unfold builtinApply.pushList at h
    cases h; rfl
  | fuel+1, rest, n, st => by
    unfold builtinApply.pushList
    split
    · exact pushList_pinA s fuel _ _ _
    · exact pin_ok _
    · exact pin_err _

theorem builtinApply_pinA (s : St H) (hip : 1 ≤ s.ipO) : Outcome.PanicsIn ApplyGuard (builtinApply ops s) := by
  unfold builtinApply
  refine pin_bind (pop_np _).to (fun a _ => ?_)
  obtain ⟨a, st⟩ := a
  refine pin_bind (asArgc_np _).to (fun argc _ => ?_)
  split
  · exact pin_err _
  · refine pin_bind (pop_np _).to (fun r _ => ?_)
    obtain ⟨top, st2⟩ := r
    simp only
    split
    all_goals simp only [Bool.not_true, Bool.not_false, Bool.false_eq_true, ↓reduceIte]
    all_goals first
      | exact pin_err _
      | (refine pin_bind (getOffset_np _ _).to (fun proc _ => ?_)
         refine pin_bind (shift_np _ _).to (fun st3 _ => ?_)
         refine pin_bind (pop_np _).to (fun r2 _ => ?_)
         obtain ⟨_, st4⟩ := r2
         refine pin_bind (pushList_pinA s _ _ _ _) (fun r3 _ => ?_)
         obtain ⟨n, st5⟩ := r3
         simp only [usub_of_le _ hip, outcome_bind_ok]
         exact pin_ok _)

theorem builtinEvalProc_npL {R : String → Prop} {s : St H} {id : Nat} (hop : OpAt ops s .callAcc ∨ OpAt ops s .tcallAcc)
    (pf : PanicSites ops s R) (hc : ops.callee s.heap s.acc = .builtin id) :
    Outcome.NoPanic (builtinEvalProc ops (nxt s)) := by
  unfold builtinEvalProc
  cases hp1 : (nxt s).stack.pop with
  | ok r1 =>
    obtain ⟨a, st⟩ := r1
    simp only [outcome_bind_ok]
    cases ha : asArgc a with
    | ok argc =>
      simp only [outcome_bind_ok]
      split
      · exact pin_err _
      · rename_i hne
        have h1 : argc = 1 := by simpa using hne
        subst h1
        cases hp2 : st.pop with
        | ok r2 =>
          obtain ⟨e, st2⟩ := r2
          simp only [outcome_bind_ok]
          refine pin_bind (pf.compileEval_np hop id a st e st2 hc hp1 ha hp2) (fun r2 _ => ?_)
          obtain ⟨h, lam⟩ := r2
          simp only [usub_of_le _ (Nat.le_add_left 1 s.ipO), outcome_bind_ok]
          exact pin_ok _
        | err e => exact pin_err _
        | panic m => exact absurd rfl (fun h => pop_np st m (hp2.trans h))
    | err e => exact pin_err _
    | panic m => exact absurd rfl (fun h => asArgc_np a m (ha.trans h))
  | err e => exact pin_err _
  | panic m => exact absurd rfl (fun h => pop_np _ m (hp1.trans h))

theorem builtinGeneric_npL {R : String → Prop} {s : St H} {id : Nat} (hop : OpAt ops s .callAcc ∨ OpAt ops s .tcallAcc)
    (pf : PanicSites ops s R) (hc : ops.callee s.heap s.acc = .builtin id) :
    Outcome.NoPanic (builtinGeneric ops id (nxt s)) := by
  unfold builtinGeneric
  cases hp1 : (nxt s).stack.pop with
  | ok r1 =>
    obtain ⟨a, st⟩ := r1
    simp only [outcome_bind_ok]
    cases ha : asArgc a with
    | ok argc =>
      simp only [outcome_bind_ok]
      cases hpn : popN argc st with
      | ok r2 =>
        obtain ⟨args, st2⟩ := r2
        simp only [outcome_bind_ok]
        refine pin_bind (pf.builtinEval_np hop id a st argc args st2 hc hp1 ha hpn) (fun r2 _ => ?_)
        exact pin_ok _
      | err e => exact pin_err _
      | panic m => exact absurd rfl (fun h => popN_np argc st m (hpn.trans h))
    | err e => exact pin_err _
    | panic m => exact absurd rfl (fun h => asArgc_np a m (ha.trans h))
  | err e => exact pin_err _
  | panic m => exact absurd rfl (fun h => pop_np _ m (hp1.trans h))

theorem runBuiltin_pinL {R : String → Prop} {s : St H} {id : Nat} (hop : OpAt ops s .callAcc ∨ OpAt ops s .tcallAcc)
    (pf : PanicSites ops s R) (hc : ops.callee s.heap s.acc = .builtin id)
    (hcap : s.stack.sp < s.stack.cells.length) : Outcome.PanicsIn R (runBuiltin ops id (nxt s)) := by
  have hjp : ∀ r : St H × VCell, Outcome.PanicsIn R
      (match r with
      | (s, v) =>
        match v with
        | VCell.ptr p => (Outcome.ok { s with acc := .ptr p } : Outcome (St H))
        | v => match ops.maybePut s.heap v with
          | (h, r) => Outcome.ok { s with heap := h, acc := r }) := by
    intro r
    obtain ⟨s2, v⟩ := r
    simp only
    split <;> exact pin_ok _
  have hip : 1 ≤ (nxt s).ipO := Nat.le_add_left 1 s.ipO
  unfold runBuiltin
  dsimp only
  split
  · exact pin_bind pf.apply (fun r _ => hjp r)
  · exact pin_bind (builtinCallcc_np (nxt s) hip hcap).to (fun r _ => hjp r)
  · exact pin_bind (builtinEvalProc_npL hop pf hc).to (fun r _ => hjp r)
  · exact pin_bind (builtinGeneric_npL hop pf hc).to (fun r _ => hjp r)

theorem stepCall_pinL {R : String → Prop} {s : St H} (hop : OpAt ops s .callAcc) (pf : PanicSites ops s R)
    (hcap : s.stack.sp < s.stack.cells.length) : Outcome.PanicsIn R (stepCall ops (nxt s)) := by
  unfold stepCall
  cases hc : ops.callee (nxt s).heap (nxt s).acc with
  | builtin id => exact runBuiltin_pinL (.inl hop) pf hc hcap
  | continuation c => exact pf.invoke c hc
  | other => exact pin_err _
  | closure lam env => exact pin_ok _
  | lambda => exact pin_bind (asPtr_np _).to (fun _ _ => pin_ok _)

theorem stepTCall_pinL {R : String → Prop} {s : St H} (hop : OpAt ops s .tcallAcc) (pf : PanicSites ops s R)
    {n m : Nat} (hcap : s.stack.sp < s.stack.cells.length)
    (hA : s.stack.cellAt (s.bp + 1) = .argc n) (hn : n ≤ s.bp) (hm : s.stack.cellAt s.stack.sp = .argc m)
    (hle : s.bp + 4 + m + 1 ≤ s.stack.sp) : Outcome.PanicsIn R (stepTCall ops (nxt s)) := by
  cases hc : ops.callee (nxt s).heap (nxt s).acc with
  | builtin id => unfold stepTCall; rw [hc]; exact runBuiltin_pinL (.inr hop) pf hc hcap
  | continuation c => unfold stepTCall; rw [hc]; exact pf.invoke c hc
  | other => unfold stepTCall; rw [hc]; exact pin_err _
  | closure lam env =>
    rw [stepTCall_closure hc]
    exact (tcallTail_np (nxt s) lam hcap hA hn hm hle).to
  | lambda =>
    rw [stepTCall_lambda hc]
    exact pin_bind (asPtr_np _).to (fun lam _ => (tcallTail_np (nxt s) lam hcap hA hn hm hle).to)

theorem stepEnter_npL {R : String → Prop} {s : St H} (hop : OpAt ops s .enter) (pf : PanicSites ops s R)
    (hsp : 3 ≤ s.stack.sp) : Outcome.NoPanic (stepEnter ops (nxt s)) := by
  have hu : usub (s.stack.push (.basePtr s.bp)).sp 4 "enter: sp - 4" = .ok ((s.stack.push (.basePtr s.bp)).sp - 4) :=
    usub_of_le _ (by rw [push_sp]; omega)
  unfold stepEnter
  dsimp only
  split
  · rename_i lam env hc
    have hc' : ops.callee s.heap s.acc = .closure lam env := hc
    simp only [outcome_bind_ok]
    cases hinfo : ops.lambdaInfo s.heap lam with
    | none =>
      exact pin_err _
    | some info =>
      dsimp only
      cases hg : s.stack.getOffset (-2) with
      | ok a =>
        simp only [outcome_bind_ok]
        cases ha : asArgc a with
        | ok n =>
          simp only [outcome_bind_ok]
          split
          · exact pin_err _
          · rename_i hne
            have hn : n = info.argc := by simpa using hne
            simp only [hu, outcome_bind_ok]
            have ha' : a = .argc n := by cases a <;> simp only [asArgc] at ha <;> cases ha; rfl
            subst ha'
            refine pin_bind (pf.makeActivation_np hop lam env info n hc' hinfo hg hn) (fun r _ => ?_)
            exact pin_ok _
        | err e => exact pin_err _
        | panic m => exact absurd rfl (fun h => asArgc_np a m (ha.trans h))
      | err e =>
        exact pin_err _
      | panic m => exact absurd rfl (fun h => getOffset_np _ _ m (hg.trans h))
  · refine pin_bind (asPtr_np _) (fun p _ => ?_)
    simp only [outcome_bind_ok]
    split
    · exact pin_err _
    · refine pin_bind (getOffset_np _ _) (fun a _ => ?_)
      refine pin_bind (asArgc_np _) (fun n _ => ?_)
      split
      · exact pin_err _
      · simp only [hu, outcome_bind_ok]
        exact pin_ok _
  · simp only [outcome_bind_err]
    exact pin_err _

/-- **T06.6.** `ops'` is the interface the frame-chain invariant is stated over; it reads code like `ops` does (the
    concrete machine's invariant lives over the value-guarded `vops ext`, the step examined is `concreteOps ext`'s).
    In a WF state every panic of `step` is one of a continuation's reinstatement or of `apply`'s argument spreading. -/
theorem step_pinG {R : String → Prop} {ops' : HeapOps H} {cl : CodeLaws ops'} {s : St H} {K : List FDesc}
    (hw : WFS cl s K) (hrd : readOpcode ops s = readOpcode ops' s) (pf : PanicSites ops s R) :
    Outcome.PanicsIn R (step ops s) := by
  have hl : ops.isLambda s.heap s.ipL = true := pf.isLambda
  unfold step
  refine pin_bind (readOpcode_np hl).to (fun a hr => ?_)
  obtain ⟨op, s1⟩ := a
  have hopAt : OpAt ops s op := (readOpcode_ok hr).1
  rw [hrd] at hr
  obtain ⟨t, st, ai, hs1⟩ := hw.instr hr
  subst hs1
  have hl1 : ops.isLambda (nxt s).heap (nxt s).ipL = true := hl
  have hcap := hw.wf.cap
  cases op <;> dsimp only
  case jmp =>
    refine pin_bind (readOperand_np hl1).to (fun a _ => ?_)
    exact pin_bind (asPtr_np _).to (fun _ _ => pin_ok _)
  case jnt =>
    refine pin_bind (readOperand_np hl1).to (fun a _ => ?_)
    refine pin_bind (asPtr_np _).to (fun _ _ => ?_)
    split <;> exact pin_ok _
  case mov =>
    refine pin_bind (loadOperand_np hl1).to (fun a ha => ?_)
    have e2 := loadOperand_ok (v := a.1) (s1 := a.2) ha
    exact pin_bind (storeOperand_np (s := a.2) a.1 (by rw [e2]; exact hl)).to (fun _ _ => pin_ok _)
  case movImm =>
    refine pin_bind (readOperand_np hl1).to (fun a ha => ?_)
    have e2 := (readOperand_ok (v := a.1) (s1 := a.2) ha).2
    exact pin_bind (storeOperand_np (s := a.2) a.1 (by rw [e2]; exact hl)).to (fun _ _ => pin_ok _)
  case push => exact pin_bind (loadOperand_np hl1).to (fun _ _ => pin_ok _)
  case pushImm => exact pin_bind (readOperand_np hl1).to (fun _ _ => pin_ok _)
  case pushAcc => exact pin_ok _
  case halt => exact pin_ok _
  case cons =>
    refine pin_bind (pop_np _).to (fun a _ => ?_)
    obtain ⟨d, st1⟩ := a
    dsimp only
    refine pin_bind (pop_np _).to (fun a2 _ => ?_)
    obtain ⟨a', st2⟩ := a2
    dsimp only
    refine pin_bind (asPtr_np _).to (fun _ _ => ?_)
    refine pin_bind (asPtr_np _).to (fun _ _ => ?_)
    exact pin_ok _
  case vpushAcc =>
    cases hp : (nxt s).stack.pop with
    | ok r =>
      obtain ⟨v, st1⟩ := r
      simp only [outcome_bind_ok]
      exact pin_bind (pf.vectorPush_np hopAt v st1 hp).to (fun _ _ => pin_ok _)
    | err e => exact pin_err _
    | panic m => exact absurd rfl (fun h => pop_np _ m (hp.trans h))
  case closureAcc =>
    cases ha : asPtr (nxt s).acc with
    | ok lam =>
      simp only [outcome_bind_ok]
      have hacc : s.acc = .ptr lam := by
        have : asPtr s.acc = .ok lam := ha
        cases hh : s.acc <;> rw [hh] at this <;> simp only [asPtr] at this <;> cases this
        rfl
      exact pin_bind (pf.makeClosure_np hopAt lam hacc).to (fun _ _ => pin_ok _)
    | err e => exact pin_err _
    | panic m => exact absurd rfl (fun h => asPtr_np _ m (ha.trans h))
  case callAcc =>
    exact pin_bind (stepCall_pinL hopAt pf hcap) (fun _ _ => pin_ok _)
  case tcallAcc =>
    have chk := ai.chk
    cases st <;> first | cases chk | simp only [checkOp, Bool.and_eq_true] at chk
    have hent : t.entry = false := by simpa using chk.1
    obtain ⟨n, ep', l', o', bp', K', hm, hA, _, _, _, hn, _, _⟩ :=
      hw.wf.frames.inv_frame ai.ht hent ai.hst (by simp)
    obtain ⟨m, hm1, hm2, _⟩ := hm
    exact pin_bind (stepTCall_pinL hopAt pf hcap hA hn hm1 (show s.bp + 4 + m + 1 ≤ s.stack.sp by omega))
      (fun _ _ => pin_ok _)
  case enter =>
    have chk := ai.chk
    cases st <;> first | cases chk | simp only [checkOp] at chk
    obtain ⟨_, n, ep', l', o', K', hn, _⟩ := hw.wf.frames.inv_pre ai.ht ai.hst
    exact pin_bind (stepEnter_npL hopAt pf (show 3 ≤ s.stack.sp by omega)).to (fun _ _ => pin_ok _)
  case ret =>
    have chk := ai.chk
    cases st <;> first | cases chk | simp only [checkOp] at chk
    have hent : t.entry = false := by simpa using chk
    obtain ⟨n, ep', l', o', bp', K', hm, hA, _, _, _, hn, _, _⟩ :=
      hw.wf.frames.inv_frame ai.ht hent ai.hst (by simp)
    have hlo := hm.lo_le
    exact pin_bind (stepRet_np (nxt s)
      (show s.bp + 1 < s.stack.cells.length by omega) hA hn).to (fun _ _ => pin_ok _)
  case varArg =>
    obtain ⟨info, hinfo, hargc⟩ := pf.vararg hopAt
    exact pin_bind (stepVarArg_np (nxt s) hinfo hargc).to (fun _ _ => pin_ok _)

theorem PanicLaws.sites {cl : CodeLaws ops} (pl : PanicLaws cl) {s : St H} {K : List FDesc} (hw : WFS cl s K) :
    PanicSites ops s Residual := by
  obtain ⟨t0, st0, ht0, _⟩ := hw.wf.frames.has_ty
  have hcode := (tyOf_spec ht0).1
  refine ⟨pl.isLambda_code hw.inv hcode, fun hop => ?_, fun _ _ _ => pl.makeClosure_np _ _ _ _ hw.inv,
    fun _ _ _ _ _ _ _ _ _ => pl.makeActivation_np _ _ _ _ hw.inv, fun _ _ _ _ => pl.vectorPush_np _ _ hw.inv,
    fun _ _ _ _ _ _ _ _ _ _ _ => pl.builtinEval_np _ _ hw.inv, fun _ _ _ _ _ _ _ _ _ _ => pl.compileEval_np _ hw.inv,
    fun c _ => invokeCont_pin _ c, fun m h => .inr (builtinApply_pinA (nxt s) (Nat.le_add_left 1 s.ipO) m h)⟩
  have hop' : t0.bc[s.ipO]? = some (.opcode .varArg) := by rw [← cl.fetch_code hw.inv hcode]; exact hop
  exact pl.vararg_info hw.inv hcode hop'

theorem step_pin {cl : CodeLaws ops} (pl : PanicLaws cl) {s : St H} {K : List FDesc} (hw : WFS cl s K) :
    Outcome.PanicsIn Residual (step ops s) :=
  step_pinG hw rfl (pl.sites hw)

/-- `step_pin` contraposed: a `step` that does not panic at a `Residual` site does not panic -/
theorem step_noPanic {cl : CodeLaws ops} (pl : PanicLaws cl) {s : St H} {K : List FDesc} (hw : WFS cl s K)
    (hres : ∀ m, Residual m → step ops s ≠ .panic m) : Outcome.NoPanic (step ops s) :=
  fun m h => hres m (step_pin pl hw m h) h

end Marwood.Vm

/-! ## the laws are satisfiable: the toy instance of `Lemmas/StackWFToy.lean` -/
namespace Marwood.Vm.Toy
open Marwood.Vm Verify

theorem no_vararg : ∀ l bc, code l = some bc → VCell.opcode .varArg ∉ bc := by
  intro l bc h
  unfold code at h
  repeat' split at h
  all_goals first | (cases h; decide) | cases h

def panicLaws : PanicLaws laws where
  isLambda_code := by
    intro h l bc _ hc
    show (code l).isSome = true
    have : code l = some bc := hc
    rw [this]; rfl
  vararg_info := by
    intro h l bc o _ hc ho
    exact absurd (List.mem_of_getElem? ho) (no_vararg l bc hc)
  makeClosure_np := fun _ _ _ _ _ => pin_err _
  makeActivation_np := fun _ _ _ _ _ => pin_ok _
  vectorPush_np := fun _ _ _ => pin_err _
  builtinEval_np := fun _ _ _ => pin_err _
  compileEval_np := fun _ _ => pin_err _

theorem runK_pin (k : Nat) (s s' : St Unit) (K : List FDesc) (hw : WFS laws s K) (h : runK k s = some s') :
    Outcome.PanicsIn Residual (step ops s') := by
  obtain ⟨K', hw'⟩ := runK_wf k s s' K hw h
  exact step_pin panicLaws hw'

end Marwood.Vm.Toy
