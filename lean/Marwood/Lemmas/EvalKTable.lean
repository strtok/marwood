import Marwood.Spec.EvalK
/-!
# The table of captured continuations is append-only (property C05)

Every helper function of `Spec.EvalK.step` passes the table `ks` along unchanged (one lemma each, `ks_exprsGo` …
`ks_retGo`); the only change is the `ks.push κ` of `call/cc` in `appGo true`. For `Lemmas/EvalKReentry.lean`.
-/
namespace Marwood.Lemmas.EvalK
open Marwood Marwood.Spec.Eval Marwood.Spec.EvalK

/-- the table of the result is `ks` -/
def KsOk (ks : Array Kont) : Next → Prop
  | .run s => s.ks = ks
  | .halt _ _ ks' => ks' = ks
  | .stuck => True

@[simp] theorem ksOk_evalIn (e ρ κ σ) (ks : Array Kont) : KsOk ks (evalIn e ρ κ σ ks) := rfl
@[simp] theorem ksOk_retTo (v κ σ) (ks : Array Kont) : KsOk ks (retTo v κ σ ks) := rfl
@[simp] theorem ksOk_appTo (f a κ σ) (ks : Array Kont) : KsOk ks (appTo f a κ σ ks) := rfl
@[simp] theorem ksOk_failWith (e σ) (ks : Array Kont) : KsOk ks (failWith e σ ks) := rfl

theorem ksOk_withM {α : Type} (x : M α) (σ : St) (ks : Array Kont) (k : α → St → Next)
    (h : ∀ a σ', KsOk ks (k a σ')) : KsOk ks (withM x σ ks k) := by
  unfold withM
  split
  · exact h _ _
  · rfl
  · trivial

theorem ks_exprsGo (ρ es κ σ ks) : KsOk ks (exprsGo ρ es κ σ ks) := by
  unfold exprsGo; split <;> simp

theorem ks_defineGo (ρ d mk κ σ ks) : KsOk ks (defineGo ρ d mk κ σ ks) := by
  unfold defineGo
  split
  · split <;> simp
  · split
    · simp
    · apply ksOk_withM; intro a σ'; simp
  · simp

theorem ks_bodyFormsGo (ρ defs forms κ σ ks) : KsOk ks (bodyFormsGo ρ defs forms κ σ ks) := by
  unfold bodyFormsGo
  split
  · simp
  · split
    · exact ks_defineGo ..
    · simp
  · split
    · exact ks_defineGo ..
    · simp

theorem ks_bodyGo (ρ body κ σ ks) : KsOk ks (bodyGo ρ body κ σ ks) := by
  unfold bodyGo
  apply ksOk_withM; intro a σ'; exact ks_bodyFormsGo ..

theorem ks_argsDone (ρ vs th κ σ ks) : KsOk ks (argsDone ρ vs th κ σ ks) := by
  unfold argsDone
  split
  · simp
  · apply ksOk_withM; intro a σ'; exact ks_bodyGo ..
  · apply ksOk_withM; intro a σ'; simp

theorem ks_argsGo (ρ done todo th κ σ ks) : KsOk ks (argsGo ρ done todo th κ σ ks) := by
  unfold argsGo
  split
  · simp
  · exact ks_argsDone ..

theorem ks_letStarGo (body bs ρ κ σ ks) : KsOk ks (letStarGo body bs ρ κ σ ks) := by
  unfold letStarGo
  split
  · exact ks_bodyGo ..
  · simp

theorem ks_letrecGo (ρ bs body κ σ ks) : KsOk ks (letrecGo ρ bs body κ σ ks) := by
  unfold letrecGo
  split
  · exact ks_bodyGo ..
  · simp

theorem ks_condGo (ρ cs κ σ ks) : KsOk ks (condGo ρ cs κ σ ks) := by
  unfold condGo
  split
  · simp
  · split
    · split
      · split
        · exact ks_exprsGo ..
        · simp
      · simp
    · simp

theorem ks_clauseBodyGo (ρ v body κ σ ks) : KsOk ks (clauseBodyGo ρ v body κ σ ks) := by
  unfold clauseBodyGo
  split
  · split
    · simp
    · exact ks_exprsGo ..
  · exact ks_exprsGo ..

theorem ks_caseGo (ρ key cs κ σ ks) : KsOk ks (caseGo ρ key cs κ σ ks) := by
  induction cs with
  | nil => unfold caseGo; simp
  | cons c cs ih =>
    unfold caseGo
    split
    · split
      · extract_lets hit
        clear_value hit
        match hit with
        | none => simp
        | some false => exact ih
        | some true => exact ks_clauseBodyGo ..
      · simp
    · simp

theorem ks_andGo (ρ es κ σ ks) : KsOk ks (andGo ρ es κ σ ks) := by
  unfold andGo; split <;> simp

theorem ks_orGo (ρ es κ σ ks) : KsOk ks (orGo ρ es κ σ ks) := by
  unfold orGo; split <;> simp

theorem ks_qqGo (ρ d depth κ σ ks) : KsOk ks (qqGo ρ d depth κ σ ks) := by
  fun_induction qqGo ρ d depth κ σ ks <;>
    first | assumption | simp | (apply ksOk_withM; intro a σ'; simp)

theorem ks_topFormGo (d κ σ ks) : KsOk ks (topFormGo d κ σ ks) := by
  unfold topFormGo
  split
  · exact ks_defineGo ..
  · simp

theorem ks_topFormsGo (ds κ σ ks) : KsOk ks (topFormsGo ds κ σ ks) := by
  unfold topFormsGo
  split
  · simp
  · exact ks_topFormGo ..
  · exact ks_topFormGo ..

theorem ks_topGo (d κ σ ks) : KsOk ks (topGo d κ σ ks) := by
  unfold topGo
  split
  · split
    · split
      · exact ks_topFormsGo ..
      · simp
    · exact ks_topFormGo ..
  · exact ks_topFormGo ..

/-- a leaf of the big case analyses is one of the helpers above -/
local macro "ks_leaf" : tactic =>
  `(tactic| simp only [ksOk_withM, implies_true, ksOk_evalIn, ksOk_retTo, ksOk_appTo, ksOk_failWith, ks_exprsGo, ks_bodyFormsGo, ks_bodyGo,
    ks_argsGo, ks_letStarGo, ks_letrecGo, ks_condGo, ks_clauseBodyGo, ks_caseGo, ks_andGo, ks_orGo, ks_qqGo,
    ks_topFormsGo, ks_topGo])

theorem ks_kwGo (ρ k rest κ σ ks) : KsOk ks (kwGo ρ k rest κ σ ks) := by
  unfold kwGo
  repeat' split
  all_goals ks_leaf

theorem ks_evGo (e ρ κ σ ks) : KsOk ks (evGo e ρ κ σ ks) := by
  unfold evGo
  split
  · ks_leaf
  · extract_lets special
    clear_value special
    split
    · exact ks_kwGo ..
    · split <;> ks_leaf
  all_goals ks_leaf

theorem ks_mapGo (isMap f done todo κ σ ks) : KsOk ks (mapGo isMap f done todo κ σ ks) := by
  unfold mapGo
  repeat' split
  all_goals ks_leaf

theorem ks_applyGo (f args κ σ ks) : KsOk ks (applyGo f args κ σ ks) := by
  unfold applyGo
  repeat' split
  all_goals first
    | ks_leaf
    | (apply ksOk_withM; intro a σ'; first | exact ks_mapGo .. | (split <;> ks_leaf))

theorem ks_appGo_false (f args κ σ ks) : KsOk ks (appGo false f args κ σ ks) := by
  unfold appGo
  exact ks_applyGo ..

theorem ks_retGo (fr v κ σ ks) : KsOk ks (retGo fr v κ σ ks) := by
  unfold retGo
  repeat' split
  all_goals first
    | ks_leaf
    | exact ks_mapGo ..
    | (apply ksOk_withM; intro a σ'; split <;> ks_leaf)

def KsOkPush (ks : Array Kont) (κ : Kont) : Next → Prop
  | .run s => s.ks = ks ∨ s.ks = ks.push κ
  | .halt _ _ ks' => ks' = ks
  | .stuck => True

theorem KsOk.toPush {ks : Array Kont} {n : Next} (κ : Kont) (h : KsOk ks n) : KsOkPush ks κ n := by
  cases n with
  | run s => exact Or.inl h
  | halt _ _ _ => exact h
  | stuck => trivial

theorem ks_appGo_true (f args κ σ ks) : KsOkPush ks κ (appGo true f args κ σ ks) := by
  unfold appGo
  split
  · split
    · split
      · exact Or.inr rfl
      · exact (ksOk_failWith ..).toPush κ
    · exact (ksOk_failWith ..).toPush κ
  · split
    · exact (ksOk_failWith ..).toPush κ
    · split
      · exact (ksOk_retTo ..).toPush κ
      · exact (ksOk_failWith ..).toPush κ
  · exact (ks_applyGo ..).toPush κ

theorem ks_step_true' (s : State) : KsOkPush s.ks s.κ (step true s) := by
  unfold step
  split
  · exact (ks_evGo ..).toPush _
  · exact ks_appGo_true ..
  · split
    · exact KsOk.toPush (n := .halt _ _ _) _ rfl
    · exact (ks_retGo ..).toPush _

theorem ks_step_false (s : State) : KsOk s.ks (step false s) := by
  unfold step
  split
  · exact ks_evGo ..
  · exact ks_appGo_false ..
  · split
    · rfl
    · exact ks_retGo ..

theorem ks_step_true (s : State) :
    match step true s with
    | .run s' => s'.ks = s.ks ∨ s'.ks = s.ks.push s.κ
    | .halt _ _ ks' => ks' = s.ks
    | .stuck => True := by
  have h := ks_step_true' s
  revert h
  cases step true s <;> exact id

/-- the table is append-only: an entry, once there, stays -/
theorem step_ks_mono (kOn : Bool) (s s' : State) (h : step kOn s = .run s') (i : Nat) (κ : Kont)
    (hi : s.ks[i]? = some κ) : s'.ks[i]? = some κ := by
  cases kOn with
  | false =>
    have := ks_step_false s
    rw [h] at this
    have e : s'.ks = s.ks := this
    rw [e]; exact hi
  | true =>
    have := ks_step_true s
    rw [h] at this
    have e : s'.ks = s.ks ∨ s'.ks = s.ks.push s.κ := this
    rcases e with e | e
    · rw [e]; exact hi
    · rw [e]
      have hlt : i < s.ks.size := (Array.getElem?_eq_some_iff.mp hi).1
      rw [Array.getElem?_push]
      have : i ≠ s.ks.size := Nat.ne_of_lt hlt
      simp [this, hi]

end Marwood.Lemmas.EvalK
