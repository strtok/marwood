import Marwood.Lemmas.PrepareHistory
import Marwood.Lemmas.PrepareNP
import Marwood.Lemmas.NoPanicMain
/-!
# T06.6 for histories with `prepare_eval` as a step of its own

`Proofs/C06.history_never_panics_machine` asks `VmOkP`, `SizeBounded` and `EnvSlotsAlong` of every state in which a job starts.
With the loader relation `Installs` the first follows from the invariant of the INITIAL state (`histInstalls_ok`), and `NPInv`
is carried through the loader steps as through instructions, collections and epilogues. `EnvSlotsAlong` is a hypothesis per
job here; Lemmas/PrepareEnv.lean derives it from `EnvInv` of the initial state.
-/
namespace Marwood.Lemmas.Good
open Marwood Marwood.Vm Marwood.Vm.Verify Marwood.Vm.Concrete Marwood.Lemmas.Sim
open Marwood.Lemmas.PolicySessionOk

variable {ext : ExtOps} {ecl : ExtCodeLawsV ext}

def recFaults : List EvRec → List Fault
  | [] => []
  | .ran _ (.failed f _) :: r => f :: recFaults r
  | _ :: r => recFaults r

theorem mem_recFaults {f : Fault} {recs : List EvRec} (h : f ∈ recFaults recs) :
    ∃ p s', EvRec.ran p (.failed f s') ∈ recs := by
  induction recs with
  | nil => cases h
  | cons rc r ih =>
    have later : f ∈ recFaults r → ∃ p s', EvRec.ran p (.failed f s') ∈ rc :: r := fun h => by
      obtain ⟨p, s', hm⟩ := ih h
      exact ⟨p, s', .tail _ hm⟩
    cases rc with
    | rejected g => exact later h
    | ran p res =>
      cases res with
      | failed f' s' =>
        rcases List.mem_cons.mp h with rfl | h
        · exact ⟨p, s', .head _⟩
        · exact later h
      | value _ => exact later h
      | paused _ => exact later h
      | fuel => exact later h

theorem npinv_ran (force : Bool) (en : ExtNoPanic ext) {s s1 : St CHeap} {e : Datum} {cfuel entry : Nat} (fuel : Nat)
    (n0 : NPInv s) (inst : Installs e cfuel s s1 entry) :
    NPInv (nextState s (runEval (concreteOps ext) (cgc force) none fuel (prepare s1 entry))) := by
  obtain ⟨m1, m2, _⟩ := npinv_runEval force en (prepare_npinv n0 inst) none fuel
  exact nextState_inv n0 m1 m2

theorem history_never_panics_installs (ecl : ExtCodeLawsV ext) (force : Bool) (el : ExtLaws ext) (eg : ExtGood ext)
    (ep : ExtProc ext) (en : ExtNoPanic ext) {s0 sf : St CHeap} {recs : List EvRec}
    (hist : HistInstalls ext force s0 recs sf) (i0 : IdleOk s0) (n0 : NPInv s0)
    (sz : ∀ rc ∈ recs, RecSized ext force rc)
    (esl : ∀ p r, EvRec.ran p r ∈ recs → EnvSlotsAlong (machine ext force) p) :
    ∀ f ∈ recFaults recs, ∀ m, f = Fault.panic m → m = applyGuard := by
  intro f hf m hm
  obtain ⟨p, s', hmem⟩ := mem_recFaults hf
  obtain ⟨a, _, _⟩ := histInstalls_starts hist (I := fun s => IdleOk s ∧ NPInv s) ⟨i0, n0⟩ sz
    (fun fuel i inst sb => ⟨(idleOk_ran (ecl := ecl) force el eg ep fuel i.1 inst sb).2, npinv_ran force en fuel i.2 inst⟩)
    (fun i inst sm1 sm2 => ⟨idleOk_rejected force i.1 inst sm1 sm2, npinv_gc force (npinv_installsGarbage i.2 inst)⟩)
  obtain ⟨s, s1, e, cfuel, entry, fuel, ⟨i, n⟩, inst, rfl, hr⟩ := a _ _ hmem
  have sb : EvalSizeBounded ext force (prepare s1 entry) := sz _ hmem
  subst hm
  exact runEval_never_panics_machine force el eg ep en
    ⟨(idleOk_ran (ecl := ecl) force el eg ep fuel i inst sb).1.1, prepare_npinv n inst⟩ sb.run (esl _ _ hmem) none fuel hr.symm

end Marwood.Lemmas.Good
