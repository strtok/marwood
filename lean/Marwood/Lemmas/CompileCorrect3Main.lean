import Marwood.Lemmas.CompileCorrect3Call
/-!
# T01.3 stage 3 — compiler correctness for the fragment `F3`

`both3`: as `CompileCorrect2.both2`, by induction on the fuel of the SPECIFICATION: for `e ∈ F3`, code at `ip`, `ep`
representing `ρ` with every readable name initialised (`EnvRep3 … us`), a heap representing `σ` (`Inv3`), the machine
does what the result of `Spec.Eval` calls for (`ExprRes`), and likewise the call of a closure value (`CallRes`).
`compileExpr_correct3` reads it at a value (`Out3`: `Run3`, or `Ret3` after a `TCALL` that replaced the current frame),
`compileExpr_correct3_err` (`CompileCorrect3ErrTop.lean`) at an error.
-/
namespace Marwood.Lemmas.CompileCorrect3
open Marwood Marwood.Vm Marwood.Lemmas.CompileCorrect Marwood.Lemmas.CompileCorrect2 Marwood.Lemmas.CompileSim
open Marwood.Spec.Eval (Val Prim Cell Env ErrClass Res evalN evalStep applyStep evalArgs properList quoteVal kwOf insertG
  k_quote k_if_ k_setBang k_define k_lambda)

variable {H : Type} {ops : HeapOps H} {D : RepData2 ops}

theorem exprRes3_succ (L : Laws3 D) {n : Nat} (ih : ExprRes (rel3 D) n) (ihc : CallRes (crel3 D) n) :
    ExprRes (rel3 D) (n + 1) := by
  have LL := claws3 L
  intro f cst c base tail e cst' code ρ us hf hcx hcomp hpre σ W s fr hc hip hi her hw hfrm
  change ExprOut _ W s code.length σ tail fr (evalStep (evalN n) e ρ σ)
  cases hf with
  | bool b =>
    obtain ⟨rfl, _⟩ := compile_selfEval_inv2 rfl hcomp
    subst hip; exact quote_res3 L hc hi hw
  | char ch =>
    obtain ⟨rfl, _⟩ := compile_selfEval_inv2 rfl hcomp
    subst hip; exact quote_res3 L hc hi hw
  | num m =>
    obtain ⟨rfl, _⟩ := compile_selfEval_inv2 rfl hcomp
    subst hip; exact quote_res3 L hc hi hw
  | str t =>
    obtain ⟨rfl, _⟩ := compile_selfEval_inv2 rfl hcomp
    subst hip; exact quote_res3 L hc hi hw
  | quote d rest =>
    obtain ⟨rfl, _⟩ := compile_quote_inv2 hcomp
    subst hip; rw [evalStep_quote]; exact quote_res3 L hc hi hw
  | vecc e0 =>
    obtain ⟨rfl, _⟩ := compile_selfEval_inv2 rfl hcomp
    subst hip; exact quote_res3 L hc hi hw
  | sym x hsc hus => exact sym_res3 L hsc hus hcx hcomp hc hip hi her hw hfrm
  | setBang x e hsc hG hfe => exact setBang_res LL ih hsc hG hfe hcx hcomp hpre hc hip hi her hw hfrm
  | if2 t cn hft hfc => exact if2_res LL.toLaws ih hft hfc hcx hcomp hpre hc hip hi her hw hfrm
  | if3 t cn a hft hfc hfa => exact if3_res LL.toLaws ih hft hfc hfa hcx hcomp hpre hc hip hi her hw hfrm
  | app fn args hh hff hfr => exact app_res LL ih ihc hh hff (F3L.toFragL hfr) hcx hcomp hpre hc hip hi her hw hfrm
  | lambda formals body p ps rest ints caps h1 h2 h3 h4 h5 h6 h7 h8 =>
    obtain ⟨b0, bs0, hbl⟩ := F3B_cons h8
    have hev := evalStep_lambda (r := evalN n) ρ σ h2 hbl
    obtain ⟨W', s', hw', r⟩ := case3_lambda L h1 h2 h3 h4 h5 h6 h7 h8 hcomp hpre hev hc hip hi her hw
    rw [hev]
    exact ⟨W', s', hw', .inl (run3_iff.mpr r)⟩

theorem both3 (L : Laws3 D) : ∀ n, ExprRes (rel3 D) n ∧ CallRes (crel3 D) n
  | 0 => ⟨fun _ _ _ _ _ _ _ _ _ _ _ _ _ _ _ _ _ _ _ _ _ _ _ _ => trivial,
          fun _ _ _ _ _ _ _ _ _ _ _ _ _ _ _ _ _ _ _ _ _ _ _ _ => trivial⟩
  | n + 1 =>
    have ih := both3 L n
    ⟨exprRes3_succ L ih.1 ih.2, callRes3_succ L ih.1⟩

/-- T01.3 stage 3, success case (`compile_correct_stage3_partial` of `Proofs/C01.lean`) -/
theorem compileExpr_correct3 (L : Laws3 D) (f : Nat) (cst : CState) (c : Ctx) (base : Nat) (tail : Bool)
    (e : Datum) (cst' : CState) (code : List BC) (ρ : Env) (us : Text → Prop) (hf : F3 D.setG f c (bound ρ) us tail e)
    (hcx : CtxOK c)
    (hcomp : compileExpr f cst c base tail e = .ok (cst', code)) (hpre : cst'.lambdas <+: D.final)
    (n : Nat) (σ : SSt) (w : Val) (σ' : SSt) (hev : (evalN n).eval e ρ σ = .ok w σ')
    (W : World) (s : MSt H) (fr : Frame) (hc : CodeAt2 D c.envmap s.heap σ.store s.ipL base code)
    (hip : s.ipO = base) (hi : Inv3 D W s.heap σ) (her : EnvRep3 ops W s.heap c s.ep ρ us) (hw : SWF s.stack)
    (hfr : tail = true → FrameAt s.stack s.bp fr) :
    ∃ W' s', W.le W' ∧ Out3 D W' s code.length σ σ' w tail fr s' :=
  exprOut3_ok.mp (hev ▸ (both3 L n).1 f cst c base tail e cst' code ρ us hf hcx hcomp hpre σ W s fr hc hip hi her hw hfr)

theorem compileExpr_correct3_nontail (L : Laws3 D) (f : Nat) (cst : CState) (c : Ctx) (base : Nat)
    (e : Datum) (cst' : CState) (code : List BC) (ρ : Env) (us : Text → Prop) (hf : F3 D.setG f c (bound ρ) us false e)
    (hcx : CtxOK c)
    (hcomp : compileExpr f cst c base false e = .ok (cst', code)) (hpre : cst'.lambdas <+: D.final)
    (n : Nat) (σ : SSt) (w : Val) (σ' : SSt) (hev : (evalN n).eval e ρ σ = .ok w σ')
    (W : World) (s : MSt H) (hc : CodeAt2 D c.envmap s.heap σ.store s.ipL base code)
    (hip : s.ipO = base) (hi : Inv3 D W s.heap σ) (her : EnvRep3 ops W s.heap c s.ep ρ us) (hw : SWF s.stack) :
    ∃ W' s', W.le W' ∧ Run3 D W' s code.length σ σ' w s' :=
  let ⟨W', s', hw', r⟩ := (both3 L n).1.ok hf hcx hcomp hpre hev hc hip hi her hw
  ⟨W', s', hw', run3_iff.mp r⟩

theorem closureCall_correct3 (L : Laws3 D) (n : Nat) : CallOK3 D n := by
  intro ps rest body ρc ws σ w σ' hap W s lam cenv vs st0 epc lc oc hcal hclos hi hvs hipL hipO hst hw0 hw
  have := (both3 L n).2 ps rest body ρc ws σ W s lam cenv vs st0 epc lc oc hcal hclos hi hvs hipL hipO hst hw0 hw
  rw [hap] at this; exact this

theorem envRep3_top (W : World) (h : H) (ep : Nat) (us : Text → Prop) : EnvRep3 ops W h c0 ep [] us := by
  intro x j hj
  simp [slotIdx, c0] at hj


end Marwood.Lemmas.CompileCorrect3
