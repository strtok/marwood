import Marwood.Lemmas.TransformEllShape
/-!
# Every pattern `Transform::try_new` accepts has ellipsis depth ≤ 1 (`nn`)

`check_pattern_support` descends into an element that is followed by the ellipsis with its flag set, and
with the flag set rejects every element followed by the ellipsis. On a list placed as `build` leaves it
(`okS`) the flag therefore means "no ellipsis from here down" (`plain`), and the loop without the flag
establishes `nn`.
-/
namespace Marwood.Transform.EllAccept
open Marwood Marwood.Spec.Match

theorem cpsLoop_tail {ell : Datum} {f : Nat} {inEll : Bool} {it : Datum} {rest : List Datum}
    (h : cpsLoop ell (f + 1) inEll (it :: rest) = .ok ()) : cpsLoop ell f inEll rest = .ok () := by
  unfold cpsLoop at h
  simp only at h
  split at h
  · cases h
  · split at h
    · exact h
    all_goals cases h

theorem cpsLoop_nn (s : Setup) : ∀ (f : Nat) (inEll : Bool) (items : List Datum) (allow : Bool),
    cpsLoop s.ell f inEll items = .ok () → okS s.es allow (Datum.ofList items) = true →
    (inEll = true → peekIs s.ell items = false → ∀ it ∈ items, plain s.es it = true) ∧
    (inEll = false → nn s.es (Datum.ofList items) = true) := by
  intro f
  induction f with
  | zero => intro inEll items allow h; simp [cpsLoop] at h
  | succ f ih =>
    intro inEll items allow h hok
    cases items with
    | nil => exact ⟨fun _ _ it hit => (nomatch hit), fun _ => rfl⟩
    | cons it rest =>
      have hrest := cpsLoop_tail h
      unfold cpsLoop at h
      simp only at h
      split at h
      · cases h
      · rename_i hc
        split at h
        · rename_i hsub
          clear h
          -- an element other than the ellipsis: `plain` under the flag, `nn` without
          have hitem : okP s.es it = true →
              ((inEll || peekIs s.ell rest) = true → plain s.es it = true) ∧
              ((inEll || peekIs s.ell rest) = false → nn s.es it = true) := by
            intro hokp
            cases it with
            | vec v => simp at hsub
            | pair a d =>
              simp only at hsub
              split at hsub
              · cases hsub
              · have hsp := okP_pair_spine hokp
                have hnil := okS_endsInNil hsp
                have heq := endsInNil_ofList hnil
                simp only [okP, Bool.and_eq_true] at hokp
                have := ih _ _ true hsub (heq ▸ hsp)
                refine ⟨fun hm => ?_, fun hm => by rw [heq]; exact this.2 hm⟩
                exact plain_of_iterList hnil
                  (this.1 hm (by simpa [iterList, peekIs, Setup.ell] using okP_ne_ell hokp.1))
            | sym x => exact ⟨fun _ => by simpa [okP, plain] using hokp, fun _ => rfl⟩
            | _ => exact ⟨fun _ => rfl, fun _ => rfl⟩
          by_cases hit : it = .sym s.es
          · subst hit
            rw [okS_cons_ell, Bool.and_eq_true] at hok
            refine ⟨fun _ hpk => by simp [peekIs, Setup.ell] at hpk, fun hi => ?_⟩
            rw [nn_ell_cons s.es rest (okS_false_peek s rest hok.2)]
            exact (ih _ _ false hrest hok.2).2 hi
          · rw [okS_cons_ne hit, Bool.and_eq_true] at hok
            have hr := ih _ _ allow hrest hok.2
            refine ⟨fun hi _ => ?_, fun hi => ?_⟩
            · subst hi
              have hpk : peekIs s.ell rest = false := by simpa using hc
              intro x hx
              rcases List.mem_cons.mp hx with rfl | hx
              · exact (hitem hok.1).1 rfl
              · exact hr.1 rfl hpk x hx
            · subst hi
              cases hpk : peekIs s.ell rest with
              | true =>
                obtain ⟨rest', rfl⟩ := (peekIs_ell_iff s rest).1 hpk
                have hok2 := hok.2
                rw [Setup.ell, okS_cons_ell, Bool.and_eq_true] at hok2
                have := hr.2 rfl
                rw [Setup.ell, nn_ell_cons s.es rest' (okS_false_peek s rest' hok2.2)] at this
                rw [Setup.ell, nn_cons_group, (hitem hok.1).1 (by simp [hpk]), this]
                rfl
              | false =>
                rw [nn_cons_ne s.es it rest hpk, (hitem hok.1).2 (by simp [hpk]), hr.2 rfl]
                rfl
        all_goals cases h

end Marwood.Transform.EllAccept

namespace Marwood.Transform
open Marwood Marwood.Spec.Match Marwood.Transform.EllAccept

theorem ruleOK_nn (s : Setup) {f : Nat} {r : Pattern × Datum} (h : RuleOK f s.ell s.lits r)
    {kw body : Datum} (hpe : r.1.expr = .pair kw body) : nn s.es body = true := by
  have hsup := h.support
  have hwf := ruleOK_wfPattern s h
  simp only [hpe, wfPattern, Bool.and_eq_true] at hwf
  have heq := endsInNil_ofList (okS_endsInNil hwf.1)
  rw [hpe] at hsup
  unfold checkPatternSupport at hsup
  simp only at hsup
  split at hsup
  · cases hsup
  · cases f with
    | zero => simp [cpsLoop] at hsup
    | succ f =>
      rw [heq]
      exact (cpsLoop_nn s f false _ true (cpsLoop_tail hsup) (heq ▸ hwf.1)).2 rfl

end Marwood.Transform
