import Marwood.Lemmas.CompileVerifiesOps
import Marwood.Lemmas.ConcreteLaws
import Marwood.Lemmas.GoodDefs
/-!
# T04.6 ⇒ the code clauses of the machine invariant for the cells the compiler adds

`CInv` (every lambda cell passes the verifier, has no `IofArgument` source, addresses only its own argument cells) and
`LamOk` (MOV / MOVIMM never go through a `Ptr`) are machine invariants. Code enters the heap in two places. For the
`eval` procedure they are kept by the law `ExtCodeLaws.compileEval` (the operation is not modelled). For
`prepare_eval`, modelled by `Installs`, `prepare_vmOkP` re-establishes them from `loaded_ok` (an `Enc`-loading of a
code object of `compileRunnable` satisfies all four clauses) and `compiled_install` (adding such lambda cells,
`GrowsL`, keeps `CInv` and the old code).
-/
namespace Marwood.Vm.Concrete
open Marwood Marwood.Vm Marwood.Vm.Verify Marwood.Lemmas.Good Marwood.Lemmas.Sim
open Marwood.Heap (GcState)

def CodeObj (m : LambdaM) : Prop := ProcShape m ∨ ∃ id, m = entryLam id

/-- Of the environment map only the length is compared: `EnvironmentMap::new_from_iof` builds it from the same formals,
    internal definitions and free symbols, the last two groups in the iteration order of a `HashSet`, which the model
    does not fix. So the loaded object captures (non-empty map) exactly when the model's does. -/
structure LoadedLam (m : LambdaM) (cl : CLambda) : Prop where
  bc : EncList m.bc cl.bc
  iof : ∀ y ∈ cl.envmap, ∀ n, y.2 = Source.iofArg n → ∃ x ∈ m.envmap, x.2 = Vm.Source.iofArgument n
  envLen : cl.envmap.length = m.envmap.length

/-- the step of the fold in `Verify.argNeed`, named so that `argNeed_noBp` can state the fold (`show`) -/
def needStep (m : Nat) (c : VCell) : Nat :=
  match c with
  | .bpOffset off => max m ((-off).toNat + 1)
  | _ => m

theorem needStep_noBp (m : Nat) (c : VCell) (h : ∀ off, c ≠ VCell.bpOffset off) : needStep m c = m := by
  cases c <;> first | rfl | exact absurd rfl (h _)

theorem foldl_needStep : ∀ (l : List VCell) (m : Nat), (∀ c ∈ l, ∀ off, c ≠ VCell.bpOffset off) →
    l.foldl needStep m = m
  | [], _, _ => rfl
  | c :: t, m, hc => by
    rw [List.foldl_cons, needStep_noBp m c (hc c (by simp))]
    exact foldl_needStep t m (fun c' hc' => hc c' (by simp [hc']))

theorem argNeed_noBp {cells : List VCell} (h : NoBp cells) : argNeed cells = 0 := by
  show cells.foldl needStep 0 = 0
  apply foldl_needStep
  intro c hc off hco
  obtain ⟨i, hi, rfl⟩ := List.getElem_of_mem hc
  exact h i off (by rw [List.getElem?_eq_getElem hi, hco])

theorem opndAll_notPtr (o : Option VCell) : opndAll notPtr o = opndC notPtrC o := by
  cases o with
  | none => rfl
  | some v => cases v <;> rfl

theorem opndAll_plainGlob (o : Option VCell) : opndAll plainGlob o = opndC isVal o := by
  cases o with
  | none => rfl
  | some v => simp [opndAll, opndC, isVal_eq_plainGlob]

theorem lamOk_of_opsOK {cl : CLambda} (hi : ∀ p ∈ cl.envmap, ∀ a, p.2 ≠ Source.iofArg a)
    (ho : OpsOK cl.bc 0 cl.bc.length) : LamOk cl := by
  have hlt : ∀ j v, cl.bc[j]? = some v → j < cl.bc.length := by
    intro j v hj
    rcases Nat.lt_or_ge j cl.bc.length with h | h
    · exact h
    · rw [List.getElem?_eq_none h] at hj; cases hj
  refine ⟨hi, ?_, ?_⟩
  · intro j hj
    have := (ho j (hlt j _ hj)).1 (by simpa using hj)
    simp only [Nat.zero_add] at this
    rw [opndAll_notPtr, opndAll_notPtr]
    exact this.2
  · intro j hj
    have := (ho j (hlt j _ hj)).2 (by simpa using hj)
    simp only [Nat.zero_add] at this
    rw [opndAll_plainGlob, opndAll_notPtr]
    exact this.2

theorem procShape_opsOK {m : LambdaM} {cells : List VCell} (hs : ProcShape m) (he : EncList m.bc cells) :
    OpsOK cells 0 cells.length := by
  obtain ⟨body, hbc, hblk, _⟩ := hs
  cases hva : m.isVararg
  · simp only [hva, Bool.false_eq_true, if_false, List.nil_append] at hbc hblk
    obtain ⟨hcp, hcb, hcr, hlen⟩ := proc_cells (pro := [.op .enter]) hbc he
    rw [hlen]
    exact ((opsOK_one hcp (by decide) (by decide)).append (blk_opsOK hblk hcb)).append
      ((opsOK_one hcr (by decide) (by decide)).cast (Nat.zero_add _).symm rfl)
  · simp only [hva, if_true] at hbc hblk
    obtain ⟨hcp, hcb, hcr, hlen⟩ := proc_cells (pro := [.op .varArg, .op .enter]) hbc he
    obtain ⟨hc1, hc2⟩ := CellsAt.append (c1 := [.op .varArg]) (c2 := [.op .enter]) hcp
    rw [hlen]
    exact (((opsOK_one hc1 (by decide) (by decide)).append (opsOK_one hc2 (by decide) (by decide))).append
      (blk_opsOK hblk hcb)).append ((opsOK_one hcr (by decide) (by decide)).cast (Nat.zero_add _).symm rfl)

theorem entryCode_opsOK {id : Nat} {cells : List VCell} (he : EncList (entryCode id) cells) :
    OpsOK cells 0 cells.length := by
  have hblk : Blk 0 [.op .pushImm, .argc 0, .op .movImm, .lambda id, .acc, .op .callAcc] [] [] :=
    (Blk.pushArgc 0 0).seq (((Blk.movImm 2 (.lambda id) .acc rfl rfl).frame [.argc 0]).seq (Blk.call 5 false [] rfl))
  obtain ⟨hcb, hch⟩ := CellsAt.append (c1 := [.op .pushImm, .argc 0, .op .movImm, .lambda id, .acc, .op .callAcc])
    (c2 := [.op .halt]) (encList_cellsAt he)
  rw [(encList_spec he).1]
  exact (blk_opsOK hblk hcb).append (opsOK_one hch (by decide) (by decide))

/-- **the four code clauses** for a loaded code object of the compiler model -/
theorem loaded_ok {m : LambdaM} {cl : CLambda} (hm : CodeObj m) (hl : LoadedLam m cl) :
    (verifyLam cl.bc).isSome = true ∧ (∀ x ∈ cl.envmap, ∀ n, x.2 ≠ Source.iofArg n) ∧
      argNeed cl.bc ≤ cl.args.length ∧ LamOk cl := by
  rcases hm with hs | ⟨id, rfl⟩
  · have hni : ∀ x ∈ cl.envmap, ∀ n, x.2 ≠ Source.iofArg n := by
      intro y hy n hn
      obtain ⟨x, hx, hxn⟩ := hl.iof y hy n hn
      obtain ⟨_, _, _, h3⟩ := hs
      exact h3 x hx n hxn
    obtain ⟨t, ht, _⟩ := proc_verifyLam hs hl.bc
    refine ⟨by simp [ht], hni, ?_, lamOk_of_opsOK hni (procShape_opsOK hs hl.bc)⟩
    rw [argNeed_noBp (procShape_noBp hs hl.bc)]
    exact Nat.zero_le _
  · have hni : ∀ x ∈ cl.envmap, ∀ n, x.2 ≠ Source.iofArg n := by
      intro y hy n hn
      obtain ⟨x, hx, _⟩ := hl.iof y hy n hn
      cases hx
    obtain ⟨t, ht, _⟩ := entry_verifyLam hl.bc
    obtain ⟨a, hb⟩ := entryCode_cells hl.bc
    refine ⟨by simp [ht], hni, ?_, lamOk_of_opsOK hni (entryCode_opsOK hl.bc)⟩
    rw [hb]
    exact Nat.zero_le _

/-- `Grows NoCont` with the clause `newLam` relaxed: new lambda cells satisfy `Q` and are not on the free list -/
structure GrowsL (Q : CLambda → Prop) (h h' : CHeap) : Prop where
  sizes : h'.gc.size = h'.cells.size
  shape : 0 < h'.chunk ∧ h'.chunk % 4 = 0 ∧ ∃ k, 0 < k ∧ h'.cells.size = k * h'.chunk
  noUsed : ∀ i : Nat, h'.gc[i]? ≠ some GcState.used
  keep : ∀ (l : Nat) (lam : CLambda), h.cells[l]? = some (CCell.lambda lam) → h'.cells[l]? = some (CCell.lambda lam)
  newLam : ∀ (l : Nat) (lam : CLambda), h'.cells[l]? = some (CCell.lambda lam) →
    h.cells[l]? = some (CCell.lambda lam) ∨ (Q lam ∧ l ∉ h'.free)
  newCont : ∀ (p : Nat) (c : Cont), h'.cells[p]? = some (CCell.cont c) → h.cells[p]? = some (CCell.cont c)
  free : ∀ p : Nat, p ∈ h'.free → p ∈ h.free ∨ h.cells.size ≤ p

variable {V : VCell → Prop}

theorem GrowsL.code {Q : CLambda → Prop} {h h' : CHeap} (g : GrowsL Q h h') {l : Nat} {bc : List VCell}
    (hc : codeC h l = some bc) : codeC h' l = some bc := by
  obtain ⟨lam, h1, h2⟩ := codeC_some hc
  rw [codeC_of_cell (g.keep l lam h1), h2]

/-- the invariant survives the installation of verified code, and old code is kept -/
theorem GrowsL.inv {Q : CLambda → Prop} {h h' : CHeap} (inv : CInvG V h) (g : GrowsL Q h h')
    (hQ : ∀ lam, Q lam → (verifyLam lam.bc).isSome = true ∧ (∀ x ∈ lam.envmap, ∀ n, x.2 ≠ Source.iofArg n) ∧
      argNeed lam.bc ≤ lam.args.length) :
    CInvG V h' ∧ ∀ l bc, codeC h l = some bc → codeC h' l = some bc := by
  have hty : ∀ l t, tyOf (codeC h) l = some t → tyOf (codeC h') l = some t :=
    tyOf_mono (fun l bc hc => g.code hc)
  refine ⟨⟨g.sizes, g.shape, g.noUsed, ?_, ?_, ?_, ?_, ?_⟩, fun l bc hc => g.code hc⟩
  · intro l lam hl hm
    rcases g.newLam l lam hl with hold | ⟨_, hnf⟩
    · rcases g.free l hm with h1 | h1
      · exact inv.lamFree l lam hold h1
      · have := lt_of_get_some hold; omega
    · exact hnf hm
  · intro l lam hl
    rcases g.newLam l lam hl with hold | ⟨hq, _⟩
    · exact inv.lamVer l lam hold
    · exact (hQ lam hq).1
  · intro l lam hl
    rcases g.newLam l lam hl with hold | ⟨hq, _⟩
    · exact inv.noIofArg l lam hold
    · exact (hQ lam hq).2.1
  · intro l lam hl
    rcases g.newLam l lam hl with hold | ⟨hq, _⟩
    · exact inv.lamArgs l lam hold
    · exact (hQ lam hq).2.2
  · intro p c hc
    obtain ⟨K, hk⟩ := inv.cont p c (g.newCont p c hc)
    refine ⟨K, hk.cap, hk.frames.mono hty, ?_⟩
    intro t ht
    obtain ⟨t0, _, ht0, _⟩ := hk.frames.has_ty
    have := hty _ _ ht0
    rw [ht] at this
    have e : t = t0 := Option.some.inj this
    rw [e]
    exact hk.body t0 ht0

theorem GrowsL.lamAll {Q : CLambda → Prop} {h h' : CHeap} (la : LamAll h) (g : GrowsL Q h h')
    (hQ : ∀ lam, Q lam → LamOk lam) : LamAll h' := by
  intro i l hl
  rcases g.newLam i l hl with hold | ⟨hq, _⟩
  · exact la i l hold
  · exact hQ l hq

/-- the lambda objects `compile_runnable` may install for `e` -/
def CompiledFor (e : Datum) (fuel : Nat) (cl : CLambda) : Prop :=
  ∃ st lam ent m, compileRunnable e fuel = .ok (st, lam, ent) ∧ (m = lam ∨ m ∈ st.lambdas ∨ m = ent) ∧
    LoadedLam m cl

theorem compiledFor_ok {e : Datum} {fuel : Nat} {cl : CLambda} (h : CompiledFor e fuel cl) :
    (verifyLam cl.bc).isSome = true ∧ (∀ x ∈ cl.envmap, ∀ n, x.2 ≠ Source.iofArg n) ∧
      argNeed cl.bc ≤ cl.args.length ∧ LamOk cl := by
  obtain ⟨st, lam, ent, m, hc, hm, hl⟩ := h
  refine loaded_ok ?_ hl
  obtain ⟨ht, rfl⟩ := compileRunnable_ok hc
  obtain ⟨h1, h2⟩ := compileTop_shape ht
  rcases hm with rfl | hm | rfl
  · exact .inl h1
  · exact .inl (h2 m hm)
  · exact .inr ⟨_, rfl⟩

theorem compiled_install {e : Datum} {fuel : Nat} {h h' : CHeap} (inv : CInvG V h)
    (g : GrowsL (CompiledFor e fuel) h h') :
    CInvG V h' ∧ (∀ l bc, codeC h l = some bc → codeC h' l = some bc) ∧ (LamAll h → LamAll h') := by
  obtain ⟨a, b⟩ := g.inv inv (fun lam hq => by
    obtain ⟨x, y, z, _⟩ := compiledFor_ok hq; exact ⟨x, y, z⟩)
  exact ⟨a, b, fun la => g.lamAll la (fun lam hq => (compiledFor_ok hq).2.2.2)⟩

end Marwood.Vm.Concrete
