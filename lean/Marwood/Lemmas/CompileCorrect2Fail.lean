import Marwood.Lemmas.CompileCorrect2Spec
import Marwood.Lemmas.CompileCorrect2TCall
import Marwood.Lemmas.CompileCorrect2Err
/-!
# T01.3 stage 2, ERROR case: definitions; quoting fails only with `syntax`

When `Spec.Eval` ends with a definite error while closures are being called, the machine fails with the corresponding
class somewhere inside the innermost activation; nothing is unwound (the frames of the enclosing calls are still on the
stack: this is what C07's reset has to deal with), the caller's live stack is intact below them (`ErrRun2.stack`), and
the heap represents the specification's state at the failure. `ErrLaws2` is ASSUMED: a failing primitive is a generic
builtin failing with the same class, and a `D.VR` value that is not a primitive procedure is no procedure for
`CALL`'s dispatch.
-/
namespace Marwood.Lemmas.CompileCorrect2
open Marwood Marwood.Vm Marwood.Lemmas.CompileCorrect
open Marwood.Spec.Eval (Val Prim Cell Env ErrClass evalN evalStep applyStep evalArgs properList quoteVal kwOf insertG
  k_quote k_if_ k_setBang k_define k_lambda)

variable {H : Type} {ops : HeapOps H} {D : RepData2 ops}

structure ErrRun2 (D : RepData2 ops) (W' : World) (s : MSt H) (base : Stack) (σ σ' : SSt) (c : ErrClass)
    (sf : MSt H) (e' : Err) : Prop where
  steps : Steps ops s sf
  fails : step ops sf = .err e'
  cls : machClass e' = specClass c
  stack : StackExt base sf.stack
  swf : SWF sf.stack
  inv : Inv2 D W' sf.heap σ'
  ext : Ext2 D s.heap σ.store sf.heap σ'.store

theorem FrameAt.stackExt {st : Stack} {bp : Nat} {fr : Frame} (h : FrameAt st bp fr) : StackExt fr.st0 st :=
  ⟨by have := h.sp0; have := h.live; omega, h.below⟩

/-- in tail position only the caller's stack is certainly kept: `TCALL` has rewritten the current frame by the time the
    callee can fail -/
def errBase (tail : Bool) (s : MSt H) (fr : Frame) : Stack := if tail = true then fr.st0 else s.stack

theorem errBase_le {tail : Bool} {s : MSt H} {fr : Frame} (h : tail = true → FrameAt s.stack s.bp fr) :
    StackExt (errBase tail s fr) s.stack := by
  unfold errBase
  cases tail with
  | false => exact StackExt.refl _
  | true => exact (h rfl).stackExt

theorem errBase_mono {tail : Bool} {s s1 : MSt H} {fr : Frame} (h : StackExt s.stack s1.stack) :
    StackExt (errBase tail s fr) (errBase tail s1 fr) := by
  unfold errBase
  cases tail with
  | false => exact h
  | true => exact StackExt.refl _

structure ErrLaws2 (D : RepData2 ops) : Prop where
  call_err : ∀ n W h (σ : SSt) vf p vs ws c (σ' : SSt), Inv2 D W h σ → D.VR h σ.store vf (.prim p) →
    All2 (VR2 D W h σ.store) vs ws → (evalN n).apply (.prim p) ws σ = .err c σ' → c ≠ .syntax →
    ∃ id e', ops.callee h vf = .builtin id ∧ ops.builtinKind h id = .generic ∧
      builtinResult ops h id vs.reverse = .err e' ∧ machClass e' = specClass c ∧
      Inv2 D W h σ' ∧ Ext2 D h σ.store h σ'.store
  callee_other : ∀ h S v w, D.VR h S v w → (∀ p, w ≠ .prim p) → ops.callee h v = .other

def CallErr2 (D : RepData2 ops) (n : Nat) : Prop :=
  ∀ ps body ρc ws (σ : SSt) cl (σ' : SSt), (evalN n).apply (.closure ps none body ρc) ws σ = .err cl σ' →
  cl ≠ .syntax →
  ∀ (W : World) (s : MSt H) lam cenv vs st0 epc lc oc, ops.callee s.heap s.acc = .closure lam cenv →
    ClosOK D W s.heap lam cenv ps body ρc → Inv2 D W s.heap σ → All2 (VR2 D W s.heap σ.store) vs ws →
    s.ipL = lam → s.ipO = 0 → LiveEq (callFrame st0 vs epc lc oc) s.stack → SWF st0 → SWF s.stack →
  ∃ W' sf e', W.le W' ∧ ErrRun2 D W' s st0 σ σ' cl sf e'

theorem quoteVal_err_syntax (d : Datum) :
    (∀ (σ : SSt) c σ', quoteVal d σ = .err c σ' → c = .syntax) ∧
    (∀ (σ : SSt) c σ', Spec.Eval.quoteElems d σ = .err c σ' → c = .syntax) := by
  have elemsNil : ∀ d : Datum, (∀ a b, d ≠ .pair a b) → ∀ (σ : SSt) c σ', Spec.Eval.quoteElems d σ = .err c σ' →
      c = .syntax := by
    intro d hnp σ c σ' h
    have : Spec.Eval.quoteElems d σ = (pure [] : Spec.Eval.M _) σ := by
      cases d <;> first | rfl | exact absurd rfl (hnp _ _)
    rw [this] at h
    exact absurd h pure_ne_err
  induction d with
  | pair a d iha ihd =>
    refine ⟨fun σ c σ' h => ?_, fun σ c σ' h => ?_⟩
    · unfold quoteVal at h
      rcases bind_err_inv h with h1 | ⟨a', σ1, _, h⟩
      · exact iha.1 _ _ _ h1
      rcases bind_err_inv h with h1 | ⟨d', σ2, _, h⟩
      · exact ihd.1 _ _ _ h1
      change (Spec.Eval.allocCell (.pair a' d') >>= fun l => pure (Val.pair l)) σ2 = _ at h
      rcases bind_err_inv h with h1 | ⟨l, σ3, _, h⟩
      · unfold Spec.Eval.allocCell at h1; cases h1
      · exact absurd h pure_ne_err
    · unfold Spec.Eval.quoteElems at h
      rcases bind_err_inv h with h1 | ⟨a', σ1, _, h⟩
      · exact iha.1 _ _ _ h1
      rcases bind_err_inv h with h1 | ⟨d', σ2, _, h⟩
      · exact ihd.2 _ _ _ h1
      · exact absurd h pure_ne_err
  | vec e ihe =>
    refine ⟨fun σ c σ' h => ?_, elemsNil _ (by intro a b x; cases x)⟩
    unfold quoteVal at h
    rcases bind_err_inv h with h1 | ⟨xs, σ1, _, h⟩
    · exact ihe.2 _ _ _ h1
    change (Spec.Eval.allocCell (.vec xs) >>= fun l => pure (Val.vec l)) σ1 = _ at h
    rcases bind_err_inv h with h1 | ⟨l, σ3, _, h⟩
    · unfold Spec.Eval.allocCell at h1; cases h1
    · exact absurd h pure_ne_err
  | num n =>
    refine ⟨fun σ c σ' h => ?_, elemsNil _ (by intro a b x; cases x)⟩
    unfold quoteVal at h
    cases hn : Spec.Eval.intOfNum n with
    | none => rw [hn] at h; exact (throw_err_inv h).1
    | some i => rw [hn] at h; exact absurd h pure_ne_err
  | _ => exact ⟨fun σ c σ' h => by unfold quoteVal at h; first | exact absurd h pure_ne_err | exact (throw_err_inv h).1,
      elemsNil _ (by intro a b x; cases x)⟩

end Marwood.Lemmas.CompileCorrect2
