import Marwood.Lemmas.EnvRefineMonad
/-!
# The specification interpreter never releases a location

`Grows m`: whatever `m` does, value or error, the store is at least as long afterwards. Every function of `Spec.Scope`
has it (`alloc` appends, `writeLoc` overwrites in place): a binding outlives the activation that created it, and since
a new activation gets the next free locations (`exec_bindParams`, `exec_allocDefs`), these lie beyond every location
handed out before.
-/
namespace Marwood.Vm.EnvRefine
open Marwood Marwood.Scope Marwood.Spec.Scope

def Grows {α : Type} (m : X SErr SSt α) : Prop := ∀ s : SSt, s.store.size ≤ (exec m s).2.store.size

theorem Grows.of_same {α : Type} (m : X SErr SSt α) (h : ∀ s, (exec m s).2.store.size = s.store.size) : Grows m :=
  fun s => by rw [h s]; exact Nat.le_refl _

theorem Grows.pure {α : Type} (a : α) : Grows (pure a : X SErr SSt α) := Grows.of_same _ fun _ => rfl
theorem Grows.throw {α : Type} (e : SErr) : Grows (throw e : X SErr SSt α) := Grows.of_same _ fun _ => rfl

theorem Grows.bind {α β : Type} {m : X SErr SSt α} {k : α → X SErr SSt β} (hm : Grows m) (hk : ∀ a, Grows (k a)) :
    Grows (m >>= k) := by
  intro s
  rw [exec_bind]
  have h1 := hm s
  rcases hx : exec m s with ⟨r, s1⟩
  rw [hx] at h1
  cases r with
  | error e => exact h1
  | ok a => exact Nat.le_trans h1 (hk a s1)

theorem grows_tick : Grows Spec.Scope.tick := Grows.of_same _ fun _ => rfl
theorem grows_logEvent (e : Event) : Grows (logEvent e) := Grows.of_same _ fun _ => rfl
theorem grows_writeLoc (l : Loc) (v : SVal) : Grows (writeLoc l v) :=
  Grows.of_same _ fun s => by rw [exec_writeLoc]; simp
theorem grows_alloc (v : SVal) : Grows (alloc v) := fun s => by rw [exec_alloc]; simp

theorem grows_locOf (x : Name) (ρ : Chain) : Grows (locOf x ρ) :=
  Grows.of_same _ fun s => by
    rcases exec_locOf_cases x ρ s with ⟨l, h, _⟩ | h <;> rw [h]

theorem grows_readLoc (l : Loc) : Grows (readLoc l) :=
  Grows.of_same _ fun s => by
    rcases exec_readLoc_cases l s with ⟨v, _, _, h⟩ | h <;> rw [h]

theorem grows_bindParams (ps : List Name) (r : Option Name) (vs : List SVal) : Grows (bindParams ps r vs) := by
  intro s
  have := exec_bindParams ps r vs s
  split at this
  · rw [this]; simp
  · obtain ⟨extra, h⟩ := this
    rw [h]; simp

theorem grows_allocDefs (ds : Defs) : Grows (allocDefs ds) := fun s => by rw [exec_allocDefs]; simp

structure GrowsAll (f : Nat) : Prop where
  eval : ∀ ρ e, Grows (Spec.Scope.eval f ρ e)
  evalList : ∀ ρ es, Grows (Spec.Scope.evalList f ρ es)
  evalBody : ∀ ρ es, Grows (Spec.Scope.evalBody f ρ es)
  evalDefs : ∀ ρ ds, Grows (Spec.Scope.evalDefs f ρ ds)
  apply : ∀ fv vs, Grows (Spec.Scope.apply f fv vs)
  loopGo : ∀ fv n, Grows (Spec.Scope.loopGo f fv n)
  eachGo : ∀ lv vs, Grows (Spec.Scope.eachGo f lv vs)

theorem growsAll : ∀ f, GrowsAll f
  | 0 => by
    refine ⟨?_, ?_, ?_, ?_, ?_, ?_, ?_⟩ <;> intros
    · rw [Spec.Scope.eval]; exact Grows.throw _
    · rw [Spec.Scope.evalList]; exact Grows.throw _
    · rw [Spec.Scope.evalBody]; exact Grows.throw _
    · rw [Spec.Scope.evalDefs]; exact Grows.throw _
    · rw [Spec.Scope.apply]; exact Grows.throw _
    · rw [Spec.Scope.loopGo]; exact Grows.throw _
    · rw [Spec.Scope.eachGo]; exact Grows.throw _
  | f + 1 => by
    have ih := growsAll f
    refine ⟨?_, ?_, ?_, ?_, ?_, ?_, ?_⟩
    · intro ρ e
      cases e with
      | fresh => simp only [Spec.Scope.eval]; exact grows_tick
      | ref s x =>
        simp only [Spec.Scope.eval]
        exact Grows.bind (grows_locOf x ρ) fun l => Grows.bind (grows_readLoc l) fun v =>
          Grows.bind (grows_logEvent _) fun _ => Grows.pure _
      | set s x e =>
        simp only [Spec.Scope.eval]
        exact Grows.bind (ih.eval ρ e) fun v => Grows.bind (grows_locOf x ρ) fun l =>
          Grows.bind (grows_logEvent _) fun _ => Grows.bind (grows_writeLoc l v) fun _ => Grows.pure _
      | lam ps r ds body => simp only [Spec.Scope.eval]; exact Grows.pure _
      | call fn args =>
        simp only [Spec.Scope.eval]
        exact Grows.bind (ih.evalList ρ args) fun vs => Grows.bind (ih.eval ρ fn) fun fv => ih.apply fv vs
      | seq es => simp only [Spec.Scope.eval]; exact ih.evalBody ρ es
      | loop n fn =>
        simp only [Spec.Scope.eval]
        exact Grows.bind (ih.eval ρ fn) fun fv => ih.loopGo fv n
      | each l args =>
        simp only [Spec.Scope.eval]
        exact Grows.bind (ih.eval ρ l) fun lv => Grows.bind (ih.evalList ρ args) fun vs => ih.eachGo lv vs
    · intro ρ es
      cases es with
      | nil => simp only [Spec.Scope.evalList]; exact Grows.pure _
      | cons e es =>
        simp only [Spec.Scope.evalList]
        exact Grows.bind (ih.eval ρ e) fun v => Grows.bind (ih.evalList ρ es) fun vs => Grows.pure _
    · intro ρ es
      cases es with
      | nil => simp only [Spec.Scope.evalBody]; exact Grows.pure _
      | cons e es =>
        cases es with
        | nil => simp only [Spec.Scope.evalBody]; exact ih.eval ρ e
        | cons e' es' =>
          simp only [Spec.Scope.evalBody]
          exact Grows.bind (ih.eval ρ e) fun _ => ih.evalBody ρ _
    · intro ρ ds
      cases ds with
      | nil => simp only [Spec.Scope.evalDefs]; exact Grows.pure _
      | cons x sugar e ds =>
        simp only [Spec.Scope.evalDefs]
        exact Grows.bind (ih.eval ρ e) fun v => Grows.bind (grows_locOf x ρ) fun l =>
          Grows.bind (grows_writeLoc l v) fun _ => ih.evalDefs ρ ds
    · intro fv vs
      cases fv with
      | clo ps r ds body env =>
        simp only [Spec.Scope.apply]
        exact Grows.bind (grows_bindParams ps r vs) fun fr => Grows.bind (grows_allocDefs ds) fun fr' =>
          Grows.bind (ih.evalDefs _ ds) fun _ => ih.evalBody _ body
      | int _ | nil | void | undef | pair _ _ => simp only [Spec.Scope.apply]; exact Grows.throw _
    · intro fv n
      cases n with
      | zero => simp only [Spec.Scope.loopGo]; exact Grows.pure _
      | succ n =>
        simp only [Spec.Scope.loopGo]
        exact Grows.bind grows_tick fun tv => Grows.bind (ih.apply fv [tv]) fun v =>
          Grows.bind (ih.loopGo fv n) fun rest => Grows.pure _
    · intro lv vs
      cases lv with
      | nil => simp only [Spec.Scope.eachGo]; exact Grows.pure _
      | pair c rest =>
        simp only [Spec.Scope.eachGo]
        exact Grows.bind (ih.apply c vs) fun v => Grows.bind (ih.eachGo rest vs) fun r => Grows.pure _
      | int _ | void | undef | clo _ _ _ _ _ => simp only [Spec.Scope.eachGo]; exact Grows.throw _

end Marwood.Vm.EnvRefine
