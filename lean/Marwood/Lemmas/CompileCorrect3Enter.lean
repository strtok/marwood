import Marwood.Lemmas.CompileCorrect2Enter
import Marwood.Lemmas.CompileCorrect3Lambda
/-!
# T01.3 stage 3 — `ENTER` of a closure with internal definitions

`enter_core`: in front of `ENTER` (after `CALL`/`TCALL` and, with a rest parameter, `VARARG`) there are exactly as many
operands as formals; `ENTER` builds the activation environment: parameters become related, initialised locations,
internally defined names related locations whose slots hold `Undefined`, captured slots keep pointing at theirs.
-/
namespace Marwood.Lemmas.CompileCorrect3
open Marwood Marwood.Vm Marwood.Lemmas.CompileCorrect Marwood.Lemmas.CompileCorrect2
open Marwood.Spec.Eval (Val Prim Cell Env evalN evalStep applyStep evalArgs properList quoteVal kwOf insertG
  k_quote k_if_ k_setBang k_define k_lambda)

variable {H : Type} {ops : HeapOps H} {D : RepData2 ops}

theorem ctxOK_of_em3 {c : Ctx} {fs ints : List Text} {caps : List (Text × Source)} (ha : c.args = fs)
    (hem : c.envmap = em3 fs ints caps) : CtxOK c := by
  intro x hx
  rw [ha] at hx
  obtain ⟨i, hi, hxi⟩ := List.getElem_of_mem hx
  have hg : fs[i]? = some x := by rw [List.getElem?_eq_getElem hi, hxi]
  have := em3_get_arg fs ints caps i x hg
  unfold inEnv
  rw [hem, List.any_eq_true]
  exact ⟨(x, .argument i), List.mem_of_getElem? this, by simp⟩

/-- `CompileCorrect2.enter_stack` with the operand cells at the index `makeActivation` reads (`bp - (nargs - i) + 1`) and
    the two bounds `activation_ok` asks for -/
theorem enter_stack {stk st0 : Stack} {vs : List VCell} {epc lc oc : Nat} (bp : Nat)
    (hst : LiveEq (callFrame st0 vs epc lc oc) stk) (hw0 : SWF st0) (hw : SWF stk) :
    stk.sp = st0.sp + vs.length + 3 ∧ stk.cells[stk.sp - 2]? = some (.argc vs.length) ∧
    (∀ i (hi : i < vs.length), vs.length - i ≤ st0.sp + vs.length ∧
      st0.sp + vs.length - (vs.length - i) + 1 < (stk.push (.basePtr bp)).cells.length ∧
      (stk.push (.basePtr bp)).cells[st0.sp + vs.length - (vs.length - i) + 1]? = some vs[i]) ∧
    SWF (stk.push (.basePtr bp)) ∧
    FrameAt (stk.push (.basePtr bp)) (st0.sp + vs.length) ⟨vs.length, epc, lc, oc, bp, st0⟩ := by
  obtain ⟨hsp, hargc, argCell, hwE, _, hfrE⟩ := CompileCorrect2.enter_stack (bp := bp) hst hw0 hw
  refine ⟨hsp, hargc, fun i hi => ?_, hwE, hfrE⟩
  have hc := argCell i _ (List.getElem?_eq_getElem hi)
  rw [show st0.sp + vs.length - (vs.length - i) + 1 = st0.sp + 1 + i by omega]
  exact ⟨Nat.le_trans (Nat.sub_le _ _) (Nat.le_add_left _ _), (List.getElem?_eq_some_iff.1 hc).1, hc⟩

theorem srcs_em3 {fs ints : List Text} {caps em : List (Text × Source)} (hc : ∀ q ∈ caps, q.2 = .iofEnvironment)
    {j : Nat} {src : RSrc} (h : ((em3 fs ints caps).map (rsrc em))[j]? = some src) :
    (j < fs.length ∧ src = .arg j) ∨ (∃ x, (em3 fs ints caps)[j]? = some (x, .internal) ∧ src = .internal) ∨
    ∃ k, src = .iofEnv k := by
  obtain ⟨q, hq, rfl⟩ := map_get _ _ _ _ h
  rcases em3_entry_cases hq with ⟨hlt, x, _, rfl⟩ | ⟨_, _, x, _, rfl⟩ | ⟨_, hqc⟩
  · exact .inl ⟨hlt, rfl⟩
  · exact .inr (.inl ⟨x, hq, rfl⟩)
  · obtain ⟨x, s⟩ := q
    cases hc _ hqc
    exact .inr (.inr ⟨_, rfl⟩)

/-- a fresh environment `a` joins the world: its slots `n < k` stand for the locations `loc n`, none related before -/
theorem Inv3.newEnv {W : World} {h h' : H} {σ : SSt} {a k bnd : Nat} {loc : Nat → Nat} (hi : Inv3 D W h σ)
    (hext : Ext3 D h σ.store h' σ.store) (hsrx : D.SRx h' σ.store) (hglob : ∀ m, ops.globGet h' m = ops.globGet h m)
    (hfresh : ∀ n, ops.envGet h a n = none) (hframe : ∀ e n, e ≠ a → ops.envGet h' e n = ops.envGet h e n)
    (hnok : ¬ D.envOK h' a) (hbnd : ∀ e n l, W e n l → l < bnd) (hloc_ge : ∀ n, n < k → bnd ≤ loc n)
    (hloc_inj : ∀ n m, n < k → m < k → loc n = loc m → n = m)
    (hslot : ∀ n, n < k → ∃ v w, ops.envGet h' a n = some v ∧ isEnvPtr v = false ∧ σ.store[loc n]? = some (.var w) ∧
      (v ≠ .undefined → VR3 D (fun e n l => W e n l ∨ (e = a ∧ n < k ∧ l = loc n)) h' σ.store v w)) :
    Inv3 D (fun e n l => W e n l ∨ (e = a ∧ n < k ∧ l = loc n)) h' σ := by
  have hwW : W.le (fun e n l => W e n l ∨ (e = a ∧ n < k ∧ l = loc n)) := fun e n l h => .inl h
  have oldNe : ∀ e n l, W e n l → e ≠ a := by
    intro e n l hW e0
    subst e0
    obtain ⟨v, _, h1, _⟩ := hi.vars _ n l hW
    rw [hfresh n] at h1; cases h1
  refine ⟨fun y u hn hy => ?_, fun y hn hy => ?_, hsrx, hi.gset, hi.loaded.ext hext.toExt2, ?_, ?_, ?_, ?_⟩
  · rw [hglob]; exact (hi.bound y u hn hy).mono hext hwW
  · rw [hglob]; exact hi.unbound y hn hy
  · intro e n l l' h1 h2
    rcases h1 with h1 | ⟨rfl, _, rfl⟩ <;> rcases h2 with h2 | ⟨h2e, _, h2l⟩
    · exact hi.wfun e n l l' h1 h2
    · exact absurd h2e (oldNe _ _ _ h1)
    · exact absurd rfl (oldNe _ _ _ h2)
    · exact h2l.symm
  · intro e n e' n' l h1 h2
    rcases h1 with h1 | ⟨rfl, hn1, rfl⟩ <;> rcases h2 with h2 | ⟨h2e, hn2, h2l⟩
    · exact hi.winj e n e' n' l h1 h2
    · have := hbnd _ _ _ h1; have := hloc_ge _ hn2; omega
    · have := hbnd _ _ _ h2; have := hloc_ge _ hn1; omega
    · exact ⟨h2e.symm, hloc_inj _ _ hn1 hn2 h2l⟩
  · intro e n l hW
    rcases hW with hW | ⟨rfl, hn, rfl⟩
    · obtain ⟨v, u, g1, g2, g3, g4⟩ := hi.vars e n l hW
      exact ⟨v, u, by rw [hframe e n (oldNe _ _ _ hW)]; exact g1, g2, g3, fun hv => (g4 hv).mono hext hwW⟩
    · exact hslot n hn
  · intro e n l hW ok
    rcases hW with hW | ⟨rfl, _, _⟩
    · obtain ⟨v, _, g1, _⟩ := hi.vars e n l hW
      exact hi.wact e n l hW (hext.okBack e n v g1 ok)
    · exact hnok ok

/-- `a3 … a19`: the conjuncts of `ClosOK3g` the proof needs, numbered as wherever `ClosOK3g` is taken apart, with `fs` for
    `ps ++ rest.toList`; separate hypotheses so that the caller states them for `fs = ps` or `fs = ps ++ [r]` and, behind
    `VARARG`, in the heap `VARARG` left. `pos`: the offset of `ENTER` in the prologue (1 behind `VARARG`, else 0).
    `loc n`: the store location the specification gave slot `n` of the activation (`bindArgs`, `allocVars`; `actLoc`).
    `bnd`: above every location related so far (the store size before the call), so the `loc n ≥ bnd` are new. -/
theorem enter_core (L : Laws3 D) {W : World} {s : MSt H} {σ2 : SSt} {lam cenv : Nat} {vs : List VCell} {ws : List Val}
    {st0 : Stack} {epc lc oc : Nat}
    {cst1 : CState} {co : Ctx} {p : LambdaParts} {bcode : List BC} {fs ints : List Text}
    {caps : List (Text × Source)} {ρc ρ2 : Env} {loc : Nat → Nat} {bnd : Nat} {pos : Nat}
    (hcal : ops.callee s.heap s.acc = .closure lam cenv)
    (a3 : p.ctx.args = fs) (hpfs : p.formals = fs)
    (a8 : D.final[cst1.lambdas.length]? = some (lamOf p bcode)) (a10 : lam = D.LM cst1.lambdas.length)
    (a11 : ops.isLambda s.heap lam = true)
    (a13 : D.lamSrcs s.heap lam = some (p.ctx.envmap.map (rsrc co.envmap)))
    (a14 : p.ctx.envmap = em3 fs ints caps) (a15 : ∀ q ∈ caps, q.2 = .iofEnvironment)
    (a16 : ∀ j, j < p.ctx.envmap.length → ∃ g, ops.envGet s.heap cenv j = some g)
    (a17 : ∀ j x, (fs ++ ints).length ≤ j → p.ctx.envmap[j]? = some (x, .iofEnvironment) →
      ∃ e n l, ops.envGet s.heap cenv j = some (.lexEnvPtr e n) ∧ ρc.lookup x = some l ∧ W e n l ∧ InitM ops s.heap e n)
    (a18 : D.envOK s.heap cenv)
    (a19 : ∀ j x, p.ctx.envmap[j]? = some (x, .internal) → ops.envGet s.heap cenv j = some .undefined)
    (hprol : p.prologue[pos]? = some (.op .enter))
    (hi : Inv3 D W s.heap σ2) (hvs : All2 (VR3 D W s.heap σ2.store) vs ws) (hvl : vs.length = fs.length)
    (hipL : s.ipL = lam) (hipO : s.ipO = pos)
    (hst : LiveEq (callFrame st0 vs epc lc oc) s.stack) (hw0 : SWF st0) (hw : SWF s.stack)
    (hbnd : ∀ e n l, W e n l → l < bnd) (hloc_ge : ∀ n, n < fs.length + ints.length → bnd ≤ loc n)
    (hloc_inj : ∀ n m, n < fs.length + ints.length → m < fs.length + ints.length → loc n = loc m → n = m)
    (hfsl : ∀ i x, fs[i]? = some x → ρ2.lookup x = some (loc i))
    (hfsv : ∀ i w, ws[i]? = some w → σ2.store[loc i]? = some (.var w))
    (hil : ∀ i x, ints[i]? = some x → ρ2.lookup x = some (loc (fs.length + i)))
    (hiv : ∀ i, i < ints.length → ∃ w, σ2.store[loc (fs.length + i)]? = some (.var w))
    (hother : ∀ x, x ∉ fs ++ ints → ρ2.lookup x = ρc.lookup x) :
    ∃ (h' : H) (a : Nat) (W' : World) (stE : Stack),
      step ops s = .ok ({ s with heap := h', ep := a, stack := stE, bp := st0.sp + vs.length, ipO := s.ipO + 1 },
        false) ∧
      W.le W' ∧ Inv3 D W' h' σ2 ∧ EnvRep3 ops W' h' p.ctx a ρ2 (fun x => x ∈ ints) ∧ CtxOK p.ctx ∧
      SWF stE ∧ FrameAt stE (st0.sp + vs.length) ⟨vs.length, epc, lc, oc, s.bp, st0⟩ ∧
      Ext3 D s.heap σ2.store h' σ2.store := by
  obtain ⟨hcode, hinfo⟩ := hi.loaded _ _ a8
  have hposlt : pos < p.prologue.length := (List.getElem?_eq_some_iff.mp hprol).1
  have hbcpos : (lamOf p bcode).bc[pos]? = some (.op .enter) := by
    show (p.prologue ++ bcode ++ [BC.op .ret])[pos]? = _
    rw [List.append_assoc, List.getElem?_append_left hposlt]; exact hprol
  have hargsl : (lamOf p bcode).args.length = fs.length := by simp [lamOf, hpfs]
  rw [← a10] at hcode
  rw [hargsl, ← a10] at hinfo
  have hfetch0 : ops.fetch s.heap s.ipL s.ipO = some (.opcode .enter) := by
    have := hcode.op pos (o := .enter) hbcpos
    rw [hipL, hipO]; simpa using this
  obtain ⟨hsp, hargc, argCell, hwE, hfrE⟩ := enter_stack s.bp hst hw0 hw
  -- the pushed stack as a variable: `omega` is slow in front of large terms
  generalize hstE : s.stack.push (.basePtr s.bp) = stE at argCell hwE hfrE
  have hB : s.stack.sp + 1 - 4 = st0.sp + vs.length := by rw [hsp]; rfl
  rw [hvl] at hargc
  obtain ⟨h', a, hmk, hfresh, hargs, hints, hcap, hframe, hglob, hext, hsrx, hnok⟩ :=
    L.activation_ok s.heap σ2.store lam cenv (st0.sp + vs.length) stE _ fs.length hi.extra a11 a13 hinfo a18
      (fun j src hj => a16 j (by
        have := (List.getElem?_eq_some_iff.mp hj).1
        simpa using this))
      (by
        intro j i hj
        rw [a14] at hj
        rcases srcs_em3 a15 hj with ⟨hlt, e⟩ | ⟨_, _, e⟩ | ⟨_, e⟩ <;> cases e
        rw [← hvl] at hlt ⊢
        exact ⟨hlt, (argCell j hlt).1, (argCell j hlt).2.1⟩)
      (by
        intro j hj
        have hj' := hj
        rw [a14] at hj'
        rcases srcs_em3 a15 hj' with ⟨_, e⟩ | ⟨x, hx, _⟩ | ⟨_, e⟩
        · cases e
        · exact a19 j x (a14 ▸ hx)
        · cases e)
  have hsE := step_enter_closure (s := s) (by rw [hipL]; exact a11) hfetch0 hcal hinfo
    (by rw [hsp]; exact Nat.le_add_left _ _) hargc (by rw [hB, hstE]; exact hmk)
  rw [hB, hstE] at hsE
  have argSlot : ∀ i (hlt : i < vs.length), ops.envGet h' a i = some vs[i] := by
    intro i hlt
    have hlt' : i < fs.length := hvl ▸ hlt
    have hent : p.ctx.envmap[i]? = some (fs[i], .argument i) := by
      rw [a14]; exact em3_get_arg fs ints caps i _ (List.getElem?_eq_getElem hlt')
    refine hargs i i _ (by rw [List.getElem?_map, hent]; rfl) ?_
    rw [← hvl]; exact (argCell i hlt).2.2
  have intSlot : ∀ i, i < ints.length → ops.envGet h' a (fs.length + i) = some .undefined := by
    intro i hlt
    have hent : p.ctx.envmap[fs.length + i]? = some (ints[i], .internal) := by
      rw [a14]; exact em3_get_int fs ints caps i _ (List.getElem?_eq_getElem hlt)
    exact hints _ (by rw [List.getElem?_map, hent]; rfl)
  have hwW : W.le (fun e n l => W e n l ∨ (e = a ∧ n < fs.length + ints.length ∧ l = loc n)) := fun e n l h => .inl h
  have hvs' := All2.vr3_mono hvs hext hwW
  have hi1 := hi.newEnv hext hsrx hglob hfresh hframe hnok hbnd hloc_ge hloc_inj (by
    intro n hn
    rcases Nat.lt_or_ge n fs.length with hnf | hnf
    · have hlt : n < vs.length := hvl ▸ hnf
      obtain ⟨u, hu, hr⟩ := All2.get hvs' n _ (List.getElem?_eq_getElem hlt)
      exact ⟨vs[n], u, argSlot n hlt, VR3.not_envptr L hr, hfsv n u hu, fun _ => hr⟩
    · obtain ⟨m, rfl⟩ := Nat.exists_eq_add_of_le hnf
      have hm : m < ints.length := Nat.lt_of_add_lt_add_left hn
      obtain ⟨u, hu⟩ := hiv m hm
      exact ⟨.undefined, u, intSlot m hm, rfl, hu, fun hv => absurd rfl hv⟩)
  refine ⟨h', a, _, _, hsE, hwW, hi1, ?_, ctxOK_of_em3 a3 a14, hwE, hfrE, hext⟩
  intro x j hj
  rw [a14] at hj
  rcases slot3_cases hj with ⟨hlt, hx⟩ | ⟨hge, hlt, hx⟩ | ⟨hge, hxn, src, hent, hmem⟩
  · have hltv : j < vs.length := hvl ▸ hlt
    obtain ⟨u, _, hr⟩ := All2.get hvs' j _ (List.getElem?_eq_getElem hltv)
    exact ⟨a, j, loc j, .inr ⟨rfl, rfl, vs[j], argSlot j hltv, VR3.not_envptr L hr⟩, hfsl j x hx,
      .inr ⟨rfl, Nat.lt_add_right _ hlt, rfl⟩,
      fun _ => ⟨vs[j], argSlot j hltv, VR3.not_envptr L hr, VR3.ne_undefined L hr⟩⟩
  · obtain ⟨m, rfl⟩ := Nat.exists_eq_add_of_le hge
    rw [Nat.add_sub_cancel_left] at hx
    exact ⟨a, _, loc (fs.length + m), .inr ⟨rfl, rfl, .undefined, intSlot m (Nat.lt_of_add_lt_add_left hlt), rfl⟩,
      hil _ x hx, .inr ⟨rfl, hlt, rfl⟩, fun hu => absurd (List.mem_of_getElem? hx) hu⟩
  · cases a15 _ hmem
    rw [← a14] at hent
    obtain ⟨e, n', l, g1, g2, g3, g4⟩ := a17 j x (by rw [List.length_append]; exact hge) hent
    have hslot := hcap j _ (by rw [List.getElem?_map, hent]; rfl)
    rw [g1] at hslot
    exact ⟨e, n', l, .inl hslot, by rw [hother x hxn]; exact g2, .inl g3, fun _ => hext.init _ _ g4⟩

end Marwood.Lemmas.CompileCorrect3
