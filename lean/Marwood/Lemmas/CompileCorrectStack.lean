import Marwood.Lemmas.CompileCorrectDefs
import Marwood.Lemmas.Stack
/-!
# T01.3 stage 1 — the live part of the stack under `push` / `pop` / `popN`
-/
namespace Marwood.Lemmas.CompileCorrect
open Marwood Marwood.Vm

theorem LiveEq.refl (a : Stack) : LiveEq a a := ⟨rfl, fun _ _ => rfl⟩

theorem LiveEq.symm {a b : Stack} (h : LiveEq a b) : LiveEq b a :=
  ⟨h.1.symm, fun i hi => (h.2 i (h.1 ▸ hi)).symm⟩

theorem LiveEq.trans {a b c : Stack} (h1 : LiveEq a b) (h2 : LiveEq b c) : LiveEq a c :=
  ⟨h1.1.trans h2.1, fun i hi => (h1.2 i hi).trans (h2.2 i (h1.1 ▸ hi))⟩

theorem push_swf (s : Stack) (v : VCell) : SWF (s.push v) := Stack.push_sp_lt s v

theorem push_below (s : Stack) (v : VCell) (hw : SWF s) (i : Nat) (hi : i ≤ s.sp) :
    (s.push v).cells[i]? = s.cells[i]? := by
  have hl : i < s.cells.length := Nat.lt_of_le_of_lt hi hw
  rw [Stack.some_cellAt _ (Nat.lt_of_lt_of_le hl (Stack.push_len s v)), Stack.some_cellAt _ hl, Vm.push_below s v i hi]

theorem push_top (s : Stack) (v : VCell) : (s.push v).cells[s.sp + 1]? = some v := by
  have hlt := Stack.push_sp_lt s v
  rw [Stack.push_sp] at hlt
  rw [Stack.some_cellAt _ hlt, Vm.push_cellAt_top]

theorem LiveEq.push {a b : Stack} (h : LiveEq a b) (ha : SWF a) (hb : SWF b) (v : VCell) :
    LiveEq (a.push v) (b.push v) := by
  refine ⟨by simp [h.1], ?_⟩
  intro i hi
  simp only [Stack.push_sp] at hi
  by_cases hlt : i ≤ a.sp
  · rw [push_below a v ha i hlt, push_below b v hb i (h.1 ▸ hlt)]
    exact h.2 i hlt
  · have : i = a.sp + 1 := by omega
    subst this
    rw [push_top, h.1, push_top]

theorem pop_of_push {a b : Stack} {v : VCell} (h : LiveEq (a.push v) b) (ha : SWF a) :
    b.pop = .ok (v, { b with sp := b.sp - 1 }) ∧ LiveEq a { b with sp := b.sp - 1 } := by
  have hsp : b.sp = a.sp + 1 := by rw [← h.1]; simp
  have htop : b.cells[b.sp]? = some v := by
    rw [hsp, ← h.2 (a.sp + 1) (by simp), push_top]
  refine ⟨?_, ?_⟩
  · exact Stack.pop_eq_ok.2 ⟨by omega, htop, rfl⟩
  · refine ⟨by simp [hsp], ?_⟩
    intro i hi
    show a.cells[i]? = b.cells[i]?
    rw [← h.2 i (by simp; omega), push_below a v ha i hi]

theorem pop_swf {b : Stack} (hb : SWF b) : SWF { b with sp := b.sp - 1 } := by
  unfold SWF at *
  show b.sp - 1 < b.cells.length
  omega

theorem pushAll_nil (st : Stack) : pushAll st [] = st := rfl
theorem pushAll_cons (st : Stack) (v : VCell) (vs : List VCell) :
    pushAll st (v :: vs) = pushAll (st.push v) vs := rfl

theorem pushAll_append (st : Stack) (vs ws : List VCell) :
    pushAll st (vs ++ ws) = pushAll (pushAll st vs) ws := by
  simp [pushAll, List.foldl_append]

theorem pushAll_swf (st : Stack) (vs : List VCell) (h : SWF st) : SWF (pushAll st vs) := by
  induction vs generalizing st with
  | nil => exact h
  | cons v vs ih => exact ih _ (push_swf st v)

theorem LiveEq.pushAll {a b : Stack} (h : LiveEq a b) (ha : SWF a) (hb : SWF b) (vs : List VCell) :
    LiveEq (pushAll a vs) (pushAll b vs) := by
  induction vs generalizing a b with
  | nil => exact h
  | cons v vs ih => exact ih (h.push ha hb v) (push_swf a v) (push_swf b v)

theorem ok_bind {α β : Type} (a : α) (f : α → Outcome β) : (Outcome.ok a >>= f) = f a := rfl

/-- `popN` returns the last operand first: by induction on what it returns -/
theorem popN_pushAll_rev : ∀ (ws : List VCell) {a b : Stack}, LiveEq (pushAll a ws.reverse) b → SWF a → SWF b →
    ∃ b', popN ws.length b = .ok (ws, b') ∧ LiveEq a b' ∧ SWF b'
  | [], _, b, h, _, hb => ⟨b, rfl, h, hb⟩
  | w :: ws, a, b, h, ha, hb => by
    rw [List.reverse_cons, pushAll_append] at h
    obtain ⟨hpop, hl⟩ := pop_of_push (v := w) h (pushAll_swf a _ ha)
    obtain ⟨b', hp, hl', hw'⟩ := popN_pushAll_rev ws hl ha (pop_swf hb)
    exact ⟨b', by simp only [List.length_cons, popN, hpop, outcome_bind_ok, hp], hl', hw'⟩

theorem popN_pushAll (vs : List VCell) : ∀ {a b : Stack}, LiveEq (pushAll a vs) b → SWF a → SWF b →
    ∃ b', popN vs.length b = .ok (vs.reverse, b') ∧ LiveEq a b' ∧ SWF b' := by
  intro a b h ha hb
  rw [← List.length_reverse]
  exact popN_pushAll_rev vs.reverse (by rwa [List.reverse_reverse]) ha hb

end Marwood.Lemmas.CompileCorrect
