import Marwood.Lemmas.StackWF
import Marwood.Lemmas.StepEff
import Marwood.Lemmas.StepEffBuiltin
/-!
# The hypotheses about the (generic) heap under which WF-stack is an invariant (`CodeLaws`)

`HeapStep`, `CodeLaws`, `Ext` ("a later heap") and the invariant `WFS`.
-/
namespace Marwood.Vm
open Verify Stack

variable {H : Type}

/-- one heap operation of the machine other than the creation of a continuation object. `setAt` (a MOV / MOVIMM to a
    `Ptr` destination) is not among them: the bytecode verifier rejects such a destination (`Verify.dstOk`) — it would
    overwrite whatever the cell holds, the bytecode of a lambda included. -/
inductive HeapStep (ops : HeapOps H) : H → H → Prop
  | put (h : H) (v : VCell) : HeapStep ops h (ops.put h v).1
  | maybePut (h : H) (v : VCell) : HeapStep ops h (ops.maybePut h v).1
  | globPut (h : H) (n : Nat) (v : VCell) : HeapStep ops h (ops.globPut h n v)
  | envPut {h h' : H} {e k : Nat} {v : VCell} : ops.envPut h e k v = some h' → HeapStep ops h h'
  | makeClosure {h h' : H} {lam ep bp : Nat} {st : Stack} {c : VCell} :
      ops.makeClosure h lam ep bp st = .ok (h', c) → HeapStep ops h h'
  | makeActivation {h h' : H} {lam env bp : Nat} {st : Stack} {e : Nat} :
      ops.makeActivation h lam env bp st = .ok (h', e) → HeapStep ops h h'
  | vectorPush {h h' : H} {vec v : VCell} : ops.vectorPush h vec v = .ok h' → HeapStep ops h h'
  | builtinEval {h h' : H} {id : Nat} {args : List VCell} {v : VCell} :
      ops.builtinEval h id args = .ok (h', v) → HeapStep ops h h'
  | compileEval {h h' : H} {v lam : VCell} : ops.compileEval h v = .ok (h', lam) → HeapStep ops h h'

/-- **The hypotheses about the heap** (a parameter of every theorem below, not an axiom): the facts about the real
    heap (`heap.rs`, `lambda.rs`, `compile.rs`) that the stack discipline rests on.

    * `e` — the stack pointer at which evaluations are entered (0 in the real VM).
    * `code h l` — ghost: the bytecode vector `Lambda::bc` of the lambda object in heap cell `l`; `HInv` — ghost
      invariant of reachable heaps; `fetch_code` — `lambda().get(ip.1)` reads that vector.
    * `step_inv`, `step_code` — no heap operation of `run_one` changes the bytecode of an existing lambda
      (`Lambda::bc` is written only by `emit` during compilation, before the lambda is `put`), and each preserves
      `HInv`. Garbage collection is not a heap operation of `run_one`; see `GcLaws`.
    * `callee_closure`, `callee_lambda` — whatever CALL/TCALL/ENTER find in `acc` when it is a `Closure(l, _)` or a
      pointer to a bare `Lambda`, `l` is *procedure* code (`[VARARG] ENTER … RET`) that the bytecode verifier
      accepts: the fact the `bytecode-verifier` stream checks on every lambda object of the real heap.
    * `Val` and the `*_val` laws — what a value is, and that the heap hands out values where the machine puts the
      result on the stack or into `acc`: an immediate the verifier accepts as a value, the address `put` /
      `maybe_put` / the continuation and closure constructors return, the vector VPUSH leaves in `acc`, a global
      slot, a lexical-environment slot. For the concrete heap `Val = IsValue` and the read laws hold of the
      *guarded* reads of `vops` (`Lemmas/ConcreteLawsVal.lean`); for the toy heaps `Val = fun _ => True`.
    * `info_code` — a lambda's formals cover the argument cells its code addresses (`argNeed bc ≤ args.len()`).
    * `cont_wf`, `newCont_inv`, `newCont_code` — the only continuation objects in the heap are those `call/cc`
      created: every continuation CALL/TCALL can find is a snapshot of a WF state, *provided* `call/cc` only ever
      stores snapshots of WF states — which the preservation theorem proves where it uses `newCont_inv`. -/
structure CodeLaws (ops : HeapOps H) where
  e : Nat
  code : H → Nat → Option (List VCell)
  HInv : H → Prop
  Val : VCell → Prop
  val_imm : ∀ v, Verify.isVal v = true → Val v
  put_val : ∀ h v, Val (ops.put h v).2
  maybePut_val : ∀ h v, Val (ops.maybePut h v).2
  newCont_val : ∀ h c, Val (ops.newCont h c).2
  makeClosure_val : ∀ {h h' lam ep bp st c}, ops.makeClosure h lam ep bp st = .ok (h', c) → Val c
  /-- VPUSH leaves the popped cell `d` in `acc`: a push through `deref d` succeeds only when `d` is a value (a
      non-pointer is its own dereference, and `vectorPush` rejects what is not a vector) -/
  vectorPush_val : ∀ {h h' d v}, ops.vectorPush h (ops.deref h d) v = .ok h' → Val d
  globGet_val : ∀ h n, Val (ops.globGet h n)
  envGet_val : ∀ {h e k v}, ops.envGet h e k = some v → (∀ e' k', v ≠ .lexEnvPtr e' k') → Val v
  envGet_val2 : ∀ {h e k e' k' w}, ops.envGet h e k = some (.lexEnvPtr e' k') → ops.envGet h e' k' = some w → Val w
  info_code : ∀ {h l bc info}, HInv h → code h l = some bc → ops.lambdaInfo h l = some info →
    argNeed bc ≤ info.argc
  fetch_code : ∀ {h l bc}, HInv h → code h l = some bc → ∀ o, ops.fetch h l o = bc[o]?
  step_inv : ∀ {h h'}, HInv h → HeapStep ops h h' → HInv h'
  step_code : ∀ {h h' l bc}, HInv h → HeapStep ops h h' → code h l = some bc → code h' l = some bc
  callee_closure : ∀ {h v lam env}, HInv h → ops.callee h v = .closure lam env →
    ∃ t, tyOf (code h) lam = some t ∧ t.entry = false
  callee_lambda : ∀ {h lam}, HInv h → ops.callee h (.ptr lam) = .lambda →
    ∃ t, tyOf (code h) lam = some t ∧ t.entry = false
  cont_wf : ∀ {h v c}, HInv h → ops.callee h v = .continuation c → ∃ K, ContWF Val (tyOf (code h)) e c K
  newCont_inv : ∀ {h c K}, HInv h → ContWF Val (tyOf (code h)) e c K → HInv (ops.newCont h c).1
  newCont_code : ∀ {h c l bc}, HInv h → code h l = some bc → code (ops.newCont h c).1 l = some bc

variable {ops : HeapOps H}

structure Ext (cl : CodeLaws ops) (h h' : H) : Prop where
  inv : cl.HInv h'
  code : ∀ l bc, cl.code h l = some bc → cl.code h' l = some bc

theorem Ext.refl {cl : CodeLaws ops} {h : H} (hi : cl.HInv h) : Ext cl h h := ⟨hi, fun _ _ x => x⟩

theorem Ext.trans {cl : CodeLaws ops} {h1 h2 h3 : H} (a : Ext cl h1 h2) (b : Ext cl h2 h3) : Ext cl h1 h3 :=
  ⟨b.inv, fun l bc x => b.code l bc (a.code l bc x)⟩

theorem Ext.step {cl : CodeLaws ops} {h h' : H} (hi : cl.HInv h) (hs : HeapStep ops h h') : Ext cl h h' :=
  ⟨cl.step_inv hi hs, fun _ _ x => cl.step_code hi hs x⟩

theorem Ext.ty {cl : CodeLaws ops} {h h' : H} (a : Ext cl h h') :
    ∀ l t, tyOf (cl.code h) l = some t → tyOf (cl.code h') l = some t := tyOf_mono a.code

/-- WF-stack of a machine state under the heap laws: the frame chain (`wf`), `acc` holds a value, and — in a
    procedure prologue — the argument count covers the argument cells the code addresses, or ENTER is about to
    compare it with the formals of *this* code object (`acc` still holds the callee CALL / TCALL dispatched on) -/
structure WFS (cl : CodeLaws ops) (s : St H) (K : List FDesc) : Prop where
  inv : cl.HInv s.heap
  wf : WF cl.Val (tyOf (cl.code s.heap)) cl.e s K
  acc : cl.Val s.acc
  pre : ∀ t n, tyOf (cl.code s.heap) s.ipL = some t → stateAt t.tm s.ipO = some .pre →
    s.stack.cellAt (s.stack.sp - 2) = .argc n →
    argNeed t.bc ≤ n ∨ enterLam ops s.heap s.acc = some s.ipL

theorem Puts.ext {cl : CodeLaws ops} {k : Nat} {h h' : H} (p : Puts ops k h h') (hi : cl.HInv h) : Ext cl h h' := by
  induction p with
  | refl => exact Ext.refl hi
  | put v _ ih => exact (ih hi).trans (Ext.step (ih hi).inv (.put _ v))

theorem HeapStep.of_put {h h' : H} {v r : VCell} (e : ops.put h v = (h', r)) : HeapStep ops h h' := by
  have := HeapStep.put (ops := ops) h v
  rw [e] at this
  exact this

end Marwood.Vm
