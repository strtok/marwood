import Marwood.Lemmas.EvalDerivedSimple
/-!
# T01.2, second half: `let`, `let*`

The uses are the well-formed ones: binding names are symbols that are not reserved words
(`symBindings bs` for `bs : List (Text × Datum)`), the body has at least one form.
-/
namespace Marwood.Spec.Eval.Derived
open Marwood Marwood.Spec.Eval Marwood.Spec.Eval.Prelude

def symBindings (bs : List (Text × Datum)) : List (Datum × Datum) := bs.map fun p => (s p.1, p.2)

theorem symBindings_fst (bs : List (Text × Datum)) : (symBindings bs).map (·.1) = (bs.map (·.1)).map s := by
  simp [symBindings, List.map_map, Function.comp_def]

theorem symBindings_snd (bs : List (Text × Datum)) : (symBindings bs).map (·.2) = bs.map (·.2) := by
  simp [symBindings, List.map_map, Function.comp_def]

theorem parseBindings_bindingList : ∀ (bs : List (Text × Datum)), (∀ p ∈ bs, reserved p.1 = false) →
    parseBindings (bindingList (symBindings bs)) = some bs
  | [], _ => rfl
  | (x, e) :: bs, h => by
    have hx := h (x, e) (by simp)
    have ih := parseBindings_bindingList bs (fun p hp => h p (by simp [hp]))
    have e1 : bindingList (symBindings ((x, e) :: bs)) =
        .pair (.pair (.sym x) (.pair e .nil)) (bindingList (symBindings bs)) := rfl
    have hx' : reserved x = false := hx
    rw [e1]
    simp [parseBindings, hx', ih]

theorem parseFormals_syms : ∀ (xs : List Text), (∀ x ∈ xs, reserved x = false) →
    parseFormals (L (xs.map s)) = some (xs, none)
  | [], _ => rfl
  | x :: xs, h => by
    have hx := h x (by simp)
    have ih := parseFormals_syms xs (fun y hy => h y (by simp [hy]))
    have e1 : L ((x :: xs).map s) = .pair (.sym x) (L (xs.map s)) := rfl
    rw [e1]
    simp [parseFormals, hx, ih]

theorem bindingList_not_sym (bs : List (Datum × Datum)) (x : Text) : bindingList bs ≠ .sym x := by
  cases bs <;> simp [bindingList, L, Datum.ofList]

variable (r : Rec) (ρ : Env)

theorem evalArgs_length : ∀ (es : List Datum) (st : St) (vs : List Val) (st' : St),
    evalArgs r ρ es st = .ok vs st' → vs.length = es.length
  | [], st, vs, st', h => by
    have : vs = [] := by
      simp only [evalArgs] at h
      cases h; rfl
    simp [this]
  | e :: es, st, vs, st', h => by
    simp only [evalArgs] at h
    change M.bind' (r.eval e ρ) (fun v => M.bind' (evalArgs r ρ es) (fun vs => M.pure' (v :: vs))) st = _ at h
    unfold M.bind' at h
    cases h1 : r.eval e ρ st with
    | ok v s1 =>
      simp only [h1] at h
      cases h2 : evalArgs r ρ es s1 with
      | ok ws s2 =>
        simp only [h2, M.pure'] at h
        cases h
        simp [evalArgs_length es s1 ws _ h2]
      | err _ _ => simp [h2] at h
      | timeout => simp [h2] at h
    | err _ _ => simp [h1] at h
    | timeout => simp [h1] at h

theorem bindArgs_eq_allocVars : ∀ (xs : List Text) (vs : List Val) (ρ : Env), vs.length = xs.length →
    bindArgs xs none vs ρ = allocVars (xs.zip vs) ρ
  | [], [], ρ, _ => rfl
  | x :: xs, v :: vs, ρ, h => by
    simp only [bindArgs, List.zip_cons_cons, allocVars]
    have ih := fun ρ' => bindArgs_eq_allocVars xs vs ρ' (by simpa using h)
    simp only [ih]
  | [], _ :: _, _, h => by simp at h
  | _ :: _, [], _, h => by simp at h

theorem native_let (bs : List (Text × Datum)) (b : Datum) (body : List Datum)
    (hb : ∀ p ∈ bs, reserved p.1 = false) :
    evalStep r (letUse (symBindings bs) b body) ρ = (do
      let vs ← evalArgs r ρ (bs.map (·.2))
      let ρ' ← allocVars ((bs.map (·.1)).zip vs) ρ
      evalBody r ρ' (b :: body)) := by
  have hp := parseBindings_bindingList bs hb
  have hl : properList (Datum.pair b (Datum.ofList body)) = some (b :: body) := properList_ofList (b :: body)
  simp only [letUse, L, s, Datum.ofList, evalStep, kwOf_let]
  cases hbl : bindingList (symBindings bs) with
  | sym x => exact absurd hbl (bindingList_not_sym _ x)
  | _ => simp only [evalKw, ← hbl, hp, hl]

theorem lambda_closure (xs : List Text) (b : Datum) (body : List Datum) (hx : ∀ x ∈ xs, reserved x = false) :
    makeClosure (L (xs.map s)) (L (b :: body)) ρ = pure (.closure xs none (b :: body) ρ) := by
  have hl : properList (L (b :: body)) = some (b :: body) := properList_ofList (b :: body)
  unfold makeClosure
  rw [parseFormals_syms xs hx, hl]

theorem native_letExp (bs : List (Text × Datum)) (b : Datum) (body : List Datum) :
    evalStep r (letExp (symBindings bs) b body) ρ = (do
      let vs ← evalArgs r ρ (bs.map (·.2))
      let fv ← r.eval (L (s k_lambda :: L ((bs.map (·.1)).map s) :: b :: body)) ρ
      r.apply fv vs) := by
  rw [letExp, native_app r ρ _ _ (by intro x hx; simp [L, Datum.ofList] at hx), symBindings_fst, symBindings_snd]

theorem names_ok {bs : List (Text × Datum)} (hb : ∀ p ∈ bs, reserved p.1 = false) :
    ∀ x ∈ bs.map (·.1), reserved x = false := by
  intro x hx
  simp only [List.mem_map] at hx
  obtain ⟨p, hp, rfl⟩ := hx
  exact hb p hp

theorem let_same (bs : List (Text × Datum)) (b : Datum) (body : List Datum)
    (hb : ∀ p ∈ bs, reserved p.1 = false) :
    Same 1 (letUse (symBindings bs) b body) (letExp (symBindings bs) b body) ρ := by
  have hx := names_ok hb
  intro n
  cases n with
  | zero => exact ⟨Le.timeout _, Le.timeout _⟩
  | succ n =>
    constructor
    · rw [evalN_succ_eval, evalN_succ_eval, native_let _ _ _ _ _ hb, native_letExp, evalN_succ_eval,
        native_lambda, lambda_closure ρ _ b body hx]
      simp only [M.pure_bind, evalN_succ_apply]
      refine Le.bindP (fun vs => vs.length = (bs.map (·.2)).length)
        (le_evalArgs (recLe_evalN_succ n) ρ _) (fun st vs st' h => evalArgs_length _ ρ _ st vs st' h) (fun vs hvs => ?_)
      refine Le.of_eq ?_
      show _ = (bindArgs _ none vs ρ >>= fun ρ' => evalBody (evalN n) ρ' (b :: body))
      rw [bindArgs_eq_allocVars _ vs ρ (by simpa using hvs)]
    · refine Le.trans ?_ (eval_le_add (n+1) 1 _ ρ)
      rw [evalN_succ_eval, evalN_succ_eval, native_let _ _ _ _ _ hb, native_letExp]
      refine Le.bindP (fun vs => vs.length = (bs.map (·.2)).length)
        (Le.refl _) (fun st vs st' h => evalArgs_length _ ρ _ st vs st' h) (fun vs hvs => ?_)
      have h1 : Le ((evalN n).eval (L (s k_lambda :: L ((bs.map (·.1)).map s) :: b :: body)) ρ)
          (pure (.closure (bs.map (·.1)) none (b :: body) ρ)) := by
        have := eval_le_step n (L (s k_lambda :: L ((bs.map (·.1)).map s) :: b :: body)) ρ
        rwa [native_lambda, lambda_closure ρ _ b body hx] at this
      refine (Le.bind h1 (fun fv => apply_le_step n fv vs)).trans (Le.of_eq ?_)
      rw [M.pure_bind]
      show (bindArgs _ none vs ρ >>= fun ρ' => evalBody (evalN n) ρ' (b :: body)) = _
      rw [bindArgs_eq_allocVars _ vs ρ (by simpa using hvs)]

theorem allocVars_one (x : Text) (v : Val) :
    allocVars [(x, v)] ρ = (allocCell (.var v) >>= fun l => pure ((x, l) :: ρ)) := rfl

theorem let1_eval (x : Text) (e inner : Datum) (hx : reserved x = false) (hi : isDefine inner = false) :
    evalStep r (L [s k_let_, L [L [s x, e]], inner]) ρ = (do
      let v ← r.eval e ρ
      let l ← allocCell (.var v)
      r.eval inner ((x, l) :: ρ)) := by
  have h := native_let r ρ [(x, e)] inner [] (by intro p hp; simp at hp; subst hp; exact hx)
  have e1 : letUse (symBindings [(x, e)]) inner [] = L [s k_let_, L [L [s x, e]], inner] := rfl
  rw [e1] at h
  rw [h]
  simp only [List.map, evalArgs_one, M.bind_assoc, M.pure_bind, List.zip_cons_cons, List.zip_nil_right,
    allocVars_one]
  congr 1; funext v; congr 1; funext l
  rw [evalBody_noDefs r _ [inner] (by intro d hd; simp at hd; subst hd; exact hi)]
  rfl

theorem native_letStar (bs : List (Text × Datum)) (b : Datum) (body : List Datum)
    (hb : ∀ p ∈ bs, reserved p.1 = false) :
    evalStep r (letStarUse (symBindings bs) b body) ρ = evalLetStar r (b :: body) bs ρ := by
  have hp := parseBindings_bindingList bs hb
  have hl : properList (Datum.pair b (Datum.ofList body)) = some (b :: body) := properList_ofList (b :: body)
  simp only [letStarUse, L, s, Datum.ofList, evalStep, kwOf_letStar, evalKw, hp, hl]

theorem isDefine_letStarUse (bs : List (Datum × Datum)) (b : Datum) (body : List Datum) :
    isDefine (letStarUse bs b body) = false := by
  have : (k_letStar == k_define) = false := by decide
  simp [letStarUse, L, s, Datum.ofList, isDefine, this]

theorem letStar_same (bs : List (Text × Datum)) (b : Datum) (body : List Datum)
    (hb : ∀ p ∈ bs, reserved p.1 = false) :
    Same 1 (letStarUse (symBindings bs) b body) (letStarExp (symBindings bs) b body) ρ := by
  intro n
  cases n with
  | zero => exact ⟨Le.timeout _, Le.timeout _⟩
  | succ n =>
    match bs, hb with
    | [], _ =>
      have e : evalStep (evalN n) (letStarExp (symBindings []) b body) ρ =
          evalStep (evalN n) (letStarUse (symBindings []) b body) ρ := by
        rw [native_letStar _ _ [] b body (by simp)]
        show evalStep (evalN n) (letUse (symBindings []) b body) ρ = _
        rw [native_let _ _ [] b body (by simp)]
        rfl
      exact ⟨(Le.of_eq (by rw [evalN_succ_eval, evalN_succ_eval, e])).trans (eval_le_add (n+1) 1 _ ρ),
             (Le.of_eq (by rw [evalN_succ_eval, evalN_succ_eval, e])).trans (eval_le_add (n+1) 1 _ ρ)⟩
    | (x, e) :: bs, hb =>
      have hx : reserved x = false := hb (x, e) (by simp)
      have hb' : ∀ p ∈ bs, reserved p.1 = false := fun p hp => hb p (by simp [hp])
      have e1 : letStarExp (symBindings ((x, e) :: bs)) b body =
          L [s k_let_, L [L [s x, e]], letStarUse (symBindings bs) b body] := rfl
      constructor
      · rw [evalN_succ_eval, evalN_succ_eval, native_letStar _ _ _ b body hb, e1,
          let1_eval _ _ x e _ hx (isDefine_letStarUse _ _ _)]
        simp only [evalLetStar]
        refine Le.bind ((recLe_evalN_succ n).eval e ρ) (fun v => Le.bind (Le.refl _) (fun l => ?_))
        rw [evalN_succ_eval, native_letStar _ _ _ b body hb']
        exact Le.refl _
      · refine Le.trans ?_ (eval_le_add (n+1) 1 _ ρ)
        rw [evalN_succ_eval, evalN_succ_eval, native_letStar _ _ _ b body hb, e1,
          let1_eval _ _ x e _ hx (isDefine_letStarUse _ _ _)]
        simp only [evalLetStar]
        refine Le.bind (Le.refl _) (fun v => Le.bind (Le.refl _) (fun l => ?_))
        have := eval_le_step n (letStarUse (symBindings bs) b body) ((x, l) :: ρ)
        rwa [native_letStar _ _ _ b body hb'] at this

end Marwood.Spec.Eval.Derived
