import Marwood.Vm.ListExt
import Marwood.Lemmas.ListExtSim
import Marwood.Lemmas.ListExtOps
import Marwood.Lemmas.GoodBuiltin
/-!
# `ExtGood (listExtWith eqTag)`: the real builtins keep the heap invariant `HG`

`cons` is two `putV_hg`; `set-car!` / `set-cdr!` is `putV_hg` followed by `pairSet_hg` (overwriting an allocated pair cell
with a pair of allocated addresses: like `envSet_hg`, a case of `cwrite_hg`).
-/
namespace Marwood.Lemmas.Good
open Marwood Marwood.Vm Marwood.Vm.Concrete Marwood.Vm.Concrete.ListExt Marwood.Lemmas.Sim
open Marwood.Heap (GcState WFHeap RootsOk vrefs vrefsList crefs)

theorem pairSet_hg {h : CHeap} (g : HG h) {p a d a1 d1 : Nat}
    (he : h.cells[p]? = some (CCell.val (.pair a d))) (ha : NF h a1) (hd : NF h d1) :
    HG (cwrite h p (.val (.pair a1 d1))) ∧ Mono h (cwrite h p (.val (.pair a1 d1))) := by
  refine cwrite_hg g he nofun id id (fun y hy => ?_) rfl fun w hw => ?_
  · simp only [eraseC, eraseV, crefs, List.mem_cons, List.not_mem_nil, or_false] at hy
    rcases hy with rfl | rfl
    · exact ha
    · exact hd
  · -- environments are other cells
    rcases hw with hw | ⟨e', k', ss', w', rfl, h1, h2, h3⟩
    · exact .inl hw
    · have hee : e' ≠ p := by rintro rfl; rw [he] at h1; cases h1
      exact .inr ⟨_, _, _, w', rfl, by rw [cwrite_other _ hee]; exact h1, h2, h3⟩

theorem deref_pair_nf {h : CHeap} (g : HG h) {x : VCell} (hx : VOk h x) {a d : Nat} (e : deref h x = .pair a d) :
    NF h a ∧ NF h d := by
  have := (deref_ok g hx.2 (plainGlob_plainVal hx.1)).1
  rw [e] at this
  exact ⟨this a (by simp [eraseV, vrefs]), this d (by simp [eraseV, vrefs])⟩

/-- Rust's `set-car!` / `set-cdr!` read the pair cell AFTER `heap.put(obj)`, the model (`ListExt.evalSetPair`) reads it
    before. On a heap satisfying the invariant the two reads agree: an allocated cell survives the allocation, a sentinel
    address is outside both heaps. (Documents the deviation; no theorem depends on it.) -/
theorem setPair_read_order {h : CHeap} (g : HG h) {obj pair : VCell} (hp : VOk h pair)
    (sm : Small (putV h obj).1) : deref (putV h obj).1 pair = deref h pair := by
  rcases plainGlob_cases hp.1 with ⟨p, rfl⟩ | hf
  · have hn : NF h p := VRefsOk.ptr.mp hp.2
    show getAt (putV h obj).1 p = getAt h p
    unfold getAt
    cases hc : h.cells[p]? with
    | some c =>
      have hnf := hn.nonFree g.wf hc
      have hfree : p ∉ h.free := fun hm => HeapWF.not_nonFree_of_free ((g.wf.free_iff p).mp hm) hnf
      rw [putV_keeps (HInv.of_wf g.wf) hc hfree]
    | none =>
      have hge : h.cells.size ≤ p := by
        false_or_by_contra
        rename_i hlt
        rw [Array.getElem?_eq_getElem (by omega)] at hc; cases hc
      have hs : 2 ^ 63 ≤ p := by
        rcases hn with e | e
        · exfalso
          have e' : h.gc[p]? = some GcState.allocated ∨ h.gc[p]? = some GcState.used := e
          have hlt : p < h.gc.size := by
            rcases e' with x | x <;> exact lt_of_get_some x
          have := (HInv.of_wf g.wf).sizes
          omega
        · exact e
      have : (putV h obj).1.cells[p]? = none := by
        unfold Small at sm
        exact Array.getElem?_eq_none (by omega)
      rw [this]
  · rw [deref_atom hf, deref_atom hf]

theorem evalSetPair_eq_rust (first : Bool) {h : CHeap} (g : HG h) {obj pair : VCell} (hp : VOk h pair)
    (sm : Small (putV h obj).1) : evalSetPairRust first h obj pair = evalSetPair first h obj pair := by
  simp only [evalSetPairRust, evalSetPair, setPair_read_order g hp sm]

section
variable (eqTag : String → String → Bool) {h h' : CHeap} {v : VCell}

theorem evalCar_good (first : Bool) (g : HG h) {x : VCell} (hx : VOk h x)
    (he : evalCar first h x = .ok (h', v)) : HG h' ∧ Mono h h' ∧ plainVal v = true ∧ VRefsOk h' v := by
  obtain ⟨a, d, hd, rfl, rfl⟩ := evalCar_ok he
  obtain ⟨na, nd⟩ := deref_pair_nf g hx hd
  refine ⟨g, .refl _, rfl, VRefsOk.ptr.mpr ?_⟩
  cases first
  · exact nd
  · exact na

theorem evalCons_good (g : HG h) {d a : VCell} (hd : VOk h d) (ha : VOk h a)
    (he : evalCons h d a = .ok (h', v)) (sm : Small h') :
    HG h' ∧ Mono h h' ∧ plainVal v = true ∧ VRefsOk h' v := by
  obtain ⟨dp, ap, e1, e2, rfl, rfl⟩ := evalCons_ok he
  have sm1 : Small (putV h d).1 := sm.of_le (putV_size _ _)
  obtain ⟨r1, _⟩ := putV_hg g hd.2 (plainGlob_plainVal hd.1) sm1
  obtain ⟨r2, _⟩ := putV_hg r1.hg (ha.mono r1.mono).2 (plainGlob_plainVal ha.1) sm
  have nd : NF (putV (putV h d).1 a).1 dp := by
    have := r1.res.2; rw [e1] at this
    exact (VRefsOk.ptr.mp this).mono r2.mono
  have na : NF (putV (putV h d).1 a).1 ap := by
    have := r2.res.2; rw [e2] at this
    exact VRefsOk.ptr.mp this
  refine ⟨r2.hg, r1.mono.trans r2.mono, rfl, ?_⟩
  intro y hy
  simp only [eraseV, vrefs, List.mem_cons, List.not_mem_nil, or_false] at hy
  rcases hy with rfl | rfl
  · exact na
  · exact nd

theorem evalSetPair_good (first : Bool) (g : HG h) {obj pair : VCell} (ho : VOk h obj) (hp : VOk h pair)
    (he : evalSetPair first h obj pair = .ok (h', v)) (sm : Small h') :
    HG h' ∧ Mono h h' ∧ plainVal v = true ∧ VRefsOk h' v := by
  obtain ⟨a, d, o, p, rfl, hcell, e1, rfl, rfl⟩ := evalSetPair_ok he
  have sm1 : Small (putV h obj).1 := by
    refine sm.of_le ?_
    simp [cwrite]
  obtain ⟨r1, _⟩ := putV_hg g ho.2 (plainGlob_plainVal ho.1) sm1
  have no : NF (putV h obj).1 o := by
    have := r1.res.2; rw [e1] at this; exact VRefsOk.ptr.mp this
  obtain ⟨na, nd⟩ := deref_pair_nf g hp (show deref h (.ptr p) = .pair a d by simp only [deref, getAt, hcell, Concrete.repr])
  -- the pair cell is allocated, hence survives the allocation
  have k1 : (putV h obj).1.cells[p]? = some (CCell.val (.pair a d)) :=
    putV_keeps (HInv.of_wf g.wf) hcell (not_free_of_cell g hcell nofun)
  cases first
  · obtain ⟨g2, m2⟩ := pairSet_hg r1.hg k1 (na.mono r1.mono) no
    exact ⟨g2, r1.mono.trans m2, rfl, .of_addrFree _ rfl⟩
  · obtain ⟨g2, m2⟩ := pairSet_hg r1.hg k1 no (nd.mono r1.mono)
    exact ⟨g2, r1.mono.trans m2, rfl, .of_addrFree _ rfl⟩

theorem listExtWith_good : ExtGood (listExtWith eqTag) where
  eval := by
    intro h id args h' v g hargs he sm
    obtain ⟨p, hp⟩ := builtinEval_ok he
    rcases evalPrim_ok hp with ⟨b, rfl, rfl⟩ | ⟨first, x, rfl, hc⟩ | ⟨d, a, rfl, hc⟩ | ⟨first, obj, pair, rfl, hc⟩
    · exact ⟨g, .refl _, rfl, .of_addrFree _ rfl⟩
    · exact evalCar_good first g (hargs x (.head _)) hc
    · exact evalCons_good g (hargs d (.head _)) (hargs a (.tail _ (.head _))) hc sm
    · exact evalSetPair_good first g (hargs obj (.head _)) (hargs pair (.tail _ (.head _))) hc sm
  compile := fun _ _ _ _ _ _ h => (by cases h)
  vpush := fun _ _ _ _ _ _ _ h => (by cases h)

theorem listExt_good : ExtGood listExt := listExtWith_good _

end

end Marwood.Lemmas.Good
