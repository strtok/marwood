import Marwood.Lemmas.StackWFNoPanic
/-!
# T06.6 with state-local heap-side facts

`step_pin` takes `PanicLaws`: "the heap-side operations do not panic on any arguments in any invariant heap". For the
concrete heap that is too strong to be a theorem — CLOSURE's and ENTER's environment construction read the current
frame and environment. `PanicFacts ops s` asks for the same facts **at the arguments the instruction at `s` hands the
operation** (`Lemmas/NoPanicFacts.lean` proves them there); `step_pin_local(R)` is the instance of `step_pinG` at those.
-/
namespace Marwood.Vm
open Verify Stack

variable {H : Type} {ops : HeapOps H}

structure PanicFacts (ops : HeapOps H) (s : St H) : Prop where
  isLambda : ops.isLambda s.heap s.ipL = true
  vararg : OpAt ops s .varArg → ∃ info, ops.lambdaInfo s.heap s.ipL = some info ∧ 1 ≤ info.argc
  makeClosure_np : OpAt ops s .closureAcc → ∀ lam, s.acc = .ptr lam →
    Outcome.NoPanic (ops.makeClosure s.heap lam s.ep s.bp s.stack)
  makeActivation_np : OpAt ops s .enter → ∀ lam env info n, ops.callee s.heap s.acc = .closure lam env →
    ops.lambdaInfo s.heap lam = some info → s.stack.getOffset (-2) = .ok (.argc n) → n = info.argc →
    Outcome.NoPanic (ops.makeActivation s.heap lam env ((s.stack.push (.basePtr s.bp)).sp - 4)
      (s.stack.push (.basePtr s.bp)))
  vectorPush_np : OpAt ops s .vpushAcc → ∀ v st, s.stack.pop = .ok (v, st) →
    Outcome.NoPanic (ops.vectorPush s.heap (ops.deref s.heap v) s.acc)
  builtinEval_np : OpAt ops s .callAcc ∨ OpAt ops s .tcallAcc → ∀ id a st argc args st2,
    ops.callee s.heap s.acc = .builtin id → s.stack.pop = .ok (a, st) → asArgc a = .ok argc →
    popN argc st = .ok (args, st2) → Outcome.NoPanic (ops.builtinEval s.heap id args)
  compileEval_np : OpAt ops s .callAcc ∨ OpAt ops s .tcallAcc → ∀ id a st e st2,
    ops.callee s.heap s.acc = .builtin id → s.stack.pop = .ok (a, st) → asArgc a = .ok 1 →
    st.pop = .ok (e, st2) → Outcome.NoPanic (ops.compileEval s.heap (ops.deref s.heap e))
  contFits : ∀ c, ops.callee s.heap s.acc = .continuation c → c.stack.cells.length ≤ s.stack.cells.length

theorem invokeCont_npA (s : St H) (c : Cont) (hfit : c.stack.cells.length ≤ s.stack.cells.length) :
    Outcome.NoPanic (invokeCont s c) := by
  unfold invokeCont
  cases hp1 : s.stack.pop with
  | ok r1 =>
    obtain ⟨a, st⟩ := r1
    simp only [outcome_bind_ok]
    refine pin_bind (asArgc_np _) (fun n _ => ?_)
    split
    · exact pin_err _
    · cases hp2 : st.pop with
      | ok r2 =>
        obtain ⟨result, st2⟩ := r2
        simp only [outcome_bind_ok]
        refine pin_bind ?_ (fun s2 _ => pin_ok _)
        unfold restoreCont
        refine pin_bind ?_ (fun st3 _ => pin_ok _)
        intro m h
        have e : st2.cells.length = s.stack.cells.length := by rw [(pop_ok hp2).2.1, (pop_ok hp1).2.1]
        have h' : st2.restore c.stack = .panic m := h
        unfold Stack.restore at h'
        rw [e] at h'
        simp only [hfit, if_true] at h'
        cases h'
      | err e => exact pin_err _
      | panic m => exact absurd rfl (fun h => pop_np st m (hp2.trans h))
  | err e => exact pin_err _
  | panic m => exact absurd rfl (fun h => pop_np s.stack m (hp1.trans h))

theorem PanicFacts.sites {R : String → Prop} {s : St H} (pf : PanicFacts ops s)
    (hAp : Outcome.PanicsIn R (builtinApply ops (nxt s))) : PanicSites ops s R :=
  ⟨pf.isLambda, pf.vararg, pf.makeClosure_np, pf.makeActivation_np, pf.vectorPush_np, pf.builtinEval_np,
    pf.compileEval_np, fun c hc => (invokeCont_npA _ c (pf.contFits c hc)).to, hAp⟩

/-- **T06.6 from state-local facts**: every panic of `step` is a panic of `apply`'s argument spreading; `R` is whatever
    is known of those. -/
theorem step_pin_localR {R : String → Prop} {ops' : HeapOps H} {cl : CodeLaws ops'} {s : St H} {K : List FDesc}
    (hw : WFS cl s K) (hrd : readOpcode ops s = readOpcode ops' s) (pf : PanicFacts ops s)
    (hAp : Outcome.PanicsIn R (builtinApply ops (nxt s))) :
    Outcome.PanicsIn R (step ops s) :=
  step_pinG hw hrd (pf.sites hAp)

/-- … the only panic of the model's `step` is the fuel guard of `apply` -/
theorem step_pin_local {ops' : HeapOps H} {cl : CodeLaws ops'} {s : St H} {K : List FDesc} (hw : WFS cl s K)
    (hrd : readOpcode ops s = readOpcode ops' s) (pf : PanicFacts ops s) :
    Outcome.PanicsIn ApplyGuard (step ops s) :=
  step_pin_localR hw hrd pf (builtinApply_pinA (nxt s) (Nat.le_add_left 1 s.ipO))

end Marwood.Vm
