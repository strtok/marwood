import Marwood.Lemmas.CompileCorrect2Fail
/-!
# T01.3: the simulation argument, for any stage and any result of the specification

Stages 2 and 3 relate the same machine, compiler model and code layout through relations of their own, bundled in `Rel`;
`ExtLaws`/`Laws` are the facts about them that the CONTROL part uses (`if` here; `set!`, operands and application in
`CompileSimApp.lean`). Constants, variables, `lambda`, `ENTER` and bodies are proved per stage, about its own relations.
The conclusion `ExprOut` is indexed by the RESULT of the specification: a value gives `Run` (falls through behind the
code) or `Ret` (after a tail call, back in the caller); an error of a class other than `syntax` gives, under the stage's
`ELaws` about failing primitives, `ErrRun` (`run_one` fails with that class, nothing unwound); `timeout` gives nothing.
A sub-expression is handled by the hypothesis `ExprRes` and cases on ITS result; the success and the failure theorem of
a stage are the two readings of one induction.
-/
namespace Marwood.Lemmas.CompileSim
open Marwood Marwood.Vm Marwood.Lemmas.CompileCorrect Marwood.Lemmas.CompileCorrect2
open Marwood.Spec.Eval (Val Prim Cell Env ErrClass Res M evalN evalStep applyStep evalArgs properList quoteVal kwOf
  insertG k_quote k_if_ k_setBang k_define k_lambda)

variable {H : Type} {ops : HeapOps H} {D : RepData2 ops}

structure Rel (ops : HeapOps H) (D : RepData2 ops) where
  VR : World → H → Array Cell → VCell → Val → Prop
  Inv : World → H → SSt → Prop
  Ext : H → Array Cell → H → Array Cell → Prop
  /-- last argument: the bound names not readable yet -/
  ER : World → H → Ctx → Nat → Env → (Text → Prop) → Prop
  /-- compiler fuel, context, bound names, unreadable names, tail flag -/
  Frag : Nat → Ctx → (Text → Prop) → (Text → Prop) → Bool → Datum → Prop
  ELaws : Prop

variable {R : Rel ops D}

structure Run (R : Rel ops D) (W' : World) (s : MSt H) (len : Nat) (σ σ' : SSt) (w : Val) (s' : MSt H) : Prop where
  steps : Steps ops s s'
  ipL : s'.ipL = s.ipL
  ipO : s'.ipO = s.ipO + len
  bp : s'.bp = s.bp
  ep : s'.ep = s.ep
  stack : LiveEq s.stack s'.stack
  swf : SWF s'.stack
  acc : R.VR W' s'.heap σ'.store s'.acc w
  inv : R.Inv W' s'.heap σ'
  ext : R.Ext s.heap σ.store s'.heap σ'.store

structure Ret (R : Rel ops D) (W' : World) (s : MSt H) (σ σ' : SSt) (w : Val) (fr : Frame) (s' : MSt H) : Prop where
  steps : Steps ops s s'
  ipL : s'.ipL = fr.lc
  ipO : s'.ipO = fr.oc
  ep : s'.ep = fr.epc
  bp : s'.bp = fr.bpc
  stack : LiveEq fr.st0 s'.stack
  swf : SWF s'.stack
  acc : R.VR W' s'.heap σ'.store s'.acc w
  inv : R.Inv W' s'.heap σ'
  ext : R.Ext s.heap σ.store s'.heap σ'.store

/-- `base`: the part of the stack that is certainly still there -/
structure ErrRun (R : Rel ops D) (W' : World) (s : MSt H) (base : Stack) (σ σ' : SSt) (c : ErrClass) (sf : MSt H)
    (e' : Err) : Prop where
  steps : Steps ops s sf
  fails : step ops sf = .err e'
  cls : machClass e' = specClass c
  stack : StackExt base sf.stack
  swf : SWF sf.stack
  inv : R.Inv W' sf.heap σ'
  ext : R.Ext s.heap σ.store sf.heap σ'.store

/-- in tail position `bp` points at the frame `fr` -/
def ExprOut (R : Rel ops D) (W : World) (s : MSt H) (len : Nat) (σ : SSt) (tail : Bool) (fr : Frame) :
    Res Val → Prop
  | .ok w σ' => ∃ W' s', W.le W' ∧ (Run R W' s len σ σ' w s' ∨ (tail = true ∧ Ret R W' s σ σ' w fr s'))
  | .err cl σ' => R.ELaws → cl ≠ .syntax →
      ∃ W' sf e', W.le W' ∧ ErrRun R W' s (errBase tail s fr) σ σ' cl sf e'
  | .timeout => True

/-- `cst'.lambdas <+: D.final`: a `<lambda i>` operand indexes the table of the WHOLE program (`D.final`, addresses
    `D.LM`); sub-expressions get it through `growsOK`. The relations of stage 2 ignore `us`, so nothing determines it
    there and its uses say `(us := fun _ => False)`. -/
def ExprRes (R : Rel ops D) (n : Nat) : Prop :=
  ∀ f cst c base tail e cst' code (ρ : Env) (us : Text → Prop), R.Frag f c (bound ρ) us tail e → CtxOK c →
  compileExpr f cst c base tail e = .ok (cst', code) → cst'.lambdas <+: D.final →
  ∀ (σ : SSt) (W : World) (s : MSt H) (fr : Frame), CodeAt2 D c.envmap s.heap σ.store s.ipL base code → s.ipO = base →
    R.Inv W s.heap σ → R.ER W s.heap c s.ep ρ us → SWF s.stack → (tail = true → FrameAt s.stack s.bp fr) →
  ExprOut R W s code.length σ tail fr ((evalN n).eval e ρ σ)

structure ExtLaws (R : Rel ops D) : Prop where
  ext_refl : ∀ h S, R.Ext h S h S
  ext_trans : ∀ {h1 S1 h2 S2 h3 S3}, R.Ext h1 S1 h2 S2 → R.Ext h2 S2 h3 S3 → R.Ext h1 S1 h3 S3
  ext2 : ∀ {h S h' S'}, R.Ext h S h' S' → Ext2 D h S h' S'
  er_ext : ∀ {W W' h h' S S' c ep ρ us}, R.ER W h c ep ρ us → R.Ext h S h' S' → W.le W' → R.ER W' h' c ep ρ us

structure Laws (R : Rel ops D) : Prop extends ExtLaws R where
  truth : ∀ {W h S v w}, R.VR W h S v w → (ops.deref h v = .bool false ↔ w = .bool false)
  void : ∀ W h S, R.VR W h S .void .void

theorem Run.append {W1 W2 : World} {s s1 s2 : MSt H} {len1 len2 : Nat} {σ σ1 σ2 : SSt} {v w : Val} (L : ExtLaws R)
    (r1 : Run R W1 s len1 σ σ1 v s1) (r2 : Run R W2 s1 len2 σ1 σ2 w s2) : Run R W2 s (len1 + len2) σ σ2 w s2 :=
  ⟨r1.steps.trans r2.steps, r2.ipL.trans r1.ipL, by rw [r2.ipO, r1.ipO, Nat.add_assoc],
   r2.bp.trans r1.bp, r2.ep.trans r1.ep, r1.stack.trans r2.stack, r2.swf, r2.acc, r2.inv, L.ext_trans r1.ext r2.ext⟩

theorem Run.step_before {W : World} {s s' : MSt H} {o len len' : Nat} {σ σ' : SSt} {w : Val}
    (hs : step ops s = .ok ({ s with ipO := o }, false))
    (r : Run R W { s with ipO := o } len σ σ' w s') (ho : o + len = s.ipO + len') : Run R W s len' σ σ' w s' :=
  ⟨.cons hs r.steps, r.ipL, by rw [r.ipO]; exact ho, r.bp, r.ep, r.stack, r.swf, r.acc, r.inv, r.ext⟩

theorem Run.step_after {W : World} {s s' : MSt H} {o len len' : Nat} {σ σ' : SSt} {w : Val}
    (r : Run R W s len σ σ' w s') (hs : step ops s' = .ok ({ s' with ipO := o }, false)) (ho : o = s.ipO + len') :
    Run R W s len' σ σ' w { s' with ipO := o } :=
  ⟨r.steps.trans (Steps.one hs), r.ipL, ho, r.bp, r.ep, r.stack, r.swf, r.acc, r.inv, r.ext⟩

theorem Ret.prepend {W : World} {s s1 s' : MSt H} {σ σ1 σ' : SSt} {w : Val} {fr : Frame} (L : ExtLaws R)
    (hst : Steps ops s s1) (hx : R.Ext s.heap σ.store s1.heap σ1.store) (q : Ret R W s1 σ1 σ' w fr s') :
    Ret R W s σ σ' w fr s' :=
  ⟨hst.trans q.steps, q.ipL, q.ipO, q.ep, q.bp, q.stack, q.swf, q.acc, q.inv, L.ext_trans hx q.ext⟩

theorem ErrRun.after {W' : World} {s s1 sf : MSt H} {base base1 : Stack} {σ σ1 σ' : SSt} {c : ErrClass} {e' : Err}
    (L : ExtLaws R) (hst : Steps ops s s1) (hx : R.Ext s.heap σ.store s1.heap σ1.store) (hb : StackExt base base1)
    (r : ErrRun R W' s1 base1 σ1 σ' c sf e') : ErrRun R W' s base σ σ' c sf e' :=
  ⟨hst.trans r.steps, r.fails, r.cls, hb.trans r.stack, r.swf, r.inv, L.ext_trans hx r.ext⟩

theorem ErrRun.lift {W' : World} {s sf : MSt H} {σ σ' : SSt} {c : ErrClass} {e' : Err} {tail : Bool} {fr : Frame}
    (L : ExtLaws R) (hfr : tail = true → FrameAt s.stack s.bp fr) (r : ErrRun R W' s s.stack σ σ' c sf e') :
    ErrRun R W' s (errBase tail s fr) σ σ' c sf e' :=
  r.after L (.refl _) (L.ext_refl _ _) (errBase_le hfr)

theorem Run.codeAfter {W : World} {s s' : MSt H} {len : Nat} {σ σ' : SSt} {w : Val} (L : ExtLaws R)
    (r : Run R W s len σ σ' w s') {em : List (Text × Source)} {base : Nat} {code : List BC}
    (hc : CodeAt2 D em s.heap σ.store s.ipL base code) : CodeAt2 D em s'.heap σ'.store s'.ipL base code := by
  rw [r.ipL]; exact hc.ext (L.ext2 r.ext)

theorem Run.envRep {W W1 : World} {s s' : MSt H} {len : Nat} {σ σ' : SSt} {w : Val} (L : ExtLaws R)
    (r : Run R W1 s len σ σ' w s') (hw1 : W.le W1) {c : Ctx} {ρ : Env} {us : Text → Prop}
    (her : R.ER W s.heap c s.ep ρ us) : R.ER W1 s'.heap c s'.ep ρ us := by
  rw [r.ep]; exact L.er_ext her r.ext hw1

theorem Run.frameAt {W : World} {s s' : MSt H} {len : Nat} {σ σ' : SSt} {w : Val}
    (r : Run R W s len σ σ' w s') {tail : Bool} {fr : Frame} (hfr : tail = true → FrameAt s.stack s.bp fr) :
    tail = true → FrameAt s'.stack s'.bp fr := by
  intro ht; rw [r.bp]; exact (hfr ht).of_liveEq r.stack

theorem ExprRes.ok {n : Nat} (h : ExprRes R n) {f : Nat} {cst cst' : CState} {c : Ctx} {base : Nat} {e : Datum}
    {code : List BC} {ρ : Env} {us : Text → Prop} (hf : R.Frag f c (bound ρ) us false e) (hcx : CtxOK c)
    (hcomp : compileExpr f cst c base false e = .ok (cst', code)) (hpre : cst'.lambdas <+: D.final)
    {σ σ' : SSt} {w : Val} (hev : (evalN n).eval e ρ σ = .ok w σ') {W : World} {s : MSt H}
    (hc : CodeAt2 D c.envmap s.heap σ.store s.ipL base code) (hip : s.ipO = base) (hi : R.Inv W s.heap σ)
    (her : R.ER W s.heap c s.ep ρ us) (hw : SWF s.stack) : ∃ W' s', W.le W' ∧ Run R W' s code.length σ σ' w s' := by
  -- the frame is only looked at when `tail = true`: any will do
  have o := h f cst c base false e cst' code ρ us hf hcx hcomp hpre σ W s ⟨0, 0, 0, 0, 0, s.stack⟩ hc hip hi her hw
    (by intro h; cases h)
  rw [hev] at o
  obtain ⟨W', s', hw', r | ⟨ht, _⟩⟩ := o
  · exact ⟨W', s', hw', r⟩
  · cases ht

theorem ExprRes.err {n : Nat} (h : ExprRes R n) {f : Nat} {cst cst' : CState} {c : Ctx} {base : Nat} {e : Datum}
    {code : List BC} {ρ : Env} {us : Text → Prop} (hf : R.Frag f c (bound ρ) us false e) (hcx : CtxOK c)
    (hcomp : compileExpr f cst c base false e = .ok (cst', code)) (hpre : cst'.lambdas <+: D.final)
    {σ σ' : SSt} {cl : ErrClass} (hev : (evalN n).eval e ρ σ = .err cl σ') (LE : R.ELaws) (hcs : cl ≠ .syntax)
    {W : World} {s : MSt H}
    (hc : CodeAt2 D c.envmap s.heap σ.store s.ipL base code) (hip : s.ipO = base) (hi : R.Inv W s.heap σ)
    (her : R.ER W s.heap c s.ep ρ us) (hw : SWF s.stack) :
    ∃ W' sf e', W.le W' ∧ ErrRun R W' s s.stack σ σ' cl sf e' := by
  have o := h f cst c base false e cst' code ρ us hf hcx hcomp hpre σ W s ⟨0, 0, 0, 0, 0, s.stack⟩ hc hip hi her hw
    (by intro h; cases h)
  rw [hev] at o
  exact o LE hcs

/-- `fin`: how a fall-through of the rest ends the whole -/
theorem ExprOut.after (L : ExtLaws R) {W W1 : World} {s s1 : MSt H} {len len1 len2 o : Nat} {σ σ1 : SSt} {v : Val}
    {tail : Bool} {fr : Frame} {r : Res Val} (r1 : Run R W1 s len1 σ σ1 v s1) (hw1 : W.le W1)
    (hj : step ops s1 = .ok ({ s1 with ipO := o }, false))
    (fin : ∀ W3 σ' w s3, Run R W3 { s1 with ipO := o } len2 σ1 σ' w s3 → ∃ s4, Run R W3 s len σ σ' w s4)
    (o2 : ExprOut R W1 { s1 with ipO := o } len2 σ1 tail fr r) : ExprOut R W s len σ tail fr r := by
  cases r with
  | ok w σ' =>
    obtain ⟨W3, s3, hw3, r3 | ⟨ht, q3⟩⟩ := o2
    · obtain ⟨s4, r4⟩ := fin W3 σ' w s3 r3
      exact ⟨W3, s4, World.le_trans hw1 hw3, .inl r4⟩
    · exact ⟨W3, s3, World.le_trans hw1 hw3, .inr ⟨ht, Ret.prepend L (r1.steps.trans (Steps.one hj)) r1.ext q3⟩⟩
  | err cl σ' =>
    intro LE hcs
    obtain ⟨W3, sf, e', hw3, r3⟩ := o2 LE hcs
    exact ⟨W3, sf, e', World.le_trans hw1 hw3, ErrRun.after L (r1.steps.trans (Steps.one hj)) r1.ext
      (errBase_mono (s1 := { s1 with ipO := o }) r1.stack.ext) r3⟩
  | timeout => trivial

/-- what the specification does when the test is false is a parameter `alt` (the alternative, or `pure void` where
    the form has none), with the outcome `hAlt` of its code `acode` -/
theorem case_if (L : Laws R) {n : Nat} (ih : ExprRes R n)
    {f : Nat} {cst cst1 cst2 : CState} {c : Ctx} {tail : Bool} {t cn : Datum} {tcode ccode acode : List BC} {ρ : Env}
    {us : Text → Prop} {W : World} {s : MSt H} {fr : Frame} {σ : SSt}
    (hft : R.Frag f c (bound ρ) us false t) (hfc : R.Frag f c (bound ρ) us tail cn) (hcx : CtxOK c)
    (hct : compileExpr f cst c s.ipO false t = .ok (cst1, tcode))
    (hcc : compileExpr f cst1 c (s.ipO + tcode.length + 2) tail cn = .ok (cst2, ccode))
    (hpre2 : cst2.lambdas <+: D.final)
    (hc : CodeAt2 D c.envmap s.heap σ.store s.ipL s.ipO
      (tcode ++ [BC.op .jnt, BC.target (s.ipO + tcode.length + 2 + ccode.length + 2)] ++ ccode
        ++ [BC.op .jmp, BC.target (s.ipO + tcode.length + 2 + ccode.length + 2 + acode.length)] ++ acode))
    (hi : R.Inv W s.heap σ) (her : R.ER W s.heap c s.ep ρ us) (hw : SWF s.stack)
    (hfr : tail = true → FrameAt s.stack s.bp fr) {alt : M Val}
    (hAlt : ∀ σ1 (W1 : World) (s1 : MSt H), s1.ipO = s.ipO + tcode.length + 2 + ccode.length + 2 →
      CodeAt2 D c.envmap s1.heap σ1.store s1.ipL s1.ipO acode → R.Inv W1 s1.heap σ1 →
      R.ER W1 s1.heap c s1.ep ρ us → SWF s1.stack → (tail = true → FrameAt s1.stack s1.bp fr) →
      ExprOut R W1 s1 acode.length σ1 tail fr (alt σ1)) :
    ExprOut R W s (tcode.length + 2 + ccode.length + 2 + acode.length) σ tail fr
      (((evalN n).eval t ρ >>= fun v => if Spec.Eval.truthy v = true then (evalN n).eval cn ρ else alt) σ) := by
  have LX := L.toExtLaws
  have hcT := hc.left.left.left.left
  have hcJ := hc.left.left.left.right
  have hcC := hc.left.left.right
  have hcK := hc.left.right
  have hcA := hc.right
  have hpre1 : cst1.lambdas <+: D.final := ((growsOK _).expr hcc).trans hpre2
  cases het : (evalN n).eval t ρ σ with
  | timeout => rw [bind_timeout het]; trivial
  | err cl σ' =>
    rw [bind_err het]
    intro LE hcs
    obtain ⟨W', sf, e', hw', r⟩ := ih.err hft hcx hct hpre1 het LE hcs hcT rfl hi her hw
    exact ⟨W', sf, e', hw', r.lift LX hfr⟩
  | ok v σ1 =>
    rw [bind_ok het]
    obtain ⟨W1, s1, hw1, r1⟩ := ih.ok hft hcx hct hpre1 het hcT rfl hi her hw
    have hcJ1 := (r1.codeAfter LX hcJ).cast r1.ipO.symm
    have her1 := r1.envRep LX hw1 her
    have hfr1 := r1.frameAt hfr
    have ipo1 := r1.ipO
    by_cases htr : Spec.Eval.truthy v = true
    · simp only [htr, if_true]
      have hj := step_jnt_true hcJ1.1 (hcJ1.op 0 rfl) (hcJ1.targetCell 1 rfl) fun e =>
        not_false_of_truthy htr ((L.truth r1.acc).mp e)
      have hcC1 : CodeAt2 D c.envmap s1.heap σ1.store s1.ipL (s.ipO + tcode.length + 2) ccode :=
        (r1.codeAfter LX hcC).cast (by simp only [List.length_append, Nat.add_assoc]; rfl)
      refine ExprOut.after LX r1 hw1 hj (fun W3 σ' w s3 r3 => ?_)
        (ih _ _ _ _ _ _ _ _ _ _ hfc hcx hcc hpre2 σ1 W1 { s1 with ipO := s1.ipO + 2 } fr hcC1
          (by show s1.ipO + 2 = _; omega) r1.inv her1 r1.swf hfr1)
      have r13 := r1.append LX (Run.step_before (len' := 2 + ccode.length) hj r3 (by show _ = s1.ipO + _; omega))
      have hcK3 : CodeAt2 D c.envmap s3.heap σ'.store s3.ipL s3.ipO
          [BC.op .jmp, BC.target (s.ipO + tcode.length + 2 + ccode.length + 2 + acode.length)] :=
        (r13.codeAfter LX hcK).cast (by rw [r13.ipO]; simp only [List.length_append, Nat.add_assoc]; rfl)
      exact ⟨_, r13.step_after (step_jmp hcK3.1 (hcK3.op 0 rfl) (hcK3.targetCell 1 rfl)) (by omega)⟩
    · simp only [htr]
      have hj := step_jnt_false hcJ1.1 (hcJ1.op 0 rfl) (hcJ1.targetCell 1 rfl)
        ((L.truth r1.acc).mpr (eq_false_of_not_truthy htr))
      have hcA1 : CodeAt2 D c.envmap s1.heap σ1.store s1.ipL (s.ipO + tcode.length + 2 + ccode.length + 2) acode :=
        (r1.codeAfter LX hcA).cast (by simp only [List.length_append, Nat.add_assoc]; rfl)
      refine ExprOut.after LX r1 hw1 hj (fun W3 σ' w s3 r3 => ⟨s3, ?_⟩)
        (hAlt σ1 W1 { s1 with ipO := s.ipO + tcode.length + 2 + ccode.length + 2 } rfl hcA1 r1.inv her1 r1.swf hfr1)
      have := r1.append LX (Run.step_before (len' := 2 + ccode.length + 2 + acode.length) hj r3
        (by show _ = s1.ipO + _; omega))
      rwa [show tcode.length + (2 + ccode.length + 2 + acode.length)
          = tcode.length + 2 + ccode.length + 2 + acode.length by omega] at this

theorem if3_res (L : Laws R) {n : Nat} (ih : ExprRes R n)
    {f : Nat} {cst cst' : CState} {c : Ctx} {base : Nat} {tail : Bool} {t cn a : Datum} {code : List BC} {ρ : Env}
    {us : Text → Prop} (hft : R.Frag f c (bound ρ) us false t) (hfc : R.Frag f c (bound ρ) us tail cn)
    (hfa : R.Frag f c (bound ρ) us tail a) (hcx : CtxOK c)
    (hcomp : compileExpr (f + 1) cst c base tail
      (.pair (.sym k_if_) (.pair t (.pair cn (.pair a .nil)))) = .ok (cst', code))
    (hpre : cst'.lambdas <+: D.final) {σ : SSt} {W : World} {s : MSt H} {fr : Frame}
    (hc : CodeAt2 D c.envmap s.heap σ.store s.ipL base code) (hip : s.ipO = base)
    (hi : R.Inv W s.heap σ) (her : R.ER W s.heap c s.ep ρ us) (hw : SWF s.stack)
    (hfr : tail = true → FrameAt s.stack s.bp fr) :
    ExprOut R W s code.length σ tail fr
      (evalStep (evalN n) (.pair (.sym k_if_) (.pair t (.pair cn (.pair a .nil)))) ρ σ) := by
  obtain ⟨cst1, cst2, tcode, ccode, acode, hct, hcc, hca, rfl⟩ := compile_if3_inv2 hcomp
  subst hip
  rw [evalStep_if3, show (tcode ++ [BC.op .jnt, BC.target (s.ipO + tcode.length + 2 + ccode.length + 2)] ++ ccode
      ++ [BC.op .jmp, BC.target (s.ipO + tcode.length + 2 + ccode.length + 2 + acode.length)] ++ acode).length
      = tcode.length + 2 + ccode.length + 2 + acode.length by
    simp only [List.length_append, List.length_cons, List.length_nil]]
  exact case_if L ih hft hfc hcx hct hcc (((growsOK _).expr hca).trans hpre) hc hi her hw hfr
    fun σ1 W1 s1 hip1 hcA hi1 her1 hw1 hfr1 =>
      ih _ _ _ _ _ _ _ _ _ _ hfa hcx hca hpre σ1 W1 s1 fr (hip1 ▸ hcA) hip1 hi1 her1 hw1 hfr1

theorem if2_res (L : Laws R) {n : Nat} (ih : ExprRes R n)
    {f : Nat} {cst cst' : CState} {c : Ctx} {base : Nat} {tail : Bool} {t cn : Datum} {code : List BC} {ρ : Env}
    {us : Text → Prop} (hft : R.Frag f c (bound ρ) us false t) (hfc : R.Frag f c (bound ρ) us tail cn) (hcx : CtxOK c)
    (hcomp : compileExpr (f + 1) cst c base tail (.pair (.sym k_if_) (.pair t (.pair cn .nil))) = .ok (cst', code))
    (hpre : cst'.lambdas <+: D.final) {σ : SSt} {W : World} {s : MSt H} {fr : Frame}
    (hc : CodeAt2 D c.envmap s.heap σ.store s.ipL base code) (hip : s.ipO = base)
    (hi : R.Inv W s.heap σ) (her : R.ER W s.heap c s.ep ρ us) (hw : SWF s.stack)
    (hfr : tail = true → FrameAt s.stack s.bp fr) :
    ExprOut R W s code.length σ tail fr (evalStep (evalN n) (.pair (.sym k_if_) (.pair t (.pair cn .nil))) ρ σ) := by
  obtain ⟨cst1, tcode, ccode, hct, hcc, rfl⟩ := compile_if2_inv2 hcomp
  subst hip
  rw [evalStep_if2, show (tcode ++ [BC.op .jnt, BC.target (s.ipO + tcode.length + 2 + ccode.length + 2)] ++ ccode
      ++ [BC.op .jmp, BC.target (s.ipO + tcode.length + 2 + ccode.length + 2 + 3)] ++ [BC.op .movImm, BC.void, BC.acc]).length
      = tcode.length + 2 + ccode.length + 2 + [BC.op .movImm, BC.void, BC.acc].length by
    simp only [List.length_append, List.length_cons, List.length_nil]]
  exact case_if (acode := [BC.op .movImm, BC.void, BC.acc]) (alt := pure .void) L ih hft hfc hcx hct hcc hpre hc hi her
    hw hfr fun σ1 W1 s1 _ hcV hi1 _ hw1 _ => show ExprOut R W1 s1 3 σ1 tail fr (.ok .void σ1) from ⟨W1, _,
      World.le_refl _, .inl ⟨Steps.one (run2_movImm_void hcV), rfl, rfl, rfl, rfl, LiveEq.refl _, hw1, L.void _ _ _, hi1,
        L.ext_refl _ _⟩⟩

end Marwood.Lemmas.CompileSim
