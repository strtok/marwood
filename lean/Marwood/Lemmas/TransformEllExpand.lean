import Marwood.Lemmas.TransformEllUnit
/-!
# What `expand` computes on a template of class `tP`

`expT pat B es T`: a group `U ...` is its rounds `unitAt … 0 U`, `unitAt … 1 U`, … as long as they
yield something; everything else is copied, a variable replaced by its first item. `group_run`: the loop
spends exactly one unit of fuel per round (`g + |ds| + 1` in, `g` left for the rest of the list), so
`expand_run` is a plain forward statement: from `PEnv.new pat B`, with fuel `2·(|B|+1)·|T|`, `expand`
answers `expT T` and the cursors are back where they started — for every `B`, matched or not.
T17.2 is "it answers". T17.1 compares `expT` with R7RS's `inst` under `Corr`: round `j` of a group is
`inst` with the bindings of iteration `j` (`unitAt_inst`), so `expT T` is `inst T` unless the
specification answers `mismatch` (`expT_sound`); `expand_groups` reads this off for a run with any fuel.
-/
namespace Marwood.Transform
open Marwood Marwood.Spec.Match Marwood.Transform.Term

theorem findIter_new (k : Datum) : ∀ (l : List Datum), (l.any fun it => cellEq it k) = true →
    findIter k (l.map fun it => (it, (none : Option Nat))) = some none := by
  intro l
  induction l with
  | nil => intro h; simp at h
  | cons a l ih =>
    intro h
    simp only [List.any_cons, Bool.or_eq_true] at h
    by_cases ha : cellEq a k = true
    · simp [findIter, ha]
    · have ha' : cellEq a k = false := by simpa using ha
      rcases h with h | h
      · exact absurd h ha
      · simp [findIter, ha', ih h]

theorem resetIters_new (pat : Pattern) (B : Bindings) (env : PEnv)
    (h : SameKeys (PEnv.new pat B) env) : env.resetIters = PEnv.new pat B := by
  obtain ⟨hb, hk⟩ := h
  cases env with
  | mk b it =>
    simp only [PEnv.new] at hb hk
    simp only [PEnv.resetIters, PEnv.new, PEnv.mk.injEq]
    refine ⟨hb, ?_⟩
    have : it.map (fun x => (x.1, (none : Option Nat))) = (it.map Prod.fst).map fun k => (k, none) := by
      simp [Function.comp_def]
    rw [this, hk]
    simp [Function.comp_def]

theorem proj_length_le (k : Datum) : ∀ B : Bindings, (proj k B).length ≤ B.length := by
  intro B
  induction B with
  | nil => exact Nat.le_refl _
  | cons b B ih =>
    obtain ⟨k', v⟩ := b
    simp only [proj]
    split <;> simp only [List.length_cons] <;> omega

theorem new_eq (pat : Pattern) (B : Bindings) : (⟨B, (PEnv.new pat B).iters⟩ : PEnv) = PEnv.new pat B := rfl

def groupCont (ell : Datum) (p : Pattern) (rest' : List Datum) (f : Nat) (w : List Datum) (env : PEnv) :
    Res (Option Datum × PEnv) :=
  match rest' with
  | t :: r => expandLoop ell p f t r w env
  | [] => .ok (some (Datum.ofList w), env)

section groups
variable (s : Setup) (pat : Pattern) (ev : List Text) (B : Bindings)
  (hexp : ∀ x, pat.isExpandedVariable (.sym x) = decide (x ∈ ev))
  (hsub : ∀ x, x ∈ ev → pat.isVariable (.sym x) = true)

theorem unitOK_spec {es : Text} {U : Datum} (h : unitOK es ev U = true) :
    plain es U = true ∧ (evSyms ev U).Nodup ∧ evSyms ev U ≠ [] := by
  simp only [unitOK, Bool.and_eq_true, decide_eq_true_eq, Bool.not_eq_true'] at h
  refine ⟨h.1.1, h.1.2, ?_⟩
  intro he; rw [he] at h; simp at h

include hexp in
theorem stage_new : Stage B ev (PEnv.new pat B).iters (fun _ => 0) := by
  intro x hx
  have he : pat.isExpandedVariable (.sym x) = true := by rw [hexp]; simpa using hx
  exact ⟨none, findIter_new _ _ he, CurAt_none B x⟩

include hexp hsub in
/-- rounds `j`, …, `j + |ds| - 1` yield `ds`, round `j + |ds|` nothing: one unit of fuel per round, then
    the rest of the list with the cursors reset -/
theorem group_run (U : Datum) (hU : unitOK s.es ev U = true) (rest' : List Datum) (g : Nat)
    (hg : 2 * dsize U ≤ g + 1) :
    ∀ (ds : List Datum) (j : Nat), (∀ (i : Nat) d, ds[i]? = some d → unitAt pat B (j + i) U = some d) →
      unitAt pat B (j + ds.length) U = none →
      ∀ (v : List Datum) (iters : List (Datum × Option Nat)) (σ : Text → Nat), Stage B ev iters σ →
        (∀ x ∈ evSyms ev U, σ x = j) → SameKeys (PEnv.new pat B) ⟨B, iters⟩ →
        expandLoop s.ell pat (g + ds.length + 1) U (s.ell :: rest') v ⟨B, iters⟩ =
          groupCont s.ell pat rest' g (v ++ ds) (PEnv.new pat B) := by
  obtain ⟨hpl, hnd, -⟩ := unitOK_spec ev hU
  intro ds
  induction ds with
  | nil =>
    intro j _ hend v iters σ hst hσ hsk
    simp only [List.length_nil, Nat.add_zero, List.append_nil] at hend ⊢
    obtain ⟨iters1, hcx, -⟩ := (unit_run s pat ev B hexp hsub j g).1 U iters σ hpl hnd hst hσ hg
    rw [hend] at hcx
    rw [expandLoop_succ, hcx]
    simp only [peekIs_ell_cons, Bool.not_true, Bool.false_eq_true, if_false, List.tail_cons]
    rw [resetIters_new pat B _ (hsk.trans ((expand_sameKeys s.ell pat g).1 _ _ _ _ hcx))]
    rfl
  | cons d ds ih =>
    intro j hds hend v iters σ hst hσ hsk
    have hfuel : g + (d :: ds).length + 1 = (g + ds.length + 1) + 1 := by simp only [List.length_cons]; omega
    obtain ⟨iters1, hcx, hst1⟩ := (unit_run s pat ev B hexp hsub j (g + ds.length + 1)).1 U iters σ hpl hnd
      hst hσ (by omega)
    have hd : unitAt pat B j U = some d := hds 0 d rfl
    rw [hd] at hcx hst1
    rw [hfuel, expandLoop_succ, hcx]
    simp only [peekIs_ell_cons, if_true]
    rw [ih (j + 1) (fun i d' h => by rw [Nat.add_assoc, Nat.add_comm 1 i]; exact hds (i + 1) d' (by simpa using h))
      (by rw [Nat.add_assoc, Nat.add_comm 1]; exact hend) (v ++ [d]) iters1 _ (hst1 rfl)
      (fun x hx => by simp [bump, hx, hσ x hx])
      (hsk.trans ((expand_sameKeys s.ell pat _).1 _ _ _ _ hcx)), List.append_assoc]
    rfl

end groups

section
variable (pat : Pattern) (B : Bindings)

/-- at most `k` rounds -/
def roundsFrom (U : Datum) : Nat → Nat → List Datum
  | 0, _ => []
  | k + 1, j =>
    match unitAt pat B j U with
    | some d => d :: roundsFrom U k (j + 1)
    | none => []

theorem roundsFrom_get (U : Datum) : ∀ (k j i : Nat) (d : Datum),
    (roundsFrom pat B U k j)[i]? = some d → unitAt pat B (j + i) U = some d := by
  intro k
  induction k with
  | zero => intro j i d h; simp [roundsFrom] at h
  | succ k ih =>
    intro j i d h
    unfold roundsFrom at h
    cases hu : unitAt pat B j U with
    | none => rw [hu] at h; simp at h
    | some d0 =>
      rw [hu] at h
      cases i with
      | zero => simp at h; rw [← h]; exact hu
      | succ i =>
        have := ih (j + 1) i d (by simpa using h)
        rwa [Nat.add_assoc, Nat.add_comm 1 i] at this

theorem roundsFrom_end (U : Datum) : ∀ (k j m : Nat), m < k → unitAt pat B (j + m) U = none →
    unitAt pat B (j + (roundsFrom pat B U k j).length) U = none ∧ (roundsFrom pat B U k j).length ≤ m := by
  intro k
  induction k with
  | zero => intro j m hm; omega
  | succ k ih =>
    intro j m hm hnone
    unfold roundsFrom
    cases hu : unitAt pat B j U with
    | none => exact ⟨hu, Nat.zero_le _⟩
    | some d0 =>
      cases m with
      | zero => rw [Nat.add_zero, hu] at hnone; cases hnone
      | succ m =>
        obtain ⟨h1, h2⟩ := ih (j + 1) m (by omega) (by rw [Nat.add_assoc, Nat.add_comm 1 m]; exact hnone)
        simp only [List.length_cons]
        exact ⟨by rw [← Nat.add_assoc j, Nat.add_right_comm j]; exact h1, by omega⟩

/-- a group has at most `|B|` rounds: an ellipsis variable of `U` has run out by then -/
def expT (es : Text) : Datum → Option Datum
  | .sym x => varAt pat B 0 x
  | .pair a (.pair e rest) =>
    if e = .sym es then (expT es rest).map (appendSpine (roundsFrom pat B a (B.length + 1) 0))
    else pairO (expT es a) (expT es (.pair e rest))
  | .pair a d => pairO (expT es a) (expT es d)
  | d => some d

end

section template
variable (s : Setup) (pat : Pattern) (ev : List Text) (B : Bindings)
  (hexp : ∀ x, pat.isExpandedVariable (.sym x) = decide (x ∈ ev))
  (hsub : ∀ x, x ∈ ev → pat.isVariable (.sym x) = true)

theorem expT_cons_ell (a : Datum) (rest : List Datum) :
    expT pat B s.es (Datum.ofList (a :: s.ell :: rest)) =
      (expT pat B s.es (Datum.ofList rest)).map (appendSpine (roundsFrom pat B a (B.length + 1) 0)) := by
  simp [Datum.ofList, expT, Setup.ell]

theorem expT_cons_ne (a : Datum) (rest : List Datum) (h : peekIs s.ell rest = false) :
    expT pat B s.es (Datum.ofList (a :: rest)) =
      pairO (expT pat B s.es a) (expT pat B s.es (Datum.ofList rest)) := by
  cases rest with
  | nil => simp [Datum.ofList, expT]
  | cons e rest' =>
    have he : e ≠ .sym s.es := by
      intro he; subst he; simp [peekIs, Setup.ell] at h
    simp [Datum.ofList, expT, he]

theorem expT_datum {T : Datum} (h : isDatumPat T = true) : expT pat B s.es T = some T := by
  cases T <;> simp [isDatumPat] at h <;> simp [expT]

include hexp hsub

theorem rounds_spec (U : Datum) (hU : unitOK s.es ev U = true) :
    (∀ (i : Nat) d, (roundsFrom pat B U (B.length + 1) 0)[i]? = some d → unitAt pat B (0 + i) U = some d) ∧
    unitAt pat B (0 + (roundsFrom pat B U (B.length + 1) 0).length) U = none ∧
    (roundsFrom pat B U (B.length + 1) 0).length ≤ B.length := by
  obtain ⟨hpl, -, hne⟩ := unitOK_spec ev hU
  obtain ⟨x, hx⟩ := List.exists_mem_of_ne_nil _ hne
  have hex := (unitAt_exhausted s pat ev B hexp hsub B.length x (proj_length_le _ B) U).1 hpl hx
  obtain ⟨h1, h2⟩ := roundsFrom_end pat B U (B.length + 1) 0 B.length (Nat.lt_succ_self _)
    (by rw [Nat.zero_add]; exact hex)
  exact ⟨roundsFrom_get pat B U _ 0, h1, h2⟩

/-- `K` stands for `2·(|B|+1)` so that the fuel arithmetic stays linear for `omega` -/
theorem expand_run (K : Nat) (hK : K = 2 * (B.length + 1)) : ∀ f : Nat,
    (∀ T, tP s.es ev T = true → K * dsize T ≤ f + 1 →
        ∃ env', expand s.ell pat f T (PEnv.new pat B) = .ok (expT pat B s.es T, env') ∧
          ((expT pat B s.es T).isSome = true → env' = PEnv.new pat B)) ∧
    (∀ cur rest v, tS s.es ev (Datum.ofList (cur :: rest)) = true → K * wsum (cur :: rest) ≤ f →
        ∃ env', expandLoop s.ell pat f cur rest v (PEnv.new pat B) =
            .ok ((expT pat B s.es (Datum.ofList (cur :: rest))).map (appendSpine v), env') ∧
          ((expT pat B s.es (Datum.ofList (cur :: rest))).isSome = true → env' = PEnv.new pat B)) := by
  have hK2 : 2 ≤ K := by omega
  intro f
  -- strong induction: after a group the loop goes on with the fuel its rounds left
  induction f using Nat.strongRecOn with
  | ind f ih =>
  cases f with
  | zero =>
    constructor
    · intro T _ hf
      have := Nat.mul_le_mul hK2 (dsize_pos T); omega
    · intro cur rest v _ hf
      have h1 : 1 ≤ wsum (cur :: rest) := by have := dsize_pos cur; simp only [wsum]; omega
      have := Nat.mul_le_mul hK2 h1; omega
  | succ f =>
    constructor
    · intro T hT hf
      cases hTeq : T with
      | sym x =>
        rw [hTeq] at hT
        simp only [tP, Bool.and_eq_true, bne_iff_ne, ne_eq, Bool.not_eq_true', decide_eq_false_iff_not] at hT
        obtain ⟨iters', h1, -, h3⟩ := expand_sym_at s pat ev B hexp hsub f x (PEnv.new pat B).iters
          (fun _ => 0) 0 (stage_new pat ev B hexp) (fun _ => rfl)
        rw [h3 hT.2, new_eq] at h1
        exact ⟨_, h1, fun _ => rfl⟩
      | pair a dd =>
        rw [hTeq] at hT hf
        rw [tP_pair] at hT
        have hnil := tS_endsInNil _ _ _ hT
        have hdeq : dd = Datum.ofList (iterList dd) := endsInNil_ofList (by simpa [endsInNil] using hnil)
        have hpeq : Datum.pair a dd = Datum.ofList (a :: iterList dd) := by
          simp only [Datum.ofList]; rw [← hdeq]
        have h1 : wsum (a :: iterList dd) ≤ dsize a + dsize dd := by
          have := wsum_iterList_le dd; simp only [wsum]; omega
        have h2 := Nat.mul_le_mul_left K h1
        have h3 : K * dsize (.pair a dd) = K * (dsize a + dsize dd) + K := by
          simp only [dsize]; rw [Nat.mul_add, Nat.mul_one]
        rw [expand_pair]
        rw [hpeq] at hT ⊢
        obtain ⟨env', he, hs'⟩ := (ih f (Nat.lt_succ_self f)).2 a (iterList dd) [] hT (by omega)
        refine ⟨env', ?_, hs'⟩
        rw [he]; cases expT pat B s.es (Datum.ofList (a :: iterList dd)) <;> rfl
      | vec v => rw [hTeq] at hT; simp [tP] at hT
      | _ =>
        have hd : isDatumPat T = true := by rw [hTeq]; rfl
        rw [← hTeq, expand_datum _ _ _ _ _ hd, expT_datum s pat B hd]
        exact ⟨_, rfl, fun _ => rfl⟩
    · intro cur rest v hTS hf
      have hsplit : K * wsum (cur :: rest) = K * dsize cur + K * wsum rest := by
        simp only [wsum]; rw [Nat.mul_add]
      have hKc := Nat.mul_le_mul_right (dsize cur) hK2
      have hpos := dsize_pos cur
      by_cases hpk : peekIs s.ell rest = true
      · -- a group `cur ... rest'`: its rounds, then the rest with the fuel they left
        obtain ⟨rest', rfl⟩ := (peekIs_ell_iff s rest).mp hpk
        have hsplit' := hTS
        simp only [Setup.ell] at hsplit'
        rw [tS_cons_ell, Bool.and_eq_true] at hsplit'
        obtain ⟨hU, hrest⟩ := hsplit'
        obtain ⟨hget, hend, hlen⟩ := rounds_spec s pat ev B hexp hsub cur hU
        rw [expT_cons_ell]
        generalize roundsFrom pat B cur (B.length + 1) 0 = ds at hget hend hlen
        have hw : K * wsum (s.ell :: rest') = K + K * wsum rest' := by
          simp only [wsum, Setup.ell, dsize, Nat.mul_add, Nat.mul_one]
        obtain ⟨g, hg⟩ : ∃ g, f + 1 = g + ds.length + 1 := ⟨f - ds.length, by omega⟩
        have hrun := group_run s pat ev B hexp hsub cur hU rest' g (by omega) ds 0 hget hend v _ _
          (stage_new pat ev B hexp) (fun _ _ => rfl) (SameKeys.refl _)
        rw [new_eq] at hrun
        rw [hg, hrun]
        cases rest' with
        | nil =>
          refine ⟨_, ?_, fun _ => rfl⟩
          simp only [groupCont, Datum.ofList, expT, Option.map_some]
          rw [appendSpine_append, show Datum.nil = Datum.ofList [] from rfl, appendSpine_ofList,
            List.append_nil]
        | cons t r =>
          obtain ⟨env', he, hs'⟩ := (ih g (by omega)).2 t r (v ++ ds) hrest (by omega)
          refine ⟨env', ?_, fun h => hs' ?_⟩
          · simp only [groupCont]
            rw [he]
            cases expT pat B s.es (Datum.ofList (t :: r)) with
            | none => rfl
            | some R => simp only [Option.map_some, appendSpine_append]
          · cases hr : expT pat B s.es (Datum.ofList (t :: r)) with
            | none => rw [hr] at h; cases h
            | some R => rfl
      · have hpk' : peekIs s.ell rest = false := by simpa using hpk
        rw [tS_cons_ne s ev cur rest hpk', Bool.and_eq_true] at hTS
        obtain ⟨hcur, hrestS⟩ := hTS
        rw [expT_cons_ne s pat B cur rest hpk']
        obtain ⟨env1, hcx, henv1⟩ := (ih f (Nat.lt_succ_self f)).1 cur hcur (by omega)
        rw [expandLoop_succ, hcx]
        simp only [hpk', Bool.false_eq_true, if_false, Bool.not_false, if_true]
        cases hu : expT pat B s.es cur with
        | none => exact ⟨env1, by rw [pairO_none_left]; rfl, by rw [pairO_none_left]; nofun⟩
        | some cell =>
          have henv := henv1 (by rw [hu]; rfl)
          subst henv
          rw [pairO_some_left]
          cases rest with
          | nil =>
            refine ⟨_, ?_, fun _ => rfl⟩
            simp only [Datum.ofList, expT, Option.map_some]
            rw [← appendSpine_snoc, show Datum.nil = Datum.ofList [] from rfl, appendSpine_ofList,
              List.append_nil]
          | cons t r =>
            obtain ⟨env', he, hs'⟩ := (ih f (Nat.lt_succ_self f)).2 t r (v ++ [cell]) hrestS
              (by simp only [wsum] at hsplit hf ⊢; omega)
            refine ⟨env', ?_, fun h => hs' ?_⟩
            · show expandLoop s.ell pat f t r (v ++ [cell]) (PEnv.new pat B) = _
              rw [he]
              cases expT pat B s.es (Datum.ofList (t :: r)) with
              | none => rfl
              | some R => simp only [Option.map_some, appendSpine_snoc]
            · cases hr : expT pat B s.es (Datum.ofList (t :: r)) with
              | none => rw [hr] at h; cases h
              | some R => rfl

end template

section
variable (ev : List Text)

theorem tP_ne_ell {es : Text} {T : Datum} (h : tP es ev T = true) : T ≠ .sym es := by
  intro he; subst he; simp [tP] at h

theorem tS_head_ne {es : Text} {q : Datum} {r : List Datum}
    (h : tS es ev (Datum.ofList (q :: r)) = true) : q ≠ .sym es := by
  intro hq
  subst hq
  cases r with
  | nil => simp [Datum.ofList, tS, tP] at h
  | cons e r' =>
    simp only [Datum.ofList, tS] at h
    split at h
    · simp [unitOK, plain] at h
    · simp [tP] at h

end

section sound
variable (s : Setup) (pat : Pattern) (ev : List Text) (B : Bindings) (bs : Binds)

theorem unitAt_inst (hc : Corr pat ev B bs) (bj : Binds) (j : Nat)
    (hbj : ∀ x, x ∉ ev → bj.lookup x = bs.lookup x) : ∀ T : Datum,
    (plain s.es T = true →
      (∀ x ∈ evSyms ev T, ∃ d, (proj (.sym x) B)[j]? = some d ∧ bj.lookup x = some (.one d)) →
      ∃ d, unitAt pat B j T = some d ∧ inst s.ctx false false T bj = .ok d) ∧
    (plain.plainTail s.es T = true →
      (∀ x ∈ evSyms ev T, ∃ d, (proj (.sym x) B)[j]? = some d ∧ bj.lookup x = some (.one d)) →
      ∃ d, unitAt pat B j T = some d ∧ inst s.ctx false false T bj = .ok d) := by
  intro T
  induction T with
  | sym x =>
    refine ⟨fun hp hr => ?_, fun h => by simp [plain.plainTail] at h⟩
    have hx : x ≠ s.es := by simpa [plain] using hp
    by_cases hxev : x ∈ ev
    · obtain ⟨d, hd, hlk⟩ := hr x (by simp [evSyms, tmplSyms, hxev])
      have he : pat.isExpandedVariable (.sym x) = true := by rw [hc.exp]; simpa using hxev
      refine ⟨d, by simp only [unitAt, varAt, (hc.ellVar x hxev).1, he, if_true, hd], ?_⟩
      unfold inst; simp [hlk]
    · have he : pat.isExpandedVariable (.sym x) = false := by rw [hc.exp]; simpa using hxev
      cases hvar : pat.isVariable (.sym x) with
      | true =>
        obtain ⟨d, hl, hp⟩ := hc.plainVar x hvar hxev
        refine ⟨d, by simp [unitAt, varAt, hvar, he, hp], ?_⟩
        unfold inst; simp [hbj x hxev, hl]
      | false =>
        refine ⟨.sym x, by simp [unitAt, varAt, hvar], ?_⟩
        unfold inst; simp [hbj x hxev, (hc.notVar x hvar).1, s.isEll_iff, beq_text, hx]
  | pair a d iha ihd =>
    have key : plain s.es a = true → plain.plainTail s.es d = true →
        (∀ x ∈ evSyms ev (.pair a d), ∃ d, (proj (.sym x) B)[j]? = some d ∧ bj.lookup x = some (.one d)) →
        ∃ r, unitAt pat B j (.pair a d) = some r ∧ inst s.ctx false false (.pair a d) bj = .ok r := by
      intro ha hd hr
      obtain ⟨hdeq, hel, _⟩ := plainTail_spec hd
      obtain ⟨a', ha1, ha2⟩ := iha.1 ha (fun x hx => hr x (by rw [evSyms_pair]; exact List.mem_append_left _ hx))
      obtain ⟨d', hd1, hd2⟩ := ihd.2 hd (fun x hx => hr x (by rw [evSyms_pair]; exact List.mem_append_right _ hx))
      refine ⟨.pair a' d', by rw [unitAt, ha1, hd1]; rfl, ?_⟩
      have := inst_cons s a (iterList d) bj (fun e => by simpa [e, Setup.ell] using plain_ne_ell ha)
        (peekIs_plain s _ hel)
      simp only [Datum.ofList] at this
      rw [← hdeq] at this
      rw [this, ha2, hd2]
    constructor
    · intro hp; simp only [plain, Bool.and_eq_true] at hp; exact key hp.1 hp.2
    · intro hp; simp only [plain.plainTail, Bool.and_eq_true] at hp; exact key hp.1 hp.2
  | vec v _ => exact ⟨fun h => by simp [plain] at h, fun h => by simp [plain.plainTail] at h⟩
  | nil => exact ⟨fun _ _ => ⟨.nil, rfl, inst_nil _ _ _ _⟩, fun _ _ => ⟨.nil, rfl, inst_nil _ _ _ _⟩⟩
  | _ => exact ⟨fun _ _ => ⟨_, rfl, inst_datum _ _ _ _ _ rfl⟩, fun h => by simp [plain.plainTail] at h⟩

theorem tS_spine {es : Text} {ev : List Text} {T : Datum} (h : tS es ev T = true) :
    T = Datum.ofList (iterList T) := endsInNil_ofList (tS_endsInNil es ev T h)

theorem tS_of_or {es : Text} {ev : List Text} {a d : Datum}
    (h : tP es ev (.pair a d) = true ∨ tS es ev (.pair a d) = true) : tS es ev (.pair a d) = true := by
  rcases h with h | h
  · rwa [tP_pair] at h
  · exact h

theorem expT_sound (hc : Corr pat ev B bs) (T : Datum) : ∀ d,
    tP s.es ev T = true ∨ tS s.es ev T = true → expT pat B s.es T = some d →
    inst s.ctx false false T bs = .mismatch ∨ inst s.ctx false false T bs = .ok d := by
  have hexp := hc.exp
  have hsub : ∀ x, x ∈ ev → pat.isVariable (.sym x) = true := fun x hx => (hc.ellVar x hx).1
  fun_induction expT pat B s.es T
  case case1 x =>
    intro d hT h
    have hT : tP s.es ev (.sym x) = true := by
      rcases hT with hT | hT
      · exact hT
      · simp [tS] at hT
    simp only [tP, Bool.and_eq_true, bne_iff_ne, ne_eq, Bool.not_eq_true', decide_eq_false_iff_not] at hT
    obtain ⟨d', h1, h2⟩ := (unitAt_inst s pat ev B bs hc bs 0 (fun _ _ => rfl) (.sym x)).1
      (by simpa [plain] using hT.1) (fun y hy => by simp [evSyms, tmplSyms, hT.2] at hy)
    rw [unitAt, h] at h1
    cases h1
    exact .inr h2
  case case2 U rest ih =>
    intro d hT h
    have hT := tS_of_or hT
    rw [tS, if_pos rfl, Bool.and_eq_true] at hT
    obtain ⟨hU, hrest⟩ := hT
    obtain ⟨hpl, -, hne⟩ := unitOK_spec ev hU
    have hreq := tS_spine hrest
    have hUne : U ≠ s.ell := by
      intro he; rw [he] at hpl; simp [plain, Setup.ell] at hpl
    have hpk : peekIs s.ell (iterList rest) = false := by
      cases hr : iterList rest with
      | nil => rfl
      | cons q r =>
        rw [hreq, hr] at hrest
        simp [peekIs, Setup.ell, tS_head_ne ev hrest]
    have hgrp := inst_group s U (iterList rest) bs hUne hpk
    simp only [Datum.ofList, Setup.ell] at hgrp
    rw [← hreq] at hgrp
    obtain ⟨hget, hend, -⟩ := rounds_spec s pat ev B hexp hsub U hU
    generalize roundsFrom pat B U (B.length + 1) 0 = ds at h hget hend
    cases hr : expT pat B s.es rest with
    | none => rw [hr] at h; cases h
    | some r =>
      rw [hr] at h
      cases h
      rcases repBinds_spec pat ev B bs hc U hne with hmis | ⟨n, bj, hrep, hlen, hb1, hb2⟩
      · left; rw [hgrp, instRep_mismatch _ _ _ hmis]
      · -- round `i < n` is iteration `i`; round `n` yields nothing: the rounds are the `n` iterations
        have hround : ∀ i, i < n → ∃ d', unitAt pat B (0 + i) U = some d' ∧
            inst s.ctx false false U (bj i) = .ok d' := by
          intro i hi
          rw [Nat.zero_add]
          refine (unitAt_inst s pat ev B bs hc (bj i) i (hb2 i) U).1 hpl (fun x hx => ?_)
          have hi' : i < (proj (.sym x) B).length := by rw [hlen x hx]; exact hi
          exact ⟨_, List.getElem?_eq_getElem hi', hb1 i x _ hx (List.getElem?_eq_getElem hi')⟩
        have hn : ds.length = n := by
          obtain ⟨x, hx⟩ := List.exists_mem_of_ne_nil _ hne
          have hex := (unitAt_exhausted s pat ev B hexp hsub n x (by rw [hlen x hx]; exact Nat.le_refl _) U).1 hpl hx
          rcases Nat.lt_trichotomy ds.length n with hlt | heq | hgt
          · obtain ⟨d', h1, -⟩ := hround _ hlt
            rw [hend] at h1; cases h1
          · exact heq
          · have := hget n _ (List.getElem?_eq_getElem hgt)
            rw [Nat.zero_add, hex] at this; cases this
        have hrepok : instRep (fun b' => inst s.ctx false false U b') (tmplSyms U) 1 bs = .ok ds := by
          refine instRep_one _ _ _ _ ds hrep (by simp [hn]) (fun i b d' hb hd' => ?_)
          have hi : i < n := by
            rw [← hn]
            rcases Nat.lt_or_ge i ds.length with h | h
            · exact h
            · rw [List.getElem?_eq_none h] at hd'; cases hd'
          rw [List.getElem?_map, List.getElem?_range hi] at hb
          cases hb
          obtain ⟨d'', h1, h2⟩ := hround i hi
          rw [hget i d' hd'] at h1
          cases h1
          exact h2
        rw [hgrp, hrepok]
        rcases ih r (.inr hrest) hr with hm | hi
        · left; rw [hm]
        · right; rw [hi]
  case case3 a e rest he iha ihr =>
    intro d hT h
    have hT := tS_of_or hT
    rw [tS, if_neg he, Bool.and_eq_true] at hT
    have hreq := tS_spine hT.2
    have hcons := inst_cons s a (iterList (.pair e rest)) bs
      (by have := tP_ne_ell ev hT.1; simpa [Setup.ell] using this) (by simpa [iterList, peekIs, Setup.ell] using he)
    simp only [Datum.ofList] at hcons
    rw [← hreq] at hcons
    rw [hcons]
    cases ha : expT pat B s.es a with
    | none => rw [ha, pairO_none_left] at h; cases h
    | some a' =>
      rw [ha, pairO_some_left] at h
      cases hr : expT pat B s.es (.pair e rest) with
      | none => rw [hr] at h; cases h
      | some r =>
        rw [hr] at h; cases h
        rcases iha a' (.inl hT.1) ha with hm | hi
        · left; rw [hm]
        · rw [hi]
          rcases ihr r (.inr hT.2) hr with hm | hi2
          · left; rw [hm]
          · right; rw [hi2]
  case case4 a dd hdd iha ihd =>
    intro d hT h
    have hT := tS_of_or hT
    rw [tS.eq_3 _ _ _ _ hdd, Bool.and_eq_true] at hT
    have hreq := tS_spine hT.2
    have hnil : iterList dd = [] := by
      cases dd with
      | pair e r => exact (hdd e r rfl).elim
      | nil => rfl
      | _ => simp [tS] at hT
    have hcons := inst_cons s a [] bs (by have := tP_ne_ell ev hT.1; simpa [Setup.ell] using this) rfl
    rw [hnil] at hreq
    simp only [Datum.ofList] at hcons hreq
    rw [← hreq] at hcons
    rw [hcons]
    cases ha : expT pat B s.es a with
    | none => rw [ha, pairO_none_left] at h; cases h
    | some a' =>
      rw [ha, pairO_some_left] at h
      cases hr : expT pat B s.es dd with
      | none => rw [hr] at h; cases h
      | some r =>
        rw [hr] at h; cases h
        rcases iha a' (.inl hT.1) ha with hm | hi
        · left; rw [hm]
        · rw [hi]
          rcases ihd r (.inr hT.2) hr with hm | hi2
          · left; rw [hm]
          · right; rw [hi2]
  case case5 T h1 h2 h3 =>
    intro d hT h
    cases h
    right
    cases T with
    | sym x => exact (h1 x rfl).elim
    | pair a dd => exact (h3 a dd rfl).elim
    | vec v => simp [tP, tS] at hT
    | nil => exact inst_nil _ _ _ _
    | _ => exact inst_datum _ _ _ _ _ rfl

end sound

theorem expand_fuel_succ (ell : Datum) (p : Pattern) : ∀ f : Nat,
    (∀ T env r, expand ell p f T env = .ok r → expand ell p (f + 1) T env = .ok r) ∧
    (∀ cur rest v env r, expandLoop ell p f cur rest v env = .ok r →
      expandLoop ell p (f + 1) cur rest v env = .ok r) := by
  intro f
  induction f with
  | zero =>
    refine ⟨fun T env r h => ?_, fun cur rest v env r h => ?_⟩
    · rw [expand_zero] at h; cases h
    · rw [expandLoop_zero] at h; cases h
  | succ f ih =>
    obtain ⟨ih1, ih2⟩ := ih
    constructor
    · intro T env r h
      cases T with
      | sym x => rw [expand_sym] at h ⊢; exact h
      | pair a d => rw [expand_pair] at h ⊢; exact ih2 _ _ _ _ _ h
      | _ => rw [expand_atom _ _ _ _ _ rfl rfl] at h ⊢; exact h
    · intro cur rest v env r h
      rw [expandLoop_succ] at h ⊢
      cases hc : expand ell p f cur env with
      | ok r1 =>
        rw [hc] at h
        rw [ih1 _ _ _ hc]
        obtain ⟨o, env1⟩ := r1
        cases o with
        | some cell =>
          simp only at h ⊢
          by_cases hpk : peekIs ell rest = true
          · rw [if_pos hpk] at h ⊢; exact ih2 _ _ _ _ _ h
          · rw [if_neg hpk] at h ⊢
            cases rest with
            | nil => exact h
            | cons t rest' => exact ih2 _ _ _ _ _ h
        | none =>
          simp only at h ⊢
          by_cases hpk : (!peekIs ell rest) = true
          · rw [if_pos hpk] at h ⊢; exact h
          · rw [if_neg hpk] at h ⊢
            generalize rest.tail = tl at h ⊢
            cases tl with
            | nil => exact h
            | cons t rest' => exact ih2 _ _ _ _ _ h
      | err x => rw [hc] at h; cases h
      | panic m => rw [hc] at h; cases h
      | fuel => rw [hc] at h; cases h

theorem expand_fuel_le (ell : Datum) (p : Pattern) {f f' : Nat} (hle : f ≤ f') {T : Datum} {env : PEnv}
    {r : Option Datum × PEnv} (h : expand ell p f T env = .ok r) : expand ell p f' T env = .ok r := by
  induction hle with
  | refl => exact h
  | step _ ih => exact (expand_fuel_succ ell p _).1 _ _ _ ih

section groups
variable (s : Setup) (pat : Pattern) (ev : List Text) (B : Bindings) (bs : Binds)

theorem expand_groups (hc : Corr pat ev B bs) (f : Nat) (T d : Datum) (env' : PEnv)
    (hT : tP s.es ev T = true) (h : expand s.ell pat f T (PEnv.new pat B) = .ok (some d, env')) :
    inst s.ctx false false T bs = .mismatch ∨
      (env' = PEnv.new pat B ∧ inst s.ctx false false T bs = .ok d) := by
  have hsub : ∀ x, x ∈ ev → pat.isVariable (.sym x) = true := fun x hx => (hc.ellVar x hx).1
  obtain ⟨env1, hrun, henv⟩ := (expand_run s pat ev B hc.exp hsub _ rfl
    (max f (2 * (B.length + 1) * dsize T))).1 T hT (by omega)
  rw [expand_fuel_le s.ell pat (Nat.le_max_left _ _) h] at hrun
  injection hrun with hrun
  injection hrun with ho he
  rcases expT_sound s pat ev B bs hc T d (.inl hT) ho.symm with hm | hi
  · exact .inl hm
  · exact .inr ⟨he.trans (henv (by rw [← ho]; rfl)), hi⟩

end groups

end Marwood.Transform
