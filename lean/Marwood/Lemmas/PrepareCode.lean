import Marwood.Lemmas.PrepareDefs
import Marwood.Lemmas.ConcreteLawsOps
import Marwood.Lemmas.PolicyAllocBound
/-!
# One allocator step of `prepare_eval` keeps the code invariants

`CInvG IsValue` survives with the old code objects kept; a step is at most one allocation of the heap model and keeps the
allocator invariant `HInv`. The only step that creates a code object is `cell` with a lambda cell (`cput_lambda_growsL`,
the counterpart of `cput_grows` for a code cell); its address is off the free list of the result.
-/
namespace Marwood.Lemmas.Good
open Marwood Marwood.Vm Marwood.Vm.Verify Marwood.Vm.Concrete Marwood.Lemmas.Sim
open Marwood.Lemmas.MachineGarbage Marwood.Lemmas.PolicyAlloc
open Marwood.Heap (GcState)

variable {V : VCell → Prop}

theorem NewCellOk.notLambda {Q : CLambda → Prop} {c : CCell} (x : NewCellOk Q c) :
    (∃ cl, c = .lambda cl ∧ Q cl) ∨ ((∀ lam, c ≠ CCell.lambda lam) ∧ ∀ k, c = CCell.cont k → NoCont k) := by
  cases x with
  | pair a d => exact .inr ⟨fun _ e => (by cases e), fun _ e => (by cases e)⟩
  | atom _ _ => exact .inr ⟨fun _ e => (by cases e), fun _ e => (by cases e)⟩
  | vector es => exact .inr ⟨fun _ e => (by cases e), fun _ e => (by cases e)⟩
  | lambda q => exact .inl ⟨_, rfl, q⟩

theorem cput_lambda_growsL {h : CHeap} (inv : HInv h) (ci : CInvG V h) (cl : CLambda) :
    GrowsL (fun lam => lam = cl) h (cput h (.lambda cl)).1 := by
  obtain ⟨g, hfresh⟩ := calloc_grows ci
  have ginv := g.inv ci (fun c hc => hc.elim)
  have spec := calloc_spec h inv
  show GrowsL (fun lam => lam = cl) h (cwrite (calloc h).1 (calloc h).2 (.lambda cl))
  refine ⟨by simp [cwrite, ginv.sizes], by simpa [cwrite] using ginv.shape, ginv.noUsed, ?_, ?_, ?_, g.free⟩
  · intro l lam x
    have x1 := g.keep l lam x
    rw [cwrite_cells]
    split
    · rename_i hh; obtain ⟨rfl, _⟩ := hh; exact absurd x1 (hfresh lam)
    · exact x1
  · intro l lam x
    rw [cwrite_cells] at x
    split at x
    · rename_i hh
      obtain ⟨rfl, _⟩ := hh
      cases x
      exact .inr ⟨rfl, spec.p_notfree⟩
    · exact .inl (g.newLam l lam x)
  · intro p k x
    rw [cwrite_cells] at x
    split at x
    · cases x
    · rcases g.newCont p k x with h1 | h1
      · exact h1
      · exact h1.elim

/-- the value-typed code invariant survives a step, old code is kept -/
theorem instStep_cinv {Q : CHeap → CLambda → Prop} (hQ : ∀ h cl, Q h cl → CodeOk cl) {h h' : CHeap} (st : InstStep Q h h')
    (inv : HInv h) (ci : CInvG IsValue h) :
    CInvG IsValue h' ∧ ∀ l bc, codeC h l = some bc → codeC h' l = some bc := by
  have fin : ∀ {h' : CHeap}, Grows NoCont h h' →
      CInvG IsValue h' ∧ ∀ l bc, codeC h l = some bc → codeC h' l = some bc :=
    fun g => ⟨g.inv ci (fun c hc => hc.elim), fun _ _ hc => g.code hc⟩
  cases st with
  | cell hn _ _ _ =>
    rcases hn.notLambda with ⟨cl, rfl, q⟩ | ⟨hc, hcc⟩
    · refine (cput_lambda_growsL inv ci cl).inv ci ?_
      rintro lam rfl
      exact ⟨(hQ _ _ q).ver, (hQ _ _ q).noIof, (hQ _ _ q).args⟩
    · exact fin (cput_grows ci hc hcc)
  | sym _ _ => exact fin (putNew_grows ci _)
  | glob _ => exact fin (Grows.of_eq ci rfl rfl rfl rfl)
  | resym _ _ => exact fin (Grows.of_eq ci rfl rfl rfl rfl)

theorem instStep_allocs {Q : CHeap → CLambda → Prop} {h h' : CHeap} (st : InstStep Q h h') : AllocsLe h h' 1 := by
  cases st with
  | cell _ _ _ _ => exact cput_allocs h _
  | sym _ _ => exact putNew_allocs h _
  | glob _ =>
    intro inv
    exact ⟨⟨inv.sizes, inv.shape, inv.free_iff, inv.nodup, inv.no_used⟩, 0, Nat.zero_le _, .of_proj rfl⟩
  | resym _ _ =>
    intro inv
    exact ⟨⟨inv.sizes, inv.shape, inv.free_iff, inv.nodup, inv.no_used⟩, 0, Nat.zero_le _, .of_proj rfl⟩

theorem instStep_inv {Q : CHeap → CLambda → Prop} {h h' : CHeap} (st : InstStep Q h h') (inv : HInv h) : HInv h' :=
  (instStep_allocs st inv).1

theorem instSteps_allocs {Q : CHeap → CLambda → Prop} {h h' : CHeap} (st : InstSteps Q h h') : ∃ k, AllocsLe h h' k := by
  induction st with
  | refl h => exact ⟨0, .refl h⟩
  | step s _ ih =>
    obtain ⟨k, hk⟩ := ih
    exact ⟨1 + k, (instStep_allocs s).trans hk⟩

theorem instSteps_inv {Q : CHeap → CLambda → Prop} {h h' : CHeap} (st : InstSteps Q h h') (inv : HInv h) : HInv h' := by
  induction st with
  | refl _ => exact inv
  | step s _ ih => exact ih (instStep_inv s inv)

end Marwood.Lemmas.Good
