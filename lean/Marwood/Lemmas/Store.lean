import Marwood.Spec.StoreViews
/-! # The store model: `get`/`put`/`alloc`, the typed poppers, `finish`, the frames `Extends` / `OnlyVec`, `putRange` -/
namespace Marwood.Store
open Outcome

/-- a value that may travel on the stack: a reference or an immediate scalar -/
def VCell.isValue : VCell → Bool
  | .ptr _ | .bool _ | .char _ | .nil | .num _ | .void | .undef => true
  | _ => false

theorem VCell.isPair_iff {v : VCell} : v.isPair = true ↔ ∃ a d, v = .pair a d := by
  cases v <;> simp [VCell.isPair]

theorem VCell.asCar_eq_ok {v p : VCell} (h : v.asCar = .ok p) : ∃ a d, v = .pair a d ∧ p = .ptr a := by
  cases v with
  | pair a d => cases h; exact ⟨a, d, rfl, rfl⟩
  | _ => cases h

theorem VCell.asCdr_eq_ok {v p : VCell} (h : v.asCdr = .ok p) : ∃ a d, v = .pair a d ∧ p = .ptr d := by
  cases v with
  | pair a d => cases h; exact ⟨a, d, rfl, rfl⟩
  | _ => cases h

theorem VCell.asPtr_eq_ok {v : VCell} {a : Nat} (h : v.asPtr = .ok a) : v = .ptr a := by
  cases v with
  | ptr b => cases h; rfl
  | _ => cases h

theorem finish_value {s : Store} {v : VCell} (h : v.isValue = true) :
    finish (.ok (s, v)) = .ok (s, v) := by
  cases v <;> simp [VCell.isValue] at h <;> rfl

@[simp] theorem finish_ptr (s : Store) (a : Nat) : finish (.ok (s, .ptr a)) = .ok (s, .ptr a) := rfl
@[simp] theorem finish_void (s : Store) : finish (.ok (s, .void)) = .ok (s, .void) := rfl
@[simp] theorem finish_num (s : Store) (n : Int) : finish (.ok (s, .num n)) = .ok (s, .num n) := rfl
@[simp] theorem finish_bool (s : Store) (b : Bool) : finish (.ok (s, .bool b)) = .ok (s, .bool b) := rfl
@[simp] theorem finish_err (e : Err) : finish (.err e) = .err e := rfl

theorem ofOption_eq_ok {α} {m : String} {o : Option α} {a : α} : ofOption m o = .ok a ↔ o = some a := by
  cases o <;> simp [ofOption]

theorem ofOption_ne_diverge {α} (m : String) (o : Option α) : ofOption m o ≠ .diverge := by
  cases o <;> simp [ofOption]

@[simp] theorem get_ptr (s : Store) (a : Nat) :
    s.get (.ptr a) = ofOption "heap index out of bounds" s.cells[a]? := rfl

theorem get_of_cell {s : Store} {a : Nat} {c : VCell} (h : s.cells[a]? = some c) :
    s.get (.ptr a) = .ok c := by simp [h]

theorem cell_of_get {s : Store} {a : Nat} {c : VCell} (h : s.get (.ptr a) = .ok c) :
    s.cells[a]? = some c := ofOption_eq_ok.mp h

theorem get_congr {s s' : Store} (h : s'.cells = s.cells) (v : VCell) : s'.get v = s.get v := by
  cases v <;> simp [Store.get, h]

theorem get_imm {s : Store} {v : VCell} (h : v.isPtr = false) : s.get v = .ok v := by
  cases v <;> simp [VCell.isPtr] at h <;> rfl

theorem get_ne_diverge (s : Store) (v : VCell) : s.get v ≠ .diverge := by
  cases v with
  | ptr a => exact ofOption_ne_diverge _ _
  | _ => simp [Store.get]

theorem vecGet_ne_diverge (s : Store) (i : Nat) : s.vecGet i ≠ .diverge := ofOption_ne_diverge _ _

theorem strGet_ne_diverge (s : Store) (i : Nat) : s.strGet i ≠ .diverge := ofOption_ne_diverge _ _

theorem bind_ne_diverge {α β} {x : Outcome α} {f : α → Outcome β} (hx : x ≠ .diverge)
    (hf : ∀ a, x = .ok a → f a ≠ .diverge) : (x >>= f) ≠ .diverge := by
  cases x with
  | ok a => exact hf a rfl
  | err e => simp
  | panic m => simp
  | diverge => exact absurd rfl hx

theorem Extends.refl (s : Store) : Extends s s := ⟨fun _ _ => rfl, fun _ _ => rfl, fun _ _ => rfl⟩

theorem length_le_of_agree {α} {xs ys : List α} (h : ∀ i, i < xs.length → ys[i]? = xs[i]?) :
    xs.length ≤ ys.length := by
  refine Nat.le_of_not_lt fun hlt => ?_
  have := h ys.length hlt
  rw [List.getElem?_eq_none (Nat.le_refl _)] at this
  have h2 := List.getElem?_eq_none_iff.mp this.symm
  omega

theorem getElem?_of_agree {α} {xs ys : List α} (h : ∀ i, i < xs.length → ys[i]? = xs[i]?) {a : Nat} {c : α}
    (hc : xs[a]? = some c) : ys[a]? = some c := by
  rw [h a (List.getElem?_eq_some_iff.mp hc).1, hc]

theorem Extends.len {s s' : Store} (h : Extends s s') : s.cells.length ≤ s'.cells.length :=
  length_le_of_agree h.cells

theorem Extends.vlen {s s' : Store} (h : Extends s s') : s.vecs.length ≤ s'.vecs.length :=
  length_le_of_agree h.vecs

theorem Extends.slen {s s' : Store} (h : Extends s s') : s.strs.length ≤ s'.strs.length :=
  length_le_of_agree h.strs

theorem Extends.trans {a b c : Store} (h1 : Extends a b) (h2 : Extends b c) : Extends a c := by
  refine ⟨fun i hi => ?_, fun i hi => ?_, fun i hi => ?_⟩
  · rw [h2.cells i (Nat.lt_of_lt_of_le hi h1.len), h1.cells i hi]
  · rw [h2.vecs i (Nat.lt_of_lt_of_le hi h1.vlen), h1.vecs i hi]
  · rw [h2.strs i (Nat.lt_of_lt_of_le hi h1.slen), h1.strs i hi]

theorem Extends.cell {s s' : Store} (h : Extends s s') {a : Nat} {c : VCell}
    (hc : s.cells[a]? = some c) : s'.cells[a]? = some c := getElem?_of_agree h.cells hc

theorem Extends.get {s s' : Store} (h : Extends s s') {v c : VCell} (hg : s.get v = .ok c) :
    s'.get v = .ok c := by
  cases v with
  | ptr a => exact get_of_cell (h.cell (cell_of_get hg))
  | _ => simpa [Store.get] using hg

theorem Extends.vec {s s' : Store} (h : Extends s s') {i : Nat} {xs : List VCell}
    (hc : s.vecs[i]? = some xs) : s'.vecs[i]? = some xs := getElem?_of_agree h.vecs hc

theorem Extends.str {s s' : Store} (h : Extends s s') {i : Nat} {t : Text}
    (hc : s.strs[i]? = some t) : s'.strs[i]? = some t := getElem?_of_agree h.strs hc

theorem alloc_extends (s : Store) (c : VCell) : Extends s (s.alloc c).1 := by
  refine ⟨fun i hi => ?_, fun _ _ => rfl, fun _ _ => rfl⟩
  simp [Store.alloc, List.getElem?_append_left hi]

@[simp] theorem alloc_cell (s : Store) (c : VCell) :
    (s.alloc c).1.cells[(s.alloc c).2]? = some c := by
  simp [Store.alloc]

@[simp] theorem alloc_snd (s : Store) (c : VCell) : (s.alloc c).2 = s.cells.length := rfl
@[simp] theorem alloc_len (s : Store) (c : VCell) :
    (s.alloc c).1.cells.length = s.cells.length + 1 := by simp [Store.alloc]
@[simp] theorem alloc_vecs (s : Store) (c : VCell) : (s.alloc c).1.vecs = s.vecs := rfl
@[simp] theorem alloc_strs (s : Store) (c : VCell) : (s.alloc c).1.strs = s.strs := rfl

theorem findSym_some {s : Store} {name : Text} {a : Nat} (h : s.findSym name = some a) :
    s.cells[a]? = some (.sym name) := by
  unfold Store.findSym at h
  simp only at h
  split at h
  · rename_i hlt
    cases h
    rw [List.getElem?_eq_getElem hlt]
    simp
  · cases h

/-- `heap.put`: a reference comes back as it is, an interned symbol as its cell, anything else is allocated -/
theorem put_cases (s : Store) (v : VCell) :
    (∃ a, v = .ptr a ∧ s.put v = (s, .ptr a)) ∨
    (v.isPtr = false ∧ v.isValue = false ∧ ∃ a, s.cells[a]? = some v ∧ s.put v = (s, .ptr a)) ∨
    (v.isPtr = false ∧ s.put v = ((s.alloc v).1, .ptr s.cells.length)) := by
  cases v with
  | ptr a => exact .inl ⟨a, rfl, rfl⟩
  | sym name =>
    simp only [Store.put]
    cases hf : s.findSym name with
    | some a => exact .inr (.inl ⟨rfl, rfl, a, findSym_some hf, rfl⟩)
    | none => exact .inr (.inr ⟨rfl, rfl⟩)
  | _ => exact .inr (.inr ⟨rfl, rfl⟩)

/-- `w` is the reference `heap.put v` answered in a heap that had `n0` cells: `v` itself when `v` is a reference,
    otherwise a cell holding `v`, which is new when `v` is an immediate value (a symbol may sit in the symbol table
    already; of the other cell kinds nothing is asked) -/
def Boxed (n0 : Nat) (s : Store) (w : Nat) (v : VCell) : Prop :=
  v = .ptr w ∨ (v.isPtr = false ∧ s.cells[w]? = some v ∧ (v.isValue = true → n0 ≤ w))

theorem Boxed.denotes {n0 : Nat} {s : Store} {w : Nat} {v : VCell} (h : Boxed n0 s w v) :
    Denotes s w v := by
  rcases h with h | ⟨h1, h2, _⟩
  · exact Or.inl h
  · exact Or.inr ⟨h1, h2⟩

theorem Denotes.boxed {s : Store} {w : Nat} {v : VCell} (h : Denotes s w v) : Boxed 0 s w v :=
  h.imp id fun ⟨h1, h2⟩ => ⟨h1, h2, fun _ => Nat.zero_le _⟩

theorem Boxed.mono {n0 n1 : Nat} {s s' : Store} {w : Nat} {v : VCell} (h : Boxed n0 s w v)
    (he : Extends s s') (hn : n1 ≤ n0) : Boxed n1 s' w v := by
  rcases h with h | ⟨h1, h2, h3⟩
  · exact Or.inl h
  · exact Or.inr ⟨h1, he.cell h2, fun hv => Nat.le_trans hn (h3 hv)⟩

theorem put_boxed (s : Store) (v : VCell) :
    ∃ w, (s.put v).2 = .ptr w ∧ Extends s (s.put v).1 ∧ Boxed s.cells.length (s.put v).1 w v ∧
      (s.put v).1.vecs = s.vecs ∧ (s.put v).1.strs = s.strs := by
  rcases put_cases s v with ⟨a, rfl, h⟩ | ⟨hp, hv, a, hc, h⟩ | ⟨hp, h⟩ <;> rw [h]
  · exact ⟨a, rfl, Extends.refl s, .inl rfl, rfl, rfl⟩
  · exact ⟨a, rfl, Extends.refl s, .inr ⟨hp, hc, fun h => by rw [hv] at h; cases h⟩, rfl, rfl⟩
  · exact ⟨_, rfl, alloc_extends s v, .inr ⟨hp, alloc_cell s v, fun _ => Nat.le_refl _⟩, rfl, rfl⟩

theorem put_spec (s : Store) (v : VCell) :
    ∃ w, (s.put v).2 = .ptr w ∧ Extends s (s.put v).1 ∧ Denotes (s.put v).1 w v ∧
      (s.put v).1.vecs = s.vecs ∧ (s.put v).1.strs = s.strs ∧
      (v.isPtr = false → (s.put v).1.cells[w]? = some v) := by
  obtain ⟨w, h1, h2, h3, h4, h5⟩ := put_boxed s v
  exact ⟨w, h1, h2, h3.denotes, h4, h5, fun hp => h3.elim (fun e => by rw [e] at hp; cases hp) (·.2.1)⟩

theorem put_pair (s : Store) (a d : Nat) :
    s.put (.pair a d) = ({ s with cells := s.cells ++ [.pair a d] }, .ptr s.cells.length) := rfl

theorem put_nil (s : Store) :
    s.put .nil = ({ s with cells := s.cells ++ [.nil] }, .ptr s.cells.length) := rfl

theorem toUsize_natCast {k : Nat} (h : k < usizeLimit) : toUsize (k : Int) = some k := by
  show (if k < usizeLimit then some k else none) = some k
  rw [if_pos h]

theorem popIndex_of_isIndex {s : Store} {v : VCell} {k : Nat} (h : IsIndex s v k) :
    popIndex s v = .ok k := by
  simp only [popIndex, h.1, bind_ok, toUsize_natCast h.2, orErr_some]

theorem popIndex_of_notIndex {s : Store} {v : VCell} (h : NotIndex s v) :
    ∃ e, popIndex s v = .err e := by
  obtain ⟨c, hc, hne⟩ := h
  unfold popIndex
  simp only [hc, bind_ok]
  cases c with
  | num n =>
    cases n with
    | ofNat k =>
      by_cases hk : k < usizeLimit
      · exact absurd rfl (hne k hk)
      · refine ⟨.syntax, ?_⟩
        show orErr .syntax (if k < usizeLimit then some k else none) = _
        rw [if_neg hk]; rfl
    | negSucc k => exact ⟨_, rfl⟩
  | _ => exact ⟨_, rfl⟩

theorem popVector_of_isVec {s : Store} {v : VCell} {id : Nat} {xs : List VCell}
    (h : IsVec s v id xs) : popVector s v = .ok id := by
  unfold popVector; simp [h.1]

theorem vecGet_of_isVec {s : Store} {v : VCell} {id : Nat} {xs : List VCell}
    (h : IsVec s v id xs) : s.vecGet id = .ok xs := by
  unfold Store.vecGet; simp [h.2]

theorem isVec_lt {s : Store} {v : VCell} {id : Nat} {xs : List VCell}
    (h : IsVec s v id xs) : id < s.vecs.length := (List.getElem?_eq_some_iff.mp h.2).1

theorem vecSet_spec {s : Store} {id : Nat} (h : id < s.vecs.length) (ys : List VCell) :
    ∃ s', s.vecSet id ys = .ok s' ∧ OnlyVec s s' id ∧ s'.vecs[id]? = some ys := by
  refine ⟨{ s with vecs := s.vecs.set id ys }, by simp [Store.vecSet, h], ⟨rfl, by simp, ?_, rfl⟩, by simp [h]⟩
  intro i hi
  simp [Ne.symm hi]

theorem OnlyVec.get {s s' : Store} {id : Nat} (h : OnlyVec s s' id) (v : VCell) :
    s'.get v = s.get v := get_congr h.cells v

theorem OnlyVec.isIndex {s s' : Store} {id : Nat} (h : OnlyVec s s' id) {v : VCell} {k : Nat}
    (hi : IsIndex s v k) : IsIndex s' v k := ⟨by rw [h.get]; exact hi.1, hi.2⟩

theorem putRange_length (vals : List VCell) : ∀ (xs : List VCell) (at_ : Nat),
    (putRange xs at_ vals).length = xs.length := by
  induction vals with
  | nil => intro xs at_; rfl
  | cons v vals ih =>
    intro xs at_
    simp only [putRange]
    split
    · rw [ih]; simp
    · rw [ih]

/-- a stretch of a list replaced by a list of the same length, pointwise -/
theorem splice_getElem? {α : Type} (xs new : List α) (a : Nat) (h : a + new.length ≤ xs.length) (i : Nat) :
    (xs.take a ++ new ++ xs.drop (a + new.length))[i]? =
      if a ≤ i ∧ i < a + new.length then new[i - a]? else xs[i]? := by
  have hla : (xs.take a).length = a := by rw [List.length_take]; omega
  by_cases h1 : i < a
  · rw [if_neg (by omega), List.append_assoc, List.getElem?_append_left (by omega), List.getElem?_take, if_pos h1]
  · by_cases h2 : i < a + new.length
    · rw [if_pos ⟨by omega, h2⟩, List.append_assoc, List.getElem?_append_right (by omega), hla,
        List.getElem?_append_left (by omega)]
    · rw [if_neg (by omega), List.getElem?_append_right (by simp [hla]; omega), List.getElem?_drop]
      congr 1
      simp only [List.length_append, hla]
      omega

theorem putRange_eq_splice : ∀ (vals xs : List VCell) (a : Nat), a + vals.length ≤ xs.length →
    putRange xs a vals = xs.take a ++ vals ++ xs.drop (a + vals.length)
  | [], xs, a, _ => by simp [putRange]
  | v :: vals, xs, a, h => by
    simp only [List.length_cons] at h
    rw [putRange, if_pos (by omega), putRange_eq_splice vals _ _ (by simp; omega)]
    -- `xs.set a v` up to `a + 1` is `xs.take a ++ [v]`, from `a + 1` on it is `xs`
    rw [List.take_set, List.take_succ_eq_append_getElem (by omega), List.set_append_right _ _ (by simp; omega),
      List.length_take, Nat.min_eq_left (by omega), Nat.sub_self, List.drop_set_of_lt (by omega), Nat.add_assoc,
      Nat.add_comm 1]
    simp

theorem putRange_getElem? (vals : List VCell) : ∀ (xs : List VCell) (at_ i : Nat),
    at_ + vals.length ≤ xs.length →
    (putRange xs at_ vals)[i]? =
      if at_ ≤ i ∧ i < at_ + vals.length then vals[i - at_]? else xs[i]? :=
  fun xs at_ i h => by rw [putRange_eq_splice vals xs at_ h, splice_getElem? xs vals at_ h]

theorem usub_noPanic_of_le {site : String} {a b : Nat} (h : b ≤ a) : usub site a b = .ok (a - b) := by
  simp [usub, h]

/-- the target receives the ORIGINAL source elements, also when source and target are the same vector -/
theorem vectorCopyBang_go_ok {s : Store} {to at_ from_ : VCell} {tid fid a : Nat}
    {txs fxs : List VCell} (start end_ : Option Nat)
    (hto : IsVec s to tid txs) (hfrom : IsVec s from_ fid fxs) (hat : IsIndex s at_ a)
    (h1 : start.getD 0 ≤ end_.getD fxs.length) (h2 : end_.getD fxs.length ≤ fxs.length)
    (h3 : a + (end_.getD fxs.length - start.getD 0) ≤ txs.length) :
    ∃ s' ys, vectorCopyBang.go s to at_ from_ start end_ = .ok (s', .void) ∧ OnlyVec s s' tid ∧
      s'.vecs[tid]? = some ys ∧ ys.length = txs.length ∧
      ∀ i, ys[i]? = if a ≤ i ∧ i < a + (end_.getD fxs.length - start.getD 0)
                    then fxs[start.getD 0 + (i - a)]? else txs[i]? := by
  let st := start.getD 0
  let en := end_.getD fxs.length
  let vals := (fxs.drop st).take (en - st)
  have hvl : vals.length = en - st := by
    simp only [vals, List.length_take, List.length_drop]; omega
  obtain ⟨s', hs1, hs2, hs3⟩ := vecSet_spec (isVec_lt hto) (putRange txs a vals)
  refine ⟨s', putRange txs a vals, ?_, hs2, hs3, putRange_length _ _ _, ?_⟩
  · have c1 : ¬ (a > txs.length) := by omega
    have c2 : optExceeds start fxs.length = false := by
      cases start with
      | none => rfl
      | some x => simp only [Option.getD_some] at h1; simp [optExceeds]; omega
    have c3 : optExceeds end_ fxs.length = false := by
      cases end_ with
      | none => rfl
      | some x => simp only [Option.getD_some] at h2; simp [optExceeds]; omega
    have c4 : optInverted start end_ = false := by
      cases start with
      | none => cases end_ <;> rfl
      | some x => cases end_ with
        | none => rfl
        | some y => simp only [Option.getD_some] at h1; simp [optInverted]; omega
    have c5 : ¬ (en - st > txs.length - a) := by omega
    simp only [vectorCopyBang.go, popVector_of_isVec hfrom, popIndex_of_isIndex hat,
      popVector_of_isVec hto, vecGet_of_isVec hfrom, vecGet_of_isVec hto, bind_ok, if_neg c1, c2, c3,
      c4, Bool.false_eq_true, if_false, usub_noPanic_of_le h1, usub_noPanic_of_le (show a ≤ txs.length by omega)]
    rw [if_neg (show ¬ (end_.getD fxs.length - start.getD 0 > txs.length - a) from c5)]
    show (s.vecSet tid (putRange txs a vals) >>= fun s => Outcome.ok (s, VCell.void)) = _
    rw [hs1]; rfl
  · intro i
    rw [putRange_getElem? vals txs a i (by omega), hvl]
    by_cases hc : a ≤ i ∧ i < a + (en - st)
    · rw [if_pos hc, if_pos hc]
      simp only [vals, List.getElem?_take, List.getElem?_drop]
      rw [if_pos (by omega)]
    · rw [if_neg hc, if_neg hc]

theorem vectorCopyBang_go_err {s : Store} {to at_ from_ : VCell} {tid fid a : Nat}
    {txs fxs : List VCell} (start end_ : Option Nat)
    (hto : IsVec s to tid txs) (hfrom : IsVec s from_ fid fxs) (hat : IsIndex s at_ a)
    (hbad : ¬ (start.getD 0 ≤ end_.getD fxs.length ∧ end_.getD fxs.length ≤ fxs.length ∧
      a + (end_.getD fxs.length - start.getD 0) ≤ txs.length)) :
    ∃ e, vectorCopyBang.go s to at_ from_ start end_ = .err e := by
  simp only [vectorCopyBang.go, popVector_of_isVec hfrom, popIndex_of_isIndex hat,
      popVector_of_isVec hto, vecGet_of_isVec hfrom, vecGet_of_isVec hto, bind_ok]
  by_cases c1 : a > txs.length
  · exact ⟨_, by rw [if_pos c1]⟩
  rw [if_neg c1]
  by_cases c2 : optExceeds start fxs.length = true
  · exact ⟨_, by rw [if_pos c2]⟩
  rw [if_neg c2]
  by_cases c3 : optExceeds end_ fxs.length = true
  · exact ⟨_, by rw [if_pos c3]⟩
  rw [if_neg c3]
  by_cases c4 : optInverted start end_ = true
  · exact ⟨_, by rw [if_pos c4]⟩
  rw [if_neg c4]
  have e1 : start.getD 0 ≤ end_.getD fxs.length := by
    cases start with
    | none => simp
    | some x => cases end_ with
      | none => simp [optExceeds] at c2; simpa using c2
      | some y => simp [optInverted] at c4; simpa using c4
  have e2 : end_.getD fxs.length ≤ fxs.length := by
    cases end_ with
    | none => simp
    | some y => simp [optExceeds] at c3; simpa using c3
  have e3 : ¬ (a + (end_.getD fxs.length - start.getD 0) ≤ txs.length) := fun h => hbad ⟨e1, e2, h⟩
  rw [usub_noPanic_of_le e1, usub_noPanic_of_le (show a ≤ txs.length by omega)]
  simp only [bind_ok]
  have c5 : end_.getD fxs.length - start.getD 0 > txs.length - a := by omega
  exact ⟨_, by rw [if_pos c5]⟩

theorem newVec_finish (s : Store) (xs : List VCell) :
    ∃ s' p, finish (.ok (s.newVec xs)) = .ok (s', .ptr p) ∧ IsVec s' (.ptr p) s.vecs.length xs ∧
      Extends s s' := by
  refine ⟨{ cells := s.cells ++ [.vec s.vecs.length], vecs := s.vecs ++ [xs], strs := s.strs },
    s.cells.length, rfl, ⟨?_, ?_⟩, ⟨fun i hi => ?_, fun i hi => ?_, fun _ _ => rfl⟩⟩
  · simp [Store.get, ofOption]
  · simp
  · simp [List.getElem?_append_left hi]
  · simp [List.getElem?_append_left hi]

end Marwood.Store
