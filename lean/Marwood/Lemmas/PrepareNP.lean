import Marwood.Lemmas.PrepareEnvCode
import Marwood.Lemmas.NoPanicDefs
/-!
# The allocator steps of `prepare_eval` keep the no-panic clauses of the heap

`InstStep` only adds cells: value cells, vectors, lambda cells satisfying `Q`. A per-cell predicate (`AllCells P`) that does
not constrain value cells / lexical environments (`QFree`) and holds of vectors and of the lambda cells `Q` admits is kept:
`HeapNP`, `ContBound n`, C12's `CodePlain`.
-/
namespace Marwood.Lemmas.Good
open Marwood Marwood.Vm Marwood.Vm.Verify Marwood.Vm.Concrete Marwood.Lemmas.Sim
open Marwood.Heap (GcState)
open Marwood.Lemmas.MachineGarbage (CodePlain)

theorem NPArgs.lamNP {cl : CLambda} (a : NPArgs cl) : LamNP cl := ⟨a.vararg, a.argSrc⟩

theorem NewCellOk.all {P : CCell → Prop} (q : QFree P) (hv : ∀ es, P (.vector es)) {Q : CLambda → Prop}
    (hl : ∀ cl, Q cl → P (.lambda cl)) {c : CCell} (x : NewCellOk Q c) : P c := by
  cases x with
  | pair a d => exact q.val _
  | atom _ _ => exact q.val _
  | vector es => exact hv es
  | lambda hq => exact hl _ hq

theorem instStep_allCells {P : CCell → Prop} (q : QFree P) (hv : ∀ es, P (.vector es)) {Q : CHeap → CLambda → Prop}
    (hl : ∀ h cl, Q h cl → P (.lambda cl)) {h h' : CHeap} (st : InstStep Q h h') (a : AllCells P h) : AllCells P h' := by
  cases st with
  | cell hn _ _ _ => exact cput_all q a (hn.all q hv (hl _))
  | sym _ _ => exact putNew_all q a _
  | glob _ => exact a.of_cells rfl
  | resym _ _ => exact a.of_cells rfl

theorem instStep_codePlain {Q : CHeap → CLambda → Prop} (hQ : ∀ h cl, Q h cl → CodeOk cl) {h h' : CHeap} (st : InstStep Q h h')
    (cp : CodePlain h) : CodePlain h' := fun i l hx =>
  instStep_allCells (P := fun c => ∀ l, c = .lambda l → Marwood.Spec.plainBc 0 (l.bc.map eraseV) = true)
    ⟨fun _ _ e => (nomatch e), fun _ _ e => (nomatch e)⟩ (fun _ _ e => (nomatch e))
    (fun _ _ q _ e => by cases e; exact (hQ _ _ q).plain) st (fun i c hc l e => cp i l (e ▸ hc)) i _ hx l rfl

theorem instSteps_allCells {P : CCell → Prop} (q : QFree P) (hv : ∀ es, P (.vector es)) {Q : CHeap → CLambda → Prop}
    (hl : ∀ h cl, Q h cl → P (.lambda cl)) {h h' : CHeap} (st : InstSteps Q h h') (a : AllCells P h) : AllCells P h' := by
  induction st with
  | refl _ => exact a
  | step s _ ih => exact ih (instStep_allCells q hv hl s a)

theorem instSteps_heapNP {Q : CHeap → CLambda → Prop} (hQ : ∀ h cl, Q h cl → CodeOk cl) {h h' : CHeap} (st : InstSteps Q h h')
    (a : HeapNP h) : HeapNP h' :=
  instSteps_allCells lamQ_free (fun _ _ e => by cases e)
    (fun _ cl hq l e => by cases e; exact (hQ _ _ hq).np.lamNP) st a

theorem instSteps_contBound {Q : CHeap → CLambda → Prop} {n : Nat} {h h' : CHeap} (st : InstSteps Q h h')
    (a : ContBound n h) : ContBound n h' :=
  instSteps_allCells (contQ_free n) (fun _ _ e => by cases e) (fun _ _ _ _ e => by cases e) st a

theorem npinv_installsGarbage {s s' : St CHeap} (i : NPInv s) (st : InstallsGarbage s s') : NPInv s' := by
  refine ⟨instSteps_heapNP (fun _ _ q => q.code) st.steps i.lam, ?_⟩
  have hst : s'.stack = s.stack := by rw [st.regs]
  show ContBound s'.stack.cells.length s'.heap
  rw [hst]
  exact instSteps_contBound st.steps i.cont

theorem prepare_npinv {e : Datum} {fuel : Nat} {s s' : St CHeap} {entry : Nat} (i : NPInv s)
    (st : Installs e fuel s s' entry) : NPInv (prepare s' entry) :=
  npinv_prepare_entry (npinv_installsGarbage i st.garbage) entry

end Marwood.Lemmas.Good
