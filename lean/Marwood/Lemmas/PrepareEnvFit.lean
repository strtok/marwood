import Marwood.Lemmas.PreparePInv
import Marwood.Lemmas.PrepareEnvCode
import Marwood.Lemmas.EnvFitGc
/-!
# One allocator step of the loader (`InstStep`) keeps "environments fit the code they belong to" (`HF`)

`FStep` / `HF.step` (Lemmas/EnvFitDefs.lean) describe an INSTRUCTION: the lambda cells stay the same. The loader allocates
lambda cells; what holds of a loader step is `CellsKept h h'`: no allocated cell is written. The clauses of `HF` inspect only
cells the collector follows from the cell they are stated of (`CellF.kept`), and those are allocated (`HG.closed`); the new
cell's clause is `LamEnvOk.sites` (a code object) or holds trivially (data: no closure, no code, no continuation).
-/
namespace Marwood.Lemmas.Good
open Marwood Marwood.Vm Marwood.Vm.Verify Marwood.Vm.Concrete Marwood.Lemmas.Sim
open Marwood.Heap (GcState WFHeap RootsOk vrefs vrefsList crefs bcRefs)

theorem CellsKept.env {h h' : CHeap} (k : CellsKept h h') {q : Nat} (hq : NF h q) : envAt h' q = envAt h q := by
  unfold envAt; rw [k q hq]

theorem CellsKept.fit {h h' : CHeap} (k : CellsKept h h') {e l : Nat} (he : NF h e) (hl : NF h l) (x : Fit h e l) :
    Fit h' e l := by
  intro lam ss h1 h2
  rw [k.lam hl] at h1
  rw [k.env he] at h2
  exact x lam ss h1 h2

theorem CellsKept.fitKeep {h h' : CHeap} (k : CellsKept h h') : FitKeep h h' := fun _ _ he hl x => k.fit he hl x

theorem CellsKept.childFit {h h' : CHeap} (k : CellsKept h h') {n : Nat} {v : VCell} (hv : VRefsOk h v)
    (x : ChildFit h n v) : ChildFit h' n v := by
  intro p lam' e hl
  subst e
  rw [k.lam (VRefsOk.ptr.mp hv)] at hl
  exact x p lam' rfl hl

theorem CellsKept.inPre {h h' : CHeap} (k : CellsKept h h') {l o : Nat} (hl : NF h l) : InPre h' l o ↔ InPre h l o := by
  unfold InPre
  rw [k.lam hl]

theorem CellsKept.callee_eq {h h' : CHeap} (k : CellsKept h h') {v : VCell} (hv : VRefsOk h v) :
    callee h' v = callee h v := by
  cases v with
  | ptr a => exact congrArg (fun c => match c with | some c => calleeOfCell c | none => .other) (k a (VRefsOk.ptr.mp hv))
  | _ => rfl

theorem CellsKept.calleeLam_eq {h h' : CHeap} (k : CellsKept h h') {v : VCell} (hv : VRefsOk h v) :
    calleeLam h' v = calleeLam h v := by
  unfold calleeLam
  rw [k.callee_eq hv]

theorem site_imm_refs {h : CHeap} {lam : CLambda} (hr : CRefsOk h (.lambda lam)) {j : Nat} {v : VCell}
    (hs : siteB lam.bc j = true) (hv : lam.bc[j + 1]? = some v) : VRefsOk h v := by
  obtain ⟨hop, _, _⟩ := siteB_parts hs
  exact fun y hy => hr y (List.mem_append_left _ (List.mem_append_left _ (imm_refs hop rfl hv y hy)))

theorem CellsKept.codeF {h h' : CHeap} (k : CellsKept h h') {lam : CLambda} (hr : CRefsOk h (.lambda lam))
    (x : CodeF h lam) : CodeF h' lam :=
  ⟨fun j v hs hv => k.childFit (site_imm_refs hr hs hv) (x.1 j v hs hv), x.2⟩

/-- **the clause of a cell whose references are allocated survives** -/
theorem CellF.kept {h h' : CHeap} (k : CellsKept h h') {c : CCell} (hr : CRefsOk h c) (x : CellF h c) : CellF h' c := by
  cases c with
  | val v =>
    intro l e he
    subst he
    exact k.fit (hr e (by simp [eraseC, eraseV, crefs])) (hr l (by simp [eraseC, eraseV, crefs])) (x l e rfl)
  | lambda lam => exact k.codeF hr x
  | cont c => exact ContF.keep k.fitKeep hr x
  | lexEnv _ => trivial
  | vector _ => trivial

theorem cellF_undef (h : CHeap) : CellF h (.val .undefined) := by
  intro l e he; cases he

theorem CellF.kept_old {h h' : CHeap} (g : HG h) (k : CellsKept h h') {i : Nat} {c : CCell}
    (hc : h.cells[i]? = some c) (x : CellF h c) : CellF h' c := by
  by_cases hu : c = .val .undefined
  · subst hu; exact cellF_undef h'
  · exact x.kept k (g.closed (alloc_of_ne_undef g hc hu) hc)

theorem hf_cellsEff {h h' : CHeap} (g : HG h) (ef : CellsEff (fun c => CRefsOk h c ∧ CellF h c) h h') (hf : HF h) :
    HF h' := by
  intro i x hx
  rcases ef.cells i x hx with e | rfl | ⟨hr, ok⟩
  · exact (hf i x e).kept_old g ef.kept e
  · exact cellF_undef _
  · exact ok.kept ef.kept hr

/-- **storing any cell — code included — in a fresh cell keeps `HF`**, when the new cell's references are allocated
    and its clause holds in the old heap -/
theorem cput_hf_any {h : CHeap} (g : HG h) (hf : HF h) {c : CCell} (hr : CRefsOk h c) (ok : CellF h c)
    (sm : Small (cput h c).1) : HF (cput h c).1 :=
  hf_cellsEff g ((cput_cellsEff g c sm).mono fun _ e => e ▸ ⟨hr, ok⟩) hf

theorem newData_cellF {Q : CLambda → Prop} (h : CHeap) {c : CCell} (nc : NewCellOk Q c)
    (hl : ∀ cl, c = .lambda cl → CodeF h cl) : CellF h c := by
  cases nc with
  | pair a d => intro l e he; cases he
  | atom ha _ => intro l e he; subst he; cases ha
  | vector es => trivial
  | lambda q => exact hl _ rfl

/-- **one loader step keeps `HF`, and writes no allocated cell** -/
theorem instStep_hf {Q : CHeap → CLambda → Prop} (hQ : ∀ h cl, Q h cl → LamEnvOk h cl) {h h' : CHeap}
    (st : InstStep Q h h') (g : HG h) (hf : HF h) (sm : Small h') : HF h' ∧ CellsKept h h' := by
  have ef := instStep_cellsEff st g sm
  refine ⟨hf_cellsEff g (ef.mono ?_) hf, ef.kept⟩
  rintro c ⟨hr, _, _, nc | ⟨tag, rfl⟩⟩
  · refine ⟨hr, newData_cellF h nc ?_⟩
    rintro cl rfl
    cases nc with
    | lambda q => exact sitesFB_sound (hQ _ _ q).sites
  · exact ⟨hr, fun l e he => by cases he⟩

end Marwood.Lemmas.Good
