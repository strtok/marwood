import Marwood.Lemmas.CompileCorrect2Main
import Marwood.Lemmas.CompileCorrect2Toy
import Marwood.Lemmas.CompileCorrectConcrete
/-!
# T01.3 stage 2: every hypothesis discharged for `((lambda (x) (if x 1 2)) #t)` and for a tail call

On the heap of `CompileCorrect2Toy.lean` (lambda 0 at address 0, the top-level code at address 1) all hypotheses of
`compileExpr_correct2_nontail` hold for the code the compiler model emits (`demo_compile`, by kernel evaluation), so
the machine ends with a representation of `1` in `acc`, the stack as before, and a heap that represents the
specification's final state. The second program, `((lambda (f) (f #t)) (lambda (x) (if x 1 2)))`, has `(f #t)` in tail
position: a `TCALL` with equal argument counts (the copy loop), and the `RET` of the callee returns to the top level.
-/
namespace Marwood.Lemmas.CompileCorrect2.Toy
open Marwood Marwood.Vm Marwood.Lemmas.CompileCorrect Marwood.Lemmas.CompileCorrect2
open Marwood.Spec.Eval (Val Cell evalN k_lambda k_if_)

def kx : Text := ['x']

def lamE : Datum :=
  Datum.ofList [.sym k_lambda, Datum.ofList [.sym kx],
    Datum.ofList [.sym k_if_, .sym kx, .num (.fix 1), .num (.fix 2)]]

def progE : Datum := Datum.ofList [lamE, .bool true]

def lamCtx : Ctx := ⟨[kx], [(kx, .argument 0)]⟩

def bodyCode : List BC :=
  [.op .mov, .envSlot kx, .acc, .op .jnt, .target 11, .op .movImm, .datum (.num (.fix 1)), .acc,
   .op .jmp, .target 14, .op .movImm, .datum (.num (.fix 2)), .acc]

def demoParts : LambdaParts :=
  { formals := [kx], isVararg := false, ctx := lamCtx, prologue := [.op .enter],
    body := Datum.ofList [Datum.ofList [.sym k_if_, .sym kx, .num (.fix 1), .num (.fix 2)]] }

def demoLam : LambdaM := lamOf demoParts bodyCode

def progCode : List BC :=
  [.op .movImm, .datum (.bool true), .acc, .op .pushAcc, .op .pushImm, .argc 1,
   .op .movImm, .lambda 0, .acc, .op .closureAcc, .op .callAcc]

deriving instance DecidableEq for Marwood.Vm.BC
deriving instance DecidableEq for Marwood.Vm.LambdaM
deriving instance DecidableEq for Marwood.Vm.CState

/-- a decidable test, for `decide +kernel` -/
def okIs (r : Except CErr (CState × List BC)) (st : CState) (code : List BC) : Bool :=
  match r with
  | .ok (s, c) => s == st && c == code
  | .error _ => false

theorem okIs_eq {r : Except CErr (CState × List BC)} {st : CState} {code : List BC} (h : okIs r st code = true) :
    r = .ok (st, code) := by
  cases r with
  | error e => cases h
  | ok p =>
    obtain ⟨s, c⟩ := p
    simp only [okIs, Bool.and_eq_true, beq_iff_eq] at h
    rw [h.1, h.2]

theorem demo_compile : compileExpr 20 {} c0 0 false progE = .ok ({ lambdas := [demoLam] }, progCode) :=
  okIs_eq (by decide +kernel)

def demoCells0 : List VCell :=
  [.opcode .enter, .opcode .mov, .lexEnvSlot 0, .acc, .opcode .jnt, .ptr 11, .opcode .movImm, .opaque "n1", .acc,
   .opcode .jmp, .ptr 14, .opcode .movImm, .opaque "n2", .acc, .opcode .ret]

def demoCells1 : List VCell :=
  [.opcode .movImm, .bool true, .acc, .opcode .pushAcc, .opcode .pushImm, .argc 1,
   .opcode .movImm, .ptr 0, .acc, .opcode .closureAcc, .opcode .callAcc]

def demoHeap : THeap :=
  { lams := [⟨demoCells0, 1, [.arg 0]⟩, ⟨demoCells1, 0, []⟩], envs := #[], clos := #[], globals := #[] }

def demoState : MSt THeap :=
  { heap := demoHeap, stack := ⟨List.replicate 8 .undefined, 0⟩, acc := .undefined, ep := 0, ipL := 1, ipO := 0,
    bp := 0 }

def demoSt : SSt := { globals := [], store := #[], out := [] }
def demoSt' : SSt := { globals := [], store := #[.var (.bool true)], out := [] }

theorem demo_eval : (evalN 6).eval progE [] demoSt = .ok (.int 1) demoSt' := by rfl

abbrev demoD : RepData2 tops := tD [demoLam]

theorem tVRc_int {h : THeap} {S : Array Cell} {v : VCell} {n : Int} (x : tVRc h S v (.int n)) :
    v = .opaque ("n" ++ toString n) := by
  cases x with
  | base hb => exact hb

theorem CodeAt2.ofAll2 {H : Type} {ops : HeapOps H} {D : RepData2 ops} {em : List (Text × Source)} {h : H}
    {S : Array Cell} {l base : Nat} {code : List BC} (vs : List VCell) (hl : ops.isLambda h l = true)
    (hf : ∀ i, i < vs.length → ops.fetch h l (base + i) = vs[i]?)
    (h2 : All2 (Loads2 D em h S) code vs) : CodeAt2 D em h S l base code :=
  ⟨hl, h2.fetch hf⟩

theorem codeAt_lam {final : List LambdaM} {em : List (Text × Source)} {h : THeap} {S : Array Cell} {l : Nat}
    {t : TLam} {code : List BC} (hl : h.lams[l]? = some t) (h2 : All2 (Loads2 (tD final) em h S) code t.bc) :
    CodeAt2 (tD final) em h S l 0 code := by
  refine CodeAt2.ofAll2 t.bc ?_ (fun i _ => ?_) h2
  · show (h.lams[l]?).isSome = true
    rw [hl]; rfl
  · show (h.lams[l]?).bind _ = _
    rw [hl, Nat.zero_add]; rfl

theorem loads_lambda {H : Type} {ops : HeapOps H} {D : RepData2 ops} {em : List (Text × Source)} {h : H}
    {S : Array Cell} {id : Nat} {lamM : LambdaM} (hf : D.final[id]? = some lamM)
    (hl : ops.isLambda h (D.LM id) = true) (hs : D.lamSrcs h (D.LM id) = some (lamM.envmap.map (rsrc em))) :
    Loads2 D em h S (.lambda id) (.ptr (D.LM id)) := by
  refine ⟨rfl, fun lamM' hl' => ?_⟩
  rw [hf] at hl'; cases hl'
  exact ⟨hl, hs⟩

theorem loads_true (final : List LambdaM) (em : List (Text × Source)) (h : THeap) (S : Array Cell) :
    Loads2 (tD final) em h S (.datum (.bool true)) (.bool true) :=
  ⟨(by intro o e; cases e), .atom rfl (.base rfl)⟩

theorem loads_fix (final : List LambdaM) (em : List (Text × Source)) (h : THeap) (S : Array Cell) (n : Int)
    {tag : String} (ht : tag = "n" ++ toString n) : Loads2 (tD final) em h S (.datum (.num (.fix n))) (.opaque tag) :=
  ⟨(by intro o e; cases e), .atom (w := .int n) rfl (.base (by subst ht; rfl))⟩

theorem forall_getElem?_nil {α : Type} {P : Nat → α → Prop} : ∀ i x, ([] : List α)[i]? = some x → P i x :=
  fun _ _ h => by cases h

theorem forall_getElem?_cons {α : Type} {P : Nat → α → Prop} {a : α} {l : List α} (h0 : P 0 a)
    (hs : ∀ i x, l[i]? = some x → P (i + 1) x) : ∀ i x, (a :: l)[i]? = some x → P i x
  | 0, _, h => by cases h; exact h0
  | i + 1, x, h => hs i x h

def W0 : World := fun _ _ _ => False

theorem inv_empty {final : List LambdaM} {h : THeap} (hl : AllLoaded (tD final) h demoSt.store) :
    Inv2 (tD final) W0 h demoSt :=
  ⟨(by intro x w h; cases h), (by intro x h; cases h), trivial, (by intro x h; cases h), hl,
    (by intro e n l l' h; cases h), (by intro e n e' n' l h; cases h), (by intro e n l h; cases h)⟩

theorem frag_lamE {f : Nat} {t : Bool} (hp : lambdaParts (f + 3) c0 lamE false = .ok demoParts) :
    F2 (fun _ => False) (f + 4) c0 (bound []) t lamE := by
  have hx : inEnv lamCtx kx = true := by decide
  refine F2.lambda (Datum.ofList [.sym kx]) _ demoParts [kx] _ [] [] hp (by rfl) rfl rfl (by decide) (by rfl)
    (by intro e he; simp at he; subst he; rfl) rfl (by intro q hq; cases hq) ?_
  exact F2B.last _ (F2.if3 _ _ _ (F2.sym kx ⟨fun _ => .inl (by simp), fun _ => hx⟩) (F2.num _) (F2.num _))

theorem demo_frag : F2 (fun _ => False) 20 c0 (bound []) false progE :=
  F2.app lamE _ ⟨by decide, by intro x h; cases h⟩ (frag_lamE (by rfl)) (F2L.cons _ _ (F2.bool true) F2L.nil)

theorem code0_at (final : List LambdaM) {h : THeap} (S : Array Cell)
    (hl : h.lams[0]? = some ⟨demoCells0, 1, [.arg 0]⟩) : CodeAt2 (tD final) lamCtx.envmap h S 0 0 demoLam.bc := by
  have hslot : Loads2 (tD final) lamCtx.envmap h S (.envSlot kx) (.lexEnvSlot 0) := ⟨0, by decide, rfl⟩
  exact codeAt_lam hl (.cons rfl (.cons rfl (.cons hslot (.cons rfl (.cons rfl (.cons rfl (.cons rfl
    (.cons (loads_fix _ _ _ _ 1 rfl) (.cons rfl (.cons rfl (.cons rfl (.cons rfl (.cons (loads_fix _ _ _ _ 2 rfl)
    (.cons rfl (.cons rfl .nil)))))))))))))))

theorem progCode_at {lam0 : LambdaM} {h : THeap} (S : Array Cell) (h0 : tops.isLambda h 0 = true)
    (hs : (tD [lam0]).lamSrcs h 0 = some (lam0.envmap.map (rsrc c0.envmap)))
    (h1 : h.lams[1]? = some ⟨demoCells1, 0, []⟩) : CodeAt2 (tD [lam0]) c0.envmap h S 1 0 progCode :=
  codeAt_lam h1 (.cons rfl (.cons (loads_true _ _ _ _) (.cons rfl (.cons rfl (.cons rfl (.cons rfl (.cons rfl
    (.cons (loads_lambda (id := 0) rfl h0 hs) (.cons rfl (.cons rfl (.cons rfl .nil)))))))))))

theorem demo_inv : Inv2 demoD W0 demoHeap demoSt :=
  inv_empty (forall_getElem?_cons ⟨code0_at _ _ rfl, rfl⟩ forall_getElem?_nil)

/-- **Non-vacuity of stage 2**: the machine run of `((lambda (x) (if x 1 2)) #t)` exists and ends with a
    representation of `1`. -/
theorem demo_closure_runs :
    ∃ W' s', Run2 demoD W' demoState 11 demoSt demoSt' (.int 1) s' := by
  obtain ⟨W', s', _, r⟩ := compileExpr_correct2_nontail (laws [demoLam]) 20 {} c0 0 progE _ progCode [] demo_frag
    ctxOK_top demo_compile (List.prefix_refl _) 6 demoSt (.int 1) demoSt' demo_eval W0 demoState
    (progCode_at _ rfl rfl rfl) rfl
    demo_inv (envRep_top _ _ _) (by show 0 < 8; omega)
  exact ⟨W', s', r⟩

theorem demo_closure_acc : ∃ W' s', Run2 demoD W' demoState 11 demoSt demoSt' (.int 1) s' ∧ s'.acc = .opaque "n1" := by
  obtain ⟨W', s', r⟩ := demo_closure_runs
  exact ⟨W', s', r, tVRc_int r.acc⟩


def kf : Text := ['f']

def lamF : Datum := Datum.ofList [.sym k_lambda, Datum.ofList [.sym kf], Datum.ofList [.sym kf, .bool true]]

def progT : Datum := Datum.ofList [lamF, lamE]

def lamCtxF : Ctx := ⟨[kf], [(kf, .argument 0)]⟩

def bodyCodeF : List BC :=
  [.op .movImm, .datum (.bool true), .acc, .op .pushAcc, .op .pushImm, .argc 1, .op .mov, .envSlot kf, .acc,
   .op .tcallAcc]

def demoPartsF : LambdaParts :=
  { formals := [kf], isVararg := false, ctx := lamCtxF, prologue := [.op .enter],
    body := Datum.ofList [Datum.ofList [.sym kf, .bool true]] }

def demoLamF : LambdaM := lamOf demoPartsF bodyCodeF

def progCodeT : List BC :=
  [.op .movImm, .lambda 0, .acc, .op .closureAcc, .op .pushAcc, .op .pushImm, .argc 1,
   .op .movImm, .lambda 1, .acc, .op .closureAcc, .op .callAcc]

theorem demo_partsF : lambdaParts 18 c0 lamF false = .ok demoPartsF := by rfl

theorem demo_compileT : compileExpr 20 {} c0 0 false progT = .ok ({ lambdas := [demoLam, demoLamF] }, progCodeT) :=
  okIs_eq (by decide +kernel)

def demoCellsF : List VCell :=
  [.opcode .enter, .opcode .movImm, .bool true, .acc, .opcode .pushAcc, .opcode .pushImm, .argc 1,
   .opcode .mov, .lexEnvSlot 0, .acc, .opcode .tcallAcc, .opcode .ret]

def demoCellsT : List VCell :=
  [.opcode .movImm, .ptr 0, .acc, .opcode .closureAcc, .opcode .pushAcc, .opcode .pushImm, .argc 1,
   .opcode .movImm, .ptr 1, .acc, .opcode .closureAcc, .opcode .callAcc]

def demoHeapT : THeap :=
  { lams := [⟨demoCells0, 1, [.arg 0]⟩, ⟨demoCellsF, 1, [.arg 0]⟩, ⟨demoCellsT, 0, []⟩], envs := #[], clos := #[],
    globals := #[] }

def demoStateT : MSt THeap :=
  { heap := demoHeapT, stack := ⟨List.replicate 8 .undefined, 0⟩, acc := .undefined, ep := 0, ipL := 2, ipO := 0,
    bp := 0 }

def demoStT' : SSt :=
  { globals := []
    store := #[.var (.closure [kx] none [Datum.ofList [.sym k_if_, .sym kx, .num (.fix 1), .num (.fix 2)]] []),
               .var (.bool true)]
    out := [] }

theorem demo_evalT : (evalN 8).eval progT [] demoSt = .ok (.int 1) demoStT' := by rfl

abbrev demoDT : RepData2 tops := tD [demoLam, demoLamF]

theorem demo_fragT : F2 (fun _ => False) 20 c0 (bound []) false progT := by
  have hf : inEnv lamCtxF kf = true := by decide
  refine F2.app lamF _ ⟨by decide, by intro x h; cases h⟩ ?_ (F2L.cons _ _ (frag_lamE (by rfl)) F2L.nil)
  refine F2.lambda (Datum.ofList [.sym kf]) _ demoPartsF [kf] _ [] [] demo_partsF (by rfl) rfl rfl (by decide)
    (by rfl) (by intro e he; simp at he; subst he; rfl) rfl (by intro q hq; cases hq) ?_
  exact F2B.last _ (F2.app _ _ ⟨by decide, by intro x h; cases h; decide⟩
    (F2.sym kf ⟨fun _ => .inl (by simp), fun _ => hf⟩) (F2L.cons _ _ (F2.bool true) F2L.nil))

theorem demoT_codeF (S : Array Cell) : CodeAt2 demoDT lamCtxF.envmap demoHeapT S 1 0 demoLamF.bc := by
  have hslot : Loads2 demoDT lamCtxF.envmap demoHeapT S (.envSlot kf) (.lexEnvSlot 0) := ⟨0, by decide, rfl⟩
  exact codeAt_lam (t := ⟨demoCellsF, 1, [.arg 0]⟩) rfl (.cons rfl (.cons rfl (.cons (loads_true _ _ _ _)
    (.cons rfl (.cons rfl (.cons rfl (.cons rfl (.cons rfl (.cons hslot (.cons rfl (.cons rfl
    (.cons rfl .nil))))))))))))

theorem demoT_codeTop (S : Array Cell) : CodeAt2 demoDT c0.envmap demoHeapT S 2 0 progCodeT :=
  codeAt_lam (t := ⟨demoCellsT, 0, []⟩) rfl (.cons rfl (.cons (loads_lambda (id := 0) rfl rfl rfl)
    (.cons rfl (.cons rfl (.cons rfl (.cons rfl (.cons rfl (.cons rfl
    (.cons (loads_lambda (id := 1) rfl rfl rfl) (.cons rfl (.cons rfl (.cons rfl .nil))))))))))))

theorem demoT_inv : Inv2 demoDT W0 demoHeapT demoSt :=
  inv_empty (forall_getElem?_cons ⟨code0_at _ _ rfl, rfl⟩
    (forall_getElem?_cons ⟨demoT_codeF _, rfl⟩ forall_getElem?_nil))

/-- **Non-vacuity, tail call**: CLOSURE twice, CALL, ENTER, the operand, the lexical load of `f`, TCALL (the frame
    is replaced), ENTER, the body of the second procedure, RET to the top-level code. -/
theorem demo_tailcall_runs :
    ∃ W' s', Run2 demoDT W' demoStateT 12 demoSt demoStT' (.int 1) s' ∧ s'.acc = .opaque "n1" := by
  obtain ⟨W', s', _, r⟩ := compileExpr_correct2_nontail (laws [demoLam, demoLamF]) 20 {} c0 0 progT _ progCodeT []
    demo_fragT ctxOK_top demo_compileT (List.prefix_refl _) 8 demoSt (.int 1) demoStT' demo_evalT W0 demoStateT
    (demoT_codeTop _) rfl demoT_inv (envRep_top _ _ _) (by show 0 < 8; omega)
  exact ⟨W', s', r, tVRc_int r.acc⟩

end Marwood.Lemmas.CompileCorrect2.Toy
