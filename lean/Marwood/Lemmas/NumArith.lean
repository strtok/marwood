import Mathlib.Tactic.FieldSimp
import Marwood.Lemmas.NumRatio
/-!
# Exact answers of the arithmetic model are the exact results (all representation pairs)

Each of `+ − × ÷` answers its double fall-back or an exact number whose value is the operation in ℚ
on the values of the operands (`Answers`): one statement per operator, the rest is read off it.
Then T08.3: `quotient`, `Rem`, `modulo` on integers in any carrier (`intVal_cases`); `isRatRep` is the
carrier with 32-bit arithmetic.
-/
namespace Marwood.Fl

theorem add_symm (x y : F64) : add x y = add y x := by
  unfold add
  cases classify x <;> cases classify y <;> simp only [Bool.and_comm, _root_.add_comm]
  case inf.inf s t => cases s <;> cases t <;> rfl

theorem mul_symm (x y : F64) : mul x y = mul y x := by
  unfold mul
  cases classify x <;> cases classify y <;> simp only [Bool.xor_comm, _root_.mul_comm]

end Marwood.Fl

namespace Marwood.Arith
open Marwood Marwood.NumSpec

/-- what the value lemmas need of `WF` -/
def DenPos : Num → Prop
  | .rat _ d => 0 < d
  | _ => True

theorem denpos_rat {n d : Int} (h : DenPos (.rat n d)) : 0 < d := h

theorem wf_rat_pos {n d : Int} (h : (Num.rat n d).WF = true) : 0 < d := by
  simp only [Num.WF, Bool.and_eq_true, decide_eq_true_eq] at h
  omega

theorem wf_rat_i32 {n d : Int} (h : (Num.rat n d).WF = true) : inI32 n = true ∧ inI32 d = true := by
  simp only [Num.WF, Bool.and_eq_true, decide_eq_true_eq] at h
  exact ⟨h.1.1.2, h.1.2⟩

theorem DenPos.of_wf {a : Num} (h : a.WF = true) : DenPos a := by
  cases a with
  | rat n d => exact wf_rat_pos h
  | _ => trivial

@[simp] theorem val_fix (n : Int) : val (.fix n) = some (n : Rat) := rfl
@[simp] theorem val_big (n : Int) : val (.big n) = some (n : Rat) := rfl
@[simp] theorem val_rat (n d : Int) : val (.rat n d) = some ((n : Rat) / (d : Rat)) := rfl
@[simp] theorem isExact_flo (f : F64) : isExact (.flo f) = false := rfl
@[simp] theorem isExact_flo2 (op : F64 → F64 → F64) (a b : Num) : isExact (flo2 op a b) = false := rfl

def qval : Num → Rat
  | .fix n => n
  | .big n => n
  | .rat n d => (n : Rat) / d
  | .flo _ => 0

theorem val_qval {a : Num} (h : isExact a = true) : val a = some (qval a) := by
  cases a <;> first | rfl | cases h

theorem qne {d : Int} (h : 0 < d) : (d : Rat) ≠ 0 := by exact_mod_cast h.ne'

/-- `r` is the fall-back `f`, or exact with value `v` (then `P`: for `÷`, a non-zero divisor) -/
def Answers (v : Rat) (f r : Num) (P : Prop := True) : Prop :=
  r = f ∨ (P ∧ isExact r = true ∧ DenPos r ∧ val r = some v)

namespace Answers
variable {v : Rat} {f r : Num} {P : Prop}

theorem big {n : Int} (h : (n : Rat) = v) (hP : P := by trivial) : Answers v f (.big n) P :=
  .inr ⟨hP, rfl, trivial, h ▸ rfl⟩

theorem fix {n : Int} (h : (n : Rat) = v) (hP : P := by trivial) : Answers v f (.fix n) P :=
  .inr ⟨hP, rfl, trivial, h ▸ rfl⟩

theorem chk64 {n : Int} (h : (n : Rat) = v) :
    Answers v f (match chk64 n with | some s => .fix s | none => .big n) := by
  split
  · rename_i s hs; rw [(chk64_some hs).1]; exact fix h
  · exact big h

theorem ite {c : Prop} [Decidable c] (h : c → Answers v f r P) :
    Answers v f (if c then r else f) P := by
  split
  · exact h ‹c›
  · exact .inl rfl

theorem ratArm {o : Option Ratio} {N D : Int} (hD : D ≠ 0) (hc : ∀ q, o = some q → P ∧ Crs q N D)
    (hv : (N : Rat) / D = v) : Answers v f (ratArm o f) P := by
  cases o with
  | none => exact .inl rfl
  | some q =>
    obtain ⟨hP, hq⟩ := hc q rfl
    exact .inr ⟨hP, rfl, hq.1, by rw [← hv, ← crs_val hD hq]; rfl⟩

variable {op : F64 → F64 → F64} {a b : Num}

theorem denPos (h : Answers v (flo2 op a b) r P) : DenPos r := h.elim (· ▸ trivial) (·.2.2.1)

theorem of_exact (h : Answers v (flo2 op a b) r P) (he : isExact r = true) : P ∧ val r = some v :=
  h.elim (fun e => by rw [e] at he; cases he) (fun e => ⟨e.1, e.2.2.2⟩)

theorem of_inexact (h : Answers v f r P) (he : isExact r = false) : r = f :=
  h.elim id (fun e => by rw [e.2.1] at he; cases he)

end Answers

section
variable {f : Num} {x y : Ratio} (hx : 0 < x.2) (hy : 0 < y.2)
include hx hy

theorem checkedAdd_answers :
    Answers ((x.1 : Rat) / x.2 + (y.1 : Rat) / y.2) f (ratArm (checkedAdd x y) f) :=
  .ratArm (Int.mul_pos hx hy).ne' (fun _ h => ⟨trivial, checkedAdd_crs x y hx hy h⟩)
    (by have := qne hx; have := qne hy; push_cast; field_simp)

theorem checkedSub_answers :
    Answers ((x.1 : Rat) / x.2 - (y.1 : Rat) / y.2) f (ratArm (checkedSub x y) f) :=
  .ratArm (Int.mul_pos hx hy).ne' (fun _ h => ⟨trivial, checkedSub_crs x y hx hy h⟩)
    (by have := qne hx; have := qne hy; push_cast; field_simp)

theorem checkedMul_answers :
    Answers ((x.1 : Rat) / x.2 * ((y.1 : Rat) / y.2)) f (ratArm (checkedMul x y) f) :=
  .ratArm (Int.mul_pos hx hy).ne' (fun _ h => ⟨trivial, checkedMul_crs x y hx hy h⟩)
    (by have := qne hx; have := qne hy; push_cast; field_simp)

theorem checkedDiv_answers :
    Answers ((x.1 : Rat) / x.2 / ((y.1 : Rat) / y.2)) f (ratArm (checkedDiv x y) f)
      ((y.1 : Rat) / y.2 ≠ 0) := by
  by_cases h0 : y.1 = 0
  · cases hc : checkedDiv x y with
    | none => exact .inl rfl
    | some q => exact absurd h0 (checkedDiv_crs x y hx hy hc).1
  · have h0' : (y.1 : Rat) ≠ 0 := by exact_mod_cast h0
    exact .ratArm (Int.mul_ne_zero hx.ne' h0)
      (fun _ h => ⟨div_ne_zero h0' (qne hy), (checkedDiv_crs x y hx hy h).2⟩)
      (by have := qne hx; have := qne hy; push_cast; field_simp)

end

theorem add_answers (a b : Num) (ha : DenPos a) (hb : DenPos b) :
    Answers (qval a + qval b) (flo2 Fl.add a b) (add a b) := by
  cases a <;> cases b
  case fix.fix l r => exact .chk64 (Int.cast_add l r)
  case fix.big l r => exact .big ((Int.cast_add r l).trans (add_comm _ _))
  case big.fix l r => exact .big (Int.cast_add l r)
  case big.big l r => exact .big (Int.cast_add l r)
  case fix.rat l n d =>
    exact .ite fun _ => by
      simpa only [qval, Int.cast_one, div_one] using
        checkedAdd_answers (x := (l, 1)) (y := (n, d)) Int.one_pos hb
  case rat.fix n d r =>
    exact .ite fun _ => by
      simpa only [qval, Int.cast_one, div_one, add_comm] using
        checkedAdd_answers (x := (r, 1)) (y := (n, d)) Int.one_pos ha
  case rat.rat n d n' d' => exact checkedAdd_answers (x := (n, d)) (y := (n', d')) ha hb
  case big.rat l n d => exact .ite fun h => by rw [eq_of_beq h]; exact .big (by simp [qval])
  case rat.big n d r =>
    -- this arm converts the operands in the other order
    show Answers _ _ (if (d == 1) = true then _ else flo2 Fl.add (.big r) (.rat n d))
    rw [show flo2 Fl.add (.big r) (.rat n d) = flo2 Fl.add (.rat n d) (.big r) from
      congrArg Num.flo (Fl.add_symm _ _)]
    exact .ite fun h => by rw [eq_of_beq h]; exact .big (by simp [qval, add_comm])
  all_goals exact .inl rfl

theorem sub_answers (a b : Num) (ha : DenPos a) (hb : DenPos b) :
    Answers (qval a - qval b) (flo2 Fl.sub a b) (sub a b) := by
  cases a <;> cases b
  case fix.fix l r => exact .chk64 (Int.cast_sub l r)
  case fix.big l r => exact .big (Int.cast_sub l r)
  case big.fix l r => exact .big (Int.cast_sub l r)
  case big.big l r => exact .big (Int.cast_sub l r)
  case fix.rat l n d =>
    exact .ite fun _ => by
      simpa only [qval, Int.cast_one, div_one] using
        checkedSub_answers (x := (l, 1)) (y := (n, d)) Int.one_pos hb
  case rat.fix n d r =>
    exact .ite fun _ => by
      simpa only [qval, Int.cast_one, div_one] using
        checkedSub_answers (x := (n, d)) (y := (r, 1)) ha Int.one_pos
  case rat.rat n d n' d' => exact checkedSub_answers (x := (n, d)) (y := (n', d')) ha hb
  case big.rat l n d => exact .ite fun h => by rw [eq_of_beq h]; exact .big (by simp [qval])
  case rat.big n d r => exact .ite fun h => by rw [eq_of_beq h]; exact .big (by simp [qval])
  all_goals exact .inl rfl

theorem mul_answers (a b : Num) (ha : DenPos a) (hb : DenPos b) :
    Answers (qval a * qval b) (flo2 Fl.mul a b) (mul a b) := by
  cases a <;> cases b
  case fix.fix l r => exact .chk64 (Int.cast_mul l r)
  case fix.big l r => exact .big ((Int.cast_mul r l).trans (mul_comm _ _))
  case big.fix l r => exact .big (Int.cast_mul l r)
  case big.big l r => exact .big (Int.cast_mul l r)
  case fix.rat l n d =>
    exact .ite fun _ => by
      simpa only [qval, Int.cast_one, div_one] using
        checkedMul_answers (x := (l, 1)) (y := (n, d)) Int.one_pos hb
  case rat.fix n d r =>
    exact .ite fun _ => by
      simpa only [qval, Int.cast_one, div_one, mul_comm] using
        checkedMul_answers (x := (r, 1)) (y := (n, d)) Int.one_pos ha
  case rat.rat n d n' d' => exact checkedMul_answers (x := (n, d)) (y := (n', d')) ha hb
  case big.rat l n d => exact .ite fun h => by rw [eq_of_beq h]; exact .big (by simp [qval])
  case rat.big n d r =>
    show Answers _ _ (if (d == 1) = true then _ else flo2 Fl.mul (.big r) (.rat n d))
    rw [show flo2 Fl.mul (.big r) (.rat n d) = flo2 Fl.mul (.rat n d) (.big r) from
      congrArg Num.flo (Fl.mul_symm _ _)]
    exact .ite fun h => by rw [eq_of_beq h]; exact .big (by simp [qval, mul_comm])
  all_goals exact .inl rfl

theorem add_exact_operands {a b : Num} (h : isExact (add a b) = true) :
    isExact a = true ∧ isExact b = true := by
  cases a <;> cases b <;> first | exact ⟨rfl, rfl⟩ | cases h

theorem sub_exact_operands {a b : Num} (h : isExact (sub a b) = true) :
    isExact a = true ∧ isExact b = true := by
  cases a <;> cases b <;> first | exact ⟨rfl, rfl⟩ | cases h

theorem mul_exact_operands {a b : Num} (h : isExact (mul a b) = true) :
    isExact a = true ∧ isExact b = true := by
  cases a <;> cases b <;> first | exact ⟨rfl, rfl⟩ | cases h

theorem add_exact (a b : Num) (ha : DenPos a) (hb : DenPos b)
    (h : isExact (add a b) = true) :
    ∃ x y, val a = some x ∧ val b = some y ∧ val (add a b) = some (x + y) :=
  have ⟨hea, heb⟩ := add_exact_operands h
  ⟨_, _, val_qval hea, val_qval heb, ((add_answers a b ha hb).of_exact h).2⟩

theorem sub_exact (a b : Num) (ha : DenPos a) (hb : DenPos b)
    (h : isExact (sub a b) = true) :
    ∃ x y, val a = some x ∧ val b = some y ∧ val (sub a b) = some (x - y) :=
  have ⟨hea, heb⟩ := sub_exact_operands h
  ⟨_, _, val_qval hea, val_qval heb, ((sub_answers a b ha hb).of_exact h).2⟩

theorem mul_exact (a b : Num) (ha : DenPos a) (hb : DenPos b)
    (h : isExact (mul a b) = true) :
    ∃ x y, val a = some x ∧ val b = some y ∧ val (mul a b) = some (x * y) :=
  have ⟨hea, heb⟩ := mul_exact_operands h
  ⟨_, _, val_qval hea, val_qval heb, ((mul_answers a b ha hb).of_exact h).2⟩

theorem asI32_qval {b : Num} {r : Int} (h : asI32 b = some r) :
    qval b = r ∧ toF b = Fl.ofInt r ∧ isExact b = true := by
  cases b <;> first | cases h | (rw [← (chk32_some h).1]; exact ⟨rfl, rfl, rfl⟩)

theorem ratioOfI32_answers {a b : Num} {l r : Int} (hl : asI32 a = some l) (hr : asI32 b = some r)
    {x : Num} (h : ratioOfI32 l r = .ok x) :
    Answers (qval a / qval b) (flo2 Fl.div a b) x (qval b ≠ 0) := by
  unfold flo2
  rw [(asI32_qval hl).1, (asI32_qval hr).1, (asI32_qval hl).2.1, (asI32_qval hr).2.1]
  simp only [ratioOfI32] at h
  split at h
  · cases h
  · rename_i hr0
    have hr0 : (r : Rat) ≠ 0 := by simpa using hr0
    have key : ((Rat.divInt l r).num : Rat) / ((Rat.divInt l r).den : Int) = (l : Rat) / r := by
      rw [Int.cast_natCast, Rat.num_div_den, Rat.divInt_eq_div]
    split at h
    · cases h; exact .inr ⟨hr0, rfl, by simp [DenPos, Rat.den_pos], congrArg some key⟩
    · split at h
      · rename_i h1
        cases h
        rw [eq_of_beq h1, Int.cast_one, div_one] at key
        exact .fix key hr0
      · cases h; exact .inl rfl

theorem div_answers (a b : Num) (ha : DenPos a) (hb : DenPos b) {r : Num} (h : div a b = .ok r) :
    Answers (qval a / qval b) (flo2 Fl.div a b) r (qval b ≠ 0) := by
  cases a <;> cases b
  case rat.rat n d n' d' => cases h; exact checkedDiv_answers (x := (n, d)) (y := (n', d')) ha hb
  case rat.fix n d k | rat.big n d k =>
    simp only [div] at h
    split at h <;> cases h
    · rename_i i hi
      rw [(asI32_qval hi).1]
      simpa only [qval, ratOrFlo, Int.cast_one, div_one] using
        checkedDiv_answers (x := (n, d)) (y := (i, 1)) ha Int.one_pos
    · exact .inl rfl
  case fix.rat k n d | big.rat k n d =>
    simp only [div] at h
    split at h <;> cases h
    · rename_i i hi
      rw [(asI32_qval hi).1]
      simpa only [qval, ratOrFlo, Int.cast_one, div_one] using
        checkedDiv_answers (x := (i, 1)) (y := (n, d)) Int.one_pos hb
    · exact .inl rfl
  case fix.fix | fix.big | big.fix | big.big =>
    simp only [div] at h
    split at h
    · exact ratioOfI32_answers ‹_› ‹_› h
    · cases h; exact .inl rfl
  all_goals cases h; exact .inl rfl

theorem div_exact_operands {a b r : Num} (h : div a b = .ok r) (he : isExact r = true) :
    isExact a = true ∧ isExact b = true := by
  cases a <;> cases b <;> first | exact ⟨rfl, rfl⟩ | (cases h; cases he)

theorem div_exact (a b : Num) (ha : DenPos a) (hb : DenPos b) {r : Num}
    (h : div a b = .ok r) (he : isExact r = true) :
    ∃ x y, val a = some x ∧ val b = some y ∧ y ≠ 0 ∧ val r = some (x / y) :=
  have ⟨hea, heb⟩ := div_exact_operands h he
  have ⟨h0, hv⟩ := (div_answers a b ha hb h).of_exact he
  ⟨_, _, val_qval hea, val_qval heb, h0, hv⟩

theorem intVal_rat {n d x : Int} (h : intVal? (.rat n d) = some x) : d = 1 ∧ x = n := by
  simp only [intVal?] at h
  split at h
  · rename_i h1; cases h; exact ⟨eq_of_beq h1, rfl⟩
  · cases h

theorem intVal_cases {a : Num} {x : Int} (h : intVal? a = some x) :
    a = .fix x ∨ a = .big x ∨ a = .rat x 1 := by
  cases a with
  | fix n => cases h; exact .inl rfl
  | big n => cases h; exact .inr (.inl rfl)
  | rat n d => obtain ⟨rfl, rfl⟩ := intVal_rat h; exact .inr (.inr rfl)
  | flo f => cases h

theorem intVal_val {a : Num} {x : Int} (h : intVal? a = some x) : val a = some (x : Rat) := by
  obtain rfl | rfl | rfl := intVal_cases h <;> simp

theorem chk64_cases (n : Int) : chk64 n = some n ∨ chk64 n = none := by
  unfold chk64; split <;> simp

theorem quotient_spec (a b : Num) {x y : Int} (hx : intVal? a = some x) (hy : intVal? b = some y)
    (hy0 : y ≠ 0) :
    ∃ r, quotient a b = some (.ok (some r)) ∧ intVal? r = some (x.tdiv y) := by
  obtain rfl | rfl | rfl := intVal_cases hx <;> obtain rfl | rfl | rfl := intVal_cases hy
  case inl.inl | inl.inr.inr =>
    rcases chk64_cases (x.tdiv y) with h | h <;> simp [quotient, hy0, intVal?, h]
  all_goals simp [quotient, hy0, intVal?]

def isRatRep : Num → Bool
  | .rat _ _ => true
  | _ => false

/-- last conjunct, for `modulo`: a remainder is carried as a ratio (32-bit `add`) only if the divisor is -/
theorem rem_spec (a b : Num) {x y : Int} (hx : intVal? a = some x) (hy : intVal? b = some y)
    (hy0 : y ≠ 0) :
    ∃ r, rem a b = some (.ok (some r)) ∧ intVal? r = some (x.tmod y) ∧
      (isRatRep r = true → isRatRep b = true) := by
  obtain rfl | rfl | rfl := intVal_cases hx <;> obtain rfl | rfl | rfl := intVal_cases hy <;>
    simp [rem, hy0, intVal?, isRatRep]

theorem fmod_via_tmod (a b : Int) (hb : b ≠ 0) :
    a.fmod b = if (a.tmod b < 0 ∧ 0 < b) ∨ (0 < a.tmod b ∧ b < 0) then a.tmod b + b else a.tmod b := by
  -- both in terms of `a % b`, which is 0 exactly when `b ∣ a`
  have h1 := Int.emod_nonneg a hb
  have h2 := Int.emod_lt a hb
  have h3 : b ∣ a ↔ a % b = 0 := Int.dvd_iff_emod_eq_zero
  rw [Int.fmod_eq_emod, Int.tmod_eq_emod]
  split <;> split <;> split <;> omega

theorem reduce_one (s : Int) : reduce s 1 = (s, 1) := by
  unfold reduce
  by_cases h0 : s = 0
  · simp [h0]
  · by_cases h1 : s = 1
    · simp [h1]
    · simp [h0, h1]

theorem chk32_of {n : Int} (h : inI32 n = true) : chk32 n = some n := by simp [chk32, h]

theorem checkedAdd_int {t y : Int} (ht : inI32 t = true) (hy : inI32 y = true)
    (hs : inI32 (t + y) = true) : checkedAdd (t, 1) (y, 1) = some (t + y, 1) := by
  have h1 : inI32 1 = true := by decide
  simp [checkedAdd, gcdI, chk32_of h1, chk32_of ht, chk32_of hy, chk32_of hs, reduce_one]

/-- `h32`: the 32-bit path, taken when a ratio is involved, has room -/
theorem add_intVal (r b : Num) {t y : Int} (hr : intVal? r = some t) (hb : intVal? b = some y)
    (h32 : isRatRep r = true ∨ isRatRep b = true →
      inI32 t = true ∧ inI32 y = true ∧ inI32 (t + y) = true) :
    intVal? (add r b) = some (t + y) := by
  obtain rfl | rfl | rfl := intVal_cases hr <;> obtain rfl | rfl | rfl := intVal_cases hb
  case inl.inl => rcases chk64_cases (t + y) with h | h <;> simp [add, intVal?, h]
  case inl.inr.inr =>
    obtain ⟨a1, a2, a3⟩ := h32 (.inr rfl)
    simp [add, a1, checkedAdd_int a1 a2 a3, ratArm, ofRatio, intVal?]
  case inr.inr.inl =>
    obtain ⟨a1, a2, a3⟩ := h32 (.inl rfl)
    simp [add, a2, checkedAdd_int a2 a1 (Int.add_comm t y ▸ a3), ratArm, ofRatio, intVal?, Int.add_comm]
  case inr.inr.inr.inr =>
    obtain ⟨a1, a2, a3⟩ := h32 (.inl rfl)
    simp [add, checkedAdd_int a1 a2 a3, ratArm, ofRatio, intVal?]
  all_goals simp [add, intVal?, Int.add_comm]

theorem numNeg_of_intVal {r : Num} {t : Int} (h : intVal? r = some t) : numNeg r = decide (t < 0) := by
  obtain rfl | rfl | rfl := intVal_cases h <;> rfl

theorem numPos_of_intVal {r : Num} {t : Int} (h : intVal? r = some t) : numPos r = decide (0 < t) := by
  obtain rfl | rfl | rfl := intVal_cases h <;> rfl

theorem natAbs_tmod_lt (x : Int) {y : Int} (hy : y ≠ 0) : (x.tmod y).natAbs < y.natAbs := by
  rw [Int.natAbs_tmod]
  exact Nat.mod_lt _ (Int.natAbs_pos.mpr hy)

theorem modulo_spec (a b : Num) (hb : b.WF = true) {x y : Int} (hx : intVal? a = some x)
    (hy : intVal? b = some y) (hy0 : y ≠ 0) :
    ∃ r, modulo a b = some (.ok (some r)) ∧ intVal? r = some (x.fmod y) := by
  obtain ⟨r, hr, hv, hrat⟩ := rem_spec a b hx hy hy0
  unfold modulo
  rw [hr]
  simp only [numNeg_of_intVal hv, numPos_of_intVal hv, numNeg_of_intVal hy, numPos_of_intVal hy,
    Bool.or_eq_true, Bool.and_eq_true, decide_eq_true_eq]
  rw [fmod_via_tmod x y hy0]
  split
  · refine ⟨_, rfl, add_intVal r b hv hy fun hrb => ?_⟩
    -- a rational is involved only if the divisor is one, so `|x tmod y| < |y| ≤ 2³¹`
    have hbr : isRatRep b = true := hrb.elim hrat id
    obtain rfl | rfl | rfl := intVal_cases hy <;> cases hbr
    have hyi := (inI32_iff y).mp (wf_rat_i32 hb).1
    have hlt := natAbs_tmod_lt x hy0
    rw [inI32_iff, inI32_iff, inI32_iff]
    omega
  · exact ⟨_, rfl, hv⟩

end Marwood.Arith
