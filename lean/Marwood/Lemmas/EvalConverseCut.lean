import Marwood.Lemmas.EvalExtraMain
/-!
# The cut predicates of `EvalExtraCut`

Monotone in the fuel (`*_mono`); with the same fuel, of the same value on `VRel`-related values in `StRel`-related
stores (`*_rel`).
-/
namespace Marwood.Spec.Eval.Conv
open Marwood Marwood.Spec.Eval Marwood.Spec.Eval.Extra
variable {f : LMap}

theorem valCut_mono (σ : Array Cell) : ∀ (m k : Nat) (v : Val),
    valCut m σ v = false → valCut (m + k) σ v = false := fun m k v h => (val_fuel σ m k v h).1

theorem listCut_mono (σ : Array Cell) : ∀ (m k : Nat) (v : Val),
    listCut m σ v = false → listCut (m + k) σ v = false := fun m k v h => (list_fuel σ m k v h).1

theorem eqCut_mono (σ : Array Cell) : ∀ (m k : Nat) (a b : Val),
    eqCut m σ a b = false → eqCut (m + k) σ a b = false := by
  intro m
  induction m with
  | zero =>
    intro k a b h
    cases k with
    | zero => exact h
    | succ k =>
      rw [Nat.zero_add]
      cases a <;> first | rfl | (cases b <;> first | rfl | cases h)
  | succ m ih =>
    intro k a b h
    have e : m + 1 + k = (m + k) + 1 := by omega
    rw [e]
    cases a with
    | pair x =>
      cases b with
      | pair y =>
        simp only [eqCut] at h ⊢
        cases hx : σ[x]? with
        | none => rfl
        | some cx =>
          cases hy : σ[y]? with
          | none => cases cx <;> rfl
          | some cy =>
            cases cx <;> cases cy <;> try rfl
            rename_i a1 d1 a2 d2
            simp only [hx, hy, Bool.or_eq_false_iff] at h ⊢
            exact ⟨ih k a1 a2 h.1, ih k d1 d2 h.2⟩
      | _ => rfl
    | vec x =>
      cases b with
      | vec y =>
        simp only [eqCut] at h ⊢
        cases hx : σ[x]? with
        | none => rfl
        | some cx =>
          cases hy : σ[y]? with
          | none => cases cx <;> rfl
          | some cy =>
            cases cx <;> cases cy <;> try rfl
            rename_i xs ys
            simp only [hx, hy, List.any_eq_false] at h ⊢
            intro p hp
            have := ih k p.1 p.2 (by simpa using h p hp)
            simp [this]
      | _ => rfl
    | _ => rfl

theorem spineCut_mono (σ : Array Cell) : ∀ (m k : Nat) (v : Val),
    spineCut m σ v = false → spineCut (m + k) σ v = false :=
  fun m k v h => (spine_fuel false .nil m k v ⟨[], σ, []⟩ h).1

theorem any_congr_rel {xs xs' : List Val} {g g' : Val → Bool} (h : VsRel f xs xs')
    (hg : ∀ v v', VRel f v v' → g' v' = g v) : xs'.any g' = xs.any g :=
  any_congr_relG (vsRelG_iff.2 h) fun v v' hv => hg v v' (vRelG_iff.1 hv)

-- `val_relG`/`list_relG` (EvalExtraSteps) carry the cut next to the result; `equalVal_relG` and `simG_memWalk` do not, so
-- `eqCut_rel` and `spineCut_rel` are proved by hand
theorem valCut_rel {st st' : St} (r : StRel f st st') : ∀ (m : Nat) {v v' : Val}, VRel f v v' →
    valCut m st'.store v' = valCut m st.store v :=
  fun m _ _ hv => (val_relG (stRelG_iff.2 (stRelJ_none.2 r)) m (vRelG_iff.2 hv)).1

theorem listCut_rel {st st' : St} (r : StRel f st st') : ∀ (m : Nat) {v v' : Val}, VRel f v v' →
    listCut m st'.store v' = listCut m st.store v :=
  fun m _ _ hv => (list_relG (stRelG_iff.2 (stRelJ_none.2 r)) m (vRelG_iff.2 hv)).1

theorem any_zip_congr_rel {xs xs' ys ys' : List Val} {g g' : Val × Val → Bool}
    (hx : VsRel f xs xs') (hy : VsRel f ys ys')
    (hg : ∀ a a' b b', VRel f a a' → VRel f b b' → g' (a', b') = g (a, b)) :
    (xs'.zip ys').any g' = (xs.zip ys).any g := by
  induction hx generalizing ys ys' with
  | nil => simp
  | cons hv _ ih =>
    cases hy with
    | nil => simp
    | cons hw hy' => simp [hg _ _ _ _ hv hw, ih hy']

theorem eqCut_rel {st st' : St} (r : StRel f st st') : ∀ (m : Nat) {a a' b b' : Val},
    VRel f a a' → VRel f b b' → eqCut m st'.store a' b' = eqCut m st.store a b := by
  intro m
  induction m with
  | zero => intro a a' b b' ha hb; cases ha <;> first | rfl | (cases hb <;> rfl)
  | succ m ih =>
    intro a a' b b' ha hb
    cases ha with
    | pair l1 =>
      cases hb with
      | pair l2 =>
        simp only [eqCut]
        have hc1 := r.cell l1
        have hc2 := r.cell l2
        revert hc1 hc2
        generalize st.store[l1]? = o1
        generalize st'.store[f l1]? = o1'
        generalize st.store[l2]? = o2
        generalize st'.store[f l2]? = o2'
        intro hc1 hc2
        cases hc1 with
        | none => cases hc2 <;> rfl
        | some hc1 =>
          cases hc2 with
          | none => cases hc1 <;> rfl
          | some hc2 =>
            cases hc1 <;> cases hc2 <;> try rfl
            rename_i ha1 hd1 _ _ _ _ ha2 hd2
            simp only [ih ha1 ha2, ih hd1 hd2]
      | _ => rfl
    | vec l1 =>
      cases hb with
      | vec l2 =>
        simp only [eqCut]
        have hc1 := r.cell l1
        have hc2 := r.cell l2
        revert hc1 hc2
        generalize st.store[l1]? = o1
        generalize st'.store[f l1]? = o1'
        generalize st.store[l2]? = o2
        generalize st'.store[f l2]? = o2'
        intro hc1 hc2
        cases hc1 with
        | none => cases hc2 <;> rfl
        | some hc1 =>
          cases hc2 with
          | none => cases hc1 <;> rfl
          | some hc2 =>
            cases hc1 <;> cases hc2 <;> try rfl
            rename_i hx _ _ hy
            exact any_zip_congr_rel hx hy (fun a a' b b' ha hb => ih ha hb)
      | _ => rfl
    | _ => first | rfl | (cases hb <;> rfl)

theorem spineCut_rel {st st' : St} (r : StRel f st st') : ∀ (m : Nat) {v v' : Val}, VRel f v v' →
    spineCut m st'.store v' = spineCut m st.store v := by
  intro m
  induction m with
  | zero => intro v v' hv; rfl
  | succ m ih =>
    intro v v' hv
    cases hv with
    | pair l =>
      simp only [spineCut]
      have hc := r.cell l
      revert hc
      generalize st.store[l]? = o
      generalize st'.store[f l]? = o'
      intro hc
      cases hc with
      | none => rfl
      | some hc => cases hc with
        | pair ha hd => simp only [ih hd]
        | _ => rfl
    | _ => rfl

end Marwood.Spec.Eval.Conv
