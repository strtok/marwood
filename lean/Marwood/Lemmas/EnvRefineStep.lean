import Marwood.Lemmas.EnvRefineSim
import Marwood.Lemmas.EnvRefineClosure
/-!
# T02.4, part 6: the induction step of the simulation, function by function
-/
namespace Marwood.Vm.EnvRefine
open Marwood Marwood.Scope Marwood.Vm.Env Marwood.Spec.Scope

theorem ActRel.dropEmpty {β : LocMap} {h : Envs MVal} {N ctx ep ρ a acts}
    (r : ActRel β h N ctx ep ([] :: ρ) (a :: acts)) : ActRel β h N ctx ep ρ acts := by
  have hres : ∀ x, resolve x ([] :: ρ) = resolve x ρ := fun x => by simp [resolve, Frame.find?]
  refine ⟨?_, ?_, r.noarg, ?_, r.chain.2⟩
  · intro x s hs
    obtain ⟨a', l, e, i, h1, h2, h3, h4⟩ := r.res x s hs
    exact ⟨a', l, e, i, h1, (hres x) ▸ h2, h3, h4⟩
  · intro x hx; exact r.unb x ((hres x).symm ▸ hx)
  · intro x hx hr; exact r.need x hx ((hres x).symm ▸ hr)

theorem needOf_of_raw (sugar : Bool) (ps : List Name) (rst : Option Name) (ds : Defs) (body : Exprs) (x : Name)
    (hx : x ∈ fvDefs ds ++ fvList body) : needOf sugar ps rst ds body x := by
  by_cases hb : x ∈ (if sugar then ps ++ rst.toList else ps)
  · right; left
    cases sugar
    · simp at hb; exact List.mem_append_left _ hb
    · simpa using hb
  · left
    simp only [fvLam, mem_dedup, mem_remove]
    exact ⟨hx, hb⟩

theorem post_tick {β : LocMap} {s : SSt} {t : MSt} (r : StRel β s t) :
    Post β t QV (exec Spec.Scope.tick s) (exec Vm.EnvRun.tick t) := by
  rw [exec_tick, exec_mtick]
  exact Post.ok β (Ext.refl _ _) r.tick (by rw [r.counter]; exact .int _)

theorem frameArgs_rel {β : LocMap} {h : Envs MVal} (ps : List Name) (rst : Option Name) {vs : List SVal}
    {vs' : List MVal} (hv : Forall2 (VRel β h) vs vs') :
    match paramVals ps rst vs with
    | some vals => ∃ margs, Vm.EnvRun.frameArgs ps rst vs' = .ok margs ∧ Forall2 (VRel β h) vals margs
    | none => Vm.EnvRun.frameArgs ps rst vs' = .error .arity := by
  induction ps generalizing vs vs' with
  | nil =>
    cases rst with
    | none =>
      cases hv with
      | nil => exact ⟨[], rfl, .nil⟩
      | cons _ _ => rfl
    | some r => exact ⟨[_], rfl, .cons (VRel.ofList hv) .nil⟩
  | cons p ps ih =>
    cases hv with
    | nil => rfl
    | cons h1 hrest =>
      have := ih hrest
      simp only [paramVals, Vm.EnvRun.frameArgs]
      split at this
      · next vals hp =>
        obtain ⟨margs, hm, hr⟩ := this
        rw [hp, hm]
        exact ⟨_, rfl, .cons h1 hr⟩
      · next hp =>
        rw [hp, this]
        rfl

section step
variable {f : Nat} (ih : Sims f)
include ih

theorem step_evalList : ∀ g, 2 * (f + 1) ≤ g → ∀ (β : LocMap) (s : SSt) (t : MSt) (N : Name → Prop) (ctx : LamCtx)
    (ep : Option Nat) (ρ : Chain) (acts : List Nat) (es : Exprs), StRel β s t → ActRel β t.envs N ctx ep ρ acts →
    (∀ x ∈ fvList es, N x) →
    Post β t QL (exec (Spec.Scope.evalList (f + 1) ρ es) s) (exec (Vm.EnvRun.evalList g ctx ep es) t) := by
  intro g hg β s t N ctx ep ρ acts es r a hfv
  obtain ⟨g', rfl⟩ : ∃ g', g = g' + 1 := ⟨g - 1, by omega⟩
  cases es with
  | nil =>
    simp only [Spec.Scope.evalList, Vm.EnvRun.evalList, exec_pure]
    exact Post.ok β (Ext.refl _ _) r .nil
  | cons e es =>
    simp only [Spec.Scope.evalList, Vm.EnvRun.evalList]
    apply Post.bind _ _ _ _ (ih.eval g' (by omega) β s t N ctx ep ρ acts e r a
      (fun x hx => hfv x (by simp [fvList, hx])))
    intro β1 s1 t1 v v' e1 r1 hv
    apply Post.bind _ _ _ _ (ih.evalList g' (by omega) β1 s1 t1 N ctx ep ρ acts es r1 (a.mono e1)
      (fun x hx => hfv x (by simp [fvList, hx])))
    intro β2 s2 t2 vs vs' e2 r2 hvs
    simp only [exec_pure]
    exact Post.ok β2 (Ext.refl _ _) r2 (.cons (hv.mono e2) hvs)

theorem step_evalBody : ∀ g, 2 * (f + 1) ≤ g → ∀ (β : LocMap) (s : SSt) (t : MSt) (N : Name → Prop) (ctx : LamCtx)
    (ep : Option Nat) (ρ : Chain) (acts : List Nat) (es : Exprs), StRel β s t → ActRel β t.envs N ctx ep ρ acts →
    (∀ x ∈ fvList es, N x) →
    Post β t QV (exec (Spec.Scope.evalBody (f + 1) ρ es) s) (exec (Vm.EnvRun.evalBody g ctx ep es) t) := by
  intro g hg β s t N ctx ep ρ acts es r a hfv
  obtain ⟨g', rfl⟩ : ∃ g', g = g' + 1 := ⟨g - 1, by omega⟩
  cases es with
  | nil =>
    simp only [Spec.Scope.evalBody, Vm.EnvRun.evalBody, exec_pure]
    exact Post.ok β (Ext.refl _ _) r .void
  | cons e es =>
    have he : ∀ x ∈ fv e, N x := fun x hx => hfv x (by simp [fvList, hx])
    cases es with
    | nil =>
      simp only [Spec.Scope.evalBody, Vm.EnvRun.evalBody]
      exact ih.eval g' (by omega) β s t N ctx ep ρ acts e r a he
    | cons e' es' =>
      simp only [Spec.Scope.evalBody, Vm.EnvRun.evalBody]
      apply Post.bind _ _ _ _ (ih.eval g' (by omega) β s t N ctx ep ρ acts e r a he)
      intro β1 s1 t1 v v' e1 r1 _
      exact ih.evalBody g' (by omega) β1 s1 t1 N ctx ep ρ acts _ r1 (a.mono e1)
        (fun x hx => hfv x (by simp only [fvList, List.mem_append] at hx ⊢; exact Or.inr hx))

theorem defs_cont (g' : Nat) (hg : 2 * f ≤ g') (β1 : LocMap) (s1 : SSt) (t1 : MSt) (N : Name → Prop) (ctx : LamCtx)
    (ep : Option Nat) (ρ : Chain) (acts : List Nat) (x : Name) (ds : Defs) (v : SVal) (v' : MVal)
    (r1 : StRel β1 s1 t1) (a1 : ActRel β1 t1.envs N ctx ep ρ acts) (hv : VRel β1 t1.envs v v')
    (hNx : N x) (hfv : ∀ y ∈ fvDefs ds, N y) (hnames : ∀ y ∈ ds.names, N y) :
    Post β1 t1 QU
      (exec (do let l ← locOf x ρ; writeLoc l v; Spec.Scope.evalDefs f ρ ds) s1)
      (exec (do Vm.EnvRun.writeVar ctx ep x v'; Vm.EnvRun.evalDefs g' ctx ep ds) t1) := by
  rcases exec_locOf_cases x ρ s1 with ⟨l, hl, hloc⟩ | hl
  · rw [exec_bind_ok _ _ _ _ _ hl]
    obtain ⟨t2, hw, e2, r2⟩ := sim_write r1 a1 x hNx l v v' hloc hv
    rw [exec_bind_ok _ _ _ _ _ (exec_writeLoc l v s1), exec_bind_ok _ _ _ _ _ hw]
    exact (ih.evalDefs g' hg β1 _ t2 N ctx ep ρ acts ds r2 (a1.mono e2) hfv hnames).weaken e2
  · rw [exec_bind_err _ _ _ _ _ hl]
    exact Post.unbound

theorem step_evalDefs : ∀ g, 2 * (f + 1) ≤ g → ∀ (β : LocMap) (s : SSt) (t : MSt) (N : Name → Prop) (ctx : LamCtx)
    (ep : Option Nat) (ρ : Chain) (acts : List Nat) (ds : Defs), StRel β s t → ActRel β t.envs N ctx ep ρ acts →
    (∀ x ∈ fvDefs ds, N x) → (∀ x ∈ ds.names, N x) →
    Post β t QU (exec (Spec.Scope.evalDefs (f + 1) ρ ds) s) (exec (Vm.EnvRun.evalDefs g ctx ep ds) t) := by
  intro g hg β s t N ctx ep ρ acts ds r a hfv hnames
  obtain ⟨g', rfl⟩ : ∃ g', g = g' + 1 := ⟨g - 1, by omega⟩
  cases ds with
  | nil =>
    simp only [Spec.Scope.evalDefs, Vm.EnvRun.evalDefs, exec_pure]
    exact Post.ok β (Ext.refl _ _) r trivial
  | cons x sugar e ds =>
    have hNx : N x := hnames x (by simp [Defs.names])
    have hnames' : ∀ y ∈ ds.names, N y := fun y hy => hnames y (by simp [Defs.names, hy])
    have hfv' : ∀ y ∈ fvDefs ds, N y := fun y hy => hfv y (by
      cases sugar <;> cases e <;> simp only [fvDefs, List.mem_append] <;> exact Or.inr hy)
    -- every case but `(define (x …) …)` (sugar flag and a lambda), where the model builds the closure with
    -- `sugar = true` instead of evaluating the lambda expression: both sides evaluate `e`, then `defs_cont`
    have generic : (∀ y ∈ fv e, N y) →
        exec (Vm.EnvRun.evalDefs (g' + 1) ctx ep (.cons x sugar e ds)) t =
          exec (do let v ← Vm.EnvRun.eval g' ctx ep e; Vm.EnvRun.writeVar ctx ep x v;
                   Vm.EnvRun.evalDefs g' ctx ep ds) t →
        Post β t QU (exec (Spec.Scope.evalDefs (f + 1) ρ (.cons x sugar e ds)) s)
          (exec (Vm.EnvRun.evalDefs (g' + 1) ctx ep (.cons x sugar e ds)) t) := by
      intro he hm
      rw [hm]
      simp only [Spec.Scope.evalDefs]
      apply Post.bind _ _ _ _ (ih.eval g' (by omega) β s t N ctx ep ρ acts e r a he)
      intro β1 s1 t1 v v' e1 r1 hv
      exact defs_cont ih g' (by omega) β1 s1 t1 N ctx ep ρ acts x ds v v' r1 (a.mono e1) hv hNx hfv' hnames'
    cases sugar with
    | false =>
      exact generic (fun y hy => hfv y (by cases e <;> simp only [fvDefs, List.mem_append] <;> exact Or.inl hy))
        (by simp only [Vm.EnvRun.evalDefs])
    | true =>
      cases e with
      | lam ps rst ds' body =>
        simp only [Spec.Scope.evalDefs, Vm.EnvRun.evalDefs]
        cases f with
        | zero =>
          rw [Spec.Scope.eval, exec_bind_err _ _ _ _ _ (exec_throw _ _)]
          exact Post.fuel
        | succ f' =>
          rw [Spec.Scope.eval, exec_bind_ok _ _ _ _ _ (exec_pure _ _)]
          obtain ⟨cenv, t1, carr, hmk, e1, r1, hc⟩ := sim_mkClosure r a true ps rst ds' body (by
            intro y hy
            apply hfv y
            simp only [fvLam, if_true, mem_dedup] at hy
            simp only [fvDefs, List.mem_append]
            exact Or.inl hy)
          rw [exec_bind_ok _ _ _ _ _ hmk]
          exact (defs_cont ih g' (by omega) β s t1 N ctx ep ρ acts x ds _ _ r1 (a.mono e1)
            (.clo ⟨ctx, true, acts, carr, rfl, hc⟩) hNx hfv' hnames').weaken e1
      | fresh | ref _ _ | set _ _ _ | call _ _ | seq _ | loop _ _ | each _ _ =>
        exact generic (fun y hy => hfv y (by simp only [fvDefs, List.mem_append]; exact Or.inl hy))
          (by simp only [Vm.EnvRun.evalDefs])

end step

end Marwood.Vm.EnvRefine
