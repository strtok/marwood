import Marwood.Lemmas.CompileCorrect3ConcreteAll
import Marwood.Lemmas.CompileCorrect2ConcreteDemoHeap
import Marwood.Lemmas.CompileCorrect3Main
import Marwood.Lemmas.CompileCorrect3Demo
import Marwood.Lemmas.CompileCorrectConcrete
/-!
# T01.3 stage 3 — a rest parameter and an internal definition on the CONCRETE heap model

`c3Heap a b` (`CompileCorrect2ConcreteDemoHeap.lean`): one chunk of four cells — the code object `a` of the `lambda`,
`b` = `ENTER; <the compiled program>; RET` (both pass the bytecode verifier, as `CInv` demands), two free cells —, an
empty symbol table, no globals. The hypotheses of `compileExpr_correct3_nontail` are discharged for
`((lambda (a . r) r) 1 2 3)` (VARARG allocates through `cput`: the free list, then chunk growth) and
`((lambda (x) (define y (if x 1 2)) y) #t)`; datums, fragment derivations and specification runs are those of
`CompileCorrect3Demo.lean`.
-/
namespace Marwood.Lemmas.CompileCorrect3.Conc
open Marwood Marwood.Vm Marwood.Vm.Concrete Marwood.Vm.Verify Marwood.Lemmas.CompileCorrect
open Marwood.Lemmas.CompileCorrect2 Marwood.Lemmas.CompileCorrect2.Conc Marwood.Lemmas.CompileCorrect3
open Marwood.Lemmas.CompileCorrect3.Toy
open Marwood.Heap (GcState)
open Marwood.Spec.Eval (Val Cell evalN)

variable {a b : CLambda}

theorem c3_closEnv : ClosEnv (c3Heap a b) := by
  intro p lam e hc
  rcases c3_cells hc with ⟨_, h⟩ | ⟨_, h⟩ | ⟨_, h⟩ <;> cases h

theorem c3_hinv : Sim.HInv (c3Heap a b) where
  sizes := rfl
  shape := c3_shape
  free_iff := by
    intro i
    rw [c3_free_eq, c3_gc]
    match i with
    | 0 => decide
    | 1 => decide
    | 2 => decide
    | 3 => decide
    | n + 4 =>
      constructor
      · intro h; simp at h
      · intro h; simp at h
  nodup := by rw [c3_free_eq]; decide
  no_used := c3_noUsed

theorem c3_symOk : Sim.SymOk (c3Heap a b) := by
  intro name p
  constructor
  · intro h
    have h' : (([] : List (Text × Nat)).find? (·.1 = name)).map (·.2) = some p := h
    simp at h'
  · rintro ⟨c, hc, ⟨tag, rfl, _⟩, _⟩
    rcases c3_cells hc with ⟨_, h⟩ | ⟨_, h⟩ | ⟨_, h⟩ <;> cases h

theorem c3_srx (va : (verifyLam a.bc).isSome = true) (vb : (verifyLam b.bc).isSome = true)
    (ia : ∀ x ∈ a.envmap, ∀ n, x.2 ≠ Concrete.Source.iofArg n) (ib : ∀ x ∈ b.envmap, ∀ n, x.2 ≠ Concrete.Source.iofArg n)
    (aa : argNeed a.bc ≤ a.args.length) (ab : argNeed b.bc ≤ b.args.length) :
    cSRx (fun _ => False) (fun _ => 0) (c3Heap a b) :=
  ⟨c3_inv va vb ia ib aa ab, c3_freeInv, (by intro x h; cases h), c3_closEnv, c3_hinv, c3_symOk⟩

abbrev c3D (ext : ExtOps) (final : List LambdaM) : RepData2 (concreteOps ext) :=
  cD3 ext demoEnc (fun _ => False) (fun _ => 0) id final (fun _ => False)

/-- `demoEnc` binds no primitive, so the `call` hypothesis is vacuous -/
theorem c3_laws (ext : ExtOps) (final : List LambdaM) : Laws3 (c3D ext final) :=
  concrete_laws3 (by intro a b h; cases h) (fun _ _ => rfl)
    fun _ _ _ _ _ _ _ _ _ _ _ hvf => (cVR_no_prim rfl hvf).elim

theorem c3_loads_num (ext : ExtOps) (final : List LambdaM) (n : Int) (k : Num) (hk : atomVal (.num k) = some (.int n))
    (tag : String) (ht : tag = "n" ++ toString n) (h : CHeap) (S : Array Cell) (em : List (Text × Vm.Source)) :
    Loads2 (c3D ext final) em h S (.datum (.num k)) (.opaque tag) := by
  subst ht
  exact ⟨(by intro o e; cases e), .atom (w := .int n) hk (.base ⟨.opaque ("n" ++ toString n), rfl, .inl rfl⟩)⟩

theorem c3_inv3 (ext : ExtOps) (lamM : LambdaM) (h : CHeap) (hs : cSRx (fun _ => False) (fun _ => 0) h)
    (hcode : ∀ S, CodeAt2 (c3D ext [lamM]) lamM.envmap h S 0 0 lamM.bc)
    (hinfo : (concreteOps ext).lambdaInfo h 0 = some ⟨lamM.args.length⟩) :
    Inv3 (c3D ext [lamM]) W0 h demoSt :=
  ⟨(by intro x w h; cases h), (by intro x h; cases h), hs, (by intro x h; cases h),
    CompileCorrect2.Toy.forall_getElem?_cons ⟨hcode _, hinfo⟩ CompileCorrect2.Toy.forall_getElem?_nil,
    (by intro e n l l' h; cases h), (by intro e n e' n' l h; cases h), (by intro e n l h; cases h),
    (by intro e n l h; cases h)⟩

def cLamR0 : CLambda :=
  ⟨cellsR0, [.opaque "ya", .opaque "yr"], [(.opaque "ya", .arg 0), (.opaque "yr", .arg 1)]⟩

def c3HeapR : CHeap := c3Heap cLamR0 (topLam cellsR1)

def c3StateR : MSt CHeap :=
  { heap := c3HeapR, stack := ⟨List.replicate 16 .undefined, 0⟩, acc := .undefined, ep := 0, ipL := 1, ipO := 1,
    bp := 0 }

abbrev c3dR (ext : ExtOps) : RepData2 (concreteOps ext) := c3D ext [demoLamR]

/-- at offset 1: behind the `ENTER` of the top-level code object -/
theorem c3R_compile : compileExpr 20 {} c0 1 false progR = .ok ({ lambdas := [demoLamR] }, progCodeR) :=
  CompileCorrect2.Toy.okIs_eq (by decide +kernel)

theorem c3R_ver0 : (verifyLam cLamR0.bc).isSome = true := by decide +kernel
theorem c3R_ver1 : (verifyLam (topLam cellsR1).bc).isSome = true := by decide +kernel

theorem c3R_srx : cSRx (fun _ => False) (fun _ => 0) c3HeapR :=
  c3_srx c3R_ver0 c3R_ver1
    (by
      intro x hx n
      have : x = (VCell.opaque "ya", Concrete.Source.arg 0) ∨ x = (VCell.opaque "yr", Concrete.Source.arg 1) := by
        simpa [cLamR0] using hx
      rcases this with rfl | rfl <;> (intro e; cases e))
    (by intro x hx; simp [topLam] at hx) (by decide) (by decide)

theorem c3R_code0 (ext : ExtOps) (S : Array Cell) : CodeAt2 (c3dR ext) lamCtxR.envmap c3HeapR S 0 0 demoLamR.bc := by
  refine CompileCorrect2.Toy.CodeAt2.ofAll2 cellsR0 rfl (fun i _ => by rw [Nat.zero_add]; rfl) ?_
  have hslot : Loads2 (c3dR ext) lamCtxR.envmap c3HeapR S (.envSlot kr) (.lexEnvSlot 1) := ⟨1, by decide, rfl⟩
  exact .cons rfl (.cons rfl (.cons rfl (.cons hslot (.cons rfl (.cons rfl .nil)))))

theorem c3R_code1 (ext : ExtOps) (S : Array Cell) : CodeAt2 (c3dR ext) c0.envmap c3HeapR S 1 1 progCodeR := by
  refine CompileCorrect2.Toy.CodeAt2.ofAll2 cellsR1 rfl (fun i hi => topLam_fetch cellsR1 i hi) ?_
  have n1 := c3_loads_num ext [demoLamR] 1 (.fix 1) rfl "n1" (by decide) c3HeapR S c0.envmap
  have n2 := c3_loads_num ext [demoLamR] 2 (.fix 2) rfl "n2" (by decide) c3HeapR S c0.envmap
  have n3 := c3_loads_num ext [demoLamR] 3 (.fix 3) rfl "n3" (by decide) c3HeapR S c0.envmap
  have hlam : Loads2 (c3dR ext) c0.envmap c3HeapR S (.lambda 0) (.ptr 0) :=
    CompileCorrect2.Toy.loads_lambda (id := 0) rfl rfl rfl
  exact .cons rfl (.cons n1 (.cons rfl (.cons rfl (.cons rfl (.cons n2 (.cons rfl (.cons rfl (.cons rfl (.cons n3
    (.cons rfl (.cons rfl (.cons rfl (.cons rfl (.cons rfl (.cons hlam (.cons rfl (.cons rfl (.cons rfl
    .nil))))))))))))))))))

theorem c3R_inv3 (ext : ExtOps) : Inv3 (c3dR ext) W0 c3HeapR demoSt :=
  c3_inv3 ext demoLamR c3HeapR c3R_srx (c3R_code0 ext) rfl

theorem demo_concrete_rest_runs (ext : ExtOps) :
    ∃ W' s', Run3 (c3dR ext) W' c3StateR 19 demoSt demoStR' (.pair 2) s' := by
  obtain ⟨W', s', _, r⟩ := compileExpr_correct3_nontail (c3_laws ext [demoLamR]) 20 {} c0 1 progR _ progCodeR []
    (fun _ => False) demoR_frag ctxOK_top c3R_compile (List.prefix_refl _) 8 demoSt (.pair 2) demoStR' demoR_eval
    W0 c3StateR (c3R_code1 ext _) rfl (c3R_inv3 ext) (envRep3_top _ _ _ _) (by show 0 < 16; omega)
  exact ⟨W', s', r⟩

def cLamD0 : CLambda :=
  ⟨cellsD0, [.opaque "yx"], [(.opaque "yx", .arg 0), (.opaque "yy", .internal)]⟩

def c3HeapD : CHeap := c3Heap cLamD0 (topLam cellsD1)

def c3StateD : MSt CHeap :=
  { heap := c3HeapD, stack := ⟨List.replicate 8 .undefined, 0⟩, acc := .undefined, ep := 0, ipL := 1, ipO := 1,
    bp := 0 }

abbrev c3dD (ext : ExtOps) : RepData2 (concreteOps ext) := c3D ext [demoLamD]

theorem c3D_compile : compileExpr 20 {} c0 1 false progD = .ok ({ lambdas := [demoLamD] }, progCodeD) :=
  CompileCorrect2.Toy.okIs_eq (by decide +kernel)

theorem c3D_ver0 : (verifyLam cLamD0.bc).isSome = true := by decide +kernel
theorem c3D_ver1 : (verifyLam (topLam cellsD1).bc).isSome = true := by decide +kernel

theorem c3D_srx : cSRx (fun _ => False) (fun _ => 0) c3HeapD :=
  c3_srx c3D_ver0 c3D_ver1
    (by
      intro x hx n
      have : x = (VCell.opaque "yx", Concrete.Source.arg 0) ∨ x = (VCell.opaque "yy", Concrete.Source.internal) := by
        simpa [cLamD0] using hx
      rcases this with rfl | rfl <;> (intro e; cases e))
    (by intro x hx; simp [topLam] at hx) (by decide) (by decide)

theorem c3D_code0 (ext : ExtOps) (S : Array Cell) : CodeAt2 (c3dD ext) lamCtxD.envmap c3HeapD S 0 0 demoLamD.bc := by
  refine CompileCorrect2.Toy.CodeAt2.ofAll2 cellsD0 rfl (fun i _ => by rw [Nat.zero_add]; rfl) ?_
  have sx : Loads2 (c3dD ext) lamCtxD.envmap c3HeapD S (.envSlot kx) (.lexEnvSlot 0) := ⟨0, by decide, rfl⟩
  have sy : Loads2 (c3dD ext) lamCtxD.envmap c3HeapD S (.envSlot ky) (.lexEnvSlot 1) := ⟨1, by decide, rfl⟩
  have n1 := c3_loads_num ext [demoLamD] 1 (.fix 1) rfl "n1" (by decide) c3HeapD S lamCtxD.envmap
  have n2 := c3_loads_num ext [demoLamD] 2 (.fix 2) rfl "n2" (by decide) c3HeapD S lamCtxD.envmap
  exact .cons rfl (.cons rfl (.cons sx (.cons rfl (.cons rfl (.cons rfl (.cons rfl
    (.cons n1 (.cons rfl (.cons rfl (.cons rfl (.cons rfl (.cons n2 (.cons rfl
    (.cons rfl (.cons rfl (.cons sy (.cons rfl (.cons rfl (.cons rfl
    (.cons rfl (.cons sy (.cons rfl (.cons rfl .nil)))))))))))))))))))))))

theorem c3D_code1 (ext : ExtOps) (S : Array Cell) : CodeAt2 (c3dD ext) c0.envmap c3HeapD S 1 1 progCodeD := by
  refine CompileCorrect2.Toy.CodeAt2.ofAll2 cellsD1 rfl (fun i hi => topLam_fetch cellsD1 i hi) ?_
  have hb : Loads2 (c3dD ext) c0.envmap c3HeapD S (.datum (.bool true)) (.bool true) :=
    ⟨(by intro o e; cases e), .atom (w := .bool true) rfl (.base ⟨.bool true, rfl, .inl rfl⟩)⟩
  have hlam : Loads2 (c3dD ext) c0.envmap c3HeapD S (.lambda 0) (.ptr 0) :=
    CompileCorrect2.Toy.loads_lambda (id := 0) rfl rfl rfl
  exact .cons rfl (.cons hb (.cons rfl (.cons rfl (.cons rfl (.cons rfl (.cons rfl (.cons hlam (.cons rfl
    (.cons rfl (.cons rfl .nil))))))))))

theorem c3D_inv3 (ext : ExtOps) : Inv3 (c3dD ext) W0 c3HeapD demoSt :=
  c3_inv3 ext demoLamD c3HeapD c3D_srx (c3D_code0 ext) rfl

theorem demo_concrete_define_runs (ext : ExtOps) :
    ∃ W' s', Run3 (c3dD ext) W' c3StateD 11 demoSt demoStD' (.int 1) s' := by
  obtain ⟨W', s', _, r⟩ := compileExpr_correct3_nontail (c3_laws ext [demoLamD]) 20 {} c0 1 progD _ progCodeD []
    (fun _ => False) demoD_frag ctxOK_top c3D_compile (List.prefix_refl _) 8 demoSt (.int 1) demoStD' demoD_eval
    W0 c3StateD (c3D_code1 ext _) rfl (c3D_inv3 ext) (envRep3_top _ _ _ _) (by show 0 < 8; omega)
  exact ⟨W', s', r⟩

end Marwood.Lemmas.CompileCorrect3.Conc
