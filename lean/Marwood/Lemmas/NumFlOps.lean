import Marwood.Lemmas.NumRnd
/-!
# The standard model of rounding with gradual underflow, and the values of `Fl.add`, `Fl.neg`

`rnd_err`: below the overflow threshold `|rnd q − q| ≤ 2⁻⁵³·|q| + 2⁻¹⁰⁷⁵`, with no lower bound on `|q|`.
`RoundsTo q F`: `F` is `rnd q`, or a zero of either sign when `q` is zero — what the IEEE operations answer
on finite doubles, `q` the exact operation on their values (`mul_rounds`, `div_rounds` are in NumAccuracyMul).
-/
namespace Marwood.Fl
open Marwood Marwood.NumSpec

/-- half the spacing of the subnormal doubles -/
def eta : ℚ := 2 ^ (-1075 : ℤ)
/-- the unit roundoff -/
def uro : ℚ := 2 ^ (-53 : ℤ)

theorem mag_err (n d : ℕ) (hn : 0 < n) (hd : 0 < d) (hhi : (n : ℚ) / d < 2 ^ (1023 : ℤ)) :
    patOf n d < infBits ∧
    |(mOf n d : ℚ) * 2 ^ (eOf n d) - (n : ℚ) / d| ≤ uro * ((n : ℚ) / d) + eta := by
  obtain ⟨hb, herr⟩ := mag_half_ulp n d hn hd hhi
  refine ⟨hb, herr.trans ?_⟩
  by_cases hc : eOf n d = floorLog2 n d - 52
  · exact (half_ulp_le n d hn hd hc).trans (le_add_of_nonneg_right (two_zpow_pos _).le)
  · -- the subnormal exponent: half a unit of the last place is `eta`
    have he74 : eOf n d = -1074 := by
      have : eOf n d = max (floorLog2 n d - 52) (-1074) := rfl
      omega
    have hx : (0 : ℚ) ≤ (n : ℚ) / d := by positivity
    calc (1 : ℚ) / 2 * 2 ^ (eOf n d) = eta := by rw [he74, eta, show (-1075 : ℤ) = -1 + -1074 by norm_num, two_zpow_add]; norm_num
      _ ≤ uro * ((n : ℚ) / d) + eta := le_add_of_nonneg_left (mul_nonneg (two_zpow_pos _).le hx)

theorem rnd_err (q : ℚ) (hhi : |q| < 2 ^ (1023 : ℤ)) :
    ∃ v, toRat? (rnd q) = some v ∧ |v - q| ≤ uro * |q| + eta := by
  by_cases hz : q = 0
  · subst hz
    refine ⟨0, by rw [rnd_zero]; exact toRat_zero, ?_⟩
    have : 0 < eta := two_zpow_pos _
    simp; exact this.le
  · refine rnd_via_mag hz fun n d hn hd hv => ?_
    rw [← hv] at hhi ⊢
    exact mag_err n d hn hd hhi

theorem classify_of_toRat {f : F64} {v : ℚ} (h : toRat? f = some v) :
    classify f = .fin (signBit f) (magRat f) ∧ sgn (signBit f) (magRat f) = v := by
  obtain ⟨he, hv⟩ := finite_of_toRat h
  have a : isNaN f = false := by unfold isNaN; simp [he]
  have b : isInf f = false := by unfold isInf; simp [he]
  exact ⟨by unfold classify; simp [a, b], hv⟩

def RoundsTo (q : ℚ) (F : F64) : Prop := (q ≠ 0 ∧ F = rnd q) ∨ (q = 0 ∧ ∃ s, F = zero s)

theorem RoundsTo.err {F : F64} {q : ℚ} (h : RoundsTo q F) (hhi : |q| < 2 ^ (1023 : ℤ)) :
    ∃ v, toRat? F = some v ∧ |v - q| ≤ uro * |q| + eta := by
  rcases h with ⟨_, h⟩ | ⟨h0, s, h⟩
  · rw [h]; exact rnd_err _ hhi
  · rw [h, h0]
    refine ⟨0, toRat_zero' _, ?_⟩
    simp; exact (two_zpow_pos _).le

theorem add_rounds {f g : F64} {p r : ℚ} (hf : toRat? f = some p) (hg : toRat? g = some r) :
    RoundsTo (p + r) (Fl.add f g) := by
  obtain ⟨c1, v1⟩ := classify_of_toRat hf
  obtain ⟨c2, v2⟩ := classify_of_toRat hg
  unfold Fl.add
  rw [c1, c2]
  simp only [v1, v2]
  by_cases hz : (p + r).num = 0
  · rw [if_pos (by simpa using hz)]
    exact .inr ⟨Rat.num_eq_zero.mp hz, _, rfl⟩
  · rw [if_neg (by simpa using hz)]
    exact .inl ⟨fun h => hz (Rat.num_eq_zero.mpr h), rfl⟩

theorem add_val {f g : F64} {p r : ℚ} (hf : toRat? f = some p) (hg : toRat? g = some r)
    (hhi : |p + r| < 2 ^ (1023 : ℤ)) :
    ∃ v, toRat? (Fl.add f g) = some v ∧ |v - (p + r)| ≤ uro * |p + r| + eta :=
  (add_rounds hf hg).err hhi

theorem neg_val {f : F64} {p : ℚ} (hb : f.bits < 2 ^ 64) (hf : toRat? f = some p) :
    toRat? (Fl.neg f) = some (-p) := by
  obtain ⟨he, hf⟩ := finite_of_toRat hf
  have a : isNaN f = false := by unfold isNaN; simp [he]
  unfold Fl.neg
  rw [a, if_neg Bool.false_ne_true]
  cases hs : signBit f with
  | true =>
    rw [hs] at hf; simp only [if_true] at hf ⊢
    -- clearing the sign bit
    have hge : twoP63 ≤ f.bits := by
      unfold signBit at hs; simp only [beq_iff_eq] at hs
      unfold twoP63 at hs ⊢; omega
    obtain ⟨k, hk⟩ : ∃ k, f.bits = twoP63 + k := ⟨f.bits - twoP63, by omega⟩
    have hk63 : k < twoP63 := by unfold twoP63 at hk ⊢; omega
    have hf' : f = ⟨twoP63 + k⟩ := by cases f; simp_all
    obtain ⟨s1, s2, _⟩ := sign_fields k hk63
    have e1 : expField ⟨k⟩ ≠ 2047 := by rw [← s1, ← hf']; exact he
    have sk : signBit ⟨k⟩ = false := by
      unfold signBit; simp only [beq_eq_false_iff_ne]; unfold twoP63 at hk63 ⊢
      omega
    have : (⟨f.bits - twoP63⟩ : F64) = ⟨k⟩ := by rw [hk]; simp
    rw [this, toRat_of_fields e1, sk]
    simp only [Bool.false_eq_true, if_false]
    rw [← hf, hf', magRat_sign k hk63]; simp
  | false =>
    rw [hs] at hf; simp only [Bool.false_eq_true, if_false] at hf ⊢
    have hlt : f.bits < twoP63 := by
      unfold signBit at hs; simp only [beq_eq_false_iff_ne] at hs
      unfold twoP63 at hs ⊢; omega
    obtain ⟨s1, s2, s3⟩ := sign_fields f.bits hlt
    have e1 : expField ⟨twoP63 + f.bits⟩ ≠ 2047 := by rw [s1]; exact he
    have : (⟨f.bits + twoP63⟩ : F64) = ⟨twoP63 + f.bits⟩ := by rw [Nat.add_comm]
    rw [this, toRat_of_fields e1, s3]
    simp only [if_true]
    rw [magRat_sign _ hlt, ← hf]

end Marwood.Fl
