import Marwood.Lemmas.ContResumeStep
/-!
# Live equivalence of machine states, and runs

`LiveEq a b`: same registers, same heap, same `sp`, same stack cells `0 ..= sp`. Stale cells above
`sp` and the capacity may differ. `step_live_congruence`: `step` respects `LiveEq`;
`runN_live_congruence`: so does any number of steps, including reaching HALT.
-/
namespace Marwood.Vm
open Verify Stack

variable {H : Type} {ops : HeapOps H}

structure LiveEq (a b : St H) : Prop where
  sp : a.stack.sp = b.stack.sp
  cells : a.stack.cells.take (a.stack.sp + 1) = b.stack.cells.take (b.stack.sp + 1)
  acc : a.acc = b.acc
  ep : a.ep = b.ep
  ipL : a.ipL = b.ipL
  ipO : a.ipO = b.ipO
  bp : a.bp = b.bp
  heap : a.heap = b.heap

theorem LiveEq.refl (a : St H) : LiveEq a a := ⟨rfl, rfl, rfl, rfl, rfl, rfl, rfl, rfl⟩

theorem LiveEq.symm {a b : St H} (h : LiveEq a b) : LiveEq b a :=
  ⟨h.sp.symm, h.cells.symm, h.acc.symm, h.ep.symm, h.ipL.symm, h.ipO.symm, h.bp.symm, h.heap.symm⟩

theorem LiveEq.trans {a b c : St H} (h : LiveEq a b) (g : LiveEq b c) : LiveEq a c :=
  ⟨h.sp.trans g.sp, h.cells.trans g.cells, h.acc.trans g.acc, h.ep.trans g.ep, h.ipL.trans g.ipL,
    h.ipO.trans g.ipO, h.bp.trans g.bp, h.heap.trans g.heap⟩

theorem cellAt_of_take {a b : Stack} {n : Nat} (h : a.cells.take n = b.cells.take n) {i : Nat} (hi : i < n) :
    a.cellAt i = b.cellAt i := by
  unfold Stack.cellAt
  have := congrArg (fun l => l[i]?) h
  simp only [List.getElem?_take, hi, if_true] at this
  rw [this]

theorem take_of_cellAt {a b : Stack} {n : Nat} (ha : n ≤ a.cells.length) (hb : n ≤ b.cells.length)
    (h : ∀ i, i < n → a.cellAt i = b.cellAt i) : a.cells.take n = b.cells.take n :=
  take_eq_of_cellAt hb ha h

theorem LiveEq.agree {a b : St H} (h : LiveEq a b) (ha : a.stack.sp < a.stack.cells.length)
    (hb : b.stack.sp < b.stack.cells.length) :
    b = { a with stack := b.stack } ∧ Agree a.stack.sp a.stack b.stack := by
  refine ⟨?_, h.sp, Nat.le_refl _, ha, by rw [h.sp]; exact hb, ?_⟩
  · obtain ⟨_, _, h3, h4, h5, h6, h7, h8⟩ := h
    cases a; cases b
    simp only at h3 h4 h5 h6 h7 h8
    subst h3 h4 h5 h6 h7 h8
    rfl
  · intro i hi
    have hc := h.cells
    rw [← h.sp] at hc
    exact cellAt_of_take hc (by omega)

theorem LiveEq.of_agree {a : St H} {b : Stack} (h : Agree a.stack.sp a.stack b) :
    LiveEq a { a with stack := b } := by
  refine ⟨h.sp, ?_, rfl, rfl, rfl, rfl, rfl, rfl⟩
  show a.stack.cells.take (a.stack.sp + 1) = b.cells.take (b.sp + 1)
  rw [← h.sp]
  exact take_of_cellAt (by have := h.capa; omega) (by have := h.capb; omega)
    (fun i hi => h.cells i (by omega))

theorem WFS.of_liveEq {cl : CodeLaws ops} {a b : St H} {K : List FDesc} (hw : WFS cl a K) (h : LiveEq a b)
    (hb : b.stack.sp < b.stack.cells.length) : WFS cl b K := by
  obtain ⟨e, hag⟩ := h.agree hw.wf.cap hb
  refine ⟨by rw [← h.heap]; exact hw.inv, ⟨hb, ?_⟩, by rw [← h.acc]; exact hw.acc, ?_⟩
  · rw [← h.heap, ← h.sp, ← h.bp, ← h.ipL, ← h.ipO]
    exact hw.wf.frames.congr (fun i hi => (hag.cells i hi).symm)
  · intro t n ht hpre hA
    rw [← h.heap, ← h.ipL] at ht
    rw [← h.ipO] at hpre
    rw [← h.sp] at hA
    have hA' : a.stack.cellAt (a.stack.sp - 2) = .argc n := by
      rw [← hag.cells _ (by omega)] at hA; exact hA
    rw [← h.heap, ← h.acc, ← h.ipL]
    exact hw.pre t n ht hpre hA'

theorem BpLive.of_liveEq {a b : St H} (hl : BpLive ops a) (h : LiveEq a b) : BpLive ops b := by
  intro off hf
  rw [← h.heap, ← h.ipL, ← h.ipO] at hf
  have := hl off hf
  rw [← h.bp, ← h.sp]
  exact this

/-- **`step_live_congruence`**: two states that agree on `cells.take (sp+1)`, `sp`, `acc`, `ep`, `ip`, `bp` and the
    heap — the first of them WF — take the same step, up to the same agreement. Hypotheses besides WF-stack: see
    `Lemmas/ContResumeStep.lean`. -/
theorem step_live_congruence {cl : CodeLaws ops} (ll : LiveLaws cl) {s1 s2 r1 : St H} {K : List FDesc} {bl : Bool}
    (hw : WFS cl s1 K) (heq : LiveEq s1 s2) (hcap2 : s2.stack.sp < s2.stack.cells.length)
    (hbl : BpLive ops s1)
    (hfit : ∀ c, ops.callee s1.heap s1.acc = .continuation c → c.stack.cells.length ≤ s2.stack.cells.length)
    (hs : step ops s1 = .ok (r1, bl)) :
    ∃ r2, step ops s2 = .ok (r2, bl) ∧ LiveEq r1 r2 ∧ r2.stack.sp < r2.stack.cells.length := by
  obtain ⟨e, hag⟩ := heq.agree hw.wf.cap hcap2
  obtain ⟨b', q, hag'⟩ := step_stack ll hw hag hbl hfit hs
  refine ⟨{ r1 with stack := b' }, by rw [e]; exact q, LiveEq.of_agree hag', ?_⟩
  show b'.sp < b'.cells.length
  have := hag'.capb; have := hag'.sp; omega

/-- execute at most `n` instructions; stops at HALT (`ok (s, true)`) or at the first failure. No collection and no
    epilogue is part of it: the run theorems speak of instruction sequences between two collections. -/
def runN (ops : HeapOps H) : Nat → St H → Outcome (St H × Bool)
  | 0, s => .ok (s, false)
  | n + 1, s =>
    match step ops s with
    | .ok (s', false) => runN ops n s'
    | r => r

theorem runN_halt {n : Nat} {s r : St H} (h : step ops s = .ok (r, true)) : runN ops (n + 1) s = .ok (r, true) := by
  simp only [runN, h]

theorem runN_next {n : Nat} {s m : St H} (h : step ops s = .ok (m, false)) : runN ops (n + 1) s = runN ops n m := by
  simp only [runN, h]

theorem runN_succ {n : Nat} {s r : St H} {bl : Bool} (h : runN ops (n + 1) s = .ok (r, bl)) :
    (step ops s = .ok (r, true) ∧ bl = true) ∨ ∃ m, step ops s = .ok (m, false) ∧ runN ops n m = .ok (r, bl) := by
  cases hst : step ops s with
  | ok p =>
    obtain ⟨m, _ | _⟩ := p
    · exact .inr ⟨m, rfl, by rwa [runN_next hst] at h⟩
    · rw [runN_halt hst] at h; cases h; exact .inl ⟨rfl, rfl⟩
  | err e => simp only [runN, hst] at h; cases h
  | panic x => simp only [runN, hst] at h; cases h

/-- the side conditions of `step_live_congruence` along the first `n` steps of two runs in lock step: at every
    instruction the `BasePointerOffset` source operand (if any) is live, and an invoked continuation's stack copy fits
    the capacity of the second machine's stack (the real `Stack` never shrinks: `grow` doubles, `clear` and the error
    epilogue keep the capacity). -/
def SideOK (ops : HeapOps H) : Nat → St H → St H → Prop
  | 0, _, _ => True
  | n + 1, s1, s2 =>
    BpLive ops s1 ∧
    (∀ c, ops.callee s1.heap s1.acc = .continuation c → c.stack.cells.length ≤ s2.stack.cells.length) ∧
    ∀ r1 r2, step ops s1 = .ok (r1, false) → step ops s2 = .ok (r2, false) → SideOK ops n r1 r2

/-- **the whole continuation of a run depends on the live state only**: from live-equal states, any number of steps
    ends in live-equal states with the same flag; both reach HALT together, with the same `acc` and heap. -/
theorem runN_live_congruence {cl : CodeLaws ops} (ll : LiveLaws cl) : ∀ (n : Nat) {s1 s2 r1 : St H}
    {K : List FDesc} {bl : Bool}, WFS cl s1 K → LiveEq s1 s2 → s2.stack.sp < s2.stack.cells.length →
    SideOK ops n s1 s2 → runN ops n s1 = .ok (r1, bl) →
    ∃ r2, runN ops n s2 = .ok (r2, bl) ∧ LiveEq r1 r2 := by
  intro n
  induction n with
  | zero =>
    intro s1 s2 r1 K bl _ heq _ _ hr
    simp only [runN] at hr ⊢
    cases hr
    exact ⟨s2, rfl, heq⟩
  | succ n ih =>
    intro s1 s2 r1 K bl hw heq hcap2 hside hr
    obtain ⟨hbl, hfit, hnext⟩ := hside
    rcases runN_succ hr with ⟨hst, rfl⟩ | ⟨m1, hst, hr⟩
    · obtain ⟨m2, q, hle, _⟩ := step_live_congruence ll hw heq hcap2 hbl hfit hst
      exact ⟨m2, runN_halt q, hle⟩
    · obtain ⟨m2, q, hle, hc2⟩ := step_live_congruence ll hw heq hcap2 hbl hfit hst
      obtain ⟨K', hw', _⟩ := step_preserves hw hst
      rw [runN_next q]
      exact ih hw' hle hc2 (hnext m1 m2 hst q) hr

end Marwood.Vm
