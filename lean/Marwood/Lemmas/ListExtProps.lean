import Marwood.Lemmas.ListExtC03
import Marwood.Lemmas.ListExtC13
import Marwood.Lemmas.ListExtC07
import Marwood.Lemmas.ListExtC04
import Marwood.Lemmas.ListExtC05
import Marwood.Lemmas.ListExtC18
import Marwood.Lemmas.ListExtC12
import Marwood.Lemmas.ListExtC06
import Marwood.Lemmas.ListExtSession
import Marwood.Lemmas.ListExtPrepare

/-!
# The machine-level property theorems at REAL builtins: no `Ext…` hypothesis left

Every machine-level theorem of C03 / C13 / C07 / C04 / C05 / C12 / C18 / C06 (T06.6) is parametric in `ext : ExtOps` (the
generic Rust builtins, `eval`'s compiler, VPUSH) and assumes law structures about it. They are instantiated
(Lemmas/ListExtCNN.lean, ListExtSession, ListExtPrepare) at `listExtWith eqTag` (Vm/ListExt.lean: `car cdr cons set-car!
set-cdr! eq? eqv? null? pair? not boolean? char? string? symbol? number? vector? procedure?` modelled over the concrete heap
as the Rust code does; `apply` and `call/cc` are modelled by Machine.lean itself), for which ALL the laws are theorems:
`listExtWith_laws` (ListExtSim), `_good` (ListExtGood), `_codeLawsG`, `_codePlain`, `_allocOnly` (ListExtCode), `_proc`
(ListExtProc; its premise `LF h` is needed: `extProc_needs_lf`), `_noPanic` (ListExtNoPanic; no builtin of the table has a
panic site), `_envInv` (ListExtEnv). What remains in the statements: `VmOk` and `PInv` of the INITIAL state and the physical
bound `SizeBounded` (for T06.6 also `NPInv`, `EnvInv`); `eqTag` is arbitrary. The fields `compile` and `vpush` of the laws
hold because `listExtWith`'s `compileEval` and `vectorPush` always fail: nothing is shown here about `eval`'s compiler or VPUSH.
-/

