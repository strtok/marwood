import Marwood.Lemmas.VerifyBlkDefs
import Marwood.Lemmas.CompileView
/-!
# Where code-object pointers occur in emitted code, and what the environment maps of the code objects name

By induction on the fuel (case structure of `Lemmas/CompileBlk.lean`): a code-object pointer `lambda id` occurs only as
the immediate of `MOVIMM (lambda id) acc; CLOSURE`, and the environment map of code object `id` is a child (`ChildOf`)
of the binding context of the code containing the site: every `iofEnvironment` entry names an entry of the enclosing
map, every `iofArgument n` is below the number of enclosing formals.
-/
namespace Marwood.Vm
open Marwood Marwood.Vm.Verify

def pushB : BC → Bool
  | .argc _ | .datum _ => true
  | _ => false

/-- `m` may be closed over by code compiled in the binding context `c`. No map the compiler builds has an `iofArgument`
    entry (`NoIofArg`): for its output the second clause holds vacuously. -/
def ChildOf (c : Ctx) (m : LambdaM) : Prop :=
  ∀ x ∈ m.envmap, (x.2 = Source.iofEnvironment → c.envmap.any (·.1 == x.1) = true) ∧
    (∀ n, x.2 = Source.iofArgument n → n < c.args.length)

def SiteP (tbl : List LambdaM) (c : Ctx) (id : Nat) : Prop := ∃ m, tbl[id]? = some m ∧ ChildOf c m

structure EnvCode (P : Nat → Prop) (code : List BC) : Prop where
  lam : ∀ k id, code[k]? = some (.lambda id) → P id ∧ ∃ j, k = j + 1 ∧ code[j]? = some (.op .movImm) ∧
    code[j + 2]? = some .acc ∧ code[j + 3]? = some (.op .closureAcc)
  mov : ∀ j, code[j]? = some (.op .movImm) → ∃ x, code[j + 1]? = some x ∧ immB x = true
  push : ∀ j, code[j]? = some (.op .pushImm) → ∃ x, code[j + 1]? = some x ∧ pushB x = true

def TblOK (tbl : List LambdaM) : Prop := ∀ m ∈ tbl, EnvCode (SiteP tbl ⟨m.args, m.envmap⟩) m.bc

theorem getElem?_app_l {α} {c1 c2 : List α} {i : Nat} {x : α} (h : c1[i]? = some x) :
    (c1 ++ c2)[i]? = some x := by
  have hi : i < c1.length := (List.getElem?_eq_some_iff.1 h).1
  rw [List.getElem?_append_left hi]; exact h

theorem getElem?_app_r {α} {c1 c2 : List α} {i : Nat} {x : α} (h : c2[i]? = some x) :
    (c1 ++ c2)[i + c1.length]? = some x := by
  rw [List.getElem?_append_right (by omega)]
  simpa using h

theorem getElem?_app_cases {α} {c1 c2 : List α} {k : Nat} {x : α} (h : (c1 ++ c2)[k]? = some x) :
    c1[k]? = some x ∨ ∃ i, k = i + c1.length ∧ c2[i]? = some x := by
  by_cases hk : k < c1.length
  · left; rwa [List.getElem?_append_left hk] at h
  · right
    rw [List.getElem?_append_right (by omega)] at h
    exact ⟨k - c1.length, by omega, h⟩

theorem EnvCode.nil {P : Nat → Prop} : EnvCode P [] :=
  ⟨by intro k id h; simp at h, by intro j h; simp at h, by intro j h; simp at h⟩

theorem EnvCode.append {P : Nat → Prop} {c1 c2 : List BC} (h1 : EnvCode P c1) (h2 : EnvCode P c2) :
    EnvCode P (c1 ++ c2) := by
  refine ⟨?_, ?_, ?_⟩
  · intro k id h
    rcases getElem?_app_cases h with h' | ⟨i, rfl, h'⟩
    · obtain ⟨hp, j, rfl, a, b, c⟩ := h1.lam k id h'
      exact ⟨hp, j, rfl, getElem?_app_l a, getElem?_app_l b, getElem?_app_l c⟩
    · obtain ⟨hp, j, rfl, a, b, c⟩ := h2.lam i id h'
      refine ⟨hp, j + c1.length, by omega, getElem?_app_r a, ?_, ?_⟩
      · rw [show j + c1.length + 2 = j + 2 + c1.length by omega]; exact getElem?_app_r b
      · rw [show j + c1.length + 3 = j + 3 + c1.length by omega]; exact getElem?_app_r c
  · intro j h
    rcases getElem?_app_cases h with h' | ⟨i, rfl, h'⟩
    · obtain ⟨x, a, b⟩ := h1.mov j h'
      exact ⟨x, getElem?_app_l a, b⟩
    · obtain ⟨x, a, b⟩ := h2.mov i h'
      refine ⟨x, ?_, b⟩
      rw [show i + c1.length + 1 = i + 1 + c1.length by omega]; exact getElem?_app_r a
  · intro j h
    rcases getElem?_app_cases h with h' | ⟨i, rfl, h'⟩
    · obtain ⟨x, a, b⟩ := h1.push j h'
      exact ⟨x, getElem?_app_l a, b⟩
    · obtain ⟨x, a, b⟩ := h2.push i h'
      refine ⟨x, ?_, b⟩
      rw [show i + c1.length + 1 = i + 1 + c1.length by omega]; exact getElem?_app_r a

theorem EnvCode.mono {P P' : Nat → Prop} {c : List BC} (hp : ∀ id, P id → P' id) (h : EnvCode P c) :
    EnvCode P' c :=
  ⟨fun k id hk => ⟨hp id (h.lam k id hk).1, (h.lam k id hk).2⟩, h.mov, h.push⟩

theorem acc_plain : (∀ id, BC.acc ≠ .lambda id) ∧ BC.acc ≠ .op .movImm ∧ BC.acc ≠ .op .pushImm := by simp

theorem EnvCode.instr {P : Nat → Prop} (o : Op) (xs : List BC)
    (hx : ∀ x ∈ xs, (∀ id, x ≠ .lambda id) ∧ x ≠ .op .movImm ∧ x ≠ .op .pushImm)
    (hm : o = .movImm → ∃ x, xs[0]? = some x ∧ immB x = true)
    (hp : o = .pushImm → ∃ x, xs[0]? = some x ∧ pushB x = true) : EnvCode P (.op o :: xs) := by
  refine ⟨fun k id h => ?_, fun j h => ?_, fun j h => ?_⟩
  · cases k with
    | zero => cases h
    | succ k => exact absurd rfl ((hx _ (List.mem_of_getElem? h)).1 id)
  · cases j with
    | zero => cases h; exact hm rfl
    | succ j => exact absurd rfl (hx _ (List.mem_of_getElem? h)).2.1
  · cases j with
    | zero => cases h; exact hp rfl
    | succ j => exact absurd rfl (hx _ (List.mem_of_getElem? h)).2.2

theorem EnvCode.movImm3 {P : Nat → Prop} (imm : BC) (hi : immB imm = true) (hl : ∀ id, imm ≠ .lambda id) :
    EnvCode P [.op .movImm, imm, .acc] :=
  .instr _ _ (List.forall_mem_cons.2 ⟨⟨hl, (by rintro rfl; cases hi), (by rintro rfl; cases hi)⟩,
    List.forall_mem_singleton.2 acc_plain⟩) (fun _ => ⟨imm, rfl, hi⟩) nofun

theorem EnvCode.pushArgc {P : Nat → Prop} (n : Nat) : EnvCode P [.op .pushImm, .argc n] :=
  .instr _ _ (by simp) nofun fun _ => ⟨_, rfl, rfl⟩

theorem EnvCode.pushDatum {P : Nat → Prop} (d : Datum) : EnvCode P [.op .pushImm, .datum d] :=
  .instr _ _ (by simp) nofun fun _ => ⟨_, rfl, rfl⟩

theorem EnvCode.jump {P : Nat → Prop} (o : Op) (ho : o ≠ .movImm ∧ o ≠ .pushImm) (a : Nat) :
    EnvCode P [.op o, .target a] :=
  .instr _ _ (by simp) (absurd · ho.1) (absurd · ho.2)

theorem EnvCode.op1 {P : Nat → Prop} (o : Op) (ho : o ≠ .movImm ∧ o ≠ .pushImm) : EnvCode P [.op o] :=
  .instr _ _ nofun (absurd · ho.1) (absurd · ho.2)

theorem EnvCode.site {P : Nat → Prop} (id : Nat) (hp : P id) :
    EnvCode P [.op .movImm, .lambda id, .acc, .op .closureAcc] := by
  refine ⟨?_, ?_, ?_⟩
  · intro k id' h
    rcases k with _|_|_|_|k <;> simp at h
    subst h
    exact ⟨hp, 0, rfl, rfl, rfl, rfl⟩
  · intro j h
    rcases j with _|_|_|_|j <;> simp at h
    exact ⟨_, rfl, rfl⟩
  · intro j h
    rcases j with _|_|_|_|j <;> simp at h

theorem emitLoc_plain (c : Ctx) (s : Text) :
    (∀ id, emitLoc c s ≠ .lambda id) ∧ emitLoc c s ≠ .op .movImm ∧ emitLoc c s ≠ .op .pushImm := by
  unfold emitLoc
  split <;> simp

theorem EnvCode.mov3 {P : Nat → Prop} (a b : BC)
    (ha : (∀ id, a ≠ .lambda id) ∧ a ≠ .op .movImm ∧ a ≠ .op .pushImm)
    (hb : (∀ id, b ≠ .lambda id) ∧ b ≠ .op .movImm ∧ b ≠ .op .pushImm) : EnvCode P [.op .mov, a, b] :=
  .instr _ _ (List.forall_mem_cons.2 ⟨ha, List.forall_mem_singleton.2 hb⟩) nofun nofun

theorem EnvCode.store {P : Nat → Prop} (c : Ctx) (s : Text) : EnvCode P (storeCode c s) := by
  show EnvCode P ([.op .mov, .acc, emitLoc c s] ++ [.op .movImm, .void, .acc])
  exact (EnvCode.mov3 _ _ acc_plain (emitLoc_plain c s)).append (EnvCode.movImm3 _ rfl (by simp))

theorem EnvCode.flatMap {P : Nat → Prop} {α : Type} (f : α → List BC) (hf : ∀ a, EnvCode P (f a)) :
    ∀ l : List α, EnvCode P (l.flatMap f)
  | [] => .nil
  | a :: l => by rw [List.flatMap_cons]; exact (hf a).append (EnvCode.flatMap f hf l)

theorem EnvCode.consChain {P : Nat → Prop} (n : Nat) : EnvCode P (consChain n) := by
  refine EnvCode.flatMap _ (fun i => ?_) _
  split
  · exact (EnvCode.op1 _ (by decide)).append (EnvCode.op1 _ (by decide))
  · exact EnvCode.op1 _ (by decide)

theorem SiteP.mono {tbl ext : List LambdaM} {c : Ctx} {id : Nat} (h : SiteP tbl c id) : SiteP (tbl ++ ext) c id := by
  obtain ⟨m, hm, hc⟩ := h
  exact ⟨m, getElem?_app_l hm, hc⟩

theorem EnvCode.lift {tbl tbl' : List LambdaM} {c : Ctx} {code : List BC} (hx : tbl <+: tbl')
    (h : EnvCode (SiteP tbl c) code) : EnvCode (SiteP tbl' c) code := by
  obtain ⟨ext, rfl⟩ := hx
  exact h.mono fun _ => SiteP.mono

theorem TblOK.nil : TblOK [] := by intro m hm; cases hm

theorem TblOK.snoc {tbl : List LambdaM} {m : LambdaM} (h : TblOK tbl)
    (hm : EnvCode (SiteP (tbl ++ [m]) ⟨m.args, m.envmap⟩) m.bc) : TblOK (tbl ++ [m]) := by
  intro m' hm'
  rw [List.mem_append, List.mem_singleton] at hm'
  rcases hm' with hm' | rfl
  · exact (h m' hm').mono fun _ => SiteP.mono
  · exact hm

theorem newEnvmap_childOf (formals internal free : List Text) (c : Ctx) :
    ∀ x ∈ newEnvmap formals internal free ⟨c.args, false, c.envmap, [], false⟩,
      (x.2 = Source.iofEnvironment → c.envmap.any (·.1 == x.1) = true) ∧
      (∀ n, x.2 = Source.iofArgument n → n < c.args.length) :=
  fun _ hx => ⟨(mem_newEnvmap hx).1, fun n hn => (List.getElem?_eq_some_iff.1 ((mem_newEnvmap hx).2 n hn).2).1⟩

theorem newEnvmap_childOf' (formals internal free : List Text) (c : Ctx) (b : Bool) (bc : List BC) (tl : Bool) :
    ChildOf c ⟨formals, b, newEnvmap formals internal free ⟨c.args, false, c.envmap, [], false⟩, bc, tl⟩ :=
  newEnvmap_childOf formals internal free c

theorem lambdaParts_child {fuel : Nat} {c : Ctx} {e : Datum} {isDefine : Bool} {p : LambdaParts}
    (h : lambdaParts fuel c e isDefine = .ok p) :
    p.ctx.args = p.formals ∧
    (∀ x ∈ p.ctx.envmap, (x.2 = Source.iofEnvironment → c.envmap.any (·.1 == x.1) = true) ∧
      ∀ n, x.2 = Source.iofArgument n → n < c.args.length) ∧
    p.prologue = (if p.isVararg then [BC.op .varArg] else []) ++ [BC.op .enter] := by
  obtain ⟨_, _, _, _, _, hctx, hpro⟩ := lambdaParts_view h
  rw [hctx]
  exact ⟨rfl, newEnvmap_childOf _ _ _ c, hpro⟩

end Marwood.Vm
