import Marwood.Lemmas.ProcInvMain
import Marwood.Lemmas.NoPanicPath
import Marwood.Lemmas.ContResumeCap
import Marwood.Lemmas.NoPanicLocal
import Marwood.Vm.NoPanicCheck
import Marwood.Lemmas.MachineAllocRel
/-!
# T06.6 on the concrete machine: the two further invariant clauses, and the laws of the unmodelled parts

* `HeapNP h` — every lambda cell: code containing VARARG has a formal (`args.len() - 1` of VARARG), every
  `Argument(a)` source of the environment map has `a ≤ args.len()` (ENTER's `argc - arg`). Lambda cells are only
  created by the compiler (`prepare_eval`, the `eval` builtin): a law of those.
* `ContBound n h` — every continuation cell's stack copy has at most `n` cells; `ContFits s` — with `n` the capacity
  of the current stack: exactly what `restore_continuation`'s `split_at_mut` needs. Continuation cells are only
  created by `call/cc` (`to_continuation`: at most the current capacity) and the stack never shrinks.
* `NPInv s` — both. `ExtNoPanic ext` — the unmodelled operations do not panic (on the premises of `ExtGood`) and
  create neither continuation cells that do not fit nor lambda cells violating `LamNP`.
* `EnvSlots s` — the slot-index `expect`s of CLOSURE's / ENTER's environment construction at the current
  instruction (state-local; it follows from `EnvInv`: `envSlots_of_envInv`, `Lemmas/EnvInvMain.lean`).

The executable counterparts are in `Vm/NoPanicCheck.lean`; soundness at the end of this file.
-/
namespace Marwood.Lemmas.Good
open Marwood Marwood.Vm Marwood.Vm.Verify Marwood.Vm.Concrete Marwood.Lemmas.Sim
open Marwood.Heap (GcState)

structure LamNP (l : CLambda) : Prop where
  vararg : VCell.opcode .varArg ∈ l.bc → 1 ≤ l.args.length
  argSrc : ∀ p ∈ l.envmap, ∀ a, p.2 = Source.arg a → a ≤ l.args.length

def AllCells (Q : CCell → Prop) (h : CHeap) : Prop := ∀ (i : Nat) (c : CCell), h.cells[i]? = some c → Q c

/-- `Q` does not constrain value cells and lexical environments — the only cells the allocator and the environment
    constructors write, so one walk over them (`*_all` below) serves `lamQ` and every `contQ n` -/
structure QFree (Q : CCell → Prop) : Prop where
  val : ∀ v, Q (.val v)
  env : ∀ ss, Q (.lexEnv ss)

def lamQ : CCell → Prop := fun c => ∀ l, c = CCell.lambda l → LamNP l
def contQ (n : Nat) : CCell → Prop := fun c => ∀ k, c = CCell.cont k → k.stack.cells.length ≤ n

def HeapNP (h : CHeap) : Prop := AllCells lamQ h
def ContBound (n : Nat) (h : CHeap) : Prop := AllCells (contQ n) h
def ContFits (s : St CHeap) : Prop := ContBound s.stack.cells.length s.heap

theorem lamQ_free : QFree lamQ := ⟨fun _ _ h => (by cases h), fun _ _ h => (by cases h)⟩
theorem contQ_free (n : Nat) : QFree (contQ n) := ⟨fun _ _ h => (by cases h), fun _ _ h => (by cases h)⟩

theorem ContBound.mono {n m : Nat} {h : CHeap} (c : ContBound n h) (le : n ≤ m) : ContBound m h :=
  fun i cc hc k hk => Nat.le_trans (c i cc hc k hk) le

theorem ContBound.cell {n : Nat} {h : CHeap} (c : ContBound n h) {p : Nat} {k : Cont}
    (hc : h.cells[p]? = some (CCell.cont k)) : k.stack.cells.length ≤ n := c p _ hc k rfl

theorem HeapNP.cell {h : CHeap} (a : HeapNP h) {p : Nat} {l : CLambda} (hc : h.cells[p]? = some (CCell.lambda l)) :
    LamNP l := a p _ hc l rfl

structure NPInv (s : St CHeap) : Prop where
  lam : HeapNP s.heap
  cont : ContFits s

/-- the slot-index expectations of CLOSURE / ENTER at the current instruction. The premise `envAt … = some ss`
    leaves out an `ep` that is no environment: there the model answers `err` (`closureSlot`), whereas
    `heap.get_at_index(self.ep)` of `build_closure_environment` panics if `ep` is out of range (the top level's
    `usize::MAX`). -/
structure EnvSlots (s : St CHeap) : Prop where
  closure : ∀ l p lam' ss, lambdaAt s.heap s.ipL = some l → l.bc[s.ipO]? = some (.opcode .closureAcc) →
    s.acc = .ptr p → lambdaAt s.heap p = some lam' → envAt s.heap s.ep = some ss →
    ∀ x ∈ lam'.envmap, ∀ k, x.2 = Source.iofEnv k → k < ss.length
  enter : ∀ l lam env l' ss, lambdaAt s.heap s.ipL = some l → l.bc[s.ipO]? = some (.opcode .enter) →
    callee s.heap s.acc = .closure lam env → lambdaAt s.heap lam = some l' → envAt s.heap env = some ss →
    l'.envmap.length ≤ ss.length

section alloc
variable {Q : CCell → Prop}

theorem AllCells.of_cells {h h' : CHeap} (a : AllCells Q h) (e : h'.cells = h.cells) : AllCells Q h' := by
  intro i c hc; rw [e] at hc; exact a i c hc

theorem calloc_all (q : QFree Q) {h : CHeap} (a : AllCells Q h) : AllCells Q (calloc h).1 := by
  intro i c hc
  by_cases hl : i < h.cells.size
  · rw [(calloc_allocd h).cells_old i hl] at hc; exact a i c hc
  · rw [(calloc_allocd h).cells_new i c (by omega) hc]; exact q.val _

theorem cwrite_all {h : CHeap} (a : AllCells Q h) (p : Nat) {c : CCell} (hc : Q c) : AllCells Q (cwrite h p c) := by
  intro i c' hc'
  rw [cwrite_cells] at hc'
  split at hc'
  · cases hc'; exact hc
  · exact a i c' hc'

theorem cput_all (q : QFree Q) {h : CHeap} (a : AllCells Q h) {c : CCell} (hc : Q c) : AllCells Q (cput h c).1 :=
  cwrite_all (calloc_all q a) _ hc

/-- `QFree`: the allocator steps keep `AllCells Q`, hence so does every modelled heap operation -/
theorem allCells_rel (q : QFree Q) : AllocRel fun h h' _ => AllCells Q h → AllCells Q h' where
  refl _ a := a
  trans x y a := y (x a)
  mono x _ := x
  cputVal _ v a := cput_all q a (q.val v)
  cputEnv _ ss a := cput_all q a (q.env ss)
  envWrite ss' _ a := cwrite_all a _ (q.env ss')
  symtab _ _ a := a.of_cells rfl

theorem putNew_all (q : QFree Q) {h : CHeap} (a : AllCells Q h) (v : VCell) : AllCells Q (putNew h v).1 :=
  (allCells_rel q).putNew h v a

theorem putV_all (q : QFree Q) {h : CHeap} (a : AllCells Q h) (v : VCell) : AllCells Q (putV h v).1 :=
  (allCells_rel q).putV h v a

end alloc

theorem cgc_all {Q : CCell → Prop} (q : QFree Q) (force : Bool) {s : St CHeap} (a : AllCells Q s.heap) :
    AllCells Q (cgc force s).heap := by
  rcases cgc_cases force s with e | ⟨h', _, e⟩
  · rw [e]; exact a
  · rw [e]
    intro i c hc
    by_cases hu : c = CCell.val .undefined
    · subst hu; exact q.val _
    · exact a i c (liftGc_code hc hu).1

/-- **What T06.6 needs of the unmodelled operations** (a parameter, not an axiom): the generic builtins (T06.2's
    subject), `eval`'s compiler and VPUSH's vector push do not panic on the premises of `ExtGood`, create no
    continuation object whose stack copy is longer than those there are, and every lambda object they create has a
    formal when its code contains VARARG and environment-map `Argument` indices within its formals. -/
structure ExtNoPanic (ext : ExtOps) : Prop where
  builtinEval_np : ∀ (h : CHeap) (id : Nat) (args : List VCell), HG h → (∀ a ∈ args, VOk h a) →
    Outcome.NoPanic (ext.builtinEval h id args)
  compileEval_np : ∀ (h : CHeap) (d : VCell), HG h → VRefsOk h d → Outcome.NoPanic (ext.compileEval h d)
  vectorPush_np : ∀ (h : CHeap) (vec a : VCell), HG h → VRefsOk h vec → VOk h a →
    Outcome.NoPanic (ext.vectorPush h vec a)
  builtinEval_cont : ∀ {h h' : CHeap} {id : Nat} {args : List VCell} {v : VCell} (n : Nat),
    ext.builtinEval h id args = .ok (h', v) → ContBound n h → ContBound n h'
  compileEval_cont : ∀ {h h' : CHeap} {d v : VCell} (n : Nat),
    ext.compileEval h d = .ok (h', v) → ContBound n h → ContBound n h'
  vectorPush_cont : ∀ {h h' : CHeap} {vec a : VCell} (n : Nat),
    ext.vectorPush h vec a = .ok h' → ContBound n h → ContBound n h'
  builtinEval_lam : ∀ {h h' : CHeap} {id : Nat} {args : List VCell} {v : VCell},
    ext.builtinEval h id args = .ok (h', v) → HeapNP h → HeapNP h'
  compileEval_lam : ∀ {h h' : CHeap} {d v : VCell}, ext.compileEval h d = .ok (h', v) → HeapNP h → HeapNP h'
  vectorPush_lam : ∀ {h h' : CHeap} {vec a : VCell}, ext.vectorPush h vec a = .ok h' → HeapNP h → HeapNP h'

/-- the same for the compiler inside `prepare_eval` -/
structure CompNoPanic (comp : CHeap → VCell → Outcome (CHeap × VCell)) : Prop where
  cont : ∀ {h h' : CHeap} {d v : VCell} (n : Nat), comp h d = .ok (h', v) → ContBound n h → ContBound n h'
  lam : ∀ {h h' : CHeap} {d v : VCell}, comp h d = .ok (h', v) → HeapNP h → HeapNP h'

section step
variable {ext : ExtOps}

theorem hpath_all {Q : CCell → Prop} (q : QFree Q) {n : Nat}
    (hv : ∀ {h h' vec a}, ext.vectorPush h vec a = .ok h' → AllCells Q h → AllCells Q h')
    (hb : ∀ {h h' id args v}, ext.builtinEval h id args = .ok (h', v) → AllCells Q h → AllCells Q h')
    (hc : ∀ {h h' d v}, ext.compileEval h d = .ok (h', v) → AllCells Q h → AllCells Q h')
    (hk : ∀ c : Cont, c.stack.cells.length ≤ n → Q (.cont c))
    {h h' : CHeap} (hp : HPath (concreteOps ext) n h h') (a : AllCells Q h) : AllCells Q h' := by
  refine HPath.closed (P := AllCells Q) ?_ ?_ ?_ hp a
  · intro h1 h2 x hs
    cases hs with
    | put v => exact putV_all q x v
    | maybePut v => exact (allCells_rel q).maybePutV _ v x
    | globPut k v => exact x.of_cells rfl
    | envPut he => exact (allCells_rel q).envPut he x
    | makeClosure he => exact (allCells_rel q).makeClosure he x
    | makeActivation he => exact (allCells_rel q).makeActivation he x
    | vectorPush he => exact hv he x
    | builtinEval he => exact hb he x
    | compileEval he => exact hc he x
  · intro h1 p v x
    exact cwrite_all x p (q.val v)
  · intro h1 c x hl
    show AllCells Q (cput h1 (CCell.cont c)).1
    exact cput_all q x (hk c hl)

theorem hpath_contBound (en : ExtNoPanic ext) {n : Nat} {h h' : CHeap}
    (hp : HPath (concreteOps ext) n h h') (a : ContBound n h) : ContBound n h' :=
  hpath_all (contQ_free n) (en.vectorPush_cont n) (en.builtinEval_cont n) (en.compileEval_cont n)
    (fun _ hl _ hk => by cases hk; exact hl) hp a

theorem hpath_heapNP (en : ExtNoPanic ext) {n : Nat} {h h' : CHeap}
    (hp : HPath (concreteOps ext) n h h') (a : HeapNP h) : HeapNP h' :=
  hpath_all lamQ_free en.vectorPush_lam en.builtinEval_lam en.compileEval_lam (fun _ _ _ hl => by cases hl) hp a

/-- **`NPInv` is preserved by `run_one`**: `call/cc` copies at most the current capacity, nothing else creates a
    continuation, and the capacity never decreases -/
theorem npinv_step (en : ExtNoPanic ext) {s s' : St CHeap} {b : Bool}
    (hs : step (concreteOps ext) s = .ok (s', b)) (i : NPInv s) : NPInv s' :=
  ⟨hpath_heapNP en (step_hpath hs) i.lam,
   (hpath_contBound en (step_hpath hs) i.cont).mono (step_len_mono hs)⟩

end step

theorem NPInv.of_len {s s' : St CHeap} (i : NPInv s) (hh : s'.heap = s.heap)
    (hl : s'.stack.cells.length = s.stack.cells.length) : NPInv s' :=
  ⟨hh ▸ i.lam, by show ContBound _ _; rw [hl, hh]; exact i.cont⟩

theorem npinv_gc (force : Bool) {s : St CHeap} (i : NPInv s) : NPInv (cgc force s) := by
  refine ⟨cgc_all lamQ_free force i.lam, ?_⟩
  show ContBound (cgc force s).stack.cells.length (cgc force s).heap
  rw [(cgc_regs force s).1]
  exact cgc_all (contQ_free _) force i.cont

theorem npinv_onDone {s : St CHeap} (i : NPInv s) : NPInv (onDone s) :=
  i.of_len rfl (List.length_replicate ..)

theorem npinv_onError {s : St CHeap} (i : NPInv s) : NPInv (onError s) :=
  i.of_len rfl (List.length_replicate ..)

theorem npinv_prepare {comp : CHeap → VCell → Outcome (CHeap × VCell)} (cn : CompNoPanic comp) {s s' : St CHeap}
    {d : VCell} (i : NPInv s) (hp : prepareEval comp s d = .ok s') : NPInv s' := by
  obtain ⟨h', e, hc, rfl⟩ := prepareEval_inv hp
  exact ⟨cn.lam hc i.lam, cn.cont _ hc i.cont⟩

theorem npinv_prepare_entry {s : St CHeap} (i : NPInv s) (entry : Nat) : NPInv (prepare s entry) := ⟨i.lam, i.cont⟩

theorem lamNPB_sound {l : CLambda} (hb : lamNPB l = true) : LamNP l := by
  unfold lamNPB at hb
  simp only [Bool.and_eq_true, Bool.or_eq_true, Bool.not_eq_true', decide_eq_true_eq] at hb
  obtain ⟨h1, h2⟩ := hb
  refine ⟨?_, ?_⟩
  · intro hm
    rcases h1 with h1 | h1
    · have : l.bc.contains (VCell.opcode .varArg) = true := List.contains_iff_mem.mpr hm
      rw [this] at h1; cases h1
    · exact h1
  · intro p hp a ha
    rw [List.all_eq_true] at h2
    have := h2 p hp
    rw [ha] at this
    simpa using this

theorem heapNPB_sound {h : CHeap} (hb : heapNPB h = true) : HeapNP h := by
  intro i c hc l hl
  unfold heapNPB at hb
  rw [Array.all_eq_true] at hb
  have hlt : i < h.cells.size := lt_of_get_some hc
  have := hb i hlt
  rw [Array.getElem?_eq_getElem hlt] at hc
  cases hc
  rw [hl] at this
  exact lamNPB_sound this

theorem contBoundB_sound {n : Nat} {h : CHeap} (hb : contBoundB n h = true) : ContBound n h := by
  intro i c hc k hk
  unfold contBoundB at hb
  rw [Array.all_eq_true] at hb
  have hlt : i < h.cells.size := lt_of_get_some hc
  have := hb i hlt
  rw [Array.getElem?_eq_getElem hlt] at hc
  cases hc
  rw [hk] at this
  simpa using this

theorem npinv_of_check {s : St CHeap} (h1 : heapNPB s.heap = true) (h2 : contFitsB s = true) : NPInv s :=
  ⟨heapNPB_sound h1, contBoundB_sound h2⟩

theorem envSlotsB_sound {s : St CHeap} (hb : envSlotsB s = true) : EnvSlots s := by
  refine ⟨?_, ?_⟩
  · intro l p lam' ss hl hop hacc hlam hss x hx k hk
    unfold envSlotsB at hb
    simp only [hl, hop, hacc, hlam, hss] at hb
    unfold iofEnvFitB at hb
    rw [List.all_eq_true] at hb
    have := hb x hx
    rw [hk] at this
    simpa using this
  · intro l lam env l' ss hl hop hc hlam hss
    unfold envSlotsB at hb
    simp only [hl, hop, hc, hlam, hss] at hb
    simpa using hb

end Marwood.Lemmas.Good
