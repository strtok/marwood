import Marwood.Lemmas.GcSafety
/-!
# Heap well-formedness is preserved by a collection and by growth (T03.3, collector part)
-/
namespace Marwood.Lemmas.HeapWF
open Marwood Marwood.Heap Marwood.Spec Marwood.Lemmas.GcMark Marwood.Lemmas.GcSweep
open Marwood.Lemmas.HeapOps Marwood.Lemmas.GcSafety
open Classical

theorem children_congr (fixed : Bool) (h h' : Heap) (i : Nat) (hc : h'.cells[i]? = h.cells[i]?) :
    h'.children fixed i = h.children fixed i := by
  unfold Heap.children; rw [hc]

theorem nonFree_lt {h : Heap} {i : Nat} (hn : h.NonFree i) : i < h.gc.size := by
  rcases hn with hn | hn <;> exact lt_of_get_some hn

theorem not_sentinel_of_lt {h : Heap} {fixed} (wf : WFCore fixed h) {y : Nat} (hy : y < h.gc.size) : ¬ Sentinel y := by
  unfold Sentinel
  have := wf.bound
  have := wf.sizes
  omega

theorem reachable_nonFree (fixed : Bool) (h : Heap) (roots : List Nat) (wf : WFCore fixed h)
    (hr : RootsOk h roots) : ∀ x, Reachable fixed h roots x → h.NonFree x := by
  intro x hx
  induction hx with
  | root hm hl =>
    rcases hr _ hm with h1 | h1
    · exact h1
    · exact absurd h1 (not_sentinel_of_lt wf hl)
  | step _ hc hl ih =>
    rcases wf.closed _ ih _ hc with h1 | h1
    · exact h1
    · exact absurd h1 (not_sentinel_of_lt wf hl)

theorem nodup_reverse {l : List Nat} (h : l.Nodup) : l.reverse.Nodup := by
  unfold List.Nodup at *; rw [List.pairwise_reverse]; exact h.imp (fun h => h.symm)

theorem nonFree_congr {h h' : Heap} {i : Nat} (e : h'.gc[i]? = h.gc[i]?) : h'.NonFree i ↔ h.NonFree i := by
  unfold Heap.NonFree; rw [e]

theorem not_nonFree_of_free {h : Heap} {i : Nat} (e : h.gc[i]? = some GcState.free) : ¬ h.NonFree i := by
  unfold Heap.NonFree; rw [e]; simp

theorem _root_.Marwood.Heap.WFHeap.state_cases {fixed : Bool} {h : Heap} (wf : WFHeap fixed h) {i : Nat} (hi : i < h.gc.size) :
    h.gc[i]? = some GcState.allocated ∨ h.gc[i]? = some GcState.free := by
  have hne := wf.no_used i
  rw [Array.getElem?_eq_getElem hi] at hne ⊢
  revert hne
  cases h.gc[i] with
  | free => exact fun _ => Or.inr rfl
  | allocated => exact fun _ => Or.inl rfl
  | used => exact fun hne => absurd rfl hne

theorem _root_.Marwood.Heap.WFHeap.allocated {fixed : Bool} {h : Heap} (wf : WFHeap fixed h) {i : Nat} (hi : h.NonFree i) :
    h.gc[i]? = some GcState.allocated :=
  hi.elim id fun e => absurd e (wf.no_used i)

/-- `Interned` and `PtrClosed` survive a step that only takes allocated cells away, if no cell left refers to one
that went and the table loses exactly their names: `free`, `mark`, `mark; sweep`, `grow` -/
theorem interned_closed_of_sub {fixed : Bool} {h h' : Heap} (wf : WFCore fixed h)
    (hold : ∀ i, h'.NonFree i → h.NonFree i ∧ h'.cells[i]? = h.cells[i]?)
    (hkeep : ∀ i, h'.NonFree i → ∀ y ∈ h.children fixed i, h.NonFree y → h'.NonFree y)
    (hsym : ∀ name i, h'.symLookup name = some i ↔ h.symLookup name = some i ∧ h'.NonFree i) :
    Interned h' ∧ PtrClosed fixed h' := by
  constructor
  · intro name i
    rw [hsym, wf.interned name i]
    constructor
    · rintro ⟨⟨hc, _⟩, hn⟩; exact ⟨(hold i hn).2.trans hc, hn⟩
    · rintro ⟨hc, hn⟩; exact ⟨⟨(hold i hn).2.symm.trans hc, (hold i hn).1⟩, hn⟩
  · intro i hi y hy
    rw [children_congr fixed h h' i (hold i hi).2] at hy
    exact (wf.closed i (hold i hi).1 y hy).imp (hkeep i hi y hy) id

theorem interned_closed_of_same {fixed : Bool} {h h' : Heap} (wf : WFCore fixed h)
    (hnf : ∀ i, h'.NonFree i ↔ h.NonFree i) (hcell : ∀ i, h.NonFree i → h'.cells[i]? = h.cells[i]?)
    (hsym : h'.symtab = h.symtab) : Interned h' ∧ PtrClosed fixed h' := by
  refine interned_closed_of_sub wf (fun i hi => ⟨(hnf i).mp hi, hcell i ((hnf i).mp hi)⟩)
    (fun i _ y _ hy => (hnf y).mpr hy) fun name i => ?_
  rw [Heap.symLookup, hsym]
  exact ⟨fun e => ⟨e, (hnf i).mpr ((wf.interned name i).mp e).2⟩, fun e => e.1⟩

/-- T03.3 for `mark; sweep` -/
theorem collect_wf (fixed : Bool) (h : Heap) (roots : List Nat) (h2 : Heap)
    (wf : WFHeap fixed h) (hr : RootsOk h roots) (cs : CollectSpec fixed h roots h2) :
    WFHeap fixed h2 := by
  have hsz := wf.sizes
  have hnf := reachable_nonFree fixed h roots wf.toWFCore hr
  have hfree2 : ∀ x : Nat, h2.gc[x]? = some GcState.free ↔ (x < h.gc.size ∧ ¬ Reachable fixed h roots x) := by
    intro x
    constructor
    · intro e
      refine ⟨cs.gcsize ▸ lt_of_get_some e, fun hrx => ?_⟩
      rw [cs.gc_reach x hrx] at e; cases e
    · exact fun e => cs.gc_unreach x e.1 e.2
  have hnf2 : ∀ x, h2.NonFree x ↔ Reachable fixed h roots x := by
    intro x
    constructor
    · intro hn
      apply Classical.byContradiction
      intro hrx
      exact not_nonFree_of_free ((hfree2 x).mpr ⟨cs.gcsize ▸ nonFree_lt hn, hrx⟩) hn
    · exact fun hrx => Or.inl (cs.gc_reach x hrx)
  obtain ⟨hint, hclosed⟩ := interned_closed_of_sub (h' := h2) wf.toWFCore
    (fun i hi => ⟨hnf i ((hnf2 i).mp hi), cs.cells_reach i ((hnf2 i).mp hi)⟩)
    (fun i hi y hy hny => (hnf2 y).mpr (Reach.step ((hnf2 i).mp hi) hy (nonFree_lt hny))) (by
      -- a name goes exactly when its cell is unreachable
      intro name i
      rw [cs.sym name, hnf2 i]
      constructor
      · intro hl
        split at hl
        · cases hl
        · next hnex =>
          have ⟨hc, hn⟩ := (wf.interned name i).mp hl
          exact ⟨hl, Classical.byContradiction fun hnr => hnex ⟨i, wf.allocated hn, hnr, hc⟩⟩
      · rintro ⟨hl, hri⟩
        rw [if_neg, hl]
        rintro ⟨j, hj1, hj2, hj3⟩
        have hlj := (wf.interned name j).mpr ⟨hj3, Or.inl hj1⟩
        rw [hl] at hlj
        cases hlj
        exact hj2 hri)
  refine ⟨⟨by rw [cs.gcsize, cs.csize]; exact hsz, cs.shape wf.shape, by rw [cs.csize]; exact wf.bound,
    ?_, ?_, ?_, hint, hclosed⟩, ?_⟩
  · -- the free list
    intro i
    rw [cs.free, hfree2 i, List.mem_append, List.mem_reverse, List.mem_filter, List.mem_range, wf.free_iff i,
      decide_eq_true_eq]
    constructor
    · rintro (⟨h1, _, h2'⟩ | h1)
      · exact ⟨hsz ▸ h1, h2'⟩
      · exact ⟨lt_of_get_some h1, fun hrx => not_nonFree_of_free h1 (hnf i hrx)⟩
    · rintro ⟨h1, h2'⟩
      exact (wf.state_cases h1).imp (fun e => ⟨hsz ▸ h1, e, h2'⟩) id
  · rw [cs.free, List.nodup_append]
    refine ⟨nodup_reverse (List.nodup_range.sublist List.filter_sublist), wf.nodup, ?_⟩
    intro a ha b hb hab
    subst hab
    rw [List.mem_reverse, List.mem_filter, decide_eq_true_eq] at ha
    have := (wf.free_iff a).mp hb
    rw [ha.2.1] at this; cases this
  · intro i hi
    have ⟨h1, h2'⟩ := (hfree2 i).mp hi
    rw [cs.cells_unreach i h2']
    split
    · rfl
    · next hna => exact wf.free_undef i ((wf.state_cases h1).resolve_left hna)
  · intro i e
    have hri := (hnf2 i).mp (Or.inr e)
    rw [cs.gc_reach i hri] at e; cases e

/-- T03.3 for `grow` -/
theorem grow_wf (fixed : Bool) (h h' : Heap) (wf : WFHeap fixed h) (g : GrowSpec h h') (hs' : Shape h')
    (hb : h'.cells.size ≤ 2 ^ 63) : WFHeap fixed h' := by
  obtain ⟨g1, g2, g3⟩ := grow_get h h' wf.sizes g
  have hsz := wf.sizes
  have hfree : ∀ x : Nat, h'.gc[x]? = some GcState.free ↔
      (h.gc[x]? = some GcState.free ∨ (h.cells.size ≤ x ∧ x < h'.cells.size)) := by
    intro x
    by_cases hx : x < h.cells.size
    · rw [(g1 x hx).2]
      exact ⟨Or.inl, fun e => e.elim id fun e => absurd hx (Nat.not_lt.mpr e.1)⟩
    · constructor
      · exact fun e => Or.inr ⟨Nat.le_of_not_lt hx, g3 ▸ lt_of_get_some e⟩
      · rintro (e | e)
        · exact absurd (hsz ▸ lt_of_get_some e) hx
        · exact (g2 x e.1 e.2).2
  have hnf : ∀ x, h'.NonFree x ↔ h.NonFree x := by
    intro x
    by_cases hx : x < h.cells.size
    · exact nonFree_congr (g1 x hx).2
    · constructor
      · intro hn
        exact absurd hn (not_nonFree_of_free ((hfree x).mpr (Or.inr ⟨Nat.le_of_not_lt hx, g3 ▸ nonFree_lt hn⟩)))
      · exact fun hn => absurd (hsz ▸ nonFree_lt hn) hx
  obtain ⟨hint, hclosed⟩ := interned_closed_of_same (h' := h') wf.toWFCore hnf
    (fun i hi => (g1 i (hsz ▸ nonFree_lt hi)).1) g.symtab
  refine ⟨⟨g3, hs', hb, ?_, ?_, ?_, hint, hclosed⟩, ?_⟩
  · intro i
    rw [g.free, hfree i, List.mem_append, List.mem_reverse, List.mem_range'_1, wf.free_iff i,
      Nat.add_sub_cancel' (Nat.le_of_lt g.lt)]
    exact Or.comm
  · rw [g.free, List.nodup_append]
    refine ⟨nodup_reverse (List.nodup_range' (step := 1)), wf.nodup, ?_⟩
    intro a ha b hb' hab
    subst hab
    rw [List.mem_reverse, List.mem_range'_1] at ha
    exact absurd (hsz ▸ lt_of_get_some ((wf.free_iff a).mp hb')) (Nat.not_lt.mpr ha.1)
  · intro i hi
    rcases (hfree i).mp hi with h1 | ⟨h1, h2⟩
    · rw [(g1 i (hsz ▸ lt_of_get_some h1)).1]; exact wf.free_undef i h1
    · exact (g2 i h1 h2).1
  · intro i e
    have hn := (hnf i).mp (Or.inr e)
    rw [(g1 i (hsz ▸ nonFree_lt hn)).2] at e
    exact wf.no_used i e

/-- T03.3 (collector) -/
theorem runGc_wf (fixed force : Bool) (h : Heap) (r : Roots) (h' : Heap)
    (wf : WFHeap fixed h) (hr : RootsOk h (r.refs fixed)) (hb : h'.cells.size ≤ 2 ^ 63)
    (hrun : Heap.runGc fixed force h r = .ok (.collected h')) : WFHeap fixed h' := by
  obtain ⟨h2, cs, hg⟩ := runGc_collected fixed force h r h' wf.sizes wf.no_used wf.shape hrun
  have wf2 := collect_wf fixed h (r.refs fixed) h2 wf hr cs
  rcases hg with hg | ⟨gs, hs3⟩
  · exact hg ▸ wf2
  · exact grow_wf fixed h2 h' wf2 gs hs3 hb

end Marwood.Lemmas.HeapWF
