import Marwood.Vm.Env
/-!
# Lemmas for T02.1: the entry a name has in an environment map

First occurrence is core's `List.idxOf?` (`argIndex_eq`, `slotOf_eq`), and `entryOf` is `slotOf` with the source found
there. A new map is described by what stands at each index (`newEnvmap_getElem?`) and by its names in order
(`newEnvmap_names`, `slotOf_newEnvmap`).
-/
namespace Marwood.Vm.Env
open Marwood.Scope

/-- first entry for a symbol with its index -/
def entryOf : Envmap → Name → Option (Nat × Source)
  | [], _ => none
  | (y, src) :: em, x => if y = x then some (0, src) else (entryOf em x).map fun (i, s) => (i + 1, s)

theorem slotOf_eq_entryOf (em : Envmap) (x : Name) : slotOf em x = (entryOf em x).map (·.1) := by
  induction em with
  | nil => rfl
  | cons p em ih =>
    obtain ⟨y, src⟩ := p
    simp only [slotOf, entryOf]
    split
    · rfl
    · rw [ih]; cases entryOf em x <;> rfl

theorem entryOf_getElem (em : Envmap) (x : Name) (i : Nat) (src : Source)
    (h : entryOf em x = some (i, src)) : em[i]? = some (x, src) := by
  induction em generalizing i with
  | nil => simp [entryOf] at h
  | cons p em ih =>
    obtain ⟨y, s⟩ := p
    simp only [entryOf] at h
    split at h
    · next hy => cases h; simp [hy]
    · cases h' : entryOf em x with
      | none => simp [h'] at h
      | some q =>
        obtain ⟨j, t⟩ := q
        simp [h'] at h
        obtain ⟨rfl, rfl⟩ := h
        simpa using ih j h'

theorem argIndex_eq (as : List Name) (x : Name) : argIndex as x = as.idxOf? x := by
  induction as with
  | nil => rfl
  | cons y ys ih => simp only [argIndex, ih, List.idxOf?_cons, beq_iff_eq]

theorem slotOf_eq (em : Envmap) (x : Name) : slotOf em x = (em.map Prod.fst).idxOf? x := by
  induction em with
  | nil => rfl
  | cons p em ih => simp only [slotOf, ih, List.map_cons, List.idxOf?_cons, beq_iff_eq]

theorem idxOf?_append (a b : List Name) (x : Name) :
    (a ++ b).idxOf? x = (a.idxOf? x).or ((b.idxOf? x).map (· + a.length)) := by
  simp only [List.idxOf?, List.findIdx?_append]

theorem argIndex_none_iff (as : List Name) (x : Name) : argIndex as x = none ↔ x ∉ as := by
  rw [argIndex_eq, List.idxOf?_eq_none_iff]

theorem argIndex_some {as : List Name} {x : Name} {n : Nat} (h : argIndex as x = some n) :
    n < as.length ∧ as[n]? = some x := by
  obtain ⟨hn, hx, _⟩ := List.idxOf?_eq_some_iff.mp (argIndex_eq as x ▸ h)
  exact ⟨hn, by rw [List.getElem?_eq_getElem hn, hx]⟩

theorem argIndex_append (a b : List Name) (x : Name) :
    argIndex (a ++ b) x = (argIndex a x).or ((argIndex b x).map (· + a.length)) := by
  simp only [argIndex_eq, idxOf?_append]

theorem entryOf_eq_none {em : Envmap} {x : Name} : entryOf em x = none ↔ slotOf em x = none := by
  rw [slotOf_eq_entryOf, Option.map_eq_none_iff]

theorem entryOf_of_slotOf {em : Envmap} {x : Name} {i : Nat} (hs : slotOf em x = some i) :
    ∃ src, entryOf em x = some (i, src) ∧ em[i]? = some (x, src) := by
  rw [slotOf_eq_entryOf, Option.map_eq_some_iff] at hs
  obtain ⟨⟨_, src⟩, he, rfl⟩ := hs
  exact ⟨src, he, entryOf_getElem em x _ src he⟩

theorem entryOf_of_slot {em : Envmap} {x y : Name} {i : Nat} {src : Source} (hs : slotOf em x = some i)
    (he : em[i]? = some (y, src)) : entryOf em x = some (i, src) := by
  obtain ⟨src', h1, h2⟩ := entryOf_of_slotOf hs
  cases h2.symm.trans he
  exact h1

theorem mem_remove (b l : List Name) (x : Name) : x ∈ remove b l ↔ x ∈ l ∧ x ∉ b := by
  simp [remove]

theorem mem_dedup (l : List Name) (x : Name) : x ∈ dedup l ↔ x ∈ l := by
  induction l with
  | nil => simp [dedup]
  | cons y ys ih =>
    simp only [dedup]
    split
    · next h =>
      rw [ih]
      constructor
      · exact fun hx => List.mem_cons_of_mem _ hx
      · intro hx
        cases hx with
        | head => simpa using h
        | tail _ hx => exact hx
    · simp [ih]

theorem freeEntry_name (iof : LamCtx) (s : Name) (p : Name × Source) (h : freeEntry iof s = some p) :
    p.1 = s := by
  unfold freeEntry at h
  split at h
  · cases h; rfl
  · split at h
    · cases h; rfl
    · cases h

theorem argEntries_getElem? (as : List Name) (i0 s : Nat) :
    (argEntries as i0)[s]? = as[s]?.map fun a => (a, Source.argument (i0 + s)) := by
  induction as generalizing i0 s with
  | nil => rfl
  | cons a as ih =>
    cases s with
    | zero => rfl
    | succ s => simp only [argEntries, List.getElem?_cons_succ, ih, Nat.add_assoc, Nat.add_comm 1 s]

theorem argEntries_length (as : List Name) (i0 : Nat) : (argEntries as i0).length = as.length := by
  induction as generalizing i0 with
  | nil => rfl
  | cons a as ih => simp only [argEntries, List.length_cons, ih]

theorem newEnvmap_getElem? (A D F : List Name) (iof : LamCtx) (s : Nat) :
    (newEnvmap A D F iof)[s]? =
      if s < A.length then A[s]?.map fun a => (a, Source.argument s)
      else if s < A.length + D.length then D[s - A.length]?.map fun d => (d, Source.internal)
      else (F.filterMap (freeEntry iof))[s - A.length - D.length]? := by
  simp only [newEnvmap, List.append_assoc, List.getElem?_append, argEntries_length, List.length_map,
    argEntries_getElem?, Nat.zero_add, List.getElem?_map]
  split
  · rfl
  · split
    · next h1 h2 => rw [if_pos (by omega)]
    · next h1 h2 => rw [if_neg (by omega)]

theorem newEnvmap_names (A D F : List Name) (iof : LamCtx) :
    (newEnvmap A D F iof).map Prod.fst = A ++ D ++ F.filter fun y => (freeEntry iof y).isSome := by
  have hA : ∀ i0, (argEntries A i0).map Prod.fst = A := by
    induction A with
    | nil => intro _; rfl
    | cons a as ih => intro i0; simp only [argEntries, List.map_cons, ih]
  have hF : (F.filterMap (freeEntry iof)).map Prod.fst = F.filter fun y => (freeEntry iof y).isSome := by
    induction F with
    | nil => rfl
    | cons y ys ih =>
      rw [List.filterMap_cons, List.filter_cons]
      cases h : freeEntry iof y with
      | none => simpa using ih
      | some p => simp [ih, freeEntry_name iof y p h]
  simp only [newEnvmap, List.map_append, List.map_map, hA, hF, Function.comp_def, List.map_id']

theorem slotOf_newEnvmap (A D F : List Name) (iof : LamCtx) (x : Name) :
    slotOf (newEnvmap A D F iof) x = (argIndex (A ++ D) x).or
      (((F.filter fun y => (freeEntry iof y).isSome).idxOf? x).map (· + (A ++ D).length)) := by
  rw [slotOf_eq, newEnvmap_names, idxOf?_append, argIndex_eq]

/-- every parameter of a compiled lambda has a slot, so `IofArgument` is dead -/
theorem newEnvmap_noarg (A D F : List Name) (iof : LamCtx) (x : Name) (h : slotOf (newEnvmap A D F iof) x = none) :
    argIndex A x = none := by
  rw [slotOf_newEnvmap, Option.or_eq_none_iff, argIndex_append, Option.or_eq_none_iff] at h
  exact h.1.1

theorem freeEntry_isSome (iof : LamCtx) (hna : ∀ x, slotOf iof.envmap x = none → argIndex iof.args x = none) (y : Name) :
    (freeEntry iof y).isSome ↔ slotOf iof.envmap y ≠ none := by
  unfold freeEntry
  cases h : slotOf iof.envmap y with
  | some k => simp
  | none => simp [hna y h]

theorem hasSlot_newEnvmap (A D F : List Name) (iof : LamCtx)
    (hna : ∀ x, slotOf iof.envmap x = none → argIndex iof.args x = none) (x : Name) :
    slotOf (newEnvmap A D F iof) x ≠ none ↔ x ∈ A ++ D ∨ (x ∈ F ∧ slotOf iof.envmap x ≠ none) := by
  rw [slotOf_newEnvmap, Ne, Option.or_eq_none_iff, Option.map_eq_none_iff, List.idxOf?_eq_none_iff, argIndex_none_iff,
    List.mem_filter, freeEntry_isSome _ hna]
  exact Decidable.not_and_iff_not_or_not.trans (or_congr Decidable.not_not Decidable.not_not)

theorem entryOf_newEnvmap_arg (args internal free : List Name) (iof : LamCtx) (x : Name) (n : Nat)
    (h : argIndex args x = some n) :
    entryOf (newEnvmap args internal free iof) x = some (n, .argument n) := by
  refine entryOf_of_slot (y := x) (by rw [slotOf_newEnvmap, argIndex_append, h]; rfl) ?_
  rw [newEnvmap_getElem?, if_pos (argIndex_some h).1, (argIndex_some h).2]; rfl

theorem entryOf_newEnvmap_internal (args internal free : List Name) (iof : LamCtx) (x : Name)
    (ha : x ∉ args) (hi : x ∈ internal) :
    ∃ i, entryOf (newEnvmap args internal free iof) x = some (i, .internal) := by
  cases hd : argIndex internal x with
  | none => exact absurd hi ((argIndex_none_iff internal x).mp hd)
  | some j =>
    have hj := (argIndex_some hd).1
    refine ⟨j + args.length, entryOf_of_slot (y := x)
      (by rw [slotOf_newEnvmap, argIndex_append, (argIndex_none_iff args x).mpr ha, hd]; rfl) ?_⟩
    rw [newEnvmap_getElem?, if_neg (by omega), if_pos (by omega), Nat.add_sub_cancel, (argIndex_some hd).2]; rfl

theorem entryOf_newEnvmap_free (args internal free : List Name) (iof : LamCtx) (x : Name)
    (ha : x ∉ args) (hi : x ∉ internal) :
    (x ∉ free ∨ freeEntry iof x = none → entryOf (newEnvmap args internal free iof) x = none) ∧
    (∀ src, x ∈ free → freeEntry iof x = some (x, src) →
        ∃ i, entryOf (newEnvmap args internal free iof) x = some (i, src)) := by
  have hs := slotOf_newEnvmap args internal free iof x
  rw [(argIndex_none_iff _ x).mpr (by simp [ha, hi]), Option.none_or] at hs
  constructor
  · intro h
    rw [entryOf_eq_none, hs, Option.map_eq_none_iff, List.idxOf?_eq_none_iff, List.mem_filter]
    rintro ⟨h1, h2⟩
    rcases h with h | h
    · exact h h1
    · rw [h] at h2; cases h2
  · intro src hx hfe
    cases hj : (free.filter fun y => (freeEntry iof y).isSome).idxOf? x with
    | none =>
      rw [List.idxOf?_eq_none_iff, List.mem_filter] at hj
      exact absurd ⟨hx, by rw [hfe]; rfl⟩ hj
    | some j =>
      rw [hj, Option.map_some] at hs
      obtain ⟨src', he, hget⟩ := entryOf_of_slotOf hs
      refine ⟨j + (args ++ internal).length, he.trans ?_⟩
      -- the entry stands behind the binders, so it is what `freeEntry` made of some free name, which is `x` itself
      rw [newEnvmap_getElem?, if_neg (by rw [List.length_append]; omega),
        if_neg (by rw [List.length_append]; omega)] at hget
      obtain ⟨z, _, hz⟩ := List.mem_filterMap.mp (List.mem_of_getElem? hget)
      obtain rfl : x = z := freeEntry_name iof z _ hz
      cases hfe.symm.trans hz
      rfl

end Marwood.Vm.Env
