import Marwood.Lemmas.CompileCorrectInstr
import Marwood.Lemmas.EvalFrame
/-!
# T01.3 stage 1 — what a successful run establishes, bookkeeping lemmas, loading a constant, storing into a global
-/
namespace Marwood.Lemmas.CompileCorrect
open Marwood Marwood.Vm
open Marwood.Spec.Eval (Val Prim Cell evalN evalStep applyStep evalArgs properList quoteVal kwOf insertG
  k_quote k_if_ k_setBang k_define)

variable {H : Type} {ops : HeapOps H} {D : RepData ops}

theorem Evolves.refl (l : Nat) (h : H) (S : Array Cell) : Evolves D l h S h S :=
  ⟨fun _ _ x => x, fun x => x, fun _ _ => rfl⟩

theorem Evolves.trans {l : Nat} {h1 h2 h3 : H} {S1 S2 S3 : Array Cell}
    (a : Evolves D l h1 S1 h2 S2) (b : Evolves D l h2 S2 h3 S3) : Evolves D l h1 S1 h3 S3 :=
  ⟨fun v w x => b.vr v w (a.vr v w x), fun x => b.isLambda (a.isLambda x),
   fun x o => (b.fetch (a.isLambda x) o).trans (a.fetch x o)⟩

theorem evolves_globPut (L : RepLaws D) (l : Nat) (h : H) (S : Array Cell) (n : Nat) (u : VCell) :
    Evolves D l h S (ops.globPut h n u) S :=
  ⟨fun v w x => L.globPut_VR h n u S v w x, fun x => by rw [L.globPut_isLambda]; exact x,
   fun _ o => L.globPut_fetch h n u l o⟩

theorem Loads.evolve {l : Nat} {h h' : H} {S S' : Array Cell} (e : Evolves D l h S h' S') {bc : BC} {v : VCell}
    (x : Loads D h S bc v) : Loads D h' S' bc v := by
  cases bc <;> first | exact x | exact ⟨x.1, fun w hw => e.vr _ _ (x.2 w hw)⟩

theorem CodeAt.evolve {l base : Nat} {h h' : H} {S S' : Array Cell} {code : List BC}
    (hc : CodeAt D h S l base code) (e : Evolves D l h S h' S') : CodeAt D h' S' l base code := by
  refine ⟨e.isLambda hc.1, fun i bc hi => ?_⟩
  obtain ⟨v, hf, hl⟩ := hc.2 i bc hi
  exact ⟨v, by rw [e.fetch hc.1]; exact hf, hl.evolve e⟩

theorem CodeAt.left {l base : Nat} {h : H} {S : Array Cell} {a b : List BC}
    (hc : CodeAt D h S l base (a ++ b)) : CodeAt D h S l base a := by
  refine ⟨hc.1, fun i bc hi => hc.2 i bc ?_⟩
  have hlt : i < a.length := by
    rcases Nat.lt_or_ge i a.length with h1 | h1
    · exact h1
    · rw [List.getElem?_eq_none h1] at hi; cases hi
  rw [List.getElem?_append_left hlt]; exact hi

theorem CodeAt.right {l base : Nat} {h : H} {S : Array Cell} {a b : List BC}
    (hc : CodeAt D h S l base (a ++ b)) : CodeAt D h S l (base + a.length) b := by
  refine ⟨hc.1, fun i bc hi => ?_⟩
  have := hc.2 (a.length + i) bc (by rw [List.getElem?_append_right (by omega)]; simpa using hi)
  rwa [← Nat.add_assoc] at this

theorem CodeAt.cast {l base base' : Nat} {h : H} {S : Array Cell} {code : List BC}
    (hc : CodeAt D h S l base code) (e : base = base') : CodeAt D h S l base' code := e ▸ hc

theorem CodeAt.op {l base : Nat} {h : H} {S : Array Cell} {code : List BC} (hc : CodeAt D h S l base code)
    (i : Nat) {o : Op} (hi : code[i]? = some (.op o)) : ops.fetch h l (base + i) = some (.opcode o) := by
  obtain ⟨v, hf, hl⟩ := hc.2 i _ hi
  cases (show v = .opcode o from hl); exact hf

theorem CodeAt.accCell {l base : Nat} {h : H} {S : Array Cell} {code : List BC} (hc : CodeAt D h S l base code)
    (i : Nat) (hi : code[i]? = some .acc) : ops.fetch h l (base + i) = some .acc := by
  obtain ⟨v, hf, hl⟩ := hc.2 i _ hi
  cases (show v = .acc from hl); exact hf

theorem CodeAt.globalCell {l base : Nat} {h : H} {S : Array Cell} {code : List BC} (hc : CodeAt D h S l base code)
    (i : Nat) {x : Text} (hi : code[i]? = some (.global x)) :
    D.named x ∧ ops.fetch h l (base + i) = some (.globSlot (D.slot x)) := by
  obtain ⟨v, hf, hl⟩ := hc.2 i _ hi
  obtain ⟨hn, hv⟩ := (show D.named x ∧ v = .globSlot (D.slot x) from hl)
  cases hv; exact ⟨hn, hf⟩

theorem CodeAt.argcCell {l base : Nat} {h : H} {S : Array Cell} {code : List BC} (hc : CodeAt D h S l base code)
    (i : Nat) {n : Nat} (hi : code[i]? = some (.argc n)) : ops.fetch h l (base + i) = some (.argc n) := by
  obtain ⟨v, hf, hl⟩ := hc.2 i _ hi
  cases (show v = .argc n from hl); exact hf

theorem CodeAt.targetCell {l base : Nat} {h : H} {S : Array Cell} {code : List BC} (hc : CodeAt D h S l base code)
    (i : Nat) {n : Nat} (hi : code[i]? = some (.target n)) : ops.fetch h l (base + i) = some (.ptr n) := by
  obtain ⟨v, hf, hl⟩ := hc.2 i _ hi
  cases (show v = .ptr n from hl); exact hf

theorem CodeAt.voidCell {l base : Nat} {h : H} {S : Array Cell} {code : List BC} (hc : CodeAt D h S l base code)
    (i : Nat) (hi : code[i]? = some .void) : ops.fetch h l (base + i) = some .void := by
  obtain ⟨v, hf, hl⟩ := hc.2 i _ hi
  cases (show v = .void from hl); exact hf

theorem All2.mono {α β : Type} {R R' : α → β → Prop} (f : ∀ a b, R a b → R' a b) :
    ∀ {l l'}, All2 R l l' → All2 R' l l'
  | _, _, .nil => .nil
  | _, _, .cons h t => .cons (f _ _ h) (All2.mono f t)

theorem All2.length_eq {α β : Type} {R : α → β → Prop} : ∀ {l l'}, All2 R l l' → l.length = l'.length
  | _, _, .nil => rfl
  | _, _, .cons _ t => by simp [All2.length_eq t]

structure ExprRun (D : RepData ops) (s : MSt H) (len : Nat) (σ σ' : SSt) (w : Val) (s' : MSt H) : Prop where
  steps : Steps ops s s'
  ipL : s'.ipL = s.ipL
  ipO : s'.ipO = s.ipO + len
  bp : s'.bp = s.bp
  ep : s'.ep = s.ep
  stack : LiveEq s.stack s'.stack
  swf : SWF s'.stack
  acc : D.VR s'.heap σ'.store s'.acc w
  sr : SR D s'.heap σ'
  ev : Evolves D s.ipL s.heap σ.store s'.heap σ'.store

/-- the values `vs` have been pushed, first operand deepest -/
structure ArgsRun (D : RepData ops) (s : MSt H) (len : Nat) (σ σ' : SSt) (ws : List Val) (vs : List VCell)
    (s' : MSt H) : Prop where
  steps : Steps ops s s'
  ipL : s'.ipL = s.ipL
  ipO : s'.ipO = s.ipO + len
  bp : s'.bp = s.bp
  ep : s'.ep = s.ep
  stack : LiveEq (pushAll s.stack vs) s'.stack
  swf : SWF s'.stack
  vals : All2 (D.VR s'.heap σ'.store) vs ws
  sr : SR D s'.heap σ'
  ev : Evolves D s.ipL s.heap σ.store s'.heap σ'.store

theorem run_movImm_void {s : MSt H} {S : Array Cell}
    (hc : CodeAt D s.heap S s.ipL s.ipO [.op .movImm, .void, .acc]) :
    step ops s = .ok ({ s with acc := .void, ipO := s.ipO + 3 }, false) :=
  step_movImm_acc hc.1 (hc.op 0 rfl) (hc.voidCell 1 rfl) (by intro o h; cases h) (hc.accCell 2 rfl)

theorem run_movImm_datum (s : MSt H) {S : Array Cell} {d : Datum}
    (hc : CodeAt D s.heap S s.ipL s.ipO [.op .movImm, .datum d, .acc]) :
    ∃ v, step ops s = .ok ({ s with acc := v, ipO := s.ipO + 3 }, false) ∧
      ∀ w, atomVal d = some w → D.VR s.heap S v w := by
  obtain ⟨v, hf, hl⟩ := hc.2 1 (.datum d) rfl
  exact ⟨v, step_movImm_acc hc.1 (hc.op 0 rfl) hf hl.1 (hc.accCell 2 rfl), hl.2⟩

/-- after `globals[x] := v`: read through `get'` where it was read through `get`; `R` may change to `R'` -/
theorem globals_insert {named : Text → Prop} {slot : Text → Nat} {R R' : VCell → Val → Prop} {get get' : Nat → VCell}
    {G : List (Text × Val)} {x : Text} {v : VCell} {w : Val}
    (inj : ∀ y, named y → slot y = slot x → y = x) (hg : ∀ m, get' m = if m = slot x then v else get m)
    (mono : ∀ a b, R a b → R' a b) (hv : R' v w)
    (hb : ∀ y u, named y → G.lookup y = some u → R (get (slot y)) u)
    (hu : ∀ y, named y → G.lookup y = none → get (slot y) = .undefined) :
    (∀ y u, named y → (insertG x w G).lookup y = some u → R' (get' (slot y)) u) ∧
    (∀ y, named y → (insertG x w G).lookup y = none → get' (slot y) = .undefined) := by
  refine ⟨fun y u hny hy => ?_, fun y hny hy => ?_⟩ <;> rw [Spec.Eval.lookup_insertG] at hy <;> rw [hg] <;>
    by_cases hyx : y = x
  · subst hyx
    simp only [BEq.rfl, if_true] at hy ⊢
    cases hy; exact hv
  · have hb' : (y == x) = false := by simpa using hyx
    have hne : slot y ≠ slot x := fun e => hyx (inj y hny e)
    simp only [hb', Bool.false_eq_true, if_false, hne] at hy ⊢
    exact mono _ _ (hb y u hny hy)
  · subst hyx; simp at hy
  · have hb' : (y == x) = false := by simpa using hyx
    have hne : slot y ≠ slot x := fun e => hyx (inj y hny e)
    simp only [hb', Bool.false_eq_true, if_false, hne] at hy ⊢
    exact hu y hny hy

theorem SR.insert (L : RepLaws D) {h : H} {σ : SSt} {x : Text} {v : VCell} {w : Val}
    (hsr : SR D h σ) (hx : D.named x) (hv : D.VR h σ.store v w) :
    SR D (ops.globPut h (D.slot x) v) { σ with globals := insertG x w σ.globals } :=
  have g := globals_insert (fun _ hy e => L.slot_inj _ _ hy hx e) (L.glob_get_put h σ.store x v · hsr.extra hx)
    (fun a b => L.globPut_VR h (D.slot x) v σ.store a b) (L.globPut_VR _ _ _ _ _ _ hv) hsr.bound hsr.unbound
  ⟨g.1, g.2, L.globPut_SRx _ _ _ _ hsr.extra⟩

theorem run_store (L : RepLaws D) {s : MSt H} {σ : SSt} {w : Val} {x : Text}
    (hc : CodeAt D s.heap σ.store s.ipL s.ipO [.op .mov, .acc, .global x, .op .movImm, .void, .acc])
    (hacc : D.VR s.heap σ.store s.acc w) (hsr : SR D s.heap σ) (hw : SWF s.stack) :
    ∃ s', ExprRun D s 6 σ { σ with globals := insertG x w σ.globals } .void s' := by
  have h1 := step_mov_acc_glob hc.1 (hc.op 0 rfl) (hc.accCell 1 rfl) (hc.globalCell 2 rfl).2
  have hev := evolves_globPut L s.ipL s.heap σ.store (D.slot x) s.acc
  have hc2 : CodeAt D (ops.globPut s.heap (D.slot x) s.acc) σ.store s.ipL (s.ipO + 3) [.op .movImm, .void, .acc] :=
    (CodeAt.right (a := [.op .mov, .acc, .global x]) hc).evolve hev
  have h2 := run_movImm_void (s := { s with heap := ops.globPut s.heap (D.slot x) s.acc, ipO := s.ipO + 3 }) hc2
  refine ⟨_, ⟨.cons h1 (Steps.one h2), rfl, rfl, rfl, rfl, LiveEq.refl _, hw, L.void _ _, ?_, hev⟩⟩
  exact SR.insert L hsr (hc.globalCell 2 rfl).1 hacc

end Marwood.Lemmas.CompileCorrect
