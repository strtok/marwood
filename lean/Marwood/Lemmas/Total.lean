import Marwood.Total
import Marwood.Lemmas.Store
/-! # C06: outcomes that are not panics, well-formed stores -/
namespace Marwood.Store
open Outcome

def Outcome.NoPanic {α} (o : Outcome α) : Prop := ∀ m, o ≠ .panic m

@[simp] theorem noPanic_ok {α} (a : α) : Outcome.NoPanic (.ok a) := by intro m h; cases h
@[simp] theorem noPanic_err {α} (e : Err) : Outcome.NoPanic (.err e : Outcome α) := by intro m h; cases h
@[simp] theorem noPanic_diverge {α} : Outcome.NoPanic (.diverge : Outcome α) := by intro m h; cases h
@[simp] theorem noPanic_panic {α} (m : String) : ¬ Outcome.NoPanic (.panic m : Outcome α) := fun h => h m rfl

theorem noPanic_bind {α β} {x : Outcome α} {f : α → Outcome β} (hx : Outcome.NoPanic x)
    (hf : ∀ a, x = .ok a → Outcome.NoPanic (f a)) : Outcome.NoPanic (x >>= f) := by
  cases x with
  | ok a => exact hf a rfl
  | err e => exact noPanic_err e
  | panic m => exact absurd rfl (hx m)
  | diverge => exact noPanic_diverge

theorem get_valid {s : Store} (hs : s.WF) {v : VCell} (hv : VCell.Valid s v) :
    ∃ c, s.get v = .ok c ∧ VCell.Valid s c := by
  cases v with
  | ptr a =>
    have ha : a < s.cells.length := hv
    refine ⟨s.cells[a], ?_, hs.cells _ (List.getElem_mem ha)⟩
    simp [Store.get, ofOption, List.getElem?_eq_getElem ha]
  | _ => exact ⟨_, rfl, hv⟩

theorem vecGet_ok {s : Store} {id : Nat} (h : id < s.vecs.length) : s.vecGet id = .ok s.vecs[id] := by
  simp [Store.vecGet, ofOption, List.getElem?_eq_getElem h]

theorem popIndex_noPanic {s : Store} (hs : s.WF) {v : VCell} (hv : VCell.Valid s v) :
    Outcome.NoPanic (popIndex s v) := by
  obtain ⟨c, hc, _⟩ := get_valid hs hv
  unfold popIndex
  simp only [hc, bind_ok]
  split
  · unfold orErr; split <;> simp
  · simp

theorem popVector_spec {s : Store} (hs : s.WF) {v : VCell} (hv : VCell.Valid s v) :
    (∃ id, popVector s v = .ok id ∧ id < s.vecs.length) ∨ ∃ e, popVector s v = .err e := by
  obtain ⟨c, hc, hcv⟩ := get_valid hs hv
  unfold popVector
  simp only [hc, bind_ok]
  split
  · rename_i id; exact .inl ⟨id, rfl, hcv⟩
  · exact .inr ⟨_, rfl⟩

/-- as counts: validity is about bounds -/
structure Store.Le (s s' : Store) : Prop where
  cells : s.cells.length ≤ s'.cells.length
  vecs : s.vecs.length ≤ s'.vecs.length
  strs : s.strs.length ≤ s'.strs.length

theorem Store.Le.refl (s : Store) : Store.Le s s := ⟨Nat.le_refl _, Nat.le_refl _, Nat.le_refl _⟩
theorem Store.Le.trans {a b c : Store} (h1 : Store.Le a b) (h2 : Store.Le b c) : Store.Le a c :=
  ⟨Nat.le_trans h1.cells h2.cells, Nat.le_trans h1.vecs h2.vecs, Nat.le_trans h1.strs h2.strs⟩

theorem VCell.Valid.mono {s s' : Store} (h : Store.Le s s') {v : VCell} (hv : VCell.Valid s v) :
    VCell.Valid s' v := by
  cases v <;> simp only [VCell.Valid] at hv ⊢
  · exact ⟨Nat.lt_of_lt_of_le hv.1 h.cells, Nat.lt_of_lt_of_le hv.2 h.cells⟩
  · exact Nat.lt_of_lt_of_le hv h.strs
  · exact Nat.lt_of_lt_of_le hv h.vecs
  · exact Nat.lt_of_lt_of_le hv h.cells

/-- `c` may be a pair, vector or string cell: `Valid` of such a cell says that what it refers to exists -/
theorem alloc_wf {s : Store} (hs : s.WF) {c : VCell} (hc : VCell.Valid s c) : (s.alloc c).1.WF := by
  have hle : Store.Le s (s.alloc c).1 := ⟨by simp [Store.alloc], Nat.le_refl _, Nat.le_refl _⟩
  constructor
  · intro x hx
    simp only [Store.alloc, List.mem_append, List.mem_singleton] at hx
    rcases hx with hx | rfl
    · exact (hs.cells x hx).mono hle
    · exact hc.mono hle
  · intro xs hxs x hx
    exact (hs.vecs xs hxs x hx).mono hle

theorem alloc_le (s : Store) (c : VCell) : Store.Le s (s.alloc c).1 :=
  ⟨by simp [Store.alloc], Nat.le_refl _, Nat.le_refl _⟩

theorem alloc_valid (s : Store) (c : VCell) : VCell.Valid (s.alloc c).1 (.ptr (s.alloc c).2) := by
  simp [VCell.Valid, Store.alloc]

theorem put_wf {s : Store} (hs : s.WF) {v : VCell} (hv : VCell.Valid s v) :
    (s.put v).1.WF ∧ Store.Le s (s.put v).1 ∧ VCell.Valid (s.put v).1 (s.put v).2 ∧
      ∃ a, (s.put v).2 = .ptr a := by
  rcases put_cases s v with ⟨a, rfl, h⟩ | ⟨_, _, a, hc, h⟩ | ⟨_, h⟩ <;> rw [h]
  · exact ⟨hs, Store.Le.refl s, hv, a, rfl⟩
  · exact ⟨hs, Store.Le.refl s, (List.getElem?_eq_some_iff.mp hc).1, a, rfl⟩
  · exact ⟨alloc_wf hs hv, alloc_le s v, alloc_valid s v, _, rfl⟩

theorem maybePut_wf {s : Store} (hs : s.WF) {v : VCell} (hv : VCell.Valid s v) :
    (s.maybePut v).1.WF ∧ Store.Le s (s.maybePut v).1 ∧ VCell.Valid (s.maybePut v).1 (s.maybePut v).2 := by
  cases v <;> first
    | exact ⟨hs, Store.Le.refl s, hv⟩
    | exact ⟨(put_wf hs hv).1, (put_wf hs hv).2.1, (put_wf hs hv).2.2.1⟩

theorem setCell_wf {s : Store} (hs : s.WF) {a : Nat} {c : VCell} (ha : a < s.cells.length)
    (hc : VCell.Valid s c) : ∃ s', s.setCell a c = .ok s' ∧ s'.WF ∧ Store.Le s s' ∧ Store.Le s' s := by
  refine ⟨{ s with cells := s.cells.set a c }, by simp [Store.setCell, ha], ?_, ?_, ?_⟩
  · have hle : Store.Le s { s with cells := s.cells.set a c } := ⟨by simp, Nat.le_refl _, Nat.le_refl _⟩
    constructor
    · intro x hx
      rcases List.mem_or_eq_of_mem_set hx with hx | rfl
      · exact (hs.cells x hx).mono hle
      · exact hc.mono hle
    · intro xs hxs x hx; exact (hs.vecs xs hxs x hx).mono hle
  · exact ⟨by simp, Nat.le_refl _, Nat.le_refl _⟩
  · exact ⟨by simp, Nat.le_refl _, Nat.le_refl _⟩

theorem newVec_wf {s : Store} (hs : s.WF) {xs : List VCell} (hx : ∀ x ∈ xs, VCell.Valid s x) :
    (s.newVec xs).1.WF ∧ Store.Le s (s.newVec xs).1 ∧ VCell.Valid (s.newVec xs).1 (s.newVec xs).2 := by
  have hle : Store.Le s (s.newVec xs).1 := ⟨Nat.le_refl _, by simp [Store.newVec], Nat.le_refl _⟩
  refine ⟨⟨fun c hc => (hs.cells c hc).mono hle, ?_⟩, hle, by simp [Store.newVec, VCell.Valid]⟩
  intro ys hys y hy
  simp only [Store.newVec, List.mem_append, List.mem_singleton] at hys
  rcases hys with hys | rfl
  · exact (hs.vecs ys hys y hy).mono hle
  · exact (hx y hy).mono hle

theorem newStr_wf {s : Store} (hs : s.WF) (t : Text) :
    (s.newStr t).1.WF ∧ Store.Le s (s.newStr t).1 ∧ VCell.Valid (s.newStr t).1 (s.newStr t).2 := by
  have hle : Store.Le s (s.newStr t).1 := ⟨Nat.le_refl _, Nat.le_refl _, by simp [Store.newStr]⟩
  exact ⟨⟨fun c hc => (hs.cells c hc).mono hle, fun ys hys y hy => (hs.vecs ys hys y hy).mono hle⟩,
    hle, by simp [Store.newStr, VCell.Valid]⟩

theorem vecSet_wf {s : Store} (hs : s.WF) {id : Nat} {xs : List VCell} (hid : id < s.vecs.length)
    (hx : ∀ x ∈ xs, VCell.Valid s x) : ∃ s', s.vecSet id xs = .ok s' ∧ s'.WF ∧ Store.Le s s' := by
  refine ⟨{ s with vecs := s.vecs.set id xs }, by simp [Store.vecSet, hid], ?_, ?_⟩
  · have hle : Store.Le s { s with vecs := s.vecs.set id xs } := ⟨Nat.le_refl _, by simp, Nat.le_refl _⟩
    constructor
    · intro x hx'; exact (hs.cells x hx').mono hle
    · intro ys hys y hy
      rcases List.mem_or_eq_of_mem_set hys with hys | rfl
      · exact (hs.vecs ys hys y hy).mono hle
      · exact (hx y hy).mono hle
  · exact ⟨Nat.le_refl _, by simp, Nat.le_refl _⟩

theorem strSet_wf {s : Store} (hs : s.WF) {id : Nat} (t : Text) (hid : id < s.strs.length) :
    ∃ s', s.strSet id t = .ok s' ∧ s'.WF ∧ Store.Le s s' := by
  refine ⟨{ s with strs := s.strs.set id t }, by simp [Store.strSet, hid], ?_, ?_⟩
  · have hle : Store.Le s { s with strs := s.strs.set id t } := ⟨Nat.le_refl _, Nat.le_refl _, by simp⟩
    exact ⟨fun x hx' => (hs.cells x hx').mono hle, fun ys hys y hy => (hs.vecs ys hys y hy).mono hle⟩
  · exact ⟨Nat.le_refl _, Nat.le_refl _, by simp⟩

theorem strGet_ok {s : Store} {id : Nat} (h : id < s.strs.length) : s.strGet id = .ok s.strs[id] := by
  simp [Store.strGet, ofOption, List.getElem?_eq_getElem h]

theorem vec_slots_valid {s : Store} (hs : s.WF) {id : Nat} (h : id < s.vecs.length) :
    ∀ x ∈ s.vecs[id], VCell.Valid s x := hs.vecs _ (List.getElem_mem h)

end Marwood.Store
