import Marwood.Lemmas.SimStepB
import Marwood.Lemmas.SimSym
/-!
# Heap simulation, opcode lemmas: RET, CONS (allocating), CALL of closures / lambdas / continuations, ENTER

`put` allocates on both sides and `φ` is extended at the two fresh addresses (`putV_sim`); interning an inline symbol
(Lemmas/SimSym.lean) needs the C18 invariant `SymOk` of both heaps. `BuiltinLaw` (the builtin branch of CALL) and
`ActivationLaw` (ENTER's environment construction) are hypotheses here, proved in Lemmas/SimBuiltin.lean and SimStepD.lean.
-/
namespace Marwood.Lemmas.Sim
open Marwood Marwood.Vm Marwood.Vm.Concrete
open Marwood.Heap (GcState)

/-- the saved `argc`, `ep`, `ip`, `bp` at `bp+1 … bp+4`, which RET and TCALL read, lie in the live stack -/
def FrameLive (s : St CHeap) : Prop := s.bp + 4 ≤ s.stack.sp

section
variable (ext : ExtOps) {φ : Inj} {s t : St CHeap}

theorem stepRet_rel (h : Sim φ s t) (fl : FrameLive s) : ORel (Sim φ) (stepRet s) (stepRet t) := by
  unfold stepRet
  rw [show t.bp = s.bp from h.bp.symm]
  unfold FrameLive at fl
  refine ((h.stack.get (i := s.bp + 1) (by omega)).bind (fun _ _ hv => asArgc_rel hv)).bind ?_
  intro n n' hn
  subst hn
  unfold usub
  split
  · rename_i hle
    simp only [bind]
    have hst : StackRelK φ s.stack.sp { s.stack with sp := s.bp - n } { t.stack with sp := s.bp - n } :=
      ⟨rfl, h.stack.2.1, h.stack.2.2⟩
    refine ((hst.get (i := s.bp + 2) (by omega)).bind (fun _ _ hv => asEp_rel hv)).bind ?_
    intro ep ep' hep
    refine ((hst.get (i := s.bp + 3) (by omega)).bind (fun _ _ hv => asIp_rel hv)).bind ?_
    rintro ⟨l, o⟩ ⟨l', o'⟩ ⟨hl, ho⟩
    refine ((hst.get (i := s.bp + 4) (by omega)).bind (fun _ _ hv => asBp_rel hv)).bind ?_
    intro b b' hb
    subst hb
    exact .ok ⟨h.heap, hst.weaken (by show s.bp - n ≤ s.stack.sp; omega), h.acc, hep, hl, ho, rfl⟩
  · exact .panic

theorem exec_ret (h : Sim φ s t) (fl : FrameLive s) :
    ORel (PostB φ) (exec (concreteOps ext) .ret s) (exec (concreteOps ext) .ret t) :=
  ((stepRet_rel h fl).imp fun _ _ r => .of_sim r).continues

theorem StackRelK.pop {K st st'} (h : StackRelK φ K st st') (hk : st.sp ≤ K) :
    ORel (fun a b => VRel φ a.1 b.1 ∧ StackRelK φ K a.2 b.2 ∧ a.2.sp + 1 = st.sp ∧
      st.cells[st.sp]? = some a.1 ∧ a.2.cells = st.cells) (st.pop) (st'.pop) := by
  unfold Stack.pop
  rw [← h.1]
  split
  · cases e1 : st.cells[st.sp]? with
    | none =>
      have : st'.cells[st.sp]? = none := by
        rw [List.getElem?_eq_none_iff] at e1 ⊢; rw [← h.2.1]; exact e1
      rw [this]; exact .err
    | some v =>
      have hl : st.sp < st'.cells.length := by
        rw [← h.2.1]; exact (List.getElem?_eq_some_iff.mp e1).1
      rw [List.getElem?_eq_getElem hl]
      refine .ok ⟨h.2.2 _ hk _ _ e1 (List.getElem?_eq_getElem hl), ⟨rfl, h.2.1, h.2.2⟩, ?_, rfl, rfl⟩
      show st.sp - 1 + 1 = st.sp
      omega
  · exact .err

theorem putV_sim {h h' : CHeap} (hs : HeapSim φ h h') (so : SymOk h) (so' : SymOk h') {v v'} (hv : VRel φ v v') :
    ∃ ψ, φ.le ψ ∧ HeapSim ψ (putV h v).1 (putV h' v').1 ∧ VRel ψ (putV h v).2 (putV h' v').2 ∧
      SymOk (putV h v).1 ∧ SymOk (putV h' v').1 := by
  unfold putV
  rw [← isPtr_rel hv]
  split
  · exact ⟨φ, φ.le_refl, hs, hv, so, so'⟩
  · exact putNew_sim hs so so' hv

/-- with the two results named, to rewrite into the machine's `let (h, a) := heap.put …` -/
theorem putV_simE {h h' : CHeap} (hs : HeapSim φ h h') (so : SymOk h) (so' : SymOk h') {v v'} (hv : VRel φ v v') :
    ∃ ψ h1 a h1' a', putV h v = (h1, a) ∧ putV h' v' = (h1', a') ∧ φ.le ψ ∧ HeapSim ψ h1 h1' ∧ VRel ψ a a' ∧
      SymOk h1 ∧ SymOk h1' := by
  obtain ⟨ψ, le, hh, hr, s1, s1'⟩ := putV_sim hs so so' hv
  exact ⟨ψ, _, _, _, _, rfl, rfl, le, hh, hr, s1, s1'⟩

theorem immediate_rel {v v'} (h : VRel φ v v') : immediate v = immediate v' := by
  cases h <;> rfl

theorem maybePutV_sim {h h' : CHeap} (hs : HeapSim φ h h') (so : SymOk h) (so' : SymOk h') {v v'}
    (hv : VRel φ v v') :
    ∃ ψ, φ.le ψ ∧ HeapSim ψ (maybePutV h v).1 (maybePutV h' v').1 ∧ VRel ψ (maybePutV h v).2 (maybePutV h' v').2 ∧
      SymOk (maybePutV h v).1 ∧ SymOk (maybePutV h' v').1 := by
  unfold maybePutV
  rw [← isPtr_rel hv, ← immediate_rel hv]
  split
  · exact ⟨φ, φ.le_refl, hs, hv, so, so'⟩
  · exact putNew_sim hs so so' hv

theorem exec_cons (h : Sim φ s t) (so : SymOk s.heap) (so' : SymOk t.heap) :
    ORel (PostB φ) (exec (concreteOps ext) .cons s) (exec (concreteOps ext) .cons t) := by
  unfold exec
  refine (h.stack.pop (Nat.le_refl _)).bind ?_
  rintro ⟨d, st1⟩ ⟨d', st1'⟩ ⟨hd, hst1, hsp1, _, _⟩
  simp only at hd hst1 hsp1 ⊢
  simp only [concreteOps]
  obtain ⟨ψ1, h1, d1, h1', d1', e, e', le1, hh1, hd1, so1, so1'⟩ :=
    putV_simE h.heap so so' hd
  rw [e, e']
  dsimp only
  refine (hst1.pop (by omega)).bind ?_
  rintro ⟨a, st2⟩ ⟨a', st2'⟩ ⟨ha, hst2, hsp2, _, _⟩
  simp only at ha hst2 hsp2 ⊢
  obtain ⟨ψ2, h2, a2, h2', a2', e, e', le2, hh2, ha2, so2, so2'⟩ :=
    putV_simE hh1 so1 so1' (ha.mono le1)
  rw [e, e']
  dsimp only
  refine (asPtr_rel ha2).bind ?_
  intro pa pa' hpa
  refine (asPtr_rel (hd1.mono le2)).bind ?_
  intro pd pd' hpd
  obtain ⟨ψ3, h3, p3, h3', p3', e, e', le3, hh3, hp3, _, _⟩ :=
    putV_simE hh2 so2 so2' (v := .pair pa pd) (v' := .pair pa' pd') (.pair hpa hpd)
  rw [e, e']
  dsimp only
  have le : φ.le ψ3 := Inj.le_trans le1 (Inj.le_trans le2 le3)
  refine .ok ⟨rfl, ψ3, le, hh3, ?_, hp3, h.ep.mono le, h.ipL.mono le, h.ipO, h.bp⟩
  exact (hst2.mono le).weaken (by show st2.sp ≤ s.stack.sp; omega)

end

end Marwood.Lemmas.Sim

namespace Marwood.Lemmas.Sim
open Marwood Marwood.Vm Marwood.Vm.Concrete

section
variable (ext : ExtOps) {φ : Inj} {s t : St CHeap}

/-- once for all 142 builtin names: 138 generic procedures, `apply`, `eval`, `call/cc` (two names) -/
def BuiltinLaw : Prop :=
  ∀ (φ : Inj) (s t : St CHeap) (id : Nat), Sim φ s t → SizeOk s.heap → SizeOk t.heap → SymOk s.heap → SymOk t.heap →
    ORel (Post φ) (runBuiltin (concreteOps ext) id s) (runBuiltin (concreteOps ext) id t)

theorem restore_rel {K st st'} (h : StackRelK φ K st st') {c c' : Cont} (hc : ContRel φ c c') :
    ORel (fun a b => StackRel φ a b) (st.restore c.stack) (st'.restore c'.stack) := by
  unfold Stack.restore
  rw [← h.2.1, ← hc.stack.2.1]
  split
  · refine .ok ⟨hc.stack.1, by simp [h.2.1, hc.stack.2.1], ?_⟩
    intro i hi v v' h1 h2
    simp only at hi h1 h2
    have hfull := hc.full
    rw [List.getElem?_append_left (by omega)] at h1
    rw [List.getElem?_append_left (by rw [← hc.stack.2.1]; omega)] at h2
    exact hc.stack.2.2 i hi v v' h1 h2
  · exact .panic

theorem invokeCont_rel (h : Sim φ s t) {c c' : Cont} (hc : ContRel φ c c') :
    ORel (Sim φ) (invokeCont s c) (invokeCont t c') := by
  unfold invokeCont
  refine (h.stack.pop (Nat.le_refl _)).bind ?_
  rintro ⟨a, st1⟩ ⟨a', st1'⟩ ⟨ha, hst1, hsp1, _, _⟩
  simp only at ha hst1 hsp1 ⊢
  refine (asArgc_rel ha).bind ?_
  intro n n' hn
  subst hn
  split
  · exact .err
  · refine (hst1.pop (by omega)).bind ?_
    rintro ⟨r, st2⟩ ⟨r', st2'⟩ ⟨hr, hst2, _, _, _⟩
    simp only at hr hst2 ⊢
    unfold restoreCont
    simp only
    refine ORel.bind (R := Sim φ) ?_ ?_
    · refine (restore_rel hst2 hc).bind ?_
      intro st3 st3' hst3
      exact .ok ⟨h.heap, hst3, .atom rfl, hc.ep, hc.ipL, hc.ipO, hc.bp⟩
    · intro s3 t3 h3
      exact .ok (h3.setAcc hr)

theorem Sim.enterFrame (h : Sim φ s t) {l l'} (hl : AddrRel φ l l') :
    Sim φ { (s.push (.envPtr s.ep)).push (.instrPtr s.ipL s.ipO) with ipL := l, ipO := 0 }
      { (t.push (.envPtr t.ep)).push (.instrPtr t.ipL t.ipO) with ipL := l', ipO := 0 } := by
  have h1 := h.push (.envPtr h.ep)
  have h2 := h1.push (v := .instrPtr s.ipL s.ipO) (v' := .instrPtr t.ipL t.ipO) (by rw [h.ipO]; exact .instrPtr h.ipL)
  exact h2.setIp hl 0

theorem stepCall_rel (bl : BuiltinLaw ext) (h : Sim φ s t) (ok : SizeOk s.heap) (ok' : SizeOk t.heap)
    (so : SymOk s.heap) (so' : SymOk t.heap) :
    ORel (Post φ) (stepCall (concreteOps ext) s) (stepCall (concreteOps ext) t) := by
  unfold stepCall
  have hcal := callee_rel h.heap ok ok' h.acc
  simp only [concreteOps] at hcal ⊢
  generalize callee s.heap s.acc = k at hcal
  generalize callee t.heap t.acc = k' at hcal
  cases hcal with
  | closure hl _ => exact .ok (.of_sim (h.enterFrame hl))
  | lambda =>
    refine (asPtr_rel h.acc).bind ?_
    intro l l' hl
    exact .ok (.of_sim (h.enterFrame hl))
  | builtin => exact bl φ s t _ h ok ok' so so'
  | continuation hc => exact (invokeCont_rel h hc).imp fun _ _ r => .of_sim r
  | other => exact .err

theorem exec_call (bl : BuiltinLaw ext) (h : Sim φ s t) (ok : SizeOk s.heap) (ok' : SizeOk t.heap)
    (so : SymOk s.heap) (so' : SymOk t.heap) :
    ORel (PostB φ) (exec (concreteOps ext) .callAcc s) (exec (concreteOps ext) .callAcc t) :=
  (stepCall_rel ext bl h ok ok' so so').continues

/-- `build_lexical_environment` + `put`; `bp + 4 = st.sp` is what ENTER has just set up (`push(bp); bp := sp - 4`) -/
def ActivationLaw : Prop :=
  ∀ (φ : Inj) (h h' : CHeap) (lam lam' env env' bp : Nat) (st st' : Stack),
    HeapSim φ h h' → SizeOk h → SizeOk h' → AddrRel φ lam lam' → AddrRel φ env env' → StackRel φ st st' →
    bp + 4 = st.sp →
    ORel (fun a b => ∃ ψ, φ.le ψ ∧ HeapSim ψ a.1 b.1 ∧ ψ a.2 = some b.2)
      (makeActivation h lam env bp st) (makeActivation h' lam' env' bp st')

theorem stepEnter_rel (al : ActivationLaw) (h : Sim φ s t) (ok : SizeOk s.heap) (ok' : SizeOk t.heap) :
    ORel (Post φ) (stepEnter (concreteOps ext) s) (stepEnter (concreteOps ext) t) := by
  unfold stepEnter
  extract_lets st jp st' jp'
  have hcal := callee_rel h.heap ok ok' h.acc
  -- after the callee has been decoded, for related `(lam, cenv)`
  have tail : ∀ x y : Nat × Option Nat, AddrRel φ x.1 y.1 ∧ OptRel (AddrRel φ) x.2 y.2 →
      ORel (Post φ) (jp x) (jp' y) := by
    rintro ⟨lam, cenv⟩ ⟨lam', cenv'⟩ ⟨hl, hce⟩
    simp only [jp, jp', st, st', concreteOps] at hl hce ⊢
    rcases lambdaAt_rel h.heap ok ok' hl with ⟨e1, e2⟩ | ⟨l, l', e1, e2, _, hargs, _⟩
    · rw [e1, e2]; exact .err
    · rw [e1, e2]
      simp only [Option.map_some]
      refine (h.stack.getOffset (Nat.le_refl _) (by omega)).bind ?_
      intro a a' ha
      refine (asArgc_rel ha).bind ?_
      intro n n' hn
      subst hn
      rw [← hargs.length_eq]
      split
      · exact .err
      · have hst : StackRel φ (s.stack.push (.basePtr s.bp)) (t.stack.push (.basePtr t.bp)) :=
          h.stack.push (by rw [h.bp]; exact .atom rfl)
        have hsp : (t.stack.push (.basePtr t.bp)).sp = (s.stack.push (.basePtr s.bp)).sp := hst.1.symm
        rw [hsp]
        unfold usub
        split
        · rename_i hle
          simp only [bind]
          cases hce with
          | none => exact .ok ⟨φ, φ.le_refl, h.heap, hst, h.acc, h.ep, h.ipL, h.ipO, rfl⟩
          | some henv =>
            simp only
            refine (al φ _ _ _ _ _ _ _ _ _ h.heap ok ok' hl henv hst (by omega)).bind ?_
            rintro ⟨hp, e⟩ ⟨hp', e'⟩ ⟨ψ, hle, hh, he⟩
            exact .ok ⟨ψ, hle, hh, StackRelK.mono hle hst, h.acc.mono hle, .inl he, h.ipL.mono hle, h.ipO, rfl⟩
        · exact .panic
  simp only [concreteOps] at hcal ⊢
  generalize callee s.heap s.acc = k at hcal
  generalize callee t.heap t.acc = k' at hcal
  cases hcal with
  | closure hl he => exact ORel.bind (.ok ⟨hl, .some he⟩) tail
  | lambda => exact (asPtr_rel h.acc).bind fun _ _ r => ORel.bind (.ok ⟨r, .none⟩) tail
  | builtin => exact .err
  | continuation _ => exact .err
  | other => exact .err

theorem exec_enter (al : ActivationLaw) (h : Sim φ s t) (ok : SizeOk s.heap) (ok' : SizeOk t.heap) :
    ORel (PostB φ) (exec (concreteOps ext) .enter s) (exec (concreteOps ext) .enter t) :=
  (stepEnter_rel ext al h ok ok').continues

end

end Marwood.Lemmas.Sim
