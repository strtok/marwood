import Marwood.Lemmas.EvalKAgreeForms
/-! # `Spec.EvalK` without `call/cc` is `Spec.Eval` — quasiquote templates -/
namespace Marwood.Lemmas.EvalKAgree
open Marwood Marwood.Spec.Eval Marwood.Spec.EvalK

variable {r : Rec}

/-- the statement of `sim_qq` for one template -/
def SimQq (r : Rec) (ρ : Env) (ks : Array Kont) (t : Datum) : Prop :=
  ∀ (depth : Nat) (κ : Kont) (σ : St), Sim (qqGo ρ t depth κ σ ks) (qq r ρ t depth σ) κ ks

theorem sim_qq_wrap (ρ : Env) (ks : Array Kont) (x : Datum) (hx : SimQq r ρ ks x)
    (s : Text) (depth : Nat) (κ : Kont) (σ : St) :
    Sim (qqGo ρ x depth (.qqWrapK s :: κ) σ ks)
      ((qq r ρ x depth >>= fun x' => allocList [.sym s, x']) σ) κ ks :=
  Sim.bind (hx depth _ σ) fun v σ' _ => Sim.ret (sim_withM_ret (allocList [.sym s, v]) σ' κ ks)

/-- the elements of a quasiquoted vector: a value `v` arrives at frame `qqVecK` -/
theorem sim_qq_vec (ρ : Env) (ks : Array Kont) (depth : Nat) (n : Nat)
    (ih : ∀ t, sizeOf t < n → SimQq r ρ ks t) :
    ∀ (rest : Datum), sizeOf rest < n → ∀ (done : List Val) (v : Val) (κ : Kont) (σ : St),
      Sim (retGo (.qqVecK ρ done rest depth) v κ σ ks)
        ((qqElems r ρ rest depth >>= fun xs => allocVec ((v :: done).reverse ++ xs)) σ) κ ks := by
  intro rest
  induction rest with
  | pair a d _ ihd =>
    intro hsz done v κ σ
    have ha : sizeOf a < n := by simp at hsz; omega
    have hd : sizeOf d < n := by simp at hsz; omega
    show Sim (qqGo ρ a depth (.qqVecK ρ (v :: done) d depth :: κ) σ ks) _ κ ks
    unfold qqElems
    rw [M.bind_assoc]
    refine Sim.bind (ih a ha depth _ σ) fun a' σ' _ => Sim.ret ?_
    have := ihd hd (v :: done) a' κ σ'
    simp only [M.bind_assoc, M.pure_bind]
    simpa using this
  | _ =>
    intro _ done v κ σ
    unfold qqElems
    rw [M.pure_bind, List.append_nil]
    exact sim_withM_ret (allocVec (v :: done).reverse) σ κ ks

theorem sim_qq_aux (hr : SimRec r) (ρ : Env) (ks : Array Kont) :
    ∀ (n : Nat) (t : Datum), sizeOf t < n → SimQq r ρ ks t := by
  intro n
  induction n with
  | zero => intro t ht; omega
  | succ n ih =>
    intro t ht depth κ σ
    unfold qqGo
    split
    · -- `(s x)`
      rename_i s x
      have hx : SimQq r ρ ks x := ih x (by simp at ht; omega)
      unfold qq
      split
      · split
        · exact hr.eval _ _ _ _ _
        · exact sim_qq_wrap ρ ks x hx _ _ _ _
      · split
        · exact sim_qq_wrap ρ ks x hx _ _ _ _
        · exact sim_qq_wrap ρ ks x hx _ _ _ _
    · -- a pair
      rename_i a d hns
      rw [qq.eq_3 _ _ _ _ _ hns]
      refine Sim.bind (ih a (by simp at ht; omega) depth _ σ) fun a' σ' _ => Sim.ret ?_
      show Sim (qqGo ρ d _ (.qqCdrK a' :: κ) σ' ks) _ κ ks
      exact Sim.bind (ih d (by simp at ht; omega) _ _ σ') fun d' σ'' _ =>
        Sim.ret (sim_withM_ret (cons a' d') σ'' κ ks)
    · -- a non-empty vector
      rename_i a d
      rw [qq.eq_4, qqElems.eq_1]
      simp only [M.bind_assoc, M.pure_bind]
      refine Sim.bind (ih a (by simp at ht; omega) depth _ σ) fun a' σ' _ => Sim.ret ?_
      have := sim_qq_vec ρ ks depth n ih d (by simp at ht; omega) [] a' κ σ'
      simpa using this
    · -- an empty vector
      rename_i e hne
      rw [qq.eq_4, qqElems.eq_2 _ _ _ _ hne, M.pure_bind]
      exact sim_withM_ret _ σ κ ks
    · -- anything else
      rename_i h1 h2 _ h4
      rw [qq.eq_5 _ _ _ _ h1 h2 h4]
      exact sim_withM_ret _ σ κ ks

theorem sim_qq (hr : SimRec r) (ρ : Env) (t : Datum) (depth : Nat) (σ : St) (κ : Kont) (ks : Array Kont) :
    Sim (qqGo ρ t depth κ σ ks) (qq r ρ t depth σ) κ ks :=
  sim_qq_aux hr ρ ks (sizeOf t + 1) t (Nat.lt_succ_self _) depth κ σ

end Marwood.Lemmas.EvalKAgree
