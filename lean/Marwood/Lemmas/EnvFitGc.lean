import Marwood.Lemmas.EnvFitStack
/-!
# The slot clause of T06.6 as an invariant: the collector, the epilogues, `prepare_eval`, the executable check

The collector moves nothing: a cell it keeps has its content, a cell it frees becomes `Undefined`, so every `Fit` claim
survives (it is conditional on both cells being there); the code object under `ip.0` and the callee in `acc` are roots.
`stateFB_sound`: the executable clauses of Vm/EnvInvCheck.lean imply `FInv`.
-/
namespace Marwood.Lemmas.Good
open Marwood Marwood.Vm Marwood.Vm.Verify Marwood.Vm.Concrete Marwood.Lemmas.Sim
open Marwood.Heap (GcState)
open Marwood.Lemmas.GcSafety Marwood.Lemmas.GcMark

def Shrinks (h H : CHeap) : Prop :=
  ∀ (i : Nat) (c : CCell), H.cells[i]? = some c → c ≠ CCell.val .undefined → h.cells[i]? = some c

theorem Shrinks.lam {h H : CHeap} (x : Shrinks h H) {l : Nat} {lam : CLambda} (hl : lambdaAt H l = some lam) :
    lambdaAt h l = some lam :=
  lambdaAt_iff.mpr (x l _ (lambdaAt_iff.mp hl) (fun hh => by cases hh))

theorem Shrinks.env {h H : CHeap} (x : Shrinks h H) {e : Nat} {ss : List VCell} (he : envAt H e = some ss) :
    envAt h e = some ss :=
  envAt_iff.mpr (x e _ (envAt_cell he) (fun hh => by cases hh))

theorem Shrinks.fit {h H : CHeap} (x : Shrinks h H) {e l : Nat} (f : Fit h e l) : Fit H e l :=
  fun lam ss hl he => f lam ss (x.lam hl) (x.env he)

theorem Shrinks.pairs {h H : CHeap} (x : Shrinks h H) {cells : List VCell} {sp : Nat} (p : PairsOk h cells sp) :
    PairsOk H cells sp := fun i e l o hi he hl => x.fit (p i e l o hi he hl)

theorem Shrinks.cellF {h H : CHeap} (x : Shrinks h H) {c : CCell} (f : CellF h c) : CellF H c := by
  cases c with
  | val v => intro l e he; exact x.fit (f l e he)
  | lambda lam =>
    refine ⟨?_, f.2⟩
    intro j v hs hv p lam' hp hl
    exact f.1 j v hs hv p lam' hp (x.lam hl)
  | cont k => exact ⟨x.pairs f.1, x.fit f.2⟩
  | lexEnv _ => trivial
  | vector _ => trivial

theorem Shrinks.hf {h H : CHeap} (x : Shrinks h H) (f : HF h) : HF H := by
  intro i c hc
  by_cases hu : c = CCell.val .undefined
  · subst hu; intro l e he; cases he
  · exact x.cellF (f i c (x i c hc hu))

theorem Shrinks.inPre {h H : CHeap} (x : Shrinks h H) {l o : Nat} (p : InPre H l o) : InPre h l o := by
  obtain ⟨lam, t, h1, h2, h3, h4⟩ := p
  exact ⟨lam, t, x.lam h1, h2, h3, h4⟩

theorem liftGc_shrinks (h : CHeap) (h' : Heap.Heap) : Shrinks h (liftGc h h') :=
  fun _ _ hc hu => (liftGc_code hc hu).1

theorem finv_gc (force : Bool) {s : St CHeap} (ci : CInvG IsValue s.heap) (f : FInv s) :
    FInv (cgc force s) := by
  rcases cgc_cases force s with e | ⟨h', hrun, e⟩
  · rw [e]; exact f
  · have co := collected_of_run ci hrun
    have sh : Shrinks s.heap (liftGc s.heap h') := liftGc_shrinks s.heap h'
    -- a root keeps its content; used for the code object under `ip.0` and for the callee in `acc`
    have hroot : ∀ p, p ∈ (rootsOf s).refs true → p < s.heap.cells.size →
        (liftGc s.heap h').cells[p]? = s.heap.cells[p]? := by
      intro p hm hlt
      have hl : p < (toHeap s.heap).gc.size := by
        show p < s.heap.gc.size
        rw [ci.sizes]; exact hlt
      exact liftGc_reach ci co (Marwood.Spec.Reach.root hm hl)
    have hip : InPre s.heap s.ipL s.ipO → InPre (liftGc s.heap h') s.ipL s.ipO := by
      rintro ⟨lam, t, h1, h2, h3, h4⟩
      have hc := lambdaAt_iff.mp h1
      have := hroot s.ipL (by simp [Heap.Roots.refs, rootsOf]) (lt_of_get_some hc)
      exact ⟨lam, t, lambdaAt_iff.mpr (by rw [this]; exact hc), h2, h3, h4⟩
    rw [e]
    refine ⟨sh.hf f.hf, sh.pairs f.stk, ?_, ?_⟩
    · intro hp
      rcases f.pre (sh.inPre hp) with hu | hc
      · exact Or.inl hu
      refine Or.inr ?_
      show calleeLam (liftGc s.heap h') s.acc = some s.ipL
      unfold calleeLam callee at hc ⊢
      cases hacc : s.acc with
      | ptr p =>
        rw [hacc] at hc
        simp only at hc ⊢
        cases hcell : s.heap.cells[p]? with
        | none => rw [hcell] at hc; cases hc
        | some c =>
          have hm : p ∈ (rootsOf s).refs true := mem_refs_acc (by simp [rootsOf, hacc, eraseV, Heap.vrefs])
          rw [hroot p hm (lt_of_get_some hcell)]
          exact hc
      | closure l e' => rw [hacc] at hc; exact hc
      | builtin id => rw [hacc] at hc; exact hc
      | _ => rw [hacc] at hc; cases hc
    · intro hn
      exact sh.fit (f.fit (fun hp => hn (hip hp)))

theorem pairsOk_replicate (h : CHeap) (n sp : Nat) : PairsOk h (List.replicate n VCell.undefined) sp := by
  intro i e l o _ he _
  rw [List.getElem?_replicate] at he
  split at he <;> cases he

theorem finv_onDone {s : St CHeap} (f : FInv s) : FInv (onDone s) :=
  ⟨f.hf, pairsOk_replicate _ _ _, f.pre, f.fit⟩

theorem envAt_sentinel {h : CHeap} (g : HG h) {e : Nat} (he : 2 ^ 63 ≤ e) : envAt h e = none := by
  cases hx : envAt h e with
  | none => rfl
  | some ss =>
    have := lt_of_get_some (envAt_cell hx)
    have := hg_bound g
    omega

/-- `ep` is the sentinel, `acc` is `Undefined`; `ip` stays at the failing instruction, which may be a prologue instruction
    (ENTER's arity error) -/
theorem finv_onError {s : St CHeap} (g : HG s.heap) (f : FInv s) : FInv (onError s) := by
  refine ⟨f.hf, pairsOk_replicate _ _ _, fun _ => Or.inl rfl, fun _ => ?_⟩
  show Fit s.heap usizeMax s.ipL
  exact Fit.of_no_env (envAt_sentinel g (by unfold usizeMax; omega))

/-- **Assumed of the unmodelled compiler** inside `prepare_eval`: between two heaps satisfying `HG` it keeps `HF`, and the
    entry lambda it returns has an empty environment map and is entry code -/
structure CompFit (comp : CHeap → VCell → Outcome (CHeap × VCell)) : Prop where
  hf : ∀ (h : CHeap) (d : VCell) (h' : CHeap) (e : Nat), HG h → HG h' → HF h → addrFree d = true →
    comp h d = .ok (h', .ptr e) → HF h' ∧ (∀ lam, lambdaAt h' e = some lam → lam.envmap = []) ∧ ¬ InPre h' e 0

theorem finv_prepare {comp : CHeap → VCell → Outcome (CHeap × VCell)} (cf : CompFit comp) {s s' : St CHeap} {d : VCell}
    (g : HG s.heap) (g' : HG s'.heap) (f : FInv s) (hst : ∀ c ∈ s.stack.cells, c = VCell.undefined)
    (hd : addrFree d = true) (hp : prepareEval comp s d = .ok s') : FInv s' := by
  obtain ⟨h', e, hc, rfl⟩ := prepareEval_inv hp
  obtain ⟨k1, k2, k3⟩ := cf.hf _ _ _ _ g g' f.hf hd hc
  refine ⟨k1, ?_, fun hp => absurd hp k3, fun _ => Fit.of_empty k2⟩
  intro i e' l o _ he _
  have := hst _ (List.mem_of_getElem? he)
  cases this

theorem finv_prepare_entry {s : St CHeap} (f : FInv s) (entry : Nat)
    (he : ∀ lam, lambdaAt s.heap entry = some lam → lam.envmap = []) (hnp : ¬ InPre s.heap entry 0) :
    FInv (prepare s entry) :=
  ⟨f.hf, f.stk, fun hp => absurd hp hnp, fun _ => Fit.of_empty he⟩

theorem fitB_sound {h : CHeap} {e l : Nat} (hb : fitB h e l = true) : Fit h e l := by
  intro lam ss hl he
  unfold fitB at hb
  rw [hl, he] at hb
  simpa using hb

theorem pairsEB_sound {h : CHeap} {cells : List VCell} {sp : Nat} (hb : pairsEB h cells sp = true) :
    PairsOk h cells sp := by
  intro i e l o hi he hl
  unfold pairsEB at hb
  rw [List.all_eq_true] at hb
  have := hb i (List.mem_range.mpr (by omega))
  rw [he, hl] at this
  exact fitB_sound this

theorem childFitB_sound {h : CHeap} {n : Nat} {v : VCell} (hb : childFitB h n v = true) : ChildFit h n v := by
  intro p lam' hv hl x hx k hk
  subst hv
  unfold childFitB at hb
  simp only [hl] at hb
  unfold iofEnvFitB at hb
  rw [List.all_eq_true] at hb
  have := hb x hx
  rw [hk] at this
  simpa using this

theorem sitesFB_sound {h : CHeap} {l : CLambda} (hb : sitesFB h l = true) : CodeF h l := by
  unfold sitesFB at hb
  rw [List.all_eq_true] at hb
  have hlt : ∀ j (v : VCell), l.bc[j + 1]? = some v → j < l.bc.length := by
    intro j v hv
    have := List.getElem?_eq_some_iff.mp hv
    obtain ⟨hlt, _⟩ := this
    omega
  refine ⟨?_, ?_⟩
  · intro j v hs hv
    have := hb j (List.mem_range.mpr (hlt j v hv))
    simp only [Bool.and_eq_true, Bool.or_eq_true, Bool.not_eq_true'] at this
    rcases this.1 with h1 | h1
    · rw [hs] at h1; cases h1
    · rw [hv] at h1; exact childFitB_sound h1
  · intro j v hop hv w o he
    subst he
    have := hb j (List.mem_range.mpr (hlt j _ hv))
    simp only [Bool.and_eq_true] at this
    have h2 := this.2
    rw [hop, hv] at h2
    simp [notIpB] at h2

theorem cellFB_sound {h : CHeap} {c : CCell} (hb : cellFB h c = true) : CellF h c := by
  cases c with
  | val v =>
    intro l e he
    subst he
    exact fitB_sound hb
  | lambda lam => exact sitesFB_sound hb
  | cont k =>
    simp only [cellFB, Bool.and_eq_true] at hb
    exact ⟨pairsEB_sound hb.1, fitB_sound hb.2⟩
  | lexEnv _ => trivial
  | vector _ => trivial

theorem heapFB_sound {h : CHeap} (hb : heapFB h = true) : HF h := by
  intro i c hc
  unfold heapFB at hb
  rw [Array.all_eq_true] at hb
  have hlt : i < h.cells.size := lt_of_get_some hc
  have := hb i hlt
  rw [Array.getElem?_eq_getElem hlt] at hc
  cases hc
  exact cellFB_sound this

theorem inPreB_iff {h : CHeap} {l o : Nat} : inPreB h l o = true ↔ InPre h l o := by
  unfold inPreB InPre
  constructor
  · intro hb
    cases hl : lambdaAt h l with
    | none => rw [hl] at hb; cases hb
    | some lam =>
      rw [hl] at hb
      simp only at hb
      cases ht : verifyLam lam.bc with
      | none => rw [ht] at hb; cases hb
      | some t =>
        rw [ht] at hb
        simp only [Bool.and_eq_true, Bool.not_eq_true', decide_eq_true_eq] at hb
        exact ⟨lam, t, rfl, ht, hb.1, hb.2⟩
  · rintro ⟨lam, t, h1, h2, h3, h4⟩
    rw [h1]
    simp only [h2, h3, h4]
    simp

theorem calleeLamB_eq (h : CHeap) (a : VCell) : calleeLamB h a = calleeLam h a := rfl

theorem stateFB_sound {s : St CHeap} (hb : stateFB s = true) : FInv s := by
  unfold stateFB at hb
  simp only [Bool.and_eq_true] at hb
  obtain ⟨⟨h1, h2⟩, h3⟩ := hb
  refine ⟨heapFB_sound h1, pairsEB_sound h2, ?_, ?_⟩
  · intro hp
    unfold curFitB at h3
    rw [inPreB_iff.mpr hp] at h3
    simp only [if_true, Bool.or_eq_true, decide_eq_true_eq] at h3
    rw [← calleeLamB_eq]; exact h3
  · intro hn
    unfold curFitB at h3
    have : inPreB s.heap s.ipL s.ipO = false := by
      cases hx : inPreB s.heap s.ipL s.ipO with
      | false => rfl
      | true => exact absurd (inPreB_iff.mp hx) hn
    rw [this] at h3
    simp only [Bool.false_eq_true, if_false] at h3
    exact fitB_sound h3

end Marwood.Lemmas.Good
