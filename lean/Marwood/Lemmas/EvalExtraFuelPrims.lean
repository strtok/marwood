import Marwood.Lemmas.EvalExtraFuel
/-!
# The simulation: the first-order primitives that use store-size fuel, from states that are `NoCut`
-/
namespace Marwood.Spec.Eval.Extra
open Marwood Marwood.Spec.Eval Marwood.Spec.Eval.ExtraJ

variable {f : LMap} {G : List Text} {E : EnvCorr f G} {GL : GlCorr f G E} {J : Junk} {δ : Side} {st st' : St}

theorem listOfVal_fuel_rel (r : StRelG f G E GL J st st') {v v' : Val} (hv : VRelG f G E v v')
    (hc : NoCut st st' (listCut (st.store.size + 1) st.store v)) :
    OVsRelG f G E (listOfVal (st.store.size + 1) st.store v) (listOfVal (st'.store.size + 1) st'.store v') := by
  have h1 := listOfVal_relG r (st'.store.size + 1) hv
  rw [r.fuel_cases (fun m => listOfVal m st.store v) (fun h k => listOfVal_stable _ _ k _ h) hc] at h1
  exact h1

theorem simGAt_length (r : StRelG f G E GL J st st') {v v' : Val} (hv : VRelG f G E v v')
    (hc : NoCut st st' (listCut (st.store.size + 1) st.store v)) :
    ResRelD (StRelG f G E GL J) δ (VRelG f G E) (primPair .length [v] st) (primPair .length [v'] st') := by
  simp only [primPair]
  refine ResRelD.bind (simGAt_getList r hv hc) (fun xs xs' s s' _ hx rs => ?_)
  rw [hx.length_eq]
  exact SimG.pure _ _ (.int _) s s' rs

theorem simGAt_reverse (r : StRelG f G E GL J st st') {v v' : Val} (hv : VRelG f G E v v')
    (hc : NoCut st st' (listCut (st.store.size + 1) st.store v)) :
    ResRelD (StRelG f G E GL J) δ (VRelG f G E) (primPair .reverse [v] st) (primPair .reverse [v'] st') := by
  simp only [primPair]
  refine ResRelD.bind (simGAt_getList r hv hc) (fun xs xs' s s' _ hx rs => ?_)
  exact simG_allocList hx.reverse s s' rs

theorem simGAt_listToVector (r : StRelG f G E GL J st st') {v v' : Val} (hv : VRelG f G E v v')
    (hc : NoCut st st' (listCut (st.store.size + 1) st.store v)) :
    ResRelD (StRelG f G E GL J) δ (VRelG f G E) (primVec .listToVector [v] st) (primVec .listToVector [v'] st') := by
  simp only [primVec]
  refine ResRelD.bind (simGAt_getList r hv hc) (fun xs xs' s s' _ hx rs => ?_)
  exact simG_allocVec hx s s' rs

theorem simGAt_append2 (r : StRelG f G E GL J st st') {a a' b b' : Val} (ha : VRelG f G E a a') (hb : VRelG f G E b b')
    (hc : NoCut st st' (listCut (st.store.size + 1) st.store a)) :
    ResRelD (StRelG f G E GL J) δ (VRelG f G E) (primPair .append [a, b] st) (primPair .append [a', b'] st') := by
  simp only [primPair]
  refine ResRelD.bind (simGAt_getList r ha hc) (fun xs xs' s s' _ hx rs => ?_)
  exact simG_allocListTail hx hb s s' rs

theorem simGAt_append3 (r : StRelG f G E GL J st st') {a a' b b' c c' : Val} (ha : VRelG f G E a a') (hb : VRelG f G E b b') (hcc : VRelG f G E c c')
    (hc : NoCut st st' (listCut (st.store.size + 1) st.store a)) (hc2 : NoCut st st' (listCut (st.store.size + 1) st.store b)) :
    ResRelD (StRelG f G E GL J) δ (VRelG f G E) (primPair .append [a, b, c] st) (primPair .append [a', b', c'] st') := by
  simp only [primPair]
  refine ResRelD.bind (simGAt_getList r ha hc) (fun xs xs' s s' hm hx rs => ?_)
  obtain ⟨rfl, _⟩ := getList_ok_state hm
  refine ResRelD.bind (simGAt_getList rs hb (hc2.same r rs)) (fun ys ys' s2 s2' _ hy rs2 => ?_)
  exact simG_allocListTail (hx.append hy) hcc s2 s2' rs2

theorem simGAt_listP (r : StRelG f G E GL J st st') {v v' : Val} (hv : VRelG f G E v v')
    (hc : NoCut st st' (listCut (st.store.size + 1) st.store v)) :
    ResRelD (StRelG f G E GL J) δ (VRelG f G E) (primPair .listP [v] st) (primPair .listP [v'] st') := by
  show ResRelD (StRelG f G E GL J) δ (VRelG f G E) (Res.ok (Val.bool (listOfVal (st.store.size + 1) st.store v).isSome) st)
    (Res.ok (Val.bool (listOfVal (st'.store.size + 1) st'.store v').isSome) st')
  have h := listOfVal_fuel_rel r hv hc
  revert h
  generalize listOfVal (st.store.size + 1) st.store v = o
  generalize listOfVal (st'.store.size + 1) st'.store v' = o'
  intro h
  cases h with
  | none => exact ⟨.bool _, r⟩
  | some _ => exact ⟨.bool _, r⟩

theorem simGAt_mem (hf : Inj f) (r : StRelG f G E GL J st st') (p : Prim) (assoc : Bool)
    (hp : ∀ (x l : Val) (s : St), primPair p [x, l] s = memWalk assoc x (s.store.size + 1) l s)
    {x x' l l' : Val} (hx : VRelG f G E x x') (hl : VRelG f G E l l')
    (hc : NoCut st st' (spineCut (st.store.size + 1) st.store l)) :
    ResRelD (StRelG f G E GL J) δ (VRelG f G E) (primPair p [x, l] st) (primPair p [x', l'] st') := by
  rw [hp, hp]
  exact simGAt_memWalk hf assoc r hx hl hc


theorem primPair_memv (x l : Val) (s : St) : primPair .memv [x, l] s = memWalk false x (s.store.size + 1) l s := rfl
theorem primPair_memq (x l : Val) (s : St) : primPair .memq [x, l] s = memWalk false x (s.store.size + 1) l s := rfl
theorem primPair_assv (x l : Val) (s : St) : primPair .assv [x, l] s = memWalk true x (s.store.size + 1) l s := rfl
theorem primPair_assq (x l : Val) (s : St) : primPair .assq [x, l] s = memWalk true x (s.store.size + 1) l s := rfl

theorem simGAt_output (w : Bool) (r : StRelG f G E GL J st st') {v v' : Val} (hv : VRelG f G E v v')
    (hc : NoCut st st' (valCut (st.store.size + 1) st.store v)) :
    ResRelD (StRelG f G E GL J) δ (VRelG f G E) ((do let d ← externalise v; emit w d; pure Val.void : M Val) st)
      ((do let d ← externalise v'; emit w d; pure Val.void : M Val) st') := by
  refine ResRelD.bind (simGAt_externalise r hv hc) (fun d d' s s' _ hd rs => ?_)
  subst hd
  exact SimG.bind (simG_emit w _) (fun _ _ _ => SimG.pure _ _ VRelG.void) s s' rs

theorem simGAt_display (r : StRelG f G E GL J st st') {v v' : Val} (hv : VRelG f G E v v')
    (hc : NoCut st st' (valCut (st.store.size + 1) st.store v)) :
    ResRelD (StRelG f G E GL J) δ (VRelG f G E) (primMisc .display [v] st) (primMisc .display [v'] st') := simGAt_output false r hv hc

theorem simGAt_write (r : StRelG f G E GL J st st') {v v' : Val} (hv : VRelG f G E v v')
    (hc : NoCut st st' (valCut (st.store.size + 1) st.store v)) :
    ResRelD (StRelG f G E GL J) δ (VRelG f G E) (primMisc .write [v] st) (primMisc .write [v'] st') := simGAt_output true r hv hc


end Marwood.Spec.Eval.Extra
