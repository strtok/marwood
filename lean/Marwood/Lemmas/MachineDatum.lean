import Marwood.Lemmas.MachineSym
import Marwood.Datum
/-!
# C10 heap round trip on the concrete heap (`CHeap`: real free list, symbol interning)

`Print/Store.lean` models `put_cell` / `get_as_cell` over an abstract store with fresh allocation. Here the same
conversion runs on the concrete heap, whose allocator reuses freed cells and interns symbols.
* A concrete cell does **not** erase scalar payloads: a number / character / string / symbol is an `opaque` tag whose
  first character is the kind. `atomV` fixes the coding of a datum atom as a tag (`numTag`, the coding of a number as
  text, is a parameter with a left inverse `numOf`); `atomD` decodes.
* `putDatum` — `Heap::put_cell` for atoms and pairs: car, then cdr, then the pair cell, each through `putV`. Vectors are
  not covered (their `Rc` payload is stored by value in `CCell.vector`, ConcreteHeap.lean decision 3); procedures /
  macros / continuations have no heap form (`none`).
* `Rep nc h p d` — reading the cell at index `p` of `h` yields the datum `d` (`get_as_cell` as a relation, no fuel).
* `putDatum_rep` — **round trip**: on a well-formed heap, `putDatum` returns a pointer that reads back as the datum,
  keeps every allocated cell and keeps the heap well-formed.
-/
namespace Marwood.Lemmas.MachineDatum
open Marwood Marwood.Vm Marwood.Vm.Concrete Marwood.Lemmas.Sim Marwood.Lemmas.Good Marwood.Lemmas.MachineSym
open Marwood.Heap (GcState WFHeap RootsOk vrefs vrefsList crefs Interned)
open Marwood.Lemmas.HeapWFOps (putNew_wf PutFacts)

def Keeps (h h' : CHeap) : Prop :=
  ∀ (q : Nat) (c : CCell), q ∉ h.free → h.cells[q]? = some c → h'.cells[q]? = some c ∧ q ∉ h'.free

theorem Keeps.refl (h : CHeap) : Keeps h h := fun _ _ a b => ⟨b, a⟩

theorem Keeps.trans {a b c : CHeap} (x : Keeps a b) (y : Keeps b c) : Keeps a c := by
  intro q cc hf hc
  obtain ⟨h1, h2⟩ := x q cc hf hc
  exact y q cc h2 h1

theorem cput_keeps {h : CHeap} (inv : HInv h) (c : CCell) : Keeps h (cput h c).1 := by
  intro q c0 hf hc
  obtain ⟨a, b, _⟩ := cput_old inv c hc hf
  exact ⟨a, b⟩

theorem cput_cell {h : CHeap} (inv : HInv h) (c : CCell) :
    (cput h c).1.cells[(cput h c).2]? = some c ∧ (cput h c).2 ∉ (cput h c).1.free := by
  have a := calloc_spec h inv
  refine ⟨?_, ?_⟩
  · simp only [cput, cwrite]
    simp [a.p_lt]
  · simp only [cput, cwrite]; exact a.p_notfree

/-- **read after put, real allocator**: `put` of a non-pointer value returns a pointer to an allocated cell holding
exactly that value — whether the cell came from the free list, from growth, or is the interned cell of a symbol — and
every allocated cell keeps its content -/
theorem putNew_cell {h : CHeap} (wf : WFHeap true (toHeap h)) (v : VCell) :
    ∃ p, (putNew h v).2 = .ptr p ∧ (putNew h v).1.cells[p]? = some (CCell.val v) ∧ p ∉ (putNew h v).1.free ∧
      Keeps h (putNew h v).1 := by
  have inv := HInv.of_wf wf
  cases hs : symOf v with
  | none =>
    have e : putNew h v = ((cput h (.val v)).1, .ptr (cput h (.val v)).2) := by simp only [putNew, hs]
    rw [e]
    obtain ⟨a, b⟩ := cput_cell inv (.val v)
    exact ⟨_, rfl, a, b, cput_keeps inv _⟩
  | some n =>
    cases hk : symLookup h n with
    | some p =>
      have e : putNew h v = (h, .ptr p) := by simp only [putNew, hs, hk]
      rw [e]
      have hal := (wf.interned n p).mp hk
      obtain ⟨tag', hc', ht'⟩ := symCell_iff.mpr hal.1
      obtain ⟨tag, rfl, ht⟩ := symOf_some hs
      have : tag' = tag := symName_tag_inj ht' ht
      subst this
      refine ⟨p, rfl, hc', ?_, .refl h⟩
      intro hm
      have hfree := (wf.free_iff p).mp hm
      rcases hal.2 with x | x <;> rw [hfree] at x <;> cases x
    | none =>
      have e : putNew h v = ({ (cput h (.val v)).1 with
          symtab := Heap.Heap.symInsert (cput h (.val v)).1.symtab n (cput h (.val v)).2 },
          .ptr (cput h (.val v)).2) := by simp only [putNew, hs, hk]
      rw [e]
      obtain ⟨a, b⟩ := cput_cell inv (.val v)
      exact ⟨_, rfl, a, b, cput_keeps inv _⟩

theorem putV_cell {h : CHeap} (wf : WFHeap true (toHeap h)) {v : VCell} (hnp : isPtr v = false) :
    ∃ p, (putV h v).2 = .ptr p ∧ (putV h v).1.cells[p]? = some (CCell.val v) ∧ p ∉ (putV h v).1.free ∧
      Keeps h (putV h v).1 := by
  have e : putV h v = putNew h v := by simp [putV, hnp]
  rw [e]; exact putNew_cell wf v

theorem putV_wf {h : CHeap} (wf : WFHeap true (toHeap h)) (sm : Small h) {v : VCell} (hnp : isPtr v = false)
    (hr : ∀ y ∈ crefs true (eraseV v), (toHeap h).NonFree y ∨ Heap.Sentinel y) :
    WFHeap true (toHeap (putV h v).1) := by
  have inv := HInv.of_wf wf
  have e : putV h v = putNew h v := by simp [putV, hnp]
  rw [e]
  exact (putNew_wf true _ _ _ _ wf hr (sm.grown inv) (toHeap_putNew inv v)).1

/-- the coding of number payloads as text (a modelling parameter: Machine.lean's scalar payloads are opaque tags) -/
structure NumCode where
  numTag : Num → List Char
  numOf : List Char → Option Num
  inv : ∀ n, numOf (numTag n) = some n

def atomV (nc : NumCode) : Datum → Option VCell
  | .bool b => some (.bool b)
  | .nil => some .nil
  | .undefined => some .undefined
  | .void => some .void
  | .char c => some (.opaque (String.ofList ['c', c]))
  | .str s => some (.opaque (String.ofList ('s' :: s)))
  | .sym s => some (.opaque (String.ofList ('y' :: s)))
  | .num n => some (.opaque (String.ofList ('n' :: nc.numTag n)))
  | _ => none

def atomD (nc : NumCode) : VCell → Option Datum
  | .bool b => some (.bool b)
  | .nil => some .nil
  | .undefined => some .undefined
  | .void => some .void
  | .opaque tag =>
    match tag.toList with
    | ['c', c] => some (.char c)
    | 's' :: s => some (.str s)
    | 'y' :: s => some (.sym s)
    | 'n' :: t => (nc.numOf t).map Datum.num
    | _ => none
  | _ => none

theorem atomD_atomV (nc : NumCode) {d : Datum} {v : VCell} (h : atomV nc d = some v) : atomD nc v = some d := by
  cases d <;> simp only [atomV, Option.some.injEq] at h <;> first | (cases h; done) | skip
  all_goals subst h
  all_goals simp [atomD, String.toList_ofList, nc.inv]

theorem atomV_notPtr (nc : NumCode) {d : Datum} {v : VCell} (h : atomV nc d = some v) :
    isPtr v = false ∧ addrFree v = true := by
  cases d <;> simp only [atomV, Option.some.injEq] at h <;> first | (cases h; done) | skip
  all_goals subst h
  all_goals exact ⟨rfl, rfl⟩

/-- a symbol datum is stored as a symbol value: it goes through the symbol table -/
theorem atomV_sym (nc : NumCode) (s : Text) : ∃ v, atomV nc (.sym s) = some v ∧ symOf v = some s :=
  ⟨_, rfl, by simp [symOf, symName?, String.toList_ofList]⟩

/-- `Heap::put_cell` on the concrete heap: atoms and pairs -/
def putDatum (nc : NumCode) (h : CHeap) : Datum → Option (CHeap × Nat)
  | .pair a d =>
    match putDatum nc h a with
    | none => none
    | some (h1, pa) =>
      match putDatum nc h1 d with
      | none => none
      | some (h2, pd) =>
        match putV h2 (.pair pa pd) with
        | (h3, .ptr p) => some (h3, p)
        | _ => none
  | d =>
    match atomV nc d with
    | none => none
    | some v =>
      match putV h v with
      | (h1, .ptr p) => some (h1, p)
      | _ => none

inductive Rep (nc : NumCode) (h : CHeap) : Nat → Datum → Prop
  | atom {p : Nat} {v : VCell} {d : Datum} : h.cells[p]? = some (CCell.val v) → p ∉ h.free →
      atomD nc v = some d → Rep nc h p d
  | pair {p a b : Nat} {x y : Datum} : h.cells[p]? = some (CCell.val (.pair a b)) → p ∉ h.free →
      Rep nc h a x → Rep nc h b y → Rep nc h p (.pair x y)

theorem Rep.keeps {nc : NumCode} {h h' : CHeap} (k : Keeps h h') {p : Nat} {d : Datum} (r : Rep nc h p d) :
    Rep nc h' p d := by
  induction r with
  | atom hc hf ha => obtain ⟨a, b⟩ := k _ _ hf hc; exact .atom a b ha
  | pair hc hf _ _ ih1 ih2 => obtain ⟨a, b⟩ := k _ _ hf hc; exact .pair a b ih1 ih2

theorem Rep.unique {nc : NumCode} {h : CHeap} {p : Nat} {d d' : Datum} (r : Rep nc h p d) (r' : Rep nc h p d') :
    d = d' := by
  induction r generalizing d' with
  | atom hc _ ha =>
    cases r' with
    | atom hc' _ ha' =>
      rw [hc] at hc'; cases hc'
      rw [ha] at ha'; cases ha'; rfl
    | pair hc' _ _ _ =>
      rw [hc] at hc'; cases hc'
      simp [atomD] at ha
  | pair hc _ _ _ ih1 ih2 =>
    cases r' with
    | atom hc' _ ha' =>
      rw [hc] at hc'; cases hc'
      simp [atomD] at ha'
    | pair hc' _ r1 r2 =>
      rw [hc] at hc'; cases hc'
      rw [ih1 r1, ih2 r2]

theorem Rep.notFree {nc : NumCode} {h : CHeap} {p : Nat} {d : Datum} (r : Rep nc h p d) :
    p ∉ h.free ∧ p < h.cells.size := by
  cases r with
  | atom hc hf _ => exact ⟨hf, lt_of_get_some hc⟩
  | pair hc hf _ _ => exact ⟨hf, lt_of_get_some hc⟩

theorem nonFree_of_notFree {h : CHeap} (wf : WFHeap true (toHeap h)) {p : Nat} (hf : p ∉ h.free)
    (hl : p < h.cells.size) : (toHeap h).NonFree p := by
  have hsz : (toHeap h).gc.size = h.cells.size := by rw [wf.sizes]; simp [toHeap]
  have hlt : p < (toHeap h).gc.size := by omega
  have hne : (toHeap h).gc[p]? ≠ some GcState.free := fun x => hf ((wf.free_iff p).mpr x)
  unfold Heap.Heap.NonFree
  rw [Array.getElem?_eq_getElem hlt] at hne ⊢
  cases hg : (toHeap h).gc[p] with
  | free => rw [hg] at hne; exact absurd rfl hne
  | allocated => exact .inl rfl
  | used => exact .inr rfl

structure PutD (nc : NumCode) (h h' : CHeap) (p : Nat) (d : Datum) : Prop where
  wf : WFHeap true (toHeap h')
  keeps : Keeps h h'
  rep : Rep nc h' p d

theorem putDatum_atom_inv {nc : NumCode} {h h' : CHeap} {d : Datum} {p : Nat} (hd : ∀ a b, d = .pair a b → False)
    (hp : putDatum nc h d = some (h', p)) : ∃ v, atomV nc d = some v ∧ putV h v = (h', .ptr p) := by
  rw [putDatum.eq_2 _ _ _ hd] at hp
  split at hp
  · cases hp
  · rename_i v ha
    split at hp
    · rename_i h1 q e1
      cases hp
      exact ⟨v, ha, e1⟩
    · cases hp

theorem putDatum_size (nc : NumCode) : ∀ (d : Datum) {h h' : CHeap} {p : Nat},
    putDatum nc h d = some (h', p) → h.cells.size ≤ h'.cells.size := by
  intro d
  induction d with
  | pair a d iha ihd =>
    intro h h' p hp
    simp only [putDatum] at hp
    split at hp
    · cases hp
    · rename_i h1 pa e1
      split at hp
      · cases hp
      · rename_i h2 pd e2
        split at hp
        · rename_i h3 q e3
          cases hp
          have := putV_size h2 (.pair pa pd)
          rw [e3] at this
          exact Nat.le_trans (iha e1) (Nat.le_trans (ihd e2) this)
        · cases hp
  | _ =>
    intro h h' p hp
    obtain ⟨v, _, e1⟩ := putDatum_atom_inv (fun _ _ e => by cases e) hp
    have := putV_size h v
    rw [e1] at this
    exact this

theorem putDatum_atom {nc : NumCode} {h h' : CHeap} {p : Nat} {d : Datum} {v : VCell}
    (wf : WFHeap true (toHeap h)) (sm : Small h) (ha : atomV nc d = some v)
    (e : putV h v = (h', .ptr p)) : PutD nc h h' p d := by
  obtain ⟨hnp, haf⟩ := atomV_notPtr nc ha
  obtain ⟨q, hq, hc, hf, hk⟩ := putV_cell wf hnp
  have wf' := putV_wf wf sm hnp (by
    intro y hy
    have := crefs_sub_vrefs v y hy
    rw [vrefs_addrFree haf] at this; cases this)
  rw [e] at hq hc hf hk wf'
  cases hq
  exact ⟨wf', hk, .atom hc hf (atomD_atomV nc ha)⟩

/-- **T10.2 on the concrete heap.** Whenever `putDatum` succeeds the pointer it returns reads back as the datum, every
allocated cell keeps its content, and the heap stays well-formed — with the real allocator and symbol interning.
`Small` of the final heap is the physical size bound. -/
theorem putDatum_rep (nc : NumCode) : ∀ (d : Datum) {h h' : CHeap} {p : Nat}, WFHeap true (toHeap h) →
    putDatum nc h d = some (h', p) → Small h' → PutD nc h h' p d := by
  intro d
  induction d with
  | pair a d iha ihd =>
    intro h h' p wf hp sm
    simp only [putDatum] at hp
    split at hp
    · cases hp
    · rename_i h1 pa e1
      split at hp
      · cases hp
      · rename_i h2 pd e2
        split at hp
        · rename_i h3 q e3
          cases hp
          have s3 := putV_size h2 (.pair pa pd)
          rw [e3] at s3
          have sm2 : Small h2 := sm.of_le s3
          have sm1 : Small h1 := sm2.of_le (putDatum_size nc d e2)
          have r1 := iha wf e1 sm1
          have r2 := ihd r1.wf e2 sm2
          have ra : Rep nc h2 pa a := r1.rep.keeps r2.keeps
          have hnp : isPtr (VCell.pair pa pd) = false := rfl
          obtain ⟨q', hq, hc, hf, hk⟩ := putV_cell r2.wf (v := .pair pa pd) hnp
          have wf3 := putV_wf r2.wf sm2 (v := .pair pa pd) hnp (by
            intro y hy
            simp only [eraseV, crefs, List.mem_cons, List.not_mem_nil, or_false] at hy
            rcases hy with rfl | rfl
            · exact .inl (nonFree_of_notFree r2.wf ra.notFree.1 ra.notFree.2)
            · exact .inl (nonFree_of_notFree r2.wf r2.rep.notFree.1 r2.rep.notFree.2))
          rw [e3] at hq hc hf hk wf3
          cases hq
          exact ⟨wf3, (r1.keeps.trans r2.keeps).trans hk, .pair hc hf (ra.keeps hk) (r2.rep.keeps hk)⟩
        · cases hp
  | _ =>
    intro h h' p wf hp sm
    obtain ⟨v, ha, e1⟩ := putDatum_atom_inv (fun _ _ e => by cases e) hp
    have s1 := putV_size h v
    rw [e1] at s1
    exact putDatum_atom wf (sm.of_le s1) ha e1

/-! ## `NumCode` is inhabited (a unary coding; any injective coding will do) -/

def sgnC (i : Int) : Char := if i < 0 then 'm' else 'p'

def unaryTag : Num → List Char
  | .fix n => 'f' :: sgnC n :: List.replicate n.natAbs 'a'
  | .big n => 'b' :: sgnC n :: List.replicate n.natAbs 'a'
  | .rat n d => 'r' :: sgnC n :: sgnC d :: (List.replicate n.natAbs 'a' ++ List.replicate d.natAbs 'b')
  | .flo f => 'd' :: List.replicate f.bits 'a'

theorem int_of_sgn_abs {a b : Int} (hs : sgnC a = sgnC b) (hn : a.natAbs = b.natAbs) : a = b := by
  unfold sgnC at hs
  split at hs <;> split at hs <;> first | omega | (exfalso; revert hs; decide)

theorem unaryTag_inj {a b : Num} (h : unaryTag a = unaryTag b) : a = b := by
  cases a <;> cases b <;> simp only [unaryTag, List.cons.injEq] at h <;>
    first | (exfalso; revert h; simp; done) | skip
  · obtain ⟨_, hs, hr⟩ := h
    have := congrArg List.length hr
    simp only [List.length_replicate] at this
    rw [int_of_sgn_abs hs this]
  · obtain ⟨_, hs, hr⟩ := h
    have := congrArg List.length hr
    simp only [List.length_replicate] at this
    rw [int_of_sgn_abs hs this]
  · obtain ⟨_, hs1, hs2, hr⟩ := h
    have h1 := congrArg (List.count 'a') hr
    have h2 := congrArg (List.count 'b') hr
    simp [List.count_replicate] at h1 h2
    rw [int_of_sgn_abs hs1 h1, int_of_sgn_abs hs2 h2]
  · obtain ⟨_, hr⟩ := h
    have := congrArg List.length hr
    simp only [List.length_replicate] at this
    rename_i f g
    cases f; cases g
    simp only at this
    subst this
    rfl

open Classical in
noncomputable def unaryNumCode : NumCode where
  numTag := unaryTag
  numOf t := if h : ∃ n, unaryTag n = t then some (Classical.choose h) else none
  inv n := by
    have h : ∃ m, unaryTag m = unaryTag n := ⟨n, rfl⟩
    rw [dif_pos h]
    exact congrArg some (unaryTag_inj (Classical.choose_spec h))

end Marwood.Lemmas.MachineDatum
