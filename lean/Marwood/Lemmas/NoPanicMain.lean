import Marwood.Lemmas.NoPanicFacts
/-!
# T06.6 on the concrete machine: `run_one` never panics on reachable states

Under the bundled invariant `VmOkP`, the clauses `NPInv` (VARARG / `Argument` indices of every lambda object; every
continuation object fits the current stack) and `EnvSlots` (the slot indices of CLOSURE / ENTER at the current instruction),
and the law `ExtNoPanic` of the unmodelled operations, the only `panic` of the MODEL's `step` is the fuel guard of `apply`'s
list walk, which is not a panic site of `run_one` (the Rust loop is unbounded: on a cyclic list it does not return) and
fires only on a cdr chain of at least 100000 pairs. `VmOkP ∧ NPInv` is an invariant of the machine and survives the epilogues;
`EnvSlots` is asked of the state the instruction runs in: it relates `ep` to the code object `ip.0` through the frame chain,
follows from the invariant `EnvInv` (`Lemmas/EnvInvMain.lean`) and is evaluated on every real state by the stream
`safe-side-conditions` (`np-env-slots`).
-/
namespace Marwood.Lemmas.Good
open Marwood Marwood.Vm Marwood.Vm.Verify Marwood.Vm.Concrete Marwood.Lemmas.Sim
open Marwood.Heap (GcState)

variable {ext : ExtOps} {ecl : ExtCodeLawsV ext}

/-- the panic message of the model's fuel guard (`ApplyGuard` of `Lemmas/StackWFNoPanic.lean` is `· = applyGuard`) -/
abbrev applyGuard : String := "apply: list longer than fuel (cyclic list)"

theorem halted_step_np {s : St CHeap} (h : HaltedAt s) : Outcome.NoPanic (step (concreteOps ext) s) := by
  obtain ⟨_, bc, hc, hl⟩ := h
  obtain ⟨lam, hcell, hbc⟩ := codeC_some hc
  have h1 : (concreteOps ext).isLambda s.heap s.ipL = true := by
    show (lambdaAt s.heap s.ipL).isSome = true
    rw [lambdaAt_iff.mpr hcell]; rfl
  have h2 : (concreteOps ext).fetch s.heap s.ipL s.ipO = none := by
    show (match lambdaAt s.heap s.ipL with | some lam => lam.bc[s.ipO]? | none => none) = none
    rw [lambdaAt_iff.mpr hcell]
    show lam.bc[s.ipO]? = none
    rw [hbc]
    exact List.getElem?_eq_none hl
  unfold step
  refine pin_bind ?_ (fun a hr => ?_)
  · exact readOpcode_np h1
  · exfalso
    obtain ⟨op, s1⟩ := a
    have := (readOpcode_ok hr).1
    rw [h2] at this; cases this

/-- the cdr chain from `v` runs through at least `k` pair cells of `h` -/
inductive LongChain (h : CHeap) : Nat → VCell → Prop
  | zero (v : VCell) : LongChain h 0 v
  | pair {k : Nat} (car cdr : Nat) : LongChain h k (deref h (.ptr cdr)) → LongChain h (k + 1) (.pair car cdr)

/-- a chain that ends in `()` after fewer than `k` pairs is not long -/
inductive EndsWithin (h : CHeap) : Nat → VCell → Prop
  | nil (k : Nat) : EndsWithin h (k + 1) .nil
  | pair {k : Nat} (car cdr : Nat) : EndsWithin h k (deref h (.ptr cdr)) → EndsWithin h (k + 1) (.pair car cdr)

theorem pushList_panic_long (s : St CHeap) : ∀ (fuel : Nat) (rest : VCell) (n : Nat) (st : Stack) (m : String),
    builtinApply.pushList (concreteOps ext) s fuel rest n st = .panic m → LongChain s.heap fuel rest
  | 0, rest, _, _, _, _ => .zero rest
  | fuel+1, rest, n, st, m, h => by
    unfold builtinApply.pushList at h
    split at h
    · rename_i car cdr
      exact .pair car cdr (pushList_panic_long s fuel _ _ _ m h)
    · cases h
    · cases h

theorem pushList_ends_np (s : St CHeap) : ∀ (fuel : Nat) (rest : VCell) (n : Nat) (st : Stack),
    EndsWithin s.heap fuel rest → Outcome.NoPanic (builtinApply.pushList (concreteOps ext) s fuel rest n st)
  | 0, _, _, _, h => by cases h
  | fuel+1, rest, n, st, h => by
    unfold builtinApply.pushList
    cases h with
    | nil => exact pin_ok _
    | pair car cdr hc => exact pushList_ends_np s fuel _ _ _ hc

theorem bind_panic_inv {α β : Type} {x : Outcome α} {f : α → Outcome β} {m : String}
    (h : (x >>= f) = .panic m) : x = .panic m ∨ ∃ a, x = .ok a ∧ f a = .panic m := by
  cases x with
  | ok a => exact .inr ⟨a, rfl, h⟩
  | err e => cases h
  | panic m' => left; rw [outcome_bind_panic] at h; cases h; rfl

theorem ite_err_panic {α : Type} {c : Prop} [Decidable c] {e : Err} {x : Outcome α} {m : String}
    (h : (if c then Outcome.err e else x) = .panic m) : x = .panic m := by
  split at h
  · cases h
  · exact h

/-- the chain starts at `apply`'s last argument, the cell under the argument count -/
theorem builtinApply_panic_long {s : St CHeap}
    (hp : builtinApply (concreteOps ext) s = .panic applyGuard) :
    LongChain s.heap 100000 (deref s.heap (s.stack.cellAt (s.stack.sp - 1))) := by
  -- walk the binds of `builtinApply`: every one but `pushList` is excluded by its `_np` lemma
  unfold builtinApply at hp
  rcases bind_panic_inv hp with h | ⟨⟨a, st⟩, hp1, hp⟩
  · exact (pop_np _ _ h).elim
  dsimp only at hp
  rcases bind_panic_inv hp with h | ⟨argc, ha, hp⟩
  · exact (asArgc_np _ _ h).elim
  split at hp
  · cases hp
  rcases bind_panic_inv hp with h | ⟨⟨top, st2⟩, hp2, hp⟩
  · exact (pop_np _ _ h).elim
  dsimp only at hp
  have htop : top = s.stack.cellAt (s.stack.sp - 1) := by
    obtain ⟨p1, p2, _⟩ := pop_ok hp1
    obtain ⟨_, _, q3⟩ := pop_ok hp2
    rw [q3]
    unfold Stack.cellAt
    rw [p2]
    congr 2
    omega
  rw [← htop]
  replace hp := ite_err_panic hp
  rcases bind_panic_inv hp with h | ⟨proc, _, hp⟩
  · exact (getOffset_np _ _ _ h).elim
  rcases bind_panic_inv hp with h | ⟨st3, _, hp⟩
  · exact (shift_np _ _ _ h).elim
  rcases bind_panic_inv hp with h | ⟨⟨x4, st4⟩, _, hp⟩
  · exact (pop_np _ _ h).elim
  dsimp only at hp
  rcases bind_panic_inv hp with h | ⟨⟨n5, st5⟩, _, hp⟩
  · exact pushList_panic_long s _ _ _ _ _ h
  dsimp only at hp
  rcases bind_panic_inv hp with h | ⟨o, _, hp⟩
  · unfold usub at h
    split at h
    · cases h
    · exact absurd (Outcome.panic.inj h) (by decide)
  · cases hp

/-- **T06.6, one state of the concrete machine** -/
theorem step_apply_guard_long (en : ExtNoPanic ext) {s : St CHeap} (h : VmOkP ext ecl s) (np : NPInv s)
    (es : EnvSlots s) (m : String) (hp : step (concreteOps ext) s = .panic m) :
    m = applyGuard ∧ LongChain s.heap 100000 (deref s.heap (s.stack.cellAt (s.stack.sp - 1))) := by
  rcases h.1.2 with ⟨K, hw⟩ | hh
  · refine step_pin_localR (R := fun m => m = applyGuard ∧
        LongChain s.heap 100000 (deref s.heap (s.stack.cellAt (s.stack.sp - 1))))
      hw (readOpcode_vops s) (panicFacts_concrete en h.1.1 hw np es) ?_ m hp
    intro m' hm'
    have e : m' = applyGuard := builtinApply_pinA (nxt s) (Nat.le_add_left 1 s.ipO) m' hm'
    subst e
    exact ⟨rfl, builtinApply_panic_long (s := nxt s) hm'⟩
  · exact (halted_step_np hh m hp).elim

def VmOkNP (ext : ExtOps) (ecl : ExtCodeLawsV ext) (s : St CHeap) : Prop := VmOkP ext ecl s ∧ NPInv s

def EnvSlotsAlong (m : Machine (St CHeap) Fault) (s0 : St CHeap) : Prop := ∀ s', Reaches m s0 s' → EnvSlots s'

theorem npinv_reaches (force : Bool) (en : ExtNoPanic ext) {s0 : St CHeap} (n0 : NPInv s0) :
    ∀ s', Reaches (machine ext force) s0 s' → NPInv s' :=
  Reaches.machine_induct n0 (fun _ _ _ _ ih hst _ => npinv_step en hst ih) (fun _ _ ih => npinv_gc force ih)

theorem vmOkNP_reaches (force : Bool) (el : ExtLaws ext) (eg : ExtGood ext) (ep : ExtProc ext) (en : ExtNoPanic ext)
    {s0 : St CHeap} (h0 : VmOkNP ext ecl s0) (sb : SizeBounded (machine ext force) s0) :
    ∀ s', Reaches (machine ext force) s0 s' → VmOkNP ext ecl s' :=
  fun s' hr => ⟨vmOkP_reaches force el eg ep h0.1 sb s' hr, npinv_reaches force en h0.2 s' hr⟩

theorem step_never_panics_reachable (force : Bool) (el : ExtLaws ext) (eg : ExtGood ext) (ep : ExtProc ext)
    (en : ExtNoPanic ext) {s0 : St CHeap} (h0 : VmOkNP ext ecl s0) (sb : SizeBounded (machine ext force) s0)
    {s' : St CHeap} (hr : Reaches (machine ext force) s0 s') (es : EnvSlots s') (m : String)
    (hp : step (concreteOps ext) s' = .panic m) : m = applyGuard := by
  obtain ⟨h1, h2⟩ := vmOkNP_reaches force el eg ep en h0 sb s' hr
  exact (step_apply_guard_long en h1 h2 es m hp).1

theorem runLoop_ends (force : Bool) (count : Option Nat) :
    ∀ (fuel c : Nat) (s : St CHeap),
      (∀ e sf, runLoop (machine ext force) count fuel c s = .error e sf →
        Reaches (machine ext force) s sf ∧ vmStep (concreteOps ext) sf = .fail e sf) ∧
      (∀ sd, runLoop (machine ext force) count fuel c s = .done sd → Reaches (machine ext force) s sd) ∧
      (∀ sp, runLoop (machine ext force) count fuel c s = .paused sp → Reaches (machine ext force) s sp) := by
  intro fuel c s
  have := Reaches.runLoop (machine ext force) count fuel c s
  refine ⟨fun e sf h => ?_, fun sd h => ?_, fun sp h => by rw [h] at this; exact this⟩
  · rw [h] at this
    obtain ⟨sh, h1, h2⟩ := this
    obtain ⟨rfl, _⟩ := vmStep_eq_fail h2
    exact ⟨h1, h2⟩
  · rw [h] at this
    obtain ⟨sh, h1, h2⟩ := this
    exact .halt h1 h2

theorem runLoop_never_panics_machine (force : Bool) (el : ExtLaws ext) (eg : ExtGood ext) (ep : ExtProc ext)
    (en : ExtNoPanic ext) {s0 : St CHeap} (h0 : VmOkNP ext ecl s0) (sb : SizeBounded (machine ext force) s0)
    (esl : EnvSlotsAlong (machine ext force) s0) (count : Option Nat) (fuel c : Nat) {m : String} {sf : St CHeap}
    (hr : runLoop (machine ext force) count fuel c s0 = .error (.panic m) sf) : m = applyGuard := by
  obtain ⟨hreach, hst⟩ := (runLoop_ends force count fuel c s0).1 _ _ hr
  exact step_never_panics_reachable force el eg ep en h0 sb hreach (esl sf hreach) m (vmStep_eq_fail hst).2

theorem runEval_never_panics_machine (force : Bool) (el : ExtLaws ext) (eg : ExtGood ext) (ep : ExtProc ext)
    (en : ExtNoPanic ext) {s0 : St CHeap} (h0 : VmOkNP ext ecl s0) (sb : SizeBounded (machine ext force) s0)
    (esl : EnvSlotsAlong (machine ext force) s0) (count : Option Nat) (fuel : Nat) {m : String} {s1 : St CHeap}
    (hr : runEval (concreteOps ext) (cgc force) count fuel s0 = .failed (.panic m) s1) : m = applyGuard := by
  obtain ⟨sf, hl, _⟩ := runEval_failed.mp hr
  exact runLoop_never_panics_machine force el eg ep en h0 sb esl count fuel 0 hl

/-- `Stack::clear` and the error reset keep the capacity -/
theorem npinv_runEval (force : Bool) (en : ExtNoPanic ext) {s0 : St CHeap} (n0 : NPInv s0) (count : Option Nat)
    (fuel : Nat) :
    (∀ s', runEval (concreteOps ext) (cgc force) count fuel s0 = .value s' → NPInv s') ∧
    (∀ f s', runEval (concreteOps ext) (cgc force) count fuel s0 = .failed f s' → NPInv s') ∧
    (∀ s', runEval (concreteOps ext) (cgc force) count fuel s0 = .paused s' → NPInv s') := by
  obtain ⟨a, b, d⟩ := runLoop_ends (ext := ext) force count fuel 0 s0
  refine ⟨fun s' h => ?_, fun f s' h => ?_, fun s' h => npinv_reaches force en n0 _ (d _ (runEval_paused.mp h))⟩
  · obtain ⟨sd, hl, rfl⟩ := runEval_value.mp h
    exact npinv_gc force (npinv_onDone (npinv_reaches force en n0 sd (b sd hl)))
  · obtain ⟨sf, hl, rfl⟩ := runEval_failed.mp h
    exact npinv_gc force (npinv_onError (npinv_reaches force en n0 sf (a _ sf hl).1))

namespace Demo

theorem sHalt_npinv (o : Nat) : NPInv (sHalt o) := by
  refine npinv_of_check (s := sHalt o) ?_ ?_
  · show heapNPB hHalt = true
    decide +kernel
  · show contBoundB (sHalt 0).stack.cells.length hHalt = true
    decide +kernel

theorem sHalt_envSlots (o : Nat) (ho : o = 0 ∨ o = 1) : EnvSlots (sHalt o) := by
  rcases ho with rfl | rfl <;> exact envSlotsB_sound (by decide +kernel)

theorem sHalt_vmOkNP (ext : ExtOps) (ecl : ExtCodeLawsV ext) : VmOkNP ext ecl (sHalt 0) :=
  ⟨sHalt_vmOkP ext ecl, sHalt_npinv 0⟩

theorem sHalt_envSlotsAlong (ext : ExtOps) : EnvSlotsAlong (machine ext false) (sHalt 0) := by
  intro s' hr
  rcases sHalt_reaches ext hr with h | h <;> subst h
  · exact sHalt_envSlots 0 (.inl rfl)
  · exact sHalt_envSlots 1 (.inr rfl)

/-- the clauses are not trivially true: a continuation object longer than the stack, a variadic code object
    without a formal and an `Argument` index beyond the formals are rejected by the executable check -/
example : contBoundB 2 { hHalt with cells := (hHalt.cells.setIfInBounds 1
    (CCell.cont ⟨⟨[.undefined, .undefined, .undefined], 2⟩, 0, 0, 0, 0⟩)) } = false := by decide +kernel

example : lamNPB ⟨[.opcode .varArg, .opcode .enter, .opcode .ret], [], []⟩ = false := by decide

example : lamNPB ⟨[.opcode .enter, .opcode .ret], [.opaque "yx"], [(.opaque "yx", .arg 2)]⟩ = false := by decide

end Demo

end Marwood.Lemmas.Good
