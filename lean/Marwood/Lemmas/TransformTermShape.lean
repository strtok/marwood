import Marwood.Lemmas.TransformBasic
/-!
# The inside of a group (`ng`: no item at any depth is followed by the ellipsis), and one step of the
loops of `check_template_syntax` and `check_template_support`

The predicates recurse over the datum *tree*: a pair node `(a . d)` stands for "item `a`, followed by
the items of `d`", which is what `Cell::iter` enumerates (`iterList`), the final cdr of an improper
list included as a last item. `ngL` is what the loops see.
-/
namespace Marwood.Transform.Term
open Marwood

def ng (ell : Datum) : Datum → Bool
  | .pair a d => ng ell a && !peekIs ell (iterList d) && ng ell d
  | _ => true

def hasExp (p : Pattern) : Datum → Bool
  | .pair a d => hasExp p a || hasExp p d
  | .sym s => p.isExpandedVariable (.sym s)
  | _ => false

/-- every item followed by the ellipsis is `ng` inside and mentions an expanded variable -/
def okT (p : Pattern) (ell : Datum) : Datum → Bool
  | .pair a d => (if peekIs ell (iterList d) then ng ell a && hasExp p a else okT p ell a) && okT p ell d
  | _ => true

def ngL (ell : Datum) : List Datum → Bool
  | [] => true
  | it :: rest => ng ell it && !peekIs ell rest && ngL ell rest

theorem ngL_iterList (ell : Datum) (d : Datum) : ngL ell (iterList d) = ng ell d := by
  induction d with
  | pair a d _ ihd => simp only [iterList, ngL, ng, ihd]
  | nil => rfl
  | _ => simp [iterList, ngL, ng, peekIs]

theorem ctsLoop_nil (p : Pattern) (ell : Datum) (f : Nat) (imp se : Bool) :
    ctsLoop p ell (f + 1) imp se [] = .ok () := by
  unfold ctsLoop; rfl

/-- the loop goes on (having seen the ellipsis if `t` is it), the ellipsis was not seen before if `t` is
    it, and a list item does not start with the ellipsis and passes its own loop -/
theorem ctsLoop_cons {p : Pattern} {es : Text} {f : Nat} {imp se : Bool} {t : Datum} {rest : List Datum}
    (h : ctsLoop p (.sym es) (f + 1) imp se (t :: rest) = .ok ()) :
    ctsLoop p (.sym es) f imp (se || decide (t = .sym es)) rest = .ok () ∧
    (t = .sym es → se = false) ∧
    (∀ a d, t = .pair a d → a ≠ .sym es ∧
      ctsLoop p (.sym es) f (isImproperList t) false (iterList t) = .ok ()) := by
  unfold ctsLoop at h
  cases t with
  | pair a d =>
    simp only at h
    split at h
    · cases h
    · rename_i hhead
      split at h
      · rename_i hsub
        refine ⟨by simpa using h, nofun, fun a' d' e => ?_⟩
        cases e
        exact ⟨by simpa using hhead, hsub⟩
      all_goals cases h
  | sym x =>
    simp only at h
    split at h
    · cases h
    · by_cases hx : x = es
      · subst hx
        have hc : cellEq (Datum.sym x) (Datum.sym x) = true := by simp
        simp only [hc, if_true] at h
        split at h
        · cases h
        · rename_i hse
          have hse' : se = false := by
            cases se with
            | false => rfl
            | true => simp at hse
          subst hse'
          exact ⟨by simpa using h, fun _ => rfl, nofun⟩
      · have hc : cellEq (Datum.sym x) (Datum.sym es) = false := by simp [hx]
        simp only [hc, Bool.false_eq_true, if_false] at h
        exact ⟨by simpa [hx] using h, fun e => absurd (Datum.sym.inj e) hx, nofun⟩
  | _ => exact ⟨by simpa using h, nofun, nofun⟩

/-- one call of `check_template_support` on an item (the local `one` of `ctsupLoop`) -/
def supOne (p : Pattern) (ell : Datum) (f : Nat) (it : Datum) (inEll : Bool) (seen : List Datum) :
    Res (List Datum) :=
  match it with
  | .vec _ => .err .syntax
  | .sym _ =>
    if cellEq it ell then .err .syntax
    else if p.isExpandedVariable it then
      if !inEll then .err .syntax
      else if seen.any (fun s => cellEq s it) then .err .syntax
      else .ok (seen ++ [it])
    else .ok seen
  | .pair a d =>
    if isImproperList (.pair a d) then .err .syntax
    else ctsupLoop p ell f inEll (iterList (.pair a d)) seen
  | _ => .ok seen

theorem ctsupLoop_succ (p : Pattern) (ell : Datum) (f : Nat) (inEll : Bool) (it : Datum)
    (rest seen : List Datum) :
    ctsupLoop p ell (f + 1) inEll (it :: rest) seen =
      if cellEq it ell then ctsupLoop p ell f inEll rest seen
      else if peekIs ell rest then
        if inEll then .err .syntax
        else
          match supOne p ell f it true [] with
          | .ok seen' => if seen'.isEmpty then .err .syntax else ctsupLoop p ell f inEll rest seen
          | .err e => .err e
          | .panic s => .panic s
          | .fuel => .fuel
      else
        match supOne p ell f it inEll seen with
        | .ok seen' => ctsupLoop p ell f inEll rest seen'
        | .err e => .err e
        | .panic s => .panic s
        | .fuel => .fuel := by
  rw [ctsupLoop]
  rfl

theorem checkTemplateSupport_eq (p : Pattern) (ell : Datum) (f : Nat) (T : Datum) (inEll : Bool)
    (seen : List Datum) : checkTemplateSupport f T p ell inEll seen = supOne p ell f T inEll seen := by
  cases T <;> rfl

end Marwood.Transform.Term

