import Marwood.Lemmas.TransformBasic
/-!
# Inversion of `Transform::try_new`: what an accepted transformer looks like (`RuleOK` per rule), and
one iteration of the loop of `Pattern::build` read backwards (`buildLoop_cons`)
-/
namespace Marwood.Transform
open Marwood Marwood.Spec.Match

structure Pres (p p' : Pattern) : Prop where
  expr : p'.expr = p.expr
  ell : p'.ellipsis = p.ellipsis
  lits : p'.literals = p.literals

theorem Pres.refl (p : Pattern) : Pres p p := ⟨rfl, rfl, rfl⟩
theorem Pres.trans {a b c : Pattern} (h1 : Pres a b) (h2 : Pres b c) : Pres a c :=
  ⟨h2.expr.trans h1.expr, h2.ell.trans h1.ell, h2.lits.trans h1.lits⟩

theorem foldlM_pres {α : Type} (g : Pattern → α → Res Pattern)
    (hg : ∀ p a p', g p a = .ok p' → Pres p p') :
    ∀ (xs : List α) (p p' : Pattern), xs.foldlM g p = .ok p' → Pres p p' := by
  intro xs
  induction xs with
  | nil => intro p p' h; simp [List.foldlM] at h; cases h; exact Pres.refl _
  | cons x xs ih =>
    intro p p' h
    simp only [List.foldlM, bind, Res.bind] at h
    cases hx : g p x with
    | ok p1 => rw [hx] at h; exact (hg _ _ _ hx).trans (ih _ _ h)
    | err e => rw [hx] at h; cases h
    | panic m => rw [hx] at h; cases h
    | fuel => rw [hx] at h; cases h

theorem findExpanded_pres : ∀ (f : Nat) (it : Datum) (p p' : Pattern),
    findExpanded f it p = .ok p' → Pres p p' := by
  intro f
  induction f with
  | zero => intro it p p' h; simp [findExpanded] at h
  | succ f ih =>
    intro it p p' h
    cases it with
    | sym x =>
      simp only [findExpanded] at h
      split at h <;> cases h <;> exact ⟨rfl, rfl, rfl⟩
    | pair a d =>
      simp only [findExpanded] at h
      exact foldlM_pres _ (fun p a p' h => ih a p p' h) _ _ _ h
    | _ => simp only [findExpanded] at h; cases h; exact Pres.refl _

def ExpandedIf (f : Nat) (b : Bool) (it : Datum) (p p1 : Pattern) : Prop :=
  if b then findExpanded f it p = .ok p1 else p1 = p

/-- the four ways an iteration goes on to a good end: the ellipsis in an allowed place; a symbol (a new
    variable, or not a candidate and then not before an ellipsis); a sub-list; anything else -/
theorem buildLoop_cons {f : Nat} {imp : Bool} {len idx : Nat} {it : Datum} {rest : List Datum} {ct : Nat}
    {p p' : Pattern} (h : buildLoop (f + 1) imp len idx (it :: rest) ct p = .ok p') :
    (isSymbol it = true ∧ p.isEllipsis it = true ∧ idx ≠ 0 ∧ ct = 0 ∧
      buildLoop f imp len (idx + 1) rest (ct + 1) p = .ok p') ∨
    (isSymbol it = true ∧ p.isEllipsis it = false ∧ ∃ p1 p2,
      ((p.isVariableCandidate it = true ∧ p.isVariable it = false ∧
          p1 = { p with variables := p.variables ++ [it] }) ∨
        (p.isVariableCandidate it = false ∧ peekIs p.ellipsis rest = false ∧ p1 = p)) ∧
      ExpandedIf f (peekIs p.ellipsis rest) it p1 p2 ∧
      buildLoop f imp len (idx + 1) rest ct p2 = .ok p') ∨
    (it.isPair = true ∧ ∃ p1 p2, ExpandedIf f (peekIs p.ellipsis rest) it p p1 ∧
      buildLoop f (isImproperList it) (Transform.len it) 0 (iterList it) 0 p1 = .ok p2 ∧
      buildLoop f imp len (idx + 1) rest ct p2 = .ok p') ∨
    (isSymbol it = false ∧ it.isPair = false ∧ buildLoop f imp len (idx + 1) rest ct p = .ok p') := by
  unfold buildLoop at h
  cases it with
  | sym x =>
    simp only at h
    by_cases hE : p.isEllipsis (.sym x) = true
    · rw [if_pos hE] at h
      have h0 : ¬ (idx == 0) = true := fun c => by rw [if_pos c] at h; cases h
      rw [if_neg h0] at h
      have h1 : ¬ (len == 0) = true := fun c => by rw [if_pos c] at h; cases h
      rw [if_neg h1] at h
      have h2 : ¬ (idx == len - 1 && imp) = true := fun c => by rw [if_pos c] at h; cases h
      rw [if_neg h2] at h
      have h3 : ¬ ct + 1 > 1 := fun c => by rw [if_pos c] at h; cases h
      rw [if_neg h3] at h
      exact .inl ⟨rfl, hE, by simpa using h0, by omega, h⟩
    · rw [if_neg hE] at h
      refine .inr (.inl ⟨rfl, by simpa using hE, ?_⟩)
      -- the rest of the iteration from the pattern `p1` the `step` left
      have tail : ∀ p1, (match (Res.ok p1 : Res Pattern) with
            | .ok p1 =>
              if peekIs p.ellipsis rest then
                match findExpanded f (.sym x) p1 with
                | .ok p => buildLoop f imp len (idx + 1) rest ct p
                | .err e => .err e
                | .panic s => .panic s
                | .fuel => .fuel
              else buildLoop f imp len (idx + 1) rest ct p1
            | .err e => .err e
            | .panic s => .panic s
            | .fuel => .fuel) = .ok p' →
          ∃ p2, ExpandedIf f (peekIs p.ellipsis rest) (.sym x) p1 p2 ∧
            buildLoop f imp len (idx + 1) rest ct p2 = .ok p' := by
        intro p1 h
        simp only at h
        unfold ExpandedIf
        by_cases hk : peekIs p.ellipsis rest = true
        · rw [if_pos hk] at h
          cases hfe : findExpanded f (.sym x) p1 with
          | ok p2 => rw [hfe] at h; exact ⟨p2, by rw [if_pos hk], h⟩
          | _ => rw [hfe] at h; cases h
        · rw [if_neg hk] at h
          exact ⟨p1, by rw [if_neg hk], h⟩
      by_cases hc : p.isVariableCandidate (.sym x) = true
      · rw [if_pos hc] at h
        by_cases hv : p.isVariable (.sym x) = true
        · rw [if_pos hv] at h; cases h
        · rw [if_neg hv] at h
          obtain ⟨p2, h1, h2⟩ := tail _ h
          exact ⟨_, p2, .inl ⟨hc, by simpa using hv, rfl⟩, h1, h2⟩
      · rw [if_neg hc] at h
        by_cases hk : peekIs p.ellipsis rest = true
        · rw [if_pos hk] at h; cases h
        · rw [if_neg hk] at h
          obtain ⟨p2, h1, h2⟩ := tail _ h
          exact ⟨_, p2, .inr ⟨by simpa using hc, by simpa using hk, rfl⟩, h1, h2⟩
  | pair a d =>
    simp only at h
    refine .inr (.inr (.inl ⟨rfl, ?_⟩))
    split at h
    · rename_i p1 hp1
      split at h
      · rename_i p2 hp2
        refine ⟨p1, p2, ?_, hp2, h⟩
        unfold ExpandedIf
        split at hp1
        · rename_i hk; rw [if_pos hk]; exact hp1
        · rename_i hk; rw [if_neg hk]; cases hp1; rfl
      all_goals cases h
    all_goals cases h
  | _ => exact .inr (.inr (.inr ⟨rfl, rfl, h⟩))
theorem ExpandedIf.pres {f : Nat} {b : Bool} {it : Datum} {p p1 : Pattern}
    (h : ExpandedIf f b it p p1) : Pres p p1 := by
  unfold ExpandedIf at h
  split at h
  · exact findExpanded_pres _ _ _ _ h
  · rw [h]; exact Pres.refl _

theorem buildLoop_pres : ∀ (f : Nat) (imp : Bool) (len idx : Nat) (items : List Datum) (ct : Nat)
    (p p' : Pattern), buildLoop f imp len idx items ct p = .ok p' → Pres p p' := by
  intro f
  induction f with
  | zero => intro imp len idx items ct p p' h; simp [buildLoop] at h
  | succ f ih =>
    intro imp len idx items ct p p' h
    cases items with
    | nil => simp only [buildLoop] at h; cases h; exact Pres.refl _
    | cons it rest =>
      rcases buildLoop_cons h with ⟨_, _, _, _, h⟩ | ⟨_, _, p1, p2, hp1, he, h⟩ | ⟨_, p1, p2, he, hn, h⟩ |
        ⟨_, _, h⟩
      · exact ih _ _ _ _ _ _ _ h
      · have : Pres p p1 := by rcases hp1 with ⟨_, _, rfl⟩ | ⟨_, _, rfl⟩ <;> exact ⟨rfl, rfl, rfl⟩
        exact this.trans (he.pres.trans (ih _ _ _ _ _ _ _ h))
      · exact he.pres.trans ((ih _ _ _ _ _ _ _ hn).trans (ih _ _ _ _ _ _ _ h))
      · exact ih _ _ _ _ _ _ _ h

theorem Pattern.tryNew_ok {f : Nat} {expr ell : Datum} {lits : List Datum} {p : Pattern}
    (h : Pattern.tryNew f expr ell lits = .ok p) :
    p.expr = expr ∧ p.ellipsis = ell ∧ p.literals = lits ∧ ∃ kw body, expr = .pair kw body ∧
      build f body { expr := expr, variables := [], expanded := [], ellipsis := ell, literals := lits } = .ok p := by
  unfold Pattern.tryNew at h
  cases expr with
  | pair kw body =>
    simp only [Datum.isPair, Bool.not_true, Bool.false_eq_true, if_false, cdrE] at h
    have := buildLoop_pres _ _ _ _ _ _ _ _ h
    exact ⟨this.expr, this.ell, this.lits, kw, body, rfl, h⟩
  | _ => simp [Datum.isPair] at h


structure RuleOK (f : Nat) (ell : Datum) (lits : List Datum) (r : Pattern × Datum) : Prop where
  pat : Pattern.tryNew f r.1.expr ell lits = .ok r.1
  support : checkPatternSupport f r.1.expr ell false = .ok ()
  tsyntax : checkTemplateSyntax f r.2 r.1 ell = .ok ()
  tsupport : ∃ seen, checkTemplateSupport f r.2 r.1 ell false [] = .ok seen

theorem rulesLoop_ok (f : Nat) (ell : Datum) (lits : List Datum) :
    ∀ (items : List Datum) (acc rs : List (Pattern × Datum)),
      rulesLoop f ell lits items acc = .ok rs →
      ∀ r ∈ rs, r ∈ acc ∨ (RuleOK f ell lits r ∧ ∃ it ∈ items, (cdrE it).bind carE = .ok r.2) := by
  intro items
  induction items with
  | nil => intro acc rs h; simp only [rulesLoop] at h; cases h; exact fun r hr => .inl hr
  | cons it rest ih =>
    intro acc rs h
    simp only [rulesLoop, bind, Res.bind] at h
    split at h
    · rename_i pattern hpat
      split at h
      · rename_i template htmpl
        split at h
        · rename_i hcps
          split at h
          · rename_i pat hpatnew
            split at h
            · rename_i hcts
              split at h
              · rename_i seen hsup
                intro r hr
                rcases ih _ _ h r hr with hacc | ⟨hok, it', hit', hcadr⟩
                · rcases List.mem_append.mp hacc with hacc | hacc
                  · exact .inl hacc
                  · simp only [List.mem_singleton] at hacc
                    subst hacc
                    have hex := (Pattern.tryNew_ok hpatnew).1
                    exact .inr ⟨⟨by simpa [hex] using hpatnew, by simpa [hex] using hcps, hcts, ⟨seen, hsup⟩⟩,
                      it, List.mem_cons_self, htmpl⟩
                · exact .inr ⟨hok, it', List.mem_cons_of_mem _ hit', hcadr⟩
              all_goals cases h
            all_goals cases h
          all_goals cases h
        all_goals cases h
      all_goals cases h
    all_goals cases h

theorem allSym_names : ∀ (xs : List Datum), (xs.any fun it => !isSymbol it) = false →
    ∃ names : List Text, xs = names.map Datum.sym := by
  intro xs
  induction xs with
  | nil => intro _; exact ⟨[], rfl⟩
  | cons x xs ih =>
    intro h
    simp only [List.any_cons, Bool.or_eq_false_iff] at h
    obtain ⟨names, hn⟩ := ih h.2
    cases x with
    | sym s => exact ⟨s :: names, by rw [hn]; rfl⟩
    | _ => cases h.1

/-- the definition is `(_ keyword sr)`, the rules are what `rulesLoop` made of the list `sr3` that
    follows the optional ellipsis and the literals in `sr` -/
theorem Transform.tryNew_inv {f : Nat} {d : Datum} {t : Transform} (h : Transform.tryNew f d = .ok t) :
    ∃ s : Setup, t.ellipsis = s.ell ∧ t.literals = s.lits ∧ ∃ x keyword sr sr1 sr2 sr3,
      iterList d = [x, keyword, sr] ∧ cdrE sr = .ok sr1 ∧ (sr2 = sr1 ∨ cdrE sr1 = .ok sr2) ∧
      cdrE sr2 = .ok sr3 ∧ rulesLoop f s.ell s.lits (iterList sr3) [] = .ok t.rules := by
  unfold Transform.tryNew at h
  split at h
  · rename_i x keyword sr hiter
    split at h
    · cases h
    · simp only [bind, Res.bind] at h
      split at h
      · rename_i hd hcar
        split at h
        · cases h
        · split at h
          · rename_i sr1 hsr1
            split at h
            · rename_i hd1 hcar1
              split at h
              · rename_i pr hpr
                obtain ⟨ellipsis, sr2⟩ := pr
                simp only at h
                split at h
                · rename_i lh hlh
                  split at h
                  · cases h
                  · rename_i hallsym
                    split at h
                    · cases h
                    · rename_i hnoell
                      split at h
                      · rename_i sr3 hsr3
                        split at h
                        · rename_i rules hrules
                          cases h
                          -- the ellipsis is a symbol, and `sr2` is `sr1` or its cdr
                          have hell : (∃ es, ellipsis = Datum.sym es) ∧ (sr2 = sr1 ∨ cdrE sr1 = .ok sr2) := by
                            cases hd1 with
                            | sym e =>
                              simp only at hpr
                              cases hc : cdrE sr1 with
                              | ok dd =>
                                simp [hc, Res.bind] at hpr
                                exact ⟨⟨e, hpr.1.symm⟩, .inr (by rw [hpr.2])⟩
                              | _ => simp [hc, Res.bind] at hpr
                            | _ => simp at hpr; all_goals exact ⟨⟨_, hpr.1.symm⟩, .inl hpr.2.symm⟩
                          obtain ⟨⟨es, hes⟩, hsr2⟩ := hell
                          obtain ⟨names, hnames⟩ := allSym_names (iterList lh) (by simpa using hallsym)
                          have hne : es ∉ names := by
                            intro hmem
                            apply hnoell
                            rw [hnames, hes]
                            simp only [List.any_map, List.any_eq_true]
                            exact ⟨es, hmem, by simp⟩
                          refine ⟨⟨es, names, hne⟩, by simp [Setup.ell, hes], by simp [Setup.lits, hnames],
                            x, keyword, sr, sr1, sr2, sr3, hiter, hsr1, hsr2, hsr3, ?_⟩
                          simp only [Setup.ell, Setup.lits, ← hes, ← hnames]
                          exact hrules
                        all_goals cases h
                      all_goals cases h
                all_goals cases h
              all_goals cases h
            all_goals cases h
          all_goals cases h
      all_goals cases h
  · cases h

theorem Transform.tryNew_ok {f : Nat} {d : Datum} {t : Transform} (h : Transform.tryNew f d = .ok t) :
    ∃ s : Setup, t.ellipsis = s.ell ∧ t.literals = s.lits ∧ ∀ r ∈ t.rules, RuleOK f s.ell s.lits r := by
  obtain ⟨s, he, hl, _, _, _, _, _, sr3, _, _, _, _, hrules⟩ := Transform.tryNew_inv h
  exact ⟨s, he, hl, fun r hr => ((rulesLoop_ok f _ _ _ [] _ hrules r hr).resolve_left List.not_mem_nil).1⟩

end Marwood.Transform
