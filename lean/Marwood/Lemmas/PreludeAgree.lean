import Marwood.Gen.PreludeProcs
import Marwood.Store.PreludeSource
/-!
# The modelled library procedures are the regenerated ones

`Gen.PreludeProcs.procs` is regenerated from `marwood/prelude.scm` on every run (`translate/prelude_procs.py`);
`Store.Prelude.sourceOf` is the committed record of what the models of `Store/Prelude.lean` were transcribed from.
`modelled_all_defined` compares the two tables by kernel evaluation.
-/
namespace Marwood.Store.Prelude
open Marwood Marwood.Gen.PreludeProcs

/-- deleting a modelled procedure from the prelude, or changing its text, breaks this -/
theorem modelled_all_defined : ∀ n ∈ modelledNames, procs.lookup n = sourceOf n ∧ (sourceOf n).isSome = true := by
  decide +kernel

theorem agree_caar : procs.lookup "caar" = some caarSrc := (modelled_all_defined "caar" (by decide)).1
theorem agree_list : procs.lookup "list" = some listSrc := (modelled_all_defined "list" (by decide)).1
theorem agree_length : procs.lookup "length" = some lengthSrc := (modelled_all_defined "length" (by decide)).1
theorem agree_memq : procs.lookup "memq" = some memqSrc := (modelled_all_defined "memq" (by decide)).1
theorem agree_memv : procs.lookup "memv" = some memvSrc := (modelled_all_defined "memv" (by decide)).1
theorem agree_member : procs.lookup "member" = some memberSrc := (modelled_all_defined "member" (by decide)).1
theorem agree_assq : procs.lookup "assq" = some assqSrc := (modelled_all_defined "assq" (by decide)).1
theorem agree_assv : procs.lookup "assv" = some assvSrc := (modelled_all_defined "assv" (by decide)).1
theorem agree_assoc : procs.lookup "assoc" = some assocSrc := (modelled_all_defined "assoc" (by decide)).1
theorem agree_anyP : procs.lookup "any?" = some anyPSrc := (modelled_all_defined "any?" (by decide)).1
theorem agree_map1 : procs.lookup "map1" = some map1Src := (modelled_all_defined "map1" (by decide)).1
theorem agree_map : procs.lookup "map" = some mapSrc := (modelled_all_defined "map" (by decide)).1
theorem agree_forEach : procs.lookup "for-each" = some forEachSrc := (modelled_all_defined "for-each" (by decide)).1

theorem lookup_of_mem {α β : Type} [BEq α] [LawfulBEq α] {l : List (α × β)} (hl : (l.map (·.1)).Nodup)
    {p : α × β} (hp : p ∈ l) : l.lookup p.1 = some p.2 := by
  induction l with
  | nil => cases hp
  | cons q l ih =>
    obtain ⟨k, v⟩ := q
    rw [List.map_cons, List.nodup_cons] at hl
    rcases List.mem_cons.mp hp with rfl | hp
    · simp [List.lookup]
    · have : (p.1 == k) = false := beq_false_of_ne fun h => hl.1 (h ▸ List.mem_map_of_mem (f := (·.1)) hp)
      rw [List.lookup_cons, this]
      exact ih hl.2 hp

theorem procs_nodup : (procs.map (·.1)).Nodup := by decide +kernel

/-- no name is defined twice, so the entry is the one `lookup` finds -/
theorem agree_all : ∀ p ∈ procs, modelled p.1 = true → sourceOf p.1 = some p.2 := by
  intro p hp hm
  rw [← (modelled_all_defined p.1 (List.contains_iff_mem.mp hm)).1, lookup_of_mem procs_nodup hp]

def renameSyms (ren : List (String × String)) : Datum → Datum
  | .sym x => match ren.find? (fun p => p.1.toList == x) with
    | some p => .sym p.2.toList
    | none => .sym x
  | .pair a d => .pair (renameSyms ren a) (renameSyms ren d)
  | d => d

/-- why one model function (`mem test`, `ass test`) serves three procedures -/
theorem mem_ass_family :
    memvSrc = renameSyms [("memq", "memv"), ("eq?", "eqv?")] memqSrc ∧
    memberSrc = renameSyms [("memq", "member"), ("eq?", "equal?")] memqSrc ∧
    assvSrc = renameSyms [("assq", "assv"), ("eq?", "eqv?")] assqSrc ∧
    assocSrc = renameSyms [("assq", "assoc"), ("eq?", "equal?")] assqSrc := by decide +kernel

end Marwood.Store.Prelude
