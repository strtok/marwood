import Marwood.Lemmas.GoodAlloc
/-!
# `Safe` as an invariant: the other heap operations of `run_one` preserve `HG`

`set!` of a global and of an environment slot, CLOSURE (`makeClosure`: a fresh environment whose slots are `Undefined` or
one-level pointers into the current environment), ENTER of a closure (`makeActivation`: arguments, pointers into the closure
environment, or copies of its slots), `call/cc`'s continuation object.
-/
namespace Marwood.Lemmas.Good
open Marwood Marwood.Vm Marwood.Vm.Concrete Marwood.Lemmas.Sim
open Marwood.Heap (GcState WFHeap RootsOk vrefs vrefsList crefs)

theorem cwrite_get (h : CHeap) (p : Nat) (c : CCell) (i : Nat) :
    (cwrite h p c).cells[i]? = if i = p ∧ p < h.cells.size then some c else h.cells[i]? := by
  simp only [cwrite_cells, eq_comm (a := p)]

theorem SlotOk.of_plain (h : CHeap) {v : VCell} (x : plainGlob v = true) : SlotOk h v := .inl x

theorem SlotOk.plain_of_not_ptr {h : CHeap} {v : VCell} (x : SlotOk h v) (hn : ∀ e k, v ≠ .lexEnvPtr e k) :
    plainGlob v = true := by
  rcases x with x | ⟨e, k, _, _, rfl, _⟩
  · exact x
  · exact absurd rfl (hn e k)

theorem cwrite_other {h : CHeap} {p : Nat} (c : CCell) {i : Nat} (hi : i ≠ p) :
    (cwrite h p c).cells[i]? = h.cells[i]? := by
  rw [cwrite_get]; simp [hi]

theorem cwrite_at {h : CHeap} {p : Nat} {c0 : CCell} (he : h.cells[p]? = some c0) (c : CCell) :
    (cwrite h p c).cells[p]? = some c := by
  rw [cwrite_get]; simp [lt_of_get_some he]

theorem alloc_of_ne_undef {h : CHeap} (g : HG h) {i : Nat} {c : CCell} (hc : h.cells[i]? = some c)
    (hu : c ≠ .val .undefined) : (toHeap h).NonFree i :=
  HeapWFOps.nonFree_of_cell g.wf (by rw [toHeap_cells_get, hc]; rfl) fun e => hu (eraseC_undef e)

theorem not_free_of_cell {h : CHeap} (g : HG h) {i : Nat} {c : CCell} (hc : h.cells[i]? = some c)
    (hu : c ≠ .val .undefined) : i ∉ h.free := fun hm =>
  HeapWF.not_nonFree_of_free ((g.wf.free_iff i).mp hm) (alloc_of_ne_undef g hc hu)

theorem cwrite_wf {h : CHeap} (wf : WFHeap true (toHeap h)) {p : Nat} {c0 c : CCell} (he : h.cells[p]? = some c0)
    (h0 : eraseC c0 ≠ .undefined) (hs0 : ¬ HeapWFOps.VCell.isSymbol (eraseC c0))
    (hns : ¬ HeapWFOps.VCell.isSymbol (eraseC c)) (hr : CRefsOk h c) :
    WFHeap true (toHeap (cwrite h p c)) ∧ Mono h (cwrite h p c) := by
  have eold : (toHeap h).cells[p]? = some (eraseC c0) := by rw [toHeap_cells_get, he]; rfl
  have e : toHeap (cwrite h p c) = { toHeap h with cells := (toHeap h).cells.setIfInBounds p (eraseC c) } := by
    simp [toHeap, cwrite, Array.map_setIfInBounds]
  rw [e]
  exact ⟨HeapWFOps.overwrite_wf wf (HeapWFOps.nonFree_of_cell wf eold h0) eold hs0 hns hr, by simp [cwrite],
    fun _ x => x⟩

theorem cwrite_hg {h : CHeap} (g : HG h) {p : Nat} {c0 c : CCell} (he : h.cells[p]? = some c0)
    (h0 : eraseC c0 ≠ .undefined) (hs0 : ¬ HeapWFOps.VCell.isSymbol (eraseC c0))
    (hns : ¬ HeapWFOps.VCell.isSymbol (eraseC c)) (hr : CRefsOk h c) (ok : CellOk h c)
    (slot : ∀ v, SlotOk h v → SlotOk (cwrite h p c) v) : HG (cwrite h p c) ∧ Mono h (cwrite h p c) := by
  obtain ⟨wf', m⟩ := cwrite_wf g.wf he h0 hs0 hns hr
  refine ⟨hg_of_cells g ok wf' (fun i c1 hc => ?_) slot rfl, m⟩
  by_cases hi : i = p
  · rw [hi, cwrite_at he] at hc
    exact .inl (Option.some.inj hc).symm
  · rw [cwrite_other c hi] at hc
    exact .inr (.inl hc)

theorem env_slot {h : CHeap} (g : HG h) {e : Nat} {ss : List VCell} (hn : NF h e)
    (hc : h.cells[e]? = some (CCell.lexEnv ss)) {w : VCell} (hw : w ∈ ss) : SlotOk h w ∧ VRefsOk h w := by
  refine ⟨g.env e ss hc w hw, ?_⟩
  have hnf := hn.nonFree g.wf hc
  intro y hy
  refine g.closed hnf hc y ?_
  simp only [eraseC, crefs]
  exact vrefsList_mem_iff.mpr ⟨w, hw, hy⟩

theorem envSet_hg {h : CHeap} (g : HG h) {e k : Nat} {ss : List VCell} {v : VCell}
    (he : h.cells[e]? = some (CCell.lexEnv ss)) (hv : VOk h v) :
    HG (cwrite h e (.lexEnv (ss.set k v))) ∧ Mono h (cwrite h e (.lexEnv (ss.set k v))) := by
  have hat := cwrite_at he (.lexEnv (ss.set k v))
  have hss := fun w (hw : w ∈ ss) => env_slot g (.inl (alloc_of_ne_undef g he nofun)) he hw
  refine cwrite_hg g he nofun id id (.lexEnv fun w hw => ?_) (fun w hw => ?_) fun w hw => ?_
  · rcases (List.mem_or_eq_of_mem_set hw).symm with rfl | hw
    · exact hv.2
    · exact (hss w hw).2
  · rcases (List.mem_or_eq_of_mem_set hw).symm with rfl | hw
    · exact .inl hv.1
    · exact (hss w hw).1
  · -- a pointer to slot `k` of `e` now finds `v`, a value; every other pointer finds what it found
    rcases hw with hw | ⟨e', k', ss', w', rfl, h1, h2, h3⟩
    · exact .inl hw
    · by_cases hee : e' = e
      · subst hee
        rw [he] at h1; cases h1
        by_cases hk : k' = k
        · subst hk
          have hkl : k' < ss.length := (List.getElem?_eq_some_iff.mp h2).1
          exact .inr ⟨_, _, _, v, rfl, hat, by rw [List.getElem?_set_self hkl], hv.1⟩
        · exact .inr ⟨_, _, _, w', rfl, hat, by rw [List.getElem?_set_ne (Ne.symm hk)]; exact h2, h3⟩
      · exact .inr ⟨_, _, _, w', rfl, by rw [cwrite_other _ hee]; exact h1, h2, h3⟩

theorem envPut_hg {h h' : CHeap} (g : HG h) {e k : Nat} {v : VCell} (hv : VOk h v)
    (hp : envPut h e k v = some h') : HG h' ∧ Mono h h' ∧ h'.globals = h.globals := by
  obtain ⟨ss, hc, _, rfl⟩ := envPut_inv hp
  obtain ⟨a, b⟩ := envSet_hg g (k := k) hc hv
  exact ⟨a, b, rfl⟩

theorem globPut_hg {h : CHeap} (g : HG h) (n : Nat) {v : VCell} (hv : plainGlob v = true) :
    HG { h with globals := h.globals.setIfInBounds n v } ∧ Mono h { h with globals := h.globals.setIfInBounds n v } := by
  refine ⟨⟨g.wf, ⟨g.plain.cells, ?_, g.plain.conts⟩, g.lam, g.env⟩, Nat.le_refl _, fun _ x => x⟩
  intro w hw
  have hw' : w ∈ h.globals.toList.set n v := by simpa using hw
  rcases (List.mem_or_eq_of_mem_set hw').symm with h1 | h1
  · rw [h1]; exact hv
  · exact g.plain.globals w h1

theorem envLoad_ok {h : CHeap} (g : HG h) {e n : Nat} (hn : NF h e) {w : VCell} (h1 : envGet h e n = some w) :
    (∀ e' k, w = .lexEnvPtr e' k → ∀ w', envGet h e' k = some w' → VOk h w') ∧
    ((∀ e' k, w ≠ .lexEnvPtr e' k) → VOk h w) ∧ VRefsOk h w := by
  unfold envGet at h1
  cases hat : envAt h e with
  | none => rw [hat] at h1; cases h1
  | some ss =>
    rw [hat] at h1
    simp only at h1
    have hc := envAt_cell hat
    have hw : w ∈ ss := List.mem_of_getElem? h1
    obtain ⟨so, ro⟩ := env_slot g hn hc hw
    refine ⟨?_, fun hne => ⟨so.plain_of_not_ptr hne, ro⟩, ro⟩
    rintro e' k rfl w' h2
    have hne' : NF h e' := ro e' (by simp [eraseV, vrefs])
    rcases so with so | ⟨e2, k2, ss2, w2, heq, c2, s2, p2⟩
    · simp [plainGlob, isPtr, addrFree] at so
    · cases heq
      unfold envGet at h2
      have : envAt h e' = some ss2 := envAt_iff.mpr c2
      rw [this] at h2
      simp only at h2
      rw [s2] at h2; cases h2
      exact ⟨p2, (env_slot g hne' c2 (List.mem_of_getElem? s2)).2⟩

theorem closureSlot_ok {h : CHeap} (g : HG h) {ep bp : Nat} {st : Stack} (hn : NF h ep) {src : Source}
    (hsrc : ∀ a, src ≠ .iofArg a) {v : VCell} (hr : closureSlot h ep bp st src = .ok v) :
    SlotOk h v ∧ VRefsOk h v := by
  cases src with
  | iofArg a => exact absurd rfl (hsrc a)
  | iofEnv k =>
    simp only [closureSlot] at hr
    cases hat : envAt h ep with
    | none => rw [hat] at hr; cases hr
    | some ss =>
      rw [hat] at hr
      simp only at hr
      have hc := envAt_cell hat
      cases hk : ss[k]? with
      | none => rw [hk] at hr; cases hr
      | some w =>
        rw [hk] at hr
        obtain ⟨so, ro⟩ := env_slot g hn hc (List.mem_of_getElem? hk)
        by_cases hp : ∃ e n, w = .lexEnvPtr e n
        · obtain ⟨e, n, rfl⟩ := hp
          simp only at hr
          cases hr
          exact ⟨so, ro⟩
        · have hv : v = .lexEnvPtr ep k := by
            cases w <;> simp only at hr <;> first | (cases hr; rfl) | (exact absurd ⟨_, _, rfl⟩ hp)
          subst hv
          refine ⟨.inr ⟨ep, k, ss, w, rfl, hc, hk, so.plain_of_not_ptr (fun e n he => hp ⟨e, n, he⟩)⟩, ?_⟩
          intro y hy
          have : y = ep := by simpa [eraseV, vrefs] using hy
          subst this; exact hn
  | global => simp only [closureSlot] at hr; cases hr; exact ⟨.inl rfl, .of_addrFree _ rfl⟩
  | arg a => simp only [closureSlot] at hr; cases hr; exact ⟨.inl rfl, .of_addrFree _ rfl⟩
  | internal => simp only [closureSlot] at hr; cases hr; exact ⟨.inl rfl, .of_addrFree _ rfl⟩

theorem closureSlots_mem {h : CHeap} {ep bp : Nat} {st : Stack} :
    ∀ (em : List (VCell × Source)) (vs : List VCell), closureSlots h ep bp st em = .ok vs →
      vs.length = em.length ∧ ∀ v ∈ vs, ∃ x ∈ em, closureSlot h ep bp st x.2 = .ok v := by
  intro em
  induction em with
  | nil => intro vs hr; simp only [closureSlots] at hr; cases hr; exact ⟨rfl, fun v hv => nomatch hv⟩
  | cons p rest ih =>
    intro vs hr
    simp only [closureSlots] at hr
    obtain ⟨v1, h1, hr⟩ := bind_inv hr
    obtain ⟨vs1, h2, hr⟩ := bind_inv hr
    cases hr
    obtain ⟨hl, hm⟩ := ih vs1 h2
    refine ⟨by simp [hl], fun v hv => ?_⟩
    rcases List.mem_cons.mp hv with rfl | hv
    · exact ⟨p, List.mem_cons_self .., h1⟩
    · obtain ⟨x, hx, hv⟩ := hm v hv
      exact ⟨x, List.mem_cons_of_mem _ hx, hv⟩

theorem closureSlots_ok {h : CHeap} (g : HG h) {ep bp : Nat} {st : Stack} (hn : NF h ep)
    (em : List (VCell × Source)) (hno : ∀ p ∈ em, ∀ a, p.2 ≠ Source.iofArg a) (vs : List VCell)
    (hr : closureSlots h ep bp st em = .ok vs) (v : VCell) (hv : v ∈ vs) : SlotOk h v ∧ VRefsOk h v := by
  obtain ⟨x, hx, h1⟩ := (closureSlots_mem em vs hr).2 v hv
  exact closureSlot_ok g hn (hno x hx) h1

theorem makeClosure_size {h h' : CHeap} {lam ep bp : Nat} {st : Stack} {c : VCell}
    (hr : makeClosure h lam ep bp st = .ok (h', c)) : h.cells.size ≤ h'.cells.size :=
  size_rel.makeClosure hr

theorem makeClosure_hg {h h' : CHeap} (g : HG h) {lam ep bp : Nat} {st : Stack} {c : VCell}
    (hl : NF h lam) (hn : NF h ep) (hr : makeClosure h lam ep bp st = .ok (h', c)) (sm : Small h') :
    HG h' ∧ Mono h h' ∧ VOk h' c ∧ h'.globals = h.globals := by
  unfold makeClosure at hr
  cases hla : lambdaAt h lam with
  | none => rw [hla] at hr; cases hr
  | some l =>
    rw [hla] at hr
    simp only at hr
    obtain ⟨slots, hs, hr⟩ := bind_inv hr
    cases hr
    have hno := (g.lam lam l (lambdaAt_iff.mp hla)).noIof
    have hso := closureSlots_ok g hn l.envmap hno slots hs
    have sm1 : Small (cput h (.lexEnv slots)).1 := sm.of_le (cput_size _ _)
    have r1 := cput_hg g (CRefsOk.lexEnv fun v hv => (hso v hv).2) (.lexEnv fun v hv => (hso v hv).1) sm1
    have hcr : CRefsOk (cput h (.lexEnv slots)).1 (.val (.closure lam (cput h (.lexEnv slots)).2)) := by
      intro y hy
      simp only [eraseC, eraseV, crefs, List.mem_cons, List.not_mem_nil, or_false] at hy
      rcases hy with rfl | rfl
      · exact hl.mono r1.mono
      · exact .inl r1.nf
    have r2 := cput_hg r1.hg hcr (.val rfl rfl) sm
    refine ⟨r2.hg, r1.mono.trans r2.mono, VOk.ptr (.inl r2.nf), by rw [r2.globals, r1.globals]⟩

theorem activationSlot_ok {h : CHeap} {env bp argc : Nat} {st : Stack} {olds : List VCell}
    (hc : h.cells[env]? = some (CCell.lexEnv olds))
    (hA : ∀ a v, a ≤ argc → argc - a ≤ bp → st.cells[bp - (argc - a) + 1]? = some v → VOk h v)
    {slot : Nat} {old : VCell} (ho : olds[slot]? = some old) (hso : SlotOk h old) (hro : VRefsOk h old) (hne : NF h env)
    {src : Source} {v : VCell} (hr : activationSlot env bp argc st slot old src = .ok v) :
    SlotOk h v ∧ VRefsOk h v := by
  have other : (∀ e n, old ≠ .lexEnvPtr e n) → SlotOk h (.lexEnvPtr env slot) ∧ VRefsOk h (.lexEnvPtr env slot) := by
    intro hp
    refine ⟨.inr ⟨env, slot, olds, old, rfl, hc, ho, hso.plain_of_not_ptr hp⟩, ?_⟩
    intro y hy
    have : y = env := by simpa [eraseV, vrefs] using hy
    subst this; exact hne
  cases src with
  | arg a =>
    simp only [activationSlot] at hr
    obtain ⟨d, h1, hr⟩ := bind_inv hr
    obtain ⟨base, h2, hr⟩ := bind_inv hr
    obtain ⟨l1, rfl⟩ := usub_ok h1
    obtain ⟨l2, rfl⟩ := usub_ok h2
    unfold Stack.get at hr
    split at hr
    · rename_i w hw
      cases hr
      have := hA a v l1 l2 hw
      exact ⟨.inl this.1, this.2⟩
    · cases hr
  | iofArg a =>
    cases old with
    | lexEnvPtr e n => simp only [activationSlot] at hr; cases hr; exact ⟨hso, hro⟩
    | _ => simp only [activationSlot] at hr; cases hr; exact other (by intro e n he; cases he)
  | iofEnv a =>
    cases old with
    | lexEnvPtr e n => simp only [activationSlot] at hr; cases hr; exact ⟨hso, hro⟩
    | _ => simp only [activationSlot] at hr; cases hr; exact other (by intro e n he; cases he)
  | global => simp only [activationSlot] at hr; cases hr; exact ⟨hso, hro⟩
  | internal => simp only [activationSlot] at hr; cases hr; exact ⟨hso, hro⟩

theorem activationSlots_mem {env bp argc : Nat} {st : Stack} :
    ∀ (em : List (VCell × Source)) (slot : Nat) (olds vs : List VCell),
      activationSlots env bp argc st slot olds em = .ok vs →
      vs.length = olds.length ∧ ∀ v ∈ vs, v ∈ olds ∨
        ∃ k old x, olds[k]? = some old ∧ x ∈ em ∧ activationSlot env bp argc st (slot + k) old x.2 = .ok v := by
  intro em
  induction em with
  | nil =>
    intro slot olds vs hr
    cases olds <;> (simp only [activationSlots] at hr; cases hr; exact ⟨rfl, fun v hv => .inl hv⟩)
  | cons x em ih =>
    intro slot olds vs hr
    cases olds with
    | nil => simp only [activationSlots] at hr; cases hr
    | cons old olds =>
      simp only [activationSlots] at hr
      obtain ⟨v1, h1, hr⟩ := bind_inv hr
      obtain ⟨vs1, h2, hr⟩ := bind_inv hr
      cases hr
      obtain ⟨hl, hm⟩ := ih (slot + 1) olds vs1 h2
      refine ⟨by simp [hl], fun v hv => ?_⟩
      rcases List.mem_cons.mp hv with rfl | hv
      · exact .inr ⟨0, old, x, rfl, List.mem_cons_self .., h1⟩
      · rcases hm v hv with hv | ⟨k, o, y, hk, hy, ha⟩
        · exact .inl (List.mem_cons_of_mem _ hv)
        · exact .inr ⟨k + 1, o, y, hk, List.mem_cons_of_mem _ hy, by rw [← Nat.add_assoc, Nat.add_right_comm]; exact ha⟩

theorem activationSlots_ok {h : CHeap} (g : HG h) {env bp argc : Nat} {st : Stack} {olds : List VCell}
    (hc : h.cells[env]? = some (CCell.lexEnv olds)) (hne : NF h env)
    (hA : ∀ a v, a ≤ argc → argc - a ≤ bp → st.cells[bp - (argc - a) + 1]? = some v → VOk h v)
    (em : List (VCell × Source)) (vs : List VCell) (hr : activationSlots env bp argc st 0 olds em = .ok vs)
    (v : VCell) (hv : v ∈ vs) : SlotOk h v ∧ VRefsOk h v := by
  rcases (activationSlots_mem em 0 olds vs hr).2 v hv with hm | ⟨k, old, x, ho, _, h1⟩
  · exact env_slot g hne hc hm
  · rw [Nat.zero_add] at h1
    obtain ⟨so, ro⟩ := env_slot g hne hc (List.mem_of_getElem? ho)
    exact activationSlot_ok hc hA ho so ro hne h1

theorem makeActivation_size {h h' : CHeap} {lam env bp : Nat} {st : Stack} {e : Nat}
    (hr : makeActivation h lam env bp st = .ok (h', e)) : h.cells.size ≤ h'.cells.size :=
  size_rel.makeActivation hr

theorem makeActivation_hg {h h' : CHeap} (g : HG h) {lam env bp : Nat} {st : Stack} {e : Nat} (hne : NF h env)
    (hA : ∀ l, lambdaAt h lam = some l → ∀ a v, a ≤ l.args.length → l.args.length - a ≤ bp →
      st.cells[bp - (l.args.length - a) + 1]? = some v → VOk h v)
    (hr : makeActivation h lam env bp st = .ok (h', e)) (sm : Small h') :
    HG h' ∧ Mono h h' ∧ (toHeap h').NonFree e ∧ h'.globals = h.globals := by
  unfold makeActivation at hr
  cases hla : lambdaAt h lam with
  | none => rw [hla] at hr; cases hr
  | some l =>
    rw [hla] at hr
    simp only at hr
    cases hat : envAt h env with
    | none => rw [hat] at hr; cases hr
    | some olds =>
      rw [hat] at hr
      simp only at hr
      obtain ⟨slots, hs, hr⟩ := bind_inv hr
      cases hr
      have hc := envAt_cell hat
      have hso := activationSlots_ok g hc hne (hA l hla) l.envmap slots hs
      have r1 := cput_hg g (CRefsOk.lexEnv fun v hv => (hso v hv).2) (.lexEnv fun v hv => (hso v hv).1) sm
      exact ⟨r1.hg, r1.mono, r1.nf, r1.globals⟩

theorem newCont_hg {h : CHeap} (g : HG h) {k : Cont} (hs : ∀ v ∈ k.stack.cells, VRefsOk h v) (hl : NF h k.ipL)
    (he : NF h k.ep) (hfull : k.stack.sp < k.stack.cells.length) (sm : Small (cput h (.cont k)).1) :
    HG (cput h (.cont k)).1 ∧ Mono h (cput h (.cont k)).1 ∧ VOk (cput h (.cont k)).1 (.ptr (cput h (.cont k)).2) ∧
      (cput h (.cont k)).1.globals = h.globals := by
  have r := cput_hg g (CRefsOk.cont hs hl he) (.cont hfull) sm
  exact ⟨r.hg, r.mono, VOk.ptr (.inl r.nf), r.globals⟩

end Marwood.Lemmas.Good
