import Marwood.Lemmas.EvalExtraMain
import Marwood.Lemmas.EvalWFMain
import Marwood.Lemmas.EvalMonoMain
/-!
# Extra-cell invariance, instantiated: cells appended to a well-formed store, one more binding

`shiftAt s k` keeps the locations below `s` and moves the others up by `k`. A well-formed state (no dangling
locations, `EvalWF`) is related by it to the same state with `k` more cells appended (`stRel_extend`), an environment
to itself with a binding of an unmentioned name in front (`envRel_shift_cons`). `binder_agree` is the common core of
the expansions `(let ((x t)) (if x A B))` of `or` and `cond`: evaluate `t`, allocate a variable for its value, run
the rest under the extra binding — against: evaluate `t`, run the rest.
-/
namespace Marwood.Spec.Eval.Extra
open Marwood Marwood.Spec.Eval

def shiftAt (s k : Nat) : LMap := fun l => if l < s then l else l + k

theorem shiftAt_lt {s k l : Nat} (h : l < s) : shiftAt s k l = l := by simp [shiftAt, h]

theorem shiftAt_ge {s k l : Nat} (h : s ≤ l) : shiftAt s k l = l + k := by
  have : ¬ l < s := by omega
  simp [shiftAt, this]

theorem inj_shiftAt (s k : Nat) : Inj (shiftAt s k) := by
  intro a b h
  unfold shiftAt at h
  split at h <;> split at h <;> omega

variable {f : LMap}

/-- a map that fixes every location an environment (below: a value, a cell) mentions relates it to itself -/
theorem lookRel_self {ρ : Env} (h : ∀ p ∈ ρ, f p.2 = p.2) (y : Text) : LookRel f (ρ.lookup y) (ρ.lookup y) := by
  induction ρ with
  | nil => exact .none
  | cons p ρ ih =>
    obtain ⟨x, l⟩ := p
    simp only [List.lookup_cons]
    split
    · have := LookRel.some (f := f) l
      rwa [h (x, l) (by simp)] at this
    · exact ih (fun p hp => h p (by simp [hp]))

theorem envRel_self {ρ : Env} (h : ∀ p ∈ ρ, f p.2 = p.2) (B : List Text) : EnvRel f B ρ ρ :=
  fun y _ => lookRel_self h y

def FixesVal (f : LMap) : Val → Prop
  | .pair l | .vec l | .promise l => f l = l
  | .closure _ _ _ ρ => ∀ p ∈ ρ, f p.2 = p.2
  | _ => True

theorem vRel_self {v : Val} (h : FixesVal f v) : VRel f v v := by
  cases v with
  | pair l => have := VRel.pair (f := f) l; rwa [show f l = l from h] at this
  | vec l => have := VRel.vec (f := f) l; rwa [show f l = l from h] at this
  | promise l => have := VRel.promise (f := f) l; rwa [show f l = l from h] at this
  | closure ps rest body ρ => exact .closure ps rest body ρ ρ [] (envRel_self h []) (fun d _ => cleanB_nil d)
  | bool b => exact .bool b
  | char c => exact .char c
  | nil => exact .nil
  | int n => exact .int n
  | str s => exact .str s
  | sym s => exact .sym s
  | prim p => exact .prim p
  | void => exact .void
  | undef => exact .undef

theorem vsRel_self {vs : List Val} (h : ∀ v ∈ vs, FixesVal f v) : VsRel f vs vs := by
  induction vs with
  | nil => exact .nil
  | cons v vs ih => exact .cons (vRel_self (h v (by simp))) (ih (fun w hw => h w (by simp [hw])))

theorem fixes_of_ok {s k : Nat} {v : Val} (h : ValOK s v) : FixesVal (shiftAt s k) v := by
  cases v <;> simp only [ValOK, FixesVal] at h ⊢ <;>
    first
      | exact shiftAt_lt h
      | (intro p hp; exact shiftAt_lt (h p hp))
      | trivial

theorem fixes_id (v : Val) : FixesVal (fun l => l) v := by
  cases v <;> simp [FixesVal]

theorem cellRel_self {c : Cell} (h : ∀ v, (match c with
    | .var w => v = w | .pair a d => v = a ∨ v = d | .vec xs => v ∈ xs | .promise _ w => v = w) → FixesVal f v) :
    CellRel f c c := by
  cases c with
  | var w => exact .var (vRel_self (h w rfl))
  | pair a d => exact .pair (vRel_self (h a (Or.inl rfl))) (vRel_self (h d (Or.inr rfl)))
  | vec xs => exact .vec (vsRel_self (fun v hv => h v hv))
  | promise b w => exact .promise b (vRel_self (h w rfl))

theorem cellRel_shift_self {s k : Nat} {c : Cell} (h : CellOK s c) : CellRel (shiftAt s k) c c := by
  apply cellRel_self
  intro v hv
  cases c with
  | var w => subst hv; exact fixes_of_ok h
  | pair a d => rcases hv with rfl | rfl; exact fixes_of_ok h.1; exact fixes_of_ok h.2
  | vec xs => exact fixes_of_ok (h v hv)
  | promise b w => subst hv; exact fixes_of_ok h

theorem stRel_id (st : St) : StRel (fun l => l) st st := by
  refine ⟨?_, fun _ => rfl, Nat.le_refl _, rfl, ?_⟩
  · intro l c h
    refine ⟨c, h, cellRel_self (fun v _ => fixes_id v)⟩
  · intro y
    cases st.globals.lookup y with
    | none => exact .none
    | some v => exact .some (vRel_self (fixes_id v))

theorem stRel_extend {st : St} (hst : WFSt st) (k : Nat) (σ' : Array Cell) (hsz : σ'.size = st.store.size + k)
    (hpre : ∀ l, l < st.store.size → σ'[l]? = st.store[l]?) :
    StRel (shiftAt st.store.size k) st { st with store := σ' } := by
  refine ⟨?_, ?_, by simp [hsz], rfl, ?_⟩
  · intro l c h
    have hl := get_lt h
    refine ⟨c, ?_, cellRel_shift_self (hst.store l c h)⟩
    rw [shiftAt_lt hl]
    show σ'[l]? = some c
    rw [hpre l hl, h]
  · intro i
    rw [shiftAt_ge (Nat.le_add_right _ _)]
    show _ = σ'.size + i
    omega
  · intro y
    cases h : st.globals.lookup y with
    | none => exact .none
    | some v => exact .some (vRel_self (fixes_of_ok (hst.globals y v h)))

/-- the cells of `σ'` from `n` up to `n + k`, as a frame -/
def junkX (n k : Nat) (σ' : Array Cell) : ExtraJ.Junk := fun l' => if n ≤ l' ∧ l' < n + k then σ'[l']? else none

theorem stRelJ_extend {st : St} (hst : WFSt st) (k : Nat) (σ' : Array Cell) (hsz : σ'.size = st.store.size + k)
    (hpre : ∀ l, l < st.store.size → σ'[l]? = st.store[l]?) :
    ExtraJ.StRelJ (shiftAt st.store.size k) (junkX st.store.size k σ') st { st with store := σ' } := by
  refine ⟨stRel_extend hst k σ' hsz hpre, ?_, ?_⟩
  · intro l' c h
    simp only [junkX] at h
    split at h
    · exact h
    · cases h
  · intro l
    simp only [junkX]
    rw [if_neg]
    unfold shiftAt
    split <;> omega

theorem stRelJ_push {st : St} (hst : WFSt st) (c : Cell) :
    ExtraJ.StRelJ (shiftAt st.store.size 1) (junkX st.store.size 1 (st.store.push c)) st { st with store := st.store.push c } := by
  refine stRelJ_extend hst 1 _ (by simp) ?_
  intro l hl
  simp only [Array.getElem?_push]
  rw [if_neg (by omega)]

theorem stRel_push {st : St} (hst : WFSt st) (c : Cell) :
    StRel (shiftAt st.store.size 1) st { st with store := st.store.push c } := (stRelJ_push hst c).toStRel

theorem envRel_shift_cons {s k : Nat} {ρ : Env} (hρ : EnvOK s ρ) (x : Text) (l : Loc) :
    EnvRel (shiftAt s k) [x] ρ ((x, l) :: ρ) := by
  intro y hy
  have hne : (y == x) = false := by
    simp only [List.mem_singleton] at hy
    simpa using hy
  simp only [List.lookup_cons, hne]
  exact lookRel_self (fun p hp => shiftAt_lt (hρ p hp)) y

theorem ResRel.definite {α α' : Type} {R : α → α' → Prop} {res : Res α} {res' : Res α'} (h : ResRel f R res res')
    (hd : res ≠ .timeout) : res' ≠ .timeout := by
  cases res with
  | ok a s => obtain ⟨a', s', rfl, _⟩ := h.ok_inv; simp
  | err e s => obtain ⟨s', rfl, _⟩ := h.err_inv; simp
  | timeout => exact absurd rfl hd

theorem ResRel.le {α α' : Type} {R : α → α' → Prop} {m : M α} {m' m'' : M α'} {st st' : St}
    (h : ResRel f R (m st) (m' st')) (hd : m st ≠ .timeout) (hle : Le m' m'') : ResRel f R (m st) (m'' st') := by
  rw [hle st' (h.definite hd)]
  exact h

/-- **The common core of the binder-introducing expansions.** `K r ρ v`: the rest of the computation after the test
    `t` has yielded `v`, simulated under any location map and environments that agree off `x` (`hK`). `K' l v`: what
    the expansion runs after allocating `x` at `l`; just after that allocation it refines `K` under the extra binding
    (`hK'`). From a well-formed state: if "`t`, then `K`" under `guardN n` is definite, then "`t` (fuel `n + j`), a
    fresh variable holding its value, then `K'`" has the same outcome up to a location map fixing the initial store. -/
theorem binder_agree (x : Text) (t : Datum) (K : Rec → Env → Val → M Val)
    (hK : ∀ (f : LMap), Inj f → ∀ (r r' : Rec), RecSimD f (fun _ => none) .left r r' → ∀ (ρ ρ' : Env), EnvRel f [x] ρ ρ' →
      ∀ (v v' : Val), VRel f v v' → SimD f (fun _ => none) .left (VRel f) (K r ρ v) (K r' ρ' v'))
    (n j : Nat) (ρ : Env) (st : St) (hst : WFSt st) (hρ : EnvOK st.store.size ρ) (K' : Loc → Val → M Val)
    (hK' : ∀ (v : Val) (s1 : St),
      K (evalN n) ((x, s1.store.size) :: ρ) v { s1 with store := s1.store.push (.var v) } ≠ .timeout →
      K' s1.store.size v { s1 with store := s1.store.push (.var v) } =
        K (evalN n) ((x, s1.store.size) :: ρ) v { s1 with store := s1.store.push (.var v) })
    (hd : ((guardN n).eval t ρ >>= fun v => K (guardN n) ρ v) st ≠ .timeout) :
    ∃ f, Inj f ∧ (∀ l, l < st.store.size → f l = l) ∧
      ResRel f (VRel f) (((guardN n).eval t ρ >>= fun v => K (guardN n) ρ v) st)
        (((evalN (n + j)).eval t ρ >>= fun v => allocCell (.var v) >>= fun l => K' l v) st) := by
  have hd' : M.bind' ((guardN n).eval t ρ) (fun v => K (guardN n) ρ v) st ≠ .timeout := hd
  show ∃ f, Inj f ∧ _ ∧ ResRel f (VRel f) (M.bind' ((guardN n).eval t ρ) (fun v => K (guardN n) ρ v) st)
    (M.bind' ((evalN (n + j)).eval t ρ) (fun v => M.bind' (allocCell (.var v)) fun l => K' l v) st)
  unfold M.bind' at hd' ⊢
  cases h : (guardN n).eval t ρ st with
  | timeout => rw [h] at hd'; exact absurd rfl hd'
  | err e s1 =>
    have h1 : (evalN n).eval t ρ st = .err e s1 := by
      rw [guardN_eval_evalN n t ρ st (by rw [h]; simp), h]
    have h2 : (evalN (n + j)).eval t ρ st = .err e s1 := by
      rw [evalN_mono (Nat.le_add_right n j) t ρ st (by rw [h1]; simp), h1]
    simp only [h2]
    exact ⟨fun l => l, inj_id, fun _ _ => rfl, rfl, stRel_id s1⟩
  | ok v s1 =>
    rw [h] at hd'
    simp only at hd'
    have h1 : (evalN n).eval t ρ st = .ok v s1 := by
      rw [guardN_eval_evalN n t ρ st (by rw [h]; simp), h]
    have h2 : (evalN (n + j)).eval t ρ st = .ok v s1 := by
      rw [evalN_mono (Nat.le_add_right n j) t ρ st (by rw [h1]; simp), h1]
    have hwf := wf_evalN n t ρ st hst hρ
    rw [h1] at hwf
    obtain ⟨hs1, hgrow, hv⟩ := hwf
    simp only [h2, allocCell]
    refine ⟨shiftAt s1.store.size 1, inj_shiftAt _ _, fun l hl => shiftAt_lt (Nat.lt_of_lt_of_le hl hgrow), ?_⟩
    have hsim := sim_iff.2 (hK (shiftAt s1.store.size 1) (inj_shiftAt _ _) (guardN n) (evalN n) (recSimD (inj_shiftAt _ _) n)
      ρ ((x, s1.store.size) :: ρ) (envRel_shift_cons (hρ.mono hgrow) x _) v v (vRel_self (fixes_of_ok hv)))
      s1 { s1 with store := s1.store.push (.var v) } (stRel_push hs1 _)
    rw [hK' v s1 (hsim.definite hd')]
    exact hsim

end Marwood.Spec.Eval.Extra
namespace Marwood.Spec.Eval.Derived
open Marwood Marwood.Spec.Eval Marwood.Spec.Eval.Extra

theorem shiftAt_le (s k l : Nat) : shiftAt s k l ≤ l + k := by
  unfold shiftAt; split <;> omega

theorem envRel_shift_self {s k : Nat} {ρ : Env} (hρ : EnvOK s ρ) : EnvRel (shiftAt s k) [] ρ ρ :=
  envRel_self (fun p hp => shiftAt_lt (hρ p hp)) []

end Marwood.Spec.Eval.Derived
