import Marwood.Lemmas.MachineGarbage
import Marwood.Lemmas.PolicyAllocBound
import Marwood.Lemmas.PolicyAfter
/-!
# A collection of the concrete machine is a `gcPoint` of the policy specification (C12, session level)

`cgc force s` (`Vm/ConcreteHeap.lean`: `Heap.runGc` of the C03 model through the erasure, result copied back by
`liftGc`) acts on `(chunk, capacity, used)` as `HeapPolicy.gcPoint force (liveCount s)`; in the vocabulary of
`PolicyRun.HRun`, one step from `toHeap s.heap` to `toHeap (cgc force s).heap`.

Asked of the state the collection sees (`GcOk`): the invariant `GoodI`, the decoding discipline `CodePlain`, and
`Small` of the heap the collection returns, to tell addresses from the `usize::MAX` sentinel (`Small` is
`2·size ≤ 2^63`; `size ≤ 2^63` is what is used).
-/
namespace Marwood.Lemmas.PolicySessionGc
open Marwood Marwood.Vm Marwood.Vm.Concrete Marwood.Lemmas.Sim Marwood.Lemmas.Good
open Marwood.Heap (GcState Heap WFHeap RootsOk Roots)
open Marwood.Spec Marwood.Spec.HeapPolicy
open Marwood.Lemmas.GcSafety Marwood.Lemmas.HeapOps Marwood.Lemmas.HeapWF Marwood.Lemmas.PolicyGc
open Marwood.Lemmas.PolicyPlain Marwood.Lemmas.PolicyRefine Marwood.Lemmas.PolicyRun Marwood.Lemmas.PolicyCount
open Marwood.Lemmas.PolicyAlloc Marwood.Lemmas.MachineGarbage
open Classical

/-- live data of a machine state: the cells reachable through semantic references from the roots `run_gc`
    enumerates (global bindings, stack up to `sp`, `acc`, running code, current environment) -/
noncomputable def liveCount (s : St CHeap) : Nat :=
  ((List.range s.heap.cells.size).filter fun x => decide (Live (toHeap s.heap) (rootsOf s) x)).length

theorem liveCount_le_size (s : St CHeap) : liveCount s ≤ s.heap.cells.size := by
  unfold liveCount
  have := List.length_filter_le (fun x => decide (Live (toHeap s.heap) (rootsOf s) x)) (List.range s.heap.cells.size)
  simpa using this

structure GcOk (force : Bool) (s : St CHeap) : Prop where
  good : GoodI s
  code : CodePlain s.heap
  small : Small (cgc force s).heap

theorem filter_range_extend (p : Nat → Bool) (n n' : Nat) (hle : n ≤ n') (hp : ∀ x, p x = true → x < n) :
    ((List.range n').filter p).length = ((List.range n).filter p).length := by
  obtain ⟨d, rfl⟩ := Nat.exists_eq_add_of_le hle
  rw [List.range_add, List.filter_append, List.length_append]
  have : (List.map (fun x => n + x) (List.range d)).filter p = [] := by
    rw [List.filter_eq_nil_iff]
    intro a ha
    obtain ⟨b, _, rfl⟩ := List.mem_map.mp ha
    intro hpa
    have := hp _ hpa
    omega
  rw [this]; rfl

theorem runGc_total (force : Bool) (h : Heap) (r : Roots) (wf : WFHeap true h) (hr : RootsOk h (r.refs true)) :
    Heap.runGc true force h r = .ok (.skipped h) ∨ ∃ h', Heap.runGc true force h r = .ok (.collected h') := by
  obtain ⟨h1, h2, hm, hsw, cs⟩ := collect_spec true h (r.refs true) wf.sizes wf.no_used
  have wf2 := collect_wf true h (r.refs true) h2 wf hr cs
  obtain ⟨h3, hg, _, _⟩ := grow_spec h2 wf2.sizes wf2.shape
  unfold Heap.runGc
  simp only [usedSize_ok wf.toWFCore, bind, Except.bind, hm, hsw, usedSize_ok wf2.toWFCore, hg]
  by_cases hskip : (!force && !Heap.utilAtLeast34 (h.capacity - h.freeSize) h.capacity) = true
  · exact .inl (if_pos hskip)
  · rw [if_neg hskip]
    by_cases hab : Heap.utilAbove34 (h2.capacity - h2.freeSize) h2.capacity = true
    · exact .inr ⟨h3, if_pos hab⟩
    · exact .inr ⟨h2, if_neg hab⟩

theorem cgc_erase {force : Bool} {s : St CHeap} (g : GoodI s) (sm : Small (cgc force s).heap) {h' : Heap}
    (hrun : Heap.runGc true force (toHeap s.heap) (rootsOf s) = .ok (.collected h')) :
    toHeap (cgc force s).heap = h' ∧ rootsOf (cgc force s) = rootsOf s ∧ h'.cells.size ≤ 2 ^ 63 ∧ WFHeap true h' ∧
      GcSpec true (toHeap s.heap) ((rootsOf s).refs true) h' := by
  have wf := g.hg.wf
  have e : cgc force s = { s with heap := liftGc s.heap h' } := by simp only [cgc, hrun]
  have hb' : h'.cells.size ≤ 2 ^ 63 := by
    rw [e] at sm
    have : 2 * h'.cells.size ≤ 2 ^ 63 := by simpa [Small, liftGc] using sm
    omega
  have wf' := runGc_wf true force _ _ h' wf g.roots hb' hrun
  have gs := runGc_spec true force _ _ h' wf.sizes wf.no_used wf.shape hrun
  exact ⟨by rw [e]; exact (lifted wf wf' gs).erase, by rw [e]; rfl, hb', wf', gs⟩

theorem cgc_collected {force : Bool} {s : St CHeap} (ok : GcOk force s) {h' : Heap}
    (hrun : Heap.runGc true force (toHeap s.heap) (rootsOf s) = .ok (.collected h')) :
    toHeap (cgc force s).heap = h' ∧ WFHeap true h' ∧ (proj h').used = liveCount s := by
  have wf := ok.good.hg.wf
  have hph := plainHeap_toHeap ok.good.hg.plain ok.code
  have hpr := plainRoots_rootsOf (s := s) ok.good.hg.plain
  obtain ⟨eh, _, _, wf', gs⟩ := cgc_erase ok.good ok.small hrun
  refine ⟨eh, wf', ?_⟩
  show h'.cells.size - h'.free.length = _
  rw [used_eq_count_nonFree true h' wf'.toWFCore]
  have hiff : ∀ x, h'.NonFree x ↔ Live (toHeap s.heap) (rootsOf s) x := by
    intro x
    rw [gcSpec_nonFree_iff true _ _ h' gs x]
    exact reachable_iff_live _ _ wf.sizes hph hpr x
  have hsz : (toHeap s.heap).cells.size = s.heap.cells.size := by simp [toHeap]
  unfold liveCount
  have hcongr : ((List.range h'.cells.size).filter fun x => decide (h'.NonFree x)) =
      ((List.range h'.cells.size).filter fun x => decide (Live (toHeap s.heap) (rootsOf s) x)) := by
    apply List.filter_congr
    intro x _
    simp only [decide_eq_decide]
    exact hiff x
  rw [hcongr]
  apply filter_range_extend
  · rw [← hsz]; exact gs.size_le
  · intro x hx
    rw [← hsz]
    exact GcMark.reach_lt _ (of_decide_eq_true hx)

theorem cgc_is_gcPoint {force : Bool} {s : St CHeap} (ok : GcOk force s) :
    proj (toHeap (cgc force s).heap) = gcPoint force (liveCount s) (proj (toHeap s.heap)) ∧
    HInv (cgc force s).heap ∧
    ∀ (ops : List HeapPolicy.Op) (hf : Heap), HRun true (toHeap (cgc force s).heap) ops hf →
      HRun true (toHeap s.heap) (.gcPoint force (liveCount s) :: ops) hf := by
  have g := ok.good
  have wf := g.hg.wf
  have pre : Pre (toHeap s.heap) := pre_of_inv (HInv.of_wf wf)
  rcases runGc_total force _ (rootsOf s) wf g.roots with hrun | ⟨h', hrun⟩
  · have e : cgc force s = s := by simp only [cgc, hrun]
    have hr := runGc_refines true force _ _ _ wf.sizes wf.no_used wf.shape hrun
    simp only at hr
    rw [e]
    refine ⟨?_, HInv.of_wf wf, fun ops hf h => .skipped pre hrun h⟩
    unfold gcPoint
    rw [hr.2]; rfl
  · obtain ⟨eh, wf', hu⟩ := cgc_collected ok hrun
    have hr := runGc_refines true force _ _ _ wf.sizes wf.no_used wf.shape hrun
    simp only at hr
    rw [eh]
    refine ⟨by rw [← hu]; exact hr.2, HInv.of_wf (by rw [eh]; exact wf'), ?_⟩
    intro ops hf h
    rw [← hu]
    exact .collected pre hrun h

theorem gcPoint_capacity_le (force : Bool) (live : Nat) (p : PState) (hle : p.capacity ≤ Heap.grownSize p.chunk p.capacity) :
    (gcPoint force live p).capacity ≤ Heap.grownSize p.chunk p.capacity := by
  unfold gcPoint
  split
  · split
    · exact Nat.le_refl _
    · exact hle
  · exact hle

end Marwood.Lemmas.PolicySessionGc
