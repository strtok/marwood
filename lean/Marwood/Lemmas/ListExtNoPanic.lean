import Marwood.Vm.ListExt
import Marwood.Lemmas.ListExtCode
import Marwood.Lemmas.NoPanicDefs
/-!
# `ExtNoPanic (listExtWith eqTag)`: the real builtins never panic and create neither continuation nor lambda cells

Holds WITHOUT the premises the law offers (`HG h`, allocated value arguments): no builtin of the table has a panic site —
the selectors and `set-car!` / `set-cdr!` dispatch on the dereferenced cell (a missing cell reads as `Undefined` and fails with
an error), `cons` allocates (`heap.put` grows the heap when the free list is empty), the predicates only read; the returned
heap is reached by `Eff` (Lemmas/ListExtCode.lean), which keeps a clause about continuation or lambda cells (`Eff.all`);
`eval`'s compiler and VPUSH's push fail in `listExtWith`, as in `failingExt`.
-/
namespace Marwood.Lemmas.Good
open Marwood Marwood.Vm Marwood.Vm.Verify Marwood.Vm.Concrete Marwood.Vm.Concrete.ListExt Marwood.Lemmas.Sim

section
variable (eqTag : String → String → Bool)

theorem evalCar_np (first : Bool) (h : CHeap) (x : VCell) : Outcome.NoPanic (evalCar first h x) := by
  intro m e
  unfold evalCar at e
  split at e <;> cases e

theorem evalCons_np (h : CHeap) (d a : VCell) : Outcome.NoPanic (evalCons h d a) := by
  simp only [evalCons]
  refine pin_bind (asPtr_np _) (fun dp _ => ?_)
  refine pin_bind (asPtr_np _) (fun ap _ => ?_)
  exact pin_ok _

theorem evalSetPair_np (first : Bool) (h : CHeap) (obj pair : VCell) :
    Outcome.NoPanic (evalSetPair first h obj pair) := by
  simp only [evalSetPair]
  split
  · refine pin_bind (asPtr_np _) (fun o _ => ?_)
    refine pin_bind (asPtr_np _) (fun p _ => ?_)
    exact pin_ok _
  · exact pin_err _

theorem evalPrim_np (p : Prim) (h : CHeap) (args : List VCell) : Outcome.NoPanic (evalPrim eqTag p h args) := by
  match args with
  | [] => cases p <;> exact pin_err _
  | [x] =>
    cases p with
    | car => exact evalCar_np true h x
    | cdr => exact evalCar_np false h x
    | pred q => exact pin_ok _
    | _ => exact pin_err _
  | [x, y] =>
    cases p with
    | cons => exact evalCons_np h x y
    | setCar => exact evalSetPair_np true h x y
    | setCdr => exact evalSetPair_np false h x y
    | eq => exact pin_ok _
    | _ => exact pin_err _
  | _ :: _ :: _ :: _ => cases p <;> exact pin_err _

theorem builtinEval_np (h : CHeap) (id : Nat) (args : List VCell) :
    Outcome.NoPanic ((listExtWith eqTag).builtinEval h id args) := by
  show Outcome.NoPanic (ListExt.builtinEval eqTag h id args)
  unfold ListExt.builtinEval
  cases primOf id with
  | none => exact pin_err _
  | some p => exact evalPrim_np eqTag p h args

end

theorem Eff.all {Q : CCell → Prop} (q : QFree Q) {h h' : CHeap} (e : Eff h h') (a : AllCells Q h) :
    AllCells Q h' := by
  induction e with
  | refl h => exact a
  | put v _ ih => exact ih (putV_all q a v)
  | write p w _ _ ih => exact ih (cwrite_all a p (q.val w))

theorem listExtWith_noPanic (eqTag : String → String → Bool) : ExtNoPanic (listExtWith eqTag) where
  builtinEval_np := fun h id args _ _ => builtinEval_np eqTag h id args
  compileEval_np := fun _ _ _ _ => pin_err _
  vectorPush_np := fun _ _ _ _ _ _ => pin_err _
  builtinEval_cont := fun n he a => Eff.all (contQ_free n) (builtinEval_eff eqTag he) a
  compileEval_cont := fun _ h => (by cases h)
  vectorPush_cont := fun _ h => (by cases h)
  builtinEval_lam := fun he a => Eff.all lamQ_free (builtinEval_eff eqTag he) a
  compileEval_lam := fun h => (by cases h)
  vectorPush_lam := fun h => (by cases h)

theorem listExt_noPanic : ExtNoPanic listExt := listExtWith_noPanic _

end Marwood.Lemmas.Good
