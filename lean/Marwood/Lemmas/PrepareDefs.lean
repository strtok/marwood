import Marwood.Lemmas.CompileVerifiesCInv
import Marwood.Lemmas.MachineGarbage
import Marwood.Vm.PrepareCheck
/-!
# What `prepare_eval` does to the machine: the relation `Installs`

`Vm.prepare` (Vm/Eval.lean) takes the entry lambda as given: the compiler (`compile_runnable`, compile.rs) and the loader
(`Heap::put` / `put_cell` / `maybe_put_cell`, heap.rs; `GlobalEnvironment::get_binding`, environment.rs) run before it and
are outside `runEval` / `runHistory`. Their effect on a state of the concrete machine is described here as a relation;
Lemmas/PrepareMain.lean proves that it re-establishes the machine invariant, so that the history-level theorems (C07, C12,
C06) need the invariant of the INITIAL state only.

`prepare_eval` only ever ALLOCATES (no existing cell, global slot or register is written), in allocator steps:
* `cell`: `Heap::put` of a non-symbol value, `cput h c`, with `c` a data cell of `put_cell` / `maybe_put_cell` (`val (pair a d)`,
  an address-free non-symbol `val v`, a `vector`) or a lambda cell whose code object satisfies `Q`; the addresses the
  collector follows from `c` are allocated at that moment (`CRefsOk`: children are put first) and no value position of `c`
  designates entry code (`cellPB`: the entry lambda is put last and nothing refers to it);
* `sym`: interning a new symbol; `glob`: `get_binding` of a symbol without binding, a new slot holding `Undefined` (the
  allocation the known finding `C12-undefined-global-binding` is about);
* `resym`: only the REPRESENTATION of the symbol table / the binding keys changes (hash maps in Rust, listed sorted in the
  snapshots): same lookup function, same key set.

`Q` is the requirement on new code objects, relative to the heap they are put into. For a compiled form `e` it is
`LoadedQ e fuel h`: a loading (`Enc`, Vm/Encode.lean) of a code object of the compiler model's `compileRunnable e fuel` whose
immediates are loaded as `ImmLoaded` says. A form the real compiler rejects may leave cells behind (constants, symbols,
global slots, inner lambdas compiled before the error): `InstallsGarbage`, the same steps with `Q := CodeOkH`, the clauses
the invariants state of EVERY lambda cell (there is no model code object to relate to); `prepare_eval` then collects
(`self.run_gc()` in the `Err` arm).
-/
namespace Marwood.Lemmas.Good
open Marwood Marwood.Vm Marwood.Vm.Verify Marwood.Vm.Concrete Marwood.Lemmas.Sim
open Marwood.Lemmas.MachineGarbage
open Marwood.Heap (GcState)

/-- the two facts about the formals of a code object that ENTER / VARARG rely on (`LamNP` of
    Lemmas/NoPanicDefs.lean, restated here so that this file does not depend on it) -/
structure NPArgs (cl : CLambda) : Prop where
  vararg : VCell.opcode .varArg ∈ cl.bc → 1 ≤ cl.args.length
  argSrc : ∀ p ∈ cl.envmap, ∀ a, p.2 = Source.arg a → a ≤ cl.args.length

structure CodeOk (cl : CLambda) : Prop where
  ver : (verifyLam cl.bc).isSome = true
  noIof : ∀ x ∈ cl.envmap, ∀ n, x.2 ≠ Source.iofArg n
  args : argNeed cl.bc ≤ cl.args.length
  lamOk : LamOk cl
  np : NPArgs cl
  plain : Marwood.Spec.plainBc 0 (cl.bc.map eraseV) = true

/-- the two clauses `EnvInv` states of a lambda cell, relative to the heap `h` the code object is put into: no MOVIMM /
    PUSHIMM immediate points to a capturing lambda except at `MOVIMM _ %acc; CLOSURE`; the lambda loaded at such a site has
    `IofEnvironment` indices below the length of this object's map, and no PUSHIMM immediate is an `InstructionPointer` -/
structure LamEnvOk (h : CHeap) (cl : CLambda) : Prop where
  imm : immTF (capAt h) cl.bc = true
  sites : sitesFB h cl = true

structure CodeOkH (h : CHeap) (cl : CLambda) : Prop where
  code : CodeOk cl
  env : LamEnvOk h cl

def isDataBC : BC → Bool
  | .datum _ | .newVector => true
  | _ => false

/-- **what the loader guarantees of the immediates of a new code object `cl`, a loading of the model's `m`**, in the heap it
    is put into (`tbl`: the code-object table the `lambda id` cells of the model index): the cell loaded for quoted data does
    not point to a capturing lambda; the pointer loaded for `lambda id` points to a lambda cell holding a loading of code
    object `id`, and every `IofEnvironment(k)` entry of THAT object's map carries the slot `EnvironmentMap::new_from_iof`
    computes (`k = iof.envmap.get_slot(sym)`: slot `k` of this object's own map holds the same symbol). -/
structure ImmLoaded (tbl : List LambdaM) (h : CHeap) (m : LambdaM) (cl : CLambda) : Prop where
  data : ∀ (j : Nat) (b : BC) (v : VCell), m.bc[j]? = some b → isDataBC b = true → cl.bc[j]? = some v → neE h v = true
  lam : ∀ (j id a : Nat), m.bc[j]? = some (BC.lambda id) → cl.bc[j]? = some (VCell.ptr a) →
    ∃ m' cl', tbl[id]? = some m' ∧ lambdaAt h a = some cl' ∧ LoadedLam m' cl' ∧
      ∀ y ∈ cl'.envmap, ∀ k, y.2 = Source.iofEnv k → ∃ z, cl.envmap[k]? = some z ∧ z.1 = y.1

structure LoadedQ (e : Datum) (fuel : Nat) (h : CHeap) (cl : CLambda) : Prop where
  comp : ∃ st lam ent m, compileRunnable e fuel = .ok (st, lam, ent) ∧ (m = lam ∨ m ∈ st.lambdas ∨ m = ent) ∧
    LoadedLam m cl ∧ ImmLoaded (st.lambdas ++ [lam]) h m cl
  np : NPArgs cl
  plain : Marwood.Spec.plainBc 0 (cl.bc.map eraseV) = true

theorem LoadedQ.compiledFor {e : Datum} {fuel : Nat} {h : CHeap} {cl : CLambda} (q : LoadedQ e fuel h cl) :
    CompiledFor e fuel cl := by
  obtain ⟨st, lam, ent, m, a, b, c, _⟩ := q.comp
  exact ⟨st, lam, ent, m, a, b, c⟩

theorem LoadedQ.codeOk {e : Datum} {fuel : Nat} {h : CHeap} {cl : CLambda} (q : LoadedQ e fuel h cl) : CodeOk cl := by
  obtain ⟨a, b, c, d⟩ := compiledFor_ok q.compiledFor
  exact ⟨a, b, c, d, q.np, q.plain⟩

inductive NewCellOk (Q : CLambda → Prop) : CCell → Prop
  | pair (a d : Nat) : NewCellOk Q (.val (.pair a d))
  | atom {v : VCell} : addrFree v = true → symOf v = none → NewCellOk Q (.val v)
  | vector (es : List VCell) : NewCellOk Q (.vector es)
  | lambda {cl : CLambda} : Q cl → NewCellOk Q (.lambda cl)

inductive InstStep (Q : CHeap → CLambda → Prop) : CHeap → CHeap → Prop
  | cell {h : CHeap} {c : CCell} : NewCellOk (Q h) c → CRefsOk h c → cellPB h c = true → dataEB h c = true →
      InstStep Q h (cput h c).1
  | sym {h : CHeap} {v : VCell} {name : Text} : symOf v = some name → symLookup h name = none →
      InstStep Q h (putNew h v).1
  | glob {h : CHeap} {y : Nat} : (toHeap h).NonFree y →
      InstStep Q h { h with globSyms := y :: h.globSyms, globals := h.globals.push .undefined }
  | resym {h : CHeap} {tab : List (Text × Nat)} {gs : List Nat} :
      (∀ name, symLookup { h with symtab := tab } name = symLookup h name) → (∀ y, y ∈ gs ↔ y ∈ h.globSyms) →
      InstStep Q h { h with symtab := tab, globSyms := gs }

inductive InstSteps (Q : CHeap → CLambda → Prop) : CHeap → CHeap → Prop
  | refl (h : CHeap) : InstSteps Q h h
  | step {h h1 h2 : CHeap} : InstStep Q h h1 → InstSteps Q h1 h2 → InstSteps Q h h2

theorem InstSteps.trans {Q : CHeap → CLambda → Prop} {a b c : CHeap} (x : InstSteps Q a b) (y : InstSteps Q b c) :
    InstSteps Q a c := by
  induction x with
  | refl _ => exact y
  | step s _ ih => exact .step s (ih y)

theorem InstSteps.one {Q : CHeap → CLambda → Prop} {a b : CHeap} (x : InstStep Q a b) : InstSteps Q a b := .step x (.refl _)

theorem NewCellOk.mono {Q Q' : CLambda → Prop} (hq : ∀ cl, Q cl → Q' cl) {c : CCell} (x : NewCellOk Q c) :
    NewCellOk Q' c := by
  cases x with
  | pair a d => exact .pair a d
  | atom h1 h2 => exact .atom h1 h2
  | vector es => exact .vector es
  | lambda q => exact .lambda (hq _ q)

theorem InstStep.mono {Q Q' : CHeap → CLambda → Prop} (hq : ∀ h cl, Q h cl → Q' h cl) {h h' : CHeap} (x : InstStep Q h h') :
    InstStep Q' h h' := by
  cases x with
  | cell a b c d => exact .cell (a.mono (hq _)) b c d
  | sym a b => exact .sym a b
  | glob a => exact .glob a
  | resym a b => exact .resym a b

theorem InstSteps.mono {Q Q' : CHeap → CLambda → Prop} (hq : ∀ h cl, Q h cl → Q' h cl) {h h' : CHeap} (x : InstSteps Q h h') :
    InstSteps Q' h h' := by
  induction x with
  | refl _ => exact .refl _
  | step s _ ih => exact .step (s.mono hq) ih

/-- **a successful `prepare_eval` on the concrete machine**: registers and stack unchanged; the heap grew by allocator steps
    installing loadings of the code objects of `compileRunnable e fuel`, their quoted data, symbols and global slots; cell
    `entry` holds a loading of the entry lambda -/
structure Installs (e : Datum) (fuel : Nat) (s s' : St CHeap) (entry : Nat) : Prop where
  regs : s' = { s with heap := s'.heap }
  steps : InstSteps (LoadedQ e fuel) s.heap s'.heap
  entryLam : ∃ st lam ent cl, compileRunnable e fuel = .ok (st, lam, ent) ∧
    s'.heap.cells[entry]? = some (CCell.lambda cl) ∧ LoadedLam ent cl
  entryNF : (toHeap s'.heap).NonFree entry
  /-- checked by `installsB`; no theorem needs it -/
  entryFresh : ¬ (toHeap s.heap).NonFree entry

/-- **what a rejected form may leave behind** before the collection that ends the `Err` arm of `prepare_eval` -/
structure InstallsGarbage (s s' : St CHeap) : Prop where
  regs : s' = { s with heap := s'.heap }
  steps : InstSteps CodeOkH s.heap s'.heap

end Marwood.Lemmas.Good
