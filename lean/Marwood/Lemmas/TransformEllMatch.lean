import Marwood.Lemmas.TransformEllKeys
/-!
# The matcher on patterns with ellipses: verdict and bindings from one induction

`match_run_aux` goes over the matcher's loops (`pattern_match`, the loop outside an ellipsis, the loop
inside one) on every well-formed pattern (`okS`, any ellipsis depth). Its conclusion `Outcome` has two
halves: the verdict is R7RS's up to the excluded class (`Verdict`), and with distinct variables a `true`
comes with R7RS's bindings flattened — the flat list the matcher pushed is, variable by variable, the
left-to-right sequence of leaves of R7RS's tree of matches (`Flat`). "Distinct variables" is
hereditary, so it sits inside the conclusion and rule selection has the verdict without it.
-/
namespace Marwood.Transform
open Marwood Marwood.Spec.Match

def Flat (D : Bindings) (bs : Binds) : Prop := ∀ x : Text, proj (.sym x) D = projS x bs

theorem Flat.nil : Flat [] [] := fun _ => rfl

theorem Flat.one (x : Text) (e : Datum) : Flat [(.sym x, e)] [(x, .one e)] := by
  intro y
  simp only [proj, projS, cellEq_sym_left, leaves]
  by_cases hxy : x = y
  · subst hxy; simp
  · have : ¬ (Datum.sym y = Datum.sym x) := fun h => hxy (Datum.sym.inj h).symm
    simp [hxy, this]

theorem Flat.append {D1 D2 : Bindings} {b1 b2 : Binds} (h1 : Flat D1 b1) (h2 : Flat D2 b2) :
    Flat (D1 ++ D2) (b1 ++ b2) := by
  intro x; rw [proj_append, projS_append, h1 x, h2 x]

/-- the matcher's `true` outside an ellipsis -/
def MB (s : Setup) (P E : Datum) (env B' : Bindings) : Prop :=
  ∃ bs D, specMatch s.ctx P E = some bs ∧ B' = env ++ D ∧ Flat D bs

/-- the matcher's `true` inside an ellipsis -/
def SegB (s : Setup) (p : Datum) (rest xs : List Datum) (env B' : Bindings) : Prop :=
  rest.length ≤ xs.length ∧ ∃ bsl tb D,
    (xs.take (xs.length - rest.length)).mapM (fun x => specMatch s.ctx p x) = some bsl ∧
    specMatch s.ctx (Datum.ofList rest) (Datum.ofList (xs.drop (xs.length - rest.length))) = some tb ∧
    B' = env ++ D ∧ ∀ x : Text, proj (.sym x) D = bsl.flatMap (projS x) ++ projS x tb

section pure
variable (s : Setup)

theorem projS_collect_nil (x : Text) (vars : List Text) : projS x (collect vars []) = [] := by
  simp only [collect]
  induction vars with
  | nil => rfl
  | cons v vs ih =>
    simp only [List.filterMap_nil] at ih
    simp only [List.map_cons, projS, List.filterMap_nil]
    rw [ih]; split <;> rfl

theorem mb_nil (env : Bindings) : MB s (Datum.ofList []) (Datum.ofList []) env env :=
  ⟨[], [], by simp [Datum.ofList, specMatch_nil], by simp, Flat.nil⟩

theorem mb_cons {p e : Datum} {ps xs : List Datum} {env B' D1 : Bindings} {b1 : Binds}
    (hh : headNotEll s.ctx (Datum.ofList ps) = true)
    (h1 : specMatch s.ctx p e = some b1) (hf : Flat D1 b1)
    (h2 : MB s (Datum.ofList ps) (Datum.ofList xs) (env ++ D1) B') :
    MB s (Datum.ofList (p :: ps)) (Datum.ofList (e :: xs)) env B' := by
  obtain ⟨bs, D, hbs, hB, hfl⟩ := h2
  refine ⟨b1 ++ bs, D1 ++ D, ?_, by rw [hB, List.append_assoc], hf.append hfl⟩
  simp only [Datum.ofList]
  rw [specMatch_pair _ _ _ _ hh]
  simp [consMatch, h1, hbs]

theorem specMatch_whole (p : Datum) (rest xs : List Datum) :
    specMatch s.ctx (Datum.ofList (p :: s.ell :: rest)) (Datum.ofList xs) =
      (if xs.length < rest.length then none
       else
        match (xs.take (xs.length - rest.length)).mapM (fun x => specMatch s.ctx p x) with
        | none => none
        | some bs =>
          match specMatch s.ctx (Datum.ofList rest) (Datum.ofList (xs.drop (xs.length - rest.length))) with
          | none => none
          | some tb => some (collect (patVars s.ctx p) bs ++ tb)) := by
  simp only [Datum.ofList]
  rw [specMatch_ell_eq _ _ _ _ _ (isEllD_ell s)]
  rw [spineLen_ofList, spineLen_ofList, takeSpine_ofList, dropSpine_ofList]
  rfl

theorem mb_zero (p : Datum) (env : Bindings) :
    MB s (Datum.ofList [p, s.ell]) (Datum.ofList []) env env := by
  refine ⟨collect (patVars s.ctx p) [] ++ [], [], ?_, by simp, ?_⟩
  · rw [specMatch_whole]
    simp [Datum.ofList, specMatch_nil]
  · intro x
    rw [projS_append, projS_collect_nil]; rfl

theorem mb_enter {p e : Datum} {rest xs : List Datum} {env B' D1 : Bindings} {b1 : Binds}
    (hn : (patVars s.ctx p).Nodup)
    (h1 : specMatch s.ctx p e = some b1) (hf : Flat D1 b1)
    (h2 : SegB s p rest xs (env ++ D1) B') :
    MB s (Datum.ofList (p :: s.ell :: rest)) (Datum.ofList (e :: xs)) env B' := by
  obtain ⟨hle, bsl, tb, D, hbsl, htb, hB, hfl⟩ := h2
  have e1 : (e :: xs).length - rest.length = (xs.length - rest.length) + 1 := by simp; omega
  refine ⟨collect (patVars s.ctx p) (b1 :: bsl) ++ tb, D1 ++ D, ?_, by rw [hB, List.append_assoc], ?_⟩
  · rw [specMatch_whole]
    have : ¬ ((e :: xs).length < rest.length) := by simp; omega
    simp only [this, if_false]
    rw [e1, List.take_succ_cons, List.drop_succ_cons, mapM_cons_some _ _ _ _ _ h1 hbsl, htb]
  · intro x
    have hk : ∀ b ∈ b1 :: bsl, b.map Prod.fst = patVars s.ctx p := by
      intro b hb
      simp only [List.mem_cons] at hb
      rcases hb with rfl | hb
      · exact specMatch_keys _ _ _ _ h1
      · obtain ⟨x', _, hx'⟩ := mapM_some_mem _ _ _ hbsl b hb
        exact specMatch_keys _ _ _ _ hx'
    rw [proj_append, projS_append, projS_collect x _ _ hn hk, hf x, hfl x]
    simp

theorem seg_nil (p : Datum) (env : Bindings) : SegB s p [] [] env env :=
  ⟨by simp, [], [], [], by simp, by simp [Datum.ofList, specMatch_nil], by simp, fun _ => rfl⟩

theorem seg_handoff {p q e : Datum} {rest' xs : List Datum} {env B' D1 : Bindings} {b1 : Binds}
    (hlen : rest'.length = xs.length)
    (hh : headNotEll s.ctx (Datum.ofList rest') = true)
    (h1 : specMatch s.ctx q e = some b1) (hf : Flat D1 b1)
    (h2 : MB s (Datum.ofList rest') (Datum.ofList xs) (env ++ D1) B') :
    SegB s p (q :: rest') (e :: xs) env B' := by
  obtain ⟨bs, D, hbs, hB, hfl⟩ := h2
  have e0 : (e :: xs).length - (q :: rest').length = 0 := by simp [hlen]
  refine ⟨by simp [hlen], [], b1 ++ bs, D1 ++ D, by rw [e0]; simp, ?_, by rw [hB, List.append_assoc], ?_⟩
  · rw [e0, List.drop_zero]
    simp only [Datum.ofList]
    rw [specMatch_pair _ _ _ _ hh]
    simp [consMatch, h1, hbs]
  · intro x
    rw [proj_append, projS_append, hf x, hfl x]; simp

theorem seg_reuse {p e : Datum} {rest xs : List Datum} {env B' D1 : Bindings} {b1 : Binds}
    (h1 : specMatch s.ctx p e = some b1) (hf : Flat D1 b1)
    (h2 : SegB s p rest xs (env ++ D1) B') :
    SegB s p rest (e :: xs) env B' := by
  obtain ⟨hle, bsl, tb, D, hbsl, htb, hB, hfl⟩ := h2
  have e1 : (e :: xs).length - rest.length = (xs.length - rest.length) + 1 := by simp; omega
  refine ⟨by simp; omega, b1 :: bsl, tb, D1 ++ D, ?_, ?_, by rw [hB, List.append_assoc], ?_⟩
  · rw [e1, List.take_succ_cons]; exact mapM_cons_some _ _ _ _ _ h1 hbsl
  · rw [e1, List.drop_succ_cons]; exact htb
  · intro x
    rw [proj_append, hf x, hfl x]; simp

end pure

theorem patVars_pair_nodup {c : Ctx} {a d : Datum} (h : (patVars c (.pair a d)).Nodup) :
    (patVars c a).Nodup ∧ (patVars c d).Nodup := by
  simp only [patVars] at h
  exact ⟨(List.nodup_append.mp h).1, (List.nodup_append.mp h).2.1⟩

theorem patVars_ofList_nodup {c : Ctx} {p : Datum} {ps : List Datum}
    (h : (patVars c (Datum.ofList (p :: ps))).Nodup) :
    (patVars c p).Nodup ∧ (patVars c (Datum.ofList ps)).Nodup := by
  simp only [Datum.ofList] at h
  exact patVars_pair_nodup h

theorem patVars_ell_cons (s : Setup) (rest : List Datum) :
    patVars s.ctx (Datum.ofList (s.ell :: rest)) = patVars s.ctx (Datum.ofList rest) := by
  simp only [Datum.ofList, patVars]
  rw [patVars_ellD s.ctx s.ell (isEllD_ell s)]; rfl

def Outcome (s : Setup) (P E : Datum) (env : Bindings) (r : Bool × Bindings) : Prop :=
  Verdict s.ctx P E r.1 ∧ ((patVars s.ctx P).Nodup → r.1 = true → MB s P E env r.2)

def SegOutcome (s : Setup) (p : Datum) (rest xs : List Datum) (env : Bindings) (r : Bool × Bindings) :
    Prop :=
  InEllV s.ctx p rest xs r.1 ∧
    ((patVars s.ctx p).Nodup → (patVars s.ctx (Datum.ofList rest)).Nodup → r.1 = true →
      SegB s p rest xs env r.2)

/-- one step of the loop in a run that ended with `r`: the item was refused, or the step's own outcome
    is that of a `true` and `Q` holds of the environment it handed on -/
def Step (s : Setup) (cur e : Datum) (env : Bindings) (r : Bool × Bindings) (Q : Bindings → Prop) :
    Prop :=
  (r.1 = false ∧ (sm s.ctx cur e = false ∨ gp s.ctx cur e = true)) ∨
  ∃ env', Outcome s cur e env (true, env') ∧ Q env'

section combinators
variable {s : Setup} {p q e cur P E : Datum} {ps rest xs : List Datum} {env B : Bindings}
  {r : Bool × Bindings} {Q : Bindings → Prop}

theorem Step.verdictOf {S G : Bool} (h : Step s cur e env r Q) (hQ : ∀ env', Q env' → VerdictOf S G r.1) :
    VerdictOf (sm s.ctx cur e && S) (gp s.ctx cur e || G) r.1 := by
  rcases h with ⟨hr, hbad⟩ | ⟨env', h1, h2⟩
  · rw [hr]; exact .refuse hbad
  · exact .cons (h1.1.1 rfl) (hQ env' h2)

theorem Step.binds (h : Step s cur e env r Q) (hn : (patVars s.ctx cur).Nodup) (hr : r.1 = true) :
    ∃ b1 D1, specMatch s.ctx cur e = some b1 ∧ Flat D1 b1 ∧ Q (env ++ D1) := by
  rcases h with ⟨hr', -⟩ | ⟨env', h1, h2⟩
  · rw [hr'] at hr; cases hr
  · obtain ⟨b1, D1, hb1, rfl, hf1⟩ := h1.2 hn rfl
    exact ⟨b1, D1, hb1, hf1, h2⟩

theorem Outcome.decline (hr : r.1 = false) (h : sm s.ctx P E = false) : Outcome s P E env r := by
  rw [Outcome, hr]
  exact ⟨⟨nofun, fun _ => .inl h⟩, fun _ => nofun⟩

theorem SegOutcome.decline (hr : r.1 = false) (h : smStar s.ctx p rest xs = false) :
    SegOutcome s p rest xs env r := by
  rw [SegOutcome, hr]
  exact ⟨⟨nofun, fun _ => .inl h⟩, fun _ _ => nofun⟩

theorem Outcome.of_mb (h : MB s P E env B) : Outcome s P E env (true, B) :=
  ⟨⟨fun _ => by obtain ⟨bs, -, hbs, -⟩ := h; rw [sm, hbs]; rfl, nofun⟩, fun _ _ => h⟩

theorem SegOutcome.nil : SegOutcome s p [] [] env (true, env) :=
  ⟨⟨fun _ => by simp [smStar, Datum.ofList, sm_nil], nofun⟩, fun _ _ _ => seg_nil s p env⟩

theorem Outcome.cons (hh : headNotEll s.ctx (Datum.ofList ps) = true)
    (h : Step s p e env r fun env' => Outcome s (Datum.ofList ps) (Datum.ofList xs) env' r) :
    Outcome s (Datum.ofList (p :: ps)) (Datum.ofList (e :: xs)) env r :=
  ⟨Verdict.cons hh (h.verdictOf fun _ h2 => h2.1), fun hn hr => by
    obtain ⟨hnp, hnps⟩ := patVars_ofList_nodup hn
    obtain ⟨b1, D1, hb1, hf1, h2⟩ := h.binds hnp hr
    exact mb_cons s hh hb1 hf1 (h2.2 hnps hr)⟩

theorem Outcome.enter (h : Step s p e env r fun env' => SegOutcome s p rest xs env' r) :
    Outcome s (Datum.ofList (p :: s.ell :: rest)) (Datum.ofList (e :: xs)) env r :=
  ⟨Verdict.enter s (h.verdictOf fun _ h2 => h2.1), fun hn hr => by
    obtain ⟨hnp, hnr⟩ := patVars_ofList_nodup hn
    rw [patVars_ell_cons] at hnr
    obtain ⟨b1, D1, hb1, hf1, h2⟩ := h.binds hnp hr
    exact mb_enter s hnp hb1 hf1 (h2.2 hnp hnr hr)⟩

theorem SegOutcome.handoff (hlen : rest.length = xs.length)
    (hh : headNotEll s.ctx (Datum.ofList rest) = true)
    (h : Step s q e env r fun env' => Outcome s (Datum.ofList rest) (Datum.ofList xs) env' r) :
    SegOutcome s p (q :: rest) (e :: xs) env r :=
  ⟨InEllV.handoff hlen hh (h.verdictOf fun _ h2 => h2.1), fun _ hn hr => by
    obtain ⟨hnq, hnr⟩ := patVars_ofList_nodup hn
    obtain ⟨b1, D1, hb1, hf1, h2⟩ := h.binds hnq hr
    exact seg_handoff s hlen hh hb1 hf1 (h2.2 hnr hr)⟩

theorem SegOutcome.reuse (hne : rest.length ≠ xs.length + 1)
    (h : Step s p e env r fun env' => SegOutcome s p rest xs env' r) :
    SegOutcome s p rest (e :: xs) env r :=
  ⟨InEllV.reuse hne (h.verdictOf fun _ h2 => h2.1), fun hnp hnr hr => by
    obtain ⟨b1, D1, hb1, hf1, h2⟩ := h.binds hnp hr
    exact seg_reuse s hb1 hf1 (h2.2 hnp hnr hr)⟩

end combinators

theorem elemStep_outcome (s : Setup) {f : Nat} {cur e : Datum} {env : Bindings}
    {k : Bindings → Res (Bool × Bindings)} {r : Bool × Bindings} {Q : Bindings → Prop}
    (hA : ∀ P E env r, okS s.es true P = true → headNotEll s.ctx P = true →
        patternMatch s.ell s.lits f P E env = .ok r → Outcome s P E env r)
    (hcur : okP s.es cur = true)
    (h : elemStep s.ell s.lits f cur e env k = .ok r) (hk : ∀ env', k env' = .ok r → Q env') :
    Step s cur e env r Q := by
  rcases pair_or_atom cur with ⟨a, d, rfl⟩ | hnp
  · simp only [elemStep] at h
    cases hn : patternMatch s.ell s.lits f (.pair a d) e env with
    | ok r1 =>
      obtain ⟨b, env1⟩ := r1
      have hv := hA _ _ _ _ (okP_pair_spine hcur) (okP_pair_head hcur) hn
      rw [hn] at h
      cases b with
      | true => exact .inr ⟨env1, hv, hk env1 h⟩
      | false => cases h; exact .inl ⟨rfl, hv.1.2 rfl⟩
    | _ => rw [hn] at h; cases h
  · obtain ⟨-, ⟨hs, hstep⟩ | ⟨hs, hstep⟩ | ⟨x, rfl, hs, hstep⟩⟩ := elemStep_atom s f e env k hcur hnp
    · rw [hstep] at h; cases h
      exact .inl ⟨rfl, .inl (by rw [sm, hs]; rfl)⟩
    · exact .inr ⟨env, .of_mb ⟨[], [], hs, (List.append_nil env).symm, Flat.nil⟩, hk env (hstep ▸ h)⟩
    · exact .inr ⟨_, .of_mb ⟨_, _, hs, rfl, Flat.one x e⟩, hk _ (hstep ▸ h)⟩

/-- `pattern_match` (A), its loop outside an ellipsis (B), its loop inside one (C) -/
theorem match_run_aux (s : Setup) : ∀ f : Nat,
    (∀ P E env r, okS s.es true P = true → headNotEll s.ctx P = true →
        patternMatch s.ell s.lits f P E env = .ok r → Outcome s P E env r) ∧
    (∀ xs ps cur env r allow, okS s.es allow (Datum.ofList ps) = true →
        headNotEll s.ctx (Datum.ofList ps) = true →
        matchLoop s.ell s.lits f xs ps cur false env = .ok r →
        Outcome s (Datum.ofList ps) (Datum.ofList xs) env r) ∧
    (∀ xs p rest env r, okP s.es p = true → okS s.es false (Datum.ofList rest) = true →
        matchLoop s.ell s.lits f xs (s.ell :: rest) p true env = .ok r →
        SegOutcome s p rest xs env r) := by
  intro f
  induction f with
  | zero =>
    refine ⟨?_, ?_, ?_⟩
    · intro P E env r _ _ h; simp [patternMatch] at h
    · intro xs ps cur env r allow _ _ h; simp [matchLoop] at h
    · intro xs p rest env r _ _ h; simp [matchLoop] at h
  | succ f ih =>
    obtain ⟨ihA, ihB, ihC⟩ := ih
    refine ⟨?_, ?_, ?_⟩
    · -- (A) pattern_match
      intro P E env r hP hPh h
      have hPnil := okS_endsInNil hP
      have hPeq := endsInNil_ofList hPnil
      by_cases hE : endsInNil E = true
      · have hEeq := endsInNil_ofList hE
        rw [patternMatch_proper _ _ _ _ hPnil hE] at h
        have := ihB (iterList E) (iterList P) .nil env r true (by rw [← hPeq]; exact hP)
          (by rw [← hPeq]; exact hPh) h
        rw [← hPeq, ← hEeq] at this
        exact this
      · -- an improper form: declined, and R7RS matches proper lists only
        have hE' : endsInNil E = false := by simpa using hE
        have hr : r.1 = false := by
          cases f with
          | zero =>
            unfold patternMatch at h
            split at h
            · cases h; rfl
            · split at h
              · cases h; rfl
              · simp [matchLoop] at h
          | succ f =>
            rw [patternMatch_improper _ _ _ _ hPnil hE'] at h
            cases h; rfl
        exact .decline hr (Bool.eq_false_iff.mpr fun hs => hE (sm_okS_proper s P true E hP hPh hs))
    · -- (B) the loop outside an ellipsis
      intro xs ps cur env r allow hok hhd h
      cases xs with
      | nil =>
        rw [matchLoop_nil] at h
        simp only [Bool.false_eq_true, if_false] at h
        cases ps with
        | nil => cases h; exact .of_mb (mb_nil s env)
        | cons p ps' =>
          simp only at h
          by_cases hpk : peekIs s.ell ps' = true
          · obtain ⟨rest, rfl⟩ := (peekIs_ell_iff s ps').mp hpk
            simp only [hpk, if_true, List.tail_cons] at h
            cases h
            cases rest with
            | nil => exact .of_mb (mb_zero s p env)
            | cons q rest' => exact .decline rfl (by rw [sm_whole]; exact smStar_short (by simp))
          · simp only [hpk, Bool.false_eq_true, if_false] at h
            cases h
            refine .decline rfl ?_
            simp only [Datum.ofList]
            rw [sm_cons _ _ _ _ (by rw [headNotEll_ofList]; simpa using hpk)]
      | cons e xs' =>
        rw [matchLoop_cons] at h
        simp only [selNext, Bool.false_eq_true, if_false] at h
        cases ps with
        | nil => cases h; exact .decline rfl (by simp [Datum.ofList, sm_nil])
        | cons p ps' =>
          simp only at h
          have hpne : p ≠ .sym s.es := by
            intro hp
            rw [headNotEll_ofList] at hhd
            simp [peekIs, Setup.ell, hp] at hhd
          rw [okS_cons_ne hpne, Bool.and_eq_true] at hok
          obtain ⟨hokp, hokps⟩ := hok
          by_cases hpk : peekIs s.ell ps' = true
          · -- `p` is followed by the ellipsis
            obtain ⟨rest, rfl⟩ := (peekIs_ell_iff s ps').mp hpk
            rw [hpk] at h
            rw [Setup.ell, okS_cons_ell, Bool.and_eq_true] at hokps
            exact .enter (elemStep_outcome s ihA hokp h fun env' hk =>
              ihC xs' p rest env' r hokp hokps.2 hk)
          · have hpk' : peekIs s.ell ps' = false := by simpa using hpk
            rw [hpk'] at h
            have hh' : headNotEll s.ctx (Datum.ofList ps') = true := by
              rw [headNotEll_ofList, hpk']; rfl
            exact .cons hh' (elemStep_outcome s ihA hokp h fun env' hk =>
              ihB xs' ps' p env' r allow hokps hh' hk)
    · -- (C) the loop inside an ellipsis
      intro xs p rest env r hokp hokr h
      cases xs with
      | nil =>
        rw [matchLoop_nil] at h
        simp only [if_true, List.tail_cons] at h
        cases rest with
        | nil => cases h; exact .nil
        | cons q rest' =>
          have hokr := okS_false_cons hokr
          simp only [okS_false_peek s rest' hokr.2, Bool.false_eq_true, if_false] at h
          cases h
          exact .decline rfl (smStar_short (by simp))
      | cons e xs' =>
        rw [matchLoop_cons] at h
        by_cases hh : rest.length = xs'.length + 1
        · -- hand-off to the fixed tail
          cases rest with
          | nil => simp at hh
          | cons q rest' =>
            rw [selNext_handoff _ _ _ _ _ hh] at h
            have hokr := okS_false_cons hokr
            have hpk := okS_false_peek s rest' hokr.2
            simp only [hpk] at h
            have hh' : headNotEll s.ctx (Datum.ofList rest') = true := by
              rw [headNotEll_ofList, hpk]; rfl
            exact .handoff (by simpa using hh) hh' (elemStep_outcome s ihA hokr.1 h fun env' hk =>
              ihB xs' rest' q env' r false hokr.2 hh' hk)
        · -- the same pattern again
          rw [selNext_reuse _ _ _ _ hh] at h
          simp only [peekIs_ell_cons] at h
          exact .reuse hh (elemStep_outcome s ihA hokp h fun env' hk =>
            ihC xs' p rest env' r hokp hokr hk)

theorem patternMatch_binds (s : Setup) (f : Nat) (P E : Datum) (B : Bindings)
    (hP : okS s.es true P = true) (hh : headNotEll s.ctx P = true) (hn : (patVars s.ctx P).Nodup)
    (h : patternMatch s.ell s.lits f P E [] = .ok (true, B)) :
    ∃ bs, specMatch s.ctx P E = some bs ∧ Flat B bs := by
  obtain ⟨bs, D, hbs, hB, hfl⟩ := ((match_run_aux s f).1 P E [] (true, B) hP hh h).2 hn rfl
  simp only [List.nil_append] at hB
  subst hB
  exact ⟨bs, hbs, hfl⟩

end Marwood.Transform
