import Marwood.Lemmas.EvalMono
import Marwood.Lemmas.EvalExtraLevel
/-!
# Fuel monotonicity of `Spec.Eval`: an instance of the simulation; the fuel induction, the guarded evaluators, sessions

The simulation of `EvalExtra*` at the identity map, with no excluded global, the SAME environment in corresponding
closures and EQUAL global tables (`Le` asks for the very same final state: agreement of look-ups is not enough).
Related values and states are equal (`vRelG_eq`, `stRelG_eq`), so a simulation in which the left run may time out
is refinement (`le_of_simG`), and one level of evaluation is monotone in the sub-evaluator (`le_evalStep`).

Then the fuel induction (`recLe_evalN`, `evalN_mono`), the slack-guarded evaluator `sguardN k n` (`guardN n` at `k = 0`)
is refined by `evalN n` (`sguardN_le_evalN`), top-level forms and sessions (`runForm_mono`, `results_mono`, `output_mono`).
-/
namespace Marwood.Spec.Eval
open Marwood Marwood.Spec.Eval.Extra Marwood.Spec.Eval.ExtraJ

/-- corresponding closures have the same environment -/
def eqEnv : EnvCorr (fun l => l) [] where
  rel := fun _ ρ ρ' => ρ' = ρ
  look := fun h y _ => by
    rw [show _ = _ from h]
    cases List.lookup y _ with
    | none => exact .none
    | some l => exact .some l
  cons := fun h _ _ => by rw [show _ = _ from h]
  sub := fun _ _ hg => nomatch hg
  top := rfl

theorem vRelG_eq {v v' : Val} : VRelG (fun l => l) [] eqEnv v v' ↔ v' = v := by
  constructor
  · intro h
    cases h with
    | closure ps rest body ρ ρ' B hρ hb => rw [show ρ' = ρ from hρ]
    | _ => rfl
  · rintro rfl
    cases v' with
    | sym s => exact .sym s (fun h => nomatch h)
    | closure ps rest body ρ => exact .closure ps rest body ρ ρ [] rfl (fun d _ => cleanB_nil d)
    | pair l => exact .pair l
    | vec l => exact .vec l
    | promise l => exact .promise l
    | bool b => exact .bool b
    | char c => exact .char c
    | nil => exact .nil
    | int n => exact .int n
    | str s => exact .str s
    | prim p => exact .prim p
    | void => exact .void
    | undef => exact .undef

theorem vsRelG_eq {vs vs' : List Val} : VsRelG (fun l => l) [] eqEnv vs vs' ↔ vs' = vs := by
  constructor
  · intro h
    induction h with
    | nil => rfl
    | cons hv _ ih => rw [vRelG_eq.1 hv, ih]
  · rintro rfl
    induction vs' with
    | nil => exact .nil
    | cons v vs ih => exact .cons (vRelG_eq.2 rfl) ih

theorem cellRelG_eq {c c' : Cell} : CellRelG (fun l => l) [] eqEnv c c' ↔ c' = c := by
  constructor
  · intro h
    cases h with
    | var hv => rw [vRelG_eq.1 hv]
    | pair ha hd => rw [vRelG_eq.1 ha, vRelG_eq.1 hd]
    | vec hx => rw [vsRelG_eq.1 hx]
    | promise b hv => rw [vRelG_eq.1 hv]
  · rintro rfl
    cases c' with
    | var v => exact .var (vRelG_eq.2 rfl)
    | pair a d => exact .pair (vRelG_eq.2 rfl) (vRelG_eq.2 rfl)
    | vec xs => exact .vec (vsRelG_eq.2 rfl)
    | promise b v => exact .promise b (vRelG_eq.2 rfl)

/-- the two global tables are the same list -/
def eqGlobals : GlCorr (fun l => l) [] eqEnv where
  rel := fun g g' => g' = g
  look := fun h y _ => by
    rw [show _ = _ from h]
    cases List.lookup y _ with
    | none => exact .none
    | some v => exact .some (vRelG_eq.2 rfl)
  ins := fun h s _ _ hv => by rw [show _ = _ from h, vRelG_eq.1 hv]

abbrev StRelE : St → St → Prop := StRelG (fun l => l) [] eqEnv eqGlobals (fun _ => none)
abbrev SimE {α α' : Type} (R : α → α' → Prop) (m : M α) (m' : M α') : Prop :=
  SimG (fun l => l) [] eqEnv eqGlobals (fun _ => none) .left R m m'
abbrev RecSimE (r r' : Rec) : Prop := RecSimG (fun l => l) [] eqEnv eqGlobals (fun _ => none) .left r r'

theorem stRelG_eq {st st' : St} : StRelE st st' ↔ st' = st := by
  constructor
  · intro r
    have hst : st'.store = st.store := by
      apply Array.ext_getElem?
      intro l
      cases h : st.store[l]? with
      | none => exact r.cell_none h
      | some c =>
        obtain ⟨c', h1, h2⟩ := r.cells l c h
        rw [h1, cellRelG_eq.1 h2]
    cases st; cases st'
    simp only [St.mk.injEq]
    exact ⟨r.globals, hst, r.out⟩
  · rintro rfl
    exact ⟨fun l c h => ⟨c, h, cellRelG_eq.2 rfl⟩, fun _ => rfl, Nat.le_refl _, rfl, rfl, fun _ _ h => (nomatch h), fun _ => rfl⟩

theorem le_of_simG {α : Type} {m m' : M α} (h : SimE (fun a a' => a' = a) m m') : Le m m' := by
  intro st hd
  have := h st st (stRelG_eq.2 rfl)
  cases h1 : m st <;> cases h2 : m' st <;> rw [h1, h2] at this
  · rw [this.1, stRelG_eq.1 this.2]
  · exact this.elim
  · cases this
  · exact this.elim
  · rw [this.1, stRelG_eq.1 this.2]
  · cases this
  all_goals exact absurd h1 hd

theorem simG_of_le {α : Type} {m m' : M α} (h : Le m m') : SimE (fun a a' => a' = a) m m' := by
  intro st st' r
  obtain rfl := stRelG_eq.1 r
  cases h1 : m st' with
  | timeout => exact ResRelD.timeout_left _
  | ok a s => rw [h st' (by rw [h1]; simp), h1]; exact ⟨rfl, stRelG_eq.2 rfl⟩
  | err e s => rw [h st' (by rw [h1]; simp), h1]; exact ⟨rfl, stRelG_eq.2 rfl⟩

variable {r r' : Rec}

theorem recSimG_of_recLe (h : RecLe r r') : RecSimE r r' :=
  ⟨fun e ρ ρ' _ he _ => by rw [show ρ' = ρ from he]; exact (simG_of_le (h.eval e ρ)).mono fun _ _ e => vRelG_eq.2 e,
   fun g g' args args' hg ha => by
    rw [vRelG_eq.1 hg, vsRelG_eq.1 ha]; exact (simG_of_le (h.apply g args)).mono fun _ _ e => vRelG_eq.2 e⟩

theorem le_evalStep (hr : RecLe r r') (e : Datum) (ρ : Env) : Le (evalStep r e ρ) (evalStep r' e ρ) :=
  le_of_simG ((simG_evalStep inj_id (recSimG_of_recLe hr) (B := []) rfl e (cleanB_nil e)).mono fun _ _ h => vRelG_eq.1 h)

theorem le_applyStep (hr : RecLe r r') (f : Val) (args : List Val) : Le (applyStep r f args) (applyStep r' f args) :=
  le_of_simG (fun st st' rs => (simGAt_applyStep inj_id (recSimG_of_recLe hr) (vRelG_eq.2 rfl) (vsRelG_eq.2 rfl) rs
    (.inl (by rw [stRelG_eq.1 rs]))).mono fun _ _ h => vRelG_eq.1 h)

theorem le_evalTop (hr : RecLe r r') (d : Datum) : Le (evalTop r d) (evalTop r' d) :=
  le_of_simG ((simG_evalTop inj_id (recSimG_of_recLe hr) d (cleanB_nil d)).mono fun _ _ h => vRelG_eq.1 h)

theorem le_evalArgs (hr : RecLe r r') (ρ : Env) : ∀ (es : List Datum), Le (evalArgs r ρ es) (evalArgs r' ρ es) := fun es =>
  le_of_simG ((simG_evalArgs (recSimG_of_recLe hr) (B := []) rfl es (fun d _ => cleanB_nil d)).mono fun _ _ h => vsRelG_eq.1 h)

theorem le_evalExprs (hr : RecLe r r') (ρ : Env) : ∀ (es : List Datum), Le (evalExprs r ρ es) (evalExprs r' ρ es) := fun es =>
  le_of_simG ((simG_evalExprs (recSimG_of_recLe hr) (B := []) rfl es (fun d _ => cleanB_nil d)).mono fun _ _ h => vRelG_eq.1 h)

theorem le_evalOr (hr : RecLe r r') (ρ : Env) : ∀ (es : List Datum), Le (evalOr r ρ es) (evalOr r' ρ es) := fun es =>
  le_of_simG ((simG_evalOr (recSimG_of_recLe hr) (B := []) rfl es (fun d _ => cleanB_nil d)).mono fun _ _ h => vRelG_eq.1 h)

theorem le_evalCond (hr : RecLe r r') (ρ : Env) : ∀ (cs : List Datum), Le (evalCond r ρ cs) (evalCond r' ρ cs) := fun cs =>
  le_of_simG ((simG_evalCond (recSimG_of_recLe hr) (B := []) rfl cs (fun d _ => cleanB_nil d)).mono fun _ _ h => vRelG_eq.1 h)

theorem le_evalCase (hr : RecLe r r') (ρ : Env) (key : Val) : ∀ (cs : List Datum),
    Le (evalCase r ρ key cs) (evalCase r' ρ key cs) := fun cs =>
  le_of_simG ((simG_evalCase (recSimG_of_recLe hr) (B := []) rfl (vRelG_eq.2 rfl) cs (fun d _ => cleanB_nil d)).mono fun _ _ h => vRelG_eq.1 h)

theorem recLe_evalN_succ : ∀ (n : Nat), RecLe (evalN n) (evalN (n + 1))
  | 0 => ⟨fun _ _ => Le.timeout _, fun _ _ => Le.timeout _⟩
  | n+1 => ⟨fun e ρ => le_evalStep (recLe_evalN_succ n) e ρ,
            fun f args => le_applyStep (recLe_evalN_succ n) f args⟩

/-- **Fuel monotonicity**: more fuel refines. -/
theorem recLe_evalN {n m : Nat} (h : n ≤ m) : RecLe (evalN n) (evalN m) := by
  induction h with
  | refl => exact RecLe.refl _
  | step _ ih => exact ih.trans (recLe_evalN_succ _)

/-- **Fuel monotonicity**: a definite outcome (value or error, with its state) reached with fuel `n` is reached
    with every fuel `m ≥ n`. -/
theorem evalN_mono {n m : Nat} (h : n ≤ m) (e : Datum) (ρ : Env) (st : St)
    (hd : (evalN n).eval e ρ st ≠ .timeout) : (evalN m).eval e ρ st = (evalN n).eval e ρ st :=
  (recLe_evalN h).eval e ρ st hd

theorem applyN_mono {n m : Nat} (h : n ≤ m) (f : Val) (args : List Val) (st : St)
    (hd : (evalN n).apply f args st ≠ .timeout) : (evalN m).apply f args st = (evalN n).apply f args st :=
  (recLe_evalN h).apply f args st hd

theorem evalTop_mono {n m : Nat} (h : n ≤ m) (d : Datum) (st : St)
    (hd : evalTop (evalN n) d st ≠ .timeout) : evalTop (evalN m) d st = evalTop (evalN n) d st :=
  le_evalTop (recLe_evalN h) d st hd

/-- **Determinacy up to fuel**: two definite outcomes of the same evaluation, reached with whatever
    fuels, are equal — the fuel only decides *whether* an outcome is reached, never *which*. -/
theorem definite_unique {n m : Nat} (e : Datum) (ρ : Env) (st : St)
    (hn : (evalN n).eval e ρ st ≠ .timeout) (hm : (evalN m).eval e ρ st ≠ .timeout) :
    (evalN n).eval e ρ st = (evalN m).eval e ρ st := by
  rcases Nat.le_total n m with h | h
  · exact (evalN_mono h e ρ st hn).symm
  · exact evalN_mono h e ρ st hm

/-! ## The guarded evaluators are refined by `evalN`

`guardN` (`EvalExtraCut.lean`) times out where a store-size-fuelled helper (fuel `store.size + 1`) would run into its
bound. The converse simulation goes from the run in the LARGER store (`k` extra cells) to the run in the smaller one,
whose helpers have `k` units of fuel LESS; `sguardN k` therefore times out where a helper would come within `k` of its
bound: no cut with fuel `store.size + 1 - k` (`helperCutAt F` is `helperCut` with the helper fuel explicit). `guardN` is
`sguardN 0` (`guardN_eq_sguardN`), so refinement and monotonicity are proved for `sguardN k`.

Limitation (finding): the subtraction is truncated. In a store with fewer than `k` cells the helper fuel is 0, where
`spineCut` holds of every value and `valCut`/`listCut`/`eqCut` of every pair: there every `memv`/`memq`/`assv`/`assq`
and every other helper call on a pair is a time-out of `sguardN k`, and the converse theorems say nothing about it.
-/

def helperCutAt (F : Nat) (f : Val) (args : List Val) (σ : Array Cell) : Bool :=
  match f, args with
  | .prim .display, [v] | .prim .write, [v] | .prim .eval, [v] => valCut F σ v
  | .prim .equalP, [a, b] => eqCut F σ a b
  | .prim .length, [v] | .prim .reverse, [v] | .prim .listToVector, [v] | .prim .listP, [v] =>
    listCut F σ v
  | .prim .append, [a, _] => listCut F σ a
  | .prim .append, [a, b, _] => listCut F σ a || listCut F σ b
  | .prim .apply, _ :: a :: as => listCut F σ ((a :: as).getLast?.getD .nil)
  | .prim .map, _ :: l :: ls | .prim .forEach, _ :: l :: ls => (l :: ls).any (listCut F σ)
  | .prim .memv, [_, l] | .prim .memq, [_, l] | .prim .assv, [_, l] | .prim .assq, [_, l] =>
    spineCut F σ l
  | _, _ => false

theorem helperCut_eq_at (f : Val) (args : List Val) (σ : Array Cell) :
    helperCut f args σ = helperCutAt (σ.size + 1) f args σ := by
  cases f with
  | prim p =>
    cases p <;> first | rfl | (rcases args with _ | ⟨a, _ | ⟨b, _ | ⟨c, _ | ⟨d, t⟩⟩⟩⟩ <;> rfl)
  | _ => rfl

def sguardApply (k : Nat) (r : Rec) (f : Val) (args : List Val) : M Val := fun st =>
  if helperCutAt (st.store.size + 1 - k) f args st.store then .timeout else applyStep r f args st

def sguardN (k : Nat) : Nat → Rec
  | 0 => { eval := fun _ _ => timeoutM, apply := fun _ _ => timeoutM }
  | n+1 => { eval := evalStep (sguardN k n), apply := sguardApply k (sguardN k n) }

theorem sguardApply_zero (r : Rec) (f : Val) (args : List Val) : sguardApply 0 r f args = guardApply r f args := by
  funext st
  simp only [sguardApply, guardApply, Nat.sub_zero, ← helperCut_eq_at]

theorem guardN_eq_sguardN : ∀ n, guardN n = sguardN 0 n
  | 0 => rfl
  | n+1 => by
    show Rec.mk (evalStep (guardN n)) (guardApply (guardN n)) = Rec.mk (evalStep (sguardN 0 n)) (sguardApply 0 (sguardN 0 n))
    rw [guardN_eq_sguardN n, funext fun f => funext fun args => sguardApply_zero (sguardN 0 n) f args]

theorem sguardApply_of_not_cut (k : Nat) (r : Rec) (f : Val) (args : List Val) (st : St)
    (h : helperCutAt (st.store.size + 1 - k) f args st.store = false) :
    sguardApply k r f args st = applyStep r f args st := by
  simp [sguardApply, h]

theorem helperCutAt_of_sguardApply_ne_timeout (k : Nat) (r : Rec) (f : Val) (args : List Val) (st : St)
    (h : sguardApply k r f args st ≠ .timeout) : helperCutAt (st.store.size + 1 - k) f args st.store = false := by
  cases hc : helperCutAt (st.store.size + 1 - k) f args st.store with
  | false => rfl
  | true => exact absurd (by simp [sguardApply, hc]) h

theorem le_sguardApply_applyStep (k : Nat) (hr : RecLe r r') (f : Val) (args : List Val) :
    Le (sguardApply k r f args) (applyStep r' f args) := by
  intro st h
  have hc := helperCutAt_of_sguardApply_ne_timeout k r f args st h
  rw [sguardApply_of_not_cut k r f args st hc] at h ⊢
  exact le_applyStep hr f args st h

theorem le_sguardApply (k : Nat) (hr : RecLe r r') (f : Val) (args : List Val) :
    Le (sguardApply k r f args) (sguardApply k r' f args) := by
  intro st h
  have hc := helperCutAt_of_sguardApply_ne_timeout k r f args st h
  rw [sguardApply_of_not_cut k r f args st hc] at h ⊢
  rw [sguardApply_of_not_cut k r' f args st hc]
  exact le_applyStep hr f args st h

theorem sguardN_le_evalN (k : Nat) : ∀ n, RecLe (sguardN k n) (evalN n)
  | 0 => ⟨fun _ _ => Le.timeout _, fun _ _ => Le.timeout _⟩
  | n+1 => ⟨fun e ρ => le_evalStep (sguardN_le_evalN k n) e ρ,
            fun f args => le_sguardApply_applyStep k (sguardN_le_evalN k n) f args⟩

theorem sguardN_succ (k : Nat) : ∀ (n : Nat), RecLe (sguardN k n) (sguardN k (n + 1))
  | 0 => ⟨fun _ _ => Le.timeout _, fun _ _ => Le.timeout _⟩
  | n+1 => ⟨fun e ρ => le_evalStep (sguardN_succ k n) e ρ,
            fun f args => le_sguardApply k (sguardN_succ k n) f args⟩

theorem sguardN_mono (k : Nat) {n m : Nat} (h : n ≤ m) : RecLe (sguardN k n) (sguardN k m) := by
  induction h with
  | refl => exact RecLe.refl _
  | step _ ih => exact ih.trans (sguardN_succ k _)

theorem sguardN_eval_evalN (k n : Nat) (e : Datum) (ρ : Env) (st : St)
    (h : (sguardN k n).eval e ρ st ≠ .timeout) :
    (evalN n).eval e ρ st = (sguardN k n).eval e ρ st :=
  (sguardN_le_evalN k n).eval e ρ st h

theorem sguardN_succ_eval (k n : Nat) (e : Datum) (ρ : Env) :
    (sguardN k (n+1)).eval e ρ = evalStep (sguardN k n) e ρ := rfl

theorem guardN_le_evalN : ∀ n, RecLe (guardN n) (evalN n) := fun n => guardN_eq_sguardN n ▸ sguardN_le_evalN 0 n

theorem guardN_mono {n m : Nat} (h : n ≤ m) : RecLe (guardN n) (guardN m) := by
  rw [guardN_eq_sguardN, guardN_eq_sguardN]
  exact sguardN_mono 0 h

theorem guardN_eval_evalN (n : Nat) (e : Datum) (ρ : Env) (st : St)
    (h : (guardN n).eval e ρ st ≠ .timeout) :
    (evalN n).eval e ρ st = (guardN n).eval e ρ st :=
  (guardN_le_evalN n).eval e ρ st h

theorem guardN_apply_evalN (n : Nat) (f : Val) (args : List Val) (st : St)
    (h : (guardN n).apply f args st ≠ .timeout) :
    (evalN n).apply f args st = (guardN n).apply f args st :=
  (guardN_le_evalN n).apply f args st h

theorem guardN_evalTop_evalN (n : Nat) (d : Datum) (st : St)
    (h : evalTop (guardN n) d st ≠ .timeout) :
    evalTop (evalN n) d st = evalTop (guardN n) d st :=
  le_evalTop (guardN_le_evalN n) d st h

theorem runForm_mono {n m : Nat} (h : n ≤ m) (d : Datum) (st : St)
    (hd : (runForm n d st).1 ≠ .timeout) : runForm m d st = runForm n d st := by
  have hd' : evalTop (evalN n) d st ≠ .timeout := by
    intro h0
    apply hd
    simp [runForm, h0]
  simp only [runForm, evalTop_mono h d st hd']

theorem runSession_mono {n m : Nat} (h : n ≤ m) : ∀ (ds : List Datum) (st : St),
    (∀ r ∈ (runSession n ds st).1, r ≠ FormRes.timeout) → runSession m ds st = runSession n ds st
  | [], _, _ => rfl
  | d :: ds, st, hd => by
    have h1 : (runForm n d st).1 ≠ .timeout := by
      apply hd
      simp only [runSession]
      cases hf : runForm n d st with
      | mk r s => cases s <;> simp
    have e1 := runForm_mono h d st h1
    simp only [runSession, e1]
    cases hf : runForm n d st with
    | mk r s =>
      cases s with
      | none => rfl
      | some st' =>
        simp only
        have := runSession_mono h ds st' (by
          intro r' hr'
          apply hd
          simp only [runSession, hf]
          simp [hr'])
        rw [this]

theorem results_mono {n m : Nat} (h : n ≤ m) (session : List Datum)
    (hd : ∀ r ∈ results n session, r ≠ FormRes.timeout) : results m session = results n session := by
  unfold results at *
  rw [runSession_mono h session initSt hd]

theorem output_mono {n m : Nat} (h : n ≤ m) (session : List Datum)
    (hd : ∀ r ∈ results n session, r ≠ FormRes.timeout) : output m session = output n session := by
  unfold output results at *
  rw [runSession_mono h session initSt hd]

end Marwood.Spec.Eval
