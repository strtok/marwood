import Marwood.Lemmas.ConcreteLawsOps
import Marwood.Lemmas.StackWFRun
import Marwood.Lemmas.SimGc
/-!
# `GcLaws` for the real collector

`cgc force` (`Vm/ConcreteHeap.lean`) runs the C03 model of `run_gc` (`Heap.runGc`, repaired marker) on the erasure of the
concrete heap and copies the result back. `cgc_gcLaws`: it satisfies `GcLaws` for the concrete instance of `CodeLaws`, from
T03.2 (`runGc_spec`: what the roots reach stays allocated with its content, every other cell in range is freed) and the
free list the sweep and the growth leave (`collect_spec`, `grow_spec`). `run_gc` marks `ip.0`, `acc` and `stack[0..=sp]`,
so the lambdas these name keep their bytecode; a continuation cell that survives was reachable, and so were, one marking
step further, the lambdas its saved `ip` and its stack copy refer to: it is still the snapshot of a WF state.
Of the heap only `CInvG` is assumed (`sizes`, `noUsed`, `shape` are the hypotheses of `runGc_spec`); `cgc_sim`
(Lemmas/SimGc.lean) relates ALL reachable cells of two heaps and therefore needs `WFHeap`, `RootsOk`, `Plain`.
-/
namespace Marwood.Vm.Concrete
open Marwood Marwood.Vm Marwood.Vm.Verify Marwood.Spec
open Marwood.Heap (GcState vrefs vrefsList crefs contRefs Roots)
open Marwood.Lemmas.GcSafety Marwood.Lemmas.GcMark Marwood.Lemmas.HeapOps Marwood.Lemmas.Sim
open Classical

variable {V : VCell → Prop}

structure Collected (h : CHeap) (refs : List Nat) (h' : Heap.Heap) : Prop where
  gs : GcSpec true (toHeap h) refs h'
  shape : Shape h'
  free : ∀ p, p ∈ h'.free →
    (h.gc[p]? = some GcState.allocated ∧ ¬ Reachable true (toHeap h) refs p) ∨ p ∈ h.free ∨ h.cells.size ≤ p

theorem toHeap_shape {h : CHeap} (inv : CInvG V h) : Shape (toHeap h) := by
  have := inv.shape
  simpa [toHeap, Shape] using this

theorem collected_of_run {h : CHeap} (inv : CInvG V h) {force : Bool} {r : Roots} {h' : Heap.Heap}
    (hrun : Heap.Heap.runGc true force (toHeap h) r = .ok (.collected h')) : Collected h (r.refs true) h' := by
  have hsz : (toHeap h).gc.size = (toHeap h).cells.size := by simp [toHeap, inv.sizes]
  have hnu : ∀ i : Nat, (toHeap h).gc[i]? ≠ some GcState.used := inv.noUsed
  have hs := toHeap_shape inv
  have gs := runGc_spec true force _ r h' hsz hnu hs hrun
  have hcs : (toHeap h).cells.size = h.cells.size := by simp [toHeap]
  rcases runGc_inv true force _ r _ hrun with h1 | ⟨h1, _⟩ | ⟨h1, h2, h'', he, hm, hsw, hg⟩
  · cases h1
  · cases h1
  · cases he
    obtain ⟨k1, k2, hm', hsw', cs⟩ := collect_spec true (toHeap h) (r.refs true) hsz hnu
    rw [hm] at hm'; cases hm'
    rw [hsw] at hsw'; cases hsw'
    have hfree2 : ∀ p, p ∈ h2.free →
        (h.gc[p]? = some GcState.allocated ∧ ¬ Reachable true (toHeap h) (r.refs true) p) ∨ p ∈ h.free := by
      intro p hp
      rw [cs.free, List.mem_append, List.mem_reverse, List.mem_filter] at hp
      rcases hp with ⟨_, hq⟩ | hq
      · left
        have := of_decide_eq_true hq
        exact this
      · exact .inr hq
    have hs2 : Shape h2 := by
      obtain ⟨a, b, k, hk, hk2⟩ := hs
      exact ⟨by rw [cs.chunk]; exact a, by rw [cs.chunk]; exact b, k, hk, by rw [cs.csize, cs.chunk]; exact hk2⟩
    rcases hg with hg | hg
    · subst hg
      refine ⟨gs, hs2, ?_⟩
      intro p hp
      rcases hfree2 p hp with q | q
      · exact .inl q
      · exact .inr (.inl q)
    · have hsz2 : h2.gc.size = h2.cells.size := by rw [cs.gcsize, cs.csize, hsz]
      obtain ⟨h3, hg3, gsp, hs3⟩ := grow_spec h2 hsz2 hs2
      rw [hg] at hg3; cases hg3
      refine ⟨gs, hs3, ?_⟩
      intro p hp
      rw [gsp.free, List.mem_append, List.mem_reverse, List.mem_range'_1] at hp
      rcases hp with q | q
      · right; right; rw [← hcs, ← cs.csize]; exact q.1
      · rcases hfree2 p q with q' | q'
        · exact .inl q'
        · exact .inr (.inl q')

theorem liftGc_code {h : CHeap} {h' : Heap.Heap} {i : Nat} {c : CCell}
    (hc : (liftGc h h').cells[i]? = some c) (hne : c ≠ CCell.val .undefined) :
    h.cells[i]? = some c ∧ h'.gc[i]? ≠ some GcState.free ∧ i < h'.cells.size := by
  rw [liftGc_cell] at hc
  split at hc
  · rename_i hlt
    split at hc
    · cases hc; exact absurd rfl hne
    · rename_i hnf
      cases hci : h.cells[i]? with
      | none => rw [hci] at hc; simp at hc; exact absurd hc.symm hne
      | some c0 => rw [hci] at hc; simp at hc; subst hc; exact ⟨rfl, hnf, hlt⟩
  · cases hc

theorem liftGc_reach {h : CHeap} (inv : CInvG V h) {refs : List Nat} {h' : Heap.Heap} (co : Collected h refs h')
    {x : Nat} (hx : Reachable true (toHeap h) refs x) : (liftGc h h').cells[x]? = h.cells[x]? := by
  have hga := co.gs.gc_reach x hx
  have hlt : x < h.cells.size := by
    have h1 : x < (toHeap h).gc.size := reach_lt _ hx
    have e : (toHeap h).gc.size = h.gc.size := rfl
    rw [e, inv.sizes] at h1; exact h1
  have hlt' : x < h'.cells.size := by
    have := co.gs.size_le
    have e2 : (toHeap h).cells.size = h.cells.size := by simp [toHeap]
    omega
  rw [liftGc_cell]
  simp only [hlt', if_true, hga]
  have : h.cells[x]? = some h.cells[x] := Array.getElem?_eq_getElem hlt
  rw [this]
  simp

theorem reachable_of_kept {h : CHeap} {refs : List Nat} {h' : Heap.Heap} (co : Collected h refs h') {x : Nat}
    (hlt : x < h'.cells.size) (hnf : h'.gc[x]? ≠ some GcState.free) : Reachable true (toHeap h) refs x := by
  exact Classical.byContradiction fun hn => hnf (co.gs.gc_unreach x hlt hn)

theorem codeC_reach {h : CHeap} (inv : CInvG V h) {refs : List Nat} {h' : Heap.Heap} (co : Collected h refs h')
    {l : Nat} {bc : List VCell} (hc : codeC h l = some bc) (hx : Reachable true (toHeap h) refs l) :
    codeC (liftGc h h') l = some bc := by
  obtain ⟨lam, h1, h2⟩ := codeC_some hc
  have := liftGc_reach inv co hx
  rw [h1] at this
  rw [codeC_of_cell this, h2]

theorem liftGc_inv {h : CHeap} (inv : CInvG V h) {refs : List Nat} {h' : Heap.Heap} (co : Collected h refs h') :
    CInvG V (liftGc h h') := by
  have hsize : (liftGc h h').cells.size = h'.cells.size := by simp [liftGc]
  have hcs : (toHeap h).cells.size = h.cells.size := by simp [toHeap]
  refine ⟨?_, ?_, ?_, ?_, ?_, ?_, ?_, ?_⟩
  · rw [hsize]; exact co.gs.sizes
  · obtain ⟨a, b, k, hk, hk2⟩ := co.shape
    have hc : h'.chunk = h.chunk := co.gs.chunk
    refine ⟨by show 0 < h.chunk; rw [← hc]; exact a, by show h.chunk % 4 = 0; rw [← hc]; exact b, k, hk, ?_⟩
    rw [hsize, hk2, hc]; rfl
  · intro i
    show h'.gc[i]? ≠ some GcState.used
    by_cases hlt : i < h'.cells.size
    · by_cases hr : Reachable true (toHeap h) refs i
      · rw [co.gs.gc_reach i hr]; simp
      · rw [co.gs.gc_unreach i hlt hr]; simp
    · rw [Array.getElem?_eq_none (by rw [co.gs.sizes]; omega)]; simp
  · intro l lam hl hm
    obtain ⟨hold, hnf, hlt⟩ := liftGc_code hl (by intro hh; cases hh)
    have hm' : l ∈ h'.free := hm
    rcases co.free l hm' with ⟨_, hnr⟩ | hq | hq
    · exact hnf (co.gs.gc_unreach l hlt hnr)
    · exact inv.lamFree l lam hold hq
    · have := lt_of_get_some hold; omega
  · intro l lam hl
    obtain ⟨hold, _, _⟩ := liftGc_code hl (by intro hh; cases hh)
    exact inv.lamVer l lam hold
  · intro l lam hl
    obtain ⟨hold, _, _⟩ := liftGc_code hl (by intro hh; cases hh)
    exact inv.noIofArg l lam hold
  · intro l lam hl
    obtain ⟨hold, _, _⟩ := liftGc_code hl (by intro hh; cases hh)
    exact inv.lamArgs l lam hold
  · intro p c hc
    obtain ⟨hold, hnf, hlt⟩ := liftGc_code hc (by intro hh; cases hh)
    have hp : Reachable true (toHeap h) refs p := reachable_of_kept co hlt hnf
    obtain ⟨K, hk⟩ := inv.cont p c hold
    have hmono : ∀ l1 t, tyOf (codeC h) l1 = some t →
        (l1 = c.ipL ∨ ∃ i o1, i ≤ c.stack.sp ∧ c.stack.cellAt i = .instrPtr l1 o1) →
        tyOf (codeC (liftGc h h')) l1 = some t := ?_  -- shown after its use
    · refine ⟨K, hk.cap, hk.frames.mono_on hmono, ?_⟩
      intro t ht
      obtain ⟨t0, _, ht0, _⟩ := hk.frames.has_ty
      have := hmono _ _ ht0 (.inl rfl)
      rw [ht] at this
      have e : t = t0 := Option.some.inj this
      rw [e]
      exact hk.body t0 ht0
    intro l1 t ht hor
    -- `l1` is a child of the continuation cell `p`
    have hcode : ∃ bc, codeC h l1 = some bc := by
      unfold tyOf at ht
      cases hcd : codeC h l1 with
      | none => rw [hcd] at ht; cases ht
      | some bc => exact ⟨bc, rfl⟩
    obtain ⟨bc, hbc⟩ := hcode
    obtain ⟨lam, hcell, _⟩ := codeC_some hbc
    have hl1 : l1 < (toHeap h).gc.size := by
      have := lt_of_get_some hcell
      show l1 < h.gc.size
      rw [inv.sizes]; exact this
    have hchild : l1 ∈ (toHeap h).children true p := by
      rw [toHeap_children, hold]
      show l1 ∈ contRefs true (c.stack.cells.map eraseV) c.ipL c.ep
      unfold contRefs
      rcases hor with rfl | ⟨i, o1, _, hf⟩
      · simp
      · refine List.mem_append_left _ (vrefsList_mem (c := .instrPtr l1 o1) ?_ (by simp [eraseV, vrefs]))
        unfold Stack.cellAt at hf
        cases hci : c.stack.cells[i]? with
        | none => rw [hci] at hf; cases hf
        | some v =>
          rw [hci] at hf
          simp at hf
          subst hf
          exact List.mem_of_getElem? hci
    have hr1 : Reachable true (toHeap h) refs l1 := Reach.step hp hchild hl1
    unfold tyOf at ht ⊢
    rw [hbc] at ht
    rw [codeC_reach inv co hbc hr1]
    exact ht

theorem cgc_cases (force : Bool) (s : St CHeap) :
    cgc force s = s ∨ ∃ h', Heap.Heap.runGc true force (toHeap s.heap) (rootsOf s) = .ok (.collected h') ∧
      cgc force s = { s with heap := liftGc s.heap h' } := by
  unfold cgc
  split
  · rename_i h' heq
    exact .inr ⟨h', heq, rfl⟩
  · exact .inl rfl

theorem cgc_roots (force : Bool) (s : St CHeap) (l : Nat) (bc : List VCell) (hi : CInvG V s.heap)
    (hc : codeC s.heap l = some bc)
    (hor : l = s.ipL ∨ ∃ i o, i ≤ s.stack.sp ∧ s.stack.cellAt i = .instrPtr l o) :
    codeC (cgc force s).heap l = some bc := by
  rcases cgc_cases force s with e | ⟨h', hrun, e⟩
  · rw [e]; exact hc
  · rw [e]
    have co := collected_of_run hi hrun
    refine codeC_reach hi co hc ?_
    obtain ⟨lam, hcell, _⟩ := codeC_some hc
    have hl : l < (toHeap s.heap).gc.size := by
      have := lt_of_get_some hcell
      show l < s.heap.gc.size
      rw [hi.sizes]; exact this
    refine Reach.root ?_ hl
    rcases hor with rfl | ⟨i, o, hi', hf⟩
    · simp [Roots.refs, rootsOf]
    · refine mem_refs_stack ?_
      show l ∈ vrefsList true ((s.stack.cells.take (s.stack.sp + 1)).map eraseV)
      refine vrefsList_mem (c := .instrPtr l o) ?_ (by simp [eraseV, vrefs])
      unfold Stack.cellAt at hf
      cases hci : s.stack.cells[i]? with
      | none => rw [hci] at hf; cases hf
      | some v =>
        rw [hci] at hf
        simp at hf
        subst hf
        exact mem_take_succ.mpr ⟨i, by omega, hci⟩

theorem cgc_inv (force : Bool) (s : St CHeap) (hi : CInvG V s.heap) : CInvG V (cgc force s).heap := by
  rcases cgc_cases force s with e | ⟨h', hrun, e⟩
  · rw [e]; exact hi
  · rw [e]; exact liftGc_inv hi (collected_of_run hi hrun)

theorem cgc_enterLam (force : Bool) (s : St CHeap) (hi : CInvG V s.heap) {ops : HeapOps CHeap}
    (hcal : ops.callee = gcallee) (h : enterLam ops s.heap s.acc = some s.ipL) :
    enterLam ops (cgc force s).heap s.acc = some s.ipL := by
  rcases cgc_cases force s with e | ⟨h', hrun, e⟩
  · rw [e]; exact h
  · rw [e]
    have co := collected_of_run hi hrun
    show enterLam ops (liftGc s.heap h') s.acc = some s.ipL
    -- a root cell is unchanged: `ip.0` still holds procedure code, `callee` reads the same cell through `acc`
    have hroot : ∀ p c, s.heap.cells[p]? = some c → p ∈ (rootsOf s).refs true →
        (liftGc s.heap h').cells[p]? = some c := by
      intro p c hc hm
      have hl : p < (toHeap s.heap).gc.size := by
        have := lt_of_get_some hc
        show p < s.heap.gc.size
        rw [hi.sizes]; exact this
      rw [liftGc_reach hi co (Reach.root hm hl)]; exact hc
    have hproc : procAt s.heap s.ipL = true → procAt (liftGc s.heap h') s.ipL = true := by
      intro hp
      unfold procAt at hp ⊢
      cases hla : lambdaAt s.heap s.ipL with
      | none => rw [hla] at hp; cases hp
      | some lam =>
        rw [hla] at hp
        rw [lambdaAt_iff.mpr (hroot _ _ (lambdaAt_iff.mp hla) (by simp [Roots.refs, rootsOf]))]; exact hp
    have hcallee : callee s.heap s.acc ≠ .other → callee (liftGc s.heap h') s.acc = callee s.heap s.acc := by
      intro hne
      cases hacc : s.acc with
      | ptr p =>
        rw [hacc] at hne
        cases hcell : s.heap.cells[p]? with
        | none => exact absurd (by simp only [callee, hcell]) hne
        | some c =>
          simp only [callee, hcell, hroot p c hcell (mem_refs_acc (by simp [rootsOf, hacc, eraseV, vrefs]))]
      | _ => rfl
    rw [enterLam_eq_some, hcal] at h ⊢
    rcases h with ⟨env, hc⟩ | ⟨hc, hacc⟩
    · rcases gcallee_cases s.heap s.acc with ⟨e, k, _⟩ | e
      · rw [e] at hc
        refine .inl ⟨env, ?_⟩
        unfold gcallee
        rw [hcallee (by rw [hc]; nofun), hc]
        exact if_pos (hproc (k _ _ hc))
      · cases e.symm.trans hc
    · rcases gcallee_cases s.heap s.acc with ⟨e, _, k⟩ | e
      · rw [e] at hc
        obtain ⟨q, hq, hp⟩ := k hc
        cases hacc.symm.trans hq
        refine .inr ⟨?_, hacc⟩
        unfold gcallee
        rw [hcallee (by rw [hc]; nofun), hc, hacc]
        exact if_pos (hproc hp)
      · cases e.symm.trans hc

/-- **`GcLaws` for the real collector, as a theorem.** -/
theorem cgc_gcLaws (ext : ExtOps) (ecl : ExtCodeLaws ext) (force : Bool) :
    GcLaws (concreteLaws ext ecl) (cgc force) where
  frame := fun s => by
    obtain ⟨g1, _, _, g4, g5, g6⟩ := cgc_regs force s
    exact ⟨g1, g4, g5, g6⟩
  acc := fun s => (cgc_regs force s).2.1
  callee := fun s hi h => cgc_enterLam force s (V := fun _ => True) hi rfl h
  inv := fun s hi => cgc_inv force s (V := fun _ => True) hi
  roots := fun s l bc hi hc hor => cgc_roots force s l bc (V := fun _ => True) hi hc hor

end Marwood.Vm.Concrete
