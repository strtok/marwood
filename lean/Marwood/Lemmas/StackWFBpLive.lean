import Marwood.Lemmas.ContResumeRun
/-!
# `BpLive` is a theorem: a `BasePointerOffset` source operand of verified code reads a live cell

The bytecode verifier (`bpSrcOk` in `checkAt`) accepts a `BasePointerOffset(off)` in the cell after a reachable opcode
— the *source* operand of MOV / PUSH, `load_operand` of run.rs — only in procedure code and with `off ≤ 0`. In a
WF-stack state the current frame of procedure code outside its prologue is complete, so the cell read,
`stack[bp + off]`, is at or below `bp`: a **live** cell, never a stale one above `sp` (in fact an argument cell of the
current frame holding a value, `AtInstr.bp_val`). `WFS.bp_src` is the general statement; `bpLive_of_wfs` discharges
the side condition `BpLive` of `step_stack` and `step_live_congruence`; the formulation on the concrete heap is
`simBpLive_of_wfs` (`Lemmas/ConcreteLawsBpLive.lean`).
-/
namespace Marwood.Vm
open Verify Stack

variable {H : Type} {ops : HeapOps H}

theorem flowsTo_isSome {x : List ACell} {s : Option AState} (h : flowsTo x s = true) : ∃ st, s = some st := by
  cases s with
  | none => simp [flowsTo] at h
  | some st => exact ⟨st, rfl⟩

theorem after_pre_is_opcode {t : LamTy} (hc : checkAll t.bc t.tm t.entry = true) {o : Nat}
    (hst : stateAt t.tm o = some .pre) (ho : o + 1 < t.bc.length) : ∃ op, t.bc[o + 1]? = some (.opcode op) := by
  obtain ⟨op, _, _, hck⟩ := typed_offset hc hst (by omega)
  have hnext : ∃ st', stateAt t.tm (o + 1) = some st' := by
    cases op <;> simp only [checkOp, Bool.and_eq_true, decide_eq_true_eq] at hck <;>
      first | exact absurd hck Bool.false_ne_true | skip
    · exact flowsTo_isSome hck.2
    · exact ⟨_, hck.2⟩
  obtain ⟨st', hst'⟩ := hnext
  obtain ⟨op', hop', _⟩ := typed_offset hc hst' ho
  exact ⟨op', hop'⟩

/-- If the cell after the current instruction's opcode is `BasePointerOffset(off)`, the code is procedure code, the
    current frame is complete and `off ≤ 0`: the cell `load_operand` reads is at or below `bp`, hence below `sp` -/
theorem WFS.bp_src {cl : CodeLaws ops} {s : St H} {K : List FDesc} (hw : WFS cl s K) {t : LamTy}
    (ht : tyOf (cl.code s.heap) s.ipL = some t) {off : Int}
    (hb : t.bc[s.ipO + 1]? = some (.bpOffset off)) :
    t.entry = false ∧ off ≤ 0 ∧ s.bp + 4 ≤ s.stack.sp ∧
      ∃ n, s.stack.cellAt (s.bp + 1) = .argc n ∧ n ≤ s.bp := by
  obtain ⟨t', st, ht', hst⟩ := hw.wf.frames.has_ty
  have e : t' = t := by rw [ht] at ht'; exact (Option.some.inj ht').symm
  subst e
  have hchk := (tyOf_spec ht).2
  have ho : s.ipO + 1 < t'.bc.length := by
    by_cases h : s.ipO + 1 < t'.bc.length
    · exact h
    · rw [List.getElem?_eq_none (by omega)] at hb; cases hb
  obtain ⟨op, _, hsrc, _⟩ := typed_offset hchk hst (by omega)
  rw [hb] at hsrc
  simp only [bpSrcOk, Bool.and_eq_true, Bool.not_eq_true', decide_eq_true_eq] at hsrc
  obtain ⟨hent, hoff⟩ := hsrc
  have hne : st ≠ .pre := by
    intro hp
    subst hp
    obtain ⟨op', hop'⟩ := after_pre_is_opcode hchk hst ho
    rw [hb] at hop'; cases hop'
  obtain ⟨n, ep', l', o', bp', K', hm, hA, _, _, _, hn, _, _⟩ := hw.wf.frames.inv_frame ht hent hst hne
  exact ⟨hent, hoff, hm.lo_le, n, hA, hn⟩

/-- **`BpLive` from WF-stack** (the side condition of `step_stack` / `step_live_congruence`,
    `Lemmas/ContResumeStep.lean`): in a WF-stack state of verified code, a `BasePointerOffset` source
    operand of the current instruction designates a cell at or below `sp`. -/
theorem bpLive_of_wfs {cl : CodeLaws ops} {s : St H} {K : List FDesc} (hw : WFS cl s K) : BpLive ops s := by
  intro off hf
  obtain ⟨t, st, ht, _⟩ := hw.wf.frames.has_ty
  rw [cl.fetch_code hw.inv (tyOf_spec ht).1] at hf
  obtain ⟨_, h2, h3, _⟩ := hw.bp_src ht hf
  omega

/-- the same with `ip.1` already advanced to the operand (the form in which `load_operand` meets it) -/
theorem bpLive_operand_of_wfs {cl : CodeLaws ops} {s : St H} {K : List FDesc} (hw : WFS cl s K) {off : Int}
    (hf : ops.fetch s.heap s.ipL (s.ipO + 1) = some (.bpOffset off)) :
    off ≤ 0 ∧ (s.bp : Int) + off ≤ s.bp ∧ s.bp + 4 ≤ s.stack.sp := by
  obtain ⟨t, st, ht, _⟩ := hw.wf.frames.has_ty
  rw [cl.fetch_code hw.inv (tyOf_spec ht).1] at hf
  obtain ⟨_, h2, h3, _⟩ := hw.bp_src ht hf
  exact ⟨h2, by omega, h3⟩


/-- `step` is a function of (live stack, registers, heap) — `step_live_congruence` with `BpLive`
    discharged by WF-stack -/
theorem step_live_congruence_wf {cl : CodeLaws ops} (ll : LiveLaws cl) {s1 s2 r1 : St H} {K : List FDesc}
    {bl : Bool} (hw : WFS cl s1 K) (heq : LiveEq s1 s2) (hcap2 : s2.stack.sp < s2.stack.cells.length)
    (hfit : ∀ c, ops.callee s1.heap s1.acc = .continuation c → c.stack.cells.length ≤ s2.stack.cells.length)
    (hs : step ops s1 = .ok (r1, bl)) :
    ∃ r2, step ops s2 = .ok (r2, bl) ∧ LiveEq r1 r2 ∧ r2.stack.sp < r2.stack.cells.length :=
  step_live_congruence ll hw heq hcap2 (bpLive_of_wfs hw) hfit hs

/-- what is left of `SideOK` once `BpLive` is a theorem: along the two runs in lock step, an invoked continuation's
    stack copy fits the capacity of the second machine's stack -/
def FitOK (ops : HeapOps H) : Nat → St H → St H → Prop
  | 0, _, _ => True
  | n + 1, s1, s2 =>
    (∀ c, ops.callee s1.heap s1.acc = .continuation c → c.stack.cells.length ≤ s2.stack.cells.length) ∧
    ∀ r1 r2, step ops s1 = .ok (r1, false) → step ops s2 = .ok (r2, false) → FitOK ops n r1 r2

theorem sideOK_of_fitOK {cl : CodeLaws ops} : ∀ (n : Nat) {s1 s2 : St H} {K : List FDesc},
    WFS cl s1 K → FitOK ops n s1 s2 → SideOK ops n s1 s2 := by
  intro n
  induction n with
  | zero => intro _ _ _ _ _; trivial
  | succ n ih =>
    intro s1 s2 K hw hf
    refine ⟨bpLive_of_wfs hw, hf.1, ?_⟩
    intro r1 r2 h1 h2
    obtain ⟨K', hw', _⟩ := step_preserves hw h1
    exact ih hw' (hf.2 r1 r2 h1 h2)

theorem runN_live_congruence_wf {cl : CodeLaws ops} (ll : LiveLaws cl) (n : Nat) {s1 s2 r1 : St H}
    {K : List FDesc} {bl : Bool} (hw : WFS cl s1 K) (heq : LiveEq s1 s2)
    (hcap2 : s2.stack.sp < s2.stack.cells.length) (hfit : FitOK ops n s1 s2)
    (hr : runN ops n s1 = .ok (r1, bl)) : ∃ r2, runN ops n s2 = .ok (r2, bl) ∧ LiveEq r1 r2 :=
  runN_live_congruence ll n hw heq hcap2 (sideOK_of_fitOK n hw hfit) hr

end Marwood.Vm
