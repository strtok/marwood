import Marwood.Lemmas.TransformMatchPlain
/-!
# The matcher's verdict on patterns with ellipses, as R7RS sees it

On well-formed patterns (`okP`/`okS`: what `try_new` accepts) the matcher may answer `true` only if R7RS
matches (`sm`), `false` only if R7RS does not match or the use is in the excluded class `zeroRepTail`
(`gp`: an ellipsis with a fixed tail that gets no item): `Verdict`, and `InEllV` for the in-ellipsis
phase of the loop, with one composition lemma per case of the loop. The induction is `match_run_aux`.
-/
namespace Marwood.Transform
open Marwood Marwood.Spec.Match

mutual
def okP (es : Text) : Datum → Bool
  | .sym s => s != es
  | .pair a d => okP es a && okS es true d
  | .vec _ => false
  | _ => true
/-- `allow` = an ellipsis may still come -/
def okS (es : Text) : Bool → Datum → Bool
  | _, .nil => true
  | allow, .pair q rest =>
    if q = .sym es then allow && okS es false rest else okP es q && okS es allow rest
  | _, _ => false
end

def sm (c : Ctx) (P E : Datum) : Bool := (specMatch c P E).isSome
abbrev gp (c : Ctx) (P E : Datum) : Bool := zeroRepTail c P E

theorem spineLen_ofList (xs : List Datum) : spineLen (Datum.ofList xs) = xs.length := by
  induction xs with
  | nil => rfl
  | cons x xs ih => simp [Datum.ofList, spineLen, ih]

theorem takeSpine_ofList : ∀ (k : Nat) (xs : List Datum), takeSpine k (Datum.ofList xs) = xs.take k := by
  intro k
  induction k with
  | zero => intro xs; cases xs <;> simp [takeSpine, Datum.ofList]
  | succ k ih =>
    intro xs
    cases xs with
    | nil => simp [takeSpine, Datum.ofList]
    | cons x xs => simp [takeSpine, Datum.ofList, ih]

theorem dropSpine_ofList : ∀ (k : Nat) (xs : List Datum),
    dropSpine k (Datum.ofList xs) = Datum.ofList (xs.drop k) := by
  intro k
  induction k with
  | zero => intro xs; cases xs <;> simp [dropSpine, Datum.ofList]
  | succ k ih =>
    intro xs
    cases xs with
    | nil => simp [dropSpine, Datum.ofList]
    | cons x xs => simp [dropSpine, Datum.ofList, ih]

theorem appendSpine_ofList (hs ds : List Datum) :
    appendSpine hs (Datum.ofList ds) = Datum.ofList (hs ++ ds) := by
  induction hs with
  | nil => rfl
  | cons h hs ih => simp [appendSpine, Datum.ofList, ih]

theorem mapM_isSome {α β : Type} (g : α → Option β) : ∀ (xs : List α),
    (xs.mapM g).isSome = xs.all (fun x => (g x).isSome) := by
  intro xs
  induction xs with
  | nil => simp
  | cons x xs ih =>
    simp only [List.mapM_cons, List.all_cons]
    cases hx : g x with
    | none => simp
    | some y =>
      cases hxs : xs.mapM g with
      | none => rw [hxs] at ih; simp [← ih]
      | some ys => rw [hxs] at ih; simp [← ih]

theorem sm_nil (c : Ctx) (E : Datum) : sm c .nil E = decide (E = .nil) := by
  simp only [sm, specMatch_nil]
  split <;> simp_all

theorem gp_nil (c : Ctx) (E : Datum) : gp c .nil E = false := by
  simp [gp, zeroRepTail]

theorem sm_cons (c : Ctx) (p rest E : Datum) (h : headNotEll c rest = true) :
    sm c (.pair p rest) E =
      (match E with
       | .pair e1 er => sm c p e1 && sm c rest er
       | _ => false) := by
  simp only [sm, specMatch_pair _ _ _ _ h]
  cases E <;> simp [consMatch]
  rename_i e1 er
  cases specMatch c p e1 <;> simp
  cases specMatch c rest er <;> simp

theorem gp_cons (c : Ctx) (p rest E : Datum) (h : headNotEll c rest = true) :
    gp c (.pair p rest) E =
      (match E with
       | .pair e1 er => gp c p e1 || gp c rest er
       | _ => false) := by
  have hq := headNotEll_pair h
  simp only [gp]
  rcases pair_or_not E with ⟨e1, er, rfl⟩ | hE <;> rcases pair_or_not rest with ⟨q, r, rfl⟩ | hr
  · rw [zeroRepTail.eq_1, if_neg (hq _ _ rfl)]
  · rw [zeroRepTail.eq_3 _ _ _ _ _ hr]
  · rw [zeroRepTail.eq_2 _ _ _ _ _ hE, if_neg (hq _ _ rfl)]; split
    · exact (hE _ _ rfl).elim
    · rfl
  · rw [zeroRepTail.eq_4 _ _ _ _ hr hE]; split
    · exact (hE _ _ rfl).elim
    · rfl

theorem specMatch_ell_eq (c : Ctx) (p q R E : Datum) (hq : c.isEllD q = true) :
    specMatch c (.pair p (.pair q R)) E =
      (if spineLen E < spineLen R then none
       else
        match (takeSpine (spineLen E - spineLen R) E).mapM (fun x => specMatch c p x) with
        | none => none
        | some bs =>
          match specMatch c R (dropSpine (spineLen E - spineLen R) E) with
          | none => none
          | some tb => some (collect (patVars c p) bs ++ tb)) := by
  conv => lhs; unfold specMatch
  simp only [hq, if_true]
  rfl

theorem sm_ell (c : Ctx) (p q R E : Datum) (hq : c.isEllD q = true) :
    sm c (.pair p (.pair q R)) E =
      (decide (spineLen R ≤ spineLen E) &&
        (takeSpine (spineLen E - spineLen R) E).all (fun x => sm c p x) &&
        sm c R (dropSpine (spineLen E - spineLen R) E)) := by
  simp only [sm]
  rw [specMatch_ell_eq c p q R E hq]
  by_cases hlt : spineLen E < spineLen R
  · have : ¬ (spineLen R ≤ spineLen E) := by omega
    simp [hlt, this]
  · have hle : spineLen R ≤ spineLen E := by omega
    simp only [hlt, if_false, hle, decide_true, Bool.true_and]
    rw [← mapM_isSome]
    cases (takeSpine (spineLen E - spineLen R) E).mapM (fun x => specMatch c p x) with
    | none => simp
    | some bs =>
      cases specMatch c R (dropSpine (spineLen E - spineLen R) E) <;> simp

theorem gp_ell (c : Ctx) (p q R E : Datum) (hq : c.isEllD q = true) :
    gp c (.pair p (.pair q R)) E =
      (decide (spineLen R ≤ spineLen E) &&
        ((decide (1 ≤ spineLen R) && spineLen E == spineLen R) ||
         (takeSpine (spineLen E - spineLen R) E).any (fun x => gp c p x) ||
         gp c R (dropSpine (spineLen E - spineLen R) E))) := by
  simp only [gp]
  conv => lhs; unfold zeroRepTail
  simp only [hq, if_true]
  by_cases hlt : spineLen E < spineLen R
  · have : ¬ (spineLen R ≤ spineLen E) := by omega
    simp [hlt, this]
  · have hle : spineLen R ≤ spineLen E := by omega
    simp [hlt, hle]


def VerdictOf (S G b : Bool) : Prop :=
  (b = true → S = true) ∧ (b = false → S = false ∨ G = true)

theorem VerdictOf.cons {a g S G b : Bool} (ha : a = true) (h : VerdictOf S G b) :
    VerdictOf (a && S) (g || G) b :=
  ⟨fun hb => by rw [ha, h.1 hb]; rfl,
   fun hb => (h.2 hb).imp (fun hS => by rw [hS, Bool.and_false]) (fun hG => by rw [hG, Bool.or_true])⟩

theorem VerdictOf.refuse {a g S G : Bool} (h : a = false ∨ g = true) :
    VerdictOf (a && S) (g || G) false :=
  ⟨nofun, fun _ => h.imp (fun ha => by rw [ha, Bool.false_and]) (fun hg => by rw [hg, Bool.true_or])⟩

def Verdict (c : Ctx) (P E : Datum) (b : Bool) : Prop := VerdictOf (sm c P E) (gp c P E) b

/-- `xs` are the items still to come, `p` the repeated pattern, `rest` the fixed tail -/
def smStar (c : Ctx) (p : Datum) (rest xs : List Datum) : Bool :=
  decide (rest.length ≤ xs.length) &&
    (xs.take (xs.length - rest.length)).all (fun x => sm c p x) &&
    sm c (Datum.ofList rest) (Datum.ofList (xs.drop (xs.length - rest.length)))

def gpStar (c : Ctx) (p : Datum) (rest xs : List Datum) : Bool :=
  decide (rest.length ≤ xs.length) &&
    ((xs.take (xs.length - rest.length)).any (fun x => gp c p x) ||
      gp c (Datum.ofList rest) (Datum.ofList (xs.drop (xs.length - rest.length))))

def InEllV (c : Ctx) (p : Datum) (rest xs : List Datum) (b : Bool) : Prop :=
  VerdictOf (smStar c p rest xs) (gpStar c p rest xs) b

section pure
variable {c : Ctx} {p : Datum} {rest xs : List Datum} {b : Bool}

theorem smStar_short (h : xs.length < rest.length) : smStar c p rest xs = false := by
  simp [smStar, Nat.not_le.mpr h]

theorem star_cons (e : Datum) (h : rest.length ≤ xs.length) :
    smStar c p rest (e :: xs) = (sm c p e && smStar c p rest xs) ∧
    gpStar c p rest (e :: xs) = (gp c p e || gpStar c p rest xs) := by
  have e1 : (e :: xs).length - rest.length = (xs.length - rest.length) + 1 := by simp; omega
  have h' : rest.length ≤ (e :: xs).length := by simp; omega
  simp only [smStar, gpStar, e1, h, h', decide_true, Bool.true_and, List.take_succ_cons,
    List.drop_succ_cons, List.all_cons, List.any_cons, Bool.and_assoc, Bool.or_assoc, and_self]

theorem star_all (h : rest.length = xs.length) :
    smStar c p rest xs = sm c (Datum.ofList rest) (Datum.ofList xs) ∧
    gpStar c p rest xs = gp c (Datum.ofList rest) (Datum.ofList xs) := by
  simp [smStar, gpStar, h]

theorem InEllV.reuse {e : Datum} (hne : rest.length ≠ xs.length + 1)
    (h : VerdictOf (sm c p e && smStar c p rest xs) (gp c p e || gpStar c p rest xs) b) :
    InEllV c p rest (e :: xs) b := by
  by_cases hle : rest.length ≤ xs.length
  · rw [InEllV, (star_cons e hle).1, (star_cons e hle).2]
    exact h
  · -- fewer items than the tail needs, with `e` and without
    refine ⟨fun hb => ?_, fun _ => .inl (smStar_short (by simp; omega))⟩
    have := h.1 hb
    rw [smStar_short (by omega), Bool.and_false] at this
    cases this

theorem Verdict.cons {q e : Datum} (hh : headNotEll c (Datum.ofList rest) = true)
    (h : VerdictOf (sm c q e && sm c (Datum.ofList rest) (Datum.ofList xs))
      (gp c q e || gp c (Datum.ofList rest) (Datum.ofList xs)) b) :
    Verdict c (Datum.ofList (q :: rest)) (Datum.ofList (e :: xs)) b := by
  simp only [Verdict, Datum.ofList]
  rwa [sm_cons _ _ _ _ hh, gp_cons _ _ _ _ hh]

/-- the `pattern_iter.len() == expr_iter.len() + 2` hand-off -/
theorem InEllV.handoff {q e : Datum} (hlen : rest.length = xs.length)
    (hh : headNotEll c (Datum.ofList rest) = true)
    (h : VerdictOf (sm c q e && sm c (Datum.ofList rest) (Datum.ofList xs))
      (gp c q e || gp c (Datum.ofList rest) (Datum.ofList xs)) b) :
    InEllV c p (q :: rest) (e :: xs) b := by
  have hl : (q :: rest).length = (e :: xs).length := by simp [hlen]
  rw [InEllV, (star_all hl).1, (star_all hl).2]
  exact Verdict.cons hh h

variable (s : Setup)

theorem isEllD_ell : s.ctx.isEllD s.ell = true := by
  rw [s.isEllD_eq]; simp [Setup.ell]

theorem sm_whole (p : Datum) (rest xs : List Datum) :
    sm s.ctx (Datum.ofList (p :: s.ell :: rest)) (Datum.ofList xs) = smStar s.ctx p rest xs := by
  simp only [Datum.ofList]
  rw [sm_ell _ _ _ _ _ (isEllD_ell s)]
  rw [spineLen_ofList, spineLen_ofList, takeSpine_ofList, dropSpine_ofList]
  rfl

theorem gp_whole (p : Datum) (rest xs : List Datum) :
    gp s.ctx (Datum.ofList (p :: s.ell :: rest)) (Datum.ofList xs) =
      ((decide (1 ≤ rest.length) && xs.length == rest.length) || gpStar s.ctx p rest xs) := by
  simp only [Datum.ofList]
  rw [gp_ell _ _ _ _ _ (isEllD_ell s)]
  rw [spineLen_ofList, spineLen_ofList, takeSpine_ofList, dropSpine_ofList]
  by_cases hle : rest.length ≤ xs.length
  · simp [gpStar, hle, Bool.or_assoc]
  · have : (xs.length == rest.length) = false := by simp; omega
    simp [gpStar, hle, this]

theorem Verdict.enter {e : Datum}
    (h : VerdictOf (sm s.ctx p e && smStar s.ctx p rest xs) (gp s.ctx p e || gpStar s.ctx p rest xs) b) :
    Verdict s.ctx (Datum.ofList (p :: s.ell :: rest)) (Datum.ofList (e :: xs)) b := by
  rw [Verdict, sm_whole, gp_whole]
  by_cases hne : rest.length = xs.length + 1
  · -- the tail needs every item: the excluded class
    refine ⟨fun hb => ?_, fun _ => .inr (by simp [hne])⟩
    have := h.1 hb
    rw [smStar_short (by omega), Bool.and_false] at this
    cases this
  · have h' := InEllV.reuse hne h
    exact ⟨h'.1, fun hb => (h'.2 hb).imp_right fun hG => by rw [hG, Bool.or_true]⟩

end pure


theorem okP_ne_ell {es : Text} {q : Datum} (h : okP es q = true) : q ≠ .sym es := by
  intro hq; subst hq; simp [okP] at h

theorem okP_pair_spine {es : Text} {a d : Datum} (h : okP es (.pair a d) = true) :
    okS es true (.pair a d) = true := by
  simp only [okP, Bool.and_eq_true] at h
  simp only [okS, okP_ne_ell h.1, if_false, h.1, h.2, Bool.and_self]

theorem okS_endsInNil {es : Text} : ∀ {d : Datum} {allow : Bool}, okS es allow d = true → endsInNil d = true := by
  intro d
  induction d with
  | pair a d _ ihd =>
    intro allow h
    simp only [okS] at h
    simp only [endsInNil]
    split at h
    · simp only [Bool.and_eq_true] at h; exact ihd h.2
    · simp only [Bool.and_eq_true] at h; exact ihd h.2
  | nil => intro _ _; rfl
  | _ => intro allow h; simp [okS] at h

theorem okS_cons_ne {es : Text} {allow : Bool} {q : Datum} {rest : List Datum} (hq : q ≠ .sym es) :
    okS es allow (Datum.ofList (q :: rest)) = (okP es q && okS es allow (Datum.ofList rest)) := by
  simp [Datum.ofList, okS, hq]

theorem okS_cons_ell {es : Text} {allow : Bool} {rest : List Datum} :
    okS es allow (Datum.ofList (Datum.sym es :: rest)) = (allow && okS es false (Datum.ofList rest)) := by
  simp [Datum.ofList, okS]

theorem peekIs_ell_iff (s : Setup) (ps : List Datum) :
    peekIs s.ell ps = true ↔ ∃ rest, ps = s.ell :: rest := by
  cases ps with
  | nil => simp [peekIs]
  | cons q qs => simp [peekIs, Setup.ell]

theorem headNotEll_ofList (s : Setup) (ps : List Datum) :
    headNotEll s.ctx (Datum.ofList ps) = !peekIs s.ell ps := by
  cases ps with
  | nil => rfl
  | cons q qs => simp [Datum.ofList, headNotEll, s.isEllD_eq, peekIs]

theorem okS_false_peek (s : Setup) : ∀ (rest : List Datum), okS s.es false (Datum.ofList rest) = true →
    peekIs s.ell rest = false := by
  intro rest h
  cases rest with
  | nil => rfl
  | cons q qs =>
    by_cases hq : q = .sym s.es
    · subst hq; simp [okS_cons_ell] at h
    · simp [peekIs, Setup.ell, hq]

theorem okS_false_cons {es : Text} {q : Datum} {rest : List Datum}
    (h : okS es false (Datum.ofList (q :: rest)) = true) :
    okP es q = true ∧ okS es false (Datum.ofList rest) = true := by
  have hq : q ≠ .sym es := by
    intro hq; subst hq; simp [okS_cons_ell] at h
  rwa [okS_cons_ne hq, Bool.and_eq_true] at h

theorem selNext_handoff (p ell q : Datum) (rest xs : List Datum) (h : (q :: rest).length = xs.length + 1) :
    selNext p true (ell :: q :: rest) xs = .inr (q, rest) := by
  simp only [List.length_cons] at h
  simp [selNext, h]

theorem selNext_reuse (p ell : Datum) (rest xs : List Datum) (h : rest.length ≠ xs.length + 1) :
    selNext p true (ell :: rest) xs = .inr (p, ell :: rest) := by
  simp [selNext, h]

theorem gp_sym (c : Ctx) (x : Text) (e : Datum) : gp c (.sym x) e = false := by
  simp [gp, zeroRepTail]

theorem gp_datum (c : Ctx) {p : Datum} (e : Datum) (h : isDatumPat p = true) : gp c p e = false := by
  cases p <;> simp [isDatumPat] at h <;> simp [gp, zeroRepTail]

theorem elemStep_datum (c : Ctx) (ell : Datum) (lits : List Datum) (f : Nat) {cur : Datum} (e : Datum)
    (env : Bindings) (k : Bindings → Res (Bool × Bindings)) (hd : isDatumPat cur = true) :
    (specMatch c cur e = none ∧ elemStep ell lits f cur e env k = .ok (false, env)) ∨
    (specMatch c cur e = some [] ∧ elemStep ell lits f cur e env k = k env) := by
  have hstep : elemStep ell lits f cur e env k = if !cellEq cur e then .ok (false, env) else k env := by
    cases cur <;> first | rfl | cases hd
  rw [specMatch_datum c e hd, hstep]
  cases cellEq cur e
  · exact .inl ⟨rfl, rfl⟩
  · exact .inr ⟨rfl, rfl⟩

/-- on a pattern element that is not a list: refused, accepted with no binding (literal, `_`, datum),
    or accepted with one (variable) -/
theorem elemStep_atom (s : Setup) (f : Nat) {cur : Datum} (e : Datum) (env : Bindings)
    (k : Bindings → Res (Bool × Bindings)) (hcur : okP s.es cur = true) (hnp : cur.isPair = false) :
    gp s.ctx cur e = false ∧
    ((specMatch s.ctx cur e = none ∧ elemStep s.ell s.lits f cur e env k = .ok (false, env)) ∨
     (specMatch s.ctx cur e = some [] ∧ elemStep s.ell s.lits f cur e env k = k env) ∨
     (∃ x, cur = .sym x ∧ specMatch s.ctx cur e = some [(x, .one e)] ∧
        elemStep s.ell s.lits f cur e env k = k (env ++ [(cur, e)]))) := by
  cases cur with
  | sym x =>
    have hx : x ≠ s.es := by simpa [okP] using hcur
    have hsp := specMatch_sym s x e hx
    refine ⟨gp_sym _ _ _, ?_⟩
    simp only [elemStep, s.lits_any, cellEq_sym_left, underscore]
    by_cases hl : s.ctx.isLit x = true
    · simp only [hl, if_true] at hsp ⊢
      by_cases he : e = .sym x
      · right; left
        simp only [he, if_true, decide_true, Bool.not_true, Bool.false_eq_true, if_false] at hsp ⊢
        exact ⟨hsp, trivial⟩
      · left
        simp only [he, if_false, decide_false, Bool.not_false, if_true] at hsp ⊢
        exact ⟨hsp, trivial⟩
    · simp only [hl, Bool.false_eq_true, if_false] at hsp ⊢
      by_cases hu : x = ['_']
      · right; left
        subst hu
        simp only [if_true, decide_true, Bool.not_true, Bool.false_eq_true, if_false] at hsp ⊢
        exact ⟨hsp, trivial⟩
      · right; right
        have hu' : ¬ (Datum.sym ['_'] = Datum.sym x) := fun h => hu (Datum.sym.inj h).symm
        simp only [hu, hu', if_false, decide_false, Bool.not_false, if_true] at hsp ⊢
        exact ⟨x, rfl, hsp, trivial⟩
  | pair a d => cases hnp
  | vec v => simp [okP] at hcur
  | _ => exact ⟨gp_datum _ _ rfl, (elemStep_datum s.ctx _ _ _ _ _ _ rfl).imp_right .inl⟩

theorem okP_pair_head {s : Setup} {a d : Datum} (h : okP s.es (.pair a d) = true) :
    headNotEll s.ctx (.pair a d) = true := by
  simp only [okP, Bool.and_eq_true] at h
  simp only [headNotEll, s.isEllD_eq, Setup.ell, cellEq_sym_right]
  simp [okP_ne_ell h.1]


theorem okS_false_head (s : Setup) {R : Datum} (h : okS s.es false R = true) :
    headNotEll s.ctx R = true := by
  cases R with
  | pair q R' =>
    by_cases hq : q = .sym s.es
    · simp [okS, hq] at h
    · simp [headNotEll, s.isEllD_eq, Setup.ell, hq]
  | _ => rfl

theorem endsInNil_dropSpine : ∀ (k : Nat) (E : Datum), endsInNil (dropSpine k E) = true → endsInNil E = true := by
  intro k
  induction k with
  | zero => intro E h; cases E <;> simpa [dropSpine] using h
  | succ k ih =>
    intro E h
    cases E with
    | pair x y => simp only [dropSpine] at h; simp only [endsInNil]; exact ih y h
    | _ => simpa [dropSpine] using h

theorem sm_okS_false_proper (s : Setup) : ∀ (R E : Datum),
    okS s.es false R = true → sm s.ctx R E = true → endsInNil E = true := by
  intro R
  induction R with
  | nil => intro E _ h; rw [sm_nil] at h; simp at h; subst h; rfl
  | pair q R' _ ihd =>
    intro E hok h
    have hq : ¬ q = .sym s.es := by intro hq; simp [okS, hq] at hok
    simp only [okS, hq, if_false, Bool.and_eq_true] at hok
    rw [sm_cons _ _ _ _ (okS_false_head s hok.2)] at h
    cases E with
    | pair e1 er =>
      simp only [Bool.and_eq_true] at h
      simp only [endsInNil]
      exact ihd er hok.2 h.2
    | _ => simp at h
  | _ => intro E h; simp [okS] at h

theorem sm_okS_proper (s : Setup) : ∀ (P : Datum) (allow : Bool) (E : Datum),
    okS s.es allow P = true → headNotEll s.ctx P = true → sm s.ctx P E = true → endsInNil E = true := by
  intro P
  induction P with
  | nil => intro allow E _ _ h; rw [sm_nil] at h; simp at h; subst h; rfl
  | pair a d _ ihd =>
    intro allow E hok hh h
    have ha : ¬ a = .sym s.es := by
      intro ha
      simp [headNotEll, s.isEllD_eq, Setup.ell, ha] at hh
    simp only [okS, ha, if_false, Bool.and_eq_true] at hok
    by_cases hd : headNotEll s.ctx d = true
    · rw [sm_cons _ _ _ _ hd] at h
      cases E with
      | pair e1 er =>
        simp only [Bool.and_eq_true] at h
        simp only [endsInNil]
        exact ihd allow er hok.2 hd h.2
      | _ => simp at h
    · -- d = (ell . R)
      cases d with
      | pair q R =>
        have hq : s.ctx.isEllD q = true := by simpa [headNotEll] using hd
        have hqe : q = .sym s.es := by simpa [s.isEllD_eq, Setup.ell] using hq
        rw [sm_ell _ _ _ _ _ hq] at h
        simp only [Bool.and_eq_true] at h
        have hR : okS s.es false R = true := by
          have := hok.2
          simp only [okS, hqe, if_true, Bool.and_eq_true] at this
          exact this.2
        exact endsInNil_dropSpine _ _ (sm_okS_false_proper s R _ hR h.2)
      | _ => simp [headNotEll] at hd
  | _ => intro allow E h; simp [okS] at h


theorem peekIs_ell_cons (s : Setup) (rest : List Datum) : peekIs s.ell (s.ell :: rest) = true := by
  simp [peekIs, Setup.ell]

end Marwood.Transform
