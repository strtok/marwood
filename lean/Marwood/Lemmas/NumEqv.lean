import Marwood.Lemmas.NumCmp
import Marwood.Num.Eqv
import Marwood.Spec.NumEqv
/-!
# The number arm of `Vm::eqv` computes R7RS `eqv?` on numbers

`eqvNum_spec`: `eqvNum a b = true ↔ eqvSpec a b` for well-formed numbers.  The exact pairs are `Cmp.eq_spec`
(the `false` of `PartialEq` for an integer outside i32 against a ratio is right: a well-formed ratio that is
an integer lies inside).  At the end `NTree.equal` on the shapes `Proofs/C14Eqv` compares.
-/
namespace Marwood.Eqv
open Marwood Marwood.NumSpec Marwood.Cmp

theorem ext_exact {a : Num} (h : isExact a = true) : ∃ v, val a = some v ∧ ext a = some (.fin v) := by
  cases a
  case fix n => exact ⟨_, rfl, rfl⟩
  case big n => exact ⟨_, rfl, rfl⟩
  case rat n d => exact ⟨_, rfl, rfl⟩
  case flo f => cases h

theorem eq_exact_iff (a b : Num) (ha : a.WF = true) (hb : b.WF = true) (ea : isExact a = true)
    (eb : isExact b = true) : Cmp.eq a b = true ↔ val a = val b := by
  obtain ⟨va, hva, hea⟩ := ext_exact ea
  obtain ⟨vb, hvb, heb⟩ := ext_exact eb
  rw [eq_spec a b ha hb hea heb, hva, hvb]
  constructor
  · intro h; injection h with h; rw [h]
  · intro h; injection h with h; rw [h]

theorem eqvNum_exact (a b : Num) (ea : isExact a = true) (eb : isExact b = true) :
    eqvNum a b = Cmp.eq a b := by
  cases a <;> cases b
  case flo.fix | flo.big | flo.rat | flo.flo => cases ea
  case fix.flo | big.flo | rat.flo => cases eb
  all_goals rfl

theorem eqvSpec_exact (a b : Num) (ea : isExact a = true) (eb : isExact b = true) :
    eqvSpec a b ↔ val a = val b := by
  simp [eqvSpec, ea, eb]

theorem eqvNum_spec (a b : Num) (ha : a.WF = true) (hb : b.WF = true) :
    eqvNum a b = true ↔ eqvSpec a b := by
  by_cases ea : isExact a = true <;> by_cases eb : isExact b = true
  · rw [eqvNum_exact a b ea eb, eq_exact_iff a b ha hb ea eb, eqvSpec_exact a b ea eb]
  all_goals
    cases a <;> cases b <;> simp_all [eqvNum, eqvSpec, isExact, bitsOf]

theorem eqvNum_eq_specB (a b : Num) (ha : a.WF = true) (hb : b.WF = true) :
    eqvNum a b = eqvSpecB a b := by
  have h1 := eqvNum_spec a b ha hb
  have h2 := eqvSpecB_iff a b
  cases h : eqvNum a b <;> cases h' : eqvSpecB a b <;> simp_all

/-- NaN included: the same bits -/
theorem eqvNum_refl (a : Num) : eqvNum a a = true := by
  cases a <;> simp [eqvNum, Cmp.eq, Arith.ratioCmp]

theorem ratioCmp_beq_eq (x y : Arith.Ratio) :
    (Arith.ratioCmp x y == Ordering.eq) = (x.1 * y.2 == y.1 * x.2) :=
  Cmp.cmpInt_beq _ _

theorem eqvNum_symm (a b : Num) : eqvNum a b = eqvNum b a := by
  cases a <;> cases b <;> simp only [eqvNum, Cmp.eq, ratioCmp_beq_eq] <;>
    first
    | rfl
    | exact BEq.comm
    | (congr 1; exact BEq.comm)

theorem eqvSpec_trans {a b c : Num} (h1 : eqvSpec a b) (h2 : eqvSpec b c) : eqvSpec a c := by
  obtain ⟨e1, v1, b1⟩ := h1
  obtain ⟨e2, v2, b2⟩ := h2
  refine ⟨e1.trans e2, ?_, ?_⟩
  · intro ha hc
    have hb : isExact b = true := e1 ▸ ha
    exact (v1 ha hb).trans (v2 hb hc)
  · intro ha hc
    have hb : isExact b = false := e1 ▸ ha
    exact (b1 ha hb).trans (b2 hb hc)

theorem eqvNum_trans (a b c : Num) (ha : a.WF = true) (hb : b.WF = true) (hc : c.WF = true)
    (h1 : eqvNum a b = true) (h2 : eqvNum b c = true) : eqvNum a c = true :=
  (eqvNum_spec a c ha hc).mpr
    (eqvSpec_trans ((eqvNum_spec a b ha hb).mp h1) ((eqvNum_spec b c hb hc).mp h2))

theorem ntree_equal_num (leafEq : Num → Num → Bool) (x y : Num) :
    NTree.equal leafEq (.num x) (.num y) = leafEq x y := by
  simp [NTree.equal]

theorem ntree_equal_list2 (leafEq : Num → Num → Bool) (c x y : Num) (hc : leafEq c c = true) :
    NTree.equal leafEq (NTree.list [.num c, .num x]) (NTree.list [.num c, .num y]) = leafEq x y := by
  simp [NTree.equal, NTree.list, hc]

theorem ntree_equal_vec1 (leafEq : Num → Num → Bool) (x y : Num) :
    NTree.equal leafEq (.vec [.num x]) (.vec [.num y]) = leafEq x y := by
  simp [NTree.equal, NTree.equalAll]

mutual
theorem ntree_equal_refl (leafEq : Num → Num → Bool) (hr : ∀ x, leafEq x x = true) :
    ∀ t : NTree, NTree.equal leafEq t t = true
  | .num x => by simp [NTree.equal, hr]
  | .nil => by simp [NTree.equal]
  | .pair a d => by
    simp [NTree.equal, ntree_equal_refl leafEq hr a, ntree_equal_refl leafEq hr d]
  | .vec ts => by simp [NTree.equal, ntree_equalAll_refl leafEq hr ts]
theorem ntree_equalAll_refl (leafEq : Num → Num → Bool) (hr : ∀ x, leafEq x x = true) :
    ∀ ts : List NTree, NTree.equalAll leafEq ts ts = true
  | [] => by simp [NTree.equalAll]
  | t :: ts => by
    simp [NTree.equalAll, ntree_equal_refl leafEq hr t, ntree_equalAll_refl leafEq hr ts]
end

end Marwood.Eqv
