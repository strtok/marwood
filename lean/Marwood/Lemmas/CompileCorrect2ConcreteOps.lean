import Marwood.Lemmas.CompileCorrect2ConcreteRep
/-!
# T01.3 stage 2 on the concrete heap: CLOSURE, ENTER and assignment as the laws describe them

`Vm/ConcreteHeap.lean` implements `build_closure_environment` (`closureSlots`) and `build_lexical_environment`
(`activationSlots`) as run.rs does. Here: what they compute (`closureSlots_ok`, `activationSlots_ok`), and how
lexical environments behave under an allocation (`envAt_alloc`, `envAt_fresh`).
-/
namespace Marwood.Lemmas.CompileCorrect2.Conc
open Marwood Marwood.Vm Marwood.Vm.Concrete Marwood.Lemmas.CompileCorrect Marwood.Lemmas.CompileCorrect2
open Marwood.Spec.Eval (Val Cell)

variable {ext : ExtOps}

theorem envGet_eq (h : CHeap) (e k : Nat) : (concreteOps ext).envGet h e k = Concrete.envGet h e k := rfl

theorem envGet_some {h : CHeap} {e k : Nat} {g : VCell} (x : Concrete.envGet h e k = some g) :
    ∃ ss, envAt h e = some ss ∧ ss[k]? = some g := by
  unfold Concrete.envGet at x
  cases he : envAt h e with
  | none => rw [he] at x; cases x
  | some ss => rw [he] at x; exact ⟨ss, rfl, x⟩

theorem envGet_at {h : CHeap} {e : Nat} {ss : List VCell} (x : envAt h e = some ss) (k : Nat) :
    Concrete.envGet h e k = ss[k]? := by
  unfold Concrete.envGet; rw [x]

theorem closureSlot_ok (h : CHeap) (ep bp : Nat) (st : Stack) (src : Concrete.Source)
    (h1 : ∀ k, conv src = RSrc.iofEnv k → ∃ g, Concrete.envGet h ep k = some g)
    (h2 : ∀ n, conv src ≠ RSrc.iofArg n) :
    closureSlot h ep bp st src = .ok (cloSlot (concreteOps ext) h ep (conv src)) := by
  cases src with
  | iofArg n => exact absurd rfl (h2 n)
  | iofEnv k =>
    obtain ⟨g, hg⟩ := h1 k rfl
    obtain ⟨ss, he, hk⟩ := envGet_some hg
    have hg' : (concreteOps ext).envGet h ep k = some g := hg
    simp only [closureSlot, he, hk, conv, cloSlot, hg']
    cases g <;> rfl
  | global => rfl
  | arg n => rfl
  | internal => rfl

theorem closureSlots_ok (h : CHeap) (ep bp : Nat) (st : Stack) :
    ∀ (em : List (VCell × Concrete.Source)),
    (∀ (j : Nat) k, (em.map fun p => conv p.2)[j]? = some (RSrc.iofEnv k) → ∃ g, Concrete.envGet h ep k = some g) →
    (∀ (j : Nat) n, (em.map fun p => conv p.2)[j]? ≠ some (RSrc.iofArg n)) →
    closureSlots h ep bp st em = .ok (em.map fun p => cloSlot (concreteOps ext) h ep (conv p.2)) := by
  intro em
  induction em with
  | nil => intro _ _; rfl
  | cons q em ih =>
    intro h1 h2
    have hslot := closureSlot_ok (ext := ext) h ep bp st q.2 (fun k hk => h1 0 k (congrArg some hk))
      (fun n hn => h2 0 n (congrArg some hn))
    have ih' := ih (fun j k hj => h1 (j + 1) k hj) (fun j n hj => h2 (j + 1) n hj)
    simp only [closureSlots, List.map_cons, hslot, ih', outcome_bind_ok]

theorem activationSlot_ok (env bp argc : Nat) (st : Stack) (slot : Nat) (old : VCell) (src : Concrete.Source)
    (h1 : ∀ i, conv src = RSrc.arg i → i < argc ∧ argc - i ≤ bp ∧ bp - (argc - i) + 1 < st.cells.length) :
    ∃ v0, activationSlot env bp argc st slot old src = .ok v0 ∧
      (∀ i v, conv src = RSrc.arg i → st.cells[bp - (argc - i) + 1]? = some v → v0 = v) ∧
      (∀ k, conv src = RSrc.iofEnv k → v0 = actCaptured env slot (some old)) := by
  have hcap : (match old with | .lexEnvPtr _ _ => Outcome.ok old | _ => .ok (.lexEnvPtr env slot)) =
      .ok (actCaptured env slot (some old)) := by
    cases old <;> rfl
  cases src with
  | iofArg n => exact ⟨_, hcap, (by intro i v hc; cases hc), (by intro k hc; cases hc)⟩
  | iofEnv k => exact ⟨_, hcap, (by intro i v hc; cases hc), fun _ _ => rfl⟩
  | global => exact ⟨old, rfl, (by intro i v hc; cases hc), (by intro k hc; cases hc)⟩
  | internal => exact ⟨old, rfl, (by intro i v hc; cases hc), (by intro k hc; cases hc)⟩
  | arg n =>
    obtain ⟨a1, a2, a3⟩ := h1 n rfl
    have hget : st.get (bp - (argc - n) + 1) = .ok (st.cells[bp - (argc - n) + 1]'a3) := by
      unfold Stack.get; rw [List.getElem?_eq_getElem a3]
    refine ⟨st.cells[bp - (argc - n) + 1]'a3, ?_, ?_, (by intro k hc; cases hc)⟩
    · simp only [activationSlot, usub, Nat.le_of_lt a1, if_true, outcome_bind_ok, a2, hget]
    · intro i v hc hv
      cases hc
      rw [List.getElem?_eq_getElem a3] at hv
      exact Option.some.inj hv

theorem activationSlots_ok (env bp argc : Nat) (st : Stack) :
    ∀ (em : List (VCell × Concrete.Source)) (slot : Nat) (olds : List VCell), em.length ≤ olds.length →
    (∀ (j : Nat) i, (em.map fun p => conv p.2)[j]? = some (RSrc.arg i) →
      i < argc ∧ argc - i ≤ bp ∧ bp - (argc - i) + 1 < st.cells.length) →
    ∃ slots, activationSlots env bp argc st slot olds em = .ok slots ∧
      (∀ (j : Nat) i v, (em.map fun p => conv p.2)[j]? = some (RSrc.arg i) →
        st.cells[bp - (argc - i) + 1]? = some v → slots[j]? = some v) ∧
      (∀ (j : Nat) k, (em.map fun p => conv p.2)[j]? = some (RSrc.iofEnv k) →
        slots[j]? = some (actCaptured env (slot + j) olds[j]?)) := by
  intro em
  induction em with
  | nil =>
    intro slot olds _ _
    refine ⟨olds, ?_, (by intro j i v hj; cases hj), (by intro j k hj; cases hj)⟩
    cases olds <;> rfl
  | cons q em ih =>
    intro slot olds hlen h1
    cases olds with
    | nil => cases hlen
    | cons old olds =>
      obtain ⟨slots, hs, r1, r2⟩ := ih (slot + 1) olds (Nat.le_of_succ_le_succ hlen)
        (fun j i hj => h1 (j + 1) i hj)
      obtain ⟨v0, hv0, p1, p2⟩ := activationSlot_ok env bp argc st slot old q.2
        (fun i hi => h1 0 i (congrArg some hi))
      refine ⟨v0 :: slots, ?_, ?_, ?_⟩
      · simp only [activationSlots, hv0, outcome_bind_ok, hs]
      · intro j i v hj hv
        cases j with
        | zero => exact congrArg some (p1 i v (Option.some.inj hj) hv)
        | succ j => exact r1 j i v hj hv
      · intro j k hj
        cases j with
        | zero => exact congrArg some (p2 k (Option.some.inj hj))
        | succ j =>
          rw [show slot + (j + 1) = slot + 1 + j by omega]
          exact r2 j k hj

theorem envAt_alloc {h h' : CHeap} {p : Nat} {c : CCell} (a : Alloc h h' p c) (e : Nat)
    (hne : e ≠ p ∨ ∀ ss, c ≠ CCell.lexEnv ss) : envAt h' e = envAt h e := by
  cases he : envAt h e with
  | some ss => exact envAt_iff.mpr (a.kept (envAt_cell he) (by intro x; cases x))
  | none =>
    cases he' : envAt h' e with
    | none => rfl
    | some ss' =>
      exfalso
      rcases a.onlyNew (envAt_cell he') (by intro x; cases x) with h1 | h1
      · subst h1
        rcases hne with hne | hc
        · exact hne rfl
        · exact hc ss' (Option.some.inj ((envAt_cell he').symm.trans a.cell)).symm
      · rw [envAt_iff.mpr h1] at he; cases he

theorem envAt_fresh {h h' : CHeap} {p : Nat} {c : CCell} (a : Alloc h h' p c) : envAt h p = none := by
  cases he : envAt h p with
  | none => rfl
  | some ss => have := a.unused (envAt_cell he); cases this

theorem envGet_fresh {h h' : CHeap} {p : Nat} {c : CCell} (a : Alloc h h' p c) (k : Nat) :
    Concrete.envGet h p k = none := by
  unfold Concrete.envGet; rw [envAt_fresh a]

theorem alloc_globGet {h h' : CHeap} {p : Nat} {c : CCell} (a : Alloc h h' p c) (m : Nat) :
    (concreteOps ext).globGet h' m = (concreteOps ext).globGet h m := by
  show h'.globals[m]?.getD .undefined = h.globals[m]?.getD .undefined
  rw [a.globals]

theorem envGet_of_envAt {h h' : CHeap} {e e' : Nat} (x : envAt h' e' = envAt h e) (k : Nat) :
    Concrete.envGet h' e' k = Concrete.envGet h e k := by
  unfold Concrete.envGet; rw [x]

end Marwood.Lemmas.CompileCorrect2.Conc
