import Marwood.Lemmas.StackWFRun
/-!
# A concrete instance of `CodeLaws`, for the non-vacuity examples of C04 / C05 / C06 / C07

Heap-less machine whose code objects are shaped as compile.rs emits them (`code7` and lambda 8 are described
at `code7`):
* 1 — entry code `PUSHIMM argc0; MOVIMM λ2 acc; CALL; HALT`
* 2 — `ENTER; MOVIMM void acc; RET`                           (a procedure that returns)
* 3 — `ENTER; PUSHIMM argc0; MOVIMM c5 acc; TCALL; RET`       (a procedure that tail-calls itself forever;
      heap cell 5 is the closure of lambda 3)
* 4 — entry code `PUSHIMM argc0; MOVIMM c5 acc; CALL; HALT`
-/
namespace Marwood.Vm.Toy
open Marwood.Vm Verify

def code1 : List VCell := [.opcode .pushImm, .argc 0, .opcode .movImm, .ptr 2, .acc, .opcode .callAcc, .opcode .halt]
def code2 : List VCell := [.opcode .enter, .opcode .movImm, .void, .acc, .opcode .ret]
def code3 : List VCell := [.opcode .enter, .opcode .pushImm, .argc 0, .opcode .movImm, .ptr 5, .acc,
  .opcode .tcallAcc, .opcode .ret]
def code4 : List VCell := [.opcode .pushImm, .argc 0, .opcode .movImm, .ptr 5, .acc, .opcode .callAcc, .opcode .halt]

/-- entry code passing one argument to the closure in heap cell 6 (of lambda 8, a copy of 2 with one
    parameter): the shape `call/cc` leaves when it re-dispatches to its receiver -/
def code7 : List VCell := [.opcode .pushImm, .void, .opcode .pushImm, .argc 1, .opcode .movImm, .ptr 6, .acc,
  .opcode .callAcc, .opcode .halt]

def code (l : Nat) : Option (List VCell) :=
  if l = 1 then some code1 else if l = 2 then some code2 else if l = 3 then some code3
  else if l = 4 then some code4 else if l = 7 then some code7 else if l = 8 then some code2 else none

def ops : HeapOps Unit where
  fetch _ l o := (code l).bind (·[o]?)
  isLambda _ l := (code l).isSome
  callee _ v := match v with
    | .ptr 2 => .lambda
    | .ptr 5 => .closure 3 0
    | .ptr 6 => .closure 8 0
    | _ => .other
  lambdaInfo _ l := if l = 2 ∨ l = 3 then some ⟨0⟩ else if l = 8 then some ⟨1⟩ else none
  deref _ v := v
  getAt _ _ := .undefined
  setAt h _ _ := h
  put h v := (h, v)
  maybePut h v := (h, v)
  newCont h _ := (h, .undefined)
  globGet _ _ := .undefined
  globPut h _ _ := h
  envGet _ _ _ := none
  envPut _ _ _ _ := none
  makeClosure _ _ _ _ _ := .err .invalidBytecode
  makeActivation _ _ _ _ _ := .ok ((), 0)
  vectorPush _ _ _ := .err .expectedType
  builtinKind _ _ := .generic
  builtinEval _ _ _ := .err .invalidSyntax
  compileEval _ _ := .err .invalidSyntax
  isProcedure _ _ := false

theorem ver1 : (verifyLam code1).map (·.entry) = some true := by decide +kernel
theorem ver2 : (verifyLam code2).map (·.entry) = some false := by decide +kernel
theorem ver3 : (verifyLam code3).map (·.entry) = some false := by decide +kernel
theorem ver4 : (verifyLam code4).map (·.entry) = some true := by decide +kernel
theorem ver7 : (verifyLam code7).map (·.entry) = some true := by decide +kernel

def laws : CodeLaws ops where
  e := 0
  code _ l := code l
  HInv _ := True
  Val _ := True
  val_imm := fun _ _ => trivial
  put_val := fun _ _ => trivial
  maybePut_val := fun _ _ => trivial
  newCont_val := fun _ _ => trivial
  makeClosure_val := fun _ => trivial
  vectorPush_val := fun _ => trivial
  globGet_val := fun _ _ => trivial
  envGet_val := fun _ _ => trivial
  envGet_val2 := fun _ _ => trivial
  info_code := by
    intro h l bc info _ hc hi
    have hi' : (if l = 2 ∨ l = 3 then some (⟨0⟩ : LambdaInfo) else if l = 8 then some ⟨1⟩ else none) = some info := hi
    have hc' : code l = some bc := hc
    by_cases h2 : l = 2
    · subst h2
      rw [show code 2 = some code2 from rfl] at hc'
      cases hc'; cases hi'; decide
    · by_cases h3 : l = 3
      · subst h3
        rw [show code 3 = some code3 from rfl] at hc'
        cases hc'; cases hi'; decide
      · by_cases h8 : l = 8
        · subst h8
          rw [show code 8 = some code2 from rfl] at hc'
          cases hc'; cases hi'; decide
        · exact absurd hi' (by simp [h2, h3, h8])
  fetch_code := by
    intro h l bc _ hc o
    show (code l).bind (·[o]?) = _
    rw [hc]; rfl
  step_inv := fun _ _ => trivial
  step_code := fun _ _ hc => hc
  callee_closure := by
    intro h v lam env _ hc
    simp only [ops] at hc
    split at hc
    · cases hc
    · cases hc; exact tyOf_of_verify (code := code) (l := 3) rfl ver3
    · cases hc; exact tyOf_of_verify (code := code) (l := 8) rfl ver2
    · cases hc
  callee_lambda := by
    intro h lam _ hc
    simp only [ops] at hc
    split at hc
    · rename_i heq; cases heq; exact tyOf_of_verify (code := code) (l := 2) rfl ver2
    · cases hc
    · cases hc
    · cases hc
  cont_wf := by
    intro h v c _ hc
    simp only [ops] at hc
    split at hc <;> cases hc
  newCont_inv := fun _ _ => trivial
  newCont_code := fun _ hc => hc

def gcLaws : GcLaws laws id :=
  ⟨fun _ => ⟨rfl, rfl, rfl, rfl⟩, fun _ => rfl, fun _ _ h => h, fun _ h => h, fun _ _ _ _ hc _ => hc⟩

def idle : St Unit :=
  { heap := (), stack := { cells := List.replicate 16 .undefined, sp := 0 }, acc := .undefined,
    ep := usizeMax, ipL := 0, ipO := 0, bp := 0 }

theorem entry1 : ∃ t, tyOf (laws.code ()) 1 = some t ∧ t.entry = true := tyOf_of_verify rfl ver1

theorem entry4 : ∃ t, tyOf (laws.code ()) 4 = some t ∧ t.entry = true := tyOf_of_verify rfl ver4

theorem entry7 : ∃ t, tyOf (laws.code ()) 7 = some t ∧ t.entry = true := tyOf_of_verify rfl ver7

theorem wf_start7 : WFS laws (prepare idle 7) [] := by
  obtain ⟨t, ht, he⟩ := entry7
  exact WFS.initial (cl := laws) trivial ht he rfl (by decide) trivial

theorem wf_start1 : WFS laws (prepare idle 1) [] := by
  obtain ⟨t, ht, he⟩ := entry1
  exact WFS.initial (cl := laws) trivial ht he rfl (by decide) trivial

theorem wf_start4 : WFS laws (prepare idle 4) [] := by
  obtain ⟨t, ht, he⟩ := entry4
  exact WFS.initial (cl := laws) trivial ht he rfl (by decide) trivial

def runK (k : Nat) (s : St Unit) : Option (St Unit) :=
  match k with
  | 0 => some s
  | k + 1 => match step ops s with
    | .ok (s', false) => runK k s'
    | _ => none

theorem runK_wf : ∀ (k : Nat) (s s' : St Unit) (K : List FDesc), WFS laws s K → runK k s = some s' →
    ∃ K', WFS laws s' K' := by
  intro k
  induction k with
  | zero => intro s s' K hw h; simp only [runK] at h; cases h; exact ⟨K, hw⟩
  | succ k ih =>
    intro s s' K hw h
    simp only [runK] at h
    split at h
    · rename_i s1 hs
      obtain ⟨K1, hw1, _⟩ := step_preserves hw hs
      exact ih s1 s' K1 hw1 h
    · cases h

/-- the `k`-th state of the evaluation of entry code 4 (which calls the looping procedure 3) -/
def nth (k : Nat) : St Unit := (runK k (prepare idle 4)).getD idle

/-- the `k`-th state of the evaluation of entry code 7 (which passes one argument to a closure that returns) -/
def nthR (k : Nat) : St Unit := (runK k (prepare idle 7)).getD idle

theorem runK_add : ∀ (a b : Nat) (s : St Unit), runK (a + b) s = (runK a s).bind (runK b)
  | 0, b, s => by rw [Nat.zero_add]; rfl
  | a + 1, b, s => by
    rw [show a + 1 + b = (a + b) + 1 by omega]
    simp only [runK]
    cases h : step ops s with
    | ok r =>
      obtain ⟨s', bl⟩ := r
      cases bl
      · exact runK_add a b s'
      · rfl
    | err e => rfl
    | panic m => rfl

/-- the loop of procedure 3 has period 4 from its first head on -/
theorem loop_period (k : Nat) : runK (8 + 4 * k) (prepare idle 4) = runK 8 (prepare idle 4) := by
  induction k with
  | zero => rfl
  | succ k ih =>
    rw [show 8 + 4 * (k + 1) = (8 + 4 * k) + 4 by omega, runK_add, ih, ← runK_add]
    rfl

end Marwood.Vm.Toy
