import Marwood.Lemmas.HeapWF
/-!
# The free list of a well-formed heap

It has at most as many entries as the heap has cells (`wf_free_length_le`), and `capacity − |free list|` is the number
of cells that are not `Free` (`used_eq_count_nonFree`): after a collection the reachable ones, the `live` of
`HeapPolicy.gcPoint` (`PolicySessionGc.cgc_collected`).
-/
namespace Marwood.Lemmas.PolicyWF
open Marwood Marwood.Heap Marwood.Lemmas.HeapWF

theorem nodup_subset_length_le : ∀ (l m : List Nat), l.Nodup → l ⊆ m → l.length ≤ m.length := by
  intro l
  induction l with
  | nil => intro m _ _; simp
  | cons a t ih =>
    intro m hd hs
    have hd' := List.nodup_cons.mp hd
    have ham : a ∈ m := hs (by simp)
    have hsub : t ⊆ m.erase a := by
      intro x hx
      have hxm : x ∈ m := hs (by simp [hx])
      have hne : x ≠ a := fun e => hd'.1 (e ▸ hx)
      exact (List.mem_erase_of_ne hne).mpr hxm
    have := ih (m.erase a) hd'.2 hsub
    have := List.length_erase_of_mem ham
    simp only [List.length_cons]
    have : 0 < m.length := List.length_pos_of_mem ham
    omega

theorem nodup_bounded_length : ∀ (n : Nat) (l : List Nat), l.Nodup → (∀ x ∈ l, x < n) → l.length ≤ n := by
  intro n l hd hb
  have := nodup_subset_length_le l (List.range n) hd fun x hx => List.mem_range.mpr (hb x hx)
  rwa [List.length_range] at this

theorem wf_free_length_le (fixed : Bool) (h : Heap) (wf : WFCore fixed h) : h.free.length ≤ h.cells.size := by
  apply nodup_bounded_length _ _ wf.nodup
  intro x hx
  have := (wf.free_iff x).mp hx
  rw [← wf.sizes]
  exact lt_of_get_some this

end Marwood.Lemmas.PolicyWF

namespace Marwood.Lemmas.PolicyCount
open Marwood Marwood.Heap Marwood.Lemmas.HeapWF Marwood.Lemmas.PolicyWF
open Classical

theorem used_eq_count_nonFree (fixed : Bool) (h : Heap) (wf : WFCore fixed h) :
    h.cells.size - h.free.length =
      ((List.range h.cells.size).filter fun x => decide (h.NonFree x)).length := by
  let p : Nat → Bool := fun x => decide (h.NonFree x)
  have hsplit := List.length_eq_countP_add_countP p (l := List.range h.cells.size)
  rw [List.length_range] at hsplit
  rw [List.countP_eq_length_filter, List.countP_eq_length_filter] at hsplit
  have hfree : h.free.length = ((List.range h.cells.size).filter fun a => decide (¬ p a = true)).length := by
    apply Nat.le_antisymm
    · apply nodup_subset_length_le _ _ wf.nodup
      intro x hx
      have hf := (wf.free_iff x).mp hx
      have hlt : x < h.cells.size := by rw [← wf.sizes]; exact lt_of_get_some hf
      rw [List.mem_filter]
      refine ⟨List.mem_range.mpr hlt, ?_⟩
      simp only [p, decide_eq_true_eq, decide_not, Bool.not_eq_true', decide_eq_false_iff_not]
      rintro (h1 | h1) <;> rw [hf] at h1 <;> cases h1
    · apply nodup_subset_length_le _ _ (List.Pairwise.filter _ List.nodup_range)
      intro x hx
      rw [List.mem_filter] at hx
      have hlt : x < h.gc.size := by rw [wf.sizes]; exact List.mem_range.mp hx.1
      have hn : ¬ h.NonFree x := by
        have := hx.2
        simpa [p] using this
      apply (wf.free_iff x).mpr
      rw [Array.getElem?_eq_getElem hlt]
      unfold Heap.NonFree at hn
      rw [Array.getElem?_eq_getElem hlt] at hn
      cases hg : h.gc[x] with
      | free => rfl
      | allocated => rw [hg] at hn; exact absurd (Or.inl rfl) hn
      | used => rw [hg] at hn; exact absurd (Or.inr rfl) hn
  have : ((List.range h.cells.size).filter p).length =
      ((List.range h.cells.size).filter fun x => decide (h.NonFree x)).length := rfl
  omega

end Marwood.Lemmas.PolicyCount
