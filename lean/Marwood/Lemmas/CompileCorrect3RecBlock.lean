import Marwood.Lemmas.CompileCorrect3Rec
import Marwood.Lemmas.CompileCorrect3EnterAll
/-!
# T01.3 stage 3 — blocks of `lambda`-initialised internal definitions: the whole block
-/
namespace Marwood.Lemmas.CompileCorrect3
open Marwood Marwood.Vm Marwood.Lemmas.CompileCorrect Marwood.Lemmas.CompileCorrect2
open Marwood.Spec.Eval (Val Prim Cell Env Res ErrClass evalN evalStep applyStep evalArgs properList quoteVal kwOf insertG
  k_quote k_if_ k_setBang k_define k_lambda)

variable {H : Type} {ops : HeapOps H} {D : RepData2 ops}

/-- behind the last definition `Inv3` holds again and the names of the block are readable -/
theorem blk_finish {W : World} {c : Ctx} {ρ : Env} {us : Text → Prop} {Bs : List Text} {s0 s : MSt H} {σ0 σ : SSt}
    (hi0 : Inv3 D W s0.heap σ0) (her0 : EnvRep3 ops W s0.heap c s0.ep ρ us)
    (b : BlkInv D W c ρ Bs s0 σ0 (· ∈ Bs) s σ) :
    Inv3 D W s.heap σ ∧ EnvRep3 ops W s.heap c s.ep ρ (fun z => us z ∧ z ∉ Bs) := by
  classical
  have hBI : ∀ e n, BLoc ops c s0.heap s0.ep (· ∈ Bs) e n → InitM ops s.heap e n := by
    intro e n hq
    obtain ⟨x, hx, j, hj, hd⟩ := hq
    obtain ⟨e', n', l, hd', _, hW, _⟩ := her0 x j hj
    obtain ⟨rfl, rfl⟩ := Denotes.func hd hd'
    obtain ⟨v, _, _, _, _, _, g1, g2, g3, _⟩ := b.dnOK e n l hW ⟨x, hx, j, hj, hd⟩
    exact ⟨v, g1, g2, g3⟩
  have hP : ∀ e n, (InitM ops s.heap e n ∨ BLoc ops c s0.heap s0.ep (· ∈ Bs) e n) → InitM ops s.heap e n :=
    fun e n y => y.elim id (hBI e n)
  constructor
  · refine ⟨fun y u hn hy => ?_, fun y hn hy => ?_, b.srx, fun y hy => ?_, hi0.loaded.ext b.ext.toExt2, hi0.wfun,
      hi0.winj, fun e n l hW => ?_, fun e n l hW ok => ?_⟩
    · rw [b.glob]; exact (hi0.bound y u hn (b.globals ▸ hy)).mono b.ext (World.le_refl _)
    · rw [b.glob]; exact hi0.unbound y hn (b.globals ▸ hy)
    · rw [b.globals]; exact hi0.gset y hy
    · by_cases hq : BLoc ops c s0.heap s0.ep (· ∈ Bs) e n
      · obtain ⟨v, lam, cenv, ps, rest, bl, g1, g2, g3, g4, g5, g6⟩ := b.dnOK e n l hW hq
        exact ⟨v, _, g1, g2, g4, fun _ => .clos g5
          (ClosOK3g.mono (P' := InitM ops s.heap) g6 (Ext3.refl s.heap σ.store) (World.le_refl _) hP)⟩
      · obtain ⟨g1, g2⟩ := b.frame e n l hW hq
        obtain ⟨v, w, k1, k2, k3, k4⟩ := hi0.vars e n l hW
        exact ⟨v, w, by rw [g1]; exact k1, k2, by rw [g2]; exact k3,
          fun hv => (k4 hv).mono b.ext (World.le_refl _)⟩
    · obtain ⟨v, _, k1, _⟩ := hi0.vars e n l hW
      exact hi0.wact e n l hW (b.ext.okBack e n v k1 ok)
  · intro y j hj
    obtain ⟨e, n, l, hd, hl, hW, hini⟩ := her0 y j hj
    refine ⟨e, n, l, by rw [b.ep]; exact hd.ext b.ext.toExt2, hl, hW, fun hnu => ?_⟩
    by_cases hy : y ∈ Bs
    · exact hBI e n ⟨y, hy, j, hj, hd⟩
    · exact b.ext.init _ _ (hini (fun hu => hnu ⟨hu, hy⟩))

theorem BlkInv.lt_size {W : World} {c : Ctx} {ρ : Env} {us : Text → Prop} {Bs : List Text} {s0 s : MSt H} {σ0 σ : SSt}
    {dn : Text → Prop} (b : BlkInv D W c ρ Bs s0 σ0 dn s σ) (hi0 : Inv3 D W s0.heap σ0)
    (her0 : EnvRep3 ops W s0.heap c s0.ep ρ us) {x : Text} {l : Nat} (hin : inEnv c x = true)
    (hl : ρ.lookup x = some l) : l < σ.store.size := by
  obtain ⟨j, hj⟩ := (slotIdx_some_iff_inEnv c x).mp hin
  obtain ⟨e, k, l', _, hl', hW, _⟩ := her0 x j hj
  rw [hl] at hl'; cases hl'
  obtain ⟨_, _, _, _, g3⟩ := b.slot hi0 hW
  exact lt_size_of_get g3

/-- whatever the result `r` of the body (short of `timeout`), the definition at its head succeeds (a `lambda` expression
    never fails, the cell of `x` is there) and `r` is the result of the rest -/
theorem evalBodyForms_defl_inv {n : Nat} {W : World} {c : Ctx} {ρ : Env} {us us' : Text → Prop} {Bs : List Text}
    {s0 s : MSt H} {σ0 σ : SSt} {dn : Text → Prop} (hi0 : Inv3 D W s0.heap σ0)
    (her0 : EnvRep3 ops W s0.heap c s0.ep ρ us) (b : BlkInv D W c ρ Bs s0 σ0 dn s σ) {g : Nat} {x : Text}
    {formals lbody y : Datum} {es : List Datum} {l : Nat} {r : Res Val} (hin : inEnv c x = true)
    (hres : Spec.Eval.reserved x = false)
    (hf : F3 D.setG g c (bound ρ) us' false (.pair (.sym k_lambda) (.pair formals lbody))) (hl : ρ.lookup x = some l)
    (hr : r ≠ .timeout)
    (hev : Spec.Eval.evalBodyForms (evalN n) ρ true
      (defForm x (.pair (.sym k_lambda) (.pair formals lbody)) :: y :: es) σ = r) :
    ∃ v σ1, (evalN n).eval (.pair (.sym k_lambda) (.pair formals lbody)) ρ σ = .ok v σ1 ∧ l < σ1.store.size ∧
      Spec.Eval.evalBodyForms (evalN n) ρ true (y :: es)
        { σ1 with store := σ1.store.setIfInBounds l (.var v) } = r := by
  obtain ⟨f', p, ps, rest, ints, caps, _, h1, h2, h3, h4, h5, h6, h7, h8⟩ := F3_lambda_inv hf
  obtain ⟨b0, bs0, hbl⟩ := F3B_cons h8
  rw [evalBodyForms_def hres] at hev
  cases n with
  | zero => rw [bind_timeout (show (evalN 0).eval _ ρ σ = .timeout from rfl)] at hev; exact absurd hev.symm hr
  | succ m =>
    have he1 : (evalN (m + 1)).eval (.pair (.sym k_lambda) (.pair formals lbody)) ρ σ
        = .ok (.closure ps rest (b0 :: bs0) ρ) σ := evalStep_lambda (r := evalN m) ρ σ h2 hbl
    have hlt : l < σ.store.size := b.lt_size hi0 her0 hin hl
    rw [bind_ok he1, bind_ok (assignVar_lex _ hl hlt)] at hev
    exact ⟨_, σ, he1, hlt, hev⟩

theorem evalBodyForms_defc_inv {n : Nat} {W : World} {c : Ctx} {ρ : Env} {us : Text → Prop} {Bs : List Text}
    {s0 s : MSt H} {σ0 σ : SSt} {dn : Text → Prop} (hi0 : Inv3 D W s0.heap σ0)
    (her0 : EnvRep3 ops W s0.heap c s0.ep ρ us) (b : BlkInv D W c ρ Bs s0 σ0 dn s σ) {g : Nat} {c' : Ctx}
    {ns us' : Text → Prop} {lints : List Text} {x : Text} {formals lbody y : Datum} {es : List Datum} {l : Nat}
    {ps : List Text} {rst : Option Text} {r : Res Val} (hin : inEnv c x = true) (hres : Spec.Eval.reserved x = false)
    (h2 : Spec.Eval.parseFormals formals = some (ps, rst)) (h8 : F3B D.setG g c' ns us' lints lbody)
    (hl : ρ.lookup x = some l)
    (hev : Spec.Eval.evalBodyForms (evalN n) ρ true (curForm x formals lbody :: y :: es) σ = r) :
    ∃ b0 bs0, properList lbody = some (b0 :: bs0) ∧ l < σ.store.size ∧
      Spec.Eval.evalBodyForms (evalN n) ρ true (y :: es)
        { σ with store := σ.store.setIfInBounds l (.var (.closure ps rst (b0 :: bs0) ρ)) } = r := by
  obtain ⟨b0, bs0, hbl⟩ := F3B_cons h8
  have hlt : l < σ.store.size := b.lt_size hi0 her0 hin hl
  rw [evalBodyForms_cur hres h2 hbl, bind_ok (assignVar_lex _ hl hlt)] at hev
  exact ⟨b0, bs0, hbl, hlt, hev⟩

/-- the definitions of a block, one after the other (recursion on the derivation). A block only evaluates `lambda`
    expressions and assigns variables whose cells are there, so the result `r` of the body, success or failure, is the
    result of what follows the block. -/
theorem blockK (L : Laws3 D) {n : Nat} {W : World} {c : Ctx} {ρ : Env} {us : Text → Prop} {Bs : List Text}
    {s0 : MSt H} {σ0 : SSt} (hi0 : Inv3 D W s0.heap σ0) (her0 : EnvRep3 ops W s0.heap c s0.ep ρ us) :
    ∀ {g : Nat} {todo ints : List Text} {bodyD : Datum}, F3K D.setG g c (bound ρ) us Bs todo ints bodyD →
    ∀ (dn : Text → Prop) (s : MSt H) (σ : SSt) (body : List Datum) (cst : CState) (base : Nat) (cst' : CState)
      (code : List BC) (r : Res Val), r ≠ .timeout →
    BlkInv D W c ρ Bs s0 σ0 dn s σ → (∀ y ∈ Bs, dn y ∨ y ∈ todo) → (∀ y, dn y → y ∈ Bs) → (∀ y ∈ todo, y ∈ Bs) →
    (todo = [] → s.acc = .void) →
    compileBody g cst c base bodyD = .ok (cst', code) → cst'.lambdas <+: D.final → properList bodyD = some body →
    Spec.Eval.evalBodyForms (evalN n) ρ true body σ = r →
    (∀ dn' s' σ', BlkInv D W c ρ Bs s0 σ0 dn' s' σ' → CodeAt2 D c.envmap s'.heap σ'.store s'.ipL base code) →
    s.ipO = base →
    ∃ (s1 : MSt H) (σ1 : SSt) (f1 : Nat) (cst1 : CState) (restD : Datum) (rest : List Datum) (code1 code2 : List BC)
      (ints1 : List Text),
      Steps ops s s1 ∧ s1.ipO = s.ipO + code1.length ∧ s1.acc = .void ∧ BlkInv D W c ρ Bs s0 σ0 (· ∈ Bs) s1 σ1 ∧
      code = code1 ++ code2 ∧ compileBody f1 cst1 c (base + code1.length) restD = .ok (cst', code2) ∧
      F3B D.setG f1 c (bound ρ) (fun z => us z ∧ z ∉ Bs) ints1 restD ∧ properList restD = some rest ∧
      rest.length + todo.length = body.length ∧ Spec.Eval.evalBodyForms (evalN n) ρ true rest σ1 = r
  | _, _, _, _, @F3K.defl _ f0 _ _ _ _ todo' x formals lbody y rest0 ints' hin hns hres hf hk, dn, s, σ, body, cst,
      base, cst', code, r, hr, b, hcov, hdn, htodo, hacc, hcomp, hpre, hpl, hev, hcA, hip => by
    obtain ⟨es', hpl', hes⟩ := properList_pair_inv hpl
    subst hes
    obtain ⟨es'', hpl'', hes'⟩ := properList_pair_inv hpl'
    subst hes'
    obtain ⟨l, hl⟩ : ∃ l, ρ.lookup x = some l := Option.isSome_iff_exists.mp hns
    obtain ⟨v, σ1, he1, hlt, he2⟩ := evalBodyForms_defl_inv hi0 her0 b hin hres hf hl hr hev
    obtain ⟨cst1, code1, code2, c1, c2, hcode⟩ := compileBody_pair_inv hcomp
    subst hcode
    obtain ⟨codeE, cE, hcode1⟩ := compile_define_inv c1
    subst hcode1
    have hpre1 : cst1.lambdas <+: D.final :=
      ((growsOK _).body c2).trans hpre
    obtain ⟨s', hst, hipo, hacc', b'⟩ := block_step L hi0 her0 b hin hf cE hpre1 (hcA dn s σ b).left hip hl he1 hlt
    obtain ⟨s1, σ1', f1, cstr, restD, rest, k1, k2, ints1, r1, r2, r3, r4, r5, r6, r7, r8, r9, r10⟩ :=
      blockK L hi0 her0 hk (fun y => dn y ∨ y = x) s' _ _ cst1 _ cst' code2 r hr b'
        (fun y hy => by
          rcases hcov y hy with h | h
          · exact .inl (.inl h)
          · rcases List.mem_cons.mp h with h | h
            · exact .inl (.inr h)
            · exact .inr h)
        (fun y hy => hy.elim (hdn y) (fun e => e ▸ htodo x (List.mem_cons_self ..)))
        (fun y hy => htodo y (List.mem_cons_of_mem _ hy)) (fun _ => hacc') c2 hpre hpl' he2
        (fun dn' s'' σ'' b'' => (hcA dn' s'' σ'' b'').right)
        (by rw [hipo, hip]; simp only [List.length_append, List.length_cons, List.length_nil])
    refine ⟨s1, σ1', f1, cstr, restD, rest,
      (codeE ++ [BC.op .mov, BC.acc, emitLoc c x, BC.op .movImm, BC.void, BC.acc]) ++ k1, k2, ints1, hst.trans r1, ?_, r3,
      r4, by rw [r5]; simp only [List.append_assoc], ?_, r7, r8, ?_, r10⟩
    · rw [r2, hipo]; simp only [List.length_append, Nat.add_assoc]; rfl
    · have : base + ((codeE ++ [BC.op .mov, BC.acc, emitLoc c x, BC.op .movImm, BC.void, BC.acc]) ++ k1).length =
          base + (codeE ++ [BC.op .mov, BC.acc, emitLoc c x, BC.op .movImm, BC.void, BC.acc]).length + k1.length := by
        simp only [List.length_append]; omega
      rw [this]; exact r6
    · simp only [List.length_cons] at r9 ⊢; omega
  | _, _, _, _, @F3K.defc _ f0 _ _ _ _ todo' x formals lbody y rest0 ints' p ps rst lints caps hin hns hres hp h2 h3 h4
      h5 h6 h7 h8 hk, dn, s, σ, body, cst, base, cst', code, r, hr, b, hcov, hdn, htodo, hacc, hcomp, hpre, hpl, hev,
      hcA, hip => by
    obtain ⟨es', hpl', hes⟩ := properList_pair_inv hpl
    subst hes
    obtain ⟨es'', hpl'', hes'⟩ := properList_pair_inv hpl'
    subst hes'
    obtain ⟨l, hl⟩ : ∃ l, ρ.lookup x = some l := Option.isSome_iff_exists.mp hns
    obtain ⟨b0, bs0, hbl, hlt, he2⟩ := evalBodyForms_defc_inv hi0 her0 b hin hres h2 h8 hl hev
    obtain ⟨cst1, code1, code2, c1, c2, hcode⟩ := compileBody_pair_inv hcomp
    subst hcode
    have hpre1 : cst1.lambdas <+: D.final :=
      ((growsOK _).body c2).trans hpre
    obtain ⟨s', hst, hipo, hacc', b'⟩ := block_step_cur L hi0 her0 b hin hp h3 h4 h5 h6 h7 h8 hbl c1 hpre1
      (hcA dn s σ b).left hip hl hlt
    obtain ⟨s1, σ1', f1, cstr, restD, rest, k1, k2, ints1, r1, r2, r3, r4, r5, r6, r7, r8, r9, r10⟩ :=
      blockK L hi0 her0 hk (fun y => dn y ∨ y = x) s' _ _ cst1 _ cst' code2 r hr b'
        (fun y hy => by
          rcases hcov y hy with h | h
          · exact .inl (.inl h)
          · rcases List.mem_cons.mp h with h | h
            · exact .inl (.inr h)
            · exact .inr h)
        (fun y hy => hy.elim (hdn y) (fun e => e ▸ htodo x (List.mem_cons_self ..)))
        (fun y hy => htodo y (List.mem_cons_of_mem _ hy)) (fun _ => hacc') c2 hpre hpl' he2
        (fun dn' s'' σ'' b'' => (hcA dn' s'' σ'' b'').right) (by rw [hipo, hip])
    refine ⟨s1, σ1', f1, cstr, restD, rest, code1 ++ k1, k2, ints1, hst.trans r1, ?_, r3,
      r4, by rw [r5]; simp only [List.append_assoc], ?_, r7, r8, ?_, r10⟩
    · rw [r2, hipo]; simp only [List.length_append]; omega
    · have : base + (code1 ++ k1).length = base + code1.length + k1.length := by
        simp only [List.length_append]; omega
      rw [this]; exact r6
    · simp only [List.length_cons] at r9 ⊢; omega
  | _, _, _, _, .done ints bodyD hb, dn, s, σ, body, cst, base, cst', code, r, hr, b, hcov, hdn, htodo, hacc, hcomp,
      hpre, hpl, hev, hcA, hip => by
    refine ⟨s, σ, _, cst, bodyD, body, [], code, ints, .refl _, by simp, hacc rfl,
      b.congr (fun y => ⟨hdn y, fun hy => (hcov y hy).resolve_right (by simp)⟩), by simp, by simpa using hcomp, hb, hpl,
      by simp, hev⟩

theorem block3 (L : Laws3 D) {n : Nat} {f : Nat} {cst cst' : CState} {c : Ctx} {base : Nat} {bodyD : Datum}
    {code : List BC} {ρ : Env} {us : Text → Prop} {ints Bs : List Text} {body : List Datum}
    (hne : Bs ≠ []) (hK : F3K D.setG f c (bound ρ) us Bs Bs ints bodyD) (hcx : CtxOK c)
    (hcomp : compileBody f cst c base bodyD = .ok (cst', code)) (hpre : cst'.lambdas <+: D.final)
    (hpl : properList bodyD = some body) {σ : SSt} {r : Res Val} (hr : r ≠ .timeout)
    (hev : Spec.Eval.evalBodyForms (evalN n) ρ true body σ = r)
    {W : World} {s : MSt H} (hc : CodeAt2 D c.envmap s.heap σ.store s.ipL base code) (hip : s.ipO = base)
    (hi : Inv3 D W s.heap σ) (her : EnvRep3 ops W s.heap c s.ep ρ us) (hw : SWF s.stack) :
    ∃ (s1 : MSt H) (σ1 : SSt) (f1 : Nat) (cst1 : CState) (restD : Datum) (rest : List Datum) (code1 code2 : List BC)
      (ints1 : List Text),
      Run3 D W s code1.length σ σ1 .void s1 ∧ EnvRep3 ops W s1.heap c s1.ep ρ (fun z => us z ∧ z ∉ Bs) ∧
      code = code1 ++ code2 ∧ compileBody f1 cst1 c (base + code1.length) restD = .ok (cst', code2) ∧
      F3B D.setG f1 c (bound ρ) (fun z => us z ∧ z ∉ Bs) ints1 restD ∧ properList restD = some rest ∧
      rest.length < body.length ∧ Spec.Eval.evalBodyForms (evalN n) ρ true rest σ1 = r := by
  have _ := hcx
  obtain ⟨s1, σ1, f1, cst1, restD, rest, code1, code2, ints1, r1, r2, r3, r4, r5, r6, r7, r8, r9, r10⟩ :=
    blockK L hi her hK (fun _ => False) s σ body cst base cst' code r hr (BlkInv.start s hi.extra)
      (fun y hy => .inr hy) (fun y h => h.elim) (fun y hy => hy) (fun h => absurd h hne) hcomp hpre hpl hev
      (fun dn' s' σ' b' => by rw [b'.ipL]; exact hc.ext b'.ext.toExt2) hip
  obtain ⟨hinv, her1⟩ := blk_finish hi her r4
  refine ⟨s1, σ1, f1, cst1, restD, rest, code1, code2, ints1,
    ⟨r1, r4.ipL, r2, r4.bp, r4.ep, by rw [r4.stack]; exact LiveEq.refl _, by rw [r4.stack]; exact hw,
      by rw [r3]; exact VR3.void L _ _ _, hinv, r4.ext⟩, her1, r5, r6, r7, r8, ?_, r10⟩
  have : 0 < Bs.length := List.length_pos_iff.mpr hne
  omega

theorem block3_ok (L : Laws3 D) {n : Nat} {f : Nat} {cst cst' : CState} {c : Ctx} {base : Nat} {bodyD : Datum}
    {code : List BC} {ρ : Env} {us : Text → Prop} {ints Bs : List Text} {body : List Datum}
    (hne : Bs ≠ []) (hK : F3K D.setG f c (bound ρ) us Bs Bs ints bodyD) (hcx : CtxOK c)
    (hcomp : compileBody f cst c base bodyD = .ok (cst', code)) (hpre : cst'.lambdas <+: D.final)
    (hpl : properList bodyD = some body) {σ σ' : SSt} {w : Val}
    (hev : Spec.Eval.evalBodyForms (evalN n) ρ true body σ = .ok w σ')
    {W : World} {s : MSt H} (hc : CodeAt2 D c.envmap s.heap σ.store s.ipL base code) (hip : s.ipO = base)
    (hi : Inv3 D W s.heap σ) (her : EnvRep3 ops W s.heap c s.ep ρ us) (hw : SWF s.stack) :
    ∃ (s1 : MSt H) (σ1 : SSt) (f1 : Nat) (cst1 : CState) (restD : Datum) (rest : List Datum) (code1 code2 : List BC)
      (ints1 : List Text),
      Run3 D W s code1.length σ σ1 .void s1 ∧ EnvRep3 ops W s1.heap c s1.ep ρ (fun z => us z ∧ z ∉ Bs) ∧
      code = code1 ++ code2 ∧ compileBody f1 cst1 c (base + code1.length) restD = .ok (cst', code2) ∧
      F3B D.setG f1 c (bound ρ) (fun z => us z ∧ z ∉ Bs) ints1 restD ∧ properList restD = some rest ∧
      rest.length < body.length ∧ Spec.Eval.evalBodyForms (evalN n) ρ true rest σ1 = .ok w σ' :=
  block3 L (r := .ok w σ') hne hK hcx hcomp hpre hpl nofun hev hc hip hi her hw

end Marwood.Lemmas.CompileCorrect3
