import Marwood.Symbol
import Marwood.Lemmas.Digits
/-!
# `symbol->string` inverts `string->symbol` (C18: T18.3 `symbolToString_stringToSymbol`, for T18.4 `plainIdent_fixed`),
and the decoding of hex escapes that C10's string escapes share

The decoder is `unescapeGo` (`parse::parse_string`); the digits of `natDigits 16 n` drive its `.hex` state from `0` to `n`.
-/
namespace Marwood

-- for the `by decide` examples of C16 and C18, whose results are `Except`s
deriving instance DecidableEq for Except

theorem digitChar_hex : ∀ d, d < 16 →
    isAsciiHex (digitChar d) = true ∧ digitChar d ≠ ';' ∧ digitVal (digitChar d) = some d := by decide

theorem unescapeGo_hex_digit {d acc : Nat} (hd : d < 16) (hb : acc * 16 + d ≤ u32Max) (cs : Text) :
    unescapeGo (.hex acc) (digitChar d :: cs) = unescapeGo (.hex (acc * 16 + d)) cs := by
  obtain ⟨h1, h2, h3⟩ := digitChar_hex d hd
  rw [unescapeGo]
  simp only [h2, if_false, h1, if_true, h3, hb]

theorem unescapeGo_hex_natDigits : ∀ (n : Nat), n ≤ u32Max → ∀ tail : Text,
    unescapeGo (.hex 0) (natDigits 16 n ++ tail) = unescapeGo (.hex n) tail := by
  intro n
  induction n using Nat.strongRecOn with
  | _ n ih =>
    intro hn tail
    by_cases hlt : n < 16
    · rw [natDigits_lt hlt, List.singleton_append, unescapeGo_hex_digit hlt (by omega)]
      simp
    · have hdiv : n / 16 < n := Nat.div_lt_self (by omega) (by omega)
      rw [natDigits_ge hlt (by omega), List.append_assoc, ih _ hdiv (by omega)]
      simp only [List.singleton_append]
      have hm : n % 16 < 16 := Nat.mod_lt _ (by omega)
      rw [unescapeGo_hex_digit hm (by omega)]
      congr 2
      omega

theorem charOfNat?_toNat (c : Char) : charOfNat? c.toNat = some c := by
  unfold charOfNat?
  have h : c.toNat.isValidChar := c.valid
  simp only [h, dite_true]
  congr 1

theorem char_toNat_le_u32Max (c : Char) : c.toNat ≤ u32Max := by
  have h := c.valid
  unfold u32Max
  rcases h with h | ⟨_, h⟩ <;> (simp only [Char.toNat, UInt32.toNat] at *; omega)

/-- the decoder's answer after one decoded character -/
def consRes (c : Char) : Except ParseErr Text → Except ParseErr Text
  | .ok r => .ok (c :: r)
  | .error e => .error e

theorem unescapeGo_norm_plain {c : Char} (hc : c ≠ '\\') (cs : Text) :
    unescapeGo .norm (c :: cs) = consRes c (unescapeGo .norm cs) := by
  rw [unescapeGo]
  simp only [hc, if_false]
  cases unescapeGo .norm cs <;> rfl

theorem unescapeGo_hexEscape (c : Char) (rest : Text) :
    unescapeGo .norm ('\\' :: 'x' :: (hexOf c ++ (';' :: rest))) = consRes c (unescapeGo .norm rest) := by
  rw [unescapeGo]
  simp only [if_true]
  rw [unescapeGo]
  simp only [if_true]
  unfold hexOf
  rw [unescapeGo_hex_natDigits _ (char_toNat_le_u32Max c)]
  rw [unescapeGo]
  simp only [if_true, charOfNat?_toNat]
  cases unescapeGo .norm rest <;> rfl

theorem unescapeGo_symEscape (c : Char) (rest : Text) :
    unescapeGo .norm (symEscape c ++ rest) = consRes c (unescapeGo .norm rest) := by
  have : symEscape c ++ rest = '\\' :: 'x' :: (hexOf c ++ (';' :: rest)) := by
    simp [symEscape]
  rw [this, unescapeGo_hexEscape]

/-- every arm of the encoder (`pinned = false`) decodes to the character it encodes -/
theorem unescapeGo_encodeSymChar (first : Bool) (c : Char) (rest : Text) :
    unescapeGo .norm (encodeSymChar false first c ++ rest) = consRes c (unescapeGo .norm rest) := by
  unfold encodeSymChar
  by_cases hb : c = '\\'
  · simp only [hb, Bool.not_false, Bool.true_and, decide_true, if_true]
    exact unescapeGo_symEscape _ _
  · simp only [hb, decide_false, Bool.and_false, Bool.false_eq_true, if_false]
    split
    · exact unescapeGo_norm_plain hb _
    · split
      · exact unescapeGo_norm_plain hb _
      · exact unescapeGo_symEscape _ _

theorem unescapeGo_encodeSymTail (s : Text) :
    unescapeGo .norm (encodeSymTail false s) = .ok s := by
  induction s with
  | nil => rfl
  | cons c cs ih =>
    simp only [encodeSymTail]
    rw [unescapeGo_encodeSymChar, ih]
    rfl

/-- **T18.3** for every string -/
theorem symbolToString_stringToSymbol (s : Text) : symbolToString (stringToSymbol s) = .ok s := by
  unfold symbolToString stringToSymbol
  cases s with
  | nil => rfl
  | cons c cs =>
    simp only [stringToSymbolP]
    rw [unescapeGo_encodeSymChar, unescapeGo_encodeSymTail]
    rfl

/-! ## plain identifiers are fixed points of both directions -/

theorem unescapeGo_plainTail : ∀ y : Text, plainTail y = true → unescapeGo .norm y = .ok y := by
  intro y
  induction y with
  | nil => intro _; rfl
  | cons c cs ih =>
    intro h
    simp only [plainTail, Bool.and_eq_true, bne_iff_ne, ne_eq] at h
    rw [unescapeGo_norm_plain h.1.2, ih h.2]
    rfl

theorem encodeSymTail_plainTail : ∀ y : Text, plainTail y = true → encodeSymTail false y = y := by
  intro y
  induction y with
  | nil => intro _; rfl
  | cons c cs ih =>
    intro h
    simp only [plainTail, Bool.and_eq_true, bne_iff_ne, ne_eq] at h
    simp only [encodeSymTail, ih h.2]
    unfold encodeSymChar
    simp [h.1.1, h.1.2]

theorem plainIdent_fixed (y : Text) (h : plainIdent y = true) :
    symbolToString y = .ok y ∧ stringToSymbol y = y := by
  cases y with
  | nil => cases h
  | cons c cs =>
    simp only [plainIdent, Bool.and_eq_true, bne_iff_ne, ne_eq] at h
    constructor
    · unfold symbolToString
      rw [unescapeGo_norm_plain h.1.2, unescapeGo_plainTail cs h.2]
      rfl
    · unfold stringToSymbol
      simp only [stringToSymbolP, encodeSymTail_plainTail cs h.2]
      unfold encodeSymChar
      simp [h.1.1, h.1.2]

end Marwood
