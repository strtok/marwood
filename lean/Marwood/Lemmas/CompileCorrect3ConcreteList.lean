import Marwood.Lemmas.CompileCorrect3Apply
import Marwood.Lemmas.CompileCorrect3ConcreteAll
/-!
# T01.3 stage 3 — `ListLaws` (assumed by `apply_redispatch3`) for the concrete heap model

`()` is the immediate `Nil` or a pointer to a cell that holds it; a stage-1 pair is a heap pair (`ClosedVR.pair`).
-/
namespace Marwood.Lemmas.CompileCorrect3.Conc
open Marwood Marwood.Vm Marwood.Vm.Concrete Marwood.Lemmas.CompileCorrect Marwood.Lemmas.CompileCorrect2

variable {ext : ExtOps} {E : AtomEnc} {named : Text → Prop} {slot : Text → Nat} {LM : Nat → Nat}
  {final : List LambdaM} {setG : Text → Prop}

theorem concrete_listLaws3 : ListLaws (cD3 ext E named slot LM final setG) where
  vr_nil_inv := c3_vr_nil_inv
  vr_pair_inv := c3_vr_pair_inv

end Marwood.Lemmas.CompileCorrect3.Conc
