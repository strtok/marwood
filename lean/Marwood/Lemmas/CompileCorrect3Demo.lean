import Marwood.Lemmas.CompileCorrect3ToyLaws
import Marwood.Lemmas.CompileCorrect3Main
import Marwood.Lemmas.CompileCorrect2Demo
/-!
# T01.3 stage 3 — every hypothesis discharged for a rest parameter and for an internal definition, toy heap

Lambda 0 at address 0, the top-level code at address 1, `cenvs = []`; `compileExpr_correct3_nontail` applies to
* `((lambda (a . r) r) 1 2 3)`: lambda 0 is `VARARG; ENTER; MOV <env r> acc; RET`; `acc` ends as a pointer to a heap
  pair representing the store list `(2 3)`;
* `((lambda (x) (define y (if x 1 2)) y) #t)`: environment map `[x ↦ Argument 0, y ↦ Internal]`; ENTER leaves the slot
  of `y` `Undefined`, the definition assigns it; `acc` ends showing `1`.
-/
namespace Marwood.Lemmas.CompileCorrect3.Toy
open Marwood Marwood.Vm Marwood.Lemmas.CompileCorrect Marwood.Lemmas.CompileCorrect2
  Marwood.Lemmas.CompileCorrect3
open Marwood.Spec.Eval (Val Cell evalN k_lambda k_if_)

def ka : Text := ['a']
def kr : Text := ['r']
def kx : Text := ['x']
def ky : Text := ['y']

def demoSt : SSt := { globals := [], store := #[], out := [] }

def W0 : World := fun _ _ _ => False

deriving instance DecidableEq for Marwood.Vm.Ctx
deriving instance DecidableEq for Marwood.Vm.LambdaParts

/-- closed runs of the compiler model are checked by `decide +kernel` on this hypothesis; `rfl` would re-evaluate the
    free-variable analysis at every use of its result -/
theorem ok_of_decide {ε α : Type} [DecidableEq α] {r : Except ε α} {a : α}
    (h : (match r with | .ok b => decide (b = a) | .error _ => false) = true) : r = .ok a := by
  cases r with
  | error => cases h
  | ok b => rw [of_decide_eq_true h]

theorem loads_num (D : RepData2 tops) (hD : D.VR = tVRc3) (n : Int) (k : Num) (hk : atomVal (.num k) = some (.int n))
    (tag : String) (ht : tag = "n" ++ toString n) (h : THeap) (S : Array Cell) (em : List (Text × Source)) :
    Loads2 D em h S (.datum (.num k)) (.opaque tag) := by
  refine ⟨(by intro o e; cases e), .atom hk ?_⟩
  rw [hD]; subst ht
  exact .base rfl

theorem inv3_top {lams : List LambdaM} {h : THeap} (hc : h.cenvs = []) (hl : AllLoaded (tD3 lams) h demoSt.store) :
    Inv3 (tD3 lams) W0 h demoSt :=
  ⟨(by intro x w h; cases h), (by intro x h; cases h), ⟨keepB_nil _, fun _ hm => by rw [hc] at hm; cases hm⟩,
    (by intro x h; cases h), hl, (by intro e n l l' h; cases h), (by intro e n e' n' l h; cases h),
    (by intro e n l h; cases h), (by intro e n l h; cases h)⟩

def formalsR : Datum := .pair (.sym ka) (.sym kr)

def lamR : Datum := .pair (.sym k_lambda) (.pair formalsR (.pair (.sym kr) .nil))

def progR : Datum := Datum.ofList [lamR, .num (.fix 1), .num (.fix 2), .num (.fix 3)]

def lamCtxR : Ctx := ⟨[ka, kr], [(ka, .argument 0), (kr, .argument 1)]⟩

def bodyCodeR : List BC := [.op .mov, .envSlot kr, .acc]

def partsR : LambdaParts :=
  { formals := [ka, kr], isVararg := true, ctx := lamCtxR, prologue := [.op .varArg, .op .enter],
    body := .pair (.sym kr) .nil }

def demoLamR : LambdaM := lamOf partsR bodyCodeR

def progCodeR : List BC :=
  [.op .movImm, .datum (.num (.fix 1)), .acc, .op .pushAcc,
   .op .movImm, .datum (.num (.fix 2)), .acc, .op .pushAcc,
   .op .movImm, .datum (.num (.fix 3)), .acc, .op .pushAcc,
   .op .pushImm, .argc 3, .op .movImm, .lambda 0, .acc, .op .closureAcc, .op .callAcc]

theorem demoR_parts : lambdaParts 18 c0 lamR false = .ok partsR := ok_of_decide (by decide +kernel)

theorem demoR_compile : compileExpr 20 {} c0 0 false progR = .ok ({ lambdas := [demoLamR] }, progCodeR) :=
  CompileCorrect2.Toy.okIs_eq (by decide +kernel)

def cellsR0 : List VCell :=
  [.opcode .varArg, .opcode .enter, .opcode .mov, .lexEnvSlot 1, .acc, .opcode .ret]

def cellsR1 : List VCell :=
  [.opcode .movImm, .opaque "n1", .acc, .opcode .pushAcc,
   .opcode .movImm, .opaque "n2", .acc, .opcode .pushAcc,
   .opcode .movImm, .opaque "n3", .acc, .opcode .pushAcc,
   .opcode .pushImm, .argc 3, .opcode .movImm, .ptr 0, .acc, .opcode .closureAcc, .opcode .callAcc]

def demoHeapR : THeap :=
  { lams := [⟨cellsR0, 2, [.arg 0, .arg 1]⟩, ⟨cellsR1, 0, []⟩], envs := #[], cells := #[], globals := #[] }

def demoStateR : MSt THeap :=
  { heap := demoHeapR, stack := ⟨List.replicate 16 .undefined, 0⟩, acc := .undefined, ep := 0, ipL := 1, ipO := 0,
    bp := 0 }

/-- `a`, the list `(2 3)` (allocated from the tail), `r` -/
def demoStR' : SSt :=
  { globals := []
    store := #[.var (.int 1), .pair (.int 3) .nil, .pair (.int 2) (.pair 1), .var (.pair 2)]
    out := [] }

theorem demoR_eval : (evalN 8).eval progR [] demoSt = .ok (.pair 2) demoStR' := by rfl

abbrev demoDR : RepData2 tops := tD3 [demoLamR]

theorem demoR_frag : F3 (fun _ => False) 20 c0 (bound []) (fun _ => False) false progR := by
  have hr : inEnv lamCtxR kr = true := by decide
  refine F3.app lamR _ ⟨by decide, by intro x h; cases h⟩ ?_
    (F3L.cons _ _ (F3.num _) (F3L.cons _ _ (F3.num _) (F3L.cons _ _ (F3.num _) F3L.nil)))
  refine F3.lambda formalsR _ partsR [ka] (some kr) [] [] demoR_parts (by rfl) rfl rfl (by decide) rfl
    (by intro q hq; cases hq) ?_
  exact F3B.last _ rfl (F3.sym kr ⟨fun _ => .inl (by decide), fun _ => hr⟩ (by intro h; cases h))

theorem demoR_code0 (S : Array Cell) : CodeAt2 demoDR lamCtxR.envmap demoHeapR S 0 0 demoLamR.bc := by
  refine CompileCorrect2.Toy.CodeAt2.ofAll2 cellsR0 rfl (fun i _ => by rw [Nat.zero_add]; rfl) ?_
  have hslot : Loads2 demoDR lamCtxR.envmap demoHeapR S (.envSlot kr) (.lexEnvSlot 1) := ⟨1, by decide, rfl⟩
  exact .cons rfl (.cons rfl (.cons rfl (.cons hslot (.cons rfl (.cons rfl .nil)))))

theorem demoR_code1 (S : Array Cell) : CodeAt2 demoDR c0.envmap demoHeapR S 1 0 progCodeR := by
  refine CompileCorrect2.Toy.CodeAt2.ofAll2 cellsR1 rfl (fun i _ => by rw [Nat.zero_add]; rfl) ?_
  have n1 := loads_num demoDR rfl 1 (.fix 1) rfl "n1" (by decide) demoHeapR S c0.envmap
  have n2 := loads_num demoDR rfl 2 (.fix 2) rfl "n2" (by decide) demoHeapR S c0.envmap
  have n3 := loads_num demoDR rfl 3 (.fix 3) rfl "n3" (by decide) demoHeapR S c0.envmap
  have hlam : Loads2 demoDR c0.envmap demoHeapR S (.lambda 0) (.ptr 0) :=
    CompileCorrect2.Toy.loads_lambda (id := 0) rfl rfl rfl
  exact .cons rfl (.cons n1 (.cons rfl (.cons rfl (.cons rfl (.cons n2 (.cons rfl (.cons rfl (.cons rfl (.cons n3
    (.cons rfl (.cons rfl (.cons rfl (.cons rfl (.cons rfl (.cons hlam (.cons rfl (.cons rfl (.cons rfl
    .nil))))))))))))))))))

theorem demoR_inv : Inv3 demoDR W0 demoHeapR demoSt :=
  inv3_top rfl (CompileCorrect2.Toy.forall_getElem?_cons ⟨demoR_code0 _, rfl⟩ CompileCorrect2.Toy.forall_getElem?_nil)

theorem demo_vararg_runs :
    ∃ W' s', Run3 demoDR W' demoStateR 19 demoSt demoStR' (.pair 2) s' := by
  obtain ⟨W', s', _, r⟩ := compileExpr_correct3_nontail (laws3 [demoLamR]) 20 {} c0 0 progR _ progCodeR []
    (fun _ => False) demoR_frag ctxOK_top demoR_compile (List.prefix_refl _) 8 demoSt (.pair 2) demoStR' demoR_eval
    W0 demoStateR (demoR_code1 _) rfl demoR_inv (envRep3_top _ _ _ _) (by show 0 < 16; omega)
  exact ⟨W', s', r⟩

theorem demo_vararg_acc :
    ∃ W' s', Run3 demoDR W' demoStateR 19 demoSt demoStR' (.pair 2) s' ∧
      ∃ pa pd pa' pd', tDeref s'.heap s'.acc = .pair pa pd ∧ tDeref s'.heap (.ptr pa) = .opaque "n2" ∧
        tDeref s'.heap (.ptr pd) = .pair pa' pd' ∧ tDeref s'.heap (.ptr pa') = .opaque "n3" ∧
        tDeref s'.heap (.ptr pd') = .nil := by
  obtain ⟨W', s', r⟩ := demo_vararg_runs
  refine ⟨W', s', r, ?_⟩
  obtain ⟨a, d, pa, pd, hs, hd, h1, h2⟩ := tVR3_pair r.acc
  have hs' : demoStR'.store[2]? = some (.pair (.int 2) (.pair 1)) := rfl
  rw [hs'] at hs
  injection hs with hs; injection hs with ea ed
  subst ea ed
  obtain ⟨a', d', pa', pd', hs2, hd2, h3, h4⟩ := tVR3_pair h2
  have hs2' : demoStR'.store[1]? = some (.pair (.int 3) .nil) := rfl
  rw [hs2'] at hs2
  injection hs2 with hs2; injection hs2 with ea' ed'
  subst ea' ed'
  refine ⟨pa, pd, pa', pd', hd, tVR3_int h1, hd2, tVR3_int h3, ?_⟩
  cases h4 with
  | base hb => exact tVRc3_nil hb

def ifE : Datum := Datum.ofList [.sym k_if_, .sym kx, .num (.fix 1), .num (.fix 2)]

def bodyD : Datum := .pair (defForm ky ifE) (.pair (.sym ky) .nil)

def lamD : Datum := .pair (.sym k_lambda) (.pair (Datum.ofList [.sym kx]) bodyD)

def progD : Datum := Datum.ofList [lamD, .bool true]

def lamCtxD : Ctx := ⟨[kx], [(kx, .argument 0), (ky, .internal)]⟩

def bodyCodeD : List BC :=
  [.op .mov, .envSlot kx, .acc, .op .jnt, .target 11, .op .movImm, .datum (.num (.fix 1)), .acc,
   .op .jmp, .target 14, .op .movImm, .datum (.num (.fix 2)), .acc,
   .op .mov, .acc, .envSlot ky, .op .movImm, .void, .acc,
   .op .mov, .envSlot ky, .acc]

def partsD : LambdaParts :=
  { formals := [kx], isVararg := false, ctx := lamCtxD, prologue := [.op .enter], body := bodyD }

def demoLamD : LambdaM := lamOf partsD bodyCodeD

def progCodeD : List BC :=
  [.op .movImm, .datum (.bool true), .acc, .op .pushAcc, .op .pushImm, .argc 1,
   .op .movImm, .lambda 0, .acc, .op .closureAcc, .op .callAcc]

theorem demoD_parts : lambdaParts 18 c0 lamD false = .ok partsD := ok_of_decide (by decide +kernel)

theorem demoD_compile : compileExpr 20 {} c0 0 false progD = .ok ({ lambdas := [demoLamD] }, progCodeD) :=
  CompileCorrect2.Toy.okIs_eq (by decide +kernel)

def cellsD0 : List VCell :=
  [.opcode .enter, .opcode .mov, .lexEnvSlot 0, .acc, .opcode .jnt, .ptr 11, .opcode .movImm, .opaque "n1", .acc,
   .opcode .jmp, .ptr 14, .opcode .movImm, .opaque "n2", .acc,
   .opcode .mov, .acc, .lexEnvSlot 1, .opcode .movImm, .void, .acc,
   .opcode .mov, .lexEnvSlot 1, .acc, .opcode .ret]

def cellsD1 : List VCell :=
  [.opcode .movImm, .bool true, .acc, .opcode .pushAcc, .opcode .pushImm, .argc 1,
   .opcode .movImm, .ptr 0, .acc, .opcode .closureAcc, .opcode .callAcc]

def demoHeapD : THeap :=
  { lams := [⟨cellsD0, 1, [.arg 0, .internal]⟩, ⟨cellsD1, 0, []⟩], envs := #[], cells := #[], globals := #[] }

def demoStateD : MSt THeap :=
  { heap := demoHeapD, stack := ⟨List.replicate 8 .undefined, 0⟩, acc := .undefined, ep := 0, ipL := 1, ipO := 0,
    bp := 0 }

def demoStD' : SSt := { globals := [], store := #[.var (.bool true), .var (.int 1)], out := [] }

theorem demoD_eval : (evalN 8).eval progD [] demoSt = .ok (.int 1) demoStD' := by rfl

abbrev demoDD : RepData2 tops := tD3 [demoLamD]

theorem demoD_frag : F3 (fun _ => False) 20 c0 (bound []) (fun _ => False) false progD := by
  have hx : inEnv lamCtxD kx = true := by decide
  have hy : inEnv lamCtxD ky = true := by decide
  refine F3.app lamD _ ⟨by decide, by intro x h; cases h⟩ ?_ (F3L.cons _ _ (F3.bool true) F3L.nil)
  refine F3.lambda (Datum.ofList [.sym kx]) _ partsD [kx] none [ky] [] demoD_parts (by rfl) rfl rfl (by decide) rfl
    (by intro q hq; cases hq) ?_
  refine F3B.defv ky ifE _ _ [] hy (.inl (by decide)) (by rfl) ?_ ?_
  · exact F3.if3 _ _ _ (F3.sym kx ⟨fun _ => .inl (by decide), fun _ => hx⟩ (by decide)) (F3.num _) (F3.num _)
  · exact F3B.last _ rfl (F3.sym ky ⟨fun _ => .inl (by decide), fun _ => hy⟩ (fun h => h.2 rfl))

theorem demoD_code0 (S : Array Cell) : CodeAt2 demoDD lamCtxD.envmap demoHeapD S 0 0 demoLamD.bc := by
  refine CompileCorrect2.Toy.CodeAt2.ofAll2 cellsD0 rfl (fun i _ => by rw [Nat.zero_add]; rfl) ?_
  have sx : Loads2 demoDD lamCtxD.envmap demoHeapD S (.envSlot kx) (.lexEnvSlot 0) := ⟨0, by decide, rfl⟩
  have sy : Loads2 demoDD lamCtxD.envmap demoHeapD S (.envSlot ky) (.lexEnvSlot 1) := ⟨1, by decide, rfl⟩
  have n1 := loads_num demoDD rfl 1 (.fix 1) rfl "n1" (by decide) demoHeapD S lamCtxD.envmap
  have n2 := loads_num demoDD rfl 2 (.fix 2) rfl "n2" (by decide) demoHeapD S lamCtxD.envmap
  exact .cons rfl (.cons rfl (.cons sx (.cons rfl (.cons rfl (.cons rfl (.cons rfl
    (.cons n1 (.cons rfl (.cons rfl (.cons rfl (.cons rfl (.cons n2 (.cons rfl
    (.cons rfl (.cons rfl (.cons sy (.cons rfl (.cons rfl (.cons rfl
    (.cons rfl (.cons sy (.cons rfl (.cons rfl .nil)))))))))))))))))))))))

theorem demoD_code1 (S : Array Cell) : CodeAt2 demoDD c0.envmap demoHeapD S 1 0 progCodeD := by
  refine CompileCorrect2.Toy.CodeAt2.ofAll2 cellsD1 rfl (fun i _ => by rw [Nat.zero_add]; rfl) ?_
  have hb : Loads2 demoDD c0.envmap demoHeapD S (.datum (.bool true)) (.bool true) :=
    ⟨(by intro o e; cases e), .atom rfl (.base rfl)⟩
  have hlam : Loads2 demoDD c0.envmap demoHeapD S (.lambda 0) (.ptr 0) :=
    CompileCorrect2.Toy.loads_lambda (id := 0) rfl rfl rfl
  exact .cons rfl (.cons hb (.cons rfl (.cons rfl (.cons rfl (.cons rfl (.cons rfl (.cons hlam (.cons rfl
    (.cons rfl (.cons rfl .nil))))))))))

theorem demoD_inv : Inv3 demoDD W0 demoHeapD demoSt :=
  inv3_top rfl (CompileCorrect2.Toy.forall_getElem?_cons ⟨demoD_code0 _, rfl⟩ CompileCorrect2.Toy.forall_getElem?_nil)

theorem demo_define_runs :
    ∃ W' s', Run3 demoDD W' demoStateD 11 demoSt demoStD' (.int 1) s' := by
  obtain ⟨W', s', _, r⟩ := compileExpr_correct3_nontail (laws3 [demoLamD]) 20 {} c0 0 progD _ progCodeD []
    (fun _ => False) demoD_frag ctxOK_top demoD_compile (List.prefix_refl _) 8 demoSt (.int 1) demoStD' demoD_eval
    W0 demoStateD (demoD_code1 _) rfl demoD_inv (envRep3_top _ _ _ _) (by show 0 < 8; omega)
  exact ⟨W', s', r⟩

theorem demo_define_acc :
    ∃ W' s', Run3 demoDD W' demoStateD 11 demoSt demoStD' (.int 1) s' ∧ tDeref s'.heap s'.acc = .opaque "n1" := by
  obtain ⟨W', s', r⟩ := demo_define_runs
  exact ⟨W', s', r, tVR3_int r.acc⟩

end Marwood.Lemmas.CompileCorrect3.Toy
