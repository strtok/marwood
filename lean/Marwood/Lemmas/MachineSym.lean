import Marwood.Lemmas.GoodMain
/-!
# C18 at machine level: what the invariant `GoodI` says about symbol cells of the concrete machine

`GoodI s` contains `WFHeap true (toHeap s.heap)`, hence `Interned`: the symbol table maps a name to a cell iff that
cell is allocated and holds that name. This file reads it on the concrete heap `CHeap`:
* `SymCell h p n` — cell `p` holds the symbol named `n` (an `opaque` tag `y…`); `symCell_iff` — `Symbol n` in the erasure.
* `Sees s p` — address `p` is one the machine can get hold of: a root of the collector (global binding keys, pointer
  global slots, stack cells `≤ sp`, `acc`, `ip.0`, `ep`) or referred to by the content of an allocated cell (`crefs`).
* `sees_sym_alloc` — under `GoodI`, a symbol cell the machine sees is allocated.
* `putNew_symbol_interns`, `putV_symbol_interns`, `maybePutV_symbol_interns` — the concrete allocator with its real
  free list: producing a symbol value returns the cell that already holds the name, or — only when no allocated cell
  holds it — a fresh one.
-/
namespace Marwood.Lemmas.MachineSym
open Marwood Marwood.Vm Marwood.Vm.Concrete Marwood.Lemmas.Sim Marwood.Lemmas.Good
open Marwood.Heap (GcState WFHeap RootsOk vrefs vrefsList crefs Interned)
open Marwood.Lemmas.HeapWFOps (putNew_wf PutFacts)

def SymCell (h : CHeap) (p : Nat) (n : Text) : Prop :=
  ∃ tag, h.cells[p]? = some (CCell.val (.opaque tag)) ∧ symName? tag = some n

def SymVal (h : CHeap) (v : VCell) (n : Text) : Prop := ∃ p, v = .ptr p ∧ SymCell h p n

theorem eraseC_symbol {c : CCell} {n : Text} (h : eraseC c = Heap.VCell.symbol n) :
    ∃ tag, c = CCell.val (.opaque tag) ∧ symName? tag = some n := by
  cases c with
  | val v =>
    cases v with
    | «opaque» tag =>
      refine ⟨tag, rfl, ?_⟩
      simp only [eraseC, eraseV] at h
      split at h
      · rename_i m hm; cases h; exact hm
      · cases h
    | _ => simp [eraseC, eraseV] at h
  | _ => simp [eraseC] at h

theorem symCell_iff {h : CHeap} {p : Nat} {n : Text} :
    SymCell h p n ↔ (toHeap h).cells[p]? = some (Heap.VCell.symbol n) := by
  rw [toHeap_cells_get]
  constructor
  · rintro ⟨tag, hc, ht⟩
    rw [hc]
    simp [eraseC, eraseV, ht]
  · intro hc
    cases hcell : h.cells[p]? with
    | none => rw [hcell] at hc; cases hc
    | some c =>
      rw [hcell] at hc
      simp only [Option.map_some, Option.some.injEq] at hc
      obtain ⟨tag, hcc, ht⟩ := eraseC_symbol hc
      exact ⟨tag, by rw [hcell, hcc], ht⟩

theorem SymCell.name_unique {h : CHeap} {p : Nat} {n m : Text} (a : SymCell h p n) (b : SymCell h p m) : n = m := by
  have h1 := symCell_iff.mp a
  have h2 := symCell_iff.mp b
  rw [h1] at h2
  simpa using h2

inductive Sees (s : St CHeap) : Nat → Prop
  | root {p : Nat} : p ∈ (rootsOf s).refs true → Sees s p
  | cell {i p : Nat} {c : CCell} : (toHeap s.heap).NonFree i → s.heap.cells[i]? = some c →
      p ∈ crefs true (eraseC c) → Sees s p

/-- the places a first-class value can sit in -/
inductive Loc (s : St CHeap) : VCell → Prop
  | acc : Loc s s.acc
  | stack {i : Nat} {v : VCell} : i ≤ s.stack.sp → s.stack.cells[i]? = some v → Loc s v
  | glob {v : VCell} : v ∈ s.heap.globals.toList → Loc s v
  | boxed {i : Nat} {v : VCell} : (toHeap s.heap).NonFree i → s.heap.cells[i]? = some (CCell.val v) → Loc s v
  | car {i a d : Nat} : (toHeap s.heap).NonFree i → s.heap.cells[i]? = some (CCell.val (.pair a d)) → Loc s (.ptr a)
  | cdr {i a d : Nat} : (toHeap s.heap).NonFree i → s.heap.cells[i]? = some (CCell.val (.pair a d)) → Loc s (.ptr d)
  | vecElem {i : Nat} {es : List VCell} {v : VCell} : (toHeap s.heap).NonFree i →
      s.heap.cells[i]? = some (CCell.vector es) → v ∈ es → Loc s v
  | envSlot {i : Nat} {ss : List VCell} {v : VCell} : (toHeap s.heap).NonFree i →
      s.heap.cells[i]? = some (CCell.lexEnv ss) → v ∈ ss → Loc s v
  | contSlot {i : Nat} {k : Cont} {v : VCell} : (toHeap s.heap).NonFree i →
      s.heap.cells[i]? = some (CCell.cont k) → v ∈ k.stack.cells → Loc s v

theorem vrefs_ptr (p : Nat) : vrefs true (eraseV (.ptr p)) = [p] := by simp [eraseV, vrefs]

theorem mem_vrefsList_ptr {l : List VCell} {p : Nat} (h : VCell.ptr p ∈ l) : p ∈ vrefsList true (l.map eraseV) :=
  vrefsList_mem_iff.mpr ⟨_, h, by simp [vrefs_ptr]⟩

theorem loc_sees {s : St CHeap} {p : Nat} (l : Loc s (.ptr p)) : Sees s p := by
  generalize hv : VCell.ptr p = v at l
  cases l with
  | acc =>
    refine .root (mem_refs_acc ?_)
    simp [rootsOf, ← hv, vrefs_ptr]
  | @stack i _ hi hc =>
    subst hv
    refine .root (mem_refs_stack ?_)
    simp only [rootsOf]
    refine mem_vrefsList_ptr ?_
    exact mem_take_succ.mpr ⟨i, hi, hc⟩
  | glob hm =>
    subst hv
    refine .root (mem_refs_slot ?_)
    simp only [rootsOf]
    exact List.mem_map.mpr ⟨_, hm, by simp [eraseV]⟩
  | boxed hn hc =>
    subst hv
    exact .cell hn hc (by simp [eraseC, eraseV, crefs])
  | car hn hc =>
    cases hv
    exact .cell hn hc (by simp [eraseC, eraseV, crefs])
  | cdr hn hc =>
    cases hv
    exact .cell hn hc (by simp [eraseC, eraseV, crefs])
  | vecElem hn hc hm =>
    subst hv
    exact .cell hn hc (by simp only [eraseC, crefs]; exact mem_vrefsList_ptr hm)
  | envSlot hn hc hm =>
    subst hv
    exact .cell hn hc (by simp only [eraseC, crefs]; exact mem_vrefsList_ptr hm)
  | contSlot hn hc hm =>
    subst hv
    refine .cell hn hc ?_
    simp only [eraseC, crefs, Heap.contRefs, List.mem_append]
    exact .inl (mem_vrefsList_ptr hm)

theorem sees_nf {s : St CHeap} (g : GoodI s) {p : Nat} (hs : Sees s p) : NF s.heap p := by
  cases hs with
  | root hm => exact g.roots p hm
  | cell hn hc hm => exact g.hg.closed hn hc p hm

theorem sees_sym_alloc {s : St CHeap} (g : GoodI s) {p : Nat} {n : Text} (hs : Sees s p) (hc : SymCell s.heap p n) :
    (toHeap s.heap).AllocSym p n := by
  obtain ⟨tag, hcell, _⟩ := id hc
  exact ⟨symCell_iff.mp hc, (sees_nf g hs).nonFree g.hg.wf hcell⟩

theorem putNew_ptr (h : CHeap) (v : VCell) : ∃ a, (putNew h v).2 = .ptr a := by
  unfold putNew
  split
  · split
    · exact ⟨_, rfl⟩
    · exact ⟨_, rfl⟩
  · exact ⟨_, rfl⟩

/-- what producing the symbol value `v` (name `n`) does to a well-formed concrete heap -/
structure Produced (h h' : CHeap) (r : VCell) (n : Text) : Prop where
  wf : WFHeap true (toHeap h')
  /-- the result is a pointer to an allocated cell holding the name, and the table maps the name to it -/
  res : ∃ p, r = .ptr p ∧ (toHeap h').AllocSym p n ∧ symLookup h' n = some p
  /-- every allocated symbol stays where it was -/
  keep : ∀ q m, (toHeap h).AllocSym q m → (toHeap h').AllocSym q m
  /-- the cell is the one that held the name already (nothing changes), or no allocated cell held it -/
  fresh : (∃ p, r = .ptr p ∧ (toHeap h).AllocSym p n ∧ h' = h) ∨ ∀ q, ¬ (toHeap h).AllocSym q n

/-- `Small h` (`2 * size ≤ 2 ^ 63`): the allocation may `grow` the heap, whose doubled size has to stay within the
    bound `putNew_wf` asks for (`Small.grown`) -/
theorem putNew_symbol_interns {h : CHeap} (wf : WFHeap true (toHeap h)) (sm : Small h) {v : VCell} {n : Text}
    (hs : symOf v = some n) : Produced h (putNew h v).1 (putNew h v).2 n := by
  have inv := HInv.of_wf wf
  have hput := toHeap_putNew inv v
  rw [eraseV_sym hs] at hput
  obtain ⟨wf', pf⟩ := putNew_wf true _ _ _ _ wf (by intro y hy; simp [crefs] at hy) (sm.grown inv) hput
  obtain ⟨a, ha⟩ := putNew_ptr h v
  obtain ⟨p, hv, hnf, hc⟩ := pf.result
  have hpa : a = p := by rw [ha] at hv; simpa [eraseV] using hv
  subst hpa
  have hal : (toHeap (putNew h v).1).AllocSym a n := ⟨hc, hnf⟩
  refine ⟨wf', ⟨a, ha, hal, (wf'.interned n a).mpr hal⟩, ?_, ?_⟩
  · intro q m hq
    obtain ⟨x, y⟩ := pf.keep q hq.2
    exact ⟨by rw [y]; exact hq.1, x⟩
  · cases hk : symLookup h n with
    | some p =>
      have e : putNew h v = (h, .ptr p) := by simp only [putNew, hs, hk]
      left
      refine ⟨p, by rw [e], (wf.interned n p).mp hk, by rw [e]⟩
    | none =>
      right
      intro q hq
      have := (wf.interned n q).mpr hq
      have hl : (toHeap h).symLookup n = symLookup h n := rfl
      rw [hl, hk] at this
      cases this

theorem putV_symbol_interns {h : CHeap} (wf : WFHeap true (toHeap h)) (sm : Small h) {v : VCell} {n : Text}
    (hs : symOf v = some n) : Produced h (putV h v).1 (putV h v).2 n := by
  have hnp : isPtr v = false := by
    obtain ⟨tag, rfl, _⟩ := symOf_some hs; rfl
  have e : putV h v = putNew h v := by simp [putV, hnp]
  rw [e]
  exact putNew_symbol_interns wf sm hs

theorem symbol_not_immediate {v : VCell} {n : Text} (hs : symOf v = some n) : immediate v = false := by
  obtain ⟨tag, rfl, ht⟩ := symOf_some hs
  unfold symName? at ht
  unfold immediate
  split at ht
  · rename_i r hr; simp [hr]
  · cases ht

/-- `Heap::maybe_put` of a symbol value (the tail of `runBuiltin`: the result of `string->symbol`, …) -/
theorem maybePutV_symbol_interns {h : CHeap} (wf : WFHeap true (toHeap h)) (sm : Small h) {v : VCell} {n : Text}
    (hs : symOf v = some n) : Produced h (maybePutV h v).1 (maybePutV h v).2 n := by
  have hnp : isPtr v = false := by
    obtain ⟨tag, rfl, _⟩ := symOf_some hs; rfl
  have e : maybePutV h v = putNew h v := by simp [maybePutV, hnp, symbol_not_immediate hs]
  rw [e]
  exact putNew_symbol_interns wf sm hs

end Marwood.Lemmas.MachineSym
