import Marwood.Gen.Prelude
import Marwood.Spec.Match
import Marwood.Spec.Eval
/-!
# The prelude's derived-form macros, as `prelude.scm` defines them, read by the R7RS matcher

`Gen/Prelude.lean` is regenerated from `/repo/marwood/prelude.scm` on every check. `rulesOf name` is the
transformer of `name`; the theorems state what the specification matcher (`Spec.Match.specExpand`, C17)
makes of schematic uses (distinct symbols stand for the sub-forms) with it. They and `Expand.rules_*`
(`Lemmas/EvalDerivedExpand.lean`, which proves the expansions for all uses) are the `decide +kernel`
facts on the regenerated data: what breaks when a rule of the prelude changes shape or order (e.g. the
order of the `case … =>` rules: `case_final_arrow_expansion`). `s`, `L` (a symbol, a proper list as
`Datum`) are what the `EvalDerived*` files write uses and expansions with.
-/
namespace Marwood.Spec.Eval.Prelude
open Marwood Marwood.Spec.Match Marwood.Spec.Eval

/-- the transformer the VM ends up with for a keyword: the last `define-syntax` of that name -/
def rulesOf (name : Text) : Option Rules :=
  ((Marwood.Gen.Prelude.macros.filter (·.1 == name)).getLast?).bind fun m => parseDef m.2

def expandsTo (name : Text) (use expected : Datum) : Bool :=
  match rulesOf name with
  | some rs =>
    match specExpand rs.ctx rs.rules use with
    | .ok d => d == expected
    | _ => false
  | none => false

def s (t : Text) : Datum := .sym t
def L (xs : List Datum) : Datum := Datum.ofList xs

theorem every_macro_is_readable :
    Marwood.Gen.Prelude.macros.all (fun m => (parseDef m.2).isSome) = true := by decide +kernel

theorem when_expansion :
    expandsTo k_when_ (L [s k_when_, s ['t'], s ['a'], s ['b']])
      (L [s k_if_, s ['t'], L [s k_begin_, s ['a'], s ['b']]]) = true := by decide +kernel

theorem unless_expansion :
    expandsTo k_unless_ (L [s k_unless_, s ['t'], s ['a'], s ['b']])
      (L [s k_if_, L [s ['n','o','t'], s ['t']], L [s k_begin_, s ['a'], s ['b']]]) = true := by decide +kernel

theorem begin_expansion :
    expandsTo k_begin_ (L [s k_begin_, s ['a'], s ['b']])
      (L [L [s k_lambda, .nil, s ['a'], s ['b']]]) = true := by decide +kernel

theorem and_expansions :
    expandsTo k_and_ (L [s k_and_]) (.bool true) = true ∧
    expandsTo k_and_ (L [s k_and_, s ['a']]) (s ['a']) = true ∧
    expandsTo k_and_ (L [s k_and_, s ['a'], s ['b'], s ['c']])
      (L [s k_if_, s ['a'], L [s k_and_, s ['b'], s ['c']], .bool false]) = true := by decide +kernel

theorem or_expansions :
    expandsTo k_or_ (L [s k_or_]) (.bool false) = true ∧
    expandsTo k_or_ (L [s k_or_, s ['a']]) (s ['a']) = true ∧
    expandsTo k_or_ (L [s k_or_, s ['a'], s ['b']])
      (L [s k_let_, L [L [s ['v','a','r','1'], s ['a']]],
          L [s k_if_, s ['v','a','r','1'], s ['v','a','r','1'], L [s k_or_, s ['b']]]]) = true := by
  decide +kernel

theorem let_expansion :
    expandsTo k_let_ (L [s k_let_, L [L [s ['x'], s ['a']], L [s ['y'], s ['b']]], s ['e'], s ['f']])
      (L [L [s k_lambda, L [s ['x'], s ['y']], s ['e'], s ['f']], s ['a'], s ['b']]) = true := by
  decide +kernel

/-- depends on the order of the `case` rules: a final `=>` clause of `case` calls the procedure -/
theorem case_final_arrow_expansion :
    expandsTo k_case_ (L [s k_case_, s ['k'], L [L [.num (.fix 1), .num (.fix 2)], s k_arrow, s ['f']]])
      (L [s k_if_, L [s ['m','e','m','v'], s ['k'], L [s k_quote, L [.num (.fix 1), .num (.fix 2)]]],
          L [s ['f'], s ['k']]]) = true := by decide +kernel

end Marwood.Spec.Eval.Prelude
