import Marwood.Lemmas.NoPanicDefs
/-!
# T06.6 on the concrete machine: the heap-side facts `PanicFacts` as theorems

`panicFacts_concrete`: in a state satisfying `GoodI`, WF-stack over the value-typed verifier, `NPInv` and `EnvSlots`,
under `ExtNoPanic ext`, every heap-side fact `step_pin_local` asks for holds:
* `%ip` designates a lambda (WF-stack); VARARG's `args.len() - 1` (`LamNP.vararg`);
* CLOSURE's `build_closure_environment`: no `IofArgument` source (`CInvG.noIofArg`, so `load_arg`'s `bp - argc` is never
  evaluated), `IofEnvironment(k)` within the current environment (`EnvSlots.closure`);
* ENTER's `build_lexical_environment`: `argc - arg` (`LamNP.argSrc`), `bp - (argc - arg)` (WF-stack: the arguments
  ENTER has just checked lie below the new `bp`), a slot per environment-map entry (`EnvSlots.enter`);
* VPUSH, the generic builtins, `eval`'s compiler: `ExtNoPanic`, whose premises follow from `GoodI` and `StackDisc`;
* `restore_continuation`'s `split_at_mut`: the continuation found is a continuation cell of the heap (`NPInv.cont`).
-/
namespace Marwood.Lemmas.Good
open Marwood Marwood.Vm Marwood.Vm.Verify Marwood.Vm.Concrete Marwood.Lemmas.Sim
open Marwood.Heap (GcState)

theorem closureSlot_np {h : CHeap} {ep bp : Nat} {st : Stack} {src : Source}
    (hno : ∀ a, src ≠ Source.iofArg a)
    (hk : ∀ ss k, envAt h ep = some ss → src = Source.iofEnv k → k < ss.length) :
    Outcome.NoPanic (closureSlot h ep bp st src) := by
  cases src with
  | iofArg a => exact absurd rfl (hno a)
  | iofEnv k =>
    unfold closureSlot
    cases he : envAt h ep with
    | none => exact pin_err _
    | some ss =>
      try dsimp only
      have hlt := hk ss k he rfl
      have : ss[k]? = some ss[k] := List.getElem?_eq_getElem hlt
      rw [this]
      try dsimp only
      split
      · rename_i heq; cases heq
      · exact pin_ok _
      · exact pin_ok _
  | global => exact pin_ok _
  | arg a => exact pin_ok _
  | internal => exact pin_ok _

theorem closureSlots_np {h : CHeap} {ep bp : Nat} {st : Stack} : ∀ (em : List (VCell × Source)),
    (∀ x ∈ em, ∀ a, x.2 ≠ Source.iofArg a) →
    (∀ ss, envAt h ep = some ss → ∀ x ∈ em, ∀ k, x.2 = Source.iofEnv k → k < ss.length) →
    Outcome.NoPanic (closureSlots h ep bp st em)
  | [], _, _ => pin_ok _
  | (v, src) :: rest, hno, hk => by
    unfold closureSlots
    refine pin_bind (closureSlot_np (fun a => hno (v, src) (by simp) a)
      (fun ss k he hs => hk ss he (v, src) (by simp) k hs)) (fun w _ => ?_)
    refine pin_bind (closureSlots_np rest (fun x hx => hno x (by simp [hx]))
      (fun ss he x hx => hk ss he x (by simp [hx]))) (fun ws _ => ?_)
    exact pin_ok _

theorem makeClosure_np {h : CHeap} {lam ep bp : Nat} {st : Stack}
    (hno : ∀ l, lambdaAt h lam = some l → ∀ x ∈ l.envmap, ∀ a, x.2 ≠ Source.iofArg a)
    (hk : ∀ l ss, lambdaAt h lam = some l → envAt h ep = some ss → ∀ x ∈ l.envmap, ∀ k,
      x.2 = Source.iofEnv k → k < ss.length) :
    Outcome.NoPanic (makeClosure h lam ep bp st) := by
  unfold makeClosure
  cases hl : lambdaAt h lam with
  | none => exact pin_err _
  | some l =>
    dsimp only
    refine pin_bind (closureSlots_np l.envmap (hno l hl) (fun ss he => hk l ss hl he)) (fun slots _ => ?_)
    exact pin_ok _

theorem activationSlot_np {env bp argc : Nat} {st : Stack} {slot : Nat} {old : VCell} {src : Source}
    (ha : ∀ a, src = Source.arg a → a ≤ argc) (hb : argc ≤ bp) :
    Outcome.NoPanic (activationSlot env bp argc st slot old src) := by
  cases src with
  | arg a =>
    have h1 : a ≤ argc := ha a rfl
    simp only [activationSlot, usub_of_le _ h1, outcome_bind_ok, usub_of_le _ (show argc - a ≤ bp by omega)]
    exact get_np _ _
  | iofArg a => simp only [activationSlot]; split <;> exact pin_ok _
  | iofEnv k => simp only [activationSlot]; split <;> exact pin_ok _
  | global => simp only [activationSlot]; exact pin_ok _
  | internal => simp only [activationSlot]; exact pin_ok _

theorem activationSlots_np {env bp argc : Nat} {st : Stack} (hb : argc ≤ bp) :
    ∀ (em : List (VCell × Source)) (slot : Nat) (olds : List VCell), em.length ≤ olds.length →
      (∀ x ∈ em, ∀ a, x.2 = Source.arg a → a ≤ argc) →
      Outcome.NoPanic (activationSlots env bp argc st slot olds em)
  | [], slot, olds, _, _ => by unfold activationSlots; exact pin_ok _
  | (v, src) :: rest, slot, [], hl, _ => by simp at hl
  | (v, src) :: rest, slot, old :: olds, hl, ha => by
    unfold activationSlots
    refine pin_bind (activationSlot_np (fun a hs => ha (v, src) (by simp) a hs) hb) (fun w _ => ?_)
    refine pin_bind (activationSlots_np hb rest (slot + 1) olds (by simpa using hl)
      (fun x hx => ha x (by simp [hx]))) (fun ws _ => ?_)
    exact pin_ok _

theorem makeActivation_np {h : CHeap} {lam env bp : Nat} {st : Stack}
    (hlen : ∀ l ss, lambdaAt h lam = some l → envAt h env = some ss → l.envmap.length ≤ ss.length)
    (harg : ∀ l, lambdaAt h lam = some l → ∀ x ∈ l.envmap, ∀ a, x.2 = Source.arg a → a ≤ l.args.length)
    (hb : ∀ l, lambdaAt h lam = some l → l.args.length ≤ bp) :
    Outcome.NoPanic (makeActivation h lam env bp st) := by
  unfold makeActivation
  cases hl : lambdaAt h lam with
  | none => exact pin_err _
  | some l =>
    dsimp only
    cases he : envAt h env with
    | none => exact pin_err _
    | some olds =>
      dsimp only
      refine pin_bind (activationSlots_np (hb l hl) l.envmap 0 olds (hlen l olds hl he) (harg l hl)) (fun slots _ => ?_)
      exact pin_ok _

section facts
variable {ext : ExtOps} {ecl : ExtCodeLawsV ext} {s : St CHeap}

theorem opAt_of_OpAt {op : Op} (h : OpAt (concreteOps ext) s op) : opAt s op := by
  have h' : (match lambdaAt s.heap s.ipL with | some lam => lam.bc[s.ipO]? | none => none) = some (VCell.opcode op) := h
  cases hl : lambdaAt s.heap s.ipL with
  | none => rw [hl] at h'; cases h'
  | some l => rw [hl] at h'; exact ⟨l, hl, h'⟩

theorem readOpcode_vops (s : St CHeap) : readOpcode (concreteOps ext) s = readOpcode (vops ext) s := by
  unfold readOpcode
  rfl

theorem readOpcode_of_OpAt {op : Op} (h : OpAt (concreteOps ext) s op) :
    readOpcode (vops ext) s = .ok (op, { s with ipO := s.ipO + 1 }) := by
  obtain ⟨l, hl, hop⟩ := opAt_of_OpAt h
  rw [← readOpcode_vops]
  unfold readOpcode
  have h1 : (concreteOps ext).isLambda s.heap s.ipL = true := by
    show (lambdaAt s.heap s.ipL).isSome = true
    rw [hl]; rfl
  have h2 : (concreteOps ext).fetch s.heap s.ipL s.ipO = some (.opcode op) := h
  simp only [h1, h2, Bool.not_true, Bool.false_eq_true, if_false]

theorem getOffset_cellAt {st : Stack} {k : Nat} {v : VCell} (h : st.getOffset (-(k : Int)) = .ok v) :
    k ≤ st.sp ∧ st.cellAt (st.sp - k) = v := by
  obtain ⟨h1, h2⟩ := StepC.getOffset_inv h
  exact ⟨h1, by unfold Stack.cellAt; rw [h2]; rfl⟩

theorem enter_args_below {K : List FDesc} (hw : WFS (concreteLawsV ext ecl) s K)
    (hop : OpAt (concreteOps ext) s .enter) {n : Nat} (hg : s.stack.getOffset (-2) = .ok (.argc n)) :
    n + 3 ≤ s.stack.sp := by
  obtain ⟨t, st, ai, _⟩ := hw.instr (readOpcode_of_OpAt hop)
  have chk := ai.chk
  cases st <;> first | cases chk | simp only [checkOp] at chk
  obtain ⟨_, n', ep', l', o', K', hn, _, _, hc, _⟩ := hw.wf.frames.inv_pre ai.ht ai.hst
  have hg' : s.stack.getOffset (-((2 : Nat) : Int)) = .ok (.argc n) := hg
  obtain ⟨_, h2⟩ := getOffset_cellAt hg'
  rw [hc] at h2
  cases h2
  exact hn

theorem isLambda_of_wfs {K : List FDesc} (hw : WFS (concreteLawsV ext ecl) s K) :
    (concreteOps ext).isLambda s.heap s.ipL = true := by
  obtain ⟨t0, st0, ht0, _⟩ := hw.wf.frames.has_ty
  have hcode : codeC s.heap s.ipL = some t0.bc := (tyOf_spec ht0).1
  obtain ⟨lam, h1, _⟩ := codeC_some hcode
  show (lambdaAt s.heap s.ipL).isSome = true
  rw [lambdaAt_iff.mpr h1]; rfl

theorem panicFacts_concrete (en : ExtNoPanic ext) {K : List FDesc} (g : GoodI s)
    (hw : WFS (concreteLawsV ext ecl) s K) (np : NPInv s) (es : EnvSlots s) :
    PanicFacts (concreteOps ext) s := by
  have sd : StackDisc s := stackDisc_of_wfs hw
  have ci : CInvG IsValue s.heap := hw.inv
  refine ⟨isLambda_of_wfs hw, ?_, ?_, ?_, ?_, ?_, ?_, ?_⟩
  · -- VARARG
    intro hop
    obtain ⟨l, hl, hbc⟩ := opAt_of_OpAt hop
    refine ⟨⟨l.args.length⟩, ?_, ?_⟩
    · show (lambdaAt s.heap s.ipL).map (fun lam => (⟨lam.args.length⟩ : LambdaInfo)) = _
      rw [hl]; rfl
    · exact (np.lam.cell (lambdaAt_iff.mp hl)).vararg (List.mem_of_getElem? hbc)
  · -- CLOSURE
    intro hop lam hacc
    obtain ⟨l, hl, hbc⟩ := opAt_of_OpAt hop
    refine makeClosure_np ?_ ?_
    · intro l' hl' x hx a
      exact ci.noIofArg lam l' (lambdaAt_iff.mp hl') x hx a
    · intro l' ss hl' hss x hx k hk
      exact es.closure l lam l' ss hl hbc hacc hl' hss x hx k hk
  · -- ENTER
    intro hop lam env info n hc hinfo hg hn
    obtain ⟨l, hl, hbc⟩ := opAt_of_OpAt hop
    have hle := enter_args_below hw hop hg
    refine makeActivation_np ?_ ?_ ?_
    · intro l' ss hl' hss
      exact es.enter l lam env l' ss hl hbc hc hl' hss
    · intro l' hl'
      exact (np.lam.cell (lambdaAt_iff.mp hl')).argSrc
    · intro l' hl'
      have hi : (lambdaAt s.heap lam).map (fun lam => (⟨lam.args.length⟩ : LambdaInfo)) = some info := hinfo
      rw [hl'] at hi
      cases hi
      show l'.args.length ≤ (s.stack.push (.basePtr s.bp)).sp - 4
      rw [StepC.push_sp]
      have : n = l'.args.length := hn
      omega
  · -- VPUSH
    intro hop v st hp
    have hv : VRefsOk s.heap v := roots_stack g.roots (Nat.le_refl _) (StepC.pop_inv hp).2.1
    exact en.vectorPush_np s.heap (deref s.heap v) s.acc g.hg (StepB.deref_refs g.hg hv) g.accOk
  · -- a generic builtin
    intro hop id a st argc args st2 _ hp ha hpn
    have hblk : ArgBlock s.stack s.stack.sp := sd.call (hop.imp opAt_of_OpAt opAt_of_OpAt)
    obtain ⟨p1, p2, p3, p4⟩ := StepC.pop_inv hp
    obtain ⟨q1, q2, q3⟩ := StepC.popN_inv argc hpn
    cases a <;> simp only [asArgc] at ha <;> cases ha
    refine en.builtinEval_np s.heap id args g.hg ?_
    intro x hx
    obtain ⟨i, i1, i2, i3⟩ := q3 x hx
    rw [p4] at i3
    exact ⟨hblk argc p2 i x (by omega) (by omega) i3, roots_stack g.roots (by omega) i3⟩
  · -- `eval`'s compiler
    intro hop id a st e st2 _ hp ha hp2
    have hblk : ArgBlock s.stack s.stack.sp := sd.call (hop.imp opAt_of_OpAt opAt_of_OpAt)
    obtain ⟨p1, p2, p3, p4⟩ := StepC.pop_inv hp
    obtain ⟨q1, q2, q3, q4⟩ := StepC.pop_inv hp2
    cases a <;> simp only [asArgc] at ha <;> cases ha
    rw [p3, p4] at q2
    have hpg : plainGlob e = true := hblk 1 p2 _ _ (by omega) (by omega) q2
    have hvr : VRefsOk s.heap e := roots_stack g.roots (by omega) q2
    exact en.compileEval_np s.heap (deref s.heap e) g.hg (deref_ok g.hg hvr (plainGlob_plainVal hpg)).1
  · -- the continuation to reinstate is a continuation cell of the heap: `ContFits`
    intro c hc
    obtain ⟨p, _, hcell⟩ := callee_cont_cell (h := s.heap) (v := s.acc) hc
    exact np.cont.cell hcell

end facts

end Marwood.Lemmas.Good
