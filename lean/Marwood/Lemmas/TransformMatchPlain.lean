import Marwood.Lemmas.TransformSpec
/-!
# Plain data (the ellipsis nowhere) and proper lists: `pattern_match` is its loop on proper lists and
declines improper ones; the specification on data, symbols and plain lists
-/
namespace Marwood.Transform
open Marwood Marwood.Spec.Match

theorem plain_ne_ell {es : Text} {q : Datum} (h : plain es q = true) : cellEq q (.sym es) = false := by
  cases q <;> simp_all [plain]

theorem plainTail_spec {es : Text} : ∀ {P : Datum}, plain.plainTail es P = true →
    P = Datum.ofList (iterList P) ∧ (∀ p ∈ iterList P, plain es p = true) ∧ endsInNil P = true := by
  intro P
  induction P with
  | pair a d _ ihd =>
    intro h
    simp only [plain.plainTail, Bool.and_eq_true] at h
    obtain ⟨h1, h2, h3⟩ := ihd h.2
    refine ⟨?_, ?_, ?_⟩
    · simp only [iterList, Datum.ofList]; rw [← h1]
    · intro p hp
      simp only [iterList, List.mem_cons] at hp
      rcases hp with rfl | hp
      · exact h.1
      · exact h2 p hp
    · simpa [endsInNil] using h3
  | nil => intro _; simp [iterList, Datum.ofList, endsInNil]
  | _ => intro h; simp [plain.plainTail] at h

theorem endsInNil_ofList : ∀ {E : Datum}, endsInNil E = true → E = Datum.ofList (iterList E) := by
  intro E
  induction E with
  | pair a d _ ihd => intro h; simp only [endsInNil] at h; simp only [iterList, Datum.ofList]; rw [← ihd h]
  | nil => intro _; rfl
  | _ => intro h; simp [endsInNil] at h

theorem iterList_ofList (xs : List Datum) : iterList (Datum.ofList xs) = xs := by
  induction xs with
  | nil => rfl
  | cons x xs ih => simp [Datum.ofList, iterList, ih]

theorem endsInNil_ofList' (xs : List Datum) : endsInNil (Datum.ofList xs) = true := by
  induction xs with
  | nil => rfl
  | cons x xs ih => simpa [Datum.ofList, endsInNil] using ih

theorem headNotEll_plain (s : Setup) (ps : List Datum) (hp : ∀ p ∈ ps, plain s.es p = true) :
    headNotEll s.ctx (Datum.ofList ps) = true := by
  cases ps with
  | nil => rfl
  | cons q qs =>
    simp only [Datum.ofList, headNotEll, s.isEllD_eq, Setup.ell]
    rw [plain_ne_ell (hp q (by simp))]; rfl

theorem peekIs_plain (s : Setup) (ps : List Datum) (hp : ∀ p ∈ ps, plain s.es p = true) :
    peekIs s.ell ps = false := by
  cases ps with
  | nil => rfl
  | cons q qs => simp only [peekIs, Setup.ell]; exact plain_ne_ell (hp q (by simp))

theorem endsInNil_pairOrNil {E : Datum} (h : endsInNil E = true) : (E.isPair || E.isNil) = true := by
  cases E <;> simp_all [endsInNil, Datum.isPair, Datum.isNil]

theorem isList_of_endsInNil {E : Datum} (h : endsInNil E = true) : isList E = E.isPair := by
  cases E <;> simp_all [endsInNil, isList, Datum.isPair]

/-- fuel `f + 2`: the pattern `()` is declined by the first turn of the loop, one unit below the call -/
theorem patternMatch_improper (ell : Datum) (lits : List Datum) (f : Nat) {P E : Datum} (env : Bindings)
    (hP : endsInNil P = true) (hE : endsInNil E = false) :
    patternMatch ell lits (f + 2) P E env = .ok (false, env) := by
  rw [patternMatch]
  cases E with
  | pair e1 er =>
    -- an improper list: against a pair the list-shape test answers, against `()` the loop does
    have hEl : isList (.pair e1 er) = false := hE
    cases P with
    | pair a d =>
      have hPl : isList (.pair a d) = true := hP
      simp [Datum.isPair, hEl, hPl]
    | nil => simp [Datum.isPair, Datum.isNil, iterList, matchLoop]
    | _ => cases hP
  | nil => cases hE
  | _ => rw [if_pos (by rw [endsInNil_pairOrNil hP]; rfl)]

theorem patternMatch_proper (ell : Datum) (lits : List Datum) (f : Nat) {P E : Datum} (env : Bindings)
    (hP : endsInNil P = true) (hE : endsInNil E = true) :
    patternMatch ell lits (f + 1) P E env =
      matchLoop ell lits f (iterList E) (iterList P) .nil false env := by
  unfold patternMatch
  simp only [endsInNil_pairOrNil hE, Bool.not_true, Bool.and_false, Bool.false_eq_true, if_false,
    isList_of_endsInNil hE, isList_of_endsInNil hP]
  cases E.isPair <;> cases P.isPair <;> simp

/-- a pattern datum that is neither a symbol, a pair nor a vector matches by equality -/
def isDatumPat : Datum → Bool
  | .sym _ => false
  | .pair _ _ => false
  | .vec _ => false
  | _ => true

theorem specMatch_datum (c : Ctx) {p : Datum} (e : Datum) (h : isDatumPat p = true) :
    specMatch c p e = if cellEq p e = true then some [] else none := by
  cases p <;> simp [isDatumPat] at h <;> unfold specMatch <;> rfl

theorem specMatch_datum_some {c : Ctx} {p e : Datum} {bs : Binds} (hd : isDatumPat p = true)
    (h : specMatch c p e = some bs) : bs = [] := by
  rw [specMatch_datum c e hd] at h
  split at h <;> cases h
  rfl

theorem specMatch_sym (s : Setup) (x : Text) (e : Datum) (hx : x ≠ s.es) :
    specMatch s.ctx (.sym x) e =
      if s.ctx.isLit x = true then (if e = .sym x then some [] else none)
      else if x = ['_'] then some [] else some [(x, .one e)] := by
  unfold specMatch
  simp [s.isEll_iff, hx, beq_text]

theorem inst_nil (c : Ctx) (esc skip : Bool) (bs : Binds) : inst c esc skip .nil bs = .ok .nil := by
  unfold inst; rfl

theorem isVariableCandidate_sym (s : Setup) (p : Pattern) (x : Text)
    (he : p.ellipsis = s.ell) (hl : p.literals = s.lits) (hx : x ≠ s.es) :
    p.isVariableCandidate (.sym x) = s.ctx.isVar x := by
  unfold Pattern.isVariableCandidate Pattern.isLiteral Pattern.isEllipsis
  rw [he, hl, s.lits_any]
  simp only [isSymbol, Setup.ell, underscore, Ctx.isVar, s.isEll_iff, cellEq_sym_right, beq_text]
  by_cases h : x = ['_'] <;> simp [h, hx]

theorem patVars_ofList_cons (c : Ctx) (it : Datum) (rest : List Datum) :
    patVars c (Datum.ofList (it :: rest)) = patVars c it ++ patVars c (Datum.ofList rest) := by
  simp [Datum.ofList, patVars]

def AllOne (bs : Binds) : Prop := ∀ x t, (x, t) ∈ bs → ∃ d, t = MTree.one d

theorem AllOne_nil : AllOne [] := fun _ _ h => nomatch h

theorem AllOne_append {a b : Binds} (ha : AllOne a) (hb : AllOne b) : AllOne (a ++ b) := by
  intro x t h
  rcases List.mem_append.mp h with h | h
  · exact ha x t h
  · exact hb x t h

theorem plainTail_ofList (es : Text) : ∀ (xs : List Datum), xs.all (plain es) = true →
    plain.plainTail es (Datum.ofList xs) = true := by
  intro xs
  induction xs with
  | nil => intro _; rfl
  | cons x xs ih =>
    intro h
    simp only [List.all_cons, Bool.and_eq_true] at h
    simp [Datum.ofList, plain.plainTail, h.1, ih h.2]

theorem plain_of_iterList {es : Text} {a d : Datum} (hnil : endsInNil (.pair a d) = true)
    (h : ∀ it ∈ iterList (.pair a d), plain es it = true) : plain es (.pair a d) = true := by
  rw [endsInNil_ofList hnil]
  simp only [iterList, List.forall_mem_cons] at h
  simp [iterList, Datum.ofList, plain, h.1, plainTail_ofList es _ (List.all_eq_true.mpr h.2)]

theorem headNotEll_plainTail (s : Setup) {d : Datum} (h : plain.plainTail s.es d = true) :
    headNotEll s.ctx d = true := by
  obtain ⟨heq, hel, _⟩ := plainTail_spec h
  rw [heq]; exact headNotEll_plain s _ hel

theorem specMatch_plain_allOne (s : Setup) : ∀ P : Datum,
    (plain s.es P = true → ∀ E bs, specMatch s.ctx P E = some bs → AllOne bs) ∧
    (plain.plainTail s.es P = true → ∀ E bs, specMatch s.ctx P E = some bs → AllOne bs) := by
  intro P
  induction P with
  | sym x =>
    constructor
    · intro hp E bs h
      have hx : x ≠ s.es := by simpa [plain] using hp
      rw [specMatch_sym s x E hx] at h
      intro y t hm
      split at h
      · split at h <;> cases h; cases hm
      · split at h <;> cases h
        · cases hm
        · simp only [List.mem_singleton, Prod.mk.injEq] at hm; exact ⟨E, hm.2⟩
    · intro h; simp [plain.plainTail] at h
  | pair a d iha ihd =>
    have key : plain s.es a = true → plain.plainTail s.es d = true →
        ∀ E bs, specMatch s.ctx (.pair a d) E = some bs → AllOne bs := by
      intro ha hd E bs h
      obtain ⟨e1, er, b1, b2, rfl, h1, h2, rfl⟩ := specMatch_pair_some (headNotEll_plainTail s hd) h
      exact AllOne_append (iha.1 ha e1 b1 h1) (ihd.2 hd er b2 h2)
    constructor
    · intro hp; simp only [plain, Bool.and_eq_true] at hp; exact key hp.1 hp.2
    · intro hp; simp only [plain.plainTail, Bool.and_eq_true] at hp; exact key hp.1 hp.2
  | nil =>
    have : ∀ E bs, specMatch s.ctx .nil E = some bs → AllOne bs := by
      intro E bs h
      rw [specMatch_nil] at h
      split at h <;> cases h
      exact fun _ _ h => by cases h
    exact ⟨fun _ => this, fun _ => this⟩
  | vec v _ => exact ⟨fun h => by simp [plain] at h, fun h => by simp [plain.plainTail] at h⟩
  | _ =>
    exact ⟨fun _ E bs h => specMatch_datum_some rfl h ▸ AllOne_nil, fun h => Bool.noConfusion h⟩

theorem lookup_none_of_not_mem (x : Text) (bs : Binds) (h : x ∉ bs.map Prod.fst) : bs.lookup x = none := by
  induction bs with
  | nil => rfl
  | cons b bs ih =>
    obtain ⟨y, t⟩ := b
    simp only [List.map_cons, List.mem_cons, not_or] at h
    have hb : (x == y) = false := by simp [beq_text, h.1]
    simp [List.lookup, hb, ih h.2]

end Marwood.Transform
