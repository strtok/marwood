import Marwood.Lemmas.NumIndep
import Marwood.Lemmas.NumScm
import Marwood.Lemmas.NumRnd
/-!
# `abs` and `expt`: the answer is a function of the value of the operand

`Exactly v r`: the answer `r` to a question whose exact result is `v` is exact with value `v` when `v` is
representable, the correctly rounded double otherwise — what C08 asks.  T08.1, T08.2 and T08.4 are read off
it.  It holds of `abs` and `expt`, the two unary operations that can answer inexactly; the binary operators
do not satisfy it (`C08.not_T08_4`): see `Answers` in NumArith.
-/
namespace Marwood.Arith
open Marwood Marwood.NumSpec

/-- a non-zero one is an integer or a ratio of i32 parts, hence ≥ 2⁻³¹ (a step of the proof) -/
theorem exact_val_lower {a : Num} (ha : a.WF = true) (hea : isExact a = true) {x : ℚ}
    (hx : val a = some x) : x = 0 ∨ (2 : ℚ) ^ (-1022 : ℤ) ≤ |x| := by
  have h1 : (2 : ℚ) ^ (-1022 : ℤ) ≤ 1 := by
    calc (2 : ℚ) ^ (-1022 : ℤ) ≤ 2 ^ (0 : ℤ) := Fl.two_zpow_mono (by norm_num)
      _ = 1 := by norm_num
  have hint : ∀ n : Int, (n : ℚ) = 0 ∨ (2 : ℚ) ^ (-1022 : ℤ) ≤ |(n : ℚ)| := by
    intro n
    by_cases hn : n = 0
    · left; rw [hn]; simp
    · right
      have : (1 : ℚ) ≤ |(n : ℚ)| := by
        rw [← Int.cast_abs]; exact_mod_cast Int.one_le_abs hn
      linarith
  cases a with
  | flo f => cases hea
  | fix n => simp only [val, Option.some.injEq] at hx; subst hx; exact hint n
  | big n => simp only [val, Option.some.injEq] at hx; subst hx; exact hint n
  | rat n d =>
    simp only [val, Option.some.injEq] at hx; subst hx
    have hd := wf_rat_pos ha
    have hq : (0 : ℚ) < d := by exact_mod_cast hd
    have hd32 := (inI32_iff d).mp (wf_rat_i32 ha).2
    have hdq : (d : ℚ) ≤ 2147483647 := by exact_mod_cast hd32.2
    by_cases hn : n = 0
    · left; rw [hn]; simp
    · right
      have hn1 : (1 : ℚ) ≤ |(n : ℚ)| := by
        rw [← Int.cast_abs]; exact_mod_cast Int.one_le_abs hn
      have h31 : (2 : ℚ) ^ (-1022 : ℤ) ≤ 1 / 2147483648 := by
        calc (2 : ℚ) ^ (-1022 : ℤ) ≤ 2 ^ (-31 : ℤ) := Fl.two_zpow_mono (by norm_num)
          _ = 1 / 2147483648 := by norm_num
      rw [abs_div, abs_of_pos hq, le_div_iff₀ hq]
      have : (2 : ℚ) ^ (-1022 : ℤ) * d ≤ 1 / 2147483648 * d :=
        mul_le_mul_of_nonneg_right h31 hq.le
      linarith

def Exactly (v : ℚ) (r : Num) : Prop :=
  (representable v = true ∧ isExact r = true ∧ val r = some v) ∨
  (representable v = false ∧ r = .flo (Fl.rnd v))

namespace Exactly
variable {v : ℚ} {r r' : Num}

theorem exact_iff (h : Exactly v r) : isExact r = representable v := by
  rcases h with ⟨h1, h2, _⟩ | ⟨h1, rfl⟩
  · rw [h1, h2]
  · rw [h1]; rfl

theorem of_exact (h : Exactly v r) (he : isExact r = true) : val r = some v := by
  rcases h with ⟨_, _, h3⟩ | ⟨_, rfl⟩
  · exact h3
  · cases he

theorem of_inexact (h : Exactly v r) (he : isExact r = false) :
    representable v = false ∧ r = .flo (Fl.rnd v) := by
  rcases h with ⟨_, h2, _⟩ | h
  · rw [h2] at he; cases he
  · exact h

/-- T08.4 -/
theorem unique (h : Exactly v r) (h' : Exactly v r') : isExact r = isExact r' ∧ val r = val r' := by
  refine ⟨h.exact_iff.trans h'.exact_iff.symm, ?_⟩
  rcases h with ⟨h1, _, h3⟩ | ⟨h1, rfl⟩ <;> rcases h' with ⟨h1', _, h3'⟩ | ⟨h1', rfl⟩
  · rw [h3, h3']
  · rw [h1] at h1'; cases h1'
  · rw [h1] at h1'; cases h1'
  · rfl

/-- T08.2, second conjunct -/
theorem accurate (h : Exactly v r) (he : isExact r = false) (hlo : (2 : ℚ) ^ (-1022 : ℤ) ≤ |v|)
    (hhi : |v| < 2 ^ (1023 : ℤ)) : ∃ w, val r = some w ∧ |w - v| ≤ 2 ^ (-53 : ℤ) * |v| := by
  rw [(h.of_inexact he).2]
  exact Fl.rnd_relerr v hlo hhi

end Exactly

theorem representable_int (k : ℤ) : representable (k : ℚ) = true := by
  simp [representable]

theorem representable_int_pow (n : ℤ) (e : ℕ) : representable ((n : ℚ) ^ e) = true := by
  rw [show ((n : ℚ) ^ e) = ((n ^ e : ℤ) : ℚ) by push_cast; rfl]
  exact representable_int _

theorem pow_exactly (a : Num) (ha : a.WF = true) (e : ℕ) {r : Num} (h : pow a e = some r) :
    isExact a = true ∧ Exactly (qval a ^ e) r := by
  cases a with
  | flo f => cases h
  | fix n => cases h; exact ⟨rfl, .inl ⟨representable_int_pow n e, isExact_powFix n e, val_powFix n e⟩⟩
  | big n => cases h; exact ⟨rfl, .inl ⟨representable_int_pow n e, rfl, by simp [qval]⟩⟩
  | rat n d =>
    refine ⟨rfl, ?_⟩
    obtain ⟨hnum, hden⟩ := wf_rat_pow_num_den ha e
    have hd := wf_rat_pos ha
    simp only [pow] at h
    unfold Exactly representable
    rw [show qval (.rat n d) = (n : ℚ) / d from rfl, hnum, hden]
    split at h
    · rename_i n' d' h1 h2
      cases h
      refine .inl ⟨by simp [chkPow_inR h1, chkPow_inR h2], rfl, ?_⟩
      rw [chkPow_some h1, chkPow_some h2]
      simp only [val_rat]; congr 1; push_cast; rw [div_pow]
    · rename_i hfail
      split at h
      · rename_i hd1
        cases h
        rw [eq_of_beq hd1, one_pow]
        refine .inl ⟨by simp, isExact_powFix n e, ?_⟩
        rw [val_powFix]; simp
      · rename_i hd1
        split at h
        · cases h
          refine .inr ⟨?_, by rw [mkRat_toNat hd]⟩
          -- one of the two powers leaves i32, and the denominator of the power is not 1
          have hover : inI32 (n ^ e) = false ∨ inI32 (d ^ e) = false := by
            cases h1 : chkPow inI32 n e with
            | none => exact Or.inl (chkPow_none h1)
            | some n' =>
              cases h2 : chkPow inI32 d e with
              | none => exact Or.inr (chkPow_none h2)
              | some d' => exact absurd h2 (hfail n' d' h1)
          have hden1 : ((((n : ℚ) / d) ^ e).den == 1) = false := by
            rw [beq_eq_false_iff_ne]
            intro h1
            have h1' : d ^ e = 1 := by rw [← hden, h1]; rfl
            cases e with
            | zero => rcases hover with ho | ho <;> simp [inI32, i32Min, i32Max] at ho
            | succ k =>
              have hd1' : d ≠ 1 := by simpa using hd1
              have := one_lt_pow₀ (by omega : (1 : Int) < d) (by omega : k + 1 ≠ 0)
              omega
          rw [hden1]
          rcases hover with ho | ho <;> simp [ho]
        · cases h

theorem pow_spec (a : Num) (ha : a.WF = true) (e : Nat) {r : Num} (h : pow a e = some r)
    (he : isExact r = true) : ∃ x, val a = some x ∧ val r = some (x ^ e) :=
  have ⟨hea, hr⟩ := pow_exactly a ha e h
  ⟨_, val_qval hea, hr.of_exact he⟩

/-- T08.2, first conjunct (expt) -/
theorem pow_inexact_spec (a : Num) (ha : a.WF = true) (e : Nat) {r : Num} (h : pow a e = some r)
    (he : isExact r = false) : ∃ x, val a = some x ∧ representable (x ^ e) = false :=
  have ⟨hea, hr⟩ := pow_exactly a ha e h
  ⟨_, val_qval hea, (hr.of_inexact he).1⟩

theorem pow_exact_iff (a : Num) (ha : a.WF = true) (e : Nat) {r : Num} {x : Rat}
    (hx : val a = some x) (h : pow a e = some r) : isExact r = representable (x ^ e) := by
  obtain ⟨hea, hr⟩ := pow_exactly a ha e h
  cases (val_qval hea).symm.trans hx
  exact hr.exact_iff

/-- T08.4 (expt) -/
theorem pow_indep (a a' : Num) (ha : a.WF = true) (ha' : a'.WF = true) (hv : val a = val a')
    (e : Nat) {r r' : Num} (h : pow a e = some r) (h' : pow a' e = some r') :
    isExact r = isExact r' ∧ val r = val r' := by
  obtain ⟨hea, hr⟩ := pow_exactly a ha e h
  obtain ⟨hea', hr'⟩ := pow_exactly a' ha' e h'
  rw [val_qval hea, val_qval hea', Option.some.injEq] at hv
  rw [hv] at hr
  exact hr.unique hr'

/-- T08.2, second conjunct (expt) -/
theorem pow_inexact_accurate (a : Num) (ha : a.WF = true) (e : Nat) {r : Num}
    (h : pow a e = some r) (he : isExact r = false) {x : ℚ} (hx : val a = some x)
    (hlo : (2 : ℚ) ^ (-1022 : ℤ) ≤ |x ^ e|) (hhi : |x ^ e| < 2 ^ (1023 : ℤ)) :
    ∃ v, val r = some v ∧ |v - x ^ e| ≤ 2 ^ (-53 : ℤ) * |x ^ e| := by
  obtain ⟨hea, hr⟩ := pow_exactly a ha e h
  cases (val_qval hea).symm.trans hx
  exact hr.accurate he hlo hhi

theorem representable_div {n d : ℤ} (hd : 0 < d) (hcop : n.natAbs.Coprime d.natAbs)
    (hn : inI32 n = true) (hd32 : inI32 d = true) : representable ((n : ℚ) / d) = true := by
  unfold representable
  rw [Rat.num_div_eq_of_coprime hd hcop, Rat.den_div_eq_of_coprime hd hcop, hn, hd32]
  simp

theorem absR_eq_abs (x : ℚ) : absR x = |x| := by
  unfold absR
  split
  · rw [abs_of_neg ‹_›]
  · rw [abs_of_nonneg (not_lt.mp ‹_›)]

theorem absR_nonneg (x : ℚ) : 0 ≤ absR x := by
  rw [absR_eq_abs]; exact abs_nonneg x

/-- inexact only for `-2³¹/d`, `d > 1` -/
theorem abs_exactly (a : Num) (ha : a.WF = true) {r : Num} (h : abs a = some r) :
    isExact a = true ∧ Exactly (absR (qval a)) r := by
  cases a with
  | flo f => cases h
  | fix n =>
    cases h
    refine ⟨rfl, .inl ⟨by rw [show qval (.fix n) = n from rfl, absR_int]; exact representable_int _,
      by split <;> rfl, ?_⟩⟩
    rw [show qval (.fix n) = n from rfl, absR_int]
    split
    · rename_i hmin
      rw [if_pos (by rw [eq_of_beq hmin]; decide)]; rfl
    · rw [← natAbs_eq_ite]; rfl
  | big n =>
    cases h
    rw [show qval (.big n) = n from rfl, absR_int, ← natAbs_eq_ite]
    exact ⟨rfl, .inl ⟨representable_int _, rfl, rfl⟩⟩
  | rat n d =>
    have hd := wf_rat_pos ha
    have hcop : (if n < 0 then -n else n).natAbs.Coprime d.natAbs := by
      rw [← natAbs_eq_ite, Int.natAbs_natCast]; exact wf_rat_coprime ha
    cases h
    refine ⟨rfl, ?_⟩
    rw [show qval (.rat n d) = (n : ℚ) / d from rfl, absR_div n hd]
    cases hc : chk32 (if n < 0 then -n else n) with
    | some m =>
      obtain ⟨rfl, hm⟩ := chk32_some hc
      exact .inl ⟨representable_div hd hcop hm (wf_rat_i32 ha).2, rfl, rfl⟩
    | none =>
      have hn := chk32_abs_none (wf_rat_i32 ha).1 hc
      by_cases hd1 : d = 1
      · subst hd1
        rw [show ((1 : ℤ) : ℚ) = 1 by norm_num, div_one]
        refine .inl ⟨representable_int _, rfl, ?_⟩
        subst hn
        rfl
      · refine .inr ⟨?_, ?_⟩
        · -- `|n/d| = 2³¹/d` in lowest terms, `d > 1`
          unfold representable
          rw [Rat.num_div_eq_of_coprime hd hcop]
          have hden := Rat.den_div_eq_of_coprime hd hcop
          have hden1 : ((((if n < 0 then -n else n : ℤ) : ℚ) / d).den == 1) = false := by
            rw [beq_eq_false_iff_ne]; intro h1; apply hd1; rw [← hden, h1]; rfl
          rw [hden1, hn]
          simp [inI32, i32Min, i32Max]
        · have hxneg : (n : ℚ) / d < 0 := by
            rw [div_lt_iff₀ (by exact_mod_cast hd), zero_mul, hn]; norm_num
          simp only [if_neg (show ¬ (d == 1) = true by simpa using hd1)]
          rw [show Fl.ofRatio n d = Fl.rnd ((n : ℚ) / d) by unfold Fl.ofRatio; rw [mkRat_toNat hd],
            Fl.abs_rnd_neg hxneg, if_pos (by omega), Int.cast_neg, neg_div]

/-- not representable: a proper fraction with i32 parts, at most 2³¹; from below `exact_val_lower` -/
theorem not_representable_range {a : Num} (ha : a.WF = true) (hea : isExact a = true)
    (hr : representable (absR (qval a)) = false) :
    (2 : ℚ) ^ (-1022 : ℤ) ≤ |absR (qval a)| ∧ |absR (qval a)| < 2 ^ (1023 : ℤ) := by
  rw [absR_eq_abs] at hr
  rw [absR_eq_abs, abs_abs]
  constructor
  · rcases exact_val_lower ha hea (val_qval hea) with h0 | h0
    · rw [h0, abs_zero, show (0 : ℚ) = ((0 : ℤ) : ℚ) by norm_num, representable_int] at hr; cases hr
    · exact h0
  · cases a with
    | flo f => cases hea
    | fix n => rw [show qval (.fix n) = n from rfl, ← Int.cast_abs, representable_int] at hr; cases hr
    | big n => rw [show qval (.big n) = n from rfl, ← Int.cast_abs, representable_int] at hr; cases hr
    | rat n d =>
      have hd1 : (1 : ℚ) ≤ d := by exact_mod_cast wf_rat_pos ha
      have hn32 := (inI32_iff n).mp (wf_rat_i32 ha).1
      have hn : |n| ≤ 2147483648 := abs_le.mpr ⟨by omega, by omega⟩
      rw [show qval (.rat n d) = (n : ℚ) / d from rfl, abs_div, abs_of_pos (by linarith : (0 : ℚ) < d)]
      calc |(n : ℚ)| / d ≤ |(n : ℚ)| := div_le_self (abs_nonneg _) hd1
        _ ≤ 2147483648 := by rw [← Int.cast_abs]; exact_mod_cast hn
        _ < 2 ^ (32 : ℤ) := by norm_num
        _ ≤ 2 ^ (1023 : ℤ) := Fl.two_zpow_mono (by norm_num)

theorem abs_spec (a : Num) (ha : a.WF = true) {r : Num} (h : abs a = some r) (he : isExact r = true) :
    ∃ x, val a = some x ∧ val r = some (absR x) :=
  have ⟨hea, hr⟩ := abs_exactly a ha h
  ⟨_, val_qval hea, hr.of_exact he⟩

/-- T08.2, first conjunct (abs) -/
theorem abs_inexact_spec (a : Num) (ha : a.WF = true) {r : Num} (h : abs a = some r)
    (he : isExact r = false) : ∃ x, val a = some x ∧ representable (absR x) = false :=
  have ⟨hea, hr⟩ := abs_exactly a ha h
  ⟨_, val_qval hea, (hr.of_inexact he).1⟩

/-- T08.4 (abs) -/
theorem abs_indep (a a' : Num) (ha : a.WF = true) (ha' : a'.WF = true) (hea : isExact a = true)
    (hea' : isExact a' = true) (hv : val a = val a') {r r' : Num} (h : abs a = some r)
    (h' : abs a' = some r') : isExact r = isExact r' ∧ val r = val r' := by
  have hr := (abs_exactly a ha h).2
  rw [val_qval hea, val_qval hea', Option.some.injEq] at hv
  rw [hv] at hr
  exact hr.unique (abs_exactly a' ha' h').2

/-- T08.2, second conjunct (abs) -/
theorem abs_inexact_accurate (a : Num) (ha : a.WF = true) {r : Num} (h : abs a = some r)
    (he : isExact r = false) :
    ∃ x v, val a = some x ∧ val r = some v ∧ |v - absR x| ≤ 2 ^ (-53 : ℤ) * absR x := by
  obtain ⟨hea, hr⟩ := abs_exactly a ha h
  obtain ⟨hlo, hhi⟩ := not_representable_range ha hea (hr.of_inexact he).1
  obtain ⟨v, hv, herr⟩ := hr.accurate he hlo hhi
  rw [abs_of_nonneg (absR_nonneg _)] at herr
  exact ⟨_, v, val_qval hea, hv, herr⟩

theorem scmExpt_exact_exponent (x : Num) {z : Num} (hz : isExact z = true) :
    scmExpt [x, z] = (if !isInteger z then some (.err "syntax")
      else match toU32 z with
        | none => some (.err "syntax")
        | some k => (pow x k).map .ok) := by
  cases z <;> first | rfl | cases hz

/-- T08.4 for the procedure `(expt x e)`, base and exponent in any representation -/
theorem scmExpt_indep (x x' e e' : Num) (hx : x.WF = true) (hx' : x'.WF = true) (he : e.WF = true)
    (he' : e'.WF = true) (hee : isExact e = true) (hee' : isExact e' = true)
    (hvx : val x = val x') (hve : val e = val e') {o o' : Outcome Num}
    (h : scmExpt [x, e] = some o) (h' : scmExpt [x', e'] = some o') : SameAnswer o o' := by
  rw [scmExpt_exact_exponent x hee] at h
  rw [scmExpt_exact_exponent x' hee'] at h'
  rcases int_or_fraction e he hee with ⟨m, hm, hmv⟩ | ⟨n, d, rfl, hd1⟩
  · have hm' : intVal? e' = some m := intVal_of_val he' hee' (hve ▸ hmv)
    rw [isInteger_of_intVal hm, toU32_of_intVal he hm] at h
    rw [isInteger_of_intVal hm', toU32_of_intVal he' hm'] at h'
    simp only [Bool.not_true, Bool.false_eq_true, if_false] at h h'
    by_cases hk : 0 ≤ m ∧ m ≤ 4294967295
    · rw [if_pos hk] at h h'
      simp only [Option.map_eq_some_iff] at h h'
      obtain ⟨r, hr, rfl⟩ := h
      obtain ⟨r', hr', rfl⟩ := h'
      exact pow_indep x x' hx hx' hvx _ hr hr'
    · rw [if_neg hk] at h h'
      cases h; cases h'; rfl
  · have := proper_fraction_unique he hd1 he' hee' hve
    subst this
    have hni : isInteger (.rat n d) = false := by simp [isInteger, hd1]
    rw [hni] at h h'
    cases h; cases h'; rfl

end Marwood.Arith
