import Marwood.Spec.EvalK
/-!
# Theorems about the CPS specification with first-class continuations (`Spec.EvalK`)

Capture (`call/cc`), throw (applying a continuation value), what a captured continuation remembers (the operand
values computed before the capture), what a throw keeps (the whole current store) and forgets (the current
continuation), fuel monotonicity of the runner: the language-level clauses of C05 (`Proofs/C05.lean`, section
`CpsSpec`). Re-entry any number of times (the continuation table is append-only) is `Lemmas/EvalKTable.lean` and
`Lemmas/EvalKReentry.lean`; the relation of the machine with and without `call/cc` is `Lemmas/EvalKAgreeTop.lean`.
-/
namespace Marwood.Lemmas.EvalK
open Marwood Marwood.Spec.Eval Marwood.Spec.EvalK

theorem runNext_halt (kOn : Bool) (n : Nat) (o : Outcome) (σ : St) (ks : Array Kont) :
    runNext kOn n (.halt o σ ks) = some (o, σ, ks) := by cases n <;> rfl

theorem runNext_stuck (kOn : Bool) (n : Nat) : runNext kOn n .stuck = none := by cases n <;> rfl

theorem runNext_mono (kOn : Bool) : ∀ (n k : Nat) (x : Next) (res : Outcome × St × Array Kont),
    runNext kOn n x = some res → runNext kOn (n + k) x = some res := by
  intro n
  induction n with
  | zero =>
    intro k x res h
    cases x with
    | run s => simp [runNext] at h
    | halt o σ ks => rw [runNext_halt] at h ⊢; exact h
    | stuck => rw [runNext_stuck] at h; cases h
  | succ n ih =>
    intro k x res h
    cases x with
    | run s =>
      rw [Nat.add_right_comm]
      simp only [runNext] at h ⊢
      exact ih k _ res h
    | halt o σ ks => rw [runNext_halt] at h ⊢; exact h
    | stuck => rw [runNext_stuck] at h; cases h

theorem runK_mono (n k : Nat) (s : State) (res : Outcome × St × Array Kont)
    (h : runK n s = some res) : runK (n + k) s = some res := runNext_mono true n k (.run s) res h

/-- a definite outcome does not depend on the fuel it was found with -/
theorem runK_deterministic (n m : Nat) (s : State) (r1 r2 : Outcome × St × Array Kont)
    (h1 : runK n s = some r1) (h2 : runK m s = some r2) : r1 = r2 := by
  have a := runK_mono n m s r1 h1
  have b := runK_mono m n s r2 h2
  rw [Nat.add_comm] at b
  rw [a] at b
  exact Option.some.inj b

theorem runK_succ (n : Nat) (s : State) : runK (n + 1) s = runNext true n (stepK s) := rfl

theorem special_callcc : special callccVal = some .callcc := rfl
theorem special_cont (i : Nat) : special (contVal i) = some (.cont i) := rfl

/-- **capture**: `κ` is appended to the table and `f` is applied to the new continuation value IN THE SAME continuation
    `κ`: from here on the state is that of an ordinary call of `f` with one argument -/
theorem callcc_captures (f : Val) (κ : Kont) (σ : St) (ks : Array Kont) (hf : isProcedure f = true) :
    stepK ⟨.app callccVal [f], κ, σ, ks⟩ = .run ⟨.app f [contVal ks.size], κ, σ, ks.push κ⟩ := by
  simp [stepK, step, appGo, special_callcc, hf, appTo]

theorem captured_is_current (κ : Kont) (ks : Array Kont) : (ks.push κ)[ks.size]? = some κ := by
  simp

theorem callcc_is_ordinary_call (n : Nat) (f : Val) (κ : Kont) (σ : St) (ks : Array Kont)
    (hf : isProcedure f = true) :
    runK (n + 1) ⟨.app callccVal [f], κ, σ, ks⟩ = runK n ⟨.app f [contVal ks.size], κ, σ, ks.push κ⟩ := by
  rw [runK_succ, callcc_captures f κ σ ks hf]; rfl

/-- **throw**: applying the continuation value number `i` to `v` (the last of one or more arguments) from ANY
    current continuation `κ` yields `ret v` to the captured continuation, on the CURRENT store and table -/
theorem throw_discards_context (i : Nat) (κ' : Kont) (args : List Val) (v : Val) (κ : Kont) (σ : St)
    (ks : Array Kont) (hi : ks[i]? = some κ') (hv : args.getLast? = some v) :
    stepK ⟨.app (contVal i) args, κ, σ, ks⟩ = .run ⟨.ret v, κ', σ, ks⟩ := by
  simp [stepK, step, appGo, special_cont, hi, hv, retTo]

theorem throw_result_independent_of_context (n i : Nat) (κ' : Kont) (v : Val) (κ₁ κ₂ : Kont) (σ : St)
    (ks : Array Kont) (hi : ks[i]? = some κ') :
    runK (n + 1) ⟨.app (contVal i) [v], κ₁, σ, ks⟩ = runK (n + 1) ⟨.app (contVal i) [v], κ₂, σ, ks⟩
    ∧ runK (n + 1) ⟨.app (contVal i) [v], κ₁, σ, ks⟩ = runK n ⟨.ret v, κ', σ, ks⟩ := by
  have h1 := throw_discards_context i κ' [v] v κ₁ σ ks hi rfl
  have h2 := throw_discards_context i κ' [v] v κ₂ σ ks hi rfl
  refine ⟨?_, ?_⟩
  · rw [runK_succ, runK_succ, h1, h2]
  · rw [runK_succ, h1]; rfl

/-- **mutations survive a throw**: nothing is rolled back to the time of capture -/
theorem mutations_survive_throw (i : Nat) (args : List Val) (κ : Kont) (σ : St) (ks : Array Kont) (s' : State)
    (h : stepK ⟨.app (contVal i) args, κ, σ, ks⟩ = .run s') : s'.σ = σ ∧ s'.ks = ks := by
  simp only [stepK, step, appGo, special_cont, if_true] at h
  split at h
  · simp [failWith] at h
  · split at h
    · simp only [retTo, Next.run.injEq] at h; subst h; exact ⟨rfl, rfl⟩
    · simp [failWith] at h

/-- no value, an error; several values, the last one (R7RS leaves both unspecified; the implementation's choice) -/
theorem throw_no_value (i : Nat) (κ : Kont) (σ : St) (ks : Array Kont) :
    stepK ⟨.app (contVal i) [], κ, σ, ks⟩ = .halt (.err .syntax) σ ks := by
  simp [stepK, step, appGo, special_cont, failWith]

/-- a normal return of `v` from the receiver of a `call/cc` and an invocation `(k v)` from any context coincide: both
    are `ret v` to the captured continuation -/
theorem receiver_return_equals_invocation (i : Nat) (κ' κ : Kont) (v : Val) (σ : St) (ks : Array Kont)
    (hi : ks[i]? = some κ') :
    stepK ⟨.app (contVal i) [v], κ, σ, ks⟩ = .run ⟨.ret v, κ', σ, ks⟩ :=
  throw_discards_context i κ' [v] v κ σ ks hi rfl

theorem throw_resumes {i : Nat} {κ' κ : Kont} {v : Val} {σ : St} {ks : Array Kont} {s' : State}
    (hi : ks[i]? = some κ') (h2 : stepK ⟨.ret v, κ', σ, ks⟩ = .run s') (n : Nat) :
    runK (n + 2) ⟨.app (contVal i) [v], κ, σ, ks⟩ = runK n s' := by
  rw [runK_succ, throw_discards_context i κ' [v] v κ σ ks hi rfl]
  show runNext true n (stepK _) = _
  rw [h2]; rfl

/-- **operands evaluated before the capture are kept**: a continuation captured while the operand after `done` was being
    evaluated is the operand frame holding `done`; throwing `v` to it goes on with the NEXT operand `e` (two steps),
    `done` is not evaluated again -/
theorem operands_evaluated_before_capture_are_kept (i : Nat) (ρ : Env) (done : List Val) (e : Datum)
    (es : List Datum) (th : ArgsThen) (κ₀ κ : Kont) (v : Val) (σ : St) (ks : Array Kont)
    (hi : ks[i]? = some (.args ρ done (e :: es) th :: κ₀)) :
    runK 2 ⟨.app (contVal i) [v], κ, σ, ks⟩ = runK 0 ⟨.ev e ρ, .args ρ (v :: done) es th :: κ₀, σ, ks⟩
    ∧ ∀ n, runK (n + 2) ⟨.app (contVal i) [v], κ, σ, ks⟩
        = runK n ⟨.ev e ρ, .args ρ (v :: done) es th :: κ₀, σ, ks⟩ := by
  have h2 : stepK ⟨.ret v, .args ρ done (e :: es) th :: κ₀, σ, ks⟩
      = .run ⟨.ev e ρ, .args ρ (v :: done) es th :: κ₀, σ, ks⟩ := by
    simp [stepK, step, retGo, argsGo, evalIn]
  have h := throw_resumes (κ := κ) hi h2
  exact ⟨h 0, h⟩

/-- the last operand: the operator is evaluated next, the operand values being `done` (in order) followed by `v` -/
theorem operands_kept_last (i : Nat) (ρ : Env) (done : List Val) (f : Datum) (κ₀ κ : Kont) (v : Val) (σ : St)
    (ks : Array Kont) (hi : ks[i]? = some (.args ρ done [] (.call f) :: κ₀)) (n : Nat) :
    runK (n + 2) ⟨.app (contVal i) [v], κ, σ, ks⟩
      = runK n ⟨.ev f ρ, .fn (done.reverse ++ [v]) :: κ₀, σ, ks⟩ :=
  throw_resumes hi (by simp [stepK, step, retGo, argsGo, argsDone, evalIn]) n

/-- the two machines differ only when one of the two extra procedure values is applied -/
theorem step_eq_of_not_special (s : State)
    (h : ∀ f args, s.c = .app f args → special f = none) : step true s = step false s := by
  cases s with
  | mk c κ σ ks =>
    cases c with
    | ev e ρ => rfl
    | ret v => rfl
    | app f args =>
      have := h f args rfl
      simp [step, appGo, this]

end Marwood.Lemmas.EvalK
