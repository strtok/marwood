import Marwood.Lemmas.ConcreteAlloc
import Marwood.Lemmas.StackStepEff
/-!
# The modelled heap operations of the concrete machine as sequences of allocator steps

`AllocRel R`: a graded relation on concrete heaps (`R h h' k`: at most `k` allocations) kept by `cput` of a value or an
environment cell, by writing an environment over an environment cell, and by a new symbol table. `put`, `maybe_put`, the
environment write and the environment constructors of CLOSURE / ENTER are sequences of these: an invariant says how it meets
these steps and reads the rest off.
-/
namespace Marwood.Vm.Concrete
open Marwood Marwood.Vm

structure AllocRel (R : CHeap → CHeap → Nat → Prop) : Prop where
  refl : ∀ h, R h h 0
  trans : ∀ {a b c : CHeap} {j k : Nat}, R a b j → R b c k → R a c (j + k)
  mono : ∀ {a b : CHeap} {j k : Nat}, R a b j → j ≤ k → R a b k
  cputVal : ∀ h v, R h (cput h (.val v)).1 1
  cputEnv : ∀ h ss, R h (cput h (.lexEnv ss)).1 1
  envWrite : ∀ {h e ss} ss', h.cells[e]? = some (.lexEnv ss) → R h (cwrite h e (.lexEnv ss')) 0
  symtab : ∀ h (t : List (Text × Nat)), R h { h with symtab := t } 0

namespace AllocRel

variable {R : CHeap → CHeap → Nat → Prop} (A : AllocRel R)
include A

theorem putNew (h : CHeap) (v : VCell) : R h (putNew h v).1 1 := by
  unfold Concrete.putNew
  split
  · split
    · exact A.mono (A.refl h) (Nat.zero_le _)
    · exact A.trans (A.cputVal h v) (A.symtab _ _)
  · exact A.cputVal h v

theorem putV (h : CHeap) (v : VCell) : R h (putV h v).1 1 := by
  unfold Concrete.putV
  split
  · exact A.mono (A.refl h) (Nat.zero_le _)
  · exact A.putNew h v

theorem maybePutV (h : CHeap) (v : VCell) : R h (maybePutV h v).1 1 := by
  unfold Concrete.maybePutV
  split
  · exact A.mono (A.refl h) (Nat.zero_le _)
  · exact A.putNew h v

theorem envPut {h h' : CHeap} {e k : Nat} {v : VCell} (hp : envPut h e k v = some h') : R h h' 0 := by
  obtain ⟨ss, hc, _, rfl⟩ := envPut_inv hp
  exact A.envWrite _ hc

theorem makeClosure {h h' : CHeap} {lam ep bp : Nat} {st : Stack} {c : VCell}
    (hm : makeClosure h lam ep bp st = .ok (h', c)) : R h h' 2 := by
  unfold Concrete.makeClosure at hm
  split at hm
  · cases hm
  · obtain ⟨slots, _, hm⟩ := bind_inv hm
    cases hm
    exact A.trans (A.cputEnv h slots) (A.cputVal _ _)

theorem makeActivation {h h' : CHeap} {lam env bp : Nat} {st : Stack} {e : Nat}
    (hm : makeActivation h lam env bp st = .ok (h', e)) : R h h' 1 := by
  unfold Concrete.makeActivation at hm
  split at hm
  · cases hm
  · split at hm
    · cases hm
    · obtain ⟨slots, _, hm⟩ := bind_inv hm
      cases hm
      exact A.cputEnv h slots

end AllocRel

end Marwood.Vm.Concrete
