import Marwood.Lemmas.CompileCorrectForms
/-!
# T01.3 stage 1 — operand lists and the application of a builtin procedure
-/
namespace Marwood.Lemmas.CompileCorrect
open Marwood Marwood.Vm
open Marwood.Spec.Eval (Val Prim Cell ErrClass Res M evalN evalStep applyStep evalArgs properList quoteVal kwOf insertG
  k_quote k_if_ k_setBang k_define)

variable {H : Type} {ops : HeapOps H} {D : RepData ops}

theorem ArgsRun.codeAfter {s s' : MSt H} {len : Nat} {σ σ' : SSt} {ws : List Val} {vs : List VCell}
    (r : ArgsRun D s len σ σ' ws vs s')
    {base : Nat} {code : List BC} (hc : CodeAt D s.heap σ.store s.ipL base code) :
    CodeAt D s'.heap σ'.store s'.ipL base code := by
  rw [r.ipL]; exact hc.evolve r.ev

theorem argsRes1_succ {fuel : Nat} (ihE : ExprRes1 D fuel) (ihA : ArgsRes1 D fuel) : ArgsRes1 D (fuel + 1) := by
  intro cst base rest cst' code k hfr hcomp n σ es hpl s hc hip hsr hw
  cases hfr with
  | nil =>
    obtain ⟨rfl, rfl, -⟩ := CompileCorrect2.compileArgs_nil_inv2 hcomp
    have : es = [] := by
      simp only [properList] at hpl
      injection hpl with hpl; exact hpl.symm
    subst this
    exact ⟨s, [], ⟨.refl _, rfl, rfl, rfl, rfl, LiveEq.refl _, hw, .nil, hsr, Evolves.refl _ _ _⟩, rfl⟩
  | cons a d hfa hfd =>
    obtain ⟨cst1, code1, code2, k2, hca, hcd, rfl, rfl⟩ := CompileCorrect2.compileArgs_pair_inv2 hcomp
    obtain ⟨es', hpl', rfl⟩ := properList_pair_inv hpl
    subst hip
    rw [evalArgs_cons]
    have o1 := ihE _ _ _ _ _ _ hfa hca n σ s hc.left.left rfl hsr hw
    cases hea : (evalN n).eval a [] σ with
    | timeout => rw [bind_timeout hea]; trivial
    | err c σ' => rw [bind_err hea]; rw [hea] at o1; exact Fails1.mono (fun _ => setTargets_car) o1
    | ok v σ1 =>
      rw [bind_ok hea]; rw [hea] at o1
      obtain ⟨s1, r1⟩ := o1
      have hcP1 : CodeAt D s1.heap σ1.store s1.ipL s1.ipO [BC.op .pushAcc] :=
        (r1.codeAfter hc.left.right).cast r1.ipO.symm
      have hp := step_pushAcc hcP1.1 (hcP1.op 0 rfl)
      have hcD : CodeAt D s1.heap σ1.store s1.ipL (s.ipO + code1.length + 1) code2 :=
        (r1.codeAfter hc.right).cast (by simp only [List.length_append, Nat.add_assoc]; rfl)
      have o3 := ihA _ _ _ _ _ _ hfd hcd n σ1 es' hpl'
        { s1 with stack := s1.stack.push s1.acc, ipO := s1.ipO + 1 } hcD
        (by show s1.ipO + 1 = _; rw [r1.ipO]) r1.sr (push_swf _ _)
      cases hed : evalArgs (evalN n) [] es' σ1 with
      | timeout => rw [bind_timeout hed]; trivial
      | err c σ' =>
        rw [bind_err hed]; rw [hed] at o3
        exact Fails1.prepend (fun _ => setTargets_cdr) (r1.steps.trans (Steps.one hp)) r1.ipL r1.bp r1.ep
          (r1.stack.ext.trans (StackExt.push _ _ r1.swf)) r1.ev o3
      | ok ws' σ' =>
        rw [bind_ok hed]; rw [hed] at o3
        obtain ⟨s3, vs', r3, hk⟩ := o3
        have e3 : Evolves D s.ipL s1.heap σ1.store s3.heap σ'.store := by
          have := r3.ev; rw [show _ = s.ipL from r1.ipL] at this; exact this
        refine ⟨s3, s1.acc :: vs', ⟨r1.steps.trans (.cons hp r3.steps), r3.ipL.trans r1.ipL, ?_,
          r3.bp.trans r1.bp, r3.ep.trans r1.ep, ?_, r3.swf, .cons (r3.ev.vr _ _ r1.acc) r3.vals, r3.sr,
          r1.ev.trans e3⟩, by simp [hk]⟩
        · have h3 := r3.ipO
          have h1 := r1.ipO
          have h2 : s3.ipO = s1.ipO + 1 + code2.length := h3
          simp only [List.length_append, List.length_cons, List.length_nil]
          omega
        · rw [pushAll_cons]
          exact ((r1.stack.push hw r1.swf s1.acc).pushAll (push_swf _ _) (push_swf _ _) vs').trans r3.stack

theorem app_res1 (L : RepLaws D) {fuel : Nat} (ihE : ExprRes1 D fuel) (ihA : ArgsRes1 D fuel)
    {cst cst' : CState} {base : Nat} {tail : Bool} {f rest : Datum} {code : List BC}
    (hh : AppHead f) (hff : Frag f) (hfr : FragList rest)
    (hcomp : compileExpr (fuel + 1) cst c0 base tail (.pair f rest) = .ok (cst', code))
    {n : Nat} {σ : SSt} {s : MSt H} (hc : CodeAt D s.heap σ.store s.ipL base code) (hip : s.ipO = base)
    (hsr : SR D s.heap σ) (hw : SWF s.stack) :
    Out1 D (setTargets (.pair f rest)) s code.length σ (evalStep (evalN n) (.pair f rest) [] σ) := by
  obtain ⟨cst1, code1, k, pcode, hca, hcf, rfl⟩ := CompileCorrect2.compile_app_inv2 hh hcomp
  subst hip
  cases hpl : properList rest with
  | none => rw [evalStep_app_none hh _ hpl]; exact fun _ h => absurd rfl h
  | some es =>
  rw [evalStep_app hh _ hpl]
  have hcA := hc.left.left.left
  have hcP := hc.left.left.right
  have hcF := hc.left.right
  have hcC := hc.right
  have o1 := ihA _ _ _ _ _ _ hfr hca n σ es hpl s hcA rfl hsr hw
  cases hea : evalArgs (evalN n) [] es σ with
  | timeout => rw [bind_timeout hea]; trivial
  | err c σ' => rw [bind_err hea]; rw [hea] at o1; exact Fails1.mono (fun _ => setTargets_cdr) o1
  | ok ws σ1 =>
  rw [bind_ok hea]; rw [hea] at o1
  obtain ⟨s1, vs, r1, hk⟩ := o1
  subst hk
  have hcP1 : CodeAt D s1.heap σ1.store s1.ipL s1.ipO [BC.op .pushImm, BC.argc vs.length] :=
    (r1.codeAfter hcP).cast r1.ipO.symm
  have hp := step_pushImm hcP1.1 (hcP1.op 0 rfl) (hcP1.argcCell 1 rfl) (by intro o h; cases h)
  have hcF2 : CodeAt D s1.heap σ1.store s1.ipL (s.ipO + code1.length + 2) pcode :=
    (r1.codeAfter hcF).cast (by simp only [List.length_append, Nat.add_assoc]; rfl)
  have o3 := ihE _ _ _ _ _ _ hff hcf n σ1
    { s1 with stack := s1.stack.push (.argc vs.length), ipO := s1.ipO + 2 } hcF2
    (by show s1.ipO + 2 = _; rw [r1.ipO]) r1.sr (push_swf _ _)
  have hx1 : StackExt s.stack (s1.stack.push (.argc vs.length)) :=
    ((StackExt.pushAll _ vs hw).trans r1.stack.ext).trans (StackExt.push _ _ r1.swf)
  cases hef : (evalN n).eval f [] σ1 with
  | timeout => rw [bind_timeout hef]; trivial
  | err c σ' =>
    rw [bind_err hef]; rw [hef] at o3
    exact Fails1.prepend (fun _ => setTargets_car) (r1.steps.trans (Steps.one hp)) r1.ipL r1.bp r1.ep hx1 r1.ev o3
  | ok fv σ2 =>
  rw [bind_ok hef]; rw [hef] at o3
  obtain ⟨s3, r3⟩ := o3
  have e3 : Evolves D s.ipL s1.heap σ1.store s3.heap σ2.store := by
    have := r3.ev; rw [show _ = s.ipL from r1.ipL] at this; exact this
  have e13 := r1.ev.trans e3
  have hvals : All2 (D.VR s3.heap σ2.store) vs ws := All2.mono (fun a b x => e3.vr a b x) r1.vals
  have hst : LiveEq ((pushAll s.stack vs).push (.argc vs.length)) s3.stack :=
    (r1.stack.push (pushAll_swf _ _ hw) r1.swf (.argc vs.length)).trans r3.stack
  have hipL : s3.ipL = s.ipL := r3.ipL.trans r1.ipL
  have hipO : s3.ipO = s.ipO + code1.length + 2 + pcode.length := by
    have h3 : s3.ipO = s1.ipO + 2 + pcode.length := r3.ipO
    rw [h3, r1.ipO]
  have hcC3 : CodeAt D s3.heap σ2.store s3.ipL s3.ipO [BC.op (if tail = true then .tcallAcc else .callAcc)] := by
    rw [hipL]
    exact (hcC.evolve e13).cast (by
      rw [hipO]; simp only [List.length_append, Nat.add_assoc]; rfl)
  have hbp : s3.bp = s.bp := r3.bp.trans r1.bp
  have hep : s3.ep = s.ep := r3.ep.trans r1.ep
  have hsteps : Steps ops s s3 := r1.steps.trans (.cons hp r3.steps)
  cases hap : (evalN n).apply fv ws σ2 with
  | timeout => trivial
  | ok w σ' =>
    obtain ⟨id, h', r, hcal, hkind, hres, hvr, hsr', hev'⟩ :=
      L.call n s3.heap σ2 s3.acc fv vs ws w σ' s.ipL r3.sr r3.acc hvals hap
    obtain ⟨st', hstep, hl', hw'⟩ := step_call_builtin hcC3.1 (hcC3.op 0 rfl) hcal hkind hst hw r3.swf hres
    refine ⟨_, ⟨hsteps.trans (Steps.one hstep), hipL, ?_, hbp, hep, hl', hw', hvr, hsr', e13.trans hev'⟩⟩
    show s3.ipO + 1 = _
    simp only [List.length_append, List.length_cons, List.length_nil]; omega
  | err c σ' =>
    intro LE hcs _
    obtain ⟨hsr', hev', hcal⟩ := LE.call_err n s3.heap σ2 s3.acc fv vs ws c σ' s.ipL r3.sr r3.acc hvals hap hcs
    have hfail : ∃ e', step ops s3 = .err e' ∧ machClass e' = specClass c := by
      rcases hcal with ⟨hoth, hcl⟩ | ⟨id, e', hcal, hkind, hres, hcl⟩
      · exact ⟨_, step_call_other hcC3.1 (hcC3.op 0 rfl) hoth, hcl.symm⟩
      · exact ⟨e', step_call_builtin_err hcC3.1 (hcC3.op 0 rfl) hcal hkind hst hw r3.swf hres, hcl⟩
    obtain ⟨e', hf, hcl⟩ := hfail
    exact ⟨s3, e', ⟨hsteps, hf, hcl, hipL, hbp, hep, hx1.trans r3.stack.ext, r3.swf, hsr', e13.trans hev'⟩⟩

end Marwood.Lemmas.CompileCorrect
