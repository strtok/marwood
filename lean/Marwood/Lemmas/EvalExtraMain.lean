import Marwood.Lemmas.EvalExtraLevel
/-!
# Extra-cell invariance: `SimD f J δ` as an instance of the simulation, the fuel induction, the theorem

`SimD f J δ` (states related by `StRelJ f J`, values by `VRel f`) is `SimG` with no excluded global and with
environments and global tables related by look-up (`simD_iff`). One level of evaluation (`simD_evalStep`,
`simDAt_applyStep`) and the fuel induction `recSimD` (`guardN n` is simulated by `evalN n` in every store that has
the native cells at the images of an injective location map and anything else elsewhere) are `simG_evalStep`,
`simGAt_applyStep`, `recSimG` read through that instance; `recSim` is the case of no frame. The converse induction
(guard on the right) is in `EvalConverseMain`.
-/
namespace Marwood.Spec.Eval.Extra
open Marwood Marwood.Spec.Eval Marwood.Spec.Eval.ExtraJ

variable {f : LMap} {J : Junk} {δ : Side} {r r' : Rec} {B : List Text} {ρ ρ' : Env}

/-- environments related by look-up off `B`: no global is excluded -/
def envLookup (f : LMap) : EnvCorr f [] where
  rel := EnvRel f
  look := fun h y hy => h y hy
  cons := fun h x l => EnvRel.cons h x rfl
  sub := fun _ _ hg => nomatch hg
  top := fun _ _ => .none

theorem vRelG_iff {v v' : Val} : VRelG f [] (envLookup f) v v' ↔ VRel f v v' := by
  constructor
  · intro h
    cases h with
    | sym s _ => exact .sym s
    | closure ps rest body ρ ρ' B hρ hb => exact .closure ps rest body ρ ρ' B hρ hb
    | bool b => exact .bool b
    | char c => exact .char c
    | nil => exact .nil
    | int n => exact .int n
    | str s => exact .str s
    | pair l => exact .pair l
    | vec l => exact .vec l
    | promise l => exact .promise l
    | prim p => exact .prim p
    | void => exact .void
    | undef => exact .undef
  · intro h
    cases h with
    | sym s => exact .sym s (fun h => nomatch h)
    | closure ps rest body ρ ρ' B hρ hb => exact .closure ps rest body ρ ρ' B hρ hb
    | bool b => exact .bool b
    | char c => exact .char c
    | nil => exact .nil
    | int n => exact .int n
    | str s => exact .str s
    | pair l => exact .pair l
    | vec l => exact .vec l
    | promise l => exact .promise l
    | prim p => exact .prim p
    | void => exact .void
    | undef => exact .undef

theorem vsRelG_iff {vs vs' : List Val} : VsRelG f [] (envLookup f) vs vs' ↔ VsRel f vs vs' :=
  ⟨fun h => by induction h with
    | nil => exact .nil
    | cons hv _ ih => exact .cons (vRelG_iff.1 hv) ih,
   fun h => by induction h with
    | nil => exact .nil
    | cons hv _ ih => exact .cons (vRelG_iff.2 hv) ih⟩

theorem VsRel.length_eq {xs xs' : List Val} (h : VsRel f xs xs') : xs'.length = xs.length := (vsRelG_iff.2 h).length_eq

theorem VsRel.append {xs xs' ys ys' : List Val} (h1 : VsRel f xs xs') (h2 : VsRel f ys ys') :
    VsRel f (xs ++ ys) (xs' ++ ys') := vsRelG_iff.1 ((vsRelG_iff.2 h1).append (vsRelG_iff.2 h2))

theorem VsRel.reverse {xs xs' : List Val} (h : VsRel f xs xs') : VsRel f xs.reverse xs'.reverse := vsRelG_iff.1 (vsRelG_iff.2 h).reverse

theorem VsRel.replicate (n : Nat) {v v' : Val} (h : VRel f v v') : VsRel f (List.replicate n v) (List.replicate n v') :=
  vsRelG_iff.1 (.replicate n (vRelG_iff.2 h))

theorem VsRel.set {xs xs' : List Val} (h : VsRel f xs xs') (i : Nat) {v v' : Val} (hv : VRel f v v') :
    VsRel f (xs.set i v) (xs'.set i v') := vsRelG_iff.1 ((vsRelG_iff.2 h).set i (vRelG_iff.2 hv))

theorem VsRel.getElem? {xs xs' : List Val} (h : VsRel f xs xs') (i : Nat) :
    match xs[i]?, xs'[i]? with
    | some v, some v' => VRel f v v'
    | none, none => True
    | _, _ => False := by
  have := (vsRelG_iff.2 h).getElem? i
  revert this
  cases xs[i]? <;> cases xs'[i]? <;> intro this <;> first | exact vRelG_iff.1 this | exact this

theorem VsRel.dropLast {xs xs' : List Val} (h : VsRel f xs xs') : VsRel f xs.dropLast xs'.dropLast := vsRelG_iff.1 (vsRelG_iff.2 h).dropLast

theorem VsRel.getLastD {xs xs' : List Val} (h : VsRel f xs xs') :
    VRel f (xs.getLast?.getD .nil) (xs'.getLast?.getD .nil) := vRelG_iff.1 (vsRelG_iff.2 h).getLastD

theorem VsRel.tail {xs xs' : List Val} (h : VsRel f xs xs') : VsRel f xs.tail xs'.tail := vsRelG_iff.1 (vsRelG_iff.2 h).tail

theorem VsRel.headD {xs xs' : List Val} (h : VsRel f xs xs') : VRel f (xs.headD .void) (xs'.headD .void) := vRelG_iff.1 (vsRelG_iff.2 h).headD

theorem VsRel.isEmpty {xs xs' : List Val} (h : VsRel f xs xs') : xs'.isEmpty = xs.isEmpty := (vsRelG_iff.2 h).isEmpty

theorem cellRelG_iff {c c' : Cell} : CellRelG f [] (envLookup f) c c' ↔ CellRel f c c' :=
  ⟨fun h => by cases h with
    | var hv => exact .var (vRelG_iff.1 hv)
    | pair ha hd => exact .pair (vRelG_iff.1 ha) (vRelG_iff.1 hd)
    | vec hx => exact .vec (vsRelG_iff.1 hx)
    | promise b hv => exact .promise b (vRelG_iff.1 hv),
   fun h => by cases h with
    | var hv => exact .var (vRelG_iff.2 hv)
    | pair ha hd => exact .pair (vRelG_iff.2 ha) (vRelG_iff.2 hd)
    | vec hx => exact .vec (vsRelG_iff.2 hx)
    | promise b hv => exact .promise b (vRelG_iff.2 hv)⟩

theorem gRelG_iff {o o' : Option Val} : GRelG f [] (envLookup f) o o' ↔ GRel f o o' :=
  ⟨fun h => by cases h with
    | none => exact .none
    | some hv => exact .some (vRelG_iff.1 hv),
   fun h => by cases h with
    | none => exact .none
    | some hv => exact .some (vRelG_iff.2 hv)⟩

theorem stRelG_iff {st st' : St} : StRelG f [] (envLookup f) (glLookup f [] (envLookup f)) J st st' ↔ StRelJ f J st st' :=
  ⟨fun r => ⟨⟨fun l c h => (r.cells l c h).imp fun _ h => ⟨h.1, cellRelG_iff.1 h.2⟩, r.front, r.size_le, r.out,
      fun y => gRelG_iff.1 (r.globals y (fun h => nomatch h))⟩, r.junk, r.joff⟩,
   fun r => ⟨fun l c h => (r.cells l c h).imp fun _ h => ⟨h.1, cellRelG_iff.2 h.2⟩, r.front, r.size_le, r.out,
      fun y _ => gRelG_iff.2 (r.globals y), r.junk, r.joff⟩⟩

theorem simD_iff {α α' : Type} {δ : Side} {R : α → α' → Prop} {m : M α} {m' : M α'} :
    SimD f J δ R m m' ↔ SimG f [] (envLookup f) (glLookup f [] (envLookup f)) J δ R m m' :=
  ⟨fun h st st' r => (h st st' (stRelG_iff.1 r)).imp (fun _ _ => stRelG_iff.2) (fun _ _ h => h),
   fun h st st' r => (h st st' (stRelG_iff.2 r)).imp (fun _ _ => stRelG_iff.1) (fun _ _ h => h)⟩

theorem recSimD_of {δ : Side} {r r' : Rec} (h : RecSimG f [] (envLookup f) (glLookup f [] (envLookup f)) J δ r r') : RecSimD f J δ r r' :=
  ⟨fun e ρ ρ' B he hc => (simD_iff.2 (h.eval e ρ ρ' B he hc)).mono fun _ _ => vRelG_iff.1,
   fun g g' args args' hg ha => (simD_iff.2 (h.apply g g' args args' (vRelG_iff.2 hg) (vsRelG_iff.2 ha))).mono fun _ _ => vRelG_iff.1⟩

theorem recSimG_of {δ : Side} {r r' : Rec} (h : RecSimD f J δ r r') : RecSimG f [] (envLookup f) (glLookup f [] (envLookup f)) J δ r r' :=
  ⟨fun e ρ ρ' B he hc => (simD_iff.1 (h.eval e ρ ρ' B he hc)).mono fun _ _ => vRelG_iff.2,
   fun g g' args args' hg ha => (simD_iff.1 (h.apply g g' args args' (vRelG_iff.1 hg) (vsRelG_iff.1 ha))).mono fun _ _ => vRelG_iff.2⟩


theorem envRel_nil (B : List Text) : EnvRel f B [] [] := fun _ _ => .none

theorem simD_evalStep (hf : Inj f) (hr : RecSimD f J δ r r') (he : EnvRel f B ρ ρ') (e : Datum) (hc : CleanB B e) :
    SimD f J δ (VRel f) (evalStep r e ρ) (evalStep r' e ρ') :=
  (simD_iff.2 (simG_evalStep hf (recSimG_of hr) he e hc)).mono fun _ _ => vRelG_iff.1

theorem simD_evalExprs (hr : RecSimD f J δ r r') (he : EnvRel f B ρ ρ') (es : List Datum) (h : CleanBs B es) :
    SimD f J δ (VRel f) (evalExprs r ρ es) (evalExprs r' ρ' es) :=
  (simD_iff.2 (simG_evalExprs (recSimG_of hr) he es h)).mono fun _ _ => vRelG_iff.1

theorem simD_evalOr (hr : RecSimD f J δ r r') (he : EnvRel f B ρ ρ') (es : List Datum) (h : CleanBs B es) :
    SimD f J δ (VRel f) (evalOr r ρ es) (evalOr r' ρ' es) :=
  (simD_iff.2 (simG_evalOr (recSimG_of hr) he es h)).mono fun _ _ => vRelG_iff.1

theorem simD_evalCond (hr : RecSimD f J δ r r') (he : EnvRel f B ρ ρ') (cs : List Datum) (h : CleanBs B cs) :
    SimD f J δ (VRel f) (evalCond r ρ cs) (evalCond r' ρ' cs) :=
  (simD_iff.2 (simG_evalCond (recSimG_of hr) he cs h)).mono fun _ _ => vRelG_iff.1

theorem simD_evalCase (hr : RecSimD f J δ r r') (he : EnvRel f B ρ ρ') {key key' : Val} (hk : VRel f key key') (cs : List Datum)
    (h : CleanBs B cs) : SimD f J δ (VRel f) (evalCase r ρ key cs) (evalCase r' ρ' key' cs) :=
  (simD_iff.2 (simG_evalCase (recSimG_of hr) he (vRelG_iff.2 hk) cs h)).mono fun _ _ => vRelG_iff.1

theorem simD_evalTop (hf : Inj f) (hr : RecSimD f J δ r r') (d : Datum) : SimD f J δ (VRel f) (evalTop r d) (evalTop r' d) :=
  (simD_iff.2 (simG_evalTop hf (recSimG_of hr) d (cleanB_nil d))).mono fun _ _ => vRelG_iff.1

theorem simDAt_applyStep (hf : Inj f) (hr : RecSimD f J δ r r') {g g' : Val} (hg : VRel f g g') {args args' : List Val}
    (ha : VsRel f args args') {st st' : St} (rs : StRelJ f J st st') (hc : helperCut g args st.store = false) :
    ResRelD (StRelJ f J) δ (VRel f) (applyStep r g args st) (applyStep r' g' args' st') :=
  (simGAt_applyStep hf (recSimG_of hr) (vRelG_iff.2 hg) (vsRelG_iff.2 ha) (stRelG_iff.2 rs) (.inr hc)).imp
    (fun _ _ => stRelG_iff.1) (fun _ _ => vRelG_iff.1)

theorem valToDatum_rel {st st' : St} (r : StRel f st st') (m : Nat) {v v' : Val} (hv : VRel f v v') :
    valToDatum m st'.store v' = valToDatum m st.store v :=
  valToDatum_relG (stRelG_iff.2 (stRelJ_none.2 r)) m (vRelG_iff.2 hv)

theorem equalVal_rel (hf : Inj f) {st st' : St} (r : StRel f st st') (m : Nat) {a a' b b' : Val} (ha : VRel f a a')
    (hb : VRel f b b') : equalVal m st'.store a' b' = equalVal m st.store a b :=
  equalVal_relG hf (stRelG_iff.2 (stRelJ_none.2 r)) m (vRelG_iff.2 ha) (vRelG_iff.2 hb)

theorem VRel.eqv (hf : Inj f) {a a' b b' : Val} (ha : VRel f a a') (hb : VRel f b b') : eqv a' b' = eqv a b :=
  VRelG.eqv hf (vRelG_iff.2 ha) (vRelG_iff.2 hb)

theorem VRel.eqvDatum {v v' : Val} (h : VRel f v v') (d : Datum) : eqvDatum v' d = eqvDatum v d :=
  (vRelG_iff.2 h).eqvDatum d

theorem VRel.beq_nil {v v' : Val} (h : VRel f v v') : (v' == Val.nil) = (v == Val.nil) := (vRelG_iff.2 h).beq_nil

theorem recSimD (hf : Inj f) (n : Nat) : RecSimD f J .left (guardN n) (evalN n) := recSimD_of (recSimG hf n)

structure RecSim (f : LMap) (r r' : Rec) : Prop where
  eval : ∀ e ρ ρ' B, EnvRel f B ρ ρ' → CleanB B e → Sim f (VRel f) (r.eval e ρ) (r'.eval e ρ')
  apply : ∀ g g' args args', VRel f g g' → VsRel f args args' → Sim f (VRel f) (r.apply g args) (r'.apply g' args')

theorem recSim_iff : RecSim f r r' ↔ RecSimD f (fun _ => none) .left r r' :=
  ⟨fun h => ⟨fun e ρ ρ' B he hc => sim_iff.1 (h.eval e ρ ρ' B he hc),
             fun g g' args args' hg ha => sim_iff.1 (h.apply g g' args args' hg ha)⟩,
   fun h => ⟨fun e ρ ρ' B he hc => sim_iff.2 (h.eval e ρ ρ' B he hc),
             fun g g' args args' hg ha => sim_iff.2 (h.apply g g' args args' hg ha)⟩⟩

/-- the guarded evaluator at fuel `n` is simulated by the evaluator at fuel `n` -/
theorem recSim (hf : Inj f) : ∀ (n : Nat), RecSim f (guardN n) (evalN n) := fun n => recSim_iff.2 (recSimD hf n)

theorem sim_evalStep (hf : Inj f) (hr : RecSim f r r') {B : List Text} {ρ ρ' : Env} (he : EnvRel f B ρ ρ')
    (e : Datum) (hc : CleanB B e) : Sim f (VRel f) (evalStep r e ρ) (evalStep r' e ρ') :=
  sim_iff.2 (simD_evalStep hf (recSim_iff.1 hr) he e hc)

/-- **Extra-cell invariance.** If the native evaluation of `e` (fuel `n`) ends definitely without running a
    store-size-fuelled helper into its bound, then evaluating `e` with the same fuel in an environment that agrees
    with `ρ` under `f` off the names in `B`, none of which occurs in `e`, from a state that holds the native cells at
    their images under `f` (and any other cells elsewhere), ends alike: values the same up to `f`, the same error
    class, the same output log, related globals and stores. -/
theorem extra_cell_invariance (hf : Inj f) (n : Nat) (e : Datum) {B : List Text} {ρ ρ' : Env} (he : EnvRel f B ρ ρ')
    (hc : CleanB B e) {st st' : St} (rs : StRel f st st') :
    ResRel f (VRel f) ((guardN n).eval e ρ st) ((evalN n).eval e ρ' st') :=
  (recSim hf n).eval e ρ ρ' B he hc st st' rs

theorem extra_cell_invariance_apply (hf : Inj f) (n : Nat) {g g' : Val} (hg : VRel f g g') {args args' : List Val}
    (ha : VsRel f args args') {st st' : St} (rs : StRel f st st') :
    ResRel f (VRel f) ((guardN n).apply g args st) ((evalN n).apply g' args' st') :=
  (recSim hf n).apply g g' args args' hg ha st st' rs

/-- … and for a whole top-level form (definitions included): the forms that FOLLOW a derived form in a
    session are evaluated alike after the native form and after its expansion -/
theorem extra_cell_invariance_top (hf : Inj f) (n : Nat) (d : Datum) {st st' : St} (rs : StRel f st st') :
    ResRel f (VRel f) (evalTop (guardN n) d st) (evalTop (evalN n) d st') :=
  sim_iff.2 (simD_evalTop hf (recSimD hf n) d) st st' rs

end Marwood.Spec.Eval.Extra
