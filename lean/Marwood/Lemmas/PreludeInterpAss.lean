import Marwood.Lemmas.PreludeInterp
/-! # `assq`, `assv`, `assoc` are the images of the regenerated definitions -/
namespace Marwood.Store.Prelude
open Marwood Marwood.Store Marwood.Store.Outcome

/-- `(and a b)` as a `cond` test asks for the truth of `a` again when `a` is false -/
theorem ite_else_ite {α : Type} (c : Prop) [Decidable c] (x y z : α) :
    (if c then x else if c then y else z) = if c then x else z := by
  split <;> simp [*]

section
variable {efuel : Nat} {user : String → Option Callee}

theorem interp_ass {name test : String} {tb : Callee} {tst : Store → VCell → VCell → Outcome Bool}
    (hfind : defs.find? (·.name == name) = some (assDef name test)) (hname : name ∉ ["obj", "alist"])
    (htest : test ∉ ["obj", "alist"]) (hprim : defs.find? (·.name == test) = none)
    (hP : prims efuel user test = some tb)
    (htb : ∀ s x y, tb s [x, y] = (do let b ← tst s x y; .ok (s, .bool b))) :
    ∀ (f : Nat) (s : Store) (obj al : VCell),
      interp (prims efuel user) defs f name s [obj, al] = liftV s (ass tst f s obj al)
  | 0, s, obj, al => by rw [interp_zero hfind]; rfl
  | f+1, s, obj, al => by
    obtain ⟨n1, n2⟩ : (name == "obj") = false ∧ (name == "alist") = false := by simpa using hname
    obtain ⟨t1, t2⟩ : (test == "obj") = false ∧ (test == "alist") = false := by simpa using htest
    rw [interp_succ_fixed hfind f s rfl]
    eval_body [n1, n2, t1, t2, hfind, hprim, hP, htb, interp_ass hfind hname htest hprim hP htb f, ass,
      ite_else_ite]

theorem interp_assq : ∀ (f : Nat) (s : Store) (obj al : VCell),
    interp (prims efuel user) defs f "assq" s [obj, al] = liftV s (ass eqTest f s obj al) :=
  interp_ass find_assq (by decide) (by decide) (find_prims _ (by simp)) prims_eq eqvB_lift

theorem interp_assv : ∀ (f : Nat) (s : Store) (obj al : VCell),
    interp (prims efuel user) defs f "assv" s [obj, al] = liftV s (ass eqTest f s obj al) :=
  interp_ass find_assv (by decide) (by decide) (find_prims _ (by simp)) prims_eqv eqvB_lift

theorem interp_assoc : ∀ (f : Nat) (s : Store) (obj al : VCell),
    interp (prims efuel user) defs f "assoc" s [obj, al] = liftV s (ass (equalTest efuel) f s obj al) :=
  interp_ass find_assoc (by decide) (by decide) (find_prims _ (by simp)) prims_equal (equalB_lift efuel)

set_option hygiene false in
local macro "ass_proof" find:ident name:str tname:str ih:ident tst:term : tactic => `(tactic| (
    rw [interp_succ $find]
    have hg1 := global_prim (P := prims efuel user) f (n := "null?") (by simp)
    have hg2 := global_prim (P := prims efuel user) f (n := "cdr") (by simp)
    have hg3 := global_prim (P := prims efuel user) f (n := "car") (by simp)
    have hg4 := global_prim (P := prims efuel user) f (n := $tname) (by simp)
    have hg5 := global_prim (P := prims efuel user) f (n := "pair?") (by simp)
    have hgl : (handlers (prims efuel user) defs f).global $name = some (interp (prims efuel user) defs f $name) := by
      rw [global_eq, $find:ident]; rfl
    simp only [assDef, bindArgs, List.length_cons, List.length_nil, List.zip_cons_cons, List.zip_nil_right,
      if_true, bind_ok, evalE, callNamed, List.lookup, List.find?, hg1, hg2, hg3, hg4, hg5, hgl, prims]
    simp
    rw [ass, liftV]
    cases hg : s.get al with
    | ok c =>
      cases c <;> simp [isNullB, isPairB, nullP, pairP, hg, cdr, cdrV, car, carV, VCell.isNil, liftV, $ih:ident f,
        eqvB, equalB, eqTest, equalTest]
      rename_i a d
      cases hga : s.get (.ptr a) with
      | ok c2 =>
        cases c2
        case pair a2 d2 =>
          simp [VCell.isPair, hg, hga]
          first
            | (cases eqv s obj (.ptr a2) <;> simp
               rename_i b
               cases b <;> simp [hg])
            | (cases equal efuel s obj (.ptr a2) <;> simp
               rename_i b
               cases b <;> simp [hg])
        all_goals (simp [VCell.isPair, hg, hga])
        all_goals (cases ass $tst f s obj (.ptr d) <;> (try simp))
      | err e => simp [hga]
      | panic m => simp [hga]
      | diverge => simp [hga]
    | err e => simp [isNullB, nullP, hg]
    | panic m => simp [isNullB, nullP, hg]
    | diverge => simp [isNullB, nullP, hg]))

end

end Marwood.Store.Prelude
