import Marwood.Lemmas.EnvStatic
import Marwood.Spec.Scope
/-!
# T02.1 on nests: the chain of `IofEnvironment` links ends at the innermost binder,
and the free-symbol analysis threads every referenced name through the levels in between
-/
namespace Marwood.Vm.Env
open Marwood.Scope Marwood.Spec.Scope

/-- the entry a chain ends at belongs to a binder of `x` at that level: its own `Argument` entry
    (fixed or rest parameter), or an `InternalDefinition` entry -/
def BinderEntry (l : Level) (x : Name) (src : Source) : Prop :=
  (∃ n, src = .argument n ∧ argIndex l.args x = some n) ∨ (src = .internal ∧ x ∉ l.args ∧ x ∈ l.internal)

theorem bindingLocation_of_entry (c : LamCtx) (x : Name) (s : Nat) (src : Source)
    (h : entryOf c.envmap x = some (s, src)) : bindingLocation c x = .env s := by
  simp [bindingLocation, slotOf_eq_entryOf, h]

theorem ctxOf_noarg (nest : List Level) (x : Name) (h : slotOf (ctxOf nest).envmap x = none) :
    argIndex (ctxOf nest).args x = none := by
  cases nest with
  | nil => rfl
  | cons l outer => exact newEnvmap_noarg _ _ _ _ x h

/-- The invariant of the nest: a name has a slot in the map of a level iff the level binds it, or lists it as
    free and the enclosing level has a slot for it. -/
theorem hasSlot_cons (l : Level) (outer : List Level) (x : Name) :
    slotOf (ctxOf (l :: outer)).envmap x ≠ none ↔
      x ∈ l.binders ∨ (x ∈ l.free ∧ slotOf (ctxOf outer).envmap x ≠ none) :=
  hasSlot_newEnvmap l.args l.internal l.free (ctxOf outer) (ctxOf_noarg outer) x

theorem unbound_global (nest : List Level) (x : Name) (h : ∀ l ∈ nest, x ∉ l.binders) :
    entryOf (ctxOf nest).envmap x = none ∧ argIndex (ctxOf nest).args x = none := by
  have hs : slotOf (ctxOf nest).envmap x = none := by
    induction nest with
    | nil => rfl
    | cons l outer ih =>
      refine Decidable.byContradiction fun hs => ?_
      rcases (hasSlot_cons l outer x).mp hs with hb | ⟨_, ho⟩
      · exact h l (List.mem_cons_self ..) hb
      · exact ho (ih fun m hm => h m (List.mem_cons_of_mem _ hm))
  exact ⟨entryOf_eq_none.mpr hs, ctxOf_noarg nest x hs⟩

theorem binder_entry (l : Level) (outer : List Level) (x : Name) (h : x ∈ l.binders) :
    ∃ t src, entryOf (ctxOf (l :: outer)).envmap x = some (t, src) ∧ BinderEntry l x src := by
  simp only [Level.binders, List.mem_append] at h
  by_cases ha : x ∈ l.args
  · cases hn : argIndex l.args x with
    | none => exact absurd ha ((argIndex_none_iff _ _).mp hn)
    | some n =>
      exact ⟨n, .argument n, entryOf_newEnvmap_arg _ _ _ _ _ _ hn, Or.inl ⟨n, rfl, hn⟩⟩
  · have hi : x ∈ l.internal := h.resolve_left ha
    obtain ⟨i, hi'⟩ := entryOf_newEnvmap_internal l.args l.internal l.free (ctxOf outer) x ha hi
    exact ⟨i, .internal, hi', Or.inr ⟨rfl, ha, hi⟩⟩

/-- `chain_to_binder` with the innermost entry itself in the conclusion: the next level's `freeEntry` reads it -/
theorem chain_aux (inner : List Level) (l : Level) (outer : List Level) (x : Name)
    (hinner : ∀ m ∈ inner, x ∉ m.binders ∧ x ∈ m.free) (hl : x ∈ l.binders) :
    ∃ s e t src, entryOf (ctxOf (inner ++ l :: outer)).envmap x = some (s, e) ∧
      follow (inner ++ l :: outer) s = some (inner.length, t, src) ∧
      entryOf (ctxOf (l :: outer)).envmap x = some (t, src) ∧ BinderEntry l x src := by
  induction inner with
  | nil =>
    obtain ⟨t, src, he, hb⟩ := binder_entry l outer x hl
    refine ⟨t, src, t, src, he, ?_, he, hb⟩
    have hget := entryOf_getElem _ _ _ _ he
    simp only [List.nil_append, follow, hget, List.length_nil]
    rcases hb with ⟨n, rfl, _⟩ | ⟨rfl, _⟩ <;> rfl
  | cons m inner ih =>
    obtain ⟨hmb, hmf⟩ := hinner m (List.mem_cons_self ..)
    obtain ⟨k, e, t, src, hek, hfol, het, hb⟩ := ih (fun m' hm' => hinner m' (List.mem_cons_of_mem _ hm'))
    simp only [Level.binders, List.mem_append, not_or] at hmb
    have hfe : freeEntry (ctxOf (inner ++ l :: outer)) x = some (x, .iofEnv k) := by
      simp [freeEntry, slotOf_eq_entryOf, hek]
    obtain ⟨s, hs⟩ := (entryOf_newEnvmap_free m.args m.internal m.free (ctxOf (inner ++ l :: outer)) x
      hmb.1 hmb.2).2 _ hmf hfe
    have hs' : entryOf (ctxOf (m :: (inner ++ l :: outer))).envmap x = some (s, .iofEnv k) := hs
    refine ⟨s, .iofEnv k, t, src, hs', ?_, het, hb⟩
    have hget := entryOf_getElem _ _ _ _ hs'
    simp only [List.cons_append, follow, hget, hfol, List.length_cons]
    rfl

/-- T02.1 on levels. `inner`, the levels between the reference and the binder `l`, do not bind `x` and list it as
    free. Then the `IofEnvironment` links from the slot of the reference end, `inner.length` levels up, at `l`'s own
    entry for `x`. -/
theorem chain_to_binder (inner : List Level) (l : Level) (outer : List Level) (x : Name)
    (hinner : ∀ m ∈ inner, x ∉ m.binders ∧ x ∈ m.free) (hl : x ∈ l.binders) :
    ∃ s t src, bindingLocation (ctxOf (inner ++ l :: outer)) x = .env s ∧
      follow (inner ++ l :: outer) s = some (inner.length, t, src) ∧
      entryOf (ctxOf (l :: outer)).envmap x = some (t, src) ∧ BinderEntry l x src := by
  obtain ⟨s, e, t, src, he, hf, ht, hb⟩ := chain_aux inner l outer x hinner hl
  exact ⟨s, t, src, bindingLocation_of_entry _ _ _ _ he, hf, ht, hb⟩

theorem resolveIdx_nest (inner : List Level) (l : Level) (outer : List Level) (x : Name)
    (hinner : ∀ m ∈ inner, x ∉ m.binders) (hl : x ∈ l.binders) :
    resolveIdx x ((inner ++ l :: outer).map Level.binders) = some inner.length := by
  induction inner with
  | nil => simp [resolveIdx, hl]
  | cons m inner ih =>
    have := hinner m (List.mem_cons_self ..)
    have ih' := ih (fun m' hm' => hinner m' (List.mem_cons_of_mem _ hm'))
    simp only [List.cons_append, List.map_cons, resolveIdx, if_neg this, ih', List.length_cons]
    rfl

theorem resolveIdx_none (nest : List Level) (x : Name) (h : ∀ l ∈ nest, x ∉ l.binders) :
    resolveIdx x (nest.map Level.binders) = none := by
  induction nest with
  | nil => rfl
  | cons m nest ih =>
    have := h m (List.mem_cons_self ..)
    simp [resolveIdx, this, ih (fun m' hm' => h m' (List.mem_cons_of_mem _ hm'))]

/-- the symbols `free_symbols` reports for a lambda form before the `HashSet` collapses them -/
def Node.rawFree (c : Node) : List Name :=
  remove (if c.sugar then c.ps ++ c.rest.toList else c.ps) (fvDefs c.ds ++ fvList c.body)

theorem Node.mem_free (c : Node) (x : Name) : x ∈ c.level.free ↔ x ∈ c.rawFree := by
  simp [Node.level, fvLam, Node.rawFree, mem_dedup]

/-- what an expression hands up to the enclosing lambda form: its own references `rs` and the free symbols of the
    lambda forms `ns` directly inside it -/
def Uses (rs : List Name) (ns : List Node) (x : Name) : Prop := x ∈ rs ∨ ∃ c ∈ ns, x ∈ c.rawFree

theorem Uses.append {r1 r2 : List Name} {n1 n2 : List Node} {x : Name} (h : Uses (r1 ++ r2) (n1 ++ n2) x) :
    Uses r1 n1 x ∨ Uses r2 n2 x := by
  rcases h with h | ⟨c, hc, hx⟩
  · exact (List.mem_append.mp h).imp .inl .inl
  · exact (List.mem_append.mp hc).imp (fun h => .inr ⟨c, h, hx⟩) (fun h => .inr ⟨c, h, hx⟩)

mutual
theorem uses_fv (e : Expr) (x : Name) (h : Uses (refs e) (subs e) x) : x ∈ fv e := by
  cases e with
  | fresh => simp [Uses, refs, subs] at h
  | ref s y =>
    simp only [Uses, refs, subs, List.mem_singleton, List.not_mem_nil, false_and, exists_false, or_false] at h
    simp [fv, h]
  | set s y e =>
    simp only [fv, List.mem_cons]
    rcases h with h | h
    · exact (List.mem_cons.mp h).imp_right fun h => .inr (uses_fv e x (.inl h))
    · exact .inr (.inr (uses_fv e x (.inr h)))
  | lam ps r ds body =>
    obtain ⟨c, hc, hx⟩ := h.resolve_left (by simp [refs])
    cases List.mem_singleton.mp hc
    simpa [Node.rawFree, fv] using hx
  | call f args =>
    simp only [fv, List.mem_append]
    exact (Uses.append h).imp (uses_fv f x) (usesList_fv args x)
  | seq es =>
    obtain ⟨c, hc, hx⟩ := h.resolve_left (by simp [refs])
    cases List.mem_singleton.mp hc
    simp only [Node.rawFree, mem_remove, fvDefs, List.nil_append] at hx
    simpa [fv] using hx.1
  | loop n f => exact List.mem_cons_of_mem _ (uses_fv f x h)
  | each l args =>
    simp only [fv]
    rcases Uses.append h with h | h
    · exact List.mem_cons_of_mem _ (List.mem_append_left _ (uses_fv l x h))
    · exact List.mem_cons_of_mem _ (List.mem_append_right _ (List.mem_cons_of_mem _ (usesList_fv args x h)))

theorem usesList_fv (es : Exprs) (x : Name) (h : Uses (refsList es) (subsList es) x) : x ∈ fvList es := by
  cases es with
  | nil => simp [Uses, refsList, subsList] at h
  | cons e es =>
    simp only [fvList, List.mem_append]
    exact (Uses.append h).imp (uses_fv e x) (usesList_fv es x)
end

/-- a definition is the sugared procedure form, which is itself the nested lambda form, or an ordinary value -/
theorem defs_head (y : Name) (sugar : Bool) (e : Expr) (ds : Defs) :
    (∃ ps r ds' body, refsDefs (.cons y sugar e ds) = y :: refsDefs ds ∧
      subsDefs (.cons y sugar e ds) = ⟨true, ps, r, ds', body⟩ :: subsDefs ds ∧
      fvDefs (.cons y sugar e ds) = remove (ps ++ r.toList) (fvDefs ds' ++ fvList body) ++ fvDefs ds) ∨
    (refsDefs (.cons y sugar e ds) = y :: (refs e ++ refsDefs ds) ∧
      subsDefs (.cons y sugar e ds) = subs e ++ subsDefs ds ∧
      fvDefs (.cons y sugar e ds) = fv e ++ fvDefs ds) := by
  cases sugar <;> cases e
  case true.lam ps r ds' body => exact .inl ⟨ps, r, ds', body, rfl, rfl, rfl⟩
  all_goals exact .inr ⟨rfl, rfl, rfl⟩

/-- `find_free_symbols` skips the name a definition defines, so a name that is only defined is in `refsDefs` but not
    in `fvDefs`: hence `∨ x ∈ ds.names`. The second half has no exception; it is what `free_handed_down` needs. -/
theorem usesDefs_fv : (ds : Defs) → (x : Name) →
    (x ∈ refsDefs ds → x ∈ fvDefs ds ∨ x ∈ ds.names) ∧ (∀ c ∈ subsDefs ds, x ∈ c.rawFree → x ∈ fvDefs ds)
  | .nil, x => by simp [refsDefs, subsDefs]
  | .cons y sugar e ds, x => by
    have ih := usesDefs_fv ds x
    rcases defs_head y sugar e ds with ⟨ps, r, ds', body, h1, h2, h3⟩ | ⟨h1, h2, h3⟩
    all_goals
      rw [h1, h2, h3]
      simp only [Defs.names, List.mem_cons, List.mem_append]
      refine ⟨?_, ?_⟩
    · rintro (rfl | h)
      · exact .inr (.inl rfl)
      · exact (ih.1 h).imp .inr .inr
    · rintro c (rfl | hc) hx
      · exact .inl (by simpa [Node.rawFree] using hx)
      · exact .inr (ih.2 c hc hx)
    · rintro (rfl | h | h)
      · exact .inr (.inl rfl)
      · exact .inl (.inl (uses_fv e x (.inl h)))
      · exact (ih.1 h).imp .inr .inr
    · rintro c (hc | hc) hx
      · exact .inl (uses_fv e x (.inr ⟨c, hc, hx⟩))
      · exact .inr (ih.2 c hc hx)

/-- The free symbols of a lambda form directly inside another are free symbols of the outer form, except its
    parameters: each level hands a name it does not bind down to the levels that use it. -/
theorem free_handed_down (n m : Node) (h : n ∈ m.children) (x : Name) (hx : x ∈ n.level.free) :
    x ∈ m.level.free ∨ x ∈ m.level.args := by
  rw [Node.mem_free] at hx
  have hraw : x ∈ fvDefs m.ds ++ fvList m.body := by
    rw [List.mem_append]
    exact (List.mem_append.mp h).imp (fun h => (usesDefs_fv m.ds x).2 n h hx)
      fun h => usesList_fv m.body x (.inr ⟨n, h, hx⟩)
  by_cases hb : x ∈ m.level.args
  · exact Or.inr hb
  · left
    rw [Node.mem_free, Node.rawFree, mem_remove]
    refine ⟨hraw, ?_⟩
    simp only [Node.level, List.mem_append, not_or] at hb
    split
    · simpa [List.mem_append] using hb
    · exact hb.1

theorem refs_free_or_bound (n : Node) (x : Name) (hx : x ∈ n.refs) :
    x ∈ n.level.free ∨ x ∈ n.level.binders := by
  by_cases hb : x ∈ n.level.binders
  · exact Or.inr hb
  · left
    simp only [Level.binders, Node.level, List.mem_append, not_or] at hb
    have hraw : x ∈ fvDefs n.ds ++ fvList n.body := by
      simp only [Node.refs, List.mem_append] at hx
      rw [List.mem_append]
      cases hx with
      | inl h =>
        rcases (usesDefs_fv n.ds x).1 h with h' | h'
        · exact Or.inl h'
        · exact absurd h' hb.2
      | inr h => exact Or.inr (usesList_fv n.body x (.inl h))
    rw [Node.mem_free, Node.rawFree, mem_remove]
    refine ⟨hraw, ?_⟩
    split
    · simpa [List.mem_append] using hb.1
    · exact hb.1.1

theorem IsNest.tail {n : Node} {ns : List Node} (h : IsNest (n :: ns)) : IsNest ns := by
  cases ns with
  | nil => trivial
  | cons m rest => exact h.2

theorem free_through_nest (nodes : List Node) (hn : IsNest nodes) (x : Name)
    (hnb : ∀ m ∈ nodes, x ∉ m.level.binders)
    (hhead : ∀ n ∈ nodes.head?, x ∈ n.level.free) : ∀ m ∈ nodes, x ∈ m.level.free := by
  induction nodes with
  | nil => intro m hm; cases hm
  | cons n rest ih =>
    have hnf : x ∈ n.level.free := hhead n (by simp)
    intro m hm
    cases hm with
    | head => exact hnf
    | tail _ hm =>
      cases rest with
      | nil => cases hm
      | cons r rest' =>
        apply ih hn.tail (fun m' hm' => hnb m' (List.mem_cons_of_mem _ hm')) _ m hm
        intro m' hm'
        simp only [List.head?_cons, Option.mem_def, Option.some.injEq] at hm'
        subst hm'
        rcases free_handed_down n r hn.1 x hnf with h | h
        · exact h
        · exact absurd (by simp [Level.binders, h]) (hnb r (by simp))

end Marwood.Vm.Env
