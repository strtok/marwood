import Marwood.Lemmas.CompileCorrect3ConcreteList
import Marwood.Lemmas.CompileCorrect3ConcreteDemo
import Marwood.Lemmas.CompileCorrect3ErrDemo
import Marwood.Lemmas.CompileCorrect3ConcreteErr
import Marwood.Lemmas.CompileCorrect3RecDemo
/-!
# C01 / T01.3 stage 3 — statements besides the main theorem (namespace `Marwood.Proofs.C01`)

The stage-3 laws on the concrete heap, the error case, and recursion through internal definitions; relations,
fragment and assumed laws: `Proofs/C01.lean`, section "T01.3 STAGE 3".

Blocks: a body may contain runs `F3B.block Bs` of consecutive definitions with `lambda` initialisers
(`F3K.defl`: `(define g (lambda …))`, `F3K.defc`: `(define (g . formals) …)`) whose lambda bodies mention EVERY name of
the block. Sound because CLOSURE stores the locations of the captured variables without reading them, and between
the first and the last definition of a block only `lambda` expressions are evaluated, so no closure of the block is
called before all its names are initialised. More restrictive than necessary: a block may not be interrupted, so
`(define (g) z) (define z 1) (define y (g))` is rejected. Inside a block `Inv3` fails (the closure in the slot of `g₁`
captured the `Undefined` slot of `g₂`); the block is proved as a unit under `BlkInv` (`CompileCorrect3Rec*.lean`).
-/
namespace Marwood.Proofs.C01
open Marwood Marwood.Vm Marwood.Vm.Concrete
open Marwood.Lemmas.CompileCorrect Marwood.Lemmas.CompileCorrect2 Marwood.Lemmas.CompileCorrect3
open Marwood.Spec.Eval (Val Env evalN properList)

/-- `Laws3` for `concreteOps ext` over `CHeap` (real allocator: free list, chunk growth, reuse; symbol interning in
    `put`; CLOSURE/ENTER as run.rs) with the representation `cD3`. Assumed: `hinj` (the field `slot_inj`: named globals
    have distinct slots), `hcall` (the field `call`: the first-order builtins are the parameters `ExtOps`), `hE` (the
    atom encoding represents no re-dispatching builtin). -/
theorem laws3_concrete {ext : ExtOps} {E : AtomEnc} {named : Text → Prop} {slot : Text → Nat} {LM : Nat → Nat}
    {final : List LambdaM} {setG : Text → Prop}
    (hinj : ∀ a b, named a → named b → slot a = slot b → a = b)
    (hE : ∀ p, Redisp p → E.prim p = none)
    (hcall : ∀ n W h (σ : Spec.Eval.St) vf p vs ws w (σ' : Spec.Eval.St),
      Inv3 (Conc.cD3 ext E named slot LM final setG) W h σ →
      (Conc.cD3 ext E named slot LM final setG).VR h σ.store vf (.prim p) →
      All2 (VR3 (Conc.cD3 ext E named slot LM final setG) W h σ.store) vs ws →
      (evalN n).apply (.prim p) ws σ = .ok w σ' →
      ∃ id h' r, (concreteOps ext).callee h vf = .builtin id ∧ (concreteOps ext).builtinKind h id = .generic ∧
        builtinResult (concreteOps ext) h id vs.reverse = .ok (h', r) ∧
        VR3 (Conc.cD3 ext E named slot LM final setG) W h' σ'.store r w ∧
        Inv3 (Conc.cD3 ext E named slot LM final setG) W h' σ' ∧
        Ext3 (Conc.cD3 ext E named slot LM final setG) h σ.store h' σ'.store) :
    Laws3 (Conc.cD3 ext E named slot LM final setG) :=
  Conc.concrete_laws3 hinj hE hcall

/-- `ListLaws` (the `apply` re-dispatch) on the concrete heap, no hypothesis. -/
theorem listLaws3_concrete {ext : ExtOps} {E : AtomEnc} {named : Text → Prop} {slot : Text → Nat} {LM : Nat → Nat}
    {final : List LambdaM} {setG : Text → Prop} : ListLaws (Conc.cD3 ext E named slot LM final setG) :=
  Conc.concrete_listLaws3

/-- Every hypothesis of the main theorem discharged on a `CHeap` (one chunk of 4 cells: two code objects, two free
    cells; VARARG's `put`s and ENTER grow it) for `((lambda (a . r) r) 1 2 3)`, for every `ext`: `acc` ends as `(2 3)`. -/
theorem demo_concrete_stage3_rest_runs (ext : ExtOps) :
    ∃ W' s', Run3 (Conc.c3dR ext) W' Conc.c3StateR 19 Marwood.Lemmas.CompileCorrect3.Toy.demoSt
      Toy.demoStR' (.pair 2) s' :=
  Conc.demo_concrete_rest_runs ext

/-- The same for `((lambda (x) (define y (if x 1 2)) y) #t)`: the slot of `y` is `Undefined` because ENTER copied it
    from the closure environment. -/
theorem demo_concrete_stage3_define_runs (ext : ExtOps) :
    ∃ W' s', Run3 (Conc.c3dD ext) W' Conc.c3StateD 11 Marwood.Lemmas.CompileCorrect3.Toy.demoSt
      Toy.demoStD' (.int 1) s' :=
  Conc.demo_concrete_define_runs ext

/-- T01.3 stage 3, error case. If `Spec.Eval` ends the evaluation of `e ∈ F3` with an error of class `cl ≠ syntax` in
    `σ'` (unbound variable, non-procedure operator, wrong argument count — ENTER or VARARG fails —, failing primitive;
    in a body expression or the initialiser of an internal definition, at any call depth), the machine runs without
    failing to a state `sf` where `run_one` returns an error of the matching class; the heap of `sf` represents `σ'`
    and the live stack of the start (in tail position: of the caller) is intact below the frames of the calls in
    progress. Assumed besides `Laws3`: `ErrLaws3` (a failing first-order primitive is a generic builtin failing with
    the same class; represented non-procedures and heap pairs are `other` for the dispatch). -/
theorem compile_correct_stage3_error_partial {H : Type} {ops : HeapOps H} {D : RepData2 ops} (L : Laws3 D)
    (LE : ErrLaws3 D) (f : Nat) (cst : CState) (c : Ctx) (base : Nat) (tail : Bool) (e : Datum) (cst' : CState)
    (code : List BC) (ρ : Env) (us : Text → Prop) (hf : F3 D.setG f c (bound ρ) us tail e) (hcx : CtxOK c)
    (hcomp : compileExpr f cst c base tail e = .ok (cst', code)) (hpre : cst'.lambdas <+: D.final)
    (n : Nat) (σ : Spec.Eval.St) (cl : Spec.Eval.ErrClass) (σ' : Spec.Eval.St)
    (hev : (evalN n).eval e ρ σ = .err cl σ') (hcs : cl ≠ .syntax) (W : World) (s : Vm.St H) (fr : Frame)
    (hc : CodeAt2 D c.envmap s.heap σ.store s.ipL base code) (hip : s.ipO = base) (hi : Inv3 D W s.heap σ)
    (her : EnvRep3 ops W s.heap c s.ep ρ us) (hw : SWF s.stack) (hfr : tail = true → FrameAt s.stack s.bp fr) :
    ∃ W' sf e', W.le W' ∧ ErrRun3 D W' s (errBase tail s fr) σ σ' cl sf e' :=
  compileExpr_correct3_err L LE f cst c base tail e cst' code ρ us hf hcx hcomp hpre n σ cl σ' hev hcs W s fr hc hip hi
    her hw hfr

/-- The same for the call of a closure, from the state `CALL`/`TCALL` leaves: the arity errors of `bindArgs` and every
    error inside the body. -/
theorem closure_call_stage3_error_partial {H : Type} {ops : HeapOps H} {D : RepData2 ops} (L : Laws3 D)
    (LE : ErrLaws3 D) (n : Nat) : CallErr3 D n :=
  closureCall_correct3_err L LE n

/-- `ErrLaws3` is satisfiable: a theorem on the toy heap -/
theorem errLaws3_toy (final : List LambdaM) : ErrLaws3 (Toy.tD3 final) := Toy.errLaws3_toy final

/-- On the concrete heap the dispatch part of `ErrLaws3` is a theorem; the failing builtins (`call_err`) are `hcall`. -/
theorem errLaws3_concrete {ext : ExtOps} {E : AtomEnc} {named : Text → Prop} {slot : Text → Nat} {LM : Nat → Nat}
    {final : List LambdaM} {setG : Text → Prop}
    (hcall : ∀ n W h (σ : Spec.Eval.St) vf p vs ws c (σ' : Spec.Eval.St),
      Inv3 (Conc.cD3 ext E named slot LM final setG) W h σ →
      (Conc.cD3 ext E named slot LM final setG).VR h σ.store vf (.prim p) →
      All2 (VR3 (Conc.cD3 ext E named slot LM final setG) W h σ.store) vs ws →
      (evalN n).apply (.prim p) ws σ = .err c σ' → c ≠ .syntax →
      ∃ id e', (concreteOps ext).callee h vf = .builtin id ∧ (concreteOps ext).builtinKind h id = .generic ∧
        builtinResult (concreteOps ext) h id vs.reverse = .err e' ∧ machClass e' = specClass c ∧
        Inv3 (Conc.cD3 ext E named slot LM final setG) W h σ' ∧
        Ext3 (Conc.cD3 ext E named slot LM final setG) h σ.store h σ'.store) :
    ErrLaws3 (Conc.cD3 ext E named slot LM final setG) :=
  Conc.concrete_errLaws3 hcall

/-- Non-vacuity of the error case on the toy heap: in `((lambda (x) (define y (x)) y) #t)` calling `#t` fails inside the
    initialiser of `y`; in `demoStE'` the variable of `y` still holds `#<undefined>`. -/
theorem demo_stage3_define_init_fails :
    ∃ W' sf e', ErrRun3 Toy.demoDE W' Toy.demoStateE Toy.demoStateE.stack Marwood.Lemmas.CompileCorrect3.Toy.demoSt
      Toy.demoStE' .notProcedure sf e' ∧
      e' = .invalidProcedure :=
  Toy.demo_define_init_fails

/-- `F3R` is another name for `F3`, used in the statements about blocks. -/
abbrev F3R := @F3
abbrev F3RB := @F3B
abbrev F3RK := @F3K

/-- `Bs`: the names the block defines, in order; the rest of the body follows the last definition (`F3K.done`). -/
theorem stage3_rec_block_intro {G : Text → Prop} {f : Nat} {c : Ctx} {ns us : Text → Prop} {Bs ints : List Text}
    {body : Datum} (hne : Bs ≠ []) (hK : F3RK G f c ns us Bs Bs ints body) : F3RB G f c ns us ints body :=
  F3B.block Bs ints body hne hK

/-- T01.3 stage 3 with recursion through internal definitions: `compile_correct_stage3_partial` read at bodies with
    blocks (self and mutual recursion); `F3` contains them, so this is the main theorem. -/
theorem compile_correct_stage3_rec_partial {H : Type} {ops : HeapOps H} {D : RepData2 ops} (L : Laws3 D)
    (f : Nat) (cst : CState) (c : Ctx) (base : Nat) (tail : Bool) (e : Datum) (cst' : CState) (code : List BC)
    (ρ : Env) (us : Text → Prop) (hf : F3R D.setG f c (bound ρ) us tail e) (hcx : CtxOK c)
    (hcomp : compileExpr f cst c base tail e = .ok (cst', code)) (hpre : cst'.lambdas <+: D.final)
    (n : Nat) (σ : Spec.Eval.St) (w : Val) (σ' : Spec.Eval.St) (hev : (evalN n).eval e ρ σ = .ok w σ')
    (W : World) (s : Vm.St H) (fr : Frame) (hc : CodeAt2 D c.envmap s.heap σ.store s.ipL base code)
    (hip : s.ipO = base) (hi : Inv3 D W s.heap σ) (her : EnvRep3 ops W s.heap c s.ep ρ us) (hw : SWF s.stack)
    (hfr : tail = true → FrameAt s.stack s.bp fr) :
    ∃ W' s', W.le W' ∧ Out3 D W' s code.length σ σ' w tail fr s' :=
  compileExpr_correct3 L f cst c base tail e cst' code ρ us hf hcx hcomp hpre n σ w σ' hev W s fr hc hip hi her hw hfr

/-- A block runs as a unit. From an environment in which the names `Bs` are not readable (`us`), the code of the block
    (per definition: `MOV-IMMEDIATE <lambda> %acc; CLOSURE; MOV %acc <slot>; MOV-IMMEDIATE void %acc`) runs to a state
    that represents the specification state after its definitions, with `Bs` readable; the rest of the body
    continues from there. No premise on the order in which the lambda bodies mention the names. -/
theorem body_stage3_rec_block_partial {H : Type} {ops : HeapOps H} {D : RepData2 ops} (L : Laws3 D) {n : Nat}
    {f : Nat} {cst cst' : CState} {c : Ctx} {base : Nat} {bodyD : Datum} {code : List BC} {ρ : Env}
    {us : Text → Prop} {ints Bs : List Text} {body : List Datum}
    (hne : Bs ≠ []) (hK : F3RK D.setG f c (bound ρ) us Bs Bs ints bodyD) (hcx : CtxOK c)
    (hcomp : compileBody f cst c base bodyD = .ok (cst', code)) (hpre : cst'.lambdas <+: D.final)
    (hpl : properList bodyD = some body) {σ σ' : Spec.Eval.St} {w : Val}
    (hev : Spec.Eval.evalBodyForms (evalN n) ρ true body σ = .ok w σ')
    {W : World} {s : Vm.St H} (hc : CodeAt2 D c.envmap s.heap σ.store s.ipL base code) (hip : s.ipO = base)
    (hi : Inv3 D W s.heap σ) (her : EnvRep3 ops W s.heap c s.ep ρ us) (hw : SWF s.stack) :
    ∃ (s1 : Vm.St H) (σ1 : Spec.Eval.St) (f1 : Nat) (cst1 : CState) (restD : Datum) (rest : List Datum)
      (code1 code2 : List BC) (ints1 : List Text),
      Run3 D W s code1.length σ σ1 .void s1 ∧ EnvRep3 ops W s1.heap c s1.ep ρ (fun z => us z ∧ z ∉ Bs) ∧
      code = code1 ++ code2 ∧ compileBody f1 cst1 c (base + code1.length) restD = .ok (cst', code2) ∧
      F3RB D.setG f1 c (bound ρ) (fun z => us z ∧ z ∉ Bs) ints1 restD ∧ properList restD = some rest ∧
      rest.length < body.length ∧ Spec.Eval.evalBodyForms (evalN n) ρ true rest σ1 = .ok w σ' :=
  block3_ok L hne hK hcx hcomp hpre hpl hev hc hip hi her hw

/-- Non-vacuity, self recursion, on the toy heap:
    `((lambda (n) (define (loop i) (if i (loop #f) 7)) (loop n)) #t)` gives `7` (as marwood). -/
theorem demo_stage3_selfrec_runs :
    ∃ W' s', Run3 Toy.demoDS W' Toy.demoStateS 11 Marwood.Lemmas.CompileCorrect3.Toy.demoSt
      Toy.demoStS' (.int 7) s' ∧
      Toy.tDeref s'.heap s'.acc = .opaque "n7" :=
  Toy.demo_selfrec_acc

/-- Non-vacuity, mutual recursion (the first lambda mentions a later name):
    `((lambda (b) (define ev (lambda (x) (if x (od #f) 1))) (define od (lambda (x) (if x (ev #f) 2))) (ev b)) #t)` gives `2`. -/
theorem demo_stage3_mutrec_runs :
    ∃ W' s', Run3 Toy.demoDM W' Toy.demoStateM 11 Marwood.Lemmas.CompileCorrect3.Toy.demoSt
      Toy.demoStM' (.int 2) s' ∧
      Toy.tDeref s'.heap s'.acc = .opaque "n2" :=
  Toy.demo_mutrec_acc

end Marwood.Proofs.C01
