import Marwood.Lemmas.TransformBasic
/-!
# Fuel bounds for the matcher (`pattern_match` terminates on every input)

Every iteration of the matcher's `loop` consumes one item of the expression, and a nested call works
on one item, so the fuel needed is bounded by a potential of the *expression alone*: no assumption
on the pattern, the ellipsis or the literals. The same induction counts the bindings.
-/
namespace Marwood.Transform
open Marwood Marwood.Transform.Term

mutual
/-- cost of a nested `pattern_match` on item `e`: one unit for the call, then its loop; on `()` the
    loop runs once over no item, any other atom is declined by the call itself -/
def pot : Datum → Nat
  | .pair a d => 1 + (pot a + 1 + lp d)
  | .nil => 2
  | _ => 1
/-- cost of the loop over the items of `e`: one unit per item plus its nested call, one for the end; an
    atom is its own only item (`iterList`): `pot x + 1 + 1 = 3` -/
def lp : Datum → Nat
  | .pair a d => pot a + 1 + lp d
  | .nil => 1
  | _ => 3
end

def potL : List Datum → Nat
  | [] => 1
  | x :: xs => pot x + 1 + potL xs

theorem lp_eq (e : Datum) : lp e = potL (iterList e) := by
  induction e with
  | pair a d _ ihd => simp [lp, iterList, potL, ihd]
  | nil => simp [lp, iterList, potL]
  | _ => simp [lp, iterList, potL, pot]

theorem pot_lp_le (e : Datum) : pot e ≤ 3 * dsize e ∧ lp e ≤ 3 * dsize e := by
  induction e with
  | pair a d iha ihd => simp only [pot, lp, dsize]; omega
  | _ => simp only [pot, lp, dsize]; omega

theorem pot_pos (e : Datum) : 1 ≤ pot e := by
  cases e <;> simp only [pot] <;> omega

theorem lp_lt_pot {e : Datum} (h : (e.isPair || e.isNil) = true) : 1 + lp e ≤ pot e := by
  cases e <;> first | (simp only [pot, lp]; omega) | cases h

theorem match_total_aux (ell : Datum) (lits : List Datum) : ∀ f : Nat,
    (∀ p e env, p.isPair = true → pot e ≤ f →
      OkWithin (patternMatch ell lits f p e env) (env.length + dsize e)) ∧
    (∀ p e env, 1 + lp e ≤ f → OkWithin (patternMatch ell lits f p e env) (env.length + dsize e)) ∧
    (∀ es ps cur inEll env, potL es ≤ f →
      OkWithin (matchLoop ell lits f es ps cur inEll env) (env.length + wsum es)) := by
  intro f
  induction f with
  | zero =>
    refine ⟨?_, ?_, ?_⟩
    · intro p e env _ h; have := pot_pos e; omega
    · intro p e env h; omega
    · intro es ps cur inEll env h; cases es <;> simp [potL] at h
  | succ f ih =>
    obtain ⟨ih1, _, ih3⟩ := ih
    have hloop : ∀ p e env, 1 + lp e ≤ f + 1 →
        OkWithin (patternMatch ell lits (f+1) p e env) (env.length + dsize e) := by
      intro p e env h
      unfold patternMatch
      split
      · exact okWithin_ok (Nat.le_add_right _ _)
      · split
        · exact okWithin_ok (Nat.le_add_right _ _)
        · exact (ih3 _ _ _ _ env (by rw [← lp_eq]; omega)).mono
            (Nat.add_le_add_left (wsum_iterList_le e) _)
    refine ⟨?_, hloop, ?_⟩
    · intro p e env hp h
      by_cases he : (e.isPair || e.isNil) = true
      · exact hloop _ _ _ (by have := lp_lt_pot he; omega)
      · unfold patternMatch
        rw [if_pos (by simp [hp, he])]
        exact okWithin_ok (Nat.le_add_right _ _)
    · intro es ps cur inEll env h
      cases es with
      | nil =>
        rw [matchLoop_nil]
        split
        · exact okWithin_ok (Nat.le_add_right _ _)
        · split <;> exact okWithin_ok (Nat.le_add_right _ _)
      | cons e es =>
        simp only [potL] at h
        rw [matchLoop_cons]
        split
        · exact okWithin_ok (Nat.le_add_right _ _)
        · exact elemStep_total (dsize_pos e) (fun hp => ih1 _ e env hp (by omega))
            (fun env1 => ih3 _ _ _ _ env1 (by omega))

theorem patternMatch_total (ell : Datum) (lits : List Datum) (p e : Datum) (env : Bindings)
    (f : Nat) (h : 3 * dsize e + 1 ≤ f) :
    ∃ b env', patternMatch ell lits f p e env = .ok (b, env') ∧ env'.length ≤ env.length + dsize e :=
  (match_total_aux ell lits f).2.1 p e env (by have := (pot_lp_le e).2; omega)

/-- `pattern_match` terminates on every input: fuel `3·|expr| + 1` is enough, whatever the pattern -/
theorem patternMatch_terminates (ell : Datum) (lits : List Datum) (p e : Datum) (env : Bindings)
    (f : Nat) (h : 3 * dsize e + 1 ≤ f) : ∃ r, patternMatch ell lits f p e env = .ok r := by
  obtain ⟨b, env', hr, _⟩ := patternMatch_total ell lits p e env f h
  exact ⟨_, hr⟩

end Marwood.Transform
