import Marwood.Lemmas.EvalExtraLevel
/-!
# T01.1 — the frame property as an instance of the simulation; sessions

The simulation of `EvalExtra*` at the identity map, with `x` the one excluded global and the SAME environment in
corresponding closures: related values are equal and clean of `x` (`vRelG_frame`), related states are `Rel x`
(`stRelG_frame`). Related stores have the same size, so no guard is needed (`noCut_frame`) and the simulation holds
with either side allowed to time out: time-outs coincide and the outcome relation is `RRes` (`resp_of_simG`). The guard of
`guardN` looks at the store only, which related states share, so `guardN` respects the frame like `evalN` (`recOK_guardN`).
-/
namespace Marwood.Spec.Eval
open Marwood Marwood.Spec.Eval.Extra Marwood.Spec.Eval.ExtraJ

variable {x : Text} {r : Rec}


theorem lookRel_id (o : Option Loc) : LookRel (fun l => l) o o := by
  cases o with
  | none => exact .none
  | some l => exact .some l

/-- corresponding closures have the same environment, and their code does not mention `x` -/
def frameEnv (x : Text) : EnvCorr (fun l => l) [x] where
  rel := fun B ρ ρ' => x ∈ B ∧ ρ' = ρ
  look := fun h y _ => h.2 ▸ lookRel_id _
  cons := fun h _ _ => ⟨h.1, by rw [h.2]⟩
  sub := fun h g hg => by simp only [List.mem_singleton] at hg; exact hg ▸ h.1
  top := ⟨by simp, rfl⟩

abbrev StRelF (x : Text) : St → St → Prop :=
  StRelG (fun l => l) [x] (frameEnv x) (glLookup (fun l => l) [x] (frameEnv x)) (fun _ => none)
abbrev SimF (x : Text) {α α' : Type} (δ : Side) (R : α → α' → Prop) (m : M α) (m' : M α') : Prop :=
  SimG (fun l => l) [x] (frameEnv x) (glLookup (fun l => l) [x] (frameEnv x)) (fun _ => none) δ R m m'
abbrev RecSimF (x : Text) (δ : Side) (r r' : Rec) : Prop :=
  RecSimG (fun l => l) [x] (frameEnv x) (glLookup (fun l => l) [x] (frameEnv x)) (fun _ => none) δ r r'

theorem vRelG_frame {v v' : Val} : VRelG (fun l => l) [x] (frameEnv x) v v' ↔ v' = v ∧ CleanVal x v := by
  constructor
  · intro h
    cases h with
    | sym s hs => exact ⟨rfl, fun e => hs (by simp [e])⟩
    | closure ps rest body ρ ρ' B hρ hb => exact ⟨by rw [hρ.2], fun d hd => hb d hd x hρ.1⟩
    | _ => exact ⟨rfl, trivial⟩
  · rintro ⟨rfl, hc⟩
    cases v' with
    | sym s => exact .sym s (by simp only [List.mem_singleton]; exact hc)
    | closure ps rest body ρ =>
      exact .closure ps rest body ρ ρ [x] ⟨by simp, rfl⟩ (fun d hd b hb => by
        simp only [List.mem_singleton] at hb; subst hb; exact hc d hd)
    | pair l => exact .pair l
    | vec l => exact .vec l
    | promise l => exact .promise l
    | bool b => exact .bool b
    | char c => exact .char c
    | nil => exact .nil
    | int n => exact .int n
    | str s => exact .str s
    | prim p => exact .prim p
    | void => exact .void
    | undef => exact .undef

theorem vsRelG_frame {vs vs' : List Val} : VsRelG (fun l => l) [x] (frameEnv x) vs vs' ↔ vs' = vs ∧ CleanVals x vs := by
  constructor
  · intro h
    induction h with
    | nil => exact ⟨rfl, by simp⟩
    | cons hv _ ih =>
      obtain ⟨rfl, hc⟩ := vRelG_frame.1 hv
      obtain ⟨rfl, hcs⟩ := ih
      exact ⟨rfl, by simp [hc, hcs]⟩
  · rintro ⟨rfl, hc⟩
    induction vs' with
    | nil => exact .nil
    | cons v vs ih =>
      simp only [cleanVals_cons] at hc
      exact .cons (vRelG_frame.2 ⟨rfl, hc.1⟩) (ih hc.2)

theorem cellRelG_frame {c c' : Cell} : CellRelG (fun l => l) [x] (frameEnv x) c c' ↔ c' = c ∧ CleanCell x c := by
  constructor
  · intro h
    cases h with
    | var hv => obtain ⟨rfl, h⟩ := vRelG_frame.1 hv; exact ⟨rfl, h⟩
    | pair ha hd => obtain ⟨rfl, h1⟩ := vRelG_frame.1 ha; obtain ⟨rfl, h2⟩ := vRelG_frame.1 hd; exact ⟨rfl, h1, h2⟩
    | vec hx => obtain ⟨rfl, h⟩ := vsRelG_frame.1 hx; exact ⟨rfl, h⟩
    | promise b hv => obtain ⟨rfl, h⟩ := vRelG_frame.1 hv; exact ⟨rfl, h⟩
  · rintro ⟨rfl, hc⟩
    cases c' with
    | var v => exact .var (vRelG_frame.2 ⟨rfl, hc⟩)
    | pair a d => exact .pair (vRelG_frame.2 ⟨rfl, hc.1⟩) (vRelG_frame.2 ⟨rfl, hc.2⟩)
    | vec xs => exact .vec (vsRelG_frame.2 ⟨rfl, hc⟩)
    | promise b v => exact .promise b (vRelG_frame.2 ⟨rfl, hc⟩)

theorem stRelG_frame {st st' : St} : StRelF x st st' ↔ Rel x st st' := by
  constructor
  · intro r
    have hsz : st'.store.size = st.store.size := by simpa using (r.front 0).symm
    have hst : st'.store = st.store := by
      apply Array.ext_getElem?
      intro l
      cases h : st.store[l]? with
      | none => exact r.cell_none h
      | some c =>
        obtain ⟨c', h1, h2⟩ := r.cells l c h
        rw [h1, (cellRelG_frame.1 h2).1]
    refine ⟨⟨fun l c h => ?_, fun y v hy h => ?_⟩, hst, r.out, fun y hy => ?_⟩
    · obtain ⟨c', _, h2⟩ := r.cells l c h
      exact (cellRelG_frame.1 h2).2
    · have := r.globals y (by simpa using hy)
      rw [h] at this
      revert this
      generalize st'.globals.lookup y = o'
      intro h
      cases h with
      | some hv => exact (vRelG_frame.1 hv).2
    · have := r.globals y (by simpa using hy)
      revert this
      generalize st.globals.lookup y = o
      generalize st'.globals.lookup y = o'
      intro h
      cases h with
      | none => rfl
      | some hv => rw [(vRelG_frame.1 hv).1]
  · rintro ⟨inv, sim⟩
    refine ⟨fun l c h => ⟨c, (by rw [sim.store]; exact h), cellRelG_frame.2 ⟨rfl, inv.store l c h⟩⟩, fun i => (by rw [sim.store]),
      (by rw [sim.store]; exact Nat.le_refl _), sim.out, fun y hy => ?_, fun _ _ h => (nomatch h), fun _ => rfl⟩
    have hy' : y ≠ x := by simpa using hy
    rw [sim.globals y hy']
    cases h : st.globals.lookup y with
    | none => exact .none
    | some v => exact .some (vRelG_frame.2 ⟨rfl, inv.globals y v hy' h⟩)

theorem rRes_of_resRelD {α : Type} {R : α → α → Prop} {P : α → Prop} (hR : ∀ a a', R a a' → a' = a ∧ P a) {res res' : Res α}
    (hl : ResRelD (StRelF x) .left R res res')
    (hr : ResRelD (StRelF x) .right R res res') :
    RRes x P res res' := by
  cases res <;> cases res'
  · obtain ⟨rfl, pa⟩ := hR _ _ hl.1
    exact ⟨rfl, pa, stRelG_frame.1 hl.2⟩
  · exact hl.elim
  · cases hl
  · exact hl.elim
  · exact ⟨hl.1, stRelG_frame.1 hl.2⟩
  · cases hl
  · cases hr
  · cases hr
  · trivial

theorem resp_of_simG {α : Type} {m : M α} {R : α → α → Prop} {P : α → Prop} (hR : ∀ a a', R a a' → a' = a ∧ P a)
    (h : ∀ δ, SimF x δ R m m) : Resp x m P :=
  fun st st' rel => rRes_of_resRelD hR (h .left st st' (stRelG_frame.2 rel)) (h .right st st' (stRelG_frame.2 rel))

theorem noCut_frame {st st' : St} (r : StRelF x st st') (c : Bool) : NoCut st st' c :=
  .inl (by simpa using (r.front 0).symm)

theorem recSimG_frame_evalN (δ : Side) : ∀ (n : Nat), RecSimF x δ (evalN n) (evalN n)
  | 0 => ⟨fun _ _ _ _ _ _ => SimG.timeout, fun _ _ _ _ _ _ => SimG.timeout⟩
  | n+1 => ⟨fun e ρ ρ' B he hc => simG_evalStep inj_id (recSimG_frame_evalN δ n) he e hc,
            fun g g' args args' hg ha st st' rs =>
              simGAt_applyStep inj_id (recSimG_frame_evalN δ n) hg ha rs (noCut_frame rs _)⟩

theorem recSimG_frame_guardN (δ : Side) : ∀ (n : Nat), RecSimF x δ (guardN n) (guardN n)
  | 0 => ⟨fun _ _ _ _ _ _ => SimG.timeout, fun _ _ _ _ _ _ => SimG.timeout⟩
  | n+1 => ⟨fun e ρ ρ' B he hc => simG_evalStep inj_id (recSimG_frame_guardN δ n) he e hc,
            fun g g' args args' hg ha st st' rs => by
              show ResRelD _ δ _ (guardApply (guardN n) g args st) (guardApply (guardN n) g' args' st')
              obtain ⟨rfl, _⟩ := vRelG_frame.1 hg
              obtain ⟨rfl, _⟩ := vsRelG_frame.1 ha
              unfold guardApply
              rw [(stRelG_frame.1 rs).2.store]
              split
              · trivial
              · exact simGAt_applyStep inj_id (recSimG_frame_guardN δ n) hg ha rs (noCut_frame rs _)⟩

theorem recOK_of_recSimG {r : Rec} (h : ∀ δ, RecSimF x δ r r) : RecOK x r :=
  ⟨fun e ρ he => resp_of_simG (fun _ _ h => vRelG_frame.1 h)
      (fun δ => (h δ).eval e ρ ρ [x] ⟨by simp, rfl⟩ (fun b hb => by simp only [List.mem_singleton] at hb; exact hb ▸ he)),
   fun g args hg ha => resp_of_simG (fun _ _ h => vRelG_frame.1 h)
      (fun δ => (h δ).apply g g args args (vRelG_frame.2 ⟨rfl, hg⟩) (vsRelG_frame.2 ⟨rfl, ha⟩))⟩


/-- the evaluator with any amount of fuel respects the frame -/
theorem recOK_evalN : ∀ (n : Nat), RecOK x (evalN n) := fun n => recOK_of_recSimG (fun δ => recSimG_frame_evalN δ n)

/-- the guarded evaluator with any amount of fuel respects the frame -/
theorem recOK_guardN : ∀ (n : Nat), RecOK x (guardN n) := fun n => recOK_of_recSimG (fun δ => recSimG_frame_guardN δ n)

theorem rel_rebind {st : St} (hi : Inv x st) (w : Val) :
    Rel x st { st with globals := insertG x w st.globals } := by
  refine ⟨hi, rfl, rfl, fun y hy => ?_⟩
  simp only [lookup_insertG]
  rw [if_neg (by simpa using hy)]

/-- T01.1 for `guardN`, `x` rebound: same kind of outcome, same value, store and output log, globals that
    agree off `x`. `expansion_leg` (`EvalPromiseMain.lean`) uses it with `x = force`: the native side binds `force` to the
    primitive, the expansion's side to the prelude's procedure. -/
theorem frame_guardN (n : Nat) (e : Datum) (ρ : Env) (he : Clean x e) {st : St} (hi : Inv x st) (w : Val) :
    RRes x (CleanVal x) ((guardN n).eval e ρ st) ((guardN n).eval e ρ { st with globals := insertG x w st.globals }) :=
  (recOK_guardN n).eval e ρ he st _ (rel_rebind hi w)

theorem resp_evalTop (n : Nat) (d : Datum) (hd : Clean x d) : Resp x (evalTop (evalN n) d) (CleanVal x) :=
  resp_of_simG (fun _ _ h => vRelG_frame.1 h) (fun δ => simG_evalTop inj_id (recSimG_frame_evalN δ n) d
    (fun b hb => by simp only [List.mem_singleton] at hb; exact hb ▸ hd))

theorem runForm_rel (n : Nat) (d : Datum) (hd : Clean x d) (st st' : St) (hrel : Rel x st st') :
    (runForm n d st).1 = (runForm n d st').1 ∧
    (match (runForm n d st).2, (runForm n d st').2 with
     | some s, some s' => Rel x s s'
     | none, none => True
     | _, _ => False) := by
  have h := resp_evalTop (x := x) n d hd st st' hrel
  unfold runForm
  cases h1 : evalTop (evalN n) d st <;> cases h2 : evalTop (evalN n) d st' <;>
    simp only [h1, h2, RRes] at h
  · obtain ⟨rfl, _, hr⟩ := h
    exact ⟨by simp [hr.2.store], hr⟩
  · obtain ⟨rfl, hr⟩ := h
    exact ⟨rfl, hr⟩
  · exact ⟨rfl, trivial⟩

/-- a session of forms that do not mention `x`, run from related states: same results, and the
    final states (if the fuel sufficed) are related again -/
theorem runSession_rel (n : Nat) : ∀ (h : List Datum), CleanData x h → ∀ (st st' : St), Rel x st st' →
    (runSession n h st).1 = (runSession n h st').1 ∧
    (match (runSession n h st).2, (runSession n h st').2 with
     | some s, some s' => Rel x s s'
     | none, none => True
     | _, _ => False)
  | [], _, st, st', hrel => by simp [runSession, hrel]
  | d :: ds, hc, st, st', hrel => by
    simp only [cleanData_cons] at hc
    have h1 := runForm_rel n d hc.1 st st' hrel
    simp only [runSession]
    cases ha : runForm n d st with
    | mk ra sa =>
      cases hb : runForm n d st' with
      | mk rb sb =>
        simp only [ha, hb] at h1
        obtain ⟨hres, hst⟩ := h1
        subst hres
        cases sa with
        | none =>
          cases sb with
          | none => simp
          | some _ => simp at hst
        | some s =>
          cases sb with
          | none => simp at hst
          | some s' =>
            simp only at hst
            have h2 := runSession_rel n ds hc.2 s s' hst
            simp only
            exact ⟨by rw [h2.1], h2.2⟩

theorem inv_initSt : Inv x initSt := by
  refine ⟨?_, ?_⟩
  · intro i c h; simp [initSt] at h
  · intro y v _ h
    obtain ⟨p, rfl⟩ := lookup_initGlobals y v h
    trivial

end Marwood.Spec.Eval
