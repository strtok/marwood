import Marwood.Vm.ListExt
import Marwood.Lemmas.ListExtCode
import Marwood.Lemmas.ProcInvMain
/-!
# `ExtProc (listExtWith eqTag)`: the real builtins create no entry code and return nothing that leads to it

Proved for any class of code objects (`Lead.listExtWith_eval`: the real builtins create no code object at all), one case per
kind of table entry (Lemmas/ListExtOps.lean); `ExtProc` is the instance for entry code, `ExtTaint` (Lemmas/ListExtEnv.lean)
the one for capturing lambdas. The premise `LF h` of `ExtProc.eval` is needed: `HP` says nothing about the free list, so take
a heap whose free list starts with the address of a lambda cell that a closure cell refers to; `cons` allocates that address
(`Heap::alloc` pops the free list), overwrites the lambda, and the closure cell of the new heap violates `HP`
(`ProcWitness.cons_breaks_hp`, `extProc_needs_lf`).
-/
namespace Marwood.Lemmas.Lead
open Marwood.Lemmas.Good Marwood Marwood.Vm Marwood.Vm.Verify Marwood.Vm.Concrete Marwood.Vm.Concrete.ListExt
  Marwood.Lemmas.Sim

variable {I : Spec} (eqTag : String → String → Bool) {h h' : CHeap} {v : VCell}

theorem evalCar_lead (first : Bool) (hp : HP I h) {x : VCell} (hx : plainGlob x = true ∧ ne I h x = true)
    (he : evalCar first h x = .ok (h', v)) : HP I h' ∧ EShr I h h' ∧ valX I h' v = true := by
  obtain ⟨a, d, hd, e, rfl⟩ := evalCar_ok he
  have hv := deref_valX hp hx.1 hx.2
  rw [hd] at hv
  have hv : (!bad I h a && !bad I h d) = true := hv
  simp only [Bool.and_eq_true] at hv
  rw [e]
  refine ⟨hp, .refl _, ?_⟩
  cases first
  · exact hv.2
  · exact hv.1

theorem evalCons_lead (hp : HP I h) (lf : LF h) {d a : VCell} (hd : plainGlob d = true ∧ ne I h d = true)
    (ha : plainGlob a = true ∧ ne I h a = true) (he : evalCons h d a = .ok (h', v)) :
    HP I h' ∧ EShr I h h' ∧ valX I h' v = true := by
  obtain ⟨dp, ap, e1, e2, rfl, rfl⟩ := evalCons_ok he
  obtain ⟨r1, n1⟩ := putV_res lf hp (valX_of_value hd.1 hd.2)
  obtain ⟨r2, n2⟩ := putV_res r1.lf r1.hp (r1.valX (valX_of_value ha.1 ha.2))
  rw [e1] at n1
  rw [e2] at n2
  have ed : bad I (putV (putV h d).1 a).1 dp = false := by rw [r2.ls.bad]; exact ptr_bad n1
  exact ⟨r2.hp, (r1.trans r2).eshr, valX_pair (ptr_bad n2) ed⟩

theorem evalSetPair_lead (first : Bool) (hp : HP I h) (lf : LF h) {obj pair : VCell}
    (ho : plainGlob obj = true ∧ ne I h obj = true) (he : evalSetPair first h obj pair = .ok (h', v)) :
    HP I h' ∧ EShr I h h' ∧ valX I h' v = true := by
  obtain ⟨a, d, o, p, rfl, hcell, e1, rfl, rfl⟩ := evalSetPair_ok he
  obtain ⟨r1, n1⟩ := putV_res lf hp (valX_of_value ho.1 ho.2)
  rw [e1] at n1
  have hold : ∀ lam, (putV h obj).1.cells[p]? ≠ some (CCell.lambda lam) := by
    intro lam hl
    have := r1.ls p
    rw [lambdaAt_iff.mpr hl] at this
    have := lambdaAt_iff.mp this.symm
    rw [hcell] at this; cases this
  have hpair : (!bad I h a && !bad I h d) = true := hp.cells p _ hcell
  simp only [Bool.and_eq_true] at hpair
  have ea : bad I (putV h obj).1 a = false := by rw [r1.ls.bad]; simpa using hpair.1
  have ed : bad I (putV h obj).1 d = false := by rw [r1.ls.bad]; simpa using hpair.2
  have eo : bad I (putV h obj).1 o = false := ptr_bad n1
  have r2 : OpRes I (putV h obj).1 (cwrite (putV h obj).1 p (.val (if first then .pair o d else .pair a o))) := by
    refine cwrite_res r1.lf r1.hp hold (fun lam hh => by cases hh) ?_
    cases first
    · exact valX_pair ea eo
    · exact valX_pair eo ed
  exact ⟨r2.hp, (r1.trans r2).eshr, rfl⟩

theorem listExtWith_eval {id : Nat} {args : List VCell} (hp : HP I h) (lf : LF h)
    (hargs : ∀ a ∈ args, plainGlob a = true ∧ ne I h a = true)
    (he : (listExtWith eqTag).builtinEval h id args = .ok (h', v)) : HP I h' ∧ EShr I h h' ∧ valX I h' v = true := by
  obtain ⟨q, hq⟩ := builtinEval_ok he
  rcases evalPrim_ok hq with ⟨b, rfl, rfl⟩ | ⟨first, x, rfl, hc⟩ | ⟨d, a, rfl, hc⟩ | ⟨first, obj, pair, rfl, hc⟩
  · exact ⟨hp, .refl _, rfl⟩
  · exact evalCar_lead first hp (hargs x (.head _)) hc
  · exact evalCons_lead hp lf (hargs d (.head _)) (hargs a (.tail _ (.head _))) hc
  · exact evalSetPair_lead first hp lf (hargs obj (.head _)) hc

end Marwood.Lemmas.Lead

namespace Marwood.Lemmas.Good
open Marwood Marwood.Vm Marwood.Vm.Verify Marwood.Vm.Concrete Marwood.Vm.Concrete.ListExt Marwood.Lemmas.Sim
open Marwood.Heap (GcState)
open StepC

section
variable (eqTag : String → String → Bool)

theorem listExtWith_proc : ExtProc (listExtWith eqTag) where
  eval _ _ _ _ _ hp lf hargs he :=
    have ⟨a, b, c⟩ := Lead.listExtWith_eval eqTag (hp_iff.mp hp) lf hargs he
    ⟨hp_iff.mpr a, b, c⟩
  compile := fun _ _ _ _ _ _ _ h => (by cases h)
  vpush := fun _ _ _ _ _ _ _ _ h => (by cases h)

theorem listExt_proc : ExtProc listExt := listExtWith_proc _

end

namespace ProcWitness

/-- cell 0: a procedure-code lambda that is (wrongly) on the free list; cell 1: a closure over it -/
def hBad : CHeap :=
  { chunk := 4
    cells := #[.lambda { bc := [.opcode .enter, .opcode .ret], args := [], envmap := [] }, .val (.closure 0 2),
      .lexEnv [], .val .undefined]
    gc := #[.allocated, .allocated, .allocated, .free], free := [0, 3], symtab := [], globSyms := [], globals := #[] }

theorem hBad_hp : HP hBad := heapPB_sound (by decide +kernel)

theorem hBad_not_lf : ¬ LF hBad := fun lf => lf 0 _ rfl (by decide)

/-- `(cons #t #t)` on that heap succeeds and destroys `HP` -/
theorem cons_breaks_hp : ∃ h' v, listExt.builtinEval hBad idCons [.bool true, .bool true] = .ok (h', v) ∧ ¬ HP h' := by
  refine ⟨_, _, rfl, ?_⟩
  intro hp
  have := hp.cells 1 (.val (.closure 0 2)) (by decide +kernel)
  revert this
  decide +kernel

end ProcWitness

/-- the law stated from `HP h` alone is false of the real `cons`, and of every parameter set whose `cons` allocates -/
theorem extProc_needs_lf :
    ¬ ∀ (h : CHeap) (id : Nat) (args : List VCell) (h' : CHeap) (v : VCell), HP h →
      (∀ a ∈ args, plainGlob a = true ∧ neB h a = true) →
      listExt.builtinEval h id args = .ok (h', v) → HP h' ∧ EShr h h' ∧ valPB h' v = true := by
  intro law
  obtain ⟨h', v, he, hn⟩ := ProcWitness.cons_breaks_hp
  refine hn (law _ _ _ _ _ ProcWitness.hBad_hp ?_ he).1
  intro a ha
  simp only [List.mem_cons, List.not_mem_nil, or_false, or_self] at ha
  subst ha
  exact ⟨rfl, rfl⟩

end Marwood.Lemmas.Good
