import Marwood.Lemmas.LeadMain
import Marwood.Lemmas.EnvTaintDefs
/-!
# "No value leads to a capturing lambda" is the instance `Spec.cap` of Lemmas/LeadDefs.lean

`hp_iff`, `pinv_iff`, `tinv_iff` (the per-cell checks agree by `rfl`); `ExtTaint ext` gives `Lead.ExtLead .cap ext`.
-/
namespace Marwood.Lemmas.Taint
open Marwood.Lemmas.Good Marwood Marwood.Vm Marwood.Vm.Verify Marwood.Vm.Concrete Marwood.Lemmas.Sim
open Marwood.Heap (GcState)

def EKeep (h h' : CHeap) : Prop := ∀ v, VRefsOk h v → neE h v = true → neE h' v = true

/-- **Assumed of the parameters of the concrete model** (`ExtOps`): on a heap satisfying `HP` and `LF` and arguments that are
    values not pointing to a capturing lambda, the generic builtins and VPUSH's push create no capturing lambda (`EShr`) and
    return a heap satisfying `HP` and a result `maybe_put` may store (`valEB`). `eval`'s compiler DOES create capturing
    lambdas (the children of the lambda it returns), at fresh addresses (`EKeep`); they are referred to by
    `MOVIMM _ %acc; CLOSURE` sites only, and the lambda returned (top-level, empty environment map) is not capturing. -/
structure ExtTaint (ext : ExtOps) : Prop where
  eval : ∀ (h : CHeap) (id : Nat) (args : List VCell) (h' : CHeap) (v : VCell), HP h → LF h →
    (∀ a ∈ args, plainGlob a = true ∧ neE h a = true) →
    ext.builtinEval h id args = .ok (h', v) → HP h' ∧ EShr h h' ∧ valEB h' v = true
  compile : ∀ (h : CHeap) (d : VCell) (h' : CHeap) (v : VCell), HP h → LF h → valEB h d = true →
    ext.compileEval h d = .ok (h', v) → HP h' ∧ EKeep h h' ∧ valEB h' v = true
  vpush : ∀ (h : CHeap) (vec a : VCell) (h' : CHeap), HP h → LF h → plainGlob a = true →
    neE h a = true → ext.vectorPush h vec a = .ok h' → HP h' ∧ EShr h h'

theorem hp_iff {h : CHeap} : HP h ↔ Lead.HP .cap h :=
  ⟨fun p => ⟨p.cells, p.globals, p.sym⟩, fun p => ⟨p.cells, p.globals, p.sym⟩⟩

theorem pinv_iff {s : St CHeap} : PInv s ↔ Lead.PInv .cap s :=
  ⟨fun p => ⟨hp_iff.mp p.hp, p.acc, p.stk⟩, fun p => ⟨hp_iff.mpr p.hp, p.acc, p.stk⟩⟩

theorem tinv_iff {s : St CHeap} : TInv s ↔ Lead.TInv .cap s :=
  ⟨fun p => ⟨hp_iff.mp p.hp, p.acc.imp_right fun h => ⟨rfl, h⟩, p.stk⟩,
   fun p => ⟨hp_iff.mpr p.hp, p.acc.imp_right And.right, p.stk⟩⟩

theorem ExtTaint.lead {ext : ExtOps} (ep : ExtTaint ext) : Lead.ExtLead .cap ext where
  eval h id args h' v hp lf ha he :=
    have ⟨a, b, c⟩ := ep.eval h id args h' v (hp_iff.mpr hp) lf ha he
    ⟨hp_iff.mp a, b, c⟩
  compile h d h' v hp lf hd he :=
    have ⟨a, b, c⟩ := ep.compile h d h' v (hp_iff.mpr hp) lf hd he
    ⟨hp_iff.mp a, b, c⟩
  vpush h vec a h' hp lf ha hn he :=
    have ⟨a, b⟩ := ep.vpush h vec a h' (hp_iff.mpr hp) lf ha hn he
    ⟨hp_iff.mp a, b⟩

theorem TInv.acc_cases {s : St CHeap} (p : TInv s) : neE s.heap s.acc = true ∨ atSiteB s = true := p.acc

theorem stateTB_sound {s : St CHeap} (hb : stateTB s = true) : TInv s := by
  unfold stateTB heapTB at hb
  simp only [Bool.and_eq_true, Bool.or_eq_true] at hb
  exact ⟨hp_iff.mpr (Lead.heap_sound hb.1.1.1.1 hb.1.1.1.2 hb.1.1.2), hb.1.2, Lead.stack_sound (I := .cap) hb.2⟩

theorem stateT0B_sound {s : St CHeap} (hb : stateT0B s = true) : PInv s := by
  unfold stateT0B heapTB at hb
  simp only [Bool.and_eq_true] at hb
  exact ⟨hp_iff.mpr (Lead.heap_sound hb.1.1.1.1 hb.1.1.1.2 hb.1.1.2), hb.1.2, Lead.stack_sound (I := .cap) hb.2⟩

theorem capAt_false_iff {h : CHeap} {p : Nat} :
    capAt h p = false ↔ ∀ lam, lambdaAt h p = some lam → lam.envmap = [] := by
  unfold capAt
  cases hl : lambdaAt h p with
  | none => simp
  | some lam =>
    simp only [Bool.not_eq_false', List.isEmpty_iff, Option.some.injEq]
    constructor
    · intro e lam' hh; subst hh; exact e
    · intro hh; exact hh lam rfl

theorem HP.of_eq {h h' : CHeap} (hp : HP h) (hc : h'.cells = h.cells) (hg : h'.globals = h.globals)
    (hs : h'.symtab = h.symtab) : HP h' :=
  hp_iff.mpr ((hp_iff.mp hp).of_eq hc hg hs)

theorem SM.mono {h : CHeap} {st : Stack} {B B' : Nat} (x : SM h st B) (hb : B' ≤ B) : SM h st B' :=
  Lead.SM.mono (I := .cap) x hb

theorem EShr.trans {a b c : CHeap} (x : EShr a b) (y : EShr b c) : EShr a c := Lead.EShr.trans (I := .cap) x y

theorem EShr.ekeep {h h' : CHeap} (es : EShr h h') : EKeep h h' := Lead.EShr.ekeep (I := .cap) es

theorem putV_ptr_cap {h : CHeap} {v : VCell} {a : Nat} (he : (putV h v).2 = .ptr a)
    (hn : neE (putV h v).1 (putV h v).2 = true) : capAt (putV h v).1 a = false :=
  Lead.ptr_bad (I := .cap) (he ▸ hn)

end Marwood.Lemmas.Taint
