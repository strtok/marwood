import Marwood.Lemmas.TransformEllSound
/-!
# The decidable pattern classes of T17.1 with ellipsis, and what they imply

On the items of a pattern body (the pattern without its keyword):
* `bodyTrailing`  — `p1 … pn x <ell>`, `x` a symbol, `pi` ellipsis-free;
* `bodyVarTail`   — `p1 … pn x <ell> q1 … qm`;
* `bodySubTail`   — `p1 … pn P <ell> q1 … qm`, `P` any ellipsis-free sub-pattern;
each implies `nn` (ellipsis depth ≤ 1); the first never meets the `zeroRepTail` situation.
-/
namespace Marwood.Transform
open Marwood Marwood.Spec.Match

def bodySubTail (es : Text) : List Datum → Bool
  | x :: e :: rest =>
    if e = .sym es then plain es x && rest.all (plain es) else plain es x && bodySubTail es (e :: rest)
  | _ => false

def bodyVarTail (es : Text) : List Datum → Bool
  | x :: e :: rest =>
    if e = .sym es then isSymbol x && plain es x && rest.all (plain es)
    else plain es x && bodyVarTail es (e :: rest)
  | _ => false

def bodyTrailing (es : Text) : List Datum → Bool
  | x :: e :: rest =>
    if e = .sym es then isSymbol x && plain es x && rest.isEmpty
    else plain es x && bodyTrailing es (e :: rest)
  | _ => false

theorem bodyTrailing_varTail (es : Text) : ∀ items, bodyTrailing es items = true → bodyVarTail es items = true := by
  intro items
  induction items with
  | nil => intro h; simp [bodyTrailing] at h
  | cons x items ih =>
    intro h
    cases items with
    | nil => simp [bodyTrailing] at h
    | cons e rest =>
      simp only [bodyTrailing] at h
      simp only [bodyVarTail]
      split
      · rename_i he
        simp only [he, if_true, Bool.and_eq_true] at h
        have : rest = [] := by simpa using h.2
        simp [h.1.1, h.1.2, this]
      · rename_i he
        simp only [he, if_false, Bool.and_eq_true] at h
        simp [h.1, ih h.2]

theorem bodyVarTail_subTail (es : Text) : ∀ items, bodyVarTail es items = true → bodySubTail es items = true := by
  intro items
  induction items with
  | nil => intro h; simp [bodyVarTail] at h
  | cons x items ih =>
    intro h
    cases items with
    | nil => simp [bodyVarTail] at h
    | cons e rest =>
      simp only [bodyVarTail] at h
      simp only [bodySubTail]
      split
      · rename_i he
        simp only [he, if_true, Bool.and_eq_true] at h
        simp [h.1.2, h.2]
      · rename_i he
        simp only [he, if_false, Bool.and_eq_true] at h
        simp [h.1, ih h.2]

theorem nn_of_plain (es : Text) : ∀ a : Datum,
    (plain es a = true → nn es a = true) ∧ (plain.plainTail es a = true → nn es a = true) := by
  intro a
  induction a with
  | pair h tl ihh iht =>
    have key : plain es h = true → plain.plainTail es tl = true → nn es (.pair h tl) = true := by
      intro hh htl
      cases tl with
      | pair e r =>
        have he : e ≠ .sym es := by
          simp only [plain.plainTail, Bool.and_eq_true] at htl
          intro he
          have := plain_ne_ell htl.1
          simp [he] at this
        simp only [nn, he, if_false, Bool.and_eq_true]
        exact ⟨ihh.1 hh, iht.2 htl⟩
      | nil => simp [nn, ihh.1 hh]
      | _ => simp [plain.plainTail] at htl
    constructor
    · intro hp; simp only [plain, Bool.and_eq_true] at hp; exact key hp.1 hp.2
    · intro hp; simp only [plain.plainTail, Bool.and_eq_true] at hp; exact key hp.1 hp.2
  | vec v _ => exact ⟨fun h => by simp [plain] at h, fun h => by simp [plain.plainTail] at h⟩
  | _ => exact ⟨fun _ => by simp [nn], fun _ => by simp [nn]⟩

theorem nn_of_subTail (es : Text) : ∀ items, bodySubTail es items = true → nn es (Datum.ofList items) = true := by
  intro items
  induction items with
  | nil => intro h; simp [bodySubTail] at h
  | cons x items ih =>
    intro h
    cases items with
    | nil => simp [bodySubTail] at h
    | cons e rest =>
      simp only [bodySubTail] at h
      simp only [Datum.ofList, nn]
      split
      · rename_i he
        simp only [he, if_true, Bool.and_eq_true] at h
        simp only [Bool.and_eq_true]
        exact ⟨h.1, (nn_of_plain es _).2 (plainTail_ofList es rest h.2)⟩
      · rename_i he
        simp only [he, if_false, Bool.and_eq_true] at h
        simp only [Bool.and_eq_true]
        exact ⟨(nn_of_plain es x).1 h.1, ih h.2⟩

theorem gp_plain (s : Setup) : ∀ (P : Datum),
    (plain s.es P = true → ∀ E, gp s.ctx P E = false) ∧
    (plain.plainTail s.es P = true → ∀ E, gp s.ctx P E = false) := by
  intro P
  induction P with
  | pair h tl ihh iht =>
    have key : plain s.es h = true → plain.plainTail s.es tl = true → ∀ E, gp s.ctx (.pair h tl) E = false := by
      intro hh htl E
      rw [gp_cons _ _ _ _ (headNotEll_plainTail s htl)]
      cases E with
      | pair e1 er => simp [ihh.1 hh e1, iht.2 htl er]
      | _ => rfl
    constructor
    · intro hp; simp only [plain, Bool.and_eq_true] at hp; exact key hp.1 hp.2
    · intro hp; simp only [plain.plainTail, Bool.and_eq_true] at hp; exact key hp.1 hp.2
  | _ => exact ⟨fun _ E => by simp [gp, zeroRepTail], fun _ E => by simp [gp, zeroRepTail]⟩

theorem gp_trailing (s : Setup) : ∀ items, bodyTrailing s.es items = true →
    ∀ E, gp s.ctx (Datum.ofList items) E = false := by
  intro items
  induction items with
  | nil => intro h; simp [bodyTrailing] at h
  | cons x items ih =>
    intro h E
    cases items with
    | nil => simp [bodyTrailing] at h
    | cons e rest =>
      simp only [bodyTrailing] at h
      by_cases he : e = .sym s.es
      · simp only [he, if_true, Bool.and_eq_true] at h
        have hr : rest = [] := by simpa using h.2
        subst he hr
        have hq : s.ctx.isEllD (.sym s.es) = true := isEllD_ell s
        simp only [Datum.ofList]
        rw [gp_ell _ _ _ _ _ hq]
        have hx := (gp_plain s x).1 h.1.2
        simp [spineLen, hx, gp_nil]
      · simp only [he, if_false, Bool.and_eq_true] at h
        have hhd : headNotEll s.ctx (Datum.ofList (e :: rest)) = true := by
          simp [Datum.ofList, headNotEll, s.isEllD_eq, Setup.ell, he]
        simp only [Datum.ofList] at hhd ⊢
        rw [gp_cons _ _ _ _ hhd]
        cases E with
        | pair e1 er =>
          have := ih h.2 er
          simp only [Datum.ofList] at this
          simp [(gp_plain s x).1 h.1 e1, this]
        | _ => rfl

end Marwood.Transform
