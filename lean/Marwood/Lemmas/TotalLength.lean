import Marwood.Lemmas.TotalListP
import Marwood.Lemmas.PreludeLength
/-!
# T06.3 for the prelude's `length` (two cursors, 08d0569) on every store

`LEN`: `length`. Along the cdr chain `C 0, C 1, …` of the argument (`THL.cellAt`) the state of `lengthCount` before
iteration `m` is `fast = R (2m)`, `slow = R m`, `n = 2m`, where `R 0` is the argument and `R (k+1)` the cdr reference of
`C k`. Iteration `m` answers when `C (2m)` or `C (2m+1)` is not a pair, or when `(eq? R(2m+2) R(m+1))` — the same address,
or two pair cells with the same contents (`compare.rs`) — holds (`MeetL`).
* cyclic chain: `THL.exists_meet` gives an odd `n = 2m+1 ≤ 2N+1` whose cell has the cdr reference of `C m`: iteration
  `m ≤ N` sees the same address at the latest, and the answer is the error;
* acyclic chain: the `K ≤ N` pairs before the first non-pair are a `Spine` (`spine_of_chain`), and the walk on a finite
  spine (`lengthCount_spine`) answers `K` or the error within `K / 2 + 1` calls.
-/
namespace Marwood.Store
open Outcome

namespace LEN
open THL

variable {s : Store} {l c : VCell}

/-- `R k`: the argument itself, then cdr references -/
def refAt (s : Store) (l c : VCell) : Nat → VCell
  | 0 => l
  | k+1 => .ptr (cdrIx (cellAt s c k))

theorem get_refAt (hg : s.get l = .ok c) : ∀ k, (∀ j, j < k → (cellAt s c j).isPair = true ∧ InB s c j) →
    s.get (refAt s l c k) = .ok (cellAt s c k)
  | 0, _ => hg
  | k+1, h => get_next (h k (Nat.lt_succ_self k)).1 (h k (Nat.lt_succ_self k)).2

theorem cdrV_circular (s : Store) : cdrV s circularListSym = .err .pair := rfl

def runAt (f : Nat) (s : Store) (l c : VCell) (m : Nat) : Outcome VCell :=
  lengthCount f s (refAt s l c (2 * m)) (refAt s l c m) (.num ((2 * m : Nat) : Int))

def MeetL (s : Store) (c : VCell) (m : Nat) : Prop :=
  cdrIx (cellAt s c m) = cdrIx (cellAt s c (2 * m + 1)) ∨ cellAt s c (2 * m + 2) = cellAt s c (m + 1)

theorem iter_facts (hs : s.WF) (hcv : VCell.Valid s c) (hg : s.get l = .ok c) {m : Nat}
    (hpairs : ∀ j, j ≤ 2 * m + 1 → (cellAt s c j).isPair = true) :
    ∃ a d a1 d1 a0 d0 b, s.get (refAt s l c (2 * m)) = .ok (.pair a d) ∧ s.get (.ptr d) = .ok (.pair a1 d1) ∧
      s.get (refAt s l c m) = .ok (.pair a0 d0) ∧ eqv s (.ptr d0) (.ptr d1) = .ok b ∧
      (b = true ↔ MeetL s c m) ∧ refAt s l c (2 * (m + 1)) = .ptr d1 ∧ refAt s l c (m + 1) = .ptr d0 := by
  have hval := cellAt_valid hs hcv
  have hb : ∀ j, j ≤ 2 * m + 1 → InB s c j := fun j hj => inB_of_valid (hval j) (hpairs j hj)
  have hall : ∀ k, k ≤ 2 * m + 2 → ∀ j, j < k → (cellAt s c j).isPair = true ∧ InB s c j :=
    fun k hk j hj => ⟨hpairs j (by omega), hb j (by omega)⟩
  have g0 := get_refAt hg (2 * m) (hall _ (by omega))
  have g1 := get_refAt hg (2 * m + 1) (hall _ (by omega))
  have g2 := get_refAt hg (2 * m + 2) (hall _ (by omega))
  have gs0 := get_refAt hg m (hall _ (by omega))
  have gs1 := get_refAt hg (m + 1) (hall _ (by omega))
  obtain ⟨a, d, hC0⟩ := VCell.isPair_iff.mp (hpairs (2 * m) (by omega))
  obtain ⟨a1, d1, hC1⟩ := VCell.isPair_iff.mp (hpairs (2 * m + 1) (by omega))
  obtain ⟨a0, d0, hCs⟩ := VCell.isPair_iff.mp (hpairs m (by omega))
  obtain ⟨x, y, hCs1⟩ := VCell.isPair_iff.mp (hpairs (m + 1) (by omega))
  simp only [refAt, hC0, hC1, hCs, hCs1, cdrIx] at g1 g2 gs1
  obtain ⟨b, hb1, hb2⟩ := eqv_ptrs gs1 g2
  refine ⟨a, d, a1, d1, a0, d0, b, by rw [g0, hC0], g1, by rw [gs0, hCs], hb1, ?_, ?_, ?_⟩
  · rw [hb2]
    simp only [MeetL, hCs, hC1, hCs1, cdrIx]
  · rw [show 2 * (m + 1) = 2 * m + 1 + 1 from by omega]
    simp only [refAt, hC1, cdrIx]
  · simp only [refAt, hCs, cdrIx]

theorem runAt_adv (hs : s.WF) (hcv : VCell.Valid s c) (hg : s.get l = .ok c) {f m : Nat}
    (hpairs : ∀ j, j ≤ 2 * m + 1 → (cellAt s c j).isPair = true) (hnm : ¬ MeetL s c m) :
    runAt (f+1) s l c m = runAt f s l c (m+1) := by
  obtain ⟨a, d, a1, d1, a0, d0, b, h0, h1, hs0, he, hb, hr1, hr2⟩ := iter_facts hs hcv hg hpairs
  have hbf : b = false := by
    cases b with
    | false => rfl
    | true => exact absurd (hb.mp rfl) hnm
  subst hbf
  unfold runAt
  rw [count_step h0 h1 hs0 he, hr1, hr2]
  simp only [Bool.false_eq_true, if_false]
  congr 2 <;> (push_cast; omega)

theorem runAt_meet (hs : s.WF) (hcv : VCell.Valid s c) (hg : s.get l = .ok c) {f m : Nat}
    (hpairs : ∀ j, j ≤ 2 * m + 1 → (cellAt s c j).isPair = true) (hm : MeetL s c m) :
    runAt (f+1) s l c m = .err .pair := by
  obtain ⟨a, d, a1, d1, a0, d0, b, h0, h1, hs0, he, hb, _, _⟩ := iter_facts hs hcv hg hpairs
  have hbt : b = true := hb.mpr hm
  subst hbt
  unfold runAt
  rw [count_step h0 h1 hs0 he]
  simp

theorem count_cyclic (hs : s.WF) (hcv : VCell.Valid s c) (hg : s.get l = .ok c)
    (hcyc : ∀ k, (cellAt s c k).isPair = true) {f : Nat} (hf : s.cells.length + 1 ≤ f) :
    lengthCount f s l l (.num 0) = .err .pair := by
  obtain ⟨n, hn, hodd, he⟩ := exists_meet hcyc
  obtain ⟨m0, hle, hm0, hmin⟩ := exists_least (P := MeetL s c) (n := n / 2)
    (.inl (by rw [show 2 * (n / 2) + 1 = n from by omega]; exact he.symm))
  exact walk_to (R := (runAt · s l c ·)) (fun m hm f => runAt_adv hs hcv hg (fun j _ => hcyc j) (hmin m hm))
    (fun f => runAt_meet hs hcv hg (fun j _ => hcyc j) hm0) m0 0 (by omega) f (by omega)

theorem spine_of_chain {s : Store} : ∀ (K : Nat) {x c : VCell}, s.get x = .ok c →
    (∀ k, k < K → (cellAt s c k).isPair = true ∧ InB s c k) → (cellAt s c K).isPair = false →
    ∃ as, as.length = K ∧ Spine s x as (cellAt s c K)
  | 0, _, _, hg, _, hK => ⟨[], rfl, .done hg hK⟩
  | K+1, x, c, hg, hp, hK => by
    obtain ⟨h0, hb0⟩ := hp 0 (Nat.succ_pos K)
    obtain ⟨a, d, rfl⟩ := VCell.isPair_iff.mp h0
    obtain ⟨as, hlen, hsp⟩ := spine_of_chain K (get_next (c := .pair a d) rfl hb0)
      (fun k hk => by simpa only [← cellAt_succ_nx, InB] using hp (k+1) (Nat.succ_lt_succ hk))
      (by rw [← cellAt_succ_nx]; exact hK)
    exact ⟨a :: as, by simp [hlen], .cons hg (by rw [cellAt_succ_nx]; exact hsp)⟩

theorem count_acyclic (hs : s.WF) (hcv : VCell.Valid s c) (hg : s.get l = .ok c) {K : Nat}
    (hK : (cellAt s c K).isPair = false) (hmin : ∀ k, k < K → (cellAt s c k).isPair = true) :
    K ≤ s.cells.length ∧ ∀ f, K / 2 < f →
      lengthCount f s l l (.num 0) = if (cellAt s c K).isNil then .ok (.num (K : Int)) else .err .pair := by
  have hb : ∀ k, k < K → InB s c k := fun k hk => inB_of_valid (cellAt_valid hs hcv k) (hmin k hk)
  obtain ⟨as, hlen, hsp⟩ := spine_of_chain K hg (fun k hk => ⟨hmin k hk, hb k hk⟩) hK
  refine ⟨inB_le hK hmin (Nat.le_refl K) hb, fun f hf => ?_⟩
  rw [lengthCount_spine f as as l l 0 hsp hsp (Nat.le_refl _) (hlen ▸ hf), hlen, Int.zero_add]

end LEN

open THL in
/-- **T06.3 for `length`.** On every well-formed store, circular or not, `fuel ≥ |cells| + 2` suffices: an exact integer
    when the cdr chain reaches `()`, the `expected pair` error when it does not (improper, non-list, circular). Which
    integer: `LEN.count_acyclic` (the number of pairs), `length_spine_ok`. -/
theorem length_total {s : Store} (hs : s.WF) {x : VCell} (hx : VCell.Valid s x) {fuel : Nat}
    (hf : s.cells.length + 2 ≤ fuel) :
    (ProperList s x ∧ ∃ n : Nat, length fuel s x = .ok (.num n)) ∨
    (¬ ProperList s x ∧ length fuel s x = .err .pair) := by
  obtain ⟨c, hc, hcv⟩ := get_valid hs hx
  obtain ⟨f, rfl⟩ : ∃ f, fuel = f + 1 := ⟨fuel - 1, by omega⟩
  have hprop : ProperList s x ↔ ∃ K, cellAt s c K = .nil :=
    ⟨fun h => properList_reaches h c hc, fun ⟨K, hK⟩ => reaches_properList hs K x c hc hcv hK⟩
  rw [length, hprop]
  rcases chain_cases s c with hcyc | ⟨K, hK, hmin⟩
  · refine .inr ⟨fun ⟨n, hn⟩ => ?_, LEN.count_cyclic hs hcv hc hcyc (by omega)⟩
    simpa [hn, VCell.isPair] using hcyc n
  · obtain ⟨hle, hrun⟩ := LEN.count_acyclic hs hcv hc hK hmin
    rw [hrun f (by omega), reaches_nil_iff hK hmin]
    cases (cellAt s c K).isNil with
    | true => exact .inl ⟨rfl, K, by simp⟩
    | false => exact .inr ⟨by simp, by simp⟩

open THL in
theorem length_cyclic_err {s : Store} (hs : s.WF) {x c : VCell} (hx : VCell.Valid s x) (hc : s.get x = .ok c)
    (hcyc : ∀ k, (cellAt s c k).isPair = true) {fuel : Nat} (hf : s.cells.length + 2 ≤ fuel) :
    length fuel s x = .err .pair := by
  rcases length_total hs hx hf with ⟨hp, _⟩ | ⟨_, h⟩
  · obtain ⟨K, hK⟩ := properList_reaches hp c hc
    have := hcyc K
    rw [hK] at this; cases this
  · exact h

end Marwood.Store
