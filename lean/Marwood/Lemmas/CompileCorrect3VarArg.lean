import Marwood.Lemmas.CompileCorrect2Enter
import Marwood.Lemmas.CompileCorrect3Pres
/-!
# T01.3 stage 3 — `VARARG`: the surplus operands become a fresh list

`stepVarArg` in the state `CALL`/`TCALL` leaves, both branches of run.rs: exactly one surplus operand (rewritten in
place), and the loop `varargCollect` (which also builds the empty list). Also the `All2` list lemmas of stage 3 and
`getOffset_neg` / `setOffset_neg` (a cell below the top of the stack by its negative offset).
-/
namespace Marwood.Lemmas.CompileCorrect3
open Marwood Marwood.Vm Marwood.Lemmas.CompileCorrect Marwood.Lemmas.CompileCorrect2
open Marwood.Spec.Eval (Val Cell)
variable {H : Type} {ops : HeapOps H} {D : RepData2 ops}

theorem all2_append {α β : Type} {R : α → β → Prop} {l m : List α} {l' m' : List β} (h1 : All2 R l l')
    (h2 : All2 R m m') : All2 R (l ++ m) (l' ++ m') := by
  induction h1 with
  | nil => exact h2
  | cons h _ ih => exact .cons h ih

theorem all2_snoc {α β : Type} {R : α → β → Prop} {l : List α} {l' : List β} {a : α} {b : β}
    (h : All2 R l l') (hab : R a b) : All2 R (l ++ [a]) (l' ++ [b]) :=
  all2_append h (.cons hab .nil)

theorem all2_rev {α β : Type} {R : α → β → Prop} {l : List α} {l' : List β}
    (h : All2 R l l') : All2 R l.reverse l'.reverse := by
  induction h with
  | nil => exact .nil
  | cons h1 _ ih => rw [List.reverse_cons, List.reverse_cons]; exact all2_snoc ih h1

theorem all2_drop {α β : Type} {R : α → β → Prop} : ∀ (n : Nat) {l : List α} {l' : List β},
    All2 R l l' → All2 R (l.drop n) (l'.drop n)
  | 0, _, _, h => h
  | _ + 1, _, _, .nil => .nil
  | n + 1, _, _, .cons _ t => all2_drop n t

theorem all2_take {α β : Type} {R : α → β → Prop} : ∀ (n : Nat) {l : List α} {l' : List β},
    All2 R l l' → All2 R (l.take n) (l'.take n)
  | 0, _, _, _ => .nil
  | _ + 1, _, _, .nil => .nil
  | n + 1, _, _, .cons h t => .cons h (all2_take n t)

/-- `v` is the list of `xs` followed by the tail `tv` -/
inductive ListTl (S : Array Cell) (tv : Val) : Val → List Val → Prop
  | nil : ListTl S tv tv []
  | cons {l a d as} : S[l]? = some (.pair a d) → ListTl S tv d as → ListTl S tv (.pair l) (a :: as)

theorem ListTl.of_listIn {S : Array Cell} {v : Val} {xs : List Val} (h : ListIn S v xs) : ListTl S .nil v xs := by
  induction h with
  | nil => exact .nil
  | cons hs _ ih => exact .cons hs ih

theorem ListTl.snoc_inv {S : Array Cell} {tv x : Val} : ∀ {xs : List Val} {v : Val}, ListTl S tv v (xs ++ [x]) →
    ∃ l, S[l]? = some (.pair x tv) ∧ ListTl S (.pair l) v xs
  | [], v, h => by
    change ListTl S tv v [x] at h
    cases h with
    | cons hs ht => cases ht; exact ⟨_, hs, .nil⟩
  | y :: ys, v, h => by
    change ListTl S tv v (y :: (ys ++ [x])) at h
    cases h with
    | cons hs ht =>
      obtain ⟨l', h1, h2⟩ := ListTl.snoc_inv ht
      exact ⟨l', h1, .cons hs h2⟩

theorem VR3.put {W : World} {h h' : H} {S : Array Cell} {v : VCell} {w : Val} {a : Nat}
    (r : VR3 D W h S v w) (x : Step3 D h S h')
    (p1 : ∀ w, D.VR h S v w → D.VR h' S (.ptr a) w)
    (p2 : ∀ l e, ops.callee h v = .closure l e → ops.callee h' (.ptr a) = .closure l e)
    (p3 : ∀ x y, ops.deref h v = .pair x y → ops.deref h' (.ptr a) = .pair x y) : VR3 D W h' S (.ptr a) w := by
  cases r with
  | base hb => exact .base (p1 _ hb)
  | clos hc hok => exact .clos (p2 _ _ hc) (hok.mono x.ext (World.le_refl _))
  | pair hs hd r1 r2 =>
    exact .pair hs (p3 _ _ hd) (r1.mono x.ext (World.le_refl _)) (r2.mono x.ext (World.le_refl _))

theorem pop_push' {a b : Stack} {v : VCell} (h : LiveEq (a.push v) b) (ha : SWF a) (hb : SWF b) :
    ∃ b', b.pop = .ok (v, b') ∧ LiveEq a b' ∧ SWF b' := by
  obtain ⟨h1, h2⟩ := pop_of_push h ha
  exact ⟨_, h1, h2, pop_swf hb⟩

/-- the operands `rvs.reverse` on top of `a` are popped, last first, and consed onto the accumulator -/
theorem collect_ok (L : Laws3 D) {W : World} {S : Array Cell} {lv : Val} : ∀ (rvs : List VCell) (rws : List Val)
    (a b : Stack) (h : H) (acc : Nat) (tv : Val),
    All2 (VR3 D W h S) rvs rws → D.SRx h S → VR3 D W h S (.ptr acc) tv → ListTl S tv lv rws.reverse →
    LiveEq (pushAll a rvs.reverse) b → SWF a → SWF b →
    ∃ h' lst b', varargCollect ops rvs.length h acc b = .ok (h', lst, b') ∧ LiveEq a b' ∧ SWF b' ∧
      VR3 D W h' S (.ptr lst) lv ∧ Step3 D h S h'
  | [], rws, a, b, h, acc, tv, hall, hsrx, hacc, hlist, hst, _, hb => by
    cases hall
    cases hlist
    exact ⟨h, acc, b, rfl, hst, hb, hacc, Step3.refl hsrx⟩
  | v :: rvs, rws, a, b, h, acc, tv, hall, hsrx, hacc, hlist, hst, ha, hb => by
    cases hall with
    | @cons _ x _ rws' hvx hrest =>
    rw [List.reverse_cons] at hlist hst
    rw [pushAll_append] at hst
    change LiveEq ((pushAll a rvs.reverse).push v) b at hst
    obtain ⟨b1, hpop, hl1, hw1⟩ := pop_push' hst (pushAll_swf _ _ ha) hb
    obtain ⟨h1, pa, e1, s1, p1, p2, p3⟩ := L.put_val h S v W x hsrx hvx
    obtain ⟨h2, p, e2, s2, hd2⟩ := L.put_pair h1 S pa acc s1.srx
    obtain ⟨l, hS, hlist'⟩ := ListTl.snoc_inv hlist
    have hx1 : VR3 D W h1 S (.ptr pa) x := hvx.put s1 p1 p2 p3
    have hp : VR3 D W h2 S (.ptr p) (.pair l) :=
      .pair hS hd2 (hx1.mono s2.ext (World.le_refl _))
        ((hacc.mono s1.ext (World.le_refl _)).mono s2.ext (World.le_refl _))
    have s12 := s1.trans s2
    obtain ⟨h', lst, b', hc, hl', hw', hv', s'⟩ := collect_ok L rvs rws' a b1 h2 p (.pair l)
      (All2.vr3_mono hrest s12.ext (World.le_refl _)) s2.srx hp hlist' hl1 ha hw1
    refine ⟨h', lst, b', ?_, hl', hw', hv', s12.trans s'⟩
    simp only [List.length_cons, varargCollect, hpop, outcome_bind_ok, e1, asPtr, e2, hc]

theorem getOffset_neg {st : Stack} {k i : Nat} {v : VCell} (hk : st.sp = i + k) (h : st.cells[i]? = some v) :
    st.getOffset (-(k : Int)) = .ok v := by
  have e : st.sp - k = i := by omega
  have := Stack.getOffset_of_lt st k (by omega) (e ▸ Stack.lt_of_some h)
  rwa [e, Stack.cellAt_of_some h] at this

theorem setOffset_neg {st : Stack} {k i : Nat} {v : VCell} (hk : st.sp = i + k + 1) (hw : SWF st) :
    st.setOffset (-(k : Int) - 1) v = .ok { st with cells := st.cells.set i v } := by
  unfold SWF at hw
  unfold Stack.setOffset
  have h0 : (0 : Int) ≤ (st.sp : Int) + (-(k : Int) - 1) := by omega
  simp only [h0, if_true]
  have e : ((st.sp : Int) + (-(k : Int) - 1)).toNat = i := by omega
  rw [e]
  unfold Stack.set
  have hlt : i < st.cells.length := by omega
  simp only [hlt, if_true]

/-- the one-surplus-operand branch: the cell below `argc` is read and overwritten -/
theorem callFrame_set_last {stk st0 : Stack} {vs : List VCell} {epc lc oc req : Nat}
    (hst : LiveEq (callFrame st0 vs epc lc oc) stk) (hw0 : SWF st0) (hw : SWF stk) (heq : vs.length = req + 1) :
    ∃ v, vs[req]? = some v ∧ stk.getOffset (-3) = .ok v ∧ ∀ c, ∃ st', stk.setOffset (-3) c = .ok st' ∧
      LiveEq (callFrame st0 (vs.take req ++ [c]) epc lc oc) st' ∧ SWF st' := by
  obtain ⟨k0, k1, k2, k3, k4⟩ := callFrame_cells st0 vs epc lc oc hw0
  have spS : stk.sp = st0.sp + vs.length + 3 := by rw [← hst.1, callFrame_sp]
  have cell : ∀ i, i ≤ st0.sp + vs.length + 3 → stk.cells[i]? = (callFrame st0 vs epc lc oc).cells[i]? :=
    fun i hi => (hst.2 i (by rw [callFrame_sp]; exact hi)).symm
  rw [heq] at spS cell k2 k3 k4
  -- `m`: the index of the last operand; the arithmetic below is about `m`, `st0.sp`, `req` only
  obtain ⟨m, hm⟩ : ∃ m, m = st0.sp + 1 + req := ⟨_, rfl⟩
  have hrl : req < vs.length := heq ▸ Nat.lt_succ_self req
  have hcv : stk.cells[m]? = some vs[req] := by
    rw [hm, cell _ (by omega), k1 _ hrl, List.getElem?_eq_getElem hrl]
  have hlt : m < stk.cells.length := (List.getElem?_eq_some_iff.1 hcv).1
  have hT : (vs.take req).length = req := by rw [List.length_take, Nat.min_eq_left (Nat.le_of_lt hrl)]
  have hL : ∀ c : VCell, (vs.take req ++ [c]).length = req + 1 := fun c => by rw [List.length_append, hT]; rfl
  refine ⟨vs[req], List.getElem?_eq_getElem hrl, getOffset_neg (k := 3) (by omega) hcv, fun c => ?_⟩
  refine ⟨_, setOffset_neg (k := 2) (i := m) (by omega) hw, ?_, by
    show stk.sp < (stk.cells.set m c).length
    rw [List.length_set]; exact hw⟩
  have ne : ∀ i, i ≠ m → (stk.cells.set m c)[i]? = stk.cells[i]? := fun i hi => List.getElem?_set_ne (Ne.symm hi)
  have top : ∀ k, 0 < k → k ≤ 3 → (stk.cells.set m c)[st0.sp + (req + 1) + k]? =
      (callFrame st0 vs epc lc oc).cells[st0.sp + (req + 1) + k]? := fun k h0 h3 => by
    rw [ne _ (by omega), cell _ (by omega)]
  refine liveEq_callFrame hw0 ?_ ?_ ?_ ?_ ?_ ?_
  · show stk.sp = _
    rw [hL c, spS]
  · intro i hi
    show (stk.cells.set m c)[i]? = _
    rw [ne i (by omega), cell i (by omega), k0 i hi]
  · intro j hj
    rw [hL c] at hj
    show (stk.cells.set m c)[st0.sp + 1 + j]? = _
    by_cases hc : j = req
    · subst hc
      rw [← hm, List.getElem?_set_self hlt, List.getElem?_append_right (Nat.le_of_eq hT), hT, Nat.sub_self]
      rfl
    · have hjr : j < req := Nat.lt_of_le_of_ne (Nat.le_of_lt_succ hj) hc
      rw [ne _ (by omega), cell _ (by omega), k1 _ (Nat.lt_trans hjr hrl),
        List.getElem?_append_left (hT.symm ▸ hjr), List.getElem?_take_of_lt hjr]
  · rw [hL c]; exact (top 1 (by decide) (by decide)).trans k2
  · rw [hL c]; exact (top 2 (by decide) (by decide)).trans k3
  · rw [hL c]; exact (top 3 (by decide) (by decide)).trans k4

theorem stepVarArg_ok (L : Laws3 D) {W : World} {s : MSt H} {S : Array Cell} {req : Nat} {vs : List VCell}
    {ws : List Val} {st0 : Stack} {epc lc oc : Nat} {lv : Val}
    (hinfo : ops.lambdaInfo s.heap s.ipL = some ⟨req + 1⟩) (hsrx : D.SRx s.heap S)
    (hvs : All2 (VR3 D W s.heap S) vs ws) (hreq : req ≤ vs.length) (hlist : ListIn S lv (ws.drop req))
    (hst : LiveEq (callFrame st0 vs epc lc oc) s.stack) (hw0 : SWF st0) (hw : SWF s.stack) :
    ∃ h' lst st', stepVarArg ops s = .ok { s with heap := h', stack := st' } ∧
      LiveEq (callFrame st0 (vs.take req ++ [.ptr lst]) epc lc oc) st' ∧ SWF st' ∧
      VR3 D W h' S (.ptr lst) lv ∧ Step3 D s.heap S h' := by
  have hlen : vs.length = ws.length := All2.length_eq hvs
  have hargc : s.stack.cells[st0.sp + vs.length + 1]? = some (.argc vs.length) := by
    rw [← hst.2 _ (by rw [callFrame_sp]; omega)]; exact (callFrame_cells st0 vs epc lc oc hw0).2.2.1
  have hoff2 : s.stack.getOffset (-2) = .ok (.argc vs.length) :=
    getOffset_neg (k := 2) (by rw [← hst.1, callFrame_sp]) hargc
  have hu : usub (req + 1) 1 "vararg: args.len() - 1" = .ok req := by unfold usub; simp
  have hnlt : ¬ vs.length < req := Nat.not_lt.mpr hreq
  have hL : ∀ lst : Nat, (vs.take req ++ [VCell.ptr lst]).length = req + 1 := by
    intro lst; rw [List.length_append, List.length_take, Nat.min_eq_left hreq]; rfl
  unfold stepVarArg
  simp only [hinfo, hu, outcome_bind_ok, hoff2, asArgc, hnlt, if_false]
  by_cases heq : vs.length = req + 1
  · -- exactly one surplus operand
    simp only [heq, if_true]
    obtain ⟨v, hv, hoff3, hset⟩ := callFrame_set_last hst hw0 hw heq
    obtain ⟨x, hwx, hvx⟩ := All2.get hvs req v hv
    have hd : ws.drop req = [x] := by
      obtain ⟨hlt, hx⟩ := List.getElem?_eq_some_iff.1 hwx
      rw [List.drop_eq_getElem_cons hlt, hx, List.drop_of_length_le (by rw [← hlen, heq]; exact Nat.le_refl _)]
    rw [hd] at hlist
    cases hlist with
    | @cons l _ d _ hS ht =>
    cases ht
    obtain ⟨h1, a, e1, s1, p1, p2, p3⟩ := L.put_val s.heap S v W x hsrx hvx
    obtain ⟨h2, n, e2, s2, q1, _, _⟩ := L.put_val h1 S .nil W .nil s1.srx (.base (L.nil _ _))
    obtain ⟨h3, p, e3, s3, hd3⟩ := L.put_pair h2 S a n s2.srx
    obtain ⟨st', hset, hlive, hswf⟩ := hset (.ptr p)
    simp only [hoff3, outcome_bind_ok, e1, e2, asPtr, e3, hset]
    refine ⟨h3, p, _, rfl, hlive, hswf, ?_, (s1.trans s2).trans s3⟩
    have hx1 : VR3 D W h1 S (.ptr a) x := hvx.put s1 p1 p2 p3
    have s23 := s2.trans s3
    exact .pair hS hd3 (hx1.mono s23.ext (World.le_refl _))
      ((VR3.base (q1 _ (L.nil _ _))).mono s3.ext (World.le_refl _))
  · -- the loop
    simp only [heq, if_false]
    have hA := pushAll_swf st0 vs hw0
    have hB := push_swf (pushAll st0 vs) (.argc vs.length)
    have hC := push_swf ((pushAll st0 vs).push (.argc vs.length)) (.envPtr epc)
    unfold callFrame at hst
    obtain ⟨st1, pp1, l1, w1⟩ := pop_push' hst hC hw
    obtain ⟨st2, pp2, l2, w2⟩ := pop_push' l1 hB w1
    obtain ⟨st3, pp3, l3, w3⟩ := pop_push' l2 hA w2
    obtain ⟨h1, n, e1, s1, q1, _, _⟩ := L.put_val s.heap S .nil W .nil hsrx (.base (L.nil _ _))
    have hwa : SWF (pushAll st0 (vs.take req)) := pushAll_swf _ _ hw0
    obtain ⟨h', lst, b', hc, hl', hw', hv', s'⟩ := collect_ok (W := W) (lv := lv) L (vs.drop req).reverse
      (ws.drop req).reverse (pushAll st0 (vs.take req)) st3 h1 n .nil
      (all2_rev (all2_drop req (All2.vr3_mono hvs s1.ext (World.le_refl _)))) s1.srx
      (.base (q1 _ (L.nil _ _))) (by rw [List.reverse_reverse]; exact ListTl.of_listIn hlist)
      (by rw [List.reverse_reverse, ← pushAll_append, List.take_append_drop]; exact l3) hwa w3
    have hk : ((vs.drop req).reverse).length = vs.length - req := by simp
    rw [hk] at hc
    simp only [pp1, outcome_bind_ok, pp2, pp3, e1, asPtr, hc]
    refine ⟨h', lst, _, rfl, ?_, push_swf _ _, hv', s1.trans s'⟩
    unfold callFrame
    rw [hL, pushAll_append]
    change LiveEq (((((pushAll st0 (vs.take req)).push (.ptr lst)).push (.argc (req + 1))).push (.envPtr epc)).push
      (.instrPtr lc oc)) _
    exact (((hl'.push hwa hw' _).push (push_swf _ _) (push_swf _ _) _).push (push_swf _ _) (push_swf _ _) _).push
      (push_swf _ _) (push_swf _ _) _

/-- the operands beyond the `req` required ones are collected into a fresh list that represents `lv`; the frame is
    rewritten to `req + 1` operands -/
theorem varArg_ok (L : Laws3 D) {W : World} {s : MSt H} {S : Array Cell} {req : Nat} {vs : List VCell}
    {ws : List Val} {st0 : Stack} {epc lc oc : Nat} {lv : Val}
    (hl : ops.isLambda s.heap s.ipL = true) (h0 : ops.fetch s.heap s.ipL s.ipO = some (.opcode .varArg))
    (hinfo : ops.lambdaInfo s.heap s.ipL = some ⟨req + 1⟩) (hsrx : D.SRx s.heap S)
    (hvs : All2 (VR3 D W s.heap S) vs ws) (hreq : req ≤ vs.length) (hlist : ListIn S lv (ws.drop req))
    (hst : LiveEq (callFrame st0 vs epc lc oc) s.stack) (hw0 : SWF st0) (hw : SWF s.stack) :
    ∃ h' lst st', step ops s = .ok ({ s with heap := h', stack := st', ipO := s.ipO + 1 }, false) ∧
      LiveEq (callFrame st0 (vs.take req ++ [.ptr lst]) epc lc oc) st' ∧ SWF st' ∧
      VR3 D W h' S (.ptr lst) lv ∧ Step3 D s.heap S h' := by
  obtain ⟨h', lst, st', h1, h2, h3, h4, h5⟩ :=
    stepVarArg_ok (s := { s with ipO := s.ipO + 1 }) L hinfo hsrx hvs hreq hlist hst hw0 hw
  exact ⟨h', lst, st', StepEff.run (readOpcode_eq hl h0) (.varArg h1), h2, h3, h4, h5⟩

end Marwood.Lemmas.CompileCorrect3
