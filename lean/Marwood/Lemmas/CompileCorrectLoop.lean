import Marwood.Lemmas.CompileCorrect
import Marwood.Vm.Eval
/-!
# T01.3 stage 1 — `Steps` in terms of the run loop of `Vm/RunLoop.lean`

`Steps ops s s'` gives a number of instructions after which the collection-free reference loop `pureN` over
`vmStep ops` (= `run_one`) pauses in `s'` (only this direction is proved).
-/
namespace Marwood.Lemmas.CompileCorrect
open Marwood Marwood.Vm

variable {H : Type} {ops : HeapOps H}

theorem Steps.pureN (gc : MSt H → MSt H) {s s' : MSt H} (h : Steps ops s s') :
    ∃ k, Vm.pureN ⟨vmStep ops, gc⟩ k s = .paused s' := by
  induction h with
  | refl => exact ⟨0, rfl⟩
  | cons h _ ih =>
    obtain ⟨k, hk⟩ := ih
    refine ⟨k + 1, ?_⟩
    simp only [Vm.pureN, vmStep, h, hk]

theorem ExprRun.pureN {D : RepData ops} (gc : MSt H → MSt H) {s s' : MSt H} {len : Nat} {σ σ' : SSt}
    {w : Spec.Eval.Val} (r : ExprRun D s len σ σ' w s') :
    ∃ k, Vm.pureN ⟨vmStep ops, gc⟩ k s = .paused s' := r.steps.pureN gc

end Marwood.Lemmas.CompileCorrect
