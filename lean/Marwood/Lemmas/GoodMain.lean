import Marwood.Lemmas.GoodStepB
import Marwood.Lemmas.GoodStepC
import Marwood.Lemmas.GoodGc
/-!
# `Safe` as an invariant: `run_one` and `run_gc` preserve `GoodI`; `Safe` from the initial state

`good_step`: the heap part is one lemma per opcode (`hg_exec`); the roots part comes from `step_sim` applied to the state
and itself (`sim_refl`): the successor simulates itself, so its roots are allocated (`roots_of_sim`) — which is why the
simulation law `ExtLaws` is a hypothesis of an invariant. `safe_of_good`: the hypothesis `Safe m s0` of T03.5 / T13.3 from
`GoodI` of the INITIAL state, `SizeBounded` (a physical fact: `2^62` cells do not fit into memory) and `StackDiscAlong`
(discharged from WF-stack, Lemmas/StackDiscOfWFS.lean). `prepare_goodI`: under the law `CompGood` of the unmodelled compiler
`prepare_eval` keeps `GoodI`, so the hypothesis is one about the VM between evaluations.
-/
namespace Marwood.Lemmas.Good
open Marwood Marwood.Vm Marwood.Vm.Concrete Marwood.Lemmas.Sim
open Marwood.Heap (GcState WFHeap RootsOk vrefs vrefsList crefs)

section
variable {ext : ExtOps}

theorem readOpcode_inv {s s1 : St CHeap} {op : Op} (h : readOpcode (concreteOps ext) s = .ok (op, s1)) :
    s1 = nx s ∧ opAt s op := by
  rw [readOpcode_eq] at h
  simp only [concreteOps] at h
  cases hl : lambdaAt s.heap s.ipL with
  | none => simp [hl] at h
  | some l =>
    simp only [hl, Option.isSome_some, Bool.not_true, Bool.false_eq_true, if_false] at h
    cases hf : l.bc[s.ipO]? with
    | none => simp [hf] at h
    | some c =>
      simp only [hf] at h
      cases ho : opOf c with
      | none => simp [ho] at h
      | some op' =>
        simp only [ho] at h
        cases h
        refine ⟨rfl, l, hl, ?_⟩
        rw [hf]
        cases c <;> simp [opOf] at ho
        rw [ho]

theorem hg_exec (eg : ExtGood ext) {s0 s' : St CHeap} {b : Bool} (g : GoodI s0) (sd : StackDisc s0) {op : Op}
    (hop : opAt s0 op) (hx : exec (concreteOps ext) op (nx s0) = .ok (s', b)) (sm : Small s'.heap) :
    HG s'.heap ∧ plainGlob s'.acc = true := by
  cases op with
  | cons => exact hg_cons g sd hop hx sm
  | jmp => exact hg_jmp g hx
  | jnt => exact hg_jnt g hx
  | mov => exact hg_mov g sd hop hx
  | movImm => exact hg_movImm g hop hx
  | push => exact hg_push g hx
  | pushAcc => exact hg_pushAcc g hx
  | pushImm => exact hg_pushImm g hx
  | halt => exact hg_halt g hx
  | vpushAcc => exact hg_vpush eg g hx sm
  | callAcc => exact hg_call eg g sd hop hx sm
  | closureAcc => exact hg_closure g hx sm
  | enter => exact hg_enter g sd hop hx sm
  | ret => exact hg_ret g hx
  | tcallAcc => exact hg_tcall eg g sd hop hx sm
  | varArg => exact hg_varArg g sd hop hx sm

/-- **`GoodI` is preserved by `run_one`** -/
theorem good_step (el : ExtLaws ext) (eg : ExtGood ext) {s s' : St CHeap} {b : Bool} (g : GoodI s)
    (sm : Small s.heap) (sd : StackDisc s) (hs : step (concreteOps ext) s = .ok (s', b)) (sm' : Small s'.heap) :
    GoodI s' := by
  have gd : Good s := g.good sm sd
  have hh : HG s'.heap ∧ plainGlob s'.acc = true := by
    have hs' := hs
    rw [step_eq] at hs'
    obtain ⟨⟨op, s1⟩, hro, hx⟩ := bind_inv hs'
    obtain ⟨rfl, hop⟩ := readOpcode_inv hro
    exact hg_exec eg g sd hop hx sm'
  -- roots part: the successor simulates itself
  obtain ⟨φ, hsim⟩ := sim_refl gd
  have hrel := step_sim ext (execSim_all ext el) hsim gd gd
  rw [hs] at hrel
  cases hrel with
  | ok r =>
    obtain ⟨_, ψ, _, hs2⟩ := r
    exact ⟨hh.1, roots_of_sim hs2, hh.2⟩

end

def SizeBounded (m : Machine (St CHeap) Fault) (s0 : St CHeap) : Prop := ∀ s', Reaches m s0 s' → Small s'.heap

def StackDiscAlong (m : Machine (St CHeap) Fault) (s0 : St CHeap) : Prop := ∀ s', Reaches m s0 s' → StackDisc s'

theorem goodI_reaches {ext : ExtOps} (force : Bool) (el : ExtLaws ext) (eg : ExtGood ext) {s0 : St CHeap}
    (g0 : GoodI s0) (sb : SizeBounded (machine ext force) s0) (sdl : StackDiscAlong (machine ext force) s0) :
    ∀ s', Reaches (machine ext force) s0 s' → GoodI s' :=
  Reaches.machine_induct g0
    (fun _ _ _ hr1 ih hst hr2 => good_step el eg ih (sb _ hr1) (sdl _ hr1) hst (sb _ hr2))
    (fun _ hr1 ih => good_gc force ih (sb _ (.gc hr1)))

/-- **`Safe` from the initial state** -/
theorem safe_of_good {ext : ExtOps} (force : Bool) (el : ExtLaws ext) (eg : ExtGood ext) {s0 : St CHeap}
    (g0 : GoodI s0) (sb : SizeBounded (machine ext force) s0) (sdl : StackDiscAlong (machine ext force) s0) :
    Safe (machine ext force) s0 :=
  fun s' hr => (goodI_reaches force el eg g0 sb sdl s' hr).good (sb s' hr) (sdl s' hr)

def GlobRoots (h : CHeap) : Prop := (∀ y ∈ h.globSyms, NF h y) ∧ ∀ v ∈ h.globals.toList, VRefsOk h v

theorem GoodI.globRoots {s : St CHeap} (g : GoodI s) : GlobRoots s.heap :=
  ⟨fun y hy => g.roots y (mem_refs_syms (by simpa [rootsOf] using hy)),
   fun _ hv => (roots_glob g.roots g.hg.plain hv).2⟩

/-- `prepare_eval`: the (unmodelled) compiler puts the entry lambda of the form `d` on the heap; `ip` is
    pointed at it -/
def prepareEval (comp : CHeap → VCell → Outcome (CHeap × VCell)) (s : St CHeap) (d : VCell) : Outcome (St CHeap) :=
  match comp s.heap d with
  | .ok (h', .ptr e) => .ok { s with heap := h', ipL := e, ipO := 0 }
  | .ok _ => .err .expectedType
  | .err e => .err e
  | .panic m => .panic m

/-- **Assumed of the unmodelled compiler**: heap invariant and allocated global roots are kept, cells stay allocated, the
    entry lambda is allocated -/
structure CompGood (comp : CHeap → VCell → Outcome (CHeap × VCell)) : Prop where
  good : ∀ (h : CHeap) (d : VCell) (h' : CHeap) (v : VCell), HG h → GlobRoots h → addrFree d = true →
    comp h d = .ok (h', v) → Small h' → HG h' ∧ Mono h h' ∧ GlobRoots h' ∧ VRefsOk h' v

theorem prepareEval_inv {comp : CHeap → VCell → Outcome (CHeap × VCell)} {s s' : St CHeap} {d : VCell}
    (hp : prepareEval comp s d = .ok s') :
    ∃ h' e, comp s.heap d = .ok (h', .ptr e) ∧ s' = { s with heap := h', ipL := e, ipO := 0 } := by
  unfold prepareEval at hp
  split at hp
  · rename_i h' e hc; cases hp; exact ⟨h', e, hc, rfl⟩
  · cases hp
  · cases hp
  · cases hp

/-- the state `prepare_eval` produces from an idle good machine is good -/
theorem prepare_goodI {comp : CHeap → VCell → Outcome (CHeap × VCell)} (cg : CompGood comp) {s s' : St CHeap}
    {d : VCell} (g : GoodI s) (hacc : s.acc = .undefined) (hep : Heap.Sentinel s.ep)
    (hst : ∀ c ∈ s.stack.cells, c = VCell.undefined) (hd : addrFree d = true)
    (hp : prepareEval comp s d = .ok s') (sm : Small s'.heap) : GoodI s' := by
  obtain ⟨h', e, hc, rfl⟩ := prepareEval_inv hp
  obtain ⟨hg', _, ⟨gr1, gr2⟩, hv⟩ := cg.good _ _ _ _ g.hg g.globRoots hd hc sm
  refine ⟨hg', rootsOk_intro (s := { s with heap := h', ipL := e, ipO := 0 }) gr1 gr2 (fun i v _ hv => ?_)
    (by rw [show ({ s with heap := h', ipL := e, ipO := 0 } : St CHeap).acc = .undefined from hacc]; exact .of_addrFree _ rfl)
    (VRefsOk.ptr.mp hv) (.inr hep), g.accv⟩
  cases hst v (List.mem_of_getElem? hv)
  exact .of_addrFree _ rfl

end Marwood.Lemmas.Good
