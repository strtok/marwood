import Marwood.Lemmas.SimDefs
import Marwood.Lemmas.ConcreteAlloc
/-!
# Heap simulation: allocation

`calloc` on two related heaps hands out addresses outside the domain / range of `φ` (from the free list or the fresh
chunk), so `φ` can be extended at the pair. The two differ in general: after a collection the free lists differ.
-/
namespace Marwood.Lemmas.Sim
open Marwood Marwood.Vm Marwood.Vm.Concrete
open Marwood.Heap (GcState)

/-- the clauses of `Allocd` and `AllocdOk` (Lemmas/ConcreteAlloc.lean) the simulation reads, with `HInv` of the new heap -/
structure AllocSpec (h h1 : CHeap) (p : Nat) : Prop where
  p_lt : p < h1.cells.size
  p_fresh : p ∈ h.free ∨ h.cells.size ≤ p
  p_notfree : p ∉ h1.free
  size_le : h.cells.size ≤ h1.cells.size
  cells_old : ∀ i, i < h.cells.size → h1.cells[i]? = h.cells[i]?
  free_sub : ∀ i, i ∈ h1.free → i ∈ h.free ∨ h.cells.size ≤ i
  free_sup : ∀ i, i ∈ h.free → i = p ∨ i ∈ h1.free
  cells_new : ∀ i, h.cells.size ≤ i → i < h1.cells.size → h1.cells[i]? = some (CCell.val .undefined)
  globals : h1.globals = h.globals
  globSyms : h1.globSyms = h.globSyms
  symtab : h1.symtab = h.symtab
  inv : HInv h1

structure GrowSpec (h g : CHeap) : Prop where
  lt : h.cells.size < g.cells.size
  cells_old : ∀ i, i < h.cells.size → g.cells[i]? = h.cells[i]?
  cells_new : ∀ i, h.cells.size ≤ i → i < g.cells.size → g.cells[i]? = some (CCell.val .undefined)
  free : g.free = (List.range' h.cells.size (g.cells.size - h.cells.size)).reverse ++ h.free
  globals : g.globals = h.globals
  globSyms : g.globSyms = h.globSyms
  symtab : g.symtab = h.symtab
  inv : HInv g

theorem HInv.freeOk {h : CHeap} (inv : HInv h) : FreeOk h :=
  ⟨inv.shape, fun q hq => inv.sizes ▸ lt_of_get_some ((inv.free_iff q).mp hq), inv.nodup⟩

theorem cgrow_spec (h : CHeap) (inv : HInv h) : GrowSpec h (cgrow h) := by
  obtain ⟨hlt, hch⟩ := (show Chunks h from inv.shape).grow
  have hs := inv.sizes
  have hs1 : (cgrow h).gc.size = (cgrow h).cells.size := by
    rw [cgrow_gc_size, hs, Nat.add_sub_cancel' (Nat.le_of_lt hlt)]
  refine ⟨hlt, fun i hi => cgrow_cells_old h hi, fun i h1 h2 => ?_, ?_, rfl, rfl, rfl, hs1, hch, fun i => ?_, ?_,
    fun i hi => inv.no_used i (cgrow_used hi)⟩
  · have hc := Array.getElem?_eq_getElem h2
    rw [hc, cgrow_cells_new h h1 hc]
  · rw [cgrow_cells_size, Nat.add_sub_cancel_left]; rfl
  · rw [mem_cgrow_free, cgrow_gc, inv.free_iff, hs, Nat.add_sub_cancel' (Nat.le_of_lt hlt)]
    exact ⟨fun x => x.elim (fun y => .inr ⟨rfl, y⟩) .inl, fun x => x.elim .inr (fun y => .inl y.2)⟩
  · show ((List.range' _ _).reverse ++ h.free).Nodup
    refine List.nodup_append.mpr ⟨List.pairwise_reverse.mpr (List.Pairwise.imp Ne.symm List.nodup_range'), inv.nodup, ?_⟩
    intro a ha b hb hab
    subst hab
    rw [List.mem_reverse, List.mem_range'_1] at ha
    exact absurd ha.1 (Nat.not_le_of_lt (inv.freeOk.lt a hb))

theorem calloc_spec (h : CHeap) (inv : HInv h) : AllocSpec h (calloc h).1 (calloc h).2 := by
  have a := calloc_allocd h
  have b := calloc_ok inv.freeOk
  have hs := inv.sizes
  have hs1 := a.sizes hs
  refine ⟨b.lt, a.fresh, fun x => ((b.mem_free _).mp x).1 rfl, a.size_le, a.cells_old, a.free_sub,
    fun i hi => Classical.byCases .inl fun x => .inr ((b.mem_free i).mpr ⟨x, .inr hi⟩),
    fun i h1 h2 => a.cells_new' h1 h2, a.globals, a.globSyms, a.symtab, hs1, a.chunks inv.shape, fun i => ?_,
    b.nodup, fun i hi => inv.no_used i (a.gc_used i hi)⟩
  rw [b.mem_free]
  by_cases hi : i = (calloc h).2
  · subst hi
    rw [b.gc_at hs]
    exact ⟨fun x => absurd rfl x.1, fun x => by cases x⟩
  · rw [b.gc_other i _ hi, inv.free_iff, hs, Nat.add_sub_cancel' a.size_le]
    exact ⟨fun x => x.2.elim (fun y => .inr ⟨rfl, y⟩) .inl, fun x => ⟨hi, x.elim .inr (fun y => .inl y.2)⟩⟩

theorem cwrite_inv (h : CHeap) (inv : HInv h) (p : Nat) (c : CCell) : HInv (cwrite h p c) :=
  ⟨by simp [cwrite, inv.sizes], by simpa [cwrite] using inv.shape, inv.free_iff, inv.nodup, inv.no_used⟩

def ext (φ : Inj) (p q : Nat) : Inj := fun x => if x = p then some q else φ x

theorem ext_le (φ : Inj) (p q : Nat) (hp : φ p = none) : φ.le (ext φ p q) := by
  intro a b h
  unfold ext
  split
  · rename_i e; subst e; rw [hp] at h; cases h
  · exact h

theorem ext_self (φ : Inj) (p q : Nat) : ext φ p q p = some q := by simp [ext]

theorem addrsRel_mono {φ ψ : Inj} (hle : φ.le ψ) {l l' : List Nat} (h : All2 (AddrRel φ) l l') :
    All2 (AddrRel ψ) l l' := by
  induction h with
  | nil => exact .nil
  | cons h1 _ ih => exact .cons (h1.mono hle) ih

theorem HeapSim.dom_lt {φ : Inj} {h h' : CHeap} (hs : HeapSim φ h h') {a b} (hab : φ a = some b) :
    a < h.cells.size ∧ b < h'.cells.size ∧ a ∉ h.free ∧ b ∉ h'.free := by
  obtain ⟨c, c', e1, e2, _, f1, f2⟩ := hs.cells a b hab
  exact ⟨lt_of_get_some e1, lt_of_get_some e2, f1, f2⟩

theorem cput_sim {φ : Inj} {h h' : CHeap} (hs : HeapSim φ h h') {c c' : CCell}
    (hc : ∀ ψ, φ.le ψ → ψ (cput h c).2 = some (cput h' c').2 → CellRel ψ c c') :
    ∃ ψ, φ.le ψ ∧ ψ (cput h c).2 = some (cput h' c').2 ∧ HeapSim ψ (cput h c).1 (cput h' c').1 := by
  have a := calloc_spec h hs.inv
  have a' := calloc_spec h' hs.inv'
  simp only [cput]
  generalize hp : (calloc h).2 = p at a
  generalize hq : (calloc h').2 = q at a'
  generalize hh1 : (calloc h).1 = h1 at a
  generalize hh1' : (calloc h').1 = h1' at a'
  have hc' : ∀ ψ, φ.le ψ → ψ p = some q → CellRel ψ c c' := by
    intro ψ h1 h2; apply hc ψ h1; simp only [cput, hp, hq]; exact h2
  have hpdom : φ p = none := by
    cases hφ : φ p with
    | none => rfl
    | some b =>
      obtain ⟨l1, _, l3, _⟩ := hs.dom_lt hφ
      rcases a.p_fresh with h1 | h1
      · exact absurd h1 l3
      · omega
  have hqran : ∀ x, φ x ≠ some q := by
    intro x hφ
    obtain ⟨_, l2, _, l4⟩ := hs.dom_lt hφ
    rcases a'.p_fresh with h1 | h1
    · exact absurd h1 l4
    · omega
  have hle := ext_le φ p q hpdom
  refine ⟨ext φ p q, hle, ext_self φ p q, ?_⟩
  refine ⟨?_, ?_, ?_, ?_, cwrite_inv _ a.inv _ _, cwrite_inv _ a'.inv _ _⟩
  · intro x x' b h1 h2
    unfold ext at h1 h2
    by_cases e1 : x = p <;> by_cases e2 : x' = p <;> simp only [e1, e2, if_true, if_false] at h1 h2
    · exact e1.trans e2.symm
    · cases h1; exact absurd h2 (hqran x')
    · cases h2; exact absurd h1 (hqran x)
    · exact hs.inj x x' b h1 h2
  · intro x b hxb
    unfold ext at hxb
    by_cases e1 : x = p
    · rw [e1] at hxb ⊢
      simp only [if_true] at hxb
      have ebq : b = q := by cases hxb; rfl
      rw [ebq]
      refine ⟨c, c', ?_, ?_, hc' _ hle (ext_self φ p q), a.p_notfree, a'.p_notfree⟩
      · simp [cwrite, a.p_lt]
      · simp [cwrite, a'.p_lt]
    · simp only [e1, if_false] at hxb
      obtain ⟨d, d', g1, g2, r, f1, f2⟩ := hs.cells x b hxb
      have hbq : b ≠ q := fun e => hqran x (e ▸ hxb)
      have l1 := lt_of_get_some g1
      have l2 := lt_of_get_some g2
      refine ⟨d, d', ?_, ?_, r.mono hle, ?_, ?_⟩
      · simp only [cwrite]
        rw [Array.getElem?_setIfInBounds_ne (Ne.symm e1), a.cells_old x l1]; exact g1
      · simp only [cwrite]
        rw [Array.getElem?_setIfInBounds_ne (Ne.symm hbq), a'.cells_old b l2]; exact g2
      · intro hm
        rcases a.free_sub x hm with h1 | h1
        · exact f1 h1
        · omega
      · intro hm
        rcases a'.free_sub b hm with h1 | h1
        · exact f2 h1
        · omega
  · simp only [cwrite]; rw [a.globals, a'.globals]; exact VsRel.mono hle hs.globals
  · simp only [cwrite]; rw [a.globSyms, a'.globSyms]
    exact addrsRel_mono hle hs.globSyms

end Marwood.Lemmas.Sim
