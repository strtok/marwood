import Marwood.Lemmas.EvalPromiseSpan
import Marwood.Lemmas.EvalPromiseX2
import Marwood.Lemmas.EvalFrameMain
/-!
# T01.2 for `delay` / `force`: `(force (delay e))` natively and through the prelude's expansion agree

`expansion_leg`: if `I`, the guarded evaluation of `e` in the state of the use, is definite, the expansion
run with the prelude's library has the image of `I`'s outcome under `shiftAt size 7`, and the promise
structure holds the value, done. Three steps:

* frame property T01.1 for `guardN` (`frame_guardN`): `e` does not mention `force` and no value of the
  state does, so rebinding the global `force` (primitive ↦ the prelude's procedure) does not change `I`;
* simulation with the frame `J` (`EvalPromiseJ.lean`): `e` evaluates alike in the store with the seven
  cells the expansion has allocated by then (`junkPre`), and leaves them alone;
* `forceDelayX_ok`, `forceDelayX_err`: what the library procedures then do. The failure case needs fuel
  `m + 10` only; `evalN_mono` lifts it to the `m + 12` of the success case, one fuel for both.

`force_delay_agrees` puts the two legs together (`SpanAgree`).
-/
namespace Marwood.Spec.Eval.Derived
open Marwood Marwood.Spec.Eval Marwood.Spec.Eval.Prelude Marwood.Spec.Eval.Extra Marwood.Spec.Eval.Conv
open Marwood.Spec.Eval.ExtraJ

theorem size_pushAll (σ : Array Cell) (cs : List Cell) : (pushAll σ cs).size = σ.size + cs.length := by
  induction cs generalizing σ with
  | nil => rfl
  | cons c cs ih => simp only [pushAll, List.foldl_cons] at ih ⊢; rw [ih]; simp; omega

theorem get_pushAll_lt (σ : Array Cell) (cs : List Cell) (l : Nat) (h : l < σ.size) : (pushAll σ cs)[l]? = σ[l]? := by
  induction cs generalizing σ with
  | nil => rfl
  | cons c cs ih =>
    simp only [pushAll, List.foldl_cons] at ih ⊢
    rw [ih (σ.push c) (by simp; omega), Array.getElem?_push, if_neg (by omega)]

theorem libOK_withForce {g : List (Text × Val)} (h : LibOK g) : LibOK (insertG k_force cForce g) := by
  have hne : ∀ y, (y == k_force) = false → (insertG k_force cForce g).lookup y = g.lookup y := by
    intro y hy; rw [lookup_insertG, hy]; rfl
  exact ⟨by rw [hne _ (by decide)]; exact h.makePromise, by rw [hne _ (by decide)]; exact h.done,
    by rw [hne _ (by decide)]; exact h.value, by rw [hne _ (by decide)]; exact h.update,
    by rw [hne _ (by decide)]; exact h.car, by rw [hne _ (by decide)]; exact h.cdr,
    by rw [hne _ (by decide)]; exact h.cons, by rw [hne _ (by decide)]; exact h.list,
    by rw [hne _ (by decide)]; exact h.setCar, by rw [hne _ (by decide)]; exact h.setCdr⟩

theorem libSt_withForce {st : St} (h : LibOK st.globals) : LibSt (withForce st) :=
  ⟨libOK_withForce h, by simp [withForce, lookup_insertG]⟩

theorem wf_withForce {st : St} (hst : WFSt st) : WFSt (withForce st) :=
  hst.insertG k_force cForce (by intro p hp; cases hp)

/-- **expansion leg** -/
theorem expansion_leg (m : Nat) (e : Datum) (ρ : Env) (st : St) (hst : WFSt st) (hρ : EnvOK st.store.size ρ)
    (hρ1 : ρ.lookup k_force = none) (hρ2 : ρ.lookup k_makePromise = none) (hlib : LibOK st.globals)
    (hce : mentions k_force e = false) (hinv : Inv k_force st)
    (hkeep : ∀ m v s2, (evalN m).eval e ρ (preX e ρ (withForce st)) = .ok v s2 → LibSt s2)
    (hI : (guardN m).eval e ρ st ≠ .timeout) :
    ResRelW (shiftAt st.store.size 7) [k_force] ((guardN m).eval e ρ st)
      ((evalN (m+12)).eval (forceUse (delayFull e)) ρ (withForce st)) ∧
    ∀ vX sX, (evalN (m+12)).eval (forceUse (delayFull e)) ρ (withForce st) = .ok vX sX →
      PromStruct sX.store (st.store.size + 3) true vX := by
  -- T01.1: rebinding `force`
  have hfr := frame_guardN (x := k_force) m e ρ hce hinv cForce
  have hwf := wf_withForce hst
  -- simulation with the frame `J` into the store with the seven cells
  have hsz : (preX e ρ (withForce st)).store.size = (withForce st).store.size + 7 := by
    simp only [preX]; rw [size_pushAll]; rfl
  have hfwd := ExtraJ.extra_cell_invariance
    (J := junkX (withForce st).store.size 7 (preX e ρ (withForce st)).store)
    (inj_shiftAt (withForce st).store.size 7) m e (envRel_shift_self (k := 7) hρ) (cleanB_nil e)
    (stRelJ_extend hwf 7 (preX e ρ (withForce st)).store hsz (fun l hl => get_pushAll_lt _ _ l hl))
  have hoff : ∀ l, shiftAt st.store.size 7 l ≠ st.store.size + 2 := by
    intro l; unfold shiftAt; split <;> omega
  cases hRI : (guardN m).eval e ρ st with
  | timeout => exact absurd hRI hI
  | err c sI =>
    rw [hRI] at hfr
    cases hR2 : (guardN m).eval e ρ { st with globals := insertG k_force cForce st.globals } with
    | ok _ _ => rw [hR2] at hfr; exact hfr.elim
    | timeout => rw [hR2] at hfr; exact hfr.elim
    | err c2 sI2 =>
      rw [hR2] at hfr
      obtain ⟨ec, _, hsim⟩ := hfr
      subst ec
      have hR2' : (guardN m).eval e ρ (withForce st) = .err c sI2 := hR2
      rw [hR2'] at hfwd
      obtain ⟨s2, e2, rs⟩ := hfwd.err_inv
      have herr := forceDelayX_err m e ρ (withForce st) s2 c (libSt_withForce hlib) hρ1 hρ2 e2
      rw [evalN_mono (show m + 10 ≤ m + 12 by omega) _ ρ _ (by rw [herr]; simp), herr]
      refine ⟨⟨rfl, ?_, ?_, ?_⟩, fun _ _ h => by cases h⟩
      · intro l d hl
        exact rs.cells l d (by rw [hsim.store]; exact hl)
      · rw [rs.out, hsim.out]
      · intro y hy
        have hy' : y ≠ k_force := by simpa using hy
        rw [← hsim.globals y hy']
        exact rs.globals y
  | ok vI sI =>
    rw [hRI] at hfr
    cases hR2 : (guardN m).eval e ρ { st with globals := insertG k_force cForce st.globals } with
    | err _ _ => rw [hR2] at hfr; exact hfr.elim
    | timeout => rw [hR2] at hfr; exact hfr.elim
    | ok vI2 sI2 =>
      rw [hR2] at hfr
      obtain ⟨ev, _, _, hsim⟩ := hfr
      subst ev
      have hR2' : (guardN m).eval e ρ (withForce st) = .ok vI sI2 := hR2
      rw [hR2'] at hfwd
      obtain ⟨vX, s2, e2, rv, rs⟩ := hfwd.ok_inv
      -- growth of `I`'s store, hence of the expansion's
      have hgI : st.store.size ≤ sI.store.size := by
        have h1 : (evalN m).eval e ρ st = .ok vI sI := by
          rw [guardN_eval_evalN m e ρ st (by rw [hRI]; simp), hRI]
        exact (wf_evalN_ok hst hρ h1).2.1
      have hfront := rs.front 0
      simp only [Nat.add_zero] at hfront
      have hs2 : sI2.store.size + 7 = s2.store.size := by
        rw [← hfront]
        have : (withForce st).store.size ≤ sI2.store.size := by rw [hsim.store]; exact hgI
        exact (shiftAt_ge this).symm
      have hgrow : (preX e ρ (withForce st)).store.size ≤ s2.store.size := by
        rw [hsz, ← hs2, hsim.store]
        show st.store.size + 7 ≤ _
        omega
      have hint : ∀ i, i < 7 → s2.store[(withForce st).store.size + i]? =
          (preX e ρ (withForce st)).store[(withForce st).store.size + i]? := by
        intro i hi
        have hlt : (withForce st).store.size + i < (preX e ρ (withForce st)).store.size := by rw [hsz]; omega
        rw [Array.getElem?_eq_getElem hlt]
        apply rs.junk
        simp only [junkX]
        rw [if_pos ⟨by omega, by omega⟩, Array.getElem?_eq_getElem hlt]
      obtain ⟨s3, e3, ho, hg3, _, hcells, hps⟩ := forceDelayX_ok m e ρ (withForce st) s2 vX (libSt_withForce hlib)
        hρ1 hρ2 e2 (hkeep m vX s2 e2) hgrow hint
      rw [e3]
      refine ⟨⟨rv, ?_, ?_, ?_⟩, fun _ _ h => by cases h; exact hps⟩
      · intro l d hl
        obtain ⟨c', h1, h2⟩ := rs.cells l d (by rw [hsim.store]; exact hl)
        refine ⟨c', ?_, h2⟩
        rw [show (withForce st).store.size = st.store.size from rfl] at h1
        have hlt := get_lt h1
        rw [hcells _ hlt (hoff l)]
        exact h1
      · rw [ho, rs.out, hsim.out]
      · intro y hy
        have hy' : y ≠ k_force := by simpa using hy
        rw [← hsim.globals y hy', hg3]
        exact rs.globals y

/-- **`(force (delay e))`**, native meaning vs. the expansion run with the prelude's library: if the native
    run (fuel `m + 3`, slack-guarded by one cell) is definite, it is `Spec.Eval`'s run and the expansion
    (fuel `m + 12`) agrees with it in the sense of `SpanAgree`. -/
theorem force_delay_agrees (e : Datum) (ρ : Env) (st : St) (hst : WFSt st) (hρ : EnvOK st.store.size ρ)
    (hdef : isDefine e = false) (hρ1 : ρ.lookup k_force = none) (hρ2 : ρ.lookup k_makePromise = none)
    (hg : st.globals.lookup k_force = some (.prim .force)) (hlib : LibOK st.globals)
    (hce : mentions k_force e = false) (hinv : Inv k_force st)
    (hkeep : ∀ m v s2, (evalN m).eval e ρ (preX e ρ (withForce st)) = .ok v s2 → LibSt s2)
    (m : Nat) (hd : (sguardN 1 (m+3)).eval (forceUse (delayUse e)) ρ st ≠ .timeout) :
    (evalN (m+3)).eval (forceUse (delayUse e)) ρ st = (sguardN 1 (m+3)).eval (forceUse (delayUse e)) ρ st ∧
    SpanAgree ((evalN (m+3)).eval (forceUse (delayUse e)) ρ st)
      ((evalN (m+3+9)).eval (forceUse (delayFull e)) ρ (withForce st)) st.store.size (st.store.size + 3) := by
  obtain ⟨hI, hev, hN, hNm⟩ := native_leg m e ρ st hst hρ hdef hρ1 hg hd
  obtain ⟨hX, hXm⟩ := expansion_leg m e ρ st hst hρ hρ1 hρ2 hlib hce hinv hkeep hI
  refine ⟨hev, (guardN m).eval e ρ st, shiftAt st.store.size 1, shiftAt st.store.size 7,
    inj_shiftAt _ _, inj_shiftAt _ _, hN, hX, ?_⟩
  intro vN sN vX sX h1 h2
  exact ⟨hNm vN sN h1, hXm vX sX h2⟩

end Marwood.Spec.Eval.Derived
