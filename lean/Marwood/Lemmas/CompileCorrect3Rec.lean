import Marwood.Lemmas.CompileCorrect3Lambda
/-!
# T01.3 stage 3 — blocks of `lambda`-initialised internal definitions (self and mutual recursion): one definition

Inside a block `F3B.block Bs` the heap does NOT satisfy `Inv3`: the slot of `g₁` holds a closure that captured the
still `Undefined` location of `g₂`. Only `lambda` expressions are evaluated there (CLOSURE captures locations without
reading them), so the block is proved as a unit under `BlkInv` — the closures stored so far demand of a captured
location that it is initialised OR a location of the block — and `Inv3` is re-established behind the last definition
(`CompileCorrect3RecBlock.lean`). Here: `BlkInv` and one definition of a block (`block_step`, `block_step_cur`).
-/
namespace Marwood.Lemmas.CompileCorrect3
open Marwood Marwood.Vm Marwood.Lemmas.CompileCorrect Marwood.Lemmas.CompileCorrect2
open Marwood.Spec.Eval (Val Prim Cell Env evalN evalStep applyStep evalArgs properList quoteVal kwOf insertG
  k_quote k_if_ k_setBang k_define k_lambda)

variable {H : Type} {ops : HeapOps H} {D : RepData2 ops}

theorem F3K_ints_ne {G : Text → Prop} {f : Nat} {c : Ctx} {ns us : Text → Prop} {Bs todo ints : List Text} {bodyD : Datum}
    (hne : todo ≠ []) (hK : F3K G f c ns us Bs todo ints bodyD) : ints ≠ [] := by
  cases hK with
  | defl => intro h; cases h
  | defc => intro h; cases h
  | done => exact absurd rfl hne

theorem F3_lambda_inv {G : Text → Prop} {f : Nat} {c : Ctx} {ns us : Text → Prop} {t : Bool} {formals body : Datum}
    (h : F3 G f c ns us t (.pair (.sym k_lambda) (.pair formals body))) :
    ∃ f' p ps rest ints caps, f = f' + 1 ∧
      lambdaParts f' c (.pair (.sym k_lambda) (.pair formals body)) false = .ok p ∧
      Spec.Eval.parseFormals formals = some (ps, rest) ∧ p.formals = ps ++ rest.toList ∧
      p.isVararg = rest.isSome ∧ (ps ++ rest.toList ++ ints).Nodup ∧
      p.ctx.envmap = em3 (ps ++ rest.toList) ints caps ∧
      (∀ q ∈ caps, q.2 = .iofEnvironment ∧ inEnv c q.1 = true ∧ ¬ us q.1) ∧
      F3B G f' p.ctx (fun x => x ∈ ps ++ rest.toList ++ ints ∨ ns x) (fun x => x ∈ ints) ints body := by
  generalize he : Datum.pair (.sym k_lambda) (.pair formals body) = e at h
  cases h with
  | app fn args hh _ _ =>
    injection he with e1 _
    have := hh.2 k_lambda e1.symm
    exact absurd this (by decide)
  | lambda formals' body' p ps rest ints caps h1 h2 h3 h4 h5 h6 h7 h8 =>
    injection he with _ e2; injection e2 with e3 e4
    subst e3 e4
    exact ⟨_, p, ps, rest, ints, caps, rfl, h1, h2, h3, h4, h5, h6, h7, h8⟩
  | _ => first
    | cases he
    | (injection he with e1 _; injection e1 with e1; exact absurd e1 (by decide))

/-- the location `(e, n)` is denoted, in the environment `ep0` of heap `h0`, by a name with property `P` -/
def BLoc (ops : HeapOps H) (c : Ctx) (h0 : H) (ep0 : Nat) (P : Text → Prop) (e n : Nat) : Prop :=
  ∃ x, P x ∧ ∃ j, slotIdx c.envmap x = some j ∧ Denotes ops h0 ep0 j e n

/-- inside a block `Bs` entered in `s0` / `σ0`, the definitions of the names `dn` evaluated: outside the locations of `dn`
    everything is as at the entry; a location of `dn` holds a closure whose captured locations are initialised or
    locations of the block -/
structure BlkInv (D : RepData2 ops) (W : World) (c : Ctx) (ρ : Env) (Bs : List Text) (s0 : MSt H) (σ0 : SSt)
    (dn : Text → Prop) (s : MSt H) (σ : SSt) : Prop where
  ipL : s.ipL = s0.ipL
  bp : s.bp = s0.bp
  ep : s.ep = s0.ep
  stack : s.stack = s0.stack
  ext : Ext3 D s0.heap σ0.store s.heap σ.store
  srx : D.SRx s.heap σ.store
  globals : σ.globals = σ0.globals
  glob : ∀ m, ops.globGet s.heap m = ops.globGet s0.heap m
  frame : ∀ e n l, W e n l → ¬ BLoc ops c s0.heap s0.ep dn e n →
    ops.envGet s.heap e n = ops.envGet s0.heap e n ∧ σ.store[l]? = σ0.store[l]?
  dnOK : ∀ e n l, W e n l → BLoc ops c s0.heap s0.ep dn e n →
    ∃ v lam cenv ps rest bl, ops.envGet s.heap e n = some v ∧ isEnvPtr v = false ∧ v ≠ .undefined ∧
      σ.store[l]? = some (.var (.closure ps rest bl ρ)) ∧ ops.callee s.heap v = .closure lam cenv ∧
      ClosOK3g D W s.heap (fun e n => InitM ops s.heap e n ∨ BLoc ops c s0.heap s0.ep (· ∈ Bs) e n) lam cenv ps rest
        bl ρ

theorem BlkInv.start (s : MSt H) {W : World} {c : Ctx} {ρ : Env} {Bs : List Text} {σ : SSt}
    (hsrx : D.SRx s.heap σ.store) : BlkInv D W c ρ Bs s σ (fun _ => False) s σ :=
  ⟨rfl, rfl, rfl, rfl, Ext3.refl _ _, hsrx, rfl, fun _ => rfl, fun _ _ _ _ _ => ⟨rfl, rfl⟩,
    fun _ _ _ _ ⟨_, hx, _⟩ => hx.elim⟩

theorem BlkInv.congr {W : World} {c : Ctx} {ρ : Env} {Bs : List Text} {s0 s : MSt H} {σ0 σ : SSt}
    {dn dn' : Text → Prop} (b : BlkInv D W c ρ Bs s0 σ0 dn s σ) (h : ∀ y, dn y ↔ dn' y) :
    BlkInv D W c ρ Bs s0 σ0 dn' s σ := by
  have : dn = dn' := funext fun y => propext (h y)
  rw [← this]; exact b

theorem BlkInv.slot {W : World} {c : Ctx} {ρ : Env} {Bs : List Text} {s0 s : MSt H} {σ0 σ : SSt} {dn : Text → Prop}
    (b : BlkInv D W c ρ Bs s0 σ0 dn s σ) (hi0 : Inv3 D W s0.heap σ0) {e n l : Nat} (hW : W e n l) :
    ∃ old wold, ops.envGet s.heap e n = some old ∧ isEnvPtr old = false ∧ σ.store[l]? = some (.var wold) := by
  classical
  by_cases hq : BLoc ops c s0.heap s0.ep dn e n
  · obtain ⟨v, _, _, ps, rest, bl, g1, g2, _, g4, _⟩ := b.dnOK e n l hW hq
    exact ⟨v, _, g1, g2, g4⟩
  · obtain ⟨g1, g2⟩ := b.frame e n l hW hq
    obtain ⟨v, w, k1, k2, k3, _⟩ := hi0.vars e n l hW
    exact ⟨v, w, by rw [g1]; exact k1, k2, by rw [g2]; exact k3⟩

abbrev BlkP (ops : HeapOps H) (c : Ctx) (Bs : List Text) (s0 : MSt H) (h : H) (e n : Nat) : Prop :=
  InitM ops h e n ∨ BLoc ops c s0.heap s0.ep (· ∈ Bs) e n

theorem BlkInv.envRep {W : World} {c : Ctx} {ρ : Env} {us : Text → Prop} {Bs : List Text} {s0 s : MSt H} {σ0 σ : SSt}
    {dn : Text → Prop} (b : BlkInv D W c ρ Bs s0 σ0 dn s σ) (her0 : EnvRep3 ops W s0.heap c s0.ep ρ us) :
    EnvRep3g ops W s.heap (BlkP ops c Bs s0 s.heap) c s.ep ρ (fun z => us z ∧ z ∉ Bs) := by
  classical
  intro y j hj
  obtain ⟨e, n, l', hd, hl', hW, hini⟩ := her0 y j hj
  refine ⟨e, n, l', by rw [b.ep]; exact hd.ext b.ext.toExt2, hl', hW, fun hnu => ?_⟩
  by_cases hy : y ∈ Bs
  · exact .inr ⟨y, hy, j, hj, hd⟩
  · exact .inl (b.ext.init _ _ (hini (fun hu => hnu ⟨hu, hy⟩)))

theorem BlkP.mono {c : Ctx} {Bs : List Text} {s0 : MSt H} {h h' : H} {S S' : Array Cell} (x : Ext3 D h S h' S')
    (e n : Nat) (y : BlkP ops c Bs s0 h e n) : BlkP ops c Bs s0 h' e n :=
  y.elim (fun i => .inl (x.init e n i)) .inr

/-- one definition of a block, given the run of CLOSURE (`hclo`) -/
theorem block_step_core (L : Laws3 D) {W : World} {c : Ctx} {ρ : Env} {us : Text → Prop} {Bs : List Text}
    {s0 s : MSt H} {σ0 σ : SSt} {dn : Text → Prop} {x : Text} {codeE : List BC}
    (hi0 : Inv3 D W s0.heap σ0) (her0 : EnvRep3 ops W s0.heap c s0.ep ρ us)
    (b : BlkInv D W c ρ Bs s0 σ0 dn s σ) (hin : inEnv c x = true)
    {l : Nat} (hl : ρ.lookup x = some l) (hlt : l < σ.store.size) {ps : List Text} {rest : Option Text}
    {bl : List Datum}
    (hclo : ∃ (h' : H) (pp lam cenv : Nat),
      Steps ops s { s with heap := h', acc := .ptr pp, ipO := s.ipO + codeE.length } ∧
      ops.callee h' (.ptr pp) = .closure lam cenv ∧
      ClosOK3g D W h' (BlkP ops c Bs s0 h') lam cenv ps rest bl ρ ∧ (∀ k, ops.envGet s.heap cenv k = none) ∧
      (∀ e k, e ≠ cenv → ops.envGet h' e k = ops.envGet s.heap e k) ∧
      (∀ m, ops.globGet h' m = ops.globGet s.heap m) ∧ Ext3 D s.heap σ.store h' σ.store ∧ D.SRx h' σ.store)
    (hcS0 : CodeAt2 D c.envmap s.heap σ.store s.ipL (s.ipO + codeE.length)
      [.op .mov, .acc, emitLoc c x, .op .movImm, .void, .acc]) :
    ∃ s', Steps ops s s' ∧ s'.ipO = s.ipO + (codeE.length + 6) ∧ s'.acc = .void ∧
      BlkInv D W c ρ Bs s0 σ0 (fun y => dn y ∨ y = x) s'
        { σ with store := σ.store.setIfInBounds l (.var (.closure ps rest bl ρ)) } := by
  classical
  obtain ⟨h', pp, lam, cenv, hsteps, hcallee, hok, hfresh, hframe, hglob, hext, hsrx'⟩ := hclo
  obtain ⟨j, hj⟩ := (slotIdx_some_iff_inEnv c x).mp hin
  obtain ⟨e, k, l', hd0, hl', hW, _⟩ := her0 x j hj
  rw [hl] at hl'; cases hl'
  obtain ⟨old, wold, g1, g2, g3⟩ := b.slot hi0 hW
  have hne : e ≠ cenv := by
    intro e0; subst e0
    rw [hfresh k] at g1; cases g1
  have hnok : ¬ D.envOK h' e := by
    intro ok
    obtain ⟨v0, _, k1, _⟩ := hi0.vars e k l hW
    exact hi0.wact e k l hW ((b.ext.trans hext).okBack e k v0 k1 ok)
  have hd1 : Denotes ops h' s.ep j e k := by rw [b.ep]; exact (hd0.ext b.ext.toExt2).ext hext.toExt2
  have hcS : CodeAt2 D c.envmap h' σ.store s.ipL (s.ipO + codeE.length)
      [.op .mov, .acc, emitLoc c x, .op .movImm, .void, .acc] := hcS0.ext hext.toExt2
  obtain ⟨h'', hsteps2, hext2, hsrx2, hget, hglob2⟩ :=
    store_core (s := { s with heap := h', acc := .ptr pp, ipO := s.ipO + codeE.length }) L hj hin hcS hd1 hsrx' hnok
      (by rw [hframe e k hne]; exact g1) g2 (L.clos_not_envptr _ _ _ _ hcallee) (L.clos_ne_undefined _ _ _ _ hcallee)
  have hse : StoreExt σ.store (σ.store.setIfInBounds l (.var (.closure ps rest bl ρ))) :=
    StoreExt.setVar _ _ _ _ g3
  have hx12 : Ext3 D s.heap σ.store h'' σ.store := hext.trans hext2
  have hPm : ∀ e n, BlkP ops c Bs s0 h' e n → BlkP ops c Bs s0 h'' e n := BlkP.mono hext2
  have hPm2 : ∀ e n, BlkP ops c Bs s0 s.heap e n → BlkP ops c Bs s0 h'' e n := BlkP.mono hx12
  -- an old slot that exists is not the new closure environment
  have old_get : ∀ e' n' l', W e' n' l' → ¬ (e' = e ∧ n' = k) → ops.envGet h'' e' n' = ops.envGet s.heap e' n' := by
    intro e' n' l' hW' hns
    obtain ⟨o', _, q1, _, _⟩ := b.slot hi0 hW'
    have hne' : e' ≠ cenv := by
      intro e0; subst e0
      rw [hfresh n'] at q1; cases q1
    rw [hget]; simp only [hns, if_false]
    exact hframe e' n' hne'
  refine ⟨_, hsteps.trans hsteps2, by show s.ipO + codeE.length + 3 + 3 = _; omega, rfl, ?_⟩
  refine ⟨b.ipL, b.bp, b.ep, b.stack, b.ext.trans (hx12.trans (Ext3.storeOnly L h'' hse)),
    L.srx_store _ _ _ hse hsrx2, b.globals, fun m => ((hglob2 m).trans (hglob m)).trans (b.glob m), ?_, ?_⟩
  · intro e' n' l' hW' hnq
    have hns : ¬ (e' = e ∧ n' = k) := by
      rintro ⟨rfl, rfl⟩
      exact hnq ⟨x, .inr rfl, j, hj, hd0⟩
    have hnq0 : ¬ BLoc ops c s0.heap s0.ep dn e' n' := fun ⟨y, hy, r⟩ => hnq ⟨y, .inl hy, r⟩
    obtain ⟨q1, q2⟩ := b.frame e' n' l' hW' hnq0
    have hll : l ≠ l' := by
      intro e0; subst e0
      exact hns (hi0.winj _ _ _ _ _ hW' hW)
    refine ⟨(old_get e' n' l' hW' hns).trans q1, ?_⟩
    show (σ.store.setIfInBounds l _)[l']? = _
    rw [Array.getElem?_setIfInBounds_ne hll]; exact q2
  · intro e' n' l' hW' hq
    by_cases hsame : e' = e ∧ n' = k
    · obtain ⟨rfl, rfl⟩ := hsame
      have : l' = l := hi0.wfun _ _ _ _ hW' hW
      subst this
      refine ⟨.ptr pp, lam, cenv, ps, rest, bl, (by rw [hget]; simp), rfl, (by intro e0; cases e0), ?_,
        hext2.clos _ _ _ hcallee, hok.mono hext2 (World.le_refl _) hPm⟩
      show (σ.store.setIfInBounds l' _)[l']? = _
      simp [hlt]
    · have hq0 : BLoc ops c s0.heap s0.ep dn e' n' := by
        obtain ⟨y, hy, j', hj', hdy⟩ := hq
        rcases hy with hy | rfl
        · exact ⟨y, hy, j', hj', hdy⟩
        · rw [hj] at hj'; cases hj'
          exact absurd (Denotes.func hdy hd0) hsame
      obtain ⟨v', lam', cenv', ps', rest', bl', q1, q2, q3, q4, q5, q6⟩ := b.dnOK e' n' l' hW' hq0
      have hll : l ≠ l' := by
        intro e0; subst e0
        exact hsame (hi0.winj _ _ _ _ _ hW' hW)
      refine ⟨v', lam', cenv', ps', rest', bl', (old_get e' n' l' hW' hsame).trans q1, q2, q3, ?_,
        hx12.clos _ _ _ q5, q6.mono hx12 (World.le_refl _) hPm2⟩
      show (σ.store.setIfInBounds l _)[l']? = _
      rw [Array.getElem?_setIfInBounds_ne hll]; exact q4


theorem block_step (L : Laws3 D) {n : Nat} {W : World} {c : Ctx} {ρ : Env} {us : Text → Prop} {Bs : List Text}
    {s0 s : MSt H} {σ0 σ : SSt} {dn : Text → Prop} {x : Text} {formals lbody : Datum} {f0 : Nat} {cst cst1 : CState}
    {base : Nat} {codeE : List BC}
    (hi0 : Inv3 D W s0.heap σ0) (her0 : EnvRep3 ops W s0.heap c s0.ep ρ us)
    (b : BlkInv D W c ρ Bs s0 σ0 dn s σ) (hin : inEnv c x = true)
    (hf : F3 D.setG f0 c (bound ρ) (fun z => us z ∧ z ∉ Bs) false (.pair (.sym k_lambda) (.pair formals lbody)))
    (cE : compileExpr f0 cst c base false (.pair (.sym k_lambda) (.pair formals lbody)) = .ok (cst1, codeE))
    (hpre1 : cst1.lambdas <+: D.final)
    (hc : CodeAt2 D c.envmap s.heap σ.store s.ipL base
      (codeE ++ [.op .mov, .acc, emitLoc c x, .op .movImm, .void, .acc])) (hip : s.ipO = base)
    {l : Nat} (hl : ρ.lookup x = some l) {v : Val} {σ1 : SSt}
    (he1 : (evalN n).eval (.pair (.sym k_lambda) (.pair formals lbody)) ρ σ = .ok v σ1) (hlt : l < σ1.store.size) :
    ∃ s', Steps ops s s' ∧ s'.ipO = s.ipO + (codeE.length + 6) ∧ s'.acc = .void ∧
      BlkInv D W c ρ Bs s0 σ0 (fun y => dn y ∨ y = x) s' { σ1 with store := σ1.store.setIfInBounds l (.var v) } := by
  obtain ⟨f', p, ps, rest, ints, caps, rfl, h1, h2, h3, h4, h5, h6, h7, h8⟩ := F3_lambda_inv hf
  cases n with
  | zero => cases he1
  | succ m =>
  change evalStep (evalN m) (.pair (.sym k_lambda) (.pair formals lbody)) ρ σ = .ok v σ1 at he1
  obtain ⟨h', pp, lam, cenv, bl, hsteps, rfl, hσ, hcallee, hok, hfresh, hframe, hglob, hext, hsrx'⟩ :=
    closure_core (P' := fun h' => BlkP ops c Bs s0 h') L h1 h2 h3 h4 h5 h6 h7 h8 cE hpre1 he1 hc.left hip b.srx
      (b.envRep her0) (fun h' x e n y => BlkP.mono x e n y)
  have hσ' := hσ.symm
  subst hσ'
  exact block_step_core L hi0 her0 b hin hl hlt ⟨h', pp, lam, cenv, hsteps, hcallee, hok, hfresh, hframe, hglob, hext,
    hsrx'⟩ (by rw [hip]; exact hc.right)

theorem block_step_cur (L : Laws3 D) {W : World} {c : Ctx} {ρ : Env} {us : Text → Prop} {Bs : List Text}
    {s0 s : MSt H} {σ0 σ : SSt} {dn : Text → Prop} {x : Text} {formals lbody : Datum} {f0 : Nat} {cst cst1 : CState}
    {base : Nat} {code1 : List BC} {p : LambdaParts} {ps : List Text} {rst : Option Text} {lints : List Text}
    {caps : List (Text × Source)} {b0 : Datum} {bs0 : List Datum}
    (hi0 : Inv3 D W s0.heap σ0) (her0 : EnvRep3 ops W s0.heap c s0.ep ρ us)
    (b : BlkInv D W c ρ Bs s0 σ0 dn s σ) (hin : inEnv c x = true)
    (hp : lambdaParts f0 c (curForm x formals lbody) true = .ok p)
    (h3 : p.formals = ps ++ rst.toList) (h4 : p.isVararg = rst.isSome) (h5 : (ps ++ rst.toList ++ lints).Nodup)
    (h6 : p.ctx.envmap = em3 (ps ++ rst.toList) lints caps)
    (h7 : ∀ q ∈ caps, q.2 = .iofEnvironment ∧ inEnv c q.1 = true ∧ ¬ (us q.1 ∧ q.1 ∉ Bs))
    (h8 : F3B D.setG f0 p.ctx (fun z => z ∈ ps ++ rst.toList ++ lints ∨ bound ρ z) (fun z => z ∈ lints) lints lbody)
    (hbl : properList lbody = some (b0 :: bs0))
    (c1 : compileExpr (f0 + 1) cst c base false (curForm x formals lbody) = .ok (cst1, code1))
    (hpre1 : cst1.lambdas <+: D.final)
    (hc : CodeAt2 D c.envmap s.heap σ.store s.ipL base code1) (hip : s.ipO = base)
    {l : Nat} (hl : ρ.lookup x = some l) (hlt : l < σ.store.size) :
    ∃ s', Steps ops s s' ∧ s'.ipO = s.ipO + code1.length ∧ s'.acc = .void ∧
      BlkInv D W c ρ Bs s0 σ0 (fun y => dn y ∨ y = x) s'
        { σ with store := σ.store.setIfInBounds l (.var (.closure ps rst (b0 :: bs0) ρ)) } := by
  obtain ⟨p', st0, bcode, hp', cb, hlam, rfl⟩ := compile_defcur_inv c1
  rw [hp] at hp'; cases hp'
  obtain ⟨hpb, hpa, hpro⟩ := lambdaParts_cur_inv hp
  rw [hlam] at hpre1
  obtain ⟨hfin, hpre0⟩ := prefix_get hpre1
  subst hip
  obtain ⟨h', pp, lam, cenv, hsteps, hcallee, hok, hfresh, hframe, hglob, hext, hsrx'⟩ :=
    closure_core0 (P' := fun h' => BlkP ops c Bs s0 h') L hpb hpa hpro h3 h4 h5 h6 h7 h8 hbl cb hfin hpre0 hc.left b.srx
      (b.envRep her0) (fun h' x e n y => BlkP.mono x e n y)
  obtain ⟨s', q1, q2, q3, q4⟩ := block_step_core (codeE := [.op .movImm, .lambda st0.lambdas.length, .acc, .op .closureAcc])
    L hi0 her0 b hin hl hlt ⟨h', pp, lam, cenv, hsteps, hcallee, hok, hfresh, hframe, hglob, hext, hsrx'⟩ hc.right
  exact ⟨s', q1, by rw [q2]; rfl, q3, q4⟩

end Marwood.Lemmas.CompileCorrect3
