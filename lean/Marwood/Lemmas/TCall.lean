import Marwood.Lemmas.Stack
/-!
# TCALL to a procedure

The two copy loops through the functional view of the stack; the procedure arm of `stepTCall` as a function
`tcallTail`; and `tcallTail_eq`: in a complete frame the stack part succeeds and replaces the frame — one layout for
both branches — and what remains is the cast of the saved `bp`. `tcallTail_run` adds that the saved `bp` is a
`BasePointer` cell; the no-panic lemma reads `tcallTail_eq`, since a cast that fails does not panic.
`k` is the cell UNDER the frame's first argument (`bp = k + fa`); the frame's `base` of `FDesc` and of C04 is `k + 1`.
-/
namespace Marwood.Vm
open Stack

/-- different-argc branch: `for it in (0..argc).rev() { push(stack[saved_sp - it - 1]) }`; the source block lies
    above the destination (which the frame layout guarantees) -/
theorem tcallCopyDiff_spec : ∀ (n savedSp : Nat) (st : Stack),
    savedSp < st.cells.length → st.sp + 1 + n ≤ savedSp →
    ∃ st', tcallCopyDiff n savedSp st = .ok st' ∧ st'.sp = st.sp + n ∧
      st.cells.length ≤ st'.cells.length ∧
      (∀ j, j < n → st'.cellAt (st.sp + 1 + j) = st.cellAt (savedSp - n + j)) ∧
      (∀ i, i ≤ st.sp → st'.cellAt i = st.cellAt i) ∧
      (∀ i, st.sp + n < i → st'.cellAt i = st.cellAt i) := by
  intro n
  induction n with
  | zero =>
    intro savedSp st _ _
    exact ⟨st, rfl, rfl, Nat.le_refl _, fun j hj => by omega, fun i _ => rfl, fun i _ => rfl⟩
  | succ n ih =>
    intro savedSp st hcap hsrc
    simp only [tcallCopyDiff]
    have hle : n + 1 ≤ savedSp := by omega
    simp only [usub, hle, if_true]
    have hi : savedSp - (n + 1) < st.cells.length := by omega
    show ∃ st', (do let v ← st.get (savedSp - (n + 1)); tcallCopyDiff n savedSp (st.push v)) = _ ∧ _
    rw [get_of_lt st _ hi]
    show ∃ st', tcallCopyDiff n savedSp (st.push (st.cellAt (savedSp - (n + 1)))) = _ ∧ _
    have hcap1 : savedSp < (st.push (st.cellAt (savedSp - (n + 1)))).cells.length :=
      Nat.lt_of_lt_of_le hcap (push_len _ _)
    obtain ⟨st', h1, h2, h3, h4, h5, h6⟩ :=
      ih savedSp (st.push (st.cellAt (savedSp - (n + 1)))) hcap1 (by simp; omega)
    refine ⟨st', h1, by simp at h2; omega, Nat.le_trans (push_len _ _) h3, ?_, ?_, ?_⟩
    · intro j hj
      cases j with
      | zero =>
        have := h5 (st.sp + 1) (by simp)
        rw [push_cellAt] at this
        simpa using this
      | succ j =>
        have := h4 j (by omega)
        simp only [push_sp] at this
        rw [push_cellAt] at this
        have hne : ¬ (savedSp - n + j = st.sp + 1) := by omega
        simp only [hne, if_false] at this
        have e1 : st.sp + 1 + (j + 1) = st.sp + 1 + 1 + j := by omega
        have e2 : savedSp - (n + 1) + (j + 1) = savedSp - n + j := by omega
        rw [e1, e2]; exact this
    · intro i hi'
      have := h5 i (by simp; omega)
      rw [push_cellAt] at this
      have hne : ¬ (i = st.sp + 1) := by omega
      simpa [hne] using this
    · intro i hi'
      have := h6 i (by simp; omega)
      rw [push_cellAt] at this
      have hne : ¬ (i = st.sp + 1) := by omega
      simpa [hne] using this

theorem getOffset_neg (st : Stack) (k : Nat) (h : k ≤ st.sp) (hcap : st.sp < st.cells.length) :
    st.getOffset (-(k : Int)) = .ok (st.cellAt (st.sp - k)) :=
  getOffset_of_lt st k h (by omega)

/-- equal-argc branch: `stack[bp - it] = stack[sp - 1 - it]` for `it` in `from .. from + k` -/
theorem tcallCopySame_spec : ∀ (k from_ bp : Nat) (st : Stack),
    st.sp < st.cells.length → from_ + k ≤ bp → bp + k + from_ < st.sp →
    ∃ st', tcallCopySame k from_ bp st = .ok st' ∧ st'.sp = st.sp ∧
      st'.cells.length = st.cells.length ∧
      (∀ j, j < k → st'.cellAt (bp - from_ - j) = st.cellAt (st.sp - 1 - from_ - j)) ∧
      (∀ i, (i + from_ + k ≤ bp ∨ bp < i + from_) → st'.cellAt i = st.cellAt i) := by
  intro k
  induction k with
  | zero =>
    intro from_ bp st _ _ _
    exact ⟨st, rfl, rfl, rfl, fun j hj => by omega, fun i _ => rfl⟩
  | succ k ih =>
    intro from_ bp st hcap hbp hsp
    simp only [tcallCopySame]
    have e : (-1 - (from_ : Int)) = -((1 + from_ : Nat) : Int) := by omega
    rw [e, getOffset_neg st (1 + from_) (by omega) hcap]
    have hle : from_ ≤ bp := by omega
    simp only [usub, hle, if_true]
    have hidx : bp - from_ < st.cells.length := by omega
    show ∃ st', (do let st1 ← st.set (bp - from_) (st.cellAt (st.sp - (1 + from_)));
                    tcallCopySame k (from_ + 1) bp st1) = _ ∧ _
    rw [set_of_lt st _ _ hidx]
    show ∃ st', tcallCopySame k (from_ + 1) bp
        { st with cells := st.cells.set (bp - from_) (st.cellAt (st.sp - (1 + from_))) } = _ ∧ _
    obtain ⟨st', h1, h2, h3, h4, h5⟩ :=
      ih (from_ + 1) bp { st with cells := st.cells.set (bp - from_) (st.cellAt (st.sp - (1 + from_))) }
        (by simpa using hcap) (by omega) (by simp; omega)
    refine ⟨st', h1, by simpa using h2, by simpa using h3, ?_, ?_⟩
    · intro j hj
      cases j with
      | zero =>
        have := h5 (bp - from_) (.inr (by omega))
        rw [at_set_cells _ _ _ _ hidx] at this
        simp only [if_true] at this
        have e2 : st.sp - 1 - from_ - 0 = st.sp - (1 + from_) := by omega
        simpa [e2] using this
      | succ j =>
        have := h4 j (by omega)
        rw [at_set_cells _ _ _ _ hidx] at this
        simp only at this
        have hne : ¬ (st.sp - 1 - (from_ + 1) - j = bp - from_) := by omega
        simp only [hne, if_false] at this
        have e1 : bp - from_ - (j + 1) = bp - (from_ + 1) - j := by omega
        have e2 : st.sp - 1 - from_ - (j + 1) = st.sp - 1 - (from_ + 1) - j := by omega
        rw [e1, e2]; exact this
    · intro i hi'
      have := h5 i (by omega)
      rw [at_set_cells _ _ _ _ hidx] at this
      have hne : ¬ (i = bp - from_) := by omega
      simpa [hne] using this

/-- the procedure arm of `stepTCall`, once the target lambda is known -/
def tcallTail {H : Type} (s : St H) (lam : Nat) : Outcome (St H) := do
  let argc ← (do let v ← s.stack.getOffset 0; asArgc v)
  let frameArgc ← (do let v ← s.stack.get (s.bp + 1); asArgc v)
  if argc = frameArgc then do
    let savedBp ← s.stack.get (s.bp + 4)
    let st ← tcallCopySame argc 0 s.bp s.stack
    let st := { st with sp := s.bp + 3 }
    let bp ← asBp savedBp
    .ok { s with stack := st, bp := bp, ipL := lam, ipO := 0 }
  else do
    let savedSp := s.stack.sp
    let savedEp ← s.stack.get (s.bp + 2)
    let savedIp ← s.stack.get (s.bp + 3)
    let savedBp ← s.stack.get (s.bp + 4)
    let sp0 ← usub s.bp frameArgc "tcall: bp - frame_argc"
    let st := { s.stack with sp := sp0 }
    let st ← tcallCopyDiff argc savedSp st
    let st := ((st.push (.argc argc)).push savedEp).push savedIp
    let bp ← asBp savedBp
    .ok { s with stack := st, bp := bp, ipL := lam, ipO := 0 }

theorem push3_cellAt (st : Stack) (a b c : VCell) (i : Nat) :
    (((st.push a).push b).push c).cellAt i =
      if i = st.sp + 3 then c else if i = st.sp + 2 then b else if i = st.sp + 1 then a else st.cellAt i := by
  simp only [push_cellAt, push_sp]

/-- **TCALL to a procedure.** In a complete frame the stack part of `tcallTail` succeeds: the operands are moved to
    `k+1 … k+n`, the count and the replaced frame's saved `ep` / `ip` follow; nothing at or below `k` is written. -/
theorem tcallTail_eq {H : Type} (s : St H) (lam : Nat) {fa n k : Nat}
    (hcap : s.stack.sp < s.stack.cells.length) (hfa : s.stack.cellAt (s.bp + 1) = .argc fa)
    (htop : s.stack.cellAt s.stack.sp = .argc n) (hroom : s.bp + 4 + n < s.stack.sp) (hk : s.bp = k + fa) :
    ∃ st, tcallTail s lam = (asBp (s.stack.cellAt (s.bp + 4)) >>= fun B =>
        .ok { s with stack := st, bp := B, ipL := lam, ipO := 0 }) ∧
      st.sp = k + n + 3 ∧ st.sp < st.cells.length ∧ s.stack.cells.length ≤ st.cells.length ∧
      (∀ j, j < n → st.cellAt (k + 1 + j) = s.stack.cellAt (s.stack.sp - n + j)) ∧
      st.cellAt (k + n + 1) = .argc n ∧ st.cellAt (k + n + 2) = s.stack.cellAt (s.bp + 2) ∧
      st.cellAt (k + n + 3) = s.stack.cellAt (s.bp + 3) ∧
      ∀ i, i ≤ k → st.cellAt i = s.stack.cellAt i := by
  have hg : ∀ j, j ≤ 4 → s.stack.get (s.bp + j) = .ok (s.stack.cellAt (s.bp + j)) :=
    fun j hj => get_of_lt _ _ (by omega)
  have hg0 : s.stack.getOffset 0 = .ok (.argc n) := by
    rw [← htop]; exact getOffset_neg s.stack 0 (Nat.zero_le _) hcap
  unfold tcallTail
  rw [hg0, hg 1 (by omega), hg 2 (by omega), hg 3 (by omega), hg 4 (by omega), hfa]
  simp only [outcome_bind_ok, asArgc]
  by_cases heq : n = fa
  ·
    subst heq
    obtain ⟨st', h1, h2, h3, h4, h5⟩ := tcallCopySame_spec n 0 s.bp s.stack hcap (by omega) (by omega)
    rw [if_pos rfl, h1]
    refine ⟨_, rfl, by show s.bp + 3 = _; omega, by show s.bp + 3 < st'.cells.length; omega, Nat.le_of_eq h3.symm,
      fun j hj => ?_, ?_, ?_, ?_, fun i hi => h5 i (.inl (by omega))⟩
    · -- the loop counts down from the last operand: operand `j` is its iteration `n - 1 - j`
      obtain ⟨d, hd⟩ : ∃ d, n = j + 1 + d := ⟨n - 1 - j, by omega⟩
      have := h4 d (by omega)
      rwa [show s.bp - 0 - d = k + 1 + j by omega, show s.stack.sp - 1 - 0 - d = s.stack.sp - n + j by omega] at this
    · rw [← hk]; exact (h5 _ (.inr (by omega))).trans hfa
    · rw [← hk]; exact h5 _ (.inr (by omega))
    · rw [← hk]; exact h5 _ (.inr (by omega))
  ·
    rw [if_neg heq, usub, if_pos (by omega), show s.bp - fa = k by omega]
    obtain ⟨st', h1, h2, h3, h4, h5, -⟩ :=
      tcallCopyDiff_spec n s.stack.sp { s.stack with sp := k } hcap (by show k + 1 + n ≤ _; omega)
    simp only [outcome_bind_ok, h1]
    replace h2 : st'.sp = k + n := h2
    refine ⟨_, rfl, by simp only [push_sp, h2], push_sp_lt _ _,
      Nat.le_trans h3 (Nat.le_trans (Nat.le_trans (push_len _ _) (push_len _ _)) (push_len _ _)),
      fun j hj => ?_, ?_, ?_, ?_, fun i hi => ?_⟩
    · rw [push3_cellAt, h2, if_neg (by omega), if_neg (by omega), if_neg (by omega)]; exact h4 j hj
    · rw [push3_cellAt, h2, if_neg (by omega), if_neg (by omega), if_pos rfl]
    · rw [push3_cellAt, h2, if_neg (by omega), if_pos rfl]
    · rw [push3_cellAt, h2, if_pos rfl]
    · rw [push3_cellAt, h2, if_neg (by omega), if_neg (by omega), if_neg (by omega)]
      exact h5 i hi

theorem tcallTail_run {H : Type} (s : St H) (lam : Nat) {fa n B k : Nat}
    (hcap : s.stack.sp < s.stack.cells.length)
    (hfa : s.stack.cellAt (s.bp + 1) = .argc fa) (hB : s.stack.cellAt (s.bp + 4) = .basePtr B)
    (htop : s.stack.cellAt s.stack.sp = .argc n) (hroom : s.bp + 4 + n < s.stack.sp) (hk : s.bp = k + fa) :
    ∃ st, tcallTail s lam = .ok { s with stack := st, bp := B, ipL := lam, ipO := 0 } ∧
      st.sp = k + n + 3 ∧ st.sp < st.cells.length ∧ s.stack.cells.length ≤ st.cells.length ∧
      (∀ j, j < n → st.cellAt (k + 1 + j) = s.stack.cellAt (s.stack.sp - n + j)) ∧
      st.cellAt (k + n + 1) = .argc n ∧ st.cellAt (k + n + 2) = s.stack.cellAt (s.bp + 2) ∧
      st.cellAt (k + n + 3) = s.stack.cellAt (s.bp + 3) ∧
      ∀ i, i ≤ k → st.cellAt i = s.stack.cellAt i := by
  obtain ⟨st, h, r⟩ := tcallTail_eq s lam hcap hfa htop hroom hk
  rw [hB] at h
  exact ⟨st, h, r⟩

theorem stepTCall_closure {H : Type} {ops : HeapOps H} {s : St H} {lam env : Nat} (hc : ops.callee s.heap s.acc = .closure lam env) :
    stepTCall ops s = tcallTail s lam := by
  unfold stepTCall tcallTail
  rw [hc]
  rfl

theorem stepTCall_lambda {H : Type} {ops : HeapOps H} {s : St H} (hc : ops.callee s.heap s.acc = .lambda) :
    stepTCall ops s = (asPtr s.acc >>= fun lam => tcallTail s lam) := by
  unfold stepTCall tcallTail
  rw [hc]

end Marwood.Vm
