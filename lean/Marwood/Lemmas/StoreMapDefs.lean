import Marwood.Lemmas.StoreList
/-!
# Vocabulary of the `map` / `for-each` specification (C14)

* `Keeps M s s'` — the frame of a procedure argument: of the heap cells of `s` only those at the addresses `M` may
  differ in `s'`; the heap never shrinks (vectors and strings are not constrained: a callee may `vector-set!`).
* `SpineOff M s v as c` — a `Spine` whose cells lie outside `M`, so the list view survives every `Keeps M` step.
  With `M = (· < n)`: every cell was allocated at or after heap size `n`, a FRESH list.
* `Plan views tuples b` — what `map-all` does on the list views: the tuples of j-th element references the callee is
  applied to, and whether the walk ends at the end of a list (`b = true`) or runs into a non-pair other than `()`.
* `MapRun g s tuples s' ys` — the calls: the store is threaded through `g` on the tuples; between two calls it only
  grows (`Extends`: the pairs `map` itself allocates), so the only mutations of a run are the callee's.
* `MapCallee g M I tuples` — the law the procedure argument has to obey on this run.
-/
namespace Marwood.Store
open Outcome

structure Keeps (M : Nat → Prop) (s s' : Store) : Prop where
  len : s.cells.length ≤ s'.cells.length
  cells : ∀ i, i < s.cells.length → ¬ M i → s'.cells[i]? = s.cells[i]?

theorem Keeps.refl (M : Nat → Prop) (s : Store) : Keeps M s s := ⟨Nat.le_refl _, fun _ _ _ => rfl⟩

theorem Keeps.trans {M : Nat → Prop} {a b c : Store} (h1 : Keeps M a b) (h2 : Keeps M b c) :
    Keeps M a c :=
  ⟨Nat.le_trans h1.len h2.len, fun i hi hm => by
    rw [h2.cells i (Nat.lt_of_lt_of_le hi h1.len) hm, h1.cells i hi hm]⟩

theorem Extends.keeps {s s' : Store} (h : Extends s s') (M : Nat → Prop) : Keeps M s s' :=
  ⟨h.len, fun i hi _ => h.cells i hi⟩

theorem Keeps.cell {M : Nat → Prop} {s s' : Store} (h : Keeps M s s') {q : Nat} {c : VCell}
    (hm : ¬ M q) (hc : s.cells[q]? = some c) : s'.cells[q]? = some c := by
  rw [h.cells q (lt_of_cell hc) hm, hc]

theorem Keeps.weaken {M M' : Nat → Prop} {s s' : Store} (h : Keeps M s s') (hm : ∀ i, M i → M' i) :
    Keeps M' s s' :=
  ⟨h.len, fun i hi hn => h.cells i hi (fun h' => hn (hm i h'))⟩

inductive SpineOff (M : Nat → Prop) (s : Store) : VCell → List Nat → VCell → Prop
  | imm {v : VCell} : v.isValue = true → v.isPtr = false → SpineOff M s v [] v
  | done {q : Nat} {c : VCell} : ¬ M q → s.cells[q]? = some c → c.isPair = false →
      SpineOff M s (.ptr q) [] c
  | cons {p a d : Nat} {as : List Nat} {c : VCell} : ¬ M p → s.cells[p]? = some (.pair a d) →
      SpineOff M s (.ptr d) as c → SpineOff M s (.ptr p) (a :: as) c

theorem isPair_of_isValue {v : VCell} (h : v.isValue = true) (hp : v.isPtr = false) :
    v.isPair = false := by
  cases v <;> first | rfl | simp [VCell.isValue] at h | simp [VCell.isPtr] at hp

theorem SpineOff.spine {M : Nat → Prop} {s : Store} {v c : VCell} {as : List Nat}
    (h : SpineOff M s v as c) : Spine s v as c := by
  induction h with
  | imm hv hp => exact .done (get_imm hp) (isPair_of_isValue hv hp)
  | done _ hc hp => exact .done (get_of_cell hc) hp
  | cons _ hc _ ih => exact .cons (get_of_cell hc) ih

theorem Spine.isList {s : Store} {v : VCell} {as : List Nat} (h : Spine s v as .nil) :
    IsList s v as := by
  generalize hc : VCell.nil = c at h
  induction h with
  | done hg _ => subst hc; exact .nil hg
  | cons hg _ ih => exact .cons hg (ih hc)

theorem SpineOff.isList {M : Nat → Prop} {s : Store} {v : VCell} {as : List Nat}
    (h : SpineOff M s v as .nil) : IsList s v as := h.spine.isList

theorem SpineOff.keeps {M : Nat → Prop} {s s' : Store} (hk : Keeps M s s') {v c : VCell}
    {as : List Nat} (h : SpineOff M s v as c) : SpineOff M s' v as c := by
  induction h with
  | imm hv hp => exact .imm hv hp
  | done hm hc hp => exact .done hm (hk.cell hm hc) hp
  | cons hm hc _ ih => exact .cons hm (hk.cell hm hc) ih

theorem SpineOff.mono {M : Nat → Prop} {s s' : Store} (he : Extends s s') {v c : VCell}
    {as : List Nat} (h : SpineOff M s v as c) : SpineOff M s' v as c := h.keeps (he.keeps M)

theorem SpineOff.weaken {M M' : Nat → Prop} {s : Store} (hm : ∀ i, M' i → M i) {v c : VCell}
    {as : List Nat} (h : SpineOff M s v as c) : SpineOff M' s v as c := by
  induction h with
  | imm hv hp => exact .imm hv hp
  | done hn hc hp => exact .done (fun h' => hn (hm _ h')) hc hp
  | cons hn hc _ ih => exact .cons (fun h' => hn (hm _ h')) hc ih

theorem Spine.spineOff {s : Store} {v c : VCell} {as : List Nat} (h : Spine s v as c)
    (hv : v.isValue = true) : SpineOff (fun _ => False) s v as c := by
  induction h with
  | @done v c hg hp =>
    cases v with
    | ptr q => exact .done (fun h => h) (cell_of_get hg) hp
    | _ =>
      first
        | (simp [VCell.isValue] at hv; done)
        | (simp only [Store.get, Outcome.ok.injEq] at hg; subst hg; exact .imm rfl rfl)
  | @cons v a d as c hg _ ih =>
    cases v with
    | ptr q => exact .cons (fun h => h) (cell_of_get hg) (ih rfl)
    | _ => first | (simp [Store.get] at hg; done) | simp [VCell.isValue] at hv

theorem IsList.spineOff {s : Store} {v : VCell} {as : List Nat} (h : IsList s v as)
    (hv : v.isValue = true) : SpineOff (fun _ => False) s v as .nil := h.toSpine.spineOff hv

theorem SpineOff.nullP {M : Nat → Prop} {s : Store} {w : Nat} {as : List Nat} {c : VCell}
    (h : SpineOff M s (.ptr w) as c) : nullP s (.ptr w) = .ok (as.isEmpty && c.isNil) := by
  cases h with
  | imm _ hp => simp [VCell.isPtr] at hp
  | done _ hc _ => rw [nullP_of_get (get_of_cell hc)]; rfl
  | cons _ hc _ => rw [nullP_of_get (get_of_cell hc)]; rfl

/-- `ws` are the references of the lists with views `views` -/
inductive HeadsOff (M : Nat → Prop) (s : Store) : List Nat → List (List Nat × VCell) → Prop
  | nil : HeadsOff M s [] []
  | cons {w : Nat} {v : List Nat × VCell} {ws : List Nat} {vs : List (List Nat × VCell)} :
      SpineOff M s (.ptr w) v.1 v.2 → HeadsOff M s ws vs → HeadsOff M s (w :: ws) (v :: vs)

theorem HeadsOff.keeps {M : Nat → Prop} {s s' : Store} (hk : Keeps M s s') {ws : List Nat}
    {vs : List (List Nat × VCell)} (h : HeadsOff M s ws vs) : HeadsOff M s' ws vs := by
  induction h with
  | nil => exact .nil
  | cons h1 _ ih => exact .cons (h1.keeps hk) ih

theorem HeadsOff.length {M : Nat → Prop} {s : Store} {ws : List Nat}
    {vs : List (List Nat × VCell)} (h : HeadsOff M s ws vs) : ws.length = vs.length := by
  induction h with
  | nil => rfl
  | cons _ _ ih => simp [ih]

inductive AllSpinesOff (M : Nat → Prop) (s : Store) : List VCell → List (List Nat × VCell) → Prop
  | nil : AllSpinesOff M s [] []
  | cons {l : VCell} {v : List Nat × VCell} {ls : List VCell} {vs : List (List Nat × VCell)} :
      SpineOff M s l v.1 v.2 → AllSpinesOff M s ls vs → AllSpinesOff M s (l :: ls) (v :: vs)

theorem AllSpinesOff.keeps {M : Nat → Prop} {s s' : Store} (hk : Keeps M s s') {ls : List VCell}
    {vs : List (List Nat × VCell)} (h : AllSpinesOff M s ls vs) : AllSpinesOff M s' ls vs := by
  induction h with
  | nil => exact .nil
  | cons h1 _ ih => exact .cons (h1.keeps hk) ih

theorem AllSpinesOff.length {M : Nat → Prop} {s : Store} {ls : List VCell}
    {vs : List (List Nat × VCell)} (h : AllSpinesOff M s ls vs) : ls.length = vs.length := by
  induction h with
  | nil => rfl
  | cons _ _ ih => simp [ih]

theorem AllSpinesOff.allLists {M : Nat → Prop} {s : Store} {ls : List VCell} {ass : List (List Nat)}
    (h : AllSpinesOff M s ls (ass.map fun as => (as, VCell.nil))) : AllLists s ls ass := by
  induction ass generalizing ls with
  | nil => cases h; exact .nil
  | cons as ass ih =>
    cases h with
    | cons h1 h2 => exact .cons h1.isList (ih h2)

theorem AllLists.allSpinesOff {s : Store} {ls : List VCell} {ass : List (List Nat)}
    (h : AllLists s ls ass) (hv : ∀ l ∈ ls, l.isValue = true) :
    AllSpinesOff (fun _ => False) s ls (ass.map fun as => (as, VCell.nil)) := by
  induction h with
  | nil => exact .nil
  | cons h1 _ ih =>
    exact .cons (h1.spineOff (hv _ (List.mem_cons_self ..)))
      (ih fun l hl => hv l (List.mem_cons_of_mem _ hl))

/-- `(null? l)` -/
def ended (v : List Nat × VCell) : Bool := v.1.isEmpty && v.2.isNil
def noPair (v : List Nat × VCell) : Bool := v.1.isEmpty
/-- used only where `noPair v = false`: the default is never reached -/
def hd (v : List Nat × VCell) : Nat := v.1.headD 0
def tl (v : List Nat × VCell) : List Nat × VCell := (v.1.tail, v.2)

inductive Plan : List (List Nat × VCell) → List (List Nat) → Bool → Prop
  | stop {views : List (List Nat × VCell)} : views.any ended = true → Plan views [] true
  | stuck {views : List (List Nat × VCell)} : views.any ended = false → views.any noPair = true →
      Plan views [] false
  | step {views : List (List Nat × VCell)} {tuples : List (List Nat)} {b : Bool} :
      views.any noPair = false → Plan (views.map tl) tuples b →
      Plan views (views.map hd :: tuples) b

/-- the j-th tuple holds the j-th element reference of every list, as long as every list has one (the default of
    `headD` is behind the test for an empty list and never reached) -/
def columnsN : Nat → List (List Nat) → List (List Nat)
  | 0, _ => []
  | n+1, ass =>
    if ass.any List.isEmpty then [] else ass.map (·.headD 0) :: columnsN n (ass.map List.tail)

def columns (ass : List (List Nat)) : List (List Nat) := columnsN (ass.headD []).length ass

def argsOf (tuples : List (List Nat)) : List (List VCell) := tuples.map (·.map VCell.ptr)

inductive MapRun (g : Callee) : Store → List (List VCell) → Store → List VCell → Prop
  | nil {s s' : Store} : Extends s s' → MapRun g s [] s' []
  | cons {s t u s' : Store} {args : List VCell} {tuples : List (List VCell)} {y : VCell}
      {ys : List VCell} : Extends s t → g t args = .ok (u, y) → MapRun g u tuples s' ys →
      MapRun g s (args :: tuples) s' (y :: ys)

theorem MapRun.length {g : Callee} {s s' : Store} {tuples : List (List VCell)} {ys : List VCell}
    (h : MapRun g s tuples s' ys) : ys.length = tuples.length := by
  induction h with
  | nil _ => rfl
  | cons _ _ _ ih => simp [ih]

theorem MapRun.extend_left {g : Callee} {s0 s s' : Store} {tuples : List (List VCell)}
    {ys : List VCell} (he : Extends s0 s) (h : MapRun g s tuples s' ys) : MapRun g s0 tuples s' ys := by
  cases h with
  | nil h1 => exact .nil (he.trans h1)
  | cons h1 h2 h3 => exact .cons (he.trans h1) h2 h3

theorem MapRun.extend_right {g : Callee} {s s' s'' : Store} {tuples : List (List VCell)}
    {ys : List VCell} (h : MapRun g s tuples s' ys) (he : Extends s' s'') :
    MapRun g s tuples s'' ys := by
  induction h with
  | nil h1 => exact .nil (h1.trans he)
  | cons h1 h2 _ ih => exact .cons h1 h2 (ih he)

theorem MapRun.extends {g : Callee} (hg : ∀ t args u y, g t args = .ok (u, y) → Extends t u)
    {s s' : Store} {tuples : List (List VCell)} {ys : List VCell} (h : MapRun g s tuples s' ys) :
    Extends s s' := by
  induction h with
  | nil h1 => exact h1
  | cons h1 h2 _ ih => exact (h1.trans (hg _ _ _ _ h2)).trans ih

/-- `I` is an invariant of the store the caller chooses (it has to survive the allocations `map` itself performs);
    whenever it holds the callee returns on each tuple, writes (of what existed) only inside `M`, and re-establishes `I` -/
structure MapCallee (g : Callee) (M : Nat → Prop) (I : Store → Prop)
    (tuples : List (List VCell)) : Prop where
  grow : ∀ t t', I t → Extends t t' → I t'
  call : ∀ t args, I t → args ∈ tuples → ∃ u y, g t args = .ok (u, y) ∧ Keeps M t u ∧ I u

theorem MapCallee.tail {g : Callee} {M : Nat → Prop} {I : Store → Prop} {a : List VCell}
    {tuples : List (List VCell)} (h : MapCallee g M I (a :: tuples)) : MapCallee g M I tuples :=
  ⟨h.grow, fun t args hi hm => h.call t args hi (List.mem_cons_of_mem _ hm)⟩

inductive BoxedAll (n0 : Nat) (s : Store) : List Nat → List VCell → Prop
  | nil : BoxedAll n0 s [] []
  | cons {w : Nat} {v : VCell} {as : List Nat} {vs : List VCell} :
      Boxed n0 s w v → BoxedAll n0 s as vs → BoxedAll n0 s (w :: as) (v :: vs)

theorem BoxedAll.mono {n0 n1 : Nat} {s s' : Store} {as : List Nat} {vs : List VCell}
    (h : BoxedAll n0 s as vs) (he : Extends s s') (hn : n1 ≤ n0) : BoxedAll n1 s' as vs := by
  induction h with
  | nil => exact .nil
  | cons hb _ ih => exact .cons (hb.mono he hn) ih

theorem DenotesAll.boxedAll {s : Store} {as : List Nat} {vs : List VCell} (h : DenotesAll s as vs) :
    BoxedAll 0 s as vs := by
  induction h with
  | nil => exact .nil
  | cons h _ ih => exact .cons h.boxed ih

theorem BoxedAll.denotesAll {n0 : Nat} {s : Store} {as : List Nat} {vs : List VCell} (h : BoxedAll n0 s as vs) :
    DenotesAll s as vs := by
  induction h with
  | nil => exact .nil
  | cons h _ ih => exact .cons h.denotes ih

end Marwood.Store
