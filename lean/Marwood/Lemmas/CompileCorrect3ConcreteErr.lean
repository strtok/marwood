import Marwood.Lemmas.CompileCorrect3ConcreteAll
import Marwood.Lemmas.CompileCorrect3Cases
import Marwood.Lemmas.CompileCorrect2ConcreteDemo
/-!
# T01.3 stage 3, error case — `ErrLaws3` on the concrete heap model

The dispatch part (`callee_other`, `pair_other`) is a theorem; the failing builtins (`call_err`) are the hypothesis, as
the succeeding ones are in `concrete_laws3`.
-/
namespace Marwood.Lemmas.CompileCorrect3.Conc
open Marwood Marwood.Vm Marwood.Vm.Concrete Marwood.Lemmas.CompileCorrect Marwood.Lemmas.CompileCorrect2
  Marwood.Lemmas.CompileCorrect2.Conc Marwood.Lemmas.CompileCorrect3
open Marwood.Spec.Eval (Val Cell evalN)

variable {ext : ExtOps} {E : AtomEnc} {named : Text → Prop} {slot : Text → Nat} {LM : Nat → Nat}
  {final : List LambdaM} {setG : Text → Prop}

theorem concrete_errLaws3
    (hcall : ∀ n W h (σ : SSt) vf p vs ws c (σ' : SSt), Inv3 (cD3 ext E named slot LM final setG) W h σ →
      (cD3 ext E named slot LM final setG).VR h σ.store vf (.prim p) →
      All2 (VR3 (cD3 ext E named slot LM final setG) W h σ.store) vs ws → (evalN n).apply (.prim p) ws σ = .err c σ' →
      c ≠ .syntax →
      ∃ id e', (concreteOps ext).callee h vf = .builtin id ∧ (concreteOps ext).builtinKind h id = .generic ∧
        builtinResult (concreteOps ext) h id vs.reverse = .err e' ∧ machClass e' = specClass c ∧
        Inv3 (cD3 ext E named slot LM final setG) W h σ' ∧
        Ext3 (cD3 ext E named slot LM final setG) h σ.store h σ'.store) :
    ErrLaws3 (cD3 ext E named slot LM final setG) where
  call_err := hcall
  callee_other := fun _ _ _ _ hv hp => c_callee_other hv hp
  pair_other := fun h v a d hd => callee_other (by rw [show Concrete.deref h v = .pair a d from hd]; rfl)

end Marwood.Lemmas.CompileCorrect3.Conc
