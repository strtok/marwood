import Marwood.Lemmas.LeadMain
/-!
# "No value leads to entry code" is the instance `Spec.entry` of Lemmas/LeadDefs.lean

`hp_iff`, `pinv_iff`; `ExtProc ext` gives `Lead.ExtLead .entry ext`. `CalleeOk s` (the callee guard of `gops` passes) follows
from `PInv s` and `GoodI s` (`calleeOk_of_pinv`), which discharges the hypothesis `CalleeOkAlong` of the machine-level
theorems of C03 / C04 / C07 / C13 once `PInv` is an invariant (Lemmas/ProcInvMain.lean).
-/
namespace Marwood.Lemmas.Good
open Marwood Marwood.Vm Marwood.Vm.Verify Marwood.Vm.Concrete Marwood.Lemmas.Sim
open Marwood.Heap (GcState)

/-- **Assumed of the parameters of the concrete model** (`ExtOps`): on a heap satisfying `HP` and `LF` and arguments that are
    values not pointing to entry code, the generic builtins, `eval`'s compiler and VPUSH's push create no entry code (`EShr`:
    what `eval` compiles is procedure code, `ENTER … RET`) and return a heap satisfying `HP` and a result `maybe_put` may
    store (`valPB`). `LF` (no lambda cell is on the free list) is needed: without it `Heap::alloc` could hand out the address
    of a lambda cell some closure refers to (Lemmas/ListExtProc.lean: `cons_breaks_hp`); it follows from `CInvG`
    (`LF.of_cinv`) and from `HG` (`FB.lf_of_hg`). -/
structure ExtProc (ext : ExtOps) : Prop where
  eval : ∀ (h : CHeap) (id : Nat) (args : List VCell) (h' : CHeap) (v : VCell), HP h → LF h →
    (∀ a ∈ args, plainGlob a = true ∧ neB h a = true) →
    ext.builtinEval h id args = .ok (h', v) → HP h' ∧ EShr h h' ∧ valPB h' v = true
  compile : ∀ (h : CHeap) (d : VCell) (h' : CHeap) (v : VCell), HP h → LF h → valPB h d = true →
    ext.compileEval h d = .ok (h', v) → HP h' ∧ EShr h h' ∧ valPB h' v = true
  vpush : ∀ (h : CHeap) (vec a : VCell) (h' : CHeap), HP h → LF h → plainGlob a = true →
    neB h a = true → ext.vectorPush h vec a = .ok h' → HP h' ∧ EShr h h'

theorem cellPB_eq (h : CHeap) : cellPB h = Lead.cellX .entry h :=
  (congrFun (congrFun Lead.cellXF_false _) _).symm

theorem hp_iff {h : CHeap} : HP h ↔ Lead.HP .entry h :=
  ⟨fun p => ⟨fun i c hc => cellPB_eq h ▸ p.cells i c hc, p.globals, p.sym⟩,
   fun p => ⟨fun i c hc => cellPB_eq h ▸ p.cells i c hc, p.globals, p.sym⟩⟩

theorem pinv_iff {s : St CHeap} : PInv s ↔ Lead.PInv .entry s :=
  ⟨fun p => ⟨hp_iff.mp p.hp, p.acc, p.stk⟩, fun p => ⟨hp_iff.mpr p.hp, p.acc, p.stk⟩⟩

theorem PInv.lead {s : St CHeap} (p : PInv s) : Lead.TInv .entry s := (pinv_iff.mp p).tinv

theorem PInv.of_lead {s : St CHeap} (p : Lead.TInv .entry s) : PInv s := pinv_iff.mpr (p.pinv_of_noSite rfl)

theorem ExtProc.lead {ext : ExtOps} (ep : ExtProc ext) : Lead.ExtLead .entry ext where
  eval h id args h' v hp lf ha he :=
    have ⟨a, b, c⟩ := ep.eval h id args h' v (hp_iff.mpr hp) lf ha he
    ⟨hp_iff.mp a, b, c⟩
  compile h d h' v hp lf hd he :=
    have ⟨a, b, c⟩ := ep.compile h d h' v (hp_iff.mpr hp) lf hd he
    ⟨hp_iff.mp a, Lead.EShr.ekeep b, c⟩
  vpush h vec a h' hp lf ha hn he :=
    have ⟨a, b⟩ := ep.vpush h vec a h' (hp_iff.mpr hp) lf ha hn he
    ⟨hp_iff.mp a, b⟩

theorem heapPB_sound {h : CHeap} (hb : heapPB h = true) : HP h := by
  unfold heapPB at hb
  simp only [Bool.and_eq_true] at hb
  exact hp_iff.mpr (Lead.heap_sound (cellPB_eq _ ▸ hb.1.1) hb.1.2 hb.2)

theorem statePB_sound {s : St CHeap} (hb : statePB s = true) : PInv s := by
  unfold statePB at hb
  simp only [Bool.and_eq_true] at hb
  exact ⟨heapPB_sound hb.1.1, hb.1.2, Lead.stack_sound (I := .entry) hb.2⟩

theorem entry_proc_excl {h : CHeap} {p : Nat} (hp : procAtB h p = true) : entryAt h p = false :=
  Lead.bad_clos_excl (I := .entry) rfl hp

theorem HP.of_eq {h h' : CHeap} (hp : HP h) (hc : h'.cells = h.cells) (hg : h'.globals = h.globals)
    (hs : h'.symtab = h.symtab) : HP h' :=
  hp_iff.mpr ((hp_iff.mp hp).of_eq hc hg hs)

theorem SM.mono {h : CHeap} {st : Stack} {B B' : Nat} (x : SM h st B) (hb : B' ≤ B) : SM h st B' :=
  Lead.SM.mono (I := .entry) x hb

theorem EShr.trans {a b c : CHeap} (x : EShr a b) (y : EShr b c) : EShr a c := Lead.EShr.trans (I := .entry) x y

theorem putV_ptr_entry {h : CHeap} {v : VCell} {a : Nat} (he : (putV h v).2 = .ptr a)
    (hn : neB (putV h v).1 (putV h v).2 = true) : entryAt (putV h v).1 a = false :=
  Lead.ptr_bad (I := .entry) (he ▸ hn)

theorem calleeOk_of_pinv {s : St CHeap} (g : GoodI s) (p : PInv s) : CalleeOk s := by
  unfold CalleeOk gcallee
  cases hacc : s.acc with
  | ptr a =>
    cases hcell : s.heap.cells[a]? with
    | none => simp [callee, hcell]
    | some c =>
      have hcal : callee s.heap (.ptr a) = calleeOfCell c := by simp [callee, hcell]
      rw [hcal]
      cases c with
      | val v =>
        cases v <;> simp only [calleeOfCell]
        rename_i l e
        have := p.hp.cells a _ hcell
        have hpr : procAt s.heap l = true := this
        simp [hpr]
      | lambda lam =>
        simp only [calleeOfCell]
        have hne := p.acc
        rw [hacc] at hne
        simp only [neB_ptr, Bool.not_eq_true'] at hne
        have hpr : procAt s.heap a = true :=
          Lead.clos_of_lambda (I := .entry) (lambdaAt_iff.mpr hcell) (.inl hne)
        simp [hpr]
      | lexEnv _ => simp only [calleeOfCell]
      | vector _ => simp only [calleeOfCell]
      | cont _ => simp only [calleeOfCell]
  | closure l e =>
    have := g.accv
    rw [hacc] at this
    simp [plainGlob, isPtr, addrFree] at this
  | _ => simp [callee]

end Marwood.Lemmas.Good
