import Marwood.Lemmas.CompileCorrect3Pres
import Marwood.Lemmas.CompileCorrect2ConcreteAll
/-!
# T01.3 stage 3 on the concrete heap — the representation, and what it keeps when cells are kept

`cD3`: the stage-2 data `cD` over `concreteOps ext` with `envOK h e` = "`e` is a lexical environment that a closure CELL of
`h` refers to" (what CLOSURE builds) and the heap invariant `cSRx`: `CInv` (code objects), `FreeInv` (free cells are
`Undefined`), the named global slots exist, `ClosEnv` (every closure cell refers to a lexical environment), `Sim.HInv`,
`Sim.SymOk` (allocator's map, symbol table: `heap.put` interns symbols). `ext3_of_keeps`: `Ext3` from `Keeps`;
`CStep.ext3`: what stage 3 reads off a step of the heap (`CompileCorrect2ConcreteStep.lean`).
-/
namespace Marwood.Lemmas.CompileCorrect3.Conc
open Marwood Marwood.Vm Marwood.Vm.Concrete Marwood.Lemmas.CompileCorrect Marwood.Lemmas.CompileCorrect2
  Marwood.Lemmas.CompileCorrect2.Conc
open Marwood.Spec.Eval (Val Cell)

def cSRx (named : Text → Prop) (slot : Text → Nat) (h : CHeap) : Prop :=
  CInv h ∧ FreeInv h ∧ (∀ x, named x → slot x < h.globals.size) ∧ ClosEnv h ∧ Sim.HInv h ∧ Sim.SymOk h

def cD3 (ext : ExtOps) (E : AtomEnc) (named : Text → Prop) (slot : Text → Nat) (LM : Nat → Nat)
    (final : List LambdaM) (setG : Text → Prop) : RepData2 (concreteOps ext) :=
  { CompileCorrect2.Conc.cD ext E named slot LM final setG with
    SRx := fun h _ => CInv h ∧ FreeInv h ∧ (∀ x, named x → slot x < h.globals.size) ∧ ClosEnv h ∧ Sim.HInv h ∧
      Sim.SymOk h
    envOK := fun h e => (∃ ss, envAt h e = some ss) ∧ ∃ (p lam : Nat), h.cells[p]? = some (CCell.val (.closure lam e)) }

variable {ext : ExtOps} {E : AtomEnc} {named : Text → Prop} {slot : Text → Nat} {LM : Nat → Nat}
  {final : List LambdaM} {setG : Text → Prop}

theorem cD3_srx (h : CHeap) (S : Array Cell) : (cD3 ext E named slot LM final setG).SRx h S = cSRx named slot h := rfl

theorem cD3_envOK (h : CHeap) (e : Nat) : (cD3 ext E named slot LM final setG).envOK h e = cEnvOK h e := rfl

theorem ext3_of_keeps {h h' : CHeap} (S : Array Cell) (k : Keeps h h')
    (hp : ∀ e n a b, Concrete.envGet h e n = some (.lexEnvPtr a b) → Concrete.envGet h' e n = some (.lexEnvPtr a b))
    (hv : ∀ e n v, Concrete.envGet h e n = some v → isEnvPtr v = false →
      ∃ v', Concrete.envGet h' e n = some v' ∧ isEnvPtr v' = false)
    (hi : ∀ e n v, Concrete.envGet h e n = some v → isEnvPtr v = false → v ≠ .undefined →
      ∃ v', Concrete.envGet h' e n = some v' ∧ isEnvPtr v' = false ∧ v' ≠ .undefined)
    (hu : ∀ e n, cEnvOK h e → Concrete.envGet h e n = some .undefined → Concrete.envGet h' e n = some .undefined)
    (hc : NewClos h h') :
    Ext3 (cD3 ext E named slot LM final setG) h S h' S := by
  have x2 : Ext2 (cD ext E named slot LM final setG) h S h' S := ext2_of_keeps S k hp hv
  refine ⟨⟨x2.store, x2.vr,
    fun _ _ x => DatumAt.transport (D := (cD3 ext E named slot LM final setG).toRepData)
      (vecElems := fun _ _ => none) (h := h) (h' := h') (S := S) (S' := S) x2.vr
      (fun _ _ _ y => k.derefPair y) (fun _ _ y => y) x,
    x2.code, x2.clos, fun e x => keeps_cEnvOK k x, x2.envPtr, x2.envVal⟩,
    fun _ _ _ x => k.derefPair x, ?_, hu, ?_⟩
  · rintro e n ⟨v, h1, h2, h3⟩
    exact hi e n v h1 h2 h3
  · intro e n v hg ok
    obtain ⟨ss, hs, _⟩ := envGet_some hg
    have ok' : cEnvOK h' e := ok
    obtain ⟨_, p, lam, hcell⟩ := ok'
    rcases hc p lam e hcell with h1 | ⟨p', lam', h1⟩
    · rw [hs] at h1; cases h1
    · exact ⟨⟨ss, hs⟩, p', lam', h1⟩

theorem ext3_of_frame {h h' : CHeap} (S : Array Cell) (k : Keeps h h')
    (hf : ∀ e n v, Concrete.envGet h e n = some v → Concrete.envGet h' e n = some v) (hc : NewClos h h') :
    Ext3 (cD3 ext E named slot LM final setG) h S h' S :=
  ext3_of_keeps S k (fun e n _ _ x => hf e n _ x) (fun e n v x y => ⟨v, hf e n v x, y⟩)
    (fun e n v x y z => ⟨v, hf e n v x, y, z⟩) (fun e n _ x => hf e n _ x) hc

theorem srx_slots {h : CHeap} {S : Array Cell} (x : (cD3 ext E named slot LM final setG).SRx h S) :
    ∀ y, named y → slot y < h.globals.size := x.2.2.1

theorem CStep.ext3 {h h' : CHeap} (c : CStep h h') (S : Array Cell)
    (hsrx : (cD3 ext E named slot LM final setG).SRx h S) :
    Ext3 (cD3 ext E named slot LM final setG) h S h' S ∧ (cD3 ext E named slot LM final setG).SRx h' S :=
  ⟨ext3_of_frame S c.keeps c.frame c.newClos, c.cinv, c.fi, by rw [c.gsize]; exact srx_slots hsrx, c.x3 hsrx.2.2.2⟩

end Marwood.Lemmas.CompileCorrect3.Conc
