import Marwood.Lemmas.StackWFStep
import Marwood.Lemmas.RunLoopBasic
/-!
# WF-stack along executions: the run loop with collections, and the stability of a frame's
description while the frame is live
-/
namespace Marwood.Vm
open Verify Stack

variable {H : Type} {ops : HeapOps H}

/-- **What the stack discipline needs from the collector** (`run_gc`; a parameter, not an axiom): it keeps the
    stack, `bp`, `ip` and `acc` (`ep` is not constrained, the invariant does not mention it), keeps the heap invariant,
    and neither frees nor alters a lambda that `ip.0` or a saved `InstructionPointer` on the live stack refers to
    (`roots`: `run_gc` marks `ip.0` and `stack[0..=sp]`; that marked cells survive unchanged is C03), nor the callee
    object in `acc` when that is the closure / lambda of the code `ip.0` is about to ENTER (`acc` is a root too). -/
structure GcLaws (cl : CodeLaws ops) (gc : St H → St H) : Prop where
  frame : ∀ s, (gc s).stack = s.stack ∧ (gc s).bp = s.bp ∧ (gc s).ipL = s.ipL ∧ (gc s).ipO = s.ipO
  acc : ∀ s, (gc s).acc = s.acc
  callee : ∀ s, cl.HInv s.heap → enterLam ops s.heap s.acc = some s.ipL →
    enterLam ops (gc s).heap s.acc = some s.ipL
  inv : ∀ s, cl.HInv s.heap → cl.HInv (gc s).heap
  roots : ∀ s l bc, cl.HInv s.heap → cl.code s.heap l = some bc →
    (l = s.ipL ∨ ∃ i o, i ≤ s.stack.sp ∧ s.stack.cellAt i = .instrPtr l o) →
    cl.code (gc s).heap l = some bc

theorem WFS.gc {cl : CodeLaws ops} {gc : St H → St H} (gl : GcLaws cl gc) {s : St H} {K : List FDesc}
    (hw : WFS cl s K) : WFS cl (gc s) K := by
  obtain ⟨g1, g2, g3, g4⟩ := gl.frame s
  have hty : ∀ l1 t, tyOf (cl.code s.heap) l1 = some t →
      (l1 = s.ipL ∨ ∃ i o1, i ≤ s.stack.sp ∧ s.stack.cellAt i = .instrPtr l1 o1) →
      tyOf (cl.code (gc s).heap) l1 = some t := by
    intro l1 t ht hor
    unfold tyOf at ht ⊢
    cases hc : cl.code s.heap l1 with
    | none => rw [hc] at ht; cases ht
    | some bc =>
      rw [hc] at ht
      rw [gl.roots s l1 bc hw.inv hc hor]
      exact ht
  refine ⟨gl.inv s hw.inv, ⟨by rw [g1]; exact hw.wf.cap, ?_⟩, by rw [gl.acc]; exact hw.acc, ?_⟩
  · rw [g1, g2, g3, g4]
    exact hw.wf.frames.mono_on hty
  · intro t2 n ht2 hpre hA
    rw [g3] at ht2
    rw [g4] at hpre
    rw [g1] at hA
    obtain ⟨t, _, ht, _⟩ := hw.wf.frames.has_ty
    have := hty _ t ht (.inl rfl)
    rw [ht2] at this
    have e : t2 = t := Option.some.inj this
    subst e
    rcases hw.pre t2 n ht hpre hA with h | h
    · exact .inl h
    · right
      rw [g3, gl.acc]
      exact gl.callee s hw.inv h

/-- the state an evaluation starts in: `prepare_eval` has pointed `ip` at verified entry code, the
    stack pointer is the entry stack pointer -/
theorem WFS.initial {cl : CodeLaws ops} {s : St H} {entry : Nat} {t : LamTy} (hi : cl.HInv s.heap)
    (ht : tyOf (cl.code s.heap) entry = some t) (hent : t.entry = true)
    (hsp : s.stack.sp = cl.e) (hcap : s.stack.sp < s.stack.cells.length) (hacc : cl.Val s.acc) :
    WFS cl (prepare s entry) [] := by
  have h0 : stateAt t.tm 0 = some (.body []) := by
    have := checkAll_init (tyOf_spec ht).2
    rw [hent] at this
    simpa [initState] using this
  refine ⟨hi, ⟨hcap, ?_⟩, hacc, ?_⟩
  · exact Frames.entry (st := .body []) ht hent h0 (by show s.stack.sp = cl.e; exact hsp)
  · intro t2 n ht2 hpre _
    have ht2' : tyOf (cl.code s.heap) entry = some t2 := ht2
    rw [ht] at ht2'
    have e : t = t2 := Option.some.inj ht2'
    subst e
    have hpre' : stateAt t.tm 0 = some .pre := hpre
    rw [h0] at hpre'
    cases hpre'

/-- what the run loop can end in, from a WF state. The state after HALT is not `WFS` (its offset is past the code
    and has no typing), hence the three facts instead; `Good.HaltedAt` (`Lemmas/StackDiscOfWFS.lean`) describes it. The failing
    state is the WF state `step` was tried in (`runLoop_inv` gives its whole frame chain). -/
theorem runLoop_wf {cl : CodeLaws ops} {gc : St H → St H} (gl : GcLaws cl gc) (count : Option Nat) :
    ∀ (fuel cycles : Nat) (s : St H) (K : List FDesc), WFS cl s K →
      match runLoop ⟨vmStep ops, gc⟩ count fuel cycles s with
      | .done s' => s'.stack.sp = cl.e ∧ cl.HInv s'.heap ∧ s'.stack.sp < s'.stack.cells.length ∧ cl.Val s'.acc
      | .error _ s' => cl.HInv s'.heap ∧ s'.stack.sp < s'.stack.cells.length ∧ cl.Val s'.acc
      | .paused s' => ∃ K', WFS cl s' K'
      | .fuel => True := by
  intro fuel cycles s K hw
  have := runLoop_inv ⟨vmStep ops, gc⟩ count (I := fun s => ∃ K, WFS cl s K) (fun s ⟨K, h⟩ => ⟨K, h.gc gl⟩)
    (fun s s' ⟨K, h⟩ e => let ⟨K', h', _⟩ := step_preserves h (vmStep_eq_next.mp e); ⟨K', h'⟩) fuel cycles s ⟨K, hw⟩
  cases hr : runLoop ⟨vmStep ops, gc⟩ count fuel cycles s <;> rw [hr] at this
  · exact this.1
  · -- HALT in a WF state: `sp` is the entry `sp`; HALT changes neither heap nor `acc`
    obtain ⟨sh, ⟨K1, hw1⟩, hst⟩ := this
    have hs := vmStep_eq_halt.mp hst
    obtain ⟨h1, h2⟩ := step_halt hw1 hs
    obtain ⟨s1, hro⟩ := step_true_is_halt hs
    rw [step_read hro] at hs
    cases (readOpcode_ok hro).2
    cases hs
    exact ⟨h2, hw1.inv, hw1.wf.cap, hw1.acc⟩
  · obtain ⟨sh, ⟨K1, hw1⟩, hst⟩ := this
    obtain ⟨rfl, _⟩ := vmStep_eq_fail hst
    exact ⟨hw1.inv, hw1.wf.cap, hw1.acc⟩
  · trivial

/-- the frames of a chain start at strictly decreasing indices, all above the entry `sp` -/
theorem Frames.bases {V : VCell → Prop} {T : Typing} {e : Nat} {f : Nat → VCell} {top bp l o : Nat}
    {K : List FDesc} (h : Frames V T e f top bp l o K) :
    (∀ d ∈ K, e < d.base ∧ d.base ≤ top) ∧ K.Pairwise (fun a b => b.base < a.base) := by
  induction h with
  | entry => exact ⟨by simp, List.Pairwise.nil⟩
  | @frame top bp l o t st n ep' l' o' bp' K h1 h2 h3 h4 h5 h6 h7 h8 h9 _ _ _ hc ih =>
    have hle := h4.lo_le
    have hel := hc.e_le
    refine ⟨?_, List.Pairwise.cons ?_ ih.2⟩
    · intro d hd
      rcases List.mem_cons.mp hd with rfl | hd
      · exact ⟨by show e < bp + 1 - n; omega, by show bp + 1 - n ≤ top; omega⟩
      · have := ih.1 d hd
        exact ⟨this.1, by omega⟩
    · intro d hd
      have := ih.1 d hd
      show d.base < bp + 1 - n
      omega
  | @pre top bp l o t n ep' l' o' K h1 h2 h3 h4 h5 h6 h7 _ _ hc ih =>
    have hel := hc.e_le
    refine ⟨?_, List.Pairwise.cons ?_ ih.2⟩
    · intro d hd
      rcases List.mem_cons.mp hd with rfl | hd
      · exact ⟨by show e < top - 2 - n; omega, by show top - 2 - n ≤ top; omega⟩
      · have := ih.1 d hd
        exact ⟨this.1, by omega⟩
    · intro d hd
      have := ih.1 d hd
      show d.base < top - 2 - n
      omega

/-- `Trace ops base s s'`: `s` reaches `s'` by instructions (no HALT, no continuation invoked) such that the stack
    pointer never drops below `base` — the frame that starts at `base` is not returned from -/
inductive Trace (ops : HeapOps H) (base : Nat) : St H → St H → Prop
  | nil (s : St H) : Trace ops base s s
  | cons {s s1 s' : St H} : (∀ c, ops.callee s.heap s.acc ≠ .continuation c) →
      step ops s = .ok (s1, false) → base ≤ s1.stack.sp → Trace ops base s1 s' → Trace ops base s s'

theorem Trace.trans {base : Nat} {s s1 s2 : St H} (a : Trace ops base s s1) (b : Trace ops base s1 s2) :
    Trace ops base s s2 := by
  induction a with
  | nil => exact b
  | cons h1 h2 h3 _ ih => exact .cons h1 h2 h3 (ih b)

/-- **Stability**: along such a trace the frame `D` that starts at `base`, and everything below it, stay in the
    ghost list unchanged, whatever the code in between does -/
theorem Trace.stable {cl : CodeLaws ops} {base : Nat} {s s' : St H} (htr : Trace ops base s s') :
    ∀ (P : List FDesc) (D : FDesc) (R : List FDesc), D.base = base → WFS cl s (P ++ D :: R) →
      ∃ P', WFS cl s' (P' ++ D :: R) := by
  induction htr with
  | nil s => intro P D R _ hw; exact ⟨P, hw⟩
  | @cons s s1 s' hnc hst hsp _ ih =>
    intro P D R hD hw
    obtain ⟨K1, hw1, hk⟩ := step_preserves hw hst
    rcases hk with rfl | ⟨d, rfl⟩ | ⟨d, hpop, hspd⟩ | ⟨c, hc⟩
    · exact ih P D R hD hw1
    · exact ih (d :: P) D R hD hw1
    · cases P with
      | nil =>
        simp only [List.nil_append, List.cons.injEq] at hpop
        obtain ⟨rfl, rfl⟩ := hpop
        -- the frame at `base` itself would be popped: then `sp + 1 = base`, but the trace stays at or above `base`
        omega
      | cons p P0 =>
        simp only [List.cons_append, List.cons.injEq] at hpop
        obtain ⟨rfl, rfl⟩ := hpop
        exact ih P0 D R hD hw1
    · exact absurd hc (hnc c)

def FrameBase (s : St H) (base : Nat) : Prop :=
  ∃ n, s.stack.cellAt (s.bp + 1) = .argc n ∧ n ≤ s.bp ∧ s.bp + 1 - n = base

/-- in a complete frame of procedure code whose base is `D.base`, where `D` is known to be in the
    ghost list, `D` is the innermost entry and the header cells are `D`'s -/
theorem header_of_base {cl : CodeLaws ops} {s s1 : St H} {P R : List FDesc} {D : FDesc} {op : Op}
    (hw : WFS cl s (P ++ D :: R)) (hr : readOpcode ops s = .ok (op, s1))
    (hop : op = .ret ∨ op = .tcallAcc) (hb : FrameBase s D.base) :
    P = [] ∧ s.stack.cellAt (s.bp + 2) = D.sep ∧ s.stack.cellAt (s.bp + 3) = D.sip ∧
      s.stack.cellAt (s.bp + 4) = .basePtr D.sbp := by
  obtain ⟨t, st, ai, _⟩ := hw.instr hr
  have chk := ai.chk
  have hent : t.entry = false ∧ st ≠ .pre := by
    rcases hop with rfl | rfl
    · cases st <;> first | cases chk | simp only [checkOp] at chk
      exact ⟨by simpa using chk, by simp⟩
    · cases st <;> first | cases chk | simp only [checkOp, Bool.and_eq_true] at chk
      exact ⟨by simpa using chk.1, by simp⟩
  obtain ⟨n, ep', l', o', bp', K', hm, hA, hE, hI, hB, hn, hfr, hK⟩ :=
    hw.wf.frames.inv_frame ai.ht hent.1 ai.hst hent.2
  obtain ⟨n2, hA2, hn2, hbase⟩ := hb
  rw [hA] at hA2; cases hA2
  have hpw := hw.wf.frames.bases.2
  cases P with
  | nil =>
    simp only [List.nil_append, List.cons.injEq] at hK
    obtain ⟨rfl, _⟩ := hK
    exact ⟨rfl, hE, hI, hB⟩
  | cons p P0 =>
    exfalso
    simp only [List.cons_append, List.cons.injEq] at hK
    obtain ⟨rfl, _⟩ := hK
    rw [List.cons_append, List.pairwise_cons] at hpw
    have := hpw.1 D (by simp)
    simp only at this
    omega

end Marwood.Vm
