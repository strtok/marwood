import Marwood.Lemmas.CompileSim
import Marwood.Lemmas.CompileCorrect2Instr
/-!
# T01.3: operand lists, `set!`, application, for any stage and any result of the specification

Continues `CompileSim.lean`. The call of a closure (`ENTER`, the body, `RET`) is the stage's business: it enters as the
hypothesis `CallRes` of `app_res`, stated like `ExprRes` for whatever `apply` answers. `CLaws` adds what the dispatch of
`CALL`/`TCALL`, the store instructions behind a `set!` and the primitive procedures need of the relations. At the end
what the stages' proofs of `CallRes` share: `BodyOut` with `BodyOut.seq`, `body_last`, and `CallOut.of_body` (`RET`).
-/
namespace Marwood.Lemmas.CompileSim
open Marwood Marwood.Vm Marwood.Lemmas.CompileCorrect Marwood.Lemmas.CompileCorrect2
open Marwood.Spec.Eval (Val Prim Cell Env ErrClass Res M evalN evalStep applyStep evalArgs properList quoteVal kwOf
  insertG k_quote k_if_ k_setBang k_define k_lambda)

variable {H : Type} {ops : HeapOps H} {D : RepData2 ops}

structure CRel (ops : HeapOps H) (D : RepData2 ops) extends Rel ops D where
  /-- `(lam, cenv)` is the value of a `lambda` with these parameters and body closed over `ρc` -/
  Clos : World → H → Nat → Nat → List Text → Option Text → List Datum → Env → Prop

variable {R : CRel ops D}

structure ArgsRun (R : Rel ops D) (W' : World) (s : MSt H) (len : Nat) (σ σ' : SSt) (ws : List Val) (vs : List VCell)
    (s' : MSt H) : Prop where
  steps : Steps ops s s'
  ipL : s'.ipL = s.ipL
  ipO : s'.ipO = s.ipO + len
  bp : s'.bp = s.bp
  ep : s'.ep = s.ep
  stack : LiveEq (pushAll s.stack vs) s'.stack
  swf : SWF s'.stack
  vals : All2 (R.VR W' s'.heap σ'.store) vs ws
  inv : R.Inv W' s'.heap σ'
  ext : R.Ext s.heap σ.store s'.heap σ'.store

def ArgsOut (R : Rel ops D) (W : World) (s : MSt H) (len : Nat) (σ : SSt) (k : Nat) : Res (List Val) → Prop
  | .ok ws σ' => ∃ W' s' vs, W.le W' ∧ ArgsRun R W' s len σ σ' ws vs s' ∧ k = vs.length
  | .err cl σ' => R.ELaws → cl ≠ .syntax → ∃ W' sf e', W.le W' ∧ ErrRun R W' s s.stack σ σ' cl sf e'
  | .timeout => True

/-- from the state `CALL`/`TCALL` leaves -/
def CallOut (R : Rel ops D) (W : World) (s : MSt H) (st0 : Stack) (epc lc oc : Nat) (σ : SSt) : Res Val → Prop
  | .ok w σ' => ∃ W' s', W.le W' ∧ Steps ops s s' ∧ s'.ipL = lc ∧ s'.ipO = oc ∧ s'.ep = epc ∧ s'.bp = s.bp ∧
      LiveEq st0 s'.stack ∧ SWF s'.stack ∧ R.VR W' s'.heap σ'.store s'.acc w ∧ R.Inv W' s'.heap σ' ∧
      R.Ext s.heap σ.store s'.heap σ'.store
  | .err cl σ' => R.ELaws → cl ≠ .syntax → ∃ W' sf e', W.le W' ∧ ErrRun R W' s st0 σ σ' cl sf e'
  | .timeout => True

def CallRes (R : CRel ops D) (n : Nat) : Prop :=
  ∀ ps rest body ρc ws (σ : SSt) (W : World) (s : MSt H) lam cenv vs st0 epc lc oc,
    ops.callee s.heap s.acc = .closure lam cenv → R.Clos W s.heap lam cenv ps rest body ρc → R.Inv W s.heap σ →
    All2 (R.VR W s.heap σ.store) vs ws → s.ipL = lam → s.ipO = 0 → LiveEq (callFrame st0 vs epc lc oc) s.stack →
    SWF st0 → SWF s.stack →
  CallOut R.toRel W s st0 epc lc oc σ ((evalN n).apply (.closure ps rest body ρc) ws σ)

inductive FragL (R : Rel ops D) : Nat → Ctx → (Text → Prop) → (Text → Prop) → Datum → Prop
  | nil {f c ns us} : FragL R (f + 1) c ns us .nil
  | cons {f c ns us} (a d : Datum) : R.Frag f c ns us false a → FragL R f c ns us d → FragL R (f + 1) c ns us (.pair a d)

structure CLaws (R : CRel ops D) : Prop extends Laws R.toRel where
  vr_mono : ∀ {W W' h h' S S' v w}, R.VR W h S v w → R.Ext h S h' S' → W.le W' → R.VR W' h' S' v w
  vr_clos : ∀ {W h S v ps rest body ρc}, R.VR W h S v (.closure ps rest body ρc) →
    ∃ lam cenv, ops.callee h v = .closure lam cenv ∧ R.Clos W h lam cenv ps rest body ρc
  store : ∀ {c : Ctx} {x : Text} {ρ : Env} {us : Text → Prop} {W : World} {s : MSt H} {σ : SSt} {w : Val}, CtxOK c →
    (inEnv c x = true ↔ bound ρ x) → (¬ bound ρ x → D.setG x) →
    CodeAt2 D c.envmap s.heap σ.store s.ipL s.ipO [.op .mov, .acc, emitLoc c x, .op .movImm, .void, .acc] →
    R.VR W s.heap σ.store s.acc w → R.Inv W s.heap σ → R.ER W s.heap c s.ep ρ us → SWF s.stack →
    ∃ σ', Spec.Eval.assignVar ρ x w σ = .ok () σ' ∧ ∃ s', Run R.toRel W s 6 σ σ' .void s'
  call : ∀ {n W h} {σ : SSt} {vf p vs ws w} {σ' : SSt}, R.Inv W h σ → R.VR W h σ.store vf (.prim p) →
    All2 (R.VR W h σ.store) vs ws → (evalN n).apply (.prim p) ws σ = .ok w σ' →
    ∃ id h' r, ops.callee h vf = .builtin id ∧ ops.builtinKind h id = .generic ∧
      builtinResult ops h id vs.reverse = .ok (h', r) ∧
      R.VR W h' σ'.store r w ∧ R.Inv W h' σ' ∧ R.Ext h σ.store h' σ'.store
  call_err : R.ELaws → ∀ {n W h} {σ : SSt} {vf p vs ws c} {σ' : SSt}, R.Inv W h σ → R.VR W h σ.store vf (.prim p) →
    All2 (R.VR W h σ.store) vs ws → (evalN n).apply (.prim p) ws σ = .err c σ' → c ≠ .syntax →
    ∃ id e', ops.callee h vf = .builtin id ∧ ops.builtinKind h id = .generic ∧
      builtinResult ops h id vs.reverse = .err e' ∧ machClass e' = specClass c ∧
      R.Inv W h σ' ∧ R.Ext h σ.store h σ'.store
  callee_other : R.ELaws → ∀ {W h S v w}, R.VR W h S v w → (∀ p, w ≠ .prim p) → (∀ a b c d, w ≠ .closure a b c d) →
    ops.callee h v = .other

theorem ArgsRun.codeAfter {R : Rel ops D} {W : World} {s s' : MSt H} {len : Nat} {σ σ' : SSt} {ws : List Val}
    {vs : List VCell} (L : ExtLaws R) (r : ArgsRun R W s len σ σ' ws vs s') {em : List (Text × Source)} {base : Nat}
    {code : List BC} (hc : CodeAt2 D em s.heap σ.store s.ipL base code) :
    CodeAt2 D em s'.heap σ'.store s'.ipL base code := by
  rw [r.ipL]; exact hc.ext (L.ext2 r.ext)

theorem ArgsRun.envRep {R : Rel ops D} {W W1 : World} {s s' : MSt H} {len : Nat} {σ σ' : SSt} {ws : List Val}
    {vs : List VCell} (L : ExtLaws R) (r : ArgsRun R W1 s len σ σ' ws vs s') (hw1 : W.le W1) {c : Ctx} {ρ : Env}
    {us : Text → Prop} (her : R.ER W s.heap c s.ep ρ us) : R.ER W1 s'.heap c s'.ep ρ us := by
  rw [r.ep]; exact L.er_ext her r.ext hw1

theorem args_res (L : CLaws R) {n : Nat} (ih : ExprRes R.toRel n) :
    ∀ (es : List Datum) f cst c base rest cst' code k (ρ : Env) (us : Text → Prop),
    FragL R.toRel f c (bound ρ) us rest → CtxOK c →
    compileArgs f cst c base rest = .ok (cst', code, k) → cst'.lambdas <+: D.final → properList rest = some es →
    ∀ (σ : SSt) (W : World) (s : MSt H), CodeAt2 D c.envmap s.heap σ.store s.ipL base code → s.ipO = base →
      R.Inv W s.heap σ → R.ER W s.heap c s.ep ρ us → SWF s.stack →
    ArgsOut R.toRel W s code.length σ k (evalArgs (evalN n) ρ es σ) := by
  intro es
  induction es with
  | nil =>
    intro f cst c base rest cst' code k ρ us hfl hcx hcomp hpre hpl σ W s hc hip hi her hw
    cases hfl with
    | nil =>
      obtain ⟨rfl, rfl, _⟩ := compileArgs_nil_inv2 hcomp
      exact ⟨W, s, [], World.le_refl _, ⟨.refl _, rfl, rfl, rfl, rfl, LiveEq.refl _, hw, .nil, hi, L.ext_refl _ _⟩, rfl⟩
    | cons a d _ _ =>
      obtain ⟨es', _, h⟩ := properList_pair_inv hpl
      cases h
  | cons e0 es ihes =>
    intro f cst c base rest cst' code k ρ us hfl hcx hcomp hpre hpl σ W s hc hip hi her hw
    cases hfl with
    | nil => simp [properList] at hpl
    | cons a d hfa hfd =>
      obtain ⟨cst1, code1, code2, k2, hca, hcd, rfl, rfl⟩ := compileArgs_pair_inv2 hcomp
      obtain ⟨es', hpl', hes⟩ := properList_pair_inv hpl
      cases hes
      subst hip
      have hpre1 : cst1.lambdas <+: D.final := ((growsOK _).args hcd).trans hpre
      rw [evalArgs_cons]
      cases hea : (evalN n).eval e0 ρ σ with
      | timeout => rw [bind_timeout hea]; trivial
      | err cl σ' =>
        rw [bind_err hea]
        exact fun LE hcs => ih.err hfa hcx hca hpre1 hea LE hcs hc.left.left rfl hi her hw
      | ok v σ1 =>
        rw [bind_ok hea]
        obtain ⟨W1, s1, hw1, r1⟩ := ih.ok hfa hcx hca hpre1 hea hc.left.left rfl hi her hw
        have hcP1 : CodeAt2 D c.envmap s1.heap σ1.store s1.ipL s1.ipO [BC.op .pushAcc] :=
          (r1.codeAfter L.toExtLaws hc.left.right).cast r1.ipO.symm
        have hp := step_pushAcc hcP1.1 (hcP1.op 0 rfl)
        have hcD : CodeAt2 D c.envmap s1.heap σ1.store s1.ipL (s.ipO + code1.length + 1) code2 :=
          (r1.codeAfter L.toExtLaws hc.right).cast (by simp only [List.length_append, Nat.add_assoc]; rfl)
        have o3 := ihes _ _ _ _ _ _ _ _ _ _ hfd hcx hcd hpre hpl' σ1 W1
          { s1 with stack := s1.stack.push s1.acc, ipO := s1.ipO + 1 } hcD
          (by show s1.ipO + 1 = _; rw [r1.ipO]) r1.inv (r1.envRep L.toExtLaws hw1 her) (push_swf _ _)
        cases hed : evalArgs (evalN n) ρ es σ1 with
        | timeout => rw [bind_timeout hed]; trivial
        | err cl σ' =>
          rw [bind_err hed]; rw [hed] at o3
          intro LE hcs
          obtain ⟨W3, sf, e', hw3, r3⟩ := o3 LE hcs
          exact ⟨W3, sf, e', World.le_trans hw1 hw3, ErrRun.after L.toExtLaws (r1.steps.trans (Steps.one hp)) r1.ext
            (r1.stack.ext.trans (StackExt.push _ _ r1.swf)) r3⟩
        | ok ws' σ' =>
          rw [bind_ok hed]; rw [hed] at o3
          obtain ⟨W3, s3, vs', hw3, r3, hk⟩ := o3
          refine ⟨W3, s3, s1.acc :: vs', World.le_trans hw1 hw3, ⟨r1.steps.trans (.cons hp r3.steps),
            r3.ipL.trans r1.ipL, ?_, r3.bp.trans r1.bp, r3.ep.trans r1.ep, ?_, r3.swf,
            .cons (L.vr_mono r1.acc r3.ext hw3) r3.vals, r3.inv, L.ext_trans r1.ext r3.ext⟩, by simp [hk]⟩
          · have h3 : s3.ipO = s1.ipO + 1 + code2.length := r3.ipO
            have h1 := r1.ipO
            simp only [List.length_append, List.length_cons, List.length_nil]
            omega
          · rw [pushAll_cons]
            exact ((r1.stack.push hw r1.swf s1.acc).pushAll (push_swf _ _) (push_swf _ _) vs').trans r3.stack

theorem setBang_res (L : CLaws R) {n : Nat} (ih : ExprRes R.toRel n)
    {f : Nat} {cst cst' : CState} {c : Ctx} {base : Nat} {tail : Bool} {x : Text} {e : Datum} {code : List BC}
    {ρ : Env} {us : Text → Prop} (hsc : inEnv c x = true ↔ bound ρ x) (hG : ¬ bound ρ x → D.setG x)
    (hfe : R.Frag f c (bound ρ) us false e) (hcx : CtxOK c)
    (hcomp : compileExpr (f + 1) cst c base tail
      (.pair (.sym k_setBang) (.pair (.sym x) (.pair e .nil))) = .ok (cst', code))
    (hpre : cst'.lambdas <+: D.final) {σ : SSt} {W : World} {s : MSt H} {fr : Frame}
    (hc : CodeAt2 D c.envmap s.heap σ.store s.ipL base code) (hip : s.ipO = base)
    (hi : R.Inv W s.heap σ) (her : R.ER W s.heap c s.ep ρ us) (hw : SWF s.stack)
    (hfr : tail = true → FrameAt s.stack s.bp fr) :
    ExprOut R.toRel W s code.length σ tail fr
      (evalStep (evalN n) (.pair (.sym k_setBang) (.pair (.sym x) (.pair e .nil))) ρ σ) := by
  obtain ⟨code1, hc1, rfl⟩ := compile_setBang_inv2 hcomp
  subst hip
  rw [evalStep_setBang]
  split
  · exact fun _ hcs => absurd rfl hcs
  cases he : (evalN n).eval e ρ σ with
  | timeout => rw [bind_timeout he]; trivial
  | err cl σ' =>
    rw [bind_err he]
    intro LE hcs
    obtain ⟨W', sf, e', hw', r⟩ := ih.err hfe hcx hc1 hpre he LE hcs hc.left rfl hi her hw
    exact ⟨W', sf, e', hw', r.lift L.toExtLaws hfr⟩
  | ok v σ1 =>
    rw [bind_ok he]
    obtain ⟨W1, s1, hw1, r1⟩ := ih.ok hfe hcx hc1 hpre he hc.left rfl hi her hw
    obtain ⟨σ', ha, s2, r2⟩ := L.store hcx hsc hG ((r1.codeAfter L.toExtLaws hc.right).cast r1.ipO.symm) r1.acc r1.inv
      (r1.envRep L.toExtLaws hw1 her) r1.swf
    rw [bind_ok ha]
    exact ⟨W1, s2, hw1, .inl (by simpa using r1.append L.toExtLaws r2)⟩

/-- a primitive procedure, a closure (`CALL` pushes the frame, `TCALL` replaces the current one), or no procedure -/
theorem app_res (L : CLaws R) {n : Nat} (ih : ExprRes R.toRel n) (ihc : CallRes R n)
    {f : Nat} {cst cst' : CState} {c : Ctx} {base : Nat} {tail : Bool} {fn args : Datum} {code : List BC} {ρ : Env}
    {us : Text → Prop} (hh : AppHead fn) (hff : R.Frag f c (bound ρ) us false fn)
    (hfr : FragL R.toRel f c (bound ρ) us args) (hcx : CtxOK c)
    (hcomp : compileExpr (f + 1) cst c base tail (.pair fn args) = .ok (cst', code))
    (hpre : cst'.lambdas <+: D.final) {σ : SSt} {W : World} {s : MSt H} {fr : Frame}
    (hc : CodeAt2 D c.envmap s.heap σ.store s.ipL base code) (hip : s.ipO = base)
    (hi : R.Inv W s.heap σ) (her : R.ER W s.heap c s.ep ρ us) (hw : SWF s.stack)
    (hfrm : tail = true → FrameAt s.stack s.bp fr) :
    ExprOut R.toRel W s code.length σ tail fr (evalStep (evalN n) (.pair fn args) ρ σ) := by
  obtain ⟨cst1, code1, k, pcode, hca, hcf, hcode⟩ := compile_app_inv2 hh hcomp
  subst hcode
  subst hip
  have hcA := hc.left.left.left
  have hcP := hc.left.left.right
  have hcF := hc.left.right
  have hcC := hc.right
  have hpre1 : cst1.lambdas <+: D.final := ((growsOK _).expr hcf).trans hpre
  cases hpl : properList args with
  | none => rw [evalStep_app_none hh _ hpl]; exact fun _ hcs => absurd rfl hcs
  | some es =>
  rw [evalStep_app hh _ hpl]
  have oa := args_res L ih es _ _ _ _ _ _ _ _ ρ us hfr hcx hca hpre1 hpl σ W s hcA rfl hi her hw
  cases hea : evalArgs (evalN n) ρ es σ with
  | timeout => rw [bind_timeout hea]; trivial
  | err cl σ' =>
    rw [bind_err hea]; rw [hea] at oa
    intro LE hcs
    obtain ⟨W', sf, e', hw', r⟩ := oa LE hcs
    exact ⟨W', sf, e', hw', r.lift L.toExtLaws hfrm⟩
  | ok ws σ1 =>
  rw [bind_ok hea]; rw [hea] at oa
  obtain ⟨W1, s1, vs, hw1, r1, hk⟩ := oa
  subst hk
  have hcP1 : CodeAt2 D c.envmap s1.heap σ1.store s1.ipL s1.ipO [BC.op .pushImm, BC.argc vs.length] :=
    (r1.codeAfter L.toExtLaws hcP).cast r1.ipO.symm
  have hp := step_pushImm hcP1.1 (hcP1.op 0 rfl) (hcP1.argcCell 1 rfl) (by intro o h; cases h)
  have hcF2 : CodeAt2 D c.envmap s1.heap σ1.store s1.ipL (s.ipO + code1.length + 2) pcode :=
    (r1.codeAfter L.toExtLaws hcF).cast (by simp only [List.length_append, Nat.add_assoc]; rfl)
  have her1 := r1.envRep L.toExtLaws hw1 her
  have hext1 : StackExt s.stack (s1.stack.push (.argc vs.length)) :=
    ((StackExt.pushAll _ vs hw).trans r1.stack.ext).trans (StackExt.push _ _ r1.swf)
  cases hef : (evalN n).eval fn ρ σ1 with
  | timeout => rw [bind_timeout hef]; trivial
  | err cl σ' =>
    rw [bind_err hef]
    intro LE hcs
    obtain ⟨W3, sf, e', hw3, r3⟩ := ih.err hff hcx hcf hpre hef LE hcs (W := W1)
      (s := { s1 with stack := s1.stack.push (.argc vs.length), ipO := s1.ipO + 2 }) hcF2
      (by show s1.ipO + 2 = _; rw [r1.ipO]) r1.inv her1 (push_swf _ _)
    exact ⟨W3, sf, e', World.le_trans hw1 hw3,
      ErrRun.after L.toExtLaws (r1.steps.trans (Steps.one hp)) r1.ext ((errBase_le hfrm).trans hext1) r3⟩
  | ok fv σ2 =>
  rw [bind_ok hef]
  obtain ⟨W3, s3, hw3, r3⟩ := ih.ok hff hcx hcf hpre hef (W := W1)
    (s := { s1 with stack := s1.stack.push (.argc vs.length), ipO := s1.ipO + 2 }) hcF2
    (by show s1.ipO + 2 = _; rw [r1.ipO]) r1.inv her1 (push_swf _ _)
  have e13 : R.Ext s.heap σ.store s3.heap σ2.store := L.ext_trans r1.ext r3.ext
  have hvals : All2 (R.VR W3 s3.heap σ2.store) vs ws := All2.mono (fun _ _ y => L.vr_mono y r3.ext hw3) r1.vals
  have hst : LiveEq ((pushAll s.stack vs).push (.argc vs.length)) s3.stack :=
    (r1.stack.push (pushAll_swf _ _ hw) r1.swf (.argc vs.length)).trans r3.stack
  have hipL : s3.ipL = s.ipL := r3.ipL.trans r1.ipL
  have hipO : s3.ipO = s.ipO + code1.length + 2 + pcode.length := by
    have h3 : s3.ipO = s1.ipO + 2 + pcode.length := r3.ipO
    rw [h3, r1.ipO]
  have hcC3 : CodeAt2 D c.envmap s3.heap σ2.store s3.ipL s3.ipO
      [BC.op (if tail = true then .tcallAcc else .callAcc)] := by
    rw [hipL]
    exact (hcC.ext (L.ext2 e13)).cast (by rw [hipO]; simp only [List.length_append, Nat.add_assoc]; rfl)
  rw [show (code1 ++ [BC.op .pushImm, BC.argc vs.length] ++ pcode
      ++ [BC.op (if tail = true then .tcallAcc else .callAcc)]).length = code1.length + 2 + pcode.length + 1 by
    simp only [List.length_append, List.length_cons, List.length_nil]]
  have hbp : s3.bp = s.bp := r3.bp.trans r1.bp
  have hep : s3.ep = s.ep := r3.ep.trans r1.ep
  have hsteps : Steps ops s s3 := r1.steps.trans (.cons hp r3.steps)
  have hw13 : W.le W3 := World.le_trans hw1 hw3
  have hext3 : StackExt s.stack s3.stack := hext1.trans r3.stack.ext
  have failHere : ∀ {cl σ'} e', step ops s3 = .err e' → machClass e' = specClass cl → R.Inv W3 s3.heap σ' →
      R.Ext s3.heap σ2.store s3.heap σ'.store →
      ∃ W' sf e', W.le W' ∧ ErrRun R.toRel W' s (errBase tail s fr) σ σ' cl sf e' :=
    fun e' hf hc' hinv hx => ⟨W3, s3, e', hw13, ⟨hsteps, hf, hc', (errBase_le hfrm).trans hext3, r3.swf, hinv,
      L.ext_trans e13 hx⟩⟩
  have notProc : (∀ p, fv ≠ .prim p) → (∀ a b c d, fv ≠ .closure a b c d) →
      ExprOut R.toRel W s (code1.length + 2 + pcode.length + 1) σ tail fr ((evalN n).apply fv ws σ2) := by
    intro hp' hcl'
    rcases apply_other ws σ2 hp' hcl' with h | h
    · rw [h]; trivial
    · rw [h]
      intro LE _
      exact failHere _ (step_call_other hcC3.1 (hcC3.op 0 rfl) (L.callee_other LE r3.acc hp' hcl')) rfl r3.inv
        (L.ext_refl _ _)
  cases fv with
  | closure ps rest body ρc =>
    obtain ⟨lam, cenv, hcal, hok⟩ := L.vr_clos r3.acc
    cases tail with
    | false =>
      have hcall := step_call_closure hcC3.1 (hcC3.op 0 rfl) hcal
      have hst4 : LiveEq (callFrame s.stack vs s3.ep s3.ipL (s3.ipO + 1))
          ((s3.stack.push (.envPtr s3.ep)).push (.instrPtr s3.ipL (s3.ipO + 1))) := by
        unfold callFrame
        exact ((hst.push (push_swf _ _) r3.swf _).push (push_swf _ _) (push_swf _ _) _)
      have o5 := ihc ps rest body ρc ws σ2 W3
        { s3 with stack := (s3.stack.push (.envPtr s3.ep)).push (.instrPtr s3.ipL (s3.ipO + 1)), ipL := lam, ipO := 0 }
        lam cenv vs s.stack s3.ep s3.ipL (s3.ipO + 1) hcal hok r3.inv hvals rfl rfl hst4 hw (push_swf _ _)
      cases hap : (evalN n).apply (.closure ps rest body ρc) ws σ2 with
      | timeout => trivial
      | ok w σ' =>
        rw [hap] at o5
        obtain ⟨W5, s5, hw5, st5, qL, qO, qep, qbp, qst, qw, qvr, qinv, qext⟩ := o5
        exact ⟨W5, s5, World.le_trans hw13 hw5, .inl ⟨hsteps.trans (.cons hcall st5), qL.trans hipL,
          by rw [qO, hipO]; omega, qbp.trans hbp, qep.trans hep, qst, qw, qvr, qinv, L.ext_trans e13 qext⟩⟩
      | err cl σ' =>
        rw [hap] at o5
        intro LE hcs
        obtain ⟨W5, sf, e', hw5, r5⟩ := o5 LE hcs
        exact ⟨W5, sf, e', World.le_trans hw13 hw5,
          ErrRun.after L.toExtLaws (hsteps.trans (Steps.one hcall)) e13 (StackExt.refl _) r5⟩
    | true =>
      have hfr0 := hfrm rfl
      obtain ⟨st4, htc, hst4, hw4⟩ := step_tcall_closure (fr := fr) hcC3.1 (hcC3.op 0 rfl) hcal
        (by rw [hbp]; exact hfr0) hw hst r3.swf
      have o5 := ihc ps rest body ρc ws σ2 W3 { s3 with stack := st4, bp := fr.bpc, ipL := lam, ipO := 0 }
        lam cenv vs fr.st0 fr.epc fr.lc fr.oc hcal hok r3.inv hvals rfl rfl hst4 hfr0.swf0 hw4
      cases hap : (evalN n).apply (.closure ps rest body ρc) ws σ2 with
      | timeout => trivial
      | ok w σ' =>
        rw [hap] at o5
        obtain ⟨W5, s5, hw5, st5, qL, qO, qep, qbp, qst, qw, qvr, qinv, qext⟩ := o5
        exact ⟨W5, s5, World.le_trans hw13 hw5, .inr ⟨rfl, ⟨hsteps.trans (.cons htc st5), qL, qO, qep, qbp, qst, qw, qvr,
          qinv, L.ext_trans e13 qext⟩⟩⟩
      | err cl σ' =>
        rw [hap] at o5
        intro LE hcs
        obtain ⟨W5, sf, e', hw5, r5⟩ := o5 LE hcs
        exact ⟨W5, sf, e', World.le_trans hw13 hw5,
          ErrRun.after L.toExtLaws (hsteps.trans (Steps.one htc)) e13 (StackExt.refl _) r5⟩
  | prim p =>
    cases hap : (evalN n).apply (.prim p) ws σ2 with
    | timeout => trivial
    | ok w σ' =>
      obtain ⟨id, h', r, hcal, hkind, hres, hvr, hinv, hext⟩ := L.call r3.inv r3.acc hvals hap
      obtain ⟨st', hstep, hl', hw'⟩ := step_call_builtin hcC3.1 (hcC3.op 0 rfl) hcal hkind hst hw r3.swf hres
      exact ⟨W3, _, hw13, .inl ⟨hsteps.trans (Steps.one hstep), hipL, by show s3.ipO + 1 = _; omega, hbp, hep, hl',
        hw', hvr, hinv, L.ext_trans e13 hext⟩⟩
    | err cl σ' =>
      intro LE hcs
      obtain ⟨id, e', hcal, hkind, hres, hcl', hinv, hx⟩ := L.call_err LE r3.inv r3.acc hvals hap hcs
      exact failHere e' (step_call_builtin_err hcC3.1 (hcC3.op 0 rfl) hcal hkind hst hw r3.swf hres) hcl' hinv hx
  | _ => exact notProc (by intro p e; cases e) (by intro a b c d e; cases e)

def BodyOut (R : Rel ops D) (W : World) (s : MSt H) (len : Nat) (σ : SSt) (fr : Frame) : Res Val → Prop
  | .ok w σ' => ∃ W' s', W.le W' ∧ (Run R W' s len σ σ' w s' ∨ Ret R W' s σ σ' w fr s')
  | .err cl σ' => R.ELaws → cl ≠ .syntax → ∃ W' sf e', W.le W' ∧ ErrRun R W' s fr.st0 σ σ' cl sf e'
  | .timeout => True

theorem BodyOut.of_tail {R : Rel ops D} {W : World} {s : MSt H} {len : Nat} {σ : SSt} {fr : Frame} {r : Res Val}
    (o : ExprOut R W s len σ true fr r) : BodyOut R W s len σ fr r := by
  cases r with
  | ok w σ' =>
    obtain ⟨W', s', hw', o⟩ := o
    exact ⟨W', s', hw', o.imp_right And.right⟩
  | err cl σ' => exact o
  | timeout => trivial

theorem BodyOut.after {R : Rel ops D} (L : ExtLaws R) {W W1 : World} {s s1 : MSt H} {len1 len2 : Nat} {σ σ1 : SSt}
    {v : Val} {fr : Frame} {r : Res Val} (r1 : Run R W1 s len1 σ σ1 v s1) (hw1 : W.le W1)
    (o2 : BodyOut R W1 s1 len2 σ1 fr r) : BodyOut R W s (len1 + len2) σ fr r := by
  cases r with
  | ok w σ' =>
    obtain ⟨W2, s2, hw2, r2 | q2⟩ := o2
    · exact ⟨W2, s2, World.le_trans hw1 hw2, .inl (r1.append L r2)⟩
    · exact ⟨W2, s2, World.le_trans hw1 hw2, .inr (Ret.prepend L r1.steps r1.ext q2)⟩
  | err cl σ' =>
    intro LE hcs
    obtain ⟨W2, sf, e', hw2, r2⟩ := o2 LE hcs
    exact ⟨W2, sf, e', World.le_trans hw1 hw2, ErrRun.after L r1.steps r1.ext (StackExt.refl _) r2⟩
  | timeout => trivial

/-- an outcome in non-tail position in front of the rest of a body; `k`: what the specification does with the value -/
theorem BodyOut.seq {R : Rel ops D} (L : ExtLaws R) {W : World} {s : MSt H} {len1 len2 : Nat} {σ : SSt} {fr fr' : Frame}
    {m : M Val} {k : Val → M Val} (o1 : ExprOut R W s len1 σ false fr' (m σ)) (hfr : FrameAt s.stack s.bp fr)
    (hk : ∀ v σ1 W1 s1, W.le W1 → Run R W1 s len1 σ σ1 v s1 → BodyOut R W1 s1 len2 σ1 fr (k v σ1)) :
    BodyOut R W s (len1 + len2) σ fr ((m >>= k) σ) := by
  cases he : m σ with
  | timeout => rw [bind_timeout he]; trivial
  | err cl σ' =>
    rw [bind_err he]; rw [he] at o1
    intro LE hcs
    obtain ⟨W', sf, e', hw', r⟩ := o1 LE hcs
    exact ⟨W', sf, e', hw', r.after L (.refl _) (L.ext_refl _ _) hfr.stackExt⟩
  | ok v σ1 =>
    rw [bind_ok he]; rw [he] at o1
    obtain ⟨W1, s1, hw1, r1 | ⟨ht, _⟩⟩ := o1
    · exact .after L r1 hw1 (hk v σ1 W1 s1 hw1 r1)
    · cases ht

theorem body_last {R : Rel ops D} {n : Nat} (ih : ExprRes R n) {f : Nat} {cst cst' : CState} {c : Ctx} {base : Nat}
    {x : Datum} {body : List Datum} {code : List BC} {ρ : Env} {us : Text → Prop} {d : Bool}
    (hfx : R.Frag f c (bound ρ) us true x) (hd0 : Spec.Eval.isDefine x = false) (hcx : CtxOK c)
    (hcomp : compileBody (f + 1) cst c base (.pair x .nil) = .ok (cst', code)) (hpre : cst'.lambdas <+: D.final)
    (hpl : properList (.pair x .nil) = some body) {σ : SSt} {W : World} {s : MSt H} {fr : Frame}
    (hc : CodeAt2 D c.envmap s.heap σ.store s.ipL base code) (hip : s.ipO = base) (hi : R.Inv W s.heap σ)
    (her : R.ER W s.heap c s.ep ρ us) (hw : SWF s.stack) (hfr : FrameAt s.stack s.bp fr) :
    BodyOut R W s code.length σ fr (Spec.Eval.evalBodyForms (evalN n) ρ d body σ) := by
  obtain ⟨es', hpl', rfl⟩ := properList_pair_inv hpl
  cases (Option.some.inj hpl' : [] = es')
  rw [Spec.Eval.evalBodyForms_last hd0]
  obtain ⟨cst1, code1, code2, c1, c2, rfl⟩ := compileBody_pair_inv hcomp
  obtain ⟨rfl, rfl⟩ : code2 = [] ∧ cst' = cst1 := by
    cases f with
    | zero => simp [compileBody] at c2
    | succ f1 => exact compileBody_nil_inv c2
  rw [List.append_nil] at hc ⊢
  exact .of_tail (ih _ _ _ _ _ _ _ _ _ _ hfx hcx c1 hpre σ W s fr hc hip hi her hw (fun _ => hfr))

theorem callFrame_stackExt{st0 st : Stack} {vs : List VCell} {epc lc oc : Nat} (hw0 : SWF st0)
    (hst : LiveEq (callFrame st0 vs epc lc oc) st) : StackExt st0 st := by
  obtain ⟨k0, _⟩ := callFrame_cells st0 vs epc lc oc hw0
  refine ⟨by rw [← hst.1, callFrame_sp]; omega, fun i hi' => ?_⟩
  rw [← hst.2 i (by rw [callFrame_sp]; omega), k0 i hi']

/-- `sE`: the state behind `[VARARG;] ENTER`, in the callee's frame `fr`, the body's `len` cells in front of `RET`: the
    body falls through and `RET` pops the frame, or its tail call has already returned to the caller -/
theorem CallOut.of_body {R : Rel ops D} (L : ExtLaws R) {W W' : World} {s sE : MSt H} {len : Nat} {σ σ1 : SSt}
    {fr : Frame} {em : List (Text × Source)} {r : Res Val} (hsE : Steps ops s sE) (hwW : W.le W')
    (hx1 : R.Ext s.heap σ.store sE.heap σ1.store) (hfrE : FrameAt sE.stack sE.bp fr) (hbpc : fr.bpc = s.bp)
    (hret : CodeAt2 D em sE.heap σ1.store sE.ipL (sE.ipO + len) [.op .ret])
    (o2 : BodyOut R W' sE len σ1 fr r) : CallOut R W s fr.st0 fr.epc fr.lc fr.oc σ r := by
  cases r with
  | timeout => trivial
  | err cl σ' =>
    intro LE hcs
    obtain ⟨W2, sf, e', hw2, r2⟩ := o2 LE hcs
    exact ⟨W2, sf, e', World.le_trans hwW hw2, r2.after L hsE hx1 (StackExt.refl _)⟩
  | ok w σ' =>
    obtain ⟨W2, s2, hw2, r2 | q2⟩ := o2
    · have hcodeR := (r2.codeAfter L hret).cast r2.ipO.symm
      have hfr2 : FrameAt s2.stack s2.bp fr := by rw [r2.bp]; exact hfrE.of_liveEq r2.stack
      have hsR := step_ret (s := s2) hcodeR.1 (by have := hcodeR.op 0 (o := .ret) rfl; simpa using this) hfr2.argc
        hfr2.le hfr2.ep hfr2.ip hfr2.bpc
      refine ⟨W2, _, World.le_trans hwW hw2, (hsE.trans r2.steps).trans (Steps.one hsR), rfl, rfl, rfl, hbpc,
        ⟨hfr2.sp0, hfr2.below⟩, ?_, r2.acc, r2.inv, L.ext_trans hx1 r2.ext⟩
      show s2.bp - fr.nf < s2.stack.cells.length
      have := r2.swf
      unfold SWF at this
      have h3 := hfr2.live
      omega
    · exact ⟨W2, s2, World.le_trans hwW hw2, hsE.trans q2.steps, q2.ipL, q2.ipO, q2.ep, q2.bp.trans hbpc, q2.stack, q2.swf,
        q2.acc, q2.inv, L.ext_trans hx1 q2.ext⟩

end Marwood.Lemmas.CompileSim
