import Marwood.Lemmas.EvalConverse
import Marwood.Lemmas.EvalConverseCut
import Marwood.Lemmas.EvalMonoMain
/-!
# The converse simulation: the fuel induction, the theorem

One level of evaluation is `simD_evalStep` / `simDAt_applyStep` of `Lemmas/EvalExtra*.lean` at side `.right` with no
frame. Particular to this direction is `cut_transfer`: the slack guard of the run in the larger store implies that
the run in the smaller store does not run a helper into its bound.
-/
namespace Marwood.Spec.Eval.Conv
open Marwood Marwood.Spec.Eval Marwood.Spec.Eval.Extra Marwood.Spec.Eval.ExtraJ

variable {f : LMap} {r r' : Rec}

theorem helperCutAt_rel (F : Nat) {st st' : St} (rs : StRel f st st') {g g' : Val} (hg : VRel f g g')
    {args args' : List Val} (ha : VsRel f args args') :
    helperCutAt F g' args' st'.store = helperCutAt F g args st.store := by
  cases hg with
  | prim p =>
    by_cases hA : p = .apply
    · subst hA
      rcases ha with _ | ⟨h1, _ | ⟨h2, h3⟩⟩
      · rfl
      · rfl
      · exact listCut_rel rs F (VsRel.cons h2 h3).getLastD
    by_cases hM : p = .map
    · subst hM
      rcases ha with _ | ⟨h1, _ | ⟨h2, h3⟩⟩
      · rfl
      · rfl
      · exact any_congr_rel (VsRel.cons h2 h3) (fun v v' hv => listCut_rel rs F hv)
    by_cases hE : p = .forEach
    · subst hE
      rcases ha with _ | ⟨h1, _ | ⟨h2, h3⟩⟩
      · rfl
      · rfl
      · exact any_congr_rel (VsRel.cons h2 h3) (fun v v' hv => listCut_rel rs F hv)
    cases p <;> first
      | rfl
      | exact absurd rfl hA
      | exact absurd rfl hM
      | exact absurd rfl hE
      | (rcases ha with _ | ⟨h1, _ | ⟨h2, _ | ⟨h3, _ | ⟨h4, ht⟩⟩⟩⟩ <;> first
          | rfl
          | exact valCut_rel rs F h1
          | exact listCut_rel rs F h1
          | exact eqCut_rel rs F h1 h2
          | exact spineCut_rel rs F h2
          | (show (listCut F _ _ || listCut F _ _) = (listCut F _ _ || listCut F _ _)
             rw [listCut_rel rs F h1, listCut_rel rs F h2]))
  | _ => rfl

theorem any_false_mono {xs : List Val} {g g' : Val → Bool} (h : ∀ v, g v = false → g' v = false)
    (hx : xs.any g = false) : xs.any g' = false := by
  rw [List.any_eq_false] at hx ⊢
  intro v hv
  have := h v (by simpa using hx v hv)
  simp [this]

theorem helperCutAt_mono (F j : Nat) (g : Val) (args : List Val) (σ : Array Cell)
    (h : helperCutAt F g args σ = false) : helperCutAt (F + j) g args σ = false := by
  cases g with
  | prim p =>
    by_cases hA : p = .apply
    · subst hA
      rcases args with _ | ⟨a, _ | ⟨b, t⟩⟩
      · rfl
      · rfl
      · exact listCut_mono σ F j _ h
    by_cases hM : p = .map
    · subst hM
      rcases args with _ | ⟨a, _ | ⟨b, t⟩⟩
      · rfl
      · rfl
      · exact any_false_mono (fun v hv => listCut_mono σ F j v hv) h
    by_cases hE : p = .forEach
    · subst hE
      rcases args with _ | ⟨a, _ | ⟨b, t⟩⟩
      · rfl
      · rfl
      · exact any_false_mono (fun v hv => listCut_mono σ F j v hv) h
    cases p <;> first
      | rfl
      | exact absurd rfl hA
      | exact absurd rfl hM
      | exact absurd rfl hE
      | (rcases args with _ | ⟨a, _ | ⟨b, _ | ⟨c, _ | ⟨d, t⟩⟩⟩⟩ <;> first
          | rfl
          | exact valCut_mono σ F j _ h
          | exact listCut_mono σ F j _ h
          | exact eqCut_mono σ F j _ _ h
          | exact spineCut_mono σ F j _ h
          | (have h' : (listCut F σ a || listCut F σ b) = false := h
             rw [Bool.or_eq_false_iff] at h'
             show (listCut (F + j) σ a || listCut (F + j) σ b) = false
             rw [listCut_mono σ F j _ h'.1, listCut_mono σ F j _ h'.2]; rfl))
  | _ => rfl

/-- `hfk` is used at the frontier `l = st.store.size` only, but asked of every `l`: the stores grow in step and the
    bound must hold again at every later frontier -/
theorem stRel_size_le_add {k : Nat} (hfk : ∀ l, f l ≤ l + k) {st st' : St} (rs : StRel f st st') :
    st'.store.size ≤ st.store.size + k := by
  have h := rs.front 0
  have := hfk st.store.size
  simp only [Nat.add_zero] at h
  omega

theorem cut_transfer {k : Nat} (hfk : ∀ l, f l ≤ l + k) {st st' : St} (rs : StRel f st st')
    {g g' : Val} (hg : VRel f g g') {args args' : List Val} (ha : VsRel f args args')
    (h : helperCutAt (st'.store.size + 1 - k) g' args' st'.store = false) : helperCut g args st.store = false := by
  rw [helperCutAt_rel _ rs hg ha] at h
  rw [helperCut_eq_at]
  have hle := stRel_size_le_add hfk rs
  obtain ⟨j, hj⟩ : ∃ j, st.store.size + 1 = (st'.store.size + 1 - k) + j := ⟨st.store.size + 1 - (st'.store.size + 1 - k), by omega⟩
  rw [hj]
  exact helperCutAt_mono _ j g args st.store h

theorem cut_transferD {k : Nat} (hfk : ∀ l, f l ≤ l + k) {J : Junk} {st st' : St} (rs : StRelJ f J st st')
    {g g' : Val} (hg : VRel f g g') {args args' : List Val} (ha : VsRel f args args')
    (h : ¬ helperCutAt (st'.store.size + 1 - k) g' args' st'.store = true) : helperCut g args st.store = false :=
  cut_transfer hfk rs.toStRel hg ha (by simpa using h)

theorem recSimD_conv {J : Junk} (hf : Inj f) {k : Nat} (hfk : ∀ l, f l ≤ l + k) :
    ∀ (n : Nat), RecSimD f J .right (evalN n) (sguardN k n)
  | 0 => ⟨fun _ _ _ _ _ _ => SimD.timeout_right _, fun _ _ _ _ _ _ => SimD.timeout_right _⟩
  | n+1 => ⟨fun e ρ ρ' B he hc => simD_evalStep hf (recSimD_conv hf hfk n) he e hc,
            fun g g' args args' hg ha st st' rs => by
              show ResRelD _ .right (VRel f) (applyStep (evalN n) g args st) (sguardApply k (sguardN k n) g' args' st')
              unfold sguardApply
              split
              · exact ResRelD.timeout_right _
              · rename_i hcut
                exact simDAt_applyStep hf (recSimD_conv hf hfk n) hg ha rs (cut_transferD hfk rs hg ha hcut)⟩

/-- the evaluator at fuel `n` in the smaller store is simulated, conversely, by the slack-guarded
    evaluator at fuel `n` in the larger store -/
theorem recSimR (hf : Inj f) {k : Nat} (hfk : ∀ l, f l ≤ l + k) : ∀ (n : Nat), RecSimR f (evalN n) (sguardN k n) :=
  fun n => recSimR_iff.2 (recSimD_conv hf hfk n)

/-- the run in the smaller store does not hit ITS guard either (`hc`), so the simulated evaluator can be the guarded one -/
theorem recSimD_conv_guard {J : Junk} (hf : Inj f) {k : Nat} (hfk : ∀ l, f l ≤ l + k) :
    ∀ (n : Nat), RecSimD f J .right (guardN n) (sguardN k n)
  | 0 => ⟨fun _ _ _ _ _ _ => SimD.timeout_right _, fun _ _ _ _ _ _ => SimD.timeout_right _⟩
  | n+1 => ⟨fun e ρ ρ' B he hc => simD_evalStep hf (recSimD_conv_guard hf hfk n) he e hc,
            fun g g' args args' hg ha st st' rs => by
              show ResRelD _ .right (VRel f) (guardApply (guardN n) g args st) (sguardApply k (sguardN k n) g' args' st')
              unfold sguardApply
              split
              · exact ResRelD.timeout_right _
              · rename_i hcut
                have hc := cut_transferD hfk rs hg ha hcut
                rw [guardApply_of_not_cut _ _ _ _ hc]
                exact simDAt_applyStep hf (recSimD_conv_guard hf hfk n) hg ha rs hc⟩

/-- … and the run in the smaller store does not hit ITS guard either: the simulated evaluator can be
    taken to be the guarded one -/
theorem recSimR_guard (hf : Inj f) {k : Nat} (hfk : ∀ l, f l ≤ l + k) : ∀ (n : Nat), RecSimR f (guardN n) (sguardN k n) :=
  fun n => recSimR_iff.2 (recSimD_conv_guard hf hfk n)

/-- **Extra-cell invariance, converse** (C01 `extra_cell_invariance_converse`). `f` injective, `f l ≤ l + k` (at most `k`
    extra cells). If the evaluation of `e` in the LARGER store is definite under `sguardN k`, the guarded evaluation in
    the smaller store with the same fuel ends with the same kind of outcome: related values, the same error class, the
    same output log, related globals and stores. -/
theorem extra_cell_invariance_conv_guard (hf : Inj f) {k : Nat} (hfk : ∀ l, f l ≤ l + k) (n : Nat) (e : Datum)
    {B : List Text} {ρ ρ' : Env} (he : EnvRel f B ρ ρ') (hc : CleanB B e) {st st' : St} (rs : StRel f st st') :
    ResRelR f (VRel f) ((guardN n).eval e ρ st) ((sguardN k n).eval e ρ' st') :=
  (recSimR_guard hf hfk n).eval e ρ ρ' B he hc st st' rs

/-- the same about `evalN` in the smaller store -/
theorem extra_cell_invariance_conv (hf : Inj f) {k : Nat} (hfk : ∀ l, f l ≤ l + k) (n : Nat) (e : Datum) {B : List Text}
    {ρ ρ' : Env} (he : EnvRel f B ρ ρ') (hc : CleanB B e) {st st' : St} (rs : StRel f st st') :
    ResRelR f (VRel f) ((evalN n).eval e ρ st) ((sguardN k n).eval e ρ' st') :=
  (recSimR hf hfk n).eval e ρ ρ' B he hc st st' rs

theorem extra_cell_invariance_conv_apply (hf : Inj f) {k : Nat} (hfk : ∀ l, f l ≤ l + k) (n : Nat) {g g' : Val}
    (hg : VRel f g g') {args args' : List Val} (ha : VsRel f args args') {st st' : St} (rs : StRel f st st') :
    ResRelR f (VRel f) ((evalN n).apply g args st) ((sguardN k n).apply g' args' st') :=
  (recSimR hf hfk n).apply g g' args args' hg ha st st' rs

theorem extra_cell_invariance_conv_top (hf : Inj f) {k : Nat} (hfk : ∀ l, f l ≤ l + k) (n : Nat) (d : Datum)
    {st st' : St} (rs : StRel f st st') :
    ResRelR f (VRel f) (evalTop (evalN n) d st) (evalTop (sguardN k n) d st') :=
  simR_iff.2 (simD_evalTop hf (recSimD_conv hf hfk n) d) st st' rs

end Marwood.Spec.Eval.Conv
