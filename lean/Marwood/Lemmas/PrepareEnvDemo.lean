import Marwood.Lemmas.PrepareDemo
import Marwood.Lemmas.PrepareEnv
/-!
# `prepare_envInv` on a concrete `prepare_eval` (non-vacuity), and what the checker's environment clauses refuse

The instance of Lemmas/PrepareDemo.lean (the form `#t` on the idle demo machine) satisfies every hypothesis of
`prepare_envInv`. Hand-mutated after-heaps show that the clauses `EnvInv` rests on are not vacuous: the checker refuses a
loaded code object whose environment map is longer than the model's (`LoadedLam.envLen`), an entry lambda whose immediate
does not point to a loading of the top-level lambda (`ImmLoaded.lam`), a MOVIMM immediate pointing to a capturing lambda
outside a CLOSURE site, and a site whose child has an `IofEnvironment` slot beyond the object's map (`LamEnvOk`).
-/
namespace Marwood.Lemmas.Good.Demo
open Marwood Marwood.Vm Marwood.Vm.Verify Marwood.Vm.Concrete Marwood.Lemmas.Sim Marwood.Lemmas.Good
open Marwood.Heap (GcState)
open Marwood.Proofs.C13

/-- **`prepare_envInv` applies**: the state in which the evaluation of `#t` starts satisfies the slot invariant -/
theorem demo_prepared_envInv : EnvInv (prepare sT 2) :=
  prepare_envInv sHalt_idleOk (sHalt_envInv 0 (.inl rfl)) rfl demo_installs demo_small

example : stateEnvB (prepare sT 2) = true := by decide +kernel

/-- `EnvInv` survives the loader steps regarded as garbage, too -/
theorem demo_garbage_envInv : EnvInv sT :=
  (envInv_installsGarbage sHalt_idleOk (sHalt_envInv 0 (.inl rfl)) demo_garbage demo_small).1

def lamHalt : CCell := .lambda { bc := [.opcode .halt], args := [], envmap := [] }

def entryCl (p : Nat) : CLambda :=
  { bc := [.opcode .pushImm, .argc 0, .opcode .movImm, .ptr p, .acc, .opcode .callAcc, .opcode .halt], args := [],
    envmap := [] }

def topCl (em : List (VCell × Concrete.Source)) : CLambda :=
  { bc := [.opcode .enter, .opcode .movImm, .bool true, .acc, .opcode .ret], args := [], envmap := em }

def siteCl (em : List (VCell × Concrete.Source)) : CLambda :=
  { bc := [.opcode .enter, .opcode .movImm, .ptr 1, .acc, .opcode .closureAcc, .opcode .ret], args := [], envmap := em }

def hWith (c1 c2 : CCell) : CHeap := { hT with cells := #[lamHalt, c1, c2, .val .undefined] }

def sWith (c1 c2 : CCell) : St CHeap := { sHalt 0 with heap := hWith c1 c2 }

/-- the unmodified cells are accepted -/
example : installsB (Datum.bool true) 20 (sHalt 0) (sWith (.lambda (topCl [])) (.lambda (entryCl 1))) 2 = true :=
  demo_installsB

/-- cell 1 (the top-level lambda) with a one-entry environment map — the model's is empty: `LoadedLam.envLen` -/
example : installsB (Datum.bool true) 20 (sHalt 0)
    (sWith (.lambda (topCl [(.undefined, .internal)])) (.lambda (entryCl 1))) 2 = false := by decide +kernel

/-- the entry lambda's immediate points to cell 0 (the old `[HALT]` object), not to a loading of the top-level lambda:
    `ImmLoaded.lam` -/
example : installsB (Datum.bool true) 20 (sHalt 0) (sWith (.lambda (topCl [])) (.lambda (entryCl 0))) 2 = false := by
  decide +kernel

def hCapt : CHeap :=
  hWith (.lambda { bc := [.opcode .enter, .opcode .ret], args := [], envmap := [(.undefined, .iofEnv 0)] }) (.val .undefined)

/-- `LamEnvOk` relative to the heap the code object is put into: accepted for the demo's entry lambda; refused for a MOVIMM
    immediate outside a CLOSURE site pointing to a capturing lambda and for a site whose child has an `IofEnvironment` slot
    beyond this object's map; accepted when the map has that slot -/
example : envOkB hT (entryCl 1) = true := by decide +kernel
example : envOkB hCapt (entryCl 1) = false := by decide +kernel
example : envOkB hCapt (siteCl []) = false := by decide +kernel
example : envOkB hCapt (siteCl [(.undefined, .internal)]) = true := by decide +kernel

end Marwood.Lemmas.Good.Demo
