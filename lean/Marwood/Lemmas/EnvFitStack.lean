import Marwood.Lemmas.EnvFitOps
/-!
# The slot clause of T06.6 as an invariant: the stack, and rebuilding `FInv` after an instruction

`ExtFit` is what is assumed of the parameters of the concrete model. `FB.SA` (header cells refer to allocated cells) and
`FB.Blk` (an argument block holds values) carry the multi-step stack manipulations (builtins, the TCALL copy loops,
VARARG); `FInv.next` rebuilds `FInv` after an instruction that stays in the same code object and environment.
-/
namespace Marwood.Lemmas.Good
open Marwood Marwood.Vm Marwood.Vm.Verify Marwood.Vm.Concrete Marwood.Lemmas.Sim
open Marwood.Heap (GcState)
open StepC

theorem small_bound {h : CHeap} (sm : Small h) : h.cells.size ≤ 2 ^ 63 := by
  unfold Small at sm; omega

theorem plainGlob_not_closure {v : VCell} (hp : plainGlob v = true) : ∀ l e, v ≠ .closure l e := by
  intro l e he; subst he; simp [plainGlob, isPtr, addrFree] at hp

theorem nhdr_ptr (a : Nat) : NHdr (.ptr a) := ⟨fun _ hh => (by cases hh), fun _ _ hh => (by cases hh)⟩

theorem nhdr_argc (n : Nat) : NHdr (.argc n) := ⟨fun _ hh => (by cases hh), fun _ _ hh => (by cases hh)⟩

theorem nhdr_basePtr (n : Nat) : NHdr (.basePtr n) := ⟨fun _ hh => (by cases hh), fun _ _ hh => (by cases hh)⟩


theorem set_get {st st' : Stack} {k i : Nat} {v w : VCell} (hs : st.set k v = .ok st')
    (hw : st'.cells[i]? = some w) : st.cells[i]? = some w ∨ w = v := by
  unfold Stack.set at hs
  split at hs
  · cases hs
    simp only at hw
    by_cases h1 : k = i
    · subst h1
      rw [List.getElem?_set_self (by assumption)] at hw
      cases hw; exact .inr rfl
    · rw [List.getElem?_set_ne h1] at hw; exact .inl hw
  · cases hs

theorem PairsOk.push {h : CHeap} {st : Stack} {v : VCell} (x : PairsOk h st.cells st.sp) (hv : NIP v) :
    PairsOk h (st.push v).cells (st.push v).sp := by
  intro i e l o hi he hl
  rw [push_sp] at hi
  by_cases htop : i + 1 = st.sp + 1
  · rw [htop, push_top] at hl
    cases hl; exact absurd rfl (hv l o)
  · rcases push_get (show i ≤ st.sp by omega) he with he' | he' <;> try (cases he'; done)
    rcases push_get (show i + 1 ≤ st.sp by omega) hl with hl' | hl' <;> try (cases hl'; done)
    exact x i e l o (by omega) he' hl'

theorem PairsOk.push_ip {h : CHeap} {st : Stack} {l o : Nat} (x : PairsOk h st.cells st.sp)
    (htop : ∀ e, st.cells[st.sp]? = some (.envPtr e) → Fit h e l) :
    PairsOk h (st.push (.instrPtr l o)).cells (st.push (.instrPtr l o)).sp := by
  intro i e l' o' hi he hl
  rw [push_sp] at hi
  by_cases hi2 : i + 1 = st.sp + 1
  · rw [hi2, push_top] at hl
    cases hl
    have hi3 : i = st.sp := by omega
    subst hi3
    rcases push_get (Nat.le_refl _) he with he' | he'
    · exact htop e he'
    · cases he'
  · rcases push_get (show i ≤ st.sp by omega) he with he' | he' <;> try (cases he'; done)
    rcases push_get (show i + 1 ≤ st.sp by omega) hl with hl' | hl' <;> try (cases hl'; done)
    exact x i e l' o' (by omega) he' hl'

theorem PairsOk.push_any {h : CHeap} {st : Stack} {v : VCell} (x : PairsOk h st.cells st.sp)
    (htop : ∀ e l o, v = .instrPtr l o → st.cells[st.sp]? = some (.envPtr e) → Fit h e l) :
    PairsOk h (st.push v).cells (st.push v).sp := by
  by_cases hv : ∃ l o, v = .instrPtr l o
  · obtain ⟨l, o, rfl⟩ := hv
    exact x.push_ip (fun e he => htop e l o rfl he)
  · exact x.push (fun l o hh => hv ⟨l, o, hh⟩)

theorem PairsOk.push_frame {h : CHeap} {st : Stack} {e l o : Nat} (x : PairsOk h st.cells st.sp) (hf : Fit h e l) :
    PairsOk h ((st.push (.envPtr e)).push (.instrPtr l o)).cells ((st.push (.envPtr e)).push (.instrPtr l o)).sp := by
  refine PairsOk.push_ip (x.push (fun _ _ hh => by cases hh)) ?_
  intro e' he'
  rw [push_sp, push_top] at he'
  cases he'; exact hf

theorem PairsOk.resp {h : CHeap} {st st' : Stack} (x : PairsOk h st.cells st.sp) (hc : st'.cells = st.cells)
    (hsp : st'.sp ≤ st.sp) : PairsOk h st'.cells st'.sp := by
  rw [hc]; exact x.mono hsp

theorem PairsOk.set {h : CHeap} {st st' : Stack} {B : Nat} {v : VCell} {k : Nat} (x : PairsOk h st.cells B) (hv : NHdr v)
    (hs : st.set k v = .ok st') : PairsOk h st'.cells B ∧ st'.sp = st.sp ∧ st'.cells.length = st.cells.length := by
  unfold Stack.set at hs
  split at hs
  · cases hs
    refine ⟨?_, rfl, by simp⟩
    intro i e l o hi he hl
    simp only at he hl
    by_cases h1 : i = k
    · subst h1
      rw [List.getElem?_set_self (by assumption)] at he
      cases he; exact absurd rfl (hv.1 e)
    · by_cases h2 : i + 1 = k
      · subst h2
        rw [List.getElem?_set_self (by assumption)] at hl
        cases hl; exact absurd rfl (hv.2 l o)
      · rw [List.getElem?_set_ne (by omega)] at he hl
        exact x i e l o hi he hl
  · cases hs

theorem PairsOk.setOffset {h : CHeap} {st st' : Stack} {B : Nat} {v : VCell} {off : Int} (x : PairsOk h st.cells B)
    (hv : NHdr v) (hs : st.setOffset off v = .ok st') :
    PairsOk h st'.cells B ∧ st'.sp = st.sp ∧ st'.cells.length = st.cells.length := by
  unfold Stack.setOffset at hs
  simp only at hs
  split at hs
  · exact x.set hv hs
  · cases hs

/-- `PairsOk` in a later heap: the header cells have to refer to allocated cells of the earlier one -/
theorem PairsOk.keep' {h h' : CHeap} {cells : List VCell} {sp : Nat} (k : FitKeep h h')
    (nfe : ∀ i e, i ≤ sp → cells[i]? = some (.envPtr e) → NF h e)
    (nfl : ∀ i l o, i ≤ sp → cells[i]? = some (.instrPtr l o) → NF h l) (x : PairsOk h cells sp) :
    PairsOk h' cells sp := by
  intro i e l o hi he hl
  exact k e l (nfe i e (by omega) he) (nfl (i + 1) l o hi hl) (x i e l o hi he hl)

theorem InPre.ls {h h' : CHeap} (ls : LamSame h h') {l o : Nat} : InPre h' l o ↔ InPre h l o := by
  unfold InPre; rw [ls l]

theorem calleeLam_keep {N : CCell → Prop} {h h' : CHeap} (g : HG h) (x : FStep N h h') {acc : VCell}
    (ha : VRefsOk h acc) {lam : Nat} (hc : calleeLam h acc = some lam) : calleeLam h' acc = some lam := by
  unfold calleeLam callee at hc ⊢
  cases acc with
  | ptr p =>
    simp only at hc ⊢
    cases hcell : h.cells[p]? with
    | none => rw [hcell] at hc; cases hc
    | some c =>
      rw [hcell] at hc
      have hnf : NF h p := VRefsOk.ptr.mp ha
      have hk : h'.cells[p]? = some c := by
        refine x.keep p c hcell ?_ ?_
        · rcases hnf.cases g with ⟨k1, _⟩ | k1
          · exact k1
          · have := lt_of_get_some hcell; have := hg_bound g; omega
        · intro ss hh; subst hh; simp [calleeOfCell] at hc
      rw [hk]; exact hc
  | closure l e => exact hc
  | builtin id => exact hc
  | _ => cases hc

theorem inPre_zero {h : CHeap} (ci : CInvG IsValue h) {lam : Nat} (hp : procAt h lam = true) : InPre h lam 0 := by
  unfold procAt at hp
  cases hl : lambdaAt h lam with
  | none => rw [hl] at hp; cases hp
  | some l =>
    rw [hl] at hp
    have hv := ci.lamVer lam l (lambdaAt_iff.mp hl)
    cases ht : verifyLam l.bc with
    | none => rw [ht] at hv; cases hv
    | some t =>
      have he : t.entry = false := by rw [verifyLam_entry ht]; simpa using hp
      obtain ⟨_, hchk⟩ := verifyLam_spec ht
      have h0 := checkAll_init hchk
      rw [he] at h0
      exact ⟨l, t, hl, ht, he, h0⟩

/-- from the callee guard being invisible -/
theorem procAt_of_calleeOk {s : St CHeap} (ok : CalleeOk s) {lam : Nat} (hc : calleeLam s.heap s.acc = some lam) :
    procAt s.heap lam = true := by
  unfold CalleeOk gcallee at ok
  unfold calleeLam at hc
  cases hcal : callee s.heap s.acc with
  | closure l e =>
    rw [hcal] at hc ok
    simp only at hc ok
    cases hc
    by_cases hp : procAt s.heap lam = true
    · exact hp
    · simp [hp] at ok
  | lambda =>
    rw [hcal] at hc ok
    simp only at hc ok
    cases hacc : s.acc with
    | ptr p =>
      rw [hacc] at hc ok
      simp only at hc ok
      cases hc
      by_cases hp : procAt s.heap lam = true
      · exact hp
      · simp [hp] at ok
    | _ => rw [hacc] at hc; simp at hc
  | builtin id => rw [hcal] at hc; cases hc
  | continuation c => rw [hcal] at hc; cases hc
  | other => rw [hcal] at hc; cases hc

def LamKeep (h h' : CHeap) : Prop := ∀ l lam, lambdaAt h l = some lam → lambdaAt h' l = some lam

/-- **Assumed of the parameters of the concrete model** (`ExtOps`): between two heaps satisfying `HG`, the generic builtins,
    `eval`'s compiler and VPUSH's push keep `HF`, keep what fits between allocated cells fitting (`FitKeep`), leave every
    lambda cell as it is (`LamKeep`), and a closure a builtin returns inline (`car` of a pair holding a procedure:
    `maybe_put` then stores a copy) fits. -/
structure ExtFit (ext : ExtOps) : Prop where
  eval : ∀ (h : CHeap) (id : Nat) (args : List VCell) (h' : CHeap) (v : VCell), HG h → HG h' → HF h → LF h →
    (∀ a ∈ args, VOk h a) → ext.builtinEval h id args = .ok (h', v) →
    HF h' ∧ FitKeep h h' ∧ LamKeep h h' ∧ ∀ l e, v = .closure l e → Fit h' e l
  compile : ∀ (h : CHeap) (d : VCell) (h' : CHeap) (v : VCell), HG h → HG h' → HF h → LF h → VRefsOk h d →
    ext.compileEval h d = .ok (h', v) → HF h' ∧ FitKeep h h' ∧ LamKeep h h' ∧ ∀ l e, v = .closure l e → Fit h' e l
  vpush : ∀ (h : CHeap) (vec a : VCell) (h' : CHeap), HG h → HG h' → HF h → LF h → VRefsOk h vec → VOk h a →
    ext.vectorPush h vec a = .ok h' → HF h' ∧ FitKeep h h' ∧ LamKeep h h'

theorem InPre.lamKeep {h h' : CHeap} (lk : LamKeep h h') {l o : Nat} {lam : CLambda} (hl : lambdaAt h l = some lam)
    (x : InPre h' l o) : InPre h l o := by
  obtain ⟨lam', t, h1, h2, h3, h4⟩ := x
  rw [lk l lam hl] at h1
  cases h1
  exact ⟨lam, t, hl, h2, h3, h4⟩

namespace FB

/-- a free cell is `Undefined` -/
theorem lf_of_hg {h : CHeap} (g : HG h) : LF h := by
  intro l lam hc hm
  have hnf := alloc_of_ne_undef g hc (by intro hh; cases hh)
  have : (toHeap h).gc[l]? = some GcState.free := (g.wf.free_iff l).mp hm
  rcases hnf with x | x <;> (rw [this] at x; cases x)

theorem lamKeep_of_ls {h h' : CHeap} (ls : LamSame h h') : LamKeep h h' := by
  intro l lam hl; rw [ls l]; exact hl

theorem set_inv {st st' : Stack} {k : Nat} {v : VCell} (hs : st.set k v = .ok st') :
    st'.sp = st.sp ∧ ∀ i w, st'.cells[i]? = some w → (i = k ∧ w = v) ∨ (i ≠ k ∧ st.cells[i]? = some w) := by
  unfold Stack.set at hs
  split at hs
  · cases hs
    refine ⟨rfl, ?_⟩
    intro i w hw
    simp only at hw
    by_cases hik : i = k
    · subst hik
      rw [List.getElem?_set_self (by assumption)] at hw
      cases hw; exact .inl ⟨rfl, rfl⟩
    · rw [List.getElem?_set_ne (by omega)] at hw
      exact .inr ⟨hik, hw⟩
  · cases hs

theorem setOffset_inv {st st' : Stack} {off : Int} {v : VCell} (hs : st.setOffset off v = .ok st') :
    ∃ k, st.set k v = .ok st' := by
  unfold Stack.setOffset at hs
  simp only at hs
  split at hs
  · exact ⟨_, hs⟩
  · cases hs

def HdrNF (h : CHeap) (v : VCell) : Prop := (∀ e, v = .envPtr e → NF h e) ∧ (∀ l o, v = .instrPtr l o → NF h l)

theorem HdrNF.of_nhdr {h : CHeap} {v : VCell} (x : NHdr v) : HdrNF h v :=
  ⟨fun e he => absurd he (x.1 e), fun l o he => absurd he (x.2 l o)⟩

theorem HdrNF.undef (h : CHeap) : HdrNF h .undefined :=
  ⟨fun _ he => (by cases he), fun _ _ he => (by cases he)⟩

theorem HdrNF.of_refs {h : CHeap} {v : VCell} (x : VRefsOk h v) : HdrNF h v :=
  ⟨fun e he => by subst he; exact nf_envPtr x, fun l o he => by subst he; exact nf_instrPtr x⟩

theorem HdrNF.mono {h h' : CHeap} (m : Mono h h') {v : VCell} (x : HdrNF h v) : HdrNF h' v :=
  ⟨fun e he => (x.1 e he).mono m, fun l o he => (x.2 l o he).mono m⟩

def SA (h : CHeap) (st : Stack) (B : Nat) : Prop :=
  ∀ (i : Nat) (v : VCell), (i ≤ B ∨ i ≤ st.sp) → st.cells[i]? = some v → HdrNF h v

theorem SA.of_good {s : St CHeap} (g : GoodI s) : SA s.heap s.stack s.stack.sp := by
  intro i v hi hv
  exact .of_refs (roots_stack g.roots (by omega) hv)

theorem SA.heap {h h' : CHeap} {st : Stack} {B : Nat} (x : SA h st B) (m : Mono h h') : SA h' st B :=
  fun i v hi hv => (x i v hi hv).mono m

theorem SA.resp {h : CHeap} {st st' : Stack} {B : Nat} (x : SA h st B) (hc : st'.cells = st.cells)
    (hsp : st'.sp ≤ B ∨ st'.sp ≤ st.sp) : SA h st' B := by
  intro i v hi hv
  rw [hc] at hv
  refine x i v ?_ hv
  rcases hi with hi | hi
  · exact .inl hi
  · rcases hsp with h1 | h1
    · exact .inl (by omega)
    · exact .inr (by omega)

theorem SA.push {h : CHeap} {st : Stack} {B : Nat} (x : SA h st B) {v : VCell} (hv : HdrNF h v) : SA h (st.push v) B := by
  intro i w hi hw
  by_cases hi1 : i = st.sp + 1
  · subst hi1
    rw [push_top] at hw
    cases hw; exact hv
  · rcases push_get' hi1 hw with hw' | hw'
    · refine x i w ?_ hw'
      rcases hi with hi | hi
      · exact .inl hi
      · rw [push_sp] at hi; exact .inr (by omega)
    · subst hw'; exact .undef h

theorem SA.set {h : CHeap} {st st' : Stack} {B : Nat} (x : SA h st B) {v : VCell} (hv : HdrNF h v) {k : Nat}
    (hs : st.set k v = .ok st') : SA h st' B := by
  obtain ⟨e, hc⟩ := set_inv hs
  intro i w hi hw
  rcases hc i w hw with ⟨_, rfl⟩ | ⟨_, hw'⟩
  · exact hv
  · exact x i w (by rw [e] at hi; exact hi) hw'

theorem SA.pop {h : CHeap} {st st' : Stack} {B : Nat} (x : SA h st B) {v : VCell} (hp : st.pop = .ok (v, st')) :
    SA h st' B := by
  obtain ⟨_, _, p3, p4⟩ := pop_inv hp
  exact x.resp p4 (.inr (by omega))

theorem SA.nfe {h : CHeap} {st : Stack} {B : Nat} (x : SA h st B) :
    ∀ i e, i ≤ st.sp → st.cells[i]? = some (.envPtr e) → NF h e :=
  fun i e hi hv => (x i _ (.inr hi) hv).1 e rfl

theorem SA.nfl {h : CHeap} {st : Stack} {B : Nat} (x : SA h st B) :
    ∀ i l o, i ≤ st.sp → st.cells[i]? = some (.instrPtr l o) → NF h l :=
  fun i l o hi hv => (x i _ (.inr hi) hv).2 l o rfl

def Blk (st : Stack) (S n : Nat) : Prop :=
  ∀ i v, i < S → S ≤ i + n → st.cells[i]? = some v → plainGlob v = true

theorem Blk.set {st st' : Stack} {S n : Nat} (x : Blk st S n) {v : VCell} (hv : plainGlob v = true) {k : Nat}
    (hs : st.set k v = .ok st') : Blk st' S n := by
  obtain ⟨_, hc⟩ := set_inv hs
  intro i w h1 h2 hw
  rcases hc i w hw with ⟨_, rfl⟩ | ⟨_, hw'⟩
  · exact hv
  · exact x i w h1 h2 hw'

theorem Blk.push {st : Stack} {S n : Nat} (x : Blk st S n) {v : VCell} (hv : plainGlob v = true) :
    Blk (st.push v) S n := by
  intro i w h1 h2 hw
  by_cases hi1 : i = st.sp + 1
  · subst hi1
    rw [push_top] at hw
    cases hw; exact hv
  · rcases push_get' hi1 hw with hw' | hw'
    · exact x i w h1 h2 hw'
    · subst hw'; rfl

theorem Blk.resp {st st' : Stack} {S n : Nat} (x : Blk st S n) (hc : st'.cells = st.cells) : Blk st' S n := by
  intro i w h1 h2 hw; rw [hc] at hw; exact x i w h1 h2 hw

end FB

/-- the successor of an instruction that stays in the same code object and environment; the new stack's pairs have to fit
    in the OLD heap -/
theorem FInv.next {N : CCell → Prop} {s s' : St CHeap} (g : GoodI s) (b' : s'.heap.cells.size ≤ 2 ^ 63) (f : FInv s)
    (x : FStep N s.heap s'.heap)
    (hN : ∀ (i : Nat) (c : CCell), s'.heap.cells[i]? = some c → N c → CellF s'.heap c)
    (hfit : Fit s.heap s.ep s.ipL) (hep : s'.ep = s.ep) (hl : s'.ipL = s.ipL)
    (hnp : ¬ InPre s.heap s.ipL s'.ipO)
    (hstk : PairsOk s.heap s'.stack.cells s'.stack.sp) {B : Nat} (sa : FB.SA s.heap s'.stack B) : FInv s' := by
  have k := x.fitKeep g.hg b'
  refine ⟨HF.step g.hg b' f.hf x hN, hstk.keep' k sa.nfe sa.nfl, ?_, ?_⟩
  · intro hp
    rw [hl, InPre.ls x.ls] at hp
    exact absurd hp hnp
  · intro _
    rw [hep, hl]
    exact k _ _ (roots_ep g.roots) (roots_ipL g.roots) hfit

theorem FInv.next_old {N : CCell → Prop} {s s' : St CHeap} (g : GoodI s) (b' : s'.heap.cells.size ≤ 2 ^ 63) (f : FInv s)
    (x : FStep N s.heap s'.heap)
    (hN : ∀ (i : Nat) (c : CCell), s'.heap.cells[i]? = some c → N c → CellF s'.heap c)
    (hfit : Fit s.heap s.ep s.ipL) (hep : s'.ep = s.ep) (hl : s'.ipL = s.ipL)
    (hnp : ¬ InPre s.heap s.ipL s'.ipO)
    (hc : s'.stack.cells = s.stack.cells) (hsp : s'.stack.sp ≤ s.stack.sp) : FInv s' :=
  FInv.next g b' f x hN hfit hep hl hnp (f.stk.resp hc hsp) ((FB.SA.of_good g).resp hc (.inl hsp))

theorem calleeLam_of {h : CHeap} {a : VCell} {lam : Nat}
    (hc : (∃ env, callee h a = .closure lam env) ∨ (callee h a = .lambda ∧ a = .ptr lam)) : calleeLam h a = some lam := by
  unfold calleeLam
  rcases hc with ⟨env, hc⟩ | ⟨hc, rfl⟩ <;> rw [hc]

end Marwood.Lemmas.Good
