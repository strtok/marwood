import Marwood.Lemmas.EvalDerivedLet
/-!
# T01.2, second half: named `let` and `letrec`
-/
namespace Marwood.Spec.Eval.Derived
open Marwood Marwood.Spec.Eval Marwood.Spec.Eval.Prelude

variable (r : Rec) (ρ : Env)

theorem native_letrec (bs : List (Text × Datum)) (b : Datum) (body : List Datum)
    (hb : ∀ p ∈ bs, reserved p.1 = false) :
    evalStep r (letrecUse (symBindings bs) b body) ρ = (do
      let ρ' ← allocVars (bs.map fun p => (p.1, Val.undef)) ρ
      evalLetrecInits r ρ' bs
      evalBody r ρ' (b :: body)) := by
  have hp := parseBindings_bindingList bs hb
  have hl : properList (Datum.pair b (Datum.ofList body)) = some (b :: body) := properList_ofList (b :: body)
  simp only [letrecUse, L, s, Datum.ofList, evalStep, kwOf_letrec, evalKw, hp, hl]

/-- the procedure a named `let` binds its tag to, given the location of the tag's variable -/
def loopProc (tag : Text) (bs : List (Text × Datum)) (b : Datum) (body : List Datum) (l : Loc) : Val :=
  .closure (bs.map (·.1)) none (b :: body) ((tag, l) :: ρ)

theorem native_namedLet (tag : Text) (bs : List (Text × Datum)) (b : Datum) (body : List Datum)
    (ht : reserved tag = false) (hb : ∀ p ∈ bs, reserved p.1 = false) :
    evalStep r (namedLetUse tag (symBindings bs) b body) ρ = (do
      let vs ← evalArgs r ρ (bs.map (·.2))
      let l ← allocCell (.var .undef)
      writeCell l (.var (loopProc ρ tag bs b body l))
      r.apply (loopProc ρ tag bs b body l) vs) := by
  have hp := parseBindings_bindingList bs hb
  have hl : properList (Datum.pair b (Datum.ofList body)) = some (b :: body) := properList_ofList (b :: body)
  simp only [namedLetUse, L, s, Datum.ofList, evalStep, kwOf_let, evalKw, hp, hl, ht, loopProc]
  rfl

theorem write_read {β : Type} (l : Loc) (v : Val) (K : Val → M β) :
    (writeCell l (.var v) >>= fun _ => readVar l >>= K) = (writeCell l (.var v) >>= fun _ => K v) := by
  funext st
  show M.bind' (writeCell l (.var v)) (fun _ => M.bind' (readVar l) K) st = M.bind' (writeCell l (.var v)) (fun _ => K v) st
  unfold M.bind' writeCell
  by_cases h : l < st.store.size
  · simp only [h, if_true]
    have : readVar l { st with store := st.store.setIfInBounds l (.var v) } =
        .ok v { st with store := st.store.setIfInBounds l (.var v) } := by
      show M.bind' (readCell l) _ _ = _
      simp [M.bind', readCell, h, Pure.pure, M.pure']
    rw [this]
  · simp only [h, if_false]

/-- the operator of the expansion; `evalN (n+1)`: a level for its `lambda` and for the reference `tag` -/
theorem loop_letrec_eval (n : Nat) (tag : Text) (bs : List (Text × Datum)) (b : Datum) (body : List Datum)
    (ht : reserved tag = false) (hb : ∀ p ∈ bs, reserved p.1 = false) :
    evalStep (evalN (n+1))
      (L [s k_letrec, L [L [s tag, L (s k_lambda :: L ((bs.map (·.1)).map s) :: b :: body)]], s tag]) ρ = (do
      let l ← allocCell (.var .undef)
      writeCell l (.var (loopProc ρ tag bs b body l))
      pure (loopProc ρ tag bs b body l)) := by
  have h := native_letrec (evalN (n+1)) ρ [(tag, L (s k_lambda :: L ((bs.map (·.1)).map s) :: b :: body))] (s tag) []
    (by intro p hp; simp at hp; subst hp; exact ht)
  have e1 : letrecUse (symBindings [(tag, L (s k_lambda :: L ((bs.map (·.1)).map s) :: b :: body))]) (s tag) [] =
      L [s k_letrec, L [L [s tag, L (s k_lambda :: L ((bs.map (·.1)).map s) :: b :: body)]], s tag] := rfl
  rw [e1] at h
  rw [h]
  simp only [List.map, allocVars_one, M.bind_assoc, M.pure_bind, evalLetrecInits]
  congr 1; funext l
  rw [evalN_succ_eval, native_lambda, lambda_closure _ _ b body (names_ok hb), M.pure_bind]
  have ha : assignVar ((tag, l) :: ρ) tag (.closure (bs.map (·.1)) none (b :: body) ((tag, l) :: ρ)) =
      writeCell l (.var (loopProc ρ tag bs b body l)) := by
    simp [assignVar, List.lookup, loopProc]
  rw [ha, evalBody_noDefs _ _ [s tag] (by intro d hd; simp at hd; subst hd; rfl)]
  show (writeCell l _ >>= fun _ => (evalN (n+1)).eval (s tag) ((tag, l) :: ρ)) = _
  rw [evalN_succ_eval, native_sym]
  have hv : evalVar tag ((tag, l) :: ρ) = readVar l := by
    simp [evalVar, ht, List.lookup]
  rw [hv]
  have := write_read l (loopProc ρ tag bs b body l) (fun v => (pure v : M Val))
  simp only [M.bind_pure] at this
  exact this

theorem native_namedLetExp (tag : Text) (bs : List (Text × Datum)) (b : Datum) (body : List Datum) :
    evalStep r (namedLetExp tag (symBindings bs) b body) ρ = (do
      let vs ← evalArgs r ρ (bs.map (·.2))
      let fv ← r.eval (L [s k_letrec, L [L [s tag, L (s k_lambda :: L ((bs.map (·.1)).map s) :: b :: body)]], s tag]) ρ
      r.apply fv vs) := by
  rw [namedLetExp, native_app r ρ _ _ (by intro x hx; simp [L, Datum.ofList] at hx), symBindings_fst, symBindings_snd]

theorem namedLet_same (tag : Text) (bs : List (Text × Datum)) (b : Datum) (body : List Datum)
    (ht : reserved tag = false) (hb : ∀ p ∈ bs, reserved p.1 = false) :
    Same 2 (namedLetUse tag (symBindings bs) b body) (namedLetExp tag (symBindings bs) b body) ρ := by
  intro n
  cases n with
  | zero => exact ⟨Le.timeout _, Le.timeout _⟩
  | succ n =>
    constructor
    · rw [evalN_succ_eval, evalN_succ_eval, native_namedLet _ _ tag bs b body ht hb, native_namedLetExp,
        evalN_succ_eval, loop_letrec_eval ρ n tag bs b body ht hb]
      refine Le.bind (le_evalArgs (recLe_evalN (Nat.le_add_right n 2)) ρ _) (fun vs => ?_)
      simp only [M.bind_assoc, M.pure_bind]
      refine Le.bind (Le.refl _) (fun l => Le.bind (Le.refl _) (fun _ => ?_))
      exact (recLe_evalN (Nat.le_add_right n 2)).apply _ vs
    · refine Le.trans ?_ (eval_le_add (n+1) 2 _ ρ)
      rw [evalN_succ_eval, evalN_succ_eval, native_namedLet _ _ tag bs b body ht hb, native_namedLetExp]
      refine Le.bind (Le.refl _) (fun vs => ?_)
      have h1 := (eval_le_step n _ ρ).trans ((le_evalStep (recLe_evalN_succ n) _ ρ).trans
        (Le.of_eq (loop_letrec_eval ρ n tag bs b body ht hb)))
      refine (Le.bind h1 (fun fv => Le.refl ((evalN n).apply fv vs))).trans (Le.of_eq ?_)
      simp only [M.bind_assoc, M.pure_bind]

/-- the meaning of `letrec` with `u` as the content of the variables before their initialisation.
    R7RS 4.2.2 makes referring to such a variable "an error", i.e. leaves the content unspecified;
    `Spec.Eval` puts `#<undefined>`, the prelude's expansion `#f` (`letrec_same_with`). -/
def letrecWith (u : Val) (r : Rec) (ρ : Env) (bs : List (Text × Datum)) (body : List Datum) : M Val := do
  let ρ' ← allocVars (bs.map fun p => (p.1, u)) ρ
  evalLetrecInits r ρ' bs
  evalBody r ρ' body

theorem native_letrec' (bs : List (Text × Datum)) (b : Datum) (body : List Datum)
    (hb : ∀ p ∈ bs, reserved p.1 = false) :
    evalStep r (letrecUse (symBindings bs) b body) ρ = letrecWith .undef r ρ bs (b :: body) :=
  native_letrec r ρ bs b body hb

theorem native_letL (bs : List (Text × Datum)) (bodyL : List Datum) (hne : bodyL ≠ [])
    (hb : ∀ p ∈ bs, reserved p.1 = false) :
    evalStep r (L (s k_let_ :: bindingList (symBindings bs) :: bodyL)) ρ = (do
      let vs ← evalArgs r ρ (bs.map (·.2))
      let ρ' ← allocVars ((bs.map (·.1)).zip vs) ρ
      evalBody r ρ' bodyL) := by
  cases bodyL with
  | nil => exact absurd rfl hne
  | cons b body => exact native_let r ρ bs b body hb

theorem evalArgs_falses (n : Nat) : ∀ (xs : List (Text × Datum)),
    evalArgs (evalN (n+1)) ρ (xs.map fun _ => Datum.bool false) = pure (xs.map fun _ => Val.bool false)
  | [] => rfl
  | x :: xs => by
    simp only [List.map, evalArgs, evalN_succ_eval, native_bool, M.pure_bind, evalArgs_falses n xs]

theorem evalExprs_cons (e : Datum) (es : List Datum) (h : es ≠ []) :
    evalExprs r ρ (e :: es) = (r.eval e ρ >>= fun _ => evalExprs r ρ es) := by
  cases es with
  | nil => exact absurd rfl h
  | cons _ _ => rfl

theorem native_set (x : Text) (e : Datum) (hx : reserved x = false) :
    evalStep r (L [s k_setBang, s x, e]) ρ = (do
      let v ← r.eval e ρ
      assignVar ρ x v
      pure .void) := by
  simp [L, s, Datum.ofList, evalStep, evalKw, properList, hx]

theorem sets_eval (n : Nat) (inner : Datum) : ∀ (bs : List (Text × Datum)), (∀ p ∈ bs, reserved p.1 = false) →
    evalExprs (evalN (n+1)) ρ ((bs.map fun p => L [s k_setBang, s p.1, p.2]) ++ [inner]) =
      (evalLetrecInits (evalN n) ρ bs >>= fun _ => (evalN (n+1)).eval inner ρ)
  | [], _ => rfl
  | (x, e) :: bs, h => by
    have hx : reserved x = false := h (x, e) (by simp)
    have ih := sets_eval n inner bs (fun p hp => h p (by simp [hp]))
    simp only [List.map, List.cons_append]
    rw [evalExprs_cons _ _ _ _ (by simp), evalN_succ_eval, native_set _ _ x e hx, ih]
    simp only [evalLetrecInits, M.bind_assoc, M.pure_bind]

theorem letrecExp_shape (bs : List (Text × Datum)) (b : Datum) (body : List Datum) :
    letrecExp (symBindings bs) b body =
      L (s k_let_ :: bindingList (symBindings (bs.map fun p => (p.1, Datum.bool false)))
        :: ((bs.map fun p => L [s k_setBang, s p.1, p.2]) ++ [L (s k_let_ :: .nil :: b :: body)])) := by
  simp [letrecExp, bindingList, symBindings, List.map_map, Function.comp_def]

theorem isDefine_set (x e : Datum) : isDefine (L [s k_setBang, x, e]) = false := by
  have : (k_setBang == k_define) = false := by decide
  simp [L, s, Datum.ofList, isDefine, this]

theorem isDefine_let (rest : List Datum) : isDefine (L (s k_let_ :: rest)) = false := by
  have : (k_let_ == k_define) = false := by decide
  simp [L, s, Datum.ofList, isDefine, this]

theorem letrec_exp_eval (n : Nat) (bs : List (Text × Datum)) (b : Datum) (body : List Datum)
    (hb : ∀ p ∈ bs, reserved p.1 = false) :
    (evalN (n+2)).eval (letrecExp (symBindings bs) b body) ρ = letrecWith (.bool false) (evalN n) ρ bs (b :: body) := by
  have hb' : ∀ p ∈ bs.map (fun p => (p.1, Datum.bool false)), reserved p.1 = false := by
    intro p hp
    simp only [List.mem_map] at hp
    obtain ⟨q, hq, rfl⟩ := hp
    exact hb q hq
  rw [evalN_succ_eval, letrecExp_shape, native_letL _ _ _ _ (by simp) hb']
  simp only [List.map_map, Function.comp_def]
  rw [evalArgs_falses ρ n bs, M.pure_bind]
  have hz : (bs.map fun p => p.1).zip (bs.map fun _ => Val.bool false) = bs.map fun p => (p.1, Val.bool false) := by
    rw [List.zip_map']
  rw [hz]
  unfold letrecWith
  congr 1; funext ρ'
  rw [evalBody_noDefs _ _ _ (by
    intro d hd
    simp only [List.mem_append, List.mem_map, List.mem_singleton] at hd
    rcases hd with ⟨p, _, rfl⟩ | rfl
    · exact isDefine_set _ _
    · exact isDefine_let _)]
  rw [sets_eval ρ' n _ bs hb]
  congr 1; funext _
  rw [evalN_succ_eval]
  exact (native_let (evalN n) ρ' [] b body (by simp)).trans rfl

/-- **letrec** in general is not `Same`: natively `letrecWith #<undefined>`, the expansion `letrecWith #f` -/
theorem letrec_same_with (bs : List (Text × Datum)) (b : Datum) (body : List Datum)
    (hb : ∀ p ∈ bs, reserved p.1 = false) (n : Nat) :
    (evalN (n+1)).eval (letrecUse (symBindings bs) b body) ρ = letrecWith .undef (evalN n) ρ bs (b :: body) ∧
    (evalN (n+2)).eval (letrecExp (symBindings bs) b body) ρ = letrecWith (.bool false) (evalN n) ρ bs (b :: body) ∧
    Le ((evalN n).eval (letrecExp (symBindings bs) b body) ρ) (letrecWith (.bool false) (evalN n) ρ bs (b :: body)) := by
  refine ⟨native_letrec' _ _ bs b body hb, letrec_exp_eval ρ n bs b body hb, ?_⟩
  have := (eval_le_add n 2 (letrecExp (symBindings bs) b body) ρ)
  rwa [letrec_exp_eval ρ n bs b body hb] at this

/-! `(letrec ((f (lambda formals lb …))) b body …)` — one procedure, the shape the expansion of named `let`
produces — never reads the variable before it is initialised, so `#f` vs `#<undefined>` does not matter. -/

theorem push_set_size {α : Type} (a : Array α) (x y : α) : (a.push x).setIfInBounds a.size y = a.push y := by
  apply Array.ext'
  simp [Array.toList_setIfInBounds]

theorem alloc_write_indep {β : Type} (u u' : Val) (c : Loc → Val) (K : Loc → M β) :
    (allocCell (.var u) >>= fun l => writeCell l (.var (c l)) >>= fun _ => K l) =
    (allocCell (.var u') >>= fun l => writeCell l (.var (c l)) >>= fun _ => K l) := by
  funext st
  show M.bind' (allocCell (.var u)) (fun l => M.bind' (writeCell l (.var (c l))) (fun _ => K l)) st =
    M.bind' (allocCell (.var u')) (fun l => M.bind' (writeCell l (.var (c l))) (fun _ => K l)) st
  simp [M.bind', allocCell, writeCell, push_set_size]

theorem letrecWith_single (u : Val) (n : Nat) (f : Text) (formals lb : Datum) (lbs body : List Datum)
    (ps : List Text) (rest : Option Text) (_hf : reserved f = false)
    (hp : parseFormals formals = some (ps, rest)) :
    letrecWith u (evalN (n+1)) ρ [(f, L (s k_lambda :: formals :: lb :: lbs))] body =
      (allocCell (.var u) >>= fun l => writeCell l (.var (.closure ps rest (lb :: lbs) ((f, l) :: ρ))) >>= fun _ =>
        evalBody (evalN (n+1)) ((f, l) :: ρ) body) := by
  unfold letrecWith
  simp only [List.map, allocVars_one, M.bind_assoc, M.pure_bind, evalLetrecInits]
  congr 1; funext l
  have hl : properList (L (lb :: lbs)) = some (lb :: lbs) := properList_ofList _
  rw [evalN_succ_eval, native_lambda]
  have hm : makeClosure formals (L (lb :: lbs)) ((f, l) :: ρ) = pure (.closure ps rest (lb :: lbs) ((f, l) :: ρ)) := by
    unfold makeClosure
    rw [hp, hl]
  rw [hm, M.pure_bind]
  have ha : ∀ v, assignVar ((f, l) :: ρ) f v = writeCell l (.var v) := by
    intro v; simp [assignVar, List.lookup]
  rw [ha]

theorem letrec_single_same (f : Text) (formals lb : Datum) (lbs : List Datum) (b : Datum) (body : List Datum)
    (ps : List Text) (rest : Option Text) (hf : reserved f = false)
    (hp : parseFormals formals = some (ps, rest)) :
    Same 1 (letrecUse (symBindings [(f, L (s k_lambda :: formals :: lb :: lbs))]) b body)
           (letrecExp (symBindings [(f, L (s k_lambda :: formals :: lb :: lbs))]) b body) ρ := by
  have hb : ∀ p ∈ [(f, L (s k_lambda :: formals :: lb :: lbs))], reserved p.1 = false := by
    intro p hp'; simp at hp'; subst hp'; exact hf
  have indep : ∀ m, letrecWith .undef (evalN (m+1)) ρ [(f, L (s k_lambda :: formals :: lb :: lbs))] (b :: body) =
      letrecWith (.bool false) (evalN (m+1)) ρ [(f, L (s k_lambda :: formals :: lb :: lbs))] (b :: body) := by
    intro m
    rw [letrecWith_single ρ .undef m f formals lb lbs _ ps rest hf hp,
        letrecWith_single ρ (.bool false) m f formals lb lbs _ ps rest hf hp]
    exact alloc_write_indep _ _ _ _
  intro n
  constructor
  · match n with
    | 0 => exact Le.timeout _
    | 1 =>
      -- `timeout`: the `lambda` is evaluated by `evalN 0`
      intro st h
      refine absurd ?_ h
      rw [(letrec_same_with ρ _ b body hb 0).1]
      rfl
    | m + 2 =>
      rw [(letrec_same_with ρ _ b body hb (m+1)).1, (letrec_same_with ρ _ b body hb (m+1)).2.1, indep m]
      exact Le.refl _
  · match n with
    | 0 => exact Le.timeout _
    | m + 1 =>
      refine (letrec_same_with ρ _ b body hb (m+1)).2.2.trans ?_
      rw [← indep m, ← (letrec_same_with ρ _ b body hb (m+1)).1]
      exact Le.refl _

end Marwood.Spec.Eval.Derived
