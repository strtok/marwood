import Marwood.Vm.Eval
/-!
# What the run loop and one evaluation can end in, for every machine

`runLoop_inv`: an invariant of `step` and `gc` holds in the state whose instruction ended the loop and in the state the loop
paused in. `runEval_value` / `_failed` / `_paused`: an evaluation is the loop, then an epilogue and a collection. Statements
about executions (`Reaches.runLoop`, `runLoop_wf`, no panic, idle machines between evaluations) are instances of these.
-/
namespace Marwood.Vm

variable {S E : Type}

theorem runLoop_inv (m : Machine S E) (count : Option Nat) {I : S → Prop} (hgc : ∀ s, I s → I (m.gc s))
    (hnext : ∀ s s', I s → m.step s = .next s' → I s') : ∀ (fuel c : Nat) (s : S), I s →
    match runLoop m count fuel c s with
    | .done sd => ∃ sh, I sh ∧ m.step sh = .halt sd
    | .error e sf => ∃ sh, I sh ∧ m.step sh = .fail e sf
    | .paused sp => I sp ∧ count ≠ none
    | .fuel => True := by
  intro fuel
  induction fuel with
  | zero => intro c s _; trivial
  | succ n ih =>
    intro c s hs
    -- the state this iteration executes on: collected first on every 8192nd cycle
    have h1 : I (if (c + 1) % 8192 = 0 then m.gc s else s) := by
      split
      · exact hgc s hs
      · exact hs
    simp only [runLoop]
    generalize (if (c + 1) % 8192 = 0 then m.gc s else s) = s1 at h1
    cases hst : m.step s1 with
    | halt s' => exact ⟨s1, h1, hst⟩
    | fail e s' => exact ⟨s1, h1, hst⟩
    | next s' =>
      have h2 := hnext s1 s' h1 hst
      dsimp only
      by_cases hc : count = some (c + 1)
      · rw [if_pos hc]
        exact ⟨hgc s' h2, fun e => by rw [e] at hc; cases hc⟩
      · rw [if_neg hc]
        exact ih (c + 1) s' h2

theorem runLoop_none_not_paused (m : Machine S E) (fuel c : Nat) (s x : S) : runLoop m none fuel c s ≠ .paused x := by
  intro h
  have := runLoop_inv m none (I := fun _ => True) (fun _ _ => trivial) (fun _ _ _ _ => trivial) fuel c s trivial
  rw [h] at this
  exact this.2 rfl

variable {H : Type}

theorem vmStep_eq_next {ops : HeapOps H} {s s' : St H} : vmStep ops s = .next s' ↔ step ops s = .ok (s', false) := by
  unfold vmStep
  constructor
  · intro h; split at h <;> cases h; assumption
  · intro h; rw [h]

theorem vmStep_eq_halt {ops : HeapOps H} {s s' : St H} : vmStep ops s = .halt s' ↔ step ops s = .ok (s', true) := by
  unfold vmStep
  constructor
  · intro h; split at h <;> cases h; assumption
  · intro h; rw [h]

theorem vmStep_eq_fail {ops : HeapOps H} {s s' : St H} {f : Fault} (h : vmStep ops s = .fail f s') :
    s' = s ∧ (match f with | .err e => step ops s = .err e | .panic m => step ops s = .panic m) := by
  unfold vmStep at h
  split at h <;> cases h
  · exact ⟨rfl, by assumption⟩
  · exact ⟨rfl, by assumption⟩

theorem runEval_value {ops : HeapOps H} {gc : St H → St H} {count : Option Nat} {fuel : Nat} {s s' : St H} :
    runEval ops gc count fuel s = .value s' ↔
      ∃ sd, runLoop ⟨vmStep ops, gc⟩ count fuel 0 s = .done sd ∧ s' = gc (onDone sd) := by
  unfold runEval
  cases runLoop ⟨vmStep ops, gc⟩ count fuel 0 s with
  | done sd => exact ⟨fun h => by cases h; exact ⟨sd, rfl, rfl⟩, fun ⟨_, e, h⟩ => by cases e; rw [h]⟩
  | error f sf => exact Iff.intro (fun h => nomatch h) (fun ⟨_, e, _⟩ => nomatch e)
  | paused sp => exact Iff.intro (fun h => nomatch h) (fun ⟨_, e, _⟩ => nomatch e)
  | fuel => exact Iff.intro (fun h => nomatch h) (fun ⟨_, e, _⟩ => nomatch e)

theorem runEval_failed {ops : HeapOps H} {gc : St H → St H} {count : Option Nat} {fuel : Nat} {s s' : St H} {f : Fault} :
    runEval ops gc count fuel s = .failed f s' ↔
      ∃ sf, runLoop ⟨vmStep ops, gc⟩ count fuel 0 s = .error f sf ∧ s' = gc (onError sf) := by
  unfold runEval
  cases runLoop ⟨vmStep ops, gc⟩ count fuel 0 s with
  | done sd => exact Iff.intro (fun h => nomatch h) (fun ⟨_, e, _⟩ => nomatch e)
  | error f' sf => exact ⟨fun h => by cases h; exact ⟨sf, rfl, rfl⟩, fun ⟨_, e, h⟩ => by cases e; rw [h]⟩
  | paused sp => exact Iff.intro (fun h => nomatch h) (fun ⟨_, e, _⟩ => nomatch e)
  | fuel => exact Iff.intro (fun h => nomatch h) (fun ⟨_, e, _⟩ => nomatch e)

theorem runEval_paused {ops : HeapOps H} {gc : St H → St H} {count : Option Nat} {fuel : Nat} {s s' : St H} :
    runEval ops gc count fuel s = .paused s' ↔ runLoop ⟨vmStep ops, gc⟩ count fuel 0 s = .paused s' := by
  unfold runEval
  cases runLoop ⟨vmStep ops, gc⟩ count fuel 0 s with
  | paused sp => exact Iff.intro (fun h => by cases h; rfl) (fun h => by cases h; rfl)
  | done sd => exact Iff.intro (fun h => nomatch h) (fun h => nomatch h)
  | error f sf => exact Iff.intro (fun h => nomatch h) (fun h => nomatch h)
  | fuel => exact Iff.intro (fun h => nomatch h) (fun h => nomatch h)

theorem runEval_none_not_paused (ops : HeapOps H) (gc : St H → St H) (fuel : Nat) (s x : St H) :
    runEval ops gc none fuel s ≠ .paused x :=
  fun h => runLoop_none_not_paused _ fuel 0 s x (runEval_paused.mp h)

end Marwood.Vm
