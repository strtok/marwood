import Marwood.Lemmas.EvalPromiseMain
import Marwood.Lemmas.EvalPromiseExamples
import Marwood.Lemmas.EvalDerived2
/-!
# `force_delay_agrees`: the hypotheses are satisfiable

The state `libSt0` = the initial state of `Spec.Eval` with the prelude's four internal promise procedures
loaded (`force` still the primitive); the delayed expression `(begin (display 'x) 1)`. All hypotheses of
`force_delay_agrees` hold, the native slack-guarded run with fuel 6 is definite; hence the expansion
with fuel 15 prints the same log and yields the image of the same value.
-/
namespace Marwood.Spec.Eval.Derived
open Marwood Marwood.Spec.Eval Marwood.Spec.Eval.Prelude Marwood.Spec.Eval.Extra

def libSt0 : St :=
  { initSt with globals := insertG k_promiseUpdate cUpdate (insertG k_promiseValue cValue
      (insertG k_promiseDone cDone (insertG k_makePromise cMakePromise initSt.globals))) }

theorem inv_insertG {x : Text} {st : St} (hi : Inv x st) (s : Text) (v : Val) (hv : CleanVal x v) :
    Inv x { st with globals := insertG s v st.globals } := by
  refine ⟨hi.store, ?_⟩
  intro y w hy h
  simp only [lookup_insertG] at h
  split at h
  · cases h; exact hv
  · exact hi.globals y w hy h

theorem cleanVal_closure1 {x : Text} {ps : List Text} {b : Datum} (h : mentions x b = false) :
    CleanVal x (.closure ps none [b] []) := by
  intro d hd
  simp only [List.mem_singleton] at hd
  subst hd; exact h

theorem wf_libSt0 : WFSt libSt0 := by
  have h0 : ∀ (ps : List Text) (b : List Datum), ValOK initSt.store.size (.closure ps none b []) := by
    intro ps b p hp; cases hp
  exact (((wf_initSt.insertG k_makePromise cMakePromise (h0 _ _)).insertG k_promiseDone cDone (h0 _ _)).insertG
    k_promiseValue cValue (h0 _ _)).insertG k_promiseUpdate cUpdate (h0 _ _)

theorem inv_libSt0 : Inv k_force libSt0 := by
  have h1 := inv_insertG (x := k_force) (st := initSt) inv_initSt k_makePromise cMakePromise (cleanVal_closure1 (by decide))
  have h2 := inv_insertG h1 k_promiseDone cDone (cleanVal_closure1 (by decide))
  have h3 := inv_insertG h2 k_promiseValue cValue (cleanVal_closure1 (by decide))
  have h4 := inv_insertG h3 k_promiseUpdate cUpdate (by
    intro d hd
    simp only [bodyUpdate, List.mem_cons, List.not_mem_nil, or_false] at hd
    rcases hd with rfl | rfl | rfl <;> (show mentions k_force _ = false; decide))
  exact h4

theorem libOK_libSt0 : LibOK libSt0.globals :=
  ⟨by decide, by decide, by decide, by decide, by decide, by decide, by decide, by decide, by decide, by decide⟩

/-- `hkeep` by running this one `e`: there is no general lemma ("`e` assigns none of the library's names"), so
    every use of `force_delay_agrees` has to run its `e` -/
theorem keep_libSt0 : ∀ m v s2, (evalN m).eval eDisplayOne [] (preX eDisplayOne [] (withForce libSt0)) = .ok v s2 → LibSt s2 := by
  intro m v s2 h
  have h3 : (evalN 3).eval eDisplayOne [] (preX eDisplayOne [] (withForce libSt0)) =
      .ok (.int 1) { preX eDisplayOne [] (withForce libSt0) with out := [(false, .sym ['x'])] } := by rfl
  have hu := definite_unique (n := 3) (m := m) eDisplayOne [] (preX eDisplayOne [] (withForce libSt0))
    (by rw [h3]; simp) (by rw [h]; simp)
  rw [h3, h] at hu
  cases hu
  exact libSt_withForce libOK_libSt0

theorem force_delay_demo :
    SpanAgree ((evalN 6).eval (forceUse (delayUse eDisplayOne)) [] libSt0)
      ((evalN 15).eval (forceUse (delayFull eDisplayOne)) [] (withForce libSt0)) 0 3 := by
  have h := force_delay_agrees eDisplayOne [] libSt0 wf_libSt0 (by intro p hp; cases hp) (by decide) rfl rfl (by decide)
    libOK_libSt0 (by decide) inv_libSt0 keep_libSt0 3 (definiteB_ne (by decide +kernel))
  exact h.2

end Marwood.Spec.Eval.Derived
