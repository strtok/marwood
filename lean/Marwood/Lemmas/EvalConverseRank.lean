import Marwood.Lemmas.EvalMonoMain
/-!
# When the helper guards never fire: acyclic (ranked) data

The guards of `guardN` / `sguardN k` (`helperCut`, `helperCutAt F`) never fire on ACYCLIC data whose depth is below the
helper fuel. Acyclicity is a rank function on locations that decreases along the edges the helpers follow (`Ranked`);
`OlderOnly` is the instance `rk l = l`. No lemma of the development establishes `Ranked` or `OlderOnly` of a store, or
that an operation keeps them: they are hypotheses the user of these lemmas has to supply.
-/
namespace Marwood.Spec.Eval
open Marwood

def valRank (rk : Loc → Nat) : Val → Nat
  | .pair l | .vec l | .promise l => rk l + 1
  | _ => 0

/-- `rk` strictly decreases along the edges the helpers follow (the components of pair, vector and promise cells;
    `.var` cells and closure environments are not edges here): `rk l` bounds the depth of the structure rooted at `l` -/
def Ranked (σ : Array Cell) (rk : Loc → Nat) : Prop :=
  ∀ l : Loc, match σ[l]? with
    | some (.pair a d) => valRank rk a ≤ rk l ∧ valRank rk d ≤ rk l
    | some (.vec xs) => ∀ x ∈ xs, valRank rk x ≤ rk l
    | some (.promise _ v) => valRank rk v ≤ rk l
    | _ => True

section
variable {σ : Array Cell} {rk : Loc → Nat}

theorem Ranked.pair (h : Ranked σ rk) {l : Loc} {a d : Val} (hc : σ[l]? = some (.pair a d)) :
    valRank rk a ≤ rk l ∧ valRank rk d ≤ rk l := by
  have := h l
  simp only [hc] at this
  exact this

theorem Ranked.vec (h : Ranked σ rk) {l : Loc} {xs : List Val} (hc : σ[l]? = some (.vec xs)) :
    ∀ x ∈ xs, valRank rk x ≤ rk l := by
  have := h l
  simp only [hc] at this
  exact this

theorem Ranked.promise (h : Ranked σ rk) {l : Loc} {dn : Bool} {v : Val} (hc : σ[l]? = some (.promise dn v)) :
    valRank rk v ≤ rk l := by
  have := h l
  simp only [hc] at this
  exact this

theorem valCut_of_ranked (h : Ranked σ rk) : ∀ (F : Nat) (v : Val), valRank rk v ≤ F → valCut F σ v = false := by
  intro F
  induction F with
  | zero =>
    intro v hv
    cases v <;> first | (simp [valRank] at hv; done) | simp [valCut]
  | succ F ih =>
    intro v hv
    cases v with
    | pair l =>
      simp only [valRank] at hv
      simp only [valCut]
      cases hc : σ[l]? with
      | none => rfl
      | some c =>
        cases c with
        | pair a d =>
          have hr := h.pair hc
          simp only [Bool.or_eq_false_iff]
          exact ⟨ih a (by omega), ih d (by omega)⟩
        | _ => rfl
    | vec l =>
      simp only [valRank] at hv
      simp only [valCut]
      cases hc : σ[l]? with
      | none => rfl
      | some c =>
        cases c with
        | vec xs =>
          have hr := h.vec hc
          simp only [List.any_eq_false]
          intro x hx
          have := hr x hx
          simp [ih x (by omega)]
        | _ => rfl
    | promise l =>
      simp only [valRank] at hv
      simp only [valCut]
      cases hc : σ[l]? with
      | none => rfl
      | some c =>
        cases c with
        | promise dn v =>
          have hr := h.promise hc
          exact ih v (by omega)
        | _ => rfl
    | _ => simp [valCut]

theorem listCut_of_ranked (h : Ranked σ rk) : ∀ (F : Nat) (v : Val), valRank rk v ≤ F → listCut F σ v = false := by
  intro F
  induction F with
  | zero =>
    intro v hv
    cases v <;> first | (simp [valRank] at hv; done) | simp [listCut]
  | succ F ih =>
    intro v hv
    cases v with
    | pair l =>
      simp only [valRank] at hv
      simp only [listCut]
      cases hc : σ[l]? with
      | none => rfl
      | some c =>
        cases c with
        | pair a d =>
          have hr := h.pair hc
          exact ih d (by omega)
        | _ => rfl
    | _ => simp [listCut]

/-- `eqCut 0` is true on two strings and `spineCut 0` on everything, hence `<`. The rank of `a` alone is asked: the
    two walks go in lock-step. -/
theorem eqCut_of_ranked (h : Ranked σ rk) : ∀ (F : Nat) (a b : Val), valRank rk a < F → eqCut F σ a b = false := by
  intro F
  induction F with
  | zero => intro a b hv; omega
  | succ F ih =>
    intro a b hv
    cases a with
    | pair x =>
      cases b with
      | pair y =>
        simp only [valRank] at hv
        simp only [eqCut]
        cases hx : σ[x]? with
        | none => rfl
        | some cx =>
          cases hy : σ[y]? with
          | none => cases cx <;> rfl
          | some cy =>
            cases cx <;> cases cy <;> try rfl
            rename_i a1 d1 a2 d2
            have hr := h.pair hx
            simp only [Bool.or_eq_false_iff]
            exact ⟨ih a1 a2 (by omega), ih d1 d2 (by omega)⟩
      | _ => simp [eqCut]
    | vec x =>
      cases b with
      | vec y =>
        simp only [valRank] at hv
        simp only [eqCut]
        cases hx : σ[x]? with
        | none => rfl
        | some cx =>
          cases hy : σ[y]? with
          | none => cases cx <;> rfl
          | some cy =>
            cases cx <;> cases cy <;> try rfl
            rename_i xs ys
            have hr := h.vec hx
            simp only [List.any_eq_false]
            intro p hp
            have := hr p.1 (List.of_mem_zip hp).1
            simp [ih p.1 p.2 (by omega)]
      | _ => simp [eqCut]
    | _ => simp [eqCut]

theorem spineCut_of_ranked (h : Ranked σ rk) : ∀ (F : Nat) (v : Val), valRank rk v < F → spineCut F σ v = false := by
  intro F
  induction F with
  | zero => intro v hv; omega
  | succ F ih =>
    intro v hv
    cases v with
    | pair l =>
      simp only [valRank] at hv
      simp only [spineCut]
      cases hc : σ[l]? with
      | none => rfl
      | some c =>
        cases c with
        | pair a d =>
          have hr := h.pair hc
          exact ih d (by omega)
        | _ => rfl
    | _ => simp [spineCut]

theorem getLastD_mem_cons : ∀ (a : Val) (as : List Val), (a :: as).getLast?.getD .nil ∈ a :: as := by
  intro a as
  induction as generalizing a with
  | nil => simp
  | cons b bs ih =>
    rw [List.getLast?_cons_cons]
    exact List.mem_cons_of_mem _ (ih b)

theorem helperCutAt_of_ranked (h : Ranked σ rk) (F : Nat) (f : Val) (args : List Val)
    (ha : ∀ a ∈ args, valRank rk a < F) : helperCutAt F f args σ = false := by
  cases f with
  | prim p =>
    cases p with
    | apply =>
      rcases args with _ | ⟨g, _ | ⟨a, as⟩⟩
      · rfl
      · rfl
      · show listCut F σ ((a :: as).getLast?.getD .nil) = false
        exact listCut_of_ranked h F _
          (Nat.le_of_lt (ha _ (List.mem_cons_of_mem _ (getLastD_mem_cons a as))))
    | map =>
      rcases args with _ | ⟨g, _ | ⟨a, as⟩⟩
      · rfl
      · rfl
      · show (a :: as).any (listCut F σ) = false
        rw [List.any_eq_false]
        intro x hx
        simp [listCut_of_ranked h F x (Nat.le_of_lt (ha x (List.mem_cons_of_mem _ hx)))]
    | forEach =>
      rcases args with _ | ⟨g, _ | ⟨a, as⟩⟩
      · rfl
      · rfl
      · show (a :: as).any (listCut F σ) = false
        rw [List.any_eq_false]
        intro x hx
        simp [listCut_of_ranked h F x (Nat.le_of_lt (ha x (List.mem_cons_of_mem _ hx)))]
    | _ =>
      first
      | rfl
      | (rcases args with _ | ⟨a, _ | ⟨b, _ | ⟨c, _ | ⟨d, t⟩⟩⟩⟩ <;> first
          | rfl
          | exact valCut_of_ranked h F a (Nat.le_of_lt (ha a (by simp)))
          | exact listCut_of_ranked h F a (Nat.le_of_lt (ha a (by simp)))
          | exact eqCut_of_ranked h F a b (ha a (by simp))
          | exact spineCut_of_ranked h F b (ha b (by simp))
          | (show (listCut F σ a || listCut F σ b) = false
             rw [listCut_of_ranked h F a (Nat.le_of_lt (ha a (by simp))),
               listCut_of_ranked h F b (Nat.le_of_lt (ha b (by simp)))]
             rfl))
  | _ => rfl

end

/-- every cell points to OLDER cells only. (The shape `cons`, `list`, `vector`, `quote` give a store and `set-car!`,
    `set-cdr!`, `vector-set!` can break; that is the motivation, not a lemma.) -/
def OlderOnly (σ : Array Cell) : Prop := Ranked σ (fun l => l)

/-- a value in bounds has rank `≤ σ.size <` the helper fuel `σ.size + 1` of `guardN` -/
theorem helperCut_of_olderOnly {σ : Array Cell} (h : OlderOnly σ) (f : Val) (args : List Val)
    (ha : ∀ a ∈ args, valRank (fun l => l) a ≤ σ.size) : helperCut f args σ = false := by
  rw [helperCut_eq_at]
  exact helperCutAt_of_ranked h (σ.size + 1) f args (fun a hm => Nat.lt_succ_of_le (ha a hm))

/-- `(1)` at location 0 has rank 1: fuel 1 suffices for `valToDatum` / `listOfVal` -/
example : helperCutAt 2 (.prim .display) [.pair 0] properStore = false := by decide
example : helperCutAt 1 (.prim .display) [.pair 0] properStore = false := by decide
example : helperCutAt 0 (.prim .display) [.pair 0] properStore = true := by decide
/-- but not for `memWalk` (`spineCut 0` is true even on `.nil`): the `<` of `spineCut_of_ranked` is sharp -/
example : helperCutAt 1 (.prim .memv) [.int 2, .pair 0] properStore = true := by decide
example : helperCutAt 2 (.prim .memv) [.int 2, .pair 0] properStore = false := by decide

end Marwood.Spec.Eval
