import Marwood.Lemmas.EnvRefineMonad
import Marwood.Lemmas.EnvStatic
/-!
# T02.4, part 3a: shape of the compiler model's environment maps, frames over consecutive locations
-/
namespace Marwood.Vm.EnvRefine
open Marwood Marwood.Scope Marwood.Vm.Env Marwood.Spec.Scope

theorem argIndex_isSome (as : List Name) (x : Name) (h : x ∈ as) : ∃ n, argIndex as x = some n := by
  cases hn : argIndex as x with
  | none => exact absurd h ((argIndex_none_iff as x).mp hn)
  | some n => exact ⟨n, rfl⟩

theorem slotOf_getElem (em : Envmap) (x : Name) (s : Nat) (h : slotOf em x = some s) :
    ∃ src, em[s]? = some (x, src) :=
  let ⟨src, _, hg⟩ := entryOf_of_slotOf h
  ⟨src, hg⟩

theorem newEnvmap_getElem (args internal free : List Name) (iof : LamCtx) (s : Nat) (x : Name) (src : Source)
    (h : (newEnvmap args internal free iof)[s]? = some (x, src)) :
    (s < args.length ∧ args[s]? = some x ∧ src = .argument s) ∨
    (args.length ≤ s ∧ s < args.length + internal.length ∧ internal[s - args.length]? = some x ∧ src = .internal) ∨
    (args.length + internal.length ≤ s ∧ ∃ y ∈ free, freeEntry iof y = some (x, src)) := by
  rw [newEnvmap_getElem?] at h
  split at h
  · next h1 =>
    obtain ⟨a, ha, hp⟩ := Option.map_eq_some_iff.mp h
    cases hp
    exact .inl ⟨h1, ha, rfl⟩
  · split at h
    · next h1 h2 =>
      obtain ⟨d, hd, hp⟩ := Option.map_eq_some_iff.mp h
      cases hp
      exact .inr (.inl ⟨by omega, h2, hd, rfl⟩)
    · next h1 h2 => exact .inr (.inr ⟨by omega, List.mem_filterMap.mp (List.mem_of_getElem? h)⟩)

theorem newEnvmap_arg_entry (args internal free : List Name) (iof : LamCtx) (s : Nat) (hs : s < args.length) :
    ∃ x, (newEnvmap args internal free iof)[s]? = some (x, .argument s) :=
  ⟨args[s], by rw [newEnvmap_getElem?, if_pos hs, List.getElem?_eq_getElem hs]; rfl⟩

theorem newEnvmap_internal_entry (args internal free : List Name) (iof : LamCtx) (s : Nat)
    (h1 : args.length ≤ s) (h2 : s < args.length + internal.length) :
    ∃ x, (newEnvmap args internal free iof)[s]? = some (x, .internal) :=
  ⟨internal[s - args.length]'(by omega), by
    rw [newEnvmap_getElem?, if_neg (by omega), if_pos h2, List.getElem?_eq_getElem (by omega)]; rfl⟩

/-- `freeEntry` in a context where every parameter has a map entry: never `IofArgument` -/
theorem freeEntry_cases (iof : LamCtx) (hna : ∀ x, slotOf iof.envmap x = none → argIndex iof.args x = none)
    (y x : Name) (src : Source) (h : freeEntry iof y = some (x, src)) :
    x = y ∧ ∃ k, src = .iofEnv k ∧ slotOf iof.envmap y = some k := by
  unfold freeEntry at h
  split at h
  · next k hk => cases h; exact ⟨rfl, k, rfl, hk⟩
  · next hk =>
    rw [hna y hk] at h
    cases h

theorem freeEntry_none (iof : LamCtx) (hna : ∀ x, slotOf iof.envmap x = none → argIndex iof.args x = none)
    (x : Name) (h : slotOf iof.envmap x = none) : freeEntry iof x = none := by
  simp [freeEntry, h, hna x h]

theorem freeEntry_some (iof : LamCtx) (x : Name) (k : Nat) (h : slotOf iof.envmap x = some k) :
    freeEntry iof x = some (x, .iofEnv k) := by
  simp [freeEntry, h]

theorem slotOf_newEnvmap_bound (args internal free : List Name) (iof : LamCtx) (x : Name) (n : Nat)
    (h : argIndex (args ++ internal) x = some n) : slotOf (newEnvmap args internal free iof) x = some n := by
  rw [slotOf_newEnvmap, h]; rfl

theorem argIndex_lt (as : List Name) (x : Name) (n : Nat) (h : argIndex as x = some n) : n < as.length :=
  (argIndex_some h).1

theorem frameAt_getElem (xs : List Name) (n i : Nat) (p : Name × Loc) :
    (frameAt xs n)[i]? = some p ↔ xs[i]? = some p.1 ∧ p.2 = n + i := by
  induction xs generalizing n i with
  | nil => simp [frameAt]
  | cons x xs ih =>
    cases i with
    | zero =>
      simp only [frameAt, List.getElem?_cons_zero, Option.some.injEq, Nat.add_zero]
      constructor
      · rintro rfl; exact ⟨rfl, rfl⟩
      · rintro ⟨h1, h2⟩; exact Prod.ext h1 h2.symm
    | succ i =>
      simp only [frameAt, List.getElem?_cons_succ, ih]
      constructor
      · rintro ⟨h1, h2⟩; exact ⟨h1, h2.trans (by omega : n + 1 + i = n + (i + 1))⟩
      · rintro ⟨h1, h2⟩; exact ⟨h1, h2.trans (by omega : n + (i + 1) = n + 1 + i)⟩

theorem frameAt_append (xs ys : List Name) (n : Nat) :
    frameAt (xs ++ ys) n = frameAt xs n ++ frameAt ys (n + xs.length) := by
  induction xs generalizing n with
  | nil => simp [frameAt]
  | cons x xs ih =>
    simp only [List.cons_append, frameAt, ih, List.length_cons]
    congr 3
    omega

theorem frameAt_find? (xs : List Name) (n : Nat) (x : Name) :
    Frame.find? x (frameAt xs n) = (argIndex xs x).map (n + ·) := by
  induction xs generalizing n with
  | nil => rfl
  | cons y ys ih =>
    simp only [frameAt, Frame.find?, argIndex]
    split
    · simp
    · rw [ih]
      cases argIndex ys x with
      | none => rfl
      | some j => simp; omega

theorem resolve_frameAt (xs : List Name) (n : Nat) (ρ : Chain) (x : Name) :
    resolve x (frameAt xs n :: ρ) = ((argIndex xs x).map (n + ·)).or (resolve x ρ) := by
  simp only [resolve, frameAt_find?]
  cases argIndex xs x <;> rfl

end Marwood.Vm.EnvRefine
