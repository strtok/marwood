import Marwood.Lemmas.CompileCorrect2Lambda
/-!
# T01.3 stage 2: `ENTER` of a closure: the activation environment, the new world, the frame

`enter_closure` is the branch of `callRes2_succ` (`CompileCorrect2Call.lean`) in which `bindArgs` succeeds: from the
state `CALL`/`TCALL` leaves, `ENTER` builds the activation environment; the parameters become related variable
locations, the captured slots keep pointing at theirs; `bp` points at the frame `[argc, %ep, return address, %bp]`.
-/
namespace Marwood.Lemmas.CompileCorrect2
open Marwood Marwood.Vm Marwood.Lemmas.CompileCorrect
open Marwood.Spec.Eval (Val Prim Cell Env evalN evalStep applyStep evalArgs properList quoteVal kwOf insertG
  k_quote k_if_ k_setBang k_define k_lambda)

variable {H : Type} {ops : HeapOps H} {D : RepData2 ops}

theorem All2.get {α β : Type} {R : α → β → Prop} : ∀ {l : List α} {l' : List β}, All2 R l l' →
    ∀ (i : Nat) (a : α), l[i]? = some a → ∃ b, l'[i]? = some b ∧ R a b
  | _, _, .nil, i, a, h => by simp at h
  | _, _, .cons hab t, i, a, h => by
    cases i with
    | zero => simp at h; subst h; exact ⟨_, by simp, hab⟩
    | succ j =>
      simp at h
      obtain ⟨b, hb, hr⟩ := All2.get t j a h
      exact ⟨b, by simpa using hb, hr⟩

theorem ctxOK_of_parts {f : Nat} {c : Ctx} {formals body : Datum} {p : LambdaParts} {ps : List Text}
    {caps : List (Text × Source)}
    (hp : lambdaParts f c (.pair (.sym k_lambda) (.pair formals body)) false = .ok p) (hps : p.formals = ps)
    (hem : p.ctx.envmap = argEntries ps ++ caps) : CtxOK p.ctx := by
  intro x hx
  rw [(lambdaParts_inv hp).2.1, hps] at hx
  obtain ⟨i, hi, hxi⟩ := List.getElem_of_mem hx
  have hg : ps[i]? = some x := by rw [List.getElem?_eq_getElem hi, hxi]
  have := argEntries_get ps i x hg
  unfold inEnv
  rw [hem, List.any_eq_true]
  exact ⟨(x, .argument i), List.mem_append_left _ (List.mem_of_getElem? this), by simp⟩

theorem arg_slot {a n i : Nat} (hi : i < n) :
    a + n - (n - i) + 1 = a + 1 + i ∧ n - i ≤ a + n ∧ a + 1 + i < a + n + 4 := by omega

theorem loaded_closure {W : World} {h : H} {σ : SSt} (hi : Inv2 D W h σ) {f : Nat} {co : Ctx} {formals bodyD : Datum}
    {p : LambdaParts} {ps : List Text} {bcode : List BC} {cst1 : CState} {lam : Nat}
    (hparts : lambdaParts f co (.pair (.sym k_lambda) (.pair formals bodyD)) false = .ok p) (hformals : p.formals = ps)
    (hva : p.isVararg = false) (hfin : D.final[cst1.lambdas.length]? = some (lamOf p bcode))
    (hlam : lam = D.LM cst1.lambdas.length) :
    CodeAt2 D p.ctx.envmap h σ.store lam 0 ([.op .enter] ++ bcode ++ [.op .ret]) ∧
      ops.lambdaInfo h lam = some ⟨ps.length⟩ ∧ ops.fetch h lam 0 = some (.opcode .enter) := by
  have hpro1 : p.prologue = [.op .enter] := by rw [(lambdaParts_inv hparts).2.2, hva]; rfl
  obtain ⟨hcode, hinfo⟩ := hi.loaded _ _ hfin
  have hbc : (lamOf p bcode).bc = [.op .enter] ++ bcode ++ [.op .ret] := by simp [lamOf, hpro1]
  have hargsl : (lamOf p bcode).args.length = ps.length := by simp [lamOf, hformals]
  rw [hbc, ← hlam] at hcode
  rw [hargsl, ← hlam] at hinfo
  exact ⟨hcode, hinfo, by simpa using hcode.left.left.op 0 (o := .enter) rfl⟩

theorem enter_closure (L : Laws2 D) {ps : List Text} {body : List Datum} {ρc ρ' : Env} {ws : List Val} {σ σ1 : SSt}
    (hbind : Spec.Eval.bindArgs ps none ws ρc σ = .ok ρ' σ1)
    {W : World} {s : MSt H} {lam cenv : Nat} {vs : List VCell} {st0 : Stack} {epc lc oc : Nat}
    (hcal : ops.callee s.heap s.acc = .closure lam cenv) (hclos : ClosOK D W s.heap lam cenv ps body ρc)
    (hi : Inv2 D W s.heap σ) (hvs : All2 (VR2 D W s.heap σ.store) vs ws) (hipL : s.ipL = lam) (hipO : s.ipO = 0)
    (hst : LiveEq (callFrame st0 vs epc lc oc) s.stack) (hw0 : SWF st0) (hw : SWF s.stack) :
    ∃ (f : Nat) (cst cst1 : CState) (p : LambdaParts) (bodyD : Datum) (bcode : List BC) (h' : H) (a : Nat)
      (W' : World) (stE : Stack),
      step ops s = .ok ({ s with heap := h', ep := a, stack := stE, bp := st0.sp + vs.length, ipO := s.ipO + 1 },
        false) ∧
      W.le W' ∧ Inv2 D W' h' σ1 ∧ EnvRep ops W' h' p.ctx a ρ' ∧ CtxOK p.ctx ∧
      F2B D.setG f p.ctx (bound ρ') bodyD ∧ compileBody f cst p.ctx 1 bodyD = .ok (cst1, bcode) ∧
      cst1.lambdas <+: D.final ∧ properList bodyD = some body ∧ (∀ e ∈ body, Spec.Eval.isDefine e = false) ∧
      CodeAt2 D p.ctx.envmap h' σ1.store lam 0 ([.op .enter] ++ bcode ++ [.op .ret]) ∧
      SWF stE ∧ FrameAt stE (st0.sp + vs.length) ⟨vs.length, epc, lc, oc, s.bp, st0⟩ ∧
      Ext2 D s.heap σ.store h' σ1.store := by
  obtain ⟨f, cst, cst1, co, formals, bodyD, p, bcode, caps, hparts, hformals, hva, hnd, hbody, hnodef, hcb, hfin,
    hpre, hlam, hisl, hfb, hsrcs, hem, hcaps, hslots, hcapt, henvok⟩ := hclos
  obtain ⟨e1, e2, e3, e4, e5, e6, e7, e8⟩ := bindArgs_inv ps ws ρc ρ' σ σ1 hnd hbind
  have hvl : vs.length = ps.length := (All2.length_eq hvs).trans e1
  obtain ⟨hcode, hinfo, hfetch0⟩ := loaded_closure hi hparts hformals hva hfin hlam
  obtain ⟨hsp, hargc, argCell, hwE, spE, hfrE⟩ := enter_stack (bp := s.bp) hst hw0 hw
  have hB : s.stack.sp + 1 - 4 = st0.sp + vs.length := by rw [hsp]; rfl
  have slot : ∀ i, i < ps.length → st0.sp + vs.length - (ps.length - i) + 1 = st0.sp + 1 + i :=
    fun i hi => by rw [hvl]; exact (arg_slot hi).1
  obtain ⟨h', a, hmk, hfresh, hargs, hcap, hframe, hglob, hext, hsrx⟩ :=
    L.activation_ok s.heap σ.store lam cenv (st0.sp + vs.length) (s.stack.push (.basePtr s.bp)) _ ps.length
      hi.extra hisl hsrcs hinfo henvok
      (by
        intro j src hj
        obtain ⟨q, hq, _⟩ := map_get _ _ _ _ hj
        exact hslots j ((List.getElem?_eq_some_iff.mp hq).1))
      (by
        intro j i hj
        obtain ⟨q, hq, hr⟩ := map_get _ _ _ _ hj
        rw [hem] at hq
        rcases em_entry_cases hq with ⟨hlt, x, _, rfl⟩ | ⟨_, hqc⟩
        · cases hr
          refine ⟨hlt, by rw [hvl]; exact (arg_slot hlt).2.1, ?_⟩
          rw [slot j hlt]
          rw [hvl] at spE
          exact Nat.lt_trans (arg_slot hlt).2.2 (spE ▸ hwE)
        · have := hcaps q hqc
          obtain ⟨x, src⟩ := q
          simp only at this; subst this
          cases hr)
  have hsE := step_enter_closure (s := s) (by rw [hipL]; exact hisl) (by rw [hipL, hipO]; exact hfetch0) hcal hinfo
    (hsp ▸ Nat.le_add_left _ _) (hvl ▸ hargc) (by rw [hB]; exact hmk)
  rw [hB] at hsE
  have argSlot : ∀ i v, vs[i]? = some v → ops.envGet h' a i = some v := by
    intro i v hv
    have hlt : i < ps.length := hvl ▸ (List.getElem?_eq_some_iff.mp hv).1
    have hent : p.ctx.envmap[i]? = some (ps[i], .argument i) := by
      rw [hem, List.getElem?_append_left (by rw [argEntries_length]; exact hlt)]
      exact argEntries_get ps i _ (List.getElem?_eq_getElem hlt)
    have : (p.ctx.envmap.map (rsrc co.envmap))[i]? = some (.arg i) := by
      rw [List.getElem?_map, hent]; rfl
    exact hargs i i v this (by rw [slot i hlt]; exact argCell i v hv)
  -- the new world: slot `n` of the activation stands for `σ.store.size + n`, where `bindArgs` allocates parameter `n`
  let W' : World := fun e n l => W e n l ∨ (e = a ∧ n < ps.length ∧ l = σ.store.size + n)
  have hwW : W.le W' := fun e n l h => .inl h
  have hse : StoreExt σ.store σ1.store := StoreExt.ofPrefix (e4 ▸ Nat.le_add_right _ _) e5
  have hx1 : Ext2 D s.heap σ.store h' σ1.store := hext.trans (Ext2.storeOnly L h' hse)
  have oldNe : ∀ e n l, W e n l → e ≠ a := by
    intro e n l hW e0
    subst e0
    obtain ⟨v, _, h1, _⟩ := hi.vars _ n l hW
    rw [hfresh n] at h1; cases h1
  have oldLt : ∀ e n l, W e n l → l < σ.store.size := fun _ _ _ hW => hi.var_lt hW
  have hvs' : All2 (VR2 D W' h' σ1.store) vs ws := All2.vr2_mono hvs hx1 hwW
  have hi1 : Inv2 D W' h' σ1 := by
    refine ⟨fun y u hn hy => ?_, fun y hn hy => ?_, L.srx_store _ _ _ hse hsrx, fun y hy => e2 ▸ hi.gset y hy,
      hi.loaded.ext hx1, ?_, ?_, ?_⟩
    · rw [hglob]; exact (hi.bound y u hn (e2 ▸ hy)).mono hx1 hwW
    · rw [hglob]; exact hi.unbound y hn (e2 ▸ hy)
    · intro e n l l' h1 h2
      rcases h1 with h1 | ⟨rfl, _, rfl⟩ <;> rcases h2 with h2 | ⟨h2e, _, h2l⟩
      · exact hi.wfun e n l l' h1 h2
      · exact absurd h2e (oldNe _ _ _ h1)
      · exact absurd rfl (oldNe _ _ _ h2)
      · exact h2l.symm
    · intro e n e' n' l h1 h2
      rcases h1 with h1 | ⟨rfl, _, rfl⟩ <;> rcases h2 with h2 | ⟨h2e, _, h2l⟩
      · exact hi.winj e n e' n' l h1 h2
      · exact absurd (h2l ▸ oldLt _ _ _ h1) (Nat.not_lt.mpr (Nat.le_add_right _ _))
      · exact absurd (oldLt _ _ _ h2) (Nat.not_lt.mpr (Nat.le_add_right _ _))
      · exact ⟨h2e.symm, Nat.add_left_cancel h2l⟩
    · intro e n l hW
      rcases hW with hW | ⟨rfl, hn, rfl⟩
      · obtain ⟨v, u, g1, g2, g3, g4⟩ := hi.vars e n l hW
        exact ⟨v, u, by rw [hframe e n (oldNe _ _ _ hW)]; exact g1, g2, by rw [e5 l (oldLt _ _ _ hW)]; exact g3,
          g4.mono hx1 hwW⟩
      · have hlt : n < vs.length := hvl ▸ hn
        have hv : vs[n]? = some vs[n] := List.getElem?_eq_getElem hlt
        obtain ⟨u, hu, hr⟩ := All2.get hvs' n _ hv
        exact ⟨vs[n], u, argSlot n _ hv, VR2.not_envptr L hr, e6 n u hu, hr⟩
  have her1 : EnvRep ops W' h' p.ctx a ρ' := by
    intro x j hj
    rw [hem] at hj
    rcases slot_cases hj with ⟨hlt, hx⟩ | ⟨hge, hxn, src, hent, hmem⟩
    · have hltv : j < vs.length := hvl ▸ hlt
      have hv : vs[j]? = some vs[j] := List.getElem?_eq_getElem hltv
      obtain ⟨u, _, hr⟩ := All2.get hvs' j _ hv
      exact ⟨a, j, σ.store.size + j, .inr ⟨rfl, rfl, vs[j], argSlot j _ hv, VR2.not_envptr L hr⟩, e7 j x hx,
        .inr ⟨rfl, hlt, rfl⟩⟩
    · have hsrc := hcaps _ hmem
      simp only at hsrc
      subst hsrc
      rw [← hem] at hent
      obtain ⟨e, n', l, g1, g2, g3⟩ := hcapt j x hge hent
      have : (p.ctx.envmap.map (rsrc co.envmap))[j]? = some (.iofEnv ((slotIdx co.envmap x).getD 0)) := by
        rw [List.getElem?_map, hent]; rfl
      have hslot := hcap j _ this
      rw [g1] at hslot
      exact ⟨e, n', l, .inl hslot, by rw [e8 x hxn]; exact g2, .inl g3⟩
  -- `F2B` is indexed by the PREDICATE of bound names, so `hfb` is carried to `bound ρ'` by an equation between
  -- predicates (`funext`, `propext`), not by an equivalence
  have hbound : (fun x => x ∈ ps ∨ bound ρc x) = bound ρ' := by
    funext x
    apply propext
    constructor
    · intro hx
      by_cases hm : x ∈ ps
      · obtain ⟨i, hi', hxi⟩ := List.getElem_of_mem hm
        have : ps[i]? = some x := by rw [List.getElem?_eq_getElem hi', hxi]
        simp [bound, e7 i x this]
      · rcases hx with hx | hx
        · exact absurd hx hm
        · show (ρ'.lookup x).isSome = true
          rw [e8 x hm]; exact hx
    · intro hx
      by_cases hm : x ∈ ps
      · exact .inl hm
      · right
        show (ρc.lookup x).isSome = true
        rw [← e8 x hm]; exact hx
  rw [hbound] at hfb
  have hcx : CtxOK p.ctx := ctxOK_of_parts hparts hformals hem
  exact ⟨f, cst, cst1, p, bodyD, bcode, h', a, W', _, hsE, hwW, hi1, her1, hcx, hfb, hcb, hpre, hbody, hnodef,
    hcode.ext hx1, hwE, hfrE, hx1⟩

end Marwood.Lemmas.CompileCorrect2
