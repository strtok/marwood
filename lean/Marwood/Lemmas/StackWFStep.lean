import Marwood.Lemmas.StackWFTCall
/-!
# Preservation of WF-stack by `step`

`step_preserves` is a case analysis of `StepEff` (`Lemmas/StepEff.lean`) against the verifier's local check at the
instruction (`AtInstr`); the instructions that build, complete, replace or drop a frame (CALL, ENTER, TCALL, VARARG, RET)
and the builtins have a lemma of their own.
-/
namespace Marwood.Vm
open Verify Stack

attribute [local irreducible] Marwood.Vm.Stack.push

variable {H : Type} {ops : HeapOps H}

/-- a WF state about to execute `op`: the verified typing of the current code object, the abstract
    state at the current offset, and the local check the verifier made there -/
structure AtInstr (cl : CodeLaws ops) (s : St H) (K : List FDesc) (t : LamTy) (st : AState) (op : Op) : Prop where
  hw : WFS cl s K
  ht : tyOf (cl.code s.heap) s.ipL = some t
  hst : stateAt t.tm s.ipO = some st
  chk : checkOp t.bc t.tm t.entry s.ipO st op = true
  fetch : ∀ k, ops.fetch s.heap s.ipL k = t.bc[k]?
  src : bpSrcOk t.entry t.bc[s.ipO + 1]? = true

theorem WFS.instr {cl : CodeLaws ops} {s s1 : St H} {K : List FDesc} {op : Op} (hw : WFS cl s K)
    (hr : readOpcode ops s = .ok (op, s1)) :
    ∃ t st, AtInstr cl s K t st op ∧ s1 = { s with ipO := s.ipO + 1 } := by
  obtain ⟨hf, e1⟩ := readOpcode_ok hr
  obtain ⟨t, st, ht, hst⟩ := hw.wf.frames.has_ty
  obtain ⟨hcode, hchk⟩ := tyOf_spec ht
  have hfetch := cl.fetch_code hw.inv hcode
  rw [hfetch] at hf
  exact ⟨t, st, ⟨hw, ht, hst, check_of_fetch hchk hf hst, hfetch, src_of_fetch hchk hf hst⟩, e1⟩

theorem ty_unique {cl : CodeLaws ops} {h h' : H} (hext : Ext cl h h') {l : Nat} {t t' : LamTy}
    (ht : tyOf (cl.code h) l = some t) (ht' : tyOf (cl.code h') l = some t') : t' = t := by
  have := hext.ty l t ht
  rw [ht'] at this
  exact Option.some.inj this

theorem pre_vacuous {cl : CodeLaws ops} {h : H} {s' : St H} (hext : Ext cl h s'.heap) {t : LamTy} {st' : AState}
    (ht : tyOf (cl.code h) s'.ipL = some t) (hst' : stateAt t.tm s'.ipO = some st') (hne : st' ≠ .pre) :
    ∀ t2 n, tyOf (cl.code s'.heap) s'.ipL = some t2 → stateAt t2.tm s'.ipO = some .pre →
      s'.stack.cellAt (s'.stack.sp - 2) = .argc n →
      argNeed t2.bc ≤ n ∨ enterLam ops s'.heap s'.acc = some s'.ipL := by
  intro t2 n ht2 hpre _
  have := ty_unique hext ht ht2
  subst this
  rw [hst'] at hpre
  exact absurd (Option.some.inj hpre) hne

theorem MatchSt.ne_pre {V : VCell → Prop} {st : AState} {f : Nat → VCell} {top lo : Nat}
    (h : MatchSt V st f top lo) : st ≠ .pre := by
  intro e; subst e; exact h

theorem WFS.retop {cl : CodeLaws ops} {s : St H} {K : List FDesc} {t : LamTy} {st : AState}
    (hw : WFS cl s K) (ht : tyOf (cl.code s.heap) s.ipL = some t)
    (hst : stateAt t.tm s.ipO = some st) (hne : st ≠ .pre) :
    ∃ lo, MatchSt cl.Val st s.stack.cellAt s.stack.sp lo ∧ (t.entry = true → lo = cl.e) ∧
      (t.entry = false → lo = s.bp + 4) ∧
      ∀ (s' : St H) (st' : AState), Ext cl s.heap s'.heap → s'.bp = s.bp → s'.ipL = s.ipL →
        s'.stack.sp < s'.stack.cells.length →
        (∀ i, i ≤ lo → s'.stack.cellAt i = s.stack.cellAt i) → cl.Val s'.acc →
        stateAt t.tm s'.ipO = some st' → MatchSt cl.Val st' s'.stack.cellAt s'.stack.sp lo → WFS cl s' K := by
  obtain ⟨lo, h1, h2, h3, h4⟩ := hw.wf.frames.inv_body ht hst hne
  refine ⟨lo, h1, h2, h3, ?_⟩
  intro s' st' hext hbp hl hcap hcells hacc hst' hm
  refine ⟨hext.inv, ⟨hcap, ?_⟩, hacc, pre_vacuous hext (by rw [hl]; exact ht) hst' hm.ne_pre⟩
  rw [hbp, hl]
  exact (h4 s'.stack.cellAt s'.stack.sp s'.ipO st' hcells hst' hm).mono hext.ty


theorem retop_same {cl : CodeLaws ops} {s : St H} {K : List FDesc} {t : LamTy} {x : List ACell}
    (hw : WFS cl s K) (ht : tyOf (cl.code s.heap) s.ipL = some t)
    (hst : stateAt t.tm s.ipO = some (.body x)) (s' : St H) (hstack : s'.stack = s.stack)
    (hbp : s'.bp = s.bp) (hl : s'.ipL = s.ipL)
    (hfl : flowsTo x (stateAt t.tm s'.ipO) = true) (hext : Ext cl s.heap s'.heap)
    (hacc : cl.Val s'.acc) : WFS cl s' K := by
  obtain ⟨lo, hm, _, _, hre⟩ := hw.retop ht hst (by simp)
  obtain ⟨st', hst', hm'⟩ := flowsTo_sound hfl hm
  refine hre _ st' hext hbp hl (by rw [hstack]; exact hw.wf.cap) (fun _ _ => by rw [hstack]) hacc hst'
    (by rw [hstack]; exact hm')

theorem retop_push {cl : CodeLaws ops} {s : St H} {K : List FDesc} {t : LamTy} {x : List ACell}
    (hw : WFS cl s K) (ht : tyOf (cl.code s.heap) s.ipL = some t)
    (hst : stateAt t.tm s.ipO = some (.body x)) {ty : ACell} {v : VCell} (hv : cellOk cl.Val ty v)
    (s' : St H) (hstack : s'.stack = s.stack.push v) (hbp : s'.bp = s.bp) (hl : s'.ipL = s.ipL)
    (hfl : flowsTo (ty :: x) (stateAt t.tm s'.ipO) = true) (hext : Ext cl s.heap s'.heap)
    (hacc : cl.Val s'.acc) : WFS cl s' K := by
  obtain ⟨lo, hm, _, _, hre⟩ := hw.retop ht hst (by simp)
  have hlo : lo ≤ s.stack.sp := MatchSt.lo_le hm
  have hm2 : MatchAt cl.Val (ty :: x) (s.stack.push v).cellAt (s.stack.sp + 1) lo := by
    refine MatchAt.push hm ?_ ?_
    · intro i hi
      rw [push_cellAt]
      have : ¬ i = s.stack.sp + 1 := by omega
      simp [this]
    · rw [push_cellAt]; simpa using hv
  obtain ⟨st', hst', hm'⟩ := flowsTo_sound hfl hm2
  refine hre _ st' hext hbp hl (by rw [hstack]; exact push_sp_lt _ _) ?_ hacc hst'
    (by rw [hstack]; simpa using hm')
  intro i hi
  rw [hstack, push_cellAt]
  have : ¬ i = s.stack.sp + 1 := by omega
  simp [this]

theorem retop_drop {cl : CodeLaws ops} {s : St H} {K : List FDesc} {t : LamTy} {x : List ACell}
    (hw : WFS cl s K) (ht : tyOf (cl.code s.heap) s.ipL = some t)
    (hst : stateAt t.tm s.ipO = some (.body x)) {k : Nat} (hk : k ≤ x.length) (s' : St H)
    (hsp : s'.stack.sp + k = s.stack.sp) (hc : s'.stack.cells = s.stack.cells)
    (hbp : s'.bp = s.bp) (hl : s'.ipL = s.ipL)
    (hfl : flowsTo (x.drop k) (stateAt t.tm s'.ipO) = true) (hext : Ext cl s.heap s'.heap)
    (hacc : cl.Val s'.acc) : WFS cl s' K := by
  obtain ⟨lo, hm, _, _, hre⟩ := hw.retop ht hst (by simp)
  have hcell : ∀ i, s'.stack.cellAt i = s.stack.cellAt i := by intro i; unfold Stack.cellAt; rw [hc]
  have hm2 : MatchAt cl.Val (x.drop k) s'.stack.cellAt s'.stack.sp lo := by
    have := MatchAt.drop hm hk
    have e : s.stack.sp - k = s'.stack.sp := by omega
    rw [e] at this
    exact this.congr (fun i _ => hcell i)
  obtain ⟨st', hst', hm'⟩ := flowsTo_sound hfl hm2
  refine hre _ st' hext hbp hl ?_ (fun i _ => hcell i) hacc hst' hm'
  rw [hc]; have := hw.wf.cap; omega

theorem pre_base (k n : Nat) : k + n + 3 - 2 - n = k + 1 := by omega

theorem AtInstr.ne_pre {cl : CodeLaws ops} {s : St H} {K : List FDesc} {t : LamTy} {st : AState} {op : Op}
    (ai : AtInstr cl s K t st op) (h1 : op ≠ .enter) (h2 : op ≠ .varArg) : st ≠ .pre := by
  rintro rfl
  have chk := ai.chk
  cases op <;> first | exact absurd chk Bool.false_ne_true | exact h1 rfl | exact h2 rfl

theorem AtInstr.operand {cl : CodeLaws ops} {s s1 s2 : St H} {K : List FDesc} {t : LamTy} {st : AState}
    {op : Op} {v : VCell} (ai : AtInstr cl s K t st op) (k : Nat)
    (e1 : s1 = { s with ipO := s.ipO + k }) (hro : readOperand ops s1 = .ok (v, s2)) :
    t.bc[s.ipO + k]? = some v ∧ s2 = { s with ipO := s.ipO + k + 1 } := by
  obtain ⟨hf, e2⟩ := readOperand_ok hro
  subst e1
  simp only at hf e2
  rw [ai.fetch] at hf
  exact ⟨hf, e2⟩

theorem AtInstr.bp_val {cl : CodeLaws ops} {s : St H} {K : List FDesc} {t : LamTy} {x : List ACell} {op : Op}
    (ai : AtInstr cl s K t (.body x) op) {off : Int} (h : t.bc[s.ipO + 1]? = some (.bpOffset off))
    (h0 : 0 ≤ (s.bp : Int) + off) : cl.Val (s.stack.cellAt ((s.bp : Int) + off).toNat) := by
  have hs := ai.src
  rw [h] at hs
  simp only [bpSrcOk, Bool.and_eq_true, Bool.not_eq_true', decide_eq_true_eq] at hs
  obtain ⟨hent, hoff⟩ := hs
  obtain ⟨n, l', o', hA, _, hn, hnd, hav, _⟩ := ai.hw.wf.frames.inv_args ai.ht hent ai.hst (by simp)
  have := argNeed_ge h
  have e : ((s.bp : Int) + off).toNat = s.bp - (-off).toNat := by omega
  rw [e]
  exact hav _ (by omega) (by omega)

/-- a `Ptr` source is rejected by the verifier (`Verify.srcOk`); `hbp`: an argument cell of the current frame -/
theorem OpLoads.val {cl : CodeLaws ops} {s : St H} {c v : VCell} (ld : OpLoads ops s c v) (hacc : cl.Val s.acc)
    (hsrc : srcOk (some c) = true)
    (hbp : ∀ off, c = .bpOffset off → 0 ≤ (s.bp : Int) + off → cl.Val (s.stack.cellAt ((s.bp : Int) + off).toNat)) :
    cl.Val v := by
  cases ld with
  | acc => exact hacc
  | ptr p => cases hsrc
  | bp h0 hg => rw [(get_ok hg).1]; exact hbp _ rfl h0
  | glob n _ => exact cl.globGet_val s.heap n
  | env hg hne => exact cl.envGet_val hg hne
  | envPtr hg hw => exact cl.envGet_val2 hg hw

theorem OpStores.ok {cl : CodeLaws ops} {s s1 : St H} {v c : VCell} (st : OpStores ops s v c s1) (hi : cl.HInv s.heap)
    (hd : dstOk (some c) = true) :
    s1.stack = s.stack ∧ s1.bp = s.bp ∧ s1.ipL = s.ipL ∧ s1.ipO = s.ipO ∧ Ext cl s.heap s1.heap ∧
      (s1.acc = v ∨ s1.acc = s.acc) := by
  cases st with
  | acc => exact ⟨rfl, rfl, rfl, rfl, Ext.refl hi, .inl rfl⟩
  | ptr p => cases hd
  | bp _ => cases hd
  | glob n => exact ⟨rfl, rfl, rfl, rfl, Ext.step hi (.globPut _ _ _), .inr rfl⟩
  | env _ _ hp => exact ⟨rfl, rfl, rfl, rfl, Ext.step hi (.envPut hp), .inr rfl⟩
  | envPtr _ hp => exact ⟨rfl, rfl, rfl, rfl, Ext.step hi (.envPut hp), .inr rfl⟩

theorem AtInstr.stored {cl : CodeLaws ops} {s s' : St H} {K : List FDesc} {t : LamTy} {x : List ACell} {op : Op}
    {v d : VCell} (ai : AtInstr cl s K t (.body x) op) (hd : ops.fetch s.heap s.ipL (s.ipO + 1 + 1) = some d)
    (st : OpStores ops { s with ipO := s.ipO + 1 + 1 + 1 } v d s') (hv : cl.Val v)
    (c1 : dstOk t.bc[s.ipO + 2]? = true) (c2 : flowsTo x (stateAt t.tm (s.ipO + 3)) = true) : WFS cl s' K := by
  rw [ai.fetch] at hd
  obtain ⟨q1, q2, q3, q4, q5, q6⟩ := st.ok (cl := cl) ai.hw.inv (by rw [← hd]; exact c1)
  have hacc : cl.Val s'.acc := by
    rcases q6 with e | e
    · rw [e]; exact hv
    · rw [e]; exact ai.hw.acc
  refine retop_same ai.hw ai.ht ai.hst _ q1 q2 q3 ?_ q5 hacc
  rw [q4]; exact c2

theorem pres_halt {cl : CodeLaws ops} {s s1 s' : St H} {K : List FDesc} {t : LamTy} {st : AState} {b : Bool}
    (ai : AtInstr cl s K t st .halt) (hr : readOpcode ops s = .ok (.halt, s1))
    (hs : step ops s = .ok (s', b)) : b = true ∧ s'.stack = s.stack ∧ s.stack.sp = cl.e := by
  have e1 := (readOpcode_ok hr).2
  rw [step_read hr, execOp] at hs
  cases hs
  subst e1
  have chk := ai.chk
  cases st <;> first | cases chk | simp only [checkOp, Bool.and_eq_true] at chk
  rename_i x
  obtain ⟨⟨c1, c2⟩, _⟩ := chk
  obtain ⟨lo, hm, hlo, _, _⟩ := ai.hw.retop ai.ht ai.hst (by simp)
  have := hlo c1
  subst this
  cases x with
  | nil => exact ⟨rfl, rfl, hm⟩
  | cons a x => simp at c2

/-- HALT is the last cell of its code object: the halted state has no instruction to execute -/
theorem halt_last {cl : CodeLaws ops} {s : St H} {K : List FDesc} {t : LamTy} {st : AState}
    (ai : AtInstr cl s K t st .halt) : s.ipO + 1 = t.bc.length := by
  have chk := ai.chk
  cases st <;> first | cases chk | simp only [checkOp, Bool.and_eq_true, decide_eq_true_eq] at chk
  exact chk.2

theorem Frames.enter {V : VCell → Prop} {T : Typing} {e : Nat} {f f' : Nat → VCell} {top bp l o o' : Nat}
    {K : List FDesc} {t : LamTy} (h : Frames V T e f top bp l o K) (ht : T l = some t)
    (hst : stateAt t.tm o = some .pre) (hfl : flowsTo [] (stateAt t.tm o') = true)
    (hneed : ∀ n, f (top - 2) = .argc n → argNeed t.bc ≤ n)
    (hf' : ∀ i, i ≤ top → f' i = f i) (hb : f' (top + 1) = .basePtr bp) :
    ∃ st', stateAt t.tm o' = some st' ∧ st' ≠ .pre ∧ Frames V T e f' (top + 1) (top + 1 - 4) l o' K := by
  obtain ⟨hent, n, ep', l', o'', K', hn, hI, hE, hA, hfr, rfl⟩ := h.inv_pre ht hst
  obtain ⟨n2, l2, o2, hA2, hI2, _, hav, hnp⟩ := h.inv_pre_args ht hst
  rw [hA] at hA2; cases hA2
  rw [hI] at hI2; cases hI2
  -- the block arithmetic once: `k` is the cell under the first argument
  obtain ⟨k, rfl⟩ : ∃ k, top = k + n + 3 := ⟨top - 3 - n, by omega⟩
  have e1 : k + n + 3 - 3 - n = k := by omega
  have e2 : k + n + 3 - 2 - n = k + n + 1 - n := by omega
  rw [e1] at hfr hav
  rw [e2]
  -- `rfl`: `MatchAt [] f top lo` unfolds to `top = lo`, and `k + n + 3 + 1` is `k + n + 4` by evaluation of `+` on literals
  obtain ⟨st', hst', hm'⟩ := flowsTo_sound (V := V) (f := f') (top := k + n + 3 + 1) (lo := k + n + 4) hfl rfl
  refine ⟨st', hst', hm'.ne_pre, ?_⟩
  refine Frames.frame (bp := k + n) (n := n) (bp' := bp) ht hent hst' hm' ?_ ?_ ?_ hb (Nat.le_add_left _ _)
    (hneed n hA) ?_ hnp ?_
  · rw [hf' _ (by omega)]; exact hA
  · rw [hf' _ (by omega)]; exact hE
  · rw [hf' _ (Nat.le_refl _)]; exact hI
  · intro i hi1 hi2
    rw [hf' _ (by omega)]
    exact hav i (by omega) (by omega)
  · rw [Nat.add_sub_cancel]
    exact hfr.congr (fun i hi => hf' i (by omega))

theorem pres_enter {cl : CodeLaws ops} {s : St H} {K : List FDesc} {t : LamTy} {st : AState} {lam : Nat}
    {info : LambdaInfo} {h' : H} {ep' : Nat} (ai : AtInstr cl s K t st .enter)
    (el1 : enterLam ops s.heap s.acc = some lam) (el2 : ops.lambdaInfo s.heap lam = some info)
    (el3 : s.stack.cellAt (s.stack.sp - 2) = .argc info.argc)
    (hh : (ops.callee s.heap s.acc = .lambda ∧ h' = s.heap ∧ ep' = s.ep) ∨ ∃ env, ops.callee s.heap s.acc = .closure lam env ∧
      ops.makeActivation s.heap lam env (s.stack.sp - 3) (s.stack.push (.basePtr s.bp)) = .ok (h', ep')) :
    WFS cl { s with ipO := s.ipO + 1, heap := h', ep := ep', stack := s.stack.push (.basePtr s.bp), bp := s.stack.sp - 3 } K := by
  have q5 : Ext cl s.heap h' := by
    rcases hh with ⟨_, rfl, _⟩ | ⟨env, _, hm⟩
    · exact Ext.refl ai.hw.inv
    · exact Ext.step ai.hw.inv (.makeActivation hm)
  have chk := ai.chk
  cases st <;> first | cases chk | simp only [checkOp, Bool.and_eq_true] at chk
  have hneed : ∀ n, s.stack.cellAt (s.stack.sp - 2) = .argc n → argNeed t.bc ≤ n := by
    intro n hA
    rcases ai.hw.pre t n ai.ht ai.hst hA with h | h
    · exact h
    · rw [el1] at h
      cases h
      rw [hA] at el3
      cases el3
      exact cl.info_code ai.hw.inv (tyOf_spec ai.ht).1 el2
  obtain ⟨st', hst', hne, hfr⟩ := ai.hw.wf.frames.enter ai.ht ai.hst chk.2 hneed
    (fun i hi => push_below s.stack (.basePtr s.bp) i hi) (push_cellAt_top s.stack _)
  exact ⟨q5.inv, ⟨push_sp_lt _ _, by rw [push_sp]; exact hfr.mono q5.ty⟩, ai.hw.acc, pre_vacuous q5 ai.ht hst' hne⟩

theorem pres_ret {cl : CodeLaws ops} {s : St H} {K : List FDesc} {t : LamTy} {st : AState} {n ep l o bp' : Nat}
    (ai : AtInstr cl s K t st .ret) (r1 : s.stack.cellAt (s.bp + 1) = .argc n)
    (r2 : s.stack.cellAt (s.bp + 2) = .envPtr ep) (r3 : s.stack.cellAt (s.bp + 3) = .instrPtr l o)
    (r4 : s.stack.cellAt (s.bp + 4) = .basePtr bp') :
    ∃ d K', K = d :: K' ∧ s.bp - n + 1 = d.base ∧
      WFS cl { s with stack := { s.stack with sp := s.bp - n }, ep := ep, ipL := l, ipO := o, bp := bp' } K' := by
  have chk := ai.chk
  cases st <;> first | cases chk | simp only [checkOp] at chk
  have hent : t.entry = false := by simpa using chk
  obtain ⟨n', ep', l', o', bp'', K', hm, hA, hE, hI, hB, hn, hfr, hK⟩ :=
    ai.hw.wf.frames.inv_frame ai.ht hent ai.hst (by simp)
  obtain ⟨n3, l3, o3, hA3, hI3, _, _, _, hnp⟩ := ai.hw.wf.frames.inv_args ai.ht hent ai.hst (by simp)
  rw [hI] at hI3; cases hI3
  rw [hA] at r1; rw [hE] at r2; rw [hI] at r3; rw [hB] at r4
  cases r1; cases r2; cases r3; cases r4
  have hlo := hm.lo_le
  refine ⟨_, K', hK, by show s.bp - n + 1 = s.bp + 1 - n; omega, ai.hw.inv, ⟨?_, hfr⟩, ai.hw.acc, ?_⟩
  · show s.bp - n < s.stack.cells.length
    have := ai.hw.wf.cap; omega
  · intro t2 n2 ht2 hpre _
    exact absurd hpre (hnp t2 ht2)


theorem frames_call {V : VCell → Prop} {T : Typing} {e : Nat} {f f' : Nat → VCell} {top bp l o : Nat}
    {K : List FDesc}
    {t : LamTy} {a : List ACell} (hfr : Frames V T e f top bp l o K) (ht : T l = some t)
    (hst : stateAt t.tm o = some (.call a)) (hfl : flowsTo a (stateAt t.tm (o + 1)) = true)
    {lam : Nat} {tl : LamTy} (htl : T lam = some tl) (hent : tl.entry = false)
    (hchk : checkAll tl.bc tl.tm tl.entry = true) {ep : Nat}
    (hf' : ∀ i, i ≤ top → f' i = f i) (h1 : f' (top + 1) = .envPtr ep)
    (h2 : f' (top + 2) = .instrPtr l (o + 1)) :
    ∃ m, f top = .argc m ∧
      Frames V T e f' (top + 2) bp lam 0 (⟨top + 2 - 2 - m, .envPtr ep, .instrPtr l (o + 1), bp⟩ :: K) := by
  obtain ⟨lo, hm, _, _, hre⟩ := hfr.inv_body ht hst (by simp)
  obtain ⟨m, hA, hle, hvals, hma⟩ := hm
  obtain ⟨st', hst', hm'⟩ := flowsTo_sound hfl hma
  have hcaller := hre f' (top - 1 - m) (o + 1) st' (fun i hi => hf' i (by omega)) hst'
    (hm'.congr (fun i hi => hf' i (by omega)))
  have hpre : stateAt tl.tm 0 = some .pre := by
    have := checkAll_init hchk
    rw [hent] at this
    simpa [initState] using this
  have e3 : top + 2 - 3 - m = top - 1 - m := by omega
  have hnp : ∀ t', T l = some t' → stateAt t'.tm (o + 1) ≠ some .pre := by
    intro t' ht'
    rw [ht] at ht'
    have e : t = t' := Option.some.inj ht'
    rw [← e, hst']
    intro hh
    exact hm'.ne_pre (Option.some.inj hh)
  refine ⟨m, hA, Frames.pre (n := m) (ep' := ep) (l' := l) (o' := o + 1) htl hent hpre (by omega) h2 ?_ ?_ ?_ hnp ?_⟩
  · have : top + 2 - 1 = top + 1 := by omega
    rw [this]; exact h1
  · have : top + 2 - 2 = top := by omega
    rw [this, hf' top (Nat.le_refl _)]; exact hA
  · intro i hi1 hi2
    rw [hf' i (by omega)]
    exact hvals i (by omega) (by omega)
  · rw [e3]; exact hcaller

theorem pres_call_proc {cl : CodeLaws ops} {s : St H} {K : List FDesc} {t : LamTy} {a : List ACell} {op : Op}
    (ai : AtInstr cl s K t (.call a) op) (hfl : flowsTo a (stateAt t.tm (s.ipO + 1)) = true)
    {lam : Nat} (hlam : enterLam ops s.heap s.acc = some lam) :
    ∃ m, s.stack.cellAt s.stack.sp = .argc m ∧
      WFS cl { s with stack := (s.stack.push (.envPtr s.ep)).push (.instrPtr s.ipL (s.ipO + 1)),
                         ipL := lam, ipO := 0 }
        (⟨s.stack.sp + 2 - 2 - m, .envPtr s.ep, .instrPtr s.ipL (s.ipO + 1), s.bp⟩ :: K) := by
  obtain ⟨tl, htl, hent⟩ := cl.enterLam_ty ai.hw.inv hlam
  have hchk := (tyOf_spec htl).2
  obtain ⟨m, hmA, hd⟩ := frames_call (f' := ((s.stack.push (.envPtr s.ep)).push (.instrPtr s.ipL (s.ipO + 1))).cellAt)
    (ep := s.ep) ai.hw.wf.frames ai.ht ai.hst hfl htl hent hchk
    (by
      intro i hi
      rw [push_cellAt, push_cellAt, push_sp]
      have n1 : ¬ i = s.stack.sp + 1 + 1 := by omega
      have n2 : ¬ i = s.stack.sp + 1 := by omega
      simp [n1, n2])
    (by
      rw [push_cellAt, push_cellAt, push_sp]
      have n1 : ¬ s.stack.sp + 1 = s.stack.sp + 1 + 1 := by omega
      simp [n1])
    (by rw [push_cellAt, push_sp]; simp)
  refine ⟨m, hmA, ai.hw.inv, ⟨push_sp_lt _ _, ?_⟩, ai.hw.acc, fun _ _ _ _ _ => .inr hlam⟩
  simpa using hd

theorem AtInstr.call_block {cl : CodeLaws ops} {s : St H} {K : List FDesc} {t : LamTy} {a : List ACell}
    {op : Op} (ai : AtInstr cl s K t (.call a) op) :
    ∃ m, s.stack.cellAt s.stack.sp = .argc m ∧ m + 1 ≤ s.stack.sp ∧
      (t.entry = false → s.bp + 4 + m + 1 ≤ s.stack.sp) := by
  obtain ⟨lo, ⟨m, h1, h2, _⟩, _, h3, _⟩ := ai.hw.wf.frames.inv_body ai.ht ai.hst (by simp)
  exact ⟨m, h1, by omega, fun he => by have := h3 he; omega⟩

theorem AtInstr.call_vals {cl : CodeLaws ops} {s : St H} {K : List FDesc} {t : LamTy} {a : List ACell}
    {op : Op} (ai : AtInstr cl s K t (.call a) op) {m : Nat} (hA : s.stack.cellAt s.stack.sp = .argc m) :
    ∀ i, s.stack.sp - 1 - m < i → i < s.stack.sp → cl.Val (s.stack.cellAt i) := by
  obtain ⟨lo, ⟨m0, h1, h2, hv, _⟩, _, _, _⟩ := ai.hw.wf.frames.inv_body ai.ht ai.hst (by simp)
  rw [hA] at h1; cases h1
  exact hv

/-- after a builtin that re-dispatched: same CALL/TCALL, another argument block -/
theorem retop_redispatch {cl : CodeLaws ops} {s : St H} {K : List FDesc} {t : LamTy} {a : List ACell}
    {op : Op} (ai : AtInstr cl s K t (.call a) op) {m : Nat} (hA : s.stack.cellAt s.stack.sp = .argc m)
    (s1 s' : St H) (e1 : s1 = { s with ipO := s.ipO + 1 }) (hr : Redisp s1 s' m)
    (hvals : ∀ m', s'.stack.cellAt s'.stack.sp = .argc m' → ∀ i, s'.stack.sp - 1 - m' < i → i < s'.stack.sp →
      cl.Val (s'.stack.cellAt i))
    (hacc : cl.Val s'.acc)
    (hext : Ext cl s.heap s'.heap) : WFS cl s' K := by
  subst e1
  obtain ⟨lo, ⟨m0, h1, h2, _, h3⟩, _, _, hre⟩ := ai.hw.retop ai.ht ai.hst (by simp)
  rw [hA] at h1; cases h1
  obtain ⟨m', b1, b2, b3⟩ := hr.blk
  simp only at b3
  have hbelow := hr.below
  simp only at hbelow
  refine hre s' (.call a) hext hr.bp hr.ipL hr.cap (fun i hi => hbelow i (by omega)) hacc ?_ ?_
  · have := hr.ipO
    simp only at this
    have e : s'.ipO = s.ipO := by omega
    rw [e]; exact ai.hst
  · refine ⟨m', b1, by omega, hvals m' b1, ?_⟩
    rw [b3]
    exact h3.congr (fun i hi => hbelow i hi)

/-- after a builtin that returned: block popped, execution continues after the CALL/TCALL -/
theorem retop_return {cl : CodeLaws ops} {s : St H} {K : List FDesc} {t : LamTy} {a : List ACell}
    {op : Op} (ai : AtInstr cl s K t (.call a) op) (hfl : flowsTo a (stateAt t.tm (s.ipO + 1)) = true)
    {m : Nat} (hA : s.stack.cellAt s.stack.sp = .argc m) (s' : St H)
    (hsp : s'.stack.sp + m + 1 = s.stack.sp) (hc : s'.stack.cells = s.stack.cells)
    (hbp : s'.bp = s.bp) (hl : s'.ipL = s.ipL) (hip : s'.ipO = s.ipO + 1)
    (hacc : cl.Val s'.acc)
    (hext : Ext cl s.heap s'.heap) : WFS cl s' K := by
  obtain ⟨lo, ⟨m0, h1, h2, _, h3⟩, _, _, hre⟩ := ai.hw.retop ai.ht ai.hst (by simp)
  rw [hA] at h1; cases h1
  have hcell : ∀ i, s'.stack.cellAt i = s.stack.cellAt i := by intro i; unfold Stack.cellAt; rw [hc]
  obtain ⟨st', hst', hm'⟩ := flowsTo_sound hfl h3
  have e : s.stack.sp - 1 - m = s'.stack.sp := by omega
  refine hre s' st' hext hbp hl ?_ (fun i _ => hcell i) hacc (by rw [hip]; exact hst') ?_
  · rw [hc]; have := ai.hw.wf.cap; omega
  · rw [← e]; exact hm'.congr (fun i _ => hcell i)

theorem pres_builtin {cl : CodeLaws ops} {s s1 s' : St H} {K : List FDesc} {t : LamTy} {a : List ACell}
    {op : Op} (ai : AtInstr cl s K t (.call a) op) (hfl : flowsTo a (stateAt t.tm (s.ipO + 1)) = true)
    (e1 : s1 = { s with ipO := s.ipO + 1 }) {id : Nat} (hs : runBuiltin ops id s1 = .ok s') :
    WFS cl s' K := by
  obtain ⟨m, hA, hm, _⟩ := ai.call_block
  have hbv := ai.call_vals hA
  have hacc : cl.Val s'.acc := runBuiltin_acc (cl := cl) hs
  obtain ⟨s2, v, hb, q1, q2, q3, q4, q5⟩ := runBuiltin_ok (cl := cl) hs
  have hcap1 : s1.stack.sp < s1.stack.cells.length := by subst e1; exact ai.hw.wf.cap
  have hA1 : s1.stack.cellAt s1.stack.sp = .argc m := by subst e1; exact hA
  have hm1 : m + 1 ≤ s1.stack.sp := by subst e1; exact hm
  have hi1 : cl.HInv s1.heap := by subst e1; exact ai.hw.inv
  have hh1 : s1.heap = s.heap := by subst e1; rfl
  have hst1 : s1.stack = s.stack := by subst e1; rfl
  have redisp : ∀ (s2 : St H), Redisp s1 s2 m → s'.stack = s2.stack → s'.bp = s2.bp → s'.ipL = s2.ipL →
      s'.ipO = s2.ipO → Redisp s1 s' m := by
    intro s2 r w1 w2 w3 w4
    exact ⟨by rw [w1]; exact r.cap, by rw [w1]; exact r.blk, by rw [w1]; exact r.below,
      by rw [w2]; exact r.bp, by rw [w3]; exact r.ipL, by rw [w4]; exact r.ipO⟩
  cases hk : ops.builtinKind s1.heap id <;> rw [hk] at hb <;> dsimp only at hb
  · -- apply
    obtain ⟨r, hh, _, hprov⟩ := builtinApply_eff hb hcap1 hA1 hm1
    have hi2 : cl.HInv s2.heap := by rw [hh]; exact hi1
    have ext : Ext cl s.heap s'.heap := by
      have := q5 hi2
      rw [hh, hh1] at this; exact this
    refine retop_redispatch ai hA s1 s' e1 (redisp s2 r q1 q2 q3 q4) ?_ hacc ext
    intro m' hm' i hi1' hi2'
    rw [q1] at hm' hi1' hi2' ⊢
    rcases hprov m' hm' i hi1' hi2' with ⟨j, j1, j2, j3⟩ | ⟨a', ha'⟩
    · rw [j3, hst1]; rw [hst1] at j1 j2; exact hbv j j1 j2
    · rw [ha']; exact cl.val_imm _ rfl
  · -- eval
    obtain ⟨r, hx⟩ := builtinEvalProc_ok (cl := cl) hi1 hb hA1
    have ext : Ext cl s.heap s'.heap := by
      have := hx.trans (q5 hx.inv)
      rw [hh1] at this; exact this
    refine retop_redispatch ai hA s1 s' e1 (redisp s2 r q1 q2 q3 q4) ?_ hacc ext
    intro m' hm' i hi1' hi2'
    exfalso
    have := builtinEvalProc_blk hb
    rw [q1] at hm' hi1' hi2'
    rw [this] at hm'
    cases hm'
    omega
  · -- call/cc
    obtain ⟨hm1', cst, c1, c2, c3, c4, r⟩ := builtinCallcc_ok hb hA1
    obtain ⟨_, hk1, cst2, hk2⟩ := builtinCallcc_new hb hA1
    subst hm1'
    subst e1
    simp only at c1 c3 c4
    -- the captured continuation is the snapshot of the state this call returns to
    obtain ⟨lo, ⟨m0, h1, h2, _, h3⟩, _, _, hre⟩ := ai.hw.wf.frames.inv_body ai.ht ai.hst (by simp)
    rw [hA] at h1; cases h1
    obtain ⟨st', hst', hm'⟩ := flowsTo_sound hfl h3
    have hcw : ContWF cl.Val (tyOf (cl.code s.heap)) cl.e ⟨cst, s.ep, s.ipL, s.ipO + 1, s.bp⟩ K := by
      refine ⟨c2, ?_, ?_⟩
      · show Frames _ _ _ cst.cellAt cst.sp s.bp s.ipL (s.ipO + 1) K
        have e : cst.sp = s.stack.sp - 1 - 1 := by omega
        rw [e]
        exact hre cst.cellAt _ _ st' (fun i hi => c3 i (by omega)) hst'
          (hm'.congr (fun i hi => c3 i (by omega)))
      · intro t2 ht2
        show stateAt t2.tm (s.ipO + 1) ≠ some .pre
        have e : t2 = t := by
          have := ai.ht
          simp only at ht2
          rw [ht2] at this
          exact Option.some.inj this
        rw [e, hst']
        intro hh
        exact hm'.ne_pre (Option.some.inj hh)
    have hi2 : cl.HInv s2.heap := by rw [c4]; exact cl.newCont_inv ai.hw.inv hcw
    have ext2 : Ext cl s.heap s2.heap :=
      ⟨hi2, fun l bc hc => by rw [c4]; exact cl.newCont_code ai.hw.inv hc⟩
    refine retop_redispatch ai hA _ s' rfl (redisp s2 r q1 q2 q3 q4) ?_ hacc (ext2.trans (q5 hi2))
    intro m' hm' i hi1' hi2'
    rw [q1] at hm' hi1' hi2' ⊢
    rw [hk1] at hm'; cases hm'
    have ei : i = s2.stack.sp - 1 := by omega
    rw [ei, hk2]
    exact cl.newCont_val _ _
  · -- generic
    obtain ⟨g1, g2, g3, g4, g5, g6⟩ := builtinGeneric_ok (cl := cl) hi1 hb hA1
    subst e1
    simp only at g1 g2 g3 g4 g5 g6
    exact retop_return ai hfl hA s' (by rw [q1]; exact g1) (by rw [q1]; exact g2) (by rw [q2]; exact g3)
      (by rw [q3]; exact g4) (by rw [q4]; exact g5) hacc (g6.trans (q5 g6.inv))

theorem pres_invoke {cl : CodeLaws ops} {s s1 s' : St H} {K : List FDesc}
    (hw : WFS cl s K) (e1 : s1 = { s with ipO := s.ipO + 1 }) {c : Cont}
    (hc : ops.callee s.heap s.acc = .continuation c) (hs : invokeCont s1 c = .ok s')
    (hbv : ∀ m, s.stack.cellAt s.stack.sp = .argc m → ∀ i, s.stack.sp - 1 - m < i → i < s.stack.sp →
      cl.Val (s.stack.cellAt i)) :
    ∃ K', WFS cl s' K' := by
  obtain ⟨Kc, hcw⟩ := cl.cont_wf hw.inv hc
  obtain ⟨q1, q2, q3, q4, q5, q6, q7⟩ := invokeCont_ok hs
  obtain ⟨m, a1, a2, a3⟩ := invokeCont_acc hs
  subst e1
  simp only at q7 a1 a2 a3
  refine ⟨Kc, by rw [q7]; exact hw.inv, ⟨by rw [q1]; have := hcw.cap; omega, ?_⟩, ?_, ?_⟩
  · rw [q1, q4, q5, q6, q7]
    exact hcw.frames.congr (fun i hi => q3 i (by have := hcw.cap; omega))
  · rw [a3]
    exact hbv m a1 _ (by omega) (by omega)
  · intro t2 n2 ht2 hpre _
    rw [q5, q7] at ht2
    rw [q6] at hpre
    exact absurd hpre (hcw.body t2 ht2)

/-- what one instruction does to the ghost list of frames. The RET case says where the stack pointer lands
    (`sp + 1 = d.base`): `Trace.stable` needs it to see that a trace staying above `base` never pops the frame at `base` -/
def KStep (ops : HeapOps H) (s s' : St H) (K K' : List FDesc) : Prop :=
  K' = K ∨ (∃ d, K' = d :: K) ∨ (∃ d, K = d :: K' ∧ s'.stack.sp + 1 = d.base) ∨
    ∃ c, ops.callee s.heap s.acc = .continuation c

theorem pres_tcall_proc {cl : CodeLaws ops} {s s' : St H} {K : List FDesc} {t : LamTy} {a : List ACell}
    (ai : AtInstr cl s K t (.call a) .tcallAcc) (hent0 : t.entry = false)
    {lam : Nat} (hlam : enterLam ops s.heap s.acc = some lam)
    (he : tcallTail { s with ipO := s.ipO + 1 } lam = .ok s') : WFS cl s' K := by
  obtain ⟨tl, htl, hent⟩ := cl.enterLam_ty ai.hw.inv hlam
  obtain ⟨n, ep', l', o', bp', K', hm, hA, hE, hI, hB, hn, hfr, hK⟩ :=
    ai.hw.wf.frames.inv_frame ai.ht hent0 ai.hst (by simp)
  obtain ⟨n3, l3, o3, hA3, hI3, _, _, _, hnp⟩ := ai.hw.wf.frames.inv_args ai.ht hent0 ai.hst (by simp)
  rw [hI] at hI3; cases hI3
  obtain ⟨m, hm1, hm2, hbv, hm3⟩ := hm
  obtain ⟨⟨r1, r2, r3, r4, r5, r6, r7, r8, r9, r10⟩, rargs⟩ :=
    tcallTail_eff (s := { s with ipO := s.ipO + 1 }) he ai.hw.wf.cap hA hE hI hB hm1 (by show s.bp + 4 + m < s.stack.sp; omega) hn
  have racc : s'.acc = s.acc := tcallTail_acc he
  simp only at r1 r3 r4 r5 r6 r10 rargs
  have hpre : stateAt tl.tm 0 = some .pre := by
    have := checkAll_init (tyOf_spec htl).2
    rw [hent] at this
    simpa [initState] using this
  -- the block arithmetic once: `k` is the cell under the replaced frame's first argument
  obtain ⟨k, hk⟩ : ∃ k, s.bp = k + n := ⟨s.bp - n, by omega⟩
  have ek : s.bp - n = k := by omega
  have eK : s.bp + 1 - n = k + m + 3 - 2 - m := by omega
  rw [ek] at r1 r3 r4 r5 rargs hfr
  rw [hk] at r6
  refine ⟨by rw [r10]; exact ai.hw.inv, ⟨r2, ?_⟩, by rw [racc]; exact ai.hw.acc, ?_⟩
  · rw [r10, r7, r8, r9, hK, r1, eK]
    refine Frames.pre (n := m) htl hent hpre (Nat.le_add_left _ _) r5 r4 r3 ?_ hnp ?_
    · intro i hi1 hi2
      rw [Nat.add_sub_cancel] at hi1 hi2
      rw [Nat.add_sub_cancel] at hi1
      obtain ⟨j, j1, j2, j3⟩ := rargs i hi1 hi2
      rw [j3]
      exact hbv j j1 j2
    · rw [Nat.add_sub_cancel, Nat.add_sub_cancel]
      exact hfr.congr (fun i hi => r6 i (Nat.add_le_add_right hi n))
  · intro t2 n2 _ _ _
    right
    rw [r10, racc, r8]
    exact hlam

theorem pres_vararg {cl : CodeLaws ops} {s s' : St H} {K : List FDesc} {t : LamTy} {st : AState}
    (ai : AtInstr cl s K t st .varArg) (he : stepVarArg ops { s with ipO := s.ipO + 1 } = .ok s') : WFS cl s' K := by
  have chk := ai.chk
  cases st <;> first | cases chk | simp only [checkOp, Bool.and_eq_true, decide_eq_true_eq] at chk
  obtain ⟨c1, c2⟩ := chk
  obtain ⟨hent, n, ep', l', o', K', hn, hI, hE, hA, hfr, hK⟩ := ai.hw.wf.frames.inv_pre ai.ht ai.hst
  obtain ⟨n2, l2, o2, hA2, hI2, _, hav, hnp⟩ := ai.hw.wf.frames.inv_pre_args ai.ht ai.hst
  rw [hA] at hA2; cases hA2
  rw [hI] at hI2; cases hI2
  obtain ⟨info, m, h', st', rfl, w1, _, _, hA', hle, ⟨_, _, hp⟩, _, hblk⟩ := stepVarArg_eff he
  rw [hA] at hA'; cases hA'
  obtain ⟨b1, b2, b3, b4, b5, b6, b7⟩ := hblk hn
  dsimp only at b1 b5 b6 b7
  have hx := hp.ext ai.hw.inv
  obtain ⟨k, hs⟩ : ∃ k, s.stack.sp = k + n + 3 := ⟨s.stack.sp - 3 - n, by omega⟩
  have hs' : st'.sp = k + info.argc + 3 := by omega
  rw [hs] at hK hav hfr
  rw [hs'] at b3 b7
  rw [Nat.add_sub_cancel] at hav hfr b3
  rw [Nat.add_sub_cancel] at hav hfr
  rw [pre_base] at hK
  refine ⟨hx.inv, ⟨b2 ai.hw.wf.cap, ?_⟩, ai.hw.acc, ?_⟩
  · refine Frames.mono hx.ty ?_
    show Frames _ _ _ st'.cellAt st'.sp s.bp s.ipL (s.ipO + 1) K
    rw [hK, ← pre_base k info.argc, ← hs']
    -- again a prologue block on the same base, with `info.argc` arguments; the one cell written is the rest list
    refine Frames.pre (n := info.argc) ai.ht hent c2 (by rw [hs']; exact Nat.le_add_left _ _) (b6.trans hI)
      (b5.trans hE) b4 ?_ hnp ?_
    · intro i h1 h2
      rw [hs', Nat.add_sub_cancel] at h1 h2
      rw [Nat.add_sub_cancel] at h1
      by_cases hi : i = k + info.argc
      · rw [hi]
        rcases b3 with ⟨h, v, e⟩ | ⟨l, e⟩
        · rw [e]; exact cl.put_val _ _
        · rw [e]; exact cl.val_imm _ rfl
      · rw [b7 i (by omega)]
        exact hav i h1 (by omega)
    · rw [hs', Nat.add_sub_cancel, Nat.add_sub_cancel]
      exact hfr.congr (fun i hi => b7 i (by omega))
  · intro t2 n2 ht2 _ hA2
    left
    have := ty_unique hx ai.ht ht2
    subst this
    rw [b4] at hA2; cases hA2
    exact cl.info_code ai.hw.inv (tyOf_spec ai.ht).1 w1

/-- CALL of a closure, with the description of the frame it creates: it starts at the first argument, and will
    restore the caller's `ep`, the instruction after the CALL, and the caller's `bp` -/
theorem call_closure_desc {cl : CodeLaws ops} {s s1 s' : St H} {K : List FDesc} {lam env : Nat}
    (hw : WFS cl s K) (hr : readOpcode ops s = .ok (.callAcc, s1))
    (hc : ops.callee s.heap s.acc = .closure lam env) (hs : step ops s = .ok (s', false)) :
    ∃ m, s.stack.cellAt s.stack.sp = .argc m ∧
      WFS cl s' (⟨s.stack.sp - m, .envPtr s.ep, .instrPtr s.ipL (s.ipO + 1), s.bp⟩ :: K) := by
  obtain ⟨t, st, ai, _⟩ := hw.instr hr
  have chk := ai.chk
  cases st <;> first | cases chk | simp only [checkOp] at chk
  cases StepEff.of_step hr hs with
  | callBuiltin hc' _ => rw [hc] at hc'; cases hc'
  | callCont hc' _ => rw [hc] at hc'; cases hc'
  | callProc hl =>
    obtain ⟨m, hA, hd⟩ := pres_call_proc ai chk (enterLam_eq_some.mpr hl)
    rw [show s.stack.sp + 2 - 2 - m = s.stack.sp - m by omega] at hd
    exact ⟨m, hA, hd⟩

/-- ENTER completes the frame the preceding CALL/TCALL described: same description, no temporaries -/
theorem enter_desc {cl : CodeLaws ops} {s s1 s' : St H} {D : FDesc} {R : List FDesc}
    (hw : WFS cl s (D :: R)) (hr : readOpcode ops s = .ok (.enter, s1))
    (hs : step ops s = .ok (s', false)) :
    WFS cl s' (D :: R) ∧ s'.stack.sp = s'.bp + 4 ∧
      ∃ n, s'.stack.cellAt (s'.bp + 1) = .argc n ∧ n ≤ s'.bp ∧ s'.bp + 1 - n = D.base := by
  obtain ⟨t, st, ai, _⟩ := hw.instr hr
  cases StepEff.of_step hr hs with
  | enter h1 h2 h3 h4 hh =>
  have hw' := pres_enter ai h1 h2 (cellAt_of_some h3) hh
  have chk := ai.chk
  cases st <;> first | cases chk | simp only [checkOp, Bool.and_eq_true] at chk
  obtain ⟨hent, n, ep', l', o', K', hn, hI, hE, hA, hfr, hK⟩ := ai.hw.wf.frames.inv_pre ai.ht ai.hst
  simp only [List.cons.injEq] at hK
  obtain ⟨hD, _⟩ := hK
  refine ⟨hw', by rw [push_sp]; show s.stack.sp + 1 = s.stack.sp - 3 + 4; omega, n, ?_,
    by show n ≤ s.stack.sp - 3; omega, ?_⟩
  · show (s.stack.push _).cellAt (s.stack.sp - 3 + 1) = _
    rw [push_below _ _ _ (by omega), show s.stack.sp - 3 + 1 = s.stack.sp - 2 by omega]; exact hA
  · rw [hD]; show s.stack.sp - 3 + 1 - n = s.stack.sp - 2 - n; omega

/-- TCALL of a closure keeps the list of frame descriptions: the frame is replaced, not stacked -/
theorem tcall_closure_desc {cl : CodeLaws ops} {s s1 s' : St H} {K : List FDesc} {lam env : Nat}
    (hw : WFS cl s K) (hr : readOpcode ops s = .ok (.tcallAcc, s1))
    (hc : ops.callee s.heap s.acc = .closure lam env) (hs : step ops s = .ok (s', false)) :
    WFS cl s' K := by
  obtain ⟨t, st, ai, _⟩ := hw.instr hr
  have chk := ai.chk
  cases st <;> first | cases chk | simp only [checkOp, Bool.and_eq_true] at chk
  cases StepEff.of_step hr hs with
  | tcallBuiltin hc' _ => rw [hc] at hc'; cases hc'
  | tcallCont hc' _ => rw [hc] at hc'; cases hc'
  | tcallProc hl ht => exact pres_tcall_proc ai (by simpa using chk.1) (enterLam_eq_some.mpr hl) ht

theorem vararg_desc {cl : CodeLaws ops} {s s1 s' : St H} {K : List FDesc}
    (hw : WFS cl s K) (hr : readOpcode ops s = .ok (.varArg, s1))
    (hs : step ops s = .ok (s', false)) : WFS cl s' K := by
  obtain ⟨t, st, ai, _⟩ := hw.instr hr
  cases StepEff.of_step hr hs with
  | varArg he => exact pres_vararg ai he

theorem call_builtin_desc {cl : CodeLaws ops} {s s1 s' : St H} {K : List FDesc} {id : Nat} {b : Bool}
    (hw : WFS cl s K) (hr : readOpcode ops s = .ok (.callAcc, s1))
    (hc : ops.callee s.heap s.acc = .builtin id) (hs : step ops s = .ok (s', b)) : WFS cl s' K := by
  obtain ⟨t, st, ai, _⟩ := hw.instr hr
  have chk := ai.chk
  cases st <;> first | cases chk | simp only [checkOp] at chk
  cases StepEff.of_step hr hs with
  | callBuiltin _ hb => exact pres_builtin ai chk rfl hb
  | callCont hc' _ => rw [hc] at hc'; cases hc'
  | callProc hl =>
    rcases hl with ⟨env, hl⟩ | ⟨hl, _⟩ <;> rw [hc] at hl <;> cases hl

theorem step_true_is_halt {s s' : St H} (hs : step ops s = .ok (s', true)) :
    ∃ s1, readOpcode ops s = .ok (.halt, s1) := by
  obtain ⟨op, hr, e⟩ := step_eff hs
  cases e
  exact ⟨_, hr⟩

/-- **Preservation**: every instruction the machine executes successfully from a WF state leads to a WF state; the
    ghost list of frame descriptions changes by at most one push (CALL of a procedure) or one pop (RET), except when a
    continuation is invoked. -/
theorem step_preserves {cl : CodeLaws ops} {s s' : St H} {K : List FDesc}
    (hw : WFS cl s K) (hs : step ops s = .ok (s', false)) :
    ∃ K', WFS cl s' K' ∧ KStep ops s s' K K' := by
  obtain ⟨op, hr, e⟩ := step_eff hs
  obtain ⟨t, st, ai, _⟩ := hw.instr hr
  have chk := ai.chk
  cases e with
  | jmp hf =>
    rw [ai.fetch] at hf
    cases st <;> first | cases chk | simp only [checkOp, hf] at chk
    exact ⟨K, retop_same hw ai.ht ai.hst _ rfl rfl rfl chk (Ext.refl hw.inv) hw.acc, .inl rfl⟩
  | jntTaken hf =>
    rw [ai.fetch] at hf
    cases st <;> first | cases chk | simp only [checkOp, hf, Bool.and_eq_true] at chk
    exact ⟨K, retop_same hw ai.ht ai.hst _ rfl rfl rfl chk.1 (Ext.refl hw.inv) hw.acc, .inl rfl⟩
  | jntFall hf =>
    rw [ai.fetch] at hf
    cases st <;> first | cases chk | simp only [checkOp, hf, Bool.and_eq_true] at chk
    exact ⟨K, retop_same hw ai.ht ai.hst _ rfl rfl rfl chk.2 (Ext.refl hw.inv) hw.acc, .inl rfl⟩
  | mov hc ld hd sto =>
    cases st <;> first | cases chk | simp only [checkOp, Bool.and_eq_true] at chk
    obtain ⟨⟨c0, c1⟩, c2⟩ := chk
    rw [ai.fetch] at hc
    have hv := ld.val (cl := cl) hw.acc (by rw [← hc]; exact c0) (fun off e h0 => ai.bp_val (by rw [hc, e]) h0)
    exact ⟨K, ai.stored hd sto hv c1 c2, .inl rfl⟩
  | movImm hf _ hd sto =>
    cases st <;> first | cases chk | simp only [checkOp, Bool.and_eq_true] at chk
    obtain ⟨⟨c0, c1⟩, c2⟩ := chk
    rw [ai.fetch] at hf
    rw [hf] at c0
    exact ⟨K, ai.stored hd sto (cl.val_imm _ c0) c1 c2, .inl rfl⟩
  | push hc ld =>
    cases st <;> first | cases chk | simp only [checkOp] at chk
    exact ⟨K, retop_push hw ai.ht ai.hst (ty := .any) trivial _ rfl rfl rfl chk (Ext.refl hw.inv) hw.acc, .inl rfl⟩
  | @pushImm v hf _ =>
    rw [ai.fetch] at hf
    cases st <;> first | cases chk | simp only [checkOp, hf] at chk
    refine ⟨K, retop_push (v := v) hw ai.ht ai.hst (ty := cellTy v) ?_ _ rfl rfl rfl chk (Ext.refl hw.inv) hw.acc,
      .inl rfl⟩
    by_cases hv : ∃ n, v = .argc n
    · obtain ⟨n, rfl⟩ := hv
      exact ⟨rfl, cl.val_imm _ rfl⟩
    · have e : cellTy v = if isVal v then .val else .any := by
        cases v <;> first | rfl | exact absurd ⟨_, rfl⟩ hv
      rw [e]
      by_cases hiv : isVal v = true
      · simp only [hiv, if_true]; exact cl.val_imm _ hiv
      · simp only [hiv]; trivial
  | pushAcc =>
    cases st <;> first | cases chk | simp only [checkOp] at chk
    exact ⟨K, retop_push hw ai.ht ai.hst (ty := .val) hw.acc _ rfl rfl rfl chk (Ext.refl hw.inv) hw.acc, .inl rfl⟩
  | @cons pa pd h1 h2 h3 d a p _ _ _ e1 e2 e3 =>
    cases st <;> first | cases chk | simp only [checkOp] at chk
    rename_i x
    rcases x with _ | ⟨c1, _ | ⟨c2, x⟩⟩ <;> simp only [Bool.and_eq_true] at chk <;>
      try (exact absurd chk Bool.false_ne_true)
    have hx := (Ext.step hw.inv (.of_put e1)).trans
      ((Ext.step (Ext.step hw.inv (.of_put e1)).inv (.of_put e2)).trans
        (Ext.step (Ext.step (Ext.step hw.inv (.of_put e1)).inv (.of_put e2)).inv (.of_put e3)))
    refine ⟨K, retop_drop (k := 2) hw ai.ht ai.hst (by simp) _ (by show s.stack.sp - 2 + 2 = s.stack.sp; omega) rfl rfl
      rfl (by simpa using chk.2) hx ?_, .inl rfl⟩
    have := cl.put_val h2 (.pair pa pd)
    rw [e3] at this
    exact this
  | vpush _ _ hv =>
    cases st <;> first | cases chk | simp only [checkOp] at chk
    rename_i x
    rcases x with _ | ⟨c1, x⟩ <;> simp only at chk <;> try (exact absurd chk Bool.false_ne_true)
    exact ⟨K, retop_drop (k := 1) hw ai.ht ai.hst (by simp) _ (by show s.stack.sp - 1 + 1 = s.stack.sp; omega) rfl rfl
      rfl (by simpa using chk) (Ext.step hw.inv (.vectorPush hv)) (cl.vectorPush_val hv), .inl rfl⟩
  | closure _ hm =>
    cases st <;> first | cases chk | simp only [checkOp] at chk
    exact ⟨K, retop_same hw ai.ht ai.hst _ rfl rfl rfl chk (Ext.step hw.inv (.makeClosure hm))
      (cl.makeClosure_val hm), .inl rfl⟩
  | callProc hl =>
    cases st <;> first | cases chk | simp only [checkOp] at chk
    obtain ⟨m, _, hd⟩ := pres_call_proc ai chk (enterLam_eq_some.mpr hl)
    exact ⟨_, hd, .inr (.inl ⟨_, rfl⟩)⟩
  | tcallProc hl ht =>
    cases st <;> first | cases chk | simp only [checkOp, Bool.and_eq_true] at chk
    exact ⟨K, pres_tcall_proc ai (by simpa using chk.1) (enterLam_eq_some.mpr hl) ht, .inl rfl⟩
  | callBuiltin _ hb =>
    cases st <;> first | cases chk | simp only [checkOp] at chk
    exact ⟨K, pres_builtin ai chk rfl hb, .inl rfl⟩
  | tcallBuiltin _ hb =>
    cases st <;> first | cases chk | simp only [checkOp, Bool.and_eq_true] at chk
    exact ⟨K, pres_builtin ai chk.2 rfl hb, .inl rfl⟩
  | callCont hc hi | tcallCont hc hi =>
    cases st <;> first | cases chk | simp only [checkOp] at chk
    obtain ⟨K', h⟩ := pres_invoke hw rfl hc hi (fun m hA => ai.call_vals hA)
    exact ⟨K', h, .inr (.inr (.inr ⟨_, hc⟩))⟩
  | enter h1 h2 h3 _ hh => exact ⟨K, pres_enter ai h1 h2 (cellAt_of_some h3) hh, .inl rfl⟩
  | ret r1 r2 r3 r4 =>
    obtain ⟨d, K', h1, h3, h2⟩ := pres_ret ai (cellAt_of_some r1) (cellAt_of_some r2) (cellAt_of_some r3) (cellAt_of_some r4)
    exact ⟨K', h2, .inr (.inr (.inl ⟨d, h1, h3⟩))⟩
  | varArg he => exact ⟨K, pres_vararg ai he, .inl rfl⟩

/-- HALT in a WF state: only entry code contains it, with no temporaries — the stack pointer is
    the one the evaluation was entered with -/
theorem step_halt {cl : CodeLaws ops} {s s' : St H} {K : List FDesc}
    (hw : WFS cl s K) (hs : step ops s = .ok (s', true)) :
    s'.stack = s.stack ∧ s.stack.sp = cl.e := by
  obtain ⟨s1, hr⟩ := step_true_is_halt hs
  obtain ⟨t, st, ai, _⟩ := hw.instr hr
  exact (pres_halt ai hr hs).2

end Marwood.Vm
