import Marwood.Lemmas.StackDiscOfWFS
import Marwood.Lemmas.GoodDemo
/-!
# The bundled invariant `VmOk` is satisfiable: the one-instruction program `HALT` (Lemmas/GoodDemo.lean)

`Demo.sHalt 0` — the state the heap-simulation demos of C03 / C13 / C07 start in — satisfies `VmOk ext ecl` for every
`ext`: one lambda cell `[HALT]`, accepted by the verifier as entry code; entry frame, no temporaries; `acc` holds no callee.
-/
namespace Marwood.Lemmas.Good.Demo
open Marwood Marwood.Vm Marwood.Vm.Verify Marwood.Vm.Concrete Marwood.Lemmas.Sim Marwood.Lemmas.Good

/-- **non-vacuity of `VmOk`** -/
theorem sHalt_vmOk (ext : ExtOps) (ecl : ExtCodeLawsV ext) : VmOk ext ecl (sHalt 0) :=
  CodeHeap.vmOk (s := sHalt 0) ext ecl hHalt_code (by decide +kernel) rfl rfl rfl rfl (by decide)

/-- the state after HALT satisfies the bundled invariant too (`HaltedAt`) -/
theorem sHalt1_vmOk (ext : ExtOps) (ecl : ExtCodeLawsV ext) : VmOk ext ecl (sHalt 1) :=
  ⟨sHalt_goodI 1, .inr ⟨hHalt_code.cinv, [VCell.opcode .halt], rfl, by decide⟩⟩

theorem sHalt_calleeOk (o : Nat) : CalleeOk (sHalt o) := rfl

theorem sHalt_calleeOkAlong1 (ext : ExtOps) : CalleeOkAlong (machine ext false) (sHalt 1) := by
  intro s' hr _
  have := sHalt_reaches1 ext hr
  subst this
  exact sHalt_calleeOk _

theorem sHalt_calleeOkAlong (ext : ExtOps) : CalleeOkAlong (machine ext false) (sHalt 0) := by
  intro s' hr _
  rcases sHalt_reaches ext hr with h | h <;> subst h <;> exact sHalt_calleeOk _

end Marwood.Lemmas.Good.Demo
