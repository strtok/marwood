import Marwood.Lemmas.PolicySession
import Marwood.Lemmas.PolicySessionGc
/-!
# A session of the concrete machine is one run of the policy specification (C12)

`Seg ext n E s s'`: an open block — `n` instructions (`Slice`) and steps of the unmodelled parts outside the run
loop (the compiler of `prepare_eval`; the register / stack edits of the epilogues, which cost nothing) leading from
`s` to `s'`, `E` = the cells allocated beyond the opcode constants. `Sess ext force s cps s'`: closed blocks, each an
open block followed by a collection `cgc force`; `cps` lists per block `(instructions, E, state the collection saw)`.

Every execution of `runLoop` / `runEval` of the concrete machine is such a session with at most 8192 instructions per
block (`runLoop_is_paced`, `runEval_is_paced`); a session is ONE `HRun` of the heap model (`sess_hrun`), so T12.3 applies
to it (`sess_capacity_bounded`).
-/
namespace Marwood.Lemmas.PolicySessionMain
open Marwood Marwood.Vm Marwood.Vm.Concrete Marwood.Lemmas.Sim Marwood.Lemmas.Good
open Marwood.Heap (GcState Heap)
open Marwood.Spec Marwood.Spec.HeapPolicy
open Marwood.Lemmas.PolicyRefine Marwood.Lemmas.PolicyRun Marwood.Lemmas.PolicyBound
open Marwood.Lemmas.PolicyAlloc Marwood.Lemmas.PolicySession Marwood.Lemmas.PolicySessionGc

abbrev CP := Nat × Nat × St CHeap

/-- `other k`: `k` bounds the allocations from above, it does not count them, so a block's `E` may be enlarged at will -/
inductive Seg (ext : ExtOps) : Nat → Nat → St CHeap → St CHeap → Prop
  | slice {n E : Nat} {s s' : St CHeap} : Slice ext n E s s' → Seg ext n E s s'
  | other {k : Nat} {s s' : St CHeap} : AllocsLe s.heap s'.heap k → Seg ext 0 k s s'
  | trans {n1 n2 E1 E2 : Nat} {a b c : St CHeap} : Seg ext n1 E1 a b → Seg ext n2 E2 b c →
      Seg ext (n1 + n2) (E1 + E2) a c

/-- a step that leaves the heap alone (the epilogues `onDone` / `onError`, `prepare`) -/
theorem Seg.edit {ext : ExtOps} {s s' : St CHeap} (e : s'.heap = s.heap) : Seg ext 0 0 s s' :=
  .other (by rw [e]; exact AllocsLe.refl _)

theorem Seg.refl (ext : ExtOps) (s : St CHeap) : Seg ext 0 0 s s := .edit rfl

theorem seg_allocs {ext : ExtOps} (ea : ExtAllocOnly ext) {n E : Nat} {s s' : St CHeap} (sg : Seg ext n E s s') :
    AllocsLe s.heap s'.heap (maxOpAlloc * n + E) := by
  induction sg with
  | slice sl => exact slice_allocs ea sl
  | other a => exact a.mono (by omega)
  | trans _ _ ih1 ih2 => exact (ih1.trans ih2).mono (by simp only [maxOpAlloc]; omega)

inductive Sess (ext : ExtOps) (force : Bool) : St CHeap → List CP → St CHeap → Prop
  | nil (s : St CHeap) : Sess ext force s [] s
  | block {n E : Nat} {s s1 s' : St CHeap} {cps : List CP} : Seg ext n E s s1 → Sess ext force (cgc force s1) cps s' →
      Sess ext force s ((n, E, s1) :: cps) s'
  | edit {s s1 s' : St CHeap} {cps : List CP} : s1.heap = s.heap → Sess ext force s1 cps s' → Sess ext force s cps s'

theorem Sess.append {ext : ExtOps} {force : Bool} {a b c : St CHeap} {l1 l2 : List CP} (h1 : Sess ext force a l1 b)
    (h2 : Sess ext force b l2 c) : Sess ext force a (l1 ++ l2) c := by
  induction h1 with
  | nil _ => exact h2
  | block sg _ ih => exact .block sg (ih h2)
  | edit e _ ih => exact .edit e (ih h2)

theorem step_readOpcode {ext : ExtOps} {s s' : St CHeap} {b : Bool} (h : step (concreteOps ext) s = .ok (s', b)) :
    ∃ op sx, readOpcode (concreteOps ext) s = .ok (op, sx) := by
  unfold Vm.step at h
  obtain ⟨⟨op, sx⟩, hro, _⟩ := bind_inv h
  exact ⟨op, sx, hro⟩

theorem Slice.snoc {ext : ExtOps} {n E : Nat} {s s1 s' : St CHeap} {b : Bool} (sl : Slice ext n E s s1)
    (h : step (concreteOps ext) s1 = .ok (s', b)) : ∃ E', Slice ext (n + 1) E' s s' := by
  induction sl with
  | nil s =>
    obtain ⟨op, sx, hro⟩ := step_readOpcode h
    exact ⟨_, .cons h hro (.nil _)⟩
  | cons h1 hro _ ih =>
    obtain ⟨E', sl'⟩ := ih h
    exact ⟨_, .cons h1 hro sl'⟩

theorem steps_slice {ext : ExtOps} {force : Bool} {n : Nat} {s s' : St CHeap}
    (st : Steps (machine ext force) n s s') : ∃ E, Slice ext n E s s' := by
  induction st with
  | nil s => exact ⟨0, .nil s⟩
  | cons e _ ih =>
    obtain ⟨E, sl⟩ := ih
    have h := vmStep_eq_next.mp e
    obtain ⟨op, sx, hro⟩ := step_readOpcode h
    exact ⟨_, .cons h hro sl⟩

/-- declared here and not beside `Steps` because `Reaches` (`Lemmas/SimMain.lean`) is not available there -/
theorem _root_.Marwood.Lemmas.PolicySession.Steps.reaches {S E : Type} {m : Machine S E} {n : Nat} {s s' : S}
    (st : Steps m n s s') : Reaches m s s' := by
  induction st with
  | nil s => exact .refl s
  | cons e _ ih => exact (Reaches.next (.refl _) e).trans ih

/-- where the collection points of an evaluation started in `s` lie: at a state the machine reaches from `s` by
    instructions and collections, or at the success / error epilogue of such a state -/
def CpFrom (ext : ExtOps) (force : Bool) (s x : St CHeap) : Prop :=
  ∃ sd, Reaches (machine ext force) s sd ∧ (x = sd ∨ x = onDone sd ∨ x = onError sd)

theorem CpFrom.mono {ext : ExtOps} {force : Bool} {a b x : St CHeap} (hr : Reaches (machine ext force) a b)
    (h : CpFrom ext force b x) : CpFrom ext force a x := by
  obtain ⟨sd, h1, h2⟩ := h
  exact ⟨sd, hr.trans h1, h2⟩

theorem blocks_sess {ext : ExtOps} {force : Bool} {s s' : St CHeap} {bs : List (Nat × St CHeap)}
    (hb : Blocks (machine ext force) s bs s') (hle : ∀ b ∈ bs, b.1 ≤ 8192) :
    ∃ cps, Sess ext force s cps s' ∧ (∀ cp ∈ cps, cp.1 ≤ 8192) ∧ (∀ cp ∈ cps, CpFrom ext force s cp.2.2) ∧
      Reaches (machine ext force) s s' := by
  induction hb with
  | nil s => exact ⟨[], .nil s, by simp, by simp, .refl _⟩
  | @cons n s s1 s' bs st _ ih =>
    obtain ⟨cps, hs, hc, hf, hr⟩ := ih (fun b hb' => hle b (List.mem_cons_of_mem _ hb'))
    obtain ⟨E, sl⟩ := steps_slice st
    have hr1 := st.reaches
    refine ⟨(n, E, s1) :: cps, .block (.slice sl) hs, ?_, ?_, (Reaches.gc hr1).trans hr⟩
    · intro cp hcp
      rcases List.mem_cons.mp hcp with rfl | h
      · exact hle (n, s1) (List.mem_cons_self ..)
      · exact hc cp h
    · intro cp hcp
      rcases List.mem_cons.mp hcp with rfl | h
      · exact ⟨s1, hr1, .inl rfl⟩
      · exact (hf cp h).mono (Reaches.gc hr1)

def OpenTail (ext : ExtOps) (force : Bool) (s1 : St CHeap) : Res (St CHeap) Fault → Prop
  | .paused s' => s' = s1
  | .done s' => ∃ n E, Seg ext n E s1 s' ∧ n ≤ 8192 ∧ Reaches (machine ext force) s1 s'
  | .error _ s' => ∃ n E, Seg ext n E s1 s' ∧ n ≤ 8192 ∧ Reaches (machine ext force) s1 s'
  | .fuel => True

/-- the last open block has at most 8192 instructions, the HALT that ended it included -/
theorem runLoop_is_paced (ext : ExtOps) (force : Bool) (count : Option Nat) (fuel c : Nat) (s : St CHeap) :
    ∃ cps s1, Sess ext force s cps s1 ∧ (∀ cp ∈ cps, cp.1 ≤ 8192) ∧ (∀ cp ∈ cps, CpFrom ext force s cp.2.2) ∧
      Reaches (machine ext force) s s1 ∧ OpenTail ext force s1 (runLoop (machine ext force) count fuel c s) := by
  obtain ⟨bs, s1, hb, hle, ht⟩ := runLoop_blocks (machine ext force) count fuel c s s 0 (.nil _) (by omega)
  obtain ⟨cps, hs, hc, hf, hr1⟩ := blocks_sess hb hle
  refine ⟨cps, s1, hs, hc, hf, hr1, ?_⟩
  cases hr : runLoop (machine ext force) count fuel c s with
  | paused s' => rw [hr] at ht; exact ht
  | fuel => trivial
  | done s' =>
    rw [hr] at ht
    obtain ⟨n, s2, st, hn, hh⟩ := ht
    obtain ⟨E, sl⟩ := steps_slice st
    obtain ⟨E', sl'⟩ := Slice.snoc sl (vmStep_eq_halt.mp hh)
    exact ⟨n + 1, E', .slice sl', by omega, Reaches.halt (st.reaches) hh⟩
  | error f s' =>
    rw [hr] at ht
    obtain ⟨n, s2, st, hn, hh⟩ := ht
    obtain ⟨E, sl⟩ := steps_slice st
    have : s' = s2 := (vmStep_eq_fail hh).1
    subst this
    exact ⟨n, E, .slice sl, by omega, st.reaches⟩

theorem close_tail {ext : ExtOps} {force : Bool} {s s1 sd x : St CHeap} {cps : List CP} {n E : Nat}
    (hs : Sess ext force s cps s1) (hc : ∀ cp ∈ cps, cp.1 ≤ 8192) (hf : ∀ cp ∈ cps, CpFrom ext force s cp.2.2)
    (hr1 : Reaches (machine ext force) s s1) (sg : Seg ext n E s1 sd) (hn : n ≤ 8192)
    (hr2 : Reaches (machine ext force) s1 sd) (e : x.heap = sd.heap) (hx : x = onDone sd ∨ x = onError sd) :
    ∃ cps', cps' ≠ [] ∧ Sess ext force s cps' (cgc force x) ∧ (∀ cp ∈ cps', cp.1 ≤ 8192) ∧
      ∀ cp ∈ cps', CpFrom ext force s cp.2.2 := by
  -- `n + 0`, `E + 0`: the indices of `Seg.trans sg (.edit e)`
  refine ⟨cps ++ [(n + 0, E + 0, x)], List.append_ne_nil_of_right_ne_nil _ (List.cons_ne_nil _ _),
    hs.append (.block (.trans sg (.edit e)) (.nil _)), ?_, ?_⟩
  · intro cp hcp
    rcases List.mem_append.mp hcp with h | h
    · exact hc cp h
    · cases List.mem_singleton.mp h; exact hn
  · intro cp hcp
    rcases List.mem_append.mp hcp with h | h
    · exact hf cp h
    · cases List.mem_singleton.mp h; exact ⟨sd, hr1.trans hr2, .inr hx⟩

/-- both epilogues leave the heap alone and end in a collection, which closes the last block -/
theorem runEval_is_paced (ext : ExtOps) (force : Bool) (count : Option Nat) (fuel : Nat) (s : St CHeap) :
    match runEval (concreteOps ext) (cgc force) count fuel s with
    | .value s' => ∃ cps, Sess ext force s cps s' ∧ (∀ cp ∈ cps, cp.1 ≤ 8192) ∧ ∀ cp ∈ cps, CpFrom ext force s cp.2.2
    | .failed _ s' => ∃ cps, Sess ext force s cps s' ∧ (∀ cp ∈ cps, cp.1 ≤ 8192) ∧ ∀ cp ∈ cps, CpFrom ext force s cp.2.2
    | .paused s' => ∃ cps, Sess ext force s cps s' ∧ (∀ cp ∈ cps, cp.1 ≤ 8192) ∧ ∀ cp ∈ cps, CpFrom ext force s cp.2.2
    | .fuel => True := by
  obtain ⟨cps, s1, hs, hc, hf, hr1, ht⟩ := runLoop_is_paced ext force count fuel 0 s
  cases he : runEval (concreteOps ext) (cgc force) count fuel s with
  | paused s' =>
    rw [show runLoop (machine ext force) count fuel 0 s = .paused s' from runEval_paused.mp he] at ht
    cases ht
    exact ⟨cps, hs, hc, hf⟩
  | fuel => trivial
  | value s' =>
    obtain ⟨sd, hl, rfl⟩ := runEval_value.mp he
    rw [show runLoop (machine ext force) count fuel 0 s = .done sd from hl] at ht
    obtain ⟨n, E, sg, hn, hr2⟩ := ht
    exact (close_tail (x := onDone sd) hs hc hf hr1 sg hn hr2 rfl (.inl rfl)).imp fun _ h => h.2
  | failed f s' =>
    obtain ⟨sf, hl, rfl⟩ := runEval_failed.mp he
    rw [show runLoop (machine ext force) count fuel 0 s = .error f sf from hl] at ht
    obtain ⟨n, E, sg, hn, hr2⟩ := ht
    exact (close_tail (x := onError sf) hs hc hf hr1 sg hn hr2 rfl (.inr rfl)).imp fun _ h => h.2

def BlockOf (force : Bool) (p : Nat × Bool × Nat) (cp : CP) : Prop :=
  p.1 ≤ maxOpAlloc * cp.1 + cp.2.1 ∧ p.2.1 = force ∧ p.2.2 = liveCount cp.2.2

/-- block by block `jᵢ ≤ 3·nᵢ + Eᵢ` allocations, then `gcPoint force (liveCount cpᵢ)`; whatever the heap model does from the
    final heap on, it does from the initial heap after these operations -/
theorem sess_hrun {ext : ExtOps} {force : Bool} (ea : ExtAllocOnly ext) {s s' : St CHeap} {cps : List CP}
    (hs : Sess ext force s cps s') (inv : HInv s.heap) (ok : ∀ cp ∈ cps, GcOk force cp.2.2) :
    HInv s'.heap ∧ ∃ ps : List (Nat × Bool × Nat), All2 (BlockOf force) ps cps ∧
      ∀ (ops : List HeapPolicy.Op) (hf : Heap), HRun true (toHeap s'.heap) ops hf →
        HRun true (toHeap s.heap) (blocksOps ps ++ ops) hf := by
  induction hs with
  | nil s => exact ⟨inv, [], .nil, fun ops hf h => h⟩
  | @block n E s s1 s' cps sg _ ih =>
    obtain ⟨inv1, j, hj, aj⟩ := seg_allocs ea sg inv
    have ok1 := ok (n, E, s1) (List.mem_cons_self ..)
    obtain ⟨_, inv2, hgc⟩ := cgc_is_gcPoint ok1
    obtain ⟨inv', ps, hf2, hrun⟩ := ih inv2 (fun cp hcp => ok cp (List.mem_cons_of_mem _ hcp))
    refine ⟨inv', (j, force, liveCount s1) :: ps, .cons ⟨hj, rfl, rfl⟩ hf2, ?_⟩
    intro ops hf h
    have h1 := hgc _ hf (hrun ops hf h)
    have h2 := aj true _ hf h1
    simpa [blocksOps, List.append_assoc] using h2
  | @edit s s1 s' cps e _ ih =>
    rw [← e] at inv
    obtain ⟨inv', ps, hf2, hrun⟩ := ih inv ok
    refine ⟨inv', ps, hf2, ?_⟩
    intro ops hf h
    have := hrun ops hf h
    rwa [e] at this

theorem all2_mem_left {α β : Type} {R : α → β → Prop} {l : List α} {l' : List β} (h : All2 R l l') {a : α}
    (ha : a ∈ l) : ∃ b ∈ l', R a b := by
  induction h with
  | nil => cases ha
  | cons r _ ih =>
    rcases List.mem_cons.mp ha with rfl | ha
    · exact ⟨_, List.mem_cons_self .., r⟩
    · obtain ⟨b, hb, rb⟩ := ih ha
      exact ⟨b, List.mem_cons_of_mem _ hb, rb⟩

theorem block_le {j n Et E : Nat} (hj : j ≤ maxOpAlloc * n + Et) (hn : n ≤ 8192) (hE : Et ≤ E) :
    j ≤ 8192 * maxOpAlloc + E := by
  rw [Nat.mul_comm 8192]
  exact Nat.le_trans hj (Nat.add_le_add (Nat.mul_le_mul_left _ hn) hE)

theorem paced_tail (A L j : Nat) (hj : j ≤ A) : Paced A L 0 (List.replicate j HeapPolicy.Op.alloc) := by
  have := paced_allocs A L j 0 [] (by rwa [Nat.zero_add]) trivial
  rwa [List.append_nil] at this

/-- **T12.3 for sessions of the concrete machine**, at any moment (closed blocks, then an open one) -/
theorem sess_capacity_bounded {ext : ExtOps} {force : Bool} (ea : ExtAllocOnly ext) {s s1 s' : St CHeap}
    {cps : List CP} {n Et E L : Nat} (hs : Sess ext force s cps s1) (tail : Seg ext n Et s1 s')
    (inv : HInv s.heap) (ok : ∀ cp ∈ cps, GcOk force cp.2.2)
    (hn : ∀ cp ∈ cps, cp.1 ≤ 8192) (hE : ∀ cp ∈ cps, cp.2.1 ≤ E) (hL : ∀ cp ∈ cps, liveCount cp.2.2 ≤ L)
    (hnt : n ≤ 8192) (hEt : Et ≤ E)
    (hu : used s.heap ≤ L ∨ 4 * used s.heap < 3 * s.heap.cells.size) :
    s'.heap.cells.size ≤ bound s.heap.chunk s.heap.cells.size (8192 * maxOpAlloc + E) L := by
  obtain ⟨inv1, ps, hf2, hrun⟩ := sess_hrun ea hs inv ok
  obtain ⟨_, j, hj, aj⟩ := seg_allocs ea tail inv1
  have h1 := aj true [] _ (.done _)
  have h2 := hrun _ _ h1
  have hps : ∀ b ∈ ps, b.1 ≤ 8192 * maxOpAlloc + E ∧ b.2.2 ≤ L := by
    intro b hb
    obtain ⟨cp, hcp, b1, _, b3⟩ := all2_mem_left hf2 hb
    have h1 := hn cp hcp
    have h2 := hE cp hcp
    exact ⟨block_le b1 h1 h2, b3 ▸ hL cp hcp⟩
  have hpaced : Paced (8192 * maxOpAlloc + E) L 0 (blocksOps ps ++ (List.replicate j .alloc ++ [])) :=
    paced_blocks_append _ _ ps hps _ (by
      rw [List.append_nil]
      exact paced_tail _ _ j (block_le hj hnt hEt))
  have hsz : ∀ h : CHeap, (toHeap h).cells.size = h.cells.size := fun h => Array.size_map ..
  have hu' : (proj (toHeap s.heap)).used ≤ L ∨ 4 * (proj (toHeap s.heap)).used < 3 * (toHeap s.heap).cells.size := by
    rw [proj_toHeap, hsz]; exact hu
  have := hrun_capacity_bounded true (toHeap s.heap) _ _ _ L (pre_of_inv inv) h2 hu' hpaced
  rwa [hsz, hsz] at this

end Marwood.Lemmas.PolicySessionMain
