import Marwood.Lemmas.EvalWFForms
/-!
# Well-formedness: the primitive procedures

The first-order primitives are discharged by a tactic (`wf_prim`). To keep every fact at a single level it works
on `Tr pre m P`: `pre` is a monotone context (the conjunction of everything learnt so far, as a predicate of the
current level), and `Tr.bind` extends it with the postcondition of the computation just run. At a leaf the context
is split into its conjuncts, and the side condition is one of them or a list built from them.
-/
namespace Marwood.Spec.Eval
open Marwood

variable {α β : Type} {n n0 : Nat} {r : Rec}

theorem pres_boolV (b : Bool) : PresFrom n0 (boolV b) ValOK := PresFrom.pureV _ (by simp)

theorem valsOK_append {xs ys : List Val} : ValsOK n (xs ++ ys) ↔ ValsOK n xs ∧ ValsOK n ys := by
  simp only [ValsOK, List.mem_append]
  exact ⟨fun h => ⟨fun v hv => h v (Or.inl hv), fun v hv => h v (Or.inr hv)⟩,
    fun h v hv => hv.elim (h.1 v) (h.2 v)⟩

theorem valsOK_reverse {xs : List Val} : ValsOK n xs.reverse ↔ ValsOK n xs := by
  simp [ValsOK]

theorem valsOK_replicate (k : Nat) (v : Val) (hv : ValOK n v) : ValsOK n (List.replicate k v) := by
  intro w hw
  have := List.eq_of_mem_replicate hw
  subst this; exact hv

theorem valsOK_set {xs : List Val} (hx : ValsOK n xs) (i : Nat) (v : Val) (hv : ValOK n v) :
    ValsOK n (xs.set i v) := by
  intro w hw
  rcases List.mem_or_eq_of_mem_set hw with h | h
  · exact hx w h
  · subst h; exact hv

theorem valsOK_getElem? {xs : List Val} {i : Nat} {v : Val} (h : xs[i]? = some v) (hx : ValsOK n xs) :
    ValOK n v := hx v (List.mem_of_getElem? h)

theorem valsOK_dropLast {xs : List Val} (hx : ValsOK n xs) : ValsOK n xs.dropLast := by
  intro v hv; exact hx v (List.dropLast_subset xs hv)

theorem pres_memWalk (assoc : Bool) (y : Val) : ∀ (fuel : Nat) (l : Val) (n0 : Nat), ValOK n0 l →
    PresFrom n0 (memWalk assoc y fuel l) ValOK
  | 0, _, _, _ => by simp only [memWalk]; exact PresFrom.throw _
  | fuel+1, l, n0, hl => by
    simp only [memWalk]
    split
    · exact PresFrom.pureV _ (by simp)
    · refine PresFrom.bind (pres_readPair _) (fun p n1 h1 hp => ?_)
      split
      · split
        · refine PresFrom.bind (pres_readPair _) (fun q n2 h2 _ => ?_)
          split
          · exact PresFrom.pureV _ (hp.1.mono h2)
          · exact pres_memWalk assoc y fuel _ n2 (hp.2.mono h2)
        · exact pres_memWalk assoc y fuel _ n1 hp.2
      · split
        · exact PresFrom.pureV _ (hl.mono h1)
        · exact pres_memWalk assoc y fuel _ n1 hp.2
    · exact PresFrom.throw _

theorem pres_listTailWalk : ∀ (k : Nat) (l : Val) (n0 : Nat), ValOK n0 l →
    PresFrom n0 (listTailWalk k l) ValOK
  | 0, _, _, hl => PresFrom.pureV _ hl
  | k+1, l, n0, _ => by
    simp only [listTailWalk]
    refine PresFrom.bind (pres_readPair _) (fun p n1 _ hp => ?_)
    exact pres_listTailWalk k _ n1 hp.2

def MonoP (p : Nat → Prop) : Prop := ∀ n m, n ≤ m → p n → p m

/-- `m` preserves from every level at which the (monotone) context `pre` holds -/
def Tr (pre : Nat → Prop) (m : M α) (P : Nat → α → Prop) : Prop :=
  MonoP pre → ∀ n0, pre n0 → PresFrom n0 m P

variable {pre : Nat → Prop} {P : Nat → α → Prop} {Q : Nat → β → Prop} {m : M α} {f : α → M β}

theorem Tr.of (h : ∀ n0, pre n0 → PresFrom n0 m P) : Tr pre m P := fun _ => h

theorem Tr.bind (hP : ∀ a, MonoP (fun n => P n a)) (hm : ∀ n0, pre n0 → PresFrom n0 m P)
    (hf : ∀ a, Tr (fun n => pre n ∧ P n a) (f a) Q) : Tr pre (m >>= f) Q := by
  intro hmono n0 hpre
  refine PresFrom.bind (hm n0 hpre) (fun a n1 h1 pa => ?_)
  exact hf a (fun n m hle h => ⟨hmono n m hle h.1, hP a n m hle h.2⟩) n1 ⟨hmono _ _ h1 hpre, pa⟩

theorem Tr.bind_readPair {v : Val} {f : Val × Val → M β}
    (hf : ∀ p, Tr (fun n => pre n ∧ PairOK n p) (f p) Q) : Tr pre (readPair v >>= f) Q :=
  Tr.bind (fun _ _ _ hle h => h.mono hle) (fun _ _ => pres_readPair v) hf

theorem Tr.bind_readVec {v : Val} {f : Loc × List Val → M β}
    (hf : ∀ p, Tr (fun n => pre n ∧ ValsOK n p.2) (f p) Q) : Tr pre (readVec v >>= f) Q :=
  Tr.bind (P := fun n (p : Loc × List Val) => ValsOK n p.2)
    (fun p _ _ hle (h : ValsOK _ p.2) => h.mono hle)
    (fun _ _ => pres_readVec v) hf

theorem Tr.bind_getList {v : Val} {f : List Val → M β}
    (hf : ∀ xs, Tr (fun n => pre n ∧ ValsOK n xs) (f xs) Q) : Tr pre (getList v >>= f) Q :=
  Tr.bind (fun _ _ _ hle h => h.mono hle) (fun _ _ => pres_getList v) hf

theorem Tr.bind_getStore {f : Array Cell → M β}
    (hf : ∀ s, Tr (fun n => pre n ∧ StoreOK n s) (f s) Q) : Tr pre (getStore >>= f) Q :=
  Tr.bind (fun _ _ _ hle h => h.mono hle) (fun _ _ => pres_getStore) hf

theorem Tr.bind_readCell {l : Loc} {f : Cell → M β}
    (hf : ∀ c, Tr (fun n => pre n ∧ CellOK n c) (f c) Q) : Tr pre (readCell l >>= f) Q :=
  Tr.bind (fun _ _ _ hle h => h.mono hle) (fun _ _ => pres_readCell l) hf

theorem Tr.bind_externalise {v : Val} {f : Datum → M β}
    (hf : ∀ d, Tr (fun n => pre n ∧ True) (f d) Q) : Tr pre (externalise v >>= f) Q :=
  Tr.bind (P := fun _ _ => True) (fun _ _ _ _ h => h) (fun _ _ => pres_externalise v) hf

theorem Tr.bind_emit {w : Bool} {d : Datum} {f : Unit → M β}
    (hf : ∀ u, Tr (fun n => pre n ∧ True) (f u) Q) : Tr pre (emit w d >>= f) Q :=
  Tr.bind (P := fun _ _ => True) (fun _ _ _ _ h => h) (fun _ _ => pres_emit w d) hf

theorem Tr.bind_writeCell {l : Loc} {c : Cell} {f : Unit → M β} (hc : ∀ n, pre n → CellOK n c)
    (hf : ∀ u, Tr (fun n => pre n ∧ True) (f u) Q) : Tr pre (writeCell l c >>= f) Q :=
  Tr.bind (P := fun _ _ => True) (fun _ _ _ _ h => h) (fun n hn => pres_writeCell l c (hc n hn)) hf

theorem Tr.throw (e : ErrClass) : Tr pre (throw e : M α) P := Tr.of (fun _ _ => PresFrom.throw e)

theorem Tr.pureV (v : Val) (h : ∀ n, pre n → ValOK n v) : Tr pre (pure v : M Val) ValOK :=
  Tr.of (fun n hn => PresFrom.pureV v (h n hn))

theorem Tr.boolV (b : Bool) : Tr pre (boolV b) ValOK := Tr.of (fun _ _ => pres_boolV b)

theorem Tr.cons (a d : Val) (ha : ∀ n, pre n → ValOK n a) (hd : ∀ n, pre n → ValOK n d) :
    Tr pre (Eval.cons a d) ValOK := Tr.of (fun n hn => pres_cons a d (ha n hn) (hd n hn))

theorem Tr.allocList (vs : List Val) (h : ∀ n, pre n → ValsOK n vs) : Tr pre (allocList vs) ValOK :=
  Tr.of (fun n hn => pres_allocList vs n (h n hn))

theorem Tr.allocVec (vs : List Val) (h : ∀ n, pre n → ValsOK n vs) : Tr pre (allocVec vs) ValOK :=
  Tr.of (fun n hn => pres_allocVec vs (h n hn))

theorem Tr.allocListTail (vs : List Val) (t : Val) (h : ∀ n, pre n → ValsOK n vs)
    (ht : ∀ n, pre n → ValOK n t) : Tr pre (allocListTail vs t) ValOK :=
  Tr.of (fun n hn => pres_allocListTail vs t n (h n hn) (ht n hn))

theorem Tr.memWalk (assoc : Bool) (y : Val) (fuel : Nat) (l : Val) (h : ∀ n, pre n → ValOK n l) :
    Tr pre (memWalk assoc y fuel l) ValOK := Tr.of (fun n hn => pres_memWalk assoc y fuel l n (h n hn))

theorem Tr.listTailWalk (k : Nat) (l : Val) (h : ∀ n, pre n → ValOK n l) :
    Tr pre (listTailWalk k l) ValOK := Tr.of (fun n hn => pres_listTailWalk k l n (h n hn))

-- a rule that does not apply must fail at once: the unifier is not to look inside the operations
attribute [local irreducible] M.bind' M.pure' readPair readVec getList getStore readCell externalise emit
  writeCell allocList allocVec Eval.cons allocListTail memWalk listTailWalk boolV

/-- a side condition `∀ n, pre n → …`: the context is taken apart into single facts, and the goal is an atom,
    one of the facts, or a list built from them -/
local macro "wf_side" : tactic => `(tactic| focus (
  intro _
  try simp only [and_imp, valsOK_cons, PairOK]
  intros
  first
  | exact True.intro
  | assumption
  | exact valsOK_reverse.2 (by assumption)
  | exact valsOK_append.2 ⟨by assumption, by assumption⟩
  | exact valsOK_replicate _ _ (by assumption)
  | exact valsOK_set (by assumption) _ _ (by assumption)
  | exact valsOK_getElem? (by assumption) (by assumption)
  | exact ⟨by assumption, (by assumption : CellOK _ (.pair _ _)).2⟩
  | exact ⟨(by assumption : CellOK _ (.pair _ _)).1, by assumption⟩))

local macro "wf_prim" : tactic => `(tactic| (
  repeat' (first
    | exact Tr.throw _
    | exact Tr.boolV _
    | (refine Tr.pureV _ ?_; wf_side)
    | split
    | refine Tr.bind_readPair (fun _ => ?_)
    | refine Tr.bind_readVec (fun _ => ?_)
    | refine Tr.bind_getList (fun _ => ?_)
    | refine Tr.bind_getStore (fun _ => ?_)
    | refine Tr.bind_readCell (fun _ => ?_)
    | refine Tr.bind_externalise (fun _ => ?_)
    | refine Tr.bind_emit (fun _ => ?_)
    | (refine Tr.bind_writeCell ?_ (fun _ => ?_); wf_side)
    | (refine Tr.cons _ _ ?_ ?_ <;> wf_side)
    | (refine Tr.allocList _ ?_; wf_side)
    | (refine Tr.allocVec _ ?_; wf_side)
    | (refine Tr.allocListTail _ _ ?_ ?_ <;> wf_side)
    | (refine Tr.memWalk _ _ _ _ ?_; wf_side)
    | (refine Tr.listTailWalk _ _ ?_; wf_side))))

theorem monoP_valsOK (args : List Val) : MonoP (fun n => ValsOK n args) :=
  fun _ _ hle h => h.mono hle

theorem tr_primNum (p : Prim) (args : List Val) : Tr (fun n => ValsOK n args) (primNum p args) ValOK := by
  unfold primNum
  split <;> wf_prim

theorem tr_primPair (p : Prim) (args : List Val) : Tr (fun n => ValsOK n args) (primPair p args) ValOK := by
  unfold primPair
  split <;> wf_prim

theorem tr_primVec (p : Prim) (args : List Val) : Tr (fun n => ValsOK n args) (primVec p args) ValOK := by
  unfold primVec
  split <;> wf_prim

theorem tr_primPred (p : Prim) (args : List Val) : Tr (fun n => ValsOK n args) (primPred p args) ValOK := by
  unfold primPred
  split <;> wf_prim

theorem tr_primMisc (p : Prim) (args : List Val) : Tr (fun n => ValsOK n args) (primMisc p args) ValOK := by
  unfold primMisc
  split <;> wf_prim

theorem pres_applyPrim1 (p : Prim) (args : List Val) (h : ValsOK n0 args) :
    PresFrom n0 (applyPrim1 p args) ValOK := by
  unfold applyPrim1
  split
  · exact tr_primNum p args (monoP_valsOK args) n0 h
  · exact tr_primPair p args (monoP_valsOK args) n0 h
  · exact tr_primVec p args (monoP_valsOK args) n0 h
  · exact tr_primPred p args (monoP_valsOK args) n0 h
  · exact tr_primMisc p args (monoP_valsOK args) n0 h

theorem valsOK_zipArgs (fuel : Nat) (ls : List (List Val)) (h : ∀ l ∈ ls, ValsOK n l) :
    ∀ a ∈ zipArgs fuel ls, ValsOK n a := forall_mem_zipArgs (ValOK n) fuel ls h

theorem pres_mapApply (hr : RecWF r) (f : Val) : ∀ (as : List (List Val)) (n0 : Nat), ValOK n0 f →
    (∀ a ∈ as, ValsOK n0 a) → PresFrom n0 (mapApply r f as) ValsOK
  | [], _, _, _ => PresFrom.pureVs _ (by simp)
  | a :: as, n0, hf, h => by
    simp only [mapApply]
    refine PresFrom.bind (hr.apply n0 f a hf (h a (by simp))) (fun v n1 h1 hv => ?_)
    refine PresFrom.bind (pres_mapApply hr f as n1 (hf.mono h1)
      (fun a' ha' => (h a' (by simp [ha'])).mono h1)) (fun vs n2 h2 hvs => ?_)
    exact PresFrom.pureVs _ (by simp [hv.mono h2, hvs])

end Marwood.Spec.Eval
