import Marwood.Lemmas.ContResumeRun
/-!
# The model's stack never shrinks

`step_len_mono`: no instruction decreases the capacity `stack.cells.length` (`push` grows it, `restore` keeps it,
everything else writes in place) — for every state, no invariant needed. Hence along any run, and a continuation
captured at `s0` fits the stack of every later state of the same run (`fits_later`): the capacity hypothesis `hfit`
of `invoke_continues_as_if_returned`. For the concrete machine the invariant `NPInv.cont` (`Lemmas/NoPanicDefs.lean`)
says the same of every continuation cell in the heap and is kept by the collector and both epilogues too.
-/
namespace Marwood.Vm
open Stack

attribute [local irreducible] Marwood.Vm.Stack.push

variable {H : Type} {ops : HeapOps H}

theorem set_len {st st' : Stack} {i : Nat} {v : VCell} (h : st.set i v = .ok st') :
    st'.cells.length = st.cells.length := by
  unfold Stack.set at h
  split at h
  · cases h; simp
  · cases h

theorem setOffset_len {st st' : Stack} {off : Int} {v : VCell} (h : st.setOffset off v = .ok st') :
    st'.cells.length = st.cells.length := by
  unfold Stack.setOffset at h
  simp only at h
  split at h
  · exact set_len h
  · cases h

theorem pushList_len {s : St H} : ∀ (fuel : Nat) (rest : VCell) (n : Nat) (st : Stack) (n' : Nat) (st' : Stack),
    builtinApply.pushList ops s fuel rest n st = .ok (n', st') → st.cells.length ≤ st'.cells.length := by
  intro fuel
  induction fuel with
  | zero => intro rest n st n' st' h; simp only [builtinApply.pushList] at h; cases h
  | succ fuel ih =>
    intro rest n st n' st' h
    simp only [builtinApply.pushList] at h
    split at h
    · exact Nat.le_trans (push_len _ _) (ih _ _ _ _ _ h)
    · cases h; exact Nat.le_refl _
    · cases h

theorem tcallCopySame_len : ∀ (k it bp : Nat) (st st' : Stack), tcallCopySame k it bp st = .ok st' →
    st'.cells.length = st.cells.length := by
  intro k
  induction k with
  | zero => intro it bp st st' h; simp only [tcallCopySame] at h; cases h; rfl
  | succ k ih =>
    intro it bp st st' h
    simp only [tcallCopySame] at h
    obtain ⟨v, _, h⟩ := bind_inv h
    obtain ⟨i, _, h⟩ := bind_inv h
    obtain ⟨st1, hset, h⟩ := bind_inv h
    rw [ih _ _ _ _ h, set_len hset]

theorem tcallCopyDiff_len : ∀ (it sv : Nat) (st st' : Stack), tcallCopyDiff it sv st = .ok st' →
    st.cells.length ≤ st'.cells.length := by
  intro it
  induction it with
  | zero => intro sv st st' h; simp only [tcallCopyDiff] at h; cases h; exact Nat.le_refl _
  | succ it ih =>
    intro sv st st' h
    simp only [tcallCopyDiff] at h
    obtain ⟨i, _, h⟩ := bind_inv h
    obtain ⟨v, _, h⟩ := bind_inv h
    exact Nat.le_trans (push_len _ _) (ih _ _ _ h)

theorem OpStores.len {s s' : St H} {v c : VCell} (st : OpStores ops s v c s') :
    s'.stack.cells.length = s.stack.cells.length := by
  cases st with
  | bp hset => exact setOffset_len hset
  | _ => rfl

theorem invokeCont_len {s s' : St H} {c : Cont} (h : invokeCont s c = .ok s') :
    s'.stack.cells.length = s.stack.cells.length := by
  obtain ⟨_, r, _, _, _, _, hfit, rfl⟩ := invokeCont_iff.mp h
  exact (contSt_stack hfit).1

theorem builtinApply_len {s s' : St H} {v : VCell} (hb : builtinApply ops s = .ok (s', v)) :
    s.stack.cells.length ≤ s'.stack.cells.length := by
  unfold builtinApply at hb
  obtain ⟨⟨a, st1⟩, hp1, hb⟩ := bind_inv hb
  obtain ⟨argc, _, hb⟩ := bind_inv hb
  replace hb := (ite_err_inv hb).2
  obtain ⟨⟨top, st2⟩, hp2, hb⟩ := bind_inv hb
  replace hb := (ite_err_inv hb).2
  obtain ⟨proc, _, hb⟩ := bind_inv hb
  obtain ⟨st3, hsh, hb⟩ := bind_inv hb
  obtain ⟨⟨x, st4⟩, hp4, hb⟩ := bind_inv hb
  obtain ⟨⟨n, st5⟩, hpl, hb⟩ := bind_inv hb
  obtain ⟨ipO, _, hb⟩ := bind_inv hb
  cases hb
  have l1 := (pop_ok hp1).2.1
  have l2 := (pop_ok hp2).2.1
  have l3 := (shift_ok _ _ _ hsh).2.1
  have l4 := (pop_ok hp4).2.1
  have l5 := pushList_len _ _ _ _ _ _ hpl
  have l6 := push_len st5 (.argc n)
  show s.stack.cells.length ≤ (st5.push (.argc n)).cells.length
  rw [l4, l3, l2, l1] at l5
  omega

theorem runBuiltin_len {s s' : St H} {id : Nat} (h : runBuiltin ops id s = .ok s') :
    s.stack.cells.length ≤ s'.stack.cells.length := by
  obtain ⟨s2, v, e, ht⟩ := runBuiltin_iff.mp h
  rw [(accTail_ok ht).1]
  cases e with
  | apply _ hb => exact builtinApply_len hb
  | eval => exact push_len ({ s.stack with sp := s.stack.sp - 2 } : Stack) _
  | callcc _ h2 => exact (callccSt_stack s h2).2.2.2.2.2
  | generic => exact Nat.le_refl _

theorem tcallTail_len {s s' : St H} {lam : Nat} (h : tcallTail s lam = .ok s') :
    s.stack.cells.length ≤ s'.stack.cells.length := by
  unfold tcallTail at h
  obtain ⟨argc, _, h⟩ := bind_inv h
  obtain ⟨fargc, _, h⟩ := bind_inv h
  split at h
  · obtain ⟨sb, _, h⟩ := bind_inv h
    obtain ⟨st, hcp, h⟩ := bind_inv h
    obtain ⟨bp', _, h⟩ := bind_inv h
    cases h
    show _ ≤ st.cells.length
    rw [tcallCopySame_len _ _ _ _ _ hcp]
    exact Nat.le_refl _
  · obtain ⟨se, _, h⟩ := bind_inv h
    obtain ⟨si, _, h⟩ := bind_inv h
    obtain ⟨sb, _, h⟩ := bind_inv h
    obtain ⟨sp0, _, h⟩ := bind_inv h
    obtain ⟨st, hcp, h⟩ := bind_inv h
    obtain ⟨bp', _, h⟩ := bind_inv h
    cases h
    show _ ≤ (((st.push _).push _).push _).cells.length
    refine Nat.le_trans ?_ (push_len _ _)
    refine Nat.le_trans ?_ (push_len _ _)
    refine Nat.le_trans ?_ (push_len _ _)
    have l := tcallCopyDiff_len _ _ _ _ hcp
    exact l

theorem stepVarArg_len {s s' : St H} (h : stepVarArg ops s = .ok s') :
    s.stack.cells.length ≤ s'.stack.cells.length := by
  obtain ⟨_, _, _, _, rfl, _, _, _, _, _, _, hl, _⟩ := stepVarArg_eff h
  exact hl

/-- **the stack never shrinks**: no instruction decreases the capacity -/
theorem step_len_mono {s r : St H} {bl : Bool} (hs : step ops s = .ok (r, bl)) :
    s.stack.cells.length ≤ r.stack.cells.length := by
  obtain ⟨op, _, e⟩ := step_eff hs
  cases e with
  | jmp | jntTaken | jntFall | halt | cons | vpush | closure | ret => exact Nat.le_refl _
  | mov _ _ _ st => exact Nat.le_of_eq st.len.symm
  | movImm _ _ _ st => exact Nat.le_of_eq st.len.symm
  | push | pushImm | pushAcc | enter => exact push_len _ _
  | callProc => exact Nat.le_trans (push_len _ _) (push_len _ _)
  | tcallProc _ ht => have l := tcallTail_len ht; exact l
  | callBuiltin _ hb | tcallBuiltin _ hb => have l := runBuiltin_len hb; exact l
  | callCont _ hi | tcallCont _ hi => have l := invokeCont_len hi; exact Nat.le_of_eq l.symm
  | varArg he => have l := stepVarArg_len he; exact l

theorem runN_len_mono : ∀ (n : Nat) {s r : St H} {bl : Bool}, runN ops n s = .ok (r, bl) →
    s.stack.cells.length ≤ r.stack.cells.length := by
  intro n
  induction n with
  | zero => intro s r bl h; simp only [runN] at h; cases h; exact Nat.le_refl _
  | succ n ih =>
    intro s r bl h
    rcases runN_succ h with ⟨hst, _⟩ | ⟨m, hst, h⟩
    · exact step_len_mono hst
    · exact Nat.le_trans (step_len_mono hst) (ih h)

theorem fits_later {n : Nat} {s0 t : St H} {bl : Bool} (h0cap : s0.stack.sp < s0.stack.cells.length)
    (h0sp : 2 ≤ s0.stack.sp) (hrun : runN ops n s0 = .ok (t, bl)) :
    s0.stack.sp - 2 + 1 ≤ t.stack.cells.length := by
  have := runN_len_mono n hrun
  omega

end Marwood.Vm
