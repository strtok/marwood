import Marwood.Lemmas.CompileCorrect3Pres
import Marwood.Lemmas.CompileCorrect2ToyEnv
/-!
# T01.3 stage 3 — the laws are satisfiable: a small heap on which every field of `Laws3` is a theorem

`THeap`: an immutable table of code objects (address = index), growing tables of lexical environments and of value
cells, the global slots; no address is reused (no collector: GC transparency is C03's subject). Unlike the stage-2
toy heap, `put` allocates a cell and returns a pointer (VARARG does `asPtr (put v)`), values are observed through one
level of pointer (`deref`), and ENTER leaves the slots of internal definitions `Undefined`. Values: booleans, `()`,
void, small integers (tag `n<decimal>`), closed under heap pairs.
VACUOUS fields: the only builtin is `apply` (immediate `.builtin id`, kind `.apply`, not a represented value), so
`call` is vacuous; no global is named, so `slot_inj` and `glob_get_put` are vacuous.
`SRx` of `tD3g g`: the builtin slots of `g` are still there (`KeepB`) and every recorded closure environment exists.
`envOK h e`: CLOSURE built `e` (the ghost list `cenvs`). The laws: `CompileCorrect3ToyLaws.lean`.
-/
namespace Marwood.Lemmas.CompileCorrect3.Toy
open Marwood Marwood.Vm Marwood.Lemmas.CompileCorrect Marwood.Lemmas.CompileCorrect2
  Marwood.Lemmas.CompileCorrect3
open Marwood.Spec.Eval (Val Cell)

structure TLam where
  bc : List VCell
  nargs : Nat
  srcs : List RSrc

structure THeap where
  lams : List TLam
  envs : Array (List VCell)
  cells : Array VCell
  globals : Array VCell
  /-- ghost: the environments CLOSURE built (nothing reads it) -/
  cenvs : List Nat := []

def tEnvGet (h : THeap) (e k : Nat) : Option VCell := (h.envs[e]?).bind (·[k]?)

/-- `heap.get`; a dangling pointer shows `Undefined` -/
def tDeref (h : THeap) : VCell → VCell
  | .ptr p => h.cells[p]?.getD .undefined
  | v => v

def tCalleeCell : VCell → Callee
  | .closure l e => .closure l e
  | _ => .other

/-- a closure is a procedure only behind a pointer; the builtins are immediate -/
def tCallee (h : THeap) : VCell → Callee
  | .ptr p => tCalleeCell (tDeref h (.ptr p))
  | .builtin id => .builtin id
  | _ => .other

def isBuiltinCell : VCell → Bool
  | .builtin _ => true
  | _ => false

def tCloSlot (h : THeap) (ep : Nat) : RSrc → VCell
  | .iofEnv k => match tEnvGet h ep k with
    | some (.lexEnvPtr e n) => .lexEnvPtr e n
    | _ => .lexEnvPtr ep k
  | _ => .undefined

def tActSlot (cenv bp nargs : Nat) (st : Stack) (olds : List VCell) (j : Nat) : RSrc → VCell
  | .arg i => st.cells[bp - (nargs - i) + 1]?.getD .undefined
  | .iofEnv _ => actCaptured cenv j olds[j]?
  | .iofArg _ => actCaptured cenv j olds[j]?
  | .internal => .undefined

def tAlloc (h : THeap) (c : VCell) : THeap := { h with cells := h.cells.push c }

/-- `heap.put` -/
def tPut (h : THeap) : VCell → THeap × VCell
  | .ptr p => (h, .ptr p)
  | v => (tAlloc h v, .ptr h.cells.size)

def tops : HeapOps THeap where
  fetch h l o := (h.lams[l]?).bind (·.bc[o]?)
  isLambda h l := (h.lams[l]?).isSome
  callee := tCallee
  lambdaInfo h l := (h.lams[l]?).map fun t => ⟨t.nargs⟩
  deref := tDeref
  getAt h p := h.cells[p]?.getD .undefined
  setAt h _ _ := h
  put := tPut
  maybePut := tPut
  newCont h _ := (h, .undefined)
  globGet h n := h.globals[n]?.getD .undefined
  -- a write to a builtin slot is ignored so that `KeepB` survives `globPut_ext` (a law for every slot `n`);
  -- marwood's `GlobalEnvironment::put_slot` has no such test
  globPut h n v := if isBuiltinCell (h.globals[n]?.getD .undefined) then h
    else { h with globals := h.globals.setIfInBounds n v }
  envGet := tEnvGet
  envPut h e k v := match h.envs[e]? with
    | some ss => if k < ss.length then some { h with envs := h.envs.setIfInBounds e (ss.set k v) } else none
    | none => none
  makeClosure h lam ep _ _ := match h.lams[lam]? with
    | none => .err .expectedType
    | some t =>
      .ok ({ h with envs := h.envs.push (t.srcs.map (tCloSlot h ep)),
                    cells := h.cells.push (.closure lam h.envs.size),
                    cenvs := h.envs.size :: h.cenvs },
           .ptr h.cells.size)
  makeActivation h lam cenv bp st := match h.lams[lam]? with
    | some t =>
      .ok ({ h with envs := h.envs.push (t.srcs.zipIdx.map fun (src, j) =>
                      tActSlot cenv bp t.nargs st ((h.envs[cenv]?).getD []) j src) },
           h.envs.size)
    | none => .err .expectedType
  vectorPush _ _ _ := .err .expectedType
  builtinKind _ _ := .apply
  builtinEval _ _ _ := .err .invalidSyntax
  compileEval _ _ := .err .invalidSyntax
  isProcedure _ _ := false

def tVR (v : VCell) : Val → Prop
  | .bool b => v = .bool b
  | .nil => v = .nil
  | .void => v = .void
  | .int n => v = .opaque ("n" ++ toString n)
  | _ => False

def tBase (h : THeap) (v : VCell) (w : Val) : Prop := tVR (tDeref h v) w

abbrev tVRc3 (h : THeap) (S : Array Cell) (v : VCell) (w : Val) : Prop :=
  ClosedVR tops (fun _ _ => none) tBase h S v w

def KeepB (g : Array VCell) (h : THeap) : Prop :=
  ∀ (n id : Nat), g[n]? = some (.builtin id) → h.globals[n]? = some (.builtin id)

theorem keepB_nil (h : THeap) : KeepB #[] h := by
  intro n id x; simp at x

theorem keepB_self (h : THeap) : KeepB h.globals h := fun _ _ x => x

def tD3g (g : Array VCell) (final : List LambdaM) : RepData2 tops :=
  { named := fun _ => False, slot := fun _ => 0, VR := tVRc3, vecElems := fun _ _ => none,
    SRx := fun h _ => KeepB g h ∧ ∀ e ∈ h.cenvs, e < h.envs.size, envOK := fun h e => e ∈ h.cenvs,
    lamSrcs := fun h l => (h.lams[l]?).map (·.srcs), LM := id, final := final,
    setG := fun _ => False }

abbrev tD3 (final : List LambdaM) : RepData2 tops := tD3g #[] final

theorem tVR_undefined {w : Val} : ¬ tVR .undefined w := by
  intro hb
  cases w <;> simp only [tVR] at hb <;> cases hb

theorem tVR_envptr {a b : Nat} {w : Val} : ¬ tVR (.lexEnvPtr a b) w := by
  intro hb
  cases w <;> simp only [tVR] at hb <;> cases hb

theorem tCalleeCell_closure {c : VCell} {l e : Nat} (x : tCalleeCell c = .closure l e) : c = .closure l e := by
  cases c <;> first
    | (simp only [tCalleeCell] at x; cases x; rfl)
    | (simp only [tCalleeCell] at x; cases x)

theorem tCallee_ptr {h : THeap} {v : VCell} {l e : Nat} (x : tops.callee h v = .closure l e) : ∃ p, v = .ptr p := by
  have x' : tCallee h v = .closure l e := x
  cases v <;> first
    | exact ⟨_, rfl⟩
    | (simp only [tCallee] at x'; cases x')

theorem callee_deref {h : THeap} {v : VCell} {l e : Nat} (x : tops.callee h v = .closure l e) :
    tDeref h v = .closure l e := by
  obtain ⟨p, rfl⟩ := tCallee_ptr x
  exact tCalleeCell_closure x

theorem callee_of_ptr {h : THeap} {p l e : Nat} (x : tDeref h (.ptr p) = .closure l e) :
    tops.callee h (.ptr p) = .closure l e := by
  show tCalleeCell (tDeref h (.ptr p)) = _
  rw [x]; rfl

theorem callee_builtin (h : THeap) (id : Nat) : tops.callee h (.builtin id) = .builtin id := rfl

def CellsExt (h h' : THeap) : Prop := ∀ (p : Nat) (c : VCell), h.cells[p]? = some c → h'.cells[p]? = some c

theorem CellsExt.refl (h : THeap) : CellsExt h h := fun _ _ x => x

theorem tDeref_ext {h h' : THeap} (x : CellsExt h h') {v : VCell} (hn : tDeref h v ≠ .undefined) :
    tDeref h' v = tDeref h v := by
  cases v with
  | ptr p =>
    show h'.cells[p]?.getD .undefined = h.cells[p]?.getD .undefined
    cases hc : h.cells[p]? with
    | none =>
      exfalso; apply hn
      show h.cells[p]?.getD .undefined = _
      rw [hc]; rfl
    | some c => rw [x p c hc]
  | _ => rfl

theorem tDeref_pair_ext {h h' : THeap} (x : CellsExt h h') {v : VCell} {a d : Nat} (hp : tDeref h v = .pair a d) :
    tDeref h' v = .pair a d := by
  rw [tDeref_ext x (by rw [hp]; intro e; cases e), hp]

theorem tDeref_clos_ext {h h' : THeap} (x : CellsExt h h') {v : VCell} {l e : Nat}
    (hp : tDeref h v = .closure l e) : tDeref h' v = .closure l e := by
  rw [tDeref_ext x (by rw [hp]; intro e; cases e), hp]

theorem tBase_ext {h h' : THeap} (x : CellsExt h h') {v : VCell} {w : Val} (b : tBase h v w) : tBase h' v w := by
  unfold tBase at b ⊢
  by_cases hu : tDeref h v = .undefined
  · rw [hu] at b; exact absurd b tVR_undefined
  · rw [tDeref_ext x hu]; exact b

theorem tVRc3_heap {h h' : THeap} {S : Array Cell} {v : VCell} {w : Val} (x : CellsExt h h')
    (r : tVRc3 h S v w) : tVRc3 h' S v w :=
  ClosedVR.transport (ops := tops) (vecElems := fun _ _ => none) (base := tBase) (fun _ _ b => tBase_ext x b) (fun _ _ _ p => tDeref_pair_ext x p)
    (fun _ _ y => y) (fun _ _ y _ => y) r

theorem tVRc3_move {h : THeap} {S S' : Array Cell} {v : VCell} {w : Val}
    (keep : ∀ (l : Nat) (c : Cell), S[l]? = some c → (∀ v, c ≠ .var v) → S'[l]? = some c)
    (r : tVRc3 h S v w) : tVRc3 h S' v w :=
  ClosedVR.transport (ops := tops) (vecElems := fun _ _ => none) (base := tBase) (fun _ _ b => b) (fun _ _ _ p => p) (fun _ _ y => y) keep r

theorem tCloSlot_eq (h : THeap) (ep : Nat) (src : RSrc) : tCloSlot h ep src = cloSlot tops h ep src := by
  cases src <;> rfl

theorem tVRc3_int {h : THeap} {S : Array Cell} {v : VCell} {n : Int} (x : tVRc3 h S v (.int n)) :
    tDeref h v = .opaque ("n" ++ toString n) := by
  cases x with
  | base hb => exact hb

theorem tVRc3_bool {h : THeap} {S : Array Cell} {v : VCell} {b : Bool} (x : tVRc3 h S v (.bool b)) :
    tDeref h v = .bool b := by
  cases x with
  | base hb => exact hb

theorem tVRc3_nil {h : THeap} {S : Array Cell} {v : VCell} (x : tVRc3 h S v .nil) : tDeref h v = .nil := by
  cases x with
  | base hb => exact hb

theorem tVRc3_of_int {h : THeap} {S : Array Cell} {v : VCell} {n : Int}
    (x : tDeref h v = .opaque ("n" ++ toString n)) : tVRc3 h S v (.int n) := .base x

theorem tVR3_int {g : Array VCell} {final : List LambdaM} {W : World} {h : THeap} {S : Array Cell} {v : VCell} {n : Int}
    (x : VR3 (tD3g g final) W h S v (.int n)) : tDeref h v = .opaque ("n" ++ toString n) := by
  cases x with
  | base hb => exact tVRc3_int hb

theorem tVR3_bool {g : Array VCell} {final : List LambdaM} {W : World} {h : THeap} {S : Array Cell} {v : VCell} {b : Bool}
    (x : VR3 (tD3g g final) W h S v (.bool b)) : tDeref h v = .bool b := by
  cases x with
  | base hb => exact tVRc3_bool hb

theorem tVR3_pair {g : Array VCell} {final : List LambdaM} {W : World} {h : THeap} {S : Array Cell} {v : VCell} {l : Nat}
    (x : VR3 (tD3g g final) W h S v (.pair l)) :
    ∃ a d pa pd, S[l]? = some (.pair a d) ∧ tDeref h v = .pair pa pd ∧
      VR3 (tD3g g final) W h S (.ptr pa) a ∧ VR3 (tD3g g final) W h S (.ptr pd) d := by
  cases x with
  | base hb =>
    cases hb with
    | base hb' => cases hb'
    | pair hs hd h1 h2 => exact ⟨_, _, _, _, hs, hd, .base h1, .base h2⟩
  | pair hs hd h1 h2 => exact ⟨_, _, _, _, hs, hd, h1, h2⟩

theorem tEnvGet_some_lt {h : THeap} {e k : Nat} {v : VCell} (hv : tEnvGet h e k = some v) : e < h.envs.size := by
  rcases Nat.lt_or_ge e h.envs.size with h1 | h1
  · exact h1
  · simp [tEnvGet, Array.getElem?_eq_none h1] at hv

theorem ext_gen (g : Array VCell) (final : List LambdaM) (h h' : THeap) (S : Array Cell) (hl : h'.lams = h.lams)
    (hc : CellsExt h h')
    (hp : ∀ e k a b, tEnvGet h e k = some (.lexEnvPtr a b) → tEnvGet h' e k = some (.lexEnvPtr a b))
    (hv : ∀ e k v, tEnvGet h e k = some v → isEnvPtr v = false → ∃ v', tEnvGet h' e k = some v' ∧ isEnvPtr v' = false)
    (hi : ∀ e k, InitM tops h e k → InitM tops h' e k)
    (hco : ∀ e, e ∈ h.cenvs → e ∈ h'.cenvs) (hcb : ∀ e, e ∈ h'.cenvs → e ∈ h.cenvs ∨ h.envs.size ≤ e)
    (hu : ∀ e k, e ∈ h.cenvs → tEnvGet h e k = some .undefined → tEnvGet h' e k = some .undefined) :
    Ext3 (tD3g g final) h S h' S := by
  refine ⟨⟨StoreExt.refl _, fun _ _ x => tVRc3_heap hc x,
    fun _ _ x => DatumAt.transport (D := (tD3g g final).toRepData) (vecElems := (tD3g g final).vecElems) (h := h) (h' := h')
      (S := S) (S' := S) (fun _ _ y => tVRc3_heap hc y) (fun _ _ _ y => tDeref_pair_ext hc y) (fun _ _ y => y) x,
    fun l x => ?_, fun v l e x => ?_, hco, hp, hv⟩, fun _ _ _ y => tDeref_pair_ext hc y, hi, hu, fun e k v x y => ?_⟩
  · show (h'.lams[l]?).isSome = true ∧ (∀ o, (h'.lams[l]?).bind _ = (h.lams[l]?).bind _) ∧
      (h'.lams[l]?).map _ = (h.lams[l]?).map _ ∧ (h'.lams[l]?).map _ = (h.lams[l]?).map _
    rw [hl]
    exact ⟨x, fun _ => rfl, rfl, rfl⟩
  · obtain ⟨p, rfl⟩ := tCallee_ptr x
    exact callee_of_ptr (tDeref_clos_ext hc (callee_deref x))
  · rcases hcb e y with h1 | h1
    · exact h1
    · exact absurd (tEnvGet_some_lt x) (Nat.not_lt.mpr h1)

theorem ext_frame (g : Array VCell) (final : List LambdaM) (h h' : THeap) (S : Array Cell) (hl : h'.lams = h.lams)
    (hc : CellsExt h h') (he : ∀ e k v, tEnvGet h e k = some v → tEnvGet h' e k = some v)
    (hco : ∀ e, e ∈ h.cenvs → e ∈ h'.cenvs) (hcb : ∀ e, e ∈ h'.cenvs → e ∈ h.cenvs ∨ h.envs.size ≤ e) :
    Ext3 (tD3g g final) h S h' S := by
  refine ext_gen g final h h' S hl hc (fun e k a b x => he _ _ _ x) (fun e k v x y => ⟨v, he _ _ _ x, y⟩) ?_ hco hcb
    (fun e k _ x => he _ _ _ x)
  intro e k ⟨v, x, y, z⟩
  exact ⟨v, he _ _ _ x, y, z⟩

theorem tEnvGet_push_ne (h : THeap) (ss : List VCell) (c : Array VCell) (cs : List Nat) (e k : Nat)
    (he : e ≠ h.envs.size) : tEnvGet { h with envs := h.envs.push ss, cells := c, cenvs := cs } e k = tEnvGet h e k :=
  rows_push_ne h.envs ss e k he

theorem tEnvGet_fresh (h : THeap) (k : Nat) : tEnvGet h h.envs.size k = none := rows_fresh h.envs k

theorem cellsExt_alloc (h : THeap) (c : VCell) : CellsExt h (tAlloc h c) := fun _ _ x => push_old _ _ _ _ x

theorem tDeref_alloc (h : THeap) (c : VCell) : tDeref (tAlloc h c) (.ptr h.cells.size) = c := by
  show (h.cells.push c)[h.cells.size]?.getD .undefined = c
  simp

theorem step_alloc (g : Array VCell) (final : List LambdaM) (h : THeap) (S : Array Cell) (c : VCell)
    (hs : (tD3g g final).SRx h S) : Step3 (tD3g g final) h S (tAlloc h c) :=
  ⟨ext_frame g final h _ S rfl (cellsExt_alloc h c) (fun _ _ _ x => x) (fun _ x => x) (fun _ x => .inl x), hs,
    fun _ _ => rfl, fun _ => rfl⟩

theorem tPut_cases (h : THeap) (v : VCell) :
    (∃ p, v = .ptr p ∧ tPut h v = (h, .ptr p)) ∨
    ((∀ h', tDeref h' v = v) ∧ (∀ p, v ≠ .ptr p) ∧ tPut h v = (tAlloc h v, .ptr h.cells.size)) := by
  cases v <;> first
    | exact .inr ⟨fun _ => rfl, (by intro p e; cases e), rfl⟩
    | exact .inl ⟨_, rfl, rfl⟩

end Marwood.Lemmas.CompileCorrect3.Toy
