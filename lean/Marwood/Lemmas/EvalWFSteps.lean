import Marwood.Lemmas.EvalWF
/-!
# Well-formedness: the helpers of one level of evaluation

The sub-evaluator hypothesis `RecWF`, operand and sequence evaluation, the store-level helpers,
quoting and externalising.
-/
namespace Marwood.Spec.Eval
open Marwood

variable {n0 : Nat}

structure RecWF (r : Rec) : Prop where
  eval : ∀ (n0 : Nat) (e : Datum) (ρ : Env), EnvOK n0 ρ → PresFrom n0 (r.eval e ρ) ValOK
  apply : ∀ (n0 : Nat) (f : Val) (args : List Val), ValOK n0 f → ValsOK n0 args →
    PresFrom n0 (r.apply f args) ValOK

variable {r : Rec}

theorem pres_evalArgs (hr : RecWF r) (ρ : Env) : ∀ (es : List Datum) (n0 : Nat), EnvOK n0 ρ →
    PresFrom n0 (evalArgs r ρ es) ValsOK
  | [], _, _ => PresFrom.pureVs _ (by simp)
  | e :: es, n0, hρ => by
    simp only [evalArgs]
    refine PresFrom.bind (hr.eval n0 e ρ hρ) (fun v n1 h1 hv => ?_)
    refine PresFrom.bind (pres_evalArgs hr ρ es n1 (hρ.mono h1)) (fun vs n2 h2 hvs => ?_)
    exact PresFrom.pureVs _ (by simp [hv.mono h2, hvs])

theorem pres_evalExprs (hr : RecWF r) (ρ : Env) : ∀ (es : List Datum) (n0 : Nat), EnvOK n0 ρ →
    PresFrom n0 (evalExprs r ρ es) ValOK
  | [], _, _ => PresFrom.throw _
  | [e], n0, hρ => by simpa [evalExprs] using hr.eval n0 e ρ hρ
  | e :: e' :: es, n0, hρ => by
    simp only [evalExprs]
    refine PresFrom.bind (hr.eval n0 e ρ hρ) (fun _ n1 h1 _ => ?_)
    exact pres_evalExprs hr ρ (e' :: es) n1 (hρ.mono h1)

theorem pres_evalAnd (hr : RecWF r) (ρ : Env) : ∀ (es : List Datum) (n0 : Nat), EnvOK n0 ρ →
    PresFrom n0 (evalAnd r ρ es) ValOK
  | [], _, _ => PresFrom.pureV _ (by simp)
  | [e], n0, hρ => by simpa [evalAnd] using hr.eval n0 e ρ hρ
  | e :: e' :: es, n0, hρ => by
    simp only [evalAnd]
    refine PresFrom.bind (hr.eval n0 e ρ hρ) (fun v n1 h1 hv => ?_)
    split
    · exact pres_evalAnd hr ρ (e' :: es) n1 (hρ.mono h1)
    · exact PresFrom.pureV _ hv

theorem pres_evalOr (hr : RecWF r) (ρ : Env) : ∀ (es : List Datum) (n0 : Nat), EnvOK n0 ρ →
    PresFrom n0 (evalOr r ρ es) ValOK
  | [], _, _ => PresFrom.pureV _ (by simp)
  | [e], n0, hρ => by simpa [evalOr] using hr.eval n0 e ρ hρ
  | e :: e' :: es, n0, hρ => by
    simp only [evalOr]
    refine PresFrom.bind (hr.eval n0 e ρ hρ) (fun v n1 h1 hv => ?_)
    split
    · exact PresFrom.pureV _ hv
    · exact pres_evalOr hr ρ (e' :: es) n1 (hρ.mono h1)

theorem pres_readVar (l : Loc) : PresFrom n0 (readVar l) ValOK := by
  unfold readVar
  refine PresFrom.bind (pres_readCell l) (fun c n1 _ hc => ?_)
  cases c with
  | var v => exact PresFrom.pureV _ hc
  | _ => exact PresFrom.throw _

theorem pres_readPair (v : Val) : PresFrom n0 (readPair v) PairOK := by
  unfold readPair
  cases v with
  | pair l =>
    refine PresFrom.bind (pres_readCell l) (fun c n1 _ hc => ?_)
    cases c with
    | pair a d => exact PresFrom.pure _ (fun _ hn => PairOK.mono hn hc)
    | _ => exact PresFrom.throw _
  | _ => exact PresFrom.throw _

theorem pres_readVec (v : Val) : PresFrom n0 (readVec v) (fun n p => ValsOK n p.2) := by
  unfold readVec
  cases v with
  | vec l =>
    refine PresFrom.bind (pres_readCell l) (fun c n1 _ hc => ?_)
    cases c with
    | vec xs => exact PresFrom.pure _ (fun _ hn => ValsOK.mono hn hc)
    | _ => exact PresFrom.throw _
  | _ => exact PresFrom.throw _

theorem pres_cons (a d : Val) (ha : ValOK n0 a) (hd : ValOK n0 d) : PresFrom n0 (cons a d) ValOK := by
  unfold cons
  refine PresFrom.bind (pres_allocCell _ ⟨ha, hd⟩) (fun l n1 _ hl => ?_)
  exact PresFrom.pureV _ hl

theorem pres_allocVec (xs : List Val) (h : ValsOK n0 xs) : PresFrom n0 (allocVec xs) ValOK := by
  unfold allocVec
  refine PresFrom.bind (pres_allocCell _ h) (fun l n1 _ hl => ?_)
  exact PresFrom.pureV _ hl

theorem pres_allocListTail : ∀ (vs : List Val) (t : Val) (n0 : Nat), ValsOK n0 vs → ValOK n0 t →
    PresFrom n0 (allocListTail vs t) ValOK
  | [], t, _, _, ht => PresFrom.pureV _ ht
  | v :: vs, t, n0, h, ht => by
    simp only [valsOK_cons] at h
    simp only [allocListTail]
    refine PresFrom.bind (pres_allocListTail vs t n0 h.2 ht) (fun r n1 h1 hr => ?_)
    exact pres_cons v r (h.1.mono h1) hr

theorem pres_allocList (vs : List Val) (n0 : Nat) (h : ValsOK n0 vs) : PresFrom n0 (allocList vs) ValOK :=
  allocList_eq_tail vs ▸ pres_allocListTail vs .nil n0 h (by simp)

theorem valsOK_listOfVal {n : Nat} (s : Array Cell) (hs : StoreOK n s) : ∀ (fuel : Nat) (v : Val)
    (xs : List Val), listOfVal fuel s v = some xs → ValsOK n xs := by
  intro fuel
  induction fuel with
  | zero =>
    intro v xs h
    cases v <;> simp [listOfVal] at h
    subst h; simp
  | succ fuel ih =>
    intro v xs h
    cases v with
    | nil => simp [listOfVal] at h; subst h; simp
    | pair l =>
      simp only [listOfVal] at h
      cases hl : s[l]? with
      | none => simp [hl] at h
      | some c =>
        cases c with
        | pair a d =>
          simp only [hl, Option.map_eq_some_iff] at h
          obtain ⟨ys, hy, rfl⟩ := h
          have := hs l _ hl
          simp only [valsOK_cons]
          exact ⟨this.1, ih d ys hy⟩
        | _ => simp [hl] at h
    | _ => simp [listOfVal] at h

theorem pres_getList (v : Val) : PresFrom n0 (getList v) ValsOK := by
  unfold getList
  refine PresFrom.bind pres_getStore (fun s n1 _ hs => ?_)
  cases h : listOfVal (s.size + 1) s v with
  | none => exact PresFrom.throw _
  | some xs => exact PresFrom.pureVs _ (valsOK_listOfVal s hs _ _ _ h)

theorem pres_getLists : ∀ (vs : List Val) (n0 : Nat),
    PresFrom n0 (getLists vs) (fun n ls => ∀ l ∈ ls, ValsOK n l)
  | [], _ => PresFrom.pure _ (by simp)
  | v :: vs, n0 => by
    simp only [getLists]
    refine PresFrom.bind (pres_getList v) (fun l n1 _ hl => ?_)
    refine PresFrom.bind (pres_getLists vs n1) (fun ls n2 h2 hls => ?_)
    refine PresFrom.pure _ (fun n hn l' hl' => ?_)
    simp only [List.mem_cons] at hl'
    rcases hl' with rfl | hl'
    · exact hl.mono (Nat.le_trans h2 hn)
    · exact (hls l' hl').mono hn

theorem pres_quote : ∀ (d : Datum) (n0 : Nat),
    PresFrom n0 (quoteVal d) ValOK ∧ PresFrom n0 (quoteElems d) ValsOK := by
  intro d
  induction d with
  | bool b => intro _; exact ⟨PresFrom.pureV _ (by simp), PresFrom.pureVs _ (by simp)⟩
  | char c => intro _; exact ⟨PresFrom.pureV _ (by simp), PresFrom.pureVs _ (by simp)⟩
  | nil => intro _; exact ⟨PresFrom.pureV _ (by simp), PresFrom.pureVs _ (by simp)⟩
  | num n =>
    intro _
    refine ⟨?_, PresFrom.pureVs _ (by simp)⟩
    simp only [quoteVal]
    cases intOfNum n with
    | none => exact PresFrom.throw _
    | some i => exact PresFrom.pureV _ (by simp)
  | str s => intro _; exact ⟨PresFrom.pureV _ (by simp), PresFrom.pureVs _ (by simp)⟩
  | sym s => intro _; exact ⟨PresFrom.pureV _ (by simp), PresFrom.pureVs _ (by simp)⟩
  | pair a d iha ihd =>
    intro n0
    refine ⟨?_, ?_⟩
    · simp only [quoteVal]
      refine PresFrom.bind (iha n0).1 (fun a' n1 _ ha' => ?_)
      refine PresFrom.bind (ihd n1).1 (fun d' n2 h2 hd' => ?_)
      exact pres_cons a' d' (ha'.mono h2) hd'
    · simp only [quoteElems]
      refine PresFrom.bind (iha n0).1 (fun a' n1 _ ha' => ?_)
      refine PresFrom.bind (ihd n1).2 (fun d' n2 h2 hd' => ?_)
      exact PresFrom.pureVs _ (by simp [ha'.mono h2, hd'])
  | vec e ih =>
    intro n0
    refine ⟨?_, PresFrom.pureVs _ (by simp)⟩
    simp only [quoteVal]
    refine PresFrom.bind (ih n0).2 (fun xs n1 _ hxs => ?_)
    exact pres_allocVec xs hxs
  | continuation => intro _; exact ⟨PresFrom.throw _, PresFrom.pureVs _ (by simp)⟩
  | macro_ => intro _; exact ⟨PresFrom.throw _, PresFrom.pureVs _ (by simp)⟩
  | procedure d => intro _; exact ⟨PresFrom.throw _, PresFrom.pureVs _ (by simp)⟩
  | undefined => intro _; exact ⟨PresFrom.pureV _ (by simp), PresFrom.pureVs _ (by simp)⟩
  | void => intro _; exact ⟨PresFrom.pureV _ (by simp), PresFrom.pureVs _ (by simp)⟩

theorem pres_quoteVal (d : Datum) : PresFrom n0 (quoteVal d) ValOK := (pres_quote d n0).1

theorem pres_externalise (v : Val) : PresFrom n0 (externalise v) (fun _ _ => True) := by
  unfold externalise
  refine PresFrom.bind pres_getStore (fun s n1 _ _ => ?_)
  exact PresFrom.pureT _

end Marwood.Spec.Eval
