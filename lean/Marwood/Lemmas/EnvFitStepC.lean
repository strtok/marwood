import Marwood.Lemmas.EnvFitStack
/-!
# The slot clause of T06.6 as an invariant: ENTER and VARARG (the two prologue instructions)

ENTER: `acc` holds the callee whose code `ip.0` points to (`FInv.pre`); for a closure the activation environment is as
long as the closure's environment, which fits the code (`HF`); for a bare lambda the map is empty (hypothesis).
VARARG: still in the prologue afterwards; the heap changes by `put`s of values / `Nil` / pairs, the stack is rebuilt from
live cells with the two header cells `(ep, ip)` CALL pushed staying adjacent.
-/
namespace Marwood.Lemmas.Good
open Marwood Marwood.Vm Marwood.Vm.Verify Marwood.Vm.Concrete Marwood.Lemmas.Sim
open Marwood.Heap (GcState)
open StepC FB

theorem putV_fs {h h' : CHeap} (lf : LF h) {v r : VCell} (hv : ∀ l e, v ≠ .closure l e) (e : putV h v = (h', r)) :
    FStep NoClaim h h' := by
  have := (putV_fstep lf v).weaken (N' := NoClaim) (fun c hc => by subst hc; exact NoClaim.val hv)
  rw [e] at this
  exact this

theorem putV_isPtr {h h' : CHeap} {v r : VCell} (e : putV h v = (h', r)) : ∃ a, r = .ptr a := by
  unfold putV at e
  split at e
  · cases e
    rename_i hp
    cases v <;> first | exact ⟨_, rfl⟩ | (simp [isPtr] at hp)
  · unfold putNew at e
    split at e
    · split at e
      · cases e; exact ⟨_, rfl⟩
      · cases e; exact ⟨_, rfl⟩
    · cases e; exact ⟨_, rfl⟩

theorem callee_closure_fit {s : St CHeap} (g : GoodI s) (f : FInv s) {lam env : Nat}
    (hc : callee s.heap s.acc = .closure lam env) : Fit s.heap env lam := by
  rcases callee_closure_cell hc with e | ⟨p, _, hcell⟩
  · have := g.accv
    rw [e] at this
    cases this
  · exact f.hf p _ hcell lam env rfl

section
variable {ext : ExtOps} {s0 s' : St CHeap} {b : Bool}

theorem fv_enter (g : GoodI s0) (lf : LF s0.heap) (sm' : Small s'.heap) (f : FInv s0)
    (hpre : InPre s0.heap s0.ipL s0.ipO) (hnp : ¬ InPre s0.heap s0.ipL (s0.ipO + 1))
    (hbare : ∀ p lam, s0.acc = .ptr p → callee s0.heap s0.acc = .lambda → lambdaAt s0.heap p = some lam →
      lam.envmap = [])
    (hx : exec (concreteOps ext) .enter (nx s0) = .ok (s', b)) : FInv s' := by
  have b' : s'.heap.cells.size ≤ 2 ^ 63 := small_bound sm'
  have hstk : PairsOk s0.heap (s0.stack.push (.basePtr s0.bp)).cells (s0.stack.push (.basePtr s0.bp)).sp :=
    f.stk.push (nhdr_basePtr _).2
  obtain ⟨lam, l, _, _, _, hcase⟩ := enter_effect hx
  -- in the prologue `acc` still holds the callee: its lambda is the code under `ip`
  have hlam : ∀ lam', calleeLam s0.heap s0.acc = some lam' → lam' = s0.ipL := by
    intro lam' h'
    rcases f.pre hpre with hu | hc
    · rw [hu] at h'; cases h'
    · rw [hc] at h'; exact (Option.some.inj h').symm
  rcases hcase with ⟨hcal, hacc, rfl⟩ | ⟨env, h', e, hcal, hma, rfl⟩
  · refine ⟨f.hf, hstk, fun hp => absurd hp hnp, fun _ => ?_⟩
    refine Fit.of_empty (fun lam' hl' => hbare lam lam' hacc hcal ?_)
    rw [hlam lam (calleeLam_of (.inr ⟨hcal, hacc⟩))]; exact hl'
  · have hfit : Fit s0.heap env lam := callee_closure_fit g f hcal
    have hall : SA s0.heap (s0.stack.push (.basePtr s0.bp)) s0.stack.sp :=
      (SA.of_good g).push (.of_nhdr (nhdr_basePtr _))
    obtain ⟨fs, hact⟩ := makeActivation_fstep lf hma
    have k := fs.fitKeep g.hg b'
    refine ⟨HF.step_noClaim g.hg b' f.hf fs, hstk.keep' k hall.nfe hall.nfl, ?_, fun _ => ?_⟩
    · intro hp
      have hp' : InPre h' s0.ipL (s0.ipO + 1) := hp
      rw [InPre.ls fs.ls] at hp'
      exact absurd hp' hnp
    · show Fit h' e s0.ipL
      intro lam' ss' hl he
      rw [fs.ls] at hl
      obtain ⟨olds, ho, hlen⟩ := hact ss' he
      have := hfit lam' olds (by rw [hlam lam (calleeLam_of (.inl ⟨env, hcal⟩))]; exact hl) ho
      omega

end

section
variable {ext : ExtOps}

theorem varargCollect_fs : ∀ (k : Nat) {h h' : CHeap} {acc l : Nat} {st st' : Stack},
    varargCollect (concreteOps ext) k h acc st = .ok (h', l, st') → LF h →
    (∀ i v, i ≤ st.sp → st.sp < i + k → st.cells[i]? = some v → plainGlob v = true) →
    FStep NoClaim h h' ∧ st'.cells = st.cells ∧ st'.sp ≤ st.sp := by
  intro k
  induction k with
  | zero =>
    intro h h' acc l st st' hr lf _
    simp only [varargCollect] at hr
    cases hr
    exact ⟨.refl lf, rfl, Nat.le_refl _⟩
  | succ k ih =>
    intro h h' acc l st st' hr lf hc
    obtain ⟨v, h1, a, h2, p, hpos, hcell, e1, e2, hr⟩ := StepB.varargCollect_succ hr
    have hv := hc st.sp v (Nat.le_refl _) (by omega) hcell
    have r1 := putV_fs lf (plainGlob_not_closure hv) e1
    have r2 := putV_fs r1.lf (v := .pair a acc) (fun _ _ hh => by cases hh) e2
    obtain ⟨r3, k3, k4⟩ := ih hr r2.lf
      (fun i w hi hlt hw => hc i w (by simp only at hi; omega) (by simp only at hlt; omega) hw)
    exact ⟨(r1.trans NoClaim.lexEnv r2).trans NoClaim.lexEnv r3, k3, by simp only at k4; omega⟩

variable {s0 s' : St CHeap} {b : Bool}

theorem fv_varArg (g : GoodI s0) (lf : LF s0.heap) (sd : StackDisc s0) (sm' : Small s'.heap) (f : FInv s0)
    (hpre : InPre s0.heap s0.ipL s0.ipO) (hpre' : InPre s0.heap s0.ipL (s0.ipO + 1)) (hop : opAt s0 .varArg)
    (hx : exec (concreteOps ext) .varArg (nx s0) = .ok (s', b)) : FInv s' := by
  have b' : s'.heap.cells.size ≤ 2 ^ 63 := by unfold Small at sm'; omega
  have fin : ∀ (hN : CHeap) (stN : Stack), FStep NoClaim s0.heap hN → hN.cells.size ≤ 2 ^ 63 →
      PairsOk s0.heap stN.cells stN.sp → SA s0.heap stN s0.stack.sp →
      FInv { nx s0 with heap := hN, stack := stN } := by
    intro hN stN fs bN hp ha
    refine ⟨HF.step_noClaim g.hg bN f.hf fs, hp.keep' (fs.fitKeep g.hg bN) ha.nfe ha.nfl, fun _ => ?_, fun hn => ?_⟩
    · exact (f.pre hpre).imp id (calleeLam_keep g.hg fs (roots_acc g.roots))
    · exfalso
      apply hn
      show InPre hN s0.ipL (s0.ipO + 1)
      rw [InPre.ls fs.ls]
      exact hpre'
  obtain ⟨argc, hcA, _, hcase⟩ := varArg_effect hx
  have ab := sd.enter (.inr hop) argc hcA
  rcases hcase with ⟨v, hp1, a', hp2, n', hp3, pp, st, _, _, hcV, e1, e2, e3, hst, rfl⟩ |
    ⟨req, c1, c2, hp1, n', hp2, lst, st4, _, hc1, hc2, e1, hcol, rfl⟩
  · have pv := ab _ v (by omega) (by omega) hcV
    have r1 := putV_fs lf (plainGlob_not_closure pv) e1
    have r2 := putV_fs r1.lf (v := .nil) (fun _ _ hh => by cases hh) e2
    have r3 := putV_fs r2.lf (v := .pair a' n') (fun _ _ hh => by cases hh) e3
    have rr := (r1.trans NoClaim.lexEnv r2).trans NoClaim.lexEnv r3
    obtain ⟨q, rfl⟩ := putV_isPtr e3
    obtain ⟨x1, x2, _⟩ := f.stk.setOffset (nhdr_ptr q) hst
    rw [← x2] at x1
    obtain ⟨k, hk⟩ := setOffset_inv hst
    exact fin hp3 st rr b' x1 ((SA.of_good g).set (.of_nhdr (nhdr_ptr q)) hk)
  · have r1 := putV_fs lf (v := .nil) (fun _ _ hh => by cases hh) e1
    obtain ⟨r2, k3, k4⟩ := varargCollect_fs _ hcol r1.lf
      (fun i w hi hlt hw => by
        have hi' : i ≤ s0.stack.sp - 3 := hi
        have hlt' : s0.stack.sp - 3 < i + (argc - req) := hlt
        have hw' : s0.stack.cells[i]? = some w := hw
        exact ab i w (by omega) (by omega) hw')
    have rr := r1.trans NoClaim.lexEnv r2
    have k3' : st4.cells = s0.stack.cells := k3
    have k4' : st4.sp ≤ s0.stack.sp - 3 := k4
    have live := SA.of_good g
    have hk1 : HdrNF s0.heap c1 := live _ _ (.inl (Nat.le_refl _)) hc1
    have hk2 : HdrNF s0.heap c2 := live _ _ (.inl (by omega)) hc2
    have p0 : PairsOk s0.heap st4.cells st4.sp := f.stk.resp k3' (by omega)
    have a0 : SA s0.heap st4 s0.stack.sp := live.resp k3' (.inl (by omega))
    have p1 := p0.push (v := .ptr lst) (nhdr_ptr lst).2
    have a1 := a0.push (v := .ptr lst) (.of_nhdr (nhdr_ptr lst))
    have p2 := p1.push (v := .argc (req + 1)) (nhdr_argc _).2
    have a2 := a1.push (v := .argc (req + 1)) (.of_nhdr (nhdr_argc _))
    have p3 := p2.push_any (v := c2) (by
      intro e l o _ he
      rw [push_sp, push_top] at he
      cases he)
    have a3 := a2.push hk2
    have p4 := p3.push_any (v := c1) (by
      intro e l o hc he
      rw [push_sp, push_top] at he
      cases he
      subst hc
      refine f.stk (s0.stack.sp - 1) e l o (by omega) hc2 ?_
      have : s0.stack.sp - 1 + 1 = s0.stack.sp := by omega
      rw [this]; exact hc1)
    have a4 := a3.push hk1
    exact fin hp2 _ rr b' p4 a4

end

end Marwood.Lemmas.Good
