import Marwood.Lemmas.NumRndBits
import Marwood.Lemmas.NumExt
/-!
# `Fl.rnd` is exact on doubles, monotone, and within 2⁻⁵³ relative in the normal range

Theorems about the pure implementation (`rnd_exact`, `rnd_mono`, `rnd_relerr`).  `rnd` rounds the magnitude and
attaches the sign; `rnd_via_mag` carries an error bound on the magnitude (`mag_half_ulp`: half a unit of the
last place; `mag_exact`: 0 on a double) over to `rnd q`.  `rnd_mono` is stated with `Ext.le` (NumExt).
-/
namespace Marwood.Fl
open Marwood Marwood.NumSpec

theorem rnd_zero : rnd 0 = ⟨0⟩ := by
  simp [rnd, rndSigned]

theorem rnd_pos {q : ℚ} (h : 0 < q) : rnd q = ⟨rndMag q.num.toNat q.den⟩ := by
  have hn : 0 < q.num := Rat.num_pos.mpr h
  unfold rnd rndSigned
  rw [if_neg (by omega)]
  simp only [Bool.false_eq_true, if_false]
  rw [if_neg (by omega)]

theorem rnd_neg {q : ℚ} (h : q < 0) : rnd q = ⟨twoP63 + rndMag (-q).num.toNat (-q).den⟩ := by
  have hn : q.num < 0 := Rat.num_neg.mpr h
  have hn' : 0 < (-q).num := Rat.num_pos.mpr (by linarith)
  unfold rnd rndSigned
  rw [if_pos hn]
  simp only [if_true]
  rw [if_neg (by omega)]

theorem num_den_pos {q : ℚ} (h : 0 < q) :
    0 < q.num.toNat ∧ 0 < q.den ∧ ((q.num.toNat : ℕ) : ℚ) / (q.den : ℚ) = q := by
  have hn : 0 < q.num := Rat.num_pos.mpr h
  refine ⟨by omega, q.den_pos, ?_⟩
  have : ((q.num.toNat : ℕ) : ℚ) = (q.num : ℚ) := by
    have : ((q.num.toNat : ℕ) : ℤ) = q.num := Int.toNat_of_nonneg hn.le
    exact_mod_cast congrArg (fun z : ℤ => (z : ℚ)) this
  rw [this, Rat.num_div_den]

theorem toRat_of_fields {f : F64} (h1 : expField f ≠ 2047) :
    toRat? f = some (if signBit f then - magRat f else magRat f) := by
  unfold toRat? isFinite
  rw [if_pos]
  simpa using h1

theorem finite_of_toRat {f : F64} {v : ℚ} (h : toRat? f = some v) :
    expField f ≠ 2047 ∧ (if signBit f then - magRat f else magRat f) = v := by
  have he : expField f ≠ 2047 := by
    unfold toRat? isFinite at h
    split at h
    · rename_i hh; simpa using hh
    · cases h
  rw [toRat_of_fields he] at h
  exact ⟨he, Option.some.inj h⟩

theorem toRat_rndMag (n d : ℕ) (hn : 0 < n) (hd : 0 < d) (hb : patOf n d < infBits) :
    toRat? ⟨rndMag n d⟩ = some ((mOf n d : ℚ) * 2 ^ (eOf n d)) ∧
    toRat? ⟨twoP63 + rndMag n d⟩ = some (-((mOf n d : ℚ) * 2 ^ (eOf n d))) := by
  obtain ⟨h1, h2, h3⟩ := pat_val n d hn hd hb
  have hr : rndMag n d = patOf n d := by rw [rndMag_eq, if_neg (by omega)]
  rw [hr]
  have hlt : patOf n d < twoP63 := lt_trans hb infBits_lt
  obtain ⟨s1, s2, s3⟩ := sign_fields (patOf n d) hlt
  constructor
  · rw [toRat_of_fields h1, h2, h3]; rfl
  · rw [toRat_of_fields (by rw [s1]; exact h1), s3, magRat_sign _ hlt, h3]; rfl

theorem mag_half_ulp (n d : ℕ) (hn : 0 < n) (hd : 0 < d) (hhi : (n : ℚ) / d < 2 ^ (1023 : ℤ)) :
    patOf n d < infBits ∧
    |(mOf n d : ℚ) * 2 ^ (eOf n d) - (n : ℚ) / d| ≤ 1 / 2 * 2 ^ (eOf n d) := by
  obtain ⟨lo, up⟩ := floorLog2_spec n d hn hd
  have f2 : floorLog2 n d ≤ 1022 := by
    have := two_zpow_lt_iff.mp (lt_of_le_of_lt lo hhi); omega
  have hE : EOf n d ≤ 2044 := by
    have := EOf_cast n d
    have : eOf n d = max (floorLog2 n d - 52) (-1074) := rfl
    omega
  have hm := mOf_le n d hn hd
  refine ⟨?_, ?_⟩
  · unfold patOf infBits twoP52
    unfold twoP53 at hm
    omega
  · have pe := two_zpow_pos (eOf n d)
    have hmq : ((mOf n d : ℕ) : ℚ) = ((RN ((n : ℚ) / d / 2 ^ eOf n d) : ℤ) : ℚ) := by
      rw [← mOf_eq n d hd]; simp
    have e1 : (mOf n d : ℚ) * 2 ^ eOf n d - (n : ℚ) / d =
        ((RN ((n : ℚ) / d / 2 ^ eOf n d) : ℚ) - (n : ℚ) / d / 2 ^ eOf n d) * 2 ^ eOf n d := by
      rw [hmq, sub_mul, div_mul_cancel₀ _ pe.ne']
    rw [e1, abs_mul, abs_of_pos pe]
    exact mul_le_mul_of_nonneg_right (RN_near _) pe.le

theorem half_ulp_le (n d : ℕ) (hn : 0 < n) (hd : 0 < d) (he : eOf n d = floorLog2 n d - 52) :
    (1 : ℚ) / 2 * 2 ^ (eOf n d) ≤ 2 ^ (-53 : ℤ) * ((n : ℚ) / d) := by
  have e : (1 : ℚ) / 2 * 2 ^ (eOf n d) = 2 ^ (-53 : ℤ) * 2 ^ (floorLog2 n d) := by
    rw [← two_zpow_add, show (-53 : ℤ) + floorLog2 n d = -1 + eOf n d by omega, two_zpow_add]
    norm_num
  rw [e]
  exact mul_le_mul_of_nonneg_left (floorLog2_spec n d hn hd).1 (two_zpow_pos _).le

theorem mag_relerr (n d : ℕ) (hn : 0 < n) (hd : 0 < d)
    (hlo : (2 : ℚ) ^ (-1022 : ℤ) ≤ (n : ℚ) / d) (hhi : (n : ℚ) / d < 2 ^ (1023 : ℤ)) :
    patOf n d < infBits ∧
    |(mOf n d : ℚ) * 2 ^ (eOf n d) - (n : ℚ) / d| ≤ 2 ^ (-53 : ℤ) * ((n : ℚ) / d) := by
  have f1 : -1022 ≤ floorLog2 n d := by
    have := two_zpow_lt_iff.mp (lt_of_le_of_lt hlo (floorLog2_spec n d hn hd).2); omega
  obtain ⟨hb, herr⟩ := mag_half_ulp n d hn hd hhi
  exact ⟨hb, herr.trans (half_ulp_le n d hn hd (by unfold eOf; omega))⟩

theorem rnd_via_mag {q B : ℚ} (hq : q ≠ 0)
    (h : ∀ n d : ℕ, 0 < n → 0 < d → (n : ℚ) / d = |q| →
      patOf n d < infBits ∧ |(mOf n d : ℚ) * 2 ^ (eOf n d) - (n : ℚ) / d| ≤ B) :
    ∃ v, toRat? (rnd q) = some v ∧ |v - q| ≤ B := by
  rcases lt_or_gt_of_ne hq with hneg | hpos
  · obtain ⟨hn, hd, hv⟩ := num_den_pos (neg_pos.mpr hneg)
    obtain ⟨hb, herr⟩ := h _ _ hn hd (by rw [hv, abs_of_neg hneg])
    refine ⟨_, by rw [rnd_neg hneg]; exact (toRat_rndMag _ _ hn hd hb).2, ?_⟩
    rw [hv] at herr
    rw [show ∀ a : ℚ, -a - q = -(a - -q) by intro a; ring, abs_neg]
    exact herr
  · obtain ⟨hn, hd, hv⟩ := num_den_pos hpos
    obtain ⟨hb, herr⟩ := h _ _ hn hd (by rw [hv, abs_of_pos hpos])
    refine ⟨_, by rw [rnd_pos hpos]; exact (toRat_rndMag _ _ hn hd hb).1, ?_⟩
    rw [hv] at herr
    exact herr

/-- C08 `rnd_relative_error` -/
theorem rnd_relerr (q : ℚ) (hlo : (2 : ℚ) ^ (-1022 : ℤ) ≤ |q|) (hhi : |q| < 2 ^ (1023 : ℤ)) :
    ∃ v, toRat? (rnd q) = some v ∧ |v - q| ≤ 2 ^ (-53 : ℤ) * |q| := by
  have hq0 : q ≠ 0 := by
    intro h; rw [h, abs_zero] at hlo
    exact absurd hlo (not_le.mpr (two_zpow_pos _))
  refine rnd_via_mag hq0 fun n d hn hd hv => ?_
  rw [← hv] at hlo hhi ⊢
  exact mag_relerr n d hn hd hlo hhi

/-- `s`, `k`: significand and exponent (`sig`, `ex`) of a finite double -/
theorem mag_exact (n d : ℕ) (hn : 0 < n) (hd : 0 < d) (s k : ℕ) (hs : s < twoP53) (hk : k ≤ 2045)
    (hx : (n : ℚ) / d = (s : ℚ) * 2 ^ ((k : ℤ) - 1074)) :
    patOf n d < infBits ∧ (mOf n d : ℚ) * 2 ^ (eOf n d) = (n : ℚ) / d := by
  obtain ⟨lo, up⟩ := floorLog2_spec n d hn hd
  have hsq : (s : ℚ) < 2 ^ (53 : ℤ) := by rw [p53]; exact_mod_cast hs
  -- the exponent chosen by `rnd` is at most the exponent of the double
  have hfl : floorLog2 n d < (k : ℤ) - 1021 := by
    have : (2 : ℚ) ^ (floorLog2 n d) < 2 ^ ((k : ℤ) - 1021) := by
      calc (2 : ℚ) ^ (floorLog2 n d) ≤ (n : ℚ) / d := lo
        _ = (s : ℚ) * 2 ^ ((k : ℤ) - 1074) := hx
        _ < 2 ^ (53 : ℤ) * 2 ^ ((k : ℤ) - 1074) :=
          mul_lt_mul_of_pos_right hsq (two_zpow_pos _)
        _ = 2 ^ ((k : ℤ) - 1021) := by rw [← two_zpow_add]; congr 1; ring
    exact two_zpow_lt_iff.mp this
  have hele : eOf n d ≤ (k : ℤ) - 1074 := by unfold eOf; omega
  have hege := eOf_ge n d
  set e := eOf n d with hee
  have pe := two_zpow_pos e
  -- the quotient is a natural number
  obtain ⟨j, hj⟩ : ∃ j : ℕ, (j : ℤ) = (k : ℤ) - 1074 - e := ⟨((k : ℤ) - 1074 - e).toNat, by omega⟩
  have hquot : (n : ℚ) / d / 2 ^ e = ((s * 2 ^ j : ℕ) : ℚ) := by
    rw [hx, show (k : ℤ) - 1074 = (j : ℤ) + e by omega, two_zpow_add, zpow_natCast]
    push_cast
    field_simp
  have hm : (mOf n d : ℤ) = ((s * 2 ^ j : ℕ) : ℤ) := by
    rw [mOf_eq n d hd, ← hee, hquot, RN_natCast]
  have hmn : mOf n d = s * 2 ^ j := by exact_mod_cast hm
  have hval : (mOf n d : ℚ) * 2 ^ e = (n : ℚ) / d := by
    rw [hmn, ← hquot]; field_simp
  refine ⟨?_, hval⟩
  -- no overflow: the significand is below 2^53 and the exponent field below 2046
  have hmlt : mOf n d < twoP53 := by
    have := quot_lt n d hn hd
    rw [← hee, hquot, p53, ← hmn] at this
    exact_mod_cast this
  have hE : EOf n d ≤ 2045 := by have := EOf_cast n d; omega
  unfold patOf infBits twoP52
  unfold twoP53 at hmlt
  omega

theorem sig_lt (f : F64) : sig f < twoP53 := by
  unfold sig mantField twoP53 twoP52
  split <;> omega

theorem ex_le {f : F64} (h : expField f ≠ 2047) : ex f ≤ 2045 := by
  have : expField f < 2048 := by unfold expField; omega
  unfold ex; split <;> omega

theorem toRat_zero' (s : Bool) : toRat? (zero s) = some 0 := by
  have h1 : expField (zero s) ≠ 2047 := by cases s <;> decide
  rw [toRat_of_fields h1, magRat_eq]
  have : sig (zero s) = 0 := by cases s <;> decide
  simp [this]

theorem toRat_zero : toRat? ⟨0⟩ = some 0 := toRat_zero' false

/-- C08 `rnd_exact_on_doubles` -/
theorem rnd_exact (f : F64) (q : ℚ) (h : toRat? f = some q) : toRat? (rnd q) = some q := by
  obtain ⟨hfin, h⟩ := finite_of_toRat h
  have hmag : magRat f = (sig f : ℚ) * 2 ^ ((ex f : ℤ) - 1074) := by
    have h1074 : (2 : ℚ) ^ (1074 : ℕ) = (2 : ℚ) ^ (1074 : ℤ) := by
      rw [← zpow_natCast]; simp only [Nat.cast_ofNat]
    rw [magRat_eq, two_zpow_sub, ← h1074, zpow_natCast]
    push_cast
    rw [mul_div_assoc]
  have hmag0 : 0 ≤ magRat f := by
    rw [hmag]; exact mul_nonneg (Nat.cast_nonneg _) (two_zpow_pos _).le
  by_cases hq : q = 0
  · rw [hq, rnd_zero]; exact toRat_zero
  · have habs : |q| = magRat f := by
      rw [← h]
      split
      · rw [abs_neg, abs_of_nonneg hmag0]
      · exact abs_of_nonneg hmag0
    -- the magnitude is that of a double: rounding it has error 0
    obtain ⟨v, hv, herr⟩ := rnd_via_mag (B := 0) hq fun n d hn hd hx => by
      obtain ⟨hb, hval⟩ := mag_exact n d hn hd (sig f) (ex f) (sig_lt f) (ex_le hfin)
        (hx.trans (habs.trans hmag))
      exact ⟨hb, by rw [hval, sub_self, abs_zero]⟩
    rw [hv, sub_eq_zero.mp (abs_nonpos_iff.mp herr)]

def magExt (n d : ℕ) : Ext :=
  if patOf n d < infBits then .fin ((mOf n d : ℚ) * 2 ^ (eOf n d)) else .pinf

def negExt : Ext → Ext
  | .ninf => .pinf
  | .fin q => .fin (-q)
  | .pinf => .ninf

theorem ext_inf : ext (.flo ⟨infBits⟩) = some .pinf := by
  have a : isNaN ⟨infBits⟩ = false := by decide
  have b : isInf ⟨infBits⟩ = true := by decide
  have c : signBit ⟨infBits⟩ = false := by decide
  simp [ext, a, b, c]

theorem ext_ninf : ext (.flo ⟨twoP63 + infBits⟩) = some .ninf := by
  have a : isNaN ⟨twoP63 + infBits⟩ = false := by decide
  have b : isInf ⟨twoP63 + infBits⟩ = true := by decide
  have c : signBit ⟨twoP63 + infBits⟩ = true := by decide
  simp [ext, a, b, c]

theorem ext_of_toRat {f : F64} {v : ℚ} (h : toRat? f = some v) : ext (.flo f) = some (.fin v) := by
  have he := (finite_of_toRat h).1
  have a : isNaN f = false := by unfold isNaN; simp [he]
  have b : isInf f = false := by unfold isInf; simp [he]
  simp [ext, a, b, h]

theorem ext_rndMag (n d : ℕ) (hn : 0 < n) (hd : 0 < d) :
    ext (.flo ⟨rndMag n d⟩) = some (magExt n d) ∧
    ext (.flo ⟨twoP63 + rndMag n d⟩) = some (negExt (magExt n d)) := by
  unfold magExt
  by_cases hb : patOf n d < infBits
  · obtain ⟨r1, r2⟩ := toRat_rndMag n d hn hd hb
    rw [if_pos hb]
    exact ⟨ext_of_toRat r1, ext_of_toRat r2⟩
  · have : rndMag n d = infBits := by rw [rndMag_eq, if_pos (by omega)]
    rw [if_neg hb, this]
    exact ⟨ext_inf, ext_ninf⟩

theorem magExt_mono {n d n' d' : ℕ} (hn : 0 < n) (hd : 0 < d) (hn' : 0 < n') (hd' : 0 < d')
    (h : (n : ℚ) / d ≤ (n' : ℚ) / d') : Ext.le (magExt n d) (magExt n' d') = true := by
  have hp := patOf_mono hn hd hn' hd' h
  unfold magExt
  by_cases hb' : patOf n' d' < infBits
  · rw [if_pos hb', if_pos (by omega)]
    exact Ext.le_fin (val_mono hn hd hn' hd' h)
  · rw [if_neg hb']; exact Ext.le_pinf _

theorem magExt_nonneg (n d : ℕ) : Ext.le (.fin 0) (magExt n d) = true := by
  unfold magExt
  split
  · exact Ext.le_fin (mul_nonneg (Nat.cast_nonneg _) (two_zpow_pos _).le)
  · exact Ext.le_pinf _

theorem negExt_anti {a b : Ext} (h : Ext.le a b = true) : Ext.le (negExt b) (negExt a) = true := by
  cases a <;> cases b <;> simp_all [Ext.le, Ext.lt, negExt]
  rename_i x y
  rcases h with h | h
  · left; rw [h]
  · right; linarith

theorem negExt_nonpos {a : Ext} (h : Ext.le (.fin 0) a = true) : Ext.le (negExt a) (.fin 0) = true := by
  have := negExt_anti h
  simpa [negExt] using this

def rndExt (q : ℚ) : Ext :=
  if 0 < q then magExt q.num.toNat q.den
  else if q < 0 then negExt (magExt (-q).num.toNat (-q).den)
  else .fin 0

theorem ext_rnd (q : ℚ) : ext (.flo (rnd q)) = some (rndExt q) := by
  unfold rndExt
  by_cases hp : 0 < q
  · obtain ⟨hn, hd, _⟩ := num_den_pos hp
    rw [if_pos hp, rnd_pos hp]; exact (ext_rndMag _ _ hn hd).1
  · rw [if_neg hp]
    by_cases hneg : q < 0
    · obtain ⟨hn, hd, _⟩ := num_den_pos (by linarith : 0 < -q)
      rw [if_pos hneg, rnd_neg hneg]; exact (ext_rndMag _ _ hn hd).2
    · have : q = 0 := le_antisymm (not_lt.mp hp) (not_lt.mp hneg)
      rw [if_neg hneg, this, rnd_zero]; exact ext_of_toRat toRat_zero

theorem rndExt_mono {q q' : ℚ} (h : q ≤ q') : Ext.le (rndExt q) (rndExt q') = true := by
  unfold rndExt
  by_cases hp : 0 < q
  · have hp' : 0 < q' := lt_of_lt_of_le hp h
    obtain ⟨hn, hd, hv⟩ := num_den_pos hp
    obtain ⟨hn', hd', hv'⟩ := num_den_pos hp'
    rw [if_pos hp, if_pos hp']
    exact magExt_mono hn hd hn' hd' (by rw [hv, hv']; exact h)
  · rw [if_neg hp]
    by_cases hneg : q < 0
    · rw [if_pos hneg]
      by_cases hp' : 0 < q'
      · rw [if_pos hp']
        exact Ext.le_trans' (negExt_nonpos (magExt_nonneg _ _)) (magExt_nonneg _ _)
      · rw [if_neg hp']
        by_cases hneg' : q' < 0
        · rw [if_pos hneg']
          obtain ⟨hn, hd, hv⟩ := num_den_pos (by linarith : 0 < -q)
          obtain ⟨hn', hd', hv'⟩ := num_den_pos (by linarith : 0 < -q')
          exact negExt_anti (magExt_mono hn' hd' hn hd (by rw [hv, hv']; linarith))
        · rw [if_neg hneg']
          exact negExt_nonpos (magExt_nonneg _ _)
    · have hq0 : q = 0 := le_antisymm (not_lt.mp hp) (not_lt.mp hneg)
      rw [if_neg hneg]
      by_cases hp' : 0 < q'
      · rw [if_pos hp']; exact magExt_nonneg _ _
      · have : q' = 0 := le_antisymm (not_lt.mp hp') (by rw [← hq0]; exact h)
        rw [if_neg hp', if_neg (by rw [this]; exact lt_irrefl _)]
        exact Ext.le_fin (le_refl _)

/-- C08 `rnd_monotone`; results are never NaN, hence ordered in ℚ ∪ {−∞, +∞} -/
theorem rnd_mono {q q' : ℚ} (h : q ≤ q') :
    ∃ a b, ext (.flo (rnd q)) = some a ∧ ext (.flo (rnd q')) = some b ∧ Ext.le a b = true :=
  ⟨rndExt q, rndExt q', ext_rnd q, ext_rnd q', rndExt_mono h⟩

theorem rndMag_le (n d : ℕ) : rndMag n d ≤ infBits := by
  rw [rndMag_eq]; split <;> omega

theorem rnd_bits_lt (q : ℚ) : (rnd q).bits < 2 ^ 64 := by
  have hi : infBits < twoP63 := infBits_lt
  rcases lt_trichotomy q 0 with h | h | h
  · rw [rnd_neg h]
    have := rndMag_le (-q).num.toNat (-q).den
    show twoP63 + _ < 2 ^ 64
    unfold twoP63 at hi ⊢; omega
  · rw [h, rnd_zero]; decide
  · rw [rnd_pos h]
    have := rndMag_le q.num.toNat q.den
    show rndMag _ _ < 2 ^ 64
    unfold twoP63 at hi; omega

theorem isNaN_signed (b : ℕ) (hb : b ≤ infBits) : isNaN ⟨twoP63 + b⟩ = false := by
  unfold isNaN
  have h1 : expField ⟨twoP63 + b⟩ = (twoP63 + b) / twoP52 % 2048 := rfl
  have h2 : mantField ⟨twoP63 + b⟩ = (twoP63 + b) % twoP52 := rfl
  rw [h1, h2]
  unfold infBits at hb
  unfold twoP63 twoP52
  by_cases hc : b = 9218868437227405312
  · subst hc; decide
  · have : (9223372036854775808 + b) / 4503599627370496 % 2048 ≠ 2047 := by omega
    simp [this]

theorem abs_rnd_neg {q : ℚ} (h : q < 0) : Fl.abs (rnd q) = rnd (-q) := by
  have hp : 0 < -q := by linarith
  rw [rnd_neg h, rnd_pos hp]
  have hb := rndMag_le (-q).num.toNat (-q).den
  have hlt : rndMag (-q).num.toNat (-q).den < twoP63 := lt_of_le_of_lt hb infBits_lt
  unfold Fl.abs
  rw [isNaN_signed _ hb, (sign_fields _ hlt).2.2]
  simp

end Marwood.Fl
