import Marwood.Lemmas.PrepareEnvFit
import Marwood.Lemmas.PrepareNoPanic
import Marwood.Lemmas.EnvInvMain
/-!
# `prepare_eval` re-establishes the slot invariant `EnvInv`

Lemmas/EnvInvMain.lean proves `EnvInv` invariant under `prepare_eval` as a LAW of the compiler (`CompEnvInv`); here the law is
discharged for the loader relation. The entry lambda is entry code (no prologue) and captures nothing
(`Installs.entry_empty`: the model's `entryLam` has an empty map); the clauses of the new code objects are
`LoadedQ.codeOkH`, consequences of the compiler-model theorems `compileTop_envCode`. An evaluation leaves `acc` not pointing
to a capturing lambda (`envInv_runEval`: HALT is not the CLOSURE of a site; the error epilogue wipes `acc`), so T06.6 holds
for histories from the invariants of the INITIAL state only (`history_never_panics_installs_closed`).
-/
namespace Marwood.Lemmas.Good
open Marwood Marwood.Vm Marwood.Vm.Verify Marwood.Vm.Concrete Marwood.Lemmas.Sim
open Marwood.Lemmas.MachineGarbage Marwood.Lemmas.PolicySessionOk Marwood.Lemmas.PolicySessionMain
open Marwood.Heap (GcState WFHeap RootsOk vrefs vrefsList crefs)

structure EnvRes (h h' : CHeap) : Prop where
  thp : Taint.HP h'
  hf : HF h'
  ne : ∀ v, VRefsOk h v → neE h v = true → neE h' v = true
  kept : CellsKept h h'

/-- **a sequence of loader steps keeps the heap clauses of `EnvInv`** -/
theorem instSteps_env {Q : CHeap → CLambda → Prop} (hQ : ∀ h cl, Q h cl → CodeOkH h cl) {h h' : CHeap}
    (st : InstSteps Q h h') (g : HG h) (gr : GlobRoots h) (ci : CInvG IsValue h) (hp : HP h) (thp : Taint.HP h)
    (hf : HF h) (sm : Small h') : EnvRes h h' := by
  induction st with
  | refl h => exact ⟨thp, hf, fun _ _ x => x, .refl h⟩
  | @step h h1 h2 s rest ih =>
    have sm1 : Small h1 := sm.of_le (instSteps_size rest)
    have r1 := instStep_all (fun h cl q => (hQ h cl q).code) s g gr ci hp sm1
    obtain ⟨t1, n1⟩ := instStep_thp (fun h cl q => (hQ h cl q).env) s g gr (.of_cinv ci) thp sm1
    obtain ⟨f1, k1⟩ := instStep_hf (fun h cl q => (hQ h cl q).env) s g hf sm1
    have r2 := ih r1.hg r1.gr r1.ci r1.hp t1 f1 sm
    exact ⟨r2.thp, r2.hf, fun v hv hn => r2.ne v (hv.mono r1.mono) (n1 v hv hn), k1.trans r1.mono r2.kept⟩

theorem atSiteB_kept {s : St CHeap} {h' : CHeap} (k : CellsKept s.heap h') (hl : NF s.heap s.ipL)
    (x : atSiteB s = true) : atSiteB { s with heap := h' } = true := by
  unfold atSiteB at x ⊢
  show (match lambdaAt h' s.ipL with
    | some l => decide (3 ≤ s.ipO) && siteB l.bc (s.ipO - 3) && l.bc[s.ipO - 3 + 1]? == some s.acc
    | none => false) = true
  rw [k.lam hl]
  exact x

/-- **`EnvInv` of an idle machine survives the loader steps** (of a rejected or of an accepted form); `acc` keeps
    pointing away from capturing lambdas -/
theorem envInv_installsGarbage {s s' : St CHeap} (i : IdleOk s) (e : EnvInv s) (st : InstallsGarbage s s')
    (sm : Small s'.heap) :
    EnvInv s' ∧ (neE s.heap s.acc = true → neE s'.heap s'.acc = true) := by
  have r := instSteps_env (fun _ _ q => q) st.steps i.good.hg i.good.globRoots i.ci i.pinv.hp e.taint.hp e.fit.hf sm
  have racc := roots_acc i.good.roots
  have ripL := roots_ipL i.good.roots
  have rep := roots_ep i.good.roots
  rw [st.regs]
  refine ⟨⟨⟨r.thp, ?_, ?_⟩, ⟨r.hf, ?_, ?_, ?_⟩⟩, fun ha => r.ne _ racc ha⟩
  · rcases e.taint.acc with ha | ha
    · exact .inl (r.ne _ racc ha)
    · exact .inr (atSiteB_kept r.kept ripL ha)
  · intro k v hk hv
    exact r.ne v (roots_stack i.good.roots hk hv) (e.taint.stk k v hk hv)
  · intro k e' l o hk _ _
    have : s.stack.sp = 0 := i.sp0
    have hk' : k + 1 ≤ s.stack.sp := hk
    omega
  · intro hpre
    have hpre' : InPre s.heap s.ipL s.ipO := (r.kept.inPre ripL).mp hpre
    rcases e.fit.pre hpre' with ha | ha
    · exact .inl ha
    · right
      show calleeLam s'.heap s.acc = some s.ipL
      rw [r.kept.calleeLam_eq racc]
      exact ha
  · intro hnp
    have hnp' : ¬ InPre s.heap s.ipL s.ipO := fun x => hnp ((r.kept.inPre ripL).mpr x)
    exact r.kept.fit rep ripL (e.fit.fit hnp')

/-- `acc` not pointing to a capturing lambda is true after every evaluation (`envInv_runEval`) -/
theorem prepare_envInv {e : Datum} {fuel : Nat} {s s' : St CHeap} {entry : Nat} (i : IdleOk s) (ev : EnvInv s)
    (ha : neE s.heap s.acc = true) (st : Installs e fuel s s' entry) (sm : Small s'.heap) :
    EnvInv (prepare s' entry) := by
  obtain ⟨ev', ha'⟩ := envInv_installsGarbage i ev st.garbage sm
  refine ⟨⟨ev'.taint.hp, .inl (ha' ha), ev'.taint.stk⟩, finv_prepare_entry ev'.fit entry ?_ ?_⟩
  · intro lam hl
    exact st.entry_empty hl
  · rintro ⟨lam, t, hl, ht, hne, _⟩
    obtain ⟨cst, lm, ent, cl, hc, hcell, hll⟩ := st.entryLam
    rw [lambdaAt_iff.mpr hcell] at hl
    cases hl
    obtain ⟨t', ht', hent⟩ := loaded_entry_ty hc hll
    rw [ht] at ht'
    cases ht'
    rw [hent] at hne
    cases hne

section
variable {ext : ExtOps} {ecl : ExtCodeLawsV ext}

/-- after HALT `acc` is not the immediate of a `MOVIMM _ %acc; CLOSURE` site under `ip`: the cell before `ip` is the
    HALT opcode, not `%acc` -/
theorem halt_not_site {sh sd : St CHeap} (hs : step (concreteOps ext) sh = .ok (sd, true)) : atSiteB sd = false := by
  obtain ⟨s1, hr⟩ := step_true_is_halt hs
  cases StepEff.of_step hr hs
  obtain ⟨-, l, hl, hop⟩ := readOpcode_inv hr
  cases hx : atSiteB (nx sh) with
  | false => rfl
  | true =>
    exfalso
    obtain ⟨l', j, h1, h2, _, _, h5, _⟩ := Taint.atSiteB_inv hx
    have h1' : lambdaAt sh.heap sh.ipL = some l' := h1
    rw [hl] at h1'
    cases h1'
    have h2' : sh.ipO + 1 = j + 3 := h2
    have : j + 2 = sh.ipO := by omega
    rw [this, hop] at h5
    cases h5

theorem envInv_gc_acc (force : Bool) {s : St CHeap} (g : GoodI s) (ci : CInvG IsValue s.heap) (e : EnvInv s)
    (ha : neE s.heap s.acc = true) : EnvInv (cgc force s) ∧ neE (cgc force s).heap (cgc force s).acc = true := by
  refine ⟨⟨Taint.tinv_gc force ci e.taint, finv_gc force ci e.fit⟩, ?_⟩
  rw [(Lead.cgc_fields force s).1]
  exact (Lead.cgc_eshr (I := .cap) force (s := s)).ne ha

/-- HALT: `halt_not_site` turns the `acc` clause of `TInv` into `neE`; failure: `onError` wipes `acc` -/
theorem envInv_runEval (force : Bool) (el : ExtLaws ext) (eg : ExtGood ext) (ep : ExtProc ext) (en : ExtNoPanic ext)
    (ee : ExtEnvInv ext) {p : St CHeap} (h : VmOkNP ext ecl p) (e : EnvInv p) (sb : EvalSizeBounded ext force p)
    (count : Option Nat) (fuel : Nat) :
    (∀ s', runEval (concreteOps ext) (cgc force) count fuel p = .value s' → EnvInv s' ∧ neE s'.heap s'.acc = true) ∧
    (∀ f s', runEval (concreteOps ext) (cgc force) count fuel p = .failed f s' →
      EnvInv s' ∧ neE s'.heap s'.acc = true) := by
  refine ⟨fun s' hr => ?_, fun f s' hr => ?_⟩
  · obtain ⟨sh, sd, _, hreach, hstep, rfl⟩ := runEval_value_ends hr
    have hreach' : Reaches (machine ext force) p sd := .halt hreach hstep
    have hvd : VmOkP ext ecl sd := vmOkP_reaches force el eg ep h.1 sb.run sd hreach'
    have ed : EnvInv sd := envInv_reaches force el eg ep en ee h e sb.run sd hreach'
    have hacc : neE sd.heap sd.acc = true := by
      rcases ed.taint.acc with x | x
      · exact x
      · rw [halt_not_site (vmStep_eq_halt.mp hstep)] at x; cases x
    exact envInv_gc_acc force (onDone_goodI hvd.1.1) hvd.1.cinv (envInv_onDone ed) hacc
  · obtain ⟨sf, _, hreach, rfl⟩ := runEval_failed_ends hr
    have hvf : VmOkP ext ecl sf := vmOkP_reaches force el eg ep h.1 sb.run sf hreach
    have ef : EnvInv sf := envInv_reaches force el eg ep en ee h e sb.run sf hreach
    exact envInv_gc_acc force (onError_goodI hvf.1.1) hvf.1.cinv (envInv_onError hvf.1.1.hg ef) rfl

/-- **T06.6 for histories, from the invariants of the INITIAL state only**: no history of `eval` calls, each with its
    `prepare_eval` (`HistInstalls`), makes the modelled VM panic, except through `apply`'s 100000-element guard. Hypotheses:
    `IdleOk`, `NPInv` and `EnvInv` of the initial state, the laws of the unmodelled builtins, the physical size bounds; none
    per job. -/
theorem history_never_panics_installs_closed (ecl : ExtCodeLawsV ext) (force : Bool) (el : ExtLaws ext)
    (eg : ExtGood ext) (ep : ExtProc ext) (en : ExtNoPanic ext) (ee : ExtEnvInv ext) {s0 sf : St CHeap}
    {recs : List EvRec} (hist : HistInstalls ext force s0 recs sf) (i0 : IdleOk s0) (n0 : NPInv s0) (e0 : EnvInv s0)
    (a0 : neE s0.heap s0.acc = true) (sz : ∀ rc ∈ recs, RecSized ext force rc) :
    ∀ f ∈ recFaults recs, ∀ m, f = Fault.panic m → m = applyGuard := by
  intro f hf m hm
  obtain ⟨p, s', hmem⟩ := mem_recFaults hf
  obtain ⟨a, _, _⟩ := histInstalls_starts hist (I := fun s => (IdleOk s ∧ NPInv s) ∧ EnvInv s ∧ neE s.heap s.acc = true) ⟨⟨i0, n0⟩, e0, a0⟩ sz
    (fun {s s1 e cfuel entry} fuel i inst sb => by
      obtain ⟨⟨hv, _⟩, inext⟩ := idleOk_ran (ecl := ecl) force el eg ep fuel i.1.1 inst sb
      have n1 := prepare_npinv i.1.2 inst
      have e1 := prepare_envInv i.1.1 i.2.1 i.2.2 inst (sb.run (prepare s1 entry) (.refl _))
      obtain ⟨x1, x2⟩ := envInv_runEval (ecl := ecl) force el eg ep en ee ⟨hv, n1⟩ e1 sb none fuel
      exact ⟨⟨inext, npinv_ran force en fuel i.1.2 inst⟩, nextState_inv i.2 x1 x2⟩)
    (fun i inst sm1 sm2 => by
      have ig := (i.1.1.installs inst sm1).1
      obtain ⟨eg', ag⟩ := envInv_installsGarbage i.1.1 i.2.1 inst sm1
      exact ⟨⟨ig.gc force sm2, npinv_gc force (npinv_installsGarbage i.1.2 inst)⟩,
        envInv_gc_acc force ig.good ig.ci eg' (ag i.2.2)⟩)
  obtain ⟨s, s1, e, cfuel, entry, fuel, ⟨⟨i, n⟩, ev, ha⟩, inst, rfl, hr⟩ := a _ _ hmem
  have sb : EvalSizeBounded ext force (prepare s1 entry) := sz _ hmem
  subst hm
  exact runEval_never_panics_machine_closed force el eg ep en ee
    ⟨(idleOk_ran (ecl := ecl) force el eg ep fuel i inst sb).1.1, prepare_npinv n inst⟩
    (prepare_envInv i ev ha inst (sb.run (prepare s1 entry) (.refl _))) sb.run none fuel hr.symm

end

end Marwood.Lemmas.Good
