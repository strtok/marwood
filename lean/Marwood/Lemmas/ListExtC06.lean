import Marwood.Lemmas.ListExtSim
import Marwood.Lemmas.ListExtGood
import Marwood.Lemmas.ListExtCode
import Marwood.Lemmas.ListExtProc
import Marwood.Lemmas.ListExtNoPanic
import Marwood.Lemmas.ListExtEnv
import Marwood.Lemmas.ListExtDemo
import Marwood.Lemmas.EnvInvDemo
import Marwood.Proofs.C06

/-! Corollaries of `Proofs/C06.lean` (T06.6 on the concrete machine) at the real builtins `listExtWith` (overview:
Lemmas/ListExtProps.lean): `ExtNoPanic` and `ExtEnvInv` are theorems for the table of Vm/ListExt.lean, so the closed T06.6
theorems have NO hypothesis about builtins left. What remains: `VmOkP`, `NPInv`, `EnvInv` of the INITIAL state and the
physical bound `SizeBounded`. -/

namespace Marwood.Lemmas.Good.LDemo
open Marwood Marwood.Vm Marwood.Vm.Concrete Marwood.Lemmas.Sim

theorem sDemo_npinv : NPInv sDemo := npinv_of_check (by decide +kernel) (by decide +kernel)

theorem reaches_run : ∀ k, k ≤ 17 → Reaches (machine listExt false) sDemo (st k) := by
  intro k
  induction k with
  | zero => intro _; rw [st_zero]; exact .refl _
  | succ k ih =>
    intro hk
    by_cases h16 : k < 16
    · exact .next (ih (by omega)) (step_next h16)
    · have : k = 16 := by omega
      subst this
      exact .halt (ih (by omega)) step_halt

end Marwood.Lemmas.Good.LDemo

namespace Marwood.Proofs.C06
open Marwood Marwood.Vm Marwood.Vm.Concrete Marwood.Lemmas.Sim Marwood.Lemmas.Good

section
variable (eqTag : String → String → Bool)

/-- **T06.6 at the real builtins**: `step` never panics on a state reachable from a good initial state, except at the model's
    own fuel guard in `apply` -/
theorem step_never_panics_listExt (force : Bool) {s0 : St CHeap}
    (h0 : VmOkP (listExtWith eqTag) (listExtWith_codeLawsV eqTag) s0) (n0 : NPInv s0) (e0 : EnvInv s0)
    (sb : SizeBounded (machine (listExtWith eqTag) force) s0) {s : St CHeap}
    (hr : Reaches (machine (listExtWith eqTag) force) s0 s) (m : String)
    (hp : step (concreteOps (listExtWith eqTag)) s = .panic m) : m = "apply: list longer than fuel (cyclic list)" :=
  step_never_panics_machine_closed _ (listExtWith_codeLawsV eqTag) force (listExtWith_laws eqTag)
    (listExtWith_good eqTag) (listExtWith_proc eqTag) (listExtWith_noPanic eqTag) (listExtWith_envInv eqTag)
    h0 n0 e0 sb hr m hp

theorem run_never_panics_listExt (force : Bool) {s0 : St CHeap}
    (h0 : VmOkP (listExtWith eqTag) (listExtWith_codeLawsV eqTag) s0) (n0 : NPInv s0) (e0 : EnvInv s0)
    (sb : SizeBounded (machine (listExtWith eqTag) force) s0) (count : Option Nat) (fuel c : Nat) {m : String}
    {sf : St CHeap} (hr : runLoop (machine (listExtWith eqTag) force) count fuel c s0 = .error (.panic m) sf) :
    m = "apply: list longer than fuel (cyclic list)" :=
  run_never_panics_machine_closed _ (listExtWith_codeLawsV eqTag) force (listExtWith_laws eqTag)
    (listExtWith_good eqTag) (listExtWith_proc eqTag) (listExtWith_noPanic eqTag) (listExtWith_envInv eqTag)
    h0 n0 e0 sb count fuel c hr

theorem eval_never_panics_listExt (force : Bool) {s0 : St CHeap}
    (h0 : VmOkP (listExtWith eqTag) (listExtWith_codeLawsV eqTag) s0) (n0 : NPInv s0) (e0 : EnvInv s0)
    (sb : SizeBounded (machine (listExtWith eqTag) force) s0) (count : Option Nat) (fuel : Nat) {m : String}
    {s1 : St CHeap}
    (hr : runEval (concreteOps (listExtWith eqTag)) (cgc force) count fuel s0 = .failed (.panic m) s1) :
    m = "apply: list longer than fuel (cyclic list)" :=
  eval_never_panics_machine_closed _ (listExtWith_codeLawsV eqTag) force (listExtWith_laws eqTag)
    (listExtWith_good eqTag) (listExtWith_proc eqTag) (listExtWith_noPanic eqTag) (listExtWith_envInv eqTag)
    h0 n0 e0 sb count fuel hr

/-- **no history of evaluations makes the modelled VM with the real builtins panic** (`HistGoodE`: the invariants of every
    prepared state) -/
theorem history_never_panics_listExt (force : Bool) (js : List C07.Job) (s : St CHeap) (n0 : NPInv s)
    (hg : HistGoodE (listExtWith eqTag) (listExtWith_codeLawsV eqTag) force js s) :
    ∀ f ∈ histFaults (listExtWith eqTag) force js s, ∀ m, f = Fault.panic m →
      m = "apply: list longer than fuel (cyclic list)" :=
  history_never_panics_machine_closed _ (listExtWith_codeLawsV eqTag) force (listExtWith_laws eqTag)
    (listExtWith_good eqTag) (listExtWith_proc eqTag) (listExtWith_noPanic eqTag) (listExtWith_envInv eqTag)
    js s n0 hg

/-- **T06.6 for whole sessions at the real builtins, from the invariants of the INITIAL state only** (`HistInstalls`: each
    `eval` call with its `prepare_eval`): `IdleOk`, `NPInv`, `EnvInv` of the initial state and the physical size bounds -/
theorem history_never_panics_from_initial_listExt (force : Bool) {s0 sf : St CHeap} {recs : List EvRec}
    (hist : HistInstalls (listExtWith eqTag) force s0 recs sf) (i0 : IdleOk s0) (n0 : NPInv s0) (e0 : EnvInv s0)
    (a0 : neE s0.heap s0.acc = true) (sz : ∀ rc ∈ recs, RecSized (listExtWith eqTag) force rc) :
    ∀ f ∈ recFaults recs, ∀ m, f = Fault.panic m → m = "apply: list longer than fuel (cyclic list)" :=
  history_never_panics_from_initial _ (listExtWith_codeLawsV eqTag) force (listExtWith_laws eqTag)
    (listExtWith_good eqTag) (listExtWith_proc eqTag) (listExtWith_noPanic eqTag) (listExtWith_envInv eqTag)
    hist i0 n0 e0 a0 sz

end

/-! ### the hypotheses are satisfiable: the demo machine with a rejected form's garbage -/

open Marwood.Lemmas.Good.Demo in
/-- a history on the demo machine in which `prepare_eval` allocated two code objects (`Demo.demo_installs`, taken as a
    rejected form's garbage) -/
example (eqTag : String → String → Bool) : ∀ f ∈ recFaults [EvRec.rejected sT], ∀ m, f = Fault.panic m →
    m = "apply: list longer than fuel (cyclic list)" :=
  history_never_panics_from_initial_listExt eqTag false (HistInstalls.rejected demo_garbage (.nil _)) sHalt_idleOk
    (sHalt_npinv 0) (sHalt_envInv 0 (.inl rfl)) rfl
    (by
      intro rc hrc
      have : rc = .rejected sT := by simpa using hrc
      subst this
      exact ⟨demo_small, by unfold Small; decide +kernel⟩)

open Marwood.Lemmas.Good.LDemo in
theorem demo_hypotheses : VmOkP listExt listExt_codeLawsV sDemo ∧ NPInv sDemo ∧ EnvInv sDemo ∧
    SizeBounded (machine listExt false) sDemo :=
  ⟨⟨sDemo_vmOk _ _, sDemo_pinv⟩, sDemo_npinv, sDemo_envInv, sDemo_sizeBounded⟩

open Marwood.Lemmas.Good.LDemo in
/-- **none of the 17 instructions of `(define p (cons 1 2)) (set-car! p 3) (car p)` — three of them CALLs of `cons`,
    `set-car!`, `car` — panics**, whatever collections the utilisation-tested collector interleaves -/
theorem demo_steps_never_panic (k : Nat) (hk : k ≤ 17) (m : String)
    (hp : step (concreteOps listExt) (st k) = .panic m) : m = "apply: list longer than fuel (cyclic list)" :=
  step_never_panics_listExt _ false demo_hypotheses.1 demo_hypotheses.2.1 demo_hypotheses.2.2.1
    demo_hypotheses.2.2.2 (reaches_run k hk) m hp

open Marwood.Lemmas.Good.LDemo in
/-- the program has no `apply`: no run of the demo ends in a panic, for any budget and fuel -/
theorem demo_run_never_panics (count : Option Nat) (fuel c : Nat) (m : String) (sf : St CHeap) :
    runLoop (machine listExt false) count fuel c sDemo ≠ .error (.panic m) sf := by
  intro hr
  have hm := run_never_panics_listExt _ false demo_hypotheses.1 demo_hypotheses.2.1 demo_hypotheses.2.2.1
    demo_hypotheses.2.2.2 count fuel c hr
  obtain ⟨hreach, hst⟩ := (runLoop_ends (ext := listExt) false count fuel c sDemo).1 _ _ hr
  obtain ⟨k, hk, rfl⟩ := reaches_st hreach
  by_cases h16 : k < 16
  · rw [step_next h16] at hst; cases hst
  · have : k = 16 ∨ k = 17 := by omega
    rcases this with rfl | rfl
    · rw [LDemo.step_halt] at hst; cases hst
    · have := st_run.2.2.1
      rw [hst] at this
      cases this

end Marwood.Proofs.C06
