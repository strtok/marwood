import Marwood.Lemmas.StoreList
/-!
# The prelude's `length` (two cursors): the walk on a finite spine (C14)

On a value with a finite spine the walk of `lengthCount` never finds its two cursors `eq?` — `eq?` on two pair cells
compares addresses *or contents* (`compare.rs`), and either way a hit would give two tails of different lengths the same
spine — so the result is the number of pairs when the spine ends in `()` and the `expected pair` error otherwise.
`LEN`: `length`. `count_stop1`, `count_stop2`, `count_step` are the three ways one call of `count` goes; the walk on a cyclic
chain (`TotalLength.lean`) uses `count_step` and `eqv_ptrs` as well.
-/
namespace Marwood.Store
open Outcome

namespace LEN

/-- `(eq? q p)` on two references, the second to a pair cell: the same address or the same contents -/
theorem eqv_ptrs {s : Store} {p q x y : Nat} {cq : VCell} (hp : s.get (.ptr p) = .ok (.pair x y))
    (hq : s.get (.ptr q) = .ok cq) :
    ∃ b, eqv s (.ptr p) (.ptr q) = .ok b ∧ (b = true ↔ p = q ∨ cq = .pair x y) := by
  by_cases h : p = q
  · subst h
    exact ⟨true, by simp [eqv, VCell.isPtr], by simp⟩
  · have hb : (VCell.ptr p == VCell.ptr q) = false := by simp [h]
    simp only [eqv, VCell.isPtr, Bool.true_and, hb, Bool.false_eq_true, if_false, derefArg, hp, hq, bind_ok]
    cases cq with
    | pair x' y' =>
      refine ⟨x == x' && y == y', rfl, ?_⟩
      simp only [Bool.and_eq_true, beq_iff_eq, h, false_or, VCell.pair.injEq]
      constructor
      · rintro ⟨rfl, rfl⟩; exact ⟨rfl, rfl⟩
      · rintro ⟨rfl, rfl⟩; exact ⟨rfl, rfl⟩
    | _ => exact ⟨false, rfl, by simp [h]⟩

variable {s : Store}

theorem count_stop1 {f : Nat} {fast slow n cf : VCell} (hg : s.get fast = .ok cf) (hp : cf.isPair = false) :
    lengthCount (f+1) s fast slow n = if cf.isNil then .ok n else .err .pair := by
  cases hc : cf.isNil with
  | true => simp [lengthCount, nullP, hg, hc]
  | false =>
    simp [lengthCount, nullP, hg, hc, cdrV_err hg hp]

theorem count_stop2 {f : Nat} {fast slow n c1 : VCell} {a d : Nat} (hg : s.get fast = .ok (.pair a d))
    (hg1 : s.get (.ptr d) = .ok c1) (hp1 : c1.isPair = false) :
    lengthCount (f+1) s fast slow n = if c1.isNil then add1 s n else .err .pair := by
  have hpn : (VCell.pair a d).isNil = false := rfl
  cases hc : c1.isNil with
  | true => simp [lengthCount, nullP, hg, hpn, cdrV_ok hg, hg1, hc]
  | false =>
    simp [lengthCount, nullP, hg, hpn, cdrV_ok hg, hg1, hc, cdrV_err hg1 hp1]

theorem count_step {f : Nat} {fast slow : VCell} {k : Int} {a d a1 d1 a0 d0 : Nat} {b : Bool}
    (hg : s.get fast = .ok (.pair a d)) (hg1 : s.get (.ptr d) = .ok (.pair a1 d1))
    (hg0 : s.get slow = .ok (.pair a0 d0)) (he : eqv s (.ptr d0) (.ptr d1) = .ok b) :
    lengthCount (f+1) s fast slow (.num k) =
      if b then .err .pair else lengthCount f s (.ptr d1) (.ptr d0) (.num (k + 2)) := by
  have hpn : (VCell.pair a d).isNil = false := rfl
  have hpn1 : (VCell.pair a1 d1).isNil = false := rfl
  have hadd : add2 s (.num k) = .ok (.num (k + 2)) := rfl
  have hcirc : cdrV s circularListSym = .err .pair := rfl
  cases b <;>
    simp [lengthCount, nullP, hg, hpn, hpn1, cdrV_ok hg, hg1, cdrV_ok hg1, cdrV_ok hg0, eqTest, he,
      hcirc, hadd]

end LEN

theorem Spine.unique {s : Store} {v c c' : VCell} {as bs : List Nat}
    (h1 : Spine s v as c) (h2 : Spine s v bs c') : as = bs ∧ c = c' := by
  induction h1 generalizing bs with
  | done hg hp =>
    cases h2 with
    | done hg' _ => rw [hg] at hg'; cases hg'; exact ⟨rfl, rfl⟩
    | cons hg' _ => rw [hg] at hg'; cases hg'; simp [VCell.isPair] at hp
  | cons hg _ ih =>
    cases h2 with
    | done hg' hp' => rw [hg] at hg'; cases hg'; simp [VCell.isPair] at hp'
    | cons hg' ht =>
      rw [hg] at hg'; cases hg'
      obtain ⟨h, hc⟩ := ih ht
      exact ⟨by rw [h], hc⟩

theorem Spine.cons_inv {s : Store} {v c : VCell} {as : List Nat} (h : Spine s v as c) (hne : 0 < as.length) :
    ∃ a d, s.get v = .ok (.pair a d) ∧ Spine s (.ptr d) as.tail c := by
  cases h with
  | done _ _ => simp at hne
  | cons hg ht => exact ⟨_, _, hg, ht⟩

theorem eqTest_spine_false {s : Store} {c c' : VCell} {p q : Nat} {xs ys : List Nat}
    (hx : Spine s (.ptr p) xs c) (hy : Spine s (.ptr q) ys c') (hlt : xs.length < ys.length) :
    eqTest s (.ptr p) (.ptr q) = .ok false := by
  obtain ⟨a, d, hgq, htq⟩ := hy.cons_inv (by omega)
  obtain ⟨cp, hgp, _⟩ := hx.head
  obtain ⟨b, hb, hiff⟩ := LEN.eqv_ptrs hgq hgp
  cases b with
  | false => exact hb
  | true =>
    exfalso
    rcases hiff.mp rfl with rfl | rfl
    · have := (hx.unique hy).1
      subst this
      exact Nat.lt_irrefl _ hlt
    · -- the same contents: the same cdr, so the two tails are one spine
      have hpos : 0 < xs.length := by
        cases hx with
        | done hg hp => rw [hg] at hgp; cases hgp; cases hp
        | cons _ _ => simp
      obtain ⟨a', d', hgp', htp⟩ := hx.cons_inv hpos
      rw [hgp] at hgp'; cases hgp'
      have := congrArg List.length (htp.unique htq).1
      simp only [List.length_tail] at this
      omega

/-- `fast` has `xs.length` pairs to go, `slow` at least as many -/
theorem lengthCount_spine {s : Store} {c : VCell} : ∀ (fuel : Nat) (xs ys : List Nat) (fast slow : VCell) (k : Int),
    Spine s fast xs c → Spine s slow ys c → xs.length ≤ ys.length → xs.length / 2 < fuel →
    lengthCount fuel s fast slow (.num k) = if c.isNil then .ok (.num (k + xs.length)) else .err .pair
  | 0, _, _, _, _, _, _, _, _, hf => by omega
  | f+1, xs, ys, fast, slow, k, hx, hy, hle, hf => by
    cases hx with
    | done hg hp => rw [LEN.count_stop1 hg hp]; simp
    | cons hg ht =>
      cases ht with
      | done hg1 hp1 =>
        rw [LEN.count_stop2 hg hg1 hp1]
        split
        · simp [add1, Store.get]
        · rfl
      | cons hg1 ht1 =>
        rename_i a d a1 d1 xs''
        simp only [List.length_cons] at hle hf
        obtain ⟨a0, d0, hg0, ht0⟩ := hy.cons_inv (by omega)
        have hlt : xs''.length < ys.tail.length := by simp only [List.length_tail]; omega
        rw [LEN.count_step hg hg1 hg0 (eqTest_spine_false ht1 ht0 hlt), if_neg Bool.false_ne_true,
          lengthCount_spine f xs'' ys.tail _ _ (k + 2) ht1 ht0 (by omega) (by omega)]
        split
        · simp only [List.length_cons]; congr 2; push_cast; omega
        · rfl

theorem length_spine_ok {s : Store} {v : VCell} {as : List Nat} (hl : Spine s v as .nil) {fuel : Nat}
    (hf : as.length / 2 + 1 < fuel) : length fuel s v = .ok (.num as.length) := by
  obtain ⟨f, rfl⟩ : ∃ f, fuel = f + 1 := ⟨fuel - 1, by omega⟩
  rw [length, lengthCount_spine f as as v v 0 hl hl (Nat.le_refl _) (by omega)]
  simp

theorem length_spine_err {s : Store} {v c : VCell} {as : List Nat} (hl : Spine s v as c) (hc : c.isNil = false)
    {fuel : Nat} (hf : as.length / 2 + 1 < fuel) : length fuel s v = .err .pair := by
  obtain ⟨f, rfl⟩ : ∃ f, fuel = f + 1 := ⟨fuel - 1, by omega⟩
  rw [length, lengthCount_spine f as as v v 0 hl hl (Nat.le_refl _) (by omega)]
  simp [hc]

end Marwood.Store
