import Marwood.Lemmas.EnvInvStep
import Marwood.Lemmas.NoPanicMain
/-!
# The slot clause of T06.6 is an invariant: `EnvInv`, `envSlots_of_envInv`, T06.6 without `EnvSlots`

`EnvInv s = TInv s ∧ FInv s` (executable form `stateEnvB`, Vm/EnvInvCheck.lean) is preserved by `run_one`, the collector, the
epilogues and `prepare_eval` under one more law for the unmodelled operations (`ExtEnvInv`, `CompEnvInv`). It implies the
slot clause `EnvSlots s` of the instruction under `ip` (`envSlots_of_envInv`): at ENTER the closure cell in `acc` fits; at
CLOSURE `acc` points to a lambda that captures nothing, or it is the immediate the preceding `MOVIMM … %acc` loaded, a child
of the running code object, whose `IofEnvironment` indices are below the length of the running code's map, which the current
environment covers. So the `…_closed` forms of the T06.6 theorems have no hypothesis along the run.
-/
namespace Marwood.Lemmas.Good
open Marwood Marwood.Vm Marwood.Vm.Verify Marwood.Vm.Concrete Marwood.Lemmas.Sim
open Marwood.Heap (GcState)

structure EnvInv (s : St CHeap) : Prop where
  taint : Taint.TInv s
  fit : FInv s

/-- **Assumed of the unmodelled operations** (builtins, `eval`'s compiler, VPUSH) for `EnvInv` -/
structure ExtEnvInv (ext : ExtOps) : Prop where
  taint : Taint.ExtTaint ext
  fit : ExtFit ext

/-- the same for the compiler inside `prepare_eval` -/
structure CompEnvInv (comp : CHeap → VCell → Outcome (CHeap × VCell)) : Prop where
  taint : Taint.CompTaint comp
  fit : CompFit comp

theorem stateEnvB_sound {s : St CHeap} (hb : stateEnvB s = true) : EnvInv s := by
  unfold stateEnvB at hb
  simp only [Bool.and_eq_true] at hb
  exact ⟨Taint.stateTB_sound hb.1, stateFB_sound hb.2⟩

theorem inPre_instr {h : CHeap} {l o : Nat} (hp : InPre h l o) {lam : CLambda} (hl : lambdaAt h l = some lam) {op : Op}
    (hop : lam.bc[o]? = some (.opcode op)) : op = .enter ∨ op = .varArg := by
  obtain ⟨lam', t, h1, h2, _, h4⟩ := hp
  rw [hl] at h1; cases h1
  obtain ⟨hbc, hchk⟩ := verifyLam_spec h2
  rw [← hbc] at hop
  have := check_of_fetch hchk hop h4
  cases op <;> simp [checkOp] at this <;> simp

section
variable {ext : ExtOps} {ecl : ExtCodeLawsV ext}

theorem envInv_step (eg : ExtGood ext) (ee : ExtEnvInv ext) {s s' : St CHeap} {b : Bool} (h : VmOkP ext ecl s)
    (e : EnvInv s) (hs : step (concreteOps ext) s = .ok (s', b)) (sm' : Small s'.heap) : EnvInv s' :=
  ⟨Taint.tinv_step ee.taint ecl h.1.1 h.1.cinv h.1.stackDisc e.taint hs, finv_step eg ee.fit h e.taint e.fit hs sm'⟩

theorem envInv_gc (force : Bool) {s : St CHeap} (h : VmOkP ext ecl s) (e : EnvInv s) : EnvInv (cgc force s) :=
  ⟨Taint.tinv_gc force h.1.cinv e.taint, finv_gc force h.1.cinv e.fit⟩

theorem envInv_onDone {s : St CHeap} (e : EnvInv s) : EnvInv (onDone s) :=
  ⟨Taint.onDone_tinv e.taint, finv_onDone e.fit⟩

theorem envInv_onError {s : St CHeap} (g : HG s.heap) (e : EnvInv s) : EnvInv (onError s) :=
  ⟨Taint.onError_tinv e.taint, finv_onError g e.fit⟩

theorem envInv_prepare {comp : CHeap → VCell → Outcome (CHeap × VCell)} (ce : CompEnvInv comp) {s s' : St CHeap}
    {d : VCell} (g : HG s.heap) (g' : HG s'.heap) (e : EnvInv s) (hacc : s.acc = .undefined)
    (hst : ∀ c ∈ s.stack.cells, c = VCell.undefined) (hd : addrFree d = true)
    (hp : prepareEval comp s d = .ok s') : EnvInv s' :=
  ⟨Taint.prepare_tinv ce.taint e.taint hacc hst hd hp, finv_prepare ce.fit g g' e.fit hst hd hp⟩

theorem envSlots_of_envInv {s : St CHeap} (h : VmOkP ext ecl s) (e : EnvInv s) : EnvSlots s := by
  have g : GoodI s := h.1.1
  refine ⟨?_, ?_⟩
  · intro l p lam' ss hl hop hacc hlam hss x hx k hk
    rcases e.taint.acc_cases with hne | hsite
    · -- `acc` points to a lambda that captures nothing
      rw [hacc] at hne
      simp only [Taint.neE_ptr, Bool.not_eq_true'] at hne
      have := Taint.capAt_false_iff.mp hne lam' hlam
      rw [this] at hx; cases hx
    · -- `acc` is the child the preceding MOVIMM loaded
      obtain ⟨l0, j, h1, h2, h3, h4, h5, h6⟩ := Taint.atSiteB_inv hsite
      rw [hl] at h1; cases h1
      have hsite' : siteB l.bc j = true := by
        unfold siteB
        simp only [Bool.and_eq_true, beq_iff_eq]
        exact ⟨⟨h3, h5⟩, h6⟩
      have hcf := (e.fit.hf s.ipL _ (lambdaAt_iff.mp hl)).1 j s.acc hsite' h4
      have hk' : k < l.envmap.length := hcf p lam' hacc hlam x hx k hk
      have hnp : ¬ InPre s.heap s.ipL s.ipO := by
        intro hp
        rcases inPre_instr hp hl hop with h' | h' <;> cases h'
      have := e.fit.fit hnp l ss hl hss
      omega
  · intro l lam env l' ss hl hop hc hlam hss
    -- the closure cell in `acc` fits
    rcases callee_closure_cell hc with ea | ⟨a, _, hca⟩
    · have := g.accv
      rw [ea] at this
      cases this
    · exact e.fit.hf a _ hca lam env rfl l' ss hlam hss

theorem envInv_reaches (force : Bool) (el : ExtLaws ext) (eg : ExtGood ext) (ep : ExtProc ext) (en : ExtNoPanic ext)
    (ee : ExtEnvInv ext) {s0 : St CHeap} (h0 : VmOkNP ext ecl s0) (e0 : EnvInv s0)
    (sb : SizeBounded (machine ext force) s0) : ∀ s', Reaches (machine ext force) s0 s' → EnvInv s' :=
  Reaches.machine_induct e0
    (fun s1 _ _ hr1 ih hst hr2 =>
      envInv_step eg ee (vmOkNP_reaches force el eg ep en h0 sb s1 hr1).1 ih hst (sb _ hr2))
    (fun s1 hr1 ih => envInv_gc force (vmOkNP_reaches force el eg ep en h0 sb s1 hr1).1 ih)

theorem envSlotsAlong_of_envInv (force : Bool) (el : ExtLaws ext) (eg : ExtGood ext) (ep : ExtProc ext)
    (en : ExtNoPanic ext) (ee : ExtEnvInv ext) {s0 : St CHeap} (h0 : VmOkNP ext ecl s0) (e0 : EnvInv s0)
    (sb : SizeBounded (machine ext force) s0) : EnvSlotsAlong (machine ext force) s0 :=
  fun s' hr => envSlots_of_envInv (vmOkNP_reaches force el eg ep en h0 sb s' hr).1
    (envInv_reaches force el eg ep en ee h0 e0 sb s' hr)

/-- **T06.6: `step` never panics on a reachable state** (except at the model's fuel guard in `apply`) — no hypothesis
    about the state examined -/
theorem step_never_panics_reachable_closed (force : Bool) (el : ExtLaws ext) (eg : ExtGood ext) (ep : ExtProc ext)
    (en : ExtNoPanic ext) (ee : ExtEnvInv ext) {s0 : St CHeap} (h0 : VmOkNP ext ecl s0) (e0 : EnvInv s0)
    (sb : SizeBounded (machine ext force) s0) {s' : St CHeap} (hr : Reaches (machine ext force) s0 s') (m : String)
    (hp : step (concreteOps ext) s' = .panic m) : m = applyGuard :=
  step_never_panics_reachable force el eg ep en h0 sb hr
    (envSlotsAlong_of_envInv force el eg ep en ee h0 e0 sb s' hr) m hp

theorem runLoop_never_panics_machine_closed (force : Bool) (el : ExtLaws ext) (eg : ExtGood ext) (ep : ExtProc ext)
    (en : ExtNoPanic ext) (ee : ExtEnvInv ext) {s0 : St CHeap} (h0 : VmOkNP ext ecl s0) (e0 : EnvInv s0)
    (sb : SizeBounded (machine ext force) s0) (count : Option Nat) (fuel c : Nat) {m : String} {sf : St CHeap}
    (hr : runLoop (machine ext force) count fuel c s0 = .error (.panic m) sf) : m = applyGuard :=
  runLoop_never_panics_machine force el eg ep en h0 sb (envSlotsAlong_of_envInv force el eg ep en ee h0 e0 sb)
    count fuel c hr

theorem runEval_never_panics_machine_closed (force : Bool) (el : ExtLaws ext) (eg : ExtGood ext) (ep : ExtProc ext)
    (en : ExtNoPanic ext) (ee : ExtEnvInv ext) {s0 : St CHeap} (h0 : VmOkNP ext ecl s0) (e0 : EnvInv s0)
    (sb : SizeBounded (machine ext force) s0) (count : Option Nat) (fuel : Nat) {m : String} {s1 : St CHeap}
    (hr : runEval (concreteOps ext) (cgc force) count fuel s0 = .failed (.panic m) s1) : m = applyGuard :=
  runEval_never_panics_machine force el eg ep en h0 sb (envSlotsAlong_of_envInv force el eg ep en ee h0 e0 sb)
    count fuel hr

end


namespace Demo

theorem sHalt_envInv (o : Nat) (ho : o = 0 ∨ o = 1) : EnvInv (sHalt o) := by
  rcases ho with rfl | rfl <;> exact stateEnvB_sound (by decide +kernel)

/-- the clauses are not trivially true: an environment shorter than the lambda's map does not fit; a closure cell over
    them, and a live stack holding that saved `EnvironmentPointer` / `InstructionPointer` pair, are rejected by the
    executable check -/
def hBad : CHeap :=
  { hHalt with cells := #[.lambda { bc := [.opcode .halt], args := [], envmap := [] }, .lexEnv [],
      .lambda { bc := [.opcode .enter, .opcode .ret], args := [.opaque "yx"], envmap := [(.opaque "yx", .arg 0)] },
      .val (.closure 2 1)] }

example : fitB hBad 1 2 = false := by decide +kernel
example : heapFB hBad = false := by decide +kernel
example : pairsEB hBad [.undefined, .envPtr 1, .instrPtr 2 1] 2 = false := by decide +kernel
example : stateFB { sHalt 0 with heap := hBad, ep := 1, ipL := 2, ipO := 1 } = false := by decide +kernel

end Demo

end Marwood.Lemmas.Good
