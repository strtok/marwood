import Marwood.Lemmas.ParseTextShift
import Marwood.Lemmas.ParseTextNoPanic
/-!
# `parse_text` and the read loop (T11.4)

The text `parse_text` hands back is the suffix at the first remaining token and re-scans to the
remaining tokens, shifted (`parseText_more`). Hence the loop the callers of `eval_text` run over the
remaining *texts* (`readAllF`, model) is the loop over the one token list of the whole text
(`readToksF`): it ends within `max 1 |tokens|` rounds and gives each token to exactly one datum.
-/
namespace Marwood
namespace ParseText

theorem parseTokens_rest_lt (fo : FloatOps) {text : Text} {ts rest : List Token} {d : Datum}
    (h : parseTokens fo text ts = .ok (d, rest)) : rest.length < ts.length := by
  have hf := parseTokens_fuel fo text ts
  rw [h] at hf
  exact parseF_rest_lt fo text hf

theorem parseTokens_nil (fo : FloatOps) (text : Text) :
    parseTokens fo text [] = .err .incomplete :=
  parseTokens_of_fuel fo text (f := 1) rfl

theorem parseText_more (fo : FloatOps) {text : Text} {ts : List Token} {d : Datum} {t : Token}
    {rest : List Token} (hs : scan text = .ok ts)
    (hp : parseTokens fo text ts = .ok (d, t :: rest)) :
    ∃ (p sfx : Text) (ts0 : List Token), text = p ++ sfx ∧ t.lo = byteLen p ∧
      dropBytes t.lo text = some sfx ∧ parseText fo text = .ok (d, some sfx) ∧
      scan sfx = .ok ts0 ∧ t :: rest = ts0.map (Token.shift (byteLen p)) := by
  obtain ⟨pre, _, hts, _⟩ := parseTokens_consumes fo hp
  obtain ⟨p, sfx, ts0, he, hlo, hsc, hmap⟩ := scan_suffix hs hts
  have hdrop : dropBytes t.lo text = some sfx := by rw [he, hlo]; exact dropBytes_append _ _
  refine ⟨p, sfx, ts0, he, hlo, hdrop, ?_, hsc, by rw [← hlo]; exact hmap⟩
  simp [parseText, hs, hp, hdrop]

/-- the read loop, specification level: parse one datum from the tokens, continue with the tokens
    that are left (same text throughout); `fuel` bounds the rounds -/
def readToksF (fo : FloatOps) (text : Text) :
    Nat → List Token → Option (List Datum × Option (PRes Unit))
  | 0, _ => none
  | f+1, ts =>
    match parseTokens fo text ts with
    | .err e => some ([], some (.err e))
    | .panic m => some ([], some (.panic m))
    | .ok (d, []) => some ([d], none)
    | .ok (d, t :: rest) =>
      match readToksF fo text f (t :: rest) with
      | none => none
      | some (ds, fin) => some (d :: ds, fin)

theorem readToksF_relabel (fo : FloatOps) {text' text : Text} {sh : Token → Token}
    (R : Relabel text' text sh) : ∀ (f : Nat) (ts : List Token),
    readToksF fo text' f (ts.map sh) = readToksF fo text f ts := by
  intro f
  induction f with
  | zero => intro ts; rfl
  | succ f ih =>
    intro ts
    rw [readToksF, readToksF, parseTokens_relabel fo R]
    cases parseTokens fo text ts with
    | err e | panic m => rfl
    | ok v =>
      obtain ⟨d, rest⟩ := v
      cases rest with
      | nil => rfl
      | cons t rest =>
        simp only [mapP, List.map_cons]
        have := ih (t :: rest)
        rw [List.map_cons] at this
        rw [this]

theorem readAll_eq_readToks (fo : FloatOps) : ∀ (f : Nat) (text : Text) (ts : List Token),
    scan text = .ok ts → readAllF fo f text = readToksF fo text f ts := by
  intro f
  induction f with
  | zero => intro text ts _; rfl
  | succ f ih =>
    intro text ts hs
    rw [readAllF, readToksF]
    cases hp : parseTokens fo text ts with
    | err e => rw [parseText_err fo hs hp]
    | panic m => rw [parseText_panic fo hs hp]
    | ok v =>
      obtain ⟨d, rest⟩ := v
      cases rest with
      | nil => rw [parseText_last fo hs hp]
      | cons t rest =>
        obtain ⟨p, sfx, ts0, he, _, _, hpt, hsc, hmap⟩ := parseText_more fo hs hp
        rw [hpt]
        simp only
        rw [ih sfx ts0 hsc, hmap, he, readToksF_relabel fo (relabel_shift p sfx)]
        cases readToksF fo sfx f ts0 with
        | none => rfl
        | some x => obtain ⟨ds, fin⟩ := x; rfl

theorem readAllF_lexErr (fo : FloatOps) (f : Nat) {text : Text} {e : LexErr}
    (h : scan text = .error e) : readAllF fo (f + 1) text = some ([], some (.err (.lex e))) := by
  rw [readAllF, parseText_lexErr fo h]

theorem readToksF_succ (fo : FloatOps) (text : Text) : ∀ (f : Nat) (ts : List Token)
    (r : List Datum × Option (PRes Unit)),
    readToksF fo text f ts = some r → readToksF fo text (f + 1) ts = some r := by
  intro f
  induction f with
  | zero => intro ts r h; simp [readToksF] at h
  | succ f ih =>
    intro ts r h
    rw [readToksF] at h ⊢
    cases hp : parseTokens fo text ts with
    | err e | panic m => rw [hp] at h; exact h
    | ok v =>
      obtain ⟨d, rest⟩ := v
      rw [hp] at h
      cases rest with
      | nil => exact h
      | cons t rest =>
        simp only at h ⊢
        cases hr : readToksF fo text f (t :: rest) with
        | none => simp [hr] at h
        | some x => rw [ih _ _ hr]; rw [hr] at h; exact h

theorem readToksF_mono (fo : FloatOps) (text : Text) {f f' : Nat} {ts : List Token}
    {r : List Datum × Option (PRes Unit)} (hle : f ≤ f') (h : readToksF fo text f ts = some r) :
    readToksF fo text f' ts = some r :=
  mono_of_succ (fun f r => readToksF_succ fo text f ts r) hle h

/-- a round with a successor leaves fewer tokens -/
theorem readToksF_total (fo : FloatOps) (text : Text) : ∀ (f : Nat) (ts : List Token),
    0 < f → ts.length ≤ f →
    ∃ ds fin, readToksF fo text f ts = some (ds, fin) ∧ ds.length ≤ ts.length := by
  intro f
  induction f with
  | zero => intro ts h; omega
  | succ f ih =>
    intro ts _ hlen
    rw [readToksF]
    cases hp : parseTokens fo text ts with
    | err e | panic m => exact ⟨[], _, rfl, by simp⟩
    | ok v =>
      obtain ⟨d, rest⟩ := v
      have hlt := parseTokens_rest_lt fo hp
      cases rest with
      | nil => exact ⟨[d], none, rfl, by simp at hlt ⊢; omega⟩
      | cons t rest =>
        simp only [List.length_cons] at hlt
        obtain ⟨ds, fin, hr, hds⟩ := ih (t :: rest) (by omega) (by simp only [List.length_cons]; omega)
        simp only [List.length_cons] at hds
        exact ⟨d :: ds, fin, by simp [hr], by simp only [List.length_cons]; omega⟩

/-- `ReadsAs fo text ts ds fin`: `ts` splits into consecutive non-empty groups, one per datum of
    `ds`, in order, each group parsing on its own to its datum with nothing left; what follows the
    groups is nothing (`fin = none`) or a token list on which `parse` fails with the outcome `fin` -/
inductive ReadsAs (fo : FloatOps) (text : Text) :
    List Token → List Datum → Option (PRes Unit) → Prop
  | last {g : List Token} {d : Datum} : g ≠ [] → parseTokens fo text g = .ok (d, []) →
      ReadsAs fo text g [d] none
  | stopErr {tail : List Token} {e : ParseErr} : parseTokens fo text tail = .err e →
      ReadsAs fo text tail [] (some (.err e))
  | stopPanic {tail : List Token} {m : String} : parseTokens fo text tail = .panic m →
      ReadsAs fo text tail [] (some (.panic m))
  | more {g rest : List Token} {d : Datum} {ds : List Datum} {fin : Option (PRes Unit)} :
      g ≠ [] → rest ≠ [] → parseTokens fo text g = .ok (d, []) → ReadsAs fo text rest ds fin →
      ReadsAs fo text (g ++ rest) (d :: ds) fin

theorem parseTokens_group (fo : FloatOps) {text : Text} {ts rest : List Token} {d : Datum}
    (h : parseTokens fo text ts = .ok (d, rest)) :
    ∃ g, g ≠ [] ∧ ts = g ++ rest ∧ parseTokens fo text g = .ok (d, []) := by
  obtain ⟨pre, hne, hts, hall, _⟩ := parseTokens_consumes fo h
  exact ⟨pre, hne, hts, by simpa using hall []⟩

theorem readToksF_readsAs (fo : FloatOps) (text : Text) : ∀ (f : Nat) (ts : List Token)
    (ds : List Datum) (fin : Option (PRes Unit)),
    readToksF fo text f ts = some (ds, fin) → ReadsAs fo text ts ds fin := by
  intro f
  induction f with
  | zero => intro ts ds fin h; simp [readToksF] at h
  | succ f ih =>
    intro ts ds fin h
    rw [readToksF] at h
    cases hp : parseTokens fo text ts with
    | err e =>
      rw [hp] at h
      simp only [Option.some.injEq, Prod.mk.injEq] at h
      rw [← h.1, ← h.2]; exact .stopErr hp
    | panic m =>
      rw [hp] at h
      simp only [Option.some.injEq, Prod.mk.injEq] at h
      rw [← h.1, ← h.2]; exact .stopPanic hp
    | ok v =>
      obtain ⟨d, rest⟩ := v
      rw [hp] at h
      obtain ⟨g, hne, hts, hg⟩ := parseTokens_group fo hp
      cases rest with
      | nil =>
        simp only [Option.some.injEq, Prod.mk.injEq] at h
        rw [← h.1, ← h.2, hts, List.append_nil]
        exact .last hne hg
      | cons t rest =>
        simp only at h
        cases hr : readToksF fo text f (t :: rest) with
        | none => simp [hr] at h
        | some x =>
          obtain ⟨ds', fin'⟩ := x
          rw [hr] at h
          simp only [Option.some.injEq, Prod.mk.injEq] at h
          rw [← h.1, ← h.2, hts]
          exact .more hne (by simp) hg (ih _ _ _ hr)

theorem dropBytes_of_slice {lo hi : Nat} {text body : Text}
    (h : sliceBytes lo hi text = some body) : ∃ r, dropBytes lo text = some r := by
  unfold sliceBytes at h
  split at h
  · cases hd : dropBytes lo text with
    | none => simp [hd] at h
    | some r => exact ⟨r, rfl⟩
  · cases h

theorem parseText_noPanic (fo : FloatOps) (text : Text) (m : String) :
    parseText fo text ≠ .panic m := by
  cases hs : scan text with
  | error e => rw [parseText_lexErr fo hs]; simp
  | ok ts =>
    have hall := scan_bodies hs
    cases hp : parseTokens fo text ts with
    | panic m' => exact absurd hp (parseTokens_noPanic fo hall m')
    | err e => rw [parseText_err fo hs hp]; simp
    | ok v =>
      obtain ⟨d, rest⟩ := v
      cases rest with
      | nil => rw [parseText_last fo hs hp]; simp
      | cons t rest =>
        obtain ⟨_, sfx, _, _, _, _, hpt, _, _⟩ := parseText_more fo hs hp
        rw [hpt]; simp

theorem readAllF_noPanic (fo : FloatOps) : ∀ (f : Nat) (text : Text) (ds : List Datum)
    (fin : Option (PRes Unit)), readAllF fo f text = some (ds, fin) →
    ∀ m, fin ≠ some (.panic m) := by
  intro f
  induction f with
  | zero => intro text ds fin h; simp [readAllF] at h
  | succ f ih =>
    intro text ds fin h m
    rw [readAllF] at h
    cases hp : parseText fo text with
    | panic m' => exact absurd hp (parseText_noPanic fo text m')
    | err e =>
      rw [hp] at h
      simp only [Option.some.injEq, Prod.mk.injEq] at h
      rw [← h.2]; simp
    | ok v =>
      obtain ⟨d, r⟩ := v
      rw [hp] at h
      cases r with
      | none =>
        simp only [Option.some.injEq, Prod.mk.injEq] at h
        rw [← h.2]; simp
      | some rest =>
        simp only at h
        cases hr : readAllF fo f rest with
        | none => simp [hr] at h
        | some x =>
          obtain ⟨ds', fin'⟩ := x
          rw [hr] at h
          simp only [Option.some.injEq, Prod.mk.injEq] at h
          rw [← h.2]
          exact ih rest ds' fin' hr m

end ParseText
end Marwood
