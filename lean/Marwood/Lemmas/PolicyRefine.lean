import Marwood.Spec.HeapPolicy
import Marwood.Lemmas.GcSafety
/-!
# The heap model refines the policy specification on its counters

`proj h = (chunk, capacity, capacity − |free list|)`. `Heap.alloc` projects to `HeapPolicy.alloc`, and every
outcome of `Heap.runGc` to `HeapPolicy.gcPoint` with `live` = the cells in use after the sweep.
-/
namespace Marwood.Lemmas.PolicyRefine
open Marwood Marwood.Heap Marwood.Spec Marwood.Spec.HeapPolicy
open Marwood.Lemmas.GcSafety Marwood.Lemmas.GcSweep Marwood.Lemmas.HeapOps

def proj (h : Heap) : PState := ⟨h.chunk, h.cells.size, h.cells.size - h.free.length⟩

theorem ok_of_bind {α β : Type} {x : Res α} {f : α → Res β} {r : β} (h : (x >>= f) = .ok r) :
    ∃ a, x = .ok a ∧ f a = .ok r := by
  cases x with
  | error e => cases h
  | ok a => exact ⟨a, rfl, h⟩

theorem setState_proj (h h' : Heap) (p : Nat) (s : GcState) (hs : h.setState p s = .ok h') :
    h'.chunk = h.chunk ∧ h'.cells = h.cells ∧ h'.free = h.free := by
  unfold Heap.setState at hs
  split at hs
  · cases hs; exact ⟨rfl, rfl, rfl⟩
  · cases hs

theorem pop_proj {h h' : Heap} {q : Nat} {rest : List Nat} (hf : h.free = q :: rest)
    (hle : h.free.length ≤ h.cells.size)
    (hst : Heap.setState { h with free := rest } q GcState.allocated = .ok h') :
    proj h' = { proj h with used := (proj h).used + 1 } := by
  obtain ⟨c1, c2, c3⟩ := setState_proj _ _ _ _ hst
  rw [hf, List.length_cons] at hle
  simp only [proj, c1, c2, c3, hf, List.length_cons, PState.mk.injEq, true_and]
  omega

theorem grow_proj {h g : Heap} (gs : GrowSpec h g) :
    proj g = { proj h with capacity := Heap.grownSize h.chunk h.cells.size } := by
  have hfl : g.free.length = (g.cells.size - h.cells.size) + h.free.length := by
    rw [gs.free, List.length_append, List.length_reverse, List.length_range']
  simp only [proj, hfl, gs.chunk, PState.mk.injEq, true_and]
  exact ⟨gs.csize, by rw [Nat.sub_add_eq, Nat.sub_sub_self (Nat.le_of_lt gs.lt)]⟩

theorem alloc_refines (h h' : Heap) (p : Nat) (hsz : h.gc.size = h.cells.size) (hs : Shape h)
    (hle : h.free.length ≤ h.cells.size) (ha : h.alloc = .ok (h', p)) :
    proj h' = HeapPolicy.alloc (proj h) := by
  unfold Heap.alloc at ha
  split at ha
  · rename_i q rest hf
    obtain ⟨h1, hst, e⟩ := ok_of_bind ha
    cases e
    have hlt : (proj h).used < (proj h).capacity := by
      show h.cells.size - h.free.length < h.cells.size
      rw [hf, List.length_cons] at hle ⊢
      omega
    rw [pop_proj hf hle hst, HeapPolicy.alloc, if_pos hlt]
  · rename_i hf
    have hnl : ¬ (proj h).used < (proj h).capacity := by
      show ¬ h.cells.size - h.free.length < h.cells.size
      rw [hf]; exact Nat.lt_irrefl _
    obtain ⟨g, hg, ha⟩ := ok_of_bind ha
    obtain ⟨g', hg', gs, _⟩ := grow_spec h hsz hs
    rw [hg] at hg'
    cases hg'
    -- the grown heap has a free cell: the empty free list became `capacity' - capacity > 0` new cells
    have hfl : g.free.length = g.cells.size - h.cells.size := by
      rw [gs.free, hf, List.append_nil, List.length_reverse, List.length_range']
    have hlt := gs.lt
    split at ha
    · rename_i q rest hgf
      obtain ⟨h1, hst, e⟩ := ok_of_bind ha
      cases e
      rw [pop_proj hgf (by omega) hst, grow_proj gs, HeapPolicy.alloc, if_neg hnl]
      rfl
    · rename_i hgf
      rw [hgf] at hfl
      exact absurd hfl (by simp only [List.length_nil]; omega)

theorem usedSize_inv (h : Heap) (u : Nat) (hu : h.usedSize = .ok u) :
    h.free.length ≤ h.cells.size ∧ u = h.cells.size - h.free.length := by
  unfold Heap.usedSize Heap.freeSize Heap.capacity at hu
  split at hu
  · cases hu; exact ⟨by assumption, rfl⟩
  · cases hu

theorem collects_eq (force : Bool) (s : PState) :
    collects force s = !(!force && !Heap.utilAtLeast34 s.used s.capacity) := by
  unfold collects
  cases force <;> cases Heap.utilAtLeast34 s.used s.capacity <;> rfl

theorem runGc_refines (fixed force : Bool) (h : Heap) (r : Roots) (res : Heap.GcResult)
    (hsz : h.gc.size = h.cells.size) (hnu : ∀ i : Nat, h.gc[i]? ≠ some GcState.used) (hs : Shape h)
    (hrun : Heap.runGc fixed force h r = .ok res) :
    match res with
    | .skipped h' => h' = h ∧ HeapPolicy.collects force (proj h) = false
    | .collected h' => HeapPolicy.collects force (proj h) = true ∧
        proj h' = HeapPolicy.gcPoint force (proj h').used (proj h)
    | .fuelExhausted => False := by
  unfold Heap.runGc at hrun
  obtain ⟨used, hu, hrun⟩ := ok_of_bind hrun
  obtain ⟨_, rfl⟩ := usedSize_inv h used hu
  have hcol := collects_eq force (proj h)
  split at hrun
  · rename_i hskip
    cases hrun
    exact ⟨rfl, by rw [hcol]; exact congrArg (!·) hskip⟩
  · rename_i hskip
    have hc : HeapPolicy.collects force (proj h) = true := by
      rw [hcol]; exact congrArg (!·) (Bool.eq_false_iff.mpr hskip)
    obtain ⟨h1, hm⟩ := mark_total fixed h (r.refs fixed)
    have ms := mark_spec fixed h (r.refs fixed) h1 hnu hm
    rw [hm] at hrun
    obtain ⟨h2, hsw, ss⟩ := sweep_spec h1 (by rw [ms.gcsize, ms.cells]; exact hsz)
    obtain ⟨h2', hsw', hrun⟩ := ok_of_bind hrun
    rw [hsw] at hsw'
    cases hsw'
    obtain ⟨used2, hu2, hrun⟩ := ok_of_bind hrun
    obtain ⟨_, rfl⟩ := usedSize_inv h2 used2 hu2
    have hcs : h2.cells.size = h.cells.size := by rw [ss.csize, ms.cells]
    have hch : h2.chunk = h.chunk := by rw [ss.chunk, ms.chunk]
    -- the sweep changes `used` only
    have e2 : proj h2 = ⟨h.chunk, h.cells.size, (proj h2).used⟩ := by
      simp only [proj, hcs, hch]
    split at hrun
    · rename_i hab
      have hs2 : Shape h2 := by
        obtain ⟨a, b, k, hk, hk2⟩ := hs
        exact ⟨by rw [hch]; exact a, by rw [hch]; exact b, k, hk, by rw [hcs, hch]; exact hk2⟩
      obtain ⟨h3, hg3, gs, _⟩ := grow_spec h2 (by rw [ss.gcsize, ms.gcsize, hcs, hsz]) hs2
      obtain ⟨h3', hg3', hrun⟩ := ok_of_bind hrun
      rw [hg3] at hg3'
      cases hg3'
      cases hrun
      refine ⟨hc, ?_⟩
      rw [grow_proj gs, hcs, hch, HeapPolicy.gcPoint, if_pos hc]
      have hab' : Heap.utilAbove34 (proj h2).used (proj h).capacity = true := by
        show Heap.utilAbove34 (proj h2).used h.cells.size = true
        rw [← hcs]; exact hab
      rw [if_pos hab', e2]
      rfl
    · rename_i hab
      cases hrun
      refine ⟨hc, ?_⟩
      have hab' : ¬ Heap.utilAbove34 (proj h2).used (proj h).capacity = true := by
        show ¬ Heap.utilAbove34 (proj h2).used h.cells.size = true
        rw [← hcs]; exact hab
      rw [HeapPolicy.gcPoint, if_pos hc, if_neg hab']
      exact e2

end Marwood.Lemmas.PolicyRefine
