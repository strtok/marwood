import Marwood.Depth
/-!
# Closed forms of the depth models on the nested families (for `Proofs/C19`)

Each depth model of `Marwood.Depth` on the families `nest`, `nestApp`, `nestLambda` and their token lists; then
the bounds by `carNest` that hold for every datum. Core Lean only.
-/
namespace Marwood.Depth
open Marwood

theorem immediate_nest_vec (n : Nat) : immediate (nest .vec n) = false := by
  cases n <;> rfl

theorem quoteSugar_car (x : Datum) : quoteSugar (.pair (nest .car 0) x) = none := rfl

theorem quoteSugar_pair_pair (a b x : Datum) : quoteSugar (.pair (.pair a b) x) = none := rfl

theorem quoteSugar_one (x : Datum) : quoteSugar (.pair one x) = none := rfl

theorem quoteSugar_quote (x : Datum) :
    quoteSugar (.pair (sym "quote") (.pair x .nil)) = some x := by
  simp [quoteSugar, sym]

theorem maybePut_car (n : Nat) : maybePutDepth (nest .car n) = 2 * n + 1 := by
  induction n with
  | zero => rfl
  | succ n ih => simp only [nest, maybePutDepth, ih]; simp +arith

theorem maybePut_cdr (n : Nat) : maybePutDepth (nest .cdr n) = 2 * n + 1 := by
  induction n with
  | zero => rfl
  | succ n ih => simp only [nest, maybePutDepth, ih, one]; simp +arith

theorem maybePut_vec (n : Nat) : maybePutDepth (nest .vec n) = n + 1 := by
  induction n with
  | zero => rfl
  | succ n ih => simp only [nest, maybePutDepth, maybePutElems, ih]; simp +arith

theorem maybePut_quote (n : Nat) : maybePutDepth (nest .quote n) = 4 * n + 1 := by
  induction n with
  | zero => rfl
  | succ n ih => simp only [nest, maybePutDepth, ih, sym]; simp +arith

theorem getVal_car (n : Nat) : getValDepth (nest .car n) = 2 * n + 1 := by
  induction n with
  | zero => rfl
  | succ n ih => simp only [nest, getValDepth, getSpine, ih]; simp +arith

theorem getSpine_cdr (n : Nat) : getSpine (nest .cdr n) = if n = 0 then 0 else 2 := by
  induction n with
  | zero => rfl
  | succ n ih => simp only [nest, getSpine, getValDepth, ih, one]; cases n <;> rfl

theorem getVal_cdr (n : Nat) : getValDepth (nest .cdr n) = if n = 0 then 1 else 3 := by
  cases n with
  | zero => rfl
  | succ n => simp only [nest, getValDepth, getSpine_cdr, one]; split <;> simp

theorem getVal_vec (n : Nat) : getValDepth (nest .vec n) = 2 * n + 1 := by
  induction n with
  | zero => rfl
  | succ n ih =>
    simp only [nest, getValDepth, getElems, immediate_nest_vec, ih]; simp +arith

theorem getVal_quote (n : Nat) : getValDepth (nest .quote n) = 2 * n + 1 := by
  induction n with
  | zero => rfl
  | succ n ih => simp only [nest, getValDepth, getSpine, ih, sym]; simp +arith

theorem markIn_car (n : Nat) : markIn (nest .car n) = n := by
  induction n with
  | zero => rfl
  | succ n ih => simp only [nest, markIn, ih]; simp +arith

theorem markIn_cdr (n : Nat) : markIn (nest .cdr n) = if n = 0 then 0 else 1 := by
  induction n with
  | zero => rfl
  | succ n ih => simp only [nest, markIn, ih, one]; cases n <;> rfl

theorem markIn_vec (n : Nat) : markIn (nest .vec n) = 2 * n := by
  induction n with
  | zero => rfl
  | succ n ih => simp only [nest, markIn, markElems, immediate_nest_vec, ih]; simp +arith

theorem markIn_quote (n : Nat) : markIn (nest .quote n) = n := by
  induction n with
  | zero => rfl
  | succ n ih => simp only [nest, markIn, ih, sym]; simp +arith

theorem equal_car (n : Nat) : equalDepth (nest .car n) = 2 * n + 1 := by
  induction n with
  | zero => rfl
  | succ n ih => simp only [nest, equalDepth, equalSpine, ih]; simp +arith

theorem equalSpine_cdr (n : Nat) : equalSpine (nest .cdr n) = 1 := by
  induction n with
  | zero => rfl
  | succ n ih => simp only [nest, equalSpine, equalDepth, ih, one]; simp

theorem equal_cdr (n : Nat) : equalDepth (nest .cdr n) = if n = 0 then 1 else 3 := by
  cases n with
  | zero => rfl
  | succ n => simp only [nest, equalDepth, equalSpine_cdr, one]; simp

theorem equal_vec (n : Nat) : equalDepth (nest .vec n) = 2 * n + 2 := by
  induction n with
  | zero => rfl
  | succ n ih => simp only [nest, equalDepth, equalElems, ih]; simp +arith

theorem equal_quote (n : Nat) : equalDepth (nest .quote n) = 2 * n + 1 := by
  induction n with
  | zero => rfl
  | succ n ih => simp only [nest, equalDepth, equalSpine, ih, sym]; simp +arith

theorem drop_car (n : Nat) : dropDepth (nest .car n) = n + 1 := by
  induction n with
  | zero => rfl
  | succ n ih => simp only [nest, dropDepth, ih]; simp +arith

theorem drop_cdr (n : Nat) : dropDepth (nest .cdr n) = n + 1 := by
  induction n with
  | zero => rfl
  | succ n ih => simp only [nest, dropDepth, ih, one]; simp +arith

theorem drop_vec (n : Nat) : dropDepth (nest .vec n) = n + 1 := by
  induction n with
  | zero => rfl
  | succ n ih => simp only [nest, dropDepth, dropElems, ih]; simp +arith

theorem drop_quote (n : Nat) : dropDepth (nest .quote n) = 2 * n + 1 := by
  induction n with
  | zero => rfl
  | succ n ih => simp only [nest, dropDepth, ih, sym]; simp +arith

theorem quoteSugar_nil_tail (a : Datum) : quoteSugar (.pair a .nil) = none := by
  cases a <;> simp [quoteSugar]

theorem quoteSugar_num (k : Num) (x : Datum) : quoteSugar (.pair (.num k) x) = none := by
  simp [quoteSugar]

theorem displayDepth_pair_none (a d : Datum) (h : quoteSugar (.pair a d) = none) :
    displayDepth (.pair a d) = 1 + max (displayDepth a) (displaySpine d) := by
  cases d <;> simp only [displayDepth, h]

theorem display_car (n : Nat) : displayDepth (nest .car n) = n + 1 := by
  induction n with
  | zero => rfl
  | succ n ih => simp only [nest, displayDepth, quoteSugar_nil_tail, displaySpine, ih]; simp +arith

theorem displaySpine_cdr (n : Nat) : displaySpine (nest .cdr n) = if n = 0 then 0 else 1 := by
  induction n with
  | zero => rfl
  | succ n ih => simp only [nest, displaySpine, displayDepth, ih, one]; cases n <;> rfl

theorem display_cdr (n : Nat) : displayDepth (nest .cdr n) = if n = 0 then 1 else 2 := by
  cases n with
  | zero => rfl
  | succ n =>
    simp only [nest, one]
    rw [displayDepth_pair_none _ _ (quoteSugar_num _ _), displaySpine_cdr]
    by_cases h : n = 0 <;> simp [h, displayDepth]

theorem display_vec (n : Nat) : displayDepth (nest .vec n) = n + 1 := by
  induction n with
  | zero => rfl
  | succ n ih => simp only [nest, displayDepth, displayElems, ih]; simp +arith

theorem display_quote (n : Nat) : displayDepth (nest .quote n) = n + 1 := by
  induction n with
  | zero => rfl
  | succ n ih => simp only [nest, displayDepth, quoteSugar_quote, ih]; simp +arith

/-! The reader's functions on the token that decides the call. Calling `parse` for an element needs no side
condition: where `parse` returns a datum the input begins with neither `)` nor `.`. -/

theorem exists_fuel (k : Nat) {b f : Nat} (h : b + k ≤ f) : ∃ g, f = g + k := ⟨f - k, by omega⟩

theorem res_eq {m m' : Nat} {r : Option (List Tk)} (h : m = m') :
    (some (m, r) : Option DRes) = some (m', r) := h ▸ rfl

theorem parseD_lp (f d : Nat) (ts : List Tk) :
    parseD (f + 1) d (.lp :: ts) = listD f (d + 1) false ts := by rw [parseD]

theorem parseD_hp (f d : Nat) (ts : List Tk) :
    parseD (f + 1) d (.hp :: ts) = vecD f (d + 1) ts := by rw [parseD]

theorem parseD_wrap (f d : Nat) (ts : List Tk) :
    parseD (f + 1) d (.wrap :: ts) = parseD f (d + 1) ts := by rw [parseD]

theorem parseD_atom {f : Nat} (hf : 0 < f) (d : Nat) (ts : List Tk) :
    parseD f d (.atom :: ts) = some (d, some ts) := by
  cases f with
  | zero => cases hf
  | succ f => rw [parseD]

theorem listD_rp {f : Nat} (hf : 0 < f) (d : Nat) (ne : Bool) (ts : List Tk) :
    listD f d ne (.rp :: ts) = some (d, some ts) := by
  cases f with
  | zero => cases hf
  | succ f => rw [listD]

theorem vecD_rp {f : Nat} (hf : 0 < f) (d : Nat) (ts : List Tk) :
    vecD f d (.rp :: ts) = some (d, some ts) := by
  cases f with
  | zero => cases hf
  | succ f => rw [vecD]

theorem listD_dot (f d : Nat) (ne : Bool) (ts : List Tk) :
    listD (f + 1) d ne (.dot :: ts) = tailD f (d + 1) ne ts := by rw [listD]

theorem listD_elem {f d m m' : Nat} {ne : Bool} {ts rest : List Tk} {r : Option (List Tk)}
    (h1 : parseD f (d + 1) ts = some (m, some rest)) (h2 : listD f d true rest = some (m', r)) :
    listD (f + 1) d ne ts = some (max m m', r) := by
  cases f with
  | zero => simp [parseD] at h1
  | succ f =>
    cases ts with
    | nil => simp [parseD] at h1
    | cons t ts =>
      cases t with
      | rp | dot => simp [parseD] at h1
      | _ => simp only [listD, h1, h2]

theorem vecD_elem {f d m m' : Nat} {ts rest : List Tk} {r : Option (List Tk)}
    (h1 : parseD f (d + 1) ts = some (m, some rest)) (h2 : vecD f d rest = some (m', r)) :
    vecD (f + 1) d ts = some (max m m', r) := by
  cases f with
  | zero => simp [parseD] at h1
  | succ f =>
    cases ts with
    | nil => simp [parseD] at h1
    | cons t ts =>
      cases t with
      | rp | dot => simp [parseD] at h1
      | _ => simp only [vecD, h1, h2]

/-- at `ne = true`: a dot before any element is an error (`( . 1)`) -/
theorem tailD_elem {f d m : Nat} {ts rest : List Tk}
    (h : parseD f (d + 1) ts = some (m, some (.rp :: rest))) :
    tailD (f + 1) d true ts = some (m, some rest) := by
  cases f with
  | zero => simp [parseD] at h
  | succ f =>
    cases ts with
    | nil => simp [parseD] at h
    | cons t ts =>
      cases t with
      | rp | dot => simp [parseD] at h
      | _ => simp [tailD, h]

theorem parseD_car (n : Nat) : ∀ (f d : Nat) (rest : List Tk), 2 * n + 2 ≤ f →
    parseD f d (carToks n rest) = some (d + 2 * n + 1, some rest) := by
  induction n with
  | zero =>
    intro f d rest hf
    obtain ⟨f, rfl⟩ := exists_fuel 1 hf
    rw [carToks, parseD_lp, listD_rp (by omega)]
  | succ n ih =>
    intro f d rest hf
    obtain ⟨f, rfl⟩ := exists_fuel 2 hf
    rw [carToks, parseD_lp, listD_elem (ih f _ _ (by omega)) (listD_rp (by omega) ..)]
    exact res_eq (by simp +arith)

theorem parseD_vec (n : Nat) : ∀ (f d : Nat) (rest : List Tk), 2 * n + 2 ≤ f →
    parseD f d (vecToks n rest) = some (d + 2 * n + 1, some rest) := by
  induction n with
  | zero =>
    intro f d rest hf
    obtain ⟨f, rfl⟩ := exists_fuel 1 hf
    rw [vecToks, parseD_hp, vecD_rp (by omega)]
  | succ n ih =>
    intro f d rest hf
    obtain ⟨f, rfl⟩ := exists_fuel 2 hf
    rw [vecToks, parseD_hp, vecD_elem (ih f _ _ (by omega)) (vecD_rp (by omega) ..)]
    exact res_eq (by simp +arith)

theorem parseD_quote (n : Nat) : ∀ (f d : Nat) (rest : List Tk), n + 1 ≤ f →
    parseD f d (quoteToks n rest) = some (d + n, some rest) := by
  induction n with
  | zero => intro f d rest hf; exact parseD_atom hf ..
  | succ n ih =>
    intro f d rest hf
    obtain ⟨f, rfl⟩ := exists_fuel 1 hf
    rw [quoteToks, parseD_wrap, ih f _ _ (by omega)]
    exact res_eq (by simp +arith)

theorem listD_atoms (n : Nat) : ∀ (f d : Nat) (ne : Bool) (rest : List Tk), n + 2 ≤ f →
    listD f d ne (atoms (n + 1) (.rp :: rest)) = some (d + 1, some rest) := by
  induction n with
  | zero =>
    intro f d ne rest hf
    obtain ⟨f, rfl⟩ := exists_fuel 1 hf
    rw [atoms, atoms, listD_elem (parseD_atom (by omega) ..) (listD_rp (by omega) ..)]
    exact res_eq (by simp +arith)
  | succ n ih =>
    intro f d ne rest hf
    obtain ⟨f, rfl⟩ := exists_fuel 1 hf
    rw [atoms, listD_elem (parseD_atom (by omega) ..) (ih f d true rest (by omega))]
    exact res_eq (by simp +arith)

theorem parseD_cdr (n f : Nat) (hf : n + 2 ≤ f) :
    parseD f 1 (.lp :: atoms n [.rp]) = some (if n = 0 then 2 else 3, some []) := by
  obtain ⟨f, rfl⟩ := exists_fuel 1 hf
  rw [parseD_lp]
  cases n with
  | zero => exact listD_rp (by omega) ..
  | succ n => exact listD_atoms n f 2 false [] (by omega)

theorem parseD_dot (n : Nat) : ∀ (f d : Nat) (rest : List Tk), 4 * n + 4 ≤ f →
    parseD f d (dotToks n rest) = some (d + 3 * n + 1, some rest) := by
  induction n with
  | zero =>
    intro f d rest hf
    obtain ⟨f, rfl⟩ := exists_fuel 1 hf
    rw [dotToks, parseD_lp, listD_rp (by omega)]
  | succ n ih =>
    intro f d rest hf
    obtain ⟨f, rfl⟩ := exists_fuel 4 hf
    rw [dotToks, parseD_lp, listD_elem (parseD_atom (by omega) ..)
      ((listD_dot ..).trans (tailD_elem (ih f _ _ (by omega))))]
    exact res_eq (by simp +arith)

theorem parseD_app (n : Nat) : ∀ (f d : Nat) (rest : List Tk), 4 * n + 4 ≤ f →
    parseD f d (appToks n rest) = some (d + 2 * n, some rest) := by
  induction n with
  | zero => intro f d rest hf; exact parseD_atom (by omega) ..
  | succ n ih =>
    intro f d rest hf
    obtain ⟨f, rfl⟩ := exists_fuel 4 hf
    rw [appToks, parseD_lp, listD_elem (parseD_atom (by omega) ..)
      (listD_elem (parseD_atom (by omega) ..)
        (listD_elem (ih f _ _ (by omega)) (listD_rp (by omega) ..)))]
    exact res_eq (by simp +arith)

theorem length_carToks (n : Nat) : ∀ rest, (carToks n rest).length = 2 * n + 2 + rest.length := by
  induction n with
  | zero => intro rest; simp [carToks]; omega
  | succ n ih => intro rest; simp [carToks, ih]; omega

theorem length_vecToks (n : Nat) : ∀ rest, (vecToks n rest).length = 2 * n + 2 + rest.length := by
  induction n with
  | zero => intro rest; simp [vecToks]; omega
  | succ n ih => intro rest; simp [vecToks, ih]; omega

theorem length_quoteToks (n : Nat) : ∀ rest, (quoteToks n rest).length = n + 1 + rest.length := by
  induction n with
  | zero => intro rest; simp [quoteToks]; omega
  | succ n ih => intro rest; simp [quoteToks, ih]; omega

theorem length_atoms (n : Nat) : ∀ rest, (atoms n rest).length = n + rest.length := by
  induction n with
  | zero => intro rest; simp [atoms]
  | succ n ih => intro rest; simp [atoms, ih]; omega

theorem length_dotToks (n : Nat) : ∀ rest, (dotToks n rest).length = 4 * n + 2 + rest.length := by
  induction n with
  | zero => intro rest; simp [dotToks]; omega
  | succ n ih => intro rest; simp [dotToks, ih]; omega

theorem length_appToks (n : Nat) : ∀ rest, (appToks n rest).length = 4 * n + 1 + rest.length := by
  induction n with
  | zero => intro rest; simp [appToks]; omega
  | succ n ih => intro rest; simp [appToks, ih]; omega

theorem symIs_plus : symIs "quote" (sym "+") = false ∧ symIs "define-syntax" (sym "+") = false ∧
    otherHead (sym "+") = false ∧ symIs "if" (sym "+") = false ∧ symIs "lambda" (sym "+") = false ∧
    symIs "λ" (sym "+") = false := by
  simp [symIs, sym, otherHead]

theorem symIs_lambda : symIs "quote" (sym "lambda") = false ∧
    symIs "define-syntax" (sym "lambda") = false ∧
    otherHead (sym "lambda") = false ∧ symIs "if" (sym "lambda") = false ∧
    symIs "lambda" (sym "lambda") = true := by
  simp [symIs, sym, otherHead]

theorem symIs_pair (s : String) (a d : Datum) : symIs s (.pair a d) = false := rfl

theorem otherHead_pair (a d : Datum) : otherHead (.pair a d) = false := rfl

theorem transform_app (n : Nat) : transformDepth (nestApp n) = 2 * n + 1 := by
  induction n with
  | zero => simp [nestApp, transformDepth, zero]
  | succ n ih =>
    simp only [nestApp, Datum.ofList, transformDepth, transformArgs, symIs_plus, ih, one]
    simp [transformDepth, sym]; omega

theorem compileExpr_app (n : Nat) : compileExprDepth (nestApp n) = 3 * n + 1 := by
  induction n with
  | zero => simp [nestApp, compileExprDepth, zero]
  | succ n ih =>
    simp only [nestApp, Datum.ofList, compileExprDepth, compileArgs, symIs_plus, ih, one]
    simp [compileExprDepth, sym]; omega

theorem transform_lambda (n : Nat) : transformDepth (nestLambda n) = 4 * n + 1 := by
  induction n with
  | zero => simp [nestLambda, transformDepth, zero]
  | succ n ih =>
    simp only [nestLambda, Datum.ofList, transformDepth, transformArgs, symIs_lambda, symIs_pair, ih]
    simp [transformDepth, sym]; omega

theorem compileExpr_lambda (n : Nat) : compileExprDepth (nestLambda n) = 6 * n + 1 := by
  induction n with
  | zero => simp [nestLambda, compileExprDepth, zero]
  | succ n ih =>
    simp only [nestLambda, Datum.ofList, compileExprDepth, compileArgs, symIs_lambda, symIs_pair,
      otherHead_pair, ih]
    simp; omega

mutual
/-- car / vector-element steps on a path into the datum, at most; cdr steps are free -/
def carNest : Datum → Nat
  | .pair a d => max (1 + carNest a) (carNest d)
  | .vec es => elemsNest es
  | _ => 0
def elemsNest : Datum → Nat
  | .pair e rest => max (1 + carNest e) (elemsNest rest)
  | _ => 0
end

theorem carNest_immediate (e : Datum) (h : immediate e = true) : carNest e = 0 := by
  cases e <;> simp_all [immediate, carNest]

theorem max_le_max {x y x' y' : Nat} (hx : x ≤ x') (hy : y ≤ y') : max x y ≤ max x' y' :=
  Nat.max_le.2 ⟨Nat.le_trans hx (Nat.le_max_left ..), Nat.le_trans hy (Nat.le_max_right ..)⟩

theorem max_mul_le {c x y na nd u : Nat} (hx : x ≤ c * (1 + na) + u) (hy : y ≤ c * nd + u) :
    max x y ≤ c * max (1 + na) nd + u :=
  Nat.max_le.2
    ⟨Nat.le_trans hx (Nat.add_le_add_right (Nat.mul_le_mul_left c (Nat.le_max_left ..)) u),
     Nat.le_trans hy (Nat.add_le_add_right (Nat.mul_le_mul_left c (Nat.le_max_right ..)) u)⟩

/-! The last component of each bound reads `x` as the element spine of a vector: `Datum.vec` keeps its elements as
a pair spine, so one induction over `Datum` serves a depth model and its `…Elems` companion. Only the marker's
`2·carNest + 1` is attained (`nest .vec`). -/

theorem markIn_carNest (x : Datum) :
    (carNest x ≤ markIn x ∧ markIn x ≤ 2 * carNest x) ∧
    (elemsNest x ≤ markElems x ∧ markElems x ≤ 2 * elemsNest x) := by
  induction x with
  | pair a d iha ihd =>
    have he : 1 + carNest a ≤ (if immediate a then 1 else 2 + markIn a) ∧
        (if immediate a then 1 else 2 + markIn a) ≤ 2 * (1 + carNest a) := by
      split
      · have := carNest_immediate a ‹_›; omega
      · omega
    exact ⟨⟨max_le_max (by omega) ihd.1.1, max_mul_le (u := 0) (by omega) ihd.1.2⟩,
      max_le_max he.1 ihd.2.1, max_mul_le (u := 0) he.2 ihd.2.2⟩
  | vec es ih => exact ⟨ih.2, Nat.le_refl _, Nat.zero_le _⟩
  | _ => simp [carNest, markIn, elemsNest, markElems]

theorem length_le_dropDepth (x : Datum) : (Datum.listElems x).length ≤ dropDepth x := by
  induction x with
  | pair a d _ ihd => simp only [Datum.listElems, List.length_cons, dropDepth]; omega
  | _ => simp [Datum.listElems]

theorem length_le_maybePutDepth (x : Datum) : (Datum.listElems x).length ≤ maybePutDepth x := by
  induction x with
  | pair a d _ ihd => simp only [Datum.listElems, List.length_cons, maybePutDepth]; omega
  | _ => simp [Datum.listElems]

theorem get_carNest (x : Datum) :
    getValDepth x ≤ 3 * carNest x + 2 ∧ getSpine x ≤ 3 * carNest x + 1 ∧
    getElems x ≤ 3 * elemsNest x := by
  induction x with
  | pair a d iha ihd =>
    have hs : getSpine (.pair a d) ≤ 3 * carNest (.pair a d) + 1 :=
      max_mul_le (by omega) ihd.2.1
    refine ⟨by show 1 + getSpine (.pair a d) ≤ _; omega, hs, max_mul_le (u := 0) ?_ ihd.2.2⟩
    split <;> omega
  | vec es ih => simp only [carNest, getValDepth, getSpine, getElems, elemsNest]; omega
  | _ => simp [carNest, getValDepth, getSpine, elemsNest, getElems]

theorem equal_carNest (x : Datum) :
    equalDepth x ≤ 4 * carNest x + 4 ∧ equalSpine x ≤ 4 * carNest x + 2 ∧
    equalElems x ≤ 4 * elemsNest x := by
  induction x with
  | pair a d iha ihd =>
    have hs : equalSpine (.pair a d) ≤ 4 * carNest (.pair a d) + 2 :=
      max_mul_le (by omega) ihd.2.1
    exact ⟨by show 2 + equalSpine (.pair a d) ≤ _; omega, hs,
      max_mul_le (u := 0) (by omega) ihd.2.2⟩
  | vec es ih => simp only [carNest, equalDepth, equalSpine, equalElems, elemsNest]; omega
  | _ => simp [carNest, equalDepth, equalSpine, elemsNest, equalElems]

theorem quoteSugar_some (a d x : Datum) (h : quoteSugar (.pair a d) = some x) :
    d = .pair x .nil := by
  unfold quoteSugar at h
  split at h
  · rename_i s y heq
    cases heq
    split at h
    · cases h; rfl
    · cases h
  · cases h

theorem displayDepth_pair_le (a d : Datum) :
    displayDepth (.pair a d) ≤ 1 + displaySpine (.pair a d) := by
  cases hq : quoteSugar (.pair a d) with
  | none => exact Nat.le_of_eq (displayDepth_pair_none a d hq)
  | some x =>
    cases quoteSugar_some a d x hq
    simp only [displayDepth, hq, displaySpine]; omega

theorem display_carNest (x : Datum) :
    displayDepth x ≤ 2 * carNest x + 2 ∧ displaySpine x ≤ 2 * carNest x + 1 ∧
    displayElems x ≤ 2 * elemsNest x := by
  induction x with
  | pair a d iha ihd =>
    have hs : displaySpine (.pair a d) ≤ 2 * carNest (.pair a d) + 1 :=
      max_mul_le (by omega) ihd.2.1
    have := displayDepth_pair_le a d
    exact ⟨by omega, hs, max_mul_le (u := 0) (by omega) ihd.2.2⟩
  | vec es ih => simp only [carNest, displayDepth, displaySpine, displayElems, elemsNest]; omega
  | _ => simp [carNest, displayDepth, displaySpine, elemsNest, displayElems]

theorem carNest_flat (xs : List Datum) (h : ∀ x ∈ xs, carNest x = 0) :
    carNest (Datum.ofList xs) ≤ 1 := by
  induction xs with
  | nil => simp [Datum.ofList, carNest]
  | cons x xs ih =>
    have hx := h x (by simp)
    have := ih (fun y hy => h y (by simp [hy]))
    simp only [Datum.ofList, carNest, hx]; omega

theorem carNest_ofListTail (xs : List Datum) (t : Datum) (k : Nat)
    (h : ∀ x ∈ xs, carNest x ≤ k) (ht : carNest t ≤ k + 1) :
    carNest (Datum.ofListTail xs t) ≤ k + 1 := by
  induction xs with
  | nil => simpa [Datum.ofListTail] using ht
  | cons x xs ih =>
    have hx := h x (by simp)
    have := ih (fun y hy => h y (by simp [hy]))
    simp only [Datum.ofListTail, carNest]; omega

theorem quoteSugar_pairsElem (i : Nat) (x : Datum) : quoteSugar (.pair (pairsElem i) x) = none := by
  unfold pairsElem; split <;> rfl

theorem maybePut_pairsElem (i : Nat) :
    maybePutDepth (pairsElem i) = if i % 2 = 0 then 3 else 2 := by
  unfold pairsElem; split <;> simp [maybePutDepth, maybePutElems, one, two]

theorem getVal_pairsElem (i : Nat) : getValDepth (pairsElem i) = if i % 2 = 0 then 3 else 2 := by
  unfold pairsElem; split <;> simp [getValDepth, getSpine, getElems, immediate, one, two]

theorem markIn_pairsElem (i : Nat) : markIn (pairsElem i) = 1 := by
  unfold pairsElem; split <;> simp [markIn, markElems, immediate, one, two]

theorem equal_pairsElem (i : Nat) : equalDepth (pairsElem i) = 3 := by
  unfold pairsElem; split <;> simp [equalDepth, equalSpine, equalElems, one, two]

theorem display_pairsElem (i : Nat) : displayDepth (pairsElem i) = 2 := by
  unfold pairsElem; split <;> simp [displayDepth, displaySpine, displayElems, quoteSugar, one, two]

theorem drop_pairsElem (i : Nat) : dropDepth (pairsElem i) = 2 := by
  unfold pairsElem; split <;> simp [dropDepth, dropElems, one, two]

theorem maybePut_cdrPairs (n : Nat) :
    maybePutDepth (nest .cdrPairs n) = if n = 0 then 1 else 2 * n + 3 := by
  induction n with
  | zero => rfl
  | succ n ih =>
    have hs : n + 1 ≠ 0 := by omega
    simp only [nest, maybePutDepth, ih, maybePut_pairsElem, hs, if_false]
    by_cases h : n = 0
    · subst h; simp
    · simp only [h, if_false]; split <;> simp +arith

theorem maybePut_cdrDotted (n : Nat) : maybePutDepth (nest .cdrDotted n) = 2 * n + 1 := by
  induction n with
  | zero => rfl
  | succ n ih => simp only [nest, maybePutDepth, ih, one]; simp +arith

theorem getSpine_cdrPairs (n : Nat) : getSpine (nest .cdrPairs n) = if n = 0 then 0 else 4 := by
  induction n with
  | zero => rfl
  | succ n ih =>
    simp only [nest, getSpine, ih, getVal_pairsElem]
    by_cases h : n = 0
    · subst h; simp
    · simp only [h, if_false]; split <;> simp

theorem getVal_cdrPairs (n : Nat) : getValDepth (nest .cdrPairs n) = if n = 0 then 1 else 5 := by
  cases n with
  | zero => rfl
  | succ n =>
    have h := getSpine_cdrPairs (n + 1)
    simp only [nest, getSpine] at h
    simp only [nest, getValDepth]
    simp only [Nat.add_one_ne_zero, if_false] at h ⊢
    omega

theorem getSpine_cdrDotted (n : Nat) : getSpine (nest .cdrDotted n) = if n = 0 then 1 else 2 := by
  induction n with
  | zero => rfl
  | succ n ih => simp only [nest, getSpine, getValDepth, ih, one]; cases n <;> rfl

theorem getVal_cdrDotted (n : Nat) : getValDepth (nest .cdrDotted n) = if n = 0 then 1 else 3 := by
  cases n with
  | zero => rfl
  | succ n => simp only [nest, getValDepth, getSpine_cdrDotted, one]; split <;> simp

theorem markIn_cdrPairs (n : Nat) : markIn (nest .cdrPairs n) = if n = 0 then 0 else 2 := by
  induction n with
  | zero => rfl
  | succ n ih => simp only [nest, markIn, ih, markIn_pairsElem]; cases n <;> rfl

theorem markIn_cdrDotted (n : Nat) : markIn (nest .cdrDotted n) = if n = 0 then 0 else 1 := by
  induction n with
  | zero => rfl
  | succ n ih => simp only [nest, markIn, ih, one]; cases n <;> rfl

theorem equalSpine_cdrPairs (n : Nat) :
    equalSpine (nest .cdrPairs n) = if n = 0 then 1 else 3 := by
  induction n with
  | zero => rfl
  | succ n ih => simp only [nest, equalSpine, ih, equal_pairsElem]; cases n <;> rfl

theorem equal_cdrPairs (n : Nat) : equalDepth (nest .cdrPairs n) = if n = 0 then 1 else 5 := by
  cases n with
  | zero => rfl
  | succ n => simp only [nest, equalDepth, equalSpine_cdrPairs, equal_pairsElem]; split <;> simp

theorem equalSpine_cdrDotted (n : Nat) : equalSpine (nest .cdrDotted n) = 1 := by
  induction n with
  | zero => rfl
  | succ n ih => simp only [nest, equalSpine, equalDepth, ih, one]; simp

theorem equal_cdrDotted (n : Nat) : equalDepth (nest .cdrDotted n) = if n = 0 then 1 else 3 := by
  cases n with
  | zero => rfl
  | succ n => simp only [nest, equalDepth, equalSpine_cdrDotted, one]; simp

theorem drop_cdrPairs (n : Nat) : dropDepth (nest .cdrPairs n) = if n = 0 then 1 else n + 2 := by
  induction n with
  | zero => rfl
  | succ n ih => simp only [nest, dropDepth, ih, drop_pairsElem]; split <;> simp <;> omega

theorem drop_cdrDotted (n : Nat) : dropDepth (nest .cdrDotted n) = n + 1 := by
  induction n with
  | zero => rfl
  | succ n ih => simp only [nest, dropDepth, ih, one]; simp +arith

theorem displaySpine_cdrPairs (n : Nat) :
    displaySpine (nest .cdrPairs n) = if n = 0 then 0 else 2 := by
  induction n with
  | zero => rfl
  | succ n ih => simp only [nest, displaySpine, ih, display_pairsElem]; cases n <;> rfl

theorem display_cdrPairs (n : Nat) : displayDepth (nest .cdrPairs n) = if n = 0 then 1 else 3 := by
  cases n with
  | zero => rfl
  | succ n =>
    simp only [nest]
    rw [displayDepth_pair_none _ _ (quoteSugar_pairsElem _ _), displaySpine_cdrPairs,
      display_pairsElem]
    by_cases h : n = 0 <;> simp [h]

theorem displaySpine_cdrDotted (n : Nat) :
    displaySpine (nest .cdrDotted n) = 1 := by
  induction n with
  | zero => rfl
  | succ n ih => simp only [nest, displaySpine, displayDepth, ih, one]; simp

theorem display_cdrDotted (n : Nat) : displayDepth (nest .cdrDotted n) = if n = 0 then 1 else 2 := by
  cases n with
  | zero => rfl
  | succ n =>
    simp only [nest, one]
    rw [displayDepth_pair_none _ _ (quoteSugar_num _ _), displaySpine_cdrDotted]
    simp [displayDepth]

theorem parseD_pairsElem (i : Nat) (f d : Nat) (rest : List Tk) (hf : 5 ≤ f) :
    parseD f d (pairsElemToks i rest) = some (if i % 2 = 0 then d + 3 else d + 2, some rest) := by
  obtain ⟨f, rfl⟩ := exists_fuel 5 hf
  unfold pairsElemToks
  split
  · simp [parseD, listD, tailD]
  · simp [parseD, vecD]

theorem listD_pairs (n : Nat) : ∀ (f d : Nat) (ne : Bool) (rest : List Tk), n + 6 ≤ f →
    listD f d ne (pairsToks (n + 1) (.rp :: rest)) = some (d + 4, some rest) := by
  induction n with
  | zero =>
    intro f d ne rest hf
    obtain ⟨f, rfl⟩ := exists_fuel 1 hf
    rw [pairsToks, pairsToks, listD_elem (parseD_pairsElem 0 f _ _ (by omega))
      (listD_rp (by omega) ..)]
    exact res_eq (by simp only [Nat.zero_mod, if_true]; omega)
  | succ n ih =>
    intro f d ne rest hf
    obtain ⟨f, rfl⟩ := exists_fuel 1 hf
    rw [pairsToks, listD_elem (parseD_pairsElem (n + 1) f _ _ (by omega))
      (ih f d true rest (by omega))]
    exact res_eq (by split <;> omega)

theorem length_pairsToks (n : Nat) : ∀ rest, (pairsToks n rest).length ≤ 5 * n + rest.length ∧
    n + rest.length ≤ (pairsToks n rest).length := by
  induction n with
  | zero => intro rest; simp [pairsToks]
  | succ n ih =>
    intro rest
    have := ih rest
    simp only [pairsToks, pairsElemToks]
    split <;> simp <;> omega

theorem parseD_cdrPairs (n f : Nat) (hf : n + 6 ≤ f) :
    parseD f 1 (.lp :: pairsToks n [.rp]) = some (if n = 0 then 2 else 6, some []) := by
  obtain ⟨f, rfl⟩ := exists_fuel 1 hf
  rw [parseD_lp]
  cases n with
  | zero => exact listD_rp (by omega) ..
  | succ n => exact listD_pairs n f 2 false [] (by omega)

theorem listD_atoms_dot (n : Nat) : ∀ (f d : Nat) (ne : Bool) (rest : List Tk), n + 3 ≤ f →
    (n = 0 → ne = true) →
    listD f d ne (atoms n (.dot :: .atom :: .rp :: rest)) = some (d + 2, some rest) := by
  induction n with
  | zero =>
    intro f d ne rest hf hne
    obtain ⟨f, rfl⟩ := exists_fuel 2 hf
    rw [atoms, listD_dot, hne rfl, tailD_elem (parseD_atom (by omega) ..)]
  | succ n ih =>
    intro f d ne rest hf _
    obtain ⟨f, rfl⟩ := exists_fuel 1 hf
    rw [atoms, listD_elem (parseD_atom (by omega) ..) (ih f d true rest (by omega) fun _ => rfl)]
    exact res_eq (by simp +arith)

theorem parseD_cdrDotted (n f : Nat) (hf : n + 4 ≤ f) :
    parseD f 1 (dottedToks n) = some (if n = 0 then 1 else 4, some []) := by
  obtain ⟨f, rfl⟩ := exists_fuel 1 hf
  unfold dottedToks
  by_cases h : n = 0
  · subst h; exact parseD_atom (by omega) ..
  · simp only [h, if_false, parseD_lp, listD_atoms_dot n f 2 false [] (by omega) (absurd · h)]

theorem length_dottedToks (n : Nat) : (dottedToks n).length = if n = 0 then 1 else n + 4 := by
  unfold dottedToks; split <;> simp [length_atoms]

end Marwood.Depth
