import Marwood.Lemmas.CompileCorrect2Concrete
import Marwood.Lemmas.ConcreteLawsOps
import Marwood.Lemmas.CompileCorrect2Pres
import Marwood.Lemmas.CompileCorrectConcrete
/-!
# T01.3 stage 2 on the concrete heap: the representation, and what it keeps when cells are kept

`cD`: values are the store-free representation `atomVR` of stage 1 closed under heap pairs; the environment-map sources
of a lambda are read off its heap cell; the heap invariant is `CInv` (`Lemmas/ConcreteLaws.lean`), `FreeInv` and "the
named global slots exist". `Keeps h h'`: every cell of `h` that is not `Undefined` is still there in `h'`, except that
a lexical environment may have been replaced by another one (assignment). This is what allocation (`Alloc.keeps`) and
`envPut` do, and it is all the representation needs: `ext2_of_keeps`.
-/
namespace Marwood.Lemmas.CompileCorrect2.Conc
open Marwood Marwood.Vm Marwood.Vm.Concrete Marwood.Lemmas.CompileCorrect Marwood.Lemmas.CompileCorrect2
open Marwood.Spec.Eval (Val Cell)

/-- `Global` entries are never built by `new_from_iof` (`environment.rs`); CLOSURE and ENTER treat them like internal
    definitions -/
def conv : Concrete.Source → RSrc
  | .iofArg n => .iofArg n
  | .iofEnv n => .iofEnv n
  | .arg n => .arg n
  | .global => .internal
  | .internal => .internal

def cBase (ext : ExtOps) (E : AtomEnc) (h : CHeap) (v : VCell) (w : Val) : Prop :=
  atomVR (concreteOps ext) E h #[] v w

abbrev cVR (ext : ExtOps) (E : AtomEnc) (h : CHeap) (S : Array Cell) (v : VCell) (w : Val) : Prop :=
  ClosedVR (concreteOps ext) (fun _ _ => none) (cBase ext E) h S v w

def cD (ext : ExtOps) (E : AtomEnc) (named : Text → Prop) (slot : Text → Nat) (LM : Nat → Nat)
    (final : List LambdaM) (setG : Text → Prop) : RepData2 (concreteOps ext) :=
  { named := named, slot := slot, VR := cVR ext E
    SRx := fun h _ => CInv h ∧ FreeInv h ∧ ∀ x, named x → slot x < h.globals.size
    vecElems := fun _ _ => none
    envOK := fun h e => ∃ ss, envAt h e = some ss
    lamSrcs := fun h l => (lambdaAt h l).map fun lam => lam.envmap.map fun p => conv p.2
    LM := LM, final := final, setG := setG }

def Keeps (h h' : CHeap) : Prop :=
  ∀ (i : Nat) (c : CCell), h.cells[i]? = some c → c ≠ CCell.val .undefined →
    h'.cells[i]? = some c ∨ ∃ ss ss', c = CCell.lexEnv ss ∧ h'.cells[i]? = some (CCell.lexEnv ss')

theorem Keeps.refl (h : CHeap) : Keeps h h := fun _ _ hc _ => .inl hc

theorem Alloc.keeps {h h' : CHeap} {p : Nat} {c : CCell} (a : Alloc h h' p c) : Keeps h h' :=
  fun _ _ hc hne => .inl (a.kept hc hne)

theorem Keeps.trans {a b c : CHeap} (h1 : Keeps a b) (h2 : Keeps b c) : Keeps a c := by
  intro i x hx hne
  rcases h1 i x hx hne with h | ⟨ss, ss', rfl, h⟩
  · exact h2 i x h hne
  · rcases h2 i _ h (by intro e; cases e) with h' | ⟨s1, s2, _, h'⟩
    · exact .inr ⟨ss, ss', rfl, h'⟩
    · exact .inr ⟨ss, s2, rfl, h'⟩

variable {ext : ExtOps} {E : AtomEnc}

theorem repr_undef {c : CCell} (h : Concrete.repr c = .undefined) : c = CCell.val .undefined := by
  cases c with
  | val v => simp only [Concrete.repr] at h; rw [h]
  | lexEnv s => cases h
  | vector s => cases h
  | lambda s => cases h
  | cont s => cases h

theorem Keeps.getAt {h h' : CHeap} (k : Keeps h h') {p : Nat} {c : VCell} (hg : Concrete.getAt h p = c)
    (hne : c ≠ .undefined) : Concrete.getAt h' p = c := by
  unfold Concrete.getAt at hg ⊢
  cases hc : h.cells[p]? with
  | none => rw [hc] at hg; exact absurd hg.symm hne
  | some cell =>
    rw [hc] at hg
    have hcn : cell ≠ CCell.val .undefined := by
      intro e; subst e; exact hne hg.symm
    rcases k p cell hc hcn with h1 | ⟨ss, ss', rfl, h1⟩
    · rw [h1]; exact hg
    · rw [h1]; exact hg

theorem Keeps.base {h h' : CHeap} (k : Keeps h h') {v : VCell} {w : Val} (x : cBase ext E h v w) :
    cBase ext E h' v w := by
  obtain ⟨c, hc, hv⟩ := x
  refine ⟨c, hc, ?_⟩
  rcases hv with hv | ⟨p, hp, hg⟩
  · exact .inl hv
  · exact .inr ⟨p, hp, k.getAt hg (cell_ne_undefined hc)⟩

theorem Keeps.derefPair {h h' : CHeap} (k : Keeps h h') {v : VCell} {a d : Nat}
    (x : Concrete.deref h v = .pair a d) : Concrete.deref h' v = .pair a d := by
  cases v with
  | ptr p => exact k.getAt x (by intro e; cases e)
  | _ => exact x

theorem Keeps.vr {h h' : CHeap} (k : Keeps h h') {S S' : Array Cell}
    (keep : ∀ (l : Nat) (c : Cell), S[l]? = some c → (∀ v, c ≠ .var v) → S'[l]? = some c) {v : VCell} {w : Val}
    (x : cVR ext E h S v w) : cVR ext E h' S' v w :=
  ClosedVR.transport (ops := concreteOps ext) (vecElems := fun _ _ => none) (base := cBase ext E) (h := h) (h' := h')
    (fun _ _ y => k.base y) (fun _ _ _ y => k.derefPair y) (fun _ _ y => y) keep x

theorem Keeps.lambdaAt {h h' : CHeap} (k : Keeps h h') {l : Nat} {lam : CLambda} (x : lambdaAt h l = some lam) :
    lambdaAt h' l = some lam := by
  have hc := lambdaAt_iff.mp x
  rcases k l _ hc (by intro e; cases e) with h1 | ⟨ss, ss', e, _⟩
  · exact lambdaAt_iff.mpr h1
  · cases e

theorem Keeps.envAt {h h' : CHeap} (k : Keeps h h') {e : Nat} {ss : List VCell} (x : envAt h e = some ss) :
    h'.cells[e]? = some (CCell.lexEnv ss) ∨ ∃ ss', h'.cells[e]? = some (CCell.lexEnv ss') := by
  rcases k e _ (envAt_cell x) (by intro e; cases e) with h1 | ⟨s1, s2, _, h1⟩
  · exact .inl h1
  · exact .inr ⟨s2, h1⟩

theorem callee_closure_inv {h : CHeap} {v : VCell} {l e : Nat} (x : Concrete.callee h v = .closure l e) :
    v = .closure l e ∨ ∃ p, v = .ptr p ∧ h.cells[p]? = some (CCell.val (.closure l e)) := by
  cases v with
  | ptr p =>
    cases hc : h.cells[p]? with
    | none =>
      have x' : (match h.cells[p]? with | some c => calleeOfCell c | none => Callee.other) = .closure l e := x
      rw [hc] at x'; cases x'
    | some cell =>
      rw [callee_of_cell hc] at x
      cases cell with
      | val v =>
        cases v with
        | closure l' e' => cases x; exact .inr ⟨p, rfl, hc⟩
        | _ => cases x
      | _ => cases x
  | closure l' e' => cases x; exact .inl rfl
  | _ => cases x

theorem Keeps.closure {h h' : CHeap} (k : Keeps h h') {v : VCell} {l e : Nat}
    (x : Concrete.callee h v = .closure l e) : Concrete.callee h' v = .closure l e := by
  rcases callee_closure_inv x with rfl | ⟨p, rfl, hc⟩
  · exact x
  · rcases k p _ hc (by intro e0; cases e0) with h1 | ⟨ss, ss', e0, _⟩
    · exact callee_of_cell h1
    · cases e0

theorem Keeps.env {h h' : CHeap} (k : Keeps h h') {e : Nat} (x : ∃ ss, Concrete.envAt h e = some ss) :
    ∃ ss, Concrete.envAt h' e = some ss := by
  obtain ⟨ss, hs⟩ := x
  rcases k.envAt hs with h1 | ⟨ss', h1⟩
  · exact ⟨ss, envAt_iff.mpr h1⟩
  · exact ⟨ss', envAt_iff.mpr h1⟩

theorem ext2_of_keeps {named : Text → Prop} {slot : Text → Nat} {LM : Nat → Nat} {final : List LambdaM}
    {setG : Text → Prop} {h h' : CHeap} (S : Array Cell) (k : Keeps h h')
    (hp : ∀ e n a b, Concrete.envGet h e n = some (.lexEnvPtr a b) → Concrete.envGet h' e n = some (.lexEnvPtr a b))
    (hv : ∀ e n v, Concrete.envGet h e n = some v → isEnvPtr v = false →
      ∃ v', Concrete.envGet h' e n = some v' ∧ isEnvPtr v' = false) :
    Ext2 (cD ext E named slot LM final setG) h S h' S := by
  refine ⟨StoreExt.refl _, fun _ _ x => k.vr (fun _ _ y _ => y) x,
    fun _ _ x => DatumAt.transport (D := (cD ext E named slot LM final setG).toRepData)
      (vecElems := fun _ _ => none) (h := h) (h' := h') (S := S) (S' := S) (fun _ _ y => k.vr (fun _ _ z _ => z) y)
      (fun _ _ _ y => k.derefPair y) (fun _ _ y => y) x,
    fun l x => ?_, fun v l e x => k.closure x, fun e x => k.env x, hp, hv⟩
  have x' : (lambdaAt h l).isSome = true := x
  obtain ⟨lam, hl⟩ := Option.isSome_iff_exists.mp x'
  have heq : lambdaAt h' l = lambdaAt h l := (k.lambdaAt hl).trans hl.symm
  refine ⟨?_, fun o => ?_, ?_, ?_⟩
  · show (lambdaAt h' l).isSome = true
    rw [heq]; exact x'
  · show (match lambdaAt h' l with | some lam => lam.bc[o]? | none => none) =
      (match lambdaAt h l with | some lam => lam.bc[o]? | none => none)
    rw [heq]
  · show (lambdaAt h' l).map _ = (lambdaAt h l).map _
    rw [heq]
  · show (lambdaAt h' l).map _ = (lambdaAt h l).map _
    rw [heq]

end Marwood.Lemmas.CompileCorrect2.Conc
