import Marwood.Lemmas.PrintLex
/-!
# The sign of an exponent belongs to the number token (lex.rs with c1c04ca; C16)

`scan_number` and the `Number` branch of `scan_dot` carry three booleans (mantissa, digits, marker) and accept `+`/`-`
directly after an exponent marker that follows a decimal mantissa: the loops `numberTail`, `dotNumberTail` run through
*mantissa body, marker, sign, digits* without leaving the `Number` type and stop at whatever ends a number token.
-/
namespace Marwood

theorem digit_facts {x : Char} (h : isAsciiDigit x = true) :
    isSubsequentNumber x = true ∧ (x == 'e' || x == 'E') = false ∧ (x == '.') = false := by
  have h1 : x ≠ 'e' := by rintro rfl; exact absurd h (by decide)
  have h2 : x ≠ 'E' := by rintro rfl; exact absurd h (by decide)
  have h3 : x ≠ '.' := by rintro rfl; exact absurd h (by decide)
  exact ⟨by simp [isSubsequentNumber, h], by simp [h1, h2], by simp [h3]⟩

theorem numberTail_exponent (d rest : Text) (e s : Char) (k : Bool)
    (he : e = 'e' ∨ e = 'E') (hs : s = '+' ∨ s = '-') (hd : ∀ x ∈ d, isAsciiDigit x = true)
    (hst : Stop rest) :
    numberTail true true k (e :: s :: (d ++ rest)) = (e :: s :: d, rest, false) := by
  have e1 : isSubsequentNumber e = true := by rcases he with rfl | rfl <;> decide
  have e2 : (e == 'e' || e == 'E') = true := by rcases he with rfl | rfl <;> decide
  have s1 : isSubsequentNumber s = false := by rcases hs with rfl | rfl <;> decide
  have s2 : (s == '+' || s == '-') = true := by rcases hs with rfl | rfl <;> decide
  rw [numberTail]
  simp only [e1, Bool.true_or, if_true, e2, Bool.and_self]
  rw [numberTail]
  simp only [s1, s2, Bool.and_self, Bool.or_true, if_true]
  rw [numberTail_stop d rest _ _ _ (fun x hx => (digit_facts (hd x hx)).1) hst]

/-- mantissa body (digits and dots, a digit seen by the end), marker, sign, digits -/
theorem numberTail_signedExp : ∀ (b d rest : Text) (e s : Char) (dg k : Bool),
    (∀ x ∈ b, isAsciiDigit x = true ∨ x = '.') → (dg || b.any isAsciiDigit) = true →
    (e = 'e' ∨ e = 'E') → (s = '+' ∨ s = '-') → (∀ x ∈ d, isAsciiDigit x = true) → Stop rest →
    numberTail true dg k (b ++ e :: s :: (d ++ rest)) = (b ++ e :: s :: d, rest, false) := by
  intro b
  induction b with
  | nil =>
    intro d rest e s dg k _ hdg he hs hd hst
    have : dg = true := by simpa using hdg
    subst this
    exact numberTail_exponent d rest e s k he hs hd hst
  | cons x b ih =>
    intro d rest e s dg k hb hdg he hs hd hst
    have hx := hb x (by simp)
    have hsub : isSubsequentNumber x = true := by
      rcases hx with h | rfl
      · exact (digit_facts h).1
      · decide
    have hmark : (x == 'e' || x == 'E') = false := by
      rcases hx with h | rfl
      · exact (digit_facts h).2.1
      · decide
    have hman : (isAsciiDigit x || x == '.') = true := by
      rcases hx with h | rfl
      · simp [h]
      · decide
    rw [List.cons_append, numberTail]
    simp only [hsub, Bool.true_or, if_true, hmark, hman, Bool.and_false, Bool.and_self]
    rw [ih d rest e s (dg || isAsciiDigit x) false (fun y hy => hb y (by simp [hy]))
      (by simpa [Bool.or_assoc] using hdg) he hs hd hst]
    rfl

theorem dotNumberTail_stop : ∀ (ds rest : Text) (m d k : Bool), (∀ x ∈ ds, isAsciiDigit x = true) →
    Stop rest → dotNumberTail m d k (ds ++ rest) = (ds, rest, false) := by
  intro ds
  induction ds with
  | nil =>
    intro rest m d k _ hst
    cases rest with
    | nil => rfl
    | cons c cs =>
      obtain ⟨h1, h2⟩ := hst
      have h3 := stop_not_sign h2
      have h0 : (c == '.') = false := by
        have : c ≠ '.' := by rintro rfl; exact absurd h1 (by decide)
        simp [this]
      simp [dotNumberTail, h0, h1, h3]
  | cons x ds ih =>
    intro rest m d k h hst
    obtain ⟨h1, _, h3⟩ := digit_facts (h x (by simp))
    simp only [List.cons_append, dotNumberTail, h3, Bool.false_eq_true, if_false, h1, Bool.true_or, if_true]
    rw [ih rest _ _ _ (fun y hy => h y (by simp [hy])) hst]

theorem dotNumberTail_exponent (d rest : Text) (e s : Char) (k : Bool)
    (he : e = 'e' ∨ e = 'E') (hs : s = '+' ∨ s = '-') (hd : ∀ x ∈ d, isAsciiDigit x = true)
    (hst : Stop rest) :
    dotNumberTail true true k (e :: s :: (d ++ rest)) = (e :: s :: d, rest, false) := by
  have e0 : (e == '.') = false := by rcases he with rfl | rfl <;> decide
  have e1 : isSubsequentNumber e = true := by rcases he with rfl | rfl <;> decide
  have e2 : (e == 'e' || e == 'E') = true := by rcases he with rfl | rfl <;> decide
  have s0 : (s == '.') = false := by rcases hs with rfl | rfl <;> decide
  have s1 : isSubsequentNumber s = false := by rcases hs with rfl | rfl <;> decide
  have s2 : (s == '+' || s == '-') = true := by rcases hs with rfl | rfl <;> decide
  rw [dotNumberTail]
  simp only [e0, Bool.false_eq_true, if_false, e1, Bool.true_or, if_true, e2, Bool.and_self]
  rw [dotNumberTail]
  simp only [s0, Bool.false_eq_true, if_false, s1, s2, Bool.and_self, Bool.or_true, if_true]
  rw [dotNumberTail_stop d rest _ _ _ hd hst]

/-- fraction digits (at least one), marker, sign, digits -/
theorem dotNumberTail_signedExp : ∀ (b d rest : Text) (e s : Char) (dg k : Bool),
    (∀ x ∈ b, isAsciiDigit x = true) → (dg || !b.isEmpty) = true →
    (e = 'e' ∨ e = 'E') → (s = '+' ∨ s = '-') → (∀ x ∈ d, isAsciiDigit x = true) → Stop rest →
    dotNumberTail true dg k (b ++ e :: s :: (d ++ rest)) = (b ++ e :: s :: d, rest, false) := by
  intro b
  induction b with
  | nil =>
    intro d rest e s dg k _ hdg he hs hd hst
    have : dg = true := by simpa using hdg
    subst this
    exact dotNumberTail_exponent d rest e s k he hs hd hst
  | cons x b ih =>
    intro d rest e s dg k hb hdg he hs hd hst
    have hx := hb x (by simp)
    obtain ⟨h1, h2, h3⟩ := digit_facts hx
    rw [List.cons_append, dotNumberTail]
    simp only [h3, Bool.false_eq_true, if_false, h1, Bool.true_or, if_true, h2, hx, Bool.and_false, Bool.and_self,
      Bool.or_true]
    rw [ih d rest e s true false (fun y hy => hb y (by simp [hy])) (by simp) he hs hd hst]
    rfl

/-! ## the loop before c1c04ca (`numberTailPinned`): a sign always ends the run of number characters -/

theorem numberTailPinned_delim : ∀ (ds rest : Text), (∀ x ∈ ds, isSubsequentNumber x = true) → Delim rest →
    numberTailPinned (ds ++ rest) = (ds, rest, false) := by
  intro ds
  induction ds with
  | nil =>
    intro rest _ hd
    cases rest with
    | nil => rfl
    | cons c cs =>
      have h1 : isSubsequentNumber c = false := by
        rcases hd with h | h <;> subst h <;> decide
      have h2 : isSubsequentIdentifier c = false := by
        rcases hd with h | h <;> subst h <;> decide
      simp [numberTailPinned, h1, h2]
  | cons d ds ih =>
    intro rest h hd
    have hdp : isSubsequentNumber d = true := h d (by simp)
    simp only [List.cons_append, numberTailPinned, hdp, if_true]
    rw [ih rest (fun x hx => h x (by simp [hx])) hd]

theorem numberTailPinned_cont : ∀ (ds rest : Text), (∀ x ∈ ds, contChar x = true) → Delim rest →
    numberTailPinned (ds ++ rest) = (ds, rest, ds.any (fun x => !isSubsequentNumber x)) := by
  intro ds
  induction ds with
  | nil =>
    intro rest _ hd
    have := numberTailPinned_delim [] rest (by simp) hd
    simpa using this
  | cons d ds ih =>
    intro rest h hd
    have hdc : contChar d = true := h d (by simp)
    have ih' := ih rest (fun x hx => h x (by simp [hx])) hd
    simp only [List.cons_append, numberTailPinned]
    by_cases hn : isSubsequentNumber d = true
    · simp only [hn, if_true, ih', List.any_cons, Bool.not_true, Bool.false_or]
    · have hn' : isSubsequentNumber d = false := by simpa using hn
      have hid : (isSubsequentIdentifier d && d != ';') = true := by
        simpa [contChar, hn'] using hdc
      simp only [hn', Bool.false_eq_true, if_false, hid, if_true, ih', List.any_cons, Bool.not_false, Bool.true_or]

end Marwood
