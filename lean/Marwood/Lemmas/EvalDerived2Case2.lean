import Marwood.Lemmas.EvalDerived2Case
/-!
# T01.2, second half, `case` clauses with a datum list (rules 4–7)

`(case k ((d …) r1 r2 …) clause …)` against `(if (memv k '(d …)) (begin r1 r2 …) [(case k clause …)])`
and the `=>` variants. The expansion evaluates `k`, appends the quoted list (one cell per datum) to the
store, asks `memv`, and then runs the body — or evaluates `k` AGAIN and continues with the remaining
clauses — in that larger store; the native meaning evaluates `k` once and compares with `eqv?` on
data. For an atomic key (no effect, same value) the two agree up to those cells.
-/
namespace Marwood.Spec.Eval.Derived
open Marwood Marwood.Spec.Eval Marwood.Spec.Eval.Prelude Marwood.Spec.Eval.Extra

theorem cleanBs_empty (ds : List Datum) : CleanBs [] ds := fun d _ => cleanB_nil d

def missBranch (r : Rec) (ρ : Env) (k : Datum) : List Datum → M Val
  | [] => pure .void
  | c :: cs' => r.eval (caseUse k (c :: cs')) ρ

/-- the common part of rules 4–7: the key `k` is atomic; `A` is what runs on a hit (natively `KA`), the
    remaining clauses `cs` run on a miss -/
theorem case_datum_agrees (ρ : Env) (k : Datum) (atoms : List Datum) (cs : List Datum) (C1 A : Datum)
    (KA : Rec → Val → M Val)
    (hC1 : ∀ (r : Rec) (key : Val), evalCase r ρ key (C1 :: cs) =
      if atoms.any (eqvDatum key) then KA r key else evalCase r ρ key cs)
    (hKA : ∀ (f : LMap), Inj f → ∀ (r r' : Rec), RecSimD f (fun _ => none) .left r r' → EnvRel f [] ρ ρ → ∀ key key', VRel f key key' →
      SimD f (fun _ => none) .left (VRel f) (KA r key) (KA r' key'))
    (hA : ∀ (m : Nat) (key' : Val) (s2 s2' : St), (evalN (m+1)).eval k ρ s2 = .ok key' s2' →
      KA (evalN (m+1)) key' s2' ≠ .timeout → (evalN (m+2)).eval A ρ s2 = KA (evalN (m+1)) key' s2')
    (exp : Datum)
    (hexp : ∀ (r : Rec), evalStep r exp ρ = (do
      let v ← r.eval (memvTest k atoms) ρ
      if truthy v then r.eval A ρ else missBranch r ρ k cs))
    (hat : ∀ d ∈ atoms, simpleAtom d = true) (hkey : atomKey k = true)
    (st : St) (hst : WFSt st) (hρ : EnvOK st.store.size ρ) (hρm : ρ.lookup k_memv = none)
    (hg : st.globals.lookup k_memv = some (.prim .memv)) :
    AgreesUpToExtra 1 (caseUse k (C1 :: cs)) exp ρ st := by
  intro n hd
  refine ⟨guardN_eval_evalN _ _ _ _ hd, ?_⟩
  rw [guardN_eval_evalN _ _ _ _ hd]
  cases n with
  | zero => exact absurd rfl hd
  | succ n =>
  cases n with
  | zero => exact absurd (by rw [guardN_succ_eval, native_case]; rfl) hd
  | succ m =>
    have e1 : (guardN (m+2)).eval (caseUse k (C1 :: cs)) ρ =
        ((evalN (m+1)).eval k ρ >>= fun key => evalCase (guardN (m+1)) ρ key (C1 :: cs)) := by
      rw [guardN_succ_eval, native_case, guardN_succ_eval, evalN_succ_eval, atomKey_rec (guardN m) (evalN m) k hkey]
    rw [e1] at hd ⊢
    have hd' : M.bind' ((evalN (m+1)).eval k ρ) (fun key => evalCase (guardN (m+1)) ρ key (C1 :: cs)) st ≠ .timeout := hd
    have e2 : (evalN (m + 2 + 1)).eval exp ρ = (do
        let v ← (evalN (m+2)).eval (memvTest k atoms) ρ
        if truthy v then (evalN (m+2)).eval A ρ else missBranch (evalN (m+2)) ρ k cs) := by
      rw [evalN_succ_eval, hexp]
    rw [e2]
    show ∃ f, Inj f ∧ _ ∧ ResRel f (VRel f) (M.bind' ((evalN (m+1)).eval k ρ) _ st) (M.bind' _ _ st)
    unfold M.bind' at hd' ⊢
    cases hk : (evalN (m+1)).eval k ρ st with
    | timeout => rw [hk] at hd'; exact absurd rfl hd'
    | err e s1 =>
      refine ⟨fun l => l, inj_id, fun _ _ => rfl, ?_⟩
      have hT : (evalN (m+2)).eval (memvTest k atoms) ρ st = .err e s1 := by
        rw [evalN_succ_eval, memvTest, native_app _ _ (s k_memv) _ (by intro x hx; cases hx; exact kwOf_memv)]
        simp only [evalArgs]
        show M.bind' (M.bind' ((evalN (m+1)).eval k ρ) _) _ st = _
        simp [M.bind', hk]
      simp only [hT]
      exact ⟨rfl, stRel_id s1⟩
    | ok key s1 =>
      rw [hk] at hd'
      simp only at hd'
      have hs1 : s1 = st := atomKey_state (evalN m) k hkey ρ st s1 key hk
      subst hs1
      obtain ⟨res, σ', hT, hsz, hpre, htr⟩ := memvTest_eval m ρ k atoms hat hρm s1 s1 key hk hg
      simp only [hT]
      have hf := inj_shiftAt s1.store.size atoms.length
      have hrel : StRel (shiftAt s1.store.size atoms.length) s1 { s1 with store := σ' } :=
        stRel_extend hst _ σ' hsz hpre
      have henv : EnvRel (shiftAt s1.store.size atoms.length) [] ρ ρ := envRel_shift_self hρ
      refine ⟨_, hf, fun l hl => shiftAt_lt hl, ?_⟩
      -- the key, evaluated once more in the larger store
      have hkk : ResRel (shiftAt s1.store.size atoms.length) (VRel (shiftAt s1.store.size atoms.length)) ((evalN (m+1)).eval k ρ s1)
          ((evalN (m+1)).eval k ρ { s1 with store := σ' }) := by
        have := sim_evalStep hf (recSim hf m) henv k (cleanB_nil k) s1 _ hrel
        rw [atomKey_rec (guardN m) (evalN m) k hkey] at this
        exact this
      rw [hk] at hkk
      obtain ⟨key', s2', hk2, hkey', hrel2⟩ := hkk.ok_inv
      rw [hC1] at hd' ⊢
      rw [htr]
      by_cases hit : atoms.any (eqvDatum key) = true
      · rw [if_pos hit] at hd' ⊢
        rw [if_pos hit]
        have hsim := sim_iff.2 (hKA _ hf (guardN (m+1)) (evalN (m+1)) (recSimD hf (m+1)) henv key key' hkey') s1 s2' hrel2
        rw [hA m key' _ s2' hk2 (hsim.definite hd')]
        exact hsim
      · rw [if_neg hit] at hd' ⊢
        rw [if_neg hit]
        cases cs with
        | nil => exact ⟨.void, hrel⟩
        | cons c cs' =>
          show ResRel _ _ _ (evalStep (evalN (m+1)) (caseUse k (c :: cs')) ρ _)
          rw [native_case]
          show ResRel _ _ _ (M.bind' ((evalN (m+1)).eval k ρ) _ _)
          unfold M.bind'
          rw [hk2]
          exact sim_iff.2 (simD_evalCase (recSimD hf (m+1)) henv hkey' _ (cleanBs_empty _)) s1 s2' hrel2

/-- **case**, rules 5 and 7 -/
theorem case_body_agrees (ρ : Env) (k : Datum) (atoms : List Datum) (r1 : Datum) (rs cs : List Datum)
    (hr : ¬ (r1 = s k_arrow ∧ rs.length = 1)) (hat : ∀ d ∈ atoms, simpleAtom d = true) (hkey : atomKey k = true)
    (st : St) (hst : WFSt st) (hρ : EnvOK st.store.size ρ) (hρm : ρ.lookup k_memv = none)
    (hg : st.globals.lookup k_memv = some (.prim .memv)) :
    AgreesUpToExtra 1 (caseUse k (L (L atoms :: r1 :: rs) :: cs)) (caseBodyExp k atoms r1 rs cs) ρ st := by
  refine case_datum_agrees ρ k atoms cs _ (L (s k_begin_ :: r1 :: rs)) (fun r _ => evalExprs r ρ (r1 :: rs))
    (fun r key => evalCase_body r ρ key atoms r1 rs cs hr) ?_ ?_ _ ?_ hat hkey st hst hρ hρm hg
  · intro f hf r r' hr' he key key' _
    exact simD_evalExprs hr' he _ (cleanBs_empty _)
  · intro m key' s2 s2' hk2 _
    have := atomKey_state (evalN m) k hkey ρ s2 s2' key' hk2
    subst this
    rw [evalN_succ_eval, native_begin]
  · intro r
    cases cs with
    | nil => exact native_if2 r ρ _ _
    | cons c cs' => exact native_if3 r ρ _ _ _

/-- **case**, rules 4 and 6 (`=>`) -/
theorem case_arrow_agrees (ρ : Env) (k : Datum) (atoms : List Datum) (f : Datum) (cs : List Datum)
    (hf : ∀ x, f = .sym x → kwOf x = none) (hat : ∀ d ∈ atoms, simpleAtom d = true) (hkey : atomKey k = true)
    (st : St) (hst : WFSt st) (hρ : EnvOK st.store.size ρ) (hρm : ρ.lookup k_memv = none)
    (hg : st.globals.lookup k_memv = some (.prim .memv)) :
    AgreesUpToExtra 1 (caseUse k (L [L atoms, s k_arrow, f] :: cs)) (caseArrowExp k atoms f cs) ρ st := by
  refine case_datum_agrees ρ k atoms cs _ (L [f, k]) (fun r key => do let fv ← r.eval f ρ; r.apply fv [key])
    (fun r key => evalCase_arrow r ρ key atoms f cs) ?_ ?_ _ ?_ hat hkey st hst hρ hρm hg
  · intro g hg' r r' hr' he key key' hk
    refine SimD.bind (hr'.eval f ρ ρ [] he (cleanB_nil f)) (fun fv fv' hfv => ?_)
    exact hr'.apply _ _ _ _ hfv (.cons hk .nil)
  · intro m key' s2 s2' hk2 _
    rw [evalN_succ_eval, native_app _ _ f [k] hf, evalArgs_one]
    show M.bind' (M.bind' ((evalN (m+1)).eval k ρ) _) _ s2 = _
    unfold M.bind'
    rw [hk2]
    rfl
  · intro r
    cases cs with
    | nil => exact native_if2 r ρ _ _
    | cons c cs' => exact native_if3 r ρ _ _ _

end Marwood.Spec.Eval.Derived
