import Marwood.Vm.ProcInv
import Marwood.Lemmas.StackDiscOfWFS
/-!
# "No value leads to entry code" as an invariant: definitions; lambda cells

`HP h`: the heap part of Vm/ProcInv.lean as a proposition (the symbol-table clause phrased with the table lookup, like
`Heap.Interned`); `PInv s`: `HP`, and `acc` and the live stack do not point to entry code. They are the instance
`Spec.entry` of Lemmas/LeadDefs.lean (Lemmas/ProcInvOps.lean). `LF`, `LamSame` do not depend on the class of code objects.
-/
namespace Marwood.Lemmas.Good
open Marwood Marwood.Vm Marwood.Vm.Verify Marwood.Vm.Concrete Marwood.Lemmas.Sim
open Marwood.Heap (GcState)

structure HP (h : CHeap) : Prop where
  cells : ∀ (i : Nat) (c : CCell), h.cells[i]? = some c → cellPB h c = true
  globals : ∀ (n : Nat) (v : VCell), h.globals[n]? = some v → neB h v = true
  sym : ∀ (name : Text) (p : Nat), symLookup h name = some p → entryAt h p = false

structure PInv (s : St CHeap) : Prop where
  hp : HP s.heap
  acc : neB s.heap s.acc = true
  stk : ∀ (i : Nat) (v : VCell), i ≤ s.stack.sp → s.stack.cells[i]? = some v → neB s.heap v = true

/-- lambda cells are not on the free list (`CInvG.lamFree`): an allocation never overwrites one -/
def LF (h : CHeap) : Prop := ∀ (l : Nat) (lam : CLambda), h.cells[l]? = some (CCell.lambda lam) → l ∉ h.free

theorem LF.of_cinv {V : VCell → Prop} {h : CHeap} (inv : CInvG V h) : LF h := inv.lamFree

def LamSame (h h' : CHeap) : Prop := ∀ l, lambdaAt h' l = lambdaAt h l

def EShr (h h' : CHeap) : Prop := ∀ p, entryAt h' p = true → entryAt h p = true

theorem procAtB_eq (h : CHeap) (l : Nat) : procAtB h l = procAt h l := rfl

@[simp] theorem neB_ptr (h : CHeap) (p : Nat) : neB h (.ptr p) = !entryAt h p := rfl

theorem neB_of_not_ptr (h : CHeap) {v : VCell} (hn : ∀ p, v ≠ .ptr p) : neB h v = true := by
  cases v <;> first | rfl | exact absurd rfl (hn _)

theorem neB_undefined (h : CHeap) : neB h .undefined = true := rfl

theorem neF_mono {E E' : Nat → Bool} (hE : ∀ q, E' q = true → E q = true) {v : VCell} (h : neF E v = true) :
    neF E' v = true := by
  cases v <;> first | rfl | skip
  rename_i q
  simp only [neF, Bool.not_eq_true'] at h ⊢
  cases he : E' q with
  | false => rfl
  | true => rw [hE q he] at h; cases h

theorem all_neF_mono {E E' : Nat → Bool} (hE : ∀ q, E' q = true → E q = true) {l : List VCell}
    (h : l.all (neF E) = true) : l.all (neF E') = true := by
  rw [List.all_eq_true] at h ⊢
  exact fun v hv => neF_mono hE (h v hv)

theorem set_sp {st st' : Stack} {k : Nat} {v : VCell} (hs : st.set k v = .ok st') : st'.sp = st.sp := by
  unfold Stack.set at hs
  split at hs
  · cases hs; rfl
  · cases hs

theorem LamSame.refl (h : CHeap) : LamSame h h := fun _ => rfl

theorem LamSame.trans {a b c : CHeap} (x : LamSame a b) (y : LamSame b c) : LamSame a c :=
  fun l => (y l).trans (x l)

theorem LamSame.of_cells {h h' : CHeap} (hc : h'.cells = h.cells) : LamSame h h' := by
  intro l; unfold lambdaAt; rw [hc]

theorem Grows.lamSame {P : Cont → Prop} {h h' : CHeap} (g : Grows P h h') : LamSame h h' := by
  intro l
  cases hl : lambdaAt h l with
  | some lam => exact lambdaAt_iff.mpr (g.keep l lam (lambdaAt_iff.mp hl))
  | none =>
    cases hl' : lambdaAt h' l with
    | none => rfl
    | some lam =>
      have := lambdaAt_iff.mpr (g.newLam l lam (lambdaAt_iff.mp hl'))
      rw [hl] at this; cases this

theorem LamSame.cell {h h' : CHeap} (ls : LamSame h h') {l : Nat} {lam : CLambda}
    (hl : h'.cells[l]? = some (CCell.lambda lam)) : h.cells[l]? = some (CCell.lambda lam) :=
  lambdaAt_iff.mp ((ls l).symm.trans (lambdaAt_iff.mpr hl))

theorem cput_lamSame {h : CHeap} (lf : LF h) {c : CCell} (hc : ∀ lam, c ≠ CCell.lambda lam) :
    LamSame h (cput h c).1 ∧ LF (cput h c).1 ∧ ∀ lam, (cput h c).1.cells[(cput h c).2]? ≠ some (CCell.lambda lam) := by
  have a := calloc_allocd h
  obtain ⟨k1, k2⟩ := cput_cells0 (h := h) c
  have hnl : ∀ lam, h.cells[(cput h c).2]? ≠ some (CCell.lambda lam) := by
    intro lam hl
    rcases (show (cput h c).2 ∈ h.free ∨ h.cells.size ≤ (cput h c).2 from a.fresh) with h1 | h1
    · exact lf _ lam hl h1
    · have := lt_of_get_some hl; omega
  have ls : LamSame h (cput h c).1 := by
    intro l
    cases hl : lambdaAt h l with
    | some lam =>
      refine lambdaAt_iff.mpr (k2 l _ (lambdaAt_iff.mp hl) ?_)
      intro e; rw [e] at hl; exact hnl lam (lambdaAt_iff.mp hl)
    | none =>
      cases hl' : lambdaAt (cput h c).1 l with
      | none => rfl
      | some lam =>
        exfalso
        rcases k1 l _ (lambdaAt_iff.mp hl') with ⟨_, e⟩ | ⟨_, e⟩ | e
        · exact hc lam e.symm
        · have := lambdaAt_iff.mpr e; rw [hl] at this; cases this
        · cases e
  refine ⟨ls, ?_, ?_⟩
  · intro l lam hl hm
    rcases a.free_sub l hm with h1 | h1
    · exact lf l lam (ls.cell hl) h1
    · have := lt_of_get_some (ls.cell hl); omega
  · intro lam hl
    rcases k1 _ _ hl with ⟨_, e⟩ | ⟨e, _⟩ | e
    · exact hc lam e.symm
    · exact e rfl
    · cases e

def SM (h : CHeap) (st : Stack) (B : Nat) : Prop :=
  ∀ (i : Nat) (v : VCell), (i ≤ B ∨ i ≤ st.sp) → st.cells[i]? = some v → neB h v = true

end Marwood.Lemmas.Good
