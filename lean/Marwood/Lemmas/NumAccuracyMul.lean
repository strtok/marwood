import Marwood.Lemmas.NumAccuracy
/-!
# Accuracy of the inexact answers of `*` and `/` (T08.2, second conjunct)

`three_roundings` (NumAccuracy) with the perturbation relative to the exact result (`mul_pert`, `div_pert`).
Only the last rounding may underflow; its 2⁻¹⁰⁷⁵ is absorbed by `max |x| |y| ≥ 2⁻¹⁰²²` (`exact_val_lower`),
two zero operands being a case of their own.
-/
namespace Marwood.Fl
open Marwood Marwood.NumSpec

theorem magRat_nonneg (f : F64) : 0 ≤ magRat f := by
  rw [magRat_eq]; positivity

theorem rndSigned_zero (s : Bool) : rndSigned s 0 = zero s := by
  cases s <;> simp [rndSigned, zero]

theorem rndSigned_sgn (s : Bool) {m : ℚ} (h : 0 < m) : rndSigned s m = rnd (sgn s m) := by
  have hn : 0 < m.num := Rat.num_pos.mpr h
  cases s with
  | false =>
    unfold rnd sgn
    simp only [Bool.false_eq_true, if_false]
    rw [if_neg (by omega)]
  | true =>
    unfold rnd sgn
    simp only [if_true]
    have : (-m).num < 0 := Rat.num_neg.mpr (by linarith)
    rw [if_pos this, neg_neg]

theorem sgn_mul (s t : Bool) (a b : ℚ) : sgn s a * sgn t b = sgn (s != t) (a * b) := by
  cases s <;> cases t <;> simp [sgn]

theorem sgn_div (s t : Bool) (a b : ℚ) : sgn s a / sgn t b = sgn (s != t) (a / b) := by
  cases s <;> cases t <;> simp [sgn, neg_div, div_neg]

theorem sgn_eq_zero {s : Bool} {m : ℚ} : sgn s m = 0 ↔ m = 0 := by
  cases s <;> simp [sgn]

theorem rndSigned_rounds (s : Bool) {m : ℚ} (hm : 0 ≤ m) : RoundsTo (sgn s m) (rndSigned s m) := by
  rcases eq_or_lt_of_le hm with hz | hpos
  · right
    rw [← hz, rndSigned_zero]
    exact ⟨sgn_eq_zero.mpr rfl, s, rfl⟩
  · left
    exact ⟨fun h => hpos.ne' (sgn_eq_zero.mp h), rndSigned_sgn s hpos⟩

theorem mul_rounds {f g : F64} {p r : ℚ} (hf : toRat? f = some p) (hg : toRat? g = some r) :
    RoundsTo (p * r) (Fl.mul f g) := by
  obtain ⟨c1, v1⟩ := classify_of_toRat hf
  obtain ⟨c2, v2⟩ := classify_of_toRat hg
  rw [← v1, ← v2, sgn_mul]
  unfold Fl.mul
  rw [c1, c2]
  exact rndSigned_rounds _ (mul_nonneg (magRat_nonneg f) (magRat_nonneg g))

theorem div_rounds {f g : F64} {p r : ℚ} (hf : toRat? f = some p) (hg : toRat? g = some r)
    (hr : r ≠ 0) : RoundsTo (p / r) (Fl.div f g) := by
  obtain ⟨c1, v1⟩ := classify_of_toRat hf
  obtain ⟨c2, v2⟩ := classify_of_toRat hg
  have hbn : ((magRat g).num == 0) = false := by
    rw [beq_eq_false_iff_ne, ne_eq, Rat.num_eq_zero, ← sgn_eq_zero (s := signBit g), v2]
    exact hr
  rw [← v1, ← v2, sgn_div]
  unfold Fl.div
  rw [c1, c2]
  simp only [hbn, Bool.false_eq_true, if_false]
  exact rndSigned_rounds _ (div_nonneg (magRat_nonneg f) (magRat_nonneg g))

end Marwood.Fl

namespace Marwood.Arith
open Marwood Marwood.NumSpec

theorem mul_pert {x y xt yt u : ℚ} (hu0 : 0 ≤ u) (hu4 : u ≤ 1 / 4)
    (h1 : |xt - x| ≤ u * |x|) (h2 : |yt - y| ≤ u * |y|) :
    |xt * yt - x * y| ≤ 9 / 4 * (u * |x * y|) := by
  have e : xt * yt - x * y = (xt - x) * y + x * (yt - y) + (xt - x) * (yt - y) := by ring
  have t1 : |(xt - x) * y| ≤ u * |x * y| := by
    rw [abs_mul, abs_mul, ← mul_assoc]; exact mul_le_mul_of_nonneg_right h1 (abs_nonneg _)
  have t2 : |x * (yt - y)| ≤ u * |x * y| := by
    rw [abs_mul, abs_mul, mul_left_comm]; exact mul_le_mul_of_nonneg_left h2 (abs_nonneg _)
  have t3 : |(xt - x) * (yt - y)| ≤ u * (u * |x * y|) := by
    rw [abs_mul, abs_mul]
    calc |xt - x| * |yt - y| ≤ (u * |x|) * (u * |y|) :=
          mul_le_mul h1 h2 (abs_nonneg _) (mul_nonneg hu0 (abs_nonneg _))
      _ = u * (u * (|x| * |y|)) := by ring
  have t4 : u * (u * |x * y|) ≤ 1 / 4 * (u * |x * y|) :=
    mul_le_mul_of_nonneg_right hu4 (mul_nonneg hu0 (abs_nonneg _))
  rw [e]
  have := abs_add_three ((xt - x) * y) (x * (yt - y)) ((xt - x) * (yt - y))
  linarith

theorem div_pert {x y xt yt u : ℚ} (hu4 : u ≤ 1 / 4) (hy : y ≠ 0)
    (h1 : |xt - x| ≤ u * |x|) (h2 : |yt - y| ≤ u * |y|) :
    yt ≠ 0 ∧ |xt / yt - x / y| ≤ 8 / 3 * (u * |x / y|) := by
  have hb : 0 < |y| := abs_pos.mpr hy
  have hyt : 3 / 4 * |y| ≤ |yt| := by
    have h3 := abs_sub_abs_le_abs_sub y yt
    rw [abs_sub_comm] at h3
    have : u * |y| ≤ 1 / 4 * |y| := mul_le_mul_of_nonneg_right hu4 (abs_nonneg _)
    linarith only [h3, this, h2]
  have hyt0 : yt ≠ 0 := by
    intro h; rw [h, abs_zero] at hyt; linarith only [hyt, hb]
  refine ⟨hyt0, ?_⟩
  have e : (xt / yt - x / y) * (yt * y) = (xt - x) * y - x * (yt - y) := by
    field_simp; ring
  generalize xt / yt - x / y = D at e ⊢
  have hQ : |x| = |x / y| * |y| := by rw [abs_div, div_mul_cancel₀ _ hb.ne']
  generalize |x / y| = Q at hQ ⊢
  have n1 : |(xt - x) * y - x * (yt - y)| ≤ 2 * (u * Q) * (|y| * |y|) := by
    have t1 : |(xt - x) * y| ≤ u * |x| * |y| := by
      rw [abs_mul]; exact mul_le_mul_of_nonneg_right h1 (abs_nonneg _)
    have t2 : |x * (yt - y)| ≤ |x| * (u * |y|) := by
      rw [abs_mul]; exact mul_le_mul_of_nonneg_left h2 (abs_nonneg _)
    calc _ ≤ |(xt - x) * y| + |x * (yt - y)| := abs_sub _ _
      _ ≤ u * |x| * |y| + |x| * (u * |y|) := by linarith
      _ = _ := by rw [hQ]; ring
  have n2 : |D| * (3 / 4 * |y| * |y|) ≤ |D| * (|yt| * |y|) :=
    mul_le_mul_of_nonneg_left (mul_le_mul_of_nonneg_right hyt (abs_nonneg _)) (abs_nonneg _)
  have n3 : |D| * (|yt| * |y|) = |(xt - x) * y - x * (yt - y)| := by rw [← e, abs_mul, abs_mul]
  have n4 : (|D| * (3 / 4)) * (|y| * |y|) ≤ (2 * (u * Q)) * (|y| * |y|) := by
    calc _ = |D| * (3 / 4 * |y| * |y|) := by ring
      _ ≤ _ := by rw [n3] at n2; exact le_trans n2 n1
  have := le_of_mul_le_mul_right n4 (mul_pos hb hb)
  linarith only [this]

theorem mul_inexact_form {a b : Num} (ha : a.WF = true) (hb : b.WF = true)
    (he : isExact (mul a b) = false) : mul a b = .flo (Fl.mul (toF a) (toF b)) :=
  (mul_answers a b (.of_wf ha) (.of_wf hb)).of_inexact he

theorem div_inexact_form {a b r : Num} (ha : a.WF = true) (hb : b.WF = true)
    (h : div a b = .ok r) (he : isExact r = false) : r = .flo (Fl.div (toF a) (toF b)) :=
  (div_answers a b (.of_wf ha) (.of_wf hb) h).of_inexact he

theorem flmul_rnd_accurate {x y : ℚ} (hx : x = 0 ∨ (2 : ℚ) ^ (-1022 : ℤ) ≤ |x|)
    (hy : y = 0 ∨ (2 : ℚ) ^ (-1022 : ℤ) ≤ |y|) (hmx : |x| < 2 ^ (1023 : ℤ))
    (hmy : |y| < 2 ^ (1023 : ℤ)) (hmp : |x * y| < 2 ^ (1022 : ℤ)) :
    ∃ v, Fl.toRat? (Fl.mul (Fl.rnd x) (Fl.rnd y)) = some v ∧
      |v - x * y| ≤ 2 ^ (-50 : ℤ) * max |x| (max |y| |x * y|) := by
  obtain ⟨xt, hxt, ex⟩ := rnd_rel hx hmx
  obtain ⟨yt, hyt, ey⟩ := rnd_rel hy hmy
  have hxM : |x| ≤ max |x| (max |y| |x * y|) := le_max_left _ _
  have hyM : |y| ≤ max |x| (max |y| |x * y|) := le_trans (le_max_left _ _) (le_max_right _ _)
  have hpM : |x * y| ≤ max |x| (max |y| |x * y|) := le_trans (le_max_right _ _) (le_max_right _ _)
  have hupos : 0 < Fl.uro := Fl.two_zpow_pos _
  by_cases hM : (2 : ℚ) ^ (-1022 : ℤ) ≤ max |x| (max |y| |x * y|)
  · have hp := mul_pert hupos.le uro_le_quarter ex ey
    have h0 : 0 ≤ Fl.uro * |x * y| := mul_nonneg hupos.le (abs_nonneg _)
    exact three_roundings (Fl.mul_rounds hxt hyt) le_rfl hpM hmp hM (by linarith)
  · -- both operands are zero
    have hx0 : x = 0 := hx.resolve_right fun h => hM (le_trans h hxM)
    have hy0 : y = 0 := hy.resolve_right fun h => hM (le_trans h hyM)
    subst hx0; subst hy0
    have hz : Fl.toRat? (Fl.rnd 0) = some 0 := by rw [Fl.rnd_zero]; exact Fl.toRat_zero
    rcases Fl.mul_rounds hz hz with ⟨hne, _⟩ | ⟨_, s, hs⟩
    · exact absurd (mul_zero (0 : ℚ)) hne
    · rw [hs]
      exact ⟨0, Fl.toRat_zero' s, by simp⟩

theorem fldiv_rnd_accurate {x y : ℚ} (hx : x = 0 ∨ (2 : ℚ) ^ (-1022 : ℤ) ≤ |x|)
    (hy : (2 : ℚ) ^ (-1022 : ℤ) ≤ |y|) (hmx : |x| < 2 ^ (1023 : ℤ))
    (hmy : |y| < 2 ^ (1023 : ℤ)) (hmq : |x / y| < 2 ^ (1022 : ℤ)) :
    ∃ v, Fl.toRat? (Fl.div (Fl.rnd x) (Fl.rnd y)) = some v ∧
      |v - x / y| ≤ 2 ^ (-50 : ℤ) * max |x| (max |y| |x / y|) := by
  have hy0 : y ≠ 0 := by
    intro h; rw [h, abs_zero] at hy
    exact absurd hy (not_le.mpr (Fl.two_zpow_pos _))
  obtain ⟨xt, hxt, ex⟩ := rnd_rel hx hmx
  obtain ⟨yt, hyt, ey⟩ := rnd_rel (Or.inr hy) hmy
  have hyM : |y| ≤ max |x| (max |y| |x / y|) := le_trans (le_max_left _ _) (le_max_right _ _)
  have hqM : |x / y| ≤ max |x| (max |y| |x / y|) := le_trans (le_max_right _ _) (le_max_right _ _)
  have hupos : 0 < Fl.uro := Fl.two_zpow_pos _
  obtain ⟨hyt0, hp⟩ := div_pert uro_le_quarter hy0 ex ey
  have h0 : 0 ≤ Fl.uro * |x / y| := mul_nonneg hupos.le (abs_nonneg _)
  exact three_roundings (Fl.div_rounds hxt hyt hyt0) le_rfl hqM hmq (le_trans hy hyM) (by linarith)

/-- T08.2, second conjunct (×); no lower bound is assumed (`exact_val_lower`) -/
theorem mul_inexact_accurate (a b : Num) (ha : a.WF = true) (hb : b.WF = true)
    (hea : isExact a = true) (heb : isExact b = true) {x y : ℚ} (hx : val a = some x)
    (hy : val b = some y) (hmx : |x| < 2 ^ (1023 : ℤ)) (hmy : |y| < 2 ^ (1023 : ℤ))
    (hmp : |x * y| < 2 ^ (1022 : ℤ)) (he : isExact (mul a b) = false) :
    ∃ v, val (mul a b) = some v ∧ |v - x * y| ≤ 2 ^ (-50 : ℤ) * max |x| (max |y| |x * y|) := by
  have lx := exact_val_lower ha hea hx
  have ly := exact_val_lower hb heb hy
  rw [mul_inexact_form ha hb he, toF_exact ha hea hx, toF_exact hb heb hy]
  exact flmul_rnd_accurate lx ly hmx hmy hmp

/-- T08.2, second conjunct (÷) -/
theorem div_inexact_accurate (a b : Num) (ha : a.WF = true) (hb : b.WF = true)
    (hea : isExact a = true) (heb : isExact b = true) {x y : ℚ} (hx : val a = some x)
    (hy : val b = some y) (hy0 : y ≠ 0) (hmx : |x| < 2 ^ (1023 : ℤ)) (hmy : |y| < 2 ^ (1023 : ℤ))
    (hmq : |x / y| < 2 ^ (1022 : ℤ)) {r : Num} (h : div a b = .ok r) (he : isExact r = false) :
    ∃ v, val r = some v ∧ |v - x / y| ≤ 2 ^ (-50 : ℤ) * max |x| (max |y| |x / y|) := by
  have lx := exact_val_lower ha hea hx
  have ly : (2 : ℚ) ^ (-1022 : ℤ) ≤ |y| := by
    rcases exact_val_lower hb heb hy with h0 | h0
    · exact absurd h0 hy0
    · exact h0
  rw [div_inexact_form ha hb h he, toF_exact ha hea hx, toF_exact hb heb hy]
  exact fldiv_rnd_accurate lx ly hmx hmy hmq

end Marwood.Arith
