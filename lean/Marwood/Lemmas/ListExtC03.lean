import Marwood.Lemmas.ListExtSim
import Marwood.Lemmas.ListExtGood
import Marwood.Lemmas.ListExtCode
import Marwood.Lemmas.ListExtProc
import Marwood.Lemmas.ListExtDemo
import Marwood.Proofs.C03
import Marwood.Proofs.C13

/-! Corollaries of `Proofs/C03.lean` at the real builtins `listExtWith` (see Lemmas/ListExtProps.lean for the overview). -/

namespace Marwood.Proofs.C03
open Marwood Marwood.Vm Marwood.Vm.Concrete Marwood.Lemmas.Sim Marwood.Lemmas.Good Marwood.Proofs.C13

section
variable (eqTag : String → String → Bool)

theorem calleeOkAlong_listExt (force : Bool) {s0 : St CHeap}
    (h0 : VmOk (listExtWith eqTag) (listExtWith_codeLawsV eqTag) s0) (p0 : PInv s0)
    (sb : SizeBounded (machine (listExtWith eqTag) force) s0) :
    CalleeOkAlong (machine (listExtWith eqTag) force) s0 :=
  calleeOkAlong_of_vmOk force (listExtWith_laws eqTag) (listExtWith_good eqTag) (listExtWith_proc eqTag) h0 p0 sb

/-- **T03.5 at the real builtins**: on the concrete machine whose generic builtins are the table of
    `Vm/ListExt.lean`, every schedule of collections at instruction boundaries and the collection-free run end with
    the same status in `Sim`-related states. No hypothesis about the builtins. -/
theorem gc_unobservable_listExt (force : Bool) (sched : Nat → Bool) (n : Nat) (s0 : St CHeap)
    (h0 : VmOk (listExtWith eqTag) (listExtWith_codeLawsV eqTag) s0) (p0 : PInv s0)
    (sb : SizeBounded (machine (listExtWith eqTag) force) s0) :
    ResRel (Lemmas.Sim.R (machine (listExtWith eqTag) force))
      (runSched (machine (listExtWith eqTag) force) sched n 0 s0) (pureN (machine (listExtWith eqTag) force) n s0) :=
  gc_unobservable_closed _ force (listExtWith_laws eqTag) (listExtWith_good eqTag) (listExtWith_codeLawsV eqTag)
    (listExtWith_proc eqTag) sched n s0 h0 p0 sb

/-- … and the value is the same -/
theorem gc_unobservable_value_listExt (force : Bool) (sched : Nat → Bool) (n : Nat) (s0 t' : St CHeap)
    (h0 : VmOk (listExtWith eqTag) (listExtWith_codeLawsV eqTag) s0) (p0 : PInv s0)
    (sb : SizeBounded (machine (listExtWith eqTag) force) s0)
    (hk : pureN (machine (listExtWith eqTag) force) n s0 = .done t') :
    ∃ s', runSched (machine (listExtWith eqTag) force) sched n 0 s0 = .done s' ∧
      ∀ fuel, resultObs fuel s' = resultObs fuel t' :=
  gc_unobservable_value_closed _ force (listExtWith_laws eqTag) (listExtWith_good eqTag) (listExtWith_codeLawsV eqTag)
    (listExtWith_proc eqTag) sched n s0 t' h0 p0 sb hk

/-- `run_one` (any of the 16 opcodes, any builtin of the table) and `run_gc` preserve the bundled invariant
    `VmOk ∧ PInv` — the heap invariant of T03.3 (`WFHeap`, allocated roots) included -/
theorem run_one_preserves_vmOkP_listExt (s s' : St CHeap) (b : Bool)
    (h : VmOkP (listExtWith eqTag) (listExtWith_codeLawsV eqTag) s) (sm : Small s.heap)
    (hs : step (concreteOps (listExtWith eqTag)) s = .ok (s', b)) (sm' : Small s'.heap) :
    VmOkP (listExtWith eqTag) (listExtWith_codeLawsV eqTag) s' ∧ Heap.WFHeap true (toHeap s'.heap) ∧
      Heap.RootsOk (toHeap s'.heap) ((rootsOf s').refs true) :=
  run_one_preserves_vmOkP _ (listExtWith_laws eqTag) (listExtWith_good eqTag) (listExtWith_codeLawsV eqTag)
    (listExtWith_proc eqTag) s s' b h sm hs sm'

end


open Marwood.Lemmas.Good.LDemo in
example : VmOk listExt listExt_codeLawsV sDemo ∧ PInv sDemo ∧ SizeBounded (machine listExt false) sDemo :=
  ⟨sDemo_vmOk _ _, sDemo_pinv, sDemo_sizeBounded⟩

open Marwood.Lemmas.Good.LDemo in
/-- `(define p (cons 1 2)) (set-car! p 3) (car p)` returns `3` under EVERY schedule of (utilisation-tested)
    collections, through the theorem -/
theorem demo_every_schedule (sched : Nat → Bool) :
    ∃ s', runSched (machine listExt false) sched 17 0 sDemo = .done s' ∧
      resultObs 5 s' = .atom (.opaque "n3") := by
  obtain ⟨s', h1, h2⟩ := gc_unobservable_value_listExt _ false sched 17 sDemo (st 17) (sDemo_vmOk _ _) sDemo_pinv
    sDemo_sizeBounded (pure_done false)
  exact ⟨s', h1, by rw [h2 5]; exact st17_result⟩

open Marwood.Lemmas.Good.LDemo in
/-- … and under two schedules of FORCED collections (mark and sweep before every instruction; before every third
    instruction), by evaluation of the model; the first run really reclaims the cell of the overwritten `1` -/
theorem demo_forced_schedules :
    (∃ s', runSched (machine listExt true) (fun _ => true) 17 0 sDemo = .done s' ∧
      resultObs 5 s' = .atom (.opaque "n3")) ∧
    (∃ s', runSched (machine listExt true) (fun i => i % 3 == 1) 17 0 sDemo = .done s' ∧
      resultObs 5 s' = .atom (.opaque "n3")) :=
  ⟨sched_all.imp fun _ h => ⟨h.1, h.2.1⟩, sched_third.imp fun _ h => ⟨h.1, h.2.1⟩⟩

end Marwood.Proofs.C03
