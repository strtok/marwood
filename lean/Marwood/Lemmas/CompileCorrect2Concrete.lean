import Marwood.Lemmas.ConcreteLaws
/-!
# T01.3 stage 2 on the concrete heap: what an allocation does to the cells

`Vm/ConcreteHeap.lean`'s allocator reuses addresses (free list, head first; growth by whole chunks). For the
representation of stage 2 to survive an allocation, the address it returns must not be in use. The invariant that
guarantees this is the one the real heap maintains: a free cell holds `Undefined` (`Heap::free` overwrites,
`Heap::grow` fills) and the free list has no duplicates (`FreeInv`). Under it `cput h c` writes `c` to an address whose
cell was `Undefined` or did not exist and changes no other cell (`Alloc`).
-/
namespace Marwood.Vm.Concrete
open Marwood Marwood.Vm
open Marwood.Heap (GcState)

structure FreeInv (h : CHeap) : Prop where
  undef : ∀ p ∈ h.free, h.cells[p]? = some (CCell.val .undefined)
  nodup : h.free.Nodup

structure Alloc (h h' : CHeap) (p : Nat) (c : CCell) : Prop where
  cell : h'.cells[p]? = some c
  was : h.cells[p]? = some (CCell.val .undefined) ∨ h.cells.size ≤ p
  old : ∀ i, i ≠ p → i < h.cells.size → h'.cells[i]? = h.cells[i]?
  fresh : ∀ i c', i ≠ p → h.cells.size ≤ i → h'.cells[i]? = some c' → c' = CCell.val .undefined
  size : h.cells.size ≤ h'.cells.size
  globals : h'.globals = h.globals
  globSyms : h'.globSyms = h.globSyms

theorem FreeInv.freeOk {h : CHeap} (fi : FreeInv h) (inv : CInv h) : FreeOk h :=
  ⟨inv.shape, fun q hq => lt_of_get_some (fi.undef q hq), fi.nodup⟩

/-- `Heap::alloc` followed by the write of `c` -/
theorem cput_alloc {h : CHeap} (inv : CInv h) (fi : FreeInv h) (c : CCell) :
    Alloc h (cput h c).1 (cput h c).2 c ∧ FreeInv (cput h c).1 := by
  have a := calloc_allocd h
  have b := calloc_ok (fi.freeOk inv)
  have hne : ∀ i, i ≠ (calloc h).2 → (cput h c).1.cells[i]? = (calloc h).1.cells[i]? := fun i hi => by
    simp only [cput]; rw [cwrite_cells, if_neg (fun x => hi x.1.symm)]
  refine ⟨⟨?_, a.fresh.imp_left (fi.undef _), fun i hi hl => (hne i hi).trans (a.cells_old i hl),
    fun i c' hi hge hc' => a.cells_new i c' hge (hne i hi ▸ hc'), ?_, a.globals, a.globSyms⟩, fun q hq => ?_, b.nodup⟩
  · simp only [cput]; rw [cwrite_cells, if_pos ⟨rfl, b.lt⟩]
  · simp only [cput, cwrite, Array.size_setIfInBounds]; exact a.size_le
  · obtain ⟨hqp, hq'⟩ := (b.mem_free q).mp hq
    rw [hne q hqp]
    rcases hq' with x | x
    · exact a.cells_new' x.1 x.2
    · rw [a.cells_old q (lt_of_get_some (fi.undef q x))]; exact fi.undef q x

theorem Alloc.kept {h h' : CHeap} {p : Nat} {c : CCell} (a : Alloc h h' p c) {i : Nat} {c0 : CCell}
    (hc : h.cells[i]? = some c0) (hne : c0 ≠ CCell.val .undefined) : h'.cells[i]? = some c0 := by
  have hlt := lt_of_get_some hc
  have hip : i ≠ p := by
    intro e; subst e
    rcases a.was with h1 | h1
    · rw [h1] at hc; cases hc; exact hne rfl
    · omega
  rw [a.old i hip hlt]; exact hc

theorem Alloc.onlyNew {h h' : CHeap} {p : Nat} {c : CCell} (a : Alloc h h' p c) {i : Nat} {c' : CCell}
    (hc : h'.cells[i]? = some c') (hne : c' ≠ CCell.val .undefined) : i = p ∨ h.cells[i]? = some c' := by
  by_cases hip : i = p
  · exact .inl hip
  · right
    by_cases hlt : i < h.cells.size
    · rw [← a.old i hip hlt]; exact hc
    · exact absurd (a.fresh i c' hip (by omega) hc) hne

theorem Alloc.unused {h h' : CHeap} {p : Nat} {c : CCell} (a : Alloc h h' p c) {c0 : CCell}
    (hc : h.cells[p]? = some c0) : c0 = CCell.val .undefined := by
  rcases a.was with h1 | h1
  · rw [h1] at hc; cases hc; rfl
  · have := lt_of_get_some hc; omega

end Marwood.Vm.Concrete
