import Marwood.Depth
/-!
# The marker on closure chains and continuation chains (C19)

`markDepthHeap` on `closureChain n`, `contChain n` (built through `Heap.put`): `5·n` and `3·n + 3` frames for
`n ≥ 1` (at `0` the root is the code object: 4 frames).

`Fresh` (one chunk, free list `m, m+1, …`: a `put` of a non-`Ptr` writes address `m`; of a symbol only into an
empty table) gives the cell at every address (`ClosureCells`, `ContCells`); the walk is computed over these.

Fuel: one unit per nested model call — 12 under `markAt` of the code object, 7 per closure level, 4 per
continuation; `markGraphFuel` of a chain is at least `32·n + 40` (`8·|cells| + 8`, `4·(n + 1)` cells).
-/
namespace Marwood.Depth
open Marwood
open Marwood.Heap (VCell GcState)

structure Fresh (cap m : Nat) (h : Heap.Heap) : Prop where
  csize : h.cells.size = cap
  gsize : h.gc.size = cap
  free : h.free = List.range' m (cap - m)

def putRes (h : Heap.Heap) (m : Nat) (c : VCell) (rest : List Nat) (tab : List (Text × Nat)) : Heap.Heap :=
  { h with free := rest, gc := h.gc.setIfInBounds m GcState.allocated, cells := h.cells.setIfInBounds m c, symtab := tab }

theorem putAt_fresh {cap m : Nat} {h : Heap.Heap} (fr : Fresh cap m h) (hm : m < cap) (c : VCell)
    (hp : ∀ q, c ≠ .ptr q) (hs : ∀ s, c = .symbol s → h.symtab = []) :
    ∃ h', putAt h c = (h', m) ∧ Fresh cap (m + 1) h' ∧ h'.cells[m]? = some c ∧
      ∀ i, i < m → h'.cells[i]? = h.cells[i]? := by
  have ea : h.alloc =
      .ok ({ h with free := List.range' (m + 1) (cap - (m + 1)), gc := h.gc.setIfInBounds m .allocated }, m) := by
    have : cap - m = (cap - (m + 1)) + 1 := by omega
    simp [Heap.Heap.alloc, Heap.Heap.setState, fr.free, this, List.range'_succ, fr.gsize, hm, bind, Except.bind,
      pure, Except.pure]
  have key : ∃ tab, h.put c = .ok (putRes h m c (List.range' (m + 1) (cap - (m + 1))) tab, .ptr m) := by
    unfold Heap.Heap.put
    split
    · exact absurd rfl (hp _)
    · unfold Heap.Heap.putNew
      split
      next name _ =>
        exact ⟨Heap.Heap.symInsert [] name m, by simp [Heap.Heap.symLookup, hs name rfl, ea, Heap.Heap.write, fr.csize,
          hm, bind, Except.bind, pure, Except.pure, putRes]⟩
      next =>
        exact ⟨h.symtab, by simp [ea, Heap.Heap.write, fr.csize, hm, bind, Except.bind, pure, Except.pure, putRes]⟩
  obtain ⟨tab, key⟩ := key
  simp only [putAt, key]
  exact ⟨_, rfl, ⟨by simp [putRes, fr.csize], by simp [putRes, fr.gsize], rfl⟩,
    Array.getElem?_setIfInBounds_self_of_lt (by rw [fr.csize]; exact hm),
    fun i hi => Array.getElem?_setIfInBounds_ne (Nat.ne_of_gt hi)⟩

/-- what `Heap.new cap` returns -/
def newRes (cap : Nat) : Heap.Heap :=
  { chunk := cap, cells := Array.replicate cap VCell.undefined, gc := Array.replicate cap GcState.free, free := List.range cap, symtab := [] }

/-- the code object of `chainBase`: `(lambda () acc)` -/
def lamCell : VCell := .lambda [.opcode .enter, .opcode .mov, .atom .lexSlot, .atom .acc, .opcode .ret] [] [.ptr 0]

theorem chainBase_spec (cap : Nat) (h4 : cap % 4 = 0) (h2 : 2 ≤ cap) :
    Fresh cap 2 (chainBase cap) ∧ (chainBase cap).cells[0]? = some (.symbol "acc".toList) ∧
      (chainBase cap).cells[1]? = some lamCell := by
  have hnew : Heap.Heap.new cap = .ok (newRes cap) := by
    simp [Heap.Heap.new, h4, newRes]
  have fr0 : Fresh cap 0 (newRes cap) :=
    ⟨by simp [newRes], by simp [newRes], by simp [newRes, List.range_eq_range']⟩
  obtain ⟨h1, e1, f1, c1, -⟩ := putAt_fresh fr0 (by omega) (.symbol "acc".toList) nofun (fun _ _ => rfl)
  obtain ⟨h2, e2, f2, c2, o2⟩ := putAt_fresh f1 (by omega) lamCell nofun nofun
  have e : chainBase cap = h2 := by
    simp only [chainBase, hnew, e1]
    exact congrArg Prod.fst e2
  rw [e]
  exact ⟨f2, (o2 0 (by omega)).trans c1, c2⟩

/-- the value wrapped at level `j` (0-based): `0`, or the closure of level `j - 1` -/
def cpv : Nat → VCell
  | 0 => .atom .number
  | j+1 => .ptr (3 * j + 4)

structure ClosureCells (h : Heap.Heap) (k : Nat) : Prop where
  sym : h.cells[0]? = some (.symbol "acc".toList)
  lam : h.cells[1]? = some lamCell
  act : ∀ j, j < k → h.cells[3 * j + 2]? = some (.lexEnv [cpv j])
  env : ∀ j, j < k → h.cells[3 * j + 3]? = some (.lexEnv [.lexEnvPtr (3 * j + 2) 0])
  clo : ∀ j, j < k → h.cells[3 * j + 4]? = some (.closure 1 (3 * j + 3))

theorem closureLevels_spec (cap : Nat) (h4 : cap % 4 = 0) : ∀ k, 3 * k + 2 ≤ cap →
    Fresh cap (3 * k + 2) (closureLevels cap k).1 ∧ (closureLevels cap k).2 = cpv k ∧
      ClosureCells (closureLevels cap k).1 k
  | 0, hle => by
    obtain ⟨f, s, l⟩ := chainBase_spec cap h4 (by omega)
    exact ⟨f, rfl, s, l, fun j hj => by omega, fun j hj => by omega, fun j hj => by omega⟩
  | k+1, hle => by
    obtain ⟨fr, hv, cc⟩ := closureLevels_spec cap h4 k (by omega)
    clear h4 -- a remainder in the context makes every `omega` below dearer
    obtain ⟨h1, e1, f1, c1, o1⟩ := putAt_fresh fr (by omega) (.lexEnv [cpv k]) nofun nofun
    obtain ⟨h2, e2, f2, c2, o2⟩ := putAt_fresh f1 (by omega) (.lexEnv [.lexEnvPtr (3 * k + 2) 0]) nofun nofun
    obtain ⟨h3, e3, f3, c3, o3⟩ := putAt_fresh f2 (by omega) (.closure 1 (3 * k + 3)) nofun nofun
    have e : closureLevels cap (k + 1) = (h3, cpv (k + 1)) := by
      simp only [closureLevels, closureLevel, hv, e1, e2, e3]
      rfl
    rw [e]
    have old : ∀ i, i < 3 * k + 2 → h3.cells[i]? = (closureLevels cap k).1.cells[i]? := fun i hi =>
      (o3 i (by omega)).trans ((o2 i (by omega)).trans (o1 i hi))
    have n2 := (o3 _ (by omega)).trans ((o2 _ (Nat.lt_succ_self _)).trans c1)
    have n3 := (o3 _ (Nat.lt_succ_self _)).trans c2
    refine ⟨f3, rfl, (old 0 (by omega)).trans cc.sym, (old 1 (by omega)).trans cc.lam,
      fun j hj => ?_, fun j hj => ?_, fun j hj => ?_⟩
    all_goals rcases Nat.lt_succ_iff_lt_or_eq.mp hj with hlt | rfl
    · exact (old _ (by omega)).trans (cc.act j hlt)
    · exact n2
    · exact (old _ (by omega)).trans (cc.env j hlt)
    · exact n3
    · exact (old _ (by omega)).trans (cc.clo j hlt)
    · exact c3

theorem closureChain_cells (n : Nat) : ClosureCells (closureChain n) n :=
  (closureLevels_spec (4 * (n + 1)) (by omega) n (by omega)).2.2

/-- the saved stack cell of continuation `j` -/
def kpv : Nat → VCell
  | 0 => .atom .number
  | j+1 => .ptr (j + 2)

structure ContCells (h : Heap.Heap) (k : Nat) : Prop where
  sym : h.cells[0]? = some (.symbol "acc".toList)
  lam : h.cells[1]? = some lamCell
  cont : ∀ j, j < k → h.cells[j + 2]? = some (.cont [kpv j] 1 0)

theorem contLevels_spec (cap : Nat) (h4 : cap % 4 = 0) : ∀ k, k + 2 ≤ cap →
    Fresh cap (k + 2) (contLevels cap k).1 ∧ (contLevels cap k).2 = kpv k ∧ ContCells (contLevels cap k).1 k
  | 0, hle => by
    obtain ⟨f, s, l⟩ := chainBase_spec cap h4 (by omega)
    exact ⟨f, rfl, s, l, fun j hj => by omega⟩
  | k+1, hle => by
    obtain ⟨fr, hv, cc⟩ := contLevels_spec cap h4 k (by omega)
    clear h4
    obtain ⟨h1, e1, f1, c1, o1⟩ := putAt_fresh fr (by omega) (.cont [kpv k] 1 0) nofun nofun
    have e : contLevels cap (k + 1) = (h1, kpv (k + 1)) := by
      simp only [contLevels, contLevel, hv, e1]
      rfl
    rw [e]
    refine ⟨f1, rfl, (o1 0 (by omega)).trans cc.sym, (o1 1 (by omega)).trans cc.lam, fun j hj => ?_⟩
    rcases Nat.lt_succ_iff_lt_or_eq.mp hj with hlt | rfl
    · exact (o1 _ (by omega)).trans (cc.cont j hlt)
    · exact c1

theorem contChain_cells (n : Nat) : ContCells (contChain n) n :=
  (contLevels_spec (4 * (n + 1)) (by omega) n (by omega)).2.2


theorem fuel_of_fresh {cap m n : Nat} {h : Heap.Heap} (fr : Fresh cap m h) (hc : cap = 4 * (n + 1)) :
    32 * n + 40 ≤ markGraphFuel h := by
  unfold markGraphFuel
  rw [fr.csize, hc]
  omega

theorem closureChain_fuel (n : Nat) : 32 * n + 40 ≤ markGraphFuel (closureChain n) :=
  fuel_of_fresh (closureLevels_spec (4 * (n + 1)) (by omega) n (by omega)).1 rfl

theorem contChain_fuel (n : Nat) : 32 * n + 40 ≤ markGraphFuel (contChain n) :=
  fuel_of_fresh (contLevels_spec (4 * (n + 1)) (by omega) n (by omega)).1 rfl

section walk
variable {h : Heap.Heap}

theorem markAt_marked {c : VCell} {p : Nat} (f : Nat) (ms : List Nat) (d : Nat) (hc : h.cells[p]? = some c)
    (hm : p ∈ ms) : markAt h f ms d p = (d, ms) := by
  cases f with
  | zero => simp [markAt]
  | succ f => simp [markAt, hc, hm]

theorem markV_lexEnvPtr (f : Nat) (ms : List Nat) (d q s : Nat) :
    markV h (f + 1) ms d (.lexEnvPtr q s) = markAt h f ms (d + 1) q := by simp [markV]

theorem markV_ptr (f : Nat) (ms : List Nat) (d q : Nat) :
    markV h (f + 1) ms d (.ptr q) = markAt h f ms (d + 1) q := by simp [markV]

theorem markV_atom (f : Nat) (ms : List Nat) (d : Nat) (a : Heap.Atom) :
    markV h f ms d (.atom a) = (d, ms) := by
  cases f <;> simp [markV]

theorem markVs_nil (f : Nat) (ms : List Nat) (d : Nat) : markVs h f ms d [] = (d, ms) := by
  cases f <;> simp [markVs]

theorem markAt_lexEnv1 {p : Nat} {v : VCell} (f : Nat) (ms : List Nat) (d : Nat)
    (hc : h.cells[p]? = some (.lexEnv [v])) (hm : p ∉ ms) :
    markAt h (f + 3) ms d p =
      (max (markV h (f + 1) (p :: ms) (d + 1) v).1 d, (markV h (f + 1) (p :: ms) (d + 1) v).2) := by
  simp [markAt, hc, hm, markVs]

theorem markAt_closure {p l e : Nat} (f : Nat) (ms : List Nat) (d : Nat)
    (hc : h.cells[p]? = some (.closure l e)) (hm : p ∉ ms) :
    markAt h (f + 1) ms d p =
      (max (markAt h f (p :: ms) (d + 1) l).1 (markAt h f (markAt h f (p :: ms) (d + 1) l).2 (d + 1) e).1,
        (markAt h f (markAt h f (p :: ms) (d + 1) l).2 (d + 1) e).2) := by
  simp [markAt, hc, hm]

theorem notMem_of {P : Nat → Prop} {ms : List Nat} {q : Nat} (hall : ∀ x ∈ ms, P x) (hq : ¬ P q) : q ∉ ms :=
  fun hc => hq (hall q hc)

theorem markAt_lam {f : Nat} {ms : List Nat} {d : Nat} (hl : h.cells[1]? = some lamCell)
    (hs : h.cells[0]? = some (.symbol "acc".toList)) (h1 : 1 ∉ ms) (h0 : 0 ∉ ms) :
    markAt h (f + 12) ms d 1 = (d + 3, 0 :: 1 :: ms) := by
  simp [markAt, markLamAt, markBc, markVs, markV, hl, hs, lamCell, h1, h0, VCell.isJumpOp, Heap.Op.isJump]

/-- one level: environment `3·j + 3`, through its pointer the activation environment `3·j + 2` holding `cpv j` -/
theorem closure_level {n : Nat} (cc : ClosureCells h n) {j : Nat} (hj : j < n) (g : Nat) {ms : List Nat} (d : Nat)
    (hall : ∀ x ∈ ms, x ≤ 1 ∨ 3 * j + 4 ≤ x) :
    (markAt h (g + 7) ms d (3 * j + 3)).1 =
      max (max (markV h (g + 2) ((3 * j + 2) :: (3 * j + 3) :: ms) (d + 1 + 1 + 1) (cpv j)).1 (d + 1 + 1)) d := by
  have e0 : (3 * j + 3) ∉ ms := notMem_of hall (by omega)
  have e1 : (3 * j + 2) ∉ ((3 * j + 3) :: ms) :=
    List.not_mem_cons_of_ne_of_not_mem (by omega) (notMem_of hall (by omega))
  rw [show g + 7 = (g + 4) + 3 from rfl, markAt_lexEnv1 _ _ _ (cc.env j hj) e0, markV_lexEnvPtr,
    show g + 4 = (g + 1) + 3 from rfl, markAt_lexEnv1 _ _ _ (cc.act j hj) e1]

/-- `ms`: the code object and its symbol (`≤ 1`) or cells above the level walked, so every level below is met
    unmarked; `1 ∈ ms`: the outermost closure has paid for the code object, the others find it marked -/
theorem closure_env_walk {n : Nat} (cc : ClosureCells h n) : ∀ j, j < n → ∀ f, 7 * j + 7 ≤ f → ∀ (ms : List Nat) (d : Nat),
    1 ∈ ms → (∀ x ∈ ms, x ≤ 1 ∨ 3 * j + 4 ≤ x) → (markAt h f ms d (3 * j + 3)).1 = d + 5 * j + 3 := by
  intro j
  induction j with
  | zero =>
    intro hj f hf ms d _ hall
    obtain ⟨g, rfl⟩ : ∃ g, f = g + 7 := ⟨f - 7, by omega⟩
    rw [closure_level cc hj g d hall, cpv, markV_atom]
    simp +arith
  | succ j ih =>
    intro hj f hf ms d h1 hall
    obtain ⟨g, rfl⟩ : ∃ g, f = g + 7 := ⟨f - 7, by omega⟩
    have e2 : (3 * j + 4) ∉ ((3 * (j + 1) + 2) :: (3 * (j + 1) + 3) :: ms) :=
      List.not_mem_cons_of_ne_of_not_mem (by omega)
        (List.not_mem_cons_of_ne_of_not_mem (by omega) (notMem_of hall (by omega)))
    have e3 : 1 ∈ ((3 * j + 4) :: (3 * (j + 1) + 2) :: (3 * (j + 1) + 3) :: ms) := by
      simp only [List.mem_cons, h1, or_true]
    rw [closure_level cc hj g d hall, cpv, markV_ptr, markAt_closure _ _ _ (cc.clo j (by omega)) e2,
      markAt_marked _ _ _ cc.lam e3]
    simp only
    rw [ih (by omega) g (by omega) _ _ e3 (by
      simp only [List.forall_mem_cons]
      exact ⟨by omega, by omega, by omega, fun x hx => by have := hall x hx; omega⟩)]
    simp +arith

theorem markDepth_closureChain (m : Nat) : markDepthHeap (closureChain (m + 1)) [closureRoot (m + 1)] = 5 * (m + 1) := by
  have cc := closureChain_cells (m + 1)
  have hfuel := closureChain_fuel (m + 1)
  obtain ⟨g, hg⟩ : ∃ g, markGraphFuel (closureChain (m + 1)) = (g + 12) + 1 :=
    ⟨markGraphFuel (closureChain (m + 1)) - 13, by omega⟩
  have hroot : closureRoot (m + 1) = 3 * m + 4 := rfl
  simp only [markDepthHeap, markRoots, hg, hroot]
  have e0 : (3 * m + 4) ∉ ([] : List Nat) := by simp
  rw [markAt_closure _ _ _ (cc.clo m (by omega)) e0,
    markAt_lam cc.lam cc.sym (by simp <;> omega) (by simp)]
  simp only
  have := closure_env_walk cc m (by omega) (g + 12) (by omega) [0, 1, 3 * m + 4] (1 + 1) (by simp)
    (by intro x hx; simp only [List.mem_cons, List.not_mem_nil, or_false] at hx; omega)
  rw [this]
  simp +arith

theorem markAt_cont1 {p l e a b c : Nat} {v : VCell} {ms ms1 ms2 ms3 : List Nat} (f d : Nat)
    (hc : h.cells[p]? = some (.cont [v] l e)) (hm : p ∉ ms)
    (hv : markV h f (p :: ms) (d + 1 + 1) v = (a, ms1))
    (hl : markAt h (f + 1) ms1 (d + 1 + 1) l = (b, ms2))
    (he : markAt h (f + 1) ms2 (d + 1 + 1) e = (c, ms3)) :
    markAt h (f + 3) ms d p = (max (max a (d + 1)) (max b c), ms3) := by
  have hm' : ms.contains p = false := by simpa using hm
  rw [show f + 3 = (f + 2) + 1 from rfl, markAt]
  simp only [hc, hm', Bool.false_eq_true, if_false]
  rw [markContAt, markVs, markVs_nil, hv, hl, he]

theorem cont_walk {n : Nat} (cc : ContCells h n) : ∀ j, j < n → ∀ f, 4 * j + 16 ≤ f → ∀ (ms : List Nat) (d : Nat),
    (∀ x ∈ ms, j + 3 ≤ x) → ∃ ms', markAt h f ms d (j + 2) = (d + 3 * j + 5, ms') ∧ 1 ∈ ms' ∧ 0 ∈ ms' := by
  intro j
  induction j with
  | zero =>
    intro hj f hf ms d hall
    obtain ⟨g, rfl⟩ : ∃ g, f = (g + 11) + 3 := ⟨f - 14, by omega⟩
    have e1 : 1 ∉ ((0 + 2) :: ms) := List.not_mem_cons_of_ne_of_not_mem (by decide) (notMem_of hall (by decide))
    have e2 : 0 ∉ ((0 + 2) :: ms) := List.not_mem_cons_of_ne_of_not_mem (by decide) (notMem_of hall (by decide))
    -- the stack holds a number; the code object and its symbol are met here first (`+ 3` frames, fuel 14)
    have := markAt_cont1 (g + 11) d (cc.cont 0 hj) (notMem_of hall (by decide)) (markV_atom ..)
      (markAt_lam (f := g) cc.lam cc.sym e1 e2) (markAt_marked _ _ _ cc.sym (List.mem_cons_self ..))
    exact ⟨_, this.trans (by congr 1; simp +arith), List.mem_cons_of_mem _ (List.mem_cons_self ..), List.mem_cons_self ..⟩
  | succ j ih =>
    intro hj f hf ms d hall
    obtain ⟨g, rfl⟩ : ∃ g, f = (g + 1) + 3 := ⟨f - 4, by omega⟩
    obtain ⟨ms', hw, m1, m0⟩ := ih (by omega) g (by omega) ((j + 1 + 2) :: ms) (d + 1 + 1 + 1) (by
      simp only [List.forall_mem_cons]
      exact ⟨by omega, fun x hx => by have := hall x hx; omega⟩)
    -- the walk of the continuation below has marked the code object and its symbol
    have := markAt_cont1 (g + 1) d (cc.cont (j + 1) hj) (notMem_of hall (by omega)) ((markV_ptr ..).trans hw)
      (markAt_marked _ _ _ cc.lam m1) (markAt_marked _ _ _ cc.sym m0)
    exact ⟨ms', this.trans (by congr 1; simp +arith), m1, m0⟩

theorem markDepth_contChain (m : Nat) : markDepthHeap (contChain (m + 1)) [contRoot (m + 1)] = 3 * (m + 1) + 3 := by
  have cc := contChain_cells (m + 1)
  have hfuel := contChain_fuel (m + 1)
  have hroot : contRoot (m + 1) = m + 2 := rfl
  simp only [markDepthHeap, markRoots, hroot]
  obtain ⟨ms', hw, _⟩ := cont_walk cc m (by omega) (markGraphFuel (contChain (m + 1))) (by omega) [] 1 (by simp)
  rw [hw]
  simp only
  simp +arith

end walk

end Marwood.Depth
