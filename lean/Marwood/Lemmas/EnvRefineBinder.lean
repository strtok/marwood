import Marwood.Lemmas.EnvRefineRel
/-!
# T02.2, second half: a pointer leads to the activation environment of the binder

In the simulation relation every frame of a scope chain is the image of one activation environment
(`ChainOK`; established by `ActRel.enter` at the ENTER that creates frame and environment together and
never changed afterwards). Hence the slot a compiled reference uses — directly or through a
`LexicalEnvPtr` — denotes slot `i` of the environment ENTER created for the activation whose frame
`resolve` stops at, `i` being the position of the binding in that frame.
-/
namespace Marwood.Vm.EnvRefine
open Marwood Marwood.Scope Marwood.Vm.Env Marwood.Spec.Scope

theorem find?_position (x : Name) (fr : Frame) (l : Loc) (h : fr.find? x = some l) :
    ∃ i : Nat, fr[i]? = some (x, l) := by
  induction fr with
  | nil => simp [Frame.find?] at h
  | cons p fr ih =>
    obtain ⟨y, l'⟩ := p
    simp only [Frame.find?] at h
    split at h
    · next hy => cases h; subst hy; exact ⟨0, rfl⟩
    · obtain ⟨i, hi⟩ := ih h
      exact ⟨i + 1, by simpa using hi⟩

theorem resolve_position (x : Name) (ρ : Chain) (l : Loc) (h : resolve x ρ = some l) :
    ∃ (j : Nat) (fr : Frame) (i : Nat), resolveLevel x ρ = some j ∧ ρ[j]? = some fr ∧ fr[i]? = some (x, l) ∧
      fr.find? x = some l := by
  induction ρ with
  | nil => simp [resolve] at h
  | cons fr ρ ih =>
    simp only [resolve] at h
    cases hf : fr.find? x with
    | some l' =>
      simp only [hf, Option.some.injEq] at h
      subst h
      obtain ⟨i, hi⟩ := find?_position x fr l' hf
      exact ⟨0, fr, i, by simp [resolveLevel, hf], rfl, hi, hf⟩
    | none =>
      simp only [hf] at h
      obtain ⟨j, fr', i, h1, h2, h3, h4⟩ := ih h
      exact ⟨j + 1, fr', i, by simp [resolveLevel, hf, h1], by simpa using h2, h3, h4⟩

theorem ChainOK.get {β : LocMap} : ∀ (ρ : Chain) (acts : List Nat), ChainOK β ρ acts → ∀ (j : Nat) (fr : Frame),
    ρ[j]? = some fr → ∃ a, acts[j]? = some a ∧ ∀ i x l, fr[i]? = some (x, l) → β l = some (a, i)
  | [], _, _, j, fr, h => by simp at h
  | _ :: _, [], c, _, _, _ => c.elim
  | fr0 :: ρ, a :: acts, c, j, fr, h => by
    cases j with
    | zero => simp at h; subst h; exact ⟨a, rfl, c.1⟩
    | succ j =>
      obtain ⟨a', h1, h2⟩ := ChainOK.get ρ acts c.2 j fr (by simpa using h)
      exact ⟨a', by simpa using h1, h2⟩

/-- T02.2, second half, for the operand of a running activation -/
theorem ActRel.binder_activation {β : LocMap} {h : Envs MVal} {N ctx ep ρ acts}
    (a : ActRel β h N ctx ep ρ acts) (x : Name) (s : Nat) (hs : slotOf ctx.envmap x = some s) :
    ∃ (ae j : Nat) (fr : Frame) (i : Nat) (l : Loc) (e : Nat), ep = some ae ∧ resolveLevel x ρ = some j ∧ ρ[j]? = some fr ∧ fr[i]? = some (x, l) ∧
      fr.find? x = some l ∧ acts[j]? = some e ∧ target h ae s = .ok (e, i) := by
  obtain ⟨ae, l, e, i, h1, h2, h3, h4⟩ := a.res x s hs
  obtain ⟨j, fr, i', k1, k2, k3, k4⟩ := resolve_position x ρ l h2
  obtain ⟨e', k5, k6⟩ := a.chain.get ρ acts j fr k2
  have := k6 i' x l k3
  rw [h4] at this
  cases this
  exact ⟨ae, j, fr, i, l, e, h1, k1, k2, k3, k4, k5, h3⟩

/-- T02.2, second half, for the captured entries of a closure environment -/
theorem CloFacts.binder_activation {β : LocMap} {h : Envs MVal} {fvs octx ctx cenv ρ acts carr}
    (c : CloFacts β h fvs octx ctx cenv ρ acts carr) (s : Nat) (x : Name) (k : Nat)
    (he : ctx.envmap[s]? = some (x, Source.iofEnv k)) :
    ∃ (j : Nat) (fr : Frame) (i : Nat) (l : Loc) (e : Nat), resolveLevel x ρ = some j ∧ ρ[j]? = some fr ∧
      fr[i]? = some (x, l) ∧ fr.find? x = some l ∧
      acts[j]? = some e ∧ carr[s]? = some (Slot.ptr e i) := by
  obtain ⟨l, e, i, h1, h2, h3⟩ := c.ptrs s x k he
  obtain ⟨j, fr, i', k1, k2, k3, k4⟩ := resolve_position x ρ l h1
  obtain ⟨e', k5, k6⟩ := c.chain.get ρ acts j fr k2
  have := k6 i' x l k3
  rw [h2] at this
  cases this
  exact ⟨j, fr, i, l, e, k1, k2, k3, k4, k5, h3⟩

end Marwood.Vm.EnvRefine
