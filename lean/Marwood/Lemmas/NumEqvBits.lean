import Marwood.Lemmas.NumRnd
import Marwood.Lemmas.NumEqv
/-!
# "The same bits" is "numerically equal and the same sign" (doubles that are not NaN)

R7RS 6.1: `eqv?` on two inexact numbers is "numerically equal (`=`) and indistinguishable by arithmetic";
`Vm::eqv` and `NumSpec.eqvSpec` compare bit patterns.  Off NaN the two agree (`bits_eq_iff`): the decoder
`Fl.classify` is injective but for `0.0` and `-0.0`, which `/` tells apart.
-/
namespace Marwood.Fl
open Marwood

theorem sig_ex_cases (x : F64) :
    (expField x = 0 ∧ sig x = mantField x ∧ ex x = 0) ∨
    (expField x ≠ 0 ∧ sig x = 4503599627370496 + mantField x ∧ ex x = expField x - 1) := by
  unfold sig ex twoP52
  by_cases h : expField x = 0 <;> simp [h]

theorem sig_ex_inj (x y : F64) (h : sig x * 2 ^ ex x = sig y * 2 ^ ex y) :
    expField x = expField y ∧ mantField x = mantField y := by
  have hmx : mantField x < 4503599627370496 := Nat.mod_lt _ (by decide)
  have hmy : mantField y < 4503599627370496 := Nat.mod_lt _ (by decide)
  -- a larger exponent forces the hidden bit, and then the other significand is at least 2⁵³
  have key : ∀ (a b : F64), ex a < ex b → sig a * 2 ^ ex a = sig b * 2 ^ ex b →
      sig a < 9007199254740992 → False := by
    intro a b hlt he hsa
    obtain ⟨k, hk⟩ : ∃ k, ex b = ex a + (k + 1) := ⟨ex b - ex a - 1, by omega⟩
    rw [hk, Nat.pow_add, ← Nat.mul_assoc, Nat.mul_right_comm] at he
    have he' : sig a = sig b * 2 ^ (k + 1) := Nat.eq_of_mul_eq_mul_right (Nat.pow_pos (by decide)) he
    have hge : sig b * 2 ≤ sig b * 2 ^ (k + 1) :=
      Nat.mul_le_mul_left _ (Nat.le_self_pow (by omega) 2)
    rcases sig_ex_cases b with ⟨_, _, _⟩ | ⟨_, _, _⟩ <;> omega
  rcases Nat.lt_trichotomy (ex x) (ex y) with hlt | heq | hgt
  · exact (key x y hlt h (sig_lt x)).elim
  · rw [heq] at h
    have hs : sig x = sig y := Nat.eq_of_mul_eq_mul_right (Nat.pow_pos (by decide)) h
    rcases sig_ex_cases x with ⟨_, _, _⟩ | ⟨_, _, _⟩ <;> rcases sig_ex_cases y with ⟨_, _, _⟩ | ⟨_, _, _⟩ <;>
      omega
  · exact (key y x hgt h.symm (sig_lt y)).elim

theorem bits_of_fields (x y : F64) (hx : x.bits < 2 ^ 64) (hy : y.bits < 2 ^ 64)
    (hs : signBit x = signBit y) (he : expField x = expField y) (hm : mantField x = mantField y) :
    x.bits = y.bits := by
  unfold signBit twoP63 at hs
  unfold expField twoP52 at he
  unfold mantField twoP52 at hm
  have hs' : x.bits / 9223372036854775808 % 2 = y.bits / 9223372036854775808 % 2 := by
    rcases Nat.mod_two_eq_zero_or_one (x.bits / 9223372036854775808) with h1 | h1 <;>
      rcases Nat.mod_two_eq_zero_or_one (y.bits / 9223372036854775808) with h2 | h2 <;>
      rw [h1, h2] at hs ⊢ <;> cases hs
  omega

theorem magRat_inj (x y : F64) (h : magRat x = magRat y) :
    expField x = expField y ∧ mantField x = mantField y := by
  rw [magRat_eq, magRat_eq] at h
  have hpos : ((2 : ℚ) ^ (1074 : ℕ)) ≠ 0 := by positivity
  have h2 : ((sig x * 2 ^ ex x : ℕ) : ℚ) = ((sig y * 2 ^ ex y : ℕ) : ℚ) := by
    field_simp at h
    exact_mod_cast h
  exact sig_ex_inj x y (by exact_mod_cast h2)

theorem bits_eq_iff (x y : F64) (hx : x.bits < 2 ^ 64) (hy : y.bits < 2 ^ 64)
    (nx : isNaN x = false) (ny : isNaN y = false) :
    x.bits = y.bits ↔ partialCmp x y = some .eq ∧ signBit x = signBit y := by
  constructor
  · intro h
    have hxy : x = y := by cases x; cases y; simp_all
    subst hxy
    refine ⟨?_, rfl⟩
    unfold partialCmp classify
    rw [nx]
    by_cases hi : isInf x = true
    · simp [hi]
    · simp [hi, cmpRat]
  · rintro ⟨hc, hs⟩
    unfold partialCmp classify at hc
    rw [nx, ny] at hc
    by_cases hix : isInf x = true <;> by_cases hiy : isInf y = true
    · -- both infinite
      unfold isInf at hix hiy
      simp only [Bool.and_eq_true, beq_iff_eq] at hix hiy
      exact bits_of_fields x y hx hy hs (hix.1.trans hiy.1.symm) (hix.2.trans hiy.2.symm)
    · simp [hix, hiy] at hc
      split at hc <;> cases hc
    · simp [hix, hiy] at hc
      split at hc <;> cases hc
    · simp only [hix, hiy, Bool.false_eq_true, if_false, Option.some.injEq] at hc
      have hv : sgn (signBit x) (magRat x) = sgn (signBit y) (magRat y) := by
        unfold cmpRat at hc
        split at hc
        · cases hc
        · split at hc
          · assumption
          · cases hc
      rw [hs] at hv
      have hm : magRat x = magRat y := by
        unfold sgn at hv
        split at hv
        · exact neg_injective hv
        · exact hv
      obtain ⟨he, hmm⟩ := magRat_inj x y hm
      exact bits_of_fields x y hx hy hs he hmm

end Marwood.Fl
