import Marwood.Lemmas.ConcreteLaws
import Marwood.Lemmas.StackWFLaws
import Marwood.Lemmas.MachineAllocRel
/-!
# `CodeLaws` for the concrete heap — the instance

Every heap operation of `run_one` over `concreteOps` is `Grows`: it neither overwrites nor creates a lambda cell (`setAt`, a
MOV to a `Ptr` destination, would; the verifier rejects it, `Verify.dstOk`, and it is not a `HeapStep`). The three operations
that are parameters of the model (`ExtOps`) come under the assumption `ExtCodeLawsG`.

`gops ext` is `concreteOps ext` with a guarded callee. `CodeLaws.callee_closure` / `callee_lambda` say that whatever CALL /
TCALL / ENTER find in `acc` as a closure or a bare lambda is verified *procedure* code. "Every lambda cell verifies" does
not give that: `callee` passes an inline `Closure(l, e)` through whatever `l` is, and the entry lambda of an evaluation
(`PUSHIMM argc0; MOVIMM λ acc; CALL; HALT`, put by `prepare_eval`) is a heap cell too; calling it would run HALT in the
middle of a frame chain. In the real VM no value refers to an entry lambda (only `ip` does) and closures are made by
CLOSURE from `compile_lambda` output: a reachability fact, not a heap-shape fact. It is the state predicate `CalleeOk`,
checked by the `bytecode-verifier` stream at every executed CALL / TCALL / ENTER; `gcallee` answers `other`
(→ `InvalidProcedure`) where it fails, and `step_gops` (Lemmas/ConcreteLawsBpLive.lean) shows the guard invisible in
every `CalleeOk` state.

`concreteLaws` has `Val _ := True`, so its `*_val` fields are trivial; `concreteLawsV` (Lemmas/ConcreteLawsVal.lean) has
`Val = IsValue`.
-/
namespace Marwood.Vm.Concrete
open Marwood Marwood.Vm Marwood.Vm.Verify
open Marwood.Heap (GcState)

variable {V : VCell → Prop}

theorem val_not_lambda (v : VCell) : ∀ lam, CCell.val v ≠ CCell.lambda lam := by intro lam h; cases h
theorem val_not_cont {P : Cont → Prop} (v : VCell) : ∀ k, CCell.val v = CCell.cont k → P k := by intro k h; cases h
theorem lexEnv_not_lambda (ss : List VCell) : ∀ lam, CCell.lexEnv ss ≠ CCell.lambda lam := by intro lam h; cases h
theorem lexEnv_not_cont {P : Cont → Prop} (ss : List VCell) : ∀ k, CCell.lexEnv ss = CCell.cont k → P k := by
  intro k h; cases h

/-- every modelled heap operation is `Grows` -/
theorem grows_rel : AllocRel fun h h' _ => CInvG V h → Grows NoCont h h' where
  refl _ inv := .refl inv
  trans x y inv := (x inv).trans (y ((x inv).inv inv fun _ hc => hc.elim))
  mono x _ := x
  cputVal _ v inv := cput_grows inv (val_not_lambda v) (val_not_cont v)
  cputEnv _ ss inv := cput_grows inv (lexEnv_not_lambda ss) (lexEnv_not_cont ss)
  envWrite _ hc inv :=
    cwrite_grows inv (fun lam hl => nomatch hc.symm.trans hl) (lexEnv_not_lambda _) (lexEnv_not_cont _)
  symtab _ _ inv := .of_eq inv rfl rfl rfl rfl

theorem putNew_grows {h : CHeap} (inv : CInvG V h) (v : VCell) : Grows NoCont h (putNew h v).1 :=
  grows_rel.putNew h v inv

theorem putV_grows {h : CHeap} (inv : CInvG V h) (v : VCell) : Grows NoCont h (putV h v).1 :=
  grows_rel.putV h v inv

theorem maybePutV_grows {h : CHeap} (inv : CInvG V h) (v : VCell) : Grows NoCont h (maybePutV h v).1 :=
  grows_rel.maybePutV h v inv

theorem envPut_grows {h h' : CHeap} (inv : CInvG V h) {e k : Nat} {v : VCell} (hp : envPut h e k v = some h') :
    Grows NoCont h h' :=
  grows_rel.envPut hp inv

theorem makeClosure_grows {h h' : CHeap} (inv : CInvG V h) {lam ep bp : Nat} {st : Stack} {c : VCell}
    (hm : makeClosure h lam ep bp st = .ok (h', c)) : Grows NoCont h h' :=
  grows_rel.makeClosure hm inv

theorem makeActivation_grows {h h' : CHeap} (inv : CInvG V h) {lam env bp : Nat} {st : Stack} {e : Nat}
    (hm : makeActivation h lam env bp st = .ok (h', e)) : Grows NoCont h h' :=
  grows_rel.makeActivation hm inv

/-- Assumed of the unmodelled operations (`ExtOps`: generic builtins, `eval`'s compiler, VPUSH; a parameter, not an axiom):
    they keep the heap invariant, so the lambda `eval` has just compiled passes the verifier, and they leave the
    bytecode of existing lambdas alone. -/
structure ExtCodeLawsG (V : VCell → Prop) (ext : ExtOps) : Prop where
  builtinEval : ∀ {h h' : CHeap} {id : Nat} {args : List VCell} {v : VCell}, CInvG V h →
    ext.builtinEval h id args = .ok (h', v) → CInvG V h' ∧ ∀ l bc, codeC h l = some bc → codeC h' l = some bc
  compileEval : ∀ {h h' : CHeap} {v lam : VCell}, CInvG V h →
    ext.compileEval h v = .ok (h', lam) → CInvG V h' ∧ ∀ l bc, codeC h l = some bc → codeC h' l = some bc
  vectorPush : ∀ {h h' : CHeap} {vec v : VCell}, CInvG V h →
    ext.vectorPush h vec v = .ok h' → CInvG V h' ∧ ∀ l bc, codeC h l = some bc → codeC h' l = some bc

abbrev ExtCodeLaws := ExtCodeLawsG (fun _ => True)

abbrev ExtCodeLawsV := ExtCodeLawsG IsValue

/-- procedure code (`[VARARG] ENTER … RET`) -/
def procAt (h : CHeap) (l : Nat) : Bool :=
  match lambdaAt h l with
  | some lam => !isEntryCode lam.bc
  | none => false

def gcallee (h : CHeap) (v : VCell) : Callee :=
  match callee h v with
  | .closure lam env => if procAt h lam then .closure lam env else .other
  | .lambda =>
    match v with
    | .ptr p => if procAt h p then .lambda else .other
    | _ => .other
  | c => c

def gops (ext : ExtOps) : HeapOps CHeap := { concreteOps ext with callee := gcallee }

def CalleeOk (s : St CHeap) : Prop := gcallee s.heap s.acc = callee s.heap s.acc

theorem verifyLam_entry {bc : List VCell} {t : LamTy} (h : verifyLam bc = some t) : t.entry = isEntryCode bc := by
  unfold verifyLam verify at h
  simp only at h
  cases hi : infer bc (isEntryCode bc) with
  | error e => rw [hi] at h; cases h
  | ok r =>
    obtain ⟨tm, hh⟩ := r
    rw [hi] at h
    simp only at h
    by_cases hc : checkAll bc tm (isEntryCode bc) = true
    · simp only [hc, if_true] at h
      cases h
      rfl
    · have hc' : checkAll bc tm (isEntryCode bc) = false := by simpa using hc
      rw [hc'] at h
      simp only [Bool.false_eq_true, if_false] at h
      split at h
      · rename_i heq; split at heq <;> cases heq
      · cases h

theorem procAt_ty {h : CHeap} (inv : CInvG V h) {l : Nat} (hp : procAt h l = true) :
    ∃ t, tyOf (codeC h) l = some t ∧ t.entry = false := by
  unfold procAt at hp
  cases hl : lambdaAt h l with
  | none => rw [hl] at hp; cases hp
  | some lam =>
    rw [hl] at hp
    have hv := inv.lamVer l lam (lambdaAt_iff.mp hl)
    cases ht : verifyLam lam.bc with
    | none => rw [ht] at hv; cases hv
    | some t =>
      refine ⟨t, ?_, ?_⟩
      · unfold tyOf codeC; rw [hl]; exact ht
      · rw [verifyLam_entry ht]; simpa using hp

theorem callee_cont_cell {h : CHeap} {v : VCell} {c : Cont} (hc : callee h v = .continuation c) :
    ∃ p, v = .ptr p ∧ h.cells[p]? = some (CCell.cont c) := by
  unfold callee at hc
  split at hc
  · rename_i p
    split at hc
    · rename_i cell hcell
      cases cell <;> simp only [calleeOfCell] at hc
      · rename_i w; cases w <;> simp only [calleeOfCell] at hc <;> cases hc
      · cases hc
      · cases hc
      · cases hc
      · cases hc; exact ⟨p, rfl, hcell⟩
    · cases hc
  · cases hc
  · cases hc
  · cases hc

theorem gcallee_cases (h : CHeap) (v : VCell) :
    (gcallee h v = callee h v ∧ (∀ lam env, callee h v = .closure lam env → procAt h lam = true) ∧
      (callee h v = .lambda → ∃ p, v = .ptr p ∧ procAt h p = true)) ∨ gcallee h v = .other := by
  unfold gcallee
  cases hc : callee h v with
  | closure l e =>
    by_cases hp : procAt h l = true
    · exact .inl ⟨if_pos hp, fun _ _ x => by cases x; exact hp, nofun⟩
    · exact .inr (if_neg hp)
  | lambda =>
    cases v with
    | ptr p =>
      by_cases hp : procAt h p = true
      · exact .inl ⟨if_pos hp, nofun, fun _ => ⟨p, rfl, hp⟩⟩
      · exact .inr (if_neg hp)
    | _ => exact .inr rfl
  | _ => exact .inl ⟨rfl, nofun, nofun⟩

theorem gcallee_closure {h : CHeap} {v : VCell} {lam env : Nat} (hc : gcallee h v = .closure lam env) :
    procAt h lam = true := by
  rcases gcallee_cases h v with ⟨e, k, _⟩ | e
  · exact k _ _ (e ▸ hc)
  · cases e.symm.trans hc

theorem gcallee_lambda {h : CHeap} {p : Nat} (hc : gcallee h (.ptr p) = .lambda) : procAt h p = true := by
  rcases gcallee_cases h (.ptr p) with ⟨e, _, k⟩ | e
  · obtain ⟨q, hq, hp⟩ := k (e ▸ hc)
    cases hq; exact hp
  · cases e.symm.trans hc

theorem gcallee_cont {h : CHeap} {v : VCell} {c : Cont} (hc : gcallee h v = .continuation c) :
    callee h v = .continuation c := by
  rcases gcallee_cases h v with ⟨e, _, _⟩ | e
  · exact e ▸ hc
  · cases e.symm.trans hc

theorem lambdaInfo_args {h : CHeap} (inv : CInvG V h) {l : Nat} {bc : List VCell} {info : LambdaInfo}
    (hc : codeC h l = some bc) (hi : (lambdaAt h l).map (fun lam => (⟨lam.args.length⟩ : LambdaInfo)) = some info) :
    argNeed bc ≤ info.argc := by
  obtain ⟨lam, h1, h2⟩ := codeC_some hc
  rw [lambdaAt_iff.mpr h1] at hi
  cases hi
  subst h2
  exact inv.lamArgs l lam h1

theorem globPut_grows {h : CHeap} (inv : CInvG V h) (n : Nat) (v : VCell) :
    Grows NoCont h { h with globals := h.globals.setIfInBounds n v } :=
  Grows.of_eq inv rfl rfl rfl rfl

def concreteLaws (ext : ExtOps) (ecl : ExtCodeLaws ext) : CodeLaws (gops ext) where
  e := 0
  code := codeC
  HInv := CInv
  Val _ := True
  val_imm := fun _ _ => trivial
  put_val := fun _ _ => trivial
  maybePut_val := fun _ _ => trivial
  newCont_val := fun _ _ => trivial
  makeClosure_val := fun _ => trivial
  vectorPush_val := fun _ => trivial
  globGet_val := fun _ _ => trivial
  envGet_val := fun _ _ => trivial
  envGet_val2 := fun _ _ => trivial
  info_code := by
    intro h l bc info hi hc hinfo
    exact lambdaInfo_args hi hc hinfo
  fetch_code := by
    intro h l bc _ hc o
    obtain ⟨lam, h1, h2⟩ := codeC_some hc
    subst h2
    show (match lambdaAt h l with | some lam => lam.bc[o]? | none => none) = lam.bc[o]?
    rw [lambdaAt_iff.mpr h1]
  step_inv := by
    intro h h' hi hs
    cases hs with
    | put v => exact (putV_grows hi v).inv hi (fun c hc => hc.elim)
    | maybePut v => exact (maybePutV_grows hi v).inv hi (fun c hc => hc.elim)
    | globPut n v => exact (globPut_grows hi n v).inv hi (fun c hc => hc.elim)
    | envPut he => exact (envPut_grows hi he).inv hi (fun c hc => hc.elim)
    | makeClosure he => exact (makeClosure_grows hi he).inv hi (fun c hc => hc.elim)
    | makeActivation he => exact (makeActivation_grows hi he).inv hi (fun c hc => hc.elim)
    | vectorPush he => exact (ecl.vectorPush hi he).1
    | builtinEval he => exact (ecl.builtinEval hi he).1
    | compileEval he => exact (ecl.compileEval hi he).1
  step_code := by
    intro h h' l bc hi hs hc
    cases hs with
    | put v => exact (putV_grows hi v).code hc
    | maybePut v => exact (maybePutV_grows hi v).code hc
    | globPut n v => exact (globPut_grows hi n v).code hc
    | envPut he => exact (envPut_grows hi he).code hc
    | makeClosure he => exact (makeClosure_grows hi he).code hc
    | makeActivation he => exact (makeActivation_grows hi he).code hc
    | vectorPush he => exact (ecl.vectorPush hi he).2 l bc hc
    | builtinEval he => exact (ecl.builtinEval hi he).2 l bc hc
    | compileEval he => exact (ecl.compileEval hi he).2 l bc hc
  callee_closure := by
    intro h v lam env hi hc
    exact procAt_ty hi (gcallee_closure hc)
  callee_lambda := by
    intro h lam hi hc
    exact procAt_ty hi (gcallee_lambda hc)
  cont_wf := by
    intro h v c hi hc
    obtain ⟨p, _, hcell⟩ := callee_cont_cell (gcallee_cont hc)
    exact hi.cont p c hcell
  newCont_inv := by
    intro h c K hi hcw
    show CInv (cput h (CCell.cont c)).1
    have g := cput_grows (P := fun k => k = c) hi (c := CCell.cont c) (by intro lam hh; cases hh)
      (by intro k hk; cases hk; rfl)
    exact g.inv hi (fun k hk => by subst hk; exact ⟨K, hcw⟩)
  newCont_code := by
    intro h c l bc hi hc
    show codeC (cput h (CCell.cont c)).1 l = some bc
    have g := cput_grows (P := fun k => k = c) hi (c := CCell.cont c) (by intro lam hh; cases hh)
      (by intro k hk; cases hk; rfl)
    exact g.code hc

end Marwood.Vm.Concrete
