import Marwood.Lemmas.TransformEllRep
import Marwood.Lemmas.TransformEllCursor
/-!
# One round of an ellipsis group

`unitAt pat B j U`: the sub-template `U` of a group `U ...` with every ellipsis variable at its `j`-th
item and every other variable at its first (`get_binding` does `find`) — a structural function of the
binding list `B`, which need not come from a match. `unit_run`: with the cursors of the ellipsis
variables of `U` at stage `j` and fuel `2·|U|`, `expand` answers `unitAt … j U` and moves exactly those
cursors to stage `j + 1`. A variable without a `j`-th item makes the round yield nothing
(`unitAt_exhausted`): that is how a group ends.
-/
namespace Marwood.Transform
open Marwood Marwood.Spec.Match Marwood.Transform.Term

theorem expand_datum (ell : Datum) (p : Pattern) (f : Nat) (T : Datum) (env : PEnv)
    (h : isDatumPat T = true) : expand ell p (f + 1) T env = .ok (some T, env) := by
  cases T <;> simp [isDatumPat] at h <;> simp [expand]

theorem inst_datum (c : Ctx) (esc skip : Bool) (T : Datum) (b : Binds)
    (h : isDatumPat T = true) : inst c esc skip T b = .ok T := by
  cases T <;> simp [isDatumPat] at h <;> simp [inst]

theorem tmplSyms_datum (T : Datum) (h : isDatumPat T = true) : tmplSyms T = [] := by
  cases T <;> simp [isDatumPat] at h <;> rfl

def Stage (B : Bindings) (ev : List Text) (iters : List (Datum × Option Nat)) (σ : Text → Nat) : Prop :=
  ∀ x ∈ ev, ∃ c, findIter (.sym x) iters = some c ∧ CurAt B x c (σ x)

def bump (σ : Text → Nat) (xs : List Text) : Text → Nat := fun x => if x ∈ xs then σ x + 1 else σ x

theorem bump_nil (σ : Text → Nat) : bump σ [] = σ := by
  funext x; simp [bump]

theorem bump_append (σ : Text → Nat) (xs ys : List Text) (h : ∀ x ∈ xs, x ∉ ys) :
    bump (bump σ xs) ys = bump σ (xs ++ ys) := by
  funext x
  simp only [bump, List.mem_append]
  by_cases hx : x ∈ xs
  · have := h x hx
    simp [hx, this]
  · simp [hx]

theorem tmplSyms_ofList_cons (a : Datum) (r : List Datum) :
    tmplSyms (Datum.ofList (a :: r)) = tmplSyms a ++ tmplSyms (Datum.ofList r) := by
  simp [Datum.ofList, tmplSyms]

theorem evSyms_ofList_cons (ev : List Text) (a : Datum) (r : List Datum) :
    evSyms ev (Datum.ofList (a :: r)) = evSyms ev a ++ evSyms ev (Datum.ofList r) := by
  simp [evSyms, tmplSyms_ofList_cons]

theorem evSyms_ofList_nil (ev : List Text) : evSyms ev (Datum.ofList []) = [] := by
  simp [evSyms, Datum.ofList, tmplSyms]

theorem evSyms_pair (ev : List Text) (a d : Datum) : evSyms ev (.pair a d) = evSyms ev a ++ evSyms ev d := by
  simp [evSyms, tmplSyms]

theorem appendSpine_snoc (v : List Datum) (c r : Datum) :
    appendSpine (v ++ [c]) r = appendSpine v (.pair c r) := by
  induction v with
  | nil => rfl
  | cons x v ih => simp only [List.cons_append, appendSpine, ih]

theorem appendSpine_append (v ds : List Datum) (r : Datum) :
    appendSpine v (appendSpine ds r) = appendSpine (v ++ ds) r := by
  induction v with
  | nil => rfl
  | cons x v ih => simp only [List.cons_append, appendSpine, ih]

section
variable (pat : Pattern) (B : Bindings)

def varAt (j : Nat) (x : Text) : Option Datum :=
  if pat.isVariable (.sym x) then
    (proj (.sym x) B)[if pat.isExpandedVariable (.sym x) then j else 0]?
  else some (.sym x)

def pairO : Option Datum → Option Datum → Option Datum
  | some a, some d => some (.pair a d)
  | _, _ => none

def unitAt (j : Nat) : Datum → Option Datum
  | .sym x => varAt pat B j x
  | .pair a d => pairO (unitAt j a) (unitAt j d)
  | d => some d

theorem pairO_some_left (a : Datum) (o : Option Datum) : pairO (some a) o = o.map (Datum.pair a) := by
  cases o <;> rfl

theorem pairO_none_left (o : Option Datum) : pairO none o = none := by
  cases o <;> rfl

theorem pairO_none_right (o : Option Datum) : pairO o none = none := by
  cases o <;> rfl

theorem unitAt_datum (j : Nat) {T : Datum} (h : isDatumPat T = true) : unitAt pat B j T = some T := by
  cases T <;> simp [isDatumPat] at h <;> rfl

theorem unitAt_cons_some {j : Nat} {cur cell : Datum} (R : Datum) (h : unitAt pat B j cur = some cell) :
    unitAt pat B j (.pair cur R) = (unitAt pat B j R).map (Datum.pair cell) := by
  rw [unitAt, h, pairO_some_left]

theorem unitAt_cons_none {j : Nat} {cur : Datum} (R : Datum) (h : unitAt pat B j cur = none) :
    unitAt pat B j (.pair cur R) = none := by
  rw [unitAt, h, pairO_none_left]

end

section unit
variable (s : Setup) (pat : Pattern) (ev : List Text) (B : Bindings)
  (hexp : ∀ x, pat.isExpandedVariable (.sym x) = decide (x ∈ ev))
  (hsub : ∀ x, x ∈ ev → pat.isVariable (.sym x) = true)
include hexp hsub

theorem expand_sym_at (f : Nat) (x : Text) (iters : List (Datum × Option Nat)) (σ : Text → Nat) (j : Nat)
    (hst : Stage B ev iters σ) (hσ : x ∈ ev → σ x = j) :
    ∃ iters', expand s.ell pat (f + 1) (.sym x) ⟨B, iters⟩ = .ok (varAt pat B j x, ⟨B, iters'⟩) ∧
      ((varAt pat B j x).isSome = true → Stage B ev iters' (bump σ (evSyms ev (.sym x)))) ∧
      (x ∉ ev → iters' = iters) := by
  rw [expand_sym]
  unfold varAt
  by_cases hxev : x ∈ ev
  · -- an ellipsis variable: the cursor moves
    have hvar := hsub x hxev
    have hx : pat.isExpandedVariable (.sym x) = true := by rw [hexp]; simpa using hxev
    have hsyms : evSyms ev (.sym x) = [x] := by simp [evSyms, tmplSyms, hxev]
    obtain ⟨c, hfi, hcur⟩ := hst x hxev
    rw [hσ hxev] at hcur
    simp only [hvar, hx, if_true, PEnv.getBinding, Bool.not_true, Bool.false_eq_true, if_false]
    cases hd : (proj (.sym x) B)[j]? with
    | none =>
      rw [getExpandedBinding_miss B iters x c j hfi hcur (by simpa using hd)]
      exact ⟨_, rfl, nofun, fun h => absurd hxev h⟩
    | some d =>
      obtain ⟨c', hget, hcur'⟩ := getExpandedBinding_hit B iters x c j d hfi hcur hd
      rw [hget]
      refine ⟨_, rfl, fun _ y hy => ?_, fun h => absurd hxev h⟩
      by_cases hxy : x = y
      · subst hxy
        refine ⟨some c', findIter_setIter_same _ _ _ _ hfi, ?_⟩
        simpa [hsyms, bump, hσ hxev] using hcur'
      · obtain ⟨cy, hfy, hcy⟩ := hst y hy
        refine ⟨cy, by rw [findIter_setIter_other x y hxy]; exact hfy, ?_⟩
        have : ¬ y = x := fun e => hxy e.symm
        simpa [hsyms, bump, this] using hcy
  · have hx : pat.isExpandedVariable (.sym x) = false := by rw [hexp]; simpa using hxev
    have hsyms : evSyms ev (.sym x) = [] := by simp [evSyms, tmplSyms, hxev]
    rw [hsyms, bump_nil]
    cases hvar : pat.isVariable (.sym x) with
    | false => exact ⟨iters, by simp, fun _ => hst, fun _ => rfl⟩
    | true =>
      refine ⟨iters, ?_, fun _ => hst, fun _ => rfl⟩
      simp only [if_true, PEnv.getBinding, hvar, hx, Bool.not_true, Bool.false_eq_true, if_false]
      rcases findKey_spec (.sym x) B 0 with ⟨h1, h2⟩ | ⟨i, v, h1, _, h3⟩
      · rw [h1, h2]; rfl
      · rw [h1, h3]; rfl

theorem unit_run (j : Nat) : ∀ f : Nat,
    (∀ T iters σ, plain s.es T = true → (evSyms ev T).Nodup → Stage B ev iters σ →
        (∀ x ∈ evSyms ev T, σ x = j) → 2 * dsize T ≤ f + 1 →
        ∃ iters', expand s.ell pat f T ⟨B, iters⟩ = .ok (unitAt pat B j T, ⟨B, iters'⟩) ∧
          ((unitAt pat B j T).isSome = true → Stage B ev iters' (bump σ (evSyms ev T)))) ∧
    (∀ cur rest v iters σ, plain s.es cur = true → (∀ t ∈ rest, plain s.es t = true) →
        (evSyms ev (Datum.ofList (cur :: rest))).Nodup → Stage B ev iters σ →
        (∀ x ∈ evSyms ev (Datum.ofList (cur :: rest)), σ x = j) → 2 * wsum (cur :: rest) ≤ f →
        ∃ iters', expandLoop s.ell pat f cur rest v ⟨B, iters⟩ =
            .ok ((unitAt pat B j (Datum.ofList (cur :: rest))).map (appendSpine v), ⟨B, iters'⟩) ∧
          ((unitAt pat B j (Datum.ofList (cur :: rest))).isSome = true →
            Stage B ev iters' (bump σ (evSyms ev (Datum.ofList (cur :: rest)))))) := by
  intro f
  induction f with
  | zero =>
    refine ⟨fun T _ _ _ _ _ _ hf => ?_, fun cur rest _ _ _ _ _ _ _ _ hf => ?_⟩
    · have := dsize_pos T; omega
    · have := dsize_pos cur; simp only [wsum] at hf; omega
  | succ f ih =>
    obtain ⟨ih1, ih2⟩ := ih
    constructor
    · intro T iters σ hT hn hst hσ hf
      cases hTeq : T with
      | sym x =>
        rw [hTeq] at hσ
        obtain ⟨iters', h1, h2, _⟩ := expand_sym_at s pat ev B hexp hsub f x iters σ j hst
          (fun hx => hσ x (by simp [evSyms, tmplSyms, hx]))
        exact ⟨iters', h1, h2⟩
      | pair a d =>
        rw [hTeq] at hT hn hσ hf
        simp only [plain, Bool.and_eq_true] at hT
        obtain ⟨hdeq, hel, _⟩ := plainTail_spec hT.2
        have hpeq : Datum.pair a d = Datum.ofList (a :: iterList d) := by
          simp only [Datum.ofList]; rw [← hdeq]
        rw [expand_pair]
        rw [hpeq] at hn hσ ⊢
        have hw := wsum_iterList_le d
        simp only [dsize] at hf
        obtain ⟨iters', he, hs'⟩ := ih2 a (iterList d) [] iters σ hT.1 hel hn hst hσ
          (by simp only [wsum]; omega)
        refine ⟨iters', ?_, hs'⟩
        rw [he]
        cases unitAt pat B j (Datum.ofList (a :: iterList d)) <;> rfl
      | vec v => rw [hTeq] at hT; simp [plain] at hT
      | _ =>
        have hd : isDatumPat T = true := by rw [hTeq]; rfl
        rw [← hTeq, expand_datum _ _ _ _ _ hd, unitAt_datum pat B j hd]
        refine ⟨iters, rfl, fun _ => ?_⟩
        have : evSyms ev T = [] := by simp [evSyms, tmplSyms_datum T hd]
        rw [this, bump_nil]; exact hst
    · intro cur rest v iters σ hcur hrest hn hst hσ hf
      simp only [wsum] at hf
      have hpos := dsize_pos cur
      rw [expandLoop_succ]
      simp only [peekIs_plain s rest hrest, Bool.false_eq_true, if_false, Bool.not_false, if_true]
      rw [evSyms_ofList_cons] at hn hσ ⊢
      obtain ⟨hncur, hnrest, hdis⟩ := List.nodup_append.mp hn
      obtain ⟨iters1, hcx, hst1⟩ := ih1 cur iters σ hcur hncur hst
        (fun x hx => hσ x (List.mem_append_left _ hx)) (by omega)
      rw [hcx]
      simp only [Datum.ofList]
      cases hu : unitAt pat B j cur with
      | none => exact ⟨iters1, by rw [unitAt_cons_none pat B _ hu]; rfl, by rw [unitAt_cons_none pat B _ hu]; nofun⟩
      | some cell =>
        have hst1 := hst1 (by rw [hu]; rfl)
        rw [unitAt_cons_some pat B _ hu]
        cases rest with
        | nil =>
          refine ⟨iters1, ?_, fun _ => ?_⟩
          · simp only [Datum.ofList, unitAt, Option.map_some]
            rw [← appendSpine_snoc, show Datum.nil = Datum.ofList [] from rfl, appendSpine_ofList,
              List.append_nil]
          · rw [evSyms_ofList_nil, List.append_nil]; exact hst1
        | cons t rest' =>
          have hrest' : ∀ x ∈ rest', plain s.es x = true := fun x hx => hrest x (List.mem_cons_of_mem _ hx)
          obtain ⟨iters', he, hs'⟩ := ih2 t rest' (v ++ [cell]) iters1 _ (hrest t (by simp)) hrest' hnrest hst1
            (fun x hx => by
              have hxa : x ∉ evSyms ev cur := fun hxa => hdis x hxa x hx rfl
              simpa [bump, hxa] using hσ x (List.mem_append_right _ hx))
            (by simp only [wsum] at hf ⊢; omega)
          refine ⟨iters', ?_, fun h => ?_⟩
          · show expandLoop s.ell pat f t rest' (v ++ [cell]) ⟨B, iters1⟩ = _
            rw [he]
            cases unitAt pat B j (Datum.ofList (t :: rest')) with
            | none => rfl
            | some r => simp only [Option.map_some, appendSpine_snoc]
          · rw [← bump_append _ _ _ (fun x hx hx' => hdis x hx x hx' rfl)]
            refine hs' ?_
            cases hr : unitAt pat B j (Datum.ofList (t :: rest')) with
            | none => rw [hr] at h; cases h
            | some r => rfl

theorem unitAt_exhausted (j : Nat) (x : Text) (hx : (proj (.sym x) B).length ≤ j) : ∀ U : Datum,
    (plain s.es U = true → x ∈ evSyms ev U → unitAt pat B j U = none) ∧
    (plain.plainTail s.es U = true → x ∈ evSyms ev U → unitAt pat B j U = none) := by
  intro U
  induction U with
  | sym y =>
    refine ⟨fun _ hm => ?_, fun h => by simp [plain.plainTail] at h⟩
    have hy : y ∈ ev ∧ x = y := by
      simp only [evSyms, tmplSyms, List.filter_cons, List.filter_nil] at hm
      split at hm
      · rename_i hy; exact ⟨by simpa using hy, by simpa using hm⟩
      · cases hm
    obtain ⟨hyev, rfl⟩ := hy
    have he : pat.isExpandedVariable (.sym x) = true := by rw [hexp]; simpa using hyev
    simp only [unitAt, varAt, hsub x hyev, he, if_true]
    exact List.getElem?_eq_none hx
  | pair a d iha ihd =>
    have key : plain s.es a = true → plain.plainTail s.es d = true → x ∈ evSyms ev (.pair a d) →
        unitAt pat B j (.pair a d) = none := by
      intro ha hd hm
      rw [evSyms_pair, List.mem_append] at hm
      rw [unitAt]
      rcases hm with hm | hm
      · rw [iha.1 ha hm, pairO_none_left]
      · rw [ihd.2 hd hm, pairO_none_right]
    constructor
    · intro hp; simp only [plain, Bool.and_eq_true] at hp; exact key hp.1 hp.2
    · intro hp; simp only [plain.plainTail, Bool.and_eq_true] at hp; exact key hp.1 hp.2
  | vec v _ => exact ⟨fun h => by simp [plain] at h, fun h => by simp [plain.plainTail] at h⟩
  | _ => exact ⟨fun _ hm => by simp [evSyms, tmplSyms] at hm, fun _ hm => by simp [evSyms, tmplSyms] at hm⟩

end unit

end Marwood.Transform
