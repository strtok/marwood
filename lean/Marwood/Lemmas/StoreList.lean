import Marwood.Lemmas.Store
/-! # Pairs, list views (`IsList`, `Spine`, `Chain`) and the list procedures -/
namespace Marwood.Store
open Outcome

theorem car_ok {s : Store} {v : VCell} {a d : Nat} (h : s.get v = .ok (.pair a d)) :
    car s [v] = .ok (s, .ptr a) := by
  simp only [car, h, bind_ok]

theorem cdr_ok {s : Store} {v : VCell} {a d : Nat} (h : s.get v = .ok (.pair a d)) :
    cdr s [v] = .ok (s, .ptr d) := by
  simp only [cdr, h, bind_ok]

theorem car_err {s : Store} {v c : VCell} (h : s.get v = .ok c) (hc : c.isPair = false) :
    car s [v] = .err .pair := by
  simp only [car, h, bind_ok]
  cases c <;> first | rfl | simp [VCell.isPair] at hc

theorem cdr_err {s : Store} {v c : VCell} (h : s.get v = .ok c) (hc : c.isPair = false) :
    cdr s [v] = .err .pair := by
  simp only [cdr, h, bind_ok]
  cases c <;> first | rfl | simp [VCell.isPair] at hc

theorem Denotes.mono {s s' : Store} (h : Extends s s') {w : Nat} {v : VCell} (hd : Denotes s w v) :
    Denotes s' w v := by
  rcases hd with hd | ⟨h1, h2⟩
  · exact Or.inl hd
  · exact Or.inr ⟨h1, h.cell h2⟩

theorem setCell_spec {s : Store} {q : Nat} (h : q < s.cells.length) (c : VCell) :
    ∃ s', s.setCell q c = .ok s' ∧ s'.cells[q]? = some c ∧ s'.cells.length = s.cells.length ∧
      (∀ i, i ≠ q → s'.cells[i]? = s.cells[i]?) ∧ s'.vecs = s.vecs ∧ s'.strs = s.strs := by
  refine ⟨{ s with cells := s.cells.set q c }, by simp [Store.setCell, h], by simp [h], by simp,
    fun i hi => ?_, rfl, rfl⟩
  simp [Ne.symm hi]

theorem lt_of_cell {s : Store} {q : Nat} {c : VCell} (h : s.cells[q]? = some c) :
    q < s.cells.length := (List.getElem?_eq_some_iff.mp h).1

theorem IsList.mono {s s' : Store} (h : Extends s s') {v : VCell} {as : List Nat}
    (hl : IsList s v as) : IsList s' v as := by
  induction hl with
  | nil hg => exact .nil (h.get hg)
  | cons hg _ ih => exact .cons (h.get hg) ih

theorem Spine.mono {s s' : Store} (h : Extends s s') {v c : VCell} {as : List Nat}
    (hl : Spine s v as c) : Spine s' v as c := by
  induction hl with
  | done hg hc => exact .done (h.get hg) hc
  | cons hg _ ih => exact .cons (h.get hg) ih

theorem Chain.mono {s s' : Store} (h : Extends s s') {p q : Nat} {ls : List (Nat × Nat)}
    (hc : Chain s p ls q) : Chain s' p ls q := by
  induction hc with
  | nil => exact .nil
  | cons hg _ ih => exact .cons (h.cell hg) ih

theorem Chain.congr {s s' : Store} {p q : Nat} {ls : List (Nat × Nat)} (hc : Chain s p ls q)
    (h : ∀ x ∈ ls, s'.cells[x.1]? = s.cells[x.1]?) : Chain s' p ls q := by
  induction hc with
  | nil => exact .nil
  | cons hg _ ih =>
    refine .cons ?_ (ih fun x hx => h x (List.mem_cons_of_mem _ hx))
    rw [h _ (List.mem_cons_self ..)]; exact hg

theorem Chain.isList {s : Store} {p q : Nat} {ls : List (Nat × Nat)} (hc : Chain s p ls q)
    (hq : s.cells[q]? = some .nil) : IsList s (.ptr p) (ls.map Prod.snd) := by
  induction hc with
  | nil => exact .nil (get_of_cell hq)
  | cons hg _ ih => exact .cons (get_of_cell hg) (ih hq)

theorem Chain.isListTail {s : Store} {p q : Nat} {ls : List (Nat × Nat)} {as : List Nat}
    (hc : Chain s p ls q) (hq : IsList s (.ptr q) as) :
    IsList s (.ptr p) (ls.map Prod.snd ++ as) := by
  induction hc with
  | nil => simpa using hq
  | cons hg _ ih => exact .cons (get_of_cell hg) (ih hq)

theorem Chain.append {s : Store} {p q r : Nat} {l1 l2 : List (Nat × Nat)}
    (h1 : Chain s p l1 q) (h2 : Chain s q l2 r) : Chain s p (l1 ++ l2) r := by
  induction h1 with
  | nil => simpa using h2
  | cons hg _ ih => exact .cons hg (ih h2)

theorem IsList.unique {s : Store} {v : VCell} {as bs : List Nat}
    (h1 : IsList s v as) (h2 : IsList s v bs) : as = bs := by
  induction h1 generalizing bs with
  | nil hg =>
    cases h2 with
    | nil _ => rfl
    | cons hg' _ => rw [hg] at hg'; cases hg'
  | cons hg _ ih =>
    cases h2 with
    | nil hg' => rw [hg] at hg'; cases hg'
    | cons hg' ht =>
      rw [hg] at hg'; cases hg'
      rw [ih ht]

theorem IsList.toSpine {s : Store} {v : VCell} {as : List Nat} (h : IsList s v as) :
    Spine s v as .nil := by
  induction h with
  | nil hg => exact .done hg rfl
  | cons hg _ ih => exact .cons hg ih

theorem reverseLoop_step {f : Nat} {s : Store} {a d tail : Nat} {c : VCell} (hg : s.get (.ptr d) = .ok c) :
    reverseLoop (f+1) s (.pair a d) (.ptr tail) =
      if c.isPair then reverseLoop f (s.alloc (.pair a tail)).1 c (.ptr s.cells.length)
      else if c.isNil then .ok ((s.alloc (.pair a tail)).1, .ptr s.cells.length) else .err .syntax := by
  have : (s.alloc (.pair a tail)).1.get (.ptr d) = .ok c := (alloc_extends s _).get hg
  simp only [Store.alloc] at this
  simp only [reverseLoop, VCell.asCar_pair, VCell.asPtr_ptr, bind_ok, put_pair, VCell.asCdr_pair, this]
  rfl

theorem Chain.alloc {s : Store} {tail q0 n0 : Nat} {acc : List (Nat × Nat)} (a : Nat) (hc : Chain s tail acc q0)
    (hf : FreshFrom n0 acc) (hn : n0 ≤ s.cells.length) :
    Chain (s.alloc (.pair a tail)).1 s.cells.length ((s.cells.length, a) :: acc) q0 ∧
      FreshFrom n0 ((s.cells.length, a) :: acc) := by
  refine ⟨.cons (alloc_cell s _) (hc.mono (alloc_extends s _)), fun x hx => ?_⟩
  rcases List.mem_cons.mp hx with rfl | hx
  · exact hn
  · exact hf x hx

/-- `acc` is the chain built so far, from `tail` down to `q0`, all allocated at or after heap size `n0`. The loop
    looks at the next cell in the same iteration, so `rest.length < fuel` is enough (`collectCars`, `isListLoop`,
    `cloneList` need one iteration more to see the final non-pair). -/
theorem reverseLoop_spec (n0 : Nat) : ∀ (rest : List Nat) (fuel : Nat) (s : Store) (a d tail q0 : Nat)
    (acc : List (Nat × Nat)),
    IsList s (.ptr d) rest → Chain s tail acc q0 → FreshFrom n0 acc → n0 ≤ s.cells.length →
    rest.length < fuel →
    ∃ s' r ls, reverseLoop fuel s (.pair a d) (.ptr tail) = .ok (s', .ptr r) ∧
      Chain s' r ls q0 ∧ ls.map Prod.snd = rest.reverse ++ a :: acc.map Prod.snd ∧
      FreshFrom n0 ls ∧ Extends s s' := by
  intro rest
  induction rest with
  | nil =>
    intro fuel s a d tail q0 acc hl hc hf hn hfuel
    obtain ⟨f, rfl⟩ : ∃ f, fuel = f + 1 := ⟨fuel - 1, by simp at hfuel; omega⟩
    obtain ⟨hacc, hfr⟩ := hc.alloc a hf hn
    cases hl with
    | nil hg => exact ⟨_, _, _, reverseLoop_step hg, hacc, by simp, hfr, alloc_extends s _⟩
  | cons a2 rest2 ih =>
    intro fuel s a d tail q0 acc hl hc hf hn hfuel
    obtain ⟨f, rfl⟩ : ∃ f, fuel = f + 1 := ⟨fuel - 1, by simp at hfuel; omega⟩
    obtain ⟨hacc, hfr⟩ := hc.alloc a hf hn
    cases hl with
    | cons hg ht =>
      have hext := alloc_extends s (.pair a tail)
      obtain ⟨s', r, ls, h1, h2, h3, h4, h5⟩ := ih f _ a2 _ _ q0 _ (ht.mono hext) hacc hfr (by simp; omega)
        (by simp at hfuel; omega)
      exact ⟨s', r, ls, (reverseLoop_step hg).trans h1, h2, by simp [h3], h4, hext.trans h5⟩

theorem reverseLoop_err {c : VCell} (hnil : c.isNil = false) :
    ∀ (rest : List Nat) (fuel : Nat) (s : Store) (a d tail : Nat),
    Spine s (.ptr d) rest c → rest.length < fuel →
    ∃ e, reverseLoop fuel s (.pair a d) (.ptr tail) = .err e := by
  intro rest
  induction rest with
  | nil =>
    intro fuel s a d tail hl hfuel
    obtain ⟨f, rfl⟩ : ∃ f, fuel = f + 1 := ⟨fuel - 1, by simp at hfuel; omega⟩
    cases hl with
    | done hg hp => exact ⟨.syntax, by simp [reverseLoop_step hg, hp, hnil]⟩
  | cons a2 rest2 ih =>
    intro fuel s a d tail hl hfuel
    obtain ⟨f, rfl⟩ : ∃ f, fuel = f + 1 := ⟨fuel - 1, by simp at hfuel; omega⟩
    cases hl with
    | cons hg ht =>
      obtain ⟨e, he⟩ := ih f _ a2 _ s.cells.length (ht.mono (alloc_extends s (.pair a tail)))
        (by simp at hfuel; omega)
      exact ⟨e, (reverseLoop_step hg).trans he⟩

theorem denotes_forall₂_mono {s s' : Store} (h : Extends s s') {as : List Nat} {vs : List VCell}
    (hf : DenotesAll s as vs) : DenotesAll s' as vs := by
  induction hf with
  | nil => exact .nil
  | cons hd _ ih => exact .cons (hd.mono h) ih

theorem DenotesAll.length {s : Store} {as : List Nat} {vs : List VCell}
    (hf : DenotesAll s as vs) : as.length = vs.length := by
  induction hf with
  | nil => rfl
  | cons _ _ ih => simp [ih]

theorem vecToListLoop_eq : ∀ (xs : List VCell) (s : Store) (acc : Nat),
    vecToListLoop s xs (.ptr acc) = listLoop s xs acc >>= fun r => .ok (r.1, .ptr r.2)
  | [], _, _ => rfl
  | x :: xs, s, acc => by
    simp only [vecToListLoop, listLoop, VCell.asPtr_ptr, bind_ok, put_pair]
    cases (s.put x).2.asPtr with
    | ok cp => exact vecToListLoop_eq xs _ _
    | _ => rfl

theorem collectCars_spec {s : Store} {c : VCell} : ∀ (rest : List Nat) (fuel a d : Nat)
    (acc : List VCell), Spine s (.ptr d) rest c → rest.length + 1 < fuel →
    collectCars fuel s (.pair a d) acc = .ok (acc ++ (a :: rest).map VCell.ptr, c) := by
  intro rest
  induction rest with
  | nil =>
    intro fuel a d acc hl hfuel
    obtain ⟨f, rfl⟩ : ∃ f, fuel = f + 2 := ⟨fuel - 2, by simp at hfuel; omega⟩
    cases hl with
    | done hg hp =>
      simp only [collectCars, VCell.isPair_pair, if_true, VCell.asCar_pair, VCell.asCdr_pair, bind_ok,
        hg, hp, Bool.false_eq_true, if_false, List.map_cons, List.map_nil]
  | cons a2 rest2 ih =>
    intro fuel a d acc hl hfuel
    obtain ⟨f, rfl⟩ : ∃ f, fuel = f + 1 := ⟨fuel - 1, by simp at hfuel; omega⟩
    cases hl with
    | cons hg ht =>
      rename_i d2
      simp only [collectCars, VCell.isPair_pair, if_true, VCell.asCar_pair, VCell.asCdr_pair, bind_ok, hg]
      rw [ih f a2 d2 _ ht (by simp at hfuel; omega)]
      simp

theorem nullP_of_get {s : Store} {v c : VCell} (h : s.get v = .ok c) : nullP s v = .ok c.isNil := by
  simp only [nullP, h, bind_ok]

theorem pairP_of_get {s : Store} {v c : VCell} (h : s.get v = .ok c) : pairP s v = .ok c.isPair := by
  simp only [pairP, h, bind_ok]

theorem carV_ok {s : Store} {v : VCell} {a d : Nat} (h : s.get v = .ok (.pair a d)) :
    carV s v = .ok (.ptr a) := by simp only [carV, car_ok h, bind_ok]

theorem cdrV_ok {s : Store} {v : VCell} {a d : Nat} (h : s.get v = .ok (.pair a d)) :
    cdrV s v = .ok (.ptr d) := by simp only [cdrV, cdr_ok h, bind_ok]

theorem carV_err {s : Store} {v c : VCell} (h : s.get v = .ok c) (hc : c.isPair = false) :
    carV s v = .err .pair := by simp only [carV, car_err h hc, bind_err]

theorem cdrV_err {s : Store} {v c : VCell} (h : s.get v = .ok c) (hc : c.isPair = false) :
    cdrV s v = .err .pair := by simp only [cdrV, cdr_err h hc, bind_err]

theorem isListLoop_spec {s : Store} {c : VCell} : ∀ (rest : List Nat) (fuel a d : Nat),
    Spine s (.ptr d) rest c → rest.length + 1 < fuel →
    isListLoop fuel s (.pair a d) = .ok c.isNil := by
  intro rest
  induction rest with
  | nil =>
    intro fuel a d hl hfuel
    obtain ⟨f, rfl⟩ : ∃ f, fuel = f + 2 := ⟨fuel - 2, by simp at hfuel; omega⟩
    cases hl with
    | done hg hp =>
      simp only [isListLoop, VCell.isPair_pair, Bool.not_true, Bool.false_eq_true, if_false,
        VCell.asCdr_pair, bind_ok, hg, hp, Bool.not_false, if_true]
  | cons a2 rest2 ih =>
    intro fuel a d hl hfuel
    obtain ⟨f, rfl⟩ : ∃ f, fuel = f + 1 := ⟨fuel - 1, by simp at hfuel; omega⟩
    cases hl with
    | cons hg ht =>
      rename_i d2
      simp only [isListLoop, VCell.isPair_pair, Bool.not_true, Bool.false_eq_true, if_false,
        VCell.asCdr_pair, bind_ok, hg]
      exact ih f a2 d2 ht (by simp at hfuel; omega)

theorem getListTail_ok {s : Store} {v t : VCell} {k : Nat} (h : NthCdr s v k t) :
    getListTail s v k = .ok t := by
  induction h with
  | zero => rfl
  | succ hg _ ih =>
    simp only [getListTail, hg, bind_ok, VCell.isPair_pair, Bool.not_true, Bool.false_and, VCell.isNil,
      Bool.or_self, Bool.false_eq_true, if_false, VCell.asCdr_pair]
    exact ih

theorem getListTail_err {s : Store} {v c : VCell} {as : List Nat} (hl : Spine s v as c) :
    ∀ k, as.length < k → ∃ e, getListTail s v k = .err e := by
  induction hl with
  | done hg hp =>
    intro k hk
    obtain ⟨j, rfl⟩ : ∃ j, k = j + 1 := ⟨k - 1, by simp at hk; omega⟩
    rename_i v c
    simp only [getListTail, hg, bind_ok, hp, Bool.not_false, Bool.true_and]
    by_cases h1 : ((j != 0) || c.isNil) = true
    · rw [if_pos h1]; exact ⟨_, rfl⟩
    · rw [if_neg h1]
      cases c <;> first | exact ⟨_, rfl⟩ | simp [VCell.isPair] at hp
  | cons hg _ ih =>
    intro k hk
    obtain ⟨j, rfl⟩ : ∃ j, k = j + 1 := ⟨k - 1, by simp at hk; omega⟩
    obtain ⟨e, he⟩ := ih j (by simp at hk; omega)
    simp only [getListTail, hg, bind_ok, VCell.isPair_pair, Bool.not_true, Bool.false_and, VCell.isNil,
      Bool.or_self, Bool.false_eq_true, if_false, VCell.asCdr_pair]
    exact ⟨e, he⟩

theorem Spine.nthCdr {s : Store} {v c : VCell} {as : List Nat} (hl : Spine s v as c) :
    ∀ k, k ≤ as.length → ∃ t, NthCdr s v k t ∧ Spine s t (as.drop k) c := by
  induction hl with
  | done hg hp =>
    intro k hk
    have : k = 0 := by simpa using hk
    subst this
    exact ⟨_, .zero, .done hg hp⟩
  | cons hg ht ih =>
    intro k hk
    cases k with
    | zero => exact ⟨_, .zero, .cons hg ht⟩
    | succ j =>
      obtain ⟨t, h1, h2⟩ := ih j (by simpa using hk)
      exact ⟨t, .succ hg h1, by simpa using h2⟩

theorem Spine.head {s : Store} {v c : VCell} {as : List Nat} (hl : Spine s v as c) :
    ∃ c0, s.get v = .ok c0 ∧ (c0.isPair = true ∨ c0 = c) := by
  cases hl with
  | done hg _ => exact ⟨_, hg, Or.inr rfl⟩
  | cons hg _ => exact ⟨_, hg, Or.inl rfl⟩

theorem eqvCells_key {s : Store} {k c : VCell} (hk : k.isKeyScalar = true) :
    eqvCells s k c = .ok (decide (k = c)) := by
  cases k <;> simp [VCell.isKeyScalar] at hk <;> cases c <;> simp [eqvCells] <;> rfl

theorem isNil_ptr (a : Nat) : (VCell.ptr a).isNil = false := rfl
theorem isNil_pair (a d : Nat) : (VCell.pair a d).isNil = false := rfl

theorem Extends.setCell {s0 s s' : Store} {q : Nat} {c : VCell} (h : Extends s0 s)
    (hq : s0.cells.length ≤ q) (hs : s.setCell q c = .ok s') : Extends s0 s' := by
  unfold Store.setCell at hs
  split at hs
  · cases hs
    refine ⟨fun i hi => ?_, h.vecs, h.strs⟩
    have : q ≠ i := by omega
    simp only [List.getElem?_set_ne this]
    exact h.cells i hi
  · cases hs

/-- one round of `clone_list`: the new last pair `(a . nilp)` sits at `|cells|`, the old last pair `tp` is relinked to it -/
theorem cloneLoop_round {s0 s : Store} {nilp hp tp lastcar : Nat} {ls : List (Nat × Nat)} (a : Nat)
    (hext : Extends s0 s) (htp : s0.cells.length ≤ tp) (hch : Chain s hp ls tp)
    (hfr : ∀ x ∈ ls, s0.cells.length ≤ x.1 ∧ x.1 < tp) (hlast : s.cells[tp]? = some (.pair lastcar nilp)) :
    ∃ s2, (∀ (f d : Nat) (c : VCell), s0.get (.ptr d) = .ok c →
        cloneLoop (f+1) s (.pair a d) nilp (.ptr hp) (.ptr tp) =
          if c.isPair then cloneLoop f s2 c nilp (.ptr hp) (.ptr s.cells.length)
          else if c.isNil then .ok (s2, .ptr hp, .ptr s.cells.length) else .err .syntax) ∧
      Extends s0 s2 ∧ s0.cells.length ≤ s.cells.length ∧ Chain s2 hp (ls ++ [(tp, lastcar)]) s.cells.length ∧
      (∀ x ∈ ls ++ [(tp, lastcar)], s0.cells.length ≤ x.1 ∧ x.1 < s.cells.length) ∧
      s2.cells[s.cells.length]? = some (.pair a nilp) := by
  have hlt := lt_of_cell hlast
  have hext1 := alloc_extends s (.pair a nilp)
  obtain ⟨s2, e1, e2, _, e4, _, _⟩ :=
    setCell_spec (s := (s.alloc (.pair a nilp)).1) (q := tp) (by simp; omega) (.pair lastcar s.cells.length)
  have hext2 : Extends s0 s2 := (hext.trans hext1).setCell htp e1
  refine ⟨s2, fun f d c hg => ?_, hext2, by omega, ?_, fun x hx => ?_, ?_⟩
  · have hl1 : ({ s with cells := s.cells ++ [.pair a nilp] } : Store).get (.ptr tp) =
        .ok (.pair lastcar nilp) := hext1.get (get_of_cell hlast)
    have e1' : ({ s with cells := s.cells ++ [.pair a nilp] } : Store).setCell tp
        (.pair lastcar s.cells.length) = .ok s2 := e1
    simp only [cloneLoop, VCell.asCar_pair, VCell.asPtr_ptr, bind_ok, put_pair, isNil_ptr,
      Bool.false_eq_true, if_false, VCell.asCdr_pair, hl1, e1', hext2.get hg]
  · refine Chain.append ((hch.mono hext1).congr fun x hx => ?_) (.cons e2 .nil)
    exact e4 _ (by have := (hfr x hx).2; omega)
  · rcases List.mem_append.mp hx with hx | hx
    · have := hfr x hx; omega
    · simp at hx; subst hx; simp; omega
  · rw [e4 _ (by omega)]; exact alloc_cell s _

/-- `ls` is the copy linked so far, from `hp` up to, not including, the last pair `tp`; its addresses lie in
    `[|s0|, tp)`, which is what lets `setCell tp` leave it intact (`Chain.congr`) -/
theorem cloneLoop_steady {s0 : Store} {c : VCell} (nilp : Nat) :
    ∀ (rest : List Nat) (fuel : Nat) (s : Store) (a d hp tp lastcar : Nat) (ls : List (Nat × Nat)),
    Spine s0 (.ptr d) rest c → Extends s0 s → s0.cells.length ≤ tp →
    Chain s hp ls tp → (∀ x ∈ ls, s0.cells.length ≤ x.1 ∧ x.1 < tp) →
    s.cells[tp]? = some (.pair lastcar nilp) → rest.length < fuel →
    (c = .nil → ∃ s' tp' ls' lastcar',
        cloneLoop fuel s (.pair a d) nilp (.ptr hp) (.ptr tp) = .ok (s', .ptr hp, .ptr tp') ∧
        Extends s0 s' ∧ Chain s' hp ls' tp' ∧ s'.cells[tp']? = some (.pair lastcar' nilp) ∧
        ls'.map Prod.snd ++ [lastcar'] = ls.map Prod.snd ++ lastcar :: a :: rest ∧
        (∀ x ∈ ls', s0.cells.length ≤ x.1 ∧ x.1 < tp') ∧ s0.cells.length ≤ tp') ∧
    (c ≠ .nil → ∃ e, cloneLoop fuel s (.pair a d) nilp (.ptr hp) (.ptr tp) = .err e) := by
  intro rest
  induction rest with
  | nil =>
    intro fuel s a d hp tp lastcar ls hsp hext htp hch hfr hlast hfuel
    obtain ⟨f, rfl⟩ : ∃ f, fuel = f + 1 := ⟨fuel - 1, by simp at hfuel; omega⟩
    obtain ⟨s2, hstep, hext2, hn0, hch2, hfr2, hnew⟩ := cloneLoop_round a hext htp hch hfr hlast
    cases hsp with
    | done hg hp' =>
      rw [hstep f d c hg, hp']
      refine ⟨fun hc => ?_, fun hc => ?_⟩
      · subst hc
        exact ⟨s2, s.cells.length, ls ++ [(tp, lastcar)], a, rfl, hext2, hch2, hnew, by simp, hfr2, hn0⟩
      · have : c.isNil = false := by cases c <;> first | rfl | exact absurd rfl hc
        exact ⟨.syntax, by simp [this]⟩
  | cons a2 rest2 ih =>
    intro fuel s a d hp tp lastcar ls hsp hext htp hch hfr hlast hfuel
    obtain ⟨f, rfl⟩ : ∃ f, fuel = f + 1 := ⟨fuel - 1, by simp at hfuel; omega⟩
    obtain ⟨s2, hstep, hext2, hn0, hch2, hfr2, hnew⟩ := cloneLoop_round a hext htp hch hfr hlast
    cases hsp with
    | cons hg ht =>
      rw [hstep f d _ hg]
      obtain ⟨ihok, iherr⟩ := ih f s2 a2 _ hp s.cells.length a _ ht hext2 hn0 hch2 hfr2 hnew
        (by simp at hfuel; omega)
      refine ⟨fun hc => ?_, iherr⟩
      obtain ⟨s', tp', ls', lastcar', r1, r2, r3, r4, r5, r6, r7⟩ := ihok hc
      exact ⟨s', tp', ls', lastcar', r1, r2, r3, r4, by simpa using r5, r6, r7⟩

theorem cloneList_spec {s : Store} {c : VCell} {a d : Nat} {rest : List Nat} {fuel : Nat}
    (hsp : Spine s (.ptr d) rest c) (hfuel : rest.length + 1 < fuel) :
    (c = .nil → ∃ s' hp tp ls lastcar x,
        cloneList fuel s (.pair a d) = .ok (s', .ptr hp, .ptr tp) ∧ Extends s s' ∧
        Chain s' hp ls tp ∧ s'.cells[tp]? = some (.pair lastcar x) ∧
        ls.map Prod.snd ++ [lastcar] = a :: rest ∧
        (∀ y ∈ ls, s.cells.length ≤ y.1 ∧ y.1 < tp) ∧ s.cells.length ≤ tp) ∧
    (c ≠ .nil → ∃ e, cloneList fuel s (.pair a d) = .err e) := by
  obtain ⟨f, rfl⟩ : ∃ f, fuel = f + 1 := ⟨fuel - 1, by omega⟩
  -- `hx0`: past the shared nil cell; `hx1`: past the first pair of the copy
  have hx0 := alloc_extends s .nil
  have hx1 := alloc_extends (s.alloc .nil).1 (.pair a s.cells.length)
  have hunf : cloneList (f + 1) s (.pair a d) =
      (do
        let rest' ← ((s.alloc .nil).1.alloc (.pair a s.cells.length)).1.get (.ptr d)
        if rest'.isPair then
          cloneLoop f ((s.alloc .nil).1.alloc (.pair a s.cells.length)).1 rest' s.cells.length
            (.ptr (s.cells.length + 1)) (.ptr (s.cells.length + 1))
        else if rest'.isNil then
          .ok (((s.alloc .nil).1.alloc (.pair a s.cells.length)).1, .ptr (s.cells.length + 1),
            .ptr (s.cells.length + 1))
        else .err .syntax) := by
    -- every step computes; only the length of `cells ++ [nil]` has to be told
    have hlen : (s.cells ++ [VCell.nil]).length = s.cells.length + 1 := List.length_append
    rw [← hlen]
    rfl
  have hcell1 : ((s.alloc .nil).1.alloc (.pair a s.cells.length)).1.cells[s.cells.length + 1]? =
      some (.pair a s.cells.length) := by
    have := alloc_cell (s.alloc .nil).1 (.pair a s.cells.length)
    simpa using this
  cases hsp with
  | done hg hp' =>
    have hg1 := (hx0.trans hx1).get hg
    refine ⟨fun hc => ?_, fun hc => ?_⟩
    · subst hc
      refine ⟨_, s.cells.length + 1, s.cells.length + 1, [], a, s.cells.length, ?_, hx0.trans hx1, .nil,
        hcell1, by simp, by simp, by omega⟩
      rw [hunf, hg1]; rfl
    · have : c.isNil = false := by cases c <;> first | rfl | exact absurd rfl hc
      rw [hunf, hg1]
      simp only [bind_ok, hp', Bool.false_eq_true, if_false, this]
      exact ⟨_, rfl⟩
  | cons hg ht =>
    rename_i a2 d2 rest2
    have hg1 := (hx0.trans hx1).get hg
    have hst := cloneLoop_steady (s0 := (s.alloc .nil).1) (c := c) s.cells.length rest2 f
      ((s.alloc .nil).1.alloc (.pair a s.cells.length)).1 a2 d2 (s.cells.length + 1)
      (s.cells.length + 1) a [] (ht.mono hx0) hx1 (by simp) .nil (by simp) hcell1
      (by simp at hfuel; omega)
    refine ⟨fun hc => ?_, fun hc => ?_⟩
    · obtain ⟨s', tp', ls', lastcar', r1, r2, r3, r4, r5, r6, r7⟩ := hst.1 hc
      refine ⟨s', s.cells.length + 1, tp', ls', lastcar', s.cells.length, ?_, hx0.trans r2, r3, r4,
        by simpa using r5, fun y hy => ?_, by simp at r7; omega⟩
      · rw [hunf, hg1]
        simp only [bind_ok, VCell.isPair_pair, if_true]
        exact r1
      · have := r6 y hy; simp at this; omega
    · obtain ⟨e, he⟩ := hst.2 hc
      refine ⟨e, ?_⟩
      rw [hunf, hg1]
      simp only [bind_ok, VCell.isPair_pair, if_true]
      exact he


theorem AllLists.mono {s s' : Store} (h : Extends s s') {vs : List VCell} {ass : List (List Nat)}
    (hl : AllLists s vs ass) : AllLists s' vs ass := by
  induction hl with
  | nil => exact .nil
  | cons h1 _ ih => exact .cons (h1.mono h) ih

theorem AllLists.snoc {s : Store} {vs : List VCell} {ass : List (List Nat)} {v : VCell}
    {as : List Nat} (hl : AllLists s vs ass) (h : IsList s v as) :
    AllLists s (vs ++ [v]) (ass ++ [as]) := by
  induction hl with
  | nil => exact .cons h .nil
  | cons h1 _ ih => exact .cons h1 ih

theorem AllLists.reverse {s : Store} {vs : List VCell} {ass : List (List Nat)}
    (hl : AllLists s vs ass) : AllLists s vs.reverse ass.reverse := by
  induction hl with
  | nil => exact .nil
  | cons h1 _ ih => simpa using ih.snoc h1

/-- `revArgs`: the arguments still on the stack, top first (the last list first); `tailp`: the result so far -/
theorem appendLoop_spec {fuel : Nat} : ∀ (revArgs : List VCell) (revViews : List (List Nat))
    (s : Store) (tailp : Nat), AllLists s revArgs revViews →
    (∀ as ∈ revViews, as.length + 1 < fuel) →
    ∃ s' r ls, appendLoop fuel s revArgs (.ptr tailp) = .ok (s', .ptr r) ∧ Chain s' r ls tailp ∧
      ls.map Prod.snd = revViews.reverse.flatten ∧ (∀ y ∈ ls, s.cells.length ≤ y.1) ∧
      Extends s s' := by
  intro revArgs
  induction revArgs with
  | nil =>
    intro revViews s tailp hl _
    cases hl
    exact ⟨s, tailp, [], rfl, .nil, by simp, by simp, Extends.refl s⟩
  | cons v vs ih =>
    intro revViews s tailp hl hfuel
    cases hl with
    | cons h1 h2 =>
      rename_i as ass
      cases h1 with
      | nil hg =>
        obtain ⟨s', r, ls, e1, e2, e3, e4, e5⟩ := ih ass s tailp h2
          (fun x hx => hfuel x (List.mem_cons_of_mem _ hx))
        refine ⟨s', r, ls, ?_, e2, by simpa using e3, e4, e5⟩
        simp only [appendLoop, hg, bind_ok]
        exact e1
      | cons hg ht =>
        rename_i a d rest
        have hf := hfuel (a :: rest) (List.mem_cons_self ..)
        obtain ⟨s1, hp, tp, ls1, lastcar, x, c1, c2, c3, c4, c5, c6, c7⟩ :=
          (cloneList_spec (a := a) (fuel := fuel) ht.toSpine (by simp at hf; omega)).1 rfl
        obtain ⟨s2, d1, d2, d3, d4, d5, d6⟩ := setCell_spec (lt_of_cell c4) (.pair lastcar tailp)
        have hx2 : Extends s s2 := c2.setCell c7 d1
        have hch : Chain s2 hp (ls1 ++ [(tp, lastcar)]) tailp := by
          refine Chain.append (c3.congr fun y hy => ?_) (.cons d2 .nil)
          exact d4 _ (by have := (c6 y hy).2; omega)
        obtain ⟨s', r, ls2, e1, e2, e3, e4, e5⟩ := ih ass s2 hp (h2.mono hx2)
          (fun x hx => hfuel x (List.mem_cons_of_mem _ hx))
        refine ⟨s', r, ls2 ++ (ls1 ++ [(tp, lastcar)]), ?_, e2.append (hch.mono e5), ?_, ?_,
          hx2.trans e5⟩
        · simp only [appendLoop, hg, bind_ok, c1, get_of_cell c4, VCell.asCar_pair, VCell.asPtr_ptr, d1]
          exact e1
        · simp only [List.map_append, e3, List.map_cons, List.map_nil, List.reverse_cons,
            List.flatten_append, List.flatten_cons, List.flatten_nil, List.append_nil]
          rw [c5]
        · intro y hy
          rcases List.mem_append.mp hy with hy | hy
          · exact Nat.le_trans hx2.len (e4 y hy)
          · rcases List.mem_append.mp hy with hy | hy
            · exact (c6 y hy).1
            · simp at hy; subst hy; exact c7

end Marwood.Store
