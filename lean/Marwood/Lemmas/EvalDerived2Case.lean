import Marwood.Lemmas.EvalDerived2
/-!
# T01.2, second half, `case`

* rule 1 `(case (k …) clause …)` ≈ `(let ((atom-key (k …))) (case atom-key clause …))`, binder `atom-key`
  (`case_key_agrees`, through `binder_agree`);
* rule 3 `(case k (else r1 r2 …))` ≈ `(begin r1 r2 …)` from a state in which evaluating `k` succeeds
  without effect (`case_else_same`) — the native meaning evaluates the key, the expansion does not;
* for the rules with a datum list (`EvalDerived2Case2.lean`): what the test `(memv k '(d …))` of the
  expansion computes (`memvTest_eval`), for an atomic key (`atomKey`: what the key is after rule 1), data
  that `quote` turns into atoms (`simpleAtom`) and a state in which `memv` is the primitive.
-/
namespace Marwood.Spec.Eval.Derived
open Marwood Marwood.Spec.Eval Marwood.Spec.Eval.Prelude Marwood.Spec.Eval.Extra

theorem native_case (r : Rec) (ρ : Env) (k c : Datum) (cs : List Datum) :
    evalStep r (caseUse k (c :: cs)) ρ = (do
      let key ← r.eval k ρ
      evalCase r ρ key (c :: cs)) := by
  have hl : properList (Datum.pair c (Datum.ofList cs)) = some (c :: cs) := properList_ofList (c :: cs)
  simp only [caseUse, L, s, Datum.ofList, evalStep, kwOf_case, evalKw, hl]

theorem ofList_ne_else (atoms : List Datum) : (L atoms == Datum.sym k_else_) = false := by
  cases atoms <;> simp [L, Datum.ofList]

theorem evalCase_body (r : Rec) (ρ : Env) (key : Val) (atoms : List Datum) (r1 : Datum) (rs cs : List Datum)
    (hr : ¬ (r1 = s k_arrow ∧ rs.length = 1)) :
    evalCase r ρ key (L (L atoms :: r1 :: rs) :: cs) =
      if atoms.any (eqvDatum key) then evalExprs r ρ (r1 :: rs) else evalCase r ρ key cs := by
  have hl : properList (Datum.ofList (r1 :: rs)) = some (r1 :: rs) := properList_ofList _
  have ha : properList (L atoms) = some atoms := properList_ofList _
  simp only [evalCase, L, Datum.ofList] at hl ha ⊢
  simp only [hl]
  have hne := ofList_ne_else atoms
  simp only [L] at hne
  simp only [hne, ha, Option.map]
  cases atoms.any (eqvDatum key) with
  | false => simp
  | true =>
    simp only [if_true]
    match rs, hr with
    | [], _ => rfl
    | [f], hr =>
      have : (r1 == Datum.sym k_arrow) = false := by simpa [s] using hr
      simp [this]
    | _ :: _ :: _, _ => rfl

theorem evalCase_arrow (r : Rec) (ρ : Env) (key : Val) (atoms : List Datum) (f : Datum) (cs : List Datum) :
    evalCase r ρ key (L [L atoms, s k_arrow, f] :: cs) =
      if atoms.any (eqvDatum key) then (do let fv ← r.eval f ρ; r.apply fv [key]) else evalCase r ρ key cs := by
  have hl : properList (Datum.ofList [s k_arrow, f]) = some [s k_arrow, f] := properList_ofList _
  have ha : properList (L atoms) = some atoms := properList_ofList _
  simp only [evalCase, L, Datum.ofList] at hl ha ⊢
  simp only [hl]
  have hne := ofList_ne_else atoms
  simp only [L] at hne
  simp only [hne, ha, Option.map]
  cases atoms.any (eqvDatum key) with
  | false => simp
  | true => simp [s]

theorem isDefine_case (rest : List Datum) : isDefine (L (s k_case_ :: rest)) = false := by
  have : (k_case_ == k_define) = false := by decide
  simp [L, s, Datum.ofList, isDefine, this]

theorem case_key_agrees (ρ : Env) (ks : List Datum) (c : Datum) (cs : List Datum) (st : St) (hst : WFSt st)
    (hρ : EnvOK st.store.size ρ) (hfree : ∀ d ∈ c :: cs, mentions k_atomKey d = false) :
    AgreesUpToExtra 2 (caseUse (L ks) (c :: cs)) (caseKeyExp ks (c :: cs)) ρ st := by
  intro n hd
  cases n with
  | zero => exact absurd rfl hd
  | succ n =>
    refine ⟨guardN_eval_evalN _ _ _ _ hd, ?_⟩
    rw [guardN_eval_evalN _ _ _ _ hd]
    have e1 : (guardN (n+1)).eval (caseUse (L ks) (c :: cs)) ρ =
        ((guardN n).eval (L ks) ρ >>= fun v =>
          (fun (r : Rec) (ρ : Env) (v : Val) => evalCase r ρ v (c :: cs)) (guardN n) ρ v) := by
      rw [guardN_succ_eval, native_case]
    rw [e1] at hd ⊢
    have hx : reserved k_atomKey = false := by decide
    have e2 : (evalN (n + 1 + 2)).eval (caseKeyExp ks (c :: cs)) ρ =
        ((evalN (n + 2)).eval (L ks) ρ >>= fun v => allocCell (.var v) >>= fun l =>
          (evalN (n + 2)).eval (caseUse (s k_atomKey) (c :: cs)) ((k_atomKey, l) :: ρ)) := by
      rw [show n + 1 + 2 = (n + 2) + 1 by omega, evalN_succ_eval]
      exact let1_eval (evalN (n + 2)) ρ k_atomKey (L ks) _ hx (isDefine_case _)
    rw [e2]
    refine binder_agree k_atomKey (L ks) (fun r ρ v => evalCase r ρ v (c :: cs)) ?_ n 2 ρ st hst hρ
      (fun l _ => (evalN (n + 2)).eval (caseUse (s k_atomKey) (c :: cs)) ((k_atomKey, l) :: ρ)) ?_ hd
    · intro f hf r r' hr ρ1 ρ1' he v v' hv
      exact simD_evalCase hr he hv _ (cleanBs_of_mentions hfree)
    · intro v s1 h
      show evalStep (evalN (n + 1)) (caseUse (s k_atomKey) (c :: cs)) _ _ = _
      rw [native_case]
      show M.bind' ((evalN (n + 1)).eval (s k_atomKey) _) _ _ = _
      unfold M.bind'
      rw [eval_binder ρ (T := evalN) (fun _ => rfl) n k_atomKey hx v s1]
      exact le_evalCase (recLe_evalN_succ n) _ _ _ _ h

theorem case_else_same (ρ : Env) (k r1 : Datum) (rs : List Datum) (hr : ¬ (r1 = s k_arrow ∧ rs.length = 1)) (st : St)
    (hk : ∀ m, ∃ v, (evalN (m + 1)).eval k ρ st = .ok v st) :
    SameAt 1 (caseUse k [L (s k_else_ :: r1 :: rs)]) (caseElseExp r1 rs) ρ st := by
  intro n
  constructor
  · intro hd
    cases n with
    | zero => exact absurd rfl hd
    | succ n =>
      have h1 := (case_else_native_eval ρ k r1 rs hr n).1
      have h2 := (case_else_native_eval ρ k r1 rs hr (n + 1)).2
      rw [h1] at hd ⊢
      rw [h2]
      cases n with
      | zero => exact absurd rfl hd
      | succ m =>
        obtain ⟨v, hv⟩ := hk m
        have hb : (((evalN (m + 1)).eval k ρ >>= fun _ => evalExprs (evalN (m + 1)) ρ (r1 :: rs)) st) =
            evalExprs (evalN (m + 1)) ρ (r1 :: rs) st := by
          show M.bind' _ _ st = _
          unfold M.bind'
          rw [hv]
        rw [hb] at hd ⊢
        exact le_evalExprs (recLe_evalN_succ (m + 1)) ρ _ st hd
  · intro hd
    cases n with
    | zero => exact absurd rfl hd
    | succ n =>
      have h1 := (case_else_native_eval ρ k r1 rs hr (n + 1)).1
      have h2 := (case_else_native_eval ρ k r1 rs hr n).2
      rw [h2] at hd ⊢
      rw [h1]
      obtain ⟨v, hv⟩ := hk n
      show M.bind' _ _ st = _
      unfold M.bind'
      rw [hv]
      exact le_evalExprs (recLe_evalN_succ n) ρ _ st hd

/-- the data of a `case` clause that `quote` turns into an atom -/
def simpleAtom : Datum → Bool
  | .bool _ | .char _ | .nil | .str _ | .sym _ => true
  | .num n => (intOfNum n).isSome
  | _ => false

def atomVal : Datum → Val
  | .bool b => .bool b
  | .char c => .char c
  | .nil => .nil
  | .str t => .str t
  | .sym t => .sym t
  | .num n => .int ((intOfNum n).getD 0)
  | _ => .void

theorem quoteVal_atom (d : Datum) (h : simpleAtom d = true) : quoteVal d = pure (atomVal d) := by
  cases d <;> simp [simpleAtom] at h <;> try rfl
  rename_i n
  simp only [quoteVal, atomVal]
  cases hn : intOfNum n with
  | none => simp [hn] at h
  | some i => rfl

theorem eqv_atomVal (d : Datum) (h : simpleAtom d = true) (key : Val) : eqv (atomVal d) key = eqvDatum key d := by
  cases d <;> simp [simpleAtom] at h <;> cases key <;> simp [atomVal, eqv, eqvDatum, eq_comm, Bool.beq_comm]
  all_goals
    rename_i n i
    cases hn : intOfNum n with
    | none => simp [hn] at h
    | some j => simp [eq_comm]

/-- a variable or a constant -/
def atomKey : Datum → Bool
  | .sym _ | .bool _ | .char _ | .num _ | .str _ => true
  | _ => false

theorem atomKey_rec (r r' : Rec) (k : Datum) (h : atomKey k = true) (ρ : Env) : evalStep r k ρ = evalStep r' k ρ := by
  cases k <;> simp [atomKey] at h <;> rfl

theorem atomKey_state (r : Rec) (k : Datum) (h : atomKey k = true) (ρ : Env) (st st1 : St) (v : Val)
    (he : evalStep r k ρ st = .ok v st1) : st1 = st := by
  cases k <;> simp [atomKey] at h
  case sym x =>
    simp only [evalStep, evalVar] at he
    by_cases hres : reserved x = true
    · rw [if_pos hres] at he; cases he
    · rw [if_neg hres] at he
      cases hlk : ρ.lookup x with
      | some l =>
        rw [hlk] at he
        change M.bind' (readCell l) _ st = _ at he
        simp only [M.bind', readCell] at he
        cases hc : st.store[l]? with
        | none => simp only [hc] at he; cases he
        | some c =>
          simp only [hc] at he
          cases c <;> first | (cases he; rfl) | cases he
      | none =>
        rw [hlk] at he
        simp only [getGlobal] at he
        cases hg : st.globals.lookup x with
        | none => simp only [hg] at he; cases he
        | some w => simp only [hg] at he; cases he; rfl
  case bool b => cases he; rfl
  case char c => cases he; rfl
  case str t => cases he; rfl
  case num n =>
    simp only [evalStep, quoteVal] at he
    cases hn : intOfNum n with
    | none => simp only [hn] at he; cases he
    | some i => simp only [hn] at he; cases he; rfl

/-- the value is a proper list with elements `xs` in `σ` -/
inductive ListAt (σ : Array Cell) : Val → List Val → Prop
  | nil : ListAt σ .nil []
  | cons {l : Loc} {x d : Val} {xs : List Val} : σ[l]? = some (.pair x d) → ListAt σ d xs → ListAt σ (.pair l) (x :: xs)

theorem ListAt.push {σ : Array Cell} {v : Val} {xs : List Val} (h : ListAt σ v xs) (c : Cell) : ListAt (σ.push c) v xs := by
  induction h with
  | nil => exact .nil
  | @cons l x d xs hl _ ih =>
    refine .cons ?_ ih
    have hlt : l < σ.size := by
      rcases Nat.lt_or_ge l σ.size with h' | h'
      · exact h'
      · rw [Array.getElem?_eq_none h'] at hl; cases hl
    have hne : ¬ l = σ.size := Nat.ne_of_lt hlt
    simp only [Array.getElem?_push, if_neg hne]
    exact hl

theorem quote_atoms : ∀ (atoms : List Datum), (∀ d ∈ atoms, simpleAtom d = true) → ∀ (st : St),
    ∃ v σ', quoteVal (L atoms) st = .ok v { st with store := σ' } ∧ σ'.size = st.store.size + atoms.length ∧
      (∀ l, l < st.store.size → σ'[l]? = st.store[l]?) ∧ ListAt σ' v (atoms.map atomVal)
  | [], _, st => ⟨.nil, st.store, rfl, rfl, fun _ _ => rfl, .nil⟩
  | a :: atoms, h, st => by
    obtain ⟨v, σ', hq, hsz, hpre, hl⟩ := quote_atoms atoms (fun d hd => h d (by simp [hd])) st
    refine ⟨.pair σ'.size, σ'.push (.pair (atomVal a) v), ?_, ?_, ?_, ?_⟩
    · show quoteVal (.pair a (L atoms)) st = _
      simp only [quoteVal, quoteVal_atom a (h a (by simp))]
      show M.bind' (pure (atomVal a)) _ st = _
      simp only [M.bind', Pure.pure, M.pure']
      show M.bind' (quoteVal (L atoms)) _ st = _
      unfold M.bind'
      rw [hq]
      rfl
    · simp [hsz]; omega
    · intro l hl'
      simp only [Array.getElem?_push]
      rw [if_neg (by omega)]
      exact hpre l hl'
    · simp only [List.map_cons]
      exact .cons (by simp) (hl.push _)

theorem memWalk_listAt (key : Val) : ∀ (xs : List Val) (v : Val) (F : Nat) (st : St), ListAt st.store v xs → xs.length < F →
    ∃ res, memWalk false key F v st = .ok res st ∧ truthy res = xs.any (fun x => eqv x key)
  | _, _, 0, _, _, hF => by omega
  | _, _, F+1, st, .nil, _ => ⟨.bool false, rfl, rfl⟩
  | _, _, F+1, st, .cons (l := l) (x := x) (d := d) (xs := xs) hl ht, hF => by
    simp only [memWalk]
    have hr : readPair (.pair l) st = .ok (x, d) st := by
      show M.bind' (readCell l) _ st = _
      simp [M.bind', readCell, hl, Pure.pure, M.pure']
    show ∃ res, M.bind' (readPair (.pair l)) _ st = _ ∧ _
    unfold M.bind'
    rw [hr]
    simp only [Bool.false_eq_true, if_false, List.any_cons]
    cases hx : eqv x key with
    | true => exact ⟨.pair l, rfl, rfl⟩
    | false =>
      simp only [Bool.false_eq_true, if_false, Bool.false_or]
      exact memWalk_listAt key xs d F st ht (by simp at hF; omega)

theorem any_atomVal (key : Val) : ∀ (atoms : List Datum), (∀ d ∈ atoms, simpleAtom d = true) →
    (atoms.map atomVal).any (fun x => eqv x key) = atoms.any (eqvDatum key)
  | [], _ => rfl
  | a :: atoms, h => by
    simp only [List.map_cons, List.any_cons, eqv_atomVal a (h a (by simp)),
      any_atomVal key atoms (fun d hd => h d (by simp [hd]))]

theorem kwOf_memv : kwOf k_memv = none := by decide
theorem kwOf_quote : kwOf k_quote = some .quote := by decide

/-- what the test `(memv k '(d …))` of the expansion computes once `k` has yielded `key`: the quoted
    list is appended to the store, the result is true exactly when a datum is `eqv?` to the key -/
theorem memvTest_eval (n : Nat) (ρ : Env) (k : Datum) (atoms : List Datum) (hat : ∀ d ∈ atoms, simpleAtom d = true)
    (hρm : ρ.lookup k_memv = none) (st s1 : St) (key : Val) (hk : (evalN (n+1)).eval k ρ st = .ok key s1)
    (hg : s1.globals.lookup k_memv = some (.prim .memv)) :
    ∃ res σ', (evalN (n+2)).eval (memvTest k atoms) ρ st = .ok res { s1 with store := σ' } ∧
      σ'.size = s1.store.size + atoms.length ∧ (∀ l, l < s1.store.size → σ'[l]? = s1.store[l]?) ∧
      truthy res = atoms.any (eqvDatum key) := by
  obtain ⟨ql, σ', hq, hsz, hpre, hl⟩ := quote_atoms atoms hat s1
  have hmw := memWalk_listAt key _ ql (σ'.size + 1) { s1 with store := σ' } hl (by simp [hsz]; omega)
  obtain ⟨res, hres, htr⟩ := hmw
  refine ⟨res, σ', ?_, hsz, hpre, by rw [htr, any_atomVal key atoms hat]⟩
  rw [evalN_succ_eval, memvTest, native_app _ _ (s k_memv) _ (by intro x hx; cases hx; exact kwOf_memv)]
  have hQ : (evalN (n+1)).eval (L [s k_quote, L atoms]) ρ = quoteVal (L atoms) := by
    rw [evalN_succ_eval]
    simp [L, s, Datum.ofList, evalStep, evalKw, kwOf_quote]
  have hM : (evalN (n+1)).eval (s k_memv) ρ { s1 with store := σ' } = .ok (.prim .memv) { s1 with store := σ' } := by
    rw [evalN_succ_eval, native_sym]
    have hres : reserved k_memv = false := by decide
    simp only [evalVar, hres, hρm, Bool.false_eq_true, if_false]
    show getGlobal k_memv _ = _
    simp only [getGlobal, hg]
  have hA : (evalN (n+1)).apply (.prim .memv) [key, ql] { s1 with store := σ' } = .ok res { s1 with store := σ' } := by
    rw [evalN_succ_apply]
    exact hres
  simp only [evalArgs]
  show M.bind' (M.bind' ((evalN (n+1)).eval k ρ) _) _ st = _
  simp [M.bind', hk, hQ, hq, hM, hA, Pure.pure, M.pure', Bind.bind]

end Marwood.Spec.Eval.Derived
