import Marwood.Spec.EvalK
import Marwood.Lemmas.EvalMono
/-!
# `Spec.EvalK` without `call/cc` is `Spec.Eval` — framework

`step false` (the machine that does not recognise `call/cc` / continuation values) simulates the fuel-indexed big-step
evaluator `Spec.Eval.evalN`: whatever `evalN n` returns for an expression, the machine started on it in ANY continuation
`κ` reaches: that value returned to `κ`, resp. a halt with that error class, in that store. This file: reachability, the
simulation predicate and the combinators every per-form lemma is built from.
-/
namespace Marwood.Lemmas.EvalKAgree
open Marwood Marwood.Spec.Eval Marwood.Spec.EvalK

def iter : Nat → Next → Next
  | 0, x => x
  | n+1, .run s => iter n (step false s)
  | _+1, x => x

def Reach (a b : Next) : Prop := ∃ n, iter n a = b

theorem Reach.refl (a : Next) : Reach a a := ⟨0, rfl⟩

theorem iter_add (m n : Nat) (a : Next) : iter (m + n) a = iter n (iter m a) := by
  induction m generalizing a with
  | zero => simp [iter]
  | succ m ih =>
    cases a with
    | run s => rw [Nat.add_right_comm]; simp only [iter]; exact ih _
    | halt o σ ks =>
      have h : ∀ k, iter k (.halt o σ ks) = .halt o σ ks := by intro k; cases k <;> rfl
      rw [h, h, h]
    | stuck =>
      have h : ∀ k, iter k .stuck = .stuck := by intro k; cases k <;> rfl
      rw [h, h, h]

theorem Reach.trans {a b c : Next} (h1 : Reach a b) (h2 : Reach b c) : Reach a c := by
  obtain ⟨m, hm⟩ := h1
  obtain ⟨n, hn⟩ := h2
  exact ⟨m + n, by rw [iter_add, hm, hn]⟩

theorem Reach.step {s : State} {b : Next} (h : Reach (step false s) b) : Reach (.run s) b := by
  obtain ⟨n, hn⟩ := h
  exact ⟨n + 1, by simpa [iter] using hn⟩

/-- the machine counterpart of a result of `Spec.Eval` delivered to continuation `κ` -/
def Sim (x : Next) (r : Res Val) (κ : Kont) (ks : Array Kont) : Prop :=
  match r with
  | .ok v σ' => Reach x (retTo v κ σ' ks)
  | .err e σ' => Reach x (.halt (.err e) σ' ks)
  | .timeout => True

theorem Sim.unpack {x : Next} {r : Res Val} {κ : Kont} {ks : Array Kont} (h : Sim x r κ ks) :
    (∀ v σ', r = .ok v σ' → Reach x (retTo v κ σ' ks)) ∧
    (∀ c σ', r = .err c σ' → Reach x (.halt (.err c) σ' ks)) :=
  ⟨fun v σ' hv => by rw [hv] at h; exact h, fun c σ' hc => by rw [hc] at h; exact h⟩

structure SimRec (r : Rec) : Prop where
  eval : ∀ e ρ σ κ ks, Sim (evalIn e ρ κ σ ks) (r.eval e ρ σ) κ ks
  apply : ∀ f args σ κ ks, Sim (appTo f args κ σ ks) (r.apply f args σ) κ ks

theorem Sim.of_reach {x y : Next} {r : Res Val} {κ : Kont} {ks : Array Kont}
    (h : Reach x y) (hy : Sim y r κ ks) : Sim x r κ ks := by
  unfold Sim at *
  cases r with
  | ok v σ' => exact h.trans hy
  | err e σ' => exact h.trans hy
  | timeout => trivial

theorem Sim.step {s : State} {r : Res Val} {κ : Kont} {ks : Array Kont}
    (h : Sim (step false s) r κ ks) : Sim (.run s) r κ ks := by
  unfold Sim at *
  cases r with
  | ok v σ' => exact Reach.step h
  | err e σ' => exact Reach.step h
  | timeout => trivial

theorem Sim.pure (v : Val) (κ : Kont) (σ : St) (ks : Array Kont) :
    Sim (retTo v κ σ ks) ((pure v : M Val) σ) κ ks := Reach.refl _

theorem Sim.throw (e : ErrClass) (κ : Kont) (σ : St) (ks : Array Kont) :
    Sim (failWith e σ ks) ((throw e : M Val) σ) κ ks := Reach.refl _

theorem bind_apply {α β : Type} (x : M α) (f : α → M β) (σ : St) :
    (x >>= f) σ = match x σ with
      | .ok a σ' => f a σ'
      | .err e σ' => .err e σ'
      | .timeout => .timeout := rfl

theorem Sim.withM {α : Type} (x : M α) (k : α → St → Next) (f : α → M Val) (σ : St) (κ : Kont)
    (ks : Array Kont) (h : ∀ a σ', x σ = .ok a σ' → Sim (k a σ') (f a σ') κ ks) :
    Sim (withM x σ ks k) ((x >>= f) σ) κ ks := by
  rw [bind_apply]
  unfold Marwood.Spec.EvalK.withM
  cases hx : x σ with
  | ok a σ' => exact h a σ' hx
  | err e σ' => exact Reach.refl _
  | timeout => trivial

theorem sim_withM_pure {α : Type} (x : M α) (g : α → Val) (σ : St) (κ : Kont) (ks : Array Kont) :
    Sim (withM x σ ks fun a σ' => retTo (g a) κ σ' ks) ((x >>= fun a => (pure (g a) : M Val)) σ) κ ks := by
  apply Sim.withM
  intro a σ' _
  exact Sim.pure _ _ _ _

theorem sim_withM_ret (x : M Val) (σ : St) (κ : Kont) (ks : Array Kont) :
    Sim (withM x σ ks fun v σ' => retTo v κ σ' ks) (x σ) κ ks := by
  have h := sim_withM_pure x (fun v => v) σ κ ks
  rwa [M.bind_pure] at h

/-- `x` computes `m` for the continuation `κ'`; `h`: what the machine does once the value has been returned to `κ'`, in
    `Spec.Eval`'s terms `f`, the final result going to `κ` -/
theorem Sim.bind {x : Next} {m : M Val} {f : Val → M Val} {σ : St} {κ' κ : Kont} {ks : Array Kont}
    (h0 : Sim x (m σ) κ' ks) (h : ∀ v σ', m σ = .ok v σ' → Sim (retTo v κ' σ' ks) (f v σ') κ ks) :
    Sim x ((m >>= f) σ) κ ks := by
  rw [bind_apply]
  cases hx : m σ with
  | ok v σ' => rw [hx] at h0; exact Sim.of_reach h0 (h v σ' hx)
  | err e' σ' => rw [hx] at h0; exact h0
  | timeout => trivial

/-- `e` is evaluated with frame `F` pushed; `h`: what `retGo F` does with its value -/
theorem Sim.evalBind {r : Rec} (hr : SimRec r) (e : Datum) (ρ : Env) (F : Frame) (f : Val → M Val)
    (σ : St) (κ : Kont) (ks : Array Kont)
    (h : ∀ v σ', r.eval e ρ σ = .ok v σ' → Sim (retGo F v κ σ' ks) (f v σ') κ ks) :
    Sim (evalIn e ρ (F :: κ) σ ks) ((r.eval e ρ >>= f) σ) κ ks :=
  Sim.bind (hr.eval e ρ σ (F :: κ) ks) fun v σ' hx => Sim.step (h v σ' hx)

theorem Sim.applyBind {r : Rec} (hr : SimRec r) (g : Val) (args : List Val) (F : Frame) (f : Val → M Val)
    (σ : St) (κ : Kont) (ks : Array Kont)
    (h : ∀ v σ', r.apply g args σ = .ok v σ' → Sim (retGo F v κ σ' ks) (f v σ') κ ks) :
    Sim (appTo g args (F :: κ) σ ks) ((r.apply g args >>= f) σ) κ ks :=
  Sim.bind (hr.apply g args σ (F :: κ) ks) fun v σ' hx => Sim.step (h v σ' hx)

theorem Sim.evalThen {r : Rec} (hr : SimRec r) (e : Datum) (ρ : Env) (κ' : Kont) (f : Val → M Val)
    (σ : St) (κ : Kont) (ks : Array Kont)
    (h : ∀ v σ', r.eval e ρ σ = .ok v σ' → Sim (retTo v κ' σ' ks) (f v σ') κ ks) :
    Sim (evalIn e ρ κ' σ ks) ((r.eval e ρ >>= f) σ) κ ks :=
  Sim.bind (hr.eval e ρ σ κ' ks) h

theorem Sim.applyThen {r : Rec} (hr : SimRec r) (g : Val) (args : List Val) (κ' : Kont) (f : Val → M Val)
    (σ : St) (κ : Kont) (ks : Array Kont)
    (h : ∀ v σ', r.apply g args σ = .ok v σ' → Sim (retTo v κ' σ' ks) (f v σ') κ ks) :
    Sim (appTo g args κ' σ ks) ((r.apply g args >>= f) σ) κ ks :=
  Sim.bind (hr.apply g args σ κ' ks) h

theorem Sim.ret {F : Frame} {v : Val} {κ' : Kont} {σ : St} {res : Res Val} {κ : Kont} {ks : Array Kont}
    (h : Sim (retGo F v κ' σ ks) res κ ks) : Sim (retTo v (F :: κ') σ ks) res κ ks := Sim.step h

theorem Sim.ev {e : Datum} {ρ : Env} {κ' : Kont} {σ : St} {res : Res Val} {κ : Kont} {ks : Array Kont}
    (h : Sim (evGo e ρ κ' σ ks) res κ ks) : Sim (evalIn e ρ κ' σ ks) res κ ks := Sim.step h

theorem Sim.app {f : Val} {args : List Val} {κ' : Kont} {σ : St} {res : Res Val} {κ : Kont} {ks : Array Kont}
    (h : Sim (appGo false f args κ' σ ks) res κ ks) : Sim (appTo f args κ' σ ks) res κ ks := Sim.step h

theorem throw_bind_M {α β : Type} (e : ErrClass) (f : α → M β) : ((throw e : M α) >>= f) = throw e := rfl

end Marwood.Lemmas.EvalKAgree
