import Marwood.Lemmas.EvalPromiseNative
import Marwood.Lemmas.EvalPromiseJ
import Marwood.Lemmas.EvalConverseMain
import Marwood.Lemmas.EvalExtraShift
/-!
# `(force (delay e))`: the relation between the native outcome and the expansion's, and the native side

The native run of `(force (delay e))` and the run of its expansion with the prelude's library evaluate
the delayed expression `e` in stores that BOTH differ from the store at the use: natively one promise
cell has been allocated, in the expansion seven cells (`junkPre`: box and root of the promise
structure, the parameter cells of four calls). Both runs are related to the evaluation `I` of `e` in the
state of the use itself; `SpanAgree` says so: a common pre-image `resI` and two injective location maps
(a span), `shiftAt size 1` and `shiftAt size 7` in the one instance; on the expansion's side the globals
are related off `force` (`withForce`).

`native_leg`: ONE converse simulation (`recSimD_conv_guard`) with the promise cell as frame `J` gives definiteness of
`I`, its relation to the native run of `e`, and "nobody touched the promise cell while `e` ran".
-/
namespace Marwood.Spec.Eval.Derived
open Marwood Marwood.Spec.Eval Marwood.Spec.Eval.Prelude Marwood.Spec.Eval.Extra Marwood.Spec.Eval.Conv
open Marwood.Spec.Eval.ExtraJ

/-- `StRel` without `front` and `size_le` (after `e` the two runs go on allocating out of step), with no
    frame `J`, and with the globals related off the names `G` -/
structure StRelW (f : LMap) (G : List Text) (s s' : St) : Prop where
  cells : ∀ l c, s.store[l]? = some c → ∃ c', s'.store[f l]? = some c' ∧ CellRel f c c'
  out : s'.out = s.out
  globals : ∀ y, y ∉ G → GRel f (s.globals.lookup y) (s'.globals.lookup y)

/-- unlike `ResRel`, a time-out on either side is `False` -/
def ResRelW (f : LMap) (G : List Text) : Res Val → Res Val → Prop
  | .ok v s, .ok v' s' => VRel f v v' ∧ StRelW f G s s'
  | .err c s, .err c' s' => c = c' ∧ StRelW f G s s'
  | _, _ => False

theorem stRel_toW {f : LMap} {s s' : St} (h : StRel f s s') (G : List Text) : StRelW f G s s' :=
  ⟨h.cells, h.out, fun y _ => h.globals y⟩

/-- **agreement of a native promise computation `resN` with the prelude's `resX`**: both are images of one
    `resI`; where both yield values the native promise cell `l0` and the prelude's structure rooted at
    `p0` are FORCED and hold those values (memoisation) -/
def SpanAgree (resN resX : Res Val) (l0 p0 : Loc) : Prop :=
  ∃ (resI : Res Val) (f1 f2 : LMap), Inj f1 ∧ Inj f2 ∧ ResRelW f1 [] resI resN ∧ ResRelW f2 [k_force] resI resX ∧
    ∀ vN sN vX sX, resN = .ok vN sN → resX = .ok vX sX →
      sN.store[l0]? = some (.promise true vN) ∧ PromStruct sX.store p0 true vX

/-- the observable parts: same kind of outcome, same error class, same output log. The clause on the
    values (`∃ vI f1 f2`: no `Inj`, no store relation) says only: same constructor, equal atoms, closures
    with the same code; nothing about the contents of pairs, vectors, promises. -/
theorem SpanAgree.observe {resN resX : Res Val} {l0 p0 : Loc} (h : SpanAgree resN resX l0 p0) :
    (∃ vN sN vX sX, resN = .ok vN sN ∧ resX = .ok vX sX ∧ sX.out = sN.out ∧
        (∃ vI f1 f2, VRel f1 vI vN ∧ VRel f2 vI vX) ∧
        sN.store[l0]? = some (.promise true vN) ∧ PromStruct sX.store p0 true vX) ∨
    (∃ c sN sX, resN = .err c sN ∧ resX = .err c sX ∧ sX.out = sN.out) := by
  obtain ⟨resI, f1, f2, _, _, h1, h2, h3⟩ := h
  cases resI with
  | timeout => exact h1.elim
  | ok vI sI =>
    cases resN with
    | ok vN sN =>
      cases resX with
      | ok vX sX =>
        obtain ⟨m1, m2⟩ := h3 vN sN vX sX rfl rfl
        exact Or.inl ⟨vN, sN, vX, sX, rfl, rfl, by rw [h2.2.out, h1.2.out], ⟨vI, f1, f2, h1.1, h2.1⟩, m1, m2⟩
      | err _ _ => exact h2.elim
      | timeout => exact h2.elim
    | err _ _ => exact h1.elim
    | timeout => exact h1.elim
  | err c sI =>
    cases resN with
    | err cN sN =>
      cases resX with
      | err cX sX =>
        obtain ⟨e1, r1⟩ := h1
        obtain ⟨e2, r2⟩ := h2
        subst e1; subst e2
        exact Or.inr ⟨c, sN, sX, rfl, rfl, by rw [r2.out, r1.out]⟩
      | ok _ _ => exact h2.elim
      | timeout => exact h2.elim
    | ok _ _ => exact h1.elim
    | timeout => exact h1.elim

theorem VRel.int_eq {f : LMap} {n : Int} {v : Val} (h : VRel f (.int n) v) : v = .int n := by cases h; rfl

theorem StRelW.set_off {f : LMap} {G : List Text} {s s' : St} (h : StRelW f G s s') (l' : Loc) (c : Cell)
    (hoff : ∀ l, f l ≠ l') : StRelW f G s { s' with store := s'.store.setIfInBounds l' c } := by
  refine ⟨fun l d hl => ?_, h.out, h.globals⟩
  obtain ⟨c', h1, h2⟩ := h.cells l d hl
  refine ⟨c', ?_, h2⟩
  have hne : ¬ l' = f l := fun e => hoff l e.symm
  simp only [Array.getElem?_setIfInBounds, if_neg hne]
  exact h1

/-- **native leg.** Slack 1: the native store holds one cell, the promise, that the evaluation
    `I = (guardN m).eval e ρ st` of `e` at the use does not. -/
theorem native_leg (m : Nat) (e : Datum) (ρ : Env) (st : St) (hst : WFSt st) (hρ : EnvOK st.store.size ρ)
    (hdef : isDefine e = false) (hρ1 : ρ.lookup k_force = none)
    (hg : st.globals.lookup k_force = some (.prim .force))
    (hd : (sguardN 1 (m+3)).eval (forceUse (delayUse e)) ρ st ≠ .timeout) :
    (guardN m).eval e ρ st ≠ .timeout ∧
    (evalN (m+3)).eval (forceUse (delayUse e)) ρ st = (sguardN 1 (m+3)).eval (forceUse (delayUse e)) ρ st ∧
    ResRelW (shiftAt st.store.size 1) [] ((guardN m).eval e ρ st) ((evalN (m+3)).eval (forceUse (delayUse e)) ρ st) ∧
    ∀ vN sN, (evalN (m+3)).eval (forceUse (delayUse e)) ρ st = .ok vN sN →
      sN.store[st.store.size]? = some (.promise true vN) := by
  have hev := sguardN_eval_evalN 1 (m+3) _ ρ st hd
  rw [native_forceDelay (tower_sguardN 1) m e ρ st hdef hρ1 hg] at hd
  have hsg : (sguardN 1 m).eval e ρ { st with store := st.store.push (.promise false (thunkN e ρ)) } ≠ .timeout := by
    intro h0
    apply hd
    simp only [nativeFD, h0]
  -- the converse simulation with the promise cell as frame `J`: `I` is definite and related to the native run of `e`,
  -- which leaves the promise cell untouched
  obtain ⟨hI, hfwd⟩ := ((recSimD_conv_guard (inj_shiftAt st.store.size 1) (shiftAt_le st.store.size 1) m).eval e ρ ρ []
    (envRel_shift_self (k := 1) hρ) (cleanB_nil e) _ _ (stRelJ_push hst (.promise false (thunkN e ρ)))).of_right hsg
  rw [← sguardN_eval_evalN 1 m e ρ _ hsg] at hfwd
  replace hfwd := resRelJ_iff.2 hfwd
  refine ⟨hI, hev, ?_⟩
  rw [native_forceDelay tower_evalN m e ρ st hdef hρ1 hg]
  have hoff : ∀ l, shiftAt st.store.size 1 l ≠ st.store.size := by
    intro l; unfold shiftAt; split <;> omega
  cases hRI : (guardN m).eval e ρ st with
  | timeout => exact absurd hRI hI
  | err c sI =>
    rw [hRI] at hfwd
    obtain ⟨sN, e2, rs⟩ := hfwd.err_inv
    simp only [nativeFD, e2]
    exact ⟨⟨rfl, stRel_toW rs.toStRel []⟩, fun _ _ h => by cases h⟩
  | ok vI sI =>
    rw [hRI] at hfwd
    obtain ⟨vN, sN, e2, rv, rs⟩ := hfwd.ok_inv
    have hcell : sN.store[st.store.size]? = some (.promise false (thunkN e ρ)) :=
      rs.junk _ _ (by simp [junkX])
    have hlt := get_lt hcell
    simp only [nativeFD, e2, hcell, if_pos hlt]
    refine ⟨⟨rv, (stRel_toW rs.toStRel []).set_off _ _ hoff⟩, ?_⟩
    intro vN' sN' h
    cases h
    simp [hlt]

end Marwood.Spec.Eval.Derived
