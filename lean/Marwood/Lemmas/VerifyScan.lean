import Marwood.Vm.Verify
/-!
# The forward pass of the bytecode verifier, one instruction at a time

`scanOne` (Vm/Verify.lean) is a single large function. What it accepts is restated as typing rules (`Instr`), in both
directions: a successful step joins the incoming stacks and applies the effect of a rule (`scanOne_ok`, used by
`Lemmas/VerifyInfer.lean`), and a rule applied to equal incoming stacks is a step (`scanOne_instr`, used by
`Lemmas/VerifyBlk.lean`).
-/
namespace Marwood.Vm.Verify
open Marwood.Vm

/-- the state recorded at the offset of the instruction, its width, the stack that falls through, the jump edges it
    adds, the number of temporaries it needs -/
structure Effect where
  st : AState
  width : Nat
  cur : Option (List ACell)
  pend : List (Nat × List ACell)
  h : Nat

/-- one rule per success branch of `scanOne` -/
inductive Instr (bc : List VCell) (entry : Bool) (o : Nat) : List ACell → Op → Effect → Prop
  | jmp {x : List ACell} {t : Nat} : bc[o + 1]? = some (.ptr t) → o < t →
      Instr bc entry o x .jmp ⟨.body x, 2, none, [(t, x)], x.length⟩
  | jnt {x : List ACell} {t : Nat} : bc[o + 1]? = some (.ptr t) → o < t →
      Instr bc entry o x .jnt ⟨.body x, 2, some x, [(t, x)], x.length⟩
  | mov {x : List ACell} : srcOk bc[o + 1]? = true → dstOk bc[o + 2]? = true →
      Instr bc entry o x .mov ⟨.body x, 3, some x, [], x.length⟩
  | movImm {x : List ACell} : immOk bc[o + 1]? = true → dstOk bc[o + 2]? = true →
      Instr bc entry o x .movImm ⟨.body x, 3, some x, [], x.length⟩
  | push {x : List ACell} : Instr bc entry o x .push ⟨.body x, 2, some (.any :: x), [], x.length + 1⟩
  | pushImm {x : List ACell} {v : VCell} : bc[o + 1]? = some v →
      Instr bc entry o x .pushImm ⟨.body x, 2, some (cellTy v :: x), [], x.length + 1⟩
  | pushAcc {x : List ACell} : Instr bc entry o x .pushAcc ⟨.body x, 1, some (.val :: x), [], x.length + 1⟩
  | halt {x : List ACell} : (entry && x.isEmpty) = true → o + 1 = bc.length →
      Instr bc entry o x .halt ⟨.body x, 1, none, [], x.length⟩
  | cons {c1 c2 : ACell} {r : List ACell} : (c1.isV && c2.isV) = true →
      Instr bc entry o (c1 :: c2 :: r) .cons ⟨.body (c1 :: c2 :: r), 1, some r, [], (c1 :: c2 :: r).length⟩
  | vpushAcc {c : ACell} {r : List ACell} :
      Instr bc entry o (c :: r) .vpushAcc ⟨.body (c :: r), 1, some r, [], (c :: r).length⟩
  | closureAcc {x : List ACell} : Instr bc entry o x .closureAcc ⟨.body x, 1, some x, [], x.length⟩
  | callAcc {n : Nat} {r : List ACell} : (r.take n).all ACell.isV = true → n ≤ r.length →
      Instr bc entry o (.argc n :: r) .callAcc ⟨.call (r.drop n), 1, some (r.drop n), [], (ACell.argc n :: r).length⟩
  | tcallAcc {n : Nat} {r : List ACell} : entry = false → (r.take n).all ACell.isV = true → n ≤ r.length →
      Instr bc entry o (.argc n :: r) .tcallAcc ⟨.call (r.drop n), 1, some (r.drop n), [], (ACell.argc n :: r).length⟩
  | ret {x : List ACell} : entry = false → Instr bc entry o x .ret ⟨.body x, 1, none, [], x.length⟩

theorem Instr.width {bc : List VCell} {entry : Bool} {o : Nat} {x : List ACell} {op : Op} {e : Effect}
    (h : Instr bc entry o x op e) : 1 ≤ e.width := by
  cases h <;> exact Nat.succ_pos _

/-- the stacks arriving at the current offset: fall-through and pending edges -/
def incoming (s : Scan) : List (List ACell) :=
  s.cur.toList ++ (s.pend.filter (·.1 == s.o)).map (·.2)

theorem incoming_of_cur {s : Scan} {y : List ACell} (h : s.cur = some y) : y ∈ incoming s := by
  simp [incoming, h]

theorem incoming_of_pend {s : Scan} {y : List ACell} (h : (s.o, y) ∈ s.pend) : y ∈ incoming s := by
  simp only [incoming, List.mem_append, List.mem_map, List.mem_filter]
  exact .inr ⟨(s.o, y), ⟨h, by simp⟩, rfl⟩

def applyEffect (s : Scan) (e : Effect) : Scan :=
  ({ s with pend := s.pend.filter (·.1 != s.o) } : Scan).emit e.st e.width e.cur e.pend e.h

theorem of_ite_error {ε α : Type} {c : Prop} [Decidable c] {err : ε} {r : Except ε α} {a : α}
    (h : (if c then .error err else r) = .ok a) : ¬c ∧ r = .ok a := by
  by_cases hc : c
  · rw [if_pos hc] at h; cases h
  · rw [if_neg hc] at h; exact ⟨hc, h⟩

theorem of_ite_not_error {ε α : Type} {b : Bool} {err : ε} {r : Except ε α} {a : α}
    (h : (if !b then .error err else r) = .ok a) : b = true ∧ r = .ok a := by
  cases b
  · cases h
  · exact ⟨rfl, h⟩

theorem of_ite_else_error {ε α : Type} {c : Prop} [Decidable c] {err : ε} {r : Except ε α} {a : α}
    (h : (if c then r else .error err) = .ok a) : c ∧ r = .ok a := by
  by_cases hc : c
  · rw [if_pos hc] at h; exact ⟨hc, h⟩
  · rw [if_neg hc] at h; cases h

theorem scanOne_ok {bc : List VCell} {entry : Bool} {s s' : Scan} (h : scanOne bc entry s = .ok s') :
    (incoming s = [] ∧ s' = { s with o := s.o + 1, tm := none :: s.tm }) ∨
    ∃ x others op e, incoming s = x :: others ∧ others.any (· != x) = false ∧
      bc[s.o]? = some (.opcode op) ∧ bpSrcOk entry bc[s.o + 1]? = true ∧
      Instr bc entry s.o x op e ∧ s' = applyEffect s e := by
  unfold scanOne at h
  conv at h => zeta
  split at h
  · next hi => cases h; exact .inl ⟨hi, rfl⟩
  next x others hi =>
  obtain ⟨hj, h⟩ := of_ite_error h
  split at h
  case h_2 => cases h
  next op hop =>
  obtain ⟨hbp, h⟩ := of_ite_not_error h
  suffices ∃ e, Instr bc entry s.o x op e ∧ s' = applyEffect s e by
    obtain ⟨e, h1, h2⟩ := this
    exact .inr ⟨x, others, op, e, hi, Bool.eq_false_iff.2 hj, hop, hbp, h1, h2⟩
  split at h
  · split at h
    · obtain ⟨ht, h⟩ := of_ite_error h
      cases h; exact ⟨_, .jmp ‹_› (Nat.not_le.1 ht), rfl⟩
    · cases h
  · split at h
    · obtain ⟨ht, h⟩ := of_ite_error h
      cases h; exact ⟨_, .jnt ‹_› (Nat.not_le.1 ht), rfl⟩
    · cases h
  · obtain ⟨hs, h⟩ := of_ite_not_error h
    obtain ⟨hd, h⟩ := of_ite_else_error h
    cases h; exact ⟨_, .mov hs hd, rfl⟩
  · obtain ⟨hs, h⟩ := of_ite_not_error h
    obtain ⟨hd, h⟩ := of_ite_else_error h
    cases h; exact ⟨_, .movImm hs hd, rfl⟩
  · cases h; exact ⟨_, .push, rfl⟩
  · split at h
    · cases h; exact ⟨_, .pushImm ‹_›, rfl⟩
    · cases h
  · cases h; exact ⟨_, .pushAcc, rfl⟩
  · obtain ⟨hs, h⟩ := of_ite_not_error h
    obtain ⟨hl, h⟩ := of_ite_else_error h
    cases h; exact ⟨_, .halt hs hl, rfl⟩
  · split at h
    · obtain ⟨hv, h⟩ := of_ite_else_error h
      cases h; exact ⟨_, .cons hv, rfl⟩
    · cases h
  · split at h
    · cases h; exact ⟨_, .vpushAcc, rfl⟩
    · cases h
  · cases h; exact ⟨_, .closureAcc, rfl⟩
  · split at h
    · obtain ⟨hs, h⟩ := of_ite_not_error h
      obtain ⟨hn, h⟩ := of_ite_else_error h
      cases h; exact ⟨_, .callAcc hs hn, rfl⟩
    · cases h
  · split at h
    · obtain ⟨he, h⟩ := of_ite_error h
      obtain ⟨hs, h⟩ := of_ite_not_error h
      obtain ⟨hn, h⟩ := of_ite_else_error h
      cases h; exact ⟨_, .tcallAcc (Bool.eq_false_iff.2 he) hs hn, rfl⟩
    · cases h
  · obtain ⟨he, h⟩ := of_ite_error h
    cases h; exact ⟨_, .ret (Bool.eq_false_iff.2 he), rfl⟩
  · cases h
  · cases h

theorem scanOne_instr {bc : List VCell} {entry : Bool} {s : Scan} {x : List ACell}
    {others : List (List ACell)} {op : Op} {e : Effect} (hi : incoming s = x :: others)
    (hj : others.any (· != x) = false) (hop : bc[s.o]? = some (.opcode op))
    (hbp : bpSrcOk entry bc[s.o + 1]? = true) (he : Instr bc entry s.o x op e) :
    scanOne bc entry s = .ok (applyEffect s e) := by
  unfold incoming at hi
  unfold scanOne
  simp only [hi, hj, hop, hbp, Bool.false_eq_true, Bool.not_true, ↓reduceIte]
  cases he with
  | jmp h1 h2 => simp only [h1, Nat.not_le.2 h2, ↓reduceIte]; rfl
  | jnt h1 h2 => simp only [h1, Nat.not_le.2 h2, ↓reduceIte]; rfl
  | mov h1 h2 => simp only [h1, h2, Bool.not_true, Bool.false_eq_true, ↓reduceIte]; rfl
  | movImm h1 h2 => simp only [h1, h2, Bool.not_true, Bool.false_eq_true, ↓reduceIte]; rfl
  | pushImm h1 => simp only [h1]; rfl
  | halt h1 h2 => simp only [h1, h2, Bool.not_true, Bool.false_eq_true, ↓reduceIte]; rfl
  | cons h1 => simp only [h1, ↓reduceIte]; rfl
  | callAcc h1 h2 => simp only [h1, h2, Bool.not_true, Bool.false_eq_true, ↓reduceIte]; rfl
  | tcallAcc h0 h1 h2 => simp only [h0, h1, h2, Bool.not_true, Bool.false_eq_true, ↓reduceIte]; rfl
  | ret h0 => simp only [h0, Bool.false_eq_true, ↓reduceIte]; rfl
  | _ => rfl

theorem applyEffect_o (s : Scan) (e : Effect) : (applyEffect s e).o = s.o + e.width := rfl
theorem applyEffect_cur (s : Scan) (e : Effect) : (applyEffect s e).cur = e.cur := rfl
theorem applyEffect_pend (s : Scan) (e : Effect) :
    (applyEffect s e).pend = e.pend ++ s.pend.filter (·.1 != s.o) := rfl
theorem applyEffect_tm (s : Scan) (e : Effect) :
    (applyEffect s e).tm = List.replicate (e.width - 1) none ++ some e.st :: s.tm := rfl

theorem scanOne_o_lt {bc : List VCell} {entry : Bool} {s s' : Scan} (h : scanOne bc entry s = .ok s') :
    s.o < s'.o := by
  rcases scanOne_ok h with ⟨_, rfl⟩ | ⟨x, others, op, e, _, _, _, _, he, rfl⟩
  · exact Nat.lt_succ_self _
  · exact Nat.lt_add_of_pos_right he.width

inductive Steps (bc : List VCell) (entry : Bool) : Scan → Scan → Prop
  | refl (s : Scan) : Steps bc entry s s
  | step {s s1 s2 : Scan} : s.o < bc.length → scanOne bc entry s = .ok s1 → Steps bc entry s1 s2 →
      Steps bc entry s s2

theorem Steps.one {bc : List VCell} {entry : Bool} {s s1 : Scan} (h : s.o < bc.length)
    (h1 : scanOne bc entry s = .ok s1) : Steps bc entry s s1 := .step h h1 (.refl _)

theorem Steps.trans {bc : List VCell} {entry : Bool} {a b c : Scan} (h1 : Steps bc entry a b)
    (h2 : Steps bc entry b c) : Steps bc entry a c := by
  induction h1 with
  | refl => exact h2
  | step h hs _ ih => exact .step h hs (ih h2)

theorem scanAll_steps {bc : List VCell} {entry : Bool} {s s' : Scan} (h : Steps bc entry s s') :
    ∀ fuel, bc.length < fuel + s.o →
      ∃ fuel', bc.length < fuel' + s'.o ∧ scanAll bc entry fuel s = scanAll bc entry fuel' s' := by
  induction h with
  | refl s => intro fuel hf; exact ⟨fuel, hf, rfl⟩
  | step hlt hs _ ih =>
    rename_i s s1 s2
    intro fuel hf
    cases fuel with
    | zero => omega
    | succ f =>
      have hlt1 := scanOne_o_lt hs
      obtain ⟨f', hf', he⟩ := ih f (by omega)
      refine ⟨f', hf', ?_⟩
      rw [← he]
      simp only [scanAll]
      rw [if_neg (by omega), hs]

theorem scanAll_done {bc : List VCell} {entry : Bool} {s : Scan} (h : bc.length ≤ s.o) (fuel : Nat) :
    scanAll bc entry fuel s = .ok s := by
  cases fuel with
  | zero => rfl
  | succ f => simp only [scanAll]; rw [if_pos h]

end Marwood.Vm.Verify
