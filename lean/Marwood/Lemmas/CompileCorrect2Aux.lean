import Marwood.Lemmas.CompileCorrect2Pres
/-!
# T01.3 stage 2: observing a represented value, pushed operands, environment-map slots, the compiler's table only grows
-/
namespace Marwood.Lemmas.CompileCorrect2
open Marwood Marwood.Vm Marwood.Lemmas.CompileCorrect
open Marwood.Spec.Eval (Val Prim Cell Env quoteVal)

variable {H : Type} {ops : HeapOps H} {D : RepData2 ops}

theorem VR2.of_atom {W : World} {h : H} {S : Array Cell} {v : VCell} {d : Datum} {w : Val}
    (ha : atomVal d = some w) (hv : D.VR h S v w) : VR2 D W h S v w := by
  cases d <;> simp [atomVal] at ha <;> first
    | (subst ha; exact hv)
    | (obtain ⟨i, _, rfl⟩ := ha; exact hv)

theorem VR2.void (L : Laws2 D) (W : World) (h : H) (S : Array Cell) : VR2 D W h S .void .void := L.void h S

theorem VR2.truth (L : Laws2 D) {W : World} {h : H} {S : Array Cell} {v : VCell} {w : Val}
    (r : VR2 D W h S v w) : ops.deref h v = .bool false ↔ w = .bool false := by
  cases w with
  | closure ps rest body ρc =>
    obtain ⟨_, lam, cenv, hc, _⟩ := r
    exact ⟨fun e => absurd e (L.clos_true _ _ _ _ hc), fun e => by cases e⟩
  | _ => exact L.truth _ _ _ _ r

theorem VR2.ne_undefined (L : Laws2 D) {W : World} {h : H} {S : Array Cell} {v : VCell} {w : Val}
    (r : VR2 D W h S v w) : v ≠ .undefined := by
  cases w with
  | closure ps rest body ρc =>
    obtain ⟨_, lam, cenv, hc, _⟩ := r
    exact L.clos_ne_undefined _ _ _ _ hc
  | _ => exact L.ne_undefined _ _ _ _ r

theorem VR2.not_envptr (L : Laws2 D) {W : World} {h : H} {S : Array Cell} {v : VCell} {w : Val}
    (r : VR2 D W h S v w) : isEnvPtr v = false := by
  cases w with
  | closure ps rest body ρc =>
    obtain ⟨_, lam, cenv, hc, _⟩ := r
    exact L.clos_not_envptr _ _ _ _ hc
  | _ => exact L.not_envptr _ _ _ _ r

theorem quoteLaws_of (L : Laws2 D) : QuoteLaws D.toRepData D.vecElems where
  vr_pair := L.vr_pair
  vr_vec := L.vr_vec
  vr_store := fun _ _ _ _ _ hp x => L.vr_store _ _ _ _ _ (StoreExt.ofStorePrefix hp) x
  srx_store := fun _ _ _ hp x => L.srx_store _ _ _ (StoreExt.ofStorePrefix hp) x

theorem quoteVal_not_closure {d : Datum} {σ σ' : SSt} {w : Val} (h : quoteVal d σ = .ok w σ') :
    ∀ a b c e, w ≠ .closure a b c e := by
  intro a b c e hw
  subst hw
  cases d with
  | pair x y =>
    unfold quoteVal at h
    obtain ⟨_, _, _, h⟩ := bind_ok_inv h
    obtain ⟨_, _, _, h⟩ := bind_ok_inv h
    change (Spec.Eval.allocCell _ >>= fun l => pure (Val.pair l)) _ = _ at h
    obtain ⟨_, _, _, h⟩ := bind_ok_inv h
    cases (pure_ok_inv h).1
  | vec x =>
    unfold quoteVal at h
    obtain ⟨_, _, _, h⟩ := bind_ok_inv h
    change (Spec.Eval.allocCell _ >>= fun l => pure (Val.vec l)) _ = _ at h
    obtain ⟨_, _, _, h⟩ := bind_ok_inv h
    cases (pure_ok_inv h).1
  | num n =>
    unfold quoteVal at h
    cases hn : Spec.Eval.intOfNum n with
    | none => rw [hn] at h; cases h
    | some i => rw [hn] at h; cases (pure_ok_inv h).1
  | _ => unfold quoteVal at h; first | cases (pure_ok_inv h).1 | cases h

theorem VR2.of_quote {W : World} {h : H} {S : Array Cell} {v : VCell} {d : Datum} {σ σ' : SSt} {w : Val}
    (hq : quoteVal d σ = .ok w σ') (hv : D.VR h S v w) : VR2 D W h S v w := by
  have := quoteVal_not_closure hq
  cases w <;> first | exact hv | exact absurd rfl (this _ _ _ _)

theorem pushAll_sp (st : Stack) (vs : List VCell) : (pushAll st vs).sp = st.sp + vs.length := by
  induction vs generalizing st with
  | nil => rfl
  | cons v vs ih => rw [pushAll_cons, ih]; simp; omega

theorem pushAll_below (st : Stack) (vs : List VCell) (hw : SWF st) (i : Nat) (hi : i ≤ st.sp) :
    (pushAll st vs).cells[i]? = st.cells[i]? := by
  induction vs generalizing st with
  | nil => rfl
  | cons v vs ih =>
    rw [pushAll_cons, ih _ (push_swf st v) (by simp; omega), push_below st v hw i hi]

theorem pushAll_get (st : Stack) (vs : List VCell) (hw : SWF st) (i : Nat) (hi : i < vs.length) :
    (pushAll st vs).cells[st.sp + 1 + i]? = vs[i]? := by
  induction vs generalizing st i with
  | nil => simp at hi
  | cons v vs ih =>
    rw [pushAll_cons]
    cases i with
    | zero =>
      rw [pushAll_below _ _ (push_swf st v) _ (by simp)]
      simpa using push_top st v
    | succ k =>
      have := ih (st.push v) (push_swf st v) k (by simpa using hi)
      simp only [Stack.push_sp] at this
      rw [show st.sp + 1 + (k + 1) = st.sp + 1 + 1 + k by omega, this]
      simp

def callFrame (st0 : Stack) (vs : List VCell) (epc lc oc : Nat) : Stack :=
  (((pushAll st0 vs).push (.argc vs.length)).push (.envPtr epc)).push (.instrPtr lc oc)

theorem callFrame_sp (st0 : Stack) (vs : List VCell) (epc lc oc : Nat) :
    (callFrame st0 vs epc lc oc).sp = st0.sp + vs.length + 3 := by
  simp [callFrame, pushAll_sp]

theorem callFrame_swf (st0 : Stack) (vs : List VCell) (epc lc oc : Nat) : SWF (callFrame st0 vs epc lc oc) :=
  push_swf _ _

theorem callFrame_cells (st0 : Stack) (vs : List VCell) (epc lc oc : Nat) (hw : SWF st0) :
    (∀ i, i ≤ st0.sp → (callFrame st0 vs epc lc oc).cells[i]? = st0.cells[i]?) ∧
    (∀ i, i < vs.length → (callFrame st0 vs epc lc oc).cells[st0.sp + 1 + i]? = vs[i]?) ∧
    (callFrame st0 vs epc lc oc).cells[st0.sp + vs.length + 1]? = some (.argc vs.length) ∧
    (callFrame st0 vs epc lc oc).cells[st0.sp + vs.length + 2]? = some (.envPtr epc) ∧
    (callFrame st0 vs epc lc oc).cells[st0.sp + vs.length + 3]? = some (.instrPtr lc oc) := by
  have hA := pushAll_swf st0 vs hw
  have spA := pushAll_sp st0 vs
  have hB := push_swf (pushAll st0 vs) (.argc vs.length)
  have spB : ((pushAll st0 vs).push (.argc vs.length)).sp = st0.sp + vs.length + 1 := by simp [spA]
  have hC := push_swf ((pushAll st0 vs).push (.argc vs.length)) (.envPtr epc)
  have spC : (((pushAll st0 vs).push (.argc vs.length)).push (.envPtr epc)).sp = st0.sp + vs.length + 2 := by
    simp [spA]
  refine ⟨fun i hi => ?_, fun i hi => ?_, ?_, ?_, ?_⟩
  · unfold callFrame
    rw [push_below _ _ hC i (by omega), push_below _ _ hB i (by omega), push_below _ _ hA i (by omega),
      pushAll_below st0 vs hw i hi]
  · unfold callFrame
    rw [push_below _ _ hC _ (by omega), push_below _ _ hB _ (by omega), push_below _ _ hA _ (by omega),
      pushAll_get st0 vs hw i hi]
  · unfold callFrame
    rw [push_below _ _ hC _ (by omega), push_below _ _ hB _ (by omega)]
    have := push_top (pushAll st0 vs) (.argc vs.length)
    rwa [spA] at this
  · unfold callFrame
    rw [push_below _ _ hC _ (by omega)]
    have := push_top ((pushAll st0 vs).push (.argc vs.length)) (.envPtr epc)
    rwa [spB] at this
  · unfold callFrame
    have := push_top (((pushAll st0 vs).push (.argc vs.length)).push (.envPtr epc)) (.instrPtr lc oc)
    rwa [spC] at this

theorem slotIdx_some_iff_inEnv (c : Ctx) (x : Text) : inEnv c x = true ↔ ∃ j, slotIdx c.envmap x = some j := by
  unfold inEnv slotIdx
  rw [List.any_eq_true]
  constructor
  · rintro ⟨q, hq, hx⟩
    cases hf : c.envmap.findIdx? (fun p => p.1 == x) with
    | some j => exact ⟨j, rfl⟩
    | none =>
      rw [List.findIdx?_eq_none_iff] at hf
      have := hf q hq
      rw [hx] at this; cases this
  · rintro ⟨j, hj⟩
    rw [List.findIdx?_eq_some_iff_getElem] at hj
    obtain ⟨hlt, hp, _⟩ := hj
    exact ⟨c.envmap[j], List.getElem_mem hlt, hp⟩

theorem slotIdx_spec {em : List (Text × Source)} {x : Text} {j : Nat} (h : slotIdx em x = some j) :
    (∃ src, em[j]? = some (x, src)) ∧ ∀ i, i < j → ∀ q, em[i]? = some q → q.1 ≠ x := by
  unfold slotIdx at h
  rw [List.findIdx?_eq_some_iff_getElem] at h
  obtain ⟨hlt, hp, hbefore⟩ := h
  refine ⟨⟨em[j].2, ?_⟩, fun i hi q hq => ?_⟩
  · rw [List.getElem?_eq_getElem hlt]
    have : em[j].1 = x := by simpa using hp
    rw [← this]
  · have hil : i < em.length := by omega
    rw [List.getElem?_eq_getElem hil] at hq
    cases hq
    have := hbefore i hi
    simpa using this

theorem argEntries_length (ps : List Text) : (argEntries ps).length = ps.length := by
  simp [argEntries]

theorem argEntries_get (ps : List Text) (j : Nat) (x : Text) (h : ps[j]? = some x) :
    (argEntries ps)[j]? = some (x, .argument j) := by
  simp [argEntries, List.getElem?_map, List.getElem?_zipIdx, h]

theorem slot_cases {ps : List Text} {caps : List (Text × Source)} {x : Text} {j : Nat}
    (h : slotIdx (argEntries ps ++ caps) x = some j) :
    (j < ps.length ∧ ps[j]? = some x) ∨
    (ps.length ≤ j ∧ x ∉ ps ∧ ∃ src, (argEntries ps ++ caps)[j]? = some (x, src) ∧ (x, src) ∈ caps) := by
  obtain ⟨⟨src, hsrc⟩, hbefore⟩ := slotIdx_spec h
  by_cases hj : j < ps.length
  · left
    refine ⟨hj, ?_⟩
    have hx : ps[j]? = some ps[j] := List.getElem?_eq_getElem hj
    have := argEntries_get ps j _ hx
    rw [List.getElem?_append_left (by rw [argEntries_length]; exact hj), this] at hsrc
    cases hsrc
    exact hx
  · right
    refine ⟨by omega, ?_, src, hsrc, ?_⟩
    · intro hmem
      obtain ⟨i, hi, hxi⟩ := List.getElem_of_mem hmem
      have hgi : ps[i]? = some x := by rw [List.getElem?_eq_getElem hi, hxi]
      have := argEntries_get ps i x hgi
      have h2 : (argEntries ps ++ caps)[i]? = some (x, .argument i) := by
        rw [List.getElem?_append_left (by rw [argEntries_length]; exact hi)]; exact this
      exact hbefore i (by omega) _ h2 rfl
    · rw [List.getElem?_append_right (by rw [argEntries_length]; omega)] at hsrc
      exact List.mem_of_getElem? hsrc

theorem map_get {α β : Type} (f : α → β) (l : List α) (j : Nat) (b : β) (h : (l.map f)[j]? = some b) :
    ∃ a, l[j]? = some a ∧ f a = b := by
  rwa [List.getElem?_map, Option.map_eq_some_iff] at h

def MonoOK (G : Text → Prop) (f : Nat) : Prop :=
  (∀ c ns t e st base st' code, F2 G f c ns t e → compileExpr f st c base t e = .ok (st', code) →
    st.lambdas <+: st'.lambdas) ∧
  (∀ c ns e st base st' code k, F2L G f c ns e → compileArgs f st c base e = .ok (st', code, k) →
    st.lambdas <+: st'.lambdas) ∧
  (∀ c ns e st base st' code, F2B G f c ns e → compileBody f st c base e = .ok (st', code) →
    st.lambdas <+: st'.lambdas)

theorem monoOK (G : Text → Prop) (f : Nat) : MonoOK G f :=
  ⟨fun _ _ _ _ _ _ _ _ _ hc => (growsOK f).expr hc, fun _ _ _ _ _ _ _ _ _ hc => (growsOK f).args hc,
    fun _ _ _ _ _ _ _ _ hc => (growsOK f).body hc⟩

end Marwood.Lemmas.CompileCorrect2
