import Mathlib.Tactic.Ring
import Mathlib.Tactic.Linarith
import Mathlib.Tactic.NormNum
import Mathlib.Data.Rat.Defs
import Mathlib.Algebra.Order.Field.Rat
import Marwood.Num.Arith
import Marwood.Spec.Rat
/-!
# Value lemmas for the `Ratio<i32>` routines of the model

A checked routine that answers `some q` answers the exact result, stated as a cross-multiplication
(`Crs`): no division before the final cast to ℚ.  The Mathlib imports are those of the `Num*` family.
-/
namespace Marwood.Arith
open Marwood

def Crs (q : Ratio) (n d : Int) : Prop := 0 < q.2 ∧ q.1 * d = n * q.2

theorem inI32_iff (n : Int) : inI32 n = true ↔ (-2147483648 ≤ n ∧ n ≤ 2147483647) := by
  unfold inI32 i32Min i32Max
  rw [Bool.and_eq_true, decide_eq_true_iff, decide_eq_true_iff]

theorem inI64_iff (n : Int) :
    inI64 n = true ↔ (-9223372036854775808 ≤ n ∧ n ≤ 9223372036854775807) := by
  unfold inI64 i64Min i64Max
  rw [Bool.and_eq_true, decide_eq_true_iff, decide_eq_true_iff]

theorem chk32_some {n r : Int} (h : chk32 n = some r) : r = n ∧ inI32 n = true := by
  unfold chk32 at h
  split at h
  · cases h; exact ⟨rfl, by assumption⟩
  · cases h

theorem chk64_some {n r : Int} (h : chk64 n = some r) : r = n ∧ inI64 n = true := by
  unfold chk64 at h
  split at h
  · cases h; exact ⟨rfl, by assumption⟩
  · cases h

theorem tdiv_of_eq_mul {a g k : Int} (hg : g ≠ 0) (h : a = g * k) : a.tdiv g = k := by
  rw [h]; exact Int.mul_tdiv_cancel_left _ hg

theorem pos_of_mul_pos_left {g k : Int} (hg : 0 < g) (h : 0 < g * k) : 0 < k := by
  by_contra hneg
  have h1 : k ≤ 0 := by omega
  have : g * k ≤ 0 := Int.mul_nonpos_of_nonneg_of_nonpos hg.le h1
  omega

theorem gcdI_split (a b : Int) (h : a ≠ 0 ∨ b ≠ 0) :
    ∃ g a' b', gcdI a b = g ∧ 0 < g ∧ a = g * a' ∧ b = g * b' ∧ a.tdiv g = a' ∧ b.tdiv g = b' := by
  have hg : 0 < gcdI a b := by
    unfold gcdI
    exact_mod_cast Int.gcd_pos_iff.mpr h
  obtain ⟨a', ha⟩ : ∃ k, a = gcdI a b * k := Int.gcd_dvd_left a b
  obtain ⟨b', hb⟩ : ∃ k, b = gcdI a b * k := Int.gcd_dvd_right a b
  exact ⟨_, a', b', rfl, hg, ha, hb, tdiv_of_eq_mul hg.ne' ha, tdiv_of_eq_mul hg.ne' hb⟩

theorem reduce_crs (n d : Int) (hd : 0 < d) : Crs (reduce n d) n d := by
  unfold reduce Crs
  by_cases h0 : n = 0
  · simp [h0]
  · by_cases h1 : n = d
    · subst h1; simp [h0]
    · simp only [beq_iff_eq, h0, h1, if_false]
      obtain ⟨g, n', d', eg, hg, hn, hd', en, ed⟩ := gcdI_split n d (.inr hd.ne')
      rw [show (Int.gcd n d : Int) = g from eg, en, ed]
      refine ⟨pos_of_mul_pos_left hg (hd' ▸ hd), ?_⟩
      rw [hd', hn]
      ring

theorem crs_val {q : Ratio} {n d : Int} (hd : d ≠ 0) (h : Crs q n d) :
    (q.1 : Rat) / (q.2 : Rat) = (n : Rat) / (d : Rat) := by
  obtain ⟨hq, hc⟩ := h
  have h1 : (d : Rat) ≠ 0 := by exact_mod_cast hd
  have h2 : (q.2 : Rat) ≠ 0 := by exact_mod_cast hq.ne'
  rw [div_eq_div_iff h2 h1]
  exact_mod_cast hc

/-- not a transitivity: transport along an equal fraction -/
theorem Crs.trans {q : Ratio} {n d n' d' : Int} (hd : d ≠ 0) (h : Crs q n d)
    (he : n * d' = n' * d) : Crs q n' d' := by
  obtain ⟨hq, hc⟩ := h
  refine ⟨hq, ?_⟩
  have : (q.1 * d') * d = (n' * q.2) * d := by
    calc (q.1 * d') * d = (q.1 * d) * d' := by ring
      _ = (n * q.2) * d' := by rw [hc]
      _ = (n * d') * q.2 := by ring
      _ = (n' * d) * q.2 := by rw [he]
      _ = (n' * q.2) * d := by ring
  exact Int.eq_of_mul_eq_mul_right hd this

theorem checkedAddSub_crs (sgn : Int) (x y : Ratio) (hx : 0 < x.2) (hy : 0 < y.2) {q : Ratio}
    {lcm ln rn s : Int}
    (h1 : lcm = x.2.tdiv (gcdI x.2 y.2) * y.2)
    (h2 : ln = lcm.tdiv x.2 * x.1) (h3 : rn = lcm.tdiv y.2 * y.1)
    (h4 : s = ln + sgn * rn) (h5 : q = reduce s lcm) :
    Crs q (x.1 * y.2 + sgn * (y.1 * x.2)) (x.2 * y.2) := by
  obtain ⟨a, b⟩ := x
  obtain ⟨c, d⟩ := y
  simp only at *
  obtain ⟨g, b', d', eg, hg, hb, hd, e1, -⟩ := gcdI_split b d (.inr hy.ne')
  rw [eg, e1] at h1
  have hb' : 0 < b' := pos_of_mul_pos_left hg (hb ▸ hx)
  have hd' : 0 < d' := pos_of_mul_pos_left hg (hd ▸ hy)
  have hbne : b ≠ 0 := hx.ne'
  have hdne : d ≠ 0 := hy.ne'
  have e2 : lcm.tdiv b = d' := by
    apply tdiv_of_eq_mul hbne
    rw [h1, hd, hb]; ring
  have e3 : lcm.tdiv d = b' := by
    apply tdiv_of_eq_mul hdne
    rw [h1]; ring
  rw [e2] at h2
  rw [e3] at h3
  have hl : 0 < lcm := by rw [h1]; exact Int.mul_pos hb' hy
  have hr := reduce_crs s lcm hl
  rw [← h5] at hr
  refine hr.trans hl.ne' ?_
  rw [h4, h2, h3, h1]
  conv_lhs => rw [hb, hd]
  conv_rhs => rw [hb, hd]
  ring

theorem checkedAdd_crs (x y : Ratio) (hx : 0 < x.2) (hy : 0 < y.2) {q : Ratio}
    (h : checkedAdd x y = some q) : Crs q (x.1 * y.2 + y.1 * x.2) (x.2 * y.2) := by
  unfold checkedAdd at h
  simp only [Option.bind_eq_bind, Option.bind_eq_some_iff, Option.pure_def, Option.some.injEq] at h
  obtain ⟨lcm, h1, ln, h2, rn, h3, s, h4, h5⟩ := h
  have := checkedAddSub_crs 1 x y hx hy (chk32_some h1).1 (chk32_some h2).1 (chk32_some h3).1
    (by rw [(chk32_some h4).1]; ring) h5.symm
  simpa using this

theorem checkedSub_crs (x y : Ratio) (hx : 0 < x.2) (hy : 0 < y.2) {q : Ratio}
    (h : checkedSub x y = some q) : Crs q (x.1 * y.2 - y.1 * x.2) (x.2 * y.2) := by
  unfold checkedSub at h
  simp only [Option.bind_eq_bind, Option.bind_eq_some_iff, Option.pure_def, Option.some.injEq] at h
  obtain ⟨lcm, h1, ln, h2, rn, h3, s, h4, h5⟩ := h
  have := checkedAddSub_crs (-1) x y hx hy (chk32_some h1).1 (chk32_some h2).1 (chk32_some h3).1
    (by rw [(chk32_some h4).1]; ring) h5.symm
  have e : x.1 * y.2 - y.1 * x.2 = x.1 * y.2 + -1 * (y.1 * x.2) := by ring
  rw [e]; exact this

theorem checkedMul_crs (x y : Ratio) (hx : 0 < x.2) (hy : 0 < y.2) {q : Ratio}
    (h : checkedMul x y = some q) : Crs q (x.1 * y.1) (x.2 * y.2) := by
  unfold checkedMul at h
  simp only [Option.bind_eq_bind, Option.bind_eq_some_iff, Option.pure_def, Option.some.injEq] at h
  obtain ⟨n, h1, dd, h2, h5⟩ := h
  obtain ⟨a, b⟩ := x
  obtain ⟨c, d⟩ := y
  simp only at *
  have h1 := (chk32_some h1).1
  have h2 := (chk32_some h2).1
  obtain ⟨g1, a', d', eg1, hg1, ha, hd, ea, ed⟩ := gcdI_split a d (.inr hy.ne')
  obtain ⟨g2, b', c', eg2, hg2, hb, hc, eb, ec⟩ := gcdI_split b c (.inl hx.ne')
  rw [eg1, eg2, ea, ec] at h1
  rw [eg2, eg1, eb, ed] at h2
  have hb' : 0 < b' := pos_of_mul_pos_left hg2 (hb ▸ hx)
  have hd' : 0 < d' := pos_of_mul_pos_left hg1 (hd ▸ hy)
  have hl : 0 < dd := by rw [h2]; exact Int.mul_pos hb' hd'
  have hr := reduce_crs n dd hl
  rw [h5] at hr
  refine hr.trans hl.ne' ?_
  rw [h1, h2]
  conv_lhs => rw [hb, hd]
  conv_rhs => rw [ha, hc]
  ring

theorem divFinish_crs {numer denom : Int} {q : Ratio} (h : divFinish numer denom = some q) :
    denom ≠ 0 ∧ Crs q numer denom := by
  unfold divFinish at h
  by_cases h0 : denom = 0
  · simp [h0] at h
  · refine ⟨h0, ?_⟩
    simp only [beq_iff_eq, h0, if_false] at h
    by_cases h1 : numer = 0
    · simp only [h1, if_true, Option.some.injEq] at h
      subst h; subst h1; exact ⟨by decide, by simp⟩
    · simp only [h1, if_false] at h
      by_cases h2 : numer = denom
      · simp only [h2, if_true, Option.some.injEq] at h
        subst h; subst h2; exact ⟨by decide, by simp⟩
      · simp only [h2, if_false] at h
        obtain ⟨g, n', d', eg, hg, hn, hd, en, ed⟩ := gcdI_split numer denom (.inr h0)
        rw [eg, en, ed] at h
        have hd0 : d' ≠ 0 := by
          intro hz; apply h0; rw [hd, hz]; ring
        by_cases hneg : d' < 0
        · simp only [hneg, if_true, Option.bind_eq_bind, Option.bind_eq_some_iff, Option.pure_def,
            Option.some.injEq] at h
          obtain ⟨n'', e1, d'', e2, e3⟩ := h
          have e1 := (chk32_some e1).1
          have e2 := (chk32_some e2).1
          subst e3
          refine ⟨by simp only; omega, ?_⟩
          simp only
          rw [e1, e2]
          conv_lhs => rw [hd]
          conv_rhs => rw [hn]
          ring
        · simp only [hneg, if_false, Option.some.injEq] at h
          subst h
          refine ⟨by simp only; omega, ?_⟩
          simp only
          conv_lhs => rw [hd]
          conv_rhs => rw [hn]
          ring

theorem libCheckedDiv_crs (x y : Ratio) (hx : 0 < x.2) (hy : 0 < y.2) {q : Ratio}
    (h : libCheckedDiv x y = some q) : y.1 ≠ 0 ∧ Crs q (x.1 * y.2) (x.2 * y.1) := by
  unfold libCheckedDiv at h
  obtain ⟨a, b⟩ := x
  obtain ⟨c, d⟩ := y
  simp only at *
  by_cases hc : c = 0
  · simp [hc] at h
  · refine ⟨hc, ?_⟩
    simp only [beq_iff_eq, hc, if_false] at h
    by_cases hbd : b = d
    · simp only [hbd, if_true] at h
      obtain ⟨_, hq, hcr⟩ := divFinish_crs h
      subst hbd
      exact ⟨hq, by rw [show q.1 * (b * c) = (q.1 * c) * b by ring, hcr]; ring⟩
    · simp only [hbd, if_false] at h
      by_cases hac : a = c
      · simp only [hac, if_true] at h
        obtain ⟨_, hq, hcr⟩ := divFinish_crs h
        subst hac
        exact ⟨hq, by rw [show q.1 * (b * a) = (q.1 * b) * a by ring, hcr]; ring⟩
      · simp only [hac, if_false, Option.bind_eq_bind, Option.bind_eq_some_iff] at h
        -- the general arm: `gcd a c` and `gcd b d` are divided out before the two checked products
        obtain ⟨n, h1, dd, h2, h3⟩ := h
        have h1 := (chk32_some h1).1
        have h2 := (chk32_some h2).1
        obtain ⟨_, hq, hcr⟩ := divFinish_crs h3
        obtain ⟨g1, a', c', eg1, hg1, ha, hc', ea, ec⟩ := gcdI_split a c (.inr hc)
        obtain ⟨g2, b', d', eg2, hg2, hb, hd, eb, ed⟩ := gcdI_split b d (.inr hy.ne')
        rw [eg1, eg2, ea, ed] at h1
        rw [eg2, eg1, eb, ec] at h2
        refine ⟨hq, ?_⟩
        have e : q.1 * (b * c) = (q.1 * dd) * (g1 * g2) := by
          rw [h2]; conv_lhs => rw [hb, hc']
          ring
        rw [e, hcr, h1]
        conv_rhs => rw [ha, hd]
        ring

theorem checkedDiv_crs (x y : Ratio) (hx : 0 < x.2) (hy : 0 < y.2) {q : Ratio}
    (h : checkedDiv x y = some q) : y.1 ≠ 0 ∧ Crs q (x.1 * y.2) (x.2 * y.1) := by
  unfold checkedDiv at h
  split at h
  · rename_i h0
    rw [Bool.and_eq_true, beq_iff_eq, bne_iff_ne] at h0
    cases h
    exact ⟨h0.2, by decide, by simp [h0.1]⟩
  · exact libCheckedDiv_crs x y hx hy h

/-- the form `exactRat` and `Fl.ofRatio` give the value -/
theorem mkRat_toNat {n d : Int} (hd : 0 < d) : mkRat n d.toNat = (n : Rat) / d := by
  rw [Rat.mkRat_eq_div]
  have : ((d.toNat : ℕ) : ℤ) = d := Int.toNat_of_nonneg hd.le
  have : ((d.toNat : ℕ) : Rat) = (d : Rat) := by exact_mod_cast congrArg (fun z : ℤ => (z : Rat)) this
  rw [this]

end Marwood.Arith
