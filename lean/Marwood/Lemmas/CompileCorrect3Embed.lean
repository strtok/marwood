import Marwood.Lemmas.CompileCorrect3Defs
/-!
# T01.3 stage 3 — the stage-2 fragment is part of the stage-3 fragment

`F2 ⊆ F3`: a stage-2 expression is a stage-3 expression in which every bound name is readable (`us = fun _ => False`), a
stage-2 lambda one without rest parameter and internal definitions. By induction on the fuel index.
-/
namespace Marwood.Lemmas.CompileCorrect3
open Marwood Marwood.Vm Marwood.Lemmas.CompileCorrect Marwood.Lemmas.CompileCorrect2
open Marwood.Spec.Eval (properList isDefine)

def Emb (G : Text → Prop) (f : Nat) : Prop :=
  (∀ c ns t e, F2 G f c ns t e → F3 G f c ns (fun _ => False) t e) ∧
  (∀ c ns e, F2L G f c ns e → F3L G f c ns (fun _ => False) e) ∧
  (∀ c ns e es, F2B G f c ns e → properList e = some es → (∀ x ∈ es, isDefine x = false) →
    F3B G f c ns (fun _ => False) [] e)

theorem emb (G : Text → Prop) (f : Nat) : Emb G f := by
  induction f with
  | zero =>
    unfold Emb
    refine ⟨?_, ?_, ?_⟩
    · intro c ns t e h; cases h
    · intro c ns e h; cases h
    · intro c ns e es h; cases h
  | succ f ih =>
    obtain ⟨i1, i2, i3⟩ := ih
    unfold Emb
    refine ⟨?_, ?_, ?_⟩
    · intro c ns t e h
      cases h with
      | bool b => exact .bool b
      | char ch => exact .char ch
      | num n => exact .num n
      | str s => exact .str s
      | quote d rest => exact .quote d rest
      | vecc e => exact .vecc e
      | sym x hx => exact .sym x hx (fun h => h)
      | setBang x e hx hg he => exact .setBang x e hx hg (i1 _ _ _ _ he)
      | if2 tst cn h1 h2 => exact .if2 tst cn (i1 _ _ _ _ h1) (i1 _ _ _ _ h2)
      | if3 tst cn al h1 h2 h3 => exact .if3 tst cn al (i1 _ _ _ _ h1) (i1 _ _ _ _ h2) (i1 _ _ _ _ h3)
      | app fn args ha h1 h2 => exact .app fn args ha (i1 _ _ _ _ h1) (i2 _ _ _ h2)
      | lambda formals body p ps b bs caps h1 h2 h3 h4 h5 h6 h7 h8 h9 h10 =>
        have hb := i3 _ _ _ _ h10 h6 h7
        refine .lambda formals body p ps none [] caps h1 h2 (by simp [h3]) (by simp [h4]) (by simpa using h5)
          (by simp [em3, h8]) (fun q hq => ⟨(h9 q hq).1, (h9 q hq).2, fun x => x⟩) ?_
        have e1 : (fun x => x ∈ ps ++ (none : Option Text).toList ++ [] ∨ ns x) = (fun x => x ∈ ps ∨ ns x) := by
          funext x; simp
        have e2 : (fun x : Text => x ∈ ([] : List Text)) = fun _ => False := by
          funext x; simp
        rw [e1, e2]; exact hb
    · intro c ns e h
      cases h with
      | nil => exact .nil
      | cons a d h1 h2 => exact .cons a d (i1 _ _ _ _ h1) (i2 _ _ _ h2)
    · intro c ns e es h hp hd
      cases h with
      | last x hx =>
        obtain ⟨es', _, rfl⟩ := properList_pair_inv hp
        exact .last x (hd x (by simp)) (i1 _ _ _ _ hx)
      | cons x y rest hx hr =>
        obtain ⟨es', hp', rfl⟩ := properList_pair_inv hp
        exact .cons x y rest (hd x (by simp)) (i1 _ _ _ _ hx)
          (i3 _ _ _ _ hr hp' (fun z hz => hd z (by simp [hz])))

theorem F2.toF3 {G : Text → Prop} {f : Nat} {c : Ctx} {ns : Text → Prop} {t : Bool} {e : Datum}
    (h : F2 G f c ns t e) : F3 G f c ns (fun _ => False) t e := (emb G f).1 c ns t e h

theorem F2L.toF3L {G : Text → Prop} {f : Nat} {c : Ctx} {ns : Text → Prop} {e : Datum}
    (h : F2L G f c ns e) : F3L G f c ns (fun _ => False) e := (emb G f).2.1 c ns e h

theorem F2B.toF3B {G : Text → Prop} {f : Nat} {c : Ctx} {ns : Text → Prop} {e : Datum} {es : List Datum}
    (h : F2B G f c ns e) (hp : properList e = some es) (hd : ∀ x ∈ es, isDefine x = false) :
    F3B G f c ns (fun _ => False) [] e := (emb G f).2.2 c ns e es h hp hd

end Marwood.Lemmas.CompileCorrect3
