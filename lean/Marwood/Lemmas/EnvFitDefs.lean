import Marwood.Vm.EnvInvCheck
import Marwood.Lemmas.ProcInvDefs
/-!
# The slot clause of T06.6 as an invariant: "fit" — definitions, how heaps change

`Fit h e l`: the lexical environment in cell `e` has a slot for every entry of the environment map of the lambda in cell
`l`. `FInv s` is the propositional form of `stateFB` (Vm/EnvInvCheck.lean): every closure cell, every continuation's saved
pairs and every adjacent `EnvironmentPointer, InstructionPointer` pair of the live stack fits; the sites
`MOVIMM <Ptr(p)> %acc; CLOSURE` of a code object load lambdas whose `IofEnvironment(k)` sources index the code object's own
map (`HF`); and the current `(ep, ip.0)` fits unless the machine is in a procedure prologue (between CALL / TCALL and the
callee's ENTER `ep` is still the caller's), where `acc` still holds the callee.
`FStep N h h'`: what one instruction does to the heap as far as `Fit` is concerned — same lambda cells, an environment keeps
its length, new cells (satisfying `N`) only at addresses that were free or beyond the heap.
-/
namespace Marwood.Lemmas.Good
open Marwood Marwood.Vm Marwood.Vm.Verify Marwood.Vm.Concrete Marwood.Lemmas.Sim
open Marwood.Heap (GcState WFHeap RootsOk vrefs vrefsList crefs bcRefs)

def Fit (h : CHeap) (e l : Nat) : Prop :=
  ∀ lam ss, lambdaAt h l = some lam → envAt h e = some ss → lam.envmap.length ≤ ss.length

/-- the `IofEnvironment` sources of the lambda `v` points to index a map of `n` entries -/
def ChildFit (h : CHeap) (n : Nat) (v : VCell) : Prop :=
  ∀ p lam', v = .ptr p → lambdaAt h p = some lam' → ∀ x ∈ lam'.envmap, ∀ k, x.2 = Source.iofEnv k → k < n

def NIP (v : VCell) : Prop := ∀ l o, v ≠ .instrPtr l o

def NHdr (v : VCell) : Prop := (∀ e, v ≠ .envPtr e) ∧ NIP v

def PairsOk (h : CHeap) (cells : List VCell) (sp : Nat) : Prop :=
  ∀ i e l o, i + 1 ≤ sp → cells[i]? = some (.envPtr e) → cells[i + 1]? = some (.instrPtr l o) → Fit h e l

def CodeF (h : CHeap) (lam : CLambda) : Prop :=
  (∀ j v, siteB lam.bc j = true → lam.bc[j + 1]? = some v → ChildFit h lam.envmap.length v) ∧
  (∀ j v, lam.bc[j]? = some (.opcode .pushImm) → lam.bc[j + 1]? = some v → NIP v)

def ContF (h : CHeap) (k : Cont) : Prop := PairsOk h k.stack.cells k.stack.sp ∧ Fit h k.ep k.ipL

def CellF (h : CHeap) : CCell → Prop
  | .val v => ∀ l e, v = .closure l e → Fit h e l
  | .lambda lam => CodeF h lam
  | .cont k => ContF h k
  | _ => True

def HF (h : CHeap) : Prop := ∀ (i : Nat) (c : CCell), h.cells[i]? = some c → CellF h c

/-- the verifier's state at `(l, o)` is `pre`: a prologue instruction (VARARG / ENTER) -/
def InPre (h : CHeap) (l o : Nat) : Prop :=
  ∃ lam t, lambdaAt h l = some lam ∧ verifyLam lam.bc = some t ∧ t.entry = false ∧ stateAt t.tm o = some .pre

/-- the lambda cell CALL / TCALL / ENTER dispatch on when `acc` holds a closure or a bare lambda -/
def calleeLam (h : CHeap) (acc : VCell) : Option Nat :=
  match callee h acc with
  | .closure lam _ => some lam
  | .lambda => (match acc with | .ptr p => some p | _ => none)
  | _ => none

structure FInv (s : St CHeap) : Prop where
  hf : HF s.heap
  stk : PairsOk s.heap s.stack.cells s.stack.sp
  /-- in a prologue `acc` still holds the callee whose code `ip.0` points to: CALL / TCALL leave `acc`, VARARG does not
      touch it, and the only other writer is the error reset (`Undefined`: ENTER then fails) -/
  pre : InPre s.heap s.ipL s.ipO → s.acc = .undefined ∨ calleeLam s.heap s.acc = some s.ipL
  fit : ¬ InPre s.heap s.ipL s.ipO → Fit s.heap s.ep s.ipL

/-- fitting survives between ALLOCATED cells only: a free address may be taken by a shorter environment -/
def FitKeep (h h' : CHeap) : Prop := ∀ e l, NF h e → NF h l → Fit h e l → Fit h' e l

theorem Fit.of_no_env {h : CHeap} {e l : Nat} (hn : envAt h e = none) : Fit h e l := by
  intro lam ss _ he; rw [hn] at he; cases he

theorem Fit.of_empty {h : CHeap} {e l : Nat} (hn : ∀ lam, lambdaAt h l = some lam → lam.envmap = []) : Fit h e l := by
  intro lam ss hl _; rw [hn lam hl]; exact Nat.zero_le _

theorem NHdr.of_plainGlob {v : VCell} (hp : plainGlob v = true) : NHdr v := by
  refine ⟨?_, ?_⟩
  · intro e he; subst he; simp [plainGlob, isPtr, addrFree] at hp
  · intro l o he; subst he; simp [plainGlob, isPtr, addrFree] at hp

theorem NIP.of_plainVal {v : VCell} (hp : plainVal v = true) : NIP v := by
  intro l o e; subst e; simp [plainVal] at hp

theorem nf_envPtr {h : CHeap} {e : Nat} (x : VRefsOk h (.envPtr e)) : NF h e := x e (by simp [eraseV, vrefs])

theorem nf_instrPtr {h : CHeap} {l o : Nat} (x : VRefsOk h (.instrPtr l o)) : NF h l := x l (by simp [eraseV, vrefs])

theorem PairsOk.keep {h h' : CHeap} {cells : List VCell} {sp : Nat} (k : FitKeep h h')
    (nf : ∀ i v, i ≤ sp → cells[i]? = some v → VRefsOk h v) (x : PairsOk h cells sp) : PairsOk h' cells sp := by
  intro i e l o hi he hl
  exact k e l (nf_envPtr (nf i _ (by omega) he)) (nf_instrPtr (nf (i + 1) _ hi hl)) (x i e l o hi he hl)

theorem PairsOk.mono {h : CHeap} {cells : List VCell} {sp sp' : Nat} (x : PairsOk h cells sp) (le : sp' ≤ sp) :
    PairsOk h cells sp' := fun i e l o hi => x i e l o (by omega)

theorem PairsOk.congr {h : CHeap} {cells cells' : List VCell} {sp : Nat} (x : PairsOk h cells sp)
    (hc : ∀ i, i ≤ sp → cells'[i]? = cells[i]?) : PairsOk h cells' sp := by
  intro i e l o hi he hl
  rw [hc i (by omega)] at he
  rw [hc (i + 1) hi] at hl
  exact x i e l o hi he hl

theorem NF.cases {h : CHeap} (g : HG h) {e : Nat} (x : NF h e) :
    (e ∉ h.free ∧ e < h.cells.size) ∨ 2 ^ 63 ≤ e := by
  rcases x with x | x
  · left
    have hs : (toHeap h).gc.size = (toHeap h).cells.size := g.wf.sizes
    have h2 : (toHeap h).cells.size = h.cells.size := by simp [toHeap]
    refine ⟨?_, ?_⟩
    · intro hm
      have : (toHeap h).gc[e]? = some GcState.free := (g.wf.free_iff e).mp hm
      rcases x with x | x <;> (rw [this] at x; cases x)
    · have : e < (toHeap h).gc.size := by
        rcases x with x | x <;> exact lt_of_get_some x
      omega
  · exact .inr x

theorem free_lt {h : CHeap} (g : HG h) {e : Nat} (hm : e ∈ h.free) : e < h.cells.size := by
  have : (toHeap h).gc[e]? = some GcState.free := (g.wf.free_iff e).mp hm
  have hs : (toHeap h).gc.size = (toHeap h).cells.size := g.wf.sizes
  have h2 : (toHeap h).cells.size = h.cells.size := by simp [toHeap]
  have := lt_of_get_some this
  omega

theorem hg_bound {h : CHeap} (g : HG h) : h.cells.size ≤ 2 ^ 63 := by
  have := g.wf.bound
  simpa [toHeap] using this

structure FStep (N : CCell → Prop) (h h' : CHeap) : Prop where
  ls : LamSame h h'
  lf : LF h'
  cells : ∀ (i : Nat) (c : CCell), h'.cells[i]? = some c →
    h.cells[i]? = some c ∨
    (∃ ss ss', c = .lexEnv ss' ∧ h.cells[i]? = some (.lexEnv ss) ∧ ss.length = ss'.length) ∨
    ((i ∈ h.free ∨ h.cells.size ≤ i) ∧ N c) ∨ c = .val .undefined
  keep : ∀ (i : Nat) (c : CCell), h.cells[i]? = some c → i ∉ h.free → (∀ ss, c ≠ .lexEnv ss) → h'.cells[i]? = some c
  free : ∀ p : Nat, p ∈ h'.free → p ∈ h.free ∨ h.cells.size ≤ p
  size : h.cells.size ≤ h'.cells.size

theorem FStep.refl {N : CCell → Prop} {h : CHeap} (lf : LF h) : FStep N h h :=
  ⟨.refl h, lf, fun _ _ x => .inl x, fun _ _ x _ _ => x, fun _ x => .inl x, Nat.le_refl _⟩

theorem FStep.weaken {N N' : CCell → Prop} {h h' : CHeap} (x : FStep N h h') (hn : ∀ c, N c → N' c) : FStep N' h h' :=
  ⟨x.ls, x.lf, fun i c hc => by
    rcases x.cells i c hc with a | a | ⟨a, b⟩ | a
    · exact .inl a
    · exact .inr (.inl a)
    · exact .inr (.inr (.inl ⟨a, hn c b⟩))
    · exact .inr (.inr (.inr a)), x.keep, x.free, x.size⟩

/-- `hN`: an environment the first step allocates and the second writes is a "new cell" of the composition -/
theorem FStep.trans {N : CCell → Prop} {a b c : CHeap} (hN : ∀ ss, N (.lexEnv ss)) (x : FStep N a b) (y : FStep N b c) :
    FStep N a c := by
  have hfree : ∀ p, (p ∈ b.free ∨ b.cells.size ≤ p) → (p ∈ a.free ∨ a.cells.size ≤ p) := by
    intro p hp
    rcases hp with hp | hp
    · exact x.free p hp
    · right; have := x.size; omega
  refine ⟨x.ls.trans y.ls, y.lf, ?_, ?_, fun p hp => hfree p (y.free p hp), Nat.le_trans x.size y.size⟩
  · intro i cc hc
    rcases y.cells i cc hc with h1 | ⟨ss, ss', e1, h1, hl⟩ | ⟨h1, h2⟩ | h1
    · exact x.cells i cc h1
    · subst e1
      rcases x.cells i _ h1 with k1 | ⟨s0, s1, e2, k1, kl⟩ | ⟨k1, _⟩ | k1
      · exact .inr (.inl ⟨ss, ss', rfl, k1, hl⟩)
      · cases e2; exact .inr (.inl ⟨s0, ss', rfl, k1, by omega⟩)
      · exact .inr (.inr (.inl ⟨k1, hN ss'⟩))
      · cases k1
    · exact .inr (.inr (.inl ⟨hfree i h1, h2⟩))
    · exact .inr (.inr (.inr h1))
  · intro i cc hc hnf hne
    refine y.keep i cc (x.keep i cc hc hnf hne) ?_ hne
    intro hm
    rcases x.free i hm with h1 | h1
    · exact hnf h1
    · have := lt_of_get_some hc; omega

theorem FStep.of_eq {N : CCell → Prop} {h h' : CHeap} (lf : LF h) (hc : h'.cells = h.cells) (hf : h'.free = h.free) :
    FStep N h h' := by
  refine ⟨.of_cells hc, ?_, ?_, ?_, ?_, by rw [hc]; exact Nat.le_refl _⟩
  · intro l lam hl hm; rw [hc] at hl; rw [hf] at hm; exact lf l lam hl hm
  · intro i c x; rw [hc] at x; exact .inl x
  · intro i c x _ _; rw [hc]; exact x
  · intro p x; rw [hf] at x; exact .inl x

theorem FStep.env {N : CCell → Prop} {h h' : CHeap} (x : FStep N h h') {e : Nat} {ss' : List VCell}
    (he : envAt h' e = some ss') :
    (∃ ss, envAt h e = some ss ∧ ss.length = ss'.length) ∨ e ∈ h.free ∨ h.cells.size ≤ e := by
  rcases x.cells e _ (envAt_cell he) with h1 | ⟨ss, s1, e1, h1, hl⟩ | ⟨h1, _⟩ | h1
  · exact .inl ⟨ss', envAt_iff.mpr h1, rfl⟩
  · cases e1; exact .inl ⟨ss, envAt_iff.mpr h1, hl⟩
  · exact .inr h1
  · cases h1

theorem FStep.fitKeep {N : CCell → Prop} {h h' : CHeap} (x : FStep N h h') (g : HG h) (b' : h'.cells.size ≤ 2 ^ 63) :
    FitKeep h h' := by
  intro e l nfe _ hfit lam ss' hl he
  rw [x.ls l] at hl
  rcases x.env he with ⟨ss, h1, hlen⟩ | h1 | h1
  · have := hfit lam ss hl h1; omega
  · exfalso
    rcases nfe.cases g with ⟨k1, _⟩ | k1
    · exact k1 h1
    · have := free_lt g h1; have := hg_bound g; omega
  · exfalso
    have hlt : e < h'.cells.size := lt_of_get_some (envAt_cell he)
    rcases nfe.cases g with ⟨_, k1⟩ | k1 <;> omega

theorem ChildFit.ls {h h' : CHeap} (ls : LamSame h h') {n : Nat} {v : VCell} (x : ChildFit h n v) : ChildFit h' n v := by
  intro p lam' hv hl; rw [ls p] at hl; exact x p lam' hv hl

theorem CodeF.ls {h h' : CHeap} (ls : LamSame h h') {lam : CLambda} (x : CodeF h lam) : CodeF h' lam :=
  ⟨fun j v hs hv => (x.1 j v hs hv).ls ls, x.2⟩

theorem cont_refs {h : CHeap} {k : Cont} (x : CRefsOk h (.cont k)) :
    (∀ v ∈ k.stack.cells, VRefsOk h v) ∧ NF h k.ipL ∧ NF h k.ep := by
  refine ⟨?_, ?_, ?_⟩
  · intro v hv y hy
    refine x y ?_
    simp only [eraseC, crefs, Heap.contRefs, List.mem_append]
    exact Or.inl (vrefsList_mem_iff.mpr ⟨v, hv, hy⟩)
  · exact x _ (by simp [eraseC, crefs, Heap.contRefs])
  · exact x _ (by simp [eraseC, crefs, Heap.contRefs])

theorem ContF.keep {h h' : CHeap} (k : FitKeep h h') {c : Cont} (r : CRefsOk h (.cont c)) (x : ContF h c) : ContF h' c := by
  obtain ⟨r1, r2, r3⟩ := cont_refs r
  exact ⟨x.1.keep k (fun i v _ hv => r1 v (List.mem_of_getElem? hv)), k _ _ r3 r2 x.2⟩

theorem CellF.keep {h h' : CHeap} (g : HG h) (k : FitKeep h h') (ls : LamSame h h') {i : Nat} {c : CCell}
    (hc : h.cells[i]? = some c) (x : CellF h c) : CellF h' c := by
  by_cases hu : c = .val .undefined
  · subst hu; intro l e he; cases he
  have hr : CRefsOk h c := g.closed (alloc_of_ne_undef g hc hu) hc
  cases c with
  | val v =>
    intro l e he
    subst he
    exact k e l (hr e (by simp [eraseC, eraseV, crefs])) (hr l (by simp [eraseC, eraseV, crefs])) (x l e rfl)
  | lambda lam => exact CodeF.ls ls x
  | cont c => exact ContF.keep k hr x
  | lexEnv _ => trivial
  | vector _ => trivial

theorem HF.step {N : CCell → Prop} {h h' : CHeap} (g : HG h) (b' : h'.cells.size ≤ 2 ^ 63) (hf : HF h)
    (x : FStep N h h') (hN : ∀ (i : Nat) (c : CCell), h'.cells[i]? = some c → N c → CellF h' c) : HF h' := by
  intro i c hc
  rcases x.cells i c hc with h1 | ⟨ss, ss', e1, _, _⟩ | ⟨_, h2⟩ | h1
  · exact CellF.keep g (x.fitKeep g b') x.ls h1 (hf i c h1)
  · subst e1; trivial
  · exact hN i c hc h2
  · subst h1; intro l e he; cases he

def NoClaim (c : CCell) : Prop :=
  (∀ l e, c ≠ .val (.closure l e)) ∧ (∀ lam, c ≠ .lambda lam) ∧ (∀ k, c ≠ .cont k)

theorem NoClaim.cellF {h : CHeap} {c : CCell} (n : NoClaim c) : CellF h c := by
  cases c with
  | val v => intro l e he; subst he; exact absurd rfl (n.1 l e)
  | lambda lam => exact absurd rfl (n.2.1 lam)
  | cont k => exact absurd rfl (n.2.2 k)
  | lexEnv _ => trivial
  | vector _ => trivial

theorem NoClaim.lexEnv (ss : List VCell) : NoClaim (.lexEnv ss) := by
  refine ⟨?_, ?_, ?_⟩ <;> (intros; intro hh; cases hh)

theorem NoClaim.val {v : VCell} (hv : ∀ l e, v ≠ .closure l e) : NoClaim (.val v) := by
  refine ⟨?_, ?_, ?_⟩
  · intro l e hh; cases hh; exact hv l e rfl
  · intro lam hh; cases hh
  · intro k hh; cases hh

theorem HF.step_noClaim {h h' : CHeap} (g : HG h) (b' : h'.cells.size ≤ 2 ^ 63) (hf : HF h)
    (x : FStep NoClaim h h') : HF h' := HF.step g b' hf x (fun _ _ _ n => n.cellF)

end Marwood.Lemmas.Good
