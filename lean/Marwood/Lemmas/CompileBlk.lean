import Marwood.Lemmas.VerifyBlkDefs
import Marwood.Lemmas.CompileView
/-!
# Everything the compiler model emits is structured code (`Blk`), by induction on the fuel
-/
namespace Marwood.Vm
open Marwood Marwood.Vm.Verify

theorem Blk.cast_base {b b' : Nat} {c : List BC} {p q : List ACell} (h : b = b') :
    Blk b c p q → Blk b' c p q := by subst h; exact id

theorem Blk.seq' {b b2 : Nat} {c1 c2 : List BC} {p q r : List ACell} (h1 : Blk b c1 p q)
    (hb : b2 = b + c1.length) (h2 : Blk b2 c2 q r) : Blk b (c1 ++ c2) p r := by
  subst hb; exact Blk.seq h1 h2

theorem Blk.frame0 {b : Nat} {c : List BC} {q : List ACell} (r : List ACell) (h : Blk b c [] q) :
    Blk b c r (q ++ r) := Blk.frame r h

theorem emitLoc_locB {c : Ctx} (hc : CtxOK c) (s : Text) : locB (emitLoc c s) = true := by
  unfold emitLoc Ctx.bindingLocation
  cases h : c.envmap.any (·.1 == s)
  · cases hf : c.args.findIdx? (· == s) with
    | none => simp [locB]
    | some n => rw [hc s (List.mem_of_getElem? (findIdx?_beq hf))] at h; cases h
  · simp [locB]

theorem storeCode_blk {c : Ctx} (hc : CtxOK c) (b : Nat) (s : Text) : Blk b (storeCode c s) [] [] := by
  show Blk b ([.op .mov, .acc, emitLoc c s] ++ [.op .movImm, .void, .acc]) [] []
  exact Blk.seq (Blk.mov b _ _ rfl (emitLoc_locB hc s)) (Blk.movImm _ _ _ rfl rfl)

theorem newEnvmap_any {formals internal free : List Text} {iof : LambdaM} {a : Text} (ha : a ∈ formals) :
    (newEnvmap formals internal free iof).any (·.1 == a) = true := by
  unfold newEnvmap
  rw [List.any_append, List.any_append, List.any_map]
  obtain ⟨i, hi, rfl⟩ := List.getElem_of_mem ha
  have : (formals[i], i) ∈ formals.zipIdx := by
    rw [List.mk_mem_zipIdx_iff_getElem?]; simp [hi]
  have h2 : formals.zipIdx.any ((fun x : Text × Source => x.1 == formals[i]) ∘ fun x : Text × Nat => (x.1, Source.argument x.2)) = true := by
    rw [List.any_eq_true]; exact ⟨_, this, by simp⟩
  simp [h2]

theorem newEnvmap_noIof {formals internal free : List Text} {iof : LambdaM}
    (hc : ∀ a ∈ iof.args, iof.envmap.any (·.1 == a) = true) :
    NoIofArg (newEnvmap formals internal free iof) := by
  intro x hx n hn
  obtain ⟨h, ha⟩ := (mem_newEnvmap hx).2 n hn
  rw [hc _ (List.mem_of_getElem? ha)] at h
  cases h

theorem lambdaParts_ctx {fuel : Nat} {iof : Ctx} {e : Datum} {isDefine : Bool} {p : LambdaParts}
    (hiof : CtxOK iof) (h : lambdaParts fuel iof e isDefine = .ok p) :
    CtxOK p.ctx ∧ p.prologue = (if p.isVararg then [BC.op .varArg] else []) ++ [BC.op .enter] ∧
      NoIofArg p.ctx.envmap := by
  obtain ⟨_, _, _, _, _, hctx, hpro⟩ := lambdaParts_view h
  rw [hctx]
  exact ⟨fun a ha => newEnvmap_any ha, hpro, newEnvmap_noIof hiof⟩

theorem finishLambda_ok {st : CState} {p : LambdaParts} {code : List BC} (b : Nat) (hs : LamsOK st)
    (hpro : p.prologue = (if p.isVararg then [BC.op .varArg] else []) ++ [BC.op .enter])
    (hb : Blk p.prologue.length code [] []) (hni : NoIofArg p.ctx.envmap) :
    LamsOK (finishLambda st p code).1 ∧ Blk b (finishLambda st p code).2 [] [] := by
  constructor
  · intro l hl
    simp only [finishLambda, List.mem_append, List.mem_singleton] at hl
    rcases hl with hl | rfl
    · exact hs l hl
    · refine ⟨code, ?_, ?_⟩
      · simp only [hpro]
      · have : p.prologue.length = if p.isVararg then 2 else 1 := by
          rw [hpro]; cases p.isVararg <;> rfl
        exact ⟨this ▸ hb, hni⟩
  · show Blk b ([.op .movImm, .lambda st.lambdas.length, .acc] ++ [.op .closureAcc]) [] []
    exact Blk.seq (Blk.movImm _ _ _ rfl rfl) (Blk.closure _)

/-- `consChain (n+1)`, by recursion -/
def ccRec : Nat → List BC
  | 0 => [.op .cons]
  | n+1 => [.op .cons, .op .pushAcc] ++ ccRec n

theorem flatMap_const_ccRec : ∀ (l : List Nat) (n : Nat), l.length = n →
    l.flatMap (fun _ => [BC.op .cons, BC.op .pushAcc]) ++ [BC.op .cons] = ccRec n
  | [], n, h => by subst h; rfl
  | _ :: l, n, h => by
    subst h
    simp only [List.flatMap_cons, List.length_cons, ccRec, List.append_assoc]
    rw [flatMap_const_ccRec l l.length rfl]

theorem consChain_succ (n : Nat) : consChain (n + 1) = ccRec n := by
  unfold consChain
  rw [List.range_succ, List.flatMap_append]
  have h1 : (List.range n).flatMap (fun i => if i < n + 1 - 1 then [BC.op .cons, BC.op .pushAcc] else [BC.op .cons])
      = (List.range n).flatMap (fun _ => [BC.op .cons, BC.op .pushAcc]) := by
    rw [List.flatMap_def, List.flatMap_def]
    congr 1
    apply List.map_congr_left
    intro i hi
    rw [List.mem_range] at hi
    simp [hi]
  rw [h1]
  simp only [List.flatMap_singleton, Nat.add_sub_cancel, Nat.lt_irrefl, if_false]
  exact flatMap_const_ccRec _ _ (List.length_range)

theorem ccRec_blk : ∀ (n b : Nat), Blk b (ccRec n) (List.replicate (n + 2) .val) []
  | 0, b => Blk.cons b .val .val rfl rfl
  | m+1, b => by
    show Blk b ([BC.op .cons] ++ ([BC.op .pushAcc] ++ ccRec m)) ([ACell.val, .val] ++ List.replicate (m + 1) .val) []
    refine Blk.seq (Blk.frame _ (Blk.cons b .val .val rfl rfl)) ?_
    refine Blk.seq (q := List.replicate (m + 2) .val) ?_ (ccRec_blk m _)
    exact Blk.frame0 (List.replicate (m + 1) .val) (Blk.pushAcc _)

theorem consTail_blk (b n : Nat) (t : Datum) :
    Blk b ([BC.op .pushImm, BC.datum t] ++ consChain (n + 1)) (List.replicate (n + 1) .val) [] := by
  rw [consChain_succ]
  exact Blk.seq (q := List.replicate (n + 2) .val) (Blk.frame0 (List.replicate (n + 1) .val) (Blk.pushDatum b t))
    (ccRec_blk n _)

theorem app_blk {base n : Nat} {code pcode : List BC} (tail : Bool)
    (h1 : Blk base code [] (List.replicate n .val)) (h2 : Blk (base + code.length + 2) pcode [] []) :
    Blk base (code ++ [.op .pushImm, .argc n] ++ pcode ++ [.op (if tail then .tcallAcc else .callAcc)]) [] [] := by
  have hcall := Blk.call (base + (code ++ [BC.op .pushImm, BC.argc n] ++ pcode).length) tail
    (List.replicate n ACell.val) (by simp [ACell.isV])
  rw [List.length_replicate] at hcall
  refine Blk.seq (Blk.seq' (Blk.seq h1 (Blk.frame0 (List.replicate n .val) (Blk.pushArgc _ n))) ?_
    (Blk.frame (ACell.argc n :: List.replicate n .val) h2)) hcall
  simp only [List.length_append, Nat.add_assoc]; rfl

theorem args_blk {base n : Nat} {code code2 : List BC} (h1 : Blk base code [] [])
    (h2 : Blk (base + code.length + 1) code2 [] (List.replicate n .val)) :
    Blk base (code ++ [.op .pushAcc] ++ code2) [] (List.replicate (n + 1) .val) := by
  rw [List.replicate_succ']
  refine Blk.seq' (Blk.seq h1 (Blk.pushAcc _)) ?_ (Blk.frame [ACell.val] h2)
  simp only [List.length_append, Nat.add_assoc]; rfl

theorem qvec_blk {base : Nat} {code code2 : List BC} (h1 : Blk (base + 1) code [] [])
    (h2 : Blk (base + 1 + code.length + 1) code2 [] []) :
    Blk base ([.op .pushAcc] ++ code ++ [.op .vpushAcc] ++ code2) [] [] := by
  refine Blk.seq' (Blk.seq (Blk.seq' (Blk.pushAcc base) rfl (Blk.frame0 [ACell.val] h1)) (Blk.vpush _ .val)) ?_ h2
  simp only [List.length_append, Nat.add_assoc]; rfl

theorem qvecHead_blk {base : Nat} {code : List BC} (g : Text) (h : Blk (base + 6) code [] []) :
    Blk base ([.op .pushImm, .argc 0, .op .mov, .global g, .acc, .op .callAcc] ++ code) [] [] := by
  show Blk base (([BC.op .pushImm, BC.argc 0] ++ [BC.op .mov, BC.global g, BC.acc] ++ [BC.op .callAcc]) ++ code) [] []
  refine Blk.seq' (Blk.seq (Blk.seq (Blk.pushArgc base 0) (Blk.frame0 [ACell.argc 0] (Blk.mov _ _ _ rfl rfl)))
    (Blk.call _ false [] rfl)) rfl h

structure BlkOK (fuel : Nat) : Prop where
  expr : ∀ st c base tail e st' code, CtxOK c → LamsOK st →
    compileExpr fuel st c base tail e = .ok (st', code) → LamsOK st' ∧ Blk base code [] []
  args : ∀ st c base rest st' code n, CtxOK c → LamsOK st →
    compileArgs fuel st c base rest = .ok (st', code, n) → LamsOK st' ∧ Blk base code [] (List.replicate n .val)
  body : ∀ st c base b st' code, CtxOK c → LamsOK st →
    compileBody fuel st c base b = .ok (st', code) → LamsOK st' ∧ Blk base code [] []
  quasi : ∀ st c base e depth st' code, CtxOK c → LamsOK st →
    compileQuasi fuel st c base e depth = .ok (st', code) → LamsOK st' ∧ Blk base code [] []
  qvec : ∀ st c base elems depth st' code, CtxOK c → LamsOK st →
    quasiVec fuel st c base elems depth = .ok (st', code) → LamsOK st' ∧ Blk base code [] []
  qlist : ∀ st c base rest depth st' code count t, CtxOK c → LamsOK st →
    quasiList fuel st c base rest depth = .ok (st', code, count, t) →
    LamsOK st' ∧ Blk base code [] (List.replicate count .val) ∧ (∀ a d, rest = .pair a d → 1 ≤ count)

theorem blkOK_zero : BlkOK 0 where
  expr := fun _ _ _ _ _ _ _ _ _ h => absurd h compileExpr_zero
  args := fun _ _ _ _ _ _ _ _ _ h => absurd h compileArgs_zero
  body := fun _ _ _ _ _ _ _ _ h => absurd h compileBody_zero
  quasi := fun _ _ _ _ _ _ _ _ _ h => absurd h compileQuasi_zero
  qvec := fun _ _ _ _ _ _ _ _ _ h => absurd h quasiVec_zero
  qlist := fun _ _ _ _ _ _ _ _ _ _ _ h => absurd h quasiList_zero

theorem blkOK_succ (fuel : Nat) (ih : BlkOK fuel) : BlkOK (fuel + 1) where
  args := by
    intro st c base rest st' code n hc hs h
    cases compileArgs_view h with
    | cons h1 h2 =>
      obtain ⟨hs1, b1⟩ := ih.expr _ _ _ _ _ _ _ hc hs h1
      obtain ⟨hs2, b2⟩ := ih.args _ _ _ _ _ _ _ hc hs1 h2
      exact ⟨hs2, args_blk b1 b2⟩
    | nil => exact ⟨hs, Blk.nil _⟩
  body := by
    intro st c base b st' code hc hs h
    cases compileBody_view h with
    | cons h1 h2 =>
      obtain ⟨hs1, b1⟩ := ih.expr _ _ _ _ _ _ _ hc hs h1
      obtain ⟨hs2, b2⟩ := ih.body _ _ _ _ _ _ hc hs1 h2
      exact ⟨hs2, Blk.seq b1 b2⟩
    | nil => exact ⟨hs, Blk.nil _⟩
  qvec := by
    intro st c base elems depth st' code hc hs h
    cases quasiVec_view h with
    | cons h1 h2 =>
      obtain ⟨hs1, b1⟩ := ih.quasi _ _ _ _ _ _ _ hc hs h1
      obtain ⟨hs2, b2⟩ := ih.qvec _ _ _ _ _ _ _ hc hs1 h2
      exact ⟨hs2, qvec_blk b1 b2⟩
    | nil => exact ⟨hs, Blk.nil _⟩
  qlist := by
    intro st c base rest depth st' code count t hc hs h
    cases quasiList_view h with
    | cons h1 h2 =>
      obtain ⟨hs1, b1⟩ := ih.quasi _ _ _ _ _ _ _ hc hs h1
      obtain ⟨hs2, b2, _⟩ := ih.qlist _ _ _ _ _ _ _ _ _ hc hs1 h2
      exact ⟨hs2, args_blk b1 b2, fun _ _ _ => Nat.succ_le_succ (Nat.zero_le _)⟩
    | nil hr => exact ⟨hs, Blk.nil _, by intro _ _ hh; subst hh; cases hr⟩
  quasi := by
    intro st c base e depth st' code hc hs h
    cases compileQuasi_view h with
    | vec h1 =>
      obtain ⟨hs1, b1⟩ := ih.qvec _ _ _ _ _ _ _ hc hs h1
      exact ⟨hs1, qvecHead_blk _ b1⟩
    | unquote _ h1 => exact ih.expr _ _ _ _ _ _ _ hc hs h1
    | @list car d t _ cnt _ _ _ h1 =>
      obtain ⟨hs1, b1, hcnt⟩ := ih.qlist _ _ _ _ _ _ _ _ _ hc hs h1
      have h1c := hcnt car d rfl
      obtain ⟨m, rfl⟩ : ∃ m, cnt = m + 1 := ⟨cnt - 1, by omega⟩
      rw [List.append_assoc]
      exact ⟨hs1, Blk.seq b1 (consTail_blk _ m t)⟩
    | atom => exact ⟨hs, Blk.movImm _ _ _ rfl rfl⟩
  expr := by
    intro st c base tail e st' code hc hs h
    cases compileExpr_view h with
    | @defineVar _ _ s _ _ _ h1 =>
      obtain ⟨hs1, b1⟩ := ih.expr _ _ _ _ _ _ _ hc hs h1
      exact ⟨hs1, Blk.seq b1 (storeCode_blk hc _ s)⟩
    | @defineFun _ _ _ _ s _ _ _ _ hp hb =>
      obtain ⟨hpc, hpro, hni⟩ := lambdaParts_ctx hc hp
      obtain ⟨hs1, b1⟩ := ih.body _ _ _ _ _ _ hpc hs hb
      obtain ⟨hs2, b2⟩ := finishLambda_ok base hs1 hpro b1 hni
      exact ⟨hs2, Blk.seq b2 (storeCode_blk hc _ s)⟩
    | lambda _ hp hb =>
      obtain ⟨hpc, hpro, hni⟩ := lambdaParts_ctx hc hp
      obtain ⟨hs1, b1⟩ := ih.body _ _ _ _ _ _ hpc hs hb
      exact finishLambda_ok base hs1 hpro b1 hni
    | quasi _ h1 => exact ih.quasi _ _ _ _ _ _ _ hc hs h1
    | quote => exact ⟨hs, Blk.movImm _ _ _ rfl rfl⟩
    | if2 _ _ h1 h2 =>
      obtain ⟨hs1, b1⟩ := ih.expr _ _ _ _ _ _ _ hc hs h1
      obtain ⟨hs2, b2⟩ := ih.expr _ _ _ _ _ _ _ hc hs1 h2
      exact ⟨hs2, Blk.ite _ _ b1 b2 (Blk.movImm _ _ _ rfl rfl) rfl rfl⟩
    | if3 _ _ h1 h2 h3 =>
      obtain ⟨hs1, b1⟩ := ih.expr _ _ _ _ _ _ _ hc hs h1
      obtain ⟨hs2, b2⟩ := ih.expr _ _ _ _ _ _ _ hc hs1 h2
      obtain ⟨hs3, b3⟩ := ih.expr _ _ _ _ _ _ _ hc hs2 h3
      exact ⟨hs3, Blk.ite _ _ b1 b2 b3 rfl rfl⟩
    | @setBang _ _ _ s _ _ _ _ _ h1 =>
      obtain ⟨hs1, b1⟩ := ih.expr _ _ _ _ _ _ _ hc hs h1
      exact ⟨hs1, Blk.seq b1 (storeCode_blk hc _ s)⟩
    | app _ h1 h2 =>
      obtain ⟨hs1, b1⟩ := ih.args _ _ _ _ _ _ _ hc hs h1
      obtain ⟨hs2, b2⟩ := ih.expr _ _ _ _ _ _ _ hc hs1 h2
      exact ⟨hs2, app_blk tail b1 b2⟩
    | sym => exact ⟨hs, Blk.mov _ _ _ (emitLoc_locB hc _) rfl⟩
    | const => exact ⟨hs, Blk.movImm _ _ _ rfl rfl⟩

theorem blkOK_all : ∀ fuel, BlkOK fuel
  | 0 => blkOK_zero
  | n+1 => blkOK_succ n (blkOK_all n)

/-- the top-level lambda and every code object in the table are procedure code with a structured body -/
theorem compileTop_shape {e : Datum} {fuel : Nat} {st : CState} {lam : LambdaM}
    (h : compileTop e fuel = .ok (st, lam)) : ProcShape lam ∧ LamsOK st := by
  obtain ⟨code, h1, rfl⟩ := compileTop_ok h
  have hc : CtxOK ⟨[], []⟩ := by intro a ha; cases ha
  have hs : LamsOK {} := by intro l hl; cases hl
  obtain ⟨hs1, b1⟩ := (blkOK_all fuel).expr _ _ _ _ _ _ _ hc hs h1
  exact ⟨⟨code, rfl, b1, fun x hx => by cases hx⟩, hs1⟩

end Marwood.Vm
