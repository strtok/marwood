import Marwood.Lemmas.EvalDerivedShapes
import Marwood.Lemmas.TransformMatchEll
/-!
# T01.2, first half — the prelude's rules rewrite every derived form to the expected term

For every derived form of `Lemmas/EvalDerivedShapes.lean`: `expand` rewrites the general *use* to the
expected expansion. Proved for ALL sub-forms, not by evaluation of instances: the first rule whose pattern
matches wins (`specExpand_skip`, `specExpand_hit`), so each proof says why each earlier rule fails (wrong
number of clauses, another head, not of the `=>` shape) and gives the bindings of the rule that matches,
from lemmas on the matcher one pattern shape at a time. The template is then evaluated by `tsub`, a
version of `inst` that computes (`rfl`) when the bound lists are variables and agrees with it
(`inst_tsub`); the templates of `let*` and `letrec` (`(name2 val2) ...`, `(set! var1 init1) ...`) are
outside its fragment and are instantiated by rewriting `inst` itself.

The facts about the regenerated data are `Expand.rules_*` (what `rulesOf name` is, by `decide +kernel`)
and those of `Lemmas/EvalPrelude.lean`: a change to `prelude.scm` breaks exactly those.

Side conditions are those needed for the *earlier* rules of the macro not to match:
* `cond`: a non-`else` test where the clause is the last one (`(cond (else => f))` is rule 1), and
  `(t r1 r2 …)` not of the shape `(t => f)`;
* `case`: the key is not a proper list for rules 2–7 (rule 1 rewrites `(case (k …) clause …)`), and
  `(else r1 r2 …)` / `((a …) r1 r2 …)` not of the `=>` shape.
-/
namespace Marwood.Spec.Eval.Derived.Expand
open Marwood Marwood.Spec.Match Marwood.Spec.Eval Marwood.Spec.Eval.Prelude Marwood.Spec.Eval.Derived
open Marwood.Transform (cellEq spineLen_ofList takeSpine_ofList dropSpine_ofList specMatch_ell_eq)

theorem L_nil : L [] = .nil := rfl
theorem L_cons (x : Datum) (xs : List Datum) : L (x :: xs) = .pair x (L xs) := rfl

theorem spineLen_L (xs : List Datum) : spineLen (L xs) = xs.length := spineLen_ofList xs

theorem takeSpine_L (xs : List Datum) : takeSpine xs.length (L xs) = xs :=
  (takeSpine_ofList xs.length xs).trans (List.take_length ..)

theorem dropSpine_L (xs : List Datum) : dropSpine xs.length (L xs) = .nil := by
  rw [L, dropSpine_ofList, List.drop_length]; rfl

def noEllHead (c : Ctx) : Datum → Bool
  | .pair q _ => !c.isEllD q
  | _ => true

theorem sm_var (c : Ctx) (v : Text) (e : Datum) (h : c.isVar v = true) :
    specMatch c (.sym v) e = some [(v, .one e)] := by
  simp only [Ctx.isVar, Bool.and_eq_true, Bool.not_eq_true', bne_iff_ne, ne_eq] at h
  unfold specMatch
  simp [h.1.1, h.1.2, h.2]

theorem sm_lit (c : Ctx) (v : Text) (e : Datum) (h : c.isLit v = true) :
    specMatch c (.sym v) e = if e = .sym v then some [] else none := by
  unfold specMatch
  simp [h]

/-- `specMatch_pair` with the side condition as this file writes it -/
theorem sm_pair (c : Ctx) (p rest E : Datum) (h : noEllHead c rest = true) :
    specMatch c (.pair p rest) E = consMatch c p rest E :=
  specMatch_pair c p rest E (by cases rest <;> exact h)

theorem sm_cons (c : Ctx) (p rest e1 er : Datum) (h : noEllHead c rest = true) :
    specMatch c (.pair p rest) (.pair e1 er) =
      (specMatch c p e1).bind fun b1 => (specMatch c rest er).bind fun b2 => some (b1 ++ b2) := by
  rw [sm_pair c p rest _ h, consMatch]
  generalize specMatch c p e1 = m1
  generalize specMatch c rest er = m2
  cases m1 <;> cases m2 <;> rfl

theorem sm_cons_nil (c : Ctx) (p rest : Datum) (h : noEllHead c rest = true) :
    specMatch c (.pair p rest) .nil = none := sm_pair c p rest .nil h

theorem sm_cons_sym (c : Ctx) (p rest : Datum) (v : Text) (h : noEllHead c rest = true) :
    specMatch c (.pair p rest) (.sym v) = none := sm_pair c p rest (.sym v) h

theorem sm_ell_nil_L (c : Ctx) (p q : Datum) (xs : List Datum) (hq : c.isEllD q = true) :
    specMatch c (.pair p (.pair q .nil)) (L xs) =
      (xs.mapM (fun x => specMatch c p x)).bind fun bs => some (collect (patVars c p) bs) := by
  rw [specMatch_ell_eq c p q .nil (L xs) hq]
  simp only [spineLen, spineLen_L, Nat.not_lt_zero, if_false, Nat.sub_zero, takeSpine_L, dropSpine_L, specMatch_nil,
    if_true, List.append_nil]
  cases xs.mapM (fun x => specMatch c p x) <;> rfl

theorem proper_of_dropSpine : ∀ e : Datum, dropSpine (spineLen e) e = .nil → ∃ xs, e = L xs := by
  intro e
  induction e with
  | nil => intro _; exact ⟨[], rfl⟩
  | pair a d _ ihd =>
    intro h
    simp only [spineLen, dropSpine] at h
    obtain ⟨xs, hxs⟩ := ihd h
    exact ⟨a :: xs, by rw [hxs]; rfl⟩
  | _ => intro h; simp [spineLen, dropSpine] at h

theorem sm_ell_nil_improper (c : Ctx) (p q e : Datum) (hq : c.isEllD q = true) (he : ∀ xs, e ≠ L xs) :
    specMatch c (.pair p (.pair q .nil)) e = none := by
  rw [specMatch_ell_eq c p q .nil e hq]
  simp only [spineLen, Nat.not_lt_zero, if_false, Nat.sub_zero, specMatch_nil]
  have : dropSpine (spineLen e) e ≠ .nil := fun h => by
    obtain ⟨xs, hxs⟩ := proper_of_dropSpine e h
    exact he xs hxs
  simp only [this, if_false]
  cases (takeSpine (spineLen e) e).mapM (fun x => specMatch c p x) <;> rfl

theorem mapM_some_map {α β : Type} (f : α → Option β) (g : α → β) :
    ∀ xs : List α, (∀ x ∈ xs, f x = some (g x)) → xs.mapM f = some (xs.map g) := by
  intro xs
  induction xs with
  | nil => intro _; rfl
  | cons x xs ih =>
    intro h
    simp only [List.mapM_cons, List.map_cons]
    rw [h x (List.mem_cons_self ..), ih (fun y hy => h y (List.mem_cons_of_mem _ hy))]
    rfl

theorem mapM_map_some {α β γ : Type} (f : β → Option γ) (h : α → β) (g : α → γ) :
    ∀ xs : List α, (∀ x, f (h x) = some (g x)) → (xs.map h).mapM f = some (xs.map g) := by
  intro xs hx
  induction xs with
  | nil => rfl
  | cons x xs ih =>
    simp only [List.mapM_cons, List.map_cons]
    rw [hx x, ih]
    rfl

theorem isEll_of_isVar {c : Ctx} {v : Text} (h : c.isVar v = true) : c.isEllD (.sym v) = false := by
  simp only [Ctx.isVar, Bool.and_eq_true, Bool.not_eq_true'] at h
  exact h.1.2

theorem collect_one (v : Text) (xs : List Datum) :
    collect [v] (xs.map fun x => [(v, MTree.one x)]) = [(v, .many (xs.map .one))] := by
  simp only [collect, List.map_cons, List.map_nil, List.filterMap_map]
  congr 3
  induction xs with
  | nil => rfl
  | cons x xs ih => simp [List.lookup, ih]

theorem collect_two (a b : Text) (hab : a ≠ b) (ps : List (Datum × Datum)) :
    collect [a, b] (ps.map fun p => [(a, MTree.one p.1), (b, MTree.one p.2)]) =
      [(a, .many ((ps.map (·.1)).map .one)), (b, .many ((ps.map (·.2)).map .one))] := by
  have hba : (b == a) = false := by simp [Ne.symm hab]
  simp only [collect, List.map_cons, List.map_nil, List.filterMap_map, List.map_map]
  congr 3
  · induction ps with
    | nil => rfl
    | cons x xs ih => simp [List.lookup, ih]
  · congr 2
    induction ps with
    | nil => rfl
    | cons x xs ih => simp [List.lookup, ih, hba]

theorem sm_ell_var (c : Ctx) (v : Text) (q : Datum) (xs : List Datum) (hq : c.isEllD q = true)
    (hv : c.isVar v = true) :
    specMatch c (.pair (.sym v) (.pair q .nil)) (L xs) = some [(v, .many (xs.map .one))] := by
  rw [sm_ell_nil_L c _ q xs hq, mapM_some_map _ (fun x => [(v, MTree.one x)]) xs (fun x _ => sm_var c v x hv)]
  simp only [Option.bind_some, patVars, hv, if_true, collect_one]

theorem bindingList_nil : bindingList [] = .nil := rfl
theorem bindingList_cons (p : Datum × Datum) (ps : List (Datum × Datum)) :
    bindingList (p :: ps) = .pair (.pair p.1 (.pair p.2 .nil)) (bindingList ps) := rfl

theorem sm_ell_pairvar (c : Ctx) (a b : Text) (q : Datum) (ps : List (Datum × Datum))
    (hq : c.isEllD q = true) (ha : c.isVar a = true) (hb : c.isVar b = true) (hab : a ≠ b) :
    specMatch c (.pair (.pair (.sym a) (.pair (.sym b) .nil)) (.pair q .nil)) (bindingList ps) =
      some [(a, .many ((ps.map (·.1)).map .one)), (b, .many ((ps.map (·.2)).map .one))] := by
  unfold bindingList
  rw [sm_ell_nil_L c _ q _ hq,
    mapM_map_some _ (fun p : Datum × Datum => L [p.1, p.2]) (fun p => [(a, MTree.one p.1), (b, MTree.one p.2)]) ps
      (fun p => by
        have hb' := isEll_of_isVar hb
        simp only [L_cons, L_nil]
        rw [sm_cons c _ _ _ _ (by simp [noEllHead, hb']), sm_var c a _ ha,
          sm_cons c _ _ _ _ (by simp [noEllHead]), sm_var c b _ hb, specMatch_nil]
        rfl)]
  have hp : patVars c (.pair (.sym a) (.pair (.sym b) .nil)) = [a, b] := by
    simp [patVars, ha, hb]
  simp only [Option.bind_some, hp, collect_two a b hab]

theorem bind_ok {α β : Type} (a : α) (f : α → IRes β) : IRes.bind (.ok a) f = f a := rfl

theorem lookup_hit (k : Text) (v : MTree) (es : Binds) : List.lookup k ((k, v) :: es) = some v := by
  simp [List.lookup]
theorem lookup_miss (a k : Text) (v : MTree) (es : Binds) (h : (a == k) = false) :
    List.lookup a ((k, v) :: es) = List.lookup a es := by
  simp [List.lookup, h]
theorem lookup_nil (a : Text) : List.lookup a ([] : Binds) = none := rfl

def instSym (c : Ctx) (esc : Bool) (v : Text) : Option MTree → IRes Datum
  | some (.one d) => .ok d
  | some (.many _) => .malformed
  | none => if !esc && c.isEll v then .malformed else .ok (.sym v)

theorem inst_sym (c : Ctx) (esc skip : Bool) (v : Text) (b : Binds) :
    inst c esc skip (.sym v) b = instSym c esc v (b.lookup v) := by
  unfold inst instSym
  rfl
theorem instSym_one (c : Ctx) (esc : Bool) (v : Text) (d : Datum) : instSym c esc v (some (.one d)) = .ok d := rfl
theorem instSym_none (c : Ctx) (v : Text) (h : c.isEll v = false) : instSym c false v none = .ok (.sym v) := by
  simp [instSym, h]
theorem inst_bool (c : Ctx) (esc skip : Bool) (x : Bool) (b : Binds) : inst c esc skip (.bool x) b = .ok (.bool x) := by
  unfold inst; rfl

/-! `instRep` at depth 1 (one ellipsis after a sub-template) as `repOf` followed by `mapMI` -/
def manyOfRes (v : Text) : Option MTree → Option (Text × List MTree)
  | some (.many ts) => some (v, ts)
  | _ => none
theorem manyOfRes_many (v : Text) (ts : List MTree) : manyOfRes v (some (.many ts)) = some (v, ts) := rfl
theorem manyOfRes_one (v : Text) (d : Datum) : manyOfRes v (some (.one d)) = none := rfl
theorem manyOfRes_none (v : Text) : manyOfRes v none = none := rfl

def repOf (b : Binds) : List (Text × List MTree) → IRes (List Binds)
  | [] => .malformed
  | (v0, ts0) :: ms =>
    if ((v0, ts0) :: ms).all (fun m => m.2.length == ts0.length) then
      .ok ((List.range ts0.length).map fun i =>
        (((v0, ts0) :: ms).filterMap fun m => m.2[i]?.map fun t => (m.1, t)) ++ b)
    else .mismatch

theorem repBinds_eq (syms : List Text) (b : Binds) :
    repBinds syms b = repOf b (syms.eraseDups.filterMap fun v => manyOfRes v (b.lookup v)) := by
  unfold repBinds
  generalize hms : List.filterMap _ syms.eraseDups = ms
  have h2 : (syms.eraseDups.filterMap fun v => manyOfRes v (b.lookup v)) = ms := hms
  rw [h2]
  cases ms with
  | nil => rfl
  | cons m ms => cases m; rfl

def rep1 (f : Binds → IRes Datum) (b : Binds) (ms : List (Text × List MTree)) : IRes (List Datum) :=
  (repOf b ms).bind fun bs => mapMI f bs

theorem instRep_one (f : Binds → IRes Datum) (syms : List Text) (b : Binds) :
    instRep f syms 1 b = rep1 f b (syms.eraseDups.filterMap fun v => manyOfRes v (b.lookup v)) := by
  rw [instRep_one_eq, repBinds_eq]
  rfl

theorem mapMI_ok {α β : Type} (g : α → β) (xs : List α) : mapMI (fun x => IRes.ok (g x)) xs = .ok (xs.map g) := by
  induction xs with
  | nil => rfl
  | cons x xs ih => simp [mapMI, ih]

theorem mapMI_ok_id {α : Type} (xs : List α) : mapMI (fun x => IRes.ok x) xs = .ok xs := by
  simpa using mapMI_ok (fun x : α => x) xs

theorem mapMI_map {α β γ : Type} (f : β → IRes γ) (h : α → β) (xs : List α) :
    mapMI f (xs.map h) = mapMI (fun x => f (h x)) xs := by
  induction xs with
  | nil => rfl
  | cons x xs ih => simp [mapMI, ih]

theorem range_map_eq {α β : Type} (xs : List α) (g : Nat → β) (h : α → β)
    (H : ∀ i (hi : i < xs.length), g i = h xs[i]) : (List.range xs.length).map g = xs.map h := by
  apply List.ext_getElem
  · simp only [List.length_map, List.length_range]
  · intro i h1 h2
    simp only [List.length_map, List.length_range] at h1
    simp only [List.getElem_map, List.getElem_range, H i h1]

theorem rep1_one (f : Binds → IRes Datum) (b : Binds) (v : Text) (xs : List Datum) :
    rep1 f b [(v, xs.map MTree.one)] = mapMI (fun x => f ((v, .one x) :: b)) xs := by
  unfold rep1 repOf
  simp only [List.all_cons, List.all_nil, beq_self_eq_true, Bool.and_true, if_true, bind_ok, List.length_map]
  rw [range_map_eq xs _ (fun x => (v, MTree.one x) :: b), mapMI_map]
  intro i hi
  simp only [List.length_map, hi, getElem?_pos, List.getElem_map, Option.map_some,
    List.filterMap_cons, List.filterMap_nil, List.cons_append, List.nil_append]

theorem rep1_two (f : Binds → IRes Datum) (b : Binds) (v w : Text) (ps : List (Datum × Datum)) :
    rep1 f b [(v, (ps.map (·.1)).map MTree.one), (w, (ps.map (·.2)).map MTree.one)] =
      mapMI (fun p => f ((v, .one p.1) :: (w, .one p.2) :: b)) ps := by
  unfold rep1 repOf
  simp only [List.all_cons, List.all_nil, beq_self_eq_true, Bool.and_self, if_true, bind_ok,
    List.length_map]
  rw [range_map_eq ps _ (fun p => (v, MTree.one p.1) :: (w, MTree.one p.2) :: b), mapMI_map]
  intro i hi
  simp only [List.map_map, List.length_map, hi, getElem?_pos, List.getElem_map, Function.comp_apply, Option.map_some,
    List.filterMap_cons, List.filterMap_nil, List.cons_append, List.nil_append]

theorem L_append (xs ys : List Datum) : L (xs ++ ys) = appendSpine xs (L ys) :=
  (Transform.appendSpine_ofList xs ys).symm

theorem appendSpine_nil (xs : List Datum) : appendSpine xs .nil = L xs := by
  rw [← L_nil, ← L_append, List.append_nil]

theorem ed1 (a : Text) : [a].eraseDups = [a] := by simp [List.eraseDups_cons]
theorem ed2 (a b : Text) (h : (b == a) = false) : [a, b].eraseDups = [a, b] := by
  simp [List.eraseDups_cons, h]
theorem ed3 (a b c : Text) (h1 : (b == a) = false) (h2 : (c == a) = false) (h3 : (c == b) = false) :
    [a, b, c].eraseDups = [a, b, c] := by
  simp [List.eraseDups_cons, h1, h2, h3]

def ell3 : Text := ['.', '.', '.']
/-- `(syntax-rules () …)` -/
def c0 : Ctx := ⟨ell3, []⟩
/-- `(syntax-rules (else =>) …)` -/
def c2 : Ctx := ⟨ell3, [k_else_, k_arrow]⟩
/-- the keyword (ignored by the matcher) in the pattern of the prelude's rule for `letrec`: `rules_letrec` -/
def k_letrecStar : Text := ['l', 'e', 't', 'r', 'e', 'c', '*']
def v_name : Text := ['n', 'a', 'm', 'e']
def v_val : Text := ['v', 'a', 'l']
def v_body1 : Text := ['b', 'o', 'd', 'y', '1']
def v_body2 : Text := ['b', 'o', 'd', 'y', '2']
def v_tag : Text := ['t', 'a', 'g']
def v_init1 : Text := ['i', 'n', 'i', 't', '1']
def v_test : Text := ['t', 'e', 's', 't']
def v_test1 : Text := ['t', 'e', 's', 't', '1']
def v_test2 : Text := ['t', 'e', 's', 't', '2']
def v_result : Text := ['r', 'e', 's', 'u', 'l', 't']
def v_result1 : Text := ['r', 'e', 's', 'u', 'l', 't', '1']
def v_result2 : Text := ['r', 'e', 's', 'u', 'l', 't', '2']
def v_exp : Text := ['e', 'x', 'p']
def v_name1 : Text := ['n', 'a', 'm', 'e', '1']
def v_val1 : Text := ['v', 'a', 'l', '1']
def v_name2 : Text := ['n', 'a', 'm', 'e', '2']
def v_val2 : Text := ['v', 'a', 'l', '2']
def v_clause : Text := ['c', 'l', 'a', 'u', 's', 'e']
def v_clause1 : Text := ['c', 'l', 'a', 'u', 's', 'e', '1']
def v_clause2 : Text := ['c', 'l', 'a', 'u', 's', 'e', '2']
def v_clauses : Text := ['c', 'l', 'a', 'u', 's', 'e', 's']
def v_key : Text := ['k', 'e', 'y']
def v_atoms : Text := ['a', 't', 'o', 'm', 's']
def v_expression : Text := ['e', 'x', 'p', 'r', 'e', 's', 's', 'i', 'o', 'n']

theorem rules_when : rulesOf k_when_ = some ⟨c0, [
    ⟨L [s k_when_, s v_test, s v_result1, s v_result2, s ell3],
     L [s k_if_, s v_test, L [s k_begin_, s v_result1, s v_result2, s ell3]]⟩]⟩ := by decide +kernel

theorem rules_unless : rulesOf k_unless_ = some ⟨c0, [
    ⟨L [s k_unless_, s v_test, s v_result1, s v_result2, s ell3],
     L [s k_if_, L [s k_not, s v_test], L [s k_begin_, s v_result1, s v_result2, s ell3]]⟩]⟩ := by decide +kernel

theorem rules_begin : rulesOf k_begin_ = some ⟨c0, [
    ⟨L [s k_begin_, s v_exp, s ell3], L [L [s k_lambda, .nil, s v_exp, s ell3]]⟩]⟩ := by decide +kernel

theorem rules_and : rulesOf k_and_ = some ⟨c0, [
    ⟨L [s k_and_], .bool true⟩,
    ⟨L [s k_and_, s v_test], s v_test⟩,
    ⟨L [s k_and_, s v_test1, s v_test2, s ell3],
     L [s k_if_, s v_test1, L [s k_and_, s v_test2, s ell3], .bool false]⟩]⟩ := by decide +kernel

theorem rules_or : rulesOf k_or_ = some ⟨c0, [
    ⟨L [s k_or_], .bool false⟩,
    ⟨L [s k_or_, s v_test], s v_test⟩,
    ⟨L [s k_or_, s v_test1, s v_test2, s ell3],
     L [s k_let_, L [L [s k_var1, s v_test1]], L [s k_if_, s k_var1, s k_var1, L [s k_or_, s v_test2, s ell3]]]⟩]⟩ := by
  decide +kernel

theorem rules_let : rulesOf k_let_ = some ⟨c0, [
    ⟨L [s k_let_, L [L [s v_name, s v_val], s ell3], s v_body1, s v_body2, s ell3],
     L [L [s k_lambda, L [s v_name, s ell3], s v_body1, s v_body2, s ell3], s v_val, s ell3]⟩,
    ⟨L [s k_let_, s v_tag, L [L [s v_name, s v_val], s ell3], s v_body1, s v_body2, s ell3],
     L [L [s k_letrec, L [L [s v_tag, L [s k_lambda, L [s v_name, s ell3], s v_body1, s v_body2, s ell3]]], s v_tag],
        s v_val, s ell3]⟩]⟩ := by decide +kernel

theorem rules_letStar : rulesOf k_letStar = some ⟨c0, [
    ⟨L [s k_letStar, .nil, s v_body1, s v_body2, s ell3], L [s k_let_, .nil, s v_body1, s v_body2, s ell3]⟩,
    ⟨L [s k_letStar, L [L [s v_name1, s v_val1], L [s v_name2, s v_val2], s ell3], s v_body1, s v_body2, s ell3],
     L [s k_let_, L [L [s v_name1, s v_val1]],
        L [s k_letStar, L [L [s v_name2, s v_val2], s ell3], s v_body1, s v_body2, s ell3]]⟩]⟩ := by decide +kernel

theorem rules_letrec : rulesOf k_letrec = some ⟨c0, [
    ⟨L [s k_letrecStar, L [L [s k_var1, s v_init1], s ell3], s v_body1, s v_body2, s ell3],
     L [s k_let_, L [L [s k_var1, .bool false], s ell3], L [s k_setBang, s k_var1, s v_init1], s ell3,
        L [s k_let_, .nil, s v_body1, s v_body2, s ell3]]⟩]⟩ := by decide +kernel

theorem rules_cond : rulesOf k_cond = some ⟨c2, [
    ⟨L [s k_cond, L [s k_else_, s v_result1, s v_result2, s ell3]],
     L [s k_begin_, s v_result1, s v_result2, s ell3]⟩,
    ⟨L [s k_cond, L [s v_test, s k_arrow, s v_result]],
     L [s k_let_, L [L [s k_temp, s v_test]], L [s k_if_, s k_temp, L [s v_result, s k_temp]]]⟩,
    ⟨L [s k_cond, L [s v_test, s k_arrow, s v_result], s v_clause1, s v_clause2, s ell3],
     L [s k_let_, L [L [s k_temp, s v_test]],
        L [s k_if_, s k_temp, L [s v_result, s k_temp], L [s k_cond, s v_clause1, s v_clause2, s ell3]]]⟩,
    ⟨L [s k_cond, L [s v_test]], s v_test⟩,
    ⟨L [s k_cond, L [s v_test], s v_clause1, s v_clause2, s ell3],
     L [s k_let_, L [L [s k_temp, s v_test]],
        L [s k_if_, s k_temp, s k_temp, L [s k_cond, s v_clause1, s v_clause2, s ell3]]]⟩,
    ⟨L [s k_cond, L [s v_test, s v_result1, s v_result2, s ell3]],
     L [s k_if_, s v_test, L [s k_begin_, s v_result1, s v_result2, s ell3]]⟩,
    ⟨L [s k_cond, L [s v_test, s v_result1, s v_result2, s ell3], s v_clause1, s v_clause2, s ell3],
     L [s k_if_, s v_test, L [s k_begin_, s v_result1, s v_result2, s ell3],
        L [s k_cond, s v_clause1, s v_clause2, s ell3]]⟩]⟩ := by decide +kernel

theorem rules_case : rulesOf k_case_ = some ⟨c2, [
    ⟨L [s k_case_, L [s v_key, s ell3], s v_clauses, s ell3],
     L [s k_let_, L [L [s k_atomKey, L [s v_key, s ell3]]], L [s k_case_, s k_atomKey, s v_clauses, s ell3]]⟩,
    ⟨L [s k_case_, s v_key, L [s k_else_, s k_arrow, s v_result]], L [s v_result, s v_key]⟩,
    ⟨L [s k_case_, s v_key, L [s k_else_, s v_result1, s v_result2, s ell3]],
     L [s k_begin_, s v_result1, s v_result2, s ell3]⟩,
    ⟨L [s k_case_, s v_key, L [L [s v_atoms, s ell3], s k_arrow, s v_result]],
     L [s k_if_, L [s k_memv, s v_key, L [s k_quote, L [s v_atoms, s ell3]]], L [s v_result, s v_key]]⟩,
    ⟨L [s k_case_, s v_key, L [L [s v_atoms, s ell3], s v_result1, s v_result2, s ell3]],
     L [s k_if_, L [s k_memv, s v_key, L [s k_quote, L [s v_atoms, s ell3]]],
        L [s k_begin_, s v_result1, s v_result2, s ell3]]⟩,
    ⟨L [s k_case_, s v_key, L [L [s v_atoms, s ell3], s k_arrow, s v_result], s v_clause, s v_clauses, s ell3],
     L [s k_if_, L [s k_memv, s v_key, L [s k_quote, L [s v_atoms, s ell3]]], L [s v_result, s v_key],
        L [s k_case_, s v_key, s v_clause, s v_clauses, s ell3]]⟩,
    ⟨L [s k_case_, s v_key, L [L [s v_atoms, s ell3], s v_result1, s v_result2, s ell3], s v_clause, s v_clauses, s ell3],
     L [s k_if_, L [s k_memv, s v_key, L [s k_quote, L [s v_atoms, s ell3]]],
        L [s k_begin_, s v_result1, s v_result2, s ell3],
        L [s k_case_, s v_key, s v_clause, s v_clauses, s ell3]]⟩]⟩ := by decide +kernel

theorem rules_delay : rulesOf k_delay = some ⟨c0, [
    ⟨L [s k_delay, s v_expression], L [s k_delayForce, L [s k_makePromise, .bool true, s v_expression]]⟩]⟩ := by
  decide +kernel

theorem rules_delayForce : rulesOf k_delayForce = some ⟨c0, [
    ⟨L [s k_delayForce, s v_expression],
     L [s k_makePromise, .bool false, L [s k_lambda, .nil, s v_expression]]⟩]⟩ := by decide +kernel

theorem L_cons_ne_nil (x : Datum) (xs : List Datum) : (L (x :: xs) = Datum.nil) = False := by
  simp [L_cons]
theorem sym_ne_L (v : Text) (xs : List Datum) : Datum.sym v ≠ L xs := by
  cases xs <;> simp [L_cons, L_nil]

theorem matchRule_L (c : Ctx) (k prest tm u : Datum) (us : List Datum) :
    matchRule c ⟨.pair k prest, tm⟩ (L (u :: us)) = specMatch c prest (L us) := rfl

theorem sm_cons_L (c : Ctx) (p rest e1 : Datum) (er : List Datum) (h : noEllHead c rest = true) :
    specMatch c (.pair p rest) (L (e1 :: er)) =
      (specMatch c p e1).bind fun b1 => (specMatch c rest (L er)).bind fun b2 => some (b1 ++ b2) :=
  sm_cons c p rest e1 (L er) h
theorem sm_cons_L_nil (c : Ctx) (p rest : Datum) (h : noEllHead c rest = true) :
    specMatch c (.pair p rest) (L []) = none := sm_cons_nil c p rest h
theorem sm_nil_L_cons (c : Ctx) (x : Datum) (xs : List Datum) : specMatch c .nil (L (x :: xs)) = none := by
  rw [specMatch_nil, L_cons]; simp
theorem sm_nil_nil (c : Ctx) : specMatch c .nil .nil = some [] := by rw [specMatch_nil]; rfl
theorem sm_nil_pair (c : Ctx) (a d : Datum) : specMatch c .nil (.pair a d) = none := by rw [specMatch_nil]; simp
theorem sm_ell_nil_sym (c : Ctx) (p q : Datum) (v : Text) (hq : c.isEllD q = true) :
    specMatch c (.pair p (.pair q .nil)) (.sym v) = none :=
  sm_ell_nil_improper c p q _ hq (sym_ne_L v)

theorem sm_single_L (c : Ctx) (p : Datum) (rs : List Datum) (h : rs.length ≠ 1) :
    specMatch c (.pair p .nil) (L rs) = none := by
  rcases rs with _ | ⟨a, _ | ⟨a2, rs⟩⟩
  · exact sm_cons_L_nil c p .nil rfl
  · exact absurd rfl h
  · rw [sm_cons_L c p .nil a _ rfl, sm_nil_L_cons]
    cases specMatch c p a <;> rfl

theorem sm_arrow_clause (c : Ctx) (p : Datum) (vr : Text) (e r1 : Datum) (rs : List Datum)
    (hl : c.isLit k_arrow = true) (hv : c.isVar vr = true) (hr : ¬ (r1 = .sym k_arrow ∧ rs.length = 1)) :
    specMatch c (.pair p (.pair (.sym k_arrow) (.pair (.sym vr) .nil))) (.pair e (.pair r1 (L rs))) = none := by
  show specMatch c _ (L (e :: r1 :: rs)) = none
  have ha : c.isEllD (.sym k_arrow) = false := by simp [Ctx.isEllD, Ctx.isEll, hl]
  have htail : specMatch c (.pair (.sym k_arrow) (.pair (.sym vr) .nil)) (L (r1 :: rs)) = none := by
    rw [sm_cons_L c _ _ _ _ (by simp [noEllHead, isEll_of_isVar hv]), sm_lit c _ _ hl]
    by_cases h1 : r1 = .sym k_arrow
    · rw [sm_single_L c _ rs (fun h => hr ⟨h1, h⟩), if_pos h1]
      rfl
    · rw [if_neg h1]
      rfl
  rw [sm_cons_L c _ _ _ _ (by simp [noEllHead, ha]), htail]
  cases specMatch c p e <;> rfl
theorem specExpand_skip {c : Ctx} {k T u : Datum} {P us : List Datum} {rs : List Rule} {res : SRes}
    (h : specMatch c (L P) (L us) = none) (h' : specExpand c rs (L (u :: us)) = res) :
    specExpand c (⟨L (k :: P), T⟩ :: rs) (L (u :: us)) = res := by
  rw [specExpand, show matchRule c ⟨L (k :: P), T⟩ (L (u :: us)) = specMatch c (L P) (L us) from rfl, h]; exact h'

theorem specExpand_hit {c : Ctx} {k T u : Datum} {P us : List Datum} {rs : List Rule} {b : Binds} {d : Datum}
    (h : specMatch c (L P) (L us) = some b) (hi : instantiate c T b = .ok d) :
    specExpand c (⟨L (k :: P), T⟩ :: rs) (L (u :: us)) = .ok d := by
  rw [specExpand, show matchRule c ⟨L (k :: P), T⟩ (L (u :: us)) = specMatch c (L P) (L us) from rfl, h]; simp only [hi]

theorem expand_of_rules {name : Text} {c : Ctx} {rules : List Rule} {use d : Datum}
    (hr : rulesOf name = some ⟨c, rules⟩) (h : specExpand c rules use = .ok d) : expand name use = some d := by
  unfold expand; rw [hr]; simp only [h]

theorem sm_cons_some {c : Ctx} {p rest e1 er : Datum} {b1 b2 : Binds}
    (h1 : specMatch c p e1 = some b1) (h2 : specMatch c rest er = some b2) (h : noEllHead c rest = true) :
    specMatch c (.pair p rest) (.pair e1 er) = some (b1 ++ b2) := by
  rw [sm_cons c p rest e1 er h, h1, h2]; rfl

theorem sm_cons_head {c : Ctx} {p rest e1 er : Datum}
    (h1 : specMatch c p e1 = none) (h : noEllHead c rest = true) : specMatch c (.pair p rest) (.pair e1 er) = none := by
  rw [sm_cons c p rest e1 er h, h1]; rfl

theorem sm_cons_tail {c : Ctx} {p rest e1 er : Datum}
    (h2 : specMatch c rest er = none) (h : noEllHead c rest = true) : specMatch c (.pair p rest) (.pair e1 er) = none := by
  rw [sm_cons c p rest e1 er h, h2]; cases specMatch c p e1 <;> rfl

theorem noEllHead_var {c : Ctx} {a : Text} (h : c.isVar a = true) (r : Datum) :
    noEllHead c (.pair (.sym a) r) = true := by
  simp [noEllHead, isEll_of_isVar h]

/-- a tail `a b ...` of a pattern -/
def IsTail (c : Ctx) (a b : Text) (q : Datum) : Prop := c.isVar a = true ∧ c.isVar b = true ∧ c.isEllD q = true

theorem sm_tail {c : Ctx} {a b : Text} {q : Datum} (ht : IsTail c a b q) (x : Datum) (xs : List Datum) :
    specMatch c (L [s a, s b, q]) (L (x :: xs)) = some [(a, .one x), (b, .many (xs.map .one))] :=
  sm_cons_some (sm_var c a x ht.1) (sm_ell_var c b q xs ht.2.2 ht.2.1)
    (noEllHead_var ht.2.1 _)

theorem sm_tail_nil {c : Ctx} {a b : Text} {q : Datum} (ht : IsTail c a b q) :
    specMatch c (L [s a, s b, q]) (L []) = none :=
  sm_cons_nil c _ _ (noEllHead_var ht.2.1 _)

/-- what a pattern variable stands for in a use written with `L`: one sub-form, or the items of a tail -/
inductive SVal where
  | one (d : Datum)
  | items (xs : List Datum)

def SVal.tree : SVal → MTree
  | .one d => .one d
  | .items xs => .many (xs.map .one)

def toBinds (sb : List (Text × SVal)) : Binds := sb.map fun p => (p.1, p.2.tree)

/-- `inst` on templates whose ellipses each follow a variable and end a list (`… v ...)`); `none` on others -/
def tsub (c : Ctx) (sb : List (Text × SVal)) : Datum → Option Datum
  | .sym v =>
    match sb.lookup v with
    | some (.one d) => some d
    | some (.items _) => none
    | none => if c.isEll v then none else some (.sym v)
  | .pair x rest =>
    if c.isEllD x then none
    else if leadEll c rest = 0 then (tsub c sb x).bind fun h => (tsub c sb rest).bind fun t => some (.pair h t)
    else
      match x, rest with
      | .sym v, .pair _ .nil =>
        match sb.lookup v with
        | some (.items xs) => some (L xs)
        | _ => none
      | _, _ => none
  | .vec _ => none
  | d => some d

theorem lookup_toBinds (v : Text) (sb : List (Text × SVal)) :
    (toBinds sb).lookup v = (sb.lookup v).map SVal.tree := by
  induction sb with
  | nil => rfl
  | cons p sb ih =>
    simp only [toBinds, List.map_cons, List.lookup] at ih ⊢
    cases v == p.1 <;> simp [ih]

theorem inst_star {c : Ctx} {skip : Bool} {v : Text} {q : Datum} {b : Binds} {xs : List Datum}
    (hq : c.isEllD q = true) (hv : c.isEll v = false) (h : b.lookup v = some (.many (xs.map .one))) :
    inst c false skip (.pair (.sym v) (.pair q .nil)) b = .ok (L xs) := by
  rw [inst_rep c skip (.sym v) q .nil b hv hq rfl, instRep_one]
  simp only [tmplSyms, ed1, List.filterMap_cons, List.filterMap_nil, h, manyOfRes_many, rep1_one, inst_sym, lookup_hit,
    instSym_one, mapMI_ok_id, bind_ok, Transform.inst_nil, appendSpine_nil]

theorem inst_tsub (c : Ctx) (sb : List (Text × SVal)) : ∀ (T : Datum) (skip : Bool) (d : Datum),
    tsub c sb T = some d → inst c false skip T (toBinds sb) = .ok d := by
  intro T
  induction T with
  | sym v =>
    intro skip d h
    rw [inst_sym, lookup_toBinds]
    unfold tsub at h
    cases hl : sb.lookup v with
    | none =>
      rw [hl] at h
      cases he : c.isEll v <;> simp [he] at h
      subst h
      exact instSym_none c v he
    | some sv =>
      rw [hl] at h
      cases sv <;> simp at h
      subst h
      rfl
  | pair x rest ihx ihr =>
    intro skip d h
    unfold tsub at h
    cases hx : c.isEllD x <;> simp only [hx, if_true, if_false, Bool.false_eq_true, reduceCtorEq] at h
    by_cases hr : leadEll c rest = 0
    · simp only [hr, if_true] at h
      cases h1 : tsub c sb x <;> simp only [h1, Option.bind_none, Option.bind_some, reduceCtorEq] at h
      cases h2 : tsub c sb rest <;> simp only [h2, Option.bind_none, Option.bind_some, reduceCtorEq, Option.some.injEq] at h
      subst h
      rw [inst_cons c skip x rest _ hx hr, ihx false _ h1, ihr false _ h2]
      rfl
    · simp only [hr, if_false] at h
      split at h
      · rename_i v q
        have hq : c.isEllD q = true := by
          cases hq : c.isEllD q
          · simp [leadEll, hq] at hr
          · rfl
        split at h
        · rename_i xs hl
          cases h
          exact inst_star hq hx (by rw [lookup_toBinds, hl]; rfl)
        · cases h
      · cases h
  | vec e _ => intro skip d h; simp [tsub] at h
  | _ => intro skip d h; simp only [tsub, Option.some.injEq] at h; subst h; unfold inst; rfl

theorem inst_eval (c : Ctx) (sb : List (Text × SVal)) {T d : Datum} (h : tsub c sb T = some d) :
    instantiate c T (toBinds sb) = .ok d := inst_tsub c sb T false d h

/-! a pattern that ends with one clause (`sm_last*`), or with a clause and `c1 c2 ...` (`sm_more*`) -/
theorem sm_last {c : Ctx} {P cl : Datum} {b : Binds} (h : specMatch c P cl = some b) :
    specMatch c (L [P]) (L [cl]) = some b := by
  rw [← List.append_nil b]; exact sm_cons_some h (sm_nil_nil c) rfl

theorem sm_last_none {c : Ctx} {P cl : Datum} {cs : List Datum} (h : specMatch c P cl = none) :
    specMatch c (L [P]) (L (cl :: cs)) = none := sm_cons_head h rfl

theorem sm_last_more {c : Ctx} {P cl c' : Datum} {cs : List Datum} :
    specMatch c (L [P]) (L (cl :: c' :: cs)) = none := sm_cons_tail (sm_nil_pair c _ _) rfl

theorem sm_more {c : Ctx} {a b : Text} {q P cl : Datum} {bs : Binds} (ht : IsTail c a b q) (c' : Datum) (cs : List Datum)
    (h : specMatch c P cl = some bs) :
    specMatch c (L [P, s a, s b, q]) (L (cl :: c' :: cs)) = some (bs ++ [(a, .one c'), (b, .many (cs.map .one))]) :=
  sm_cons_some h (sm_tail ht c' cs) (noEllHead_var ht.1 _)

theorem sm_more_none {c : Ctx} {a b : Text} {q P cl : Datum} {cs : List Datum} (ht : IsTail c a b q)
    (h : specMatch c P cl = none) : specMatch c (L [P, s a, s b, q]) (L (cl :: cs)) = none :=
  sm_cons_head h (noEllHead_var ht.1 _)

theorem sm_more_single {c : Ctx} {a b : Text} {q P cl : Datum} (ht : IsTail c a b q) :
    specMatch c (L [P, s a, s b, q]) (L [cl]) = none :=
  sm_cons_tail (sm_tail_nil ht) (noEllHead_var ht.1 _)

theorem tail_result0 : IsTail c0 v_result1 v_result2 (s ell3) := ⟨rfl, rfl, rfl⟩
theorem tail_test : IsTail c0 v_test1 v_test2 (s ell3) := ⟨rfl, rfl, rfl⟩
theorem tail_body : IsTail c0 v_body1 v_body2 (s ell3) := ⟨rfl, rfl, rfl⟩
theorem tail_result : IsTail c2 v_result1 v_result2 (s ell3) := ⟨rfl, rfl, rfl⟩
theorem tail_clause12 : IsTail c2 v_clause1 v_clause2 (s ell3) := ⟨rfl, rfl, rfl⟩
theorem tail_clause : IsTail c2 v_clause v_clauses (s ell3) := ⟨rfl, rfl, rfl⟩

theorem sm_else : specMatch c2 (s k_else_) (s k_else_) = some [] := (sm_lit c2 k_else_ _ rfl).trans (if_pos rfl)

theorem sm_else_ne {t er P : Datum} (ht : t ≠ s k_else_) (h : noEllHead c2 P = true) :
    specMatch c2 (.pair (s k_else_) P) (.pair t er) = none :=
  sm_cons_head ((sm_lit c2 k_else_ _ rfl).trans (if_neg ht)) h

/-- `(p result1 result2 ...)` -/
theorem sm_body {p e : Datum} {b : Binds} (r1 : Datum) (rs : List Datum) (h : specMatch c2 p e = some b) :
    specMatch c2 (L [p, s v_result1, s v_result2, s ell3]) (L (e :: r1 :: rs)) =
      some (b ++ [(v_result1, .one r1), (v_result2, .many (rs.map .one))]) :=
  sm_cons_some h (sm_tail tail_result r1 rs) rfl

theorem sm_body_single {p e : Datum} : specMatch c2 (L [p, s v_result1, s v_result2, s ell3]) (L [e]) = none :=
  sm_cons_tail (sm_tail_nil tail_result) rfl

/-- `(p => result)` -/
theorem sm_arrow {p e : Datum} {b : Binds} (f : Datum) (h : specMatch c2 p e = some b) :
    specMatch c2 (L [p, s k_arrow, s v_result]) (L [e, s k_arrow, f]) = some (b ++ [(v_result, .one f)]) :=
  sm_cons_some h (sm_cons_some ((sm_lit c2 k_arrow _ rfl).trans (if_pos rfl))
    (sm_cons_some (sm_var c2 v_result f rfl) (sm_nil_nil c2) rfl) rfl) rfl

theorem sm_arrow_single {p e : Datum} : specMatch c2 (L [p, s k_arrow, s v_result]) (L [e]) = none :=
  sm_cons_tail (sm_cons_nil c2 _ _ rfl) rfl

/-- the rules of `case` after the first begin with the key -/
theorem sm_key {k : Datum} {P E : List Datum} {b : Binds} (h : specMatch c2 (L P) (L E) = some b)
    (hp : noEllHead c2 (L P) = true) :
    specMatch c2 (L (s v_key :: P)) (L (k :: E)) = some ((v_key, .one k) :: b) :=
  sm_cons_some (sm_var c2 v_key k rfl) h hp

theorem sm_key_none {k : Datum} {P E : List Datum} (h : specMatch c2 (L P) (L E) = none)
    (hp : noEllHead c2 (L P) = true) : specMatch c2 (L (s v_key :: P)) (L (k :: E)) = none :=
  sm_cons_tail h hp

theorem not_list_of_atom {k : Datum} (h1 : ∀ a d, k ≠ .pair a d) (h2 : k ≠ .nil) : ∀ ks, k ≠ L ks := by
  intro ks
  cases ks with
  | nil => exact h2
  | cons x xs => exact h1 x (L xs)

end Marwood.Spec.Eval.Derived.Expand

namespace Marwood.Spec.Eval.Derived
open Marwood Marwood.Spec.Match Marwood.Spec.Eval Marwood.Spec.Eval.Prelude Expand

theorem expand_when (t b : Datum) (body : List Datum) :
    expand k_when_ (whenUse t b body) = some (whenExp t b body) :=
  expand_of_rules rules_when (specExpand_hit
    (sm_cons_some (sm_var c0 v_test t rfl) (sm_tail tail_result0 b body) rfl)
    (inst_eval c0 [(v_test, .one t), (v_result1, .one b), (v_result2, .items body)] rfl))

theorem expand_unless (t b : Datum) (body : List Datum) :
    expand k_unless_ (unlessUse t b body) = some (unlessExp t b body) :=
  expand_of_rules rules_unless (specExpand_hit
    (sm_cons_some (sm_var c0 v_test t rfl) (sm_tail tail_result0 b body) rfl)
    (inst_eval c0 [(v_test, .one t), (v_result1, .one b), (v_result2, .items body)] rfl))

theorem expand_begin (es : List Datum) : expand k_begin_ (beginUse es) = some (beginExp es) :=
  expand_of_rules rules_begin (specExpand_hit (sm_ell_var c0 v_exp (s ell3) es rfl rfl)
    (inst_eval c0 [(v_exp, .items es)] rfl))

theorem expand_and (es : List Datum) : expand k_and_ (andUse es) = some (andExp es) := by
  rcases es with _ | ⟨e, _ | ⟨e2, es⟩⟩
  · exact expand_of_rules rules_and (specExpand_hit (sm_nil_nil c0) (inst_eval c0 [] rfl))
  · exact expand_of_rules rules_and (specExpand_skip (sm_nil_pair c0 _ _)
      (specExpand_hit (sm_last (sm_var c0 v_test e rfl)) (inst_eval c0 [(v_test, .one e)] rfl)))
  · exact expand_of_rules rules_and (specExpand_skip (sm_nil_pair c0 _ _) (specExpand_skip sm_last_more
      (specExpand_hit (sm_tail tail_test e (e2 :: es))
        (inst_eval c0 [(v_test1, .one e), (v_test2, .items (e2 :: es))] rfl))))

theorem expand_or (es : List Datum) : expand k_or_ (orUse es) = some (orExp es) := by
  rcases es with _ | ⟨e, _ | ⟨e2, es⟩⟩
  · exact expand_of_rules rules_or (specExpand_hit (sm_nil_nil c0) (inst_eval c0 [] rfl))
  · exact expand_of_rules rules_or (specExpand_skip (sm_nil_pair c0 _ _)
      (specExpand_hit (sm_last (sm_var c0 v_test e rfl)) (inst_eval c0 [(v_test, .one e)] rfl)))
  · exact expand_of_rules rules_or (specExpand_skip (sm_nil_pair c0 _ _) (specExpand_skip sm_last_more
      (specExpand_hit (sm_tail tail_test e (e2 :: es))
        (inst_eval c0 [(v_test1, .one e), (v_test2, .items (e2 :: es))] rfl))))

/-- `((name val) ...) body1 body2 ...` against the bindings and body of a `let` -/
theorem sm_let_rest (a v : Text) (bs : List (Datum × Datum)) (b : Datum) (body : List Datum)
    (ha : c0.isVar a = true) (hv : c0.isVar v = true) (hav : a ≠ v) :
    specMatch c0 (L [L [L [s a, s v], s ell3], s v_body1, s v_body2, s ell3]) (L (bindingList bs :: b :: body)) =
      some (toBinds [(a, .items (bs.map (·.1))), (v, .items (bs.map (·.2))), (v_body1, .one b),
        (v_body2, .items body)]) :=
  sm_cons_some (sm_ell_pairvar c0 a v (s ell3) bs rfl ha hv hav) (sm_tail tail_body b body) rfl

theorem expand_let (bs : List (Datum × Datum)) (b : Datum) (body : List Datum) :
    expand k_let_ (letUse bs b body) = some (letExp bs b body) :=
  expand_of_rules rules_let (specExpand_hit (sm_let_rest v_name v_val bs b body rfl rfl (by decide))
    (inst_eval c0 _ rfl))

theorem expand_namedLet (tag : Text) (bs : List (Datum × Datum)) (b : Datum) (body : List Datum) :
    expand k_let_ (namedLetUse tag bs b body) = some (namedLetExp tag bs b body) :=
  expand_of_rules rules_let (specExpand_skip (sm_cons_head (sm_ell_nil_sym c0 _ _ tag rfl) rfl)
    (specExpand_hit
      (sm_cons_some (sm_var c0 v_tag (s tag) rfl) (sm_let_rest v_name v_val bs b body rfl rfl (by decide)) rfl)
      (inst_eval c0 ((v_tag, .one (s tag)) :: _) rfl)))

theorem expand_letStar (bs : List (Datum × Datum)) (b : Datum) (body : List Datum) :
    expand k_letStar (letStarUse bs b body) = some (letStarExp bs b body) := by
  rcases bs with _ | ⟨p, bs⟩
  · exact expand_of_rules rules_letStar (specExpand_hit
      (sm_cons_some (sm_nil_nil c0) (sm_tail tail_body b body) rfl)
      (inst_eval c0 [(v_body1, .one b), (v_body2, .items body)] rfl))
  · refine expand_of_rules rules_letStar (specExpand_skip (sm_cons_head (sm_nil_pair c0 _ _) rfl)
      (specExpand_hit
        (sm_cons_some
          (sm_cons_some (e1 := L [p.1, p.2]) (er := bindingList bs)
            (sm_cons_some (sm_var c0 v_name1 p.1 rfl) (sm_last (sm_var c0 v_val1 p.2 rfl)) rfl)
            (sm_ell_pairvar c0 v_name2 v_val2 (s ell3) bs rfl rfl rfl (by decide)) rfl)
          (sm_tail tail_body b body) rfl) ?_))
    -- `(name2 val2) ...` in the template is not for `tsub`: `inst` rewritten step by step, the closed side
    -- conditions of `inst_cons`, `inst_rep`, `lookup_miss` by `decide +kernel` (so in `expand_letrec`)
    unfold letStarExp
    simp (disch := decide +kernel) only [L_cons, L_nil, s, List.cons_append, List.nil_append, instantiate, inst_cons,
      inst_rep, inst_sym, Transform.inst_nil, lookup_hit, lookup_miss, lookup_nil, instSym_one, instSym_none, bind_ok,
      instRep_one, tmplSyms, ed1, ed2, List.filterMap_cons, List.filterMap_nil, manyOfRes_many, rep1_one, rep1_two,
      mapMI_ok, mapMI_ok_id, appendSpine_nil]
    simp only [L_cons, L_nil, bindingList]

theorem expand_letrec (bs : List (Datum × Datum)) (b : Datum) (body : List Datum) :
    expand k_letrec (letrecUse bs b body) = some (letrecExp bs b body) := by
  refine expand_of_rules rules_letrec (specExpand_hit (sm_let_rest k_var1 v_init1 bs b body rfl rfl (by decide)) ?_)
  unfold letrecExp
  simp (disch := decide +kernel) only [toBinds, SVal.tree, List.map_cons, List.map_nil, L_cons, L_nil, s,
    List.cons_append, List.nil_append, instantiate, inst_cons, inst_rep, inst_sym, Transform.inst_nil, inst_bool, lookup_hit,
    lookup_miss, lookup_nil, instSym_one, instSym_none, bind_ok, instRep_one, tmplSyms, ed1, ed3, List.filterMap_cons,
    List.filterMap_nil, manyOfRes_many, manyOfRes_none, rep1_one, rep1_two, mapMI_ok, mapMI_ok_id, appendSpine_nil]
  simp only [L_cons, L_nil, L_append, List.map_map, Function.comp_def]

theorem expand_delay (e : Datum) : expand k_delay (delayUse e) = some (delayExp e) :=
  expand_of_rules rules_delay (specExpand_hit (sm_last (sm_var c0 v_expression e rfl))
    (inst_eval c0 [(v_expression, .one e)] rfl))

theorem expand_delayForce (e : Datum) : expand k_delayForce (delayForceUse e) = some (delayForceExp e) :=
  expand_of_rules rules_delayForce (specExpand_hit (sm_last (sm_var c0 v_expression e rfl))
    (inst_eval c0 [(v_expression, .one e)] rfl))

theorem expand_cond_else (r1 : Datum) (rs : List Datum) :
    expand k_cond (condUse [L (s k_else_ :: r1 :: rs)]) = some (condElseExp r1 rs) :=
  expand_of_rules rules_cond (specExpand_hit (sm_last (sm_body r1 rs sm_else))
    (inst_eval c2 [(v_result1, .one r1), (v_result2, .items rs)] rfl))

/-- with a further clause the `else` side condition of `expand_cond_arrow` is not needed -/
theorem expand_cond_arrow_more (t f c : Datum) (cs : List Datum) :
    expand k_cond (condUse (L [t, s k_arrow, f] :: c :: cs)) = some (condArrowExp t f (c :: cs)) :=
  expand_of_rules rules_cond (specExpand_skip sm_last_more (specExpand_skip sm_last_more (specExpand_hit
    (sm_more tail_clause12 c cs (sm_arrow f (sm_var c2 v_test t rfl)))
    (inst_eval c2 [(v_test, .one t), (v_result, .one f), (v_clause1, .one c), (v_clause2, .items cs)] rfl))))

theorem expand_cond_arrow (t f : Datum) (cs : List Datum) (ht : t ≠ s k_else_) :
    expand k_cond (condUse (L [t, s k_arrow, f] :: cs)) = some (condArrowExp t f cs) := by
  rcases cs with _ | ⟨c, cs⟩
  · exact expand_of_rules rules_cond (specExpand_skip (sm_last_none (sm_else_ne ht rfl))
      (specExpand_hit (sm_last (sm_arrow f (sm_var c2 v_test t rfl)))
        (inst_eval c2 [(v_test, .one t), (v_result, .one f)] rfl)))
  · exact expand_cond_arrow_more t f c cs

theorem expand_cond_test (t : Datum) (cs : List Datum) :
    expand k_cond (condUse (L [t] :: cs)) = some (condTestExp t cs) := by
  rcases cs with _ | ⟨c, cs⟩
  · exact expand_of_rules rules_cond (specExpand_skip (sm_last_none sm_body_single)
      (specExpand_skip (sm_last_none sm_arrow_single) (specExpand_skip (sm_more_single tail_clause12)
        (specExpand_hit (sm_last (sm_last (sm_var c2 v_test t rfl))) (inst_eval c2 [(v_test, .one t)] rfl)))))
  · exact expand_of_rules rules_cond (specExpand_skip sm_last_more (specExpand_skip sm_last_more
      (specExpand_skip (sm_more_none tail_clause12 sm_arrow_single) (specExpand_skip sm_last_more
        (specExpand_hit (sm_more tail_clause12 c cs (sm_last (sm_var c2 v_test t rfl)))
          (inst_eval c2 [(v_test, .one t), (v_clause1, .one c), (v_clause2, .items cs)] rfl))))))

/-- with a further clause the `else` side condition of `expand_cond_body` is not needed -/
theorem expand_cond_body_more (t r1 c : Datum) (rs cs : List Datum)
    (hr : ¬ (r1 = s k_arrow ∧ rs.length = 1)) :
    expand k_cond (condUse (L (t :: r1 :: rs) :: c :: cs)) = some (condBodyExp t r1 rs (c :: cs)) :=
  expand_of_rules rules_cond (specExpand_skip sm_last_more (specExpand_skip sm_last_more
    (specExpand_skip (sm_more_none tail_clause12 (sm_arrow_clause c2 (s v_test) v_result t r1 rs rfl rfl hr))
      (specExpand_skip sm_last_more (specExpand_skip (sm_more_none tail_clause12 sm_last_more)
        (specExpand_skip sm_last_more (specExpand_hit
          (sm_more tail_clause12 c cs (sm_body r1 rs (sm_var c2 v_test t rfl)))
          (inst_eval c2 [(v_test, .one t), (v_result1, .one r1), (v_result2, .items rs), (v_clause1, .one c),
            (v_clause2, .items cs)] rfl))))))))

theorem expand_cond_body (t r1 : Datum) (rs cs : List Datum) (ht : t ≠ s k_else_)
    (hr : ¬ (r1 = s k_arrow ∧ rs.length = 1)) :
    expand k_cond (condUse (L (t :: r1 :: rs) :: cs)) = some (condBodyExp t r1 rs cs) := by
  rcases cs with _ | ⟨c, cs⟩
  · exact expand_of_rules rules_cond (specExpand_skip (sm_last_none (sm_else_ne ht rfl))
      (specExpand_skip (sm_last_none (sm_arrow_clause c2 (s v_test) v_result t r1 rs rfl rfl hr))
        (specExpand_skip (sm_more_single tail_clause12) (specExpand_skip (sm_last_none sm_last_more)
          (specExpand_skip (sm_more_single tail_clause12) (specExpand_hit
            (sm_last (sm_body r1 rs (sm_var c2 v_test t rfl)))
            (inst_eval c2 [(v_test, .one t), (v_result1, .one r1), (v_result2, .items rs)] rfl)))))))
  · exact expand_cond_body_more t r1 c rs cs hr

theorem expand_case_key (ks cs : List Datum) :
    expand k_case_ (caseUse (L ks) cs) = some (caseKeyExp ks cs) :=
  expand_of_rules rules_case (specExpand_hit
    (sm_cons_some (sm_ell_var c2 v_key (s ell3) ks rfl rfl) (sm_ell_var c2 v_clauses (s ell3) cs rfl rfl) rfl)
    (inst_eval c2 [(v_key, .items ks), (v_clauses, .items cs)] rfl))

theorem case_rule1_fails (k : Datum) (hk : ∀ ks, k ≠ L ks) (cs : List Datum) :
    specMatch c2 (L [L [s v_key, s ell3], s v_clauses, s ell3]) (L (k :: cs)) = none :=
  sm_cons_head (sm_ell_nil_improper c2 _ (s ell3) k rfl hk) rfl

theorem expand_case_else_arrow (k f : Datum) (hk : ∀ ks, k ≠ L ks) :
    expand k_case_ (caseUse k [L [s k_else_, s k_arrow, f]]) = some (caseElseArrowExp k f) :=
  expand_of_rules rules_case (specExpand_skip (case_rule1_fails k hk _) (specExpand_hit
    (sm_key (sm_last (sm_arrow f sm_else)) rfl) (inst_eval c2 [(v_key, .one k), (v_result, .one f)] rfl)))

theorem expand_case_else (k r1 : Datum) (rs : List Datum) (hk : ∀ ks, k ≠ L ks)
    (hr : ¬ (r1 = s k_arrow ∧ rs.length = 1)) :
    expand k_case_ (caseUse k [L (s k_else_ :: r1 :: rs)]) = some (caseElseExp r1 rs) :=
  expand_of_rules rules_case (specExpand_skip (case_rule1_fails k hk _) (specExpand_skip
    (sm_key_none (sm_last_none (sm_arrow_clause c2 (s k_else_) v_result (s k_else_) r1 rs rfl rfl hr)) rfl)
    (specExpand_hit (sm_key (sm_last (sm_body r1 rs sm_else)) rfl)
      (inst_eval c2 [(v_key, .one k), (v_result1, .one r1), (v_result2, .items rs)] rfl))))

theorem sm_else_atoms (atoms : List Datum) {er P : Datum} (h : noEllHead c2 P = true) :
    specMatch c2 (L [.pair (s k_else_) P]) (L [.pair (L atoms) er]) = none :=
  sm_last_none (sm_else_ne (sym_ne_L k_else_ atoms).symm h)

theorem sm_atoms (atoms : List Datum) :
    specMatch c2 (L [s v_atoms, s ell3]) (L atoms) = some [(v_atoms, .many (atoms.map .one))] :=
  sm_ell_var c2 v_atoms (s ell3) atoms rfl rfl

theorem expand_case_arrow (k : Datum) (atoms : List Datum) (f : Datum) (cs : List Datum)
    (hk : ∀ ks, k ≠ L ks) :
    expand k_case_ (caseUse k (L [L atoms, s k_arrow, f] :: cs)) = some (caseArrowExp k atoms f cs) := by
  refine expand_of_rules rules_case (specExpand_skip (case_rule1_fails k hk _) ?_)
  rcases cs with _ | ⟨c, cs⟩
  · exact specExpand_skip (sm_key_none (sm_else_atoms atoms rfl) rfl)
      (specExpand_skip (sm_key_none (sm_else_atoms atoms rfl) rfl) (specExpand_hit
        (sm_key (sm_last (sm_arrow f (sm_atoms atoms))) rfl)
        (inst_eval c2 [(v_key, .one k), (v_atoms, .items atoms), (v_result, .one f)] rfl)))
  · exact specExpand_skip (sm_key_none sm_last_more rfl) (specExpand_skip (sm_key_none sm_last_more rfl)
      (specExpand_skip (sm_key_none sm_last_more rfl) (specExpand_skip (sm_key_none sm_last_more rfl)
        (specExpand_hit (sm_key (sm_more tail_clause c cs (sm_arrow f (sm_atoms atoms))) rfl)
          (inst_eval c2 [(v_key, .one k), (v_atoms, .items atoms), (v_result, .one f), (v_clause, .one c),
            (v_clauses, .items cs)] rfl)))))

theorem expand_case_body (k : Datum) (atoms : List Datum) (r1 : Datum) (rs cs : List Datum)
    (hk : ∀ ks, k ≠ L ks) (hr : ¬ (r1 = s k_arrow ∧ rs.length = 1)) :
    expand k_case_ (caseUse k (L (L atoms :: r1 :: rs) :: cs)) = some (caseBodyExp k atoms r1 rs cs) := by
  have hA := sm_arrow_clause c2 (L [s v_atoms, s ell3]) v_result (L atoms) r1 rs rfl rfl hr
  refine expand_of_rules rules_case (specExpand_skip (case_rule1_fails k hk _) ?_)
  rcases cs with _ | ⟨c, cs⟩
  · exact specExpand_skip (sm_key_none (sm_else_atoms atoms rfl) rfl)
      (specExpand_skip (sm_key_none (sm_else_atoms atoms rfl) rfl)
        (specExpand_skip (sm_key_none (sm_last_none hA) rfl) (specExpand_hit
          (sm_key (sm_last (sm_body r1 rs (sm_atoms atoms))) rfl)
          (inst_eval c2 [(v_key, .one k), (v_atoms, .items atoms), (v_result1, .one r1), (v_result2, .items rs)]
            rfl))))
  · exact specExpand_skip (sm_key_none sm_last_more rfl) (specExpand_skip (sm_key_none sm_last_more rfl)
      (specExpand_skip (sm_key_none sm_last_more rfl) (specExpand_skip (sm_key_none sm_last_more rfl)
        (specExpand_skip (sm_key_none (sm_more_none tail_clause hA) rfl) (specExpand_hit
          (sm_key (sm_more tail_clause c cs (sm_body r1 rs (sm_atoms atoms))) rfl)
          (inst_eval c2 [(v_key, .one k), (v_atoms, .items atoms), (v_result1, .one r1), (v_result2, .items rs),
            (v_clause, .one c), (v_clauses, .items cs)] rfl))))))

end Marwood.Spec.Eval.Derived
