import Marwood.Lemmas.TransformEllClasses
/-!
# Soundness of `transform` for transformers without ellipsis

A plain rule is a rule of ellipsis depth ≤ 1 that has no ellipsis variables and never meets the
`zeroRepTail` situation, so this class is an instance of `transformRules_d1`.
-/
namespace Marwood.Transform
open Marwood Marwood.Spec.Match

theorem ellVars_plain (s : Setup) : ∀ P : Datum,
    (plain s.es P = true → ellVars s.ctx P = []) ∧ (plain.plainTail s.es P = true → ellVars s.ctx P = []) := by
  intro P
  induction P with
  | pair a d iha ihd =>
    have key : plain s.es a = true → plain.plainTail s.es d = true → ellVars s.ctx (.pair a d) = [] := by
      intro ha hd
      cases d with
      | pair q r =>
        have hq : s.ctx.isEllD q = false := by
          simp only [plain.plainTail, Bool.and_eq_true] at hd
          rw [s.isEllD_eq]; exact plain_ne_ell hd.1
        simp only [ellVars, hq, Bool.false_eq_true, if_false, iha.1 ha, ihd.2 hd, List.append_nil]
      | _ => simp only [ellVars, iha.1 ha, List.append_nil]
    constructor
    · intro hp; simp only [plain, Bool.and_eq_true] at hp; exact key hp.1 hp.2
    · intro hp; simp only [plain.plainTail, Bool.and_eq_true] at hp; exact key hp.1 hp.2
  | _ => exact ⟨fun _ => rfl, fun _ => rfl⟩

theorem tP_plain (es : Text) : ∀ T : Datum,
    (plain es T = true → tP es [] T = true) ∧ (plain.plainTail es T = true → tS es [] T = true) := by
  intro T
  induction T with
  | pair a d iha ihd =>
    have key : plain es a = true → plain.plainTail es d = true → tS es [] (.pair a d) = true := by
      intro ha hd
      cases d with
      | pair q r =>
        have hq : q ≠ .sym es := by
          simp only [plain.plainTail, Bool.and_eq_true] at hd
          intro hq; have := plain_ne_ell hd.1; simp [hq] at this
        simp only [tS, hq, if_false, iha.1 ha, ihd.2 hd, Bool.and_self]
      | nil => simp [tS, iha.1 ha]
      | _ => simp [plain.plainTail] at hd
    constructor
    · intro hp; simp only [plain, Bool.and_eq_true] at hp; rw [tP_pair]; exact key hp.1 hp.2
    · intro hp; simp only [plain.plainTail, Bool.and_eq_true] at hp; exact key hp.1 hp.2
  | sym x => exact ⟨fun h => by simpa [tP, plain] using h, fun h => by simp [plain.plainTail] at h⟩
  | vec v _ => exact ⟨fun h => by simp [plain] at h, fun h => by simp [plain.plainTail] at h⟩
  | nil => exact ⟨fun _ => by simp [tP], fun _ => by simp [tS]⟩
  | _ => exact ⟨fun _ => by simp [tP], fun h => by simp [plain.plainTail] at h⟩

theorem transformRules_plain (s : Setup) (f f0 : Nat) (t : Transform) (u : Datum)
    (hte : t.ellipsis = s.ell) (htl : t.literals = s.lits) :
    ∀ (rules : List (Pattern × Datum)) (e : Datum),
      (∀ r ∈ rules, RuleOK f0 s.ell s.lits r ∧ plain s.es r.1.expr = true ∧ plain s.es r.2 = true) →
      transformRules f t u rules = .ok e →
      Sound s.ctx (rules.map fun r => ⟨r.1.expr, r.2⟩) u e := by
  intro rules e hr
  have hbody : ∀ r ∈ rules, ∃ kw body, r.1.expr = .pair kw body ∧ plain.plainTail s.es body = true := by
    intro r hr'
    obtain ⟨hok, hp, _⟩ := hr r hr'
    obtain ⟨_, _, _, kw, body, hpb, _⟩ := Pattern.tryNew_ok hok.pat
    rw [hpb] at hp
    simp only [plain, Bool.and_eq_true] at hp
    exact ⟨kw, body, hpb, hp.2⟩
  refine transformRules_d1 s f f0 t u hte htl rules e (fun r hr' => ⟨(hr r hr').1, ?_⟩) (fun r hr' => ?_)
  · obtain ⟨kw, body, hpb, hb⟩ := hbody r hr'
    simp only [ruleD1, hpb, Bool.and_eq_true]
    exact ⟨(nn_of_plain s.es body).2 hb, by rw [(ellVars_plain s body).2 hb]; exact (tP_plain s.es r.2).1 (hr r hr').2.2⟩
  · obtain ⟨kw, body, hpb, hb⟩ := hbody r hr'
    simp only [zeroRepTailRule, hpb]
    cases u with
    | pair _ urest => exact (gp_plain s body).2 hb urest
    | _ => rfl
end Marwood.Transform
