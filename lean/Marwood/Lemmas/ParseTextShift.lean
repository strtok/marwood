import Marwood.Lemmas.Parse
import Marwood.Lemmas.ParseTextScan
/-!
# The parser on a suffix of the text (T11.4)

The parser looks at the text only through `Token::span`: if a relabelling `sh` of the tokens keeps
types and spans (`Relabel`), parsing the relabelled tokens over `text'` is parsing the original ones
over `text`, remaining tokens relabelled. Used at `text' = p ++ text`, `sh = Token.shift (byteLen p)`.
-/
namespace Marwood
namespace ParseText

theorem dropBytes_prefix (p sfx : Text) (n : Nat) :
    dropBytes (n + byteLen p) (p ++ sfx) = dropBytes n sfx := by
  induction p generalizing n with
  | nil => simp
  | cons c cs ih =>
    have hp := utf8Size_pos c
    simp only [byteLen_cons, List.cons_append]
    obtain ⟨m, hm⟩ : ∃ m, n + (c.utf8Size + byteLen cs) = m + 1 :=
      ⟨n + (c.utf8Size + byteLen cs) - 1, by omega⟩
    rw [hm, dropBytes]
    have h1 : c.utf8Size ≤ m + 1 := by omega
    simp only [h1, if_true]
    have h2 : m + 1 - c.utf8Size = n + byteLen cs := by omega
    rw [h2, ih]

theorem sliceBytes_prefix (p sfx : Text) (lo hi : Nat) :
    sliceBytes (lo + byteLen p) (hi + byteLen p) (p ++ sfx) = sliceBytes lo hi sfx := by
  unfold sliceBytes
  by_cases h : lo ≤ hi
  · have h' : lo + byteLen p ≤ hi + byteLen p := by omega
    have e : hi + byteLen p - (lo + byteLen p) = hi - lo := by omega
    simp only [h, h', if_true, dropBytes_prefix, e]
  · have h' : ¬ lo + byteLen p ≤ hi + byteLen p := by omega
    simp only [h, h', if_false]

theorem tokSpan_prefix (p sfx : Text) (t : Token) :
    tokSpan (p ++ sfx) (t.shift (byteLen p)) = tokSpan sfx t := by
  unfold tokSpan
  simp only [Token.shift_lo, Token.shift_hi, sliceBytes_prefix]

def mapP (sh : Token → Token) : PRes (Datum × List Token) → PRes (Datum × List Token)
  | .ok (d, rest) => .ok (d, rest.map sh)
  | .err e => .err e
  | .panic m => .panic m

def mapO (sh : Token → Token) :
    Option (PRes (Datum × List Token)) → Option (PRes (Datum × List Token))
  | none => none
  | some r => some (mapP sh r)

/-- `text'` with tokens relabelled by `sh` shows the parser what `text` shows it -/
structure Relabel (text' text : Text) (sh : Token → Token) : Prop where
  ty : ∀ t, (sh t).ty = t.ty
  span : ∀ t, tokSpan text' (sh t) = tokSpan text t

section
variable {text' text : Text} {sh : Token → Token}

theorem firstChar_relabel (R : Relabel text' text sh) (t : Token) :
    firstChar text' (sh t) = firstChar text t := by
  unfold firstChar; rw [R.span]

theorem closeList_relabel (R : Relabel text' text sh) (start t : Token) (acc : List Datum)
    (ts : List Token) :
    closeList text' (sh start) (sh t) acc (ts.map sh) = mapP sh (closeList text start t acc ts) := by
  unfold closeList
  rw [firstChar_relabel R, firstChar_relabel R]
  cases firstChar text start with
  | err e | panic m => rfl
  | ok o =>
    cases firstChar text t with
    | err e | panic m => rfl
    | ok c =>
      simp only
      split <;> rfl

theorem closeVector_relabel (R : Relabel text' text sh) (t : Token) (acc : List Datum)
    (ts : List Token) :
    closeVector text' (sh t) acc (ts.map sh) = mapP sh (closeVector text t acc ts) := by
  unfold closeVector
  rw [firstChar_relabel R]
  cases firstChar text t with
  | err e | panic m => rfl
  | ok c =>
    simp only
    split <;> rfl

theorem numberFinal_relabel (fo : FloatOps) (R : Relabel text' text sh) (ex : Exactness)
    (radix : Nat) (t : Token) (ts : List Token) :
    numberFinal fo text' ex radix (sh t) (ts.map sh) =
      mapP sh (numberFinal fo text ex radix t ts) := by
  unfold numberFinal
  rw [R.span, R.ty]
  cases tokSpan text t with
  | err e | panic m => rfl
  | ok sp =>
    simp only
    split
    · cases parseWithExactness fo sp ex radix with
      | ok n => rfl
      | err u => cases u; rfl
      | panic m => rfl
    · rfl

theorem parseNumberTok_relabel (fo : FloatOps) (R : Relabel text' text sh) :
    ∀ (ts : List Token) (ex : Exactness) (radix : Nat) (t : Token),
      parseNumberTok fo text' ex radix (sh t) (ts.map sh) =
        mapP sh (parseNumberTok fo text ex radix t ts) := by
  intro ts
  induction ts with
  | nil =>
    intro ex radix t
    rw [parseNumberTok, parseNumberTok, R.ty, R.span]
    by_cases hty : t.ty = .numberPrefix
    · simp only [hty, if_true]
      cases tokSpan text t with
      | err e | panic m => rfl
      | ok sp =>
        simp only
        cases prefixStep sp ex radix with
        | none => rfl
        | some er => rfl
    · simp only [hty, if_false]
      exact numberFinal_relabel fo R ex radix t []
  | cons t' ts ih =>
    intro ex radix t
    rw [parseNumberTok, parseNumberTok, R.ty, R.span]
    by_cases hty : t.ty = .numberPrefix
    · simp only [hty, if_true]
      cases tokSpan text t with
      | err e | panic m => rfl
      | ok sp =>
        simp only
        cases prefixStep sp ex radix with
        | none => rfl
        | some er =>
          obtain ⟨ex', radix'⟩ := er
          simp only [List.map_cons]
          exact ih ex' radix' t'
    · simp only [hty, if_false]
      exact numberFinal_relabel fo R ex radix t (t' :: ts)

theorem parseAtom_relabel (fo : FloatOps) (R : Relabel text' text sh) (t : Token)
    (ts : List Token) :
    parseAtom fo text' (sh t) (ts.map sh) = mapP sh (parseAtom fo text t ts) := by
  unfold parseAtom
  rw [R.ty, R.span]
  by_cases hnum : t.ty = .number ∨ t.ty = .numberPrefix
  · rcases hnum with h | h <;> simp only [h] <;> exact parseNumberTok_relabel fo R ts _ _ t
  · cases hsp : tokSpan text t with
    | err e | panic m => cases hty : t.ty <;> simp_all [mapP]
    | ok sp =>
      cases hty : t.ty
      all_goals first
        | (exfalso; apply hnum; simp [hty]; done)
        | skip
      all_goals simp only [mapP]
      · -- char
        cases parseCharSpan sp <;> rfl
      · -- string
        cases stringInner sp with
        | err e | panic m => rfl
        | ok inner => simp only; cases parseString inner <;> rfl

theorem wrapRes_relabel (name : String) (r : Option (PRes (Datum × List Token))) :
    wrapRes name (mapO sh r) = mapO sh (wrapRes name r) := by
  cases r with
  | none => rfl
  | some x =>
    cases x with
    | ok v => obtain ⟨d, rest⟩ := v; rfl
    | err e | panic m => rfl

theorem andThen_relabel {x : Option (PRes (Datum × List Token))} {k k' : Datum → Run}
    (hk : ∀ d r, k' d (r.map sh) = mapO sh (k d r)) : andThen (mapO sh x) k' = mapO sh (andThen x k) := by
  cases x with
  | none => rfl
  | some r =>
    cases r with
    | ok v => exact hk v.1 v.2
    | err e | panic m => rfl

theorem tokKind_relabel (R : Relabel text' text sh) (t : Token) :
    tokKind (sh t).ty = tokKind t.ty := by rw [R.ty]

theorem parse_relabel (fo : FloatOps) (R : Relabel text' text sh) : ∀ f : Nat,
    (∀ ts, parseF fo text' f (ts.map sh) = mapO sh (parseF fo text f ts)) ∧
    (∀ start acc ts, listF fo text' f (sh start) acc (ts.map sh) =
        mapO sh (listF fo text f start acc ts)) ∧
    (∀ acc ts, tailF fo text' f acc (ts.map sh) = mapO sh (tailF fo text f acc ts)) ∧
    (∀ acc ts, vectorF fo text' f acc (ts.map sh) = mapO sh (vectorF fo text f acc ts)) := by
  intro f
  induction f with
  | zero =>
    refine ⟨?_, ?_, ?_, ?_⟩ <;> intros <;> simp [parseF, listF, tailF, vectorF, mapO]
  | succ f ih =>
    obtain ⟨ihP, ihL, ihT, ihV⟩ := ih
    refine ⟨?_, ?_, ?_, ?_⟩
    · intro ts
      cases ts with
      | nil => simp [parseF, mapO, mapP]
      | cons t ts =>
        rw [List.map_cons, parseF, parseF, R.ty]
        cases hk : tokKind t.ty with
        | wrap name => simp only; rw [ihP, wrapRes_relabel]
        | list => simp only; exact ihL _ _ _
        | vector => simp only; exact ihV _ _
        | atom => simp only [mapO]; rw [parseAtom_relabel fo R]
    · intro start acc ts
      cases ts with
      | nil => simp [listF, mapO, mapP]
      | cons t ts =>
        by_cases hr : t.ty = .rightParen
        · rw [List.map_cons, listF, listF, R.ty]
          simp only [hr, if_true, mapO]; rw [closeList_relabel R]
        · by_cases hd : t.ty = .dot
          · rw [List.map_cons, listF, listF, R.ty]
            simp only [hd, if_true, reduceCtorEq, if_false]; exact ihT _ _
          · rw [List.map_cons, listF_step fo text' f _ acc (by rwa [R.ty]) (by rwa [R.ty]),
              listF_step fo text f start acc hr hd, ← List.map_cons, ihP]
            exact andThen_relabel fun _ _ => ihL _ _ _
    · intro acc ts
      by_cases he : acc.isEmpty = true
      · cases ts <;> simp [tailF, he, mapO, mapP]
      · cases ts with
        | nil => simp [tailF, he, mapO, mapP]
        | cons t ts =>
          by_cases hdr : t.ty = .dot ∨ t.ty = .rightParen
          · simp [tailF, he, R.ty, hdr, mapO, mapP]
          · rw [List.map_cons, tailF_step fo text' f he (by rwa [R.ty]),
              tailF_step fo text f he hdr, ← List.map_cons, ihP]
            refine andThen_relabel fun d rest1 => ?_
            cases rest1 with
            | nil => rfl
            | cons c rest' =>
              simp only [closeTail, List.map_cons, R.ty]
              split <;> rfl
    · intro acc ts
      cases ts with
      | nil => simp [vectorF, mapO, mapP]
      | cons t ts =>
        by_cases hr : t.ty = .rightParen
        · rw [List.map_cons, vectorF, vectorF, R.ty]
          simp only [hr, if_true, mapO]; rw [closeVector_relabel R]
        · by_cases hd : t.ty = .dot
          · simp [vectorF, R.ty, hd, mapO, mapP]
          · rw [List.map_cons, vectorF_step fo text' f acc (by rwa [R.ty]) (by rwa [R.ty]),
              vectorF_step fo text f acc hr hd, ← List.map_cons, ihP]
            exact andThen_relabel fun _ _ => ihV _ _
end

theorem parseTokens_relabel (fo : FloatOps) {text' text : Text} {sh : Token → Token}
    (R : Relabel text' text sh) (ts : List Token) :
    parseTokens fo text' (ts.map sh) = mapP sh (parseTokens fo text ts) := by
  have h := (parse_relabel fo R (parseFuel ts)).1 ts
  rw [parseTokens_fuel fo text ts] at h
  exact parseTokens_of_fuel fo text' h

theorem relabel_shift (p sfx : Text) : Relabel (p ++ sfx) sfx (Token.shift (byteLen p)) :=
  ⟨fun _ => rfl, tokSpan_prefix p sfx⟩

theorem parseTokens_suffix (fo : FloatOps) (p sfx : Text) (ts0 : List Token) :
    parseTokens fo (p ++ sfx) (ts0.map (Token.shift (byteLen p))) =
      mapP (Token.shift (byteLen p)) (parseTokens fo sfx ts0) :=
  parseTokens_relabel fo (relabel_shift p sfx) ts0

end ParseText
end Marwood
