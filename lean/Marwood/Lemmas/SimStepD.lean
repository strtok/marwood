import Marwood.Lemmas.SimStepC
/-!
# Heap simulation, opcode lemmas: ENTER's environment construction for a closure (allocating)

`makeActivation` (`build_lexical_environment` + `heap.put(LexicalEnv)`): slots computed from related closure environments,
frames and environment maps are related; the new environment is allocated on both sides and `φ` extended at the two
fresh addresses (`activationLaw`).
-/
namespace Marwood.Lemmas.Sim
open Marwood Marwood.Vm Marwood.Vm.Concrete

variable {φ : Inj}

theorem usub_rel_le (a b : Nat) (site : String) :
    ORel (fun x y => x = y ∧ x ≤ a) (usub a b site) (usub a b site) := by
  unfold usub; split
  · exact .ok ⟨rfl, Nat.sub_le _ _⟩
  · exact .panic

/-- the `IofArgument | IofEnvironment` arm of `build_lexical_environment` -/
def keepPtr (env slot : Nat) (old : VCell) : Outcome VCell :=
  match old with
  | .lexEnvPtr _ _ => .ok old
  | _ => .ok (.lexEnvPtr env slot)

theorem keepPtr_rel {env env' : Nat} (henv : AddrRel φ env env') (slot : Nat) {old old'} (ho : VRel φ old old') :
    ORel (VRel φ) (keepPtr env slot old) (keepPtr env' slot old') := by
  cases ho with
  | lexEnvPtr a => exact .ok (.lexEnvPtr a)
  | atom hf => cases old <;> first | exact .ok (.lexEnvPtr henv) | simp [addrFree] at hf
  | _ => exact .ok (.lexEnvPtr henv)

theorem activationSlot_rel {env env' bp argc : Nat} {st st' : Stack} (henv : AddrRel φ env env')
    (hst : StackRel φ st st') (hbp : bp + 4 = st.sp) (slot : Nat) {old old'} (ho : VRel φ old old') (src : Source) :
    ORel (VRel φ) (activationSlot env bp argc st slot old src) (activationSlot env' bp argc st' slot old' src) := by
  cases src with
  | arg a =>
    simp only [activationSlot]
    refine (usub_rel argc a _).bind ?_
    intro d d' e
    subst e
    refine (usub_rel_le bp d _).bind ?_
    rintro base base' ⟨e, hle⟩
    subst e
    exact hst.get (by omega)
  | iofArg _ => exact keepPtr_rel henv slot ho
  | iofEnv _ => exact keepPtr_rel henv slot ho
  | global => exact .ok ho
  | internal => exact .ok ho

theorem activationSlots_rel {env env' bp argc : Nat} {st st' : Stack} (henv : AddrRel φ env env')
    (hst : StackRel φ st st') (hbp : bp + 4 = st.sp) {em em'} (hem : EnvmapRel φ em em') :
    ∀ (slot : Nat) {olds olds'}, VsRel φ olds olds' →
      ORel (VsRel φ) (activationSlots env bp argc st slot olds em) (activationSlots env' bp argc st' slot olds' em') := by
  induction hem with
  | nil =>
    intro slot olds olds' ho
    cases ho with
    | nil => exact .ok .nil
    | cons a b => exact .ok (.cons a b)
  | @cons p q rest rest' hp _ ih =>
    intro slot olds olds' ho
    obtain ⟨s1, src⟩ := p
    obtain ⟨s2, src'⟩ := q
    have : src = src' := hp.2
    subst this
    cases ho with
    | nil => exact .panic
    | cons ho1 ho2 =>
      simp only [activationSlots]
      refine (activationSlot_rel henv hst hbp slot ho1 src).bind ?_
      intro v v' hv
      refine (ih (slot + 1) ho2).bind ?_
      intro vs vs' hvs
      exact .ok (.cons hv hvs)

theorem activationLaw : ActivationLaw := by
  intro φ h h' lam lam' env env' bp st st' hs ok ok' hl henv hst hbp
  unfold makeActivation
  rcases lambdaAt_rel hs ok ok' hl with ⟨e1, e2⟩ | ⟨l, l', e1, e2, _, hargs, hem⟩
  · rw [e1, e2]; exact .err
  · rw [e1, e2]
    simp only
    rcases envAt_rel hs ok ok' henv with ⟨f1, f2⟩ | ⟨_, olds, olds', f1, f2, ho⟩
    · rw [f1, f2]; exact .err
    · rw [f1, f2]
      simp only
      rw [← hargs.length_eq]
      refine (activationSlots_rel henv hst hbp hem 0 ho).bind ?_
      intro slots slots' hsl
      obtain ⟨ψ, hle, hpq, hh⟩ := cput_sim hs (c := .lexEnv slots) (c' := .lexEnv slots')
        (fun ψ hle _ => .lexEnv (VsRel.mono hle hsl))
      exact .ok ⟨ψ, hle, hh, hpq⟩

end Marwood.Lemmas.Sim
