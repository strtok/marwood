import Marwood.Lemmas.ConcreteLawsGc
import Marwood.Lemmas.ReadsCongr
/-!
# `CodeLaws` for the concrete heap with the value typing: `Val = IsValue`

The value notion is `IsValue` (a pointer or an address-free cell: `Lemmas.Sim.plainGlob`, the notion of `GoodI`). The
`*_val` laws about allocation (`put`, `maybe_put`, the continuation and closure constructors return a `Ptr`, or the
immediate itself) hold of every heap. Those about reads (a global slot, a lexical-environment slot hold a value) are facts
about reachable heaps (`Plain.globals`, `EnvOk` of `HG`); `vops ext` therefore guards the reads (`vglobGet`, `venvGet`:
a slot that does not hold a value reads as `Undefined` / as no slot) and VPUSH (a non-value "vector" is an `ExpectedType`
error), as `gops` guards the callee. `step_vops` (Lemmas/StackDiscOfWFS.lean) shows the guards invisible on the states
of a real run.
-/
namespace Marwood.Vm.Concrete
open Marwood Marwood.Vm Marwood.Vm.Verify
open Marwood.Heap (GcState)
open Marwood.Lemmas.Sim (plainGlob)

def vglobGet (h : CHeap) (n : Nat) : VCell :=
  if plainGlob (h.globals[n]?.getD .undefined) then h.globals[n]?.getD .undefined else .undefined

/-- the slot condition of `EnvOk`: a value, or a `LexicalEnvPtr` to a slot holding one -/
def slotOkB (h : CHeap) (v : VCell) : Bool :=
  plainGlob v || (match v with
    | .lexEnvPtr e k => (match envGet h e k with
      | some w => plainGlob w
      | none => true)
    | _ => false)

def venvGet (h : CHeap) (e k : Nat) : Option VCell :=
  match envGet h e k with
  | some v => if slotOkB h v then some v else none
  | none => none

def vvectorPush (ext : ExtOps) (h : CHeap) (vec v : VCell) : Outcome CHeap :=
  if plainGlob vec then ext.vectorPush h vec v else .err .expectedType

def vops (ext : ExtOps) : HeapOps CHeap := (gops ext).withReads vglobGet venvGet (vvectorPush ext)

theorem putNew_ptr (h : CHeap) (v : VCell) : ∃ p, (putNew h v).2 = .ptr p := by
  unfold putNew
  split
  · split
    · exact ⟨_, rfl⟩
    · exact ⟨_, rfl⟩
  · exact ⟨_, rfl⟩

theorem putV_val (h : CHeap) (v : VCell) : IsValue (putV h v).2 := by
  unfold putV
  split
  · rename_i hp
    show IsValue v
    cases v <;> first | rfl | (simp [isPtr] at hp)
  · obtain ⟨p, hp⟩ := putNew_ptr h v
    rw [hp]; rfl

theorem maybePutV_val (h : CHeap) (v : VCell) : IsValue (maybePutV h v).2 := by
  unfold maybePutV
  split
  · rename_i hp
    show IsValue v
    cases v <;> first | rfl | (simp [isPtr, immediate] at hp)
  · obtain ⟨p, hp⟩ := putNew_ptr h v
    rw [hp]; rfl

theorem makeClosure_val {h h' : CHeap} {lam ep bp : Nat} {st : Stack} {c : VCell}
    (hm : makeClosure h lam ep bp st = .ok (h', c)) : IsValue c := by
  unfold makeClosure at hm
  split at hm
  · cases hm
  · obtain ⟨slots, _, hm⟩ := bind_inv hm
    cases hm
    rfl

theorem vglobGet_val (h : CHeap) (n : Nat) : IsValue (vglobGet h n) := by
  unfold vglobGet
  split
  · assumption
  · rfl

theorem venvGet_some {h : CHeap} {e k : Nat} {v : VCell} (hg : venvGet h e k = some v) :
    envGet h e k = some v ∧ slotOkB h v = true := by
  unfold venvGet at hg
  cases hx : envGet h e k with
  | none => rw [hx] at hg; cases hg
  | some w =>
    rw [hx] at hg
    dsimp only at hg
    split at hg
    · cases hg; exact ⟨rfl, by assumption⟩
    · cases hg

theorem venvGet_val {h : CHeap} {e k : Nat} {v : VCell} (hg : venvGet h e k = some v)
    (hne : ∀ e' k', v ≠ .lexEnvPtr e' k') : IsValue v := by
  obtain ⟨_, hs⟩ := venvGet_some hg
  unfold slotOkB at hs
  cases hp : plainGlob v with
  | true => exact hp
  | false =>
    rw [hp] at hs
    simp only [Bool.false_or] at hs
    cases v <;> first | cases hs | exact absurd rfl (hne _ _)

theorem venvGet_val2 {h : CHeap} {e k e' k' : Nat} {w : VCell} (hg : venvGet h e k = some (.lexEnvPtr e' k'))
    (hw : venvGet h e' k' = some w) : IsValue w := by
  obtain ⟨_, hs⟩ := venvGet_some hg
  obtain ⟨hw', _⟩ := venvGet_some hw
  unfold slotOkB at hs
  have hp : plainGlob (VCell.lexEnvPtr e' k') = false := rfl
  rw [hp] at hs
  simp only [Bool.false_or, hw'] at hs
  exact hs

theorem heapStep_vops {ext : ExtOps} {h h' : CHeap} (hs : HeapStep (vops ext) h h') : HeapStep (gops ext) h h' := by
  cases hs with
  | put v => exact .put h v
  | maybePut v => exact .maybePut h v
  | globPut n v => exact .globPut h n v
  | envPut he => exact .envPut he
  | makeClosure he => exact .makeClosure he
  | makeActivation he => exact .makeActivation he
  | @vectorPush _ vec v he =>
    have he' : vvectorPush ext h vec v = .ok h' := he
    unfold vvectorPush at he'
    split at he'
    · exact .vectorPush he'
    · cases he'
  | builtinEval he => exact .builtinEval he
  | compileEval he => exact .compileEval he

theorem heapStep_gops_inv {V : VCell → Prop} {ext : ExtOps} (ecl : ExtCodeLawsG V ext) {h h' : CHeap}
    (hi : CInvG V h) (hs : HeapStep (gops ext) h h') :
    CInvG V h' ∧ ∀ l bc, codeC h l = some bc → codeC h' l = some bc := by
  cases hs with
  | put v => exact ⟨(putV_grows hi v).inv hi (fun c hc => hc.elim), fun _ _ hc => (putV_grows hi v).code hc⟩
  | maybePut v =>
    exact ⟨(maybePutV_grows hi v).inv hi (fun c hc => hc.elim), fun _ _ hc => (maybePutV_grows hi v).code hc⟩
  | globPut n v =>
    exact ⟨(globPut_grows hi n v).inv hi (fun c hc => hc.elim), fun _ _ hc => (globPut_grows hi n v).code hc⟩
  | envPut he => exact ⟨(envPut_grows hi he).inv hi (fun c hc => hc.elim), fun _ _ hc => (envPut_grows hi he).code hc⟩
  | makeClosure he =>
    exact ⟨(makeClosure_grows hi he).inv hi (fun c hc => hc.elim), fun _ _ hc => (makeClosure_grows hi he).code hc⟩
  | makeActivation he =>
    exact ⟨(makeActivation_grows hi he).inv hi (fun c hc => hc.elim),
      fun _ _ hc => (makeActivation_grows hi he).code hc⟩
  | vectorPush he => exact ecl.vectorPush hi he
  | builtinEval he => exact ecl.builtinEval hi he
  | compileEval he => exact ecl.compileEval hi he

def concreteLawsV (ext : ExtOps) (ecl : ExtCodeLawsV ext) : CodeLaws (vops ext) where
  e := 0
  code := codeC
  HInv := CInvG IsValue
  Val := IsValue
  val_imm := fun _ h => isValue_of_isVal h
  put_val := fun h v => putV_val h v
  maybePut_val := fun h v => maybePutV_val h v
  newCont_val := fun _ _ => rfl
  makeClosure_val := fun hm => makeClosure_val hm
  vectorPush_val := by
    intro h h' d v he
    have he' : vvectorPush ext h (deref h d) v = .ok h' := he
    unfold vvectorPush at he'
    split at he'
    · rename_i hp
      show plainGlob d = true
      cases d <;> first | rfl | exact hp
    · cases he'
  globGet_val := fun h n => vglobGet_val h n
  envGet_val := fun hg hne => venvGet_val hg hne
  envGet_val2 := fun hg hw => venvGet_val2 hg hw
  info_code := by
    intro h l bc info hi hc hinfo
    exact lambdaInfo_args hi hc hinfo
  fetch_code := by
    intro h l bc _ hc o
    obtain ⟨lam, h1, h2⟩ := codeC_some hc
    subst h2
    show (match lambdaAt h l with | some lam => lam.bc[o]? | none => none) = lam.bc[o]?
    rw [lambdaAt_iff.mpr h1]
  step_inv := fun hi hs => (heapStep_gops_inv ecl hi (heapStep_vops hs)).1
  step_code := fun hi hs hc => (heapStep_gops_inv ecl hi (heapStep_vops hs)).2 _ _ hc
  callee_closure := by
    intro h v lam env hi hc
    exact procAt_ty hi (gcallee_closure hc)
  callee_lambda := by
    intro h lam hi hc
    exact procAt_ty hi (gcallee_lambda hc)
  cont_wf := by
    intro h v c hi hc
    obtain ⟨p, _, hcell⟩ := callee_cont_cell (gcallee_cont hc)
    exact hi.cont p c hcell
  newCont_inv := by
    intro h c K hi hcw
    show CInvG IsValue (cput h (CCell.cont c)).1
    have g := cput_grows (P := fun k => k = c) hi (c := CCell.cont c) (by intro lam hh; cases hh)
      (by intro k hk; cases hk; rfl)
    exact g.inv hi (fun k hk => by subst hk; exact ⟨K, hcw⟩)
  newCont_code := by
    intro h c l bc hi hc
    show codeC (cput h (CCell.cont c)).1 l = some bc
    have g := cput_grows (P := fun k => k = c) hi (c := CCell.cont c) (by intro lam hh; cases hh)
      (by intro k hk; cases hk; rfl)
    exact g.code hc

/-- **`GcLaws` for the real collector over the value-typed laws.** -/
theorem cgc_gcLawsV (ext : ExtOps) (ecl : ExtCodeLawsV ext) (force : Bool) :
    GcLaws (concreteLawsV ext ecl) (cgc force) where
  frame := fun s => by
    obtain ⟨g1, _, _, g4, g5, g6⟩ := cgc_regs force s
    exact ⟨g1, g4, g5, g6⟩
  acc := fun s => (cgc_regs force s).2.1
  callee := fun s hi h => cgc_enterLam force s (V := IsValue) hi rfl h
  inv := fun s hi => cgc_inv force s hi
  roots := fun s l bc hi hc hor => cgc_roots force s l bc hi hc hor

theorem wfs_weaken {ext : ExtOps} {eclV : ExtCodeLawsV ext} {ecl : ExtCodeLaws ext} {s : St CHeap} {K : List FDesc}
    (hw : WFS (concreteLawsV ext eclV) s K) : WFS (concreteLaws ext ecl) s K :=
  ⟨CInvG.weaken (fun _ _ => trivial) hw.inv, ⟨hw.wf.cap, hw.wf.frames.weaken (fun _ _ => trivial)⟩, trivial, hw.pre⟩

end Marwood.Vm.Concrete
