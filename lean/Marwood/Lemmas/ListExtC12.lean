import Marwood.Lemmas.ListExtSim
import Marwood.Lemmas.ListExtGood
import Marwood.Lemmas.ListExtCode
import Marwood.Lemmas.ListExtProc
import Marwood.Lemmas.ListExtDemo
import Marwood.Proofs.C12
import Marwood.Lemmas.ListExtC18

/-! Corollaries of `Proofs/C12.lean` at the real builtins `listExtWith` (see Lemmas/ListExtProps.lean for the overview). -/

namespace Marwood.Proofs.C12
open Marwood Marwood.Heap Marwood.Spec Marwood.Vm Marwood.Vm.Concrete Marwood.Lemmas.Sim Marwood.Lemmas.Good
  Marwood.Proofs.C03 Marwood.Proofs.C18 Marwood.Lemmas.MachineGarbage Marwood.Lemmas.PolicyAlloc

/-- **T12.1 at the real builtins**: in every reachable state, whenever `run_gc` collects, allocated = live -/
theorem no_floating_garbage_listExt (eqTag : String → String → Bool) (force : Bool) {s0 : St CHeap}
    (h0 : VmOk (listExtWith eqTag) (listExtWith_codeLawsV eqTag) s0) (p0 : PInv s0)
    (sb : SizeBounded (machine (listExtWith eqTag) force) s0) (cp0 : CodePlain s0.heap)
    {s : St CHeap} (hr : Reaches (machine (listExtWith eqTag) force) s0 s) {h' : Heap}
    (hrun : Heap.runGc true force (toHeap s.heap) (rootsOf s) = .ok (.collected h')) (x : Nat) :
    ((toHeap ((machine (listExtWith eqTag) force).gc s).heap).NonFree x ↔ Live (toHeap s.heap) (rootsOf s) x) ∧
    ((toHeap ((machine (listExtWith eqTag) force).gc s).heap).NonFree x ↔
      Live (toHeap ((machine (listExtWith eqTag) force).gc s).heap)
        (rootsOf ((machine (listExtWith eqTag) force).gc s)) x) :=
  no_floating_garbage_machine force (listExtWith_laws eqTag) (listExtWith_good eqTag) h0.1 sb
    (stackDiscAlong_listExt eqTag force h0 p0 sb) (listExtWith_codePlain eqTag) cp0 hr hrun x

/-- … and with the forcing hook the collection always happens -/
theorem forced_gc_no_floating_garbage_listExt (eqTag : String → String → Bool) {s0 : St CHeap}
    (h0 : VmOk (listExtWith eqTag) (listExtWith_codeLawsV eqTag) s0) (p0 : PInv s0)
    (sb : SizeBounded (machine (listExtWith eqTag) true) s0) (cp0 : CodePlain s0.heap)
    {s : St CHeap} (hr : Reaches (machine (listExtWith eqTag) true) s0 s) (x : Nat) :
    ((toHeap (cgc true s).heap).NonFree x ↔ Live (toHeap s.heap) (rootsOf s) x) ∧
    ((toHeap (cgc true s).heap).NonFree x ↔ Live (toHeap (cgc true s).heap) (rootsOf (cgc true s)) x) :=
  forced_gc_no_floating_garbage_machine (listExtWith_laws eqTag) (listExtWith_good eqTag) h0.1 sb
    (stackDiscAlong_listExt eqTag true h0 p0 sb) (listExtWith_codePlain eqTag) cp0 hr x

/-- **the allocation bound of one slice at the real builtins** (parameter `A` of T12.3): between two collection
    points at most `8192 · 3 + E` cells are allocated, `E` = what the builtins called in the slice allocate
    (`listExtWith_allocOnly`: some number of `Heap::alloc`s each; a `cons` at most 2, `evalCons_allocs`, its pair cell
    being the `maybe_put` of `runBuiltin`, counted in the opcode constant) -/
theorem slice_alloc_bound_listExt (eqTag : String → String → Bool) {n E : Nat} {s s' : St CHeap} (inv : HInv s.heap)
    (sl : Slice (listExtWith eqTag) n E s s') (hn : n ≤ 8192) :
    HInv s'.heap ∧ used s'.heap ≤ used s.heap + (8192 * maxOpAlloc + E) ∧
      ∃ j, j ≤ 8192 * maxOpAlloc + E ∧ Allocs s.heap s'.heap j :=
  slice_alloc_bound (listExtWith_allocOnly eqTag) inv sl hn

end Marwood.Proofs.C12
