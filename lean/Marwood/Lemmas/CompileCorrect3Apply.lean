import Marwood.Lemmas.CompileCorrect3Main
import Marwood.Lemmas.CompileCorrect3Disp
import Marwood.Lemmas.CompileCorrect3ApplyStack
/-!
# T01.3 stage 3 — `apply`: the re-dispatch

The builtin (`builtin/procedure.rs:72-110`, `Machine.lean` `builtinApply`) shifts the fixed arguments over the
procedure, pushes the elements of the list and the new count, winds `ip` back by one and returns the procedure, so
that the SAME `CALL`/`TCALL` runs again with `f` in `acc`. `apply_redispatch3`: if the specification's `apply` returns,
the machine ends as the dispatch of that call ends (`DispOut`). Only the SUCCESS of `apply` is covered. Hypotheses:
the procedure operand is a heap pointer (every closure `CLOSURE` creates is); the list is shorter than the MODEL's
guard (`builtinApply` bounds the element loop by 100000 to stay total on cyclic lists; the Rust loop has no bound).
-/
namespace Marwood.Lemmas.CompileCorrect3
open Marwood Marwood.Vm Marwood.Lemmas.CompileCorrect Marwood.Lemmas.CompileCorrect2
open Marwood.Spec.Eval (Val Prim Cell Env evalN evalStep applyStep evalArgs properList quoteVal kwOf insertG listOfVal)

variable {H : Type} {ops : HeapOps H} {D : RepData2 ops}

/-- ASSUMED: what a stage-1 representation of `()` / of a pair looks like to `heap.get` -/
structure ListLaws (D : RepData2 ops) : Prop where
  vr_nil_inv : ∀ h S v, D.VR h S v .nil → ops.deref h v = .nil
  vr_pair_inv : ∀ h S v (l : Nat), D.VR h S v (.pair l) → ∃ a d pa pd, S[l]? = some (.pair a d) ∧
    ops.deref h v = .pair pa pd ∧ D.VR h S (.ptr pa) a ∧ D.VR h S (.ptr pd) d

theorem mlist_of_vr3 (LL : ListLaws D) {W : World} {h : H} {S : Array Cell} :
    ∀ (fuel : Nat) (v : VCell) (w : Val) (xs : List Val), VR3 D W h S v w → listOfVal fuel S w = some xs →
    ∃ ptrs, MList ops h v ptrs ∧ All2 (VR3 D W h S) (ptrs.map VCell.ptr) xs ∧ ptrs.length = xs.length := by
  intro fuel
  induction fuel with
  | zero =>
    intro v w xs hv hl
    cases w with
    | nil =>
      simp only [listOfVal] at hl; cases hl
      cases hv with
      | base hb => exact ⟨[], .nil (LL.vr_nil_inv _ _ _ hb), .nil, rfl⟩
    | _ => simp [listOfVal] at hl
  | succ fuel ih =>
    intro v w xs hv hl
    cases w with
    | nil =>
      simp only [listOfVal] at hl; cases hl
      cases hv with
      | base hb => exact ⟨[], .nil (LL.vr_nil_inv _ _ _ hb), .nil, rfl⟩
    | pair l =>
      simp only [listOfVal] at hl
      cases hs : S[l]? with
      | none => rw [hs] at hl; cases hl
      | some c =>
        rw [hs] at hl
        cases c with
        | pair a d =>
          simp only at hl
          cases hr : listOfVal fuel S d with
          | none => rw [hr] at hl; cases hl
          | some xs' =>
            rw [hr] at hl
            simp only [Option.map] at hl
            cases hl
            have key : ∃ pa pd, ops.deref h v = .pair pa pd ∧ VR3 D W h S (.ptr pa) a ∧ VR3 D W h S (.ptr pd) d := by
              cases hv with
              | base hb =>
                obtain ⟨a', d', pa, pd, g1, g2, g3, g4⟩ := LL.vr_pair_inv _ _ _ _ hb
                rw [hs] at g1; cases g1
                exact ⟨pa, pd, g2, .base g3, .base g4⟩
              | pair g1 g2 g3 g4 =>
                rw [hs] at g1; cases g1
                exact ⟨_, _, g2, g3, g4⟩
            obtain ⟨pa, pd, k1, k2, k3⟩ := key
            obtain ⟨ptrs, m1, m2, m3⟩ := ih (.ptr pd) d xs' k3 hr
            exact ⟨pa :: ptrs, .cons k1 m1, .cons k2 m2, by simp [m3]⟩
        | _ => simp at hl
    | _ => simp [listOfVal] at hl

open Marwood.Spec.Eval in
theorem apply_prim_inv {r : Rec} {g lastv : Val} {mws : List Val} {σ σ' : SSt} {w : Val}
    (h : applyStep r (.prim .apply) (g :: mws ++ [lastv]) σ = .ok w σ') :
    ∃ xs, listOfVal (σ.store.size + 1) σ.store lastv = some xs ∧ r.apply g (mws ++ xs) σ = .ok w σ' := by
  obtain ⟨a, as, hcons⟩ : ∃ a as, mws ++ [lastv] = a :: as := by
    cases mws with
    | nil => exact ⟨lastv, [], rfl⟩
    | cons a as => exact ⟨a, as ++ [lastv], rfl⟩
  have hlast : (a :: as).getLast?.getD .nil = lastv := by rw [← hcons]; simp
  have hdrop : (a :: as).dropLast = mws := by rw [← hcons]; simp
  rw [List.cons_append, hcons] at h
  simp only [applyStep] at h
  rw [hlast, hdrop] at h
  obtain ⟨xs, σ1, h1, h2⟩ := bind_ok_inv h
  change (getStore >>= fun st => match listOfVal (st.size + 1) st lastv with
    | some xs => pure xs | none => throw .type) σ = _ at h1
  obtain ⟨st, σ0, h3, h4⟩ := bind_ok_inv h1
  have : st = σ.store ∧ σ0 = σ := by
    unfold getStore at h3
    injection h3 with e1 e2
    exact ⟨e1.symm, e2.symm⟩
  obtain ⟨rfl, rfl⟩ := this
  cases hl : listOfVal (σ0.store.size + 1) σ0.store lastv with
  | none => rw [hl] at h4; exact absurd h4 throw_ne_ok
  | some ys =>
    rw [hl] at h4
    obtain ⟨e1, e2⟩ := pure_ok_inv h4
    subst e1 e2
    exact ⟨_, rfl, h2⟩

theorem apply_redispatch3 (L : Laws3 D) (LL : ListLaws D) {n : Nat} {tail : Bool} {em : List (Text × Source)}
    {W : World} {s : MSt H} {fr : Frame} {stk0 : Stack} {σ σ' : SSt} {g lastv w : Val} {pg : Nat} {vl : VCell}
    {mid : List VCell} {mws : List Val} {id : Nat}
    (hc : CodeAt2 D em s.heap σ.store s.ipL s.ipO [BC.op (if tail = true then .tcallAcc else .callAcc)])
    (hcal : ops.callee s.heap s.acc = .builtin id) (hkind : ops.builtinKind s.heap id = .apply)
    (hg : VR3 D W s.heap σ.store (.ptr pg) g) (hmid : All2 (VR3 D W s.heap σ.store) mid mws)
    (hlast : VR3 D W s.heap σ.store vl lastv) (hi : Inv3 D W s.heap σ)
    (hst : LiveEq ((pushAll stk0 (.ptr pg :: mid ++ [vl])).push (.argc (mid.length + 2))) s.stack)
    (hw0 : SWF stk0) (hw : SWF s.stack) (hfrm : tail = true → FrameAt stk0 s.bp fr)
    (hap : (evalN (n + 1)).apply (.prim .apply) (g :: mws ++ [lastv]) σ = .ok w σ')
    (hbound : ∀ xs, listOfVal (σ.store.size + 1) σ.store lastv = some xs → xs.length + 1 ≤ 100000) :
    ∃ W' s', W.le W' ∧ DispOut D W' s stk0 σ σ' w tail fr s' := by
  change applyStep (evalN n) (.prim .apply) (g :: mws ++ [lastv]) σ = _ at hap
  obtain ⟨xs, hxs, hap'⟩ := apply_prim_inv hap
  obtain ⟨ptrs, hml, hall, hlen⟩ := mlist_of_vr3 LL _ _ _ _ hlast hxs
  have hb := hbound xs hxs
  have hf0 : ops.fetch s.heap s.ipL s.ipO = some (.opcode (if tail = true then .tcallAcc else .callAcc)) := by
    have := hc.op 0 (o := if tail = true then Op.tcallAcc else Op.callAcc) rfl
    simpa using this
  obtain ⟨st', hstep, hlive, hswf⟩ := step_apply (tail := tail) hc.1 hf0 hcal hkind hst hw0 hw hml (by omega)
  have hvals : All2 (VR3 D W s.heap σ.store) (mid ++ ptrs.map VCell.ptr) (mws ++ xs) := all2_append hmid hall
  have hlen2 : (mid ++ ptrs.map VCell.ptr).length = mid.length + ptrs.length := by simp
  obtain ⟨W', s', hw', o⟩ := disp3_ok L (closureCall_correct3 L n) (tail := tail) (em := em) (fr := fr)
    (s := { s with stack := st', acc := .ptr pg }) (stk0 := stk0) hc hg hi hvals (by rw [hlen2]; exact hlive) hw0 hswf
    hfrm hap'
  rcases o with r | ⟨ht, q⟩
  · exact ⟨W', s', hw', .inl ⟨.cons hstep r.steps, r.ipL, r.ipO, r.bp, r.ep, r.stack, r.swf, r.acc, r.inv, r.ext⟩⟩
  · exact ⟨W', s', hw', .inr ⟨ht, ⟨.cons hstep q.steps, q.ipL, q.ipO, q.ep, q.bp, q.stack, q.swf, q.acc, q.inv, q.ext⟩⟩⟩

end Marwood.Lemmas.CompileCorrect3
