import Marwood.Lemmas.CompileCorrect2FailTop
import Marwood.Lemmas.CompileCorrect2Demo
/-!
# T01.3 stage 2, ERROR case: the laws are satisfiable, and a worked failure inside a closure

`ErrLaws2` holds on the heap of `CompileCorrect2Toy.lean` (`Toy.errLaws`: there is no primitive, and the immediate
values are no procedures for the dispatch). Every hypothesis of `compileExpr_correct2_err` is discharged for
`((lambda (x) (x)) #t)`: `TCALL` on `#t` fails with `InvalidProcedure` inside the activation; the heap at the failure
represents the specification's failure state, the top-level stack is intact below the frame.
-/
namespace Marwood.Lemmas.CompileCorrect2.Toy
open Marwood Marwood.Vm Marwood.Lemmas.CompileCorrect Marwood.Lemmas.CompileCorrect2
open Marwood.Spec.Eval (Val Cell evalN k_lambda k_if_)

theorem errLaws (final : List LambdaM) : ErrLaws2 (tD final) where
  call_err := by
    intro n W h σ vf p vs ws c σ' _ hvf
    cases hvf with
    | base hb => cases hb
  callee_other := fun _ _ _ _ hv _ => (tVRc_obs hv).2.2.2

def lamA : Datum := Datum.ofList [.sym k_lambda, Datum.ofList [.sym kx], Datum.ofList [.sym kx]]

def progA : Datum := Datum.ofList [lamA, .bool true]

def bodyCodeA : List BC := [.op .pushImm, .argc 0, .op .mov, .envSlot kx, .acc, .op .tcallAcc]

def demoPartsA : LambdaParts :=
  { formals := [kx], isVararg := false, ctx := lamCtx, prologue := [.op .enter],
    body := Datum.ofList [Datum.ofList [.sym kx]] }

def demoLamA : LambdaM := lamOf demoPartsA bodyCodeA

theorem demo_partsA : lambdaParts 18 c0 lamA false = .ok demoPartsA := by rfl

theorem demo_compileA : compileExpr 20 {} c0 0 false progA = .ok ({ lambdas := [demoLamA] }, progCode) :=
  okIs_eq (by decide +kernel)

def demoCellsA : List VCell :=
  [.opcode .enter, .opcode .pushImm, .argc 0, .opcode .mov, .lexEnvSlot 0, .acc, .opcode .tcallAcc, .opcode .ret]

def demoHeapA : THeap :=
  { lams := [⟨demoCellsA, 1, [.arg 0]⟩, ⟨demoCells1, 0, []⟩], envs := #[], clos := #[], globals := #[] }

def demoStateA : MSt THeap :=
  { heap := demoHeapA, stack := ⟨List.replicate 8 .undefined, 0⟩, acc := .undefined, ep := 0, ipL := 1, ipO := 0,
    bp := 0 }

theorem demo_evalA : (evalN 6).eval progA [] demoSt = .err .notProcedure demoSt' := by rfl

abbrev demoDA : RepData2 tops := tD [demoLamA]

theorem demo_fragA : F2 (fun _ => False) 20 c0 (bound []) false progA := by
  have hx : inEnv lamCtx kx = true := by decide
  refine F2.app lamA _ ⟨by decide, by intro x h; cases h⟩ ?_ (F2L.cons _ _ (F2.bool true) F2L.nil)
  refine F2.lambda (Datum.ofList [.sym kx]) _ demoPartsA [kx] _ [] [] demo_partsA (by rfl) rfl rfl (by decide) (by rfl)
    (by intro e he; simp at he; subst he; rfl) rfl (by intro q hq; cases hq) ?_
  exact F2B.last _ (F2.app _ _ ⟨by decide, by intro x h; cases h; decide⟩
    (F2.sym kx ⟨fun _ => .inl (by simp), fun _ => hx⟩) F2L.nil)

theorem demoA_code0 (S : Array Cell) : CodeAt2 demoDA lamCtx.envmap demoHeapA S 0 0 demoLamA.bc := by
  have hslot : Loads2 demoDA lamCtx.envmap demoHeapA S (.envSlot kx) (.lexEnvSlot 0) := ⟨0, by decide, rfl⟩
  exact codeAt_lam (t := ⟨demoCellsA, 1, [.arg 0]⟩) rfl
    (.cons rfl (.cons rfl (.cons rfl (.cons rfl (.cons hslot (.cons rfl (.cons rfl (.cons rfl .nil))))))))

theorem demoA_inv : Inv2 demoDA W0 demoHeapA demoSt :=
  inv_empty (forall_getElem?_cons ⟨demoA_code0 _, rfl⟩ forall_getElem?_nil)

/-- **Non-vacuity of the error case of stage 2**: `((lambda (x) (x)) #t)` fails with `InvalidProcedure` inside the
    activation; the heap at the failure represents the specification's failure state. -/
theorem demo_closure_fails :
    ∃ W' sf e', ErrRun2 demoDA W' demoStateA demoStateA.stack demoSt demoSt' .notProcedure sf e' ∧
      e' = .invalidProcedure := by
  obtain ⟨W', sf, e', _, r⟩ := compileExpr_correct2_err (laws [demoLamA]) (errLaws [demoLamA]) 20 {} c0 0 false progA _
    progCode [] demo_fragA ctxOK_top demo_compileA (List.prefix_refl _) 6 demoSt .notProcedure demoSt' demo_evalA
    (by decide) W0 demoStateA ⟨0, 0, 0, 0, 0, demoStateA.stack⟩
    (progCode_at _ rfl rfl rfl) rfl demoA_inv (envRep_top _ _ _)
    (by show 0 < 8; omega) (by intro h; cases h)
  refine ⟨W', sf, e', r, ?_⟩
  have hc := r.cls
  cases e' <;> simp [machClass, specClass] at hc ⊢
  split at hc <;> cases hc

end Marwood.Lemmas.CompileCorrect2.Toy
