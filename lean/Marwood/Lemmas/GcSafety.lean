import Marwood.Lemmas.GcMark
import Marwood.Lemmas.GcSweep
import Marwood.Lemmas.HeapOps
/-!
# `Heap::mark` and `Vm::run_gc` at heap level: T03.1, T03.2, T12.1, T03.3 (collector part)
-/
namespace Marwood.Lemmas.GcSafety
open Marwood Marwood.Heap Marwood.Spec Marwood.Lemmas.GcMark Marwood.Lemmas.GcSweep
open Marwood.Lemmas.HeapOps

/-- reachability in the marker's own graph, bounded by `h.gc.size` (`Spec.Live`: by `h.cells.size`) -/
def Reachable (fixed : Bool) (h : Heap) (roots : List Nat) (x : Nat) : Prop :=
  Reach (h.children fixed) h.gc.size roots x

theorem isUsed_iff (s : GcState) : Heap.isUsed s = true ↔ s = GcState.used := by
  cases s <;> simp [Heap.isUsed]

theorem marked_iff (g : Array GcState) (x : Nat) :
    Marked Heap.isUsed g x ↔ g[x]? = some GcState.used := by
  constructor
  · rintro ⟨s, hs, hm⟩; rw [hs, (isUsed_iff s).mp hm]
  · intro h; exact ⟨_, h, rfl⟩

theorem mark_total (fixed : Bool) (h : Heap) (roots : List Nat) : ∃ h', h.mark fixed roots = some h' := by
  unfold Heap.mark
  obtain ⟨r, hr⟩ := markLoop_fuel Heap.isUsed GcState.used (h.children fixed) rfl
    (Heap.markFuel fixed h roots) roots h.gc (by
      have := weight_le_total Heap.isUsed (h.children fixed) h.gc
      unfold Heap.markFuel Heap.totalRefs
      omega)
  exact ⟨_, by rw [hr]; rfl⟩

structure MarkSpec (fixed : Bool) (h : Heap) (roots : List Nat) (h' : Heap) : Prop where
  chunk : h'.chunk = h.chunk
  cells : h'.cells = h.cells
  free : h'.free = h.free
  symtab : h'.symtab = h.symtab
  gcsize : h'.gc.size = h.gc.size
  /-- T03.1: marked = reachable -/
  used_iff : ∀ x : Nat, h'.gc[x]? = some GcState.used ↔ Reachable fixed h roots x
  frame : ∀ x : Nat, h'.gc[x]? = h.gc[x]? ∨ (h'.gc[x]? = some GcState.used ∧ x < h.gc.size)
  closed : ∀ x : Nat, h'.gc[x]? = some GcState.used → ∀ y ∈ h.children fixed x, y < h.gc.size →
    h'.gc[y]? = some GcState.used

theorem mark_spec (fixed : Bool) (h : Heap) (roots : List Nat) (h' : Heap)
    (hnu : ∀ i : Nat, h.gc[i]? ≠ some GcState.used) (hm : h.mark fixed roots = some h') :
    MarkSpec fixed h roots h' := by
  unfold Heap.mark at hm
  cases hl : markLoop Heap.isUsed GcState.used (h.children fixed) (Heap.markFuel fixed h roots) roots h.gc with
  | none => rw [hl] at hm; cases hm
  | some g =>
    rw [hl] at hm
    simp only [Option.map_some, Option.some.injEq] at hm
    subst hm
    have h0 : ∀ x, ¬ Marked Heap.isUsed h.gc x := by
      intro x hx; exact hnu x ((marked_iff _ _).mp hx)
    have hsz := markLoop_size _ _ _ _ _ _ _ hl
    refine ⟨rfl, rfl, rfl, rfl, hsz, ?_, ?_, ?_⟩
    · intro x
      rw [← marked_iff]
      exact markLoop_exact Heap.isUsed GcState.used (h.children fixed) rfl _ _ _ _ hl h0 x
    · intro x
      rcases markLoop_frame _ _ _ _ _ _ _ hl x with h1 | ⟨h1, _, h3⟩
      · exact Or.inl h1
      · exact Or.inr ⟨h1, h3⟩
    · intro x hx y hy hlt
      obtain ⟨_, _, h3⟩ := markLoop_complete Heap.isUsed GcState.used (h.children fixed) rfl _ _ _ _ hl
        (by intro x hx; exact absurd hx (h0 x))
      rcases h3 x ((marked_iff _ _).mpr hx) y hy (by rw [hsz]; exact hlt) with h4 | h4
      · exact (marked_iff _ _).mp h4
      · simp at h4

open Classical

/-- extensional description of `mark roots; sweep` -/
structure CollectSpec (fixed : Bool) (h : Heap) (roots : List Nat) (h' : Heap) : Prop where
  chunk : h'.chunk = h.chunk
  gcsize : h'.gc.size = h.gc.size
  csize : h'.cells.size = h.cells.size
  gc_reach : ∀ x : Nat, Reachable fixed h roots x → h'.gc[x]? = some GcState.allocated
  gc_unreach : ∀ x : Nat, x < h.gc.size → ¬ Reachable fixed h roots x → h'.gc[x]? = some GcState.free
  cells_reach : ∀ x : Nat, Reachable fixed h roots x → h'.cells[x]? = h.cells[x]?
  cells_unreach : ∀ x : Nat, ¬ Reachable fixed h roots x →
    h'.cells[x]? = if h.gc[x]? = some GcState.allocated then some VCell.undefined else h.cells[x]?
  free : h'.free = ((List.range h.cells.size).filter fun j =>
      h.gc[j]? = some GcState.allocated ∧ ¬ Reachable fixed h roots j).reverse ++ h.free
  sym : ∀ name, h'.symLookup name =
    if ∃ j : Nat, h.gc[j]? = some GcState.allocated ∧ ¬ Reachable fixed h roots j ∧
        h.cells[j]? = some (VCell.symbol name) then none
    else h.symLookup name

theorem collect_spec (fixed : Bool) (h : Heap) (roots : List Nat)
    (hsz : h.gc.size = h.cells.size) (hnu : ∀ i : Nat, h.gc[i]? ≠ some GcState.used) :
    ∃ h1 h2, h.mark fixed roots = some h1 ∧ h1.sweep = .ok h2 ∧ CollectSpec fixed h roots h2 := by
  obtain ⟨h1, hm⟩ := mark_total fixed h roots
  have ms := mark_spec fixed h roots h1 hnu hm
  obtain ⟨h2, hs, ss⟩ := sweep_spec h1 (by rw [ms.gcsize, ms.cells]; exact hsz)
  refine ⟨h1, h2, hm, hs, ?_⟩
  -- state of a cell after marking
  have hstate : ∀ x : Nat, h1.gc[x]? = if Reachable fixed h roots x then some GcState.used else h.gc[x]? := by
    intro x
    split
    · next hr => exact (ms.used_iff x).mpr hr
    · next hr =>
      rcases ms.frame x with h3 | ⟨h3, _⟩
      · exact h3
      · exact absurd ((ms.used_iff x).mp h3) hr
  have halloc : ∀ x : Nat, h1.gc[x]? = some GcState.allocated ↔
      (h.gc[x]? = some GcState.allocated ∧ ¬ Reachable fixed h roots x) := by
    intro x
    rw [hstate x]
    split
    · next hr => exact ⟨fun e => (by cases e), fun e => absurd hr e.2⟩
    · next hr => exact ⟨fun e => ⟨e, hr⟩, fun e => e.1⟩
  have hua : ¬ some GcState.used = some GcState.allocated := by decide
  refine ⟨by rw [ss.chunk, ms.chunk], by rw [ss.gcsize, ms.gcsize], by rw [ss.csize, ms.cells], ?_, ?_, ?_,
    ?_, ?_, ?_⟩
  · intro x hr
    rw [ss.gc x, hstate x, if_pos hr]; rfl
  · intro x hx hr
    rw [ss.gc x, hstate x, if_neg hr, Array.getElem?_eq_getElem hx]
    have hne : h.gc[x] ≠ GcState.used := fun e => hnu x (by rw [Array.getElem?_eq_getElem hx, e])
    cases hg : h.gc[x] with
    | used => exact absurd hg hne
    | _ => rfl
  · intro x hr
    rw [ss.cells x, hstate x, if_pos hr, if_neg hua, ms.cells]
  · intro x hr
    rw [ss.cells x, hstate x, if_neg hr, ms.cells]
  · rw [ss.free, ms.free, ms.cells]
    congr 2
    apply List.filter_congr
    intro j _
    simp only [decide_eq_decide]
    exact halloc j
  · intro name
    rw [ss.sym name, Heap.symLookup, ms.symtab]
    refine ite_congr (propext ⟨?_, ?_⟩) (fun _ => rfl) (fun _ => rfl)
    · rintro ⟨j, h3, h4⟩
      exact ⟨j, ((halloc j).mp h3).1, ((halloc j).mp h3).2, by rw [← ms.cells]; exact h4⟩
    · rintro ⟨j, h3, h4, h5⟩
      exact ⟨j, (halloc j).mpr ⟨h3, h4⟩, by rw [ms.cells]; exact h5⟩

theorem runGc_inv (fixed force : Bool) (h : Heap) (r : Roots) (res : Heap.GcResult)
    (hr : Heap.runGc fixed force h r = .ok res) :
    (res = .skipped h) ∨ (res = .fuelExhausted ∧ h.mark fixed (r.refs fixed) = none) ∨
    ∃ h1 h2 h', res = .collected h' ∧ h.mark fixed (r.refs fixed) = some h1 ∧ h1.sweep = .ok h2 ∧
      (h' = h2 ∨ h2.grow = .ok h') := by
  -- one `split` per step of `run_gc`: used size, utilisation test, mark, sweep, used size, growth test, grow
  simp only [Heap.runGc, bind, Except.bind, pure, Except.pure] at hr
  split at hr
  · cases hr
  · split at hr
    · exact Or.inl (Except.ok.inj hr).symm
    · split at hr
      · next hmk => exact Or.inr (Or.inl ⟨(Except.ok.inj hr).symm, hmk⟩)
      · next h1 hmk =>
        split at hr
        · cases hr
        · next h2 hsw =>
          split at hr
          · cases hr
          · split at hr
            · split at hr
              · cases hr
              · next h3 hg =>
                exact Or.inr (Or.inr ⟨h1, h2, h3, (Except.ok.inj hr).symm, hmk, hsw, Or.inr hg⟩)
            · exact Or.inr (Or.inr ⟨h1, h2, h2, (Except.ok.inj hr).symm, hmk, hsw, Or.inl rfl⟩)

theorem runGc_never_fuel (fixed force : Bool) (h : Heap) (r : Roots) :
    Heap.runGc fixed force h r ≠ .ok .fuelExhausted := by
  intro hr
  rcases runGc_inv fixed force h r _ hr with h1 | ⟨_, h2⟩ | ⟨_, _, _, h3, _⟩
  · cases h1
  · obtain ⟨h', hm⟩ := mark_total fixed h (r.refs fixed)
    rw [hm] at h2; cases h2
  · cases h3

theorem grow_get (h h' : Heap) (hsz : h.gc.size = h.cells.size) (g : GrowSpec h h') :
    (∀ x : Nat, x < h.cells.size → h'.cells[x]? = h.cells[x]? ∧ h'.gc[x]? = h.gc[x]?) ∧
    (∀ x : Nat, h.cells.size ≤ x → x < h'.cells.size →
      h'.cells[x]? = some VCell.undefined ∧ h'.gc[x]? = some GcState.free) ∧
    h'.gc.size = h'.cells.size := by
  refine ⟨fun x hx => ?_, fun x h1 h2 => ?_, ?_⟩
  · rw [g.cells, g.gc]
    exact ⟨Array.getElem?_append_left hx, Array.getElem?_append_left (hsz ▸ hx)⟩
  · have hlt : x - h.cells.size < h'.cells.size - h.cells.size := by omega
    rw [g.cells, g.gc, Array.getElem?_append_right h1, Array.getElem?_append_right (hsz ▸ h1),
      Array.getElem?_replicate, Array.getElem?_replicate, hsz, if_pos hlt, if_pos hlt]
    exact ⟨rfl, rfl⟩
  · rw [g.gc, Array.size_append, Array.size_replicate, hsz, Nat.add_sub_cancel' (Nat.le_of_lt g.lt)]

/-- extensional description of a whole collection including the optional growth step -/
structure GcSpec (fixed : Bool) (h : Heap) (roots : List Nat) (h' : Heap) : Prop where
  chunk : h'.chunk = h.chunk
  sizes : h'.gc.size = h'.cells.size
  size_le : h.cells.size ≤ h'.cells.size
  gc_reach : ∀ x : Nat, Reachable fixed h roots x → h'.gc[x]? = some GcState.allocated
  gc_unreach : ∀ x : Nat, x < h'.cells.size → ¬ Reachable fixed h roots x → h'.gc[x]? = some GcState.free
  cells_reach : ∀ x : Nat, Reachable fixed h roots x → h'.cells[x]? = h.cells[x]?
  sym : ∀ name, h'.symLookup name =
    if ∃ j : Nat, h.gc[j]? = some GcState.allocated ∧ ¬ Reachable fixed h roots j ∧
        h.cells[j]? = some (VCell.symbol name) then none
    else h.symLookup name

theorem CollectSpec.shape {fixed : Bool} {h h2 : Heap} {roots : List Nat}
    (cs : CollectSpec fixed h roots h2) (hs : Shape h) : Shape h2 := by
  obtain ⟨a, b, k, hk, hk2⟩ := hs
  exact ⟨cs.chunk ▸ a, cs.chunk ▸ b, k, hk, by rw [cs.csize, cs.chunk]; exact hk2⟩

theorem runGc_collected (fixed force : Bool) (h : Heap) (r : Roots) (h' : Heap)
    (hsz : h.gc.size = h.cells.size) (hnu : ∀ i : Nat, h.gc[i]? ≠ some GcState.used) (hs : Shape h)
    (hr : Heap.runGc fixed force h r = .ok (.collected h')) :
    ∃ h2, CollectSpec fixed h (r.refs fixed) h2 ∧ (h' = h2 ∨ GrowSpec h2 h' ∧ Shape h') := by
  rcases runGc_inv fixed force h r _ hr with h1 | ⟨h1, _⟩ | ⟨h1, h2, h'', he, hm, hsw, hg⟩
  · cases h1
  · cases h1
  · cases he
    obtain ⟨k1, k2, hm', hsw', cs⟩ := collect_spec fixed h (r.refs fixed) hsz hnu
    rw [hm] at hm'; cases hm'
    rw [hsw] at hsw'; cases hsw'
    refine ⟨h2, cs, hg.imp id fun hg => ?_⟩
    obtain ⟨h3, hg3, gs, hs3⟩ := grow_spec h2 (by rw [cs.gcsize, cs.csize, hsz]) (cs.shape hs)
    rw [hg] at hg3; cases hg3
    exact ⟨gs, hs3⟩

theorem runGc_spec (fixed force : Bool) (h : Heap) (r : Roots) (h' : Heap)
    (hsz : h.gc.size = h.cells.size) (hnu : ∀ i : Nat, h.gc[i]? ≠ some GcState.used) (hs : Shape h)
    (hr : Heap.runGc fixed force h r = .ok (.collected h')) :
    GcSpec fixed h (r.refs fixed) h' := by
  obtain ⟨h2, cs, hg⟩ := runGc_collected fixed force h r h' hsz hnu hs hr
  have hsz2 : h2.gc.size = h2.cells.size := by rw [cs.gcsize, cs.csize, hsz]
  have hlt : ∀ x, Reachable fixed h (r.refs fixed) x → x < h2.cells.size := by
    intro x hx; rw [cs.csize, ← hsz]; exact reach_lt _ hx
  rcases hg with hg | ⟨gs, _⟩
  · subst hg
    exact ⟨cs.chunk, hsz2, Nat.le_of_eq cs.csize.symm, cs.gc_reach,
      fun x hx => cs.gc_unreach x (by rw [hsz, ← cs.csize]; exact hx), cs.cells_reach, cs.sym⟩
  · obtain ⟨g1, g2, g3⟩ := grow_get h2 h' hsz2 gs
    refine ⟨by rw [gs.chunk, cs.chunk], g3, cs.csize ▸ Nat.le_of_lt gs.lt, ?_, ?_, ?_, ?_⟩
    · intro x hx
      rw [(g1 x (hlt x hx)).2]; exact cs.gc_reach x hx
    · intro x hx hnr
      by_cases hx2 : x < h2.cells.size
      · rw [(g1 x hx2).2]; exact cs.gc_unreach x (by rw [hsz, ← cs.csize]; exact hx2) hnr
      · exact (g2 x (Nat.le_of_not_lt hx2) hx).2
    · intro x hx
      rw [(g1 x (hlt x hx)).1]; exact cs.cells_reach x hx
    · intro name
      rw [Heap.symLookup, gs.symtab]; exact cs.sym name

end Marwood.Lemmas.GcSafety
