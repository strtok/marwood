import Marwood.Lemmas.GoodDefs
import Marwood.Lemmas.HeapWFOps
import Marwood.Lemmas.MachineAllocRel
/-!
# `Safe` as an invariant: allocation (`put`, `maybe_put`, fresh cells) preserves the heap invariant `HG`

The concrete allocator (`calloc` / `cput` / `putNew` of Vm/ConcreteHeap.lean) commutes with the erasure onto
the C03 heap model (`toHeap`), so T03.3 (`Lemmas/HeapWFOps.lean`: `putNew_wf`) carries `WFHeap` across; the
kind / code / environment disciplines are read off `calloc_spec`.
-/
namespace Marwood.Lemmas.Good
open Marwood Marwood.Vm Marwood.Vm.Concrete Marwood.Lemmas.Sim
open Marwood.Heap (GcState WFHeap RootsOk vrefs vrefsList crefs)
open Marwood.Lemmas.HeapWFOps (RefsOk VCell.isSymbol putNew_nonsym putNew_wf PutFacts)

theorem grownSize_mod4 {chunk : Nat} (h4 : chunk % 4 = 0) (cur : Nat) : Heap.Heap.grownSize chunk cur % 4 = 0 := by
  unfold Heap.Heap.grownSize
  rw [Nat.mul_mod, h4]; simp

theorem toHeap_grow {h : CHeap} (inv : HInv h) : (toHeap h).grow = .ok (toHeap (cgrow h)) := by
  obtain ⟨hc, h4, k, hk, hsize⟩ := inv.shape
  have hgt := Lemmas.HeapOps.grownSize_gt h.chunk k hc hk
  rw [← hsize] at hgt
  have hm := grownSize_mod4 h4 h.cells.size
  have hle : h.cells.size ≤ Heap.Heap.grownSize h.chunk h.cells.size := Nat.le_of_lt hgt
  unfold Heap.Heap.grow
  simp only [toHeap, Array.size_map, inv.sizes, Nat.ne_of_gt hc, hm, hle, if_true, if_false, ne_eq, not_true_eq_false, cgrow]
  simp [eraseC, eraseV]

theorem toHeap_takeFree {h : CHeap} (inv : HInv h) {p : Nat} {rest : List Nat} (hf : h.free = p :: rest) :
    Heap.Heap.setState { toHeap h with free := rest } p .allocated = .ok (toHeap (takeFree h p rest).1) := by
  have hp : h.gc[p]? = some GcState.free := (inv.free_iff p).mp (by rw [hf]; simp)
  have hplt : p < h.gc.size := lt_of_get_some hp
  simp [Heap.Heap.setState, toHeap, takeFree, hplt]

theorem toHeap_alloc {h : CHeap} (inv : HInv h) : (toHeap h).alloc = .ok (toHeap (calloc h).1, (calloc h).2) := by
  unfold Heap.Heap.alloc calloc
  cases hf : h.free with
  | cons p rest =>
    have : (toHeap h).free = p :: rest := hf
    simp only [this]
    rw [toHeap_takeFree inv hf]; rfl
  | nil =>
    have : (toHeap h).free = [] := hf
    simp only [this, toHeap_grow inv]
    have gs := cgrow_spec h inv
    cases hgf : (cgrow h).free with
    | nil =>
      exfalso
      have h1 := gs.free
      have hlt := gs.lt
      rw [hgf, hf] at h1
      have hl := congrArg List.length h1
      simp at hl
      omega
    | cons p rest =>
      have : (toHeap (cgrow h)).free = p :: rest := hgf
      simp only [bind, Except.bind, this]
      rw [toHeap_takeFree gs.inv hgf]; rfl

theorem toHeap_write {h : CHeap} {p : Nat} (hp : p < h.cells.size) (c : CCell) :
    (toHeap h).write p (eraseC c) = .ok (toHeap (cwrite h p c)) := by
  simp [Heap.Heap.write, toHeap, cwrite, hp, Array.map_setIfInBounds]

theorem toHeap_cput {h : CHeap} (inv : HInv h) (c : CCell) (hns : ¬ VCell.isSymbol (eraseC c)) :
    (toHeap h).putNew (eraseC c) = .ok (toHeap (cput h c).1, .ptr (cput h c).2) := by
  rw [putNew_nonsym _ _ hns, toHeap_alloc inv]
  simp only [bind, Except.bind]
  rw [toHeap_write (calloc_spec h inv).p_lt]; rfl

theorem eraseV_sym {v : VCell} {name : Text} (hs : symOf v = some name) : eraseV v = .symbol name := by
  obtain ⟨tag, rfl, ht⟩ := symOf_some hs
  simp [eraseV, ht]

theorem eraseV_nonsym {v : VCell} (hs : symOf v = none) : ¬ VCell.isSymbol (eraseV v) := by
  cases v with
  | «opaque» tag =>
    simp only [symOf] at hs
    simp [eraseV, hs, VCell.isSymbol]
  | _ => simp [eraseV, VCell.isSymbol]

theorem toHeap_putNew {h : CHeap} (inv : HInv h) (v : VCell) :
    (toHeap h).putNew (eraseV v) = .ok (toHeap (putNew h v).1, eraseV (putNew h v).2) := by
  cases hs : symOf v with
  | none =>
    have := toHeap_cput inv (.val v) (eraseV_nonsym hs)
    simp only [putNew, hs]
    exact this
  | some name =>
    have he := eraseV_sym hs
    have hl : (toHeap h).symLookup name = symLookup h name := rfl
    simp only [putNew, hs]
    rw [he]
    simp only [Heap.Heap.putNew, hl]
    cases hk : symLookup h name with
    | some p => rfl
    | none =>
      simp only [toHeap_alloc inv, bind, Except.bind]
      have hw := toHeap_write (calloc_spec h inv).p_lt (.val v)
      simp only [eraseC, he] at hw
      rw [hw]; rfl

theorem cput_size (h : CHeap) (c : CCell) : h.cells.size ≤ (cput h c).1.cells.size := by
  simp only [cput, cwrite, Array.size_setIfInBounds]; exact (calloc_allocd h).size_le
theorem size_rel : AllocRel fun h h' _ => h.cells.size ≤ h'.cells.size where
  refl _ := Nat.le_refl _
  trans := Nat.le_trans
  mono x _ := x
  cputVal h _ := cput_size h _
  cputEnv h _ := cput_size h _
  envWrite _ _ := by simp only [cwrite, Array.size_setIfInBounds]; exact Nat.le_refl _
  symtab _ _ := Nat.le_refl _
theorem putNew_size (h : CHeap) (v : VCell) : h.cells.size ≤ (putNew h v).1.cells.size := size_rel.putNew h v
theorem putV_size (h : CHeap) (v : VCell) : h.cells.size ≤ (putV h v).1.cells.size := size_rel.putV h v
theorem maybePutV_size (h : CHeap) (v : VCell) : h.cells.size ≤ (maybePutV h v).1.cells.size := size_rel.maybePutV h v

theorem Small.grown {h : CHeap} (sm : Small h) (inv : HInv h) :
    Heap.Heap.grownSize (toHeap h).chunk (toHeap h).cells.size ≤ 2 ^ 63 := by
  obtain ⟨hc, _, k, hk, hsize⟩ := inv.shape
  unfold Small at sm
  simp only [toHeap, Array.size_map]
  unfold Heap.Heap.grownSize
  rw [hsize, Nat.mul_div_cancel _ hc]
  have h1 : (3 * k + 1) / 2 ≤ 2 * k := by omega
  have h2 := Nat.mul_le_mul_right h.chunk h1
  rw [Nat.mul_assoc, ← hsize] at h2
  omega

inductive NewCell (h : CHeap) : CCell → Prop
  | val {v : VCell} : plainVal v = true → symOf v = none → NewCell h (.val v)
  | lexEnv {ss : List VCell} : (∀ v ∈ ss, SlotOk h v) → NewCell h (.lexEnv ss)
  | cont {k : Cont} : k.stack.sp < k.stack.cells.length → NewCell h (.cont k)

structure PutRes (h h' : CHeap) (p : Nat) (c : CCell) : Prop where
  hg : HG h'
  mono : Mono h h'
  nf : (toHeap h').NonFree p
  cell : h'.cells[p]? = some c
  old : ∀ i c0, h.cells[i]? = some c0 → i ≠ p → h'.cells[i]? = some c0
  fresh : h.cells[p]? = some (CCell.val .undefined) ∨ h.cells.size ≤ p
  globals : h'.globals = h.globals
  globSyms : h'.globSyms = h.globSyms

def CellOk (h : CHeap) : CCell → Prop
  | .val v => plainVal v = true
  | .lexEnv ss => ∀ v ∈ ss, SlotOk h v
  | .vector _ => True
  | .lambda l => LamOk l
  | .cont k => k.stack.sp < k.stack.cells.length

theorem NewCell.ok {h : CHeap} {c : CCell} (hn : NewCell h c) : CellOk h c := by
  cases hn with
  | val h1 _ => exact h1
  | lexEnv h1 => exact h1
  | cont h1 => exact h1

theorem NewCell.nonsym {h : CHeap} {c : CCell} (hn : NewCell h c) : ¬ VCell.isSymbol (eraseC c) := by
  cases hn with
  | val _ h2 => exact eraseV_nonsym h2
  | lexEnv _ => simp [eraseC, VCell.isSymbol]
  | cont _ => simp [eraseC, VCell.isSymbol]

theorem eraseC_undef {c : CCell} (h : eraseC c = Heap.VCell.undefined) : c = .val .undefined := by
  cases c with
  | val v =>
    cases v with
    | «opaque» tag =>
      simp only [eraseC, eraseV] at h
      split at h
      · cases h
      · exfalso
        simp only [atomOfTag] at h
        split at h <;> cases h
    | undefined => rfl
    | _ => simp [eraseC, eraseV] at h
  | _ => simp [eraseC] at h

theorem slot_of_old {h h' : CHeap} {p : Nat}
    (old : ∀ i c0, h.cells[i]? = some c0 → i ≠ p → h'.cells[i]? = some c0)
    (fresh : h.cells[p]? = some (CCell.val .undefined) ∨ h.cells.size ≤ p) {v : VCell} (x : SlotOk h v) :
    SlotOk h' v := by
  rcases x with x | ⟨e, k, ss, w, rfl, hc, hk, hw⟩
  · exact .inl x
  · refine .inr ⟨e, k, ss, w, rfl, old e _ hc ?_, hk, hw⟩
    rintro rfl
    rcases fresh with f | f
    · rw [hc] at f; cases f
    · have := lt_of_get_some hc; omega

theorem hg_of_cells {h h' : CHeap} (g : HG h) {c : CCell} (ok : CellOk h c)
    (wf' : WFHeap true (toHeap h'))
    (cells : ∀ (i : Nat) c1, h'.cells[i]? = some c1 → c1 = c ∨ h.cells[i]? = some c1 ∨ c1 = CCell.val .undefined)
    (slot : ∀ v, SlotOk h v → SlotOk h' v)
    (globals : h'.globals = h.globals) : HG h' := by
  refine ⟨wf', ⟨?_, ?_, ?_⟩, ?_, ?_⟩
  · intro i v hc
    rcases cells i _ hc with e | e | e
    · subst e; exact ok
    · exact g.plain.cells i v e
    · cases e; rfl
  · rw [globals]; exact g.plain.globals
  · intro i k hc
    rcases cells i _ hc with e | e | e
    · subst e; exact ok
    · exact g.plain.conts i k e
    · cases e
  · intro i l hc
    rcases cells i _ hc with e | e | e
    · subst e; exact ok
    · exact g.lam i l e
    · cases e
  · intro i ss hc v hv
    rcases cells i _ hc with e | e | e
    · subst e; exact slot v (ok v hv)
    · exact slot v (g.env i ss e v hv)
    · cases e

theorem put_core {h h' : CHeap} (g : HG h) {c : CCell} (ok : CellOk h c) (hr : CRefsOk h c) (sm : Small h')
    (hcells : h'.cells = (cput h c).1.cells) (hglob : h'.globals = h.globals) (hgs : h'.globSyms = h.globSyms)
    (hput : (toHeap h).putNew (eraseC c) = .ok (toHeap h', .ptr (cput h c).2)) :
    PutRes h h' (cput h c).2 c := by
  have inv := HInv.of_wf g.wf
  have a := calloc_spec h inv
  have hsz : h.cells.size ≤ h'.cells.size := by rw [hcells]; exact cput_size h c
  obtain ⟨wf', pf⟩ := putNew_wf true (toHeap h) _ (eraseC c) _ g.wf hr ((sm.of_le hsz).grown inv) hput
  obtain ⟨q, hq, hnf, _⟩ := pf.result
  cases hq
  have hcell : ∀ i, h'.cells[i]? = if i = (calloc h).2 then some c else (calloc h).1.cells[i]? := by
    intro i
    rw [hcells]
    simp only [cput, cwrite]
    by_cases hi : i = (calloc h).2
    · subst hi; simp [a.p_lt]
    · simp [hi, Array.getElem?_setIfInBounds_ne (Ne.symm hi)]
  have old : ∀ i c0, h.cells[i]? = some c0 → i ≠ (cput h c).2 → h'.cells[i]? = some c0 := by
    intro i c0 hc hi
    have hi' : i ≠ (calloc h).2 := hi
    rw [hcell i, if_neg hi', a.cells_old i (lt_of_get_some hc)]; exact hc
  have fresh : h.cells[(cput h c).2]? = some (CCell.val .undefined) ∨ h.cells.size ≤ (cput h c).2 := by
    rcases a.p_fresh with h1 | h1
    · left
      have h2 := g.wf.free_undef _ ((g.wf.free_iff _).mp h1)
      rw [toHeap_cells_get] at h2
      show h.cells[(calloc h).2]? = _
      cases hc : h.cells[(calloc h).2]? with
      | none => rw [hc] at h2; cases h2
      | some c0 =>
        rw [hc] at h2
        simp only [Option.map_some, Option.some.injEq] at h2
        rw [eraseC_undef h2]
    · exact .inr h1
  refine ⟨?_, ⟨hsz, fun y hy => (pf.keep y hy).1⟩, hnf, by rw [hcell]; simp [cput], old, fresh, hglob, hgs⟩
  refine hg_of_cells g ok wf' ?_ (fun _ => slot_of_old old fresh) hglob
  intro i c1 hc
  rw [hcell i] at hc
  by_cases hi : i = (calloc h).2
  · rw [if_pos hi] at hc; cases hc; exact .inl rfl
  · rw [if_neg hi] at hc
    by_cases hlt : i < h.cells.size
    · rw [a.cells_old i hlt] at hc; exact .inr (.inl hc)
    · rw [a.cells_new i (by omega) (lt_of_get_some hc)] at hc
      cases hc; exact .inr (.inr rfl)

theorem cput_hg {h : CHeap} (g : HG h) {c : CCell} (hr : CRefsOk h c) (hn : NewCell h c)
    (sm : Small (cput h c).1) : PutRes h (cput h c).1 (cput h c).2 c :=
  put_core g hn.ok hr sm rfl (calloc_spec h (HInv.of_wf g.wf)).globals (calloc_spec h (HInv.of_wf g.wf)).globSyms
    (toHeap_cput (HInv.of_wf g.wf) c hn.nonsym)

theorem PutRes.slot {h h' : CHeap} {p : Nat} {c : CCell} (r : PutRes h h' p c) {v : VCell} (x : SlotOk h v) :
    SlotOk h' v := slot_of_old r.old r.fresh x

structure PutVRes (h h' : CHeap) (r : VCell) : Prop where
  hg : HG h'
  mono : Mono h h'
  res : VOk h' r
  globals : h'.globals = h.globals
  globSyms : h'.globSyms = h.globSyms

theorem PutVRes.refl {h : CHeap} (g : HG h) {v : VCell} (x : VOk h v) : PutVRes h h v :=
  ⟨g, .refl h, x, rfl, rfl⟩

theorem PutRes.putV {h h' : CHeap} {p : Nat} {c : CCell} (r : PutRes h h' p c) : PutVRes h h' (.ptr p) :=
  ⟨r.hg, r.mono, .ptr (.inl r.nf), r.globals, r.globSyms⟩

theorem putNew_hg {h : CHeap} (g : HG h) {v : VCell} (hr : VRefsOk h v) (hp : plainVal v = true)
    (sm : Small (putNew h v).1) : PutVRes h (putNew h v).1 (putNew h v).2 ∧ ∃ a, (putNew h v).2 = .ptr a := by
  have inv := HInv.of_wf g.wf
  have a := calloc_spec h inv
  cases hs : symOf v with
  | none =>
    have e : putNew h v = ((cput h (.val v)).1, .ptr (cput h (.val v)).2) := by simp only [putNew, hs]
    rw [e] at sm ⊢
    exact ⟨(cput_hg g (.val hr) (.val hp hs) sm).putV, _, rfl⟩
  | some name =>
    cases hk : symLookup h name with
    | some p =>
      have e : putNew h v = (h, .ptr p) := by simp only [putNew, hs, hk]
      rw [e]
      have hl : (toHeap h).symLookup name = some p := hk
      exact ⟨.refl g (.ptr (.inl ((g.wf.interned name p).mp hl).2)), _, rfl⟩
    | none =>
      have hput := toHeap_putNew inv v
      have e : putNew h v = ({ (cput h (.val v)).1 with
          symtab := Heap.Heap.symInsert (cput h (.val v)).1.symtab name (cput h (.val v)).2 },
          .ptr (cput h (.val v)).2) := by simp only [putNew, hs, hk]
      rw [e] at sm hput ⊢
      exact ⟨(put_core (c := .val v) g hp (.val hr) sm rfl a.globals a.globSyms hput).putV, _, rfl⟩

theorem putV_hg {h : CHeap} (g : HG h) {v : VCell} (hr : VRefsOk h v) (hp : plainVal v = true)
    (sm : Small (putV h v).1) : PutVRes h (putV h v).1 (putV h v).2 ∧ ∃ a, (putV h v).2 = .ptr a := by
  unfold putV at sm ⊢
  split
  · rename_i hi
    cases v <;> simp [isPtr] at hi
    exact ⟨.refl g ⟨rfl, hr⟩, _, rfl⟩
  · rename_i hi
    rw [if_neg hi] at sm
    exact putNew_hg g hr hp sm

theorem immediate_addrFree {v : VCell} (hi : immediate v = true) : addrFree v = true := by
  cases v <;> first | rfl | simp [immediate] at hi

theorem maybePutV_hg {h : CHeap} (g : HG h) {v : VCell} (hr : VRefsOk h v) (hp : plainVal v = true)
    (sm : Small (maybePutV h v).1) : PutVRes h (maybePutV h v).1 (maybePutV h v).2 := by
  unfold maybePutV at sm ⊢
  split
  · rename_i hi
    rcases Bool.or_eq_true _ _ ▸ hi with h1 | h1
    · cases v <;> simp [isPtr] at h1
      exact .refl g ⟨rfl, hr⟩
    · exact .refl g (.of_addrFree h (immediate_addrFree h1))
  · rename_i hi
    rw [if_neg hi] at sm
    exact (putNew_hg g hr hp sm).1

end Marwood.Lemmas.Good
