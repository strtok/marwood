import Marwood.Lemmas.StoreMapMain
/-!
# Plans of the walk from the lengths of the lists

`m` is the length of the shortest list: if one of that length is proper the walk makes `m` calls and stops (`plan_ok`),
if all of that length are improper it makes `m` calls and runs into the tail (`plan_err`). The calls happen in list
order, so the first call that fails is the answer of `map` / `for-each` (`SameFailure`, `map_callee_fails`).
-/
namespace Marwood.Store
open Outcome

theorem columnsN_succ {m : Nat} {ass : List (List Nat)} (h : ass.any List.isEmpty = false) :
    columnsN (m + 1) ass = ass.map (·.headD 0) :: columnsN m (ass.map List.tail) := by
  simp only [columnsN, h, Bool.false_eq_true, if_false]

theorem any_isEmpty_false {m : Nat} {ass : List (List Nat)} (h : ∀ as ∈ ass, m + 1 ≤ as.length) :
    ass.any List.isEmpty = false := by
  induction ass with
  | nil => rfl
  | cons a rest ih =>
    rw [List.any_cons, Bool.or_eq_false_iff]
    refine ⟨?_, ih fun as ha => h as (List.mem_cons_of_mem _ ha)⟩
    have := h a (List.mem_cons_self ..)
    cases a with
    | nil => simp at this
    | cons _ _ => rfl

theorem tail_bound {m : Nat} {ass : List (List Nat)} (h : ∀ as ∈ ass, m + 1 ≤ as.length) :
    ∀ as ∈ ass.map List.tail, m ≤ as.length := by
  intro as ha
  obtain ⟨b, hb, rfl⟩ := List.mem_map.mp ha
  have := h b hb
  simp only [List.length_tail]; omega

theorem columnsN_length : ∀ {m : Nat} {ass : List (List Nat)}, (∀ as ∈ ass, m ≤ as.length) →
    (columnsN m ass).length = m
  | 0, _, _ => rfl
  | m+1, ass, h => by
    rw [columnsN_succ (any_isEmpty_false h), List.length_cons, columnsN_length (tail_bound h)]

theorem columnsN_get : ∀ {m : Nat} {ass : List (List Nat)} {j : Nat}, (∀ as ∈ ass, m ≤ as.length) →
    j < m → (columnsN m ass)[j]? = some (ass.map fun as => as[j]?.getD 0)
  | 0, _, _, _, hj => by omega
  | m+1, ass, j, h, hj => by
    rw [columnsN_succ (any_isEmpty_false h)]
    cases j with
    | zero =>
      rw [List.getElem?_cons_zero]
      congr 1
      apply List.map_congr_left
      intro as _
      cases as <;> rfl
    | succ j =>
      rw [List.getElem?_cons_succ, columnsN_get (tail_bound h) (by omega), List.map_map]
      congr 1
      apply List.map_congr_left
      intro as _
      cases as with
      | nil => rfl
      | cons a t => simp

def firsts (views : List (List Nat × VCell)) : List (List Nat) := views.map (·.1)

theorem firsts_tl (views : List (List Nat × VCell)) :
    firsts (views.map tl) = (firsts views).map List.tail := by
  simp [firsts, tl, List.map_map, Function.comp_def]

theorem map_hd (views : List (List Nat × VCell)) :
    views.map hd = (firsts views).map (·.headD 0) := by
  simp [firsts, hd, List.map_map, Function.comp_def]

theorem any_noPair (views : List (List Nat × VCell)) :
    views.any noPair = (firsts views).any List.isEmpty := by
  simp only [firsts, List.any_map, Function.comp_def]
  rfl

theorem mem_firsts {views : List (List Nat × VCell)} {v : List Nat × VCell} (h : v ∈ views) :
    v.1 ∈ firsts views := List.mem_map.mpr ⟨v, h, rfl⟩

theorem plan_succ {m : Nat} {views : List (List Nat × VCell)} {b : Bool}
    (hmin : ∀ v ∈ views, m + 1 ≤ v.1.length)
    (h : Plan (views.map tl) (columnsN m (firsts (views.map tl))) b) :
    Plan views (columnsN (m + 1) (firsts views)) b := by
  have hb : ∀ as ∈ firsts views, m + 1 ≤ as.length := by
    intro as ha
    obtain ⟨v, hv, rfl⟩ := List.mem_map.mp ha
    exact hmin v hv
  rw [columnsN_succ (any_isEmpty_false hb), ← map_hd, ← firsts_tl]
  exact .step (by rw [any_noPair]; exact any_isEmpty_false hb) h

theorem plan_ok : ∀ {m : Nat} {views : List (List Nat × VCell)},
    (∀ v ∈ views, m ≤ v.1.length) → (∃ v ∈ views, v.1.length = m ∧ v.2 = .nil) →
    Plan views (columnsN m (firsts views)) true
  | 0, views, _, hex => by
    obtain ⟨v, hv, hlen, hnil⟩ := hex
    refine .stop (List.any_eq_true.mpr ⟨v, hv, ?_⟩)
    obtain ⟨as, c⟩ := v
    simp only at hlen hnil
    cases as with
    | nil => subst hnil; rfl
    | cons _ _ => simp at hlen
  | m+1, views, hmin, hex => by
    refine plan_succ hmin (plan_ok ?_ ?_)
    · intro v hv
      obtain ⟨w, hw, rfl⟩ := List.mem_map.mp hv
      have := hmin w hw
      simp only [tl, List.length_tail]; omega
    · obtain ⟨v, hv, hlen, hnil⟩ := hex
      exact ⟨tl v, List.mem_map.mpr ⟨v, hv, rfl⟩, by simp only [tl, List.length_tail]; omega, hnil⟩

theorem plan_err : ∀ {m : Nat} {views : List (List Nat × VCell)},
    (∀ v ∈ views, m < v.1.length ∨ (v.1.length = m ∧ v.2.isNil = false)) →
    (∃ v ∈ views, v.1.length = m) → Plan views (columnsN m (firsts views)) false
  | 0, views, hall, hex => by
    refine .stuck ?_ ?_
    · rw [Bool.eq_false_iff]
      intro h
      obtain ⟨v, hv, he⟩ := List.any_eq_true.mp h
      unfold ended at he
      rw [Bool.and_eq_true] at he
      rcases hall v hv with h1 | ⟨_, h2⟩
      · have : v.1 ≠ [] := by intro h0; rw [h0] at h1; simp at h1
        cases hh : v.1 with
        | nil => exact this hh
        | cons _ _ => rw [hh] at he; simp at he
      · rw [h2] at he; exact Bool.false_ne_true he.2
    · obtain ⟨v, hv, hlen⟩ := hex
      refine List.any_eq_true.mpr ⟨v, hv, ?_⟩
      unfold noPair
      cases hh : v.1 with
      | nil => rfl
      | cons _ _ => rw [hh] at hlen; simp at hlen
  | m+1, views, hall, hex => by
    refine plan_succ (fun v hv => by rcases hall v hv with h | ⟨h, _⟩ <;> omega) (plan_err ?_ ?_)
    · intro v hv
      obtain ⟨w, hw, rfl⟩ := List.mem_map.mp hv
      simp only [tl, List.length_tail]
      rcases hall w hw with h | ⟨h, h2⟩
      · left; omega
      · right; exact ⟨by omega, h2⟩
    · obtain ⟨v, hv, hlen⟩ := hex
      exact ⟨tl v, List.mem_map.mpr ⟨v, hv, rfl⟩, by simp only [tl, List.length_tail]; omega⟩

theorem firsts_proper (ass : List (List Nat)) :
    firsts (ass.map fun as => (as, VCell.nil)) = ass := by
  simp [firsts, List.map_map, Function.comp_def]

/-- this, `mapCallee_cons`, `cons_extends`, `car_extends`: the `example`s of `Proofs/C14.lean` show with them that the
    law can be met -/
theorem mapCallee_car {s0 : Store} {tuples : List (List VCell)}
    (h : ∀ args ∈ tuples, ∃ w a d, args = [.ptr w] ∧ s0.cells[w]? = some (.pair a d)) :
    MapCallee car (fun _ => False) (Extends s0) tuples := by
  refine ⟨fun t t' h1 h2 => h1.trans h2, fun t args hI hm => ?_⟩
  obtain ⟨w, a, d, rfl, hc⟩ := h args hm
  exact ⟨t, .ptr a, car_ok (get_of_cell (hI.cell hc)), Keeps.refl _ t, hI⟩

theorem cons_extends (t : Store) (args : List VCell) (u : Store) (y : VCell)
    (h : cons t args = .ok (u, y)) : Extends t u := by
  match args, h with
  | [a, d], h =>
    obtain ⟨s', p, pa, pd, h1, _, _, _, h5, _⟩ := cons_boxed t a d
    rw [h1] at h; cases h; exact h5
  | [], h => simp [cons, consRaw, finish] at h
  | [_], h => simp [cons, consRaw, finish] at h
  | _ :: _ :: _ :: _, h => simp [cons, consRaw, finish] at h

theorem car_extends (t : Store) (args : List VCell) (u : Store) (y : VCell)
    (h : car t args = .ok (u, y)) : Extends t u := by
  unfold car at h
  split at h
  · cases hg : t.get _ with
    | ok c =>
      rw [hg, bind_ok] at h
      split at h
      · cases h; exact Extends.refl t
      · cases h
    | _ => rw [hg] at h; cases h
  · cases h

theorem mapCallee_cons {tuples : List (List VCell)} (h : ∀ args ∈ tuples, args.length = 2) :
    MapCallee cons (fun _ => False) (fun _ => True) tuples := by
  refine ⟨fun _ _ _ _ => trivial, fun t args _ hm => ?_⟩
  have hl := h args hm
  match args, hl with
  | [a, d], _ =>
    obtain ⟨s', p, pa, pd, h1, _, _, _, h5, _⟩ := cons_boxed t a d
    exact ⟨s', .ptr p, h1, h5.keeps _, trivial⟩

/-- the failure of a computation as the outcome of one that contains it: same error class, panic site, or divergence -/
def SameFailure {α β : Type} (o : Outcome α) (o' : Outcome β) : Prop :=
  (∀ x, o' ≠ .ok x) ∧ (∀ e, o = .err e → o' = .err e) ∧ (∀ m, o = .panic m → o' = .panic m) ∧
    (o = .diverge → o' = .diverge)

theorem sameFailure_bind {α β : Type} {o : Outcome α} (h : ∀ a, o ≠ .ok a) (k : α → Outcome β) :
    SameFailure o (o >>= k) := by
  cases o with
  | ok a => exact absurd rfl (h a)
  | err e =>
    exact ⟨fun _ h => (by cases h), fun _ h => (by cases h; rfl), fun _ h => (by cases h),
      fun h => (by cases h)⟩
  | panic m =>
    exact ⟨fun _ h => (by cases h), fun _ h => (by cases h), fun _ h => (by cases h; rfl),
      fun h => (by cases h)⟩
  | diverge =>
    exact ⟨fun _ h => (by cases h), fun _ h => (by cases h), fun _ h => (by cases h), fun _ => rfl⟩

theorem SameFailure.bind {α β γ : Type} {o : Outcome α} {o' : Outcome β} (h : SameFailure o o')
    (k : β → Outcome γ) : SameFailure o (o' >>= k) := by
  have h2 := sameFailure_bind h.1 k
  exact ⟨h2.1, fun e he => h2.2.1 e (h.2.1 e he), fun m he => h2.2.2.1 m (h.2.2.1 m he),
    fun he => h2.2.2.2 (h.2.2.2 he)⟩

/-- the calls before happen first, nothing after is attempted, and the end of the lists is not looked at before -/
theorem mapAll_callee_fails {g : Callee} {M : Nat → Prop} {I : Store → Prop}
    {views : List (List Nat × VCell)} {tuples : List (List Nat)} {b : Bool}
    (hp : Plan views tuples b) : ∀ {pre : List (List Nat)} {t : List Nat} {post : List (List Nat)}
    {s : Store} {xss : VCell} {ws : List Nat} {fuel : Nat}, tuples = pre ++ t :: post →
    SpineOff M s xss ws .nil → HeadsOff M s ws views → (∀ i, M i → i < s.cells.length) → I s →
    MapCallee g M I (argsOf pre) →
    (∀ st, I st → ∀ x, g st (t.map VCell.ptr) ≠ .ok x) →
    tuples.length + views.length + 2 ≤ fuel →
    ∃ st, I st ∧ SameFailure (g st (t.map VCell.ptr)) (mapAll g fuel s xss) ∧
      SameFailure (g st (t.map VCell.ptr)) (forEachAll g fuel s xss) := by
  induction hp with
  | stop _ => intro pre t post s xss ws fuel hs; cases pre <;> cases hs
  | stuck _ _ => intro pre t post s xss ws fuel hs; cases pre <;> cases hs
  | @step views tuples b hne _ ih =>
    intro pre t post s xss ws fuel hs hx hh hM hI hg hfail hfuel
    obtain ⟨f, rfl⟩ : ∃ f, fuel = f + 1 := ⟨fuel - 1, by omega⟩
    simp only [List.length_cons] at hfuel
    have hf : ws.length < f := by rw [hh.length]; omega
    cases pre with
    | nil =>
      simp only [List.nil_append, List.cons.injEq] at hs
      obtain ⟨rfl, rfl⟩ := hs
      obtain ⟨s1, x1, emap, efor⟩ := mapAll_pre (g := g) hx hh hne hf
      have hI1 := hg.grow s s1 hI x1
      refine ⟨s1, hI1, ?_, ?_⟩
      · rw [emap]; exact sameFailure_bind (hfail s1 hI1) _
      · rw [efor]; exact sameFailure_bind (hfail s1 hI1) _
    | cons p0 pre' =>
      simp only [List.cons_append, List.cons.injEq] at hs
      obtain ⟨rfl, hs'⟩ := hs
      obtain ⟨s1, u, y, s3, cdrs, ds, x1, hgu, hk, x3, hI3, hx3, hh3, emap, efor⟩ :=
        mapAll_step (g := g) (I := I) hx hh hM hne hf hI hg.grow
          (fun t ht => hg.call t _ ht (by rw [argsOf_cons]; exact List.mem_cons_self ..))
      have hlen3 : s.cells.length ≤ s3.cells.length :=
        Nat.le_trans x1.len (Nat.le_trans hk.len x3.len)
      obtain ⟨st, hIst, hm, hfe⟩ := ih (fuel := f) hs' hx3 hh3
        (fun i hi => Nat.lt_of_lt_of_le (hM i hi) hlen3) hI3 hg.tail hfail
        (by simp only [List.length_map]; omega)
      refine ⟨st, hIst, ?_, ?_⟩
      · rw [emap]; exact hm.bind _
      · rw [efor]; exact hfe.bind _

theorem map_callee_fails {g : Callee} {M : Nat → Prop} {I : Store → Prop} {s : Store} {xs : VCell}
    {rest : List VCell} {views : List (List Nat × VCell)} {tuples : List (List Nat)} {b : Bool}
    {fuel : Nat} {pre : List (List Nat)} {t : List Nat} {post : List (List Nat)}
    (hl : AllSpinesOff M s (xs :: rest) views) (hM : ∀ i, M i → i < s.cells.length)
    (hI : I s) (hp : Plan views tuples b) (hs : tuples = pre ++ t :: post)
    (hg : MapCallee g M I (argsOf pre))
    (hfail : ∀ st, I st → ∀ x, g st (t.map VCell.ptr) ≠ .ok x)
    (hfuel : tuples.length + (xs :: rest).length + 2 ≤ fuel) :
    ∃ st, I st ∧ SameFailure (g st (t.map VCell.ptr)) (map g fuel s (xs :: rest)) ∧
      SameFailure (g st (t.map VCell.ptr)) (forEach g fuel s (xs :: rest)) := by
  obtain ⟨s1, r0, s2, xss, ws, e1, e2, x2, hx, hh⟩ := map_prologue hl hM
  have hunf : map g fuel s (xs :: rest) = mapAll g fuel s2 xss := by
    simp only [map, e1, bind_ok, e2]
  have hunf2 : forEach g fuel s (xs :: rest) = forEachAll g fuel s2 xss := by
    simp only [forEach, e1, bind_ok, e2]
  rw [hunf, hunf2]
  exact mapAll_callee_fails (g := g) (I := I) hp hs hx hh
    (fun i hi => Nat.lt_of_lt_of_le (hM i hi) x2.len) (hg.grow s s2 hI x2) hg hfail
    (by rw [← hl.length]; exact hfuel)

theorem columnsN_single : ∀ (as : List Nat), columnsN as.length [as] = as.map fun a => [a]
  | [] => rfl
  | a :: as => by
    have : columnsN (as.length + 1) [a :: as] = [a] :: columnsN as.length [as] := rfl
    rw [List.length_cons, this, columnsN_single as]; rfl

end Marwood.Store
