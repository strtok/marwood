import Marwood.Lemmas.TransformDriver
/-!
# Fuel of the expansion driver, and what a quasiquote template keeps
-/
namespace Marwood.Transform
open Marwood Marwood.Spec.ExpandAll

inductive Sub : Datum → Datum → Prop
  | refl (d : Datum) : Sub d d
  | car {u a : Datum} (d : Datum) : Sub u a → Sub u (.pair a d)
  | cdr {u d : Datum} (a : Datum) : Sub u d → Sub u (.pair a d)
  | vec {u e : Datum} : Sub u e → Sub u (.vec e)

theorem Sub.trans {u d d' : Datum} (h1 : Sub u d) (h2 : Sub d d') : Sub u d' := by
  induction h2 with
  | refl => exact h1
  | car d _ ih => exact .car d ih
  | cdr a _ ih => exact .cdr a ih
  | vec _ ih => exact .vec ih

/-- while walking `d` the driver expands a use `(s . args)` occurring in `d`, and handing the expansion
    to `re` runs out of fuel -/
def Hit (M : MacroTable) (re : Datum → Res Datum) (d : Datum) : Prop :=
  ∃ s args t e, Sub (.pair (.sym s) args) d ∧ M.lookup s = some t ∧
    t.transform (useFuelT t (.pair (.sym s) args)) (.pair (.sym s) args) = .ok e ∧ re e = .fuel

theorem Hit.mono {M : MacroTable} {re : Datum → Res Datum} {d d' : Datum} (h : Sub d d')
    (hh : Hit M re d) : Hit M re d' := by
  obtain ⟨s, args, t, e, hs, hl, ht, hr⟩ := hh
  exact ⟨s, args, t, e, hs.trans h, hl, ht, hr⟩

/-- true for every accepted transformer (`C17.accepted_terminate`) -/
def TransformersTerminate (M : MacroTable) : Prop :=
  ∀ s t, M.lookup s = some t → ∀ u, t.transform (useFuelT t u) u ≠ .fuel

section
variable (M : MacroTable) (re : Datum → Res Datum)

theorem pairBind_fuel {x y : Res Datum} {g : Datum → Datum → Datum}
    (h : (x.bind fun a => y.bind fun b => .ok (g a b)) = .fuel) : x = .fuel ∨ y = .fuel := by
  rcases Res.bind_eq_fuel.mp h with h | ⟨a, _, h⟩
  · exact .inl h
  · rcases Res.bind_eq_fuel.mp h with h | ⟨b, _, h⟩
    · exact .inr h
    · cases h

theorem oneBind_fuel {x : Res Datum} {g : Datum → Datum} (h : (x.bind fun a => .ok (g a)) = .fuel) :
    x = .fuel := by
  rcases Res.bind_eq_fuel.mp h with h | ⟨a, _, h⟩
  · exact h
  · cases h

def FuelHit (d : Datum) : Prop :=
  (walk M re d = .fuel → Hit M re d) ∧ (walkList M re d = .fuel → Hit M re d) ∧
  (∀ k, walkQQ M re k d = .fuel → Hit M re d) ∧ (∀ k, walkQQSpine M re k d = .fuel → Hit M re d)

theorem fuelHit_all (hT : TransformersTerminate M) (d : Datum) : FuelHit M re d := by
  induction d using Datum.ind_cadr with
  | pair a r Fa Fr Fc =>
    have hlist : walkList M re (.pair a r) = .fuel → Hit M re (.pair a r) := by
      intro h
      rw [walkList] at h
      rcases pairBind_fuel h with h | h
      · exact (Fa.1 h).mono (.car r (.refl a))
      · exact (Fr.2.1 h).mono (.cdr a (.refl r))
    have hspine : ∀ k, walkQQSpine M re k (.pair a r) = .fuel → Hit M re (.pair a r) := by
      intro k h
      rw [walkQQSpine] at h
      rcases pairBind_fuel h with h | h
      · exact (Fa.2.2.1 k h).mono (.car r (.refl a))
      · exact (Fr.2.2.2 k h).mono (.cdr a (.refl r))
    refine ⟨?_, hlist, ?_, hspine⟩
    · rw [walk_pair]
      cases hk : pairKind M a r with
      | asIs => intro hw; cases hw
      | quasi tpl r' =>
        intro hw
        have hr := pairKind_quasi hk
        exact ((Fc tpl r' hr).2.2.1 0 (oneBind_fuel hw)).mono (.cdr a (hr ▸ .car r' (.refl tpl)))
      | use t =>
        intro hw
        obtain ⟨s, rfl, hl⟩ := pairKind_use hk
        rcases Res.bind_eq_fuel.mp hw with h | ⟨e, he, hre⟩
        · exact absurd h (hT s t hl _)
        · exact ⟨s, r, t, e, .refl _, hl, he, hre⟩
      | elems => exact hlist
    · intro k
      rw [walkQQ_pair]
      cases hk : qqKind a r k with
      | unquote0 e rest =>
        intro hw
        have hr := qqKind_unquote0 hk
        exact ((Fc e rest hr).1 (oneBind_fuel hw)).mono (.cdr a (hr ▸ .car rest (.refl e)))
      | unquote0Atom => intro hw; cases hw
      | elems k' _ => exact hspine k'
  | vec el Fe =>
    refine ⟨fun h => ?_, fun h => ?_, fun k h => ?_, fun k h => ?_⟩
    · rw [walk_nonpair M re rfl] at h; cases h
    · rw [walkList_nonpair M re rfl] at h; cases h
    · rw [walkQQ] at h; exact (Fe.2.2.2 k (oneBind_fuel h)).mono (.vec (.refl el))
    · rw [walkQQSpine_nonpair M re k rfl] at h; cases h
  | atom d h h' =>
    simp only [FuelHit, walk_nonpair M re h, walkList_nonpair M re h, walkQQ_atom M re _ h h',
      walkQQSpine_nonpair M re _ h, reduceCtorEq, false_imp_iff, implies_true, and_self]

end

/-- `n` nested expansions, each of a use that occurs in the expansion before -/
def ExpChain (M : MacroTable) : Nat → Datum → Prop
  | 0, _ => True
  | n + 1, d => ∃ s args t e, Sub (.pair (.sym s) args) d ∧ M.lookup s = some t ∧
      t.transform (useFuelT t (.pair (.sym s) args)) (.pair (.sym s) args) = .ok e ∧ ExpChain M n e

/-- **fuel runs out only along a chain of expansions** -/
theorem expandForm_fuel_chain (M : MacroTable) (hT : TransformersTerminate M) :
    ∀ (f : Nat) (d : Datum), expandForm M f d = .fuel → ExpChain M (f + 1) d := by
  intro f
  induction f with
  | zero =>
    intro d h
    obtain ⟨s, args, t, e, hs, hl, ht, _⟩ := (fuelHit_all M _ hT d).1 h
    exact ⟨s, args, t, e, hs, hl, ht, trivial⟩
  | succ f ih =>
    intro d h
    obtain ⟨s, args, t, e, hs, hl, ht, hr⟩ := (fuelHit_all M _ hT d).1 h
    exact ⟨s, args, t, e, hs, hl, ht, ih e hr⟩

/-- `x'` is `x` unless `x` ran out of fuel -/
def Le (x x' : Res Datum) : Prop := x ≠ .fuel → x' = x

theorem Le.refl (x : Res Datum) : Le x x := fun _ => rfl

theorem Le.bind {x x' : Res Datum} {f f' : Datum → Res Datum} (h : Le x x') (hf : ∀ a, Le (f a) (f' a)) :
    Le (x.bind f) (x'.bind f') := by
  intro hne
  cases x with
  | ok a => rw [h (by simp)]; exact hf a hne
  | err e => rw [h (by simp)]; rfl
  | panic s => rw [h (by simp)]; rfl
  | fuel => exact absurd rfl hne

theorem walk_le_all (M : MacroTable) (re re' : Datum → Res Datum) (hre : ∀ e, Le (re e) (re' e))
    (d : Datum) :
    Le (walk M re d) (walk M re' d) ∧ Le (walkList M re d) (walkList M re' d) ∧
    (∀ k, Le (walkQQ M re k d) (walkQQ M re' k d)) ∧
    (∀ k, Le (walkQQSpine M re k d) (walkQQSpine M re' k d)) := by
  induction d using Datum.ind_cadr with
  | pair a r iha ihr ihc =>
    have hlist : Le (walkList M re (.pair a r)) (walkList M re' (.pair a r)) := by
      rw [walkList, walkList]; exact Le.bind iha.1 fun _ => Le.bind ihr.2.1 fun _ => Le.refl _
    have hspine : ∀ k, Le (walkQQSpine M re k (.pair a r)) (walkQQSpine M re' k (.pair a r)) := by
      intro k
      rw [walkQQSpine, walkQQSpine]
      exact Le.bind (iha.2.2.1 k) fun _ => Le.bind (ihr.2.2.2 k) fun _ => Le.refl _
    refine ⟨?_, hlist, ?_, hspine⟩
    -- the kind of the pair does not depend on `re`
    · rw [walk_pair, walk_pair]
      cases hk : pairKind M a r with
      | asIs => exact Le.refl _
      | quasi tpl r' => exact Le.bind ((ihc tpl r' (pairKind_quasi hk)).2.2.1 0) fun _ => Le.refl _
      | use t => exact Le.bind (Le.refl _) hre
      | elems => exact hlist
    · intro k
      rw [walkQQ_pair, walkQQ_pair]
      cases hk : qqKind a r k with
      | unquote0 e rest => exact Le.bind (ihc e rest (qqKind_unquote0 hk)).1 fun _ => Le.refl _
      | unquote0Atom => exact Le.refl _
      | elems k' _ => exact hspine k'
  | vec e ih =>
    refine ⟨?_, ?_, fun k => ?_, fun k => ?_⟩
    · rw [walk_nonpair M re rfl, walk_nonpair M re' rfl]; exact Le.refl _
    · rw [walkList_nonpair M re rfl, walkList_nonpair M re' rfl]; exact Le.refl _
    · rw [walkQQ, walkQQ]; exact Le.bind (ih.2.2.2 k) fun _ => Le.refl _
    · rw [walkQQSpine_nonpair M re k rfl, walkQQSpine_nonpair M re' k rfl]; exact Le.refl _
  | atom d h h' =>
    simp only [walk_nonpair M _ h, walkList_nonpair M _ h, walkQQ_atom M _ _ h h',
      walkQQSpine_nonpair M _ _ h, Le.refl, implies_true, and_self]

/-- **fuel monotonicity** -/
theorem expandForm_mono (M : MacroTable) : ∀ (f : Nat) (d : Datum),
    expandForm M f d ≠ .fuel → expandForm M (f + 1) d = expandForm M f d := by
  intro f
  induction f with
  | zero =>
    intro d h
    exact (walk_le_all M _ _ (fun e h => absurd rfl h) d).1 h
  | succ f ih =>
    intro d h
    exact (walk_le_all M _ _ (fun e h => ih e h) d).1 h

def hole : Datum := .undefined

def maskUnq (a d : Datum) : Datum :=
  match d with
  | .pair _ rest => .pair a (.pair hole rest)
  | _ => .pair a d

mutual
/-- a template at depth `k` with every expression the driver transforms (`(unquote e . rest)` at
    depth 0, as an element) replaced by `hole` -/
def maskQQ : Nat → Datum → Datum
  | k, .vec e => .vec (maskSpine k e)
  | k, .pair a d =>
    if isUnquote a then
      match k with
      | 0 => maskUnq a d
      | m + 1 => .pair (maskQQ m a) (maskSpine m d)
    else if isQuasiquote a then .pair (maskQQ (k + 1) a) (maskSpine (k + 1) d)
    else .pair (maskQQ k a) (maskSpine k d)
  | _, d => d
def maskSpine : Nat → Datum → Datum
  | k, .pair x r => .pair (maskQQ k x) (maskSpine k r)
  | _, d => d
end

theorem qqKind_elems_congr {a a' d d' : Datum} {k k' : Nat} {kw : Bool} (h1 : isUnquote a' = isUnquote a)
    (h2 : isQuasiquote a' = isQuasiquote a) : qqKind a d k = .elems k' kw → qqKind a' d' k = .elems k' kw := by
  unfold qqKind
  rw [h1, h2]
  cases isUnquote a with
  | true =>
    cases k with
    | zero => cases d <;> (intro h; cases h)
    | succ m => exact id
  | false => exact id

theorem qqKind_unquote0_congr {a d e e' rest : Datum} {k : Nat} :
    qqKind a d k = .unquote0 e rest → qqKind a (.pair e' rest) k = .unquote0 e' rest := by
  unfold qqKind
  cases isUnquote a with
  | true =>
    cases k with
    | zero =>
      cases d with
      | pair x y => intro h; cases h; rfl
      | _ => intro h; cases h
    | succ m => intro h; cases h
  | false => cases isQuasiquote a <;> (intro h; cases h)

theorem maskQQ_pair (a d : Datum) (k : Nat) :
    maskQQ k (.pair a d) =
      match qqKind a d k with
      | .unquote0 _ rest => .pair a (.pair hole rest)
      | .unquote0Atom => .pair a d
      | .elems k' _ => maskSpine k' (.pair a d) := by
  have hs : ∀ k', Datum.pair (maskQQ k' a) (maskSpine k' d) = maskSpine k' (.pair a d) :=
    fun k' => by rw [maskSpine]
  unfold qqKind
  -- the equations of `maskQQ` on a pair are by depth
  cases k with
  | zero =>
    rw [maskQQ]
    cases isUnquote a with
    | true => cases d <;> rfl
    | false => cases isQuasiquote a <;> exact hs _
  | succ m =>
    rw [maskQQ]
    cases isUnquote a with
    | true => exact hs m
    | false => cases isQuasiquote a <;> exact hs _

section
variable (M : MacroTable) (re : Datum → Res Datum)

theorem walkQQSpine_pair_ok {a r e : Datum} {k : Nat} (h : walkQQSpine M re k (.pair a r) = .ok e) :
    ∃ a' r', e = .pair a' r' ∧ walkQQ M re k a = .ok a' ∧ walkQQSpine M re k r = .ok r' := by
  rw [walkQQSpine] at h
  obtain ⟨a', ha, h⟩ := Res.bind_eq_ok.mp h
  obtain ⟨r', hr, h⟩ := Res.bind_eq_ok.mp h
  cases h
  exact ⟨a', r', rfl, ha, hr⟩

theorem walkQQ_shape {k : Nat} {a a' : Datum} :
    walkQQ M re k a = .ok a' → isUnquote a' = isUnquote a ∧ isQuasiquote a' = isQuasiquote a := by
  cases a with
  | pair x y =>
    rw [walkQQ_pair]
    cases qqKind x y k with
    | unquote0 e rest => intro h; obtain ⟨e', _, h⟩ := Res.bind_eq_ok.mp h; cases h; exact ⟨rfl, rfl⟩
    | unquote0Atom => intro h; cases h; exact ⟨rfl, rfl⟩
    | elems k' kw => intro h; obtain ⟨x', y', rfl, _, _⟩ := walkQQSpine_pair_ok M re h; exact ⟨rfl, rfl⟩
  | vec el =>
    rw [walkQQ]
    intro h
    obtain ⟨e', _, h⟩ := Res.bind_eq_ok.mp h
    cases h
    exact ⟨rfl, rfl⟩
  | _ => intro h; cases h; exact ⟨rfl, rfl⟩

/-- **`transform_quasiquote` changes nothing but the expressions under a depth-0 `unquote`** -/
theorem walkQQ_mask (d : Datum) :
    (∀ k e, walkQQ M re k d = .ok e → maskQQ k e = maskQQ k d) ∧
    (∀ k e, walkQQSpine M re k d = .ok e → maskSpine k e = maskSpine k d) := by
  induction d with
  | pair a r iha ihr =>
    have hspine : ∀ k e, walkQQSpine M re k (.pair a r) = .ok e → maskSpine k e = maskSpine k (.pair a r) := by
      intro k e h
      obtain ⟨a', r', rfl, ha, hr⟩ := walkQQSpine_pair_ok M re h
      rw [maskSpine, maskSpine, iha.1 k a' ha, ihr.2 k r' hr]
    refine ⟨?_, hspine⟩
    intro k e
    rw [walkQQ_pair, maskQQ_pair a]
    cases hk : qqKind a r k with
    | unquote0 u rest =>
      intro h
      obtain ⟨u', _, h⟩ := Res.bind_eq_ok.mp h
      cases h
      rw [maskQQ_pair, qqKind_unquote0_congr hk]
    | unquote0Atom => intro h; cases h; rw [maskQQ_pair, hk]
    | elems k' kw =>
      intro h
      obtain ⟨a', r', rfl, ha, _⟩ := walkQQSpine_pair_ok M re h
      rw [maskQQ_pair, qqKind_elems_congr (walkQQ_shape M re ha).1 (walkQQ_shape M re ha).2 hk]
      exact hspine k' _ h
  | vec el ih =>
    refine ⟨?_, ?_⟩
    · intro k e h
      rw [walkQQ] at h
      obtain ⟨e', he, h⟩ := Res.bind_eq_ok.mp h
      cases h
      rw [maskQQ, maskQQ, ih.2 k e' he]
    · intro k e h
      rw [walkQQSpine_nonpair M re k rfl] at h; cases h; rfl
  | _ =>
    simp only [walkQQ, walkQQSpine, Res.ok.injEq]
    exact ⟨fun _ _ h => h ▸ rfl, fun _ _ h => h ▸ rfl⟩
end

end Marwood.Transform
