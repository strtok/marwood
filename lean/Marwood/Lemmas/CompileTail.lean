import Marwood.Spec.TailPos
import Marwood.Lemmas.CompileView
/-!
# The compiler emits TCALL exactly for the calls R7RS 3.5 puts in tail position (core forms)
-/
namespace Marwood.Vm
open Marwood Marwood.Spec

def callOp : BC → Option Bool
  | .op .callAcc => some false
  | .op .tcallAcc => some true
  | _ => none

/-- in order; `true` for TCALL, `false` for CALL -/
def callOps (bc : List BC) : List Bool := bc.filterMap callOp

@[simp] theorem callOps_nil : callOps [] = [] := rfl
@[simp] theorem callOps_append (a b : List BC) : callOps (a ++ b) = callOps a ++ callOps b := by
  simp [callOps]
@[simp] theorem callOps_cons (x : BC) (xs : List BC) :
    callOps (x :: xs) = (match callOp x with | some b => [b] | none => []) ++ callOps xs := by
  simp only [callOps, List.filterMap_cons]
  cases callOp x <;> simp

theorem callOps_consChain (n : Nat) : callOps (consChain n) = [] := by
  unfold consChain callOps
  rw [List.filterMap_eq_nil_iff]
  intro x hx
  rw [List.mem_flatMap] at hx
  obtain ⟨i, _, hi⟩ := hx
  split at hi <;> simp at hi <;> rcases hi with rfl | rfl <;> rfl

theorem callOps_storeCode (c : Ctx) (s : Text) : callOps (storeCode c s) = [] := by
  unfold storeCode emitLoc
  cases c.bindingLocation s <;> simp [callOp]

theorem callOps_finishLambda (st : CState) (p : LambdaParts) (code : List BC) :
    callOps (finishLambda st p code).2 = [] := by
  simp [finishLambda, callOp]

/-- `compileBody` is not among them: the code of a body goes into the table, not into the `code` returned; its
    statement (`C04.compile_body_tail_calls`) follows from `expr`. -/
structure TailOK (fuel : Nat) : Prop where
  expr : ∀ st c base tail e st' code, compileExpr fuel st c base tail e = .ok (st', code) →
    callOps code = tailCalls fuel tail e
  args : ∀ st c base rest st' code n, compileArgs fuel st c base rest = .ok (st', code, n) →
    callOps code = operandCalls fuel rest
  quasi : ∀ st c base e depth st' code, compileQuasi fuel st c base e depth = .ok (st', code) →
    callOps code = quasiCalls fuel e depth
  qvec : ∀ st c base elems depth st' code, quasiVec fuel st c base elems depth = .ok (st', code) →
    callOps code = quasiElems fuel elems depth
  qlist : ∀ st c base rest depth st' code count t,
    quasiList fuel st c base rest depth = .ok (st', code, count, t) →
    callOps code = quasiElems fuel rest depth

theorem tailOK_zero : TailOK 0 where
  expr := fun _ _ _ _ _ _ _ h => absurd h compileExpr_zero
  args := fun _ _ _ _ _ _ _ h => absurd h compileArgs_zero
  quasi := fun _ _ _ _ _ _ _ h => absurd h compileQuasi_zero
  qvec := fun _ _ _ _ _ _ _ h => absurd h quasiVec_zero
  qlist := fun _ _ _ _ _ _ _ _ _ h => absurd h quasiList_zero

theorem tailCalls_pair (fuel : Nat) (tail : Bool) (proc rest : Datum) :
    tailCalls (fuel + 1) tail (.pair proc rest) =
      match headKind proc with
      | .define =>
        match rest with
        | .pair (.sym _) (.pair value _) => tailCalls fuel false value
        | _ => []
      | .quasiquote =>
        match rest with
        | .pair x _ => quasiCalls fuel x 0
        | _ => []
      | .ifForm =>
        match Datum.iter rest with
        | [test, conseq] => tailCalls fuel false test ++ tailCalls fuel tail conseq
        | [test, conseq, alt] => tailCalls fuel false test ++ tailCalls fuel tail conseq ++ tailCalls fuel tail alt
        | _ => []
      | .setBang =>
        match Datum.iter rest with
        | [_, value] => tailCalls fuel false value
        | _ => []
      | .app => operandCalls fuel rest ++ tailCalls fuel false proc ++ [tail]
      | .defineSyntax | .lambda | .quote => [] := by
  conv => lhs; unfold tailCalls
  simp only
  show headCases proc _ _ _ _ _ _ _ _ = _
  rw [headCases_eq]
  cases headKind proc <;> rfl

theorem tailOK_succ (fuel : Nat) (ih : TailOK fuel) : TailOK (fuel + 1) where
  args := by
    intro st c base rest st' code n h
    cases compileArgs_view h with
    | cons h1 h2 => simp [operandCalls, ih.expr _ _ _ _ _ _ _ h1, ih.args _ _ _ _ _ _ _ h2, callOp]
    | nil hr => cases rest <;> first | rfl | cases hr
  qvec := by
    intro st c base elems depth st' code h
    cases quasiVec_view h with
    | cons h1 h2 => simp [quasiElems, ih.quasi _ _ _ _ _ _ _ h1, ih.qvec _ _ _ _ _ _ _ h2, callOp]
    | nil hr => cases elems <;> first | rfl | cases hr
  qlist := by
    intro st c base rest depth st' code count t h
    cases quasiList_view h with
    | cons h1 h2 => simp [quasiElems, ih.quasi _ _ _ _ _ _ _ h1, ih.qlist _ _ _ _ _ _ _ _ _ h2, callOp]
    | nil hr => cases rest <;> first | rfl | cases hr
  quasi := by
    intro st c base e depth st' code h
    cases compileQuasi_view h with
    | vec h1 => simp [quasiCalls, ih.qvec _ _ _ _ _ _ _ h1, callOp]
    | unquote hu h1 => simp only [quasiCalls, hu, if_true]; exact ih.expr _ _ _ _ _ _ _ h1
    | list hu h1 =>
      simp only [quasiCalls, hu, Bool.false_eq_true, if_false]
      simp [ih.qlist _ _ _ _ _ _ _ _ _ h1, callOps_consChain, callOp, quasiDepth]
    | atom hp hv => cases e <;> first | rfl | exact absurd rfl (hv _) | cases hp
  expr := by
    intro st c base tail e st' code h
    cases compileExpr_view h with
    | defineVar hk h1 => simp [tailCalls_pair, hk, ih.expr _ _ _ _ _ _ _ h1, callOps_storeCode]
    | defineFun hk hp hb => simp [tailCalls_pair, hk, callOps_finishLambda, callOps_storeCode]
    | lambda hk => simp [tailCalls_pair, hk, callOps_finishLambda]
    | quasi hk h1 => simp only [tailCalls_pair, hk]; exact ih.quasi _ _ _ _ _ _ _ h1
    | quote hk => simp [tailCalls_pair, hk, callOp]
    | if2 hk hi h1 h2 => simp [tailCalls_pair, hk, hi, ih.expr _ _ _ _ _ _ _ h1, ih.expr _ _ _ _ _ _ _ h2, callOp]
    | if3 hk hi h1 h2 h3 =>
      simp [tailCalls_pair, hk, hi, ih.expr _ _ _ _ _ _ _ h1, ih.expr _ _ _ _ _ _ _ h2, ih.expr _ _ _ _ _ _ _ h3,
        callOp]
    | setBang hk hi _ h1 => simp [tailCalls_pair, hk, hi, ih.expr _ _ _ _ _ _ _ h1, callOps_storeCode]
    | app hk h1 h2 =>
      cases tail <;> simp [tailCalls_pair, hk, ih.args _ _ _ _ _ _ _ h1, ih.expr _ _ _ _ _ _ _ h2, callOp]
    | sym =>
      show callOps [_, emitLoc c _, _] = []
      unfold emitLoc
      cases c.bindingLocation _ <;> rfl
    | const hd => cases e <;> first | rfl | cases hd

theorem tailOK_all : ∀ fuel, TailOK fuel
  | 0 => tailOK_zero
  | n+1 => tailOK_succ n (tailOK_all n)

end Marwood.Vm
