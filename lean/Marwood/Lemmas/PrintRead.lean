import Marwood.Lemmas.PrintParse
/-!
# T10.1: what the reader makes of each printed form

One rule per printed form (atoms, `()`, `(a …`, ` a …`, ` . d)`, `'x`, `#(…)`), in the vocabulary of `PrintParse.lean`.
-/
namespace Marwood
open Marwood.Proofs.C16

variable (fo : FloatOps)

theorem printAtom_char (c : Char) : printAtom fo true (.char c) = writeEscapedChar c := rfl
theorem printAtom_str (s : Text) : printAtom fo true (.str s) = writeString s := rfl
theorem printAtom_sym (alt : Bool) (s : Text) : printAtom fo alt (.sym s) = s := rfl
theorem printAtom_num (alt : Bool) (n : Num) : printAtom fo alt (.num n) = printNumber fo n := rfl

theorem readsD_bool (b : Bool) {text pre rest0 : Text}
    (htext : text = pre ++ printAtom fo true (.bool b) ++ rest0) :
    ReadsD fo text pre (printAtom fo true (.bool b)) rest0 (.bool b) := by
  cases b with
  | true =>
    refine readsD_atom fo htext (scansAs_true rest0) rfl (by decide) (by decide) ?_
    intro t k hty _
    unfold parseAtom
    simp only [hty]
  | false =>
    refine readsD_atom fo htext (scansAs_false rest0) rfl (by decide) (by decide) ?_
    intro t k hty _
    unfold parseAtom
    simp only [hty]

theorem readsD_char (c : Char) {text pre rest0 : Text} (hd : Delim rest0)
    (htext : text = pre ++ printAtom fo true (.char c) ++ rest0) :
    ReadsD fo text pre (printAtom fo true (.char c)) rest0 (.char c) := by
  rw [printAtom_char] at htext ⊢
  refine readsD_atom fo htext (scansAs_char c rest0 hd) rfl (by decide) (by decide) ?_
  intro t k hty hsp
  unfold parseAtom
  simp only [hty, hsp, parseCharSpan_writeEscapedChar]

theorem readsD_str (s : Text) {text pre rest0 : Text}
    (htext : text = pre ++ printAtom fo true (.str s) ++ rest0) :
    ReadsD fo text pre (printAtom fo true (.str s)) rest0 (.str s) := by
  rw [printAtom_str] at htext ⊢
  refine readsD_atom fo htext (scansAs_string s rest0) rfl (by decide) (by decide) ?_
  intro t k hty hsp
  unfold parseAtom
  simp only [hty, hsp, stringInner_writeString, parseString_escapeStr]

theorem readsD_sym (s : Text) (hs : SymTok fo s) {text pre rest0 : Text} (hd : Delim rest0)
    (htext : text = pre ++ printAtom fo true (.sym s) ++ rest0) :
    ReadsD fo text pre (printAtom fo true (.sym s)) rest0 (.sym s) := by
  rw [printAtom_sym] at htext ⊢
  rcases hs rest0 hd with h | ⟨h, hn⟩
  · refine readsD_atom fo htext h rfl (by decide) (by decide) ?_
    intro t k hty hsp
    unfold parseAtom
    simp only [hty, hsp]
  · refine readsD_atom fo htext h rfl (by decide) (by decide) ?_
    intro t k hty hsp
    rw [parseAtom_number fo text t k s hty hsp, hn]

theorem isExact_of_not_flo {n : Num} (h : ∀ f, n ≠ .flo f) : isExact n = true := by
  cases n with
  | flo f => exact absurd rfl (h f)
  | _ => rfl

theorem printNumber_shape (ht : FloatLex fo) (n : Num) (hwf : n.WF = true)
    (hfin : ∀ f, n = .flo f → f.isFinite = true) : NumberShape (printNumber fo n) := by
  by_cases hex : isExact n = true
  · have := (exactDigits_shape (r := 10) (by omega) (by omega) n hwf hex).resolve_right (by omega)
    rwa [← numberToString_exact fo 10 (.inr (.inr (.inl rfl))) n hex, numberToString10] at this
  · cases n with
    | flo f => exact ht.shape f (hfin f rfl)
    | _ => exact absurd rfl hex

theorem parseNumber_printNumber (ht : FloatText fo) (n : Num) (hwf : n.WF = true)
    (hfin : ∀ f, n = .flo f → f.isFinite = true) :
    parseNumber fo 10 (printNumber fo n) = .ok (normalize n) := by
  rw [← numberToString10]
  cases n with
  | flo f => exact float_roundtrip fo ht f (hfin f rfl)
  | _ => exact (exact_roundtrip fo _ hwf rfl 10 (.inr (.inr (.inl rfl)))).1

theorem readsD_num (ht : FloatText fo) (hl : FloatLex fo) (n : Num) (hwf : n.WF = true)
    (hfin : ∀ f, n = .flo f → f.isFinite = true) {text pre rest0 : Text} (hd : Delim rest0)
    (htext : text = pre ++ printAtom fo true (.num n) ++ rest0) :
    ReadsD fo text pre (printAtom fo true (.num n)) rest0 (.num (normalize n)) := by
  rw [printAtom_num] at htext ⊢
  refine readsD_atom fo htext (scansAs_numberShape (printNumber_shape fo hl n hwf hfin) rest0 hd) rfl
    (by decide) (by decide) ?_
  intro t k hty hsp
  rw [parseAtom_number fo text t k _ hty hsp,
    parseWithExactness_unspecified fo _ _ (parseNumber_printNumber fo ht n hwf hfin)]

theorem byteLen_lparen : byteLen ['('] = 1 := by decide
theorem byteLen_rparen : byteLen [')'] = 1 := by decide

theorem closes_paren : closes '(' ')' = true := by decide

/-- `()` -/
theorem readsD_nil {text pre rest0 : Text} (htext : text = pre ++ ['(', ')'] ++ rest0) :
    ReadsD fo text pre ['(', ')'] rest0 .nil := by
  obtain ⟨t1, s1, ty1, sp1⟩ := ScanSeg.tok1 (text := text) (pre := pre) (scansAs_lparen ([')'] ++ rest0))
    (by rw [htext]; simp)
  obtain ⟨t2, s2, ty2, sp2⟩ := ScanSeg.tok1 (text := text) (pre := pre ++ ['(']) (scansAs_rparen rest0)
    (by rw [htext]; simp)
  refine ⟨[t1] ++ [t2], ScanSeg.append s1 s2, ⟨t1, [t2], rfl, by simp [ty1], by simp [ty1]⟩, fun k => ⟨2, ?_⟩⟩
  simp only [List.cons_append, List.nil_append]
  rw [parseF]
  simp only [ty1, tokKind]
  rw [listF]
  simp only [ty2, if_true, closeList, firstChar_of_span sp1, firstChar_of_span sp2, closes_paren]
  rfl

theorem HeadOk.append {a : List Token} (h : HeadOk a) (b : List Token) : HeadOk (a ++ b) := by
  obtain ⟨t, r, rfl, h1, h2⟩ := h
  exact ⟨t, r ++ b, rfl, h1, h2⟩

theorem printRest_delim (d : Datum) (r : Text) : Delim (printRest fo true d ++ r) := by
  cases d <;> (rw [printRest]; simp [Delim])

theorem readsRest_nil {text pre rest0 : Text} (htext : text = pre ++ [')'] ++ rest0) :
    ReadsRest fo text pre [')'] rest0 .nil := by
  obtain ⟨t, seg, hty, hsp⟩ := ScanSeg.tok1 (scansAs_rparen _) htext
  refine ⟨[t], seg, fun start acc k _ hstart => ⟨1, ?_⟩⟩
  rw [List.singleton_append, listF]
  simp only [hty, if_true, closeList, hstart, firstChar_of_span hsp, closes_paren, ofListTail_nil]

theorem tailF_one {text : Text} {acc : List Datum} {ts k : List Token} {x : Datum} {trp : Token} {f1 : Nat}
    (hacc : acc ≠ []) (hh : HeadOk ts) (h1 : parseF fo text f1 ts = some (.ok (x, trp :: k)))
    (hrp : trp.ty = .rightParen) :
    tailF fo text (f1 + 1) acc ts = some (.ok (Datum.ofListTail acc x, k)) := by
  obtain ⟨t, ts0, rfl, hr, hd⟩ := hh
  rw [tailF]
  have he : acc.isEmpty = false := by
    cases acc with
    | nil => exact absurd rfl hacc
    | cons _ _ => rfl
  simp only [he, Bool.false_eq_true, if_false, hr, hd, or_self, h1, hrp, if_true,
    newImproperList_ne_nil hacc]

/-- ` . d)`, for a tail `d` that is printed as a datum -/
theorem readsRest_dotted {text pre rest0 body : Text} {d' : Datum}
    (hD : ∀ pre' rest0', Delim rest0' → text = pre' ++ body ++ rest0' → ReadsD fo text pre' body rest0' d')
    (htext : text = pre ++ (' ' :: '.' :: ' ' :: (body ++ [')'])) ++ rest0) :
    ReadsRest fo text pre (' ' :: '.' :: ' ' :: (body ++ [')'])) rest0 d' := by
  obtain ⟨tsb, s4, hhead, hparse⟩ := hD (pre ++ [' '] ++ ['.'] ++ [' ']) ([')'] ++ rest0) (by simp [Delim])
    (by rw [htext]; simp)
  obtain ⟨td, s2, tyd, -⟩ := ScanSeg.tok1 (text := text) (pre := pre ++ [' ']) (scansAs_dot ((body ++ [')']) ++ rest0))
    (by rw [htext]; simp)
  obtain ⟨tr, s5, tyr, -⟩ := ScanSeg.tok1 (text := text) (pre := pre ++ [' '] ++ ['.'] ++ [' '] ++ body)
    (scansAs_rparen rest0) (by rw [htext]; simp)
  have seg := ScanSeg.append (ScanSeg.space pre _) (ScanSeg.append s2 (ScanSeg.append (ScanSeg.space _ _)
    (ScanSeg.append s4 s5)))
  refine ⟨_, by simpa using seg, fun start acc k hacc _ => ?_⟩
  obtain ⟨f, hf⟩ := hparse (tr :: k)
  refine ⟨f + 2, ?_⟩
  simp only [List.nil_append, List.cons_append, List.append_assoc]
  rw [listF]
  simp only [tyd, show (TokType.dot = TokType.rightParen) = False by simp, if_false, if_true]
  exact tailF_one fo hacc (hhead.append _) (by simpa using hf) tyr

/-- `(a …` -/
theorem readsD_list {text pre rest0 ba br : Text} {a' t' : Datum}
    (hA : ReadsD fo text (pre ++ ['(']) ba (br ++ rest0) a')
    (hR : ReadsRest fo text (pre ++ ['('] ++ ba) br rest0 t')
    (htext : text = pre ++ ('(' :: (ba ++ br)) ++ rest0) :
    ReadsD fo text pre ('(' :: (ba ++ br)) rest0 (.pair a' t') := by
  obtain ⟨tsa, hsegA, hheadA, hparseA⟩ := hA
  obtain ⟨tsr, hsegR, hparseR⟩ := hR
  obtain ⟨t, s1, hty, hsp⟩ := ScanSeg.tok1 (text := text) (pre := pre) (scansAs_lparen ((ba ++ br) ++ rest0))
    (by rw [htext]; simp)
  refine ⟨_, ScanSeg.append s1 (ScanSeg.append hsegA hsegR), ⟨t, _, rfl, by simp [hty], by simp [hty]⟩, fun k => ?_⟩
  obtain ⟨f1, h1⟩ := hparseA (tsr ++ k)
  obtain ⟨f2, h2⟩ := hparseR t ([] ++ [a']) k (by simp) (firstChar_of_span hsp)
  refine ⟨max f1 f2 + 1 + 1, ?_⟩
  simp only [List.cons_append, List.append_assoc, List.nil_append]
  rw [parseF]
  simp only [hty, tokKind]
  exact listF_elem fo text (hheadA.append _) h1 h2

/-- ` a …` -/
theorem readsRest_cons {text pre rest0 ba br : Text} {a' t' : Datum}
    (hA : ReadsD fo text (pre ++ [' ']) ba (br ++ rest0) a')
    (hR : ReadsRest fo text (pre ++ [' '] ++ ba) br rest0 t') :
    ReadsRest fo text pre (' ' :: (ba ++ br)) rest0 (.pair a' t') := by
  obtain ⟨tsa, hsegA, hheadA, hparseA⟩ := hA
  obtain ⟨tsr, hsegR, hparseR⟩ := hR
  have s1 : ScanSeg pre [' '] ((ba ++ br) ++ rest0) [] := ScanSeg.space _ _
  have seg := ScanSeg.append s1 (ScanSeg.append hsegA hsegR)
  refine ⟨_, seg, ?_⟩
  intro start acc k _ hstart
  obtain ⟨f1, h1⟩ := hparseA (tsr ++ k)
  obtain ⟨f2, h2⟩ := hparseR start (acc ++ [a']) k (by simp) hstart
  refine ⟨max f1 f2 + 1, ?_⟩
  simp only [List.nil_append, List.append_assoc]
  rw [ofListTail_snoc] at h2
  exact listF_elem fo text (hheadA.append _) h1 h2

/-- `'x` -/
theorem readsD_quote {text pre rest0 bx : Text} {x' : Datum}
    (hX : ReadsD fo text (pre ++ ['\'']) bx rest0 x') :
    ReadsD fo text pre ('\'' :: bx) rest0 (quoteForm "quote" x') := by
  obtain ⟨tsx, hsegX, _, hparseX⟩ := hX
  refine ⟨_, ScanSeg.append (ScanSeg.tok (scansAs_quote (bx ++ rest0))) hsegX, ⟨_, _, rfl, by simp, by simp⟩, ?_⟩
  intro k
  obtain ⟨f1, h1⟩ := hparseX k
  refine ⟨f1 + 1, ?_⟩
  simp only [List.cons_append, List.nil_append]
  rw [parseF]
  simp only [tokKind, h1, wrapRes]

/-- `#(…)` -/
theorem readsD_vec {text pre rest0 be : Text} {xs : List Datum}
    (hE : ReadsElems fo text (pre ++ ['#', '(']) be rest0 xs) :
    ReadsD fo text pre ('#' :: '(' :: be) rest0 (Datum.vecOfList xs) := by
  obtain ⟨tse, hsegE, hparseE⟩ := hE
  refine ⟨_, ScanSeg.append (ScanSeg.tok (scansAs_hashParen (be ++ rest0))) hsegE, ⟨_, _, rfl, by simp, by simp⟩, ?_⟩
  intro k
  obtain ⟨f1, h1⟩ := hparseE [] k
  refine ⟨f1 + 1, ?_⟩
  simp only [List.cons_append]
  rw [parseF]
  simp only [tokKind]
  simpa using h1

theorem readsElems_nil {text pre rest0 : Text} (htext : text = pre ++ [')'] ++ rest0) :
    ReadsElems fo text pre [')'] rest0 [] := by
  obtain ⟨t, seg, hty, hsp⟩ := ScanSeg.tok1 (scansAs_rparen _) htext
  refine ⟨[t], seg, fun acc k => ⟨1, ?_⟩⟩
  rw [List.singleton_append, vectorF]
  simp only [hty, if_true, closeVector, firstChar_of_span hsp, List.append_nil]

theorem readsElems_cons {text pre rest0 bx sep be : Text} {x' : Datum} {xs : List Datum}
    (hsep : sep = [] ∨ sep = [' '])
    (hX : ReadsD fo text pre bx (sep ++ be ++ rest0) x')
    (hE : ReadsElems fo text (pre ++ bx ++ sep) be rest0 xs) :
    ReadsElems fo text pre (bx ++ (sep ++ be)) rest0 (x' :: xs) := by
  obtain ⟨tsx, hsegX, hheadX, hparseX⟩ := hX
  obtain ⟨tse, hsegE, hparseE⟩ := hE
  have s2 : ScanSeg (pre ++ bx) sep (be ++ rest0) [] := by
    rcases hsep with h | h <;> subst h
    · exact ScanSeg.nil _ _
    · exact ScanSeg.space _ _
  have seg := ScanSeg.append (by simpa [List.append_assoc] using hsegX) (ScanSeg.append s2 hsegE)
  refine ⟨_, seg, ?_⟩
  intro acc k
  obtain ⟨f1, h1⟩ := hparseX (tse ++ k)
  obtain ⟨f2, h2⟩ := hparseE (acc ++ [x']) k
  refine ⟨max f1 f2 + 1, ?_⟩
  simp only [List.nil_append, List.append_assoc]
  have h2' : vectorF fo text f2 (acc ++ [x']) (tse ++ k) = some (.ok (Datum.vecOfList (acc ++ x' :: xs), k)) := by
    simpa [List.append_assoc] using h2
  exact vectorF_elem fo text (hheadX.append _) h1 h2'

end Marwood
