import Marwood.Spec.Scope
import Marwood.Vm.EnvRun
import Marwood.Lemmas.EnvRuntime
/-!
# T02.4, part 1: running the two interpreters as state transformers

`exec m s` is the outcome and final state of a computation of either interpreter (`ExceptT Err (StateM St)`). The
primitive steps of `Spec.Scope` and `Vm.EnvRun`, exactly as the model files define them, as equations on `exec`.
-/
namespace Marwood.Vm.EnvRefine
open Marwood Marwood.Scope Marwood.Vm.Env

variable {ε σ α β : Type}

abbrev X (ε σ : Type) := ExceptT ε (StateM σ)

def exec (m : X ε σ α) (s : σ) : Except ε α × σ := m.run.run s

@[simp] theorem exec_pure (a : α) (s : σ) : exec (pure a : X ε σ α) s = (.ok a, s) := rfl
@[simp] theorem exec_throw (e : ε) (s : σ) : exec (throw e : X ε σ α) s = (.error e, s) := rfl
@[simp] theorem exec_get (s : σ) : exec (get : X ε σ σ) s = (.ok s, s) := rfl
@[simp] theorem exec_set (s' s : σ) : exec (set s' : X ε σ PUnit) s = (.ok ⟨⟩, s') := rfl
@[simp] theorem exec_modify (f : σ → σ) (s : σ) : exec (modify f : X ε σ PUnit) s = (.ok ⟨⟩, f s) := rfl

theorem exec_bind (m : X ε σ α) (k : α → X ε σ β) (s : σ) :
    exec (m >>= k) s = match exec m s with
      | (.ok a, s1) => exec (k a) s1
      | (.error e, s1) => (.error e, s1) := by
  simp only [exec, ExceptT.run_bind, StateT.run_bind]
  rcases h : (m.run.run s) with ⟨r, s1⟩
  cases r <;> simp <;> rfl

theorem exec_bind_ok (m : X ε σ α) (k : α → X ε σ β) (s s1 : σ) (a : α) (h : exec m s = (.ok a, s1)) :
    exec (m >>= k) s = exec (k a) s1 := by
  rw [exec_bind, h]

theorem exec_bind_err (m : X ε σ α) (k : α → X ε σ β) (s s1 : σ) (e : ε) (h : exec m s = (.error e, s1)) :
    exec (m >>= k) s = (.error e, s1) := by
  rw [exec_bind, h]

abbrev SVal := Spec.Scope.Val
abbrev MVal := Vm.EnvRun.Val
abbrev SSt := Spec.Scope.St
abbrev MSt := Vm.EnvRun.St
abbrev SErr := Spec.Scope.Err
abbrev MErr := Vm.EnvRun.Err

section spec
open Marwood.Spec.Scope

theorem exec_alloc (v : SVal) (s : SSt) :
    exec (alloc v) s = (.ok s.store.size, { s with store := s.store.push v }) := rfl

theorem exec_tick (s : SSt) :
    exec Spec.Scope.tick s = (.ok (.int (s.counter + 1)), { s with counter := s.counter + 1 }) := rfl

theorem exec_logEvent (e : Event) (s : SSt) :
    exec (logEvent e) s = (.ok ⟨⟩, { s with log := e :: s.log }) := rfl

theorem exec_writeLoc (l : Loc) (v : SVal) (s : SSt) :
    exec (writeLoc l v) s = (.ok ⟨⟩, { s with store := s.store.setIfInBounds l v }) := rfl

theorem exec_locOf_local (x : Name) (ρ : Chain) (s : SSt) (l : Loc) (h : resolve x ρ = some l) :
    exec (locOf x ρ) s = (.ok l, s) := by
  unfold locOf; simp [h]

theorem exec_locOf_global (x : Name) (ρ : Chain) (s : SSt) (l : Loc) (h : resolve x ρ = none)
    (hg : s.globals.find? x = some l) : exec (locOf x ρ) s = (.ok l, s) := by
  unfold locOf; simp [h, exec_bind, hg]

theorem exec_locOf_unbound (x : Name) (ρ : Chain) (s : SSt) (h : resolve x ρ = none)
    (hg : s.globals.find? x = none) : exec (locOf x ρ) s = (.error .unbound, s) := by
  unfold locOf; simp [h, exec_bind, hg]

theorem exec_locOf_cases (x : Name) (ρ : Chain) (s : SSt) :
    (∃ l, exec (locOf x ρ) s = (.ok l, s) ∧
      (resolve x ρ = some l ∨ (resolve x ρ = none ∧ s.globals.find? x = some l))) ∨
    exec (locOf x ρ) s = (.error .unbound, s) := by
  cases h : resolve x ρ with
  | some l => exact Or.inl ⟨l, exec_locOf_local x ρ s l h, Or.inl rfl⟩
  | none =>
    cases hg : s.globals.find? x with
    | some l => exact Or.inl ⟨l, exec_locOf_global x ρ s l h hg, Or.inr ⟨rfl, rfl⟩⟩
    | none => exact Or.inr (exec_locOf_unbound x ρ s h hg)

theorem exec_readLoc_ok (l : Loc) (s : SSt) (v : SVal) (h : s.store[l]? = some v) (hv : v ≠ .undef) :
    exec (readLoc l) s = (.ok v, s) := by
  unfold readLoc
  simp only [exec_bind, exec_get, h]
  cases v <;> simp_all

theorem exec_readLoc_undef (l : Loc) (s : SSt) (h : s.store[l]? = some .undef) :
    exec (readLoc l) s = (.error .unbound, s) := by
  unfold readLoc
  simp [exec_bind, h]

theorem exec_readLoc_none (l : Loc) (s : SSt) (h : s.store[l]? = none) :
    exec (readLoc l) s = (.error .unbound, s) := by
  unfold readLoc
  simp [exec_bind, h]

theorem exec_readLoc_cases (l : Loc) (s : SSt) :
    (∃ v, s.store[l]? = some v ∧ v ≠ .undef ∧ exec (readLoc l) s = (.ok v, s)) ∨
    exec (readLoc l) s = (.error .unbound, s) := by
  cases h : s.store[l]? with
  | none => exact Or.inr (exec_readLoc_none l s h)
  | some v =>
    by_cases hv : v = .undef
    · subst hv; exact Or.inr (exec_readLoc_undef l s h)
    · exact Or.inl ⟨v, rfl, hv, exec_readLoc_ok l s v h hv⟩

/-- the values `bindParams` stores, in order: the fixed arguments, then the list of the surplus
    ones for a rest parameter; `none`: wrong number of arguments -/
def paramVals : List Name → Option Name → List SVal → Option (List SVal)
  | [], none, [] => some []
  | [], none, _ :: _ => none
  | [], some _, vs => some [Val.ofList vs]
  | _ :: _, _, [] => none
  | _ :: ps, r, v :: vs => (paramVals ps r vs).map (v :: ·)

/-- the frame over consecutive locations starting at `n` -/
def frameAt : List Name → Nat → Frame
  | [], _ => []
  | x :: xs, n => (x, n) :: frameAt xs (n + 1)

theorem paramVals_length (ps : List Name) (r : Option Name) (vs vals : List SVal)
    (h : paramVals ps r vs = some vals) : vals.length = (ps ++ r.toList).length := by
  induction ps generalizing vs vals with
  | nil =>
    cases r with
    | none => cases vs <;> simp_all [paramVals]
    | some r => simp only [paramVals, Option.some.injEq] at h; subst h; simp
  | cons p ps ih =>
    cases vs with
    | nil => simp [paramVals] at h
    | cons v vs =>
      simp only [paramVals, Option.map_eq_some_iff] at h
      obtain ⟨vals', h', rfl⟩ := h
      simp [ih vs vals' h']

theorem array_append_push (a : Array α) (v : α) (l : List α) : a.push v ++ l.toArray = a ++ (v :: l).toArray := by
  apply Array.ext'
  simp

/-- on failure (`arity`) the store has grown by some orphan locations -/
theorem exec_bindParams (ps : List Name) (r : Option Name) (vs : List SVal) (s : SSt) :
    match paramVals ps r vs with
    | some vals => exec (bindParams ps r vs) s =
        (.ok (frameAt (ps ++ r.toList) s.store.size), { s with store := s.store ++ vals.toArray })
    | none => ∃ extra : List SVal, exec (bindParams ps r vs) s =
        (.error .arity, { s with store := s.store ++ extra.toArray }) := by
  induction ps generalizing vs s with
  | nil =>
    cases r with
    | none =>
      cases vs with
      | nil => simp [paramVals, bindParams, frameAt]
      | cons v vs => exact ⟨[], by simp [bindParams]⟩
    | some r =>
      simp only [paramVals, bindParams, exec_bind, exec_alloc, exec_pure, List.nil_append, Option.toList,
        frameAt]
      congr 2
  | cons p ps ih =>
    cases vs with
    | nil => exact ⟨[], by simp [bindParams]⟩
    | cons v vs =>
      have := ih vs { s with store := s.store.push v }
      simp only [paramVals]
      cases hp : paramVals ps r vs with
      | some vals =>
        simp only [hp] at this
        simp only [Option.map_some, bindParams, exec_bind, exec_alloc, this, exec_pure, List.cons_append,
          frameAt, Array.size_push, array_append_push]
      | none =>
        simp only [hp] at this
        obtain ⟨extra, he⟩ := this
        refine ⟨v :: extra, ?_⟩
        simp only [bindParams, exec_bind, exec_alloc, he, array_append_push]

theorem exec_allocDefs : (ds : Defs) → (s : SSt) →
    exec (allocDefs ds) s =
      (.ok (frameAt ds.names s.store.size),
       { s with store := s.store ++ (ds.names.map fun _ => Val.undef).toArray })
  | .nil, s => by simp [allocDefs, Defs.names, frameAt]
  | .cons x sg e ds, s => by
    simp only [allocDefs, exec_bind, exec_alloc, exec_allocDefs ds, exec_pure, Defs.names, frameAt,
      Array.size_push, List.map_cons, array_append_push]

end spec

section model
open Marwood.Vm.EnvRun

theorem exec_mtick (t : MSt) :
    exec Vm.EnvRun.tick t = (.ok (.int (t.counter + 1)), { t with counter := t.counter + 1 }) := rfl

theorem exec_setGlobal (x : Name) (v : MVal) (t : MSt) :
    exec (setGlobal x v) t = (.ok ⟨⟩, { t with globals := (x, v) :: t.globals.filter (·.1 != x) }) := rfl

theorem exec_liftFault_ok (a : α) (t : MSt) : exec (liftFault (.ok a)) t = (.ok a, t) := rfl

theorem load_of_target (h : Envs α) (ep slot e i : Nat) (arr : Array (Slot α)) (g : Slot α)
    (ht : target h ep slot = .ok (e, i)) (ha : h.envs[e]? = some arr) (hg : arr[i]? = some g) :
    load h ep slot = .ok g := load_ok.mpr ⟨e, i, arr, ht, ha, hg⟩

end model

end Marwood.Vm.EnvRefine
