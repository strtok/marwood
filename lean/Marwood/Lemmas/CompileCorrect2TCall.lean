import Marwood.Lemmas.CompileCorrect2Aux
import Marwood.Lemmas.TCall
/-!
# T01.3 stage 2: the frame of an activation; `ENTER` completes it, `TCALL` of a closure replaces it

In tail position the operands and their number are pushed above the current frame
`[a₁ … aₙ, argc n, %ep, return address, %bp]`, and `TCALL` rewrites the stack into what a `CALL` by the CALLER of the
current procedure would have left: `[b₁ … bₘ, argc m, %ep, return address]` above the caller's stack, `bp` the
caller's. Both branches of run.rs (equal / different argument counts) are covered: `tcallTail_run` (`Lemmas/TCall.lean`).
-/
namespace Marwood.Lemmas.CompileCorrect2
open Marwood Marwood.Vm Marwood.Lemmas.CompileCorrect

variable {H : Type} {ops : HeapOps H}

/-- the frame of the current activation; `st0`: the caller's stack below it -/
structure Frame where
  nf : Nat
  epc : Nat
  lc : Nat
  oc : Nat
  bpc : Nat
  st0 : Stack

structure FrameAt (st : Stack) (bp : Nat) (fr : Frame) : Prop where
  argc : st.cells[bp + 1]? = some (.argc fr.nf)
  ep : st.cells[bp + 2]? = some (.envPtr fr.epc)
  ip : st.cells[bp + 3]? = some (.instrPtr fr.lc fr.oc)
  bpc : st.cells[bp + 4]? = some (.basePtr fr.bpc)
  le : fr.nf ≤ bp
  live : bp + 4 ≤ st.sp
  sp0 : fr.st0.sp = bp - fr.nf
  below : ∀ i, i ≤ fr.st0.sp → fr.st0.cells[i]? = st.cells[i]?
  swf0 : SWF fr.st0

theorem FrameAt.of_liveEq {st st' : Stack} {bp : Nat} {fr : Frame} (h : FrameAt st bp fr) (l : LiveEq st st') :
    FrameAt st' bp fr := by
  have c : ∀ i, i ≤ bp + 4 → st'.cells[i]? = st.cells[i]? := fun i hi => (l.2 i (by have := h.live; omega)).symm
  refine ⟨by rw [c _ (by omega)]; exact h.argc, by rw [c _ (by omega)]; exact h.ep, by rw [c _ (by omega)]; exact h.ip,
    by rw [c _ (by omega)]; exact h.bpc, h.le, by rw [← l.1]; exact h.live, h.sp0, fun i hi => ?_, h.swf0⟩
  rw [c i (by have := h.sp0; omega)]; exact h.below i hi

theorem liveEq_callFrame {st0 st' : Stack} {vs : List VCell} {epc lc oc : Nat} (hw0 : SWF st0)
    (hsp : st'.sp = st0.sp + vs.length + 3)
    (h0 : ∀ i, i ≤ st0.sp → st'.cells[i]? = st0.cells[i]?)
    (h1 : ∀ j, j < vs.length → st'.cells[st0.sp + 1 + j]? = vs[j]?)
    (h2 : st'.cells[st0.sp + vs.length + 1]? = some (.argc vs.length))
    (h3 : st'.cells[st0.sp + vs.length + 2]? = some (.envPtr epc))
    (h4 : st'.cells[st0.sp + vs.length + 3]? = some (.instrPtr lc oc)) :
    LiveEq (callFrame st0 vs epc lc oc) st' := by
  obtain ⟨k0, k1, k2, k3, k4⟩ := callFrame_cells st0 vs epc lc oc hw0
  refine ⟨by rw [callFrame_sp, hsp], fun i hi => ?_⟩
  rw [callFrame_sp] at hi
  by_cases c0 : i ≤ st0.sp
  · rw [k0 i c0, h0 i c0]
  · by_cases c1 : i < st0.sp + 1 + vs.length
    · have e : i = st0.sp + 1 + (i - (st0.sp + 1)) := by omega
      rw [e, k1 _ (by omega), h1 _ (by omega)]
    · by_cases c2 : i = st0.sp + vs.length + 1
      · subst c2; rw [k2, h2]
      · by_cases c3 : i = st0.sp + vs.length + 2
        · subst c3; rw [k3, h3]
        · have c4 : i = st0.sp + vs.length + 3 := by omega
          subst c4; rw [k4, h4]

/-- the stack half of `ENTER` on the frame `CALL` left -/
theorem enter_stack {st0 stk : Stack} {vs : List VCell} {epc lc oc bp : Nat}
    (hst : LiveEq (callFrame st0 vs epc lc oc) stk) (hw0 : SWF st0) (hw : SWF stk) :
    stk.sp = st0.sp + vs.length + 3 ∧
    stk.cells[stk.sp - 2]? = some (.argc vs.length) ∧
    (∀ i v, vs[i]? = some v → (stk.push (.basePtr bp)).cells[st0.sp + 1 + i]? = some v) ∧
    SWF (stk.push (.basePtr bp)) ∧
    (stk.push (.basePtr bp)).sp = st0.sp + vs.length + 4 ∧
    FrameAt (stk.push (.basePtr bp)) (st0.sp + vs.length) ⟨vs.length, epc, lc, oc, bp, st0⟩ := by
  obtain ⟨k0, k1, k2, k3, k4⟩ := callFrame_cells st0 vs epc lc oc hw0
  have hsp : stk.sp = st0.sp + vs.length + 3 := by rw [← hst.1, callFrame_sp]
  have cell : ∀ i, i ≤ st0.sp + vs.length + 3 →
      (stk.push (.basePtr bp)).cells[i]? = (callFrame st0 vs epc lc oc).cells[i]? := fun i hi => by
    rw [push_below _ _ hw i (hsp ▸ hi), hst.2 i (by rw [callFrame_sp]; exact hi)]
  refine ⟨hsp, ?_, fun i v hv => ?_, push_swf _ _, by rw [Stack.push_sp, hsp], ?_⟩
  · rw [hsp, ← hst.2 _ (by rw [callFrame_sp]; omega)]
    exact k2
  · have hlt : i < vs.length := (List.getElem?_eq_some_iff.mp hv).1
    rw [cell _ (by omega), k1 i hlt, hv]
  · refine ⟨?_, ?_, ?_, ?_, Nat.le_add_left _ _, by rw [Stack.push_sp, hsp]; exact Nat.le_refl _,
      (Nat.add_sub_cancel ..).symm, fun i (hi : i ≤ st0.sp) => ?_, hw0⟩
    · rw [cell _ (by omega)]; exact k2
    · rw [cell _ (by omega)]; exact k3
    · rw [cell _ (by omega)]; exact k4
    · have := push_top stk (.basePtr bp)
      rwa [hsp] at this
    · rw [cell _ (Nat.le_trans hi (by omega)), k0 i hi]

/-- the stack `TCALL` finds, every index a sum from the caller's `sp`: `st0`, the `nf` old arguments, the four frame
    cells, `d` cells of the current activation, the operands `vs`, their number -/
structure TCallLayout (stk st0 : Stack) (vs : List VCell) (nf epc lc oc bpc d : Nat) : Prop where
  sp : stk.sp = st0.sp + nf + 4 + d + vs.length + 1
  low : ∀ i, i ≤ st0.sp → stk.cells[i]? = st0.cells[i]?
  argc : stk.cells[st0.sp + nf + 1]? = some (.argc nf)
  ep : stk.cells[st0.sp + nf + 2]? = some (.envPtr epc)
  ip : stk.cells[st0.sp + nf + 3]? = some (.instrPtr lc oc)
  bpc : stk.cells[st0.sp + nf + 4]? = some (.basePtr bpc)
  opnd : ∀ j, j < vs.length → stk.cells[st0.sp + nf + 4 + d + 1 + j]? = vs[j]?
  top : stk.cells[stk.sp]? = some (.argc vs.length)

theorem FrameAt.tcallLayout {stk stk0 : Stack} {bp : Nat} {fr : Frame} {vs : List VCell} (hfr : FrameAt stk0 bp fr)
    (hw0 : SWF stk0) (hst : LiveEq ((pushAll stk0 vs).push (.argc vs.length)) stk) :
    bp = fr.st0.sp + fr.nf ∧ ∃ d, TCallLayout stk fr.st0 vs fr.nf fr.epc fr.lc fr.oc fr.bpc d := by
  have hbp : bp = fr.st0.sp + fr.nf := by rw [hfr.sp0, Nat.sub_add_cancel hfr.le]
  subst hbp
  obtain ⟨d, hd⟩ := Nat.exists_eq_add_of_le hfr.live
  have hA := pushAll_swf stk0 vs hw0
  have spP : ((pushAll stk0 vs).push (.argc vs.length)).sp = stk0.sp + vs.length + 1 := by
    rw [Stack.push_sp, pushAll_sp]
  have low : ∀ i, i ≤ stk0.sp → stk.cells[i]? = stk0.cells[i]? := by
    intro i hi
    rw [← hst.2 i (by rw [spP]; omega), push_below _ _ hA i (by rw [pushAll_sp]; omega),
      pushAll_below stk0 vs hw0 i hi]
  refine ⟨rfl, d, by rw [← hst.1, spP, hd], fun i hi => ?_, ?_, ?_, ?_, ?_, fun j hj => ?_, ?_⟩
  · rw [low i (by omega)]; exact (hfr.below i hi).symm
  · rw [low _ (by omega)]; exact hfr.argc
  · rw [low _ (by omega)]; exact hfr.ep
  · rw [low _ (by omega)]; exact hfr.ip
  · rw [low _ (by omega)]; exact hfr.bpc
  · rw [← hd, ← hst.2 _ (by rw [spP]; omega), push_below _ _ hA _ (by rw [pushAll_sp]; omega),
      pushAll_get stk0 vs hw0 j hj]
  · rw [← hst.2 _ (by rw [hst.1]; exact Nat.le_refl _), ← hst.1, spP, ← pushAll_sp]
    exact push_top _ _

/-- `stk0`: the stack of the current activation before the operands `vs` were pushed -/
theorem stepTCall_closure {s : MSt H} {lam env : Nat} {fr : Frame} {stk0 : Stack} {vs : List VCell}
    (hc : ops.callee s.heap s.acc = .closure lam env) (hfr : FrameAt stk0 s.bp fr) (hw0 : SWF stk0)
    (hst : LiveEq ((pushAll stk0 vs).push (.argc vs.length)) s.stack) (hw : SWF s.stack) :
    ∃ st', stepTCall ops s = .ok { s with stack := st', bp := fr.bpc, ipL := lam, ipO := 0 } ∧
      LiveEq (callFrame fr.st0 vs fr.epc fr.lc fr.oc) st' ∧ SWF st' := by
  obtain ⟨hbp, d, L⟩ := hfr.tcallLayout hw0 hst
  have hspL := L.sp
  obtain ⟨st, hrun, hsp, hcap, _, hopnd, hargc, hep, hip, hlow⟩ :=
    tcallTail_run s lam (k := fr.st0.sp) (fa := fr.nf) (n := vs.length) hw
    (by rw [hbp]; exact Stack.cellAt_of_some L.argc) (by rw [hbp]; exact Stack.cellAt_of_some L.bpc)
    (Stack.cellAt_of_some L.top) (by omega) hbp
  have cell : ∀ i, i ≤ fr.st0.sp + vs.length + 3 → st.cells[i]? = some (st.cellAt i) :=
    fun i hi => Stack.some_cellAt st (by omega)
  rw [Vm.stepTCall_closure hc]
  refine ⟨st, hrun, liveEq_callFrame hfr.swf0 hsp (fun i hi => ?_) (fun j hj => ?_) ?_ ?_ ?_, hcap⟩
  · have hlt : i < fr.st0.cells.length := Nat.lt_of_le_of_lt hi hfr.swf0
    have hv := L.low i hi
    rw [List.getElem?_eq_getElem hlt] at hv
    rw [cell i (by omega), hlow i hi, Stack.cellAt_of_some hv, List.getElem?_eq_getElem hlt]
  · have hv := L.opnd j hj
    rw [List.getElem?_eq_getElem hj] at hv ⊢
    rw [cell _ (by omega), hopnd j hj, show s.stack.sp - vs.length + j = fr.st0.sp + fr.nf + 4 + d + 1 + j by omega,
      Stack.cellAt_of_some hv]
  · rw [cell _ (by omega), hargc]
  · rw [cell _ (by omega), hep, hbp, Stack.cellAt_of_some L.ep]
  · rw [cell _ (by omega), hip, hbp, Stack.cellAt_of_some L.ip]

theorem step_tcall_closure {s : MSt H} {lam env : Nat} {fr : Frame} {stk0 : Stack} {vs : List VCell}
    (hl : ops.isLambda s.heap s.ipL = true)
    (h0 : ops.fetch s.heap s.ipL s.ipO = some (.opcode .tcallAcc))
    (hc : ops.callee s.heap s.acc = .closure lam env) (hfr : FrameAt stk0 s.bp fr) (hw0 : SWF stk0)
    (hst : LiveEq ((pushAll stk0 vs).push (.argc vs.length)) s.stack) (hw : SWF s.stack) :
    ∃ st', step ops s = .ok ({ s with stack := st', bp := fr.bpc, ipL := lam, ipO := 0 }, false) ∧
      LiveEq (callFrame fr.st0 vs fr.epc fr.lc fr.oc) st' ∧ SWF st' := by
  obtain ⟨st', h1, h2, h3⟩ := stepTCall_closure (s := { s with ipO := s.ipO + 1 }) hc hfr hw0 hst hw
  refine ⟨st', ?_, h2, h3⟩
  rw [step_tcall hl h0, h1]
  rfl

end Marwood.Lemmas.CompileCorrect2
