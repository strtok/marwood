import Marwood.Lemmas.EvalWFPrims
/-!
# Well-formedness: application, evaluation, the fuel induction

From a well-formed state and an environment whose locations are inside the store, the evaluator at any fuel ends
(with a value or an error) in a well-formed state whose store is at least as large, and the value mentions only
locations of the final store (`wf_evalN`); sessions from the initial state (`wf_runSession`).
-/
namespace Marwood.Spec.Eval
open Marwood

variable {n0 : Nat} {r : Rec}

theorem pres_evalTopForm (hr : RecWF r) (d : Datum) : PresFrom n0 (evalTopForm r d) ValOK := by
  unfold evalTopForm
  split
  · refine PresFrom.bind (pres_defineValue hr [] d (by simp)) (fun p n1 _ hp => ?_)
    refine PresFrom.bind (pres_putGlobal p.1 p.2 hp) (fun _ n2 _ _ => ?_)
    exact PresFrom.pureV _ (by simp)
  · exact hr.eval n0 d [] (by simp)

theorem pres_evalTopForms (hr : RecWF r) : ∀ (ds : List Datum) (n0 : Nat),
    PresFrom n0 (evalTopForms r ds) ValOK
  | [], _ => PresFrom.throw _
  | [d], _ => by simpa [evalTopForms] using pres_evalTopForm hr d
  | d :: d' :: ds, n0 => by
    simp only [evalTopForms]
    refine PresFrom.bind (pres_evalTopForm hr d) (fun _ n1 _ _ => ?_)
    exact pres_evalTopForms hr (d' :: ds) n1

theorem pres_evalTop (hr : RecWF r) (d : Datum) : PresFrom n0 (evalTop r d) ValOK := by
  unfold evalTop
  split
  · split
    · split
      · exact pres_evalTopForms hr _ n0
      · exact PresFrom.throw _
    · exact pres_evalTopForm hr _
  · exact pres_evalTopForm hr _

theorem pres_application (hr : RecWF r) (f rest : Datum) (ρ : Env) (hρ : EnvOK n0 ρ) :
    PresFrom n0 (match properList rest with
      | some es => do
        let vs ← evalArgs r ρ es
        let fv ← r.eval f ρ
        r.apply fv vs
      | none => throw .syntax) ValOK := by
  split
  · rename_i es hp
    refine PresFrom.bind (pres_evalArgs hr ρ es n0 hρ) (fun vs n1 h1 hvs => ?_)
    refine PresFrom.bind (hr.eval n1 f ρ (hρ.mono h1)) (fun fv n2 h2 hfv => ?_)
    exact hr.apply n2 fv vs hfv (hvs.mono h2)
  · exact PresFrom.throw _

theorem pres_evalStep (hr : RecWF r) (e : Datum) (ρ : Env) (hρ : EnvOK n0 ρ) :
    PresFrom n0 (evalStep r e ρ) ValOK := by
  cases e with
  | sym s => simpa [evalStep] using pres_evalVar (n0 := n0) s ρ
  | pair f rest =>
    cases f with
    | sym s =>
      simp only [evalStep]
      cases hk : kwOf s with
      | some k => exact pres_evalKw hr ρ k rest hρ
      | none => exact pres_application hr _ rest ρ hρ
    | _ =>
      simp only [evalStep]
      exact pres_application hr _ rest ρ hρ
  | nil => exact PresFrom.throw _
  | procedure _ => exact PresFrom.throw _
  | macro_ => exact PresFrom.throw _
  | continuation => exact PresFrom.throw _
  | void => exact PresFrom.throw _
  | undefined => exact PresFrom.throw _
  | bool b => simpa [evalStep] using pres_quoteVal (n0 := n0) (.bool b)
  | char c => simpa [evalStep] using pres_quoteVal (n0 := n0) (.char c)
  | num n => simpa [evalStep] using pres_quoteVal (n0 := n0) (.num n)
  | str t => simpa [evalStep] using pres_quoteVal (n0 := n0) (.str t)
  | vec v => simpa [evalStep] using pres_quoteVal (n0 := n0) (.vec v)

theorem pres_applyStep (hr : RecWF r) (f : Val) (args : List Val) (hf : ValOK n0 f)
    (ha : ValsOK n0 args) : PresFrom n0 (applyStep r f args) ValOK := by
  unfold applyStep
  split
  · rename_i ps rest body ρ
    refine PresFrom.bind (pres_bindArgs ps rest args ρ n0 ha hf) (fun ρ' n1 _ hρ' => ?_)
    exact pres_evalBody hr ρ' body hρ'
  · split
    · rename_i g a as
      simp only [valsOK_cons] at ha
      refine PresFrom.bind (pres_getList _) (fun xs n1 h1 hxs => ?_)
      refine hr.apply n1 g _ (ha.1.mono h1) (valsOK_append.2 ⟨valsOK_dropLast ?_, hxs⟩)
      simp only [valsOK_cons]
      exact ⟨ha.2.1.mono h1, ha.2.2.mono h1⟩
    · exact PresFrom.throw _
  · split
    · rename_i v
      refine PresFrom.bind (pres_externalise v) (fun d n1 _ _ => ?_)
      exact pres_evalTop hr d
    · exact PresFrom.throw _
  · split
    · rename_i l
      refine PresFrom.bind (pres_readCell l) (fun c n1 _ hc => ?_)
      split
      · exact PresFrom.pureV _ hc
      · rename_i thunk
        refine PresFrom.bind (hr.apply n1 thunk [] hc (by simp)) (fun v n2 _ hv => ?_)
        refine PresFrom.bind (pres_readCell l) (fun c' n3 h3 hc' => ?_)
        split
        · exact PresFrom.pureV _ hc'
        · refine PresFrom.bind (pres_writeCell l _ (hv.mono h3)) (fun _ n4 h4 _ => ?_)
          exact PresFrom.pureV _ (hv.mono (Nat.le_trans h3 h4))
      · exact PresFrom.throw _
    · exact PresFrom.throw _
    · exact PresFrom.throw _
  · split
    · rename_i g l ls
      simp only [valsOK_cons] at ha
      refine PresFrom.bind (pres_getLists _ n0) (fun lists n1 h1 hl => ?_)
      refine PresFrom.bind pres_getStore (fun st n2 h2 _ => ?_)
      refine PresFrom.bind (pres_mapApply hr g _ n2 (ha.1.mono (Nat.le_trans h1 h2))
        (valsOK_zipArgs _ lists (fun l' hl' => (hl l' hl').mono h2))) (fun vs n3 _ hvs => ?_)
      exact pres_allocList vs n3 hvs
    · exact PresFrom.throw _
  · split
    · rename_i g l ls
      simp only [valsOK_cons] at ha
      refine PresFrom.bind (pres_getLists _ n0) (fun lists n1 h1 hl => ?_)
      refine PresFrom.bind pres_getStore (fun st n2 h2 _ => ?_)
      refine PresFrom.bind (pres_mapApply hr g _ n2 (ha.1.mono (Nat.le_trans h1 h2))
        (valsOK_zipArgs _ lists (fun l' hl' => (hl l' hl').mono h2))) (fun vs n3 _ hvs => ?_)
      exact PresFrom.pureV _ (by simp)
    · exact PresFrom.throw _
  · exact pres_applyPrim1 _ args ha
  · exact PresFrom.throw _

theorem recWF_evalN : ∀ (n : Nat), RecWF (evalN n)
  | 0 => ⟨fun _ _ _ _ => PresFrom.timeout, fun _ _ _ _ _ => PresFrom.timeout⟩
  | n+1 => ⟨fun _ e ρ hρ => pres_evalStep (recWF_evalN n) e ρ hρ,
            fun _ f args hf ha => pres_applyStep (recWF_evalN n) f args hf ha⟩

theorem wf_evalN (n : Nat) (e : Datum) (ρ : Env) (st : St) (hst : WFSt st)
    (hρ : EnvOK st.store.size ρ) :
    match (evalN n).eval e ρ st with
    | .ok v s => WFSt s ∧ st.store.size ≤ s.store.size ∧ ValOK s.store.size v
    | .err _ s => WFSt s ∧ st.store.size ≤ s.store.size
    | .timeout => True := by
  have h := (recWF_evalN n).eval st.store.size e ρ hρ st hst (Nat.le_refl _)
  cases h1 : (evalN n).eval e ρ st with
  | ok v s => simp only [h1, Post] at h; exact h
  | err e s => simp only [h1, Post] at h; exact h
  | timeout => trivial

theorem wf_applyN (n : Nat) (f : Val) (args : List Val) (st : St) (hst : WFSt st)
    (hf : ValOK st.store.size f) (ha : ∀ a ∈ args, ValOK st.store.size a) :
    match (evalN n).apply f args st with
    | .ok v s => WFSt s ∧ st.store.size ≤ s.store.size ∧ ValOK s.store.size v
    | .err _ s => WFSt s ∧ st.store.size ≤ s.store.size
    | .timeout => True := by
  have h := (recWF_evalN n).apply st.store.size f args hf ha st hst (Nat.le_refl _)
  cases h1 : (evalN n).apply f args st with
  | ok v s => simp only [h1, Post] at h; exact h
  | err e s => simp only [h1, Post] at h; exact h
  | timeout => trivial

theorem wf_evalTop (n : Nat) (d : Datum) (st : St) (hst : WFSt st) :
    match evalTop (evalN n) d st with
    | .ok v s => WFSt s ∧ st.store.size ≤ s.store.size ∧ ValOK s.store.size v
    | .err _ s => WFSt s ∧ st.store.size ≤ s.store.size
    | .timeout => True := by
  have h := pres_evalTop (n0 := 0) (recWF_evalN n) d st hst (Nat.zero_le _)
  cases h1 : evalTop (evalN n) d st with
  | ok v s => simp only [h1, Post] at h; exact h
  | err e s => simp only [h1, Post] at h; exact h
  | timeout => trivial

/-! The same facts without a `match` (a `match` written elsewhere elaborates to a different matcher
constant, so these are the forms to rewrite with): `Post`, and one implication per outcome. -/

theorem post_evalN (n : Nat) (e : Datum) (ρ : Env) (st : St) (hst : WFSt st)
    (hρ : EnvOK st.store.size ρ) : Post st.store.size ValOK ((evalN n).eval e ρ st) :=
  (recWF_evalN n).eval st.store.size e ρ hρ st hst (Nat.le_refl _)

theorem post_applyN (n : Nat) (f : Val) (args : List Val) (st : St) (hst : WFSt st)
    (hf : ValOK st.store.size f) (ha : ∀ a ∈ args, ValOK st.store.size a) :
    Post st.store.size ValOK ((evalN n).apply f args st) :=
  (recWF_evalN n).apply st.store.size f args hf ha st hst (Nat.le_refl _)

theorem post_evalTop (n : Nat) (d : Datum) (st : St) (hst : WFSt st) :
    Post st.store.size ValOK (evalTop (evalN n) d st) :=
  pres_evalTop (n0 := 0) (recWF_evalN n) d st hst (Nat.zero_le _)

theorem Post.ok {α : Type} {k : Nat} {P : Nat → α → Prop} {res : Res α} {a : α} {s : St}
    (h : Post k P res) (hr : res = .ok a s) : WFSt s ∧ k ≤ s.store.size ∧ P s.store.size a := by
  subst hr; exact h

theorem Post.err {α : Type} {k : Nat} {P : Nat → α → Prop} {res : Res α} {e : ErrClass} {s : St}
    (h : Post k P res) (hr : res = .err e s) : WFSt s ∧ k ≤ s.store.size := by
  subst hr; exact h

theorem wf_evalN_ok {n : Nat} {e : Datum} {ρ : Env} {st s : St} {v : Val} (hst : WFSt st)
    (hρ : EnvOK st.store.size ρ) (h : (evalN n).eval e ρ st = .ok v s) :
    WFSt s ∧ st.store.size ≤ s.store.size ∧ ValOK s.store.size v :=
  (post_evalN n e ρ st hst hρ).ok h

theorem wf_evalN_err {n : Nat} {e : Datum} {ρ : Env} {st s : St} {c : ErrClass} (hst : WFSt st)
    (hρ : EnvOK st.store.size ρ) (h : (evalN n).eval e ρ st = .err c s) :
    WFSt s ∧ st.store.size ≤ s.store.size :=
  (post_evalN n e ρ st hst hρ).err h

theorem wf_applyN_ok {n : Nat} {f : Val} {args : List Val} {st s : St} {v : Val} (hst : WFSt st)
    (hf : ValOK st.store.size f) (ha : ∀ a ∈ args, ValOK st.store.size a)
    (h : (evalN n).apply f args st = .ok v s) :
    WFSt s ∧ st.store.size ≤ s.store.size ∧ ValOK s.store.size v :=
  (post_applyN n f args st hst hf ha).ok h

theorem wf_applyN_err {n : Nat} {f : Val} {args : List Val} {st s : St} {c : ErrClass} (hst : WFSt st)
    (hf : ValOK st.store.size f) (ha : ∀ a ∈ args, ValOK st.store.size a)
    (h : (evalN n).apply f args st = .err c s) : WFSt s ∧ st.store.size ≤ s.store.size :=
  (post_applyN n f args st hst hf ha).err h

theorem wf_evalTop_ok {n : Nat} {d : Datum} {st s : St} {v : Val} (hst : WFSt st)
    (h : evalTop (evalN n) d st = .ok v s) :
    WFSt s ∧ st.store.size ≤ s.store.size ∧ ValOK s.store.size v :=
  (post_evalTop n d st hst).ok h

theorem wf_evalTop_err {n : Nat} {d : Datum} {st s : St} {c : ErrClass} (hst : WFSt st)
    (h : evalTop (evalN n) d st = .err c s) : WFSt s ∧ st.store.size ≤ s.store.size :=
  (post_evalTop n d st hst).err h

theorem pres_evalN (n : Nat) (e : Datum) : Pres ((evalN n).eval e []) ValOK :=
  ((recWF_evalN n).eval 0 e [] (by simp)).pres

theorem pres_evalTopN (n : Nat) (d : Datum) : Pres (evalTop (evalN n) d) ValOK :=
  (pres_evalTop (n0 := 0) (recWF_evalN n) d).pres

theorem wf_initSt : WFSt initSt := by
  refine ⟨?_, ?_⟩
  · intro l c h; simp [initSt] at h
  · intro y v h
    obtain ⟨p, rfl⟩ := lookup_initGlobals y v h
    trivial

theorem wf_runForm (n : Nat) (d : Datum) (st : St) (hst : WFSt st) :
    match (runForm n d st).2 with
    | some s => WFSt s ∧ st.store.size ≤ s.store.size
    | none => True := by
  have h := wf_evalTop n d st hst
  unfold runForm
  cases h1 : evalTop (evalN n) d st with
  | ok v s => simp only [h1] at h; exact ⟨h.1, h.2.1⟩
  | err e s => simp only [h1] at h; exact h
  | timeout => trivial

theorem wf_runSession (n : Nat) : ∀ (ds : List Datum) (st : St), WFSt st →
    match (runSession n ds st).2 with
    | some s => WFSt s ∧ st.store.size ≤ s.store.size
    | none => True
  | [], st, hst => by simp [runSession, hst]
  | d :: ds, st, hst => by
    have h1 := wf_runForm n d st hst
    simp only [runSession]
    cases ha : runForm n d st with
    | mk ra sa =>
      cases sa with
      | none => simp
      | some s =>
        simp only [ha] at h1
        have h2 := wf_runSession n ds s h1.1
        simp only
        cases hb : (runSession n ds s).2 with
        | none => trivial
        | some s' =>
          simp only [hb] at h2
          exact ⟨h2.1, Nat.le_trans h1.2 h2.2⟩

end Marwood.Spec.Eval
