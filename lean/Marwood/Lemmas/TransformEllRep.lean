import Marwood.Lemmas.TransformEllInst
import Marwood.Lemmas.TransformEllKeys
/-!
# The specification on an ellipsis group: `inst` on list templates, `instRep` with one ellipsis, and
`repBinds` under the correspondence `Corr` between the matcher's flat environment and the spec's bindings
-/
namespace Marwood.Transform
open Marwood Marwood.Spec.Match

/-- `B` the matcher's environment, `bs` the spec's bindings, `ev` the ellipsis variables (depth 1) -/
structure Corr (pat : Pattern) (ev : List Text) (B : Bindings) (bs : Binds) : Prop where
  exp : ∀ x, pat.isExpandedVariable (.sym x) = decide (x ∈ ev)
  notVar : ∀ x, pat.isVariable (.sym x) = false → bs.lookup x = none ∧ x ∉ ev
  plainVar : ∀ x, pat.isVariable (.sym x) = true → x ∉ ev →
      ∃ d, bs.lookup x = some (.one d) ∧ proj (.sym x) B = [d]
  ellVar : ∀ x, x ∈ ev → pat.isVariable (.sym x) = true ∧
      bs.lookup x = some (.many ((proj (.sym x) B).map MTree.one))

theorem leadEll_ofList (s : Setup) (ts : List Datum) (h : peekIs s.ell ts = false) :
    leadEll s.ctx (Datum.ofList ts) = 0 := by
  cases ts with
  | nil => rfl
  | cons q qs =>
    simp only [peekIs] at h
    simp [Datum.ofList, leadEll, s.isEllD_eq, h]

theorem isEllD_of_ne (s : Setup) {t : Datum} (ht : t ≠ s.ell) : s.ctx.isEllD t = false := by
  simpa [s.isEllD_eq, Setup.ell] using ht

theorem inst_cons (s : Setup) (t : Datum) (ts : List Datum) (bs : Binds)
    (ht : t ≠ s.ell) (hts : peekIs s.ell ts = false) :
    inst s.ctx false false (Datum.ofList (t :: ts)) bs =
      (match inst s.ctx false false t bs with
       | .ok h =>
         match inst s.ctx false false (Datum.ofList ts) bs with
         | .ok r => .ok (.pair h r)
         | .mismatch => .mismatch
         | .malformed => .malformed
       | .mismatch => .mismatch
       | .malformed => .malformed) := by
  rw [Datum.ofList, Spec.Match.inst_cons _ _ _ _ _ (isEllD_of_ne s ht) (leadEll_ofList s ts hts)]
  cases inst s.ctx false false t bs <;> cases inst s.ctx false false (Datum.ofList ts) bs <;> rfl

theorem inst_group (s : Setup) (t : Datum) (ts : List Datum) (bs : Binds)
    (ht : t ≠ s.ell) (hts : peekIs s.ell ts = false) :
    inst s.ctx false false (Datum.ofList (t :: s.ell :: ts)) bs =
      (match instRep (fun b' => inst s.ctx false false t b') (tmplSyms t) 1 bs with
       | .ok hs =>
         match inst s.ctx false false (Datum.ofList ts) bs with
         | .ok r => .ok (appendSpine hs r)
         | .mismatch => .mismatch
         | .malformed => .malformed
       | .mismatch => .mismatch
       | .malformed => .malformed) := by
  rw [Datum.ofList, Datum.ofList,
    inst_rep _ _ _ _ _ _ (isEllD_of_ne s ht) (isEllD_ell s) (leadEll_ofList s ts hts)]
  cases instRep (fun b' => inst s.ctx false false t b') (tmplSyms t) 1 bs <;>
    cases inst s.ctx false false (Datum.ofList ts) bs <;> rfl

theorem mapMI_pointwise (F : Binds → IRes Datum) :
    ∀ (bsl : List Binds) (ds : List Datum), bsl.length = ds.length →
      (∀ (i : Nat) b d, bsl[i]? = some b → ds[i]? = some d → F b = .ok d) →
      mapMI F bsl = .ok ds := by
  intro bsl
  induction bsl with
  | nil => intro ds hl _; cases ds <;> simp_all [mapMI]
  | cons b bsl ih =>
    intro ds hl h
    cases ds with
    | nil => simp at hl
    | cons d ds =>
      have h0 := h 0 b d (by simp) (by simp)
      have ih' := ih ds (by simpa using hl) (fun i b' d' hb hd => h (i + 1) b' d' (by simpa using hb) (by simpa using hd))
      simp only [mapMI, h0, ih']

theorem instRep_one (F : Binds → IRes Datum) (syms : List Text) (bs : Binds) (bsl : List Binds)
    (ds : List Datum) (hrep : repBinds syms bs = .ok bsl) (hl : bsl.length = ds.length)
    (h : ∀ (i : Nat) b d, bsl[i]? = some b → ds[i]? = some d → F b = .ok d) :
    instRep F syms 1 bs = .ok ds := by
  rw [instRep_one_eq, hrep]
  exact mapMI_pointwise F bsl ds hl h

theorem instRep_mismatch (F : Binds → IRes Datum) (syms : List Text) (bs : Binds)
    (hrep : repBinds syms bs = .mismatch) : instRep F syms 1 bs = .mismatch := by
  rw [instRep]
  simp only [hrep]

def iterBinds (ms : List (Text × List MTree)) (bs : Binds) (i : Nat) : Binds :=
  (ms.filterMap fun m => m.2[i]?.map fun t => (m.1, t)) ++ bs

theorem lookup_iter_hit (tsOf : Text → List MTree) (x : Text) (i : Nat) (t : MTree)
    (hx : (tsOf x)[i]? = some t) : ∀ (ms : List (Text × List MTree)),
    (∀ m ∈ ms, m.2 = tsOf m.1) → x ∈ ms.map Prod.fst →
    (ms.filterMap fun m => m.2[i]?.map fun t => (m.1, t)).lookup x = some t := by
  intro ms
  induction ms with
  | nil => intro _ h; simp at h
  | cons m ms ih =>
    intro hall hmem
    obtain ⟨v, ts⟩ := m
    have hts : ts = tsOf v := hall (v, ts) (by simp)
    by_cases hv : v = x
    · subst hv
      simp only [List.filterMap_cons, hts, hx, Option.map_some]
      simp [List.lookup]
    · have hmem' : x ∈ ms.map Prod.fst := by
        simp only [List.map_cons, List.mem_cons] at hmem
        rcases hmem with h | h
        · exact absurd h.symm hv
        · exact h
      have ih' := ih (fun m hm => hall m (List.mem_cons_of_mem _ hm)) hmem'
      have hb : (x == v) = false := by simp [beq_text]; exact fun e => hv e.symm
      simp only [List.filterMap_cons]
      cases ts[i]? with
      | none => simpa using ih'
      | some t' => simp [List.lookup, hb, ih']

theorem lookup_iter_miss (x : Text) (i : Nat) : ∀ (ms : List (Text × List MTree)),
    x ∉ ms.map Prod.fst →
    (ms.filterMap fun m => m.2[i]?.map fun t => (m.1, t)).lookup x = none := by
  intro ms
  induction ms with
  | nil => intro _; rfl
  | cons m ms ih =>
    intro hmem
    obtain ⟨v, ts⟩ := m
    rw [List.map_cons, List.mem_cons, not_or] at hmem
    rw [List.filterMap_cons]
    cases ts[i]? with
    | none => exact ih hmem.2
    | some t' =>
      show List.lookup x ((v, t') :: _) = none
      rw [List.lookup_cons, beq_eq_false_iff_ne.mpr hmem.1]
      exact ih hmem.2

/-- the `ms` of `repBinds` -/
def repMs (syms : List Text) (b : Binds) : List (Text × List MTree) :=
  syms.eraseDups.filterMap fun v =>
    match b.lookup v with
    | some (.many ts) => some (v, ts)
    | _ => none

theorem repBinds_unfold (syms : List Text) (b : Binds) :
    repBinds syms b =
      (match repMs syms b with
       | [] => .malformed
       | (_, ts0) :: _ =>
         if (repMs syms b).all (fun m => m.2.length == ts0.length) then
           .ok ((List.range ts0.length).map (iterBinds (repMs syms b) b))
         else .mismatch) := rfl

/-- either `mismatch`, or `n` iterations whose bindings give every ellipsis variable of the group its
    `i`-th item and leave the other variables alone -/
theorem repBinds_spec (pat : Pattern) (ev : List Text) (B : Bindings) (bs : Binds)
    (hc : Corr pat ev B bs) (U : Datum) (hne : evSyms ev U ≠ []) :
    repBinds (tmplSyms U) bs = .mismatch ∨
    ∃ (n : Nat) (bj : Nat → Binds),
      repBinds (tmplSyms U) bs = .ok ((List.range n).map bj) ∧
      (∀ x ∈ evSyms ev U, (proj (.sym x) B).length = n) ∧
      (∀ i x d, x ∈ evSyms ev U → (proj (.sym x) B)[i]? = some d → (bj i).lookup x = some (.one d)) ∧
      (∀ i x, x ∉ ev → (bj i).lookup x = bs.lookup x) := by
  let tsOf : Text → List MTree := fun v => (proj (.sym v) B).map MTree.one
  have hms : ∀ m ∈ repMs (tmplSyms U) bs, m.1 ∈ evSyms ev U ∧ m.2 = tsOf m.1 := by
    intro m hm
    obtain ⟨v, hv, hgv⟩ := List.mem_filterMap.mp hm
    have hv' : v ∈ tmplSyms U := List.mem_eraseDups.mp hv
    split at hgv
    · rename_i ts hl
      cases hgv
      have hvev : v ∈ ev := by
        by_cases hvev : v ∈ ev
        · exact hvev
        · exfalso
          cases hvar : pat.isVariable (.sym v) with
          | false => rw [(hc.notVar v hvar).1] at hl; cases hl
          | true =>
            obtain ⟨d, hd, _⟩ := hc.plainVar v hvar hvev
            rw [hd] at hl; cases hl
      refine ⟨by simp [evSyms, hv', hvev], ?_⟩
      have := (hc.ellVar v hvev).2
      rw [this] at hl
      cases hl; rfl
    · cases hgv
  have hin : ∀ x ∈ evSyms ev U, (x, tsOf x) ∈ repMs (tmplSyms U) bs := by
    intro x hx
    simp only [evSyms, List.mem_filter, decide_eq_true_eq] at hx
    refine List.mem_filterMap.mpr ⟨x, List.mem_eraseDups.mpr hx.1, ?_⟩
    simp only [(hc.ellVar x hx.2).2]
    rfl
  rw [repBinds_unfold]
  generalize repMs (tmplSyms U) bs = ms at hms hin
  have hkeys : ∀ x, x ∈ ms.map Prod.fst → x ∈ evSyms ev U := by
    intro x hx
    obtain ⟨m, hm, rfl⟩ := List.mem_map.mp hx
    exact (hms m hm).1
  cases hmseq : ms with
  | nil =>
    exfalso
    obtain ⟨x, hx⟩ := List.exists_mem_of_ne_nil _ hne
    have := hin x hx
    rw [hmseq] at this; cases this
  | cons m0 ms' =>
    obtain ⟨v0, ts0⟩ := m0
    simp only
    rw [← hmseq]
    by_cases hall : (ms.all fun m => m.2.length == ts0.length) = true
    · right
      simp only [hall, if_true]
      refine ⟨ts0.length, iterBinds ms bs, rfl, ?_, ?_, ?_⟩
      · intro x hx
        have := List.all_eq_true.mp hall _ (hin x hx)
        simpa [tsOf] using this
      · intro i x d hx hd
        simp only [iterBinds, List.lookup_append]
        have : (tsOf x)[i]? = some (.one d) := by simp [tsOf, hd]
        rw [lookup_iter_hit tsOf x i (.one d) this ms (fun m hm => (hms m hm).2)
          (List.mem_map.mpr ⟨_, hin x hx, rfl⟩)]
        rfl
      · intro i x hx
        simp only [iterBinds, List.lookup_append]
        have : x ∉ ms.map Prod.fst := by
          intro hm
          have := hkeys x hm
          simp only [evSyms, List.mem_filter, decide_eq_true_eq] at this
          exact hx this.2
        rw [lookup_iter_miss x i ms this]
        rfl
    · left
      simp only [hall, Bool.false_eq_true, if_false]

end Marwood.Transform
