import Marwood.Lemmas.EvalKAgreeForms
/-! # `Spec.EvalK` without `call/cc` is `Spec.Eval` — `map`/`for-each`, top-level forms, `applyStep` -/
namespace Marwood.Lemmas.EvalKAgree
open Marwood Marwood.Spec.Eval Marwood.Spec.EvalK

variable {r : Rec}

theorem sim_map (hr : SimRec r) (isMap : Bool) (g : Val) (κ : Kont) (ks : Array Kont) :
    ∀ (todo : List (List Val)) (done : List Val) (σ : St),
      Sim (mapGo isMap g done todo κ σ ks)
        ((mapApply r g todo >>= fun vs => if isMap then allocList (done.reverse ++ vs) else pure .void) σ) κ ks := by
  intro todo
  induction todo with
  | nil =>
    intro done σ
    cases isMap with
    | false => exact Sim.pure _ _ _ _
    | true =>
      show Sim (withM (allocList done.reverse) σ ks fun v σ' => retTo v κ σ' ks)
        (allocList (done.reverse ++ []) σ) κ ks
      rw [List.append_nil]
      exact sim_withM_ret _ _ _ _
  | cons a as ih =>
    intro done σ
    show Sim (appTo g a (.mapK isMap g done as :: κ) σ ks)
      (((r.apply g a >>= fun v => mapApply r g as >>= fun vs => pure (v :: vs)) >>=
        fun vs => if isMap then allocList (done.reverse ++ vs) else pure .void) σ) κ ks
    rw [M.bind_assoc]
    apply Sim.applyBind hr
    intro v σ' _
    have h := ih (v :: done) σ'
    rw [M.bind_assoc]
    simp only [M.pure_bind]
    show Sim (mapGo isMap g (v :: done) as κ σ' ks) _ κ ks
    simpa [List.reverse_cons, List.append_assoc] using h

theorem sim_topForm (hr : SimRec r) (d : Datum) (σ : St) (κ : Kont) (ks : Array Kont) :
    Sim (topFormGo d κ σ ks) (evalTopForm r d σ) κ ks := by
  unfold topFormGo evalTopForm
  split
  · apply sim_define hr
    intro x v σ'
    exact sim_withM_pure (putGlobal x v) (fun _ => Val.void) σ' κ ks
  · exact hr.eval d [] σ κ ks

theorem sim_topForms (hr : SimRec r) : ∀ (ds : List Datum) (σ : St) (κ : Kont) (ks : Array Kont),
    Sim (topFormsGo ds κ σ ks) (evalTopForms r ds σ) κ ks := by
  intro ds
  induction ds with
  | nil => intro σ κ ks; exact Sim.throw _ _ _ _
  | cons d ds ih =>
    intro σ κ ks
    cases ds with
    | nil => exact sim_topForm hr d σ κ ks
    | cons d2 ds =>
      show Sim (topFormGo d (.topSeqK (d2 :: ds) :: κ) σ ks)
        ((evalTopForm r d >>= fun _ => evalTopForms r (d2 :: ds)) σ) κ ks
      apply Sim.bind (sim_topForm hr d σ (.topSeqK (d2 :: ds) :: κ) ks)
      intro v σ' _
      apply Sim.ret
      exact ih σ' κ ks

theorem sim_top (hr : SimRec r) (d : Datum) (σ : St) (κ : Kont) (ks : Array Kont) :
    Sim (topGo d κ σ ks) (evalTop r d σ) κ ks := by
  unfold topGo evalTop
  split
  · dsimp only
    split
    · split
      · rename_i hp; rw [hp]; exact sim_topForms hr _ σ κ ks
      · rename_i hp; rw [hp]; exact Sim.throw _ _ _ _
    · exact sim_topForm hr _ σ κ ks
  · rename_i h1
    split
    · exact absurd rfl (h1 _ _)
    · exact sim_topForm hr _ σ κ ks

/-- `applyStep`; the body of a closure is the hypothesis `hbody`, discharged by `sim_body` (`EvalKAgreeBody.lean`) in
    `simRec_step` -/
theorem sim_applyGo (hr : SimRec r)
    (hbody : ∀ (ρ : Env) (body : List Datum) (σ : St) (κ : Kont) (ks : Array Kont),
      Sim (bodyGo ρ body κ σ ks) (evalBody r ρ body σ) κ ks)
    (f : Val) (args : List Val) (σ : St) (κ : Kont) (ks : Array Kont) :
    Sim (applyGo f args κ σ ks) (applyStep r f args σ) κ ks := by
  unfold applyGo applyStep
  split
  · dsimp only
    apply Sim.withM
    intro ρ' σ' _
    exact hbody _ _ _ _ _
  · dsimp only
    split
    · dsimp only
      apply Sim.withM
      intro xs σ' _
      exact hr.apply _ _ _ _ _
    · rename_i h1
      split
      · exact absurd rfl (h1 _ _ _)
      · exact Sim.throw _ _ _ _
  · dsimp only
    split
    · dsimp only
      apply Sim.withM
      intro d σ' _
      exact sim_top hr d σ' κ ks
    · rename_i h1
      split
      · exact absurd rfl (h1 _)
      · exact Sim.throw _ _ _ _
  · dsimp only
    split
    · dsimp only
      apply Sim.withM
      intro c σ' _
      split
      · exact Sim.pure _ _ _ _
      · dsimp only
        apply Sim.applyBind hr
        intro v σ'' _
        show Sim (withM (readCell _) σ'' ks fun c σ' =>
            match c with
            | .promise true w => retTo w κ σ' ks
            | _ => withM (writeCell _ (.promise true v)) σ' ks fun _ σ'' => retTo v κ σ'' ks) _ κ ks
        apply Sim.withM
        intro c2 σ3 _
        split
        · exact Sim.pure _ _ _ _
        · rename_i h2
          split
          · exact absurd rfl (h2 _)
          · exact sim_withM_pure _ (fun _ => v) σ3 κ ks
      · rename_i h1 h2
        split
        · exact absurd rfl (h1 _)
        · exact absurd rfl (h2 _)
        · exact Sim.throw _ _ _ _
    · rename_i hd h1
      cases hd <;> first | exact absurd rfl (h1 _) | exact Sim.throw _ _ _ _
    · rename_i h1 h2
      split
      · exact absurd rfl (h1 _)
      · exact absurd rfl (h2 _)
      · exact Sim.throw _ _ _ _
  · dsimp only
    split
    · dsimp only
      apply Sim.withM
      intro lists σ' _
      exact sim_map hr true _ κ ks _ [] σ'
    · rename_i h1
      split
      · exact absurd rfl (h1 _ _ _)
      · exact Sim.throw _ _ _ _
  · dsimp only
    split
    · dsimp only
      apply Sim.withM
      intro lists σ' _
      exact sim_map hr false _ κ ks _ [] σ'
    · rename_i h1
      split
      · exact absurd rfl (h1 _ _ _)
      · exact Sim.throw _ _ _ _
  · rename_i p h1 h2 h3 h4 h5
    cases p <;> first | exact sim_withM_ret _ _ _ _ | contradiction
  · rename_i h0 h1 h2 h3 h4 h5 h6
    split
    · exact absurd rfl (h0 _ _ _ _)
    · exact absurd rfl h1
    · exact absurd rfl h2
    · exact absurd rfl h3
    · exact absurd rfl h4
    · exact absurd rfl h5
    · exact absurd rfl (h6 _)
    · exact Sim.throw _ _ _ _

end Marwood.Lemmas.EvalKAgree
