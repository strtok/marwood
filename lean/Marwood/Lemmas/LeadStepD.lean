import Marwood.Lemmas.LeadStepA
/-!
# "No value leads to a code object of class `K`" across `run_one`: TCALL of a procedure, ENTER

TCALL leaves heap and `acc`; its two copy loops move cells at or below the old `sp`. ENTER pushes a `BasePtr`; a closure's
activation environment is built from cells at or below `bp + 1` (`makeActivation_res`).
-/
namespace Marwood.Lemmas.Lead
open Marwood.Lemmas.Good Marwood Marwood.Vm Marwood.Vm.Verify Marwood.Vm.Concrete Marwood.Lemmas.Sim
open Marwood.Heap (GcState)

variable {I : Spec}
open StepC

theorem SM.getOffset {h : CHeap} {st : Stack} {B : Nat} (x : SM I h st B) {off : Int} {v : VCell}
    (hg : st.getOffset off = .ok v) (hoff : off ≤ 0) : ne I h v = true := by
  unfold Stack.getOffset at hg
  simp only at hg
  split at hg
  · exact x.get hg (.inr (by omega))
  · cases hg

theorem tcallCopySame_sm {h : CHeap} {B : Nat} :
    ∀ (k it bp : Nat) (st st' : Stack), tcallCopySame k it bp st = .ok st' → SM I h st B →
      SM I h st' B ∧ st'.sp = st.sp := by
  intro k
  induction k with
  | zero =>
    intro it bp st st' hc x
    simp only [tcallCopySame] at hc
    cases hc
    exact ⟨x, rfl⟩
  | succ k ih =>
    intro it bp st st' hc x
    simp only [tcallCopySame] at hc
    obtain ⟨v, hv, hc⟩ := bind_inv hc
    obtain ⟨i, _, hc⟩ := bind_inv hc
    obtain ⟨st1, hs1, hc⟩ := bind_inv hc
    have hne : ne I h v = true := x.getOffset hv (by omega)
    obtain ⟨r1, r2⟩ := ih (it + 1) bp st1 st' hc (x.set hne hs1)
    exact ⟨r1, by rw [r2, set_sp hs1]⟩

theorem tcallCopyDiff_sm {h : CHeap} {B : Nat} :
    ∀ (it savedSp : Nat) (st st' : Stack), tcallCopyDiff it savedSp st = .ok st' → SM I h st B → savedSp ≤ B →
      SM I h st' B := by
  intro it
  induction it with
  | zero =>
    intro savedSp st st' hc x _
    simp only [tcallCopyDiff] at hc
    cases hc
    exact x
  | succ it ih =>
    intro savedSp st st' hc x hb
    simp only [tcallCopyDiff] at hc
    obtain ⟨i, hi, hc⟩ := bind_inv hc
    obtain ⟨v, hv, hc⟩ := bind_inv hc
    obtain ⟨_, e⟩ := usub_ok hi
    have hne : ne I h v = true := x.get hv (.inl (by omega))
    exact ih savedSp (st.push v) st' hc (x.push hne) hb

theorem tcallStack_sm {h : CHeap} {bp argc : Nat} {stk st : Stack} (x : SM I h stk stk.sp) (hfl : bp + 4 ≤ stk.sp)
    (t : TcallStack bp stk argc st) : SM I h st stk.sp := by
  cases t with
  | same hst => exact (tcallCopySame_sm argc 0 bp stk _ hst x).1.cut (.inl (by omega))
  | diff hep hip hle hst =>
    have nEp := x _ _ (.inl (by omega)) hep
    have nIp := x _ _ (.inl (by omega)) hip
    have x1 := tcallCopyDiff_sm argc stk.sp _ _ hst (x.cut (.inl (by omega))) (Nat.le_refl _)
    exact ((x1.push (v := .argc argc) rfl).push nEp).push nIp

theorem pv_enter {ext : ExtOps} {s0 s' : St CHeap} {b : Bool} (lf : LF s0.heap) (p : PInv I s0)
    (hx : exec (concreteOps ext) .enter (nx s0) = .ok (s', b)) : PInv I s' := by
  have hsm : SM I s0.heap (s0.stack.push (.basePtr s0.bp)) s0.stack.sp := p.sm.push (v := .basePtr s0.bp) rfl
  obtain ⟨lam, l, _, _, _, ⟨_, _, rfl⟩ | ⟨env, h', e, _, hma, rfl⟩⟩ := enter_effect hx
  · exact p.mk' rfl p.acc hsm
  · have r : OpRes I s0.heap h' := makeActivation_res lf p.hp (fun i v hi hv => hsm i v (.inl (by omega)) hv) hma
    exact PInv.mkRes (s := s0) r (r.ne p.acc) hsm

end Marwood.Lemmas.Lead
