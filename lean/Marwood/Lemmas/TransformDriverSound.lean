import Marwood.Lemmas.TransformDriver
/-!
# The expansion driver is sound against `Spec.ExpandAll` on guarded forms (lock-step induction)
-/
namespace Marwood.Transform
open Marwood Marwood.Spec.Match Marwood.Spec.ExpandAll

def StepSound (M : MacroTable) : Prop :=
  ∀ s t u e, M.lookup s = some t → useOK ⟨ctxOf t, specRules t⟩ u = true →
    t.transform (useFuelT t u) u = .ok e → specExpand (ctxOf t) (specRules t) u = .ok e

@[simp] theorem all_uses : GuardSel.all.uses = true := rfl
@[simp] theorem all_binders : GuardSel.all.binders = true := rfl
@[simp] theorem all_templates : GuardSel.all.templates = true := rfl

section
variable (M : MacroTable) (re : Datum → Res Datum) (sre : STable → Datum → XRes)
  (gre : STable → Datum → Bool)

def Lock (d : Datum) : Prop :=
  (∀ e, gx .all gre (specTable M) d = true → walk M re d = .ok e → sx sre (specTable M) d = .ok e) ∧
  (∀ e, gxList .all gre (specTable M) d = true → walkList M re d = .ok e →
    sxList sre (specTable M) d = .ok e) ∧
  (∀ k e, gxQQ .all gre (specTable M) k d = true → walkQQ M re k d = .ok e →
    sxQQ sre (specTable M) k d = .ok e) ∧
  (∀ k e, gxQQVec .all gre (specTable M) k d = true → walkQQSpine M re k d = .ok e →
    sxQQVec sre (specTable M) k d = .ok e)

variable (hS : StepSound M)
  (hR : ∀ e e', gre (specTable M) e = true → re e = .ok e' → sre (specTable M) e = .ok e')
include hS hR

omit hS hR in
theorem lock_atom {d : Datum} (h : d.isPair = false) (h' : isVec d = false) : Lock M re sre gre d := by
  refine ⟨fun e _ hw => ?_, fun e _ hw => ?_, fun k e _ hw => ?_, fun k e _ hw => ?_⟩
  · rw [walk_nonpair M re h] at hw; rw [sx_nonpair sre _ h]; cases hw; rfl
  · rw [walkList_nonpair M re h] at hw; rw [sxList_nonpair sre _ h]; cases hw; rfl
  · rw [walkQQ_atom M re k h h'] at hw; rw [sxQQ_atom sre _ k h h']; cases hw; rfl
  · rw [walkQQSpine_nonpair M re k h] at hw; rw [sxQQVec_nonpair sre _ k h]; cases hw; rfl

omit hS hR in
theorem lock_elements {a r : Datum} (La : Lock M re sre gre a) (Lr : Lock M re sre gre r) (e : Datum)
    (hg : (gx .all gre (specTable M) a && gxList .all gre (specTable M) r) = true)
    (hw : ((walk M re a).bind fun h => (walkList M re r).bind fun r' => .ok (.pair h r')) = .ok e) :
    ((sx sre (specTable M) a).bind fun h => (sxList sre (specTable M) r).bind fun r' => .ok (.pair h r'))
      = .ok e := by
  rw [Bool.and_eq_true] at hg
  obtain ⟨h, hh, hw⟩ := Res.bind_eq_ok.mp hw
  obtain ⟨r', hr, hw⟩ := Res.bind_eq_ok.mp hw
  cases hw
  rw [La.1 h hg.1 hh, XRes.bind_ok, Lr.2.1 r' hg.2 hr, XRes.bind_ok]

theorem lock_pair (n : Nat) (ih : ∀ d, dsize d ≤ n → Lock M re sre gre d) (a r : Datum)
    (hd : dsize (.pair a r) ≤ n + 1) : Lock M re sre gre (.pair a r) := by
  rw [dsize_pair] at hd
  have La := ih a (by omega)
  have Lr := ih r (by omega)
  have hlist : ∀ e, gxList .all gre (specTable M) (.pair a r) = true → walkList M re (.pair a r) = .ok e →
      sxList sre (specTable M) (.pair a r) = .ok e := by
    intro e hg hw
    rw [gxList] at hg; rw [walkList] at hw; rw [sxList]
    exact lock_elements M re sre gre La Lr e hg hw
  have hspine : ∀ k e, gxQQVec .all gre (specTable M) k (.pair a r) = true →
      walkQQSpine M re k (.pair a r) = .ok e → sxQQVec sre (specTable M) k (.pair a r) = .ok e := by
    intro k e hg hw
    rw [gxQQVec, Bool.and_eq_true] at hg; rw [walkQQSpine] at hw; rw [sxQQVec]
    obtain ⟨x', hx, hw⟩ := Res.bind_eq_ok.mp hw
    obtain ⟨r', hr, hw⟩ := Res.bind_eq_ok.mp hw
    cases hw
    rw [La.2.2.1 k x' hg.1 hx, XRes.bind_ok, Lr.2.2.2 k r' hg.2 hr, XRes.bind_ok]
  refine ⟨?_, hlist, ?_, hspine⟩
  · intro e
    rw [gx_pair, walk_pair, sx_pair, sxKind_specTable]
    cases hk : pairKind M a r with
    | asIs => intro _ hw; cases hw; rfl
    | quasi tpl r' =>
      intro hg hw
      rw [pairKind_quasi hk, dsize_pair] at hd
      obtain ⟨t', ht, hw⟩ := Res.bind_eq_ok.mp hw
      cases hw
      simp only [PairKind.toSx, sxBy, (ih tpl (by omega)).2.2.1 0 t' hg ht, XRes.bind_ok]
    | use t =>
      intro hg hw
      obtain ⟨s, rfl, hl⟩ := pairKind_use hk
      simp only [PairKind.toSx, gxBy, all_uses, Bool.not_true, Bool.false_or, Bool.and_eq_true] at hg
      obtain ⟨e0, ht, hre⟩ := Res.bind_eq_ok.mp hw
      have hsp := hS s t _ e0 hl hg.1 ht
      rw [hsp] at hg
      simp only [PairKind.toSx, sxBy, useOnce, hsp, XRes.bind_ok]
      exact hR e0 e hg.2 hre
    | elems =>
      -- where the driver transforms every element the specification may see a binding form
      simp only [PairKind.toSx]
      have hi := binderKind_inv a r
      revert hi
      cases binderKind a r with
      | binder target body =>
        intro ⟨ha, hr⟩ hg hw
        subst hr
        rw [dsize_pair] at hd
        simp only [gxBy, all_binders, Bool.not_true, Bool.false_or, Bool.and_eq_true, Bool.not_eq_true'] at hg
        rw [walkList, walk_nonpair M re ha, Res.bind_ok', walkList, walk_noMention M re target hg.1,
          Res.bind_ok'] at hw
        obtain ⟨q, hq, hw⟩ := Res.bind_eq_ok.mp hw
        obtain ⟨b, hb1, hq⟩ := Res.bind_eq_ok.mp hq
        cases hq; cases hw
        simp only [sxBy, shadow_id hg.1, (ih body (by omega)).2.1 b hg.2 hb1, XRes.bind_ok]
      | binderAtom =>
        intro ⟨ha, hr⟩ _ hw
        rw [walkList, walk_nonpair M re ha, Res.bind_ok', walkList_nonpair M re hr, Res.bind_ok'] at hw
        cases hw; rfl
      | all => exact fun _ => hlist e
  · intro k e
    rw [gxQQ_pair, walkQQ_pair, sxQQ_pair]
    cases hk : qqKind a r k with
    | unquote0 u rest =>
      intro hg hw
      rw [qqKind_unquote0 hk, dsize_pair] at hd
      obtain ⟨u', hu, hw⟩ := Res.bind_eq_ok.mp hw
      cases hw
      simp only [(ih u (by omega)).1 u' hg hu, XRes.bind_ok]
    | unquote0Atom => intro _ hw; cases hw; rfl
    | elems k' kw =>
      cases kw with
      | true =>
        intro hg hw
        obtain ⟨s, rfl⟩ := qqKind_kw hk
        simp only [all_templates, Bool.not_true, Bool.false_or, Bool.and_eq_true] at hg
        have ha : walkQQ M re k' (.sym s) = .ok (.sym s) := walkQQ_atom M re k' rfl rfl
        simp only [walkQQSpine, ha, Res.bind_ok'] at hw
        obtain ⟨d', hd', hw⟩ := Res.bind_eq_ok.mp hw
        cases hw
        simp only [sxQQ_eq_vec sre _ k' r hg.1, Lr.2.2.2 k' d' hg.2 hd', XRes.bind_ok]
      | false =>
        intro hg hw
        simp only [all_templates, Bool.not_true, Bool.false_or, Bool.and_eq_true] at hg
        have h := hspine k' e (by rw [gxQQVec, hg.1.2, hg.2]; rfl) hw
        rw [sxQQVec] at h
        simp only [sxQQ_eq_vec sre _ k' r hg.1.1, h]

theorem lock_all : ∀ n d, dsize d ≤ n → Lock M re sre gre d := by
  intro n
  induction n with
  | zero => intro d hd; cases d <;> simp [dsize] at hd
  | succ n ih =>
    intro d hd
    cases d with
    | pair a r => exact lock_pair M re sre gre hS hR n ih a r hd
    | vec el =>
      rw [dsize_vec] at hd
      have Le := ih el (by omega)
      refine ⟨fun e _ hw => ?_, fun e _ hw => ?_, fun k e hg hw => ?_, fun k e _ hw => ?_⟩
      · rw [walk_nonpair M re rfl] at hw; rw [sx_nonpair sre _ rfl]; cases hw; rfl
      · rw [walkList_nonpair M re rfl] at hw; rw [sxList_nonpair sre _ rfl]; cases hw; rfl
      · rw [gxQQ] at hg; rw [walkQQ] at hw; rw [sxQQ]
        obtain ⟨e', he, hw⟩ := Res.bind_eq_ok.mp hw
        cases hw
        rw [Le.2.2.2 k e' hg he, XRes.bind_ok]
      · rw [walkQQSpine_nonpair M re k rfl] at hw; rw [sxQQVec_nonpair sre _ k rfl]; cases hw; rfl
    | _ => exact lock_atom M re sre gre rfl rfl
end

/-- **the driver is sound on guarded forms**, given that every expansion step on a guarded use is the
    specification's (`StepSound`) -/
theorem expandForm_sound (M : MacroTable) (hS : StepSound M) :
    ∀ (f : Nat) (d e : Datum), expandGuard f (specTable M) d = true →
      expandForm M f d = .ok e → specExpandAll f (specTable M) d = .ok e := by
  intro f
  induction f with
  | zero =>
    intro d e hg hw
    exact (lock_all M _ _ _ hS (fun e e' _ h => by cases h) (dsize d) d (Nat.le_refl _)).1 e hg hw
  | succ f ih =>
    intro d e hg hw
    exact (lock_all M _ _ _ hS (fun e e' hg h => ih e e' hg h) (dsize d) d (Nat.le_refl _)).1 e hg hw

end Marwood.Transform
