import Marwood.Lemmas.Symbol
import Marwood.Lemmas.Parse
/-!
# Printed atoms decode to themselves (C10): string escapes, character spellings

Both tables are stated once by cases, read from the decoder's side (`escapeStrChar_cases`, `writeEscapedChar_cases`);
that `parse_string` and `parse_char` invert them, and that the scanner finds the closing quote of a written string
(`QuoteFree`), is a case split on one of them.
-/
namespace Marwood

theorem char_eq_of_toNat {c : Char} {n : Nat} (h : c.toNat = n) : c = Char.ofNat n := by
  rw [← h, Char.ofNat_toNat]

theorem unescapeGo_esc1 (l : Char) (hl : l ≠ 'x') (rest : Text) :
    unescapeGo .norm ('\\' :: l :: rest) = consRes (escapeChar l) (unescapeGo .norm rest) := by
  rw [unescapeGo]
  simp only [if_true]
  rw [unescapeGo]
  simp only [hl, if_false]
  cases unescapeGo .norm rest <;> rfl

/-- The escape table of `cell.rs:445-455` from the decoder's side: a backslash and a letter that `escapeChar` sends
back to `c`, the hex escape of a control character, or `c` itself. -/
theorem escapeStrChar_cases (c : Char) :
    (∃ l, l ≠ 'x' ∧ escapeChar l = c ∧ escapeStrChar c = ['\\', l]) ∨
    (isControl c = true ∧ escapeStrChar c = '\\' :: 'x' :: (hexOf c ++ [';'])) ∨
    (c ≠ '"' ∧ c ≠ '\\' ∧ escapeStrChar c = [c]) := by
  unfold escapeStrChar
  by_cases h0 : c = '"' ∨ c = '\\'
  · rw [if_pos h0]
    refine .inl ⟨c, ?_, ?_, rfl⟩ <;> rcases h0 with h | h <;> subst h <;> decide
  rw [if_neg h0]
  by_cases h : c = '\t'
  · rw [if_pos h]; exact .inl ⟨'t', by decide, by subst h; decide, rfl⟩
  rw [if_neg h]
  by_cases h : c = '\n'
  · rw [if_pos h]; exact .inl ⟨'n', by decide, by subst h; decide, rfl⟩
  rw [if_neg h]
  by_cases h : c = '\r'
  · rw [if_pos h]; exact .inl ⟨'r', by decide, by subst h; decide, rfl⟩
  rw [if_neg h]
  by_cases h : c.toNat = 0x1b
  · rw [if_pos h]; exact .inl ⟨'e', by decide, (char_eq_of_toNat h).symm, rfl⟩
  rw [if_neg h]
  by_cases h : c.toNat = 0x7
  · rw [if_pos h]; exact .inl ⟨'a', by decide, (char_eq_of_toNat h).symm, rfl⟩
  rw [if_neg h]
  by_cases h : c.toNat = 0x8
  · rw [if_pos h]; exact .inl ⟨'b', by decide, (char_eq_of_toNat h).symm, rfl⟩
  rw [if_neg h]
  by_cases h : c.toNat = 0xb
  · rw [if_pos h]; exact .inl ⟨'v', by decide, (char_eq_of_toNat h).symm, rfl⟩
  rw [if_neg h]
  by_cases h : c.toNat = 0xc
  · rw [if_pos h]; exact .inl ⟨'f', by decide, (char_eq_of_toNat h).symm, rfl⟩
  rw [if_neg h]
  by_cases h : isControl c = true
  · rw [if_pos h]; exact .inr (.inl ⟨h, rfl⟩)
  rw [if_neg h]
  exact .inr (.inr ⟨fun e => h0 (.inl e), fun e => h0 (.inr e), rfl⟩)

theorem escapeStrChar_decodes (c : Char) (rest : Text) :
    unescapeGo .norm (escapeStrChar c ++ rest) = consRes c (unescapeGo .norm rest) := by
  rcases escapeStrChar_cases c with ⟨l, hl, rfl, h⟩ | ⟨-, h⟩ | ⟨-, hc, h⟩ <;> rw [h]
  · exact unescapeGo_esc1 l hl rest
  · rw [List.cons_append, List.cons_append, List.append_assoc]
    exact unescapeGo_hexEscape c rest
  · exact unescapeGo_norm_plain hc rest

theorem unescapeGo_escapeStr (s : Text) : unescapeGo .norm (escapeStr s) = .ok s := by
  induction s with
  | nil => rfl
  | cons c cs ih =>
    simp only [escapeStr]
    rw [escapeStrChar_decodes, ih]
    rfl

theorem parseString_escapeStr (s : Text) : parseString (escapeStr s) = .ok (.str s) := by
  unfold parseString
  rw [unescapeGo_escapeStr]

/-- the scanner of `scan_string` sees no closing quote in the text and ends outside an escape -/
def QuoteFree : Bool → Text → Prop
  | esc, [] => esc = false
  | esc, c :: cs => ¬ (c = '"' ∧ esc = false) ∧ QuoteFree (c == '\\' && !esc) cs

theorem quoteFree_append : ∀ (a b : Text) (esc : Bool), QuoteFree esc a → QuoteFree false b →
    QuoteFree esc (a ++ b) := by
  intro a
  induction a with
  | nil => intro b esc ha hb; simp only [QuoteFree] at ha; subst ha; exact hb
  | cons c cs ih =>
    intro b esc ha hb
    simp only [List.cons_append, QuoteFree] at ha ⊢
    exact ⟨ha.1, ih b _ ha.2 hb⟩

theorem quoteFree_of_plain : ∀ (ds : Text), (∀ x ∈ ds, x ≠ '"' ∧ x ≠ '\\') → QuoteFree false ds := by
  intro ds
  induction ds with
  | nil => intro _; rfl
  | cons c cs ih =>
    intro h
    have hc := h c (by simp)
    simp only [QuoteFree]
    refine ⟨fun x => hc.1 x.1, ?_⟩
    have : (c == '\\' && !false) = false := by simp [hc.2]
    rw [this]
    exact ih fun x hx => h x (by simp [hx])

theorem digitChar_not_quote : ∀ d, d < 16 → digitChar d ≠ '"' ∧ digitChar d ≠ '\\' := by decide

theorem hexOf_plainChars (c : Char) : ∀ x ∈ hexOf c, x ≠ '"' ∧ x ≠ '\\' :=
  natDigits_forall (by omega) digitChar_not_quote _

theorem escapeStrChar_quoteFree (c : Char) : QuoteFree false (escapeStrChar c) := by
  rcases escapeStrChar_cases c with ⟨l, -, -, h⟩ | ⟨-, h⟩ | ⟨h1, h2, h⟩ <;> rw [h]
  · -- after a backslash any letter may stand
    simp [QuoteFree]
  · have h1 : QuoteFree false (hexOf c ++ [';']) :=
      quoteFree_append _ _ _ (quoteFree_of_plain _ (hexOf_plainChars c)) (by simp [QuoteFree])
    simpa [QuoteFree] using h1
  · simp [QuoteFree, h1, h2]

theorem escapeStr_quoteFree (s : Text) : QuoteFree false (escapeStr s) := by
  induction s with
  | nil => rfl
  | cons c cs ih =>
    simp only [escapeStr]
    exact quoteFree_append _ _ _ (escapeStrChar_quoteFree c) ih

theorem stringTail_quoteFree : ∀ (body : Text) (esc : Bool) (rest : Text), QuoteFree esc body →
    stringTail esc (body ++ '"' :: rest) = some (body ++ ['"'], rest) := by
  intro body
  induction body with
  | nil =>
    intro esc rest h
    simp only [QuoteFree] at h
    subst h
    simp [stringTail]
  | cons c cs ih =>
    intro esc rest h
    simp only [QuoteFree] at h
    simp only [List.cons_append, stringTail]
    have : ¬ ((c == '"' && !esc) = true) := by
      intro x
      simp only [Bool.and_eq_true, beq_iff_eq, Bool.not_eq_eq_eq_not, Bool.not_true] at x
      exact h.1 x
    simp only [this, if_false]
    rw [ih _ rest h.2]
    simp

theorem stringTail_escapeStr (s rest : Text) :
    stringTail false (escapeStr s ++ '"' :: rest) = some (escapeStr s ++ ['"'], rest) :=
  stringTail_quoteFree _ _ _ (escapeStr_quoteFree s)

theorem stringInner_writeString (s : Text) : stringInner (writeString s) = .ok (escapeStr s) :=
  stringInner_quoted _

theorem isControl_iff (c : Char) : isControl c = true ↔ c.toNat ≤ 0x1F ∨ (0x7F ≤ c.toNat ∧ c.toNat ≤ 0x9F) := by
  simp [isControl]

/-- the named arms after the `is_control` guard are never reached: every named character is a control character -/
theorem writeEscapedChar_cases (c : Char) :
    (c = ' ' ∧ writeEscapedChar c = "#\\space".toList) ∨
    (c = '\n' ∧ writeEscapedChar c = "#\\newline".toList) ∨
    (isControl c = true ∧ writeEscapedChar c = '#' :: '\\' :: 'x' :: hexOf c) ∨
    writeEscapedChar c = ['#', '\\', c] := by
  unfold writeEscapedChar
  by_cases h : c = ' '
  · exact .inl ⟨h, if_pos h⟩
  rw [if_neg h]
  by_cases h : c = '\n'
  · exact .inr (.inl ⟨h, if_pos h⟩)
  rw [if_neg h]
  by_cases h : isControl c = true
  · exact .inr (.inr (.inl ⟨h, if_pos h⟩))
  have hn := mt (isControl_iff c).2 h
  rw [if_neg h, if_neg, if_neg, if_neg, if_neg, if_neg, if_neg, if_neg]
  · exact .inr (.inr (.inr rfl))
  all_goals omega

theorem dropBytes_two (a b : Char) (ha : a.utf8Size = 1) (hb : b.utf8Size = 1) (s : Text) :
    dropBytes 2 (a :: b :: s) = some s := by
  simp [dropBytes, ha, hb]

theorem hexOf_all_hex (c : Char) : (hexOf c).all isAsciiHex = true := by
  rw [List.all_eq_true]
  exact natDigits_forall (by omega) (fun d hd => (digitChar_hex d hd).1) _

theorem hexOf_ne_nil (c : Char) : hexOf c ≠ [] := natDigits_ne_nil _ _

theorem parseCharSpan_writeEscapedChar (c : Char) : parseCharSpan (writeEscapedChar c) = .ok (.char c) := by
  rcases writeEscapedChar_cases c with ⟨rfl, h⟩ | ⟨rfl, h⟩ | ⟨-, h⟩ | h <;> rw [h]
  · decide
  · decide
  · -- `#\x<hex>`
    unfold parseCharSpan
    rw [dropBytes_two _ _ (by decide) (by decide)]
    simp only
    cases hh : hexOf c with
    | nil => exact absurd hh (hexOf_ne_nil c)
    | cons d ds =>
      have hall := hexOf_all_hex c
      rw [hh] at hall
      simp only [hall, if_true]
      have hp : parseNat 16 (d :: ds) = some c.toNat := by
        rw [← hh]; exact parseNat_natDigits (by omega) (by omega) _
      simp only [hp, char_toNat_le_u32Max c, if_true, charOfNat?_toNat]
  · unfold parseCharSpan
    rw [dropBytes_two _ _ (by decide) (by decide)]

end Marwood
