import Marwood.Store.CharOps
import Marwood.Lemmas.Utf8Order
/-!
# The string model against the UTF-8 bytes (C15)

`Store/StringOps.lean` works with `List Char` and prefix sums of `Char.utf8Size`; here its comparison, its slices and
patches and their panic conditions are restated over `Utf8.encodeText`, what the Rust `String` holds.
`cmpText_eq_cmpPoints`: the string model and the UTF-8 model each define the code-point order.
-/
namespace Marwood.Store
open Marwood Outcome
open Marwood.Utf8 (encodeText cmpBytes isCharBoundary)

theorem cmpText_eq_cmpPoints (s t : Text) : cmpText s t = Utf8.cmpPoints s t := by
  induction s generalizing t with
  | nil => cases t <;> rfl
  | cons a as ih =>
    cases t with
    | nil => rfl
    | cons b bs => simp only [cmpText, Utf8.cmpPoints, ih]

/-- `[u8]: Ord`, lexicographic -/
def CmpOp.bytesRel : CmpOp → List Nat → List Nat → Prop
  | .eq, u, v => u = v
  | .lt, u, v => u < v
  | .gt, u, v => v < u
  | .le, u, v => u ≤ v
  | .ge, u, v => v ≤ u

instance (op : CmpOp) (u v : List Nat) : Decidable (op.bytesRel u v) := by
  cases op <;> unfold CmpOp.bytesRel <;> infer_instance

theorem CmpOp.holds_cmpBytes (op : CmpOp) (u v : List Nat) :
    op.holds (cmpBytes u v) = true ↔ op.bytesRel u v := by
  have hlt := Utf8.cmpBytes_lt_iff u v
  have hgt := Utf8.cmpBytes_gt_iff u v
  have heq := Utf8.cmpBytes_eq_iff u v
  cases op <;> simp only [CmpOp.holds, CmpOp.bytesRel, beq_iff_eq, bne_iff_ne, ne_eq]
  · exact heq
  · exact hlt
  · exact hgt
  · rw [← List.not_lt, ← hgt]
  · rw [← List.not_lt, ← hlt]

theorem strSlice_ok_iff (cs : Text) (a b : Nat) :
    (∃ r, strSlice cs a b = .ok r) ↔
      a ≤ b ∧ isCharBoundary (encodeText cs) a = true ∧ isCharBoundary (encodeText cs) b = true := by
  have h := Utf8.sliceBytes_isSome a b cs
  unfold strSlice
  cases hs : sliceBytes a b cs with
  | none =>
    rw [hs] at h
    simp only [Option.isSome_none] at h
    have h' := h.symm
    simp only [Bool.and_eq_false_iff, decide_eq_false_iff_not] at h'
    constructor
    · rintro ⟨r, hr⟩; cases hr
    · rintro ⟨h1, h2, h3⟩
      rcases h' with (h' | h') | h'
      · exact absurd h1 h'
      · rw [h2] at h'; cases h'
      · rw [h3] at h'; cases h'
  | some r =>
    rw [hs] at h
    simp only [Option.isSome_some] at h
    have h' := h.symm
    simp only [Bool.and_eq_true, decide_eq_true_eq] at h'
    exact ⟨fun _ => ⟨h'.1.1, h'.1.2, h'.2⟩, fun _ => ⟨r, rfl⟩⟩

theorem strSlice_bytes {cs r : Text} {a b : Nat} (h : strSlice cs a b = .ok r) :
    encodeText r = ((encodeText cs).drop a).take (b - a) := by
  unfold strSlice at h
  cases hs : sliceBytes a b cs with
  | none => rw [hs] at h; cases h
  | some r' =>
    rw [hs] at h
    cases h
    exact Utf8.sliceBytes_encode hs

theorem replaceRange_ok_iff (cs new : Text) (a b : Nat) :
    (∃ r, replaceRange cs a b new = .ok r) ↔
      a ≤ b ∧ isCharBoundary (encodeText cs) a = true ∧ isCharBoundary (encodeText cs) b = true := by
  have h1 := Utf8.takeBytes_isSome a cs
  have h2 := Utf8.dropBytes_isSome b cs
  unfold replaceRange
  by_cases hab : a ≤ b
  · simp only [hab, if_true, true_and]
    cases ht : takeBytes a cs with
    | none =>
      rw [ht] at h1
      simp only [Option.isSome_none] at h1
      constructor
      · rintro ⟨r, hr⟩; cases hr
      · rintro ⟨h, _⟩; rw [h] at h1; cases h1
    | some pre =>
      rw [ht] at h1
      cases hd : dropBytes b cs with
      | none =>
        rw [hd] at h2
        simp only [Option.isSome_none] at h2
        constructor
        · rintro ⟨r, hr⟩; cases hr
        · rintro ⟨_, h⟩; rw [h] at h2; cases h2
      | some post =>
        rw [hd] at h2
        exact ⟨fun _ => ⟨h1.symm, h2.symm⟩, fun _ => ⟨_, rfl⟩⟩
  · simp only [hab, if_false, false_and, iff_false]
    rintro ⟨r, hr⟩
    cases hr

theorem replaceRange_bytes {cs new r : Text} {a b : Nat} (h : replaceRange cs a b new = .ok r) :
    encodeText r = (encodeText cs).take a ++ encodeText new ++ (encodeText cs).drop b := by
  unfold replaceRange at h
  split at h
  · split at h
    · rename_i pre post ht hd
      cases h
      rw [Utf8.encodeText_append, Utf8.encodeText_append, Utf8.takeBytes_encode ht,
        Utf8.dropBytes_encode hd]
    · cases h
  · cases h

theorem eq_ofNat_of_toNat {c : Char} {n : Nat} (h : c.toNat = n) : c = Char.ofNat n := by
  rw [← h, Char.ofNat_toNat]

/-- the ASCII fast paths of `char.rs` are Lean's own (ASCII-only) `Char.toUpper` / `toLower` -/
theorem asciiUpper_eq_core (c : Char) : asciiUpper c = c.toUpper := by
  unfold asciiUpper Char.toUpper
  have hc : c.toNat = c.val.toNat := rfl
  by_cases h : 97 ≤ c.toNat ∧ c.toNat ≤ 122
  · have h' : 'a'.val ≤ c.val ∧ c.val ≤ 'z'.val := by
      simp only [UInt32.le_iff_toNat_le]; exact h
    rw [if_pos h, dif_pos h']
    symm
    apply eq_ofNat_of_toNat
    show (c.val + ('A'.val - 'a'.val)).toNat = _
    rw [UInt32.toNat_add]
    have : ('A'.val - 'a'.val).toNat = 4294967264 := by decide
    rw [this, ← hc]
    omega
  · have h' : ¬ ('a'.val ≤ c.val ∧ c.val ≤ 'z'.val) := by
      simp only [UInt32.le_iff_toNat_le]; exact h
    rw [if_neg h, dif_neg h']

theorem asciiLower_eq_core (c : Char) : asciiLower c = c.toLower := by
  unfold asciiLower Char.toLower
  have hc : c.toNat = c.val.toNat := rfl
  by_cases h : 65 ≤ c.toNat ∧ c.toNat ≤ 90
  · have h' : c.val ≥ 'A'.val ∧ c.val ≤ 'Z'.val := by
      simp only [GE.ge, UInt32.le_iff_toNat_le]; exact h
    rw [if_pos h, dif_pos h']
    symm
    apply eq_ofNat_of_toNat
    show (c.val + ('a'.val - 'A'.val)).toNat = _
    rw [UInt32.toNat_add]
    have : ('a'.val - 'A'.val).toNat = 32 := by decide
    rw [this, ← hc]
    omega
  · have h' : ¬ (c.val ≥ 'A'.val ∧ c.val ≤ 'Z'.val) := by
      simp only [GE.ge, UInt32.le_iff_toNat_le]; exact h
    rw [if_neg h, dif_neg h']

end Marwood.Store
