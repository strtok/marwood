import Marwood.Lemmas.EvalExtraSteps
/-!
# The simulation: the special forms, closure bodies and the binding of arguments
-/
namespace Marwood.Spec.Eval.Extra
open Marwood Marwood.Spec.Eval Marwood.Spec.Eval.ExtraJ

variable {f : LMap} {G : List Text} {E : EnvCorr f G} {GL : GlCorr f G E} {J : Junk} {δ : Side} {r r' : Rec} {B : List Text} {ρ ρ' : Env}

inductive BindsRelG (f : LMap) (G : List Text) (E : EnvCorr f G) : List (Text × Val) → List (Text × Val) → Prop
  | nil : BindsRelG f G E [] []
  | cons (x : Text) {v v' : Val} {xs xs'} : VRelG f G E v v' → BindsRelG f G E xs xs' → BindsRelG f G E ((x, v) :: xs) ((x, v') :: xs')

theorem bindsRel_zip : ∀ (names : List Text) {vs vs' : List Val}, VsRelG f G E vs vs' →
    BindsRelG f G E (names.zip vs) (names.zip vs')
  | [], _, _, _ => by simp only [List.zip_nil_left]; exact .nil
  | x :: names, _, _, .nil => by simp only [List.zip_nil_right]; exact .nil
  | x :: names, _, _, .cons hv hvs => by
    simp only [List.zip_cons_cons]
    exact .cons x hv (bindsRel_zip names hvs)

theorem bindsRel_const {α : Type} (g : α → Text) {v : Val} (hv : VRelG f G E v v) : ∀ (xs : List α),
    BindsRelG f G E (xs.map fun a => (g a, v)) (xs.map fun a => (g a, v))
  | [] => .nil
  | a :: xs => .cons (g a) hv (bindsRel_const g hv xs)

theorem bindsRel_undef_pairs : ∀ (bs : List (Text × Datum)),
    BindsRelG f G E (bs.map fun (x, _) => (x, Val.undef)) (bs.map fun (x, _) => (x, Val.undef))
  | [] => .nil
  | (x, _) :: bs => .cons x .undef (bindsRel_undef_pairs bs)

theorem simG_allocVars {xs xs'} (h : BindsRelG f G E xs xs') : ∀ {ρ ρ'}, E.rel B ρ ρ' →
    SimG f G E GL J δ (E.rel B) (allocVars xs ρ) (allocVars xs' ρ') := by
  induction h with
  | nil => intro ρ ρ' he; exact SimG.pure _ _ he
  | cons x hv _ ih =>
    intro ρ ρ' he
    simp only [allocVars]
    refine SimG.bind (simG_allocCell (.var hv)) (fun l l' hl => ?_)
    exact ih (E.cons' he x hl)

theorem simG_makeClosure (formals body : Datum) (he : E.rel B ρ ρ') (hb : CleanB B body) :
    SimG f G E GL J δ (VRelG f G E) (makeClosure formals body ρ) (makeClosure formals body ρ') := by
  unfold makeClosure
  split
  · rename_i ps rest b bs _ h2
    exact SimG.pure _ _ (.closure ps rest (b :: bs) ρ ρ' B he (cleanBs_properList h2 hb))
  · exact SimG.throw _

theorem simG_defineValue (hr : RecSimG f G E GL J δ r r') (he : E.rel B ρ ρ') (d : Datum) (hd : CleanB B d) :
    SimG f G E GL J δ (fun p p' => p'.1 = p.1 ∧ p.1 ∉ B ∧ VRelG f G E p.2 p'.2) (defineValue r ρ d) (defineValue r' ρ' d) := by
  unfold defineValue
  split
  · rename_i y e
    simp only [cleanB_pair, cleanB_sym] at hd
    split
    · exact SimG.throw _
    · refine SimG.bind (hr.eval e ρ ρ' B he hd.2.2.1) (fun v v' hv => ?_)
      exact SimG.pure _ _ ⟨rfl, hd.2.1, hv⟩
  · rename_i g formals body
    simp only [cleanB_pair, cleanB_sym] at hd
    split
    · exact SimG.throw _
    · refine SimG.bind (simG_makeClosure formals body he hd.2.2) (fun v v' hv => ?_)
      exact SimG.pure _ _ ⟨rfl, hd.2.1.1, hv⟩
  · exact SimG.throw _

theorem simG_assignVar (hf : Inj f) (he : E.rel B ρ ρ') (y : Text) (hy : y ∉ B) {v v' : Val} (hv : VRelG f G E v v') :
    SimG f G E GL J δ (fun _ _ => True) (assignVar ρ y v) (assignVar ρ' y v') := by
  unfold assignVar
  have := E.look he y hy
  revert this
  generalize List.lookup y ρ = o
  generalize List.lookup y ρ' = o'
  intro h
  cases h with
  | none => exact simG_setGlobal y (E.notG he hy) hv
  | some l => exact simG_writeCell hf rfl (.var hv)

theorem simG_evalBodyForms (hf : Inj f) (hr : RecSimG f G E GL J δ r r') (he : E.rel B ρ ρ') : ∀ (es : List Datum) (defs : Bool), CleanBs B es →
    SimG f G E GL J δ (VRelG f G E) (evalBodyForms r ρ defs es) (evalBodyForms r' ρ' defs es)
  | [], _, _ => by simp only [evalBodyForms]; exact SimG.throw _
  | [e], defs, h => by
    rw [cleanBs_cons] at h
    simp only [evalBodyForms]
    split
    · refine SimG.bind (simG_defineValue hr he e h.1) (fun p p' hp => ?_)
      obtain ⟨x, v⟩ := p
      obtain ⟨x', v'⟩ := p'
      simp only at hp
      obtain ⟨rfl, hx, hv⟩ := hp
      refine SimG.bind (simG_assignVar hf he x' hx hv) (fun _ _ _ => ?_)
      exact SimG.pure _ _ .void
    · exact hr.eval e ρ ρ' B he h.1
  | e :: e' :: es, defs, h => by
    rw [cleanBs_cons] at h
    simp only [evalBodyForms]
    split
    · refine SimG.bind (simG_defineValue hr he e h.1) (fun p p' hp => ?_)
      obtain ⟨x, v⟩ := p
      obtain ⟨x', v'⟩ := p'
      simp only at hp
      obtain ⟨rfl, hx, hv⟩ := hp
      refine SimG.bind (simG_assignVar hf he x' hx hv) (fun _ _ _ => ?_)
      exact simG_evalBodyForms hf hr he (e' :: es) true h.2
    · refine SimG.bind (hr.eval e ρ ρ' B he h.1) (fun _ _ _ => ?_)
      exact simG_evalBodyForms hf hr he (e' :: es) false h.2

theorem simG_evalBody (hf : Inj f) (hr : RecSimG f G E GL J δ r r') (he : E.rel B ρ ρ') (body : List Datum) (h : CleanBs B body) :
    SimG f G E GL J δ (VRelG f G E) (evalBody r ρ body) (evalBody r' ρ' body) := by
  unfold evalBody
  refine SimG.bind (simG_allocVars (bindsRel_const (fun x => x) .undef _) he) (fun ρ1 ρ1' he1 => ?_)
  exact simG_evalBodyForms hf hr he1 body true h

theorem simG_bindArgs : ∀ (ps : List Text) (rest : Option Text) {args args' : List Val}, VsRelG f G E args args' → ∀ {ρ ρ'}, E.rel B ρ ρ' →
    SimG f G E GL J δ (E.rel B) (bindArgs ps rest args ρ) (bindArgs ps rest args' ρ') := by
  intro ps
  induction ps with
  | nil =>
    intro rest args args' ha ρ ρ' he
    cases rest with
    | none =>
      cases ha with
      | nil => simp only [bindArgs]; exact SimG.pure _ _ he
      | cons _ _ => simp only [bindArgs]; exact SimG.throw _
    | some rr =>
      simp only [bindArgs]
      refine SimG.bind (simG_allocList ha) (fun lst lst' hl => ?_)
      refine SimG.bind (simG_allocCell (.var hl)) (fun l l' hl' => ?_)
      exact SimG.pure _ _ (E.cons' he rr hl')
  | cons p ps ih =>
    intro rest args args' ha ρ ρ' he
    cases ha with
    | nil => simp only [bindArgs]; exact SimG.throw _
    | cons hv hvs =>
      simp only [bindArgs]
      refine SimG.bind (simG_allocCell (.var hv)) (fun l l' hl => ?_)
      exact ih rest hvs (E.cons' he p hl)

theorem simG_qq (hr : RecSimG f G E GL J δ r r') (he : E.rel B ρ ρ') : ∀ (n : Nat) (d : Datum) (depth : Nat), dsz d ≤ n → CleanB B d →
    SimG f G E GL J δ (VRelG f G E) (qq r ρ d depth) (qq r' ρ' d depth) ∧ SimG f G E GL J δ (VsRelG f G E) (qqElems r ρ d depth) (qqElems r' ρ' d depth) := by
  intro n
  induction n with
  | zero => intro d depth hn; cases d <;> simp [dsz] at hn
  | succ n ih =>
    intro d depth hn hc
    refine ⟨?_, ?_⟩
    · unfold qq
      split
      · rename_i s y
        simp only [cleanB_pair, cleanB_sym] at hc
        simp only [dsz] at hn
        have hy : ∀ k, SimG f G E GL J δ (VRelG f G E) (qq r ρ y k) (qq r' ρ' y k) := fun k => (ih y k (by omega) hc.2.1).1
        have hl : ∀ {w w' : Val}, VRelG f G E w w' → SimG f G E GL J δ (VRelG f G E) (allocList [.sym s, w]) (allocList [.sym s, w']) :=
          fun h => simG_allocList (.cons (.sym s (E.notG he hc.1)) (.cons h .nil))
        split
        · split
          · exact hr.eval y ρ ρ' B he hc.2.1
          · exact SimG.bind (hy _) (fun w w' hw => hl hw)
        · split
          · exact SimG.bind (hy _) (fun w w' hw => hl hw)
          · exact SimG.bind (hy _) (fun w w' hw => hl hw)
      · rename_i a d2 _
        simp only [cleanB_pair] at hc
        simp only [dsz] at hn
        refine SimG.bind (ih a _ (by omega) hc.1).1 (fun a1 a2 ha => ?_)
        refine SimG.bind (ih d2 _ (by omega) hc.2).1 (fun t1 t2 ht => ?_)
        exact simG_cons ha ht
      · rename_i e
        simp only [cleanB_vec] at hc
        simp only [dsz] at hn
        refine SimG.bind (ih e _ (by omega) hc).2 (fun xs xs' hxs => ?_)
        exact simG_allocVec hxs
      · exact simG_quoteVal _ (E.cleanG he hc)
    · unfold qqElems
      split
      · rename_i a d2
        simp only [cleanB_pair] at hc
        simp only [dsz] at hn
        refine SimG.bind (ih a _ (by omega) hc.1).1 (fun a1 a2 ha => ?_)
        refine SimG.bind (ih d2 _ (by omega) hc.2).2 (fun t1 t2 ht => ?_)
        exact SimG.pure _ _ (.cons ha ht)
      · exact SimG.pure _ _ .nil

theorem VRelG.eqvDatum {v v' : Val} (h : VRelG f G E v v') (d : Datum) : eqvDatum v' d = eqvDatum v d := by
  cases h <;> first | rfl | (cases d <;> rfl)

theorem simG_evalCond (hr : RecSimG f G E GL J δ r r') (he : E.rel B ρ ρ') : ∀ (cs : List Datum), CleanBs B cs →
    SimG f G E GL J δ (VRelG f G E) (evalCond r ρ cs) (evalCond r' ρ' cs)
  | [], _ => SimG.pure _ _ .void
  | c :: cs, h => by
    rw [cleanBs_cons] at h
    simp only [evalCond]
    split
    · rename_i t body hp
      have hcl := cleanBs_properList hp h.1
      rw [cleanBs_cons] at hcl
      split
      · split
        · exact simG_evalExprs hr he body hcl.2
        · exact SimG.throw _
      · refine SimG.bind (hr.eval t ρ ρ' B he hcl.1) (fun v v' hv => ?_)
        rw [hv.truthy]
        split
        · split
          · exact SimG.pure _ _ hv
          · rename_i arrow g
            have hb := hcl.2
            simp only [cleanBs_cons] at hb
            split
            · refine SimG.bind (hr.eval g ρ ρ' B he hb.2.1) (fun fv fv' hfv => ?_)
              exact hr.apply _ _ _ _ hfv (.cons hv .nil)
            · exact simG_evalExprs hr he _ hcl.2
          · exact simG_evalExprs hr he body hcl.2
        · exact simG_evalCond hr he cs h.2
    · exact SimG.throw _

theorem simG_evalCase (hr : RecSimG f G E GL J δ r r') (he : E.rel B ρ ρ') {key key' : Val} (hk : VRelG f G E key key') : ∀ (cs : List Datum), CleanBs B cs →
    SimG f G E GL J δ (VRelG f G E) (evalCase r ρ key cs) (evalCase r' ρ' key' cs)
  | [], _ => SimG.pure _ _ .void
  | c :: cs, h => by
    rw [cleanBs_cons] at h
    have ek : eqvDatum key' = eqvDatum key := funext (fun d => hk.eqvDatum d)
    simp only [evalCase, ek]
    split
    · rename_i sel bodyD
      have hc := h.1
      simp only [cleanB_pair] at hc
      split
      · rename_i body hp
        have hb : CleanBs B body := cleanBs_properList hp hc.2
        split
        · exact SimG.throw _
        · exact simG_evalCase hr he hk cs h.2
        · split
          · rename_i arrow g
            have hb' := hb
            simp only [cleanBs_cons] at hb'
            split
            · refine SimG.bind (hr.eval g ρ ρ' B he hb'.2.1) (fun fv fv' hfv => ?_)
              exact hr.apply _ _ _ _ hfv (.cons hk .nil)
            · exact simG_evalExprs hr he _ hb
          · exact simG_evalExprs hr he body hb
      · exact SimG.throw _
    · exact SimG.throw _

theorem simG_evalLetStar (hf : Inj f) (hr : RecSimG f G E GL J δ r r') (body : List Datum) (hb : CleanBs B body) : ∀ (bs : List (Text × Datum)) {ρ ρ'}, E.rel B ρ ρ' →
    (∀ b ∈ bs, CleanB B b.2) → SimG f G E GL J δ (VRelG f G E) (evalLetStar r body bs ρ) (evalLetStar r' body bs ρ')
  | [], ρ, ρ', he, _ => by simp only [evalLetStar]; exact simG_evalBody hf hr he body hb
  | (y, e) :: bs, ρ, ρ', he, h => by
    simp only [evalLetStar]
    refine SimG.bind (hr.eval e ρ ρ' B he (h (y, e) (by simp))) (fun v v' hv => ?_)
    refine SimG.bind (simG_allocCell (.var hv)) (fun l l' hl => ?_)
    exact simG_evalLetStar hf hr body hb bs (E.cons' he y hl) (fun b hb' => h b (by simp [hb']))

theorem simG_evalVar (he : E.rel B ρ ρ') (s : Text) (hs : s ∉ B) : SimG f G E GL J δ (VRelG f G E) (evalVar s ρ) (evalVar s ρ') := by
  unfold evalVar
  split
  · exact SimG.throw _
  · have := E.look he s hs
    revert this
    generalize List.lookup s ρ = o
    generalize List.lookup s ρ' = o'
    intro h
    cases h with
    | none => exact simG_getGlobal s (E.notG he hs)
    | some l => exact simG_readVar rfl

theorem simG_evalLetrecInits (hf : Inj f) (hr : RecSimG f G E GL J δ r r') (he : E.rel B ρ ρ') : ∀ (bs : List (Text × Datum)),
    (∀ b ∈ bs, b.1 ∉ B ∧ CleanB B b.2) → SimG f G E GL J δ (fun _ _ => True) (evalLetrecInits r ρ bs) (evalLetrecInits r' ρ' bs)
  | [], _ => SimG.pure _ _ trivial
  | (y, e) :: bs, h => by
    simp only [evalLetrecInits]
    have h1 := h (y, e) (by simp)
    refine SimG.bind (hr.eval e ρ ρ' B he h1.2) (fun v v' hv => ?_)
    refine SimG.bind (simG_assignVar hf he y h1.1 hv) (fun _ _ _ => ?_)
    exact simG_evalLetrecInits hf hr he bs (fun b hb => h b (by simp [hb]))

theorem cleanBs_map_snd {bs : List (Text × Datum)} (h : ∀ p ∈ bs, p.1 ∉ B ∧ CleanB B p.2) :
    CleanBs B (bs.map (·.2)) := by
  intro d hd
  simp only [List.mem_map] at hd
  obtain ⟨b', hb', rfl⟩ := hd
  exact (h b' hb').2

theorem simG_evalKw (hf : Inj f) (hr : RecSimG f G E GL J δ r r') (he : E.rel B ρ ρ') (k : Kw) (rest : Datum) (hc : CleanB B rest) :
    SimG f G E GL J δ (VRelG f G E) (evalKw r ρ k rest) (evalKw r' ρ' k rest) := by
  cases k with
  | quote =>
    simp only [evalKw]
    split
    · rw [cleanB_pair] at hc; exact simG_quoteVal _ (E.cleanG he hc.1)
    · exact SimG.throw _
  | quasiquote =>
    simp only [evalKw]
    split
    · simp only [cleanB_pair] at hc; exact (simG_qq hr he _ _ _ (Nat.le_refl _) hc.1).1
    · exact SimG.throw _
  | unquote => exact SimG.throw _
  | define => exact SimG.throw _
  | lambda =>
    simp only [evalKw]
    split
    · simp only [cleanB_pair] at hc; exact simG_makeClosure _ _ he hc.2
    · exact SimG.throw _
  | setBang =>
    simp only [evalKw]
    split
    · rename_i y e hp
      have hd := cleanBs_properList hp hc
      simp only [cleanBs_cons, cleanB_sym] at hd
      split
      · exact SimG.throw _
      · refine SimG.bind (hr.eval e ρ ρ' B he hd.2.1) (fun v v' hv => ?_)
        refine SimG.bind (simG_assignVar hf he y hd.1 hv) (fun _ _ _ => ?_)
        exact SimG.pure _ _ .void
    · exact SimG.throw _
  | if_ =>
    simp only [evalKw]
    split
    · rename_i t c hp
      have hd := cleanBs_properList hp hc
      simp only [cleanBs_cons] at hd
      refine SimG.bind (hr.eval t ρ ρ' B he hd.1) (fun v v' hv => ?_)
      rw [hv.truthy]
      split
      · exact hr.eval c ρ ρ' B he hd.2.1
      · exact SimG.pure _ _ .void
    · rename_i t c a hp
      have hd := cleanBs_properList hp hc
      simp only [cleanBs_cons] at hd
      refine SimG.bind (hr.eval t ρ ρ' B he hd.1) (fun v v' hv => ?_)
      rw [hv.truthy]
      split
      · exact hr.eval c ρ ρ' B he hd.2.1
      · exact hr.eval a ρ ρ' B he hd.2.2.1
    · exact SimG.throw _
  | let_ =>
    simp only [evalKw]
    split
    · rename_i name bindings bodyD
      simp only [cleanB_pair, cleanB_sym] at hc
      split
      · rename_i bs b body hb hp
        have hbs := cleanB_parseBindings hb hc.2.1
        have hbody := cleanBs_properList hp hc.2.2
        split
        · exact SimG.throw _
        · refine SimG.bind (simG_evalArgs hr he _ (cleanBs_map_snd hbs)) (fun vs vs' hvs => ?_)
          refine SimG.bind (simG_allocCell (.var .undef)) (fun l l' hl => ?_)
          have hclo : VRelG f G E (Val.closure (bs.map (·.1)) none (b :: body) ((name, l) :: ρ))
              (Val.closure (bs.map (·.1)) none (b :: body) ((name, l') :: ρ')) :=
            .closure _ _ _ _ _ B (E.cons' he name hl) hbody
          refine SimG.bind (simG_writeCell hf hl (.var hclo)) (fun _ _ _ => ?_)
          exact hr.apply _ _ _ _ hclo hvs
      · exact SimG.throw _
    · rename_i bindings bodyD _
      simp only [cleanB_pair] at hc
      split
      · rename_i bs b body hb hp
        have hbs := cleanB_parseBindings hb hc.1
        have hbody := cleanBs_properList hp hc.2
        refine SimG.bind (simG_evalArgs hr he _ (cleanBs_map_snd hbs)) (fun vs vs' hvs => ?_)
        refine SimG.bind (simG_allocVars (bindsRel_zip _ hvs) he) (fun ρ1 ρ1' he1 => ?_)
        exact simG_evalBody hf hr he1 _ hbody
      · exact SimG.throw _
    · exact SimG.throw _
  | letStar =>
    simp only [evalKw]
    split
    · rename_i bindings bodyD
      simp only [cleanB_pair] at hc
      split
      · rename_i bs b body hb hp
        have hbs := cleanB_parseBindings hb hc.1
        have hbody := cleanBs_properList hp hc.2
        exact simG_evalLetStar hf hr _ hbody bs he (fun b' hb' => (hbs b' hb').2)
      · exact SimG.throw _
    · exact SimG.throw _
  | letrec =>
    simp only [evalKw]
    split
    · rename_i bindings bodyD
      simp only [cleanB_pair] at hc
      split
      · rename_i bs b body hb hp
        have hbs := cleanB_parseBindings hb hc.1
        have hbody := cleanBs_properList hp hc.2
        refine SimG.bind (simG_allocVars (bindsRel_undef_pairs bs) he) (fun ρ1 ρ1' he1 => ?_)
        refine SimG.bind (simG_evalLetrecInits hf hr he1 bs hbs) (fun _ _ _ => ?_)
        exact simG_evalBody hf hr he1 _ hbody
      · exact SimG.throw _
    · exact SimG.throw _
  | begin_ =>
    simp only [evalKw]
    split
    · rename_i es hp
      exact simG_evalExprs hr he es (cleanBs_properList hp hc)
    · exact SimG.throw _
  | cond =>
    simp only [evalKw]
    split
    · rename_i c cs hp
      exact simG_evalCond hr he _ (cleanBs_properList hp hc)
    · exact SimG.throw _
  | case_ =>
    simp only [evalKw]
    split
    · rename_i keyE clauses
      simp only [cleanB_pair] at hc
      split
      · rename_i c cs hp
        refine SimG.bind (hr.eval keyE ρ ρ' B he hc.1) (fun key key' hk => ?_)
        exact simG_evalCase hr he hk _ (cleanBs_properList hp hc.2)
      · exact SimG.throw _
    · exact SimG.throw _
  | and_ =>
    simp only [evalKw]
    split
    · rename_i es hp
      exact simG_evalAnd hr he es (cleanBs_properList hp hc)
    · exact SimG.throw _
  | or_ =>
    simp only [evalKw]
    split
    · rename_i es hp
      exact simG_evalOr hr he es (cleanBs_properList hp hc)
    · exact SimG.throw _
  | when_ =>
    simp only [evalKw]
    split
    · rename_i t b body hp
      have hd := cleanBs_properList hp hc
      rw [cleanBs_cons] at hd
      refine SimG.bind (hr.eval t ρ ρ' B he hd.1) (fun v v' hv => ?_)
      rw [hv.truthy]
      split
      · exact simG_evalExprs hr he _ hd.2
      · exact SimG.pure _ _ .void
    · exact SimG.throw _
  | unless_ =>
    simp only [evalKw]
    split
    · rename_i t b body hp
      have hd := cleanBs_properList hp hc
      rw [cleanBs_cons] at hd
      refine SimG.bind (hr.eval t ρ ρ' B he hd.1) (fun v v' hv => ?_)
      rw [hv.truthy]
      split
      · exact SimG.pure _ _ .void
      · exact simG_evalExprs hr he _ hd.2
    · exact SimG.throw _
  | delay =>
    simp only [evalKw]
    split
    · rename_i e hp
      have hd := cleanBs_properList hp hc
      refine SimG.bind (simG_allocCell (.promise false (.closure [] none [e] ρ ρ' B he hd))) (fun l l' hl => ?_)
      subst hl
      exact SimG.pure _ _ (.promise l)
    · exact SimG.throw _


end Marwood.Spec.Eval.Extra
