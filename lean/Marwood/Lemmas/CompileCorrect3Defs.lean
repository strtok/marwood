import Marwood.Lemmas.CompileCorrect2Defs
/-!
# T01.3 STAGE 3 — rest parameters, internal definitions: definitions

Stage 2 (`CompileCorrect2*.lean`, untouched) covers `(lambda (x …) body …)` with fixed arity and bodies without
definitions. Stage 3 is a second, more general development over the same machine, compiler model, representation
data (`RepData2`), world (`World`), environment denotation (`Denotes`) and code layout (`CodeAt2`):

* `F3` ⊇ `F2` — adds `(lambda (x … . r) body …)` / `(lambda r body …)` (the compiler emits `VARARG; ENTER`) and
  bodies that begin with internal definitions `(define y e) …` followed by at least one expression. The
  additional index `us` is the set of lexically bound names that may not be READ yet: the internal names whose
  definition has not been evaluated. Marwood leaves such a slot `Undefined` and reads it without complaint,
  `Spec.Eval` reads `#<undefined>` — one of the documented divergences (DESIGN §7.5) — so the fragment demands
  (decidably, on the program) that a name is referenced, or captured by a `lambda`, only after its definition;
* `VR3` — values: stage-1 values (`D.VR`), closures (`ClosOK3`: any formals, any leading definitions), and heap
  pairs whose components are `VR3` values (the list VARARG builds may contain closures);
* `InitM` — a variable slot holds a value that is not the `Undefined` marker; `EnvRep3` = stage-2 `EnvRep` + the
  readable names are initialised; `Inv3` = `Inv2` with `VR3`, where a related location may still be uninitialised;
* `Ext3` = `Ext2` + heap pairs and initialised slots are kept; `Laws3` — the ASSUMED heap laws: those of stage 2
  (without its blanket builtin law), `put` (VARARG), the `Undefined` content of internal slots after ENTER, and
  the behaviour of the first-order builtins (`call`).

Later additions (same file, same signatures):
* CLOSURE ENVIRONMENTS ARE NEVER WRITTEN. On the real heap ENTER copies the slots of the internal definitions from
  the closure environment, where CLOSURE left `Undefined`; so `D.envOK h e` now MEANS "`e` is a closure environment",
  `Inv3.wact` says that a variable location is never a slot of one, `Ext3.undefOK`/`okBack` that its `Undefined` slots
  stay and that an existing environment does not become one, `ClosOK3` records the `Undefined` internal slots, and the
  laws `envPut_ok` / `activation_ok` / `put_val` are stated accordingly. With this the laws are THEOREMS for the
  concrete heap (`CompileCorrect3Concrete*.lean`).
* RECURSION THROUGH INTERNAL DEFINITIONS: `F3B.block` / `F3K` — a block of consecutive definitions whose initialisers
  are `lambda` expressions (`(define g (lambda …))`, `(define (g . formals) …)`); the lambda bodies may mention every
  name of the block. `ClosOK3g` / `EnvRep3g` are `ClosOK3` / `EnvRep3` with the demand on a captured / readable
  location as a parameter (inside a block a captured location of the block is not initialised yet):
  `CompileCorrect3Rec*.lean`.
-/
namespace Marwood.Lemmas.CompileCorrect3
open Marwood Marwood.Vm Marwood.Lemmas.CompileCorrect Marwood.Lemmas.CompileCorrect2
open Marwood.Spec.Eval (Val Prim Cell Env evalN evalStep applyStep evalArgs properList quoteVal kwOf insertG
  k_quote k_if_ k_setBang k_define k_lambda)

variable {H : Type}

/-- `(define x e)` -/
def defForm (x : Text) (e : Datum) : Datum := .pair (.sym k_define) (.pair (.sym x) (.pair e .nil))

/-- `(define (x . formals) body …)` -/
def curForm (x : Text) (formals body : Datum) : Datum := .pair (.sym k_define) (.pair (.pair (.sym x) formals) body)

/-- the map `new_from_iof` builds: formals, internal definitions, captured variables -/
def em3 (fs ints : List Text) (caps : List (Text × Source)) : List (Text × Source) :=
  argEntries fs ++ ints.map (fun s => (s, Source.internal)) ++ caps

/-! ## the fragment -/

mutual
/-- `F3 G fuel c ns us tail e`: as `F2`, with `us` = the bound names that may not be read yet -/
inductive F3 (G : Text → Prop) : Nat → Ctx → (Text → Prop) → (Text → Prop) → Bool → Datum → Prop
  | bool {f c ns us t} (b : Bool) : F3 G (f + 1) c ns us t (.bool b)
  | char {f c ns us t} (ch : Char) : F3 G (f + 1) c ns us t (.char ch)
  | num {f c ns us t} (n : Num) : F3 G (f + 1) c ns us t (.num n)
  | str {f c ns us t} (s : Text) : F3 G (f + 1) c ns us t (.str s)
  | quote {f c ns us t} (d rest : Datum) : F3 G (f + 1) c ns us t (.pair (.sym k_quote) (.pair d rest))
  | vecc {f c ns us t} (e : Datum) : F3 G (f + 1) c ns us t (.vec e)
  /-- a reference: the name is readable -/
  | sym {f c ns us t} (x : Text) : (inEnv c x = true ↔ ns x) → ¬ us x → F3 G (f + 1) c ns us t (.sym x)
  | setBang {f c ns us t} (x : Text) (e : Datum) : (inEnv c x = true ↔ ns x) → (¬ ns x → G x) →
      F3 G f c ns us false e →
      F3 G (f + 1) c ns us t (.pair (.sym k_setBang) (.pair (.sym x) (.pair e .nil)))
  | if2 {f c ns us t} (tst cn : Datum) : F3 G f c ns us false tst → F3 G f c ns us t cn →
      F3 G (f + 1) c ns us t (.pair (.sym k_if_) (.pair tst (.pair cn .nil)))
  | if3 {f c ns us t} (tst cn al : Datum) : F3 G f c ns us false tst → F3 G f c ns us t cn → F3 G f c ns us t al →
      F3 G (f + 1) c ns us t (.pair (.sym k_if_) (.pair tst (.pair cn (.pair al .nil))))
  | app {f c ns us t} (fn args : Datum) : AppHead fn → F3 G f c ns us false fn → F3L G f c ns us args →
      F3 G (f + 1) c ns us t (.pair fn args)
  /-- `(lambda formals body…)`: formals `(x …)`, `(x … . r)` or `r`, all parameters and internally defined
      names distinct; the map of the new lambda is formals, internal definitions, captured variables; every
      captured variable is readable where the closure is created -/
  | lambda {f c ns us t} (formals body : Datum) (p : LambdaParts) (ps : List Text) (rest : Option Text)
      (ints : List Text) (caps : List (Text × Source)) :
      lambdaParts f c (.pair (.sym k_lambda) (.pair formals body)) false = .ok p →
      Spec.Eval.parseFormals formals = some (ps, rest) → p.formals = ps ++ rest.toList →
      p.isVararg = rest.isSome → (ps ++ rest.toList ++ ints).Nodup →
      p.ctx.envmap = em3 (ps ++ rest.toList) ints caps →
      (∀ q ∈ caps, q.2 = .iofEnvironment ∧ inEnv c q.1 = true ∧ ¬ us q.1) →
      F3B G f p.ctx (fun x => x ∈ ps ++ rest.toList ++ ints ∨ ns x) (fun x => x ∈ ints) ints body →
      F3 G (f + 1) c ns us t (.pair (.sym k_lambda) (.pair formals body))
/-- operand lists -/
inductive F3L (G : Text → Prop) : Nat → Ctx → (Text → Prop) → (Text → Prop) → Datum → Prop
  | nil {f c ns us} : F3L G (f + 1) c ns us .nil
  | cons {f c ns us} (a d : Datum) : F3 G f c ns us false a → F3L G f c ns us d → F3L G (f + 1) c ns us (.pair a d)
/-- bodies: leading definitions (of exactly the names `ints`, in order), then expressions, the last one in tail
    position -/
inductive F3B (G : Text → Prop) : Nat → Ctx → (Text → Prop) → (Text → Prop) → List Text → Datum → Prop
  | last {f c ns us} (x : Datum) : Spec.Eval.isDefine x = false → F3 G f c ns us true x →
      F3B G (f + 1) c ns us [] (.pair x .nil)
  | cons {f c ns us} (x y rest : Datum) : Spec.Eval.isDefine x = false → F3 G f c ns us false x →
      F3B G f c ns us [] (.pair y rest) → F3B G (f + 1) c ns us [] (.pair x (.pair y rest))
  /-- `(define x e)`: `e` may not read `x` or a later name; afterwards `x` is readable -/
  | defv {f c ns us} (x : Text) (e y rest : Datum) (ints : List Text) : inEnv c x = true → ns x →
      Spec.Eval.reserved x = false → F3 G f c ns us false e →
      F3B G (f + 1) c ns (fun z => us z ∧ z ≠ x) ints (.pair y rest) →
      F3B G (f + 2) c ns us (x :: ints) (.pair (defForm x e) (.pair y rest))
  /-- a block of definitions whose initialisers are `lambda` expressions (self and mutual recursion): the lambda
      bodies may mention every name of the block; nothing is evaluated between the first and the last definition
      of the block but `lambda` expressions, so no name of the block is read before all of them are initialised -/
  | block {f c ns us} (Bs ints : List Text) (body : Datum) : Bs ≠ [] → F3K G f c ns us Bs Bs ints body →
      F3B G f c ns us ints body
/-- inside a block `Bs` of `lambda`-initialised definitions: `todo` = the names of the block still to be defined, in
    order; `us` = the unreadable names BEFORE the block. The `lambda` expression is typed as if the names of the whole
    block were readable (it only captures their locations); the rest of the body is typed with the block readable. -/
inductive F3K (G : Text → Prop) : Nat → Ctx → (Text → Prop) → (Text → Prop) → List Text → List Text → List Text →
    Datum → Prop
  | defl {f c ns us Bs todo} (x : Text) (formals lbody y rest : Datum) (ints : List Text) : inEnv c x = true → ns x →
      Spec.Eval.reserved x = false →
      F3 G f c ns (fun z => us z ∧ z ∉ Bs) false (.pair (.sym k_lambda) (.pair formals lbody)) →
      F3K G (f + 1) c ns us Bs todo ints (.pair y rest) →
      F3K G (f + 2) c ns us Bs (x :: todo) (x :: ints)
        (.pair (defForm x (.pair (.sym k_lambda) (.pair formals lbody))) (.pair y rest))
  /-- `(define (x . formals) lbody …)`: the same, the `lambda` being implicit (`compile_define` builds the code
      object from the definition form itself) -/
  | defc {f c ns us Bs todo} (x : Text) (formals lbody y rest : Datum) (ints : List Text) (p : LambdaParts)
      (ps : List Text) (rst : Option Text) (lints : List Text) (caps : List (Text × Source)) : inEnv c x = true → ns x →
      Spec.Eval.reserved x = false →
      lambdaParts f c (curForm x formals lbody) true = .ok p →
      Spec.Eval.parseFormals formals = some (ps, rst) → p.formals = ps ++ rst.toList →
      p.isVararg = rst.isSome → (ps ++ rst.toList ++ lints).Nodup →
      p.ctx.envmap = em3 (ps ++ rst.toList) lints caps →
      (∀ q ∈ caps, q.2 = .iofEnvironment ∧ inEnv c q.1 = true ∧ ¬ (us q.1 ∧ q.1 ∉ Bs)) →
      F3B G f p.ctx (fun z => z ∈ ps ++ rst.toList ++ lints ∨ ns z) (fun z => z ∈ lints) lints lbody →
      F3K G (f + 1) c ns us Bs todo ints (.pair y rest) →
      F3K G (f + 2) c ns us Bs (x :: todo) (x :: ints) (.pair (curForm x formals lbody) (.pair y rest))
  | done {f c ns us Bs} (ints : List Text) (body : Datum) : F3B G f c ns (fun z => us z ∧ z ∉ Bs) ints body →
      F3K G f c ns us Bs [] ints body
end

/-! ## representation -/

variable {ops : HeapOps H}

/-- the slot holds a value (not a pointer) that is not the marker of an uninitialised variable -/
def InitM (ops : HeapOps H) (h : H) (e n : Nat) : Prop :=
  ∃ v, ops.envGet h e n = some v ∧ isEnvPtr v = false ∧ v ≠ .undefined

/-- `ClosOK3` with the demand on a captured location as a parameter `P` (inside a block of mutually recursive
    definitions a captured location of the block is not initialised yet) -/
def ClosOK3g (D : RepData2 ops) (W : World) (h : H) (P : Nat → Nat → Prop) (lam cenv : Nat) (ps : List Text)
    (rest : Option Text) (body : List Datum) (ρc : Env) : Prop :=
  ∃ (f : Nat) (cst cst1 : CState) (co : Ctx) (p : LambdaParts) (bcode : List BC) (ints : List Text)
    (caps : List (Text × Source)),
    p.formals = ps ++ rest.toList ∧ p.isVararg = rest.isSome ∧ p.ctx.args = p.formals ∧
    p.prologue = (if p.isVararg then [BC.op .varArg] else []) ++ [BC.op .enter] ∧
    (ps ++ rest.toList ++ ints).Nodup ∧ properList p.body = some body ∧
    compileBody f cst p.ctx p.prologue.length p.body = .ok (cst1, bcode) ∧
    D.final[cst1.lambdas.length]? = some (lamOf p bcode) ∧ cst1.lambdas <+: D.final ∧
    lam = D.LM cst1.lambdas.length ∧ ops.isLambda h lam = true ∧
    F3B D.setG f p.ctx (fun x => x ∈ ps ++ rest.toList ++ ints ∨ bound ρc x) (fun x => x ∈ ints) ints p.body ∧
    D.lamSrcs h lam = some (p.ctx.envmap.map (rsrc co.envmap)) ∧
    p.ctx.envmap = em3 (ps ++ rest.toList) ints caps ∧ (∀ q ∈ caps, q.2 = .iofEnvironment) ∧
    (∀ j, j < p.ctx.envmap.length → ∃ g, ops.envGet h cenv j = some g) ∧
    (∀ j x, (ps ++ rest.toList ++ ints).length ≤ j → p.ctx.envmap[j]? = some (x, .iofEnvironment) →
      ∃ e n l, ops.envGet h cenv j = some (.lexEnvPtr e n) ∧ ρc.lookup x = some l ∧ W e n l ∧ P e n) ∧
    D.envOK h cenv ∧
    (∀ j x, p.ctx.envmap[j]? = some (x, .internal) → ops.envGet h cenv j = some .undefined)

/-- closure `(lam, cenv)` is the value of a `lambda` with parameters `ps`, rest parameter `rest` and body `body`
    closed over `ρc`: every captured location is initialised; the slots of the closure environment that stand for
    the internal definitions hold `Undefined` (ENTER copies them) -/
def ClosOK3 (D : RepData2 ops) (W : World) (h : H) (lam cenv : Nat) (ps : List Text) (rest : Option Text)
    (body : List Datum) (ρc : Env) : Prop :=
  ClosOK3g D W h (InitM ops h) lam cenv ps rest body ρc

/-- machine value `v` represents `w` -/
inductive VR3 (D : RepData2 ops) (W : World) (h : H) (S : Array Cell) : VCell → Val → Prop
  | base {v w} : D.VR h S v w → VR3 D W h S v w
  | clos {v lam cenv ps rest body ρc} : ops.callee h v = .closure lam cenv →
      ClosOK3 D W h lam cenv ps rest body ρc → VR3 D W h S v (.closure ps rest body ρc)
  | pair {v l a d pa pd} : S[l]? = some (.pair a d) → ops.deref h v = .pair pa pd →
      VR3 D W h S (.ptr pa) a → VR3 D W h S (.ptr pd) d → VR3 D W h S v (.pair l)

/-- what later heaps keep -/
structure Ext3 (D : RepData2 ops) (h : H) (S : Array Cell) (h' : H) (S' : Array Cell) : Prop
    extends Ext2 D h S h' S' where
  pairs : ∀ v a d, ops.deref h v = .pair a d → ops.deref h' v = .pair a d
  init : ∀ e k, InitM ops h e k → InitM ops h' e k
  /-- a closure environment is never written: its `Undefined` slots stay `Undefined` -/
  undefOK : ∀ e k, D.envOK h e → ops.envGet h e k = some .undefined → ops.envGet h' e k = some .undefined
  /-- an existing environment does not become a closure environment -/
  okBack : ∀ e k v, ops.envGet h e k = some v → D.envOK h' e → D.envOK h e

/-- `EnvRep3` with the demand on a readable name as a parameter -/
def EnvRep3g (ops : HeapOps H) (W : World) (h : H) (P : Nat → Nat → Prop) (c : Ctx) (ep : Nat) (ρ : Env)
    (us : Text → Prop) : Prop :=
  ∀ x j, slotIdx c.envmap x = some j →
    ∃ e n l, Denotes ops h ep j e n ∧ ρ.lookup x = some l ∧ W e n l ∧ (¬ us x → P e n)

/-- the current environment represents `ρ` through the binding context; the readable names are initialised -/
def EnvRep3 (ops : HeapOps H) (W : World) (h : H) (c : Ctx) (ep : Nat) (ρ : Env) (us : Text → Prop) : Prop :=
  EnvRep3g ops W h (InitM ops h) c ep ρ us

/-- heap represents the specification state; a related location is a value slot that represents the
    variable's content once it is initialised -/
structure Inv3 (D : RepData2 ops) (W : World) (h : H) (σ : SSt) : Prop where
  bound : ∀ x w, D.named x → σ.globals.lookup x = some w → VR3 D W h σ.store (ops.globGet h (D.slot x)) w
  unbound : ∀ x, D.named x → σ.globals.lookup x = none → ops.globGet h (D.slot x) = .undefined
  extra : D.SRx h σ.store
  gset : ∀ x, D.setG x → σ.globals.lookup x ≠ none
  loaded : AllLoaded D h σ.store
  wfun : ∀ e n l l', W e n l → W e n l' → l = l'
  winj : ∀ e n e' n' l, W e n l → W e' n' l → e = e' ∧ n = n'
  vars : ∀ e n l, W e n l → ∃ v w, ops.envGet h e n = some v ∧ isEnvPtr v = false ∧
    σ.store[l]? = some (.var w) ∧ (v ≠ .undefined → VR3 D W h σ.store v w)
  /-- a variable location is not a slot of a closure environment (`D.envOK`: what CLOSURE builds) -/
  wact : ∀ e n l, W e n l → ¬ D.envOK h e

/-- a heap step that keeps the store, every environment slot and every global -/
structure Step3 (D : RepData2 ops) (h : H) (S : Array Cell) (h' : H) : Prop where
  ext : Ext3 D h S h' S
  srx : D.SRx h' S
  env : ∀ e k, ops.envGet h' e k = ops.envGet h e k
  glob : ∀ m, ops.globGet h' m = ops.globGet h m

/-- the builtins that call back into the evaluator (re-dispatch): outside the fragment of the main theorem -/
def Redisp : Prim → Prop
  | .apply | .eval | .force | .map | .forEach => True
  | _ => False

/-- `v` is the list of `xs` in store `S` -/
inductive ListIn (S : Array Cell) : Val → List Val → Prop
  | nil : ListIn S .nil []
  | cons {l a d as} : S[l]? = some (.pair a d) → ListIn S d as → ListIn S (.pair l) (a :: as)

/-- the ASSUMED laws of stage 3 -/
structure Laws3 (D : RepData2 ops) : Prop where
  slot_inj : ∀ a b, D.named a → D.named b → D.slot a = D.slot b → a = b
  truth : ∀ h S v w, D.VR h S v w → (ops.deref h v = .bool false ↔ w = .bool false)
  ne_undefined : ∀ h S v w, D.VR h S v w → v ≠ .undefined
  not_envptr : ∀ h S v w, D.VR h S v w → isEnvPtr v = false
  void : ∀ h S, D.VR h S .void .void
  nil : ∀ h S, D.VR h S .nil .nil
  /-- stage-1 values are not closures, and not the re-dispatching builtins -/
  vr_no_closure : ∀ h S v a b c e, ¬ D.VR h S v (.closure a b c e)
  vr_no_redisp : ∀ h S v p, D.VR h S v (.prim p) → ¬ Redisp p
  clos_true : ∀ h v l e, ops.callee h v = .closure l e → ops.deref h v ≠ .bool false
  clos_ne_undefined : ∀ h v l e, ops.callee h v = .closure l e → v ≠ .undefined
  clos_not_envptr : ∀ h v l e, ops.callee h v = .closure l e → isEnvPtr v = false
  pair_ne_undefined : ∀ h v a d, ops.deref h v = .pair a d → v ≠ .undefined
  pair_not_envptr : ∀ h v a d, ops.deref h v = .pair a d → isEnvPtr v = false
  vr_pair : ∀ h S v (l : Nat) a d pa pd, S[l]? = some (.pair a d) → ops.deref h v = .pair pa pd →
    D.VR h S (.ptr pa) a → D.VR h S (.ptr pd) d → D.VR h S v (.pair l)
  vr_vec : ∀ h S v (l : Nat) xs ps, S[l]? = some (.vec xs) → D.vecElems h v = some ps → All2 (D.VR h S) ps xs →
    D.VR h S v (.vec l)
  vr_store : ∀ h S S' v w, StoreExt S S' → D.VR h S v w → D.VR h S' v w
  srx_store : ∀ h S S', StoreExt S S' → D.SRx h S → D.SRx h S'
  glob_get_put : ∀ h S x v m, D.SRx h S → D.named x →
    ops.globGet (ops.globPut h (D.slot x) v) m = if m = D.slot x then v else ops.globGet h m
  globPut_ext : ∀ h S n u, D.SRx h S → Ext3 D h S (ops.globPut h n u) S ∧ D.SRx (ops.globPut h n u) S ∧
    ∀ e k, ops.envGet (ops.globPut h n u) e k = ops.envGet h e k
  /-- assignment to a slot (not of a closure environment) that holds a value; the new content is a value and not
      the marker -/
  envPut_ok : ∀ h S e k old u, D.SRx h S → ¬ D.envOK h e → ops.envGet h e k = some old → isEnvPtr old = false →
    isEnvPtr u = false → u ≠ .undefined →
    ∃ h', ops.envPut h e k u = some h' ∧ Ext3 D h S h' S ∧ D.SRx h' S ∧
      (∀ e' k', ops.envGet h' e' k' = if e' = e ∧ k' = k then some u else ops.envGet h e' k') ∧
      ∀ m, ops.globGet h' m = ops.globGet h m
  closure_ok : ∀ h S lam ep bp st (srcs : List RSrc), D.SRx h S → ops.isLambda h lam = true → D.lamSrcs h lam = some srcs →
    (∀ (j : Nat) k, srcs[j]? = some (RSrc.iofEnv k) → ∃ g, ops.envGet h ep k = some g) →
    (∀ (j : Nat) n, srcs[j]? ≠ some (RSrc.iofArg n)) →
    ∃ h' p cenv, ops.makeClosure h lam ep bp st = .ok (h', .ptr p) ∧
      ops.callee h' (.ptr p) = .closure lam cenv ∧ (∀ k, ops.envGet h cenv k = none) ∧
      (∀ (j : Nat) src, srcs[j]? = some src → ops.envGet h' cenv j = some (cloSlot ops h ep src)) ∧
      (∀ e k, e ≠ cenv → ops.envGet h' e k = ops.envGet h e k) ∧
      (∀ m, ops.globGet h' m = ops.globGet h m) ∧ Ext3 D h S h' S ∧ D.SRx h' S ∧ D.envOK h' cenv
  /-- ENTER of a closure: arguments from the stack, the slots of the internal definitions copied from the closure
      environment (where CLOSURE left them `Undefined`), captured entries copied; the new environment is not a
      closure environment -/
  activation_ok : ∀ h S lam cenv bp (st : Stack) (srcs : List RSrc) nargs, D.SRx h S → ops.isLambda h lam = true →
    D.lamSrcs h lam = some srcs → ops.lambdaInfo h lam = some ⟨nargs⟩ →
    D.envOK h cenv →
    (∀ (j : Nat) src, srcs[j]? = some src → ∃ g, ops.envGet h cenv j = some g) →
    (∀ (j : Nat) i, srcs[j]? = some (RSrc.arg i) → i < nargs ∧ nargs - i ≤ bp ∧ bp - (nargs - i) + 1 < st.cells.length) →
    (∀ (j : Nat), srcs[j]? = some RSrc.internal → ops.envGet h cenv j = some .undefined) →
    ∃ h' a, ops.makeActivation h lam cenv bp st = .ok (h', a) ∧ (∀ k, ops.envGet h a k = none) ∧
      (∀ (j : Nat) i v, srcs[j]? = some (RSrc.arg i) → st.cells[bp - (nargs - i) + 1]? = some v →
        ops.envGet h' a j = some v) ∧
      (∀ (j : Nat), srcs[j]? = some RSrc.internal → ops.envGet h' a j = some .undefined) ∧
      (∀ (j : Nat) k, srcs[j]? = some (RSrc.iofEnv k) → ops.envGet h' a j = some (actCaptured cenv j (ops.envGet h cenv j))) ∧
      (∀ e k, e ≠ a → ops.envGet h' e k = ops.envGet h e k) ∧
      (∀ m, ops.globGet h' m = ops.globGet h m) ∧ Ext3 D h S h' S ∧ D.SRx h' S ∧ ¬ D.envOK h' a
  /-- `heap.put` of a represented value (VARARG): a pointer through which the machine observes the same value -/
  put_val : ∀ h S v W w, D.SRx h S → VR3 D W h S v w → ∃ h' a, ops.put h v = (h', .ptr a) ∧ Step3 D h S h' ∧
    (∀ w, D.VR h S v w → D.VR h' S (.ptr a) w) ∧
    (∀ l e, ops.callee h v = .closure l e → ops.callee h' (.ptr a) = .closure l e) ∧
    (∀ x y, ops.deref h v = .pair x y → ops.deref h' (.ptr a) = .pair x y)
  /-- `heap.put` of a fresh pair -/
  put_pair : ∀ h S a d, D.SRx h S → ∃ h' p, ops.put h (.pair a d) = (h', .ptr p) ∧ Step3 D h S h' ∧
    ops.deref h' (.ptr p) = .pair a d
  /-- `CALL`/`TCALL` with a first-order primitive procedure in `acc` -/
  call : ∀ n W h (σ : SSt) vf p vs ws w (σ' : SSt), Inv3 D W h σ → D.VR h σ.store vf (.prim p) →
    All2 (VR3 D W h σ.store) vs ws → (evalN n).apply (.prim p) ws σ = .ok w σ' →
    ∃ id h' r, ops.callee h vf = .builtin id ∧ ops.builtinKind h id = .generic ∧
      builtinResult ops h id vs.reverse = .ok (h', r) ∧
      VR3 D W h' σ'.store r w ∧ Inv3 D W h' σ' ∧ Ext3 D h σ.store h' σ'.store

/-! ## what a run establishes -/

structure Run3 (D : RepData2 ops) (W' : World) (s : MSt H) (len : Nat) (σ σ' : SSt) (w : Val) (s' : MSt H) :
    Prop where
  steps : Steps ops s s'
  ipL : s'.ipL = s.ipL
  ipO : s'.ipO = s.ipO + len
  bp : s'.bp = s.bp
  ep : s'.ep = s.ep
  stack : LiveEq s.stack s'.stack
  swf : SWF s'.stack
  acc : VR3 D W' s'.heap σ'.store s'.acc w
  inv : Inv3 D W' s'.heap σ'
  ext : Ext3 D s.heap σ.store s'.heap σ'.store

structure ArgsRun3 (D : RepData2 ops) (W' : World) (s : MSt H) (len : Nat) (σ σ' : SSt) (ws : List Val)
    (vs : List VCell) (s' : MSt H) : Prop where
  steps : Steps ops s s'
  ipL : s'.ipL = s.ipL
  ipO : s'.ipO = s.ipO + len
  bp : s'.bp = s.bp
  ep : s'.ep = s.ep
  stack : LiveEq (pushAll s.stack vs) s'.stack
  swf : SWF s'.stack
  vals : All2 (VR3 D W' s'.heap σ'.store) vs ws
  inv : Inv3 D W' s'.heap σ'
  ext : Ext3 D s.heap σ.store s'.heap σ'.store

end Marwood.Lemmas.CompileCorrect3
