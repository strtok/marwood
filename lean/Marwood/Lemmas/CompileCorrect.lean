import Marwood.Lemmas.CompileCorrectApp
/-!
# T01.3 stage 1 — compiler correctness for the closure-free fragment on the model machine

`compileExpr_correct`, for every heap type and every representation `D` satisfying `RepLaws D`: if the compiler model
emits `code` for `e` in `Frag` at `base` (top-level context, either `tail` flag) and `Spec.Eval` evaluates `e` to `w`
taking `σ` to `σ'`, then from every machine state whose lambda has `code` at `base = ip.1` and whose heap represents
`σ`, the machine runs, without halting or failing, to `ip.1 = base + code.length` with the same `ip.0`, `bp`, `ep` and
live stack, a representation of `w` in `acc` and a heap representing `σ'` (`ExprRun`). `compileDefine_correct`: the
same for `(define x e)` against `evalTopForm`. The failure case is in `CompileCorrect2ErrMain.lean`; nothing is
claimed when `Spec.Eval` runs out of fuel.

`both1` is by induction on the fuel of the COMPILER: no call of this fragment enters compiled code, so the
specification only ever evaluates a sub-term. Stages 2 and 3 must induct on the fuel of the specification (the body of
a closure is no sub-term of the call) and share `CompileSim`; stage 1, over `RepData` without environments and frames,
is no instance of it and has its own, smaller form lemmas (`case_if1`, `setBang_res1`, `argsRes1_succ`, `app_res1`).
-/
namespace Marwood.Lemmas.CompileCorrect
open Marwood Marwood.Vm
open Marwood.Spec.Eval (Val Prim Cell evalN evalStep applyStep evalArgs properList quoteVal kwOf insertG
  k_quote k_if_ k_setBang k_define evalTopForm)

variable {H : Type} {ops : HeapOps H} {D : RepData ops}

theorem exprRes1_succ (L : RepLaws D) {fuel : Nat} (ihE : ExprRes1 D fuel) (ihA : ArgsRes1 D fuel) :
    ExprRes1 D (fuel + 1) := by
  intro cst base tail e cst' code hf hcomp n σ s hc hip hsr hw
  cases n with
  | zero => trivial
  | succ n =>
    change Out1 D _ s _ σ (evalStep (evalN n) e [] σ)
    cases hf with
    | bool b =>
      have := (CompileCorrect2.compile_selfEval_inv2 rfl hcomp).1
      subst this; subst hip
      exact atom_res1 (d := .bool b) (.inl rfl) hc hsr hw
    | char c =>
      have := (CompileCorrect2.compile_selfEval_inv2 rfl hcomp).1
      subst this; subst hip
      exact atom_res1 (d := .char c) (.inl rfl) hc hsr hw
    | num m =>
      have := (CompileCorrect2.compile_selfEval_inv2 rfl hcomp).1
      subst this; subst hip
      exact atom_res1 (d := .num m) (.inr ⟨m, rfl⟩) hc hsr hw
    | str t =>
      have := (CompileCorrect2.compile_selfEval_inv2 rfl hcomp).1
      subst this; subst hip
      exact atom_res1 (d := .str t) (.inl rfl) hc hsr hw
    | sym x =>
      have := (CompileCorrect2.compile_sym_inv2 hcomp).1
      subst this; subst hip
      exact sym_res1 L hc hsr hw
    | quote d rest hd =>
      have := (CompileCorrect2.compile_quote_inv2 hcomp).1
      subst this; subst hip
      rw [evalStep_quote]
      exact atom_res1 hd hc hsr hw
    | setBang x e hfe => exact setBang_res1 L ihE hfe hcomp hc hip hsr hw
    | if2 t c hft hfc => exact if2_res1 L ihE hft hfc hcomp hc hip hsr hw
    | if3 t c a hft hfc hfa => exact if3_res1 L ihE hft hfc hfa hcomp hc hip hsr hw
    | app f args hh hff hfr => exact app_res1 L ihE ihA hh hff hfr hcomp hc hip hsr hw

theorem both1 (L : RepLaws D) : ∀ fuel, ExprRes1 D fuel ∧ ArgsRes1 D fuel
  | 0 => ⟨by intro cst base tail e cst' code _ hcomp; simp [compileExpr] at hcomp,
          by intro cst base rest cst' code k _ hcomp; simp [compileArgs] at hcomp⟩
  | fuel + 1 =>
    have ih := both1 L fuel
    ⟨exprRes1_succ L ih.1 ih.2, argsRes1_succ ih.1 ih.2⟩

/-- **Compiler correctness, closure-free fragment** (success case). -/
theorem compileExpr_correct (L : RepLaws D) (fuel : Nat) (cst : CState) (base : Nat) (tail : Bool) (e : Datum)
    (cst' : CState) (code : List BC) (hf : Frag e)
    (hcomp : compileExpr fuel cst c0 base tail e = .ok (cst', code))
    (n : Nat) (σ : SSt) (w : Val) (σ' : SSt) (hev : (evalN n).eval e [] σ = .ok w σ')
    (s : MSt H) (hc : CodeAt D s.heap σ.store s.ipL base code) (hip : s.ipO = base)
    (hsr : SR D s.heap σ) (hw : SWF s.stack) :
    ∃ s', ExprRun D s code.length σ σ' w s' := by
  have o := (both1 L fuel).1 cst base tail e cst' code hf hcomp n σ s hc hip hsr hw
  rwa [hev] at o

/-- Operand lists: the values are pushed left to right, the rest of the machine state is as for expressions. -/
theorem compileArgs_correct (L : RepLaws D) (fuel : Nat) (cst : CState) (base : Nat) (rest : Datum)
    (cst' : CState) (code : List BC) (k : Nat) (hf : FragList rest)
    (hcomp : compileArgs fuel cst c0 base rest = .ok (cst', code, k))
    (n : Nat) (σ : SSt) (es : List Datum) (ws : List Val) (σ' : SSt) (hpl : properList rest = some es)
    (hev : evalArgs (evalN n) [] es σ = .ok ws σ')
    (s : MSt H) (hc : CodeAt D s.heap σ.store s.ipL base code) (hip : s.ipO = base)
    (hsr : SR D s.heap σ) (hw : SWF s.stack) :
    ∃ s' vs, ArgsRun D s code.length σ σ' ws vs s' ∧ k = vs.length := by
  have o := (both1 L fuel).2 cst base rest cst' code k hf hcomp n σ es hpl s hc hip hsr hw
  rwa [hev] at o

theorem evalTopForm_define_inv {r : Spec.Eval.Rec} {x : Text} {e : Datum} {σ σ' : SSt} {w : Val}
    (h : evalTopForm r (.pair (.sym k_define) (.pair (.sym x) (.pair e .nil))) σ = .ok w σ') :
    ∃ v σ1, r.eval e [] σ = .ok v σ1 ∧ σ' = { σ1 with globals := insertG x v σ1.globals } ∧ w = .void := by
  have hd : Spec.Eval.isDefine (.pair (.sym k_define) (.pair (.sym x) (.pair e .nil))) = true := by
    simp [Spec.Eval.isDefine]
  simp only [evalTopForm, hd, if_true] at h
  obtain ⟨p, σ2, h1, h2⟩ := bind_ok_inv h
  obtain ⟨u, σ3, h3, h4⟩ := bind_ok_inv h2
  obtain ⟨hw, hs⟩ := pure_ok_inv h4
  simp only [Spec.Eval.defineValue] at h1
  split at h1
  · exact absurd h1 throw_ne_ok
  · obtain ⟨v, σ1, h5, h6⟩ := bind_ok_inv h1
    obtain ⟨hp, hs2⟩ := pure_ok_inv h6
    subst hp hs2
    refine ⟨v, σ2, h5, ?_, hw⟩
    change Spec.Eval.putGlobal x v σ2 = _ at h3
    unfold Spec.Eval.putGlobal at h3
    injection h3 with _ h7
    rw [hs, ← h7]

/-- **Top-level definition of a global** (success case): the code of `(define x e)` leaves a
    representation of the unspecified value in `acc` and a heap representing the state in which `x` is
    bound to the value of `e`. -/
theorem compileDefine_correct (L : RepLaws D) (fuel : Nat) (cst : CState) (base : Nat) (tail : Bool)
    (x : Text) (e : Datum) (cst' : CState) (code : List BC) (hfe : Frag e)
    (hcomp : compileExpr fuel cst c0 base tail
      (.pair (.sym k_define) (.pair (.sym x) (.pair e .nil))) = .ok (cst', code))
    (n : Nat) (σ : SSt) (w : Val) (σ' : SSt)
    (hev : evalTopForm (evalN n) (.pair (.sym k_define) (.pair (.sym x) (.pair e .nil))) σ = .ok w σ')
    (s : MSt H) (hc : CodeAt D s.heap σ.store s.ipL base code) (hip : s.ipO = base)
    (hsr : SR D s.heap σ) (hw : SWF s.stack) :
    ∃ s', ExprRun D s code.length σ σ' w s' := by
  cases fuel with
  | zero => simp [compileExpr] at hcomp
  | succ fuel =>
    obtain ⟨code1, hc1, hcode⟩ := CompileCorrect2.compile_define_inv2 hcomp
    rw [emitLoc_c0] at hcode
    subst hcode
    obtain ⟨v, σ1, he, rfl, rfl⟩ := evalTopForm_define_inv hev
    subst hip
    obtain ⟨s1, r1⟩ := compileExpr_correct L fuel _ _ _ _ _ _ hfe hc1 n σ v σ1 he s hc.left rfl hsr hw
    have hc2 := (r1.codeAfter hc.right).cast r1.ipO.symm
    obtain ⟨s2, r2⟩ := run_store L (x := x) hc2 r1.acc r1.sr r1.swf
    refine ⟨s2, ?_⟩
    have := r1.append r2
    simpa using this

theorem ExprRun.runN {s s' : MSt H} {len : Nat} {σ σ' : SSt} {w : Val} (r : ExprRun D s len σ σ' w s') :
    ∃ k, runN ops k s = some s' := r.steps.runN

end Marwood.Lemmas.CompileCorrect
