import Marwood.Lemmas.CompileCorrect3Defs
/-!
# T01.3 stage 3 — `Spec.Eval` on internal definitions

What `allocVars` does for the names of the internal definitions, a leading definition of a body as an equation of
`evalBodyForms`, and the shape of a body of the fragment (`F3B_shape`).
-/
namespace Marwood.Lemmas.CompileCorrect3
open Marwood Marwood.Lemmas.CompileCorrect Marwood.Lemmas.CompileCorrect2
open Marwood.Spec.Eval
variable {r : Rec}

theorem allocVars_undef_inv : ∀ (ints : List Text) (ρ ρ' : Env) (σ σ1 : SSt), ints.Nodup →
    allocVars (ints.map fun x => (x, Val.undef)) ρ σ = .ok ρ' σ1 →
    σ1.globals = σ.globals ∧ σ1.out = σ.out ∧ σ1.store.size = σ.store.size + ints.length ∧
    (∀ l, l < σ.store.size → σ1.store[l]? = σ.store[l]?) ∧
    (∀ i, i < ints.length → σ1.store[σ.store.size + i]? = some (.var .undef)) ∧
    (∀ i x, ints[i]? = some x → ρ'.lookup x = some (σ.store.size + i)) ∧
    (∀ x, x ∉ ints → ρ'.lookup x = ρ.lookup x) := by
  intro ints
  induction ints with
  | nil =>
    intro ρ ρ' σ σ1 _ h
    simp only [List.map_nil, allocVars] at h
    obtain ⟨rfl, rfl⟩ := pure_ok_inv h
    exact ⟨rfl, rfl, rfl, fun _ _ => rfl, by intro i hi; simp at hi, by intro i x hi; simp at hi, fun _ _ => rfl⟩
  | cons p ps ih =>
    intro ρ ρ' σ σ1 hnd h
    simp only [List.map_cons, allocVars] at h
    obtain ⟨l, σ0, h1, h2⟩ := bind_ok_inv h
    unfold allocCell at h1
    injection h1 with hl hσ
    subst hl hσ
    have hnd' : ps.Nodup := (List.nodup_cons.mp hnd).2
    have hp : p ∉ ps := (List.nodup_cons.mp hnd).1
    obtain ⟨e2, e3, e4, e5, e6, e7, e8⟩ := ih _ ρ' _ σ1 hnd' h2
    simp only [Array.size_push] at e4 e5 e6 e7
    refine ⟨e2, e3, by simp [e4]; omega, ?_, ?_, ?_, ?_⟩
    · intro l hl
      rw [e5 l (by omega)]
      simp [Array.getElem?_push, Nat.ne_of_lt hl]
    · intro i hi
      cases i with
      | zero =>
        rw [Nat.add_zero, e5 σ.store.size (by omega)]
        simp
      | succ j =>
        simp at hi
        have := e6 j hi
        rwa [show σ.store.size + 1 + j = σ.store.size + (j + 1) by omega] at this
    · intro i x hi
      cases i with
      | zero =>
        simp at hi; subst hi
        rw [Nat.add_zero, e8 p hp]
        simp [List.lookup]
      | succ j =>
        simp at hi
        have := e7 j x hi
        rwa [show σ.store.size + 1 + j = σ.store.size + (j + 1) by omega] at this
    · intro x hx
      have hx1 : x ≠ p := fun e => hx (e ▸ List.mem_cons_self)
      have hx2 : x ∉ ps := fun e => hx (List.mem_cons_of_mem _ e)
      rw [e8 x hx2]
      have : (x == p) = false := by simpa using hx1
      simp [List.lookup, this]

theorem allocVars_ne_err : ∀ (xs : List (Text × Val)) (ρ : Env) (σ σ' : SSt) (c : ErrClass),
    allocVars xs ρ σ ≠ .err c σ'
  | [], _, _, _, _ => by simp only [allocVars]; exact pure_ne_err
  | (x, v) :: xs, ρ, σ, σ', c => by
    intro h
    simp only [allocVars] at h
    rcases bind_err_inv h with h1 | ⟨l, σ1, _, h2⟩
    · unfold allocCell at h1; cases h1
    · exact allocVars_ne_err xs _ _ _ _ h2

theorem isDefine_defForm (x : Text) (e : Datum) : isDefine (defForm x e) = true := by
  simp [isDefine, defForm]

theorem definedName_defForm (x : Text) (e : Datum) : definedName (defForm x e) = some x := by
  simp [definedName, defForm]

theorem evalBodyForms_def {ρ : Env} {x : Text} {e e' : Datum} {es : List Datum} (hres : reserved x = false) :
    evalBodyForms r ρ true (defForm x e :: e' :: es)
      = (r.eval e ρ >>= fun v => assignVar ρ x v >>= fun _ => evalBodyForms r ρ true (e' :: es)) := by
  simp only [evalBodyForms, isDefine_defForm, Bool.and_self, if_true]
  funext σ
  simp only [defineValue, defForm, hres, Bool.false_eq_true, if_false]
  change M.bind' (M.bind' (r.eval e ρ) _) _ σ = M.bind' (r.eval e ρ) _ σ
  unfold M.bind'
  cases r.eval e ρ σ <;> rfl

theorem isDefine_curForm (x : Text) (f b : Datum) : isDefine (curForm x f b) = true := by
  simp [isDefine, curForm]

theorem definedName_curForm (x : Text) (f b : Datum) : definedName (curForm x f b) = some x := by
  simp [definedName, curForm]

theorem evalBodyForms_cur {ρ : Env} {x : Text} {formals lbody e' : Datum} {es : List Datum} {ps : List Text}
    {rst : Option Text} {b : Datum} {bs : List Datum} (hres : reserved x = false)
    (hpf : parseFormals formals = some (ps, rst)) (hpb : properList lbody = some (b :: bs)) :
    evalBodyForms r ρ true (curForm x formals lbody :: e' :: es)
      = (assignVar ρ x (.closure ps rst (b :: bs) ρ) >>= fun _ => evalBodyForms r ρ true (e' :: es)) := by
  simp only [evalBodyForms, isDefine_curForm, Bool.and_self, if_true]
  funext σ
  simp only [defineValue, curForm, hres, Bool.false_eq_true, if_false, makeClosure, hpf, hpb]
  rfl

theorem assignVar_lex {ρ : Env} {x : Text} {l : Nat} (v : Val) {σ : SSt} (hl : ρ.lookup x = some l)
    (hlt : l < σ.store.size) :
    assignVar ρ x v σ = .ok () { σ with store := σ.store.setIfInBounds l (.var v) } := by
  simp only [assignVar, hl, writeCell, hlt, if_true]

theorem shape_def {d y rest : Datum} {x : Text} {ints' : List Text} (hd1 : isDefine d = true)
    (hd2 : definedName d = some x)
    (ih : ∃ q, properList (.pair y rest) = some q ∧ leadingDefs q = ints' ∧ q ≠ []) :
    ∃ body, properList (.pair d (.pair y rest)) = some body ∧ leadingDefs body = x :: ints' ∧ body ≠ [] := by
  obtain ⟨q, hq, h1, _⟩ := ih
  refine ⟨d :: q, ?_, ?_, by simp⟩
  · rw [show properList (.pair d (.pair y rest)) = (properList (.pair y rest)).map (d :: ·) from rfl, hq]; rfl
  · simp only [leadingDefs, hd1, hd2, if_true, h1]

mutual
theorem F3B_shape {G : Text → Prop} : ∀ {f : Nat} {c : Marwood.Vm.Ctx} {ns us : Text → Prop}
    {ints : List Text} {bodyD : Datum}, F3B G f c ns us ints bodyD →
    ∃ body, properList bodyD = some body ∧ leadingDefs body = ints ∧ body ≠ []
  | _, _, _, _, _, _, .last x hx _ => ⟨[x], rfl, by simp [leadingDefs, hx], by simp⟩
  | _, _, _, _, _, _, .cons x y rest hx _ h => by
    obtain ⟨q, hq, _, _⟩ := F3B_shape h
    refine ⟨x :: q, ?_, by simp [leadingDefs, hx], by simp⟩
    rw [show properList (.pair x (.pair y rest)) = (properList (.pair y rest)).map (x :: ·) from rfl, hq]; rfl
  | _, _, _, _, _, _, .defv x e y rest ints' _ _ _ _ hB =>
    shape_def (isDefine_defForm _ _) (definedName_defForm _ _) (F3B_shape hB)
  | _, _, _, _, _, _, .block Bs ints bodyD _ hK => F3K_shape hK
theorem F3K_shape {G : Text → Prop} : ∀ {f : Nat} {c : Marwood.Vm.Ctx} {ns us : Text → Prop} {Bs todo : List Text}
    {ints : List Text} {bodyD : Datum}, F3K G f c ns us Bs todo ints bodyD →
    ∃ body, properList bodyD = some body ∧ leadingDefs body = ints ∧ body ≠ []
  | _, _, _, _, _, _, _, _, .defl _ _ _ _ _ _ _ _ _ _ hK =>
    shape_def (isDefine_defForm _ _) (definedName_defForm _ _) (F3K_shape hK)
  | _, _, _, _, _, _, _, _, .defc _ _ _ _ _ _ _ _ _ _ _ _ _ _ _ _ _ _ _ _ _ _ hK =>
    shape_def (isDefine_curForm _ _ _) (definedName_curForm _ _ _) (F3K_shape hK)
  | _, _, _, _, _, _, _, _, .done ints bodyD hB => F3B_shape hB
end

theorem F3K_body_aux {G : Text → Prop} : ∀ {f : Nat} {c : Marwood.Vm.Ctx} {ns us : Text → Prop} {Bs todo : List Text}
    {ints : List Text} {bodyD : Datum}, F3K G f c ns us Bs todo ints bodyD → ∀ body, properList bodyD = some body →
    leadingDefs body = ints ∧ body ≠ [] := by
  intro f c ns us Bs todo ints bodyD h body hp
  obtain ⟨b, hb, h1, h2⟩ := F3K_shape h
  rw [hb] at hp; cases hp; exact ⟨h1, h2⟩

theorem leadingDefs_of_F3B {G : Text → Prop} : ∀ {f : Nat} {c : Marwood.Vm.Ctx} {ns us : Text → Prop} {ints : List Text} {bodyD : Datum}
    {body : List Datum}, F3B G f c ns us ints bodyD → properList bodyD = some body → leadingDefs body = ints := by
  intro f c ns us ints bodyD body h hp
  obtain ⟨b, hb, h1, _⟩ := F3B_shape h
  rw [hb] at hp; cases hp; exact h1

theorem F3B_nonempty {G : Text → Prop} : ∀ {f : Nat} {c : Marwood.Vm.Ctx} {ns us : Text → Prop} {ints : List Text} {bodyD : Datum}
    {body : List Datum}, F3B G f c ns us ints bodyD → properList bodyD = some body → body ≠ [] := by
  intro f c ns us ints bodyD body h hp
  obtain ⟨b, hb, _, h2⟩ := F3B_shape h
  rw [hb] at hp; cases hp; exact h2

end Marwood.Lemmas.CompileCorrect3
