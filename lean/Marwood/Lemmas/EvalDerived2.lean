import Marwood.Lemmas.EvalExtraShift
import Marwood.Lemmas.EvalDerivedCond
/-!
# T01.2, second half, for the expansions that bind an identifier of their own:
`or` (binder `var1`), `cond` with a test-only clause and with a `=>` clause (binder `temp`)

`AgreesUpToExtra k use exp ρ st`: whenever the native meaning of `use` has a definite outcome from `st`
with fuel `n` (value or error, and no store-size-fuelled helper — `display`, `equal?`, `length`, `memv` … —
ran into its bound on cyclic data: `guardN`, `Lemmas/EvalExtraCut.lean`), the expansion `exp` has, with
fuel `n + k`, the same outcome up to an injective renaming of locations that fixes the initial store:
same kind of outcome, same error class, same output log, values / globals / stores related (the
expansion's store has the native cells at their images, plus the variable the expansion allocates).
By `definite_unique` it is the only definite outcome `exp` has.

Hypotheses: the state has no dangling locations (`WFSt`, `EnvOK`: true of every state a session
reaches, `wf_runSession`) and the binder identifier does not occur in the sub-forms that the
expansion evaluates under the binding (`mentions … = false`; the known finding
`C01-prelude-macro-capture` is the negation witness).
-/
namespace Marwood.Spec.Eval.Derived
open Marwood Marwood.Spec.Eval Marwood.Spec.Eval.Prelude Marwood.Spec.Eval.Extra

def AgreesUpToExtra (k : Nat) (use exp : Datum) (ρ : Env) (st : St) : Prop :=
  ∀ n, (guardN n).eval use ρ st ≠ .timeout →
    (evalN n).eval use ρ st = (guardN n).eval use ρ st ∧
    ∃ f, Inj f ∧ (∀ l, l < st.store.size → f l = l) ∧
      ResRel f (VRel f) ((evalN n).eval use ρ st) ((evalN (n + k)).eval exp ρ st)

theorem ResRel.observe {f : LMap} {res res' : Res Val} (h : ResRel f (VRel f) res res') (hd : res ≠ .timeout) :
    (∃ v s v' s', res = .ok v s ∧ res' = .ok v' s' ∧ VRel f v v' ∧ s'.out = s.out ∧
        (valCut (s.store.size + 1) s.store v = false →
          valToDatum (s'.store.size + 1) s'.store v' = valToDatum (s.store.size + 1) s.store v)) ∨
    (∃ e s s', res = .err e s ∧ res' = .err e s' ∧ s'.out = s.out) := by
  cases res with
  | ok v s =>
    obtain ⟨v', s', rfl, hv, hs⟩ := h.ok_inv
    refine Or.inl ⟨v, s, v', s', rfl, rfl, hv, hs.out, fun hc => ?_⟩
    have h1 := valToDatum_rel hs (s'.store.size + 1) hv
    rw [hs.fuel_eq, valToDatum_stable _ _ _ _ hc, ← hs.fuel_eq] at h1
    exact h1
  | err e s =>
    obtain ⟨s', rfl, hs⟩ := h.err_inv
    exact Or.inr ⟨e, s, s', rfl, rfl, hs.out⟩
  | timeout => exact absurd rfl hd

/-- value or error (decidable, for examples) -/
def definiteB {α : Type} : Res α → Bool
  | .timeout => false
  | _ => true

theorem definiteB_ne {α : Type} {r : Res α} (h : definiteB r = true) : r ≠ .timeout := by
  intro e; subst e; cases h

theorem AgreesUpToExtra.unique {k : Nat} {use exp : Datum} {ρ : Env} {st : St} (h : AgreesUpToExtra k use exp ρ st)
    (n : Nat) (hd : (guardN n).eval use ρ st ≠ .timeout) (m : Nat) (hm : (evalN m).eval exp ρ st ≠ .timeout) :
    (evalN m).eval exp ρ st = (evalN (n + k)).eval exp ρ st := by
  obtain ⟨h1, f, _, _, hr⟩ := h n hd
  exact definite_unique exp ρ st hm (hr.definite (by rw [h1]; exact hd))

/-- as top-level forms the printed results agree (value text or error class), the native value not cyclic -/
theorem AgreesUpToExtra.printed {k : Nat} {use exp : Datum} {st : St} (h : AgreesUpToExtra k use exp [] st)
    (htop : ∀ r, evalTop r use = r.eval use [] ∧ evalTop r exp = r.eval exp [])
    (n : Nat) (hd : (guardN n).eval use [] st ≠ .timeout)
    (hac : ∀ v s, (evalN n).eval use [] st = .ok v s → valCut (s.store.size + 1) s.store v = false) :
    (runForm (n + k) exp st).1 = (runForm n use st).1 := by
  obtain ⟨h1, f, _, _, hr⟩ := h n hd
  have hd2 : (evalN n).eval use [] st ≠ .timeout := by rw [h1]; exact hd
  simp only [runForm, (htop _).1, (htop _).2]
  rcases ResRel.observe hr hd2 with ⟨v, s, v', s', e1, e2, _, _, hp⟩ | ⟨e, s, s', e1, e2, _⟩
  · rw [e1, e2]
    simp only [hp (hac v s e1)]
  · rw [e1, e2]

theorem guardN_succ_eval (n : Nat) (e : Datum) (ρ : Env) : (guardN (n+1)).eval e ρ = evalStep (guardN n) e ρ := rfl

theorem cleanBs_of_mentions {x : Text} {ds : List Datum} (h : ∀ d ∈ ds, mentions x d = false) : CleanBs [x] ds := by
  intro d hd b hb
  simp only [List.mem_singleton] at hb
  subst hb
  exact h d hd

theorem cleanB_of_mentions {x : Text} {d : Datum} (h : mentions x d = false) : CleanB [x] d := by
  intro b hb
  simp only [List.mem_singleton] at hb
  subst hb
  exact h

/-- a use that means `t`, and `R` when `t` is false, against an expansion `(let ((x t)) (if x x B))` where `B` means `R` -/
theorem selfTest_agrees (x : Text) (t use exp : Datum) (R : Rec → Env → M Val) (ρ : Env)
    (hnat : ∀ n, (guardN (n+1)).eval use ρ =
      ((guardN n).eval t ρ >>= fun v => if truthy v then pure v else R (guardN n) ρ))
    (hexp : ∀ n, (evalN (n+4)).eval exp ρ = (do
      let v ← (evalN (n+3)).eval t ρ
      let l ← allocCell (.var v)
      if truthy v then pure v else R (evalN (n+1)) ((x, l) :: ρ)))
    (hR : ∀ f r r', RecSimD f (fun _ => none) .left r r' → ∀ ρ ρ', EnvRel f [x] ρ ρ' →
      SimD f (fun _ => none) .left (VRel f) (R r ρ) (R r' ρ'))
    (hle : ∀ r r', RecLe r r' → ∀ ρ, Le (R r ρ) (R r' ρ))
    (st : St) (hst : WFSt st) (hρ : EnvOK st.store.size ρ) : AgreesUpToExtra 3 use exp ρ st := by
  intro n hd
  cases n with
  | zero => exact absurd rfl hd
  | succ n =>
    refine ⟨guardN_eval_evalN _ _ _ _ hd, ?_⟩
    rw [guardN_eval_evalN _ _ _ _ hd]
    rw [hnat] at hd ⊢
    rw [show n + 1 + 3 = n + 4 by omega, hexp]
    -- `K`: what follows the test natively; `K'`: the same under the binding of `x`, one level of fuel up
    refine binder_agree x t (fun r ρ v => if truthy v then pure v else R r ρ) ?_ n 3 ρ st hst hρ
      (fun l v => if truthy v then pure v else R (evalN (n+1)) ((x, l) :: ρ)) ?_ hd
    · intro f _ r r' hr ρ1 ρ1' he v v' hv
      simp only [hv.truthy]
      split
      · exact SimD.pure _ _ hv
      · exact hR f r r' hr ρ1 ρ1' he
    · intro v s1 h
      by_cases htr : truthy v = true
      · rw [if_pos htr, if_pos htr]
      · rw [if_neg htr] at h ⊢
        rw [if_neg htr]
        exact hle _ _ (recLe_evalN_succ n) _ _ h

theorem or_agrees (ρ : Env) (e e2 : Datum) (es : List Datum) (st : St) (hst : WFSt st) (hρ : EnvOK st.store.size ρ)
    (hfree : ∀ d ∈ e2 :: es, mentions k_var1 d = false) :
    AgreesUpToExtra 3 (orUse (e :: e2 :: es)) (orExp (e :: e2 :: es)) ρ st :=
  selfTest_agrees k_var1 e _ _ (fun r ρ => evalOr r ρ (e2 :: es)) ρ
    (fun n => by rw [guardN_succ_eval, native_or]; rfl) (fun n => or_exp_eval ρ n e e2 es)
    (fun _ _ _ hr _ _ he => simD_evalOr hr he _ (cleanBs_of_mentions hfree))
    (fun _ _ hr ρ => le_evalOr hr ρ _) st hst hρ

theorem cond_test_agrees (ρ : Env) (t c : Datum) (cs : List Datum) (ht : t ≠ s k_else_) (st : St) (hst : WFSt st)
    (hρ : EnvOK st.store.size ρ) (hfree : ∀ d ∈ c :: cs, mentions k_temp d = false) :
    AgreesUpToExtra 3 (condUse (L [t] :: c :: cs)) (condTestExp t (c :: cs)) ρ st :=
  selfTest_agrees k_temp t _ _ (fun r ρ => evalCond r ρ (c :: cs)) ρ
    (fun n => by rw [guardN_succ_eval, native_cond, evalCond_test _ _ t _ ht])
    (fun n => cond_test_exp_eval ρ n t c cs)
    (fun _ _ _ hr _ _ he => simD_evalCond hr he _ (cleanBs_of_mentions hfree))
    (fun _ _ hr ρ => le_evalCond hr ρ _) st hst hρ

theorem evalCond_arrow (r : Rec) (ρ : Env) (t f : Datum) (cs : List Datum) (ht : t ≠ s k_else_) :
    evalCond r ρ (L [t, s k_arrow, f] :: cs) = (do
      let v ← r.eval t ρ
      if truthy v then (do let fv ← r.eval f ρ; r.apply fv [v]) else evalCond r ρ cs) := by
  have hl : properList (L [t, s k_arrow, f]) = some [t, s k_arrow, f] := properList_ofList _
  have ht' : (t == Datum.sym k_else_) = false := by simpa [s] using ht
  have ha : (s k_arrow == Datum.sym k_arrow) = true := by simp [s]
  simp only [evalCond, hl, ht', ha]
  rfl

theorem cond_arrow_agrees (ρ : Env) (t f : Datum) (cs : List Datum) (ht : t ≠ s k_else_)
    (hf : ∀ x, f = .sym x → kwOf x = none) (st : St) (hst : WFSt st)
    (hρ : EnvOK st.store.size ρ) (hfree : ∀ d ∈ f :: cs, mentions k_temp d = false) :
    AgreesUpToExtra 2 (condUse (L [t, s k_arrow, f] :: cs)) (condArrowExp t f cs) ρ st := by
  intro n hd
  cases n with
  | zero => exact absurd rfl hd
  | succ n =>
    refine ⟨guardN_eval_evalN _ _ _ _ hd, ?_⟩
    rw [guardN_eval_evalN _ _ _ _ hd]
    have e1 : (guardN (n+1)).eval (condUse (L [t, s k_arrow, f] :: cs)) ρ =
        ((guardN n).eval t ρ >>= fun v =>
          (fun (r : Rec) (ρ : Env) (v : Val) =>
            if truthy v then (do let fv ← r.eval f ρ; r.apply fv [v]) else evalCond r ρ cs) (guardN n) ρ v) := by
      rw [guardN_succ_eval, native_cond, evalCond_arrow _ _ t f cs ht]
    rw [e1] at hd ⊢
    rw [show n + 1 + 2 = n + 3 by omega, cond_arrow_exp_eval]
    have hx : reserved k_temp = false := by decide
    refine binder_agree k_temp t
      (fun r ρ v => if truthy v then (do let fv ← r.eval f ρ; r.apply fv [v]) else evalCond r ρ cs) ?_ n 2 ρ st hst hρ
      (fun l v => if truthy v then (evalN (n+1)).eval (L [f, s k_temp]) ((k_temp, l) :: ρ)
        else (match cs with
          | [] => pure .void
          | c :: cs' => (evalN (n+1)).eval (condUse (c :: cs')) ((k_temp, l) :: ρ))) ?_ hd
    · intro g hg r r' hr ρ1 ρ1' he v v' hv
      simp only [hv.truthy]
      split
      · refine SimD.bind (hr.eval f ρ1 ρ1' _ he (cleanB_of_mentions (hfree f (by simp)))) (fun fv fv' hfv => ?_)
        exact hr.apply _ _ _ _ hfv (.cons hv .nil)
      · exact simD_evalCond hr he _ (cleanBs_of_mentions (fun d hd => hfree d (by simp [hd])))
    · intro v s1 h
      by_cases htr : truthy v = true
      · rw [if_pos htr] at h ⊢
        rw [if_pos htr]
        cases n with
        | zero => exact absurd rfl h
        | succ m =>
          rw [evalN_succ_eval, native_app _ _ f [s k_temp] hf, evalArgs_one]
          show M.bind' (M.bind' ((evalN (m+1)).eval (s k_temp) _) _) _ _ = _
          unfold M.bind'
          rw [eval_binder ρ (T := evalN) (fun _ => rfl) m k_temp hx v s1]
          rfl
      · rw [if_neg htr, if_neg htr]
        cases cs with
        | nil => rfl
        | cons c cs' =>
          show evalStep (evalN n) (condUse (c :: cs')) _ _ = _
          rw [native_cond]

end Marwood.Spec.Eval.Derived
