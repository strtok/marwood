import Marwood.Lemmas.LexSpans
/-!
# The scanner at a token boundary (T11.4; panic freedom of the parser's slicing)

The start offset only shifts the spans; the text cut at the start of a token of the scanner's answer
scans to that token and all later ones, shifted by the cut (`scan_suffix`). Every token of the answer
is the slice of a non-empty body spelled as the parser relies on for its type (`scan_bodies`).
-/
namespace Marwood

/-- a token whose span is moved `k` bytes to the right -/
def Token.shift (k : Nat) (t : Token) : Token := ⟨t.lo + k, t.hi + k, t.ty⟩

@[simp] theorem Token.shift_ty (k : Nat) (t : Token) : (t.shift k).ty = t.ty := rfl
@[simp] theorem Token.shift_lo (k : Nat) (t : Token) : (t.shift k).lo = t.lo + k := rfl
@[simp] theorem Token.shift_hi (k : Nat) (t : Token) : (t.shift k).hi = t.hi + k := rfl

theorem Token.shift_zero (t : Token) : t.shift 0 = t := rfl

theorem Token.map_shift_zero (ts : List Token) : ts.map (Token.shift 0) = ts := by
  induction ts with
  | nil => rfl
  | cons t ts ih => simp [ih, Token.shift_zero]

namespace ParseText

def shiftRes (k : Nat) :
    Option (Except LexErr (List Token)) → Option (Except LexErr (List Token))
  | none => none
  | some (.error e) => some (.error e)
  | some (.ok ts) => some (.ok (ts.map (Token.shift k)))

theorem scanFuel_shift (k : Nat) : ∀ (f pos : Nat) (cs : Text),
    scanFuel f (pos + k) cs = shiftRes k (scanFuel f pos cs) := by
  intro f
  induction f with
  | zero => intro pos cs; simp [scanFuel, shiftRes]
  | succ f ih =>
    intro pos cs
    cases cs with
    | nil => simp [scanFuel, shiftRes]
    | cons c cs =>
      simp only [scanFuel]
      cases hp : scanPiece c cs with
      | fail e => simp [shiftRes]
      | skip a r =>
        simp only
        have e : pos + k + byteLen a = pos + byteLen a + k := by omega
        rw [e]; exact ih _ _
      | tok a ty r =>
        simp only
        have e : pos + k + byteLen a = pos + byteLen a + k := by omega
        rw [e, ih]
        cases hr : scanFuel f (pos + byteLen a) r with
        | none => simp [shiftRes]
        | some x =>
          cases x with
          | error e => simp [shiftRes]
          | ok ts => simp [shiftRes, Token.shift]

theorem scanFuel_unshift {f k : Nat} {cs : Text} {ts : List Token}
    (h : scanFuel f k cs = some (.ok ts)) :
    ∃ ts0, scanFuel f 0 cs = some (.ok ts0) ∧ ts = ts0.map (Token.shift k) := by
  have := scanFuel_shift k f 0 cs
  rw [Nat.zero_add, h] at this
  cases h0 : scanFuel f 0 cs with
  | none => rw [h0] at this; simp [shiftRes] at this
  | some x =>
    cases x with
    | error e => rw [h0] at this; simp [shiftRes] at this
    | ok ts0 =>
      rw [h0] at this
      simp only [shiftRes, Option.some.injEq, Except.ok.injEq] at this
      exact ⟨ts0, rfl, this⟩

theorem scanFuel_suffix : ∀ (f pos : Nat) (cs : Text) (ts : List Token),
    scanFuel f pos cs = some (.ok ts) →
    ∀ (pre : List Token) (t : Token) (rest : List Token), ts = pre ++ t :: rest →
      ∃ (f' : Nat) (p sfx : Text), cs = p ++ sfx ∧ t.lo = pos + byteLen p ∧
        scanFuel f' t.lo sfx = some (.ok (t :: rest)) := by
  intro f
  induction f with
  | zero => intro pos cs ts h; simp [scanFuel] at h
  | succ f ih =>
    intro pos cs ts h pre t rest hts
    cases cs with
    | nil =>
      simp [scanFuel] at h
      subst h
      simp at hts
    | cons c cs =>
      simp only [scanFuel] at h
      cases hp : scanPiece c cs with
      | fail e => simp [hp] at h
      | skip a r =>
        simp only [hp] at h
        have ⟨hs, _⟩ := scanPiece_skip hp
        obtain ⟨f', p, sfx, he, hlo, hsc⟩ := ih _ _ _ h pre t rest hts
        refine ⟨f', a ++ p, sfx, by rw [← hs, he]; simp, ?_, hsc⟩
        rw [hlo, byteLen_append]; omega
      | tok a ty r =>
        simp only [hp] at h
        have ⟨hs, _⟩ := scanPiece_tok hp
        cases hr : scanFuel f (pos + byteLen a) r with
        | none => simp [hr] at h
        | some x =>
          cases x with
          | error e => simp [hr] at h
          | ok ts' =>
            simp only [hr, Option.some.injEq, Except.ok.injEq] at h
            cases pre with
            | nil =>
              simp only [List.nil_append] at hts
              have ht : t = ⟨pos, pos + byteLen a, ty⟩ := by
                rw [hts] at h; exact (List.cons.inj h).1.symm
              have hlo : t.lo = pos := by rw [ht]
              refine ⟨f + 1, [], c :: cs, rfl, by simp [hlo], ?_⟩
              rw [hlo]
              simp only [scanFuel, hp, hr]
              rw [← hts, h]
            | cons x pre' =>
              rw [hts] at h
              simp only [List.cons_append, List.cons.injEq] at h
              obtain ⟨f', p, sfx, he, hlo, hsc⟩ := ih _ _ _ hr pre' t rest h.2
              refine ⟨f', a ++ p, sfx, by rw [← hs, he]; simp, ?_, hsc⟩
              rw [hlo, byteLen_append]; omega

theorem scan_suffix {text : Text} {ts pre : List Token} {t : Token} {rest : List Token}
    (h : scan text = .ok ts) (hts : ts = pre ++ t :: rest) :
    ∃ (p sfx : Text) (ts0 : List Token), text = p ++ sfx ∧ t.lo = byteLen p ∧
      scan sfx = .ok ts0 ∧ t :: rest = ts0.map (Token.shift t.lo) := by
  obtain ⟨f', p, sfx, he, hlo, hsc⟩ := scanFuel_suffix _ _ _ _ (scan_fuel h) pre t rest hts
  obtain ⟨ts0, h0, hmap⟩ := scanFuel_unshift hsc
  exact ⟨p, sfx, ts0, he, by simpa using hlo, scan_of_fuel h0, hmap⟩

theorem scanPiece_body {c : Char} {cs a r : Text} {ty : TokType}
    (h : scanPiece c cs = .tok a ty r) : BodyOK ty a := by
  have := scanPiece_good c cs; rw [h] at this; exact this.2.2

theorem scanFuel_bodies : ∀ (f pos : Nat) (cs : Text) (ts : List Token),
    scanFuel f pos cs = some (.ok ts) →
    ∀ t ∈ ts, ∃ pre body post, cs = pre ++ body ++ post ∧ t.lo = pos + byteLen pre ∧
      t.hi = t.lo + byteLen body ∧ body ≠ [] ∧ BodyOK t.ty body := by
  intro f
  induction f with
  | zero => intro pos cs ts h; simp [scanFuel] at h
  | succ f ih =>
    intro pos cs ts h t ht
    cases cs with
    | nil => simp [scanFuel] at h; subst h; simp at ht
    | cons c cs =>
      simp only [scanFuel] at h
      cases hp : scanPiece c cs with
      | fail e => simp [hp] at h
      | skip a r =>
        simp only [hp] at h
        have ⟨hs, _⟩ := scanPiece_skip hp
        obtain ⟨pre, body, post, he, hlo, hhi, hne, hb⟩ := ih _ _ _ h t ht
        refine ⟨a ++ pre, body, post, by rw [← hs, he]; simp, ?_, hhi, hne, hb⟩
        rw [hlo, byteLen_append]; omega
      | tok a ty r =>
        simp only [hp] at h
        have ⟨hs, hane⟩ := scanPiece_tok hp
        cases hr : scanFuel f (pos + byteLen a) r with
        | none => simp [hr] at h
        | some x =>
          cases x with
          | error e => simp [hr] at h
          | ok ts' =>
            simp only [hr, Option.some.injEq, Except.ok.injEq] at h
            subst h
            rcases List.mem_cons.mp ht with rfl | ht'
            · exact ⟨[], a, r, by simp [hs], by simp, rfl, hane, scanPiece_body hp⟩
            · obtain ⟨pre, body, post, he, hlo, hhi, hne, hb⟩ := ih _ _ _ hr t ht'
              refine ⟨a ++ pre, body, post, by rw [← hs, he]; simp, ?_, hhi, hne, hb⟩
              rw [hlo, byteLen_append]; omega

/-- a token the parser can slice out of `text`, spelled as its type promises -/
def TokOK (text : Text) (t : Token) : Prop :=
  ∃ body, sliceBytes t.lo t.hi text = some body ∧ body ≠ [] ∧ BodyOK t.ty body

theorem scan_bodies {text : Text} {ts : List Token} (h : scan text = .ok ts) :
    ∀ t ∈ ts, TokOK text t := by
  intro t ht
  obtain ⟨pre, body, post, he, hlo, hhi, hne, hb⟩ := scanFuel_bodies _ _ _ _ (scan_fuel h) t ht
  refine ⟨body, ?_, hne, hb⟩
  rw [he, hhi, hlo, Nat.zero_add]
  exact sliceBytes_append _ _ _

end ParseText
end Marwood
