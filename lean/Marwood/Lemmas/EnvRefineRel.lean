import Marwood.Lemmas.EnvRefineMonad
import Marwood.Lemmas.EnvOneLevel
/-!
# T02.4, part 2: the simulation relation between specification states and model states

`β : Loc → Option (env, slot)` sends a specification location to the value slot that stands for it.
* `HeapRel`: `β` is injective; a mapped location is a live store cell whose slot exists, holds no pointer and holds a
  related value (an uninitialised location constrains only the slot kind: the specification faults on reading it).
* `VRel`: a specification closure (text + chain) is related to a model closure (text + map + closure environment) when
  the map is the compiler model's for that text in a context whose names agree with the chain, and every captured
  entry points to the slot `β` assigns to the location the chain resolves the name to (`CloFacts`).
* `ChainOK`: every frame is the image of ONE activation environment, index by index: the second half of T02.2.
* `ActRel`: the same for a running activation.

`CloFacts β h fvs octx ctx cenv ρ acts carr`: `octx` is the context of the CREATOR (the lambda whose activation ran
CLOSURE), `ctx` the closure's own (`compileLam octx …`); `fvs` the free symbols of its lambda form, the names it may
have to find in `ρ`; `cenv` / `carr` the closure environment's id and contents; `acts` the activation environments the
frames of `ρ` are the images of. `ActRel β h N ctx ep ρ acts`: `N` are the names the code run in this activation may
mention; only for those does `need` demand a slot when the chain binds the name (a name the form does not mention is
not among its free symbols).

`VRel`, `CloFacts`, `SlotRel`, `LogRel`, `ChainOK`, `ActRel` are monotone along `Ext`; `HeapRel`, `GlobRel`, `StRel`
are re-established by each operation.
-/
namespace Marwood.Vm.EnvRefine
open Marwood Marwood.Scope Marwood.Vm.Env Marwood.Spec.Scope

abbrev LocMap := Loc → Option (Nat × Nat)

/-- pointwise relation of two lists (core has no `Forall2`) -/
inductive Forall2 {α β : Type} (R : α → β → Prop) : List α → List β → Prop
  | nil : Forall2 R [] []
  | cons {a b as bs} : R a b → Forall2 R as bs → Forall2 R (a :: as) (b :: bs)

/-- every frame is the image of one activation environment: the `i`-th binding lives in slot `i` -/
def ChainOK (β : LocMap) : Chain → List Nat → Prop
  | [], [] => True
  | fr :: ρ, a :: acts => (∀ i x l, fr[i]? = some (x, l) → β l = some (a, i)) ∧ ChainOK β ρ acts
  | _, _ => False

/-- the names of the enclosing compile-time context agree with the chain -/
structure ScopeOK (octx : LamCtx) (ρ : Chain) : Prop where
  unb : ∀ x, resolve x ρ = none → slotOf octx.envmap x = none
  noarg : ∀ x, slotOf octx.envmap x = none → argIndex octx.args x = none

structure CloFacts (β : LocMap) (h : Envs MVal) (fvs : List Name) (octx ctx : LamCtx) (cenv : Nat)
    (ρ : Chain) (acts : List Nat) (carr : Array (Slot MVal)) : Prop where
  scope : ScopeOK octx ρ
  need : ∀ x ∈ fvs, resolve x ρ ≠ none → slotOf octx.envmap x ≠ none
  env : h.envs[cenv]? = some carr
  size : carr.size = ctx.envmap.length
  ptrs : ∀ (s : Nat) (x : Name) (k : Nat), ctx.envmap[s]? = some (x, Source.iofEnv k) →
    ∃ (l : Loc) (e i : Nat), resolve x ρ = some l ∧ β l = some (e, i) ∧ carr[s]? = some (Slot.ptr e i)
  vals : ∀ (s : Nat) (x : Name) (src : Source), ctx.envmap[s]? = some (x, src) → (∀ k, src ≠ Source.iofEnv k) →
    ∃ g : Slot MVal, carr[s]? = some g ∧ g.isPtr = false
  chain : ChainOK β ρ acts

def CloRel (β : LocMap) (h : Envs MVal) (ps : List Name) (r : Option Name) (ds : Defs) (body : Exprs)
    (ctx : LamCtx) (cenv : Nat) (ρ : Chain) : Prop :=
  ∃ octx sugar acts carr, ctx = compileLam octx sugar ps r ds body ∧
    CloFacts β h (fvLam sugar ps r ds body) octx ctx cenv ρ acts carr

inductive VRel (β : LocMap) (h : Envs MVal) : SVal → MVal → Prop
  | int (n : Nat) : VRel β h (.int n) (.int n)
  | nil : VRel β h .nil .nil
  | void : VRel β h .void .void
  | pair {a d : SVal} {a' d' : MVal} : VRel β h a a' → VRel β h d d' → VRel β h (.pair a d) (.pair a' d')
  | clo {ps r ds body ctx cenv ρ} : CloRel β h ps r ds body ctx cenv ρ →
      VRel β h (.clo ps r ds body ρ) (.clo ps r ds body ctx cenv)

/-- the later world: more locations mapped, a later heap -/
structure Ext (β : LocMap) (h : Envs MVal) (β' : LocMap) (h' : Envs MVal) : Prop where
  sub : ∀ l p, β l = some p → β' l = some p
  ev : Evolves h h'

theorem Ext.refl (β : LocMap) (h : Envs MVal) : Ext β h β h := ⟨fun _ _ hp => hp, Evolves.refl h⟩

theorem Ext.trans {β1 β2 β3 : LocMap} {h1 h2 h3 : Envs MVal} (a : Ext β1 h1 β2 h2) (b : Ext β2 h2 β3 h3) :
    Ext β1 h1 β3 h3 := ⟨fun l p hp => b.sub l p (a.sub l p hp), a.ev.trans b.ev⟩

theorem ChainOK.mono {β β' : LocMap} (hs : ∀ l p, β l = some p → β' l = some p) :
    ∀ (ρ : Chain) (acts : List Nat), ChainOK β ρ acts → ChainOK β' ρ acts
  | [], [], _ => trivial
  | fr :: ρ, a :: acts, h => ⟨fun i x l hi => hs _ _ (h.1 i x l hi), ChainOK.mono hs ρ acts h.2⟩
  | [], _ :: _, h => h.elim
  | _ :: _, [], h => h.elim

theorem CloFacts.mono {β β' : LocMap} {h h' : Envs MVal} (e : Ext β h β' h') {fvs octx ctx cenv ρ acts carr}
    (c : CloFacts β h fvs octx ctx cenv ρ acts carr) :
    ∃ carr', CloFacts β' h' fvs octx ctx cenv ρ acts carr' := by
  obtain ⟨carr', hc', hsz, hslots⟩ := e.ev.2 cenv carr c.env
  refine ⟨carr', c.scope, c.need, hc', hsz.trans c.size, ?_, ?_, ChainOK.mono e.sub _ _ c.chain⟩
  · intro s x k he
    obtain ⟨l, e', i, hr, hb, hp⟩ := c.ptrs s x k he
    obtain ⟨g', hg', hm⟩ := hslots s _ hp
    cases hm
    exact ⟨l, e', i, hr, e.sub _ _ hb, hg'⟩
  · intro s x src he hn
    obtain ⟨g, hg, hnp⟩ := c.vals s x src he hn
    obtain ⟨g', hg', hm⟩ := hslots s g hg
    exact ⟨g', hg', (Slot.Keeps.isPtr hm).trans hnp⟩

theorem CloRel.mono {β β' : LocMap} {h h' : Envs MVal} (e : Ext β h β' h') {ps r ds body ctx cenv ρ}
    (c : CloRel β h ps r ds body ctx cenv ρ) : CloRel β' h' ps r ds body ctx cenv ρ := by
  obtain ⟨octx, sugar, acts, carr, hctx, hf⟩ := c
  obtain ⟨carr', hf'⟩ := hf.mono e
  exact ⟨octx, sugar, acts, carr', hctx, hf'⟩

theorem VRel.mono {β β' : LocMap} {h h' : Envs MVal} (e : Ext β h β' h') {v : SVal} {v' : MVal}
    (r : VRel β h v v') : VRel β' h' v v' := by
  induction r with
  | int n => exact .int n
  | nil => exact .nil
  | void => exact .void
  | pair _ _ iha ihd => exact .pair iha ihd
  | clo c => exact .clo (c.mono e)

theorem VRel.ne_undef {β : LocMap} {h : Envs MVal} {v : SVal} {v' : MVal} (r : VRel β h v v') : v ≠ .undef := by
  cases r <;> simp

theorem VRel.ne_undef' {β : LocMap} {h : Envs MVal} {v : SVal} {v' : MVal} (r : VRel β h v v') : v' ≠ .undef := by
  cases r <;> simp

theorem VRel.ofList {β : LocMap} {h : Envs MVal} {vs : List SVal} {vs' : List MVal}
    (r : Forall2 (VRel β h) vs vs') : VRel β h (Val.ofList vs) (Vm.EnvRun.Val.ofList vs') := by
  induction r with
  | nil => exact .nil
  | cons hv _ ih => exact .pair hv ih

def SlotRel (β : LocMap) (h : Envs MVal) (sv : SVal) (g : Slot MVal) : Prop :=
  g.isPtr = false ∧ (sv = .undef ∨ ∃ mv, g = .val mv ∧ VRel β h sv mv)

theorem SlotRel.mono {β β' : LocMap} {h h' : Envs MVal} (e : Ext β h β' h') {sv g}
    (r : SlotRel β h sv g) : SlotRel β' h' sv g :=
  ⟨r.1, r.2.elim Or.inl fun ⟨mv, hg, hv⟩ => Or.inr ⟨mv, hg, hv.mono e⟩⟩

structure HeapRel (β : LocMap) (store : Array SVal) (h : Envs MVal) : Prop where
  slot : ∀ l e i, β l = some (e, i) → ∃ sv arr g, store[l]? = some sv ∧ h.envs[e]? = some arr ∧
    arr[i]? = some g ∧ SlotRel β h sv g
  inj : ∀ l l' p, β l = some p → β l' = some p → l = l'

structure GlobRel (β : LocMap) (h : Envs MVal) (s : SSt) (t : MSt) : Prop where
  bound : ∀ x l, s.globals.find? x = some l → β l = none ∧ ∃ sv mv, s.store[l]? = some sv ∧
    t.globals.find? (·.1 == x) = some (x, mv) ∧ VRel β h sv mv
  free : ∀ x, s.globals.find? x = none → t.globals.find? (·.1 == x) = none
  inj : ∀ x y l, s.globals.find? x = some l → s.globals.find? y = some l → x = y

def LogRel (β : LocMap) (h : Envs MVal) : List Event → List (Nat × MVal) → Prop :=
  Forall2 fun ev p => ev.site = p.1 ∧ VRel β h ev.val p.2

theorem LogRel.mono {β β' : LocMap} {h h' : Envs MVal} (e : Ext β h β' h') {l l'} (r : LogRel β h l l') :
    LogRel β' h' l l' := by
  induction r with
  | nil => exact .nil
  | cons hv _ ih => exact .cons ⟨hv.1, hv.2.mono e⟩ ih

structure StRel (β : LocMap) (s : SSt) (t : MSt) : Prop where
  counter : s.counter = t.counter
  log : LogRel β t.envs s.log t.log
  glob : GlobRel β t.envs s t
  heap : HeapRel β s.store t.envs
  one : OneLevel t.envs

structure ActRel (β : LocMap) (h : Envs MVal) (N : Name → Prop) (ctx : LamCtx) (ep : Option Nat)
    (ρ : Chain) (acts : List Nat) : Prop where
  res : ∀ x s, slotOf ctx.envmap x = some s → ∃ a l e i, ep = some a ∧ resolve x ρ = some l ∧
    target h a s = .ok (e, i) ∧ β l = some (e, i)
  unb : ∀ x, resolve x ρ = none → slotOf ctx.envmap x = none
  noarg : ∀ x, slotOf ctx.envmap x = none → argIndex ctx.args x = none
  need : ∀ x, N x → resolve x ρ ≠ none → slotOf ctx.envmap x ≠ none
  chain : ChainOK β ρ acts

theorem ActRel.mono {β β' : LocMap} {h h' : Envs MVal} (e : Ext β h β' h') {N ctx ep ρ acts}
    (a : ActRel β h N ctx ep ρ acts) : ActRel β' h' N ctx ep ρ acts := by
  refine ⟨?_, a.unb, a.noarg, a.need, ChainOK.mono e.sub _ _ a.chain⟩
  intro x s hs
  obtain ⟨a', l, e', i, h1, h2, h3, h4⟩ := a.res x s hs
  exact ⟨a', l, e', i, h1, h2, target_stable e.ev _ _ _ h3, e.sub _ _ h4⟩

theorem ActRel.weaken {β : LocMap} {h : Envs MVal} {N N' : Name → Prop} {ctx ep ρ acts}
    (a : ActRel β h N ctx ep ρ acts) (hN : ∀ x, N' x → N x) : ActRel β h N' ctx ep ρ acts :=
  ⟨a.res, a.unb, a.noarg, fun x hx => a.need x (hN x hx), a.chain⟩

theorem ActRel.top (β : LocMap) (h : Envs MVal) (N : Name → Prop) : ActRel β h N LamCtx.top none [] [] :=
  ⟨fun x s hs => by simp [LamCtx.top, slotOf] at hs, fun _ _ => rfl, fun _ _ => rfl,
   fun x _ hr => absurd rfl hr, trivial⟩

/-- what the compiled reference to a needed name does: a slot whose `target` is the image of the
    location the chain resolves the name to, or — the chain does not bind it — a global access -/
theorem ActRel.bindingLocation {β : LocMap} {h : Envs MVal} {N ctx ep ρ acts}
    (a : ActRel β h N ctx ep ρ acts) (x : Name) (hN : N x) :
    (∃ l s ae e i, resolve x ρ = some l ∧ bindingLocation ctx x = .env s ∧ ep = some ae ∧
        target h ae s = .ok (e, i) ∧ β l = some (e, i)) ∨
    (resolve x ρ = none ∧ bindingLocation ctx x = .global) := by
  cases hr : resolve x ρ with
  | none =>
    right
    have h1 := a.unb x hr
    have h2 := a.noarg x h1
    exact ⟨rfl, by simp [Env.bindingLocation, h1, h2]⟩
  | some l =>
    left
    cases hs : slotOf ctx.envmap x with
    | none => exact absurd hs (a.need x hN (by simp [hr]))
    | some s =>
      obtain ⟨ae, l', e, i, h1, h2, h3, h4⟩ := a.res x s hs
      rw [hr] at h2
      cases h2
      exact ⟨l, s, ae, e, i, rfl, by simp [Env.bindingLocation, hs], h1, h3, h4⟩

end Marwood.Vm.EnvRefine
