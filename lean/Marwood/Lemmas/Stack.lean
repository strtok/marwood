import Marwood.Vm.Machine
/-!
# Functional view of the VM stack

`Stack.cellAt` reads a cell as a total function; `get`, `set`, `pop` and `push` are characterised through it
(`push` also where it has to grow the cell list). `cells[i]? = some v` is the stronger form of `cellAt i = v`: it
carries `i < cells.length` (`cellAt_of_some`, `lt_of_some`, `some_cellAt`).
-/
namespace Marwood.Vm

@[simp] theorem outcome_bind_ok {α β : Type} (a : α) (f : α → Outcome β) : (Outcome.ok a >>= f) = f a := rfl

namespace Stack

/-- the cell at index `i` (`undefined` past the capacity — only used where `i < capacity`) -/
def cellAt (s : Stack) (i : Nat) : VCell := s.cells[i]?.getD .undefined

theorem cellAt_sp (st : Stack) (p i : Nat) : (Stack.mk st.cells p).cellAt i = st.cellAt i := rfl

theorem cellAt_of_some {st : Stack} {i : Nat} {v : VCell} (h : st.cells[i]? = some v) : st.cellAt i = v := by
  unfold Stack.cellAt; rw [h]; rfl

theorem lt_of_some {st : Stack} {i : Nat} {v : VCell} (h : st.cells[i]? = some v) : i < st.cells.length := by
  rcases Nat.lt_or_ge i st.cells.length with h1 | h1
  · exact h1
  · rw [List.getElem?_eq_none h1] at h; cases h

theorem some_cellAt (st : Stack) {i : Nat} (h : i < st.cells.length) : st.cells[i]? = some (st.cellAt i) := by
  unfold Stack.cellAt
  rw [List.getElem?_eq_getElem h]; rfl

theorem get_of_lt (s : Stack) (i : Nat) (h : i < s.cells.length) : s.get i = .ok (s.cellAt i) := by
  unfold get Stack.cellAt
  rw [List.getElem?_eq_getElem h]; rfl

theorem set_of_lt (s : Stack) (i : Nat) (v : VCell) (h : i < s.cells.length) :
    s.set i v = .ok { s with cells := s.cells.set i v } := by
  unfold set; simp [h]

theorem get_eq_ok {st : Stack} {i : Nat} {v : VCell} : st.get i = .ok v ↔ st.cells[i]? = some v := by
  unfold get
  cases st.cells[i]? with
  | none => exact ⟨fun h => (by cases h), fun h => (by cases h)⟩
  | some w => exact ⟨fun h => (by cases h; rfl), fun h => (by cases h; rfl)⟩

theorem pop_eq_ok {st st' : Stack} {v : VCell} :
    st.pop = .ok (v, st') ↔ 0 < st.sp ∧ st.cells[st.sp]? = some v ∧ st' = { st with sp := st.sp - 1 } := by
  unfold pop
  by_cases h0 : 0 < st.sp
  · rw [if_pos h0]
    cases st.cells[st.sp]? with
    | none => exact ⟨fun h => (by cases h), fun h => (by cases h.2.1)⟩
    | some w =>
      constructor
      · intro h; cases h; exact ⟨h0, rfl, rfl⟩
      · rintro ⟨_, h1, h2⟩; cases h1; rw [h2]
  · rw [if_neg h0]
    exact ⟨fun h => (by cases h), fun h => absurd h.1 h0⟩

theorem pop_of_lt (s : Stack) (h0 : 0 < s.sp) (hl : s.sp < s.cells.length) :
    s.pop = .ok (s.cellAt s.sp, { s with sp := s.sp - 1 }) := by
  unfold Stack.pop Stack.cellAt
  simp only [h0, if_true]
  rw [List.getElem?_eq_getElem hl]; rfl

theorem getOffset_of_lt (st : Stack) (k : Nat) (h : k ≤ st.sp) (hl : st.sp - k < st.cells.length) :
    st.getOffset (-(k : Int)) = .ok (st.cellAt (st.sp - k)) := by
  unfold Stack.getOffset
  have h0 : (0 : Int) ≤ (st.sp : Int) + -(k : Int) := by omega
  simp only [h0, if_true]
  rw [show ((st.sp : Int) + -(k : Int)).toNat = st.sp - k by omega]
  exact get_of_lt st _ hl

@[simp] theorem at_set_cells (s : Stack) (i j : Nat) (v : VCell) (h : i < s.cells.length) :
    (Stack.cellAt { s with cells := s.cells.set i v } j) = if j = i then v else s.cellAt j := by
  unfold Stack.cellAt
  simp only [List.getElem?_set]
  by_cases hij : i = j
  · subst hij; simp [h]
  · have : ¬ j = i := fun e => hij e.symm
    simp [hij, this]

theorem pad_getD (l : List VCell) (k i : Nat) :
    (l ++ List.replicate k VCell.undefined)[i]?.getD VCell.undefined = l[i]?.getD VCell.undefined := by
  by_cases hl : i < l.length
  · simp [List.getElem?_append_left hl]
  · have : l.length ≤ i := by omega
    rw [List.getElem?_append_right this, List.getElem?_eq_none this]
    cases hx : (List.replicate k VCell.undefined)[i - l.length]? with
    | none => rfl
    | some x =>
      have := List.mem_of_getElem? hx
      rw [(List.mem_replicate.mp this).2]; rfl

/-- pushing writes exactly cell `sp+1`, whatever the capacity -/
theorem push_cellAt (s : Stack) (v : VCell) (j : Nat) :
    (s.push v).cellAt j = if j = s.sp + 1 then v else s.cellAt j := by
  unfold push
  split
  · rename_i h
    unfold Stack.cellAt
    simp only [List.getElem?_set]
    by_cases hj : s.sp + 1 = j
    · subst hj; simp [h]
    · have : ¬ j = s.sp + 1 := fun e => hj e.symm
      simp [hj, this]
  · rename_i h
    unfold Stack.cellAt
    simp only [List.getElem?_set]
    by_cases hj : s.sp + 1 = j
    · subst hj
      have h1 := Nat.le_max_right s.cells.length (s.sp + 2 - s.cells.length)
      have hlt : s.sp + 1 < s.cells.length + max s.cells.length (s.sp + 2 - s.cells.length) := by
        generalize max s.cells.length (s.sp + 2 - s.cells.length) = m at *
        omega
      simp [hlt]
    · have hne : ¬ j = s.sp + 1 := fun e => hj e.symm
      simp only [hj, hne, if_false]
      exact pad_getD _ _ _

@[simp] theorem push_sp (s : Stack) (v : VCell) : (s.push v).sp = s.sp + 1 := by
  unfold push; split <;> rfl

theorem push_len (s : Stack) (v : VCell) : s.cells.length ≤ (s.push v).cells.length := by
  unfold push
  split
  · simp
  · simp

theorem push_sp_lt (s : Stack) (v : VCell) : (s.push v).sp < (s.push v).cells.length := by
  unfold push
  split
  · rename_i h; simpa using h
  · have h1 := Nat.le_max_right s.cells.length (s.sp + 2 - s.cells.length)
    simp
    generalize max s.cells.length (s.sp + 2 - s.cells.length) = m at *
    omega

end Stack

open Stack in
theorem push_cellAt_top (st : Stack) (v : VCell) : (st.push v).cellAt (st.sp + 1) = v := by
  rw [push_cellAt, if_pos rfl]

open Stack in
theorem push_below (st : Stack) (v : VCell) (i : Nat) (hi : i ≤ st.sp) : (st.push v).cellAt i = st.cellAt i := by
  rw [push_cellAt, if_neg (by omega)]

theorem cells_eq_cellAt {st st' : Stack} (h : st'.cells = st.cells) (i : Nat) : st'.cellAt i = st.cellAt i := by
  unfold Stack.cellAt; rw [h]

end Marwood.Vm
