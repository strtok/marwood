import Marwood.Lemmas.CompileCorrect2Call
/-!
# T01.3 stage 2: compiler correctness for `lambda`, closures and lexical variables

`both2`: for `e` in the fragment `F2` (stage-1 forms in any binding context, references and `set!` of lexical variables
at any depth, `lambda` with fixed arity and no internal definitions, application of primitive procedures and of closures
in tail and non-tail position), from every machine state whose current lambda holds the compiled code at `ip.1`, whose
`ep` represents `ρ` through the binding context and whose heap represents `σ` (`Inv2`), the machine does what the result
of `Spec.Eval` on `e` calls for (`CompileSim.ExprOut`); likewise the call of a closure value (`CompileSim.CallRes`). The
induction is on the fuel of the SPECIFICATION: the body of a closure is not a sub-term of the call.
The primitives covered are those `Laws2.call` can hold for: its conclusion contains `Ext2`, whose `StoreExt.keep` says
that no pair or vector cell of the store changes, so `set-car!`, `set-cdr!`, `vector-set!` must not be represented values.
`compileExpr_correct2` reads it at a value: the run ends behind the code with the same lambda, `bp`, `ep` and live stack,
a representation of `w` in `acc` and a heap representing `σ'` in a world extending the given one (`Run2`), or, with the
tail flag, after a `TCALL` in the state the `RET` of the current activation would have left (`Ret2`). The reading at an
error is `compileExpr_correct2_err` (`CompileCorrect2FailTop.lean`).
-/
namespace Marwood.Lemmas.CompileCorrect2
open Marwood Marwood.Vm Marwood.Lemmas.CompileCorrect Marwood.Lemmas.CompileSim
open Marwood.Spec.Eval (Val Prim Cell Env ErrClass Res evalN evalStep applyStep evalArgs properList quoteVal kwOf insertG
  k_quote k_if_ k_setBang k_define k_lambda)

variable {H : Type} {ops : HeapOps H} {D : RepData2 ops}

theorem exprRes2_succ (L : Laws2 D) {n : Nat} (ih : ExprRes (rel2 D) n) (ihc : CallRes (crel2 D) n) :
    ExprRes (rel2 D) (n + 1) := by
  have LL := claws2 L
  intro f cst c base tail e cst' code ρ us hf hcx hcomp hpre σ W s fr hc hip hi her hw hfrm
  change ExprOut _ W s code.length σ tail fr (evalStep (evalN n) e ρ σ)
  cases hf with
  | bool b =>
    obtain ⟨rfl, _⟩ := compile_selfEval_inv2 rfl hcomp
    subst hip; exact quote_res2 L hc hi hw
  | char ch =>
    obtain ⟨rfl, _⟩ := compile_selfEval_inv2 rfl hcomp
    subst hip; exact quote_res2 L hc hi hw
  | num m =>
    obtain ⟨rfl, _⟩ := compile_selfEval_inv2 rfl hcomp
    subst hip; exact quote_res2 L hc hi hw
  | str t =>
    obtain ⟨rfl, _⟩ := compile_selfEval_inv2 rfl hcomp
    subst hip; exact quote_res2 L hc hi hw
  | quote d rest =>
    obtain ⟨rfl, _⟩ := compile_quote_inv2 hcomp
    subst hip; rw [evalStep_quote]; exact quote_res2 L hc hi hw
  | vecc e0 =>
    obtain ⟨rfl, _⟩ := compile_selfEval_inv2 rfl hcomp
    subst hip; exact quote_res2 L hc hi hw
  | sym x hsc => exact sym_res2 L hsc hcx hcomp hc hip hi her hw hfrm
  | setBang x e hsc hG hfe => exact setBang_res LL ih hsc hG hfe hcx hcomp hpre hc hip hi her hw hfrm
  | if2 t cn hft hfc => exact if2_res LL.toLaws ih hft hfc hcx hcomp hpre hc hip hi her hw hfrm
  | if3 t cn a hft hfc hfa => exact if3_res LL.toLaws ih hft hfc hfa hcx hcomp hpre hc hip hi her hw hfrm
  | app fn args hh hff hfr => exact app_res LL ih ihc hh hff (F2L.toFragL hfr) hcx hcomp hpre hc hip hi her hw hfrm
  | lambda formals body p ps b bs caps h1 h2 h3 h4 h5 h6 h7 h8 h9 h10 =>
    have hev := evalStep_lambda (r := evalN n) ρ σ h2 h6
    obtain ⟨W', s', hw', r⟩ := case2_lambda L h1 h2 h3 h4 h5 h6 h7 h8 h9 h10 hcomp hpre hev hc hip hi her hw
    rw [hev]
    exact ⟨W', s', hw', .inl (run2_iff.mpr r)⟩

theorem both2 (L : Laws2 D) : ∀ n, ExprRes (rel2 D) n ∧ CallRes (crel2 D) n
  | 0 => ⟨fun _ _ _ _ _ _ _ _ _ _ _ _ _ _ _ _ _ _ _ _ _ _ _ _ => trivial,
          fun _ _ _ _ _ _ _ _ _ _ _ _ _ _ _ _ _ _ _ _ _ _ _ _ => trivial⟩
  | n + 1 =>
    have ih := both2 L n
    ⟨exprRes2_succ L ih.1 ih.2, callRes2_succ L ih.1⟩

/-- **Compiler correctness, stage 2** (success case; closures, lexical variables, calls and tail calls). -/
theorem compileExpr_correct2 (L : Laws2 D) (f : Nat) (cst : CState) (c : Ctx) (base : Nat) (tail : Bool)
    (e : Datum) (cst' : CState) (code : List BC) (ρ : Env) (hf : F2 D.setG f c (bound ρ) tail e) (hcx : CtxOK c)
    (hcomp : compileExpr f cst c base tail e = .ok (cst', code)) (hpre : cst'.lambdas <+: D.final)
    (n : Nat) (σ : SSt) (w : Val) (σ' : SSt) (hev : (evalN n).eval e ρ σ = .ok w σ')
    (W : World) (s : MSt H) (fr : Frame) (hc : CodeAt2 D c.envmap s.heap σ.store s.ipL base code)
    (hip : s.ipO = base) (hi : Inv2 D W s.heap σ) (her : EnvRep ops W s.heap c s.ep ρ) (hw : SWF s.stack)
    (hfr : tail = true → FrameAt s.stack s.bp fr) :
    ∃ W' s', W.le W' ∧ Out2 D W' s code.length σ σ' w tail fr s' :=
  exprOut2_ok.mp (hev ▸ (both2 L n).1 f cst c base tail e cst' code ρ (fun _ => False) hf hcx hcomp hpre σ W s fr hc hip hi
    her hw hfr)

theorem compileExpr_correct2_nontail (L : Laws2 D) (f : Nat) (cst : CState) (c : Ctx) (base : Nat)
    (e : Datum) (cst' : CState) (code : List BC) (ρ : Env) (hf : F2 D.setG f c (bound ρ) false e) (hcx : CtxOK c)
    (hcomp : compileExpr f cst c base false e = .ok (cst', code)) (hpre : cst'.lambdas <+: D.final)
    (n : Nat) (σ : SSt) (w : Val) (σ' : SSt) (hev : (evalN n).eval e ρ σ = .ok w σ')
    (W : World) (s : MSt H) (hc : CodeAt2 D c.envmap s.heap σ.store s.ipL base code)
    (hip : s.ipO = base) (hi : Inv2 D W s.heap σ) (her : EnvRep ops W s.heap c s.ep ρ) (hw : SWF s.stack) :
    ∃ W' s', W.le W' ∧ Run2 D W' s code.length σ σ' w s' :=
  let ⟨W', s', hw', r⟩ := (both2 L n).1.ok (us := fun _ => False) hf hcx hcomp hpre hev hc hip hi her hw
  ⟨W', s', hw', run2_iff.mp r⟩

theorem closureCall_correct2 (L : Laws2 D) (n : Nat) : CallOK2 D n := by
  intro ps body ρc ws σ w σ' hap W s lam cenv vs st0 epc lc oc hcal hclos hi hvs hipL hipO hst hw0 hw
  have := (both2 L n).2 ps none body ρc ws σ W s lam cenv vs st0 epc lc oc hcal ⟨rfl, hclos⟩ hi hvs hipL hipO hst hw0 hw
  rw [hap] at this; exact this

theorem envRep_top (W : World) (h : H) (ep : Nat) : EnvRep ops W h c0 ep [] := by
  intro x j hj
  simp [slotIdx, c0] at hj

theorem ctxOK_top : CtxOK c0 := by
  intro x hx
  simp [c0] at hx

end Marwood.Lemmas.CompileCorrect2
