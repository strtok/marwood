import Marwood.Lemmas.TransformMatchPlain
/-!
# Templates with ellipsis groups: the class `tP`

`tP es ev T` (`ev` the ellipsis variables): proper, vector-free lists; an element followed by the
ellipsis, a *group* `U ...`, is an ellipsis-free `U` that uses at least one ellipsis variable and none
twice (`unitOK`); the element after an ellipsis is not an ellipsis; outside groups no ellipsis variable.
This is what `check_template_syntax` + `check_template_support` let through (several groups per list
are allowed here).
-/
namespace Marwood.Transform
open Marwood Marwood.Spec.Match

def evSyms (ev : List Text) (T : Datum) : List Text := (tmplSyms T).filter fun x => decide (x ∈ ev)

def unitOK (es : Text) (ev : List Text) (U : Datum) : Bool :=
  plain es U && decide ((evSyms ev U).Nodup) && !(evSyms ev U).isEmpty

mutual
def tP (es : Text) (ev : List Text) : Datum → Bool
  | .sym x => x != es && !decide (x ∈ ev)
  | .pair a (.pair e rest) =>
    if e = .sym es then unitOK es ev a && tS es ev rest else tP es ev a && tS es ev (.pair e rest)
  | .pair a d => tP es ev a && tS es ev d
  | .vec _ => false
  | _ => true
def tS (es : Text) (ev : List Text) : Datum → Bool
  | .nil => true
  | .pair a (.pair e rest) =>
    if e = .sym es then unitOK es ev a && tS es ev rest else tP es ev a && tS es ev (.pair e rest)
  | .pair a d => tP es ev a && tS es ev d
  | _ => false
end

theorem tP_pair (es : Text) (ev : List Text) (a d : Datum) : tP es ev (.pair a d) = tS es ev (.pair a d) := by
  rcases pair_or_not d with ⟨e, rest, rfl⟩ | hd
  · rw [tP, tS]
  · rw [tP.eq_3 _ _ _ _ hd, tS.eq_3 _ _ _ _ hd]

theorem tS_cons_ell (es : Text) (ev : List Text) (a : Datum) (rest : List Datum) :
    tS es ev (Datum.ofList (a :: .sym es :: rest)) = (unitOK es ev a && tS es ev (Datum.ofList rest)) := by
  simp [Datum.ofList, tS]

theorem tS_cons_ne (s : Setup) (ev : List Text) (a : Datum) (rest : List Datum)
    (h : peekIs s.ell rest = false) :
    tS s.es ev (Datum.ofList (a :: rest)) = (tP s.es ev a && tS s.es ev (Datum.ofList rest)) := by
  cases rest with
  | nil => simp [Datum.ofList, tS]
  | cons e rest' =>
    have he : e ≠ .sym s.es := by
      intro he; subst he; simp [peekIs, Setup.ell] at h
    simp [Datum.ofList, tS, he]

/-- stated for the list one element longer too: `tS` looks two elements ahead -/
theorem tS_endsInNil_aux (es : Text) (ev : List Text) : ∀ T : Datum,
    (tS es ev T = true → endsInNil T = true) ∧
    (∀ a, tS es ev (.pair a T) = true → endsInNil T = true) := by
  intro T
  induction T with
  | pair e rest _ ih =>
    refine ⟨ih.2 e, fun a h => ?_⟩
    simp only [tS] at h
    split at h
    · simp only [Bool.and_eq_true] at h; exact ih.1 h.2
    · simp only [Bool.and_eq_true] at h; exact ih.2 e h.2
  | nil => exact ⟨fun _ => rfl, fun _ _ => rfl⟩
  | _ => exact ⟨fun h => by simp [tS] at h, fun a h => by simp [tS] at h⟩

theorem tS_endsInNil (es : Text) (ev : List Text) (T : Datum) (h : tS es ev T = true) :
    endsInNil T = true := (tS_endsInNil_aux es ev T).1 h

end Marwood.Transform
