import Marwood.Heap.Invariant
/-!
# What `Heap::grow` does (T03.3, T12)
-/
theorem Marwood.lt_of_get_some {α} {a : Array α} {i : Nat} {v : α} (h : a[i]? = some v) : i < a.size :=
  (Array.getElem?_eq_some_iff.mp h).1

namespace Marwood.Lemmas.HeapOps
open Marwood Marwood.Heap

/-- the `shape` clause of `WFCore` and of `HInv` -/
def Shape (h : Heap) : Prop := 0 < h.chunk ∧ h.chunk % 4 = 0 ∧ ∃ k, 0 < k ∧ h.cells.size = k * h.chunk

theorem grownSize_gt (chunk k : Nat) (hc : 0 < chunk) (hk : 0 < k) :
    k * chunk < Heap.grownSize chunk (k * chunk) := by
  rw [Heap.grownSize, Nat.mul_div_cancel _ hc]
  exact Nat.mul_lt_mul_of_pos_right ((Nat.le_div_iff_mul_le Nat.two_pos).mpr (by omega)) hc

structure GrowSpec (h h' : Heap) : Prop where
  chunk : h'.chunk = h.chunk
  symtab : h'.symtab = h.symtab
  lt : h.cells.size < h'.cells.size
  csize : h'.cells.size = Heap.grownSize h.chunk h.cells.size
  cells : h'.cells = h.cells ++ Array.replicate (h'.cells.size - h.cells.size) VCell.undefined
  gc : h'.gc = h.gc ++ Array.replicate (h'.cells.size - h.cells.size) GcState.free
  free : h'.free = (List.range' h.cells.size (h'.cells.size - h.cells.size)).reverse ++ h.free

theorem grow_spec (h : Heap) (hsz : h.gc.size = h.cells.size) (hs : Shape h) :
    ∃ h', h.grow = .ok h' ∧ GrowSpec h h' ∧ Shape h' := by
  obtain ⟨hc, h4, k, hk, hsize⟩ := hs
  have hgt : h.cells.size < Heap.grownSize h.chunk h.cells.size := by
    rw [hsize]; exact grownSize_gt h.chunk k hc hk
  have hmod : Heap.grownSize h.chunk h.cells.size % 4 = 0 := by
    rw [Heap.grownSize, Nat.mul_mod, h4, Nat.mul_zero, Nat.zero_mod]
  have hcs : (h.cells ++ Array.replicate (Heap.grownSize h.chunk h.cells.size - h.cells.size)
      VCell.undefined).size = Heap.grownSize h.chunk h.cells.size := by
    rw [Array.size_append, Array.size_replicate, Nat.add_sub_cancel' (Nat.le_of_lt hgt)]
  have hgrow : h.grow = .ok { h with
      cells := h.cells ++ Array.replicate (Heap.grownSize h.chunk h.cells.size - h.cells.size) VCell.undefined
      gc := h.gc ++ Array.replicate (Heap.grownSize h.chunk h.cells.size - h.cells.size) GcState.free
      free := (List.range' h.cells.size (Heap.grownSize h.chunk h.cells.size - h.cells.size)).reverse ++ h.free } := by
    simp only [Heap.grow, Nat.ne_of_gt hc, hmod, hsz, Nat.le_of_lt hgt, if_true, if_false, ne_eq, not_true_eq_false]
  refine ⟨_, hgrow, ⟨rfl, rfl, ?_, hcs, ?_, ?_, ?_⟩, hc, h4, (3 * k + 1) / 2, Nat.div_pos (by omega) Nat.two_pos, ?_⟩
  · rw [hcs]; exact hgt
  · rw [hcs]
  · rw [hcs]
  · rw [hcs]
  · rw [hcs, Heap.grownSize, hsize, Nat.mul_div_cancel _ hc]

end Marwood.Lemmas.HeapOps
