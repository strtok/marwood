import Marwood.Lemmas.SimHeapOps
/-!
# Heap simulation: related values are observed alike (the observation of T03.5 / T13.3 / T07.4)

`readObs fuel h v` reads a value out as `Heap::get_as_cell` (heap.rs) does: pairs and vectors are followed through the
heap, scalars come with their payload tag, procedures and other non-data are `proc`; `cut` when the fuel runs out (the
Rust function recurses natively and does not terminate on cyclic data, C06/C19). Under `Sim φ` related values read out
equal: no address survives. The model compares no pointers; `eq_agree` (they would agree, `φ` being injective) is unused.
-/
namespace Marwood.Lemmas.Sim
open Marwood Marwood.Vm Marwood.Vm.Concrete

inductive Obs
  | atom (v : VCell)
  | pair (a d : Obs)
  | vec (es : List Obs)
  | proc
  | cut
deriving Repr

def readObs : Nat → CHeap → VCell → Obs
  | 0, _, _ => .cut
  | f+1, h, v =>
    match v with
    | .ptr p =>
      match h.cells[p]? with
      | some (.val (.pair a d)) => .pair (readObs f h (.ptr a)) (readObs f h (.ptr d))
      | some (.val w) => if addrFree w then .atom w else .proc
      | some (.vector es) => .vec (es.map (readObs f h))
      | some _ => .proc
      | none => .atom .undefined
    | w => if addrFree w then .atom w else .proc

variable {φ : Inj} {h h' : CHeap}

theorem readObs_rel (hs : HeapSim φ h h') (ok : SizeOk h) (ok' : SizeOk h') :
    ∀ (f : Nat) {v v'}, VRel φ v v' → readObs f h v = readObs f h' v' := by
  intro f
  induction f with
  | zero => intro v v' _; rfl
  | succ f ih =>
    intro v v' hv
    cases hv with
    | ptr hp =>
      simp only [readObs]
      rcases hp.lookup hs ok ok' with ⟨e1, e2⟩ | ⟨_, c, c', e1, e2, r⟩
      · rw [e1, e2]
      · rw [e1, e2]
        cases r with
        | val hw =>
          cases hw with
          | pair ha hd => simp only; rw [ih (.ptr ha), ih (.ptr hd)]
          | atom hf => rename_i w; cases w <;> first | rfl | simp [addrFree] at hf
          | closure _ _ => rfl
          | lexEnvPtr _ => rfl
          | envPtr _ => rfl
          | instrPtr _ => rfl
          | ptr _ => rfl
        | lexEnv _ => rfl
        | vector hes =>
          simp only
          congr 1
          clear e1 e2
          induction hes with
          | nil => rfl
          | cons h1 _ ih2 => simp only [List.map_cons]; rw [ih h1, ih2]
        | lambda _ _ _ => rfl
        | cont _ => rfl
    | atom hf => cases v <;> first | rfl | simp [addrFree] at hf
    | pair _ _ => rfl
    | closure _ _ => rfl
    | lexEnvPtr _ => rfl
    | envPtr _ => rfl
    | instrPtr _ => rfl

/-- what an evaluation returns: `heap.get_as_cell(&acc)` -/
def resultObs (fuel : Nat) (s : St CHeap) : Obs := readObs fuel s.heap s.acc

theorem resultObs_sim {s t : St CHeap} (hs : Sim φ s t) (ok : SizeOk s.heap) (ok' : SizeOk t.heap) (fuel : Nat) :
    resultObs fuel s = resultObs fuel t :=
  readObs_rel hs.heap ok ok' fuel hs.acc

theorem eq_agree (hs : HeapSim φ h h') {a b a' b' : Nat} (ha : φ a = some a') (hb : φ b = some b') :
    a = b ↔ a' = b' := by
  constructor
  · intro e; subst e; rw [ha] at hb; cases hb; rfl
  · intro e; subst e; exact hs.inj a b a' ha hb

end Marwood.Lemmas.Sim
