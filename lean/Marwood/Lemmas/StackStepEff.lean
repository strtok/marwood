import Marwood.Lemmas.TCall
/-!
# What the operations of the machine did when they succeeded

Generic in the heap, free of the verifier and of every law about the heap: only `Vm/Machine.lean` is consulted.
Inversions of the stack operations, the operand readers (`OpLoads`, `OpStores`) and the casts; ENTER, RET and
continuation invocation exactly (`stepEnter_iff`, `stepRet_iff`, `invokeCont_iff`); the callee dispatch of CALL /
TCALL and VARARG as descriptions. `execOp` is the body of `step` after the opcode has been read: it repeats the
text of `step` and is tied to it by `rfl` (`step_execOp`), so a change of `step` is made here as well. The one
operation described nowhere at this level is `apply` (two loops over the stack): its readers invert `builtinApply`.
-/
namespace Marwood.Vm
open Stack

variable {H : Type} {ops : HeapOps H}

/-- the lambda whose formals ENTER compares the argument count with: the callee in `acc` -/
def enterLam (ops : HeapOps H) (h : H) (acc : VCell) : Option Nat :=
  match ops.callee h acc with
  | .closure lam _ => some lam
  | .lambda => (match acc with | .ptr p => some p | _ => none)
  | _ => none

theorem bind_inv {α β : Type} {x : Outcome α} {f : α → Outcome β} {r : β} (h : (x >>= f) = .ok r) :
    ∃ a, x = .ok a ∧ f a = .ok r := by
  cases x with
  | ok a => exact ⟨a, rfl, h⟩
  | err e => cases h
  | panic m => cases h

theorem pop_ok {st st' : Stack} {v : VCell} (h : st.pop = .ok (v, st')) :
    st'.sp + 1 = st.sp ∧ st'.cells = st.cells ∧ v = st.cellAt st.sp := by
  obtain ⟨h0, hv, rfl⟩ := pop_eq_ok.mp h
  exact ⟨Nat.sub_add_cancel h0, rfl, (cellAt_of_some hv).symm⟩

theorem popN_ok : ∀ {k : Nat} {st st' : Stack} {vs : List VCell},
    popN k st = .ok (vs, st') → st'.sp + k = st.sp ∧ st'.cells = st.cells := by
  intro k
  induction k with
  | zero => intro st st' vs h; simp [popN] at h; rcases h with ⟨rfl, rfl⟩; simp
  | succ k ih =>
    intro st st' vs h
    simp only [popN, Bind.bind] at h
    cases hp : st.pop with
    | ok r =>
      obtain ⟨v, st1⟩ := r
      rw [hp] at h; simp only at h
      have p1 := pop_ok hp
      cases hq : popN k st1 with
      | ok r2 =>
        obtain ⟨vs2, st2⟩ := r2
        rw [hq] at h; simp only at h
        have p2 := ih hq
        cases h
        exact ⟨by omega, by rw [p2.2, p1.2.1]⟩
      | err e => rw [hq] at h; cases h
      | panic m => rw [hq] at h; cases h
    | err e => rw [hp] at h; cases h
    | panic m => rw [hp] at h; cases h

theorem readOpcode_ok {s s1 : St H} {op : Op} (h : readOpcode ops s = .ok (op, s1)) :
    ops.fetch s.heap s.ipL s.ipO = some (.opcode op) ∧ s1 = { s with ipO := s.ipO + 1 } := by
  unfold readOpcode at h
  split at h
  · cases h
  · split at h
    · rename_i op' hf
      cases h
      exact ⟨hf, rfl⟩
    · cases h
    · cases h

theorem readOperand_ok {s s1 : St H} {v : VCell} (h : readOperand ops s = .ok (v, s1)) :
    ops.fetch s.heap s.ipL s.ipO = some v ∧ s1 = { s with ipO := s.ipO + 1 } := by
  unfold readOperand at h
  split at h
  · cases h
  · cases hf : ops.fetch s.heap s.ipL s.ipO with
    | none => rw [hf] at h; cases h
    | some c =>
      rw [hf] at h
      cases c <;> first | (cases h; exact ⟨rfl, rfl⟩) | cases h

inductive OpLoads (ops : HeapOps H) (s : St H) : VCell → VCell → Prop
  | acc : OpLoads ops s .acc s.acc
  | ptr (p : Nat) : OpLoads ops s (.ptr p) (ops.getAt s.heap p)
  | bp {off : Int} {v : VCell} : 0 ≤ (s.bp : Int) + off → s.stack.get ((s.bp : Int) + off).toNat = .ok v →
      OpLoads ops s (.bpOffset off) v
  | glob (n : Nat) : ops.globGet s.heap n ≠ .undefined → OpLoads ops s (.globSlot n) (ops.globGet s.heap n)
  | env {n : Nat} {v : VCell} : ops.envGet s.heap s.ep n = some v → (∀ e k, v ≠ .lexEnvPtr e k) →
      OpLoads ops s (.lexEnvSlot n) v
  | envPtr {n e k : Nat} {v : VCell} : ops.envGet s.heap s.ep n = some (.lexEnvPtr e k) →
      ops.envGet s.heap e k = some v → OpLoads ops s (.lexEnvSlot n) v

inductive OpStores (ops : HeapOps H) (s : St H) (v : VCell) : VCell → St H → Prop
  | acc : OpStores ops s v .acc { s with acc := v }
  | ptr (p : Nat) : OpStores ops s v (.ptr p) { s with heap := ops.setAt s.heap p v }
  | bp {off : Int} {st : Stack} : s.stack.setOffset ((s.bp : Int) + off) v = .ok st →
      OpStores ops s v (.bpOffset off) { s with stack := st }
  | glob (n : Nat) : OpStores ops s v (.globSlot n) { s with heap := ops.globPut s.heap n v }
  | env {n : Nat} {w : VCell} {h' : H} : ops.envGet s.heap s.ep n = some w → (∀ e k, w ≠ .lexEnvPtr e k) →
      ops.envPut s.heap s.ep n v = some h' → OpStores ops s v (.lexEnvSlot n) { s with heap := h' }
  | envPtr {n e k : Nat} {h' : H} : ops.envGet s.heap s.ep n = some (.lexEnvPtr e k) →
      ops.envPut s.heap e k v = some h' → OpStores ops s v (.lexEnvSlot n) { s with heap := h' }

theorem loadOperand_eff {s s1 : St H} {v : VCell} (h : loadOperand ops s = .ok (v, s1)) :
    s1 = { s with ipO := s.ipO + 1 } ∧ ∃ c, ops.fetch s.heap s.ipL s.ipO = some c ∧ OpLoads ops s c v := by
  unfold loadOperand at h
  obtain ⟨⟨c, s2⟩, hro, h⟩ := bind_inv h
  obtain ⟨hf, rfl⟩ := readOperand_ok hro
  suffices s1 = { s with ipO := s.ipO + 1 } ∧ OpLoads ops s c v from ⟨this.1, c, hf, this.2⟩
  cases c with
  | acc => cases h; exact ⟨rfl, .acc⟩
  | ptr p => cases h; exact ⟨rfl, .ptr p⟩
  | bpOffset off =>
    dsimp only at h
    split at h
    · rename_i h0
      obtain ⟨w, hg, h⟩ := bind_inv h
      cases h; exact ⟨rfl, .bp h0 hg⟩
    · cases h
  | globSlot n =>
    dsimp only at h
    split at h
    · cases h
    · rename_i hne
      cases h; exact ⟨rfl, .glob n hne⟩
  | lexEnvSlot n =>
    dsimp only at h
    split at h
    · cases h
    · rename_i e k h1
      split at h
      · cases h
      · rename_i w h2; cases h; exact ⟨rfl, .envPtr h1 h2⟩
    · rename_i w hne h1
      cases h; exact ⟨rfl, .env h1 hne⟩
  | _ => cases h

theorem storeOperand_eff {s s' : St H} {v : VCell} (h : storeOperand ops s v = .ok s') :
    ∃ c, ops.fetch s.heap s.ipL s.ipO = some c ∧ OpStores ops { s with ipO := s.ipO + 1 } v c s' := by
  unfold storeOperand at h
  obtain ⟨⟨c, s2⟩, hro, h⟩ := bind_inv h
  obtain ⟨hf, rfl⟩ := readOperand_ok hro
  refine ⟨c, hf, ?_⟩
  cases c with
  | acc => cases h; exact .acc
  | ptr p => cases h; exact .ptr p
  | bpOffset off =>
    obtain ⟨st, hst, h⟩ := bind_inv h
    cases h; exact .bp hst
  | globSlot n => cases h; exact .glob n
  | lexEnvSlot n =>
    dsimp only at h
    split at h
    · cases h
    · rename_i e k h1
      split at h
      · cases h
      · rename_i h' h2; cases h; exact .envPtr h1 h2
    · rename_i w hne h1
      split at h
      · cases h
      · rename_i h' h2; cases h; exact .env h1 hne h2
  | _ => cases h

theorem loadOperand_ok {s s1 : St H} {v : VCell} (h : loadOperand ops s = .ok (v, s1)) :
    s1 = { s with ipO := s.ipO + 1 } := (loadOperand_eff h).1

theorem get_ok {st : Stack} {i : Nat} {v : VCell} (h : st.get i = .ok v) :
    v = st.cellAt i ∧ i < st.cells.length :=
  ⟨(cellAt_of_some (get_eq_ok.mp h)).symm, lt_of_some (get_eq_ok.mp h)⟩

theorem getOffset_ok {st : Stack} {k : Nat} {v : VCell} (h : st.getOffset (-(k : Int)) = .ok v) :
    k ≤ st.sp ∧ v = st.cellAt (st.sp - k) := by
  unfold Stack.getOffset at h
  simp only at h
  split at h
  · rename_i h0
    have e : ((st.sp : Int) + -(k : Int)).toNat = st.sp - k := by omega
    rw [e] at h
    exact ⟨by omega, (get_ok h).1⟩
  · cases h

theorem setOffset_ok {st st' : Stack} {k : Nat} {v : VCell} (h : st.setOffset (-(k : Int)) v = .ok st') :
    k ≤ st.sp ∧ st.sp - k < st.cells.length ∧ st' = { st with cells := st.cells.set (st.sp - k) v } := by
  unfold Stack.setOffset at h
  simp only at h
  split at h
  · rename_i h0
    have e : ((st.sp : Int) + -(k : Int)).toNat = st.sp - k := by omega
    rw [e] at h
    unfold Stack.set at h
    split at h
    · rename_i hl
      cases h
      exact ⟨by omega, hl, rfl⟩
    · cases h
  · cases h

theorem usub_ok {a b r : Nat} {site : String} (h : usub a b site = .ok r) : b ≤ a ∧ r = a - b := by
  unfold usub at h
  split at h
  · cases h; exact ⟨by assumption, rfl⟩
  · cases h

theorem asArgc_ok {v : VCell} {n : Nat} (h : asArgc v = .ok n) : v = .argc n := by
  cases v <;> simp only [asArgc] at h <;> cases h
  rfl

theorem asPtr_ok {v : VCell} {n : Nat} (h : asPtr v = .ok n) : v = .ptr n := by
  cases v <;> simp only [asPtr] at h <;> cases h
  rfl

theorem asEp_ok {v : VCell} {n : Nat} (h : asEp v = .ok n) : v = .envPtr n := by
  cases v <;> simp only [asEp] at h <;> cases h
  rfl

theorem asBp_ok {v : VCell} {n : Nat} (h : asBp v = .ok n) : v = .basePtr n := by
  cases v <;> simp only [asBp] at h <;> cases h
  rfl

theorem asIp_ok {v : VCell} {l o : Nat} (h : asIp v = .ok (l, o)) : v = .instrPtr l o := by
  cases v <;> simp only [asIp] at h <;> cases h
  rfl

theorem ite_err_inv {α : Type} {c : Prop} [Decidable c] {e : Err} {x : Outcome α} {r : α}
    (h : (if c then Outcome.err e else x) = .ok r) : ¬ c ∧ x = .ok r := by
  split at h
  · cases h
  · exact ⟨‹_›, h⟩

theorem enterLam_eq_some {h : H} {a : VCell} {lam : Nat} : enterLam ops h a = some lam ↔
    (∃ env, ops.callee h a = .closure lam env) ∨ (ops.callee h a = .lambda ∧ a = .ptr lam) := by
  unfold enterLam
  constructor
  · intro hl
    split at hl
    · rename_i l e hc; cases hl; exact .inl ⟨e, hc⟩
    · rename_i hc
      split at hl
      · cases hl; exact .inr ⟨hc, rfl⟩
      · cases hl
    · cases hl
  · rintro (⟨env, hc⟩ | ⟨hc, rfl⟩) <;> rw [hc]

/-- the body of ENTER once the callee's lambda (and closure environment) is known -/
def enterTail (ops : HeapOps H) (s : St H) (lam : Nat) (cenv : Option Nat) : Outcome (St H) :=
  match ops.lambdaInfo s.heap lam with
  | none => .err .expectedType
  | some info => do
    let a ← s.stack.getOffset (-2)
    let n ← asArgc a
    if n ≠ info.argc then .err .invalidNumArgs else do
    let st := s.stack.push (.basePtr s.bp)
    let bp ← usub st.sp 4 "enter: sp - 4"
    let s := { s with stack := st, bp := bp }
    match cenv with
    | none => .ok s
    | some env => do
      let (h, e) ← ops.makeActivation s.heap lam env s.bp s.stack
      .ok { s with heap := h, ep := e }

theorem stepEnter_eq (s : St H) : stepEnter ops s =
    match ops.callee s.heap s.acc with
    | .closure lam env => enterTail ops s lam (some env)
    | .lambda => asPtr s.acc >>= fun p => enterTail ops s p none
    | _ => .err .invalidBytecode := by
  unfold stepEnter enterTail
  cases ops.callee s.heap s.acc <;> rfl

theorem enterTail_eff {s s' : St H} {lam : Nat} {cenv : Option Nat} (h : enterTail ops s lam cenv = .ok s') :
    ∃ info h' ep', ops.lambdaInfo s.heap lam = some info ∧
      s.stack.cells[s.stack.sp - 2]? = some (.argc info.argc) ∧ 3 ≤ s.stack.sp ∧
      s' = { s with heap := h', ep := ep', stack := s.stack.push (.basePtr s.bp), bp := s.stack.sp - 3 } ∧
      ((cenv = none ∧ h' = s.heap ∧ ep' = s.ep) ∨ ∃ env, cenv = some env ∧
        ops.makeActivation s.heap lam env (s.stack.sp - 3) (s.stack.push (.basePtr s.bp)) = .ok (h', ep')) := by
  unfold enterTail at h
  cases hinfo : ops.lambdaInfo s.heap lam with
  | none => rw [hinfo] at h; cases h
  | some info =>
    rw [hinfo] at h
    dsimp only at h
    obtain ⟨a, hg, h⟩ := bind_inv h
    obtain ⟨n, ha, h⟩ := bind_inv h
    obtain ⟨hne, h⟩ := ite_err_inv h
    obtain ⟨bp, hu, h⟩ := bind_inv h
    obtain ⟨u1, u2⟩ := usub_ok hu
    rw [push_sp] at u1 u2
    have hn : n = info.argc := Decidable.of_not_not hne
    subst hn u2
    have hA : s.stack.cells[s.stack.sp - 2]? = some (.argc info.argc) := by
      unfold Stack.getOffset at hg
      simp only at hg
      split at hg
      · rw [← asArgc_ok ha, ← get_eq_ok, ← hg]
        congr 1; omega
      · cases hg
    cases cenv with
    | none =>
      cases h
      exact ⟨info, _, _, rfl, hA, by omega, rfl, .inl ⟨rfl, rfl, rfl⟩⟩
    | some env =>
      obtain ⟨⟨h', e⟩, hm, h⟩ := bind_inv h
      cases h
      exact ⟨info, h', e, rfl, hA, by omega, rfl, .inr ⟨env, rfl, hm⟩⟩

theorem stepEnter_iff {s s' : St H} : stepEnter ops s = .ok s' ↔
    ∃ lam info h' ep', enterLam ops s.heap s.acc = some lam ∧ ops.lambdaInfo s.heap lam = some info ∧
      s.stack.cells[s.stack.sp - 2]? = some (.argc info.argc) ∧ 3 ≤ s.stack.sp ∧
      s' = { s with heap := h', ep := ep', stack := s.stack.push (.basePtr s.bp), bp := s.stack.sp - 3 } ∧
      ((ops.callee s.heap s.acc = .lambda ∧ h' = s.heap ∧ ep' = s.ep) ∨ ∃ env, ops.callee s.heap s.acc = .closure lam env ∧
        ops.makeActivation s.heap lam env (s.stack.sp - 3) (s.stack.push (.basePtr s.bp)) = .ok (h', ep')) := by
  constructor
  · intro h
    rw [stepEnter_eq] at h
    cases hc : ops.callee s.heap s.acc <;> rw [hc] at h
    case closure l e =>
      obtain ⟨info, h', ep', r1, r2, r3, r5, r6⟩ := enterTail_eff h
      refine ⟨l, info, h', ep', by unfold enterLam; rw [hc], r1, r2, r3, r5, ?_⟩
      rcases r6 with ⟨x, _⟩ | ⟨env, x, hm⟩
      · cases x
      · cases x; exact .inr ⟨e, rfl, hm⟩
    case lambda =>
      obtain ⟨p, hp, h⟩ := bind_inv h
      obtain ⟨info, h', ep', r1, r2, r3, r5, r6⟩ := enterTail_eff h
      refine ⟨p, info, h', ep', by unfold enterLam; rw [hc, asPtr_ok hp], r1, r2, r3, r5, ?_⟩
      rcases r6 with ⟨_, x⟩ | ⟨env, x, _⟩
      · exact .inl ⟨rfl, x⟩
      · cases x
    all_goals cases h
  · rintro ⟨lam, info, h', ep', h1, h2, h3, h4, rfl, hh⟩
    have hg : s.stack.getOffset (-2) = .ok (.argc info.argc) := by
      rw [← cellAt_of_some h3]; exact getOffset_of_lt s.stack 2 (by omega) (lt_of_some h3)
    have hu : usub (s.stack.push (.basePtr s.bp)).sp 4 "enter: sp - 4" = .ok (s.stack.sp - 3) := by
      rw [push_sp]; unfold usub; rw [if_pos (by omega)]; rfl
    have tail : ∀ cenv, enterTail ops s lam cenv = match cenv with
        | none => .ok { s with stack := s.stack.push (.basePtr s.bp), bp := s.stack.sp - 3 }
        | some env => ops.makeActivation s.heap lam env (s.stack.sp - 3) (s.stack.push (.basePtr s.bp)) >>=
            fun p => .ok { s with heap := p.1, ep := p.2, stack := s.stack.push (.basePtr s.bp), bp := s.stack.sp - 3 } := by
      intro cenv
      unfold enterTail
      simp only [h2, hg, outcome_bind_ok, asArgc, ne_eq, not_true_eq_false, if_false, hu]
    rw [stepEnter_eq]
    unfold enterLam at h1
    rcases hh with ⟨hc, rfl, rfl⟩ | ⟨env, hc, hm⟩
    · rw [hc] at h1 ⊢
      cases ha : s.acc <;> rw [ha] at h1 <;> cases h1
      simp only [asPtr, outcome_bind_ok, tail]
      rw [ha]
    · rw [hc] at h1 ⊢
      cases h1
      simp only [tail, hm, outcome_bind_ok]

theorem stepEnter_run {s : St H} {lam : Nat} {info : LambdaInfo} {h' : H} {ep' : Nat}
    (h1 : enterLam ops s.heap s.acc = some lam) (h2 : ops.lambdaInfo s.heap lam = some info)
    (h3 : s.stack.cells[s.stack.sp - 2]? = some (.argc info.argc)) (h4 : 3 ≤ s.stack.sp)
    (hh : (ops.callee s.heap s.acc = .lambda ∧ h' = s.heap ∧ ep' = s.ep) ∨ ∃ env, ops.callee s.heap s.acc = .closure lam env ∧
      ops.makeActivation s.heap lam env (s.stack.sp - 3) (s.stack.push (.basePtr s.bp)) = .ok (h', ep')) :
    stepEnter ops s = .ok { s with heap := h', ep := ep', stack := s.stack.push (.basePtr s.bp), bp := s.stack.sp - 3 } :=
  stepEnter_iff.mpr ⟨lam, info, h', ep', h1, h2, h3, h4, rfl, hh⟩

theorem stepRet_iff {s s' : St H} : stepRet s = .ok s' ↔
    ∃ n ep l o bp', s.stack.cells[s.bp + 1]? = some (.argc n) ∧ s.stack.cells[s.bp + 2]? = some (.envPtr ep) ∧
      s.stack.cells[s.bp + 3]? = some (.instrPtr l o) ∧ s.stack.cells[s.bp + 4]? = some (.basePtr bp') ∧ n ≤ s.bp ∧
      s' = { s with stack := { s.stack with sp := s.bp - n }, ep := ep, ipL := l, ipO := o, bp := bp' } := by
  constructor
  · intro h
    unfold stepRet at h
    obtain ⟨n, h1, h⟩ := bind_inv h
    obtain ⟨v1, g1, a1⟩ := bind_inv h1
    obtain ⟨sp, hu, h⟩ := bind_inv h
    obtain ⟨ep, h2, h⟩ := bind_inv h
    obtain ⟨v2, g2, a2⟩ := bind_inv h2
    obtain ⟨⟨l, o⟩, h3, h⟩ := bind_inv h
    obtain ⟨v3, g3, a3⟩ := bind_inv h3
    obtain ⟨bp', h4, h⟩ := bind_inv h
    obtain ⟨v4, g4, a4⟩ := bind_inv h4
    cases asArgc_ok a1
    cases asEp_ok a2
    cases asIp_ok a3
    cases asBp_ok a4
    obtain ⟨hu1, rfl⟩ := usub_ok hu
    cases h
    exact ⟨n, ep, l, o, bp', get_eq_ok.mp g1, get_eq_ok.mp g2, get_eq_ok.mp g3, get_eq_ok.mp g4, hu1, rfl⟩
  · rintro ⟨n, ep, l, o, bp', r1, r2, r3, r4, r5, rfl⟩
    have hg : ∀ k sp' v, s.stack.cells[s.bp + k]? = some v → Stack.get { s.stack with sp := sp' } (s.bp + k) = .ok v :=
      fun k sp' v h => get_eq_ok.mpr h
    unfold stepRet
    rw [show s.stack.get (s.bp + 1) = _ from hg 1 s.stack.sp _ r1]
    simp only [outcome_bind_ok, asArgc, usub, r5, if_true, hg 2 _ _ r2, hg 3 _ _ r3, hg 4 _ _ r4, asEp, asIp, asBp]

theorem stepRet_run {s : St H} {n ep l o bp' : Nat} (r1 : s.stack.cells[s.bp + 1]? = some (.argc n))
    (r2 : s.stack.cells[s.bp + 2]? = some (.envPtr ep)) (r3 : s.stack.cells[s.bp + 3]? = some (.instrPtr l o))
    (r4 : s.stack.cells[s.bp + 4]? = some (.basePtr bp')) (r5 : n ≤ s.bp) :
    stepRet s = .ok { s with stack := { s.stack with sp := s.bp - n }, ep := ep, ipL := l, ipO := o, bp := bp' } :=
  stepRet_iff.mpr ⟨n, ep, l, o, bp', r1, r2, r3, r4, r5, rfl⟩

theorem stepRet_ok {s s' : St H} (h : stepRet s = .ok s') :
    ∃ n ep l o bp', s.stack.cellAt (s.bp + 1) = .argc n ∧ s.stack.cellAt (s.bp + 2) = .envPtr ep ∧
      s.stack.cellAt (s.bp + 3) = .instrPtr l o ∧ s.stack.cellAt (s.bp + 4) = .basePtr bp' ∧
      n ≤ s.bp ∧ s' = { s with stack := { s.stack with sp := s.bp - n }, ep := ep, ipL := l, ipO := o, bp := bp' } := by
  obtain ⟨n, ep, l, o, bp', r1, r2, r3, r4, r5, e⟩ := stepRet_iff.mp h
  exact ⟨n, ep, l, o, bp', cellAt_of_some r1, cellAt_of_some r2, cellAt_of_some r3, cellAt_of_some r4, r5, e⟩

/-- what a continuation invoked with the value `r` leaves: its saved cells over the present ones, its registers -/
def contSt (s : St H) (c : Cont) (r : VCell) : St H :=
  { s with stack := { cells := c.stack.cells ++ s.stack.cells.drop c.stack.cells.length, sp := c.stack.sp },
           ep := c.ep, ipL := c.ipL, ipO := c.ipO, bp := c.bp, acc := r }

/-- the value and a nonzero `argc` are the two topmost live cells, and the saved stack fits into the capacity -/
theorem invokeCont_iff {s s' : St H} {c : Cont} : invokeCont s c = .ok s' ↔
    ∃ n r, 2 ≤ s.stack.sp ∧ s.stack.cells[s.stack.sp]? = some (.argc n) ∧ n ≠ 0 ∧
      s.stack.cells[s.stack.sp - 1]? = some r ∧ c.stack.cells.length ≤ s.stack.cells.length ∧ s' = contSt s c r := by
  constructor
  · intro h
    unfold invokeCont at h
    obtain ⟨⟨a, st1⟩, hp1, h⟩ := bind_inv h
    obtain ⟨n, ha, h⟩ := bind_inv h
    obtain ⟨hn, h⟩ := ite_err_inv h
    obtain ⟨⟨r, st2⟩, hp2, h⟩ := bind_inv h
    obtain ⟨s3, hrc, h⟩ := bind_inv h
    cases h
    obtain ⟨p0, p1, rfl⟩ := pop_eq_ok.mp hp1
    obtain ⟨q0, q1, rfl⟩ := pop_eq_ok.mp hp2
    cases asArgc_ok ha
    unfold restoreCont Stack.restore at hrc
    split at hrc
    · rename_i hl
      cases hrc
      exact ⟨n, r, by have : 0 < s.stack.sp - 1 := q0; omega, p1, hn, q1, hl, rfl⟩
    · cases hrc
  · rintro ⟨n, r, h2, hA, hn, hr, hfit, rfl⟩
    unfold invokeCont
    rw [pop_eq_ok.mpr ⟨by omega, hA, rfl⟩]
    simp only [outcome_bind_ok, asArgc, hn, if_false]
    rw [pop_eq_ok.mpr ⟨by show 0 < s.stack.sp - 1; omega, hr, rfl⟩]
    unfold restoreCont Stack.restore
    simp only [outcome_bind_ok]
    rw [if_pos hfit]
    rfl

theorem contSt_stack {s : St H} {c : Cont} {r : VCell} (hfit : c.stack.cells.length ≤ s.stack.cells.length) :
    (contSt s c r).stack.cells.length = s.stack.cells.length ∧
      ∀ i, i < c.stack.cells.length → (contSt s c r).stack.cellAt i = c.stack.cellAt i := by
  refine ⟨?_, fun i hi => ?_⟩
  · show (c.stack.cells ++ s.stack.cells.drop c.stack.cells.length).length = _
    rw [List.length_append, List.length_drop]
    omega
  · show Stack.cellAt ⟨c.stack.cells ++ s.stack.cells.drop c.stack.cells.length, _⟩ i = _
    unfold Stack.cellAt
    rw [List.getElem?_append_left hi]

theorem stepCall_eff {s s' : St H} (h : stepCall ops s = .ok s') :
    (∃ id, ops.callee s.heap s.acc = .builtin id ∧ runBuiltin ops id s = .ok s') ∨
    (∃ c, ops.callee s.heap s.acc = .continuation c ∧ invokeCont s c = .ok s') ∨
    ∃ lam, enterLam ops s.heap s.acc = some lam ∧
      s' = { (s.push (.envPtr s.ep)).push (.instrPtr s.ipL s.ipO) with ipL := lam, ipO := 0 } := by
  unfold stepCall at h
  cases hc : ops.callee s.heap s.acc with
  | builtin id => rw [hc] at h; exact .inl ⟨id, rfl, h⟩
  | continuation c => rw [hc] at h; exact .inr (.inl ⟨c, rfl, h⟩)
  | other => rw [hc] at h; cases h
  | closure lam env =>
    rw [hc] at h
    cases h
    exact .inr (.inr ⟨lam, by unfold enterLam; rw [hc], rfl⟩)
  | lambda =>
    rw [hc] at h
    obtain ⟨lam, hp, h⟩ := bind_inv h
    cases h
    exact .inr (.inr ⟨lam, by unfold enterLam; rw [hc, asPtr_ok hp], rfl⟩)

theorem stepTCall_eff {s s' : St H} (h : stepTCall ops s = .ok s') :
    (∃ id, ops.callee s.heap s.acc = .builtin id ∧ runBuiltin ops id s = .ok s') ∨
    (∃ c, ops.callee s.heap s.acc = .continuation c ∧ invokeCont s c = .ok s') ∨
    ∃ lam, enterLam ops s.heap s.acc = some lam ∧ tcallTail s lam = .ok s' := by
  cases hc : ops.callee s.heap s.acc with
  | builtin id => unfold stepTCall at h; rw [hc] at h; exact .inl ⟨id, rfl, h⟩
  | continuation c => unfold stepTCall at h; rw [hc] at h; exact .inr (.inl ⟨c, rfl, h⟩)
  | other => unfold stepTCall at h; rw [hc] at h; cases h
  | closure lam env =>
    rw [stepTCall_closure hc] at h
    exact .inr (.inr ⟨lam, by unfold enterLam; rw [hc], h⟩)
  | lambda =>
    rw [stepTCall_lambda hc] at h
    obtain ⟨lam, hp, h⟩ := bind_inv h
    exact .inr (.inr ⟨lam, by unfold enterLam; rw [hc, asPtr_ok hp], h⟩)

theorem tcallTail_regs {s s' : St H} {lam : Nat} (h : tcallTail s lam = .ok s') :
    ∃ st bp, s' = { s with stack := st, bp := bp, ipL := lam, ipO := 0 } := by
  unfold tcallTail at h
  obtain ⟨argc, _, h⟩ := bind_inv h
  obtain ⟨fargc, _, h⟩ := bind_inv h
  split at h
  · obtain ⟨sb, _, h⟩ := bind_inv h
    obtain ⟨st, _, h⟩ := bind_inv h
    obtain ⟨bp', _, h⟩ := bind_inv h
    cases h
    exact ⟨_, _, rfl⟩
  · obtain ⟨se, _, h⟩ := bind_inv h
    obtain ⟨si, _, h⟩ := bind_inv h
    obtain ⟨sb, _, h⟩ := bind_inv h
    obtain ⟨sp0, _, h⟩ := bind_inv h
    obtain ⟨st, _, h⟩ := bind_inv h
    obtain ⟨bp', _, h⟩ := bind_inv h
    cases h
    exact ⟨_, _, rfl⟩

theorem tcallTail_heap {s s' : St H} {lam : Nat} (h : tcallTail s lam = .ok s') : s'.heap = s.heap := by
  obtain ⟨_, _, rfl⟩ := tcallTail_regs h
  rfl

theorem tcallTail_acc {s s' : St H} {lam : Nat} (h : tcallTail s lam = .ok s') : s'.acc = s.acc := by
  obtain ⟨_, _, rfl⟩ := tcallTail_regs h
  rfl

-- `push` is an `if` between two record updates; left unfoldable, the unifier compares those branches whenever
-- a goal about a pushed stack meets a lemma about pushes (`push_sp_lt _ _` against four nested pushes)
attribute [local irreducible] Marwood.Vm.Stack.push


inductive Puts (ops : HeapOps H) : Nat → H → H → Prop
  | refl (h : H) : Puts ops 0 h h
  | put {k : Nat} {h h' : H} (v : VCell) : Puts ops k h h' → Puts ops (k + 1) h (ops.put h' v).1

theorem Puts.trans {j k : Nat} {a b c : H} (x : Puts ops j a b) (y : Puts ops k b c) : Puts ops (j + k) a c := by
  induction y with
  | refl => exact x
  | put v _ ih => exact .put v (ih x)

/-- four cells pushed on `b` (VARARG's rebuilt block). The pushed stack is a variable `st` so that the caller can
    `generalize` it before `cases` on the equation of the successor state, which would unfold the four `push`es -/
theorem push4_eff (b : Stack) (a c d e : VCell) {st : Stack} (hst : st = (((b.push a).push c).push d).push e) :
    st.sp = b.sp + 4 ∧ st.sp < st.cells.length ∧ b.cells.length ≤ st.cells.length ∧
      st.cellAt (b.sp + 1) = a ∧ st.cellAt (b.sp + 2) = c ∧ st.cellAt (b.sp + 3) = d ∧
      st.cellAt (b.sp + 4) = e ∧ ∀ i, i ≤ b.sp → st.cellAt i = b.cellAt i := by
  subst hst
  have s1 := push_sp b a
  have s2 := push_sp (b.push a) c
  have s3 := push_sp ((b.push a).push c) d
  refine ⟨by rw [push_sp, s3, s2, s1], push_sp_lt _ e,
    Nat.le_trans (Nat.le_trans (push_len b a) (push_len _ c)) (Nat.le_trans (push_len _ d) (push_len _ e)),
    ?_, ?_, ?_, ?_, ?_⟩
  · rw [push_below _ e _ (by omega), push_below _ d _ (by omega), push_below _ c _ (by omega), push_cellAt_top]
  · rw [push_below _ e _ (by omega), push_below _ d _ (by omega)]
    have : b.sp + 2 = (b.push a).sp + 1 := by omega
    rw [this, push_cellAt_top]
  · rw [push_below _ e _ (by omega)]
    have : b.sp + 3 = ((b.push a).push c).sp + 1 := by omega
    rw [this, push_cellAt_top]
  · have : b.sp + 4 = (((b.push a).push c).push d).sp + 1 := by omega
    rw [this, push_cellAt_top]
  · intro i hi
    rw [push_below _ e _ (by omega), push_below _ d _ (by omega), push_below _ c _ (by omega),
      push_below _ a _ hi]

/-- the instruction `op` of `step`, run on the state `readOpcode` returned: its equations give the body of one
    opcode without the sixteen-way `match` of `step` -/
def execOp (ops : HeapOps H) : Op → St H → Outcome (St H × Bool)
  | .jmp, s => do
    let (v, s) ← readOperand ops s
    let o ← asPtr v
    .ok ({ s with ipO := o }, false)
  | .jnt, s => do
    let (v, s) ← readOperand ops s
    let o ← asPtr v
    match ops.deref s.heap s.acc with
    | .bool false => .ok ({ s with ipO := o }, false)
    | _ => .ok (s, false)
  | .mov, s => do
    let (v, s) ← loadOperand ops s
    let s ← storeOperand ops s v
    .ok (s, false)
  | .movImm, s => do
    let (v, s) ← readOperand ops s
    let s ← storeOperand ops s v
    .ok (s, false)
  | .push, s => do
    let (v, s) ← loadOperand ops s
    .ok (s.push v, false)
  | .pushImm, s => do
    let (v, s) ← readOperand ops s
    .ok (s.push v, false)
  | .pushAcc, s => .ok (s.push s.acc, false)
  | .halt, s => .ok (s, true)
  | .cons, s => do
    let (d, st) ← s.stack.pop
    let (h, d) := ops.put s.heap d
    let (a, st) ← st.pop
    let (h, a) := ops.put h a
    let a ← asPtr a
    let d ← asPtr d
    let (h, p) := ops.put h (.pair a d)
    .ok ({ s with heap := h, stack := st, acc := p }, false)
  | .vpushAcc, s => do
    let (v, st) ← s.stack.pop
    let vec := ops.deref s.heap v
    let h ← ops.vectorPush s.heap vec s.acc
    -- `%acc` keeps the popped cell (the reference), not the dereferenced vector
    .ok ({ s with heap := h, stack := st, acc := v }, false)
  | .closureAcc, s => do
    let lam ← asPtr s.acc
    let (h, c) ← ops.makeClosure s.heap lam s.ep s.bp s.stack
    .ok ({ s with heap := h, acc := c }, false)
  | .callAcc, s => do let s ← stepCall ops s; .ok (s, false)
  | .tcallAcc, s => do let s ← stepTCall ops s; .ok (s, false)
  | .enter, s => do let s ← stepEnter ops s; .ok (s, false)
  | .ret, s => do let s ← stepRet s; .ok (s, false)
  | .varArg, s => do let s ← stepVarArg ops s; .ok (s, false)

theorem step_execOp (s : St H) : step ops s = readOpcode ops s >>= fun p => execOp ops p.1 p.2 := by
  unfold step
  cases readOpcode ops s with
  | ok p =>
    obtain ⟨op, s1⟩ := p
    cases op <;> rfl
  | err e => rfl
  | panic m => rfl

theorem step_read {s s1 : St H} {op : Op} (hr : readOpcode ops s = .ok (op, s1)) :
    step ops s = execOp ops op s1 := by
  rw [step_execOp, hr]
  rfl

theorem step_inv {s : St H} {r : St H × Bool} (h : step ops s = .ok r) :
    ∃ op, execOp ops op { s with ipO := s.ipO + 1 } = .ok r ∧
      readOpcode ops s = .ok (op, { s with ipO := s.ipO + 1 }) := by
  unfold step at h
  obtain ⟨⟨op, s1⟩, hr, _⟩ := bind_inv h
  have e := (readOpcode_ok hr).2
  subst e
  exact ⟨op, by rw [← step_read hr]; exact h, hr⟩

theorem varargCollect_eff : ∀ (k : Nat) {h : H} {acc : Nat} {st : Stack} {h' : H} {l : Nat} {st' : Stack},
    varargCollect ops k h acc st = .ok (h', l, st') →
    st'.sp + k = st.sp ∧ st'.cells = st.cells ∧ Puts ops (2 * k) h h' := by
  intro k
  induction k with
  | zero =>
    intro h acc st h' l st' hc
    cases hc
    exact ⟨rfl, rfl, .refl h⟩
  | succ k ih =>
    intro h acc st h' l st' hc
    unfold varargCollect at hc
    obtain ⟨⟨v, st1⟩, hp, hc⟩ := bind_inv hc
    obtain ⟨pa, _, hc⟩ := bind_inv hc
    obtain ⟨pp, _, hc⟩ := bind_inv hc
    obtain ⟨r1, r2, r3⟩ := ih hc
    obtain ⟨p1, p2, _⟩ := pop_ok hp
    exact ⟨by omega, by rw [r2, p2], (show 2 * (k + 1) = 2 + 2 * k by omega) ▸ Puts.trans (.put _ (.put v (.refl h))) r3⟩

/-- **VARARG.** The heap grows by at most `3 + 2·n` `put`s, the capacity does not shrink. When the `n` arguments are
    on the stack the block is rebuilt on the same base: its first `info.argc - 1` cells are kept, the next holds the
    list of the rest (a `put` result when exactly `info.argc` arguments came — which `put` is not kept, the value
    invariant only needs that it is one — else the `Ptr` `varargCollect` built), then `ArgumentCount(info.argc)` and
    the two header cells. -/
theorem stepVarArg_eff {s s' : St H} (h : stepVarArg ops s = .ok s') :
    ∃ info n h' st', s' = { s with heap := h', stack := st' } ∧
      ops.lambdaInfo s.heap s.ipL = some info ∧ 1 ≤ info.argc ∧ 2 ≤ s.stack.sp ∧
      s.stack.cellAt (s.stack.sp - 2) = .argc n ∧ info.argc ≤ n + 1 ∧ (∃ j, j ≤ 3 + 2 * n ∧ Puts ops j s.heap h') ∧
      s.stack.cells.length ≤ st'.cells.length ∧
      (n + 3 ≤ s.stack.sp →
        st'.sp + n = s.stack.sp + info.argc ∧ (s.stack.sp < s.stack.cells.length → st'.sp < st'.cells.length) ∧
        ((∃ h v, st'.cellAt (st'.sp - 3) = (ops.put h v).2) ∨ ∃ l, st'.cellAt (st'.sp - 3) = .ptr l) ∧
        st'.cellAt (st'.sp - 2) = .argc info.argc ∧
        st'.cellAt (st'.sp - 1) = s.stack.cellAt (s.stack.sp - 1) ∧
        st'.cellAt st'.sp = s.stack.cellAt s.stack.sp ∧
        ∀ i, i + 3 < st'.sp → st'.cellAt i = s.stack.cellAt i) := by
  unfold stepVarArg at h
  cases hinfo : ops.lambdaInfo s.heap s.ipL with
  | none => rw [hinfo] at h; cases h
  | some info =>
    rw [hinfo] at h
    obtain ⟨req, hu, h⟩ := bind_inv h
    obtain ⟨n, h1, h⟩ := bind_inv h
    obtain ⟨v2, g2, a2⟩ := bind_inv h1
    obtain ⟨hsp2, g2'⟩ := getOffset_ok (k := 2) g2
    rw [asArgc_ok a2] at g2'
    have ea : 1 ≤ info.argc ∧ req + 1 = info.argc := by
      obtain ⟨u1, u2⟩ := usub_ok hu
      omega
    obtain ⟨hlt, h⟩ := ite_err_inv h
    refine ⟨info, n, ?_⟩
    by_cases heq : n = req + 1
    · rw [if_pos heq] at h
      obtain ⟨v3, _, h⟩ := bind_inv h
      obtain ⟨pa, _, h⟩ := bind_inv h
      obtain ⟨pn, _, h⟩ := bind_inv h
      obtain ⟨st1, hset, h⟩ := bind_inv h
      cases h
      obtain ⟨_, s2, s3⟩ := setOffset_ok (k := 3) hset
      refine ⟨_, st1, rfl, rfl, ea.1, hsp2, g2'.symm, by omega, ⟨3, by omega, .put _ (.put _ (.put _ (.refl _)))⟩, ?_, ?_⟩
      · rw [s3]; simp
      · intro hn
        have hc : ∀ i, i ≠ s.stack.sp - 3 → st1.cellAt i = s.stack.cellAt i := by
          intro i hi; rw [s3, at_set_cells _ _ _ _ s2, if_neg hi]
        have hsp : st1.sp = s.stack.sp := by rw [s3]
        have hlen : st1.cells.length = s.stack.cells.length := by rw [s3]; simp
        rw [hsp]
        refine ⟨by omega, fun hcap => by omega, .inl ⟨_, _, by rw [s3, at_set_cells _ _ _ _ s2, if_pos rfl]⟩,
          ?_, hc _ (by omega), hc _ (by omega), fun i hi => hc i (by omega)⟩
        rw [hc _ (by omega), ← g2']
        congr 1; omega
    · rw [if_neg heq] at h
      obtain ⟨⟨c1, st1⟩, hp1, h⟩ := bind_inv h
      obtain ⟨⟨c2, st2⟩, hp2, h⟩ := bind_inv h
      obtain ⟨⟨c3, st3⟩, hp3, h⟩ := bind_inv h
      obtain ⟨pn, _, h⟩ := bind_inv h
      obtain ⟨⟨h2, lst, st4⟩, hcol, h⟩ := bind_inv h
      dsimp only at h
      generalize hst' : (((st4.push (.ptr lst)).push (.argc (req + 1))).push c2).push c1 = st' at h
      cases h
      obtain ⟨p11, p12, p13⟩ := pop_ok hp1
      obtain ⟨p21, p22, p23⟩ := pop_ok hp2
      obtain ⟨p31, p32, _⟩ := pop_ok hp3
      obtain ⟨r1, r2, r3⟩ := varargCollect_eff _ hcol
      have hcells : st4.cells = s.stack.cells := by rw [r2, p32, p22, p12]
      obtain ⟨q1, q2, q3, q4, q5, q6, q7, q8⟩ := push4_eff st4 _ _ _ _ hst'.symm
      refine ⟨h2, st', rfl, rfl, ea.1, hsp2, g2'.symm, by omega,
        ⟨_, by omega, Puts.trans (.put _ (.refl _)) r3⟩,
        by rw [← hcells]; exact q3, ?_⟩
      intro hn
      rw [q1]
      rw [show st4.sp + 4 - 3 = st4.sp + 1 from rfl, show st4.sp + 4 - 2 = st4.sp + 2 from rfl,
        show st4.sp + 4 - 1 = st4.sp + 3 from rfl, q4, q5, q6, q7, ea.2]
      refine ⟨by omega, fun _ => by rw [← q1]; exact q2, .inr ⟨_, rfl⟩, rfl, ?_, p13, ?_⟩
      · rw [p23, cells_eq_cellAt p12, show st1.sp = s.stack.sp - 1 by omega]
      · intro i hi
        rw [q8 i (by omega), cells_eq_cellAt hcells]

end Marwood.Vm
