import Marwood.Utf8
/-!
# UTF-8 preserves order (C15)

Rust compares `str` values bytewise; the models and the property compare by scalar value. The two
orders coincide (`utf8_order`). Also: the encoding has length `Char.utf8Size`, so the models' byte
offsets are offsets into it; slicing at them is slicing of the bytes, and the offsets at which the
models do not panic are those `str::is_char_boundary` accepts. Core Lean only.
-/
namespace Marwood.Utf8

theorem val_lt_iff (a b : Char) : a.val < b.val ↔ a.val.toNat < b.val.toNat := UInt32.lt_iff_toNat_lt

theorem eq_of_toNat_eq {a b : Char} (h : a.val.toNat = b.val.toNat) : a = b :=
  Char.ext (UInt32.toNat_inj.mp h)

theorem eq_of_not_lt {a b : Char} (h1 : ¬ a.val < b.val) (h2 : ¬ b.val < a.val) : a = b := by
  rw [val_lt_iff] at h1 h2
  exact eq_of_toNat_eq (by omega)

theorem toNat_lt (c : Char) : c.val.toNat < 0x110000 := by
  have := c.valid
  simp only [UInt32.isValidChar, Nat.isValidChar] at this
  omega

/-- the four rows of the table of RFC 3629 §3 -/
theorem encodeNat_cases (v : Nat) :
    (v ≤ 0x7F ∧ encodeNat v = [v]) ∨
    (0x7F < v ∧ v ≤ 0x7FF ∧ encodeNat v = [0xC0 + v / 64 % 32, 0x80 + v % 64]) ∨
    (0x7FF < v ∧ v ≤ 0xFFFF ∧ encodeNat v = [0xE0 + v / 4096 % 16, 0x80 + v / 64 % 64, 0x80 + v % 64]) ∨
    (0xFFFF < v ∧
      encodeNat v = [0xF0 + v / 262144 % 8, 0x80 + v / 4096 % 64, 0x80 + v / 64 % 64, 0x80 + v % 64]) := by
  unfold encodeNat
  by_cases h1 : v ≤ 0x7F
  · exact .inl ⟨h1, if_pos h1⟩
  by_cases h2 : v ≤ 0x7FF
  · exact .inr (.inl ⟨by omega, h2, by rw [if_neg h1, if_pos h2]⟩)
  by_cases h3 : v ≤ 0xFFFF
  · exact .inr (.inr (.inl ⟨by omega, h3, by rw [if_neg h1, if_neg h2, if_pos h3]⟩))
  · exact .inr (.inr (.inr ⟨by omega, by rw [if_neg h1, if_neg h2, if_neg h3]⟩))

theorem encodeNat_ne_nil (v : Nat) : encodeNat v ≠ [] := by
  rcases encodeNat_cases v with ⟨-, e⟩ | ⟨-, -, e⟩ | ⟨-, -, e⟩ | ⟨-, e⟩ <;> simp [e]

theorem encode_ne_nil (c : Char) : encode c ≠ [] := encodeNat_ne_nil _

theorem u8_toNat_ofNat {n : Nat} (h : n < 256) : (UInt8.ofNat n).toNat = n := by
  simp [UInt8.toNat_ofNat']; omega

theorem encode_eq_core (c : Char) : encode c = (String.utf8EncodeChar c).map UInt8.toNat := by
  have hc := toNat_lt c
  unfold encode encodeNat String.utf8EncodeChar
  simp only []
  repeat' split
  all_goals
    simp only [List.map_cons, List.map_nil]
    repeat rw [u8_toNat_ofNat (by omega)]
    try simp only [Nat.add_comm]

theorem encode_length (c : Char) : (encode c).length = c.utf8Size := by
  rw [encode_eq_core, List.length_map, String.length_utf8EncodeChar]

theorem encodeText_length (s : Text) : (encodeText s).length = byteLen s := by
  induction s with
  | nil => rfl
  | cons c cs ih => simp [encode_length, ih]

theorem encodeText_append (s t : Text) : encodeText (s ++ t) = encodeText s ++ encodeText t := by
  simp [encodeText]

theorem encode_shape (c : Char) :
    ∃ x xs, encode c = x :: xs ∧ (x < 0x80 ∨ 0xC0 ≤ x) ∧ x < 256 ∧ ∀ y ∈ xs, 0x80 ≤ y ∧ y < 0xC0 := by
  have hc := toNat_lt c
  unfold encode
  rcases encodeNat_cases c.val.toNat with ⟨h, e⟩ | ⟨-, h, e⟩ | ⟨-, h, e⟩ | ⟨-, e⟩ <;> rw [e]
  · exact ⟨_, _, rfl, .inl (by omega), by omega, nofun⟩
  all_goals
    refine ⟨_, _, rfl, .inr (by omega), by omega, fun y hy => ?_⟩
    simp only [List.mem_cons, List.not_mem_nil, or_false] at hy
    omega

theorem encode_byte_lt (c : Char) : ∀ b ∈ encode c, b < 256 := by
  obtain ⟨x, xs, e, -, hx, hs⟩ := encode_shape c
  rw [e]
  intro b hb
  rcases List.mem_cons.mp hb with rfl | hb
  · exact hx
  · exact Nat.lt_trans (hs b hb).2 (by decide)

theorem encodeText_byte_lt (s : Text) : ∀ b ∈ encodeText s, b < 256 := by
  intro b hb
  simp only [encodeText, List.mem_flatMap] at hb
  obtain ⟨c, _, h⟩ := hb
  exact encode_byte_lt c b h

theorem cmpBytes_cases (u v : List Nat) :
    cmpBytes u v = .lt ∧ u < v ∨ cmpBytes u v = .eq ∧ u = v ∨ cmpBytes u v = .gt ∧ v < u := by
  induction u generalizing v with
  | nil => cases v <;> simp [cmpBytes]
  | cons x xs ih =>
    cases v with
    | nil => simp [cmpBytes]
    | cons y ys =>
      simp only [cmpBytes, List.cons_lt_cons_iff, List.cons.injEq]
      rcases Nat.lt_trichotomy x y with h | rfl | h
      · simp [h]
      · simpa using ih ys
      · simp [h, Nat.lt_asymm h]

theorem cmpBytes_lt_iff (u v : List Nat) : cmpBytes u v = .lt ↔ u < v := by
  rcases cmpBytes_cases u v with ⟨e, h⟩ | ⟨e, rfl⟩ | ⟨e, h⟩ <;> rw [e]
  · simp [h]
  · simp [List.lt_irrefl]
  · simp [List.lt_asymm h]

theorem cmpBytes_eq_iff (u v : List Nat) : cmpBytes u v = .eq ↔ u = v := by
  rcases cmpBytes_cases u v with ⟨e, h⟩ | ⟨e, rfl⟩ | ⟨e, h⟩ <;> rw [e]
  · simpa using fun e : u = v => List.lt_irrefl v (e ▸ h)
  · simp
  · simpa using fun e : u = v => List.lt_irrefl u (e ▸ h)

theorem cmpBytes_gt_iff (u v : List Nat) : cmpBytes u v = .gt ↔ v < u := by
  rcases cmpBytes_cases u v with ⟨e, h⟩ | ⟨e, rfl⟩ | ⟨e, h⟩ <;> rw [e]
  · simp [List.lt_asymm h]
  · simp [List.lt_irrefl]
  · simp [h]

theorem cmpBytes_swap (u v : List Nat) : cmpBytes v u = (cmpBytes u v).swap := by
  rcases cmpBytes_cases u v with ⟨e, h⟩ | ⟨e, rfl⟩ | ⟨e, h⟩ <;> rw [e]
  · exact (cmpBytes_gt_iff v u).mpr h
  · rfl
  · exact (cmpBytes_lt_iff v u).mpr h

theorem cmpBytes_self (u : List Nat) : cmpBytes u u = .eq := (cmpBytes_eq_iff u u).mpr rfl

theorem cmpBytes_append_left (e u v : List Nat) : cmpBytes (e ++ u) (e ++ v) = cmpBytes u v := by
  induction e with
  | nil => rfl
  | cons x xs ih => simp [cmpBytes, ih]

/-- `u` and `v` first differ at a position inside both, and there `u` has the smaller byte -/
inductive Diverge : List Nat → List Nat → Prop
  | head {x y : Nat} {u v : List Nat} : x < y → Diverge (x :: u) (y :: v)
  | tail {x : Nat} {u v : List Nat} : Diverge u v → Diverge (x :: u) (x :: v)

theorem Diverge.cmp_append {u v : List Nat} (h : Diverge u v) (a b : List Nat) :
    cmpBytes (u ++ a) (v ++ b) = .lt := by
  induction h with
  | head hxy => simp [cmpBytes, hxy]
  | tail _ ih => simp [cmpBytes, ih]

theorem Diverge.not_prefix {u v : List Nat} (h : Diverge u v) : ¬ u <+: v ∧ ¬ v <+: u := by
  induction h with
  | head hxy =>
    constructor <;> intro hp <;> have := List.cons_prefix_cons.mp hp <;> omega
  | tail _ ih =>
    constructor <;> intro hp
    · exact ih.1 (List.cons_prefix_cons.mp hp).2
    · exact ih.2 (List.cons_prefix_cons.mp hp).2

theorem Diverge.snoc {u v : List Nat} {x y : Nat} (h : Diverge u v ∨ u = v ∧ x < y) :
    Diverge (u ++ [x]) (v ++ [y]) := by
  rcases h with h | ⟨rfl, h⟩
  · induction h with
    | head hxy => exact .head hxy
    | tail _ ih => exact .tail ih
  · induction u with
    | nil => exact .head h
    | cons _ _ ih => exact .tail ih

/-- numbers compare as their base-64 digits do, most significant first -/
theorem lex64 {a b : Nat} (h : a < b) : a / 64 < b / 64 ∨ a / 64 = b / 64 ∧ a % 64 < b % 64 := by omega

/-- a lead byte holds the payload bits above the continuation bytes -/
theorem diverge_lead (k m a b : Nat) (h : a < b) (hb : b < m) : Diverge [k + a % m] [k + b % m] := by
  rw [Nat.mod_eq_of_lt hb, Nat.mod_eq_of_lt (Nat.lt_trans h hb)]
  exact .head (Nat.add_lt_add_left h k)

/-- one more continuation byte after bytes that diverge in the direction of the value they hold -/
theorem diverge_cont {lead : Nat → List Nat} {n : Nat} (hl : ∀ a b, a < b → b < n → Diverge (lead a) (lead b))
    (a b : Nat) (h : a < b) (hb : b < 64 * n) :
    Diverge (lead (a / 64) ++ [0x80 + a % 64]) (lead (b / 64) ++ [0x80 + b % 64]) := by
  rcases lex64 h with h1 | ⟨h1, h2⟩
  · exact .snoc (.inl (hl _ _ h1 (Nat.div_lt_of_lt_mul hb)))
  · rw [h1]
    exact .snoc (.inr ⟨rfl, Nat.add_lt_add_left h2 _⟩)

/-- a longer encoding has a larger lead byte; within one length the payload is laid out most
    significant first -/
theorem encodeNat_diverge {a b : Nat} (hab : a < b) (hb : b < 0x110000) :
    Diverge (encodeNat a) (encodeNat b) := by
  have e1 : ∀ v : Nat, v / 4096 = v / 64 / 64 := fun v => by rw [Nat.div_div_eq_div_mul]
  have e2 : ∀ v : Nat, v / 262144 = v / 64 / 64 / 64 := fun v => by
    rw [Nat.div_div_eq_div_mul, Nat.div_div_eq_div_mul]
  have ca := encodeNat_cases a
  have cb := encodeNat_cases b
  simp only [e1, e2] at ca cb
  rcases ca with ⟨ha, ea⟩ | ⟨ha, ha', ea⟩ | ⟨ha, ha', ea⟩ | ⟨ha, ea⟩ <;>
  rcases cb with ⟨hb, eb⟩ | ⟨hb, hb', eb⟩ | ⟨hb, hb', eb⟩ | ⟨hb, eb⟩ <;>
  rw [ea, eb]
  all_goals first
    | (exfalso; omega)
    | exact .head (by omega)
    | exact diverge_cont (diverge_lead 0xC0 32) a b hab (by omega)
    | exact diverge_cont (diverge_cont (diverge_lead 0xE0 16)) a b hab (by omega)
    | exact diverge_cont (diverge_cont (diverge_cont (diverge_lead 0xF0 8))) a b hab (by omega)

theorem encode_diverge {a b : Char} (h : a.val < b.val) : Diverge (encode a) (encode b) :=
  encodeNat_diverge ((val_lt_iff a b).mp h) (toNat_lt b)

theorem encode_prefix_free {a b : Char} (h : encode a <+: encode b) : a = b := by
  by_cases h1 : a.val < b.val
  · exact absurd h (encode_diverge h1).not_prefix.1
  · by_cases h2 : b.val < a.val
    · exact absurd h (encode_diverge h2).not_prefix.2
    · exact eq_of_not_lt h1 h2

theorem encode_injective {a b : Char} (h : encode a = encode b) : a = b :=
  encode_prefix_free (h ▸ List.prefix_refl _)

theorem encode_cmp (a b : Char) :
    cmpBytes (encode a) (encode b) =
      if a.val < b.val then .lt else if b.val < a.val then .gt else .eq := by
  by_cases h1 : a.val < b.val
  · have := (encode_diverge h1).cmp_append [] []
    simp only [List.append_nil] at this
    simp [h1, this]
  · by_cases h2 : b.val < a.val
    · have := (encode_diverge h2).cmp_append [] []
      simp only [List.append_nil] at this
      rw [cmpBytes_swap, this]
      simp [h1, h2]
    · have : a = b := eq_of_not_lt h1 h2
      subst this
      simp [h1, cmpBytes_self]

theorem encode_lt_iff (a b : Char) : a.val < b.val ↔ encode a < encode b := by
  rw [← cmpBytes_lt_iff, encode_cmp]
  by_cases h1 : a.val < b.val
  · simp [h1]
  · by_cases h2 : b.val < a.val <;> simp [h1, h2]

theorem utf8_order (s t : Text) : cmpBytes (encodeText s) (encodeText t) = cmpPoints s t := by
  induction s generalizing t with
  | nil =>
    cases t with
    | nil => rfl
    | cons b bs =>
      obtain ⟨x, xs, hx⟩ := List.exists_cons_of_ne_nil (encode_ne_nil b)
      simp [cmpPoints, cmpBytes, hx]
  | cons a as ih =>
    cases t with
    | nil =>
      obtain ⟨x, xs, hx⟩ := List.exists_cons_of_ne_nil (encode_ne_nil a)
      simp [cmpPoints, cmpBytes, hx]
    | cons b bs =>
      simp only [encodeText_cons, cmpPoints]
      by_cases h1 : a.val < b.val
      · simp only [h1, if_true]
        exact (encode_diverge h1).cmp_append _ _
      · by_cases h2 : b.val < a.val
        · simp only [h1, h2, if_true, if_false]
          rw [cmpBytes_swap, (encode_diverge h2).cmp_append]
          rfl
        · have : a = b := eq_of_not_lt h1 h2
          subst this
          simp only [h1, if_false]
          rw [cmpBytes_append_left, ih]

theorem map_lt_map_iff {α : Type} [LT α] {f : α → Nat} (hlt : ∀ a b, f a < f b ↔ a < b)
    (hinj : ∀ a b, f a = f b ↔ a = b) (u v : List α) : u.map f < v.map f ↔ u < v := by
  induction u generalizing v with
  | nil => cases v <;> simp
  | cons x xs ih =>
    cases v with
    | nil => simp
    | cons y ys => simp only [List.map_cons, List.cons_lt_cons_iff, ih, hlt, hinj]

theorem cmpPoints_eq_cmpBytes (s t : Text) :
    cmpPoints s t = cmpBytes (s.map (·.val.toNat)) (t.map (·.val.toNat)) := by
  induction s generalizing t with
  | nil => cases t <;> rfl
  | cons a as ih =>
    cases t with
    | nil => rfl
    | cons b bs => simp only [cmpPoints, List.map_cons, cmpBytes, val_lt_iff, ih]

theorem cmpPoints_lt_iff (s t : Text) : cmpPoints s t = .lt ↔ s < t := by
  rw [cmpPoints_eq_cmpBytes, cmpBytes_lt_iff]
  exact map_lt_map_iff (fun a b => (val_lt_iff a b).symm.trans Char.lt_def.symm)
    (fun _ _ => ⟨eq_of_toNat_eq, fun h => h ▸ rfl⟩) s t

theorem cmpPoints_eq_iff (s t : Text) : cmpPoints s t = .eq ↔ s = t := by
  rw [cmpPoints_eq_cmpBytes, cmpBytes_eq_iff]
  exact List.map_inj_right fun _ _ => eq_of_toNat_eq

theorem cmpPoints_swap (s t : Text) : cmpPoints t s = (cmpPoints s t).swap := by
  rw [cmpPoints_eq_cmpBytes, cmpPoints_eq_cmpBytes, cmpBytes_swap]

theorem cmpPoints_gt_iff (s t : Text) : cmpPoints s t = .gt ↔ t < s := by
  rw [← cmpPoints_lt_iff, cmpPoints_swap s t]
  cases cmpPoints s t <;> simp [Ordering.swap]

/-- `string<?` -/
theorem utf8_lt (s t : Text) : encodeText s < encodeText t ↔ s < t := by
  rw [← cmpBytes_lt_iff, utf8_order, cmpPoints_lt_iff]

/-- `string=?` -/
theorem utf8_eq (s t : Text) : encodeText s = encodeText t ↔ s = t := by
  rw [← cmpBytes_eq_iff, utf8_order, cmpPoints_eq_iff]

/-- `string>?` -/
theorem utf8_gt (s t : Text) : encodeText t < encodeText s ↔ t < s := utf8_lt t s

/-- `string<=?` (`a ≤ b` on lists is `¬ b < a`) -/
theorem utf8_le (s t : Text) : encodeText s ≤ encodeText t ↔ s ≤ t := by
  rw [← List.not_lt, ← List.not_lt, utf8_lt]

/-- `string>=?` -/
theorem utf8_ge (s t : Text) : encodeText t ≤ encodeText s ↔ t ≤ s := utf8_le t s

theorem encode_lead (c : Char) :
    ∃ x xs, encode c = x :: xs ∧ isLeadByte x = true ∧ ∀ y ∈ xs, isLeadByte y = false := by
  obtain ⟨x, xs, e, hx, -, hs⟩ := encode_shape c
  refine ⟨x, xs, e, ?_, fun y hy => ?_⟩
  · simpa only [isLeadByte, Bool.or_eq_true, decide_eq_true_eq] using hx
  · have := hs y hy
    simp only [isLeadByte, Bool.or_eq_false_iff, decide_eq_false_iff_not]
    omega

/-- empty, or beginning with a lead byte -/
def StartsAtBoundary : List Nat → Prop
  | [] => True
  | b :: _ => isLeadByte b = true

theorem encodeText_startsAtBoundary (s : Text) : StartsAtBoundary (encodeText s) := by
  cases s with
  | nil => trivial
  | cons c cs =>
    obtain ⟨x, xs, hx, hl, _⟩ := encode_lead c
    simp only [encodeText_cons, hx, List.cons_append, StartsAtBoundary, hl]

theorem isCharBoundary_zero (bs : List Nat) : isCharBoundary bs 0 = true := rfl

/-- behind one encoded character the boundaries are those of the rest, shifted; inside it there are
    none -/
theorem isCharBoundary_encode_append (c : Char) (bs : List Nat) (hbs : StartsAtBoundary bs) (i : Nat)
    (hi : 0 < i) :
    isCharBoundary (encode c ++ bs) i =
      if c.utf8Size ≤ i then isCharBoundary bs (i - c.utf8Size) else false := by
  obtain ⟨x, xs, hx, _, hcont⟩ := encode_lead c
  have hlen : (encode c).length = c.utf8Size := encode_length c
  have hi0 : (i == 0) = false := by simp; omega
  unfold isCharBoundary
  simp only [hi0, Bool.false_or]
  by_cases hle : c.utf8Size ≤ i
  · simp only [hle, if_true]
    rw [List.getElem?_append_right (by omega), hlen, List.length_append, hlen]
    cases hg : bs[i - c.utf8Size]? with
    | some b =>
      by_cases h0 : i - c.utf8Size = 0
      · rw [h0] at hg
        cases bs with
        | nil => simp at hg
        | cons b' bs' =>
          simp only [List.getElem?_cons_zero, Option.some.injEq] at hg
          subst hg
          simpa [h0, StartsAtBoundary] using hbs
      · simp [h0]
    | none =>
      have : bs.length ≤ i - c.utf8Size := List.getElem?_eq_none_iff.mp hg
      simp only
      rw [Bool.eq_iff_iff]
      simp only [Bool.or_eq_true, beq_iff_eq]
      omega
  · simp only [hle, if_false]
    have hlt : i < (encode c).length := by omega
    rw [List.getElem?_append_left hlt, List.getElem?_eq_getElem hlt]
    simp only
    have hmem : (encode c)[i] ∈ xs := by
      have : (encode c)[i] ∈ (encode c).drop 1 := by
        rw [List.mem_drop_iff_getElem]
        exact ⟨i - 1, by omega, by congr 1; omega⟩
      simpa [hx] using this
    exact hcont _ hmem

/-- `&s[n..]` does not panic exactly when `s.is_char_boundary(n)` -/
theorem dropBytes_isSome (n : Nat) (cs : Text) :
    (dropBytes n cs).isSome = isCharBoundary (encodeText cs) n := by
  induction cs generalizing n with
  | nil => cases n <;> simp [dropBytes, isCharBoundary]
  | cons c cs ih =>
    cases n with
    | zero => simp [dropBytes, isCharBoundary]
    | succ n =>
      rw [encodeText_cons, isCharBoundary_encode_append c _ (encodeText_startsAtBoundary cs) _ (by omega)]
      simp only [dropBytes]
      split
      · exact ih _
      · rfl

/-- `&s[..n]` likewise -/
theorem takeBytes_isSome (n : Nat) (cs : Text) :
    (takeBytes n cs).isSome = isCharBoundary (encodeText cs) n := by
  induction cs generalizing n with
  | nil => cases n <;> simp [takeBytes, isCharBoundary]
  | cons c cs ih =>
    cases n with
    | zero => simp [takeBytes, isCharBoundary]
    | succ n =>
      rw [encodeText_cons, isCharBoundary_encode_append c _ (encodeText_startsAtBoundary cs) _ (by omega)]
      simp only [takeBytes]
      split
      · rw [Option.isSome_map]; exact ih _
      · rfl

theorem dropBytes_encode {n : Nat} {cs r : Text} (h : dropBytes n cs = some r) :
    encodeText r = (encodeText cs).drop n := by
  induction cs generalizing n with
  | nil =>
    cases n with
    | zero => simp [dropBytes] at h; subst h; rfl
    | succ n => simp [dropBytes] at h
  | cons c cs ih =>
    cases n with
    | zero => simp [dropBytes] at h; subst h; rfl
    | succ n =>
      simp only [dropBytes] at h
      split at h
      · rename_i hle
        rw [ih h, encodeText_cons, List.drop_append,
          List.drop_eq_nil_of_le (as := encode c) (by rw [encode_length]; exact hle), encode_length,
          List.nil_append]
      · cases h

theorem takeBytes_encode {n : Nat} {cs r : Text} (h : takeBytes n cs = some r) :
    encodeText r = (encodeText cs).take n := by
  induction cs generalizing n r with
  | nil =>
    cases n with
    | zero => simp [takeBytes] at h; subst h; rfl
    | succ n => simp [takeBytes] at h
  | cons c cs ih =>
    cases n with
    | zero => simp [takeBytes] at h; subst h; rfl
    | succ n =>
      simp only [takeBytes] at h
      split at h
      · rename_i hle
        cases hr : takeBytes (n + 1 - c.utf8Size) cs with
        | none => simp [hr] at h
        | some r' =>
          simp only [hr, Option.map_some, Option.some.injEq] at h
          subst h
          rw [encodeText_cons, ih hr, encodeText_cons, List.take_append,
            List.take_of_length_le (l := encode c) (by rw [encode_length]; exact hle), encode_length]
      · cases h

theorem sliceBytes_encode {lo hi : Nat} {cs r : Text} (h : sliceBytes lo hi cs = some r) :
    encodeText r = ((encodeText cs).drop lo).take (hi - lo) := by
  unfold sliceBytes at h
  split at h
  · cases hd : dropBytes lo cs with
    | none => simp [hd] at h
    | some m =>
      simp only [hd, Option.bind_some] at h
      rw [takeBytes_encode h, dropBytes_encode hd]
  · cases h

/-- the models' byte offset of character `k` (a prefix sum of `utf8Size`) -/
theorem byteLen_take_eq (cs : Text) (k : Nat) :
    byteLen (cs.take k) = (encodeText (cs.take k)).length := (encodeText_length _).symm

theorem isCharBoundary_le_length {bs : List Nat} {i : Nat} (h : isCharBoundary bs i = true) :
    i ≤ bs.length := by
  unfold isCharBoundary at h
  by_cases h0 : i = 0
  · omega
  · cases hg : bs[i]? with
    | some b =>
      have := (List.getElem?_eq_some_iff.mp hg).1
      omega
    | none =>
      simp [hg, h0] at h
      omega

theorem isCharBoundary_drop (bs : List Nat) {a b : Nat} (ha : isCharBoundary bs a = true)
    (hab : a ≤ b) : isCharBoundary (bs.drop a) (b - a) = isCharBoundary bs b := by
  have hal := isCharBoundary_le_length ha
  by_cases hba : b = a
  · subst hba
    simp [isCharBoundary_zero, ha]
  · have h1 : (b - a == 0) = false := by simp; omega
    have h2 : (b == 0) = false := by simp; omega
    unfold isCharBoundary
    simp only [h1, h2, Bool.false_or, List.getElem?_drop, List.length_drop]
    have e : a + (b - a) = b := by omega
    rw [e]
    cases bs[b]? with
    | some x => rfl
    | none =>
      simp only
      rw [Bool.eq_iff_iff]
      simp only [beq_iff_eq]
      omega

/-- `&s[lo..hi]` does not panic exactly when `lo ≤ hi` and both are character boundaries
    (`hi ≤ len` is part of being a boundary) -/
theorem sliceBytes_isSome (lo hi : Nat) (cs : Text) :
    (sliceBytes lo hi cs).isSome =
      (decide (lo ≤ hi) && isCharBoundary (encodeText cs) lo && isCharBoundary (encodeText cs) hi) := by
  unfold sliceBytes
  by_cases hle : lo ≤ hi
  · simp only [hle, if_true, decide_true, Bool.true_and]
    cases hd : dropBytes lo cs with
    | none =>
      have := dropBytes_isSome lo cs
      rw [hd] at this
      simp [← this]
    | some m =>
      have h1 := dropBytes_isSome lo cs
      rw [hd] at h1
      simp only [Option.isSome_some] at h1
      simp only [Option.bind_some, ← h1, Bool.true_and]
      rw [takeBytes_isSome, dropBytes_encode hd, isCharBoundary_drop _ h1.symm hle]
  · simp [hle]

theorem encodeText_eq_core (s : Text) :
    encodeText s = (s.flatMap String.utf8EncodeChar).map UInt8.toNat := by
  induction s with
  | nil => rfl
  | cons c cs ih => simp [ih, encode_eq_core]

/-- order preservation in core Lean's own terms: `String.utf8EncodeChar`, `UInt8` lists, `Char` by
    scalar value -/
theorem utf8_order_core (s t : List Char) :
    (s.flatMap String.utf8EncodeChar < t.flatMap String.utf8EncodeChar ↔ s < t) ∧
    (s.flatMap String.utf8EncodeChar = t.flatMap String.utf8EncodeChar ↔ s = t) := by
  constructor
  · rw [← map_lt_map_iff (fun _ _ => UInt8.lt_iff_toNat_lt.symm) (fun _ _ => UInt8.toNat_inj), ← encodeText_eq_core,
      ← encodeText_eq_core, utf8_lt]
  · rw [← utf8_eq, encodeText_eq_core, encodeText_eq_core]
    exact (List.map_inj_right (fun a b hab => UInt8.toNat_inj.mp hab)).symm

end Marwood.Utf8
