import Marwood.Lemmas.PrepareCheckSound
import Marwood.Lemmas.PrepareMain
import Marwood.Proofs.C13
/-!
# `Installs` is inhabited: a concrete `prepare_eval` on the demo machine (non-vacuity)

On the idle demo machine `sHalt 0` the form `#t` compiles (model: `compileRunnable (Datum.bool true) 20`) to the top-level
lambda `[ENTER, MOVIMM, #t, acc, RET]` and the entry lambda. `sT` is the state a loader leaves: cell 1 holds a loading of the
top-level lambda with the constant inline (the canonical loading `encodeLam` writes `ptr 0` for a datum, which here would
designate cell 0, entry code, and is rightly refused by `cellPB`), cell 2 the entry lambda referring to cell 1. The checker
accepts the pair (`installsB … = true`, evaluated by the kernel), hence `Installs`, hence `VmOkP` of the prepared state.
-/
namespace Marwood.Lemmas.Good.Demo
open Marwood Marwood.Vm Marwood.Vm.Verify Marwood.Vm.Concrete Marwood.Lemmas.Sim Marwood.Lemmas.Good
open Marwood.Heap (GcState)

def hT : CHeap :=
  { chunk := 4
    cells := #[.lambda { bc := [.opcode .halt], args := [], envmap := [] },
      .lambda { bc := [.opcode .enter, .opcode .movImm, .bool true, .acc, .opcode .ret], args := [], envmap := [] },
      .lambda { bc := [.opcode .pushImm, .argc 0, .opcode .movImm, .ptr 1, .acc, .opcode .callAcc, .opcode .halt],
                args := [], envmap := [] },
      .val .undefined]
    gc := #[.allocated, .allocated, .allocated, .free], free := [3], symtab := [], globSyms := [], globals := #[] }

def sT : St CHeap := { sHalt 0 with heap := hT }

theorem demo_installsB : installsB (Datum.bool true) 20 (sHalt 0) sT 2 = true := by decide +kernel

/-- **`Installs` holds of a real instance** -/
theorem demo_installs : Installs (Datum.bool true) 20 (sHalt 0) sT 2 := installsB_sound demo_installsB

theorem demo_garbage : InstallsGarbage (sHalt 0) sT := demo_installs.garbage

theorem demo_small : Small sT.heap := by unfold Small; decide

/-- `IdleOk` does not mention the builtins -/
theorem sHalt_idleOk : IdleOk (sHalt 0) :=
  (sHalt_vmOkP Marwood.Proofs.C13.failingExt Marwood.Proofs.C13.failingExt_codeLawsV).idleOk rfl (by decide)

/-- the bundled invariant holds, for EVERY parameter set `ext`, of the state in which the evaluation of `#t` starts -/
theorem demo_prepared_vmOkP (ext : ExtOps) (ecl : ExtCodeLawsV ext) : VmOkP ext ecl (prepare sT 2) :=
  prepare_vmOkP (sHalt_vmOkP ext ecl) rfl (by decide) demo_installs demo_small

open Marwood.Proofs.C13 in
example : VmOkP failingExt failingExt_codeLawsV (prepare sT 2) :=
  demo_prepared_vmOkP _ _

end Marwood.Lemmas.Good.Demo
