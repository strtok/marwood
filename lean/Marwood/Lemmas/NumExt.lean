import Mathlib.Algebra.Order.Field.Rat
import Marwood.Spec.Rat
/-!
# The order of ℚ ∪ {−∞, +∞}

`Ext.lt` is a strict total order and `Ext.le` its complement read backwards; the names are in the namespaces of
their users (`Marwood.Cmp.Ext.*` for the comparison model, `Marwood.Fl.Ext.*` for rounding).
-/
namespace Marwood.Cmp
open Marwood Marwood.NumSpec

theorem Ext.lt_irrefl (x : Ext) : Ext.lt x x = false := by
  cases x <;> simp [Ext.lt]

theorem Ext.lt_trans {x y z : Ext} (h1 : Ext.lt x y = true) (h2 : Ext.lt y z = true) :
    Ext.lt x z = true := by
  cases x <;> cases y <;> cases z <;> simp_all [Ext.lt]
  exact _root_.lt_trans h1 h2

theorem Ext.lt_asymm {x y : Ext} (h : Ext.lt x y = true) : Ext.lt y x = false := by
  cases x <;> cases y <;> simp_all [Ext.lt]
  exact le_of_lt h

theorem Ext.trichotomy (x y : Ext) : Ext.lt x y = true ∨ x = y ∨ Ext.lt y x = true := by
  cases x <;> cases y <;> simp [Ext.lt]
  exact lt_trichotomy _ _

theorem Ext.ne_of_lt {x y : Ext} (h : Ext.lt x y = true) : x ≠ y := by
  rintro rfl
  rw [Ext.lt_irrefl] at h
  cases h

/-- `≥` is transitive -/
theorem Ext.not_lt_trans {x y z : Ext} (h1 : Ext.lt x y = false) (h2 : Ext.lt y z = false) :
    Ext.lt x z = false := by
  cases h : Ext.lt x z
  · rfl
  · rcases Ext.trichotomy x y with h' | h' | h'
    · rw [h'] at h1; cases h1
    · rw [← h', h] at h2; cases h2
    · rw [Ext.lt_trans h' h] at h2; cases h2

theorem Ext.le_eq_not_lt (x y : Ext) : Ext.le x y = !(Ext.lt y x) := by
  unfold Ext.le
  rcases Ext.trichotomy x y with h | rfl | h
  · rw [h, Ext.lt_asymm h, Bool.or_true]; rfl
  · rw [Ext.lt_irrefl, beq_self_eq_true]; rfl
  · rw [h, Ext.lt_asymm h, (beq_eq_false_iff_ne (a := x)).mpr (Ext.ne_of_lt h).symm]; rfl

end Marwood.Cmp

namespace Marwood.Fl
open Marwood Marwood.NumSpec

theorem Ext.le_fin {a b : ℚ} (h : a ≤ b) : Ext.le (.fin a) (.fin b) = true := by
  rw [Cmp.Ext.le_eq_not_lt]
  simpa [Ext.lt] using h

theorem Ext.le_pinf (a : Ext) : Ext.le a .pinf = true := by
  cases a <;> simp [Ext.le, Ext.lt]

theorem Ext.ninf_le (a : Ext) : Ext.le .ninf a = true := by
  cases a <;> simp [Ext.le, Ext.lt]

theorem Ext.le_trans' {a b c : Ext} (h1 : Ext.le a b = true) (h2 : Ext.le b c = true) :
    Ext.le a c = true := by
  rw [Cmp.Ext.le_eq_not_lt, Bool.not_eq_true'] at *
  exact Cmp.Ext.not_lt_trans h2 h1

end Marwood.Fl
