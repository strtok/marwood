import Marwood.Lemmas.CompileCorrect3ConcreteRep
/-!
# T01.3 stage 3 on the concrete heap — `heap.put` (VARARG)

`Heap::put` (`putV`): a pointer is returned as it is; an interned symbol is answered with its cell (the symbol table is
exact: `Sim.SymOk`); anything else is written to a freshly allocated cell. The result is a pointer to a cell that
holds the value, no environment slot and no global changes (`Step3`). The premise `VR3 … v w` of `put_val` is needed
for an IMMEDIATE closure value only: the new cell is then a closure cell, and its environment is one a closure cell
referred to before (`ClosOK3` contains `envOK`).
-/
namespace Marwood.Lemmas.CompileCorrect3.Conc
open Marwood Marwood.Vm Marwood.Vm.Concrete Marwood.Lemmas.CompileCorrect Marwood.Lemmas.CompileCorrect2
  Marwood.Lemmas.CompileCorrect2.Conc
open Marwood.Spec.Eval (Val Cell)

variable {ext : ExtOps} {E : AtomEnc} {named : Text → Prop} {slot : Text → Nat} {LM : Nat → Nat}
  {final : List LambdaM} {setG : Text → Prop}

theorem alloc_val_step3 {h h' : CHeap} {p : Nat} {v : VCell} (S : Array Cell)
    (hsrx : (cD3 ext E named slot LM final setG).SRx h S) (a : Alloc h h' p (.val v)) (inv' : CInv h')
    (fi' : FreeInv h') (x' : X3 h') (hc : ∀ lam e, v = .closure lam e → cEnvOK h e) :
    Step3 (cD3 ext E named slot LM final setG) h S h' := by
  have x := (cstep_of_alloc a inv' fi' (fun lam e y => by cases y; exact .inr (hc lam e rfl).2) fun _ => x').ext3 S hsrx
  exact ⟨x.1, x.2, fun e k => envGet_of_envAt (envAt_alloc a e (.inr (by intro ss y; cases y))) k, alloc_globGet a⟩

theorem putNew_step (h : CHeap) (S : Array Cell) (v : VCell)
    (hsrx : (cD3 ext E named slot LM final setG).SRx h S) (hc : ∀ lam e, v = .closure lam e → cEnvOK h e) :
    ∃ h' a, putNew h v = (h', .ptr a) ∧ Step3 (cD3 ext E named slot LM final setG) h S h' ∧
      h'.cells[a]? = some (CCell.val v) ∧ Keeps h h' := by
  obtain ⟨ce, hi, so⟩ := hsrx.2.2.2
  obtain ⟨h1, p, hr, a, inv1, fi1, ce1, hi1⟩ := cput_gen hsrx.1 hsrx.2.1 (c := .val v) (by intro lam x; cases x)
    (by intro k x; cases x) (by intro lam e x; cases x; exact (hc lam e rfl).1)
  cases hs : symOf v with
  | none =>
    refine ⟨h1, p, ?_, alloc_val_step3 S hsrx a inv1 fi1
      ⟨ce1 ce, hi1 hi, symOk_cput so hi hr (not_sym_val hs)⟩ hc, a.cell, Alloc.keeps a⟩
    unfold putNew
    rw [hs]
    simp only [hr]
  | some name =>
    obtain ⟨tag, rfl, ht⟩ := Sim.symOf_some hs
    cases hlk : symLookup h name with
    | some p =>
      obtain ⟨c, hcell, ⟨tag', rfl, ht'⟩, _⟩ := (so name p).mp hlk
      have : tag' = tag := Sim.symName_tag_inj ht' ht
      subst this
      refine ⟨h, p, ?_, Step3.refl hsrx, hcell, Keeps.refl h⟩
      unfold putNew
      rw [hs]
      simp only [hlk]
    | none =>
      have so1 : Sim.SymOk { h1 with symtab := Heap.Heap.symInsert h1.symtab name p } := by
        have := Sim.cput_symOk_sym so hi ht hlk
        rw [hr] at this; exact this
      have a' : Alloc h { h1 with symtab := Heap.Heap.symInsert h1.symtab name p } p (.val (.opaque tag)) :=
        ⟨a.cell, a.was, a.old, a.fresh, a.size, a.globals, a.globSyms⟩
      refine ⟨_, p, ?_, alloc_val_step3 S hsrx a' (cinv_of_eq inv1 rfl rfl rfl rfl) (freeInv_of_eq fi1 rfl rfl)
        ⟨closEnv_of_eq (ce1 ce) rfl, hinv_of_eq (hi1 hi) rfl rfl rfl rfl, so1⟩ hc, a'.cell, Alloc.keeps a'⟩
      unfold putNew
      rw [hs]
      simp only [hlk, hr]

theorem getAt_of_cell {h : CHeap} {a : Nat} {v : VCell} (x : h.cells[a]? = some (CCell.val v)) :
    Concrete.getAt h a = v := by
  unfold Concrete.getAt; rw [x]; rfl

theorem not_ptr_of {v : VCell} (hnp : isPtr v = false) : ∀ p, v ≠ .ptr p := by
  intro p x; subst x; cases hnp

theorem vr_of_cell {h h' : CHeap} {a : Nat} {v : VCell} {S : Array Cell} (k : Keeps h h')
    (hcell : h'.cells[a]? = some (CCell.val v)) (hnp : isPtr v = false) {w : Val} (x : cVR ext E h S v w) :
    cVR ext E h' S (.ptr a) w := by
  have hget := getAt_of_cell hcell
  cases x with
  | base hb =>
    obtain ⟨c, hc, hv⟩ := hb
    rcases hv with rfl | ⟨p, rfl, _⟩
    · exact .base ⟨v, hc, .inr ⟨a, rfl, hget⟩⟩
    · cases hnp
  | pair hs hd x1 x2 =>
    have hd' : Concrete.deref h v = .pair _ _ := hd
    rw [deref_of_not_ptr (not_ptr_of hnp)] at hd'
    refine .pair hs ?_ (k.vr (fun _ _ y _ => y) x1) (k.vr (fun _ _ y _ => y) x2)
    show Concrete.getAt h' a = _
    rw [hget]; exact hd'
  | vec hs hv' _ => cases hv'

theorem vr3_closure_envOK {W : World} {h : CHeap} {S : Array Cell} {l e : Nat} {w : Val}
    (r : VR3 (cD3 ext E named slot LM final setG) W h S (.closure l e) w) : cEnvOK h e := by
  cases r with
  | base hb =>
    have hb' : cVR ext E h S (.closure l e) w := hb
    cases hb' with
    | base hx =>
      obtain ⟨c, hc, hv⟩ := hx
      rcases hv with rfl | ⟨p, x, _⟩
      · exfalso
        cases w <;> simp [AtomEnc.cell] at hc
      · cases x
    | pair hs hd _ _ =>
      have hd' : VCell.closure l e = .pair _ _ := hd
      cases hd'
    | vec hs hv' _ => cases hv'
  | clos hc hok =>
    have hc' : Callee.closure l e = .closure _ _ := hc
    injection hc' with e1 e2
    subst e1 e2
    obtain ⟨f, cst, cst1, co, p, bcode, ints, caps, a1, a2, a3, a4, a5, a6, a7, a8, a9, a10, a11, a12, a13,
      a14, a15, a16, a17, a18, a19⟩ := hok
    exact a18
  | pair hs hd _ _ =>
    have hd' : VCell.closure l e = .pair _ _ := hd
    cases hd'

theorem c3_put_val (h : CHeap) (S : Array Cell) (v : VCell) (W : World) (w : Val)
    (hsrx : (cD3 ext E named slot LM final setG).SRx h S)
    (hr : VR3 (cD3 ext E named slot LM final setG) W h S v w) :
    ∃ h' a, (concreteOps ext).put h v = (h', .ptr a) ∧ Step3 (cD3 ext E named slot LM final setG) h S h' ∧
      (∀ w, (cD3 ext E named slot LM final setG).VR h S v w → (cD3 ext E named slot LM final setG).VR h' S (.ptr a) w) ∧
      (∀ l e, (concreteOps ext).callee h v = .closure l e → (concreteOps ext).callee h' (.ptr a) = .closure l e) ∧
      (∀ x y, (concreteOps ext).deref h v = .pair x y → (concreteOps ext).deref h' (.ptr a) = .pair x y) := by
  by_cases hp : isPtr v = true
  · obtain ⟨p, rfl⟩ : ∃ p, v = .ptr p := by
      cases v <;> first | exact ⟨_, rfl⟩ | cases hp
    exact ⟨h, p, rfl, Step3.refl hsrx, fun _ x => x, fun _ _ x => x, fun _ _ x => x⟩
  · have hnp : isPtr v = false := by simpa using hp
    have hc : ∀ lam e, v = .closure lam e → cEnvOK h e := by
      intro lam e x; subst x
      exact vr3_closure_envOK hr
    obtain ⟨h', a, hput, hstep, hcell, hk⟩ := putNew_step h S v hsrx hc
    refine ⟨h', a, ?_, hstep, fun w x => vr_of_cell hk hcell hnp x, ?_, ?_⟩
    · show putV h v = _
      unfold putV
      rw [hnp]
      simpa using hput
    · intro l e x
      rcases callee_closure_inv x with rfl | ⟨p, rfl, _⟩
      · exact callee_of_cell hcell
      · cases hnp
    · intro x y hd
      have hd' : Concrete.deref h v = .pair x y := hd
      rw [deref_of_not_ptr (not_ptr_of hnp)] at hd'
      show Concrete.getAt h' a = _
      rw [getAt_of_cell hcell]; exact hd'

theorem c3_put_pair (h : CHeap) (S : Array Cell) (a d : Nat)
    (hsrx : (cD3 ext E named slot LM final setG).SRx h S) :
    ∃ h' p, (concreteOps ext).put h (.pair a d) = (h', .ptr p) ∧ Step3 (cD3 ext E named slot LM final setG) h S h' ∧
      (concreteOps ext).deref h' (.ptr p) = .pair a d := by
  obtain ⟨h', p, hput, hstep, hcell, _⟩ := putNew_step h S (.pair a d) hsrx (by intro lam e x; cases x)
  refine ⟨h', p, ?_, hstep, ?_⟩
  · show putV h (.pair a d) = _
    unfold putV
    simpa [isPtr] using hput
  · show Concrete.getAt h' p = _
    exact getAt_of_cell hcell

end Marwood.Lemmas.CompileCorrect3.Conc
