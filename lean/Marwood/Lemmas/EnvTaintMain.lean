import Marwood.Lemmas.EnvTaintOps
import Marwood.Lemmas.ProcInvMain
/-!
# "No value leads to a capturing lambda" is an invariant of the real machine

The instance `Spec.cap` of Lemmas/LeadMain.lean and Lemmas/LeadGc.lean.
-/
namespace Marwood.Lemmas.Taint
open Marwood.Lemmas.Good Marwood Marwood.Vm Marwood.Vm.Verify Marwood.Vm.Concrete Marwood.Lemmas.Sim
open Marwood.Heap (GcState)

theorem tinv_step {ext : ExtOps} (et : ExtTaint ext) (ecl : ExtCodeLawsV ext) {s s' : St CHeap} {b : Bool} (g : GoodI s)
    (ci : CInvG IsValue s.heap) (sd : StackDisc s) (p : TInv s) (hs : step (concreteOps ext) s = .ok (s', b)) :
    TInv s' :=
  tinv_iff.mpr (Lead.tinv_step et.lead ecl g ci sd (tinv_iff.mp p) hs)

theorem pinv_gc (force : Bool) {s : St CHeap} (ci : CInvG IsValue s.heap) (p : PInv s) : PInv (cgc force s) :=
  pinv_iff.mpr (Lead.pinv_gc force ci (pinv_iff.mp p))

theorem tinv_gc (force : Bool) {s : St CHeap} (ci : CInvG IsValue s.heap) (p : TInv s) :
    TInv (cgc force s) :=
  tinv_iff.mpr (Lead.tinv_gc force ci (tinv_iff.mp p))

/-- **Assumed of the unmodelled compiler** inside `prepare_eval`: the heap it returns satisfies `HP` (the capturing code
    objects it creates are referred to by `MOVIMM _ %acc; CLOSURE` sites only) -/
structure CompTaint (comp : CHeap → VCell → Outcome (CHeap × VCell)) : Prop where
  hp : ∀ (h : CHeap) (d : VCell) (h' : CHeap) (v : VCell), HP h → addrFree d = true → comp h d = .ok (h', v) → HP h'

theorem prepare_tinv {comp : CHeap → VCell → Outcome (CHeap × VCell)} (cp : CompTaint comp) {s s' : St CHeap}
    {d : VCell} (p : TInv s) (hacc : s.acc = .undefined) (hst : ∀ c ∈ s.stack.cells, c = VCell.undefined)
    (hd : addrFree d = true) (hp : prepareEval comp s d = .ok s') : TInv s' :=
  tinv_iff.mpr (Lead.prepare_tinv (fun h d h' v x => (hp_iff.mp <| cp.hp h d h' v (hp_iff.mpr x) · ·)) (tinv_iff.mp p)
    hacc hst hd hp)

theorem onError_tinv {s : St CHeap} (p : TInv s) : TInv (onError s) :=
  tinv_iff.mpr (Lead.onError_tinv (tinv_iff.mp p))

theorem onDone_tinv {s : St CHeap} (p : TInv s) : TInv (onDone s) :=
  tinv_iff.mpr (Lead.onDone_tinv (tinv_iff.mp p))


namespace Demo
open Marwood.Lemmas.Good.Demo

theorem sHalt_stateTB (o : Nat) : stateTB (sHalt o) = true := by
  show stateTB (sHalt 0) = true
  decide +kernel

theorem sHalt_tinv (o : Nat) : TInv (sHalt o) := stateTB_sound (sHalt_stateTB o)

/-- a capturing lambda in cell 1, and in cell 2 a code object with the site `MOVIMM <Ptr(1)> %acc; CLOSURE` -/
def hCap : CHeap :=
  { hHalt with
    cells := #[.lambda { bc := [.opcode .halt], args := [], envmap := [] },
      .lambda { bc := [.opcode .halt], args := [], envmap := [(.undefined, .global)] },
      .lambda { bc := [.opcode .movImm, .ptr 1, .acc, .opcode .closureAcc, .opcode .halt], args := [], envmap := [] },
      .val .undefined]
    gc := #[.allocated, .allocated, .allocated, .free], free := [3] }

def sCap (l o : Nat) (a : VCell) : St CHeap := { sHalt o with heap := hCap, ipL := l, acc := a }

/-- the heap with the site passes; the state between the MOVIMM and the CLOSURE passes `stateTB` (hence `TInv`) but
    not the unconditional form -/
example : heapTB hCap = true := by decide +kernel

example : stateTB (sCap 2 3 (.ptr 1)) = true := by decide +kernel

example : TInv (sCap 2 3 (.ptr 1)) := stateTB_sound (by decide +kernel)

example : stateT0B (sCap 2 3 (.ptr 1)) = false := by decide +kernel

/-- the clauses are not trivially true: a state whose `acc` points to the capturing lambda anywhere else, or whose
    heap holds a pair / a PUSHIMM immediate pointing to it, is rejected by the executable check -/
example : stateTB (sCap 2 0 (.ptr 1)) = false := by decide +kernel

example : stateTB (sCap 0 0 (.ptr 1)) = false := by decide +kernel

example : heapTB { hCap with cells := hCap.cells.setIfInBounds 3 (.val (.pair 0 1)) } = false := by decide +kernel

example : heapTB { hCap with
    cells := hCap.cells.setIfInBounds 3 (.lambda { bc := [.opcode .pushImm, .ptr 1], args := [], envmap := [] }) } =
    false := by decide +kernel

end Demo

end Marwood.Lemmas.Taint
