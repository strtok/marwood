import Marwood.Lemmas.VerifyBlk
import Marwood.Lemmas.VerifyInfer
/-!
# Procedure code `[VARARG] ENTER <structured body> RET` and entry code pass the forward pass
-/
namespace Marwood.Vm.Verify
open Marwood.Vm

theorem encList_cons {b : BC} {bs : List BC} {cells : List VCell} (h : EncList (b :: bs) cells) :
    ∃ v vs, cells = v :: vs ∧ Enc b v ∧ EncList bs vs := by
  cases cells with
  | nil => exact h.elim
  | cons v vs => exact ⟨v, vs, rfl, h.1, h.2⟩

theorem encList_nil {cells : List VCell} (h : EncList [] cells) : cells = [] := by
  cases cells with
  | nil => rfl
  | cons v vs => exact h.elim

theorem encList_spec : ∀ {code : List BC} {cells : List VCell}, EncList code cells →
    cells.length = code.length ∧ ∀ (i : Nat) (b : BC), code[i]? = some b → ∃ v, cells[i]? = some v ∧ Enc b v
  | [], _, h => by rw [encList_nil h]; exact ⟨rfl, fun i b hb => nomatch hb⟩
  | b :: bs, _, h => by
    obtain ⟨v, vs, rfl, h1, h2⟩ := encList_cons h
    obtain ⟨hl, hi⟩ := encList_spec h2
    refine ⟨congrArg (· + 1) hl, fun i b' hb => ?_⟩
    cases i with
    | zero => cases hb; exact ⟨v, rfl, h1⟩
    | succ j => exact hi j b' hb

theorem encList_cellsAt {code : List BC} {cells : List VCell} (h : EncList code cells) : CellsAt cells 0 code := by
  intro i b hb
  simpa using (encList_spec h).2 i b hb

def BC.noBp : BC → Bool
  | .bpOffset _ => false
  | _ => true

theorem locB_noBp {b : BC} (h : locB b = true) : BC.noBp b = true := by
  cases b <;> first | rfl | cases h

theorem immB_noBp {b : BC} (h : immB b = true) : BC.noBp b = true := by
  cases b <;> first | rfl | cases h

theorem blk_noBp {b : Nat} {code : List BC} {p q : List ACell} (h : Blk b code p q) :
    code.all BC.noBp = true := by
  induction h with
  | seq _ _ ih1 ih2 => rw [List.all_append, ih1, ih2]; rfl
  | frame _ _ ih => exact ih
  | mov b src dst hs hd => simp only [List.all_cons, locB_noBp hs, locB_noBp hd]; rfl
  | movImm b imm dst hs hd => simp only [List.all_cons, immB_noBp hs, locB_noBp hd]; rfl
  | ite tj tm _ _ _ _ _ iht ihc iha => simp only [List.all_append, iht, ihc, iha]; rfl
  | call b tail vs hv => cases tail <;> rfl
  | _ => rfl

theorem enc_noBp {b : BC} {v : VCell} (hb : BC.noBp b = true) (he : Enc b v) : ∀ off, v ≠ .bpOffset off := by
  intro off hv
  subst hv
  cases b <;> simp [Enc, dataCell, BC.noBp] at he hb

/-- the final scan state `F s0` does not depend on the loading -/
theorem scan_body_ret {body : List BC} {k : Nat} (hblk : Blk k body [] []) :
    ∃ F : Scan → Scan, ∀ {cells : List VCell} (_ : NoBp cells), CellsAt cells k body →
      cells[k + body.length]? = some (.opcode .ret) → cells.length = k + body.length + 1 →
      ∀ s0 : Scan, s0.o = k → s0.cur = some [] → s0.pend = [] →
      scanAll cells false (cells.length + 1) s0 = .ok (F s0) ∧ (F s0).cur = none ∧ (F s0).pend = [] := by
  obtain ⟨F1, k1⟩ := blk_scan hblk []
  refine ⟨fun s => applyEffect (F1 s) ⟨.body [], 1, none, [], 0⟩, ?_⟩
  intro cells hnb hcb hret hlen s0 h0 hc hp
  simp only []
  have hr0 : Ready s0 ([] ++ []) [] := ⟨.inl hc, by simp [hp], by simp⟩
  obtain ⟨st1, ho1, hr1⟩ := k1 hnb s0 [] hcb h0 hr0 (by simp)
  generalize F1 s0 = s1 at st1 ho1 hr1 ⊢
  simp only [List.append_nil] at hr1
  rw [← ho1] at hret
  obtain ⟨st2, h2⟩ := ready_step (e := ⟨.body [], 1, none, [], 0⟩) hnb hr1 (by simp) hret (.ret rfl)
  obtain ⟨f', _, hf'⟩ := scanAll_steps (st1.trans st2) (cells.length + 1) (by omega)
  refine ⟨?_, rfl, ?_⟩
  · rw [hf']
    exact scanAll_done (by rw [applyEffect_o]; simp only; omega) _
  · rw [List.eq_nil_iff_forall_not_mem]
    intro p hp
    simpa using (h2 p).1 hp

theorem encList_noBp {code : List BC} {cells : List VCell} (hc : code.all BC.noBp = true) (he : EncList code cells) :
    NoBp cells := by
  intro i off hi
  obtain ⟨hlen, hget⟩ := encList_spec he
  have hlt : i < code.length := hlen ▸ (List.getElem?_eq_some_iff.1 hi).1
  obtain ⟨v, hv, hev⟩ := hget i code[i] (List.getElem?_eq_getElem hlt)
  rw [hi] at hv
  cases hv
  exact enc_noBp (List.all_eq_true.1 hc _ (List.getElem_mem hlt)) hev off rfl

theorem procShape_noBp {l : LambdaM} {cells : List VCell} (hs : ProcShape l) (he : EncList l.bc cells) :
    NoBp cells := by
  obtain ⟨body, hbc, hblk, _⟩ := hs
  refine encList_noBp ?_ he
  rw [hbc, List.all_append, List.all_append, List.all_append, blk_noBp hblk]
  cases l.isVararg <;> rfl

theorem proc_cells {code pro body : List BC} {cells : List VCell} (hbc : code = pro ++ body ++ [.op .ret])
    (he : EncList code cells) :
    CellsAt cells 0 pro ∧ CellsAt cells pro.length body ∧
      CellsAt cells (pro.length + body.length) [.op .ret] ∧ cells.length = pro.length + body.length + 1 := by
  subst hbc
  obtain ⟨hc1, hcr⟩ := (encList_cellsAt he).append
  obtain ⟨hcp, hcb⟩ := hc1.append
  rw [Nat.zero_add] at hcb
  rw [Nat.zero_add, List.length_append] at hcr
  refine ⟨hcp, hcb, hcr, ?_⟩
  rw [(encList_spec he).1, List.length_append, List.length_append]; rfl

/-- the assignment (abstract stack per offset, maximal number of temporaries) is the same in every loading -/
theorem proc_infer {l : LambdaM} (hs : ProcShape l) :
    ∃ tm h, ∀ cells, EncList l.bc cells → isEntryCode cells = false ∧ infer cells false = .ok (tm, h) := by
  have hs' := hs
  obtain ⟨body, hbc, hblk, _⟩ := hs
  cases hva : l.isVararg
  · -- ENTER body RET
    simp only [hva, Bool.false_eq_true, if_false, List.nil_append] at hbc hblk
    obtain ⟨F, hF⟩ := scan_body_ret hblk
    refine ⟨(F ⟨1, some [], [], [some .pre], 0⟩).tm.reverse, (F ⟨1, some [], [], [some .pre], 0⟩).maxH, ?_⟩
    intro cells he
    obtain ⟨hcp, hcb, hr, hlen⟩ := proc_cells (pro := [.op .enter]) hbc he
    have h0 := hcp.opcode
    obtain ⟨hsf, hcur, hpend⟩ := hF (procShape_noBp hs' he) hcb hr.opcode hlen ⟨1, some [], [], [some .pre], 0⟩ rfl rfl rfl
    exact ⟨by simp [isEntryCode, h0], by simp only [infer, h0, Bool.false_eq_true, if_false, hsf, hcur, hpend]⟩
  · -- VARARG ENTER body RET
    simp only [hva, if_true] at hbc hblk
    obtain ⟨F, hF⟩ := scan_body_ret hblk
    refine ⟨(F ⟨2, some [], [], [some .pre, some .pre], 0⟩).tm.reverse,
      (F ⟨2, some [], [], [some .pre, some .pre], 0⟩).maxH, ?_⟩
    intro cells he
    obtain ⟨hcp, hcb, hr, hlen⟩ := proc_cells (pro := [.op .varArg, .op .enter]) hbc he
    have h0 := hcp.opcode
    obtain ⟨_, h1, rfl⟩ := hcp 1 _ rfl
    obtain ⟨hsf, hcur, hpend⟩ :=
      hF (procShape_noBp hs' he) hcb hr.opcode hlen ⟨2, some [], [], [some .pre, some .pre], 0⟩ rfl rfl rfl
    exact ⟨by simp [isEntryCode, h0], by simp only [infer, h0, h1, Bool.false_eq_true, if_false, hsf, hcur, hpend]⟩

theorem entryCode_cells {id : Nat} {cells : List VCell} (he : EncList (entryCode id) cells) :
    ∃ a, cells = [.opcode .pushImm, .argc 0, .opcode .movImm, .ptr a, .acc, .opcode .callAcc, .opcode .halt] := by
  obtain ⟨_, _, rfl, rfl, h1⟩ := encList_cons he
  obtain ⟨_, _, rfl, rfl, h2⟩ := encList_cons h1
  obtain ⟨_, _, rfl, rfl, h3⟩ := encList_cons h2
  obtain ⟨_, _, rfl, ⟨a, rfl⟩, h4⟩ := encList_cons h3
  obtain ⟨_, _, rfl, rfl, h5⟩ := encList_cons h4
  obtain ⟨_, _, rfl, rfl, h6⟩ := encList_cons h5
  obtain ⟨_, _, rfl, rfl, h7⟩ := encList_cons h6
  exact ⟨a, by rw [encList_nil h7]⟩

/-- the forward pass is evaluated; the local check follows from `infer_checkAll` -/
theorem entry_verify {id : Nat} {cells : List VCell} (he : EncList (entryCode id) cells) :
    ∃ t h, verify cells = .ok (t, h) ∧ t.entry = true := by
  obtain ⟨a, rfl⟩ := entryCode_cells he
  exact ⟨_, _, verify_of_infer rfl, rfl⟩

end Marwood.Vm.Verify
