import Marwood.Lemmas.NumArith
import Marwood.Lemmas.NumExt
import Marwood.Num.Cmp
/-!
# The comparison model computes the order of the values (ℚ ∪ {±∞})

`partial_cmp`, `==`, the four order relations, `num_comp` (T09.1 – T09.3) and the `min`/`max` loops (T09.4),
each against `cmpExt` / `Ext.lt` on the values (the order facts are in NumExt).
-/
namespace Marwood.Cmp
open Marwood Marwood.Arith Marwood.NumSpec

def cmpExt (x y : Ext) : Ordering := if Ext.lt x y then .lt else if x = y then .eq else .gt

theorem cmpExt_of_lt {x y : Ext} (h : Ext.lt x y = true) : cmpExt x y = .lt := if_pos h

theorem cmpExt_self (x : Ext) : cmpExt x x = .eq := by
  unfold cmpExt
  rw [Ext.lt_irrefl, if_neg Bool.false_ne_true, if_pos rfl]

theorem cmpExt_of_gt {x y : Ext} (h : Ext.lt y x = true) : cmpExt x y = .gt := by
  unfold cmpExt
  rw [Ext.lt_asymm h, if_neg Bool.false_ne_true, if_neg (Ext.ne_of_lt h).symm]

theorem cmpExt_rev (x y : Ext) : Ordering.rev (cmpExt x y) = cmpExt y x := by
  rcases Ext.trichotomy x y with h | h | h
  · rw [cmpExt_of_lt h, cmpExt_of_gt h]; rfl
  · subst h; rw [cmpExt_self]; rfl
  · rw [cmpExt_of_gt h, cmpExt_of_lt h]; rfl

theorem cmpExt_beq_lt (x y : Ext) : (cmpExt x y == .lt) = Ext.lt x y := by
  rcases Ext.trichotomy x y with h | h | h
  · rw [cmpExt_of_lt h, h]; rfl
  · subst h; rw [cmpExt_self, Ext.lt_irrefl]; rfl
  · rw [cmpExt_of_gt h, Ext.lt_asymm h]; rfl

theorem cmpExt_beq_gt (x y : Ext) : (cmpExt x y == .gt) = Ext.lt y x := by
  rw [← cmpExt_beq_lt y x, ← cmpExt_rev x y]
  cases cmpExt x y <;> rfl

theorem cmpExt_beq_eq (x y : Ext) : (cmpExt x y == .eq) = (x == y) := by
  rcases Ext.trichotomy x y with h | h | h
  · rw [cmpExt_of_lt h, (beq_eq_false_iff_ne (a := x)).mpr (Ext.ne_of_lt h)]; rfl
  · subst h; rw [cmpExt_self]; exact (beq_self_eq_true x).symm
  · rw [cmpExt_of_gt h, (beq_eq_false_iff_ne (a := x)).mpr (Ext.ne_of_lt h).symm]; rfl

theorem cmpExt_fin (a b : Rat) : cmpExt (.fin a) (.fin b) = Fl.cmpRat a b := by
  unfold cmpExt Fl.cmpRat
  by_cases h : a < b
  · simp [Ext.lt, h]
  · by_cases he : a = b
    · simp [Ext.lt, he]
    · simp [Ext.lt, h, he]

theorem finite_of_not_nan_inf {f : F64} (h1 : Fl.isNaN f = false) (h2 : Fl.isInf f = false) :
    Fl.isFinite f = true := by
  unfold Fl.isNaN at h1; unfold Fl.isInf at h2; unfold Fl.isFinite
  by_cases he : Fl.expField f = 2047
  · by_cases hm : Fl.mantField f = 0 <;> simp_all
  · simp [he]

def clsExt : Fl.Cls → Option Ext
  | .nan => none
  | .inf s => some (if s then .ninf else .pinf)
  | .fin s m => some (.fin (Fl.sgn s m))

theorem ext_flo (f : F64) : ext (.flo f) = clsExt (Fl.classify f) := by
  simp only [Fl.classify, ext]
  by_cases h1 : Fl.isNaN f = true
  · rw [if_pos h1, if_pos h1]; rfl
  · rw [if_neg h1, if_neg h1]
    by_cases h2 : Fl.isInf f = true
    · rw [if_pos h2, if_pos h2]; rfl
    · rw [if_neg h2, if_neg h2, Fl.toRat?,
        finite_of_not_nan_inf (by simpa using h1) (by simpa using h2)]
      rfl

theorem flo_partialCmp {f g : F64} {x y : Ext} (hx : ext (.flo f) = some x)
    (hy : ext (.flo g) = some y) : Fl.partialCmp f g = some (cmpExt x y) := by
  unfold Fl.partialCmp
  rw [ext_flo] at hx hy
  generalize Fl.classify f = c at hx ⊢
  generalize Fl.classify g = c' at hy ⊢
  rcases c with _ | s | ⟨s, m⟩ <;> rcases c' with _ | t | ⟨t, m'⟩
  case nan.nan | nan.inf | nan.fin => cases hx
  case inf.nan | fin.nan => cases hy
  case inf.inf => cases hx; cases hy; cases s <;> cases t <;> rfl
  case inf.fin => cases hx; cases hy; cases s <;> rfl
  case fin.inf => cases hx; cases hy; cases t <;> rfl
  case fin.fin => cases hx; cases hy; exact congrArg some (cmpExt_fin _ _).symm

theorem exactRat_val {a : Num} (ha : a.WF = true) (he : isExact a = true) :
    ∃ q, exactRat a = some q ∧ ext a = some (.fin q) := by
  cases a with
  | fix n => exact ⟨n, rfl, rfl⟩
  | big n => exact ⟨n, rfl, rfl⟩
  | rat n d =>
    exact ⟨mkRat n d.toNat, rfl, by rw [mkRat_toNat (wf_rat_pos ha)]; rfl⟩
  | flo f => simp [isExact] at he

theorem exactCmpF64_spec {a : Num} {f : F64} (ha : a.WF = true) (he : isExact a = true)
    {x y : Ext} (hx : ext a = some x) (hy : ext (.flo f) = some y) :
    exactCmpF64 a f = some (cmpExt x y) := by
  obtain ⟨q, hq, hv⟩ := exactRat_val ha he
  rw [hv] at hx; cases hx
  unfold exactCmpF64
  rw [hq]
  rw [ext_flo] at hy
  generalize Fl.classify f = c at hy ⊢
  rcases c with _ | s | ⟨s, m⟩
  · cases hy
  · cases hy; cases s <;> rfl
  · cases hy; exact congrArg some (cmpExt_fin _ _).symm

theorem cmpInt_eq_cmpExt {l r : Int} {x y : Ext} (hlt : l < r ↔ Ext.lt x y = true)
    (heq : l = r ↔ x = y) : cmpInt l r = cmpExt x y := by
  unfold cmpInt cmpExt
  simp only [beq_iff_eq, hlt, heq]

theorem cmpInt_spec (l r : Int) : cmpInt l r = cmpExt (.fin l) (.fin r) :=
  cmpInt_eq_cmpExt (by simp [Ext.lt]) (by simp)

theorem ratioCmp_spec (n d n' d' : Int) (hd : 0 < d) (hd' : 0 < d') :
    ratioCmp (n, d) (n', d') = cmpExt (.fin ((n : Rat) / d)) (.fin ((n' : Rat) / d')) := by
  have hq : (0 : Rat) < d := by exact_mod_cast hd
  have hq' : (0 : Rat) < d' := by exact_mod_cast hd'
  refine cmpInt_eq_cmpExt (l := n * d') (r := n' * d) ?_ ?_
  · rw [Ext.lt, decide_eq_true_iff, div_lt_div_iff₀ hq hq']
    exact_mod_cast Iff.rfl
  · rw [Ext.fin.injEq, div_eq_div_iff hq.ne' hq'.ne']
    exact_mod_cast Iff.rfl

theorem cmpInt_of_lt {a b : Int} (h : a < b) : cmpInt a b = .lt := if_pos h

theorem cmpInt_of_gt {a b : Int} (h : b < a) : cmpInt a b = .gt := by
  unfold cmpInt
  rw [if_neg (by omega), if_neg (by simp; omega)]

theorem cmpInt_swap (a b : Int) : cmpInt a b = Ordering.rev (cmpInt b a) := by
  rcases Int.lt_trichotomy a b with h | h | h
  · rw [cmpInt_of_lt h, cmpInt_of_gt h]; rfl
  · subst h; simp [cmpInt, Ordering.rev]
  · rw [cmpInt_of_gt h, cmpInt_of_lt h]; rfl

/-- an integer outside i32 lies beyond every 32-bit ratio, on the side of its sign -/
theorem wide_vs_rat {l n d : Int} (hl : inI32 l = false) (h : (Num.rat n d).WF = true) :
    cmpInt l 0 = ratioCmp (l, 1) (n, d) := by
  have hd := wf_rat_pos h
  have hn := (inI32_iff n).mp (wf_rat_i32 h).1
  have hl' : ¬ (-2147483648 ≤ l ∧ l ≤ 2147483647) := by
    intro hh; rw [(inI32_iff l).mpr hh] at hl; cases hl
  show cmpInt l 0 = cmpInt (l * d) (n * 1)
  rcases lt_or_ge l 0 with hneg | hpos
  · have := Int.mul_le_mul_of_nonpos_left hneg.le hd
    rw [cmpInt_of_lt hneg, cmpInt_of_lt (by omega)]
  · have := Int.mul_le_mul_of_nonneg_left hd hpos
    rw [cmpInt_of_gt (by omega), cmpInt_of_gt (by omega)]

theorem ext_fix (l : Int) : ext (.fix l) = some (.fin (l : Rat)) := rfl
theorem ext_big (l : Int) : ext (.big l) = some (.fin (l : Rat)) := rfl
theorem ext_rat (n d : Int) : ext (.rat n d) = some (.fin ((n : Rat) / d)) := rfl

theorem div_one_cast (l : Int) : (l : Rat) / ((1 : Int) : Rat) = l := by simp

theorem int_vs_rat {l n d : Int} (h : (Num.rat n d).WF = true) :
    (if inI32 l then ratioCmp (l, 1) (n, d) else cmpInt l 0)
      = cmpExt (.fin l) (.fin ((n : Rat) / d)) := by
  rw [← div_one_cast l, ← ratioCmp_spec l 1 n d (by decide) (wf_rat_pos h)]
  by_cases hi : inI32 l = true
  · rw [if_pos hi]
  · rw [if_neg hi, wide_vs_rat (by simpa using hi) h]

theorem rat_vs_int {l n d : Int} (h : (Num.rat n d).WF = true) :
    (if inI32 l then ratioCmp (n, d) (l, 1) else cmpInt 0 l)
      = cmpExt (.fin ((n : Rat) / d)) (.fin l) := by
  rw [← cmpExt_rev, ← int_vs_rat h, cmpInt_swap 0 l]
  by_cases hi : inI32 l = true
  · rw [if_pos hi, if_pos hi]
    exact cmpInt_swap _ _
  · rw [if_neg hi, if_neg hi]

/-- T09.2 -/
theorem partialCmp_spec (a b : Num) (ha : a.WF = true) (hb : b.WF = true) {x y : Ext}
    (hx : ext a = some x) (hy : ext b = some y) : partialCmp a b = some (cmpExt x y) := by
  cases a <;> cases b
  case fix.fix l r | fix.big l r | big.fix l r | big.big l r =>
    cases hx; cases hy; exact congrArg some (cmpInt_spec l r)
  case fix.rat l n d | big.rat l n d => cases hx; cases hy; exact congrArg some (int_vs_rat hb)
  case rat.fix n d r | rat.big n d r => cases hx; cases hy; exact congrArg some (rat_vs_int ha)
  case rat.rat n d n' d' =>
    cases hx; cases hy
    exact congrArg some (ratioCmp_spec n d n' d' (wf_rat_pos ha) (wf_rat_pos hb))
  case flo.flo f g => exact flo_partialCmp hx hy
  case flo.fix f r | flo.big f r | flo.rat f n d =>
    show (exactCmpF64 _ f).map Ordering.rev = _
    rw [exactCmpF64_spec hb rfl hy hx]
    exact congrArg some (cmpExt_rev y x)
  case fix.flo l g | big.flo l g | rat.flo n d g => exact exactCmpF64_spec ha rfl hx hy

theorem cmpInt_beq (l r : Int) : (cmpInt l r == .eq) = (l == r) := by
  unfold cmpInt
  by_cases h : l < r
  · rw [if_pos h, (beq_eq_false_iff_ne (a := l)).mpr (by omega)]; rfl
  · rw [if_neg h]
    cases l == r <;> rfl

theorem ratioCmp_beq_comm (p q : Ratio) : (ratioCmp p q == .eq) = (ratioCmp q p == .eq) := by
  show (cmpInt _ _ == .eq) = (cmpInt _ _ == .eq)
  rw [cmpInt_beq, cmpInt_beq, Bool.beq_comm]

theorem rev_beq (o : Option Ordering) : (o.map Ordering.rev == some .eq) = (o == some .eq) := by
  rcases o with _ | o
  · rfl
  · cases o <;> rfl

/-- `==` refuses an integer outside i32 against a ratio, `partial_cmp` orders it by sign: it is not 0 -/
theorem narrow_beq (l : Int) (o : Ordering) :
    (inI32 l && o == .eq) = ((if inI32 l then o else cmpInt l 0) == .eq) := by
  by_cases hi : inI32 l = true
  · rw [hi, if_pos rfl, Bool.true_and]
  · have h0 : ¬ l = 0 := fun h => hi (h ▸ rfl)
    rw [if_neg hi, Bool.eq_false_iff.mpr hi, cmpInt_beq, Bool.false_and]
    exact ((beq_eq_false_iff_ne (a := l)).mpr h0).symm

theorem narrow_beq' (l : Int) (o : Ordering) :
    (inI32 l && o == .eq) = ((if inI32 l then o else cmpInt 0 l) == .eq) := by
  rw [narrow_beq, cmpInt_swap l 0]
  cases inI32 l
  · cases cmpInt 0 l <;> rfl
  · rfl

theorem eq_partialCmp (a b : Num) : Cmp.eq a b = (partialCmp a b == some .eq) := by
  cases a <;> cases b
  case fix.fix l r | fix.big l r | big.fix l r | big.big l r => exact (cmpInt_beq l r).symm
  case fix.rat l n d | big.rat l n d => exact narrow_beq l _
  case rat.fix n d r =>
    show (inI32 r && ratioCmp (r, 1) (n, d) == .eq) = _
    rw [ratioCmp_beq_comm]
    exact narrow_beq' r _
  case rat.big n d r => exact narrow_beq' r _
  case rat.rat | flo.flo | fix.flo | big.flo | rat.flo => rfl
  case flo.fix | flo.big | flo.rat => exact (rev_beq _).symm

theorem eq_spec' (a b : Num) (ha : a.WF = true) (hb : b.WF = true) {x y : Ext}
    (hx : ext a = some x) (hy : ext b = some y) : Cmp.eq a b = (x == y) := by
  rw [eq_partialCmp, partialCmp_spec a b ha hb hx hy]
  exact cmpExt_beq_eq x y

/-- T09.1 -/
theorem eq_spec (a b : Num) (ha : a.WF = true) (hb : b.WF = true) {x y : Ext}
    (hx : ext a = some x) (hy : ext b = some y) : Cmp.eq a b = true ↔ x = y := by
  rw [eq_spec' a b ha hb hx hy, beq_iff_eq]

theorem lt_spec (a b : Num) (ha : a.WF = true) (hb : b.WF = true) {x y : Ext}
    (hx : ext a = some x) (hy : ext b = some y) : Cmp.lt a b = Ext.lt x y := by
  unfold Cmp.lt
  rw [partialCmp_spec a b ha hb hx hy]
  exact cmpExt_beq_lt x y

theorem gt_spec (a b : Num) (ha : a.WF = true) (hb : b.WF = true) {x y : Ext}
    (hx : ext a = some x) (hy : ext b = some y) : Cmp.gt a b = Ext.lt y x := by
  unfold Cmp.gt
  rw [partialCmp_spec a b ha hb hx hy]
  exact cmpExt_beq_gt x y

theorem le_spec (a b : Num) (ha : a.WF = true) (hb : b.WF = true) {x y : Ext}
    (hx : ext a = some x) (hy : ext b = some y) : Cmp.le a b = Ext.le x y := by
  unfold Cmp.le
  rw [partialCmp_spec a b ha hb hx hy, Ext.le_eq_not_lt, ← cmpExt_beq_gt]
  cases cmpExt x y <;> rfl

theorem ge_spec (a b : Num) (ha : a.WF = true) (hb : b.WF = true) {x y : Ext}
    (hx : ext a = some x) (hy : ext b = some y) : Cmp.ge a b = Ext.le y x := by
  unfold Cmp.ge
  rw [partialCmp_spec a b ha hb hx hy, Ext.le_eq_not_lt, ← cmpExt_beq_lt]
  cases cmpExt x y <;> rfl

/-- the relations are tests on the answer of `partial_cmp` (`==` by `eq_partialCmp`): no `WF` needed -/
theorem trichotomy_of_cmp {a b : Num} {o : Ordering} (h : partialCmp a b = some o) :
    (Cmp.lt a b = true ∧ Cmp.eq a b = false ∧ Cmp.gt a b = false) ∨
    (Cmp.lt a b = false ∧ Cmp.eq a b = true ∧ Cmp.gt a b = false) ∨
    (Cmp.lt a b = false ∧ Cmp.eq a b = false ∧ Cmp.gt a b = true) := by
  unfold Cmp.lt Cmp.gt
  rw [eq_partialCmp, h]
  cases o
  · exact .inl ⟨rfl, rfl, rfl⟩
  · exact .inr (.inl ⟨rfl, rfl, rfl⟩)
  · exact .inr (.inr ⟨rfl, rfl, rfl⟩)

theorem le_ge_of_cmp {a b : Num} {o : Ordering} (h : partialCmp a b = some o) :
    Cmp.le a b = (Cmp.eq a b || Cmp.lt a b) ∧ Cmp.ge a b = (Cmp.eq a b || Cmp.gt a b) := by
  unfold Cmp.lt Cmp.gt Cmp.le Cmp.ge
  rw [eq_partialCmp, h]
  cases o <;> exact ⟨rfl, rfl⟩

def adjAll (comp : Num → Num → Bool) : List Num → Bool
  | a :: b :: rest => comp a b && adjAll comp (b :: rest)
  | _ => true

theorem numCompLoop_false (comp : Num → Num → Bool) (y : Num) (rest : List Num) :
    numCompLoop comp y rest false = false := by
  induction rest generalizing y with
  | nil => rfl
  | cons x r ih => simp only [numCompLoop]; split <;> exact ih _

theorem adjAll_snoc2 (comp : Num → Num → Bool) (l : List Num) (x y : Num) :
    adjAll comp (l ++ [x, y]) = (adjAll comp (l ++ [x]) && comp x y) := by
  induction l with
  | nil => simp [adjAll]
  | cons a l' ih =>
    cases l' with
    | nil => simp [adjAll]
    | cons b l'' =>
      simp only [List.cons_append, adjAll] at ih ⊢
      rw [ih, Bool.and_assoc]

theorem numCompLoop_true (comp : Num → Num → Bool) (y : Num) (rest : List Num) :
    numCompLoop comp y rest true = adjAll comp (rest.reverse ++ [y]) := by
  induction rest generalizing y with
  | nil => rfl
  | cons x r ih =>
    simp only [numCompLoop, List.reverse_cons, List.append_assoc, List.cons_append, List.nil_append]
    rw [adjAll_snoc2]
    by_cases h : comp x y = true
    · rw [if_pos h, ih, h, Bool.and_true]
    · rw [if_neg h, numCompLoop_false]
      simp only [Bool.not_eq_true] at h
      rw [h, Bool.and_false]

/-- T09.3 -/
theorem numComp_adj (comp : Num → Num → Bool) (a : Num) (rest : List Num) :
    numComp comp (a :: rest) = .ok (adjAll comp (a :: rest)) := by
  unfold numComp
  cases h : (a :: rest).reverse with
  | nil => simp at h
  | cons y r =>
    simp only
    rw [numCompLoop_true]
    have : r.reverse ++ [y] = a :: rest := by
      have := congrArg List.reverse h
      simpa using this.symm
    rw [this]

theorem adjAll_chain (comp : Num → Num → Bool) (rel : Ext → Ext → Bool)
    (h : ∀ a b x y, a.WF = true → b.WF = true → ext a = some x → ext b = some y → comp a b = rel x y) :
    ∀ (args : List Num) (xs : List Ext), (∀ a ∈ args, a.WF = true) →
      List.Forall₂ (fun a x => ext a = some x) args xs → adjAll comp args = chain rel xs := by
  intro args
  induction args with
  | nil => intro xs _ hf; cases hf; rfl
  | cons a rest ih =>
    intro xs hw hf
    cases hf with
    | cons hax hrest =>
      rename_i x xs'
      cases rest with
      | nil => cases hrest; rfl
      | cons b rest' =>
        cases hrest with
        | cons hby hrest' =>
          rename_i y ys
          simp only [adjAll, chain]
          rw [h a b x y (hw a (by simp)) (hw b (by simp)) hax hby]
          rw [ih (y :: ys) (fun c hc => hw c (List.mem_cons_of_mem _ hc)) (List.Forall₂.cons hby hrest')]

/-- a loop that replaces its candidate by each element that beats it ends on an element nothing beats;
    `minLoop`, `maxLoop` are the instances -/
theorem selLoop_spec {α β : Type} {loop : α → List α → α} {c : α → α → Bool}
    {rel : β → β → Bool} {e : α → β} {P : α → Prop}
    (hnil : ∀ r, loop r [] = r)
    (hcons : ∀ r x xs, loop r (x :: xs) = loop (if c x r = true then x else r) xs)
    (hirr : ∀ x, rel x x = false) (hasym : ∀ {x y}, rel x y = true → rel y x = false)
    (htr : ∀ {x y z}, rel x y = false → rel y z = false → rel x z = false)
    (hc : ∀ x r, P x → P r → c x r = rel (e x) (e r))
    (res : α) (xs : List α) (hP : ∀ a ∈ res :: xs, P a) :
    loop res xs ∈ res :: xs ∧ ∀ a ∈ res :: xs, rel (e a) (e (loop res xs)) = false := by
  induction xs generalizing res with
  | nil =>
    rw [hnil]
    refine ⟨List.mem_singleton_self _, fun a ha => ?_⟩
    rw [List.mem_singleton.mp ha]
    exact hirr _
  | cons x xs ih =>
    rw [hcons]
    have hx := hP x (by simp)
    have hr := hP res (by simp)
    -- the next candidate is `x` or `res`, and neither of the two beats it
    obtain ⟨r', hr', hmem, h1, h2⟩ : ∃ r', (if c x res = true then x else res) = r' ∧
        (r' = x ∨ r' = res) ∧ rel (e res) (e r') = false ∧ rel (e x) (e r') = false := by
      by_cases h : c x res = true
      · rw [if_pos h]
        rw [hc x res hx hr] at h
        exact ⟨x, rfl, .inl rfl, hasym h, hirr _⟩
      · rw [if_neg h]
        rw [hc x res hx hr, Bool.not_eq_true] at h
        exact ⟨res, rfl, .inr rfl, hirr _, h⟩
    rw [hr']
    have hsub : ∀ a ∈ r' :: xs, a ∈ res :: x :: xs := by
      intro a ha
      rcases List.mem_cons.mp ha with h | h
      · rcases hmem with h' | h' <;> simp [h, h']
      · simp [h]
    obtain ⟨hm, hall⟩ := ih r' (fun a ha => hP a (hsub a ha))
    refine ⟨hsub _ hm, fun a ha => ?_⟩
    have hr'm := hall r' (by simp)
    rcases List.mem_cons.mp ha with h | h
    · rw [h]; exact htr h1 hr'm
    · rcases List.mem_cons.mp h with h | h
      · rw [h]; exact htr h2 hr'm
      · exact hall a (List.mem_cons_of_mem _ h)

theorem minLoop_spec (e : Num → Ext) (res : Num) (xs : List Num)
    (hw : ∀ a ∈ res :: xs, a.WF = true) (he : ∀ a ∈ res :: xs, ext a = some (e a)) :
    minLoop res xs ∈ res :: xs ∧ ∀ a ∈ res :: xs, Ext.lt (e a) (e (minLoop res xs)) = false :=
  selLoop_spec (rel := Ext.lt) (P := fun a => a.WF = true ∧ ext a = some (e a))
    (fun _ => rfl) (fun _ _ _ => rfl) Ext.lt_irrefl Ext.lt_asymm Ext.not_lt_trans
    (fun x r hx hr => lt_spec x r hx.1 hr.1 hx.2 hr.2) res xs (fun a ha => ⟨hw a ha, he a ha⟩)

theorem maxLoop_spec (e : Num → Ext) (res : Num) (xs : List Num)
    (hw : ∀ a ∈ res :: xs, a.WF = true) (he : ∀ a ∈ res :: xs, ext a = some (e a)) :
    maxLoop res xs ∈ res :: xs ∧ ∀ a ∈ res :: xs, Ext.lt (e (maxLoop res xs)) (e a) = false :=
  selLoop_spec (rel := fun x y => Ext.lt y x) (P := fun a => a.WF = true ∧ ext a = some (e a))
    (fun _ => rfl) (fun _ _ _ => rfl) Ext.lt_irrefl Ext.lt_asymm
    (fun h1 h2 => Ext.not_lt_trans h2 h1)
    (fun x r hx hr => gt_spec x r hx.1 hr.1 hx.2 hr.2) res xs (fun a ha => ⟨hw a ha, he a ha⟩)

end Marwood.Cmp
