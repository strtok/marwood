import Marwood.Lemmas.GoodMain
import Marwood.Lemmas.PolicyPlain
import Marwood.Lemmas.PolicyWF
import Marwood.Lemmas.NoPanicPath
import Marwood.Lemmas.MachineAllocRel
/-!
# C12 at machine level: the per-snapshot hypotheses of T12.1 are consequences of the invariant `GoodI`

`Proofs/C12.lean` proves "allocated after `run_gc` ⇔ live" under `plainHeap`, `plainRoots` and the size facts of
`WFHeap`. For the erasure of a state of the concrete machine: every inline value is plain (`plainV_eraseV`), a heap
cell holding a flat value is plain by `Plain.cells`, a global slot is a pointer or address-free by `Plain.globals`.
What is **not** part of `GoodI` is the decoding discipline of bytecode (`CodePlain`: an operand cell is never an
opcode). Code objects are immutable and produced only by the unmodelled compiler; it is the one named hypothesis,
checked per snapshot by the `policy-collect` stream, and `codePlain_reaches` shows that it is an invariant if the
unmodelled operations keep it (`ExtCodePlain`).

`step_rel` (first section, generic in the heap): a reflexive transitive relation on heaps respected by every
state-changing field of `HeapOps` (`OpsRel`) is respected by one instruction (`step_hpath`, `HPath.rel`).
Also `forced_gc_collects`: on a well-formed heap a forced `run_gc` always collects.
-/

namespace Marwood.Vm

variable {H : Type} {ops : HeapOps H} {R : H → H → Prop}

structure OpsRel (ops : HeapOps H) (R : H → H → Prop) : Prop where
  refl : ∀ h, R h h
  trans : ∀ {a b c}, R a b → R b c → R a c
  put : ∀ h v, R h (ops.put h v).1
  maybePut : ∀ h v, R h (ops.maybePut h v).1
  setAt : ∀ h p v, R h (ops.setAt h p v)
  newCont : ∀ h c, R h (ops.newCont h c).1
  globPut : ∀ h n v, R h (ops.globPut h n v)
  envPut : ∀ {h e k v h'}, ops.envPut h e k v = some h' → R h h'
  makeClosure : ∀ {h lam ep bp st h' c}, ops.makeClosure h lam ep bp st = .ok (h', c) → R h h'
  makeActivation : ∀ {h lam env bp st h' e}, ops.makeActivation h lam env bp st = .ok (h', e) → R h h'
  vectorPush : ∀ {h vec v h'}, ops.vectorPush h vec v = .ok h' → R h h'
  builtinEval : ∀ {h id args h' v}, ops.builtinEval h id args = .ok (h', v) → R h h'
  compileEval : ∀ {h v h' lam}, ops.compileEval h v = .ok (h', lam) → R h h'

theorem OpsRel.put' (o : OpsRel ops R) {h h' : H} {v r : VCell} (e : ops.put h v = (h', r)) : R h h' := by
  have := o.put h v; rw [e] at this; exact this

theorem OpsRel.maybePut' (o : OpsRel ops R) {h h' : H} {v r : VCell} (e : ops.maybePut h v = (h', r)) : R h h' := by
  have := o.maybePut h v; rw [e] at this; exact this

theorem OpsRel.newCont' (o : OpsRel ops R) {h h' : H} {c : Cont} {r : VCell} (e : ops.newCont h c = (h', r)) :
    R h h' := by
  have := o.newCont h c; rw [e] at this; exact this

theorem restoreCont_heap {s s' : St H} {c : Cont} (h : restoreCont s c = .ok s') : s'.heap = s.heap := by
  unfold restoreCont at h
  obtain ⟨st, _, h⟩ := bind_inv h
  cases h; rfl

theorem HPath.rel (o : OpsRel ops R) {n : Nat} {h h' : H} (p : HPath ops n h h') : R h h' := by
  induction p with
  | refl => exact o.refl _
  | step _ hs ih =>
    refine o.trans ih ?_
    cases hs with
    | put => exact o.put _ _
    | maybePut => exact o.maybePut _ _
    | globPut => exact o.globPut _ _ _
    | envPut e => exact o.envPut e
    | makeClosure e => exact o.makeClosure e
    | makeActivation e => exact o.makeActivation e
    | vectorPush e => exact o.vectorPush e
    | builtinEval e => exact o.builtinEval e
    | compileEval e => exact o.compileEval e
  | setAt p v _ ih => exact o.trans ih (o.setAt _ p v)
  | newCont c _ _ ih => exact o.trans ih (o.newCont _ c)

theorem step_rel (o : OpsRel ops R) {s s' : St H} {b : Bool} (h : step ops s = .ok (s', b)) : R s.heap s'.heap :=
  (step_hpath h).rel o

end Marwood.Vm

namespace Marwood.Lemmas.MachineGarbage
open Marwood Marwood.Vm Marwood.Vm.Concrete Marwood.Lemmas.Sim Marwood.Lemmas.Good
open Marwood.Heap (GcState WFHeap RootsOk vrefs vrefsList crefs Roots)
open Marwood.Spec
open Marwood.Lemmas.GcSafety Marwood.Lemmas.HeapWF Marwood.Lemmas.HeapOps Marwood.Lemmas.PolicyWF

theorem plainV_eraseV (v : VCell) : plainV (eraseV v) = true := by
  cases v with
  | «opaque» tag => simp only [eraseV]; split <;> simp [plainV]
  | _ => simp [eraseV, plainV]

theorem plainVs_eraseV (l : List VCell) : plainVs (l.map eraseV) = true := by
  induction l with
  | nil => simp [plainVs]
  | cons v vs ih => simp [plainVs, plainV_eraseV, ih]

/-- the decoding discipline of code objects: an operand cell is never an opcode -/
def CodePlain (h : CHeap) : Prop :=
  ∀ (i : Nat) (l : CLambda), h.cells[i]? = some (CCell.lambda l) → plainBc 0 (l.bc.map eraseV) = true

theorem plainC_eraseV {v : VCell} (hp : plainVal v = true) : plainC (eraseV v) = true := by
  cases v with
  | «opaque» tag => simp only [eraseV]; split <;> simp [plainC, plainV]
  | lexEnvPtr _ _ | instrPtr _ _ => simp [plainVal] at hp
  | _ => simp [eraseV, plainC, plainV]

theorem plainC_eraseC {h : CHeap} (pl : Plain h) (cp : CodePlain h) {i : Nat} {c : CCell}
    (hc : h.cells[i]? = some c) : plainC (eraseC c) = true := by
  cases c with
  | val v => exact plainC_eraseV (pl.cells i v hc)
  | lexEnv ss => simp [eraseC, plainC, plainVs_eraseV]
  | vector es => simp [eraseC, plainC, plainV, plainVs_eraseV]
  | lambda l =>
    have h1 := cp i l hc
    have h2 := plainVs_eraseV l.args
    have h3 : plainVs (l.envmap.map fun p => eraseV p.1) = true := by
      have := plainVs_eraseV (l.envmap.map (·.1))
      rw [List.map_map] at this
      exact this
    simp [eraseC, plainC, plainV, h1, h2, h3]
  | cont k => simp [eraseC, plainC, plainV, plainVs_eraseV]

theorem plainHeap_toHeap {h : CHeap} (pl : Plain h) (cp : CodePlain h) : plainHeap (toHeap h) = true := by
  unfold plainHeap
  rw [List.all_eq_true]
  intro c hc
  have hm : c ∈ (toHeap h).cells := Array.mem_toList_iff.mp hc
  simp only [toHeap, Array.mem_map] at hm
  obtain ⟨c0, hc0, rfl⟩ := hm
  obtain ⟨i, hi, rfl⟩ := Array.mem_iff_getElem.mp hc0
  exact plainC_eraseC pl cp (i := i) (by simp [hi])

theorem srefs_addrFree {v : VCell} (hf : addrFree v = true) : srefs (eraseV v) = [] := by
  cases v with
  | «opaque» tag => simp only [eraseV]; split <;> simp [srefs]
  | pair _ _ | closure _ _ | lexEnvPtr _ _ | envPtr _ | instrPtr _ _ | ptr _ => simp [addrFree] at hf
  | _ => simp [eraseV, srefs]

theorem plainSlot_eraseV {v : VCell} (hp : plainGlob v = true) : plainSlot (eraseV v) = true := by
  rcases plainGlob_cases hp with ⟨a, rfl⟩ | hf
  · simp [eraseV, plainSlot]
  · have h0 := srefs_addrFree hf
    unfold plainSlot
    split
    · rfl
    · simp [h0]

theorem plainRoots_rootsOf {s : St CHeap} (pl : Plain s.heap) : plainRoots (rootsOf s) = true := by
  simp only [plainRoots, rootsOf, Bool.and_eq_true, plainVs_eraseV, plainV_eraseV, and_true]
  rw [List.all_eq_true]
  intro c hc
  obtain ⟨v, hv, rfl⟩ := List.mem_map.mp hc
  exact plainSlot_eraseV (pl.globals v hv)


def LamSub (h h' : CHeap) : Prop :=
  ∀ (i : Nat) (l : CLambda), h'.cells[i]? = some (CCell.lambda l) → h.cells[i]? = some (CCell.lambda l)

theorem LamSub.refl (h : CHeap) : LamSub h h := fun _ _ x => x

theorem LamSub.trans {a b c : CHeap} (x : LamSub a b) (y : LamSub b c) : LamSub a c :=
  fun i l hc => x i l (y i l hc)

theorem LamSub.of_cells {h h' : CHeap} (e : h'.cells = h.cells) : LamSub h h' := by
  intro i l hc; rw [e] at hc; exact hc

theorem LamSub.codePlain {h h' : CHeap} (x : LamSub h h') (cp : CodePlain h) : CodePlain h' :=
  fun i l hc => cp i l (x i l hc)

theorem calloc_lamSub (h : CHeap) : LamSub h (calloc h).1 := by
  intro i l hc
  by_cases hl : i < h.cells.size
  · rw [← (calloc_allocd h).cells_old i hl]; exact hc
  · cases (calloc_allocd h).cells_new i _ (by omega) hc

theorem cwrite_lamSub (h : CHeap) (p : Nat) {c : CCell} (hc : ∀ l, c ≠ CCell.lambda l) : LamSub h (cwrite h p c) := by
  intro i l hl
  rw [cwrite_get] at hl
  split at hl
  · cases hl; exact absurd rfl (hc l)
  · exact hl

theorem cput_lamSub (h : CHeap) {c : CCell} (hc : ∀ l, c ≠ CCell.lambda l) : LamSub h (cput h c).1 := by
  unfold cput
  exact (calloc_lamSub h).trans (cwrite_lamSub _ _ hc)

/-- no modelled heap operation creates a code object -/
theorem lamSub_rel : AllocRel fun h h' _ => LamSub h h' where
  refl := .refl
  trans := .trans
  mono x _ := x
  cputVal h _ := cput_lamSub h (by intro l e; cases e)
  cputEnv h _ := cput_lamSub h (by intro l e; cases e)
  envWrite _ _ := cwrite_lamSub _ _ (by intro l e; cases e)
  symtab _ _ := .of_cells rfl

theorem putNew_lamSub (h : CHeap) (v : VCell) : LamSub h (putNew h v).1 := lamSub_rel.putNew h v

theorem putV_lamSub (h : CHeap) (v : VCell) : LamSub h (putV h v).1 := lamSub_rel.putV h v

/-- the law of the unmodelled operations for the decoding discipline (builtins never build code; the compiler's output
    is what the `policy-collect` stream checks `plainHeap` on) -/
structure ExtCodePlain (ext : ExtOps) : Prop where
  builtinEval : ∀ {h : CHeap} {id : Nat} {args : List VCell} {h' : CHeap} {v : VCell}, CodePlain h →
    ext.builtinEval h id args = .ok (h', v) → CodePlain h'
  compileEval : ∀ {h : CHeap} {v : VCell} {h' : CHeap} {lam : VCell}, CodePlain h →
    ext.compileEval h v = .ok (h', lam) → CodePlain h'
  vectorPush : ∀ {h : CHeap} {vec v : VCell} {h' : CHeap}, CodePlain h →
    ext.vectorPush h vec v = .ok h' → CodePlain h'

theorem concrete_opsRel {ext : ExtOps} (ecp : ExtCodePlain ext) :
    OpsRel (concreteOps ext) (fun h h' => CodePlain h → CodePlain h') where
  refl _ x := x
  trans x y z := y (x z)
  put h v := (putV_lamSub h v).codePlain
  maybePut h v := (lamSub_rel.maybePutV h v).codePlain
  setAt h p v := (cwrite_lamSub h p (c := .val v) (by intro l e; cases e)).codePlain
  newCont h c := (cput_lamSub h (c := .cont c) (by intro l e; cases e)).codePlain
  globPut h n v := (LamSub.of_cells (h := h) (h' := { h with globals := h.globals.setIfInBounds n v }) rfl).codePlain
  envPut hp := (lamSub_rel.envPut hp).codePlain
  makeClosure hm := (lamSub_rel.makeClosure hm).codePlain
  makeActivation hm := (lamSub_rel.makeActivation hm).codePlain
  vectorPush hv cp := ecp.vectorPush cp hv
  builtinEval hb cp := ecp.builtinEval cp hb
  compileEval hc cp := ecp.compileEval cp hc

theorem codePlain_step {ext : ExtOps} (ecp : ExtCodePlain ext) {s s' : St CHeap} {b : Bool}
    (cp : CodePlain s.heap) (hs : step (concreteOps ext) s = .ok (s', b)) : CodePlain s'.heap :=
  step_rel (concrete_opsRel ecp) hs cp

theorem codePlain_gc (force : Bool) {s : St CHeap} (cp : CodePlain s.heap) : CodePlain (cgc force s).heap := by
  unfold cgc
  split
  · rename_i h' _
    intro i l hc
    refine cp i l ?_
    simp only at hc
    rw [liftGc_cells_get] at hc
    split at hc
    · simp only [Option.some.injEq] at hc
      split at hc
      · cases hc
      · cases hci : s.heap.cells[i]? with
        | none => rw [hci] at hc; cases hc
        | some c0 => rw [hci] at hc; simp only [Option.getD_some] at hc; rw [hc]
    · cases hc
  · exact cp

theorem codePlain_reaches {ext : ExtOps} (force : Bool) (ecp : ExtCodePlain ext) {s0 : St CHeap}
    (cp0 : CodePlain s0.heap) : ∀ s', Reaches (machine ext force) s0 s' → CodePlain s'.heap :=
  Reaches.machine_induct (P := fun s => CodePlain s.heap) cp0 (fun _ _ _ _ ih hst _ => codePlain_step ecp ih hst)
    (fun _ _ ih => codePlain_gc force ih)

theorem usedSize_ok {fixed : Bool} {h : Heap.Heap} (wf : Heap.WFCore fixed h) :
    h.usedSize = .ok (h.capacity - h.freeSize) := by
  unfold Heap.Heap.usedSize
  rw [if_pos]
  exact wf_free_length_le fixed h wf

/-- on a well-formed heap whose roots are allocated, `run_gc` with the forcing hook always ends in `collected`.
    Of `runGc true true` the first `true` is `fixed` (`mark_lambda` skips the operand cell after JMP / JNT:
    `bcRefs` of `Heap/Cell.lean`), the second is `force` (no utilisation test). -/
theorem forced_gc_collects (h : Heap.Heap) (r : Roots) (wf : WFHeap true h) (hr : RootsOk h (r.refs true)) :
    ∃ h', Heap.Heap.runGc true true h r = .ok (.collected h') := by
  obtain ⟨h1, h2, hm, hsw, cs⟩ := collect_spec true h (r.refs true) wf.sizes wf.no_used
  have wf2 := collect_wf true h (r.refs true) h2 wf hr cs
  obtain ⟨h3, hg, _, _⟩ := grow_spec h2 wf2.sizes wf2.shape
  unfold Heap.Heap.runGc
  simp only [usedSize_ok wf.toWFCore, bind, Except.bind, hm, hsw, usedSize_ok wf2.toWFCore, hg,
    Bool.not_true, Bool.false_and, Bool.false_eq_true, if_false]
  split
  · exact ⟨_, rfl⟩
  · exact ⟨_, rfl⟩

end Marwood.Lemmas.MachineGarbage
