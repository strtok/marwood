import Marwood.Lemmas.EvalDerived
/-!
# T01.2, second half: `unless`, `begin`, `and`, `or` with no or one operand
(two or more operands bind `var1`: `or_agrees`, `EvalDerived2.lean`)
-/
namespace Marwood.Spec.Eval.Derived
open Marwood Marwood.Spec.Eval Marwood.Spec.Eval.Prelude

variable (r : Rec) (ρ : Env)

theorem truthy_bool (x : Bool) : truthy (.bool x) = x := by cases x <;> rfl

theorem LeAt.congr_right {α : Type} {st : St} {a b b' : M α} (h : b st = b' st) (h' : LeAt st a b') : LeAt st a b :=
  fun hd => h.trans (h' hd)

theorem not_app_at {β : Type} (v : Val) (K : Val → M β) (st1 : St) (hρ : ρ.lookup k_not = none)
    (hg : st1.globals.lookup k_not = some (.prim .not)) :
    (evalVar k_not ρ >>= fun fv => applyStep r fv [v] >>= K) st1 = K (.bool (!truthy v)) st1 := by
  have h1 : evalVar k_not ρ st1 = .ok (.prim .not) st1 := by
    have hr : reserved k_not = false := by decide
    simp [evalVar, hr, hρ, getGlobal, hg]
  have h2 : applyStep r (.prim .not) [v] = pure (.bool (!truthy v)) := rfl
  show M.bind' (evalVar k_not ρ) (fun fv => M.bind' (applyStep r fv [v]) K) st1 = _
  simp only [M.bind', h1, h2]
  rfl

theorem native_not_app (t : Datum) :
    evalStep r (L [s k_not, t]) ρ = (do
      let v ← r.eval t ρ
      let fv ← r.eval (s k_not) ρ
      r.apply fv [v]) := by
  rw [native_app r ρ (s k_not) [t] (by intro x hx; cases hx; exact kwOf_not), evalArgs_one, M.bind_assoc]
  rfl

/-- `not` has to be the primitive in the state AFTER `t` (which may redefine it), and not shadowed in `ρ` -/
theorem unless_same (t b : Datum) (body : List Datum) (st : St) (hρ : ρ.lookup k_not = none)
    (hnot : ∀ m v st1, (evalN m).eval t ρ st = .ok v st1 → st1.globals.lookup k_not = some (.prim .not)) :
    SameAt 2 (unlessUse t b body) (unlessExp t b body) ρ st := by
  intro n
  cases n with
  | zero => exact ⟨fun h => absurd rfl h, fun h => absurd rfl h⟩
  | succ n =>
    constructor
    · show LeAt st _ _
      rw [evalN_succ_eval, evalN_succ_eval, native_unless, unlessExp, native_if2, evalN_succ_eval,
        native_not_app, M.bind_assoc]
      refine LeAt.bind (Le.at (eval_le_add n 1 t ρ) st) (fun v st1 hv => ?_)
      have hg := hnot n v st1 hv
      refine LeAt.congr_right (b' := if (!truthy v) = true then (evalN (n+2)).eval (L (s k_begin_ :: b :: body)) ρ
          else pure .void) ?_ ?_
      · rw [evalN_succ_eval (n := n), native_sym, M.bind_assoc]
        simp only [evalN_succ_apply]
        rw [not_app_at (evalN n) ρ v _ st1 hρ hg, truthy_bool]
      · cases hv' : truthy v
        · simp only [Bool.not_false, if_true, Bool.false_eq_true, if_false]
          rw [evalN_succ_eval, native_begin]
          exact Le.at (le_evalExprs (recLe_evalN (Nat.le_add_right n 1)) ρ _) st1
        · simp only [Bool.not_true, if_true, Bool.false_eq_true, if_false]
          exact LeAt.refl _ _
    · show LeAt st _ _
      refine LeAt.trans ?_ (Le.at (eval_le_add (n+1) 2 _ ρ) st)
      rw [evalN_succ_eval, evalN_succ_eval, native_unless, unlessExp, native_if2]
      have hX : Le ((evalN n).eval (L [s k_not, t]) ρ) (do
          let v ← (evalN n).eval t ρ
          let fv ← evalVar k_not ρ
          applyStep (evalN n) fv [v]) := by
        refine (eval_le_step n _ ρ).trans ?_
        rw [native_not_app]
        refine Le.bind (Le.refl _) (fun v => Le.bind ?_ (fun fv => apply_le_step n fv [v]))
        have := eval_le_step n (s k_not) ρ
        rwa [native_sym] at this
      refine LeAt.trans (Le.at (Le.bind hX
        (f' := fun w => if truthy w then evalExprs (evalN n) ρ (b :: body) else pure .void) (fun w => ?_)) st) ?_
      · split
        · have := eval_le_step n (L (s k_begin_ :: b :: body)) ρ
          rwa [native_begin] at this
        · exact Le.refl _
      · rw [M.bind_assoc]
        refine LeAt.bind (LeAt.refl _ _) (fun v st1 hv => LeAt.of_eq ?_)
        have hg := hnot n v st1 hv
        rw [M.bind_assoc, not_app_at (evalN n) ρ v _ st1 hρ hg, truthy_bool]
        cases truthy v <;> rfl

theorem evalBody_noDefs (es : List Datum) (h : ∀ e ∈ es, isDefine e = false) :
    evalBody r ρ es = evalExprs r ρ es := by
  cases es with
  | nil => rfl
  | cons b bs => rw [evalBody_noLeadingDef (h b (by simp)), evalBodyForms_noDefs _ true h]

theorem thunk_call (es : List Datum) (h : ∀ e ∈ es, isDefine e = false) :
    (makeClosure .nil (L es) ρ >>= fun fv => applyStep r fv []) = evalExprs r ρ es := by
  cases es with
  | nil => rfl
  | cons b bs =>
    have : makeClosure .nil (L (b :: bs)) ρ = pure (.closure [] none (b :: bs) ρ) := by
      simp [makeClosure, parseFormals, L, properList_ofList]
    rw [this, M.pure_bind]
    show (pure ρ >>= fun ρ' => evalBody r ρ' (b :: bs)) = _
    rw [M.pure_bind, evalBody_noDefs r ρ _ h]

theorem native_beginExp (es : List Datum) :
    evalStep r (beginExp es) ρ = (r.eval (L (s k_lambda :: .nil :: es)) ρ >>= fun fv => r.apply fv []) := by
  rw [beginExp, native_app r ρ _ [] (by intro x hx; simp [L, Datum.ofList] at hx), evalArgs_nil, M.pure_bind]

/-- `h`: a `define` among `es` is internal to the `lambda` of the expansion (a local variable, `evalBody`),
    not so under `begin` -/
theorem begin_same (es : List Datum) (h : ∀ e ∈ es, isDefine e = false) :
    Same 1 (beginUse es) (beginExp es) ρ := by
  intro n
  cases n with
  | zero => exact ⟨Le.timeout _, Le.timeout _⟩
  | succ n =>
    constructor
    · rw [evalN_succ_eval, evalN_succ_eval, beginUse, native_begin, native_beginExp, evalN_succ_eval,
        native_lambda]
      simp only [evalN_succ_apply]
      rw [thunk_call (evalN n) ρ es h]
      exact Le.refl _
    · refine Le.trans ?_ (eval_le_add (n+1) 1 _ ρ)
      rw [evalN_succ_eval, evalN_succ_eval, beginUse, native_begin, native_beginExp,
        ← thunk_call (evalN n) ρ es h]
      refine Le.bind ?_ (fun fv => apply_le_step n fv [])
      have := eval_le_step n (L (s k_lambda :: .nil :: es)) ρ
      rwa [native_lambda] at this

theorem and_same (es : List Datum) : Same 1 (andUse es) (andExp es) ρ := by
  intro n
  cases n with
  | zero =>
    refine ⟨Le.timeout _, ?_⟩
    exact Le.timeout _
  | succ n =>
    match es with
    | [] =>
      refine ⟨(Le.of_eq rfl).trans (eval_le_add (n+1) 1 _ ρ), (Le.of_eq rfl).trans (eval_le_add (n+1) 1 _ ρ)⟩
    | [e] =>
      constructor
      · rw [evalN_succ_eval, native_and]
        exact (Le.of_eq rfl).trans (eval_le_add n 2 e ρ)
      · rw [evalN_succ_eval (n := n + 1), native_and]
        exact Le.of_eq rfl
    | e :: e2 :: es =>
      constructor
      · rw [evalN_succ_eval, evalN_succ_eval, native_and, andExp, native_if3]
        simp only [evalAnd]
        refine Le.bind ((recLe_evalN_succ n).eval e ρ) (fun v => ?_)
        split
        · rw [evalN_succ_eval]
          exact Le.of_eq (native_and (evalN n) ρ (e2 :: es)).symm
        · rename_i hv
          rw [truthy_false hv]
          exact Le.of_eq rfl
      · refine Le.trans ?_ (eval_le_add (n+1) 1 _ ρ)
        rw [evalN_succ_eval, evalN_succ_eval, native_and, andExp, native_if3]
        simp only [evalAnd]
        refine Le.bind (Le.refl _) (fun v => ?_)
        split
        · have := eval_le_step n (andUse (e2 :: es)) ρ
          rwa [native_and] at this
        · rename_i hv
          rw [truthy_false hv]
          exact eval_le_step n (.bool false) ρ

theorem or_same_nil : Same 1 (orUse []) (orExp []) ρ := by
  intro n
  cases n with
  | zero => exact ⟨Le.timeout _, Le.timeout _⟩
  | succ n =>
    exact ⟨(Le.of_eq rfl).trans (eval_le_add (n+1) 1 _ ρ), (Le.of_eq rfl).trans (eval_le_add (n+1) 1 _ ρ)⟩

theorem or_same_one (e : Datum) : Same 1 (orUse [e]) (orExp [e]) ρ := by
  intro n
  cases n with
  | zero => exact ⟨Le.timeout _, Le.timeout _⟩
  | succ n =>
    constructor
    · rw [evalN_succ_eval, native_or]
      exact (Le.of_eq rfl).trans (eval_le_add n 2 e ρ)
    · rw [evalN_succ_eval (n := n + 1), native_or]
      exact Le.of_eq rfl

end Marwood.Spec.Eval.Derived
