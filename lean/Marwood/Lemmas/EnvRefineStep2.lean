import Marwood.Lemmas.EnvRefineStep
/-!
# T02.4, part 7: the induction step for expressions and procedure application; the induction
-/
namespace Marwood.Vm.EnvRefine
open Marwood Marwood.Scope Marwood.Vm.Env Marwood.Spec.Scope

theorem exec_apply_clo (g' : Nat) (ps : List Name) (rst : Option Name) (ds : Defs) (body : Exprs) (ctx : LamCtx)
    (cenv : Nat) (vs' margs : List MVal) (t : MSt) (h1 : Envs MVal) (a : Nat)
    (hm : Vm.EnvRun.frameArgs ps rst vs' = .ok margs)
    (hb : buildLexicalEnvironment t.envs cenv margs ctx.envmap = .ok (h1, a)) :
    exec (Vm.EnvRun.apply (g' + 1) (.clo ps rst ds body ctx cenv) vs') t =
      exec (Vm.EnvRun.evalDefs g' ctx (some a) ds >>= fun _ => Vm.EnvRun.evalBody g' ctx (some a) body)
        { t with envs := h1 } := by
  simp only [Vm.EnvRun.apply, hm, exec_bind, exec_pure, exec_get, hb, exec_liftFault_ok, exec_modify]

section step
variable {f : Nat} (ih : Sims f)
include ih

theorem step_apply : ∀ g, 2 * (f + 1) ≤ g → ∀ (β : LocMap) (s : SSt) (t : MSt) (fv : SVal) (fv' : MVal)
    (vs : List SVal) (vs' : List MVal), StRel β s t → VRel β t.envs fv fv' → Forall2 (VRel β t.envs) vs vs' →
    Post β t QV (exec (Spec.Scope.apply (f + 1) fv vs) s) (exec (Vm.EnvRun.apply g fv' vs') t) := by
  intro g hg β s t fv fv' vs vs' r hfv hvs
  obtain ⟨g', rfl⟩ : ∃ g', g = g' + 1 := ⟨g - 1, by omega⟩
  cases hfv with
  | int _ | nil | void | pair _ _ =>
    simp only [Spec.Scope.apply, Vm.EnvRun.apply, exec_throw]
    exact Post.err β (Ext.refl _ _) r
  | @clo ps rst ds body ctx cenv ρ hc =>
    obtain ⟨octx, sugar, acts, carr, rfl, hf⟩ := hc
    simp only [Spec.Scope.apply, Vm.EnvRun.apply]
    have hbp := exec_bindParams ps rst vs s
    have hfa := frameArgs_rel ps rst hvs
    cases hp : paramVals ps rst vs with
    | none =>
      rw [hp] at hbp hfa
      obtain ⟨extra, he⟩ := hbp
      rw [exec_bind_err _ _ _ _ _ he, hfa]
      simp only [exec_bind, exec_throw]
      exact Post.err β (Ext.refl _ _) (r.orphans _)
    | some vals =>
      rw [hp] at hbp hfa
      obtain ⟨margs, hm, hrel⟩ := hfa
      simp only at hbp
      rw [exec_bind_ok _ _ _ _ _ hbp, exec_bind_ok _ _ _ _ _ (exec_allocDefs ds _)]
      have hlen : margs.length = (ps ++ rst.toList).length :=
        hrel.length_eq.symm.trans (paramVals_length ps rst vs vals hp)
      obtain ⟨arr, β', hb, ext, r2, a2⟩ := sim_enter r sugar ps rst ds body hf vals margs hrel hlen
      rw [← Vm.EnvRun.apply, exec_apply_clo g' ps rst ds body _ cenv vs' margs t _ _ hm hb]
      refine Post.weaken (β := β') (t := { t with envs := (t.envs.push arr).1 }) ext ?_
      have hsz : (s.store ++ vals.toArray).size = s.store.size + vals.length := by simp
      rw [hsz]
      apply Post.bind _ _ _ _ (ih.evalDefs g' (by omega) β' _ _ (needOf sugar ps rst ds body) _ _ _ _ ds r2 a2
        (fun x hx => needOf_of_raw _ _ _ _ _ x (List.mem_append_left _ hx))
        (fun x hx => Or.inr (Or.inr hx)))
      intro β3 s3 t3 _ _ e3 r3 _
      exact ih.evalBody g' (by omega) β3 s3 t3 (needOf sugar ps rst ds body) _ _ _ _ body r3 (a2.mono e3)
        (fun x hx => needOf_of_raw _ _ _ _ _ x (List.mem_append_right _ hx))

theorem step_loopGo : ∀ g, 2 * (f + 1) ≤ g → ∀ (β : LocMap) (s : SSt) (t : MSt) (fv : SVal) (fv' : MVal) (n : Nat),
    StRel β s t → VRel β t.envs fv fv' →
    Post β t QV (exec (Spec.Scope.loopGo (f + 1) fv n) s) (exec (Vm.EnvRun.loopGo g fv' n) t) := by
  intro g hg β s t fv fv' n r hfv
  obtain ⟨g', rfl⟩ : ∃ g', g = g' + 1 := ⟨g - 1, by omega⟩
  cases n with
  | zero =>
    simp only [Spec.Scope.loopGo, Vm.EnvRun.loopGo, exec_pure]
    exact Post.ok β (Ext.refl _ _) r .nil
  | succ n =>
    simp only [Spec.Scope.loopGo, Vm.EnvRun.loopGo]
    apply Post.bind _ _ _ _ (post_tick r)
    intro β1 s1 t1 tv tv' e1 r1 htv
    apply Post.bind _ _ _ _ (ih.apply g' (by omega) β1 s1 t1 fv fv' [tv] [tv'] r1 (hfv.mono e1) (.cons htv .nil))
    intro β2 s2 t2 v v' e2 r2 hv
    apply Post.bind _ _ _ _ (ih.loopGo g' (by omega) β2 s2 t2 fv fv' n r2 (hfv.mono (e1.trans e2)))
    intro β3 s3 t3 rest rest' e3 r3 hrest
    simp only [exec_pure]
    exact Post.ok β3 (Ext.refl _ _) r3 (.pair (hv.mono e3) hrest)

theorem step_eachGo : ∀ g, 2 * (f + 1) ≤ g → ∀ (β : LocMap) (s : SSt) (t : MSt) (lv : SVal) (lv' : MVal)
    (vs : List SVal) (vs' : List MVal), StRel β s t → VRel β t.envs lv lv' → Forall2 (VRel β t.envs) vs vs' →
    Post β t QV (exec (Spec.Scope.eachGo (f + 1) lv vs) s) (exec (Vm.EnvRun.eachGo g lv' vs') t) := by
  intro g hg β s t lv lv' vs vs' r hlv hvs
  obtain ⟨g', rfl⟩ : ∃ g', g = g' + 1 := ⟨g - 1, by omega⟩
  cases hlv with
  | int _ | void | clo _ =>
    simp only [Spec.Scope.eachGo, Vm.EnvRun.eachGo, exec_throw]
    exact Post.err β (Ext.refl _ _) r
  | nil =>
    simp only [Spec.Scope.eachGo, Vm.EnvRun.eachGo, exec_pure]
    exact Post.ok β (Ext.refl _ _) r .nil
  | pair hc hrest =>
    simp only [Spec.Scope.eachGo, Vm.EnvRun.eachGo]
    apply Post.bind _ _ _ _ (ih.apply g' (by omega) β s t _ _ vs vs' r hc hvs)
    intro β1 s1 t1 v v' e1 r1 hv
    apply Post.bind _ _ _ _ (ih.eachGo g' (by omega) β1 s1 t1 _ _ vs vs' r1 (hrest.mono e1) (hvs.mono' e1))
    intro β2 s2 t2 rs rs' e2 r2 hrs
    simp only [exec_pure]
    exact Post.ok β2 (Ext.refl _ _) r2 (.pair (hv.mono e2) hrs)

theorem step_eval : ∀ g, 2 * (f + 1) ≤ g → ∀ (β : LocMap) (s : SSt) (t : MSt) (N : Name → Prop) (ctx : LamCtx)
    (ep : Option Nat) (ρ : Chain) (acts : List Nat) (e : Expr), StRel β s t → ActRel β t.envs N ctx ep ρ acts →
    (∀ x ∈ fv e, N x) →
    Post β t QV (exec (Spec.Scope.eval (f + 1) ρ e) s) (exec (Vm.EnvRun.eval g ctx ep e) t) := by
  intro g hg β s t N ctx ep ρ acts e r a hfv
  obtain ⟨g', rfl⟩ : ∃ g', g = g' + 1 := ⟨g - 1, by omega⟩
  cases e with
  | fresh =>
    simp only [Spec.Scope.eval, Vm.EnvRun.eval]
    exact post_tick r
  | ref site x =>
    have hNx : N x := hfv x (by simp [fv])
    simp only [Spec.Scope.eval, Vm.EnvRun.eval]
    rcases exec_locOf_cases x ρ s with ⟨l, hl, hloc⟩ | hl
    · rw [exec_bind_ok _ _ _ _ _ hl]
      rcases exec_readLoc_cases l s with ⟨sv, hs, hne, hrd⟩ | hrd
      · rw [exec_bind_ok _ _ _ _ _ hrd]
        obtain ⟨mv, hmv, hrel⟩ := sim_read r a x hNx l sv hloc hs hne
        rw [exec_bind_ok _ _ _ _ _ hmv]
        simp only [exec_bind, exec_logEvent, exec_modify, exec_pure]
        exact Post.ok β (Ext.refl _ _) (r.logCons ⟨site, l, sv, false⟩ mv hrel) hrel
      · rw [exec_bind_err _ _ _ _ _ hrd]; exact Post.unbound
    · rw [exec_bind_err _ _ _ _ _ hl]; exact Post.unbound
  | set site x e =>
    have hNx : N x := hfv x (by simp [fv])
    simp only [Spec.Scope.eval, Vm.EnvRun.eval]
    apply Post.bind _ _ _ _ (ih.eval g' (by omega) β s t N ctx ep ρ acts e r a
      (fun y hy => hfv y (by simp [fv, hy])))
    intro β1 s1 t1 v v' e1 r1 hv
    rcases exec_locOf_cases x ρ s1 with ⟨l, hl, hloc⟩ | hl
    · rw [exec_bind_ok _ _ _ _ _ hl]
      have r2 := r1.logCons ⟨site, l, v, true⟩ v' hv
      obtain ⟨t3, hw, e3, r3⟩ := sim_write r2 (a.mono e1) x hNx l v v' hloc hv
      simp only [exec_bind, exec_logEvent, exec_writeLoc, exec_modify, exec_pure, hw]
      exact Post.ok β1 e3 r3 .void
    · rw [exec_bind_err _ _ _ _ _ hl]; exact Post.unbound
  | lam ps rst ds body =>
    simp only [Spec.Scope.eval, Vm.EnvRun.eval, exec_pure]
    obtain ⟨cenv, t1, carr, hmk, e1, r1, hc⟩ := sim_mkClosure r a false ps rst ds body (by
      intro y hy
      apply hfv y
      simpa [fvLam, mem_dedup, fv] using hy)
    rw [hmk]
    exact Post.ok β e1 r1 (.clo ⟨ctx, false, acts, carr, rfl, hc⟩)
  | call fn args =>
    simp only [Spec.Scope.eval, Vm.EnvRun.eval]
    apply Post.bind _ _ _ _ (ih.evalList g' (by omega) β s t N ctx ep ρ acts args r a
      (fun y hy => hfv y (by simp [fv, hy])))
    intro β1 s1 t1 vs vs' e1 r1 hvs
    apply Post.bind _ _ _ _ (ih.eval g' (by omega) β1 s1 t1 N ctx ep ρ acts fn r1 (a.mono e1)
      (fun y hy => hfv y (by simp [fv, hy])))
    intro β2 s2 t2 fv fv' e2 r2 hfv2
    exact ih.apply g' (by omega) β2 s2 t2 fv fv' vs vs' r2 hfv2 (hvs.mono' e2)
  | seq es =>
    simp only [Spec.Scope.eval, Vm.EnvRun.eval]
    cases f with
    | zero => rw [Spec.Scope.evalBody]; exact Post.fuel
    | succ f' =>
      -- the model runs `begin` as CLOSURE + CALL of a parameterless lambda: two more levels of fuel and a new, empty
      -- frame on the chain, which `dropEmpty` removes
      obtain ⟨cenv, t1, carr, hmk, e1, r1, hc⟩ := sim_mkClosure r a false [] none .nil es (by
        intro y hy
        apply hfv y
        simpa [fvLam, mem_dedup, fv, mem_remove, fvDefs] using hy)
      rw [exec_bind_ok _ _ _ _ _ hmk]
      obtain ⟨g2, rfl⟩ : ∃ g2, g' = g2 + 1 := ⟨g' - 1, by omega⟩
      obtain ⟨g3, rfl⟩ : ∃ g3, g2 = g3 + 1 := ⟨g2 - 1, by omega⟩
      obtain ⟨arr, β', hb, ext, r2, a2⟩ := sim_enter r1 false [] none .nil es hc [] [] .nil rfl
      simp only [Vm.EnvRun.apply, Vm.EnvRun.frameArgs, Vm.EnvRun.evalDefs, exec_bind, exec_pure, exec_get, hb,
        exec_liftFault_ok, exec_modify]
      have hs : ({ s with store := s.store ++ ([] : List SVal).toArray ++
          (Defs.nil.names.map fun _ => Val.undef).toArray } : SSt) = s := by
        simp [Defs.names]
      rw [hs] at r2
      have a3 := a2.dropEmpty
      have := ih.evalBody (g3 + 1) (by omega) β' s _ (needOf false [] none .nil es) _ _ ρ acts es r2 a3
        (fun x hx => needOf_of_raw _ _ _ _ _ x (by simpa [fvDefs] using hx))
      exact this.weaken (e1.trans ext)
  | loop n fn =>
    simp only [Spec.Scope.eval, Vm.EnvRun.eval]
    apply Post.bind _ _ _ _ (ih.eval g' (by omega) β s t N ctx ep ρ acts fn r a
      (fun y hy => hfv y (by simp [fv, hy])))
    intro β1 s1 t1 fv fv' e1 r1 hfv1
    exact ih.loopGo g' (by omega) β1 s1 t1 fv fv' n r1 hfv1
  | each l args =>
    simp only [Spec.Scope.eval, Vm.EnvRun.eval]
    apply Post.bind _ _ _ _ (ih.eval g' (by omega) β s t N ctx ep ρ acts l r a
      (fun y hy => hfv y (by simp [fv, hy])))
    intro β1 s1 t1 lv lv' e1 r1 hlv
    apply Post.bind _ _ _ _ (ih.evalList g' (by omega) β1 s1 t1 N ctx ep ρ acts args r1 (a.mono e1)
      (fun y hy => hfv y (by simp [fv, hy])))
    intro β2 s2 t2 vs vs' e2 r2 hvs
    exact ih.eachGo g' (by omega) β2 s2 t2 lv lv' vs vs' r2 (hlv.mono e2) hvs

end step

/-- **The simulation**, for every specification fuel. -/
theorem sims : ∀ f, Sims f
  | 0 => sims_zero
  | f + 1 =>
    have ih := sims f
    ⟨step_eval ih, step_evalList ih, step_evalBody ih, step_evalDefs ih, step_apply ih,
     step_loopGo ih, step_eachGo ih⟩

end Marwood.Vm.EnvRefine
