import Marwood.Lemmas.EvalKAgree
/-! # `Spec.EvalK` without `call/cc` is `Spec.Eval` — sequences, definitions -/
namespace Marwood.Lemmas.EvalKAgree
open Marwood Marwood.Spec.Eval Marwood.Spec.EvalK

variable {r : Rec}

theorem sim_tail (hr : SimRec r) (e : Datum) (ρ : Env) (σ : St) (κ : Kont) (ks : Array Kont) :
    Sim (evalIn e ρ κ σ ks) (r.eval e ρ σ) κ ks := hr.eval e ρ σ κ ks

theorem sim_exprs (hr : SimRec r) (ρ : Env) (es : List Datum) (σ : St) (κ : Kont) (ks : Array Kont) :
    Sim (exprsGo ρ es κ σ ks) (evalExprs r ρ es σ) κ ks := by
  induction es generalizing σ with
  | nil => exact Sim.throw _ _ _ _
  | cons e es ih =>
    cases es with
    | nil => exact hr.eval e ρ σ κ ks
    | cons e2 es =>
      show Sim (evalIn e ρ (.seqK ρ (e2 :: es) :: κ) σ ks) ((r.eval e ρ >>= fun _ => evalExprs r ρ (e2 :: es)) σ) κ ks
      apply Sim.evalBind hr
      intro v σ' _
      exact ih σ'

/-- `defineValue`, the value going to frame `mk x` -/
theorem sim_define (hr : SimRec r) (ρ : Env) (d : Datum) (mk : Text → Frame) (f : Text × Val → M Val)
    (σ : St) (κ : Kont) (ks : Array Kont)
    (h : ∀ x v σ', Sim (retGo (mk x) v κ σ' ks) (f (x, v) σ') κ ks) :
    Sim (defineGo ρ d mk κ σ ks) ((defineValue r ρ d >>= f) σ) κ ks := by
  unfold defineGo defineValue
  split
  · dsimp only
    split
    · exact Sim.throw _ _ _ _
    · rw [M.bind_assoc]
      apply Sim.evalBind hr
      intro v σ' _
      exact h _ v σ'
  · dsimp only
    split
    · exact Sim.throw _ _ _ _
    · rw [M.bind_assoc]
      apply Sim.withM
      intro v σ' _
      exact Sim.step (h _ v σ')
  · rename_i h1 h2
    split
    · exact absurd rfl (h1 _ _ _)
    · exact absurd rfl (h2 _ _ _ _)
    · exact Sim.throw _ _ _ _

end Marwood.Lemmas.EvalKAgree
