import Marwood.Lemmas.CompileSimApp
import Marwood.Lemmas.CompileCorrect2Shape
/-!
# T01.3 stage 2: the stage as an instance of `CompileSim`; constants, variables, the store half of `set!`

`rel2` puts the stage-2 relations into a `CompileSim.Rel`; `exprOut2_ok` / `exprOut2_err` read an `ExprOut` of it as the
stage-2 statements (`Out2`, `ErrRun2`).
-/
namespace Marwood.Lemmas.CompileCorrect2
open Marwood Marwood.Vm Marwood.Lemmas.CompileCorrect Marwood.Lemmas.CompileSim
open Marwood.Spec.Eval (Val Prim Cell Env ErrClass Res evalN evalStep applyStep evalArgs properList quoteVal kwOf insertG
  k_quote k_if_ k_setBang k_define k_lambda)

variable {H : Type} {ops : HeapOps H} {D : RepData2 ops}

structure Ret2 (D : RepData2 ops) (W' : World) (s : MSt H) (σ σ' : SSt) (w : Val) (fr : Frame) (s' : MSt H) :
    Prop where
  steps : Steps ops s s'
  ipL : s'.ipL = fr.lc
  ipO : s'.ipO = fr.oc
  ep : s'.ep = fr.epc
  bp : s'.bp = fr.bpc
  stack : LiveEq fr.st0 s'.stack
  swf : SWF s'.stack
  acc : VR2 D W' s'.heap σ'.store s'.acc w
  inv : Inv2 D W' s'.heap σ'
  ext : Ext2 D s.heap σ.store s'.heap σ'.store

def Out2 (D : RepData2 ops) (W' : World) (s : MSt H) (len : Nat) (σ σ' : SSt) (w : Val) (tail : Bool) (fr : Frame)
    (s' : MSt H) : Prop :=
  Run2 D W' s len σ σ' w s' ∨ (tail = true ∧ Ret2 D W' s σ σ' w fr s')

/-- from the state `CALL` leaves (`ip` at the start of the closure's lambda) to the state `RET` leaves -/
def CallOK2 (D : RepData2 ops) (n : Nat) : Prop :=
  ∀ ps body ρc ws (σ : SSt) w (σ' : SSt), (evalN n).apply (.closure ps none body ρc) ws σ = .ok w σ' →
  ∀ (W : World) (s : MSt H) lam cenv vs st0 epc lc oc, ops.callee s.heap s.acc = .closure lam cenv →
    ClosOK D W s.heap lam cenv ps body ρc → Inv2 D W s.heap σ → All2 (VR2 D W s.heap σ.store) vs ws →
    s.ipL = lam → s.ipO = 0 → LiveEq (callFrame st0 vs epc lc oc) s.stack → SWF st0 → SWF s.stack →
  ∃ W' s', W.le W' ∧ Steps ops s s' ∧ s'.ipL = lc ∧ s'.ipO = oc ∧ s'.ep = epc ∧ s'.bp = s.bp ∧
    LiveEq st0 s'.stack ∧ SWF s'.stack ∧ VR2 D W' s'.heap σ'.store s'.acc w ∧ Inv2 D W' s'.heap σ' ∧
    Ext2 D s.heap σ.store s'.heap σ'.store

theorem Run2.append {W1 W2 : World} {s s1 s2 : MSt H} {len1 len2 : Nat} {σ σ1 σ2 : SSt} {v w : Val}
    (r1 : Run2 D W1 s len1 σ σ1 v s1) (r2 : Run2 D W2 s1 len2 σ1 σ2 w s2) :
    Run2 D W2 s (len1 + len2) σ σ2 w s2 :=
  ⟨r1.steps.trans r2.steps, r2.ipL.trans r1.ipL, by rw [r2.ipO, r1.ipO, Nat.add_assoc],
   r2.bp.trans r1.bp, r2.ep.trans r1.ep, r1.stack.trans r2.stack, r2.swf, r2.acc, r2.inv, r1.ext.trans r2.ext⟩

/-- `Run2`, `Ret2`, `ErrRun2` are field for field `CompileSim.Run`, `Ret`, `ErrRun` at `rel2 D`; `run2_iff`, `ret2_iff`,
    `errRun2_iff` re-pack. `@[reducible]` (here and on `crel2`) lets `R.VR`, `R.Inv`, … in the statements of the
    `CompileSim` lemmas unify with `VR2 D`, `Inv2 D`, … at `R := rel2 D`. -/
@[reducible] def rel2 (D : RepData2 ops) : Rel ops D where
  VR := VR2 D
  Inv := Inv2 D
  Ext := Ext2 D
  ER := fun W h c ep ρ _ => EnvRep ops W h c ep ρ
  Frag := fun f c ns _ t e => F2 D.setG f c ns t e
  ELaws := ErrLaws2 D

@[reducible] def crel2 (D : RepData2 ops) : CRel ops D where
  toRel := rel2 D
  Clos := fun W h lam cenv ps rest body ρc => rest = none ∧ ClosOK D W h lam cenv ps body ρc

theorem extLaws2 : ExtLaws (rel2 D) where
  ext_refl := Ext2.refl
  ext_trans := Ext2.trans
  ext2 := id
  er_ext := EnvRep.ext

theorem run2_iff {W' : World} {s s' : MSt H} {len : Nat} {σ σ' : SSt} {w : Val} :
    Run (rel2 D) W' s len σ σ' w s' ↔ Run2 D W' s len σ σ' w s' :=
  ⟨fun ⟨a, b, c, d, e, f, g, h, i, j⟩ => ⟨a, b, c, d, e, f, g, h, i, j⟩,
   fun ⟨a, b, c, d, e, f, g, h, i, j⟩ => ⟨a, b, c, d, e, f, g, h, i, j⟩⟩

theorem ret2_iff {W' : World} {s s' : MSt H} {σ σ' : SSt} {w : Val} {fr : Frame} :
    Ret (rel2 D) W' s σ σ' w fr s' ↔ Ret2 D W' s σ σ' w fr s' :=
  ⟨fun ⟨a, b, c, d, e, f, g, h, i, j⟩ => ⟨a, b, c, d, e, f, g, h, i, j⟩,
   fun ⟨a, b, c, d, e, f, g, h, i, j⟩ => ⟨a, b, c, d, e, f, g, h, i, j⟩⟩

theorem errRun2_iff {W' : World} {s sf : MSt H} {base : Stack} {σ σ' : SSt} {c : ErrClass} {e' : Err} :
    CompileSim.ErrRun (rel2 D) W' s base σ σ' c sf e' ↔ ErrRun2 D W' s base σ σ' c sf e' :=
  ⟨fun ⟨a, b, c, d, e, f, g⟩ => ⟨a, b, c, d, e, f, g⟩, fun ⟨a, b, c, d, e, f, g⟩ => ⟨a, b, c, d, e, f, g⟩⟩

theorem exprOut2_ok {W : World} {s : MSt H} {len : Nat} {σ σ' : SSt} {w : Val} {tail : Bool} {fr : Frame} :
    ExprOut (rel2 D) W s len σ tail fr (.ok w σ') ↔ ∃ W' s', W.le W' ∧ Out2 D W' s len σ σ' w tail fr s' :=
  ⟨fun ⟨W', s', hw, o⟩ => ⟨W', s', hw, o.imp run2_iff.mp (And.imp_right ret2_iff.mp)⟩,
    fun ⟨W', s', hw, o⟩ => ⟨W', s', hw, o.imp run2_iff.mpr (And.imp_right ret2_iff.mpr)⟩⟩

theorem exprOut2_err {W : World} {s : MSt H} {len : Nat} {σ σ' : SSt} {cl : ErrClass} {tail : Bool} {fr : Frame} :
    ExprOut (rel2 D) W s len σ tail fr (.err cl σ') ↔
      (ErrLaws2 D → cl ≠ .syntax → ∃ W' sf e', W.le W' ∧ ErrRun2 D W' s (errBase tail s fr) σ σ' cl sf e') :=
  ⟨fun h LE hcs => let ⟨W', sf, e', hw, r⟩ := h LE hcs; ⟨W', sf, e', hw, errRun2_iff.mp r⟩,
    fun h LE hcs => let ⟨W', sf, e', hw, r⟩ := h LE hcs; ⟨W', sf, e', hw, errRun2_iff.mpr r⟩⟩

theorem F2L.toFragL {f : Nat} {c : Ctx} {ns us : Text → Prop} :
    ∀ {d : Datum}, F2L D.setG f c ns d → FragL (rel2 D) f c ns us d := by
  induction f with
  | zero => intro d h; cases h
  | succ f ih =>
    intro d h
    cases h with
    | nil => exact .nil
    | cons a d ha hd => exact .cons a d ha (ih hd)

theorem run2_quote (L : Laws2 D) {em : List (Text × Source)} {W : World} {s : MSt H} {σ σ' : SSt} {w : Val}
    {d : Datum} (hq : quoteVal d σ = .ok w σ')
    (hc : CodeAt2 D em s.heap σ.store s.ipL s.ipO [.op .movImm, .datum d, .acc])
    (hi : Inv2 D W s.heap σ) (hw : SWF s.stack) :
    ∃ s', Run2 D W s 3 σ σ' w s' := by
  obtain ⟨v, hf, hl⟩ := hc.2 1 (.datum d) rfl
  have hs := step_movImm_acc hc.1 (hc.op 0 rfl) hf hl.1 (hc.accCell 2 rfl)
  obtain ⟨hvr, eff⟩ := quote_rep (quoteLaws_of L) hl.2 hq
  have hse := StoreExt.ofStorePrefix eff.store
  have hx := Ext2.storeOnly L s.heap hse
  have hinv : Inv2 D W s.heap σ' :=
    hi.frame hx (L.srx_store _ _ _ hse hi.extra) eff.globals (fun _ => rfl) (fun e n l hW => ⟨rfl, by
      obtain ⟨_, u, _, _, h3, _⟩ := hi.vars e n l hW
      rw [eff.store l _ h3, h3]⟩)
  exact ⟨_, ⟨Steps.one hs, rfl, rfl, rfl, rfl, LiveEq.refl _, hw, VR2.of_quote hq hvr, hinv, hx⟩⟩

theorem quote_res2 (L : Laws2 D) {em : List (Text × Source)} {W : World} {s : MSt H} {σ : SSt} {d : Datum} {tail : Bool}
    {fr : Frame} (hc : CodeAt2 D em s.heap σ.store s.ipL s.ipO [.op .movImm, .datum d, .acc])
    (hi : Inv2 D W s.heap σ) (hw : SWF s.stack) : ExprOut (rel2 D) W s 3 σ tail fr (quoteVal d σ) := by
  cases hq : quoteVal d σ with
  | timeout => trivial
  | ok w σ' =>
    obtain ⟨s', r⟩ := run2_quote L hq hc hi hw
    exact ⟨W, s', World.le_refl _, .inl (run2_iff.mpr r)⟩
  | err cl σ' => exact fun _ hcs => absurd ((quoteVal_err_syntax d).1 _ _ _ hq) hcs

theorem sym_res2 (L : Laws2 D) {f : Nat} {cst cst' : CState} {c : Ctx} {base : Nat} {tail : Bool} {x : Text}
    {code : List BC} {ρ : Env} (hsc : inEnv c x = true ↔ bound ρ x) (hcx : CtxOK c)
    (hcomp : compileExpr (f + 1) cst c base tail (.sym x) = .ok (cst', code)) {r : Spec.Eval.Rec} {σ : SSt}
    {W : World} {s : MSt H} {fr : Frame} (hc : CodeAt2 D c.envmap s.heap σ.store s.ipL base code) (hip : s.ipO = base)
    (hi : Inv2 D W s.heap σ) (her : EnvRep ops W s.heap c s.ep ρ) (hw : SWF s.stack)
    (hfr : tail = true → FrameAt s.stack s.bp fr) :
    ExprOut (rel2 D) W s code.length σ tail fr (evalStep r (.sym x) ρ σ) := by
  obtain ⟨rfl, _⟩ := compile_sym_inv2 hcomp
  subst hip
  rw [evalStep_sym]
  split
  · exact fun _ hcs => absurd rfl hcs
  cases hl : ρ.lookup x with
  | some l =>
    have hin : inEnv c x = true := hsc.mpr (by simp [bound, hl])
    rw [emitLoc_env hin] at hc
    obtain ⟨j, hj, hf1⟩ := hc.envCell 1 rfl
    obtain ⟨e, n, l', hd, hl', hW⟩ := her x j hj
    rw [hl] at hl'; cases hl'
    obtain ⟨v, w, h1, h2, h3, h4⟩ := hi.vars e n l hW
    have hs := step_mov_env_acc hc.1 (hc.op 0 rfl) hf1 (hc.accCell 2 rfl) hd h1 h2
    simp only [h3]
    exact ⟨W, _, World.le_refl _, .inl ⟨Steps.one hs, rfl, rfl, rfl, rfl, LiveEq.refl _, hw, h4, hi, Ext2.refl _ _⟩⟩
  | none =>
    have hin : inEnv c x = false := by
      cases hb : inEnv c x with
      | false => rfl
      | true => have := hsc.mp hb; simp [bound, hl] at this
    rw [emitLoc_glob hcx hin] at hc
    cases hg : σ.globals.lookup x with
    | some w =>
      have hv := hi.bound x w (hc.globalCell 1 rfl).1 hg
      have hs := step_mov_glob_acc hc.1 (hc.op 0 rfl) (hc.globalCell 1 rfl).2 (VR2.ne_undefined L hv)
        (hc.accCell 2 rfl)
      exact ⟨W, _, World.le_refl _, .inl ⟨Steps.one hs, rfl, rfl, rfl, rfl, LiveEq.refl _, hw, hv, hi, Ext2.refl _ _⟩⟩
    | none =>
      intro _ _
      have hu := hi.unbound x (hc.globalCell 1 rfl).1 hg
      have hs := step_mov_glob_unbound hc.1 (hc.op 0 rfl) (hc.globalCell 1 rfl).2 hu
      exact ⟨W, s, _, World.le_refl _, ⟨.refl _, hs, rfl, errBase_le hfr, hw, hi, Ext2.refl _ _⟩⟩

theorem run2_store_lex (L : Laws2 D) {c : Ctx} {W : World} {s : MSt H} {σ : SSt} {w : Val} {x : Text} {ρ : Env}
    {l : Nat} (hin : inEnv c x = true) (hl : ρ.lookup x = some l) (hlt : l < σ.store.size)
    (hc : CodeAt2 D c.envmap s.heap σ.store s.ipL s.ipO [.op .mov, .acc, emitLoc c x, .op .movImm, .void, .acc])
    (hacc : VR2 D W s.heap σ.store s.acc w) (hi : Inv2 D W s.heap σ) (her : EnvRep ops W s.heap c s.ep ρ)
    (hw : SWF s.stack) :
    ∃ s', Run2 D W s 6 σ { σ with store := σ.store.setIfInBounds l (.var w) } .void s' := by
  rw [emitLoc_env hin] at hc
  obtain ⟨j, hj, hf2⟩ := hc.envCell 2 rfl
  obtain ⟨e, n, l', hd, hl', hW⟩ := her x j hj
  rw [hl] at hl'; cases hl'
  obtain ⟨old, wold, h1, h2, h3, _⟩ := hi.vars e n l hW
  obtain ⟨h', hput, hext, hsrx, hget, hglob⟩ :=
    L.envPut_ok s.heap σ.store e n old s.acc hi.extra h1 h2 (VR2.not_envptr L hacc)
  have hs1 := step_mov_acc_env hc.1 (hc.op 0 rfl) (hc.accCell 1 rfl) hf2 hd hput
  have hse : StoreExt σ.store (σ.store.setIfInBounds l (.var w)) := StoreExt.setVar _ _ _ _ h3
  have hx2 : Ext2 D s.heap σ.store h' (σ.store.setIfInBounds l (.var w)) := hext.trans (Ext2.storeOnly L h' hse)
  have hc2 : CodeAt2 D c.envmap h' (σ.store.setIfInBounds l (.var w)) s.ipL (s.ipO + 3) [.op .movImm, .void, .acc] :=
    (CodeAt2.right (a := [.op .mov, .acc, .envSlot x]) hc).ext hx2
  have hs2 := run2_movImm_void (s := { s with heap := h', ipO := s.ipO + 3 }) hc2
  refine ⟨_, ⟨.cons hs1 (Steps.one hs2), rfl, rfl, rfl, rfl, LiveEq.refl _, hw, VR2.void L _ _ _, ?_, hx2⟩⟩
  refine ⟨fun y u hn hy => ?_, fun y hn hy => ?_, L.srx_store _ _ _ hse hsrx, hi.gset, hi.loaded.ext hx2, hi.wfun,
    hi.winj, fun e' n' l' hW' => ?_⟩
  · show VR2 D W h' _ (ops.globGet h' _) u
    rw [hglob]; exact (hi.bound y u hn hy).mono hx2 (World.le_refl _)
  · show ops.globGet h' _ = _
    rw [hglob]; exact hi.unbound y hn hy
  · show ∃ v u, ops.envGet h' e' n' = some v ∧ _ ∧ (σ.store.setIfInBounds l (.var w))[l']? = _ ∧ _
    by_cases hsame : e' = e ∧ n' = n
    · obtain ⟨rfl, rfl⟩ := hsame
      have : l' = l := hi.wfun _ _ _ _ hW' hW
      subst this
      refine ⟨s.acc, w, by rw [hget]; simp, VR2.not_envptr L hacc, by simp [hlt],
        hacc.mono hx2 (World.le_refl _)⟩
    · obtain ⟨v, u, g1, g2, g3, g4⟩ := hi.vars e' n' l' hW'
      have hne : l ≠ l' := by
        intro e0; subst e0
        exact hsame (hi.winj _ _ _ _ _ hW' hW)
      refine ⟨v, u, by rw [hget]; simp [hsame, g1], g2, by simp [hne, g3],
        g4.mono hx2 (World.le_refl _)⟩

theorem run2_store_glob (L : Laws2 D) {c : Ctx} {W : World} {s : MSt H} {σ : SSt} {w : Val} {x : Text}
    (hcx : CtxOK c) (hin : inEnv c x = false)
    (hc : CodeAt2 D c.envmap s.heap σ.store s.ipL s.ipO [.op .mov, .acc, emitLoc c x, .op .movImm, .void, .acc])
    (hacc : VR2 D W s.heap σ.store s.acc w) (hi : Inv2 D W s.heap σ) (hw : SWF s.stack) :
    ∃ s', Run2 D W s 6 σ { σ with globals := insertG x w σ.globals } .void s' := by
  rw [emitLoc_glob hcx hin] at hc
  obtain ⟨hnx, hf2⟩ := hc.globalCell 2 rfl
  have hs1 := step_mov_acc_glob hc.1 (hc.op 0 rfl) (hc.accCell 1 rfl) hf2
  obtain ⟨hext, hsrx, henv⟩ := L.globPut_ext s.heap σ.store (D.slot x) s.acc hi.extra
  have hc2 : CodeAt2 D c.envmap (ops.globPut s.heap (D.slot x) s.acc) σ.store s.ipL (s.ipO + 3)
      [.op .movImm, .void, .acc] :=
    (CodeAt2.right (a := [.op .mov, .acc, .global x]) hc).ext hext
  have hs2 := run2_movImm_void (s := { s with heap := ops.globPut s.heap (D.slot x) s.acc, ipO := s.ipO + 3 }) hc2
  refine ⟨_, ⟨.cons hs1 (Steps.one hs2), rfl, rfl, rfl, rfl, LiveEq.refl _, hw, VR2.void L _ _ _, ?_, hext⟩⟩
  have g := globals_insert (w := w) (G := σ.globals) (fun _ hy e => L.slot_inj _ _ hy hnx e)
    (L.glob_get_put s.heap σ.store x s.acc · hi.extra hnx)
    (fun a b (r : VR2 D W s.heap σ.store a b) => r.mono hext (World.le_refl _)) (hacc.mono hext (World.le_refl _))
    hi.bound hi.unbound
  refine ⟨g.1, g.2, hsrx, fun y hy => ?_, hi.loaded.ext hext, hi.wfun, hi.winj, fun e' n' l' hW' => ?_⟩
  · show (insertG x w σ.globals).lookup y ≠ none
    rw [Spec.Eval.lookup_insertG]
    split
    · simp
    · exact hi.gset y hy
  · obtain ⟨v, u, g1, g2, g3, g4⟩ := hi.vars e' n' l' hW'
    exact ⟨v, u, by rw [henv]; exact g1, g2, g3, g4.mono hext (World.le_refl _)⟩

/-- `Inv2` keeps the variable's cell (a global in `D.setG` is bound: `Inv2.gset`), so the assignment succeeds in the
    specification too -/
theorem store2 (L : Laws2 D) {c : Ctx} {x : Text} {ρ : Env} {W : World} {s : MSt H} {σ : SSt} {w : Val} (hcx : CtxOK c)
    (hsc : inEnv c x = true ↔ bound ρ x) (hG : ¬ bound ρ x → D.setG x)
    (hc : CodeAt2 D c.envmap s.heap σ.store s.ipL s.ipO [.op .mov, .acc, emitLoc c x, .op .movImm, .void, .acc])
    (hacc : VR2 D W s.heap σ.store s.acc w) (hi : Inv2 D W s.heap σ) (her : EnvRep ops W s.heap c s.ep ρ)
    (hw : SWF s.stack) :
    ∃ σ', Spec.Eval.assignVar ρ x w σ = .ok () σ' ∧ ∃ s', Run2 D W s 6 σ σ' .void s' := by
  cases hl : ρ.lookup x with
  | some l =>
    have hin : inEnv c x = true := hsc.mpr (by simp [bound, hl])
    obtain ⟨j, hj⟩ := (slotIdx_some_iff_inEnv c x).mp hin
    obtain ⟨e0, n0, l', _, hl', hW⟩ := her x j hj
    rw [hl] at hl'; cases hl'
    have hlt : l < σ.store.size := hi.var_lt hW
    exact ⟨_, by simp only [Spec.Eval.assignVar, hl, Spec.Eval.writeCell, hlt, if_true],
      run2_store_lex L hin hl hlt hc hacc hi her hw⟩
  | none =>
    have hnb : ¬ bound ρ x := by simp [bound, hl]
    have hin : inEnv c x = false := by
      cases hb : inEnv c x with
      | false => rfl
      | true => exact absurd (hsc.mp hb) hnb
    cases hg : σ.globals.lookup x with
    | none => exact absurd hg (hi.gset x (hG hnb))
    | some old =>
      exact ⟨_, by simp only [Spec.Eval.assignVar, hl, Spec.Eval.setGlobal, hg],
        run2_store_glob L hcx hin hc hacc hi hw⟩

theorem claws2 (L : Laws2 D) : CLaws (crel2 D) where
  toExtLaws := extLaws2
  truth := VR2.truth L
  void := VR2.void L
  vr_mono := VR2.mono
  vr_clos := fun r => let ⟨h1, lam, cenv, h2, h3⟩ := r; ⟨lam, cenv, h2, h1, h3⟩
  store := fun hcx hsc hG hc hacc hi her hw =>
    let ⟨σ', h1, s', h2⟩ := store2 L hcx hsc hG hc hacc hi her hw; ⟨σ', h1, s', run2_iff.mpr h2⟩
  call := fun hi hvf hvs hap => L.call _ _ _ _ _ _ _ _ _ _ hi hvf hvs hap
  call_err := fun LE _ _ _ _ _ _ _ _ _ _ hi hvf hvs hap hcs => LE.call_err _ _ _ _ _ _ _ _ _ _ hi hvf hvs hap hcs
  callee_other := fun LE _ _ _ _ w hv hp hc =>
    LE.callee_other _ _ _ _ (by cases w <;> first | exact hv | exact absurd rfl (hc _ _ _ _)) hp

end Marwood.Lemmas.CompileCorrect2
