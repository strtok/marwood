import Marwood.Transform.Model
import Marwood.Spec.Match
/-!
# Shared by the C17 proofs: the identifier setup relating the model's ellipsis / literal cells to the
spec's names, the matcher's loop one item at a time, the equations of `expand` and of its cursors.

The Boolean shape predicates of the area (each with a twin for the rest of a list), `es` the ellipsis:
* `plain` (here): proper lists, no vector, the ellipsis nowhere;
* `properP/S` (`TransformAccept`): proper and vector-free, what `check_pattern_support` establishes;
* `okP/S` (`TransformMatchEll`): that, and no list starts with the ellipsis or has it twice, which `build`
  adds (`buildLoop_place`): the patterns the matcher is proved on;
* `plP/S` (`TransformEllAcceptTmpl`): the placement alone, what `check_template_syntax` establishes;
* `nn` (`TransformEllShape`): what precedes an ellipsis is `plain` (depth ≤ 1); on an `okS` list it is
  what `check_pattern_support` establishes (`cpsLoop_nn`);
* `tP/S`, `unitOK` (`TransformEllInst`): a template's groups `U ...` have `U` plain with each ellipsis
  variable once and at least one; no ellipsis variable outside a group.
-/
namespace Marwood.Transform
open Marwood Marwood.Spec.Match

theorem beq_text (a b : Text) : (a == b) = decide (a = b) := by
  by_cases h : a = b <;> simp [h]

theorem beq_text_comm (a b : Text) : (a == b) = (b == a) := by
  rw [beq_text, beq_text]
  by_cases h : a = b
  · subst h; rfl
  · have h' : ¬ b = a := fun e => h e.symm
    simp [h, h']

@[simp] theorem cellEq_sym_left (s : Text) (e : Datum) : cellEq (.sym s) e = decide (e = .sym s) := by
  cases e <;> simp [cellEq]
  rename_i t
  by_cases h : s = t
  · subst h; simp
  · have h' : ¬ t = s := fun e => h e.symm
    simp [h, h']

@[simp] theorem cellEq_sym_right (s : Text) (e : Datum) : cellEq e (.sym s) = decide (e = .sym s) := by
  cases e <;> simp [cellEq, beq_text]

theorem cellEq_nil_left (e : Datum) : cellEq .nil e = decide (e = .nil) := by
  cases e <;> simp [cellEq]

theorem pair_or_atom (d : Datum) : (∃ a r, d = .pair a r) ∨ d.isPair = false := by
  cases d with
  | pair a r => exact .inl ⟨a, r, rfl⟩
  | _ => exact .inr rfl

/-- `hne`: `try_new` rejects an ellipsis that is also a literal; so `Ctx.isEll x` is `x == es`
    (`isEll_iff`) and the specification's literal-over-ellipsis precedence never comes into play -/
structure Setup where
  es : Text
  litNames : List Text
  hne : es ∉ litNames

namespace Setup
def ell (s : Setup) : Datum := .sym s.es
def lits (s : Setup) : List Datum := s.litNames.map Datum.sym
def ctx (s : Setup) : Ctx := { ellipsis := s.es, literals := s.litNames }

theorem lits_any (s : Setup) (x : Text) :
    (s.lits.any fun it => cellEq it (.sym x)) = s.ctx.isLit x := by
  simp only [lits, ctx, Ctx.isLit, List.any_map]
  induction s.litNames with
  | nil => simp
  | cons a as ih =>
    simp only [List.any_cons, Function.comp, List.contains_cons, ih]
    congr 1
    simp [beq_text]; exact eq_comm

theorem isEll_iff (s : Setup) (x : Text) : s.ctx.isEll x = (x == s.es) := by
  simp only [Ctx.isEll, ctx, Ctx.isLit]
  by_cases h : x = s.es
  · subst h; simp [s.hne]
  · simp [h]

theorem isEllD_eq (s : Setup) (d : Datum) : s.ctx.isEllD d = cellEq d s.ell := by
  cases d <;> simp [Ctx.isEllD, ell, isEll_iff, beq_text]

end Setup

def ctxOf (t : Transform) : Ctx :=
  { ellipsis := (match t.ellipsis with | .sym es => es | _ => []),
    literals := t.literals.filterMap symName }

theorem ctxOf_eq (s : Setup) (t : Transform) (hte : t.ellipsis = s.ell) (htl : t.literals = s.lits) :
    ctxOf t = s.ctx := by
  simp only [ctxOf, hte, htl, Setup.ell, Setup.lits, Setup.ctx, List.filterMap_map]
  congr 1
  induction s.litNames with
  | nil => rfl
  | cons a as ih => simp [symName, ih]

def specRules (t : Transform) : List Rule := t.rules.map fun r => ⟨r.1.expr, r.2⟩

def plain (es : Text) : Datum → Bool
  | .sym s => s != es
  | .pair a d => plain es a && plainTail es d
  | .vec _ => false
  | _ => true
where
  plainTail (es : Text) : Datum → Bool
    | .pair a d => plain es a && plainTail es d
    | .nil => true
    | _ => false

/-- the `match pattern { … }` that ends the matcher's loop body, the rest of the loop as a continuation -/
def elemStep (ell : Datum) (lits : List Datum) (f : Nat) (cur e : Datum) (env : Bindings)
    (k : Bindings → Res (Bool × Bindings)) : Res (Bool × Bindings) :=
  match cur with
  | .sym _ =>
    if lits.any (fun it => cellEq it cur) then
      if !cellEq cur e then .ok (false, env) else k env
    else if !cellEq cur underscore then k (env ++ [(cur, e)])
    else k env
  | .pair _ _ =>
    match patternMatch ell lits f cur e env with
    | .ok (true, env) => k env
    | .ok (false, env) => .ok (false, env)
    | .err x => .err x
    | .panic s => .panic s
    | .fuel => .fuel
  | _ => if !cellEq cur e then .ok (false, env) else k env

/-- selection of the next pattern in the matcher's loop (`Sum.inl b` = early return) -/
def selNext (cur : Datum) (inEll : Bool) (pats exprs : List Datum) : Sum Bool (Datum × List Datum) :=
  if inEll then
    if pats.length == exprs.length + 2 then
      match pats.tail with
      | p :: pats' => .inr (p, pats')
      | [] => .inl exprs.isEmpty
    else .inr (cur, pats)
  else
    match pats with
    | p :: pats' => .inr (p, pats')
    | [] => .inl false

theorem matchLoop_cons (ell : Datum) (lits : List Datum) (f : Nat) (e : Datum) (exprs pats : List Datum)
    (cur : Datum) (inEll : Bool) (env : Bindings) :
    matchLoop ell lits (f + 1) (e :: exprs) pats cur inEll env =
      (match selNext cur inEll pats exprs with
       | .inl b => .ok (b, env)
       | .inr (cur', pats') =>
         elemStep ell lits f cur' e env
           (fun env' => matchLoop ell lits f exprs pats' cur' (peekIs ell pats') env')) := by
  have key : ∀ (c : Datum) (ps : List Datum),
      (match c with
        | .sym _ =>
          if lits.any (fun it => cellEq it c) then
            if !cellEq c e then Res.ok (false, env)
            else matchLoop ell lits f exprs ps c (peekIs ell ps) env
          else if !cellEq c underscore then
            matchLoop ell lits f exprs ps c (peekIs ell ps) (env ++ [(c, e)])
          else matchLoop ell lits f exprs ps c (peekIs ell ps) env
        | .pair _ _ =>
          match patternMatch ell lits f c e env with
          | .ok (true, env) => matchLoop ell lits f exprs ps c (peekIs ell ps) env
          | .ok (false, env) => .ok (false, env)
          | .err x => .err x
          | .panic s => .panic s
          | .fuel => .fuel
        | _ =>
          if !cellEq c e then .ok (false, env)
          else matchLoop ell lits f exprs ps c (peekIs ell ps) env) =
      elemStep ell lits f c e env (fun env' => matchLoop ell lits f exprs ps c (peekIs ell ps) env') := by
    intro c ps; unfold elemStep; split <;> rfl
  conv => lhs; unfold matchLoop
  unfold selNext
  cases inEll with
  | false =>
    cases pats with
    | nil => rfl
    | cons p pats' => simp only [Bool.false_eq_true, if_false]; exact key p pats'
  | true =>
    simp only [if_true]
    by_cases h : (pats.length == exprs.length + 2) = true
    · simp only [h, if_true]
      cases pats.tail with
      | nil => rfl
      | cons p pats' => exact key p pats'
    · simp only [h, if_false]
      exact key cur pats

theorem matchLoop_nil (ell : Datum) (lits : List Datum) (f : Nat) (pats : List Datum)
    (cur : Datum) (inEll : Bool) (env : Bindings) :
    matchLoop ell lits (f + 1) [] pats cur inEll env =
      (match (if inEll then pats.tail else pats) with
       | [] => .ok (true, env)
       | _ :: pats' => if peekIs ell pats' then .ok (pats'.tail.isEmpty, env) else .ok (false, env)) := by
  conv => lhs; unfold matchLoop
  rfl

def OkWithin (r : Res (Bool × Bindings)) (n : Nat) : Prop :=
  ∃ b env', r = .ok (b, env') ∧ env'.length ≤ n

theorem okWithin_ok {b : Bool} {env' : Bindings} {n : Nat} (h : env'.length ≤ n) :
    OkWithin (.ok (b, env')) n := ⟨b, env', rfl, h⟩

theorem OkWithin.mono {r : Res (Bool × Bindings)} {n n' : Nat} (h : OkWithin r n) (hn : n ≤ n') :
    OkWithin r n' := by
  obtain ⟨b, env', hr, hl⟩ := h
  exact ⟨b, env', hr, Nat.le_trans hl hn⟩

/-- `n` bounds the bindings of the item (at least the one of a variable), `m` those of the rest -/
theorem elemStep_total {ell : Datum} {lits : List Datum} {f : Nat} {cur e : Datum} {env : Bindings}
    {k : Bindings → Res (Bool × Bindings)} {n m : Nat} (hn : 1 ≤ n)
    (hp : cur.isPair = true → OkWithin (patternMatch ell lits f cur e env) (env.length + n))
    (hk : ∀ env1, OkWithin (k env1) (env1.length + m)) :
    OkWithin (elemStep ell lits f cur e env k) (env.length + (n + m)) := by
  have cont : ∀ env1 : Bindings, env1.length ≤ env.length + n →
      OkWithin (k env1) (env.length + (n + m)) :=
    fun env1 h1 => (hk env1).mono (by omega)
  unfold elemStep
  split
  · split
    · split
      · exact okWithin_ok (Nat.le_add_right _ _)
      · exact cont env (Nat.le_add_right _ _)
    · split
      · exact cont _ (by rw [List.length_append]; exact Nat.add_le_add_left hn _)
      · exact cont env (Nat.le_add_right _ _)
  · obtain ⟨b, env1, hr, h1⟩ := hp rfl
    rw [hr]
    cases b
    · exact okWithin_ok (by omega)
    · exact cont env1 h1
  · split
    · exact okWithin_ok (Nat.le_add_right _ _)
    · exact cont env (Nat.le_add_right _ _)

theorem expand_sym (ell : Datum) (p : Pattern) (f : Nat) (x : Text) (env : PEnv) :
    expand ell p (f + 1) (.sym x) env =
      if p.isVariable (.sym x) then env.getBinding p (.sym x) else .ok (some (.sym x), env) := by
  rw [expand]

theorem expand_pair (ell : Datum) (p : Pattern) (f : Nat) (a d : Datum) (env : PEnv) :
    expand ell p (f + 1) (.pair a d) env = expandLoop ell p f a (iterList d) [] env := by
  rw [expand]

theorem expandLoop_succ (ell : Datum) (p : Pattern) (f : Nat) (cur : Datum) (rest v : List Datum) (env : PEnv) :
    expandLoop ell p (f + 1) cur rest v env =
      (match expand ell p f cur env with
       | .ok (some cell, env) =>
         if peekIs ell rest then expandLoop ell p f cur rest (v ++ [cell]) env
         else
           match rest with
           | t :: rest => expandLoop ell p f t rest (v ++ [cell]) env
           | [] => .ok (some (Datum.ofList (v ++ [cell])), env)
       | .ok (none, env) =>
         if !peekIs ell rest then .ok (none, env)
         else
           match rest.tail with
           | t :: rest => expandLoop ell p f t rest v env.resetIters
           | [] => .ok (some (Datum.ofList v), env.resetIters)
       | .err x => .err x
       | .panic s => .panic s
       | .fuel => .fuel) := by
  rw [expandLoop]
  rfl

theorem getBinding_cases {p : Pattern} {env env' : PEnv} {y : Datum} {o : Option Datum}
    (h : env.getBinding p y = .ok (o, env')) :
    env' = env ∨ (p.isExpandedVariable y = true ∧ env.getExpandedBinding y = .ok (o, env')) := by
  unfold PEnv.getBinding at h
  split at h
  · cases h; exact .inl rfl
  · split at h
    · exact .inr ⟨‹_›, h⟩
    · cases h; exact .inl rfl

/-- `expand` changes the environment only through `get_binding` and `reset_iters` -/
theorem expand_keeps (ell : Datum) (p : Pattern) {I : PEnv → Prop}
    (hget : ∀ env y o env', I env → env.getBinding p y = .ok (o, env') → I env')
    (hreset : ∀ env, I env → I env.resetIters) : ∀ f : Nat,
    (∀ T env o env', I env → expand ell p f T env = .ok (o, env') → I env') ∧
    (∀ cur rest v env o env', I env → expandLoop ell p f cur rest v env = .ok (o, env') → I env') := by
  intro f
  induction f with
  | zero =>
    exact ⟨fun T env o env' _ h => by simp [expand] at h,
           fun cur rest v env o env' _ h => by simp [expandLoop] at h⟩
  | succ f ih =>
    obtain ⟨ih1, ih2⟩ := ih
    constructor
    · intro T env o env' hI h
      cases T with
      | sym x =>
        rw [expand_sym] at h
        split at h
        · exact hget _ _ _ _ hI h
        · cases h; exact hI
      | pair a d => rw [expand_pair] at h; exact ih2 _ _ _ _ _ _ hI h
      | _ => unfold expand at h; cases h; exact hI
    · intro cur rest v env o env' hI h
      rw [expandLoop_succ] at h
      cases hc : expand ell p f cur env with
      | ok r =>
        obtain ⟨oc, envc⟩ := r
        have h1 := ih1 _ _ _ _ hI hc
        rw [hc] at h
        cases oc with
        | some cell =>
          simp only at h
          split at h
          · exact ih2 _ _ _ _ _ _ h1 h
          · split at h
            · exact ih2 _ _ _ _ _ _ h1 h
            · cases h; exact h1
        | none =>
          simp only at h
          split at h
          · cases h; exact h1
          · split at h
            · exact ih2 _ _ _ _ _ _ (hreset _ h1) h
            · cases h; exact hreset _ h1
      | err x => rw [hc] at h; cases h
      | panic m => rw [hc] at h; cases h
      | fuel => rw [hc] at h; cases h

namespace Term

theorem expand_zero (ell : Datum) (p : Pattern) (T : Datum) (env : PEnv) :
    expand ell p 0 T env = .fuel := by
  unfold expand; rfl

theorem expandLoop_zero (ell : Datum) (p : Pattern) (cur : Datum) (rest v : List Datum) (env : PEnv) :
    expandLoop ell p 0 cur rest v env = .fuel := by
  unfold expandLoop; rfl

theorem expand_atom (ell : Datum) (p : Pattern) (f : Nat) (T : Datum) (env : PEnv)
    (h1 : T.isPair = false) (h2 : isSymbol T = false) :
    expand ell p (f + 1) T env = .ok (some T, env) := by
  cases T <;> first | (simp [Datum.isPair] at h1; done) | (simp [isSymbol] at h2; done) | (unfold expand; rfl)

def wsum : List Datum → Nat
  | [] => 0
  | x :: xs => dsize x + wsum xs

theorem dsize_pos (d : Datum) : 1 ≤ dsize d := by
  cases d <;> simp [dsize]

theorem wsum_iterList_le (d : Datum) : wsum (iterList d) ≤ dsize d := by
  induction d with
  | pair a d _ ihd => simp only [iterList, wsum, dsize]; omega
  | nil => simp [iterList, wsum]
  | _ => simp [iterList, wsum, dsize]

end Term

theorem findIter_setIter_same (k : Datum) (v : Option Nat) : ∀ (it : List (Datum × Option Nat)) (c : Option Nat),
    findIter k it = some c → findIter k (setIter k v it) = some v := by
  intro it
  induction it with
  | nil => intro c h; simp [findIter] at h
  | cons e it ih =>
    intro c h
    obtain ⟨k', c'⟩ := e
    by_cases hk : cellEq k' k = true
    · simp [setIter, findIter, hk]
    · have hk' : cellEq k' k = false := by simpa using hk
      simp only [findIter, hk', Bool.false_eq_true, if_false] at h
      simp [setIter, findIter, hk', ih c h]

theorem findIter_setIter_other (x y : Text) (hxy : x ≠ y) (v : Option Nat) :
    ∀ (it : List (Datum × Option Nat)),
      findIter (.sym y) (setIter (.sym x) v it) = findIter (.sym y) it := by
  intro it
  induction it with
  | nil => rfl
  | cons e it ih =>
    obtain ⟨k', c'⟩ := e
    by_cases hk : cellEq k' (.sym x) = true
    · have hkx : k' = .sym x := by simpa using hk
      subst hkx
      simp [setIter, findIter, hxy]
    · have hk' : cellEq k' (.sym x) = false := by simpa using hk
      simp only [setIter, hk', Bool.false_eq_true, if_false, findIter, ih]

theorem getExpandedBinding_eq (env : PEnv) (sym : Datum) (c : Option Nat)
    (hc : findIter sym env.iters = some c) :
    env.getExpandedBinding sym =
      if c.getD 0 > env.bindings.length then .panic "get_expanded_binding: slice"
      else
        match findKey sym (env.bindings.drop (c.getD 0)) 0 with
        | some (i, v) => .ok (some v, { env with iters := setIter sym (some (c.getD 0 + i + 1)) env.iters })
        | none => .ok (none, { env with iters := setIter sym none env.iters }) := by
  unfold PEnv.getExpandedBinding
  simp only [hc]
  cases c <;> rfl

theorem getExpandedBinding_absent (env : PEnv) (sym : Datum)
    (hc : findIter sym env.iters = none) : env.getExpandedBinding sym = .ok (none, env) := by
  unfold PEnv.getExpandedBinding
  simp only [hc]

namespace Term

theorem getExpandedBinding_ok {env env' : PEnv} {y : Datum} {o : Option Datum}
    (h : env.getExpandedBinding y = .ok (o, env')) :
    (o = none ∧ env' = env) ∨
    (∃ cur, findIter y env.iters = some cur ∧
      ((o = none ∧ env' = { env with iters := setIter y none env.iters }) ∨
       (∃ i v, findKey y (env.bindings.drop (cur.getD 0)) 0 = some (i, v) ∧
          o = some v ∧ env' = { env with iters := setIter y (some (cur.getD 0 + i + 1)) env.iters }))) := by
  cases hfi : findIter y env.iters with
  | none => rw [getExpandedBinding_absent _ _ hfi] at h; cases h; exact .inl ⟨rfl, rfl⟩
  | some cur =>
    rw [getExpandedBinding_eq _ _ cur hfi] at h
    refine .inr ⟨cur, rfl, ?_⟩
    split at h
    · cases h
    · split at h
      · rename_i i v hfk
        cases h
        exact .inr ⟨i, v, hfk, rfl, rfl⟩
      · cases h; exact .inl ⟨rfl, rfl⟩

theorem getExpandedBinding_ne_fuel (env : PEnv) (y : Datum) : env.getExpandedBinding y ≠ .fuel := by
  cases hfi : findIter y env.iters with
  | none => rw [getExpandedBinding_absent _ _ hfi]; simp
  | some cur =>
    rw [getExpandedBinding_eq _ _ cur hfi]
    repeat' split
    all_goals simp

theorem getExpandedBinding_ne_err (env : PEnv) (y : Datum) (e : TErr) :
    env.getExpandedBinding y ≠ .err e := by
  cases hfi : findIter y env.iters with
  | none => rw [getExpandedBinding_absent _ _ hfi]; simp
  | some cur =>
    rw [getExpandedBinding_eq _ _ cur hfi]
    repeat' split
    all_goals simp

theorem getBinding_ne_fuel (p : Pattern) (env : PEnv) (y : Datum) : env.getBinding p y ≠ .fuel := by
  unfold PEnv.getBinding
  split
  · simp
  · split
    · exact getExpandedBinding_ne_fuel env y
    · simp

theorem expand_ne_err (ell : Datum) (p : Pattern) : ∀ f : Nat,
    (∀ T env e, expand ell p f T env ≠ .err e) ∧
    (∀ cur rest v env e, expandLoop ell p f cur rest v env ≠ .err e) := by
  intro f
  induction f with
  | zero =>
    constructor
    · intro T env e; rw [expand_zero]; simp
    · intro cur rest v env e; rw [expandLoop_zero]; simp
  | succ f ih =>
    obtain ⟨ih1, ih2⟩ := ih
    constructor
    · intro T env e
      cases hT : T with
      | pair a d => rw [expand_pair]; exact ih2 _ _ _ _ _
      | sym y =>
        rw [expand_sym]
        split
        · unfold PEnv.getBinding
          split
          · simp
          · split
            · intro h
              have := getExpandedBinding_ne_err env (.sym y) e
              exact this h
            · simp
        · simp
      | _ => rw [expand_atom _ _ _ _ _ rfl rfl]; simp
    · intro cur rest v env e
      rw [expandLoop_succ]
      cases hc : expand ell p f cur env with
      | ok r =>
        obtain ⟨o1, env1⟩ := r
        cases o1 with
        | none =>
          simp only
          split
          · simp
          · split
            · exact ih2 _ _ _ _ _
            · simp
        | some cell =>
          simp only
          split
          · exact ih2 _ _ _ _ _
          · split
            · exact ih2 _ _ _ _ _
            · simp
      | err x => exact absurd hc (ih1 _ _ _)
      | panic m => simp
      | fuel => simp

end Term

end Marwood.Transform
