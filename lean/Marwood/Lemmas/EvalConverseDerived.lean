import Marwood.Lemmas.EvalConverseMain
import Marwood.Lemmas.EvalDerived2Case
/-!
# T01.2, second half, CONVERSE direction for the expansions that bind an identifier of their own:
`or` (binder `var1`), `cond` test-only / `=>` clauses (binder `temp`), `case` with a compound key (`atom-key`)

`Lemmas/EvalDerived2*.lean`: the native run (guarded, `guardN`) definite ⇒ the expansion has the related outcome. Here:
the EXPANSION's run definite, slack-guarded (`sguardN 1`: the one extra cell the binder occupies) ⇒ the native meaning,
with the SAME fuel (the expansions nest at least as deep as the native forms), has the related outcome (`AgreesConv`).
The slack is demanded of the WHOLE run of the expansion, the first operand / test included, which is evaluated before
the binder cell exists, in equal stores: uniform for simplicity, at the price told in `Lemmas/EvalMonoMain.lean`.
What the expansions compute in `sguardN 1` is `section tower` of `Lemmas/EvalDerivedCond.lean` at `T := sguardN 1`.
-/
namespace Marwood.Spec.Eval.Derived
open Marwood Marwood.Spec.Eval Marwood.Spec.Eval.Prelude Marwood.Spec.Eval.Extra Marwood.Spec.Eval.Conv

/-- converse of `AgreesUpToExtra`: the expansion `exp` definite from `st` with fuel `m` under `sguardN k` ⇒ the native meaning
    of `use` has, with the same fuel, the same outcome up to an injective renaming of locations fixing the initial store -/
def AgreesConv (k : Nat) (use exp : Datum) (ρ : Env) (st : St) : Prop :=
  ∀ m, (sguardN k m).eval exp ρ st ≠ .timeout →
    (evalN m).eval exp ρ st = (sguardN k m).eval exp ρ st ∧
    ∃ f, Inj f ∧ (∀ l, l < st.store.size → f l = l) ∧
      ResRelR f (VRel f) ((evalN m).eval use ρ st) ((evalN m).eval exp ρ st)

theorem AgreesConv.native_definite {k : Nat} {use exp : Datum} {ρ : Env} {st : St} (h : AgreesConv k use exp ρ st)
    (m : Nat) (hd : (sguardN k m).eval exp ρ st ≠ .timeout) : (evalN m).eval use ρ st ≠ .timeout := by
  obtain ⟨h1, f, _, _, hr⟩ := h m hd
  exact hr.definite (by rw [h1]; exact hd)

/-- **Converse of `binder_agree`** (`Lemmas/EvalExtraShift.lean`; `K`, `K'`, `hK'` as there, `hK` at side `.right`, slack 1 for
    the one cell of `x`). The native side runs `K` with the fuel `n + j` of the test, the expansion `K'` with `n`: the
    simulation yields `K (evalN n)`, which `hKle` (monotone in the sub-evaluator) lifts to `n + j` once it is definite. -/
theorem binder_agree_conv (x : Text) (t : Datum) (K : Rec → Env → Val → M Val)
    (hK : ∀ (f : LMap), Inj f → ∀ (r r' : Rec), RecSimD f (fun _ => none) .right r r' → ∀ (ρ ρ' : Env), EnvRel f [x] ρ ρ' →
      ∀ (v v' : Val), VRel f v v' → SimD f (fun _ => none) .right (VRel f) (K r ρ v) (K r' ρ' v'))
    (hKle : ∀ (r r' : Rec), RecLe r r' → ∀ (ρ : Env) (v : Val), Le (K r ρ v) (K r' ρ v))
    (n j : Nat) (ρ : Env) (st : St) (hst : WFSt st) (hρ : EnvOK st.store.size ρ) (K' : Loc → Val → M Val)
    (hK' : ∀ (v : Val) (s1 : St),
      K' s1.store.size v { s1 with store := s1.store.push (.var v) } =
        K (sguardN 1 n) ((x, s1.store.size) :: ρ) v { s1 with store := s1.store.push (.var v) })
    (hd : ((sguardN 1 (n + j)).eval t ρ >>= fun v => allocCell (.var v) >>= fun l => K' l v) st ≠ .timeout) :
    ∃ f, Inj f ∧ (∀ l, l < st.store.size → f l = l) ∧
      ResRelR f (VRel f) (((evalN (n + j)).eval t ρ >>= fun v => K (evalN (n + j)) ρ v) st)
        (((sguardN 1 (n + j)).eval t ρ >>= fun v => allocCell (.var v) >>= fun l => K' l v) st) := by
  have hd' : M.bind' ((sguardN 1 (n + j)).eval t ρ) (fun v => M.bind' (allocCell (.var v)) fun l => K' l v) st
      ≠ .timeout := hd
  show ∃ f, Inj f ∧ _ ∧ ResRelR f (VRel f) (M.bind' ((evalN (n + j)).eval t ρ) (fun v => K (evalN (n + j)) ρ v) st)
    (M.bind' ((sguardN 1 (n + j)).eval t ρ) (fun v => M.bind' (allocCell (.var v)) fun l => K' l v) st)
  unfold M.bind' at hd' ⊢
  cases h : (sguardN 1 (n + j)).eval t ρ st with
  | timeout => rw [h] at hd'; exact absurd rfl hd'
  | err e s1 =>
    have h1 : (evalN (n + j)).eval t ρ st = .err e s1 := by
      rw [sguardN_eval_evalN 1 (n + j) t ρ st (by rw [h]; simp), h]
    simp only [h1]
    exact ⟨fun l => l, inj_id, fun _ _ => rfl, rfl, stRel_id s1⟩
  | ok v s1 =>
    rw [h] at hd'
    simp only [allocCell] at hd'
    have h1 : (evalN (n + j)).eval t ρ st = .ok v s1 := by
      rw [sguardN_eval_evalN 1 (n + j) t ρ st (by rw [h]; simp), h]
    obtain ⟨hs1, hgrow, hv⟩ := wf_evalN_ok hst hρ h1
    simp only [h1, allocCell]
    refine ⟨shiftAt s1.store.size 1, inj_shiftAt _ _, fun l hl => shiftAt_lt (Nat.lt_of_lt_of_le hl hgrow), ?_⟩
    have hsim := simR_iff.2 (hK (shiftAt s1.store.size 1) (inj_shiftAt _ _) (evalN n) (sguardN 1 n)
      (recSimD_conv (inj_shiftAt _ _) (shiftAt_le _ _) n)
      ρ ((x, s1.store.size) :: ρ) (envRel_shift_cons (hρ.mono hgrow) x _) v v (vRel_self (fixes_of_ok hv)))
      s1 { s1 with store := s1.store.push (.var v) } (stRel_push hs1 _)
    rw [hK' v s1] at hd' ⊢
    have hdef := hsim.definite hd'
    rw [hKle (evalN n) (evalN (n + j)) (recLe_evalN (Nat.le_add_right n j)) ρ v s1 hdef]
    exact hsim

/-- the levels of fuel at which the body of `(let ((x t)) inner)` times out whatever the state: the
    expansion is definite only if `t` fails with an error, and so does every computation that starts with `t` -/
theorem let_small_conv (k : Nat) (x : Text) (t inner : Datum) (hx : reserved x = false) (hi : isDefine inner = false)
    (m : Nat) (ρ : Env) (st : St) (hin : ∀ ρ' s', (sguardN k m).eval inner ρ' s' = .timeout) (N : Val → M Val)
    (hd : (sguardN k (m + 1)).eval (L [s k_let_, L [L [s x, t]], inner]) ρ st ≠ .timeout) :
    ∃ f, Inj f ∧ (∀ l, l < st.store.size → f l = l) ∧
      ResRelR f (VRel f) (((evalN m).eval t ρ >>= N) st)
        ((sguardN k (m + 1)).eval (L [s k_let_, L [L [s x, t]], inner]) ρ st) := by
  rw [sguardN_succ_eval, let1_eval _ _ x t _ hx hi] at hd ⊢
  have hd' : M.bind' ((sguardN k m).eval t ρ)
      (fun v => M.bind' (allocCell (.var v)) fun l => (sguardN k m).eval inner ((x, l) :: ρ)) st ≠ .timeout := hd
  show ∃ f, Inj f ∧ _ ∧ ResRelR f (VRel f) (M.bind' ((evalN m).eval t ρ) N st)
    (M.bind' ((sguardN k m).eval t ρ)
      (fun v => M.bind' (allocCell (.var v)) fun l => (sguardN k m).eval inner ((x, l) :: ρ)) st)
  unfold M.bind' at hd' ⊢
  cases h : (sguardN k m).eval t ρ st with
  | timeout => rw [h] at hd'; exact absurd rfl hd'
  | err e s1 =>
    have h1 : (evalN m).eval t ρ st = .err e s1 := by
      rw [sguardN_eval_evalN k m t ρ st (by rw [h]; simp), h]
    simp only [h1]
    exact ⟨fun l => l, inj_id, fun _ _ => rfl, rfl, stRel_id s1⟩
  | ok v s1 =>
    rw [h] at hd'
    simp only [allocCell, hin] at hd'
    exact absurd rfl hd'

section sg
variable (k : Nat) (ρ : Env)

theorem if3_small (m : Nat) (hm : m ≤ 1) (c a b : Datum) (st : St) :
    (sguardN k m).eval (L [s k_if_, c, a, b]) ρ st = .timeout := by
  match m, hm with
  | 0, _ => rfl
  | 1, _ => rw [sguardN_succ_eval, native_if3]; rfl

theorem if2_small (m : Nat) (hm : m ≤ 1) (c a : Datum) (st : St) :
    (sguardN k m).eval (L [s k_if_, c, a]) ρ st = .timeout := by
  match m, hm with
  | 0, _ => rfl
  | 1, _ => rw [sguardN_succ_eval, native_if2]; rfl

theorem case_small (m : Nat) (hm : m ≤ 1) (key c : Datum) (cs : List Datum) (st : St) :
    (sguardN k m).eval (caseUse key (c :: cs)) ρ st = .timeout := by
  match m, hm with
  | 0, _ => rfl
  | 1, _ => rw [sguardN_succ_eval, native_case]; rfl

end sg

/-- converse of `selfTest_agrees`, the expansion `(let ((x t)) (if x x B))` written out, `B` meaning `R` -/
theorem selfTest_agrees_conv (x : Text) (hx : reserved x = false) (t B use : Datum) (R : Rec → Env → M Val) (ρ : Env)
    (hnat : ∀ n, (evalN (n+1)).eval use ρ =
      ((evalN n).eval t ρ >>= fun v => if truthy v then pure v else R (evalN n) ρ))
    (hB : ∀ r ρ', evalStep r B ρ' = R r ρ')
    (hR : ∀ f r r', RecSimD f (fun _ => none) .right r r' → ∀ ρ ρ', EnvRel f [x] ρ ρ' →
      SimD f (fun _ => none) .right (VRel f) (R r ρ) (R r' ρ'))
    (hle : ∀ r r', RecLe r r' → ∀ ρ, Le (R r ρ) (R r' ρ))
    (st : St) (hst : WFSt st) (hρ : EnvOK st.store.size ρ) :
    AgreesConv 1 use (L [s k_let_, L [L [s x, t]], L [s k_if_, s x, s x, B]]) ρ st := by
  intro m hd
  refine ⟨sguardN_eval_evalN _ _ _ _ _ hd, ?_⟩
  rw [sguardN_eval_evalN _ _ _ _ _ hd]
  cases m with
  | zero => exact absurd rfl hd
  | succ m =>
    rw [hnat]
    by_cases hm : m ≤ 1
    · exact let_small_conv 1 x t _ hx (isDefine_if _) m ρ st (fun ρ' s' => if3_small 1 ρ' m hm _ _ _ s') _ hd
    · obtain ⟨n, rfl⟩ : ∃ n, m = n + 2 := ⟨m - 2, by omega⟩
      rw [show n + 2 + 1 = n + 3 from rfl, letIfSelf_eval ρ (T := sguardN 1) (fun _ => rfl) n x t B hx] at hd ⊢
      simp only [sguardN_succ_eval, hB] at hd ⊢
      refine binder_agree_conv x t (fun r ρ v => if truthy v then pure v else R r ρ) ?_ ?_
        n 2 ρ st hst hρ
        (fun l v => if truthy v then pure v else R (sguardN 1 n) ((x, l) :: ρ)) (fun _ _ => rfl) hd
      · intro f hf r r' hr ρ1 ρ1' he v v' hv
        simp only [hv.truthy]
        split
        · exact SimD.pure _ _ hv
        · exact hR f r r' hr ρ1 ρ1' he
      · intro r r' hr ρ1 v
        split
        · exact Le.refl _
        · exact hle r r' hr ρ1

/-- **or**, third rule, converse -/
theorem or_agrees_conv (ρ : Env) (e e2 : Datum) (es : List Datum) (st : St) (hst : WFSt st) (hρ : EnvOK st.store.size ρ)
    (hfree : ∀ d ∈ e2 :: es, mentions k_var1 d = false) :
    AgreesConv 1 (orUse (e :: e2 :: es)) (orExp (e :: e2 :: es)) ρ st :=
  selfTest_agrees_conv k_var1 (by decide) e (orUse (e2 :: es)) _ (fun r ρ => evalOr r ρ (e2 :: es)) ρ
    (fun n => or_native_eval ρ n e e2 es) (fun r ρ' => native_or r ρ' (e2 :: es))
    (fun _ _ _ hr _ _ he => simD_evalOr hr he _ (cleanBs_of_mentions hfree))
    (fun _ _ hr ρ => le_evalOr hr ρ _) st hst hρ

/-- **cond**, rule 5, converse -/
theorem cond_test_agrees_conv (ρ : Env) (t c : Datum) (cs : List Datum) (ht : t ≠ s k_else_) (st : St) (hst : WFSt st)
    (hρ : EnvOK st.store.size ρ) (hfree : ∀ d ∈ c :: cs, mentions k_temp d = false) :
    AgreesConv 1 (condUse (L [t] :: c :: cs)) (condTestExp t (c :: cs)) ρ st :=
  selfTest_agrees_conv k_temp (by decide) t (condUse (c :: cs)) _ (fun r ρ => evalCond r ρ (c :: cs)) ρ
    (fun n => cond_test_native_eval ρ n t c cs ht) (fun r ρ' => native_cond r ρ' c cs)
    (fun _ _ _ hr _ _ he => simD_evalCond hr he _ (cleanBs_of_mentions hfree))
    (fun _ _ hr ρ => le_evalCond hr ρ _) st hst hρ

/-- **cond**, rules 2 and 3, converse -/
theorem cond_arrow_agrees_conv (ρ : Env) (t f : Datum) (cs : List Datum) (ht : t ≠ s k_else_)
    (hf : ∀ x, f = .sym x → kwOf x = none) (st : St) (hst : WFSt st)
    (hρ : EnvOK st.store.size ρ) (hfree : ∀ d ∈ f :: cs, mentions k_temp d = false) :
    AgreesConv 1 (condUse (L [t, s k_arrow, f] :: cs)) (condArrowExp t f cs) ρ st := by
  intro m hd
  refine ⟨sguardN_eval_evalN _ _ _ _ _ hd, ?_⟩
  rw [sguardN_eval_evalN _ _ _ _ _ hd]
  have hx : reserved k_temp = false := by decide
  cases m with
  | zero => exact absurd rfl hd
  | succ m =>
    rw [evalN_succ_eval, native_cond, evalCond_arrow _ _ t f cs ht]
    by_cases hm : m ≤ 1
    · cases cs with
      | nil =>
        exact let_small_conv 1 k_temp t _ hx (isDefine_if _) m ρ st (fun ρ' s' => if2_small 1 ρ' m hm _ _ s') _ hd
      | cons c cs' =>
        exact let_small_conv 1 k_temp t _ hx (isDefine_if _) m ρ st (fun ρ' s' => if3_small 1 ρ' m hm _ _ _ s') _ hd
    · obtain ⟨n, rfl⟩ : ∃ n, m = n + 2 := ⟨m - 2, by omega⟩
      rw [show n + 2 + 1 = n + 3 from rfl, cond_arrow_exp_tower ρ (T := sguardN 1) (fun _ => rfl)] at hd ⊢
      refine binder_agree_conv k_temp t
        (fun r ρ v => if truthy v then (do let fv ← r.eval f ρ; r.apply fv [v]) else evalCond r ρ cs) ?_ ?_
        n 2 ρ st hst hρ
        (fun l v => if truthy v then (sguardN 1 (n+1)).eval (L [f, s k_temp]) ((k_temp, l) :: ρ)
          else (match (generalizing := false) cs with
            | [] => pure .void
            | c :: cs' => (sguardN 1 (n+1)).eval (condUse (c :: cs')) ((k_temp, l) :: ρ))) ?_ hd
      · intro g hg r r' hr ρ1 ρ1' he v v' hv
        simp only [hv.truthy]
        split
        · refine SimD.bind (hr.eval f ρ1 ρ1' _ he (cleanB_of_mentions (hfree f (by simp)))) (fun fv fv' hfv => ?_)
          exact hr.apply _ _ _ _ hfv (.cons hv .nil)
        · exact simD_evalCond hr he _ (cleanBs_of_mentions (fun d hd => hfree d (by simp [hd])))
      · intro r r' hr ρ1 v
        split
        · exact Le.bind (hr.eval f ρ1) (fun fv => hr.apply fv [v])
        · exact le_evalCond hr ρ1 _
      · intro v s1
        by_cases htr : truthy v = true
        · rw [if_pos htr, if_pos htr]
          rw [sguardN_succ_eval, native_app _ _ f [s k_temp] hf, evalArgs_one]
          cases n with
          | zero => rfl
          | succ p =>
            show M.bind' (M.bind' ((sguardN 1 (p+1)).eval (s k_temp) _) _) _ _ = _
            unfold M.bind'
            rw [eval_binder ρ (T := sguardN 1) (fun _ => rfl) p k_temp hx v s1]
            rfl
        · rw [if_neg htr, if_neg htr]
          cases cs with
          | nil => rfl
          | cons c cs' =>
            show evalStep (sguardN 1 n) (condUse (c :: cs')) _ _ = _
            rw [native_cond]

/-- **case**, rule 1, converse -/
theorem case_key_agrees_conv (ρ : Env) (ks : List Datum) (c : Datum) (cs : List Datum) (st : St) (hst : WFSt st)
    (hρ : EnvOK st.store.size ρ) (hfree : ∀ d ∈ c :: cs, mentions k_atomKey d = false) :
    AgreesConv 1 (caseUse (L ks) (c :: cs)) (caseKeyExp ks (c :: cs)) ρ st := by
  intro m hd
  refine ⟨sguardN_eval_evalN _ _ _ _ _ hd, ?_⟩
  rw [sguardN_eval_evalN _ _ _ _ _ hd]
  have hx : reserved k_atomKey = false := by decide
  cases m with
  | zero => exact absurd rfl hd
  | succ m =>
    rw [evalN_succ_eval, native_case]
    by_cases hm : m ≤ 1
    · exact let_small_conv 1 k_atomKey (L ks) _ hx (isDefine_case _) m ρ st
        (fun ρ' s' => case_small 1 ρ' m hm _ _ _ s') _ hd
    · obtain ⟨n, rfl⟩ : ∃ n, m = n + 2 := ⟨m - 2, by omega⟩
      have e2 : (sguardN 1 (n + 2 + 1)).eval (caseKeyExp ks (c :: cs)) ρ =
          ((sguardN 1 (n + 1 + 1)).eval (L ks) ρ >>= fun v => allocCell (.var v) >>= fun l =>
            (sguardN 1 (n + 2)).eval (caseUse (s k_atomKey) (c :: cs)) ((k_atomKey, l) :: ρ)) := by
        rw [sguardN_succ_eval]
        exact let1_eval (sguardN 1 (n + 2)) ρ k_atomKey (L ks) _ hx (isDefine_case _)
      rw [e2] at hd ⊢
      refine binder_agree_conv k_atomKey (L ks) (fun r ρ v => evalCase r ρ v (c :: cs)) ?_ ?_ (n + 1) 1 ρ st hst hρ
        (fun l _ => (sguardN 1 (n + 2)).eval (caseUse (s k_atomKey) (c :: cs)) ((k_atomKey, l) :: ρ)) ?_ hd
      · intro f hf r r' hr ρ1 ρ1' he v v' hv
        exact simD_evalCase hr he hv _ (cleanBs_of_mentions hfree)
      · intro r r' hr ρ1 v
        exact le_evalCase hr ρ1 v _
      · intro v s1
        show evalStep (sguardN 1 (n + 1)) (caseUse (s k_atomKey) (c :: cs)) _ _ = _
        rw [native_case]
        show M.bind' ((sguardN 1 (n + 1)).eval (s k_atomKey) _) _ _ = _
        unfold M.bind'
        rw [eval_binder ρ (T := sguardN 1) (fun _ => rfl) n k_atomKey hx v s1]

/-- the slack-guarded runs of the expansions of `(or #f (car '(7)))`, `(cond (#f) (else 1))`,
    `(cond (7 => list) (else 1))`, `(case (car '(3)) ((3) 1))` from the initial state are definite -/
example :
    (sguardN 1 5).eval (orExp [.bool false, L [s ['c','a','r'], L [s k_quote, L [.num (.fix 7)]]]]) [] initSt ≠ .timeout ∧
    (sguardN 1 5).eval (condTestExp (.bool false) [L [s k_else_, .num (.fix 1)]]) [] initSt ≠ .timeout ∧
    (sguardN 1 5).eval (condArrowExp (.num (.fix 7)) (s ['l','i','s','t']) [L [s k_else_, .num (.fix 1)]]) [] initSt
      ≠ .timeout ∧
    (sguardN 1 5).eval (caseKeyExp [s ['c','a','r'], L [s k_quote, L [.num (.fix 3)]]] [L [L [.num (.fix 3)], .num (.fix 1)]])
      [] initSt ≠ .timeout :=
  ⟨definiteB_ne (by decide +kernel), definiteB_ne (by decide +kernel), definiteB_ne (by decide +kernel),
   definiteB_ne (by decide +kernel)⟩

end Marwood.Spec.Eval.Derived
