import Marwood.Lemmas.LeadStepB
import Marwood.Lemmas.LeadStepC
import Marwood.Lemmas.LeadStepD
import Marwood.Lemmas.LeadGc
/-!
# "No value leads to a code object of class `K`" is an invariant of the real machine

At an exempt site the instruction under `ip` is CLOSURE (`TInv.pinv`): every other opcode starts from `PInv` and ends in
`PInv` (MOVIMM: in `TInv`); CLOSURE starts from `TInv` and overwrites `acc`. Hence `tinv_step`; with `tinv_gc`, the
epilogues and `prepare_tinv` the invariant holds along every run.
-/
namespace Marwood.Lemmas.Lead
open Marwood.Lemmas.Good Marwood Marwood.Vm Marwood.Vm.Verify Marwood.Vm.Concrete Marwood.Lemmas.Sim
open Marwood.Heap (GcState)
open StepC

variable {I : Spec}

section
variable {ext : ExtOps} {s0 : St CHeap}

theorem pv_tcall {s' : St CHeap} {b : Bool} (ep : ExtLead I ext) (ecl : ExtCodeLawsV ext) (g : GoodI s0)
    (ci : CInvG IsValue s0.heap) (sd : StackDisc s0) (p : PInv I s0) (hop : opAt s0 .tcallAcc)
    (hx : exec (concreteOps ext) .tcallAcc (nx s0) = .ok (s', b)) : PInv I s' := by
  have hblk : ArgBlock (nx s0).stack (nx s0).stack.sp := sd.call (.inr hop)
  have hfl : s0.bp + 4 ≤ s0.stack.sp := by
    obtain ⟨l, hl, hop'⟩ := hop
    exact sd.frameLive l hl (.inr hop')
  cases exec_eff hx with
  | tcallBuiltin _ h1 => exact runBuiltin_pv ep ecl g.nx ci hblk p.nx h1
  | tcallCont hc h1 => exact invokeCont_pv g.nx p.nx hc h1
  | tcallProc _ ht =>
    obtain ⟨argc, st, bp, _, t, rfl⟩ := tcallRest_effect ht
    exact p.mk' rfl p.acc (tcallStack_sm p.sm hfl t)

theorem pv_exec (ep : ExtLead I ext) (ecl : ExtCodeLawsV ext) {s' : St CHeap} {b : Bool} (g : GoodI s0)
    (ci : CInvG IsValue s0.heap) (sd : StackDisc s0) (p : PInv I s0) {op : Op} (hop : opAt s0 op)
    (hx : exec (concreteOps ext) op (nx s0) = .ok (s', b)) : TInv I s' := by
  have lf : LF s0.heap := .of_cinv ci
  cases op with
  | cons => exact (pv_cons lf sd p hop hx).tinv
  | jmp => exact (pv_jmp p hx).tinv
  | jnt => exact (pv_jnt p hx).tinv
  | mov => exact (pv_mov g lf sd p hop hx).tinv
  | movImm => exact pv_movImm g lf p hop hx
  | push => exact (pv_push sd p hx).tinv
  | pushAcc => exact (pv_pushAcc p hx).tinv
  | pushImm => exact (pv_pushImm p hop hx).tinv
  | halt => exact (pv_halt p hx).tinv
  | vpushAcc => exact (pv_vpush ep g lf p hx).tinv
  | callAcc => exact (pv_call ep ecl g ci sd p hop hx).tinv
  | closureAcc => exact (pv_closure g lf p.tinv hx).tinv
  | enter => exact (pv_enter lf p hx).tinv
  | ret => exact (pv_ret sd p hop hx).tinv
  | tcallAcc => exact (pv_tcall ep ecl g ci sd p hop hx).tinv
  | varArg => exact (pv_varArg lf sd p hop hx).tinv

/-- over `concreteOps ext`, the machine as modelled (not the one with the guarded callee `gops`) -/
theorem tinv_step (et : ExtLead I ext) (ecl : ExtCodeLawsV ext) {s s' : St CHeap} {b : Bool} (g : GoodI s)
    (ci : CInvG IsValue s.heap) (sd : StackDisc s) (p : TInv I s) (hs : step (concreteOps ext) s = .ok (s', b)) :
    TInv I s' := by
  rw [step_eq] at hs
  obtain ⟨⟨op, s1⟩, hro, hx⟩ := bind_inv hs
  obtain ⟨rfl, hop⟩ := readOpcode_inv hro
  by_cases hcl : op = .closureAcc
  · subst hcl
    exact (pv_closure g (.of_cinv ci) p hx).tinv
  · refine pv_exec et ecl g ci sd (p.pinv fun _ l hl hc => ?_) hop hx
    obtain ⟨l', hl', hop'⟩ := hop
    cases hl.symm.trans hl'
    cases hc.symm.trans hop'
    exact hcl rfl

end

theorem prepare_tinv {comp : CHeap → VCell → Outcome (CHeap × VCell)}
    (cp : ∀ (h : CHeap) (d : VCell) (h' : CHeap) (v : VCell), HP I h → addrFree d = true → comp h d = .ok (h', v) → HP I h')
    {s s' : St CHeap}
    {d : VCell} (p : TInv I s) (hacc : s.acc = .undefined) (hst : ∀ c ∈ s.stack.cells, c = VCell.undefined)
    (hd : addrFree d = true) (hp : prepareEval comp s d = .ok s') : TInv I s' := by
  obtain ⟨h', e, hc, rfl⟩ := prepareEval_inv hp
  refine PInv.tinv ⟨cp _ _ _ _ p.hp hd hc, ?_, ?_⟩
  · show ne I h' s.acc = true
    rw [hacc]; rfl
  · intro i v _ hv
    have : v = .undefined := hst v (List.mem_of_getElem? hv)
    subst this; rfl

theorem onError_tinv {s : St CHeap} (p : TInv I s) : TInv I (onError s) := by
  refine ⟨p.hp, .inl rfl, ?_⟩
  intro i v _ hv
  have hm : v ∈ List.replicate s.stack.cells.length VCell.undefined := List.mem_of_getElem? hv
  have : v = .undefined := (List.mem_replicate.mp hm).2
  subst this; rfl

/-- `atSiteB` does not look at the stack -/
theorem onDone_tinv {s : St CHeap} (p : TInv I s) : TInv I (onDone s) := by
  refine ⟨p.hp, p.acc, ?_⟩
  intro i v _ hv
  have hm : v ∈ List.replicate s.stack.cells.length VCell.undefined := List.mem_of_getElem? hv
  have : v = .undefined := (List.mem_replicate.mp hm).2
  subst this; rfl

end Marwood.Lemmas.Lead
