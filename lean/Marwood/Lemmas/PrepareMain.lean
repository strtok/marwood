import Marwood.Lemmas.PrepareHG
import Marwood.Lemmas.PrepareEnvCode
import Marwood.Lemmas.PrepareCode
import Marwood.Lemmas.PrepareNP
import Marwood.Lemmas.PreparePInv
import Marwood.Lemmas.ProcInvMain
import Marwood.Lemmas.PolicySessionOk
/-!
# `prepare_eval` re-establishes the machine invariant

A sequence of loader steps keeps every HEAP clause of the bundled invariant (`instSteps_all`). `IdleOk s` is the invariant of
the machine BETWEEN evaluations: `VmOkP` minus the frame chain, which an idle machine does not have (the stack is the
cleared one the epilogues leave, `sp = 0`); the loader steps, the collector and the epilogues keep it. From it, `Installs`
and `Small` of the new heap the prepared state satisfies `VmOkP` (`prepare_vmOkP_idle`): the new `ip.0` is the allocated
entry lambda, a loading of `entryLam`, hence verified ENTRY code by T04.6 (`entry_verifyLam`), so `WFS.initial` applies.
-/
namespace Marwood.Lemmas.Good
open Marwood Marwood.Vm Marwood.Vm.Verify Marwood.Vm.Concrete Marwood.Lemmas.Sim
open Marwood.Lemmas.MachineGarbage Marwood.Lemmas.PolicySessionOk
open Marwood.Heap (GcState WFHeap RootsOk vrefs vrefsList crefs)

/-- `ne`: a value of the old heap that did not lead to entry code still does not -/
structure InstRes (h h' : CHeap) : Prop where
  hg : HG h'
  mono : Mono h h'
  gr : GlobRoots h'
  ci : CInvG IsValue h'
  code : ∀ l bc, codeC h l = some bc → codeC h' l = some bc
  hp : HP h'
  ne : ∀ v, VRefsOk h v → neB h v = true → neB h' v = true

theorem InstRes.refl {h : CHeap} (g : HG h) (gr : GlobRoots h) (ci : CInvG IsValue h) (hp : HP h) : InstRes h h :=
  ⟨g, .refl h, gr, ci, fun _ _ x => x, hp, fun _ _ x => x⟩

theorem instStep_all {Q : CHeap → CLambda → Prop} (hQ : ∀ h cl, Q h cl → CodeOk cl) {h h' : CHeap} (st : InstStep Q h h')
    (g : HG h) (gr : GlobRoots h) (ci : CInvG IsValue h) (hp : HP h) (sm : Small h') : InstRes h h' := by
  obtain ⟨g', m, gr'⟩ := instStep_hg (fun h cl q => (hQ h cl q).lamOk) st g gr sm
  obtain ⟨ci', code⟩ := instStep_cinv hQ st (HInv.of_wf g.wf) ci
  obtain ⟨hp', ne⟩ := instStep_hp st g gr (.of_cinv ci) hp sm
  exact ⟨g', m, gr', ci', code, hp', ne⟩

/-- **a sequence of loader steps keeps the heap clauses of the bundled invariant** -/
theorem instSteps_all {Q : CHeap → CLambda → Prop} (hQ : ∀ h cl, Q h cl → CodeOk cl) {h h' : CHeap} (st : InstSteps Q h h')
    (g : HG h) (gr : GlobRoots h) (ci : CInvG IsValue h) (hp : HP h) (sm : Small h') : InstRes h h' := by
  induction st with
  | refl h => exact .refl g gr ci hp
  | @step h h1 h2 s rest ih =>
    have sm1 : Small h1 := sm.of_le (instSteps_size rest)
    have r1 := instStep_all hQ s g gr ci hp sm1
    have r2 := ih r1.hg r1.gr r1.ci r1.hp sm
    exact ⟨r2.hg, r1.mono.trans r2.mono, r2.gr, r2.ci, fun l bc x => r2.code l bc (r1.code l bc x), r2.hp,
      fun v hv hn => r2.ne v (hv.mono r1.mono) (r1.ne v hv hn)⟩

/-- the decoding discipline and the allocator invariant along loader steps -/
theorem instSteps_codePlain {Q : CHeap → CLambda → Prop} (hQ : ∀ h cl, Q h cl → CodeOk cl) {h h' : CHeap} (st : InstSteps Q h h')
    (inv : HInv h) (cp : CodePlain h) : HInv h' ∧ CodePlain h' := by
  induction st with
  | refl h => exact ⟨inv, cp⟩
  | step s _ ih => exact ih (instStep_inv s inv) (instStep_codePlain hQ s cp)

variable {ext : ExtOps} {ecl : ExtCodeLawsV ext}

structure IdleOk (s : St CHeap) : Prop where
  good : GoodI s
  ci : CInvG IsValue s.heap
  pinv : PInv s
  sp0 : s.stack.sp = 0
  cap : 0 < s.stack.cells.length

theorem VmOkP.idleOk {s : St CHeap} (h : VmOkP ext ecl s) (hsp : s.stack.sp = 0) (hcap : 0 < s.stack.cells.length) :
    IdleOk s :=
  ⟨h.1.1, h.1.cinv, h.2, hsp, hcap⟩

theorem roots_later {s : St CHeap} {h' : CHeap} (g : GoodI s) (m : Mono s.heap h') (gr : GlobRoots h') :
    RootsOk (toHeap h') ((rootsOf { s with heap := h' }).refs true) :=
  rootsOk_intro (s := { s with heap := h' }) gr.1 gr.2 (fun _ _ hi hv => (roots_stack g.roots hi hv).mono m)
    ((roots_acc g.roots).mono m) ((roots_ipL g.roots).mono m) ((roots_ep g.roots).mono m)

/-- loader steps (of an accepted or of a rejected form) keep the idle invariant -/
theorem IdleOk.installs {s s' : St CHeap} (i : IdleOk s) (st : InstallsGarbage s s') (sm : Small s'.heap) :
    IdleOk s' ∧ InstRes s.heap s'.heap := by
  have r := instSteps_all (fun _ _ q => q.code) st.steps i.good.hg i.good.globRoots i.ci i.pinv.hp sm
  refine ⟨?_, r⟩
  rw [st.regs]
  refine ⟨⟨r.hg, roots_later i.good r.mono r.gr, i.good.accv⟩, r.ci, ⟨r.hp, ?_, ?_⟩, i.sp0, i.cap⟩
  · exact r.ne _ (roots_acc i.good.roots) i.pinv.acc
  · intro k v hk hv
    exact r.ne v (roots_stack i.good.roots hk hv) (i.pinv.stk k v hk hv)

/-- the collector keeps the idle invariant -/
theorem IdleOk.gc (force : Bool) {s : St CHeap} (i : IdleOk s) (sm : Small (cgc force s).heap) :
    IdleOk (cgc force s) := by
  obtain ⟨g1, _, _, _, _, _⟩ := cgc_regs force s
  exact ⟨good_gc force i.good sm, cgc_inv force s i.ci, pinv_gc force i.ci i.pinv, by rw [g1]; exact i.sp0,
    by rw [g1]; exact i.cap⟩

/-- the entry lambda of `compile_runnable` in any loading is verified ENTRY code -/
theorem loaded_entry_ty {e : Datum} {fuel : Nat} {st : CState} {lam ent : LambdaM} {cl : CLambda}
    (hc : compileRunnable e fuel = .ok (st, lam, ent)) (hl : LoadedLam ent cl) :
    ∃ t, verifyLam cl.bc = some t ∧ t.entry = true := by
  rw [(compileRunnable_ok hc).2] at hl
  exact entry_verifyLam hl.bc

/-- **`prepare_eval` re-establishes the bundled invariant.** From the idle invariant of `s`, the loader relation
    `Installs e fuel s s' entry` and the physical size bound of the new heap: the state in which the evaluation of
    `e` starts — `ip` at offset 0 of the entry lambda — satisfies `VmOkP = VmOk ∧ PInv`. -/
theorem prepare_vmOkP_idle {e : Datum} {fuel : Nat} {s s' : St CHeap} {entry : Nat} (i : IdleOk s)
    (st : Installs e fuel s s' entry) (sm : Small s'.heap) : VmOkP ext ecl (prepare s' entry) := by
  obtain ⟨i', r⟩ := i.installs st.garbage sm
  obtain ⟨cst, lam, ent, cl, hc, hcell, hl⟩ := st.entryLam
  obtain ⟨t, ht, hent⟩ := loaded_entry_ty hc hl
  have hty : tyOf ((concreteLawsV ext ecl).code s'.heap) entry = some t := by
    show tyOf (codeC s'.heap) entry = some t
    unfold tyOf codeC
    rw [lambdaAt_iff.mpr hcell]
    exact ht
  have hw : WFS (concreteLawsV ext ecl) (prepare s' entry) [] :=
    WFS.initial (cl := concreteLawsV ext ecl) (entry := entry) i'.ci hty hent i'.sp0
      (by rw [i'.sp0]; exact i'.cap) i'.good.accv
  refine ⟨⟨⟨i'.good.hg, ?_, i'.good.accv⟩, .inl ⟨[], hw⟩⟩, ⟨i'.pinv.hp, i'.pinv.acc, i'.pinv.stk⟩⟩
  intro y hy
  show NF s'.heap y
  simp only [Heap.Roots.refs, rootsOf, prepare, List.mem_append, List.mem_cons, List.not_mem_nil, or_false] at hy
  rcases hy with hy | hy
  · exact i'.good.roots y (by
      simp only [Heap.Roots.refs, rootsOf, List.mem_append]
      exact .inl hy)
  · rcases hy with rfl | rfl
    · exact .inl st.entryNF
    · exact roots_ep i'.good.roots

/-- from the bundled invariant of a state with an empty stack (the initial state of a session; the state HALT left) -/
theorem prepare_vmOkP {e : Datum} {fuel : Nat} {s s' : St CHeap} {entry : Nat} (h : VmOkP ext ecl s)
    (hsp : s.stack.sp = 0) (hcap : 0 < s.stack.cells.length) (st : Installs e fuel s s' entry) (sm : Small s'.heap) :
    VmOkP ext ecl (prepare s' entry) :=
  prepare_vmOkP_idle (h.idleOk hsp hcap) st sm

theorem installs_codePlain {s s' : St CHeap} (i : IdleOk s) (st : InstallsGarbage s s') (cp : CodePlain s.heap) :
    CodePlain s'.heap :=
  (instSteps_codePlain (fun _ _ q => q.code) st.steps (HInv.of_wf i.good.hg.wf) cp).2

/-- `sp = 0` is a hypothesis: `stack.clear()` keeps `sp` as the final RET left it (the error epilogue resets `sp` itself) -/
theorem idleOk_onDone {s : St CHeap} (g : GoodI s) (ci : CInvG IsValue s.heap) (p : PInv s) (hsp : s.stack.sp = 0)
    (hcap : 0 < s.stack.cells.length) : IdleOk (onDone s) := by
  refine ⟨onDone_goodI g, ci, ⟨p.hp, p.acc, ?_⟩, hsp, ?_⟩
  · intro k v _ hv
    have hm : v ∈ List.replicate s.stack.cells.length VCell.undefined := List.mem_of_getElem? hv
    have : v = .undefined := (List.mem_replicate.mp hm).2
    subst this; rfl
  · show 0 < (List.replicate s.stack.cells.length VCell.undefined).length
    rw [List.length_replicate]; exact hcap

theorem idleOk_onError {s : St CHeap} (g : GoodI s) (ci : CInvG IsValue s.heap) (p : PInv s)
    (hcap : 0 < s.stack.cells.length) : IdleOk (onError s) := by
  refine ⟨onError_goodI g, ci, onError_pinv p, rfl, ?_⟩
  show 0 < (List.replicate s.stack.cells.length VCell.undefined).length
  rw [List.length_replicate]; exact hcap

end Marwood.Lemmas.Good
