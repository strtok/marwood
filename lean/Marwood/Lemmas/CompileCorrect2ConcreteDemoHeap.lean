import Marwood.Lemmas.CompileCorrect2Concrete
/-!
# T01.3 on the concrete heap: the initial heap of the demos

`c3Heap a b`: one chunk of four cells, the code objects `a` and `b` (for the demos `topLam cells`), two free cells, an
empty symbol table, no globals. `c3_inv` asks of the code objects what the bytecode verifier checks. The stage-3 demo
starts from an instance of it (hence the namespace `CompileCorrect3.Conc`); the stage-2 demo writes the same heap out
(`cdHeap`) and takes `c3_inv`, `c3_freeInv` and `topLam_fetch` from here.
-/
namespace Marwood.Lemmas.CompileCorrect3.Conc
open Marwood Marwood.Vm Marwood.Vm.Concrete Marwood.Vm.Verify
open Marwood.Heap (GcState)

def c3Heap (a b : CLambda) : CHeap :=
  { chunk := 4, cells := #[.lambda a, .lambda b, .val .undefined, .val .undefined]
    gc := #[.allocated, .allocated, .free, .free], free := [2, 3], symtab := [], globSyms := [], globals := #[] }

def topLam (cells : List VCell) : CLambda := ⟨[.opcode .enter] ++ cells ++ [.opcode .ret], [], []⟩

theorem topLam_fetch (cells : List VCell) (i : Nat) (hi : i < cells.length) :
    (topLam cells).bc[1 + i]? = cells[i]? := by
  show ([VCell.opcode .enter] ++ cells ++ [VCell.opcode .ret])[1 + i]? = cells[i]?
  rw [List.append_assoc, List.getElem?_append_right (by simp)]
  simp only [List.length_cons, List.length_nil, Nat.zero_add, Nat.add_sub_cancel_left]
  rw [List.getElem?_append_left hi]

variable {a b : CLambda}

theorem c3_gc : (c3Heap a b).gc = #[GcState.allocated, .allocated, .free, .free] := rfl
theorem c3_free_eq : (c3Heap a b).free = [2, 3] := rfl

theorem c3_cells {l : Nat} {c : CCell} (h : (c3Heap a b).cells[l]? = some c) :
    (l = 0 ∧ c = .lambda a) ∨ (l = 1 ∧ c = .lambda b) ∨ ((l = 2 ∨ l = 3) ∧ c = .val .undefined) := by
  match l, h with
  | 0, h => left; exact ⟨rfl, by injection h with e; exact e.symm⟩
  | 1, h => right; left; exact ⟨rfl, by injection h with e; exact e.symm⟩
  | 2, h => right; right; exact ⟨.inl rfl, by injection h with e; exact e.symm⟩
  | 3, h => right; right; exact ⟨.inr rfl, by injection h with e; exact e.symm⟩
  | n + 4, h => simp [c3Heap] at h

theorem c3_noUsed (i : Nat) : (c3Heap a b).gc[i]? ≠ some GcState.used := by
  rw [c3_gc]
  match i with
  | 0 => intro h; cases h
  | 1 => intro h; cases h
  | 2 => intro h; cases h
  | 3 => intro h; cases h
  | n + 4 => intro h; simp at h

theorem c3_shape : 0 < (c3Heap a b).chunk ∧ (c3Heap a b).chunk % 4 = 0 ∧
    ∃ k, 0 < k ∧ (c3Heap a b).cells.size = k * (c3Heap a b).chunk :=
  ⟨by show 0 < 4; omega, (by show 4 % 4 = 0; rfl), 1, by omega, rfl⟩

theorem c3_inv (va : (verifyLam a.bc).isSome = true) (vb : (verifyLam b.bc).isSome = true)
    (ia : ∀ x ∈ a.envmap, ∀ n, x.2 ≠ Concrete.Source.iofArg n) (ib : ∀ x ∈ b.envmap, ∀ n, x.2 ≠ Concrete.Source.iofArg n)
    (aa : argNeed a.bc ≤ a.args.length) (ab : argNeed b.bc ≤ b.args.length) : CInv (c3Heap a b) where
  sizes := rfl
  shape := c3_shape
  noUsed := c3_noUsed
  lamFree := by
    intro l lam hl
    rw [c3_free_eq]
    rcases c3_cells hl with ⟨rfl, _⟩ | ⟨rfl, _⟩ | ⟨_, hc⟩
    · decide
    · decide
    · cases hc
  lamVer := by
    intro l lam hl
    rcases c3_cells hl with ⟨_, hc⟩ | ⟨_, hc⟩ | ⟨_, hc⟩
    · cases hc; exact va
    · cases hc; exact vb
    · cases hc
  noIofArg := by
    intro l lam hl
    rcases c3_cells hl with ⟨_, hc⟩ | ⟨_, hc⟩ | ⟨_, hc⟩
    · cases hc; exact ia
    · cases hc; exact ib
    · cases hc
  lamArgs := by
    intro l lam hl
    rcases c3_cells hl with ⟨_, hc⟩ | ⟨_, hc⟩ | ⟨_, hc⟩
    · cases hc; exact aa
    · cases hc; exact ab
    · cases hc
  cont := by
    intro p c hc
    rcases c3_cells hc with ⟨_, h⟩ | ⟨_, h⟩ | ⟨_, h⟩ <;> cases h

theorem c3_freeInv : FreeInv (c3Heap a b) where
  undef := by
    intro p hp
    have : p = 2 ∨ p = 3 := by simpa [c3Heap] using hp
    rcases this with rfl | rfl <;> rfl
  nodup := by rw [c3_free_eq]; decide

end Marwood.Lemmas.CompileCorrect3.Conc
