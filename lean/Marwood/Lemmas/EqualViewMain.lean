import Marwood.Lemmas.EqualView
import Marwood.Lemmas.EqualAgree
import Marwood.Lemmas.EqualTotal
/-!
# `equal?` is structural equality of the abstract tree views: the induction (C14)

`pinned_view`: the three loops of `Pinned` on viewed arguments return `Tree.equiv` of the views; fuel `2 * size` of the left
view suffices (a pair spine costs one level per cdr, a vector one per slot). `equal_view` transfers it to `equal`
(`equal_agrees`); `equal_view_total` has `equalFuel s` for the size bound (`equal_total` + monotonicity in the fuel).
-/
namespace Marwood.Store
open Outcome

theorem View.isPair_cell {s : Store} {c : VCell} {t : Tree} (hc : c.isPtr = false) (h : View s c t) :
    c.isPair = t.isPair := by
  rcases h.cell_cases hc with ⟨a, rfl, rfl⟩ | ⟨i, ta, rfl, _, rfl⟩ | ⟨a, d, ta, td, rfl, _, _, rfl⟩ |
      ⟨i, xs, ts, rfl, _, _, rfl⟩
  · cases a <;> rfl
  · rfl
  · rfl
  · rfl

theorem pinned_equal_pair_nonpair {s : Store} {a d : Nat} {cr : VCell} {tr : Tree} (hcr : cr.isPtr = false)
    (hr : View s cr tr) (hp : tr.isPair = false) (g : Nat) : Pinned.equal (g+1) s (.pair a d) cr = .ok false := by
  rcases hr.cell_cases hcr with ⟨b, rfl, rfl⟩ | ⟨j, tb, rfl, _, rfl⟩ | ⟨a', d', ta', td', rfl, _, _, rfl⟩ |
      ⟨j, ys, us, rfl, _, _, rfl⟩
  · cases b <;> rfl
  · rfl
  · cases hp
  · rfl

/-- the two fuel clauses for `comparePair` are what the induction carries along a spine: entered from `equal` on two
    pairs it has that call's fuel less one; on a left cell that is not a pair it goes straight to `equal`, one level down -/
theorem pinned_view (s : Store) : ∀ f : Nat,
    (∀ l r tl tr, View s l tl → View s r tr → 2 * tl.size ≤ f → Pinned.equal f s l r = .ok (tl.equiv tr)) ∧
    (∀ l r tl tr, l.isPtr = false → r.isPtr = false → View s l tl → View s r tr →
      (tl.isPair = true → 2 * tl.size ≤ f + 1) → (tl.isPair = false → 2 * tl.size + 1 ≤ f) →
      Pinned.comparePair f s l r = .ok (tl.equiv tr)) ∧
    (∀ xs ys ts us, ViewAll s xs ts → ViewAll s ys us → xs.length = ys.length → 2 * Tree.sizeAll ts + 1 ≤ f →
      Pinned.compareVector f s xs ys = .ok (Tree.equivAll ts us)) := by
  intro f
  induction f with
  | zero =>
    refine ⟨?_, ?_, ?_⟩
    · intro l r tl tr _ _ h; have := tl.size_pos; omega
    · intro l r tl tr _ _ _ _ h1 h2
      have := tl.size_pos
      cases hp : tl.isPair
      · have := h2 hp; omega
      · have := h1 hp; omega
    · intro _ _ _ _ _ _ _ h; omega
  | succ f ih =>
    obtain ⟨ihE, ihP, ihV⟩ := ih
    refine ⟨?_, ?_, ?_⟩
    · -- `equal`
      intro l r tl tr hl hr hf
      obtain ⟨b, hb, hbt⟩ := eqv_view hl hr
      obtain ⟨cl, hgl, hcl, hl'⟩ := hl.deref
      obtain ⟨cr, hgr, hcr, hr'⟩ := hr.deref
      cases b with
      | true =>
        simp only [Pinned.equal, hb, bind_ok, if_true]
        rw [hbt rfl, Tree.equiv_refl]
      | false =>
        simp only [Pinned.equal, hb, bind_ok, Bool.false_eq_true, if_false, derefArg, hgl, hgr]
        rcases hl'.cell_cases hcl with ⟨a, rfl, rfl⟩ | ⟨i, ta, rfl, hsa, rfl⟩ | ⟨a, d, ta, td, rfl, ha, hd, rfl⟩ |
            ⟨i, xs, ts, rfl, hv, hx, rfl⟩
        · rcases hr'.cell_cases hcr with ⟨b, rfl, rfl⟩ | ⟨j, tb, rfl, hsb, rfl⟩ |
              ⟨a', d', ta', td', rfl, ha', hd', rfl⟩ | ⟨j, ys, us, rfl, hv', hx', rfl⟩
          · cases a <;> exact (eqv_cells s rfl hcr).trans (eqvCells_atom s _ b)
          · cases a <;> rfl
          · cases a <;> rfl
          · cases a <;> rfl
        · rcases hr'.cell_cases hcr with ⟨b, rfl, rfl⟩ | ⟨j, tb, rfl, hsb, rfl⟩ |
              ⟨a', d', ta', td', rfl, ha', hd', rfl⟩ | ⟨j, ys, us, rfl, hv', hx', rfl⟩
          · cases b <;> rfl
          · simp only [strGet_of hsa, strGet_of hsb, bind_ok, Tree.equiv]
          · rfl
          · rfl
        · rcases hr'.cell_cases hcr with ⟨b, rfl, rfl⟩ | ⟨j, tb, rfl, hsb, rfl⟩ |
              ⟨a', d', ta', td', rfl, ha', hd', rfl⟩ | ⟨j, ys, us, rfl, hv', hx', rfl⟩
          · cases b <;> rfl
          · rfl
          · exact ihP _ _ _ _ rfl rfl hl' hr' (fun _ => hf) (fun h => by cases h)
          · rfl
        · rcases hr'.cell_cases hcr with ⟨b, rfl, rfl⟩ | ⟨j, tb, rfl, hsb, rfl⟩ |
              ⟨a', d', ta', td', rfl, ha', hd', rfl⟩ | ⟨j, ys, us, rfl, hv', hx', rfl⟩
          · cases b <;> rfl
          · rfl
          · rfl
          · simp only [vecGet_of hv, vecGet_of hv', bind_ok, Tree.equiv]
            by_cases hlen : (xs.length != ys.length) = true
            · rw [if_pos hlen]
              have : ts.length ≠ us.length := by
                rw [← hx.length, ← hx'.length]; simpa using hlen
              rw [Tree.equivAll_length this]
            · rw [if_neg hlen]
              simp only [Tree.size] at hf
              exact ihV _ _ _ _ hx hx' (by simpa using hlen) (by omega)
    · -- `compare_pair`
      intro l r tl tr hcl hcr hl hr h1 h2
      have hlp := View.isPair_cell hcl hl
      have hrp := View.isPair_cell hcr hr
      cases htp : tl.isPair with
      | false =>
        have : (!l.isPair || !r.isPair) = true := by rw [hlp, htp]; rfl
        simp only [Pinned.comparePair, this, if_true]
        exact ihE _ _ _ _ hl hr (by have := h2 htp; omega)
      | true =>
        have hsz := h1 htp
        rcases hl.cell_cases hcl with ⟨a, rfl, rfl⟩ | ⟨i, ta, rfl, hsa, rfl⟩ | ⟨a, d, ta, td, rfl, ha, hd, rfl⟩ |
            ⟨i, xs, ts, rfl, hv, hx, rfl⟩
        · cases htp
        · cases htp
        · simp only [Tree.size] at hsz
          have hpa := ta.size_pos
          have hpd := td.size_pos
          cases htrp : tr.isPair with
          | false =>
            have : (!(VCell.pair a d).isPair || !r.isPair) = true := by rw [hrp, htrp]; rfl
            simp only [Pinned.comparePair, this, if_true]
            obtain ⟨g, rfl⟩ : ∃ g, f = g + 1 := ⟨f - 1, by omega⟩
            rw [pinned_equal_pair_nonpair hcr hr htrp g]
            cases tr <;> first | rfl | cases htrp
          | true =>
            rcases hr.cell_cases hcr with ⟨b, rfl, rfl⟩ | ⟨j, tb, rfl, hsb, rfl⟩ |
                ⟨a', d', ta', td', rfl, ha', hd', rfl⟩ | ⟨j, ys, us, rfl, hv', hx', rfl⟩
            · cases htrp
            · cases htrp
            · obtain ⟨cd, hgd, hcd, hd1⟩ := hd.deref
              obtain ⟨cd', hgd', hcd', hd1'⟩ := hd'.deref
              have e1 := ihE _ _ _ _ ha ha' (by omega)
              simp only [Pinned.comparePair, VCell.isPair, Bool.not_true, Bool.or_self, Bool.false_eq_true, if_false,
                VCell.asCar_pair, VCell.asCdr_pair, bind_ok, e1, hgd, hgd', Tree.equiv]
              cases hb : ta.equiv ta' with
              | false => simp
              | true =>
                simp only [Bool.not_true, Bool.false_eq_true, if_false, Bool.true_and]
                exact ihP _ _ _ _ hcd hcd' hd1 hd1' (fun _ => by omega) (fun _ => by omega)
            · cases htrp
        · cases htp
    · -- `compare_vector`
      intro xs ys ts us hx hy hlen hf
      cases hx with
      | nil =>
        cases hy with
        | nil => rfl
        | cons _ _ => simp at hlen
      | cons h1 h2 =>
        cases hy with
        | nil => simp at hlen
        | cons h1' h2' =>
          simp only [Tree.sizeAll] at hf
          have e1 := ihE _ _ _ _ h1 h1' (by omega)
          simp only [Pinned.compareVector, e1, bind_ok, Tree.equivAll]
          rename_i x xs t ts y ys u us
          cases hb : t.equiv u with
          | false => simp
          | true =>
            simp only [Bool.not_true, Bool.false_eq_true, if_false, Bool.true_and]
            exact ihV _ _ _ _ h2 h2' (by simpa using hlen) (by omega)

/-- `equal?` on two viewed values is R7RS `equal?` on their views -/
theorem equal_view {s : Store} {l r : VCell} {tl tr : Tree} (hl : View s l tl) (hr : View s r tr) {fuel : Nat}
    (hf : 2 * tl.size ≤ fuel) : equal fuel s l r = .ok (tl.equiv tr) := by
  have hp := (pinned_view s (2 * tl.size)).1 l r tl tr hl hr (Nat.le_refl _)
  rw [equal_agrees (by rw [hp]; simp) hf, hp]

theorem seen_step (s : Store) : ∀ f : Nat,
    (∀ seen l r, Le (equalSeen f s seen l r) (equalSeen (f+1) s seen l r)) ∧
    (∀ seen l r, Le (comparePairSeen f s seen l r) (comparePairSeen (f+1) s seen l r)) ∧
    (∀ seen xs ys, Le (compareVectorSeen f s seen xs ys) (compareVectorSeen (f+1) s seen xs ys)) := by
  intro f
  induction f with
  | zero => exact ⟨fun _ _ _ => .inl rfl, fun _ _ _ => .inl rfl, fun _ _ _ => .inl rfl⟩
  | succ f ih =>
    obtain ⟨ihE, ihP, ihV⟩ := ih
    refine ⟨?_, ?_, ?_⟩
    · intro seen l r
      unfold equalSeen
      refine Le.bind (Le.refl _) (fun b => ?_)
      cases b
      · simp only [Bool.false_eq_true, if_false]
        refine Le.bind (Le.refl _) (fun l' => Le.bind (Le.refl _) (fun r' => ?_))
        split
        · split
          · exact Le.refl _
          · exact ihP _ _ _
        · split
          · exact Le.refl _
          · refine Le.bind (Le.refl _) (fun xs => Le.bind (Le.refl _) (fun ys => ?_))
            by_cases h : (xs.length != ys.length) = true
            · rw [if_pos h, if_pos h]; exact Le.refl _
            · rw [if_neg h, if_neg h]; exact ihV _ _ _
        · exact Le.refl _
        · exact Le.refl _
      · simp only [if_true]; exact Le.refl _
    · intro seen l r
      unfold comparePairSeen
      by_cases h : (!l.isPair || !r.isPair) = true
      · rw [if_pos h, if_pos h]; exact ihE _ _ _
      · rw [if_neg h, if_neg h]
        cases l with
        | pair a d =>
          cases r with
          | pair a' d' =>
            simp only [VCell.asCar_pair, VCell.asCdr_pair, bind_ok, VCell.asPtr_ptr]
            refine Le.bind (ihE _ _ _) (fun p => ?_)
            obtain ⟨b, seen1⟩ := p
            cases b
            · simp only [Bool.not_false, if_true]; exact Le.refl _
            · simp only [Bool.not_true, Bool.false_eq_true, if_false]
              refine Le.bind (Le.refl _) (fun l' => Le.bind (Le.refl _) (fun r' => ?_))
              by_cases hb : (l'.isPair && r'.isPair) = true
              · rw [if_pos hb, if_pos hb]
                split
                · exact Le.refl _
                · exact ihP _ _ _
              · rw [if_neg hb, if_neg hb]; exact ihP _ _ _
          | _ => simp [VCell.isPair] at h
        | _ => simp [VCell.isPair] at h
    · intro seen xs ys
      cases xs with
      | nil => simp only [compareVectorSeen]; exact Le.refl _
      | cons x xs' =>
        cases ys with
        | nil => simp only [compareVectorSeen]; exact Le.refl _
        | cons y ys' =>
          simp only [compareVectorSeen]
          refine Le.bind (ihE _ _ _) (fun p => ?_)
          obtain ⟨b, seen1⟩ := p
          cases b
          · simp only [Bool.not_false, if_true]; exact Le.refl _
          · simp only [Bool.not_true, Bool.false_eq_true, if_false]; exact ihV _ _ _

theorem equal_step (s : Store) (f : Nat) (l r : VCell) : Le (equal f s l r) (equal (f+1) s l r) := by
  unfold equal
  exact Le.bind ((seen_step s f).1 [] l r) (fun _ => Le.refl _)

theorem equal_mono (s : Store) (l r : VCell) {f g : Nat} (h : f ≤ g) : Le (equal f s l r) (equal g s l r) :=
  Le.of_step (fun f => equal_step s f l r) h

/-- the tree may be as large as it likes: a DAG unfolds into a tree exponentially larger than the store -/
theorem equal_view_total {s : Store} (hsh : s.Shaped) {l r : VCell} {tl tr : Tree} (hlv : l.isValue = true)
    (hrv : r.isValue = true) (hl : View s l tl) (hr : View s r tr) {fuel : Nat} (hf : equalFuel s ≤ fuel) :
    equal fuel s l r = .ok (tl.equiv tr) := by
  have ht := equal_total hsh hlv hrv hf
  have hbig := equal_view hl hr (fuel := max fuel (2 * tl.size)) (Nat.le_max_right _ _)
  rw [(equal_mono s l r (Nat.le_max_left fuel (2 * tl.size))).eq_of_ne ht, hbig]

end Marwood.Store
