import Marwood.Lemmas.VerifyScan
import Marwood.Lemmas.VerifyBlkDefs
/-!
# The verifier's forward pass runs through structured code

`blk_scan`: where the cells from offset `b` are a loading (`Enc`) of a block `Blk b code pre post`, a scan arriving at
`b` with the abstract stack `pre ++ r`, whose pending jump edges all target offsets at or after the end of the block,
reaches that end without a reject, with `post ++ r` and the same pending edges.
-/
namespace Marwood.Vm.Verify
open Marwood.Vm

/-- the stack `x` falls through or arrives over a pending edge; every pending edge is such an arrival or one of the
    outer edges `P`, all of which are still pending -/
def Ready (s : Scan) (x : List ACell) (P : List (Nat × List ACell)) : Prop :=
  (s.cur = some x ∨ (s.cur = none ∧ (s.o, x) ∈ s.pend)) ∧
  (∀ p ∈ s.pend, p = (s.o, x) ∨ p ∈ P) ∧ (∀ p ∈ P, p ∈ s.pend)

theorem all_eq_cons {α : Type} (l : List α) (x : α) (hne : l ≠ []) (h : ∀ y ∈ l, y = x) :
    ∃ others, l = x :: others ∧ ∀ y ∈ others, y = x := by
  cases l with
  | nil => exact absurd rfl hne
  | cons a t =>
    have := h a (by simp)
    subst this
    exact ⟨t, rfl, fun y hy => h y (by simp [hy])⟩

theorem incoming_ready {s : Scan} {x : List ACell} {P : List (Nat × List ACell)} (hr : Ready s x P)
    (hP : ∀ p ∈ P, s.o < p.1) : ∃ others, incoming s = x :: others ∧ others.any (· != x) = false := by
  obtain ⟨h1, h2, _⟩ := hr
  have hall : ∀ y ∈ incoming s, y = x := by
    intro y hy
    simp only [incoming, List.mem_append, List.mem_map, List.mem_filter, Option.mem_toList] at hy
    rcases hy with hy | ⟨p, ⟨hp, hpo⟩, rfl⟩
    · rcases h1 with h1 | ⟨h1, _⟩
      · rw [h1] at hy; cases hy; rfl
      · rw [h1] at hy; cases hy
    · rcases h2 p hp with rfl | hpP
      · rfl
      · have := hP p hpP
        simp only [beq_iff_eq] at hpo
        omega
  have hne : incoming s ≠ [] :=
    List.ne_nil_of_mem (h1.elim incoming_of_cur fun h => incoming_of_pend h.2)
  obtain ⟨others, he, ho⟩ := all_eq_cons _ _ hne hall
  refine ⟨others, he, ?_⟩
  rw [List.any_eq_false]
  intro y hy
  simp [ho y hy]

theorem scanOne_ready {bc : List VCell} {entry : Bool} {s : Scan} {x : List ACell}
    {P : List (Nat × List ACell)} {op : Op} {e : Effect}
    (hr : Ready s x P) (hP : ∀ p ∈ P, s.o < p.1) (hop : bc[s.o]? = some (.opcode op))
    (hbp : bpSrcOk entry bc[s.o + 1]? = true) (he : Instr bc entry s.o x op e) :
    scanOne bc entry s = .ok (applyEffect s e) ∧
      ∀ p, p ∈ (applyEffect s e).pend ↔ (p ∈ e.pend ∨ p ∈ P) := by
  obtain ⟨others, hi, ho⟩ := incoming_ready hr hP
  constructor
  · exact scanOne_instr hi ho hop hbp he
  · intro p
    rw [applyEffect_pend, List.mem_append, List.mem_filter]
    constructor
    · rintro (h | ⟨hp, hne⟩)
      · exact .inl h
      · rcases hr.2.1 p hp with rfl | h
        · simp at hne
        · exact .inr h
    · rintro (h | h)
      · exact .inl h
      · refine .inr ⟨hr.2.2 p h, ?_⟩
        have := hP p h
        simp only [bne_iff_ne, ne_eq]
        omega

def CellsAt (bc : List VCell) (base : Nat) (code : List BC) : Prop :=
  ∀ i b, code[i]? = some b → ∃ v, bc[base + i]? = some v ∧ Enc b v

def NoBp (bc : List VCell) : Prop := ∀ (i : Nat) (off : Int), bc[i]? ≠ some (VCell.bpOffset off)

theorem CellsAt.append {bc : List VCell} {base : Nat} {c1 c2 : List BC} (h : CellsAt bc base (c1 ++ c2)) :
    CellsAt bc base c1 ∧ CellsAt bc (base + c1.length) c2 := by
  constructor
  · intro i b hb
    apply h i b
    rw [List.getElem?_append_left (by
      rcases Nat.lt_or_ge i c1.length with hl | hl
      · exact hl
      · rw [List.getElem?_eq_none hl] at hb; cases hb)]
    exact hb
  · intro i b hb
    have := h (c1.length + i) b (by rw [List.getElem?_append_right (by omega)]; simpa using hb)
    rwa [Nat.add_assoc]

theorem CellsAt.head {bc : List VCell} {base : Nat} {b : BC} {c : List BC} (h : CellsAt bc base (b :: c)) :
    (∃ v, bc[base]? = some v ∧ Enc b v) ∧ CellsAt bc (base + 1) c :=
  ⟨h 0 b rfl, (CellsAt.append (c1 := [b]) h).2⟩

theorem bpSrcOk_of_noBp {bc : List VCell} (hnb : NoBp bc) (entry : Bool) (i : Nat) :
    bpSrcOk entry bc[i]? = true := by
  cases h : (bc[i]? : Option VCell) with
  | none => rfl
  | some v =>
    cases v <;> try rfl
    exact absurd h (hnb i _)

theorem enc_loc {b : BC} {v : VCell} (hb : locB b = true) (he : Enc b v) :
    srcOk (some v) = true ∧ dstOk (some v) = true := by
  cases b <;> simp [locB] at hb <;> simp only [Enc] at he
  · subst he; exact ⟨rfl, rfl⟩
  · obtain ⟨g, rfl⟩ := he; exact ⟨rfl, rfl⟩
  · obtain ⟨g, rfl⟩ := he; exact ⟨rfl, rfl⟩

theorem dataCell_val {v : VCell} (h : dataCell v = true) : isVal v = true ∧ cellTy v = .val := by
  cases v <;> simp [dataCell] at h <;> exact ⟨rfl, rfl⟩

theorem enc_imm {b : BC} {v : VCell} (hb : immB b = true) (he : Enc b v) : immOk (some v) = true := by
  cases b <;> simp [immB] at hb <;> simp only [Enc] at he
  · exact (dataCell_val he).1
  · subst he; rfl
  · obtain ⟨a, rfl⟩ := he; rfl

theorem ready_step {bc : List VCell} (hnb : NoBp bc) {s : Scan} {x : List ACell}
    {P : List (Nat × List ACell)} {op : Op} {e : Effect} (hr : Ready s x P) (hP : ∀ p ∈ P, s.o < p.1)
    (hop : bc[s.o]? = some (.opcode op)) (he : Instr bc false s.o x op e) :
    Steps bc false s (applyEffect s e) ∧ ∀ p, p ∈ (applyEffect s e).pend ↔ (p ∈ e.pend ∨ p ∈ P) := by
  obtain ⟨h1, h2⟩ := scanOne_ready hr hP hop (bpSrcOk_of_noBp hnb false _) he
  have hlt : s.o < bc.length := by
    rcases Nat.lt_or_ge s.o bc.length with h | h
    · exact h
    · rw [List.getElem?_eq_none h] at hop; cases hop
  exact ⟨Steps.one hlt h1, h2⟩

theorem leaf_step {bc : List VCell} (hnb : NoBp bc) {s : Scan} {x x' : List ACell}
    {P : List (Nat × List ACell)} {op : Op} {st : AState} {w hh : Nat}
    (hr : Ready s x P) (hP : ∀ p ∈ P, s.o + w ≤ p.1) (hop : bc[s.o]? = some (.opcode op))
    (he : Instr bc false s.o x op ⟨st, w, some x', [], hh⟩) :
    Steps bc false s (applyEffect s ⟨st, w, some x', [], hh⟩) ∧
      (applyEffect s ⟨st, w, some x', [], hh⟩).o = s.o + w ∧
      Ready (applyEffect s ⟨st, w, some x', [], hh⟩) x' P := by
  obtain ⟨st, h2⟩ := ready_step hnb hr
    (fun p hp => Nat.lt_of_lt_of_le (Nat.lt_add_of_pos_right he.width) (hP p hp)) hop he
  exact ⟨st, rfl, .inl rfl, fun p hp => ((h2 p).1 hp).elim (fun h => nomatch h) .inr,
    fun p hp => (h2 p).2 (.inr hp)⟩

theorem jump_step {bc : List VCell} (hnb : NoBp bc) {s : Scan} {x : List ACell}
    {P : List (Nat × List ACell)} {op : Op} {st : AState} {t hh : Nat} {cur' : Option (List ACell)}
    (hr : Ready s x P) (hP : ∀ p ∈ P, s.o + 2 ≤ p.1) (hop : bc[s.o]? = some (.opcode op))
    (he : Instr bc false s.o x op ⟨st, 2, cur', [(t, x)], hh⟩) :
    Steps bc false s (applyEffect s ⟨st, 2, cur', [(t, x)], hh⟩) ∧
      ∀ p, p ∈ (applyEffect s ⟨st, 2, cur', [(t, x)], hh⟩).pend ↔ (p = (t, x) ∨ p ∈ P) := by
  obtain ⟨st, h2⟩ := ready_step hnb hr
    (fun p hp => Nat.lt_of_lt_of_le (Nat.lt_add_of_pos_right (by decide)) (hP p hp)) hop he
  exact ⟨st, fun p => (h2 p).trans (or_congr_left List.mem_singleton)⟩

theorem jnt_step {bc : List VCell} (hnb : NoBp bc) {s : Scan} {x : List ACell} {P : List (Nat × List ACell)}
    {o t : Nat} (ho : s.o = o) (hr : Ready s x P) (hP : ∀ p ∈ P, o + 2 ≤ p.1)
    (hop : bc[o]? = some (.opcode .jnt)) (h1 : bc[o + 1]? = some (.ptr t)) (ht : o + 2 ≤ t) :
    Steps bc false s (applyEffect s ⟨.body x, 2, some x, [(t, x)], x.length⟩) ∧
      (applyEffect s ⟨.body x, 2, some x, [(t, x)], x.length⟩).o = o + 2 ∧
      Ready (applyEffect s ⟨.body x, 2, some x, [(t, x)], x.length⟩) x ((t, x) :: P) := by
  subst ho
  obtain ⟨st, hp⟩ := jump_step hnb hr hP hop (.jnt h1 (Nat.lt_of_lt_of_le (Nat.lt_add_of_pos_right (by decide)) ht))
  exact ⟨st, rfl, .inl rfl, fun p hp' => .inr (List.mem_cons.2 ((hp p).1 hp')),
    fun p hp' => (hp p).2 (List.mem_cons.1 hp')⟩

/-- the next offset is the target of a pending edge with the same stack: that edge arrives there, the new one is pending -/
theorem jmp_step {bc : List VCell} (hnb : NoBp bc) {s : Scan} {x : List ACell} {P : List (Nat × List ACell)}
    {o t : Nat} (ho : s.o = o) (hr : Ready s x ((o + 2, x) :: P)) (hP : ∀ p ∈ P, o + 2 ≤ p.1)
    (hop : bc[o]? = some (.opcode .jmp)) (h1 : bc[o + 1]? = some (.ptr t)) (ht : o + 2 ≤ t) :
    Steps bc false s (applyEffect s ⟨.body x, 2, none, [(t, x)], x.length⟩) ∧
      (applyEffect s ⟨.body x, 2, none, [(t, x)], x.length⟩).o = o + 2 ∧
      Ready (applyEffect s ⟨.body x, 2, none, [(t, x)], x.length⟩) x ((t, x) :: P) := by
  subst ho
  obtain ⟨st, hp⟩ := jump_step hnb hr (List.forall_mem_cons.2 ⟨Nat.le_refl _, hP⟩) hop
    (.jmp h1 (Nat.lt_of_lt_of_le (Nat.lt_add_of_pos_right (by decide)) ht))
  refine ⟨st, rfl, .inr ⟨rfl, (hp _).2 (.inr List.mem_cons_self)⟩, fun p hp' => ?_, fun p hp' => ?_⟩
  · rcases (hp p).1 hp' with rfl | h
    · exact .inr List.mem_cons_self
    · rcases List.mem_cons.1 h with rfl | h
      · exact .inl rfl
      · exact .inr (List.mem_cons_of_mem _ h)
  · rcases List.mem_cons.1 hp' with rfl | h
    · exact (hp _).2 (.inl rfl)
    · exact (hp _).2 (.inr (List.mem_cons_of_mem _ h))

theorem Ready.land {s : Scan} {x : List ACell} {P : List (Nat × List ACell)} {o : Nat} (ho : s.o = o)
    (hr : Ready s x ((o, x) :: P)) : Ready s x P := by
  subst ho
  exact ⟨hr.1, fun p hp => (hr.2.1 p hp).elim .inl List.mem_cons.1,
    fun p hp => hr.2.2 p (List.mem_cons_of_mem _ hp)⟩

theorem bound_weaken {P : List (Nat × List ACell)} {n k : Nat} (h : ∀ e ∈ P, n + k ≤ e.1) : ∀ e ∈ P, n ≤ e.1 :=
  fun e he => Nat.le_trans (Nat.le_add_right n k) (h e he)

/-- the scan state reached, `F s`, does not depend on the loading `bc` -/
def ScansTo (b : Nat) (code : List BC) (x x' : List ACell) (F : Scan → Scan) : Prop :=
  ∀ {bc : List VCell} (_ : NoBp bc) (s : Scan) (P : List (Nat × List ACell)),
    CellsAt bc b code → s.o = b → Ready s x P → (∀ e ∈ P, b + code.length ≤ e.1) →
    Steps bc false s (F s) ∧ (F s).o = b + code.length ∧ Ready (F s) x' P

theorem leaf_scan {b w hh : Nat} {code : List BC} {x x' : List ACell} {st : AState} {op : Op}
    (hw : code.length = w)
    (hI : ∀ {bc : List VCell}, CellsAt bc b code →
      bc[b]? = some (.opcode op) ∧ Instr bc false b x op ⟨st, w, some x', [], hh⟩) :
    ScansTo b code x x' fun s => applyEffect s ⟨st, w, some x', [], hh⟩ := by
  intro bc hnb s P hc ho hr hP
  subst ho hw
  exact leaf_step hnb hr hP (hI hc).1 (hI hc).2

theorem CellsAt.opcode {bc : List VCell} {b : Nat} {o : Op} {c : List BC} (h : CellsAt bc b (.op o :: c)) :
    bc[b]? = some (.opcode o) := by
  obtain ⟨v, hv, rfl⟩ := h 0 _ rfl
  exact hv

/-- the forward pass runs through structured code; the scan state it reaches (`F s`) does not depend on the
    loading -/
theorem blk_scan {b : Nat} {code : List BC} {p q : List ACell} (hb : Blk b code p q) :
    ∀ (r : List ACell), ∃ F : Scan → Scan, ScansTo b code (p ++ r) (q ++ r) F := by
  induction hb with
  | nil b => intro r; exact ⟨id, fun _ s P _ ho hr _ => ⟨.refl _, by simpa using ho, hr⟩⟩
  | seq h1 h2 ih1 ih2 =>
    intro r
    obtain ⟨F1, k1⟩ := ih1 r
    obtain ⟨F2, k2⟩ := ih2 r
    refine ⟨fun s => F2 (F1 s), ?_⟩
    intro bc hnb s P hc ho hr hP
    obtain ⟨hc1, hc2⟩ := hc.append
    rw [List.length_append] at hP ⊢
    obtain ⟨st1, ho1, hr1⟩ := k1 hnb s P hc1 ho hr (fun e he => Nat.le_trans (by omega) (hP e he))
    obtain ⟨st2, ho2, hr2⟩ := k2 hnb (F1 s) P hc2 ho1 hr1 (fun e he => Nat.le_trans (by omega) (hP e he))
    exact ⟨st1.trans st2, ho2.trans (Nat.add_assoc _ _ _), hr2⟩
  | frame r' h ih =>
    intro r
    obtain ⟨F, k⟩ := ih (r' ++ r)
    refine ⟨F, ?_⟩
    rw [List.append_assoc, List.append_assoc]
    exact k
  | mov b src dst hs hd =>
    intro r
    exact ⟨_, leaf_scan rfl fun hc =>
      have ⟨_, h1, e1⟩ := hc 1 _ rfl
      have ⟨_, h2, e2⟩ := hc 2 _ rfl
      ⟨hc.opcode, .mov (h1 ▸ (enc_loc hs e1).1) (h2 ▸ (enc_loc hd e2).2)⟩⟩
  | movImm b imm dst hs hd =>
    intro r
    exact ⟨_, leaf_scan rfl fun hc =>
      have ⟨_, h1, e1⟩ := hc 1 _ rfl
      have ⟨_, h2, e2⟩ := hc 2 _ rfl
      ⟨hc.opcode, .movImm (h1 ▸ enc_imm hs e1) (h2 ▸ (enc_loc hd e2).2)⟩⟩
  | pushAcc b => intro r; exact ⟨_, leaf_scan rfl fun hc => ⟨hc.opcode, .pushAcc⟩⟩
  | pushArgc b n =>
    intro r
    exact ⟨_, leaf_scan rfl fun hc =>
      have ⟨_, h1, e1⟩ := hc 1 _ rfl
      ⟨hc.opcode, .pushImm (e1 ▸ h1)⟩⟩
  | pushDatum b d =>
    intro r
    exact ⟨fun s => applyEffect s ⟨.body r, 2, some (.val :: r), [], r.length + 1⟩, leaf_scan rfl fun hc =>
      have ⟨_, h1, e1⟩ := hc 1 _ rfl
      ⟨hc.opcode, (dataCell_val e1).2 ▸ Instr.pushImm h1⟩⟩
  | closure b => intro r; exact ⟨_, leaf_scan rfl fun hc => ⟨hc.opcode, .closureAcc⟩⟩
  | cons b c1 c2 h1 h2 =>
    intro r
    exact ⟨_, leaf_scan rfl fun hc => ⟨hc.opcode, .cons (by rw [h1, h2]; rfl)⟩⟩
  | vpush b c => intro r; exact ⟨_, leaf_scan rfl fun hc => ⟨hc.opcode, .vpushAcc⟩⟩
  | call b tail vs hv =>
    intro r
    refine ⟨fun s => applyEffect s ⟨.call r, 1, some r, [], (ACell.argc vs.length :: (vs ++ r)).length⟩,
      leaf_scan rfl fun {bc} hc => ⟨hc.opcode, ?_⟩⟩
    have ht : ((vs ++ r).take vs.length).all ACell.isV = true := by rw [List.take_left]; exact hv
    have hn : vs.length ≤ (vs ++ r).length := by rw [List.length_append]; omega
    have h1 := Instr.callAcc (bc := bc) (entry := false) (o := b) ht hn
    have h2 := Instr.tcallAcc (bc := bc) (o := b) rfl ht hn
    rw [List.drop_left] at h1 h2
    cases tail
    · exact h1
    · exact h2
  | ite tj tm ht hc' ha htj htm iht ihc iha =>
    rename_i b t c a
    intro r
    obtain ⟨F1, k1⟩ := iht r
    obtain ⟨F3, k3⟩ := ihc r
    obtain ⟨F5, k5⟩ := iha r
    refine ⟨fun s => F5 (applyEffect (F3 (applyEffect (F1 s) ⟨.body r, 2, some r, [(tj, r)], r.length⟩))
      ⟨.body r, 2, none, [(tm, r)], r.length⟩), ?_⟩
    subst htj htm
    intro bc hnb s P hc ho hr hP
    -- the five pieces of the code, at offsets written the way `Blk.ite` writes them
    obtain ⟨hc4, hca⟩ := hc.append
    obtain ⟨hc3, hcm⟩ := hc4.append
    obtain ⟨hc2, hcc⟩ := hc3.append
    obtain ⟨hct, hcj⟩ := hc2.append
    simp only [List.length_append, List.length_cons, List.length_nil, Nat.zero_add, Nat.reduceAdd]
      at hcm hcc hca hP ⊢
    simp only [← Nat.add_assoc] at hcm hcc hca hP ⊢
    have hP4 := bound_weaken hP
    have hP3 := bound_weaken hP4
    have hP2 := bound_weaken hP3
    -- test, JNT
    obtain ⟨st1, ho1, hr1⟩ := k1 hnb s P hct ho hr (bound_weaken hP2)
    obtain ⟨_, h1, rfl⟩ := hcj 1 _ rfl
    obtain ⟨st2, ho2, hr2⟩ := jnt_step hnb ho1 hr1 hP2 hcj.opcode h1
      (Nat.le_trans (Nat.le_add_right _ _) (Nat.le_add_right _ _))
    -- consequent, JMP: the edge of the JNT arrives behind it
    obtain ⟨st3, ho3, hr3⟩ := k3 hnb _ _ hcc ho2 hr2 (List.forall_mem_cons.2 ⟨Nat.le_add_right _ _, hP3⟩)
    obtain ⟨_, g1, rfl⟩ := hcm 1 _ rfl
    obtain ⟨st4, ho4, hr4⟩ := jmp_step hnb ho3 hr3 hP4 hcm.opcode g1 (Nat.le_add_right _ _)
    -- alternative: the edge of the JMP arrives at its end
    obtain ⟨st5, ho5, hr5⟩ := k5 hnb _ _ hca ho4 hr4 (List.forall_mem_cons.2 ⟨Nat.le_refl _, hP⟩)
    exact ⟨st1.trans (st2.trans (st3.trans (st4.trans st5))), ho5, Ready.land ho5 hr5⟩

end Marwood.Vm.Verify
