import Marwood.Lemmas.SimStepA
/-!
# Heap simulation, opcode lemmas: `store_operand`, JMP JNT MOV MOVIMM PUSH PUSHIMM PUSHACC HALT

None of these allocates: the successors are related under the same `φ`.
-/
namespace Marwood.Lemmas.Sim
open Marwood Marwood.Vm Marwood.Vm.Concrete
open Marwood.Heap (GcState)

theorem ORel.refl_eq {α : Type} (x : Outcome α) : ORel Eq x x := by
  cases x with
  | ok a => exact .ok rfl
  | err e => exact .err
  | panic m => exact .panic

section
variable (ext : ExtOps) {φ : Inj} {s t : St CHeap}

/-! The changed components are variables, never terms like `s.stack.push v`: checking `{ s with stack := st }.stack`
against such a term would unfold `push`. -/

theorem Sim.setHeap (h : Sim φ s t) {hp hp' : CHeap} (hh : HeapSim φ hp hp') :
    Sim φ { s with heap := hp } { t with heap := hp' } :=
  ⟨hh, h.stack, h.acc, h.ep, h.ipL, h.ipO, h.bp⟩

theorem Sim.setHeapStack (h : Sim φ s t) {ψ : Inj} (le : φ.le ψ) {hp hp' : CHeap} {st st' : Stack}
    (hh : HeapSim ψ hp hp') (hst : StackRel ψ st st') :
    Sim ψ { s with heap := hp, stack := st } { t with heap := hp', stack := st' } :=
  ⟨hh, hst, h.acc.mono le, h.ep.mono le, h.ipL.mono le, h.ipO, h.bp⟩

theorem Sim.setHeapStackIp (h : Sim φ s t) {ψ : Inj} (le : φ.le ψ) {hp hp' : CHeap} {st st' : Stack}
    (hh : HeapSim ψ hp hp') (hst : StackRel ψ st st') (o : Nat) :
    Sim ψ { s with heap := hp, stack := st, ipO := o } { t with heap := hp', stack := st', ipO := o } :=
  ⟨hh, hst, h.acc.mono le, h.ep.mono le, h.ipL.mono le, rfl, h.bp⟩

theorem Sim.setFrame (h : Sim φ s t) {st st' : Stack} (hst : StackRel φ st st') {l l' : Nat} (hl : AddrRel φ l l')
    (bp : Nat) :
    Sim φ { s with stack := st, bp := bp, ipL := l, ipO := 0 } { t with stack := st', bp := bp, ipL := l', ipO := 0 } :=
  ⟨h.heap, hst, h.acc, h.ep, hl, rfl, rfl⟩

theorem Sim.setAcc (h : Sim φ s t) {v v'} (hv : VRel φ v v') :
    Sim φ { s with acc := v } { t with acc := v' } :=
  ⟨h.heap, h.stack, hv, h.ep, h.ipL, h.ipO, h.bp⟩

theorem Sim.setIp (h : Sim φ s t) {l l' : Nat} (hl : AddrRel φ l l') (o : Nat) :
    Sim φ { s with ipL := l, ipO := o } { t with ipL := l', ipO := o } :=
  ⟨h.heap, h.stack, h.acc, h.ep, hl, rfl, h.bp⟩

theorem Sim.push (h : Sim φ s t) {v v'} (hv : VRel φ v v') : Sim φ (s.push v) (t.push v') :=
  ⟨h.heap, h.stack.push hv, h.acc, h.ep, h.ipL, h.ipO, h.bp⟩

theorem Sim.next (h : Sim φ s t) : Sim φ { s with ipO := s.ipO + 1 } { t with ipO := t.ipO + 1 } := by
  have := h.setIpO (s.ipO + 1); rw [h.ipO] at this ⊢; exact this

theorem storeOperand_rel (h : Sim φ s t) (ok : SizeOk s.heap) (ok' : SizeOk t.heap) {c0 : VCell}
    (hc : CodeAt s c0) (hj : isJumpOp c0 = false) {v v'} (hv : VRel φ v v') :
    ORel (Sim φ) (storeOperand (concreteOps ext) s v) (storeOperand (concreteOps ext) t v') := by
  unfold storeOperand
  refine (readOperand_rel ext h ok ok' hc).bind ?_
  rintro ⟨d, s1⟩ ⟨d', t1⟩ ⟨_, hd, e1, e2, _, _⟩
  simp only at hd e1 e2 ⊢
  have hd := hd hj
  subst e1 e2
  have hs1 := h.next
  cases hd with
  | ptr h1 => exact .ok (hs1.setHeap (setAt_sim h.heap ok ok' h1 hv))
  | pair _ _ => exact .err
  | closure _ _ => exact .err
  | lexEnvPtr _ => exact .err
  | envPtr _ => exact .err
  | instrPtr _ => exact .err
  | atom hf =>
    cases d with
    | acc => exact .ok (hs1.setAcc hv)
    | bpOffset off =>
      -- no liveness needed: a write of related values keeps `StackRelK` at any index
      have ebp : (t.bp : Int) + off = (s.bp : Int) + off := by rw [h.bp]
      simp only [ebp]
      refine (h.stack.setOffset ((s.bp : Int) + off) hv).bind ?_
      intro st st' ⟨hst, hsp⟩
      refine .ok ⟨h.heap, ?_, h.acc, h.ep, h.ipL, by simp [h.ipO], h.bp⟩
      show StackRelK φ st.sp st st'
      rw [hsp]; exact hst
    | globSlot n => exact .ok (hs1.setHeap (globPut_sim h.heap n hv))
    | lexEnvSlot n =>
      simp only [concreteOps]
      have he := envGet_rel h.heap ok ok' h.ep n
      generalize envGet s.heap s.ep n = g at he
      generalize envGet t.heap t.ep n = g' at he
      -- as in `loadOperand_rel`
      split
      · cases he; exact .err
      · cases he with
        | some r =>
          cases r with
          | lexEnvPtr a =>
            rename_i e k e'
            dsimp only
            have hp := envPut_rel h.heap ok ok' a k hv
            generalize envPut s.heap e k v = r at hp
            generalize envPut t.heap e' k v' = r' at hp
            cases hp with
            | none => exact .err
            | some hh => exact .ok (hs1.setHeap hh)
          | atom hf => simp [addrFree] at hf
      · rename_i hne
        cases he with
        | some r =>
          have hp := envPut_rel h.heap ok ok' h.ep n hv
          generalize envPut s.heap s.ep n v = r1 at hp ⊢
          generalize envPut t.heap t.ep n v' = r1' at hp ⊢
          cases hp with
          | none =>
            dsimp only
            split
            · rename_i heq; cases heq
            · rename_i heq; cases heq; cases r <;> exact (hne _ _ rfl).elim
            · exact .err
          | some hh =>
            dsimp only
            split
            · rename_i heq; cases heq
            · rename_i heq; cases heq; cases r <;> exact (hne _ _ rfl).elim
            · exact .ok (hs1.setHeap hh)
    | _ => first | exact .err | simp [addrFree] at hf

theorem exec_jmp (h : Sim φ s t) (ok : SizeOk s.heap) (ok' : SizeOk t.heap) (hc : CodeAt s (.opcode .jmp)) :
    ORel (PostB φ) (exec (concreteOps ext) .jmp s) (exec (concreteOps ext) .jmp t) := by
  unfold exec
  refine (readOperand_rel ext h ok ok' hc).bind ?_
  rintro ⟨v, s1⟩ ⟨v', t1⟩ ⟨hv, _, e1, e2, _, _⟩
  simp only at hv e1 e2 ⊢
  have hv : v = v' := hv rfl
  subst hv e1 e2
  refine (ORel.refl_eq (asPtr v)).bind ?_
  intro o o' ho
  subst ho
  exact .ok ⟨rfl, .of_sim (h.setIpO o)⟩

theorem exec_jnt (h : Sim φ s t) (ok : SizeOk s.heap) (ok' : SizeOk t.heap) (hc : CodeAt s (.opcode .jnt)) :
    ORel (PostB φ) (exec (concreteOps ext) .jnt s) (exec (concreteOps ext) .jnt t) := by
  unfold exec
  refine (readOperand_rel ext h ok ok' hc).bind ?_
  rintro ⟨v, s1⟩ ⟨v', t1⟩ ⟨hv, _, e1, e2, _, _⟩
  simp only at hv e1 e2 ⊢
  have hv : v = v' := hv rfl
  subst hv e1 e2
  refine (ORel.refl_eq (asPtr v)).bind ?_
  intro o o' ho
  subst ho
  simp only [concreteOps]
  have hd := deref_rel h.heap ok ok' h.acc
  generalize deref s.heap s.acc = d at hd
  generalize deref t.heap t.acc = d' at hd
  cases hd with
  | atom hf =>
    split
    · exact .ok ⟨rfl, .of_sim (h.setIpO o)⟩
    · exact .ok ⟨rfl, .of_sim h.next⟩
  | _ => exact .ok ⟨rfl, .of_sim h.next⟩

theorem exec_mov (h : Sim φ s t) (ok : SizeOk s.heap) (ok' : SizeOk t.heap) (hc : CodeAt s (.opcode .mov))
    (live : BpLive s) :
    ORel (PostB φ) (exec (concreteOps ext) .mov s) (exec (concreteOps ext) .mov t) := by
  unfold exec
  refine (loadOperand_rel ext h ok ok' hc rfl live).bind ?_
  rintro ⟨v, s1⟩ ⟨v', t1⟩ ⟨hv, e1, e2, c1, hc1, hop⟩
  simp only at hv e1 e2 hc1 ⊢
  subst e1 e2
  refine (storeOperand_rel ext h.next ok ok' hc1 (isJumpOp_opcode c1 hop) hv).bind ?_
  intro s2 t2 h2
  exact .ok ⟨rfl, .of_sim h2⟩

theorem exec_movImm (h : Sim φ s t) (ok : SizeOk s.heap) (ok' : SizeOk t.heap) (hc : CodeAt s (.opcode .movImm)) :
    ORel (PostB φ) (exec (concreteOps ext) .movImm s) (exec (concreteOps ext) .movImm t) := by
  unfold exec
  refine (readOperand_rel ext h ok ok' hc).bind ?_
  rintro ⟨v, s1⟩ ⟨v', t1⟩ ⟨_, hv, e1, e2, hc1, hop⟩
  simp only at hv e1 e2 hc1 hop ⊢
  have hv := hv rfl
  subst e1 e2
  refine (storeOperand_rel ext h.next ok ok' hc1 (isJumpOp_opcode v hop) hv).bind ?_
  intro s2 t2 h2
  exact .ok ⟨rfl, .of_sim h2⟩

theorem exec_push (h : Sim φ s t) (ok : SizeOk s.heap) (ok' : SizeOk t.heap) (hc : CodeAt s (.opcode .push))
    (live : BpLive s) :
    ORel (PostB φ) (exec (concreteOps ext) .push s) (exec (concreteOps ext) .push t) := by
  unfold exec
  refine (loadOperand_rel ext h ok ok' hc rfl live).bind ?_
  rintro ⟨v, s1⟩ ⟨v', t1⟩ ⟨hv, e1, e2, _⟩
  simp only at hv e1 e2 ⊢
  subst e1 e2
  exact .ok ⟨rfl, .of_sim (h.next.push hv)⟩

theorem exec_pushImm (h : Sim φ s t) (ok : SizeOk s.heap) (ok' : SizeOk t.heap) (hc : CodeAt s (.opcode .pushImm)) :
    ORel (PostB φ) (exec (concreteOps ext) .pushImm s) (exec (concreteOps ext) .pushImm t) := by
  unfold exec
  refine (readOperand_rel ext h ok ok' hc).bind ?_
  rintro ⟨v, s1⟩ ⟨v', t1⟩ ⟨_, hv, e1, e2, _⟩
  simp only at hv e1 e2 ⊢
  have hv := hv rfl
  subst e1 e2
  exact .ok ⟨rfl, .of_sim (h.next.push hv)⟩

theorem exec_pushAcc (h : Sim φ s t) :
    ORel (PostB φ) (exec (concreteOps ext) .pushAcc s) (exec (concreteOps ext) .pushAcc t) :=
  .ok ⟨rfl, .of_sim (h.push h.acc)⟩

theorem exec_halt (h : Sim φ s t) :
    ORel (PostB φ) (exec (concreteOps ext) .halt s) (exec (concreteOps ext) .halt t) :=
  .ok ⟨rfl, .of_sim h⟩

end

end Marwood.Lemmas.Sim
