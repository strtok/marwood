import Marwood.Proofs.C16
/-!
# Reading what `write` wrote (C10, T10.1): tokens of the printed text and what the parser makes of them

For a datum printed inside `text = pre ++ body ++ rest0`: `ScanSeg pre body rest0 tsd` — the scanner, arriving at
`body`, emits the tokens `tsd` and continues with `rest0`; `ReadsD … d'` — moreover the parser, given `tsd ++ k`,
returns `d'` and leaves `k`; `ReadsRest`, `ReadsElems` — the same for the tail of a list after its first element
(`listF`) and for the elements of a vector up to and including `)` (`vectorF`). The rules are in `PrintRead.lean`, the
induction over the datum in `PrintRoundtrip.lean`.
-/
namespace Marwood
open Marwood.Proofs.C16

/-- a symbol the reader produces from its own spelling: before a delimiter it is one token, of type `Symbol` (`a`,
`1+`), or of type `Number` with a spelling that is not a number (`-`, `-a`, `1/0`) -/
def SymTok (fo : FloatOps) (s : Text) : Prop :=
  ∀ rest, Delim rest →
    ScansAs s .symbol rest ∨ (ScansAs s .number rest ∧ parseWithExactness fo s .unspecified 10 = .err ())

theorem identShape_symTok (fo : FloatOps) {s : Text} (h : identShape s = true) : SymTok fo s :=
  fun rest hd => Or.inl (scansAs_ident h rest hd)

theorem numSymShape_symTok (fo : FloatOps) {s : Text} (h : numSymShape s = true) : SymTok fo s :=
  fun rest hd => Or.inl (scansAs_numSym h rest hd)

def properSpine : Datum → Bool
  | .nil => true
  | .pair _ d => properSpine d
  | _ => false

/-- assumed of Rust's `{}`, `{:e}`, `{:.1}`: a printed finite double is a digit or sign, then only characters that
continue a number token (digits, `a`–`f` and so `e`, `.`, `/`); tested by C10's stream `float-text-hypotheses` -/
structure FloatLex (fo : FloatOps) : Prop where
  shape : ∀ f : F64, f.isFinite = true → NumberShape (printNumber fo (.flo f))

/-- the data C10 quantifies over. `properSpine e` says only that a vector's elements are carried as a proper spine
(`Datum.vec`); it excludes no vector of marwood. -/
def Readable (fo : FloatOps) : Datum → Prop
  | .bool _ => True
  | .char _ => True
  | .str _ => True
  | .nil => True
  | .num n => n.WF = true ∧ ∀ f, n = .flo f → f.isFinite = true
  | .sym s => SymTok fo s
  | .pair a d => Readable fo a ∧ Readable fo d
  | .vec e => Readable fo e ∧ properSpine e = true
  | _ => False

/-- what the reader returns for the written form -/
def canon : Datum → Datum
  | .num n => .num (normalize n)
  | .pair a d => .pair (canon a) (canon d)
  | .vec e => .vec (canon e)
  | d => d

def HeadOk (ts : List Token) : Prop := ∃ t rest, ts = t :: rest ∧ t.ty ≠ .rightParen ∧ t.ty ≠ .dot

def ScanSeg (pre body rest0 : Text) (tsd : List Token) : Prop :=
  ∀ ts0, ScanTo (byteLen pre + byteLen body) rest0 ts0 → ScanTo (byteLen pre) (body ++ rest0) (tsd ++ ts0)

def ReadsD (fo : FloatOps) (text pre body rest0 : Text) (d' : Datum) : Prop :=
  ∃ tsd, ScanSeg pre body rest0 tsd ∧ HeadOk tsd ∧
    ∀ k, ∃ f, parseF fo text f (tsd ++ k) = some (.ok (d', k))

/-- `acc ≠ []`: `parse_improper_list_tail` rejects a dot with nothing before it. `firstChar text start = '('`:
`closeList` compares the closing bracket with the opening one, and the printer writes only `(`. -/
def ReadsRest (fo : FloatOps) (text pre body rest0 : Text) (tail' : Datum) : Prop :=
  ∃ tsd, ScanSeg pre body rest0 tsd ∧
    ∀ start acc k, acc ≠ [] → firstChar text start = .ok '(' →
      ∃ f, listF fo text f start acc (tsd ++ k) = some (.ok (Datum.ofListTail acc tail', k))

def ReadsElems (fo : FloatOps) (text pre body rest0 : Text) (xs : List Datum) : Prop :=
  ∃ tsd, ScanSeg pre body rest0 tsd ∧
    ∀ acc k, ∃ f, vectorF fo text f acc (tsd ++ k) = some (.ok (Datum.vecOfList (acc ++ xs), k))

theorem ScanSeg.nil (pre rest0 : Text) : ScanSeg pre [] rest0 [] := by
  intro ts0 h
  simpa using h

theorem ScanSeg.tok {pre sp rest0 : Text} {ty : TokType} (hs : ScansAs sp ty rest0) :
    ScanSeg pre sp rest0 [⟨byteLen pre, byteLen pre + byteLen sp, ty⟩] := by
  intro ts0 h
  exact ScanTo.tok hs h

/-- the token with the two things the parser asks of it: its type and its spelling -/
theorem ScanSeg.tok1 {text pre sp rest0 : Text} {ty : TokType} (hs : ScansAs sp ty rest0)
    (htext : text = pre ++ sp ++ rest0) :
    ∃ t, ScanSeg pre sp rest0 [t] ∧ t.ty = ty ∧ tokSpan text t = .ok sp :=
  ⟨_, ScanSeg.tok hs, rfl, by rw [htext]; exact tokSpan_at pre sp rest0 ty⟩

theorem ScanSeg.space (pre rest0 : Text) : ScanSeg pre [' '] rest0 [] := by
  intro ts0 h
  have hb : byteLen [' '] = 1 := by decide
  rw [hb] at h
  exact ScanTo.space h

theorem ScanSeg.append {pre a b rest0 : Text} {ta tb : List Token}
    (ha : ScanSeg pre a (b ++ rest0) ta) (hb : ScanSeg (pre ++ a) b rest0 tb) :
    ScanSeg pre (a ++ b) rest0 (ta ++ tb) := by
  intro ts0 h
  have h1 := hb ts0 (by rw [byteLen_append]; rw [byteLen_append] at h; rw [Nat.add_assoc]; exact h)
  rw [byteLen_append] at h1
  have h2 := ha _ h1
  simpa [List.append_assoc] using h2

theorem firstChar_of_span {text : Text} {t : Token} {c : Char} {cs : Text} (h : tokSpan text t = .ok (c :: cs)) :
    firstChar text t = .ok c := by
  unfold firstChar
  rw [h]

theorem firstChar_mid (pre : Text) (c : Char) (cs post : Text) (ty : TokType) :
    firstChar (pre ++ (c :: cs) ++ post) ⟨byteLen pre, byteLen pre + byteLen (c :: cs), ty⟩ = .ok c :=
  firstChar_of_span (tokSpan_at pre (c :: cs) post ty)

theorem listF_mono (fo : FloatOps) (text : Text) {f f' : Nat} {start : Token} {acc : List Datum}
    {ts : List Token} {r : PRes (Datum × List Token)} (hle : f ≤ f')
    (h : listF fo text f start acc ts = some r) : listF fo text f' start acc ts = some r :=
  mono_of_succ (fun f r => (fuel_succ fo text f).2.1 start acc ts r) hle h

theorem tailF_mono (fo : FloatOps) (text : Text) {f f' : Nat} {acc : List Datum}
    {ts : List Token} {r : PRes (Datum × List Token)} (hle : f ≤ f')
    (h : tailF fo text f acc ts = some r) : tailF fo text f' acc ts = some r :=
  mono_of_succ (fun f r => (fuel_succ fo text f).2.2.1 acc ts r) hle h

theorem vectorF_mono (fo : FloatOps) (text : Text) {f f' : Nat} {acc : List Datum}
    {ts : List Token} {r : PRes (Datum × List Token)} (hle : f ≤ f')
    (h : vectorF fo text f acc ts = some r) : vectorF fo text f' acc ts = some r :=
  mono_of_succ (fun f r => (fuel_succ fo text f).2.2.2 acc ts r) hle h

theorem listF_elem (fo : FloatOps) (text : Text) {start : Token} {acc : List Datum} {ts rest : List Token}
    {x : Datum} {r : PRes (Datum × List Token)} {f1 f2 : Nat} (hh : HeadOk ts)
    (h1 : parseF fo text f1 ts = some (.ok (x, rest)))
    (h2 : listF fo text f2 start (acc ++ [x]) rest = some r) :
    listF fo text (max f1 f2 + 1) start acc ts = some r := by
  obtain ⟨t, ts0, rfl, hr, hd⟩ := hh
  rw [listF]
  simp only [hr, hd, if_false]
  rw [parseF_mono fo text (Nat.le_max_left f1 f2) h1]
  exact listF_mono fo text (Nat.le_max_right f1 f2) h2

theorem vectorF_elem (fo : FloatOps) (text : Text) {acc : List Datum} {ts rest : List Token}
    {x : Datum} {r : PRes (Datum × List Token)} {f1 f2 : Nat} (hh : HeadOk ts)
    (h1 : parseF fo text f1 ts = some (.ok (x, rest)))
    (h2 : vectorF fo text f2 (acc ++ [x]) rest = some r) :
    vectorF fo text (max f1 f2 + 1) acc ts = some r := by
  obtain ⟨t, ts0, rfl, hr, hd⟩ := hh
  rw [vectorF]
  simp only [hr, hd, if_false]
  rw [parseF_mono fo text (Nat.le_max_left f1 f2) h1]
  exact vectorF_mono fo text (Nat.le_max_right f1 f2) h2

theorem ofListTail_nil (acc : List Datum) : Datum.ofListTail acc .nil = Datum.ofList acc := by
  induction acc with
  | nil => rfl
  | cons x xs ih => simp [Datum.ofListTail, Datum.ofList, ih]

theorem ofListTail_snoc (acc : List Datum) (x t : Datum) :
    Datum.ofListTail (acc ++ [x]) t = Datum.ofListTail acc (.pair x t) := by
  induction acc with
  | nil => rfl
  | cons y ys ih => simp [Datum.ofListTail, ih]

theorem newImproperList_ne_nil {acc : List Datum} (h : acc ≠ []) (t : Datum) :
    newImproperList acc t = Datum.ofListTail acc t := by
  cases acc with
  | nil => exact absurd rfl h
  | cons x xs => rfl

theorem ofList_map_canon : ∀ e : Datum, properSpine e = true →
    Datum.ofList ((Datum.listElems e).map canon) = canon e := by
  intro e
  induction e with
  | nil => intro _; rfl
  | pair a d _ ihd =>
    intro h
    simp only [properSpine] at h
    simp only [Datum.listElems, List.map_cons, Datum.ofList, canon, ihd h]
  | _ => intro h; cases h

theorem readsD_atom (fo : FloatOps) {text pre sp rest0 : Text} {ty : TokType} {d' : Datum}
    (htext : text = pre ++ sp ++ rest0) (hs : ScansAs sp ty rest0)
    (hk : tokKind ty = .atom) (h1 : ty ≠ .rightParen) (h2 : ty ≠ .dot)
    (hp : ∀ (t : Token) (k : List Token), t.ty = ty → tokSpan text t = .ok sp →
      parseAtom fo text t k = .ok (d', k)) :
    ReadsD fo text pre sp rest0 d' := by
  obtain ⟨t, seg, hty, hsp⟩ := ScanSeg.tok1 hs htext
  refine ⟨[t], seg, ⟨t, [], rfl, hty ▸ h1, hty ▸ h2⟩, fun k => ⟨1, ?_⟩⟩
  rw [List.singleton_append, parseF]
  simp only [hty, hk, hp t k hty hsp]

theorem parseAtom_number (fo : FloatOps) (text : Text) (t : Token) (k : List Token) (sp : Text)
    (hty : t.ty = .number) (hsp : tokSpan text t = .ok sp) :
    parseAtom fo text t k =
      match parseWithExactness fo sp .unspecified 10 with
      | .ok n => .ok (.num n, k)
      | .err () => .ok (.sym sp, k)
      | .panic m => .panic m := by
  have e : parseAtom fo text t k = parseNumberTok fo text .unspecified 10 t k := by
    unfold parseAtom
    simp only [hty]
  exact e.trans (parseNumberTok_body fo text .unspecified 10 t k sp (.inl hty) hsp)

theorem parseWithExactness_unspecified (fo : FloatOps) (s : Text) (n : Num)
    (h : parseNumber fo 10 s = .ok n) : parseWithExactness fo s .unspecified 10 = .ok n := by
  unfold parseWithExactness
  rw [h]

end Marwood
