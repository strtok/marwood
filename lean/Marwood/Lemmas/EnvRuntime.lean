import Marwood.Vm.Env
/-!
# Lemmas for T02.3: run-time environments share / separate locations
-/
namespace Marwood.Vm.Env
open Marwood.Scope

variable {α : Type}

theorem bind_ok {ε β γ : Type} {x : Except ε β} {f : β → Except ε γ} {c : γ} :
    x >>= f = .ok c ↔ ∃ b, x = .ok b ∧ f b = .ok c := by
  cases x <;> simp [bind, Except.bind]

theorem getEnv_ok {h : Envs α} {e : Nat} {a : Array (Slot α)} : h.getEnv e = .ok a ↔ h.envs[e]? = some a := by
  unfold Envs.getEnv; split <;> simp_all

theorem getSlot_ok {a : Array (Slot α)} {i : Nat} {g : Slot α} : getSlot a i = .ok g ↔ a[i]? = some g := by
  unfold getSlot; split <;> simp_all

/-- the location slot `s` of environment `e` denotes when it holds `g` -/
def Slot.loc (g : Slot α) (e s : Nat) : Nat × Nat :=
  match g with | .ptr p q => (p, q) | _ => (e, s)

theorem target_ok {h : Envs α} {e s : Nat} {r : Nat × Nat} :
    target h e s = .ok r ↔ ∃ a g, h.envs[e]? = some a ∧ a[s]? = some g ∧ r = g.loc e s := by
  simp only [target, bind_ok, getEnv_ok, getSlot_ok]
  constructor
  · rintro ⟨a, ha, g, hg, hr⟩
    refine ⟨a, g, ha, hg, ?_⟩
    cases g <;> cases hr <;> rfl
  · rintro ⟨a, g, ha, hg, rfl⟩
    refine ⟨a, ha, g, hg, ?_⟩
    cases g <;> rfl

theorem target_eq (h : Envs α) (e s : Nat) (a : Array (Slot α)) (g : Slot α)
    (ha : h.envs[e]? = some a) (hg : a[s]? = some g) :
    target h e s = .ok (match g with | .ptr p q => (p, q) | _ => (e, s)) :=
  target_ok.mpr ⟨a, g, ha, hg, by cases g <;> rfl⟩

theorem store_ok {h h' : Envs α} {ep s : Nat} {v : α} :
    store h ep s v = .ok h' ↔ ∃ e t a, target h ep s = .ok (e, t) ∧ h.envs[e]? = some a ∧ t < a.size ∧
      h' = ⟨h.envs.setIfInBounds e (a.setIfInBounds t (.val v))⟩ := by
  simp only [store, bind_ok, getEnv_ok, putSlot]
  constructor
  · rintro ⟨⟨e, t⟩, ht, a, ha, a', hp, hs⟩
    split at hp
    · cases hp; cases hs; exact ⟨e, t, a, ht, ha, ‹_›, rfl⟩
    · cases hp
  · rintro ⟨e, t, a, ht, ha, hlt, rfl⟩
    exact ⟨(e, t), ht, a, ha, _, if_pos hlt, rfl⟩

theorem load_eq_target (h : Envs α) (ep slot : Nat) :
    load h ep slot = (target h ep slot >>= fun r => h.getEnv r.1 >>= fun a => getSlot a r.2) := by
  simp only [load, target, bind, Except.bind]
  cases he : h.getEnv ep with
  | error e => rfl
  | ok a =>
    simp only
    cases hg : getSlot a slot with
    | error e => rfl
    | ok g =>
      cases g <;> simp [pure, Except.pure, he, hg]

theorem load_ok {h : Envs α} {ep s : Nat} {g : Slot α} :
    load h ep s = .ok g ↔ ∃ e i a, target h ep s = .ok (e, i) ∧ h.envs[e]? = some a ∧ a[i]? = some g := by
  simp only [load_eq_target, bind_ok, getEnv_ok, getSlot_ok, Prod.exists]
  exact ⟨fun ⟨e, i, ht, a, ha, hg⟩ => ⟨e, i, a, ht, ha, hg⟩, fun ⟨e, i, a, ht, ha, hg⟩ => ⟨e, i, ht, a, ha, hg⟩⟩

theorem buildClosureEnvironment_ok {h h1 : Envs α} {ep c : Nat} {args : List α} {em : Envmap} :
    buildClosureEnvironment h ep args em = .ok (h1, c) ↔
      ∃ ss, closureSlots h ep args em = .ok ss ∧ h.push ss.toArray = (h1, c) := by
  simp only [buildClosureEnvironment, bind_ok, pure, Except.pure, Except.ok.injEq]

theorem buildLexicalEnvironment_ok {h h1 : Envs α} {cenv a : Nat} {args : List α} {em : Envmap} :
    buildLexicalEnvironment h cenv args em = .ok (h1, a) ↔
      ∃ c ss, h.envs[cenv]? = some c ∧ activationSlots cenv args 0 c.toList em = .ok ss ∧
        h.push ss.toArray = (h1, a) := by
  simp only [buildLexicalEnvironment, bind_ok, getEnv_ok, pure, Except.pure, Except.ok.injEq, exists_and_left]

theorem push_get_new (h : Envs α) (a : Array (Slot α)) : (h.push a).1.envs[(h.push a).2]? = some a := by
  simp [Envs.push]

theorem push_get_old (h : Envs α) (a b : Array (Slot α)) (e : Nat) (he : h.envs[e]? = some b) :
    (h.push a).1.envs[e]? = some b := by
  have hlt : e < h.envs.size := (Array.getElem?_eq_some_iff.mp he).1
  simp [Envs.push, Array.getElem?_push, Nat.ne_of_lt hlt, he]

theorem closureSlots_get (h : Envs α) (ep : Nat) (args : List α) (em : Envmap) (ss : List (Slot α))
    (hs : closureSlots h ep args em = .ok ss) (i : Nat) (x : Name) (src : Source)
    (he : em[i]? = some (x, src)) :
    ∃ v, closureSlot h ep args src = .ok v ∧ ss[i]? = some v := by
  induction em generalizing i ss with
  | nil => simp at he
  | cons p em ih =>
    simp only [closureSlots] at hs
    obtain ⟨v0, h1, hs⟩ := bind_ok.mp hs
    obtain ⟨ss', h2, hs⟩ := bind_ok.mp hs
    cases hs
    cases i with
    | zero => cases he; exact ⟨v0, h1, rfl⟩
    | succ j => exact ih ss' h2 j he

theorem closureSlot_iofEnv (h : Envs α) (ep : Nat) (args : List α) (k : Nat) (r : Nat × Nat)
    (ht : target h ep k = .ok r) : closureSlot h ep args (.iofEnv k) = .ok (.ptr r.1 r.2) := by
  obtain ⟨a, g, ha, hg, rfl⟩ := target_ok.mp ht
  simp only [closureSlot, getEnv_ok.mpr ha, getSlot_ok.mpr hg, bind, Except.bind]
  cases g <;> rfl

/-- CLOSURE: for a name its map takes from slot `k` of the enclosing map, the closure holds a pointer to the location
    that slot denotes in the creating activation `ep`. -/
theorem closure_captures (h h1 : Envs α) (ep c : Nat) (args : List α) (em : Envmap)
    (hb : buildClosureEnvironment h ep args em = .ok (h1, c))
    (s : Nat) (x : Name) (k : Nat) (he : em[s]? = some (x, .iofEnv k))
    (r : Nat × Nat) (ht : target h ep k = .ok r) :
    c = h.envs.size ∧ ∃ a, h1.envs[c]? = some a ∧ a[s]? = some (.ptr r.1 r.2) := by
  obtain ⟨ss, hs, hb⟩ := buildClosureEnvironment_ok.mp hb
  cases hb
  obtain ⟨v, hv, hg⟩ := closureSlots_get h ep args em ss hs s x _ he
  rw [closureSlot_iofEnv h ep args k r ht] at hv
  cases hv
  exact ⟨rfl, ss.toArray, push_get_new h _, by simpa using hg⟩

theorem activationSlots_get (cenv : Nat) (args : List α) (i0 : Nat) (olds : List (Slot α)) (em : Envmap)
    (ss : List (Slot α)) (hs : activationSlots cenv args i0 olds em = .ok ss)
    (i : Nat) (x : Name) (src : Source) (old : Slot α)
    (he : em[i]? = some (x, src)) (ho : olds[i]? = some old) :
    ∃ v, activationSlot cenv args (i0 + i) old src = .ok v ∧ ss[i]? = some v := by
  induction em generalizing i i0 olds ss with
  | nil => simp at he
  | cons p em ih =>
    cases olds with
    | nil => simp at ho
    | cons o olds' =>
      simp only [activationSlots] at hs
      obtain ⟨v0, h1, hs⟩ := bind_ok.mp hs
      obtain ⟨ss', h2, hs⟩ := bind_ok.mp hs
      cases hs
      cases i with
      | zero => cases he; cases ho; exact ⟨v0, h1, rfl⟩
      | succ j =>
        obtain ⟨v, hv, hg⟩ := ih (i0 + 1) olds' ss' h2 j he ho
        exact ⟨v, by rwa [Nat.add_right_comm, Nat.add_assoc] at hv, hg⟩

/-- ENTER: the activation's environment is a new one, and its slot for a map entry is the argument for
    `Argument(n)`, the closure environment's pointer for a captured variable, the closure environment's (undefined)
    slot for an internal definition. -/
theorem activation_slots (h h1 : Envs α) (cenv a : Nat) (args : List α) (em : Envmap)
    (hb : buildLexicalEnvironment h cenv args em = .ok (h1, a))
    (s : Nat) (x : Name) (src : Source) (he : em[s]? = some (x, src))
    (c : Array (Slot α)) (hc : h.envs[cenv]? = some c) (old : Slot α) (ho : c[s]? = some old) :
    a = h.envs.size ∧ ∃ arr v, h1.envs[a]? = some arr ∧ arr[s]? = some v ∧
      activationSlot cenv args s old src = .ok v := by
  obtain ⟨c', ss, hc', hs, hb⟩ := buildLexicalEnvironment_ok.mp hb
  cases hb
  cases hc.symm.trans hc'
  obtain ⟨v, hv, hg⟩ := activationSlots_get cenv args 0 c.toList em ss hs s x src old he (by simpa using ho)
  exact ⟨rfl, ss.toArray, v, push_get_new h _, by simpa using hg, by simpa using hv⟩

/-- what `Evolves` lets happen to one slot -/
def Slot.Keeps (g g' : Slot α) : Prop :=
  match g with | .ptr p q => g' = .ptr p q | _ => g'.isPtr = false

theorem Slot.Keeps.refl (g : Slot α) : g.Keeps g := by cases g <;> rfl

theorem Slot.Keeps.of_not_ptr {g g' : Slot α} (h : g.isPtr = false) (h' : g'.isPtr = false) : g.Keeps g' := by
  cases g <;> first | exact h' | cases h

theorem Slot.Keeps.isPtr {g g' : Slot α} (h : g.Keeps g') : g'.isPtr = g.isPtr := by
  cases g <;> first | exact h | (cases h; rfl)

theorem Slot.Keeps.trans {g1 g2 g3 : Slot α} (h12 : g1.Keeps g2) (h23 : g2.Keeps g3) : g1.Keeps g3 := by
  cases g1 with
  | ptr p q => cases h12; exact h23
  | _ => exact of_not_ptr rfl (h23.isPtr.trans h12)

theorem Slot.Keeps.eq_of_ptr {g : Slot α} {p q : Nat} (h : g.Keeps (.ptr p q)) : g = .ptr p q := by
  cases g <;> cases h <;> rfl

theorem Slot.Keeps.loc {g g' : Slot α} (h : g.Keeps g') (e s : Nat) : g'.loc e s = g.loc e s := by
  cases g with
  | ptr p q => cases h; rfl
  | _ => cases g' <;> first | rfl | cases h

/-- `h'` is a later heap: every environment of `h` is still there with the same number of slots,
    its pointer slots are unchanged and its value slots are still value slots -/
def Evolves (h h' : Envs α) : Prop :=
  h.envs.size ≤ h'.envs.size ∧
  ∀ (e : Nat) (a : Array (Slot α)), h.envs[e]? = some a → ∃ a' : Array (Slot α), h'.envs[e]? = some a' ∧ a'.size = a.size ∧
    ∀ (i : Nat) (g : Slot α), a[i]? = some g → ∃ g' : Slot α, a'[i]? = some g' ∧
      (match g with | .ptr p q => g' = .ptr p q | _ => g'.isPtr = false)

theorem Evolves.refl (h : Envs α) : Evolves h h :=
  ⟨Nat.le_refl _, fun _ a ha => ⟨a, ha, rfl, fun _ g hg => ⟨g, hg, Slot.Keeps.refl g⟩⟩⟩

theorem Evolves.trans {h1 h2 h3 : Envs α} (h12 : Evolves h1 h2) (h23 : Evolves h2 h3) : Evolves h1 h3 := by
  refine ⟨Nat.le_trans h12.1 h23.1, fun e a ha => ?_⟩
  obtain ⟨a2, ha2, hs2, hg2⟩ := h12.2 e a ha
  obtain ⟨a3, ha3, hs3, hg3⟩ := h23.2 e a2 ha2
  refine ⟨a3, ha3, hs3.trans hs2, fun i g hg => ?_⟩
  obtain ⟨g2, hg2', hm2⟩ := hg2 i g hg
  obtain ⟨g3, hg3', hm3⟩ := hg3 i g2 hg2'
  exact ⟨g3, hg3', Slot.Keeps.trans hm2 hm3⟩

theorem Evolves.push (h : Envs α) (a : Array (Slot α)) : Evolves h (h.push a).1 :=
  ⟨by simp [Envs.push], fun e b hb => ⟨b, push_get_old h a b e hb, rfl, fun _ g hg => ⟨g, hg, Slot.Keeps.refl g⟩⟩⟩

theorem buildClosureEnvironment_evolves (h h1 : Envs α) (ep c : Nat) (args : List α) (em : Envmap)
    (hb : buildClosureEnvironment h ep args em = .ok (h1, c)) : Evolves h h1 := by
  obtain ⟨ss, _, hb⟩ := buildClosureEnvironment_ok.mp hb
  cases hb
  exact Evolves.push h _

theorem buildLexicalEnvironment_evolves (h h1 : Envs α) (cenv a : Nat) (args : List α) (em : Envmap)
    (hb : buildLexicalEnvironment h cenv args em = .ok (h1, a)) : Evolves h h1 := by
  obtain ⟨c, ss, _, _, hb⟩ := buildLexicalEnvironment_ok.mp hb
  cases hb
  exact Evolves.push h _

/-- if the target slot held no pointer (one level of indirection), an assignment changes no slot's kind -/
theorem store_evolves (h h' : Envs α) (ep s : Nat) (v : α) (hs : store h ep s v = .ok h')
    (e t : Nat) (ht : target h ep s = .ok (e, t))
    (hone : ∀ a g, h.envs[e]? = some a → a[t]? = some g → g.isPtr = false) : Evolves h h' := by
  obtain ⟨e', t', a, ht', ha, hlt, rfl⟩ := store_ok.mp hs
  cases ht.symm.trans ht'
  have he : e < h.envs.size := (Array.getElem?_eq_some_iff.mp ha).1
  refine ⟨by simp, fun e0 a0 ha0 => ?_⟩
  by_cases hee : e = e0
  · subst hee
    cases ha.symm.trans ha0
    refine ⟨a.setIfInBounds t (.val v), by simp [he], by simp, fun i g hg => ?_⟩
    by_cases hti : t = i
    · subst hti
      exact ⟨.val v, by simp [hlt], Slot.Keeps.of_not_ptr (hone a g ha hg) rfl⟩
    · exact ⟨g, by simp [hti, hg], Slot.Keeps.refl g⟩
  · exact ⟨a0, by simp [hee, ha0], rfl, fun i g hg => ⟨g, hg, Slot.Keeps.refl g⟩⟩

theorem target_stable {h h' : Envs α} (hev : Evolves h h') (e s : Nat) (r : Nat × Nat)
    (ht : target h e s = .ok r) : target h' e s = .ok r := by
  obtain ⟨a, g, ha, hg, rfl⟩ := target_ok.mp ht
  obtain ⟨a', ha', _, hslots⟩ := hev.2 e a ha
  obtain ⟨g', hg', hm⟩ := hslots s g hg
  exact target_ok.mpr ⟨a', g', ha', hg', (Slot.Keeps.loc hm e s).symm⟩

theorem ptr_stable {h h' : Envs α} (hev : Evolves h h') (e s p q : Nat) (a : Array (Slot α))
    (ha : h.envs[e]? = some a) (hg : a[s]? = some (.ptr p q)) :
    ∃ a', h'.envs[e]? = some a' ∧ a'[s]? = some (.ptr p q) := by
  obtain ⟨a', ha', _, hslots⟩ := hev.2 e a ha
  obtain ⟨g', hg', hm⟩ := hslots s _ hg
  cases hm
  exact ⟨a', ha', hg'⟩

end Marwood.Vm.Env
