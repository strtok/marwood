import Marwood.Lemmas.StoreMapDefs
/-! # The pieces of `map-all` / `for-each-all`: `cons`, the `VARARG` list, `any? null?`, `map1 car/cdr`, `apply` -/
namespace Marwood.Store
open Outcome

theorem cons_boxed (s : Store) (a d : VCell) :
    ∃ s' p pa pd, cons s [a, d] = .ok (s', .ptr p) ∧ s'.cells[p]? = some (.pair pa pd) ∧
      Boxed s.cells.length s' pa a ∧ Boxed s.cells.length s' pd d ∧ Extends s s' ∧
      s.cells.length ≤ p := by
  obtain ⟨wd, hd1, hd2, hd3, -, -⟩ := put_boxed s d
  rcases hpd : s.put d with ⟨s1, dv⟩
  rw [hpd] at hd1 hd2 hd3
  simp only at hd1 hd2 hd3
  obtain ⟨wa, ha1, ha2, ha3, -, -⟩ := put_boxed s1 a
  rcases hpa : s1.put a with ⟨s2, av⟩
  rw [hpa] at ha1 ha2 ha3
  simp only at ha1 ha2 ha3
  subst hd1 ha1
  refine ⟨(s2.alloc (.pair wa wd)).1, s2.cells.length, wa, wd, ?_, alloc_cell s2 _,
    ha3.mono (alloc_extends s2 _) hd2.len,
    hd3.mono (ha2.trans (alloc_extends s2 _)) (Nat.le_refl _),
    (hd2.trans ha2).trans (alloc_extends s2 _), Nat.le_trans hd2.len ha2.len⟩
  simp only [cons, consRaw, hpd, hpa, VCell.asPtr_ptr, bind_ok]
  rfl

theorem Boxed.spineOff {M : Nat → Prop} {n0 : Nat} (hM : ∀ i, M i → i < n0) {s s' : Store}
    {w : Nat} {v c : VCell} {as : List Nat} (hb : Boxed n0 s' w v) (he : Extends s s')
    (h : SpineOff M s v as c) : SpineOff M s' (.ptr w) as c := by
  rcases hb with hb | ⟨h1, h2, h3⟩
  · subst hb; exact h.mono he
  · cases h with
    | imm hv hp =>
      exact .done (fun hm => by have := hM _ hm; have := h3 hv; omega) h2 (isPair_of_isValue hv hp)
    | done _ _ _ => simp [VCell.isPtr] at h1
    | cons _ _ _ => simp [VCell.isPtr] at h1

theorem cons_fresh {n : Nat} {s : Store} (hn : n ≤ s.cells.length) (y : VCell) {r : VCell}
    {rs : List Nat} (hr : SpineOff (· < n) s r rs .nil) :
    ∃ s' p ay, cons s [y, r] = .ok (s', .ptr p) ∧ Extends s s' ∧ Boxed s.cells.length s' ay y ∧
      SpineOff (· < n) s' (.ptr p) (ay :: rs) .nil := by
  obtain ⟨s', p, pa, pd, h1, h2, h3, h4, h5, h6⟩ := cons_boxed s y r
  refine ⟨s', p, pa, h1, h5, h3, .cons (fun h => by omega) h2 ?_⟩
  exact h4.spineOff (M := (· < n)) (fun i hi => Nat.lt_of_lt_of_le hi hn) h5 hr

/-- the loop of the `VARARG` instruction: a fresh chain in front of the accumulator -/
theorem listLoop_fresh {n : Nat} : ∀ (xs : List VCell) (s : Store) (acc : Nat) (accAs : List Nat)
    (accVs : List VCell), n ≤ s.cells.length → SpineOff (· < n) s (.ptr acc) accAs .nil →
    BoxedAll n s accAs accVs →
    ∃ s' p as, listLoop s xs acc = .ok (s', p) ∧ SpineOff (· < n) s' (.ptr p) as .nil ∧
      BoxedAll n s' as (xs.reverse ++ accVs) ∧ Extends s s' ∧ s'.vecs = s.vecs ∧ s'.strs = s.strs
  | [], s, acc, accAs, accVs, _, hl, hf => ⟨s, acc, accAs, rfl, hl, by simpa using hf, Extends.refl s, rfl, rfl⟩
  | x :: xs, s, acc, accAs, accVs, hn, hl, hf => by
    obtain ⟨w, h1, h2, h3, h4, h5⟩ := put_boxed s x
    have hext := alloc_extends (s.put x).1 (.pair w acc)
    obtain ⟨s', p, as, e1, e2, e3, e4, e5, e6⟩ := listLoop_fresh xs ((s.put x).1.alloc (.pair w acc)).1
      (s.put x).1.cells.length (w :: accAs) (x :: accVs) (by have := h2.len; simp; omega)
      (.cons (fun h => by have := h2.len; omega) (alloc_cell _ _) ((hl.mono h2).mono hext))
      (.cons (h3.mono hext hn) (hf.mono (h2.trans hext) (Nat.le_refl _)))
    refine ⟨s', p, as, ?_, e2, by simpa using e3, (h2.trans hext).trans e4, e5.trans h4, e6.trans h5⟩
    simp only [listLoop, h1, VCell.asPtr_ptr, bind_ok, put_pair]
    exact e1

/-- `Denotes` is `Boxed 0`: nothing asked of the addresses -/
theorem listLoop_spec : ∀ (xs : List VCell) (s : Store) (acc : Nat) (accAs : List Nat)
    (accVs : List VCell), IsList s (.ptr acc) accAs → DenotesAll s accAs accVs →
    ∃ s' p as, listLoop s xs acc = .ok (s', p) ∧ IsList s' (.ptr p) as ∧
      DenotesAll s' as (xs.reverse ++ accVs) ∧ Extends s s' ∧
      s'.vecs = s.vecs ∧ s'.strs = s.strs :=
  fun xs s acc accAs accVs hl hf =>
    let ⟨s', p, as, e1, e2, e3, e4⟩ := listLoop_fresh (n := 0) xs s acc accAs accVs (Nat.zero_le _)
      ((hl.spineOff rfl).weaken fun _ h => Nat.not_lt_zero _ h) hf.boxedAll
    ⟨s', p, as, e1, e2.isList, e3.denotesAll, e4⟩

theorem vecToListLoop_spec (xs : List VCell) (s : Store) (acc : Nat) (accAs : List Nat)
    (accVs : List VCell) (hl : IsList s (.ptr acc) accAs) (hf : DenotesAll s accAs accVs) :
    ∃ s' p as, vecToListLoop s xs (.ptr acc) = .ok (s', .ptr p) ∧ IsList s' (.ptr p) as ∧
      DenotesAll s' as (xs.reverse ++ accVs) ∧ Extends s s' ∧ s'.vecs = s.vecs := by
  obtain ⟨s', p, as, e1, e2, e3, e4, e5, _⟩ := listLoop_spec xs s acc accAs accVs hl hf
  exact ⟨s', p, as, by rw [vecToListLoop_eq, e1]; rfl, e2, e3, e4, e5⟩

theorem list_fresh (s : Store) (args : List VCell) :
    ∃ s' p as, list s args = .ok (s', .ptr p) ∧ SpineOff (· < s.cells.length) s' (.ptr p) as .nil ∧
      BoxedAll s.cells.length s' as args ∧ Extends s s' := by
  have hext := alloc_extends s .nil
  obtain ⟨s', p, as, e1, e2, e3, e4, -, -⟩ := listLoop_fresh (n := s.cells.length) args.reverse
    (s.alloc .nil).1 s.cells.length [] [] (by simp)
    (.done (fun h => Nat.lt_irrefl _ h) (alloc_cell s _) rfl) .nil
  refine ⟨s', p, as, ?_, e2, by simpa using e3, hext.trans e4⟩
  simp only [list, put_nil, VCell.asPtr_ptr, bind_ok]
  simp only [Store.alloc] at e1
  rw [e1]; rfl

theorem anyNull_spec {M : Nat → Prop} {s : Store} {xss : VCell} {ws : List Nat}
    (hx : SpineOff M s xss ws .nil) : ∀ {views : List (List Nat × VCell)} {fuel : Nat},
    HeadsOff M s ws views → ws.length < fuel → anyNull fuel s xss = .ok (views.any ended) := by
  generalize hc : VCell.nil = c at hx
  induction hx with
  | @imm v hv hp =>
    intro views fuel hh hf
    obtain ⟨f, rfl⟩ : ∃ f, fuel = f + 1 := ⟨fuel - 1, by omega⟩
    cases hh
    subst hc
    rfl
  | @done q c _ hcell hp =>
    intro views fuel hh hf
    obtain ⟨f, rfl⟩ : ∃ f, fuel = f + 1 := ⟨fuel - 1, by omega⟩
    cases hh
    simp only [anyNull, pairP_of_get (get_of_cell hcell), hp, bind_ok, Bool.not_false, if_true,
      List.any_nil]
  | @cons p a d as c _ hcell _ ih =>
    intro views fuel hh hf
    obtain ⟨f, rfl⟩ : ∃ f, fuel = f + 1 := ⟨fuel - 1, by omega⟩
    cases hh with
    | @cons _ v _ vs h1 h2 =>
      have hg := get_of_cell hcell
      simp only [anyNull, pairP_of_get hg, VCell.isPair_pair, bind_ok, Bool.not_true,
        Bool.false_eq_true, if_false, carV_ok hg, h1.nullP, cdrV_ok hg, List.any_cons]
      show (if (v.1.isEmpty && v.2.isNil) = true then _ else _) = Outcome.ok (ended v || _)
      unfold ended
      by_cases he : (v.1.isEmpty && v.2.isNil) = true
      · rw [if_pos he, he]; rfl
      · rw [if_neg he]
        have : (v.1.isEmpty && v.2.isNil) = false := by simpa using he
        rw [this, Bool.false_or]
        exact ih hc h2 (by simp at hf; omega)

theorem listElems_spec {s : Store} {l : VCell} {as : List Nat} (h : IsList s l as) :
    ∀ {fuel : Nat}, as.length < fuel → listElems fuel s l = .ok (as.map VCell.ptr) := by
  induction h with
  | nil hg =>
    intro fuel hf
    obtain ⟨f, rfl⟩ : ∃ f, fuel = f + 1 := ⟨fuel - 1, by omega⟩
    simp only [listElems, hg, bind_ok, List.map_nil]
  | cons hg _ ih =>
    intro fuel hf
    obtain ⟨f, rfl⟩ : ∃ f, fuel = f + 1 := ⟨fuel - 1, by omega⟩
    simp only [listElems, hg, bind_ok, ih (by simp at hf; omega), List.map_cons]

inductive ProjAll (h : Callee) (s : Store) : List Nat → List Nat → Prop
  | nil : ProjAll h s [] []
  | cons {w b : Nat} {ws bs : List Nat} :
      h s [.ptr w] = .ok (s, .ptr b) → ProjAll h s ws bs → ProjAll h s (w :: ws) (b :: bs)

theorem map1_proj {h : Callee} {M : Nat → Prop} {s : Store} {xs : VCell} {ws : List Nat}
    (hx : SpineOff M s xs ws .nil) : ∀ {bs : List Nat} {fuel : Nat}, ProjAll h s ws bs →
    ws.length < fuel →
    ∃ s1 r, map1 h fuel s xs = .ok (s1, r) ∧ Extends s s1 ∧
      SpineOff (· < s.cells.length) s1 r bs .nil := by
  generalize hc : VCell.nil = c at hx
  induction hx with
  | @imm v hv hp =>
    intro bs fuel hh hf
    obtain ⟨f, rfl⟩ : ∃ f, fuel = f + 1 := ⟨fuel - 1, by omega⟩
    cases hh
    subst hc
    exact ⟨s, .nil, rfl, Extends.refl s, .imm rfl rfl⟩
  | @done q c _ hcell hp =>
    intro bs fuel hh hf
    obtain ⟨f, rfl⟩ : ∃ f, fuel = f + 1 := ⟨fuel - 1, by omega⟩
    cases hh
    subst hc
    refine ⟨s, .nil, ?_, Extends.refl s, .imm rfl rfl⟩
    simp only [map1, nullP_of_get (get_of_cell hcell), VCell.isNil_nil, bind_ok, if_true]
  | @cons p a d as c _ hcell _ ih =>
    intro bs fuel hh hf
    obtain ⟨f, rfl⟩ : ∃ f, fuel = f + 1 := ⟨fuel - 1, by omega⟩
    cases hh with
    | @cons _ b _ bs' h1 h2 =>
      have hg := get_of_cell hcell
      subst hc
      obtain ⟨s1, r, e1, e2, e3⟩ := ih rfl h2 (by simp at hf; omega)
      obtain ⟨s2, p2, ay, c1, c2, c3, c4⟩ := cons_fresh (n := s.cells.length) e2.len (.ptr b) e3
      have hay : ay = b := by
        rcases c3 with c3 | ⟨c3, _⟩
        · cases c3; rfl
        · simp [VCell.isPtr] at c3
      subst hay
      refine ⟨s2, .ptr p2, ?_, e2.trans c2, c4⟩
      simp only [map1, nullP_of_get hg, isNil_pair, bind_ok, Bool.false_eq_true, if_false,
        carV_ok hg, h1, cdrV_ok hg, e1]
      exact c1

theorem map1_car_err {M : Nat → Prop} {s : Store} {xs : VCell} {ws : List Nat}
    (hx : SpineOff M s xs ws .nil) : ∀ {views : List (List Nat × VCell)} {fuel : Nat},
    HeadsOff M s ws views → views.any noPair = true → ws.length < fuel →
    map1 car fuel s xs = .err .pair := by
  generalize hc : VCell.nil = c at hx
  induction hx with
  | @imm v hv hp => intro views fuel hh ha; cases hh; simp at ha
  | @done q c _ hcell hp => intro views fuel hh ha; cases hh; simp at ha
  | @cons p a d as c _ hcell _ ih =>
    intro views fuel hh ha hf
    obtain ⟨f, rfl⟩ : ∃ f, fuel = f + 1 := ⟨fuel - 1, by omega⟩
    cases hh with
    | @cons _ v _ vs h1 h2 =>
      have hg := get_of_cell hcell
      simp only [map1, nullP_of_get hg, isNil_pair, bind_ok, Bool.false_eq_true, if_false,
        carV_ok hg]
      obtain ⟨as0, c0⟩ := v
      cases h1 with
      | imm _ hp' => simp [VCell.isPtr] at hp'
      | done _ hc1 hp1 =>
        rw [car_err (get_of_cell hc1) hp1]; rfl
      | @cons _ a1 d1 as1 _ _ hc1 _ =>
        have hv1 : noPair (a1 :: as1, c0) = false := rfl
        rw [List.any_cons, hv1, Bool.false_or] at ha
        rw [car_ok (get_of_cell hc1)]
        simp only [bind_ok, cdrV_ok hg]
        rw [ih hc h2 ha (by simp at hf; omega)]
        rfl

theorem heads_step {M : Nat → Prop} {s : Store} {ws : List Nat} {views : List (List Nat × VCell)}
    (hh : HeadsOff M s ws views) (hne : views.any noPair = false) :
    ProjAll car s ws (views.map hd) ∧
      ∃ ds, ProjAll cdr s ws ds ∧ HeadsOff M s ds (views.map tl) := by
  induction hh with
  | nil => exact ⟨.nil, [], .nil, .nil⟩
  | @cons w v ws vs h1 _ ih =>
    rw [List.any_cons, Bool.or_eq_false_iff] at hne
    obtain ⟨i1, ds, i2, i3⟩ := ih hne.2
    obtain ⟨as, c⟩ := v
    cases h1 with
    | imm _ hp' => simp [VCell.isPtr] at hp'
    | done _ _ _ => simp [noPair] at hne
    | @cons _ a d as' _ _ hc1 ht =>
      exact ⟨.cons (car_ok (get_of_cell hc1)) i1, d :: ds, .cons (cdr_ok (get_of_cell hc1)) i2, .cons ht i3⟩

end Marwood.Store
