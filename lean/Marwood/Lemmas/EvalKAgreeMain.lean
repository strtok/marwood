import Marwood.Lemmas.EvalKAgreeBody
import Marwood.Lemmas.EvalKAgreeCond
import Marwood.Lemmas.EvalKAgreeQq
import Marwood.Lemmas.EvalKAgreeApply
/-! # `Spec.EvalK` without `call/cc` is `Spec.Eval` — special forms, expressions, the main theorem -/
namespace Marwood.Lemmas.EvalKAgree
open Marwood Marwood.Spec.Eval Marwood.Spec.EvalK

variable {r : Rec}

/-- split the machine side's match, rewrite the other side's scrutinee with what was learnt -/
local macro "msplit" : tactic => `(tactic| (split <;> try simp only [*]))
/-- the fall-through branch of a syntax match: both sides raise the syntax error -/
local macro "mwild" : tactic => `(tactic| first
  | exact Sim.throw _ _ _ _
  | (split <;> first | exact Sim.throw _ _ _ _ | (exfalso; simp_all)))

theorem sim_kw (hr : SimRec r) (ρ : Env) (k : Kw) (rest : Datum) (σ : St) (κ : Kont) (ks : Array Kont) :
    Sim (kwGo ρ k rest κ σ ks) (evalKw r ρ k rest σ) κ ks := by
  cases k <;> simp only [kwGo, evalKw]
  case quote =>
    msplit
    · exact sim_withM_ret _ _ _ _
    · mwild
  case quasiquote =>
    msplit
    · exact sim_qq hr _ _ _ _ _ _
    · mwild
  case unquote => exact Sim.throw _ _ _ _
  case lambda =>
    msplit
    · exact sim_withM_ret _ _ _ _
    · mwild
  case define => exact Sim.throw _ _ _ _
  case setBang =>
    msplit
    · msplit
      · mwild
      · apply Sim.evalBind hr
        intro v σ' _
        simp only [retGo]
        exact sim_withM_pure (assignVar ρ _ v) (fun _ => Val.void) σ' κ ks
    · mwild
  case if_ =>
    msplit
    · apply Sim.evalBind hr
      intro v σ' _
      simp only [retGo]
      msplit
      · exact hr.eval _ _ _ _ _
      · exact Sim.pure _ _ _ _
    · apply Sim.evalBind hr
      intro v σ' _
      simp only [retGo]
      msplit
      · exact hr.eval _ _ _ _ _
      · exact hr.eval _ _ _ _ _
    · mwild
  case let_ =>
    msplit
    · msplit
      · msplit
        · mwild
        · apply sim_args_nil hr
          intro vs σ'
          exact sim_argsDone_namedLet hr ρ _ _ _ vs σ' κ ks
      · mwild
    · msplit
      · apply sim_args_nil hr
        intro vs σ'
        exact sim_argsDone_letBody hr ρ _ _ vs σ' κ ks
      · mwild
    · mwild
  case letStar =>
    msplit
    · msplit
      · exact sim_letStar hr _ _ _ _ _ _
      · mwild
    · mwild
  case letrec =>
    msplit
    · msplit
      · apply Sim.withM
        intro ρ' σ' _
        exact sim_letrec hr ρ' _ _ σ' κ ks
      · mwild
    · mwild
  case begin_ =>
    msplit
    · exact sim_exprs hr _ _ _ _ _
    · mwild
  case cond =>
    msplit
    · exact sim_cond hr ρ _ σ κ ks
    · mwild
  case case_ =>
    msplit
    · msplit
      · apply Sim.evalBind hr
        intro v σ' _
        simp only [retGo]
        exact sim_case hr ρ v _ σ' κ ks
      · mwild
    · mwild
  case and_ =>
    msplit
    · exact sim_and hr ρ _ σ κ ks
    · mwild
  case or_ =>
    msplit
    · exact sim_or hr ρ _ σ κ ks
    · mwild
  case when_ =>
    msplit
    · apply Sim.evalBind hr
      intro v σ' _
      simp only [retGo]
      cases truthy v
      · exact Sim.pure _ _ _ _
      · exact sim_exprs hr _ _ _ _ _
    · mwild
  case unless_ =>
    msplit
    · apply Sim.evalBind hr
      intro v σ' _
      simp only [retGo]
      cases truthy v
      · exact sim_exprs hr _ _ _ _ _
      · exact Sim.pure _ _ _ _
    · mwild
  case delay =>
    msplit
    · exact sim_withM_pure _ (fun l => Val.promise l) σ κ ks
    · mwild

theorem sim_application (hr : SimRec r) (ρ : Env) (f rest : Datum) (σ : St) (κ : Kont) (ks : Array Kont) :
    Sim (match properList rest with
          | some es => argsGo ρ [] es (.call f) κ σ ks
          | none => failWith .syntax σ ks)
      ((match properList rest with
          | some es => (do
              let vs ← evalArgs r ρ es
              let fv ← r.eval f ρ
              r.apply fv vs : M Val)
          | none => throw .syntax) σ) κ ks := by
  cases properList rest with
  | none => exact Sim.throw _ _ _ _
  | some es =>
    apply sim_args_nil hr
    intro vs σ'
    exact sim_argsDone_call hr ρ f vs σ' κ ks

theorem sim_ev (hr : SimRec r) (e : Datum) (ρ : Env) (σ : St) (κ : Kont) (ks : Array Kont) :
    Sim (evGo e ρ κ σ ks) (evalStep r e ρ σ) κ ks := by
  cases e <;> simp only [evGo, evalStep]
  case pair f rest =>
    cases f <;> simp only []
    case sym s =>
      cases kwOf s with
      | some k => exact sim_kw hr _ _ _ _ _ _
      | none => exact sim_application hr ρ _ rest σ κ ks
    all_goals exact sim_application hr ρ _ rest σ κ ks
  all_goals first
    | exact Sim.throw _ _ _ _
    | exact sim_withM_ret _ _ _ _

theorem simRec_step (hr : SimRec r) : SimRec { eval := evalStep r, apply := applyStep r } where
  eval e ρ σ κ ks := Sim.ev (sim_ev hr e ρ σ κ ks)
  apply f args σ κ ks := Sim.app (by
    show Sim (applyGo f args κ σ ks) _ κ ks
    exact sim_applyGo hr (fun ρ body σ κ ks => sim_body hr ρ body σ κ ks) f args σ κ ks)

/-- **the machine without `call/cc` simulates `Spec.Eval` at every fuel** -/
theorem simRec_evalN : ∀ n, SimRec (evalN n)
  | 0 => { eval := fun _ _ _ _ _ => trivial, apply := fun _ _ _ _ _ => trivial }
  | n+1 => simRec_step (simRec_evalN n)

end Marwood.Lemmas.EvalKAgree
