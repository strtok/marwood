import Marwood.Lemmas.ListExtSim
import Marwood.Lemmas.ListExtGood
import Marwood.Lemmas.ListExtCode
import Marwood.Lemmas.ListExtProc
import Marwood.Lemmas.ListExtDemo
import Marwood.Lemmas.ListExtC03
import Marwood.Proofs.C18

/-! Corollaries of `Proofs/C18.lean` at the real builtins `listExtWith` (see Lemmas/ListExtProps.lean for the overview). -/

namespace Marwood.Proofs.C18
open Marwood Marwood.Heap Marwood.Vm Marwood.Vm.Concrete Marwood.Lemmas.Sim Marwood.Lemmas.Good Marwood.Proofs.C03
  Marwood.Lemmas.MachineSym

theorem stackDiscAlong_listExt (eqTag : String → String → Bool) (force : Bool) {s0 : St CHeap}
    (h0 : VmOk (listExtWith eqTag) (listExtWith_codeLawsV eqTag) s0) (p0 : PInv s0)
    (sb : SizeBounded (machine (listExtWith eqTag) force) s0) :
    StackDiscAlong (machine (listExtWith eqTag) force) s0 :=
  stackDiscAlong_of_wfs force (listExtWith_laws eqTag) (listExtWith_good eqTag) h0 sb
    (calleeOkAlong_listExt eqTag force h0 p0 sb)

/-- **T18.1/T18.2 at the real builtins**: in every state the machine reaches — through any number of `cons`,
    `set-car!`, `eq?`, … calls and of collections — two symbol values sitting anywhere a first-class value can sit
    are equal iff their names are equal -/
theorem symbols_interned_listExt (eqTag : String → String → Bool) (force : Bool) {s0 : St CHeap}
    (h0 : VmOk (listExtWith eqTag) (listExtWith_codeLawsV eqTag) s0) (p0 : PInv s0)
    (sb : SizeBounded (machine (listExtWith eqTag) force) s0) {s : St CHeap}
    (hr : Reaches (machine (listExtWith eqTag) force) s0 s)
    {v w : Vm.VCell} {n m : Text} (lv : Loc s v) (lw : Loc s w) (sv : SymVal s.heap v n) (sw : SymVal s.heap w m) :
    v = w ↔ n = m :=
  symbols_interned_in_every_reachable_state force (listExtWith_laws eqTag) (listExtWith_good eqTag) h0.1 sb
    (stackDiscAlong_listExt eqTag force h0 p0 sb) hr lv lw sv sw

/-- production: every allocated symbol cell of the state after an instruction (a builtin call included) is THE
    cell of its name -/
theorem symbol_production_interns_listExt (eqTag : String → String → Bool) (force : Bool) {s0 : St CHeap}
    (h0 : VmOk (listExtWith eqTag) (listExtWith_codeLawsV eqTag) s0) (p0 : PInv s0)
    (sb : SizeBounded (machine (listExtWith eqTag) force) s0) {s s' : St CHeap}
    (hr : Reaches (machine (listExtWith eqTag) force) s0 s)
    (hs : (machine (listExtWith eqTag) force).step s = .next s' ∨ (machine (listExtWith eqTag) force).step s = .halt s')
    {p : Nat} {n : Text} (hc : SymCell s'.heap p n) (hn : (toHeap s'.heap).NonFree p) :
    symLookup s'.heap n = some p ∧ ∀ q, SymCell s'.heap q n → (toHeap s'.heap).NonFree q → q = p :=
  symbol_production_interns_machine force (listExtWith_laws eqTag) (listExtWith_good eqTag) h0.1 sb
    (stackDiscAlong_listExt eqTag force h0 p0 sb) hr hs hc hn

end Marwood.Proofs.C18
