import Marwood.Lemmas.CompileView
/-!
# The code the compiler model emits at a `(call/cc e)` site

`compile_callcc_site`: for `(call/cc e)` — any operator that is not a special form, one operand — in operand or tail
position the emitted code is exactly `<code of e> ; PUSH ; PUSHIMM argc 1 ; <code of the operator> ; CALL | TCALL`
(T01.4 `application_operand_order` for one operand). The operand's value and `argc 1` are thus the last two cells
pushed before the CALL: the shape of the machine state `s0` of `Lemmas/ContResume.lean`. Only the equation between code
lists is proved here; that the machine running this code reaches such an `s0` is not.

`compileExpr` spends one unit of fuel on the application and `compileArgs` one more on the operand, hence `fuel + 3`
for the site, `fuel + 2` for the operator, `fuel + 1` for the operand; the operator's code starts behind the operand's
code, its PUSH (one cell) and `PUSHIMM argc` (two cells), hence `base + ecode.length + 1 + 2`.
-/
namespace Marwood.Vm
open Marwood

def callccName : Text := ['c','a','l','l','/','c','c']
def callccLongName : Text :=
  ['c','a','l','l','-','w','i','t','h','-','c','u','r','r','e','n','t','-','c','o','n','t','i','n','u','a','t','i','o','n']

/-- a one-operand application site -/
theorem one_operand_site (fuel : Nat) (st : CState) (c : Ctx) (base : Nat) (tail : Bool)
    (proc e : Datum) (st' : CState) (code : List BC)
    (hn : ∀ kw ∈ specialForms, proc.isSymStr kw = false)
    (h : compileExpr (fuel + 3) st c base tail (.pair proc (.pair e .nil)) = .ok (st', code)) :
    ∃ st1 ecode pcode,
      compileExpr (fuel + 1) st c base false e = .ok (st1, ecode) ∧
      compileExpr (fuel + 2) st1 c (base + ecode.length + 1 + 2) false proc = .ok (st', pcode) ∧
      code = ecode ++ [.op .pushAcc, .op .pushImm, .argc 1] ++ pcode
              ++ [.op (if tail then .tcallAcc else .callAcc)] := by
  have hk := headKind_app hn
  cases compileExpr_view h
  case app st1 acode pcode n _ h1 h2 =>
    cases compileArgs_view h1 with
    | cons he hrest =>
      cases compileArgs_view hrest with
      | nil _ =>
        refine ⟨_, _, pcode, he, ?_, by simp⟩
        simpa [Nat.add_assoc] using h2
    | nil hr => cases hr
  case const hd => cases hd
  -- the other views are those of a special form
  all_goals exact absurd ‹headKind proc = _› (by rw [hk]; decide)

/-- the `(call/cc e)` site, under either name of the procedure -/
theorem compile_callcc_site (fuel : Nat) (st : CState) (c : Ctx) (base : Nat) (tail : Bool)
    (name : Text) (hname : name = callccName ∨ name = callccLongName)
    (e : Datum) (st' : CState) (code : List BC)
    (h : compileExpr (fuel + 3) st c base tail (.pair (.sym name) (.pair e .nil)) = .ok (st', code)) :
    ∃ st1 ecode pcode,
      compileExpr (fuel + 1) st c base false e = .ok (st1, ecode) ∧
      compileExpr (fuel + 2) st1 c (base + ecode.length + 1 + 2) false (.sym name) = .ok (st', pcode) ∧
      code = ecode ++ [.op .pushAcc, .op .pushImm, .argc 1] ++ pcode
              ++ [.op (if tail then .tcallAcc else .callAcc)] := by
  refine one_operand_site fuel st c base tail (.sym name) e st' code ?_ h
  rcases hname with rfl | rfl <;> decide

end Marwood.Vm
