import Marwood.Lemmas.ConcreteLawsGc
import Marwood.Lemmas.CalleeCongr
import Marwood.Lemmas.StackWFBpLive
import Marwood.Lemmas.SimStepA
/-!
# The concrete machine: the guard is invisible, `BpLive` and `LiveLaws` are theorems

In a `CalleeOk` state one instruction of the callee-guarded machine `gops ext` is one of `concreteOps ext` (`step_wc`,
Lemmas/CalleeCongr.lean). `BpLive`, the side condition of Lemmas/SimStepA.lean, follows from WF-stack of the concrete
instance. `LiveLaws` (Lemmas/ContResumeStep.lean): CLOSURE's environment construction does not read the stack
(`CInvG.noIofArg`), ENTER's reads argument cells of the frame it has just completed.
-/
namespace Marwood.Vm.Concrete
open Marwood Marwood.Vm Marwood.Vm.Verify

theorem gops_eq (ext : ExtOps) : gops ext = (concreteOps ext).withCallee gcallee := rfl

/-- the guard is invisible in a `CalleeOk` state -/
theorem step_gops (ext : ExtOps) {s : St CHeap} (h : CalleeOk s) :
    step (gops ext) s = step (concreteOps ext) s := by
  rw [gops_eq]; exact step_wc _ _ s h

/-- `Sim.Good.bpLive`; the `Good` of a run takes it from `stackDisc_of_wfs` (Lemmas/StackDiscOfWFS.lean), the same
    argument over the value-typed `concreteLawsV`. -/
theorem simBpLive_of_wfs {ext : ExtOps} {ecl : ExtCodeLaws ext} {s : St CHeap} {K : List FDesc}
    (hw : WFS (concreteLaws ext ecl) s K) : Marwood.Lemmas.Sim.BpLive { s with ipO := s.ipO + 1 } := by
  intro l off hl hb
  simp only at hl hb
  have hf : (gops ext).fetch s.heap s.ipL (s.ipO + 1) = some (.bpOffset off) := by
    show (match lambdaAt s.heap s.ipL with | some lam => lam.bc[s.ipO + 1]? | none => none) = _
    rw [hl]; exact hb
  obtain ⟨_, h2, h3⟩ := bpLive_operand_of_wfs hw hf
  show (s.bp : Int) + off ≤ s.stack.sp
  omega

theorem closureSlots_stack (h : CHeap) (ep bp : Nat) (a b : Stack) :
    ∀ (em : List (VCell × Source)), (∀ x ∈ em, ∀ n, x.2 ≠ Source.iofArg n) →
      closureSlots h ep bp a em = closureSlots h ep bp b em := by
  intro em
  induction em with
  | nil => intro _; rfl
  | cons x rest ih =>
    intro hno
    obtain ⟨sym, src⟩ := x
    unfold closureSlots
    have h1 : closureSlot h ep bp a src = closureSlot h ep bp b src := by
      cases src with
      | iofArg n => exact absurd rfl (hno (sym, .iofArg n) (by simp) n)
      | _ => rfl
    rw [h1, ih (fun y hy => hno y (List.mem_cons_of_mem _ hy))]

theorem activationSlot_stack {a b : Stack} {bp : Nat} (hbp : bp + 4 = a.sp) (hag : Agree a.sp a b)
    (env argc slot : Nat) (old : VCell) (src : Source) :
    activationSlot env bp argc a slot old src = activationSlot env bp argc b slot old src := by
  cases src with
  | arg n =>
    -- the `.arg` arm of `activationSlot` (Vm/ConcreteHeap.lean) written out; the site strings must follow the model's text
    show (usub argc n "enter: argc - arg" >>= fun d => usub bp d "enter: bp - (argc - arg)" >>= fun base =>
        a.get (base + 1)) =
      (usub argc n "enter: argc - arg" >>= fun d => usub bp d "enter: bp - (argc - arg)" >>= fun base =>
        b.get (base + 1))
    cases hu1 : usub argc n "enter: argc - arg" with
    | err e => rfl
    | panic m => rfl
    | ok d =>
      simp only [outcome_bind_ok]
      cases hu2 : usub bp d "enter: bp - (argc - arg)" with
      | err e => rfl
      | panic m => rfl
      | ok base =>
        simp only [outcome_bind_ok]
        have := (usub_ok hu2).2
        exact hag.get_eq (by omega)
  | _ => rfl

theorem activationSlots_stack {a b : Stack} {bp : Nat} (hbp : bp + 4 = a.sp) (hag : Agree a.sp a b)
    (env argc : Nat) : ∀ (em : List (VCell × Source)) (slot : Nat) (olds : List VCell),
      activationSlots env bp argc a slot olds em = activationSlots env bp argc b slot olds em := by
  intro em
  induction em with
  | nil => intro slot olds; cases olds <;> rfl
  | cons x rest ih =>
    intro slot olds
    obtain ⟨sym, src⟩ := x
    cases olds with
    | nil => rfl
    | cons old olds =>
      unfold activationSlots
      rw [activationSlot_stack hbp hag, ih]

/-- **`LiveLaws` for the concrete heap, as a theorem** -/
theorem concreteLiveLaws (ext : ExtOps) (ecl : ExtCodeLaws ext) : LiveLaws (concreteLaws ext ecl) where
  makeClosure := by
    intro h lam ep bp a b hi _
    have inv : CInv h := hi
    show makeClosure h lam ep bp a = makeClosure h lam ep bp b
    unfold makeClosure
    cases hl : lambdaAt h lam with
    | none => rfl
    | some l =>
      simp only
      rw [closureSlots_stack h ep bp a b l.envmap (inv.noIofArg lam l (lambdaAt_iff.mp hl))]
  makeActivation := by
    intro h lam env bp a b _ hbp hag
    show makeActivation h lam env bp a = makeActivation h lam env bp b
    unfold makeActivation
    cases hl : lambdaAt h lam with
    | none => rfl
    | some l =>
      simp only
      cases he : envAt h env with
      | none => rfl
      | some olds =>
        simp only
        rw [activationSlots_stack hbp hag]

end Marwood.Vm.Concrete
