import Marwood.Lemmas.StackStepEff
/-!
# What a builtin does: the relation `BuiltinEff`

CALL / TCALL of a builtin runs one of four functions (`apply`, `eval`, `call/cc`, or the heap's `builtinEval` on the
popped arguments) and then moves the value returned into `acc` (`accTail`). `eval`, `call/cc` and the ordinary
builtins are straight-line code and characterised exactly (`builtin*_iff`); `apply` runs two loops over the stack
and has no exact form: its case of `BuiltinEff` is the bare equation, and who needs more inverts `builtinApply`
(`builtinApply_eff` in `Lemmas/StackWFBuiltin.lean`). `runBuiltin_iff` reads `runBuiltin` as "a case of `BuiltinEff`,
then `accTail`".
-/
namespace Marwood.Vm
open Stack

attribute [local irreducible] Marwood.Vm.Stack.push

variable {H : Type} {ops : HeapOps H}

theorem builtinGeneric_iff {s s' : St H} {id : Nat} {v : VCell} : builtinGeneric ops id s = .ok (s', v) ↔
    ∃ n args st h, 0 < s.stack.sp ∧ s.stack.cells[s.stack.sp]? = some (.argc n) ∧
      popN n { s.stack with sp := s.stack.sp - 1 } = .ok (args, st) ∧ ops.builtinEval s.heap id args = .ok (h, v) ∧
      s' = { s with heap := h, stack := st } := by
  constructor
  · intro h
    unfold builtinGeneric at h
    obtain ⟨⟨a, st1⟩, hp1, h⟩ := bind_inv h
    obtain ⟨n, ha, h⟩ := bind_inv h
    obtain ⟨⟨args, st2⟩, hpn, h⟩ := bind_inv h
    obtain ⟨⟨h', r⟩, hbe, h⟩ := bind_inv h
    cases h
    obtain ⟨p0, p1, rfl⟩ := pop_eq_ok.mp hp1
    cases asArgc_ok ha
    exact ⟨n, args, st2, h', p0, p1, hpn, hbe, rfl⟩
  · rintro ⟨n, args, st, h, h0, hA, hpn, hbe, rfl⟩
    unfold builtinGeneric
    rw [pop_eq_ok.mpr ⟨h0, hA, rfl⟩]
    simp only [outcome_bind_ok, asArgc, hpn, hbe]

/-- the compiled lambda is returned, an empty argument block is left and `ip` is back on the CALL / TCALL -/
theorem builtinEvalProc_iff {s s' : St H} {lam : VCell} : builtinEvalProc ops s = .ok (s', lam) ↔
    ∃ e h, 2 ≤ s.stack.sp ∧ s.stack.cells[s.stack.sp]? = some (.argc 1) ∧ s.stack.cells[s.stack.sp - 1]? = some e ∧
      ops.compileEval s.heap (ops.deref s.heap e) = .ok (h, lam) ∧ 1 ≤ s.ipO ∧
      s' = { s with heap := h, stack := Stack.push { s.stack with sp := s.stack.sp - 2 } (.argc 0), ipO := s.ipO - 1 } := by
  constructor
  · intro h
    unfold builtinEvalProc at h
    obtain ⟨⟨a, st1⟩, hp1, h⟩ := bind_inv h
    obtain ⟨n, ha, h⟩ := bind_inv h
    obtain ⟨hn, h⟩ := ite_err_inv h
    obtain ⟨⟨e, st2⟩, hp2, h⟩ := bind_inv h
    obtain ⟨⟨h', l⟩, hce, h⟩ := bind_inv h
    obtain ⟨ipO, hu, h⟩ := bind_inv h
    cases h
    obtain ⟨p0, p1, rfl⟩ := pop_eq_ok.mp hp1
    obtain ⟨q0, q1, rfl⟩ := pop_eq_ok.mp hp2
    cases asArgc_ok ha
    cases Decidable.of_not_not hn
    obtain ⟨u1, rfl⟩ := usub_ok hu
    exact ⟨e, h', by have : 0 < s.stack.sp - 1 := q0; omega, p1, q1, hce, u1, rfl⟩
  · rintro ⟨e, h, h2, hA, he, hce, hip, rfl⟩
    unfold builtinEvalProc
    rw [pop_eq_ok.mpr ⟨by omega, hA, rfl⟩]
    simp only [outcome_bind_ok, asArgc, ne_eq, not_true_eq_false, if_false]
    rw [pop_eq_ok.mpr ⟨by show 0 < s.stack.sp - 1; omega, he, rfl⟩]
    simp only [outcome_bind_ok, hce, usub, hip, if_true]
    rfl

/-- the stack copy `call/cc` stores: `stack[0 ..= sp-2]` -/
def callccCopy (st : Stack) : Stack := { cells := st.cells.take (st.sp - 2 + 1), sp := st.sp - 2 }

/-- what `call/cc` leaves: receiver and `argc 1` replaced by the continuation and `argc 1`, `ip` back on the CALL / TCALL -/
def callccSt (ops : HeapOps H) (s : St H) : St H :=
  { s with heap := (ops.newCont s.heap ⟨callccCopy s.stack, s.ep, s.ipL, s.ipO, s.bp⟩).1,
           stack := (({ s.stack with sp := s.stack.sp - 2 } : Stack).push
             (ops.newCont s.heap ⟨callccCopy s.stack, s.ep, s.ipL, s.ipO, s.bp⟩).2).push (.argc 1),
           ipO := s.ipO - 1 }

theorem builtinCallcc_iff {s s' : St H} {proc : VCell} : builtinCallcc ops s = .ok (s', proc) ↔
    2 ≤ s.stack.sp ∧ s.stack.sp < s.stack.cells.length ∧ s.stack.cellAt s.stack.sp = .argc 1 ∧
      ops.isProcedure s.heap (ops.deref s.heap (s.stack.cellAt (s.stack.sp - 1))) = true ∧ 1 ≤ s.ipO ∧
      proc = s.stack.cellAt (s.stack.sp - 1) ∧ s' = callccSt ops s := by
  constructor
  · intro h
    unfold builtinCallcc at h
    obtain ⟨⟨a, st1⟩, hp1, h⟩ := bind_inv h
    obtain ⟨argc, ha, h⟩ := bind_inv h
    obtain ⟨hne, h⟩ := ite_err_inv h
    obtain ⟨⟨pr, st2⟩, hp2, h⟩ := bind_inv h
    obtain ⟨hpr, h⟩ := ite_err_inv h
    obtain ⟨cst, hcp, h⟩ := bind_inv h
    obtain ⟨ipO, hu, h⟩ := bind_inv h
    obtain ⟨u1, rfl⟩ := usub_ok hu
    obtain ⟨p0, p1, rfl⟩ := pop_eq_ok.mp hp1
    obtain ⟨q0, q1, rfl⟩ := pop_eq_ok.mp hp2
    cases asArgc_ok ha
    cases Decidable.of_not_not hne
    have hl := lt_of_some p1
    have h2 : 2 ≤ s.stack.sp := by have : 0 < s.stack.sp - 1 := q0; omega
    have hpr' : pr = s.stack.cellAt (s.stack.sp - 1) := (cellAt_of_some q1).symm
    subst hpr'
    have ec : cst = callccCopy s.stack := by
      unfold Stack.capture at hcp
      split at hcp
      · cases hcp; rfl
      · cases hcp
    subst ec
    cases h
    exact ⟨h2, hl, cellAt_of_some p1, by simpa using hpr, u1, rfl, rfl⟩
  · rintro ⟨h2, hl, hA, hpr, hip, rfl, rfl⟩
    have hc : Stack.capture { cells := s.stack.cells, sp := s.stack.sp - 1 - 1 } = .ok (callccCopy s.stack) := by
      unfold Stack.capture
      rw [if_pos (by show s.stack.sp - 1 - 1 + 1 ≤ s.stack.cells.length; omega)]
      rfl
    unfold builtinCallcc
    rw [pop_of_lt _ (by omega) hl, hA]
    simp only [outcome_bind_ok, asArgc, ne_eq, not_true_eq_false, if_false]
    rw [pop_of_lt _ (by show 0 < s.stack.sp - 1; omega) (by show s.stack.sp - 1 < s.stack.cells.length; omega)]
    simp only [outcome_bind_ok, cellAt_sp, hpr, Bool.not_true, Bool.false_eq_true, if_false, hc, usub, hip, if_true]
    rfl

theorem callccSt_stack (s : St H) (h2 : 2 ≤ s.stack.sp) :
    (callccSt ops s).stack.sp = s.stack.sp ∧
      (callccSt ops s).stack.cellAt (s.stack.sp - 1) = (ops.newCont s.heap ⟨callccCopy s.stack, s.ep, s.ipL, s.ipO, s.bp⟩).2 ∧
      (callccSt ops s).stack.cellAt s.stack.sp = .argc 1 ∧
      (∀ i, i + 2 ≤ s.stack.sp → (callccSt ops s).stack.cellAt i = s.stack.cellAt i) ∧
      (callccSt ops s).stack.sp < (callccSt ops s).stack.cells.length ∧
      s.stack.cells.length ≤ (callccSt ops s).stack.cells.length := by
  unfold callccSt
  have e1 : s.stack.sp - 2 + 1 = s.stack.sp - 1 := by omega
  have e2 : s.stack.sp - 2 + 1 + 1 = s.stack.sp := by omega
  refine ⟨by simp only [push_sp]; exact e2, ?_, ?_, fun i hi => ?_, push_sp_lt _ _,
    Nat.le_trans (push_len ({ s.stack with sp := s.stack.sp - 2 } : Stack) _) (push_len _ _)⟩
  · rw [push_cellAt, push_sp, push_cellAt, e2, e1, if_neg (by omega), if_pos rfl]
  · rw [push_cellAt, push_sp, e2, if_pos rfl]
  · rw [push_cellAt, push_sp, push_cellAt, e2, e1, if_neg (by omega), if_neg (by omega)]; rfl

theorem callccCopy_ok (st : Stack) (h2 : 2 ≤ st.sp) (hl : st.sp < st.cells.length) :
    (callccCopy st).sp + 2 = st.sp ∧ (callccCopy st).sp < (callccCopy st).cells.length ∧
      (callccCopy st).cells.length ≤ st.cells.length ∧
      ∀ i, i + 2 ≤ st.sp → (callccCopy st).cellAt i = st.cellAt i := by
  unfold callccCopy
  refine ⟨by show st.sp - 2 + 2 = _; omega, by simp only [List.length_take]; omega,
    by simp only [List.length_take]; omega, fun i hi => ?_⟩
  unfold Stack.cellAt
  simp only [List.getElem?_take]
  rw [if_pos (by omega)]

def accTail (ops : HeapOps H) (s : St H) (v : VCell) : Outcome (St H) :=
  match v with
  | .ptr p => .ok { s with acc := .ptr p }
  | v => let (h, r) := ops.maybePut s.heap v; .ok { s with heap := h, acc := r }

theorem runBuiltin_accTail (id : Nat) (s : St H) : runBuiltin ops id s =
    ((match ops.builtinKind s.heap id with
      | .apply => builtinApply ops s
      | .callcc => builtinCallcc ops s
      | .eval => builtinEvalProc ops s
      | .generic => builtinGeneric ops id s) >>= fun (s, v) => accTail ops s v) := by
  unfold runBuiltin accTail
  cases ops.builtinKind s.heap id <;> rfl

theorem accTail_cases {s s' : St H} {v : VCell} (h : accTail ops s v = .ok s') :
    ((∃ p, v = .ptr p) ∧ s' = { s with acc := v }) ∨
      s' = { s with heap := (ops.maybePut s.heap v).1, acc := (ops.maybePut s.heap v).2 } := by
  unfold accTail at h
  split at h
  · cases h; exact .inl ⟨⟨_, rfl⟩, rfl⟩
  · exact .inr (Outcome.ok.inj h).symm

theorem accTail_ok {s s' : St H} {v : VCell} (h : accTail ops s v = .ok s') :
    s'.stack = s.stack ∧ s'.ep = s.ep ∧ s'.ipL = s.ipL ∧ s'.ipO = s.ipO ∧ s'.bp = s.bp ∧
      (s'.heap = s.heap ∨ s'.heap = (ops.maybePut s.heap v).1) := by
  rcases accTail_cases h with ⟨_, rfl⟩ | rfl
  · exact ⟨rfl, rfl, rfl, rfl, rfl, .inl rfl⟩
  · exact ⟨rfl, rfl, rfl, rfl, rfl, .inr rfl⟩

inductive BuiltinEff (ops : HeapOps H) (id : Nat) (s : St H) : St H → VCell → Prop
  | apply {s2 : St H} {v : VCell} : ops.builtinKind s.heap id = .apply → builtinApply ops s = .ok (s2, v) →
      BuiltinEff ops id s s2 v
  | eval {e lam : VCell} {h : H} : ops.builtinKind s.heap id = .eval → 2 ≤ s.stack.sp →
      s.stack.cells[s.stack.sp]? = some (.argc 1) → s.stack.cells[s.stack.sp - 1]? = some e →
      ops.compileEval s.heap (ops.deref s.heap e) = .ok (h, lam) → 1 ≤ s.ipO →
      BuiltinEff ops id s { s with heap := h, stack := Stack.push { s.stack with sp := s.stack.sp - 2 } (.argc 0), ipO := s.ipO - 1 } lam
  | callcc : ops.builtinKind s.heap id = .callcc → 2 ≤ s.stack.sp → s.stack.sp < s.stack.cells.length →
      s.stack.cellAt s.stack.sp = .argc 1 →
      ops.isProcedure s.heap (ops.deref s.heap (s.stack.cellAt (s.stack.sp - 1))) = true → 1 ≤ s.ipO →
      BuiltinEff ops id s (callccSt ops s) (s.stack.cellAt (s.stack.sp - 1))
  | generic {n : Nat} {args : List VCell} {h : H} {v : VCell} : ops.builtinKind s.heap id = .generic →
      n + 1 ≤ s.stack.sp → s.stack.cells[s.stack.sp]? = some (.argc n) →
      popN n { s.stack with sp := s.stack.sp - 1 } = .ok (args, { s.stack with sp := s.stack.sp - 1 - n }) →
      ops.builtinEval s.heap id args = .ok (h, v) →
      BuiltinEff ops id s { s with heap := h, stack := { s.stack with sp := s.stack.sp - 1 - n } } v

theorem runBuiltin_iff {s s' : St H} {id : Nat} :
    runBuiltin ops id s = .ok s' ↔ ∃ s2 v, BuiltinEff ops id s s2 v ∧ accTail ops s2 v = .ok s' := by
  rw [runBuiltin_accTail]
  constructor
  · intro h
    obtain ⟨⟨s2, v⟩, hb, ht⟩ := bind_inv h
    refine ⟨s2, v, ?_, ht⟩
    cases hk : ops.builtinKind s.heap id <;> rw [hk] at hb <;> dsimp only at hb
    · exact .apply hk hb
    · obtain ⟨e, h, h2, hA, he, hce, hip, rfl⟩ := builtinEvalProc_iff.mp hb
      exact .eval hk h2 hA he hce hip
    · obtain ⟨h2, hl, hA, hp, hip, rfl, rfl⟩ := builtinCallcc_iff.mp hb
      exact .callcc hk h2 hl hA hp hip
    · obtain ⟨n, args, st, h, h0, hA, hpn, hbe, rfl⟩ := builtinGeneric_iff.mp hb
      obtain ⟨p1, p2⟩ := popN_ok hpn
      obtain ⟨cells, sp⟩ := st
      cases p2
      have e : sp = s.stack.sp - 1 - n := by have : sp + n = s.stack.sp - 1 := p1; omega
      subst e
      exact .generic hk (by have : s.stack.sp - 1 - n + n = s.stack.sp - 1 := p1; omega) hA hpn hbe
  · rintro ⟨s2, v, e, ht⟩
    cases e with
    | apply hk hb =>
      rw [hk]; dsimp only
      rw [hb]; exact ht
    | eval hk h2 hA he hce hip =>
      rw [hk]; dsimp only
      rw [builtinEvalProc_iff.mpr ⟨_, _, h2, hA, he, hce, hip, rfl⟩]; exact ht
    | callcc hk h2 hl hA hp hip =>
      rw [hk]; dsimp only
      rw [builtinCallcc_iff.mpr ⟨h2, hl, hA, hp, hip, rfl, rfl⟩]; exact ht
    | generic hk hn hA hpn hbe =>
      rw [hk]; dsimp only
      rw [builtinGeneric_iff.mpr ⟨_, _, _, _, by omega, hA, hpn, hbe, rfl⟩]; exact ht

end Marwood.Vm
