import Marwood.Lemmas.GoodHeapOps
/-!
# `Safe` as an invariant: the heap part of `run_one`, JMP JNT MOV MOVIMM PUSH PUSHIMM PUSHACC HALT RET

One successful instruction is a case of `Vm.StepEff` at `concreteOps ext` (`exec_eff`); the invariants argue by `cases` on
it, on `Vm.OpLoads` / `Vm.OpStores` for operands, and never unfold the machine. The per-opcode lemmas are `hg_<op>` (here:
`HG` and `acc`), `pv_<op>` (Lemmas/Lead*.lean) and `fv_<op>` (Lemmas/EnvFit*.lean), all over `exec (concreteOps ext) op (nx s0)`.
`RootsOk` of the successor is not proved per opcode: it is read off the simulation lemma applied to the state and itself
(`roots_of_sim`). `ExtGood` is what is assumed of the parameters `ExtOps` for this invariant.
-/
namespace Marwood.Lemmas.Good
open Marwood Marwood.Vm Marwood.Vm.Concrete Marwood.Lemmas.Sim
open Marwood.Heap (GcState WFHeap RootsOk vrefs vrefsList crefs)


theorem All2.mem_left {α β : Type} {R : α → β → Prop} {l l'} (h : All2 R l l') : ∀ a ∈ l, ∃ b, R a b := by
  induction h with
  | nil => intro a ha; cases ha
  | cons h1 _ ih =>
    intro a ha
    rcases List.mem_cons.mp ha with rfl | ha
    · exact ⟨_, h1⟩
    · exact ih a ha

theorem vrel_refs {ψ : Inj} {v v' : VCell} (h : VRel ψ v v') :
    ∀ y ∈ vrefs true (eraseV v), ∃ y', AddrRel ψ y y' := by
  intro y hy
  cases h with
  | pair h1 h2 =>
    simp only [eraseV, vrefs, List.mem_cons, List.not_mem_nil, or_false] at hy
    rcases hy with rfl | rfl
    · exact ⟨_, h1⟩
    · exact ⟨_, h2⟩
  | closure h1 h2 =>
    simp only [eraseV, vrefs, List.mem_cons, List.not_mem_nil, or_false] at hy
    rcases hy with rfl | rfl
    · exact ⟨_, h1⟩
    · exact ⟨_, h2⟩
  | lexEnvPtr h1 => simp only [eraseV, vrefs, List.mem_cons, List.not_mem_nil, or_false] at hy; subst hy; exact ⟨_, h1⟩
  | envPtr h1 => simp only [eraseV, vrefs, List.mem_cons, List.not_mem_nil, or_false] at hy; subst hy; exact ⟨_, h1⟩
  | instrPtr h1 => simp only [eraseV, vrefs, List.mem_cons, List.not_mem_nil, or_false] at hy; subst hy; exact ⟨_, h1⟩
  | ptr h1 => simp only [eraseV, vrefs, List.mem_cons, List.not_mem_nil, or_false] at hy; subst hy; exact ⟨_, h1⟩
  | atom h1 => rw [vrefs_addrFree h1] at hy; cases hy

theorem nf_of_addrRel {ψ : Inj} {h h' : CHeap} (hs : HeapSim ψ h h') {y y' : Nat} (r : AddrRel ψ y y') : NF h y := by
  rcases r with r | ⟨_, r⟩
  · obtain ⟨c, _, e1, _, _, f1, _⟩ := hs.cells y y' r
    left
    have hlt : y < h.gc.size := by rw [hs.inv.sizes]; exact lt_of_get_some e1
    have hnf : h.gc[y]? ≠ some GcState.free := fun e => f1 ((hs.inv.free_iff y).mpr e)
    have hnu := hs.inv.no_used y
    show (toHeap h).gc[y]? = some GcState.allocated ∨ (toHeap h).gc[y]? = some GcState.used
    show h.gc[y]? = some GcState.allocated ∨ h.gc[y]? = some GcState.used
    rw [Array.getElem?_eq_getElem hlt] at hnf hnu ⊢
    cases hg : h.gc[y] with
    | free => rw [hg] at hnf; exact absurd rfl hnf
    | allocated => left; rfl
    | used => right; rfl
  · exact .inr r

theorem roots_of_sim {ψ : Inj} {s : St CHeap} (h : Sim ψ s s) :
    RootsOk (toHeap s.heap) ((rootsOf s).refs true) := by
  have refs : ∀ {v w : VCell}, VRel ψ v w → VRefsOk s.heap v := fun hw y hy =>
    have ⟨_, hy'⟩ := vrel_refs hw y hy
    nf_of_addrRel h.heap hy'
  refine rootsOk_intro (fun y hy => ?_) (fun v hv => ?_) (fun i c hi hv => refs (h.stack.2.2 i hi c c hv hv))
    (refs h.acc) (nf_of_addrRel h.heap h.ipL) (nf_of_addrRel h.heap h.ep)
  · obtain ⟨b, hb⟩ := All2.mem_left h.heap.globSyms y hy
    exact nf_of_addrRel h.heap hb
  · obtain ⟨w, hw⟩ := All2.mem_left h.heap.globals _ hv
    exact refs hw

/-- what the builtin procedures, `eval`'s compiler and VPUSH's push preserve: the heap invariant; cells stay
    allocated; what they return mentions only allocated cells and is not a bare `LexicalEnvPtr` /
    `InstructionPointer`; VPUSH succeeds only on a vector -/
structure ExtGood (ext : ExtOps) : Prop where
  eval : ∀ (h : CHeap) (id : Nat) (args : List VCell) (h' : CHeap) (v : VCell), HG h → (∀ a ∈ args, VOk h a) →
    ext.builtinEval h id args = .ok (h', v) → Small h' → HG h' ∧ Mono h h' ∧ plainVal v = true ∧ VRefsOk h' v
  compile : ∀ (h : CHeap) (d : VCell) (h' : CHeap) (v : VCell), HG h → VRefsOk h d →
    ext.compileEval h d = .ok (h', v) → Small h' → HG h' ∧ Mono h h' ∧ plainVal v = true ∧ VRefsOk h' v
  vpush : ∀ (h : CHeap) (vec a : VCell) (h' : CHeap), HG h → VRefsOk h vec → VOk h a →
    ext.vectorPush h vec a = .ok h' → Small h' → HG h' ∧ Mono h h' ∧ plainGlob vec = true

theorem getAt_ok {h : CHeap} (g : HG h) {p : Nat} (hn : NF h p) : VRefsOk h (getAt h p) ∧ plainVal (getAt h p) = true := by
  unfold getAt
  cases hc : h.cells[p]? with
  | none => exact ⟨.of_addrFree _ rfl, rfl⟩
  | some c =>
    have hnf := hn.nonFree g.wf hc
    have hcl := g.closed hnf hc
    cases c with
    | val v =>
      have hp := g.plain.cells p v hc
      exact ⟨fun y hy => hcl y (vrefs_sub_crefs hp y hy), hp⟩
    | lexEnv _ => exact ⟨.of_addrFree _ rfl, rfl⟩
    | vector _ => exact ⟨.of_addrFree _ rfl, rfl⟩
    | lambda _ => exact ⟨.of_addrFree _ rfl, rfl⟩
    | cont _ => exact ⟨.of_addrFree _ rfl, rfl⟩

theorem deref_ok {h : CHeap} (g : HG h) {v : VCell} (hv : VRefsOk h v) (hp : plainVal v = true) :
    VRefsOk h (deref h v) ∧ plainVal (deref h v) = true := by
  cases v with
  | ptr p => exact getAt_ok g (VRefsOk.ptr.mp hv)
  | _ => exact ⟨hv, hp⟩

theorem fetch_inv {ext : ExtOps} {h : CHeap} {l o : Nat} {c : VCell}
    (hf : (concreteOps ext).fetch h l o = some c) : ∃ lam, lambdaAt h l = some lam ∧ lam.bc[o]? = some c := by
  change (match lambdaAt h l with | some lam => lam.bc[o]? | none => none) = some c at hf
  split at hf
  · rename_i lam hl
    exact ⟨lam, hl, hf⟩
  · cases hf

theorem code_operand_ok {s : St CHeap} (g : GoodI s) {l : CLambda} (hl : lambdaAt s.heap s.ipL = some l)
    {j : Nat} {op : Op} (hop : l.bc[j]? = some (.opcode op)) (hnj : isJumpOp (.opcode op) = false)
    {v : VCell} (hv : l.bc[j + 1]? = some v) : VRefsOk s.heap v := by
  have hc := lambdaAt_iff.mp hl
  have hnf := (roots_ipL g.roots).nonFree g.hg.wf hc
  have hcl := g.hg.closed hnf hc
  intro y hy
  refine hcl y ?_
  simp only [eraseC, crefs, Heap.lambdaRefs, if_true, List.mem_append]
  left; left
  refine bcRefs_mem l.bc false false (by intro h; cases h) (j + 1) v hv ?_ y hy
  simp only [prevFrom, hop]
  exact hnj

/-! `StepB`: the stack operations inverted with the result stack as an equation (`StepC`, Lemmas/GoodStepEffect.lean: `sp` and
`cells` apart). -/
namespace StepB

theorem pop_inv {st st' : Stack} {v : VCell} (h : st.pop = .ok (v, st')) :
    0 < st.sp ∧ st.cells[st.sp]? = some v ∧ st' = { st with sp := st.sp - 1 } := by
  unfold Stack.pop at h
  split at h
  · rename_i hpos
    split at h
    · rename_i w hw
      cases h
      exact ⟨hpos, hw, rfl⟩
    · cases h
  · cases h

theorem getOffset_inv {st : Stack} {off : Int} {v : VCell} (h : st.getOffset off = .ok v) :
    0 ≤ (st.sp : Int) + off ∧ st.cells[((st.sp : Int) + off).toNat]? = some v := by
  unfold Stack.getOffset at h
  simp only at h
  split at h
  · rename_i hnn
    unfold Stack.get at h
    split at h
    · rename_i w hw
      cases h
      exact ⟨hnn, hw⟩
    · cases h
  · cases h

end StepB


abbrev nx (s : St CHeap) : St CHeap := { s with ipO := s.ipO + 1 }

theorem exec_eq (ops : HeapOps CHeap) (op : Op) (s : St CHeap) : exec ops op s = execOp ops op s := by
  cases op <;> rfl

theorem exec_eff {ext : ExtOps} {s0 s' : St CHeap} {op : Op} {b : Bool}
    (hx : exec (concreteOps ext) op (nx s0) = .ok (s', b)) : StepEff (concreteOps ext) s0 op s' b :=
  execOp_eff (exec_eq .. ▸ hx)

theorem fetch_at {ext : ExtOps} {h : CHeap} {p o : Nat} {l : CLambda} {c : VCell} (hl : lambdaAt h p = some l)
    (hf : (concreteOps ext).fetch h p o = some c) : l.bc[o]? = some c := by
  obtain ⟨l', hl', hc⟩ := fetch_inv hf
  cases hl.symm.trans hl'
  exact hc

theorem opndAll_at {P : VCell → Bool} {o : Option VCell} {c : VCell} (h : opndAll P o = true) (hc : o = some c) :
    P c = true := by
  subst hc; exact h

theorem get_inv {st : Stack} {i : Nat} {v : VCell} (h : st.get i = .ok v) : st.cells[i]? = some v := by
  unfold Stack.get at h
  split at h
  · rename_i w hw; cases h; exact hw
  · cases h

theorem globGet_some {ext : ExtOps} {h : CHeap} {n : Nat} (hne : (concreteOps ext).globGet h n ≠ .undefined) :
    h.globals[n]? = some ((concreteOps ext).globGet h n) := by
  change h.globals[n]?.getD .undefined ≠ .undefined at hne
  show _ = some (h.globals[n]?.getD .undefined)
  cases hg : h.globals[n]? with
  | none => rw [hg] at hne; exact absurd rfl hne
  | some w => rfl

theorem GoodI.nx {s : St CHeap} (g : GoodI s) : GoodI (nx s) := ⟨g.hg, g.roots, g.accv⟩

section
variable {ext : ExtOps} {s : St CHeap}

theorem loads_val (g : GoodI s) {c v : VCell} (hsrc : notPtr c = true)
    (live : ∀ off, c = .bpOffset off → (s.bp : Int) + off ≤ s.stack.sp)
    (hbp : ∀ off w, c = .bpOffset off → 0 ≤ (s.bp : Int) + off →
      s.stack.cells[((s.bp : Int) + off).toNat]? = some w → plainGlob w = true)
    (ld : OpLoads (concreteOps ext) s c v) : VOk s.heap v := by
  cases ld with
  | acc => exact g.accOk
  | ptr p => cases hsrc
  | bp hnn hg =>
    have hlive := live _ rfl
    exact ⟨hbp _ _ rfl hnn (get_inv hg), roots_stack g.roots (by omega) (get_inv hg)⟩
  | glob n hne =>
    exact roots_glob g.roots g.hg.plain
      (by simpa using List.mem_of_getElem? (l := s.heap.globals.toList) (by simpa using globGet_some hne))
  | env h1 hp => exact (envLoad_ok g.hg (roots_ep g.roots) h1).2.1 hp
  | envPtr h1 h2 => exact (envLoad_ok g.hg (roots_ep g.roots) h1).1 _ _ rfl _ h2

theorem stores_hg (g : GoodI s) {d v : VCell} (hdst : notPtr d = true) (hv : VOk s.heap v) {s' : St CHeap}
    (st : OpStores (concreteOps ext) s v d s') : HG s'.heap ∧ plainGlob s'.acc = true := by
  cases st with
  | acc => exact ⟨g.hg, hv.1⟩
  | ptr p => cases hdst
  | bp _ => exact ⟨g.hg, g.accv⟩
  | glob n => exact ⟨(globPut_hg g.hg n hv.1).1, g.accv⟩
  | env _ _ h2 => exact ⟨(envPut_hg g.hg hv h2).1, g.accv⟩
  | envPtr _ h2 => exact ⟨(envPut_hg g.hg hv h2).1, g.accv⟩

end

section
variable {ext : ExtOps} {s0 : St CHeap}

theorem hg_jmp {s' : St CHeap} {b : Bool} (g : GoodI s0) (hx : exec (concreteOps ext) .jmp (nx s0) = .ok (s', b)) :
    HG s'.heap ∧ plainGlob s'.acc = true := by
  cases exec_eff hx with
  | jmp _ => exact ⟨g.hg, g.accv⟩

theorem hg_jnt {s' : St CHeap} {b : Bool} (g : GoodI s0) (hx : exec (concreteOps ext) .jnt (nx s0) = .ok (s', b)) :
    HG s'.heap ∧ plainGlob s'.acc = true := by
  cases exec_eff hx with
  | jntTaken _ _ => exact ⟨g.hg, g.accv⟩
  | jntFall _ _ => exact ⟨g.hg, g.accv⟩

theorem hg_mov {s' : St CHeap} {b : Bool} (g : GoodI s0) (sd : StackDisc s0) (hop : opAt s0 .mov)
    (hx : exec (concreteOps ext) .mov (nx s0) = .ok (s', b)) : HG s'.heap ∧ plainGlob s'.acc = true := by
  obtain ⟨l, hl, hop⟩ := hop
  have lo := (g.hg.lam _ l (lambdaAt_iff.mp hl)).mov s0.ipO hop
  cases exec_eff hx with
  | mov hf ld hd st =>
    have hc := fetch_at hl hf
    have hv := loads_val g (opndAll_at lo.1 hc) (fun off e => sd.bpLive l off hl (e ▸ hc))
      (fun off w e => sd.src l off w hl hop (e ▸ hc)) ld
    exact stores_hg g.nx.nx.nx (opndAll_at lo.2 (fetch_at hl hd)) hv st

theorem hg_movImm {s' : St CHeap} {b : Bool} (g : GoodI s0) (hop : opAt s0 .movImm)
    (hx : exec (concreteOps ext) .movImm (nx s0) = .ok (s', b)) : HG s'.heap ∧ plainGlob s'.acc = true := by
  obtain ⟨l, hl, hop⟩ := hop
  have lo := (g.hg.lam _ l (lambdaAt_iff.mp hl)).movImm s0.ipO hop
  cases exec_eff hx with
  | movImm hf _ hd st =>
    have hv := fetch_at hl hf
    exact stores_hg g.nx.nx.nx (opndAll_at lo.2 (fetch_at hl hd)) ⟨opndAll_at lo.1 hv, code_operand_ok g hl hop rfl hv⟩ st

theorem hg_push {s' : St CHeap} {b : Bool} (g : GoodI s0) (hx : exec (concreteOps ext) .push (nx s0) = .ok (s', b)) :
    HG s'.heap ∧ plainGlob s'.acc = true := by
  cases exec_eff hx with
  | push _ _ => exact ⟨g.hg, g.accv⟩

theorem hg_pushImm {s' : St CHeap} {b : Bool} (g : GoodI s0)
    (hx : exec (concreteOps ext) .pushImm (nx s0) = .ok (s', b)) : HG s'.heap ∧ plainGlob s'.acc = true := by
  cases exec_eff hx with
  | pushImm _ _ => exact ⟨g.hg, g.accv⟩

theorem hg_pushAcc {s' : St CHeap} {b : Bool} (g : GoodI s0)
    (hx : exec (concreteOps ext) .pushAcc (nx s0) = .ok (s', b)) : HG s'.heap ∧ plainGlob s'.acc = true := by
  cases exec_eff hx with
  | pushAcc => exact ⟨g.hg, g.accv⟩

theorem hg_halt {s' : St CHeap} {b : Bool} (g : GoodI s0)
    (hx : exec (concreteOps ext) .halt (nx s0) = .ok (s', b)) : HG s'.heap ∧ plainGlob s'.acc = true := by
  cases exec_eff hx with
  | halt => exact ⟨g.hg, g.accv⟩

theorem hg_ret {s' : St CHeap} {b : Bool} (g : GoodI s0)
    (hx : exec (concreteOps ext) .ret (nx s0) = .ok (s', b)) : HG s'.heap ∧ plainGlob s'.acc = true := by
  cases exec_eff hx with
  | ret _ _ _ _ _ => exact ⟨g.hg, g.accv⟩

end

end Marwood.Lemmas.Good
