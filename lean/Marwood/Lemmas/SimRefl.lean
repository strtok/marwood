import Marwood.Lemmas.SimMain
/-!
# Heap simulation: a good state is related to itself

`Sim φ s s` with `φ` the identity on the non-free cells: the premise `hrefl` of Proofs/C13.lean. The `refl_of_refs` lemmas mirror the `restrict` family of Lemmas/SimErase.lean.
-/
namespace Marwood.Lemmas.Sim
open Marwood Marwood.Vm Marwood.Vm.Concrete
open Marwood.Heap (GcState vrefs vrefsList bcRefs crefs lambdaRefs contRefs WFHeap RootsOk Roots)
open Classical

noncomputable def idOn (P : Nat → Prop) : Inj := fun a => if P a then some a else none

variable {φ : Inj}

theorem VRel.refl_of_refs {v : VCell} (hd : ∀ x ∈ vrefs true (eraseV v), AddrRel φ x x) : VRel φ v v := by
  cases v with
  | pair a d => exact .pair (hd _ (by simp [eraseV, vrefs])) (hd _ (by simp [eraseV, vrefs]))
  | closure l e => exact .closure (hd _ (by simp [eraseV, vrefs])) (hd _ (by simp [eraseV, vrefs]))
  | lexEnvPtr e n => exact .lexEnvPtr (hd _ (by simp [eraseV, vrefs]))
  | envPtr e => exact .envPtr (hd _ (by simp [eraseV, vrefs]))
  | instrPtr l o => exact .instrPtr (hd _ (by simp [eraseV, vrefs]))
  | ptr a => exact .ptr (hd _ (by simp [eraseV, vrefs]))
  | _ => exact .atom rfl

theorem VRel.refl_cell {v : VCell} (hp : plainVal v = true) (hd : ∀ x ∈ crefs true (eraseV v), AddrRel φ x x) :
    VRel φ v v := by
  cases v with
  | pair a d => exact .pair (hd _ (by simp [eraseV, crefs])) (hd _ (by simp [eraseV, crefs]))
  | closure l e => exact .closure (hd _ (by simp [eraseV, crefs])) (hd _ (by simp [eraseV, crefs]))
  | lexEnvPtr e n => simp [plainVal] at hp
  | envPtr e => exact .envPtr (hd _ (by simp [eraseV, crefs]))
  | instrPtr l o => simp [plainVal] at hp
  | ptr a => exact .ptr (hd _ (by simp [eraseV, crefs]))
  | _ => exact .atom rfl

theorem VsRel.refl_of_refs {l : List VCell} (hd : ∀ x ∈ vrefsList true (l.map eraseV), AddrRel φ x x) :
    VsRel φ l l := by
  induction l with
  | nil => exact .nil
  | cons c cs ih =>
    refine .cons (VRel.refl_of_refs ?_) (ih ?_)
    · intro x hx; exact hd x (by simp only [List.map_cons, vrefsList, List.mem_append]; exact .inl hx)
    · intro x hx; exact hd x (by simp only [List.map_cons, vrefsList, List.mem_append]; exact .inr hx)

theorem EnvmapRel.refl_of_refs {l : List (VCell × Source)}
    (hd : ∀ x ∈ vrefsList true (l.map fun p => eraseV p.1), AddrRel φ x x) : EnvmapRel φ l l := by
  induction l with
  | nil => exact .nil
  | cons c cs ih =>
    refine .cons ⟨VRel.refl_of_refs ?_, rfl⟩ (ih ?_)
    · intro x hx; exact hd x (by simp only [List.map_cons, vrefsList, List.mem_append]; exact .inl hx)
    · intro x hx; exact hd x (by simp only [List.map_cons, vrefsList, List.mem_append]; exact .inr hx)

theorem BcRel.refl_of_refs {l : List VCell} (hd : ∀ x ∈ bcRefs true false (l.map eraseV), AddrRel φ x x) :
    BcRel φ l l := by
  refine ⟨rfl, ?_⟩
  intro i c c' h1 h2
  rw [h1] at h2; cases h2
  refine ⟨fun _ => rfl, fun hp => VRel.refl_of_refs ?_⟩
  intro x hx
  exact hd x (bcRefs_mem l false false (by intro h; cases h) i c h1 (by rw [prevFrom_false]; exact hp) x hx)

theorem StackRelK.refl_of_refs {K : Nat} {st : Stack}
    (hd : ∀ x ∈ vrefsList true ((st.cells.take (K + 1)).map eraseV), AddrRel φ x x) : StackRelK φ K st st := by
  refine ⟨rfl, rfl, ?_⟩
  intro i hi v v' h1 h2
  rw [h1] at h2; cases h2
  refine VRel.refl_of_refs ?_
  intro x hx
  refine hd x (vrefsList_mem (c := v) ?_ hx)
  exact mem_take_succ.mpr ⟨i, hi, h1⟩

theorem CellRel.refl_of_refs {c : CCell} (hp : ∀ v, c = CCell.val v → plainVal v = true)
    (hk : ∀ k, c = CCell.cont k → k.stack.sp < k.stack.cells.length)
    (hd : ∀ x ∈ crefs true (eraseC c), AddrRel φ x x) : CellRel φ c c := by
  cases c with
  | val v => exact .val (VRel.refl_cell (hp v rfl) hd)
  | lexEnv ss => exact .lexEnv (VsRel.refl_of_refs hd)
  | vector es => exact .vector (VsRel.refl_of_refs hd)
  | lambda l =>
    simp only [eraseC, crefs, lambdaRefs, if_true] at hd
    refine .lambda (BcRel.refl_of_refs ?_) (VsRel.refl_of_refs ?_) (EnvmapRel.refl_of_refs ?_)
    · intro x hx; exact hd x (List.mem_append.mpr (.inl (List.mem_append.mpr (.inl hx))))
    · intro x hx; exact hd x (List.mem_append.mpr (.inl (List.mem_append.mpr (.inr hx))))
    · intro x hx; exact hd x (List.mem_append.mpr (.inr hx))
  | cont k =>
    simp only [eraseC, crefs, contRefs] at hd
    refine .cont ⟨StackRelK.refl_of_refs ?_, hk k rfl, hd _ (by simp), hd _ (by simp), rfl, rfl⟩
    intro x hx
    exact hd x (List.mem_append.mpr (.inl (vrefsList_take_sub _ _ hx)))

/-- not from `Good`: an idle machine need not satisfy its two stack clauses at the stale `ip` -/
theorem sim_refl_of {s : St CHeap} (wf : WFHeap true (toHeap s.heap)) (plain : Plain s.heap)
    (roots : RootsOk (toHeap s.heap) ((rootsOf s).refs true)) : ∃ φ, Sim φ s s := by
  let P : Nat → Prop := fun a => (toHeap s.heap).NonFree a
  have hinv : HInv s.heap := HInv.of_wf wf
  have hP : ∀ x, (P x ∨ Heap.Sentinel x) → AddrRel (idOn P) x x := by
    intro x hx
    rcases hx with h1 | h1
    · exact .inl (by simp [idOn, h1])
    · exact .inr ⟨rfl, h1⟩
  have hroot : ∀ x ∈ (rootsOf s).refs true, AddrRel (idOn P) x x := fun x hx => hP x (roots x hx)
  have hlt : ∀ a, P a → a < s.heap.cells.size := by
    intro a ha
    have := Marwood.Lemmas.HeapWF.nonFree_lt ha
    rw [wf.sizes] at this
    simpa [toHeap] using this
  refine ⟨idOn P, ⟨⟨?_, ?_, ?_, ?_, hinv, hinv⟩, ?_, ?_, ?_, ?_, rfl, rfl⟩⟩
  · intro a a' b h1 h2
    unfold idOn at h1 h2
    split at h1 <;> split at h2 <;> simp_all
  · intro a b hab
    unfold idOn at hab
    split at hab
    · rename_i ha
      cases hab
      have hl := hlt a ha
      have hc : s.heap.cells[a]? = some s.heap.cells[a] := Array.getElem?_eq_getElem hl
      have hnf : a ∉ s.heap.free := by
        intro hm
        have := (hinv.free_iff a).mp hm
        rcases ha with h1 | h1 <;> (simp only [toHeap] at h1; rw [this] at h1; cases h1)
      refine ⟨_, _, hc, hc, CellRel.refl_of_refs ?_ ?_ ?_, hnf, hnf⟩
      · intro v hv; exact plain.cells a v (by rw [hc, hv])
      · intro k hk; exact plain.conts a k (by rw [hc, hk])
      · intro x hx
        refine hP x (wf.closed a ha x ?_)
        rw [toHeap_children, hc]; exact hx
    · cases hab
  · -- globals
    have hpl := plain.globals
    have hsl : ∀ x, VCell.ptr x ∈ s.heap.globals.toList → AddrRel (idOn P) x x := by
      intro x hx
      refine hroot x (mem_refs_slot ?_)
      simp only [rootsOf]
      exact List.mem_map.mpr ⟨_, hx, rfl⟩
    generalize s.heap.globals.toList = l at hpl hsl
    induction l with
    | nil => exact .nil
    | cons v vs ih =>
      refine .cons ?_ (ih (fun w hw => hpl w (List.mem_cons_of_mem _ hw)) (fun x hx => hsl x (List.mem_cons_of_mem _ hx)))
      have hp := hpl v (List.mem_cons_self ..)
      cases v with
      | ptr a => exact .ptr (hsl a (List.mem_cons_self ..))
      | pair _ _ => simp [plainGlob, isPtr, addrFree] at hp
      | closure _ _ => simp [plainGlob, isPtr, addrFree] at hp
      | lexEnvPtr _ _ => simp [plainGlob, isPtr, addrFree] at hp
      | envPtr _ => simp [plainGlob, isPtr, addrFree] at hp
      | instrPtr _ _ => simp [plainGlob, isPtr, addrFree] at hp
      | _ => exact .atom rfl
  · have hsy : ∀ x ∈ s.heap.globSyms, AddrRel (idOn P) x x :=
      fun x hx => hroot x (mem_refs_syms (by simpa [rootsOf] using hx))
    generalize s.heap.globSyms = l at hsy
    induction l with
    | nil => exact .nil
    | cons v vs ih => exact .cons (hsy v (List.mem_cons_self ..)) (ih (fun x hx => hsy x (List.mem_cons_of_mem _ hx)))
  · exact StackRelK.refl_of_refs (fun x hx => hroot x (mem_refs_stack (by simpa [rootsOf] using hx)))
  · exact VRel.refl_of_refs (fun x hx => hroot x (mem_refs_acc (by simpa [rootsOf] using hx)))
  · exact hroot _ (by simp [Roots.refs, rootsOf])
  · exact hroot _ (by simp [Roots.refs, rootsOf])

/-- **a good state simulates itself** -/
theorem sim_refl {s : St CHeap} (g : Good s) : ∃ φ, Sim φ s s := sim_refl_of g.wf g.plain g.roots

theorem R_refl (m : Machine (St CHeap) Fault) {s : St CHeap} (h : Safe m s) : R m s s :=
  ⟨sim_refl h.good, h, h⟩

end Marwood.Lemmas.Sim
