import Marwood.Lemmas.NumArith
/-!
# The procedures of builtin/number.rs: argument checks, totality, absence of panics; the variadic folds
-/
namespace Marwood.Arith
open Marwood Marwood.NumSpec

theorem isInteger_of_intVal {a : Num} {x : Int} (h : intVal? a = some x) : isInteger a = true := by
  cases a with
  | fix n => rfl
  | big n => rfl
  | rat n d => obtain ⟨h1, _⟩ := intVal_rat h; subst h1; rfl
  | flo f => simp [intVal?] at h

theorem beq_eq_decide_int (n : Int) : (n == 0) = decide (n = 0) := by
  by_cases h : n = 0 <;> simp [h]

theorem isZero_of_intVal {a : Num} {x : Int} (h : intVal? a = some x) : isZero a = decide (x = 0) := by
  cases a with
  | fix n => simp only [intVal?, Option.some.injEq] at h; subst h; exact beq_eq_decide_int n
  | big n => simp only [intVal?, Option.some.injEq] at h; subst h; exact beq_eq_decide_int n
  | rat n d => obtain ⟨_, h2⟩ := intVal_rat h; subst h2; exact beq_eq_decide_int x
  | flo f => simp [intVal?] at h

theorem scmIntOp_spec (op : Num → Num → Option (Outcome (Option Num))) (a b : Num) {x y : Int}
    (hx : intVal? a = some x) (hy : intVal? b = some y) :
    (y = 0 → scmIntOp op [a, b] = some (.err "syntax")) ∧
    (y ≠ 0 → ∀ r, op a b = some (.ok (some r)) → scmIntOp op [a, b] = some (.ok r)) := by
  have h1 := isInteger_of_intVal hx
  have h2 := isInteger_of_intVal hy
  have h3 := isZero_of_intVal hy
  constructor
  · intro h0
    simp [scmIntOp, h1, h2, h3, h0]
  · intro h0 r hr
    simp [scmIntOp, h1, h2, h3, h0, hr]

theorem asI32_ne_zero {b : Num} {r : Int} (h : asI32 b = some r) (hz : isZero b = false) : r ≠ 0 := by
  cases b with
  | fix n => simp only [asI32] at h; rw [(chk32_some h).1]; simpa [isZero] using hz
  | big n => simp only [asI32] at h; rw [(chk32_some h).1]; simpa [isZero] using hz
  | rat n d => cases h
  | flo f => cases h

theorem ratioOfI32_no_panic {l r : Int} (hr : r ≠ 0) : ∃ x, ratioOfI32 l r = .ok x := by
  unfold ratioOfI32
  simp only [beq_iff_eq, hr, if_false]
  split
  · exact ⟨_, rfl⟩
  · split <;> exact ⟨_, rfl⟩

theorem div_no_panic (a b : Num) (hz : isZero b = false) : ∃ x, div a b = .ok x := by
  cases a <;> cases b <;> simp only [div] <;> (try exact ⟨_, rfl⟩)
  case fix.fix l r | fix.big l r | big.fix l r | big.big l r =>
    cases hl : asI32 _ <;> cases hr : asI32 _ <;> simp only <;> (try exact ⟨_, rfl⟩)
    exact ratioOfI32_no_panic (asI32_ne_zero hr hz)
  case fix.rat l n d => cases asI32 (Num.fix l) <;> exact ⟨_, rfl⟩
  case big.rat l n d => cases asI32 (Num.big l) <;> exact ⟨_, rfl⟩
  case rat.fix n d r => cases asI32 (Num.fix r) <;> exact ⟨_, rfl⟩
  case rat.big n d r => cases asI32 (Num.big r) <;> exact ⟨_, rfl⟩

theorem scmDivide_no_panic (args : List Num) (s : String) : scmDivide args ≠ .panic s := by
  unfold scmDivide
  split
  · rename_i y
    cases hz : isZero y
    · obtain ⟨x, hx⟩ := div_no_panic (.fix 1) y hz
      simp [hx]
    · simp
  · rename_i x y
    cases hz : isZero y
    · obtain ⟨r, hr⟩ := div_no_panic x y hz
      simp [hr]
    · simp
  · simp

/-! ## Variadic `+ * -`: an exact answer of a fold of `add` / `mul` is the exact sum / product -/

theorem denpos_flo2 (op : F64 → F64 → F64) (a b : Num) : DenPos (flo2 op a b) := trivial

theorem add_denpos (a b : Num) (ha : DenPos a) (hb : DenPos b) : DenPos (add a b) :=
  (add_answers a b ha hb).denPos

theorem mul_denpos (a b : Num) (ha : DenPos a) (hb : DenPos b) : DenPos (mul a b) :=
  (mul_answers a b ha hb).denPos

theorem foldl_exact_acc {op : Num → Num → Num}
    (hops : ∀ {a b}, isExact (op a b) = true → isExact a = true ∧ isExact b = true)
    (l : List Num) (acc : Num) (h : isExact (l.foldl op acc) = true) : isExact acc = true := by
  induction l generalizing acc with
  | nil => exact h
  | cons a rest ih => exact (hops (ih (op acc a) h)).1

/-- for any `op` that answers exactly only on exact operands, and then as `qop` on their values -/
theorem foldl_exact {op : Num → Num → Num} {qop : Rat → Rat → Rat}
    (hden : ∀ a b, DenPos a → DenPos b → DenPos (op a b))
    (hops : ∀ {a b}, isExact (op a b) = true → isExact a = true ∧ isExact b = true)
    (hex : ∀ a b, DenPos a → DenPos b → isExact (op a b) = true →
      ∃ x y, val a = some x ∧ val b = some y ∧ val (op a b) = some (qop x y))
    (l : List Num) (acc : Num) (hacc : DenPos acc) (hl : ∀ a ∈ l, DenPos a)
    (h : isExact (l.foldl op acc) = true) :
    ∃ (x : Rat) (xs : List Rat), val acc = some x ∧
      List.Forall₂ (fun a v => isExact a = true ∧ val a = some v) l xs ∧
      val (l.foldl op acc) = some (xs.foldl qop x) := by
  induction l generalizing acc with
  | nil => exact ⟨_, [], val_qval h, .nil, val_qval h⟩
  | cons a rest ih =>
    have hda : DenPos a := hl a (by simp)
    obtain ⟨x', xs, hx', hf, hv⟩ := ih (op acc a) (hden acc a hacc hda)
      (fun c hc => hl c (List.mem_cons_of_mem _ hc)) h
    have hex' := foldl_exact_acc hops rest (op acc a) h
    obtain ⟨x, y, hx, hy, hxy⟩ := hex acc a hacc hda hex'
    rw [hxy] at hx'; cases hx'
    exact ⟨x, y :: xs, hx, .cons ⟨(hops hex').2, hy⟩ hf, hv⟩

theorem foldl_add_exact (l : List Num) (acc : Num) (hacc : DenPos acc) (hl : ∀ a ∈ l, DenPos a)
    (h : isExact (l.foldl add acc) = true) :
    ∃ (x : Rat) (xs : List Rat), val acc = some x ∧
      List.Forall₂ (fun a v => isExact a = true ∧ val a = some v) l xs ∧
      val (l.foldl add acc) = some (xs.foldl (· + ·) x) :=
  foldl_exact add_denpos add_exact_operands add_exact l acc hacc hl h

theorem foldl_mul_exact (l : List Num) (acc : Num) (hacc : DenPos acc) (hl : ∀ a ∈ l, DenPos a)
    (h : isExact (l.foldl mul acc) = true) :
    ∃ (x : Rat) (xs : List Rat), val acc = some x ∧
      List.Forall₂ (fun a v => isExact a = true ∧ val a = some v) l xs ∧
      val (l.foldl mul acc) = some (xs.foldl (· * ·) x) :=
  foldl_exact mul_denpos mul_exact_operands mul_exact l acc hacc hl h

end Marwood.Arith
