import Marwood.Lemmas.ContResumeLive
/-!
# `step` is a function of the live stack, the registers and the heap

`step_stack`: from a WF state `s`, replace the stack by any stack `b` that agrees with it on the live cells
`0 ..= sp` (other stale cells above `sp`, another capacity). If `step` succeeds on `s` it succeeds on the replaced
state, with the same registers, heap and halting flag, and the resulting stacks agree on their live cells again.
Needed besides WF-stack: `BpLive` (a `BasePointerOffset` *source* operand designates a live cell; it follows from
`WFS`, `bpLive_of_wfs` in `Lemmas/StackWFBpLive.lean`, which imports this file — here it is a hypothesis);
`LiveLaws` (CLOSURE's and ENTER's environment construction read live cells only); and, when the callee is a
continuation, that its stack copy fits the capacity of the replaced stack (`Stack.restore` panics otherwise).
-/
namespace Marwood.Vm
open Verify Stack

variable {H : Type} {ops : HeapOps H}

attribute [local irreducible] Marwood.Vm.Stack.push

def BpLive (ops : HeapOps H) (s : St H) : Prop :=
  ∀ off, ops.fetch s.heap s.ipL (s.ipO + 1) = some (.bpOffset off) → (s.bp : Int) + off ≤ s.stack.sp

/-- **What `step_stack` needs from the environment constructors** (a parameter, not an axiom):
    `build_closure_environment` (CLOSURE) does not read stale stack cells — its `IofArgument` sources are dead, the
    `Environment` sources read the heap; `build_lexical_environment` (ENTER) reads the arguments of the frame it has
    just completed (`bp + 4 = sp`), which are live. -/
structure LiveLaws (cl : CodeLaws ops) : Prop where
  makeClosure : ∀ {h lam ep bp} {a b : Stack}, cl.HInv h → Agree a.sp a b →
    ops.makeClosure h lam ep bp a = ops.makeClosure h lam ep bp b
  makeActivation : ∀ {h lam env bp} {a b : Stack}, cl.HInv h → bp + 4 = a.sp → Agree a.sp a b →
    ops.makeActivation h lam env bp a = ops.makeActivation h lam env bp b

theorem bind_ok_eq {α β : Type} {x : Outcome α} {f : α → Outcome β} {a : α} (h : x = .ok a) :
    (x >>= f) = f a := by rw [h]; rfl

theorem readOpcode_stack {s s1 : St H} {op : Op} (b : Stack) (h : readOpcode ops s = .ok (op, s1)) :
    readOpcode ops { s with stack := b } = .ok (op, { s1 with stack := b }) := by
  obtain ⟨hf, e1⟩ := readOpcode_ok h
  subst e1
  unfold readOpcode at h ⊢
  dsimp only at h ⊢
  split at h
  · cases h
  · rename_i hl
    simp only [hl, hf]
    rfl

theorem invokeCont_stack {s s' : St H} {L : Nat} {b : Stack} {c : Cont} (hag : Agree L s.stack b)
    (hc : c.stack.sp < c.stack.cells.length) (hfit : c.stack.cells.length ≤ b.cells.length)
    (h : invokeCont s c = .ok s') :
    ∃ b', invokeCont { s with stack := b } c = .ok { s' with stack := b' } ∧ Agree c.stack.sp s'.stack b' := by
  obtain ⟨n, r, h2, hA, hn, hr, _, rfl⟩ := invokeCont_iff.mp h
  have hsp : s.stack.sp = b.sp := hag.sp
  refine ⟨_, invokeCont_iff.mpr ⟨n, r, hsp ▸ h2, hsp ▸ hag.some hag.le hA, hn,
    hsp ▸ hag.some (Nat.le_trans (Nat.sub_le _ _) hag.le) hr, hfit, rfl⟩, Agree.restore _ _ hc⟩

theorem builtinGeneric_stack {s s' : St H} {v : VCell} {id : Nat} {L : Nat} {b : Stack}
    (hag : Agree L s.stack b) (h : builtinGeneric ops id s = .ok (s', v)) :
    ∃ b', builtinGeneric ops id { s with stack := b } = .ok ({ s' with stack := b' }, v) ∧
      Agree L s'.stack b' := by
  obtain ⟨n, args, st, h', h0, hA, hpn, hbe, rfl⟩ := builtinGeneric_iff.mp h
  have hsp : s.stack.sp = b.sp := hag.sp
  obtain ⟨b2, q2, hag2⟩ := Agree.popN _ (hag.setSp (n := s.stack.sp - 1) (by have := hag.le; omega)) hpn
  rw [hsp] at q2
  exact ⟨b2, builtinGeneric_iff.mpr ⟨n, args, b2, h', hsp ▸ h0, hsp ▸ hag.some hag.le hA, q2, hbe, rfl⟩, hag2⟩

theorem builtinEvalProc_stack {s s' : St H} {v : VCell} {L : Nat} {b : Stack}
    (hag : Agree L s.stack b) (h : builtinEvalProc ops s = .ok (s', v)) :
    ∃ b' L', builtinEvalProc ops { s with stack := b } = .ok ({ s' with stack := b' }, v) ∧
      Agree L' s'.stack b' := by
  obtain ⟨e, h', h2, hA, he, hce, hip, rfl⟩ := builtinEvalProc_iff.mp h
  have hsp : s.stack.sp = b.sp := hag.sp
  obtain ⟨L3, _, hag3⟩ := (hag.setSp (n := s.stack.sp - 2) (by have := hag.le; omega)).push (.argc 0)
  rw [hsp] at hag3
  exact ⟨_, L3, builtinEvalProc_iff.mpr ⟨e, h', hsp ▸ h2, hsp ▸ hag.some hag.le hA,
    hsp ▸ hag.some (Nat.le_trans (Nat.sub_le _ _) hag.le) he, hce, hip, rfl⟩, hsp ▸ hag3⟩

theorem builtinCallcc_stack {s s' : St H} {v : VCell} {L : Nat} {b : Stack}
    (hag : Agree L s.stack b) (h : builtinCallcc ops s = .ok (s', v)) :
    ∃ b' L', builtinCallcc ops { s with stack := b } = .ok ({ s' with stack := b' }, v) ∧
      Agree L' s'.stack b' := by
  obtain ⟨h2, hl, hA, hp, hip, rfl, rfl⟩ := builtinCallcc_iff.mp h
  have hsp : s.stack.sp = b.sp := hag.sp
  have c1 := hag.cells _ hag.le
  have c2 := hag.cells _ (Nat.le_trans (Nat.sub_le _ 1) hag.le)
  obtain ⟨L3, h3, hag3⟩ := (hag.setSp (n := s.stack.sp - 2) (by have := hag.le; omega)).push
    (ops.newCont s.heap ⟨callccCopy s.stack, s.ep, s.ipL, s.ipO, s.bp⟩).2
  obtain ⟨L4, _, hag4⟩ := hag3.push (.argc 1)
  refine ⟨_, L4, builtinCallcc_iff.mpr ⟨hsp ▸ h2, ?_, ?_, ?_, hip, ?_, ?_⟩, hag4⟩
  · have := hag.capb; have := hag.le; show b.sp < b.cells.length; omega
  · show b.cellAt b.sp = _; rw [← hsp, ← c1]; exact hA
  · show ops.isProcedure s.heap (ops.deref s.heap (b.cellAt (b.sp - 1))) = true; rw [← hsp, ← c2]; exact hp
  · show _ = b.cellAt (b.sp - 1); rw [← hsp, ← c2]
  · unfold callccSt
    show _ = ({ heap := _, stack := _, acc := _, ep := _, ipL := _, ipO := _, bp := _ } : St H)
    rw [← hag.callccCopy, ← hsp]

theorem builtinApply_stack {s s' : St H} {v : VCell} {L : Nat} {b : Stack}
    (hag : Agree L s.stack b) (h : builtinApply ops s = .ok (s', v)) :
    ∃ b' L', builtinApply ops { s with stack := b } = .ok ({ s' with stack := b' }, v) ∧
      Agree L' s'.stack b' := by
  unfold builtinApply at h ⊢
  obtain ⟨⟨a, st1⟩, hp1, h⟩ := bind_inv h
  dsimp only at h
  obtain ⟨argc, ha, h⟩ := bind_inv h
  split at h
  · cases h
  · rename_i hlt
    obtain ⟨⟨top, st2⟩, hp2, h⟩ := bind_inv h
    dsimp only at h
    obtain ⟨hshape, h⟩ := ite_err_inv h
    · obtain ⟨proc, hg, h⟩ := bind_inv h
      obtain ⟨st3, hsh, h⟩ := bind_inv h
      obtain ⟨⟨x, st4⟩, hp4, h⟩ := bind_inv h
      dsimp only at h
      obtain ⟨⟨n, st5⟩, hpl, h⟩ := bind_inv h
      dsimp only at h
      obtain ⟨ipO, hu, h⟩ := bind_inv h
      cases h
      obtain ⟨b1, q1, hag1⟩ := hag.pop hp1
      obtain ⟨b2, q2, hag2⟩ := hag1.pop hp2
      have hle2 := hag2.le
      have g := hag2.getOffset_eq (off := -((argc : Int) - 2)) (by omega)
      obtain ⟨b3, q3, hag3⟩ := Agree.shift _ hag2 hsh
      obtain ⟨b4, q4, hag4⟩ := hag3.pop hp4
      obtain ⟨b5, L5, _, q5, hag5⟩ :=
        Agree.pushList (ops := ops) (s := s) (s2 := { s with stack := b }) rfl _ _ _ hag4 hpl
      obtain ⟨L6, _, hag6⟩ := hag5.push (.argc n)
      refine ⟨_, L6, ?_, hag6⟩
      dsimp only
      rw [bind_ok_eq q1]; dsimp only
      rw [bind_ok_eq ha]
      simp only [hlt, if_false]
      rw [bind_ok_eq q2]; dsimp only
      simp only [hshape, Bool.false_eq_true, if_false]
      rw [← g, bind_ok_eq hg, bind_ok_eq q3, bind_ok_eq q4]; dsimp only
      rw [bind_ok_eq q5]; dsimp only
      rw [bind_ok_eq hu]

theorem accTail_stack {s s' : St H} {v : VCell} (b : Stack) (h : accTail ops s v = .ok s') :
    s'.stack = s.stack ∧ accTail ops { s with stack := b } v = .ok { s' with stack := b } := by
  unfold accTail at h ⊢
  cases v <;> dsimp only at h ⊢ <;> cases h <;> exact ⟨rfl, rfl⟩

theorem runBuiltin_stack {s s' : St H} {id : Nat} {L : Nat} {b : Stack}
    (hag : Agree L s.stack b) (h : runBuiltin ops id s = .ok s') :
    ∃ b' L', runBuiltin ops id { s with stack := b } = .ok { s' with stack := b' } ∧
      Agree L' s'.stack b' := by
  rw [runBuiltin_accTail] at h ⊢
  obtain ⟨⟨s2, v⟩, hb, h⟩ := bind_inv h
  dsimp only at h hb ⊢
  have fin : ∀ {x : Outcome (St H × VCell)} {b' L'}, x = .ok ({ s2 with stack := b' }, v) → Agree L' s2.stack b' →
      ∃ b'' L'', (x >>= fun (s, v) => accTail ops s v) = .ok { s' with stack := b'' } ∧ Agree L'' s'.stack b'' := by
    intro x b' L' q hag'
    obtain ⟨e, q'⟩ := accTail_stack b' h
    exact ⟨b', L', by rw [bind_ok_eq q]; exact q', by rw [e]; exact hag'⟩
  cases hk : ops.builtinKind s.heap id <;> rw [hk] at hb <;> dsimp only at hb ⊢
  · obtain ⟨b', L', q, hag'⟩ := builtinApply_stack hag hb
    exact fin q hag'
  · obtain ⟨b', L', q, hag'⟩ := builtinEvalProc_stack hag hb
    exact fin q hag'
  · obtain ⟨b', L', q, hag'⟩ := builtinCallcc_stack hag hb
    exact fin q hag'
  · obtain ⟨b', q, hag'⟩ := builtinGeneric_stack hag hb
    exact fin q hag'

/-- its copy is full (`sp` inside it — it is a snapshot of a WF state) and fits the capacity of the other stack -/
def ContFits (ops : HeapOps H) (s : St H) (b : Stack) : Prop :=
  ∀ c, ops.callee s.heap s.acc = .continuation c →
    c.stack.sp < c.stack.cells.length ∧ c.stack.cells.length ≤ b.cells.length

theorem tcallTail_stack {s s' : St H} {L : Nat} {b : Stack} {lam : Nat} (hag : Agree L s.stack b)
    (hsp : s.stack.sp = L) (hbp : s.bp + 4 ≤ L) (h : tcallTail s lam = .ok s') :
    ∃ b' L', tcallTail { s with stack := b } lam = .ok { s' with stack := b' } ∧ Agree L' s'.stack b' := by
  unfold tcallTail at h ⊢
  obtain ⟨argc, h1, h⟩ := bind_inv h
  obtain ⟨fargc, h2, h⟩ := bind_inv h
  have g0 := hag.getOffset_eq (off := 0) (by omega)
  have g1 := hag.get_eq (i := s.bp + 1) (by omega)
  have g2 := hag.get_eq (i := s.bp + 2) (by omega)
  have g3 := hag.get_eq (i := s.bp + 3) (by omega)
  have g4 := hag.get_eq (i := s.bp + 4) (by omega)
  dsimp only
  rw [← g0, bind_ok_eq h1, ← g1, bind_ok_eq h2]
  split at h
  · rename_i heq
    subst heq
    rw [if_pos rfl]
    obtain ⟨sb, h4, h⟩ := bind_inv h
    obtain ⟨st, hcp, h⟩ := bind_inv h
    obtain ⟨bp', hb, h⟩ := bind_inv h
    cases h
    obtain ⟨b1, q1, hag1⟩ := Agree.tcallCopySame _ _ _ hag (by omega) hcp
    have hag2 := hag1.setSp (n := s.bp + 3) (by omega)
    refine ⟨_, L, ?_, hag2⟩
    rw [← g4, bind_ok_eq h4, bind_ok_eq q1, bind_ok_eq hb]
  · rename_i hne
    simp only [hne, if_false]
    obtain ⟨se, h2', h⟩ := bind_inv h
    obtain ⟨si, h3, h⟩ := bind_inv h
    obtain ⟨sb, h4, h⟩ := bind_inv h
    obtain ⟨sp0, hu, h⟩ := bind_inv h
    obtain ⟨st, hcp, h⟩ := bind_inv h
    obtain ⟨bp', hb, h⟩ := bind_inv h
    cases h
    obtain ⟨_, hsp0⟩ := usub_ok hu
    have hag0 := hag.setSp (n := sp0) (by omega)
    obtain ⟨b1, L1, _, q1, hag1⟩ := Agree.tcallCopyDiff argc s.stack.sp hag0 (by omega) hcp
    obtain ⟨L2, _, hag2⟩ := hag1.push (.argc argc)
    obtain ⟨L3, _, hag3⟩ := hag2.push se
    obtain ⟨L4, _, hag4⟩ := hag3.push si
    refine ⟨_, L4, ?_, hag4⟩
    rw [← g2, bind_ok_eq h2', ← g3, bind_ok_eq h3, ← g4, bind_ok_eq h4, bind_ok_eq hu]
    dsimp only
    rw [← hag.sp, bind_ok_eq q1, bind_ok_eq hb]

theorem stepVarArg_stack {s s' : St H} {L : Nat} {b : Stack} (hag : Agree L s.stack b)
    (h : stepVarArg ops s = .ok s') :
    ∃ b' L', stepVarArg ops { s with stack := b } = .ok { s' with stack := b' } ∧ Agree L' s'.stack b' := by
  unfold stepVarArg at h ⊢
  dsimp only at h ⊢
  split at h
  · cases h
  · rename_i info hinfo
    obtain ⟨req, hu, h⟩ := bind_inv h
    obtain ⟨argc, h1, h⟩ := bind_inv h
    have hle := hag.le
    have g2 := hag.getOffset_eq (off := -2) (by omega)
    rw [bind_ok_eq hu, ← g2, bind_ok_eq h1]
    split at h
    · cases h
    · rename_i hlt
      simp only [hlt, if_false]
      split at h
      · rename_i heq
        simp only [heq, if_true]
        obtain ⟨v3, g3, h⟩ := bind_inv h
        obtain ⟨pa, hpa, h⟩ := bind_inv h
        obtain ⟨pn, hpn, h⟩ := bind_inv h
        obtain ⟨st1, hset, h⟩ := bind_inv h
        cases h
        have e3 := hag.getOffset_eq (off := -3) (by omega)
        obtain ⟨b1, q1, hag1⟩ := hag.setOffset (off := -3) (by omega) hset
        refine ⟨b1, L, ?_, hag1⟩
        rw [← e3, bind_ok_eq g3]
        dsimp only
        rw [bind_ok_eq hpa, bind_ok_eq hpn, bind_ok_eq q1]
      · rename_i hne
        simp only [hne, if_false]
        obtain ⟨⟨c1, st1⟩, hp1, h⟩ := bind_inv h
        dsimp only at h
        obtain ⟨⟨c2, st2⟩, hp2, h⟩ := bind_inv h
        dsimp only at h
        obtain ⟨⟨c3, st3⟩, hp3, h⟩ := bind_inv h
        dsimp only at h
        obtain ⟨pn, hpn, h⟩ := bind_inv h
        obtain ⟨⟨h2, lst, st4⟩, hcol, h⟩ := bind_inv h
        dsimp only at h
        cases h
        obtain ⟨b1, q1, hag1⟩ := hag.pop hp1
        obtain ⟨b2, q2, hag2⟩ := hag1.pop hp2
        obtain ⟨b3, q3, hag3⟩ := hag2.pop hp3
        obtain ⟨b4, q4, hag4⟩ := Agree.varargCollect _ _ _ hag3 hcol
        obtain ⟨L5, _, hag5⟩ := hag4.push (.ptr lst)
        obtain ⟨L6, _, hag6⟩ := hag5.push (.argc (req + 1))
        obtain ⟨L7, _, hag7⟩ := hag6.push c2
        obtain ⟨L8, _, hag8⟩ := hag7.push c1
        refine ⟨_, L8, ?_, hag8⟩
        rw [bind_ok_eq q1]; dsimp only
        rw [bind_ok_eq q2]; dsimp only
        rw [bind_ok_eq q3]; dsimp only
        rw [bind_ok_eq hpn, bind_ok_eq q4]

theorem OpLoads.agree {s : St H} {c v : VCell} {L : Nat} {b : Stack} (hag : Agree L s.stack b)
    (hlive : ∀ off, c = .bpOffset off → (s.bp : Int) + off ≤ L) (ld : OpLoads ops s c v) :
    OpLoads ops { s with stack := b } c v := by
  cases ld with
  | acc => exact .acc
  | ptr p => exact .ptr p
  | @bp off v h0 hg =>
    have hl := hlive off rfl
    exact .bp h0 (by rw [← hag.get_eq (i := ((s.bp : Int) + off).toNat) (by omega)]; exact hg)
  | glob n hne => exact .glob n hne
  | env hg hne => exact .env hg hne
  | envPtr hg hw => exact .envPtr hg hw

theorem OpStores.restack {s s' : St H} {c v : VCell} (sto : OpStores ops s v c s') (hd : dstOk (some c) = true)
    (b : Stack) : s'.stack = s.stack ∧ OpStores ops { s with stack := b } v c { s' with stack := b } := by
  cases sto with
  | acc => exact ⟨rfl, .acc⟩
  | ptr p => cases hd
  | bp _ => cases hd
  | glob n => exact ⟨rfl, .glob n⟩
  | env hg hne hp => exact ⟨rfl, .env hg hne hp⟩
  | envPtr hg hp => exact ⟨rfl, .envPtr hg hp⟩

/-- the whole proof of `step_stack`. WF-stack enters in three places — `dstOk` of the verifier for the destination of
    MOV / MOVIMM, `bp + 4 ≤ sp` (`inv_frame`) for the header reads of TCALL and RET, `HInv` for the two `LiveLaws`;
    every other case is stack algebra on `Agree`. -/
theorem StepEff.agree {cl : CodeLaws ops} (ll : LiveLaws cl) {s r : St H} {K : List FDesc} {t : LamTy} {st : AState}
    {op : Op} {bl : Bool} {b : Stack} (ai : AtInstr cl s K t st op) (hag : Agree s.stack.sp s.stack b)
    (hbl : BpLive ops s) (hcf : ContFits ops s b) (e : StepEff ops s op r bl) :
    ∃ b', StepEff ops { s with stack := b } op { r with stack := b' } bl ∧ Agree r.stack.sp r.stack b' := by
  have hw := ai.hw
  have fin : ∀ {r : St H} {b' : Stack} {L' : Nat}, Agree L' r.stack b' → Agree r.stack.sp r.stack b' :=
    fun h => h.weaken (Nat.le_refl _) h.le
  have chk := ai.chk
  have hfr := hw.wf.frames
  obtain ⟨bc, bsp⟩ := b
  obtain rfl : s.stack.sp = bsp := hag.sp
  cases e with
  | jmp hf => exact ⟨_, .jmp hf, hag⟩
  | jntTaken hf hd => exact ⟨_, .jntTaken hf hd, hag⟩
  | jntFall hf hd => exact ⟨_, .jntFall hf hd, hag⟩
  | halt => exact ⟨_, .halt, hag⟩
  | mov hc ld hd sto =>
    cases st <;> first | cases chk | simp only [checkOp, Bool.and_eq_true] at chk
    have hd' := hd
    rw [ai.fetch] at hd'
    obtain ⟨q1, q2⟩ := sto.restack (by rw [← hd']; exact chk.1.2) ⟨bc, s.stack.sp⟩
    exact ⟨_, .mov hc (ld.agree hag (fun off e => hbl off (by rw [hc, e]))) hd q2, by rw [q1]; exact hag⟩
  | movImm hf hv hd sto =>
    cases st <;> first | cases chk | simp only [checkOp, Bool.and_eq_true] at chk
    have hd' := hd
    rw [ai.fetch] at hd'
    obtain ⟨q1, q2⟩ := sto.restack (by rw [← hd']; exact chk.1.2) ⟨bc, s.stack.sp⟩
    exact ⟨_, .movImm hf hv hd q2, by rw [q1]; exact hag⟩
  | @push c v hc ld =>
    obtain ⟨L1, _, hag1⟩ := hag.push v
    exact ⟨_, .push hc (ld.agree hag (fun off e => hbl off (by rw [hc, e]))), fin hag1⟩
  | @pushImm v hf hv =>
    obtain ⟨L1, _, hag1⟩ := hag.push v
    exact ⟨_, .pushImm hf hv, fin hag1⟩
  | pushAcc =>
    obtain ⟨L1, _, hag1⟩ := hag.push s.acc
    exact ⟨_, .pushAcc, fin hag1⟩
  | cons h2 hd ha e1 e2 e3 =>
    exact ⟨_, .cons (s := { s with stack := ⟨bc, s.stack.sp⟩ }) h2 (hag.some (Nat.le_refl _) hd)
      (hag.some (Nat.sub_le _ _) ha) e1 e2 e3,
      (hag.setSp (n := s.stack.sp - 2) (Nat.sub_le _ _)).weaken (Nat.le_refl _) (Nat.sub_le _ _)⟩
  | vpush h1 hd hv =>
    exact ⟨_, .vpush (s := { s with stack := ⟨bc, s.stack.sp⟩ }) h1 (hag.some (Nat.le_refl _) hd) hv,
      (hag.setSp (n := s.stack.sp - 1) (Nat.sub_le _ _)).weaken (Nat.le_refl _) (Nat.sub_le _ _)⟩
  | closure ha hm =>
    exact ⟨_, .closure ha (by rw [← ll.makeClosure hw.inv hag]; exact hm), hag⟩
  | callProc hl =>
    obtain ⟨L1, _, hag1⟩ := hag.push (.envPtr s.ep)
    obtain ⟨L2, _, hag2⟩ := hag1.push (.instrPtr s.ipL (s.ipO + 1))
    exact ⟨_, .callProc hl, fin hag2⟩
  | callBuiltin hc hb =>
    obtain ⟨b', L', q, hag'⟩ := runBuiltin_stack (s := { s with ipO := s.ipO + 1 }) hag hb
    exact ⟨b', .callBuiltin hc q, fin hag'⟩
  | tcallBuiltin hc hb =>
    obtain ⟨b', L', q, hag'⟩ := runBuiltin_stack (s := { s with ipO := s.ipO + 1 }) hag hb
    exact ⟨b', .tcallBuiltin hc q, fin hag'⟩
  | callCont hc hi =>
    obtain ⟨c1, c2⟩ := hcf _ hc
    obtain ⟨b', q, hag'⟩ := invokeCont_stack (s := { s with ipO := s.ipO + 1 }) hag c1 c2 hi
    exact ⟨b', .callCont hc q, fin hag'⟩
  | tcallCont hc hi =>
    obtain ⟨c1, c2⟩ := hcf _ hc
    obtain ⟨b', q, hag'⟩ := invokeCont_stack (s := { s with ipO := s.ipO + 1 }) hag c1 c2 hi
    exact ⟨b', .tcallCont hc q, fin hag'⟩
  | tcallProc hl ht =>
    cases st <;> first | cases chk | simp only [checkOp, Bool.and_eq_true] at chk
    obtain ⟨_, _, _, _, _, _, hm, _⟩ := hfr.inv_frame ai.ht (by simpa using chk.1) ai.hst (by simp)
    obtain ⟨b', L', q, hag'⟩ := tcallTail_stack (s := { s with ipO := s.ipO + 1 }) hag rfl hm.lo_le ht
    exact ⟨b', .tcallProc hl q, fin hag'⟩
  | enter h1 h2 h3 h4 hh =>
    obtain ⟨L1, _, hag1⟩ := hag.push (.basePtr s.bp)
    refine ⟨_, .enter (s := { s with stack := ⟨bc, s.stack.sp⟩ }) h1 h2 (hag.some (Nat.sub_le _ _) h3) h4 ?_, fin hag1⟩
    rcases hh with hh | ⟨env, hc, hm⟩
    · exact .inl hh
    · refine .inr ⟨env, hc, ?_⟩
      rw [← ll.makeActivation hw.inv (by simp only [push_sp]; omega) (hag1.weaken (Nat.le_refl _) hag1.le)]
      exact hm
  | @ret n ep l o bp' r1 r2 r3 r4 r5 =>
    cases st <;> first | cases chk | simp only [checkOp] at chk
    obtain ⟨_, _, _, _, _, _, hm, _⟩ := hfr.inv_frame ai.ht (by simpa using chk) ai.hst (by simp)
    have hbp := hm.lo_le
    exact ⟨_, .ret (s := { s with stack := ⟨bc, s.stack.sp⟩ }) (hag.some (i := s.bp + 1) (by omega) r1)
      (hag.some (i := s.bp + 2) (by omega) r2) (hag.some (i := s.bp + 3) (by omega) r3) (hag.some (i := s.bp + 4) (by omega) r4) r5,
      (hag.setSp (n := s.bp - n) (by omega)).weaken (Nat.le_refl _) (by show s.bp - n ≤ s.stack.sp; omega)⟩
  | varArg he =>
    obtain ⟨b', L', q, hag'⟩ := stepVarArg_stack (s := { s with ipO := s.ipO + 1 }) hag he
    exact ⟨b', .varArg q, fin hag'⟩

/-- **`step` reads live cells only** -/
theorem step_stack {cl : CodeLaws ops} (ll : LiveLaws cl) {s r : St H} {K : List FDesc} {b : Stack} {bl : Bool}
    (hw : WFS cl s K) (hag : Agree s.stack.sp s.stack b) (hbl : BpLive ops s)
    (hfit : ∀ c, ops.callee s.heap s.acc = .continuation c → c.stack.cells.length ≤ b.cells.length)
    (hs : step ops s = .ok (r, bl)) :
    ∃ b', step ops { s with stack := b } = .ok ({ r with stack := b' }, bl) ∧
      Agree r.stack.sp r.stack b' := by
  obtain ⟨op, hr, e⟩ := step_eff hs
  obtain ⟨t, st, ai, _⟩ := hw.instr hr
  have hcf : ContFits ops s b := by
    intro c hc
    obtain ⟨Kc, hcw⟩ := cl.cont_wf hw.inv hc
    exact ⟨hcw.cap, hfit c hc⟩
  obtain ⟨b', e', hag'⟩ := e.agree ll ai hag hbl hcf
  exact ⟨b', e'.run (readOpcode_stack b hr), hag'⟩

end Marwood.Vm
