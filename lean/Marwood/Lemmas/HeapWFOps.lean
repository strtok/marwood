import Marwood.Lemmas.HeapWF
/-!
# `alloc`, `put`, `maybe_put`, `free` preserve heap well-formedness (T03.3 mutator part, T18.1)

`free` and `mark` go through `interned_closed_of_sub`; `pop_wf` (a free cell
becomes allocated) and `write_wf` (an allocated cell receives a value) are checked clause by clause.
-/
namespace Marwood.Lemmas.HeapWFOps
open Marwood Marwood.Heap Marwood.Spec Marwood.Lemmas.GcSweep
open Marwood.Lemmas.HeapOps Marwood.Lemmas.GcSafety Marwood.Lemmas.HeapWF
open Classical

theorem children_undefined (fixed : Bool) (h : Heap) (i : Nat) (hc : h.cells[i]? = some VCell.undefined) :
    h.children fixed i = [] := by
  unfold Heap.children; rw [hc]; rfl

theorem children_set (fixed : Bool) {h h' : Heap} {p : Nat} {c : VCell}
    (hc : h'.cells = h.cells.setIfInBounds p c) (hp : p < h.cells.size) (i : Nat) :
    h'.children fixed i = if i = p then crefs fixed c else h.children fixed i := by
  unfold Heap.children
  rw [hc, getElem?_set _ _ hp]
  by_cases e : i = p
  · rw [if_pos e, if_pos e]
  · rw [if_neg e, if_neg e]

structure AllocFacts (h h' : Heap) (p : Nat) : Prop where
  chunk : h'.chunk = h.chunk
  symtab : h'.symtab = h.symtab
  was_free : ¬ h.NonFree p
  now : h'.gc[p]? = some GcState.allocated
  undef : h'.cells[p]? = some VCell.undefined
  keep : ∀ x : Nat, h.NonFree x → h'.NonFree x ∧ h'.cells[x]? = h.cells[x]?
  only : ∀ x : Nat, h'.NonFree x → x = p ∨ h.NonFree x

theorem pop_wf (fixed : Bool) (h : Heap) (p : Nat) (rest : List Nat) (wf : WFHeap fixed h)
    (hf : h.free = p :: rest) :
    ∃ h', Heap.setState { h with free := rest } p .allocated = .ok h' ∧ WFHeap fixed h' ∧ AllocFacts h h' p ∧
      h'.cells = h.cells := by
  have hpf : h.gc[p]? = some GcState.free := (wf.free_iff p).mp (hf ▸ List.mem_cons_self)
  have hp : p < h.gc.size := lt_of_get_some hpf
  have hpu := wf.free_undef p hpf
  have hnd := List.nodup_cons.mp (hf ▸ wf.nodup)
  obtain ⟨h', he⟩ : ∃ h' : Heap, h' = { h with free := rest, gc := h.gc.setIfInBounds p .allocated } := ⟨_, rfl⟩
  have hgc : ∀ i : Nat, h'.gc[i]? = if i = p then some GcState.allocated else h.gc[i]? := fun i => by
    rw [he]; exact getElem?_set _ _ hp i
  have hcells : h'.cells = h.cells := by rw [he]
  have hsym : h'.symtab = h.symtab := by rw [he]
  have hnf : ∀ i, h'.NonFree i ↔ (i = p ∨ h.NonFree i) := by
    intro i
    unfold Heap.NonFree
    rw [hgc i]
    split
    · next e => exact ⟨fun _ => Or.inl e, fun _ => Or.inl rfl⟩
    · next e => exact ⟨Or.inr, fun x => x.resolve_left e⟩
  refine ⟨h', by rw [he, Heap.setState, if_pos hp], ?_, ?_, hcells⟩
  · refine ⟨⟨by rw [he]; exact Array.size_setIfInBounds.trans wf.sizes, by rw [he]; exact wf.shape,
      by rw [hcells]; exact wf.bound, fun i => ?_, by rw [he]; exact hnd.2, fun i hi => ?_,
      fun name i => ?_, fun i hi y hy => ?_⟩, fun i hi => ?_⟩
    · rw [hgc i, he]
      show i ∈ rest ↔ _
      split
      · next e => rw [e]; exact iff_of_false hnd.1 (by decide)
      · next e => rw [← wf.free_iff i, hf, List.mem_cons]; exact (or_iff_right e).symm
    · rw [hgc i] at hi
      split at hi
      · cases hi
      · rw [hcells]; exact wf.free_undef i hi
    · rw [Heap.symLookup, hsym, ← Heap.symLookup, wf.interned name i, Heap.AllocSym, Heap.AllocSym, hnf i, hcells]
      refine and_congr_right fun hc => ⟨Or.inr, fun hn => hn.resolve_left fun e => ?_⟩
      rw [e] at hc; exact absurd (hpu.symm.trans hc) nofun
    · rw [children_congr fixed h h' i (by rw [hcells])] at hy
      rw [hnf] at hi ⊢
      rcases hi with hi | hi
      · rw [hi, children_undefined fixed h p hpu] at hy; cases hy
      · exact (wf.closed i hi y hy).imp Or.inr id
    · rw [hgc i] at hi
      split at hi
      · cases hi
      · exact wf.no_used i hi
  · refine ⟨by rw [he], hsym, not_nonFree_of_free hpf, (hgc p).trans (if_pos rfl), hcells ▸ hpu,
      fun x hx => ⟨(hnf x).mpr (Or.inr hx), by rw [hcells]⟩, fun x hx => (hnf x).mp hx⟩

/-- T03.3 / T18.1 for `alloc` (`hb`: the heap stays below 2^63 cells if it has to grow) -/
theorem alloc_wf (fixed : Bool) (h h' : Heap) (p : Nat) (wf : WFHeap fixed h)
    (hb : Heap.grownSize h.chunk h.cells.size ≤ 2 ^ 63) (ha : h.alloc = .ok (h', p)) :
    WFHeap fixed h' ∧ AllocFacts h h' p := by
  unfold Heap.alloc at ha
  cases hf : h.free with
  | cons q rest =>
    obtain ⟨h1, hs, wf1, af, _⟩ := pop_wf fixed h q rest wf hf
    simp only [hf, hs, bind, Except.bind, pure, Except.pure] at ha
    cases ha
    exact ⟨wf1, af⟩
  | nil =>
    obtain ⟨g, hg, gs, hsg⟩ := grow_spec h wf.sizes wf.shape
    simp only [hf, hg, bind, Except.bind] at ha
    have wfg := grow_wf fixed h g wf gs hsg (by rw [gs.csize]; exact hb)
    obtain ⟨g1, g2, _⟩ := grow_get h g wf.sizes gs
    cases hgf : g.free with
    | nil => rw [hgf] at ha; cases ha
    | cons q rest =>
      obtain ⟨h1, hs, wf1, af, hcells⟩ := pop_wf fixed g q rest wfg hgf
      simp only [hgf, hs, pure, Except.pure] at ha
      cases ha
      -- growth adds free cells only, so the facts about the pop carry over
      have hlt : ∀ {x}, h.NonFree x → x < h.cells.size := fun hx => wf.sizes ▸ nonFree_lt hx
      refine ⟨wf1, ⟨af.chunk.trans gs.chunk, af.symtab.trans gs.symtab, ?_, af.now, af.undef, ?_, ?_⟩⟩
      · exact fun hc => af.was_free ((nonFree_congr (g1 p (hlt hc)).2).mpr hc)
      · intro x hx
        obtain ⟨c, d⟩ := af.keep x ((nonFree_congr (g1 x (hlt hx)).2).mpr hx)
        exact ⟨c, d.trans (g1 x (hlt hx)).1⟩
      · intro x hx
        refine (af.only x hx).imp id fun hx => ?_
        by_cases hl : x < h.cells.size
        · exact (nonFree_congr (g1 x hl).2).mp hx
        · exact absurd hx (not_nonFree_of_free
            (g2 x (Nat.le_of_not_lt hl) (wfg.sizes ▸ nonFree_lt hx)).2)

def RefsOk (fixed : Bool) (h : Heap) (c : VCell) : Prop := ∀ y ∈ crefs fixed c, h.NonFree y ∨ Sentinel y

def VCell.isSymbol : VCell → Prop
  | .symbol _ => True
  | _ => False

theorem nonFree_of_cell {fixed : Bool} {h : Heap} {p : Nat} {c : VCell} (wf : WFHeap fixed h)
    (hc : h.cells[p]? = some c) (hu : c ≠ .undefined) : h.NonFree p := by
  rcases wf.state_cases (wf.sizes ▸ lt_of_get_some hc) with x | x
  · exact .inl x
  · exact absurd (Option.some.inj (hc.symm.trans (wf.free_undef p x))) hu

/-- `tab` binds `c`'s name to `p` if `c` is a symbol and otherwise looks up as before -/
theorem write_wf {fixed : Bool} {h : Heap} {p : Nat} {c : VCell} (wf : WFHeap fixed h)
    (hp : h.NonFree p) (hrefs : RefsOk fixed h c) (tab : List (Text × Nat))
    (htab : ∀ n i, (tab.find? (·.1 = n)).map (·.2) = some i ↔
      if i = p then c = .symbol n else h.symLookup n = some i) :
    WFHeap fixed { h with cells := h.cells.setIfInBounds p c, symtab := tab } := by
  have hpc : p < h.cells.size := wf.sizes ▸ nonFree_lt hp
  have hcell := getElem?_set h.cells c hpc
  refine ⟨⟨wf.sizes.trans Array.size_setIfInBounds.symm,
    by rw [show ∀ a : Array VCell, (a.setIfInBounds p c).size = a.size from fun _ => Array.size_setIfInBounds]
       exact wf.shape,
    Nat.le_trans (Nat.le_of_eq Array.size_setIfInBounds) wf.bound, wf.free_iff, wf.nodup,
    fun i hi => ?_, fun n i => ?_, fun i hi y hy => ?_⟩, wf.no_used⟩
  · show (h.cells.setIfInBounds p c)[i]? = _
    rw [hcell i, if_neg]
    · exact wf.free_undef i hi
    · intro e; rw [e] at hi; exact not_nonFree_of_free hi hp
  · show (tab.find? (·.1 = n)).map (·.2) = some i ↔ (h.cells.setIfInBounds p c)[i]? = _ ∧ h.NonFree i
    rw [htab n i, hcell i]
    split
    · next e => exact ⟨fun hc => ⟨congrArg some hc, e ▸ hp⟩, fun hc => Option.some.inj hc.1⟩
    · exact wf.interned n i
  · rw [children_set fixed (h := h) rfl hpc i] at hy
    split at hy
    · exact hrefs y hy
    · exact wf.closed i hi y hy

theorem lookup_ne_of_nonsym {fixed : Bool} {h : Heap} {p : Nat} {c0 : VCell} (wf : WFHeap fixed h)
    (hc : h.cells[p]? = some c0) (hs0 : ¬ VCell.isSymbol c0) (n : Text) : h.symLookup n ≠ some p := fun e =>
  hs0 (Option.some.inj (hc.symm.trans ((wf.interned n p).mp e).1) ▸ trivial)

theorem overwrite_wf {fixed : Bool} {h : Heap} {p : Nat} {c0 c : VCell} (wf : WFHeap fixed h)
    (hp : h.NonFree p) (hold : h.cells[p]? = some c0) (hs0 : ¬ VCell.isSymbol c0) (hns : ¬ VCell.isSymbol c)
    (hrefs : RefsOk fixed h c) : WFHeap fixed { h with cells := h.cells.setIfInBounds p c } := by
  refine write_wf wf hp hrefs h.symtab fun n i => ?_
  split
  · next e => exact iff_of_false (e ▸ lookup_ne_of_nonsym wf hold hs0 n) fun hc => hns (hc ▸ trivial)
  · rfl

theorem write_wf_sym {fixed : Bool} {h : Heap} {p : Nat} {name : Text} (wf : WFHeap fixed h)
    (hp : h.gc[p]? = some GcState.allocated) (hu : h.cells[p]? = some VCell.undefined)
    (hnew : h.symLookup name = none) :
    WFHeap fixed { h with cells := h.cells.setIfInBounds p (.symbol name),
                          symtab := Heap.symInsert h.symtab name p } := by
  refine write_wf wf (.inl hp) (fun y hy => by cases hy) _ fun n i => ?_
  rw [lookup_insert]
  by_cases hn : n = name
  · rw [if_pos hn, hn]
    split
    · next e => exact iff_of_true (congrArg some e.symm) rfl
    · next e => exact iff_of_false (fun hc => e (Option.some.inj hc).symm) (by rw [hnew]; exact nofun)
  · rw [if_neg hn]
    split
    · next e => exact iff_of_false (e ▸ lookup_ne_of_nonsym wf hu id n) fun hc => hn (VCell.symbol.inj hc).symm
    · rfl

theorem putNew_nonsym (h : Heap) (c : VCell) (hns : ¬ VCell.isSymbol c) :
    h.putNew c = (do
      let (h1, p) ← h.alloc
      let h2 ← h1.write p c
      pure (h2, VCell.ptr p)) := by
  cases c <;> first | rfl | exact absurd trivial hns

structure PutFacts (h h' : Heap) (c v : VCell) : Prop where
  keep : ∀ x : Nat, h.NonFree x → h'.NonFree x ∧ h'.cells[x]? = h.cells[x]?
  chunk : h'.chunk = h.chunk
  result : ∃ p, v = .ptr p ∧ h'.NonFree p ∧ h'.cells[p]? = some c

theorem AllocFacts.put {h h1 : Heap} {p : Nat} (af : AllocFacts h h1 p) (c : VCell)
    (tab : List (Text × Nat)) :
    PutFacts h { h1 with cells := h1.cells.setIfInBounds p c, symtab := tab } c (.ptr p) := by
  have hcell := getElem?_set h1.cells c (lt_of_get_some af.undef)
  refine ⟨fun x hx => ⟨(af.keep x hx).1, ?_⟩, af.chunk, p, rfl, Or.inl af.now, (hcell p).trans (if_pos rfl)⟩
  exact ((hcell x).trans (if_neg fun (e : x = p) => af.was_free (e ▸ hx))).trans (af.keep x hx).2

/-- the allocating path of `putNew`, read backwards; `f` is what happens to the table afterwards -/
theorem alloc_write_inv {h h' : Heap} {c v : VCell} {f : Heap → Nat → Heap}
    (hput : (do
      let (h1, p) ← h.alloc
      let h2 ← h1.write p c
      pure (f h2 p, VCell.ptr p)) = Except.ok (h', v)) :
    ∃ h1 p, h.alloc = .ok (h1, p) ∧ v = .ptr p ∧
      h' = f { h1 with cells := h1.cells.setIfInBounds p c } p := by
  cases ha : h.alloc with
  | error e => simp [ha, bind, Except.bind] at hput
  | ok r =>
    obtain ⟨h1, p⟩ := r
    by_cases hpc : p < h1.cells.size
    · simp only [ha, Heap.write, hpc, if_true, bind, Except.bind, pure, Except.pure, Except.ok.injEq,
        Prod.mk.injEq] at hput
      exact ⟨h1, p, rfl, hput.2.symm, hput.1.symm⟩
    · simp [ha, Heap.write, hpc, bind, Except.bind] at hput

theorem putNew_wf (fixed : Bool) (h h' : Heap) (c v : VCell) (wf : WFHeap fixed h)
    (hrefs : RefsOk fixed h c) (hb : Heap.grownSize h.chunk h.cells.size ≤ 2 ^ 63)
    (hput : h.putNew c = .ok (h', v)) : WFHeap fixed h' ∧ PutFacts h h' c v := by
  by_cases hsym : VCell.isSymbol c
  · -- a symbol
    cases c with
    | symbol name =>
      simp only [Heap.putNew] at hput
      cases hl : h.symLookup name with
      | some p =>
        simp only [hl] at hput
        cases hput
        have ⟨h1, h2⟩ := (wf.interned name p).mp hl
        exact ⟨wf, ⟨fun x hx => ⟨hx, rfl⟩, rfl, p, rfl, h2, h1⟩⟩
      | none =>
        simp only [hl] at hput
        obtain ⟨h1, p, ha, hv, hh⟩ :=
          alloc_write_inv (f := fun h2 p => { h2 with symtab := Heap.symInsert h2.symtab name p }) hput
        obtain ⟨wf1, af⟩ := alloc_wf fixed h h1 p wf hb ha
        -- said outright, so that the table is not compared through the unreduced `f`
        have hh' : h' = { h1 with cells := h1.cells.setIfInBounds p (.symbol name),
                                  symtab := Heap.symInsert h1.symtab name p } := hh
        rw [hv, hh']
        exact ⟨write_wf_sym wf1 af.now af.undef (by rw [Heap.symLookup, af.symtab]; exact hl), af.put _ _⟩
    | _ => exact absurd hsym (by simp [VCell.isSymbol])
  · rw [putNew_nonsym h c hsym] at hput
    obtain ⟨h1, p, ha, hv, hh⟩ := alloc_write_inv (f := fun h2 _ => h2) hput
    obtain ⟨wf1, af⟩ := alloc_wf fixed h h1 p wf hb ha
    subst hv hh
    exact ⟨overwrite_wf wf1 (.inl af.now) af.undef id hsym fun y hy => (hrefs y hy).imp (fun e => (af.keep y e).1) id,
      af.put c _⟩

theorem put_cases (h : Heap) (c : VCell) :
    ((∃ q, c = .ptr q) ∧ h.put c = .ok (h, c)) ∨ h.put c = h.putNew c := by
  cases c with
  | ptr q => exact Or.inl ⟨⟨q, rfl⟩, rfl⟩
  | _ => exact Or.inr rfl

theorem maybePut_cases (h : Heap) (c : VCell) : h.maybePut c = .ok (h, c) ∨ h.maybePut c = h.putNew c := by
  cases c with
  | ptr q => exact Or.inl rfl
  | atom a =>
    by_cases hi : Heap.Atom.immediate a = true
    · exact Or.inl (if_pos hi)
    · exact Or.inr (if_neg hi)
  | _ => exact Or.inr rfl

/-- T03.3 / T18.1 for `put` -/
theorem put_wf (fixed : Bool) (h h' : Heap) (c v : VCell) (wf : WFHeap fixed h)
    (hrefs : RefsOk fixed h c) (hb : Heap.grownSize h.chunk h.cells.size ≤ 2 ^ 63)
    (hput : h.put c = .ok (h', v)) :
    WFHeap fixed h' ∧ ((∃ q, c = .ptr q ∧ v = c ∧ h' = h) ∨ PutFacts h h' c v) := by
  rcases put_cases h c with ⟨⟨q, hq⟩, e⟩ | e
  · rw [e] at hput; cases hput
    exact ⟨wf, Or.inl ⟨q, hq, rfl, rfl⟩⟩
  · rw [e] at hput
    exact (putNew_wf fixed h h' c v wf hrefs hb hput).imp id Or.inr

/-- T03.3 / T18.1 for `maybe_put` -/
theorem maybePut_wf (fixed : Bool) (h h' : Heap) (c v : VCell) (wf : WFHeap fixed h)
    (hrefs : RefsOk fixed h c) (hb : Heap.grownSize h.chunk h.cells.size ≤ 2 ^ 63)
    (hput : h.maybePut c = .ok (h', v)) :
    WFHeap fixed h' ∧ ((v = c ∧ h' = h) ∨ PutFacts h h' c v) := by
  rcases maybePut_cases h c with e | e
  · rw [e] at hput; cases hput
    exact ⟨wf, Or.inl ⟨rfl, rfl⟩⟩
  · rw [e] at hput
    exact (putNew_wf fixed h h' c v wf hrefs hb hput).imp id Or.inr

/-- T03.3 / T18.1 for `free` of a cell no other allocated cell refers to -/
theorem free_wf (fixed : Bool) (h h' : Heap) (p : Nat) (wf : WFHeap fixed h)
    (hp : h.gc[p]? = some GcState.allocated)
    (hunref : ∀ i, i ≠ p → h.NonFree i → p ∉ h.children fixed i)
    (hfree : h.free' p = .ok h') : WFHeap fixed h' := by
  have hpg : p < h.gc.size := lt_of_get_some hp
  have hpc : p < h.cells.size := wf.sizes ▸ hpg
  simp only [Heap.free', Heap.setState, hpg, if_true, bind, Except.bind, hpc] at hfree
  have he := (Except.ok.inj hfree).symm
  have hgc : ∀ i : Nat, h'.gc[i]? = if i = p then some GcState.free else h.gc[i]? := fun i => by
    rw [he]; exact getElem?_set _ _ hpg i
  have hcell : ∀ i : Nat, h'.cells[i]? = if i = p then some VCell.undefined else h.cells[i]? := fun i => by
    rw [he]; exact getElem?_set _ _ hpc i
  have hgs : h'.gc.size = h.gc.size := by rw [he]; exact Array.size_setIfInBounds
  have hcs : h'.cells.size = h.cells.size := by rw [he]; exact Array.size_setIfInBounds
  have hch : h'.chunk = h.chunk := by rw [he]
  have hfl : h'.free = p :: h.free := by rw [he]
  have hnf : ∀ i, h'.NonFree i ↔ i ≠ p ∧ h.NonFree i := by
    intro i
    unfold Heap.NonFree
    rw [hgc i]
    split
    · next e => exact iff_of_false (by decide) fun x => x.1 e
    · next e => exact (and_iff_right e).symm
  obtain ⟨hint, hclosed⟩ := interned_closed_of_sub (h' := h') wf.toWFCore
    (fun i hi => ⟨((hnf i).mp hi).2, (hcell i).trans (if_neg ((hnf i).mp hi).1)⟩)
    (fun i hi y hy hny => (hnf y).mpr
      ⟨fun e => hunref i ((hnf i).mp hi).1 ((hnf i).mp hi).2 (e ▸ hy), hny⟩) (by
      -- the name held by `p`, if any, is the one binding that goes
      intro n i
      rw [hnf i, he]
      show ((Heap.freeTab h.cells h.symtab p).find? (·.1 = n)).map (·.2) = some i ↔ _
      rw [lookup_freeTab]
      split
      · next hc =>
        have hlp := (wf.interned n p).mpr ⟨hc, Or.inl hp⟩
        refine iff_of_false nofun fun x => x.2.1 ?_
        exact Option.some.inj (x.1.symm.trans hlp)
      · next hc =>
        refine ⟨fun hl => ⟨hl, fun e => hc ?_, ((wf.interned n i).mp hl).2⟩, fun x => x.1⟩
        exact e ▸ ((wf.interned n i).mp hl).1)
  refine ⟨⟨by rw [hgs, hcs]; exact wf.sizes, by rw [hch, hcs]; exact wf.shape, by rw [hcs]; exact wf.bound,
    fun i => ?_, ?_, fun i hi => ?_, hint, hclosed⟩, fun i hi => ?_⟩
  · rw [hfl, hgc i, List.mem_cons]
    split
    · next e => exact iff_of_true (Or.inl e) rfl
    · next e => rw [or_iff_right e]; exact wf.free_iff i
  · rw [hfl]
    exact List.nodup_cons.mpr ⟨fun hc => absurd (hp.symm.trans ((wf.free_iff p).mp hc)) (by decide), wf.nodup⟩
  · rw [hcell i]
    split
    · rfl
    · next e => exact wf.free_undef i (((hgc i).trans (if_neg e)).symm.trans hi)
  · rw [hgc i] at hi
    split at hi
    · cases hi
    · exact wf.no_used i hi

theorem new_wf (fixed : Bool) (chunk : Nat) (h : Heap) (hpos : 0 < chunk) (hb : chunk ≤ 2 ^ 63)
    (hn : Heap.new chunk = .ok h) : WFHeap fixed h := by
  unfold Heap.new at hn
  split at hn
  · cases hn
  · next h4 =>
    cases hn
    have hgc : ∀ i : Nat, (Array.replicate chunk GcState.free)[i]? = some GcState.free ↔ i < chunk := by
      intro i
      rw [Array.getElem?_replicate]
      split
      · next e => exact iff_of_true rfl e
      · next e => exact iff_of_false nofun e
    have hnn : ∀ (i : Nat) s, (Array.replicate chunk GcState.free)[i]? = some s → s = GcState.free := by
      intro i s e
      rw [Array.getElem?_replicate] at e
      split at e
      · exact (Option.some.inj e).symm
      · cases e
    have hnf : ∀ (h : Heap) i, h.gc = Array.replicate chunk GcState.free → ¬ h.NonFree i := by
      rintro h i hg (e | e) <;> rw [hg] at e <;> cases hnn i _ e
    refine ⟨⟨Array.size_replicate.trans Array.size_replicate.symm,
      ⟨hpos, Decidable.not_not.mp h4, 1, Nat.one_pos, Array.size_replicate.trans (Nat.one_mul _).symm⟩,
      Nat.le_trans (Nat.le_of_eq Array.size_replicate) hb, fun i => ?_, List.nodup_range, fun i hi => ?_,
      fun name i => ⟨nofun, fun x => absurd x.2 (hnf _ i rfl)⟩, fun i hi => absurd hi (hnf _ i rfl)⟩,
      fun i e => by cases hnn i _ e⟩
    · exact List.mem_range.trans (hgc i).symm
    · show (Array.replicate chunk VCell.undefined)[i]? = _
      rw [Array.getElem?_replicate, if_pos ((hgc i).mp hi)]

/-- T03.3 for `mark` alone: marks never touch a free cell -/
theorem mark_wfcore (fixed : Bool) (h h1 : Heap) (roots : List Nat) (wf : WFHeap fixed h)
    (hr : RootsOk h roots) (hm : h.mark fixed roots = some h1) :
    WFCore fixed h1 ∧ (∀ i : Nat, h1.NonFree i ↔ h.NonFree i) ∧
      (∀ i : Nat, h1.gc[i]? = some GcState.used ↔ Reachable fixed h roots i) := by
  have ms := mark_spec fixed h roots h1 wf.no_used hm
  have hnf := reachable_nonFree fixed h roots wf.toWFCore hr
  have hch : ∀ i : Nat, h1.gc[i]? = h.gc[i]? ∨
      (h1.gc[i]? = some GcState.used ∧ h.gc[i]? = some GcState.allocated) := fun i =>
    (ms.frame i).imp id fun x => ⟨x.1, wf.allocated (hnf i ((ms.used_iff i).mp x.1))⟩
  have hfree : ∀ i : Nat, h1.gc[i]? = some GcState.free ↔ h.gc[i]? = some GcState.free := by
    intro i
    rcases hch i with e | ⟨e1, e2⟩
    · rw [e]
    · rw [e1, e2]; exact iff_of_false (by decide) (by decide)
  have hnf1 : ∀ i : Nat, h1.NonFree i ↔ h.NonFree i := by
    intro i
    rcases hch i with e | ⟨e1, e2⟩
    · exact nonFree_congr e
    · exact iff_of_true (Or.inr e1) (Or.inl e2)
  obtain ⟨hint, hclosed⟩ := interned_closed_of_same wf.toWFCore hnf1 (fun i _ => by rw [ms.cells]) ms.symtab
  refine ⟨⟨by rw [ms.gcsize, ms.cells]; exact wf.sizes, by rw [ms.chunk, ms.cells]; exact wf.shape,
    by rw [ms.cells]; exact wf.bound, fun i => ?_, by rw [ms.free]; exact wf.nodup, fun i hi => ?_,
    hint, hclosed⟩, hnf1, ms.used_iff⟩
  · rw [ms.free, hfree i]; exact wf.free_iff i
  · rw [ms.cells]; exact wf.free_undef i ((hfree i).mp hi)

end Marwood.Lemmas.HeapWFOps
