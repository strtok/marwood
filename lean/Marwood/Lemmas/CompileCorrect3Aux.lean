import Marwood.Lemmas.CompileCorrect3Pres
/-!
# T01.3 stage 3 — auxiliary facts: the code of an internal definition,
slots of the map `formals ++ internal definitions ++ captured`
-/
namespace Marwood.Lemmas.CompileCorrect3
open Marwood Marwood.Vm Marwood.Lemmas.CompileCorrect Marwood.Lemmas.CompileCorrect2
open Marwood.Spec.Eval (Val Prim Cell Env quoteVal k_define)

variable {H : Type} {ops : HeapOps H} {D : RepData2 ops}

theorem lt_size_of_get {S : Array Cell} {l : Nat} {c : Cell} (h : S[l]? = some c) : l < S.size :=
  (Array.getElem?_eq_some_iff.mp h).1

theorem compile_define_inv {fuel : Nat} {st st' : CState} {c : Ctx} {base : Nat} {tail : Bool} {code : List BC}
    {x : Text} {e : Datum}
    (h : compileExpr (fuel + 1) st c base tail (defForm x e) = .ok (st', code)) :
    ∃ code1, compileExpr fuel st c base false e = .ok (st', code1) ∧
      code = code1 ++ [.op .mov, .acc, emitLoc c x, .op .movImm, .void, .acc] :=
  compile_define_inv2 h

/-- the parts `compile_define` computes from the form `(define (x . formals) body …)` -/
theorem lambdaParts_cur_inv {fuel : Nat} {c : Ctx} {x : Text} {formals lbody : Datum} {p : LambdaParts}
    (h : lambdaParts fuel c (curForm x formals lbody) true = .ok p) :
    p.body = lbody ∧ p.ctx.args = p.formals ∧
      p.prologue = (if p.isVararg then [.op .varArg] else []) ++ [.op .enter] := by
  obtain ⟨_, _, _, _, he, hctx, hpro⟩ := lambdaParts_view h
  unfold curForm at he
  cases he
  exact ⟨rfl, by rw [hctx], hpro⟩

theorem compile_defcur_inv {fuel : Nat} {st st' : CState} {c : Ctx} {base : Nat} {tail : Bool} {code : List BC}
    {x : Text} {formals lbody : Datum}
    (h : compileExpr (fuel + 1) st c base tail (curForm x formals lbody) = .ok (st', code)) :
    ∃ p st1 bcode, lambdaParts fuel c (curForm x formals lbody) true = .ok p ∧
      compileBody fuel st p.ctx p.prologue.length p.body = .ok (st1, bcode) ∧
      st'.lambdas = st1.lambdas ++ [lamOf p bcode] ∧
      code = [.op .movImm, .lambda st1.lambdas.length, .acc, .op .closureAcc] ++
        [.op .mov, .acc, emitLoc c x, .op .movImm, .void, .acc] := by
  unfold curForm at h ⊢
  cases compileExpr_view h with
  | defineFun _ hp hb => exact ⟨_, _, _, hp, hb, rfl, rfl⟩
  | _ => simp_all [selfEval]

theorem em3_length (fs ints : List Text) (caps : List (Text × Source)) :
    (em3 fs ints caps).length = fs.length + ints.length + caps.length := by
  simp [em3, argEntries]; omega

theorem em3_get_arg (fs ints : List Text) (caps : List (Text × Source)) (j : Nat) (x : Text) (h : fs[j]? = some x) :
    (em3 fs ints caps)[j]? = some (x, .argument j) := by
  have hlt : j < fs.length := (List.getElem?_eq_some_iff.mp h).1
  unfold em3
  rw [List.append_assoc, List.getElem?_append_left (by rw [argEntries_length]; exact hlt)]
  exact argEntries_get fs j x h

theorem em3_get_int (fs ints : List Text) (caps : List (Text × Source)) (i : Nat) (x : Text) (h : ints[i]? = some x) :
    (em3 fs ints caps)[fs.length + i]? = some (x, .internal) := by
  have hlt : i < ints.length := (List.getElem?_eq_some_iff.mp h).1
  unfold em3
  rw [List.append_assoc, List.getElem?_append_right (by rw [argEntries_length]; omega), argEntries_length,
    show fs.length + i - fs.length = i by omega, List.getElem?_append_left (by simpa using hlt),
    List.getElem?_map, h]
  rfl

theorem em3_entry_cases {fs ints : List Text} {caps : List (Text × Source)} {j : Nat} {q : Text × Source}
    (h : (em3 fs ints caps)[j]? = some q) :
    (j < fs.length ∧ ∃ x, fs[j]? = some x ∧ q = (x, .argument j)) ∨
    (fs.length ≤ j ∧ j < fs.length + ints.length ∧ ∃ x, ints[j - fs.length]? = some x ∧ q = (x, .internal)) ∨
    (fs.length + ints.length ≤ j ∧ q ∈ caps) := by
  by_cases hj : j < fs.length
  · left
    have hx : fs[j]? = some fs[j] := List.getElem?_eq_getElem hj
    rw [em3_get_arg fs ints caps j _ hx] at h
    cases h
    exact ⟨hj, _, hx, rfl⟩
  · by_cases hj2 : j < fs.length + ints.length
    · right; left
      have hi : j - fs.length < ints.length := by omega
      have hx : ints[j - fs.length]? = some ints[j - fs.length] := List.getElem?_eq_getElem hi
      have := em3_get_int fs ints caps (j - fs.length) _ hx
      rw [show fs.length + (j - fs.length) = j by omega, h] at this
      cases this
      exact ⟨by omega, hj2, _, hx, rfl⟩
    · right; right
      unfold em3 at h
      rw [List.getElem?_append_right (by simp [argEntries_length]; omega)] at h
      exact ⟨by omega, List.mem_of_getElem? h⟩

theorem slot3_cases {fs ints : List Text} {caps : List (Text × Source)} {x : Text} {j : Nat}
    (h : slotIdx (em3 fs ints caps) x = some j) :
    (j < fs.length ∧ fs[j]? = some x) ∨
    (fs.length ≤ j ∧ j < fs.length + ints.length ∧ ints[j - fs.length]? = some x) ∨
    (fs.length + ints.length ≤ j ∧ x ∉ fs ++ ints ∧ ∃ src, (em3 fs ints caps)[j]? = some (x, src) ∧ (x, src) ∈ caps) := by
  obtain ⟨⟨src, hsrc⟩, hbefore⟩ := slotIdx_spec h
  rcases em3_entry_cases hsrc with ⟨hlt, y, hy, he⟩ | ⟨h1, h2, y, hy, he⟩ | ⟨h1, hmem⟩
  · cases he; exact .inl ⟨hlt, hy⟩
  · cases he; exact .inr (.inl ⟨h1, h2, hy⟩)
  · refine .inr (.inr ⟨h1, ?_, src, hsrc, hmem⟩)
    intro hm
    rcases List.mem_append.mp hm with hm | hm
    · obtain ⟨i, hi, hxi⟩ := List.getElem_of_mem hm
      have hgi : fs[i]? = some x := by rw [List.getElem?_eq_getElem hi, hxi]
      exact hbefore i (by omega) _ (em3_get_arg fs ints caps i x hgi) rfl
    · obtain ⟨i, hi, hxi⟩ := List.getElem_of_mem hm
      have hgi : ints[i]? = some x := by rw [List.getElem?_eq_getElem hi, hxi]
      exact hbefore (fs.length + i) (by omega) _ (em3_get_int fs ints caps i x hgi) rfl

end Marwood.Lemmas.CompileCorrect3
