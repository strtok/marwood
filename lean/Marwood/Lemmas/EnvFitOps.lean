import Marwood.Lemmas.EnvFitDefs
/-!
# The slot clause of T06.6 as an invariant: the heap operations of `run_one` as `FStep`s
-/
namespace Marwood.Lemmas.Good
open Marwood Marwood.Vm Marwood.Vm.Verify Marwood.Vm.Concrete Marwood.Lemmas.Sim
open Marwood.Heap (GcState)

theorem cput_cells {h : CHeap} (c : CCell) :
    (∀ i x, (cput h c).1.cells[i]? = some x →
      (i = (cput h c).2 ∧ x = c) ∨ (i ≠ (cput h c).2 ∧ h.cells[i]? = some x) ∨ x = CCell.val .undefined) ∧
    (∀ i x, h.cells[i]? = some x → i ≠ (cput h c).2 → (cput h c).1.cells[i]? = some x) ∧
    ((cput h c).2 ∈ h.free ∨ h.cells.size ≤ (cput h c).2) ∧
    (∀ q, q ∈ (cput h c).1.free → q ∈ h.free ∨ h.cells.size ≤ q) :=
  ⟨(cput_cells0 c).1, (cput_cells0 c).2, (calloc_allocd h).fresh, (calloc_allocd h).free_sub⟩

theorem cput_fstep {h : CHeap} (lf : LF h) {c : CCell} (hc : ∀ lam, c ≠ CCell.lambda lam) :
    FStep (fun x => x = c) h (cput h c).1 := by
  obtain ⟨k1, k2, k3, k4⟩ := cput_cells (h := h) c
  obtain ⟨ls, lf', _⟩ := cput_lamSame lf hc
  refine ⟨ls, lf', ?_, ?_, k4, cput_size h c⟩
  · intro i x hx
    rcases k1 i x hx with ⟨e1, e2⟩ | ⟨_, e⟩ | e
    · subst e1; exact .inr (.inr (.inl ⟨k3, e2⟩))
    · exact .inl e
    · exact .inr (.inr (.inr e))
  · intro i x hx hnf _
    refine k2 i x hx ?_
    intro e
    rcases k3 with h1 | h1
    · rw [← e] at h1; exact hnf h1
    · rw [← e] at h1; have := lt_of_get_some hx; omega

theorem cput_at {h : CHeap} {c x : CCell} (hx : (cput h c).1.cells[(cput h c).2]? = some x) : x = c := by
  simp only [cput] at hx
  rw [cwrite_cells] at hx
  split at hx
  · cases hx; rfl
  · rename_i hne
    exfalso; apply hne
    exact ⟨rfl, by have := lt_of_get_some hx; simpa [cwrite] using this⟩

theorem envPut_fstep {N : CCell → Prop} {h h' : CHeap} (lf : LF h) {e k : Nat} {v : VCell}
    (hp : envPut h e k v = some h') : FStep N h h' := by
  obtain ⟨ss, hcell, _, rfl⟩ := envPut_inv hp
  have ls : LamSame h (cwrite h e (.lexEnv (ss.set k v))) :=
    lambdaAt_cwrite (fun _ x => nomatch hcell.symm.trans x) (fun _ x => nomatch x)
  refine ⟨ls, ?_, ?_, ?_, fun _ x => .inl x, by simp [cwrite]⟩
  · exact fun l lam hl hm => lf l lam (ls.cell hl) hm
  · intro i c hc
    rw [cwrite_cells] at hc
    split at hc
    · rename_i hh; obtain ⟨rfl, _⟩ := hh
      cases hc
      exact .inr (.inl ⟨ss, _, rfl, hcell, by simp⟩)
    · exact .inl hc
  · intro i c hc _ hne
    rw [cwrite_cells]
    split
    · rename_i hh; obtain ⟨rfl, _⟩ := hh
      rw [hcell] at hc; cases hc; exact absurd rfl (hne ss)
    · exact hc

theorem putNew_fstep {h : CHeap} (lf : LF h) (v : VCell) : FStep (fun x => x = .val v) h (putNew h v).1 := by
  have hc : ∀ lam, CCell.val v ≠ CCell.lambda lam := fun lam hh => by cases hh
  unfold putNew
  split
  · split
    · exact .refl lf
    · have x := cput_fstep lf (c := .val v) hc
      exact ⟨x.ls.trans (.of_cells rfl), fun l lam hl hm => x.lf l lam hl hm, x.cells, x.keep, x.free, x.size⟩
  · exact cput_fstep lf hc

theorem putV_fstep {h : CHeap} (lf : LF h) (v : VCell) : FStep (fun x => x = .val v) h (putV h v).1 := by
  unfold putV
  split
  · exact .refl lf
  · exact putNew_fstep lf v

theorem maybePutV_fstep {h : CHeap} (lf : LF h) (v : VCell) : FStep (fun x => x = .val v) h (maybePutV h v).1 := by
  unfold maybePutV
  split
  · exact .refl lf
  · exact putNew_fstep lf v

theorem globPut_fstep {N : CCell → Prop} {h : CHeap} (lf : LF h) (n : Nat) (v : VCell) :
    FStep N h { h with globals := h.globals.setIfInBounds n v } := .of_eq lf rfl rfl

def ClosNew (h' : CHeap) (lam : Nat) (c : CCell) : Prop :=
  (∃ ss, c = .lexEnv ss) ∨ ∃ e, c = .val (.closure lam e) ∧ Fit h' e lam

theorem makeClosure_fstep {h h' : CHeap} (lf : LF h) {lam ep bp : Nat} {st : Stack} {c : VCell}
    (hm : makeClosure h lam ep bp st = .ok (h', c)) : FStep (ClosNew h' lam) h h' := by
  unfold makeClosure at hm
  cases hl : lambdaAt h lam with
  | none => rw [hl] at hm; cases hm
  | some l =>
    rw [hl] at hm
    simp only at hm
    obtain ⟨slots, hsl, hm⟩ := bind_inv hm
    cases hm
    have hlen := (closureSlots_mem l.envmap slots hsl).1
    have x1 := cput_fstep lf (c := .lexEnv slots) (fun lam hh => by cases hh)
    have x2 := cput_fstep x1.lf (c := .val (.closure lam (cput h (.lexEnv slots)).2)) (fun lam hh => by cases hh)
    -- the closure cell fits in the final heap
    have hfit : Fit (cput (cput h (.lexEnv slots)).1 (.val (.closure lam (cput h (.lexEnv slots)).2))).1
        (cput h (.lexEnv slots)).2 lam := by
      intro lam' ss' hl' he'
      rw [(x1.ls.trans x2.ls) lam, hl] at hl'
      cases hl'
      rcases x2.cells _ _ (envAt_cell he') with k | ⟨s0, s1, e1, k, kl⟩ | ⟨_, k⟩ | k
      · have := cput_at k; cases this; omega
      · cases e1; have := cput_at k; cases this; omega
      · cases k
      · cases k
    -- `ClosNew` mentions the FINAL heap, also in the clause of the first step's new cell
    generalize hH : (cput (cput h (.lexEnv slots)).1 (.val (.closure lam (cput h (.lexEnv slots)).2))).1 = H at hfit x2 ⊢
    have y1 : FStep (ClosNew H lam) h (cput h (.lexEnv slots)).1 :=
      x1.weaken (fun c hc => by subst hc; exact Or.inl ⟨slots, rfl⟩)
    have y2 : FStep (ClosNew H lam) (cput h (.lexEnv slots)).1 H :=
      x2.weaken (fun c hc => by subst hc; exact Or.inr ⟨_, rfl, hfit⟩)
    exact y1.trans (fun ss => Or.inl ⟨ss, rfl⟩) y2

/-- the activation environment is as long as the closure's -/
theorem makeActivation_fstep {h h' : CHeap} (lf : LF h) {lam env bp : Nat} {st : Stack} {e : Nat}
    (hm : makeActivation h lam env bp st = .ok (h', e)) :
    FStep NoClaim h h' ∧ ∀ ss', envAt h' e = some ss' → ∃ olds, envAt h env = some olds ∧ ss'.length = olds.length := by
  unfold makeActivation at hm
  cases hl : lambdaAt h lam with
  | none => rw [hl] at hm; cases hm
  | some l =>
    rw [hl] at hm
    simp only at hm
    cases he : envAt h env with
    | none => rw [he] at hm; cases hm
    | some olds =>
      rw [he] at hm
      simp only at hm
      obtain ⟨slots, hsl, hm⟩ := bind_inv hm
      cases hm
      have hlen := (activationSlots_mem l.envmap 0 olds slots hsl).1
      have x1 := cput_fstep lf (c := .lexEnv slots) (fun lam hh => by cases hh)
      refine ⟨x1.weaken (fun c hc => by subst hc; exact NoClaim.lexEnv slots), ?_⟩
      intro ss' he'
      have := cput_at (envAt_cell he')
      cases this
      exact ⟨olds, rfl, hlen⟩

theorem newCont_fstep {h : CHeap} (lf : LF h) (k : Cont) : FStep (fun x => x = .cont k) h (cput h (.cont k)).1 :=
  cput_fstep lf (fun lam hh => by cases hh)

end Marwood.Lemmas.Good
