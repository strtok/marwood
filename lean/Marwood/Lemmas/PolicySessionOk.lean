import Marwood.Lemmas.PolicySessionMain
import Marwood.Lemmas.ProcInvMain
import Marwood.Lemmas.GoodEval
/-!
# The side conditions at the collection points of an evaluation follow from the invariant of its first state

`sess_capacity_bounded` asks `GcOk` of every state in which a collection runs. For an evaluation started in a state
satisfying `VmOkP` and `CodePlain` it holds at every collection point — inside the loop and after either epilogue (the wiped
stack contributes no roots). What remains is the physical size bound (`EvalSizeBounded`).
-/
namespace Marwood.Lemmas.PolicySessionOk
open Marwood Marwood.Vm Marwood.Vm.Concrete Marwood.Lemmas.Sim Marwood.Lemmas.Good
open Marwood.Heap (GcState WFHeap RootsOk Roots vrefs vrefsList crefs)
open Marwood.Lemmas.PolicySessionGc Marwood.Lemmas.PolicySessionMain Marwood.Lemmas.MachineGarbage

theorem onDone_goodI {s : St CHeap} (g : GoodI s) : GoodI (onDone s) := by
  refine ⟨g.hg, rootsOk_intro (s := onDone s) g.globRoots.1 g.globRoots.2 (fun i v _ hv => ?_)
    (roots_acc (s := s) g.roots) (roots_ipL (s := s) g.roots) (roots_ep (s := s) g.roots),
    g.accv⟩
  cases (List.mem_replicate.mp (List.mem_of_getElem? hv)).2
  exact .of_addrFree _ rfl

/-- every heap an evaluation started in `s0` produces, the collection that ends an epilogue included, has at most `2^62` cells -/
structure EvalSizeBounded (ext : ExtOps) (force : Bool) (s0 : St CHeap) : Prop where
  run : SizeBounded (machine ext force) s0
  done : ∀ sd, Reaches (machine ext force) s0 sd → Small (cgc force (onDone sd)).heap
  error : ∀ sd, Reaches (machine ext force) s0 sd → Small (cgc force (onError sd)).heap

variable {ext : ExtOps} {ecl : ExtCodeLawsV ext}

theorem gcOk_of_cpFrom (force : Bool) (el : ExtLaws ext) (eg : ExtGood ext) (ep : ExtProc ext) (ecp : ExtCodePlain ext)
    {s0 : St CHeap} (h0 : VmOkP ext ecl s0) (cp0 : CodePlain s0.heap) (sb : EvalSizeBounded ext force s0)
    {x : St CHeap} (hx : CpFrom ext force s0 x) : GcOk force x := by
  obtain ⟨sd, hr, hx⟩ := hx
  have g : GoodI sd := (vmOkP_reaches force el eg ep h0 sb.run sd hr).1.1
  have cp : CodePlain sd.heap := codePlain_reaches force ecp cp0 sd hr
  rcases hx with rfl | rfl | rfl
  · exact ⟨g, cp, sb.run _ (.gc hr)⟩
  · exact ⟨onDone_goodI g, cp, sb.done sd hr⟩
  · exact ⟨onError_goodI g, cp, sb.error sd hr⟩

end Marwood.Lemmas.PolicySessionOk
