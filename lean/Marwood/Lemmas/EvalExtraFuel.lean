import Marwood.Lemmas.EvalExtraSteps
/-!
# The simulation: the helpers that take their fuel from the store size

`getList`, `externalise`, `equal?`, `memv`/`assv` and `map`/`for-each` run `listOfVal`, `valToDatum`, `equalVal`,
`memWalk`, `zipArgs` with fuel `store.size + 1`. With the SAME fuel the two sides correspond (`listOfVal_relG`,
`valToDatum_relG`, `equalVal_relG`, `simG_memWalk`, `zipArgs_rel`). In a larger store the fuel is larger; the result is the
same when the run in the smaller store does not hit the bound (`EvalExtraCut`). `NoCut st st' c`: the two stores have
the same size, or the cut `c` did not happen.
-/
namespace Marwood.Spec.Eval.Extra
open Marwood Marwood.Spec.Eval Marwood.Spec.Eval.ExtraJ

variable {f : LMap} {G : List Text} {E : EnvCorr f G} {GL : GlCorr f G E} {J : Junk} {δ : Side}

theorem StRel.fuel_eq {st st' : St} (r : StRel f st st') :
    st'.store.size + 1 = (st.store.size + 1) + (st'.store.size - st.store.size) := by
  have := r.size_le; omega

theorem getList_eq (v : Val) (st : St) :
    getList v st = match listOfVal (st.store.size + 1) st.store v with
      | some xs => .ok xs st
      | none => .err .type st := by
  unfold getList
  show M.bind' getStore _ st = _
  simp only [M.bind', getStore]
  cases listOfVal (st.store.size + 1) st.store v <;> rfl

theorem getList_ok_state {v : Val} {st s : St} {xs : List Val} (h : getList v st = .ok xs s) :
    s = st ∧ listOfVal (st.store.size + 1) st.store v = some xs := by
  rw [getList_eq] at h
  cases h2 : listOfVal (st.store.size + 1) st.store v with
  | none => rw [h2] at h; cases h
  | some ys => rw [h2] at h; cases h; exact ⟨rfl, rfl⟩

theorem getLists_ok_state : ∀ {vs : List Val} {st s : St} {ls : List (List Val)}, getLists vs st = .ok ls s → s = st
  | [], st, s, ls, h => by cases h; rfl
  | v :: vs, st, s, ls, h => by
    simp only [getLists] at h
    change M.bind' (getList v) _ st = _ at h
    unfold M.bind' at h
    cases h1 : getList v st with
    | ok xs s1 =>
      rw [h1] at h
      obtain ⟨rfl, _⟩ := getList_ok_state h1
      simp only at h
      change M.bind' (getLists vs) _ s1 = _ at h
      unfold M.bind' at h
      cases h2 : getLists vs s1 with
      | ok ys s2 =>
        rw [h2] at h
        have := getLists_ok_state h2
        subst this
        cases h; rfl
      | err e s2 => rw [h2] at h; cases h
      | timeout => rw [h2] at h; cases h
    | err e s1 => rw [h1] at h; cases h
    | timeout => rw [h1] at h; cases h

theorem StRelG.fuel_eq {st st' : St} (r : StRelG f G E GL J st st') :
    st'.store.size + 1 = (st.store.size + 1) + (st'.store.size - st.store.size) := by
  have := r.size_le; omega

/-- the store-size fuel of the two sides is the same, or the helper of the left side is not cut -/
def NoCut (st st' : St) (c : Bool) : Prop := st'.store.size = st.store.size ∨ c = false

theorem StRelG.fuel_cases {st st' : St} (r : StRelG f G E GL J st st') {α : Type} (F : Nat → α) {c : Bool}
    (hstab : c = false → ∀ k, F (st.store.size + 1 + k) = F (st.store.size + 1)) (hq : NoCut st st' c) :
    F (st'.store.size + 1) = F (st.store.size + 1) := by
  rcases hq with h | h
  · rw [h]
  · rw [r.fuel_eq]; exact hstab h _

/-- a right state reached without allocation on the left has the size of the right state before -/
theorem NoCut.same {st st' s' : St} {c : Bool} (r : StRelG f G E GL J st st') (rs : StRelG f G E GL J st s') (h : NoCut st st' c) :
    NoCut st s' c := by
  refine h.imp_left (fun h => ?_)
  have a := rs.front 0
  have b := r.front 0
  simp only [Nat.add_zero] at a b
  rw [← a, b, h]

theorem NoCut.or {st st' : St} {a b : Bool} : NoCut st st' (a || b) ↔ NoCut st st' a ∧ NoCut st st' b := by
  unfold NoCut
  rw [Bool.or_eq_false_iff]
  exact ⟨fun h => h.elim (fun e => ⟨.inl e, .inl e⟩) (fun e => ⟨.inr e.1, .inr e.2⟩),
    fun h => h.1.elim .inl (fun a => h.2.elim .inl (fun b => .inr ⟨a, b⟩))⟩

theorem NoCut.any {st st' : St} {xs : List Val} {g : Val → Bool} (h : NoCut st st' (xs.any g)) : ∀ v ∈ xs, NoCut st st' (g v) :=
  fun v hv => h.imp_right (fun e => by simpa using List.any_eq_false.1 e v hv)

theorem simGAt_getList {st st' : St} (r : StRelG f G E GL J st st') {v v' : Val} (hv : VRelG f G E v v')
    (hc : NoCut st st' (listCut (st.store.size + 1) st.store v)) :
    ResRelD (StRelG f G E GL J) δ (VsRelG f G E) (getList v st) (getList v' st') := by
  rw [getList_eq, getList_eq]
  have h1 := listOfVal_relG r (st'.store.size + 1) hv
  rw [r.fuel_cases (fun m => listOfVal m st.store v) (fun h k => listOfVal_stable _ _ k _ h) hc] at h1
  revert h1
  generalize listOfVal (st.store.size + 1) st.store v = o
  generalize listOfVal (st'.store.size + 1) st'.store v' = o'
  intro h1
  cases h1 with
  | none => exact ⟨rfl, r⟩
  | some hx => exact ⟨hx, r⟩

inductive LsRelG (f : LMap) (G : List Text) (E : EnvCorr f G) : List (List Val) → List (List Val) → Prop
  | nil : LsRelG f G E [] []
  | cons {x x' : List Val} {xs xs' : List (List Val)} : VsRelG f G E x x' → LsRelG f G E xs xs' → LsRelG f G E (x :: xs) (x' :: xs')

theorem simGAt_getLists {st st' : St} (r : StRelG f G E GL J st st') : ∀ {vs vs' : List Val}, VsRelG f G E vs vs' →
    (∀ v ∈ vs, NoCut st st' (listCut (st.store.size + 1) st.store v)) →
    ResRelD (StRelG f G E GL J) δ (LsRelG f G E) (getLists vs st) (getLists vs' st')
  | _, _, .nil, _ => ⟨.nil, r⟩
  | _, _, .cons (v := v) (vs := vs) hv hvs, hc => by
    simp only [getLists]
    refine ResRelD.bind (simGAt_getList r hv (hc _ (by simp))) (fun xs xs' s s' hm hx rs => ?_)
    obtain ⟨rfl, _⟩ := getList_ok_state hm
    have hc' : ∀ w ∈ vs, NoCut s s' (listCut (s.store.size + 1) s.store w) :=
      fun w hw => (hc w (by simp [hw])).same r rs
    refine ResRelD.bind (simGAt_getLists rs hvs hc') (fun ls ls' s2 s2' _ hl rs2 => ?_)
    exact ⟨.cons hx hl, rs2⟩

theorem simGAt_externalise {st st' : St} (r : StRelG f G E GL J st st') {v v' : Val} (hv : VRelG f G E v v')
    (hc : NoCut st st' (valCut (st.store.size + 1) st.store v)) :
    ResRelD (StRelG f G E GL J) δ (fun d d' => d' = d) (externalise v st) (externalise v' st') := by
  have h1 := valToDatum_relG r (st'.store.size + 1) hv
  rw [r.fuel_cases (fun m => valToDatum m st.store v) (fun h k => valToDatum_stable _ _ k _ h) hc] at h1
  exact ⟨h1, r⟩

theorem simGAt_equalP (hf : Inj f) {st st' : St} (r : StRelG f G E GL J st st') {a a' b b' : Val} (ha : VRelG f G E a a') (hb : VRelG f G E b b')
    (hc : NoCut st st' (eqCut (st.store.size + 1) st.store a b)) :
    ResRelD (StRelG f G E GL J) δ (VRelG f G E) (primPred .equalP [a, b] st) (primPred .equalP [a', b'] st') := by
  have h1 := equalVal_relG hf r (st'.store.size + 1) ha hb
  rw [r.fuel_cases (fun m => equalVal m st.store a b) (fun h k => equalVal_stable _ _ k _ _ h) hc] at h1
  show ResRelD (StRelG f G E GL J) δ (VRelG f G E) (Res.ok (Val.bool (equalVal (st.store.size + 1) st.store a b)) st)
    (Res.ok (Val.bool (equalVal (st'.store.size + 1) st'.store a' b')) st')
  rw [h1]
  exact ⟨.bool _, r⟩

theorem simG_memWalk (hf : Inj f) (assoc : Bool) {x x' : Val} (hx : VRelG f G E x x') : ∀ (m : Nat) {l l' : Val}, VRelG f G E l l' →
    SimG f G E GL J δ (VRelG f G E) (memWalk assoc x m l) (memWalk assoc x' m l')
  | 0, _, _, _ => by simp only [memWalk]; exact SimG.throw _
  | m+1, l, l', hl => by
    cases hl with
    | nil => simp only [memWalk]; exact SimG.pure _ _ (.bool false)
    | pair loc =>
      simp only [memWalk]
      refine SimG.bind (simG_readPair (.pair loc)) (fun p p' hp => ?_)
      cases assoc with
      | true =>
        simp only [if_true]
        obtain ⟨a, d⟩ := p
        obtain ⟨a', d'⟩ := p'
        obtain ⟨ha, hd⟩ := hp
        simp only at ha hd ⊢
        cases ha with
        | pair la =>
          simp only
          refine SimG.bind (simG_readPair (.pair la)) (fun q q' hq => ?_)
          rw [VRelG.eqv hf hq.1 hx]
          split
          · exact SimG.pure _ _ (.pair la)
          · exact simG_memWalk hf true hx m hd
        | _ => exact simG_memWalk hf true hx m hd
      | false =>
        simp only [Bool.false_eq_true, if_false]
        rw [VRelG.eqv hf hp.1 hx]
        split
        · exact SimG.pure _ _ (.pair loc)
        · exact simG_memWalk hf false hx m hp.2
    | _ => simp only [memWalk]; exact SimG.throw _

theorem simGAt_memWalk (hf : Inj f) (assoc : Bool) {st st' : St} (r : StRelG f G E GL J st st') {x x' l l' : Val}
    (hx : VRelG f G E x x') (hl : VRelG f G E l l') (hc : NoCut st st' (spineCut (st.store.size + 1) st.store l)) :
    ResRelD (StRelG f G E GL J) δ (VRelG f G E) (memWalk assoc x (st.store.size + 1) l st) (memWalk assoc x' (st'.store.size + 1) l' st') := by
  have h1 := simG_memWalk (δ := δ) hf assoc hx (st'.store.size + 1) hl st st' r
  rw [r.fuel_cases (fun m => memWalk assoc x m l st) (fun h k => memWalk_stable assoc x _ k l st h) hc] at h1
  exact h1

theorem LsRelG.any_isEmpty {ls ls' : List (List Val)} (h : LsRelG f G E ls ls') : ls'.any List.isEmpty = ls.any List.isEmpty := by
  induction h with
  | nil => rfl
  | cons hx _ ih => simp only [List.any_cons, hx.isEmpty, ih]

theorem LsRelG.isEmpty {ls ls' : List (List Val)} (h : LsRelG f G E ls ls') : ls'.isEmpty = ls.isEmpty := by
  cases h <;> rfl

theorem LsRelG.map_tail {ls ls' : List (List Val)} (h : LsRelG f G E ls ls') : LsRelG f G E (ls.map List.tail) (ls'.map List.tail) := by
  induction h with
  | nil => exact .nil
  | cons hx _ ih => exact .cons hx.tail ih

theorem LsRelG.map_headD {ls ls' : List (List Val)} (h : LsRelG f G E ls ls') :
    VsRelG f G E (ls.map fun l => l.headD .void) (ls'.map fun l => l.headD .void) := by
  induction h with
  | nil => exact .nil
  | cons hx _ ih => exact .cons hx.headD ih

theorem zipArgs_rel : ∀ (m : Nat) {ls ls' : List (List Val)}, LsRelG f G E ls ls' → LsRelG f G E (zipArgs m ls) (zipArgs m ls')
  | 0, _, _, _ => .nil
  | m+1, ls, ls', h => by
    simp only [zipArgs, h.isEmpty, h.any_isEmpty]
    split
    · exact .nil
    · exact .cons h.map_headD (zipArgs_rel m h.map_tail)

theorem simG_mapApply {r r' : Rec} (hr : RecSimG f G E GL J δ r r') {g g' : Val} (hg : VRelG f G E g g') : ∀ {as as' : List (List Val)}, LsRelG f G E as as' →
    SimG f G E GL J δ (VsRelG f G E) (mapApply r g as) (mapApply r' g' as')
  | _, _, .nil => SimG.pure _ _ .nil
  | _, _, .cons ha has => by
    simp only [mapApply]
    refine SimG.bind (hr.apply _ _ _ _ hg ha) (fun v v' hv => ?_)
    refine SimG.bind (simG_mapApply hr hg has) (fun vs vs' hvs => ?_)
    exact SimG.pure _ _ (.cons hv hvs)

/-- the rows `map`/`for-each` apply the procedure to: same on both sides, although the fuels differ -/
theorem simGAt_zipRows {st st' : St} (r : StRelG f G E GL J st st') {l : Val} {ls : List Val} {lists lists' : List (List Val)}
    (hm : getLists (l :: ls) st = .ok lists st) (hl : LsRelG f G E lists lists') :
    LsRelG f G E (zipArgs (st.store.size + 1) lists) (zipArgs (st'.store.size + 1) lists') := by
  have h1 := zipArgs_rel (st'.store.size + 1) hl
  have hex : ∃ x ∈ lists, x.length ≤ st.store.size + 1 := by
    simp only [getLists] at hm
    change M.bind' (getList l) _ st = _ at hm
    unfold M.bind' at hm
    cases h0 : getList l st with
    | ok xs s1 =>
      rw [h0] at hm
      obtain ⟨rfl, h2⟩ := getList_ok_state h0
      simp only at hm
      change M.bind' (getLists ls) _ s1 = _ at hm
      unfold M.bind' at hm
      cases h3 : getLists ls s1 with
      | ok ys s2 =>
        rw [h3] at hm
        cases hm
        exact ⟨xs, by simp, listOfVal_length_le _ _ _ _ h2⟩
      | err e s2 => rw [h3] at hm; cases hm
      | timeout => rw [h3] at hm; cases hm
    | err e s1 => rw [h0] at hm; cases hm
    | timeout => rw [h0] at hm; cases hm
  rw [r.fuel_eq, zipArgs_stable _ _ _ hex] at h1
  rw [r.fuel_eq]
  exact h1

theorem cleanB_valToDatum {st st' : St} (r : StRelG f G E GL J st st') : ∀ (m : Nat) {v v' : Val}, VRelG f G E v v' →
    CleanB G (valToDatum m st.store v) := by
  intro m
  induction m with
  | zero => intro v v' hv; cases hv <;> first | exact cleanB_sym.2 ‹_› | exact fun _ _ => rfl
  | succ m ih =>
    intro v v' hv
    cases hv with
    | sym s hs => exact cleanB_sym.2 hs
    | pair l =>
      simp only [valToDatum]
      cases hl : st.store[l]? with
      | none => exact fun _ _ => rfl
      | some c =>
        obtain ⟨c', _, hc⟩ := r.cells l c hl
        cases hc with
        | pair ha hd => exact cleanB_pair.2 ⟨ih ha, ih hd⟩
        | _ => exact fun _ _ => rfl
    | vec l =>
      simp only [valToDatum]
      cases hl : st.store[l]? with
      | none => exact fun _ _ => rfl
      | some c =>
        obtain ⟨c', _, hc⟩ := r.cells l c hl
        cases hc with
        | vec hx =>
          refine cleanB_vec.2 (fun b hb => clean_ofList _ (fun d hd => ?_))
          simp only [List.mem_map] at hd
          obtain ⟨w, hw, rfl⟩ := hd
          obtain ⟨w', hww⟩ := hx.exists_right hw
          exact ih hww b hb
        | _ => exact fun _ _ => rfl
    | promise l =>
      simp only [valToDatum]
      cases hl : st.store[l]? with
      | none => exact fun _ _ => rfl
      | some c =>
        obtain ⟨c', _, hc⟩ := r.cells l c hl
        cases hc with
        | promise b hw => exact cleanB_pair.2 ⟨cleanB_pair.2 ⟨fun _ _ => rfl, ih hw⟩, fun _ _ => rfl⟩
        | _ => exact fun _ _ => rfl
    | _ => exact fun _ _ => rfl

theorem cleanB_externalise {st st' s : St} (r : StRelG f G E GL J st st') {v v' : Val} (hv : VRelG f G E v v') {d : Datum}
    (h : externalise v st = .ok d s) : CleanB G d := by
  cases h
  exact cleanB_valToDatum r _ hv


end Marwood.Spec.Eval.Extra
