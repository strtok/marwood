import Marwood.Lemmas.CompileVerifies
/-!
# MOV / MOVIMM operands of compiled code, in every loading

Every cell of a loaded compiled code object that holds the opcode MOV (MOVIMM) — at ANY offset, not only those the
verifier reaches — is followed by two operand cells of the code object, neither a `Ptr` (MOVIMM: a value, then no
`Ptr`). This is the code discipline `LamOk` of the heap invariant `GoodI` (C03 / C12 / C13); the verifier's
acceptance alone does not give it, because `LamOk` quantifies over all offsets.
-/
namespace Marwood.Vm
open Marwood Marwood.Vm.Verify

def notPtrC : VCell → Bool
  | .ptr _ => false
  | _ => true

def opndC (P : VCell → Bool) : Option VCell → Bool
  | some v => P v
  | none => true

def OpsOK (cells : List VCell) (b n : Nat) : Prop :=
  ∀ j, j < n →
    (cells[b + j]? = some (.opcode .mov) →
      j + 2 < n ∧ opndC notPtrC cells[b + j + 1]? = true ∧ opndC notPtrC cells[b + j + 2]? = true) ∧
    (cells[b + j]? = some (.opcode .movImm) →
      j + 2 < n ∧ opndC isVal cells[b + j + 1]? = true ∧ opndC notPtrC cells[b + j + 2]? = true)

theorem OpsOK.append {cells : List VCell} {b n1 n2 : Nat} (h1 : OpsOK cells b n1) (h2 : OpsOK cells (b + n1) n2) :
    OpsOK cells b (n1 + n2) := by
  intro j hj
  rcases Nat.lt_or_ge j n1 with hlt | hge
  · obtain ⟨a, c⟩ := h1 j hlt
    exact ⟨fun h => by obtain ⟨x, y⟩ := a h; exact ⟨by omega, y⟩, fun h => by obtain ⟨x, y⟩ := c h; exact ⟨by omega, y⟩⟩
  · have e : b + j = b + n1 + (j - n1) := by omega
    obtain ⟨a, c⟩ := h2 (j - n1) (by omega)
    rw [← e] at a c
    exact ⟨fun h => by obtain ⟨x, y⟩ := a h; exact ⟨by omega, y⟩, fun h => by obtain ⟨x, y⟩ := c h; exact ⟨by omega, y⟩⟩

theorem OpsOK.cast {cells : List VCell} {b b' n n' : Nat} (hb : b = b') (hn : n = n') (h : OpsOK cells b n) :
    OpsOK cells b' n' := by subst hb; subst hn; exact h

def BC.isOp : BC → Bool
  | .op _ => true
  | _ => false

theorem enc_not_opcode {b : BC} {v : VCell} (hb : BC.isOp b = false) (he : Enc b v) (o : Op) : v ≠ .opcode o := by
  intro hv
  subst hv
  cases b <;> simp [Enc, dataCell, BC.isOp] at he hb

theorem enc_loc_notPtr {b : BC} {v : VCell} (hb : locB b = true) (he : Enc b v) : notPtrC v = true := by
  cases b <;> simp [locB] at hb <;> simp only [Enc] at he
  · subst he; rfl
  · obtain ⟨g, rfl⟩ := he; rfl
  · obtain ⟨g, rfl⟩ := he; rfl

theorem locB_notOp {b : BC} (hb : locB b = true) : BC.isOp b = false := by
  cases b <;> simp [locB] at hb <;> rfl

theorem immB_notOp {b : BC} (hb : immB b = true) : BC.isOp b = false := by
  cases b <;> simp [immB] at hb <;> rfl

theorem opsOK_instr {cells : List VCell} {b : Nat} {o : Op} {xs : List BC} (hc : CellsAt cells b (.op o :: xs))
    (hx : ∀ x ∈ xs, BC.isOp x = false)
    (hmov : o = .mov →
      2 ≤ xs.length ∧ opndC notPtrC cells[b + 1]? = true ∧ opndC notPtrC cells[b + 2]? = true)
    (himm : o = .movImm →
      2 ≤ xs.length ∧ opndC isVal cells[b + 1]? = true ∧ opndC notPtrC cells[b + 2]? = true) :
    OpsOK cells b (xs.length + 1) := by
  intro j hj
  cases j with
  | zero =>
    rw [Nat.add_zero, hc.opcode]
    exact ⟨fun h => by cases h; exact ⟨Nat.succ_lt_succ (hmov rfl).1, (hmov rfl).2⟩,
      fun h => by cases h; exact ⟨Nat.succ_lt_succ (himm rfl).1, (himm rfl).2⟩⟩
  | succ k =>
    have hk : k < xs.length := Nat.lt_of_succ_lt_succ hj
    obtain ⟨v, hv, ev⟩ := hc (k + 1) xs[k] (by rw [List.getElem?_cons_succ, List.getElem?_eq_getElem hk])
    have hno := enc_not_opcode (hx _ (List.getElem_mem hk)) ev
    rw [hv]
    exact ⟨fun h => absurd (Option.some.inj h) (hno _), fun h => absurd (Option.some.inj h) (hno _)⟩

theorem opsOK_one {cells : List VCell} {b : Nat} {o : Op} (hc : CellsAt cells b [.op o])
    (h1 : o ≠ .mov) (h2 : o ≠ .movImm) : OpsOK cells b 1 :=
  opsOK_instr hc (fun _ h => nomatch h) (fun h => absurd h h1) (fun h => absurd h h2)

theorem opsOK_two {cells : List VCell} {b : Nat} {o : Op} {x : BC} (hc : CellsAt cells b [.op o, x])
    (hx : BC.isOp x = false) (h1 : o ≠ .mov) (h2 : o ≠ .movImm) : OpsOK cells b 2 :=
  opsOK_instr hc (List.forall_mem_singleton.2 hx) (fun h => absurd h h1) (fun h => absurd h h2)

theorem blk_opsOK {b : Nat} {code : List BC} {p q : List ACell} (hb : Blk b code p q) :
    ∀ {cells : List VCell}, CellsAt cells b code → OpsOK cells b code.length := by
  induction hb with
  | nil b => intro cells _ j hj; simp at hj
  | seq _ _ ih1 ih2 =>
    intro cells hc
    obtain ⟨hc1, hc2⟩ := hc.append
    rw [List.length_append]
    exact (ih1 hc1).append (ih2 hc2)
  | frame _ _ ih => exact ih
  | mov b src dst hs hd =>
    intro cells hc
    obtain ⟨v1, h1, e1⟩ := hc 1 _ rfl
    obtain ⟨v2, h2, e2⟩ := hc 2 _ rfl
    refine opsOK_instr hc (List.forall_mem_cons.2 ⟨locB_notOp hs, List.forall_mem_singleton.2 (locB_notOp hd)⟩)
      (fun _ => ⟨Nat.le_refl _, ?_, ?_⟩) (fun h => nomatch h)
    · rw [h1]; exact enc_loc_notPtr hs e1
    · rw [h2]; exact enc_loc_notPtr hd e2
  | movImm b imm dst hs hd =>
    intro cells hc
    obtain ⟨v1, h1, e1⟩ := hc 1 _ rfl
    obtain ⟨v2, h2, e2⟩ := hc 2 _ rfl
    refine opsOK_instr hc (List.forall_mem_cons.2 ⟨immB_notOp hs, List.forall_mem_singleton.2 (locB_notOp hd)⟩)
      (fun h => nomatch h) (fun _ => ⟨Nat.le_refl _, ?_, ?_⟩)
    · rw [h1]; exact enc_imm hs e1
    · rw [h2]; exact enc_loc_notPtr hd e2
  | pushAcc b => intro cells hc; exact opsOK_one hc (by decide) (by decide)
  | pushArgc b n => intro cells hc; exact opsOK_two hc rfl (by decide) (by decide)
  | pushDatum b d => intro cells hc; exact opsOK_two hc rfl (by decide) (by decide)
  | closure b => intro cells hc; exact opsOK_one hc (by decide) (by decide)
  | cons b c1 c2 _ _ => intro cells hc; exact opsOK_one hc (by decide) (by decide)
  | vpush b c => intro cells hc; exact opsOK_one hc (by decide) (by decide)
  | call b tail vs _ =>
    intro cells hc
    cases tail
    · exact opsOK_one hc (by decide) (by decide)
    · exact opsOK_one hc (by decide) (by decide)
  | ite tj tm ht hc' ha htj htm iht ihc iha =>
    rename_i b t c a
    intro cells hc
    subst htj
    obtain ⟨hc4, hca⟩ := hc.append
    obtain ⟨hc3, hcm⟩ := hc4.append
    obtain ⟨hc2, hcc⟩ := hc3.append
    obtain ⟨hct, hcj⟩ := hc2.append
    simp only [List.length_append, List.length_cons, List.length_nil, Nat.zero_add, Nat.reduceAdd]
      at hcm hcc hca ⊢
    simp only [← Nat.add_assoc] at hcm hcc hca
    have e2 := (iht hct).append (opsOK_two hcj rfl (by decide) (by decide))
    have e3 := e2.append ((ihc hcc).cast (Nat.add_assoc ..) rfl)
    have e4 := e3.append ((opsOK_two hcm rfl (by decide) (by decide)).cast (by omega) rfl)
    exact e4.append ((iha hca).cast (by omega) rfl)

end Marwood.Vm
