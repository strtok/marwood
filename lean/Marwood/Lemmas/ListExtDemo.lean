import Marwood.Vm.ListExt
import Marwood.Lemmas.SimObs
import Marwood.Lemmas.PrepareCheckSound
import Marwood.Proofs.C03
import Marwood.Lemmas.CodeHeap
/-!
# Non-vacuity for `listExt`: a program that conses, mutates and reads, on a state satisfying `VmOk ∧ PInv`

`sDemo` is the state an evaluation of `(define p (cons 1 2)) (set-car! p 3) (car p)` starts in: an eight-cell heap whose
cell 0 is the hand-assembled entry code, global slots holding `cons`, `set-car!`, `car` of `listExt`, an empty stack. It
satisfies every hypothesis of the closed machine-level theorems (`SizeBounded`: at most 5 of 8 cells are ever in use, so the
utilisation-tested `run_gc` returns at its test); the collection-free run reaches HALT after 17 instructions with `3` in
`acc`, and so do the runs under two schedules of FORCED collections, evaluated by the kernel.
-/
namespace Marwood.Lemmas.Good.LDemo
open Marwood Marwood.Vm Marwood.Vm.Verify Marwood.Vm.Concrete Marwood.Vm.Concrete.ListExt Marwood.Lemmas.Sim
open Marwood.Lemmas.Good
open Marwood.Heap (Heap GcState WFHeap RootsOk Roots vrefs vrefsList crefs)

/-- hand-assembled entry code for `(define p (cons 1 2)) (set-car! p 3) (car p)`; global slots 0 1 2 hold the
    builtins `cons`, `set-car!`, `car`, slot 3 is `p` -/
def bcDemo : List VCell :=
  [ .opcode .pushImm, .opaque "n1", .opcode .pushImm, .opaque "n2", .opcode .pushImm, .argc 2,
    .opcode .mov, .globSlot 0, .acc, .opcode .callAcc,
    .opcode .mov, .acc, .globSlot 3,
    .opcode .pushAcc, .opcode .pushImm, .opaque "n3", .opcode .pushImm, .argc 2,
    .opcode .mov, .globSlot 1, .acc, .opcode .callAcc,
    .opcode .mov, .globSlot 3, .acc, .opcode .pushAcc, .opcode .pushImm, .argc 1,
    .opcode .mov, .globSlot 2, .acc, .opcode .callAcc,
    .opcode .halt ]

def lamDemo : CLambda := { bc := bcDemo, args := [], envmap := [] }

def hDemo : CHeap :=
  { chunk := 4
    cells := #[.lambda lamDemo, .val .undefined, .val .undefined, .val .undefined, .val .undefined, .val .undefined,
      .val .undefined, .val .undefined]
    gc := #[.allocated, .free, .free, .free, .free, .free, .free, .free]
    free := [1, 2, 3, 4, 5, 6, 7], symtab := [], globSyms := []
    globals := #[.builtin idCons, .builtin idSetCar, .builtin idCar, .undefined] }

def sDemo : St CHeap :=
  { heap := hDemo, stack := { cells := List.replicate 8 .undefined, sp := 0 }, acc := .undefined, ep := usizeMax,
    ipL := 0, ipO := 0, bp := 0 }

theorem lamDemo_ok : LamOk lamDemo := lamOkB_sound (by decide +kernel)

theorem verDemo : (verifyLam bcDemo).isSome = true := by decide +kernel

theorem hDemo_code : CodeHeap hDemo lamDemo 7 where
  cells := rfl
  gc := rfl
  free := rfl
  symtab := rfl
  shape := ⟨by decide, by decide, 2, by decide, by decide⟩
  bound := by decide
  globals := by decide
  closed := by decide +kernel
  lamOk := lamDemo_ok
  ver := verDemo
  args := by decide +kernel

theorem sDemo_vmOk (ext : ExtOps) (ecl : ExtCodeLawsV ext) : VmOk ext ecl sDemo :=
  CodeHeap.vmOk ext ecl hDemo_code (by decide +kernel) rfl rfl (by decide +kernel) rfl (by decide)

theorem sDemo_pinv : PInv sDemo := statePB_sound (by decide +kernel)

theorem pureN_next {S E : Type} {m : Machine S E} {s s' : S} {n : Nat} (h : m.step s = .next s') :
    pureN m (n + 1) s = pureN m n s' := by rw [pureN, h]

theorem pureN_halt {S E : Type} {m : Machine S E} {s s' : S} {n : Nat} (h : m.step s = .halt s') :
    pureN m (n + 1) s = .done s' := by rw [pureN, h]

def isNext {S E : Type} : StepRes S E → Bool
  | .next _ => true
  | _ => false

def isHalt {S E : Type} : StepRes S E → Bool
  | .halt _ => true
  | _ => false

def failIsErr {S : Type} : StepRes S Fault → Bool
  | .fail (.err _) _ => true
  | _ => false

def stepOf (s : St CHeap) : St CHeap :=
  match vmStep (concreteOps listExt) s with
  | .next s' => s' | .halt s' => s' | .fail _ s' => s'

theorem stepOf_next {s s' : St CHeap} (h : vmStep (concreteOps listExt) s = .next s') : stepOf s = s' := by
  unfold stepOf; rw [h]

theorem stepOf_halt {s s' : St CHeap} (h : vmStep (concreteOps listExt) s = .halt s') : stepOf s = s' := by
  unfold stepOf; rw [h]

theorem step_of_next {s : St CHeap} :
    isNext (vmStep (concreteOps listExt) s) = true → vmStep (concreteOps listExt) s = .next (stepOf s) := by
  unfold stepOf
  cases vmStep (concreteOps listExt) s with
  | next s' => exact fun _ => rfl
  | halt s' => exact nofun
  | fail e s' => exact nofun

theorem step_of_halt {s : St CHeap} :
    isHalt (vmStep (concreteOps listExt) s) = true → vmStep (concreteOps listExt) s = .halt (stepOf s) := by
  unfold stepOf
  cases vmStep (concreteOps listExt) s with
  | next s' => exact nofun
  | halt s' => exact fun _ => rfl
  | fail e s' => exact nofun

def ptOf (s0 : St CHeap) : Nat → St CHeap
  | 0 => s0
  | k+1 => stepOf (ptOf s0 k)

theorem ptOf_step (s0 : St CHeap) (k : Nat) : ptOf (stepOf s0) k = ptOf s0 (k + 1) := by
  induction k with
  | zero => rfl
  | succ k ih => show stepOf (ptOf (stepOf s0) k) = stepOf (ptOf s0 (k + 1)); rw [ih]

theorem pureN_ptOf (force : Bool) (n : Nat) : ∀ s0 : St CHeap,
    (∀ k, k < n → isNext (vmStep (concreteOps listExt) (ptOf s0 k)) = true) →
    isHalt (vmStep (concreteOps listExt) (ptOf s0 n)) = true →
    pureN (machine listExt force) (n + 1) s0 = .done (ptOf s0 (n + 1)) := by
  induction n with
  | zero => exact fun s0 _ hh => pureN_halt (m := machine listExt force) (step_of_halt hh)
  | succ n ih =>
    intro s0 hn hh
    rw [pureN_next (m := machine listExt force) (step_of_next (s := s0) (hn 0 (Nat.succ_pos n))), ← ptOf_step]
    refine ih (stepOf s0) (fun k hk => ?_) ?_
    · rw [ptOf_step]; exact hn (k + 1) (Nat.succ_lt_succ hk)
    · rw [ptOf_step]; exact hh

def obsTag : Obs → Option String
  | .atom (.opaque t) => some t
  | _ => none

theorem obsTag_some {o : Obs} {t : String} (h : obsTag o = some t) : o = .atom (.opaque t) := by
  unfold obsTag at h
  split at h
  · cases h; rfl
  · cases h

def doneWith (r : Res (St CHeap) Fault) : Option (String × List Nat) :=
  match r with
  | .done s => (obsTag (resultObs 5 s)).map (·, s.heap.free)
  | _ => none

theorem doneWith_some {r : Res (St CHeap) Fault} {t : String} {f : List Nat} (h : doneWith r = some (t, f)) :
    ∃ s, r = .done s ∧ resultObs 5 s = .atom (.opaque t) ∧ s.heap.free = f := by
  cases r with
  | done s =>
    change (obsTag (resultObs 5 s)).map (·, s.heap.free) = some (t, f) at h
    cases ho : obsTag (resultObs 5 s) with
    | none => rw [ho] at h; cases h
    | some t' => rw [ho] at h; cases h; exact ⟨s, rfl, obsTag_some ho, rfl⟩
  | _ => cases h

/-- `ptOf sDemo` (`st_ptOf`), written out so that `st k` can be closed against further unfolding once `st_run` has
    evaluated the run -/
def st : Nat → St CHeap
  | 0 => sDemo
  | k+1 => match vmStep (concreteOps listExt) (st k) with
    | .next s => s
    | .halt s => s
    | .fail _ s => s

theorem st_zero : st 0 = sDemo := by rw [st]

theorem st_succ (k : Nat) : st (k + 1) = match vmStep (concreteOps listExt) (st k) with
    | .next s => s | .halt s => s | .fail _ s => s := by rw [st]

attribute [irreducible] st

theorem st_ptOf (k : Nat) : st k = ptOf sDemo k := by
  induction k with
  | zero => exact st_zero
  | succ k ih => rw [st_succ, ih]; rfl

/-- sixteen instructions continue, the seventeenth is HALT, running on after it (`ip` beyond the code) is an error, not a
    panic; the heap keeps its eight cells and at most five are in use; the value is `3` -/
theorem st_run :
    (∀ k, k < 16 → isNext (vmStep (concreteOps listExt) (st k)) = true) ∧
    isHalt (vmStep (concreteOps listExt) (st 16)) = true ∧
    failIsErr (vmStep (concreteOps listExt) (st 17)) = true ∧
    (∀ k, k ≤ 17 → (st k).heap.cells.size = 8 ∧ (st k).heap.free.length ≤ 8 ∧ 3 ≤ (st k).heap.free.length) ∧
    obsTag (resultObs 5 (st 17)) = some "n3" := by decide +kernel

theorem step_next {k : Nat} (hk : k < 16) : vmStep (concreteOps listExt) (st k) = .next (st (k + 1)) := by
  rw [st_ptOf (k + 1), st_ptOf k]
  exact step_of_next (st_ptOf k ▸ st_run.1 k hk)

theorem step_halt : vmStep (concreteOps listExt) (st 16) = .halt (st 17) := by
  rw [st_ptOf 17, st_ptOf 16]
  exact step_of_halt (st_ptOf 16 ▸ st_run.2.1)

theorem pure_done (force : Bool) : pureN (machine listExt force) 17 sDemo = .done (st 17) := by
  rw [st_ptOf 17]
  exact pureN_ptOf force 16 sDemo (fun k hk => st_ptOf k ▸ st_run.1 k hk) (st_ptOf 16 ▸ st_run.2.1)

theorem st17_result : resultObs 5 (st 17) = .atom (.opaque "n3") := obsTag_some st_run.2.2.2.2

/-- `run_gc` returns at its utilisation test when less than three quarters of the heap are in use -/
theorem cgc_false_id (s : St CHeap) (h1 : s.heap.free.length ≤ s.heap.cells.size)
    (h2 : 4 * (s.heap.cells.size - s.heap.free.length) < 3 * s.heap.cells.size) : cgc false s = s := by
  unfold cgc Heap.runGc
  have hu : (toHeap s.heap).usedSize = .ok (s.heap.cells.size - s.heap.free.length) := by
    simp [Heap.usedSize, Heap.freeSize, Heap.capacity, toHeap, h1]
  have hl : Heap.utilAtLeast34 (s.heap.cells.size - s.heap.free.length) (toHeap s.heap).capacity = false := by
    simp only [Heap.utilAtLeast34, Heap.capacity, toHeap, Array.size_map, decide_eq_false_iff_not]
    omega
  simp [hu, hl, bind, Except.bind, pure, Except.pure]

theorem st_gc {k : Nat} (hk : k ≤ 17) : cgc false (st k) = st k := by
  obtain ⟨h1, h2, h3⟩ := st_run.2.2.2.1 k hk
  exact cgc_false_id _ (by omega) (by omega)

theorem reaches_st {s' : St CHeap} (hr : Reaches (machine listExt false) sDemo s') : ∃ k, k ≤ 17 ∧ s' = st k := by
  -- an instruction that does not fail is not the one after HALT, and leads from `st k` to `st (k + 1)`
  have succ : ∀ {k s2}, k ≤ 17 → failIsErr (vmStep (concreteOps listExt) (st k)) = false → stepOf (st k) = s2 →
      ∃ k, k ≤ 17 ∧ s2 = st k := by
    intro k s2 hk hf e
    rcases Nat.lt_or_eq_of_le hk with h | rfl
    · exact ⟨k + 1, h, e.symm.trans (st_succ k).symm⟩
    · rw [st_run.2.2.1] at hf; cases hf
  induction hr with
  | refl => exact ⟨0, Nat.zero_le _, st_zero.symm⟩
  | @next s1 s2 _ e ih =>
    obtain ⟨k, hk, rfl⟩ := ih
    have e' : vmStep (concreteOps listExt) (st k) = .next s2 := e
    exact succ hk (by rw [e']; rfl) (stepOf_next e')
  | @halt s1 s2 _ e ih =>
    obtain ⟨k, hk, rfl⟩ := ih
    have e' : vmStep (concreteOps listExt) (st k) = .halt s2 := e
    exact succ hk (by rw [e']; rfl) (stepOf_halt e')
  | @gc s1 _ ih =>
    obtain ⟨k, hk, rfl⟩ := ih
    exact ⟨k, hk, st_gc hk⟩

theorem sDemo_sizeBounded : SizeBounded (machine listExt false) sDemo := by
  intro s' hr
  obtain ⟨k, hk, rfl⟩ := reaches_st hr
  have := (st_run.2.2.2.1 k hk).1
  unfold Small
  rw [this]
  decide

open Marwood.Proofs.C03 in
/-- a collection (forced: mark, sweep) before EVERY instruction: the value is `3`, and the collector really collects
    — the cell holding the overwritten `1` is back on the free list -/
theorem sched_all : ∃ s, runSched (machine listExt true) (fun _ => true) 17 0 sDemo = .done s ∧
    resultObs 5 s = .atom (.opaque "n3") ∧ s.heap.free = [2, 5, 6, 7] :=
  doneWith_some (by decide +kernel)

open Marwood.Proofs.C03 in
theorem sched_third : ∃ s, runSched (machine listExt true) (fun i => i % 3 == 1) 17 0 sDemo = .done s ∧
    resultObs 5 s = .atom (.opaque "n3") ∧ s.heap.free = [2, 5, 6, 7] :=
  doneWith_some (by decide +kernel)

open Marwood.Proofs.C03 in
theorem sched_all_collects :
    (match runSched (machine listExt true) (fun _ => true) 17 0 sDemo with
     | .done s => s.heap.free
     | _ => []) = [2, 5, 6, 7] := by
  obtain ⟨s, h, _, hf⟩ := sched_all
  rw [h]
  exact hf

end Marwood.Lemmas.Good.LDemo
