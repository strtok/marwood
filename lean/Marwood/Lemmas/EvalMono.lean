import Marwood.Spec.Eval
/-!
# Fuel monotonicity of `Spec.Eval`: the refinement order; the monad laws of `M`

`Le m m'`: from every state in which `m` ends definitely (a value or an error, not `timeout`), `m'` ends with the
very same outcome: same value or error class, same globals, store and output log (`LeAt st`: from `st`). `RecLe r r'`: `eval` and `apply`
of `r'` refine those of `r`. That one level of evaluation is monotone in the sub-evaluator is in `EvalMonoMain`.
`section body`: from its first non-definition on, a body (`evalBodyForms`) is a plain sequence (`evalExprs`).
-/
namespace Marwood.Spec.Eval
open Marwood

theorem M.pure_bind {α β : Type} (a : α) (f : α → M β) : (pure a >>= f) = f a := rfl

theorem M.bind_assoc {α β γ : Type} (m : M α) (f : α → M β) (g : β → M γ) :
    (m >>= f) >>= g = m >>= fun a => f a >>= g := by
  funext st
  show M.bind' (M.bind' m f) g st = M.bind' m (fun a => M.bind' (f a) g) st
  unfold M.bind'
  cases m st <;> rfl

theorem M.bind_pure {α : Type} (m : M α) : (m >>= fun a => pure a) = m := by
  funext st
  show M.bind' m (fun a => M.pure' a) st = m st
  unfold M.bind' M.pure'
  cases m st <;> rfl

def Le {α : Type} (m m' : M α) : Prop := ∀ st, m st ≠ .timeout → m' st = m st

theorem Le.refl {α : Type} (m : M α) : Le m m := fun _ _ => rfl

namespace Derived

def LeAt {α : Type} (st : St) (m m' : M α) : Prop := m st ≠ .timeout → m' st = m st

theorem LeAt.trans {α : Type} {st : St} {a b c : M α} (h1 : LeAt st a b) (h2 : LeAt st b c) : LeAt st a c := by
  intro h
  have e1 := h1 h
  have e2 := h2 (by rw [e1]; exact h)
  rw [e2, e1]

theorem LeAt.bind {α β : Type} {st : St} {m m' : M α} {f f' : α → M β} (hm : LeAt st m m')
    (hf : ∀ a st', m st = .ok a st' → LeAt st' (f a) (f' a)) : LeAt st (m >>= f) (m' >>= f') := by
  intro h
  show M.bind' m' f' st = M.bind' m f st
  have h' : M.bind' m f st ≠ .timeout := h
  unfold M.bind' at h' ⊢
  cases hm1 : m st with
  | ok a s =>
    rw [hm (by simp [hm1])]
    simp only [hm1] at h' ⊢
    exact hf a s hm1 h'
  | err e s =>
    rw [hm (by simp [hm1])]
    simp only [hm1]
  | timeout => simp [hm1] at h'

end Derived

theorem Le.trans {α : Type} {a b c : M α} (h1 : Le a b) (h2 : Le b c) : Le a c :=
  fun st => Derived.LeAt.trans (h1 st) (h2 st)

theorem Le.bind {α β : Type} {m m' : M α} {f f' : α → M β} (hm : Le m m') (hf : ∀ a, Le (f a) (f' a)) :
    Le (m >>= f) (m' >>= f') :=
  fun st => Derived.LeAt.bind (hm st) fun a st' _ => hf a st'

theorem Le.timeout {α : Type} (m : M α) : Le (timeoutM : M α) m := by
  intro st h; exact absurd rfl h

structure RecLe (r r' : Rec) : Prop where
  eval : ∀ e ρ, Le (r.eval e ρ) (r'.eval e ρ)
  apply : ∀ f args, Le (r.apply f args) (r'.apply f args)

theorem RecLe.refl (r : Rec) : RecLe r r := ⟨fun _ _ => Le.refl _, fun _ _ => Le.refl _⟩

theorem RecLe.trans {a b c : Rec} (h1 : RecLe a b) (h2 : RecLe b c) : RecLe a c :=
  ⟨fun e ρ => (h1.eval e ρ).trans (h2.eval e ρ), fun f as => (h1.apply f as).trans (h2.apply f as)⟩

section body
variable {r : Rec} {ρ : Env}

theorem evalBodyForms_last {d : Bool} {e : Datum} (he : isDefine e = false) :
    evalBodyForms r ρ d [e] = r.eval e ρ := by
  simp [evalBodyForms, he]

theorem evalBodyForms_cons {d : Bool} {e e' : Datum} {es : List Datum} (he : isDefine e = false) :
    evalBodyForms r ρ d (e :: e' :: es) = (r.eval e ρ >>= fun _ => evalBodyForms r ρ false (e' :: es)) := by
  simp [evalBodyForms, he]

/-- after the first non-definition a body is a plain sequence -/
theorem evalBodyForms_false (ρ : Env) (es : List Datum) :
    evalBodyForms r ρ false es = evalExprs r ρ es := by
  induction es with
  | nil => rfl
  | cons e es ih =>
    cases es with
    | nil => simp [evalBodyForms, evalExprs]
    | cons e2 es =>
      simp only [evalBodyForms, evalExprs, Bool.false_and, Bool.false_eq_true, if_false]
      rw [ih]

theorem evalBodyForms_noDefs (es : List Datum) (d : Bool) (h : ∀ e ∈ es, isDefine e = false) :
    evalBodyForms r ρ d es = evalExprs r ρ es := by
  match es with
  | [] => rfl
  | [e] => exact evalBodyForms_last (h e (by simp))
  | e :: e' :: es =>
    rw [evalBodyForms_cons (h e (by simp)), evalBodyForms_false]
    rfl

theorem evalBody_noLeadingDef {b : Datum} {bs : List Datum} (hb : isDefine b = false) :
    evalBody r ρ (b :: bs) = evalBodyForms r ρ true (b :: bs) := by
  funext σ
  simp only [evalBody, leadingDefs, hb, Bool.false_eq_true, if_false, List.map_nil, allocVars]
  rfl

end body

end Marwood.Spec.Eval
