import Marwood.Lemmas.GoodMain
import Marwood.Vm.InlineCheck
/-!
# VPUSH leaves the reference to the vector in `%acc` (marwood fix 43d0413)

Whatever the unmodelled push does, `%acc` after a successful VPUSH **is** the cell that was on top of the live stack
(`vpush_acc_popped`); on a `GoodI` state that passes `noInlineVecB`, for a push that succeeds only on a vector, that
cell is a pointer to an allocated vector cell (`vpush_acc_ptr`). `vpush_pinned_inline`: the arm of VPUSH as it stood
before the fix (`stepVpushPinned`, Vm/InlineCheck.lean) puts the inline vector into `%acc` and breaks `noInlineVecB`.
-/
namespace Marwood.Lemmas.Good
open Marwood Marwood.Vm Marwood.Vm.Concrete Marwood.Lemmas.Sim
open Marwood.Heap (GcState WFHeap RootsOk vrefs vrefsList crefs)

/-- the unmodelled `vector.push` succeeds only on (the representative of) a vector: Rust's `as_vector()?`.
    `.opaque "v"` is how `deref` of the concrete heap renders a vector cell (`Vm/ConcreteHeap.lean`) -/
def VecPushLaw (ext : ExtOps) : Prop :=
  ∀ (h : CHeap) (vec a : VCell) (h' : CHeap), ext.vectorPush h vec a = .ok h' → vec = .opaque "v"

section
variable {ext : ExtOps}

theorem vpush_acc_popped {s s' : St CHeap} {b : Bool} (hop : opAt s .vpushAcc)
    (hs : step (concreteOps ext) s = .ok (s', b)) :
    0 < s.stack.sp ∧ s.stack.cells[s.stack.sp]? = some s'.acc ∧
      s'.stack = { s.stack with sp := s.stack.sp - 1 } ∧
      ext.vectorPush s.heap (deref s.heap s'.acc) s.acc = .ok s'.heap := by
  rw [step_eq] at hs
  obtain ⟨⟨op, s1⟩, hro, hx⟩ := bind_inv hs
  obtain ⟨rfl, hop'⟩ := readOpcode_inv hro
  obtain ⟨l, hl, hc⟩ := hop
  obtain ⟨l', hl', hc'⟩ := hop'
  rw [hl] at hl'; cases hl'
  rw [hc] at hc'; cases hc'
  unfold exec at hx
  obtain ⟨⟨v, st1⟩, hp1, hx⟩ := bind_inv hx
  obtain ⟨h', h2, hx⟩ := bind_inv hx
  cases hx
  obtain ⟨hpos, hcell, rfl⟩ := StepB.pop_inv hp1
  exact ⟨hpos, hcell, rfl, h2⟩

theorem getAt_inlineVec {h : CHeap} {p : Nat} (hc : h.cells.toList.all cellNoInlineVec = true)
    (hg : getAt h p = .opaque "v") : ∃ es, h.cells[p]? = some (.vector es) := by
  unfold getAt at hg
  cases hp : h.cells[p]? with
  | none => rw [hp] at hg; cases hg
  | some c =>
    rw [hp] at hg
    cases c with
    | vector es => exact ⟨es, rfl⟩
    | val v =>
      have hv : v = .opaque "v" := hg
      have hm : (CCell.val v) ∈ h.cells.toList := List.mem_of_getElem? (by rw [Array.getElem?_toList]; exact hp)
      have := (List.all_eq_true.mp hc) _ hm
      rw [hv] at this
      exact absurd this (by decide)
    | lexEnv ss => exact absurd (show VCell.opaque "e" = VCell.opaque "v" from hg) (by decide)
    | lambda l => exact absurd (show VCell.lambda 0 = VCell.opaque "v" from hg) (by decide)
    | cont c => exact absurd (show VCell.continuation 0 = VCell.opaque "v" from hg) (by decide)

theorem vpush_acc_ptr (vl : VecPushLaw ext) {s s' : St CHeap} {b : Bool} (g : GoodI s)
    (ni : noInlineVecB s = true) (hop : opAt s .vpushAcc) (hs : step (concreteOps ext) s = .ok (s', b)) :
    ∃ p es, s'.acc = .ptr p ∧ s.stack.cells[s.stack.sp]? = some (.ptr p) ∧
      s.heap.cells[p]? = some (.vector es) ∧ NF s.heap p ∧ isInlineVec s'.acc = false := by
  obtain ⟨_, hcell, _, hvp⟩ := vpush_acc_popped hop hs
  have hd := vl _ _ _ _ hvp
  simp only [noInlineVecB, Bool.and_eq_true] at ni
  obtain ⟨⟨⟨_, nstk⟩, _⟩, ncells⟩ := ni
  have hmem : s'.acc ∈ s.stack.cells := List.mem_of_getElem? hcell
  have hni : (!isInlineVec s'.acc) = true := (List.all_eq_true.mp nstk) _ hmem
  have hv : VRefsOk s.heap s'.acc := roots_stack g.roots (Nat.le_refl _) hcell
  cases ha : s'.acc with
  | ptr p =>
    rw [ha] at hd hv hcell
    obtain ⟨es, he⟩ := getAt_inlineVec ncells hd
    exact ⟨p, es, rfl, hcell, he, VRefsOk.ptr.mp hv, rfl⟩
  | _ =>
    rw [ha] at hd hni
    first
      | (cases hd; exact absurd hni (by decide))
      | cases hd

end

namespace VpushWitness

/-- a push that succeeds exactly on a vector (the heap effect is not part of what the witness is about) -/
def extPush : ExtOps :=
  { builtinKind := fun _ _ => .generic
    builtinEval := fun _ _ _ => .err .expectedType
    compileEval := fun _ _ => .err .expectedType
    vectorPush := fun h vec _ => if isInlineVec vec then .ok h else .err .expectedType }

theorem extPush_law : VecPushLaw extPush := by
  intro h vec a h' he
  have he' : (if isInlineVec vec then Outcome.ok h else .err .expectedType) = .ok h' := he
  split at he'
  · rename_i hv
    cases vec <;> simp only [isInlineVec, Bool.false_eq_true] at hv
    rename_i t
    have : t = "v" := by simpa using hv
    rw [this]
  · cases he'

/-- code `VPUSH; HALT` at cell 0, an empty vector at cell 1 -/
def h0 : CHeap :=
  { chunk := 4
    cells := #[.lambda { bc := [.opcode .vpushAcc, .opcode .halt], args := [], envmap := [] }, .vector [],
      .val .undefined, .val .undefined]
    gc := #[.allocated, .allocated, .free, .free], free := [2, 3], symtab := [], globSyms := [], globals := #[] }

/-- `%ip` at the VPUSH, the pointer to the vector on top of the stack, the element `#t` in `%acc` -/
def s0 : St CHeap :=
  { heap := h0, stack := { cells := [.undefined, .ptr 1], sp := 1 }, acc := .bool true, ep := usizeMax, ipL := 0,
    ipO := 0, bp := 0 }

def accAfter (r : Outcome (St CHeap × Bool)) : Option VCell :=
  match r with
  | .ok p => some p.1.acc
  | _ => none

def checkAfter (r : Outcome (St CHeap × Bool)) : Option Bool :=
  match r with
  | .ok p => some (noInlineVecB p.1)
  | _ => none

end VpushWitness

open VpushWitness in
/-- **before fix 43d0413 VPUSH put a dereferenced vector in `%acc`**: `stepVpushPinned` succeeds, `%acc` is the inline
    vector (not the popped pointer `Ptr 1`) and the discipline fails on the successor; the arm of the model keeps
    the pointer and the discipline on the same state -/
theorem vpush_pinned_inline :
    noInlineVecB s0 = true ∧
    accAfter (stepVpushPinned (concreteOps extPush) { s0 with ipO := 1 }) = some (.opaque "v") ∧
    checkAfter (stepVpushPinned (concreteOps extPush) { s0 with ipO := 1 }) = some false ∧
    accAfter (step (concreteOps extPush) s0) = some (.ptr 1) ∧
    checkAfter (step (concreteOps extPush) s0) = some true := by
  refine ⟨by decide, by decide, by decide, by decide, by decide⟩

end Marwood.Lemmas.Good
