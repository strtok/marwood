import Marwood.Lemmas.StoreMapSteps
/-!
# `map-all` / `for-each-all` and `map` / `for-each` against the plan of the walk

One round of the Scheme body (`mapAll_step`), then a `Plan` derivation followed for both procedures at once; `map_plan` /
`forEach_plan` add the prologue (`VARARG` list of the remaining lists, `(cons xs xss)`).
-/
namespace Marwood.Store
open Outcome

theorem any_ended_false {views : List (List Nat × VCell)} (h : views.any noPair = false) :
    views.any ended = false := by
  induction views with
  | nil => rfl
  | cons v vs ih =>
    rw [List.any_cons, Bool.or_eq_false_iff] at h ⊢
    refine ⟨?_, ih h.2⟩
    have := h.1
    unfold noPair at this
    unfold ended; rw [this]; rfl

theorem length_map_hd (views : List (List Nat × VCell)) : (views.map hd).length = views.length := by
  simp

theorem mapAll_pre {g : Callee} {M : Nat → Prop} {s : Store} {xss : VCell}
    {ws : List Nat} {views : List (List Nat × VCell)} {f : Nat}
    (hx : SpineOff M s xss ws .nil) (hh : HeadsOff M s ws views)
    (hne : views.any noPair = false) (hf : ws.length < f) :
    ∃ s1, Extends s s1 ∧
      mapAll g (f+1) s xss = (do
        let (s, y) ← g s1 ((views.map hd).map VCell.ptr)
        let (s, cdrs) ← map1 cdr f s xss
        let (s, r) ← mapAll g f s cdrs
        cons s [y, r]) ∧
      forEachAll g (f+1) s xss = (do
        let (s, _) ← g s1 ((views.map hd).map VCell.ptr)
        let (s, cdrs) ← map1 cdr f s xss
        let (s, _) ← forEachAll g f s cdrs
        .ok (s, .void)) := by
  have hany := anyNull_spec hx hh hf
  rw [any_ended_false hne] at hany
  obtain ⟨pc, _⟩ := heads_step hh hne
  obtain ⟨s1, cars, e1, x1, fr1⟩ := map1_proj hx pc hf
  have hle : listElems f s1 cars = .ok ((views.map hd).map VCell.ptr) :=
    listElems_spec fr1.isList (by rw [length_map_hd, ← hh.length]; exact hf)
  refine ⟨s1, x1, ?_, ?_⟩
  · simp only [mapAll, hany, bind_ok, Bool.false_eq_true, if_false, e1, hle]
  · simp only [forEachAll, hany, bind_ok, Bool.false_eq_true, if_false, e1, hle]

/-- `hM`: the callee's write set lies inside the heap as it is, so what `map1` and `cons` allocate in the round is
    outside it -/
theorem mapAll_step {g : Callee} {M : Nat → Prop} {I : Store → Prop} {s : Store} {xss : VCell}
    {ws : List Nat} {views : List (List Nat × VCell)} {f : Nat}
    (hx : SpineOff M s xss ws .nil) (hh : HeadsOff M s ws views)
    (hM : ∀ i, M i → i < s.cells.length) (hne : views.any noPair = false) (hf : ws.length < f)
    (hI : I s) (hgrow : ∀ t t', I t → Extends t t' → I t')
    (hcall : ∀ t, I t → ∃ u y, g t ((views.map hd).map VCell.ptr) = .ok (u, y) ∧ Keeps M t u ∧ I u) :
    ∃ s1 u y s3 cdrs ds, Extends s s1 ∧ g s1 ((views.map hd).map VCell.ptr) = .ok (u, y) ∧
      Keeps M s1 u ∧ Extends u s3 ∧ I s3 ∧ SpineOff M s3 cdrs ds .nil ∧
      HeadsOff M s3 ds (views.map tl) ∧
      mapAll g (f+1) s xss = (do let (s4, r) ← mapAll g f s3 cdrs; cons s4 [y, r]) ∧
      forEachAll g (f+1) s xss = (do let (s4, _) ← forEachAll g f s3 cdrs; .ok (s4, .void)) := by
  obtain ⟨s1, x1, emap, efor⟩ := mapAll_pre (g := g) hx hh hne hf
  obtain ⟨u, y, hgu, hk, hIu⟩ := hcall s1 (hgrow s s1 hI x1)
  have hku : Keeps M s u := (x1.keeps M).trans hk
  obtain ⟨_, ds, pd, ht⟩ := heads_step (hh.keeps hku) hne
  obtain ⟨s3, cdrs, e3, x3, fr3⟩ := map1_proj (hx.keeps hku) pd hf
  have hMu : ∀ i, M i → i < u.cells.length := fun i hi => Nat.lt_of_lt_of_le (hM i hi) hku.len
  refine ⟨s1, u, y, s3, cdrs, ds, x1, hgu, hk, x3, hgrow u s3 hIu x3, fr3.weaken hMu,
    ht.keeps (x3.keeps M), ?_, ?_⟩
  · simp only [emap, hgu, bind_ok, e3]
  · simp only [efor, hgu, bind_ok, e3]

theorem argsOf_cons (t : List Nat) (ts : List (List Nat)) :
    argsOf (t :: ts) = t.map VCell.ptr :: argsOf ts := rfl

/-- both procedures make the same calls on the same stores (`t`: the store after the last round; `map-all` then conses
    its result on the way back, `s'`). Fuel: one level per round and one for the round that stops; inside a round
    `any? null?` and `map1` walk the list of the `views.length` lists. -/
theorem mapAll_forEachAll_plan {g : Callee} {M : Nat → Prop} {I : Store → Prop}
    {views : List (List Nat × VCell)} {tuples : List (List Nat)} {b : Bool}
    (hp : Plan views tuples b) : ∀ {s : Store} {xss : VCell} {ws : List Nat} {fuel : Nat},
    SpineOff M s xss ws .nil → HeadsOff M s ws views → (∀ i, M i → i < s.cells.length) → I s →
    MapCallee g M I (argsOf tuples) → tuples.length + views.length + 2 ≤ fuel →
    (b = true → ∃ t ys, forEachAll g fuel s xss = .ok (t, .void) ∧
        MapRun g s (argsOf tuples) t ys ∧ Keeps M s t ∧ I t ∧
        ∃ s' r rs, mapAll g fuel s xss = .ok (s', r) ∧ Extends t s' ∧
          SpineOff (· < s.cells.length) s' r rs .nil ∧ DenotesAll s' rs ys) ∧
    (b = false → mapAll g fuel s xss = .err .pair ∧ forEachAll g fuel s xss = .err .pair) := by
  induction hp with
  | @stop views hend =>
    intro s xss ws fuel hx hh hM hI hg hfuel
    obtain ⟨f, rfl⟩ : ∃ f, fuel = f + 1 := ⟨fuel - 1, by omega⟩
    have hany := anyNull_spec (fuel := f) hx hh (by rw [hh.length]; omega)
    rw [hend] at hany
    refine ⟨fun _ => ⟨s, [], ?_, .nil (Extends.refl s), Keeps.refl M s, hI,
      s, .nil, [], ?_, Extends.refl s, .imm rfl rfl, .nil⟩, fun h => by cases h⟩
    · simp only [forEachAll, hany, bind_ok, if_true]
    · simp only [mapAll, hany, bind_ok, if_true]
  | @stuck views hend hno =>
    intro s xss ws fuel hx hh hM hI hg hfuel
    obtain ⟨f, rfl⟩ : ∃ f, fuel = f + 1 := ⟨fuel - 1, by omega⟩
    have hf : ws.length < f := by rw [hh.length]; omega
    have hany := anyNull_spec hx hh hf
    rw [hend] at hany
    refine ⟨fun h => (by cases h), fun _ => ⟨?_, ?_⟩⟩
    · simp only [mapAll, hany, bind_ok, Bool.false_eq_true, if_false, map1_car_err hx hh hno hf, bind_err]
    · simp only [forEachAll, hany, bind_ok, Bool.false_eq_true, if_false, map1_car_err hx hh hno hf, bind_err]
  | @step views tuples b hne _ ih =>
    intro s xss ws fuel hx hh hM hI hg hfuel
    obtain ⟨f, rfl⟩ : ∃ f, fuel = f + 1 := ⟨fuel - 1, by omega⟩
    simp only [List.length_cons] at hfuel
    have hf : ws.length < f := by rw [hh.length]; omega
    obtain ⟨s1, u, y, s3, cdrs, ds, x1, hgu, hk, x3, hI3, hx3, hh3, emap, efor⟩ :=
      mapAll_step (g := g) (I := I) hx hh hM hne hf hI hg.grow
        (fun t ht => hg.call t _ ht (by rw [argsOf_cons]; exact List.mem_cons_self ..))
    have hlen3 : s.cells.length ≤ s3.cells.length :=
      Nat.le_trans x1.len (Nat.le_trans hk.len x3.len)
    obtain ⟨ihok, iherr⟩ := ih (fuel := f) hx3 hh3
      (fun i hi => Nat.lt_of_lt_of_le (hM i hi) hlen3) hI3 hg.tail
      (by simp only [List.length_map]; omega)
    refine ⟨fun hb => ?_, fun hb => ⟨by rw [emap, (iherr hb).1]; rfl, by rw [efor, (iherr hb).2]; rfl⟩⟩
    obtain ⟨t4, ys, e4, run, hk4, hI4, s4, r, rs, m4, x4, fr, hden⟩ := ihok hb
    have hlen4 : s.cells.length ≤ s4.cells.length := Nat.le_trans hlen3 (Nat.le_trans hk4.len x4.len)
    obtain ⟨s5, p, ay, c1, x5, hbx, fr5⟩ := cons_fresh (n := s.cells.length) hlen4 y
      (fr.weaken (M := (· < s3.cells.length)) fun i hi => Nat.lt_of_lt_of_le hi hlen3)
    refine ⟨t4, y :: ys, by rw [efor, e4]; rfl, ?_, ((x1.keeps M).trans hk).trans ((x3.keeps M).trans hk4), hI4,
      s5, .ptr p, ay :: rs, by rw [emap, m4]; exact c1, x4.trans x5, fr5,
      .cons hbx.denotes (denotes_forall₂_mono x5 hden)⟩
    rw [argsOf_cons]
    exact .cons x1 hgu (run.extend_left x3)

theorem boxedAll_heads {M : Nat → Prop} {n0 : Nat} (hM : ∀ i, M i → i < n0) {s s' : Store}
    (he : Extends s s') {as : List Nat} {ls : List VCell} (hb : BoxedAll n0 s' as ls) :
    ∀ {vs : List (List Nat × VCell)}, AllSpinesOff M s ls vs → HeadsOff M s' as vs := by
  induction hb with
  | nil => intro vs h; cases h; exact .nil
  | cons h1 _ ih =>
    intro vs h
    cases h with
    | cons g1 g2 => exact .cons (h1.spineOff hM he g1) (ih g2)

theorem map_prologue {M : Nat → Prop} {s : Store} {xs : VCell} {rest : List VCell}
    {views : List (List Nat × VCell)} (hl : AllSpinesOff M s (xs :: rest) views)
    (hM : ∀ i, M i → i < s.cells.length) :
    ∃ s1 r s2 xss ws, list s rest = .ok (s1, r) ∧ cons s1 [xs, r] = .ok (s2, xss) ∧ Extends s s2 ∧
      SpineOff M s2 xss ws .nil ∧ HeadsOff M s2 ws views := by
  cases hl with
  | @cons _ v _ vs h1 h2 =>
    obtain ⟨s1, p, as, e1, fr1, hb1, x1⟩ := list_fresh s rest
    obtain ⟨s2, q, pa, pd, e2, hcell, hba, hbd, x2, hq⟩ := cons_boxed s1 xs (.ptr p)
    have hpd : pd = p := by
      rcases hbd with hbd | ⟨hbd, _⟩
      · cases hbd; rfl
      · simp [VCell.isPtr] at hbd
    subst hpd
    have hM1 : ∀ i, M i → i < s1.cells.length := fun i hi => Nat.lt_of_lt_of_le (hM i hi) x1.len
    refine ⟨s1, .ptr pd, s2, .ptr q, pa :: as, e1, e2, x1.trans x2, ?_, ?_⟩
    · exact .cons (fun hm => by have := hM1 _ hm; omega) hcell ((fr1.weaken hM).mono x2)
    · exact .cons (hba.spineOff hM1 (x1.trans x2) h1)
        (boxedAll_heads hM x1 hb1 h2 |>.keeps (x2.keeps M))

theorem map_plan {g : Callee} {M : Nat → Prop} {I : Store → Prop} {s : Store} {xs : VCell}
    {rest : List VCell} {views : List (List Nat × VCell)} {tuples : List (List Nat)} {b : Bool}
    {fuel : Nat} (hl : AllSpinesOff M s (xs :: rest) views) (hM : ∀ i, M i → i < s.cells.length)
    (hI : I s) (hg : MapCallee g M I (argsOf tuples)) (hp : Plan views tuples b)
    (hfuel : tuples.length + (xs :: rest).length + 2 ≤ fuel) :
    (b = true → ∃ s' r ys rs, map g fuel s (xs :: rest) = .ok (s', r) ∧
        MapRun g s (argsOf tuples) s' ys ∧ SpineOff (· < s.cells.length) s' r rs .nil ∧
        DenotesAll s' rs ys ∧ AllSpinesOff M s' (xs :: rest) views ∧ Keeps M s s' ∧ I s') ∧
    (b = false → map g fuel s (xs :: rest) = .err .pair) := by
  obtain ⟨s1, r0, s2, xss, ws, e1, e2, x2, hx, hh⟩ := map_prologue hl hM
  have hunf : map g fuel s (xs :: rest) = mapAll g fuel s2 xss := by
    simp only [map, e1, bind_ok, e2]
  obtain ⟨hok, herr⟩ := mapAll_forEachAll_plan (g := g) (I := I) hp hx hh
    (fun i hi => Nat.lt_of_lt_of_le (hM i hi) x2.len) (hg.grow s s2 hI x2) hg
    (by rw [← hl.length]; exact hfuel)
  refine ⟨fun hb => ?_, fun hb => by rw [hunf]; exact (herr hb).1⟩
  obtain ⟨t, ys, _, run, hk, hIt, s', r, rs, e, xt, fr, hden⟩ := hok hb
  have hks : Keeps M s s' := ((x2.keeps M).trans hk).trans (xt.keeps M)
  exact ⟨s', r, ys, rs, by rw [hunf]; exact e, (run.extend_right xt).extend_left x2,
    fr.weaken (M := (· < s2.cells.length)) (fun i hi => Nat.lt_of_lt_of_le hi x2.len), hden,
    hl.keeps hks, hks, hg.grow t s' hIt xt⟩

theorem forEach_plan {g : Callee} {M : Nat → Prop} {I : Store → Prop} {s : Store} {xs : VCell}
    {rest : List VCell} {views : List (List Nat × VCell)} {tuples : List (List Nat)} {b : Bool}
    {fuel : Nat} (hl : AllSpinesOff M s (xs :: rest) views) (hM : ∀ i, M i → i < s.cells.length)
    (hI : I s) (hg : MapCallee g M I (argsOf tuples)) (hp : Plan views tuples b)
    (hfuel : tuples.length + (xs :: rest).length + 2 ≤ fuel) :
    (b = true → ∃ s' ys, forEach g fuel s (xs :: rest) = .ok (s', .void) ∧
        MapRun g s (argsOf tuples) s' ys ∧ AllSpinesOff M s' (xs :: rest) views ∧ Keeps M s s' ∧
        I s') ∧
    (b = false → forEach g fuel s (xs :: rest) = .err .pair) := by
  obtain ⟨s1, r0, s2, xss, ws, e1, e2, x2, hx, hh⟩ := map_prologue hl hM
  have hunf : forEach g fuel s (xs :: rest) = forEachAll g fuel s2 xss := by
    simp only [forEach, e1, bind_ok, e2]
  obtain ⟨hok, herr⟩ := mapAll_forEachAll_plan (g := g) (I := I) hp hx hh
    (fun i hi => Nat.lt_of_lt_of_le (hM i hi) x2.len) (hg.grow s s2 hI x2) hg
    (by rw [← hl.length]; exact hfuel)
  refine ⟨fun hb => ?_, fun hb => by rw [hunf]; exact (herr hb).2⟩
  obtain ⟨s', ys, e, run, hk, hI', _⟩ := hok hb
  have hks : Keeps M s s' := (x2.keeps M).trans hk
  exact ⟨s', ys, by rw [hunf]; exact e, run.extend_left x2, hl.keeps hks, hks, hI'⟩

end Marwood.Store
