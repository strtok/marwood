import Marwood.Lemmas.EvalConverseDerived
import Marwood.Lemmas.EvalDerived2Case2
/-!
# T01.2, second half, CONVERSE direction for the `case` clauses with a datum list (rules 4–7)

`(if (memv k '(d …)) (begin r1 r2 …) [(case k clause …)])` (and the `=>` variants) definite in the slack-guarded tower ⇒
`(case k ((d …) r1 r2 …) clause …)` has, with the same fuel, the related outcome. The expansion appends the quoted list
to the store, one cell per datum: the slack is `atoms.length`. NB the expansion's own `memv` walks that list
(`atoms.length + 1` steps) under the bound `store.size + 1` of the store BEFORE the append: the slack-guarded run of the
expansion is definite only from stores of at least `atoms.length` cells (examples at the end).
-/
namespace Marwood.Spec.Eval.Derived
open Marwood Marwood.Spec.Eval Marwood.Spec.Eval.Prelude Marwood.Spec.Eval.Extra Marwood.Spec.Eval.Conv

/-- the common part of rules 4–7, converse of `case_datum_agrees`: the key `k` is atomic; `A` is what the
    expansion runs on a hit (natively `KA`), the remaining clauses `cs` run on a miss -/
theorem case_datum_agrees_conv (ρ : Env) (k : Datum) (atoms : List Datum) (cs : List Datum) (C1 A : Datum)
    (KA : Rec → Val → M Val)
    (hC1 : ∀ (r : Rec) (key : Val), evalCase r ρ key (C1 :: cs) =
      if atoms.any (eqvDatum key) then KA r key else evalCase r ρ key cs)
    (hKA : ∀ (f : LMap), Inj f → ∀ (r r' : Rec), RecSimD f (fun _ => none) .right r r' → EnvRel f [] ρ ρ → ∀ key key', VRel f key key' →
      SimD f (fun _ => none) .right (VRel f) (KA r key) (KA r' key'))
    (hKAle : ∀ (r r' : Rec), RecLe r r' → ∀ (key : Val), Le (KA r key) (KA r' key))
    (hA : ∀ (p : Nat) (key' : Val) (s2 : St), (sguardN atoms.length (p+1)).eval k ρ s2 = .ok key' s2 →
      (sguardN atoms.length (p+2)).eval A ρ s2 = KA (sguardN atoms.length (p+1)) key' s2)
    (exp : Datum)
    (hexp : ∀ (r : Rec), evalStep r exp ρ = (do
      let v ← r.eval (memvTest k atoms) ρ
      if truthy v then r.eval A ρ else missBranch r ρ k cs))
    (hat : ∀ d ∈ atoms, simpleAtom d = true) (hkey : atomKey k = true)
    (st : St) (hst : WFSt st) (hρ : EnvOK st.store.size ρ) (hρm : ρ.lookup k_memv = none)
    (hg : st.globals.lookup k_memv = some (.prim .memv)) :
    AgreesConv atoms.length (caseUse k (C1 :: cs)) exp ρ st := by
  intro m hd
  refine ⟨sguardN_eval_evalN _ _ _ _ _ hd, ?_⟩
  rw [sguardN_eval_evalN _ _ _ _ _ hd]
  have hmv : ∀ x, s k_memv = Datum.sym x → kwOf x = none := by intro x hx; cases hx; exact kwOf_memv
  -- fuel 1 does not reach the test of the `if`, fuel 2 not the operands of `(memv k '(d …))`
  match m, hd with
  | 0, hd => exact absurd rfl hd
  | 1, hd =>
    refine absurd ?_ hd
    show evalStep (sguardN _ 0) exp ρ st = .timeout
    rw [hexp]; rfl
  | 2, hd =>
    refine absurd ?_ hd
    show evalStep (sguardN _ 1) exp ρ st = .timeout
    rw [hexp]
    show M.bind' (evalStep (sguardN _ 0) (memvTest k atoms) ρ) _ st = .timeout
    rw [memvTest, native_app _ _ (s k_memv) _ hmv]
    rfl
  | p+3, hd =>
    rw [sguardN_succ_eval, hexp] at hd ⊢
    rw [evalN_succ_eval, native_case]
    have hd' : M.bind' ((sguardN atoms.length (p+2)).eval (memvTest k atoms) ρ)
        (fun v => if truthy v then (sguardN atoms.length (p+2)).eval A ρ
          else missBranch (sguardN atoms.length (p+2)) ρ k cs) st ≠ .timeout := hd
    show ∃ f, Inj f ∧ _ ∧ ResRelR f (VRel f) (M.bind' ((evalN (p+2)).eval k ρ) _ st) (M.bind' _ _ st)
    unfold M.bind' at hd' ⊢
    have hTd : (sguardN atoms.length (p+2)).eval (memvTest k atoms) ρ st ≠ .timeout := by
      intro h; rw [h] at hd'; exact hd' rfl
    have hTe := sguardN_eval_evalN _ _ _ _ _ hTd
    cases hk : (evalN (p+1)).eval k ρ st with
    | timeout =>
      have hT : (evalN (p+2)).eval (memvTest k atoms) ρ st = .timeout := by
        rw [evalN_succ_eval, memvTest, native_app _ _ (s k_memv) _ hmv]
        simp only [evalArgs]
        show M.bind' (M.bind' ((evalN (p+1)).eval k ρ) _) _ st = _
        simp [M.bind', hk]
      rw [hT] at hTe
      exact absurd hTe.symm hTd
    | err e s1 =>
      have hT : (evalN (p+2)).eval (memvTest k atoms) ρ st = .err e s1 := by
        rw [evalN_succ_eval, memvTest, native_app _ _ (s k_memv) _ hmv]
        simp only [evalArgs]
        show M.bind' (M.bind' ((evalN (p+1)).eval k ρ) _) _ st = _
        simp [M.bind', hk]
      have hk2 : (evalN (p+2)).eval k ρ st = .err e s1 := by
        rw [evalN_mono (Nat.le_succ (p+1)) k ρ st (by rw [hk]; simp), hk]
      refine ⟨fun l => l, inj_id, fun _ _ => rfl, ?_⟩
      rw [← hTe, hT]
      simp only [hk2]
      exact ⟨rfl, stRel_id s1⟩
    | ok key s1 =>
      have hs1 : s1 = st := atomKey_state (evalN p) k hkey ρ st s1 key hk
      subst hs1
      obtain ⟨res, σ', hT, hsz, hpre, htr⟩ := memvTest_eval p ρ k atoms hat hρm s1 s1 key hk hg
      have hk2 : (evalN (p+2)).eval k ρ s1 = .ok key s1 := by
        rw [evalN_mono (Nat.le_succ (p+1)) k ρ s1 (by rw [hk]; simp), hk]
      rw [← hTe, hT] at hd'
      rw [← hTe, hT]
      simp only [hk2]
      simp only at hd'
      have hf := inj_shiftAt s1.store.size atoms.length
      have hfk : ∀ l, shiftAt s1.store.size atoms.length l ≤ l + atoms.length := shiftAt_le _ _
      have hrel : StRel (shiftAt s1.store.size atoms.length) s1 { s1 with store := σ' } :=
        stRel_extend hst _ σ' hsz hpre
      have henv : EnvRel (shiftAt s1.store.size atoms.length) [] ρ ρ := envRel_shift_self hρ
      refine ⟨_, hf, fun l hl => shiftAt_lt hl, ?_⟩
      -- the key, evaluated once more in the larger store: an atomic key does not consult the sub-evaluator,
      -- so the FORWARD simulation applies
      have hkk : ResRel (shiftAt s1.store.size atoms.length) (VRel (shiftAt s1.store.size atoms.length))
          ((evalN (p+1)).eval k ρ s1) ((sguardN atoms.length (p+1)).eval k ρ { s1 with store := σ' }) := by
        have e1 : (evalN (p+1)).eval k ρ = evalStep (guardN p) k ρ := atomKey_rec (evalN p) (guardN p) k hkey ρ
        have e2 : (sguardN atoms.length (p+1)).eval k ρ = evalStep (evalN p) k ρ :=
          atomKey_rec (sguardN atoms.length p) (evalN p) k hkey ρ
        rw [e1, e2]
        exact sim_evalStep hf (recSim hf p) henv k (cleanB_nil k) s1 _ hrel
      rw [hk] at hkk
      obtain ⟨key', s2', hk2', hkey', _⟩ := hkk.ok_inv
      have hs2 : s2' = { s1 with store := σ' } := atomKey_state (sguardN atoms.length p) k hkey ρ _ s2' key' hk2'
      subst hs2
      rw [hC1]
      rw [htr] at hd' ⊢
      by_cases hit : atoms.any (eqvDatum key) = true
      · rw [if_pos hit] at hd' ⊢
        rw [if_pos hit]
        rw [hA p key' _ hk2'] at hd' ⊢
        have hsim := simR_iff.2 (hKA _ hf (evalN (p+1)) (sguardN atoms.length (p+1)) (recSimD_conv hf hfk (p+1)) henv key key' hkey')
          s1 _ hrel
        have hdef := hsim.definite hd'
        rw [hKAle (evalN (p+1)) (evalN (p+2)) (recLe_evalN_succ (p+1)) key s1 hdef]
        exact hsim
      · rw [if_neg hit] at hd' ⊢
        rw [if_neg hit]
        cases cs with
        | nil => exact ⟨.void, hrel⟩
        | cons c cs' =>
          have em : missBranch (sguardN atoms.length (p+2)) ρ k (c :: cs') { s1 with store := σ' } =
              evalCase (sguardN atoms.length (p+1)) ρ key' (c :: cs') { s1 with store := σ' } := by
            show evalStep (sguardN atoms.length (p+1)) (caseUse k (c :: cs')) ρ _ = _
            rw [native_case]
            show M.bind' ((sguardN atoms.length (p+1)).eval k ρ) _ _ = _
            unfold M.bind'
            rw [hk2']
          rw [em] at hd' ⊢
          have hsim := simR_iff.2 (simD_evalCase (recSimD_conv hf hfk (p+1)) henv hkey' _ (cleanBs_empty (c :: cs'))) s1 _ hrel
          have hdef := hsim.definite hd'
          rw [le_evalCase (recLe_evalN_succ (p+1)) ρ key _ s1 hdef]
          exact hsim

/-- **case**, rules 5 and 7, converse -/
theorem case_body_agrees_conv (ρ : Env) (k : Datum) (atoms : List Datum) (r1 : Datum) (rs cs : List Datum)
    (hr : ¬ (r1 = s k_arrow ∧ rs.length = 1)) (hat : ∀ d ∈ atoms, simpleAtom d = true) (hkey : atomKey k = true)
    (st : St) (hst : WFSt st) (hρ : EnvOK st.store.size ρ) (hρm : ρ.lookup k_memv = none)
    (hg : st.globals.lookup k_memv = some (.prim .memv)) :
    AgreesConv atoms.length (caseUse k (L (L atoms :: r1 :: rs) :: cs)) (caseBodyExp k atoms r1 rs cs) ρ st := by
  refine case_datum_agrees_conv ρ k atoms cs _ (L (s k_begin_ :: r1 :: rs)) (fun r _ => evalExprs r ρ (r1 :: rs))
    (fun r key => evalCase_body r ρ key atoms r1 rs cs hr) ?_ ?_ ?_ _ ?_ hat hkey st hst hρ hρm hg
  · intro f hf r r' hr' he key key' _
    exact simD_evalExprs hr' he _ (cleanBs_empty _)
  · intro r r' hr' key
    exact le_evalExprs hr' ρ _
  · intro p key' s2 _
    rw [sguardN_succ_eval, native_begin]
  · intro r
    cases cs with
    | nil => exact native_if2 r ρ _ _
    | cons c cs' => exact native_if3 r ρ _ _ _

/-- **case**, rules 4 and 6, converse -/
theorem case_arrow_agrees_conv (ρ : Env) (k : Datum) (atoms : List Datum) (f : Datum) (cs : List Datum)
    (hf : ∀ x, f = .sym x → kwOf x = none) (hat : ∀ d ∈ atoms, simpleAtom d = true) (hkey : atomKey k = true)
    (st : St) (hst : WFSt st) (hρ : EnvOK st.store.size ρ) (hρm : ρ.lookup k_memv = none)
    (hg : st.globals.lookup k_memv = some (.prim .memv)) :
    AgreesConv atoms.length (caseUse k (L [L atoms, s k_arrow, f] :: cs)) (caseArrowExp k atoms f cs) ρ st := by
  refine case_datum_agrees_conv ρ k atoms cs _ (L [f, k]) (fun r key => do let fv ← r.eval f ρ; r.apply fv [key])
    (fun r key => evalCase_arrow r ρ key atoms f cs) ?_ ?_ ?_ _ ?_ hat hkey st hst hρ hρm hg
  · intro g hg' r r' hr' he key key' hk
    refine SimD.bind (hr'.eval f ρ ρ [] he (cleanB_nil f)) (fun fv fv' hfv => ?_)
    exact hr'.apply _ _ _ _ hfv (.cons hk .nil)
  · intro r r' hr' key
    exact Le.bind (hr'.eval f ρ) (fun fv => hr'.apply fv [key])
  · intro p key' s2 hk2
    rw [sguardN_succ_eval, native_app _ _ f [k] hf, evalArgs_one]
    show M.bind' (M.bind' ((sguardN atoms.length (p+1)).eval k ρ) _) _ s2 = _
    unfold M.bind'
    rw [hk2]
    rfl
  · intro r
    cases cs with
    | nil => exact native_if2 r ρ _ _
    | cons c cs' => exact native_if3 r ρ _ _ _

/-- the initial state has no cell: there the slack-guarded runs of these expansions time out (header) -/
def twoCells : St := { initSt with store := #[.var (.int 0), .var (.int 0)] }

/-- the slack-guarded runs of `(if (memv 3 '(1 2)) (begin 'a) (case 3 ((3 x) 'b)))` (slack 2) and of
    `(if (memv 3 '(3)) (list 3) (case 3 (else 0)))` (slack 1) from `twoCells` are definite; from the initial
    state the first is a time-out -/
example :
    (sguardN 2 5).eval (caseBodyExp (.num (.fix 3)) [.num (.fix 1), .num (.fix 2)] (L [s k_quote, s ['a']]) []
        [L [L [.num (.fix 3), s ['x']], L [s k_quote, s ['b']]]]) [] twoCells ≠ .timeout ∧
    (sguardN 1 5).eval (caseArrowExp (.num (.fix 3)) [.num (.fix 3)] (s ['l','i','s','t'])
        [L [s k_else_, .num (.fix 0)]]) [] twoCells ≠ .timeout ∧
    (sguardN 2 5).eval (caseBodyExp (.num (.fix 3)) [.num (.fix 1), .num (.fix 2)] (L [s k_quote, s ['a']]) []
        [L [L [.num (.fix 3), s ['x']], L [s k_quote, s ['b']]]]) [] initSt = .timeout ∧
    ([] : Env).lookup k_memv = none ∧ twoCells.globals.lookup k_memv = some (.prim .memv) :=
  ⟨definiteB_ne (by decide +kernel), definiteB_ne (by decide +kernel), by
    have h : definiteB ((sguardN 2 5).eval (caseBodyExp (.num (.fix 3)) [.num (.fix 1), .num (.fix 2)]
        (L [s k_quote, s ['a']]) [] [L [L [.num (.fix 3), s ['x']], L [s k_quote, s ['b']]]]) [] initSt) = false := by
      decide +kernel
    revert h
    cases (sguardN 2 5).eval (caseBodyExp (.num (.fix 3)) [.num (.fix 1), .num (.fix 2)]
        (L [s k_quote, s ['a']]) [] [L [L [.num (.fix 3), s ['x']], L [s k_quote, s ['b']]]]) [] initSt <;> simp [definiteB],
   rfl, by decide +kernel⟩

end Marwood.Spec.Eval.Derived
