import Marwood.Spec.HeapPolicy
/-!
# T12.3 — the growth policy keeps the capacity below `HeapPolicy.bound`

`Inv` is the induction invariant; `a` counts the allocations since the last collection point. The bound depends on `chunk`, the initial capacity, `A` and `L`.
-/
namespace Marwood.Lemmas.PolicyBound
open Marwood.Heap Marwood.Spec Marwood.Spec.HeapPolicy

theorem grownSize_mono (chunk a b : Nat) (h : a ≤ b) :
    Heap.grownSize chunk a ≤ Heap.grownSize chunk b :=
  Nat.mul_le_mul_right _ (Nat.div_le_div_right
    (Nat.add_le_add_right (Nat.mul_le_mul_left 3 (Nat.div_le_div_right h)) 1))

theorem le_grownSize (chunk k : Nat) : k * chunk ≤ Heap.grownSize chunk (k * chunk) := by
  unfold Heap.grownSize
  rcases Nat.eq_zero_or_pos chunk with rfl | hc
  · exact Nat.le_refl 0
  · rw [Nat.mul_div_cancel _ hc]
    exact Nat.mul_le_mul_right _ (by omega)

theorem two_grownSize_le (chunk n : Nat) : 2 * Heap.grownSize chunk n ≤ 3 * n + chunk := by
  unfold Heap.grownSize
  generalize hq : n / chunk = q
  have hq' : q * chunk ≤ n := hq ▸ Nat.div_mul_le_self n chunk
  calc 2 * ((3 * q + 1) / 2 * chunk)
      = 2 * ((3 * q + 1) / 2) * chunk := (Nat.mul_assoc ..).symm
    _ ≤ (3 * q + 1) * chunk := Nat.mul_le_mul_right _ (Nat.mul_div_le _ 2)
    _ = 3 * (q * chunk) + chunk := by rw [Nat.add_mul, Nat.mul_assoc, Nat.one_mul]
    _ ≤ 3 * n + chunk := Nat.add_le_add_right (Nat.mul_le_mul_left 3 hq') _

theorem threshold_ge (A L : Nat) :
    L + A ≤ threshold A L ∧ 4 * A ≤ threshold A L ∧ (4 * L) / 3 ≤ threshold A L :=
  ⟨Nat.le_max_left .., Nat.le_trans (Nat.le_max_left ..) (Nat.le_max_right ..),
    Nat.le_trans (Nat.le_max_right ..) (Nat.le_max_right ..)⟩

structure Inv (chunk cap0 A L a : Nat) (s : PState) : Prop where
  hchunk : s.chunk = chunk
  chunks : ∃ k, s.capacity = k * chunk
  cap : s.capacity ≤ bound chunk cap0 A L
  /-- a collection left at most `L` cells, or a skipped one saw less than ¾ in use -/
  used : s.used ≤ L + a ∨ 4 * s.used < 3 * s.capacity + 4 * a

/-- the policy grows only from a capacity at most the threshold; the new `used` clause is the caller's -/
theorem Inv.grow {chunk cap0 A L a a' : Nat} {s : PState} (h : Inv chunk cap0 A L a s) (u : Nat)
    (hthr : s.capacity ≤ threshold A L)
    (hu : s.capacity ≤ Heap.grownSize chunk s.capacity →
      u ≤ L + a' ∨ 4 * u < 3 * Heap.grownSize chunk s.capacity + 4 * a') :
    Inv chunk cap0 A L a' { s with capacity := Heap.grownSize s.chunk s.capacity, used := u } := by
  obtain ⟨h1, ⟨k, hk⟩, _, _⟩ := h
  subst h1
  exact ⟨rfl, ⟨_, rfl⟩, Nat.le_trans (grownSize_mono _ _ _ hthr) (Nat.le_max_right ..),
    hu (by rw [hk]; exact le_grownSize _ k)⟩

theorem inv_alloc (chunk cap0 A L a : Nat) (s : PState) (h : Inv chunk cap0 A L a s) (ha : a < A) :
    Inv chunk cap0 A L (a + 1) (alloc s) := by
  have h4 := h.used
  unfold alloc
  split
  · exact ⟨h.hchunk, h.chunks, h.cap, by simp only; omega⟩
  · -- full: `capacity ≤ used`, and `used` is below `L + A` or below `¾·capacity + A`
    obtain ⟨t1, t2, _⟩ := threshold_ge A L
    exact h.grow _ (by omega) (by omega)

theorem inv_gcPoint (chunk cap0 A L a : Nat) (s : PState) (force : Bool) (live : Nat)
    (h : Inv chunk cap0 A L a s) (hl : live ≤ L) : Inv chunk cap0 A L 0 (gcPoint force live s) := by
  unfold gcPoint
  split
  · split
    · rename_i hab
      have hab' : 3 * s.capacity < 4 * live := of_decide_eq_true hab
      have ht := (threshold_ge A L).2.2
      exact h.grow _ (by omega) fun _ => .inl hl
    · exact ⟨h.hchunk, h.chunks, h.cap, .inl hl⟩
  · rename_i hc
    have hlt : ¬ 3 * s.capacity ≤ 4 * s.used := fun hh =>
      hc (by rw [collects, Heap.utilAtLeast34, decide_eq_true hh, Bool.or_true])
    exact ⟨h.hchunk, h.chunks, h.cap, .inr (Nat.lt_of_not_le hlt)⟩

/-- T12.3 -/
theorem inv_run (chunk cap0 A L : Nat) : ∀ (ops : List HeapPolicy.Op) (s : PState) (a : Nat),
    Inv chunk cap0 A L a s → Paced A L a ops → ∃ a', Inv chunk cap0 A L a' (run s ops) := by
  intro ops
  induction ops with
  | nil => intro s a h _; exact ⟨a, h⟩
  | cons op ops ih =>
    intro s a h hp
    cases op with
    | alloc => exact ih _ _ (inv_alloc chunk cap0 A L a s h hp.1) hp.2
    | gcPoint force live => exact ih _ _ (inv_gcPoint chunk cap0 A L a s force live h hp.1) hp.2

theorem inv_init (chunk k used0 A L : Nat)
    (hu : used0 ≤ L ∨ 4 * used0 < 3 * (k * chunk)) :
    Inv chunk (k * chunk) A L 0 ⟨chunk, k * chunk, used0⟩ :=
  ⟨rfl, ⟨k, rfl⟩, Nat.le_max_left .., hu⟩

/-- closed form: `grownSize chunk (4·(L + A)) ≤ 6·(L + A) + chunk` -/
theorem bound_le (chunk cap0 A L : Nat) :
    bound chunk cap0 A L ≤ max cap0 (6 * (L + A) + chunk) := by
  have hthr : threshold A L ≤ 4 * (L + A) := by unfold threshold; omega
  have h1 := grownSize_mono chunk _ _ hthr
  have h2 := two_grownSize_le chunk (4 * (L + A))
  exact Nat.max_le.2 ⟨Nat.le_max_left .., Nat.le_trans (by omega) (Nat.le_max_right ..)⟩

end Marwood.Lemmas.PolicyBound
