import Marwood.Vm.ConcreteHeap
/-!
# Kinds of inline values

Classes of `VCell` shared by the simulation (Lemmas/Sim*.lean), the state invariant (Lemmas/Good*.lean) and `IsValue`
(Lemmas/StackWF.lean).
-/
namespace Marwood.Lemmas.Sim
open Marwood Marwood.Vm Marwood.Vm.Concrete

def addrFree : VCell → Bool
  | .pair _ _ | .closure _ _ | .lexEnvPtr _ _ | .envPtr _ | .instrPtr _ _ | .ptr _ => false
  | _ => true

/-- `false` on the two kinds that mention an address and that `Heap::mark` still skips as the content of a cell -/
def plainVal : VCell → Bool
  | .lexEnvPtr _ _ | .instrPtr _ _ => false
  | _ => true

def plainGlob (v : VCell) : Bool := isPtr v || addrFree v

end Marwood.Lemmas.Sim
