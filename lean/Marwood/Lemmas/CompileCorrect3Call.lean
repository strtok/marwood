import Marwood.Lemmas.CompileCorrect3EnterAll
import Marwood.Lemmas.CompileCorrect3Arity
import Marwood.Lemmas.CompileCorrect3RecBlock
/-!
# T01.3 stage 3 — bodies with internal definitions, and the call of a closure: `[VARARG;] ENTER`, the body, `RET`

Both for whatever the specification answers (`CompileSim.BodyOut`, `CompileSim.CallRes`). A leading `(define x e)`
runs `e` and stores into the slot of `x`, which makes `x` readable; a block runs as a unit (`block3`).
-/
namespace Marwood.Lemmas.CompileCorrect3
open Marwood Marwood.Vm Marwood.Lemmas.CompileCorrect Marwood.Lemmas.CompileCorrect2 Marwood.Lemmas.CompileSim
open Marwood.Spec.Eval (Val Prim Cell Env ErrClass Res evalN evalStep applyStep evalArgs properList quoteVal kwOf insertG
  k_quote k_if_ k_setBang k_define k_lambda)

variable {H : Type} {ops : HeapOps H} {D : RepData2 ops}

/-- `d`: the flag of `evalBodyForms` that says whether a definition may still come. In a body of the fragment no
    definition follows an expression, so it matters only while definitions are left: `ints ≠ [] → d = true`. -/
theorem body_res3N (L : Laws3 D) {n : Nat} (ih : ExprRes (rel3 D) n) :
    ∀ (N : Nat) (body : List Datum), body.length ≤ N →
    ∀ f cst c base bodyD cst' code (ρ : Env) (us : Text → Prop) (ints : List Text) (d : Bool),
    F3B D.setG f c (bound ρ) us ints bodyD → CtxOK c →
    compileBody f cst c base bodyD = .ok (cst', code) → cst'.lambdas <+: D.final →
    properList bodyD = some body → (ints ≠ [] → d = true) →
    ∀ (σ : SSt) (W : World) (s : MSt H) (fr : Frame), CodeAt2 D c.envmap s.heap σ.store s.ipL base code → s.ipO = base →
      Inv3 D W s.heap σ → EnvRep3 ops W s.heap c s.ep ρ us → SWF s.stack → FrameAt s.stack s.bp fr →
    BodyOut (rel3 D) W s code.length σ fr (Spec.Eval.evalBodyForms (evalN n) ρ d body σ) := by
  have LL : ExtLaws (rel3 D) := extLaws3
  -- induction on a bound `N` for the length of the body: the `block` case goes on behind the whole block, which is
  -- not the tail of the body
  intro N
  induction N with
  | zero =>
    intro body hN f cst c base bodyD cst' code ρ us ints d hfb hcx hcomp hpre hpl
    have : body = [] := List.length_eq_zero_iff.mp (by omega)
    exact absurd this (F3B_nonempty hfb hpl)
  | succ N ihN =>
    intro body hN f cst c base bodyD cst' code ρ us ints d hfb hcx hcomp hpre hpl hd σ W s fr hc hip hi her hw hfr
    cases body with
    | nil => exact absurd rfl (F3B_nonempty hfb hpl)
    | cons e0 es =>
    have hes : es.length ≤ N := by simpa using hN
    have ihes := ihN es hes
    cases hfb with
    | last x hd0 hfx =>
      exact body_last ih hfx hd0 hcx hcomp hpre hpl hc hip hi her hw hfr
    | cons x y rest hd0 hfx hfr' =>
      obtain ⟨es', hpl', hes⟩ := properList_pair_inv hpl
      cases hes
      obtain ⟨es'', hpl'', rfl⟩ := properList_pair_inv hpl'
      rw [Spec.Eval.evalBodyForms_cons hd0]
      obtain ⟨cst1, code1, code2, c1, c2, rfl⟩ := compileBody_pair_inv hcomp
      subst hip
      rw [List.length_append]
      exact .seq LL (ih _ _ _ _ _ _ _ _ _ _ hfx hcx c1 (((growsOK _).body c2).trans hpre) σ W s fr hc.left rfl hi her hw
        nofun) hfr fun v σ1 W1 s1 hw1 r1 => ihes _ _ _ _ _ _ _ ρ us [] false hfr' hcx c2 hpre hpl' (fun h => absurd rfl h) σ1 W1 s1
          fr (r1.codeAfter LL hc.right) r1.ipO r1.inv (r1.envRep LL hw1 her) r1.swf (r1.frameAt (fun _ => hfr) rfl)
    | @defv f0 _ _ _ x e y rest ints' hin hns hres hfe hfr' =>
      obtain ⟨es', hpl', hes⟩ := properList_pair_inv hpl
      cases hes
      obtain ⟨es'', hpl'', rfl⟩ := properList_pair_inv hpl'
      have hdt : d = true := hd (by intro h; cases h)
      subst hdt
      obtain ⟨l, hl⟩ : ∃ l, ρ.lookup x = some l := Option.isSome_iff_exists.mp hns
      obtain ⟨cst1, code1, code2, c1, c2, rfl⟩ := compileBody_pair_inv hcomp
      obtain ⟨codeE, cE, rfl⟩ := compile_define_inv c1
      subst hip
      have hpre1 : cst1.lambdas <+: D.final := ((growsOK _).body c2).trans hpre
      rw [evalBodyForms_def hres,
        show (codeE ++ [BC.op .mov, BC.acc, emitLoc c x, BC.op .movImm, BC.void, BC.acc] ++ code2).length
          = codeE.length + (6 + code2.length) by simp only [List.length_append, List.length_cons, List.length_nil]; omega]
      refine .seq LL (ih _ _ _ _ _ _ _ _ _ _ hfe hcx cE hpre1 σ W s fr hc.left.left rfl hi her hw nofun) hfr
        fun v σ1 W1 s1 hw1 r1 => ?_
      have her1 := r1.envRep LL hw1 her
      have hlt : l < σ1.store.size := Inv3.lt_size r1.inv her1 hin hl
      rw [bind_ok (assignVar_lex v hl hlt)]
      have hcS := (r1.codeAfter LL hc.left.right).cast r1.ipO.symm
      obtain ⟨s2, r2, hinit⟩ := run3_store_lex L hin hl hlt hcS r1.acc r1.inv her1 r1.swf
      have r2 := run3_iff.mpr r2
      -- `x` is readable from here on
      have her2 : EnvRep3 ops W1 s2.heap c s2.ep ρ (fun z => us z ∧ z ≠ x) := by
        have hb : EnvRep3 ops W1 s2.heap c s2.ep ρ us := r2.envRep LL (World.le_refl _) her1
        intro z j hj
        obtain ⟨e', n', l', hd', hl', hW', hin'⟩ := hb z j hj
        refine ⟨e', n', l', hd', hl', hW', fun hnu => ?_⟩
        by_cases hz : z = x
        · subst hz
          obtain ⟨e1, n1, _, hd1, _, _, _⟩ := her1 z j hj
          have hd2 : Denotes ops s2.heap s2.ep j e1 n1 := by rw [r2.ep]; exact hd1.ext r2.ext.toExt2
          obtain ⟨rfl, rfl⟩ := Denotes.func hd' hd2
          exact hinit j _ _ hj hd1
        · exact hin' (fun hu => hnu ⟨hu, hz⟩)
      have hfr1 : FrameAt s1.stack s1.bp fr := r1.frameAt (fun _ => hfr) rfl
      exact .after LL r2 (World.le_refl _) (ihes _ _ _ _ _ _ _ ρ _ ints' true hfr' hcx c2 hpre hpl' (fun _ => rfl) _ W1 s2
        fr (r2.codeAfter LL (r1.codeAfter LL hc.right)) (by rw [r2.ipO, r1.ipO]; simp [Nat.add_assoc]) r2.inv her2 r2.swf
        (r2.frameAt (fun _ => hfr1) rfl))
    | block Bs ints0 bodyD0 hne hK =>
      have hdt : d = true := hd (F3K_ints_ne hne hK)
      subst hdt
      subst hip
      cases hr : Spec.Eval.evalBodyForms (evalN n) ρ true (e0 :: es) σ with
      | timeout => trivial
      | _ =>
        rw [← hr]
        obtain ⟨s1, σ1, f1, cst1, restD, rest, code1, code2, ints1, r1, her1, rfl, c2, hfb2, hpl2, hlen, hev2⟩ :=
          block3 L hne hK hcx hcomp hpre hpl (by rw [hr]; nofun) rfl hc rfl hi her hw
        have r1 := run3_iff.mpr r1
        rw [List.length_append, ← hev2]
        exact .after LL r1 (World.le_refl _) (ihN rest (by simp only [List.length_cons] at hN hlen; omega) _ _ _ _ _ _ _ ρ
          _ ints1 true hfb2 hcx c2 hpre hpl2 (fun _ => rfl) σ1 W s1 fr (r1.codeAfter LL hc.right) r1.ipO r1.inv her1
          r1.swf (r1.frameAt (fun _ => hfr) rfl))

theorem body_res3 (L : Laws3 D) {n : Nat} (ih : ExprRes (rel3 D) n) {body : List Datum} {f : Nat} {cst cst' : CState}
    {c : Ctx} {base : Nat} {bodyD : Datum} {code : List BC} {ρ : Env} {us : Text → Prop} {ints : List Text} {d : Bool}
    (hfb : F3B D.setG f c (bound ρ) us ints bodyD) (hcx : CtxOK c)
    (hcomp : compileBody f cst c base bodyD = .ok (cst', code)) (hpre : cst'.lambdas <+: D.final)
    (hpl : properList bodyD = some body) (hd : ints ≠ [] → d = true) {σ : SSt} {W : World} {s : MSt H} {fr : Frame}
    (hc : CodeAt2 D c.envmap s.heap σ.store s.ipL base code) (hip : s.ipO = base) (hi : Inv3 D W s.heap σ)
    (her : EnvRep3 ops W s.heap c s.ep ρ us) (hw : SWF s.stack) (hfr : FrameAt s.stack s.bp fr) :
    BodyOut (rel3 D) W s code.length σ fr (Spec.Eval.evalBodyForms (evalN n) ρ d body σ) :=
  body_res3N L ih body.length body (Nat.le_refl _) f cst c base bodyD cst' code ρ us ints d hfb hcx hcomp hpre hpl hd σ W s
    fr hc hip hi her hw hfr

theorem closure_call_fixed_arity {ps : List Text} {body : List Datum} {ρc : Env}
    {ws : List Val} {σ : SSt} {W : World} {s : MSt H} {lam cenv : Nat} {vs : List VCell} {st0 : Stack}
    {epc lc oc : Nat} (hcal : ops.callee s.heap s.acc = .closure lam cenv)
    (hclos : ClosOK3 D W s.heap lam cenv ps none body ρc) (hi : Inv3 D W s.heap σ)
    (hvs : All2 (VR3 D W s.heap σ.store) vs ws) (hipL : s.ipL = lam) (hipO : s.ipO = 0)
    (hst : LiveEq (callFrame st0 vs epc lc oc) s.stack) (hw0 : SWF st0) (hne : ws.length ≠ ps.length) :
    step ops s = .err .invalidNumArgs := by
  obtain ⟨hl, hf0, hinfo, hsp, hargc⟩ := callee_front hclos hi hipL hipO hst hw0
  have hvl : vs.length ≠ ps.length := by rw [All2.length_eq hvs]; exact hne
  exact step_enter_arity hl hf0 hcal (by simpa [hipL] using hinfo) hsp hargc hvl

/-- a wrong number of arguments fails in `ENTER` (with a rest parameter: in `VARARG`); otherwise `[VARARG;] ENTER`, the
    body, and `RET` unless the body ended in a tail call -/
theorem callRes3_succ (L : Laws3 D) {n : Nat} (ih : ExprRes (rel3 D) n) : CallRes (crel3 D) (n + 1) := by
  have LL : ExtLaws (rel3 D) := extLaws3
  intro ps rest body ρc ws σ W s lam cenv vs st0 epc lc oc hcal hclos hi hvs hipL hipO hst hw0 hw
  change CallOut _ W s st0 epc lc oc σ (applyStep (evalN n) (.closure ps rest body ρc) ws σ)
  rw [applyStep_closure]
  cases hbind : Spec.Eval.bindArgs ps rest ws ρc σ with
  | timeout => rw [bind_timeout hbind]; trivial
  | err cl σ' =>
    rw [bind_err hbind]
    intro _ _
    obtain ⟨rfl, hne, hfew, hg, hsz, hpre⟩ := bindArgs3_err_inv _ _ _ _ _ _ _ hbind
    have hs : step ops s = .err .invalidNumArgs := by
      cases rest with
      | none => exact closure_call_fixed_arity hcal hclos hi hvs hipL hipO hst hw0 (hne rfl)
      | some r => exact (closure_call_rest_arity (n := 0) hclos hi hvs hipL hipO hst hw0 (hfew rfl)).2
    have hse : StoreExt σ.store σ'.store := StoreExt.ofPrefix hsz hpre
    have hx : Ext3 D s.heap σ.store s.heap σ'.store := Ext3.storeOnly L _ hse
    have hinv : Inv3 D W s.heap σ' :=
      hi.frame hx (L.srx_store _ _ _ hse hi.extra) hg (fun _ => rfl) (fun e n l hW => ⟨rfl, by
        obtain ⟨_, u, _, _, h3, _⟩ := hi.vars e n l hW
        exact hpre l (lt_size_of_get h3)⟩)
    exact ⟨W, s, _, World.le_refl _, ⟨.refl _, hs, rfl, callFrame_stackExt hw0 hst, hw, hinv, hx⟩⟩
  | ok ρ' σ1 =>
    rw [bind_ok hbind]
    unfold Spec.Eval.evalBody
    cases halloc : Spec.Eval.allocVars ((Spec.Eval.leadingDefs body).map fun x => (x, Val.undef)) ρ' σ1 with
    | timeout => rw [bind_timeout halloc]; trivial
    | err cl σ' => exact absurd halloc (allocVars_ne_err _ _ _ _ _)
    | ok ρ2 σ2 =>
    rw [bind_ok halloc]
    obtain ⟨f, cst, cst1, p, bcode, ints, h', a, W', stE, nf, hsE, hwW, hi1, her1, hcx, a12, a7, a9, a5, hcodeE, hwE,
      hfrE, hx1⟩ := enter_closure3 L hbind halloc hcal hclos hi hvs hipL hipO hst hw0 hw
    let sE : MSt H := { s with heap := h', ep := a, stack := stE, bp := st0.sp + nf, ipO := p.prologue.length }
    have hcodeB : CodeAt2 D p.ctx.envmap sE.heap σ2.store sE.ipL p.prologue.length bcode := by
      have := hcodeE.left.right.cast (show 0 + p.prologue.length = p.prologue.length by omega)
      show CodeAt2 D p.ctx.envmap h' σ2.store s.ipL _ bcode
      rw [hipL]; exact this
    have hret : CodeAt2 D p.ctx.envmap sE.heap σ2.store sE.ipL (sE.ipO + bcode.length) [.op .ret] := by
      show CodeAt2 D p.ctx.envmap h' σ2.store s.ipL (p.prologue.length + bcode.length) _
      rw [hipL]
      exact hcodeE.right.cast (by simp)
    exact CallOut.of_body LL (fr := ⟨nf, epc, lc, oc, s.bp, st0⟩) hsE hwW hx1 hfrE rfl hret
      (body_res3 L ih (d := true) a12 hcx a7 a9 a5 (fun _ => rfl) hcodeB rfl hi1 her1 hwE hfrE)

end Marwood.Lemmas.CompileCorrect3
