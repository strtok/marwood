import Marwood.Lemmas.VerifyProc
import Marwood.Lemmas.CompileBlk
/-!
# T04.6 — the compiler model emits only code the bytecode verifier accepts

Every code object the compiler model produces is `[VARARG] ENTER <structured body> RET` (`ProcShape`,
`Lemmas/CompileBlk.lean`); the verifier's forward pass runs through such code in every loading (`Enc`;
`Lemmas/VerifyBlk.lean`, `VerifyProc.lean`); whatever the forward pass returns passes the local check
(`Lemmas/VerifyInfer.lean`). Together: `verify` accepts.
-/
namespace Marwood.Vm
open Marwood Marwood.Vm.Verify

theorem verifyLam_some {bc : List VCell} {t : LamTy} : verifyLam bc = some t ↔ ∃ k, verify bc = .ok (t, k) := by
  unfold verifyLam
  split <;> simp_all

theorem proc_verify {l : LambdaM} (hs : ProcShape l) :
    ∃ tm h, ∀ cells, EncList l.bc cells → verify cells = .ok (⟨false, cells, tm⟩, h) := by
  obtain ⟨tm, h, hi⟩ := proc_infer hs
  refine ⟨tm, h, ?_⟩
  intro cells he
  obtain ⟨hent, hi⟩ := hi cells he
  have := verify_of_infer (bc := cells) (tm := tm) (h := h) (by rw [hent]; exact hi)
  rw [hent] at this
  exact this

theorem proc_verifyLam {l : LambdaM} {cells : List VCell} (hs : ProcShape l) (he : EncList l.bc cells) :
    ∃ t, verifyLam cells = some t ∧ t.entry = false ∧ t.bc = cells := by
  obtain ⟨tm, h, hv⟩ := proc_verify hs
  exact ⟨⟨false, cells, tm⟩, verifyLam_some.2 ⟨h, hv cells he⟩, rfl, rfl⟩

theorem entry_verifyLam {id : Nat} {cells : List VCell} (he : EncList (entryCode id) cells) :
    ∃ t, verifyLam cells = some t ∧ t.entry = true := by
  obtain ⟨t, h, hv, ht⟩ := entry_verify he
  exact ⟨t, verifyLam_some.2 ⟨h, hv⟩, ht⟩

theorem compileTop_verifies_loaded {e : Datum} {fuel : Nat} {st : CState} {lam : LambdaM}
    (h : compileTop e fuel = .ok (st, lam)) :
    ∀ l, (l = lam ∨ l ∈ st.lambdas) → ∀ cells, EncList l.bc cells →
      ∃ t, verifyLam cells = some t ∧ t.entry = false ∧ t.bc = cells := by
  obtain ⟨h1, h2⟩ := compileTop_shape h
  intro l hl cells he
  rcases hl with rfl | hl
  · exact proc_verifyLam h1 he
  · exact proc_verifyLam (h2 l hl) he

/-- `tm` and `k` are chosen before the loading (`Enc`: whatever global slots, environment slots, data cells and lambda
    addresses the loader puts): the verdict on a real heap is the verdict on the canonical loading `encodeLam l` -/
theorem compileTop_verdict_irrelevant {e : Datum} {fuel : Nat} {st : CState} {lam : LambdaM}
    (h : compileTop e fuel = .ok (st, lam)) :
    ∀ l, (l = lam ∨ l ∈ st.lambdas) → ∃ tm k, ∀ cells, EncList l.bc cells →
      verify cells = .ok (⟨false, cells, tm⟩, k) := by
  obtain ⟨h1, h2⟩ := compileTop_shape h
  intro l hl
  rcases hl with rfl | hl
  · exact proc_verify h1
  · exact proc_verify (h2 l hl)

theorem compileTop_verifies {e : Datum} {fuel : Nat} {st : CState} {lam : LambdaM}
    (h : compileTop e fuel = .ok (st, lam)) :
    (verifyLam (encodeLam lam)).isSome = true ∧ ∀ l ∈ st.lambdas, (verifyLam (encodeLam l)).isSome = true := by
  constructor
  · obtain ⟨t, ht, _⟩ := compileTop_verifies_loaded h lam (.inl rfl) _ (encList_encode _)
    simp [encodeLam, ht]
  · intro l hl
    obtain ⟨t, ht, _⟩ := compileTop_verifies_loaded h l (.inr hl) _ (encList_encode _)
    simp [encodeLam, ht]

theorem compileRunnable_ok {e : Datum} {fuel : Nat} {st : CState} {lam ent : LambdaM}
    (hc : compileRunnable e fuel = .ok (st, lam, ent)) :
    compileTop e fuel = .ok (st, lam) ∧ ent = entryLam st.lambdas.length := by
  unfold compileRunnable at hc
  cases ht : compileTop e fuel with
  | error err => rw [ht] at hc; cases hc
  | ok r => rw [ht] at hc; cases hc; exact ⟨rfl, rfl⟩

theorem compileRunnable_verifies {e : Datum} {fuel : Nat} {st : CState} {lam ent : LambdaM}
    (h : compileRunnable e fuel = .ok (st, lam, ent)) :
    (∀ l, (l = lam ∨ l ∈ st.lambdas) → ∃ t, verifyLam (encodeLam l) = some t ∧ t.entry = false) ∧
    ∃ t, verifyLam (encodeLam ent) = some t ∧ t.entry = true := by
  obtain ⟨hc, rfl⟩ := compileRunnable_ok h
  constructor
  · intro l hl
    obtain ⟨t, ht, hent, _⟩ := compileTop_verifies_loaded hc l hl _ (encList_encode _)
    exact ⟨t, ht, hent⟩
  · exact entry_verifyLam (encList_encode _)

/-- the driver command `vcompile` (`Vm.verifyCompiled`) never answers `reject` -/
theorem verifyCompiled_ok {e : Datum} {fuel : Nat} {r : Except Reject Nat}
    (h : verifyCompiled e fuel = .ok r) : ∃ n, r = .ok n := by
  unfold verifyCompiled at h
  cases hc : compileRunnable e fuel with
  | error err => rw [hc] at h; cases h
  | ok x =>
    obtain ⟨st, lam, ent⟩ := x
    rw [hc] at h
    obtain ⟨h1, t, ht, hte⟩ := compileRunnable_verifies hc
    have hnone : (lam :: st.lambdas).findSome? procReject = none := by
      rw [List.findSome?_eq_none_iff]
      intro l hl
      obtain ⟨t', ht', he'⟩ := h1 l (by simpa using hl)
      obtain ⟨k, hv⟩ := verifyLam_some.1 ht'
      simp [procReject, hv, he']
    obtain ⟨k, hv⟩ := verifyLam_some.1 ht
    simp only [hnone, hv, hte, if_true] at h
    cases h
    exact ⟨_, rfl⟩

end Marwood.Vm
