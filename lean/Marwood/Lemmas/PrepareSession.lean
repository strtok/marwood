import Marwood.Lemmas.PrepareHistory
/-!
# A history with explicit `prepare_eval` steps is ONE session of the policy specification (C12)

`Sess` (`Lemmas/PolicySessionMain.lean`) decomposes an execution into blocks of at most 8192 instructions, each closed by a
collection; a block may contain allocations outside the run loop (`Seg.other`). The loader steps of `prepare_eval` (at most
one allocation per step) are prepended to the first block of the evaluation that follows (`Sess.prepend`); a rejected form
is a block of its own, closed by the collection of the `Err` arm.
-/
namespace Marwood.Lemmas.Good
open Marwood Marwood.Vm Marwood.Vm.Verify Marwood.Vm.Concrete Marwood.Lemmas.Sim
open Marwood.Lemmas.MachineGarbage Marwood.Lemmas.PolicySessionOk Marwood.Lemmas.PolicySessionMain
open Marwood.Lemmas.PolicySessionGc Marwood.Lemmas.PolicyAlloc
open Marwood.Heap (GcState)

variable {ext : ExtOps} {ecl : ExtCodeLawsV ext}

/-- an open segment in front of a session with at least one block is absorbed by the first block: same states at
    the collection points, `n0` more instructions (and `k` more allocations) in the first block -/
theorem Sess.prepend {force : Bool} {b c : St CHeap} {cps : List CP} (hs : Sess ext force b cps c) :
    ∀ {a : St CHeap} {n0 k : Nat}, Seg ext n0 k a b → cps ≠ [] →
    ∃ cps', Sess ext force a cps' c ∧ ∀ cp' ∈ cps', ∃ cp ∈ cps, cp'.1 ≤ n0 + cp.1 ∧ cp'.2.2 = cp.2.2 := by
  induction hs with
  | nil s => intro a n0 k _ hne; exact absurd rfl hne
  | @block n E s s1 s' cps sg' rest _ =>
    intro a n0 k sg _
    refine ⟨(n0 + n, k + E, s1) :: cps, .block (.trans sg sg') rest, ?_⟩
    intro cp' hm
    rcases List.mem_cons.mp hm with e | e
    · subst e
      exact ⟨(n, E, s1), List.mem_cons_self .., Nat.le_refl _, rfl⟩
    · exact ⟨cp', List.mem_cons_of_mem _ e, Nat.le_add_left _ _, rfl⟩
  | @edit s s1 s' cps e _ ih =>
    intro a n0 k sg hne
    obtain ⟨cps', h1, h2⟩ := ih (Seg.trans sg (Seg.edit e)) hne
    refine ⟨cps', h1, ?_⟩
    intro cp' hm
    obtain ⟨cp, hc, h3, h4⟩ := h2 cp' hm
    exact ⟨cp, hc, by omega, h4⟩

/-- `runEval_is_paced` at `nextState`: skipped, or at least one block (a returning evaluation ends with a collection) -/
theorem runEval_paced_ne (ext : ExtOps) (force : Bool) (fuel : Nat) (s0 s : St CHeap) :
    nextState s0 (runEval (concreteOps ext) (cgc force) none fuel s) = s0 ∨
    ∃ cps, cps ≠ [] ∧ Sess ext force s cps (nextState s0 (runEval (concreteOps ext) (cgc force) none fuel s)) ∧
      (∀ cp ∈ cps, cp.1 ≤ 8192) ∧ ∀ cp ∈ cps, CpFrom ext force s cp.2.2 := by
  obtain ⟨cps, s1, hs, hc, hf, hr1, ht⟩ := runLoop_is_paced ext force none fuel 0 s
  cases he : runEval (concreteOps ext) (cgc force) none fuel s with
  | value s' =>
    obtain ⟨_, sd, hl, _, _, rfl⟩ := runEval_value_ends he
    rw [hl] at ht
    obtain ⟨n, E, sg, hn, hr2⟩ := ht
    exact .inr (close_tail hs hc hf hr1 sg hn hr2 rfl (.inl rfl))
  | failed f s' =>
    obtain ⟨sf, hl, _, rfl⟩ := runEval_failed_ends he
    rw [hl] at ht
    obtain ⟨n, E, sg, hn, hr2⟩ := ht
    exact .inr (close_tail hs hc hf hr1 sg hn hr2 rfl (.inr rfl))
  | paused s' => exact absurd he (runEval_none_not_paused _ _ fuel _ s')
  | fuel => exact .inl rfl

theorem codePlain_of_runEval (force : Bool) (ecp : ExtCodePlain ext) (count : Option Nat) (fuel : Nat) {p : St CHeap}
    (cp : CodePlain p.heap) :
    (∀ s', runEval (concreteOps ext) (cgc force) count fuel p = .value s' → CodePlain s'.heap) ∧
    (∀ f s', runEval (concreteOps ext) (cgc force) count fuel p = .failed f s' → CodePlain s'.heap) := by
  refine ⟨fun s' he => ?_, fun f s' he => ?_⟩
  · obtain ⟨sh, sd, _, h1, h2, rfl⟩ := runEval_value_ends he
    exact codePlain_gc force (s := onDone sd) (codePlain_reaches force ecp cp sd (.halt h1 h2))
  · obtain ⟨sf, _, h1, rfl⟩ := runEval_failed_ends he
    exact codePlain_gc force (s := onError sf) (codePlain_reaches force ecp cp sf h1)

/-- **a history with explicit `prepare_eval` steps is a session all of whose collection points satisfy `GcOk`**, every
    block has at most 8192 instructions; the final state is idle and keeps the decoding discipline -/
theorem histInstalls_session (ecl : ExtCodeLawsV ext) (force : Bool) (el : ExtLaws ext) (eg : ExtGood ext) (ep : ExtProc ext)
    (ecp : ExtCodePlain ext) {s0 sf : St CHeap} {recs : List EvRec} (hist : HistInstalls ext force s0 recs sf)
    (i0 : IdleOk s0) (cp0 : CodePlain s0.heap) (sz : ∀ rc ∈ recs, RecSized ext force rc) :
    ∃ cps, Sess ext force s0 cps sf ∧ (∀ cp ∈ cps, cp.1 ≤ 8192) ∧ ∀ cp ∈ cps, GcOk force cp.2.2 := by
  induction hist with
  | nil s => exact ⟨[], .nil s, by simp, by simp⟩
  | @ran s s1 sf e cfuel entry fuel recs inst _ ih =>
    have sb : EvalSizeBounded ext force (prepare s1 entry) := sz _ (List.mem_cons_self ..)
    obtain ⟨⟨hv, _⟩, inext⟩ := idleOk_ran (ecl := ecl) force el eg ep fuel i0 inst sb
    have cp1 : CodePlain (prepare s1 entry).heap := (installs_codePlain i0 inst.garbage cp0 : CodePlain s1.heap)
    obtain ⟨c1, c2⟩ := codePlain_of_runEval force ecp none fuel cp1
    obtain ⟨k, al⟩ := instSteps_allocs inst.steps
    -- `0 + 0`, `k + 0`: the indices `Seg.trans` gives
    have sg0 : Seg ext (0 + 0) (k + 0) s (prepare s1 entry) :=
      .trans (.other al) (.edit (s' := prepare s1 entry) rfl)
    have ih := ih inext (nextState_inv cp0 c1 c2) fun rc h => sz rc (List.mem_cons_of_mem _ h)
    rcases runEval_paced_ne ext force fuel s (prepare s1 entry) with hn | ⟨cps1, hne, hs1, hn1, hf1⟩
    · rw [hn] at ih
      exact ih
    -- the evaluation returned: its session, with the loader steps in front
    obtain ⟨cps2, hs2, hn2, hok2⟩ := ih
    obtain ⟨cps1', hs1', hrel⟩ := Sess.prepend hs1 sg0 hne
    refine ⟨cps1' ++ cps2, hs1'.append hs2, ?_, ?_⟩
    · intro c hc
      rcases List.mem_append.mp hc with h | h
      · obtain ⟨c0, hc0, h3, _⟩ := hrel c h
        have := hn1 c0 hc0
        omega
      · exact hn2 c h
    · intro c hc
      rcases List.mem_append.mp hc with h | h
      · obtain ⟨c0, hc0, _, h4⟩ := hrel c h
        rw [h4]
        exact gcOk_of_cpFrom force el eg ep ecp hv cp1 sb (hf1 c0 hc0)
      · exact hok2 c h
  | @rejected s g sf recs inst _ ih =>
    have ⟨sm1, sm2⟩ : Small g.heap ∧ Small (cgc force g).heap := sz _ (List.mem_cons_self ..)
    have ig : IdleOk g := (i0.installs inst sm1).1
    have cpg : CodePlain g.heap := installs_codePlain i0 inst cp0
    obtain ⟨k, al⟩ := instSteps_allocs inst.steps
    obtain ⟨cps2, hs2, hn2, hok2⟩ := ih (ig.gc force sm2) (codePlain_gc force cpg)
      (fun rc h => sz rc (List.mem_cons_of_mem _ h))
    refine ⟨(0, k, g) :: cps2, .block (.other al) hs2, ?_, ?_⟩
    · intro c hc
      rcases List.mem_cons.mp hc with e | e
      · subst e; exact Nat.zero_le _
      · exact hn2 c e
    · intro c hc
      rcases List.mem_cons.mp hc with e | e
      · subst e; exact ⟨ig.good, cpg, sm2⟩
      · exact hok2 c e

end Marwood.Lemmas.Good
