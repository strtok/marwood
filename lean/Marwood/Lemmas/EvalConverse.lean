import Marwood.Lemmas.EvalExtraMain
/-!
# The converse simulation for `Spec.Eval` under extra cells: framework

`Lemmas/EvalExtra*.lean`: if the run in the SMALLER store (the native meaning, guarded) is definite, the run in
the larger store (the expansion) has the related outcome. Here the other direction, `SimR f R m m'`: if `m'` (the
run in the LARGER store) is definite, `m` has the related outcome. `SimR f` is `SimD f` with no frame at side
`.right` (`simR_iff`), so one level of evaluation is the general `simD_*`.

The guard sits on the right: the helpers that take their fuel from the store size get MORE fuel in the larger
store, so the run there must stay `k` short of its bound (`sguardN k` of `Lemmas/EvalMonoMain.lean`; `k` =
number of extra cells, `f l ≤ l + k`) for the run in the smaller store to stay within its own.
-/
namespace Marwood.Spec.Eval.Conv
open Marwood Marwood.Spec.Eval Marwood.Spec.Eval.Extra Marwood.Spec.Eval.ExtraJ

/-- outcomes correspond; nothing is claimed when the SECOND computation ran out of fuel -/
def ResRelR {α α' : Type} (f : LMap) (R : α → α' → Prop) : Res α → Res α' → Prop
  | .ok a s, .ok a' s' => R a a' ∧ StRel f s s'
  | .err e s, .err e' s' => e = e' ∧ StRel f s s'
  | _, .timeout => True
  | _, _ => False

def SimR {α α' : Type} (f : LMap) (R : α → α' → Prop) (m : M α) (m' : M α') : Prop :=
  ∀ st st', StRel f st st' → ResRelR f R (m st) (m' st')

variable {f : LMap} {α α' β β' : Type}

theorem resRelR_iff {R : α → α' → Prop} {res : Res α} {res' : Res α'} :
    ResRelR f R res res' ↔ ResRelD (StRel f) .right R res res' := by
  cases res <;> cases res' <;> simp [ResRelR, ResRelD]

theorem resRelR_iff_none {R : α → α' → Prop} {res : Res α} {res' : Res α'} :
    ResRelR f R res res' ↔ ResRelD (StRelJ f fun _ => none) .right R res res' :=
  resRelR_iff.trans ⟨fun h => h.imp (fun _ _ => stRelJ_none.2) (fun _ _ h => h),
    fun h => h.imp (fun _ _ => stRelJ_none.1) (fun _ _ h => h)⟩

theorem simR_iff {R : α → α' → Prop} {m : M α} {m' : M α'} : SimR f R m m' ↔ SimD f (fun _ => none) .right R m m' :=
  ⟨fun h st st' r => resRelR_iff_none.1 (h st st' r.toStRel), fun h st st' r => resRelR_iff_none.2 (h st st' (stRelJ_none.2 r))⟩

theorem ResRelR.ok_inv {R : α → α' → Prop} {a' : α'} {s' : St} {res : Res α} (h : ResRelR f R res (.ok a' s')) :
    ∃ a s, res = .ok a s ∧ R a a' ∧ StRel f s s' := by
  cases res with
  | ok a s => exact ⟨a, s, rfl, h.1, h.2⟩
  | err e s => exact h.elim
  | timeout => exact h.elim

theorem ResRelR.err_inv {R : α → α' → Prop} {e : ErrClass} {s' : St} {res : Res α} (h : ResRelR f R res (.err e s')) :
    ∃ s, res = .err e s ∧ StRel f s s' := by
  cases res with
  | ok a s => exact h.elim
  | err e' s => obtain ⟨rfl, h2⟩ := h; exact ⟨s, rfl, h2⟩
  | timeout => exact h.elim

theorem ResRelR.definite {R : α → α' → Prop} {res : Res α} {res' : Res α'} (h : ResRelR f R res res')
    (hd : res' ≠ .timeout) : res ≠ .timeout := ((resRelR_iff.1 h).of_right hd).1

theorem ResRelR.of_fwd {R : α → α' → Prop} {res : Res α} {res' : Res α'} (h : ResRel f R res res')
    (hd : res ≠ .timeout) : ResRelR f R res res' := by
  cases res with
  | ok a s => obtain ⟨a', s', rfl, h1, h2⟩ := h.ok_inv; exact ⟨h1, h2⟩
  | err e s => obtain ⟨s', rfl, h2⟩ := h.err_inv; exact ⟨rfl, h2⟩
  | timeout => exact absurd rfl hd

theorem ResRelR.to_fwd {R : α → α' → Prop} {res : Res α} {res' : Res α'} (h : ResRelR f R res res')
    (hd : res' ≠ .timeout) : ResRel f R res res' := resRel_iff.2 ((resRelR_iff.1 h).of_right hd).2

theorem SimR.bind {R : α → α' → Prop} {Q : β → β' → Prop} {m : M α} {m' : M α'} {k : α → M β} {k' : α' → M β'}
    (hm : SimR f R m m') (hk : ∀ a a', R a a' → SimR f Q (k a) (k' a')) : SimR f Q (m >>= k) (m' >>= k') :=
  simR_iff.2 ((simR_iff.1 hm).bind fun a a' h => simR_iff.1 (hk a a' h))

theorem SimR.pure {R : α → α' → Prop} (a : α) (a' : α') (h : R a a') : SimR f R (pure a : M α) (pure a' : M α') :=
  simR_iff.2 (SimD.pure a a' h)

theorem SimR.throw {R : α → α' → Prop} (e : ErrClass) : SimR f R (throw e : M α) (throw e : M α') :=
  simR_iff.2 (SimD.throw e)

theorem SimR.timeout {R : α → α' → Prop} (m : M α) : SimR f R m (timeoutM : M α') :=
  simR_iff.2 (SimD.timeout_right m)

theorem SimR.mono {R Q : α → α' → Prop} {m : M α} {m' : M α'} (hm : SimR f R m m')
    (hq : ∀ a a', R a a' → Q a a') : SimR f Q m m' := simR_iff.2 ((simR_iff.1 hm).mono hq)

theorem SimR.of_fwd {R : α → α' → Prop} {m : M α} {m' : M α'} (h : Extra.Sim f R m m')
    (hnt : ∀ st, m st ≠ .timeout) : SimR f R m m' :=
  fun st st' r => ResRelR.of_fwd (h st st' r) (hnt st)

structure RecSimR (f : LMap) (r r' : Rec) : Prop where
  eval : ∀ e ρ ρ' B, EnvRel f B ρ ρ' → CleanB B e → SimR f (VRel f) (r.eval e ρ) (r'.eval e ρ')
  apply : ∀ g g' args args', VRel f g g' → VsRel f args args' → SimR f (VRel f) (r.apply g args) (r'.apply g' args')

variable {r r' : Rec} {B : List Text} {ρ ρ' : Env}

theorem recSimR_iff : RecSimR f r r' ↔ RecSimD f (fun _ => none) .right r r' :=
  ⟨fun h => ⟨fun e ρ ρ' B he hc => simR_iff.1 (h.eval e ρ ρ' B he hc),
             fun g g' args args' hg ha => simR_iff.1 (h.apply g g' args args' hg ha)⟩,
   fun h => ⟨fun e ρ ρ' B he hc => simR_iff.2 (h.eval e ρ ρ' B he hc),
             fun g g' args args' hg ha => simR_iff.2 (h.apply g g' args args' hg ha)⟩⟩

end Marwood.Spec.Eval.Conv
