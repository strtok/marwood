import Marwood.Lemmas.TransformMatchEll
/-!
# Definitions shared by the ellipsis classes of T17.1

* `ellVars` — the pattern variables that occur in a sub-pattern followed by the ellipsis;
* `proj` / `projS` — the items a variable is bound to, in order: in the matcher's flat binding list
  and in the specification's trees of matches.
-/
namespace Marwood.Transform
open Marwood Marwood.Spec.Match

/-- the pattern variables that occur in a sub-pattern followed by the ellipsis (the variables
    `Pattern::find_expanded_variables` collects) -/
def ellVars (c : Ctx) : Datum → List Text
  | .pair p (.pair q rest) =>
    if c.isEllD q then patVars c p ++ ellVars c rest
    else ellVars c p ++ ellVars c (.pair q rest)
  | .pair p rest => ellVars c p ++ ellVars c rest
  | _ => []

/-- the items bound to key `k` in a flat binding list, in order -/
def proj (k : Datum) : Bindings → List Datum
  | [] => []
  | (k', v) :: rest => if cellEq k' k then v :: proj k rest else proj k rest

/-- the leaves of a tree of matches, left to right -/
def leaves : MTree → List Datum
  | .one d => [d]
  | .many ts => leavesL ts
where
  leavesL : List MTree → List Datum
    | [] => []
    | t :: ts => leaves t ++ leavesL ts

/-- the items bound to `x` in the specification's bindings, in order -/
def projS (x : Text) : Binds → List Datum
  | [] => []
  | (y, t) :: rest => if y = x then leaves t ++ projS x rest else projS x rest

end Marwood.Transform
