import Marwood.Lemmas.ContResumeWrite
/-!
# The machine reads only live stack cells — stack-level congruences

`Agree L a b`: the stacks `a` and `b` have the same `sp ≤ L`, both have capacity beyond `L`, and hold the same cells
at every index `≤ L`; what lies above `L` is unconstrained. Every stack operation that succeeds on `a` and reads only
at indices `≤ L` succeeds on `b` with the same result, and the results agree again (up to some `L' ≥ L`).

`L` is not `sp`: within one instruction `sp` is lowered first and cells up to the old `sp` are read afterwards (TCALL
sets `sp := bp - frame_argc` and then copies from `saved_sp - it - 1`; `apply` pops and then reads through
`getOffset`), so the agreement has to survive `setSp` and `pop`. A `push` at `sp = L` is where `L` grows.
-/
namespace Marwood.Vm
open Stack

structure Agree (L : Nat) (a b : Stack) : Prop where
  sp : a.sp = b.sp
  le : a.sp ≤ L
  capa : L < a.cells.length
  capb : L < b.cells.length
  cells : ∀ i, i ≤ L → a.cellAt i = b.cellAt i

namespace Agree

variable {L : Nat} {a b : Stack}

theorem symm (h : Agree L a b) : Agree L b a :=
  ⟨h.sp.symm, by rw [← h.sp]; exact h.le, h.capb, h.capa, fun i hi => (h.cells i hi).symm⟩

theorem weaken (h : Agree L a b) {L' : Nat} (h1 : a.sp ≤ L') (h2 : L' ≤ L) : Agree L' a b :=
  ⟨h.sp, h1, by have := h.capa; omega, by have := h.capb; omega, fun i hi => h.cells i (by omega)⟩

theorem some (h : Agree L a b) {i : Nat} (hi : i ≤ L) {v : VCell} (hv : a.cells[i]? = some v) : b.cells[i]? = some v := by
  rw [some_cellAt b (by have := h.capb; omega), ← h.cells i hi, cellAt_of_some hv]

theorem get_eq (h : Agree L a b) {i : Nat} (hi : i ≤ L) : a.get i = b.get i := by
  rw [get_of_lt a i (by have := h.capa; omega), get_of_lt b i (by have := h.capb; omega), h.cells i hi]

theorem getOffset_eq (h : Agree L a b) {off : Int} (hi : (a.sp : Int) + off ≤ L) :
    a.getOffset off = b.getOffset off := by
  unfold Stack.getOffset
  simp only [← h.sp]
  split
  · exact h.get_eq (by omega)
  · rfl

theorem setSp (h : Agree L a b) {n : Nat} (hn : n ≤ L) : Agree L { a with sp := n } { b with sp := n } :=
  ⟨rfl, hn, h.capa, h.capb, h.cells⟩

theorem pop (h : Agree L a b) {v : VCell} {a' : Stack} (hp : a.pop = .ok (v, a')) :
    ∃ b', b.pop = .ok (v, b') ∧ Agree L a' b' := by
  obtain ⟨p1, p2, p3⟩ := pop_ok hp
  have hle := h.le
  have hsp := h.sp
  have hcb := h.capb
  refine ⟨{ b with sp := b.sp - 1 }, ?_, ?_⟩
  · rw [pop_of_lt b (by omega) (by omega), p3, h.cells a.sp h.le, h.sp]
  · exact ⟨by show a'.sp = b.sp - 1; omega, by omega, by rw [p2]; exact h.capa, h.capb,
      fun i hi => by rw [cells_eq_cellAt p2]; exact h.cells i hi⟩

theorem push (h : Agree L a b) (v : VCell) : ∃ L', L ≤ L' ∧ Agree L' (a.push v) (b.push v) := by
  by_cases hlt : a.sp < L
  · refine ⟨L, Nat.le_refl _, by simp [h.sp], by simp; omega,
      Nat.lt_of_lt_of_le h.capa (push_len _ _), Nat.lt_of_lt_of_le h.capb (push_len _ _), ?_⟩
    intro i hi
    rw [push_cellAt, push_cellAt, h.sp, h.cells i hi]
  · have he : a.sp = L := by have := h.le; omega
    refine ⟨L + 1, by omega, by simp [h.sp], by simp; omega, ?_, ?_, ?_⟩
    · have := push_sp_lt a v; simp only [push_sp] at this; omega
    · have := push_sp_lt b v; simp only [push_sp] at this; have := h.sp; omega
    · intro i hi
      rw [push_cellAt, push_cellAt, ← h.sp]
      by_cases hi' : i = a.sp + 1
      · simp [hi']
      · simp only [hi', if_false]
        exact h.cells i (by omega)

theorem set (h : Agree L a b) {i : Nat} (hi : i ≤ L) {v : VCell} {a' : Stack} (hs : a.set i v = .ok a') :
    ∃ b', b.set i v = .ok b' ∧ Agree L a' b' := by
  have la : i < a.cells.length := by have := h.capa; omega
  have lb : i < b.cells.length := by have := h.capb; omega
  rw [set_of_lt a i v la] at hs
  cases hs
  refine ⟨_, set_of_lt b i v lb, h.sp, h.le, by simpa using h.capa, by simpa using h.capb, ?_⟩
  intro j hj
  rw [at_set_cells _ _ _ _ la, at_set_cells _ _ _ _ lb, h.cells j hj]

theorem setOffset (h : Agree L a b) {off : Int} (hi : (a.sp : Int) + off ≤ L) {v : VCell} {a' : Stack}
    (hs : a.setOffset off v = .ok a') : ∃ b', b.setOffset off v = .ok b' ∧ Agree L a' b' := by
  unfold Stack.setOffset at hs ⊢
  simp only [← h.sp]
  simp only at hs
  split at hs
  · rename_i h0
    simp only [h0, if_true]
    exact h.set (by omega) hs
  · cases hs

theorem capture_eq (h : Agree L a b) : a.capture = b.capture := by
  unfold Stack.capture
  have l1 : a.sp + 1 ≤ a.cells.length := by have := h.capa; have := h.le; omega
  have l2 : a.sp + 1 ≤ b.cells.length := by have := h.capb; have := h.le; omega
  rw [← h.sp, if_pos l1, if_pos l2, take_eq_of_cellAt l2 l1 (fun i hi => h.cells i (by have := h.le; omega))]

theorem restore (a b : Stack) {c : Stack} (hc : c.sp < c.cells.length) :
    Agree c.sp ⟨c.cells ++ a.cells.drop c.cells.length, c.sp⟩ ⟨c.cells ++ b.cells.drop c.cells.length, c.sp⟩ := by
  refine ⟨rfl, Nat.le_refl _, ?_, ?_, fun i hi => ?_⟩
  · show c.sp < (c.cells ++ _).length
    rw [List.length_append]; omega
  · show c.sp < (c.cells ++ _).length
    rw [List.length_append]; omega
  · unfold Stack.cellAt
    rw [List.getElem?_append_left (show i < c.cells.length by omega),
      List.getElem?_append_left (show i < c.cells.length by omega)]

end Agree

theorem Agree.callccCopy {L : Nat} {a b : Stack} (h : Agree L a b) : callccCopy a = callccCopy b := by
  have e := (h.setSp (n := a.sp - 2) (Nat.le_trans (Nat.sub_le _ _) h.le)).capture_eq
  unfold Stack.capture at e
  rw [if_pos (by show a.sp - 2 + 1 ≤ a.cells.length; have := h.capa; have := h.le; omega),
    if_pos (by show a.sp - 2 + 1 ≤ b.cells.length; have := h.capb; have := h.le; omega)] at e
  unfold Vm.callccCopy
  rw [← h.sp]
  exact Outcome.ok.inj e

theorem Agree.popN {L : Nat} : ∀ (k : Nat) {a b a' : Stack} {vs : List VCell}, Agree L a b →
    Vm.popN k a = .ok (vs, a') → ∃ b', Vm.popN k b = .ok (vs, b') ∧ Agree L a' b' := by
  intro k
  induction k with
  | zero => intro a b a' vs h hp; simp only [Vm.popN] at hp ⊢; cases hp; exact ⟨b, rfl, h⟩
  | succ k ih =>
    intro a b a' vs h hp
    simp only [Vm.popN] at hp ⊢
    obtain ⟨⟨v, a1⟩, hp1, hp⟩ := bind_inv hp
    obtain ⟨⟨vs1, a2⟩, hp2, hp⟩ := bind_inv hp
    cases hp
    obtain ⟨b1, q1, h1⟩ := h.pop hp1
    obtain ⟨b2, q2, h2⟩ := ih h1 hp2
    refine ⟨b2, ?_, h2⟩
    rw [q1]; show (Vm.popN k b1 >>= _) = _
    rw [q2]; rfl

theorem Agree.shift {L : Nat} : ∀ (k : Nat) {a b a' : Stack}, Agree L a b →
    builtinApply.shift k a = .ok a' → ∃ b', builtinApply.shift k b = .ok b' ∧ Agree L a' b' := by
  intro k
  induction k with
  | zero => intro a b a' h hs; simp only [builtinApply.shift] at hs ⊢; cases hs; exact ⟨b, rfl, h⟩
  | succ k ih =>
    intro a b a' h hs
    simp only [builtinApply.shift] at hs ⊢
    obtain ⟨v, hg, hs⟩ := bind_inv hs
    obtain ⟨a1, hset, hs⟩ := bind_inv hs
    have hle := h.le
    have e1 := h.getOffset_eq (off := -(k : Int)) (by omega)
    obtain ⟨b1, q1, h1⟩ := h.setOffset (off := -(k : Int) - 1) (by omega) hset
    obtain ⟨b2, q2, h2⟩ := ih h1 hs
    refine ⟨b2, ?_, h2⟩
    rw [← e1, hg]; show (b.setOffset _ v >>= _) = _
    rw [q1]; exact q2

theorem Agree.pushList {H : Type} {ops : HeapOps H} {s s2 : St H} (hh : s2.heap = s.heap) :
    ∀ (fuel : Nat) (rest : VCell) (n : Nat) {L : Nat} {a b a' : Stack} {n' : Nat}, Agree L a b →
    builtinApply.pushList ops s fuel rest n a = .ok (n', a') →
    ∃ b' L', L ≤ L' ∧ builtinApply.pushList ops s2 fuel rest n b = .ok (n', b') ∧ Agree L' a' b' := by
  intro fuel
  induction fuel with
  | zero => intro rest n L a b a' n' h hp; simp only [builtinApply.pushList] at hp; cases hp
  | succ fuel ih =>
    intro rest n L a b a' n' h hp
    simp only [builtinApply.pushList] at hp ⊢
    split at hp
    · rename_i car cdr
      obtain ⟨L1, hL1, h1⟩ := h.push (.ptr car)
      obtain ⟨b', L', hL', q, h2⟩ := ih _ _ h1 hp
      rw [hh]
      exact ⟨b', L', by omega, q, h2⟩
    · cases hp
      exact ⟨b, L, Nat.le_refl _, rfl, h⟩
    · cases hp

theorem Agree.tcallCopySame {L : Nat} : ∀ (k it bp : Nat) {a b a' : Stack}, Agree L a b → bp ≤ L →
    Vm.tcallCopySame k it bp a = .ok a' → ∃ b', Vm.tcallCopySame k it bp b = .ok b' ∧ Agree L a' b' := by
  intro k
  induction k with
  | zero => intro it bp a b a' h _ hs; simp only [Vm.tcallCopySame] at hs ⊢; cases hs; exact ⟨b, rfl, h⟩
  | succ k ih =>
    intro it bp a b a' h hbp hs
    simp only [Vm.tcallCopySame] at hs ⊢
    obtain ⟨v, hg, hs⟩ := bind_inv hs
    obtain ⟨i, hu, hs⟩ := bind_inv hs
    obtain ⟨a1, hset, hs⟩ := bind_inv hs
    have hle := h.le
    have e1 := h.getOffset_eq (off := -1 - (it : Int)) (by omega)
    obtain ⟨_, ei⟩ := usub_ok hu
    obtain ⟨b1, q1, h1⟩ := h.set (i := i) (by omega) hset
    obtain ⟨b2, q2, h2⟩ := ih (it + 1) bp h1 hbp hs
    refine ⟨b2, ?_, h2⟩
    rw [← e1, hg]; show (usub bp it _ >>= _) = _
    rw [hu]; show (b.set i v >>= _) = _
    rw [q1]; exact q2

theorem Agree.tcallCopyDiff : ∀ (it savedSp : Nat) {L : Nat} {a b a' : Stack}, Agree L a b → savedSp ≤ L + 1 →
    Vm.tcallCopyDiff it savedSp a = .ok a' →
    ∃ b' L', L ≤ L' ∧ Vm.tcallCopyDiff it savedSp b = .ok b' ∧ Agree L' a' b' := by
  intro it
  induction it with
  | zero => intro sv L a b a' h _ hs; simp only [Vm.tcallCopyDiff] at hs ⊢; cases hs; exact ⟨b, L, Nat.le_refl _, rfl, h⟩
  | succ it ih =>
    intro sv L a b a' h hsv hs
    simp only [Vm.tcallCopyDiff] at hs ⊢
    obtain ⟨i, hu, hs⟩ := bind_inv hs
    obtain ⟨v, hg, hs⟩ := bind_inv hs
    obtain ⟨_, ei⟩ := usub_ok hu
    have e1 := h.get_eq (i := i) (by omega)
    obtain ⟨L1, hL1, h1⟩ := h.push v
    obtain ⟨b', L', hL', q, h2⟩ := ih sv h1 (by omega) hs
    refine ⟨b', L', by omega, ?_, h2⟩
    rw [hu]; show (b.get i >>= _) = _
    rw [← e1, hg]; exact q

theorem Agree.varargCollect {H : Type} {ops : HeapOps H} {L : Nat} : ∀ (k : Nat) (h : H) (acc : Nat)
    {a b a' : Stack} {h' : H} {l : Nat}, Agree L a b →
    Vm.varargCollect ops k h acc a = .ok (h', l, a') →
    ∃ b', Vm.varargCollect ops k h acc b = .ok (h', l, b') ∧ Agree L a' b' := by
  intro k
  induction k with
  | zero => intro h acc a b a' h' l hag hc; simp only [Vm.varargCollect] at hc ⊢; cases hc; exact ⟨b, rfl, hag⟩
  | succ k ih =>
    intro h acc a b a' h' l hag hc
    simp only [Vm.varargCollect] at hc ⊢
    obtain ⟨⟨v, a1⟩, hp, hc⟩ := bind_inv hc
    dsimp only at hc
    obtain ⟨pa, ha, hc⟩ := bind_inv hc
    obtain ⟨pp, hpp, hc⟩ := bind_inv hc
    obtain ⟨b1, q1, h1⟩ := hag.pop hp
    obtain ⟨b2, q2, h2⟩ := ih _ _ h1 hc
    refine ⟨b2, ?_, h2⟩
    rw [q1]; simp only [outcome_bind_ok]
    show (asPtr _ >>= _) = _
    rw [ha]; show (asPtr _ >>= _) = _
    rw [hpp]; exact q2

end Marwood.Vm
