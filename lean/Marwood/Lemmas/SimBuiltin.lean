import Marwood.Lemmas.SimStepF
/-!
# Heap simulation, opcode lemmas: builtin procedures and VPUSH

The three re-dispatching builtins are modelled in `Machine.lean` and proved here: `apply` (no allocation), `call/cc`
(allocates the continuation object: `φ` is extended), `eval` (up to the compiler). What is not modelled — a generic
builtin's effect (`ExtOps.builtinEval`, 138 Rust procedures), `eval`'s compiler (`compileEval`), VPUSH's push through an
aliased `Rc` (`vectorPush`), the classification `builtinKind` — is assumed to respect the simulation (`ExtLaws`).
-/
namespace Marwood.Lemmas.Sim
open Marwood Marwood.Vm Marwood.Vm.Concrete

def ExtPost (φ : Inj) (a b : CHeap × VCell) : Prop :=
  ∃ ψ, φ.le ψ ∧ HeapSim ψ a.1 b.1 ∧ VRel ψ a.2 b.2 ∧ SymOk a.1 ∧ SymOk b.1

/-- Assumed of the non-modelled parameters: related inputs give the same error / panic, or related results under an
    extension of `φ`. `kind` may read the heap but answers alike on related heaps. `eval`, `compile` also return `SymOk`
    (`ExtPost`), which the `maybe_put` that follows in `runBuiltin` needs; `vpush` need not: `step_sim` takes `SymOk` of
    every state from `Good.wf` (`SymOk.of_wf`). -/
structure ExtLaws (ext : ExtOps) : Prop where
  kind : ∀ (φ : Inj) (h h' : CHeap) (id : Nat), HeapSim φ h h' → ext.builtinKind h id = ext.builtinKind h' id
  eval : ∀ (φ : Inj) (h h' : CHeap) (id : Nat) (args args' : List VCell), HeapSim φ h h' → SizeOk h → SizeOk h' →
    SymOk h → SymOk h' → VsRel φ args args' →
    ORel (ExtPost φ) (ext.builtinEval h id args) (ext.builtinEval h' id args')
  compile : ∀ (φ : Inj) (h h' : CHeap) (v v' : VCell), HeapSim φ h h' → SizeOk h → SizeOk h' →
    SymOk h → SymOk h' → VRel φ v v' → ORel (ExtPost φ) (ext.compileEval h v) (ext.compileEval h' v')
  vpush : ∀ (φ : Inj) (h h' : CHeap) (vec vec' a a' : VCell), HeapSim φ h h' → SizeOk h → SizeOk h' →
    VRel φ vec vec' → VRel φ a a' → ORel (HeapSim φ) (ext.vectorPush h vec a) (ext.vectorPush h' vec' a')

/-- the new state and the value for `acc` -/
def BPost (φ : Inj) (a b : St CHeap × VCell) : Prop :=
  ∃ ψ, φ.le ψ ∧ Sim ψ a.1 b.1 ∧ VRel ψ a.2 b.2 ∧ SymOk a.1.heap ∧ SymOk b.1.heap

section
variable (ext : ExtOps) {φ : Inj} {s t : St CHeap}

theorem exec_vpush (el : ExtLaws ext) (h : Sim φ s t) (ok : SizeOk s.heap) (ok' : SizeOk t.heap) :
    ORel (PostB φ) (exec (concreteOps ext) .vpushAcc s) (exec (concreteOps ext) .vpushAcc t) := by
  unfold exec
  refine (h.stack.pop (Nat.le_refl _)).bind ?_
  rintro ⟨v, st1⟩ ⟨v', st1'⟩ ⟨hv, hst1, hsp1, _, _⟩
  simp only at hv hst1 hsp1 ⊢
  simp only [concreteOps]
  have hvec := deref_rel h.heap ok ok' hv
  refine (el.vpush φ _ _ _ _ _ _ h.heap ok ok' hvec h.acc).bind ?_
  intro h1 h1' hh
  exact .ok ⟨rfl, φ, φ.le_refl, hh, hst1.weaken (by show st1.sp ≤ s.stack.sp; omega), hv, h.ep, h.ipL, h.ipO, h.bp⟩

/-- the tail of `runBuiltin` -/
def finishB (ops : HeapOps CHeap) (s : St CHeap) (v : VCell) : Outcome (St CHeap) :=
  match v with
  | .ptr p => .ok { s with acc := .ptr p }
  | v => let (h, r) := ops.maybePut s.heap v; .ok { s with heap := h, acc := r }

theorem finish_eq (s : St CHeap) (v : VCell) :
    finishB (concreteOps ext) s v =
    Outcome.ok { s with heap := (maybePutV s.heap v).1, acc := (maybePutV s.heap v).2 } := by
  cases v <;> rfl

theorem finish_rel {s1 t1 : St CHeap} {v v' : VCell} (hb : BPost φ (s1, v) (t1, v')) :
    Post φ { s1 with heap := (maybePutV s1.heap v).1, acc := (maybePutV s1.heap v).2 }
      { t1 with heap := (maybePutV t1.heap v').1, acc := (maybePutV t1.heap v').2 } := by
  obtain ⟨ψ, le, hs, hv, so, so'⟩ := hb
  simp only at hs hv so so'
  obtain ⟨χ, le2, hh, hr, _, _⟩ := maybePutV_sim hs.heap so so' hv
  exact ⟨χ, Inj.le_trans le le2, hh, StackRelK.mono le2 hs.stack, hr, hs.ep.mono le2, hs.ipL.mono le2, hs.ipO, hs.bp⟩

theorem popN_rel {K : Nat} : ∀ (n : Nat) {st st' : Stack}, StackRelK φ K st st' → st.sp ≤ K →
    ORel (fun a b => VsRel φ a.1 b.1 ∧ StackRelK φ K a.2 b.2 ∧ a.2.sp ≤ st.sp) (popN n st) (popN n st') := by
  intro n
  induction n with
  | zero => intro st st' h _; exact .ok ⟨.nil, h, Nat.le_refl _⟩
  | succ n ih =>
    intro st st' h hk
    simp only [popN]
    refine (h.pop hk).bind ?_
    rintro ⟨v, st1⟩ ⟨v', st1'⟩ ⟨hv, hst1, hsp1, _, _⟩
    simp only at hv hst1 hsp1 ⊢
    refine (ih hst1 (by omega)).bind ?_
    rintro ⟨vs, st2⟩ ⟨vs', st2'⟩ ⟨hvs, hst2, hsp2⟩
    simp only at hvs hst2 hsp2 ⊢
    exact .ok ⟨.cons hv hvs, hst2, by show st2.sp ≤ st.sp; omega⟩

theorem builtinGeneric_rel (el : ExtLaws ext) (id : Nat) (h : Sim φ s t) (ok : SizeOk s.heap) (ok' : SizeOk t.heap)
    (so : SymOk s.heap) (so' : SymOk t.heap) :
    ORel (BPost φ) (builtinGeneric (concreteOps ext) id s) (builtinGeneric (concreteOps ext) id t) := by
  unfold builtinGeneric
  refine (h.stack.pop (Nat.le_refl _)).bind ?_
  rintro ⟨a, st1⟩ ⟨a', st1'⟩ ⟨ha, hst1, hsp1, _, _⟩
  simp only at ha hst1 hsp1 ⊢
  refine (asArgc_rel ha).bind ?_
  intro n n' e
  subst e
  refine (popN_rel n hst1 (by omega)).bind ?_
  rintro ⟨args, st2⟩ ⟨args', st2'⟩ ⟨hargs, hst2, hsp2⟩
  simp only at hargs hst2 hsp2 ⊢
  simp only [concreteOps]
  refine (el.eval φ _ _ id _ _ h.heap ok ok' so so' hargs).bind ?_
  rintro ⟨h1, v⟩ ⟨h1', v'⟩ ⟨ψ, le, hh, hv, s1, s1'⟩
  refine .ok ⟨ψ, le, ⟨hh, ?_, h.acc.mono le, h.ep.mono le, h.ipL.mono le, h.ipO, h.bp⟩, hv, s1, s1'⟩
  exact (hst2.mono le).weaken (by show st2.sp ≤ s.stack.sp; omega)

theorem builtinEvalProc_rel (el : ExtLaws ext) (h : Sim φ s t) (ok : SizeOk s.heap) (ok' : SizeOk t.heap)
    (so : SymOk s.heap) (so' : SymOk t.heap) :
    ORel (BPost φ) (builtinEvalProc (concreteOps ext) s) (builtinEvalProc (concreteOps ext) t) := by
  unfold builtinEvalProc
  rw [show t.ipO = s.ipO from h.ipO.symm]
  refine (h.stack.pop (Nat.le_refl _)).bind ?_
  rintro ⟨a, st1⟩ ⟨a', st1'⟩ ⟨ha, hst1, hsp1, _, _⟩
  simp only at ha hst1 hsp1 ⊢
  refine (asArgc_rel ha).bind ?_
  intro n n' e
  subst e
  split
  · exact .err
  · refine (hst1.pop (by omega)).bind ?_
    rintro ⟨e, st2⟩ ⟨e', st2'⟩ ⟨he, hst2, hsp2, _, _⟩
    simp only at he hst2 hsp2 ⊢
    simp only [concreteOps]
    refine (el.compile φ _ _ _ _ h.heap ok ok' so so' (deref_rel h.heap ok ok' he)).bind ?_
    rintro ⟨h1, lam⟩ ⟨h1', lam'⟩ ⟨ψ, le, hh, hl, s1, s1'⟩
    simp only at hh hl s1 s1' ⊢
    have k0 : StackRel ψ st2 st2' := (hst2.mono le).weaken (by omega)
    refine (usub_rel s.ipO 1 _).bind ?_
    intro o o' e
    subst e
    exact .ok ⟨ψ, le, h.setHeapStackIp le hh (k0.push (.atom rfl)) o, hl, s1, s1'⟩

theorem isProcedure_rel {v v'} (hv : VRel φ v v') : isProcedure v = isProcedure v' := by
  cases hv <;> rfl

theorem capture_rel {K : Nat} {st st' : Stack} (h : StackRelK φ K st st') (hk : st.sp ≤ K) :
    ORel (fun a b => StackRel φ a b ∧ a.sp < a.cells.length) (st.capture) (st'.capture) := by
  unfold Stack.capture
  rw [← h.1, ← h.2.1]
  split
  · rename_i hle
    refine .ok ⟨⟨rfl, by simp [h.2.1], ?_⟩, ?_⟩
    · intro i hi v v' h1 h2
      simp only at hi h1 h2
      rw [List.getElem?_take] at h1 h2
      simp only [Nat.lt_succ_of_le hi, if_true] at h1 h2
      exact h.2.2 i (by omega) v v' h1 h2
    · simp only [List.length_take]; omega
  · exact .panic

theorem builtinCallcc_rel (h : Sim φ s t) (ok : SizeOk s.heap) (ok' : SizeOk t.heap)
    (so : SymOk s.heap) (so' : SymOk t.heap) :
    ORel (BPost φ) (builtinCallcc (concreteOps ext) s) (builtinCallcc (concreteOps ext) t) := by
  unfold builtinCallcc
  rw [show t.ipO = s.ipO from h.ipO.symm]
  refine (h.stack.pop (Nat.le_refl _)).bind ?_
  rintro ⟨a, st1⟩ ⟨a', st1'⟩ ⟨ha, hst1, hsp1, _, _⟩
  simp only at ha hst1 hsp1 ⊢
  refine (asArgc_rel ha).bind ?_
  intro n n' e
  subst e
  split
  · exact .err
  · refine (hst1.pop (by omega)).bind ?_
    rintro ⟨proc, st2⟩ ⟨proc', st2'⟩ ⟨hp, hst2, hsp2, _, _⟩
    simp only at hp hst2 hsp2 ⊢
    have eproc := isProcedure_rel (deref_rel h.heap ok ok' hp)
    simp only [concreteOps]
    by_cases hp1 : isProcedure (deref s.heap proc) = true
    case neg =>
      have hp1 : isProcedure (deref s.heap proc) = false := by simpa using hp1
      have hp2 : isProcedure (deref t.heap proc') = false := by rw [← eproc]; exact hp1
      simp only [hp1, hp2, Bool.not_false, if_true]; exact .err
    case pos =>
      have hp2 : isProcedure (deref t.heap proc') = true := by rw [← eproc]; exact hp1
      simp only [hp1, hp2, Bool.not_true, Bool.false_eq_true, if_false]
      refine (capture_rel hst2 (by omega)).bind ?_
      rintro cst cst' ⟨hc, hfull⟩
      obtain ⟨ψ, le, hpq, hh⟩ := cput_sim h.heap
        (c := .cont { stack := cst, ep := s.ep, ipL := s.ipL, ipO := s.ipO, bp := s.bp })
        (c' := .cont { stack := cst', ep := t.ep, ipL := t.ipL, ipO := s.ipO, bp := t.bp })
        (fun ψ hle _ => .cont ⟨StackRelK.mono hle hc, hfull, h.ep.mono hle, h.ipL.mono hle, rfl, h.bp⟩)
      have ns : ∀ (c : Cont) name, ¬ isSymCell (.cont c) name := by
        rintro c name ⟨tag, e, _⟩; cases e
      have s1 := cput_symOk_plain so h.heap.inv _ (ns { stack := cst, ep := s.ep, ipL := s.ipL, ipO := s.ipO, bp := s.bp })
      have s1' := cput_symOk_plain so' h.heap.inv' _
        (ns { stack := cst', ep := t.ep, ipL := t.ipL, ipO := s.ipO, bp := t.bp })
      have k0 : StackRel ψ st2 st2' := (hst2.mono le).weaken (by omega)
      refine (usub_rel s.ipO 1 _).bind ?_
      intro o o' e
      subst e
      exact .ok ⟨ψ, le, h.setHeapStackIp le hh ((k0.push (.ptr (.inl hpq))).push (.atom rfl)) o, hp.mono le, s1, s1'⟩

theorem shift_rel {K : Nat} : ∀ (k : Nat) {st st' : Stack}, StackRelK φ K st st' → st.sp ≤ K →
    ORel (fun a b => StackRelK φ K a b ∧ a.sp = st.sp) (builtinApply.shift k st) (builtinApply.shift k st') := by
  intro k
  induction k with
  | zero => intro st st' h _; exact .ok ⟨h, rfl⟩
  | succ k ih =>
    intro st st' h hk
    simp only [builtinApply.shift]
    refine (h.getOffset hk (by omega)).bind ?_
    intro v v' hv
    refine (h.setOffset _ hv).bind ?_
    rintro st1 st1' ⟨h1, hsp⟩
    refine (ih h1 (by omega)).imp ?_
    rintro a b ⟨h2, hsp2⟩
    exact ⟨h2, by omega⟩

theorem pushList_rel (hh : HeapSim φ s.heap t.heap) (ok : SizeOk s.heap) (ok' : SizeOk t.heap) :
    ∀ (fuel : Nat) {rest rest' : VCell} (n : Nat) {K : Nat} {st st' : Stack}, VRel φ rest rest' →
      StackRelK φ K st st' → st.sp ≤ K →
      ORel (fun a b => a.1 = b.1 ∧ ∃ K', StackRelK φ K' a.2 b.2 ∧ a.2.sp ≤ K')
        (builtinApply.pushList (concreteOps ext) s fuel rest n st)
        (builtinApply.pushList (concreteOps ext) t fuel rest' n st') := by
  intro fuel
  induction fuel with
  | zero => intro rest rest' n K st st' _ _ _; exact .panic
  | succ fuel ih =>
    intro rest rest' n K st st' hr hst hk
    simp only [builtinApply.pushList]
    cases hr with
    | pair ha hd =>
      simp only [concreteOps]
      obtain ⟨K1, k1, kk1, _⟩ := pushK hst hk (.ptr ha)
      exact ih (n + 1) (deref_rel hh ok ok' (.ptr hd)) k1 kk1
    | atom hf => cases rest <;> first | exact .ok ⟨rfl, K, hst, hk⟩ | exact .err | simp [addrFree] at hf
    | _ => exact .err

theorem builtinApply_rel (h : Sim φ s t) (ok : SizeOk s.heap) (ok' : SizeOk t.heap)
    (so : SymOk s.heap) (so' : SymOk t.heap) :
    ORel (BPost φ) (builtinApply (concreteOps ext) s) (builtinApply (concreteOps ext) t) := by
  unfold builtinApply
  rw [show t.ipO = s.ipO from h.ipO.symm]
  refine (h.stack.pop (Nat.le_refl _)).bind ?_
  rintro ⟨a, st1⟩ ⟨a', st1'⟩ ⟨ha, hst1, hsp1, _, _⟩
  simp -zeta only at ha hst1 hsp1 ⊢
  refine (asArgc_rel ha).bind ?_
  intro argc argc' e
  subst e
  split
  · exact .err
  · refine (hst1.pop (by omega)).bind ?_
    rintro ⟨top, st2⟩ ⟨top', st2'⟩ ⟨htop, hst2, hsp2, _, _⟩
    simp -zeta only at htop hst2 hsp2 ⊢
    extract_lets rest okShape rest' okShape'
    have hrest : VRel φ rest rest' := deref_rel h.heap ok ok' htop
    -- the shape test reads the constructor only, and related values have the same one
    have hshape : okShape' = okShape := by
      clear_value rest rest'
      cases hrest <;> rfl
    clear_value okShape okShape'
    subst hshape
    split
    · exact .err
    · refine (hst2.getOffset (by omega) (by omega)).bind ?_
      intro proc proc' hproc
      refine (shift_rel (argc - 2) hst2 (by omega)).bind ?_
      rintro st3 st3' ⟨hst3, hsp3⟩
      refine (hst3.pop (by omega)).bind ?_
      rintro ⟨_, st4⟩ ⟨_, st4'⟩ ⟨_, hst4, hsp4, _, _⟩
      simp only at hst4 hsp4 ⊢
      refine (pushList_rel ext h.heap ok ok' 100000 (argc - 2) hrest hst4 (by omega)).bind ?_
      rintro ⟨n, st5⟩ ⟨n', st5'⟩ ⟨e, K5, hst5, hk5⟩
      simp only at e hst5 hk5 ⊢
      subst e
      have k5 : StackRel φ st5 st5' := hst5.weaken hk5
      refine (usub_rel s.ipO 1 _).bind ?_
      intro o o' e
      subst e
      exact .ok ⟨φ, φ.le_refl, h.setHeapStackIp φ.le_refl h.heap (k5.push (.atom rfl)) o, hproc, so, so'⟩

theorem finish_rel' {s1 t1 : St CHeap} {v v' : VCell} (hb : BPost φ (s1, v) (t1, v')) :
    ORel (Post φ) (finishB (concreteOps ext) s1 v) (finishB (concreteOps ext) t1 v') := by
  rw [finish_eq, finish_eq]
  exact .ok (finish_rel hb)

theorem runBuiltin_rel (el : ExtLaws ext) (id : Nat) (h : Sim φ s t) (ok : SizeOk s.heap) (ok' : SizeOk t.heap)
    (so : SymOk s.heap) (so' : SymOk t.heap) :
    ORel (Post φ) (runBuiltin (concreteOps ext) id s) (runBuiltin (concreteOps ext) id t) := by
  unfold runBuiltin
  have hk : (concreteOps ext).builtinKind t.heap id = (concreteOps ext).builtinKind s.heap id :=
    (el.kind φ _ _ id h.heap).symm
  rw [hk]
  cases (concreteOps ext).builtinKind s.heap id with
  | apply =>
    refine (builtinApply_rel ext h ok ok' so so').bind ?_
    rintro ⟨s1, v⟩ ⟨t1, v'⟩ hb
    exact finish_rel' ext hb
  | callcc =>
    refine (builtinCallcc_rel ext h ok ok' so so').bind ?_
    rintro ⟨s1, v⟩ ⟨t1, v'⟩ hb
    exact finish_rel' ext hb
  | eval =>
    refine (builtinEvalProc_rel ext el h ok ok' so so').bind ?_
    rintro ⟨s1, v⟩ ⟨t1, v'⟩ hb
    exact finish_rel' ext hb
  | generic =>
    refine (builtinGeneric_rel ext el id h ok ok' so so').bind ?_
    rintro ⟨s1, v⟩ ⟨t1, v'⟩ hb
    exact finish_rel' ext hb

theorem builtinLaw_of_ext (el : ExtLaws ext) : BuiltinLaw ext :=
  fun _ _ _ id h ok ok' so so' => runBuiltin_rel ext el id h ok ok' so so'

end

end Marwood.Lemmas.Sim
