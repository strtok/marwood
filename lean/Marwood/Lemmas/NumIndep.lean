import Marwood.Lemmas.NumUnary
/-!
# floor, ceiling, truncate, numerator, denominator: always exact, whatever the representation (T08.2, T08.4)

The value of a well-formed number determines its representation up to `fix n` / `big n` / `rat n 1` for an
integer; a proper fraction has one (`rat n d` in lowest terms).  Also what `expt` needs of this (NumExactly).
-/
namespace Marwood.Arith
open Marwood Marwood.NumSpec

theorem wf_rat_inj {n d n' d' : Int} (h : (Num.rat n d).WF = true) (h' : (Num.rat n' d').WF = true)
    (hv : val (.rat n d) = val (.rat n' d')) : n = n' ∧ d = d' := by
  simp only [val, Option.some.injEq] at hv
  obtain ⟨a1, a2⟩ := wf_rat_num_den h
  obtain ⟨b1, b2⟩ := wf_rat_num_den h'
  rw [hv] at a1 a2
  exact ⟨a1.symm.trans b1, a2.symm.trans b2⟩

theorem wf_rat_int {n d m : Int} (h : (Num.rat n d).WF = true)
    (hv : val (.rat n d) = some (m : Rat)) : d = 1 ∧ n = m := by
  simp only [val, Option.some.injEq] at hv
  obtain ⟨a1, a2⟩ := wf_rat_num_den h
  rw [hv] at a1 a2
  simp only [Rat.den_intCast, Rat.num_intCast] at a1 a2
  exact ⟨by exact_mod_cast a2.symm, a1.symm⟩

theorem proper_fraction_unique {n d : Int} {a' : Num} (h : (Num.rat n d).WF = true) (hd : d ≠ 1)
    (ha' : a'.WF = true) (he' : isExact a' = true) (hv : val (.rat n d) = val a') :
    a' = .rat n d := by
  cases a' with
  | fix m => exact absurd (wf_rat_int h (by rw [hv]; rfl)).1 hd
  | big m => exact absurd (wf_rat_int h (by rw [hv]; rfl)).1 hd
  | flo f => cases he'
  | rat n' d' => obtain ⟨rfl, rfl⟩ := wf_rat_inj h ha' hv; rfl

theorem intVal_of_val {a : Num} {m : Int} (ha : a.WF = true) (he : isExact a = true)
    (hv : val a = some (m : Rat)) : intVal? a = some m := by
  cases a with
  | fix n => simp only [val, Option.some.injEq] at hv; simp only [intVal?]; congr 1; exact_mod_cast hv
  | big n => simp only [val, Option.some.injEq] at hv; simp only [intVal?]; congr 1; exact_mod_cast hv
  | flo f => cases he
  | rat n d =>
    obtain ⟨rfl, rfl⟩ := wf_rat_int ha hv
    simp [intVal?]

theorem chkPow_none {inR : Int → Bool} {b : Int} {e : Nat} (h : chkPow inR b e = none) :
    inR (b ^ e) = false := by
  unfold chkPow at h
  simp only at h
  split at h
  · cases h
  · rename_i hh; simpa using hh

theorem chkPow_inR {inR : Int → Bool} {b r : Int} {e : Nat} (h : chkPow inR b e = some r) :
    inR (b ^ e) = true := by
  unfold chkPow at h
  simp only at h
  split at h
  · assumption
  · cases h

theorem chkPow_of {inR : Int → Bool} {b : Int} {e : Nat} (h : inR (b ^ e) = true) :
    chkPow inR b e = some (b ^ e) := by
  unfold chkPow; simp [h]

theorem wf_rat_pow_num_den {n d : Int} (h : (Num.rat n d).WF = true) (e : Nat) :
    (((n : Rat) / d) ^ e).num = n ^ e ∧ ((((n : Rat) / d) ^ e).den : Int) = d ^ e := by
  have hd := wf_rat_pos h
  have hpos : 0 < d ^ e := Int.pow_pos hd
  have hcop : (n ^ e).natAbs.Coprime (d ^ e).natAbs := by
    rw [Int.natAbs_pow, Int.natAbs_pow]; exact Nat.Coprime.pow e e (wf_rat_coprime h)
  have e1 : ((n : Rat) / d) ^ e = ((n ^ e : Int) : Rat) / ((d ^ e : Int) : Rat) := by
    rw [div_pow]; push_cast; rfl
  rw [e1]
  exact ⟨Rat.num_div_eq_of_coprime hpos hcop, Rat.den_div_eq_of_coprime hpos hcop⟩

theorem floor_exact {a r : Num} (h : floor a = some r) (hea : isExact a = true) : isExact r = true := by
  cases a with
  | flo f => cases hea
  | _ => cases h; rfl

theorem ceil_exact {a r : Num} (h : ceil a = some r) (hea : isExact a = true) : isExact r = true := by
  cases a with
  | flo f => cases hea
  | _ => cases h; rfl

theorem truncate_exact {a r : Num} (h : truncate a = some r) (hea : isExact a = true) :
    isExact r = true := by
  cases a with
  | flo f => cases hea
  | _ => cases h; rfl

theorem numerator_exact {a r : Num} (h : numerator a = some r) (hea : isExact a = true) :
    isExact r = true := by
  cases a with
  | flo f => cases hea
  | _ => cases h; rfl

theorem denominator_exact {a r : Num} (h : denominator a = some r) : isExact r = true := by
  cases a with
  | flo f => cases h
  | _ => cases h; rfl

theorem int_bracket_unique {x : Rat} {k k' : Int} (h1 : (k : Rat) ≤ x) (h2 : x < k + 1)
    (h1' : (k' : Rat) ≤ x) (h2' : x < k' + 1) : k = k' := by
  have a : (k : Rat) < k' + 1 := lt_of_le_of_lt h1 h2'
  have b : (k' : Rat) < k + 1 := lt_of_le_of_lt h1' h2
  have a' : k < k' + 1 := by exact_mod_cast a
  have b' : k' < k + 1 := by exact_mod_cast b
  omega

theorem ceil_bracket_unique {x : Rat} {k k' : Int} (h1 : x ≤ (k : Rat)) (h2 : (k : Rat) - 1 < x)
    (h1' : x ≤ (k' : Rat)) (h2' : (k' : Rat) - 1 < x) : k = k' := by
  have a : (k : Rat) - 1 < k' := lt_of_lt_of_le h2 h1'
  have b : (k' : Rat) - 1 < k := lt_of_lt_of_le h2' h1
  have a' : k - 1 < k' := by exact_mod_cast a
  have b' : k' - 1 < k := by exact_mod_cast b
  omega

/-- T08.4 (floor) -/
theorem floor_indep (a a' : Num) (ha : a.WF = true) (ha' : a'.WF = true) (hea : isExact a = true)
    (hea' : isExact a' = true) (hv : val a = val a') {r r' : Num} (h : floor a = some r)
    (h' : floor a' = some r') : isExact r = isExact r' ∧ val r = val r' := by
  refine ⟨by rw [floor_exact h hea, floor_exact h' hea'], ?_⟩
  obtain ⟨x, k, hx, hr, l1, l2⟩ := floor_spec a ha h
  obtain ⟨x', k', hx', hr', l1', l2'⟩ := floor_spec a' ha' h'
  rw [hv, hx'] at hx; cases hx
  rw [hr, hr', int_bracket_unique l1 l2 l1' l2']

/-- T08.4 (ceiling) -/
theorem ceil_indep (a a' : Num) (ha : a.WF = true) (ha' : a'.WF = true) (hea : isExact a = true)
    (hea' : isExact a' = true) (hv : val a = val a') {r r' : Num} (h : ceil a = some r)
    (h' : ceil a' = some r') : isExact r = isExact r' ∧ val r = val r' := by
  refine ⟨by rw [ceil_exact h hea, ceil_exact h' hea'], ?_⟩
  obtain ⟨x, k, hx, hr, l1, l2⟩ := ceil_spec a ha h
  obtain ⟨x', k', hx', hr', l1', l2'⟩ := ceil_spec a' ha' h'
  rw [hv, hx'] at hx; cases hx
  rw [hr, hr', ceil_bracket_unique l1 l2 l1' l2']

/-- T08.4 (truncate) -/
theorem truncate_indep (a a' : Num) (ha : a.WF = true) (ha' : a'.WF = true) (hea : isExact a = true)
    (hea' : isExact a' = true) (hv : val a = val a') {r r' : Num} (h : truncate a = some r)
    (h' : truncate a' = some r') : isExact r = isExact r' ∧ val r = val r' := by
  refine ⟨by rw [truncate_exact h hea, truncate_exact h' hea'], ?_⟩
  obtain ⟨x, k, hx, hr, p, n⟩ := truncate_spec a ha h
  obtain ⟨x', k', hx', hr', p', n'⟩ := truncate_spec a' ha' h'
  rw [hv, hx'] at hx; cases hx
  have : k = k' := by
    rcases le_total 0 x with h0 | h0
    · exact int_bracket_unique (p h0).1 (p h0).2 (p' h0).1 (p' h0).2
    · exact ceil_bracket_unique (n h0).1 (n h0).2 (n' h0).1 (n' h0).2
  rw [hr, hr', this]

/-- T08.4 (numerator, denominator) -/
theorem numer_denom_indep (a a' : Num) (ha : a.WF = true) (ha' : a'.WF = true)
    (hea : isExact a = true) (hea' : isExact a' = true) (hv : val a = val a') {r r' s s' : Num}
    (h1 : numerator a = some r) (h1' : numerator a' = some r') (h2 : denominator a = some s)
    (h2' : denominator a' = some s') :
    isExact r = true ∧ isExact r' = true ∧ val r = val r' ∧
    isExact s = true ∧ isExact s' = true ∧ val s = val s' := by
  obtain ⟨x, hx, hr, hs⟩ := numer_denom_spec a ha h1 h2
  obtain ⟨x', hx', hr', hs'⟩ := numer_denom_spec a' ha' h1' h2'
  rw [hv, hx'] at hx; cases hx
  exact ⟨numerator_exact h1 hea, numerator_exact h1' hea', by rw [hr, hr'],
    denominator_exact h2, denominator_exact h2', by rw [hs, hs']⟩

/-- answers the property does not distinguish -/
def SameAnswer : Outcome Num → Outcome Num → Prop
  | .ok r, .ok r' => isExact r = isExact r' ∧ val r = val r'
  | .err c, .err c' => c = c'
  | _, _ => False

theorem toU32_of_intVal {e : Num} {m : Int} (he : e.WF = true) (hi : intVal? e = some m) :
    toU32 e = if 0 ≤ m ∧ m ≤ 4294967295 then some m.toNat else none := by
  cases e with
  | flo f => cases hi
  | fix n => simp only [intVal?, Option.some.injEq] at hi; subst hi; simp [toU32]
  | big n => simp only [intVal?, Option.some.injEq] at hi; subst hi; simp [toU32]
  | rat n d =>
    obtain ⟨hd1, hmn⟩ := intVal_rat hi
    subst hd1; rw [hmn]
    have := (inI32_iff n).mp (wf_rat_i32 he).1
    simp only [toU32, beq_self_eq_true, Bool.true_and, decide_eq_true_eq]
    by_cases h0 : 0 ≤ n
    · rw [if_pos h0, if_pos ⟨h0, by omega⟩]
    · rw [if_neg h0, if_neg (fun h => h0 h.1)]

theorem int_or_fraction (a : Num) (ha : a.WF = true) (hea : isExact a = true) :
    (∃ m, intVal? a = some m ∧ val a = some (m : Rat)) ∨ (∃ n d, a = .rat n d ∧ d ≠ 1) := by
  cases a with
  | flo f => cases hea
  | fix n => exact Or.inl ⟨n, rfl, rfl⟩
  | big n => exact Or.inl ⟨n, rfl, rfl⟩
  | rat n d =>
    by_cases hd1 : d = 1
    · subst hd1; exact Or.inl ⟨n, by simp [intVal?], by simp [val]⟩
    · exact Or.inr ⟨n, d, rfl, hd1⟩

end Marwood.Arith
