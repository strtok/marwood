import Marwood.Lemmas.PrepareDefs
import Marwood.Lemmas.ProcInvOps
import Marwood.Lemmas.EnvTaintOps
import Marwood.Lemmas.GoodAlloc
import Marwood.Lemmas.EnvFitOps
/-!
# What a loader step does to the cells, and "no value leads to a code object of class `K`" (`Lead.HP I`)

The case Lemmas/LeadOps.lean does not have is the allocation of a LAMBDA cell: the heaps before and after do not have the
same lambda cells (`LamSame` fails at the new address). What holds of every loader step is `CellsEff`: no allocated cell is
written, and every cell of the new heap is an old cell, `Undefined`, or the new cell. The address predicates `bad`, `clos`
read only the lambda cell at the address, so they agree in both heaps at every allocated address; the per-cell clause
inspects only addresses the collector follows from the cell (`cellXF_congr`), and those are allocated (`hpf_step`).
The instances `Spec.entry` (`HP`) and `Spec.cap` (`Taint.HP`) close the file.
-/
namespace Marwood.Lemmas.Good
open Marwood Marwood.Vm Marwood.Vm.Verify Marwood.Vm.Concrete Marwood.Lemmas.Sim
open Marwood.Heap (GcState WFHeap RootsOk vrefs vrefsList crefs bcRefs)

theorem list_all_congr {α : Type} {f g : α → Bool} : ∀ (l : List α), (∀ x ∈ l, f x = g x) → l.all f = l.all g
  | [], _ => rfl
  | a :: l, h => by
    simp only [List.all_cons]
    rw [h a List.mem_cons_self, list_all_congr l (fun x hx => h x (List.mem_cons_of_mem _ hx))]

theorem neF_congr {E E' : Nat → Bool} (v : VCell) (hv : ∀ y ∈ vrefs true (eraseV v), E y = E' y) :
    neF E v = neF E' v := by
  cases v with
  | ptr p => exact congrArg (!·) (hv p (.head _))
  | _ => rfl

theorem all_neF_congr {E E' : Nat → Bool} (l : List VCell)
    (hl : ∀ y ∈ vrefsList true (l.map eraseV), E y = E' y) : l.all (neF E) = l.all (neF E') :=
  list_all_congr l fun v hv => neF_congr v fun y hy => hl y (vrefsList_mem_iff.mpr ⟨v, hv, hy⟩)

theorem imm_refs {bc : List VCell} {j : Nat} {op : Op} (hop : bc[j]? = some (.opcode op))
    (hnj : isJumpOp (.opcode op) = false) {v : VCell} (hv : bc[j + 1]? = some v) :
    ∀ y ∈ vrefs true (eraseV v), y ∈ bcRefs true false (bc.map eraseV) := by
  refine bcRefs_mem bc false false (fun h => Bool.noConfusion h) (j + 1) v hv ?_
  simp only [prevFrom, hop]
  exact hnj

theorem immXF_congr {x : Bool} {E E' : Nat → Bool} (bc : List VCell)
    (hb : ∀ y ∈ bcRefs true false (bc.map eraseV), E y = E' y) : Lead.immXF x E bc = Lead.immXF x E' bc := by
  unfold Lead.immXF
  refine list_all_congr _ fun j _ => ?_
  have key : ∀ op, bc[j]? = some (.opcode op) → isJumpOp (.opcode op) = false →
      ∀ v, bc[j + 1]? = some v → neF E v = neF E' v :=
    fun op hop hnj v hv => neF_congr v fun y hy => hb y (imm_refs hop hnj hv y hy)
  split
  · rename_i hop
    cases hv : bc[j + 1]? with
    | none => rfl
    | some v => exact key _ hop rfl v hv
  · rename_i hop
    cases hv : bc[j + 1]? with
    | none => rfl
    | some v => exact congrArg (· || (x && siteB bc j)) (key _ hop rfl v hv)
  · rfl

theorem valPF_congr {E E' P P' : Nat → Bool} (v : VCell)
    (hc : ∀ y ∈ crefs true (eraseV v), E y = E' y ∧ P y = P' y) : valPF E P v = valPF E' P' v := by
  cases v with
  | ptr p => exact congrArg (!·) (hc p (.head _)).1
  | pair a d =>
    show (!E a && !E d) = (!E' a && !E' d)
    rw [(hc a (.head _)).1, (hc d (.tail _ (.head _))).1]
  | closure l _ => exact (hc l (.head _)).2
  | _ => rfl

theorem cellXF_congr {x : Bool} {E E' P P' : Nat → Bool} (c : CCell)
    (hc : ∀ y ∈ crefs true (eraseC c), E y = E' y ∧ P y = P' y) : Lead.cellXF x E P c = Lead.cellXF x E' P' c := by
  cases c with
  | val v => exact valPF_congr v hc
  | lexEnv ss => exact all_neF_congr ss fun y hy => (hc y hy).1
  | vector es => exact all_neF_congr es fun y hy => (hc y hy).1
  | lambda l => exact immXF_congr l.bc fun y hy => (hc y (List.mem_append_left _ (List.mem_append_left _ hy))).1
  | cont k => exact all_neF_congr k.stack.cells fun y hy => (hc y (List.mem_append_left _ hy)).1

/-- `cellPF` inspects only addresses the collector follows from the cell -/
theorem cellPF_congr {E E' P P' : Nat → Bool} (c : CCell)
    (hc : ∀ y ∈ crefs true (eraseC c), E y = E' y ∧ P y = P' y) : cellPF E P c = cellPF E' P' c := by
  rw [← Lead.cellXF_false]; exact cellXF_congr c hc

def CellsKept (h h' : CHeap) : Prop := ∀ q, NF h q → h'.cells[q]? = h.cells[q]?

theorem CellsKept.refl (h : CHeap) : CellsKept h h := fun _ _ => rfl

theorem CellsKept.trans {a b c : CHeap} (m : Mono a b) (x : CellsKept a b) (y : CellsKept b c) : CellsKept a c :=
  fun q hq => by rw [y q (hq.mono m), x q hq]

theorem CellsKept.of_cells {h h' : CHeap} (hc : h'.cells = h.cells) : CellsKept h h' := fun q _ => by rw [hc]

theorem CellsKept.lam {h h' : CHeap} (k : CellsKept h h') {q : Nat} (hq : NF h q) : lambdaAt h' q = lambdaAt h q := by
  unfold lambdaAt; rw [k q hq]

structure CellsEff (N : CCell → Prop) (h h' : CHeap) : Prop where
  kept : CellsKept h h'
  cells : ∀ (i : Nat) (x : CCell), h'.cells[i]? = some x → h.cells[i]? = some x ∨ x = .val VCell.undefined ∨ N x

theorem CellsEff.of_cells {N : CCell → Prop} {h h' : CHeap} (hc : h'.cells = h.cells) : CellsEff N h h' :=
  ⟨.of_cells hc, fun _ _ hx => .inl (hc ▸ hx)⟩

theorem CellsEff.mono {N N' : CCell → Prop} {h h' : CHeap} (e : CellsEff N h h') (hn : ∀ c, N c → N' c) :
    CellsEff N' h h' :=
  ⟨e.kept, fun i x hx => (e.cells i x hx).imp_right (.imp_right (hn x))⟩

theorem cput_kept {h : CHeap} (g : HG h) (c : CCell) (sm : Small (cput h c).1) : CellsKept h (cput h c).1 := by
  obtain ⟨_, k2, k3, _⟩ := cput_cells (h := h) c
  intro q hq
  rcases hq.cases g with ⟨hnf, hlt⟩ | hs
  · have hne : q ≠ (cput h c).2 := by
      rintro rfl
      rcases k3 with h1 | h1
      · exact hnf h1
      · omega
    have hx : h.cells[q]? = some h.cells[q] := Array.getElem?_eq_getElem hlt
    rw [hx]
    exact k2 q _ hx hne
  · have h1 : h.cells.size ≤ q := by have := hg_bound g; omega
    have h2 : (cput h c).1.cells.size ≤ q := by unfold Small at sm; omega
    rw [Array.getElem?_eq_none h1, Array.getElem?_eq_none h2]

theorem cput_cellsEff {h : CHeap} (g : HG h) (c : CCell) (sm : Small (cput h c).1) :
    CellsEff (· = c) h (cput h c).1 :=
  ⟨cput_kept g c sm, fun i x hx => by
    rcases (cput_cells (h := h) c).1 i x hx with ⟨_, e⟩ | ⟨_, e⟩ | e
    · exact .inr (.inr e)
    · exact .inl e
    · exact .inr (.inl e)⟩

theorem instStep_cellsEff {Q : CHeap → CLambda → Prop} {h h' : CHeap} (st : InstStep Q h h') (g : HG h) (sm : Small h') :
    CellsEff (fun c => CRefsOk h c ∧ cellPB h c = true ∧ dataEB h c = true ∧
      (NewCellOk (Q h) c ∨ ∃ tag, c = .val (.opaque tag))) h h' := by
  cases st with
  | @cell c nc hr ok hd => exact (cput_cellsEff g c sm).mono fun x e => e ▸ ⟨hr, ok, hd, .inl nc⟩
  | @sym v name hs hk =>
    have hc : (putNew h v).1.cells = (cput h (.val v)).1.cells := by
      unfold putNew
      simp only [hs, hk]
    have sm' : Small (cput h (.val v)).1 := by unfold Small at sm ⊢; rw [← hc]; exact sm
    obtain ⟨tag, rfl, _⟩ := symOf_some hs
    have e := cput_cellsEff g (.val (.opaque tag)) sm'
    exact ⟨fun q hq => by rw [hc]; exact e.kept q hq, fun i x hx => (e.cells i x (hc ▸ hx)).imp_right (.imp_right
      fun (ex : x = _) => ex ▸ ⟨.val (VRefsOk.of_addrFree h (v := .opaque tag) rfl), rfl, rfl, .inr ⟨tag, rfl⟩⟩)⟩
  | glob _ => exact .of_cells rfl
  | resym _ _ => exact .of_cells rfl

def GlobalsFrom (h h' : CHeap) : Prop :=
  ∀ (n : Nat) (v : VCell), h'.globals[n]? = some v → h.globals[n]? = some v ∨ v = VCell.undefined

section
open Lead (Spec bad clos ne cellX)
variable {I : Spec}

theorem bad_congr {h h' : CHeap} {q : Nat} (e : lambdaAt h' q = lambdaAt h q) : bad I h' q = bad I h q := by
  unfold bad; rw [e]

theorem clos_congr {h h' : CHeap} {q : Nat} (e : lambdaAt h' q = lambdaAt h q) : clos I h' q = clos I h q := by
  unfold clos; rw [e]

theorem hpf_step {h h' : CHeap} (g : HG h) (gr : GlobRoots h)
    (ef : CellsEff (fun c => CRefsOk h c ∧ cellX I h c = true) h h') (hgl : GlobalsFrom h h')
    (hsy : ∀ name q, symLookup h' name = some q → symLookup h name = some q) (hp : Lead.HP I h) :
    Lead.HP I h' ∧ ∀ v, VRefsOk h v → ne I h' v = ne I h v := by
  have eE : ∀ q, NF h q → bad I h' q = bad I h q := fun q hq => bad_congr (ef.kept.lam hq)
  have cellEq : ∀ x, CRefsOk h x → cellX I h' x = cellX I h x := fun x hx =>
    cellXF_congr x fun y hy => ⟨eE y (hx y hy), clos_congr (ef.kept.lam (hx y hy))⟩
  have neEq : ∀ v, VRefsOk h v → ne I h' v = ne I h v := fun v hv =>
    neF_congr v fun y hy => eE y (hv y hy)
  refine ⟨⟨?_, ?_, ?_⟩, neEq⟩
  · intro i x hx
    rcases ef.cells i x hx with hx | rfl | ⟨hr, ok⟩
    · by_cases hu : x = .val .undefined
      · rw [hu]; rfl
      · rw [cellEq x (g.closed (alloc_of_ne_undef g hx hu) hx)]
        exact hp.cells i x hx
    · rfl
    · rw [cellEq x hr]; exact ok
  · intro n v hv
    rcases hgl n v hv with hv | rfl
    · rw [neEq v (gr.2 v (Array.mem_toList_iff.mpr (Array.mem_of_getElem? hv)))]
      exact hp.globals n v hv
    · rfl
  · intro name q hl
    have hl := hsy name q hl
    have hl2 : (toHeap h).symLookup name = some q := hl
    rw [eE q (.inl ((g.wf.interned name q).mp hl2).2)]
    exact hp.sym name q hl

theorem hpf_cput {h : CHeap} (g : HG h) (gr : GlobRoots h) (hp : Lead.HP I h)
    {c : CCell} (hr : CRefsOk h c) (ok : cellX I h c = true) (sm : Small (cput h c).1) :
    Lead.HP I (cput h c).1 ∧ ∀ v, VRefsOk h v → ne I (cput h c).1 v = ne I h v := by
  have a := calloc_spec h (HInv.of_wf g.wf)
  refine hpf_step g gr ((cput_cellsEff g c sm).mono fun x e => e ▸ ⟨hr, ok⟩) ?_ ?_ hp
  · intro n v hv
    have hgl : (cput h c).1.globals = h.globals := a.globals
    exact .inl (hgl ▸ hv)
  · intro name q hl
    have hst : (cput h c).1.symtab = h.symtab := a.symtab
    unfold symLookup at hl ⊢
    exact hst ▸ hl

theorem hpf_of_cells {h h' : CHeap} (g : HG h) (gr : GlobRoots h) (hc : h'.cells = h.cells)
    (hgl : h'.globals = h.globals ∨ h'.globals = h.globals.push .undefined)
    (hsy : ∀ name, symLookup h' name = symLookup h name) (hp : Lead.HP I h) :
    Lead.HP I h' ∧ ∀ v, VRefsOk h v → ne I h' v = ne I h v := by
  refine hpf_step g gr (.of_cells hc) ?_ (fun name q hl => hsy name ▸ hl) hp
  intro n v hv
  rcases hgl with e | e
  · exact .inl (e ▸ hv)
  · rw [e, Array.getElem?_push] at hv
    split at hv
    · exact .inr (Option.some.inj hv).symm
    · exact .inl hv

theorem instStep_hpf {Q : CHeap → CLambda → Prop} {h h' : CHeap} (st : InstStep Q h h')
    (g : HG h) (gr : GlobRoots h) (lf : LF h) (sm : Small h')
    (new : ∀ c, NewCellOk (Q h) c → cellPB h c = true → dataEB h c = true → cellX I h c = true)
    (hp : Lead.HP I h) : Lead.HP I h' ∧ ∀ v, VRefsOk h v → ne I h v = true → ne I h' v = true := by
  have fin : ∀ {h' : CHeap}, (Lead.HP I h' ∧ ∀ v, VRefsOk h v → ne I h' v = ne I h v) →
      Lead.HP I h' ∧ ∀ v, VRefsOk h v → ne I h v = true → ne I h' v = true :=
    fun r => ⟨r.1, fun v hv hn => (r.2 v hv).trans hn⟩
  cases st with
  | cell nc hr ok hd => exact fin (hpf_cput g gr hp hr (new _ nc ok hd) sm)
  | @sym v name hs hk =>
    obtain ⟨tag, rfl, _⟩ := symOf_some hs
    obtain ⟨r, _⟩ := Lead.putNew_res lf hp (v := .opaque tag) rfl
    exact ⟨r.hp, fun w _ hn => r.ne hn⟩
  | glob _ => exact fin (hpf_of_cells g gr rfl (.inr rfl) (fun _ => rfl) hp)
  | resym hl _ => exact fin (hpf_of_cells g gr rfl (.inl rfl) hl hp)

end

/-- **storing any cell — code included — in a fresh cell**: if the addresses the collector follows from the new
    content are allocated and none of its value positions designates entry code, `HP` is kept, and so is `neB` of the
    old values that referred to allocated cells -/
theorem cput_hp_any {h : CHeap} (g : HG h) (gr : GlobRoots h) (hp : HP h) {c : CCell} (hr : CRefsOk h c)
    (ok : cellPB h c = true) (sm : Small (cput h c).1) :
    HP (cput h c).1 ∧ ∀ v, VRefsOk h v → neB h v = true → neB (cput h c).1 v = true := by
  obtain ⟨r, ne⟩ := hpf_cput g gr (hp_iff.mp hp) hr (cellPB_eq h ▸ ok) sm
  exact ⟨hp_iff.mpr r, fun v hv hn => (ne v hv).trans hn⟩

/-- **one loader step keeps "no value leads to entry code"**; values of the old heap that referred to allocated
    cells keep the property -/
theorem instStep_hp {Q : CHeap → CLambda → Prop} {h h' : CHeap} (st : InstStep Q h h') (g : HG h) (gr : GlobRoots h)
    (lf : LF h) (hp : HP h) (sm : Small h') :
    HP h' ∧ ∀ v, VRefsOk h v → neB h v = true → neB h' v = true := by
  obtain ⟨r, ne⟩ := instStep_hpf st g gr lf sm (fun _ _ ok _ => cellPB_eq h ▸ ok) (hp_iff.mp hp)
  exact ⟨hp_iff.mpr r, ne⟩

theorem immTF_congr {E E' : Nat → Bool} (bc : List VCell)
    (hb : ∀ y ∈ bcRefs true false (bc.map eraseV), E y = E' y) : immTF E bc = immTF E' bc :=
  immXF_congr (x := true) bc hb

/-- `cellTF` inspects only addresses the collector follows from the cell -/
theorem cellTF_congr {E E' P P' : Nat → Bool} (c : CCell)
    (hc : ∀ y ∈ crefs true (eraseC c), E y = E' y ∧ P y = P' y) : cellTF E P c = cellTF E' P' c := by
  rw [← Lead.cellXF_true]; exact cellXF_congr c hc

/-- **storing any cell — code included — in a fresh cell**: if the addresses the collector follows from the new
    content are allocated and none of its value positions designates a capturing lambda, `Taint.HP` is kept, and so is
    `neE` of the old values that referred to allocated cells -/
theorem cput_thp_any {h : CHeap} (g : HG h) (gr : GlobRoots h) (hp : Taint.HP h) {c : CCell} (hr : CRefsOk h c)
    (ok : cellEB h c = true) (sm : Small (cput h c).1) :
    Taint.HP (cput h c).1 ∧ ∀ v, VRefsOk h v → neE h v = true → neE (cput h c).1 v = true := by
  obtain ⟨r, ne⟩ := hpf_cput g gr (Taint.hp_iff.mp hp) hr ok sm
  exact ⟨Taint.hp_iff.mpr r, fun v hv hn => (ne v hv).trans hn⟩

/-- the new lambda cell satisfies `cellEB` by the `imm` clause of `LamEnvOk`, a data cell by `dataEB` -/
theorem instStep_thp {Q : CHeap → CLambda → Prop} (hQ : ∀ h cl, Q h cl → LamEnvOk h cl) {h h' : CHeap}
    (st : InstStep Q h h') (g : HG h) (gr : GlobRoots h) (lf : LF h) (hp : Taint.HP h) (sm : Small h') :
    Taint.HP h' ∧ ∀ v, VRefsOk h v → neE h v = true → neE h' v = true := by
  obtain ⟨r, ne⟩ := instStep_hpf (I := .cap) st g gr lf sm
    (fun c nc _ hd => by
      cases nc with
      | lambda q => exact (hQ _ _ q).imm
      | _ => exact hd)
    (Taint.hp_iff.mp hp)
  exact ⟨Taint.hp_iff.mpr r, ne⟩

end Marwood.Lemmas.Good
