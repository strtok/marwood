import Marwood.Lemmas.CompileCorrect
/-!
# T01.3 stage 1 — `RepData` / `RepLaws` instantiated for store-free values, from elementary heap laws

The values: booleans, `()`, the unspecified value, small integers, characters, strings, symbols, supported primitives.
`AtomLaws` ASSUMES, all about `HeapOps` fields: `heap.get` (`deref`) follows a pointer and is the identity elsewhere;
`CALL`'s dispatch (`callee`) sees a builtin or a pointer to one as that builtin; the global slots are a store sharing
nothing with heap cells and code; a supported primitive is first-order, its builtin is `generic`, and on represented
arguments `proc.eval` returns a representation of what `applyPrim1` returns, in a heap that keeps every
representation, the code, the invariant and the global bindings.
-/
namespace Marwood.Lemmas.CompileCorrect
open Marwood Marwood.Vm
open Marwood.Spec.Eval (Val Prim Cell evalN evalStep applyStep applyPrim1 evalArgs properList)

variable {H : Type}

/-- The opaque tags of `Machine.lean` for the scalar kinds, the builtin id of each supported primitive. No injectivity
    is asked: "`acc` represents `w`" says as much as the encoding distinguishes. -/
structure AtomEnc where
  int : Int → String
  char : Char → String
  str : Text → String
  sym : Text → String
  prim : Prim → Option Nat

def AtomEnc.cell (E : AtomEnc) : Val → Option VCell
  | .bool b => some (.bool b)
  | .nil => some .nil
  | .void => some .void
  | .int n => some (.opaque (E.int n))
  | .char c => some (.opaque (E.char c))
  | .str s => some (.opaque (E.str s))
  | .sym s => some (.opaque (E.sym s))
  | .prim p => (E.prim p).map VCell.builtin
  | _ => none

/-- flat or behind a pointer: `heap.maybe_put` leaves numbers, booleans, characters, `()` and void flat and allocates
    (or finds) a cell for the rest, `heap.put` always allocates -/
def atomVR (ops : HeapOps H) (E : AtomEnc) (h : H) (_S : Array Cell) (v : VCell) (w : Val) : Prop :=
  ∃ c, E.cell w = some c ∧ (v = c ∨ ∃ p, v = .ptr p ∧ ops.getAt h p = c)

structure AtomBase (ops : HeapOps H) where
  named : Text → Prop
  slot : Text → Nat
  Inv : H → Prop

def atomData (ops : HeapOps H) (E : AtomEnc) (B : AtomBase ops) : RepData ops :=
  { named := B.named, slot := B.slot, VR := atomVR ops E, SRx := fun h _ => B.Inv h }

structure AtomLaws (ops : HeapOps H) (E : AtomEnc) (B : AtomBase ops) : Prop where
  slot_inj : ∀ a b, B.named a → B.named b → B.slot a = B.slot b → a = b
  deref_ptr : ∀ h p, ops.deref h (.ptr p) = ops.getAt h p
  deref_imm : ∀ h v, (∀ p, v ≠ .ptr p) → ops.deref h v = v
  callee_imm : ∀ h id, ops.callee h (.builtin id) = .builtin id
  callee_ptr : ∀ h p id, ops.getAt h p = .builtin id → ops.callee h (.ptr p) = .builtin id
  glob_get_put : ∀ h x v m, B.Inv h → B.named x →
    ops.globGet (ops.globPut h (B.slot x) v) m = if m = B.slot x then v else ops.globGet h m
  globPut_inv : ∀ h n v, B.Inv h → B.Inv (ops.globPut h n v)
  globPut_getAt : ∀ h n v p, ops.getAt (ops.globPut h n v) p = ops.getAt h p
  globPut_isLambda : ∀ h n v l, ops.isLambda (ops.globPut h n v) l = ops.isLambda h l
  globPut_fetch : ∀ h n v l o, ops.fetch (ops.globPut h n v) l o = ops.fetch h l o
  /-- no call back into the evaluator -/
  prim_fo : ∀ p id, E.prim p = some id →
    p ≠ .apply ∧ p ≠ .eval ∧ p ≠ .force ∧ p ≠ .map ∧ p ≠ .forEach
  builtin : ∀ h (σ : SSt) p id vs ws w (σ' : SSt) l, SR (atomData ops E B) h σ → E.prim p = some id →
    All2 (atomVR ops E h σ.store) vs ws → applyPrim1 p ws σ = .ok w σ' →
    ops.builtinKind h id = .generic ∧
    ∃ h' r, builtinResult ops h id vs.reverse = .ok (h', r) ∧ atomVR ops E h' σ'.store r w ∧
      SR (atomData ops E B) h' σ' ∧ Evolves (atomData ops E B) l h σ.store h' σ'.store

variable {ops : HeapOps H} {E : AtomEnc}

theorem cell_not_ptr {w : Val} {c : VCell} (h : E.cell w = some c) : ∀ p, c ≠ .ptr p := by
  intro p e; subst e
  cases w <;> simp [AtomEnc.cell] at h

theorem cell_ne_undefined {w : Val} {c : VCell} (h : E.cell w = some c) : c ≠ .undefined := by
  intro e; subst e
  cases w <;> simp [AtomEnc.cell] at h

theorem cell_false_iff {w : Val} {c : VCell} (h : E.cell w = some c) : c = .bool false ↔ w = .bool false := by
  cases w <;> simp [AtomEnc.cell] at h <;> first
    | (subst h; simp)
    | (obtain ⟨a, _, rfl⟩ := h; simp)

theorem applyStep_prim_fo (r : Spec.Eval.Rec) (p : Prim) (args : List Val)
    (h : p ≠ .apply ∧ p ≠ .eval ∧ p ≠ .force ∧ p ≠ .map ∧ p ≠ .forEach) :
    applyStep r (.prim p) args = applyPrim1 p args := by
  obtain ⟨h1, h2, h3, h4, h5⟩ := h
  cases p <;>
    first
    | rfl
    | exact absurd rfl h1
    | exact absurd rfl h2
    | exact absurd rfl h3
    | exact absurd rfl h4
    | exact absurd rfl h5

theorem atomLaws_repLaws {B : AtomBase ops} (A : AtomLaws ops E B) : RepLaws (atomData ops E B) where
  slot_inj := A.slot_inj
  glob_get_put := fun h _ x v m hi hn => A.glob_get_put h x v m hi hn
  globPut_isLambda := A.globPut_isLambda
  globPut_fetch := A.globPut_fetch
  globPut_VR := by
    intro h n u S v w ⟨c, hc, hv⟩
    refine ⟨c, hc, ?_⟩
    rcases hv with hv | ⟨p, hp, hg⟩
    · exact .inl hv
    · exact .inr ⟨p, hp, by rw [A.globPut_getAt]; exact hg⟩
  globPut_SRx := fun h n u _ hi => A.globPut_inv h n u hi
  truth := by
    intro h S v w ⟨c, hc, hv⟩
    rcases hv with rfl | ⟨p, rfl, hg⟩
    · rw [A.deref_imm h v (cell_not_ptr hc)]; exact cell_false_iff hc
    · rw [A.deref_ptr, hg]; exact cell_false_iff hc
  ne_undefined := by
    intro h S v w ⟨c, hc, hv⟩
    rcases hv with rfl | ⟨p, rfl, _⟩
    · exact cell_ne_undefined hc
    · intro e; cases e
  void := fun h S => ⟨.void, rfl, .inl rfl⟩
  call := by
    intro n h σ vf f vs ws w σ' l hsr ⟨c, hc, hv⟩ hvs hap
    cases n with
    | zero => cases hap
    | succ n =>
      change applyStep (evalN n) f ws σ = _ at hap
      cases f with
      | prim p =>
        simp only [AtomEnc.cell, Option.map_eq_some_iff] at hc
        obtain ⟨id, hid, rfl⟩ := hc
        rw [applyStep_prim_fo _ _ _ (A.prim_fo p id hid)] at hap
        obtain ⟨hk, h', r, hres, hvr, hsr', hev⟩ := A.builtin h σ p id vs ws w σ' l hsr hid hvs hap
        refine ⟨id, h', r, ?_, hk, hres, hvr, hsr', hev⟩
        rcases hv with rfl | ⟨q, rfl, hg⟩
        · exact A.callee_imm h id
        · exact A.callee_ptr h q id hg
      | _ => first | cases hap | (simp [AtomEnc.cell] at hc; done)

/-- **Compiler correctness for the closure-free fragment over store-free values**: `compileExpr_correct`
    with the explicit representation `atomData`, under the elementary assumptions `AtomLaws`. -/
theorem compileExpr_correct_atoms {B : AtomBase ops} (A : AtomLaws ops E B)
    (fuel : Nat) (cst : CState) (base : Nat) (tail : Bool) (e : Datum)
    (cst' : CState) (code : List BC) (hf : Frag e)
    (hcomp : compileExpr fuel cst c0 base tail e = .ok (cst', code))
    (n : Nat) (σ : SSt) (w : Val) (σ' : SSt) (hev : (evalN n).eval e [] σ = .ok w σ')
    (s : MSt H) (hc : CodeAt (atomData ops E B) s.heap σ.store s.ipL base code) (hip : s.ipO = base)
    (hsr : SR (atomData ops E B) s.heap σ) (hw : SWF s.stack) :
    ∃ s', ExprRun (atomData ops E B) s code.length σ σ' w s' :=
  compileExpr_correct (atomLaws_repLaws A) fuel cst base tail e cst' code hf hcomp n σ w σ' hev s hc hip hsr hw

theorem compileDefine_correct_atoms {B : AtomBase ops} (A : AtomLaws ops E B)
    (fuel : Nat) (cst : CState) (base : Nat) (tail : Bool) (x : Text) (e : Datum)
    (cst' : CState) (code : List BC) (hfe : Frag e)
    (hcomp : compileExpr fuel cst c0 base tail
      (.pair (.sym Spec.Eval.k_define) (.pair (.sym x) (.pair e .nil))) = .ok (cst', code))
    (n : Nat) (σ : SSt) (w : Val) (σ' : SSt)
    (hev : Spec.Eval.evalTopForm (evalN n)
      (.pair (.sym Spec.Eval.k_define) (.pair (.sym x) (.pair e .nil))) σ = .ok w σ')
    (s : MSt H) (hc : CodeAt (atomData ops E B) s.heap σ.store s.ipL base code) (hip : s.ipO = base)
    (hsr : SR (atomData ops E B) s.heap σ) (hw : SWF s.stack) :
    ∃ s', ExprRun (atomData ops E B) s code.length σ σ' w s' :=
  compileDefine_correct (atomLaws_repLaws A) fuel cst base tail x e cst' code hfe hcomp n σ w σ' hev s hc hip
    hsr hw

end Marwood.Lemmas.CompileCorrect
