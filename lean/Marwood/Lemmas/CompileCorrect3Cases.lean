import Marwood.Lemmas.CompileCorrect3Aux
import Marwood.Lemmas.CompileCorrect3Spec
import Marwood.Lemmas.CompileSimApp
import Marwood.Lemmas.CompileCorrect2Shape
/-!
# T01.3 stage 3 — the stage as an instance of `CompileSim`; constants, variables, the store half of `set!`

`Ret3`, `Out3`, `CallOK3`, `ErrRun3`, `ErrLaws3`, `CallErr3` are the vocabulary of the stage-3 theorems; `rel3` puts the
stage-3 relations into a `CompileSim.Rel`, `exprOut3_ok` / `exprOut3_err` read an `ExprOut` of it as those statements.
-/
namespace Marwood.Lemmas.CompileCorrect3
open Marwood Marwood.Vm Marwood.Lemmas.CompileCorrect Marwood.Lemmas.CompileCorrect2 Marwood.Lemmas.CompileSim
open Marwood.Spec.Eval (Val Prim Cell Env ErrClass Res evalN evalStep applyStep evalArgs properList quoteVal kwOf insertG
  k_quote k_if_ k_setBang k_define k_lambda)

variable {H : Type} {ops : HeapOps H} {D : RepData2 ops}

/-- after a tail call: the state the `RET` of the current activation would have left -/
structure Ret3 (D : RepData2 ops) (W' : World) (s : MSt H) (σ σ' : SSt) (w : Val) (fr : Frame) (s' : MSt H) :
    Prop where
  steps : Steps ops s s'
  ipL : s'.ipL = fr.lc
  ipO : s'.ipO = fr.oc
  ep : s'.ep = fr.epc
  bp : s'.bp = fr.bpc
  stack : LiveEq fr.st0 s'.stack
  swf : SWF s'.stack
  acc : VR3 D W' s'.heap σ'.store s'.acc w
  inv : Inv3 D W' s'.heap σ'
  ext : Ext3 D s.heap σ.store s'.heap σ'.store

def Out3 (D : RepData2 ops) (W' : World) (s : MSt H) (len : Nat) (σ σ' : SSt) (w : Val) (tail : Bool) (fr : Frame)
    (s' : MSt H) : Prop :=
  Run3 D W' s len σ σ' w s' ∨ (tail = true ∧ Ret3 D W' s σ σ' w fr s')

/-- from the state `CALL` leaves (operands, count, `%ep`, return address pushed; `ip` at the start of the lambda) to
    the state `RET` leaves -/
def CallOK3 (D : RepData2 ops) (n : Nat) : Prop :=
  ∀ ps rest body ρc ws (σ : SSt) w (σ' : SSt), (evalN n).apply (.closure ps rest body ρc) ws σ = .ok w σ' →
  ∀ (W : World) (s : MSt H) lam cenv vs st0 epc lc oc, ops.callee s.heap s.acc = .closure lam cenv →
    ClosOK3 D W s.heap lam cenv ps rest body ρc → Inv3 D W s.heap σ → All2 (VR3 D W s.heap σ.store) vs ws →
    s.ipL = lam → s.ipO = 0 → LiveEq (callFrame st0 vs epc lc oc) s.stack → SWF st0 → SWF s.stack →
  ∃ W' s', W.le W' ∧ Steps ops s s' ∧ s'.ipL = lc ∧ s'.ipO = oc ∧ s'.ep = epc ∧ s'.bp = s.bp ∧
    LiveEq st0 s'.stack ∧ SWF s'.stack ∧ VR3 D W' s'.heap σ'.store s'.acc w ∧ Inv3 D W' s'.heap σ' ∧
    Ext3 D s.heap σ.store s'.heap σ'.store

theorem Run3.append {W1 W2 : World} {s s1 s2 : MSt H} {len1 len2 : Nat} {σ σ1 σ2 : SSt} {v w : Val}
    (r1 : Run3 D W1 s len1 σ σ1 v s1) (r2 : Run3 D W2 s1 len2 σ1 σ2 w s2) :
    Run3 D W2 s (len1 + len2) σ σ2 w s2 :=
  ⟨r1.steps.trans r2.steps, r2.ipL.trans r1.ipL, by rw [r2.ipO, r1.ipO, Nat.add_assoc],
   r2.bp.trans r1.bp, r2.ep.trans r1.ep, r1.stack.trans r2.stack, r2.swf, r2.acc, r2.inv, r1.ext.trans r2.ext⟩

structure ErrRun3 (D : RepData2 ops) (W' : World) (s : MSt H) (base : Stack) (σ σ' : SSt) (c : ErrClass)
    (sf : MSt H) (e' : Err) : Prop where
  steps : Steps ops s sf
  fails : step ops sf = .err e'
  cls : machClass e' = specClass c
  stack : StackExt base sf.stack
  swf : SWF sf.stack
  inv : Inv3 D W' sf.heap σ'
  ext : Ext3 D s.heap σ.store sf.heap σ'.store

/-- the ASSUMED laws of the error case -/
structure ErrLaws3 (D : RepData2 ops) : Prop where
  /-- a failing first-order primitive is a generic builtin that fails with the same class, on the same heap -/
  call_err : ∀ n W h (σ : SSt) vf p vs ws c (σ' : SSt), Inv3 D W h σ → D.VR h σ.store vf (.prim p) →
    All2 (VR3 D W h σ.store) vs ws → (evalN n).apply (.prim p) ws σ = .err c σ' → c ≠ .syntax →
    ∃ id e', ops.callee h vf = .builtin id ∧ ops.builtinKind h id = .generic ∧
      builtinResult ops h id vs.reverse = .err e' ∧ machClass e' = specClass c ∧
      Inv3 D W h σ' ∧ Ext3 D h σ.store h σ'.store
  callee_other : ∀ h S v w, D.VR h S v w → (∀ p, w ≠ .prim p) → ops.callee h v = .other
  /-- `VR3.pair`: the lists `VARARG` builds -/
  pair_other : ∀ h v a d, ops.deref h v = .pair a d → ops.callee h v = .other

def CallErr3 (D : RepData2 ops) (n : Nat) : Prop :=
  ∀ ps rest body ρc ws (σ : SSt) cl (σ' : SSt), (evalN n).apply (.closure ps rest body ρc) ws σ = .err cl σ' →
  cl ≠ .syntax →
  ∀ (W : World) (s : MSt H) lam cenv vs st0 epc lc oc, ops.callee s.heap s.acc = .closure lam cenv →
    ClosOK3 D W s.heap lam cenv ps rest body ρc → Inv3 D W s.heap σ → All2 (VR3 D W s.heap σ.store) vs ws →
    s.ipL = lam → s.ipO = 0 → LiveEq (callFrame st0 vs epc lc oc) s.stack → SWF st0 → SWF s.stack →
  ∃ W' sf e', W.le W' ∧ ErrRun3 D W' s st0 σ σ' cl sf e'

-- `@[reducible]` (also `crel3`): the `CompileSim` lemmas speak through the projections `R.VR`, `R.Inv`, …, which unify
-- with `VR3 D`, `Inv3 D`, … only if `rel3 D` unfolds at reducible transparency
@[reducible] def rel3 (D : RepData2 ops) : Rel ops D where
  VR := VR3 D
  Inv := Inv3 D
  Ext := Ext3 D
  ER := EnvRep3 ops
  Frag := F3 D.setG
  ELaws := ErrLaws3 D

@[reducible] def crel3 (D : RepData2 ops) : CRel ops D where
  toRel := rel3 D
  Clos := ClosOK3 D

theorem extLaws3 : ExtLaws (rel3 D) where
  ext_refl := Ext3.refl
  ext_trans := Ext3.trans
  ext2 := Ext3.toExt2
  er_ext := EnvRep3.ext

theorem run3_iff {W' : World} {s s' : MSt H} {len : Nat} {σ σ' : SSt} {w : Val} :
    Run (rel3 D) W' s len σ σ' w s' ↔ Run3 D W' s len σ σ' w s' :=
  ⟨fun ⟨a, b, c, d, e, f, g, h, i, j⟩ => ⟨a, b, c, d, e, f, g, h, i, j⟩,
   fun ⟨a, b, c, d, e, f, g, h, i, j⟩ => ⟨a, b, c, d, e, f, g, h, i, j⟩⟩

theorem ret3_iff {W' : World} {s s' : MSt H} {σ σ' : SSt} {w : Val} {fr : Frame} :
    Ret (rel3 D) W' s σ σ' w fr s' ↔ Ret3 D W' s σ σ' w fr s' :=
  ⟨fun ⟨a, b, c, d, e, f, g, h, i, j⟩ => ⟨a, b, c, d, e, f, g, h, i, j⟩,
   fun ⟨a, b, c, d, e, f, g, h, i, j⟩ => ⟨a, b, c, d, e, f, g, h, i, j⟩⟩

theorem errRun3_iff {W' : World} {s sf : MSt H} {base : Stack} {σ σ' : SSt} {c : ErrClass} {e' : Err} :
    CompileSim.ErrRun (rel3 D) W' s base σ σ' c sf e' ↔ ErrRun3 D W' s base σ σ' c sf e' :=
  ⟨fun ⟨a, b, c, d, e, f, g⟩ => ⟨a, b, c, d, e, f, g⟩, fun ⟨a, b, c, d, e, f, g⟩ => ⟨a, b, c, d, e, f, g⟩⟩

theorem exprOut3_ok {W : World} {s : MSt H} {len : Nat} {σ σ' : SSt} {w : Val} {tail : Bool} {fr : Frame} :
    ExprOut (rel3 D) W s len σ tail fr (.ok w σ') ↔ ∃ W' s', W.le W' ∧ Out3 D W' s len σ σ' w tail fr s' :=
  ⟨fun ⟨W', s', hw, o⟩ => ⟨W', s', hw, o.imp run3_iff.mp (And.imp_right ret3_iff.mp)⟩,
    fun ⟨W', s', hw, o⟩ => ⟨W', s', hw, o.imp run3_iff.mpr (And.imp_right ret3_iff.mpr)⟩⟩

theorem exprOut3_err {W : World} {s : MSt H} {len : Nat} {σ σ' : SSt} {cl : ErrClass} {tail : Bool} {fr : Frame} :
    ExprOut (rel3 D) W s len σ tail fr (.err cl σ') ↔
      (ErrLaws3 D → cl ≠ .syntax → ∃ W' sf e', W.le W' ∧ ErrRun3 D W' s (errBase tail s fr) σ σ' cl sf e') :=
  ⟨fun h LE hcs => let ⟨W', sf, e', hw, r⟩ := h LE hcs; ⟨W', sf, e', hw, errRun3_iff.mp r⟩,
    fun h LE hcs => let ⟨W', sf, e', hw, r⟩ := h LE hcs; ⟨W', sf, e', hw, errRun3_iff.mpr r⟩⟩

theorem F3L.toFragL {f : Nat} {c : Ctx} {ns us : Text → Prop} :
    ∀ {d : Datum}, F3L D.setG f c ns us d → FragL (rel3 D) f c ns us d := by
  induction f with
  | zero => intro d h; cases h
  | succ f ih =>
    intro d h
    cases h with
    | nil => exact .nil
    | cons a d ha hd => exact .cons a d ha (ih hd)

theorem run3_quote (L : Laws3 D) {em : List (Text × Source)} {W : World} {s : MSt H} {σ σ' : SSt} {w : Val}
    {d : Datum} (hq : quoteVal d σ = .ok w σ')
    (hc : CodeAt2 D em s.heap σ.store s.ipL s.ipO [.op .movImm, .datum d, .acc])
    (hi : Inv3 D W s.heap σ) (hw : SWF s.stack) :
    ∃ s', Run3 D W s 3 σ σ' w s' := by
  obtain ⟨v, hf, hl⟩ := hc.2 1 (.datum d) rfl
  have hs := step_movImm_acc hc.1 (hc.op 0 rfl) hf hl.1 (hc.accCell 2 rfl)
  obtain ⟨hvr, eff⟩ := quote_rep (quoteLaws_of3 L) hl.2 hq
  have hse := StoreExt.ofStorePrefix eff.store
  have hx := Ext3.storeOnly L s.heap hse
  have hinv : Inv3 D W s.heap σ' :=
    hi.frame hx (L.srx_store _ _ _ hse hi.extra) eff.globals (fun _ => rfl) (fun e n l hW => ⟨rfl, by
      obtain ⟨_, u, _, _, h3, _⟩ := hi.vars e n l hW
      rw [eff.store l _ h3, h3]⟩)
  exact ⟨_, ⟨Steps.one hs, rfl, rfl, rfl, rfl, LiveEq.refl _, hw, .base hvr, hinv, hx⟩⟩

theorem quote_res3 (L : Laws3 D) {em : List (Text × Source)} {W : World} {s : MSt H} {σ : SSt} {d : Datum} {tail : Bool}
    {fr : Frame} (hc : CodeAt2 D em s.heap σ.store s.ipL s.ipO [.op .movImm, .datum d, .acc])
    (hi : Inv3 D W s.heap σ) (hw : SWF s.stack) : ExprOut (rel3 D) W s 3 σ tail fr (quoteVal d σ) := by
  cases hq : quoteVal d σ with
  | timeout => trivial
  | ok w σ' =>
    obtain ⟨s', r⟩ := run3_quote L hq hc hi hw
    exact ⟨W, s', World.le_refl _, .inl (run3_iff.mpr r)⟩
  | err cl σ' => exact fun _ hcs => absurd ((quoteVal_err_syntax d).1 _ _ _ hq) hcs

theorem sym_res3 (L : Laws3 D) {f : Nat} {cst cst' : CState} {c : Ctx} {base : Nat} {tail : Bool} {x : Text}
    {code : List BC} {ρ : Env} {us : Text → Prop} (hsc : inEnv c x = true ↔ bound ρ x) (hus : ¬ us x) (hcx : CtxOK c)
    (hcomp : compileExpr (f + 1) cst c base tail (.sym x) = .ok (cst', code)) {r : Spec.Eval.Rec} {σ : SSt}
    {W : World} {s : MSt H} {fr : Frame} (hc : CodeAt2 D c.envmap s.heap σ.store s.ipL base code) (hip : s.ipO = base)
    (hi : Inv3 D W s.heap σ) (her : EnvRep3 ops W s.heap c s.ep ρ us) (hw : SWF s.stack)
    (hfr : tail = true → FrameAt s.stack s.bp fr) :
    ExprOut (rel3 D) W s code.length σ tail fr (evalStep r (.sym x) ρ σ) := by
  obtain ⟨rfl, _⟩ := compile_sym_inv2 hcomp
  subst hip
  rw [evalStep_sym]
  split
  · exact fun _ hcs => absurd rfl hcs
  cases hl : ρ.lookup x with
  | some l =>
    have hin : inEnv c x = true := hsc.mpr (by simp [bound, hl])
    rw [emitLoc_env hin] at hc
    obtain ⟨j, hj, hf1⟩ := hc.envCell 1 rfl
    obtain ⟨e, n, l', hd, hl', hW, hini⟩ := her x j hj
    rw [hl] at hl'; cases hl'
    obtain ⟨v, w, h1, h2, h3, h4⟩ := hi.vars e n l hW
    obtain ⟨v', g1, _, g2⟩ := hini hus
    rw [h1] at g1; cases g1
    have hs := step_mov_env_acc hc.1 (hc.op 0 rfl) hf1 (hc.accCell 2 rfl) hd h1 h2
    simp only [h3]
    exact ⟨W, _, World.le_refl _, .inl ⟨Steps.one hs, rfl, rfl, rfl, rfl, LiveEq.refl _, hw, h4 g2, hi, Ext3.refl _ _⟩⟩
  | none =>
    have hin : inEnv c x = false := by
      cases hb : inEnv c x with
      | false => rfl
      | true => have := hsc.mp hb; simp [bound, hl] at this
    rw [emitLoc_glob hcx hin] at hc
    cases hg : σ.globals.lookup x with
    | some w =>
      have hv := hi.bound x w (hc.globalCell 1 rfl).1 hg
      have hs := step_mov_glob_acc hc.1 (hc.op 0 rfl) (hc.globalCell 1 rfl).2 (VR3.ne_undefined L hv)
        (hc.accCell 2 rfl)
      exact ⟨W, _, World.le_refl _, .inl ⟨Steps.one hs, rfl, rfl, rfl, rfl, LiveEq.refl _, hw, hv, hi, Ext3.refl _ _⟩⟩
    | none =>
      intro _ _
      have hu := hi.unbound x (hc.globalCell 1 rfl).1 hg
      have hs := step_mov_glob_unbound hc.1 (hc.op 0 rfl) (hc.globalCell 1 rfl).2 hu
      exact ⟨W, s, _, World.le_refl _, ⟨.refl _, hs, rfl, errBase_le hfr, hw, hi, Ext3.refl _ _⟩⟩

theorem Inv3.lt_size {W : World} {h : H} {σ : SSt} {c : Ctx} {ep : Nat} {ρ : Env} {us : Text → Prop} {x : Text} {l : Nat}
    (hi : Inv3 D W h σ) (her : EnvRep3 ops W h c ep ρ us) (hin : inEnv c x = true) (hl : ρ.lookup x = some l) :
    l < σ.store.size := by
  obtain ⟨j, hj⟩ := (slotIdx_some_iff_inEnv c x).mp hin
  obtain ⟨e, n, l', _, hl', hW, _⟩ := her x j hj
  rw [hl] at hl'; cases hl'
  obtain ⟨_, _, _, _, h3, _⟩ := hi.vars e n l hW
  exact lt_size_of_get h3

theorem Denotes.func {h : H} {ep j e n e' n' : Nat} (h1 : Denotes ops h ep j e n) (h2 : Denotes ops h ep j e' n') :
    e = e' ∧ n = n' := by
  rcases h1 with p1 | ⟨rfl, rfl, v1, g1, q1⟩ <;> rcases h2 with p2 | ⟨rfl, rfl, v2, g2, q2⟩
  · rw [p1] at p2; cases p2; exact ⟨rfl, rfl⟩
  · rw [p1] at g2; cases g2; cases q2
  · rw [p2] at g1; cases g1; cases q1
  · exact ⟨rfl, rfl⟩

/-- needs only `SRx`, not `Inv3`: `block_step_core` runs it inside a block -/
theorem store_core (L : Laws3 D) {c : Ctx} {s : MSt H} {S : Array Cell} {x : Text} {j e n : Nat} {old : VCell}
    (hj : slotIdx c.envmap x = some j) (hin : inEnv c x = true)
    (hc : CodeAt2 D c.envmap s.heap S s.ipL s.ipO [.op .mov, .acc, emitLoc c x, .op .movImm, .void, .acc])
    (hd : Denotes ops s.heap s.ep j e n) (hsrx : D.SRx s.heap S) (hnok : ¬ D.envOK s.heap e)
    (hold : ops.envGet s.heap e n = some old) (hnp : isEnvPtr old = false)
    (ha1 : isEnvPtr s.acc = false) (ha2 : s.acc ≠ .undefined) :
    ∃ h', Steps ops s { s with heap := h', acc := .void, ipO := s.ipO + 3 + 3 } ∧ Ext3 D s.heap S h' S ∧
      D.SRx h' S ∧
      (∀ e' k', ops.envGet h' e' k' = if e' = e ∧ k' = n then some s.acc else ops.envGet s.heap e' k') ∧
      ∀ m, ops.globGet h' m = ops.globGet s.heap m := by
  rw [emitLoc_env hin] at hc
  obtain ⟨j', hj', hf2⟩ := hc.envCell 2 rfl
  rw [hj] at hj'; cases hj'
  obtain ⟨h', hput, hext, hsrx', hget, hglob⟩ := L.envPut_ok s.heap S e n old s.acc hsrx hnok hold hnp ha1 ha2
  have hs1 := step_mov_acc_env hc.1 (hc.op 0 rfl) (hc.accCell 1 rfl) hf2 hd hput
  have hc2 : CodeAt2 D c.envmap h' S s.ipL (s.ipO + 3) [.op .movImm, .void, .acc] :=
    (CodeAt2.right (a := [.op .mov, .acc, .envSlot x]) hc).ext hext.toExt2
  have hs2 := run2_movImm_void (s := { s with heap := h', ipO := s.ipO + 3 }) hc2
  exact ⟨h', .cons hs1 (Steps.one hs2), hext, hsrx', hget, hglob⟩

theorem run3_store_lex (L : Laws3 D) {c : Ctx} {W : World} {s : MSt H} {σ : SSt} {w : Val} {x : Text} {ρ : Env}
    {us : Text → Prop} {l : Nat} (hin : inEnv c x = true) (hl : ρ.lookup x = some l) (hlt : l < σ.store.size)
    (hc : CodeAt2 D c.envmap s.heap σ.store s.ipL s.ipO [.op .mov, .acc, emitLoc c x, .op .movImm, .void, .acc])
    (hacc : VR3 D W s.heap σ.store s.acc w) (hi : Inv3 D W s.heap σ) (her : EnvRep3 ops W s.heap c s.ep ρ us)
    (hw : SWF s.stack) :
    ∃ s', Run3 D W s 6 σ { σ with store := σ.store.setIfInBounds l (.var w) } .void s' ∧
      ∀ j e n, slotIdx c.envmap x = some j → Denotes ops s.heap s.ep j e n → InitM ops s'.heap e n := by
  obtain ⟨j, hj⟩ := (slotIdx_some_iff_inEnv c x).mp hin
  obtain ⟨e, n, l', hd, hl', hW, _⟩ := her x j hj
  rw [hl] at hl'; cases hl'
  obtain ⟨old, wold, h1, h2, h3, _⟩ := hi.vars e n l hW
  obtain ⟨h', hsteps, hext, hsrx, hget, hglob⟩ := store_core L hj hin hc hd hi.extra (hi.wact e n l hW) h1 h2
    (VR3.not_envptr L hacc) (VR3.ne_undefined L hacc)
  have hse : StoreExt σ.store (σ.store.setIfInBounds l (.var w)) := StoreExt.setVar _ _ _ _ h3
  have hx2 : Ext3 D s.heap σ.store h' (σ.store.setIfInBounds l (.var w)) := hext.trans (Ext3.storeOnly L h' hse)
  refine ⟨_, ⟨hsteps, rfl, rfl, rfl, rfl, LiveEq.refl _, hw, VR3.void L _ _ _, ?_, hx2⟩, ?_⟩
  rotate_left
  · intro j' e' n' hj' hd'
    rw [hj] at hj'; cases hj'
    obtain ⟨rfl, rfl⟩ := Denotes.func hd hd'
    exact ⟨s.acc, by show ops.envGet h' _ _ = _; rw [hget]; simp, VR3.not_envptr L hacc, VR3.ne_undefined L hacc⟩
  refine ⟨fun y u hn hy => ?_, fun y hn hy => ?_, L.srx_store _ _ _ hse hsrx, hi.gset, hi.loaded.ext hx2.toExt2, hi.wfun,
    hi.winj, fun e' n' l' hW' => ?_, fun e' n' l' hW' ok => ?_⟩
  rotate_right
  · obtain ⟨v, _, g1, _⟩ := hi.vars e' n' l' hW'
    exact hi.wact e' n' l' hW' (hx2.okBack e' n' v g1 ok)
  · show VR3 D W h' _ (ops.globGet h' _) u
    rw [hglob]; exact (hi.bound y u hn hy).mono hx2 (World.le_refl _)
  · show ops.globGet h' _ = _
    rw [hglob]; exact hi.unbound y hn hy
  · show ∃ v u, ops.envGet h' e' n' = some v ∧ _ ∧ (σ.store.setIfInBounds l (.var w))[l']? = _ ∧ _
    by_cases hsame : e' = e ∧ n' = n
    · obtain ⟨rfl, rfl⟩ := hsame
      have : l' = l := hi.wfun _ _ _ _ hW' hW
      subst this
      refine ⟨s.acc, w, by rw [hget]; simp, VR3.not_envptr L hacc, by simp [hlt],
        fun _ => hacc.mono hx2 (World.le_refl _)⟩
    · obtain ⟨v, u, g1, g2, g3, g4⟩ := hi.vars e' n' l' hW'
      have hne : l ≠ l' := by
        intro e0; subst e0
        exact hsame (hi.winj _ _ _ _ _ hW' hW)
      refine ⟨v, u, by rw [hget]; simp [hsame, g1], g2, by simp [hne, g3],
        fun hv => (g4 hv).mono hx2 (World.le_refl _)⟩

theorem run3_store_glob (L : Laws3 D) {c : Ctx} {W : World} {s : MSt H} {σ : SSt} {w : Val} {x : Text}
    (hcx : CtxOK c) (hin : inEnv c x = false)
    (hc : CodeAt2 D c.envmap s.heap σ.store s.ipL s.ipO [.op .mov, .acc, emitLoc c x, .op .movImm, .void, .acc])
    (hacc : VR3 D W s.heap σ.store s.acc w) (hi : Inv3 D W s.heap σ) (hw : SWF s.stack) :
    ∃ s', Run3 D W s 6 σ { σ with globals := insertG x w σ.globals } .void s' := by
  rw [emitLoc_glob hcx hin] at hc
  obtain ⟨hnx, hf2⟩ := hc.globalCell 2 rfl
  have hs1 := step_mov_acc_glob hc.1 (hc.op 0 rfl) (hc.accCell 1 rfl) hf2
  obtain ⟨hext, hsrx, henv⟩ := L.globPut_ext s.heap σ.store (D.slot x) s.acc hi.extra
  have hc2 : CodeAt2 D c.envmap (ops.globPut s.heap (D.slot x) s.acc) σ.store s.ipL (s.ipO + 3)
      [.op .movImm, .void, .acc] :=
    (CodeAt2.right (a := [.op .mov, .acc, .global x]) hc).ext hext.toExt2
  have hs2 := run2_movImm_void (s := { s with heap := ops.globPut s.heap (D.slot x) s.acc, ipO := s.ipO + 3 }) hc2
  refine ⟨_, ⟨.cons hs1 (Steps.one hs2), rfl, rfl, rfl, rfl, LiveEq.refl _, hw, VR3.void L _ _ _, ?_, hext⟩⟩
  have g := globals_insert (w := w) (G := σ.globals) (fun _ hy e => L.slot_inj _ _ hy hnx e)
    (L.glob_get_put s.heap σ.store x s.acc · hi.extra hnx)
    (fun a b (r : VR3 D W s.heap σ.store a b) => r.mono hext (World.le_refl _)) (hacc.mono hext (World.le_refl _))
    hi.bound hi.unbound
  refine ⟨g.1, g.2, hsrx, fun y hy => ?_, hi.loaded.ext hext.toExt2, hi.wfun, hi.winj, fun e' n' l' hW' => ?_,
    fun e' n' l' hW' ok => ?_⟩
  · show (insertG x w σ.globals).lookup y ≠ none
    rw [Spec.Eval.lookup_insertG]
    split
    · simp
    · exact hi.gset y hy
  · obtain ⟨v, u, g1, g2, g3, g4⟩ := hi.vars e' n' l' hW'
    exact ⟨v, u, by rw [henv]; exact g1, g2, g3, fun hv => (g4 hv).mono hext (World.le_refl _)⟩
  · obtain ⟨v, _, g1, _⟩ := hi.vars e' n' l' hW'
    exact hi.wact e' n' l' hW' (hext.okBack e' n' v g1 ok)

theorem store3 (L : Laws3 D) {c : Ctx} {x : Text} {ρ : Env} {us : Text → Prop} {W : World} {s : MSt H} {σ : SSt} {w : Val}
    (hcx : CtxOK c) (hsc : inEnv c x = true ↔ bound ρ x) (hG : ¬ bound ρ x → D.setG x)
    (hc : CodeAt2 D c.envmap s.heap σ.store s.ipL s.ipO [.op .mov, .acc, emitLoc c x, .op .movImm, .void, .acc])
    (hacc : VR3 D W s.heap σ.store s.acc w) (hi : Inv3 D W s.heap σ) (her : EnvRep3 ops W s.heap c s.ep ρ us)
    (hw : SWF s.stack) :
    ∃ σ', Spec.Eval.assignVar ρ x w σ = .ok () σ' ∧ ∃ s', Run3 D W s 6 σ σ' .void s' := by
  cases hl : ρ.lookup x with
  | some l =>
    have hin : inEnv c x = true := hsc.mpr (by simp [bound, hl])
    have hlt : l < σ.store.size := hi.lt_size her hin hl
    obtain ⟨s', r, _⟩ := run3_store_lex L hin hl hlt hc hacc hi her hw
    exact ⟨_, assignVar_lex w hl hlt, s', r⟩
  | none =>
    have hnb : ¬ bound ρ x := by simp [bound, hl]
    have hin : inEnv c x = false := by
      cases hb : inEnv c x with
      | false => rfl
      | true => exact absurd (hsc.mp hb) hnb
    cases hg : σ.globals.lookup x with
    | none => exact absurd hg (hi.gset x (hG hnb))
    | some old =>
      exact ⟨_, by simp only [Spec.Eval.assignVar, hl, Spec.Eval.setGlobal, hg],
        run3_store_glob L hcx hin hc hacc hi hw⟩

theorem claws3 (L : Laws3 D) : CLaws (crel3 D) where
  toExtLaws := extLaws3
  truth := VR3.truth L
  void := VR3.void L
  vr_mono := VR3.mono
  vr_clos := VR3.closure_inv L
  store := fun hcx hsc hG hc hacc hi her hw =>
    let ⟨σ', h1, s', h2⟩ := store3 L hcx hsc hG hc hacc hi her hw; ⟨σ', h1, s', run3_iff.mpr h2⟩
  call := fun hi hvf hvs hap => L.call _ _ _ _ _ _ _ _ _ _ hi (VR3.prim_inv L hvf).1 hvs hap
  call_err := fun LE _ _ _ _ _ _ _ _ _ _ hi hvf hvs hap hcs =>
    LE.call_err _ _ _ _ _ _ _ _ _ _ hi (VR3.prim_inv L hvf).1 hvs hap hcs
  callee_other := fun LE _ _ _ _ _ hv hp hc => by
    cases hv with
    | base hb => exact LE.callee_other _ _ _ _ hb hp
    | clos _ _ => exact absurd rfl (hc _ _ _ _)
    | pair _ hd _ _ => exact LE.pair_other _ _ _ _ hd

end Marwood.Lemmas.CompileCorrect3
