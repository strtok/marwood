import Marwood.Lemmas.ContResumeStep
/-!
# A concrete machine that really captures and re-enters a continuation (non-vacuity of C05)

Heap = the one continuation slot (`Option Cont`; the cell `Continuation(0)` refers to it). Code:
* 20 — entry code `PUSHIMM c6; PUSHIMM argc1; MOVIMM call/cc acc; CALL; HALT`   — `(call/cc c6)`
* 8  — `ENTER; MOVIMM void acc; RET`   — the receiver `c6 = closure of λ8` (one parameter, returns)
* 21 — entry code `PUSHIMM "v"; PUSHIMM argc1; MOVIMM k acc; CALL; HALT`   — a later evaluation: `(k "v")`

`builtinKind _ _ := .callcc`: the only builtin cell in the code, `builtin 9`, is `call/cc` (`procedure.rs: call_cc`).
`ep := usizeMax` in `idle` is the `ep: usize::MAX` of `Vm::new`: no environment at top level.
-/
namespace Marwood.Vm.CToy
open Marwood.Vm Verify

def code20 : List VCell := [.opcode .pushImm, .ptr 6, .opcode .pushImm, .argc 1, .opcode .movImm, .builtin 9, .acc,
  .opcode .callAcc, .opcode .halt]
def code8 : List VCell := [.opcode .enter, .opcode .movImm, .void, .acc, .opcode .ret]
def code21 : List VCell := [.opcode .pushImm, .opaque "v", .opcode .pushImm, .argc 1, .opcode .movImm,
  .continuation 0, .acc, .opcode .callAcc, .opcode .halt]

def code (l : Nat) : Option (List VCell) :=
  if l = 20 then some code20 else if l = 8 then some code8 else if l = 21 then some code21 else none

def ops : HeapOps (Option Cont) where
  fetch _ l o := (code l).bind (·[o]?)
  isLambda _ l := (code l).isSome
  callee h v := match v with
    | .ptr 6 => .closure 8 0
    | .builtin 9 => .builtin 9
    | .continuation 0 => (match h with | some c => .continuation c | none => .other)
    | _ => .other
  lambdaInfo _ l := if l = 8 then some ⟨1⟩ else none
  deref _ v := v
  getAt _ _ := .undefined
  setAt h _ _ := h
  put h v := (h, v)
  maybePut h v := (h, v)
  newCont _ c := (some c, .continuation 0)
  globGet _ _ := .undefined
  globPut h _ _ := h
  envGet _ _ _ := none
  envPut _ _ _ _ := none
  makeClosure _ _ _ _ _ := .err .invalidBytecode
  makeActivation h _ _ _ _ := .ok (h, 0)
  vectorPush _ _ _ := .err .expectedType
  builtinKind _ _ := .callcc
  builtinEval _ _ _ := .err .invalidSyntax
  compileEval _ _ := .err .invalidSyntax
  isProcedure _ v := decide (v = .ptr 6)

theorem ver20 : (verifyLam code20).map (·.entry) = some true := by decide +kernel
theorem ver8 : (verifyLam code8).map (·.entry) = some false := by decide +kernel
theorem ver21 : (verifyLam code21).map (·.entry) = some true := by decide +kernel

def laws : CodeLaws ops where
  e := 0
  code _ l := code l
  HInv h := ∀ c, h = some c → ∃ K, ContWF (fun _ => True) (tyOf code) 0 c K
  Val _ := True
  val_imm := fun _ _ => trivial
  put_val := fun _ _ => trivial
  maybePut_val := fun _ _ => trivial
  newCont_val := fun _ _ => trivial
  makeClosure_val := fun _ => trivial
  vectorPush_val := fun _ => trivial
  globGet_val := fun _ _ => trivial
  envGet_val := fun _ _ => trivial
  envGet_val2 := fun _ _ => trivial
  info_code := by
    intro h l bc info _ hc hi
    have hi' : (if l = 8 then some (⟨1⟩ : LambdaInfo) else none) = some info := hi
    have hc' : code l = some bc := hc
    by_cases h8 : l = 8
    · subst h8
      rw [show code 8 = some code8 from rfl] at hc'
      cases hc'; cases hi'; decide
    · exact absurd hi' (by simp [h8])
  fetch_code := by
    intro h l bc _ hc o
    show (code l).bind (·[o]?) = _
    rw [hc]; rfl
  step_inv := by
    intro h h' hi hs
    cases hs with
    | put => exact hi
    | maybePut => exact hi
    | globPut => exact hi
    | envPut he => simp [ops] at he
    | makeClosure he => simp [ops] at he
    | makeActivation he => simp only [ops] at he; cases he; exact hi
    | vectorPush he => simp [ops] at he
    | builtinEval he => simp [ops] at he
    | compileEval he => simp [ops] at he
  step_code := fun _ _ hc => hc
  callee_closure := by
    intro h v lam env _ hc
    simp only [ops] at hc
    split at hc
    · cases hc; exact tyOf_of_verify (code := code) (l := 8) rfl ver8
    · cases hc
    · split at hc <;> cases hc
    · cases hc
  callee_lambda := by
    intro h lam _ hc
    simp only [ops] at hc
    split at hc
    · cases hc
    · cases hc
    · split at hc <;> cases hc
    · cases hc
  cont_wf := by
    intro h v c hi hc
    simp only [ops] at hc
    split at hc
    · cases hc
    · cases hc
    · split at hc
      · cases hc
        exact hi _ rfl
      · cases hc
    · cases hc
  newCont_inv := by
    intro h c K _ hcw c' hc'
    simp only [ops] at hc'
    cases hc'
    exact ⟨K, hcw⟩
  newCont_code := fun _ hc => hc

theorem liveLaws : LiveLaws laws := ⟨fun _ _ => rfl, fun _ _ _ => rfl⟩

def idle : St (Option Cont) :=
  { heap := none, stack := { cells := List.replicate 16 .undefined, sp := 0 }, acc := .undefined,
    ep := usizeMax, ipL := 0, ipO := 0, bp := 0 }

def runK (k : Nat) (s : St (Option Cont)) : Option (St (Option Cont)) :=
  match k with
  | 0 => some s
  | k + 1 => match step ops s with
    | .ok (s', false) => runK k s'
    | _ => none

theorem runK_wf : ∀ (k : Nat) (s s' : St (Option Cont)) (K : List FDesc), WFS laws s K → runK k s = some s' →
    ∃ K', WFS laws s' K' := by
  intro k
  induction k with
  | zero => intro s s' K hw h; simp only [runK] at h; cases h; exact ⟨K, hw⟩
  | succ k ih =>
    intro s s' K hw h
    simp only [runK] at h
    split at h
    · rename_i s1 hs
      obtain ⟨K1, hw1, _⟩ := step_preserves hw hs
      exact ih s1 s' K1 hw1 h
    · cases h

def nthA (k : Nat) : St (Option Cont) := (runK k (prepare idle 20)).getD idle

/-- the `k`-th state of `(k "v")`: `prepare` applied to the state ON the first evaluation's HALT, with neither the
    epilogue `onDone` nor a collection in between (`runEval` has both) -/
def nthB (k : Nat) : St (Option Cont) := (runK k (prepare (nthA 8) 21)).getD idle

theorem wf_startA : WFS laws (prepare idle 20) [] := by
  obtain ⟨t, ht, he⟩ := tyOf_of_verify (code := code) (l := 20) rfl ver20
  exact WFS.initial (cl := laws) (fun c hc => by cases hc) ht he rfl (by decide) trivial

theorem wfA (k : Nat) (hk : k ≤ 8) : ∃ K, WFS laws (nthA k) K := by
  have h : ∀ k, k ≤ 8 → runK k (prepare idle 20) = some (nthA k) := by
    intro k hk
    have : k = 0 ∨ k = 1 ∨ k = 2 ∨ k = 3 ∨ k = 4 ∨ k = 5 ∨ k = 6 ∨ k = 7 ∨ k = 8 := by omega
    rcases this with rfl | rfl | rfl | rfl | rfl | rfl | rfl | rfl | rfl <;> rfl
  exact runK_wf k _ _ [] wf_startA (h k hk)

theorem wf_startB : WFS laws (prepare (nthA 8) 21) [] := by
  obtain ⟨t, ht, he⟩ := tyOf_of_verify (code := code) (l := 21) rfl ver21
  obtain ⟨K, hw⟩ := wfA 8 (by omega)
  exact WFS.initial (cl := laws) hw.inv ht he rfl (by decide) trivial

theorem wfB (k : Nat) (hk : k ≤ 4) : ∃ K, WFS laws (nthB k) K := by
  have h : ∀ k, k ≤ 4 → runK k (prepare (nthA 8) 21) = some (nthB k) := by
    intro k hk
    have : k = 0 ∨ k = 1 ∨ k = 2 ∨ k = 3 ∨ k = 4 := by omega
    rcases this with rfl | rfl | rfl | rfl | rfl <;> rfl
  exact runK_wf k _ _ [] wf_startB (h k hk)

theorem no_cont_A (k : Nat) (hk : k ≤ 7) : ∀ c, ops.callee (nthA k).heap (nthA k).acc ≠ .continuation c := by
  have : k = 0 ∨ k = 1 ∨ k = 2 ∨ k = 3 ∨ k = 4 ∨ k = 5 ∨ k = 6 ∨ k = 7 := by omega
  rcases this with rfl | rfl | rfl | rfl | rfl | rfl | rfl | rfl <;> intro c hc <;> cases hc

end Marwood.Vm.CToy
