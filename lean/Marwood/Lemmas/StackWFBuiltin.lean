import Marwood.Lemmas.StackWFLaws
/-!
# The stack effect of the builtins that re-dispatch (`apply`, `eval`, `call/cc`), of the generic builtins, and of
continuation invocation, under the frame hypotheses of WF-stack
-/
namespace Marwood.Vm
open Verify Stack

attribute [local irreducible] Marwood.Vm.Stack.push

variable {H : Type} {ops : HeapOps H}

/-- the result of a re-dispatching builtin on a stack whose top is `argc m` over `m` cells: the
    block is replaced by another argument block, nothing below it changes, `ip` is back on the
    CALL/TCALL -/
structure Redisp (s s' : St H) (m : Nat) : Prop where
  cap : s'.stack.sp < s'.stack.cells.length
  blk : ∃ m', s'.stack.cellAt s'.stack.sp = .argc m' ∧ m' + 1 ≤ s'.stack.sp ∧
    s'.stack.sp - 1 - m' = s.stack.sp - 1 - m
  below : ∀ i, i ≤ s.stack.sp - 1 - m → s'.stack.cellAt i = s.stack.cellAt i
  bp : s'.bp = s.bp
  ipL : s'.ipL = s.ipL
  ipO : s'.ipO + 1 = s.ipO

/-- `shift k` (`for it in (0..argc-2).rev()` of builtin/procedure.rs, lowest cell first, so the procedure cell is the
    first to be overwritten): the `k` cells under the top each take the cell above them -/
theorem shift_spec : ∀ (k : Nat) (st st' : Stack), builtinApply.shift k st = .ok st' →
    st'.sp = st.sp ∧ st'.cells.length = st.cells.length ∧
      ∀ i, st'.cellAt i = if st.sp - k ≤ i ∧ i < st.sp then st.cellAt (i + 1) else st.cellAt i := by
  intro k
  induction k with
  | zero =>
    intro st st' h
    cases h
    exact ⟨rfl, rfl, fun i => by rw [if_neg (by omega)]⟩
  | succ k ih =>
    intro st st' h
    simp only [builtinApply.shift] at h
    obtain ⟨v, hg, h⟩ := bind_inv h
    obtain ⟨st1, hset, h⟩ := bind_inv h
    rw [show (-(k : Int) - 1) = -((k + 1 : Nat) : Int) by omega] at hset
    obtain ⟨hk, s2, rfl⟩ := setOffset_ok hset
    obtain ⟨_, rfl⟩ := getOffset_ok hg
    obtain ⟨r1, r2, r3⟩ := ih _ _ h
    refine ⟨r1, by rw [r2]; simp, fun i => ?_⟩
    generalize hp : st.sp = p at hk s2 r3 ⊢
    have hc : ∀ j, Stack.cellAt ⟨st.cells.set (p - (k + 1)) (st.cellAt (p - k)), p⟩ j =
        if j = p - (k + 1) then st.cellAt (p - k) else st.cellAt j := fun j => at_set_cells st _ j _ s2
    rw [r3 i, hc, hc]
    by_cases h1 : p - k ≤ i ∧ i < p
    · have e1 : ¬ i + 1 = p - (k + 1) := by omega
      have e2 : p - (k + 1) ≤ i ∧ i < p := ⟨by omega, h1.2⟩
      rw [if_pos h1, if_neg e1, if_pos e2]
    · rw [if_neg h1]
      by_cases h2 : i = p - (k + 1)
      · have e2 : p - (k + 1) ≤ i ∧ i < p := ⟨by omega, by omega⟩
        rw [if_pos h2, if_pos e2, h2]
        congr 1; omega
      · have e2 : ¬ (p - (k + 1) ≤ i ∧ i < p) := by omega
        rw [if_neg h2, if_neg e2]

theorem shift_ok : ∀ (k : Nat) (st st' : Stack), builtinApply.shift k st = .ok st' →
    st'.sp = st.sp ∧ st'.cells.length = st.cells.length ∧
      ∀ i, i + k < st.sp → st'.cellAt i = st.cellAt i := by
  intro k st st' h
  obtain ⟨r1, r2, r3⟩ := shift_spec k st st' h
  exact ⟨r1, r2, fun i hi => by rw [r3 i, if_neg (by omega)]⟩

theorem pushList_ok {s : St H} : ∀ (fuel : Nat) (rest : VCell) (n : Nat) (st : Stack) (n' : Nat) (st' : Stack),
    builtinApply.pushList ops s fuel rest n st = .ok (n', st') → st.sp < st.cells.length →
    n ≤ n' ∧ st'.sp = st.sp + (n' - n) ∧ st'.sp < st'.cells.length ∧
      (∀ i, i ≤ st.sp → st'.cellAt i = st.cellAt i) ∧
      ∀ i, st.sp < i → i ≤ st'.sp → ∃ a, st'.cellAt i = .ptr a := by
  intro fuel
  induction fuel with
  | zero => intro rest n st n' st' h; simp only [builtinApply.pushList] at h; cases h
  | succ fuel ih =>
    intro rest n st n' st' h hcap
    simp only [builtinApply.pushList] at h
    split at h
    · rename_i car cdr
      obtain ⟨r1, r2, r3, r4, r5⟩ := ih _ _ _ _ _ h (push_sp_lt _ _)
      rw [push_sp] at r2 r4 r5
      refine ⟨by omega, by omega, r3, fun i hi => ?_, fun i h1 h2 => ?_⟩
      · rw [r4 i (by omega), push_below _ _ i hi]
      · by_cases hi : i = st.sp + 1
        · exact ⟨car, by rw [hi, r4 _ (Nat.le_refl _), push_cellAt_top]⟩
        · exact r5 i (by omega) h2
    · cases h
      exact ⟨Nat.le_refl _, by simp, hcap, fun _ _ => rfl, fun i h1 h2 => absurd h2 (by omega)⟩
    · cases h

theorem builtinEvalProc_ok {cl : CodeLaws ops} {s s' : St H} {lam : VCell} {m : Nat}
    (hi : cl.HInv s.heap) (h : builtinEvalProc ops s = .ok (s', lam))
    (hA : s.stack.cellAt s.stack.sp = .argc m) : Redisp s s' m ∧ Ext cl s.heap s'.heap := by
  obtain ⟨e, h', h2, hA', _, hce, hip, rfl⟩ := builtinEvalProc_iff.mp h
  cases (cellAt_of_some hA').symm.trans hA
  have e1 : s.stack.sp - 2 + 1 = s.stack.sp - 1 := by omega
  refine ⟨⟨push_sp_lt _ _, ⟨0, ?_, ?_, ?_⟩, fun i hi => ?_, rfl, rfl, ?_⟩, Ext.step hi (.compileEval hce)⟩
  · rw [push_sp]; exact push_cellAt_top _ _
  · rw [push_sp]; exact Nat.le_add_left _ _
  · rw [push_sp]; show s.stack.sp - 2 + 1 - 1 - 0 = _; omega
  · exact push_below _ _ i (by show i ≤ s.stack.sp - 2; omega)
  · show s.ipO - 1 + 1 = s.ipO; omega

theorem builtinCallcc_ok {s s' : St H} {proc : VCell} {m : Nat} (h : builtinCallcc ops s = .ok (s', proc))
    (hA : s.stack.cellAt s.stack.sp = .argc m) :
    m = 1 ∧ ∃ cst : Stack, cst.sp + 2 = s.stack.sp ∧ cst.sp < cst.cells.length ∧
      (∀ i, i + 2 ≤ s.stack.sp → cst.cellAt i = s.stack.cellAt i) ∧
      s'.heap = (ops.newCont s.heap ⟨cst, s.ep, s.ipL, s.ipO, s.bp⟩).1 ∧ Redisp s s' m := by
  obtain ⟨h2, hl, hA', _, hip, _, rfl⟩ := builtinCallcc_iff.mp h
  rw [hA] at hA'; cases hA'
  obtain ⟨c1, c2, c3, c4, c5, _⟩ := callccSt_stack (ops := ops) s h2
  obtain ⟨k1, k2, _, k4⟩ := callccCopy_ok s.stack h2 hl
  exact ⟨rfl, callccCopy s.stack, k1, k2, k4, rfl, c5, ⟨1, by rw [c1]; exact c3, by rw [c1]; omega, by rw [c1]⟩,
    fun i hi => c4 i (by omega), rfl, rfl, by show s.ipO - 1 + 1 = s.ipO; omega⟩

theorem builtinGeneric_ok {cl : CodeLaws ops} {s s' : St H} {id : Nat} {v : VCell} {m : Nat}
    (hi : cl.HInv s.heap) (h : builtinGeneric ops id s = .ok (s', v))
    (hA : s.stack.cellAt s.stack.sp = .argc m) :
    s'.stack.sp + m + 1 = s.stack.sp ∧ s'.stack.cells = s.stack.cells ∧ s'.bp = s.bp ∧ s'.ipL = s.ipL ∧
      s'.ipO = s.ipO ∧ Ext cl s.heap s'.heap := by
  obtain ⟨n, args, st, h', h0, hA', hpn, hbe, rfl⟩ := builtinGeneric_iff.mp h
  cases (cellAt_of_some hA').symm.trans hA
  obtain ⟨p1, p2⟩ := popN_ok hpn
  exact ⟨by have : st.sp + m = s.stack.sp - 1 := p1; show st.sp + m + 1 = _; omega, p2, rfl, rfl, rfl,
    Ext.step hi (.builtinEval hbe)⟩

theorem runBuiltin_ok {cl : CodeLaws ops} {s s' : St H} {id : Nat} (h : runBuiltin ops id s = .ok s') :
    ∃ s2 v, (match ops.builtinKind s.heap id with
        | .apply => builtinApply ops s
        | .callcc => builtinCallcc ops s
        | .eval => builtinEvalProc ops s
        | .generic => builtinGeneric ops id s) = .ok (s2, v) ∧
      s'.stack = s2.stack ∧ s'.bp = s2.bp ∧ s'.ipL = s2.ipL ∧ s'.ipO = s2.ipO ∧
      (cl.HInv s2.heap → Ext cl s2.heap s'.heap) := by
  rw [runBuiltin_accTail] at h
  obtain ⟨⟨s2, v⟩, hb, ht⟩ := bind_inv h
  refine ⟨s2, v, hb, ?_⟩
  rcases accTail_cases ht with ⟨_, rfl⟩ | rfl
  · exact ⟨rfl, rfl, rfl, rfl, fun hi => Ext.refl hi⟩
  · exact ⟨rfl, rfl, rfl, rfl, fun hi => Ext.step hi (.maybePut _ _)⟩

theorem invokeCont_ok {s s' : St H} {c : Cont} (h : invokeCont s c = .ok s') :
    s'.stack.sp = c.stack.sp ∧ c.stack.cells.length ≤ s'.stack.cells.length ∧
      (∀ i, i < c.stack.cells.length → s'.stack.cellAt i = c.stack.cellAt i) ∧
      s'.bp = c.bp ∧ s'.ipL = c.ipL ∧ s'.ipO = c.ipO ∧ s'.heap = s.heap := by
  obtain ⟨n, r, _, _, _, _, hfit, rfl⟩ := invokeCont_iff.mp h
  obtain ⟨hl, hc⟩ := contSt_stack (s := s) (r := r) hfit
  exact ⟨rfl, by rw [hl]; exact hfit, hc, rfl, rfl, rfl, rfl⟩

/-- **`apply`.** The argument block `proc a1 … ak list` under `argc m` is replaced, on the same base, by `a1 … ak`
    followed by pointers to the elements of the list, under a new `argc`; the procedure returned is the first cell
    of the old block. Of the new cells the statement keeps what the value invariant needs: each is a cell of the
    old block or a `Ptr`. -/
theorem builtinApply_eff {s s' : St H} {proc : VCell} {m : Nat} (h : builtinApply ops s = .ok (s', proc))
    (hcap : s.stack.sp < s.stack.cells.length) (hA : s.stack.cellAt s.stack.sp = .argc m)
    (hm : m + 1 ≤ s.stack.sp) :
    Redisp s s' m ∧ s'.heap = s.heap ∧
    (∃ j, s.stack.sp - 1 - m < j ∧ j < s.stack.sp ∧ proc = s.stack.cellAt j) ∧
    ∀ m', s'.stack.cellAt s'.stack.sp = .argc m' → ∀ i, s'.stack.sp - 1 - m' < i → i < s'.stack.sp →
      (∃ j, s.stack.sp - 1 - m < j ∧ j < s.stack.sp ∧ s'.stack.cellAt i = s.stack.cellAt j) ∨
        ∃ a, s'.stack.cellAt i = .ptr a := by
  unfold builtinApply at h
  obtain ⟨⟨a, st1⟩, hp1, h⟩ := bind_inv h
  simp only at h
  obtain ⟨argc, ha, h⟩ := bind_inv h
  have p1 := pop_ok hp1
  have ea := asArgc_ok ha
  rw [p1.2.2, hA] at ea
  cases ea
  obtain ⟨hm2, h⟩ := ite_err_inv h
  obtain ⟨⟨top, st2⟩, hp2, h⟩ := bind_inv h
  simp only at h
  have p2 := pop_ok hp2
  replace h := (ite_err_inv h).2
  obtain ⟨proc', hg, h⟩ := bind_inv h
  obtain ⟨st3, hsh, h⟩ := bind_inv h
  obtain ⟨⟨x, st4⟩, hp4, h⟩ := bind_inv h
  simp only at h
  obtain ⟨⟨n', st5⟩, hpl, h⟩ := bind_inv h
  simp only at h
  obtain ⟨ipO, hu, h⟩ := bind_inv h
  cases h
  obtain ⟨u1, u2⟩ := usub_ok hu
  obtain ⟨q1, q2, q3⟩ := shift_spec _ _ _ hsh
  have p4 := pop_ok hp4
  have hcap4 : st4.sp < st4.cells.length := by
    rw [p4.2.1, q2, p2.2.1, p1.2.1]; omega
  obtain ⟨w1, w2, w3, w4, w5⟩ := pushList_ok _ _ _ _ _ _ hpl hcap4
  have hc4 : ∀ i, st4.cellAt i = st3.cellAt i := fun i => cells_eq_cellAt p4.2.1 i
  have hc2 : ∀ i, st2.cellAt i = s.stack.cellAt i := fun i => by
    rw [cells_eq_cellAt p2.2.1, cells_eq_cellAt p1.2.1]
  have e0 : (-((m : Int) - 2)) = -((m - 2 : Nat) : Int) := by omega
  rw [e0] at hg
  obtain ⟨g1, g2⟩ := getOffset_ok hg
  -- the arithmetic of the block, once and without subtraction: `B` is the cell under the old block
  obtain ⟨B, hb1, hb2, hb3, hb4, hb5, hb6, hb7⟩ : ∃ B, s.stack.sp = B + m + 1 ∧ st5.sp = B + n' ∧
      st4.sp + 3 = s.stack.sp ∧ st2.sp + 2 = s.stack.sp ∧ 2 ≤ m ∧ ipO + 1 = s.ipO ∧ m ≤ n' + 2 :=
    ⟨s.stack.sp - 1 - m, by omega⟩
  clear w1 w2 p1 p2 p4 q1 hm hm2 g1 hcap u1 u2
  have hsp' : (st5.push (VCell.argc n')).sp = st5.sp + 1 := push_sp _ _
  have eB : s.stack.sp - 1 - m = B := by omega
  have e5 : st5.sp + 1 - 1 - n' = B := by omega
  have e2 : st2.sp - (m - 2) = B + 1 := by omega
  rw [e2] at g2
  refine ⟨⟨push_sp_lt _ _, ⟨n', by rw [hsp']; exact push_cellAt_top _ _, by rw [hsp']; omega,
      by rw [hsp', e5, eB]⟩, ?_, rfl, rfl, hb6⟩, rfl, ?_, ?_⟩
  · intro i hi
    rw [eB] at hi
    clear eB e5
    show (st5.push (VCell.argc n')).cellAt i = _
    rw [push_below _ _ _ (by omega), w4 i (by omega), hc4, q3 i, if_neg (by omega), hc2]
  · rw [eB]
    clear eB e5
    exact ⟨B + 1, Nat.lt_succ_self B, by omega, by rw [g2, hc2]⟩
  · intro m' hm' i hi1 hi2
    rw [show ({ s with stack := st5.push (VCell.argc n'), ipO := ipO } : St H).stack.sp = st5.sp + 1 from hsp']
      at hm' hi1 hi2
    rw [push_cellAt_top] at hm'
    cases hm'
    rw [e5] at hi1
    rw [eB]
    clear eB e5
    show (∃ j, _ ∧ _ ∧ (st5.push (VCell.argc n')).cellAt i = _) ∨ ∃ a, (st5.push (VCell.argc n')).cellAt i = _
    rw [push_below _ _ _ (Nat.le_of_lt_succ hi2)]
    by_cases hlow : i ≤ st4.sp
    · left
      rw [w4 i hlow, hc4, q3 i]
      split
      · exact ⟨i + 1, by omega, by omega, by rw [hc2]⟩
      · exact ⟨i, hi1, by omega, by rw [hc2]⟩
    · right
      exact w5 i (Nat.lt_of_not_le hlow) (Nat.le_of_lt_succ hi2)

theorem builtinApply_ok {s s' : St H} {proc : VCell} {m : Nat} (h : builtinApply ops s = .ok (s', proc))
    (hcap : s.stack.sp < s.stack.cells.length) (hA : s.stack.cellAt s.stack.sp = .argc m)
    (hm : m + 1 ≤ s.stack.sp) : Redisp s s' m ∧ s'.heap = s.heap :=
  ⟨(builtinApply_eff h hcap hA hm).1, (builtinApply_eff h hcap hA hm).2.1⟩

theorem builtinCallcc_new {s s' : St H} {proc : VCell} {m : Nat} (h : builtinCallcc ops s = .ok (s', proc))
    (hA : s.stack.cellAt s.stack.sp = .argc m) :
    (∃ j, s.stack.sp - 1 - m < j ∧ j < s.stack.sp ∧ proc = s.stack.cellAt j) ∧
    s'.stack.cellAt s'.stack.sp = .argc 1 ∧
    ∃ cst, s'.stack.cellAt (s'.stack.sp - 1) = (ops.newCont s.heap ⟨cst, s.ep, s.ipL, s.ipO, s.bp⟩).2 := by
  obtain ⟨h2, hl, hA', _, _, rfl, rfl⟩ := builtinCallcc_iff.mp h
  rw [hA] at hA'; cases hA'
  obtain ⟨c1, c2, c3, _⟩ := callccSt_stack (ops := ops) s h2
  exact ⟨⟨s.stack.sp - 1, by omega, by omega, rfl⟩, by rw [c1]; exact c3, callccCopy s.stack, by rw [c1]; exact c2⟩

theorem runBuiltin_acc {cl : CodeLaws ops} {s s' : St H} {id : Nat} (h : runBuiltin ops id s = .ok s') :
    cl.Val s'.acc := by
  rw [runBuiltin_accTail] at h
  obtain ⟨⟨s2, v⟩, _, ht⟩ := bind_inv h
  rcases accTail_cases ht with ⟨⟨p, rfl⟩, rfl⟩ | rfl
  · exact cl.val_imm _ rfl
  · exact cl.maybePut_val _ _

theorem builtinEvalProc_blk {s s' : St H} {lam : VCell} (h : builtinEvalProc ops s = .ok (s', lam)) :
    s'.stack.cellAt s'.stack.sp = .argc 0 := by
  obtain ⟨_, _, _, _, _, _, _, rfl⟩ := builtinEvalProc_iff.mp h
  show (Stack.push _ _).cellAt (Stack.push _ _).sp = _
  rw [push_sp]; exact push_cellAt_top _ _

theorem invokeCont_acc {s s' : St H} {c : Cont} (h : invokeCont s c = .ok s') :
    ∃ m, s.stack.cellAt s.stack.sp = .argc m ∧ (1 ≤ m ∧ 2 ≤ s.stack.sp) ∧
      s'.acc = s.stack.cellAt (s.stack.sp - 1) := by
  obtain ⟨n, r, h2, hA, hn, hr, _, rfl⟩ := invokeCont_iff.mp h
  exact ⟨n, cellAt_of_some hA, ⟨by omega, h2⟩, (cellAt_of_some hr).symm⟩

end Marwood.Vm
