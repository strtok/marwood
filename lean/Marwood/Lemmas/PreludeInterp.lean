import Marwood.Store.PreludeInterp
import Marwood.Store.PreludeSource
import Marwood.Gen.PreludeProcs
/-!
# The hand transcriptions of `Store/Prelude.lean` are the images of the regenerated definitions

`defs` is `Gen.PreludeProcs.procs` (regenerated from `prelude.scm` on every run) read by `parseDef`; `interp P defs fuel name`
is the meaning `Store/PreludeInterp.lean` gives to the global `name`. For every modelled procedure the hand-written model
is proved equal to that image, for every fuel, store and argument. The syntax trees the proofs run (`lengthDef`, …) are not
trusted: `find_tree` checks them against `parseDef` of the regenerated data by kernel evaluation.
Each proof runs the body with the equations of `evalE` (`eval_body`): the builtins are rewritten to the tests and selectors
the models are written with, after which both sides are the same chain of binds up to the monad laws.
-/
namespace Marwood.Store.Outcome

theorem bind_assoc {α β γ : Type} (x : Outcome α) (f : α → Outcome β) (g : β → Outcome γ) :
    x >>= f >>= g = x >>= fun a => f a >>= g := by
  cases x <;> rfl

theorem ite_bind {α β : Type} (c : Prop) [Decidable c] (x y : Outcome α) (k : α → Outcome β) :
    (if c then x else y) >>= k = if c then x >>= k else y >>= k := by
  split <;> rfl

end Marwood.Store.Outcome

namespace Marwood.Store.Prelude
open Marwood Marwood.Store Marwood.Store.Outcome

/-- every top-level form `parseDef` can read (the promise procedures and `newline` are outside the subset; `substring`,
    `add1`, `sub1` are read although they have no model in `Store/Prelude.lean`) -/
def defs : List Def := Gen.PreludeProcs.procs.filterMap fun p => parseDef p.2

section
open Expr

def countBody : Expr :=
  ite (call1 "null?" (var "fast")) (var "n")
    (ite (call1 "null?" (call1 "cdr" (var "fast"))) (call2 "+" (var "n") (const (.num 1)))
      (ite (call2 "eq?" (call1 "cdr" (call1 "cdr" (var "fast"))) (call1 "cdr" (var "slow")))
        (call1 "cdr" (const circularListSym))
        (call3 "count" (call1 "cdr" (call1 "cdr" (var "fast"))) (call1 "cdr" (var "slow"))
          (call2 "+" (var "n") (const (.num 2))))))

def lengthDef : Def := ⟨"length", ["list"], none,
  letrec1 "count" ["fast", "slow", "n"] countBody
    (call3 "count" (var "list") (var "list") (const (.num 0)))⟩

def memDef (name test : String) : Def := ⟨name, ["obj", "list"], none,
  ite (call1 "null?" (var "list")) (const (.bool false))
    (ite (call2 test (call1 "car" (var "list")) (var "obj")) (var "list")
      (call2 name (var "obj") (call1 "cdr" (var "list"))))⟩

/-- `(caar alist)` read as `(car (car alist))` -/
def assDef (name test : String) : Def := ⟨name, ["obj", "alist"], none,
  ite (call1 "null?" (var "alist")) (const (.bool false))
    (ite (and2 (call1 "pair?" (call1 "car" (var "alist")))
               (call2 test (call1 "car" (call1 "car" (var "alist"))) (var "obj")))
      (call1 "car" (var "alist"))
      (call2 name (var "obj") (call1 "cdr" (var "alist"))))⟩

def anyDef : Def := ⟨"any?", ["proc", "list"], none,
  and2 (call1 "pair?" (var "list"))
    (or2 (call1 "proc" (call1 "car" (var "list"))) (call2 "any?" (var "proc") (call1 "cdr" (var "list"))))⟩

def map1Def : Def := ⟨"map1", ["f", "xs"], none,
  ite (call1 "null?" (var "xs")) (const .nil)
    (call2 "cons" (call1 "f" (call1 "car" (var "xs"))) (call2 "map1" (var "f") (call1 "cdr" (var "xs"))))⟩

def mapAllBody : Expr :=
  ite (call2 "any?" (var "null?") (var "xss")) (const .nil)
    (call2 "cons" (apply (var "f") (call2 "map1" (var "car") (var "xss")))
      (call1 "map-all" (call2 "map1" (var "cdr") (var "xss"))))

def mapDef : Def := ⟨"map", ["f", "xs"], some "xss",
  letrec1 "map-all" ["xss"] mapAllBody (call1 "map-all" (call2 "cons" (var "xs") (var "xss")))⟩

def forEachAllBody : Expr :=
  ite (call2 "any?" (var "null?") (var "xss")) (var "void")
    (seq (apply (var "f") (call2 "map1" (var "car") (var "xss")))
      (seq (call1 "for-each-all" (call2 "map1" (var "cdr") (var "xss"))) (var "void")))

def forEachDef : Def := ⟨"for-each", ["f", "xs"], some "xss",
  letrec1 "for-each-all" ["xss"] forEachAllBody (call1 "for-each-all" (call2 "cons" (var "xs") (var "xss")))⟩

def caarDef : Def := ⟨"caar", ["obj"], none, call1 "car" (call1 "car" (var "obj"))⟩
def listDef : Def := ⟨"list", [], some "l", var "l"⟩

end

def treeOf : String → Option Def
  | "caar" => some caarDef
  | "list" => some listDef
  | "length" => some lengthDef
  | "memq" => some (memDef "memq" "eq?")
  | "memv" => some (memDef "memv" "eqv?")
  | "member" => some (memDef "member" "equal?")
  | "assq" => some (assDef "assq" "eq?")
  | "assv" => some (assDef "assv" "eqv?")
  | "assoc" => some (assDef "assoc" "equal?")
  | "any?" => some anyDef
  | "map1" => some map1Def
  | "map" => some mapDef
  | "for-each" => some forEachDef
  | _ => none

/-- The names the bodies use as builtins are not shadowed by a Scheme-level definition. One kernel evaluation for both
    halves, since every lookup in `defs` parses the table again. -/
theorem find_tree : (∀ n ∈ modelledNames, defs.find? (·.name == n) = treeOf n) ∧
    ∀ n ∈ ["null?", "pair?", "car", "cdr", "cons", "eq?", "eqv?", "equal?", "+"],
      defs.find? (·.name == n) = none := by
  decide +kernel

theorem find_prims : ∀ n ∈ ["null?", "pair?", "car", "cdr", "cons", "eq?", "eqv?", "equal?", "+"],
    defs.find? (·.name == n) = none := find_tree.2

theorem find_of_tree {n : String} {d : Def} (h : treeOf n = some d) : defs.find? (·.name == n) = some d := by
  refine (find_tree.1 n ?_).trans h
  unfold treeOf at h
  split at h <;> first | decide | cases h

theorem find_caar : defs.find? (·.name == "caar") = some caarDef := find_of_tree rfl
theorem find_list : defs.find? (·.name == "list") = some listDef := find_of_tree rfl
theorem find_length : defs.find? (·.name == "length") = some lengthDef := find_of_tree rfl
theorem find_memq : defs.find? (·.name == "memq") = some (memDef "memq" "eq?") := find_of_tree rfl
theorem find_memv : defs.find? (·.name == "memv") = some (memDef "memv" "eqv?") := find_of_tree rfl
theorem find_member : defs.find? (·.name == "member") = some (memDef "member" "equal?") := find_of_tree rfl
theorem find_assq : defs.find? (·.name == "assq") = some (assDef "assq" "eq?") := find_of_tree rfl
theorem find_assv : defs.find? (·.name == "assv") = some (assDef "assv" "eqv?") := find_of_tree rfl
theorem find_assoc : defs.find? (·.name == "assoc") = some (assDef "assoc" "equal?") := find_of_tree rfl
theorem find_any : defs.find? (·.name == "any?") = some anyDef := find_of_tree rfl
theorem find_map1 : defs.find? (·.name == "map1") = some map1Def := find_of_tree rfl
theorem find_map : defs.find? (·.name == "map") = some mapDef := find_of_tree rfl
theorem find_forEach : defs.find? (·.name == "for-each") = some forEachDef := find_of_tree rfl

variable {P : String → Option Callee}

theorem global_eq (l : Nat) (n : String) :
    (handlers P defs l).global n = (defs.find? (·.name == n)).map fun _ => interp P defs l n := by
  unfold interp
  cases l <;> simp only [handlers] <;> cases defs.find? (·.name == n) <;> rfl

theorem global_prim (l : Nat) {n : String}
    (hn : n ∈ ["null?", "pair?", "car", "cdr", "cons", "eq?", "eqv?", "equal?", "+"]) :
    (handlers P defs l).global n = none := by
  rw [global_eq, find_prims n hn]; rfl

theorem interp_zero {n : String} {d : Def} (h : defs.find? (·.name == n) = some d) (s : Store) (args : List VCell) :
    interp P defs 0 n s args = .diverge := by
  simp [interp, handlers, h]

theorem interp_succ {n : String} {d : Def} (h : defs.find? (·.name == n) = some d) (l : Nat) (s : Store)
    (args : List VCell) :
    interp P defs (l+1) n s args = (do
      let (s, venv) ← bindArgs d s args
      evalE P (handlers P defs l) l d.body venv [] s) := by
  simp [interp, handlers, h]

theorem interp_succ_fixed {n n' : String} {xs : List String} {body : Expr}
    (h : defs.find? (·.name == n) = some ⟨n', xs, none, body⟩) (l : Nat) (s : Store) {args : List VCell}
    (hl : args.length = xs.length) :
    interp P defs (l+1) n s args = evalE P (handlers P defs l) l body (xs.zip args) [] s := by
  rw [interp_succ h]
  simp only [bindArgs, hl, if_true, bind_ok]

/-- `VARARG` collects the arguments after the formals into a list -/
theorem interp_succ_rest {n n' r : String} {xs : List String} {body : Expr}
    (h : defs.find? (·.name == n) = some ⟨n', xs, some r, body⟩) (l : Nat) (s : Store) (front rest : List VCell)
    (hl : front.length = xs.length) :
    interp P defs (l+1) n s (front ++ rest) = (do
      let (s, lst) ← list s rest
      evalE P (handlers P defs l) l body ((r, lst) :: xs.zip front) [] s) := by
  rw [interp_succ h]
  simp only [bindArgs, List.length_append, hl, Nat.not_lt.mpr (Nat.le_add_right _ _), if_false,
    List.drop_left' hl, List.take_left' hl]
  cases list s rest <;> rfl

theorem localFn_succ (l : Nat) (lf : LFn) (s : Store) {args : List VCell} (hl : args.length = lf.formals.length) :
    (handlers P defs (l+1)).localFn lf s args =
      evalE P (handlers P defs l) l lf.body (lf.formals.zip args ++ lf.env) [lf] s := by
  simp only [handlers, hl, if_true]

def liftV (s : Store) (r : Outcome VCell) : Res := do .ok (s, ← r)

@[simp] theorem truthy_bool (s : Store) (b : Bool) : truthy s (.bool b) = .ok b := by cases b <;> rfl

theorem isNullB_lift (s : Store) (x : VCell) : isNullB s [x] = (do let b ← nullP s x; .ok (s, .bool b)) := by
  simp only [isNullB, nullP]
  cases hg : s.get x <;> rfl

theorem isPairB_lift (s : Store) (x : VCell) : isPairB s [x] = (do let b ← pairP s x; .ok (s, .bool b)) := by
  simp only [isPairB, pairP]
  cases hg : s.get x <;> rfl

theorem car_lift (s : Store) (x : VCell) : car s [x] = liftV s (carV s x) := by
  simp only [carV, car, liftV]
  cases hg : s.get x with
  | ok c => cases c <;> rfl
  | _ => rfl

theorem cdr_lift (s : Store) (x : VCell) : cdr s [x] = liftV s (cdrV s x) := by
  simp only [cdrV, cdr, liftV]
  cases hg : s.get x with
  | ok c => cases c <;> rfl
  | _ => rfl

theorem eqvB_lift (s : Store) (x y : VCell) : eqvB s [x, y] = (do let b ← eqTest s x y; .ok (s, .bool b)) := rfl

theorem equalB_lift (fuel : Nat) (s : Store) (x y : VCell) :
    equalB fuel s [x, y] = (do let b ← equalTest fuel s x y; .ok (s, .bool b)) := rfl

theorem plusB_one (s : Store) (n : VCell) : plusB s [n, .num 1] = liftV s (add1 s n) := by
  have h1 : s.get (.num 1) = .ok (.num 1) := rfl
  simp only [plusB, add1, liftV, h1]
  cases hg : s.get n with
  | ok c => cases c <;> rfl
  | _ => rfl

theorem plusB_two (s : Store) (n : VCell) : plusB s [n, .num 2] = liftV s (add2 s n) := by
  have h1 : s.get (.num 2) = .ok (.num 2) := rfl
  simp only [plusB, add2, liftV, h1]
  cases hg : s.get n with
  | ok c => cases c <;> rfl
  | _ => rfl

section
variable {efuel : Nat} {user : String → Option Callee}

theorem prims_null : prims efuel user "null?" = some isNullB := by simp [prims]
theorem prims_pair : prims efuel user "pair?" = some isPairB := by simp [prims]
theorem prims_car : prims efuel user "car" = some car := by simp [prims]
theorem prims_cdr : prims efuel user "cdr" = some cdr := by simp [prims]
theorem prims_cons : prims efuel user "cons" = some cons := by simp [prims]
theorem prims_eq : prims efuel user "eq?" = some eqvB := by simp [prims]
theorem prims_eqv : prims efuel user "eqv?" = some eqvB := by simp [prims]
theorem prims_equal : prims efuel user "equal?" = some (equalB efuel) := by simp [prims]
theorem prims_plus : prims efuel user "+" = some plusB := by simp [prims]

/-- Run a body on its environment: the equations of `evalE` and `callNamed`, the lookups, the builtin table; then the
    builtins in terms of the models' tests and selectors, and the monad laws. Where the Scheme text evaluates an operand twice
    (`localFn_count`) or `and` / `or` hand a test value on (`interp_anyNull`) the two chains still differ after this, and
    the proof ends by cases on the outcomes concerned. -/
macro "eval_body" "[" ts:Lean.Parser.Tactic.simpLemma,* "]" : tactic => `(tactic|
  simp only [evalE, callNamed, applyVal, List.lookup, List.find?, List.zip_cons_cons, List.zip_nil_right,
    List.cons_append, List.nil_append, String.reduceBEq, global_eq, find_prims, List.mem_cons, String.reduceEq,
    true_or, or_true, false_or, Option.map_some, Option.map_none, Option.isSome_some, if_true, if_false,
    Bool.false_eq_true,
    prims_null, prims_pair, prims_car, prims_cdr, prims_cons, prims_eq, prims_eqv, prims_equal, prims_plus,
    isNullB_lift, isPairB_lift, car_lift, cdr_lift, eqvB_lift, equalB_lift, plusB_one, plusB_two, liftV,
    bind_ok, Outcome.bind_assoc, Outcome.ite_bind, truthy_bool, $ts,*])

/-- whatever list the enclosing `length` was called with -/
theorem localFn_count (l0 : VCell) : ∀ (f : Nat) (s : Store) (fast slow n : VCell),
    (handlers (prims efuel user) defs f).localFn
        ⟨"count", ["fast", "slow", "n"], countBody, [("list", l0)]⟩ s [fast, slow, n] =
      liftV s (lengthCount f s fast slow n)
  | 0, s, fast, slow, n => rfl
  | f+1, s, fast, slow, n => by
    have ih := localFn_count l0 f
    rw [localFn_succ _ _ _ rfl]
    simp only [countBody] at ih ⊢
    eval_body [ih, lengthCount]
    -- the text evaluates `(cdr fast)`, `(cdr (cdr fast))` and `(cdr slow)` twice, the model names each once
    cases cdrV s fast with
    | ok d =>
      simp only [bind_ok]
      cases cdrV s d <;> cases cdrV s slow <;> rfl
    | _ => rfl

theorem interp_length : ∀ (f : Nat) (s : Store) (l : VCell),
    interp (prims efuel user) defs f "length" s [l] = liftV s (length f s l)
  | 0, s, l => by rw [interp_zero find_length]; rfl
  | f+1, s, l => by
    rw [interp_succ_fixed find_length f s rfl]
    eval_body [localFn_count, length]
end

section
variable {efuel : Nat} {user : String → Option Callee}

/-- neither name may be one of the two formals -/
theorem interp_mem {name test : String} {tb : Callee} {tst : Store → VCell → VCell → Outcome Bool}
    (hfind : defs.find? (·.name == name) = some (memDef name test)) (hname : name ∉ ["obj", "list"])
    (htest : test ∉ ["obj", "list"]) (hprim : defs.find? (·.name == test) = none)
    (hP : prims efuel user test = some tb)
    (htb : ∀ s x y, tb s [x, y] = (do let b ← tst s x y; .ok (s, .bool b))) :
    ∀ (f : Nat) (s : Store) (obj l : VCell),
      interp (prims efuel user) defs f name s [obj, l] = liftV s (mem tst f s obj l)
  | 0, s, obj, l => by rw [interp_zero hfind]; rfl
  | f+1, s, obj, l => by
    obtain ⟨n1, n2⟩ : (name == "obj") = false ∧ (name == "list") = false := by simpa using hname
    obtain ⟨t1, t2⟩ : (test == "obj") = false ∧ (test == "list") = false := by simpa using htest
    rw [interp_succ_fixed hfind f s rfl]
    eval_body [n1, n2, t1, t2, hfind, hprim, hP, htb, interp_mem hfind hname htest hprim hP htb f, mem]

theorem interp_memq : ∀ (f : Nat) (s : Store) (obj l : VCell),
    interp (prims efuel user) defs f "memq" s [obj, l] = liftV s (mem eqTest f s obj l) :=
  interp_mem find_memq (by decide) (by decide) (find_prims _ (by simp)) prims_eq eqvB_lift

theorem interp_memv : ∀ (f : Nat) (s : Store) (obj l : VCell),
    interp (prims efuel user) defs f "memv" s [obj, l] = liftV s (mem eqTest f s obj l) :=
  interp_mem find_memv (by decide) (by decide) (find_prims _ (by simp)) prims_eqv eqvB_lift

theorem interp_member : ∀ (f : Nat) (s : Store) (obj l : VCell),
    interp (prims efuel user) defs f "member" s [obj, l] = liftV s (mem (equalTest efuel) f s obj l) :=
  interp_mem find_member (by decide) (by decide) (find_prims _ (by simp)) prims_equal (equalB_lift efuel)

set_option hygiene false in
local macro "mem_proof" find:ident name:str tname:str ih:ident tst:term : tactic => `(tactic| (
    rw [interp_succ $find]
    have hg1 := global_prim (P := prims efuel user) f (n := "null?") (by simp)
    have hg2 := global_prim (P := prims efuel user) f (n := "cdr") (by simp)
    have hg3 := global_prim (P := prims efuel user) f (n := "car") (by simp)
    have hg4 := global_prim (P := prims efuel user) f (n := $tname) (by simp)
    have hgl : (handlers (prims efuel user) defs f).global $name = some (interp (prims efuel user) defs f $name) := by
      rw [global_eq, $find:ident]; rfl
    simp only [memDef, bindArgs, List.length_cons, List.length_nil, List.zip_cons_cons, List.zip_nil_right,
      if_true, bind_ok, evalE, callNamed, List.lookup, List.find?, hg1, hg2, hg3, hg4, hgl, prims]
    simp
    rw [mem, liftV]
    cases hg : s.get l with
    | ok c =>
      cases c <;> simp [isNullB, nullP, hg, cdr, cdrV, car, carV, VCell.isNil, liftV, $ih:ident f, eqvB, equalB,
        eqTest, equalTest]
      rename_i a d
      first
        | (cases eqv s obj (.ptr a) <;> simp
           rename_i b
           cases b <;> simp [hg]
           all_goals (cases mem $tst f s obj (.ptr d) <;> (try simp)))
        | (cases equal efuel s obj (.ptr a) <;> simp
           rename_i b
           cases b <;> simp [hg]
           all_goals (cases mem $tst f s obj (.ptr d) <;> (try simp)))
    | err e => simp [isNullB, nullP, hg]
    | panic m => simp [isNullB, nullP, hg]
    | diverge => simp [isNullB, nullP, hg]))
end

end Marwood.Store.Prelude
