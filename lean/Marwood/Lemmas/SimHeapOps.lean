import Marwood.Lemmas.SimPrims
/-!
# Heap simulation: the non-allocating operations of `concreteOps`

Reads give related results on related heaps; writes of related values keep the heaps related under the same `φ`.
-/
namespace Marwood.Lemmas.Sim
open Marwood Marwood.Vm Marwood.Vm.Concrete
open Marwood.Heap (GcState)

variable {φ : Inj} {h h' : CHeap}

theorem repr_rel {c c' : CCell} (r : CellRel φ c c') : VRel φ (repr c) (repr c') := by
  cases r with
  | val h1 => exact h1
  | lexEnv _ => exact .atom rfl
  | vector _ => exact .atom rfl
  | lambda _ _ _ => exact .atom rfl
  | cont _ => exact .atom rfl

theorem getAt_rel (hs : HeapSim φ h h') (ok : SizeOk h) (ok' : SizeOk h') {a b} (hab : AddrRel φ a b) :
    VRel φ (getAt h a) (getAt h' b) := by
  unfold getAt
  rcases hab.lookup hs ok ok' with ⟨e1, e2⟩ | ⟨_, c, c', e1, e2, r⟩
  · rw [e1, e2]; exact .atom rfl
  · rw [e1, e2]; exact repr_rel r

theorem deref_atom {v : VCell} (hf : addrFree v = true) (h : CHeap) : deref h v = v := by
  cases v <;> first | rfl | simp [addrFree] at hf

theorem deref_rel (hs : HeapSim φ h h') (ok : SizeOk h) (ok' : SizeOk h') {v v'} (hv : VRel φ v v') :
    VRel φ (deref h v) (deref h' v') := by
  cases hv with
  | ptr h1 => exact getAt_rel hs ok ok' h1
  | atom h1 => rw [deref_atom h1, deref_atom h1]; exact .atom h1
  | pair h1 h2 => exact .pair h1 h2
  | closure h1 h2 => exact .closure h1 h2
  | lexEnvPtr h1 => exact .lexEnvPtr h1
  | envPtr h1 => exact .envPtr h1
  | instrPtr h1 => exact .instrPtr h1

inductive CalleeRel (φ : Inj) : Callee → Callee → Prop
  | closure {l e l' e'} : AddrRel φ l l' → AddrRel φ e e' → CalleeRel φ (.closure l e) (.closure l' e')
  | lambda : CalleeRel φ .lambda .lambda
  | builtin {id} : CalleeRel φ (.builtin id) (.builtin id)
  | continuation {c c'} : ContRel φ c c' → CalleeRel φ (.continuation c) (.continuation c')
  | other : CalleeRel φ .other .other

theorem calleeOfCell_rel {c c' : CCell} (r : CellRel φ c c') : CalleeRel φ (calleeOfCell c) (calleeOfCell c') := by
  cases r with
  | val h1 =>
    cases h1 with
    | closure a b => exact .closure a b
    | atom hf => rename_i v; cases v <;> first | exact .other | exact .builtin | simp [addrFree] at hf
    | _ => exact .other
  | lexEnv _ => exact .other
  | vector _ => exact .other
  | lambda _ _ _ => exact .lambda
  | cont k => exact .continuation k

theorem callee_rel (hs : HeapSim φ h h') (ok : SizeOk h) (ok' : SizeOk h') {v v'} (hv : VRel φ v v') :
    CalleeRel φ (callee h v) (callee h' v') := by
  cases hv with
  | ptr h1 =>
    unfold callee
    rcases h1.lookup hs ok ok' with ⟨e1, e2⟩ | ⟨_, c, c', e1, e2, r⟩
    · simp only [e1, e2]; exact .other
    · simp only [e1, e2]; exact calleeOfCell_rel r
  | closure a b => exact .closure a b
  | atom hf => cases v <;> first | exact .other | exact .builtin | simp [addrFree] at hf
  | _ => exact .other

theorem lambdaAt_rel (hs : HeapSim φ h h') (ok : SizeOk h) (ok' : SizeOk h') {a b} (hab : AddrRel φ a b) :
    (lambdaAt h a = none ∧ lambdaAt h' b = none) ∨
    ∃ l l', lambdaAt h a = some l ∧ lambdaAt h' b = some l' ∧ BcRel φ l.bc l'.bc ∧ VsRel φ l.args l'.args ∧
      EnvmapRel φ l.envmap l'.envmap := by
  unfold lambdaAt
  rcases hab.lookup hs ok ok' with ⟨e1, e2⟩ | ⟨_, c, c', e1, e2, r⟩
  · left; simp [e1, e2]
  · rw [e1, e2]
    cases r with
    | lambda h1 h2 h3 => exact .inr ⟨_, _, rfl, rfl, h1, h2, h3⟩
    | _ => left; simp

theorem envAt_rel (hs : HeapSim φ h h') (ok : SizeOk h) (ok' : SizeOk h') {a b} (hab : AddrRel φ a b) :
    (envAt h a = none ∧ envAt h' b = none) ∨
    (φ a = some b ∧ ∃ ss ss', envAt h a = some ss ∧ envAt h' b = some ss' ∧ VsRel φ ss ss') := by
  unfold envAt
  rcases hab.lookup hs ok ok' with ⟨e1, e2⟩ | ⟨hφ, c, c', e1, e2, r⟩
  · left; simp [e1, e2]
  · rw [e1, e2]
    cases r with
    | lexEnv h1 => exact .inr ⟨hφ, _, _, rfl, rfl, h1⟩
    | _ => left; simp

inductive OptRel {α β : Type} (R : α → β → Prop) : Option α → Option β → Prop
  | none : OptRel R none none
  | some {a b} : R a b → OptRel R (some a) (some b)

theorem VsRel.getOpt {l l'} (hl : VsRel φ l l') (i : Nat) : OptRel (VRel φ) l[i]? l'[i]? := by
  rcases hl.get i with ⟨e1, e2⟩ | ⟨v, v', e1, e2, r⟩
  · rw [e1, e2]; exact .none
  · rw [e1, e2]; exact .some r

theorem envGet_rel (hs : HeapSim φ h h') (ok : SizeOk h) (ok' : SizeOk h') {a b} (hab : AddrRel φ a b) (k : Nat) :
    OptRel (VRel φ) (envGet h a k) (envGet h' b k) := by
  unfold envGet
  rcases envAt_rel hs ok ok' hab with ⟨e1, e2⟩ | ⟨_, ss, ss', e1, e2, r⟩
  · rw [e1, e2]; exact .none
  · rw [e1, e2]; exact r.getOpt k

theorem cwrite_sim (hs : HeapSim φ h h') {p p'} (hp : φ p = some p') {c c' : CCell} (hc : CellRel φ c c') :
    HeapSim φ (cwrite h p c) (cwrite h' p' c') := by
  obtain ⟨l1, l2, _, _⟩ := hs.dom_lt hp
  refine ⟨hs.inj, ?_, hs.globals, hs.globSyms, cwrite_inv _ hs.inv _ _, cwrite_inv _ hs.inv' _ _⟩
  intro a b hab
  obtain ⟨d, d', g1, g2, r, f1, f2⟩ := hs.cells a b hab
  by_cases e : a = p
  · subst e
    have : b = p' := by rw [hp] at hab; cases hab; rfl
    subst this
    exact ⟨c, c', by simp [cwrite, l1], by simp [cwrite, l2], hc, f1, f2⟩
  · have e' : b ≠ p' := fun eb => e (hs.inj a p p' (eb ▸ hab) hp)
    refine ⟨d, d', ?_, ?_, r, f1, f2⟩
    · simp only [cwrite]; rw [Array.getElem?_setIfInBounds_ne (Ne.symm e)]; exact g1
    · simp only [cwrite]; rw [Array.getElem?_setIfInBounds_ne (Ne.symm e')]; exact g2

/-- a write through a sentinel address is out of range in both heaps -/
theorem cwrite_sentinel (hs : HeapSim φ h h') (ok : SizeOk h) (ok' : SizeOk h') {p} (hp : 2 ^ 63 ≤ p)
    (c c' : CCell) : HeapSim φ (cwrite h p c) (cwrite h' p c') := by
  refine ⟨hs.inj, ?_, hs.globals, hs.globSyms, cwrite_inv _ hs.inv _ _, cwrite_inv _ hs.inv' _ _⟩
  intro a b hab
  obtain ⟨d, d', g1, g2, r, f1, f2⟩ := hs.cells a b hab
  have l1 := lt_of_get_some g1
  have l2 := lt_of_get_some g2
  unfold SizeOk at ok ok'
  refine ⟨d, d', ?_, ?_, r, f1, f2⟩
  · simp only [cwrite]; rw [Array.getElem?_setIfInBounds_ne (by omega)]; exact g1
  · simp only [cwrite]; rw [Array.getElem?_setIfInBounds_ne (by omega)]; exact g2

theorem setAt_sim (hs : HeapSim φ h h') (ok : SizeOk h) (ok' : SizeOk h') {p p'} (hp : AddrRel φ p p')
    {v v'} (hv : VRel φ v v') : HeapSim φ (cwrite h p (.val v)) (cwrite h' p' (.val v')) := by
  rcases hp with hp | ⟨rfl, hp⟩
  · exact cwrite_sim hs hp (.val hv)
  · exact cwrite_sentinel hs ok ok' hp _ _

theorem envPut_rel (hs : HeapSim φ h h') (ok : SizeOk h) (ok' : SizeOk h') {a b} (hab : AddrRel φ a b) (k : Nat)
    {v v'} (hv : VRel φ v v') : OptRel (HeapSim φ) (envPut h a k v) (envPut h' b k v') := by
  unfold envPut
  rcases envAt_rel hs ok ok' hab with ⟨e1, e2⟩ | ⟨hφ, ss, ss', e1, e2, r⟩
  · rw [e1, e2]; exact .none
  · rw [e1, e2]
    simp only
    rw [← r.length_eq]
    split
    · exact .some (cwrite_sim hs hφ (.lexEnv (r.set k hv)))
    · exact .none

theorem globGet_rel (hs : HeapSim φ h h') (n : Nat) :
    VRel φ (h.globals[n]?.getD .undefined) (h'.globals[n]?.getD .undefined) := by
  have := hs.globals.getOpt n
  rw [Array.getElem?_toList, Array.getElem?_toList] at this
  generalize h.globals[n]? = x at this
  generalize h'.globals[n]? = y at this
  cases this with
  | none => exact .atom rfl
  | some r => exact r

theorem globPut_sim (hs : HeapSim φ h h') (n : Nat) {v v'} (hv : VRel φ v v') :
    HeapSim φ { h with globals := h.globals.setIfInBounds n v }
      { h' with globals := h'.globals.setIfInBounds n v' } := by
  -- `HInv` does not mention the globals
  refine ⟨hs.inj, hs.cells, ?_, hs.globSyms, ⟨hs.inv.sizes, hs.inv.shape, hs.inv.free_iff, hs.inv.nodup, hs.inv.no_used⟩,
    ⟨hs.inv'.sizes, hs.inv'.shape, hs.inv'.free_iff, hs.inv'.nodup, hs.inv'.no_used⟩⟩
  simp only [Array.toList_setIfInBounds]
  exact hs.globals.set n hv

end Marwood.Lemmas.Sim
