import Marwood.Lemmas.StackStepEff
/-!
# What one successful instruction does: the relation `StepEff`

`StepEff ops s op s' b`: the instruction `op` under `ip` of `s` leads to `s'` (`b`: halted). One constructor per
instruction and, for CALL / TCALL, per kind of callee; the result state is written out where the instruction is
straight-line code, and given by the function that computes it (`runBuiltin`, `invokeCont`, `tcallTail`,
`stepVarArg`) where it is a loop. The premises are exactly the conditions under which the instruction succeeds, so
the relation reads both ways: `step_eff` (every successful `step` is one of these cases: the invariants over `step`
argue by `cases` on it) and `StepEff.run` (a case at the instruction under `ip` is the result of `step`: "run this
instruction" is a constructor). Generic in the heap, free of the verifier and of the heap laws.
-/
namespace Marwood.Vm
open Stack

attribute [local irreducible] Marwood.Vm.Stack.push

variable {H : Type} {ops : HeapOps H}

theorem readOperand_val {s s1 : St H} {v : VCell} (h : readOperand ops s = .ok (v, s1)) : ∀ o, v ≠ .opcode o := by
  intro o e
  subst e
  unfold readOperand at h
  split at h
  · cases h
  · cases hf : ops.fetch s.heap s.ipL s.ipO with
    | none => rw [hf] at h; cases h
    | some c =>
      rw [hf] at h
      cases c <;> cases h

theorem OpLoads.adv {s : St H} (k : Nat) {c v : VCell} (h : OpLoads ops s c v) : OpLoads ops { s with ipO := k } c v := by
  cases h with
  | acc => exact .acc
  | ptr p => exact .ptr p
  | bp h0 hg => exact .bp h0 hg
  | glob n hne => exact .glob n hne
  | env hg hne => exact .env hg hne
  | envPtr hg hw => exact .envPtr hg hw

theorem OpLoads.ip {s : St H} {k : Nat} {c v : VCell} (h : OpLoads ops { s with ipO := k } c v) : OpLoads ops s c v :=
  h.adv s.ipO

/-- The callee of CALL / TCALL is given by cases of `ops.callee` (the readers on the concrete heap split on them); ENTER
    names it through `enterLam`, as the frame-chain invariant does; `enterLam_eq_some` converts -/
inductive StepEff (ops : HeapOps H) (s : St H) : Op → St H → Bool → Prop
  | jmp {o : Nat} : ops.fetch s.heap s.ipL (s.ipO + 1) = some (.ptr o) → StepEff ops s .jmp { s with ipO := o } false
  | jntTaken {o : Nat} : ops.fetch s.heap s.ipL (s.ipO + 1) = some (.ptr o) → ops.deref s.heap s.acc = .bool false →
      StepEff ops s .jnt { s with ipO := o } false
  | jntFall {o : Nat} : ops.fetch s.heap s.ipL (s.ipO + 1) = some (.ptr o) → ops.deref s.heap s.acc ≠ .bool false →
      StepEff ops s .jnt { s with ipO := s.ipO + 1 + 1 } false
  | mov {c d v : VCell} {s' : St H} : ops.fetch s.heap s.ipL (s.ipO + 1) = some c → OpLoads ops s c v →
      ops.fetch s.heap s.ipL (s.ipO + 1 + 1) = some d → OpStores ops { s with ipO := s.ipO + 1 + 1 + 1 } v d s' →
      StepEff ops s .mov s' false
  | movImm {d v : VCell} {s' : St H} : ops.fetch s.heap s.ipL (s.ipO + 1) = some v → (∀ o, v ≠ .opcode o) →
      ops.fetch s.heap s.ipL (s.ipO + 1 + 1) = some d → OpStores ops { s with ipO := s.ipO + 1 + 1 + 1 } v d s' →
      StepEff ops s .movImm s' false
  | push {c v : VCell} : ops.fetch s.heap s.ipL (s.ipO + 1) = some c → OpLoads ops s c v →
      StepEff ops s .push { s with ipO := s.ipO + 1 + 1, stack := s.stack.push v } false
  | pushImm {v : VCell} : ops.fetch s.heap s.ipL (s.ipO + 1) = some v → (∀ o, v ≠ .opcode o) →
      StepEff ops s .pushImm { s with ipO := s.ipO + 1 + 1, stack := s.stack.push v } false
  | pushAcc : StepEff ops s .pushAcc { s with ipO := s.ipO + 1, stack := s.stack.push s.acc } false
  | halt : StepEff ops s .halt { s with ipO := s.ipO + 1 } true
  /-- CONS: `put` of the popped cdr, then of the popped car, then of the pair -/
  | cons {pa pd : Nat} {h1 h2 h3 : H} {d a p : VCell} : 2 ≤ s.stack.sp →
      s.stack.cells[s.stack.sp]? = some d → s.stack.cells[s.stack.sp - 1]? = some a →
      ops.put s.heap d = (h1, .ptr pd) → ops.put h1 a = (h2, .ptr pa) → ops.put h2 (.pair pa pd) = (h3, p) →
      StepEff ops s .cons { s with ipO := s.ipO + 1, heap := h3, stack := { s.stack with sp := s.stack.sp - 2 }, acc := p } false
  /-- VPUSH: `acc` is pushed onto the vector the popped cell `d` designates; `acc` keeps `d` -/
  | vpush {h' : H} {d : VCell} : 1 ≤ s.stack.sp → s.stack.cells[s.stack.sp]? = some d →
      ops.vectorPush s.heap (ops.deref s.heap d) s.acc = .ok h' →
      StepEff ops s .vpushAcc { s with ipO := s.ipO + 1, heap := h', stack := { s.stack with sp := s.stack.sp - 1 }, acc := d } false
  | closure {lam : Nat} {h' : H} {c : VCell} : s.acc = .ptr lam → ops.makeClosure s.heap lam s.ep s.bp s.stack = .ok (h', c) →
      StepEff ops s .closureAcc { s with ipO := s.ipO + 1, heap := h', acc := c } false
  | callProc {lam : Nat} :
      ((∃ env, ops.callee s.heap s.acc = .closure lam env) ∨ (ops.callee s.heap s.acc = .lambda ∧ s.acc = .ptr lam)) →
      StepEff ops s .callAcc { s with stack := (s.stack.push (.envPtr s.ep)).push (.instrPtr s.ipL (s.ipO + 1)), ipL := lam, ipO := 0 } false
  | tcallProc {lam : Nat} {s' : St H} :
      ((∃ env, ops.callee s.heap s.acc = .closure lam env) ∨ (ops.callee s.heap s.acc = .lambda ∧ s.acc = .ptr lam)) →
      tcallTail { s with ipO := s.ipO + 1 } lam = .ok s' → StepEff ops s .tcallAcc s' false
  | callBuiltin {id : Nat} {s' : St H} : ops.callee s.heap s.acc = .builtin id →
      runBuiltin ops id { s with ipO := s.ipO + 1 } = .ok s' → StepEff ops s .callAcc s' false
  | tcallBuiltin {id : Nat} {s' : St H} : ops.callee s.heap s.acc = .builtin id →
      runBuiltin ops id { s with ipO := s.ipO + 1 } = .ok s' → StepEff ops s .tcallAcc s' false
  | callCont {c : Cont} {s' : St H} : ops.callee s.heap s.acc = .continuation c →
      invokeCont { s with ipO := s.ipO + 1 } c = .ok s' → StepEff ops s .callAcc s' false
  | tcallCont {c : Cont} {s' : St H} : ops.callee s.heap s.acc = .continuation c →
      invokeCont { s with ipO := s.ipO + 1 } c = .ok s' → StepEff ops s .tcallAcc s' false
  | enter {lam : Nat} {info : LambdaInfo} {h' : H} {ep' : Nat} : enterLam ops s.heap s.acc = some lam →
      ops.lambdaInfo s.heap lam = some info → s.stack.cells[s.stack.sp - 2]? = some (.argc info.argc) → 3 ≤ s.stack.sp →
      ((ops.callee s.heap s.acc = .lambda ∧ h' = s.heap ∧ ep' = s.ep) ∨ ∃ env, ops.callee s.heap s.acc = .closure lam env ∧
        ops.makeActivation s.heap lam env (s.stack.sp - 3) (s.stack.push (.basePtr s.bp)) = .ok (h', ep')) →
      StepEff ops s .enter { s with ipO := s.ipO + 1, heap := h', ep := ep', stack := s.stack.push (.basePtr s.bp), bp := s.stack.sp - 3 } false
  | ret {n ep l o bp' : Nat} : s.stack.cells[s.bp + 1]? = some (.argc n) → s.stack.cells[s.bp + 2]? = some (.envPtr ep) →
      s.stack.cells[s.bp + 3]? = some (.instrPtr l o) → s.stack.cells[s.bp + 4]? = some (.basePtr bp') → n ≤ s.bp →
      StepEff ops s .ret { s with stack := { s.stack with sp := s.bp - n }, ep := ep, ipL := l, ipO := o, bp := bp' } false
  | varArg {s' : St H} : stepVarArg ops { s with ipO := s.ipO + 1 } = .ok s' → StepEff ops s .varArg s' false

theorem execOp_eff {s s' : St H} {op : Op} {b : Bool} (h : execOp ops op { s with ipO := s.ipO + 1 } = .ok (s', b)) :
    StepEff ops s op s' b := by
  cases op <;> rw [execOp] at h
  case jmp =>
    obtain ⟨⟨v, s2⟩, hro, h⟩ := bind_inv h
    obtain ⟨hf, rfl⟩ := readOperand_ok hro
    obtain ⟨o, hp, h⟩ := bind_inv h
    cases asPtr_ok hp
    cases h
    exact .jmp hf
  case jnt =>
    obtain ⟨⟨v, s2⟩, hro, h⟩ := bind_inv h
    obtain ⟨hf, rfl⟩ := readOperand_ok hro
    obtain ⟨o, hp, h⟩ := bind_inv h
    cases asPtr_ok hp
    dsimp only at h
    split at h
    · rename_i hd; cases h; exact .jntTaken hf hd
    · rename_i hd; cases h; exact .jntFall hf hd
  case mov =>
    obtain ⟨⟨v, s2⟩, hlo, h⟩ := bind_inv h
    obtain ⟨rfl, c, hf, ld⟩ := loadOperand_eff hlo
    obtain ⟨s3, hso, h⟩ := bind_inv h
    cases h
    obtain ⟨d, hd, st⟩ := storeOperand_eff hso
    exact .mov hf ld.ip hd st
  case movImm =>
    obtain ⟨⟨v, s2⟩, hro, h⟩ := bind_inv h
    obtain ⟨hf, rfl⟩ := readOperand_ok hro
    obtain ⟨s3, hso, h⟩ := bind_inv h
    cases h
    obtain ⟨d, hd, st⟩ := storeOperand_eff hso
    exact .movImm hf (readOperand_val hro) hd st
  case push =>
    obtain ⟨⟨v, s2⟩, hlo, h⟩ := bind_inv h
    obtain ⟨rfl, c, hf, ld⟩ := loadOperand_eff hlo
    cases h
    exact .push hf ld.ip
  case pushImm =>
    obtain ⟨⟨v, s2⟩, hro, h⟩ := bind_inv h
    obtain ⟨hf, rfl⟩ := readOperand_ok hro
    cases h
    exact .pushImm hf (readOperand_val hro)
  case pushAcc => cases h; exact .pushAcc
  case halt => cases h; exact .halt
  case cons =>
    obtain ⟨⟨d, st1⟩, hp1, h⟩ := bind_inv h
    obtain ⟨⟨a, st2⟩, hp2, h⟩ := bind_inv h
    obtain ⟨pa, ha, h⟩ := bind_inv h
    obtain ⟨pd, hd, h⟩ := bind_inv h
    cases h
    obtain ⟨p1, p2, rfl⟩ := pop_eq_ok.mp hp1
    obtain ⟨q1, q2, rfl⟩ := pop_eq_ok.mp hp2
    exact .cons (pa := pa) (pd := pd) (by show 2 ≤ s.stack.sp; have : 0 < s.stack.sp - 1 := q1; omega) p2 q2
      (Prod.ext rfl (asPtr_ok hd)) (Prod.ext rfl (asPtr_ok ha)) rfl
  case vpushAcc =>
    obtain ⟨⟨d, st1⟩, hp1, h⟩ := bind_inv h
    obtain ⟨h', hv, h⟩ := bind_inv h
    cases h
    obtain ⟨p1, p2, rfl⟩ := pop_eq_ok.mp hp1
    exact .vpush p1 p2 hv
  case closureAcc =>
    obtain ⟨lam, hp, h⟩ := bind_inv h
    obtain ⟨⟨h', c⟩, hm, h⟩ := bind_inv h
    cases h
    exact .closure (asPtr_ok hp) hm
  case callAcc =>
    obtain ⟨s2, he, h⟩ := bind_inv h
    cases h
    rcases stepCall_eff he with ⟨id, hc, hb⟩ | ⟨c, hc, hi⟩ | ⟨lam, hl, rfl⟩
    · exact .callBuiltin hc hb
    · exact .callCont hc hi
    · exact .callProc (enterLam_eq_some.mp hl)
  case tcallAcc =>
    obtain ⟨s2, he, h⟩ := bind_inv h
    cases h
    rcases stepTCall_eff he with ⟨id, hc, hb⟩ | ⟨c, hc, hi⟩ | ⟨lam, hl, ht⟩
    · exact .tcallBuiltin hc hb
    · exact .tcallCont hc hi
    · exact .tcallProc (enterLam_eq_some.mp hl) ht
  case enter =>
    obtain ⟨s2, he, h⟩ := bind_inv h
    cases h
    obtain ⟨lam, info, h', ep', h1, h2, h3, h4, rfl, h6⟩ := stepEnter_iff.mp he
    exact .enter h1 h2 h3 h4 h6
  case ret =>
    obtain ⟨s2, he, h⟩ := bind_inv h
    cases h
    obtain ⟨n, ep, l, o, bp', r1, r2, r3, r4, r5, rfl⟩ := stepRet_iff.mp he
    exact .ret r1 r2 r3 r4 r5
  case varArg =>
    obtain ⟨s2, he, h⟩ := bind_inv h
    cases h
    exact .varArg he

theorem step_eff {s s' : St H} {b : Bool} (hs : step ops s = .ok (s', b)) :
    ∃ op, readOpcode ops s = .ok (op, { s with ipO := s.ipO + 1 }) ∧ StepEff ops s op s' b := by
  obtain ⟨op, h, hr⟩ := step_inv hs
  exact ⟨op, hr, execOp_eff h⟩

theorem StepEff.of_step {s s1 s' : St H} {op : Op} {b : Bool} (hr : readOpcode ops s = .ok (op, s1))
    (hs : step ops s = .ok (s', b)) : StepEff ops s op s' b := by
  obtain ⟨op', hr', e⟩ := step_eff hs
  rw [hr] at hr'
  cases hr'
  exact e


theorem readOpcode_isLambda {s s1 : St H} {op : Op} (h : readOpcode ops s = .ok (op, s1)) :
    ops.isLambda s.heap s.ipL = true := by
  unfold readOpcode at h
  split at h
  · cases h
  · rename_i hl; simpa using hl

theorem readOperand_run {s : St H} {v : VCell} (hl : ops.isLambda s.heap s.ipL = true)
    (hf : ops.fetch s.heap s.ipL s.ipO = some v) (hv : ∀ o, v ≠ .opcode o) :
    readOperand ops s = .ok (v, { s with ipO := s.ipO + 1 }) := by
  unfold readOperand
  simp only [hl, hf]
  cases v <;> first | rfl | exact absurd rfl (hv _)

theorem OpLoads.opnd {s : St H} {c v : VCell} (ld : OpLoads ops s c v) : ∀ o, c ≠ .opcode o := by
  intro o e; cases ld <;> cases e

theorem OpStores.opnd {s s' : St H} {c v : VCell} (st : OpStores ops s v c s') : ∀ o, c ≠ .opcode o := by
  intro o e; cases st <;> cases e

theorem OpLoads.run {s : St H} {c v : VCell} (hl : ops.isLambda s.heap s.ipL = true)
    (hf : ops.fetch s.heap s.ipL s.ipO = some c) (ld : OpLoads ops s c v) :
    loadOperand ops s = .ok (v, { s with ipO := s.ipO + 1 }) := by
  unfold loadOperand
  rw [readOperand_run hl hf ld.opnd]
  cases ld with
  | acc => rfl
  | ptr p => rfl
  | bp h0 hg => simp only [outcome_bind_ok, h0, if_true, hg]
  | glob n hne =>
    simp only [outcome_bind_ok]
  | @env n w hg hne =>
    simp only [outcome_bind_ok, hg]
  | envPtr hg hw => simp only [outcome_bind_ok, hg, hw]

theorem OpStores.run {s s' : St H} {c v : VCell} (hl : ops.isLambda s.heap s.ipL = true)
    (hf : ops.fetch s.heap s.ipL s.ipO = some c) (st : OpStores ops { s with ipO := s.ipO + 1 } v c s') :
    storeOperand ops s v = .ok s' := by
  unfold storeOperand
  rw [readOperand_run hl hf st.opnd]
  cases st with
  | acc => rfl
  | ptr p => rfl
  | bp hs => simp only [outcome_bind_ok, hs]
  | glob n => rfl
  | @env n w h' hg hne hp =>
    simp only [outcome_bind_ok, hg]
    cases w <;> first | (simp only [hp]; done) | exact absurd rfl (hne _ _)
  | envPtr hg hp => simp only [outcome_bind_ok, hg, hp]

theorem stepCall_proc {s : St H} {lam : Nat} (h : enterLam ops s.heap s.acc = some lam) :
    stepCall ops s = .ok { (s.push (.envPtr s.ep)).push (.instrPtr s.ipL s.ipO) with ipL := lam, ipO := 0 } := by
  unfold enterLam at h
  unfold stepCall
  split at h
  · rename_i l e hc; cases h; rw [hc]
  · rename_i hc
    split at h
    · rename_i p hp; cases h; rw [hc, hp]; rfl
    · cases h
  · cases h

theorem stepTCall_proc {s s' : St H} {lam : Nat} (h : enterLam ops s.heap s.acc = some lam)
    (ht : tcallTail s lam = .ok s') : stepTCall ops s = .ok s' := by
  unfold enterLam at h
  split at h
  · rename_i l e hc; cases h; rw [stepTCall_closure hc]; exact ht
  · rename_i hc
    split at h
    · rename_i p hp; cases h; rw [stepTCall_lambda hc, hp]; exact ht
    · cases h
  · cases h

theorem StepEff.run {s s' : St H} {op : Op} {b : Bool} (hr : readOpcode ops s = .ok (op, { s with ipO := s.ipO + 1 }))
    (e : StepEff ops s op s' b) : step ops s = .ok (s', b) := by
  have hl := readOpcode_isLambda hr
  have hl1 : ops.isLambda ({ s with ipO := s.ipO + 1 } : St H).heap ({ s with ipO := s.ipO + 1 } : St H).ipL = true := hl
  rw [step_read hr]
  cases e with
  | jmp hf =>
    rw [execOp]
    rw [readOperand_run hl1 hf (by intro o h; cases h)]; rfl
  | jntTaken hf hd =>
    rw [execOp]
    rw [readOperand_run hl1 hf (by intro o h; cases h)]
    simp only [outcome_bind_ok, asPtr]
    rw [hd]
  | jntFall hf hd =>
    rw [execOp]
    rw [readOperand_run hl1 hf (by intro o h; cases h)]
    simp only [outcome_bind_ok, asPtr]
  | mov hc ld hd sto =>
    rw [execOp]
    rw [OpLoads.run (s := { s with ipO := s.ipO + 1 }) hl1 hc (ld.adv _)]
    simp only [outcome_bind_ok]
    rw [OpStores.run (s := { s with ipO := s.ipO + 1 + 1 }) hl hd sto]; rfl
  | movImm hf hv hd sto =>
    rw [execOp]
    rw [readOperand_run hl1 hf hv]
    simp only [outcome_bind_ok]
    rw [OpStores.run (s := { s with ipO := s.ipO + 1 + 1 }) hl hd sto]; rfl
  | push hc ld =>
    rw [execOp]
    rw [OpLoads.run (s := { s with ipO := s.ipO + 1 }) hl1 hc (ld.adv _)]; rfl
  | pushImm hf hv =>
    rw [execOp]
    rw [readOperand_run hl1 hf hv]; rfl
  | pushAcc => rw [execOp]; rfl
  | halt => rw [execOp]
  | cons h2 hd ha e1 e2 e3 =>
    rw [execOp, pop_eq_ok.mpr ⟨by show 0 < s.stack.sp; omega, hd, rfl⟩, outcome_bind_ok]
    simp only [e1]
    rw [pop_eq_ok.mpr ⟨by show 0 < s.stack.sp - 1; omega, ha, rfl⟩]
    simp only [outcome_bind_ok, e2, e3, asPtr]
    rfl
  | vpush h1 hd hv =>
    rw [execOp, pop_eq_ok.mpr ⟨by show 0 < s.stack.sp; omega, hd, rfl⟩]
    simp only [outcome_bind_ok]
    rw [hv]; rfl
  | closure ha hm =>
    rw [execOp]
    simp only [ha, asPtr, outcome_bind_ok]; rw [hm]; rfl
  | callProc hl' =>
    rw [execOp]
    rw [stepCall_proc (s := { s with ipO := s.ipO + 1 }) (enterLam_eq_some.mpr hl')]; rfl
  | tcallProc hl' ht =>
    rw [execOp]
    rw [stepTCall_proc (s := { s with ipO := s.ipO + 1 }) (enterLam_eq_some.mpr hl') ht]; rfl
  | callBuiltin hc hb | callCont hc hb =>
    rw [execOp]
    have : stepCall ops { s with ipO := s.ipO + 1 } = .ok s' := by unfold stepCall; rw [show ops.callee _ _ = _ from hc]; exact hb
    rw [this]; rfl
  | tcallBuiltin hc hb | tcallCont hc hb =>
    rw [execOp]
    have : stepTCall ops { s with ipO := s.ipO + 1 } = .ok s' := by unfold stepTCall; rw [show ops.callee _ _ = _ from hc]; exact hb
    rw [this]; rfl
  | enter h1 h2 h3 h4 hh =>
    rw [execOp, stepEnter_run (s := { s with ipO := s.ipO + 1 }) h1 h2 h3 h4 hh]; rfl
  | ret r1 r2 r3 r4 r5 =>
    rw [execOp, stepRet_run (s := { s with ipO := s.ipO + 1 }) r1 r2 r3 r4 r5]; rfl
  | varArg he =>
    rw [execOp]
    rw [he]; rfl

end Marwood.Vm
