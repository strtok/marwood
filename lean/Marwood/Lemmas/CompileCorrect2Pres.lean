import Marwood.Lemmas.CompileCorrect2Defs
/-!
# T01.3 stage 2: what the representation keeps while heap, store and world grow
-/
namespace Marwood.Lemmas.CompileCorrect2
open Marwood Marwood.Vm Marwood.Lemmas.CompileCorrect
open Marwood.Spec.Eval (Val Prim Cell Env)

variable {H : Type} {ops : HeapOps H} {D : RepData2 ops}

theorem World.le_refl (W : World) : W.le W := fun _ _ _ h => h
theorem World.le_trans {a b c : World} (h1 : a.le b) (h2 : b.le c) : a.le c := fun e n l h => h2 e n l (h1 e n l h)

theorem StoreExt.refl (S : Array Cell) : StoreExt S S :=
  ⟨Nat.le_refl _, fun _ _ h _ => h, fun _ v h => ⟨v, h⟩⟩

theorem StoreExt.trans {a b c : Array Cell} (h1 : StoreExt a b) (h2 : StoreExt b c) : StoreExt a c := by
  refine ⟨Nat.le_trans h1.size h2.size, fun l x hx hn => h2.keep l x (h1.keep l x hx hn) hn, fun l v hv => ?_⟩
  obtain ⟨v', hv'⟩ := h1.var l v hv
  exact h2.var l v' hv'

theorem StoreExt.setVar (S : Array Cell) (l : Nat) (v : Val) (old : Val) (h : S[l]? = some (.var old)) :
    StoreExt S (S.setIfInBounds l (.var v)) := by
  have hlt : l < S.size := (Array.getElem?_eq_some_iff.mp h).1
  refine ⟨by simp, fun m c hc hn => ?_, fun m u hu => ?_⟩
  · by_cases hm : l = m
    · subst hm; rw [h] at hc; cases hc; exact absurd rfl (hn old)
    · simp [hm, hc]
  · by_cases hm : l = m
    · subst hm; exact ⟨v, by simp [hlt]⟩
    · exact ⟨u, by simp [hm, hu]⟩

theorem StoreExt.ofPrefix {S S' : Array Cell} (hs : S.size ≤ S'.size)
    (h : ∀ l, l < S.size → S'[l]? = S[l]?) : StoreExt S S' := by
  have lt : ∀ (l : Nat) (c : Cell), S[l]? = some c → l < S.size := fun l c hc => (Array.getElem?_eq_some_iff.mp hc).1
  exact ⟨hs, fun l c hc _ => by rw [h l (lt l c hc)]; exact hc, fun l v hv => ⟨v, by rw [h l (lt l _ hv)]; exact hv⟩⟩

theorem StoreExt.ofStorePrefix {S S' : Array Cell} (h : StorePrefix S S') : StoreExt S S' := by
  refine ⟨?_, fun l c hc _ => h l c hc, fun l v hv => ⟨v, h l _ hv⟩⟩
  rcases Nat.lt_or_ge S'.size S.size with h1 | h1
  · have h2 : S[S'.size]? = some S[S'.size] := Array.getElem?_eq_getElem h1
    have h3 := h _ _ h2
    simp at h3
  · exact h1

theorem Ext2.refl (h : H) (S : Array Cell) : Ext2 D h S h S :=
  ⟨StoreExt.refl _, fun _ _ x => x, fun _ _ x => x, fun _ x => ⟨x, fun _ => rfl, rfl, rfl⟩, fun _ _ _ x => x,
   fun _ x => x, fun _ _ _ _ x => x, fun _ _ v x y => ⟨v, x, y⟩⟩

theorem Ext2.trans {h1 h2 h3 : H} {S1 S2 S3 : Array Cell} (a : Ext2 D h1 S1 h2 S2) (b : Ext2 D h2 S2 h3 S3) :
    Ext2 D h1 S1 h3 S3 := by
  refine ⟨a.store.trans b.store, fun v w x => b.vr v w (a.vr v w x), fun v d x => b.datum v d (a.datum v d x),
    fun l hl => ?_,
    fun v l e x => b.clos v l e (a.clos v l e x), fun e x => b.envOK e (a.envOK e x),
    fun e k p q x => b.envPtr e k p q (a.envPtr e k p q x),
    fun e k v x y => ?_⟩
  · obtain ⟨a1, a2, a3, a4⟩ := a.code l hl
    obtain ⟨b1, b2, b3, b4⟩ := b.code l a1
    exact ⟨b1, fun o => (b2 o).trans (a2 o), b3.trans a3, b4.trans a4⟩
  · obtain ⟨v', x', y'⟩ := a.envVal e k v x y
    exact b.envVal e k v' x' y'

theorem Ext2.storeOnly (L : Laws2 D) (h : H) {S S' : Array Cell} (x : StoreExt S S') : Ext2 D h S h S' :=
  ⟨x, fun _ _ y => L.vr_store _ _ _ _ _ x y,
   fun _ _ y => DatumAt.transport (fun _ _ z => L.vr_store _ _ _ _ _ x z) (fun _ _ _ z => z) (fun _ _ z => z) y,
   fun _ y => ⟨y, fun _ => rfl, rfl, rfl⟩, fun _ _ _ y => y, fun _ y => y, fun _ _ _ _ y => y,
   fun _ _ v y z => ⟨v, y, z⟩⟩

theorem Ext2.envSome {h h' : H} {S S' : Array Cell} (x : Ext2 D h S h' S') {e k : Nat} {g : VCell}
    (hg : ops.envGet h e k = some g) : ∃ g', ops.envGet h' e k = some g' := by
  cases hp : isEnvPtr g with
  | true =>
    cases g <;> simp [isEnvPtr] at hp
    exact ⟨_, x.envPtr _ _ _ _ hg⟩
  | false =>
    obtain ⟨v', h1, _⟩ := x.envVal e k g hg hp
    exact ⟨v', h1⟩

theorem Denotes.ext {h h' : H} {S S' : Array Cell} (x : Ext2 D h S h' S') {ep j e n : Nat}
    (hd : Denotes ops h ep j e n) : Denotes ops h' ep j e n := by
  rcases hd with hp | ⟨rfl, rfl, v, hv, hnp⟩
  · exact .inl (x.envPtr _ _ _ _ hp)
  · obtain ⟨v', h1, h2⟩ := x.envVal _ _ v hv hnp
    exact .inr ⟨rfl, rfl, v', h1, h2⟩

theorem EnvRep.ext {W W' : World} {h h' : H} {S S' : Array Cell} {c : Ctx} {ep : Nat} {ρ : Env}
    (r : EnvRep ops W h c ep ρ) (x : Ext2 D h S h' S') (hw : W.le W') : EnvRep ops W' h' c ep ρ := by
  intro y j hj
  obtain ⟨e, n, l, hd, hl, hW⟩ := r y j hj
  exact ⟨e, n, l, hd.ext x, hl, hw _ _ _ hW⟩

theorem ClosOK.mono {W W' : World} {h h' : H} {S S' : Array Cell} {lam cenv : Nat} {ps : List Text}
    {body : List Datum} {ρc : Env} (c : ClosOK D W h lam cenv ps body ρc) (x : Ext2 D h S h' S')
    (hw : W.le W') : ClosOK D W' h' lam cenv ps body ρc := by
  obtain ⟨f, cst, cst1, co, formals, bodyD, p, bcode, caps, hparts, hformals, hva, hnd, hbody, hnodef, hcb, hfin,
    hpre, hlam, hisl, hfb, hsrcs, hem, hcaps, hslots, hcapt, henvok⟩ := c
  obtain ⟨b1, _, _, b4⟩ := x.code lam hisl
  refine ⟨f, cst, cst1, co, formals, bodyD, p, bcode, caps, hparts, hformals, hva, hnd, hbody, hnodef, hcb, hfin,
    hpre, hlam, b1, hfb, b4.trans hsrcs, hem, hcaps, ?_, ?_, x.envOK _ henvok⟩
  · intro j hj
    obtain ⟨g, hg⟩ := hslots j hj
    exact x.envSome hg
  · intro j y hj hy
    obtain ⟨e, n, l, h1, h2, h3⟩ := hcapt j y hj hy
    exact ⟨e, n, l, x.envPtr _ _ _ _ h1, h2, hw _ _ _ h3⟩

theorem VR2.mono {W W' : World} {h h' : H} {S S' : Array Cell} {v : VCell} {w : Val}
    (r : VR2 D W h S v w) (x : Ext2 D h S h' S') (hw : W.le W') : VR2 D W' h' S' v w := by
  cases w with
  | closure ps rest body ρc =>
    obtain ⟨hr, lam, cenv, hc, hok⟩ := r
    exact ⟨hr, lam, cenv, x.clos _ _ _ hc, hok.mono x hw⟩
  | _ => exact x.vr _ _ r

theorem All2.vr2_mono {W W' : World} {h h' : H} {S S' : Array Cell} {vs : List VCell} {ws : List Val}
    (r : All2 (VR2 D W h S) vs ws) (x : Ext2 D h S h' S') (hw : W.le W') : All2 (VR2 D W' h' S') vs ws :=
  All2.mono (fun _ _ y => VR2.mono y x hw) r

theorem Loads2.ext {em : List (Text × Source)} {h h' : H} {S S' : Array Cell} (x : Ext2 D h S h' S')
    {bc : BC} {v : VCell} (l : Loads2 D em h S bc v) : Loads2 D em h' S' bc v := by
  cases bc with
  | datum d => exact ⟨l.1, x.datum _ _ l.2⟩
  | lambda id =>
    refine ⟨l.1, fun lamM hl => ?_⟩
    obtain ⟨a1, a2⟩ := l.2 lamM hl
    obtain ⟨b1, _, _, b4⟩ := x.code _ a1
    exact ⟨b1, b4.trans a2⟩
  | _ => exact l

theorem CodeAt2.ext {em : List (Text × Source)} {h h' : H} {S S' : Array Cell} {l base : Nat} {code : List BC}
    (hc : CodeAt2 D em h S l base code) (x : Ext2 D h S h' S') : CodeAt2 D em h' S' l base code := by
  obtain ⟨b1, b2, _, _⟩ := x.code l hc.1
  refine ⟨b1, fun i bc hi => ?_⟩
  obtain ⟨v, hf, hl⟩ := hc.2 i bc hi
  exact ⟨v, by rw [b2]; exact hf, hl.ext x⟩

theorem AllLoaded.ext {h h' : H} {S S' : Array Cell} (a : AllLoaded D h S) (x : Ext2 D h S h' S') :
    AllLoaded D h' S' := by
  intro id lamM hid
  obtain ⟨hc, hi⟩ := a id lamM hid
  obtain ⟨_, _, b3, _⟩ := x.code _ hc.1
  exact ⟨hc.ext x, b3.trans hi⟩

theorem Inv2.var_lt {W : World} {h : H} {σ : SSt} (i : Inv2 D W h σ) {e n l : Nat} (hW : W e n l) :
    l < σ.store.size :=
  let ⟨_, _, _, _, h3, _⟩ := i.vars e n l hW
  (Array.getElem?_eq_some_iff.mp h3).1

theorem Inv2.frame {W : World} {h h' : H} {σ σ' : SSt} (i : Inv2 D W h σ)
    (x : Ext2 D h σ.store h' σ'.store) (hx : D.SRx h' σ'.store) (hg : σ'.globals = σ.globals)
    (hgg : ∀ m, ops.globGet h' m = ops.globGet h m)
    (hloc : ∀ e n l, W e n l → ops.envGet h' e n = ops.envGet h e n ∧ σ'.store[l]? = σ.store[l]?) :
    Inv2 D W h' σ' := by
  refine ⟨fun y w hn hl => ?_, fun y hn hl => ?_, hx, fun y hy => hg ▸ i.gset y hy, i.loaded.ext x, i.wfun, i.winj,
    fun e n l hW => ?_⟩
  · rw [hgg]; exact (i.bound y w hn (hg ▸ hl)).mono x (World.le_refl _)
  · rw [hgg]; exact i.unbound y hn (hg ▸ hl)
  · obtain ⟨v, w, h1, h2, h3, h4⟩ := i.vars e n l hW
    obtain ⟨e1, e2⟩ := hloc e n l hW
    exact ⟨v, w, e1 ▸ h1, h2, e2 ▸ h3, h4.mono x (World.le_refl _)⟩

theorem CodeAt2.left {em : List (Text × Source)} {l base : Nat} {h : H} {S : Array Cell} {a b : List BC}
    (hc : CodeAt2 D em h S l base (a ++ b)) : CodeAt2 D em h S l base a := by
  refine ⟨hc.1, fun i bc hi => hc.2 i bc ?_⟩
  have hlt : i < a.length := (List.getElem?_eq_some_iff.mp hi).1
  rw [List.getElem?_append_left hlt]; exact hi

theorem CodeAt2.right {em : List (Text × Source)} {l base : Nat} {h : H} {S : Array Cell} {a b : List BC}
    (hc : CodeAt2 D em h S l base (a ++ b)) : CodeAt2 D em h S l (base + a.length) b := by
  refine ⟨hc.1, fun i bc hi => ?_⟩
  have := hc.2 (a.length + i) bc (by rw [List.getElem?_append_right (by omega)]; simpa using hi)
  rwa [← Nat.add_assoc] at this

theorem CodeAt2.cast {em : List (Text × Source)} {l base base' : Nat} {h : H} {S : Array Cell} {code : List BC}
    (hc : CodeAt2 D em h S l base code) (e : base = base') : CodeAt2 D em h S l base' code := e ▸ hc

theorem CodeAt2.op {em : List (Text × Source)} {l base : Nat} {h : H} {S : Array Cell} {code : List BC}
    (hc : CodeAt2 D em h S l base code) (i : Nat) {o : Op} (hi : code[i]? = some (.op o)) :
    ops.fetch h l (base + i) = some (.opcode o) := by
  obtain ⟨v, hf, hl⟩ := hc.2 i _ hi
  cases (show v = .opcode o from hl); exact hf

theorem CodeAt2.accCell {em : List (Text × Source)} {l base : Nat} {h : H} {S : Array Cell} {code : List BC}
    (hc : CodeAt2 D em h S l base code) (i : Nat) (hi : code[i]? = some .acc) :
    ops.fetch h l (base + i) = some .acc := by
  obtain ⟨v, hf, hl⟩ := hc.2 i _ hi
  cases (show v = .acc from hl); exact hf

theorem CodeAt2.globalCell {em : List (Text × Source)} {l base : Nat} {h : H} {S : Array Cell} {code : List BC}
    (hc : CodeAt2 D em h S l base code) (i : Nat) {x : Text} (hi : code[i]? = some (.global x)) :
    D.named x ∧ ops.fetch h l (base + i) = some (.globSlot (D.slot x)) := by
  obtain ⟨v, hf, hl⟩ := hc.2 i _ hi
  obtain ⟨hn, hv⟩ := (show D.named x ∧ v = .globSlot (D.slot x) from hl)
  cases hv; exact ⟨hn, hf⟩

theorem CodeAt2.envCell {em : List (Text × Source)} {l base : Nat} {h : H} {S : Array Cell} {code : List BC}
    (hc : CodeAt2 D em h S l base code) (i : Nat) {x : Text} (hi : code[i]? = some (.envSlot x)) :
    ∃ j, slotIdx em x = some j ∧ ops.fetch h l (base + i) = some (.lexEnvSlot j) := by
  obtain ⟨v, hf, hl⟩ := hc.2 i _ hi
  obtain ⟨j, hj, hv⟩ := (show ∃ j, slotIdx em x = some j ∧ v = .lexEnvSlot j from hl)
  cases hv; exact ⟨j, hj, hf⟩

theorem CodeAt2.argcCell {em : List (Text × Source)} {l base : Nat} {h : H} {S : Array Cell} {code : List BC}
    (hc : CodeAt2 D em h S l base code) (i : Nat) {n : Nat} (hi : code[i]? = some (.argc n)) :
    ops.fetch h l (base + i) = some (.argc n) := by
  obtain ⟨v, hf, hl⟩ := hc.2 i _ hi
  cases (show v = .argc n from hl); exact hf

theorem CodeAt2.targetCell {em : List (Text × Source)} {l base : Nat} {h : H} {S : Array Cell} {code : List BC}
    (hc : CodeAt2 D em h S l base code) (i : Nat) {n : Nat} (hi : code[i]? = some (.target n)) :
    ops.fetch h l (base + i) = some (.ptr n) := by
  obtain ⟨v, hf, hl⟩ := hc.2 i _ hi
  cases (show v = .ptr n from hl); exact hf

theorem CodeAt2.voidCell {em : List (Text × Source)} {l base : Nat} {h : H} {S : Array Cell} {code : List BC}
    (hc : CodeAt2 D em h S l base code) (i : Nat) (hi : code[i]? = some .void) :
    ops.fetch h l (base + i) = some .void := by
  obtain ⟨v, hf, hl⟩ := hc.2 i _ hi
  cases (show v = .void from hl); exact hf

theorem CodeAt2.lambdaCell {em : List (Text × Source)} {l base : Nat} {h : H} {S : Array Cell} {code : List BC}
    (hc : CodeAt2 D em h S l base code) (i : Nat) {id : Nat} (hi : code[i]? = some (.lambda id)) :
    ops.fetch h l (base + i) = some (.ptr (D.LM id)) ∧ ∀ lamM, D.final[id]? = some lamM →
      ops.isLambda h (D.LM id) = true ∧ D.lamSrcs h (D.LM id) = some (lamM.envmap.map (rsrc em)) := by
  obtain ⟨v, hf, hl⟩ := hc.2 i _ hi
  obtain ⟨hv, h2⟩ := (show v = .ptr (D.LM id) ∧ _ from hl)
  cases hv; exact ⟨hf, h2⟩

theorem run2_movImm_void {em : List (Text × Source)} {s : MSt H} {S : Array Cell}
    (hc : CodeAt2 D em s.heap S s.ipL s.ipO [.op .movImm, .void, .acc]) :
    step ops s = .ok ({ s with acc := .void, ipO := s.ipO + 3 }, false) :=
  step_movImm_acc hc.1 (hc.op 0 rfl) (hc.voidCell 1 rfl) (by intro o h; cases h) (hc.accCell 2 rfl)

end Marwood.Lemmas.CompileCorrect2
