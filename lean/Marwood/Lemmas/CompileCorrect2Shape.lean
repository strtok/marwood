import Marwood.Lemmas.CompileCorrect2Defs
/-!
# T01.3 stage 2: variable references in a binding context, the code of the `lambda` form
-/
namespace Marwood.Lemmas.CompileCorrect2
open Marwood Marwood.Vm Marwood.Lemmas.CompileCorrect
open Marwood.Spec.Eval (k_quote k_if_ k_setBang k_define k_lambda)

theorem emitLoc_env {c : Ctx} {x : Text} (h : inEnv c x = true) : emitLoc c x = .envSlot x := by
  simp only [emitLoc, Ctx.bindingLocation]
  have : (c.envmap.any fun p => p.1 == x) = true := h
  simp [this]

theorem emitLoc_glob {c : Ctx} {x : Text} (hc : CtxOK c) (h : inEnv c x = false) : emitLoc c x = .global x := by
  simp only [emitLoc, Ctx.bindingLocation]
  have h1 : (c.envmap.any fun p => p.1 == x) = false := h
  have h2 : c.args.findIdx? (· == x) = none := by
    rw [List.findIdx?_eq_none_iff]
    intro y hy
    cases hyx : (y == x) with
    | false => rfl
    | true =>
      have : y = x := by simpa using hyx
      subst this
      have := hc y hy
      rw [h] at this; cases this
  simp [h1, h2]

variable {fuel : Nat} {st st' : CState} {c : Ctx} {base : Nat} {tail : Bool} {code : List BC}

theorem lambdaParts_inv {c : Ctx} {formals body : Datum} {p : LambdaParts}
    (h : lambdaParts fuel c (.pair (.sym k_lambda) (.pair formals body)) false = .ok p) :
    p.body = body ∧ p.ctx.args = p.formals ∧
      p.prologue = (if p.isVararg then [.op .varArg] else []) ++ [.op .enter] := by
  obtain ⟨_, _, _, _, he, hctx, hpro⟩ := lambdaParts_view h
  cases he
  exact ⟨rfl, by rw [hctx], hpro⟩

theorem compile_lambda_inv {formals body : Datum}
    (h : compileExpr (fuel + 1) st c base tail (.pair (.sym k_lambda) (.pair formals body)) = .ok (st', code)) :
    ∃ p st1 bcode, lambdaParts fuel c (.pair (.sym k_lambda) (.pair formals body)) false = .ok p ∧
      compileBody fuel st p.ctx p.prologue.length p.body = .ok (st1, bcode) ∧
      st'.lambdas = st1.lambdas ++ [lamOf p bcode] ∧
      code = [.op .movImm, .lambda st1.lambdas.length, .acc, .op .closureAcc] := by
  cases compileExpr_view h with
  | lambda _ hp hb => exact ⟨_, _, _, hp, hb, rfl, rfl⟩
  | _ => simp_all [selfEval]

end Marwood.Lemmas.CompileCorrect2
