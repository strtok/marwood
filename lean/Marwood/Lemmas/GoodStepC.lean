import Marwood.Lemmas.GoodBuiltin
/-!
# `Safe` as an invariant: the heap part of `run_one`, CALL TCALL ENTER
-/
namespace Marwood.Lemmas.Good
open Marwood Marwood.Vm Marwood.Vm.Concrete Marwood.Lemmas.Sim
open Marwood.Heap (GcState WFHeap RootsOk vrefs vrefsList crefs)
open StepC

section
variable {ext : ExtOps} {s0 : St CHeap}

theorem hg_call {s' : St CHeap} {b : Bool} (eg : ExtGood ext) (g : GoodI s0) (sd : StackDisc s0) (hop : opAt s0 .callAcc)
    (hx : exec (concreteOps ext) .callAcc (nx s0) = .ok (s', b)) (sm : Small s'.heap) :
    HG s'.heap ∧ plainGlob s'.acc = true := by
  have hblk : ArgBlock (nx s0).stack (nx s0).stack.sp := sd.call (.inl hop)
  cases exec_eff hx with
  | callBuiltin _ hb => exact runBuiltin_hg eg g.nx hblk hb sm
  | callCont _ hi => exact invokeCont_hg g.nx hblk hi
  | callProc _ => exact ⟨g.hg, g.accv⟩

theorem hg_tcall {s' : St CHeap} {b : Bool} (eg : ExtGood ext) (g : GoodI s0) (sd : StackDisc s0) (hop : opAt s0 .tcallAcc)
    (hx : exec (concreteOps ext) .tcallAcc (nx s0) = .ok (s', b)) (sm : Small s'.heap) :
    HG s'.heap ∧ plainGlob s'.acc = true := by
  have hblk : ArgBlock (nx s0).stack (nx s0).stack.sp := sd.call (.inr hop)
  cases exec_eff hx with
  | tcallBuiltin _ hb => exact runBuiltin_hg eg g.nx hblk hb sm
  | tcallCont _ hi => exact invokeCont_hg g.nx hblk hi
  | tcallProc _ ht =>
    rw [tcallTail_heap ht, tcallTail_acc ht]
    exact ⟨g.hg, g.accv⟩

namespace StepC

theorem callee_closure_nf {s : St CHeap} (g : GoodI s) {lam env : Nat}
    (hc : callee s.heap s.acc = .closure lam env) : NF s.heap lam ∧ NF s.heap env := by
  have hr := roots_acc g.roots
  rcases callee_closure_cell hc with e | ⟨p, e, hcell⟩ <;> rw [e] at hr
  · exact ⟨hr _ (by simp [eraseV, vrefs]), hr _ (by simp [eraseV, vrefs])⟩
  · have hcl := g.hg.closed ((VRefsOk.ptr.mp hr).nonFree g.hg.wf hcell) hcell
    exact ⟨hcl _ (by simp [eraseC, eraseV, crefs]), hcl _ (by simp [eraseC, eraseV, crefs])⟩

end StepC

theorem hg_enter {s' : St CHeap} {b : Bool} (g : GoodI s0) (sd : StackDisc s0) (hop : opAt s0 .enter)
    (hx : exec (concreteOps ext) .enter (nx s0) = .ok (s', b)) (sm : Small s'.heap) :
    HG s'.heap ∧ plainGlob s'.acc = true := by
  have hblk : ArgBlock s0.stack (s0.stack.sp - 2) := sd.enter (.inl hop)
  obtain ⟨lam, l, hla, a1, a2, ⟨_, _, rfl⟩ | ⟨env, h', e, hcal, hma, rfl⟩⟩ := enter_effect hx
  · exact ⟨g.hg, g.accv⟩
  · obtain ⟨_, hne⟩ := callee_closure_nf g hcal
    refine (fun r => ⟨r.1, g.accv⟩) (makeActivation_hg g.hg hne ?_ hma sm)
    intro l2 hl2 a v ha1 ha2 hv
    cases hla.symm.trans hl2
    rcases push_get (by omega) hv with hv | rfl
    · by_cases haa : a = l.args.length
      · subst haa
        rw [show s0.stack.sp - 3 - (l.args.length - l.args.length) + 1 = s0.stack.sp - 2 by omega, a2] at hv
        cases hv
        exact .of_addrFree _ rfl
      · exact ⟨hblk _ a2 _ v (by omega) (by omega) hv, roots_stack g.roots (by omega) hv⟩
    · exact .of_addrFree _ rfl

end

end Marwood.Lemmas.Good
