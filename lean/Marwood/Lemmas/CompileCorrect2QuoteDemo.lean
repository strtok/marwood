import Marwood.Lemmas.CompileCorrect2Quote
import Marwood.Lemmas.CompileCorrectConcrete
/-!
# `quote` of compound data: every hypothesis discharged on the concrete heap for `'(1 . 2)`

The concrete heap model (`Vm/ConcreteHeap.lean`) has real pair cells. The constant is laid out as `put_cell` does: cell 1
holds `Pair(2, 3)`, cells 2 and 3 the numbers; the code `MOV-IMMEDIATE <ptr 1> %acc` sits in the lambda at cell 0. The
representation is the closure (`ClosedVR`) of the store-free `atomVR` of stage 1, for which `QuoteLaws` is a theorem
(`closedVR_quoteLaws`); `run_quote` gives the run.
-/
namespace Marwood.Lemmas.CompileCorrect
open Marwood Marwood.Vm Marwood.Vm.Concrete
open Marwood.Spec.Eval (Val Cell quoteVal)

def qdHeap : CHeap :=
  { chunk := 4
    cells := #[.lambda ⟨[.opcode .movImm, .ptr 1, .acc], [], []⟩, .val (.pair 2 3), .val (.opaque "n1"),
               .val (.opaque "n2")]
    gc := #[.allocated, .allocated, .allocated, .allocated], free := [], symtab := [], globSyms := [], globals := #[] }

def qdState : MSt CHeap :=
  { heap := qdHeap, stack := ⟨[.undefined], 0⟩, acc := .undefined, ep := 0, ipL := 0, ipO := 0, bp := 0 }

def qdDatum : Datum := .pair (.num (.fix 1)) (.num (.fix 2))

def qdSt : SSt := { globals := [], store := #[], out := [] }
def qdSt' : SSt := { globals := [], store := #[.pair (.int 1) (.int 2)], out := [] }

theorem qd_quote : quoteVal qdDatum qdSt = .ok (.pair 0) qdSt' := by rfl

def qdBase (ext : ExtOps) (h : CHeap) (v : VCell) (w : Val) : Prop :=
  atomVR (concreteOps ext) demoEnc h #[] v w

def qdData (ext : ExtOps) : RepData (concreteOps ext) :=
  ⟨fun _ => False, fun _ => 0, ClosedVR (concreteOps ext) (fun _ _ => none) (qdBase ext), fun _ _ => True⟩

/-- **Non-vacuity of `quote` of compound data**: the machine loads the pointer; `acc` represents the freshly
    allocated pair `(1 . 2)` of the specification. -/
theorem demo_quote_pair (ext : ExtOps) :
    ∃ s', ExprRun (qdData ext) qdState 3 qdSt qdSt' (.pair 0) s' := by
  have Q : QuoteLaws (qdData ext) (fun _ _ => none) :=
    closedVR_quoteLaws (ops := concreteOps ext) (fun _ _ => none) (qdBase ext) (fun _ => False) (fun _ => 0)
      (fun _ => True)
  have hd : DatumAt (qdData ext) (fun _ _ => none) qdState.heap qdSt.store (.ptr 1) qdDatum := by
    refine .pair (pa := 2) (pd := 3) rfl ?_ ?_
    · exact .atom (w := .int 1) rfl (.base ⟨.opaque "n1", by decide, .inr ⟨2, rfl, rfl⟩⟩)
    · exact .atom (w := .int 2) rfl (.base ⟨.opaque "n2", by decide, .inr ⟨3, rfl, rfl⟩⟩)
  exact run_quote Q (s := qdState) rfl rfl rfl (by intro o h; cases h) rfl hd qd_quote
    ⟨(by intro x w h; cases h), (by intro x h; cases h), trivial⟩ (by show 0 < 1; omega)

end Marwood.Lemmas.CompileCorrect
