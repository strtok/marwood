import Marwood.Lemmas.CompileCorrect2Cases
/-!
# T01.3 stage 2: `lambda`, `MOV-IMMEDIATE <lambda> %acc; CLOSURE` leaves a representation of the closure
-/
namespace Marwood.Lemmas.CompileCorrect2
open Marwood Marwood.Vm Marwood.Lemmas.CompileCorrect
open Marwood.Spec.Eval (Val Prim Cell Env evalN evalStep applyStep evalArgs properList quoteVal kwOf insertG
  k_quote k_if_ k_setBang k_define k_lambda)

variable {H : Type} {ops : HeapOps H} {D : RepData2 ops}

theorem denotes_some {h : H} {ep k e n : Nat} (hd : Denotes ops h ep k e n) : ∃ g, ops.envGet h ep k = some g := by
  rcases hd with hp | ⟨_, _, v, hv, _⟩
  · exact ⟨_, hp⟩
  · exact ⟨v, hv⟩

theorem cloSlot_denotes {h : H} {ep k e n : Nat} (hd : Denotes ops h ep k e n) :
    cloSlot ops h ep (.iofEnv k) = .lexEnvPtr e n := by
  rcases hd with hp | ⟨rfl, rfl, v, hv, hnp⟩
  · simp only [cloSlot, hp]
  · simp only [cloSlot, hv]
    cases v <;> simp [isEnvPtr] at hnp <;> rfl

theorem em_entry_cases {ps : List Text} {caps : List (Text × Source)} {j : Nat} {q : Text × Source}
    (h : (argEntries ps ++ caps)[j]? = some q) :
    (j < ps.length ∧ ∃ x, ps[j]? = some x ∧ q = (x, .argument j)) ∨ (ps.length ≤ j ∧ q ∈ caps) := by
  by_cases hj : j < ps.length
  · left
    have hx : ps[j]? = some ps[j] := List.getElem?_eq_getElem hj
    rw [List.getElem?_append_left (by rw [argEntries_length]; exact hj), argEntries_get ps j _ hx] at h
    cases h
    exact ⟨hj, _, hx, rfl⟩
  · right
    rw [List.getElem?_append_right (by rw [argEntries_length]; omega)] at h
    exact ⟨by omega, List.mem_of_getElem? h⟩

theorem prefix_get {α : Type} {l t : List α} {a : α} (h : l ++ [a] <+: t) : t[l.length]? = some a ∧ l <+: t := by
  obtain ⟨r, hr⟩ := h
  subst hr
  refine ⟨by simp, ⟨[a] ++ r, by simp⟩⟩

/-- the captured entries `caps` of the new map `em` are slots of the current environment (map `cem`): the two premises
    of `closure_ok`, and what the slots `CLOSURE` fills then hold -/
theorem closure_slots {em caps cem : List (Text × Source)} {h : H} {ep : Nat} {Q : Text → Nat → Nat → Prop}
    (hem : ∀ (j : Nat) q, em[j]? = some q → (∃ n, q.2 = .argument n) ∨ q.2 = .internal ∨ q ∈ caps)
    (hcaps : ∀ q ∈ caps, q.2 = .iofEnvironment ∧
      ∃ k e n, slotIdx cem q.1 = some k ∧ Denotes ops h ep k e n ∧ Q q.1 e n) :
    (∀ (j : Nat) k, (em.map (rsrc cem))[j]? = some (RSrc.iofEnv k) → ∃ g, ops.envGet h ep k = some g) ∧
    (∀ (j : Nat) n, (em.map (rsrc cem))[j]? ≠ some (RSrc.iofArg n)) ∧
    ∀ {h' : H} {cenv : Nat}, (∀ (j : Nat) src, (em.map (rsrc cem))[j]? = some src →
        ops.envGet h' cenv j = some (cloSlot ops h ep src)) →
      (∀ j, j < em.length → ∃ g, ops.envGet h' cenv j = some g) ∧
      ∀ (j : Nat) x, em[j]? = some (x, .iofEnvironment) →
        ∃ e n, ops.envGet h' cenv j = some (.lexEnvPtr e n) ∧ Q x e n := by
  have capSlot : ∀ q ∈ caps, ∃ k e n, rsrc cem q = .iofEnv k ∧ Denotes ops h ep k e n ∧ Q q.1 e n := by
    intro ⟨x, s⟩ hq
    obtain ⟨hs, k, e, n, hk, hd, hQ⟩ := hcaps _ hq
    cases hs
    exact ⟨k, e, n, by simp [rsrc, hk], hd, hQ⟩
  have src : ∀ (j : Nat) r, (em.map (rsrc cem))[j]? = some r → (∃ n, r = .arg n) ∨ r = .internal ∨
      ∃ k e n, r = .iofEnv k ∧ Denotes ops h ep k e n := by
    intro j r hj
    obtain ⟨⟨x, s⟩, hq, hr⟩ := map_get _ _ _ _ hj
    rcases hem j _ hq with ⟨n, hs⟩ | hs | hqc
    · cases hs; exact .inl ⟨n, hr.symm⟩
    · cases hs; exact .inr (.inl hr.symm)
    · obtain ⟨k, e, n, hk, hd, _⟩ := capSlot _ hqc
      exact .inr (.inr ⟨k, e, n, hr.symm.trans hk, hd⟩)
  refine ⟨fun j k hj => ?_, fun j n hj => ?_, fun hslots => ⟨fun j hj => ?_, fun j x hx => ?_⟩⟩
  · obtain ⟨_, h⟩ | h | ⟨_, e, n, h, hd⟩ := src j _ hj
    · cases h
    · cases h
    · cases h; exact denotes_some hd
  · obtain ⟨_, h⟩ | h | ⟨_, _, _, h, _⟩ := src j _ hj <;> cases h
  · exact ⟨_, hslots j _ (by rw [List.getElem?_map, List.getElem?_eq_getElem hj]; rfl)⟩
  · obtain ⟨_, hs⟩ | hs | hqc := hem j _ hx
    · cases hs
    · cases hs
    · obtain ⟨k, e, n, hk, hd, hQ⟩ := capSlot _ hqc
      exact ⟨e, n, by rw [hslots j (.iofEnv k) (by rw [List.getElem?_map, hx]; exact congrArg some hk),
        cloSlot_denotes hd], hQ⟩

theorem case2_lambda (L : Laws2 D) {f : Nat} {cst cst' : CState} {c : Ctx} {base : Nat} {tail : Bool}
    {formals body : Datum} {code : List BC} {ρ : Env} {p : LambdaParts} {ps : List Text} {b : Datum}
    {bs : List Datum} {caps : List (Text × Source)}
    (hp : lambdaParts f c (.pair (.sym k_lambda) (.pair formals body)) false = .ok p)
    (hpf : Spec.Eval.parseFormals formals = some (ps, none)) (hps : p.formals = ps) (hva : p.isVararg = false)
    (hnd : ps.Nodup) (hbody : properList body = some (b :: bs))
    (hnodef : ∀ e ∈ b :: bs, Spec.Eval.isDefine e = false)
    (hem : p.ctx.envmap = argEntries ps ++ caps)
    (hcaps : ∀ q ∈ caps, q.2 = .iofEnvironment ∧ inEnv c q.1 = true)
    (hfb : F2B D.setG f p.ctx (fun x => x ∈ ps ∨ bound ρ x) body)
    (hcomp : compileExpr (f + 1) cst c base tail (.pair (.sym k_lambda) (.pair formals body)) = .ok (cst', code))
    (hpre : cst'.lambdas <+: D.final) {r : Spec.Eval.Rec} {σ σ' : SSt} {w : Val}
    (hev : evalStep r (.pair (.sym k_lambda) (.pair formals body)) ρ σ = .ok w σ')
    {W : World} {s : MSt H} (hc : CodeAt2 D c.envmap s.heap σ.store s.ipL base code) (hip : s.ipO = base)
    (hi : Inv2 D W s.heap σ) (her : EnvRep ops W s.heap c s.ep ρ) (hw : SWF s.stack) :
    ∃ W' s', W.le W' ∧ Run2 D W' s code.length σ σ' w s' := by
  obtain ⟨p', st1, bcode, hp', hcb, hl, rfl⟩ := compile_lambda_inv hcomp
  rw [hp] at hp'; cases hp'
  obtain ⟨hpb, _, hpro⟩ := lambdaParts_inv hp
  have hpro1 : p.prologue.length = 1 := by rw [hpro, hva]; rfl
  rw [hpb, hpro1] at hcb
  obtain ⟨rfl, hσ⟩ := evalStep_lambda_inv hpf hbody hev
  have hσ' := hσ.symm
  subst hσ'
  subst hip
  rw [hl] at hpre
  obtain ⟨hfin, hpre1⟩ := prefix_get hpre
  obtain ⟨hf1, hlam⟩ := hc.lambdaCell 1 rfl
  obtain ⟨hisl, hsrcs⟩ := hlam _ hfin
  have hs1 := step_movImm_acc hc.1 (hc.op 0 rfl) hf1 (by intro o h; cases h) (hc.accCell 2 rfl)
  have hemL : (lamOf p bcode).envmap = argEntries ps ++ caps := hem
  rw [hemL] at hsrcs
  -- the captured entries are slots of the current environment
  obtain ⟨p1, p2, post⟩ := closure_slots (em := argEntries ps ++ caps)
    (Q := fun x e n => ∃ l, ρ.lookup x = some l ∧ W e n l)
    (fun j q hq => (em_entry_cases hq).elim (fun ⟨_, _, _, e⟩ => .inl ⟨j, e ▸ rfl⟩) (fun h => .inr (.inr h.2)))
    (fun q hq => by
      obtain ⟨hq2, hq1⟩ := hcaps q hq
      obtain ⟨k, hk⟩ := (slotIdx_some_iff_inEnv c q.1).mp hq1
      obtain ⟨e, n, l, hd, hl', hW⟩ := her q.1 k hk
      exact ⟨hq2, k, e, n, hk, hd, l, hl', hW⟩)
  obtain ⟨h', pp, cenv, hmk, hcallee, hfresh, hslots, hframe, hglob, hext, hsrx, henvok⟩ :=
    L.closure_ok s.heap σ.store (D.LM st1.lambdas.length) s.ep s.bp s.stack _ hi.extra hisl hsrcs p1 p2
  have hs2 := step_closure (s := { s with acc := .ptr (D.LM st1.lambdas.length), ipO := s.ipO + 3 })
    hc.1 (hc.op 3 rfl) rfl hmk
  refine ⟨W, _, World.le_refl _, ⟨.cons hs1 (Steps.one hs2), rfl, rfl, rfl, rfl, LiveEq.refl _, hw, ?_, ?_, hext⟩⟩
  · refine ⟨rfl, D.LM st1.lambdas.length, cenv, hcallee, ?_⟩
    refine ⟨f, cst, st1, c, formals, body, p, bcode, caps, hp, hps, hva, hnd, hbody, hnodef, hcb, hfin, hpre1, rfl,
      (hext.code _ hisl).1, hfb, ?_, hem, fun q hq => (hcaps q hq).1, hem ▸ (post hslots).1, fun j x _ hx => ?_,
      henvok⟩
    · rw [(hext.code _ hisl).2.2.2, hsrcs, hem]
    · obtain ⟨e, n, g, l, hl', hW⟩ := (post hslots).2 j x (hem ▸ hx)
      exact ⟨e, n, l, g, hl', hW⟩
  · refine hi.frame hext hsrx rfl hglob (fun e n l hW => ⟨?_, rfl⟩)
    obtain ⟨v, _, h1, _⟩ := hi.vars e n l hW
    have hne : e ≠ cenv := by
      intro e0; subst e0
      rw [hfresh n] at h1; cases h1
    exact hframe e n hne

end Marwood.Lemmas.CompileCorrect2
