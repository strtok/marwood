import Marwood.Lemmas.TransformEllDefs
/-!
# The two binding lists side by side: `proj` (flat) and `projS` (trees) under append, lookup and `collect`
-/
namespace Marwood.Transform
open Marwood Marwood.Spec.Match

theorem proj_append (k : Datum) (a b : Bindings) : proj k (a ++ b) = proj k a ++ proj k b := by
  induction a with
  | nil => rfl
  | cons x xs ih =>
    obtain ⟨k', v⟩ := x
    simp only [List.cons_append, proj, ih]
    split <;> simp

theorem projS_append (x : Text) (a b : Binds) : projS x (a ++ b) = projS x a ++ projS x b := by
  induction a with
  | nil => rfl
  | cons y ys ih =>
    obtain ⟨k', t⟩ := y
    simp only [List.cons_append, projS, ih]
    split <;> simp

theorem projS_of_not_mem (x : Text) (bs : Binds) (h : x ∉ bs.map Prod.fst) : projS x bs = [] := by
  induction bs with
  | nil => rfl
  | cons b bs ih =>
    obtain ⟨y, t⟩ := b
    simp only [List.map_cons, List.mem_cons, not_or] at h
    have : ¬ y = x := fun e => h.1 e.symm
    simp [projS, this, ih h.2]

theorem projS_lookup (x : Text) (bs : Binds) (hn : (bs.map Prod.fst).Nodup) (t : MTree)
    (h : bs.lookup x = some t) : projS x bs = leaves t := by
  induction bs with
  | nil => simp [List.lookup] at h
  | cons b bs ih =>
    obtain ⟨y, t'⟩ := b
    simp only [List.map_cons, List.nodup_cons] at hn
    by_cases hxy : x = y
    · subst hxy
      simp only [List.lookup, beq_self_eq_true] at h
      cases h
      simp [projS, projS_of_not_mem x bs hn.1]
    · have hb : (x == y) = false := by simp [beq_text, hxy]
      simp only [List.lookup, hb] at h
      have : ¬ y = x := fun e => hxy e.symm
      simp [projS, this, ih hn.2 h]

theorem lookup_some_of_mem_keys (x : Text) (bs : Binds) (h : x ∈ bs.map Prod.fst) :
    ∃ t, bs.lookup x = some t := by
  induction bs with
  | nil => simp at h
  | cons b bs ih =>
    obtain ⟨y, t'⟩ := b
    by_cases hxy : x = y
    · subst hxy; exact ⟨t', by simp [List.lookup]⟩
    · have hb : (x == y) = false := by simp [beq_text, hxy]
      simp only [List.map_cons, List.mem_cons, hxy, false_or] at h
      obtain ⟨t, ht⟩ := ih h
      exact ⟨t, by simp [List.lookup, hb, ht]⟩

theorem lookup_mem (x : Text) (bs : Binds) (t : MTree) (h : bs.lookup x = some t) : (x, t) ∈ bs := by
  induction bs with
  | nil => simp [List.lookup] at h
  | cons b bs ih =>
    obtain ⟨y, t'⟩ := b
    by_cases hxy : x = y
    · subst hxy
      simp only [List.lookup, beq_self_eq_true] at h
      cases h; simp
    · have hb : (x == y) = false := by simp [beq_text, hxy]
      simp only [List.lookup, hb] at h
      exact List.mem_cons_of_mem _ (ih h)

theorem leavesL_eq_flatMap (ts : List MTree) : leaves.leavesL ts = ts.flatMap leaves := by
  induction ts with
  | nil => rfl
  | cons t ts ih => simp [leaves.leavesL, ih]

theorem projS_collect_one (x : Text) (bsl : List Binds)
    (hk : ∀ b ∈ bsl, (b.map Prod.fst).Nodup) :
    leaves (.many (bsl.filterMap fun b => b.lookup x)) = bsl.flatMap (projS x) := by
  simp only [leaves, leavesL_eq_flatMap]
  induction bsl with
  | nil => rfl
  | cons b bsl ih =>
    have ih' := ih (fun b' hb' => hk b' (List.mem_cons_of_mem _ hb'))
    simp only [List.filterMap_cons, List.flatMap_cons]
    cases hb : b.lookup x with
    | none =>
      simp only
      have : x ∉ b.map Prod.fst := by
        intro hm
        obtain ⟨t, ht⟩ := lookup_some_of_mem_keys x b hm
        rw [hb] at ht; cases ht
      rw [projS_of_not_mem x b this, ih']; rfl
    | some t =>
      simp only [List.flatMap_cons]
      rw [projS_lookup x b (hk b (by simp)) t hb, ih']

theorem projS_collect (x : Text) (vars : List Text) (bsl : List Binds) (hv : vars.Nodup)
    (hk : ∀ b ∈ bsl, b.map Prod.fst = vars) :
    projS x (collect vars bsl) = bsl.flatMap (projS x) := by
  have hkn : ∀ b ∈ bsl, (b.map Prod.fst).Nodup := fun b hb => by rw [hk b hb]; exact hv
  have key : ∀ (vs : List Text), vs.Nodup →
      projS x (vs.map fun v => (v, MTree.many (bsl.filterMap fun b => b.lookup v)))
        = if x ∈ vs then bsl.flatMap (projS x) else [] := by
    intro vs
    induction vs with
    | nil => intro _; rfl
    | cons v vs ih =>
      intro hn
      simp only [List.nodup_cons] at hn
      simp only [List.map_cons, projS, ih hn.2]
      by_cases hvx : v = x
      · subst hvx
        simp only [if_true, List.mem_cons, true_or, hn.1, if_false, List.append_nil]
        exact projS_collect_one v bsl hkn
      · have : ¬ x = v := fun e => hvx e.symm
        simp [hvx, this]
  simp only [collect]
  rw [key vars hv]
  by_cases hx : x ∈ vars
  · simp [hx]
  · simp only [hx, if_false]
    symm
    rw [List.flatMap_eq_nil_iff]
    intro b hb
    exact projS_of_not_mem x b (by rw [hk b hb]; exact hx)

theorem collect_keys (vars : List Text) (bsl : List Binds) : (collect vars bsl).map Prod.fst = vars := by
  simp [collect, Function.comp_def]

theorem mapM_some_mem {α β : Type} (g : α → Option β) : ∀ (xs : List α) (ys : List β),
    xs.mapM g = some ys → ∀ y ∈ ys, ∃ x ∈ xs, g x = some y := by
  intro xs
  induction xs with
  | nil => intro ys h y hy; simp at h; subst h; cases hy
  | cons x xs ih =>
    intro ys h y hy
    simp only [List.mapM_cons] at h
    cases hx : g x with
    | none => simp [hx] at h
    | some y0 =>
      cases hxs : xs.mapM g with
      | none => simp [hx, hxs] at h
      | some ys0 =>
        simp [hx, hxs] at h
        subst h
        simp only [List.mem_cons] at hy
        rcases hy with rfl | hy
        · exact ⟨x, by simp, hx⟩
        · obtain ⟨x', hx', hg⟩ := ih ys0 hxs y hy
          exact ⟨x', List.mem_cons_of_mem _ hx', hg⟩

theorem mapM_cons_some {α β : Type} (g : α → Option β) (x : α) (xs : List α) (y : β) (ys : List β)
    (hx : g x = some y) (hxs : xs.mapM g = some ys) : (x :: xs).mapM g = some (y :: ys) := by
  simp [List.mapM_cons, hx, hxs]

theorem patVars_ellD (c : Ctx) (q : Datum) (hq : c.isEllD q = true) : patVars c q = [] := by
  cases q <;> simp [Ctx.isEllD] at hq <;> simp [patVars, Ctx.isVar, hq]

/-- any pattern -/
theorem specMatch_keys (c : Ctx) (P E : Datum) : ∀ (bs : Binds),
    specMatch c P E = some bs → bs.map Prod.fst = patVars c P := by
  fun_induction specMatch c P E <;> intro bs h
  all_goals first | cases h | skip
  case case1 hl _ => simp [patVars, Ctx.isVar, hl]
  case case4 hu => rw [beq_text, decide_eq_true_eq] at hu; simp [patVars, Ctx.isVar, hu]
  case case5 hl he hu => rw [beq_text, decide_eq_true_eq] at hu; simp [patVars, Ctx.isVar, hl, he, hu]
  case case9 p q rest _ hq _ _ _ _ _ tb htb _ ih =>
    rw [List.map_append, collect_keys, ih tb htb]
    simp only [patVars, patVars_ellD c q hq, List.nil_append]
  case case12 b1 h1 b2 h2 ih2 ih1 => rw [List.map_append, ih2 b1 h1, ih1 b2 h2]; rfl
  case case16 b1 h1 b2 h2 ih2 ih1 => rw [List.map_append, ih2 b1 h1, ih1 b2 h2]; rfl
  case case18 ih => exact ih bs h
  case case20 => simp [patVars]

end Marwood.Transform
