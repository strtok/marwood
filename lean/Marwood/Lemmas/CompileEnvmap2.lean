import Marwood.Lemmas.CompileEnvmap
/-!
# The induction on the fuel for `Lemmas/CompileEnvmap.lean`

`EnvOKF fuel`: each of the six compile functions extends the code-object table at its end, keeps it good (`TblOK`), and
emits code that is good (`EnvCode`) for the new table in its binding context. Case structure of `blkOK_succ`
(`Lemmas/CompileBlk.lean`); the callers use `compileTop_envCode`.
-/
namespace Marwood.Vm
open Marwood Marwood.Vm.Verify

abbrev EnvRes (st : CState) (c : Ctx) (st' : CState) (code : List BC) : Prop :=
  st.lambdas <+: st'.lambdas ∧ TblOK st'.lambdas ∧ EnvCode (SiteP st'.lambdas c) code

theorem EnvRes.refl {st : CState} {c : Ctx} {code : List BC} (hs : TblOK st.lambdas)
    (h : EnvCode (SiteP st.lambdas c) code) : EnvRes st c st code := ⟨List.prefix_refl _, hs, h⟩

theorem EnvRes.map {st st1 : CState} {c : Ctx} {code1 code : List BC} (r1 : EnvRes st c st1 code1)
    (f : EnvCode (SiteP st1.lambdas c) code1 → EnvCode (SiteP st1.lambdas c) code) : EnvRes st c st1 code :=
  ⟨r1.1, r1.2.1, f r1.2.2⟩

theorem EnvRes.seq {st st1 st2 : CState} {c : Ctx} {code1 code2 code : List BC} (r1 : EnvRes st c st1 code1)
    (r2 : EnvRes st1 c st2 code2)
    (f : EnvCode (SiteP st2.lambdas c) code1 → EnvCode (SiteP st2.lambdas c) code2 →
      EnvCode (SiteP st2.lambdas c) code) : EnvRes st c st2 code :=
  ⟨r1.1.trans r2.1, r2.2.1, f (r1.2.2.lift r2.1) r2.2.2⟩

theorem EnvCode.qvecHead {P : Nat → Prop} (g : Text) :
    EnvCode P [.op .pushImm, .argc 0, .op .mov, .global g, .acc, .op .callAcc] := by
  show EnvCode P ([BC.op .pushImm, BC.argc 0] ++ [BC.op .mov, BC.global g, BC.acc] ++ [BC.op .callAcc])
  exact ((EnvCode.pushArgc 0).append (EnvCode.mov3 _ _ (by simp) acc_plain)).append
    (EnvCode.op1 _ (by decide))

theorem EnvCode.prologue {P : Nat → Prop} (v : Bool) :
    EnvCode P ((if v then [BC.op .varArg] else []) ++ [BC.op .enter]) := by
  cases v
  · exact EnvCode.op1 _ (by decide)
  · exact (EnvCode.op1 _ (by decide)).append (EnvCode.op1 _ (by decide))

/-- `finishLambda`: the finished code object is good for the extended table, and the emitted site names it -/
theorem finishLambda_env {st0 st : CState} {c : Ctx} {p : LambdaParts} {bcode : List BC}
    (hargs : p.ctx.args = p.formals)
    (hch : ∀ x ∈ p.ctx.envmap, (x.2 = Source.iofEnvironment → c.envmap.any (·.1 == x.1) = true) ∧
      ∀ n, x.2 = Source.iofArgument n → n < c.args.length)
    (hpro : p.prologue = (if p.isVararg then [BC.op .varArg] else []) ++ [BC.op .enter])
    (r : EnvRes st0 p.ctx st bcode) :
    EnvRes st0 c (finishLambda st p bcode).1 (finishLambda st p bcode).2 := by
  have hx : st.lambdas <+: (finishLambda st p bcode).1.lambdas := List.prefix_append _ _
  have hctx : (⟨p.formals, p.ctx.envmap⟩ : Ctx) = p.ctx := by rw [← hargs]
  refine ⟨r.1.trans hx, ?_, ?_⟩
  · refine TblOK.snoc r.2.1 ?_
    show EnvCode (SiteP (finishLambda st p bcode).1.lambdas ⟨p.formals, p.ctx.envmap⟩)
      (p.prologue ++ bcode ++ [.op .ret])
    rw [hctx, hpro]
    exact ((EnvCode.prologue _).append (r.2.2.lift hx)).append (EnvCode.op1 _ (by decide))
  · refine EnvCode.site _ ⟨⟨p.formals, p.isVararg, p.ctx.envmap, p.prologue ++ bcode ++ [.op .ret], false⟩, ?_, hch⟩
    show (st.lambdas ++ [_])[st.lambdas.length]? = some _
    simp

structure EnvOKF (fuel : Nat) : Prop where
  expr : ∀ st c base tail e st' code, TblOK st.lambdas → compileExpr fuel st c base tail e = .ok (st', code) →
    EnvRes st c st' code
  args : ∀ st c base rest st' code n, TblOK st.lambdas → compileArgs fuel st c base rest = .ok (st', code, n) →
    EnvRes st c st' code
  body : ∀ st c base b st' code, TblOK st.lambdas → compileBody fuel st c base b = .ok (st', code) →
    EnvRes st c st' code
  quasi : ∀ st c base e depth st' code, TblOK st.lambdas → compileQuasi fuel st c base e depth = .ok (st', code) →
    EnvRes st c st' code
  qvec : ∀ st c base elems depth st' code, TblOK st.lambdas →
    quasiVec fuel st c base elems depth = .ok (st', code) →
    EnvRes st c st' code
  qlist : ∀ st c base rest depth st' code count t, TblOK st.lambdas →
    quasiList fuel st c base rest depth = .ok (st', code, count, t) →
    EnvRes st c st' code

theorem envOKF_zero : EnvOKF 0 where
  expr := fun _ _ _ _ _ _ _ _ h => absurd h compileExpr_zero
  args := fun _ _ _ _ _ _ _ _ h => absurd h compileArgs_zero
  body := fun _ _ _ _ _ _ _ h => absurd h compileBody_zero
  quasi := fun _ _ _ _ _ _ _ _ h => absurd h compileQuasi_zero
  qvec := fun _ _ _ _ _ _ _ _ h => absurd h quasiVec_zero
  qlist := fun _ _ _ _ _ _ _ _ _ _ h => absurd h quasiList_zero

theorem envOKF_succ (fuel : Nat) (ih : EnvOKF fuel) : EnvOKF (fuel + 1) where
  args := by
    intro st c base rest st' code n hs h
    cases compileArgs_view h with
    | cons h1 h2 =>
      have r1 := ih.expr _ _ _ _ _ _ _ hs h1
      have r2 := ih.args _ _ _ _ _ _ _ r1.2.1 h2
      exact EnvRes.seq r1 r2 fun a b => (a.append (EnvCode.op1 _ (by decide))).append b
    | nil => exact EnvRes.refl hs EnvCode.nil
  body := by
    intro st c base b st' code hs h
    cases compileBody_view h with
    | cons h1 h2 =>
      have r1 := ih.expr _ _ _ _ _ _ _ hs h1
      have r2 := ih.body _ _ _ _ _ _ r1.2.1 h2
      exact EnvRes.seq r1 r2 fun a b => a.append b
    | nil => exact EnvRes.refl hs EnvCode.nil
  qvec := by
    intro st c base elems depth st' code hs h
    cases quasiVec_view h with
    | cons h1 h2 =>
      have r1 := ih.quasi _ _ _ _ _ _ _ hs h1
      have r2 := ih.qvec _ _ _ _ _ _ _ r1.2.1 h2
      exact EnvRes.seq r1 r2 fun a b =>
        (((EnvCode.op1 _ (by decide)).append a).append (EnvCode.op1 _ (by decide))).append b
    | nil => exact EnvRes.refl hs EnvCode.nil
  qlist := by
    intro st c base rest depth st' code count t hs h
    cases quasiList_view h with
    | cons h1 h2 =>
      have r1 := ih.quasi _ _ _ _ _ _ _ hs h1
      have r2 := ih.qlist _ _ _ _ _ _ _ _ _ r1.2.1 h2
      exact EnvRes.seq r1 r2 fun a b => (a.append (EnvCode.op1 _ (by decide))).append b
    | nil => exact EnvRes.refl hs EnvCode.nil
  quasi := by
    intro st c base e depth st' code hs h
    cases compileQuasi_view h with
    | vec h1 => exact EnvRes.map (ih.qvec _ _ _ _ _ _ _ hs h1) fun a => (EnvCode.qvecHead _).append a
    | unquote _ h1 => exact ih.expr _ _ _ _ _ _ _ hs h1
    | list _ h1 =>
      exact EnvRes.map (ih.qlist _ _ _ _ _ _ _ _ _ hs h1) fun a =>
        (a.append (EnvCode.pushDatum _)).append (EnvCode.consChain _)
    | atom => exact EnvRes.refl hs (EnvCode.movImm3 _ rfl (by simp))
  expr := by
    intro st c base tail e st' code hs h
    cases compileExpr_view h with
    | defineVar _ h1 => exact EnvRes.map (ih.expr _ _ _ _ _ _ _ hs h1) fun a => a.append (EnvCode.store c _)
    | defineFun _ hp hb =>
      obtain ⟨ha, hch, hpro⟩ := lambdaParts_child hp
      exact EnvRes.map (finishLambda_env ha hch hpro (ih.body _ _ _ _ _ _ hs hb))
        fun a => a.append (EnvCode.store c _)
    | lambda _ hp hb =>
      obtain ⟨ha, hch, hpro⟩ := lambdaParts_child hp
      exact finishLambda_env ha hch hpro (ih.body _ _ _ _ _ _ hs hb)
    | quasi _ h1 => exact ih.quasi _ _ _ _ _ _ _ hs h1
    | quote => exact EnvRes.refl hs (EnvCode.movImm3 _ rfl (by simp))
    | if2 _ _ h1 h2 =>
      have r1 := ih.expr _ _ _ _ _ _ _ hs h1
      have r2 := ih.expr _ _ _ _ _ _ _ r1.2.1 h2
      exact EnvRes.seq r1 r2 fun a b =>
        (((a.append (EnvCode.jump _ (by decide) _)).append b).append
          (EnvCode.jump _ (by decide) _)).append (EnvCode.movImm3 _ rfl (by simp))
    | if3 _ _ h1 h2 h3 =>
      have r1 := ih.expr _ _ _ _ _ _ _ hs h1
      have r2 := ih.expr _ _ _ _ _ _ _ r1.2.1 h2
      refine EnvRes.seq (code1 := _ ++ [.op .jnt, .target _] ++ _ ++ [.op .jmp, .target _]) ?_
        (ih.expr _ _ _ _ _ _ _ r2.2.1 h3) fun a b => a.append b
      exact EnvRes.seq r1 r2 fun a b =>
        ((a.append (EnvCode.jump .jnt (by decide) _)).append b).append (EnvCode.jump .jmp (by decide) _)
    | setBang _ _ _ h1 => exact EnvRes.map (ih.expr _ _ _ _ _ _ _ hs h1) fun a => a.append (EnvCode.store c _)
    | app _ h1 h2 =>
      have r1 := ih.args _ _ _ _ _ _ _ hs h1
      have r2 := ih.expr _ _ _ _ _ _ _ r1.2.1 h2
      exact EnvRes.seq r1 r2 fun a b => ((a.append (EnvCode.pushArgc _)).append b).append
        (EnvCode.op1 _ (by cases tail <;> decide))
    | sym => exact EnvRes.refl hs (EnvCode.mov3 _ _ (emitLoc_plain c _) acc_plain)
    | const => exact EnvRes.refl hs (EnvCode.movImm3 _ rfl (by simp))

theorem envOKF_all : ∀ fuel, EnvOKF fuel
  | 0 => envOKF_zero
  | n+1 => envOKF_succ n (envOKF_all n)

theorem compileTop_envCode {e : Datum} {fuel : Nat} {st : CState} {lam : LambdaM}
    (h : compileTop e fuel = .ok (st, lam)) :
    TblOK st.lambdas ∧ EnvCode (SiteP st.lambdas ⟨[], []⟩) lam.bc ∧ lam.envmap = [] ∧ lam.args = [] := by
  obtain ⟨code, h1, rfl⟩ := compileTop_ok h
  obtain ⟨_, hs1, b1⟩ := (envOKF_all fuel).expr _ _ _ _ _ _ _ TblOK.nil h1
  exact ⟨hs1, ((EnvCode.op1 _ (by decide)).append b1).append (EnvCode.op1 _ (by decide)), rfl, rfl⟩

theorem entryLam_envmap (id : Nat) : (entryLam id).envmap = [] := rfl

/-- a child of the empty context captures nothing from its defining environment -/
theorem childOf_empty {m : LambdaM} (h : ChildOf ⟨[], []⟩ m) :
    ∀ x ∈ m.envmap, x.2 ≠ .iofEnvironment ∧ ∀ n, x.2 ≠ .iofArgument n := by
  intro x hx
  obtain ⟨h1, h2⟩ := h x hx
  exact ⟨fun he => by simpa using h1 he, fun n hn => by simpa using h2 n hn⟩

end Marwood.Vm
