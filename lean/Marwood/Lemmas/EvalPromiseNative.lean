import Marwood.Lemmas.EvalPromise
import Marwood.Lemmas.EvalMonoMain
import Marwood.Lemmas.EvalDerivedLet
/-!
# `(force (delay e))` under the NATIVE meaning of `Spec.Eval`

What `evalN` and the slack-guarded `sguardN k` alike (`Tower`) compute for it: allocate the promise
cell, run `e` in the environment of the `delay`, read the cell again (R7RS: if the promise was forced
while its expression was being evaluated the first value stays), otherwise store the value.
-/
namespace Marwood.Spec.Eval.Derived
open Marwood Marwood.Spec.Eval Marwood.Spec.Eval.Prelude

def thunkN (e : Datum) (ρ : Env) : Val := .closure [] none [e] ρ

/-- the native meaning of `(force (delay e))`, given the meaning `re` of `e` (the inner `else` is `writeCell`'s
    bounds check: dead) -/
def nativeFD (re : M Val) (T : Val) : M Val := fun st =>
  let l := st.store.size
  match re { st with store := st.store.push (.promise false T) } with
  | .ok v s =>
    (match s.store[l]? with
     | some (.promise true w) => .ok w s
     | some _ => if l < s.store.size then .ok v { s with store := s.store.setIfInBounds l (.promise true v) } else .err .internal s
     | none => .err .internal s)
  | .err c s => .err c s
  | .timeout => .timeout

/-- a fuel-indexed evaluator whose levels unfold like `evalN`'s on expressions, on `force` and on closures -/
structure Tower (X : Nat → Rec) : Prop where
  eval : ∀ k e ρ, (X (k+1)).eval e ρ = evalStep (X k) e ρ
  appForce : ∀ k args, (X (k+1)).apply (.prim .force) args = applyStep (X k) (.prim .force) args
  appClo : ∀ k ps r b ρ args, (X (k+1)).apply (.closure ps r b ρ) args = applyStep (X k) (.closure ps r b ρ) args

theorem tower_evalN : Tower evalN := ⟨fun _ _ _ => rfl, fun _ _ => rfl, fun _ _ _ _ _ _ => rfl⟩

theorem tower_sguardN (k : Nat) : Tower (sguardN k) := by
  refine ⟨fun _ _ _ => rfl, fun n args => ?_, fun n ps r b ρ args => ?_⟩
  · funext st
    show sguardApply k (sguardN k n) (.prim .force) args st = _
    simp [sguardApply, helperCutAt]
  · funext st
    show sguardApply k (sguardN k n) (.closure ps r b ρ) args st = _
    simp [sguardApply, helperCutAt]

theorem kwOf_force : kwOf k_force = none := by decide
theorem kwOf_delay : kwOf k_delay = some .delay := by decide
theorem reserved_force : reserved k_force = false := by decide

theorem native_forceDelay {X : Nat → Rec} (hX : Tower X) (m : Nat) (e : Datum) (ρ : Env) (st : St)
    (hdef : isDefine e = false) (hρ : ρ.lookup k_force = none) (hg : st.globals.lookup k_force = some (.prim .force)) :
    (X (m+3)).eval (forceUse (delayUse e)) ρ st = nativeFD ((X m).eval e ρ) (thunkN e ρ) st := by
  have hbody : ∀ (r : Rec) (ρ' : Env), evalBody r ρ' [e] = r.eval e ρ' := by
    intro r ρ'
    rw [evalBody_noDefs r ρ' [e] (by intro d hd; simp at hd; subst hd; exact hdef)]
    rfl
  rw [hX.eval, forceUse, native_app _ _ (s k_force) [delayUse e] (by intro x hx; cases hx; exact kwOf_force), evalArgs_one]
  have hdelay : (X (m+2)).eval (delayUse e) ρ st =
      .ok (.promise st.store.size) { st with store := st.store.push (.promise false (thunkN e ρ)) } := by
    rw [hX.eval]
    simp only [delayUse, L, s, Datum.ofList, evalStep, kwOf_delay, evalKw, properList]
    rfl
  have hforce : ∀ st1 : St, st1.globals = st.globals → (X (m+2)).eval (s k_force) ρ st1 = .ok (.prim .force) st1 := by
    intro st1 h1
    rw [hX.eval, native_sym]
    simp [evalVar, reserved_force, hρ, getGlobal, h1, hg]
  show M.bind' (M.bind' ((X (m+2)).eval (delayUse e) ρ) _) _ st = _
  unfold M.bind'
  simp only [hdelay]
  show M.bind' ((X (m+2)).eval (s k_force) ρ) (fun fv => (X (m + 2)).apply fv [Val.promise st.store.size]) _ = _
  unfold M.bind'
  rw [hforce { st with store := st.store.push (.promise false (thunkN e ρ)) } rfl]
  simp only [hX.appForce, applyStep]
  show M.bind' (readCell st.store.size) _ _ = _
  unfold M.bind'
  have hread : readCell st.store.size { st with store := st.store.push (.promise false (thunkN e ρ)) } =
      .ok (.promise false (thunkN e ρ)) { st with store := st.store.push (.promise false (thunkN e ρ)) } := by
    simp [readCell]
  simp only [hread]
  show M.bind' ((X (m+1)).apply (thunkN e ρ) []) _ _ = _
  unfold M.bind'
  have hth : (X (m+1)).apply (thunkN e ρ) [] = (X m).eval e ρ := by
    rw [thunkN, hX.appClo]
    simp only [applyStep, bindArgs]
    show (pure ρ >>= fun ρ' => evalBody (X m) ρ' [e]) = _
    rw [M.pure_bind, hbody]
  rw [hth]
  unfold nativeFD
  simp only
  cases he : (X m).eval e ρ { st with store := st.store.push (.promise false (thunkN e ρ)) } with
  | timeout => rfl
  | err c s => rfl
  | ok v s =>
    simp only
    show M.bind' (readCell st.store.size) _ s = _
    unfold M.bind'
    simp only [readCell]
    cases hc : s.store[st.store.size]? with
    | none => rfl
    | some c =>
      cases c with
      | promise b w =>
        cases b with
        | true => rfl
        | false =>
          simp only
          by_cases hlt : st.store.size < s.store.size <;>
            simp [bind, M.bind', writeCell, hlt, Pure.pure, M.pure']
      | var _ =>
        simp only
        by_cases hlt : st.store.size < s.store.size <;>
          simp [bind, M.bind', writeCell, hlt, Pure.pure, M.pure']
      | pair _ _ =>
        simp only
        by_cases hlt : st.store.size < s.store.size <;>
          simp [bind, M.bind', writeCell, hlt, Pure.pure, M.pure']
      | vec _ =>
        simp only
        by_cases hlt : st.store.size < s.store.size <;>
          simp [bind, M.bind', writeCell, hlt, Pure.pure, M.pure']

end Marwood.Spec.Eval.Derived
