import Marwood.Vm.EnvInvCheck
import Marwood.Lemmas.ProcInvDefs
import Marwood.Lemmas.GoodStepEffect
/-!
# "No value leads to a code object of class `K`": one invariant for `Vm/ProcInv.lean` and `Vm/EnvInvCheck.lean`

`Spec = ⟨K, site⟩`: a class `K` of code objects, and whether the immediate of `MOVIMM _ %acc; CLOSURE` is exempt. No place
a value can sit in (`acc`, live stack, globals, environment and vector slots, pairs, `Ptr` cells, continuation copies, the
symbol table, MOVIMM / PUSHIMM immediates) holds `Ptr(p)` with `p` a lambda of class `K` (`bad`). With the exemption the
lambda of a closure cell is unconstrained (`clos`) and so is `acc` between the two instructions of a site (`TInv`).
`Spec.entry` gives `HP` / `PInv` of Lemmas/ProcInvDefs.lean, `Spec.cap` those of Lemmas/EnvTaintDefs.lean: the checks of the
two model files (which stand on their own: the driver evaluates them) are the instances by `rfl`; `hp_iff`, `pinv_iff`,
`tinv_iff` identify the definitions of those two files, which the property statements use, with them.
-/
namespace Marwood.Lemmas.Lead
open Marwood.Lemmas.Good Marwood Marwood.Vm Marwood.Vm.Verify Marwood.Vm.Concrete Marwood.Lemmas.Sim
open Marwood.Heap (GcState)

structure Spec where
  K : CLambda → Bool
  site : Bool

def Spec.entry : Spec := ⟨fun l => isEntryCode l.bc, false⟩

def Spec.cap : Spec := ⟨fun l => !l.envmap.isEmpty, true⟩

/-- heap cell `p` is a lambda of class `K` -/
def bad (I : Spec) (h : CHeap) (p : Nat) : Bool :=
  match lambdaAt h p with
  | some l => I.K l
  | none => false

def clos (I : Spec) (h : CHeap) (p : Nat) : Bool :=
  I.site || match lambdaAt h p with
            | some l => !I.K l
            | none => false

/-- the immediates of MOVIMM / PUSHIMM; with `x`, not the one of `MOVIMM _ %acc; CLOSURE` -/
def immXF (x : Bool) (E : Nat → Bool) (bc : List VCell) : Bool :=
  (List.range bc.length).all fun j =>
    match bc[j]? with
    | some (.opcode .pushImm) =>
      (match bc[j + 1]? with
       | some v => neF E v
       | none => true)
    | some (.opcode .movImm) =>
      (match bc[j + 1]? with
       | some v => neF E v || (x && siteB bc j)
       | none => true)
    | _ => true

def cellXF (x : Bool) (E P : Nat → Bool) : CCell → Bool
  | .val v => valPF E P v
  | .lexEnv ss => ss.all (neF E)
  | .vector es => es.all (neF E)
  | .lambda l => immXF x E l.bc
  | .cont c => c.stack.cells.all (neF E)

theorem immXF_false : immXF false = immPF := by
  funext E bc
  unfold immXF immPF
  congr 1
  funext j
  cases bc[j]? with
  | none => rfl
  | some c =>
    cases c <;> first | rfl | skip
    rename_i op
    cases op <;> first | rfl | skip
    cases bc[j + 1]? with
    | none => rfl
    | some v => exact Bool.or_false _

theorem cellXF_false : cellXF false = cellPF := by
  funext E P c
  cases c <;> first | rfl | exact congrFun (congrFun immXF_false E) _

theorem cellXF_true : cellXF true = cellTF := by
  funext E P c
  cases c <;> rfl

section
variable (I : Spec)

def ne (h : CHeap) : VCell → Bool := neF (bad I h)

def valX (h : CHeap) : VCell → Bool := valPF (bad I h) (clos I h)

def cellX (h : CHeap) : CCell → Bool := cellXF I.site (bad I h) (clos I h)

structure HP (h : CHeap) : Prop where
  cells : ∀ (i : Nat) (c : CCell), h.cells[i]? = some c → cellX I h c = true
  globals : ∀ (n : Nat) (v : VCell), h.globals[n]? = some v → ne I h v = true
  sym : ∀ (name : Text) (p : Nat), symLookup h name = some p → bad I h p = false

structure PInv (s : St CHeap) : Prop where
  hp : HP I s.heap
  acc : ne I s.heap s.acc = true
  stk : ∀ (i : Nat) (v : VCell), i ≤ s.stack.sp → s.stack.cells[i]? = some v → ne I s.heap v = true

structure TInv (s : St CHeap) : Prop where
  hp : HP I s.heap
  acc : ne I s.heap s.acc = true ∨ (I.site = true ∧ atSiteB s = true)
  stk : ∀ (i : Nat) (v : VCell), i ≤ s.stack.sp → s.stack.cells[i]? = some v → ne I s.heap v = true

def EShr (h h' : CHeap) : Prop := ∀ p, bad I h' p = true → bad I h p = true

def SM (h : CHeap) (st : Stack) (B : Nat) : Prop :=
  ∀ (i : Nat) (v : VCell), (i ≤ B ∨ i ≤ st.sp) → st.cells[i]? = some v → ne I h v = true

end

variable {I : Spec}

theorem PInv.tinv {s : St CHeap} (p : PInv I s) : TInv I s := ⟨p.hp, .inl p.acc, p.stk⟩

/-- without the exemption the two forms agree; with it, `acc` is unconstrained only when the instruction under `ip`
    is the CLOSURE of a site -/
theorem TInv.pinv {s : St CHeap} (p : TInv I s)
    (hn : I.site = true → ∀ l, lambdaAt s.heap s.ipL = some l → l.bc[s.ipO]? ≠ some (.opcode .closureAcc)) :
    PInv I s := by
  refine ⟨p.hp, ?_, p.stk⟩
  rcases p.acc with h | ⟨hx, h⟩
  · exact h
  · unfold atSiteB at h
    cases hl : lambdaAt s.heap s.ipL with
    | none => rw [hl] at h; cases h
    | some l =>
      rw [hl] at h
      simp only [Bool.and_eq_true, decide_eq_true_eq, beq_iff_eq, siteB] at h
      exact absurd (by rw [← h.1.2.2]; congr 1; omega) (hn hx l hl)

theorem TInv.pinv_of_noSite {s : St CHeap} (p : TInv I s) (hx : I.site = false) : PInv I s :=
  p.pinv fun h => absurd (hx.symm.trans h) Bool.false_ne_true

theorem heap_sound {h : CHeap} (h1 : h.cells.all (cellX I h) = true) (h2 : h.globals.all (ne I h) = true)
    (h3 : h.symtab.all (fun e => !bad I h e.2) = true) : HP I h := by
  refine ⟨?_, ?_, ?_⟩
  · intro i c hc
    rw [Array.all_eq_true] at h1
    have hlt : i < h.cells.size := lt_of_get_some hc
    have := h1 i hlt
    rw [Array.getElem?_eq_getElem hlt] at hc
    cases hc
    exact this
  · intro n v hv
    rw [Array.all_eq_true] at h2
    have hlt : n < h.globals.size := lt_of_get_some hv
    have := h2 n hlt
    rw [Array.getElem?_eq_getElem hlt] at hv
    cases hv
    exact this
  · intro name p hl
    unfold symLookup at hl
    cases hf : h.symtab.find? (·.1 = name) with
    | none => rw [hf] at hl; cases hl
    | some e =>
      rw [hf] at hl
      simp only [Option.map_some, Option.some.injEq] at hl
      have hm := List.mem_of_find?_eq_some hf
      rw [List.all_eq_true] at h3
      have := h3 e hm
      subst hl
      simpa using this

theorem stack_sound {h : CHeap} {st : Stack} (h3 : (st.cells.take (st.sp + 1)).all (ne I h) = true) :
    ∀ (i : Nat) (v : VCell), i ≤ st.sp → st.cells[i]? = some v → ne I h v = true := by
  intro i v hi hv
  rw [List.all_eq_true] at h3
  exact h3 v (mem_take_succ.mpr ⟨i, hi, hv⟩)

@[simp] theorem ne_ptr (h : CHeap) (p : Nat) : ne I h (.ptr p) = !bad I h p := rfl

theorem ptr_bad {h : CHeap} {a : Nat} (hn : ne I h (.ptr a) = true) : bad I h a = false := by
  simpa using hn

theorem valX_of_value {h : CHeap} {v : VCell} (hp : plainGlob v = true) (hn : ne I h v = true) : valX I h v = true := by
  cases v <;> first | rfl | exact hn | (simp [plainGlob, isPtr, addrFree] at hp)

theorem ne_of_valX {h : CHeap} {v : VCell} (hv : valX I h v = true) : ne I h v = true := by
  cases v <;> first | rfl | exact hv

theorem valX_pair {h : CHeap} {a d : Nat} (ha : bad I h a = false) (hd : bad I h d = false) :
    valX I h (.pair a d) = true := by
  show (!bad I h a && !bad I h d) = true
  rw [ha, hd]; rfl

theorem bad_false_of_not_lambda {h : CHeap} {p : Nat} (hn : ∀ lam, h.cells[p]? ≠ some (CCell.lambda lam)) :
    bad I h p = false := by
  unfold bad
  cases hl : lambdaAt h p with
  | none => rfl
  | some lam => exact absurd (lambdaAt_iff.mp hl) (hn lam)

/-- what CLOSURE needs of the lambda it closes over: a lambda cell that `acc` may point to -/
theorem clos_of_lambda {h : CHeap} {p : Nat} {lam : CLambda} (hl : lambdaAt h p = some lam)
    (he : bad I h p = false ∨ I.site = true) : clos I h p = true := by
  unfold clos
  rcases he with he | he
  · unfold bad at he
    rw [hl] at he ⊢
    simp only at he ⊢
    rw [he]; exact Bool.or_true _
  · rw [he]; rfl

theorem bad_clos_excl {h : CHeap} {p : Nat} (hx : I.site = false) (hp : clos I h p = true) : bad I h p = false := by
  unfold clos at hp; unfold bad
  rw [hx] at hp
  cases hl : lambdaAt h p with
  | none => rfl
  | some lam => rw [hl] at hp; simpa using hp

theorem immXF_push {x : Bool} {E : Nat → Bool} {bc : List VCell} (hi : immXF x E bc = true) {j : Nat} {v : VCell}
    (hop : bc[j]? = some (.opcode .pushImm)) (hv : bc[j + 1]? = some v) : neF E v = true := by
  unfold immXF at hi
  rw [List.all_eq_true] at hi
  have hj : j < bc.length := by
    by_cases hlt : j < bc.length
    · exact hlt
    · rw [List.getElem?_eq_none (by omega)] at hop; cases hop
  have := hi j (List.mem_range.mpr hj)
  rw [hop] at this; simp only [hv] at this; exact this

theorem immXF_mov {x : Bool} {E : Nat → Bool} {bc : List VCell} (hi : immXF x E bc = true) {j : Nat} {v : VCell}
    (hop : bc[j]? = some (.opcode .movImm)) (hv : bc[j + 1]? = some v) :
    neF E v = true ∨ (x = true ∧ siteB bc j = true) := by
  unfold immXF at hi
  rw [List.all_eq_true] at hi
  have hj : j < bc.length := by
    by_cases hlt : j < bc.length
    · exact hlt
    · rw [List.getElem?_eq_none (by omega)] at hop; cases hop
  have := hi j (List.mem_range.mpr hj)
  rw [hop] at this; simp only [hv, Bool.or_eq_true, Bool.and_eq_true] at this; exact this

theorem _root_.Marwood.Lemmas.Good.LamSame.bad {h h' : CHeap} (ls : LamSame h h') : bad I h' = bad I h := by
  funext p; unfold Lead.bad; rw [ls p]

theorem _root_.Marwood.Lemmas.Good.LamSame.clos {h h' : CHeap} (ls : LamSame h h') : clos I h' = clos I h := by
  funext p; unfold Lead.clos; rw [ls p]

theorem _root_.Marwood.Lemmas.Good.LamSame.ne {h h' : CHeap} (ls : LamSame h h') : ne I h' = ne I h := by
  unfold Lead.ne; rw [ls.bad]

theorem _root_.Marwood.Lemmas.Good.LamSame.valX {h h' : CHeap} (ls : LamSame h h') : valX I h' = valX I h := by
  unfold Lead.valX; rw [ls.bad (I := I), ls.clos (I := I)]

theorem _root_.Marwood.Lemmas.Good.LamSame.cellX {h h' : CHeap} (ls : LamSame h h') : cellX I h' = cellX I h := by
  unfold Lead.cellX; rw [ls.bad (I := I), ls.clos (I := I)]

theorem _root_.Marwood.Lemmas.Good.LamSame.shr {h h' : CHeap} (ls : LamSame h h') : EShr I h h' := by
  intro p hp; rw [ls.bad] at hp; exact hp

theorem EShr.refl (h : CHeap) : EShr I h h := fun _ x => x

theorem EShr.trans {a b c : CHeap} (x : EShr I a b) (y : EShr I b c) : EShr I a c := fun p hp => x p (y p hp)

theorem EShr.ne {h h' : CHeap} (es : EShr I h h') {v : VCell} (hv : ne I h v = true) : ne I h' v = true :=
  neF_mono es hv

theorem HP.of_eq {h h' : CHeap} (hp : HP I h) (hc : h'.cells = h.cells) (hg : h'.globals = h.globals)
    (hs : h'.symtab = h.symtab) : HP I h' := by
  have ls : LamSame h h' := .of_cells hc
  refine ⟨?_, ?_, ?_⟩
  · intro i c hcell; rw [ls.cellX]; rw [hc] at hcell; exact hp.cells i c hcell
  · intro n v hv; rw [ls.ne]; rw [hg] at hv; exact hp.globals n v hv
  · intro name p hl
    rw [ls.bad]
    refine hp.sym name p ?_
    unfold symLookup at hl ⊢; rw [hs] at hl; exact hl

theorem SM.of_stk {h : CHeap} {st : Stack}
    (x : ∀ (i : Nat) (v : VCell), i ≤ st.sp → st.cells[i]? = some v → ne I h v = true) : SM I h st st.sp :=
  fun i v hi hv => x i v (by omega) hv

theorem SM.stk {h : CHeap} {st : Stack} {B : Nat} (x : SM I h st B) :
    ∀ (i : Nat) (v : VCell), i ≤ st.sp → st.cells[i]? = some v → ne I h v = true :=
  fun i v hi hv => x i v (.inr hi) hv

theorem SM.heap {h h' : CHeap} {st : Stack} {B : Nat} (x : SM I h st B) (es : EShr I h h') : SM I h' st B :=
  fun i v hi hv => es.ne (x i v hi hv)

theorem SM.resp {h : CHeap} {st st' : Stack} {B : Nat} (x : SM I h st B) (hc : st'.cells = st.cells)
    (hsp : st'.sp ≤ B ∨ st'.sp ≤ st.sp) : SM I h st' B := by
  intro i v hi hv
  rw [hc] at hv
  refine x i v ?_ hv
  rcases hi with hi | hi
  · exact .inl hi
  · rcases hsp with h1 | h1
    · exact .inl (by omega)
    · exact .inr (by omega)

theorem SM.cut {h : CHeap} {st : Stack} {B : Nat} (x : SM I h st B) {n : Nat} (hn : n ≤ B ∨ n ≤ st.sp) :
    SM I h { st with sp := n } B :=
  x.resp rfl hn

theorem SM.push {h : CHeap} {st : Stack} {B : Nat} (x : SM I h st B) {v : VCell} (hv : ne I h v = true) :
    SM I h (st.push v) B := by
  intro i w hi hw
  by_cases hi1 : i = st.sp + 1
  · subst hi1
    rw [push_top] at hw
    cases hw
    exact hv
  · rcases push_get' hi1 hw with hw' | rfl
    · refine x i w ?_ hw'
      rcases hi with hi | hi
      · exact .inl hi
      · rw [StepC.push_sp] at hi; exact .inr (by omega)
    · rfl

theorem SM.set {h : CHeap} {st st' : Stack} {B : Nat} (x : SM I h st B) {v : VCell} (hv : ne I h v = true) {k : Nat}
    (hs : st.set k v = .ok st') : SM I h st' B := by
  unfold Stack.set at hs
  split at hs
  · cases hs
    intro i w hi hw
    simp only at hw hi
    by_cases hik : i = k
    · subst hik
      rw [List.getElem?_set_self (by assumption)] at hw
      cases hw; exact hv
    · rw [List.getElem?_set_ne (by omega)] at hw
      exact x i w hi hw
  · cases hs

theorem SM.setOffset {h : CHeap} {st st' : Stack} {B : Nat} (x : SM I h st B) {v : VCell} (hv : ne I h v = true)
    {off : Int} (hs : st.setOffset off v = .ok st') : SM I h st' B := by
  unfold Stack.setOffset at hs
  simp only at hs
  split at hs
  · exact x.set hv hs
  · cases hs

theorem SM.get {h : CHeap} {st : Stack} {B : Nat} (x : SM I h st B) {k : Nat} {v : VCell} (hg : st.get k = .ok v)
    (hk : k ≤ B ∨ k ≤ st.sp) : ne I h v = true :=
  x k _ hk (get_inv hg)

theorem SM.mono {h : CHeap} {st : Stack} {B B' : Nat} (x : SM I h st B) (hb : B' ≤ B) : SM I h st B' := by
  intro i v hi hv
  refine x i v ?_ hv
  rcases hi with hi | hi
  · exact .inl (by omega)
  · exact .inr hi

theorem SM.pop {h : CHeap} {st st' : Stack} {B : Nat} (x : SM I h st B) {v : VCell} (hp : st.pop = .ok (v, st')) :
    ne I h v = true ∧ SM I h st' B ∧ st'.cells = st.cells ∧ st'.sp + 1 = st.sp := by
  obtain ⟨p1, p2, p3, p4⟩ := StepC.pop_inv hp
  exact ⟨x _ _ (.inr (Nat.le_refl _)) p2, x.resp p4 (.inr (by omega)), p4, by omega⟩

theorem SM.popN {h : CHeap} {st st' : Stack} {B : Nat} (x : SM I h st B) {n : Nat} {vs : List VCell}
    (hp : popN n st = .ok (vs, st')) :
    (∀ v ∈ vs, ne I h v = true) ∧ SM I h st' B ∧ st'.cells = st.cells ∧ st'.sp + n = st.sp := by
  obtain ⟨q1, q2, q3⟩ := StepC.popN_inv n hp
  refine ⟨?_, x.resp q1 (.inr (by omega)), q1, q2⟩
  intro v hv
  obtain ⟨i, _, i2, i3⟩ := q3 v hv
  exact x i v (.inr i2) i3

theorem cput_hp {h : CHeap} (lf : LF h) (hp : HP I h) {c : CCell} (hc : ∀ lam, c ≠ CCell.lambda lam)
    (ok : cellX I h c = true) :
    HP I (cput h c).1 ∧ LF (cput h c).1 ∧ LamSame h (cput h c).1 ∧ bad I (cput h c).1 (cput h c).2 = false := by
  have a := calloc_allocd h
  obtain ⟨ls, lf', hnew⟩ := cput_lamSame lf hc
  refine ⟨⟨?_, ?_, ?_⟩, lf', ls, bad_false_of_not_lambda hnew⟩
  · intro i x hx
    rw [ls.cellX]
    rcases (cput_cells0 c).1 i x hx with ⟨_, e⟩ | ⟨_, e⟩ | e
    · subst e; exact ok
    · exact hp.cells i x e
    · subst e; rfl
  · intro n v hv
    rw [ls.ne]
    exact hp.globals n v (a.globals ▸ hv)
  · intro name p hl
    rw [ls.bad]
    refine hp.sym name p ?_
    unfold symLookup at hl ⊢
    exact a.symtab ▸ hl

end Marwood.Lemmas.Lead
