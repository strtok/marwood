import Marwood.Lemmas.CompileView
/-!
# T01.4 — operand order in the compiler model (`compileArgs`; `compile_runtime_procedure_application` in compile.rs)

`OperandCodes fuel st c base rest st' segs`: compiling the operand list `rest` from code offset
`base` in compiler state `st` yields, operand by operand from left to right, the code segments
`segs` (each compiled with `tail = false` at the offset that follows the previous segment and its
`PUSH`), ending in state `st'`.
-/
namespace Marwood.Vm
open Marwood

inductive OperandCodes : Nat → CState → Ctx → Nat → Datum → CState → List (List BC) → Prop
  | done (fuel st c base rest) (h : ∀ a d, rest ≠ .pair a d) : OperandCodes (fuel + 1) st c base rest st []
  | cons (fuel st c base a d st1 code1 st' segs)
      (h1 : compileExpr fuel st c base false a = .ok (st1, code1))
      (h2 : OperandCodes fuel st1 c (base + code1.length + 1) d st' segs) :
      OperandCodes (fuel + 1) st c base (.pair a d) st' (code1 :: segs)

def pushed (segs : List (List BC)) : List BC := (segs.map (· ++ [BC.op .pushAcc])).flatten

theorem compileArgs_operandCodes (fuel : Nat) : ∀ st c base rest st' code n,
    compileArgs fuel st c base rest = .ok (st', code, n) →
    ∃ segs, OperandCodes fuel st c base rest st' segs ∧ code = pushed segs ∧ n = segs.length := by
  induction fuel with
  | zero => intro st c base rest st' code n h; exact absurd h compileArgs_zero
  | succ fuel ih =>
    intro st c base rest st' code n h
    cases compileArgs_view h with
    | cons h1 h2 =>
      obtain ⟨segs, hs, rfl, rfl⟩ := ih _ _ _ _ _ _ _ h2
      exact ⟨_ :: segs, .cons _ _ _ _ _ _ _ _ _ _ h1 hs, by simp [pushed], rfl⟩
    | nil hr => exact ⟨[], .done _ _ _ _ _ (fun a d e => by subst e; cases hr), by simp [pushed], rfl⟩

end Marwood.Vm
