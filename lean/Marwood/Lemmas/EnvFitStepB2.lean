import Marwood.Lemmas.EnvFitStepB
/-!
# The slot clause of T06.6 as an invariant: RET, CALL, TCALL

TCALL of a procedure rebuilds the frame with one of two copy loops: the cells they move come from the argument block
(values, so neither header cell); the saved `ep` / `ip` cells the different-argc variant pushes back were adjacent in the
live frame.
-/
namespace Marwood.Lemmas.Good
open Marwood Marwood.Vm Marwood.Vm.Verify Marwood.Vm.Concrete Marwood.Lemmas.Sim
open Marwood.Heap (GcState)
open StepC FB

section
variable {ext : ExtOps} {s0 s' : St CHeap} {b : Bool}

theorem fv_ret (g : GoodI s0) (sd : StackDisc s0) (f : FInv s0) (hop : opAt s0 .ret)
    (hnp : ∀ e l o, s0.stack.cells[s0.bp + 2]? = some (.envPtr e) → s0.stack.cells[s0.bp + 3]? = some (.instrPtr l o) →
       ¬ InPre s0.heap l o)
    (hx : exec (concreteOps ext) .ret (nx s0) = .ok (s', b)) : FInv s' := by
  cases exec_eff hx with
  | @ret n ep l' o' bp _ c1 c2 _ _ =>
    obtain ⟨l, hl, hop⟩ := hop
    have hfl : s0.bp + 4 ≤ s0.stack.sp := sd.frameLive l hl (.inl hop)
    refine ⟨f.hf, f.stk.mono (show s0.bp - n ≤ s0.stack.sp by omega), ?_, ?_⟩
    · intro hp; exact absurd hp (hnp _ _ _ c1 c2)
    · intro _; exact f.stk (s0.bp + 2) _ _ _ (by omega) c1 c2

end

theorem tcallCopySame_fv {h : CHeap} {B n : Nat} :
    ∀ (k it bp : Nat) (st st' : Stack), tcallCopySame k it bp st = .ok st' → PairsOk h st.cells B → SA h st B →
      Blk st st.sp n → it + k ≤ n → PairsOk h st'.cells B ∧ SA h st' B ∧ st'.sp = st.sp := by
  intro k
  induction k with
  | zero =>
    intro it bp st st' hc x y _ _
    simp only [tcallCopySame] at hc
    cases hc
    exact ⟨x, y, rfl⟩
  | succ k ih =>
    intro it bp st st' hc x y z hk
    simp only [tcallCopySame] at hc
    obtain ⟨v, hv, hc⟩ := bind_inv hc
    obtain ⟨i, _, hc⟩ := bind_inv hc
    obtain ⟨st1, hs1, hc⟩ := bind_inv hc
    obtain ⟨r1, r2⟩ := StepB.getOffset_inv hv
    have hpg : plainGlob v = true := z _ v (by omega) (by omega) r2
    obtain ⟨x1, e1, _⟩ := x.set (NHdr.of_plainGlob hpg) hs1
    have y1 := y.set (.of_nhdr (NHdr.of_plainGlob hpg)) hs1
    have z1 : Blk st1 st1.sp n := by rw [e1]; exact z.set hpg hs1
    obtain ⟨a, b, c⟩ := ih (it + 1) bp st1 st' hc x1 y1 z1 (by omega)
    exact ⟨a, b, by omega⟩

theorem tcallCopyDiff_fv {h : CHeap} {B n : Nat} :
    ∀ (it savedSp : Nat) (st st' : Stack), tcallCopyDiff it savedSp st = .ok st' → PairsOk h st.cells st.sp →
      SA h st B → Blk st savedSp n → it ≤ n → PairsOk h st'.cells st'.sp ∧ SA h st' B := by
  intro it
  induction it with
  | zero =>
    intro savedSp st st' hc x y _ _
    simp only [tcallCopyDiff] at hc
    cases hc
    exact ⟨x, y⟩
  | succ it ih =>
    intro savedSp st st' hc x y z hk
    simp only [tcallCopyDiff] at hc
    obtain ⟨i, hi, hc⟩ := bind_inv hc
    obtain ⟨v, hv, hc⟩ := bind_inv hc
    obtain ⟨i1, e⟩ := usub_ok hi
    have hpg : plainGlob v = true := z i v (by omega) (by omega) (get_inv hv)
    exact ih savedSp (st.push v) st' hc (x.push (NHdr.of_plainGlob hpg).2) (y.push (.of_nhdr (NHdr.of_plainGlob hpg)))
      (z.push hpg) (by omega)

theorem TcallStack.pairsOk {s : St CHeap} {argc : Nat} {st : Stack} (g : GoodI s) (f : FInv s)
    (hfl : s.bp + 4 ≤ s.stack.sp) (blk : Blk s.stack s.stack.sp argc) (t : TcallStack s.bp s.stack argc st) :
    PairsOk s.heap st.cells st.sp := by
  have sa0 : SA s.heap s.stack s.stack.sp := .of_good g
  cases t with
  | same hst =>
    exact (tcallCopySame_fv (n := argc) argc 0 s.bp s.stack _ hst f.stk sa0 blk (by omega)).1.mono
      (show s.bp + 3 ≤ s.stack.sp by omega)
  | @diff fargc savedEp savedIp st1 c1 c2 hle hst =>
    have pk0 : PairsOk s.heap s.stack.cells (s.bp - fargc) := f.stk.mono (by omega)
    obtain ⟨pk1, _⟩ := tcallCopyDiff_fv (n := argc) argc s.stack.sp { s.stack with sp := s.bp - fargc } st1 hst pk0
      (sa0.resp rfl (.inl (show s.bp - fargc ≤ s.stack.sp by omega))) (blk.resp rfl) (Nat.le_refl _)
    have pk3 : PairsOk s.heap ((st1.push (.argc argc)).push savedEp).cells ((st1.push (.argc argc)).push savedEp).sp := by
      refine (pk1.push (v := .argc argc) (nhdr_argc argc).2).push_any ?_
      intro e _ _ _ he
      rw [push_sp, push_top] at he
      cases he
    -- an `InstructionPointer` pushed last lands on the `EnvironmentPointer` it lay on in the old frame
    refine pk3.push_any ?_
    rintro e l o rfl he
    rw [push_sp, push_top] at he
    cases he
    exact f.stk (s.bp + 2) e l o (by omega) c1 c2

section
variable {ext : ExtOps} {s0 s' : St CHeap} {b : Bool}

theorem finv_enterCallee {s1 : St CHeap} {lam : Nat} (ci : CInvG IsValue s0.heap) (ok : CalleeOk s0) (f : FInv s0)
    (hcl : calleeLam s0.heap s0.acc = some lam) (hh : s1.heap = s0.heap) (ha : s1.acc = s0.acc) (hl : s1.ipL = lam)
    (ho : s1.ipO = 0) (hstk : PairsOk s0.heap s1.stack.cells s1.stack.sp) : FInv s1 := by
  have hpre : InPre s0.heap lam 0 := inPre_zero ci (procAt_of_calleeOk ok hcl)
  refine ⟨by rw [hh]; exact f.hf, by rw [hh]; exact hstk, ?_, ?_⟩
  · intro _; rw [hh, ha, hl]; exact Or.inr hcl
  · intro hn; rw [hh, hl, ho] at hn; exact absurd hpre hn

theorem fv_call (eg : ExtGood ext) (ef : ExtFit ext) (g : GoodI s0) (ci : CInvG IsValue s0.heap) (sd : StackDisc s0)
    (ok : CalleeOk s0) (sm' : Small s'.heap) (f : FInv s0) (hfit : Fit s0.heap s0.ep s0.ipL) (hop : opAt s0 .callAcc)
    (hnpR : ¬ InPre s0.heap s0.ipL s0.ipO) (hnpN : ¬ InPre s0.heap s0.ipL (s0.ipO + 1))
    (hcont : ∀ c, callee s0.heap s0.acc = .continuation c → ¬ InPre s0.heap c.ipL c.ipO)
    (hx : exec (concreteOps ext) .callAcc (nx s0) = .ok (s', b)) : FInv s' := by
  have hblk : ArgBlock (nx s0).stack (nx s0).stack.sp := sd.call (.inl hop)
  have fnx : FInv (nx s0) := ⟨f.hf, f.stk, fun hp => absurd hp hnpN, fun _ => hfit⟩
  have hlam : ∃ lam, lambdaAt (nx s0).heap (nx s0).ipL = some lam := by
    obtain ⟨l, hl, _⟩ := hop; exact ⟨l, hl⟩
  cases exec_eff hx with
  | callBuiltin _ h1 => exact runBuiltin_fv eg ef g.nx hblk sm' fnx hfit hlam (fun _ => hnpR) hnpN h1
  | callCont hc h1 => exact invokeCont_fv g.nx fnx hc (hcont _ hc) h1
  | callProc hc => exact finv_enterCallee ci ok f (calleeLam_of hc) rfl rfl rfl rfl (f.stk.push_frame hfit)

theorem fv_tcall (eg : ExtGood ext) (ef : ExtFit ext) (g : GoodI s0) (ci : CInvG IsValue s0.heap) (sd : StackDisc s0)
    (ok : CalleeOk s0) (sm' : Small s'.heap) (f : FInv s0) (hfit : Fit s0.heap s0.ep s0.ipL) (hop : opAt s0 .tcallAcc)
    (hnpR : ¬ InPre s0.heap s0.ipL s0.ipO) (hnpN : ¬ InPre s0.heap s0.ipL (s0.ipO + 1))
    (hcont : ∀ c, callee s0.heap s0.acc = .continuation c → ¬ InPre s0.heap c.ipL c.ipO)
    (hx : exec (concreteOps ext) .tcallAcc (nx s0) = .ok (s', b)) : FInv s' := by
  have hblk : ArgBlock (nx s0).stack (nx s0).stack.sp := sd.call (.inr hop)
  have fnx : FInv (nx s0) := ⟨f.hf, f.stk, fun hp => absurd hp hnpN, fun _ => hfit⟩
  obtain ⟨l, hl, hop'⟩ := hop
  have hfl : s0.bp + 4 ≤ s0.stack.sp := sd.frameLive l hl (.inr hop')
  cases exec_eff hx with
  | tcallBuiltin _ h1 => exact runBuiltin_fv eg ef g.nx hblk sm' fnx hfit ⟨l, hl⟩ (fun _ => hnpR) hnpN h1
  | tcallCont hc h1 => exact invokeCont_fv g.nx fnx hc (hcont _ hc) h1
  | tcallProc hc ht =>
    obtain ⟨argc, st, bp, ha, t, rfl⟩ := tcallRest_effect ht
    exact finv_enterCallee ci ok f (calleeLam_of hc) rfl rfl rfl rfl (t.pairsOk g f hfl (hblk argc ha))

end

end Marwood.Lemmas.Good
