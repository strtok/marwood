import Marwood.Lemmas.EvalFrame
/-!
# Well-formedness of `Spec.Eval` states: no dangling locations, the store never shrinks — definitions and calculus

A value is OK at `n` when every location it mentions is below `n`; a state is well formed (`WFSt`) when every cell
of its store and every global is OK at the size of the store. All predicates are monotone in `n`.
`PresFrom n0 m P`: from a well-formed state with at least `n0` cells, `m` ends in a well-formed state at least as
large, with a result satisfying `P` at the final size. The level `n0` is what carries facts about captured values
and environments (true at `n0`) through a `bind`: they are lifted by monotonicity.
-/
namespace Marwood.Spec.Eval
open Marwood

def ValOK (n : Nat) : Val → Prop
  | .pair l | .vec l | .promise l => l < n
  | .closure _ _ _ ρ => ∀ p ∈ ρ, p.2 < n
  | _ => True

def CellOK (n : Nat) : Cell → Prop
  | .var v => ValOK n v
  | .pair a d => ValOK n a ∧ ValOK n d
  | .vec xs => ∀ v ∈ xs, ValOK n v
  | .promise _ v => ValOK n v

def EnvOK (n : Nat) (ρ : Env) : Prop := ∀ p ∈ ρ, p.2 < n

structure WFSt (st : St) : Prop where
  store : ∀ (l : Nat) (c : Cell), st.store[l]? = some c → CellOK st.store.size c
  globals : ∀ (y : Text) (v : Val), st.globals.lookup y = some v → ValOK st.store.size v

def ValsOK (n : Nat) (vs : List Val) : Prop := ∀ v ∈ vs, ValOK n v
def PairOK (n : Nat) (p : Val × Val) : Prop := ValOK n p.1 ∧ ValOK n p.2
def StoreOK (n : Nat) (s : Array Cell) : Prop :=
  ∀ (l : Nat) (c : Cell), s[l]? = some c → CellOK n c

variable {α β : Type} {n m n0 : Nat}

theorem ValOK.mono {v : Val} (h : n ≤ m) (hv : ValOK n v) : ValOK m v := by
  cases v <;> simp only [ValOK] at hv ⊢ <;>
    first
      | exact Nat.lt_of_lt_of_le hv h
      | (intro p hp; exact Nat.lt_of_lt_of_le (hv p hp) h)

theorem ValsOK.mono {vs : List Val} (h : n ≤ m) (hv : ValsOK n vs) : ValsOK m vs :=
  fun v hm => (hv v hm).mono h

theorem PairOK.mono {p : Val × Val} (h : n ≤ m) (hv : PairOK n p) : PairOK m p :=
  ⟨hv.1.mono h, hv.2.mono h⟩

theorem CellOK.mono {c : Cell} (h : n ≤ m) (hc : CellOK n c) : CellOK m c := by
  cases c with
  | var v => exact ValOK.mono h hc
  | pair a d => exact ⟨ValOK.mono h hc.1, ValOK.mono h hc.2⟩
  | vec xs => exact fun v hv => ValOK.mono h (hc v hv)
  | promise b v => exact ValOK.mono h hc

theorem EnvOK.mono {ρ : Env} (h : n ≤ m) (hρ : EnvOK n ρ) : EnvOK m ρ :=
  fun p hp => Nat.lt_of_lt_of_le (hρ p hp) h

theorem StoreOK.mono {s : Array Cell} (h : n ≤ m) (hs : StoreOK n s) : StoreOK m s :=
  fun l c hl => (hs l c hl).mono h

@[simp] theorem valsOK_nil : ValsOK n [] := by simp [ValsOK]
@[simp] theorem valsOK_cons (v : Val) (vs : List Val) :
    ValsOK n (v :: vs) ↔ ValOK n v ∧ ValsOK n vs := by simp [ValsOK]
@[simp] theorem envOK_nil : EnvOK n [] := by simp [EnvOK]
@[simp] theorem envOK_cons (y : Text) (l : Loc) (ρ : Env) :
    EnvOK n ((y, l) :: ρ) ↔ l < n ∧ EnvOK n ρ := by simp [EnvOK]

@[simp] theorem valOK_bool (b : Bool) : ValOK n (.bool b) := trivial
@[simp] theorem valOK_char (c : Char) : ValOK n (.char c) := trivial
@[simp] theorem valOK_nil : ValOK n .nil := trivial
@[simp] theorem valOK_int (i : Int) : ValOK n (.int i) := trivial
@[simp] theorem valOK_str (s : Text) : ValOK n (.str s) := trivial
@[simp] theorem valOK_sym (s : Text) : ValOK n (.sym s) := trivial
@[simp] theorem valOK_prim (p : Prim) : ValOK n (.prim p) := trivial
@[simp] theorem valOK_void : ValOK n .void := trivial
@[simp] theorem valOK_undef : ValOK n .undef := trivial
@[simp] theorem valOK_pair (l : Loc) : ValOK n (.pair l) ↔ l < n := Iff.rfl
@[simp] theorem valOK_vec (l : Loc) : ValOK n (.vec l) ↔ l < n := Iff.rfl
@[simp] theorem valOK_promise (l : Loc) : ValOK n (.promise l) ↔ l < n := Iff.rfl
@[simp] theorem valOK_closure (ps : List Text) (r : Option Text) (b : List Datum) (ρ : Env) :
    ValOK n (.closure ps r b ρ) ↔ EnvOK n ρ := Iff.rfl

def Post (k : Nat) (P : Nat → α → Prop) : Res α → Prop
  | .ok a s => WFSt s ∧ k ≤ s.store.size ∧ P s.store.size a
  | .err _ s => WFSt s ∧ k ≤ s.store.size
  | .timeout => True

theorem Post.weaken {P : Nat → α → Prop} {k k' : Nat} {r : Res α} (h : k' ≤ k) (hp : Post k P r) :
    Post k' P r := by
  cases r with
  | ok a s => exact ⟨hp.1, Nat.le_trans h hp.2.1, hp.2.2⟩
  | err e s => exact ⟨hp.1, Nat.le_trans h hp.2⟩
  | timeout => trivial

def PresFrom (n0 : Nat) (m : M α) (P : Nat → α → Prop) : Prop :=
  ∀ st, WFSt st → n0 ≤ st.store.size → Post st.store.size P (m st)

/-- the unlevelled form of the statement -/
def Pres (m : M α) (P : Nat → α → Prop) : Prop :=
  ∀ st, WFSt st → match m st with
    | .ok a s => WFSt s ∧ st.store.size ≤ s.store.size ∧ P s.store.size a
    | .err _ s => WFSt s ∧ st.store.size ≤ s.store.size
    | .timeout => True

theorem PresFrom.at {m : M α} {P : Nat → α → Prop} (h : PresFrom n0 m P) (st : St) (wf : WFSt st)
    (hn : n0 ≤ st.store.size) :
    match m st with
    | .ok a s => WFSt s ∧ st.store.size ≤ s.store.size ∧ P s.store.size a
    | .err _ s => WFSt s ∧ st.store.size ≤ s.store.size
    | .timeout => True := by
  have := h st wf hn
  cases h1 : m st with
  | ok a s => simp only [h1, Post] at this; exact this
  | err e s => simp only [h1, Post] at this; exact this
  | timeout => trivial

theorem PresFrom.pres {m : M α} {P : Nat → α → Prop} (h : PresFrom 0 m P) : Pres m P :=
  fun st wf => h.at st wf (Nat.zero_le _)

theorem PresFrom.pure {P : Nat → α → Prop} (a : α) (h : ∀ n, n0 ≤ n → P n a) :
    PresFrom n0 (pure a : M α) P := by
  intro st wf hn; exact ⟨wf, Nat.le_refl _, h _ hn⟩

theorem PresFrom.throw {P : Nat → α → Prop} (e : ErrClass) : PresFrom n0 (throw e : M α) P := by
  intro st wf _; exact ⟨wf, Nat.le_refl _⟩

theorem PresFrom.timeout {P : Nat → α → Prop} : PresFrom n0 (timeoutM : M α) P := by
  intro st _ _; trivial

theorem PresFrom.bind {P : Nat → α → Prop} {Q : Nat → β → Prop} {m : M α} {f : α → M β}
    (hm : PresFrom n0 m P) (hf : ∀ a n1, n0 ≤ n1 → P n1 a → PresFrom n1 (f a) Q) :
    PresFrom n0 (m >>= f) Q := by
  intro st wf hn
  have h := hm st wf hn
  show Post _ Q (M.bind' m f st)
  unfold M.bind'
  cases h1 : m st with
  | ok a s =>
    simp only [h1, Post] at h
    obtain ⟨wf', hle, pa⟩ := h
    exact Post.weaken hle (hf a _ (Nat.le_trans hn hle) pa s wf' (Nat.le_refl _))
  | err e s => simpa [h1, Post] using h
  | timeout => trivial

theorem PresFrom.mono {P Q : Nat → α → Prop} {m : M α} (hm : PresFrom n0 m P)
    (h : ∀ n a, n0 ≤ n → P n a → Q n a) : PresFrom n0 m Q := by
  intro st wf hn
  have := hm st wf hn
  cases h1 : m st with
  | ok a s =>
    simp only [h1, Post] at this ⊢
    exact ⟨this.1, this.2.1, h _ _ (Nat.le_trans hn this.2.1) this.2.2⟩
  | err e s => simpa [h1, Post] using this
  | timeout => trivial

theorem PresFrom.from {P : Nat → α → Prop} {m : M α} (hm : PresFrom n0 m P) (h : n0 ≤ n) :
    PresFrom n m P := fun st wf hn => hm st wf (Nat.le_trans h hn)

theorem PresFrom.pureV (v : Val) (h : ValOK n0 v) : PresFrom n0 (Pure.pure v : M Val) ValOK :=
  PresFrom.pure v (fun _ hn => h.mono hn)

theorem PresFrom.pureVs (vs : List Val) (h : ValsOK n0 vs) : PresFrom n0 (Pure.pure vs : M (List Val)) ValsOK :=
  PresFrom.pure vs (fun _ hn => h.mono hn)

theorem PresFrom.pureT (a : α) : PresFrom n0 (Pure.pure a : M α) (fun _ _ => True) :=
  PresFrom.pure a (fun _ _ => trivial)

theorem WFSt.push {st : St} (wf : WFSt st) (c : Cell) (hc : CellOK st.store.size c) :
    WFSt { st with store := st.store.push c } := by
  refine ⟨?_, ?_⟩
  · intro l c' h
    simp only [Array.getElem?_push, Array.size_push] at h ⊢
    split at h
    · cases h; exact hc.mono (Nat.le_succ _)
    · exact (wf.store l c' h).mono (Nat.le_succ _)
  · intro y v h
    simp only [Array.size_push]
    exact (wf.globals y v h).mono (Nat.le_succ _)

theorem WFSt.set {st : St} (wf : WFSt st) (l : Loc) (c : Cell) (hc : CellOK st.store.size c) :
    WFSt { st with store := st.store.setIfInBounds l c } := by
  refine ⟨?_, ?_⟩
  · intro i c' h
    simp only [Array.getElem?_setIfInBounds, Array.size_setIfInBounds] at h ⊢
    split at h
    · first
        | (cases h; exact hc)
        | (split at h
           · cases h; exact hc
           · cases h)
    · exact wf.store i c' h
  · intro y v h
    simp only [Array.size_setIfInBounds]
    exact wf.globals y v h

theorem WFSt.insertG {st : St} (wf : WFSt st) (s : Text) (v : Val) (hv : ValOK st.store.size v) :
    WFSt { st with globals := insertG s v st.globals } := by
  refine ⟨wf.store, ?_⟩
  intro y w h
  simp only [lookup_insertG] at h
  split at h
  · cases h; exact hv
  · exact wf.globals y w h

theorem pres_allocCell (c : Cell) (hc : CellOK n0 c) : PresFrom n0 (allocCell c) (fun n l => l < n) := by
  intro st wf hn
  refine ⟨wf.push c (hc.mono hn), ?_, ?_⟩ <;> simp

theorem pres_readCell (l : Loc) : PresFrom n0 (readCell l) CellOK := by
  intro st wf _
  simp only [readCell]
  cases h : st.store[l]? with
  | none => exact ⟨wf, Nat.le_refl _⟩
  | some c => exact ⟨wf, Nat.le_refl _, wf.store l c h⟩

theorem pres_writeCell (l : Loc) (c : Cell) (hc : CellOK n0 c) :
    PresFrom n0 (writeCell l c) (fun _ _ => True) := by
  intro st wf hn
  simp only [writeCell]
  split
  · exact ⟨wf.set l c (hc.mono hn), by simp, trivial⟩
  · exact ⟨wf, Nat.le_refl _⟩

theorem pres_getStore : PresFrom n0 getStore StoreOK := by
  intro st wf _
  exact ⟨wf, Nat.le_refl _, wf.store⟩

theorem pres_getGlobal (s : Text) : PresFrom n0 (getGlobal s) ValOK := by
  intro st wf _
  simp only [getGlobal]
  cases h : st.globals.lookup s with
  | none => exact ⟨wf, Nat.le_refl _⟩
  | some v => exact ⟨wf, Nat.le_refl _, wf.globals s v h⟩

theorem pres_putGlobal (s : Text) (v : Val) (hv : ValOK n0 v) :
    PresFrom n0 (putGlobal s v) (fun _ _ => True) := by
  intro st wf hn
  exact ⟨wf.insertG s v (hv.mono hn), Nat.le_refl _, trivial⟩

theorem pres_setGlobal (s : Text) (v : Val) (hv : ValOK n0 v) :
    PresFrom n0 (setGlobal s v) (fun _ _ => True) := by
  intro st wf hn
  simp only [setGlobal]
  cases h : st.globals.lookup s with
  | none => exact ⟨wf, Nat.le_refl _⟩
  | some w => exact ⟨wf.insertG s v (hv.mono hn), Nat.le_refl _, trivial⟩

theorem pres_emit (w : Bool) (d : Datum) : PresFrom n0 (emit w d) (fun _ _ => True) := by
  intro st wf _
  exact ⟨⟨wf.store, wf.globals⟩, Nat.le_refl _, trivial⟩

end Marwood.Spec.Eval
