import Marwood.Lemmas.ConcreteLawsVal
import Marwood.Lemmas.ConcreteLawsBpLive
import Marwood.Lemmas.GoodMain
/-!
# The stack discipline of the heap-simulation theorems from WF-stack

`StackDisc s` (Lemmas/GoodDefs.lean) is what `good_step` / `safe_of_good` assume of every state along a run: bp-relative
reads at or below `sp`, a complete frame at RET / TCALL, and the four **value-read** clauses. `stackDisc_of_wfs`: all
six follow from WF-stack over the value-typed verifier.

Then the run-level bridge: under `GoodI` and `CalleeOk`, a successful instruction of the real concrete machine
(`concreteOps ext`) is the same instruction of the guarded machine `vops ext` (`step_vops`); hence `VmOk` (`GoodI`, and
WF-stack or halted) is an invariant of the REAL machine (`vmOk_reaches`) as long as the reached states are `CalleeOk`.
-/
namespace Marwood.Lemmas.Good
open Marwood Marwood.Vm Marwood.Vm.Verify Marwood.Vm.Concrete Marwood.Lemmas.Sim

variable {ext : ExtOps} {ecl : ExtCodeLawsV ext}

theorem atInstr_of_wfs {s : St CHeap} {K : List FDesc} (hw : WFS (concreteLawsV ext ecl) s K) {l : CLambda}
    (hl : lambdaAt s.heap s.ipL = some l) {op : Op} (hop : l.bc[s.ipO]? = some (.opcode op)) :
    ∃ t st, AtInstr (concreteLawsV ext ecl) s K t st op ∧ t.bc = l.bc := by
  obtain ⟨t, st, ht, hst⟩ := hw.wf.frames.has_ty
  obtain ⟨hcode, hchk⟩ := tyOf_spec ht
  have hfetch := (concreteLawsV ext ecl).fetch_code hw.inv hcode
  obtain ⟨lam, hcell, hbc⟩ := codeC_some hcode
  have : lam = l := by
    have := lambdaAt_iff.mpr hcell
    rw [hl] at this
    exact (Option.some.inj this).symm
  subst this
  have hf : t.bc[s.ipO]? = some (.opcode op) := by rw [← hbc]; exact hop
  exact ⟨t, st, ⟨hw, ht, hst, check_of_fetch hchk hf hst, hfetch, src_of_fetch hchk hf hst⟩, hbc.symm⟩

/-- **`StackDisc` from WF-stack** (all six clauses) -/
theorem stackDisc_of_wfs {s : St CHeap} {K : List FDesc} (hw : WFS (concreteLawsV ext ecl) s K) : StackDisc s where
  bpLive := by
    intro l off hl hb
    simp only at hl hb
    have hf : (vops ext).fetch s.heap s.ipL (s.ipO + 1) = some (.bpOffset off) := by
      show (match lambdaAt s.heap s.ipL with | some lam => lam.bc[s.ipO + 1]? | none => none) = _
      rw [hl]; exact hb
    obtain ⟨_, h2, h3⟩ := bpLive_operand_of_wfs hw hf
    show (s.bp : Int) + off ≤ s.stack.sp
    omega
  frameLive := by
    intro l hl hor
    show s.bp + 4 ≤ s.stack.sp
    rcases hor with hop | hop
    · obtain ⟨t, st, ai, _⟩ := atInstr_of_wfs hw hl hop
      have chk := ai.chk
      cases st <;> first | cases chk | simp only [checkOp] at chk
      have hent : t.entry = false := by simpa using chk
      obtain ⟨n, ep', l', o', bp', K', hm, _⟩ := hw.wf.frames.inv_frame ai.ht hent ai.hst (by simp)
      exact hm.lo_le
    · obtain ⟨t, st, ai, _⟩ := atInstr_of_wfs hw hl hop
      have chk := ai.chk
      cases st <;> first | cases chk | simp only [checkOp, Bool.and_eq_true] at chk
      have hent : t.entry = false := by simpa using chk.1
      obtain ⟨n, ep', l', o', bp', K', hm, _⟩ := hw.wf.frames.inv_frame ai.ht hent ai.hst (by simp)
      exact hm.lo_le
  src := by
    intro l off v hl hop hb h0 hv
    obtain ⟨t, st, ai, hbc⟩ := atInstr_of_wfs hw hl hop
    have chk := ai.chk
    cases st <;> first | cases chk | simp only [checkOp] at chk
    have := ai.bp_val (off := off) (by rw [hbc]; exact hb) h0
    rw [Stack.cellAt_of_some hv] at this
    exact this
  cons := by
    rintro ⟨l, hl, hop⟩ i v hi1 hi2 hv
    obtain ⟨t, st, ai, hbc⟩ := atInstr_of_wfs hw hl hop
    have chk := ai.chk
    cases st <;> first | cases chk | simp only [checkOp] at chk
    rename_i x
    rcases x with _ | ⟨c1, _ | ⟨c2, x⟩⟩ <;> simp only [Bool.and_eq_true] at chk <;>
      try (exact absurd chk Bool.false_ne_true)
    obtain ⟨⟨k1, k2⟩, _⟩ := chk
    obtain ⟨lo, hm, _, _, _⟩ := hw.wf.frames.inv_body ai.ht ai.hst (by simp)
    obtain ⟨m1, m2, m3, m4, _⟩ := hm
    rw [← Stack.cellAt_of_some hv]
    by_cases hi : i = s.stack.sp
    · rw [hi]; exact m2.val_of_isV k1
    · have : i = s.stack.sp - 1 := by omega
      rw [this]; exact m4.val_of_isV k2
  call := by
    intro hor n hA i v hi1 hi2 hv
    have key : ∀ (t : LamTy) (st : AState) (op : Op), AtInstr (concreteLawsV ext ecl) s K t st op →
        (∃ a, st = .call a) → plainGlob v = true := by
      intro t st op ai ⟨a, ha⟩
      subst ha
      have := ai.call_vals (Stack.cellAt_of_some hA) i (by
        obtain ⟨m, b1, b2, _⟩ := ai.call_block
        rw [Stack.cellAt_of_some hA] at b1; cases b1
        omega) hi1
      rw [Stack.cellAt_of_some hv] at this
      exact this
    rcases hor with ⟨l, hl, hop⟩ | ⟨l, hl, hop⟩ <;>
    · obtain ⟨t, st, ai, _⟩ := atInstr_of_wfs hw hl hop
      have chk := ai.chk
      cases st <;> first | cases chk | simp only [checkOp] at chk
      exact key _ _ _ ai ⟨_, rfl⟩
  enter := by
    intro hor n hA i v hi1 hi2 hv
    have key : ∀ (t : LamTy) (st : AState) (op : Op), AtInstr (concreteLawsV ext ecl) s K t st op →
        st = .pre → plainGlob v = true := by
      intro t st op ai ha
      subst ha
      obtain ⟨n2, l2, o2, hA2, _, hn, hav, _⟩ := hw.wf.frames.inv_pre_args ai.ht ai.hst
      rw [Stack.cellAt_of_some hA] at hA2; cases hA2
      have := hav i (by omega) (by omega)
      rw [Stack.cellAt_of_some hv] at this
      exact this
    rcases hor with ⟨l, hl, hop⟩ | ⟨l, hl, hop⟩ <;>
    · obtain ⟨t, st, ai, _⟩ := atInstr_of_wfs hw hl hop
      have chk := ai.chk
      cases st <;> first | cases chk | simp only [checkOp] at chk
      exact key _ _ _ ai rfl

def CalleeSite (s : St CHeap) : Prop := opAt s .callAcc ∨ opAt s .tcallAcc ∨ opAt s .enter

theorem step_gops_site (ext : ExtOps) {s : St CHeap} (h : CalleeSite s → CalleeOk s) :
    step (gops ext) s = step (concreteOps ext) s := by
  rw [gops_eq]
  refine step_wc_site _ _ s ?_
  intro op s1 hro hop
  obtain ⟨_, hat⟩ := readOpcode_inv hro
  refine h ?_
  rcases hop with rfl | rfl | rfl
  · exact .inl hat
  · exact .inr (.inl hat)
  · exact .inr (.inr hat)

theorem vglobGet_eq {h : CHeap} (pl : Plain h) (n : Nat) : vglobGet h n = h.globals[n]?.getD .undefined := by
  unfold vglobGet
  have : plainGlob (h.globals[n]?.getD .undefined) = true := by
    cases hg : h.globals[n]? with
    | none => rfl
    | some w =>
      simp only [Option.getD_some]
      exact pl.globals w (by simpa using List.mem_of_getElem? (l := h.globals.toList) (by simpa using hg))
  rw [this]; rfl

theorem venvGet_eq {h : CHeap} (eo : EnvOk h) (e k : Nat) : venvGet h e k = envGet h e k := by
  unfold venvGet
  cases hg : envGet h e k with
  | none => rfl
  | some v =>
    have hs : slotOkB h v = true := by
      unfold envGet at hg
      cases he : envAt h e with
      | none => rw [he] at hg; cases hg
      | some ss =>
        rw [he] at hg
        have hso := eo e ss (envAt_cell he) v (List.mem_of_getElem? hg)
        unfold slotOkB
        rcases hso with hp | ⟨e', k', ss', w, rfl, hc, hk, hw⟩
        · rw [hp]; rfl
        · have : envGet h e' k' = some w := by
            unfold envGet envAt; rw [hc]; exact hk
          simp [this, hw]
    simp [hs]

/-- **The guards are invisible**: under the heap-simulation invariant and the callee guard, a successful instruction
    of the real concrete machine is the same instruction of `vops ext`. (`sm`: the physical size bound of the
    successor heap, needed by `ExtGood.vpush`.) -/
theorem step_vops (eg : ExtGood ext) {s : St CHeap} (g : GoodI s) (hc : CalleeSite s → CalleeOk s)
    {r : St CHeap × Bool}
    (hs : step (concreteOps ext) s = .ok r) (sm : Small r.1.heap) : step (vops ext) s = .ok r := by
  have hs' : step (gops ext) s = .ok r := by rw [step_gops_site ext hc]; exact hs
  refine step_wr (gops ext) vglobGet venvGet (vvectorPush ext) s ?_ ?_ ?_ hs'
  · intro n; exact vglobGet_eq g.hg.plain n
  · intro a k; exact venvGet_eq g.hg.env a k
  · intro s1 d st1 h' hro hp hvp
    have hvp' : ext.vectorPush s.heap (deref s.heap d) s.acc = .ok h' := hvp
    have p1 := pop_ok hp
    have hcell : s.stack.cells[s.stack.sp]? = some d := (Stack.pop_eq_ok.mp hp).2.1
    have hr : r.1.heap = h' := by
      obtain ⟨r1, b⟩ := r
      cases StepEff.of_step hro hs' with
      | vpush _ hd hv' =>
        cases hd.symm.trans hcell
        cases hv'.symm.trans hvp
        rfl
    have hv : VRefsOk s.heap d := roots_stack g.roots (Nat.le_refl _) hcell
    have key := eg.vpush s.heap (deref s.heap d) s.acc h' g.hg (StepB.deref_refs g.hg hv) g.accOk hvp' (by rw [← hr]; exact sm)
    show vvectorPush ext s.heap (deref s.heap d) s.acc = .ok h'
    unfold vvectorPush
    rw [key.2.2]
    exact hvp'

/-- **the hypothesis along the run** (besides `SizeBounded`): the callee guard passes at every reachable CALL / TCALL /
    ENTER site — what the instruction finds in `acc`, when it is a closure or a bare lambda, designates a lambda cell
    holding *procedure* code, not the entry lambda of an evaluation (oracle `callee-ok` of the `bytecode-verifier`
    stream). It is not a consequence of WF-stack (an entry lambda is a verified lambda cell too); it follows from the
    invariant `PInv` of the initial state: `calleeOkAlong_of_vmOk` (`Lemmas/ProcInvMain.lean`). -/
def CalleeOkAlong (m : Machine (St CHeap) Fault) (s0 : St CHeap) : Prop :=
  ∀ s', Reaches m s0 s' → CalleeSite s' → CalleeOk s'

/-- a state HALT left: `ip.1` is past the last cell of the code object (the verifier demands HALT last), so the state
    has no typed offset and is not WF-stack. The heap invariant is carried along for `vmOk_gc` only -/
def HaltedAt (s : St CHeap) : Prop :=
  CInvG IsValue s.heap ∧ ∃ bc, codeC s.heap s.ipL = some bc ∧ bc.length ≤ s.ipO

def VmOk (ext : ExtOps) (ecl : ExtCodeLawsV ext) (s : St CHeap) : Prop :=
  GoodI s ∧ ((∃ K, WFS (concreteLawsV ext ecl) s K) ∨ HaltedAt s)

theorem haltedAt_no_step {s : St CHeap} (h : HaltedAt s) (r : St CHeap × Bool) : step (concreteOps ext) s ≠ .ok r := by
  intro hs
  obtain ⟨_, bc, hc, hl⟩ := h
  obtain ⟨lam, hcell, hbc⟩ := codeC_some hc
  unfold step at hs
  obtain ⟨⟨op, s1⟩, hr, _⟩ := bind_inv hs
  obtain ⟨hf, _⟩ := readOpcode_ok hr
  have : (concreteOps ext).fetch s.heap s.ipL s.ipO = lam.bc[s.ipO]? := by
    show (match lambdaAt s.heap s.ipL with | some lam => lam.bc[s.ipO]? | none => none) = _
    rw [lambdaAt_iff.mpr hcell]
  rw [this, hbc, List.getElem?_eq_none hl] at hf
  cases hf

theorem stackDisc_of_halted {s : St CHeap} (h : HaltedAt s) : StackDisc s := by
  obtain ⟨_, bc, hc, hl⟩ := h
  obtain ⟨lam, hcell, hbc⟩ := codeC_some hc
  have hnone : ∀ l k, lambdaAt s.heap s.ipL = some l → s.ipO ≤ k → l.bc[k]? = none := by
    intro l k hl' hk
    have := lambdaAt_iff.mpr hcell
    rw [hl'] at this
    cases this
    rw [hbc]
    exact List.getElem?_eq_none (by omega)
  refine ⟨?_, ?_, ?_, ?_, ?_, ?_⟩
  · intro l off hl' hb
    simp only at hl' hb
    rw [hnone l _ hl' (by omega)] at hb; cases hb
  · intro l hl' hor
    rw [hnone l _ hl' (Nat.le_refl _)] at hor
    rcases hor with h | h <;> cases h
  · intro l off v hl' hop
    rw [hnone l _ hl' (Nat.le_refl _)] at hop; cases hop
  · rintro ⟨l, hl', hop⟩
    rw [hnone l _ hl' (Nat.le_refl _)] at hop; cases hop
  · rintro (⟨l, hl', hop⟩ | ⟨l, hl', hop⟩) <;> (rw [hnone l _ hl' (Nat.le_refl _)] at hop; cases hop)
  · rintro (⟨l, hl', hop⟩ | ⟨l, hl', hop⟩) <;> (rw [hnone l _ hl' (Nat.le_refl _)] at hop; cases hop)

theorem VmOk.stackDisc {s : St CHeap} (h : VmOk ext ecl s) : StackDisc s := by
  rcases h.2 with ⟨K, hw⟩ | hh
  · exact stackDisc_of_wfs hw
  · exact stackDisc_of_halted hh

/-- one successful instruction of the real machine preserves the bundled invariant -/
theorem vmOk_step (el : ExtLaws ext) (eg : ExtGood ext) {s s' : St CHeap} {b : Bool} (h : VmOk ext ecl s)
    (hc : CalleeSite s → CalleeOk s) (sm : Small s.heap) (hs : step (concreteOps ext) s = .ok (s', b)) (sm' : Small s'.heap) :
    VmOk ext ecl s' := by
  have g' : GoodI s' := good_step el eg h.1 sm h.stackDisc hs sm'
  rcases h.2 with ⟨K, hw⟩ | hh
  · have hv := step_vops (ext := ext) eg h.1 hc hs sm'
    cases b with
    | false =>
      obtain ⟨K', hw', _⟩ := step_preserves hw hv
      exact ⟨g', .inl ⟨K', hw'⟩⟩
    | true =>
      refine ⟨g', .inr ?_⟩
      obtain ⟨s1, hr⟩ := step_true_is_halt hv
      obtain ⟨t, st, ai, _⟩ := hw.instr hr
      have hlast := halt_last ai
      cases StepEff.of_step hr hv
      exact ⟨hw.inv, t.bc, (tyOf_spec ai.ht).1, by show t.bc.length ≤ s.ipO + 1; omega⟩
  · exact absurd hs (haltedAt_no_step hh _)

theorem vmOk_gc (force : Bool) {s : St CHeap} (h : VmOk ext ecl s) (sm' : Small (cgc force s).heap) :
    VmOk ext ecl (cgc force s) := by
  refine ⟨good_gc force h.1 sm', ?_⟩
  rcases h.2 with ⟨K, hw⟩ | ⟨hi, bc, hc, hl⟩
  · exact .inl ⟨K, hw.gc (cgc_gcLawsV ext ecl force)⟩
  · right
    obtain ⟨_, _, _, _, g5, g6⟩ := cgc_regs force s
    refine ⟨cgc_inv force s hi, bc, ?_, by rw [g6]; exact hl⟩
    rw [g5]
    exact cgc_roots force s s.ipL bc hi hc (.inl rfl)

/-- **`VmOk` is an invariant of the REAL concrete machine** (`run_one` over `concreteOps ext`, `run_gc` = `cgc force`),
    under the size bound and the callee guard along the run -/
theorem vmOk_reaches (force : Bool) (el : ExtLaws ext) (eg : ExtGood ext) {s0 : St CHeap}
    (h0 : VmOk ext ecl s0) (sb : SizeBounded (machine ext force) s0)
    (ca : CalleeOkAlong (machine ext force) s0) :
    ∀ s', Reaches (machine ext force) s0 s' → VmOk ext ecl s' :=
  Reaches.machine_induct h0 (fun _ _ _ hr1 ih hst hr2 => vmOk_step el eg ih (ca _ hr1) (sb _ hr1) hst (sb _ hr2))
    (fun _ hr1 ih => vmOk_gc force ih (sb _ (.gc hr1)))

/-- WF-stack is an invariant of the real machine (until HALT) -/
theorem wfs_reaches (force : Bool) (el : ExtLaws ext) (eg : ExtGood ext) {s0 : St CHeap}
    (h0 : VmOk ext ecl s0) (sb : SizeBounded (machine ext force) s0)
    (ca : CalleeOkAlong (machine ext force) s0) {s : St CHeap} (hr : Reaches (machine ext force) s0 s) :
    (∃ K, WFS (concreteLawsV ext ecl) s K) ∨ HaltedAt s :=
  (vmOk_reaches force el eg h0 sb ca s hr).2

/-- **`StackDiscAlong` discharged**: from the bundled invariant of the INITIAL state -/
theorem stackDiscAlong_of_wfs (force : Bool) (el : ExtLaws ext) (eg : ExtGood ext) {s0 : St CHeap}
    (h0 : VmOk ext ecl s0) (sb : SizeBounded (machine ext force) s0)
    (ca : CalleeOkAlong (machine ext force) s0) : StackDiscAlong (machine ext force) s0 :=
  fun s' hr => (vmOk_reaches force el eg h0 sb ca s' hr).stackDisc

/-- **`Safe` from the bundled invariant of the initial state** (no `StackDiscAlong`) -/
theorem safe_of_vmOk (force : Bool) (el : ExtLaws ext) (eg : ExtGood ext) {s0 : St CHeap}
    (h0 : VmOk ext ecl s0) (sb : SizeBounded (machine ext force) s0)
    (ca : CalleeOkAlong (machine ext force) s0) : Safe (machine ext force) s0 :=
  safe_of_good force el eg h0.1 sb (stackDiscAlong_of_wfs force el eg h0 sb ca)

end Marwood.Lemmas.Good
