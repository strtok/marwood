import Marwood.Lemmas.CompileCorrect2Main
/-!
# T01.3 stage 2, ERROR case

`compileExpr_correct2_err`: `both2` read at an error. For `e ∈ F2`, if `Spec.Eval` ends the evaluation of `e` with the
error class `cl ≠ syntax` in state `σ'`, the run of the compiled code reaches, through any number of closure calls and
tail calls, a state in which `run_one` returns an error of the class of `cl`; the heap of that state represents `σ'`,
and the live stack of the start state (in tail position: of the caller of the current activation) is intact below
whatever the calls in progress have pushed. Classes: `VariableNotBound`, `InvalidProcedure`, `InvalidNumArgs` of a
closure, a failing primitive (law `ErrLaws2.call_err`).
-/
namespace Marwood.Lemmas.CompileCorrect2
open Marwood Marwood.Vm Marwood.Lemmas.CompileCorrect Marwood.Lemmas.CompileSim
open Marwood.Spec.Eval (Val Prim Cell Env ErrClass evalN evalStep applyStep evalArgs properList quoteVal kwOf insertG
  k_quote k_if_ k_setBang k_define k_lambda)

variable {H : Type} {ops : HeapOps H} {D : RepData2 ops}

/-- **Compiler correctness, stage 2, ERROR case.** -/
theorem compileExpr_correct2_err (L : Laws2 D) (LE : ErrLaws2 D) (f : Nat) (cst : CState) (c : Ctx) (base : Nat)
    (tail : Bool) (e : Datum) (cst' : CState) (code : List BC) (ρ : Env) (hf : F2 D.setG f c (bound ρ) tail e)
    (hcx : CtxOK c) (hcomp : compileExpr f cst c base tail e = .ok (cst', code)) (hpre : cst'.lambdas <+: D.final)
    (n : Nat) (σ : SSt) (cl : ErrClass) (σ' : SSt) (hev : (evalN n).eval e ρ σ = .err cl σ') (hcs : cl ≠ .syntax)
    (W : World) (s : MSt H) (fr : Frame) (hc : CodeAt2 D c.envmap s.heap σ.store s.ipL base code)
    (hip : s.ipO = base) (hi : Inv2 D W s.heap σ) (her : EnvRep ops W s.heap c s.ep ρ) (hw : SWF s.stack)
    (hfr : tail = true → FrameAt s.stack s.bp fr) :
    ∃ W' sf e', W.le W' ∧ ErrRun2 D W' s (errBase tail s fr) σ σ' cl sf e' :=
  exprOut2_err.mp (hev ▸ (both2 L n).1 f cst c base tail e cst' code ρ (fun _ => False) hf hcx hcomp hpre σ W s fr hc hip
    hi her hw hfr) LE hcs

/-- … the failing call of a closure value -/
theorem closureCall_correct2_err (L : Laws2 D) (LE : ErrLaws2 D) (n : Nat) : CallErr2 D n := by
  intro ps body ρc ws σ cl σ' hap hcs W s lam cenv vs st0 epc lc oc hcal hclos hi hvs hipL hipO hst hw0 hw
  have := (both2 L n).2 ps none body ρc ws σ W s lam cenv vs st0 epc lc oc hcal ⟨rfl, hclos⟩ hi hvs hipL hipO hst hw0 hw
  rw [hap] at this
  obtain ⟨W', sf, e', hw', r⟩ := this LE hcs
  exact ⟨W', sf, e', hw', errRun2_iff.mp r⟩

end Marwood.Lemmas.CompileCorrect2
