import Marwood.Lemmas.CompileCorrect2Err
/-!
# T01.3 stage 1 — constants, global reference, `set!` of a global and `if`, given the statement for sub-expressions
-/
namespace Marwood.Lemmas.CompileCorrect
open Marwood Marwood.Vm
open Marwood.Spec.Eval (Val Prim Cell ErrClass Res M evalN evalStep applyStep evalArgs properList quoteVal kwOf insertG
  k_quote k_if_ k_setBang k_define)

variable {H : Type} {ops : HeapOps H} {D : RepData ops}

theorem ExprRun.append {s s1 s2 : MSt H} {len1 len2 : Nat} {σ σ1 σ2 : SSt} {v w : Val}
    (r1 : ExprRun D s len1 σ σ1 v s1) (r2 : ExprRun D s1 len2 σ1 σ2 w s2) :
    ExprRun D s (len1 + len2) σ σ2 w s2 :=
  ⟨r1.steps.trans r2.steps, r2.ipL.trans r1.ipL, by rw [r2.ipO, r1.ipO, Nat.add_assoc],
   r2.bp.trans r1.bp, r2.ep.trans r1.ep, r1.stack.trans r2.stack, r2.swf, r2.acc, r2.sr,
   r1.ev.trans (r1.ipL ▸ r2.ev)⟩

theorem ExprRun.step_before {s s' : MSt H} {o len len' : Nat} {σ σ' : SSt} {w : Val}
    (hs : step ops s = .ok ({ s with ipO := o }, false))
    (r : ExprRun D { s with ipO := o } len σ σ' w s') (ho : o + len = s.ipO + len') :
    ExprRun D s len' σ σ' w s' :=
  ⟨.cons hs r.steps, r.ipL, by rw [r.ipO]; exact ho, r.bp, r.ep, r.stack, r.swf, r.acc, r.sr, r.ev⟩

theorem ExprRun.step_after {s s' : MSt H} {o len len' : Nat} {σ σ' : SSt} {w : Val}
    (r : ExprRun D s len σ σ' w s')
    (hs : step ops s' = .ok ({ s' with ipO := o }, false)) (ho : o = s.ipO + len') :
    ExprRun D s len' σ σ' w { s' with ipO := o } :=
  ⟨r.steps.trans (Steps.one hs), r.ipL, ho, r.bp, r.ep, r.stack, r.swf, r.acc, r.sr, r.ev⟩

theorem run_void (L : RepLaws D) {s : MSt H} {σ : SSt}
    (hc : CodeAt D s.heap σ.store s.ipL s.ipO [.op .movImm, .void, .acc])
    (hsr : SR D s.heap σ) (hw : SWF s.stack) : ∃ s', ExprRun D s 3 σ σ .void s' :=
  ⟨_, ⟨Steps.one (run_movImm_void hc), rfl, rfl, rfl, rfl, LiveEq.refl _, hw, L.void _ _, hsr,
    Evolves.refl _ _ _⟩⟩

theorem ExprRun.codeAfter {s s' : MSt H} {len : Nat} {σ σ' : SSt} {w : Val} (r : ExprRun D s len σ σ' w s')
    {base : Nat} {code : List BC} (hc : CodeAt D s.heap σ.store s.ipL base code) :
    CodeAt D s'.heap σ'.store s'.ipL base code := by
  rw [r.ipL]; exact hc.evolve r.ev

theorem Out1.mono {ts ts' : List Text} {s : MSt H} {len : Nat} {σ : SSt} {r : Res Val} (hts : ∀ x ∈ ts', x ∈ ts)
    (o : Out1 D ts' s len σ r) : Out1 D ts s len σ r := by
  cases r with
  | ok w σ' => exact o
  | err c σ' => exact Fails1.mono hts o
  | timeout => trivial

/-- a run, one jump, then any outcome of the rest -/
theorem Out1.after {ts ts' : List Text} {s s1 : MSt H} {len len1 len2 o : Nat} {σ σ1 : SSt} {v : Val}
    {r : Res Val} (r1 : ExprRun D s len1 σ σ1 v s1) (hj : step ops s1 = .ok ({ s1 with ipO := o }, false))
    (hts : ∀ x ∈ ts', x ∈ ts)
    (fin : ∀ σ' w s3, ExprRun D { s1 with ipO := o } len2 σ1 σ' w s3 → ∃ s4, ExprRun D s len σ σ' w s4)
    (o2 : Out1 D ts' { s1 with ipO := o } len2 σ1 r) : Out1 D ts s len σ r := by
  cases r with
  | ok w σ' => obtain ⟨s3, r3⟩ := o2; exact fin σ' w s3 r3
  | err c σ' =>
    exact Fails1.prepend hts (r1.steps.trans (Steps.one hj)) r1.ipL r1.bp r1.ep r1.stack.ext r1.ev o2
  | timeout => trivial

/-- constants and `(quote d)` alike: the code is `MOV-IMMEDIATE d %acc`, the meaning `quoteVal d` -/
theorem atom_res1 {ts : List Text} {s : MSt H} {σ : SSt} {d : Datum} (hd : IsAtom d)
    (hc : CodeAt D s.heap σ.store s.ipL s.ipO [.op .movImm, .datum d, .acc])
    (hsr : SR D s.heap σ) (hw : SWF s.stack) : Out1 D ts s 3 σ (quoteVal d σ) := by
  rw [quoteVal_of_atom hd]
  cases ha : atomVal d with
  | none => exact fun _ h => absurd rfl h
  | some w =>
    obtain ⟨v, hs, hv⟩ := run_movImm_datum s hc
    exact ⟨_, ⟨Steps.one hs, rfl, rfl, rfl, rfl, LiveEq.refl _, hw, hv w ha, hsr, Evolves.refl _ _ _⟩⟩

theorem sym_res1 (L : RepLaws D) {ts : List Text} {s : MSt H} {σ : SSt} {x : Text} {r : Spec.Eval.Rec}
    (hc : CodeAt D s.heap σ.store s.ipL s.ipO [.op .mov, .global x, .acc])
    (hsr : SR D s.heap σ) (hw : SWF s.stack) : Out1 D ts s 3 σ (evalStep r (.sym x) [] σ) := by
  rw [evalStep_sym]
  split
  · exact fun _ h => absurd rfl h
  show Out1 D ts s 3 σ (match σ.globals.lookup x with | some v => .ok v σ | none => .err .unbound σ)
  cases hl : σ.globals.lookup x with
  | some w =>
    have hv := hsr.bound x w (hc.globalCell 1 rfl).1 hl
    have hs := step_mov_glob_acc hc.1 (hc.op 0 rfl) (hc.globalCell 1 rfl).2 (L.ne_undefined _ _ _ _ hv)
      (hc.accCell 2 rfl)
    exact ⟨_, ⟨Steps.one hs, rfl, rfl, rfl, rfl, LiveEq.refl _, hw, hv, hsr, Evolves.refl _ _ _⟩⟩
  | none =>
    have hs := step_mov_glob_unbound hc.1 (hc.op 0 rfl) (hc.globalCell 1 rfl).2
      (hsr.unbound x (hc.globalCell 1 rfl).1 hl)
    exact fun _ _ _ => ⟨s, _, ⟨.refl _, hs, rfl, rfl, rfl, rfl, StackExt.refl _, hw, hsr, Evolves.refl _ _ _⟩⟩

theorem setBang_res1 (L : RepLaws D) {fuel : Nat} (ih : ExprRes1 D fuel)
    {cst cst' : CState} {base : Nat} {tail : Bool} {x : Text} {e : Datum} {code : List BC} (hfe : Frag e)
    (hcomp : compileExpr (fuel + 1) cst c0 base tail
      (.pair (.sym k_setBang) (.pair (.sym x) (.pair e .nil))) = .ok (cst', code))
    {n : Nat} {σ : SSt} {s : MSt H} (hc : CodeAt D s.heap σ.store s.ipL base code) (hip : s.ipO = base)
    (hsr : SR D s.heap σ) (hw : SWF s.stack) :
    Out1 D (setTargets (.pair (.sym k_setBang) (.pair (.sym x) (.pair e .nil)))) s code.length σ
      (evalStep (evalN n) (.pair (.sym k_setBang) (.pair (.sym x) (.pair e .nil))) [] σ) := by
  obtain ⟨code1, hc1, rfl⟩ := CompileCorrect2.compile_setBang_inv2 hcomp
  subst hip
  rw [evalStep_setBang]
  split
  · exact fun _ h => absurd rfl h
  have o := ih _ _ _ _ _ _ hfe hc1 n σ s hc.left rfl hsr hw
  cases he : (evalN n).eval e [] σ with
  | timeout => rw [bind_timeout he]; trivial
  | err c σ' =>
    rw [bind_err he]; rw [he] at o
    exact Fails1.mono (fun y hy => setTargets_cdr (setTargets_cdr (setTargets_car hy))) o
  | ok v σ1 =>
    rw [bind_ok he]; rw [he] at o
    obtain ⟨s1, r1⟩ := o
    cases hl : σ1.globals.lookup x with
    | none =>
      rw [bind_err (assignVar_unbound hl)]
      exact fun _ _ hset => absurd hl (hset x (setTargets_setBang x e))
    | some old =>
      rw [bind_ok (show Spec.Eval.assignVar [] x v σ1 = .ok () { σ1 with globals := insertG x v σ1.globals } by
        simp only [Spec.Eval.assignVar, List.lookup, Spec.Eval.setGlobal, hl])]
      have hc2 := r1.codeAfter hc.right
      rw [← r1.ipO] at hc2
      obtain ⟨s2, r2⟩ := run_store L (x := x) hc2 r1.acc r1.sr r1.swf
      exact ⟨s2, by simpa using r1.append r2⟩

/-- for `if2_res1` and `if3_res1`: `acode` is the code of whatever the false branch `alt` is -/
theorem case_if1 (L : RepLaws D) {fuel : Nat} (ih : ExprRes1 D fuel)
    {cst cst1 cst2 : CState} {tail : Bool} {t cn : Datum} {tcode ccode acode : List BC} {ts : List Text} {n : Nat}
    {s : MSt H} {σ : SSt} (hft : Frag t) (hfc : Frag cn)
    (hct : compileExpr fuel cst c0 s.ipO false t = .ok (cst1, tcode))
    (hcc : compileExpr fuel cst1 c0 (s.ipO + tcode.length + 2) tail cn = .ok (cst2, ccode))
    (htT : ∀ x ∈ setTargets t, x ∈ ts) (htC : ∀ x ∈ setTargets cn, x ∈ ts)
    (hc : CodeAt D s.heap σ.store s.ipL s.ipO
      (tcode ++ [BC.op .jnt, BC.target (s.ipO + tcode.length + 2 + ccode.length + 2)] ++ ccode
        ++ [BC.op .jmp, BC.target (s.ipO + tcode.length + 2 + ccode.length + 2 + acode.length)] ++ acode))
    (hsr : SR D s.heap σ) (hw : SWF s.stack) {alt : M Val}
    (halt : ∀ σ1 (s1 : MSt H), s1.ipO = s.ipO + tcode.length + 2 + ccode.length + 2 →
      CodeAt D s1.heap σ1.store s1.ipL s1.ipO acode → SR D s1.heap σ1 → SWF s1.stack →
      Out1 D ts s1 acode.length σ1 (alt σ1)) :
    Out1 D ts s (tcode ++ [BC.op .jnt, BC.target (s.ipO + tcode.length + 2 + ccode.length + 2)] ++ ccode
        ++ [BC.op .jmp, BC.target (s.ipO + tcode.length + 2 + ccode.length + 2 + acode.length)] ++ acode).length σ
      (((evalN n).eval t [] >>= fun v => if Spec.Eval.truthy v = true then (evalN n).eval cn [] else alt) σ) := by
  rw [show (tcode ++ [BC.op .jnt, BC.target (s.ipO + tcode.length + 2 + ccode.length + 2)] ++ ccode
      ++ [BC.op .jmp, BC.target (s.ipO + tcode.length + 2 + ccode.length + 2 + acode.length)] ++ acode).length
      = tcode.length + 2 + ccode.length + 2 + acode.length by
    simp only [List.length_append, List.length_cons, List.length_nil]]
  have hcT := hc.left.left.left.left
  have hcJ := hc.left.left.left.right
  have hcC := hc.left.left.right
  have hcK := hc.left.right
  have hcA := hc.right
  have oT := ih _ _ _ _ _ _ hft hct n σ s hcT rfl hsr hw
  cases het : (evalN n).eval t [] σ with
  | timeout => rw [bind_timeout het]; trivial
  | err cl σ' => rw [bind_err het]; rw [het] at oT; exact Fails1.mono htT oT
  | ok v σ1 =>
    rw [bind_ok het]; rw [het] at oT
    obtain ⟨s1, r1⟩ := oT
    have hcJ1 := (r1.codeAfter hcJ).cast r1.ipO.symm
    have ipo1 := r1.ipO
    by_cases htr : Spec.Eval.truthy v = true
    · simp only [htr, if_true]
      have hj := step_jnt_true hcJ1.1 (hcJ1.op 0 rfl) (hcJ1.targetCell 1 rfl) fun e =>
        not_false_of_truthy htr ((L.truth _ _ _ _ r1.acc).mp e)
      have hcC1 : CodeAt D s1.heap σ1.store s1.ipL (s.ipO + tcode.length + 2) ccode :=
        (r1.codeAfter hcC).cast (by simp only [List.length_append, Nat.add_assoc]; rfl)
      refine Out1.after r1 hj htC (fun σ' w s3 r3 => ?_)
        (ih _ _ _ _ _ _ hfc hcc n σ1 { s1 with ipO := s1.ipO + 2 } hcC1 (by show s1.ipO + 2 = _; omega) r1.sr r1.swf)
      have r13 := r1.append (ExprRun.step_before (len' := 2 + ccode.length) hj r3 (by show _ = s1.ipO + _; omega))
      have hcK3 : CodeAt D s3.heap σ'.store s3.ipL s3.ipO
          [BC.op .jmp, BC.target (s.ipO + tcode.length + 2 + ccode.length + 2 + acode.length)] :=
        (r13.codeAfter hcK).cast (by rw [r13.ipO]; simp only [List.length_append, Nat.add_assoc]; rfl)
      exact ⟨_, r13.step_after (step_jmp hcK3.1 (hcK3.op 0 rfl) (hcK3.targetCell 1 rfl)) (by omega)⟩
    · simp only [htr]
      have hj := step_jnt_false hcJ1.1 (hcJ1.op 0 rfl) (hcJ1.targetCell 1 rfl)
        ((L.truth _ _ _ _ r1.acc).mpr (eq_false_of_not_truthy htr))
      have hcA1 : CodeAt D s1.heap σ1.store s1.ipL (s.ipO + tcode.length + 2 + ccode.length + 2) acode :=
        (r1.codeAfter hcA).cast (by simp only [List.length_append, Nat.add_assoc]; rfl)
      refine Out1.after r1 hj (fun _ h => h) (fun σ' w s3 r3 => ⟨s3, ?_⟩)
        (halt σ1 { s1 with ipO := s.ipO + tcode.length + 2 + ccode.length + 2 } rfl hcA1 r1.sr r1.swf)
      have := r1.append (ExprRun.step_before (len' := 2 + ccode.length + 2 + acode.length) hj r3
        (by show _ = s1.ipO + _; omega))
      rwa [show tcode.length + (2 + ccode.length + 2 + acode.length)
          = tcode.length + 2 + ccode.length + 2 + acode.length by omega] at this

theorem if3_res1 (L : RepLaws D) {fuel : Nat} (ih : ExprRes1 D fuel)
    {cst cst' : CState} {base : Nat} {tail : Bool} {t c a : Datum} {code : List BC}
    (hft : Frag t) (hfc : Frag c) (hfa : Frag a)
    (hcomp : compileExpr (fuel + 1) cst c0 base tail
      (.pair (.sym k_if_) (.pair t (.pair c (.pair a .nil)))) = .ok (cst', code))
    {n : Nat} {σ : SSt} {s : MSt H} (hc : CodeAt D s.heap σ.store s.ipL base code) (hip : s.ipO = base)
    (hsr : SR D s.heap σ) (hw : SWF s.stack) :
    Out1 D (setTargets (.pair (.sym k_if_) (.pair t (.pair c (.pair a .nil))))) s code.length σ
      (evalStep (evalN n) (.pair (.sym k_if_) (.pair t (.pair c (.pair a .nil)))) [] σ) := by
  obtain ⟨cst1, cst2, tcode, ccode, acode, hct, hcc, hca, rfl⟩ := CompileCorrect2.compile_if3_inv2 hcomp
  subst hip
  rw [evalStep_if3]
  exact case_if1 L ih hft hfc hct hcc (fun x hx => setTargets_cdr (setTargets_car hx))
    (fun x hx => setTargets_cdr (setTargets_cdr (setTargets_car hx))) hc hsr hw
    fun σ1 s1 hip1 hcA hsr1 hw1 => (ih _ _ _ _ _ _ hfa hca n σ1 s1 (hip1 ▸ hcA) hip1 hsr1 hw1).mono
      fun x hx => setTargets_cdr (setTargets_cdr (setTargets_cdr (setTargets_car hx)))

theorem if2_res1 (L : RepLaws D) {fuel : Nat} (ih : ExprRes1 D fuel)
    {cst cst' : CState} {base : Nat} {tail : Bool} {t c : Datum} {code : List BC} (hft : Frag t) (hfc : Frag c)
    (hcomp : compileExpr (fuel + 1) cst c0 base tail
      (.pair (.sym k_if_) (.pair t (.pair c .nil))) = .ok (cst', code))
    {n : Nat} {σ : SSt} {s : MSt H} (hc : CodeAt D s.heap σ.store s.ipL base code) (hip : s.ipO = base)
    (hsr : SR D s.heap σ) (hw : SWF s.stack) :
    Out1 D (setTargets (.pair (.sym k_if_) (.pair t (.pair c .nil)))) s code.length σ
      (evalStep (evalN n) (.pair (.sym k_if_) (.pair t (.pair c .nil))) [] σ) := by
  obtain ⟨cst1, tcode, ccode, hct, hcc, rfl⟩ := CompileCorrect2.compile_if2_inv2 hcomp
  subst hip
  rw [evalStep_if2]
  exact case_if1 L ih hft hfc hct hcc (fun x hx => setTargets_cdr (setTargets_car hx))
    (fun x hx => setTargets_cdr (setTargets_cdr (setTargets_car hx))) (acode := [BC.op .movImm, BC.void, BC.acc])
    hc hsr hw fun σ1 s1 _ hcA hsr1 hw1 => run_void L hcA hsr1 hw1

end Marwood.Lemmas.CompileCorrect
