import Marwood.Lemmas.CompileCorrect2Aux
import Marwood.Lemmas.CompileCorrect3Defs
/-!
# T01.3 stage 3 — what the representation keeps while heap, store and world grow; observing a value
-/
namespace Marwood.Lemmas.CompileCorrect3
open Marwood Marwood.Vm Marwood.Lemmas.CompileCorrect Marwood.Lemmas.CompileCorrect2
open Marwood.Spec.Eval (Val Prim Cell Env quoteVal)

variable {H : Type} {ops : HeapOps H} {D : RepData2 ops}

theorem Ext3.refl (h : H) (S : Array Cell) : Ext3 D h S h S :=
  ⟨Ext2.refl h S, fun _ _ _ x => x, fun _ _ x => x, fun _ _ _ x => x, fun _ _ _ _ x => x⟩

theorem Ext3.trans {h1 h2 h3 : H} {S1 S2 S3 : Array Cell} (a : Ext3 D h1 S1 h2 S2) (b : Ext3 D h2 S2 h3 S3) :
    Ext3 D h1 S1 h3 S3 :=
  ⟨a.toExt2.trans b.toExt2, fun v x y p => b.pairs v x y (a.pairs v x y p), fun e k p => b.init e k (a.init e k p),
   fun e k ok u => b.undefOK e k (a.envOK e ok) (a.undefOK e k ok u),
   fun e k v g ok => by
     obtain ⟨v', g'⟩ := a.toExt2.envSome g
     exact a.okBack e k v g (b.okBack e k v' g' ok)⟩

theorem Ext3.storeOnly (L : Laws3 D) (h : H) {S S' : Array Cell} (x : StoreExt S S') : Ext3 D h S h S' :=
  ⟨⟨x, fun _ _ y => L.vr_store _ _ _ _ _ x y,
   fun _ _ y => DatumAt.transport (fun _ _ z => L.vr_store _ _ _ _ _ x z) (fun _ _ _ z => z) (fun _ _ z => z) y,
   fun _ y => ⟨y, fun _ => rfl, rfl, rfl⟩, fun _ _ _ y => y, fun _ y => y, fun _ _ _ _ y => y,
   fun _ _ v y z => ⟨v, y, z⟩⟩, fun _ _ _ y => y, fun _ _ y => y, fun _ _ _ y => y, fun _ _ _ _ y => y⟩

theorem EnvRep3g.ext {W W' : World} {h h' : H} {S S' : Array Cell} {P P' : Nat → Nat → Prop} {c : Ctx} {ep : Nat}
    {ρ : Env} {us : Text → Prop} (r : EnvRep3g ops W h P c ep ρ us) (x : Ext3 D h S h' S') (hw : W.le W')
    (hP : ∀ e n, P e n → P' e n) : EnvRep3g ops W' h' P' c ep ρ us := by
  intro y j hj
  obtain ⟨e, n, l, hd, hl, hW, hin⟩ := r y j hj
  exact ⟨e, n, l, hd.ext x.toExt2, hl, hw _ _ _ hW, fun hu => hP _ _ (hin hu)⟩

theorem EnvRep3.ext {W W' : World} {h h' : H} {S S' : Array Cell} {c : Ctx} {ep : Nat} {ρ : Env} {us : Text → Prop}
    (r : EnvRep3 ops W h c ep ρ us) (x : Ext3 D h S h' S') (hw : W.le W') : EnvRep3 ops W' h' c ep ρ us :=
  EnvRep3g.ext r x hw fun e n => x.init e n

theorem EnvRep3.weaken {W : World} {h : H} {c : Ctx} {ep : Nat} {ρ : Env} {us us' : Text → Prop}
    (r : EnvRep3 ops W h c ep ρ us) (hs : ∀ x, us x → us' x) : EnvRep3 ops W h c ep ρ us' := by
  intro y j hj
  obtain ⟨e, n, l, hd, hl, hW, hin⟩ := r y j hj
  exact ⟨e, n, l, hd, hl, hW, fun hu => hin (fun h => hu (hs _ h))⟩

theorem EnvRep3.toEnvRep {W : World} {h : H} {c : Ctx} {ep : Nat} {ρ : Env} {us : Text → Prop}
    (r : EnvRep3 ops W h c ep ρ us) : EnvRep ops W h c ep ρ := by
  intro y j hj
  obtain ⟨e, n, l, hd, hl, hW, _⟩ := r y j hj
  exact ⟨e, n, l, hd, hl, hW⟩

theorem ClosOK3g.mono {W W' : World} {h h' : H} {S S' : Array Cell} {P P' : Nat → Nat → Prop} {lam cenv : Nat}
    {ps : List Text} {rest : Option Text} {body : List Datum} {ρc : Env}
    (c : ClosOK3g D W h P lam cenv ps rest body ρc) (x : Ext3 D h S h' S') (hw : W.le W')
    (hP : ∀ e n, P e n → P' e n) : ClosOK3g D W' h' P' lam cenv ps rest body ρc := by
  obtain ⟨f, cst, cst1, co, p, bcode, ints, caps, a1, a2, a3, a4, a5, a6, a7, a8, a9, a10, a11, a12, a13,
    a14, a15, a16, a17, a18, a19⟩ := c
  obtain ⟨b1, _, _, b4⟩ := x.code lam a11
  refine ⟨f, cst, cst1, co, p, bcode, ints, caps, a1, a2, a3, a4, a5, a6, a7, a8, a9, a10, b1, a12,
    b4.trans a13, a14, a15, ?_, ?_, x.envOK _ a18, fun j y hy => x.undefOK _ _ a18 (a19 j y hy)⟩
  · intro j hj
    obtain ⟨g, hg⟩ := a16 j hj
    exact x.toExt2.envSome hg
  · intro j y hj hy
    obtain ⟨e, n, l, h1, h2, h3, h4⟩ := a17 j y hj hy
    exact ⟨e, n, l, x.envPtr _ _ _ _ h1, h2, hw _ _ _ h3, hP _ _ h4⟩

theorem ClosOK3.mono {W W' : World} {h h' : H} {S S' : Array Cell} {lam cenv : Nat} {ps : List Text}
    {rest : Option Text} {body : List Datum} {ρc : Env} (c : ClosOK3 D W h lam cenv ps rest body ρc)
    (x : Ext3 D h S h' S') (hw : W.le W') : ClosOK3 D W' h' lam cenv ps rest body ρc :=
  ClosOK3g.mono c x hw (fun e n => x.init e n)

theorem VR3.mono {W W' : World} {h h' : H} {S S' : Array Cell} {v : VCell} {w : Val}
    (r : VR3 D W h S v w) (x : Ext3 D h S h' S') (hw : W.le W') : VR3 D W' h' S' v w := by
  induction r with
  | base hb => exact .base (x.vr _ _ hb)
  | clos hc hok => exact .clos (x.clos _ _ _ hc) (hok.mono x hw)
  | pair hs hd _ _ ih1 ih2 =>
    exact .pair (x.store.keep _ _ hs (by intro v e; cases e)) (x.pairs _ _ _ hd) ih1 ih2

theorem All2.vr3_mono {W W' : World} {h h' : H} {S S' : Array Cell} {vs : List VCell} {ws : List Val}
    (r : All2 (VR3 D W h S) vs ws) (x : Ext3 D h S h' S') (hw : W.le W') : All2 (VR3 D W' h' S') vs ws :=
  All2.mono (fun _ _ y => VR3.mono y x hw) r

theorem VR3.void (L : Laws3 D) (W : World) (h : H) (S : Array Cell) : VR3 D W h S .void .void := .base (L.void h S)

theorem VR3.truth (L : Laws3 D) {W : World} {h : H} {S : Array Cell} {v : VCell} {w : Val}
    (r : VR3 D W h S v w) : ops.deref h v = .bool false ↔ w = .bool false := by
  cases r with
  | base hb => exact L.truth _ _ _ _ hb
  | clos hc _ => exact ⟨fun e => absurd e (L.clos_true _ _ _ _ hc), fun e => by cases e⟩
  | pair _ hd _ _ =>
    refine ⟨fun e => ?_, fun e => ?_⟩
    · rw [hd] at e; cases e
    · cases e

theorem VR3.ne_undefined (L : Laws3 D) {W : World} {h : H} {S : Array Cell} {v : VCell} {w : Val}
    (r : VR3 D W h S v w) : v ≠ .undefined := by
  cases r with
  | base hb => exact L.ne_undefined _ _ _ _ hb
  | clos hc _ => exact L.clos_ne_undefined _ _ _ _ hc
  | pair _ hd _ _ => exact L.pair_ne_undefined _ _ _ _ hd

theorem VR3.not_envptr (L : Laws3 D) {W : World} {h : H} {S : Array Cell} {v : VCell} {w : Val}
    (r : VR3 D W h S v w) : isEnvPtr v = false := by
  cases r with
  | base hb => exact L.not_envptr _ _ _ _ hb
  | clos hc _ => exact L.clos_not_envptr _ _ _ _ hc
  | pair _ hd _ _ => exact L.pair_not_envptr _ _ _ _ hd

theorem VR3.closure_inv (L : Laws3 D) {W : World} {h : H} {S : Array Cell} {v : VCell} {ps : List Text}
    {rest : Option Text} {body : List Datum} {ρc : Env} (r : VR3 D W h S v (.closure ps rest body ρc)) :
    ∃ lam cenv, ops.callee h v = .closure lam cenv ∧ ClosOK3 D W h lam cenv ps rest body ρc := by
  cases r with
  | base hb => exact absurd hb (L.vr_no_closure _ _ _ _ _ _ _)
  | clos hc hok => exact ⟨_, _, hc, hok⟩

theorem VR3.prim_inv (L : Laws3 D) {W : World} {h : H} {S : Array Cell} {v : VCell} {p : Prim}
    (r : VR3 D W h S v (.prim p)) : D.VR h S v (.prim p) ∧ ¬ Redisp p := by
  cases r with
  | base hb => exact ⟨hb, L.vr_no_redisp _ _ _ _ hb⟩

theorem quoteLaws_of3 (L : Laws3 D) : QuoteLaws D.toRepData D.vecElems where
  vr_pair := L.vr_pair
  vr_vec := L.vr_vec
  vr_store := fun _ _ _ _ _ hp x => L.vr_store _ _ _ _ _ (StoreExt.ofStorePrefix hp) x
  srx_store := fun _ _ _ hp x => L.srx_store _ _ _ (StoreExt.ofStorePrefix hp) x

theorem Inv3.frame {W : World} {h h' : H} {σ σ' : SSt} (i : Inv3 D W h σ)
    (x : Ext3 D h σ.store h' σ'.store) (hx : D.SRx h' σ'.store) (hg : σ'.globals = σ.globals)
    (hgg : ∀ m, ops.globGet h' m = ops.globGet h m)
    (hloc : ∀ e n l, W e n l → ops.envGet h' e n = ops.envGet h e n ∧ σ'.store[l]? = σ.store[l]?) :
    Inv3 D W h' σ' := by
  refine ⟨fun y w hn hl => ?_, fun y hn hl => ?_, hx, fun y hy => hg ▸ i.gset y hy, i.loaded.ext x.toExt2, i.wfun,
    i.winj, fun e n l hW => ?_, fun e n l hW ok => ?_⟩
  rotate_right
  · obtain ⟨v, _, h1, _⟩ := i.vars e n l hW
    exact i.wact e n l hW (x.okBack e n v h1 ok)
  · rw [hgg]; exact (i.bound y w hn (hg ▸ hl)).mono x (World.le_refl _)
  · rw [hgg]; exact i.unbound y hn (hg ▸ hl)
  · obtain ⟨v, w, h1, h2, h3, h4⟩ := i.vars e n l hW
    obtain ⟨e1, e2⟩ := hloc e n l hW
    exact ⟨v, w, e1 ▸ h1, h2, e2 ▸ h3, fun hv => (h4 hv).mono x (World.le_refl _)⟩

theorem Inv3.step3 {W : World} {h h' : H} {σ : SSt} (i : Inv3 D W h σ) (s : Step3 D h σ.store h') :
    Inv3 D W h' σ :=
  i.frame s.ext s.srx rfl s.glob (fun e n _ _ => ⟨s.env e n, rfl⟩)

theorem Step3.refl {h : H} {S : Array Cell} (hs : D.SRx h S) : Step3 D h S h :=
  ⟨Ext3.refl h S, hs, fun _ _ => rfl, fun _ => rfl⟩

theorem Step3.trans {h1 h2 h3 : H} {S : Array Cell} (a : Step3 D h1 S h2) (b : Step3 D h2 S h3) : Step3 D h1 S h3 :=
  ⟨a.ext.trans b.ext, b.srx, fun e k => (b.env e k).trans (a.env e k), fun m => (b.glob m).trans (a.glob m)⟩

end Marwood.Lemmas.CompileCorrect3
