import Marwood.Lemmas.TotalOps
/-!
# C06 (T06.2): `append` and the Scheme-defined library procedures never panic

`Outcome.Sat o Q` — `o` is not a panic, and a value it returns satisfies `Q` — is the Hoare-style judgement the loops are
proved against; `Post s` (well formed, at least as large as `s`, result valid) is what the next step of a body needs.
-/
namespace Marwood.Store
open Outcome

def Outcome.Sat {α} (o : Outcome α) (Q : α → Prop) : Prop := Outcome.NoPanic o ∧ ∀ a, o = .ok a → Q a

@[simp] theorem sat_ok_iff {α} {a : α} {Q : α → Prop} : Outcome.Sat (.ok a) Q ↔ Q a :=
  ⟨fun h => h.2 a rfl, fun h => ⟨noPanic_ok a, fun b hb => by cases hb; exact h⟩⟩
@[simp] theorem sat_err {α} (e : Err) (Q : α → Prop) : Outcome.Sat (.err e : Outcome α) Q :=
  ⟨noPanic_err e, fun _ h => by cases h⟩
@[simp] theorem sat_diverge {α} (Q : α → Prop) : Outcome.Sat (.diverge : Outcome α) Q :=
  ⟨noPanic_diverge, fun _ h => by cases h⟩

theorem sat_bind {α β} {x : Outcome α} {f : α → Outcome β} {P : α → Prop} {Q : β → Prop}
    (hx : Outcome.Sat x P) (hf : ∀ a, P a → Outcome.Sat (f a) Q) : Outcome.Sat (x >>= f) Q := by
  cases x with
  | ok a => exact hf a (hx.2 a rfl)
  | err e => exact sat_err e Q
  | panic m => exact absurd rfl (hx.1 m)
  | diverge => exact sat_diverge Q

theorem Outcome.Sat.mono {α} {o : Outcome α} {P Q : α → Prop} (h : Outcome.Sat o P) (hpq : ∀ a, P a → Q a) :
    Outcome.Sat o Q := ⟨h.1, fun a ha => hpq a (h.2 a ha)⟩

theorem sat_of_noPanic {α} {o : Outcome α} (h : Outcome.NoPanic o) : Outcome.Sat o (fun _ => True) :=
  ⟨h, fun _ _ => trivial⟩

def Post (s : Store) (p : Store × VCell) : Prop := p.1.WF ∧ Store.Le s p.1 ∧ VCell.Valid p.1 p.2

theorem Post.trans {s s1 : Store} (h : Store.Le s s1) {p : Store × VCell} (hp : Post s1 p) : Post s p :=
  ⟨hp.1, h.trans hp.2.1, hp.2.2⟩

variable {s : Store}

theorem get_sat (hs : s.WF) {v : VCell} (hv : VCell.Valid s v) : Outcome.Sat (s.get v) (VCell.Valid s) := by
  obtain ⟨c, hc, hcv⟩ := get_valid hs hv
  rw [hc]; simpa using hcv

theorem asPtr_sat (v : VCell) : Outcome.Sat v.asPtr (fun a => v = .ptr a) :=
  ⟨asPtr_noPanic v, fun _ h => VCell.asPtr_eq_ok h⟩

theorem asCar_sat (v : VCell) : Outcome.Sat v.asCar (fun p => ∃ a d, v = .pair a d ∧ p = .ptr a) :=
  ⟨asCar_noPanic v, fun _ h => VCell.asCar_eq_ok h⟩

theorem nullP_sat (hs : s.WF) {x : VCell} (hx : VCell.Valid s x) : Outcome.Sat (nullP s x) (fun _ => True) := by
  obtain ⟨c, hc, _⟩ := get_valid hs hx
  simp [nullP, hc]

theorem pairP_sat (hs : s.WF) {x : VCell} (hx : VCell.Valid s x) : Outcome.Sat (pairP s x) (fun _ => True) := by
  obtain ⟨c, hc, _⟩ := get_valid hs hx
  simp [pairP, hc]

theorem car_reads (hs : s.WF) {x : VCell} (hx : VCell.Valid s x) :
    Outcome.Sat (car s [x]) (fun p => p.1 = s ∧ VCell.Valid s p.2) := by
  obtain ⟨c, hc, hcv⟩ := get_valid hs hx
  simp only [car, hc, bind_ok]
  split
  · exact sat_ok_iff.mpr ⟨rfl, hcv.1⟩
  · exact sat_err _ _

theorem cdr_reads (hs : s.WF) {x : VCell} (hx : VCell.Valid s x) :
    Outcome.Sat (cdr s [x]) (fun p => p.1 = s ∧ VCell.Valid s p.2) := by
  obtain ⟨c, hc, hcv⟩ := get_valid hs hx
  simp only [cdr, hc, bind_ok]
  split
  · exact sat_ok_iff.mpr ⟨rfl, hcv.2⟩
  · exact sat_err _ _

theorem carV_sat (hs : s.WF) {x : VCell} (hx : VCell.Valid s x) : Outcome.Sat (carV s x) (VCell.Valid s) :=
  sat_bind (car_reads hs hx) fun _ hp => sat_ok_iff.mpr hp.2

theorem cdrV_sat (hs : s.WF) {x : VCell} (hx : VCell.Valid s x) : Outcome.Sat (cdrV s x) (VCell.Valid s) :=
  sat_bind (cdr_reads hs hx) fun _ hp => sat_ok_iff.mpr hp.2

theorem car_sat (hs : s.WF) {args : List VCell} (ha : ∀ v ∈ args, VCell.Valid s v) :
    Outcome.Sat (car s args) (Post s) := by
  match args, ha with
  | [x], ha => exact (car_reads hs (ha x (by simp))).mono fun _ ⟨h, hv⟩ => ⟨h ▸ hs, h ▸ Store.Le.refl s, h ▸ hv⟩
  | [], _ | _ :: _ :: _, _ => exact sat_err _ _

theorem cdr_sat (hs : s.WF) {args : List VCell} (ha : ∀ v ∈ args, VCell.Valid s v) :
    Outcome.Sat (cdr s args) (Post s) := by
  match args, ha with
  | [x], ha => exact (cdr_reads hs (ha x (by simp))).mono fun _ ⟨h, hv⟩ => ⟨h ▸ hs, h ▸ Store.Le.refl s, h ▸ hv⟩
  | [], _ | _ :: _ :: _, _ => exact sat_err _ _

theorem eqTest_noPanic (hs : s.WF) {a b : VCell} (ha : VCell.Valid s a) (hb : VCell.Valid s b) :
    Outcome.NoPanic (eqTest s a b) := eqv_noPanic hs hb ha

theorem equalTest_noPanic (fuel : Nat) (hs : s.WF) {a b : VCell} (ha : VCell.Valid s a) (hb : VCell.Valid s b) :
    Outcome.NoPanic (equalTest fuel s a b) := equal_noPanic hs fuel hb ha

theorem lengthCount_sat (hs : s.WF) : ∀ (f : Nat) (fast slow : VCell) (k : Int), VCell.Valid s fast →
    VCell.Valid s slow → Outcome.Sat (lengthCount f s fast slow (.num k)) (fun v => ∃ k, v = .num k)
  | 0, _, _, _, _, _ => by simp [lengthCount]
  | f+1, fast, slow, k, hf, hsl => by
    unfold lengthCount
    refine sat_bind (nullP_sat hs hf) (fun b _ => ?_)
    split
    · simp
    · refine sat_bind (cdrV_sat hs hf) (fun d hd => ?_)
      refine sat_bind (nullP_sat hs hd) (fun b1 _ => ?_)
      split
      · simp [add1, Store.get]
      · refine sat_bind (cdrV_sat hs hd) (fun dd hdd => ?_)
        refine sat_bind (cdrV_sat hs hsl) (fun sd hsd => ?_)
        refine sat_bind (sat_of_noPanic (eqTest_noPanic hs hdd hsd)) (fun b2 _ => ?_)
        split
        · have : cdrV s circularListSym = .err .pair := rfl
          rw [this]; simp
        · have hadd : add2 s (.num k) = .ok (.num (k + 2)) := rfl
          rw [hadd]
          exact lengthCount_sat hs f dd sd (k + 2) hdd hsd

theorem length_sat (hs : s.WF) : ∀ (f : Nat) (l : VCell), VCell.Valid s l →
    Outcome.Sat (length f s l) (fun v => ∃ k, v = .num k)
  | 0, _, _ => by simp [length]
  | f+1, l, hl => by
    unfold length
    exact lengthCount_sat hs f l l 0 hl hl

theorem mem_sat (hs : s.WF) {test : Store → VCell → VCell → Outcome Bool}
    (ht : ∀ a b, VCell.Valid s a → VCell.Valid s b → Outcome.NoPanic (test s a b)) :
    ∀ (f : Nat) (obj l : VCell), VCell.Valid s obj → VCell.Valid s l →
      Outcome.Sat (mem test f s obj l) (VCell.Valid s)
  | 0, _, _, _, _ => by simp [mem]
  | f+1, obj, l, ho, hl => by
    unfold mem
    refine sat_bind (nullP_sat hs hl) (fun b _ => ?_)
    split
    · simp [VCell.Valid]
    · refine sat_bind (carV_sat hs hl) (fun a ha => ?_)
      refine sat_bind (sat_of_noPanic (ht a obj ha ho)) (fun t _ => ?_)
      split
      · simpa using hl
      · refine sat_bind (cdrV_sat hs hl) (fun d hd => ?_)
        exact mem_sat hs ht f obj d ho hd

theorem ass_sat (hs : s.WF) {test : Store → VCell → VCell → Outcome Bool}
    (ht : ∀ a b, VCell.Valid s a → VCell.Valid s b → Outcome.NoPanic (test s a b)) :
    ∀ (f : Nat) (obj al : VCell), VCell.Valid s obj → VCell.Valid s al →
      Outcome.Sat (ass test f s obj al) (VCell.Valid s)
  | 0, _, _, _, _ => by simp [ass]
  | f+1, obj, al, ho, hl => by
    unfold ass
    refine sat_bind (nullP_sat hs hl) (fun b _ => ?_)
    split
    · simp [VCell.Valid]
    · refine sat_bind (carV_sat hs hl) (fun e he => ?_)
      refine sat_bind (P := fun _ => True) ?_ (fun hit _ => ?_)
      · refine sat_bind (pairP_sat hs he) (fun p _ => ?_)
        split
        · refine sat_bind (carV_sat hs hl) (fun e' he' => ?_)
          refine sat_bind (carV_sat hs he') (fun k hk => ?_)
          exact sat_of_noPanic (ht k obj hk ho)
        · simp
      · split
        · exact carV_sat hs hl
        · refine sat_bind (cdrV_sat hs hl) (fun d hd => ?_)
          exact ass_sat hs ht f obj d ho hd

theorem cons_sat (hs : s.WF) {a d : VCell} (ha : VCell.Valid s a) (hd : VCell.Valid s d) :
    Outcome.Sat (cons s [a, d]) (Post s) := by
  obtain ⟨hs1, hle1, hv1, x1, hx1⟩ := put_wf hs hd
  obtain ⟨hs2, hle2, hv2, x2, hx2⟩ := put_wf hs1 (ha.mono hle1)
  have hp1 : VCell.Valid ((s.put d).1.put a).1 (.ptr x1) := (hx1 ▸ hv1 : VCell.Valid _ (.ptr x1)).mono hle2
  have hp2 : VCell.Valid ((s.put d).1.put a).1 (.ptr x2) := hx2 ▸ hv2
  have hpair : VCell.Valid ((s.put d).1.put a).1 (.pair x2 x1) := ⟨hp2, hp1⟩
  obtain ⟨hs3, hle3, hv3⟩ := maybePut_wf hs2 hpair
  simp only [cons, consRaw, hx1, hx2, VCell.asPtr_ptr, bind_ok, finish, sat_ok_iff]
  exact ⟨hs3, (hle1.trans hle2).trans hle3, hv3⟩

theorem listLoop_sat : ∀ (xs : List VCell) (s : Store) (acc : Nat), s.WF → (∀ x ∈ xs, VCell.Valid s x) →
    acc < s.cells.length →
    Outcome.Sat (listLoop s xs acc) (fun p => p.1.WF ∧ Store.Le s p.1 ∧ p.2 < p.1.cells.length)
  | [], s, acc, hs, _, hacc => by simpa [listLoop] using ⟨hs, Store.Le.refl s, hacc⟩
  | x :: xs, s, acc, hs, hx, hacc => by
    obtain ⟨hs1, hle1, hv1, a, ha⟩ := put_wf hs (hx x (by simp))
    have hpa : VCell.Valid (s.put x).1 (.ptr a) := ha ▸ hv1
    have hpair : VCell.Valid (s.put x).1 (.pair a acc) := ⟨hpa, Nat.lt_of_lt_of_le hacc hle1.cells⟩
    obtain ⟨hs2, hle2, hv2, p, hp⟩ := put_wf hs1 hpair
    have hpp : VCell.Valid ((s.put x).1.put (.pair a acc)).1 (.ptr p) := hp ▸ hv2
    unfold listLoop
    simp only [ha, VCell.asPtr_ptr, bind_ok, hp]
    refine (listLoop_sat xs _ p hs2 (fun y hy => ((hx y (by simp [hy])).mono hle1).mono hle2) hpp).mono ?_
    intro r hr
    exact ⟨hr.1, (hle1.trans hle2).trans hr.2.1, hr.2.2⟩

theorem list_sat (hs : s.WF) {args : List VCell} (ha : ∀ v ∈ args, VCell.Valid s v) :
    Outcome.Sat (list s args) (Post s) := by
  obtain ⟨hs1, hle1, hv1, n, hn⟩ := put_wf hs (v := .nil) trivial
  have hpn : VCell.Valid (s.put .nil).1 (.ptr n) := hn ▸ hv1
  unfold list
  simp only [hn, VCell.asPtr_ptr, bind_ok]
  refine sat_bind (listLoop_sat args.reverse _ n hs1
    (fun y hy => (ha y (List.mem_reverse.mp hy)).mono hle1) hpn) (fun r hr => ?_)
  obtain ⟨s2, p⟩ := r
  exact sat_ok_iff.mpr ⟨hr.1, hle1.trans hr.2.1, hr.2.2⟩

/-- `Post` for `clone_list`, which hands back the first and the last pair of the copy -/
def Post3 (s : Store) (p : Store × VCell × VCell) : Prop :=
  p.1.WF ∧ Store.Le s p.1 ∧ VCell.Valid p.1 p.2.1 ∧ VCell.Valid p.1 p.2.2

/-- the `if tail.isNil …` block of `cloneLoop`, which has no name in the model, written out -/
theorem cloneLink_sat (hs : s.WF) {tail : VCell} {x : Nat} (ht : VCell.Valid s tail) (hx : x < s.cells.length) :
    Outcome.Sat (if tail.isNil then (.ok (s, .ptr x) : Outcome (Store × VCell)) else do
        let last ← s.get tail
        let lc ← (← last.asCar).asPtr
        let pp ← (VCell.ptr x).asPtr
        let tp ← tail.asPtr
        let s ← s.setCell tp (.pair lc pp)
        .ok (s, .ptr x))
      (fun p => p.1.WF ∧ Store.Le s p.1 ∧ Store.Le p.1 s ∧ p.2 = .ptr x) := by
  split
  · exact sat_ok_iff.mpr ⟨hs, Store.Le.refl s, Store.Le.refl s, rfl⟩
  · refine sat_bind (get_sat hs ht) (fun last hl => sat_bind (asCar_sat last) ?_)
    rintro _ ⟨lc, ld, rfl, rfl⟩
    simp only [VCell.asPtr_ptr, bind_ok]
    refine sat_bind (asPtr_sat tail) (fun tp htp => ?_)
    subst htp
    obtain ⟨s', h', hwf, hle, hge⟩ := setCell_wf hs (a := tp) (c := .pair lc x) ht ⟨hl.1, hx⟩
    simpa [h'] using ⟨hwf, hle, hge⟩

theorem cloneLoop_sat : ∀ (f : Nat) (s : Store) (rest : VCell) (nilp : Nat) (head tail : VCell), s.WF →
    VCell.Valid s rest → nilp < s.cells.length → VCell.Valid s head → VCell.Valid s tail →
    Outcome.Sat (cloneLoop f s rest nilp head tail) (Post3 s)
  | 0, _, _, _, _, _, _, _, _, _, _ => by simp [cloneLoop]
  | f+1, s, rest, nilp, head, tail, hs, hr, hn, hh, ht => by
    unfold cloneLoop
    refine sat_bind (asCar_sat rest) ?_
    rintro _ ⟨a, d, rfl, rfl⟩
    have hv : VCell.Valid s (.pair a nilp) := ⟨hr.1, hn⟩
    obtain ⟨hs1, hle1, hpv, x, hx⟩ := put_wf hs hv
    have hxv : x < (s.put (.pair a nilp)).1.cells.length := (hx ▸ hpv : VCell.Valid _ (.ptr x))
    simp only [VCell.asPtr_ptr, bind_ok, VCell.asCdr_pair, hx]
    refine sat_bind (cloneLink_sat hs1 (ht.mono hle1) hxv) (fun p hp => ?_)
    obtain ⟨s2, tl⟩ := p
    obtain ⟨hs2, hle2, hge2, htl⟩ := hp
    simp only at hs2 hle2 hge2 htl ⊢
    subst htl
    have hle : Store.Le s s2 := hle1.trans hle2
    have hxv2 : VCell.Valid s2 (.ptr x) := Nat.lt_of_lt_of_le hxv hle2.cells
    have hhead : VCell.Valid s2 (if head.isNil then VCell.ptr x else head) := by
      split
      · exact hxv2
      · exact hh.mono hle
    refine sat_bind (get_sat hs2 (v := .ptr d) (Nat.lt_of_lt_of_le hr.2 hle.cells)) (fun rest' hr' => ?_)
    split
    · refine (cloneLoop_sat f s2 rest' nilp _ _ hs2 hr' (Nat.lt_of_lt_of_le hn hle.cells) hhead hxv2).mono ?_
      intro r hr
      exact ⟨hr.1, hle.trans hr.2.1, hr.2.2⟩
    · split
      · simpa [Post3] using ⟨hs2, hle, hhead, hxv2⟩
      · simp

theorem cloneList_sat (fuel : Nat) (hs : s.WF) {l : VCell} (hl : VCell.Valid s l) :
    Outcome.Sat (cloneList fuel s l) (Post3 s) := by
  unfold cloneList
  split
  · simp
  · obtain ⟨hs1, hle1, hv1, n, hn⟩ := put_wf hs (v := .nil) trivial
    have hpn : n < (s.put .nil).1.cells.length := (hn ▸ hv1 : VCell.Valid _ (.ptr n))
    simp only [hn, VCell.asPtr_ptr, bind_ok]
    refine (cloneLoop_sat fuel _ l n .nil .nil hs1 (hl.mono hle1) hpn trivial trivial).mono ?_
    intro r hr
    exact ⟨hr.1, hle1.trans hr.2.1, hr.2.2⟩

theorem appendLoop_sat (fuel : Nat) : ∀ (rest : List VCell) (s : Store) (tail : VCell), s.WF →
    (∀ v ∈ rest, VCell.Valid s v) → VCell.Valid s tail → Outcome.Sat (appendLoop fuel s rest tail) (Post s)
  | [], s, tail, hs, _, ht => by simpa [appendLoop] using ⟨hs, Store.Le.refl s, ht⟩
  | x :: rest, s, tail, hs, hx, ht => by
    unfold appendLoop
    refine sat_bind (get_sat hs (hx x (by simp))) (fun l hl => ?_)
    have hrest : ∀ v ∈ rest, VCell.Valid s v := fun v hv => hx v (by simp [hv])
    split
    · exact appendLoop_sat fuel rest s tail hs hrest ht
    · refine sat_bind (cloneList_sat fuel hs hl) (fun r hr => ?_)
      obtain ⟨s1, head, subTail⟩ := r
      obtain ⟨hs1, hle1, hhead, hsub⟩ := hr
      simp only at hs1 hle1 hhead hsub ⊢
      refine sat_bind (get_sat hs1 hsub) (fun sp hsp => sat_bind (asCar_sat sp) ?_)
      rintro _ ⟨c, cd, rfl, rfl⟩
      simp only [VCell.asPtr_ptr, bind_ok]
      refine sat_bind (asPtr_sat subTail) (fun stp hstp => ?_)
      subst hstp
      refine sat_bind (asPtr_sat tail) (fun tp htp => ?_)
      subst htp
      obtain ⟨s2, h2, hs2, hle2, _⟩ := setCell_wf hs1 (a := stp) (c := .pair c tp) hsub
        ⟨hsp.1, Nat.lt_of_lt_of_le ht hle1.cells⟩
      simp only [h2, bind_ok]
      have hle : Store.Le s s2 := hle1.trans hle2
      refine (appendLoop_sat fuel rest s2 head hs2 (fun v hv => (hrest v hv).mono hle) (hhead.mono hle2)).mono ?_
      intro r hr
      exact hr.trans hle
    · simp

theorem append_sat (fuel : Nat) (hs : s.WF) {args : List VCell} (ha : ∀ v ∈ args, VCell.Valid s v) :
    Outcome.Sat (append fuel s args) (Post s) := by
  unfold append
  have hrev : ∀ v ∈ args.reverse, VCell.Valid s v := fun v hv => ha v (List.mem_reverse.mp hv)
  split
  · exact sat_ok_iff.mpr ⟨hs, Store.Le.refl s, trivial⟩
  · rename_i last rest heq
    rw [heq] at hrev
    obtain ⟨hs1, hle1, hv1, _⟩ := put_wf hs (hrev last (by simp))
    simp only
    refine (appendLoop_sat fuel rest _ _ hs1 (fun v hv => (hrev v (by simp [hv])).mono hle1) hv1).mono ?_
    intro r hr
    exact hr.trans hle1

/-- the law a procedure argument of `map` / `for-each` has to obey: on well-formed stores and valid arguments no
    panic, and what it hands back is again well formed, only grew, and valid -/
def CalleeLaw (g : Callee) : Prop :=
  ∀ (s : Store) (args : List VCell), s.WF → (∀ v ∈ args, VCell.Valid s v) → Outcome.Sat (g s args) (Post s)

theorem calleeLaw_car : CalleeLaw car := fun _ _ hs ha => car_sat hs ha
theorem calleeLaw_cdr : CalleeLaw cdr := fun _ _ hs ha => cdr_sat hs ha
theorem calleeLaw_cons : CalleeLaw cons := by
  intro s args hs ha
  match args, ha with
  | [a, d], ha => exact cons_sat hs (ha a (by simp)) (ha d (by simp))
  | [], _ => simp [cons, consRaw, finish]
  | [_], _ => simp [cons, consRaw, finish]
  | _ :: _ :: _ :: _, _ => simp [cons, consRaw, finish]
theorem calleeLaw_list : CalleeLaw list := fun _ _ hs ha => list_sat hs ha

theorem anyNull_sat (hs : s.WF) : ∀ (f : Nat) (l : VCell), VCell.Valid s l →
    Outcome.Sat (anyNull f s l) (fun _ => True)
  | 0, _, _ => by simp [anyNull]
  | f+1, l, hl => by
    unfold anyNull
    refine sat_bind (pairP_sat hs hl) (fun b _ => ?_)
    split
    · simp
    · refine sat_bind (carV_sat hs hl) (fun a ha => ?_)
      refine sat_bind (nullP_sat hs ha) (fun n _ => ?_)
      split
      · simp
      · refine sat_bind (cdrV_sat hs hl) (fun d hd => ?_)
        exact anyNull_sat hs f d hd

theorem listElems_sat (hs : s.WF) : ∀ (f : Nat) (l : VCell), VCell.Valid s l →
    Outcome.Sat (listElems f s l) (fun xs => ∀ x ∈ xs, VCell.Valid s x)
  | 0, _, _ => by simp [listElems]
  | f+1, l, hl => by
    unfold listElems
    refine sat_bind (get_sat hs hl) (fun c hc => ?_)
    split
    · rename_i a d
      refine sat_bind (listElems_sat hs f (.ptr d) hc.2) (fun xs hxs => ?_)
      simp only [sat_ok_iff, List.mem_cons]
      rintro x (rfl | hx)
      · exact hc.1
      · exact hxs x hx
    · simp
    · simp

theorem map1_sat {g : Callee} (hg : CalleeLaw g) : ∀ (f : Nat) (s : Store) (xs : VCell), s.WF →
    VCell.Valid s xs → Outcome.Sat (map1 g f s xs) (Post s)
  | 0, _, _, _, _ => by simp [map1]
  | f+1, s, xs, hs, hx => by
    unfold map1
    refine sat_bind (nullP_sat hs hx) (fun b _ => ?_)
    split
    · exact sat_ok_iff.mpr ⟨hs, Store.Le.refl s, trivial⟩
    · refine sat_bind (carV_sat hs hx) (fun a ha => ?_)
      refine sat_bind (hg s [a] hs (by simpa using ha)) (fun (s1, y) ⟨hs1, hle1, hy⟩ => ?_)
      refine sat_bind (cdrV_sat hs1 (hx.mono hle1)) (fun d hd => ?_)
      refine sat_bind (map1_sat hg f s1 d hs1 hd) (fun (s2, r) ⟨hs2, hle2, hrv⟩ => ?_)
      exact (cons_sat hs2 (hy.mono hle2) hrv).mono fun p hp => hp.trans (hle1.trans hle2)

theorem mapAll_sat {g : Callee} (hg : CalleeLaw g) : ∀ (f : Nat) (s : Store) (xss : VCell), s.WF →
    VCell.Valid s xss → Outcome.Sat (mapAll g f s xss) (Post s)
  | 0, _, _, _, _ => by simp [mapAll]
  | f+1, s, xss, hs, hx => by
    unfold mapAll
    refine sat_bind (anyNull_sat hs f xss hx) (fun b _ => ?_)
    split
    · exact sat_ok_iff.mpr ⟨hs, Store.Le.refl s, trivial⟩
    · refine sat_bind (map1_sat calleeLaw_car f s xss hs hx) (fun (s1, cars) ⟨hs1, hle1, hcars⟩ => ?_)
      refine sat_bind (listElems_sat hs1 f cars hcars) (fun args hargs => ?_)
      refine sat_bind (hg s1 args hs1 hargs) (fun (s2, y) ⟨hs2, hle2, hy⟩ => ?_)
      refine sat_bind (map1_sat calleeLaw_cdr f s2 xss hs2 (hx.mono (hle1.trans hle2)))
        (fun (s3, cdrs) ⟨hs3, hle3, hcdrs⟩ => ?_)
      refine sat_bind (mapAll_sat hg f s3 cdrs hs3 hcdrs) (fun (s4, r) ⟨hs4, hle4, hrv⟩ => ?_)
      exact (cons_sat hs4 ((hy.mono hle3).mono hle4) hrv).mono fun p hp =>
        hp.trans (((hle1.trans hle2).trans hle3).trans hle4)

theorem forEachAll_sat {g : Callee} (hg : CalleeLaw g) : ∀ (f : Nat) (s : Store) (xss : VCell), s.WF →
    VCell.Valid s xss → Outcome.Sat (forEachAll g f s xss) (Post s)
  | 0, _, _, _, _ => by simp [forEachAll]
  | f+1, s, xss, hs, hx => by
    unfold forEachAll
    refine sat_bind (anyNull_sat hs f xss hx) (fun b _ => ?_)
    split
    · exact sat_ok_iff.mpr ⟨hs, Store.Le.refl s, trivial⟩
    · refine sat_bind (map1_sat calleeLaw_car f s xss hs hx) (fun (s1, cars) ⟨hs1, hle1, hcars⟩ => ?_)
      refine sat_bind (listElems_sat hs1 f cars hcars) (fun args hargs => ?_)
      refine sat_bind (hg s1 args hs1 hargs) (fun (s2, y) ⟨hs2, hle2, _⟩ => ?_)
      refine sat_bind (map1_sat calleeLaw_cdr f s2 xss hs2 (hx.mono (hle1.trans hle2)))
        (fun (s3, cdrs) ⟨hs3, hle3, hcdrs⟩ => ?_)
      refine sat_bind (forEachAll_sat hg f s3 cdrs hs3 hcdrs) (fun (s4, r) ⟨hs4, hle4, _⟩ => ?_)
      exact sat_ok_iff.mpr ⟨hs4, ((hle1.trans hle2).trans hle3).trans hle4, trivial⟩

theorem map_sat {g : Callee} (hg : CalleeLaw g) (fuel : Nat) (hs : s.WF) {lists : List VCell}
    (ha : ∀ v ∈ lists, VCell.Valid s v) : Outcome.Sat (map g fuel s lists) (Post s) := by
  unfold map
  split
  · simp
  · rename_i xs rest
    refine sat_bind (list_sat hs (fun v hv => ha v (List.mem_cons_of_mem _ hv))) (fun (s1, l) ⟨hs1, hle1, hl⟩ => ?_)
    refine sat_bind (cons_sat hs1 ((ha xs (List.mem_cons_self ..)).mono hle1) hl) (fun (s2, xss) ⟨hs2, hle2, hv⟩ => ?_)
    exact (mapAll_sat hg fuel s2 xss hs2 hv).mono fun p hp => hp.trans (hle1.trans hle2)

theorem forEach_sat {g : Callee} (hg : CalleeLaw g) (fuel : Nat) (hs : s.WF) {lists : List VCell}
    (ha : ∀ v ∈ lists, VCell.Valid s v) : Outcome.Sat (forEach g fuel s lists) (Post s) := by
  unfold forEach
  split
  · simp
  · rename_i xs rest
    refine sat_bind (list_sat hs (fun v hv => ha v (List.mem_cons_of_mem _ hv))) (fun (s1, l) ⟨hs1, hle1, hl⟩ => ?_)
    refine sat_bind (cons_sat hs1 ((ha xs (List.mem_cons_self ..)).mono hle1) hl) (fun (s2, xss) ⟨hs2, hle2, hv⟩ => ?_)
    exact (forEachAll_sat hg fuel s2 xss hs2 hv).mono fun p hp => hp.trans (hle1.trans hle2)

end Marwood.Store
