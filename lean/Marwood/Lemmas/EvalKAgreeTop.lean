import Marwood.Lemmas.EvalKAgreeMain
import Marwood.Lemmas.EvalK
/-!
# `Spec.EvalK` agrees with `Spec.Eval` — statements about expressions, top-level forms and the machine with `call/cc`
-/
namespace Marwood.Lemmas.EvalKAgree
open Marwood Marwood.Spec.Eval Marwood.Spec.EvalK

theorem runNext_of_iter (n : Nat) : ∀ (x : Next) (o : Outcome) (σ : St) (ks : Array Kont),
    iter n x = .halt o σ ks → runNext false n x = some (o, σ, ks) := by
  induction n with
  | zero =>
    intro x o σ ks h
    simp only [iter] at h
    subst h; rfl
  | succ n ih =>
    intro x o σ ks h
    cases x with
    | run s => simp only [iter] at h; simp only [runNext]; exact ih _ o σ ks h
    | halt o' σ' ks' => simp only [iter] at h; cases h; rfl
    | stuck => simp [iter] at h

theorem runNext_of_reach {x : Next} {o : Outcome} {σ : St} {ks : Array Kont}
    (h : Reach x (.halt o σ ks)) : ∃ n, runNext false n x = some (o, σ, ks) := by
  obtain ⟨n, hn⟩ := h
  exact ⟨n, runNext_of_iter n x o σ ks hn⟩

/-- **expressions** (C05 `evalK_machine_simulates_eval`): whatever `Spec.Eval` at fuel `n` returns for `e`, the machine
    without `call/cc`, started on `e` in ANY continuation `κ` and any table, reaches: the value returned to `κ`, resp. the
    error class, in the same final store. No fragment restriction: every form and primitive of `Spec.Eval`'s language. -/
theorem eval_agrees (n : Nat) (e : Datum) (ρ : Env) (σ : St) (κ : Kont) (ks : Array Kont) :
    (∀ v σ', (evalN n).eval e ρ σ = .ok v σ' → Reach (evalIn e ρ κ σ ks) (retTo v κ σ' ks)) ∧
    (∀ c σ', (evalN n).eval e ρ σ = .err c σ' → Reach (evalIn e ρ κ σ ks) (.halt (.err c) σ' ks)) :=
  ((simRec_evalN n).eval e ρ σ κ ks).unpack

theorem apply_agrees (n : Nat) (f : Val) (args : List Val) (σ : St) (κ : Kont) (ks : Array Kont) :
    (∀ v σ', (evalN n).apply f args σ = .ok v σ' → Reach (appTo f args κ σ ks) (retTo v κ σ' ks)) ∧
    (∀ c σ', (evalN n).apply f args σ = .err c σ' → Reach (appTo f args κ σ ks) (.halt (.err c) σ' ks)) :=
  ((simRec_evalN n).apply f args σ κ ks).unpack

/-- **top-level forms**: a definite result of `Spec.Eval` for a top-level form is the outcome of the machine (with
    enough steps), value, error class and final store alike -/
theorem top_agrees (n : Nat) (d : Datum) (σ : St) (ks : Array Kont) :
    (∀ v σ', evalTop (evalN n) d σ = .ok v σ' → ∃ m, runNext false m (topGo d [] σ ks) = some (.value v, σ', ks)) ∧
    (∀ c σ', evalTop (evalN n) d σ = .err c σ' → ∃ m, runNext false m (topGo d [] σ ks) = some (.err c, σ', ks)) := by
  have h := (sim_top (simRec_evalN n) d σ [] ks).unpack
  exact ⟨fun v σ' hv => runNext_of_reach ((h.1 v σ' hv).trans ⟨1, rfl⟩),
    fun c σ' hc => runNext_of_reach (h.2 c σ' hc)⟩

/-- the machine reports the value datum `runForm` reports (`valToDatum` of the same value in the same store) -/
theorem runForm_agrees (n : Nat) (d : Datum) (σ σ' : St) (ks : Array Kont) (dv : Datum)
    (h : runForm n d σ = (.ok dv, some σ')) :
    ∃ m v, runNext false m (topGo d [] σ ks) = some (.value v, σ', ks)
      ∧ dv = valToDatum (σ'.store.size + 1) σ'.store v := by
  unfold runForm at h
  cases hv : evalTop (evalN n) d σ with
  | ok v σ1 =>
    rw [hv] at h
    simp only [Prod.mk.injEq, FormRes.ok.injEq, Option.some.injEq] at h
    obtain ⟨h1, h2⟩ := h
    subst h2
    obtain ⟨m, hm⟩ := (top_agrees n d σ ks).1 v σ1 hv
    exact ⟨m, v, hm, h1.symm⟩
  | err c σ1 => rw [hv] at h; simp at h
  | timeout => rw [hv] at h; simp at h

/-- the first `n` states of the run apply neither `call/cc` nor a continuation value -/
def Quiet : Nat → Next → Prop
  | 0, _ => True
  | n+1, .run s => (∀ f args, s.c = .app f args → special f = none) ∧ Quiet n (step false s)
  | _+1, _ => True

/-- on such a run the machine with `call/cc` IS the machine without -/
theorem runNext_quiet (n : Nat) : ∀ (x : Next), Quiet n x → runNext true n x = runNext false n x := by
  induction n with
  | zero => intro x _; cases x <;> rfl
  | succ n ih =>
    intro x h
    cases x with
    | run s =>
      obtain ⟨h1, h2⟩ := h
      simp only [runNext]
      rw [EvalK.step_eq_of_not_special s h1]
      exact ih _ h2
    | halt o σ ks => rfl
    | stuck => rfl

/-- `runNext_quiet` at a top-level form: on a `Quiet` run of `m` steps the outcome of the machine without `call/cc` is the
    outcome of the machine with it. Finding: the proof uses neither `n` nor the two `evalTop (evalN n) …` hypotheses, so
    the statement says nothing about `Spec.Eval`; that tie is `top_agrees`, whose `∃ m` is not the `m` of `Quiet m`. -/
theorem evalK_agrees_with_eval (n m : Nat) (d : Datum) (σ : St) (ks : Array Kont)
    (hq : Quiet m (topGo d [] σ ks)) :
    (∀ v σ', evalTop (evalN n) d σ = .ok v σ' → runNext false m (topGo d [] σ ks) = some (.value v, σ', ks) →
        runNext true m (topGo d [] σ ks) = some (.value v, σ', ks)) ∧
    (∀ c σ', evalTop (evalN n) d σ = .err c σ' → runNext false m (topGo d [] σ ks) = some (.err c, σ', ks) →
        runNext true m (topGo d [] σ ks) = some (.err c, σ', ks)) := by
  refine ⟨fun v σ' _ h => ?_, fun c σ' _ h => ?_⟩ <;> rw [runNext_quiet m _ hq] <;> exact h

end Marwood.Lemmas.EvalKAgree
