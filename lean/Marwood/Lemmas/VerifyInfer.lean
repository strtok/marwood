import Marwood.Lemmas.VerifyScan
/-!
# The forward pass only returns assignments that pass the local check

`infer` (Vm/Verify.lean) is an untrusted oracle for the soundness proof: `verify` runs `checkAll` on whatever it
returns. Here: that second pass never rejects (`infer_checkAll`), so `verify` succeeds whenever `infer` does.

The invariant of the scan (`Ext`): every recorded offset holds an instruction accepted by a typing rule (`Instr`)
whose successor edges are accepted (`Flow`): matched by the recorded state at the target, or the current fall-through
stack, or still pending. The local rule asks no more (`Instr.checkOp`), and `infer` succeeds only with no fall-through
stack and nothing pending, when `Flow` is `flowsTo`.
-/
namespace Marwood.Vm.Verify
open Marwood.Vm

/-- the fall-through stack at the next instruction and the jump edges at their targets are accepted by `F` -/
def Effect.Accepted (e : Effect) (o : Nat) (F : List ACell → Nat → Prop) : Prop :=
  (∀ y, e.cur = some y → F y (o + e.width)) ∧ ∀ p ∈ e.pend, F p.2 p.1

theorem Effect.Accepted.mono {e : Effect} {o : Nat} {F G : List ACell → Nat → Prop} (h : e.Accepted o F)
    (hf : ∀ y t, F y t → G y t) : e.Accepted o G :=
  ⟨fun y hy => hf _ _ (h.1 y hy), fun p hp => hf _ _ (h.2 p hp)⟩

theorem Instr.flowsTo {bc : List VCell} {entry : Bool} {o : Nat} {x : List ACell} {op : Op} {e : Effect}
    (h : Instr bc entry o x op e) : flowsTo x (some e.st) = true := by
  cases h with
  | callAcc h1 h2 | tcallAcc _ h1 h2 => simp [Verify.flowsTo, h1, h2]
  | _ => exact decide_eq_true rfl

theorem Instr.checkOp {bc : List VCell} {tm : TypeMap} {entry : Bool} {o : Nat} {x : List ACell} {op : Op}
    {e : Effect} (h : Instr bc entry o x op e)
    (ha : e.Accepted o fun y t => Verify.flowsTo y (stateAt tm t) = true) :
    checkOp bc tm entry o e.st op = true := by
  obtain ⟨hc, hp⟩ := ha
  cases h with
  | jmp h1 _ => simp only [Verify.checkOp, h1]; exact hp _ (List.mem_singleton.2 rfl)
  | jnt h1 _ => simp only [Verify.checkOp, h1, hp _ (List.mem_singleton.2 rfl), hc _ rfl, Bool.and_self]
  | mov h1 h2 => simp only [Verify.checkOp, h1, h2, hc _ rfl, Bool.and_self]
  | movImm h1 h2 => simp only [Verify.checkOp, h1, h2, hc _ rfl, Bool.and_self]
  | pushImm h1 => simp only [Verify.checkOp, h1]; exact hc _ rfl
  | halt h1 h2 => simpa [Verify.checkOp, h2] using h1
  | cons h1 => simp only [Verify.checkOp, h1, hc _ rfl, Bool.and_self]
  | tcallAcc h0 _ _ => simp only [Verify.checkOp, h0, hc _ rfl, Bool.not_false, Bool.and_self]
  | ret h0 => simp only [Verify.checkOp, h0, Bool.not_false]
  | _ => exact hc _ rfl

theorem stateAt_append_left {l r : TypeMap} {o : Nat} (h : o < l.length) :
    stateAt (l ++ r) o = stateAt l o := by
  simp [stateAt, List.getElem?_append_left h]

theorem stateAt_append_right (l r : TypeMap) (i : Nat) : stateAt (l ++ r) (l.length + i) = stateAt r i := by
  simp only [stateAt]
  rw [List.getElem?_append_right (by omega), Nat.add_sub_cancel_left]

theorem stateAt_ge {l : TypeMap} {o : Nat} (h : l.length ≤ o) : stateAt l o = none := by
  simp [stateAt, List.getElem?_eq_none h]

theorem stateAt_rec_zero (st : AState) (n : Nat) : stateAt (some st :: List.replicate n none) 0 = some st := by
  simp [stateAt]

theorem stateAt_rec_succ (a : Option AState) (n i : Nat) : stateAt (a :: List.replicate n none) (i + 1) = none := by
  simp only [stateAt, List.getElem?_cons_succ, List.getElem?_replicate]
  split <;> simp_all

theorem reverse_emit (tm : TypeMap) (st : AState) (n : Nat) :
    (List.replicate n none ++ some st :: tm).reverse = tm.reverse ++ some st :: List.replicate n none := by
  simp

def Flow (s : Scan) (y : List ACell) (t : Nat) : Prop :=
  (t < s.o ∧ flowsTo y (stateAt s.tm.reverse t) = true) ∨ (t = s.o ∧ s.cur = some y) ∨ (t, y) ∈ s.pend

def Rec (bc : List VCell) (entry : Bool) (s : Scan) (o : Nat) (st : AState) : Prop :=
  ∃ x op e, bc[o]? = some (.opcode op) ∧ bpSrcOk entry bc[o + 1]? = true ∧ Instr bc entry o x op e ∧
    e.st = st ∧ e.Accepted o (Flow s)

theorem Rec.mono {bc : List VCell} {entry : Bool} {s s' : Scan} {o : Nat} {st : AState}
    (h : Rec bc entry s o st) (hf : ∀ y t, Flow s y t → Flow s' y t) : Rec bc entry s' o st := by
  obtain ⟨x, op, e, h1, h2, h3, h4, h5⟩ := h
  exact ⟨x, op, e, h1, h2, h3, h4, h5.mono hf⟩

theorem flow_step {s s' : Scan} (ho : s.o < s'.o)
    (hold : ∀ t, t < s.o → stateAt s'.tm.reverse t = stateAt s.tm.reverse t)
    (hin : ∀ y ∈ incoming s, flowsTo y (stateAt s'.tm.reverse s.o) = true)
    (hp : ∀ p ∈ s.pend, p.1 ≠ s.o → p ∈ s'.pend) : ∀ y t, Flow s y t → Flow s' y t := by
  intro y t h
  rcases h with ⟨h1, h2⟩ | ⟨h1, h2⟩ | h
  · exact .inl ⟨by omega, by rw [hold t h1]; exact h2⟩
  · subst h1
    exact .inl ⟨ho, hin y (incoming_of_cur h2)⟩
  · by_cases ht : t = s.o
    · subst ht
      exact .inl ⟨ho, hin y (incoming_of_pend h)⟩
    · exact .inr (.inr (hp _ h ht))

structure Ext (bc : List VCell) (entry : Bool) (s s' : Scan) : Prop where
  le : s.o ≤ s'.o
  len : s'.tm.length = s'.o
  old : ∀ t, t < s.o → stateAt s'.tm.reverse t = stateAt s.tm.reverse t
  flow : ∀ y t, Flow s y t → Flow s' y t
  new : ∀ t, s.o ≤ t → t < s'.o → ∀ st, stateAt s'.tm.reverse t = some st → Rec bc entry s' t st

theorem Ext.refl {bc : List VCell} {entry : Bool} {s : Scan} (hl : s.tm.length = s.o) : Ext bc entry s s :=
  ⟨Nat.le_refl _, hl, fun _ _ => rfl, fun _ _ h => h, fun t h1 h2 => by omega⟩

theorem Ext.trans {bc : List VCell} {entry : Bool} {a b c : Scan} (h1 : Ext bc entry a b)
    (h2 : Ext bc entry b c) : Ext bc entry a c := by
  refine ⟨Nat.le_trans h1.le h2.le, h2.len, ?_, fun y t h => h2.flow y t (h1.flow y t h), ?_⟩
  · intro t ht
    rw [h2.old t (Nat.lt_of_lt_of_le ht h1.le), h1.old t ht]
  · intro t hat htc st hst
    by_cases htb : t < b.o
    · rw [h2.old t htb] at hst
      exact (h1.new t hat htb st hst).mono h2.flow
    · exact h2.new t (by omega) htc st hst

theorem ext_of_append {bc : List VCell} {entry : Bool} {s s' : Scan} {r : TypeMap} (hl : s.tm.length = s.o)
    (htm : s'.tm.reverse = s.tm.reverse ++ r) (ho : s'.o = s.o + r.length) (hr : 0 < r.length)
    (hin : ∀ y ∈ incoming s, flowsTo y (stateAt r 0) = true)
    (hp : ∀ p ∈ s.pend, p.1 ≠ s.o → p ∈ s'.pend)
    (hnew : ∀ i st, stateAt r i = some st → Rec bc entry s' (s.o + i) st) : Ext bc entry s s' := by
  have hTl : s.tm.reverse.length = s.o := by rw [List.length_reverse, hl]
  have hold : ∀ t, t < s.o → stateAt s'.tm.reverse t = stateAt s.tm.reverse t := by
    intro t ht
    rw [htm, stateAt_append_left (by omega)]
  refine ⟨by omega, ?_, hold, ?_, ?_⟩
  · rw [← List.length_reverse, htm, List.length_append, hTl, ho]
  · refine flow_step (by omega) hold ?_ hp
    intro y hy
    have := stateAt_append_right s.tm.reverse r 0
    rw [hTl, Nat.add_zero] at this
    rw [htm, this]
    exact hin y hy
  · intro t h1 _ st hst
    obtain ⟨i, rfl⟩ : ∃ i, t = s.o + i := ⟨t - s.o, by omega⟩
    have := stateAt_append_right s.tm.reverse r i
    rw [hTl] at this
    rw [htm, this] at hst
    exact hnew i st hst

theorem scanOne_ext {bc : List VCell} {entry : Bool} {s s' : Scan} (hl : s.tm.length = s.o)
    (h : scanOne bc entry s = .ok s') : Ext bc entry s s' := by
  rcases scanOne_ok h with ⟨hin, rfl⟩ | ⟨x, others, op, e, hin, hall, hop, hbp, he, rfl⟩
  · refine ext_of_append (r := [none]) hl (by simp) rfl (by simp) (by simp [hin]) (fun p hp _ => hp) ?_
    intro i st hst
    cases i <;> simp [stateAt] at hst
  · have hw := he.width
    refine ext_of_append (r := some e.st :: List.replicate (e.width - 1) none) hl ?_ ?_ (by simp) ?_ ?_ ?_
    · rw [applyEffect_tm, reverse_emit]
    · rw [applyEffect_o, List.length_cons, List.length_replicate]; omega
    · intro y hy
      rw [stateAt_rec_zero]
      rw [hin] at hy
      have hyx : y = x := by
        rcases List.mem_cons.1 hy with rfl | hy
        · rfl
        · have hall' : ∀ z ∈ others, z = x := by simpa using hall
          exact hall' y hy
      rw [hyx]; exact he.flowsTo
    · intro p hp hne
      rw [applyEffect_pend]
      exact List.mem_append_right _ (List.mem_filter.2 ⟨hp, by simpa using hne⟩)
    · intro i st hst
      cases i with
      | succ i => rw [stateAt_rec_succ] at hst; cases hst
      | zero =>
        rw [stateAt_rec_zero] at hst
        cases hst
        refine ⟨x, op, e, hop, hbp, he, rfl, fun y hy => ?_, fun p hp => ?_⟩
        · exact .inr (.inl ⟨(applyEffect_o s e).symm, (applyEffect_cur s e).trans hy⟩)
        · exact .inr (.inr ((applyEffect_pend s e).symm ▸ List.mem_append_left _ hp))

theorem scanAll_ext {bc : List VCell} {entry : Bool} : ∀ (fuel : Nat) {s s' : Scan}, s.tm.length = s.o →
    scanAll bc entry fuel s = .ok s' → Ext bc entry s s'
  | 0, s, s', hl, h => by
    simp only [scanAll] at h
    cases h
    exact Ext.refl hl
  | fuel + 1, s, s', hl, h => by
    simp only [scanAll] at h
    split at h
    · cases h
      exact Ext.refl hl
    · split at h
      · rename_i s1 h1
        have e1 := scanOne_ext hl h1
        exact e1.trans (scanAll_ext fuel e1.len h)
      · cases h

theorem infer_ok {bc : List VCell} {entry : Bool} {tm : TypeMap} {h : Nat} (hi : infer bc entry = .ok (tm, h)) :
    ∃ s0 sf, scanAll bc entry (bc.length + 1) s0 = .ok sf ∧ sf.cur = none ∧ sf.pend = [] ∧
      tm = sf.tm.reverse ∧
      ((entry = true ∧ s0 = ⟨0, some [], [], [], 0⟩) ∨
       (entry = false ∧ bc[0]? = some (.opcode .enter) ∧ s0 = ⟨1, some [], [], [some .pre], 0⟩) ∨
       (entry = false ∧ bc[0]? = some (.opcode .varArg) ∧ bc[1]? = some (.opcode .enter) ∧
          s0 = ⟨2, some [], [], [some .pre, some .pre], 0⟩)) := by
  unfold infer at hi
  simp only [] at hi
  split at hi
  · cases hi
  rename_i s0 hs0
  split at hi
  · cases hi
  rename_i sf hsf
  split at hi
  · cases hi
  · cases hi
  rename_i hc hp
  cases hi
  refine ⟨s0, sf, hsf, hc, hp, rfl, ?_⟩
  cases entry
  · simp only [Bool.false_eq_true, ↓reduceIte] at hs0
    split at hs0
    · rename_i h0
      cases hs0
      exact .inr (.inl ⟨rfl, h0, rfl⟩)
    · rename_i h0 h1
      cases hs0
      exact .inr (.inr ⟨rfl, h0, h1, rfl⟩)
    · cases hs0
  · simp only [↓reduceIte] at hs0
    cases hs0
    exact .inl ⟨rfl, rfl⟩

theorem flow_final {s : Scan} (hc : s.cur = none) (hp : s.pend = []) {y : List ACell} {t : Nat}
    (h : Flow s y t) : t < s.o ∧ flowsTo y (stateAt s.tm.reverse t) = true := by
  rcases h with h | ⟨_, h⟩ | h
  · exact h
  · rw [hc] at h; cases h
  · rw [hp] at h; cases h

theorem checkAt_of_rec {bc : List VCell} {entry : Bool} {s : Scan} {o : Nat} {st : AState}
    (hc : s.cur = none) (hp : s.pend = []) (hst : stateAt s.tm.reverse o = some st)
    (h : Rec bc entry s o st) : checkAt bc s.tm.reverse entry o = true := by
  obtain ⟨x, op, e, h1, h2, h3, rfl, h4⟩ := h
  have := h3.checkOp (tm := s.tm.reverse) (h4.mono fun _ _ hf => (flow_final hc hp hf).2)
  simp [checkAt, hst, h1, h2, this]

theorem flowsTo_nil {st : Option AState} (h : flowsTo [] st = true) : st = some (.body []) := by
  cases st with
  | none => simp [flowsTo] at h
  | some a => cases a <;> simp [flowsTo] at h; rw [h]

theorem checkAll_of_ext {bc : List VCell} {entry : Bool} {s0 sf : Scan} (hx : Ext bc entry s0 sf)
    (hc : sf.cur = none) (hp : sf.pend = []) (h0 : stateAt sf.tm.reverse 0 = some (initState entry))
    (hpro : ∀ o, o < s0.o → checkAt bc sf.tm.reverse entry o = true) :
    checkAll bc sf.tm.reverse entry = true := by
  simp only [checkAll, h0, decide_true, Bool.true_and, List.all_eq_true, List.mem_range]
  intro o _
  by_cases h1 : o < s0.o
  · exact hpro o h1
  · cases hst : stateAt sf.tm.reverse o with
    | none => simp [checkAt, hst]
    | some st =>
      by_cases h2 : o < sf.o
      · exact checkAt_of_rec hc hp hst (hx.new o (by omega) h2 st hst)
      · rw [stateAt_ge (by rw [List.length_reverse, hx.len]; omega)] at hst
        cases hst

/-- ENTER at offset `k`, the scan starting behind it: its edge ends up accepted, and the cell behind it is an opcode -/
theorem enter_ok {bc : List VCell} {s0 sf : Scan} {k : Nat} (hx : Ext bc false s0 sf)
    (hc : sf.cur = none) (hp : sf.pend = []) (hk : s0.o = k + 1) (hcur : s0.cur = some []) :
    bpSrcOk false bc[k + 1]? = true ∧ flowsTo [] (stateAt sf.tm.reverse (k + 1)) = true := by
  have hf : Flow s0 [] (k + 1) := .inr (.inl ⟨hk.symm, hcur⟩)
  obtain ⟨hlt, hfl⟩ := flow_final hc hp (hx.flow _ _ hf)
  refine ⟨?_, hfl⟩
  obtain ⟨x, op, e, h1, _⟩ := hx.new (k + 1) (by omega) hlt _ (flowsTo_nil hfl)
  rw [h1]; rfl

/-- the forward pass only ever returns assignments that pass the local check -/
theorem infer_checkAll {bc : List VCell} {entry : Bool} {tm : TypeMap} {h : Nat}
    (hi : infer bc entry = .ok (tm, h)) : checkAll bc tm entry = true := by
  obtain ⟨s0, sf, hsf, hc, hp, rfl, hstart⟩ := infer_ok hi
  rcases hstart with ⟨rfl, rfl⟩ | ⟨rfl, hb0, rfl⟩ | ⟨rfl, hb0, hb1, rfl⟩
  · have hx := scanAll_ext _ rfl hsf
    refine checkAll_of_ext hx hc hp ?_ ?_
    · exact flowsTo_nil (flow_final hc hp (hx.flow [] 0 (.inr (.inl ⟨rfl, rfl⟩)))).2
    · intro o ho; cases ho
  · have hx := scanAll_ext _ rfl hsf
    have h0 : stateAt sf.tm.reverse 0 = some .pre := by rw [hx.old 0 (by decide)]; rfl
    obtain ⟨hb, hfl⟩ := enter_ok (k := 0) hx hc hp rfl rfl
    refine checkAll_of_ext hx hc hp h0 ?_
    intro o ho
    have : o = 0 := by change o < 1 at ho; omega
    subst this
    simp [checkAt, h0, hb0, checkOp, hb, hfl]
  · have hx := scanAll_ext _ rfl hsf
    have h0 : stateAt sf.tm.reverse 0 = some .pre := by rw [hx.old 0 (by decide)]; rfl
    have h1 : stateAt sf.tm.reverse 1 = some .pre := by rw [hx.old 1 (by decide)]; rfl
    obtain ⟨hb, hfl⟩ := enter_ok (k := 1) hx hc hp rfl rfl
    refine checkAll_of_ext hx hc hp h0 ?_
    intro o ho
    have : o = 0 ∨ o = 1 := by change o < 2 at ho; omega
    rcases this with rfl | rfl
    · simp [checkAt, h0, hb0, hb1, checkOp, h1, bpSrcOk]
    · simp [checkAt, h1, hb1, checkOp, hb, hfl]

/-- hence the verifier accepts exactly when the forward pass succeeds -/
theorem verify_of_infer {bc : List VCell} {tm : TypeMap} {h : Nat}
    (hi : infer bc (isEntryCode bc) = .ok (tm, h)) : verify bc = .ok (⟨isEntryCode bc, bc, tm⟩, h) := by
  simp [verify, hi, infer_checkAll hi]

end Marwood.Vm.Verify
