import Marwood.Lemmas.LeadOps
import Marwood.Lemmas.EnvTaintDefs
/-!
# "No value leads to a code object of class `K`" across `run_gc`

The collector moves nothing: a cell of the collected heap is `Undefined` or the cell it was (`liftGc_code`), so every
clause that FORBIDS a pointer survives. The one clause that DEMANDS something — the lambda of a closure cell (`clos`) —
survives because a kept closure cell was reachable, hence so was its lambda (`liftGc_reach`). For `TInv`'s exemption the
code object under `ip.0` is a root.
-/
namespace Marwood.Lemmas.Lead
open Marwood.Lemmas.Good Marwood Marwood.Vm Marwood.Vm.Verify Marwood.Vm.Concrete Marwood.Lemmas.Sim Marwood.Spec
open Marwood.Heap (GcState vrefs vrefsList crefs Roots)
open Marwood.Lemmas.GcSafety

variable {I : Spec}

theorem immXF_mono {x : Bool} {E E' : Nat → Bool} (hE : ∀ q, E' q = true → E q = true) {bc : List VCell}
    (h : immXF x E bc = true) : immXF x E' bc = true := by
  unfold immXF at h ⊢
  rw [List.all_eq_true] at h ⊢
  intro j hj
  have := h j hj
  cases h0 : bc[j]? with
  | none => rfl
  | some c =>
    rw [h0] at this
    cases c <;> try rfl
    rename_i op
    cases op <;> try rfl
    all_goals
      cases h1 : bc[j + 1]? with
      | none => rfl
      | some v =>
        simp only [h1] at this ⊢
        first
          | exact neF_mono hE this
          | (rw [Bool.or_eq_true] at this ⊢
             exact this.imp (neF_mono hE) id)

theorem cellX_shr {h h' : CHeap} (es : EShr I h h') {c : CCell}
    (hpk : ∀ l e, c = CCell.val (.closure l e) → clos I h' l = clos I h l)
    (hc : cellX I h c = true) : cellX I h' c = true := by
  cases c with
  | val v =>
    cases v <;> first | rfl | skip
    · rename_i a d
      have hc' : (ne I h (.ptr a) && ne I h (.ptr d)) = true := hc
      show (ne I h' (.ptr a) && ne I h' (.ptr d)) = true
      rw [Bool.and_eq_true] at hc' ⊢
      exact ⟨es.ne hc'.1, es.ne hc'.2⟩
    · rename_i l e
      show clos I h' l = true
      rw [hpk l e rfl]; exact hc
    · rename_i q
      exact es.ne (v := .ptr q) hc
  | lexEnv ss => exact all_neF_mono es hc
  | vector ss => exact all_neF_mono es hc
  | lambda l => exact immXF_mono es hc
  | cont k => exact all_neF_mono es hc

theorem liftGc_lambda {s : St CHeap} {h' : Heap.Heap} (ci : CInvG IsValue s.heap)
    (co : Collected s.heap ((rootsOf s).refs true) h') {l : Nat} {lam : CLambda}
    (hl : lambdaAt s.heap l = some lam)
    (hr : l < (toHeap s.heap).gc.size → Reachable true (toHeap s.heap) ((rootsOf s).refs true) l) :
    lambdaAt (liftGc s.heap h') l = some lam := by
  have hcl := lambdaAt_iff.mp hl
  have hl1 : l < (toHeap s.heap).gc.size := by
    have := lt_of_get_some hcl
    show l < s.heap.gc.size
    rw [ci.sizes]; exact this
  have := liftGc_reach ci co (hr hl1)
  rw [hcl] at this
  exact lambdaAt_iff.mpr this

theorem liftGc_lambda_old {h : CHeap} {h' : Heap.Heap} {l : Nat} {lam : CLambda}
    (hl : lambdaAt (liftGc h h') l = some lam) : lambdaAt h l = some lam :=
  lambdaAt_iff.mpr (liftGc_code (lambdaAt_iff.mp hl) (by intro hh; cases hh)).1

theorem cgc_eshr (force : Bool) {s : St CHeap} : EShr I s.heap (cgc force s).heap := by
  rcases cgc_cases force s with e | ⟨h', _, e⟩
  · rw [e]; exact .refl _
  · rw [e]
    intro q hq
    have hq' : bad I (liftGc s.heap h') q = true := hq
    unfold bad at hq' ⊢
    cases hl : lambdaAt (liftGc s.heap h') q with
    | none => rw [hl] at hq'; cases hq'
    | some lam => rw [hl] at hq'; rw [liftGc_lambda_old hl]; exact hq'

theorem hp_gc (force : Bool) {s : St CHeap} (ci : CInvG IsValue s.heap) (hp : HP I s.heap) :
    HP I (cgc force s).heap := by
  have es := cgc_eshr (I := I) force (s := s)
  rcases cgc_cases force s with e | ⟨h', hrun, e⟩
  · rw [e]; exact hp
  · rw [e] at es ⊢
    have co := collected_of_run ci hrun
    refine ⟨?_, ?_, ?_⟩
    · intro i c hc
      by_cases hu : c = CCell.val .undefined
      · subst hu; rfl
      · obtain ⟨hold, hnf, hlt⟩ := liftGc_code hc hu
        refine cellX_shr es ?_ (hp.cells i c hold)
        intro l e' hce
        subst hce
        -- the closure cell `i` was reachable, hence so was its lambda `l`, if there is one
        unfold clos
        cases hla : lambdaAt s.heap l with
        | some lam =>
          rw [liftGc_lambda ci co hla fun hl1 => Reach.step (reachable_of_kept co hlt hnf)
            (by rw [toHeap_children, hold]; simp [eraseC, eraseV, crefs]) hl1]
        | none =>
          cases hlb : lambdaAt (liftGc s.heap h') l with
          | none => rfl
          | some lam => rw [liftGc_lambda_old hlb] at hla; cases hla
    · intro n v hv
      exact es.ne (hp.globals n v hv)
    · intro name q hl
      have hl' : h'.symLookup name = some q := hl
      rw [co.gs.sym name] at hl'
      split at hl'
      · cases hl'
      · have := hp.sym name q hl'
        cases he : bad I (liftGc s.heap h') q with
        | false => rfl
        | true => rw [es q he] at this; cases this

theorem cgc_fields (force : Bool) (s : St CHeap) :
    (cgc force s).acc = s.acc ∧ (cgc force s).stack = s.stack ∧ (cgc force s).ipL = s.ipL ∧
      (cgc force s).ipO = s.ipO := by
  rcases cgc_cases force s with e | ⟨h', _, e⟩ <;> (rw [e]; exact ⟨rfl, rfl, rfl, rfl⟩)

theorem cgc_ipL (force : Bool) {s : St CHeap} (ci : CInvG IsValue s.heap) {l : CLambda}
    (hl : lambdaAt s.heap s.ipL = some l) : lambdaAt (cgc force s).heap s.ipL = some l := by
  rcases cgc_cases force s with e | ⟨h', hrun, e⟩
  · rw [e]; exact hl
  · rw [e]
    exact liftGc_lambda ci (collected_of_run ci hrun) hl fun hl1 => Reach.root (by simp [Roots.refs, rootsOf]) hl1

theorem pinv_gc (force : Bool) {s : St CHeap} (ci : CInvG IsValue s.heap) (p : PInv I s) : PInv I (cgc force s) := by
  obtain ⟨e1, e2, _, _⟩ := cgc_fields force s
  have es := cgc_eshr (I := I) force (s := s)
  refine ⟨hp_gc force ci p.hp, by rw [e1]; exact es.ne p.acc, ?_⟩
  intro i v hi hv
  rw [e2] at hi hv
  exact es.ne (p.stk i v hi hv)

theorem tinv_gc (force : Bool) {s : St CHeap} (ci : CInvG IsValue s.heap) (p : TInv I s) : TInv I (cgc force s) := by
  obtain ⟨e1, e2, e3, e4⟩ := cgc_fields force s
  have es := cgc_eshr (I := I) force (s := s)
  refine ⟨hp_gc force ci p.hp, ?_, ?_⟩
  · rcases p.acc with h | ⟨hx, h⟩
    · exact .inl (by rw [e1]; exact es.ne h)
    · obtain ⟨l, j, k1, k2, k3, k4, k5, k6⟩ := Taint.atSiteB_inv h
      refine .inr ⟨hx, Taint.atSiteB_intro (l := l) (j := j) ?_ (by rw [e4]; exact k2) ?_ (by rw [e1]; exact k4)⟩
      · rw [e3]; exact cgc_ipL force ci k1
      · unfold siteB; simp [k3, k5, k6]
  · intro i v hi hv
    rw [e2] at hi hv
    exact es.ne (p.stk i v hi hv)

end Marwood.Lemmas.Lead
