import Marwood.Lemmas.StackWFLaws
/-!
# How the heap of a successor state arises from the heap of a state (generic in the heap)

`HPath ops n h h'`: `h'` arises from `h` by a sequence of heap operations of `run_one` — the `HeapStep`s, a `setAt`
(MOV to a `Ptr` destination: not emitted by the compiler, but part of the model) and the creation of a continuation
object **whose stack copy has at most `n` cells**. `step_hpath`: one successful instruction from `s` is such a path
with `n = s.stack.cells.length`. `n` is one number for the whole path although a push may raise the capacity within
the instruction: `call/cc` copies before it pushes, so the capacity at entry bounds the copy. Used by
`Lemmas/NoPanicDefs.lean` (`HPath.closed`) and `Lemmas/MachineGarbage.lean` (`HPath.rel`, `step_rel`).
-/
namespace Marwood.Vm
open Verify Stack

attribute [local irreducible] Marwood.Vm.Stack.push

variable {H : Type} {ops : HeapOps H}

inductive HPath (ops : HeapOps H) (n : Nat) : H → H → Prop
  | refl (h : H) : HPath ops n h h
  | step {h h1 h2 : H} : HPath ops n h h1 → HeapStep ops h1 h2 → HPath ops n h h2
  | setAt {h h1 : H} (p : Nat) (v : VCell) : HPath ops n h h1 → HPath ops n h (ops.setAt h1 p v)
  | newCont {h h1 : H} (c : Cont) : HPath ops n h h1 → c.stack.cells.length ≤ n →
      HPath ops n h (ops.newCont h1 c).1

theorem HPath.one {n : Nat} {h h' : H} (hs : HeapStep ops h h') : HPath ops n h h' := .step (.refl h) hs

theorem HPath.trans {n : Nat} {a b c : H} (x : HPath ops n a b) (y : HPath ops n b c) : HPath ops n a c := by
  induction y with
  | refl => exact x
  | step _ hs ih => exact .step ih hs
  | setAt p v _ ih => exact .setAt p v ih
  | newCont k _ hl ih => exact .newCont k ih hl

theorem HPath.closed {n : Nat} {P : H → Prop}
    (hstep : ∀ h h', P h → HeapStep ops h h' → P h')
    (hset : ∀ h p v, P h → P (ops.setAt h p v))
    (hcont : ∀ h c, P h → c.stack.cells.length ≤ n → P (ops.newCont h c).1)
    {h h' : H} (hp : HPath ops n h h') (h0 : P h) : P h' := by
  induction hp with
  | refl => exact h0
  | step _ hs ih => exact hstep _ _ ih hs
  | setAt p v _ ih => exact hset _ p v ih
  | newCont k _ hl ih => exact hcont _ k ih hl

theorem OpStores.hpath {n : Nat} {s s' : St H} {v c : VCell} (st : OpStores ops s v c s') :
    HPath ops n s.heap s'.heap := by
  cases st with
  | acc => exact .refl _
  | ptr p => exact .setAt p v (.refl _)
  | bp _ => exact .refl _
  | glob k => exact .one (.globPut _ k v)
  | env _ _ hp => exact .one (.envPut hp)
  | envPtr _ hp => exact .one (.envPut hp)

theorem accTail_hpath {n : Nat} {s s' : St H} {v : VCell} (h : accTail ops s v = .ok s') :
    HPath ops n s.heap s'.heap := by
  rcases (accTail_ok h).2.2.2.2.2 with e | e
  · rw [e]; exact .refl _
  · rw [e]; exact .one (.maybePut _ v)

theorem builtinApply_heap {s s' : St H} {v : VCell} (h : builtinApply ops s = .ok (s', v)) : s'.heap = s.heap := by
  unfold builtinApply at h
  obtain ⟨⟨a, st1⟩, _, h⟩ := bind_inv h
  obtain ⟨argc, _, h⟩ := bind_inv h
  replace h := (ite_err_inv h).2
  obtain ⟨⟨top, st2⟩, _, h⟩ := bind_inv h
  replace h := (ite_err_inv h).2
  obtain ⟨proc, _, h⟩ := bind_inv h
  obtain ⟨st3, _, h⟩ := bind_inv h
  obtain ⟨⟨x, st4⟩, _, h⟩ := bind_inv h
  obtain ⟨⟨k, st5⟩, _, h⟩ := bind_inv h
  obtain ⟨ipO, _, h⟩ := bind_inv h
  cases h
  rfl

theorem runBuiltin_hpath {s s' : St H} {id : Nat} (h : runBuiltin ops id s = .ok s') :
    HPath ops s.stack.cells.length s.heap s'.heap := by
  obtain ⟨s2, v, e, ht⟩ := runBuiltin_iff.mp h
  refine HPath.trans ?_ (accTail_hpath ht)
  cases e with
  | apply _ hb => rw [builtinApply_heap hb]; exact .refl _
  | eval _ _ _ _ hce => exact .one (.compileEval hce)
  | callcc _ h2 hl => exact .newCont _ (.refl _) (callccCopy_ok s.stack h2 hl).2.2.1
  | generic _ _ _ _ hbe => exact .one (.builtinEval hbe)

theorem invokeCont_heap {s s' : St H} {c : Cont} (h : invokeCont s c = .ok s') : s'.heap = s.heap := by
  obtain ⟨_, _, _, _, _, _, _, rfl⟩ := invokeCont_iff.mp h
  rfl

theorem Puts.hpath {n k : Nat} {h h' : H} (p : Puts ops k h h') : HPath ops n h h' := by
  induction p with
  | refl => exact .refl _
  | put v _ ih => exact .step ih (.put _ v)

theorem stepVarArg_hpath {n : Nat} {s s' : St H} (h : stepVarArg ops s = .ok s') : HPath ops n s.heap s'.heap := by
  obtain ⟨_, _, _, _, rfl, _, _, _, _, _, ⟨_, _, hp⟩, _⟩ := stepVarArg_eff h
  exact hp.hpath

theorem step_hpath {s r : St H} {bl : Bool} (hs : step ops s = .ok (r, bl)) :
    HPath ops s.stack.cells.length s.heap r.heap := by
  obtain ⟨op, _, e⟩ := step_eff hs
  cases e with
  | jmp | jntTaken | jntFall | halt | push | pushImm | pushAcc | callProc | ret => exact .refl _
  | mov _ _ _ st => exact st.hpath
  | movImm _ _ _ st => exact st.hpath
  | cons _ _ _ e1 e2 e3 => exact .step (.step (.one (.of_put e1)) (.of_put e2)) (.of_put e3)
  | vpush _ _ hv => exact .one (.vectorPush hv)
  | closure _ hm => exact .one (.makeClosure hm)
  | tcallProc _ ht => rw [tcallTail_heap ht]; exact .refl _
  | callBuiltin _ hb | tcallBuiltin _ hb => have l := runBuiltin_hpath hb; exact l
  | callCont _ hi | tcallCont _ hi => rw [invokeCont_heap hi]; exact .refl _
  | enter _ _ _ _ hh =>
    rcases hh with ⟨_, rfl, _⟩ | ⟨env, _, hm⟩
    · exact .refl _
    · exact .one (.makeActivation hm)
  | varArg he => have l := stepVarArg_hpath (n := s.stack.cells.length) he; exact l

end Marwood.Vm
