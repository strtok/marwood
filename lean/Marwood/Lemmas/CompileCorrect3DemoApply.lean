import Marwood.Lemmas.CompileCorrect3Demo
import Marwood.Lemmas.CompileCorrect3Apply
/-!
# T01.3 stage 3 — every hypothesis of the `apply` re-dispatch discharged for `(apply (lambda (a b) b) 1 '(2))`, toy heap

The code is `<operands, each followed by PUSH>; PUSHIMM argc 3; MOV <global apply> acc; CALL`. The global `apply` is not
a represented value on the toy heap (`named` is `False`), so the main theorem does not cover the whole expression:
the operands are run by `CompileSim.args_res`, `PUSHIMM` and the load of the global are two steps from the raw cells
of the code object (kept by `Ext2.code`; slot 0 still holds the builtin by `KeepB`), the `CALL` is `apply_redispatch3`.
-/
namespace Marwood.Lemmas.CompileCorrect3.Toy
open Marwood Marwood.Vm Marwood.Lemmas.CompileCorrect Marwood.Lemmas.CompileCorrect2
  Marwood.Lemmas.CompileCorrect3
open Marwood.Spec.Eval (Val Cell evalN evalArgs listOfVal properList k_lambda k_quote)

theorem listLaws3 (g : Array VCell) (final : List LambdaM) : ListLaws (tD3g g final) where
  vr_nil_inv := fun _ _ _ x => tVRc3_nil x
  vr_pair_inv := by
    intro h S v l x
    cases x with
    | base hb => cases hb
    | pair hs hd h1 h2 => exact ⟨_, _, _, _, hs, hd, h1, h2⟩

def kb : Text := ['b']
def kapply : Text := ['a', 'p', 'p', 'l', 'y']

def lamA : Datum := Datum.ofList [.sym k_lambda, Datum.ofList [.sym ka, .sym kb], .sym kb]
def quoteA : Datum := Datum.ofList [.sym k_quote, Datum.ofList [.num (.fix 2)]]
def argsA : Datum := Datum.ofList [lamA, .num (.fix 1), quoteA]
def progA : Datum := .pair (.sym kapply) argsA

def lamCtxA : Ctx := ⟨[ka, kb], [(ka, .argument 0), (kb, .argument 1)]⟩

def partsA : LambdaParts :=
  { formals := [ka, kb], isVararg := false, ctx := lamCtxA, prologue := [.op .enter], body := .pair (.sym kb) .nil }

def demoLamA : LambdaM := lamOf partsA [.op .mov, .envSlot kb, .acc]

def argCodeA : List BC :=
  [.op .movImm, .lambda 0, .acc, .op .closureAcc, .op .pushAcc,
   .op .movImm, .datum (.num (.fix 1)), .acc, .op .pushAcc,
   .op .movImm, .datum (.pair (.num (.fix 2)) .nil), .acc, .op .pushAcc]

def tailCodeA : List BC := [.op .pushImm, .argc 3, .op .mov, .global kapply, .acc, .op .callAcc]

theorem demoA_parts : lambdaParts 17 c0 lamA false = .ok partsA := ok_of_decide (by decide +kernel)

theorem demoA_compile :
    compileExpr 20 {} c0 0 false progA = .ok ({ lambdas := [demoLamA] }, argCodeA ++ tailCodeA) :=
  CompileCorrect2.Toy.okIs_eq (by decide +kernel)

def okIsArgs (r : Except CErr (CState × List BC × Nat)) (st : CState) (code : List BC) (k : Nat) : Bool :=
  match r with
  | .ok (s, c, n) => s == st && c == code && n == k
  | .error _ => false

theorem okIsArgs_eq {r : Except CErr (CState × List BC × Nat)} {st : CState} {code : List BC} {k : Nat}
    (h : okIsArgs r st code k = true) : r = .ok (st, code, k) := by
  cases r with
  | error e => cases h
  | ok p =>
    obtain ⟨s, c, n⟩ := p
    simp only [okIsArgs, Bool.and_eq_true, beq_iff_eq] at h
    rw [h.1.1, h.1.2, h.2]

theorem demoA_compileArgs : compileArgs 19 {} c0 0 argsA = .ok ({ lambdas := [demoLamA] }, argCodeA, 3) :=
  okIsArgs_eq (by decide +kernel)

def cellsA0 : List VCell := [.opcode .enter, .opcode .mov, .lexEnvSlot 1, .acc, .opcode .ret]

def argCellsA : List VCell :=
  [.opcode .movImm, .ptr 0, .acc, .opcode .closureAcc, .opcode .pushAcc,
   .opcode .movImm, .opaque "n1", .acc, .opcode .pushAcc,
   .opcode .movImm, .ptr 2, .acc, .opcode .pushAcc]

def tailCellsA : List VCell := [.opcode .pushImm, .argc 3, .opcode .mov, .globSlot 0, .acc, .opcode .callAcc]

/-- value cells `0 … 2`: the constant `(2)`; global slot 0: the builtin `apply` -/
def demoHeapA : THeap :=
  { lams := [⟨cellsA0, 2, [.arg 0, .arg 1]⟩, ⟨argCellsA ++ tailCellsA, 0, []⟩], envs := #[],
    cells := #[.opaque "n2", .nil, .pair 0 1], globals := #[.builtin 0] }

def demoStateA : MSt THeap :=
  { heap := demoHeapA, stack := ⟨List.replicate 16 .undefined, 0⟩, acc := .undefined, ep := 0, ipL := 1, ipO := 0,
    bp := 0 }

def closA : Val := .closure [ka, kb] none [.sym kb] []

def demoStA : SSt := { globals := [(kapply, .prim .apply)], store := #[], out := [] }
/-- after the operands -/
def demoStA1 : SSt := { globals := [(kapply, .prim .apply)], store := #[.pair (.int 2) .nil], out := [] }
def demoStA' : SSt :=
  { globals := [(kapply, .prim .apply)], store := #[.pair (.int 2) .nil, .var (.int 1), .var (.int 2)], out := [] }

theorem demoA_eval : (evalN 8).eval progA [] demoStA = .ok (.int 2) demoStA' := by rfl

theorem demoA_evalArgs :
    evalArgs (evalN 5) [] [lamA, .num (.fix 1), quoteA] demoStA = .ok [closA, .int 1, .pair 0] demoStA1 := by rfl

theorem demoA_apply :
    (evalN (5 + 1)).apply (.prim .apply) (closA :: [Val.int 1] ++ [Val.pair 0]) demoStA1 = .ok (.int 2) demoStA' := by
  rfl

theorem all2_three {α β : Type} {R : α → β → Prop} {vs : List α} {a b c : β} (h : All2 R vs [a, b, c]) :
    ∃ x y z, vs = [x, y, z] ∧ R x a ∧ R y b ∧ R z c := by
  cases h with
  | cons h0 t0 =>
    cases t0 with
    | cons h1 t1 =>
      cases t1 with
      | cons h2 t2 =>
        cases t2
        exact ⟨_, _, _, rfl, h0, h1, h2⟩

abbrev demoDA : RepData2 tops := tD3g demoHeapA.globals [demoLamA]

theorem demoA_fragArgs : F3L (fun _ => False) 19 c0 (bound []) (fun _ => False) argsA := by
  have hb : inEnv lamCtxA kb = true := by decide
  refine F3L.cons _ _ ?_ (F3L.cons _ _ (F3.num _) (F3L.cons _ _ (F3.quote _ _) F3L.nil))
  refine F3.lambda (Datum.ofList [.sym ka, .sym kb]) _ partsA [ka, kb] none [] [] demoA_parts (by rfl) rfl rfl
    (by decide) rfl (by intro q hq; cases hq) ?_
  exact F3B.last _ rfl (F3.sym kb ⟨fun _ => .inl (by decide), fun _ => hb⟩ (by intro h; cases h))

theorem demoA_code0 (S : Array Cell) : CodeAt2 demoDA lamCtxA.envmap demoHeapA S 0 0 demoLamA.bc := by
  refine CompileCorrect2.Toy.CodeAt2.ofAll2 cellsA0 rfl (fun i _ => by rw [Nat.zero_add]; rfl) ?_
  have hslot : Loads2 demoDA lamCtxA.envmap demoHeapA S (.envSlot kb) (.lexEnvSlot 1) := ⟨1, by decide, rfl⟩
  exact .cons rfl (.cons rfl (.cons hslot (.cons rfl (.cons rfl .nil))))

theorem demoA_codeArgs (S : Array Cell) : CodeAt2 demoDA c0.envmap demoHeapA S 1 0 argCodeA := by
  refine CompileCorrect2.Toy.CodeAt2.ofAll2 argCellsA rfl (fun i hi => ?_) ?_
  · rw [Nat.zero_add]
    show (argCellsA ++ tailCellsA)[i]? = _
    exact List.getElem?_append_left hi
  have n1 := loads_num demoDA rfl 1 (.fix 1) rfl "n1" (by decide) demoHeapA S c0.envmap
  have hlam : Loads2 demoDA c0.envmap demoHeapA S (.lambda 0) (.ptr 0) :=
    CompileCorrect2.Toy.loads_lambda (id := 0) rfl rfl rfl
  have hq : Loads2 demoDA c0.envmap demoHeapA S (.datum (.pair (.num (.fix 2)) .nil)) (.ptr 2) :=
    ⟨(by intro o e; cases e), .pair (pa := 0) (pd := 1) rfl (.atom rfl (.base rfl)) (.atom rfl (.base rfl))⟩
  exact .cons rfl (.cons hlam (.cons rfl (.cons rfl (.cons rfl (.cons rfl (.cons n1 (.cons rfl (.cons rfl
    (.cons rfl (.cons hq (.cons rfl (.cons rfl .nil))))))))))))

theorem demoA_inv : Inv3 demoDA W0 demoHeapA demoStA := by
  exact ⟨(by intro x w h; cases h), (by intro x h; cases h), ⟨keepB_self _, fun _ h => absurd h List.not_mem_nil⟩,
    (by intro x h; cases h),
    CompileCorrect2.Toy.forall_getElem?_cons ⟨demoA_code0 _, rfl⟩ CompileCorrect2.Toy.forall_getElem?_nil,
    (by intro e n l l' h; cases h),
    (by intro e n e' n' l h; cases h), (by intro e n l h; cases h), (by intro e n l h; cases h)⟩

/-- the whole compiled expression from the initial state; `sC` is the state at the `CALL` -/
theorem demo_apply_runs :
    ∃ W' sC s', Steps tops demoStateA sC ∧ tops.callee sC.heap sC.acc = .builtin 0 ∧
      CallRun3 demoDA W' sC demoStateA.stack demoStA1 demoStA' (.int 2) s' ∧
      Run3 demoDA W' demoStateA 19 demoStA demoStA' (.int 2) s' ∧ tDeref s'.heap s'.acc = .opaque "n2" := by
  have L := laws3g demoHeapA.globals [demoLamA]
  have hw0 : SWF demoStateA.stack := by show 0 < 16; omega
  have oa := CompileSim.args_res (claws3 L) (both3 L 5).1 [lamA, .num (.fix 1), quoteA] 19 {} c0 0 argsA
    _ argCodeA 3 [] (fun _ => False) (F3L.toFragL demoA_fragArgs) ctxOK_top demoA_compileArgs (List.prefix_refl _) rfl
    demoStA W0 demoStateA (demoA_codeArgs _) rfl demoA_inv (envRep3_top _ _ _ _) hw0
  rw [demoA_evalArgs] at oa
  obtain ⟨W1, s1, vs, hw1, r1, _⟩ := oa
  obtain ⟨v0, v1, v2, rfl, h0, h1, h2⟩ := all2_three r1.vals
  obtain ⟨lam, cenv, hcl, _⟩ := VR3.closure_inv L h0
  obtain ⟨pg, rfl⟩ := tCallee_ptr hcl
  -- the code object and the global slot are still there
  obtain ⟨hl1, hf1, _, _⟩ := r1.ext.code 1 rfl
  have hipL : s1.ipL = 1 := r1.ipL
  have hipO : s1.ipO = 13 := r1.ipO
  have hl : tops.isLambda s1.heap s1.ipL = true := by rw [hipL]; exact hl1
  have hf : ∀ o, tops.fetch s1.heap s1.ipL o = tops.fetch demoHeapA 1 o := by rw [hipL]; exact hf1
  have hk0 : s1.heap.globals[0]? = some (.builtin 0) := r1.inv.extra.1 0 0 rfl
  have hg : tops.globGet s1.heap 0 = .builtin 0 := by
    show s1.heap.globals[0]?.getD .undefined = _
    rw [hk0]; rfl
  have st2 := step_pushImm (s := s1) (v := .argc 3) hl (by rw [hf, hipO]; rfl) (by rw [hf, hipO]; rfl)
    (by intro o e; cases e)
  have st3 := step_mov_glob_acc (s := { s1 with stack := s1.stack.push (.argc 3), ipO := s1.ipO + 2 }) (n := 0) hl
    (by show tops.fetch s1.heap s1.ipL (s1.ipO + 2) = _; rw [hf, hipO]; rfl)
    (by show tops.fetch s1.heap s1.ipL (s1.ipO + 2 + 1) = _; rw [hf, hipO]; rfl)
    (by show tops.globGet s1.heap 0 ≠ _; rw [hg]; intro e; cases e)
    (by show tops.fetch s1.heap s1.ipL (s1.ipO + 2 + 2) = _; rw [hf, hipO]; rfl)
  let sC : MSt THeap :=
    { s1 with stack := s1.stack.push (.argc 3), acc := tops.globGet s1.heap 0, ipO := s1.ipO + 2 + 3 }
  have hsteps : Steps tops demoStateA sC := r1.steps.trans (.cons st2 (Steps.one st3))
  have hcal : tops.callee sC.heap sC.acc = .builtin 0 := by
    show tCallee s1.heap (tops.globGet s1.heap 0) = _
    rw [hg]; rfl
  have hcC : CodeAt2 demoDA c0.envmap sC.heap demoStA1.store sC.ipL sC.ipO [BC.op .callAcc] := by
    refine CompileCorrect2.Toy.CodeAt2.ofAll2 [.opcode .callAcc] hl (fun i hi => ?_) (.cons rfl .nil)
    have : i = 0 := by simpa using hi
    subst this
    show tops.fetch s1.heap s1.ipL (s1.ipO + 2 + 3 + 0) = _
    rw [hf, hipO]; rfl
  have hst : LiveEq ((pushAll demoStateA.stack (.ptr pg :: [v1] ++ [v2])).push (.argc ([v1].length + 2))) sC.stack :=
    r1.stack.push (pushAll_swf _ _ hw0) r1.swf (.argc 3)
  have hlist : listOfVal (demoStA1.store.size + 1) demoStA1.store (.pair 0) = some [.int 2] := rfl
  obtain ⟨W', s', hw', o⟩ := apply_redispatch3 L (listLaws3 _ _) (n := 5) (tail := false) (em := c0.envmap) (W := W1)
    (s := sC) (fr := ⟨0, 0, 0, 0, 0, demoStateA.stack⟩) (stk0 := demoStateA.stack) (σ := demoStA1) (σ' := demoStA')
    (g := closA) (lastv := .pair 0) (w := .int 2) (pg := pg) (vl := v2) (mid := [v1]) (mws := [.int 1]) (id := 0)
    hcC hcal rfl h0 (.cons h1 .nil) h2 r1.inv hst hw0 (push_swf _ _) (by intro e; cases e) demoA_apply
    (by intro xs hx; rw [hlist] at hx; injection hx with hx; subst hx; show 2 ≤ 100000; omega)
  rcases o with c | ⟨e, _⟩
  · refine ⟨W', sC, s', hsteps, hcal, c, ?_, tVR3_int c.acc⟩
    exact ⟨hsteps.trans c.steps, c.ipL.trans hipL, by rw [c.ipO]; show s1.ipO + 2 + 3 + 1 = _; rw [hipO]; rfl,
      c.bp.trans r1.bp, c.ep.trans r1.ep, c.stack, c.swf, c.acc, c.inv, r1.ext.trans c.ext⟩
  · cases e

end Marwood.Lemmas.CompileCorrect3.Toy
