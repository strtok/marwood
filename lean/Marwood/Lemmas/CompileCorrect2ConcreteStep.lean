import Marwood.Lemmas.CompileCorrect2ConcreteOps
import Marwood.Lemmas.CompileCorrect2ToyEnv
import Marwood.Lemmas.SimSym
/-!
# T01.3 on the concrete heap: CLOSURE, ENTER, assignment and the global store, for both stages

Stages 2 and 3 read the same heap through different representation data (`cD`, `cD3`), so neither set of laws follows
from the other; what an operation of `Vm/ConcreteHeap.lean` does is a fact about `CHeap` alone and is proved here.
`CStep h h'` is what the allocating operations and the global write share; `CStep.ext2` (here) and `CStep.ext3`
(`CompileCorrect3ConcreteRep.lean`) turn it into `Ext2`/`Ext3` and the stage's invariant. The namespace is
`CompileCorrect3.Conc` because the statements carry stage 3's part of the invariant (`X3`, `cEnvOK`); the file stands
with `CompileCorrect2Concrete*` because stage 2's concrete laws (`CompileCorrect2ConcreteAll.lean`) are proved from it.
-/
namespace Marwood.Lemmas.CompileCorrect3.Conc
open Marwood Marwood.Vm Marwood.Vm.Concrete Marwood.Lemmas.CompileCorrect Marwood.Lemmas.CompileCorrect2
  Marwood.Lemmas.CompileCorrect2.Conc
open Marwood.Spec.Eval (Val Cell)

def ClosEnv (h : CHeap) : Prop :=
  ∀ (p lam e : Nat), h.cells[p]? = some (CCell.val (.closure lam e)) → ∃ ss, envAt h e = some ss

def cEnvOK (h : CHeap) (e : Nat) : Prop :=
  (∃ ss, envAt h e = some ss) ∧ ∃ (p lam : Nat), h.cells[p]? = some (CCell.val (.closure lam e))

def NewClos (h h' : CHeap) : Prop :=
  ∀ (p lam e : Nat), h'.cells[p]? = some (CCell.val (.closure lam e)) →
    envAt h e = none ∨ ∃ (p' lam' : Nat), h.cells[p']? = some (CCell.val (.closure lam' e))

theorem NewClos.refl (h : CHeap) : NewClos h h := fun p lam _ x => .inr ⟨p, lam, x⟩

theorem keeps_cEnvOK {h h' : CHeap} (k : Keeps h h') {e : Nat} (x : cEnvOK h e) : cEnvOK h' e := by
  obtain ⟨hs, p, lam, hc⟩ := x
  refine ⟨k.env hs, p, lam, ?_⟩
  rcases k p _ hc (by intro x; cases x) with h1 | ⟨s1, s2, e1, _⟩
  · exact h1
  · cases e1

theorem hinv_of_eq {h h' : CHeap} (inv : Sim.HInv h) (hc : h'.cells = h.cells) (hg : h'.gc = h.gc)
    (hf : h'.free = h.free) (hk : h'.chunk = h.chunk) : Sim.HInv h' :=
  ⟨by rw [hg, hc]; exact inv.sizes, by rw [hk, hc]; exact inv.shape, by rw [hg, hf]; exact inv.free_iff,
    by rw [hf]; exact inv.nodup, by rw [hg]; exact inv.no_used⟩

theorem cinv_of_eq {h h' : CHeap} (inv : CInv h) (hc : h'.cells = h.cells) (hg : h'.gc = h.gc)
    (hf : h'.free = h.free) (hk : h'.chunk = h.chunk) : CInv h' :=
  (Grows.of_eq (P := NoCont) inv hc hg hf hk).inv inv (fun _ x => x.elim)

theorem freeInv_of_eq {h h' : CHeap} (fi : FreeInv h) (hc : h'.cells = h.cells) (hf : h'.free = h.free) :
    FreeInv h' :=
  ⟨by rw [hc, hf]; exact fi.undef, by rw [hf]; exact fi.nodup⟩

theorem closEnv_of_eq {h h' : CHeap} (ce : ClosEnv h) (hc : h'.cells = h.cells) : ClosEnv h' := by
  intro p lam e x
  rw [hc] at x
  obtain ⟨ss, hs⟩ := ce p lam e x
  exact ⟨ss, by unfold Concrete.envAt at hs ⊢; rw [hc]; exact hs⟩

theorem symOk_of_eq {h h' : CHeap} (so : Sim.SymOk h) (hc : h'.cells = h.cells) (hf : h'.free = h.free)
    (hs : h'.symtab = h.symtab) : Sim.SymOk h' := by
  intro name p
  rw [Sim.symLookup_congr hs name, hc, hf]
  exact so name p

theorem symOk_cwrite {h : CHeap} (so : Sim.SymOk h) {e : Nat} {c0 c : CCell} (h0 : h.cells[e]? = some c0)
    (hn0 : ∀ name, ¬ Sim.isSymCell c0 name) (hn : ∀ name, ¬ Sim.isSymCell c name) : Sim.SymOk (cwrite h e c) := by
  intro name p
  have hl : symLookup (cwrite h e c) name = symLookup h name := Sim.symLookup_congr rfl name
  rw [hl, so name p, cwrite_cells]
  by_cases hpe : e = p
  · subst hpe
    rw [if_pos ⟨rfl, lt_of_get_some h0⟩, h0]
    exact ⟨fun ⟨c1, e1, hs, _⟩ => absurd (Option.some.inj e1 ▸ hs) (hn0 name),
      fun ⟨c1, e1, hs, _⟩ => absurd (Option.some.inj e1 ▸ hs) (hn name)⟩
  · rw [if_neg fun x => hpe x.1]
    exact Iff.rfl

theorem not_sym_lexEnv (ss : List VCell) (name : Text) : ¬ Sim.isSymCell (CCell.lexEnv ss) name := by
  rintro ⟨tag, x, _⟩; cases x

theorem not_sym_val {v : VCell} (hv : symOf v = none) (name : Text) : ¬ Sim.isSymCell (CCell.val v) name := by
  rintro ⟨tag, x, ht⟩
  cases x
  simp [symOf, ht] at hv

theorem symOk_cput {h h' : CHeap} {p : Nat} {c : CCell} (so : Sim.SymOk h) (inv : Sim.HInv h)
    (hr : cput h c = (h', p)) (hc : ∀ name, ¬ Sim.isSymCell c name) : Sim.SymOk h' := by
  have := Sim.cput_symOk_plain so inv c hc
  rw [hr] at this; exact this

theorem cput_gen {h : CHeap} (inv : CInv h) (fi : FreeInv h) {c : CCell} (h1 : ∀ lam, c ≠ CCell.lambda lam)
    (h2 : ∀ k, c ≠ CCell.cont k) (h3 : ∀ lam e, c = CCell.val (.closure lam e) → ∃ ss, envAt h e = some ss) :
    ∃ h' p, cput h c = (h', p) ∧ Alloc h h' p c ∧ CInv h' ∧ FreeInv h' ∧ (ClosEnv h → ClosEnv h') ∧
      (Sim.HInv h → Sim.HInv h') := by
  obtain ⟨h', p, hr⟩ : ∃ h' p, cput h c = (h', p) := ⟨_, _, rfl⟩
  have a := cput_alloc inv fi c
  have g := cput_grows (P := NoCont) inv h1 (fun k x => (h2 k x).elim)
  have hi' : Sim.HInv h → Sim.HInv (cput h c).1 := fun hi => Sim.cwrite_inv _ (Sim.calloc_spec h hi).inv _ _
  rw [hr] at a g hi'
  refine ⟨h', p, hr, a.1, g.inv inv (fun c hc => hc.elim), a.2, fun ce q lam e x => ?_, hi'⟩
  rcases a.1.onlyNew x (by intro y; cases y) with rfl | x0
  · have hc := a.1.cell
    rw [x] at hc
    exact (Alloc.keeps a.1).env (h3 lam e (Option.some.inj hc).symm)
  · exact (Alloc.keeps a.1).env (ce q lam e x0)

theorem alloc_envGet {h h' : CHeap} {p : Nat} {c : CCell} (a : Alloc h h' p c) {e n : Nat} {v : VCell}
    (x : Concrete.envGet h e n = some v) : Concrete.envGet h' e n = some v := by
  obtain ⟨ss, hs, hk⟩ := envGet_some x
  exact (envGet_at (envAt_iff.mpr (a.kept (envAt_cell hs) (by intro y; cases y))) n).trans hk

theorem newClos_alloc {h h' : CHeap} {p : Nat} {c : CCell} (a : Alloc h h' p c)
    (hc : ∀ lam e, c = CCell.val (.closure lam e) →
      envAt h e = none ∨ ∃ (p' lam' : Nat), h.cells[p']? = some (CCell.val (.closure lam' e))) : NewClos h h' := by
  intro q lam e x
  rcases a.onlyNew x (by intro y; cases y) with rfl | x0
  · have h0 := a.cell
    rw [x] at h0
    exact hc lam e (Option.some.inj h0).symm
  · exact .inr ⟨q, lam, x0⟩

theorem alloc_not_envOK {h h' : CHeap} {p : Nat} {c : CCell} (a : Alloc h h' p c) (ce : ClosEnv h)
    (hc : ∀ lam, c ≠ CCell.val (.closure lam p)) : ¬ cEnvOK h' p := by
  rintro ⟨_, q, lam, x⟩
  rcases a.onlyNew x (by intro y; cases y) with rfl | x0
  · have h0 := a.cell
    rw [x] at h0
    exact hc lam (Option.some.inj h0).symm
  · obtain ⟨ss, hs⟩ := ce q lam p x0
    rw [envAt_fresh a] at hs; cases hs

/-- what the invariant of stage 3 has and that of stage 2 has not -/
def X3 (h : CHeap) : Prop := ClosEnv h ∧ Sim.HInv h ∧ Sim.SymOk h

structure CStep (h h' : CHeap) : Prop where
  keeps : Keeps h h'
  frame : ∀ e n v, Concrete.envGet h e n = some v → Concrete.envGet h' e n = some v
  newClos : NewClos h h'
  cinv : CInv h'
  fi : FreeInv h'
  gsize : h'.globals.size = h.globals.size
  x3 : X3 h → X3 h'

theorem cstep_of_alloc {h h' : CHeap} {p : Nat} {c : CCell} (a : Alloc h h' p c) (inv' : CInv h') (fi' : FreeInv h')
    (hc : ∀ lam e, c = CCell.val (.closure lam e) →
      envAt h e = none ∨ ∃ (p' lam' : Nat), h.cells[p']? = some (CCell.val (.closure lam' e)))
    (x : X3 h → X3 h') : CStep h h' :=
  ⟨Alloc.keeps a, fun _ _ _ y => alloc_envGet a y, newClos_alloc a hc, inv', fi', by rw [a.globals], x⟩

variable {ext : ExtOps} {E : AtomEnc} {named : Text → Prop} {slot : Text → Nat} {LM : Nat → Nat}
  {final : List LambdaM} {setG : Text → Prop}

theorem CStep.ext2 {h h' : CHeap} (c : CStep h h') (S : Array Cell)
    (hsrx : (cD ext E named slot LM final setG).SRx h S) :
    Ext2 (cD ext E named slot LM final setG) h S h' S ∧ (cD ext E named slot LM final setG).SRx h' S :=
  ⟨ext2_of_keeps S c.keeps (fun e n _ _ x => c.frame e n _ x) (fun e n v x hv => ⟨v, c.frame e n v x, hv⟩),
    c.cinv, c.fi, by rw [c.gsize]; exact hsrx.2.2⟩

/-- CLOSURE: two allocations, the environment and then the closure cell -/
theorem closure_gen (h : CHeap) (lam ep bp : Nat) (st : Stack) (srcs : List RSrc) (inv : CInv h) (fi : FreeInv h)
    (hsrc : (lambdaAt h lam).map (fun lam => lam.envmap.map fun p => conv p.2) = some srcs)
    (h1 : ∀ (j : Nat) k, srcs[j]? = some (RSrc.iofEnv k) → ∃ g, (concreteOps ext).envGet h ep k = some g)
    (h2 : ∀ (j : Nat) n, srcs[j]? ≠ some (RSrc.iofArg n)) :
    ∃ h' p cenv, (concreteOps ext).makeClosure h lam ep bp st = .ok (h', .ptr p) ∧
      (concreteOps ext).callee h' (.ptr p) = .closure lam cenv ∧ (∀ k, (concreteOps ext).envGet h cenv k = none) ∧
      (∀ (j : Nat) src, srcs[j]? = some src →
        (concreteOps ext).envGet h' cenv j = some (cloSlot (concreteOps ext) h ep src)) ∧
      (∀ e k, e ≠ cenv → (concreteOps ext).envGet h' e k = (concreteOps ext).envGet h e k) ∧
      (∀ m, (concreteOps ext).globGet h' m = (concreteOps ext).globGet h m) ∧ CStep h h' ∧ cEnvOK h' cenv := by
  obtain ⟨l, hl, rfl⟩ := Option.map_eq_some_iff.mp hsrc
  have hslots := closureSlots_ok (ext := ext) h ep bp st l.envmap h1 h2
  obtain ⟨slots, hdef⟩ : ∃ slots, slots = l.envmap.map fun p => cloSlot (concreteOps ext) h ep (conv p.2) := ⟨_, rfl⟩
  rw [← hdef] at hslots
  obtain ⟨h1', p1, hr1, a1, inv1, fi1, ce1, hi1⟩ := cput_gen inv fi (c := .lexEnv slots) (by intro lam x; cases x)
    (by intro k x; cases x) (by intro lam e x; cases x)
  have henvp1 : envAt h1' p1 = some slots := envAt_iff.mpr a1.cell
  obtain ⟨h2', p2, hr2, a2, inv2, fi2, ce2, hi2⟩ := cput_gen inv1 fi1 (c := .val (.closure lam p1))
    (by intro lam x; cases x) (by intro k x; cases x) (by intro lam' e x; cases x; exact ⟨slots, henvp1⟩)
  have henv2 : ∀ e, envAt h2' e = envAt h1' e := fun e => envAt_alloc a2 e (.inr (by intro ss x; cases x))
  have hcenv : envAt h2' p1 = some slots := (henv2 p1).trans henvp1
  have hnc : NewClos h h2' := by
    intro q lam' e x
    rcases a2.onlyNew x (by intro y; cases y) with rfl | x0
    · have h0 := a2.cell
      rw [x] at h0
      cases h0
      exact .inl (envAt_fresh a1)
    · exact newClos_alloc a1 (by intro lam e y; cases y) q lam' e x0
  refine ⟨h2', p2, p1, ?_, callee_of_cell a2.cell, envGet_fresh a1, fun j src hj => ?_,
    fun e k he => envGet_of_envAt ((henv2 e).trans (envAt_alloc a1 e (.inl he))) k,
    fun m => (alloc_globGet a2 m).trans (alloc_globGet a1 m),
    ⟨(Alloc.keeps a1).trans (Alloc.keeps a2), fun e n v x => alloc_envGet a2 (alloc_envGet a1 x), hnc, inv2, fi2,
      by rw [a2.globals, a1.globals], fun ⟨ce, hi, so⟩ => ⟨ce2 (ce1 ce), hi2 (hi1 hi),
        symOk_cput (symOk_cput so hi hr1 (not_sym_lexEnv slots)) (hi1 hi) hr2 (not_sym_val rfl)⟩⟩,
    ⟨slots, hcenv⟩, p2, lam, a2.cell⟩
  · show Concrete.makeClosure h lam ep bp st = _
    unfold Concrete.makeClosure
    rw [hl]
    simp only [hslots, outcome_bind_ok, hr1, hr2]
  · rw [List.getElem?_map] at hj
    obtain ⟨q, hq, rfl⟩ := Option.map_eq_some_iff.mp hj
    refine (envGet_at hcenv j).trans ?_
    rw [hdef, List.getElem?_map, hq]; rfl

theorem conv_internal {src : Concrete.Source} (x : conv src = RSrc.internal) :
    src = Concrete.Source.global ∨ src = Concrete.Source.internal := by
  cases src <;> first | exact .inl rfl | exact .inr rfl | cases x

/-- `build_lexical_environment` clones the closure environment's slot for an `Internal` (or `Global`) source -/
theorem activationSlots_internal (env bp argc : Nat) (st : Stack) :
    ∀ (em : List (VCell × Concrete.Source)) (slot : Nat) (olds slots : List VCell),
    activationSlots env bp argc st slot olds em = .ok slots →
    ∀ (j : Nat), (em.map fun p => conv p.2)[j]? = some RSrc.internal → slots[j]? = olds[j]? := by
  intro em
  induction em with
  | nil => intro slot olds slots _ j hj; cases hj
  | cons q em ih =>
    intro slot olds slots hs j hj
    obtain ⟨x, src⟩ := q
    cases olds with
    | nil => cases hs
    | cons old olds =>
      rw [activationSlots] at hs
      obtain ⟨v0, hv0, hs⟩ := bind_inv hs
      obtain ⟨vs, hvs, hs⟩ := bind_inv hs
      cases hs
      cases j with
      | zero =>
        rcases conv_internal (Option.some.inj hj) with rfl | rfl
        · cases hv0; rfl
        · cases hv0; rfl
      | succ j => exact ih (slot + 1) olds vs hvs j hj

/-- ENTER: one allocation -/
theorem activation_gen (h : CHeap) (lam cenv bp : Nat) (st : Stack) (srcs : List RSrc) (nargs : Nat)
    (inv : CInv h) (fi : FreeInv h)
    (hsrc : (lambdaAt h lam).map (fun lam => lam.envmap.map fun p => conv p.2) = some srcs)
    (hinfo : (lambdaAt h lam).map (fun lam => (⟨lam.args.length⟩ : LambdaInfo)) = some ⟨nargs⟩)
    (hcenv : ∃ ss, envAt h cenv = some ss)
    (hslots : ∀ (j : Nat) src, srcs[j]? = some src → ∃ g, (concreteOps ext).envGet h cenv j = some g)
    (hargs : ∀ (j : Nat) i, srcs[j]? = some (RSrc.arg i) →
      i < nargs ∧ nargs - i ≤ bp ∧ bp - (nargs - i) + 1 < st.cells.length) :
    ∃ h' a, (concreteOps ext).makeActivation h lam cenv bp st = .ok (h', a) ∧
      (∀ k, (concreteOps ext).envGet h a k = none) ∧
      (∀ (j : Nat) i v, srcs[j]? = some (RSrc.arg i) → st.cells[bp - (nargs - i) + 1]? = some v →
        (concreteOps ext).envGet h' a j = some v) ∧
      (∀ (j : Nat) k, srcs[j]? = some (RSrc.iofEnv k) →
        (concreteOps ext).envGet h' a j = some (actCaptured cenv j ((concreteOps ext).envGet h cenv j))) ∧
      (∀ e k, e ≠ a → (concreteOps ext).envGet h' e k = (concreteOps ext).envGet h e k) ∧
      (∀ m, (concreteOps ext).globGet h' m = (concreteOps ext).globGet h m) ∧ CStep h h' ∧
      (∀ (j : Nat), srcs[j]? = some RSrc.internal →
        (concreteOps ext).envGet h' a j = (concreteOps ext).envGet h cenv j) ∧
      (ClosEnv h → ¬ cEnvOK h' a) := by
  obtain ⟨olds, holds⟩ := hcenv
  obtain ⟨l, hl, rfl⟩ := Option.map_eq_some_iff.mp hsrc
  rw [hl] at hinfo
  cases hinfo
  have hlen : l.envmap.length ≤ olds.length := Nat.le_of_not_lt fun hlt => by
    obtain ⟨g, hg⟩ := hslots olds.length _ (by rw [List.getElem?_map, List.getElem?_eq_getElem hlt]; rfl)
    have hk := (envGet_at holds _).symm.trans hg
    rw [List.getElem?_eq_none (Nat.le_refl _)] at hk
    cases hk
  obtain ⟨slots, hsl2, r1, r2⟩ := activationSlots_ok cenv bp l.args.length st l.envmap 0 olds hlen hargs
  have r3 := activationSlots_internal cenv bp l.args.length st l.envmap 0 olds slots hsl2
  obtain ⟨h1', p1, hr1, a1, inv1, fi1, ce1, hi1⟩ := cput_gen inv fi (c := .lexEnv slots) (by intro lam x; cases x)
    (by intro k x; cases x) (by intro lam e x; cases x)
  have hnew : envAt h1' p1 = some slots := envAt_iff.mpr a1.cell
  refine ⟨h1', p1, ?_, envGet_fresh a1, fun j i v hj hv => (envGet_at hnew j).trans (r1 j i v hj hv), fun j k hj => ?_,
    fun e k he => envGet_of_envAt (envAt_alloc a1 e (.inl he)) k, alloc_globGet a1,
    cstep_of_alloc a1 inv1 fi1 (by intro lam e y; cases y) (fun ⟨ce, hi, so⟩ => ⟨ce1 ce, hi1 hi,
      symOk_cput so hi hr1 (not_sym_lexEnv slots)⟩),
    fun j hj => (envGet_at hnew j).trans ((r3 j hj).trans (envGet_at holds j).symm),
    fun ce => alloc_not_envOK a1 ce (by intro lam x; cases x)⟩
  · show Concrete.makeActivation h lam cenv bp st = _
    unfold Concrete.makeActivation
    rw [hl, holds]
    simp only [hsl2, outcome_bind_ok, hr1]
  · show Concrete.envGet h1' p1 j = some (actCaptured cenv j (Concrete.envGet h cenv j))
    rw [envGet_at hnew, envGet_at holds, r2 j k hj, Nat.zero_add]

theorem envPut_gen (h : CHeap) (e k : Nat) (old u : VCell) (inv : CInv h) (fi : FreeInv h)
    (hget : (concreteOps ext).envGet h e k = some old) :
    ∃ h', (concreteOps ext).envPut h e k u = some h' ∧
      (∀ e' k', (concreteOps ext).envGet h' e' k' = if e' = e ∧ k' = k then some u else (concreteOps ext).envGet h e' k') ∧
      (∀ m, (concreteOps ext).globGet h' m = (concreteOps ext).globGet h m) ∧
      Keeps h h' ∧ NewClos h h' ∧ CInv h' ∧ FreeInv h' ∧ h'.globals = h.globals ∧ (X3 h → X3 h') := by
  obtain ⟨ss, he, hk⟩ := envGet_some hget
  have hlt : k < ss.length := (List.getElem?_eq_some_iff.mp hk).1
  have hcell := envAt_cell he
  have hput : Concrete.envPut h e k u = some (cwrite h e (.lexEnv (ss.set k u))) := by
    unfold Concrete.envPut; rw [he]; exact if_pos hlt
  have hcells : ∀ i, (cwrite h e (.lexEnv (ss.set k u))).cells[i]? =
      if i = e then some (CCell.lexEnv (ss.set k u)) else h.cells[i]? := by
    intro i
    rw [cwrite_cells]
    by_cases hi : i = e
    · rw [if_pos ⟨hi.symm, lt_of_get_some hcell⟩, if_pos hi]
    · rw [if_neg fun x => hi x.1.symm, if_neg hi]
  have henvAt : ∀ e', envAt (cwrite h e (.lexEnv (ss.set k u))) e' =
      if e' = e then some (ss.set k u) else envAt h e' := by
    intro e'
    unfold Concrete.envAt
    rw [hcells]
    by_cases hi : e' = e
    · rw [if_pos hi, if_pos hi]
    · rw [if_neg hi, if_neg hi]
  have hbind : ∀ (g : CHeap) e' k', Concrete.envGet g e' k' = (envAt g e').bind (·[k']?) := by
    intro g e' k'
    unfold Concrete.envGet
    cases envAt g e' <;> rfl
  have hgetAll : ∀ e' k', Concrete.envGet (cwrite h e (.lexEnv (ss.set k u))) e' k' =
      if e' = e ∧ k' = k then some u else Concrete.envGet h e' k' := by
    intro e' k'
    rw [hbind, hbind]
    exact bind_getElem?_set he hlt henvAt e' k'
  have hkeeps : Keeps h (cwrite h e (.lexEnv (ss.set k u))) := by
    intro i c hc _
    rw [hcells]
    by_cases hi : i = e
    · subst hi
      rw [hcell] at hc; cases hc
      exact .inr ⟨ss, ss.set k u, rfl, if_pos rfl⟩
    · exact .inl ((if_neg hi).trans hc)
  have hclos : ∀ (p lam e0 : Nat), (cwrite h e (.lexEnv (ss.set k u))).cells[p]? = some (CCell.val (.closure lam e0)) →
      h.cells[p]? = some (CCell.val (.closure lam e0)) := by
    intro p lam e0 x
    rw [hcells] at x
    by_cases hi : p = e
    · rw [if_pos hi] at x; cases x
    · rwa [if_neg hi] at x
  refine ⟨_, hput, hgetAll, fun _ => rfl, hkeeps, fun p lam e0 x => .inr ⟨p, lam, hclos p lam e0 x⟩,
    (envPut_grows inv hput).inv inv (fun c hc => hc.elim), ⟨fun p hp => ?_, fi.nodup⟩, rfl, fun ⟨ce, hi, so⟩ => ⟨?_,
    Sim.cwrite_inv _ hi _ _, symOk_cwrite so hcell (not_sym_lexEnv ss) (not_sym_lexEnv _)⟩⟩
  · have hpu := fi.undef p hp
    have hne : p ≠ e := by
      intro x; subst x
      rw [hcell] at hpu; cases hpu
    rw [hcells, if_neg hne]; exact hpu
  · intro p lam e0 x
    obtain ⟨s0, hs0⟩ := ce p lam e0 (hclos p lam e0 x)
    rw [henvAt]
    by_cases hi : e0 = e
    · exact ⟨_, if_pos hi⟩
    · exact ⟨s0, (if_neg hi).trans hs0⟩

theorem globPut_gen (h : CHeap) (n : Nat) (u : VCell) (inv : CInv h) (fi : FreeInv h) :
    CStep h ((concreteOps ext).globPut h n u) := by
  -- on the record update itself: each `rfl` below would unfold `concreteOps` again
  show CStep h { h with globals := h.globals.setIfInBounds n u }
  exact ⟨fun _ _ hc _ => .inl hc, fun _ _ _ x => x, NewClos.refl h, cinv_of_eq inv rfl rfl rfl rfl,
    freeInv_of_eq fi rfl rfl, Array.size_setIfInBounds,
    fun ⟨ce, hi, so⟩ => ⟨closEnv_of_eq ce rfl, hinv_of_eq hi rfl rfl rfl rfl, symOk_of_eq so rfl rfl rfl⟩⟩

end Marwood.Lemmas.CompileCorrect3.Conc
