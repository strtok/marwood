import Marwood.Lemmas.PolicyPlain
import Marwood.Lemmas.HeapWF
/-!
# T12.1 read on the heap *after* the collection

`GcSpec` cell by cell: after a collection a cell is allocated iff it was reachable (`gcSpec_state`). On a well-formed
heap the same cells are reachable before and after `run_gc` (their contents stay, growth adds only free cells nobody
points at) and the heap stays plain, so "allocated ⇔ reachable" can be stated about the post-collection heap alone.
-/
namespace Marwood.Lemmas.PolicyGc
open Marwood Marwood.Heap Marwood.Spec Marwood.Lemmas.GcSafety Marwood.Lemmas.HeapOps

theorem getElem?_lt {α} {a : Array α} {i : Nat} {v : α} (h : a[i]? = some v) : i < a.size :=
  lt_of_get_some h

theorem gcSpec_state (fixed : Bool) (h : Heap) (roots : List Nat) (h' : Heap)
    (gs : GcSpec fixed h roots h') (x : Nat) :
    (h'.gc[x]? = some GcState.allocated ↔ Reachable fixed h roots x) ∧
    h'.gc[x]? ≠ some GcState.used := by
  by_cases hr : Reachable fixed h roots x
  · have := gs.gc_reach x hr
    exact ⟨⟨fun _ => hr, fun _ => this⟩, by rw [this]; simp⟩
  · by_cases hx : x < h'.cells.size
    · have := gs.gc_unreach x hx hr
      exact ⟨⟨fun h1 => (by rw [this] at h1; cases h1), fun h1 => absurd h1 hr⟩, by rw [this]; simp⟩
    · have : h'.gc[x]? = none := Array.getElem?_eq_none (by rw [gs.sizes]; omega)
      exact ⟨⟨fun h1 => (by rw [this] at h1; cases h1), fun h1 => absurd h1 hr⟩, by rw [this]; simp⟩

theorem gcSpec_nonFree_iff (fixed : Bool) (h : Heap) (roots : List Nat) (h' : Heap)
    (gs : GcSpec fixed h roots h') (x : Nat) : h'.NonFree x ↔ Reachable fixed h roots x := by
  have := gcSpec_state fixed h roots h' gs x
  unfold Heap.NonFree
  constructor
  · rintro (h1 | h1)
    · exact this.1.mp h1
    · exact absurd h1 this.2
  · intro hr; exact Or.inl (this.1.mpr hr)

end Marwood.Lemmas.PolicyGc

namespace Marwood.Lemmas.PolicyAfter
open Marwood Marwood.Heap Marwood.Spec Marwood.Lemmas.GcSafety Marwood.Lemmas.HeapOps
open Marwood.Lemmas.HeapWF Marwood.Lemmas.PolicyGc Marwood.Lemmas.PolicyPlain

theorem reachable_after_iff (fixed : Bool) (h : Heap) (roots : List Nat) (h' : Heap)
    (wf : WFHeap fixed h) (hr : RootsOk h roots) (hb : h'.cells.size ≤ 2 ^ 63)
    (gs : GcSpec fixed h roots h') (x : Nat) :
    Reachable fixed h' roots x ↔ Reachable fixed h roots x := by
  have hszle : h.gc.size ≤ h'.gc.size := by rw [gs.sizes, wf.sizes]; exact gs.size_le
  have hsent : ∀ y, y < h'.gc.size → ¬ Sentinel y := by
    intro y hy; unfold Sentinel; rw [gs.sizes] at hy; omega
  constructor
  · intro hx
    induction hx with
    | root hm hl =>
      rcases hr _ hm with h1 | h1
      · exact Reach.root hm (nonFree_lt h1)
      · exact absurd h1 (hsent _ hl)
    | step _ hc hl ih =>
      rename_i a b _
      have hcell := gs.cells_reach a ih
      rw [children_congr fixed h h' a hcell] at hc
      have hnf := reachable_nonFree fixed h roots wf.toWFCore hr a ih
      rcases wf.closed a hnf b hc with h1 | h1
      · exact Reach.step ih hc (nonFree_lt h1)
      · exact absurd h1 (hsent _ hl)
  · intro hx
    induction hx with
    | root hm hl => exact Reach.root hm (by omega)
    | step hxa hc hl ih =>
      rename_i a b
      have hcell := gs.cells_reach a hxa
      rw [← children_congr fixed h h' a hcell] at hc
      exact Reach.step ih hc (by omega)

theorem plain_after (h : Heap) (roots : List Nat) (h' : Heap) (wf' : WFHeap true h')
    (gs : GcSpec true h roots h') (hp : plainHeap h = true) : plainHeap h' = true := by
  unfold plainHeap at *
  rw [List.all_eq_true] at *
  intro c hc
  obtain ⟨i, hi, rfl⟩ := Array.mem_iff_getElem.mp (Array.mem_toList_iff.mp hc)
  by_cases hx : Reachable true h roots i
  · have hcell := gs.cells_reach i hx
    rw [Array.getElem?_eq_getElem hi] at hcell
    have hlt : i < h.cells.size := lt_of_get_some hcell.symm
    rw [Array.getElem?_eq_getElem hlt] at hcell
    rw [Option.some.inj hcell]
    exact hp _ (Array.mem_toList_iff.mpr (Array.getElem_mem hlt))
  · have hfree := gs.gc_unreach i hi hx
    have hu := wf'.free_undef i hfree
    rw [Array.getElem?_eq_getElem hi] at hu
    rw [Option.some.inj hu]; rfl

end Marwood.Lemmas.PolicyAfter
